-- GENERATED by tools/mkroots.py: root of the library (everything the default target checks).
import VaxisModel.Model.App
import VaxisModel.Model.AppGfx
import VaxisModel.Model.Blocks
import VaxisModel.Model.C12Compose
import VaxisModel.Model.C12Read
import VaxisModel.Model.C12Ref
import VaxisModel.Model.C12Replies
import VaxisModel.Model.Color
import VaxisModel.Model.Conc
import VaxisModel.Model.ConcInventory
import VaxisModel.Model.ConcProtect
import VaxisModel.Model.ConcSession
import VaxisModel.Model.ConcSpinner
import VaxisModel.Model.ConcTimer
import VaxisModel.Model.ConcUse
import VaxisModel.Model.CursorBody
import VaxisModel.Model.DynExec
import VaxisModel.Model.DynGenBodies
import VaxisModel.Model.DynInterp
import VaxisModel.Model.DynList
import VaxisModel.Model.EdGen
import VaxisModel.Model.EdLang
import VaxisModel.Model.EdRun
import VaxisModel.Model.Emu
import VaxisModel.Model.EmuAbs
import VaxisModel.Model.EmuBody
import VaxisModel.Model.EmuBodyLang
import VaxisModel.Model.EmuBodyRange
import VaxisModel.Model.EmuBodyRangeR
import VaxisModel.Model.EmuDcs
import VaxisModel.Model.EmuDraw
import VaxisModel.Model.EmuDrawBody
import VaxisModel.Model.EmuDrawLang
import VaxisModel.Model.EmuEvents
import VaxisModel.Model.EmuIO
import VaxisModel.Model.EmuLoop
import VaxisModel.Model.EmuLoopLang
import VaxisModel.Model.EmuReply
import VaxisModel.Model.EmuState
import VaxisModel.Model.GoBody
import VaxisModel.Model.GoInterp
import VaxisModel.Model.GoSyn
import VaxisModel.Model.ImageDraw
import VaxisModel.Model.ImageFit
import VaxisModel.Model.ImageProto
import VaxisModel.Model.ImageTerm
import VaxisModel.Model.Input
import VaxisModel.Model.InputBody
import VaxisModel.Model.InputLoop
import VaxisModel.Model.InputQuery
import VaxisModel.Model.Key
import VaxisModel.Model.KeyBody
import VaxisModel.Model.KittyTerm
import VaxisModel.Model.Layout
import VaxisModel.Model.Lifecycle
import VaxisModel.Model.ListGen
import VaxisModel.Model.Mouse
import VaxisModel.Model.Pager
import VaxisModel.Model.Parser
import VaxisModel.Model.ParserActs
import VaxisModel.Model.ParserIO
import VaxisModel.Model.ParserParamsDrive
import VaxisModel.Model.ParserPools
import VaxisModel.Model.ParserPoolsDrive
import VaxisModel.Model.ParserReaderInterp
import VaxisModel.Model.ParserReaderSk
import VaxisModel.Model.ParserRun
import VaxisModel.Model.ParserRunChan
import VaxisModel.Model.ParserRunFine
import VaxisModel.Model.ParserRunFineChan
import VaxisModel.Model.ParserRunFineFair
import VaxisModel.Model.ParserRunIO
import VaxisModel.Model.ParserRunSched
import VaxisModel.Model.ParserRunSk
import VaxisModel.Model.ParserStdlib
import VaxisModel.Model.ParserTable
import VaxisModel.Model.ParserUtf8
import VaxisModel.Model.Placements
import VaxisModel.Model.QueryBody
import VaxisModel.Model.Render
import VaxisModel.Model.RenderClip
import VaxisModel.Model.RenderInterp
import VaxisModel.Model.RenderSixel
import VaxisModel.Model.RequesterBody
import VaxisModel.Model.Scaler
import VaxisModel.Model.Scrollbar
import VaxisModel.Model.Sgr
import VaxisModel.Model.SgrAgree
import VaxisModel.Model.SgrBytes
import VaxisModel.Model.SgrLinks
import VaxisModel.Model.SgrReader
import VaxisModel.Model.SimpleList
import VaxisModel.Model.Startup
import VaxisModel.Model.StartupGen
import VaxisModel.Model.SurfExec
import VaxisModel.Model.SurfLang
import VaxisModel.Model.Surface
import VaxisModel.Model.SurfaceSource
import VaxisModel.Model.TermBody
import VaxisModel.Model.TermChild
import VaxisModel.Model.TermInputModes
import VaxisModel.Model.TermKey
import VaxisModel.Model.TermMouse
import VaxisModel.Model.TextField
import VaxisModel.Model.TextFieldCl
import VaxisModel.Model.TextInput
import VaxisModel.Model.TextInputCells
import VaxisModel.Model.TextInputCl
import VaxisModel.Model.Vxfw
import VaxisModel.Model.VxfwErr
import VaxisModel.Model.VxfwInterp
import VaxisModel.Model.VxfwInterpAll
import VaxisModel.Model.VxfwInterpKnot
import VaxisModel.Model.VxfwInterpRun
import VaxisModel.Model.VxfwInterpTree
import VaxisModel.Model.WidExec
import VaxisModel.Model.WidGenBodies
import VaxisModel.Model.Width
import VaxisModel.Model.WidthGen
import VaxisModel.Model.Window
import VaxisModel.Model.Wrap
import VaxisModel.Model.WrapDraw
import VaxisModel.Model.WrapHeap
import VaxisModel.Model.WrapObj
import VaxisModel.Spec.Display
import VaxisModel.Spec.DisplayCluster
import VaxisModel.Spec.Editor
import VaxisModel.Spec.EditorView
import VaxisModel.Spec.Expected
import VaxisModel.Spec.ExpectedClip
import VaxisModel.Spec.ImageEsc
import VaxisModel.Spec.Images
import VaxisModel.Spec.InputEvents
import VaxisModel.Spec.KeyEnc
import VaxisModel.Spec.KeyEncUni
import VaxisModel.Spec.KeyEvent
import VaxisModel.Spec.ModeTerm
import VaxisModel.Spec.Palette
import VaxisModel.Spec.Routing
import VaxisModel.Spec.Sgr
import VaxisModel.Spec.Startup
import VaxisModel.Spec.Style
import VaxisModel.Spec.Surface
import VaxisModel.Spec.Term
import VaxisModel.Spec.TermInput
import VaxisModel.Spec.Tokenize
import VaxisModel.Spec.Uax29
import VaxisModel.Spec.VT500
import VaxisModel.Spec.Window
import VaxisModel.Spec.Wrap
import VaxisModel.Spec.WrapDraw
import VaxisModel.Spec.WriterClasses
import VaxisModel.Lemmas.App
import VaxisModel.Lemmas.AppPuts
import VaxisModel.Lemmas.AppSpec
import VaxisModel.Lemmas.AppSys
import VaxisModel.Lemmas.AppText
import VaxisModel.Lemmas.Argmin
import VaxisModel.Lemmas.C04Check
import VaxisModel.Lemmas.C04Guards
import VaxisModel.Lemmas.C04Interp
import VaxisModel.Lemmas.C04Lex
import VaxisModel.Lemmas.C04Mask
import VaxisModel.Lemmas.C04MaskCheck
import VaxisModel.Lemmas.C04MaskTerm
import VaxisModel.Lemmas.C04Prior
import VaxisModel.Lemmas.C04PriorCheck
import VaxisModel.Lemmas.C04Restrict
import VaxisModel.Lemmas.C04Session
import VaxisModel.Lemmas.C04StartFail
import VaxisModel.Lemmas.C04Sym
import VaxisModel.Lemmas.C04SymCheck
import VaxisModel.Lemmas.C06Bridge
import VaxisModel.Lemmas.C07Gate
import VaxisModel.Lemmas.C07GateEval
import VaxisModel.Lemmas.C12Cluster
import VaxisModel.Lemmas.C12Draw
import VaxisModel.Lemmas.C12Frame
import VaxisModel.Lemmas.C12History
import VaxisModel.Lemmas.C12Read
import VaxisModel.Lemmas.C12Replies
import VaxisModel.Lemmas.C12Resize
import VaxisModel.Lemmas.C12Segments
import VaxisModel.Lemmas.C12Sim
import VaxisModel.Lemmas.C12StartAny
import VaxisModel.Lemmas.C12Startup
import VaxisModel.Lemmas.C12StartupLive
import VaxisModel.Lemmas.C12Vocab
import VaxisModel.Lemmas.C12Wire
import VaxisModel.Lemmas.Conc
import VaxisModel.Lemmas.ConcFlag
import VaxisModel.Lemmas.ConcInv
import VaxisModel.Lemmas.ConcInvStep
import VaxisModel.Lemmas.ConcMeasure
import VaxisModel.Lemmas.ConcPersist
import VaxisModel.Lemmas.ConcProgress
import VaxisModel.Lemmas.ConcProtect
import VaxisModel.Lemmas.ConcShutdown
import VaxisModel.Lemmas.ConcTimer
import VaxisModel.Lemmas.CursorBody
import VaxisModel.Lemmas.DisplayBasic
import VaxisModel.Lemmas.DynCompose
import VaxisModel.Lemmas.DynComposeGutter
import VaxisModel.Lemmas.DynExec
import VaxisModel.Lemmas.DynExecAttr
import VaxisModel.Lemmas.DynExecDraw
import VaxisModel.Lemmas.DynExecProgress
import VaxisModel.Lemmas.DynExecStore
import VaxisModel.Lemmas.DynInterp
import VaxisModel.Lemmas.DynList
import VaxisModel.Lemmas.DynListInv
import VaxisModel.Lemmas.DynSkelExpected
import VaxisModel.Lemmas.DynTrees
import VaxisModel.Lemmas.EdLangAttr
import VaxisModel.Lemmas.EdLangLoops
import VaxisModel.Lemmas.EdLangTF
import VaxisModel.Lemmas.EdLangTFBase
import VaxisModel.Lemmas.EdLangTFBody
import VaxisModel.Lemmas.EdLangTFCheck
import VaxisModel.Lemmas.EdLangTFCursorTo
import VaxisModel.Lemmas.EdLangTFDelLeft
import VaxisModel.Lemmas.EdLangTFDelRight
import VaxisModel.Lemmas.EdLangTFDraw
import VaxisModel.Lemmas.EdLangTFInsert
import VaxisModel.Lemmas.EdLangTFKill
import VaxisModel.Lemmas.EdLangTFReset
import VaxisModel.Lemmas.EdLangTIBody
import VaxisModel.Lemmas.EdLangTIWidth
import VaxisModel.Lemmas.Editor
import VaxisModel.Lemmas.EditorBasic
import VaxisModel.Lemmas.EditorBodies
import VaxisModel.Lemmas.EditorCl
import VaxisModel.Lemmas.EmuBasic
import VaxisModel.Lemmas.EmuBody
import VaxisModel.Lemmas.EmuBodyMag
import VaxisModel.Lemmas.EmuBodyModes
import VaxisModel.Lemmas.EmuBodyOsc
import VaxisModel.Lemmas.EmuBodyPrint
import VaxisModel.Lemmas.EmuBodyRange
import VaxisModel.Lemmas.EmuBodyRange2
import VaxisModel.Lemmas.EmuBodyRange3
import VaxisModel.Lemmas.EmuBodyReflow
import VaxisModel.Lemmas.EmuBodyRow
import VaxisModel.Lemmas.EmuBodySgr
import VaxisModel.Lemmas.EmuBodyTabs
import VaxisModel.Lemmas.EmuBodyTop
import VaxisModel.Lemmas.EmuDraw
import VaxisModel.Lemmas.EmuDrawBody
import VaxisModel.Lemmas.EmuEvalAttr
import VaxisModel.Lemmas.EmuKeeps
import VaxisModel.Lemmas.EmuOsc8
import VaxisModel.Lemmas.EmuRefine
import VaxisModel.Lemmas.EmuRefine2
import VaxisModel.Lemmas.EmuRefineAll
import VaxisModel.Lemmas.EmuRefineCursor
import VaxisModel.Lemmas.EmuRefineErase
import VaxisModel.Lemmas.EmuRefineExt
import VaxisModel.Lemmas.EmuRefineFrame
import VaxisModel.Lemmas.EmuRefinePrint
import VaxisModel.Lemmas.EmuRefineSaved
import VaxisModel.Lemmas.EmuRefineScroll
import VaxisModel.Lemmas.EmuRefineSgr
import VaxisModel.Lemmas.EmuRefineStep
import VaxisModel.Lemmas.EmuReply
import VaxisModel.Lemmas.EmuResize
import VaxisModel.Lemmas.EmuSafe1
import VaxisModel.Lemmas.EmuSafe2
import VaxisModel.Lemmas.EmuSafe3
import VaxisModel.Lemmas.EmuSafe4
import VaxisModel.Lemmas.EmuSeqBasic
import VaxisModel.Lemmas.EmuWitnessLib
import VaxisModel.Lemmas.ExceptM
import VaxisModel.Lemmas.FloatArith
import VaxisModel.Lemmas.FloatStd
import VaxisModel.Lemmas.GoExecAttr
import VaxisModel.Lemmas.GoInterp
import VaxisModel.Lemmas.ImageFit
import VaxisModel.Lemmas.ImageFlowExpected
import VaxisModel.Lemmas.ImageTerm
import VaxisModel.Lemmas.Input
import VaxisModel.Lemmas.InputBody
import VaxisModel.Lemmas.InputBodyArms
import VaxisModel.Lemmas.InputBodyArms2
import VaxisModel.Lemmas.InputBodyArms3
import VaxisModel.Lemmas.InputBodyAttr
import VaxisModel.Lemmas.InputBodyRun
import VaxisModel.Lemmas.InputEvents
import VaxisModel.Lemmas.InputFlow
import VaxisModel.Lemmas.InputFlowAny
import VaxisModel.Lemmas.InputFlowCpr
import VaxisModel.Lemmas.InputLive
import VaxisModel.Lemmas.InputLoop
import VaxisModel.Lemmas.InputQuery
import VaxisModel.Lemmas.KeyBodyEval
import VaxisModel.Lemmas.KeyBodyEvalDecode
import VaxisModel.Lemmas.KeyBodyEvalMatch
import VaxisModel.Lemmas.KeyBodyEvalMatches
import VaxisModel.Lemmas.KeyBodyEvalString
import VaxisModel.Lemmas.KeyBodyPin
import VaxisModel.Lemmas.KeyCongr
import VaxisModel.Lemmas.KeyCross
import VaxisModel.Lemmas.KeyCrossTable
import VaxisModel.Lemmas.KeyDecode
import VaxisModel.Lemmas.KeyMatch
import VaxisModel.Lemmas.KeySelf
import VaxisModel.Lemmas.KeyUni
import VaxisModel.Lemmas.KittyData
import VaxisModel.Lemmas.KittyMixed
import VaxisModel.Lemmas.KittyStrict
import VaxisModel.Lemmas.KittyTerm
import VaxisModel.Lemmas.Layout
import VaxisModel.Lemmas.ListBasic
import VaxisModel.Lemmas.ListSplit
import VaxisModel.Lemmas.Pager
import VaxisModel.Lemmas.Parser
import VaxisModel.Lemmas.ParserAbs
import VaxisModel.Lemmas.ParserActs
import VaxisModel.Lemmas.ParserCodec
import VaxisModel.Lemmas.ParserConform
import VaxisModel.Lemmas.ParserDcs
import VaxisModel.Lemmas.ParserLeak
import VaxisModel.Lemmas.ParserOut
import VaxisModel.Lemmas.ParserParams
import VaxisModel.Lemmas.ParserParamsDrive
import VaxisModel.Lemmas.ParserPools
import VaxisModel.Lemmas.ParserPoolsDrive
import VaxisModel.Lemmas.ParserPoolsLink
import VaxisModel.Lemmas.ParserRead
import VaxisModel.Lemmas.ParserReaderInterp
import VaxisModel.Lemmas.ParserRefine
import VaxisModel.Lemmas.ParserRefineCheck
import VaxisModel.Lemmas.ParserRefineConf
import VaxisModel.Lemmas.ParserRefineRun
import VaxisModel.Lemmas.ParserRefineStep
import VaxisModel.Lemmas.ParserRow
import VaxisModel.Lemmas.ParserRun
import VaxisModel.Lemmas.ParserRunChan
import VaxisModel.Lemmas.ParserRunFine
import VaxisModel.Lemmas.ParserRunFineChan
import VaxisModel.Lemmas.ParserRunFineFair
import VaxisModel.Lemmas.ParserRunSched
import VaxisModel.Lemmas.ParserRunSchedCarry
import VaxisModel.Lemmas.ParserRunSchedEnum
import VaxisModel.Lemmas.ParserRunSchedGroup
import VaxisModel.Lemmas.ParserRunSchedNormal
import VaxisModel.Lemmas.ParserRunSpec
import VaxisModel.Lemmas.ParserStale
import VaxisModel.Lemmas.ParserStepBasic
import VaxisModel.Lemmas.ParserText
import VaxisModel.Lemmas.ParserTextU
import VaxisModel.Lemmas.ParserUtf8
import VaxisModel.Lemmas.ParserUtf8Spec
import VaxisModel.Lemmas.Placements
import VaxisModel.Lemmas.QueryBody
import VaxisModel.Lemmas.RenderClip
import VaxisModel.Lemmas.RenderCluster
import VaxisModel.Lemmas.RenderCursor
import VaxisModel.Lemmas.RenderDisplay
import VaxisModel.Lemmas.RenderFacts
import VaxisModel.Lemmas.RenderFactsPinned
import VaxisModel.Lemmas.RenderGate
import VaxisModel.Lemmas.RenderImages
import VaxisModel.Lemmas.RenderImagesFrame
import VaxisModel.Lemmas.RenderInterpAttr
import VaxisModel.Lemmas.RenderInterpRun
import VaxisModel.Lemmas.RenderLink
import VaxisModel.Lemmas.RenderLoop
import VaxisModel.Lemmas.RenderPen
import VaxisModel.Lemmas.RenderRow
import VaxisModel.Lemmas.RenderRowStale
import VaxisModel.Lemmas.RenderSixel
import VaxisModel.Lemmas.RenderToks
import VaxisModel.Lemmas.RequesterBody
import VaxisModel.Lemmas.Run
import VaxisModel.Lemmas.Scaler
import VaxisModel.Lemmas.ScalerGeneric
import VaxisModel.Lemmas.Scrollbar
import VaxisModel.Lemmas.Sgr
import VaxisModel.Lemmas.SgrAgree
import VaxisModel.Lemmas.SgrBytes
import VaxisModel.Lemmas.SgrCodec
import VaxisModel.Lemmas.SgrCodecBytes
import VaxisModel.Lemmas.SgrDelta
import VaxisModel.Lemmas.SgrFlowExpected
import VaxisModel.Lemmas.SgrLinks
import VaxisModel.Lemmas.SgrLinksFull
import VaxisModel.Lemmas.SgrLinksIff
import VaxisModel.Lemmas.SgrPrint
import VaxisModel.Lemmas.SgrQuirk
import VaxisModel.Lemmas.SgrReader
import VaxisModel.Lemmas.SgrReads
import VaxisModel.Lemmas.SgrShape
import VaxisModel.Lemmas.SgrShows
import VaxisModel.Lemmas.SgrTotal
import VaxisModel.Lemmas.SimpleList
import VaxisModel.Lemmas.SnocSeg
import VaxisModel.Lemmas.SpecSgr
import VaxisModel.Lemmas.Startup
import VaxisModel.Lemmas.StartupLive
import VaxisModel.Lemmas.StartupSeq
import VaxisModel.Lemmas.StringKey
import VaxisModel.Lemmas.SurfExec
import VaxisModel.Lemmas.Surface
import VaxisModel.Lemmas.SurfaceOrder
import VaxisModel.Lemmas.SurfacePaint
import VaxisModel.Lemmas.SurfacePaintSpec
import VaxisModel.Lemmas.SurfaceSized
import VaxisModel.Lemmas.TermBasic
import VaxisModel.Lemmas.TermBodyEval
import VaxisModel.Lemmas.TermChildSpec
import VaxisModel.Lemmas.TermChord
import VaxisModel.Lemmas.TermEmuFrame
import VaxisModel.Lemmas.TermEmuModes
import VaxisModel.Lemmas.TermInput
import VaxisModel.Lemmas.TermModeRows
import VaxisModel.Lemmas.TermParse
import VaxisModel.Lemmas.TextInput
import VaxisModel.Lemmas.TextInputCells
import VaxisModel.Lemmas.TextInputCl
import VaxisModel.Lemmas.TextInputOne
import VaxisModel.Lemmas.TextInputScroll
import VaxisModel.Lemmas.Uax29Seg
import VaxisModel.Lemmas.Vxfw
import VaxisModel.Lemmas.VxfwAttr
import VaxisModel.Lemmas.VxfwBody
import VaxisModel.Lemmas.VxfwBodyAll
import VaxisModel.Lemmas.VxfwBodyExpected
import VaxisModel.Lemmas.VxfwBodyFocus
import VaxisModel.Lemmas.VxfwBodyHover
import VaxisModel.Lemmas.VxfwBodyKnot
import VaxisModel.Lemmas.VxfwBodyMouse
import VaxisModel.Lemmas.VxfwBodyRun
import VaxisModel.Lemmas.VxfwBodySel
import VaxisModel.Lemmas.VxfwBodyTree
import VaxisModel.Lemmas.VxfwBodyX
import VaxisModel.Lemmas.VxfwErr
import VaxisModel.Lemmas.VxfwFocusErr
import VaxisModel.Lemmas.VxfwHover
import VaxisModel.Lemmas.VxfwHoverErr
import VaxisModel.Lemmas.VxfwLineEq
import VaxisModel.Lemmas.VxfwNoStuck
import VaxisModel.Lemmas.VxfwOnce
import VaxisModel.Lemmas.VxfwOnceErr
import VaxisModel.Lemmas.VxfwPrefix
import VaxisModel.Lemmas.VxfwRank
import VaxisModel.Lemmas.VxfwRoute
import VaxisModel.Lemmas.VxfwWalk
import VaxisModel.Lemmas.WidExec
import VaxisModel.Lemmas.WidExecAttr
import VaxisModel.Lemmas.WidExecEq
import VaxisModel.Lemmas.WidExecList
import VaxisModel.Lemmas.WidSkelExpected
import VaxisModel.Lemmas.WidTrees
import VaxisModel.Lemmas.Window
import VaxisModel.Lemmas.WindowDisplay
import VaxisModel.Lemmas.WindowSkelPinned
import VaxisModel.Lemmas.WindowText
import VaxisModel.Lemmas.Wrap
import VaxisModel.Lemmas.WrapDraw
import VaxisModel.Lemmas.WrapE2E
import VaxisModel.Lemmas.WrapFacts
import VaxisModel.Lemmas.WrapHeap
import VaxisModel.Lemmas.WrapObj
import VaxisModel.Lemmas.WrapSplit
import VaxisModel.Lemmas.WrapSplitPlain
import VaxisModel.Props.C01
import VaxisModel.Props.C01App
import VaxisModel.Props.C01AppCluster
import VaxisModel.Props.C01Body
import VaxisModel.Props.C01Clip
import VaxisModel.Props.C01Cluster
import VaxisModel.Props.C01Display
import VaxisModel.Props.C01Facts
import VaxisModel.Props.C01Link
import VaxisModel.Props.C01Ops
import VaxisModel.Props.C01Seq
import VaxisModel.Props.C01Sixel
import VaxisModel.Props.C01SixelRest
import VaxisModel.Props.C02
import VaxisModel.Props.C02Acts
import VaxisModel.Props.C02Refine
import VaxisModel.Props.C02Stdlib
import VaxisModel.Props.C02Text
import VaxisModel.Props.C03
import VaxisModel.Props.C03Body
import VaxisModel.Props.C03Live
import VaxisModel.Props.C03Query
import VaxisModel.Props.C04
import VaxisModel.Props.C04AllGuards
import VaxisModel.Props.C04Exit
import VaxisModel.Props.C04Lex
import VaxisModel.Props.C04Prior
import VaxisModel.Props.C04Start
import VaxisModel.Props.C05
import VaxisModel.Props.C05Bodies
import VaxisModel.Props.C05Dispatch
import VaxisModel.Props.C05Draw
import VaxisModel.Props.C05DrawBody
import VaxisModel.Props.C05Events
import VaxisModel.Props.C05Loop
import VaxisModel.Props.C05Overflow
import VaxisModel.Props.C05Payload
import VaxisModel.Props.C05Replies
import VaxisModel.Props.C06
import VaxisModel.Props.C06Bridge
import VaxisModel.Props.C06Gen
import VaxisModel.Props.C07
import VaxisModel.Props.C07Body
import VaxisModel.Props.C07Caps
import VaxisModel.Props.C07Image
import VaxisModel.Props.C07Width
import VaxisModel.Props.C07Writers
import VaxisModel.Props.C08
import VaxisModel.Props.C08Drive
import VaxisModel.Props.C08DriveParams
import VaxisModel.Props.C08Fine
import VaxisModel.Props.C08FineChan
import VaxisModel.Props.C08FineFair
import VaxisModel.Props.C08Live
import VaxisModel.Props.C08Order
import VaxisModel.Props.C08Payload
import VaxisModel.Props.C08Pools
import VaxisModel.Props.C08Sched
import VaxisModel.Props.C08SchedEnum
import VaxisModel.Props.C08SchedGroup
import VaxisModel.Props.C08SchedNormal
import VaxisModel.Props.C08Spec
import VaxisModel.Props.C09
import VaxisModel.Props.C09Body
import VaxisModel.Props.C09CrossUni
import VaxisModel.Props.C09Driver
import VaxisModel.Props.C09Int64
import VaxisModel.Props.C09Sound
import VaxisModel.Props.C09Uni
import VaxisModel.Props.C10
import VaxisModel.Props.C10Inventory
import VaxisModel.Props.C10Protect
import VaxisModel.Props.C10Resume
import VaxisModel.Props.C10Shutdown
import VaxisModel.Props.C10Spinner
import VaxisModel.Props.C10Timer
import VaxisModel.Props.C10Use
import VaxisModel.Props.C11
import VaxisModel.Props.C11Body
import VaxisModel.Props.C11Display
import VaxisModel.Props.C11Gfx
import VaxisModel.Props.C12
import VaxisModel.Props.C12Any
import VaxisModel.Props.C12Bridge
import VaxisModel.Props.C12Caps
import VaxisModel.Props.C12Main
import VaxisModel.Props.C12Read
import VaxisModel.Props.C12Resize
import VaxisModel.Props.C12StartAny
import VaxisModel.Props.C12Startup
import VaxisModel.Props.C12Timers
import VaxisModel.Props.C13
import VaxisModel.Props.C13Body
import VaxisModel.Props.C13Child
import VaxisModel.Props.C13Ext
import VaxisModel.Props.C13Keypad
import VaxisModel.Props.C13KeypadPipe
import VaxisModel.Props.C13Parse
import VaxisModel.Props.C13PipeUni
import VaxisModel.Props.C13Shift
import VaxisModel.Props.C13Uni
import VaxisModel.Props.C14
import VaxisModel.Props.C14Body
import VaxisModel.Props.C14Bounds
import VaxisModel.Props.C14Facts
import VaxisModel.Props.C15
import VaxisModel.Props.C15Body
import VaxisModel.Props.C15Err
import VaxisModel.Props.C15Gen
import VaxisModel.Props.C16
import VaxisModel.Props.C16Draw
import VaxisModel.Props.C16DrawAll
import VaxisModel.Props.C16E2E
import VaxisModel.Props.C16Exec
import VaxisModel.Props.C16Facts
import VaxisModel.Props.C16Heap
import VaxisModel.Props.C16Obj
import VaxisModel.Props.C17
import VaxisModel.Props.C17Body
import VaxisModel.Props.C17BodyBase
import VaxisModel.Props.C17BodyCheck
import VaxisModel.Props.C17BodyCursorTo
import VaxisModel.Props.C17BodyDelLeft
import VaxisModel.Props.C17BodyDelRight
import VaxisModel.Props.C17BodyDraw
import VaxisModel.Props.C17BodyInsert
import VaxisModel.Props.C17BodyKill
import VaxisModel.Props.C17BodyReset
import VaxisModel.Props.C17BodyTI
import VaxisModel.Props.C17BodyWidth
import VaxisModel.Props.C17Ext
import VaxisModel.Props.C17Facts
import VaxisModel.Props.C17FactsTF
import VaxisModel.Props.C17FactsTI
import VaxisModel.Props.C17Seg
import VaxisModel.Props.C18
import VaxisModel.Props.C18Agree
import VaxisModel.Props.C18Bytes
import VaxisModel.Props.C18Delta
import VaxisModel.Props.C18DeltaBytes
import VaxisModel.Props.C18Links
import VaxisModel.Props.C18LinksIff
import VaxisModel.Props.C18Quirk
import VaxisModel.Props.C18Reader
import VaxisModel.Props.C18Terminal
import VaxisModel.Props.C18Total
import VaxisModel.Props.C19
import VaxisModel.Props.C19All
import VaxisModel.Props.C19C15
import VaxisModel.Props.C19Exec
import VaxisModel.Props.C19Pager
import VaxisModel.Props.C19Tie
import VaxisModel.Props.C19Wid
import VaxisModel.Props.C20
import VaxisModel.Props.C20Compose
import VaxisModel.Props.C20Ext
import VaxisModel.Props.C20Float
import VaxisModel.Props.C20Generic
import VaxisModel.Props.C20Pixels
import VaxisModel.Props.C20Term
import VaxisModel.Witness.C01Display
import VaxisModel.Witness.C11ShowCursor
import VaxisModel.Witness.C14Paint
import VaxisModel.Witness.C16StateEarly
import VaxisModel.Witness.F09
import VaxisModel.Witness.F10
import VaxisModel.Witness.F102
import VaxisModel.Witness.F103
import VaxisModel.Witness.F105a
import VaxisModel.Witness.F105b
import VaxisModel.Witness.F105c
import VaxisModel.Witness.F105d
import VaxisModel.Witness.F105e
import VaxisModel.Witness.F105f
import VaxisModel.Witness.F105g
import VaxisModel.Witness.F105h
import VaxisModel.Witness.F105i
import VaxisModel.Witness.F106a
import VaxisModel.Witness.F106b
import VaxisModel.Witness.F106c
import VaxisModel.Witness.F106d
import VaxisModel.Witness.F106e
import VaxisModel.Witness.F106f
import VaxisModel.Witness.F111
import VaxisModel.Witness.F112b
import VaxisModel.Witness.F112c
import VaxisModel.Witness.F112d
import VaxisModel.Witness.F114
import VaxisModel.Witness.F115a
import VaxisModel.Witness.F115b
import VaxisModel.Witness.F115c
import VaxisModel.Witness.F118
import VaxisModel.Witness.F119
import VaxisModel.Witness.F119i
import VaxisModel.Witness.F12
import VaxisModel.Witness.F120
import VaxisModel.Witness.F13
import VaxisModel.Witness.F15
import VaxisModel.Witness.F16
import VaxisModel.Witness.F17
import VaxisModel.Witness.F18
import VaxisModel.Witness.F19
import VaxisModel.Witness.F20
import VaxisModel.Witness.F209
import VaxisModel.Witness.F21
import VaxisModel.Witness.F210
import VaxisModel.Witness.F22
import VaxisModel.Witness.F220
import VaxisModel.Witness.F29
import VaxisModel.Witness.F303
import VaxisModel.Witness.F316
import VaxisModel.Witness.F320
import VaxisModel.Witness.F33
import VaxisModel.Witness.F39
import VaxisModel.Witness.F40
import VaxisModel.Witness.F404
import VaxisModel.Witness.F406
import VaxisModel.Witness.F41
import VaxisModel.Witness.F410
import VaxisModel.Witness.F413
import VaxisModel.Witness.F42
import VaxisModel.Witness.F420
import VaxisModel.Witness.F43
import VaxisModel.Witness.F49
import VaxisModel.Witness.F50
import VaxisModel.Witness.F51
import VaxisModel.Witness.F517
import VaxisModel.Witness.F52
import VaxisModel.Witness.F520
import VaxisModel.Witness.F53
import VaxisModel.Witness.F54
import VaxisModel.Driver.C01
import VaxisModel.Driver.C01Ops
import VaxisModel.Driver.C02
import VaxisModel.Driver.C03
import VaxisModel.Driver.C04
import VaxisModel.Driver.C05
import VaxisModel.Driver.C05Draw
import VaxisModel.Driver.C05Events
import VaxisModel.Driver.C06
import VaxisModel.Driver.C07
import VaxisModel.Driver.C07caps
import VaxisModel.Driver.C07img
import VaxisModel.Driver.C08
import VaxisModel.Driver.C08Sched
import VaxisModel.Driver.C09
import VaxisModel.Driver.C10
import VaxisModel.Driver.C11
import VaxisModel.Driver.C12
import VaxisModel.Driver.C13
import VaxisModel.Driver.C14
import VaxisModel.Driver.C15
import VaxisModel.Driver.C15Run
import VaxisModel.Driver.C16
import VaxisModel.Driver.C17
import VaxisModel.Driver.C18
import VaxisModel.Driver.C19
import VaxisModel.Driver.C20
import VaxisModel.Driver.Common
