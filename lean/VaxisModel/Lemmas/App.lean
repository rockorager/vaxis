/-
Lemmas for the application-level composition (C11 window model → C01 renderer model): every drawing call
is a list of primitive window writes (`modelWrites`, `draw_scr`); what a list of writes does to a cell is in
Lemmas/AppPuts.lean.
-/
import VaxisModel.Model.App
import VaxisModel.Lemmas.AppPuts
import VaxisModel.Lemmas.WindowText

namespace VaxisModel.Lemmas.App
open VaxisModel.Model.Window VaxisModel.Spec.Window VaxisModel.Lemmas.Window VaxisModel.Model.App

/-- The primitive writes the model performs for one drawing call. -/
def modelWrites (lib : Lib) (rm : Bool) : DrawOp → List W
  | .setCell win col row c => [⟨win, col, row, .cell c⟩]
  | .setStyle win col row st => [⟨win, col, row, .style st⟩]
  | .fill win c => (fillOps win c).map (toW win)
  | .clear win => (fillOps win clearCell).map (toW win)
  | .print win segs => (printOps lib rm win segs).1.map (toW win)
  | .printTruncate win row segs => (printTruncateOps lib rm win row segs).map (toW win)
  | .println win row segs => (printlnOps lib rm win row segs).map (toW win)
  | .wrap win segs => (wrapOps lib rm win segs).1.map (toW win)
  | .showCursor .. => []
  | .hideCursor => []
  | .mouseShape _ => []

theorem draw_scr (lib : Lib) (rm : Bool) (v : Vx) (d : DrawOp) :
    (draw lib rm v d).scr = applyPuts v.scr (modelWrites lib rm d) := by
  cases d <;> simp only [draw, modelWrites, fill, clear, print, printTruncate, println, wrap, applyOps_eq] <;>
    first | rfl | simp [applyPuts, Win.setCell, Win.setStyle]

theorem draw_last (lib : Lib) (rm : Bool) (v : Vx) (d : DrawOp) : (draw lib rm v d).last = v.last := by cases d <;> rfl
theorem draw_refresh (lib : Lib) (rm : Bool) (v : Vx) (d : DrawOp) : (draw lib rm v d).refresh = v.refresh := by
  cases d <;> rfl
theorem draw_cursorLast (lib : Lib) (rm : Bool) (v : Vx) (d : DrawOp) : (draw lib rm v d).cursorLast = v.cursorLast := by
  cases d <;> rfl

theorem mem_buf_get (s : Screen) (r : List Cell) (hr : r ∈ s.buf) (c : Cell) (hc : c ∈ r) :
    ∃ x y : Int, s.get x y = some c := by
  obtain ⟨i, hi⟩ := List.mem_iff_getElem?.1 hr
  obtain ⟨j, hj⟩ := List.mem_iff_getElem?.1 hc
  exact ⟨(j : Int), (i : Int), by rw [get_nat, hi]; exact hj⟩

end VaxisModel.Lemmas.App
