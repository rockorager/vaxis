/-
Lists of primitive window writes (`SetCell` / `SetStyle` on any windows): reading a cell after any list of
writes is a fold of the writes that hit it — the last accepted write that addresses a cell wins; predicates on
cells and the buffer shape are preserved.  Depends on the window lemmas only; the application layer
(Lemmas/App.lean), the window property (C11) and the surface painter (C14) sit above it.
-/
import VaxisModel.Lemmas.Window

namespace VaxisModel.Lemmas.App
open VaxisModel.Model.Window VaxisModel.Spec.Window VaxisModel.Lemmas.Window

/-- One primitive write: `SetCell` / `SetStyle` on a window at a window-relative position. -/
structure W where
  win : Win
  col : Int
  row : Int
  put : Win.Put

def applyPuts (s : Screen) (ws : List W) : Screen := ws.foldl (fun s w => w.win.put s w.col w.row w.put) s

/-- The write reaches absolute cell `(x,y)`: it addresses origin + offset = `(x,y)` and that cell is
    inside the window, every ancestor and the screen. -/
def hits (s : Screen) (w : W) (x y : Int) : Prop :=
  x = (absOrigin w.win).1 + w.col ∧ y = (absOrigin w.win).2 + w.row ∧ visible w.win s x y

instance (s : Screen) (w : W) (x y : Int) : Decidable (hits s w x y) := by unfold hits; infer_instance

/-- What a cell holds after the writes `ws`, starting from `c0`: each write that hits it applies. -/
def foldHits (s : Screen) (x y : Int) (c0 : Cell) (ws : List W) : Cell :=
  ws.foldl (fun c w => if hits s w x y then w.put.apply c else c) c0

theorem applyPuts_dims (ws : List W) (s : Screen) :
    (applyPuts s ws).cols = s.cols ∧ (applyPuts s ws).rows = s.rows := by
  induction ws generalizing s with
  | nil => exact ⟨rfl, rfl⟩
  | cons w rest ih =>
    simp only [applyPuts, List.foldl_cons]
    have h1 := ih (w.win.put s w.col w.row w.put)
    have h2 := put_dims w.win s w.col w.row w.put
    simp only [applyPuts] at h1
    exact ⟨h1.1.trans h2.1, h1.2.trans h2.2⟩

theorem applyPuts_wf (ws : List W) (s : Screen) (h : s.WF) : (applyPuts s ws).WF := by
  induction ws generalizing s with
  | nil => exact h
  | cons w rest ih =>
    simp only [applyPuts, List.foldl_cons]
    exact ih _ (wf_put w.win s h w.col w.row w.put)

theorem applyPuts_append (s : Screen) (a b : List W) : applyPuts s (a ++ b) = applyPuts (applyPuts s a) b := by
  simp [applyPuts, List.foldl_append]

/-- `hits` looks at the screen only through its dimensions (`visible`), and a put keeps them: which puts hit a
    position does not depend on what the puts before wrote. -/
theorem hits_congr (s s' : Screen) (hc : s'.cols = s.cols) (hr : s'.rows = s.rows) (w : W) (x y : Int) :
    hits s' w x y ↔ hits s w x y := by
  simp only [hits, visible_congr w.win s s' hc hr x y]

theorem foldHits_congr (s s' : Screen) (hc : s'.cols = s.cols) (hr : s'.rows = s.rows) (x y : Int) (ws : List W) :
    ∀ c0, foldHits s' x y c0 ws = foldHits s x y c0 ws := by
  induction ws with
  | nil => intro c0; rfl
  | cons w rest ih =>
    intro c0
    simp only [foldHits, List.foldl_cons] at ih ⊢
    by_cases h : hits s w x y
    · have h' := (hits_congr s s' hc hr w x y).2 h
      simp only [h, h', if_true]; exact ih _
    · have h' : ¬ hits s' w x y := fun h' => h ((hits_congr s s' hc hr w x y).1 h')
      simp only [h, h', if_false]; exact ih _

theorem foldHits_append (s : Screen) (x y : Int) (c0 : Cell) (a b : List W) :
    foldHits s x y c0 (a ++ b) = foldHits s x y (foldHits s x y c0 a) b := by
  simp [foldHits, List.foldl_append]

/-- **Reading after any list of window writes**: the cell is the fold of the writes that hit it. -/
theorem get_applyPuts (ws : List W) (s : Screen) (x y : Int) :
    (applyPuts s ws).get x y = (s.get x y).map (fun c0 => foldHits s x y c0 ws) := by
  induction ws generalizing s with
  | nil => simp [applyPuts, foldHits]
  | cons w rest ih =>
    have hd := put_dims w.win s w.col w.row w.put
    simp only [applyPuts, List.foldl_cons] at ih ⊢
    rw [ih (w.win.put s w.col w.row w.put), get_put]
    simp only [foldHits, List.foldl_cons]
    have hc := foldHits_congr s (w.win.put s w.col w.row w.put) hd.1 hd.2 x y rest
    simp only [foldHits] at hc
    by_cases h : hits s w x y
    · rw [if_pos (show x = (absOrigin w.win).1 + w.col ∧ y = (absOrigin w.win).2 + w.row ∧ visible w.win s x y from h)]
      cases s.get x y with
      | none => rfl
      | some v => simp only [Option.map_some, if_pos h, hc]
    · rw [if_neg (show ¬ (x = (absOrigin w.win).1 + w.col ∧ y = (absOrigin w.win).2 + w.row ∧ visible w.win s x y) from h)]
      cases s.get x y with
      | none => rfl
      | some v => simp only [Option.map_some, if_neg h, hc]

theorem foldHits_pred (P : Cell → Prop) (hst : ∀ c st, P c → P { c with st := st }) (s : Screen) (x y : Int)
    (ws : List W) (hws : ∀ w ∈ ws, ∀ c, w.put = .cell c → P c) : ∀ c0, P c0 → P (foldHits s x y c0 ws) := by
  induction ws with
  | nil => intro c0 h; exact h
  | cons w rest ih =>
    intro c0 h0
    simp only [foldHits, List.foldl_cons]
    apply ih (fun w' hw' => hws w' (List.mem_cons_of_mem _ hw'))
    split
    · cases hp : w.put with
      | cell c => exact hws w List.mem_cons_self c hp
      | style st => exact hst c0 st h0
    · exact h0

def toW (win : Win) (o : Op) : W := ⟨win, o.col, o.row, .cell o.cell⟩

theorem applyOps_eq (win : Win) (s : Screen) (ops : List Op) :
    applyOps win s ops = applyPuts s (ops.map (toW win)) := by
  simp only [applyOps, applyPuts, List.foldl_map, toW, Win.setCell]

end VaxisModel.Lemmas.App
