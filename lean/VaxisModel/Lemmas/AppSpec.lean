/-
"What the application last set in each cell", in the terms of `Spec.Window` (clip region, absolute
origin, reading-order layouts) rather than of the window model: `specWrites` lists, for each
drawing call, the primitive writes the *property text* ascribes to it; a cell holds the fold of the
writes that hit it (`foldHits`), a never-hit cell the zero cell.  The model's buffer agrees
(`draws_read`): the calls the helpers drop (`row > height`) are outside the window anyway.
-/
import VaxisModel.Lemmas.App

namespace VaxisModel.Lemmas.AppSpec
open VaxisModel.Model.Window VaxisModel.Spec.Window VaxisModel.Lemmas.Window VaxisModel.Model.App
open VaxisModel.Lemmas.App VaxisModel.Lemmas.WindowText

/-- The writes the property ascribes to a drawing call: `Fill`/`Clear` address every offset of the
    window's size; the text helpers write the reading-order layout of their clusters. -/
def specWrites (lib : Lib) (rm : Bool) : DrawOp → List W
  | .setCell win col row c => [⟨win, col, row, .cell c⟩]
  | .setStyle win col row st => [⟨win, col, row, .style st⟩]
  | .fill win c => (fillOps win c).map (toW win)
  | .clear win => (fillOps win clearCell).map (toW win)
  | .print win segs => (layout win.width (printItems lib rm (flatten segs)) 0 0).1.map (toW win)
  | .printTruncate win row segs => (layoutTrunc win.width row (lineItems lib rm (flatten segs)) 0).map (toW win)
  | .println win row segs => (layoutLine win.width row (lineItems lib rm (flatten segs)) 0).map (toW win)
  | .wrap win segs => (layoutWrap win.width (wrapAllItems lib rm segs) 0 0).1.map (toW win)
  | .showCursor .. => []
  | .hideCursor => []
  | .mouseShape _ => []

theorem foldHits_nohit (s : Screen) (x y : Int) (ws : List W) (h : ∀ w ∈ ws, ¬ hits s w x y) :
    ∀ c0, foldHits s x y c0 ws = c0 := by
  induction ws with
  | nil => intro c0; rfl
  | cons w rest ih =>
    intro c0
    simp only [foldHits, List.foldl_cons, if_neg (h w List.mem_cons_self)]
    exact ih (fun w' hw' => h w' (List.mem_cons_of_mem _ hw')) c0

theorem nohit_below (s : Screen) (win : Win) (o : Op) (x y : Int) (h : win.height ≤ o.row) : ¬ hits s (toW win o) x y := by
  intro hh
  obtain ⟨_, hy, hv⟩ := hh
  have := covers_own win x y hv.1
  unfold inOwnRect at this
  simp only [toW] at hy
  omega

theorem layoutLine_row (cols row : Int) (l : List Item) : ∀ (col : Int), ∀ o ∈ layoutLine cols row l col, o.row = row := by
  induction l with
  | nil => intro col o ho; simp [layoutLine] at ho
  | cons it rest ih =>
    intro col o ho
    simp only [layoutLine] at ho
    split at ho
    · cases ho
    · rcases List.mem_cons.1 ho with rfl | ho
      · rfl
      · exact ih _ o ho

theorem layoutTrunc_row (cols row : Int) (l : List Item) : ∀ (col : Int), ∀ o ∈ layoutTrunc cols row l col, o.row = row := by
  induction l with
  | nil => intro col o ho; simp [layoutTrunc] at ho
  | cons it rest ih =>
    intro col o ho
    simp only [layoutTrunc] at ho
    split at ho
    · simp only [List.mem_singleton] at ho; subst ho; rfl
    · rcases List.mem_cons.1 ho with rfl | ho
      · rfl
      · exact ih _ o ho

theorem model_eq_spec (lib : Lib) (rm : Bool) (s : Screen) (x y : Int) (d : DrawOp) (c0 : Cell) :
    foldHits s x y c0 (modelWrites lib rm d) = foldHits s x y c0 (specWrites lib rm d) := by
  cases d with
  | print win segs =>
    obtain ⟨dropped, hd, hrow⟩ := printGo_layout lib rm win.width win.height (flatten segs) 0 0
    simp only [modelWrites, specWrites, printOps, hd, List.map_append, foldHits_append]
    rw [foldHits_nohit s x y (dropped.map (toW win))]
    intro w hw
    obtain ⟨o, ho, rfl⟩ := List.mem_map.1 hw
    exact nohit_below s win o x y (by have := hrow o ho; omega)
  | wrap win segs =>
    have hstored : wrapRemeasured = true := by decide
    obtain ⟨dropped, hd, hrow⟩ := wrapGo_layout lib rm win.width win.height segs 0 0
    simp only [modelWrites, specWrites, wrapOps, hstored, hd, List.map_append, foldHits_append]
    rw [foldHits_nohit s x y (dropped.map (toW win))]
    intro w hw
    obtain ⟨o, ho, rfl⟩ := List.mem_map.1 hw
    exact nohit_below s win o x y (hrow o ho)
  | println win row segs =>
    simp only [modelWrites, specWrites, printlnOps]
    split
    · rename_i h
      simp only [List.map_nil]
      refine (foldHits_nohit s x y _ ?_ c0).symm
      intro w hw
      obtain ⟨o, ho, rfl⟩ := List.mem_map.1 hw
      exact nohit_below s win o x y (by rw [layoutLine_row _ _ _ _ o ho]; omega)
    · rw [lnGo_layout]
  | printTruncate win row segs =>
    simp only [modelWrites, specWrites, printTruncateOps]
    split
    · rename_i h
      simp only [List.map_nil]
      refine (foldHits_nohit s x y _ ?_ c0).symm
      intro w hw
      obtain ⟨o, ho, rfl⟩ := List.mem_map.1 hw
      exact nohit_below s win o x y (by rw [layoutTrunc_row _ _ _ _ o ho]; omega)
    · rw [truncGo_layout]
  | setCell win col row c => rfl
  | setStyle win col row st => rfl
  | fill win c => rfl
  | clear win => rfl
  | showCursor win col row st => rfl
  | hideCursor => rfl
  | mouseShape sh => rfl

def runDraws (lib : Lib) (rm : Bool) (v : Vx) (ds : List DrawOp) : Vx := ds.foldl (draw lib rm) v

theorem runDraws_scr (lib : Lib) (rm : Bool) (ds : List DrawOp) : ∀ (v : Vx),
    (runDraws lib rm v ds).scr = applyPuts v.scr (ds.flatMap (modelWrites lib rm)) := by
  induction ds with
  | nil => intro v; rfl
  | cons d rest ih =>
    intro v
    simp only [runDraws, List.foldl_cons, List.flatMap_cons, applyPuts_append] at ih ⊢
    rw [ih, draw_scr]

theorem foldHits_flatMap (lib : Lib) (rm : Bool) (s : Screen) (x y : Int) (ds : List DrawOp) : ∀ (c0 : Cell),
    foldHits s x y c0 (ds.flatMap (modelWrites lib rm)) = foldHits s x y c0 (ds.flatMap (specWrites lib rm)) := by
  induction ds with
  | nil => intro c0; rfl
  | cons d rest ih =>
    intro c0
    simp only [List.flatMap_cons, foldHits_append, model_eq_spec, ih]

/-- **The buffer after any sequence of drawing calls**: each cell is the fold, over the writes the
    property ascribes to the calls (in call order), of those that hit it. -/
theorem draws_read (lib : Lib) (rm : Bool) (v : Vx) (ds : List DrawOp) (x y : Int) :
    (runDraws lib rm v ds).scr.get x y =
      (v.scr.get x y).map (fun c0 => foldHits v.scr x y c0 (ds.flatMap (specWrites lib rm))) := by
  rw [runDraws_scr, get_applyPuts]
  cases v.scr.get x y with
  | none => rfl
  | some c0 => simp only [Option.map_some, foldHits_flatMap]

end VaxisModel.Lemmas.AppSpec
