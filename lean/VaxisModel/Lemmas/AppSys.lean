/-
The closed system "application → Vaxis → reference terminal" and its invariant.  `Sys` = the Vaxis fields
(`Model.App.Vx`) + the reference terminal that has received every byte; an op is one drawing call, `Render`, `Refresh`,
or a size change of the terminal followed by the `Render` that notices it (the terminal then shows *anything* well
formed, `g`).  `OpOk` is what is genuinely the application's (or the terminal's) responsibility, `Inv` what every step
re-establishes (`sys_step`), `Shows` "the terminal shows the application's screen".
-/
import VaxisModel.Lemmas.App
import VaxisModel.Lemmas.AppText
import VaxisModel.Props.C01Clip
import VaxisModel.Lemmas.RenderSixel
import VaxisModel.Lemmas.RenderCursor

namespace VaxisModel.Lemmas.AppSys
open VaxisModel.Model.Window VaxisModel.Model.Render VaxisModel.Model.App
open VaxisModel.Spec VaxisModel.Spec.Display VaxisModel.Spec.Window
open VaxisModel.Lemmas.Window VaxisModel.Lemmas.App VaxisModel.Lemmas.AppText VaxisModel.Lemmas.RenderDisplay
open VaxisModel.Props.C01 VaxisModel.Props.C01Display VaxisModel.Props.C01Clip

/-- Everything fixed during a run: `characterWidth`, the capability set, the names of graphemes and
    styles, the string functions window.go calls, and whether the text helpers re-measure. -/
structure Ctx where
  cw : String → Nat
  caps : Caps
  I : Interp
  lib : Lib
  rm : Bool

/-- Coherence of the two models' parameters (not restrictions on the application): a space has
    width 1; the reserved names mean "", " ", "…", `Style{}`; `Lib.cw` is `characterWidth`. -/
structure Ctx.Ok (X : Ctx) : Prop where
  space : X.cw "20" = 1
  std : X.I.Std
  coh : ∀ n, X.lib.cw n = (X.cw (X.I.gOf n) : Int)

structure Sys where
  v : Vx
  t : Term

inductive SysOp where
  | draw (d : DrawOp)
  | render
  | refresh
  | resize (cols rows : Nat) (g : List (List DCell))

/-- The terminal after a size change: new dimensions, showing `g`; pen, modes, flags as before. -/
def resizedTerm (t : Term) (cols rows : Nat) (g : List (List DCell)) : Term :=
  { t with rows := rows, cols := cols, grid := g, row := 0, col := 0, pw := false }

def sysStep (X : Ctx) (s : Sys) : SysOp → Sys
  | .draw d => { s with v := draw X.lib X.rm s.v d }
  | .render => { v := (endFrame X.cw X.caps X.I s.v .render).1, t := run X.cw s.t (endFrame X.cw X.caps X.I s.v .render).2 }
  | .refresh => { v := (endFrame X.cw X.caps X.I s.v .refresh).1, t := run X.cw s.t (endFrame X.cw X.caps X.I s.v .refresh).2 }
  | .resize cols rows g =>
      { v := (endFrame X.cw X.caps X.I s.v (.resize cols rows)).1,
        t := run X.cw (if sameSize s.v cols rows then s.t else resizedTerm s.t cols rows g)
               (endFrame X.cw X.caps X.I s.v (.resize cols rows)).2 }

def sysRun (X : Ctx) (s : Sys) (ops : List SysOp) : Sys := ops.foldl (sysStep X) s

/-- Does the op write a frame?  (`Render` with a pending resize to a new size only reallocates.) -/
def isFrame (s : Sys) : SysOp → Bool
  | .draw _ => false
  | .render => true
  | .refresh => true
  | .resize cols rows _ => sameSize s.v cols rows

/-- A cell the application hands to `SetCell`/`Fill`: width not negative; an explicit width is the
    terminal's width of the grapheme, or > 1 with OSC 66. -/
def CellOk (X : Ctx) (c : VaxisModel.Model.Window.Cell) : Prop := 0 ≤ c.w ∧ WidthOk X.cw X.caps (X.I.cell c)

def TextOk (X : Ctx) (segs : List (Nat × List Raw)) : Prop := ∀ seg ∈ segs, ∀ r ∈ seg.2, RawOk X.lib X.rm r
def WrapTextOk (X : Ctx) (segs : List (Nat × List (List Raw))) : Prop :=
  ∀ sg ∈ segs, ∀ seg ∈ sg.2, ∀ r ∈ seg, RawOk X.lib X.rm r

def CursorIn (v : Vx) : Prop :=
  v.cursorNext.visible = true →
    (0 ≤ v.cursorNext.row ∧ v.cursorNext.row < v.scr.rows) ∧ (0 ≤ v.cursorNext.col ∧ v.cursorNext.col < v.scr.cols)

/-- What is left to the application (cells, texts, cursor) and to the terminal (after a size change
    it shows a well-formed grid of the new size — whatever it is). -/
def OpOk (X : Ctx) (s : Sys) : SysOp → Prop
  | .draw (.setCell _ _ _ c) => CellOk X c
  | .draw (.fill _ c) => CellOk X c
  | .draw (.print _ segs) => TextOk X segs
  | .draw (.println _ _ segs) => TextOk X segs
  | .draw (.printTruncate _ _ segs) => TextOk X segs ∧ X.cw "e280a6" = 1
  | .draw (.wrap _ segs) => WrapTextOk X segs
  | .draw _ => True
  | .render => CursorIn s.v
  | .refresh => CursorIn s.v
  | .resize cols rows g =>
      if sameSize s.v cols rows then CursorIn s.v
      else g.length = rows ∧ ∀ r ∈ g, r.length = cols ∧ WFRow 0 r

/-- The terminal shows exactly the application's screen and nothing terminal-specific was relied on. -/
def Shows (X : Ctx) (s : Sys) : Prop :=
  s.t.grid = Expected.expectedC X.cw X.caps (X.I.grid s.v.scr.buf) ∧ s.t.bad = none

structure Inv (X : Ctx) (s : Sys) : Prop where
  wf : s.v.scr.WF
  ready : Ready s.t s.v.last s.v.scr.rows.toNat s.v.scr.cols.toNat
  agree : s.v.refresh = false → Agree X.cw X.caps s.t s.v.last
  cells : ∀ x y c, s.v.scr.get x y = some c → CellOk X c

theorem cellOk_style (X : Ctx) (c : VaxisModel.Model.Window.Cell) (st : Nat) (h : CellOk X c) : CellOk X { c with st := st } := by
  unfold CellOk WidthOk Interp.cell at *
  exact h

theorem cellOk_default (X : Ctx) : CellOk X (default : VaxisModel.Model.Window.Cell) := ⟨by decide, Or.inl rfl⟩

theorem cellOk_of_meas (X : Ctx) (hX : X.Ok) (c : VaxisModel.Model.Window.Cell) (h : Meas X.lib c) : CellOk X c := by
  unfold Meas at h
  rw [hX.coh] at h
  refine ⟨by rw [h]; omega, Or.inr (Or.inl ?_)⟩
  simp only [Interp.cell]; exact h

theorem lib_space (X : Ctx) (hX : X.Ok) : X.lib.cw gSpace = 1 := by
  rw [hX.coh, hX.std.space, hX.space]; rfl

theorem cellOk_clear (X : Ctx) (hX : X.Ok) : CellOk X clearCell := by
  apply cellOk_of_meas X hX
  unfold Meas clearCell
  exact (lib_space X hX).symm

theorem modelWrites_ok (X : Ctx) (hX : X.Ok) (s : Sys) (d : DrawOp) (hok : OpOk X s (.draw d)) :
    ∀ w ∈ modelWrites X.lib X.rm d, ∀ c, w.put = .cell c → CellOk X c := by
  have hsp := lib_space X hX
  have via : ∀ (win : Win) (ops : List Op), (∀ o ∈ ops, CellOk X o.cell) →
      ∀ w ∈ ops.map (toW win), ∀ c, w.put = .cell c → CellOk X c := by
    intro win ops h w hw c hc
    obtain ⟨o, ho, rfl⟩ := List.mem_map.1 hw
    simp only [toW, Win.Put.cell.injEq] at hc
    subst hc
    exact h o ho
  have viaMeas : ∀ (win : Win) (ops : List Op), (∀ o ∈ ops, Meas X.lib o.cell) →
      ∀ w ∈ ops.map (toW win), ∀ c, w.put = .cell c → CellOk X c :=
    fun win ops h => via win ops fun o ho => cellOk_of_meas X hX _ (h o ho)
  have viaConst : ∀ (win : Win) (c0 : VaxisModel.Model.Window.Cell), CellOk X c0 →
      ∀ w ∈ (fillOps win c0).map (toW win), ∀ c, w.put = .cell c → CellOk X c :=
    fun win c0 h0 => via win _ fun o ho => by
      simp only [fillOps, List.mem_flatMap, List.mem_map] at ho
      obtain ⟨_, _, _, _, rfl⟩ := ho
      exact h0
  cases d with
  | setCell win col row c0 =>
    intro w hw c hc
    simp only [modelWrites, List.mem_singleton] at hw
    subst hw
    simp only [Win.Put.cell.injEq] at hc
    subst hc; exact hok
  | setStyle win col row st =>
    intro w hw c hc
    simp only [modelWrites, List.mem_singleton] at hw
    subst hw
    cases hc
  | fill win c0 => exact viaConst win c0 hok
  | clear win => exact viaConst win clearCell (cellOk_clear X hX)
  | print win segs =>
    exact viaMeas win _ (fun o ho => printGo_meas X.lib X.rm _ _ _ (flatten_ok X.lib X.rm hsp segs hok) _ _ o ho)
  | printTruncate win row segs =>
    have hell : X.lib.cw gEllipsis = 1 := by rw [hX.coh, hX.std.ellipsis, hok.2]; rfl
    refine viaMeas win _ (fun o ho => ?_)
    simp only [printTruncateOps] at ho
    split at ho
    · cases ho
    · exact truncGo_meas X.lib X.rm hell _ _ _ (flatten_ok X.lib X.rm hsp segs hok.1) _ o ho
  | println win row segs =>
    refine viaMeas win _ (fun o ho => ?_)
    simp only [printlnOps] at ho
    split at ho
    · cases ho
    · exact lnGo_meas X.lib X.rm _ _ _ (flatten_ok X.lib X.rm hsp segs hok) _ o ho
  | wrap win segs =>
    refine viaMeas win _ (fun o ho => ?_)
    have hstored : wrapRemeasured = true := by decide
    simp only [wrapOps, hstored] at ho
    exact wrapGo_meas X.lib X.rm hsp _ _ segs hok _ _ o ho
  | showCursor win col row st => intro w hw; simp [modelWrites] at hw
  | hideCursor => intro w hw; simp [modelWrites] at hw
  | mouseShape sh => intro w hw; simp [modelWrites] at hw

theorem grid_length (I : Interp) (buf : List (List VaxisModel.Model.Window.Cell)) : (I.grid buf).length = buf.length := by
  simp [Interp.grid]

theorem grid_rows (I : Interp) (buf : List (List VaxisModel.Model.Window.Cell)) (C : Nat) (h : ∀ l ∈ buf, l.length = C) :
    ∀ r ∈ I.grid buf, r.length = C := by
  intro r hr
  obtain ⟨l, hl, rfl⟩ := List.mem_map.1 hr
  simp [h l hl]

theorem grid_cells (X : Ctx) (s : Screen) (h : ∀ x y c, s.get x y = some c → CellOk X c) :
    ∀ r ∈ X.I.grid s.buf, ∀ c ∈ r, c.sixel = false ∧ 0 ≤ c.w ∧ WidthOk X.cw X.caps c := by
  intro r hr c hc
  obtain ⟨l, hl, rfl⟩ := List.mem_map.1 hr
  obtain ⟨c0, h0, rfl⟩ := List.mem_map.1 hc
  obtain ⟨x, y, hg⟩ := mem_buf_get s l hl c0 h0
  exact ⟨rfl, (h x y c0 hg).1, (h x y c0 hg).2⟩

/-- Asking for a refresh keeps the invariant (nothing is assumed of `last` any more). -/
theorem Inv.refresh {X : Ctx} {s : Sys} (hi : Inv X s) : Inv X { s with v := { s.v with refresh := true } } :=
  ⟨hi.wf, hi.ready, fun h => absurd h (by simp), hi.cells⟩

/-- A requested cursor inside the screen is inside the terminal, whose size the invariant ties to the screen's. -/
theorem CursorIn.term {X : Ctx} {s : Sys} (hi : Inv X s) (hcur : CursorIn s.v) (hv : s.v.cursorNext.visible = true) :
    (0 ≤ s.v.cursorNext.row ∧ s.v.cursorNext.row < s.t.rows) ∧ (0 ≤ s.v.cursorNext.col ∧ s.v.cursorNext.col < s.t.cols) := by
  obtain ⟨hcn, hrn, _, _⟩ := hi.wf
  rw [hi.ready.trows, hi.ready.tcols]
  simp only [Int.toNat_of_nonneg hcn, Int.toNat_of_nonneg hrn]
  exact hcur hv

theorem sysStep_resize_same {X : Ctx} {s : Sys} {cols rows : Nat} (g : List (List DCell))
    (hs : sameSize s.v cols rows = true) : sysStep X s (.resize cols rows g) = sysStep X s .render := by
  simp only [sysStep, endFrame, hs, if_true]

theorem opOk_resize_same {X : Ctx} {s : Sys} {cols rows : Nat} {g : List (List DCell)}
    (hs : sameSize s.v cols rows = true) (hok : OpOk X s (.resize cols rows g)) : CursorIn s.v := by
  simpa only [OpOk, hs, if_true] using hok

theorem frame_cursorLast (X : Ctx) (s : Sys) (op : SysOp) (hf : isFrame s op = true) :
    (sysStep X s op).v.cursorLast = s.v.cursorNext := by
  cases op with
  | draw d => simp [isFrame] at hf
  | render => rfl
  | refresh => rfl
  | resize cols rows g => rw [sysStep_resize_same g (by simpa [isFrame] using hf)]; rfl

theorem frameInOk (X : Ctx) (s : Sys) (hi : Inv X s) (hcur : CursorIn s.v) (refresh : Bool) :
    FrameInOkC X.cw X.caps s.v.scr.rows.toNat s.v.scr.cols.toNat
      ⟨refresh, X.I.grid s.v.scr.buf, s.v.cursorNext, s.v.shapeNext⟩ := by
  obtain ⟨hc, hr, hlen, hrows⟩ := hi.wf
  refine ⟨by rw [grid_length]; exact hlen, grid_rows X.I _ _ hrows, grid_cells X s.v.scr hi.cells, ?_⟩
  intro hv
  have := hcur hv
  simp only [Int.toNat_of_nonneg hc, Int.toNat_of_nonneg hr]
  exact this

/-- The buffer the drawing calls fill has no sixel-flagged cell, so `Render()` is `renderFrameC`. -/
theorem doRender_eq (cw : String → Nat) (caps : Caps) (I : Interp) (v : Vx) :
    doRender cw caps I v =
      ({ v with last := (renderFrameC cw (frameOf caps I v)).1, cursorLast := v.cursorNext, shapeLast := v.shapeNext, refresh := false },
       (renderFrameC cw (frameOf caps I v)).2) := by
  have h : ∀ r ∈ (frameOf caps I v).next, ∀ c ∈ r, c.sixel = false := by
    intro r hr c hc
    obtain ⟨l, _, rfl⟩ := List.mem_map.1 hr
    obtain ⟨c0, _, rfl⟩ := List.mem_map.1 hc
    rfl
  simp only [doRender, VaxisModel.Lemmas.RenderSixel.renderFrameS_eq cw _ h]

theorem render_step (X : Ctx) (hX : X.Ok) (s : Sys) (hi : Inv X s) (hcur : CursorIn s.v) :
    let s' : Sys := { v := (doRender X.cw X.caps X.I s.v).1, t := run X.cw s.t (doRender X.cw X.caps X.I s.v).2 }
    Inv X s' ∧ Shows X s' := by
  intro s'
  have hstep := frame_step_clip X.cw X.caps hX.space s.v.scr.rows.toNat s.v.scr.cols.toNat
    ⟨s.t, s.v.last, s.v.cursorLast, s.v.shapeLast⟩ ⟨s.v.refresh, X.I.grid s.v.scr.buf, s.v.cursorNext, s.v.shapeNext⟩
    hi.ready hi.agree (frameInOk X s hi hcur s.v.refresh)
  obtain ⟨h1, h2, h3, h4⟩ := hstep
  have e := doRender_eq X.cw X.caps X.I s.v
  have e1 : s'.v = (doRender X.cw X.caps X.I s.v).1 := rfl
  have e2 : s'.t = run X.cw s.t (doRender X.cw X.caps X.I s.v).2 := rfl
  refine ⟨⟨?_, ?_, ?_, ?_⟩, ?_, ?_⟩
  · rw [e1, e]; exact hi.wf
  · rw [e2, e1, e]; exact h1
  · intro _; rw [e2, e1, e]; exact h2
  · rw [e1, e]; exact hi.cells
  · rw [e2, e1, e]; exact h3
  · rw [e2, e]; exact h4

theorem draw_step (X : Ctx) (hX : X.Ok) (s : Sys) (hi : Inv X s) (d : DrawOp) (hok : OpOk X s (.draw d)) :
    Inv X (sysStep X s (.draw d)) := by
  have hscr := draw_scr X.lib X.rm s.v d
  have hd := applyPuts_dims (modelWrites X.lib X.rm d) s.v.scr
  have hlast := draw_last X.lib X.rm s.v d
  refine ⟨?_, ?_, ?_, ?_⟩
  · show (draw X.lib X.rm s.v d).scr.WF
    rw [hscr]; exact applyPuts_wf _ _ hi.wf
  · show Ready s.t (draw X.lib X.rm s.v d).last (draw X.lib X.rm s.v d).scr.rows.toNat (draw X.lib X.rm s.v d).scr.cols.toNat
    rw [hscr, hd.1, hd.2, hlast]; exact hi.ready
  · show (draw X.lib X.rm s.v d).refresh = false → Agree X.cw X.caps s.t (draw X.lib X.rm s.v d).last
    rw [hlast, draw_refresh]; exact hi.agree
  · show ∀ x y c, (draw X.lib X.rm s.v d).scr.get x y = some c → CellOk X c
    intro x y c hg
    rw [hscr, get_applyPuts] at hg
    cases h0 : s.v.scr.get x y with
    | none => simp [h0] at hg
    | some c0 =>
      simp only [h0, Option.map_some, Option.some.injEq] at hg
      subst hg
      exact foldHits_pred (CellOk X) (cellOk_style X) s.v.scr x y _ (modelWrites_ok X hX s d hok) c0 (hi.cells x y c0 h0)

theorem get_resize (cols rows : Int) (x y : Int) (c : VaxisModel.Model.Window.Cell) (h : (Screen.resize cols rows).get x y = some c) :
    c = default := by
  unfold Screen.get Screen.resize at h
  split at h
  · cases h
  · simp only at h
    split at h
    · rename_i l hl
      have hm : l ∈ List.replicate rows.toNat (List.replicate cols.toNat (default : VaxisModel.Model.Window.Cell)) := List.mem_iff_getElem?.2 ⟨_, hl⟩
      rw [(List.mem_replicate.1 hm).2] at h
      have hc : c ∈ List.replicate cols.toNat (default : VaxisModel.Model.Window.Cell) := List.mem_iff_getElem?.2 ⟨_, h⟩
      exact (List.mem_replicate.1 hc).2
    · cases h

theorem resize_step (X : Ctx) (s : Sys) (hi : Inv X s) (cols rows : Nat) (g : List (List DCell))
    (hg : g.length = rows ∧ ∀ r ∈ g, r.length = cols ∧ WFRow 0 r) :
    Inv X { v := { s.v with scr := Screen.resize cols rows, last := blankGrid cols rows, refresh := true },
            t := resizedTerm s.t cols rows g } := by
  refine ⟨wf_resize _ _ (by omega) (by omega), ?_, fun h => absurd h (by simp), ?_⟩
  · show Ready (resizedTerm s.t cols rows g) (blankGrid cols rows) (Screen.resize cols rows).rows.toNat (Screen.resize cols rows).cols.toNat
    simp only [Screen.resize, Int.toNat_natCast]
    refine ⟨hi.ready.rest, hi.ready.bad, hi.ready.lp, rfl, rfl, hg.1, by simp [blankGrid], fun r hr => (hg.2 r hr).1, ?_,
      fun r hr => (hg.2 r hr).2⟩
    intro r hr
    simp only [blankGrid, List.mem_replicate] at hr
    rw [hr.2]; simp
  · intro x y c hc
    rw [get_resize _ _ x y c hc]
    exact cellOk_default X

/-- **One step of the closed system**: the invariant is re-established, and if the step wrote a
    frame the terminal now shows the application's screen. -/
theorem sys_step (X : Ctx) (hX : X.Ok) (s : Sys) (hi : Inv X s) (op : SysOp) (hok : OpOk X s op) :
    Inv X (sysStep X s op) ∧ (isFrame s op = true → Shows X (sysStep X s op)) := by
  cases op with
  | draw d => exact ⟨draw_step X hX s hi d hok, fun h => by simp [isFrame] at h⟩
  | render =>
    have := render_step X hX s hi hok
    exact ⟨this.1, fun _ => this.2⟩
  | refresh =>
    have := render_step X hX { s with v := { s.v with refresh := true } } hi.refresh hok
    exact ⟨this.1, fun _ => this.2⟩
  | resize cols rows g =>
    by_cases hs : sameSize s.v cols rows = true
    · rw [sysStep_resize_same g hs]
      have := render_step X hX s hi (opOk_resize_same hs hok)
      exact ⟨this.1, fun _ => this.2⟩
    · simp only [OpOk, hs] at hok
      have := resize_step X s hi cols rows g hok
      simp only [sysStep, endFrame, hs, isFrame, run]
      exact ⟨this, fun h => absurd h (by simp)⟩

/-- Every op of the run is admissible in the state it is issued in. -/
def RunOk (X : Ctx) : Sys → List SysOp → Prop
  | _, [] => True
  | s, op :: rest => OpOk X s op ∧ RunOk X (sysStep X s op) rest

theorem runOk_append (X : Ctx) (a b : List SysOp) : ∀ (s : Sys),
    RunOk X s (a ++ b) ↔ RunOk X s a ∧ RunOk X (sysRun X s a) b := by
  induction a with
  | nil => intro s; simp [RunOk, sysRun]
  | cons op rest ih =>
    intro s
    simp only [List.cons_append, RunOk, sysRun, List.foldl_cons]
    have := ih (sysStep X s op)
    simp only [sysRun] at this
    rw [this, and_assoc]

theorem run_inv (X : Ctx) (hX : X.Ok) (ops : List SysOp) : ∀ (s : Sys), Inv X s → RunOk X s ops → Inv X (sysRun X s ops) := by
  induction ops with
  | nil => intro s hi _; exact hi
  | cons op rest ih =>
    intro s hi hok
    simp only [sysRun, List.foldl_cons]
    exact ih _ (sys_step X hX s hi op hok.1).1 hok.2

/-- After a start-up resize to `cols × rows`: blank buffers, a refresh pending, the terminal blank
    with the cursor hidden. -/
def Sys.init (cols rows : Nat) : Sys := ⟨Vx.init cols rows, { Term.init cols rows with cursorVisible := false }⟩

theorem init_inv (X : Ctx) (cols rows : Nat) : Inv X (Sys.init cols rows) := by
  refine ⟨wf_resize _ _ (by omega) (by omega), ?_, fun h => absurd h (by simp [Sys.init, Vx.init]), ?_⟩
  · show Ready _ (blankGrid cols rows) (Screen.resize cols rows).rows.toNat (Screen.resize cols rows).cols.toNat
    simp only [Screen.resize, Int.toNat_natCast]
    -- `Ready` does not read `cursorVisible`
    have h := init_ready cols rows
    exact ⟨h.rest, h.bad, h.lp, h.trows, h.tcols, h.glen, h.llen, h.gcols, h.lcols, h.wf⟩
  · intro x y c hc
    rw [get_resize _ _ x y c hc]
    exact cellOk_default X

def sizeChange (s : Sys) : SysOp → Bool
  | .resize cols rows _ => !sameSize s.v cols rows
  | _ => false

theorem render_cursor (X : Ctx) (s : Sys) (hi : Inv X s) (hcur : CursorIn s.v) (hc : CursorAs s.t s.v.cursorLast) :
    CursorAs (run X.cw s.t (doRender X.cw X.caps X.I s.v).2) (doRender X.cw X.caps X.I s.v).1.cursorLast := by
  rw [doRender_eq]
  simp only [VaxisModel.Lemmas.RenderClip.renderFrameC_eq]
  exact cursor_as_requested X.cw X.cw { frameOf X.caps X.I s.v with next := clipGrid X.cw (frameOf X.caps X.I s.v).next } s.t
    (hcur.term hi) hc

/-- The hardware cursor stays as last rendered through every step that does not change the size,
    and after every frame it is as last requested. -/
theorem cursor_step (X : Ctx) (s : Sys) (hi : Inv X s) (hc : CursorAs s.t s.v.cursorLast) (op : SysOp)
    (hok : OpOk X s op) (hns : sizeChange s op = false) :
    CursorAs (sysStep X s op).t (sysStep X s op).v.cursorLast := by
  cases op with
  | draw d =>
    simp only [sysStep, draw_cursorLast]; exact hc
  | render => exact render_cursor X s hi hok hc
  | refresh =>
    exact render_cursor X { s with v := { s.v with refresh := true } } hi.refresh hok hc
  | resize cols rows g =>
    have hs : sameSize s.v cols rows = true := by simpa [sizeChange] using hns
    rw [sysStep_resize_same g hs]
    exact render_cursor X s hi (opOk_resize_same hs hok) hc

/-- Either the terminal shows the cursor as last rendered, or — after a size change, when the
    terminal may have moved it — a refresh is pending and the cursor's *visibility* is still as last
    rendered. -/
def CurInv (s : Sys) : Prop :=
  CursorAs s.t s.v.cursorLast ∨
  (s.v.refresh = true ∧ (s.v.cursorLast.visible = false → s.t.cursorVisible = false))

/-- The refresh of a non-empty screen puts the cursor right whatever its position was. -/
theorem render_cursor_fresh (X : Ctx) (s : Sys) (hi : Inv X s) (hcur : CursorIn s.v) (hr : s.v.refresh = true)
    (hc1 : 1 ≤ s.v.scr.cols) (hr1 : 1 ≤ s.v.scr.rows) (hvis : s.v.cursorLast.visible = false → s.t.cursorVisible = false) :
    CursorAs (run X.cw s.t (doRender X.cw X.caps X.I s.v).2) (doRender X.cw X.caps X.I s.v).1.cursorLast := by
  obtain ⟨hcn, hrn, hlen, hrows⟩ := hi.wf
  rw [doRender_eq]
  simp only [VaxisModel.Lemmas.RenderClip.renderFrameC_eq]
  apply VaxisModel.Lemmas.RenderCursor.cursor_nonempty X.cw X.cw
    { frameOf X.caps X.I s.v with next := clipGrid X.cw (frameOf X.caps X.I s.v).next } s.t
  · exact hcur.term hi
  · -- the body is not empty: the first row of the screen and of `last` have a first cell (`cols`, `rows` ≥ 1)
    cases hbuf : s.v.scr.buf with
    | nil => rw [hbuf] at hlen; simp at hlen; omega
    | cons r0 rest =>
      have hr0 : r0.length = s.v.scr.cols.toNat := hrows r0 (by rw [hbuf]; simp)
      cases hrow : r0 with
      | nil => rw [hrow] at hr0; simp at hr0; omega
      | cons c0 cs0 =>
        have hll := hi.ready.llen
        cases hlast : s.v.last with
        | nil => rw [hlast] at hll; simp at hll; omega
        | cons l0r lrest =>
          have hl0 : l0r.length = s.v.scr.cols.toNat := hi.ready.lcols l0r (by rw [hlast]; simp)
          cases hl0r : l0r with
          | nil => rw [hl0r] at hl0; simp at hl0; omega
          | cons l0 ls0 =>
            apply VaxisModel.Lemmas.RenderCursor.renderBody_nonempty X.cw _ hr
              (clipCell X.cw (cs0.length + 1) (X.I.cell c0)) (clipRow X.cw (cs0.map X.I.cell))
              (clipGrid X.cw (X.I.grid rest)) l0 ls0 lrest
            · simp [frameOf, Interp.grid, clipGrid, clipRow, hbuf, hrow]
            · simp [frameOf, hlast, hl0r]
            · rw [VaxisModel.Lemmas.RenderClip.clipCell_sixel]; rfl
  · exact hvis

/-- On an empty screen (no columns or no rows) a visible cursor cannot be inside the screen, so the
    application's obligation `CursorIn` means "hidden"; the frame leaves the cursor hidden. -/
theorem render_cursor_empty (X : Ctx) (s : Sys) (hcur : CursorIn s.v)
    (hemp : s.v.scr.cols < 1 ∨ s.v.scr.rows < 1) (hvis : s.v.cursorLast.visible = false → s.t.cursorVisible = false) :
    CursorAs (run X.cw s.t (doRender X.cw X.caps X.I s.v).2) (doRender X.cw X.caps X.I s.v).1.cursorLast := by
  have hv : s.v.cursorNext.visible = false := by
    by_cases h : s.v.cursorNext.visible = true
    · have := hcur h; omega
    · simpa using h
  rw [doRender_eq]
  simp only [VaxisModel.Lemmas.RenderClip.renderFrameC_eq]
  exact VaxisModel.Lemmas.RenderCursor.cursor_hidden X.cw X.cw
    { frameOf X.caps X.I s.v with next := clipGrid X.cw (frameOf X.caps X.I s.v).next } s.t hv hvis

/-- **The cursor clause through every step**, size changes included — to any size, an empty screen
    (0 columns or 0 rows) too. -/
theorem cursor_step_all (X : Ctx) (s : Sys) (hi : Inv X s) (hc : CurInv s) (op : SysOp) (hok : OpOk X s op) :
    CurInv (sysStep X s op) ∧
    (isFrame s op = true → CursorAs (sysStep X s op).t (sysStep X s op).v.cursorLast) := by
  have hrender : ∀ (s : Sys), Inv X s → CurInv s → CursorIn s.v →
      CursorAs (run X.cw s.t (doRender X.cw X.caps X.I s.v).2) (doRender X.cw X.caps X.I s.v).1.cursorLast := by
    intro s hi hc hcur
    rcases hc with hc | ⟨h1, h4⟩
    · exact render_cursor X s hi hcur hc
    · by_cases hne : 1 ≤ s.v.scr.cols ∧ 1 ≤ s.v.scr.rows
      · exact render_cursor_fresh X s hi hcur h1 hne.1 hne.2 h4
      · exact render_cursor_empty X s hcur (by omega) h4
  cases op with
  | draw d =>
    refine ⟨?_, fun h => absurd h (by simp [isFrame])⟩
    simp only [CurInv, sysStep, draw_cursorLast, draw_refresh]
    exact hc
  | render =>
    have := hrender s hi hc hok
    exact ⟨Or.inl this, fun _ => this⟩
  | refresh =>
    have := hrender { s with v := { s.v with refresh := true } } hi.refresh
      (by rcases hc with hc | ⟨h1, h4⟩
          · exact Or.inl hc
          · exact Or.inr ⟨rfl, h4⟩) hok
    exact ⟨Or.inl this, fun _ => this⟩
  | resize cols rows g =>
    by_cases hs : sameSize s.v cols rows = true
    · rw [sysStep_resize_same g hs]
      have := hrender s hi hc (opOk_resize_same hs hok)
      exact ⟨Or.inl this, fun _ => this⟩
    · simp only [sysStep, endFrame, hs, isFrame, run]
      refine ⟨Or.inr ⟨rfl, ?_⟩, fun h => absurd h (by simp)⟩
      intro hv
      show (resizedTerm s.t cols rows g).cursorVisible = false
      simp only [resizedTerm]
      rcases hc with hc | ⟨_, h4⟩
      · exact cursorAs_hidden s.t _ hc hv
      · exact h4 hv

end VaxisModel.Lemmas.AppSys
