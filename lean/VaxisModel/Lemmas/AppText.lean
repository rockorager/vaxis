/-
The cells the text helpers of window.go write carry the width `characterWidth` gives their grapheme
(`Meas`), provided the clusters handed in by uniseg carry that width whenever the helper does not
re-measure (`RawOk`), a space has width 1 (TAB expansion) and — for `PrintTruncate` — the ellipsis
has width 1.
-/
import VaxisModel.Model.Window
import VaxisModel.Lemmas.WindowText

namespace VaxisModel.Lemmas.AppText
open VaxisModel.Model.Window VaxisModel.Lemmas.WindowText

/-- The cell's explicit width is what `characterWidth` says about its grapheme. -/
def Meas (lib : Lib) (c : Cell) : Prop := c.w = lib.cw c.g

/-- uniseg's width agrees with `characterWidth` when the helper does not re-measure (both
    `unicodeCore` and `explicitWidth` detected: then `characterWidth` = `gwidth(unicodeStd)`). -/
def RawOk (lib : Lib) (rm : Bool) (r : Raw) : Prop := rm = false → r.uw = lib.cw r.g

def ChOk (lib : Lib) (rm : Bool) (ch : Chr) : Prop := rm = false → ch.w = lib.cw ch.g

theorem characters_ok (lib : Lib) (rm : Bool) (hsp : lib.cw gSpace = 1) (raws : List Raw)
    (h : ∀ r ∈ raws, RawOk lib rm r) : ∀ ch ∈ characters raws, ChOk lib rm ch := by
  induction raws with
  | nil => intro ch hc; simp [characters] at hc
  | cons r rest ih =>
    intro ch hc
    simp only [characters] at hc
    have ih' := ih (fun r' hr' => h r' (List.mem_cons_of_mem _ hr'))
    split at hc
    · rcases List.mem_append.1 hc with hc | hc
      · rw [List.mem_replicate] at hc
        rw [hc.2]; intro _; exact hsp.symm
      · exact ih' ch hc
    · rcases List.mem_cons.1 hc with rfl | hc
      · exact h r List.mem_cons_self
      · exact ih' ch hc

theorem measured_w (lib : Lib) (rm : Bool) (ch : Chr) (h : ChOk lib rm ch) :
    (measured lib rm ch).w = lib.cw (measured lib rm ch).g := by
  unfold measured
  cases rm with
  | true => simp
  | false => simpa using h rfl

theorem flatten_ok (lib : Lib) (rm : Bool) (hsp : lib.cw gSpace = 1) (segs : List (Nat × List Raw))
    (h : ∀ seg ∈ segs, ∀ r ∈ seg.2, RawOk lib rm r) : ∀ sc ∈ flatten segs, ChOk lib rm sc.2 := by
  intro sc hsc
  simp only [flatten, List.mem_flatMap, List.mem_map] at hsc
  obtain ⟨seg, hseg, ch, hch, rfl⟩ := hsc
  exact characters_ok lib rm hsp seg.2 (h seg hseg) ch hch

open VaxisModel.Spec.Window

theorem meas_item (lib : Lib) (rm : Bool) (ch : Chr) (h : ChOk lib rm ch) (brk : Bool) (st : Nat) :
    Meas lib (Item.cell { g := ch.g, w := (measured lib rm ch).w, brk := brk, st := st }) := by
  have := measured_w lib rm ch h
  rwa [measured_g] at this

/-! The helpers are layouts of their items (`Lemmas/WindowText`: `printGo_layout`, `lnGo_layout`, `truncGo_layout`,
`wrapGo_layout`), and a layout writes its items' cells. -/

theorem printGo_meas (lib : Lib) (rm : Bool) (cols rows : Int) (l : List Styled)
    (h : ∀ sc ∈ l, ChOk lib rm sc.2) : ∀ (col row : Int), ∀ o ∈ (printGo lib rm cols rows l col row).1, Meas lib o.cell := by
  intro col row o ho
  obtain ⟨d, hd, _⟩ := printGo_layout lib rm cols rows l col row
  obtain ⟨it, hit, e⟩ := layout_cell_mem cols _ col row o (by rw [hd]; exact List.mem_append_left _ ho)
  obtain ⟨sc, hsc, rfl⟩ := List.mem_map.1 hit
  rw [e]; exact meas_item lib rm sc.2 (h sc hsc) _ _

theorem truncGo_meas (lib : Lib) (rm : Bool) (hell : lib.cw gEllipsis = 1) (cols row : Int) (l : List Styled)
    (h : ∀ sc ∈ l, ChOk lib rm sc.2) : ∀ (col : Int), ∀ o ∈ truncGo lib rm cols row l col, Meas lib o.cell := by
  intro col o ho
  rw [truncGo_layout] at ho
  obtain ⟨it, hit, e⟩ := layoutTrunc_cell_mem cols row _ col o ho
  obtain ⟨sc, hsc, rfl⟩ := List.mem_map.1 hit
  rcases e with e | e <;> rw [e]
  · exact meas_item lib rm sc.2 (h sc hsc) _ _
  · exact hell.symm

theorem lnGo_meas (lib : Lib) (rm : Bool) (cols row : Int) (l : List Styled)
    (h : ∀ sc ∈ l, ChOk lib rm sc.2) : ∀ (col : Int), ∀ o ∈ lnGo lib rm cols row l col, Meas lib o.cell := by
  intro col o ho
  rw [lnGo_layout] at ho
  obtain ⟨it, hit, e⟩ := layoutLine_cell_mem cols row _ col o ho
  obtain ⟨sc, hsc, rfl⟩ := List.mem_map.1 hit
  rw [e]; exact meas_item lib rm sc.2 (h sc hsc) _ _

theorem wrapGo_meas (lib : Lib) (rm : Bool) (hsp : lib.cw gSpace = 1) (cols rows : Int) (l : List (Nat × List (List Raw)))
    (h : ∀ sg ∈ l, ∀ seg ∈ sg.2, ∀ r ∈ seg, RawOk lib rm r) :
    ∀ (col row : Int), ∀ o ∈ (wrapGo lib rm true cols rows l col row).1, Meas lib o.cell := by
  intro col row o ho
  obtain ⟨d, hd, _⟩ := wrapGo_layout lib rm cols rows l col row
  obtain ⟨items, hitems, it, hit, e⟩ := layoutWrap_cell_mem cols _ col row o (by rw [hd]; exact List.mem_append_left _ ho)
  simp only [wrapAllItems, List.mem_flatMap, List.mem_map] at hitems
  obtain ⟨sg, hsg, seg, hseg, rfl⟩ := hitems
  obtain ⟨ch, hch, rfl⟩ := List.mem_map.1 hit
  rw [e]; exact meas_item lib rm ch (characters_ok lib rm hsp seg (h sg hsg seg hseg) ch hch) _ _

end VaxisModel.Lemmas.AppText
