import VaxisModel.Model.Color

namespace VaxisModel.Lemmas
open VaxisModel.Model.Color

def IsArgmin (f : Nat → Nat) (l : List Nat) (i s : Nat) : Prop :=
  (∃ v, l[i]? = some v ∧ s = f v) ∧ ∀ v' ∈ l, s ≤ f v'

theorem argmin_index_lt (f : Nat → Nat) (l : List Nat) (i s : Nat) (h : IsArgmin f l i s) : i < l.length := by
  obtain ⟨⟨v, hv, _⟩, _⟩ := h
  rcases Nat.lt_or_ge i l.length with h | h
  · exact h
  · rw [List.getElem?_eq_none h] at hv; cases hv

theorem argminFrom_some (f : Nat → Nat) :
    ∀ (vs pre : List Nat) (bi bs : Nat), IsArgmin f pre bi bs →
      ∃ i s, argminFrom f vs pre.length (some (bi, bs)) = some (i, s) ∧ IsArgmin f (pre ++ vs) i s := by
  intro vs
  induction vs with
  | nil =>
    intro pre bi bs h
    exact ⟨bi, bs, by simp [argminFrom], by simpa using h⟩
  | cons v vs ih =>
    intro pre bi bs h
    have hbi := argmin_index_lt f pre bi bs h
    obtain ⟨⟨v0, hv0, hs0⟩, hmin⟩ := h
    unfold argminFrom
    split
    ·
      rename_i hlt
      have h' : IsArgmin f (pre ++ [v]) pre.length (f v) := by
        refine ⟨⟨v, by simp, rfl⟩, ?_⟩
        intro v' hv'
        rw [List.mem_append] at hv'
        rcases hv' with hv' | hv'
        · exact Nat.le_trans (Nat.le_of_lt hlt) (hmin v' hv')
        · simp at hv'; subst hv'; exact Nat.le_refl _
      have := ih (pre ++ [v]) pre.length (f v) h'
      simpa [List.length_append, List.append_assoc] using this
    · rename_i hge
      have h' : IsArgmin f (pre ++ [v]) bi bs := by
        refine ⟨⟨v0, ?_, hs0⟩, ?_⟩
        · rw [List.getElem?_append_left hbi]; exact hv0
        · intro v' hv'
          rw [List.mem_append] at hv'
          rcases hv' with hv' | hv'
          · exact hmin v' hv'
          · simp at hv'; subst hv'; exact Nat.le_of_not_lt hge
      have := ih (pre ++ [v]) bi bs h'
      simpa [List.length_append, List.append_assoc] using this

theorem argmin_spec (f : Nat → Nat) (l : List Nat) (hne : l ≠ []) :
    ∃ i s, argmin f l = some (i, s) ∧ IsArgmin f l i s := by
  cases l with
  | nil => exact absurd rfl hne
  | cons v vs =>
    have h0 : IsArgmin f [v] 0 (f v) := ⟨⟨v, by simp, rfl⟩, by intro v' hv'; simp at hv'; subst hv'; exact Nat.le_refl _⟩
    have := argminFrom_some f vs [v] 0 (f v) h0
    simpa [argmin, argminFrom] using this

end VaxisModel.Lemmas
