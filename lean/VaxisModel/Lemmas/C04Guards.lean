/-
C04 — the guard assignments `m < 512` (`C04Check.envOf`) are exactly the Boolean functions on the
nine guard variables: every `v : String → Bool` that is false outside `C04Check.vars` equals
`vOf (mOf v)`.  So the statements over `m` are statements over all capability / option sets.
-/
import VaxisModel.Lemmas.C04SymCheck

namespace VaxisModel.Lemmas.C04Guards
open VaxisModel.Lemmas.C04Check VaxisModel.Lemmas.C04SymCheck

def wt (b : Bool) (k : Nat) : Nat := if b then k else 0

theorem wt_le (b : Bool) (k : Nat) : wt b k ≤ k := by unfold wt; split <;> omega

theorem wt_eq (b : Bool) (k : Nat) : wt b k = k * wt b 1 := by cases b <;> simp [wt]

def enc (v : String → Bool) : List String → Nat
  | [] => 0
  | x :: xs => wt (v x) 1 + 2 * enc v xs

theorem enc_lt (v : String → Bool) : ∀ xs : List String, enc v xs < 2 ^ xs.length
  | [] => by simp [enc]
  | x :: xs => by
    have := enc_lt v xs; have := wt_le (v x) 1
    simp only [enc, List.length_cons, Nat.pow_succ]; omega

theorem enc_bit (v : String → Bool) : ∀ (xs : List String) (i : Nat) (h : i < xs.length), ((enc v xs / 2 ^ i) % 2 == 1) = v xs[i]
  | x :: xs, 0, _ => by cases hb : v x <;> simp [enc, wt, hb] <;> omega
  | x :: xs, i + 1, h => by
    have hw := wt_le (v x) 1
    have : (wt (v x) 1 + 2 * enc v xs) / 2 ^ (i + 1) = enc v xs / 2 ^ i := by
      rw [Nat.pow_succ', ← Nat.div_div_eq_div_mul]; congr 1; omega
    simp only [enc, this, List.getElem_cons_succ]
    exact enc_bit v xs i (by simpa using h)

/-- The number of the assignment `v` (bit `i` = value of `vars[i]`). -/
def mOf (v : String → Bool) : Nat :=
  wt (v "caps.kittyKeyboard") 1 + wt (v "caps.sixels") 2 + wt (v "caps.unicodeCore") 4 + wt (v "caps.explicitWidth") 8 +
  wt (v "caps.colorThemeUpdates") 16 + wt (v "caps.inBandResize") 32 + wt (v "caps.osc176") 64 +
  wt (v "caps.synchronizedUpdate") 128 + wt (v "disableMouse") 256

theorem mOf_eq (v : String → Bool) : mOf v = enc v vars := by
  simp only [mOf, enc, vars, wt_eq _ 2, wt_eq _ 4, wt_eq _ 8, wt_eq _ 16, wt_eq _ 32, wt_eq _ 64, wt_eq _ 128, wt_eq _ 256]
  omega

theorem mOf_lt (v : String → Bool) : mOf v < 512 := by
  rw [mOf_eq]; exact enc_lt v vars

theorem v_eq (v : String → Bool) (hv : ∀ n, n ∉ vars → v n = false) : v = vOf (mOf v) := by
  funext n
  show v n = (match vars.idxOf? n with | some i => (mOf v / 2 ^ i) % 2 == 1 | none => false)
  cases h : vars.idxOf? n with
  | none => exact hv n (List.idxOf?_eq_none_iff.mp h)
  | some i =>
    obtain ⟨hi, hn⟩ := List.idxOf?_eq_some_iff.mp h
    simp only [mOf_eq, enc_bit v vars i hi, hn.1]

end VaxisModel.Lemmas.C04Guards
