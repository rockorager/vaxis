/-
C04 — the lifecycle interpreter one statement at a time (`interpS_cons`), and what follows for an
arbitrary writer state: inert statements are skipped (`interpS_inert`), early returns, calls without output;
used for the statements that hold for every state (`close_idempotent`, Suspend while suspended).
Also `concW` field by field.
-/
import VaxisModel.Model.Lifecycle

namespace VaxisModel.Lemmas.C04Interp
open VaxisModel.Model.Lifecycle VaxisModel.Model.Render VaxisModel.Gen.Modes

/-- One statement of `interpS`, as two functions (copied from its definition; `interpS_cons` ties them):
    whether it is a `return` that is taken, and what it does otherwise. -/
def retTest (v0 : String → Bool) (s : S) (w : SSt) : Bool :=
  match s with
  | .other g src => src.startsWith "return" && evalV (guardEnv v0 w) g
  | _ => false

def stepOne (v0 : String → Bool) (fuel : Nat) (s : S) (w : SSt) : SSt :=
  let v : String → Bool := guardEnv v0 w
  match s with
  | .write g x => if evalV v g then { w with buf := w.buf ++ itemsOf x } else w
  | .writeF g x => if evalV v g then { w with buf := w.buf ++ itemsOf x } else w
  | .direct g x => if evalV v g then { w with wire := w.wire ++ itemsOf x } else w
  | .flush g => if evalV v g then doFlushS (v "caps.synchronizedUpdate") w else w
  | .call g f =>
      if !evalV v g then w
      else if f = "HideCursor" then { w with cnv := false }
      else match table f with
        | some body => interpS v0 fuel body w
        | none => w
  | .deferCall _ => w
  | .other g src =>
      if !evalV v g then w
      else if src = "_, col := vx.CursorPosition()" then { w with wire := w.wire ++ (toksOf "\x1b[6n").map .tok }
      else if src = "vx.cursorLast.style = vx.userCursorStyle" then { w with clUser := true }
      else if src = "err := vx.openTty(tgts)" then { w with fresh := true }
      else if src = "vx.suspended = true" then { w with suspended := true }
      else if src = "vx.suspended = false" then { w with suspended := false }
      else if src = "vx.closed = true" then { w with closed := true }
      else w

theorem interpS_cons (v0 : String → Bool) (fuel : Nat) (s : S) (rest : List S) (w : SSt) :
    interpS v0 (fuel + 1) (s :: rest) w = if retTest v0 s w then w else interpS v0 fuel rest (stepOne v0 fuel s w) := by
  rw [interpS.eq_def]
  rfl

/-- `.other` statements the interpreter gives no effect. -/
def neutralOther (src : String) : Bool :=
  !src.startsWith "return" && decide (src ≠ "_, col := vx.CursorPosition()") &&
  decide (src ≠ "vx.cursorLast.style = vx.userCursorStyle") && decide (src ≠ "err := vx.openTty(tgts)") &&
  decide (src ≠ "vx.suspended = true") && decide (src ≠ "vx.suspended = false") && decide (src ≠ "vx.closed = true")

theorem neutral_not_return (src : String) (h : neutralOther src = true) : src.startsWith "return" = false := by
  simp only [neutralOther, Bool.and_eq_true, Bool.not_eq_true'] at h
  simp only [h]

theorem stepOne_neutral (v0 : String → Bool) (fuel : Nat) (g : G) (src : String) (w : SSt) (h : neutralOther src = true) :
    stepOne v0 fuel (.other g src) w = w := by
  simp only [neutralOther, Bool.and_eq_true, Bool.not_eq_true', decide_eq_true_eq] at h
  simp only [stepOne, h, if_false, ite_self]

theorem stepOne_call_none (v0 : String → Bool) (fuel : Nat) (g : G) (f : String) (w : SSt)
    (hf : ¬ f = "HideCursor") (ht : table f = none) : stepOne v0 fuel (.call g f) w = w := by
  simp only [stepOne, hf, ht, if_false, ite_self]

theorem interpS_skip (v : String → Bool) (fuel : Nat) (s : S) (rest : List S) (w : SSt)
    (hr : retTest v s w = false) (hs : stepOne v fuel s w = w) : interpS v (fuel + 1) (s :: rest) w = interpS v fuel rest w := by
  rw [interpS_cons, hr, hs]; rfl

/-- Statements the interpreter skips whatever the state and the guards: statements without effect, calls of functions
    that write nothing (locks, parser, console), defers. -/
def inert : S → Bool
  | .other _ src => neutralOther src
  | .call _ f => decide (f ≠ "HideCursor") && (table f).isNone
  | .deferCall _ => true
  | _ => false

theorem interpS_inert (v : String → Bool) (fuel : Nat) (s : S) (rest : List S) (w : SSt) (h : inert s = true) :
    interpS v (fuel + 1) (s :: rest) w = interpS v fuel rest w := by
  cases s with
  | other g src =>
    exact interpS_skip v fuel _ rest w (by simp only [retTest, neutral_not_return src h, Bool.false_and]) (stepOne_neutral v fuel g src w h)
  | call g f =>
    simp only [inert, Bool.and_eq_true, decide_eq_true_eq, Option.isNone_iff_eq_none] at h
    exact interpS_skip v fuel _ rest w rfl (stepOne_call_none v fuel g f w h.1 h.2)
  | deferCall f => exact interpS_skip v fuel _ rest w rfl rfl
  | _ => cases h

theorem interpS_return (v : String → Bool) (fuel : Nat) (g : G) (src : String) (rest : List S) (w : SSt)
    (hs : src.startsWith "return" = true) (hg : evalV (guardEnv v w) g = true) :
    interpS v (fuel + 1) (.other g src :: rest) w = w := by
  rw [interpS_cons, retTest, hs, hg]; rfl

theorem interpS_call_none (v : String → Bool) (fuel : Nat) (g : G) (f : String) (rest : List S) (w : SSt)
    (hf : (f = "HideCursor") = False) (ht : table f = none) :
    interpS v (fuel + 1) (.call g f :: rest) w = interpS v fuel rest w :=
  interpS_inert v fuel _ rest w (by simp [inert, hf, ht])

theorem guard_closed (v : String → Bool) (w : SSt) : evalV (guardEnv v w) (.v "closed") = w.closed := by
  simp [evalV, guardEnv]

theorem guard_suspended (v : String → Bool) (w : SSt) : evalV (guardEnv v w) (.v "suspended") = w.suspended := by
  simp [evalV, guardEnv]

theorem inst_tok (e : Env) (cn cl : CursorState) (l : List Tok) : (l.map Item.tok).flatMap (inst e cn cl) = l := by
  induction l with
  | nil => rfl
  | cons a rest ih => simp [List.flatMap_cons, inst, ih]

/-! `concW`, field by field.  Stated over a variable state: rewriting with these keeps `concW e w0 (interpS …)` folded, whereas unfolding `concW`
makes the kernel run the interpreter to reduce the projections. -/

theorem concW_wire (e : Env) (w0 : WSt) (s : SSt) : (concW e w0 s).wire = s.wire.flatMap (inst e w0.cn w0.cl) := rfl
theorem concW_buf (e : Env) (w0 : WSt) (s : SSt) : (concW e w0 s).buf = s.buf.flatMap (inst e w0.cn w0.cl) := rfl
theorem concW_suspended (e : Env) (w0 : WSt) (s : SSt) : (concW e w0 s).suspended = s.suspended := rfl
theorem concW_closed (e : Env) (w0 : WSt) (s : SSt) : (concW e w0 s).closed = s.closed := rfl
theorem concW_cnv (e : Env) (w0 : WSt) (s : SSt) : (concW e w0 s).cn.visible = s.cnv := rfl
theorem concW_clv (e : Env) (w0 : WSt) (s : SSt) : (concW e w0 s).cl.visible = s.clv := rfl

theorem concW_absW (e : Env) (w : WSt) : (concW e w (absW w)).wire = w.wire ∧ (concW e w (absW w)).buf = w.buf := by
  simp [concW, absW, inst_tok]

theorem interpS_call_table (v : String → Bool) (fuel : Nat) (f : String) (body rest : List S) (w : SSt)
    (hf : (f = "HideCursor") = False) (ht : table f = some body) :
    interpS v (fuel + 1) (.call .tt f :: rest) w = interpS v fuel rest (interpS v fuel body w) := by
  rw [interpS_cons]
  simp only [retTest, stepOne, hf, ht, evalV, if_false, Bool.false_eq_true, Bool.not_true]

theorem interpS_panic (v : String → Bool) (fuel : Nat) (rest : List S) (w : SSt) :
    interpS v (fuel + 1) (.other .tt "panic(err)" :: rest) w = interpS v fuel rest w :=
  interpS_inert v fuel _ rest w (by decide +kernel)

/-- The kill-signal arm `vx.Close(); return` is `Close`. -/
theorem signal_arm_close (v : String → Bool) (l : List S) (w : SSt) (hl : l = [.call .tt "Close", .other .tt "return"]) :
    interpS v 65 l w = interpS v 64 close w := by
  -- `l` is a regenerated list: the caller hands over the extractor fact that it is this literal
  subst hl
  rw [interpS_call_table v 64 "Close" close _ w (by decide) (by decide +kernel)]
  exact interpS_return v 63 _ _ _ _ (by decide +kernel) rfl

/-- The recover handler `vx.Close(); panic(err)` is `Close` as far as the terminal is concerned. -/
theorem recover_close (v : String → Bool) (l : List S) (w : SSt) (hl : l = [.call .tt "Close", .other .tt "panic(err)"]) :
    interpS v 65 l w = interpS v 64 close w := by
  subst hl
  rw [interpS_call_table v 64 "Close" close _ w (by decide) (by decide +kernel)]
  rw [interpS_panic]
  rfl

/-- The statement list starts — after inert statements (locks, hooks, logging, defers) — with a `return` guarded by
    exactly the flag `flag`. -/
def returnsEarly (flag : String) : List S → Bool
  | [] => false
  | .other g src :: rest =>
      if src.startsWith "return" then g == .v flag else inert (.other g src) && returnsEarly flag rest
  | s :: rest => inert s && returnsEarly flag rest

theorem interpS_returnsEarly (v : String → Bool) (flag : String) (w : SSt) (hw : guardEnv v w flag = true) :
    ∀ (l : List S) (fuel : Nat), returnsEarly flag l = true → l.length ≤ fuel → interpS v fuel l w = w := by
  intro l
  induction l with
  | nil => intro fuel h; cases h
  | cons s rest ih =>
    intro fuel h hlen
    obtain ⟨n, rfl⟩ : ∃ n, fuel = n + 1 := ⟨fuel - 1, by simp at hlen; omega⟩
    have hlen' : rest.length ≤ n := by simpa using hlen
    by_cases hr : ∃ g src, s = .other g src ∧ src.startsWith "return" = true
    · obtain ⟨g, src, rfl, hr⟩ := hr
      simp only [returnsEarly, hr, if_true, beq_iff_eq] at h
      subst h
      exact interpS_return v n _ _ _ w hr (by simpa [evalV] using hw)
    · have hi : inert s = true ∧ returnsEarly flag rest = true := by
        cases s <;> simp only [returnsEarly, Bool.and_eq_true] at h <;> first | exact h | skip
        rename_i g src
        have : ¬ src.startsWith "return" = true := fun hh => hr ⟨g, src, rfl, hh⟩
        simpa only [this, Bool.false_eq_true, if_false, Bool.and_eq_true] using h
      rw [interpS_inert v n s rest w hi.1]
      exact ih n hi.2 hlen'

/-- **Suspend while suspended** takes the early return: nothing is written, no state changes
    (the skeleton of the regenerated `Suspend` is checked by kernel evaluation). -/
theorem suspend_suspended (v : String → Bool) (w : SSt) (h : w.suspended = true) : interpS v 64 suspend w = w :=
  interpS_returnsEarly v "suspended" w (by simpa [guardEnv] using h) suspend 64 (by decide +kernel) (by decide +kernel)

/-- **Close when closed** takes the early return (after taking and releasing the lock). -/
theorem close_closed (v : String → Bool) (w : SSt) (h : w.closed = true) : interpS v 64 close w = w :=
  interpS_returnsEarly v "closed" w (by simpa [guardEnv] using h) close 64 (by decide +kernel) (by decide +kernel)

/-- Up to its `return` under the guard `expr:err != nil`, the statement list has no statement with output
    or with an effect on Vaxis's flags: locks, defers, statements without effect, `err := vx.openTty(tgts)`
    (which at most installs a new writer), calls of functions that write nothing; earlier returns under
    other guards may or may not be taken. -/
def quietUntilErr : List S → Bool
  | [] => false
  | .other g src :: rest =>
      if src.startsWith "return" then (g == .v "expr:err != nil") || quietUntilErr rest
      else (inert (.other g src) || src == "err := vx.openTty(tgts)") && quietUntilErr rest
  | s :: rest => inert s && quietUntilErr rest

def Quiet (w w' : SSt) : Prop := w'.wire = w.wire ∧ w'.buf = w.buf ∧ w'.suspended = w.suspended ∧ w'.closed = w.closed

theorem guardEnv_err (v : String → Bool) (w : SSt) : guardEnv v w "expr:err != nil" = v "expr:err != nil" := by
  have h1 : ("expr:err != nil" = "closed") = False := by decide
  have h2 : ("expr:err != nil" = "suspended") = False := by decide
  simp only [guardEnv, h1, h2, if_false]

theorem Quiet.refl (w : SSt) : Quiet w w := ⟨rfl, rfl, rfl, rfl⟩

theorem interpS_quietUntilErr (v : String → Bool) (w : SSt) (herr : v "expr:err != nil" = true) :
    ∀ (l : List S) (fuel : Nat), quietUntilErr l = true → l.length ≤ fuel → Quiet w (interpS v fuel l w) := by
  intro l
  induction l generalizing w with
  | nil => intro fuel h; cases h
  | cons s rest ih =>
    intro fuel h hlen
    obtain ⟨n, rfl⟩ : ∃ n, fuel = n + 1 := ⟨fuel - 1, by simp at hlen; omega⟩
    have hlen' : rest.length ≤ n := by simpa using hlen
    by_cases hi : inert s = true ∧ quietUntilErr rest = true
    · rw [interpS_inert v n s rest w hi.1]; exact ih w n hi.2 hlen'
    -- what is left: a `return`, or `openTty`
    obtain ⟨g, src, rfl⟩ : ∃ g src, s = .other g src := by
      cases s <;> first | exact ⟨_, _, rfl⟩ | exact absurd (by simpa only [quietUntilErr, Bool.and_eq_true] using h) hi
    simp only [quietUntilErr] at h
    by_cases hr : src.startsWith "return" = true
    · simp only [hr, if_true, Bool.or_eq_true, beq_iff_eq] at h
      by_cases hg : evalV (guardEnv v w) g = true
      · rw [interpS_return v n g src rest w hr hg]; exact Quiet.refl w
      · rcases h with h | h
        · subst h
          exact absurd (by simp [evalV, guardEnv_err, herr]) hg
        · -- a `return` that is not taken has no effect either
          have hg' : evalV (guardEnv v w) g = false := by simpa using hg
          rw [interpS_skip v n _ rest w (by simp only [retTest, hg', Bool.and_false])
            (by simp only [stepOne, hg', Bool.not_false, if_true])]
          exact ih w n h hlen'
    · simp only [hr, Bool.false_eq_true, if_false, Bool.and_eq_true, Bool.or_eq_true, beq_iff_eq] at h
      obtain ⟨hn | hn, hrest⟩ := h
      · exact absurd ⟨hn, hrest⟩ hi
      · -- `openTty` at most installs a new writer
        subst hn
        rw [interpS_cons, show retTest v (.other g "err := vx.openTty(tgts)") w = false by simp only [retTest, hr, Bool.false_and]]
        have e1 : ("err := vx.openTty(tgts)" = "_, col := vx.CursorPosition()") = False := by decide
        have e2 : ("err := vx.openTty(tgts)" = "vx.cursorLast.style = vx.userCursorStyle") = False := by decide
        simp only [stepOne, e1, e2, if_false, if_true, Bool.false_eq_true]
        split
        · exact ih w n hrest hlen'
        · have := ih { w with fresh := true } n hrest hlen'
          exact this

end VaxisModel.Lemmas.C04Interp
