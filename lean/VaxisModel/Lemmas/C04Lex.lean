/-
C04 — the lexer on the printed form of the run-time writes, for ALL values.

`Model.Lifecycle.itemsOf` maps the three run-time writes to tokens directly instead of lexing their
printed form.  Here the printed form of `tparm(kittyKBEnable, flags)` — `CSI > <decimal flags> u`, for
EVERY natural number — is taken through `String.toUTF8`, `Spec.Tokenize.tokens` and the hex encoding,
and shown to be exactly the token the model uses.
-/
import VaxisModel.Model.Lifecycle
import VaxisModel.Spec.Tokenize
import VaxisModel.Lemmas.ListBasic

namespace VaxisModel.Lemmas.C04Lex
open VaxisModel.Model.Lifecycle VaxisModel.Spec.Tokenize VaxisModel.Model.Render

theorem ba_size (bs : ByteArray) : bs.size = bs.data.toList.length := by
  rw [Array.length_toList]; rfl
theorem ba_loop (bs : ByteArray) (i : Nat) (r : List UInt8) :
    ByteArray.toList.loop bs i r = r.reverse ++ bs.data.toList.drop i := by
  fun_induction ByteArray.toList.loop bs i r with
  | case1 i r h ih =>
    rw [ih]
    have hi : i < bs.data.toList.length := by rw [← ba_size]; exact h
    rw [List.drop_eq_getElem_cons hi, List.reverse_cons, List.append_assoc]
    congr 1
    have hi' : i < bs.data.size := by rw [Array.length_toList] at hi; exact hi
    show bs.get! i :: _ = _
    congr 1
    show bs.data[i]! = bs.data.toList[i]
    rw [getElem!_pos bs.data i hi', Array.getElem_toList]
  | case2 i r h =>
    have : bs.data.toList.length ≤ i := by rw [← ba_size]; omega
    rw [List.drop_eq_nil_of_le this, List.append_nil]
theorem ba_toList (bs : ByteArray) : bs.toList = bs.data.toList := by
  simp [ByteArray.toList, ba_loop]
theorem toByteArray_toList (l : List UInt8) : l.toByteArray.toList = l := by
  rw [ba_toList, List.toList_data_toByteArray]

theorem encode_ascii (c : Char) (h : c.toNat < 128) : String.utf8EncodeChar c = [c.val.toUInt8] := by
  apply String.utf8EncodeChar_eq_singleton
  simp only [Char.utf8Size]
  have : c.val.toNat < 128 := h
  split
  · rfl
  · rename_i h1; exact absurd (by simp [UInt32.le_iff_toNat_le]; omega) h1

def bytesOfChars (cs : List Char) : List Nat := (cs.flatMap String.utf8EncodeChar).map (·.toNat)

theorem bytesOf_ofList (cs : List Char) : bytesOf (String.ofList cs) = bytesOfChars cs := by
  unfold bytesOf bytesOfChars
  rw [show (String.ofList cs).toUTF8 = cs.utf8Encode from String.toByteArray_ofList]
  unfold List.utf8Encode
  rw [toByteArray_toList]

theorem bytesOfChars_ascii (cs : List Char) (h : ∀ c ∈ cs, c.toNat < 128) : bytesOfChars cs = cs.map Char.toNat := by
  unfold bytesOfChars
  induction cs with
  | nil => rfl
  | cons c r ih =>
    have hc := h c (by simp)
    rw [List.flatMap_cons, encode_ascii c hc, List.map_append, ih (fun x hx => h x (by simp [hx]))]
    simp only [List.map_cons, List.map_nil, List.singleton_append, List.cons.injEq, and_true]
    show c.val.toUInt8.toNat = c.val.toNat
    have : c.val.toNat < 128 := hc
    rw [UInt32.toNat_toUInt8]
    omega

theorem bytesOf_ascii (cs : List Char) (h : ∀ c ∈ cs, c.toNat < 128) : bytesOf (String.ofList cs) = cs.map Char.toNat := by
  rw [bytesOf_ofList, bytesOfChars_ascii cs h]

theorem foldl_join_toList (g : Nat → String) (l : List Nat) (acc : String) :
    (List.foldl (fun r s => r ++ s) acc (l.map g)).toList = acc.toList ++ l.flatMap (fun b => (g b).toList) := by
  induction l generalizing acc with
  | nil => simp
  | cons b r ih => simp [List.foldl_cons, ih, String.toList_append, List.append_assoc]

theorem hexOfNat2_toList (b : Nat) : (VaxisModel.Driver.hexOfNat2 b).toList = [hexDigit (b / 16 % 16), hexDigit (b % 16)] := by
  simp [VaxisModel.Driver.hexOfNat2, hexDigit]

theorem hexOfBytes_toList (l : List Nat) (h : l ≠ []) : (VaxisModel.Spec.Tokenize.hexOfBytes l).toList = hexChars l := by
  have h1 : l.isEmpty = false := by cases l <;> simp_all
  simp only [VaxisModel.Spec.Tokenize.hexOfBytes, VaxisModel.Driver.hexOfBytes, h1, Bool.false_eq_true, if_false, String.join]
  rw [foldl_join_toList]
  simp [hexChars, hexOfNat2_toList]

theorem tokenize_nil (dict : List (List Nat)) (f : Nat) (acc : List Tok) : tokenize dict f [] acc = acc := by
  cases f <;> simp [tokenize]

/-- A CSI with private marker `>` (0x3E), decimal digits, final `u`: one `other` token with the raw bytes. -/
theorem lex_csi_gt_u (ds : List Nat) (h : ∀ d ∈ ds, 48 ≤ d ∧ d ≤ 57) :
    tokens [[32]] ([27, 91, 62] ++ ds ++ [117]) = [.other (VaxisModel.Spec.Tokenize.hexOfBytes ([27, 91, 62] ++ ds ++ [117]))] := by
  have hp : ∀ d ∈ ds, isParamByte d = true := by
    intro d hd; have := h d hd; simp [isParamByte]; omega
  have h1 := ListBasic.takeWhile_dropWhile_append_cons isParamByte ds 117 [] hp (by decide)
  simp only [tokens, List.cons_append, List.nil_append, List.length_cons]
  rw [tokenize]
  have hc : (60 ≤ 62 ∧ 62 ≤ 63) = True := by decide
  simp only [hc, if_true]
  rw [h1.1, h1.2]
  simp [List.takeWhile, List.dropWhile, isInterByte, tokenize_nil, csiTok]

theorem hexChars_append (a b : List Nat) : hexChars (a ++ b) = hexChars a ++ hexChars b := by
  simp [hexChars, List.flatMap_append]

def digitBytes (n : Nat) : List Nat := (Nat.toDigits 10 n).map Char.toNat

theorem digitBytes_range (n : Nat) : ∀ d ∈ digitBytes n, 48 ≤ d ∧ d ≤ 57 := by
  intro d hd
  simp only [digitBytes, List.mem_map] at hd
  obtain ⟨c, hc, rfl⟩ := hd
  have := Nat.isDigit_of_mem_toDigits (by decide) (by decide) hc
  simp only [Char.isDigit, Bool.and_eq_true, decide_eq_true_eq, ge_iff_le, UInt32.le_iff_toNat_le] at this
  exact ⟨this.1, this.2⟩

theorem digits_ascii (n : Nat) : ∀ c ∈ Nat.toDigits 10 n, c.toNat < 128 := by
  intro c hc
  have := digitBytes_range n c.toNat (by simp only [digitBytes, List.mem_map]; exact ⟨c, hc, rfl⟩)
  omega

theorem toString_nat (n : Nat) : toString n = String.ofList (Nat.toDigits 10 n) := by
  show n.repr = _
  rw [← String.toList_inj, Nat.toList_repr, String.toList_ofList]

theorem bytesOf_toString (n : Nat) : bytesOf (toString n) = digitBytes n := by
  rw [toString_nat, bytesOf_ascii _ (digits_ascii n)]; rfl

theorem bytesOfChars_append (a b : List Char) : bytesOfChars (a ++ b) = bytesOfChars a ++ bytesOfChars b := by
  simp [bytesOfChars, List.flatMap_append]

theorem bytesOfChars_toList (s : String) : bytesOfChars s.toList = bytesOf s := by
  rw [← bytesOf_ofList, String.ofList_toList]

theorem takeString_step (f b : Nat) (rest acc : List Nat) (h7 : b ≠ 7) (h27 : b ≠ 27) :
    takeString (f + 1) (b :: rest) acc = takeString f rest (acc ++ [b]) := by
  rw [takeString.eq_def]
  split <;> simp_all

theorem takeString_run (bs : List Nat) (h : ∀ b ∈ bs, b ≠ 7 ∧ b ≠ 27) (rest acc : List Nat) (n : Nat) :
    takeString (n + bs.length + 1) (bs ++ 27 :: 92 :: rest) acc = (acc ++ bs, rest) := by
  induction bs generalizing acc with
  | nil => simp [takeString]
  | cons b r ih =>
    have hb := h b (by simp)
    have e : n + (b :: r).length + 1 = (n + r.length + 1) + 1 := by simp; omega
    rw [e, List.cons_append, takeString_step _ _ _ _ hb.1 hb.2, ih (fun x hx => h x (by simp [hx]))]
    simp

theorem split_go_acc (sep : Nat) (bs cur : List Nat) (acc : List (List Nat)) :
    splitOnByte.go sep bs cur acc = acc ++ splitOnByte.go sep bs cur [] := by
  induction bs generalizing cur acc with
  | nil => simp [splitOnByte.go]
  | cons b r ih =>
    simp only [splitOnByte.go]
    split
    · rw [ih [] (acc ++ [cur]), ih [] ([] ++ [cur])]; simp
    · exact ih _ _

theorem split_go_ne_nil (sep : Nat) (bs cur : List Nat) : splitOnByte.go sep bs cur [] ≠ [] := by
  induction bs generalizing cur with
  | nil => simp [splitOnByte.go]
  | cons b r ih =>
    simp only [splitOnByte.go]
    split
    · rw [split_go_acc]; simp
    · exact ih _

/-- An OSC whose payload starts with `176;` is one `other` token with the raw bytes, whatever follows. -/
theorem oscTok_176 (bs : List Nat) (raw : List Nat) :
    oscTok ([49, 55, 54, 59] ++ bs) raw = .other (VaxisModel.Spec.Tokenize.hexOfBytes raw) := by
  have hs : splitOnByte 59 ([49, 55, 54, 59] ++ bs) = [49, 55, 54] :: splitOnByte.go 59 bs [] [] := by
    simp only [splitOnByte, List.cons_append, List.nil_append, splitOnByte.go]
    simp only [show (49 = 59) = False by decide, show (55 = 59) = False by decide, show (54 = 59) = False by decide, if_false, if_true]
    rw [split_go_acc]; rfl
  unfold oscTok
  rw [hs]
  have hne := split_go_ne_nil 59 bs []
  cases hg : splitOnByte.go 59 bs [] [] with
  | nil => exact absurd hg hne
  | cons x xs =>
    cases xs with
    | nil => simp
    | cons u more =>
      cases more with
      | nil => simp
      | cons m more' => simp

theorem lex_osc176 (bs : List Nat) (h : ∀ b ∈ bs, b ≠ 7 ∧ b ≠ 27) :
    tokens [[32]] ([27, 93, 49, 55, 54, 59] ++ bs ++ [27, 92]) =
      [.other (VaxisModel.Spec.Tokenize.hexOfBytes ([27, 93, 49, 55, 54, 59] ++ bs))] := by
  have h' : ∀ b ∈ [49, 55, 54, 59] ++ bs, b ≠ 7 ∧ b ≠ 27 := by
    intro b hb
    simp only [List.mem_append, List.mem_cons, List.mem_nil_iff, or_false] at hb
    rcases hb with (rfl | rfl | rfl | rfl) | hb
    · decide
    · decide
    · decide
    · decide
    · exact h b hb
  have ht := takeString_run ([49, 55, 54, 59] ++ bs) h' [] [] 2
  have e1 : [27, 93, 49, 55, 54, 59] ++ bs ++ [27, 92] = 27 :: 93 :: (([49, 55, 54, 59] ++ bs) ++ [27, 92]) := by simp
  rw [e1]
  simp only [tokens]
  rw [show (27 :: 93 :: (([49, 55, 54, 59] ++ bs) ++ [27, 92])).length + 1 = ((([49, 55, 54, 59] ++ bs) ++ [27, 92]).length + 2) + 1 by simp]
  rw [tokenize]
  have e2 : (([49, 55, 54, 59] ++ bs) ++ [27, 92]).length + 1 = 2 + ([49, 55, 54, 59] ++ bs).length + 1 := by simp; omega
  rw [e2, ht]
  simp only [List.nil_append, tokenize_nil, oscTok_176]
  simp

theorem parse_go_digits (cs : List Char) (h : ∀ c ∈ cs, c.isDigit = true) (cur : Nat) (sub : List Nat) (acc : List (List Nat)) :
    parseParams.go (cs.map Char.toNat) cur sub acc = acc ++ [sub ++ [Nat.ofDigitChars 10 cs cur]] := by
  induction cs generalizing cur with
  | nil => simp [parseParams.go]
  | cons c r ih =>
    have hc := h c (by simp)
    have hd : isDigit c.toNat = true := by
      simp only [Char.isDigit, Bool.and_eq_true, decide_eq_true_eq, ge_iff_le, UInt32.le_iff_toNat_le] at hc
      simp [isDigit]; exact ⟨hc.1, hc.2⟩
    simp only [List.map_cons, parseParams.go, hd, if_true]
    rw [ih (fun x hx => h x (by simp [hx])), Nat.ofDigitChars_cons]
    have e0 : '0'.toNat = 48 := by decide
    have e1 : cur * 10 + (c.toNat - 48) = 10 * cur + (c.toNat - '0'.toNat) := by rw [e0]; omega
    rw [e1]

theorem parseParams_digits (n : Nat) : parseParams (digitBytes n) = [[n]] := by
  have hne : (digitBytes n).isEmpty = false := by
    simp [digitBytes, Nat.toDigits_ne_nil]
  unfold parseParams
  simp only [hne, Bool.false_eq_true, if_false]
  rw [digitBytes, parse_go_digits _ (fun c hc => Nat.isDigit_of_mem_toDigits (by decide) (by decide) hc)]
  simp [Nat.ofDigitChars_toDigits]

theorem lex_csi_sp_q (n : Nat) :
    tokens [[32]] ([27, 91] ++ digitBytes n ++ [32, 113]) = [.cursorStyle n] := by
  have hr := digitBytes_range n
  have hp : ∀ d ∈ digitBytes n, isParamByte d = true := by
    intro d hd; have := hr d hd; simp [isParamByte]; omega
  have h1 := ListBasic.takeWhile_dropWhile_append_cons isParamByte (digitBytes n) 32 [113] hp (by decide)
  cases hds : digitBytes n with
  | nil => simp [digitBytes, Nat.toDigits_ne_nil] at hds
  | cons d ds' =>
    have hd := hr d (by rw [hds]; simp)
    rw [hds] at h1
    simp only [tokens, List.cons_append, List.nil_append, List.length_cons]
    rw [tokenize]
    have hc : (60 ≤ d ∧ d ≤ 63) = False := by simp; omega
    simp only [hc, if_false]
    rw [List.cons_append] at h1
    rw [h1.1, h1.2]
    have hpp : parseParams (d :: ds') = [[n]] := by rw [← hds]; exact parseParams_digits n
    simp [List.takeWhile, List.dropWhile, isInterByte, tokenize_nil, csiTok, hpp]

end VaxisModel.Lemmas.C04Lex
