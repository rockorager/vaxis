/-
C04 — the lifecycle interpreter run for ALL guard assignments at once.

Whatever depends on the assignment is a bit mask: a `Nat` whose bit `m` is the value under assignment `m`
(`m < N`).  An item is written under a mask, the six flags of the writer state are masks, and a function
that may have returned early under some assignments carries the mask `live` of those under which it is
still running.  `proj m` reads a masked state at bit `m`; `interpM_sound` says that this is the state
`interpS` computes under the guard values of assignment `m` — for every family of guard values `vm`, fuel,
statement list and state.  So one evaluation of `interpM` stands for `N` evaluations of `interpS`.
-/
import VaxisModel.Lemmas.C04Interp

namespace VaxisModel.Lemmas.C04Mask
open VaxisModel.Model.Lifecycle VaxisModel.Model.Render VaxisModel.Gen.Modes VaxisModel.Lemmas.C04Interp

def N : Nat := 512

def full : Nat := 2 ^ N - 1

def diff (a b : Nat) : Nat := a ^^^ (a &&& b)

def clearM (a : Nat) : Nat := diff full a

def maskFrom (p : Nat → Bool) : Nat → Nat → Nat
  | _, 0 => 0
  | s, n + 1 => 2 * maskFrom p (s + 1) n + (if p s then 1 else 0)

def maskOf (p : Nat → Bool) : Nat := maskFrom p 0 N

variable {m : Nat}

theorem testBit_full (hm : m < N) : full.testBit m = true := by
  simp only [full, Nat.testBit_two_pow_sub_one, hm, decide_true]

theorem testBit_diff (a b : Nat) : (diff a b).testBit m = (a.testBit m && !b.testBit m) := by
  simp only [diff, Nat.testBit_xor, Nat.testBit_and]
  cases a.testBit m <;> cases b.testBit m <;> rfl

theorem testBit_clearM (hm : m < N) (a : Nat) : (clearM a).testBit m = !a.testBit m := by
  simp only [clearM, testBit_diff, testBit_full hm, Bool.true_and]

theorem testBit_maskFrom (p : Nat → Bool) (n s i : Nat) (h : i < n) : (maskFrom p s n).testBit i = p (s + i) := by
  induction n generalizing s i with
  | zero => omega
  | succ n ih =>
    rw [maskFrom]
    cases i with
    | zero =>
      simp only [Nat.testBit_zero, Nat.add_zero]
      cases p s <;> simp <;> omega
    | succ i =>
      have : (2 * maskFrom p (s + 1) n + (if p s = true then 1 else 0)) / 2 = maskFrom p (s + 1) n := by
        split <;> omega
      rw [Nat.testBit_succ, this, ih (s + 1) i (by omega)]
      congr 1; omega

theorem testBit_maskOf (p : Nat → Bool) (hm : m < N) : (maskOf p).testBit m = p m := by
  rw [maskOf, testBit_maskFrom p N 0 m hm, Nat.zero_add]

/-- The entries present under assignment `m`. -/
def sel {α : Type} (m : Nat) (l : List (Nat × α)) : List α := (l.filter fun x => x.1.testBit m).map (·.2)

def restrict {α : Type} (M : Nat) (l : List (Nat × α)) : List (Nat × α) := l.map fun x => (x.1 &&& M, x.2)

def under {α : Type} (M : Nat) (l : List α) : List (Nat × α) := l.map fun a => (M, a)

def anyMask {α : Type} (l : List (Nat × α)) : Nat := l.foldr (fun x a => x.1 ||| a) 0

theorem sel_nil {α : Type} : sel m ([] : List (Nat × α)) = [] := rfl

theorem sel_append {α : Type} (a b : List (Nat × α)) : sel m (a ++ b) = sel m a ++ sel m b := by
  simp [sel]

theorem sel_cons {α : Type} (M : Nat) (a : α) (l : List (Nat × α)) :
    sel m ((M, a) :: l) = (if M.testBit m then [a] else []) ++ sel m l := by
  simp only [sel, List.filter_cons]; split <;> rfl

theorem sel_under {α : Type} (M : Nat) (l : List α) : sel m (under M l) = if M.testBit m then l else [] := by
  cases hM : M.testBit m <;> simp [sel, under, List.filter_map, Function.comp_def, hM]

theorem sel_restrict {α : Type} (M : Nat) (l : List (Nat × α)) : sel m (restrict M l) = if M.testBit m then sel m l else [] := by
  cases hM : M.testBit m <;> simp [sel, restrict, List.filter_map, Function.comp_def, Nat.testBit_and, hM]

theorem testBit_anyMask {α : Type} (l : List (Nat × α)) : (anyMask l).testBit m = !(sel m l).isEmpty := by
  induction l with
  | nil => simp [anyMask, sel]
  | cons x r ih =>
    obtain ⟨M, a⟩ := x
    simp only [anyMask, List.foldr_cons, Nat.testBit_or] at ih ⊢
    rw [ih, sel_cons]
    cases M.testBit m <;> simp

structure MSt where
  buf : List (Nat × Item) := []
  wire : List (Nat × Item) := []
  cnv : Nat := 0
  clv : Nat := 0
  clUser : Nat := 0
  suspended : Nat := 0
  closed : Nat := 0
  fresh : Nat := full

def proj (m : Nat) (w : MSt) : SSt :=
  { buf := sel m w.buf, wire := sel m w.wire, cnv := w.cnv.testBit m, clv := w.clv.testBit m, clUser := w.clUser.testBit m,
    suspended := w.suspended.testBit m, closed := w.closed.testBit m, fresh := w.fresh.testBit m }

/-- Where guard `g` holds: `vm n` is the mask of variable `n`; the two flags are read from the state (`guardEnv`). -/
def gm (vm : String → Nat) (w : MSt) : G → Nat
  | .tt => full
  | .v n => if n = "closed" then w.closed else if n = "suspended" then w.suspended else vm n
  | .not g => clearM (gm vm w g)
  | .and a b => gm vm w a &&& gm vm w b
  | .or a b => gm vm w a ||| gm vm w b

/-- `doFlushS` where `A` holds.  `b1`, `b2`, `b3` are its three branches (new writer / nothing buffered / otherwise);
    under one assignment at most one of them holds, so their items may be listed one after the other. -/
def doFlushM (sync A : Nat) (w : MSt) : MSt :=
  let b1 := A &&& w.fresh
  let b2 := diff (diff A w.fresh) (anyMask w.buf)
  let b3 := diff A w.fresh &&& anyMask w.buf
  let b13 := b1 ||| b3
  { w with
    wire := w.wire ++ [(b3 &&& w.clv, .tok (Tok.decrst 25)), (b3 &&& sync, .tok (Tok.decset 2026)),
                       (diff b2 w.cnv &&& w.clv, .tok (Tok.decrst 25)),
                       (b2 &&& w.cnv &&& w.clUser, Item.cursorOnly true), (diff (b2 &&& w.cnv) w.clUser, Item.cursorOnly false)] ++
            restrict b13 w.buf ++
            [(b13, .tok (Tok.sgr [])), (b13 &&& w.cnv &&& w.clv, Item.showCursor), (b13 &&& sync, .tok (Tok.decrst 2026))]
    buf := restrict (clearM b13) w.buf
    fresh := diff w.fresh b1 }

/-- `retTest`: where the statement is a `return` that is taken. -/
def retM (vm : String → Nat) (s : S) (w : MSt) : Nat :=
  match s with
  | .other g src => if src.startsWith "return" then gm vm w g else 0
  | _ => 0

/-- `stepOne` where `A` holds; `call` interprets the body of a called function. -/
def stepOneM (vm : String → Nat) (call : List S → Nat → MSt → MSt) (A : Nat) (s : S) (w : MSt) : MSt :=
  match s with
  | .write g x => { w with buf := w.buf ++ under (A &&& gm vm w g) (itemsOf x) }
  | .writeF g x => { w with buf := w.buf ++ under (A &&& gm vm w g) (itemsOf x) }
  | .direct g x => { w with wire := w.wire ++ under (A &&& gm vm w g) (itemsOf x) }
  | .flush g => doFlushM (vm "caps.synchronizedUpdate") (A &&& gm vm w g) w
  | .call g f =>
      if f = "HideCursor" then { w with cnv := diff w.cnv (A &&& gm vm w g) }
      else match table f with
        | some body => call body (A &&& gm vm w g) w
        | none => w
  | .deferCall _ => w
  | .other g src =>
      let B := A &&& gm vm w g
      if src = "_, col := vx.CursorPosition()" then { w with wire := w.wire ++ under B ((toksOf "\x1b[6n").map .tok) }
      else if src = "vx.cursorLast.style = vx.userCursorStyle" then { w with clUser := w.clUser ||| B }
      else if src = "err := vx.openTty(tgts)" then { w with fresh := w.fresh ||| B }
      else if src = "vx.suspended = true" then { w with suspended := w.suspended ||| B }
      else if src = "vx.suspended = false" then { w with suspended := diff w.suspended B }
      else if src = "vx.closed = true" then { w with closed := w.closed ||| B }
      else w

/-- `interpS` for all assignments at once; `live` = the assignments under which the function is running
    (and has not returned). -/
def interpM (vm : String → Nat) : Nat → List S → Nat → MSt → MSt
  | 0, _, _, w => w
  | _ + 1, [], _, w => w
  | fuel + 1, s :: rest, live, w =>
    let live' := diff live (retM vm s w)
    interpM vm fuel rest live' (stepOneM vm (interpM vm fuel) live' s w)

/-! Every masked operation `opM B` changes the state under the assignments of `B` as the operation does and
leaves it alone under the others: `proj m (opM B w) = if B.testBit m then op (proj m w) else proj m w`. -/

theorem proj_buf (B : Nat) (w : MSt) (l : List Item) :
    proj m { w with buf := w.buf ++ under B l } = if B.testBit m then { proj m w with buf := (proj m w).buf ++ l } else proj m w := by
  cases hB : B.testBit m <;> simp [proj, sel_append, sel_under, hB]

theorem proj_wire (B : Nat) (w : MSt) (l : List Item) :
    proj m { w with wire := w.wire ++ under B l } = if B.testBit m then { proj m w with wire := (proj m w).wire ++ l } else proj m w := by
  cases hB : B.testBit m <;> simp [proj, sel_append, sel_under, hB]

theorem proj_cnv (B : Nat) (w : MSt) :
    proj m { w with cnv := diff w.cnv B } = if B.testBit m then { proj m w with cnv := false } else proj m w := by
  cases hB : B.testBit m <;> simp [proj, testBit_diff, hB]

theorem proj_clUser (B : Nat) (w : MSt) :
    proj m { w with clUser := w.clUser ||| B } = if B.testBit m then { proj m w with clUser := true } else proj m w := by
  cases hB : B.testBit m <;> simp [proj, Nat.testBit_or, hB]

theorem proj_fresh (B : Nat) (w : MSt) :
    proj m { w with fresh := w.fresh ||| B } = if B.testBit m then { proj m w with fresh := true } else proj m w := by
  cases hB : B.testBit m <;> simp [proj, Nat.testBit_or, hB]

theorem proj_suspend (B : Nat) (w : MSt) :
    proj m { w with suspended := w.suspended ||| B } = if B.testBit m then { proj m w with suspended := true } else proj m w := by
  cases hB : B.testBit m <;> simp [proj, Nat.testBit_or, hB]

theorem proj_resume (B : Nat) (w : MSt) :
    proj m { w with suspended := diff w.suspended B } = if B.testBit m then { proj m w with suspended := false } else proj m w := by
  cases hB : B.testBit m <;> simp [proj, testBit_diff, hB]

theorem proj_close (B : Nat) (w : MSt) :
    proj m { w with closed := w.closed ||| B } = if B.testBit m then { proj m w with closed := true } else proj m w := by
  cases hB : B.testBit m <;> simp [proj, Nat.testBit_or, hB]

attribute [local simp] sel_nil sel_append sel_cons sel_restrict Nat.testBit_and Nat.testBit_or testBit_diff in
theorem doFlushM_sound (hm : m < N) (sync A : Nat) (w : MSt) :
    proj m (doFlushM sync A w) = if A.testBit m then doFlushS (sync.testBit m) (proj m w) else proj m w := by
  have hE : (anyMask w.buf).testBit m = !(sel m w.buf).isEmpty := testBit_anyMask w.buf
  cases hA : A.testBit m
  · simp [doFlushM, clearM, proj, testBit_full hm, hA]
  cases hF : w.fresh.testBit m
  · -- a used writer: nothing buffered, or the ordinary group
    cases hb : (sel m w.buf).isEmpty
    · cases hn : w.cnv.testBit m <;> cases hl : w.clv.testBit m <;> cases hs : sync.testBit m <;>
        simp [doFlushM, clearM, doFlushS, proj, testBit_full hm, hE, hA, hF, hb, hn, hl, hs]
    · cases hn : w.cnv.testBit m <;> cases hl : w.clv.testBit m <;> cases hu : w.clUser.testBit m <;>
        simp [doFlushM, clearM, doFlushS, proj, testBit_full hm, hE, hA, hF, hn, hl, hu, List.isEmpty_iff.mp hb]
  · -- a new writer
    cases hn : w.cnv.testBit m <;> cases hl : w.clv.testBit m <;> cases hs : sync.testBit m <;>
      simp [doFlushM, clearM, doFlushS, proj, testBit_full hm, hE, hA, hF, hn, hl, hs]

section sound
-- `vm` is the family of guard values, `v` its member `m`
variable {vm : String → Nat} {v : String → Bool} (hm : m < N) (hv : ∀ n, (vm n).testBit m = v n)
include hm hv

theorem testBit_gm (w : MSt) (g : G) : (gm vm w g).testBit m = evalV (guardEnv v (proj m w)) g := by
  induction g with
  | tt => simp [gm, evalV, testBit_full hm]
  | v n => simp only [gm, evalV, guardEnv, proj]; split; rfl; split; rfl; exact hv n
  | not g ih => simp [gm, evalV, testBit_clearM hm, ih]
  | and a b iha ihb => simp [gm, evalV, Nat.testBit_and, iha, ihb]
  | or a b iha ihb => simp [gm, evalV, Nat.testBit_or, iha, ihb]

theorem testBit_retM (s : S) (w : MSt) : (retM vm s w).testBit m = retTest v s (proj m w) := by
  cases s <;> simp only [retM, retTest, Nat.zero_testBit]
  split <;> simp [testBit_gm hm hv, *]

omit hm hv in
theorem ite_and {α : Type} (a g : Bool) (x y : α) : (if (a && g) = true then x else y) = if a = true then (if g = true then x else y) else y := by
  cases a <;> cases g <;> rfl

theorem stepOneM_sound (call : List S → Nat → MSt → MSt) (fuel : Nat)
    (hc : ∀ l B w, proj m (call l B w) = if B.testBit m then interpS v fuel l (proj m w) else proj m w)
    (A : Nat) (s : S) (w : MSt) :
    proj m (stepOneM vm call A s w) = if A.testBit m then stepOne v fuel s (proj m w) else proj m w := by
  have hg := testBit_gm hm hv w
  cases s with
  | write g x => simp only [stepOneM, stepOne, proj_buf, Nat.testBit_and, hg, ite_and]
  | writeF g x => simp only [stepOneM, stepOne, proj_buf, Nat.testBit_and, hg, ite_and]
  | direct g x => simp only [stepOneM, stepOne, proj_wire, Nat.testBit_and, hg, ite_and]
  | flush g =>
    have hs : guardEnv v (proj m w) "caps.synchronizedUpdate" = (vm "caps.synchronizedUpdate").testBit m := by
      simp [guardEnv, hv]
    simp only [stepOneM, stepOne, doFlushM_sound hm, Nat.testBit_and, hg, ite_and, hs]
  | deferCall f => simp only [stepOneM, stepOne, ite_self]
  | call g f =>
    simp only [stepOneM, stepOne]
    by_cases hf : f = "HideCursor"
    · simp only [hf, if_true, proj_cnv, Nat.testBit_and, hg, ite_and]
      cases evalV (guardEnv v (proj m w)) g <;> rfl
    · simp only [hf, if_false]
      cases table f with
      | none => simp only [ite_self]
      | some body =>
        simp only [hc, Nat.testBit_and, hg, ite_and]
        cases evalV (guardEnv v (proj m w)) g <;> rfl
  | other g src =>
    simp only [stepOneM, stepOne, apply_ite (proj m), proj_wire, proj_clUser, proj_fresh, proj_suspend, proj_resume, proj_close,
      Nat.testBit_and, hg]
    cases evalV (guardEnv v (proj m w)) g <;> cases A.testBit m <;>
      simp only [Bool.and_false, Bool.and_true, Bool.not_false, Bool.not_true, Bool.false_eq_true, if_false, if_true, ite_self]

theorem interpM_sound : ∀ (fuel : Nat) (l : List S) (live : Nat) (w : MSt),
    proj m (interpM vm fuel l live w) = if live.testBit m then interpS v fuel l (proj m w) else proj m w := by
  intro fuel
  induction fuel with
  | zero => intro l live w; simp [interpM, interpS]
  | succ fuel ih =>
    intro l live w
    cases l with
    | nil => simp [interpM, interpS]
    | cons s rest =>
      rw [interpM, interpS_cons, ih, stepOneM_sound hm hv _ fuel ih, testBit_diff, testBit_retM hm hv]
      cases live.testBit m <;> cases retTest v s (proj m w) <;> rfl

end sound

end VaxisModel.Lemmas.C04Mask
