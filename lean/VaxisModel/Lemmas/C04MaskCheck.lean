/-
C04 — the checkers of `C04SymCheck`, `C04PriorCheck` and `C04StartFail` for ALL guard assignments at once.

Every checker `x` has a masked counterpart `xM`, the mask of the assignments under which it holds
(`(xM …).testBit m = x m …`, conjunct by conjunct).  `evalM` is the conjunction of all of them, so its bit `m` is
`allB m && priorB m && failB m`; `evalM_full` — the one evaluation by the kernel — says that every bit is set.
The masked checkers have no `sameStatic` conjunct: what a terminal implements is never written by a run, so it is
the same under every assignment as in `T0` (`Static`) and is supplied when a bit is read.
-/
import VaxisModel.Lemmas.C04MaskTerm
import VaxisModel.Lemmas.C04PriorCheck
import VaxisModel.Lemmas.C04StartFail

namespace VaxisModel.Lemmas.C04Mask
open VaxisModel.Model.Lifecycle VaxisModel.Model.Render VaxisModel.Gen.Modes VaxisModel.Spec.ModeTerm
open VaxisModel.Lemmas.C04Check VaxisModel.Lemmas.C04Sym VaxisModel.Lemmas.C04SymCheck

variable {m : Nat}

def emptyM {α : Type} (l : List (Nat × α)) : Nat := clearM (anyMask l)

/-- Without the entries present under no assignment (`sel` does not see them). -/
def dropAbsent {α : Type} (l : List (Nat × α)) : List (Nat × α) := l.filter fun x => x.1 != 0

/-- Where two masked lists are the same list.  They usually are under every assignment, because they are equal
    entry by entry; only otherwise is each assignment looked at. -/
def sameSel {α : Type} [BEq α] (a b : List (Nat × α)) : Nat :=
  if dropAbsent a == dropAbsent b then full else maskOf fun m => sel m a == sel m b

/-- Where two values agree (`seen`: the assignments decided by earlier entries of `a`). -/
def eqField {α : Type} [BEq α] [Inhabited α] : List (Nat × α) → List (Nat × α) → Nat → Nat
  | [], b, seen => diff (whereEq default b 0) seen
  | (K, x) :: r, b, seen => (diff K seen &&& whereEq x b 0) ||| eqField r b (seen ||| K)

theorem testBit_emptyM {α : Type} (hm : m < N) (l : List (Nat × α)) : (emptyM l).testBit m = (sel m l).isEmpty := by
  simp [emptyM, testBit_clearM hm, testBit_anyMask]

theorem testBit_whereEq0 {α : Type} [BEq α] [Inhabited α] (hm : m < N) (x : α) (l : List (Nat × α)) :
    (whereEq x l 0).testBit m = (get m l == x) := by
  simp [testBit_whereEq x hm]

theorem sel_dropAbsent {α : Type} (l : List (Nat × α)) : sel m (dropAbsent l) = sel m l := by
  induction l with
  | nil => rfl
  | cons a r ih =>
    simp only [sel, dropAbsent, List.filter_cons] at ih ⊢
    by_cases h0 : a.1 = 0 <;> cases hb : a.1.testBit m <;> simp_all

theorem testBit_sameSel {α : Type} [BEq α] [LawfulBEq α] (hm : m < N) (a b : List (Nat × α)) :
    (sameSel a b).testBit m = (sel m a == sel m b) := by
  unfold sameSel
  split
  · rename_i h
    rw [testBit_full hm, ← sel_dropAbsent a, ← sel_dropAbsent b, eq_of_beq h, beq_self_eq_true]
  · exact testBit_maskOf _ hm

theorem testBit_eqField {α : Type} [BEq α] [LawfulBEq α] [Inhabited α] (hm : m < N) (b : List (Nat × α)) :
    ∀ (a : List (Nat × α)) (seen : Nat), (eqField a b seen).testBit m = (!seen.testBit m && get m a == get m b) := by
  intro a
  induction a with
  | nil =>
    intro seen
    simp only [eqField, testBit_diff, testBit_whereEq0 hm, get]
    cases seen.testBit m <;> simp [BEq.comm]
  | cons x r ih =>
    intro seen
    obtain ⟨K, y⟩ := x
    simp only [eqField, Nat.testBit_or, Nat.testBit_and, testBit_diff, testBit_whereEq0 hm, ih, get_cons]
    cases K.testBit m <;> cases seen.testBit m <;> simp [BEq.comm]

/-- Where guard variable `n` is true (`C04Check.envOf`: bit `i` of the assignment number is `vars[i]`). -/
def varMask (n : String) : Nat :=
  match vars.idxOf? n with
  | some i => maskOf fun m => (m / 2 ^ i) % 2 == 1
  | none => 0

theorem testBit_varMask (hm : m < N) (n : String) : (varMask n).testBit m = vOf m n := by
  simp only [varMask, vOf, envOf]
  cases vars.idxOf? n with
  | none => simp
  | some i => simp only [testBit_maskOf _ hm]

def T0 : TermM :=
  { sup := [(varMask "caps.synchronizedUpdate", 2026), (varMask "caps.unicodeCore", 2027), (varMask "caps.colorThemeUpdates", 2031),
            (varMask "caps.inBandResize", 2048), (varMask "caps.sixels", 8452)]
    kittySupported := varMask "caps.kittyKeyboard", appIdSupported := varMask "caps.osc176" }

def T0U (a k : Bool) : TermM :=
  { T0 with cursorVisible := [(full, none)], alt := [(full, a)], keypadApp := [(full, k)], pointer := [(full, .any)], penClean := [(full, none)],
            sync := [(supM T0 2026, none), (full, some false)] }

def genM (T : TermM) : TermM :=
  { T with cursorVisible := [(full, none)], cursorShape := [(full, .any)], pointer := [(full, .any)], penClean := [(full, none)],
           sync := (supM T 2026, none) :: T.sync, appId := (T.appIdSupported, .any) :: T.appId }

theorem Static.run {A B : TermM} (h : Static A B) (l : List (Nat × Item)) : Static (runM A l) B := (runM_static l A).trans h
theorem Static.gen {A B : TermM} (h : Static A B) : Static (genM A) B := ⟨h.sup, h.kitty, h.appId⟩
theorem static_T0U (a k : Bool) : Static (T0U a k) T0 := ⟨rfl, rfl, rfl⟩

theorem sameStatic_projT {A B : TermM} (h : Static A B) : sameStatic (projT m A) (projT m B) = true := by
  simp [sameStatic, projT, h.sup, h.kitty, h.appId]

theorem projT_T0 (hm : m < N) : projT m T0 = sT0 m := by
  simp only [projT, T0, sT0, t0Of, sel_cons, sel_nil, testBit_varMask hm, get_cons, testBit_full hm, if_true, vOf, Nat.zero_testBit,
    List.append_nil, List.append_assoc]

theorem sameStatic_sT0 (hm : m < N) {T : TermM} (hs : Static T T0) : sameStatic (projT m T) (sT0 m) = true := by
  rw [← projT_T0 hm]; exact sameStatic_projT hs

theorem projT_T0U (hm : m < N) (a k : Bool) : projT m (T0U a k) = sT0U m a k := by
  rw [sT0U, ← projT_T0 hm]
  by_cases h : 2026 ∈ sel m T0.sup <;>
    simp [projT, T0U, get_cons, testBit_full hm, testBit_supM, h]

theorem projT_genM (hm : m < N) (T : TermM) : projT m (genM T) = gen (projT m T) := by
  by_cases h1 : 2026 ∈ sel m T.sup <;> cases h2 : T.appIdSupported.testBit m <;>
    simp [projT, genM, gen, get_cons, testBit_full hm, testBit_supM, h1, h2]

def modesResetM (l : List (Nat × (Nat × Bool))) : Nat := emptyM (l.filter fun x => x.2.2)

def restoredM (T : TermM) : Nat :=
  clearM T.poison &&& modesResetM T.modes &&& whereEq (some true) T.cursorVisible 0 &&& whereEq false T.alt 0 &&&
  whereEq 0 T.kitty 0 &&& whereEq false T.keypadApp 0 &&& whereEq .user T.cursorShape 0 &&& whereEq .prior T.appId 0 &&&
  whereEq (.known "74657874") T.pointer 0 &&& whereEq (some true) T.penClean 0 &&& whereEq (some false) T.linkOpen 0 &&&
  whereEq (some false) T.sync 0

def leM (A B : TermM) : Nat :=
  clearM A.poison &&& sameSel A.modes B.modes &&& (whereEq none B.cursorVisible 0 ||| eqField A.cursorVisible B.cursorVisible 0) &&&
  eqField A.alt B.alt 0 &&& eqField A.kitty B.kitty 0 &&& eqField A.keypadApp B.keypadApp 0 &&&
  (whereEq .any B.cursorShape 0 ||| eqField A.cursorShape B.cursorShape 0) &&&
  (whereEq .any B.appId 0 ||| eqField A.appId B.appId 0) &&& (whereEq .any B.pointer 0 ||| eqField A.pointer B.pointer 0) &&&
  (whereEq none B.penClean 0 ||| eqField A.penClean B.penClean 0) &&& (whereEq none B.linkOpen 0 ||| eqField A.linkOpen B.linkOpen 0) &&&
  (whereEq none B.sync 0 ||| eqField A.sync B.sync 0)

theorem testBit_modesResetM (hm : m < N) (l : List (Nat × (Nat × Bool))) :
    (modesResetM l).testBit m = (sel m l).all fun x => x.2 == false := by
  rw [modesResetM, testBit_emptyM hm]
  induction l with
  | nil => rfl
  | cons a r ih =>
    obtain ⟨K, n, v⟩ := a
    simp only [List.filter_cons, sel_cons] at ih ⊢
    cases v <;> cases hK : K.testBit m <;> simp_all [sel_cons]

theorem testBit_restoredM (hm : m < N) {T : TermM} (hs : Static T T0) : (restoredM T).testBit m = restoredS m (projT m T) := by
  simp only [restoredM, restoredS, sameStatic_sT0 hm hs, Nat.testBit_and, testBit_clearM hm, testBit_modesResetM hm, testBit_whereEq0 hm,
    Bool.and_true, beq_false]
  rfl

theorem testBit_leM (hm : m < N) {A B : TermM} (hs : Static A B) : (leM A B).testBit m = leS (projT m A) (projT m B) := by
  simp only [leM, leS, sameStatic_projT hs, Nat.testBit_and, Nat.testBit_or, testBit_clearM hm, testBit_sameSel hm,
    testBit_whereEq0 hm, testBit_eqField hm, Nat.zero_testBit, Bool.not_false, Bool.true_and, Bool.and_true]
  rfl

theorem proj_init (hm : m < N) : proj m {} = {} := by
  simp [proj, sel, testBit_full hm]

theorem proj_wire_eq (w : MSt) : (proj m w).wire = sel m w.wire := rfl

theorem interpM_full (hm : m < N) (l : List S) (w : MSt) :
    interpS (vOf m) 64 l (proj m w) = proj m (interpM varMask 64 l full w) := by
  rw [interpM_sound hm (testBit_varMask hm), testBit_full hm, if_pos rfl]

def callM (f : String) (w : MSt) : MSt :=
  if f = "openTty" then { w with fresh := full }
  else if f = "sendQueries" then interpM (fun _ => 0) 64 exitAltScreen full (interpM (fun _ => 0) 64 sendQueries full w)
  else match table f with
    | some body => interpM varMask 64 body full w
    | none => w

def startupM : MSt := newCalls.foldl (fun w f => callM f w) {}

def startupFailM (exit : String) : List (String × String × List String) → MSt → MSt
  | [], w => w
  | (kind, name, calls) :: rest, w =>
    if kind = "err" then
      (if name = exit then calls.foldl (fun w f => callM f w) w else startupFailM exit rest w)
    else startupFailM exit rest (callM name w)

theorem callM_sound (hm : m < N) (f : String) (w : MSt) : proj m (callM f w) = callS (vOf m) f (proj m w) := by
  unfold callM callS
  split
  · simp [proj, testBit_full hm]
  split
  · simp only [sendQueriesS]
    rw [interpM_sound hm (v := fun _ => false) (by simp), interpM_sound hm (v := fun _ => false) (by simp)]
    simp [testBit_full hm]
  cases table f with
  | none => rfl
  | some body => simp only [interpM_full hm]

theorem foldl_callM (hm : m < N) (l : List String) : ∀ (w : MSt),
    proj m (l.foldl (fun w f => callM f w) w) = l.foldl (fun w f => callS (vOf m) f w) (proj m w) := by
  induction l with
  | nil => intro w; rfl
  | cons f r ih => intro w; simp only [List.foldl_cons, ih, callM_sound hm]

theorem proj_startupM (hm : m < N) : proj m startupM = startupS (vOf m) := by
  have := foldl_callM hm newCalls {}
  rwa [proj_init hm] at this

theorem proj_startupFailM (hm : m < N) (exit : String) (l : List (String × String × List String)) :
    ∀ (w : MSt), proj m (startupFailM exit l w) = startupFailS (vOf m) exit l (proj m w) := by
  induction l with
  | nil => intro w; rfl
  | cons a r ih =>
    intro w
    obtain ⟨kind, name, calls⟩ := a
    simp only [startupFailM, startupFailS]
    split
    · split
      · exact foldl_callM hm calls w
      · exact ih w
    · rw [ih, callM_sound hm]

def WrunM (cnv clv : Bool) : MSt := { cnv := if cnv then full else 0, clv := if clv then full else 0, fresh := 0 }

theorem proj_WrunM (hm : m < N) (cnv clv : Bool) : Wrun cnv clv = proj m (WrunM cnv clv) := by
  cases cnv <;> cases clv <;> simp [proj, WrunM, Wrun, sel, testBit_full hm]

theorem proj_cleared (w : MSt) : { proj m w with wire := [], clUser := false } = proj m { w with wire := [], clUser := 0 } := by
  simp [proj, sel]

def idleM (s : MSt) (sus : Bool) : Nat :=
  emptyM s.buf &&& (if sus then s.suspended else clearM s.suspended) &&& clearM s.closed &&& clearM s.fresh

def startM (s1 : MSt) (t1 : TermM) : Nat :=
  idleM s1 false &&& clearM t1.poison &&& whereEq (some false) t1.linkOpen 0

def cycleChkM (g : TermM) (s2 : MSt) (r2 : TermM) (s3 : MSt) (r3 : TermM) (s4 s5 : MSt) : Nat :=
  idleM s2 true &&& restoredM r2 &&& idleM s3 false &&& leM r3 g &&&
  sameSel s4.wire s2.wire &&& s4.closed &&& emptyM s5.wire &&& s5.closed

def cycleM (g : TermM) (cnv clv : Bool) : Nat :=
  let s2 := interpM varMask 64 suspend full (WrunM cnv clv)
  let r2 := runM g s2.wire
  let s3 := interpM varMask 64 resume full { s2 with wire := [], clUser := 0 }
  cycleChkM g s2 r2 s3 (runM r2 s3.wire) (interpM varMask 64 close full (WrunM cnv clv))
    (interpM varMask 64 close full { s2 with wire := [], clUser := 0 })

def priorM (wire : List (Nat × Item)) (g : TermM) : Nat :=
  leM (runM (T0U false false) wire) g &&& leM (runM (T0U false true) wire) g &&&
  leM (runM (T0U true false) wire) g &&& leM (runM (T0U true true) wire) g

def failM (s : MSt) : Nat := emptyM s.buf &&& s.closed &&& restoredM (runM T0 s.wire)

theorem testBit_idleM (hm : m < N) (s : MSt) (sus : Bool) : (idleM s sus).testBit m = idleS (proj m s) sus := by
  have hs : (proj m s).suspended = s.suspended.testBit m := rfl
  cases sus <;> simp only [idleM, idleS, hs, Nat.testBit_and, testBit_emptyM hm, testBit_clearM hm, if_true, Bool.false_eq_true, if_false] <;>
    cases s.suspended.testBit m <;> rfl

theorem testBit_startM (hm : m < N) (s1 : MSt) {t1 : TermM} (hs : Static t1 T0) :
    (startM s1 t1).testBit m = startOf m (proj m s1) (projT m t1) := by
  simp only [startM, startOf, sameStatic_sT0 hm hs, Nat.testBit_and, testBit_idleM hm, testBit_clearM hm, testBit_whereEq0 hm, Bool.and_true]
  rfl

theorem testBit_cycleChkM (hm : m < N) {g r2 r3 : TermM} (h2 : Static r2 T0) (h3 : Static r3 g) (s2 s3 s4 s5 : MSt) :
    (cycleChkM g s2 r2 s3 r3 s4 s5).testBit m =
      cycleChk m (projT m g) (proj m s2) (projT m r2) (proj m s3) (projT m r3) (proj m s4) (proj m s5) := by
  simp only [cycleChkM, cycleChk, Nat.testBit_and, testBit_idleM hm, testBit_emptyM hm,
    testBit_sameSel hm, testBit_restoredM hm h2, testBit_leM hm h3]
  rfl

theorem testBit_cycleM (hm : m < N) {g : TermM} (hs : Static g T0) (cnv clv : Bool) :
    (cycleM g cnv clv).testBit m = cycleOf m (projT m g) cnv clv := by
  simp only [cycleOf, susS, susNext, proj_WrunM hm, interpM_full hm, proj_cleared, proj_wire_eq, ← runM_sound hm]
  exact testBit_cycleChkM hm (hs.run _) (((hs.run _).run _).trans hs.symm) _ _ _ _

theorem testBit_priorM (hm : m < N) (wire : List (Nat × Item)) {g : TermM} (hs : Static g T0) :
    (priorM wire g).testBit m = priorOf m (sel m wire) (projT m g) := by
  simp only [priorM, priorOf, List.all_cons, List.all_nil, Bool.and_true, Nat.testBit_and, ← projT_T0U hm, ← runM_sound hm,
    testBit_leM hm (((static_T0U _ _).run _).trans hs.symm), Bool.and_assoc]

theorem testBit_failM (hm : m < N) (s : MSt) : (failM s).testBit m = failOf m (proj m s) := by
  simp only [failM, failOf, Nat.testBit_and, testBit_emptyM hm, testBit_restoredM hm ((Static.refl T0).run _), runM_sound hm, projT_T0 hm, proj]

/-- Every checker on the states start-up (`s1`) and the failing start-up (`f`) leave. -/
def evalOn (s1 f : MSt) : Nat :=
  let t1 := runM T0 s1.wire
  let g := genM t1
  startM s1 t1 &&& cycleM g false false &&& cycleM g false true &&& cycleM g true false &&& cycleM g true true &&&
  priorM s1.wire g &&& failM f

def evalM : Nat := evalOn startupM (startupFailM "vx.reportWinsize" newSequence {})

/-- Over variable states: with `startupM` in their place the elaborator evaluates the masked runs while it unifies. -/
theorem testBit_evalOn (hm : m < N) (s1 f : MSt) :
    (evalOn s1 f).testBit m =
      let t1 := runS (sT0 m) (proj m s1).wire
      (startOf m (proj m s1) t1 && cycleOf m (gen t1) false false && cycleOf m (gen t1) false true && cycleOf m (gen t1) true false &&
        cycleOf m (gen t1) true true && priorOf m (proj m s1).wire (gen t1) && failOf m (proj m f)) := by
  have ht : Static (runM T0 s1.wire) T0 := (Static.refl T0).run _
  simp only [evalOn, Nat.testBit_and, testBit_startM hm _ ht, testBit_cycleM hm ht.gen, testBit_priorM hm _ ht.gen, testBit_failM hm,
    projT_genM hm, runM_sound hm, projT_T0 hm, proj_wire_eq]

theorem testBit_evalM (hm : m < N) : evalM.testBit m = (allB m && priorB m && failB m) := by
  rw [evalM, testBit_evalOn hm, proj_startupM hm, proj_startupFailM hm, proj_init hm]
  simp only [allB, startB, cycleB, priorB, failB, C04SymCheck.G, established, Bool.and_assoc]

/-- The kernel interprets start-up, the failing start-up and Suspend / Resume / Close (from the four cursor states)
    on masks, runs what they wrote on the masked terminal (from `T0` and the four unknown prior states) and finds
    every bit of every checker's mask set. -/
theorem evalM_full : evalM = full := by decide +kernel

theorem evalM_sound {m : Nat} (hm : m < N) : allB m = true ∧ priorB m = true ∧ failB m = true := by
  have := testBit_evalM hm
  rw [evalM_full, testBit_full hm] at this
  simpa [Bool.and_eq_true, and_assoc] using this.symm

end VaxisModel.Lemmas.C04Mask
