/-
C04 — the symbolic mode terminal of `C04Sym` run for ALL guard assignments at once (cf. `C04Mask`).

A field of the terminal is a list of (mask, value) read by first match: `get m l` is the value of the first
entry whose mask has bit `m`, so "the field becomes `x` where `M` holds" is `(M, x) :: l`.  The mode table is
a list of (mask, (mode, value)) in the order of `STerm.modes`: `setMode` where `M` holds puts `(M, (n, v))`
in front and takes `M` away from the older entries for `n`, and `sel m` gives back the table of assignment
`m`, order included.  What the terminal implements is masked as well.  `runM_sound`: the masked run of a
masked wire, read at bit `m`, is `runS` on the wire of assignment `m`.
-/
import VaxisModel.Lemmas.C04Mask
import VaxisModel.Lemmas.C04Sym

namespace VaxisModel.Lemmas.C04Mask
open VaxisModel.Model.Lifecycle VaxisModel.Model.Render VaxisModel.Spec.ModeTerm VaxisModel.Lemmas.C04Sym

variable {m : Nat}

def get {α : Type} [Inhabited α] (m : Nat) : List (Nat × α) → α
  | [] => default
  | (K, x) :: r => if K.testBit m then x else get m r

/-- Where the value is `x` (`seen`: the assignments decided by earlier entries). -/
def whereEq {α : Type} [BEq α] [Inhabited α] (x : α) : List (Nat × α) → Nat → Nat
  | [], seen => if default == x then clearM seen else 0
  | (K, y) :: r, seen => (if y == x then diff K seen else 0) ||| whereEq x r (seen ||| K)

/-- Apply `f` to the value where `P` holds (the last entry: where no entry is present the value is `default`). -/
def mapWhere {α : Type} [Inhabited α] (P : Nat) (f : α → α) (l : List (Nat × α)) : List (Nat × α) :=
  (l.flatMap fun x => [(x.1 &&& P, f x.2), x]) ++ [(P, f default)]

theorem get_cons {α : Type} [Inhabited α] (K : Nat) (x : α) (r : List (Nat × α)) :
    get m ((K, x) :: r) = if K.testBit m then x else get m r := rfl

theorem testBit_whereEq {α : Type} [BEq α] [Inhabited α] (x : α) (hm : m < N) :
    ∀ (l : List (Nat × α)) (seen : Nat), (whereEq x l seen).testBit m = (!seen.testBit m && get m l == x) := by
  intro l
  induction l with
  | nil =>
    intro seen
    simp only [whereEq, get]
    split <;> simp_all [testBit_clearM hm]
  | cons a r ih =>
    intro seen
    obtain ⟨K, y⟩ := a
    simp only [whereEq, Nat.testBit_or, ih, get_cons]
    cases hK : K.testBit m <;> cases hs : seen.testBit m <;> cases hy : y == x <;> simp [testBit_diff, hK, hs, hy]

theorem get_mapWhere {α : Type} [Inhabited α] (P : Nat) (f : α → α) (l : List (Nat × α)) :
    get m (mapWhere P f l) = if P.testBit m then f (get m l) else get m l := by
  induction l with
  | nil => simp [mapWhere, get]
  | cons a r ih =>
    obtain ⟨K, y⟩ := a
    simp only [mapWhere, List.flatMap_cons, List.cons_append, List.nil_append, get_cons, Nat.testBit_and] at ih ⊢
    cases hK : K.testBit m <;> cases hP : P.testBit m <;> simp_all

/-- `STerm` for all assignments; the defaults are `STerm`'s. -/
structure TermM where
  sup : List (Nat × Nat) := []            -- (mask, mode): the terminal implements the mode where the mask holds
  modes : List (Nat × (Nat × Bool)) := []
  cursorVisible : List (Nat × Option Bool) := [(full, some true)]
  alt : List (Nat × Bool) := [(full, false)]
  kittySupported : Nat := 0
  kitty : List (Nat × Nat) := [(full, 0)]
  keypadApp : List (Nat × Bool) := [(full, false)]
  cursorShape : List (Nat × SShape) := [(full, .user)]
  appIdSupported : Nat := 0
  appId : List (Nat × SAppId) := [(full, .prior)]
  pointer : List (Nat × SPtr) := [(full, .known "74657874")]
  penClean : List (Nat × Option Bool) := [(full, some true)]
  linkOpen : List (Nat × Option Bool) := [(full, some false)]
  sync : List (Nat × Option Bool) := [(full, some false)]
  poison : Nat := 0

def projT (m : Nat) (T : TermM) : STerm :=
  { supported := sel m T.sup, modes := sel m T.modes, cursorVisible := get m T.cursorVisible, alt := get m T.alt,
    kittySupported := T.kittySupported.testBit m, kitty := get m T.kitty, keypadApp := get m T.keypadApp,
    cursorShape := get m T.cursorShape, appIdSupported := T.appIdSupported.testBit m, appId := get m T.appId,
    pointer := get m T.pointer, penClean := get m T.penClean, linkOpen := get m T.linkOpen, sync := get m T.sync,
    poison := T.poison.testBit m }

def supM (T : TermM) (n : Nat) : Nat := anyMask (T.sup.filter fun x => x.2 == n)

def setModeM (l : List (Nat × (Nat × Bool))) (M n : Nat) (v : Bool) : List (Nat × (Nat × Bool)) :=
  (M, (n, v)) :: l.map fun x => if x.2.1 = n then (diff x.1 M, x.2) else x

def decModeM (T : TermM) (M n : Nat) (v : Bool) : TermM :=
  if n = 25 then { T with cursorVisible := (M, some v) :: T.cursorVisible }
  else if n = 1049 then { T with alt := (M, v) :: T.alt }
  else if n = 2026 then { T with sync := (M &&& supM T 2026, some v) :: T.sync }
  else { T with modes := setModeM T.modes (if baseline.contains n then M else M &&& supM T n) n v }

def otherM (T : TermM) (M : Nat) (raw : String) : TermM :=
  match otherKind raw with
  | .keypad b => { T with keypadApp := (M, b) :: T.keypadApp }
  | .kittyPop =>
    let P := M &&& T.kittySupported
    let Z := whereEq 0 T.kitty 0
    { T with poison := T.poison ||| (P &&& Z), kitty := mapWhere (diff P Z) (· - 1) T.kitty }
  | .kittyPush => { T with kitty := mapWhere (M &&& T.kittySupported) (· + 1) T.kitty }
  | .appIdSet hex => { T with appId := (M &&& T.appIdSupported, .known hex) :: T.appId }
  | .neutral => T

def stepTokM (T : TermM) (M : Nat) : Tok → TermM
  | .decset n => decModeM T M n true
  | .decrst n => decModeM T M n false
  | .cursorStyle n => { T with cursorShape := (M, .known n) :: T.cursorShape }
  | .pointer s => { T with pointer := (M, .known s) :: T.pointer }
  | .sgr ps => { T with penClean := (M, some (decide (ps.isEmpty ∨ ps = [[0]]))) :: T.penClean }
  | .osc8 _ u => { T with linkOpen := (M, some (decide (u ≠ ""))) :: T.linkOpen }
  | .other raw => otherM T M raw
  | _ => T

def stepM (T : TermM) (x : Nat × Item) : TermM :=
  match x.2 with
  | .tok k => stepTokM T x.1 k
  | .kittyPush => { T with kitty := mapWhere (x.1 &&& T.kittySupported) (· + 1) T.kitty }
  | .userStyle => { T with cursorShape := (x.1, .user) :: T.cursorShape }
  | .appIdRestore => { T with appId := (x.1 &&& T.appIdSupported, .prior) :: T.appId }
  | .showCursor => { T with cursorShape := (x.1, .app) :: T.cursorShape, cursorVisible := (x.1, some true) :: T.cursorVisible }
  | .cursorOnly _ => { T with poison := T.poison ||| x.1 }
  | .opaqueW _ => { T with poison := T.poison ||| x.1 }

def runM (T : TermM) (items : List (Nat × Item)) : TermM := items.foldl stepM T

theorem testBit_supM (T : TermM) (n : Nat) : (supM T n).testBit m = (sel m T.sup).contains n := by
  rw [supM, testBit_anyMask]
  induction T.sup with
  | nil => rfl
  | cons x r ih =>
    obtain ⟨K, k⟩ := x
    simp only [List.filter_cons, sel_cons, List.contains_append] at ih ⊢
    by_cases hk : k = n
    · subst hk; cases hK : K.testBit m <;> simp_all [sel_cons]
    · have : (n == k) = false := beq_false_of_ne (Ne.symm hk)
      cases hK : K.testBit m <;> simp_all

theorem sel_setModeM (l : List (Nat × (Nat × Bool))) (M n : Nat) (v : Bool) :
    sel m (setModeM l M n v) = if M.testBit m then setMode (sel m l) n v else sel m l := by
  have h : sel m (l.map fun x => if x.2.1 = n then (diff x.1 M, x.2) else x) =
      if M.testBit m then (sel m l).filter (·.1 ≠ n) else sel m l := by
    induction l with
    | nil => simp [sel]
    | cons a r ih =>
      simp only [sel, List.map_cons, List.filter_cons] at ih ⊢
      by_cases ha : a.2.1 = n <;> cases hM : M.testBit m <;> cases hb : a.1.testBit m <;> simp_all [testBit_diff]
  rw [setModeM, sel_cons, h]
  cases M.testBit m <;> simp [setMode]

theorem decModeM_sound (T : TermM) (M n : Nat) (v : Bool) :
    projT m (decModeM T M n v) = if M.testBit m then decModeS (projT m T) n v else projT m T := by
  unfold decModeM decModeS
  split
  · cases hM : M.testBit m <;> simp [projT, get_cons, hM]
  split
  · cases hM : M.testBit m <;> simp [projT, get_cons, hM]
  split
  · by_cases hs : 2026 ∈ sel m T.sup <;> cases hM : M.testBit m <;>
      simp [projT, get_cons, hM, Nat.testBit_and, testBit_supM, hs]
  · simp only [projT, sel_setModeM]
    by_cases hb : n ∈ baseline
    · cases hM : M.testBit m <;> simp [hb, hM]
    · by_cases hs : n ∈ sel m T.sup <;> cases hM : M.testBit m <;>
        simp [hb, hM, Nat.testBit_and, testBit_supM, hs]

theorem otherM_sound (hm : m < N) (T : TermM) (M : Nat) (raw : String) :
    projT m (otherM T M raw) = if M.testBit m then otherS (projT m T) raw else projT m T := by
  rw [otherM, otherS_eq]
  cases otherKind raw with
  | keypad b => cases hM : M.testBit m <;> simp [projT, get_cons, hM]
  | kittyPop =>
    have hZ := testBit_whereEq 0 hm T.kitty 0
    cases hM : M.testBit m <;> cases hk : T.kittySupported.testBit m <;> by_cases h0 : get m T.kitty = 0 <;>
      simp_all [projT, get_mapWhere, Nat.testBit_and, Nat.testBit_or, testBit_diff]
  | kittyPush =>
    cases hM : M.testBit m <;> cases hk : T.kittySupported.testBit m <;> simp [projT, get_mapWhere, hM, hk, Nat.testBit_and]
  | appIdSet hex =>
    cases hM : M.testBit m <;> cases hk : T.appIdSupported.testBit m <;> simp [projT, get_cons, hM, hk, Nat.testBit_and]
  | neutral => simp

theorem stepTokM_sound (hm : m < N) (T : TermM) (M : Nat) (k : Tok) :
    projT m (stepTokM T M k) = if M.testBit m then stepTokS (projT m T) k else projT m T := by
  cases k with
  | decset n => exact decModeM_sound T M n true
  | decrst n => exact decModeM_sound T M n false
  | other raw => exact otherM_sound hm T M raw
  | cursorStyle n => cases hM : M.testBit m <;> simp [stepTokM, stepTokS, projT, get_cons, hM]
  | pointer n => cases hM : M.testBit m <;> simp [stepTokM, stepTokS, projT, get_cons, hM]
  | sgr n => cases hM : M.testBit m <;> simp [stepTokM, stepTokS, projT, get_cons, hM]
  | osc8 p u => cases hM : M.testBit m <;> simp [stepTokM, stepTokS, projT, get_cons, hM]
  | cup _ _ => simp [stepTokM, stepTokS]
  | text _ => simp [stepTokM, stepTokS]
  | textW _ _ => simp [stepTokM, stepTokS]

theorem stepM_sound (hm : m < N) (T : TermM) (x : Nat × Item) :
    projT m (stepM T x) = if x.1.testBit m then stepS (projT m T) x.2 else projT m T := by
  obtain ⟨M, it⟩ := x
  cases it with
  | tok k => exact stepTokM_sound hm T M k
  | kittyPush =>
    cases hM : M.testBit m <;> cases hk : T.kittySupported.testBit m <;>
      simp [stepM, stepS, projT, get_mapWhere, hM, hk, Nat.testBit_and]
  | userStyle => cases hM : M.testBit m <;> simp [stepM, stepS, projT, get_cons, hM]
  | appIdRestore =>
    cases hM : M.testBit m <;> cases hk : T.appIdSupported.testBit m <;>
      simp [stepM, stepS, projT, get_cons, hM, hk, Nat.testBit_and]
  | showCursor => cases hM : M.testBit m <;> simp [stepM, stepS, projT, get_cons, hM]
  | cursorOnly b => cases hM : M.testBit m <;> simp [stepM, stepS, projT, hM, Nat.testBit_or]
  | opaqueW w => cases hM : M.testBit m <;> simp [stepM, stepS, projT, hM, Nat.testBit_or]

theorem runM_sound (hm : m < N) (items : List (Nat × Item)) :
    ∀ (T : TermM), projT m (runM T items) = runS (projT m T) (sel m items) := by
  induction items with
  | nil => intro T; rfl
  | cons x r ih =>
    intro T
    obtain ⟨M, it⟩ := x
    simp only [runM, List.foldl_cons] at ih ⊢
    rw [ih, stepM_sound hm, sel_cons]
    cases M.testBit m <;> rfl

/-- The two terminals implement the same modes and protocols. -/
structure Static (A B : TermM) : Prop where
  sup : A.sup = B.sup
  kitty : A.kittySupported = B.kittySupported
  appId : A.appIdSupported = B.appIdSupported

theorem Static.refl (A : TermM) : Static A A := ⟨rfl, rfl, rfl⟩
theorem Static.symm {A B : TermM} (h : Static A B) : Static B A := ⟨h.sup.symm, h.kitty.symm, h.appId.symm⟩
theorem Static.trans {A B C : TermM} (h : Static A B) (h' : Static B C) : Static A C :=
  ⟨h.sup.trans h'.sup, h.kitty.trans h'.kitty, h.appId.trans h'.appId⟩

theorem stepM_static (T : TermM) (x : Nat × Item) : Static (stepM T x) T := by
  obtain ⟨M, it⟩ := x
  cases it with
  | tok k => cases k <;> simp only [stepM, stepTokM, decModeM, otherM] <;> (repeat' split) <;> exact ⟨rfl, rfl, rfl⟩
  | _ => exact ⟨rfl, rfl, rfl⟩

theorem runM_static (items : List (Nat × Item)) : ∀ (T : TermM), Static (runM T items) T := by
  induction items with
  | nil => exact Static.refl
  | cons x r ih => exact fun T => (ih (stepM T x)).trans (stepM_static T x)

end VaxisModel.Lemmas.C04Mask
