/-
C04 — the prior MODE TABLE of the terminal is arbitrary.

The session theorems of `C04Session` start from a terminal whose mode table is empty (every private
mode reset).  A real terminal may have any mode set before Vaxis starts (the user's shell, a
multiplexer).  `withPrior P t` is the terminal `t` with the entries of an arbitrary prior table `P`
behind its own entries (an entry of `P` is visible exactly for the modes `t`'s table does not
mention).  Every token commutes with it (`step_withPrior`), hence whole sessions do
(`runOps_withPrior`, `shutdown_withPrior`): the session on the terminal with prior table `P` is the
session on the terminal with the empty table, with `P` shining through for every mode the session
never wrote.  So: a mode Vaxis wrote at any time ends RESET (whatever it was before), a mode Vaxis never
wrote keeps its prior value — `modeVal_withPrior`.
-/
import VaxisModel.Lemmas.C04Session
import VaxisModel.Lemmas.C04PriorCheck

namespace VaxisModel.Lemmas.C04Prior
open VaxisModel.Model.Lifecycle VaxisModel.Model.Render VaxisModel.Spec.ModeTerm
open VaxisModel.Lemmas.C04Sym VaxisModel.Lemmas.C04SymCheck VaxisModel.Lemmas.C04Session

/-- The table mentions mode `n`. -/
def hasKey (ms : List (Nat × Bool)) (n : Nat) : Bool := ms.any (fun x => x.1 == n)

/-- The entries of the prior table `P` for modes the table `ms` does not mention. -/
def rest (P ms : List (Nat × Bool)) : List (Nat × Bool) := P.filter (fun x => !hasKey ms x.1)

/-- `t` with the prior table `P` behind its own table. -/
def withPrior (P : List (Nat × Bool)) (t : MTerm) : MTerm := { t with modes := t.modes ++ rest P t.modes }

theorem hasKey_eq_isSome (ms : List (Nat × Bool)) (n : Nat) : hasKey ms n = (ms.find? (fun x => x.1 == n)).isSome := by
  rw [Bool.eq_iff_iff, List.find?_isSome]
  simp [hasKey]

theorem rest_nil (P : List (Nat × Bool)) : rest P [] = P := by
  simp [rest, hasKey]

theorem withPrior_self (t : MTerm) : withPrior t.modes { t with modes := [] } = t := by
  simp [withPrior, rest_nil]

theorem hasKey_setMode (ms : List (Nat × Bool)) (n : Nat) (v : Bool) (k : Nat) :
    hasKey (setMode ms n v) k = (k == n || hasKey ms k) := by
  simp only [hasKey, setMode, List.any_cons, List.any_filter]
  by_cases hk : k = n
  · subst hk; simp
  · have h1 : (n == k) = false := by simp; omega
    have h2 : (k == n) = false := by simp [hk]
    rw [h1, h2, Bool.false_or, Bool.false_or]
    congr 1
    funext x
    by_cases hx : x.1 = k
    · simp [hx, hk]
    · simp [hx]

theorem setMode_withPrior (P A : List (Nat × Bool)) (n : Nat) (v : Bool) :
    setMode (A ++ rest P A) n v = setMode A n v ++ rest P (setMode A n v) := by
  simp only [setMode, List.filter_append, List.cons_append, List.cons.injEq, true_and, List.append_cancel_left_eq]
  show List.filter _ (rest P A) = rest P (setMode A n v)
  simp only [rest, List.filter_filter]
  apply List.filter_congr
  intro x _
  rw [hasKey_setMode]
  by_cases hx : x.1 = n
  · simp [hx]
  · simp [hx]

theorem decMode_withPrior (P : List (Nat × Bool)) (t : MTerm) (n : Nat) (v : Bool) :
    decMode (withPrior P t) n v = withPrior P (decMode t n v) := by
  by_cases h1 : n = 25
  · simp [decMode, h1, withPrior]
  by_cases h2 : n = 1049
  · simp [decMode, h2, withPrior]
  by_cases h3 : n = 2026
  · by_cases hs : 2026 ∈ t.supported <;> simp [decMode, h3, withPrior, hs]
  by_cases h4 : baseline.contains n = true ∨ t.supported.contains n = true
  · have : decMode t n v = { t with modes := setMode t.modes n v } := by simp only [decMode, h1, h2, h3, h4, if_false, if_true]
    rw [this]
    have : decMode (withPrior P t) n v = { withPrior P t with modes := setMode (withPrior P t).modes n v } := by
      have h4' : baseline.contains n = true ∨ (withPrior P t).supported.contains n = true := h4
      simp only [decMode, h1, h2, h3, h4', if_false, if_true]
    rw [this]
    simp only [withPrior]
    rw [setMode_withPrior]
  · have : decMode t n v = t := by simp only [decMode, h1, h2, h3, h4, if_false]
    rw [this]
    have h4' : ¬ (baseline.contains n = true ∨ (withPrior P t).supported.contains n = true) := h4
    simp only [decMode, h1, h2, h3, h4', if_false]

theorem other_withPrior (P : List (Nat × Bool)) (t : MTerm) (raw : String) :
    other (withPrior P t) raw = withPrior P (other t raw) := by
  rw [other_eq, other_eq]
  cases otherKind raw <;> simp only [apply_ite (withPrior P)] <;> rfl

theorem step_withPrior (P : List (Nat × Bool)) (t : MTerm) (k : Tok) :
    step (withPrior P t) k = withPrior P (step t k) := by
  cases k with
  | decset n => exact decMode_withPrior P t n true
  | decrst n => exact decMode_withPrior P t n false
  | other raw => exact other_withPrior P t raw
  | _ => rfl

theorem run_withPrior (P : List (Nat × Bool)) (toks : List Tok) (t : MTerm) :
    run (withPrior P t) toks = withPrior P (run t toks) := by
  induction toks generalizing t with
  | nil => rfl
  | cons k ks ih =>
    simp only [run, List.foldl_cons] at ih ⊢
    rw [step_withPrior]; exact ih _

/-- A session state on the terminal with prior table `P`. -/
def sessPrior (P : List (Nat × Bool)) (s : Sess) : Sess := { w := s.w, t := withPrior P s.t }

theorem applyOp_withPrior (e : Env) (P : List (Nat × Bool)) (s : Sess) (op : Op) :
    applyOp e (sessPrior P s) op = sessPrior P (applyOp e s op) := by
  cases op with
  | frame toks => by_cases hs : s.w.suspended = true <;> simp [applyOp, sessPrior, hs, run_withPrior]
  | cursor cn cl => by_cases hs : s.w.suspended = true <;> simp [applyOp, sessPrior, hs]
  | setAppId id => by_cases hs : s.w.suspended = true <;> simp [applyOp, sessPrior, hs, step_withPrior]
  | suspend => simp only [applyOp, sessPrior, run_withPrior]
  | resume => by_cases hs : s.w.suspended = true <;> simp [applyOp, sessPrior, hs, run_withPrior]

theorem runOps_withPrior (e : Env) (P : List (Nat × Bool)) (ops : List Op) (s : Sess) :
    runOps e (sessPrior P s) ops = sessPrior P (runOps e s ops) := by
  induction ops generalizing s with
  | nil => rfl
  | cons op rest ih =>
    simp only [runOps, List.foldl_cons] at ih ⊢
    rw [applyOp_withPrior]; exact ih _

theorem start_withPrior (e : Env) (P : List (Nat × Bool)) (t : MTerm) :
    start e (withPrior P t) = sessPrior P (start e t) := by
  simp only [start, sessPrior, run_withPrior]

theorem shutdown_withPrior (e : Env) (P : List (Nat × Bool)) (s : Sess) :
    shutdown e (sessPrior P s) = sessPrior P (shutdown e s) := by
  simp only [shutdown, sessPrior, run_withPrior]

private theorem find?_congr' {α : Type} (l : List α) (p q : α → Bool) (h : ∀ x ∈ l, p x = q x) : l.find? p = l.find? q := by
  induction l with
  | nil => rfl
  | cons a rest ih =>
    simp only [List.find?_cons, h a (by simp)]
    rw [ih (fun x hx => h x (by simp [hx]))]

theorem modeVal_withPrior (P : List (Nat × Bool)) (t : MTerm) (n : Nat) :
    modeVal (withPrior P t) n = if hasKey t.modes n then modeVal t n else modeVal { t with modes := P } n := by
  unfold modeVal withPrior
  simp only [List.find?_append, hasKey_eq_isSome]
  cases hf : t.modes.find? (fun x => x.1 == n) with
  | some y => simp
  | none =>
    have : (rest P t.modes).find? (fun x => x.1 == n) = P.find? (fun x => x.1 == n) := by
      simp only [rest, List.find?_filter]
      apply find?_congr'
      intro x _
      by_cases hxn : x.1 = n
      · simp [hxn, hasKey_eq_isSome, hf]
      · simp [hxn]
    simp [this]

theorem modeVal_of_all_false (t : MTerm) (h : (t.modes.all fun (_, v) => v == false) = true) (n : Nat) : modeVal t n = false := by
  unfold modeVal
  cases hf : t.modes.find? (fun x => x.1 == n) with
  | none => rfl
  | some y =>
    have hy := List.mem_of_find?_eq_some hf
    rw [List.all_eq_true] at h
    have := h y hy
    obtain ⟨a, b⟩ := y
    simpa using this

/-- What is assumed of the terminal before Vaxis starts — and nothing else: it implements what it
    advertises, answers the two queries with its current cursor style and application id, its kitty
    keyboard stack has some depth `k0`, no hyperlink is open, and a terminal that does not implement
    synchronized-update has no such flag set.  The mode table, cursor visibility, active screen,
    keypad mode, pointer shape and pen are ARBITRARY. -/
structure PriorOK (m : Nat) (e : Env) (k0 : Nat) (p : MTerm) : Prop where
  supported : p.supported = (sT0 m).supported
  kittySupported : p.kittySupported = (sT0 m).kittySupported
  appIdSupported : p.appIdSupported = (sT0 m).appIdSupported
  kitty : p.kitty = k0
  appId : p.appId = appIdHex e.appId
  shape : p.cursorShape = e.userCursorStyle
  link : p.linkOpen = false
  sync : (sT0 m).supported.contains 2026 = false → p.sync = false

variable {e : Env} {cn : CursorState} {k0 : Nat}

theorem rel_prior {m : Nat} {p : MTerm} (hp : PriorOK m e k0 p) (hm : p.modes = []) :
    Rel e cn k0 (sT0U m p.alt p.keypadApp) p where
  supported := hp.supported
  modes := by rw [hm]; rfl
  cursorVisible := by intro b hb; simp [sT0U] at hb
  alt := rfl
  kittySupported := hp.kittySupported
  kitty := by rw [hp.kitty]; simp [sT0U, sT0]
  keypadApp := rfl
  cursorShape := hp.shape
  appIdSupported := hp.appIdSupported
  appId := hp.appId
  pointer := by simp [sT0U]
  penClean := by intro b hb; simp [sT0U] at hb
  linkOpen := by intro b hb; simp [sT0U, sT0] at hb; rw [hb]; exact hp.link
  sync := by
    intro b hb
    simp only [sT0U] at hb
    split at hb
    · cases hb
    · rename_i hs
      cases hb
      exact hp.sync (by simpa using hs)

theorem priorB_le {m : Nat} (h : priorB m = true) (a k : Bool) :
    leS (runS (sT0U m a k) (startupS (vOf m)).wire) (G m) = true := by
  exact List.all_eq_true.mp h (a, k) (by cases a <;> cases k <;> simp)

theorem start_inv_prior {m : Nat} (F : Facts m) (hv : e.v = vOf m) (hq : SettableId e.appId) (hB : priorB m = true)
    {p : MTerm} (hp : PriorOK m e k0 p) (hm : p.modes = []) : Inv m e k0 (start e p) := by
  have f := F.start
  have hle := priorB_le hB p.alt p.keypadApp
  have h := runS_sound (e := e) (cn := ({} : WSt).cn) (k0 := k0) ({} : WSt).cl hq (startupS (vOf m)).wire
    (rel_prior hp hm) (leS_poison hle)
  refine .inl ⟨?_, fun cn => ?_⟩
  · simp only [start, startupW, hv]; exact Idle.conc f.idle e _
  · simp only [start, startupW, C04Interp.concW_wire, hv]
    exact rel_cn (by simp [G, gen]) (rel_le hle h)

end VaxisModel.Lemmas.C04Prior
