/-
C04 — arbitrary PRIOR values of the terminal.

`C04SymCheck.sT0 m` is the terminal before Vaxis starts with everything at its reset value; here the prior
state is *unknown* (`sT0U`).  `priorB m` — which holds for every guard assignment (`C04Mask.evalM_full`) — says
that start-up from every such prior state establishes the SAME running invariant `G m` that the session
induction of `C04Session` uses: so everything proved about sessions holds from every prior state.  The prior
MODE TABLE is handled separately, for every table, by the lifting of `C04Prior` (`withPrior`).
-/
import VaxisModel.Lemmas.C04SymCheck

namespace VaxisModel.Lemmas.C04SymCheck
open VaxisModel.Model.Lifecycle VaxisModel.Model.Render VaxisModel.Spec.ModeTerm VaxisModel.Lemmas.C04Check VaxisModel.Lemmas.C04Sym

/-- The terminal before Vaxis starts with UNKNOWN prior values: alternate screen `a`, keypad
    application mode `k`; cursor visibility, pointer shape and pen unknown; synchronized-update unknown
    where the terminal implements it (a terminal that does not implement mode 2026 has no such flag);
    no hyperlink open.  Cursor shape / application id / kitty keyboard stack are the symbols `user` /
    `prior` / depth 0 above `k0`, as in `sT0`. -/
def sT0U (m : Nat) (a k : Bool) : STerm :=
  { sT0 m with cursorVisible := none, alt := a, keypadApp := k, pointer := .any, penClean := none,
               sync := if (sT0 m).supported.contains 2026 then none else some false }

/-- The start-up `wire` run from every unknown prior state establishes (at least) the running invariant `g`. -/
def priorOf (m : Nat) (wire : List Item) (g : STerm) : Bool :=
  [(false, false), (false, true), (true, false), (true, true)].all fun ak => leS (runS (sT0U m ak.1 ak.2) wire) g

def priorB (m : Nat) : Bool := priorOf m (startupS (vOf m)).wire (G m)

end VaxisModel.Lemmas.C04SymCheck
