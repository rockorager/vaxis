/-
C04 — the lifecycle interpreter depends on the guard function only through the nine guard variables,
Vaxis's two flags, and the I/O-error guard of `Resume`.

`restrict v` forgets every other variable.  A statement is *effective* when it can change the writer
state (writes, flushes, calls of interpreted functions, `return`s, the six assignments the interpreter
knows); every other statement is skipped whatever its guard says.  `safeList` (a Bool, evaluated by the
kernel on the regenerated lists) says that the guards of all effective statements — in the list and in
every function it calls — mention only the nine variables and the two flags, or are conjunctions with
the I/O-error guard `expr:err != nil`.  Then, when no I/O error occurs, interpreting with `v` and with
`restrict v` is the same thing (`interpS_restrict`).
-/
import VaxisModel.Lemmas.C04Interp
import VaxisModel.Lemmas.C04Check

namespace VaxisModel.Lemmas.C04Restrict
open VaxisModel.Model.Lifecycle VaxisModel.Model.Render VaxisModel.Gen.Modes VaxisModel.Lemmas.C04Check VaxisModel.Lemmas.C04Interp

def errName : String := "expr:err != nil"

/-- Forget everything but the nine guard variables. -/
def restrict (v : String → Bool) : String → Bool := fun n => if vars.contains n then v n else false

theorem restrict_inside (v : String → Bool) (n : String) (hn : vars.contains n = true) : restrict v n = v n := by
  show (if vars.contains n = true then v n else false) = v n
  rw [if_pos hn]

theorem restrict_outside (v : String → Bool) : ∀ n, n ∉ vars → restrict v n = false := by
  intro n hn
  have : vars.contains n = false := by simpa using hn
  show (if vars.contains n = true then v n else false) = false
  rw [this]; rfl

def namesOK : G → Bool
  | .tt => true
  | .v n => vars.contains n || n == "closed" || n == "suspended"
  | .not g => namesOK g
  | .and a b => namesOK a && namesOK b
  | .or a b => namesOK a && namesOK b

/-- a conjunction one of whose conjuncts is the I/O-error guard -/
def hasErrConjunct : G → Bool
  | .v n => n == errName
  | .and a b => hasErrConjunct a || hasErrConjunct b
  | _ => false

def safeG (g : G) : Bool := namesOK g || hasErrConjunct g

theorem guardEnv_restrict (v : String → Bool) (w : SSt) (n : String)
    (h : (vars.contains n || n == "closed" || n == "suspended") = true) : guardEnv (restrict v) w n = guardEnv v w n := by
  simp only [guardEnv]
  split
  · rfl
  split
  · rfl
  · rename_i h1 h2
    simp only [Bool.or_eq_true, beq_iff_eq] at h
    rcases h with (h | h) | h
    · exact restrict_inside v n h
    · exact absurd h h1
    · exact absurd h h2

theorem evalV_namesOK (v : String → Bool) (w : SSt) (g : G) (h : namesOK g = true) :
    evalV (guardEnv (restrict v) w) g = evalV (guardEnv v w) g := by
  induction g with
  | tt => rfl
  | v n => simp only [evalV]; exact guardEnv_restrict v w n h
  | not g ih => simp only [evalV, ih h]
  | and a b iha ihb =>
    simp only [namesOK, Bool.and_eq_true] at h
    simp only [evalV, iha h.1, ihb h.2]
  | or a b iha ihb =>
    simp only [namesOK, Bool.and_eq_true] at h
    simp only [evalV, iha h.1, ihb h.2]

theorem evalV_errConjunct (u : String → Bool) (g : G) (h : hasErrConjunct g = true) (hu : u errName = false) : evalV u g = false := by
  induction g with
  | tt => simp [hasErrConjunct] at h
  | v n => simp only [hasErrConjunct, beq_iff_eq] at h; subst h; simpa [evalV] using hu
  | not g _ => simp [hasErrConjunct] at h
  | and a b iha ihb =>
    simp only [hasErrConjunct, Bool.or_eq_true] at h
    rcases h with h | h
    · simp [evalV, iha h]
    · simp [evalV, ihb h]
  | or a b _ _ => simp [hasErrConjunct] at h

theorem guardEnv_errName (v : String → Bool) (w : SSt) : guardEnv v w errName = v errName := guardEnv_err v w

theorem restrict_errName (v : String → Bool) : restrict v errName = false :=
  restrict_outside v errName (by decide)

theorem evalV_safe (v : String → Bool) (w : SSt) (g : G) (h : safeG g = true) (herr : v errName = false) :
    evalV (guardEnv (restrict v) w) g = evalV (guardEnv v w) g := by
  simp only [safeG, Bool.or_eq_true] at h
  rcases h with h | h
  · exact evalV_namesOK v w g h
  · rw [evalV_errConjunct _ g h (by rw [guardEnv_errName]; exact restrict_errName v),
        evalV_errConjunct _ g h (by rw [guardEnv_errName]; exact herr)]

/-- Every effective statement of the list — and of the functions it calls, `fuel` levels down — has a safe guard. -/
def safeList : Nat → List S → Bool
  | 0, _ => true
  | _ + 1, [] => true
  | fuel + 1, s :: rest =>
    (match s with
     | .write g _ | .writeF g _ | .direct g _ | .flush g => safeG g
     | .call g f => if f == "HideCursor" then safeG g else (match table f with | some body => safeG g && safeList fuel body | none => true)
     | .deferCall _ => true
     | .other g src => neutralOther src || safeG g) && safeList fuel rest

theorem interpS_restrict (v : String → Bool) (herr : v errName = false) :
    ∀ (fuel : Nat) (l : List S) (w : SSt), safeList fuel l = true → interpS (restrict v) fuel l w = interpS v fuel l w := by
  intro fuel
  induction fuel with
  | zero => intro l w _; simp [interpS]
  | succ n ih =>
    intro l w hs
    cases l with
    | nil => simp [interpS]
    | cons s rest =>
      rw [interpS_cons, interpS_cons]
      simp only [safeList, Bool.and_eq_true] at hs
      obtain ⟨hs1, hrest⟩ := hs
      have hsync : guardEnv (restrict v) w "caps.synchronizedUpdate" = guardEnv v w "caps.synchronizedUpdate" :=
        guardEnv_restrict v w _ (by decide)
      have key : retTest (restrict v) s w = retTest v s w ∧ stepOne (restrict v) n s w = stepOne v n s w := by
        cases s with
        | write g x => exact ⟨rfl, by simp only [stepOne, evalV_safe v w g hs1 herr]⟩
        | writeF g x => exact ⟨rfl, by simp only [stepOne, evalV_safe v w g hs1 herr]⟩
        | direct g x => exact ⟨rfl, by simp only [stepOne, evalV_safe v w g hs1 herr]⟩
        | flush g => exact ⟨rfl, by simp only [stepOne, evalV_safe v w g hs1 herr, hsync]⟩
        | deferCall f => exact ⟨rfl, rfl⟩
        | call g f =>
          refine ⟨rfl, ?_⟩
          by_cases hf : f = "HideCursor"
          · subst hf
            simp only [beq_self_eq_true, if_true] at hs1
            simp only [stepOne, evalV_safe v w g hs1 herr, if_true]
          · have hf' : (f == "HideCursor") = false := by simpa using hf
            simp only [hf', Bool.false_eq_true, if_false] at hs1
            cases ht : table f with
            | none => rw [stepOne_call_none _ n g f w hf ht, stepOne_call_none _ n g f w hf ht]
            | some body =>
              simp only [ht, Bool.and_eq_true] at hs1
              simp only [stepOne, ht, hf, if_false, evalV_safe v w g hs1.1 herr, ih body w hs1.2]
        | other g src =>
          simp only [Bool.or_eq_true] at hs1
          rcases hs1 with hn | hg
          · exact ⟨by simp only [retTest, neutral_not_return src hn, Bool.false_and], by rw [stepOne_neutral _ _ _ _ _ hn, stepOne_neutral _ _ _ _ _ hn]⟩
          · exact ⟨by simp only [retTest, evalV_safe v w g hg herr], by simp only [stepOne, evalV_safe v w g hg herr]⟩
      rw [key.1, key.2]
      split
      · rfl
      · exact ih rest _ hrest

end VaxisModel.Lemmas.C04Restrict
