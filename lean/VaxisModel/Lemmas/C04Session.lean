/-
C04 — whole sessions, by induction.

A session is start-up followed by any list of operations (frames, cursor requests, SetAppID,
Suspend, Resume); shutdown (Close — also from the signal arm or the panic handler of the input
goroutine, which are `Close` by `Gen.Modes.inputLoopSignalArm` / `inputLoopRecover`) may come after
any prefix.  The invariant is stated on the mode terminal through the symbolic terminal of
`C04Sym`: while running the terminal is some instance of `G m` (what start-up established, minus
what frames may change); while suspended it is an instance of the state Suspend produced, which the
checker `cycleB` requires to be restored.  The per-step facts are what `cycleB` / `startB` check for
assignment `m` (`facts_of`; that they hold for every assignment is `C04Mask.evalM_full`); `call_rel` lifts
them to every value by `runS_sound`.
-/
import VaxisModel.Lemmas.C04SymCheck
import VaxisModel.Lemmas.C04Interp

namespace VaxisModel.Lemmas.C04Session
open VaxisModel.Model.Lifecycle VaxisModel.Model.Render VaxisModel.Spec.ModeTerm VaxisModel.Lemmas.C04Check
open VaxisModel.Lemmas.C04Sym VaxisModel.Lemmas.C04SymCheck
open VaxisModel.Gen.Modes (suspend resume close)

/-- Guard assignment `m`, arbitrary run-time values. -/
def envV (m kittyFlags userCursorStyle : Nat) (appId : String) : Env :=
  { v := vOf m, kittyFlags := kittyFlags, userCursorStyle := userCursorStyle, appId := appId }

/-- The terminal before Vaxis starts: implements what it advertises; kitty keyboard stack depth `k0`;
    application id and cursor style are the ones it reports when queried; every mode reset. -/
def t0V (m : Nat) (e : Env) (k0 : Nat) : MTerm :=
  { supported := (sT0 m).supported, kittySupported := (sT0 m).kittySupported, appIdSupported := (sT0 m).appIdSupported,
    kitty := k0, appId := appIdHex e.appId, cursorShape := e.userCursorStyle }

variable {e : Env} {cn cn' : CursorState} {k0 : Nat}

theorem rel_t0 (m : Nat) : Rel e cn k0 (sT0 m) (t0V m e k0) := by
  constructor <;> simp [sT0, t0V]

theorem rel_cn {s : STerm} {t : MTerm} (hs : s.cursorShape ≠ .app) (h : Rel e cn k0 s t) : Rel e cn' k0 s t := by
  refine { h with cursorShape := ?_ }
  have := h.cursorShape
  revert this hs
  cases s.cursorShape <;> simp

theorem restored_of {m : Nat} {s : STerm} {t : MTerm} (hs : restoredS m s = true) (h : Rel e cn k0 s t) :
    restored (t0V m e k0) t = true := by
  simp only [restoredS, Bool.and_eq_true, Bool.not_eq_true', beq_iff_eq] at hs
  obtain ⟨⟨⟨⟨⟨⟨⟨⟨⟨⟨⟨⟨_, _⟩, h3⟩, h4⟩, h5⟩, h6⟩, h7⟩, h8⟩, h9⟩, h10⟩, h11⟩, h12⟩, h13⟩ := hs
  have a1 := h.modes
  have a2 := h.cursorVisible true h4
  have a3 := h.alt
  have a4 := h.kitty
  have a5 := h.keypadApp
  have a6 := h.cursorShape
  have a7 := h.appId
  have a8 := h.pointer
  have a9 := h.penClean true h11
  have a10 := h.linkOpen false h12
  have a11 := h.sync false h13
  rw [h8] at a6; rw [h9] at a7; rw [h10] at a8
  simp only at a6 a7 a8
  simp only [restored, Bool.and_eq_true, Bool.not_eq_true', beq_iff_eq, t0V]
  refine ⟨⟨⟨⟨⟨⟨⟨⟨⟨⟨?_, a2⟩, ?_⟩, ?_⟩, ?_⟩, a6⟩, a7⟩, a8⟩, a9⟩, a10⟩, a11⟩
  · rw [a1]; exact h3
  · rw [a3]; exact h5
  · rw [a4, h6]; rfl
  · rw [a5]; exact h7

theorem restoredS_poison {m : Nat} {s : STerm} (h : restoredS m s = true) : s.poison = false := by
  simp only [restoredS, Bool.and_eq_true, Bool.not_eq_true'] at h
  simp only [h]

theorem restoredS_cursorShape {m : Nat} {s : STerm} (h : restoredS m s = true) : s.cursorShape = .user := by
  simp only [restoredS, Bool.and_eq_true, beq_iff_eq] at h
  simp only [h]

theorem leS_poison {a b : STerm} (h : leS a b = true) : a.poison = false := by
  simp only [leS, Bool.and_eq_true, Bool.not_eq_true'] at h
  simp only [h]

theorem rel_le {a b : STerm} {t : MTerm} (hab : leS a b = true) (h : Rel e cn k0 a t) : Rel e cn k0 b t := by
  simp only [leS, sameStatic, Bool.and_eq_true, Bool.or_eq_true, Bool.not_eq_true', beq_iff_eq] at hab
  obtain ⟨⟨⟨⟨⟨⟨⟨⟨⟨⟨⟨⟨_, ⟨⟨s1, s2⟩, s3⟩⟩, h3⟩, h4⟩, h5⟩, h6⟩, h7⟩, h8⟩, h9⟩, h10⟩, h11⟩, h12⟩, h13⟩ := hab
  constructor
  · rw [← s1]; exact h.supported
  · rw [← h3]; exact h.modes
  · intro x hx
    rcases h4 with h4 | h4
    · rw [h4] at hx; cases hx
    · exact h.cursorVisible x (h4 ▸ hx)
  · rw [← h5]; exact h.alt
  · rw [← s2]; exact h.kittySupported
  · rw [← h6]; exact h.kitty
  · rw [← h7]; exact h.keypadApp
  · rcases h8 with h8 | h8
    · rw [h8]; trivial
    · rw [← h8]; exact h.cursorShape
  · rw [← s3]; exact h.appIdSupported
  · rcases h9 with h9 | h9
    · rw [h9]; trivial
    · rw [← h9]; exact h.appId
  · rcases h10 with h10 | h10
    · rw [h10]; trivial
    · rw [← h10]; exact h.pointer
  · intro x hx
    rcases h11 with h11 | h11
    · rw [h11] at hx; cases hx
    · exact h.penClean x (h11 ▸ hx)
  · intro x hx
    rcases h12 with h12 | h12
    · rw [h12] at hx; cases hx
    · exact h.linkOpen x (h12 ▸ hx)
  · intro x hx
    rcases h13 with h13 | h13
    · rw [h13] at hx; cases hx
    · exact h.sync x (h13 ▸ hx)

theorem rel_gen {s : STerm} {t : MTerm} (h : Rel e cn k0 s t) : Rel e cn' k0 (gen s) t := by
  refine { h with cursorVisible := ?_, cursorShape := ?_, appId := ?_, pointer := ?_, penClean := ?_, sync := ?_ }
  · intro x hx; simp [gen] at hx
  · simp [gen]
  · by_cases hsup : s.appIdSupported = true
    · simp [gen, hsup]
    · simp only [gen, hsup]; exact h.appId
  · simp [gen]
  · intro x hx; simp [gen] at hx
  · intro x hx
    simp only [gen] at hx
    split at hx
    · cases hx
    · exact h.sync x hx

/-- `Tok.other` sequences the mode terminal does not react to (titles, bell, clipboard, notifications,
    graphics, queries …): anything but the keypad modes, kitty keyboard push/pop and OSC 176. -/
def otherNeutral (raw : String) : Bool :=
  decide (raw.toList ≠ "1b3d".toList) && decide (raw.toList ≠ "1b3e".toList) && decide (raw.toList ≠ "1b5b3c75".toList) &&
  !(startsWith raw "1b5b3e" && endsWith raw "75") && !startsWith raw "1b5d3137363b"

/-- Tokens a frame — or any other application output between lifecycle calls (SetTitle, Bell,
    ClipboardPush, Notify, graphics) — may contain as far as the mode terminal is concerned: everything the renderer
    writes (`C07.render_gated`: cursor visibility and synchronized-update brackets are the only private modes) and
    neutral `other` sequences. -/
def frameTok : Tok → Bool
  | .decset n => n == 25 || n == 2026
  | .decrst n => n == 25 || n == 2026
  | .other raw => otherNeutral raw
  | _ => true

theorem other_neutral (t : MTerm) (raw : String) (h : otherNeutral raw = true) : VaxisModel.Spec.ModeTerm.other t raw = t := by
  simp only [otherNeutral, Bool.and_eq_true, decide_eq_true_eq, Bool.not_eq_true', Bool.and_eq_false_iff] at h
  obtain ⟨⟨⟨⟨h1, h2⟩, h3⟩, h4⟩, h5⟩ := h
  unfold VaxisModel.Spec.ModeTerm.other
  rw [if_neg h1, if_neg h2, if_neg h3, if_neg (by intro ⟨a, b⟩; rcases h4 with h4 | h4 <;> simp_all), if_neg (by simp [h5])]

/-- What a frame token cannot change. -/
structure Keeps (t t' : MTerm) : Prop where
  supported : t'.supported = t.supported
  modes : t'.modes = t.modes
  alt : t'.alt = t.alt
  kittySupported : t'.kittySupported = t.kittySupported
  kitty : t'.kitty = t.kitty
  keypadApp : t'.keypadApp = t.keypadApp
  appIdSupported : t'.appIdSupported = t.appIdSupported
  appId : t'.appId = t.appId
  sync : t.supported.contains 2026 = false → t'.sync = t.sync

theorem keeps_refl (t : MTerm) : Keeps t t := by constructor <;> intros <;> rfl

theorem keeps_decMode (t : MTerm) (n : Nat) (v : Bool) (hn : (n == 25 || n == 2026) = true) : Keeps t (decMode t n v) := by
  simp only [Bool.or_eq_true, beq_iff_eq] at hn
  rcases hn with rfl | rfl
  · simp only [decMode]; constructor <;> intros <;> rfl
  · simp only [decMode, show ¬ ((2026 : Nat) = 25) by decide, show ¬ ((2026 : Nat) = 1049) by decide, if_false, if_true]
    split
    · constructor <;> intros <;> first | rfl | simp_all
    · exact keeps_refl t

theorem keeps_step (t : MTerm) (k : Tok) (hk : frameTok k = true) : Keeps t (step t k) := by
  cases k with
  | other r =>
    simp only [frameTok] at hk
    simp only [step, other_neutral t r hk]; exact keeps_refl t
  | decset n => exact keeps_decMode t n true hk
  | decrst n => exact keeps_decMode t n false hk
  | _ => simp only [step]; constructor <;> intros <;> rfl

theorem keeps_trans {a b c : MTerm} (h1 : Keeps a b) (h2 : Keeps b c) : Keeps a c := by
  constructor
  · rw [h2.supported, h1.supported]
  · rw [h2.modes, h1.modes]
  · rw [h2.alt, h1.alt]
  · rw [h2.kittySupported, h1.kittySupported]
  · rw [h2.kitty, h1.kitty]
  · rw [h2.keypadApp, h1.keypadApp]
  · rw [h2.appIdSupported, h1.appIdSupported]
  · rw [h2.appId, h1.appId]
  · intro h; rw [h2.sync (by rw [h1.supported]; exact h), h1.sync h]

theorem keeps_run (t : MTerm) (toks : List Tok) (h : ∀ k ∈ toks, frameTok k = true) : Keeps t (run t toks) := by
  induction toks generalizing t with
  | nil => exact keeps_refl t
  | cons k ks ih =>
    simp only [run, List.foldl_cons]
    exact keeps_trans (keeps_step t k (h k (by simp))) (ih (step t k) (fun k' hk' => h k' (by simp [hk'])))

theorem rel_gen_keeps {s : STerm} {t t' : MTerm} (hl : s.linkOpen = some false) (h : Rel e cn k0 (gen s) t)
    (hk : Keeps t t') (hlink : t'.linkOpen = false) : Rel e cn' k0 (gen s) t' := by
  constructor
  · rw [hk.supported]; exact h.supported
  · rw [hk.modes]; exact h.modes
  · intro x hx; simp [gen] at hx
  · rw [hk.alt]; exact h.alt
  · rw [hk.kittySupported]; exact h.kittySupported
  · rw [hk.kitty]; exact h.kitty
  · rw [hk.keypadApp]; exact h.keypadApp
  · simp [gen]
  · rw [hk.appIdSupported]; exact h.appIdSupported
  · have := h.appId
    by_cases hsup : s.appIdSupported = true
    · simp [gen, hsup]
    · simp only [gen, hsup] at this ⊢; rw [hk.appId]; exact this
  · simp [gen]
  · intro x hx; simp [gen] at hx
  · intro x hx
    simp only [gen] at hx
    rw [hl] at hx
    cases hx; exact hlink
  · intro x hx
    have hs := h.sync x hx
    simp only [gen] at hx
    split at hx
    · cases hx
    · rename_i hsup
      have : t.supported.contains 2026 = false := by
        rw [h.supported]; simpa [gen] using hsup
      rw [hk.sync this]; exact hs

theorem rel_gen_setAppId {s : STerm} {t : MTerm} (id : String) (h : Rel e cn k0 (gen s) t) :
    Rel e cn' k0 (gen s) (step t (.other (appIdSetRaw id))) := by
  rw [appIdSet_step_gen]
  have hc : Rel e cn' k0 (gen s) t := rel_cn (by simp [gen]) h
  split
  · rename_i hsup
    have hsup' : s.appIdSupported = true := by
      have := h.appIdSupported; simp only [gen] at this; rw [← this]; exact hsup.1
    exact { hc with appId := by simp [gen, hsup'] }
  · exact hc

inductive Op where
  | frame (toks : List Tok)            -- one `Render()` (or SetTitle / Bell / ClipboardPush / Notify / graphics): what it wrote
  | cursor (cn cl : CursorState)       -- ShowCursor / HideCursor / the renderer's bookkeeping: any cursor records
  | setAppId (id : String)             -- `SetAppID(id)`: written directly
  | suspend
  | resume

/-- A frame writes renderer vocabulary only and leaves no hyperlink open (`Props.C04.renderFrame_ok`:
    every frame of the renderer model qualifies). Other operations are unconstrained. -/
def Op.ok : Op → Prop
  | .frame toks => (∀ k ∈ toks, frameTok k = true) ∧ ∀ t, t.linkOpen = false → (run t toks).linkOpen = false
  | _ => True

structure Sess where
  w : WSt
  t : MTerm

def clearWire (w : WSt) : WSt := { w with wire := [] }

/-- One operation.  While suspended the application only resumes or shuts down (rendering into a
    suspended Vaxis, or resuming one that runs, is outside the API's contract and skipped here). -/
def applyOp (e : Env) (s : Sess) : Op → Sess
  | .frame toks => if s.w.suspended then s else { s with t := run s.t toks }
  | .cursor cn cl => if s.w.suspended then s else { s with w := { s.w with cn := cn, cl := cl } }
  | .setAppId id => if s.w.suspended then s else { s with t := step s.t (.other (appIdSetRaw id)) }
  | .suspend => let w' := suspendW e (clearWire s.w); { w := w', t := run s.t w'.wire }
  | .resume =>
      if s.w.suspended then (let w' := resumeW e (clearWire s.w); { w := w', t := run s.t w'.wire }) else s

def runOps (e : Env) (s : Sess) (ops : List Op) : Sess := ops.foldl (applyOp e) s

/-- `New`: everything start-up writes, on the terminal `t0`. -/
def start (e : Env) (t0 : MTerm) : Sess := let w := startupW e; { w := w, t := run t0 w.wire }

/-- `Close` (from the application, the signal arm or the panic handler). -/
def shutdown (e : Env) (s : Sess) : Sess :=
  let w' := closeW e false (clearWire s.w); { w := w', t := run s.t w'.wire }

/-- The writer between two lifecycle calls: nothing buffered, in use, not closed; suspended or running. -/
structure Idle (w : WSt) (sus : Bool) : Prop where
  suspended : w.suspended = sus
  closed : w.closed = false
  buf : w.buf = []
  fresh : w.fresh = false

theorem idleS_iff {s : SSt} {sus : Bool} :
    idleS s sus = true ↔ s.buf = [] ∧ s.suspended = sus ∧ s.closed = false ∧ s.fresh = false := by
  simp only [idleS, Bool.and_eq_true, List.isEmpty_iff, beq_iff_eq, Bool.not_eq_true', and_assoc]

theorem Idle.conc {s : SSt} {sus : Bool} (h : idleS s sus = true) (e : Env) (w0 : WSt) : Idle (concW e w0 s) sus := by
  obtain ⟨h1, h2, h3, h4⟩ := idleS_iff.mp h
  exact ⟨h2, h3, by rw [C04Interp.concW_buf, h1]; rfl, h4⟩

theorem Idle.abs {w : WSt} (h : Idle w false) : absW (clearWire w) = Wrun w.cn.visible w.cl.visible := by
  simp [absW, clearWire, Wrun, h.suspended, h.closed, h.buf, h.fresh]

/-- A suspended writer as Suspend from `Wrun cnv clv` left it. -/
structure SuspendedFrom (m : Nat) (cnv clv : Bool) (w : WSt) : Prop where
  idle : Idle w true
  cn : w.cn.visible = (susS m cnv clv).cnv
  cl : w.cl.visible = (susS m cnv clv).clv

def Inv (m : Nat) (e : Env) (k0 : Nat) (s : Sess) : Prop :=
  (Idle s.w false ∧ ∀ cn, Rel e cn k0 (G m) s.t)
  ∨ (∃ cnv clv, SuspendedFrom m cnv clv s.w ∧
        ∀ cn, Rel e cn k0 (runS (G m) (susS m cnv clv).wire) s.t)

structure CycleFacts (m : Nat) (cnv clv : Bool) : Prop where
  s2 : idleS (susS m cnv clv) true = true
  r2 : restoredS m (runS (G m) (susS m cnv clv).wire) = true
  s3 : idleS (interpS (vOf m) 64 resume (susNext m cnv clv)) false = true
  r3 : leS (runS (runS (G m) (susS m cnv clv).wire)
          (interpS (vOf m) 64 resume (susNext m cnv clv)).wire) (G m) = true
  s4wire : (interpS (vOf m) 64 close (Wrun cnv clv)).wire = (susS m cnv clv).wire
  s4closed : (interpS (vOf m) 64 close (Wrun cnv clv)).closed = true
  s5wire : (interpS (vOf m) 64 close (susNext m cnv clv)).wire = []
  s5closed : (interpS (vOf m) 64 close (susNext m cnv clv)).closed = true

theorem cycleFacts {m : Nat} {cnv clv : Bool} (h : cycleB m cnv clv = true) : CycleFacts m cnv clv := by
  simp only [cycleB, cycleOf, cycleChk, Bool.and_eq_true, beq_iff_eq, List.isEmpty_iff] at h
  obtain ⟨⟨⟨⟨⟨⟨⟨a1, a2⟩, a3⟩, a4⟩, a5⟩, a6⟩, a7⟩, a8⟩ := h
  exact ⟨a1, a2, a3, a4, a5, a6, a7, a8⟩

structure StartFacts (m : Nat) : Prop where
  buf : (startupS (vOf m)).buf = []
  sus : (startupS (vOf m)).suspended = false
  closed : (startupS (vOf m)).closed = false
  fresh : (startupS (vOf m)).fresh = false
  poison : (established m).poison = false
  link : (established m).linkOpen = some false

theorem startFacts {m : Nat} (h : startB m = true) : StartFacts m := by
  simp only [startB, startOf, Bool.and_eq_true, Bool.not_eq_true', beq_iff_eq] at h
  obtain ⟨⟨⟨a0, a5⟩, a6⟩, _⟩ := h
  obtain ⟨a1, a2, a3, a4⟩ := idleS_iff.mp a0
  exact ⟨a1, a2, a3, a4, a5, a6⟩

theorem StartFacts.idle {m : Nat} (f : StartFacts m) : idleS (startupS (vOf m)) false = true :=
  idleS_iff.mpr ⟨f.buf, f.sus, f.closed, f.fresh⟩

structure Facts (m : Nat) : Prop where
  start : StartFacts m
  cycle : ∀ cnv clv, CycleFacts m cnv clv

theorem facts_of {m : Nat} (h : allB m = true) : Facts m := by
  simp only [allB, Bool.and_eq_true] at h
  obtain ⟨⟨⟨⟨h0, h1⟩, h2⟩, h3⟩, h4⟩ := h
  refine ⟨startFacts h0, ?_⟩
  intro cnv clv
  cases cnv <;> cases clv
  · exact cycleFacts h1
  · exact cycleFacts h2
  · exact cycleFacts h3
  · exact cycleFacts h4

theorem gen_linkOpen (s : STerm) : (gen s).linkOpen = s.linkOpen := rfl

theorem SuspendedFrom.abs {m : Nat} {cnv clv : Bool} (f : CycleFacts m cnv clv) {w : WSt} (h : SuspendedFrom m cnv clv w) :
    absW (clearWire w) = susNext m cnv clv := by
  obtain ⟨hw, h5, h6⟩ := h
  unfold susNext
  obtain ⟨a1, a2, a3, a4⟩ := idleS_iff.mp f.s2
  revert a1 a2 a3 a4 h5 h6
  generalize susS m cnv clv = s2
  intro h5 h6 a1 a2 a3 a4
  cases s2
  simp_all [absW, clearWire, hw.suspended, hw.closed, hw.buf, hw.fresh]

section induction
variable {m : Nat} (F : Facts m) (hv : e.v = vOf m) (hq : SettableId e.appId)

include hv hq in
/-- **One lifecycle call from an idle running writer, on the mode terminal**: the symbolic run of what it wrote
    describes the concrete one. -/
theorem call_rel (l : List Gen.Modes.S) {w : WSt} (hw : Idle w false) {s : STerm} {t : MTerm} (hr : ∀ cn, Rel e cn k0 s t)
    (hp : (runS s (interpS (vOf m) 64 l (Wrun w.cn.visible w.cl.visible)).wire).poison = false) :
    Rel e w.cn k0 (runS s (interpS (vOf m) 64 l (Wrun w.cn.visible w.cl.visible)).wire) (run t (interp e 64 l (clearWire w)).wire) := by
  rw [interp, C04Interp.concW_wire, hv, hw.abs]
  exact runS_sound (e := e) (cn := (clearWire w).cn) (k0 := k0) (clearWire w).cl hq _ (hr _) hp

include F hv hq

theorem start_inv : Inv m e k0 (start e (t0V m e k0)) := by
  have f := F.start
  have h := runS_sound (e := e) (cn := ({} : WSt).cn) (k0 := k0) ({} : WSt).cl hq (startupS (vOf m)).wire (rel_t0 m) f.poison
  refine .inl ⟨?_, fun cn => ?_⟩
  · simp only [start, startupW, hv]; exact Idle.conc f.idle e _
  · simp only [start, startupW, C04Interp.concW_wire, hv]; exact rel_gen h

theorem suspend_running (w : WSt) (t : MTerm) (hw : Idle w false) (hr : ∀ cn, Rel e cn k0 (G m) t) :
    let w' := suspendW e (clearWire w)
    SuspendedFrom m w.cn.visible w.cl.visible w' ∧
      ∀ cn, Rel e cn k0 (runS (G m) (susS m w.cn.visible w.cl.visible).wire) (run t w'.wire) := by
  have f := F.cycle w.cn.visible w.cl.visible
  have h := call_rel hv hq suspend hw hr (restoredS_poison f.r2)
  dsimp only [suspendW] at h ⊢
  refine ⟨⟨?_, ?_, ?_⟩, fun cn => rel_cn (by rw [restoredS_cursorShape f.r2]; simp) h⟩
  · rw [interp, hv, hw.abs]; exact Idle.conc f.s2 e _
  · rw [interp, C04Interp.concW_cnv, hv, hw.abs]; rfl
  · rw [interp, C04Interp.concW_clv, hv, hw.abs]; rfl

theorem close_running (w : WSt) (t : MTerm) (hw : Idle w false) (hr : ∀ cn, Rel e cn k0 (G m) t) :
    let w' := closeW e false (clearWire w)
    w'.closed = true ∧ restored (t0V m e k0) (run t w'.wire) = true := by
  have f := F.cycle w.cn.visible w.cl.visible
  have h := call_rel hv hq suspend hw hr (restoredS_poison f.r2)
  have habs : absW { clearWire w with closed := (clearWire w).closed || false } = Wrun w.cn.visible w.cl.visible := by
    rw [← hw.abs]; simp [absW, clearWire]
  rw [interp, C04Interp.concW_wire, hv, hw.abs] at h
  dsimp only [closeW, interp]
  rw [habs, hv, C04Interp.concW_closed, C04Interp.concW_wire, f.s4wire]
  exact ⟨f.s4closed, restored_of f.r2 h⟩

theorem step_running (s : Sess) (op : Op) (hok : op.ok) (hw : Idle s.w false) (hr : ∀ cn, Rel e cn k0 (G m) s.t) :
    Inv m e k0 (applyOp e s op) := by
  have h1 := hw.suspended
  cases op with
  | frame toks =>
    simp only [applyOp, h1, Bool.false_eq_true, if_false]
    refine .inl ⟨hw, fun cn => ?_⟩
    exact rel_gen_keeps F.start.link (hr cn) (keeps_run s.t toks hok.1)
      (hok.2 s.t ((hr cn).linkOpen false (by rw [G, gen_linkOpen]; exact F.start.link)))
  | cursor cn cl =>
    simp only [applyOp, h1, Bool.false_eq_true, if_false]
    exact .inl ⟨⟨rfl, hw.closed, hw.buf, hw.fresh⟩, hr⟩
  | setAppId id =>
    simp only [applyOp, h1, Bool.false_eq_true, if_false]
    refine .inl ⟨hw, fun cn => ?_⟩
    -- stated so that the unifier need not look inside `step … (.other …)`
    show Rel e cn k0 (G m) (step s.t (.other (appIdSetRaw id)))
    exact rel_gen_setAppId id (hr cn)
  | suspend =>
    have h := suspend_running F hv hq s.w s.t hw hr
    exact .inr ⟨s.w.cn.visible, s.w.cl.visible, h⟩
  | resume =>
    simp only [applyOp, h1, Bool.false_eq_true, if_false]
    exact .inl ⟨hw, hr⟩

theorem step_suspended (s : Sess) (op : Op) {cnv clv : Bool} (hw : SuspendedFrom m cnv clv s.w)
    (hr : ∀ cn, Rel e cn k0 (runS (G m) (susS m cnv clv).wire) s.t) :
    Inv m e k0 (applyOp e s op) := by
  have h1 := hw.idle.suspended
  have f := F.cycle cnv clv
  cases op with
  | frame toks => simp only [applyOp, h1, if_true]; exact .inr ⟨cnv, clv, hw, hr⟩
  | cursor cn cl => simp only [applyOp, h1, if_true]; exact .inr ⟨cnv, clv, hw, hr⟩
  | setAppId id => simp only [applyOp, h1, if_true]; exact .inr ⟨cnv, clv, hw, hr⟩
  | suspend =>
    -- Suspend while suspended: the early return is taken, nothing is written
    have hs : interpS (vOf m) 64 suspend (absW (clearWire s.w)) = absW (clearWire s.w) :=
      C04Interp.suspend_suspended _ _ h1
    have hc := C04Interp.concW_absW e (clearWire s.w)
    dsimp only [applyOp, suspendW, interp]
    rw [hv, hs]
    exact .inr ⟨cnv, clv, ⟨⟨h1, hw.idle.closed, hc.2.trans hw.idle.buf, hw.idle.fresh⟩, hw.cn, hw.cl⟩, by rw [hc.1]; exact hr⟩
  | resume =>
    simp only [applyOp, h1, if_true]
    have habs := hw.abs f
    have h := runS_sound (e := e) (cn := (clearWire s.w).cn) (k0 := k0) (clearWire s.w).cl hq
      (interpS (vOf m) 64 resume (susNext m cnv clv)).wire (hr _) (leS_poison f.r3)
    dsimp only [resumeW]
    refine .inl ⟨?_, fun cn => ?_⟩
    · rw [interp, hv, habs]; exact Idle.conc f.s3 e _
    · rw [interp, C04Interp.concW_wire, hv, habs]
      exact rel_cn (by simp [G, gen]) (rel_le f.r3 h)

theorem step_inv (s : Sess) (op : Op) (hok : op.ok) (h : Inv m e k0 s) : Inv m e k0 (applyOp e s op) := by
  rcases h with ⟨hw, hr⟩ | ⟨cnv, clv, hw, hr⟩
  · exact step_running F hv hq s op hok hw hr
  · exact step_suspended F hv hq s op hw hr

theorem ops_inv (s : Sess) (ops : List Op) (hok : ∀ op ∈ ops, op.ok) (h : Inv m e k0 s) : Inv m e k0 (runOps e s ops) := by
  induction ops generalizing s with
  | nil => exact h
  | cons op rest ih =>
    simp only [runOps, List.foldl_cons]
    exact ih _ (fun o ho => hok o (by simp [ho])) (step_inv F hv hq s op (hok op (by simp)) h)

theorem session_inv (ops : List Op) (hok : ∀ op ∈ ops, op.ok) : Inv m e k0 (runOps e (start e (t0V m e k0)) ops) :=
  ops_inv F hv hq _ ops hok (start_inv F hv hq)

omit F hv hq in
theorem abs_close_suspended {cnv clv : Bool} (f : CycleFacts m cnv clv) {w : WSt} (hw : SuspendedFrom m cnv clv w) :
    absW { clearWire w with closed := (clearWire w).closed || false } =
      susNext m cnv clv := by
  rw [← hw.abs f]; simp [absW, clearWire]

theorem shutdown_restores (s : Sess) (h : Inv m e k0 s) :
    (shutdown e s).w.closed = true ∧ restored (t0V m e k0) (shutdown e s).t = true := by
  rcases h with ⟨hw, hr⟩ | ⟨cnv, clv, hw, hr⟩
  · exact close_running F hv hq s.w s.t hw hr
  · have f := F.cycle cnv clv
    dsimp only [shutdown, closeW, interp]
    rw [abs_close_suspended f hw, hv, C04Interp.concW_closed, C04Interp.concW_wire, f.s5wire, f.s5closed]
    exact ⟨rfl, restored_of f.r2 (hr s.w.cn)⟩

omit F hv hq in
theorem running_same_core {s s' : Sess} (h : Inv m e k0 s) (h' : Inv m e k0 s') (hrun : s.w.suspended = false)
    (hrun' : s'.w.suspended = false) :
    s.t.modes = s'.t.modes ∧ s.t.alt = s'.t.alt ∧ s.t.kitty = s'.t.kitty ∧ s.t.keypadApp = s'.t.keypadApp := by
  rcases h with ⟨_, hr⟩ | ⟨_, _, hw, _⟩
  · rcases h' with ⟨_, hr'⟩ | ⟨_, _, hw', _⟩
    · have a := hr s.w.cn; have b := hr' s.w.cn
      exact ⟨by rw [a.modes, b.modes], by rw [a.alt, b.alt], by rw [a.kitty, b.kitty], by rw [a.keypadApp, b.keypadApp]⟩
    · exact absurd (hrun'.symm.trans hw'.idle.suspended) (by simp)
  · exact absurd (hrun.symm.trans hw.idle.suspended) (by simp)

theorem running_core (s : Sess) (h : Inv m e k0 s) (hrun : s.w.suspended = false) :
    s.t.modes = (start e (t0V m e k0)).t.modes ∧ s.t.alt = (start e (t0V m e k0)).t.alt ∧
    s.t.kitty = (start e (t0V m e k0)).t.kitty ∧ s.t.keypadApp = (start e (t0V m e k0)).t.keypadApp :=
  running_same_core h (start_inv (k0 := k0) F hv hq) hrun (by
    show (concW e {} (startupS e.v)).suspended = false
    rw [C04Interp.concW_suspended, hv]; exact F.start.sus)

omit hv hq in
theorem suspended_restored (s : Sess) (h : Inv m e k0 s) (hsus : s.w.suspended = true) :
    restored (t0V m e k0) s.t = true := by
  rcases h with ⟨hw, _⟩ | ⟨cnv, clv, _, hr⟩
  · exact absurd (hsus.symm.trans hw.suspended) (by simp)
  · exact restored_of (F.cycle cnv clv).r2 (hr s.w.cn)

omit hq in
theorem shutdown_suspended_silent (s : Sess) (h : Inv m e k0 s) (hsus : s.w.suspended = true) :
    (shutdown e s).w.wire = [] := by
  rcases h with ⟨hw, _⟩ | ⟨cnv, clv, hw, _⟩
  · exact absurd (hsus.symm.trans hw.suspended) (by simp)
  · have f := F.cycle cnv clv
    dsimp only [shutdown, closeW, interp]
    rw [abs_close_suspended f hw, hv, C04Interp.concW_wire, f.s5wire]; rfl

end induction

end VaxisModel.Lemmas.C04Session
