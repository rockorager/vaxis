/-
C04 — `New` failing half-way: the error exits of `New` are regenerated with the lifecycle
calls made before each `return nil, err` (`Gen.Modes.newSequence`); `Lifecycle.startupFailS` runs
start-up up to a chosen exit.  `failB m` — which holds for every guard assignment (`C04Mask.evalM_full`) — says
that the exit taken when the window size cannot be read (the one exit after the terminal has been
set up) leaves the symbolic mode terminal restored, the buffer empty and Vaxis marked closed.
-/
import VaxisModel.Lemmas.C04SymCheck

namespace VaxisModel.Lemmas.C04SymCheck
open VaxisModel.Model.Lifecycle VaxisModel.Lemmas.C04Sym VaxisModel.Gen.Modes

/-- The failing start-up left the writer state `s`. -/
def failOf (m : Nat) (s : SSt) : Bool := s.buf.isEmpty && s.closed && restoredS m (runS (sT0 m) s.wire)

def failB (m : Nat) : Bool := failOf m (startupFailS (vOf m) "vx.reportWinsize" newSequence {})

end VaxisModel.Lemmas.C04SymCheck
