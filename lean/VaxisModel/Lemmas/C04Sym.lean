/-
C04 — the mode terminal on *items* (tokens with named holes for run-time values).

`STerm` is `Spec.ModeTerm.MTerm` with the value-carrying fields replaced by symbols (`user` = the
queried user cursor style, `app` = the style the application asked for, `prior` = the application id
the terminal reported, `any` = nothing known).  `stepS` mirrors `ModeTerm.step`; `Rel` says which
concrete terminals a symbolic one stands for; `runS_sound` is the simulation: running the items
symbolically and filling the holes afterwards describes the concrete run *for every value*.  Equal
symbols give equal values whatever the values are, so a verdict computed on symbols by the kernel
holds for all kitty flags, cursor styles, positions, application ids and pointer shapes — in
particular when some of them coincide (the symbols stay distinct; only the values coincide).
-/
import VaxisModel.Model.Lifecycle
import VaxisModel.Spec.ModeTerm

namespace VaxisModel.Lemmas.C04Sym
open VaxisModel.Model.Lifecycle VaxisModel.Model.Render VaxisModel.Spec.ModeTerm

inductive SShape where
  | known (n : Nat) | user | app | any
  deriving DecidableEq, Repr, Inhabited

inductive SAppId where
  | known (s : String) | prior | any
  deriving DecidableEq, Repr, Inhabited

inductive SPtr where
  | known (s : String) | any
  deriving DecidableEq, Repr, Inhabited

structure STerm where
  supported : List Nat := []
  modes : List (Nat × Bool) := []
  cursorVisible : Option Bool := some true
  alt : Bool := false
  kittySupported : Bool := false
  kitty : Nat := 0                       -- entries pushed above the prior stack depth
  keypadApp : Bool := false
  cursorShape : SShape := .user
  appIdSupported : Bool := false
  appId : SAppId := .prior
  pointer : SPtr := .known "74657874"
  penClean : Option Bool := some true
  linkOpen : Option Bool := some false
  sync : Option Bool := some false
  poison : Bool := false                 -- something happened whose effect depends on values: nothing is claimed any more
  deriving DecidableEq, Repr, Inhabited

def decModeS (t : STerm) (n : Nat) (v : Bool) : STerm :=
  if n = 25 then { t with cursorVisible := some v }
  else if n = 1049 then { t with alt := v }
  else if n = 2026 then
    (if t.supported.contains 2026 then { t with sync := some v } else t)
  else if baseline.contains n ∨ t.supported.contains n then { t with modes := setMode t.modes n v }
  else t

def otherS (t : STerm) (raw : String) : STerm :=
  if raw.toList = "1b3d".toList then { t with keypadApp := true }
  else if raw.toList = "1b3e".toList then { t with keypadApp := false }
  else if raw.toList = "1b5b3c75".toList then
    (if t.kittySupported then (if t.kitty = 0 then { t with poison := true } else { t with kitty := t.kitty - 1 }) else t)
  else if startsWith raw "1b5b3e" ∧ endsWith raw "75" then
    (if t.kittySupported then { t with kitty := t.kitty + 1 } else t)
  else if startsWith raw "1b5d3137363b" then
    (if t.appIdSupported ∧ raw.toList ≠ "1b5d3137363b3f".toList then { t with appId := .known (String.ofList (raw.toList.drop 12)) } else t)
  else t

/-- What a sequence outside the renderer's vocabulary is to the mode terminal (`ModeTerm.other` and `otherS`
    classify `raw` by the same tests). -/
inductive OtherKind where
  | keypad (app : Bool)
  | kittyPop
  | kittyPush
  | appIdSet (hex : String)
  | neutral

def otherKind (raw : String) : OtherKind :=
  if raw.toList = "1b3d".toList then .keypad true
  else if raw.toList = "1b3e".toList then .keypad false
  else if raw.toList = "1b5b3c75".toList then .kittyPop
  else if startsWith raw "1b5b3e" ∧ endsWith raw "75" then .kittyPush
  else if startsWith raw "1b5d3137363b" ∧ raw.toList ≠ "1b5d3137363b3f".toList then .appIdSet (String.ofList (raw.toList.drop 12))
  else .neutral

theorem other_eq (t : MTerm) (raw : String) :
    other t raw = match otherKind raw with
      | .keypad b => { t with keypadApp := b }
      | .kittyPop => if t.kittySupported then { t with kitty := t.kitty - 1 } else t
      | .kittyPush => if t.kittySupported then { t with kitty := t.kitty + 1 } else t
      | .appIdSet hex => if t.appIdSupported then { t with appId := hex } else t
      | .neutral => t := by
  unfold other otherKind
  by_cases h1 : raw.toList = "1b3d".toList; · simp only [if_pos h1]
  by_cases h2 : raw.toList = "1b3e".toList; · simp only [if_neg h1, if_pos h2]
  by_cases h3 : raw.toList = "1b5b3c75".toList; · simp only [if_neg h1, if_neg h2, if_pos h3]
  by_cases h4 : startsWith raw "1b5b3e" ∧ endsWith raw "75"; · simp only [if_neg h1, if_neg h2, if_neg h3, if_pos h4]
  simp only [if_neg h1, if_neg h2, if_neg h3, if_neg h4]
  by_cases h5 : startsWith raw "1b5d3137363b" = true <;> by_cases h6 : raw.toList = "1b5d3137363b3f".toList <;>
    simp only [h5, h6, ne_eq, not_true_eq_false, not_false_eq_true, and_true, and_false, if_true, if_false, Bool.false_eq_true, ite_self]

theorem otherS_eq (t : STerm) (raw : String) :
    otherS t raw = match otherKind raw with
      | .keypad b => { t with keypadApp := b }
      | .kittyPop => if t.kittySupported then (if t.kitty = 0 then { t with poison := true } else { t with kitty := t.kitty - 1 }) else t
      | .kittyPush => if t.kittySupported then { t with kitty := t.kitty + 1 } else t
      | .appIdSet hex => if t.appIdSupported then { t with appId := .known hex } else t
      | .neutral => t := by
  unfold otherS otherKind
  by_cases h1 : raw.toList = "1b3d".toList; · simp only [if_pos h1]
  by_cases h2 : raw.toList = "1b3e".toList; · simp only [if_neg h1, if_pos h2]
  by_cases h3 : raw.toList = "1b5b3c75".toList; · simp only [if_neg h1, if_neg h2, if_pos h3]
  by_cases h4 : startsWith raw "1b5b3e" ∧ endsWith raw "75"; · simp only [if_neg h1, if_neg h2, if_neg h3, if_pos h4]
  simp only [if_neg h1, if_neg h2, if_neg h3, if_neg h4]
  by_cases h5 : startsWith raw "1b5d3137363b" = true <;> by_cases h6 : raw.toList = "1b5d3137363b3f".toList <;>
    simp only [h5, h6, ne_eq, not_true_eq_false, not_false_eq_true, and_true, and_false, if_true, if_false, Bool.false_eq_true, ite_self]

def stepTokS (t : STerm) : Tok → STerm
  | .decset n => decModeS t n true
  | .decrst n => decModeS t n false
  | .cursorStyle n => { t with cursorShape := .known n }
  | .pointer s => { t with pointer := .known s }
  | .sgr ps => { t with penClean := some (decide (ps.isEmpty ∨ ps = [[0]])) }
  | .osc8 _ u => { t with linkOpen := some (decide (u ≠ "")) }
  | .other raw => otherS t raw
  | _ => t

def stepS (t : STerm) : Item → STerm
  | .tok k => stepTokS t k
  | .kittyPush => if t.kittySupported then { t with kitty := t.kitty + 1 } else t
  | .userStyle => { t with cursorShape := .user }
  | .appIdRestore => if t.appIdSupported then { t with appId := .prior } else t
  | .showCursor => { t with cursorShape := .app, cursorVisible := some true }
  | .cursorOnly _ => { t with poison := true }
  | .opaqueW _ => { t with poison := true }

def runS (t : STerm) (items : List Item) : STerm := items.foldl stepS t

/-- Hex form of the application id as the mode terminal stores it. -/
def appIdHex (id : String) : String := String.ofList (hexChars (bytesOf id))

/-- The concrete terminals a symbolic terminal stands for, given the run-time values: `e` (kitty
    flags, user cursor style, application id), the application's cursor `cn`, the prior kitty
    keyboard stack depth `k0`. -/
structure Rel (e : Env) (cn : CursorState) (k0 : Nat) (s : STerm) (t : MTerm) : Prop where
  supported : t.supported = s.supported
  modes : t.modes = s.modes
  cursorVisible : ∀ b, s.cursorVisible = some b → t.cursorVisible = b
  alt : t.alt = s.alt
  kittySupported : t.kittySupported = s.kittySupported
  kitty : t.kitty = k0 + s.kitty
  keypadApp : t.keypadApp = s.keypadApp
  cursorShape : match s.cursorShape with
    | .known n => t.cursorShape = n
    | .user => t.cursorShape = e.userCursorStyle
    | .app => t.cursorShape = cn.style
    | .any => True
  appIdSupported : t.appIdSupported = s.appIdSupported
  appId : match s.appId with
    | .known x => t.appId = x
    | .prior => t.appId = appIdHex e.appId
    | .any => True
  pointer : match s.pointer with
    | .known x => t.pointer = x
    | .any => True
  penClean : ∀ b, s.penClean = some b → t.penClean = b
  linkOpen : ∀ b, s.linkOpen = some b → t.linkOpen = b
  sync : ∀ b, s.sync = some b → t.sync = b

variable {e : Env} {cn : CursorState} {k0 : Nat}

/-- Close the fields of a `Rel` goal that are those of `h` (or trivially equal). -/
local macro "rel_fields " h:ident : tactic =>
  `(tactic| (constructor <;> first
      | exact ($h).supported | exact ($h).modes | exact ($h).cursorVisible | exact ($h).alt
      | exact ($h).kittySupported | exact ($h).kitty | exact ($h).keypadApp | exact ($h).cursorShape
      | exact ($h).appIdSupported | exact ($h).appId | exact ($h).pointer | exact ($h).penClean
      | exact ($h).linkOpen | exact ($h).sync | rfl | skip))

private theorem decMode_sound {s : STerm} {t : MTerm} (h : Rel e cn k0 s t) (n : Nat) (v : Bool) :
    Rel e cn k0 (decModeS s n v) (decMode t n v) := by
  unfold decModeS decMode
  rw [← h.supported]
  split
  · rel_fields h
    intro b hb; simp at hb; simpa using hb
  split
  · rel_fields h
  split
  · split
    · rel_fields h
      intro b hb; simp at hb; simpa using hb
    · rel_fields h
  split
  · rel_fields h
    show setMode t.modes n v = setMode s.modes n v
    rw [h.modes]
  · rel_fields h

private theorem other_sound {s : STerm} {t : MTerm} (h : Rel e cn k0 s t) (raw : String)
    (hp : (otherS s raw).poison = false) : Rel e cn k0 (otherS s raw) (other t raw) := by
  rw [otherS_eq] at hp ⊢
  rw [other_eq, h.kittySupported, h.appIdSupported]
  generalize otherKind raw = kind at hp ⊢
  cases kind with
  | keypad b => rel_fields h
  | kittyPop =>
    simp only at hp ⊢
    split
    · split
      · rename_i h1 h2; simp [h1, h2] at hp
      · rel_fields h
        show t.kitty - 1 = k0 + (s.kitty - 1); rw [h.kitty]; omega
    · exact h
  | kittyPush =>
    simp only
    split
    · rel_fields h
      show t.kitty + 1 = k0 + (s.kitty + 1); rw [h.kitty]; omega
    · exact h
  | appIdSet hex =>
    simp only
    split
    · rel_fields h
    · exact h
  | neutral => exact h

private theorem poison_mono_tok (s : STerm) (k : Tok) (hp : (stepTokS s k).poison = false) : s.poison = false := by
  cases k <;> simp only [stepTokS] at hp <;> try exact hp
  · unfold decModeS at hp; (repeat' split at hp) <;> exact hp
  · unfold decModeS at hp; (repeat' split at hp) <;> exact hp
  · rw [otherS_eq] at hp
    generalize otherKind _ = kind at hp
    cases kind <;> simp only at hp <;> (repeat' split at hp) <;> first | exact hp | simp at hp

theorem poison_mono (s : STerm) (it : Item) (hp : (stepS s it).poison = false) : s.poison = false := by
  cases it <;> simp only [stepS] at hp
  · exact poison_mono_tok s _ hp
  · split at hp <;> simpa using hp
  · simpa using hp
  · split at hp <;> simpa using hp
  · simpa using hp
  · simp at hp
  · simp at hp

theorem poison_mono_run (s : STerm) (items : List Item) (hp : (runS s items).poison = false) : s.poison = false := by
  induction items generalizing s with
  | nil => exact hp
  | cons it rest ih => exact poison_mono s it (ih (stepS s it) hp)

private theorem tok_sound {s : STerm} {t : MTerm} (h : Rel e cn k0 s t) (k : Tok)
    (hp : (stepTokS s k).poison = false) : Rel e cn k0 (stepTokS s k) (step t k) := by
  cases k with
  | decset n => exact decMode_sound h n true
  | decrst n => exact decMode_sound h n false
  | cursorStyle n => simp only [stepTokS, step]; rel_fields h
  | pointer p => simp only [stepTokS, step]; rel_fields h
  | sgr ps =>
    simp only [stepTokS, step]; rel_fields h
    intro b hb; simp at hb; simp [← hb]
  | osc8 p u =>
    simp only [stepTokS, step]; rel_fields h
    intro b hb; simp at hb; simp [← hb]
  | other raw => exact other_sound h raw hp
  | cup _ _ => exact h
  | text _ => exact h
  | textW _ _ => exact h

theorem kittyPush_step (t : MTerm) (flags : Nat) :
    step t (.other (kittyPushRaw flags)) = if t.kittySupported then { t with kitty := t.kitty + 1 } else t := by
  simp only [step, other, kittyPushRaw, String.toList_ofList, startsWith, endsWith]
  generalize hexChars (bytesOf (toString flags)) = mid
  have h1 : ¬ (['1', 'b', '5', 'b', '3', 'e'] ++ mid ++ ['7', '5'] = "1b3d".toList) := by
    intro h; have := congrArg (fun l => l.take 3) h; simp at this
  have h2 : ¬ (['1', 'b', '5', 'b', '3', 'e'] ++ mid ++ ['7', '5'] = "1b3e".toList) := by
    intro h; have := congrArg (fun l => l.take 3) h; simp at this
  have h3 : ¬ (['1', 'b', '5', 'b', '3', 'e'] ++ mid ++ ['7', '5'] = "1b5b3c75".toList) := by
    intro h; have := congrArg (fun l => l.take 6) h; simp at this
  have h4 : "1b5b3e".toList.isPrefixOf (['1', 'b', '5', 'b', '3', 'e'] ++ mid ++ ['7', '5']) = true := by
    rw [List.isPrefixOf_iff_prefix]
    exact ⟨mid ++ ['7', '5'], by simp⟩
  have h5 : "75".toList.isSuffixOf (['1', 'b', '5', 'b', '3', 'e'] ++ mid ++ ['7', '5']) = true := by
    rw [List.isSuffixOf_iff_suffix]
    exact ⟨['1', 'b', '5', 'b', '3', 'e'] ++ mid, by simp⟩
  simp only [h1, h2, h3, h4, h5, if_false, and_self, if_true]

/-- The sequence that sets application id `id` is not the *query* `OSC 176 ; ? ST` (true unless the
    id is the single character `?`, which OSC 176 cannot set). -/
def SettableId (id : String) : Prop := appIdSetRaw id ≠ "1b5d3137363b3f"

theorem appIdSet_step_gen (t : MTerm) (id : String) :
    step t (.other (appIdSetRaw id)) =
      if t.appIdSupported ∧ (appIdSetRaw id).toList ≠ "1b5d3137363b3f".toList then { t with appId := appIdHex id } else t := by
  simp only [step, other, startsWith, endsWith]
  simp only [appIdSetRaw, String.toList_ofList, appIdHex]
  generalize hexChars (bytesOf id) = mid
  have h1 : ¬ (['1', 'b', '5', 'd', '3', '1', '3', '7', '3', '6', '3', 'b'] ++ mid = "1b3d".toList) := by
    intro h; have := congrArg (fun l => l.take 3) h; simp at this
  have h2 : ¬ (['1', 'b', '5', 'd', '3', '1', '3', '7', '3', '6', '3', 'b'] ++ mid = "1b3e".toList) := by
    intro h; have := congrArg (fun l => l.take 3) h; simp at this
  have h3 : ¬ (['1', 'b', '5', 'd', '3', '1', '3', '7', '3', '6', '3', 'b'] ++ mid = "1b5b3c75".toList) := by
    intro h; have := congrArg (fun l => l.take 4) h; simp at this
  have h4 : "1b5b3e".toList.isPrefixOf (['1', 'b', '5', 'd', '3', '1', '3', '7', '3', '6', '3', 'b'] ++ mid) = false := by
    rw [Bool.eq_false_iff]; intro h
    rw [List.isPrefixOf_iff_prefix] at h
    obtain ⟨r, hr⟩ := h
    have := congrArg (fun l => l.take 4) hr; simp at this
  have h5 : "1b5d3137363b".toList.isPrefixOf (['1', 'b', '5', 'd', '3', '1', '3', '7', '3', '6', '3', 'b'] ++ mid) = true := by
    rw [List.isPrefixOf_iff_prefix]
    exact ⟨mid, by simp⟩
  have h6 : List.drop 12 (['1', 'b', '5', 'd', '3', '1', '3', '7', '3', '6', '3', 'b'] ++ mid) = mid := by
    simp
  simp only [h1, h2, h3, h4, h5, h6, if_false, if_true, Bool.false_eq_true, false_and]

theorem appIdSet_step (t : MTerm) (id : String) (hq : SettableId id) :
    step t (.other (appIdSetRaw id)) = if t.appIdSupported then { t with appId := appIdHex id } else t := by
  have hq' : (appIdSetRaw id).toList ≠ "1b5d3137363b3f".toList := by
    intro h; exact hq (String.toList_inj.mp h)
  rw [appIdSet_step_gen]
  simp only [hq', ne_eq, not_false_eq_true, and_true]

theorem item_sound {s : STerm} {t : MTerm} (cl : CursorState) (hq : SettableId e.appId) (h : Rel e cn k0 s t) (it : Item)
    (hp : (stepS s it).poison = false) : Rel e cn k0 (stepS s it) (run t (inst e cn cl it)) := by
  cases it with
  | tok k => simpa [inst, run, stepS] using tok_sound h k hp
  | kittyPush =>
    simp only [inst, run, List.foldl_cons, List.foldl_nil, kittyPush_step, stepS, ← h.kittySupported]
    split
    · rel_fields h
      show t.kitty + 1 = k0 + (s.kitty + 1); rw [h.kitty]; omega
    · rel_fields h
  | userStyle =>
    simp only [inst, run, List.foldl_cons, List.foldl_nil, step, stepS]; rel_fields h
  | appIdRestore =>
    simp only [inst, run, List.foldl_cons, List.foldl_nil, appIdSet_step _ _ hq, stepS, ← h.appIdSupported]
    split
    · rel_fields h
    · rel_fields h
  | showCursor =>
    simp only [inst, run, showCursorToks, List.foldl_cons, List.foldl_nil, step, decMode, stepS]
    rel_fields h
    intro b hb; simp at hb; simpa using hb
  | cursorOnly b => simp [stepS] at hp
  | opaqueW w => simp [stepS] at hp

theorem run_append (t : MTerm) (a b : List Tok) : run t (a ++ b) = run (run t a) b := by
  simp [run, List.foldl_append]

theorem runS_sound (cl : CursorState) (hq : SettableId e.appId) (items : List Item) {s : STerm} {t : MTerm}
    (h : Rel e cn k0 s t) (hp : (runS s items).poison = false) :
    Rel e cn k0 (runS s items) (run t (items.flatMap (inst e cn cl))) := by
  induction items generalizing s t with
  | nil => simpa [runS, run] using h
  | cons it rest ih =>
    simp only [List.flatMap_cons, run_append]
    have hp1 : (stepS s it).poison = false := poison_mono_run _ rest hp
    exact ih (item_sound cl hq h it hp1) hp

end VaxisModel.Lemmas.C04Sym
