/-
C04 — executable checkers on the *symbolic* lifecycle (items with holes for run-time values) and the
symbolic mode terminal, for ONE assignment `m` of the guard variables.  That they hold for every
assignment and both visibility flags of the cursor records is one evaluation by `decide +kernel`
(`C04MaskCheck`: all assignments at once, on bit masks); they are lifted to all run-time
values by `C04Sym.runS_sound` and to all sessions by induction (`C04Session`).
-/
import VaxisModel.Lemmas.C04Check
import VaxisModel.Lemmas.C04Sym

namespace VaxisModel.Lemmas.C04SymCheck
open VaxisModel.Model.Lifecycle VaxisModel.Model.Render VaxisModel.Spec.ModeTerm VaxisModel.Lemmas.C04Check VaxisModel.Lemmas.C04Sym
open VaxisModel.Gen.Modes (S suspend resume close)

/-- Values of the guard variables under assignment `m` (bit `i` = `vars[i]`). -/
def vOf (m : Nat) : String → Bool := (envOf m).v

/-- The terminal before Vaxis starts, symbolically: it implements exactly the optional modes it
    advertises; cursor shape = the style it will report as the user's, application id = the one it
    will report, everything else at its reset value. -/
def sT0 (m : Nat) : STerm :=
  { supported := (t0Of (envOf m)).supported, kittySupported := vOf m "caps.kittyKeyboard", appIdSupported := vOf m "caps.osc176" }

/-- Forget everything frames and application calls may change: cursor visibility and shape, pointer
    shape, pen, and — where the terminal implements them — the synchronized-update flag and the application id. -/
def gen (s : STerm) : STerm :=
  { s with cursorVisible := none, cursorShape := .any, pointer := .any, penClean := none,
           sync := if s.supported.contains 2026 then none else s.sync,
           appId := if s.appIdSupported then .any else s.appId }

def established (m : Nat) : STerm := runS (sT0 m) (startupS (vOf m)).wire

/-- The running invariant: what start-up established, minus what frames may change. -/
def G (m : Nat) : STerm := gen (established m)

/-- Writer state between calls while running / while suspended. -/
def Wrun (cnv clv : Bool) : SSt := { cnv := cnv, clv := clv, fresh := false }
def Wsus (cnv clv : Bool) : SSt := { cnv := cnv, clv := clv, fresh := false, suspended := true }

def sameStatic (a b : STerm) : Bool :=
  a.supported == b.supported && a.kittySupported == b.kittySupported && a.appIdSupported == b.appIdSupported

/-- Everything C04 lists is back at its prior value (symbolic counterpart of `ModeTerm.restored`). -/
def restoredS (m : Nat) (s : STerm) : Bool :=
  !s.poison && sameStatic s (sT0 m) && s.modes.all (fun x => x.2 == false) && s.cursorVisible == some true && !s.alt &&
  s.kitty == 0 && !s.keypadApp && s.cursorShape == .user && s.appId == .prior && s.pointer == .known "74657874" &&
  s.penClean == some true && s.linkOpen == some false && s.sync == some false

/-- `a` claims everything `b` claims. -/
def leS (a b : STerm) : Bool :=
  !a.poison && sameStatic a b && a.modes == b.modes && (b.cursorVisible == none || a.cursorVisible == b.cursorVisible) &&
  a.alt == b.alt && a.kitty == b.kitty && a.keypadApp == b.keypadApp && (b.cursorShape == .any || a.cursorShape == b.cursorShape) &&
  (b.appId == .any || a.appId == b.appId) && (b.pointer == .any || a.pointer == b.pointer) &&
  (b.penClean == none || a.penClean == b.penClean) && (b.linkOpen == none || a.linkOpen == b.linkOpen) &&
  (b.sync == none || a.sync == b.sync)

/-- The writer between two lifecycle calls: nothing buffered, in use, not closed; suspended or running. -/
def idleS (s : SSt) (sus : Bool) : Bool := s.buf.isEmpty && s.suspended == sus && !s.closed && !s.fresh

/-- Start-up left the writer state `s1` and the terminal `t1`: the writer idle and running; the terminal state is
    known (no value-dependent step), no hyperlink open. -/
def startOf (m : Nat) (s1 : SSt) (t1 : STerm) : Bool :=
  idleS s1 false && !t1.poison && t1.linkOpen == some false && sameStatic t1 (sT0 m)

def startB (m : Nat) : Bool := startOf m (startupS (vOf m)) (established m)

/-- What is required of the states of one Suspend / Resume / Close cycle from the running state `g`: `s2`, `r2` writer
    and terminal after Suspend, `s3`, `r3` after the Resume that follows, `s4` the writer after Close in place of
    Suspend, `s5` after Close while suspended.  (What the session statements use, no more.) -/
def cycleChk (m : Nat) (g : STerm) (s2 : SSt) (r2 : STerm) (s3 : SSt) (r3 : STerm) (s4 s5 : SSt) : Bool :=
  -- Suspend restores everything
  idleS s2 true && restoredS m r2 &&
  -- Resume re-establishes the running invariant, and exactly the modes start-up established
  idleS s3 false && leS r3 g &&
  -- Close writes what Suspend writes, Close while suspended nothing; both mark Vaxis closed
  s4.wire == s2.wire && s4.closed && s5.wire.isEmpty && s5.closed

/-- The writer as Suspend from `Wrun cnv clv` leaves it, and as the next lifecycle call finds it (what was written taken away). -/
def susS (m : Nat) (cnv clv : Bool) : SSt := interpS (vOf m) 64 suspend (Wrun cnv clv)
def susNext (m : Nat) (cnv clv : Bool) : SSt := { susS m cnv clv with wire := [], clUser := false }

/-- Suspend / Resume / Close from *any* running state `g` (visibility flags of `cursorNext` /
    `cursorLast`; every other field of the running state is a symbol or unknown). -/
def cycleOf (m : Nat) (g : STerm) (cnv clv : Bool) : Bool :=
  let s2 := susS m cnv clv
  let r2 := runS g s2.wire
  let s3 := interpS (vOf m) 64 resume (susNext m cnv clv)
  cycleChk m g s2 r2 s3 (runS r2 s3.wire) (interpS (vOf m) 64 close (Wrun cnv clv))
    (interpS (vOf m) 64 close (susNext m cnv clv))

def cycleB (m : Nat) (cnv clv : Bool) : Bool := cycleOf m (G m) cnv clv

def allB (m : Nat) : Bool :=
  startB m && cycleB m false false && cycleB m false true && cycleB m true false && cycleB m true true

end VaxisModel.Lemmas.C04SymCheck
