/-
C06 bridge — the two reference terminals agree on their common vocabulary.

`Spec.Display` (the renderer-side reference: CUP, SGR, OSC 8, text, modes, DECSCUSR; everything
terminal specific sets `bad`) and `Spec.Term` (the C06 reference: `step : T → Tok → Res`, wide-glyph
halves by `healRow`) were written independently.  Here: for every token of the common vocabulary
that the Display processes without `bad`, `Spec.Term.step` returns exactly one state
(`.accept [t']`, never `unconstrained`), and that state shows what the Display shows (`Rel`: same
size, cursor, pending wrap, pen, link, cursor visibility/shape; cells equal up to `TCell.norm`, with
`cont ↦ cont`, `poison ↦ poison`).

The row lemma (`row_bridge`): `healRow` is local — cell `i` of the healed row depends on cells `i-1, i, i+1` — and under
the invariant `WF` of the Display's rows (glyph widths 1 or 2; a cell is `cont` iff its left neighbour is a width-2
glyph) `writeRow` has a pointwise description; the two are compared column by column.
-/
import VaxisModel.Spec.Display
import VaxisModel.Lemmas.DisplayBasic
import VaxisModel.Spec.Term
import VaxisModel.Lemmas.TermBasic
namespace VaxisModel.Lemmas.C06Bridge
open VaxisModel VaxisModel.Spec VaxisModel.Spec.Term
open VaxisModel.Lemmas.EmuRefine (PrintAux.writeNarrow_eq PrintAux.writeWide_eq PrintAux.narrowCore_eq PrintAux.wideCore_eq
  setGrid_primary grid_primary)
open VaxisModel.Spec.Display (DCell ownerOf glyphWidthAt poisonPartial writeRow)

def isWideD : DCell → Bool
  | DCell.glyph _ w _ _ _ => decide (2 ≤ w)
  | _ => false
def wideT : TCell → Bool
  | TCell.glyph _ w _ _ => decide (2 ≤ w)
  | _ => false

def mapCell (dec : String → List Nat) : DCell → TCell
  | DCell.glyph g w st _ lk => TCell.glyph (dec g) w st (dec lk)
  | DCell.cont => TCell.cont
  | DCell.poison => TCell.poison

def CellEq (dec : String → List Nat) (d : DCell) (t : TCell) : Prop := (mapCell dec d).norm = t.norm

theorem cellEq_cont (dec : String → List Nat) (d : DCell) (t : TCell) (h : CellEq dec d t) :
    (t = TCell.cont ↔ d = DCell.cont) := by
  unfold CellEq at h
  cases d <;> cases t <;> simp [mapCell, TCell.norm] at h ⊢ <;> (try split at h) <;> simp_all

theorem cellEq_poison (dec : String → List Nat) (d : DCell) (t : TCell) (h : CellEq dec d t) :
    (t = TCell.poison ↔ d = DCell.poison) := by
  unfold CellEq at h
  cases d <;> cases t <;> simp [mapCell, TCell.norm] at h ⊢ <;> (try split at h) <;> simp_all

theorem cellEq_wide (dec : String → List Nat) (d : DCell) (t : TCell) (h : CellEq dec d t) :
    wideT t = isWideD d := by
  unfold CellEq at h
  cases d <;> cases t <;> simp [mapCell, TCell.norm, wideT, isWideD] at h ⊢ <;> (try split at h) <;> (try split at h) <;> simp_all <;> omega

/-- What `healRow` does to one cell, given whether the previous cell is a wide glyph and the next cell. -/
def healCell (prevWide : Bool) (cur : TCell) (next : Option TCell) : TCell :=
  if cur = .cont then (if prevWide then .cont else .poison)
  else if wideT cur then (if next = some .cont then cur else .poison)
  else cur

def wideAt (r : TRow) (k : Nat) : Bool := (r[k]?).any wideT

theorem healCell_noncont (b b' : Bool) (x : TCell) (n : Option TCell) (h : x ≠ .cont) :
    healCell b x n = healCell b' x n := by
  simp only [healCell, h, if_false]

theorem healCell_cont (b : Bool) (n : Option TCell) :
    healCell b TCell.cont n = if b then TCell.cont else TCell.poison := by
  simp [healCell]

theorem wideT_not_cont (t : TCell) (h : wideT t = true) : t ≠ TCell.cont := by
  intro hc; rw [hc] at h; simp [wideT] at h

theorem healCell_wide (b : Bool) (t : TCell) (n : Option TCell) (h : wideT t = true) :
    healCell b t n = if n = some TCell.cont then t else TCell.poison := by
  simp [healCell, wideT_not_cont t h, h]

theorem healCell_other (b : Bool) (t : TCell) (n : Option TCell) (h1 : t ≠ TCell.cont) (h2 : wideT t = false) :
    healCell b t n = t := by
  simp [healCell, h1, h2]

theorem head_ne_cont {rest : TRow} (h : ∀ xs, rest = TCell.cont :: xs → False) : rest[0]? ≠ some .cont := by
  cases rest with
  | nil => simp
  | cons x xs => intro hx; simp at hx; exact (h xs (by rw [hx])).elim

theorem healGo_get (r : TRow) : ∀ (b : Bool) (i : Nat),
    (healGo b r)[i]? = (r[i]?).map fun c =>
      healCell (match i with | 0 => b | k + 1 => wideAt r k) c r[i + 1]? := by
  induction r with
  | nil => intro b i; simp [healGo]
  | cons c rest ih =>
    intro b i
    cases i with
    | zero =>
      cases c with
      | cont => simp [healGo, healCell]
      | blank bg => simp [healGo, healCell, wideT]
      | poison => simp [healGo, healCell, wideT]
      | glyph g w st l =>
        simp only [healGo]
        split
        · split
          · simp [healCell, wideT, *]
          · rename_i h
            have := head_ne_cont h
            simp [healCell, wideT, *]
        · simp [healCell, wideT, *]
    | succ i =>
      have key : ∀ b', (b' = wideT c ∨ (rest[0]? ≠ some .cont)) →
          (healGo b' rest)[i]? = (rest[i]?).map fun x =>
            healCell (wideAt (c :: rest) i) x rest[i + 1]? := by
        intro b' hb'
        rw [ih b' i]
        cases i with
        | zero =>
          cases hx : rest[0]? with
          | none => simp
          | some x =>
            simp only [Option.map_some, wideAt, List.getElem?_cons_zero, Option.any_some]
            rcases hb' with h | h
            · rw [h]
            · rw [healCell_noncont b' (wideT c) x _ (by intro hc; rw [hc] at hx; exact h hx)]
        | succ k => simp [wideAt]
      cases c with
      | cont => simpa [healGo] using key false (Or.inl rfl)
      | blank bg => simpa [healGo] using key false (Or.inl rfl)
      | poison => simpa [healGo] using key false (Or.inl rfl)
      | glyph g w st l =>
        simp only [healGo]
        split
        · split
          · simpa using key true (Or.inl (by simp [wideT, *]))
          · rename_i h
            have := head_ne_cont h
            simpa using key false (Or.inr this)
        · simpa using key false (Or.inl (by simp [wideT]; omega))

/-- Is the cell before column `i` the left half of a wide glyph? -/
def prevWide (r : TRow) : Nat → Bool
  | 0 => false
  | k + 1 => wideAt r k

theorem healRow_get (r : TRow) (i : Nat) :
    (healRow r)[i]? = (r[i]?).map fun c => healCell (prevWide r i) c r[i + 1]? := by
  unfold healRow
  rw [healGo_get r false i]
  cases i <;> rfl

theorem healGo_length (r : TRow) : ∀ b, (healGo b r).length = r.length := by
  induction r with
  | nil => intro b; rfl
  | cons c rest ih =>
    intro b
    cases c <;> simp only [healGo, List.length_cons, ih]
    split
    · split <;> simp only [List.length_cons, ih]
    · simp only [List.length_cons, ih]

theorem healRow_length (r : TRow) : (healRow r).length = r.length := healGo_length r false

def wideD (r : List DCell) (k : Nat) : Bool := (r[k]?).any isWideD

structure WF (r : List DCell) : Prop where
  width : ∀ (i : Nat) g w st lp lk, r[i]? = some (DCell.glyph g w st lp lk) → w = 1 ∨ w = 2
  contL : ∀ i : Nat, r[i]? = some .cont → 0 < i ∧ wideD r (i - 1) = true
  contR : ∀ i : Nat, wideD r i = true → r[i + 1]? = some .cont

theorem ownerOf_of_ne (r : List DCell) (i : Nat) (h : r[i]? ≠ some .cont) : ownerOf r i = i := by
  cases i with
  | zero => rfl
  | succ i =>
    unfold ownerOf
    split
    · rename_i h'; exact (h h').elim
    · rfl

theorem wideD_not_cont (r : List DCell) (i : Nat) (h : wideD r i = true) : r[i]? ≠ some .cont := by
  intro hc; simp [wideD, hc, isWideD] at h

theorem ownerOf_cont (r : List DCell) (hwf : WF r) (i : Nat) (h : r[i]? = some .cont) : ownerOf r i = i - 1 := by
  obtain ⟨hpos, hw⟩ := hwf.contL i h
  cases i with
  | zero => omega
  | succ i =>
    unfold ownerOf
    rw [h]
    exact ownerOf_of_ne r i (wideD_not_cont r i hw)

/-- start column of the glyph covering column `i` of a well-formed row -/
def own (r : List DCell) (i : Nat) : Nat := if r[i]? = some .cont then i - 1 else i

theorem ownerOf_wf (r : List DCell) (hwf : WF r) (i : Nat) : ownerOf r i = own r i := by
  unfold own
  split
  · exact ownerOf_cont r hwf i ‹_›
  · exact ownerOf_of_ne r i ‹_›

theorem glyphWidthAt_wide (r : List DCell) (hwf : WF r) (o : Nat) (h : wideD r o = true) : glyphWidthAt r o = 2 := by
  unfold glyphWidthAt
  cases hx : r[o]? with
  | none => simp [wideD, hx] at h
  | some x =>
    cases x with
    | glyph g w st lp lk =>
      have := hwf.width o g w st lp lk hx
      simp [wideD, hx, isWideD] at h
      simp; omega
    | cont => simp [wideD, hx, isWideD] at h
    | poison => simp [wideD, hx, isWideD] at h

theorem glyphWidthAt_not_wide (r : List DCell) (o : Nat) (h : wideD r o = false) : glyphWidthAt r o ≤ 1 := by
  unfold glyphWidthAt
  cases hx : r[o]? with
  | none => simp
  | some x =>
    cases x with
    | glyph g w st lp lk =>
      simp [wideD, hx, isWideD] at h
      simp; omega
    | cont => simp
    | poison => simp

theorem pp_get (r : List DCell) (hwf : WF r) (lo hi i j : Nat) :
    (poisonPartial r lo hi i)[j]? = (r[j]?).map fun x =>
      if wideD r (own r i) = true ∧ ¬(lo ≤ own r i ∧ own r i + 2 ≤ hi) ∧ own r i ≤ j ∧ j < own r i + 2
      then DCell.poison else x := by
  unfold poisonPartial
  simp only [ownerOf_wf r hwf]
  cases hw : wideD r (own r i) with
  | false =>
    have := glyphWidthAt_not_wide r _ hw
    simp [this]
  | true =>
    have h2 := glyphWidthAt_wide r hwf _ hw
    simp only [h2, show ¬ (2 ≤ 1) by omega, if_false]
    split
    · rename_i h; simp [h]
    · rename_i h
      rw [ListBasic.getElem?_zipRange]
      simp [h]

theorem pp_wf (r : List DCell) (hwf : WF r) (lo hi i : Nat) : WF (poisonPartial r lo hi i) := by
  have hg := pp_get r hwf lo hi i
  generalize poisonPartial r lo hi i = r1 at hg ⊢
  generalize own r i = o at hg
  -- the cells of `r1` that are not poison are those of `r`
  have hsame : ∀ j x, r1[j]? = some x → x ≠ DCell.poison →
      r[j]? = some x ∧ ¬(wideD r o = true ∧ ¬(lo ≤ o ∧ o + 2 ≤ hi) ∧ o ≤ j ∧ j < o + 2) := by
    intro j x h hx
    rw [hg j] at h
    cases hy : r[j]? with
    | none => simp [hy] at h
    | some y =>
      simp only [hy, Option.map_some, Option.some.injEq] at h
      split at h
      · exact (hx h.symm).elim
      · exact ⟨by rw [h], ‹_›⟩
  have hkeep : ∀ j, ¬(wideD r o = true ∧ ¬(lo ≤ o ∧ o + 2 ≤ hi) ∧ o ≤ j ∧ j < o + 2) → r1[j]? = r[j]? := by
    intro j h
    rw [hg j]
    cases hy : r[j]? with
    | none => rfl
    | some y => simp only [Option.map_some, if_neg h]
  have hwd : ∀ j, wideD r1 j = true → wideD r j = true ∧
      ¬(wideD r o = true ∧ ¬(lo ≤ o ∧ o + 2 ≤ hi) ∧ o ≤ j ∧ j < o + 2) := by
    intro j h
    cases hx : r1[j]? with
    | none => simp [wideD, hx] at h
    | some x =>
      have hne : x ≠ DCell.poison := by
        intro hp; simp [wideD, hx, hp, isWideD] at h
      obtain ⟨h1, h2⟩ := hsame j x hx hne
      refine ⟨?_, h2⟩
      simpa [wideD, hx, h1] using h
  refine ⟨?_, ?_, ?_⟩
  · intro j g w st lp lk h
    exact hwf.width j g w st lp lk (hsame j _ h (by simp)).1
  · intro j h
    obtain ⟨h1, h2⟩ := hsame j _ h (by simp)
    obtain ⟨hpos, hw⟩ := hwf.contL j h1
    refine ⟨hpos, ?_⟩
    have : r1[j - 1]? = r[j - 1]? := by
      apply hkeep
      rintro ⟨a, b, c, d⟩
      by_cases hjo : j - 1 = o
      · exact h2 ⟨a, b, by omega, by omega⟩
      · have : j - 1 = o + 1 := by omega
        have hc := hwf.contR o a
        rw [← this] at hc
        exact wideD_not_cont r _ hw hc
    simpa [wideD, this] using hw
  · intro j h
    obtain ⟨h1, h2⟩ := hwd j h
    have hc := hwf.contR j h1
    rw [← hc]
    apply hkeep
    rintro ⟨a, b, c, d⟩
    by_cases hjo : j + 1 = o
    · rw [hjo] at hc; exact wideD_not_cont r _ a hc
    · exact h2 ⟨a, b, by omega, by omega⟩

theorem pp_noop (r : List DCell) (hwf : WF r) (lo hi i : Nat)
    (h : wideD r (own r i) = false ∨ (lo ≤ own r i ∧ own r i + 2 ≤ hi)) : poisonPartial r lo hi i = r := by
  apply List.ext_getElem?
  intro j
  rw [pp_get r hwf]
  cases hy : r[j]? with
  | none => rfl
  | some y =>
    simp only [Option.map_some]
    rw [if_neg]
    rintro ⟨a, b, _, _⟩
    rcases h with h | h
    · rw [h] at a; cases a
    · exact b h

theorem pp_hit (r : List DCell) (hwf : WF r) (lo hi i o : Nat) (ho : own r i = o)
    (hw : wideD r o = true) (hout : ¬(lo ≤ o ∧ o + 2 ≤ hi)) (j : Nat) :
    (poisonPartial r lo hi i)[j]? = if j = o ∨ j = o + 1 then (r[j]?).map (fun _ => DCell.poison) else r[j]? := by
  rw [pp_get r hwf, ho]
  cases hy : r[j]? with
  | none => simp
  | some y =>
    simp only [Option.map_some, hw, hout, true_and, not_false_eq_true]
    by_cases h : j = o ∨ j = o + 1
    · rw [if_pos h, if_pos (by omega)]
    · rw [if_neg h, if_neg (by omega)]

theorem pp_hit_eq (r : List DCell) (hwf : WF r) (lo hi i o : Nat) (ho : own r i = o)
    (hw : wideD r o = true) (hout : ¬(lo ≤ o ∧ o + 2 ≤ hi)) :
    poisonPartial r lo hi i = (r.set o DCell.poison).set (o + 1) DCell.poison := by
  apply List.ext_getElem?
  intro j
  rw [pp_hit r hwf lo hi i o ho hw hout j]
  grind

theorem cont_succ_iff (r : List DCell) (hwf : WF r) (c : Nat) : r[c + 1]? = some DCell.cont ↔ wideD r c = true := by
  constructor
  · intro h; exact (hwf.contL (c + 1) h).2
  · exact hwf.contR c

/-- `writeRow r c w cell` at column `j`, on a well-formed row: the cell, its continuation, a poisoned half of a wide
    glyph cut on the left or on the right, or the old cell. -/
def writeSpec (r : List DCell) (c w : Nat) (cell : DCell) (j : Nat) : Option DCell :=
  (r[j]?).map fun old =>
    if j = c then cell else if c < j ∧ j < c + w then DCell.cont
    else if j + 1 = c ∧ r[c]? = some DCell.cont then DCell.poison
    else if j = c + w ∧ r[c + w]? = some DCell.cont then DCell.poison else old

theorem writeRow_get (r : List DCell) (hwf : WF r) (c w : Nat) (hw : w = 1 ∨ w = 2) (hfit : c + w ≤ r.length)
    (cell : DCell) (j : Nat) : (writeRow r c w cell)[j]? = writeSpec r c w cell j := by
  rw [DisplayBasic.writeRow_get0]
  have hc1 := cont_succ_iff r hwf c
  have hc2 := cont_succ_iff r hwf (c + 1)
  have hnc := wideD_not_cont r c
  have hnc1 := wideD_not_cont r (c + 1)
  by_cases hA : r[c]? = some DCell.cont
  · obtain ⟨hpos, hwp⟩ := hwf.contL c hA
    have ho : own r c = c - 1 := by simp [own, hA]
    have h1 : poisonPartial r c (c + w) c = (r.set (c - 1) DCell.poison).set c DCell.poison := by
      have := pp_hit_eq r hwf c (c + w) c (c - 1) ho hwp (by omega)
      rwa [show c - 1 + 1 = c by omega] at this
    have hwf1 := pp_wf r hwf c (c + w) c
    rw [h1] at hwf1 ⊢
    have hWc : wideD r c = false := by simp [wideD, hA, isWideD]
    rcases hw with rfl | rfl
    · rw [pp_noop _ hwf1 _ _ _ (Or.inl (by simp [own, wideD, List.getElem?_set]; grind [isWideD]))]
      unfold writeSpec; grind
    · by_cases hW : wideD r (c + 1) = true
      · rw [pp_hit_eq _ hwf1 c (c + 2) (c + 2 - 1) (c + 1) (by simp [own]; grind)
          (by simp [wideD] at hW ⊢; grind) (by omega)]
        unfold writeSpec; grind
      · rw [pp_noop _ hwf1 _ _ _ (Or.inl (by simp [own, wideD, List.getElem?_set] at hW ⊢; grind))]
        unfold writeSpec; grind
  · have ho : own r c = c := by simp [own, hA]
    have hwf1 := pp_wf r hwf c (c + w) c
    by_cases hB : wideD r c = true
    · have hc1' := hc1.2 hB
      have hW1 : wideD r (c + 1) = false := by simp [wideD, hc1', isWideD]
      rcases hw with rfl | rfl
      · have h1 := pp_hit_eq r hwf c (c + 1) c c ho hB (by omega)
        rw [h1] at hwf1 ⊢
        rw [pp_noop _ hwf1 _ _ _ (Or.inl (by simp [own, wideD]; grind [isWideD]))]
        unfold writeSpec; grind
      · have h1 := pp_noop r hwf c (c + 2) c (Or.inr (by omega))
        rw [h1]
        rw [pp_noop r hwf _ _ _ (Or.inr (by simp [own, hc1']))]
        unfold writeSpec; grind
    · have hB' : wideD r c = false := by simpa using hB
      have h1 := pp_noop r hwf c (c + w) c (Or.inl (by rw [ho]; exact hB'))
      rw [h1]
      have hc1' : r[c + 1]? ≠ some DCell.cont := fun h => hB (hc1.1 h)
      rcases hw with rfl | rfl
      · rw [pp_noop r hwf _ _ _ (Or.inl (by simp [own, hA, hB']))]
        unfold writeSpec; grind
      · have ho2 : own r (c + 2 - 1) = c + 1 := by simp [own, hc1']
        by_cases hW : wideD r (c + 1) = true
        · rw [pp_hit_eq r hwf c (c + 2) (c + 2 - 1) (c + 1) ho2 hW (by omega)]
          unfold writeSpec; grind
        · rw [pp_noop r hwf _ _ _ (Or.inl (by rw [ho2]; simpa using hW))]
          unfold writeSpec; grind


/-- The five kinds of columns of an edited row. -/
theorem writeRow_cases (r : List DCell) (hwf : WF r) (c w : Nat) (hw : w = 1 ∨ w = 2) (hfit : c + w ≤ r.length)
    (cell : DCell) (j : Nat) :
    (j = c ∧ (writeRow r c w cell)[j]? = some cell) ∨
    (w = 2 ∧ j = c + 1 ∧ (writeRow r c w cell)[j]? = some DCell.cont) ∨
    (j + 1 = c ∧ r[c]? = some DCell.cont ∧ (writeRow r c w cell)[j]? = some DCell.poison) ∨
    (j = c + w ∧ r[j]? = some DCell.cont ∧ (writeRow r c w cell)[j]? = some DCell.poison) ∨
    (j ≠ c ∧ ¬(w = 2 ∧ j = c + 1) ∧ ¬(j + 1 = c ∧ r[c]? = some DCell.cont) ∧
      ¬(j = c + w ∧ r[j]? = some DCell.cont) ∧ (writeRow r c w cell)[j]? = r[j]?) := by
  rw [writeRow_get r hwf c w hw hfit cell j]
  unfold writeSpec
  cases hx : r[j]? with
  | none => have := List.getElem?_eq_none_iff.mp hx; simp only [Option.map_none]; grind
  | some x => simp only [Option.map_some]; grind (splits := 40)

theorem wideD_congr (r r' : List DCell) (j : Nat) (h : r'[j]? = r[j]?) : wideD r' j = wideD r j := by
  unfold wideD; rw [h]

theorem writeRow_wf (r : List DCell) (hwf : WF r) (c w : Nat) (hw : w = 1 ∨ w = 2) (hfit : c + w ≤ r.length)
    (g : String) (st : TStyle) (lp lk : String) : WF (writeRow r c w (DCell.glyph g w st lp lk)) := by
  have hcs := writeRow_cases r hwf c w hw hfit (DCell.glyph g w st lp lk)
  generalize writeRow r c w (DCell.glyph g w st lp lk) = r' at hcs
  have hc1 := cont_succ_iff r hwf
  have hnc := wideD_not_cont r
  -- `hcs j` says which of the five kinds column `j` is; a neighbour is asked through `hcs (j - 1)` / `hcs (j + 1)`
  refine ⟨?_, ?_, ?_⟩
  · intro j g' w' st' lp' lk' h
    rcases hcs j with ⟨_, h1⟩ | ⟨_, _, h1⟩ | ⟨_, _, h1⟩ | ⟨_, _, h1⟩ | ⟨_, _, _, _, h1⟩
    · rw [h1] at h; cases h; exact hw
    · rw [h1] at h; cases h
    · rw [h1] at h; cases h
    · rw [h1] at h; cases h
    · rw [h1] at h; exact hwf.width j g' w' st' lp' lk' h
  · intro j h
    rcases hcs j with ⟨_, h1⟩ | ⟨hw2, hj, h1⟩ | ⟨_, _, h1⟩ | ⟨_, _, h1⟩ | ⟨n1, n2, n3, n4, h1⟩
    · rw [h1] at h; cases h
    · refine ⟨by omega, ?_⟩
      rcases hcs c with ⟨_, h2⟩ | ⟨_, _, _⟩ | ⟨_, _, _⟩ | ⟨_, _, _⟩ | ⟨_, _, _, _, _⟩ <;> try omega
      rw [show j - 1 = c by omega]
      simp [wideD, h2, isWideD, hw2]
    · rw [h1] at h; cases h
    · rw [h1] at h; cases h
    · rw [h1] at h
      obtain ⟨hpos, hwd⟩ := hwf.contL j h
      refine ⟨hpos, ?_⟩
      have hnc' := hnc _ hwd
      rcases hcs (j - 1) with ⟨_, _⟩ | ⟨_, _, _⟩ | ⟨_, _, _⟩ | ⟨_, h2, _⟩ | ⟨_, _, _, _, h2⟩
      · exfalso
        rcases hw with hw | hw
        · exact n4 ⟨by omega, h⟩
        · exact n2 ⟨hw, by omega⟩
      · exfalso; exact n4 ⟨by omega, h⟩
      · exfalso; omega
      · exact (hnc' h2).elim
      · rw [wideD_congr r r' _ h2]; exact hwd
  · intro j h
    rcases hcs j with ⟨hj, h1⟩ | ⟨_, _, h1⟩ | ⟨_, _, h1⟩ | ⟨_, _, h1⟩ | ⟨n1, n2, n3, n4, h1⟩
    · have hw2 : w = 2 := by
        simp [wideD, h1, isWideD] at h; omega
      rcases hcs (c + 1) with ⟨_, _⟩ | ⟨_, _, h2⟩ | ⟨_, _, _⟩ | ⟨_, _, _⟩ | ⟨_, _, _, _, _⟩ <;> try omega
      · rw [hj]; exact h2
    · simp [wideD, h1, isWideD] at h
    · simp [wideD, h1, isWideD] at h
    · simp [wideD, h1, isWideD] at h
    · rw [wideD_congr r r' _ h1] at h
      have hc := hwf.contR j h
      have hnc' := hnc _ h
      rcases hcs (j + 1) with ⟨hj, _⟩ | ⟨_, hj, _⟩ | ⟨_, _, _⟩ | ⟨_, h2, _⟩ | ⟨_, _, _, _, h2⟩
      · exfalso; exact n3 ⟨hj, by rw [← hj]; exact hc⟩
      · exfalso; omega
      · exfalso
        have : r[j + 1 + 1]? = some DCell.cont := by rename_i a b c; rw [a]; exact b
        exact hnc (j + 1) ((hc1 (j + 1)).1 this) hc
      · exfalso
        rename_i hj _
        rcases hw with hw | hw
        · exact n1 (by omega)
        · exact n2 ⟨hw, by omega⟩
      · rw [h2]; exact hc

structure RowRel (dec : String → List Nat) (dr : List DCell) (tr : TRow) : Prop where
  len : dr.length = tr.length
  cell : ∀ (j : Nat) d t, dr[j]? = some d → tr[j]? = some t → CellEq dec d t

theorem RowRel.getD {dec : String → List Nat} {dr : List DCell} {tr : TRow} (h : RowRel dec dr tr) {j : Nat} {d : DCell}
    (hd : dr[j]? = some d) : ∃ t, tr[j]? = some t ∧ CellEq dec d t := by
  have hj : j < tr.length := by
    rw [← h.len]
    exact (List.getElem?_eq_some_iff.1 hd).1
  exact ⟨tr[j], List.getElem?_eq_getElem hj, h.cell j d _ hd (List.getElem?_eq_getElem hj)⟩

theorem RowRel.getT {dec : String → List Nat} {dr : List DCell} {tr : TRow} (h : RowRel dec dr tr) {j : Nat} {t : TCell}
    (ht : tr[j]? = some t) : ∃ d, dr[j]? = some d ∧ CellEq dec d t := by
  have hj : j < dr.length := by
    rw [h.len]
    exact (List.getElem?_eq_some_iff.1 ht).1
  exact ⟨dr[j], List.getElem?_eq_getElem hj, h.cell j _ t (List.getElem?_eq_getElem hj) ht⟩

theorem RowRel.cont {dec : String → List Nat} {dr : List DCell} {tr : TRow} (h : RowRel dec dr tr) (j : Nat) :
    tr[j]? = some TCell.cont ↔ dr[j]? = some DCell.cont := by
  constructor
  · intro ht
    obtain ⟨d, hd, hc⟩ := h.getT ht
    rw [hd, (cellEq_cont dec d _ hc).1 rfl]
  · intro hd
    obtain ⟨t, ht, hc⟩ := h.getD hd
    rw [ht, (cellEq_cont dec _ t hc).2 rfl]

theorem RowRel.wide {dec : String → List Nat} {dr : List DCell} {tr : TRow} (h : RowRel dec dr tr) (j : Nat) :
    wideAt tr j = wideD dr j := by
  unfold wideAt wideD
  cases hd : dr[j]? with
  | some d =>
    obtain ⟨t, ht, hc⟩ := h.getD hd
    rw [ht]
    exact cellEq_wide dec d t hc
  | none =>
    cases ht : tr[j]? with
    | none => rfl
    | some t =>
      obtain ⟨d, hd', _⟩ := h.getT ht
      rw [hd] at hd'; cases hd'

/-- The row lemma: the Display's `writeRow` and Spec.Term's "set the cells, then heal the row" agree.
    `e` is the Term row after setting the cells (`E1`–`E3` say what it is). -/
theorem row_bridge (dec : String → List Nat) (dr : List DCell) (tr e : TRow) (hwf : WF dr) (hrel : RowRel dec dr tr)
    (c w : Nat) (hw : w = 1 ∨ w = 2) (hfit : c + w ≤ dr.length)
    (g : String) (st : TStyle) (lp lk : String)
    (E0 : e.length = tr.length)
    (E1 : e[c]? = some (TCell.glyph (dec g) w st (dec lk)))
    (E2 : w = 2 → e[c + 1]? = some TCell.cont)
    (E3 : ∀ j, j ≠ c → ¬(w = 2 ∧ j = c + 1) → e[j]? = tr[j]?) :
    RowRel dec (writeRow dr c w (DCell.glyph g w st lp lk)) (healRow e) := by
  refine ⟨by rw [DisplayBasic.writeRow_length, healRow_length, E0, hrel.len], ?_⟩
  intro j d' t' hd' ht'
  rw [healRow_get] at ht'
  have hxw : wideT (TCell.glyph (dec g) w st (dec lk)) = decide (2 ≤ w) := rfl
  rcases writeRow_cases dr hwf c w hw hfit (DCell.glyph g w st lp lk) j with
    ⟨hj, h1⟩ | ⟨hw2, hj, h1⟩ | ⟨hj, hc, h1⟩ | ⟨hj, hc, h1⟩ | ⟨n1, n2, n3, n4, h1⟩
  · -- the written glyph
    rw [h1] at hd'; cases hd'
    rw [hj, E1] at ht'
    simp only [Option.map_some, Option.some.injEq] at ht'
    rcases hw with hw | hw
    · rw [healCell_other _ _ _ (by simp) (by rw [hxw]; simp [hw])] at ht'
      rw [← ht']; rfl
    · rw [healCell_wide _ _ _ (by rw [hxw]; simp [hw]), E2 hw, if_pos rfl] at ht'
      rw [← ht']; rfl
  · -- its continuation cell
    rw [h1] at hd'; cases hd'
    rw [hj, E2 hw2] at ht'
    simp only [Option.map_some, Option.some.injEq, healCell_cont, prevWide, wideAt, E1, Option.any_some, hxw] at ht'
    rw [if_pos (by simp [hw2])] at ht'
    rw [← ht']; rfl
  · -- the left half of a wide glyph whose right half is overwritten
    rw [h1] at hd'; cases hd'
    obtain ⟨_, hwd⟩ := hwf.contL c hc
    rw [show c - 1 = j by omega, ← hrel.wide] at hwd
    rw [E3 j (by omega) (by omega)] at ht'
    cases htj : tr[j]? with
    | none => rw [htj] at ht'; cases ht'
    | some t =>
      rw [htj] at ht'
      have : wideT t = true := by simpa [wideAt, htj] using hwd
      simp only [Option.map_some, Option.some.injEq, healCell_wide _ _ _ this, hj, E1] at ht'
      rw [if_neg (by simp)] at ht'
      rw [← ht']; rfl
  · -- the right half of a wide glyph whose left half is overwritten
    rw [h1] at hd'; cases hd'
    rw [E3 j (by omega) (by omega), (hrel.cont j).2 hc] at ht'
    have hpw : wideAt e (c + w - 1) = false := by
      rcases hw with hw | hw
      · rw [show c + w - 1 = c by omega]; simp [wideAt, E1, wideT, hw]
      · rw [show c + w - 1 = c + 1 by omega]; simp [wideAt, E2 hw, wideT]
    have hjs : j = (c + w - 1) + 1 := by omega
    rw [hjs] at ht'
    simp only [Option.map_some, Option.some.injEq, healCell_cont, prevWide, hpw] at ht'
    rw [← ht']; rfl
  · -- untouched cells
    rw [h1] at hd'
    rw [E3 j n1 n2] at ht'
    obtain ⟨t, htj, hceq⟩ := hrel.getD hd'
    rw [htj] at ht'
    simp only [Option.map_some, Option.some.injEq] at ht'
    suffices hs : healCell (prevWide e j) t e[j + 1]? = t by
      rw [hs] at ht'; rw [← ht']; exact hceq
    by_cases htc : t = TCell.cont
    · have hdc : d' = DCell.cont := (cellEq_cont dec d' t hceq).1 htc
      rw [hdc] at hd'
      obtain ⟨hpos, hwd⟩ := hwf.contL j hd'
      obtain ⟨k, rfl⟩ : ∃ k, j = k + 1 := ⟨j - 1, by omega⟩
      have hk : e[k]? = tr[k]? := by
        apply E3
        · intro hk
          rcases hw with hw | hw
          · exact n4 ⟨by omega, hd'⟩
          · exact n2 ⟨hw, by omega⟩
        · rintro ⟨hw, hk⟩; exact n4 ⟨by omega, hd'⟩
      have : wideAt e k = true := by
        rw [← hrel.wide] at hwd
        simpa [wideAt, hk] using hwd
      rw [htc, healCell_cont]
      simp [prevWide, this]
    · by_cases htw : wideT t = true
      · have hdw : wideD dr j = true := by
          rw [← hrel.wide]; simp [wideAt, htj, htw]
        have hc := hwf.contR j hdw
        have hk : e[j + 1]? = tr[j + 1]? := by
          apply E3
          · intro hk; exact n3 ⟨hk, by rw [← hk]; exact hc⟩
          · rintro ⟨_, hk⟩; omega
        rw [healCell_wide _ _ _ htw, hk, (hrel.cont (j + 1)).2 hc, if_pos rfl]
      · exact healCell_other _ _ _ htc (by simpa using htw)

abbrev RTok := VaxisModel.Model.Render.Tok

/-- What is assumed of the decoder of the hex strings of the Display model. -/
structure DecOk (dec : String → List Nat) : Prop where
  empty : dec "" = []
  empty_inj : ∀ s, dec s = [] → s = ""
  space : dec "20" = [32]
  space_inj : ∀ s, dec s = [32] → s = "20"

/-- The renderer's tokens in Spec.Term's vocabulary (`none`: outside it). -/
def tokT (dec : String → List Nat) (tw : String → Nat) : RTok → Option Spec.Term.Tok
  | .cup r c => some (.cup r.toNat c.toNat)
  | .sgr ps => some (.sgr ps)
  | .osc8 p u => some (.osc8 (dec p) (dec u))
  | .text g => some (.print (dec g) (tw g))
  | .decset n => if n = 25 then some (.showCursor true) else none
  | .decrst n => if n = 25 then some (.showCursor false) else none
  | .cursorStyle n => some (.cursorShape n)
  | _ => none

/-- The common vocabulary: CUP, SGR, OSC 8, text of width ≤ 2, DECTCEM, DECSCUSR. -/
def Common (tw : String → Nat) : RTok → Prop
  | .cup _ _ => True
  | .sgr _ => True
  | .osc8 _ _ => True
  | .text g => tw g ≤ 2
  | .decset n => n = 25
  | .decrst n => n = 25
  | .cursorStyle _ => True
  | _ => False

instance (tw : String → Nat) (k : RTok) : Decidable (Common tw k) := by
  cases k <;> unfold Common <;> infer_instance

/-- Every step must return exactly one state. -/
def runExact : T → List Spec.Term.Tok → Option T
  | t, [] => some t
  | t, k :: ks =>
    match Spec.Term.step t k with
    | .accept [t'] => runExact t' ks
    | _ => none

structure GridRel (dec : String → List Nat) (rows cols : Nat) (dg : List (List DCell)) (tg : TGrid) : Prop where
  dlen : dg.length = rows
  tlen : tg.length = rows
  row : ∀ (i : Nat) dr, dg[i]? = some dr →
    ∃ tr, tg[i]? = some tr ∧ dr.length = cols ∧ WF dr ∧ RowRel dec dr tr

structure Rel (dec : String → List Nat) (d : Display.Term) (t : T) : Prop where
  rows : t.rows = d.rows
  cols : t.cols = d.cols
  onAlt : t.onAlt = false
  row : t.row = d.row
  col : t.col = d.col
  pw : t.pw = d.pw
  pen : t.pen = d.pen
  link : t.link = dec d.link
  cursorVisible : t.cursorVisible = d.cursorVisible
  cursorShape : t.cursorShape = d.cursorShape
  rowLt : d.row < d.rows
  colLt : d.col < d.cols
  top : t.top = 0
  bottom : t.bottom = t.rows - 1
  bad : d.bad = none
  grid : GridRel dec d.rows d.cols d.grid t.primary

open VaxisModel.Spec.Display (putGlyph) in
theorem putGlyph_eq (t : Display.Term) (g : String) (w : Nat) (r : List DCell)
    (h1 : w ≠ 0) (h2 : t.pw = false) (h3 : t.col + w ≤ t.cols) (hr : t.grid[t.row]? = some r) :
    putGlyph t g w =
      if t.col + w = t.cols then
        { t with grid := t.grid.set t.row (writeRow r t.col w (DCell.glyph g w t.pen t.linkParams t.link)),
                 col := t.cols - 1, pw := true }
      else
        { t with grid := t.grid.set t.row (writeRow r t.col w (DCell.glyph g w t.pen t.linkParams t.link)),
                 col := t.col + w } := by
  unfold putGlyph
  rw [if_neg h1, h2, if_neg (by simp), if_neg (by omega), hr]

theorem gridRel_update (dec : String → List Nat) (rows cols : Nat) (dg : List (List DCell)) (tg : TGrid)
    (h : GridRel dec rows cols dg tg) (i : Nat) (dr' : List DCell) (f : TRow → TRow)
    (hnew : ∀ tr, tg[i]? = some tr → dr'.length = cols ∧ WF dr' ∧ RowRel dec dr' (f tr)) :
    GridRel dec rows cols (dg.set i dr') (tg.modify i f) := by
  refine ⟨by rw [List.length_set]; exact h.dlen, by rw [List.length_modify]; exact h.tlen, ?_⟩
  intro k dr hk
  rw [List.getElem?_set] at hk
  rw [List.getElem?_modify]
  by_cases hik : i = k
  · rw [if_pos hik] at hk
    split at hk
    · cases hk
      rename_i hlt
      obtain ⟨tr, htr, _⟩ := h.row i _ (List.getElem?_eq_getElem hlt)
      rw [← hik, htr]
      exact ⟨f tr, by simp, hnew tr htr⟩
    · cases hk
  · rw [if_neg hik] at hk
    obtain ⟨tr, htr, hrest⟩ := h.row k dr hk
    exact ⟨tr, by simp [htr, hik], hrest⟩

theorem markBad_bad (d : Display.Term) (why : String) (hd : d.bad = none) : (Display.markBad d why).bad ≠ none := by
  simp [Display.markBad, hd]

theorem step_cup (dec : String → List Nat) (tw : String → Nat) (d : Display.Term) (t : T) (h : Rel dec d t) (r c : Int)
    (hb : (Display.step tw d (.cup r c)).bad = none) :
    ∃ t', Spec.Term.step t (.cup r.toNat c.toNat) = .accept [t'] ∧ Rel dec (Display.step tw d (.cup r c)) t' := by
  simp only [Display.step] at hb ⊢
  split at hb
  · exact (markBad_bad d _ h.bad hb).elim
  · rename_i hcond
    rw [if_neg hcond]
    refine ⟨_, rfl, ?_⟩
    have hr := h.rows; have hc := h.cols
    exact { rows := h.rows, cols := h.cols, onAlt := h.onAlt,
            row := by simp only [absPos, d1]; split <;> omega,
            col := by simp only [absPos, d1]; split <;> omega,
            pw := rfl, pen := h.pen, link := h.link, cursorVisible := h.cursorVisible,
            cursorShape := h.cursorShape,
            rowLt := by show (r - 1).toNat < d.rows; omega,
            colLt := by show (c - 1).toNat < d.cols; omega,
            top := h.top, bottom := h.bottom, bad := h.bad, grid := h.grid }

theorem advance_rel {dec : String → List Nat} {d : Display.Term} {t : T} (h : Rel dec d t) (w : Nat) (hw : 1 ≤ w)
    (hfit : d.col + w ≤ d.cols) (dg : List (List DCell)) (tg : TGrid) (hg : GridRel dec d.rows d.cols dg tg) :
    Rel dec (if d.col + w = d.cols then { d with grid := dg, col := d.cols - 1, pw := true }
             else { d with grid := dg, col := d.col + w })
            (if t.col + w = t.cols then { t with primary := tg, col := t.col + w - 1, pw := true }
             else { t with primary := tg, col := t.col + w }) := by
  have hc := h.col; have hcs := h.cols
  by_cases hend : d.col + w = d.cols
  · rw [if_pos hend, if_pos (show t.col + w = t.cols by omega)]
    exact { h with pw := rfl, col := by show t.col + w - 1 = d.cols - 1; omega,
                   colLt := by show d.cols - 1 < d.cols; omega, grid := hg }
  · rw [if_neg hend, if_neg (show ¬ t.col + w = t.cols by omega)]
    exact { h with col := by show t.col + w = d.col + w; omega,
                   colLt := by show d.col + w < d.cols; omega, grid := hg, pw := h.pw }

theorem step_text (dec : String → List Nat) (tw : String → Nat) (d : Display.Term) (t : T) (h : Rel dec d t) (g : String)
    (hw : tw g ≤ 2) (hb : (Display.step tw d (.text g)).bad = none) :
    ∃ t', Spec.Term.step t (.print (dec g) (tw g)) = .accept [t'] ∧ Rel dec (Display.step tw d (.text g)) t' := by
  have hstep : Display.step tw d (.text g) = Display.putGlyph d g (tw g) := rfl
  rw [hstep] at hb ⊢
  obtain ⟨hw0, hpw, hfit⟩ := DisplayBasic.putGlyph_good d g (tw g) h.bad hb
  have hrow : d.row < d.grid.length := by rw [h.grid.dlen]; exact h.rowLt
  have hdr : d.grid[d.row]? = some d.grid[d.row] := List.getElem?_eq_getElem hrow
  obtain ⟨tr, htr, hlen, hwf, hrr⟩ := h.grid.row _ _ hdr
  rw [putGlyph_eq d g (tw g) _ hw0 hpw hfit hdr]
  generalize d.grid[d.row] = dr at hdr hlen hwf hrr ⊢
  have htlen : tr.length = d.cols := by rw [← hrr.len, hlen]
  have hwcases : tw g = 1 ∨ tw g = 2 := by omega
  have htpw : t.pw = false := by rw [h.pw]; exact hpw
  -- the new grids are related
  have hgrid : ∀ (e : TRow → TRow),
      (∀ tr, tr.length = d.cols →
        (e tr).length = tr.length ∧ (e tr)[d.col]? = some (TCell.glyph (dec g) (tw g) d.pen (dec d.link)) ∧
        (tw g = 2 → (e tr)[d.col + 1]? = some TCell.cont) ∧
        (∀ j, j ≠ d.col → ¬(tw g = 2 ∧ j = d.col + 1) → (e tr)[j]? = tr[j]?)) →
      GridRel dec d.rows d.cols
        (d.grid.set d.row (writeRow dr d.col (tw g) (DCell.glyph g (tw g) d.pen d.linkParams d.link)))
        (t.primary.modify d.row (fun row => healRow (e row))) := by
    intro e he
    apply gridRel_update dec d.rows d.cols d.grid t.primary h.grid
    intro tr' htr'
    rw [htr] at htr'; cases htr'
    obtain ⟨E0, E1, E2, E3⟩ := he tr htlen
    refine ⟨by rw [DisplayBasic.writeRow_length]; exact hlen, writeRow_wf dr hwf _ _ hwcases (by omega) _ _ _ _, ?_⟩
    exact row_bridge dec dr tr (e tr) hwf hrr d.col (tw g) hwcases (by omega) g d.pen d.linkParams d.link E0 E1 E2 E3
  rcases hwcases with hw1 | hw2
  · -- narrow
    simp only [Spec.Term.step, hw1, if_true, one]
    rw [PrintAux.writeNarrow_eq, htpw, if_neg (by simp), PrintAux.narrowCore_eq, setGrid_primary t h.onAlt,
      grid_primary t h.onAlt]
    have hg := hgrid (fun row => row.set d.col (TCell.glyph (dec g) (tw g) d.pen (dec d.link))) (by
      intro tr htl
      refine ⟨by simp, by simp [List.getElem?_set]; omega, by omega, ?_⟩
      intro j hj _
      simp [List.getElem?_set]; omega)
    rw [hw1] at hg
    exact ⟨_, rfl, advance_rel h 1 (by omega) (by rw [← hw1]; exact hfit) _ _
      (by rw [h.row, h.col, h.pen, h.link]; exact hg)⟩
  · -- wide
    have hc := h.col; have hcs := h.cols
    simp only [Spec.Term.step, hw2, show ¬ (2 = 1) by omega, if_false, if_true, one]
    rw [if_pos (show t.cols ≥ 2 by omega), PrintAux.writeWide_eq, htpw,
      if_neg (show ¬ (false = true ∨ t.col + 1 = t.cols) by simp; omega), PrintAux.wideCore_eq,
      setGrid_primary t h.onAlt, grid_primary t h.onAlt]
    have hg := hgrid (fun row => (row.set d.col (TCell.glyph (dec g) (tw g) d.pen (dec d.link))).set (d.col + 1) TCell.cont) (by
      intro tr htl
      refine ⟨by simp, by simp [List.getElem?_set]; omega, by intro _; simp [List.getElem?_set]; omega, ?_⟩
      intro j hj hj2
      show ((tr.set d.col _).set (d.col + 1) _)[j]? = tr[j]?
      rw [List.getElem?_set, if_neg (by omega), List.getElem?_set, if_neg (by omega)])
    rw [hw2] at hg
    exact ⟨_, rfl, advance_rel h 2 (by omega) (by rw [← hw2]; exact hfit) _ _
      (by rw [h.row, h.col, h.pen, h.link]; exact hg)⟩

theorem step_bridge (dec : String → List Nat) (tw : String → Nat) (d : Display.Term) (t : T) (h : Rel dec d t) (k : RTok)
    (hk : Common tw k) (hb : (Display.step tw d k).bad = none) :
    ∃ tok t', tokT dec tw k = some tok ∧ Spec.Term.step t tok = .accept [t'] ∧ Rel dec (Display.step tw d k) t' := by
  cases k with
  | cup r c =>
    obtain ⟨t', h1, h2⟩ := step_cup dec tw d t h r c hb
    exact ⟨_, t', rfl, h1, h2⟩
  | sgr ps =>
    refine ⟨_, _, rfl, rfl, ?_⟩
    exact { h with pen := by show Spec.sgr t.pen ps = Spec.sgr d.pen ps; rw [h.pen] }
  | osc8 p u =>
    refine ⟨_, _, rfl, rfl, ?_⟩
    simp only [Display.step]
    split
    · rename_i hu
      exact { h with link := by show dec u = dec ""; rw [hu] }
    · exact { h with link := rfl }
  | text g =>
    obtain ⟨t', h1, h2⟩ := step_text dec tw d t h g hk hb
    exact ⟨_, t', rfl, h1, h2⟩
  | decset n =>
    have hn : n = 25 := hk
    subst hn
    refine ⟨_, _, rfl, rfl, ?_⟩
    exact { h with cursorVisible := rfl }
  | decrst n =>
    have hn : n = 25 := hk
    subst hn
    refine ⟨_, _, rfl, rfl, ?_⟩
    exact { h with cursorVisible := rfl }
  | cursorStyle n =>
    refine ⟨_, _, rfl, rfl, ?_⟩
    exact { h with cursorShape := rfl }
  | textW _ _ => cases hk
  | pointer _ => cases hk
  | other _ => cases hk

theorem run_bridge (dec : String → List Nat) (tw : String → Nat) (toks : List RTok) :
    ∀ (d : Display.Term) (t : T), Rel dec d t → (∀ k ∈ toks, Common tw k) → (Display.run tw d toks).bad = none →
    ∃ t', runExact t (toks.filterMap (tokT dec tw)) = some t' ∧ Rel dec (Display.run tw d toks) t' := by
  induction toks with
  | nil => intro d t h _ _; exact ⟨t, rfl, h⟩
  | cons k ks ih =>
    intro d t h hv hb
    have hb1 : (Display.step tw d k).bad = none := DisplayBasic.run_bad_none tw ks _ hb
    obtain ⟨tok, t1, htok, hstep, hrel⟩ := step_bridge dec tw d t h k (hv k (by simp)) hb1
    obtain ⟨t2, hrun, hrel2⟩ := ih (Display.step tw d k) t1 hrel (fun k' hk' => hv k' (by simp [hk'])) hb
    refine ⟨t2, ?_, hrel2⟩
    rw [List.filterMap_cons, htok]
    simp only [runExact, hstep]
    exact hrun

theorem wf_blank (cols : Nat) : WF (List.replicate cols DCell.blank) := by
  refine ⟨?_, ?_, ?_⟩
  · intro i g w st lp lk h
    rw [List.getElem?_replicate] at h
    split at h
    · simp [DCell.blank] at h; omega
    · cases h
  · intro i h
    rw [List.getElem?_replicate] at h
    split at h
    · simp [DCell.blank] at h
    · cases h
  · intro i h
    unfold wideD at h
    rw [List.getElem?_replicate] at h
    split at h
    · simp [DCell.blank, isWideD] at h
    · simp at h

theorem cellEq_blank (dec : String → List Nat) (hdec : DecOk dec) : CellEq dec DCell.blank (TCell.blank .default) := by
  simp [CellEq, DCell.blank, mapCell, TCell.norm, hdec.empty, hdec.space]

end VaxisModel.Lemmas.C06Bridge
