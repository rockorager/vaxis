/-
C07: the start-up (after the device-attributes reply), Suspend and Resume sequences use only
baseline vocabulary plus what the capability set allows — proved for every valuation of the guards
in `Lemmas/C07GateEval` (`gated_any`); `gatedB m` is the check for assignment `m` of the guard variables
of Gen/Modes.lean.
-/
import VaxisModel.Lemmas.C04Check

namespace VaxisModel.Lemmas.C07Gate
open VaxisModel.Model.Lifecycle VaxisModel.Model.Render VaxisModel.Lemmas.C04Check

/-- DEC private modes of the baseline xterm vocabulary. -/
def baselineModes : List Nat := [1, 25, 1002, 1003, 1004, 1006, 1049, 2004]

def modeAllowed (e : Env) (n : Nat) : Bool :=
  baselineModes.contains n ||
  (n == 2026 && e.v "caps.synchronizedUpdate") ||
  (n == 2027 && e.v "caps.unicodeCore" && !e.v "caps.explicitWidth") ||
  (n == 2031 && e.v "caps.colorThemeUpdates") ||
  (n == 2048 && e.v "caps.inBandResize") ||
  (n == 8452 && e.v "caps.sixels")

/-- Gated vocabulary outside the renderer: optional DEC modes, kitty keyboard push/pop,
    colour-scheme DSR, application-id set. Everything else these functions write is baseline
    (keypad modes, SGR reset, clear, cursor style/visibility, pointer shape, DA1). -/
def allowedLife (e : Env) : Tok → Bool
  | .decset n => modeAllowed e n
  | .decrst n => modeAllowed e n
  | .other raw =>
      if raw.startsWith "1b5b3e" && raw.endsWith "75" then e.v "caps.kittyKeyboard"        -- CSI > flags u
      else if raw == "1b5b3c75" then e.v "caps.kittyKeyboard"                                 -- CSI < u
      else if raw == "1b5b3f3939366e" then e.v "caps.colorThemeUpdates"                       -- CSI ? 996 n
      else if raw.startsWith "1b5d3137363b" then e.v "caps.osc176"                            -- OSC 176 ; …
      else true
  | .textW _ _ => false
  | _ => true

def gatedB (m : Nat) : Bool :=
  let e := envOf m
  let w1 := interp e 64 Gen.Modes.enableModes (interp e 64 Gen.Modes.enterAltScreen { fresh := false })
  let w2 := suspendW e { w1 with wire := [] }
  let w3 := resumeW e { w2 with wire := [] }
  (w1.wire ++ w2.wire ++ w3.wire).all (allowedLife e)

def gateRange (lo n : Nat) : Bool := (List.range n).all fun k => gatedB (lo + k)

end VaxisModel.Lemmas.C07Gate
