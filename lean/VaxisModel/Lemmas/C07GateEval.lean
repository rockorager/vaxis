/-
C07 — lifecycle gating (`C07Gate.gatedB`) as a property of the statement lists, for every valuation of the guards.

Nothing is run.  The interpreter `interpS` can add to the buffer or the wire only what a statement writes while its
guard holds and the few tokens `writer.Flush` puts around a group (`interpS_all`, for any predicate on items).  So it is
enough that every write statement of `Resume` and of the functions that can be called sits under a guard that has the
capability test its sequence needs as a conjunct (`stmtS`, decided once for the lists: `static_ok`); then whatever the
guards evaluate to, everything on the wire is allowed (`gated_any`).
-/
import VaxisModel.Lemmas.C07Gate

namespace VaxisModel.Lemmas.C07Gate
open VaxisModel.Model.Lifecycle VaxisModel.Model.Render VaxisModel.Lemmas.C04Check VaxisModel.Gen.Modes

def guardOf : S → G
  | .write g _ | .writeF g _ | .direct g _ | .flush g | .call g _ | .other g _ => g
  | .deferCall _ => .tt

def tableLists : List (List S) := [disableModes, enableModes, enterAltScreen, exitAltScreen, suspend, close]

theorem table_mem {f : String} {body : List S} (h : table f = some body) : body ∈ tableLists := by
  unfold table at h
  repeat' split at h
  all_goals first | (cases h; done) | (cases h; simp [tableLists])

def written : S → List Item
  | .write _ x | .writeF _ x | .direct _ x => itemsOf x
  | .other _ src => if src = "_, col := vx.CursorPosition()" then (toksOf "\x1b[6n").map .tok else []
  | _ => []

def StmtOK (v : String → Bool) (P : Item → Prop) (s : S) : Prop :=
  ∀ w : SSt, evalV (guardEnv v w) (guardOf s) = true → ∀ i ∈ written s, P i

structure FlushOK (sync : Bool) (P : Item → Prop) : Prop where
  sgr : P (.tok (.sgr []))
  show_ : P .showCursor
  hide : P (.tok (.decrst 25))
  cur : ∀ b, P (.cursorOnly b)
  on : sync = true → P (.tok (.decset 2026))
  off : sync = true → P (.tok (.decrst 2026))

def AllP (P : Item → Prop) (w : SSt) : Prop := (∀ i ∈ w.buf, P i) ∧ (∀ i ∈ w.wire, P i)

theorem doFlushS_all {sync : Bool} {P : Item → Prop} (hf : FlushOK sync P) {w : SSt} (h : AllP P w) :
    AllP P (doFlushS sync w) := by
  obtain ⟨hb, hw⟩ := h
  unfold doFlushS
  split
  · refine ⟨by simp, ?_⟩
    intro i hi
    simp only [List.mem_append, List.mem_singleton] at hi
    rcases hi with (((hi | hi) | hi) | hi) | hi
    · exact hw i hi
    · exact hb i hi
    · exact hi ▸ hf.sgr
    · split at hi <;> simp at hi; exact hi ▸ hf.show_
    · split at hi <;> simp at hi
      rename_i hs; exact hi ▸ hf.off hs
  · split
    · refine ⟨hb, ?_⟩
      intro i hi
      simp only [List.mem_append] at hi
      rcases hi with hi | hi
      · exact hw i hi
      · repeat' split at hi
        all_goals simp at hi
        · exact hi ▸ hf.hide
        · exact hi ▸ hf.cur _
    · refine ⟨by simp, ?_⟩
      intro i hi
      simp only [List.mem_append, List.mem_singleton] at hi
      rcases hi with ((((((hi | hi) | hi) | hi) | hi) | hi)) | hi
      · exact hw i hi
      · split at hi <;> simp at hi; exact hi ▸ hf.hide
      · split at hi <;> simp at hi
        rename_i hs; exact hi ▸ hf.on hs
      · exact hb i hi
      · exact hi ▸ hf.sgr
      · split at hi <;> simp at hi; exact hi ▸ hf.show_
      · split at hi <;> simp at hi
        rename_i hs; exact hi ▸ hf.off hs

theorem AllP_buf {P : Item → Prop} {w : SSt} (h : AllP P w) {l : List Item} (hl : ∀ i ∈ l, P i) :
    AllP P { w with buf := w.buf ++ l } :=
  ⟨fun i hi => (List.mem_append.mp hi).elim (h.1 i) (hl i), h.2⟩

theorem AllP_wire {P : Item → Prop} {w : SSt} (h : AllP P w) {l : List Item} (hl : ∀ i ∈ l, P i) :
    AllP P { w with wire := w.wire ++ l } :=
  ⟨h.1, fun i hi => (List.mem_append.mp hi).elim (h.2 i) (hl i)⟩

theorem AllP_of_eq {P : Item → Prop} {w w' : SSt} (hb : w'.buf = w.buf) (hw : w'.wire = w.wire) (h : AllP P w) : AllP P w' := by
  unfold AllP; rw [hb, hw]; exact h

/-- The guard is decided before `interpS` is unfolded: splitting the unfolded goal is much dearer. -/
theorem interpS_all {v : String → Bool} {P : Item → Prop}
    (hT : ∀ body ∈ tableLists, ∀ s ∈ body, StmtOK v P s) (hf : FlushOK (v "caps.synchronizedUpdate") P) :
    ∀ (fuel : Nat) (l : List S) (w : SSt), (∀ s ∈ l, StmtOK v P s) → AllP P w → AllP P (interpS v fuel l w) := by
  intro fuel
  induction fuel with
  | zero => intro _ _ _ h; exact h
  | succ fuel ih =>
    intro l w hl h
    cases l with
    | nil => exact h
    | cons s rest =>
      have hs := hl s List.mem_cons_self w
      have hr : ∀ s ∈ rest, StmtOK v P s := fun s' hs' => hl s' (List.mem_cons_of_mem _ hs')
      have hsync : guardEnv v w "caps.synchronizedUpdate" = v "caps.synchronizedUpdate" := by simp [guardEnv]
      cases s with
      | write g x =>
        by_cases hg : evalV (guardEnv v w) g = true <;> simp only [interpS, hg, Bool.false_eq_true, ↓reduceIte]
        · exact ih _ _ hr (AllP_buf h (hs hg))
        · exact ih _ _ hr h
      | writeF g x =>
        by_cases hg : evalV (guardEnv v w) g = true <;> simp only [interpS, hg, Bool.false_eq_true, ↓reduceIte]
        · exact ih _ _ hr (AllP_buf h (hs hg))
        · exact ih _ _ hr h
      | direct g x =>
        by_cases hg : evalV (guardEnv v w) g = true <;> simp only [interpS, hg, Bool.false_eq_true, ↓reduceIte]
        · exact ih _ _ hr (AllP_wire h (hs hg))
        · exact ih _ _ hr h
      | flush g =>
        by_cases hg : evalV (guardEnv v w) g = true <;> simp only [interpS, hg, Bool.false_eq_true, ↓reduceIte]
        · rw [hsync]; exact ih _ _ hr (doFlushS_all hf h)
        · exact ih _ _ hr h
      | deferCall f => simp only [interpS, Bool.false_eq_true, ↓reduceIte]; exact ih _ _ hr h
      | call g f =>
        simp only [interpS, Bool.false_eq_true, ↓reduceIte]
        refine ih _ _ hr ?_
        by_cases hg : evalV (guardEnv v w) g = true <;> simp only [hg, Bool.not_true, Bool.not_false, Bool.false_eq_true, ↓reduceIte]
        · by_cases hh : f = "HideCursor" <;> simp only [hh, ↓reduceIte]
          · exact h
          · cases ht : table f with
            | none => exact h
            | some body => exact ih _ _ (hT body (table_mem ht)) h
        · exact h
      | other g src =>
        by_cases hg : evalV (guardEnv v w) g = true <;>
          simp only [interpS, hg, Bool.and_true, Bool.and_false, Bool.not_true, Bool.not_false, Bool.false_eq_true, ↓reduceIte]
        · by_cases hret : src.startsWith "return" = true <;> simp only [hret, Bool.false_eq_true, ↓reduceIte]
          · exact h
          · refine ih _ _ hr ?_
            by_cases hsrc : src = "_, col := vx.CursorPosition()"
            · subst hsrc
              simp only [↓reduceIte]
              exact AllP_wire h (by simpa only [written, ↓reduceIte] using hs hg)
            · simp only [hsrc, ↓reduceIte]
              exact AllP_of_eq (by (repeat' split) <;> rfl) (by (repeat' split) <;> rfl) h
        · exact ih _ _ hr h

def OKItem (e : Env) (i : Item) : Prop := ∀ cn cl, ∀ k ∈ inst e cn cl i, allowedLife e k = true

theorem ok_tok {e : Env} {k : Tok} : OKItem e (.tok k) ↔ allowedLife e k = true := by
  simp [OKItem, inst]

theorem ok_showCursorToks (e : Env) (cn : CursorState) : ∀ k ∈ showCursorToks cn, allowedLife e k = true := by
  intro k hk
  simp only [showCursorToks, List.mem_cons, List.not_mem_nil, or_false] at hk
  rcases hk with rfl | rfl | rfl <;> rfl

theorem flushOK (e : Env) : FlushOK (e.v "caps.synchronizedUpdate") (OKItem e) where
  sgr := ok_tok.2 rfl
  show_ := fun cn _ => ok_showCursorToks e cn
  hide := ok_tok.2 (by simp [allowedLife, modeAllowed, baselineModes])
  cur := fun b cn cl k hk => by
    simp only [inst] at hk
    by_cases hc : cn.row ≠ cl.row ∨ cn.col ≠ cl.col ∨ cn.style ≠ (if b then e.userCursorStyle else cl.style)
    · rw [if_pos hc] at hk; exact ok_showCursorToks e cn k hk
    · rw [if_neg hc] at hk; cases hk
  on := fun h => ok_tok.2 (by simp [allowedLife, modeAllowed, h])
  off := fun h => ok_tok.2 (by simp [allowedLife, modeAllowed, h])

def AllW (e : Env) (w : WSt) : Prop := (∀ k ∈ w.buf, allowedLife e k = true) ∧ (∀ k ∈ w.wire, allowedLife e k = true)

def ListOK (e : Env) (l : List S) : Prop := ∀ s ∈ l, StmtOK e.v (OKItem e) s

theorem interp_all {e : Env} (hT : ∀ body ∈ tableLists, ListOK e body) {l : List S} (hl : ListOK e l) {w : WSt}
    (h : AllW e w) : AllW e (interp e 64 l w) := by
  have key := interpS_all (v := e.v) (P := OKItem e) hT (flushOK e) 64 l (absW w) hl
    ⟨fun i hi => by obtain ⟨k, hk, rfl⟩ := List.mem_map.mp hi; exact ok_tok.2 (h.1 k hk),
     fun i hi => by obtain ⟨k, hk, rfl⟩ := List.mem_map.mp hi; exact ok_tok.2 (h.2 k hk)⟩
  constructor
  · intro k hk
    obtain ⟨i, hi, hk⟩ := List.mem_flatMap.mp hk
    exact key.1 i hi _ _ k hk
  · intro k hk
    obtain ⟨i, hi, hk⟩ := List.mem_flatMap.mp hk
    exact key.2 i hi _ _ k hk

def gatedE (e : Env) : Bool :=
  let w1 := interp e 64 enableModes (interp e 64 enterAltScreen { fresh := false })
  let w2 := suspendW e { w1 with wire := [] }
  let w3 := resumeW e { w2 with wire := [] }
  (w1.wire ++ w2.wire ++ w3.wire).all (allowedLife e)

theorem gated_of_lists {e : Env} (h : ∀ l ∈ resume :: tableLists, ListOK e l) : gatedE e = true := by
  have hT : ∀ body ∈ tableLists, ListOK e body := fun l hl => h l (List.mem_cons_of_mem _ hl)
  have h0 : AllW e { fresh := false } := ⟨by simp, by simp⟩
  have h1 := interp_all hT (hT enableModes (by simp [tableLists])) (interp_all hT (hT enterAltScreen (by simp [tableLists])) h0)
  have cut {w : WSt} (hw : AllW e w) : AllW e { w with wire := [] } := ⟨hw.1, by simp⟩
  have h2 := interp_all hT (hT suspend (by simp [tableLists])) (cut h1)
  have h3 := interp_all hT (h resume List.mem_cons_self) (cut h2)
  simp only [gatedE, suspendW, resumeW, List.all_eq_true, List.mem_append]
  rintro k ((hk | hk) | hk)
  · exact h1.2 k hk
  · exact h2.2 k hk
  · exact h3.2 k hk

/-- `g` has the literal `x` (`pos`) / `¬x` as a conjunct, on both sides of every `or`. -/
def hasLit (pos : Bool) (x : String) : G → Bool
  | .tt => false
  | .v y => pos && x == y
  | .not g => (match g with | .v y => !pos && x == y | _ => false)
  | .and a b => hasLit pos x a || hasLit pos x b
  | .or a b => hasLit pos x a && hasLit pos x b

theorem hasLit_sound {pos : Bool} {x : String} {u : String → Bool} :
    ∀ {g : G}, hasLit pos x g = true → evalV u g = true → u x = pos
  | .tt, h, _ => by simp [hasLit] at h
  | .v y, h, hg => by
    simp only [hasLit, Bool.and_eq_true, beq_iff_eq] at h
    obtain ⟨rfl, rfl⟩ := h; exact hg
  | .not (.v y), h, hg => by
    simp only [hasLit, Bool.and_eq_true, beq_iff_eq, Bool.not_eq_true'] at h
    rw [h.2, h.1]; simpa [evalV] using hg
  | .not .tt, h, _ | .not (.not _), h, _ | .not (.and _ _), h, _ | .not (.or _ _), h, _ => by simp [hasLit] at h
  | .and a b, h, hg => by
    simp only [evalV, Bool.and_eq_true] at hg
    rcases Bool.or_eq_true_iff.mp (by simpa only [hasLit] using h) with h | h
    · exact hasLit_sound h hg.1
    · exact hasLit_sound h hg.2
  | .or a b, h, hg => by
    simp only [hasLit, Bool.and_eq_true] at h
    rcases Bool.or_eq_true_iff.mp (by simpa only [evalV] using hg) with hg | hg
    · exact hasLit_sound h.1 hg
    · exact hasLit_sound h.2 hg

/-- What a token needs: a conjunction of capability literals (`[]` = baseline), `none` = never allowed. -/
def needMode (n : Nat) : Option (List (Bool × String)) :=
  if baselineModes.contains n then some []
  else if n == 2026 then some [(true, "caps.synchronizedUpdate")]
  else if n == 2027 then some [(true, "caps.unicodeCore"), (false, "caps.explicitWidth")]
  else if n == 2031 then some [(true, "caps.colorThemeUpdates")]
  else if n == 2048 then some [(true, "caps.inBandResize")]
  else if n == 8452 then some [(true, "caps.sixels")]
  else none

def needTok : Tok → Option (List (Bool × String))
  | .decset n | .decrst n => needMode n
  | .other raw =>
      if raw.startsWith "1b5b3e" && raw.endsWith "75" then some [(true, "caps.kittyKeyboard")]
      else if raw == "1b5b3c75" then some [(true, "caps.kittyKeyboard")]
      else if raw == "1b5b3f3939366e" then some [(true, "caps.colorThemeUpdates")]
      else if raw.startsWith "1b5d3137363b" then some [(true, "caps.osc176")]
      else some []
  | .textW _ _ => none
  | _ => some []

def holds (u : String → Bool) (c : List (Bool × String)) : Prop := ∀ l ∈ c, u l.2 = l.1

theorem needMode_ok {e : Env} {n : Nat} {c} (h : needMode n = some c) (hc : holds e.v c) : modeAllowed e n = true := by
  unfold needMode at h
  unfold modeAllowed
  repeat' split at h
  all_goals first | (cases h; done) | (cases h; simp_all [holds])

theorem needTok_ok {e : Env} {k : Tok} {c} (h : needTok k = some c) (hc : holds e.v c) : allowedLife e k = true := by
  cases k with
  | decset n => exact needMode_ok h hc
  | decrst n => exact needMode_ok h hc
  | other raw =>
    simp only [needTok] at h
    simp only [allowedLife]
    repeat' split at h
    all_goals (cases h; simp only [*, ↓reduceIte]; first | rfl | exact hc (true, _) List.mem_cons_self)
  | textW _ _ => cases h
  | _ => rfl

def needItem : Item → Option (List (Bool × String))
  | .tok k => needTok k
  | .kittyPush => some [(true, "caps.kittyKeyboard")]
  | .userStyle => some []
  | .appIdRestore => some [(true, "caps.osc176")]
  | _ => none

/-- The run-time values in the two gated holes print to sequences `allowedLife` recognises. -/
structure HolesOK (e : Env) : Prop where
  kitty : e.v "caps.kittyKeyboard" = true → allowedLife e (.other (kittyPushRaw e.kittyFlags)) = true
  appId : e.v "caps.osc176" = true → allowedLife e (.other (appIdSetRaw e.appId)) = true

theorem needItem_ok {e : Env} (he : HolesOK e) {i : Item} {c} (h : needItem i = some c) (hc : holds e.v c) : OKItem e i := by
  cases i with
  | tok k => exact ok_tok.2 (needTok_ok h hc)
  | kittyPush =>
    cases h; intro cn cl k hk
    simp only [inst, List.mem_singleton] at hk
    exact hk ▸ he.kitty (hc (true, _) List.mem_cons_self)
  | userStyle =>
    intro cn cl k hk
    simp only [inst, List.mem_singleton] at hk
    exact hk ▸ rfl
  | appIdRestore =>
    cases h; intro cn cl k hk
    simp only [inst, List.mem_singleton] at hk
    exact hk ▸ he.appId (hc (true, _) List.mem_cons_self)
  | _ => cases h

/-- Every literal of `c` is a conjunct of `g` (and none of them is one of Vaxis's two flags). -/
def covers (g : G) (c : List (Bool × String)) : Bool :=
  c.all fun l => hasLit l.1 l.2 g && !(l.2 == "closed" || l.2 == "suspended")

def stmtS (s : S) : Bool :=
  (written s).all fun i => match needItem i with | some c => covers (guardOf s) c | none => false

theorem stmtS_ok {e : Env} (he : HolesOK e) {s : S} (h : stmtS s = true) : StmtOK e.v (OKItem e) s := by
  intro w hg i hi
  have hi := List.all_eq_true.mp h i hi
  split at hi
  · rename_i c hn
    refine needItem_ok he hn fun l hl => ?_
    have := List.all_eq_true.mp hi l hl
    simp only [Bool.and_eq_true, Bool.not_eq_true', Bool.or_eq_false_iff, beq_eq_false_iff_ne, ne_eq] at this
    have hv := hasLit_sound this.1 hg
    simpa only [guardEnv, this.2.1, this.2.2, if_false] using hv
  · cases hi

def staticS : Bool := (resume :: tableLists).all fun l => l.all stmtS

theorem static_ok : staticS = true := by decide +kernel

theorem gated_any (e : Env) (he : HolesOK e) : gatedE e = true :=
  gated_of_lists fun l hl s hs => stmtS_ok he (List.all_eq_true.mp (List.all_eq_true.mp static_ok l hl) s hs)

theorem holes_envOf (m : Nat) : HolesOK (envOf m) where
  kitty := fun h => by
    show allowedLife (envOf m) (.other (kittyPushRaw 1)) = true
    simp only [allowedLife]
    rw [if_pos (by decide +kernel)]; exact h
  appId := fun h => by
    show allowedLife (envOf m) (.other (appIdSetRaw "app")) = true
    simp only [allowedLife]
    rw [if_neg (by decide +kernel), if_neg (by decide +kernel), if_neg (by decide +kernel), if_pos (by decide +kernel)]; exact h

theorem gate_all : gateRange 0 512 = true := by
  simp only [gateRange, List.all_eq_true, Nat.zero_add]
  exact fun m _ => gated_any (envOf m) (holes_envOf m)

end VaxisModel.Lemmas.C07Gate
