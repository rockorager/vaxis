/-
C12 composition, grapheme clustering: if no two graphemes a frame writes merge when concatenated,
the parser's re-segmentation of consecutive text (`clusterToks`) changes nothing, and every text
token of a frame is the grapheme of one of its cells (or the blank).
-/
import VaxisModel.Model.C12Compose
import VaxisModel.Lemmas.RenderDisplay
import VaxisModel.Spec.DisplayCluster

namespace VaxisModel.Lemmas.C12Cluster
open VaxisModel.Model.Render VaxisModel.Model.C12Compose VaxisModel.Lemmas.RenderToks

def NoMerge (merges : String → String → Bool) (toks : List Tok) : Prop :=
  ∀ a b, Tok.text a ∈ toks → Tok.text b ∈ toks → merges a b = false

theorem clusterGo_id (merges : String → String → Bool) (cat : String → String → String) :
    ∀ (l : List Tok), NoMerge merges l →
      clusterGo merges cat none l = l ∧
      ∀ p, (∀ b, Tok.text b ∈ l → merges p b = false) → clusterGo merges cat (some p) l = Tok.text p :: l := by
  intro l
  induction l with
  | nil => intro _; exact ⟨rfl, fun _ _ => rfl⟩
  | cons t rest ih =>
    intro h
    have hrest : NoMerge merges rest := fun a b ha hb => h a b (by simp [ha]) (by simp [hb])
    obtain ⟨ih1, ih2⟩ := ih hrest
    cases t with
    | text a =>
      have ha : ∀ b, Tok.text b ∈ rest → merges a b = false := fun b hb => h a b (by simp) (by simp [hb])
      refine ⟨?_, ?_⟩
      · simp only [clusterGo]; exact ih2 a ha
      · intro p hp
        have : merges p a = false := hp a (by simp)
        simp only [clusterGo, this, Bool.false_eq_true, if_false]
        rw [ih2 a ha]
    | _ => exact ⟨by simp only [clusterGo, ih1], fun p _ => by simp only [clusterGo, ih1]⟩

theorem opsOfToksM_eq (merges : String → String → Bool) (cat : String → String → String) (dec : String → VaxisModel.Model.Emu.G)
    (tw : String → Nat) (toks : List Tok) (h : NoMerge merges toks) :
    opsOfToksM merges cat dec tw toks = opsOfToks dec tw toks := by
  unfold opsOfToksM clusterToks
  rw [(clusterGo_id merges cat toks h).1]

/-! ### the tight form: only ADJACENT text writes matter

`Spec.DisplayCluster.adjOk merges p toks`: no raw text write of `toks` directly follows a raw text write
it merges with (`p` = the grapheme directly before the list, if any). C01 proves it of every frame whose
horizontally neighbouring shown cells do not join (`Props.C01Cluster.render_no_adjacent_join_tight`). -/

theorem clusterGo_adj (merges : String → String → Bool) (cat : String → String → String) :
    ∀ (l : List Tok),
      (VaxisModel.Spec.Display.adjOk merges none l = true → clusterGo merges cat none l = l) ∧
      ∀ p, VaxisModel.Spec.Display.adjOk merges (some p) l = true → clusterGo merges cat (some p) l = Tok.text p :: l := by
  intro l
  induction l with
  | nil => exact ⟨fun _ => rfl, fun _ _ => rfl⟩
  | cons t rest ih =>
    obtain ⟨ih1, ih2⟩ := ih
    cases t with
    | text a =>
      refine ⟨?_, ?_⟩
      · intro h
        simp only [VaxisModel.Spec.Display.adjOk, Bool.true_and] at h
        simp only [clusterGo]
        exact ih2 a h
      · intro p h
        simp only [VaxisModel.Spec.Display.adjOk, Bool.and_eq_true, Bool.not_eq_true'] at h
        simp only [clusterGo, h.1, Bool.false_eq_true, if_false]
        rw [ih2 a h.2]
    | _ => exact ⟨fun h => by simp only [clusterGo, ih1 h], fun p h => by simp only [clusterGo, ih1 h]⟩

theorem opsOfToksM_eq_adj (merges : String → String → Bool) (cat : String → String → String) (dec : String → VaxisModel.Model.Emu.G)
    (tw : String → Nat) (toks : List Tok) (h : VaxisModel.Spec.Display.adjOk merges none toks = true) :
    opsOfToksM merges cat dec tw toks = opsOfToks dec tw toks := by
  unfold opsOfToksM clusterToks
  rw [(clusterGo_adj merges cat toks).1 h]

def TextIn (S : String → Prop) : Tok → Prop
  | .text g => S g
  | _ => True

theorem penDelta_textIn (S : String → Prop) (caps : Caps) (pen next : Style) : ∀ k ∈ penDelta caps pen next, TextIn S k :=
  VaxisModel.Lemmas.RenderToks.penDelta_all_sgr caps pen next (fun _ => trivial) (fun _ => trivial)

theorem glyphTok_textIn (S : String → Prop) (cw : String → Nat) (caps : Caps) (c : Cell) (h20 : S "20") (hc : S c.g) :
    TextIn S (glyphTok cw caps c) := by
  unfold glyphTok glyphTokW
  split
  · exact h20
  · split
    · trivial
    · exact hc

theorem frame_textIn (S : String → Prop) (h20 : S "20") (cw : String → Nat) (f : Frame)
    (hc : ∀ r ∈ f.next, ∀ c ∈ r, S c.g) : ∀ k ∈ (renderFrame cw f).2, TextIn S k :=
  VaxisModel.Lemmas.RenderToks.renderFrame_all cw f trivial trivial (fun _ _ => trivial)
    (fun r hr n hn => ⟨fun _ => penDelta_textIn S f.caps _ _, glyphTok_textIn S cw f.caps n h20 (hc r hr n hn)⟩)
    (fun _ k hk => by simp [showCursorToks] at hk; rcases hk with rfl | rfl | rfl <;> trivial)
    trivial (fun _ => ⟨trivial, trivial⟩) trivial

end VaxisModel.Lemmas.C12Cluster
