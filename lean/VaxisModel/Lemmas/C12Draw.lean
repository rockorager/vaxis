/-
C12, Draw into a host window: the cells `Draw` hands to the window (C05's `RowWalk`: the walk along
each row of the active screen that skips the columns under a wide glyph) are exactly the glyph
cells of the display the emulator shows — one call per glyph (blank included), none for a
continuation cell, each call carrying a cell that shows that glyph (`HostRel`).
-/
import VaxisModel.Lemmas.C12Sim
import VaxisModel.Lemmas.EmuDraw
import VaxisModel.Lemmas.RenderDisplay

namespace VaxisModel.Lemmas.C12Draw
open VaxisModel.Model.Emu VaxisModel.Model.EmuAbs VaxisModel.Model.EmuDraw VaxisModel.Lemmas.Emu VaxisModel.Lemmas.EmuDraw
open VaxisModel.Spec VaxisModel.Spec.Display VaxisModel.Lemmas.C12Sim
open VaxisModel.Lemmas.RenderDisplay (WFRow)

/-- The cell handed to `win.SetCell` shows the display cell: as `CellRel`, except that an erased
    emulator cell arrives as a space of width 0 ("measure it": the host gives it width 1) with the
    stored background. -/
def HostRel (dec : String → G) : DCell → ECell → Prop
  | .glyph g w st lp lk, c =>
      (c.g = dec g ∧ c.g ≠ [] ∧ c.w = w ∧ absStyle c.st = st ∧ c.st.link = dec lk ∧ c.st.linkParams = dec lp) ∨
      (c.g = [32] ∧ c.w = 0 ∧ g = "20" ∧ w = 1 ∧ st = { bg := absCol c.st.bg } ∧ lp = "" ∧ lk = "")
  | .cont, _ => True
  | .poison, _ => True

theorem hostRel_drawn (dec : String → G) (d : DCell) (c : ECell) (h : CellRel dec d c) :
    HostRel dec d (drawnCell c) := by
  cases d with
  | cont => trivial
  | poison => trivial
  | glyph g w st lp lk =>
    rcases h with ⟨h1, h2, h3, h4, h5, h6⟩ | ⟨h1, hw, h2, h3, h4, h5, h6⟩
    · left
      refine ⟨?_, ?_, h3, h4, h5, h6⟩
      · show (if c.g = [] then [32] else c.g) = dec g
        rw [if_neg h2]; exact h1
      · show (if c.g = [] then [32] else c.g) ≠ []
        rw [if_neg h2]; exact h2
    · right
      refine ⟨?_, hw, h2, h3, h4, h5, h6⟩
      show (if c.g = [] then [32] else c.g) = [32]
      rw [if_pos h1]

def NoPoison (r : List DCell) : Prop := ∀ x ∈ r, x ≠ DCell.poison

theorem wf_drop : ∀ (r : List DCell) (k : Nat), WFRow k r → WFRow 0 (r.drop k) := by
  intro r
  induction r with
  | nil => intro k _; simp [WFRow]
  | cons x r ih =>
    intro k h
    cases k with
    | zero => simpa using h
    | succ k =>
      cases x with
      | cont => simp only [List.drop_succ_cons]; exact ih k h
      | glyph g w st lp lk => exact absurd h (by simp [WFRow])
      | poison => exact absurd h (by simp [WFRow])

theorem wf_cont : ∀ (r : List DCell) (k i : Nat) (x : DCell), WFRow k r → i < k → r[i]? = some x → x = .cont := by
  intro r
  induction r with
  | nil => intro k i x _ _ h; simp at h
  | cons y ys ihy =>
    intro k i x hwf hik hxi
    cases k with
    | zero => omega
    | succ k =>
      cases y with
      | glyph => exact absurd hwf (by simp [WFRow])
      | poison => exact absurd hwf (by simp [WFRow])
      | cont =>
        cases i with
        | zero => simp at hxi; exact hxi.symm
        | succ i => simp at hxi; exact ihy k i x hwf (by omega) hxi

/-- What the calls of one row walk are, relative to the display row `drow` the emulator row shows:
    from a glyph boundary `col`, every call is at a glyph of `drow` and shows it, and every glyph of
    `drow` from `col` on gets a call. -/
theorem walk_shows (dec : String → G) (drow : List DCell) (line : Row) (row : Int) (cols : Nat)
    (hrel : RowRel dec drow line) (hlen : line.length = cols) (hnp : NoPoison drow) :
    ∀ (l : List DrawCall) (col : Nat), RowWalk line row cols col l → WFRow 0 (drow.drop col) →
      (∀ call ∈ l, ∃ (j : Nat) (d : DCell), call.col = (j : Int) ∧ col ≤ j ∧ drow[j]? = some d ∧ d ≠ .cont ∧ call.row = row ∧ HostRel dec d call.cell) ∧
      (∀ j d, col ≤ j → drow[j]? = some d → d ≠ .cont → ∃ call ∈ l, call.col = (j : Int)) := by
  intro l
  induction l with
  | nil =>
    intro col hwalk _
    refine ⟨by simp, ?_⟩
    intro j d hj hd _
    cases hwalk with
    | done hc =>
      have : j < drow.length := (List.getElem?_eq_some_iff.mp hd).1
      rw [hrel.length, hlen] at this
      omega
  | cons call rest ih =>
    intro col hwalk hwf
    cases hwalk with
    | @step _ cell _ hc hcell hrest =>
      have hcl : col < line.length := by rw [hlen]; omega
      have hcell' : line[col]? = some cell := by simpa using (Lemmas.Emu.getI_eq_ok.mp hcell).2
      have hdl : col < drow.length := by rw [hrel.length]; exact hcl
      have hdrop : drow.drop col = drow[col] :: drow.drop (col + 1) := by
        rw [List.drop_eq_getElem_cons hdl]
      rw [hdrop] at hwf
      have hd : drow[col]? = some drow[col] := List.getElem?_eq_getElem hdl
      have hcr := hrel.cell hd hcell'
      cases hx : drow[col] with
      | cont => rw [hx] at hwf; exact absurd hwf (by simp [WFRow])
      | poison => exact absurd hx (hnp _ (List.getElem_mem hdl))
      | glyph g w st lp lk =>
        rw [hx] at hwf hcr hd
        obtain ⟨hw1, hwf'⟩ := hwf
        -- the step of the walk is the glyph's width
        have hstep : stepW cell = (w : Int) := by
          unfold stepW
          rcases hcr with ⟨_, _, h3, _⟩ | ⟨_, h0, _, h3, _⟩
          · rw [h3]; split <;> omega
          · rw [h0, h3]; simp
        have hnext : WFRow 0 (drow.drop (col + w)) := by
          have := wf_drop _ _ hwf'
          rw [List.drop_drop] at this
          have e : col + 1 + (w - 1) = col + w := by omega
          rwa [e] at this
        have hrest' : RowWalk line row cols ((col + w : Nat) : Int) rest := by
          have e : ((col + w : Nat) : Int) = (col : Int) + stepW cell := by rw [hstep]; omega
          rw [e]; exact hrest
        obtain ⟨ih1, ih2⟩ := ih (col + w) hrest' hnext
        constructor
        · intro c hcm
          rcases List.mem_cons.mp hcm with rfl | hcm
          · exact ⟨col, DCell.glyph g w st lp lk, rfl, Nat.le_refl _, hd, nofun, rfl,
              hostRel_drawn dec _ cell hcr⟩
          · obtain ⟨j, d, e1, e2, e3, e4, e5, e6⟩ := ih1 c hcm
            exact ⟨j, d, e1, by omega, e3, e4, e5, e6⟩
        · intro j d hj hdj hnc
          by_cases hjc : j = col
          · subst hjc; exact ⟨_, List.mem_cons_self, rfl⟩
          · by_cases hjw : col + w ≤ j
            · obtain ⟨c, hcm, hcc⟩ := ih2 j d hjw hdj hnc
              exact ⟨c, List.mem_cons_of_mem _ hcm, hcc⟩
            · -- col < j < col + w: a continuation cell
              exfalso
              have hji : (drow.drop (col + 1))[j - (col + 1)]? = some d := by
                rw [List.getElem?_drop]
                have : col + 1 + (j - (col + 1)) = j := by omega
                rw [this]; exact hdj
              exact hnc (wf_cont _ (w - 1) (j - (col + 1)) d hwf' (by omega) hji)

end VaxisModel.Lemmas.C12Draw
