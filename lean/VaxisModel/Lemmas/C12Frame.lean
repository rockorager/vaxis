/-
C12 — ONE FRAME of the composition, for any capability set without explicit width and synchronized output, stated over
the notions of C01 (`Ready`, `Agree`, `CursorAs`, `stepH` / `stepHC`) and of the simulation (`DSim`, `GridRel`): the theorems
of `Props/C12*.lean` differ in the capability set, in the screen the application lives on and in how they package these
facts (`Linked…`, `Shows…`), not in what happens during a frame.
-/
import VaxisModel.Lemmas.C12Vocab
import VaxisModel.Lemmas.C12Resize
import VaxisModel.Lemmas.C12Draw
import VaxisModel.Lemmas.C12Read
import VaxisModel.Lemmas.C12Cluster
import VaxisModel.Lemmas.RenderCursor
import VaxisModel.Props.C01Display
import VaxisModel.Props.C01Clip
import VaxisModel.Props.C05Draw

namespace VaxisModel.Lemmas.C12Frame
open VaxisModel.Model.Render VaxisModel.Spec VaxisModel.Spec.Display VaxisModel.Lemmas.RenderGate
open VaxisModel.Model.Emu (Emu EOp G M runOps)
open VaxisModel.Model.C12Compose VaxisModel.Lemmas.C12Sim VaxisModel.Lemmas.C12Vocab VaxisModel.Lemmas.C12Resize
open VaxisModel.Lemmas.EmuRefine (EFrame)
open VaxisModel.Props.C01 (CursorAs Agree)
open VaxisModel.Props.C01Display (FrameIn HState mkFrame stepH FrameInOk Ready)
open VaxisModel.Props.C01Clip (FrameInOkC clipIn stepHC stepHC_eq renderFrameC_toks clipIn_ok)

variable {caps : Caps} {dec : String → G} {cw : String → Nat}

def CursorShown (c : CursorState) (e : Emu) : Prop :=
  if c.visible then
    e.mode.dectcem = true ∧ e.cur.row = c.row ∧ e.cur.col = c.col ∧ e.cur.shape = (c.style : Int)
  else e.mode.dectcem = false

theorem CursorShown.of_visible {c : CursorState} {e : Emu} (h : CursorShown c e) (hv : c.visible = true) :
    e.mode.dectcem = true ∧ e.cur.row = c.row ∧ e.cur.col = c.col ∧ e.cur.shape = (c.style : Int) := by
  simpa only [CursorShown, hv, if_true] using h

theorem CursorShown.of_hidden {c : CursorState} {e : Emu} (h : CursorShown c e) (hv : c.visible = false) :
    e.mode.dectcem = false := by
  simpa only [CursorShown, hv, Bool.false_eq_true, if_false] using h

theorem cursor_shown {t : Term} {e : Emu} {rows cols : Nat} (s : DSim dec t e rows cols) {c : CursorState}
    (hc : CursorAs t c) : CursorShown c e := by
  unfold CursorAs at hc
  unfold CursorShown
  have hvis : t.cursorVisible = e.mode.dectcem := s.vis
  split
  · rename_i hv
    simp only [hv, if_true] at hc
    obtain ⟨c1, c2, c3, c4, c5⟩ := hc
    have hrow : (t.row : Int) = e.cur.row := s.row
    have hcol : (t.col : Int) = _ := s.col
    have hpw : t.pw = _ := s.pw
    have hsh : (t.cursorShape : Int) = e.cur.shape := s.shape
    rw [c4] at hpw
    -- no pending wrap on the display: the emulator's column is inside the screen, not the clamped one
    have hnp : ¬ (e.cur.col ≥ (cols : Int)) := by intro h; simp [h] at hpw
    rw [if_neg hnp] at hcol
    exact ⟨by rw [← hvis]; exact c1, by omega, by omega, by rw [← hsh, c5]⟩
  · rename_i hv
    simp only [hv] at hc
    rw [← hvis]; exact hc

/-- C01's `frame_step`, the vocabulary (`frame_ok_anyCaps`) and the simulation (`run_sim_frame`) composed. -/
theorem frame_shows (hew : caps.explicitWidth = false) (hsy : caps.sync = false)
    (hsp : cw "20" = 1) (hd : dec "20" = [32]) (hemp : dec "" = []) (hlp : LpOk dec)
    {rows cols : Nat} (s : HState) {e : Emu} (fi : FrameIn) (hready : Ready s.t s.last rows cols)
    (hsim : DSim dec s.t e rows cols) (hag : fi.refresh = false → Agree cw caps s.t s.last)
    (hok : FrameInOk cw caps rows cols fi) (hcells : ∀ r ∈ fi.next, ∀ c ∈ r, CellOk dec cw c)
    (hst : fi.cursor.style ≤ 65535)
    (hul : caps.styledUnderlines = true → ∀ r ∈ fi.next, ∀ c ∈ r, c.style.ulStyle ≤ 5)
    (hcur : CursorAs (stepH cw caps s fi).t fi.cursor) :
    ∃ e', runOps e (opsOfToks dec cw (renderFrame cw (mkFrame caps s fi)).2) = .ok e' ∧
      Ready (stepH cw caps s fi).t (stepH cw caps s fi).last rows cols ∧
      DSim dec (stepH cw caps s fi).t e' rows cols ∧
      Agree cw caps (stepH cw caps s fi).t (stepH cw caps s fi).last ∧
      (stepH cw caps s fi).t.grid = Expected.expected cw caps fi.next ∧
      GridRel dec (Expected.expected cw caps fi.next) e'.active ∧ CursorShown fi.cursor e' ∧ EFrame e e' := by
  obtain ⟨r1, a1, g1, b1⟩ := VaxisModel.Props.C01Display.frame_step cw caps hsp rows cols s fi hready hag hok
  have hvoc := frame_ok_anyCaps dec cw (mkFrame caps s fi) hul hew hsy hsp (by rw [hd]; simp) (by rw [hemp]; simp) hlp
    hcells hst
  obtain ⟨e', hr, hs', hf⟩ := run_sim_frame cw _ s.t e hsim b1 hvoc
  have hs'' : DSim dec (stepH cw caps s fi).t e' rows cols := hs'
  exact ⟨e', hr, r1, hs'', a1, g1, by rw [← g1]; exact hs''.grid, cursor_shown hs'' hcur, hf⟩

theorem clipIn_cells {P : Cell → Prop} (hb : ∀ c, P c → P { c with g := "20", w := 1 }) (fi : FrameIn)
    (h : ∀ r ∈ fi.next, ∀ c ∈ r, P c) : ∀ r ∈ (clipIn cw fi).next, ∀ c ∈ r, P c := by
  intro r hr c hc
  obtain ⟨l, hl, rfl⟩ := List.mem_map.mp hr
  obtain ⟨c0, h0, hc0⟩ := Lemmas.RenderClip.clipRow_mem cw l c hc
  rcases hc0 with rfl | rfl
  · exact h l hl c h0
  · exact hb c0 (h l hl c0 h0)

theorem clipIn_cellOk (hsp : cw "20" = 1) (hd : dec "20" = [32]) (fi : FrameIn)
    (h : ∀ r ∈ fi.next, ∀ c ∈ r, CellOk dec cw c) : ∀ r ∈ (clipIn cw fi).next, ∀ c ∈ r, CellOk dec cw c :=
  clipIn_cells (fun _ _ => ⟨by show cw "20" ≤ 2; omega, fun _ => by show dec "20" ≠ []; rw [hd]; simp⟩) fi h

/-- For `renderFrameC` (the renderer after the F02 repair): no hypothesis about glyphs fitting their row; the screen
    is `expectedC`. -/
theorem frame_showsC (hew : caps.explicitWidth = false) (hsy : caps.sync = false)
    (hsp : cw "20" = 1) (hd : dec "20" = [32]) (hemp : dec "" = []) (hlp : LpOk dec)
    {rows cols : Nat} (s : HState) {e : Emu} (fi : FrameIn) (hready : Ready s.t s.last rows cols)
    (hsim : DSim dec s.t e rows cols) (hag : fi.refresh = false → Agree cw caps s.t s.last)
    (hok : FrameInOkC cw caps rows cols fi) (hcells : ∀ r ∈ fi.next, ∀ c ∈ r, CellOk dec cw c)
    (hst : fi.cursor.style ≤ 65535)
    (hul : caps.styledUnderlines = true → ∀ r ∈ fi.next, ∀ c ∈ r, c.style.ulStyle ≤ 5)
    (hcur : CursorAs (stepHC cw caps s fi).t fi.cursor) :
    ∃ e', runOps e (opsOfToks dec cw (renderFrameC cw (mkFrame caps s fi)).2) = .ok e' ∧
      Ready (stepHC cw caps s fi).t (stepHC cw caps s fi).last rows cols ∧
      DSim dec (stepHC cw caps s fi).t e' rows cols ∧
      Agree cw caps (stepHC cw caps s fi).t (stepHC cw caps s fi).last ∧
      (stepHC cw caps s fi).t.grid = Expected.expectedC cw caps fi.next ∧
      GridRel dec (Expected.expectedC cw caps fi.next) e'.active ∧ CursorShown fi.cursor e' ∧ EFrame e e' := by
  rw [renderFrameC_toks, stepHC_eq, Lemmas.RenderClip.expectedC_eq]
  rw [stepHC_eq] at hcur
  exact frame_shows hew hsy hsp hd hemp hlp s (clipIn cw fi) hready hsim hag (clipIn_ok cw caps hsp rows cols fi hok)
    (clipIn_cellOk hsp hd fi hcells) hst (fun h => clipIn_cells (fun _ hc => hc) fi (hul h)) hcur

theorem cursorAs_next {rows cols : Nat} (s : HState) (fi : FrameIn) (hready : Ready s.t s.last rows cols)
    (hprev : CursorAs s.t s.cursor) (hok : FrameInOkC cw caps rows cols fi) :
    CursorAs (stepHC cw caps s fi).t fi.cursor := by
  rw [stepHC_eq]
  refine VaxisModel.Props.C01.cursor_as_requested cw cw (mkFrame caps s (clipIn cw fi)) s.t ?_ hprev
  rw [hready.trows, hready.tcols]; exact hok.2.2.2

/-- The cursor clause of a REFRESH frame: a refresh of a non-empty screen writes something, so
    `showCursor()` / `CSI ? 25 l` re-establish the cursor whatever its position was; only the
    remembered visibility is used. -/
theorem cursorAs_refresh (hsp : cw "20" = 1) {rows cols : Nat} (hr1 : 1 ≤ rows) (hc1 : 1 ≤ cols)
    (s : HState) (fi : FrameIn) (hready : Ready s.t s.last rows cols)
    (hvis : s.cursor.visible = false → s.t.cursorVisible = false) (hrf : fi.refresh = true)
    (hok : FrameInOkC cw caps rows cols fi) : CursorAs (stepHC cw caps s fi).t fi.cursor := by
  have hokc := clipIn_ok cw caps hsp rows cols fi hok
  have first : ∀ (g : Grid), g.length = rows → (∀ r ∈ g, r.length = cols) → ∃ c cs ns, g = (c :: cs) :: ns := by
    intro g h1 h2
    cases g with
    | nil => simp at h1; omega
    | cons r ns =>
      cases r with
      | nil => have := h2 [] (by simp); simp at this; omega
      | cons c cs => exact ⟨c, cs, ns, rfl⟩
  obtain ⟨c, cs, ns, hn⟩ := first (clipIn cw fi).next hokc.1 hokc.2.1
  obtain ⟨l0, ls0, ls, hlast⟩ := first s.last hready.llen hready.lcols
  have hsx : c.sixel = false := (hokc.2.2.2.1 (c :: cs) (by rw [hn]; simp) c (by simp)).1
  have hne : (renderBody cw (mkFrame caps s (clipIn cw fi))).2 ≠ [] :=
    Lemmas.RenderCursor.renderBody_nonempty cw (mkFrame caps s (clipIn cw fi)) hrf c cs ns l0 ls0 ls hn hlast hsx
  rw [stepHC_eq]
  refine Lemmas.RenderCursor.cursor_nonempty cw cw (mkFrame caps s (clipIn cw fi)) s.t ?_ hne hvis
  rw [hready.trows, hready.tcols]; exact hok.2.2.2

theorem expected_noPoison (cw : String → Nat) (caps : Caps) (g : Grid) :
    ∀ r ∈ Expected.expected cw caps g, Lemmas.C12Draw.NoPoison r := by
  intro r hr
  obtain ⟨l, _, rfl⟩ := List.mem_map.mp hr
  have : ∀ (l : List Cell) (k : Nat), Lemmas.C12Draw.NoPoison (Expected.expectedRow cw caps k l) := by
    intro l
    induction l with
    | nil => intro k x hx; cases k <;> simp [Expected.expectedRow] at hx
    | cons c cs ih =>
      intro k x hx
      cases k with
      | zero =>
        simp only [Expected.expectedRow, List.mem_cons] at hx
        rcases hx with rfl | hx
        · unfold Expected.expectedCell; simp only; split <;> nofun
        · exact ih _ x hx
      | succ k =>
        simp only [Expected.expectedRow, List.mem_cons] at hx
        rcases hx with rfl | hx
        · nofun
        · exact ih _ x hx
  exact this l 0

open VaxisModel.Model.EmuDraw VaxisModel.Lemmas.C12Draw VaxisModel.Lemmas.EmuDraw in
theorem draw_shows (dec : String → G) (cw : String → Nat) (caps : Caps) (g : Grid) (e : Emu) (rows cols : Nat)
    (hinv : Lemmas.Emu.EmuInv e rows cols) (hd : Lemmas.Emu.Dim rows cols)
    (hrel : GridRel dec (Expected.expected cw caps g) e.active) (focused : Bool) :
    ∃ per : List (List DrawCall),
      draw true Model.Emu.Fixes.current e cols rows focused =
        .ok ({ e with hasVx := true }, per.flatten, shownCursor true e focused) ∧
      per.length = rows ∧
      ∀ (k : Nat) (l : List DrawCall), per[k]? = some l →
        ∃ drow, (Expected.expected cw caps g)[k]? = some drow ∧
          (∀ call ∈ l, ∃ (j : Nat) (d : DCell), call.col = (j : Int) ∧ call.row = (k : Int) ∧ drow[j]? = some d ∧
            d ≠ .cont ∧ HostRel dec d call.cell ∧
            setCellChain cols rows [Win.root cols rows] call.col call.row = some ((j : Int), (k : Int))) ∧
          (∀ (j : Nat) (d : DCell), drow[j]? = some d → d ≠ .cont → ∃ call ∈ l, call.col = (j : Int)) := by
  obtain ⟨per, h1, h2, h3⟩ := VaxisModel.Props.C05Draw.draw_covers_rows hinv hd
  have hsz : ¬ ((cols : Int) ≠ e.width ∨ (rows : Int) ≠ e.height) := by
    rw [Lemmas.Emu.width_eq hinv hd.r1, Lemmas.Emu.height_eq hinv]; omega
  refine ⟨per, by simp only [draw, hsz, if_false, h1, bind, Except.bind], h2, ?_⟩
  intro k l hk
  obtain ⟨line, hline, hwalk⟩ := h3 k l hk
  have hga := Lemmas.Emu.active_ok hinv
  have hkr : k < rows := h2 ▸ (List.getElem?_eq_some_iff.mp hk).1
  have hline' : e.active[k]? = some line := by simpa using (Lemmas.Emu.getI_eq_ok.mp hline).2
  have hlen : line.length = cols := hga.rowLen _ (List.mem_of_getElem? hline')
  have hdl : k < (Expected.expected cw caps g).length := by rw [hrel.length, hga.len]; exact hkr
  have hdk : (Expected.expected cw caps g)[k]? = some (Expected.expected cw caps g)[k] :=
    List.getElem?_eq_getElem hdl
  have hmem := List.getElem_mem hdl
  have hrr := hrel.row hdk hline'
  obtain ⟨w1, w2⟩ := walk_shows dec _ line k cols hrr hlen (expected_noPoison cw caps g _ hmem) l 0
    (by simpa using hwalk) (by simpa using VaxisModel.Props.C01Display.expected_wf cw caps g _ hmem)
  refine ⟨_, hdk, ?_, fun j d hj hn => w2 j d (Nat.zero_le _) hj hn⟩
  intro call hc
  obtain ⟨j, d, e1, _, e3, e4, e5, e6⟩ := w1 call hc
  refine ⟨j, d, e1, e5, e3, e4, e6, ?_⟩
  have hjc : j < cols := by
    have h := (List.getElem?_eq_some_iff.mp e3).1
    rwa [hrr.length, hlen] at h
  rw [e1, e5]
  have a2 : ¬ ((k : Int) < 0 ∨ (j : Int) < 0) := by omega
  have a6 : ¬ ((j : Int) < 0 ∨ (k : Int) < 0) := by omega
  have a7 : ¬ ((j : Int) ≥ (cols : Int)) := by omega
  have a8 : ¬ ((k : Int) ≥ (rows : Int)) := by omega
  simp only [setCellChain, Win.root, a2, a6, a7, a8, if_false, Int.add_zero, or_self]

theorem draw_cursor {c : CursorState} {e : Emu} {rows cols : Nat} (hinv : Lemmas.Emu.EmuInv e rows cols)
    (hc : CursorShown c e) (hcol : c.visible = true → c.col < cols) :
    Model.EmuDraw.shownCursor true e true = (if c.visible then some (c.col, c.row) else none) := by
  unfold Model.EmuDraw.shownCursor
  cases hv : c.visible with
  | true =>
    obtain ⟨c1, c2, c3, _⟩ := hc.of_visible hv
    have := hinv.right; have := hinv.colHi
    have hlt := hcol hv
    have hng : ¬ (c.col > e.right) := by omega
    simp only [c1, Bool.and_self, if_true, Bool.true_and, decide_eq_true_eq, c2, c3, hng, if_false]
  | false => simp [hc.of_hidden hv]

open VaxisModel.Model.C12Read VaxisModel.Lemmas.C12Read in
theorem reads_back (enc : G → String) (fi : FrameIn) (e : Emu)
    (hg : GridRel dec (Expected.expectedC cw caps fi.next) e.active) (hcur : CursorShown fi.cursor e)
    (h20 : enc (dec "20") = "20") (hc : ∀ r ∈ fi.next, ∀ c ∈ r, EncCell enc dec c) :
    readScreen enc e.active = Expected.expectedC cw caps fi.next ∧
    readCursor e = (if fi.cursor.visible then some (fi.cursor.row, fi.cursor.col, (fi.cursor.style : Int)) else none) := by
  constructor
  · rw [Lemmas.RenderClip.expectedC_eq] at hg ⊢
    exact readScreen_expected cw caps h20 _ _
      (clipIn_cells (cw := cw) (fun c hk => ⟨h20, hk.2.1, hk.2.2⟩) fi hc) hg
  · unfold readCursor
    cases hv : fi.cursor.visible with
    | true =>
      obtain ⟨a, b, c, d⟩ := hcur.of_visible hv
      simp [a, b, c, d]
    | false => simp [hcur.of_hidden hv]

open VaxisModel.Lemmas.C12Cluster in
/-- Every text write of a frame is the grapheme of a cell of the frame's screen or the blank; so a
    no-merging hypothesis about those graphemes covers the frame's tokens. -/
theorem frame_noMerge (merges : String → String → Bool) (cw : String → Nat) (caps : Caps) (s : HState) (fi : FrameIn)
    (h : ∀ a b, (a = "20" ∨ ∃ r ∈ fi.next, ∃ c ∈ r, a = c.g) → (b = "20" ∨ ∃ r ∈ fi.next, ∃ c ∈ r, b = c.g) →
      merges a b = false) : NoMerge merges (renderFrameC cw (mkFrame caps s fi)).2 := by
  have hS : ∀ k ∈ (renderFrameC cw (mkFrame caps s fi)).2,
      TextIn (fun g => g = "20" ∨ ∃ r ∈ fi.next, ∃ c ∈ r, g = c.g) k := by
    rw [Lemmas.RenderClip.renderFrameC_eq]
    exact frame_textIn _ (Or.inl rfl) _ _
      (clipIn_cells (cw := cw) (P := fun c => c.g = "20" ∨ ∃ r ∈ fi.next, ∃ c' ∈ r, c.g = c'.g) (fun _ _ => Or.inl rfl) fi
        (fun r hr c hc => Or.inr ⟨r, hr, c, hc, rfl⟩))
  intro a b ha hb
  exact h a b (hS _ ha) (hS _ hb)

end VaxisModel.Lemmas.C12Frame
