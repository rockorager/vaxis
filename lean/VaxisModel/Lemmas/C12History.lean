/-
C12 — the composition across resizes, for an application on either screen of the emulator. On the primary screen
`resize()` reflows the old content, so between a resize and the end of the refresh frame the emulator is related to a
display with an UNKNOWN grid (`DCell.poison` constrains nothing); a refresh frame starts from any `Ready` terminal and
ends with the application's screen. `LinkedP` is what holds between any two flushes. The run carries the blank display of
`afterResize` where the proof has the unknown one: it only looks at the renderer's memory (`MemEq`). The definitions the
statements of `Props/C12Caps.lean` and `Props/C12Any.lean` use are declared here, in those namespaces.
-/
import VaxisModel.Lemmas.C12Segments

namespace VaxisModel.Props.C12Caps
open VaxisModel.Model.Render VaxisModel.Spec VaxisModel.Spec.Display VaxisModel.Lemmas.RenderGate
open VaxisModel.Model.Emu (Emu EOp G M runOps)
open VaxisModel.Model.C12Compose VaxisModel.Lemmas.C12Sim VaxisModel.Lemmas.C12Vocab VaxisModel.Lemmas.C12Resize
open VaxisModel.Props.C01 (CursorAs Agree)
open VaxisModel.Props.C01Display (FrameIn HState mkFrame stepH FrameInOk Ready)
open VaxisModel.Props.C01Clip (FrameInOkC clipIn stepHC stepHC_eq clipIn_ok)
open VaxisModel.Props.C12 (Linked EmuFrameOk emuCaps startState start_ready)
open VaxisModel.Props.C12Resize (LinkedR afterResize Seg)

variable (caps : Caps)

/-- `Shows` for the capability set `caps`. -/
def ShowsK (dec : String → G) (cw : String → Nat) (fi : FrameIn) (e : Emu) : Prop :=
  GridRel dec (Expected.expected cw caps fi.next) e.active ∧
  (if fi.cursor.visible then
     e.mode.dectcem = true ∧ e.cur.row = fi.cursor.row ∧ e.cur.col = fi.cursor.col ∧ e.cur.shape = (fi.cursor.style : Int)
   else e.mode.dectcem = false)

/-- `ShowsC` for the capability set `caps`. -/
def ShowsCK (dec : String → G) (cw : String → Nat) (fi : FrameIn) (e : Emu) : Prop :=
  GridRel dec (Expected.expectedC cw caps fi.next) e.active ∧
  (if fi.cursor.visible then
     e.mode.dectcem = true ∧ e.cur.row = fi.cursor.row ∧ e.cur.col = fi.cursor.col ∧ e.cur.shape = (fi.cursor.style : Int)
   else e.mode.dectcem = false)

/-- `runFramesC` for the capability set `caps`. -/
def runFramesCK (dec : String → G) (cw : String → Nat) : HState → Emu → List FrameIn → M Emu
  | _, e, [] => .ok e
  | s, e, fi :: rest => do
    let e' ← runOps e (opsOfToks dec cw (renderFrameC cw (mkFrame caps s fi)).2)
    runFramesCK dec cw (stepHC cw caps s fi) e' rest

/-- A segment the theorems cover: a size between 1 and 65535 each way (`Dim`), a first frame that repaints everything
    (the renderer's `refresh` after a resize), and every frame within the vocabulary at that size. -/
def SegOk (caps : Caps) (dec : String → G) (cw : String → Nat) (sg : Seg) : Prop :=
  (1 ≤ sg.cols ∧ sg.cols ≤ 65535 ∧ 1 ≤ sg.rows ∧ sg.rows ≤ 65535) ∧
  (∀ fi, sg.frames.head? = some fi → fi.refresh = true) ∧
  ∀ fi ∈ sg.frames, FrameInOkC cw caps sg.rows sg.cols fi ∧ EmuFrameOk dec cw fi

/-- The emulator model through a whole history: per segment `resize(cols, rows)`, then frame after
    frame what the renderer model (`renderFrameC`, with reallocated buffers) writes. -/
def runSegs (caps : Caps) (dec : String → G) (cw : String → Nat) : HState → Emu → List Seg → M Emu
  | _, e, [] => .ok e
  | s, e, sg :: rest => do
    let e1 ← runOps e [.resize sg.cols sg.rows]
    let s1 := afterResize sg.cols sg.rows e1 s
    let e2 ← runFramesCK caps dec cw s1 e1 sg.frames
    runSegs caps dec cw (sg.frames.foldl (stepHC cw caps) s1) e2 rest

end VaxisModel.Props.C12Caps

namespace VaxisModel.Props.C12Any
open VaxisModel.Model.Render VaxisModel.Spec VaxisModel.Spec.Display VaxisModel.Lemmas.RenderGate
open VaxisModel.Model.Emu (Emu EOp G M runOps)
open VaxisModel.Model.C12Compose VaxisModel.Lemmas.C12Sim VaxisModel.Lemmas.C12Vocab VaxisModel.Lemmas.C12Resize
open VaxisModel.Lemmas.EmuRefine (EFrame)
open VaxisModel.Lemmas.RenderDisplay (WFRow)
open VaxisModel.Props.C01 (CursorAs Agree)
open VaxisModel.Props.C01Display (FrameIn HState mkFrame stepH FrameInOk Ready)
open VaxisModel.Props.C01Clip (FrameInOkC clipIn stepHC stepHC_eq clipIn_ok)
open VaxisModel.Props.C12 (Linked EmuFrameOk emuCaps)
open VaxisModel.Props.C12Resize (LinkedR afterResize Seg)
open VaxisModel.Props.C12Caps

/-- What the composition needs of the capability set: no explicit width (the emulator ignores OSC 66,
    so a glyph written that way is not shown at all), no synchronized output. Direct colour and styled
    underlines: either way. -/
class CapsOkU (caps : Caps) : Prop where
  ew : caps.explicitWidth = false
  sy : caps.sync = false

/-- With styled underlines, every cell's underline style is one of `UnderlineOff … UnderlineDashed`. -/
def UlOk (caps : Caps) (fi : FrameIn) : Prop :=
  caps.styledUnderlines = true → ∀ r ∈ fi.next, ∀ c ∈ r, c.style.ulStyle ≤ 5

variable {caps : Caps} [CapsOkU caps]

/-- After a frame: linked and the display still shows the frame. -/
structure LinkedF (caps : Caps) (dec : String → G) (cw : String → Nat) (s : HState) (e : Emu) (rows cols : Nat) : Prop where
  linked : Linked dec cw s e rows cols
  agree : Agree cw caps s.t s.last

/-- After a resize (or at the start), before the refresh frame: the display is at rest, its grid and
    the cursor POSITION are not known, only the cursor's visibility. `LinkedR` without "on the alternate
    screen". -/
structure LinkedP (dec : String → G) (cw : String → Nat) (s : HState) (e : Emu) (rows cols : Nat) : Prop where
  ready : Ready s.t s.last rows cols
  vis : s.cursor.visible = false → s.t.cursorVisible = false
  sim : DSim dec s.t e rows cols

omit [CapsOkU caps] in
theorem LinkedF.toP {dec : String → G} {cw : String → Nat} {s : HState} {e : Emu} {rows cols : Nat}
    (hl : LinkedF caps dec cw s e rows cols) : LinkedP dec cw s e rows cols := by
  refine ⟨hl.linked.ready, ?_, hl.linked.sim⟩
  intro hv
  have hc := hl.linked.cursor
  unfold CursorAs at hc
  simpa [hv] using hc

omit [CapsOkU caps] in
theorem _root_.VaxisModel.Props.C12Resize.LinkedR.toP {dec : String → G} {cw : String → Nat} {s : HState} {e : Emu}
    {rows cols : Nat} (hl : LinkedR dec cw s e rows cols) : LinkedP dec cw s e rows cols := ⟨hl.ready, hl.vis, hl.sim⟩

/-- The display grid about which nothing is known. -/
def poisonGrid (cols rows : Nat) : List (List DCell) := List.replicate rows (List.replicate cols DCell.poison)

/-- The reference display after a resize of an emulator showing ANY screen: at rest, the cursor where
    `resize()` left it, visibility and shape as they are — and a grid about which nothing is claimed (on
    the primary screen: the reflowed old content). -/
def resizedDisplayP (cols rows : Nat) (e : Emu) : Term :=
  { resizedDisplay cols rows e with grid := poisonGrid cols rows }

def afterResizeP (cols rows : Nat) (e : Emu) (s : HState) : HState :=
  ⟨resizedDisplayP cols rows e, Model.Render.blankGrid cols rows, s.cursor, s.shape⟩

def MemEq (s s' : HState) : Prop := s.last = s'.last ∧ s.cursor = s'.cursor ∧ s.shape = s'.shape

omit [CapsOkU caps] in
theorem MemEq.trans {a b c : HState} (h1 : MemEq a b) (h2 : MemEq b c) : MemEq a c :=
  ⟨h1.1.trans h2.1, h1.2.1.trans h2.2.1, h1.2.2.trans h2.2.2⟩

/-- The renderer's memory after a history (the reference display component is irrelevant: `MemEq`). -/
def segsMem (caps : Caps) (cw : String → Nat) : HState → List Seg → HState
  | s, [] => s
  | s, sg :: rest =>
    segsMem caps cw (sg.frames.foldl (stepHC cw caps) ⟨s.t, Model.Render.blankGrid sg.cols sg.rows, s.cursor, s.shape⟩) rest

def SegOkU (caps : Caps) (dec : String → G) (cw : String → Nat) (sg : Seg) : Prop :=
  SegOk caps dec cw sg ∧ ∀ fi ∈ sg.frames, UlOk caps fi

end VaxisModel.Props.C12Any

namespace VaxisModel.Lemmas.C12History
open VaxisModel.Lemmas.C12Segments (resize_facts runOps_resize)
open VaxisModel.Model.Render VaxisModel.Spec VaxisModel.Spec.Display VaxisModel.Lemmas.RenderGate
open VaxisModel.Model.Emu (Emu EOp G M runOps)
open VaxisModel.Model.C12Compose VaxisModel.Lemmas.C12Sim VaxisModel.Lemmas.C12Vocab VaxisModel.Lemmas.C12Resize
open VaxisModel.Lemmas.EmuRefine (EFrame)
open VaxisModel.Lemmas.RenderDisplay (WFRow)
open VaxisModel.Props.C01 (CursorAs Agree)
open VaxisModel.Props.C01Display (FrameIn HState mkFrame stepH FrameInOk Ready)
open VaxisModel.Props.C01Clip (FrameInOkC clipIn stepHC stepHC_eq clipIn_ok)
open VaxisModel.Props.C12 (Linked EmuFrameOk emuCaps)
open VaxisModel.Props.C12Resize (LinkedR afterResize Seg)
open VaxisModel.Props.C12Caps
open VaxisModel.Props.C12Any

variable {caps : Caps} [CapsOkU caps]

theorem ulOk_of_noSu (caps : Caps) (h : caps.styledUnderlines = false) (fi : FrameIn) : UlOk caps fi :=
  fun hs => by rw [h] at hs; cases hs

def Before (caps : Caps) (dec : String → G) (cw : String → Nat) (s : HState) (e : Emu) (rows cols : Nat)
    (refresh : Bool) : Prop :=
  LinkedP dec cw s e rows cols ∧ (refresh = false → LinkedF caps dec cw s e rows cols)

omit [CapsOkU caps] in
theorem _root_.VaxisModel.Props.C12Any.LinkedF.before {dec : String → G} {cw : String → Nat} {s : HState} {e : Emu} {rows cols : Nat}
    (h : LinkedF caps dec cw s e rows cols) (b : Bool) : Before caps dec cw s e rows cols b := ⟨h.toP, fun _ => h⟩

omit [CapsOkU caps] in
theorem _root_.VaxisModel.Props.C12Any.LinkedP.before {dec : String → G} {cw : String → Nat} {s : HState} {e : Emu} {rows cols : Nat}
    (h : LinkedP dec cw s e rows cols) : Before caps dec cw s e rows cols true := ⟨h, fun h => by cases h⟩

/-- A refresh needs neither the previous cursor position nor anything about the grid. -/
theorem frame_linked {dec : String → G} {cw : String → Nat} (hsp : cw "20" = 1) (hd : dec "20" = [32]) (hemp : dec "" = [])
    (hlp : LpOk dec) {rows cols : Nat} {s : HState} {e : Emu} (fi : FrameIn)
    (hb : Before caps dec cw s e rows cols fi.refresh)
    (hok : FrameInOkC cw caps rows cols fi) (hok2 : EmuFrameOk dec cw fi) (hul : UlOk caps fi) :
    ∃ e', runOps e (opsOfToks dec cw (renderFrameC cw (mkFrame caps s fi)).2) = .ok e' ∧
      LinkedF caps dec cw (stepHC cw caps s fi) e' rows cols ∧ ShowsCK caps dec cw fi e' ∧
      e'.mode.smcup = e.mode.smcup ∧ (stepHC cw caps s fi).t.grid = Expected.expectedC cw caps fi.next := by
  obtain ⟨hl, hf⟩ := hb
  have hcur : CursorAs (stepHC cw caps s fi).t fi.cursor := by
    cases hrf : fi.refresh with
    | true => exact Lemmas.C12Frame.cursorAs_refresh hsp hl.sim.dim.r1 hl.sim.dim.c1 s fi hl.ready hl.vis hrf hok
    | false => exact Lemmas.C12Frame.cursorAs_next s fi hl.ready (hf hrf).linked.cursor hok
  obtain ⟨e', hr, r1, s1, a1, hg, g1, c1, hfr⟩ := Lemmas.C12Frame.frame_showsC CapsOkU.ew CapsOkU.sy hsp hd hemp hlp s fi
    hl.ready hl.sim (fun h => (hf h).agree) hok hok2.1 hok2.2 hul hcur
  exact ⟨e', hr, ⟨⟨r1, hcur, s1⟩, a1⟩, ⟨g1, c1⟩, hfr.smcup, hg⟩

theorem wf_poison : ∀ (n : Nat), WFRow 0 (List.replicate n DCell.poison)
  | 0 => by simp [WFRow]
  | n + 1 => by simp only [List.replicate_succ, WFRow]; exact wf_poison n

/-- On either screen; the display at rest may carry ANY well-formed grid the emulator's active grid shows. -/
theorem resize_linked_grid (dec : String → G) (cw : String → Nat) (rows cols : Nat) (s : HState) (e : Emu)
    (hl : LinkedP dec cw s e rows cols) (w h : Nat) (hw1 : 1 ≤ w) (hw2 : w ≤ 65535) (hh1 : 1 ≤ h) (hh2 : h ≤ 65535) :
    ∃ e', runOps e [.resize w h] = .ok e' ∧ ResizeFacts e e' (w : Int) (h : Int) ∧ e'.mode.smcup = e.mode.smcup ∧
      ∀ g : List (List DCell), GridRel dec g e'.active → (∀ r ∈ g, WFRow 0 r) →
        LinkedP dec cw ⟨{ resizedDisplay w h e' with grid := g }, Model.Render.blankGrid w h, s.cursor, s.shape⟩ e' h w := by
  have hsim := hl.sim
  obtain ⟨e', hr, _⟩ := Lemmas.Emu.resize_safe hsim.inv hsim.dim (w : Int) (h : Int) (by omega) (by omega) (by omega) (by omega)
  have f := resize_facts hsim.inv hsim.dim (w : Int) (h : Int) (by omega) (by omega) (by omega) (by omega) hr
  refine ⟨e', runOps_resize hr, f, by rw [f.mode], fun g hg hwf => ?_⟩
  have hrest := hl.ready.rest
  obtain ⟨s1, _, s3⟩ := dsim_after_resize_grid hsim hrest.1 hrest.2.1 hl.ready.lp f g hg
  simp only [Int.toNat_natCast] at s1
  have hga := Lemmas.Emu.active_ok s1.inv
  have hi := Props.C01Display.init_ready w h
  refine ⟨⟨hi.rest, hi.bad, hi.lp, hi.trows, hi.tcols, hg.length.trans hga.len, hi.llen, ?_, hi.lcols, hwf⟩, ?_, s1⟩
  · intro r hr
    obtain ⟨i, hi'⟩ := List.getElem?_of_mem hr
    have hlt : i < e'.active.length := hg.length ▸ (List.getElem?_eq_some_iff.mp hi').1
    rw [(hg.row hi' (List.getElem?_eq_getElem hlt)).length]
    exact hga.rowLen _ (List.getElem_mem hlt)
  · intro hv
    show e'.mode.dectcem = false
    rw [s3]
    exact hl.vis hv

theorem resize_linked_any (dec : String → G) (cw : String → Nat) (rows cols : Nat) (s : HState) (e : Emu)
    (hl : LinkedP dec cw s e rows cols) (w h : Nat) (hw1 : 1 ≤ w) (hw2 : w ≤ 65535) (hh1 : 1 ≤ h) (hh2 : h ≤ 65535) :
    ∃ e', runOps e [.resize w h] = .ok e' ∧ LinkedP dec cw (afterResizeP w h e' s) e' h w ∧
      e'.mode.smcup = e.mode.smcup := by
  obtain ⟨e', hr, f, hm, hg⟩ := resize_linked_grid dec cw rows cols s e hl w h hw1 hw2 hh1 hh2
  refine ⟨e', hr, hg (poisonGrid w h) (gridRel_replicate .poison (by simpa using Lemmas.Emu.active_ok f.inv)
    (fun _ _ _ _ => trivial)) ?_, hm⟩
  intro r hr
  rw [List.eq_of_mem_replicate hr]
  exact wf_poison w

/-- On the alternate screen, which `resize()` leaves blank. -/
theorem resize_linked (dec : String → G) (cw : String → Nat) (rows cols : Nat) (s : HState) (e : Emu)
    (hl : LinkedR dec cw s e rows cols) (w h : Nat) (hw1 : 1 ≤ w) (hw2 : w ≤ 65535) (hh1 : 1 ≤ h) (hh2 : h ≤ 65535) :
    ∃ e', runOps e [.resize w h] = .ok e' ∧ LinkedR dec cw (afterResize w h e' s) e' h w := by
  obtain ⟨e', hr, f, hm, hg⟩ := resize_linked_grid dec cw rows cols s e hl.toP w h hw1 hw2 hh1 hh2
  have hact : e'.active = Model.Emu.blankGrid w h := by
    unfold Emu.active
    rw [f.altActive, hl.alt, if_pos rfl, f.alt]
    simp
  have hp := hg (resizedDisplay w h e').grid (by rw [hact]; exact gridRel_blank h w) (Props.C01Display.init_ready w h).wf
  exact ⟨e', hr, hp.ready, hp.vis, hp.sim, hm.trans hl.alt⟩

omit [CapsOkU caps] in
theorem mkFrame_memEq {s s' : HState} (h : MemEq s s') (fi : FrameIn) : mkFrame caps s fi = mkFrame caps s' fi := by
  obtain ⟨h1, h2, h3⟩ := h
  simp only [mkFrame, h1, h2, h3]

omit [CapsOkU caps] in
theorem stepHC_memEq (cw : String → Nat) {s s' : HState} (h : MemEq s s') (fi : FrameIn) :
    MemEq (stepHC cw caps s fi) (stepHC cw caps s' fi) := by
  simp only [MemEq, stepHC, mkFrame_memEq (caps := caps) h fi, and_self]

omit [CapsOkU caps] in
theorem foldl_memEq (cw : String → Nat) : ∀ (fis : List FrameIn) {s s' : HState}, MemEq s s' →
    MemEq (fis.foldl (stepHC cw caps) s) (fis.foldl (stepHC cw caps) s')
  | [], _, _, h => h
  | fi :: rest, _, _, h => foldl_memEq cw rest (stepHC_memEq cw h fi)

omit [CapsOkU caps] in
theorem runFramesCK_memEq (dec : String → G) (cw : String → Nat) : ∀ (fis : List FrameIn) {s s' : HState} (e : Emu),
    MemEq s s' → runFramesCK caps dec cw s e fis = runFramesCK caps dec cw s' e fis
  | [], _, _, _, _ => rfl
  | fi :: rest, s, s', e, h => by
    simp only [runFramesCK, mkFrame_memEq (caps := caps) h fi]
    exact bind_congr fun e1 => runFramesCK_memEq dec cw rest e1 (stepHC_memEq cw h fi)

omit [CapsOkU caps] in
theorem segsMem_memEq (cw : String → Nat) : ∀ (segs : List Seg) {a b : HState}, MemEq a b →
    MemEq (segsMem caps cw a segs) (segsMem caps cw b segs)
  | [], _, _, h => h
  | sg :: rest, a, b, h => by
    simp only [segsMem]
    exact segsMem_memEq cw rest (foldl_memEq cw sg.frames ⟨rfl, h.2.1, h.2.2⟩)

omit [CapsOkU caps] in
theorem segOkU_of_noSu (h : caps.styledUnderlines = false) (dec : String → G) (cw : String → Nat) (sg : Seg)
    (hs : SegOk caps dec cw sg) : SegOkU caps dec cw sg := ⟨hs, fun fi _ => ulOk_of_noSu caps h fi⟩

def After (caps : Caps) (dec : String → G) (cw : String → Nat) (s : HState) (e : Emu) (rows cols : Nat) :
    Option FrameIn → Prop
  | none => True
  | some fi => LinkedF caps dec cw s e rows cols ∧ ShowsCK caps dec cw fi e ∧ s.t.grid = Expected.expectedC cw caps fi.next

/-- The first frame needs `Before`, every later one finds the `LinkedF` its predecessor left. -/
theorem frames_linked {dec : String → G} {cw : String → Nat} (hsp : cw "20" = 1) (hd : dec "20" = [32]) (hemp : dec "" = [])
    (hlp : LpOk dec) (rows cols : Nat) :
    ∀ (fis : List FrameIn) (s : HState) (e : Emu), LinkedP dec cw s e rows cols →
      (∀ fi, fis.head? = some fi → Before caps dec cw s e rows cols fi.refresh) →
      (∀ fi ∈ fis, (FrameInOkC cw caps rows cols fi ∧ EmuFrameOk dec cw fi) ∧ UlOk caps fi) →
      ∃ e', runFramesCK caps dec cw s e fis = .ok e' ∧ e'.mode.smcup = e.mode.smcup ∧
        LinkedP dec cw (fis.foldl (stepHC cw caps) s) e' rows cols ∧
        After caps dec cw (fis.foldl (stepHC cw caps) s) e' rows cols fis.getLast? := by
  intro fis
  induction fis with
  | nil => intro s e hl _ _; exact ⟨e, rfl, rfl, hl, trivial⟩
  | cons a rest ih =>
    intro s e _ hb hok
    obtain ⟨e1, hr1, hl1, sh1, m1, g1⟩ := frame_linked hsp hd hemp hlp a (hb a rfl) (hok a (by simp)).1.1 (hok a (by simp)).1.2
      (hok a (by simp)).2
    obtain ⟨e2, hr2, m2, hl2, af2⟩ := ih (stepHC cw caps s a) e1 hl1.toP (fun _ _ => hl1.before _)
      (fun fi h => hok fi (by simp [h]))
    refine ⟨e2, by simp only [runFramesCK, hr1, bind, Except.bind]; exact hr2, by rw [m2, m1], hl2, ?_⟩
    cases rest with
    | nil => cases hr2; exact ⟨hl1, sh1, g1⟩
    | cons b rest' => rw [List.getLast?_cons_cons]; exact af2

/-- The resize keeps `LinkedP` on either screen, and the segment's refresh frame needs no more. `s` is the
    bookkeeping state of the run (`C12Caps.runSegs`), `s'` the one of the proof (the same renderer memory, the display
    with the unknown grid). -/
theorem seg_linked {dec : String → G} {cw : String → Nat} (hsp : cw "20" = 1) (hd : dec "20" = [32]) (hemp : dec "" = [])
    (hlp : LpOk dec) (rows cols : Nat) (s s' : HState) (e : Emu) (hm : MemEq s s') (hl : LinkedP dec cw s' e rows cols)
    (sg : Seg) (hsg : SegOkU caps dec cw sg) :
    ∃ e1 e2 s2', runOps e [.resize sg.cols sg.rows] = .ok e1 ∧
      runFramesCK caps dec cw (afterResize sg.cols sg.rows e1 s) e1 sg.frames = .ok e2 ∧
      MemEq (sg.frames.foldl (stepHC cw caps) (afterResize sg.cols sg.rows e1 s)) s2' ∧
      e2.mode.smcup = e.mode.smcup ∧ LinkedP dec cw s2' e2 sg.rows sg.cols ∧
      After caps dec cw s2' e2 sg.rows sg.cols sg.frames.getLast? := by
  obtain ⟨⟨⟨hw1, hw2, hh1, hh2⟩, hhead, hfr⟩, hul⟩ := hsg
  obtain ⟨e1, hr1, lr, m1⟩ := resize_linked_any dec cw rows cols s' e hl sg.cols sg.rows hw1 hw2 hh1 hh2
  have hm1 : MemEq (afterResize sg.cols sg.rows e1 s) (afterResizeP sg.cols sg.rows e1 s') := ⟨rfl, hm.2.1, hm.2.2⟩
  obtain ⟨e2, hr2, m2, hl2, af⟩ := frames_linked (caps := caps) hsp hd hemp hlp sg.rows sg.cols sg.frames _ e1 lr
    (fun fi h => hhead fi h ▸ lr.before) (fun fi h => ⟨hfr fi h, hul fi h⟩)
  exact ⟨e1, e2, _, hr1, by rw [runFramesCK_memEq (caps := caps) dec cw sg.frames e1 hm1]; exact hr2,
    foldl_memEq cw sg.frames hm1, by rw [m2, m1], hl2, af⟩

theorem segs_linked {dec : String → G} {cw : String → Nat} (hsp : cw "20" = 1) (hd : dec "20" = [32]) (hemp : dec "" = [])
    (hlp : LpOk dec) :
    ∀ (segs : List Seg) (rows cols : Nat) (s s' : HState) (e : Emu), MemEq s s' → LinkedP dec cw s' e rows cols →
      (∀ sg ∈ segs, SegOkU caps dec cw sg) →
      ∃ e' s2', runSegs caps dec cw s e segs = .ok e' ∧ e'.mode.smcup = e.mode.smcup ∧
        MemEq (segsMem caps cw s segs) s2' ∧
        LinkedP dec cw s2' e' ((segs.getLast?.map (·.rows)).getD rows) ((segs.getLast?.map (·.cols)).getD cols) ∧
        ∀ sg, segs.getLast? = some sg → After caps dec cw s2' e' sg.rows sg.cols sg.frames.getLast? := by
  intro segs
  induction segs with
  | nil => intro rows cols s s' e hm hl _; exact ⟨e, s', rfl, rfl, hm, hl, fun sg h => by simp at h⟩
  | cons sg rest ih =>
    intro rows cols s s' e hm hl hok
    obtain ⟨e1, e2, s2', hr1, hr2, hm2, m2, lr, af⟩ := seg_linked hsp hd hemp hlp rows cols s s' e hm hl sg (hok sg (by simp))
    have h1 : MemEq (sg.frames.foldl (stepHC cw caps) ⟨s.t, Model.Render.blankGrid sg.cols sg.rows, s.cursor, s.shape⟩)
        (sg.frames.foldl (stepHC cw caps) (afterResize sg.cols sg.rows e1 s)) := foldl_memEq cw sg.frames ⟨rfl, rfl, rfl⟩
    cases rest with
    | nil =>
      exact ⟨e2, s2', by simp only [runSegs, hr1, hr2, bind, Except.bind], m2, h1.trans hm2, by simpa using lr,
        fun sg' h => by cases h; exact af⟩
    | cons b rest' =>
      obtain ⟨e3, s3', hr3, m3, hm3, lr3, af3⟩ := ih sg.rows sg.cols _ s2' e2 hm2 lr (fun x hx => hok x (by simp [hx]))
      refine ⟨e3, s3', by simp only [runSegs, hr1, hr2, bind, Except.bind]; exact hr3, by rw [m3, m2],
        (segsMem_memEq (caps := caps) cw (b :: rest') h1).trans hm3, ?_⟩
      rw [List.getLast?_cons_cons]
      obtain ⟨x, hx⟩ : ∃ x, (b :: rest').getLast? = some x := ⟨_, List.getLast?_cons⟩
      rw [hx] at lr3 ⊢
      exact ⟨lr3, fun sg' h => af3 sg' (hx.trans h)⟩

theorem shows_across_resizes_aux (dec : String → G) (cw : String → Nat) (hsp : cw "20" = 1) (hd : dec "20" = [32])
    (hemp : dec "" = []) (hlp : LpOk dec) (segs : List Seg) (rows cols : Nat) (s s' : HState) (e : Emu) (hm : MemEq s s')
    (hl : LinkedP dec cw s' e rows cols) (hok : ∀ sg ∈ segs, SegOkU caps dec cw sg) :
    ∃ e', runSegs caps dec cw s e segs = .ok e' ∧ e'.mode.smcup = e.mode.smcup ∧
      ∀ sg, segs.getLast? = some sg → Lemmas.Emu.EmuInv e' sg.rows sg.cols ∧
        ∀ fi, sg.frames.getLast? = some fi → ShowsCK caps dec cw fi e' := by
  obtain ⟨e', s2', hr, m, _, lr, af⟩ := segs_linked (caps := caps) hsp hd hemp hlp segs rows cols s s' e hm hl hok
  refine ⟨e', hr, m, fun sg h => ⟨?_, fun fi hf => ?_⟩⟩
  · rw [h] at lr; exact lr.sim.inv
  · have := af sg h; rw [hf] at this; exact this.2.1

open VaxisModel.Model.EmuDraw VaxisModel.Lemmas.C12Draw VaxisModel.Lemmas.EmuDraw in
theorem emu_draw_across_resizes_any (dec : String → G) (cw : String → Nat) (hsp : cw "20" = 1) (hd : dec "20" = [32])
    (hemp : dec "" = []) (hlp : LpOk dec) (segs : List Seg) (rows cols : Nat) (s : HState) (e : Emu)
    (hl : LinkedP dec cw s e rows cols) (hok : ∀ sg ∈ segs, SegOkU caps dec cw sg)
    (sg : Seg) (fi : FrameIn) (hsg : segs.getLast? = some sg) (hfi : sg.frames.getLast? = some fi) (focused : Bool) :
    ∃ (e' : Emu) (per : List (List DrawCall)), runSegs caps dec cw s e segs = .ok e' ∧
      draw true Model.Emu.Fixes.current e' sg.cols sg.rows focused =
        .ok ({ e' with hasVx := true }, per.flatten, shownCursor true e' focused) ∧
      per.length = sg.rows ∧
      (∀ (k : Nat) (l : List DrawCall), per[k]? = some l →
        ∃ drow, (Expected.expectedC cw caps fi.next)[k]? = some drow ∧
          (∀ call ∈ l, ∃ (j : Nat) (d : DCell), call.col = (j : Int) ∧ call.row = (k : Int) ∧ drow[j]? = some d ∧
            d ≠ .cont ∧ HostRel dec d call.cell ∧
            setCellChain sg.cols sg.rows [Win.root sg.cols sg.rows] call.col call.row = some ((j : Int), (k : Int))) ∧
          (∀ (j : Nat) (d : DCell), drow[j]? = some d → d ≠ .cont → ∃ call ∈ l, call.col = (j : Int))) ∧
      shownCursor true e' true = (if fi.cursor.visible then some (fi.cursor.col, fi.cursor.row) else none) := by
  obtain ⟨e', hr, _, h⟩ := shows_across_resizes_aux dec cw hsp hd hemp hlp segs rows cols s s e ⟨rfl, rfl, rfl⟩ hl hok
  obtain ⟨hi, hs⟩ := h sg hsg
  have hsh := hs fi hfi
  have hsgok := (hok sg (List.mem_of_getLast? hsg)).1
  have dm : Lemmas.Emu.Dim sg.rows sg.cols := ⟨hsgok.1.2.2.1, hsgok.1.1, hsgok.1.2.2.2, hsgok.1.2.1⟩
  have hrel := hsh.1
  rw [Lemmas.RenderClip.expectedC_eq] at hrel
  obtain ⟨per, h1, h2, h3⟩ := Lemmas.C12Frame.draw_shows dec cw caps (clipIn cw fi).next e' sg.rows sg.cols hi dm hrel focused
  refine ⟨e', per, hr, h1, h2, ?_, ?_⟩
  · rw [Lemmas.RenderClip.expectedC_eq]; exact h3
  · have hfiok := hsgok.2.2 fi (List.mem_of_getLast? hfi)
    exact Lemmas.C12Frame.draw_cursor hi hsh.2 (fun hv => by have := (hfiok.1.2.2.2 hv).2.2; exact_mod_cast this)

end VaxisModel.Lemmas.C12History
