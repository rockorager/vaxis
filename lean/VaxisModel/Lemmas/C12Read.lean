/-
C12 — reading the emulator's grid BACK as a screen: `GridRel` as a FUNCTION of the emulator's grid alone. `readScreen enc g`
reads every row left to right; a cell with a grapheme is read as that glyph with its stored width, style, hyperlink and
parameters (`enc` turns the stored bytes back into the opaque strings of the renderer model), an erased / never written
cell as a blank with its stored background, and the `w − 1` cells after a glyph of width `w` as continuation cells whatever
they hold (that is how `Draw` walks the row: `col += w − 1`).
-/
import VaxisModel.Lemmas.C12Sim
import VaxisModel.Spec.Expected
import VaxisModel.Model.C12Read

namespace VaxisModel.Lemmas.C12Read
open VaxisModel.Model.Emu VaxisModel.Model.EmuAbs VaxisModel.Lemmas.C12Sim
open VaxisModel.Spec VaxisModel.Spec.Display VaxisModel.Spec.Expected
open VaxisModel.Model.Render (Cell Caps)
open VaxisModel.Model.C12Read

/-- `enc` inverts `dec` on the strings of one application cell as they are shown: grapheme, URL, and the
    OSC 8 parameter FIELD (`paramField`: the parameters up to the first `;` — what `render()` writes —
    and nothing for a cell without a URL). -/
def EncCell (enc : G → String) (dec : String → G) (c : Cell) : Prop :=
  enc (dec c.g) = c.g ∧ enc (dec c.style.link) = c.style.link ∧
  enc (dec (paramField (if c.style.link = "" then "" else c.style.linkParams))) =
    paramField (if c.style.link = "" then "" else c.style.linkParams)

theorem rowRel_cons {dec : String → G} {a : DCell} {as : List DCell} {b : ECell} {bs : Row}
    (h : RowRel dec (a :: as) (b :: bs)) : CellRel dec a b ∧ RowRel dec as bs := by
  refine ⟨h.cell (j := 0) rfl rfl, by simpa using h.length, ?_⟩
  intro j x y hx hy
  exact h.cell (j := j + 1) (by simpa using hx) (by simpa using hy)

theorem readCell_expected {enc : G → String} {dec : String → G} (cw : String → Nat) (caps : Caps) (c : Cell) (b : ECell)
    (h20 : enc (dec "20") = "20") (hc : EncCell enc dec c)
    (h : CellRel dec (expectedCell cw caps c) b) :
    readCell enc b = expectedCell cw caps c ∧ b.w - 1 = (cellWidth cw c).toNat - 1 := by
  obtain ⟨hg, hl, hlp⟩ := hc
  unfold expectedCell at h ⊢
  simp only at h ⊢
  split at h
  · rename_i hw
    have hw' : (cellWidth cw c).toNat - 1 = 0 := by omega
    rcases h with ⟨h1, h2, h3, h4, h5, h6⟩ | ⟨h1, h2, _, _, h5, h6, h7⟩
    · refine ⟨?_, by rw [h3, hw']⟩
      unfold readCell
      rw [if_neg h2, h1, h3, h4, h5, h6, h20, hl, hlp]
      simp [hw]
    · refine ⟨?_, by rw [h2, hw']⟩
      unfold readCell
      rw [if_pos h1]
      simp only [hw, if_true]
      rw [h5, h6, h7]
  · rename_i hw
    rcases h with ⟨h1, h2, h3, h4, h5, h6⟩ | ⟨h1, h2, h3, h4, h5, h6, h7⟩
    · refine ⟨?_, by rw [h3]⟩
      unfold readCell
      rw [if_neg h2, h1, h3, h4, h5, h6, hg, hl, hlp]
      simp [hw]
    · refine ⟨?_, by rw [h2, h4]⟩
      unfold readCell
      rw [if_pos h1]
      simp only [hw, if_false]
      rw [h3, h4, h5, h6, h7]

theorem readRow_expected {enc : G → String} {dec : String → G} (cw : String → Nat) (caps : Caps)
    (h20 : enc (dec "20") = "20") :
    ∀ (l : List Cell) (k : Nat) (er : Row), (∀ c ∈ l, EncCell enc dec c) →
      RowRel dec (expectedRow cw caps k l) er → readRow enc k er = expectedRow cw caps k l := by
  intro l
  induction l with
  | nil =>
    intro k er _ h
    have : er = [] := by
      have := h.length
      cases k <;> simp [expectedRow] at this <;> exact List.eq_nil_of_length_eq_zero this.symm
    subst this
    cases k <;> simp [readRow, expectedRow]
  | cons c cs ih =>
    intro k er hc h
    cases k with
    | succ k =>
      cases er with
      | nil => have := h.length; simp [expectedRow] at this
      | cons b bs =>
        simp only [expectedRow] at h ⊢
        simp only [readRow]
        rw [ih k bs (fun x hx => hc x (by simp [hx])) (rowRel_cons h).2]
    | zero =>
      cases er with
      | nil => have := h.length; simp [expectedRow] at this
      | cons b bs =>
        simp only [expectedRow] at h ⊢
        obtain ⟨h1, h2⟩ := rowRel_cons h
        obtain ⟨r1, r2⟩ := readCell_expected cw caps c b h20 (hc c (by simp)) h1
        simp only [readRow]
        rw [r1, r2, ih _ bs (fun x hx => hc x (by simp [hx])) h2]

theorem readScreen_expected {enc : G → String} {dec : String → G} (cw : String → Nat) (caps : Caps)
    (h20 : enc (dec "20") = "20") (g : Model.Render.Grid) (eg : Grid)
    (hc : ∀ r ∈ g, ∀ c ∈ r, EncCell enc dec c) (h : GridRel dec (expected cw caps g) eg) :
    readScreen enc eg = expected cw caps g := by
  unfold expected at h ⊢
  unfold readScreen
  have hlen : g.length = eg.length := by simpa using h.length
  apply List.ext_getElem?
  intro i
  rw [List.getElem?_map, List.getElem?_map]
  cases hb : eg[i]? with
  | none =>
    have : g.length ≤ i := by rw [hlen]; exact List.getElem?_eq_none_iff.mp hb
    rw [List.getElem?_eq_none this]; rfl
  | some b =>
    cases hl : g[i]? with
    | none =>
      have : eg.length ≤ i := by rw [← hlen]; exact List.getElem?_eq_none_iff.mp hl
      rw [List.getElem?_eq_none this] at hb; cases hb
    | some l =>
      have hrel := h.row (a := expectedRow cw caps 0 l) (by rw [List.getElem?_map, hl]; rfl) hb
      simp only [Option.map_some]
      rw [readRow_expected cw caps h20 l 0 b (hc l (List.mem_of_getElem? hl)) hrel]

end VaxisModel.Lemmas.C12Read
