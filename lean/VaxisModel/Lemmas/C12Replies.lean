/-
C12, the reply exchange over the models: the emulator model run over Vaxis's start-up queries, its
replies (`Model.C12Replies.replies`), and what C03's model of `handleSequence` / `New()` makes of
them.
-/
import VaxisModel.Model.C12Replies
import VaxisModel.Spec.Startup

namespace VaxisModel.Lemmas.C12Replies
open VaxisModel.Model.Emu VaxisModel.Model.C12Replies VaxisModel.Model

theorem cup_home (e : Emu) : (cup Fixes.current e []).cur.row = 0 ∧ (cup Fixes.current e []).cur.col = 0 := by
  unfold cup
  simp only [Fixes.current, Bool.true_and, decide_eq_true_eq]
  constructor <;> (repeat' split) <;> omega

/-- The replies the emulator writes during the start-up exchange, in order: DECRPM 2026 → 0 (not
    recognised), 2027 → 3 (permanently set), 2031 → 0, the cursor position after `CSI H` (1;1), the
    background colour if a host Vaxis is attached and knows it, DA1 `? 62 ; 4 ; 22 c`. Nothing else
    is answered (XTVERSION, kitty keyboard / graphics queries, XTSMGRAPHICS, `CSI 14/18 t`,
    XTGETTCAP, OSC 4 / 10 / 176, DA3, DECRQSS). -/
def startupReplies (hostBg : Option (Nat × Nat × Nat)) (e : Emu) : List Input.Seq :=
  [.csi [63, 36] [[2026], [0]] 121, .csi [63, 36] [[2027], [3]] 121, .csi [63, 36] [[2031], [0]] 121,
   .csi [] [[1], [1]] 82] ++ replies hostBg e (.osc osc11Query { b64ok := true }) ++ [.csi [63] [[62], [4], [22]] 99]

theorem run_startup (hostBg : Option (Nat × Nat × Nat)) (e : Emu) :
    ∃ e', runQ hostBg e startupQueries = .ok (e', startupReplies hostBg e) := by
  have h : ∃ e', runQ hostBg e startupQueries = .ok (e',
      [.csi [63, 36] [[2026], [0]] 121, .csi [63, 36] [[2027], [3]] 121, .csi [63, 36] [[2031], [0]] 121,
       .csi [] [[(cup Fixes.current e []).cur.row + 1], [(cup Fixes.current e []).cur.col + 1]] 82] ++
      replies hostBg e (.osc osc11Query { b64ok := true }) ++ [.csi [63] [[62], [4], [22]] 99]) := ⟨_, rfl⟩
  obtain ⟨e', he⟩ := h
  rw [(cup_home e).1, (cup_home e).2] at he
  exact ⟨e', he⟩

/-- The emulator's answer to `OSC 11 ; ?`: `11;rgb:rr/gg/bb`. -/
def osc11Reply (r g b : Nat) : Input.Seq :=
  .osc ([49, 49, 59, 114, 103, 98, 58] ++ hex2 r ++ [47] ++ hex2 g ++ [47] ++ hex2 b)

theorem notices_osc11Reply (r g b : Nat) :
    Spec.Startup.notices (osc11Reply r g b) = [Spec.Startup.note .capabilityOsc11] := rfl

theorem startupReplies_cases (hostBg : Option (Nat × Nat × Nat)) (e : Emu) :
    (startupReplies hostBg e =
        [.csi [63, 36] [[2026], [0]] 121, .csi [63, 36] [[2027], [3]] 121, .csi [63, 36] [[2031], [0]] 121,
         .csi [] [[1], [1]] 82, .csi [63] [[62], [4], [22]] 99] ∧ (e.hasVx && hostBg.isSome) = false) ∨
    ∃ r g b, startupReplies hostBg e =
        [.csi [63, 36] [[2026], [0]] 121, .csi [63, 36] [[2027], [3]] 121, .csi [63, 36] [[2031], [0]] 121,
         .csi [] [[1], [1]] 82, osc11Reply r g b, .csi [63] [[62], [4], [22]] 99] ∧
        (e.hasVx && hostBg.isSome) = true := by
  unfold startupReplies replies
  cases hv : e.hasVx with
  | false => exact Or.inl ⟨by simp, rfl⟩
  | true =>
    cases hostBg with
    | none => exact Or.inl ⟨by simp, rfl⟩
    | some t => exact Or.inr ⟨t.1, t.2.1, t.2.2, by simp [osc11Reply], rfl⟩

theorem forall_startupReplies {P : Input.Seq → Prop} (hostBg : Option (Nat × Nat × Nat)) (e : Emu)
    (h2026 : P (.csi [63, 36] [[2026], [0]] 121)) (h2027 : P (.csi [63, 36] [[2027], [3]] 121))
    (h2031 : P (.csi [63, 36] [[2031], [0]] 121)) (hcpr : P (.csi [] [[1], [1]] 82))
    (hosc : ∀ r g b, P (osc11Reply r g b)) (hda1 : P (.csi [63] [[62], [4], [22]] 99)) :
    ∀ s ∈ startupReplies hostBg e, P s := by
  intro s hs
  rcases startupReplies_cases hostBg e with ⟨h, _⟩ | ⟨r, g, b, h, _⟩
  · rw [h] at hs
    simp only [List.mem_cons, List.not_mem_nil, or_false] at hs
    rcases hs with rfl | rfl | rfl | rfl | rfl <;> assumption
  · rw [h] at hs
    simp only [List.mem_cons, List.not_mem_nil, or_false] at hs
    rcases hs with rfl | rfl | rfl | rfl | rfl | rfl
    · exact h2026
    · exact h2027
    · exact h2031
    · exact hcpr
    · exact hosc r g b
    · exact hda1

/-- What Vaxis derives from those replies (C03's model of `handleSequence` and of the collection
    loop of `New()`): sixel graphics (DA1 attribute 4), Unicode core (DECRPM 2027 = 3), the OSC 11
    colour query if it was answered — and nothing else: no synchronized output, no colour-theme
    updates, no kitty keyboard / graphics, no direct colour, no styled underlines, no size reports,
    no in-band resize, no explicit width (the cursor did not move over the OSC 66 probe). -/
theorem caps_of_startupReplies (hostBg : Option (Nat × Nat × Nat)) (e : Emu) :
    capsFrom (startupReplies hostBg e) =
      .ok { sixels := true, unicodeCore := true, osc11 := e.hasVx && hostBg.isSome } := by
  rcases startupReplies_cases hostBg e with ⟨h, hb⟩ | ⟨r, g, b, h, hb⟩ <;> rw [h, hb] <;> rfl

end VaxisModel.Lemmas.C12Replies
