/-
C12 composition ACROSS RESIZES, the emulator side. Token lists keep the simulation and leave the screen selector alone
(`EFrame`): an application that entered the alternate screen at start-up stays there through every frame. A state related
to a display AT REST (pen reset, no hyperlink — every flush ends so) is, after `resize(w, h)`, related to the `w × h`
display at rest with any grid its active grid shows, the cursor wherever the reflow of the primary screen left it.
-/
import VaxisModel.Lemmas.C12Sim
import VaxisModel.Lemmas.EmuRefineFrame

namespace VaxisModel.Lemmas.C12Resize
open VaxisModel.Model.Emu VaxisModel.Model.EmuAbs VaxisModel.Lemmas.Emu VaxisModel.Lemmas.EmuRefine
open VaxisModel.Spec VaxisModel.Spec.Display VaxisModel.Model.C12Compose VaxisModel.Lemmas.C12Sim
open VaxisModel.Model.Render (Tok)

variable {dec : String → G} {d : Term} {e : Emu} {rows cols : Nat}

theorem runOps_single_inv {e e' : Emu} {op : EOp} (h : runOps e [op] = .ok e') : ∃ k, emuStep e op = .ok (e', k) := by
  obtain ⟨⟨e1, k⟩, hs, h1⟩ := Except.bind_eq_ok h
  cases h1
  exact ⟨k, hs⟩

theorem run_sim_frame (tw : String → Nat) (toks : List Tok) : ∀ (d : Term) (e : Emu), DSim dec d e rows cols →
    (run tw d toks).bad = none → (∀ k ∈ toks, TokOk dec tw k) →
    ∃ e', runOps e (opsOfToks dec tw toks) = .ok e' ∧ DSim dec (run tw d toks) e' rows cols ∧ EFrame e e' := by
  induction toks with
  | nil => intro d e s _ _; exact ⟨e, rfl, s, EFrame.refl e⟩
  | cons k ks ih =>
    intro d e s hb hk
    have hb1 : (step tw d k).bad = none := DisplayBasic.run_bad_none tw ks _ hb
    have hd : d.bad = none := DisplayBasic.step_bad_none tw d k hb1
    obtain ⟨e1, hr1, s1, f1⟩ := tok_sim tw s k (hk k (by simp)) hd hb1
    obtain ⟨e2, hr2, s2, f2⟩ := ih (step tw d k) e1 s1 hb (fun k' hk' => hk k' (by simp [hk']))
    refine ⟨e2, ?_, s2, f1.trans f2⟩
    show runOps e (opsOf dec tw k ++ opsOfToks dec tw ks) = .ok e2
    exact runOps_append_ok hr1 hr2

/-- What `resize(w, h)` leaves alone and what it establishes (C05: `resize_safe`, `resize_frame`,
    `resize_preserves_pen`). -/
structure ResizeFacts (e e' : Emu) (w h : Int) : Prop where
  inv : EmuInv e' h.toNat w.toNat
  dim : Dim h.toNat w.toNat
  mode : e'.mode = e.mode
  cs : e.cs.ss = false → e'.cs = e.cs
  osc8 : e'.osc8 = e.osc8
  shape : e'.cur.shape = e.cur.shape
  pen : e'.cur.st = e.cur.st
  altActive : e'.altActive = e.mode.smcup
  alt : e'.alt = blankGrid w.toNat h.toNat
  lc : LastColOk e' w.toNat

/-- The reference display after a resize, as the emulator's `resize()` leaves it: blank, at rest,
    the cursor where the reflow of the primary screen put it, visibility and shape as they are. -/
def resizedDisplay (cols rows : Nat) (e : Emu) : Term :=
  { Term.init cols rows with
    row := e.cur.row.toNat
    col := (if e.cur.col ≥ (cols : Int) then (cols : Int) - 1 else e.cur.col).toNat
    pw := decide (e.cur.col ≥ (cols : Int))
    cursorVisible := e.mode.dectcem
    cursorShape := e.cur.shape.toNat }

theorem gridRel_blank (rows cols : Nat) :
    GridRel dec (List.replicate rows (List.replicate cols DCell.blank)) (blankGrid cols rows) :=
  gridRel_replicate .blank (blankGrid_ok cols rows) (fun r hr c hc => by
    rw [List.eq_of_mem_replicate hr] at hc
    rw [List.eq_of_mem_replicate hc]
    exact cellRel_blank)

/-- On whichever screen, with ANY grid `g` the active grid shows; the modes (the screen selector included) are what
    they were. -/
theorem dsim_after_resize_grid (s : DSim dec d e rows cols) (hpen : d.pen = TStyle.reset)
    (hlink : d.link = "") (hlp : d.linkParams = "")
    {e' : Emu} {w h : Int} (f : ResizeFacts e e' w h) (g : List (List DCell)) (hg : GridRel dec g e'.active) :
    DSim dec { resizedDisplay w.toNat h.toNat e' with grid := g } e' h.toNat w.toNat ∧
      e'.mode.smcup = e.mode.smcup ∧ e'.mode.dectcem = d.cursorVisible := by
  have hi := f.inv
  have := hi.rowLo; have := hi.colLo; have := hi.colHi
  have hcs : e'.cs = e.cs := f.cs s.vm.noShift
  refine ⟨?_, by rw [f.mode], by rw [f.mode]; exact s.vis.symm⟩
  exact
  { inv := hi
    dim := f.dim
    vm := s.vm.congr f.mode hcs
    osc8 := by rw [f.osc8]; exact s.osc8
    lc := f.lc
    drows := rfl, dcols := rfl
    row := by show ((e'.cur.row.toNat : Nat) : Int) = e'.cur.row; omega
    col := by
      show (((if e'.cur.col ≥ (w.toNat : Int) then (w.toNat : Int) - 1 else e'.cur.col).toNat : Nat) : Int) = _
      have := f.dim.c1
      split <;> omega
    pw := rfl
    pen := by
      show TStyle.reset = absStyle e'.cur.st
      rw [f.pen, ← s.pen, hpen]
    link := by
      show dec "" = e'.cur.st.link
      rw [f.pen, ← s.link, hlink]
    linkParams := by
      show dec "" = e'.cur.st.linkParams
      rw [f.pen, ← s.linkParams, hlp]
    vis := rfl
    shape := by
      show ((e'.cur.shape.toNat : Nat) : Int) = e'.cur.shape
      have h1 := s.shape
      rw [f.shape]
      omega
    grid := hg }

end VaxisModel.Lemmas.C12Resize
