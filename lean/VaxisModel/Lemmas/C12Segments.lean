/-
C12 — histories WITH RESIZES. A history is a list of segments (`Seg`): the host gives the emulator a new size
(`EOp.resize`), then the application — Vaxis sets `refresh` on a size change and reallocates its buffers (`afterResize`) —
renders the segment's frames. `LinkedR` is what holds between a resize and the refresh frame of an application on the
alternate screen. The definitions are in the namespace of `Props/C12Resize.lean`, whose statements use them.
-/
import VaxisModel.Props.C12
import VaxisModel.Lemmas.EmuResize

namespace VaxisModel.Props.C12Resize
open VaxisModel.Model.Render VaxisModel.Spec VaxisModel.Spec.Display VaxisModel.Lemmas.RenderGate
open VaxisModel.Model.Emu (Emu EOp G M runOps)
open VaxisModel.Model.C12Compose VaxisModel.Lemmas.C12Sim VaxisModel.Lemmas.C12Vocab VaxisModel.Lemmas.C12Resize
open VaxisModel.Lemmas.EmuRefine (EFrame)
open VaxisModel.Props.C01 (CursorAs Agree)
open VaxisModel.Props.C01Display (FrameIn HState mkFrame stepH FrameInOk Ready)
open VaxisModel.Props.C01Clip (FrameInOkC clipIn stepHC stepHC_eq clipIn_ok)
open VaxisModel.Props.C12

/-- After a resize, before the refresh frame: the cursor POSITION is not known, only its visibility. -/
structure LinkedR (dec : String → G) (cw : String → Nat) (s : HState) (e : Emu) (rows cols : Nat) : Prop where
  ready : Ready s.t s.last rows cols
  vis : s.cursor.visible = false → s.t.cursorVisible = false
  sim : DSim dec s.t e rows cols
  alt : e.mode.smcup = true

/-- Vaxis' side of a size change (`Render()` with the resize flag: both buffers reallocated, the
    cursor and pointer-shape memory kept) next to the reference display the emulator's `resize()` leaves. -/
def afterResize (cols rows : Nat) (e : Emu) (s : HState) : HState :=
  ⟨resizedDisplay cols rows e, blankGrid cols rows, s.cursor, s.shape⟩

/-- One segment: the host gives the emulator the size `cols × rows`, then the application renders
    `frames` (Vaxis forces the first to be a refresh). -/
structure Seg where
  cols : Nat
  rows : Nat
  frames : List FrameIn

/-- The emulator model through a whole history: per segment `resize(cols, rows)`, then frame after
    frame what the renderer model (`renderFrameC`, with reallocated buffers) writes. -/
def runSegs (dec : String → G) (cw : String → Nat) : HState → Emu → List Seg → M Emu
  | _, e, [] => .ok e
  | s, e, sg :: rest => do
    let e1 ← runOps e [.resize sg.cols sg.rows]
    let s1 := afterResize sg.cols sg.rows e1 s
    let e2 ← runFramesC dec cw s1 e1 sg.frames
    runSegs dec cw (sg.frames.foldl (stepHC cw emuCaps) s1) e2 rest

end VaxisModel.Props.C12Resize

namespace VaxisModel.Lemmas.C12Segments
open VaxisModel.Model.Render VaxisModel.Spec VaxisModel.Spec.Display VaxisModel.Lemmas.RenderGate
open VaxisModel.Model.Emu (Emu EOp G M runOps)
open VaxisModel.Model.C12Compose VaxisModel.Lemmas.C12Sim VaxisModel.Lemmas.C12Vocab VaxisModel.Lemmas.C12Resize
open VaxisModel.Lemmas.EmuRefine (EFrame)
open VaxisModel.Props.C01 (CursorAs Agree)
open VaxisModel.Props.C01Display (FrameIn HState mkFrame stepH FrameInOk Ready)
open VaxisModel.Props.C01Clip (FrameInOkC clipIn stepHC stepHC_eq clipIn_ok)
open VaxisModel.Props.C12
open VaxisModel.Props.C12Resize

theorem resize_facts {e e' : Emu} {rows cols : Nat} (hi : Lemmas.Emu.EmuInv e rows cols) (dm : Lemmas.Emu.Dim rows cols)
    (w h : Int) (hw1 : 1 ≤ w) (hw2 : w ≤ 65535) (hh1 : 1 ≤ h) (hh2 : h ≤ 65535)
    (hr : Model.Emu.resize Model.Emu.Fixes.current e w h = .ok e') : ResizeFacts e e' w h := by
  obtain ⟨e1, he1, hi1⟩ := Lemmas.Emu.resize_safe hi dm w h hw1 hw2 hh1 hh2
  rw [hr] at he1
  cases he1
  have f := VaxisModel.Props.C05.resize_frame hr
  exact { inv := hi1, dim := ⟨by omega, by omega, by omega, by omega⟩, mode := f.mode, cs := f.cs, osc8 := f.osc8, shape := f.shape,
          pen := f.pen, altActive := f.altActive, alt := f.alt, lc := f.lastCol }

theorem runOps_resize {e e' : Emu} {w h : Int} (hr : Model.Emu.resize Model.Emu.Fixes.current e w h = .ok e') :
    runOps e [.resize w h] = .ok e' := by
  have : Model.Emu.emuStep e (.resize w h) = .ok (e', 0) := by
    show (Model.Emu.resize Model.Emu.Fixes.current e w h >>= fun x => (Except.ok (x, 0) : M (Emu × Nat))) = _
    rw [hr]; rfl
  exact runOps_single this

theorem dsim_hasVx {dec : String → G} {d : Term} {e : Emu} {rows cols : Nat} (s : DSim dec d e rows cols) (b : Bool) :
    DSim dec d { e with hasVx := b } rows cols :=
  { s with inv := { s.inv with }, vm := s.vm.congr rfl rfl }

open VaxisModel.Model.C12Replies VaxisModel.Lemmas.C12StartAny in
theorem startup_on_alt (dec : String → G) (cw : String → Nat) (hemp : dec "" = [])
    (w h : Int) (hw1 : 1 ≤ w) (hw2 : w ≤ 65535) (hh1 : 1 ≤ h) (hh2 : h ≤ 65535) :
    ∃ e0, runOps (Lemmas.EmuRefine.newState w h) startupAll = .ok e0 ∧
      LinkedR dec cw (startState w.toNat h.toNat) e0 h.toNat w.toNat := by
  have d : Lemmas.Emu.Dim h.toNat w.toNat := ⟨by omega, by omega, by omega, by omega⟩
  obtain ⟨e0, hr, h0, hs, hv⟩ := run_startupAll d _ (startP_new w h hw1 hw2 hh1 hh2)
  exact ⟨e0, hr, ⟨start_ready w.toNat h.toNat, fun _ => rfl,
    dsim_of_startCheck hemp e0 h.toNat w.toNat h0.inv d (startCheck_of h0 hv), hs⟩⟩

end VaxisModel.Lemmas.C12Segments
