/-
C12 — the real start-up at EVERY size. The run of the emulator model over `startupAll` is followed symbolically:
`StartP e rows cols` says that `e` is a well-formed `rows × cols` state in which everything the start-up sequences could
disturb is still at its power-on value (cursor record, charsets, both DECSC slots, the modes the renderer's vocabulary
relies on, every cell of both grids) — only the mode flags Vaxis sets, the screen in use and the margins / tab stops are
left open. Every sequence of `startupAll` preserves `StartP` from ANY such state; `CSI ? 1049 h` leaves `smcup` set,
`CSI ? 25 l` leaves the cursor hidden, and the sequences after them touch neither.
-/
import VaxisModel.Lemmas.C12Sim
import VaxisModel.Model.C12Replies
import VaxisModel.Lemmas.C12Replies
import VaxisModel.Props.C05

namespace VaxisModel.Lemmas.C12StartAny
open VaxisModel.Model.Emu VaxisModel.Lemmas.Emu VaxisModel.Lemmas.EmuRefine VaxisModel.Lemmas.EmuRefine.EraseAux
open VaxisModel.Lemmas.EmuRefine.SavedAux
open VaxisModel.Model.C12Replies VaxisModel.Lemmas.C12Sim

/-- Every cell of the grid has never been written (or was erased with the default background). -/
def AllDef (g : Grid) : Prop := ∀ r ∈ g, ∀ c ∈ r, c = ({} : ECell)

structure StartP (e : Emu) (rows cols : Nat) : Prop where
  inv : EmuInv e rows cols
  cur : e.cur = {}
  cs : e.cs = {}
  savedP : e.savedP = {}
  savedA : e.savedA = {}
  decawm : e.mode.decawm = true
  decom : e.mode.decom = false
  irm : e.mode.irm = false
  lnm : e.mode.lnm = false
  osc8 : e.osc8 = true
  lastCol : e.lastCol = false
  prim : AllDef e.primary
  alt : AllDef e.alt

def Keeps (e e' : Emu) : Prop := e'.mode.smcup = e.mode.smcup ∧ e'.mode.dectcem = e.mode.dectcem

variable {rows cols : Nat}

/-- The queries and mode numbers the emulator does not implement (it may answer, see
    `Model.C12Replies.replies`): the state is untouched, whatever it is. -/
def idOps : List EOp :=
  [.dcs, q [63, 36, 112] [2026], q [63, 36, 112] [2027], q [63, 36, 112] [2031], q [63, 104] [2048],
   q [62, 113] [0], q [63, 117] [], .apc, q [63, 83] [2, 1, 0], q [116] [14], q [116] [18],
   .osc [54, 54, 59, 119, 61, 49, 59, 32] {}, q [110] [6],
   .osc [52, 59, 49, 59, 63] {}, .osc [49, 48, 59, 63] { b64ok := true }, .osc osc11Query { b64ok := true },
   .osc [49, 55, 54, 59, 63] { b64ok := true }, q [61, 99] [], q [99] [],
   q [63, 104] [8452], q [63, 104] [2027], q [63, 104] [1004]]

theorem id_step (e : Emu) : ∀ op ∈ idOps, ∃ k, emuStep e op = .ok (e, k) := by
  intro op hop
  simp only [idOps, List.mem_cons, List.not_mem_nil, or_false] at hop
  rcases hop with h | h | h | h | h | h | h | h | h | h | h | h | h | h | h | h | h | h | h | h | h | h
  all_goals subst h; exact ⟨_, rfl⟩

theorem startP_mode {e : Emu} (h : StartP e rows cols) (m : Modes) (h1 : m.decawm = e.mode.decawm)
    (h2 : m.decom = e.mode.decom) (h3 : m.irm = e.mode.irm) (h4 : m.lnm = e.mode.lnm) :
    StartP { e with mode := m } rows cols :=
  -- `{ h.inv with }`: the invariant does not read the field that changed; only the record is another term
  { h with inv := { h.inv with }, decawm := h1.trans h.decawm, decom := h2.trans h.decom, irm := h3.trans h.irm
           lnm := h4.trans h.lnm }

theorem startP_altActive {e : Emu} (h : StartP e rows cols) (b : Bool) :
    StartP { e with altActive := b } rows cols :=
  { h with inv := { h.inv with } }

/-! ### mode flags Vaxis sets: bracketed paste, application cursor keys / keypad, mouse -/

def modeOps : List EOp :=
  [q [63, 104] [2004], q [63, 104] [1], .esc [61], q [63, 104] [1002], q [63, 104] [1003], q [63, 104] [1006]]

theorem mode_step (e : Emu) : ∀ op ∈ modeOps, ∃ m, emuStep e op = .ok ({ e with mode := m }, 0) ∧
    m.decawm = e.mode.decawm ∧ m.decom = e.mode.decom ∧ m.irm = e.mode.irm ∧ m.lnm = e.mode.lnm ∧
    m.smcup = e.mode.smcup ∧ m.dectcem = e.mode.dectcem := by
  intro op hop
  simp only [modeOps, List.mem_cons, List.not_mem_nil, or_false] at hop
  rcases hop with h | h | h | h | h | h
  all_goals subst h; exact ⟨_, rfl, rfl, rfl, rfl, rfl, rfl, rfl⟩

theorem show_step (e : Emu) :
    emuStep e (q [63, 104] [25]) = .ok ({ e with mode := { e.mode with dectcem := true } }, 0) := rfl

theorem hide_step (e : Emu) :
    emuStep e (q [63, 108] [25]) = .ok ({ e with mode := { e.mode with dectcem := false } }, 0) := rfl

theorem sgr_step (e : Emu) :
    emuStep e (q [109] []) = .ok ({ e with cur := { e.cur with st :=
      { e.cur.st with attr := 0, fg := 0, bg := 0, ul := 0, ulStyle := 0 } } }, 0) := rfl

theorem cup_step (e : Emu) : emuStep e (q [72] []) = .ok (cup Fixes.current e [], 0) := rfl

theorem ed_step (e : Emu) : emuStep e (q [74] [2]) = (ed e 2 >>= fun e' => .ok (e', 0)) := rfl

theorem altOn_step (e : Emu) :
    emuStep e (q [63, 104] [1049]) = (decset Fixes.current e [(1049, [])] >>= fun e' => .ok (e', 0)) := rfl

theorem altOff_step (e : Emu) :
    emuStep e (q [63, 108] [1049]) = (decrst e [(1049, [])] >>= fun e' => .ok (e', 0)) := rfl

/-- The invariant after any step (C05's safety theorem). -/
theorem inv_step {e e' : Emu} {k : Nat} {op : EOp} (hi : EmuInv e rows cols) (d : Dim rows cols)
    (hop : ∀ w h, op ≠ .resize w h) (hs : emuStep e op = .ok (e', k)) : EmuInv e' rows cols := by
  obtain ⟨r, hr, hi'⟩ := VaxisModel.Props.C05.emu_safe hi d op hop
  rw [hs] at hr
  cases hr
  exact hi'

theorem startP_sgr {e : Emu} (h : StartP e rows cols) :
    StartP { e with cur := { e.cur with st :=
      { e.cur.st with attr := 0, fg := 0, bg := 0, ul := 0, ulStyle := 0 } } } rows cols :=
  { h with inv := inv_pen h.inv _, cur := by simp only [h.cur] }

theorem startP_cup {e : Emu} (h : StartP e rows cols) (d : Dim rows cols) :
    StartP (cup Fixes.current e []) rows cols := by
  have hc : (cup Fixes.current e []).cur = {} := by
    have h1 := (VaxisModel.Lemmas.C12Replies.cup_home e).1
    have h2 := (VaxisModel.Lemmas.C12Replies.cup_home e).2
    have h3 : (cup Fixes.current e []).cur.st = e.cur.st := rfl
    have h4 : (cup Fixes.current e []).cur.shape = e.cur.shape := rfl
    rw [h.cur] at h3 h4
    generalize (cup Fixes.current e []).cur = c at h1 h2 h3 h4
    cases c
    simp only at h1 h2 h3 h4
    subst h1 h2 h3 h4
    rfl
  exact
  { h with inv := inv_step h.inv d (by intro _ _ hc; cases hc) (cup_step e), cur := hc, lastCol := rfl }

theorem eSlot_default {e : Emu} (h : StartP e rows cols) : eSlot e = {} := by
  unfold eSlot
  rw [h.cur, h.decawm, h.decom, h.cs]

theorem startP_decsc {e : Emu} (h : StartP e rows cols) :
    StartP (decsc e) rows cols ∧ (decsc e).mode = e.mode ∧ (decsc e).altActive = e.altActive := by
  cases hs : e.mode.smcup with
  | false =>
    rw [decsc_prim hs]
    exact ⟨{ h with inv := { h.inv with savedP := eSlot_ok h.inv }, savedP := eSlot_default h }, rfl, rfl⟩
  | true =>
    rw [decsc_alt hs]
    exact ⟨{ h with inv := { h.inv with savedA := eSlot_ok h.inv }, savedA := eSlot_default h }, rfl, rfl⟩

theorem startP_decrc {e : Emu} (h : StartP e rows cols) :
    StartP (decrc e) rows cols ∧ (decrc e).mode.smcup = e.mode.smcup ∧ (decrc e).mode.dectcem = e.mode.dectcem ∧
      (decrc e).altActive = e.altActive := by
  have hd : decrc e = restoreFrom e {} := by
    rw [decrc_eq, h.savedP, h.savedA]
    split <;> rfl
  rw [hd]
  exact ⟨{ h with inv := by rw [← hd]; exact decrc_inv h.inv
                  cur := rfl, cs := rfl, decawm := rfl, decom := rfl, lastCol := rfl }, rfl, rfl, rfl⟩

theorem mem_of_cellAt {g : Grid} {i j : Nat} {c : ECell} (h : cellAt g i j = some c) : ∃ r ∈ g, c ∈ r := by
  unfold cellAt at h
  split at h
  · rename_i row hr
    exact ⟨row, List.mem_of_getElem? hr, List.mem_of_getElem? h⟩
  · cases h

theorem cellAt_of_mem {g : Grid} {r : Row} {c : ECell} (hr : r ∈ g) (hc : c ∈ r) : ∃ i j, cellAt g i j = some c := by
  obtain ⟨i, hi⟩ := List.getElem?_of_mem hr
  obtain ⟨j, hj⟩ := List.getElem?_of_mem hc
  exact ⟨i, j, by rw [cellAt_of_row hi j]; exact hj⟩

theorem erase_default : (({} : ECell).erase 0) = {} := rfl

theorem ed2_allDef {e : Emu} (h : EmuInv e rows cols) (d : Dim rows cols) (hbg : e.bg = 0) (ha : AllDef e.active) :
    ∃ g', ed e 2 = .ok (({ e with lastCol := false } : Emu).setActive g') ∧ GridOk g' rows cols ∧ AllDef g' := by
  have hw := width_eq h d.r1
  have hh := height_eq h
  have hg := active_ok h
  have := d.cmax; have := d.rmax; have := d.r1; have := d.c1
  have hcm : (cols : Int) ≤ hangLimit := by rw [hangLimit_val]; omega
  obtain ⟨g', e1, hg', hc⟩ := rowsLoop_spec hg 0 ((rows : Int) - 1) e.bg
    (fun r g => forUp 0 ((cols : Int) - 1) (fun col g => modCell g r col (·.erase e.bg)) g)
    (fun _ j => (0 : Int) ≤ (j : Int) ∧ (j : Int) ≤ (cols : Int) - 1)
    (by omega) (by rw [hangLimit_val]; omega)
    (fun r s' hr0 hr1 hs' => eraseCols_spec hs' r 0 ((cols : Int) - 1) e.bg
      (by omega) (by omega) (by omega) (by omega) hcm)
  refine ⟨g', by rw [ed_2, hw, hh, e1]; rfl, hg', ?_⟩
  intro r hr c hcr
  obtain ⟨i, j, hij⟩ := cellAt_of_mem hr hcr
  rw [hc i j] at hij
  split at hij
  · cases h0 : cellAt e.active i j with
    | none => rw [h0] at hij; cases hij
    | some c0 =>
      rw [h0] at hij
      obtain ⟨r0, hr0, hc0⟩ := mem_of_cellAt h0
      have := ha r0 hr0 c0 hc0
      subst this
      simp only [Option.map_some, Option.some.injEq] at hij
      rw [← hij, hbg]
      rfl
  · obtain ⟨r0, hr0, hc0⟩ := mem_of_cellAt hij
    exact ha r0 hr0 c hc0

theorem active_allDef {e : Emu} (h : StartP e rows cols) : AllDef e.active := by
  unfold Emu.active
  split
  · exact h.alt
  · exact h.prim

theorem startP_ed2 {e : Emu} (h : StartP e rows cols) (d : Dim rows cols) :
    ∃ e', ed e 2 = .ok e' ∧ StartP e' rows cols ∧ e'.mode = e.mode ∧ e'.altActive = e.altActive := by
  have hbg : e.bg = 0 := by unfold Emu.bg; rw [h.cur]
  obtain ⟨g', he, hg', hd'⟩ := ed2_allDef h.inv d hbg (active_allDef h)
  refine ⟨_, he, ?_, by simp only [setActive_mode], by simp only [setActive_altActive]⟩
  have hi : EmuInv (({ e with lastCol := false } : Emu).setActive g') rows cols :=
    setActive_inv (inv_lastCol h.inv false) hg'
  unfold Emu.setActive at hi ⊢
  cases hact : e.altActive with
  | true =>
    simp only [hact, if_true] at hi ⊢
    exact { h with inv := hi, lastCol := rfl, alt := hd' }
  | false =>
    simp only [hact, Bool.false_eq_true, if_false] at hi ⊢
    exact { h with inv := hi, lastCol := rfl, prim := hd' }

/-- Entering the alternate screen (DECSC, switch, `ED 2`, `smcup`) from any `StartP` state, on
    whichever screen it is. -/
theorem startP_altOn {e : Emu} (h : StartP e rows cols) (d : Dim rows cols) :
    ∃ e', emuStep e (q [63, 104] [1049]) = .ok (e', 0) ∧ StartP e' rows cols ∧ e'.mode.smcup = true ∧
      e'.mode.dectcem = e.mode.dectcem := by
  obtain ⟨h1, hm1, _⟩ := startP_decsc h
  have h2 := startP_altActive h1 true
  obtain ⟨e2, he2, h3, hm3, _⟩ := startP_ed2 h2 d
  refine ⟨{ e2 with mode := { e2.mode with smcup := true, altScroll := true } }, ?_,
    startP_mode h3 _ rfl rfl rfl rfl, rfl, ?_⟩
  · rw [altOn_step, decset_1049, he2]; rfl
  · show e2.mode.dectcem = _
    rw [hm3]
    show (decsc e).mode.dectcem = _
    rw [hm1]

/-- Leaving the alternate screen (`ED 2` if on it, switch, DECRC) from any `StartP` state. -/
theorem startP_altOff {e : Emu} (h : StartP e rows cols) (d : Dim rows cols) :
    ∃ e', emuStep e (q [63, 108] [1049]) = .ok (e', 0) ∧ StartP e' rows cols ∧
      e'.mode.dectcem = e.mode.dectcem := by
  have key : ∃ e1, (if e.mode.smcup then ed e 2 else .ok e) = .ok e1 ∧ StartP e1 rows cols ∧ e1.mode = e.mode := by
    split
    · obtain ⟨e1, he1, h1, hm, _⟩ := startP_ed2 h d
      exact ⟨e1, he1, h1, hm⟩
    · exact ⟨e, rfl, h, rfl⟩
  obtain ⟨e1, he1, h1, hm⟩ := key
  have h2 := startP_mode (startP_altActive h1 false) { e1.mode with smcup := false, altScroll := false } rfl rfl rfl rfl
  obtain ⟨h3, _, hd3, _⟩ := startP_decrc h2
  refine ⟨_, ?_, h3, ?_⟩
  · rw [altOff_step, decrst_1049, he1]; rfl
  · rw [hd3]
    show e1.mode.dectcem = _
    rw [hm]

-- for the `decide` in `head_ops`, `tail_ops`, `startupAll_split` below
deriving instance DecidableEq for EOp

/-- The sequences that touch neither `smcup` nor the cursor visibility. -/
def keepOps : List EOp := idOps ++ modeOps ++ [q [109] [], q [72] [], q [74] [2]]

/-- All sequence shapes of `startupAll`. -/
def allOps : List EOp := keepOps ++ [q [63, 104] [25], q [63, 108] [25], q [63, 104] [1049], q [63, 108] [1049]]

theorem step_keep (d : Dim rows cols) : ∀ op ∈ keepOps, ∀ e, StartP e rows cols →
    ∃ e' k, emuStep e op = .ok (e', k) ∧ StartP e' rows cols ∧ Keeps e e' := by
  intro op hop e h
  simp only [keepOps, List.mem_append, List.mem_cons, List.not_mem_nil, or_false] at hop
  rcases hop with (hop | hop) | hop | hop | hop
  · obtain ⟨k, hk⟩ := id_step e op hop
    exact ⟨e, k, hk, h, rfl, rfl⟩
  · obtain ⟨m, hm, a1, a2, a3, a4, a5, a6⟩ := mode_step e op hop
    exact ⟨_, 0, hm, startP_mode h m a1 a2 a3 a4, a5, a6⟩
  · subst hop
    exact ⟨_, 0, sgr_step e, startP_sgr h, rfl, rfl⟩
  · subst hop
    exact ⟨_, 0, cup_step e, startP_cup h d, rfl, rfl⟩
  · subst hop
    obtain ⟨e', he, h', hm, _⟩ := startP_ed2 h d
    exact ⟨e', 0, by rw [ed_step, he]; rfl, h', by rw [Keeps, hm]; exact ⟨rfl, rfl⟩⟩

theorem step_all (d : Dim rows cols) : ∀ op ∈ allOps, ∀ e, StartP e rows cols →
    ∃ e' k, emuStep e op = .ok (e', k) ∧ StartP e' rows cols := by
  intro op hop e h
  simp only [allOps, List.mem_append, List.mem_cons, List.not_mem_nil, or_false] at hop
  rcases hop with hop | hop | hop | hop | hop
  · obtain ⟨e', k, hs, h', _⟩ := step_keep d op hop e h
    exact ⟨e', k, hs, h'⟩
  · subst hop
    exact ⟨_, 0, show_step e, startP_mode h _ rfl rfl rfl rfl⟩
  · subst hop
    exact ⟨_, 0, hide_step e, startP_mode h _ rfl rfl rfl rfl⟩
  · subst hop
    obtain ⟨e', hs, h', _⟩ := startP_altOn h d
    exact ⟨e', 0, hs, h'⟩
  · subst hop
    obtain ⟨e', hs, h', _⟩ := startP_altOff h d
    exact ⟨e', 0, hs, h'⟩

theorem run_all (d : Dim rows cols) : ∀ (ops : List EOp), (∀ op ∈ ops, op ∈ allOps) → ∀ e, StartP e rows cols →
    ∃ e', runOps e ops = .ok e' ∧ StartP e' rows cols :=
  runOps_invariant (step_all d)

/-- The invariant is `StartP` together with `Keeps` from the start state. -/
theorem run_keep (d : Dim rows cols) (ops : List EOp) (hall : ∀ op ∈ ops, op ∈ keepOps) (e : Emu) (h : StartP e rows cols) :
    ∃ e', runOps e ops = .ok e' ∧ StartP e' rows cols ∧ Keeps e e' :=
  runOps_invariant (P := fun x => StartP x rows cols ∧ Keeps e x)
    (fun op hop x hx =>
      let ⟨x', k, hs, h', kk⟩ := step_keep d op hop x hx.1
      ⟨x', k, hs, h', kk.1.trans hx.2.1, kk.2.trans hx.2.2⟩)
    ops hall e ⟨h, rfl, rfl⟩

/-- `sendQueries()` with its alternate-screen prelude and epilogue. -/
def startupHead : List EOp := startupAll.take 32
/-- `enableModes()` after `enterAltScreen()` (`CSI ? 1049 h`, `CSI ? 25 l`). -/
def startupTail : List EOp := startupAll.drop 34

theorem startupAll_split :
    startupAll = startupHead ++ (q [63, 104] [1049] :: q [63, 108] [25] :: startupTail) := by decide

theorem head_ops : ∀ op ∈ startupHead, op ∈ allOps := by decide
theorem tail_ops : ∀ op ∈ startupTail, op ∈ keepOps := by decide

theorem run_startupAll (d : Dim rows cols) (e : Emu) (h : StartP e rows cols) :
    ∃ e0, runOps e startupAll = .ok e0 ∧ StartP e0 rows cols ∧ e0.mode.smcup = true ∧ e0.mode.dectcem = false := by
  obtain ⟨e1, r1, h1⟩ := run_all d startupHead head_ops e h
  obtain ⟨e2, r2, h2, s2, _⟩ := startP_altOn h1 d
  have r3 := hide_step e2
  have h3 : StartP { e2 with mode := { e2.mode with dectcem := false } } rows cols := startP_mode h2 _ rfl rfl rfl rfl
  obtain ⟨e4, r4, h4, k4⟩ := run_keep d startupTail tail_ops _ h3
  refine ⟨e4, ?_, h4, ?_, ?_⟩
  · rw [startupAll_split]
    exact runOps_append_ok r1 (runOps_cons r2 (runOps_cons r3 r4))
  · rw [k4.1]; exact s2
  · rw [k4.2]

theorem startCheck_of {e : Emu} (h : StartP e rows cols) (hd : e.mode.dectcem = false) : startCheck e = true := by
  have hall : e.active.all (fun r => r.all (fun c => decide (c = {}))) = true := by
    rw [List.all_eq_true]
    intro r hr
    rw [List.all_eq_true]
    intro c hc
    exact decide_eq_true (active_allDef h r hr c hc)
  unfold startCheck
  rw [hall, h.decawm, h.irm, h.lnm, h.cs, h.osc8, h.lastCol, h.cur, hd]
  rfl

theorem allDef_blank (w h : Nat) : AllDef (blankGrid w h) := by
  intro r hr c hc
  unfold blankGrid at hr
  rw [List.eq_of_mem_replicate hr] at hc
  exact List.eq_of_mem_replicate hc

theorem startP_new (w h : Int) (hw1 : 1 ≤ w) (hw2 : w ≤ 65535) (hh1 : 1 ≤ h) (hh2 : h ≤ 65535) :
    StartP (newState w h) h.toNat w.toNat :=
  { inv := (sim2_init w h hw1 hw2 hh1 hh2 (new_eq w h (by omega) (by omega))).sim.inv
    cur := rfl, cs := rfl
    savedP := newSaved_default w h hw1 hh1, savedA := newSaved_default w h hw1 hh1
    decawm := rfl, decom := rfl, irm := rfl, lnm := rfl, osc8 := rfl, lastCol := rfl
    prim := allDef_blank _ _, alt := allDef_blank _ _ }

end VaxisModel.Lemmas.C12StartAny
