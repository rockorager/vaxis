/-
C12 — the start-up dialogue of a real Vaxis INSIDE the emulator, over C07's model of the start-up (`Model/Startup.lean`),
the terminal's side being the emulator model's reply writers (`startupReplies`). What C07's `caps_exact` leaves open is the
answer to the explicit-width probe; here: every cursor-position hand-off the emulator's replies can cause carries column 1
(`PInv`), so the probe is either not answered in time or answered with column 1 — never 2.
-/
import VaxisModel.Lemmas.C12Replies
import VaxisModel.Lemmas.Startup

namespace VaxisModel.Lemmas.C12Startup
open VaxisModel.Model.Input VaxisModel.Model.InputLoop VaxisModel.Model.Startup
open VaxisModel.Model.C12Replies VaxisModel.Lemmas.C12Replies
open VaxisModel.Spec.Startup

def ColOne (effs : List Effect) : Prop := ∀ r c, Effect.sendCursorPos r c ∈ effs → c = 1

theorem colOne_nil : ColOne [] := by intro r c h; cases h

theorem colOne_tail {e : Effect} {rest : List Effect} (h : ColOne (e :: rest)) : ColOne rest :=
  fun r c hm => h r c (List.mem_cons_of_mem _ hm)

def SafeSeq (b64 : List Nat → Option (List Nat)) (s : Seq) : Prop :=
  ∀ vs vs' effs, handle b64 vs s = .ok (vs', effs) → ColOne effs

/-- A DECRPM reply. -/
theorem handle_decrpm {b64 : List Nat → Option (List Nat)} {m v : Int} {vs vs' : VState} {effs : List Effect}
    (h : handle b64 vs (.csi [63, 36] [[m], [v]] 121) = .ok (vs', effs)) :
    vs' = vs ∧ (effs = [] ∨ ∃ i, effs = [.postB (.internal i)]) :=
  VaxisModel.Lemmas.Input.decrpm_post vs _ _ vs' effs (show handleCSI vs [63, 36] [[m], [v]] (ch 'y') = _ from h)

/-- The cursor-position report `CSI 1 ; 1 R`. -/
theorem handle_cpr {b64 : List Nat → Option (List Nat)} {vs vs' : VState} {effs : List Effect}
    (h : handle b64 vs (.csi [] [[1], [1]] 82) = .ok (vs', effs)) :
    (vs.reqCursorPos = true ∧ effs = [.sendCursorPos 1 1]) ∨ (vs.reqCursorPos = false ∧ ∃ ev, effs = [.postB ev]) := by
  rcases VaxisModel.Lemmas.Input.cpr_post vs _ _ vs' effs (show handleCSI vs [] [[1], [1]] (ch 'R') = _ from h) with
    ⟨hr, -, h2⟩ | ⟨hr, -, he⟩
  · rcases h2 with ⟨hl, -⟩ | ⟨-, r, c, h0, h1, he⟩
    · exact absurd rfl hl
    · cases h0; cases h1; exact Or.inl ⟨hr, he⟩
  · exact Or.inr ⟨hr, _, he⟩

/-- DA1 `CSI ? 62 ; 4 ; 22 c`. -/
theorem handle_da1 (b64 : List Nat → Option (List Nat)) (vs : VState) :
    handle b64 vs (.csi [63] [[62], [4], [22]] 99) =
      .ok (vs, [.postB (.internal .capabilitySixel), .postB (.internal .primaryDeviceAttribute)]) := rfl

/-- The emulator's OSC 11 reply `11;rgb:rr/gg/bb`. -/
theorem handle_osc11 {b64 : List Nat → Option (List Nat)} {rest : List Nat} {vs vs' : VState} {effs : List Effect}
    (h : handle b64 vs (.osc ([49, 49, 59] ++ rest)) = .ok (vs', effs)) :
    vs' = vs ∧ effs = (if vs.caps.osc11 = true then [Effect.sendBg ([49, 49, 59] ++ rest)] else []) ++
      [.postB (.internal .capabilityOsc11)] := by
  have h52 : isPrefix (str "52") ([49, 49, 59] ++ rest) = false := rfl
  have h176 : isPrefix (str "176") ([49, 49, 59] ++ rest) = false := rfl
  have h4 : isPrefix (str "4") ([49, 49, 59] ++ rest) = false := rfl
  have h10 : isPrefix (str "10") ([49, 49, 59] ++ rest) = false := rfl
  have h11 : isPrefix (str "11") ([49, 49, 59] ++ rest) = true := rfl
  simp only [handle, handleOSC, h52, h176, h4, h10, h11, Bool.false_eq_true, if_false, if_true, bind, Except.bind, pure,
    Except.pure, List.nil_append] at h
  cases h
  exact ⟨rfl, rfl⟩

theorem decrpm_safe (b64 : List Nat → Option (List Nat)) (m v : Int) : SafeSeq b64 (.csi [63, 36] [[m], [v]] 121) := by
  intro vs vs' effs h r c hm
  rcases (handle_decrpm h).2 with rfl | ⟨i, rfl⟩ <;> simp at hm

theorem cpr_safe (b64 : List Nat → Option (List Nat)) : SafeSeq b64 (.csi [] [[1], [1]] 82) := by
  intro vs vs' effs h r c hm
  rcases handle_cpr h with ⟨_, rfl⟩ | ⟨_, ev, rfl⟩ <;> simp at hm
  exact hm.2

theorem da1_safe (b64 : List Nat → Option (List Nat)) : SafeSeq b64 (.csi [63] [[62], [4], [22]] 99) := by
  intro vs vs' effs h r c hm
  rw [handle_da1] at h
  cases h
  simp at hm

theorem osc11_safe (b64 : List Nat → Option (List Nat)) (rest : List Nat) : SafeSeq b64 (.osc ([49, 49, 59] ++ rest)) := by
  intro vs vs' effs h r c hm
  rw [(handle_osc11 h).2] at hm
  split at hm <;> simp at hm

theorem startupReplies_safe (b64 : List Nat → Option (List Nat)) (hostBg : Option (Nat × Nat × Nat)) (e : Model.Emu.Emu) :
    ∀ s ∈ startupReplies hostBg e, SafeSeq b64 s :=
  forall_startupReplies hostBg e (decrpm_safe b64 _ _) (decrpm_safe b64 _ _) (decrpm_safe b64 _ _) (cpr_safe b64)
    (fun _ _ _ => osc11_safe b64 _) (da1_safe b64)

/-- Everything on its way to the explicit-width probe carries column 1. -/
structure PInv (st : St) : Prop where
  ch : ∀ v ∈ st.sys.cursorCh, v.2 = 1
  pend : ColOne st.sys.pend
  got : ∀ x, st.probeGot = some x → x.2 = 1

theorem pinv_init (o : Opts) : PInv (St.init o) :=
  ⟨fun v h => by simp [St.init] at h, fun r c h => by simp [St.init] at h, fun x h => by simp [St.init] at h⟩

theorem stepEffect_pinv (p : Params) (s s' : Sys) (e : Effect) (rest : List Effect) (hs : s.pend = e :: rest)
    (hch : ∀ v ∈ s.cursorCh, v.2 = 1) (hp : ColOne s.pend) (h : stepEffect p s e rest = some s') :
    (∀ v ∈ s'.cursorCh, v.2 = 1) ∧ ColOne s'.pend := by
  obtain ⟨-, hpend, -, -⟩ := Lemmas.InputLoop.stepEffect_inv h
  refine ⟨?_, by rw [hpend]; exact colOne_tail (hs ▸ hp)⟩
  rcases Lemmas.InputLoop.stepEffect_cursorCh h with ⟨r, c, rfl, hc⟩ | ⟨hc, -⟩
  · rw [hc]
    intro v hv
    rcases List.mem_append.mp hv with hv | hv
    · exact hch v hv
    · rw [List.mem_singleton.mp hv]; exact hp r c (by rw [hs]; exact List.mem_cons_self)
  · rw [hc]; exact hch

theorem pinv_next (p : Params) (o : Opts) (st st' : St) (l : VaxisModel.Model.Startup.Label) (hI : PInv st)
    (hl : ∀ s, l = .input s → SafeSeq p.b64 s) (h : VaxisModel.Model.Startup.next p o st l = some (.ok st')) : PInv st' := by
  cases VaxisModel.Lemmas.Startup.step_of_next h with
  | input s sys' hs =>
    obtain ⟨_, vs, effs, hh, rfl⟩ := Lemmas.InputLoop.next_input hs
    exact ⟨hI.ch, hl s rfl _ _ _ hh, hI.got⟩
  | step sys' hs =>
    obtain ⟨e, rest, hp, hse⟩ := Lemmas.InputLoop.next_step hs
    obtain ⟨a, b⟩ := stepEffect_pinv p st.sys sys' e rest hp hI.ch hI.pend hse
    exact ⟨a, b, hI.got⟩
  | clipTimeout sys' hs =>
    obtain ⟨v, rest, hp, rfl⟩ := Lemmas.InputLoop.next_clipTimeout hs
    have := hI.pend
    rw [hp] at this
    exact ⟨hI.ch, colOne_tail this, hI.got⟩
  | probeRecv x t _ hc =>
    -- the probe takes the head of the channel: what it got, and what stays, carried column 1 already
    exact ⟨fun v hv => hI.ch v (by rw [hc]; exact List.mem_cons_of_mem _ hv), hI.pend,
      fun v hv => by cases hv; exact hI.ch x (by rw [hc]; simp)⟩
  | probeTimeout _ => exact ⟨hI.ch, hI.pend, hI.got⟩
  | loopDA _ _ _ _ _ => exact ⟨hI.ch, hI.pend, hI.got⟩
  | loopEv _ _ _ _ _ _ _ _ => exact ⟨hI.ch, hI.pend, hI.got⟩
  | loopTimeout _ => exact ⟨hI.ch, hI.pend, hI.got⟩
  | quirks _ => exact ⟨hI.ch, hI.pend, hI.got⟩

theorem pinv_run (p : Params) (o : Opts) (ls : List VaxisModel.Model.Startup.Label) (st st' : St) (hI : PInv st)
    (hs : ∀ s ∈ inputsOf ls, SafeSeq p.b64 s) (h : VaxisModel.Model.Startup.run p o st ls = some st') : PInv st' :=
  (VaxisModel.Lemmas.Startup.run_ind (I := fun st ls => PInv st ∧ ∀ s ∈ inputsOf ls, SafeSeq p.b64 s)
    (fun st st' l ls hI hn => ⟨pinv_next p o st st' l hI.1 (fun s hl => hI.2 s (by subst hl; simp [inputsOf])) hn,
      fun s hm => hI.2 s (by cases l <;> simp [inputsOf, hm])⟩) ⟨hI, hs⟩ h).1

end VaxisModel.Lemmas.C12Startup
