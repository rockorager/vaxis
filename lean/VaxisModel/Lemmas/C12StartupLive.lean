/-
C12 — the start-up dialogue inside the emulator TERMINATES, for every interleaving: invariants of C07's start-up system
when its inputs are the emulator's replies and no time-out label fires. `Good b64 s`: how many events handling a reply can
post, and what it does to the cursor-position request. `LInv p st rem` (`rem` = the replies still to come): the queue never
overflows (`queue + posts still pending + budget of rem ≤ qcap`), during the probe the answer is still to come / being
handed over / in the channel, nothing timed out, nothing dropped.
-/
import VaxisModel.Lemmas.C12Startup

namespace VaxisModel.Lemmas.C12StartupLive
open VaxisModel.Model.Input VaxisModel.Model.InputLoop VaxisModel.Model.Startup
open VaxisModel.Model.C12Replies VaxisModel.Lemmas.C12Replies VaxisModel.Lemmas.C12Startup
open VaxisModel.Lemmas.InputEvents (posted)
open VaxisModel.Spec.Startup

def isCPR : Seq → Bool
  | .csi _ _ 82 => true
  | _ => false

/-- Events the handling of one reply can post, at most. -/
def budgetOf : Seq → Nat
  | .csi _ _ 99 => 2
  | _ => 1

def budgetSum (l : List Seq) : Nat := (l.map budgetOf).sum

structure Good (b64 : List Nat → Option (List Nat)) (s : Seq) : Prop where
  budget : ∀ vs vs' effs, handle b64 vs s = .ok (vs', effs) → (posted effs).length ≤ budgetOf s
  req : isCPR s = false → ∀ vs vs' effs, handle b64 vs s = .ok (vs', effs) → vs'.reqCursorPos = vs.reqCursorPos
  cpr : isCPR s = true → ∀ vs vs' effs, vs.reqCursorPos = true → handle b64 vs s = .ok (vs', effs) →
    ∃ r c, effs = [.sendCursorPos r c]

theorem decrpm_good (b64 : List Nat → Option (List Nat)) (m v : Int) : Good b64 (.csi [63, 36] [[m], [v]] 121) := by
  refine ⟨?_, ?_, fun h => by cases h⟩
  · intro vs vs' effs h
    obtain ⟨_, h' | ⟨i, h'⟩⟩ := handle_decrpm h <;> rw [h'] <;> simp [posted, budgetOf]
  · intro _ vs vs' effs h
    rw [(handle_decrpm h).1]

theorem cpr_good (b64 : List Nat → Option (List Nat)) : Good b64 (.csi [] [[1], [1]] 82) := by
  refine ⟨?_, (fun h => by cases h), ?_⟩
  · intro vs vs' effs h
    rcases handle_cpr h with ⟨_, h'⟩ | ⟨_, ev, h'⟩ <;> rw [h'] <;> simp [posted, budgetOf]
  · intro _ vs vs' effs hr h
    rcases handle_cpr h with ⟨_, h'⟩ | ⟨hf, _⟩
    · exact ⟨1, 1, h'⟩
    · rw [hr] at hf; cases hf

theorem da1_good (b64 : List Nat → Option (List Nat)) : Good b64 (.csi [63] [[62], [4], [22]] 99) := by
  refine ⟨?_, ?_, fun h => by cases h⟩
  · intro vs vs' effs h
    rw [handle_da1] at h; cases h; simp [posted, budgetOf]
  · intro _ vs vs' effs h
    rw [handle_da1] at h; cases h; rfl

theorem osc11_good (b64 : List Nat → Option (List Nat)) (rest : List Nat) :
    Good b64 (.osc ([49, 49, 59] ++ rest)) := by
  refine ⟨?_, ?_, fun h => by cases h⟩
  · intro vs vs' effs h
    rw [(handle_osc11 h).2]
    split <;> simp [posted, budgetOf]
  · intro _ vs vs' effs h
    rw [(handle_osc11 h).1]

theorem startupReplies_good (b64 : List Nat → Option (List Nat)) (hostBg : Option (Nat × Nat × Nat)) (e : Model.Emu.Emu) :
    ∀ s ∈ startupReplies hostBg e, Good b64 s :=
  forall_startupReplies hostBg e (decrpm_good b64 _ _) (decrpm_good b64 _ _) (decrpm_good b64 _ _) (cpr_good b64)
    (fun _ _ _ => osc11_good b64 _) (da1_good b64)

/-- Seven events at most: one for each of the three DECRPM replies, the cursor-position report and the colour
    reply, two for DA1. -/
theorem startupReplies_budget (hostBg : Option (Nat × Nat × Nat)) (e : Model.Emu.Emu) :
    budgetSum (startupReplies hostBg e) ≤ 7 := by
  rcases startupReplies_cases hostBg e with ⟨h, _⟩ | ⟨r, g, b, h, _⟩ <;> rw [h]
  · decide
  · simp [budgetSum, budgetOf, osc11Reply]

theorem startupReplies_hasCPR (hostBg : Option (Nat × Nat × Nat)) (e : Model.Emu.Emu) :
    (startupReplies hostBg e).any isCPR = true := by
  rcases startupReplies_cases hostBg e with ⟨h, _⟩ | ⟨r, g, b, h, _⟩ <;> rw [h] <;> rfl

def isTimeout : VaxisModel.Model.Startup.Label → Bool
  | .probeTimeout | .loopTimeout => true
  | _ => false

structure LInv (p : Params) (st : St) (rem : List Seq) : Prop where
  budget : st.sys.queue.length + (posted st.sys.pend).length + budgetSum rem ≤ p.qcap
  probe : st.phase = .probe →
    (rem.any isCPR = true ∧ st.sys.vs.reqCursorPos = true) ∨ (∃ r c, Effect.sendCursorPos r c ∈ st.sys.pend) ∨
      st.sys.cursorCh ≠ []
  noTO : st.timedOut = false
  noDrop : st.sys.dropped = 0

theorem budgetSum_cons (s : Seq) (l : List Seq) : budgetSum (s :: l) = budgetOf s + budgetSum l := by
  simp [budgetSum]

theorem stepEffect_linv (p : Params) (hcap : p.cursorCap ≠ 0) (s s' : Sys) (e : Effect) (rest : List Effect)
    (hs : s.pend = e :: rest) (hroom : s.queue.length + (posted s.pend).length ≤ p.qcap)
    (h : stepEffect p s e rest = some s') :
    s'.queue.length + (posted s'.pend).length = s.queue.length + (posted s.pend).length ∧ s'.dropped = s.dropped ∧
    s'.vs = s.vs ∧
    (((∃ r c, Effect.sendCursorPos r c ∈ s.pend) ∨ s.cursorCh ≠ []) →
      ((∃ r c, Effect.sendCursorPos r c ∈ s'.pend) ∨ s'.cursorCh ≠ [])) := by
  obtain ⟨-, hpend, hvs, hq⟩ := Lemmas.InputLoop.stepEffect_inv h
  have hlen : s'.queue.length + (posted rest).length = s.queue.length + (posted (e :: rest)).length ∧ s'.dropped = s.dropped := by
    rcases hq with ⟨ev, he, -, hq, hd⟩ | ⟨ev, rfl, hfull, -, -⟩ | ⟨he, hq, hd⟩
    · rcases he with rfl | rfl <;> simp [hq, hd, posted] <;> omega
    · -- a non-blocking post that finds the queue full: excluded by the room
      rw [hs] at hroom; simp [posted] at hroom; omega
    · refine ⟨?_, hd⟩
      cases e <;> first | exact absurd rfl (he _).1 | exact absurd rfl (he _).2 | simp [hq, posted]
  refine ⟨by rw [hpend, hs]; exact hlen.1, hlen.2, hvs, fun hd => ?_⟩
  rcases Lemmas.InputLoop.stepEffect_cursorCh h with ⟨r, c, -, hc⟩ | ⟨hc, hfull⟩
  · exact Or.inr (by rw [hc]; simp)
  · rcases hd with ⟨r, c, hm⟩ | hd
    · rw [hs] at hm
      rcases List.mem_cons.mp hm with rfl | hm
      · -- the hand-over was dropped: the channel holds a position already
        exact Or.inr (by rw [hc]; exact (hfull ⟨r, c, rfl⟩).resolve_left hcap)
      · exact Or.inl ⟨r, c, by rw [hpend]; exact hm⟩
    · exact Or.inr (by rw [hc]; exact hd)

/-- In a state the goroutine cannot leave nothing is pending: a pending effect can always be performed
    (`InputLoop.perform`), a blocking post because the budget leaves room. -/
theorem quiescent_pend {p : Params} {o : Opts} {st : St} {rem : List Seq} (hk : Lemmas.InputLoop.Kinds.safe p.kinds)
    (hI : LInv p st rem) (q1 : VaxisModel.Model.Startup.next p o st .step = none)
    (q2 : VaxisModel.Model.Startup.next p o st .clipTimeout = none) : st.sys.pend = [] := by
  cases hp : st.sys.pend with
  | nil => rfl
  | cons ef rest =>
    exfalso
    have hroom : st.sys.queue.length < p.qcap ∨ ∀ ev, ef ≠ .postB ev := by
      have hb := hI.budget
      rw [hp] at hb
      cases ef <;> first | (left; simp only [posted, List.length_cons] at hb; omega) | (right; intro _ h; cases h)
    obtain ⟨l, s', hl, hn, -⟩ := Lemmas.InputLoop.perform p hk st.sys ef rest hp hroom
    rcases hl with rfl | rfl
    · simp [VaxisModel.Model.Startup.next, liftSys, hn] at q1
    · simp [VaxisModel.Model.Startup.next, liftSys, hn] at q2

/-- The replies still to come before / after a label. -/
def remBefore (l : VaxisModel.Model.Startup.Label) (rem : List Seq) : List Seq :=
  match l with
  | .input s => s :: rem
  | _ => rem

theorem linv_next (p : Params) (o : Opts) (hcap : p.cursorCap ≠ 0) (st st' : St) (l : VaxisModel.Model.Startup.Label)
    (rem : List Seq) (hI : LInv p st (remBefore l rem)) (hg : ∀ s, l = .input s → Good p.b64 s)
    (hnt : isTimeout l = false) (h : VaxisModel.Model.Startup.next p o st l = some (.ok st')) : LInv p st' rem := by
  cases VaxisModel.Lemmas.Startup.step_of_next h with
  | input s sys' hs =>
    have g := hg s rfl
    obtain ⟨hp, vs, effs, hh, rfl⟩ := Lemmas.InputLoop.next_input hs
    have hb := hI.budget
    simp only [remBefore, budgetSum_cons, hp, posted, List.length_nil] at hb
    have hbud := g.budget _ _ _ hh
    refine ⟨by simp only; omega, ?_, hI.noTO, hI.noDrop⟩
    intro hph
    rcases hI.probe hph with ⟨ha, hr⟩ | ⟨r, c, hm⟩ | hc
    · simp only [remBefore, List.any_cons, Bool.or_eq_true] at ha
      cases hcp : isCPR s with
      | true =>
        obtain ⟨r, c, he⟩ := g.cpr hcp _ _ _ hr hh
        exact Or.inr (Or.inl ⟨r, c, by simp only; rw [he]; simp⟩)
      | false =>
        rw [hcp] at ha
        refine Or.inl ⟨by simpa using ha, ?_⟩
        simp only
        rw [g.req hcp _ _ _ hh]; exact hr
    · rw [hp] at hm; cases hm
    · exact Or.inr (Or.inr hc)
  | step sys' hs =>
    obtain ⟨e, rest, hp, hse⟩ := Lemmas.InputLoop.next_step hs
    have hb := hI.budget
    simp only [remBefore] at hb
    obtain ⟨a, b, c, d⟩ := stepEffect_linv p hcap st.sys sys' e rest hp (by omega) hse
    refine ⟨by simp only; omega, ?_, hI.noTO, by simp only; rw [b]; exact hI.noDrop⟩
    intro hph
    rcases hI.probe hph with ⟨ha, hr⟩ | hrest
    · exact Or.inl ⟨ha, by simp only; rw [c]; exact hr⟩
    · exact Or.inr (d hrest)
  | clipTimeout sys' hs =>
    obtain ⟨v, rest, hp, rfl⟩ := Lemmas.InputLoop.next_clipTimeout hs
    have hb := hI.budget
    simp only [remBefore, hp, posted] at hb
    refine ⟨by simp only; omega, ?_, hI.noTO, hI.noDrop⟩
    intro hph
    rcases hI.probe hph with ⟨ha, hr⟩ | ⟨r, c, hm⟩ | hc
    · exact Or.inl ⟨ha, hr⟩
    · rw [hp] at hm
      rcases List.mem_cons.mp hm with h1 | h1
      · cases h1
      · exact Or.inr (Or.inl ⟨r, c, h1⟩)
    · exact Or.inr (Or.inr hc)
  | probeRecv _ _ _ _ => exact ⟨hI.budget, (fun hph => by cases hph), hI.noTO, hI.noDrop⟩
  | probeTimeout _ => cases hnt
  | loopTimeout _ => cases hnt
  | loopDA e q _ hq _ =>
    have hb := hI.budget
    simp only [remBefore, hq, List.length_cons] at hb
    exact ⟨by simp only; omega, (fun h' => by cases h'), hI.noTO, hI.noDrop⟩
  | loopEv e q c tid aid hph hq _ =>
    have hb := hI.budget
    simp only [remBefore, hq, List.length_cons] at hb
    exact ⟨by simp only [setCaps]; omega, (fun h' => by simp only at h'; rw [hph] at h'; cases h'), hI.noTO, hI.noDrop⟩
  | quirks _ => exact ⟨hI.budget, (fun h' => by cases h'), hI.noTO, hI.noDrop⟩

theorem linv_run (p : Params) (o : Opts) (hcap : p.cursorCap ≠ 0) (ls : List VaxisModel.Model.Startup.Label) (st st' : St)
    (rem : List Seq) (hI : LInv p st (inputsOf ls ++ rem)) (hg : ∀ s ∈ inputsOf ls, Good p.b64 s)
    (hnt : ∀ l ∈ ls, isTimeout l = false) (h : VaxisModel.Model.Startup.run p o st ls = some st') : LInv p st' rem := by
  have := VaxisModel.Lemmas.Startup.run_ind (I := fun st ls => LInv p st (inputsOf ls ++ rem) ∧
      (∀ s ∈ inputsOf ls, Good p.b64 s) ∧ ∀ l ∈ ls, isTimeout l = false)
    (fun st st' l ls hI hn =>
      ⟨linv_next p o hcap st st' l (inputsOf ls ++ rem) (by cases l <;> simpa [remBefore, inputsOf] using hI.1)
        (fun s hl => hI.2.1 s (by subst hl; simp [inputsOf])) (hI.2.2 l (by simp)) hn,
       fun s hm => hI.2.1 s (by cases l <;> simp [inputsOf, hm]), fun x hx => hI.2.2 x (by simp [hx])⟩) ⟨hI, hg, hnt⟩ h
  simpa [inputsOf] using this.1

end VaxisModel.Lemmas.C12StartupLive
