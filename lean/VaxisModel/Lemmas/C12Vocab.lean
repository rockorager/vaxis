/-
C12 composition, the vocabulary: every token the renderer model writes for a frame under a capability set without
explicit width and synchronized output is one the simulation covers (`C12Sim.TokOk`): CUP, an SGR sequence inside the C06
vocabulary and well formed (`SgrOk`), OSC 8 whose parameter string has no `;` (the renderer writes `lpField`, which has
none under `LpOk dec`), a grapheme of width ≤ 2 with non-empty bytes, mode 25, DECSCUSR with a value ≤ 65535, OSC 22.
-/
import VaxisModel.Lemmas.C12Sim
import VaxisModel.Lemmas.RenderGate

namespace VaxisModel.Lemmas.C12Vocab
open VaxisModel.Model.Render VaxisModel.Model.Color VaxisModel.Lemmas.RenderToks VaxisModel.Lemmas.RenderGate
open VaxisModel.Lemmas.C12Sim VaxisModel.Model.EmuAbs VaxisModel.Lemmas.EmuRefine VaxisModel.Model.C12Compose
open VaxisModel.Model.Emu (G)

theorem sgrOk_nil : SgrOk [] := ⟨rfl, rfl⟩

theorem sgrOk_single (n : Nat) (h : n ≤ 255 ∧ n ≠ 6 ∧ n ≠ 21 ∧ n ≠ 38 ∧ n ≠ 48 ∧ n ≠ 58) : SgrOk [[n]] := by
  constructor
  · have h1 : ¬ ((n : Int) = 6) := by omega
    have h2 : ¬ ((n : Int) = 21) := by omega
    have h3 : (n : Int) ≤ 255 := by omega
    simp [sgrParams, sgrParam, h1, h2, h3]
  · unfold WfSgr
    have : ¬ (n = 38 ∨ n = 48 ∨ n = 58) := by omega
    simp only [this, if_false]
    split <;> rfl

theorem sgrOk_idx (w i : Nat) (hw : w = 38 ∨ w = 48 ∨ w = 58) (hi : i ≤ 255) : SgrOk [[w, 5, i]] := by
  constructor
  · have h3 : (i : Int) ≤ 255 := by omega
    rcases hw with rfl | rfl | rfl <;> simp [sgrParams, sgrParam, h3]
  · rcases hw with rfl | rfl | rfl <;> rfl

theorem sgrOk_rgb (w r g b : Nat) (hw : w = 38 ∨ w = 48 ∨ w = 58) (hr : r ≤ 255) (hg : g ≤ 255) (hb : b ≤ 255) :
    SgrOk [[w, 2, r, g, b]] := by
  constructor
  · have h1 : (r : Int) ≤ 255 := by omega
    have h2 : (g : Int) ≤ 255 := by omega
    have h3 : (b : Int) ≤ 255 := by omega
    rcases hw with rfl | rfl | rfl <;> simp [sgrParams, sgrParam, h1, h2, h3]
  · rcases hw with rfl | rfl | rfl <;> rfl

/-- `4:n`, the styled underline, n = 0 … 5 (off, single, double, curly, dotted, dashed). -/
theorem sgrOk_ulStyle (n : Nat) (hn : n ≤ 5) : SgrOk [[4, n]] := by
  constructor
  · have h3 : (n : Int) ≤ 255 := by omega
    simp [sgrParams, sgrParam, h3]
  · unfold WfSgr
    have h4 : ¬ ((4 : Nat) = 38 ∨ (4 : Nat) = 48 ∨ (4 : Nat) = 58) := by omega
    simp only [h4, if_false, if_true, decide_eq_true hn, Bool.true_and]
    rfl

variable (dec : String → G) (tw : String → Nat)

theorem effParams_shape3 (caps : Caps) (c : Nat) :
    effParams caps c = [] ∨ (∃ i, i < 256 ∧ effParams caps c = [i]) ∨
      ∃ r g b, r < 256 ∧ g < 256 ∧ b < 256 ∧ effParams caps c = [r, g, b] := by
  have key : ∀ x, params x = [] ∨ (∃ i, i < 256 ∧ params x = [i]) ∨
      ∃ r g b, r < 256 ∧ g < 256 ∧ b < 256 ∧ params x = [r, g, b] := by
    intro x
    unfold params
    split
    · exact Or.inr (Or.inl ⟨_, Nat.mod_lt _ (by decide), rfl⟩)
    · split
      · exact Or.inr (Or.inr ⟨_, _, _, Nat.mod_lt _ (by decide), Nat.mod_lt _ (by decide), Nat.mod_lt _ (by decide), rfl⟩)
      · exact Or.inl rfl
  unfold effParams
  split
  · exact key _
  · exact key _

theorem effParams_shape (caps : Caps) (h : caps.rgb = false) (c : Nat) :
    effParams caps c = [] ∨ ∃ i, i < 256 ∧ effParams caps c = [i] := by
  have hl := effParams_norgb caps h c
  rcases effParams_shape3 caps c with h0 | h1 | ⟨r, g, b, _, _, _, h3⟩
  · exact Or.inl h0
  · exact Or.inr h1
  · rw [h3] at hl; simp at hl

theorem colorToksP_ok3 (which : Nat) (hw : which = 30 ∨ which = 40) (ps : List Nat)
    (h : ps = [] ∨ (∃ i, i < 256 ∧ ps = [i]) ∨ ∃ r g b, r < 256 ∧ g < 256 ∧ b < 256 ∧ ps = [r, g, b]) :
    ∀ k ∈ colorToksP which ps, TokOk dec tw k := by
  intro k hk
  rcases h with rfl | ⟨i, hi, rfl⟩ | ⟨r, g, b, hr, hg, hb, rfl⟩
  · simp [colorToksP] at hk; subst hk
    rcases hw with rfl | rfl <;> exact sgrOk_single _ (by omega)
  · simp only [colorToksP] at hk
    split at hk
    · simp at hk; subst hk
      rcases hw with rfl | rfl <;> exact sgrOk_single _ (by omega)
    · split at hk
      · simp at hk; subst hk
        rcases hw with rfl | rfl <;> exact sgrOk_single _ (by omega)
      · simp at hk; subst hk
        rcases hw with rfl | rfl
        · exact sgrOk_idx 38 i (Or.inl rfl) (by omega)
        · exact sgrOk_idx 48 i (Or.inr (Or.inl rfl)) (by omega)
  · simp only [colorToksP, List.mem_singleton] at hk
    subst hk
    rcases hw with rfl | rfl
    · exact sgrOk_rgb 38 r g b (Or.inl rfl) (by omega) (by omega) (by omega)
    · exact sgrOk_rgb 48 r g b (Or.inr (Or.inl rfl)) (by omega) (by omega) (by omega)

theorem colorToksP_ok (which : Nat) (hw : which = 30 ∨ which = 40) (ps : List Nat)
    (h : ps = [] ∨ ∃ i, i < 256 ∧ ps = [i]) : ∀ k ∈ colorToksP which ps, TokOk dec tw k :=
  colorToksP_ok3 dec tw which hw ps (h.elim Or.inl fun h => Or.inr (Or.inl h))

theorem ulColorToksP_ok (ps : List Nat)
    (h : ps = [] ∨ (∃ i, i < 256 ∧ ps = [i]) ∨ ∃ r g b, r < 256 ∧ g < 256 ∧ b < 256 ∧ ps = [r, g, b]) :
    ∀ k ∈ ulColorToksP ps, TokOk dec tw k := by
  intro k hk
  rcases h with rfl | ⟨i, hi, rfl⟩ | ⟨r, g, b, hr, hg, hb, rfl⟩
  · simp [ulColorToksP] at hk; subst hk
    exact sgrOk_single 59 (by omega)
  · simp [ulColorToksP] at hk; subst hk
    exact sgrOk_idx 58 i (Or.inr (Or.inr rfl)) (by omega)
  · simp [ulColorToksP] at hk; subst hk
    exact sgrOk_rgb 58 r g b (Or.inr (Or.inr rfl)) (by omega) (by omega) (by omega)

/-- The attribute codes the renderer writes. -/
def isAttrTok : Tok → Bool
  | .sgr [[n]] => [1, 2, 3, 5, 7, 8, 9, 22, 23, 25, 27, 28, 29].contains n
  | _ => false

theorem isAttrTok_ok (k : Tok) (h : isAttrTok k = true) : TokOk dec tw k := by
  unfold isAttrTok at h
  split at h
  · rename_i n
    have hn : n = 1 ∨ n = 2 ∨ n = 3 ∨ n = 5 ∨ n = 7 ∨ n = 8 ∨ n = 9 ∨ n = 22 ∨ n = 23 ∨ n = 25 ∨ n = 27 ∨ n = 28 ∨ n = 29 := by
      simpa using h
    exact sgrOk_single n (by omega)
  · cases h

theorem attrToks_ok (a b : Nat) : ∀ k ∈ attrToks a b, TokOk dec tw k := by
  have hall : (attrToks a b).all isAttrTok = true := by
    unfold attrToks
    split
    · rfl
    · simp only [List.all_append, onTok, Bool.and_eq_true]
      repeat' apply And.intro
      all_goals (repeat' split)
      all_goals simp [isAttrTok]
  intro k hk
  rw [List.all_eq_true] at hall
  exact isAttrTok_ok dec tw k (hall k hk)

theorem penDelta_ok (caps : Caps) (pen next : Style) (hsu : caps.styledUnderlines = true → next.ulStyle ≤ 5)
    (hdec : ∀ s, 59 ∉ dec (lpField s)) :
    ∀ k ∈ penDelta caps pen next, TokOk dec tw k :=
  penDelta_all caps pen next
    (colorToksP_ok3 dec tw 30 (Or.inl rfl) _ (effParams_shape3 caps _))
    (colorToksP_ok3 dec tw 40 (Or.inr rfl) _ (effParams_shape3 caps _))
    (fun _ => ulColorToksP_ok dec tw _ (effParams_shape3 caps _)) (attrToks_ok dec tw _ _)
    (fun hc => sgrOk_ulStyle _ (hsu hc))
    (fun _ _ => sgrOk_single 24 (by omega))
    (fun _ _ => sgrOk_single 4 (by omega))
    (fun _ => ⟨hdec _, fun hu => by simp only [hu, if_true]; rfl⟩)

/-- What the composition needs of one application cell: the width function gives the grapheme a
    width ≤ 2, and a grapheme with a positive width has bytes. -/
def CellOk (dec : String → G) (cw : String → Nat) (c : Cell) : Prop :=
  cw c.g ≤ 2 ∧ (cw c.g ≠ 0 → dec c.g ≠ [])

/-- What the composition needs of the byte decoding of the renderer model's opaque strings: the OSC 8
    parameter field the renderer writes (`lpField`, cut before the first byte-aligned `3b`) decodes to
    bytes without `;`. True of the hex decoding (`Lemmas.RenderLink.lpField_no_semicolon`). -/
def LpOk (dec : String → G) : Prop := ∀ s, 59 ∉ dec (lpField s)

theorem glyphTok_ok (cw : String → Nat) (caps : Caps) (hew : caps.explicitWidth = false) (c : Cell)
    (hsp : cw "20" = 1) (hd : dec "20" ≠ []) (hc : CellOk dec cw c) : TokOk dec cw (glyphTok cw caps c) := by
  unfold glyphTok glyphTokW
  split
  · exact ⟨by rw [hsp]; omega, fun _ => hd⟩
  · simp only [hew, Bool.false_eq_true, and_false, if_false]
    exact ⟨hc.1, hc.2⟩

theorem close_ok (h0 : 59 ∉ dec "") : TokOk dec tw (Tok.osc8 "" "") := ⟨h0, fun _ => rfl⟩

theorem showCursor_ok (c : CursorState) (hs : c.style ≤ 65535) : ∀ k ∈ showCursorToks c, TokOk dec tw k := by
  intro k hk
  simp [showCursorToks] at hk
  rcases hk with rfl | rfl | rfl
  · exact hs
  · trivial
  · rfl

theorem frame_ok_anyCaps (cw : String → Nat) (f : Frame)
    (hul : f.caps.styledUnderlines = true → ∀ r ∈ f.next, ∀ c ∈ r, c.style.ulStyle ≤ 5)
    (hew : f.caps.explicitWidth = false) (hsy : f.caps.sync = false)
    (hsp : cw "20" = 1) (hd : dec "20" ≠ []) (h0 : 59 ∉ dec "") (hdec : LpOk dec)
    (hc : ∀ r ∈ f.next, ∀ c ∈ r, CellOk dec cw c) (hs : f.cursorNext.style ≤ 65535) :
    ∀ k ∈ (renderFrame cw f).2, TokOk dec cw k :=
  renderFrame_all cw f trivial (close_ok dec cw h0) (fun _ _ => trivial)
    (fun r hr n hn => ⟨fun _ => penDelta_ok dec cw f.caps _ _ (fun h => hul h r hr n hn) hdec,
      glyphTok_ok dec cw f.caps hew n hsp hd (hc r hr n hn)⟩)
    (fun _ => showCursor_ok dec cw _ hs) rfl (fun h => by rw [hsy] at h; cases h) sgrOk_nil

theorem frame_ok_anyRgb (cw : String → Nat) (f : Frame) (hsu : f.caps.styledUnderlines = false)
    (hew : f.caps.explicitWidth = false) (hsy : f.caps.sync = false)
    (hsp : cw "20" = 1) (hd : dec "20" ≠ []) (h0 : 59 ∉ dec "") (hdec : LpOk dec)
    (hc : ∀ r ∈ f.next, ∀ c ∈ r, CellOk dec cw c) (hs : f.cursorNext.style ≤ 65535) :
    ∀ k ∈ (renderFrame cw f).2, TokOk dec cw k :=
  frame_ok_anyCaps dec cw f (fun h => by rw [hsu] at h; cases h) hew hsy hsp hd h0 hdec hc hs

end VaxisModel.Lemmas.C12Vocab
