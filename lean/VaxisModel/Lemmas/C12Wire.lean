/-
C12, extractor tie of the reply exchange: the bytes of every write of `Vaxis.sendQueries()` computed
from the regenerated constants of sequences.go (`Gen.TermReplies`), to be compared with the parsed
sequences `Model.C12Replies.startupGroups` (Props/C12.lean `facts_queries`).
-/
import VaxisModel.Gen.TermReplies
import VaxisModel.Model.C12Replies

namespace VaxisModel.Lemmas.C12Wire
open VaxisModel.Gen.TermReplies VaxisModel.Model.C12Replies

def strC (k : String) : List Nat := ((strConst.find? (·.1 == k)).map (·.2)).getD []
def numC (k : String) : Int := ((numConst.find? (·.1 == k)).map (·.2)).getD (-1)
def fmtF (k : String) : List Nat := ((fmtFunc.find? (·.1 == k)).map (·.2)).getD []

/-- The bytes one statement of `sendQueries()` puts on the wire (`none` = a statement this table does
    not know: `facts_queries` then fails). `enterAltScreen` is the prelude, not a query. -/
def callWire (call : String) : Option (List Nat) :=
  if call = "enterAltScreen" then some []
  else if call = "defer vx.exitAltScreen" then some []
  else if call = "write userCursorStyle" then some (strC "userCursorStyle")
  else if call = "write decrqm(synchronizedUpdate)" then some (instFmt (fmtF "decrqm") [intBytes (numC "synchronizedUpdate")])
  else if call = "write decrqm(unicodeCore)" then some (instFmt (fmtF "decrqm") [intBytes (numC "unicodeCore")])
  else if call = "write decrqm(colorThemeUpdates)" then some (instFmt (fmtF "decrqm") [intBytes (numC "colorThemeUpdates")])
  else if call = "write decset(inBandResize)" then some (instFmt (fmtF "decset") [intBytes (numC "inBandResize")])
  else if call = "write xtversion" then some (strC "xtversion")
  else if call = "write kittyKBQuery" then some (strC "kittyKBQuery")
  else if call = "write kittyGquery" then some (strC "kittyGquery")
  else if call = "write xtsmSixelGeom" then some (strC "xtsmSixelGeom")
  else if call = "write textAreaSize" then some (strC "textAreaSize")
  else if call = "write \"\\x1b[H\"" then some [27, 91, 72]
  else if call = "printf explicitWidth, 1, \" \"" then some (instFmt (strC "explicitWidth") [[49], [32]])
  else if call = "flush" then some (strC "sgrReset")
  else if call = "cursorPosition" then some (strC "dsrcpr")
  else if call = "write xtgettcap(\"RGB\")" then some [27, 80]
  else if call = "write xtgettcap(\"Smulx\")" then some [27, 80]
  else if call = "write tparm(osc4, 1)" then some (instFmt (strC "osc4") [[49]])
  else if call = "write osc10" then some (strC "osc10")
  else if call = "write osc11" then some (strC "osc11")
  else if call = "write getAppID" then some (strC "getAppID")
  else if call = "write tertiaryAttributes" then some (strC "tertiaryAttributes")
  else if call = "write primaryAttributes" then some (strC "primaryAttributes")
  else none

/-- Every statement recognised, and the wire bytes of the queries (the prelude — `enterAltScreen()`
    and the deferred `exitAltScreen()` — dropped), in source order. -/
def queryWire : Option (List (List Nat)) := (sendQueries.mapM callWire).map (·.drop 2)

/-! ### the start-up helpers `enterAltScreen()`, `exitAltScreen()`, `enableModes()` -/

/-- The guards of `enableModes()` under the capability set detected inside the emulator
    (`{sixels, unicodeCore}`, mouse not disabled); an unknown guard is `none`. -/
def guardVal (g : String) : Option Bool :=
  if g = "vx.caps.kittyKeyboard" then some false
  else if g = "vx.caps.sixels" then some true
  else if g = "vx.caps.unicodeCore && !vx.caps.explicitWidth" then some true
  else if g = "vx.caps.colorThemeUpdates" then some false
  else if g = "vx.caps.inBandResize" then some false
  else if g = "!vx.disableMouse" then some true
  else none

/-- `l` without the prefix `pre`, if it has it. -/
def stripPre (pre l : List Char) : Option (List Char) :=
  if pre.isPrefixOf l then some (l.drop pre.length) else none

/-- `decset(name)` / `decrst(name)` with `name` an integer constant of sequences.go. -/
def modeCall (pre : String) (f : String) (call : String) : Option (List Nat) :=
  match stripPre pre.toList call.toList with
  | some rest =>
    if rest.getLast? = some ')' then
      let n := numC (String.ofList rest.dropLast)
      if n < 0 then none else some (instFmt (fmtF f) [intBytes n])
    else none
  | none => none

/-- The bytes of one unguarded statement of a start-up helper (`some []` = writes nothing). -/
def helperCall (call : String) : Option (List Nat) :=
  if call = "flush" then some (strC "sgrReset")
  else if call = "write clear" then some (strC "clear")
  else if call = "write applicationMode" then some (strC "applicationMode")
  else if call = "assign vx.tw.vx.refresh = true" then some []
  else if call = "call vx.HideCursor" then some []
  else match modeCall "write decset(" "decset" call with
    | some b => some b
    | none => modeCall "write decrst(" "decrst" call

/-- Split `"<guard>: <call>"` at the first `": "`. -/
def splitGuard : List Char → List Char → Option (List Char × List Char)
  | _, [] => none
  | acc, ':' :: ' ' :: rest => some (acc.reverse, rest)
  | acc, c :: rest => splitGuard (c :: acc) rest

/-- One entry (`"if <guard>: <call>"` or `<call>`): `none` = not recognised; `some []` = nothing written. -/
def helperEntry (e : String) : Option (List Nat) :=
  match stripPre "if ".toList e.toList with
  | some rest =>
    match splitGuard [] rest with
    | some (g, call) =>
      match guardVal (String.ofList g) with
      | some true => helperCall (String.ofList call)
      | some false => some []
      | none => none
    | none => none
  | none => helperCall e

/-- The writes of a helper (empty ones dropped), every statement recognised. -/
def helperWire (l : List String) : Option (List (List Nat)) := (l.mapM helperEntry).map (·.filter (· ≠ []))

/-- Everything `New()` writes from `sendQueries()` to the end of `enableModes()`, write by write. -/
def startupWire : Option (List (List Nat)) := do
  let en ← helperWire enterAltScreen
  let qs ← queryWire
  let ex ← helperWire exitAltScreen
  let em ← helperWire enableModes
  pure (en ++ qs ++ ex ++ en ++ em)

/-- `startupAll`, write by write. -/
def startupAllGroups : List (List VaxisModel.Model.Emu.EOp) :=
  [[q [63, 104] [1049]], [q [63, 108] [25]], [q [109] []]] ++ startupGroups ++
  [[q [63, 104] [25]], [q [72] [], q [74] [2]], [q [63, 108] [1049]], [q [109] []]] ++
  [[q [63, 104] [1049]], [q [63, 108] [25]], [q [109] []]] ++
  [[q [63, 104] [8452]], [q [63, 104] [2027]], [q [63, 104] [2004]], [q [63, 104] [1]], [.esc [61]],
   [q [63, 104] [1002]], [q [63, 104] [1003]], [q [63, 104] [1004]], [q [63, 104] [1006]], [q [109] []]]

def allMatch : List (List Nat) → List (List VaxisModel.Model.Emu.EOp) → Bool
  | [], [] => true
  | b :: bs, g :: gs => wireMatches b g && allMatch bs gs
  | _, _ => false

/-- Matching write by write splits at a matched prefix. -/
theorem allMatch_append : ∀ (a : List (List Nat)) (g : List (List VaxisModel.Model.Emu.EOp)) (b : List (List Nat)) (h : List (List VaxisModel.Model.Emu.EOp)),
    allMatch a g = true → allMatch (a ++ b) (g ++ h) = allMatch b h
  | [], [], _, _, _ => rfl
  | [], _ :: _, _, _, hm => by cases hm
  | _ :: _, [], _, _, hm => by cases hm
  | x :: a, y :: g, b, h, hm => by
    simp only [allMatch, Bool.and_eq_true] at hm
    simp only [List.cons_append, allMatch, hm.1, Bool.true_and]
    exact allMatch_append a g b h hm.2

end VaxisModel.Lemmas.C12Wire
