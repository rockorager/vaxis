import VaxisModel.Model.Conc

/-! Invariants of the event-queue LTS (Props/C10). -/
namespace VaxisModel.Lemmas.Conc
open VaxisModel.Model.Conc

/-- The indices of goroutine `g`'s attempts in `posted` are 0,1,2,… in order. -/
def Numbered (l : List Ev) : Prop := ∀ g, ((l.filter (·.g == g)).map (·.i)) = List.range (countOf g l)

structure QInv (s : QSys) : Prop where
  numbered : Numbered s.posted
  sub : (s.delivered ++ s.queue).Sublist s.posted
  /-- until `Close` has completed (`chQuit` open) every completed blocking post is queued or delivered -/
  blocking : s.quit = false → ∀ e ∈ s.posted, e.blocking = true → e ∈ s.delivered ++ s.queue
  /-- … and nothing blocking has been dropped -/
  droppedNB : s.quit = false → ∀ e ∈ s.dropped, e.blocking = false

theorem numbered_append (l : List Ev) (g : Nat) (b : Bool) (h : Numbered l) :
    Numbered (l ++ [{ g := g, i := countOf g l, blocking := b }]) := by
  intro g'
  by_cases hg : g = g'
  · subst hg
    have := h g
    simp [countOf, List.filter_append, List.range_succ] at this ⊢
    exact this
  · have := h g'
    have hne : (g == g') = false := by simpa using hg
    simp [countOf, List.filter_append, hne] at this ⊢
    exact this

theorem qinv_init : QInv {} := ⟨fun g => by simp [countOf], by simp, by simp, by simp⟩

theorem qinv_step (qcap : Nat) (s s' : QSys) (l : QLabel) (h : QInv s) (hn : qnext qcap s l = some s') : QInv s' := by
  cases l with
  | post g b =>
    simp only [qnext] at hn
    split at hn
    · simp at hn; subst hn
      refine ⟨numbered_append _ g b h.numbered, ?_, ?_, h.droppedNB⟩
      · simpa [List.append_assoc] using List.Sublist.append h.sub (List.Sublist.refl _)
      · intro hq e he hb
        simp only [List.mem_append, List.mem_singleton] at he ⊢
        rcases he with he | he
        · rcases List.mem_append.mp (h.blocking hq e he hb) with h1 | h1
          · exact Or.inl h1
          · exact Or.inr (Or.inl h1)
        · exact Or.inr (Or.inr he)
    · split at hn
      · simp at hn
      · rename_i hfull hb
        simp at hn; subst hn
        refine ⟨numbered_append _ g b h.numbered, ?_, ?_, ?_⟩
        · exact h.sub.trans (List.sublist_append_left _ _)
        · intro hq e he hbl
          simp only [List.mem_append, List.mem_singleton] at he
          rcases he with he | he
          · exact h.blocking hq e he hbl
          · subst he; simp at hbl; simp [hbl] at hb
        · intro hq e he
          simp only [List.mem_append, List.mem_singleton] at he
          rcases he with he | he
          · exact h.droppedNB hq e he
          · subst he; simpa using hb
  | consume =>
    simp only [qnext] at hn
    split at hn
    · simp at hn
    · rename_i e q heq
      simp at hn; subst hn
      refine ⟨h.numbered, ?_, ?_, h.droppedNB⟩
      · have := h.sub; rw [heq] at this; simpa [List.append_assoc] using this
      · intro hq e' he' hb
        have := h.blocking hq e' he' hb
        rw [heq] at this
        simpa [List.append_assoc] using this
  | quit =>
    simp only [qnext, Option.some.injEq] at hn; subst hn
    exact ⟨h.numbered, h.sub, fun hq => by simp at hq, fun hq => by simp at hq⟩
  | giveUp g =>
    simp only [qnext] at hn
    split at hn
    · rename_i hq
      simp at hn; subst hn
      refine ⟨numbered_append _ g true h.numbered, h.sub.trans (List.sublist_append_left _ _), ?_, ?_⟩
      · intro hq'; simp [hq] at hq'
      · intro hq'; simp [hq] at hq'
    · simp at hn

theorem qinv_reachable (qcap : Nat) (s : QSys) (h : QReachable qcap s) : QInv s := by
  induction h with
  | init => exact qinv_init
  | step l _ hn ih => exact qinv_step qcap _ _ l ih hn

theorem numbered_increasing (l : List Ev) (h : Numbered l) (g : Nat) :
    ((l.filter (·.g == g)).map (·.i)).Pairwise (· < ·) := by
  rw [h g]; exact List.pairwise_lt_range

theorem reachable_increasing (qcap : Nat) (s : QSys) (h : QReachable qcap s) (g : Nat) :
    (((s.delivered ++ s.queue).filter (·.g == g)).map (·.i)).Pairwise (· < ·) :=
  have inv := qinv_reachable qcap s h
  (numbered_increasing s.posted inv.numbered g).sublist ((inv.sub.filter _).map _)

theorem reachable_delivered_increasing (qcap : Nat) (s : QSys) (h : QReachable qcap s) (g : Nat) :
    ((s.delivered.filter (·.g == g)).map (·.i)).Pairwise (· < ·) :=
  (reachable_increasing qcap s h g).sublist (((List.sublist_append_left _ _).filter _).map _)

end VaxisModel.Lemmas.Conc
