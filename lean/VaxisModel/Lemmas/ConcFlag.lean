import VaxisModel.Lemmas.ConcInv
import VaxisModel.Lemmas.ConcShutdown

/-! `chQuit` is closed at most once — in every reachable state, under every label (any number of
`Close` callers, `Close` on an input goroutine's signal arm or panic path included). This is F33 repaired: the
test-and-set of `vx.closed` under `closeMu` lets exactly one caller through. -/
namespace VaxisModel.Lemmas.ConcFlag
open VaxisModel.Model.Conc VaxisModel.Lemmas.ConcInv VaxisModel.Lemmas.ConcShutdown

/-- The laws of the test-and-set. They need nothing of the rest of the invariant, and every label
preserves them without a side condition. -/
structure FlagInv (s : SSys) : Prop where
  flag : sumBy fActive s.callers + s.quitCloses = b2n s.closedFlag
  pastFlag : 1 ≤ sumBy fPastFlag s.callers → b2n s.closedFlag = 1
  wellTyped : sumBy fBad s.callers = 0

theorem flagInv_init (s : SSys) (h1 : s.callers = []) (h2 : s.closedFlag = false) (h3 : s.quitCloses = 0) : FlagInv s := by
  constructor <;> simp [h1, h2, h3, sumBy]

theorem flagInv_step (s s' : SSys) (l : SLabel) (h : FlagInv s) (hn : snext s l = some s') : FlagInv s' := by
  obtain ⟨hf, hp, hw⟩ := h
  rcases snext_callers hn with ⟨e1, e2, e3 | e3 | e3⟩ | ⟨j, ⟨pc, k⟩, s1, pc', hj, hc, rfl⟩
  · constructor <;> simp only [e1, e2, e3] <;> assumption
  · constructor <;> simp only [e1, e2, e3, sumBy_append, sumBy, closeCaller, fActive, fPastFlag, fBad, Nat.add_zero] <;> assumption
  · constructor <;> simp only [e1, e2, e3, sumBy_append, sumBy, fActive, fPastFlag, fBad, Nat.add_zero] <;> assumption
  · -- a step of caller `j`: its own contribution to each count apart, then row by row
    obtain ⟨a, eA, eA'⟩ := sumBy_split fActive hj
    obtain ⟨p, eP, eP'⟩ := sumBy_split fPastFlag hj
    obtain ⟨b, eB, eB'⟩ := sumBy_split fBad hj
    have hb := b2n_le s.closedFlag
    rw [eA] at hf; rw [eP] at hp; rw [eB] at hw
    clear eA eP eB
    have row := closeStep_rows hc
    cases row
    case already e | won e =>
      cases k <;> simp only [e, fActive, fPastFlag, fBad, b2n_true, b2n_false, implies_true] at hf hp hw <;> constructor <;>
        simp only [e, eA', eP', eB', fActive, fPastFlag, fBad, b2n_true, implies_true] <;> omega
    all_goals
      cases hd : s.da1First <;> cases k <;> simp only [fActive, fPastFlag, fBad] at hf hp hw <;> constructor <;>
        simp only [eA', eP', eB', afterSuspend, afterGuard, afterSignal, afterDA1, hd, fActive, fPastFlag, fBad,
          Bool.false_eq_true, ↓reduceIte] <;> omega

theorem flagInv_reachable (s0 s : SSys) (h0 : FlagInv s0) (h : SReachable s0 s) : FlagInv s := by
  induction h with
  | init => exact h0
  | step l _ hn ih => exact flagInv_step _ _ l ih hn

end VaxisModel.Lemmas.ConcFlag
