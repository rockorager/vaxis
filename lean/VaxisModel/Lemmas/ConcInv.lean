import VaxisModel.Model.Conc
import VaxisModel.Lemmas.ConcMeasure

/-!
`Inv s` collects the conservation laws of the Close / Suspend / Resume protocol: who may be inside
`Close`, who may be inside `Suspend`, where the close signal and the closed signal are, that the
parser's channel is closed exactly when the parser is done, and that the reader will be woken up.
It says nothing about the event queue, about who consumes, about kill signals, about which
goroutine runs `Close`, nor about who calls `Suspend` when; the only side condition of its
preservation is on `Resume` (nobody inside `Close`/`Suspend`, not closed).
-/
namespace VaxisModel.Lemmas.ConcInv
open VaxisModel.Model.Conc VaxisModel.Lemmas.ConcMeasure

def sumBy (f : Caller → Nat) : List Caller → Nat
  | [] => 0
  | c :: r => f c + sumBy f r

theorem sumBy_append (f : Caller → Nat) (a b : List Caller) : sumBy f (a ++ b) = sumBy f a + sumBy f b :=
  weight_append (sumBy f) f rfl (fun _ _ => rfl) a b

/-- Caller `j` apart: every count is what `j` contributes plus what the others contribute, and a step
of `j` changes only the first part. -/
theorem sumBy_split (f : Caller → Nat) : ∀ {l : List Caller} {j : Nat} {c : Caller}, l[j]? = some c →
    ∃ r, sumBy f l = r + f c ∧ ∀ c', sumBy f (l.set j c') = r + f c'
  | x :: l, 0, c, h => by
      simp only [List.getElem?_cons_zero, Option.some.injEq] at h
      subst h
      exact ⟨sumBy f l, Nat.add_comm _ _, fun c' => Nat.add_comm _ _⟩
  | x :: l, j + 1, c, h => by
      obtain ⟨r, e, e'⟩ := sumBy_split f (l := l) (j := j) (by simpa using h)
      exact ⟨f x + r, by simp only [sumBy, e, Nat.add_assoc], fun c' => by simp only [List.set_cons_succ, sumBy, e', Nat.add_assoc]⟩

theorem sumBy_zero_all (f : Caller → Nat) : ∀ (l : List Caller), sumBy f l = 0 → ∀ c ∈ l, f c = 0
  | [], _, c, hc => by simp at hc
  | x :: r, h, c, hc => by
      simp [sumBy] at h
      rcases List.mem_cons.mp hc with rfl | hc
      · exact h.1
      · exact sumBy_zero_all f r h.2 c hc

theorem sumBy_pos_of_mem (f : Caller → Nat) : ∀ (l : List Caller) (c : Caller), c ∈ l → f c ≤ sumBy f l
  | [], c, hc => by simp at hc
  | x :: r, c, hc => by
      rcases List.mem_cons.mp hc with rfl | hc
      · simp [sumBy]
      · have := sumBy_pos_of_mem f r c hc; simp [sumBy]; omega

/-- inside `Close`, past the test-and-set of `closed`, not yet returned -/
def fActive (c : Caller) : Nat :=
  match c.inClose, c.pc with
  | true, .postQuit | true, .checkSuspended | true, .signalClose | true, .writeDA1 | true, .waitClosed | true, .closeQuit => 1
  | _, _ => 0
/-- has called `Close` and passed the test-and-set -/
def fPastFlag (c : Caller) : Nat :=
  match c.inClose, c.pc with
  | true, .checkFlag => 0
  | true, _ => 1
  | _, _ => 0
def fCS (c : Caller) : Nat := match c.pc with | .checkSuspended => 1 | _ => 0
def fSC (c : Caller) : Nat := match c.pc with | .signalClose => 1 | _ => 0
def fWD (c : Caller) : Nat := match c.pc with | .writeDA1 => 1 | _ => 0
def fWC (c : Caller) : Nat := match c.pc with | .waitClosed => 1 | _ => 0
def fCQ (c : Caller) : Nat := match c.pc with | .closeQuit => 1 | _ => 0
def fUnret (c : Caller) : Nat := match c.pc with | .returned => 0 | _ => 1
theorem fSC_pos {c : Caller} (h : 1 ≤ fSC c) : c.pc = .signalClose := by obtain ⟨pc, k⟩ := c; cases pc <;> simp [fSC] at h ⊢
theorem fWD_pos {c : Caller} (h : 1 ≤ fWD c) : c.pc = .writeDA1 := by obtain ⟨pc, k⟩ := c; cases pc <;> simp [fWD] at h ⊢
theorem fWC_pos {c : Caller} (h : 1 ≤ fWC c) : c.pc = .waitClosed := by obtain ⟨pc, k⟩ := c; cases pc <;> simp [fWC] at h ⊢
theorem fUnret_eq_zero {c : Caller} : fUnret c = 0 ↔ c.pc = .returned := by
  obtain ⟨pc, k⟩ := c; cases pc <;> simp [fUnret]
/-- a bare `Suspend` caller is never at a program counter of `Close` proper -/
def fBad (c : Caller) : Nat :=
  match c.inClose, c.pc with
  | false, .checkFlag | false, .postQuit | false, .closeQuit => 1
  | _, _ => 0
/-- the parser has left its loop -/
def pX : PPc → Nat | .emitEOF | .signalClosed | .done => 1 | _ => 0
def pD : PPc → Nat | .done => 1 | _ => 0
def pR : PPc → Nat | .reading => 1 | _ => 0
theorem pR_le (p : PPc) : pR p ≤ 1 := by cases p <;> simp [pR]
theorem pX_le (p : PPc) : pX p ≤ 1 := by cases p <;> simp [pX]
/-- `WaitClose` has taken the parser's `closed` token (the parser is done and the token is gone) -/
def pT (s : SSys) : Nat := pD s.ppc - s.closedSig
/-- 1 for the empty input buffer, 0 otherwise -/
def emptyN (l : List (Option Nat)) : Nat := 1 - l.length
def b2n (b : Bool) : Nat := if b then 1 else 0
@[simp] theorem b2n_true : b2n true = 1 := rfl
@[simp] theorem b2n_false : b2n false = 0 := rfl
theorem b2n_le (b : Bool) : b2n b ≤ 1 := by cases b <;> simp

structure Inv (s : SSys) : Prop where
  /-- the statement order of `Suspend` and the assignment in `Resume` are those of the source -/
  order : s.da1First = false
  /-- … and so are the repaired shapes: `WaitClose` drains, `PostEventBlocking` selects on `chQuit`
  (`Props.C10Shutdown.waitclose_drains`, `blocking_post_selects_quit`) -/
  clears : s.resumeClears = true ∧ s.waitDrains = true ∧ s.postQuitArm = true
  qpos : 1 ≤ s.qcap
  /-- at most one goroutine is past the test-and-set of `closed`, and `chQuit` is closed by it -/
  flag : sumBy fActive s.callers + s.quitCloses = b2n s.closedFlag
  pastFlag : 1 ≤ sumBy fPastFlag s.callers → b2n s.closedFlag = 1
  wellTyped : sumBy fBad s.callers = 0
  /-- the close signal: sent = pending + taken by the parser -/
  sig : sumBy fWD s.callers + sumBy fWC s.callers + pT s = s.closeSig + pX s.ppc
  /-- the closed token exists only when the parser is done -/
  closed : s.closedSig ≤ pD s.ppc
  /-- `vx.suspended` says whether the parser is stopped or being stopped -/
  susp : b2n s.suspendedFlag = sumBy fSC s.callers + sumBy fWD s.callers + sumBy fWC s.callers + pT s
  excl : sumBy fSC s.callers + sumBy fWD s.callers + sumBy fWC s.callers + pT s ≤ 1
  afterClose : 1 ≤ sumBy fCQ s.callers + s.quitCloses → b2n s.suspendedFlag = 1
  /-- the parser's channel is closed exactly when the parser is done -/
  chan : b2n s.seqsClosed = pD s.ppc
  /-- the reader is woken up: a pending close signal with the parser blocked in `ReadRune` on an
  empty input means the DA1 query is still to be written or its reply is still to come -/
  wake : s.closeSig + pR s.ppc + emptyN s.inbuf ≤ 2 + sumBy fWD s.callers + s.da1Pending
  /-- `vx.suspendMu` is held exactly while some goroutine is inside `Suspend` past its guard -/
  lock : b2n s.suspLock = sumBy fSC s.callers + sumBy fWD s.callers + sumBy fWC s.callers

/-- `excl` follows from `susp` (a flag counts at most one), so whoever establishes the invariant proves the other laws only. -/
theorem Inv.of_susp {s : SSys} (order : s.da1First = false) (clears : s.resumeClears = true ∧ s.waitDrains = true ∧ s.postQuitArm = true)
    (qpos : 1 ≤ s.qcap) (flag : sumBy fActive s.callers + s.quitCloses = b2n s.closedFlag)
    (pastFlag : 1 ≤ sumBy fPastFlag s.callers → b2n s.closedFlag = 1) (wellTyped : sumBy fBad s.callers = 0)
    (sig : sumBy fWD s.callers + sumBy fWC s.callers + pT s = s.closeSig + pX s.ppc) (closed : s.closedSig ≤ pD s.ppc)
    (susp : b2n s.suspendedFlag = sumBy fSC s.callers + sumBy fWD s.callers + sumBy fWC s.callers + pT s)
    (afterClose : 1 ≤ sumBy fCQ s.callers + s.quitCloses → b2n s.suspendedFlag = 1) (chan : b2n s.seqsClosed = pD s.ppc)
    (wake : s.closeSig + pR s.ppc + emptyN s.inbuf ≤ 2 + sumBy fWD s.callers + s.da1Pending)
    (lock : b2n s.suspLock = sumBy fSC s.callers + sumBy fWD s.callers + sumBy fWC s.callers) : Inv s :=
  ⟨order, clears, qpos, flag, pastFlag, wellTyped, sig, closed, susp, susp ▸ b2n_le s.suspendedFlag, afterClose, chan, wake, lock⟩

/-- A running session with nobody closing or suspending satisfies the invariant — whatever the queue
holds, whether or not anybody consumes, whatever input and signals are pending, whatever the input
goroutine is doing, however many input goroutines of earlier sessions are still alive. -/
theorem inv_running (q n : Nat) (c : Bool) (ib : List (Option Nat)) (i : IPc) (sq : List Tok) (k w : Bool) (o : List Old)
    (hq : 1 ≤ q) :
    Inv { qcap := q, queueLen := n, consumer := c, inbuf := ib, ppc := .reading, ipc := i, seqs := sq, killSig := k,
          winchSig := w, olds := o } := by
  refine ⟨rfl, ⟨rfl, rfl, rfl⟩, hq, by simp [sumBy], by simp [sumBy], by simp [sumBy],
    by simp [sumBy, pT, pX, pD], by simp, by simp [sumBy, pT, pD], by simp [sumBy, pT, pD], by simp [sumBy],
    by simp [pD], ?_, by simp [sumBy]⟩
  simp [pR, emptyN, sumBy]; omega

theorem Inv.frame {s : SSys} (h : Inv s) (n : Nat) (q : List Tok) (i : IPc) (k w : Bool) (o : List Old) :
    Inv { s with queueLen := n, seqs := q, ipc := i, killSig := k, winchSig := w, olds := o } :=
  ⟨h.order, h.clears, h.qpos, h.flag, h.pastFlag, h.wellTyped, h.sig, h.closed, h.susp, h.excl, h.afterClose,
    h.chan, h.wake, h.lock⟩

/-- The invariant is decidable (every law is an (in)equation or an implication between (in)equations
over natural numbers): concrete states can be checked by evaluation. -/
instance instDecidableInv (s : SSys) : Decidable (Inv s) :=
  decidable_of_iff
    (s.da1First = false ∧ (s.resumeClears = true ∧ s.waitDrains = true ∧ s.postQuitArm = true) ∧ 1 ≤ s.qcap ∧
     sumBy fActive s.callers + s.quitCloses = b2n s.closedFlag ∧
     (1 ≤ sumBy fPastFlag s.callers → b2n s.closedFlag = 1) ∧
     sumBy fBad s.callers = 0 ∧
     sumBy fWD s.callers + sumBy fWC s.callers + pT s = s.closeSig + pX s.ppc ∧
     s.closedSig ≤ pD s.ppc ∧
     b2n s.suspendedFlag = sumBy fSC s.callers + sumBy fWD s.callers + sumBy fWC s.callers + pT s ∧
     sumBy fSC s.callers + sumBy fWD s.callers + sumBy fWC s.callers + pT s ≤ 1 ∧
     (1 ≤ sumBy fCQ s.callers + s.quitCloses → b2n s.suspendedFlag = 1) ∧
     b2n s.seqsClosed = pD s.ppc ∧
     s.closeSig + pR s.ppc + emptyN s.inbuf ≤ 2 + sumBy fWD s.callers + s.da1Pending ∧
     b2n s.suspLock = sumBy fSC s.callers + sumBy fWD s.callers + sumBy fWC s.callers)
    ⟨fun ⟨a1, a2, a3, a4, a5, a6, a7, a8, a9, a10, a11, a12, a13, a14⟩ =>
       ⟨a1, a2, a3, a4, a5, a6, a7, a8, a9, a10, a11, a12, a13, a14⟩,
     fun h => ⟨h.order, h.clears, h.qpos, h.flag, h.pastFlag, h.wellTyped, h.sig, h.closed, h.susp, h.excl,
       h.afterClose, h.chan, h.wake, h.lock⟩⟩

end VaxisModel.Lemmas.ConcInv
