import VaxisModel.Lemmas.ConcFlag

/-! Preservation of the shutdown invariant by every label (scheduler labels unconditionally,
environment labels under their side conditions). -/
namespace VaxisModel.Lemmas.ConcInv
open VaxisModel.Model.Conc VaxisModel.Lemmas.ConcMeasure VaxisModel.Lemmas.ConcShutdown VaxisModel.Lemmas.ConcFlag

theorem Inv.flagInv {s : SSys} (h : Inv s) : FlagInv s := ⟨h.flag, h.pastFlag, h.wellTyped⟩

theorem inv_parser (s s' : SSys) (h : Inv s) (hn : snext s .parser = some s') : Inv s' := by
  have h7 := h.sig; have h8 := h.closed; have h9 := h.susp; have h10 := h.excl; have h12 := h.chan; have h13 := h.wake
  have hb := b2n_le s.seqsClosed
  cases hp : s.ppc <;> simp only [snext, hp] at hn <;> (repeat' split at hn) <;> cases hn <;>
    simp only [pT, pX, pD, pR, emptyN, List.length_cons, *] at h7 h8 h9 h10 h12 h13 <;>
    refine .of_susp h.order h.clears h.qpos h.flag h.pastFlag h.wellTyped ?_ ?_ ?_ h.afterClose ?_ ?_ h.lock <;>
    simp only [pT, pX, pD, pR, emptyN, b2n_true] <;> omega

theorem inv_consume (s s' : SSys) (h : Inv s) (hn : snext s .consume = some s') : Inv s' := by
  simp only [snext] at hn
  split at hn <;> cases hn
  exact h.frame ..

theorem inv_termReply (s s' : SSys) (h : Inv s) (hn : snext s .termReply = some s') : Inv s' := by
  have h7 := h.sig; have h10 := h.excl; have h13 := h.wake; have hp := pR_le s.ppc
  simp only [snext] at hn
  split at hn <;> cases hn
  refine { h with wake := ?_ }
  simp only [emptyN, List.length_append, List.length_cons, List.length_nil] at h13 ⊢
  omega

theorem inv_termInput (s s' : SSys) (u : Option Nat) (h : Inv s) (hn : snext s (.termInput u) = some s') : Inv s' := by
  have h13 := h.wake
  cases hn
  refine { h with wake := ?_ }
  simp only [emptyN, List.length_append] at h13 ⊢
  omega

theorem inv_winch (s s' : SSys) (h : Inv s) (hn : snext s .winch = some s') : Inv s' := by
  simp only [snext] at hn
  split at hn <;> cases hn
  exact h.frame ..

/-- A goroutine that enters `Close` or `Suspend` is counted nowhere yet: it stands before the
test-and-set, or before `Suspend`'s guard.  `k` is what becomes of the pending kill signal. -/
theorem inv_enter (s : SSys) (k : Bool) (c : Caller) (hc : c = closeCaller ∨ c = { pc := .checkSuspended, inClose := false })
    (h : Inv s) : Inv { s with killSig := k, callers := s.callers ++ [c] } := by
  obtain ⟨h1, h2, h3, h4, h5, h6, h7, h8, h9, h10, h11, h12, h13, h14⟩ := h
  rcases hc with rfl | rfl <;> refine ⟨h1, h2, h3, ?_, ?_, ?_, ?_, h8, ?_, ?_, ?_, h12, ?_, ?_⟩ <;>
    simp only [sumBy_append, sumBy, closeCaller, fActive, fPastFlag, fBad, fSC, fWD, fWC, fCQ, Nat.add_zero] <;> assumption

theorem inv_iact (s s' : SSys) (v v' : IView) (a : IAct) (h : Inv s) (hi : iact s v a = some (s', v')) : Inv s' := by
  obtain ⟨q, k, w, rfl | rfl⟩ := iact_shape hi
  · exact h.frame ..
  · exact (inv_enter s k _ (.inl rfl) h).frame ..

theorem inv_input (s s' : SSys) (a : IAct) (h : Inv s) (hn : snext s (.input a) = some s') : Inv s' := by
  obtain ⟨s1, v, hi, rfl⟩ := snext_input hn
  exact (inv_iact s s1 _ v a h hi).frame ..

theorem inv_old (s s' : SSys) (j : Nat) (a : IAct) (h : Inv s) (hn : snext s (.old j a) = some s') : Inv s' := by
  obtain ⟨o, s1, v, -, hi, rfl⟩ := snext_old hn
  exact (inv_iact s s1 _ v a h hi).frame ..

theorem inv_drain (s s' : SSys) (j : Nat) (h : Inv s) (hn : snext s (.drain j) = some s') : Inv s' := by
  obtain ⟨c, t, r, -, -, -, -, rfl⟩ := snext_drain hn
  exact h.frame ..

theorem inv_callClose (s s' : SSys) (h : Inv s) (hn : snext s .callClose = some s') : Inv s' := by
  cases hn
  exact inv_enter s s.killSig _ (.inl rfl) h

theorem inv_callSuspend (s s' : SSys) (h : Inv s) (hn : snext s .callSuspend = some s') : Inv s' := by
  cases hn
  exact inv_enter s s.killSig _ (.inr rfl) h

theorem inv_signal (s s' : SSys) (h : Inv s) (hn : snext s .signal = some s') : Inv s' := by
  simp only [snext] at hn
  split at hn <;> cases hn
  exact h.frame ..

/-- A step of caller `j`.  The laws of the test-and-set are `flagInv_step`; for the others the counts
are split into what `j` contributes and the rest, and `closeStep` is gone through row by row. -/
theorem inv_caller (s s' : SSys) (j : Nat) (h : Inv s) (hn : snext s (.caller j) = some s') : Inv s' := by
  have hF := flagInv_step s s' _ h.flagInv hn
  obtain ⟨⟨pc, k⟩, s1, pc', hj, hc, rfl⟩ := snext_caller hn
  obtain ⟨sc, eSC, eSC'⟩ := sumBy_split fSC hj
  obtain ⟨wd, eWD, eWD'⟩ := sumBy_split fWD hj
  obtain ⟨wc, eWC, eWC'⟩ := sumBy_split fWC hj
  obtain ⟨cq, eCQ, eCQ'⟩ := sumBy_split fCQ hj
  have hb := b2n_le s.suspendedFlag
  have h7 := h.sig; have h8 := h.closed; have h9 := h.susp; have h10 := h.excl; have h11 := h.afterClose
  have h13 := h.wake; have h14 := h.lock
  simp only [pT, eSC, eWD, eWC, eCQ] at h7 h9 h10 h11 h13 h14
  -- the equations that mention `sumBy …` are dropped and the parser's indicators generalized: `omega` gets variables
  clear eSC eWD eWC eCQ
  generalize hD : pD s.ppc = d, hX : pX s.ppc = x, hR : pR s.ppc = r, hE : emptyN s.inbuf = e at h7 h8 h9 h10 h13
  have hd := h.order
  have row := closeStep_rows hc
  cases row
  -- a row that reads a flag hands it to `omega` as a number; where `Suspend` returns, `k` says where to
  case' suspended e1 e2 => have f2 := congrArg b2n e2; simp only [b2n_true] at f2; cases k
  case' guard e1 e2 =>
    have f1 := congrArg b2n e1; have f2 := congrArg b2n e2; simp only [b2n_false] at f1 f2
  case' wait e1 => cases k
  all_goals
    simp only [fSC, fWD, fWC, fCQ] at h7 h9 h10 h11 h13 h14
    refine .of_susp hd h.clears h.qpos hF.flag hF.pastFlag hF.wellTyped ?_ ?_ ?_ ?_ h.chan ?_ ?_ <;>
      simp only [pT, hD, hX, hR, hE, eSC', eWD', eWC', eCQ', fSC, fWD, fWC, fCQ, afterSuspend, afterGuard, afterSignal,
        afterDA1, hd, b2n_true, b2n_false, Bool.false_eq_true, ↓reduceIte, implies_true] <;> omega

/-- All callers have returned. -/
def idle (s : SSys) : Prop := sumBy fUnret s.callers = 0

theorem sumBy_zero_of_unret (f : Caller → Nat) (hf : ∀ c, fUnret c = 0 → f c = 0) : ∀ l, sumBy fUnret l = 0 → sumBy f l = 0
  | [], _ => by simp [sumBy]
  | c :: r, h => by
      simp [sumBy] at h
      simp [sumBy, hf c h.1, sumBy_zero_of_unret f hf r h.2]

theorem idle_counts {l : List Caller} (h : sumBy fUnret l = 0) :
    sumBy fActive l = 0 ∧ sumBy fSC l = 0 ∧ sumBy fWD l = 0 ∧ sumBy fWC l = 0 ∧ sumBy fCQ l = 0 := by
  refine ⟨?_, ?_, ?_, ?_, ?_⟩ <;> refine sumBy_zero_of_unret _ (fun ⟨pc, k⟩ => ?_) l h <;> cases pc <;> cases k <;> decide

theorem inv_resume (s s' : SSys) (h : Inv s) (hn : snext s .resume = some s')
    (hidle : idle s) (hopen : s.closedFlag = false) : Inv s' := by
  obtain ⟨zA, zSC, zWD, zWC, zCQ⟩ := idle_counts hidle
  have h4 := h.flag; have h14 := h.lock
  simp only [zA, hopen, b2n_false] at h4
  simp only [snext] at hn
  split at hn <;> cases hn
  refine .of_susp h.order h.clears h.qpos h.flag h.pastFlag h.wellTyped ?_ ?_ ?_ ?_ ?_ ?_ h14 <;>
    simp only [pT, pX, pD, pR, emptyN, zSC, zWD, zWC, zCQ, h.clears.1, ↓reduceIte, b2n_false] <;> omega

end VaxisModel.Lemmas.ConcInv
