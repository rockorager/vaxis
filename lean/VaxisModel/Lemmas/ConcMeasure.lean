import VaxisModel.Lemmas.ConcShutdown

/-!
`mu s` strictly decreases on every label a scheduler may pick (`SLabel.sched`), in every state —
no invariant, no fairness assumption, any number of callers, any capacity, any pending input.
Hence every run of scheduler labels from `s` has at most `mu s` steps: absent new events from the
environment (terminal input, signals, new calls of `Close`/`Suspend`/`Resume`) the system always
comes to rest, and the question "does shutdown complete" is exactly "is the state of rest final".
-/
namespace VaxisModel.Lemmas.ConcMeasure
open VaxisModel.Model.Conc

/-- cost of one unit of terminal input -/
def unitW : Option Nat → Nat
  | none => 2
  | some k => 2 * k + 8

def inbufW : List (Option Nat) → Nat
  | [] => 0
  | u :: r => unitW u + inbufW r

def tokW : Tok → Nat
  | .seq k => 2 * k + 4
  | .eof => 1

def seqsW : List Tok → Nat
  | [] => 0
  | t :: r => tokW t + seqsW r

def ppcW : PPc → Nat
  | .done => 0
  | .signalClosed => 1
  | .emitEOF => 3
  | .reading => 4
  | .top => 5
  | .emitting k => 2 * k + 10

/-- cost of one outstanding DA1 query: its reply (`[none, none, some 1]`) plus the reply step -/
def da1W : Nat := 15

/-- rank of a program counter of `Close`/`Suspend`, for the two statement orders -/
def cpcW (da1First : Bool) : CPc → Nat
  | .returned => 0
  | .closeQuit => 1
  | .waitClosed => 2
  | .signalClose => if da1First then 3 else 4 + da1W
  | .writeDA1 => if da1First then 4 + da1W else 3 + da1W
  | .checkSuspended => 5 + da1W
  | .postQuit => 7 + da1W
  | .checkFlag => 8 + da1W

def ipcW : IPc → Nat
  | .done => 0
  | .select => 1
  | .posting k => 2 * k + 2

def callersW (b : Bool) : List Caller → Nat
  | [] => 0
  | c :: r => cpcW b c.pc + callersW b r

def oldsW : List Old → Nat
  | [] => 0
  | o :: r => ipcW o.ipc + seqsW o.seqs + oldsW r

/-- everything but the input goroutines and their channels -/
def muR (s : SSys) : Nat :=
  s.queueLen + inbufW s.inbuf + ppcW s.ppc + callersW s.da1First s.callers + da1W * s.da1Pending +
    (if s.killSig then cpcW s.da1First .checkFlag + 1 else 0) + (if s.winchSig then 5 else 0)

def mu (s : SSys) : Nat := muR s + ipcW s.ipc + seqsW s.seqs + oldsW s.olds

theorem weight_append {α : Type} (g : List α → Nat) (w : α → Nat) (h0 : g [] = 0) (hc : ∀ x r, g (x :: r) = w x + g r)
    (a b : List α) : g (a ++ b) = g a + g b := by
  induction a with
  | nil => simp [h0]
  | cons x r ih => simp only [List.cons_append, hc, ih, Nat.add_assoc]

theorem weight_set {α : Type} (g : List α → Nat) (w : α → Nat) (hc : ∀ x r, g (x :: r) = w x + g r) :
    ∀ (l : List α) (j : Nat) (c c' : α), l[j]? = some c → g (l.set j c') + w c = g l + w c'
  | x :: r, 0, c, c', h => by
      simp only [List.getElem?_cons_zero, Option.some.injEq] at h
      subst h
      simp only [List.set_cons_zero, hc]; omega
  | x :: r, j + 1, c, c', h => by
      have := weight_set g w hc r j c c' (by simpa using h)
      simp only [List.set_cons_succ, hc]; omega

theorem inbufW_append (a b : List (Option Nat)) : inbufW (a ++ b) = inbufW a + inbufW b :=
  weight_append inbufW unitW rfl (fun _ _ => rfl) a b

theorem seqsW_append (a b : List Tok) : seqsW (a ++ b) = seqsW a + seqsW b :=
  weight_append seqsW tokW rfl (fun _ _ => rfl) a b

theorem callersW_append (b : Bool) (x y : List Caller) : callersW b (x ++ y) = callersW b x + callersW b y :=
  weight_append (callersW b) (fun c => cpcW b c.pc) rfl (fun _ _ => rfl) x y

theorem oldsW_append (x y : List Old) : oldsW (x ++ y) = oldsW x + oldsW y :=
  weight_append oldsW (fun o => ipcW o.ipc + seqsW o.seqs) rfl (fun _ _ => rfl) x y

theorem callersW_set (b : Bool) (l : List Caller) (j : Nat) (c c' : Caller) (h : l[j]? = some c) :
    callersW b (l.set j c') + cpcW b c.pc = callersW b l + cpcW b c'.pc :=
  weight_set (callersW b) (fun c => cpcW b c.pc) (fun _ _ => rfl) l j c c' h

theorem oldsW_set (l : List Old) (j : Nat) (o o' : Old) (h : l[j]? = some o) :
    oldsW (l.set j o') + (ipcW o.ipc + seqsW o.seqs) = oldsW l + (ipcW o'.ipc + seqsW o'.seqs) :=
  weight_set oldsW (fun o => ipcW o.ipc + seqsW o.seqs) (fun _ _ => rfl) l j o o' h

/-- One step of `Close`/`Suspend` lowers the caller's rank by more than it adds elsewhere. -/
theorem closeStep_dec (s s' : SSys) (k : Bool) (c c' : CPc) (h : closeStep s k c = some (s', c')) :
    s'.queueLen + da1W * s'.da1Pending + cpcW s.da1First c' < s.queueLen + da1W * s.da1Pending + cpcW s.da1First c ∧
    s'.inbuf = s.inbuf ∧ s'.seqs = s.seqs ∧ s'.ppc = s.ppc ∧ s'.ipc = s.ipc ∧ s'.callers = s.callers ∧
    s'.da1First = s.da1First ∧ s'.killSig = s.killSig ∧ s'.winchSig = s.winchSig ∧ s'.olds = s.olds := by
  cases ConcShutdown.closeStep_rows h <;> cases k <;> cases hb : s.da1First <;>
    simp [cpcW, da1W, afterSuspend, afterGuard, afterSignal, afterDA1, hb] <;> (try split) <;> omega

/-- One scheduler step of an input goroutine lowers its own rank (program counter and channel) by more
than it adds elsewhere (an event in the queue; `Close` on this goroutine as a new caller). -/
theorem iact_dec (s s' : SSys) (v v' : IView) (a : IAct) (ha : a.sched = true) (h : iact s v a = some (s', v')) :
    muR s' + ipcW v'.ipc + seqsW v'.seqs < muR s + ipcW v.ipc + seqsW v.seqs ∧
    s'.olds = s.olds ∧ s'.ipc = s.ipc ∧ s'.seqs = s.seqs := by
  obtain ⟨ipc, seqs, closed⟩ := v
  cases a
  case panic => cases ha
  all_goals
    simp only [iact] at h <;> (repeat' split at h) <;> cases h <;> refine ⟨?_, rfl, rfl, rfl⟩ <;>
      simp only [muR, ipcW, seqsW, tokW, callersW_append, callersW, closeCaller, *, Bool.false_eq_true, ↓reduceIte] <;> omega

open VaxisModel.Lemmas.ConcShutdown in
theorem mu_decreases (s s' : SSys) (l : SLabel) (hl : l.sched = true) (h : snext s l = some s') : mu s' < mu s := by
  cases l <;> simp [SLabel.sched] at hl
  · simp only [snext] at h
    split at h
    · simp at h; subst h
      simp only [mu, muR, inbufW_append, inbufW, unitW, da1W]
      omega
    · simp at h
  · cases hp : s.ppc <;> simp only [snext, hp] at h <;> (repeat' split at h) <;> cases h <;>
      simp only [mu, muR, ppcW, inbufW, unitW, seqsW_append, seqsW, tokW, *] <;> omega
  · obtain ⟨s1, v, hi, rfl⟩ := snext_input h
    obtain ⟨h1, h2, -, -⟩ := iact_dec s s1 _ v _ hl hi
    simp only [mu, muR, h2] at h1 ⊢
    omega
  · rename_i j a
    obtain ⟨o, s1, v, hj, hi, rfl⟩ := snext_old h
    obtain ⟨h1, h2, h3, h4⟩ := iact_dec s s1 _ v a hl hi
    have hset := oldsW_set s.olds j o ⟨v.ipc, v.seqs⟩ hj
    simp only [mu, muR, h2, h3, h4] at h1 hset ⊢
    omega
  · simp only [snext] at h
    split at h
    · rename_i hc; simp at h; subst h; simp at hc; simp [mu, muR]; omega
    · simp at h
  · rename_i j
    obtain ⟨c, s1, c', hj, hc, rfl⟩ := snext_caller h
    obtain ⟨h1, h2, h3, h4, h5, h6, h7, h8, h9, h10⟩ := closeStep_dec s s1 c.inClose c.pc c' hc
    have hset := callersW_set s.da1First s.callers j c { c with pc := c' } hj
    simp only [mu, muR, h2, h3, h4, h5, h6, h7, h8, h9, h10] at h1 hset ⊢
    omega
  · obtain ⟨c, t, r, -, -, hs, -, rfl⟩ := snext_drain h
    have : 1 ≤ tokW t := by cases t <;> simp [tokW]
    simp only [mu, muR, hs, seqsW]
    omega

theorem sched_run_bounded : ∀ (ls : List SLabel) (s s' : SSys), (∀ l ∈ ls, l.sched = true) → srun s ls = some s' →
    ls.length + mu s' ≤ mu s :=
  ConcShutdown.srun_isRun.variant mu_decreases

/-- what the terminal input arriving during a run adds to the variant -/
def inputCost : List SLabel → Nat
  | [] => 0
  | .termInput u :: r => unitW u + inputCost r
  | _ :: r => inputCost r

def schedCount : List SLabel → Nat
  | [] => 0
  | l :: r => (if l.sched then 1 else 0) + schedCount r

theorem run_bounded_with_input (ls : List SLabel) (s s' : SSys)
    (hl : ∀ l ∈ ls, l.sched = true ∨ ∃ u, l = .termInput u) (h : srun s ls = some s') :
    schedCount ls + mu s' ≤ mu s + inputCost ls := by
  refine ConcShutdown.srun_isRun.induction
    (C := fun s ls s' => (∀ l ∈ ls, l.sched = true ∨ ∃ u, l = .termInput u) → schedCount ls + mu s' ≤ mu s + inputCost ls)
    (fun _ _ => by simp [schedCount, inputCost]) (fun {s l s1 t s'} hn _ ih hl => ?_) ls s s' h hl
  have ih := ih (fun x hx => hl x (by simp [hx]))
  rcases hl l (by simp) with hs | ⟨u, rfl⟩
  · have h1 := mu_decreases s s1 l hs hn
    have hc : inputCost (l :: t) = inputCost t := by cases l <;> simp [SLabel.sched] at hs <;> rfl
    simp only [schedCount, hs, if_true, hc]; omega
  · simp only [snext, Option.some.injEq] at hn; subst hn
    have hm : mu { s with inbuf := s.inbuf ++ [u] } = mu s + unitW u := by
      simp only [mu, muR, inbufW_append, inbufW]; omega
    simp only [schedCount, SLabel.sched, inputCost] at ih ⊢
    rw [hm] at ih
    simp; omega

end VaxisModel.Lemmas.ConcMeasure
