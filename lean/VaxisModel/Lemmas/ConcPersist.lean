import VaxisModel.Lemmas.ConcInvStep

/-! The list of callers only grows, and whether an entry is a `Close` or a bare `Suspend` never
changes: a goroutine that has entered `Close` is still there (at some program counter) in every later
state. -/
namespace VaxisModel.Lemmas.ConcPersist
open VaxisModel.Model.Conc VaxisModel.Lemmas.ConcInv VaxisModel.Lemmas.ConcShutdown

def IsClose (s : SSys) (j : Nat) : Prop := ∃ c, s.callers[j]? = some c ∧ c.inClose = true

theorem isClose_step (s s' : SSys) (l : SLabel) (j : Nat) (h : IsClose s j) (hn : snext s l = some s') : IsClose s' j := by
  obtain ⟨d, hd, hk⟩ := h
  have hlt : j < s.callers.length := (List.getElem?_eq_some_iff.mp hd).1
  rcases snext_callers hn with ⟨-, -, e | e | e⟩ | ⟨i, ⟨pc, k⟩, s1, pc', hi, hc, rfl⟩
  · exact ⟨d, e ▸ hd, hk⟩
  · exact ⟨d, by rw [e, List.getElem?_append_left hlt, hd], hk⟩
  · exact ⟨d, by rw [e, List.getElem?_append_left hlt, hd], hk⟩
  · -- a step of caller `i` rewrites entry `i` and keeps its `inClose`
    have e1 : s1.callers = s.callers := by cases closeStep_rows hc <;> rfl
    by_cases hij : i = j
    · subst hij
      rw [hi] at hd; cases hd
      exact ⟨⟨pc', k⟩, by simp [e1, hlt], hk⟩
    · exact ⟨d, by simp [e1, List.getElem?_set_ne hij, hd], hk⟩

theorem isClose_run (ls : List SLabel) (s s' : SSys) (j : Nat) (h : IsClose s j) (hr : srun s ls = some s') : IsClose s' j :=
  srun_isRun.preserves (fun s s' l h hn => isClose_step s s' l j h hn) h hr

theorem exit_adds_close (s s1 : SSys) (a : IAct) (ha : a = .kill ∨ a = .panic) (hn : snext s (.input a) = some s1) :
    IsClose s1 s.callers.length := by
  obtain ⟨s2, v, hi, rfl⟩ := snext_input hn
  exact ⟨closeCaller, by simp [iact_exit ha hi], rfl⟩

end VaxisModel.Lemmas.ConcPersist
