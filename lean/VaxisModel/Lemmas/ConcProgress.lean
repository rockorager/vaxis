import VaxisModel.Lemmas.ConcInvStep
import VaxisModel.Lemmas.ConcShutdown

/-! In a state of rest the invariant forces every caller to have returned and, once suspended or
closed, the library's goroutines to be done. With the variant (`ConcMeasure`) this is "every
maximal run ends with shutdown completed". -/
namespace VaxisModel.Lemmas.ConcInv
open VaxisModel.Model.Conc VaxisModel.Lemmas.ConcMeasure VaxisModel.Lemmas.ConcShutdown

/-- The only way an input goroutine whose parser has stopped can be at rest without being done: it is
inside a blocking post, the queue is full, the application does not receive, and `Close` has not
completed (`chQuit` is open). The application's next receive releases it. -/
def postBlocked (s : SSys) (i : IPc) : Prop :=
  ∃ k, i = .posting (k + 1) ∧ s.consumer = false ∧ s.qcap ≤ s.queueLen ∧ s.quitCloses = 0

theorem iact_rest (s : SSys) (v : IView) (hq : 1 ≤ s.qcap) (hqa : s.postQuitArm = true) (hc : snext s .consume = none)
    (h : ∀ a, a.sched = true → iact s v a = none) :
    v.ipc = .done ∨ (v.ipc = .select ∧ v.seqs = [] ∧ v.closed = false) ∨ postBlocked s v.ipc := by
  obtain ⟨ipc, seqs, closed⟩ := v
  cases ipc with
  | done => exact Or.inl rfl
  | select =>
    have hr := h .recv rfl
    cases seqs with
    | cons t r => cases t <;> simp [iact] at hr
    | nil =>
      cases closed with
      | true => simp [iact] at hr
      | false => exact Or.inr (Or.inl ⟨rfl, rfl, rfl⟩)
  | posting k =>
    have hs := h .step rfl
    have hqt := h .quit rfl
    cases k with
    | zero => simp [iact] at hs
    | succ k =>
      refine Or.inr (Or.inr ⟨k, rfl, ?_⟩)
      simp only [iact] at hs hqt
      simp only [snext] at hc
      have h1 : ¬ s.queueLen < s.qcap := by intro hlt; simp [hlt] at hs
      have h2 : s.quitCloses = 0 := by
        cases hz : s.quitCloses with
        | zero => rfl
        | succ n => simp [hz, hqa] at hqt
      refine ⟨?_, by omega, h2⟩
      cases hcons : s.consumer with
      | false => rfl
      | true =>
        have : s.queueLen > 0 := by omega
        simp [hcons, this] at hc

theorem unret_of_mem (l : List Caller) (c : Caller) (hc : c ∈ l) (hne : c.pc ≠ .returned) : 1 ≤ sumBy fUnret l := by
  have := sumBy_pos_of_mem fUnret l c hc
  have h1 : fUnret c = 1 := by obtain ⟨pc, k⟩ := c; cases pc <;> simp_all [fUnret]
  omega

theorem exists_pos (f : Caller → Nat) : ∀ (l : List Caller), 1 ≤ sumBy f l → ∃ (j : Nat) (c : Caller), l[j]? = some c ∧ 1 ≤ f c
  | [], h => by simp [sumBy] at h
  | c :: r, h => by
      by_cases hc : 1 ≤ f c
      · exact ⟨0, c, by simp, hc⟩
      · have : f c = 0 := by omega
        simp [sumBy, this] at h
        obtain ⟨j, c', h1, h2⟩ := exists_pos f r h
        exact ⟨j + 1, c', by simp [h1], h2⟩

/-- A caller inside `Suspend`'s critical section (close signal to send, DA1 query to write, or waiting
in `WaitClose`) can always move, or a label of the parser / the terminal is enabled. -/
theorem critical_moves (s : SSys) (h : Inv s) (hq : AtRest s) (j : Nat) (c : Caller) (hj : s.callers[j]? = some c)
    (hc : c.pc = .signalClose ∨ c.pc = .writeDA1 ∨ c.pc = .waitClosed) : False := by
  have hb := closeStep_blocked (rest_caller_blocked hq hj)
  have hm : c ∈ s.callers := List.mem_of_getElem? hj
  have m5 := sumBy_pos_of_mem fSC s.callers c hm
  have m7 := sumBy_pos_of_mem fWC s.callers c hm
  have h7 := h.sig; have h8 := h.closed; have h10 := h.excl; have h13 := h.wake
  have hx := pX_le s.ppc
  simp only [pT] at h7 h10
  obtain ⟨pc, k⟩ := c
  rcases hb with ⟨e, _⟩ | ⟨e, hcs⟩ | ⟨e, hcs⟩ | e <;> simp only at e hc <;> subst e <;>
    simp only [reduceCtorEq, or_false, false_or] at hc
  · -- blocked at `signalClose`: a close signal is pending, somebody else's — impossible
    simp only [fSC] at m5
    omega
  · -- blocked in `WaitClose`: no `closed` token, nothing in the channel to discard; then the parser
    -- can move (the branches `cases q1` closes) or the terminal's reply is due
    simp only [fWC] at m7
    have q4 := hq.others .termReply rfl nofun
    have qd := hq.others (.drain j) rfl nofun
    have hseqs : s.seqs = [] := by
      cases hs : s.seqs with
      | nil => rfl
      | cons t r => simp [snext, hj, hs, h.clears.2.1] at qd
    have q1 := hq.parser hseqs
    simp only [snext] at q1 q4
    cases hp : s.ppc <;> simp only [hp, hseqs, pD, pX, pR] at q1 h7 h8 h10 h13 <;> (repeat' split at q1) <;>
      try cases q1
    · -- `ReadRune` on an empty input: the reply to the DA1 query is still to come
      rename_i hin
      have : s.da1Pending > 0 := by simp only [hin, emptyN, List.length_nil] at h13; omega
      simp [this] at q4
    · simp at ‹¬ _›
    · simp at ‹¬ _›
    · omega
    · omega

theorem rest_lock_free (s : SSys) (h : Inv s) (hq : AtRest s) : s.suspLock = false := by
  cases hl : s.suspLock with
  | false => rfl
  | true =>
    exfalso
    have hlock := h.lock
    rw [hl] at hlock
    simp only [b2n_true] at hlock
    have : 1 ≤ sumBy fSC s.callers ∨ 1 ≤ sumBy fWD s.callers ∨ 1 ≤ sumBy fWC s.callers := by omega
    rcases this with h1 | h1 | h1
    · obtain ⟨j, c, hj, hc⟩ := exists_pos fSC s.callers h1
      exact critical_moves s h hq j c hj (.inl (fSC_pos hc))
    · obtain ⟨j, c, hj, hc⟩ := exists_pos fWD s.callers h1
      exact critical_moves s h hq j c hj (.inr (.inl (fWD_pos hc)))
    · obtain ⟨j, c, hj, hc⟩ := exists_pos fWC s.callers h1
      exact critical_moves s h hq j c hj (.inr (.inr (fWC_pos hc)))

theorem rest_all_returned (s : SSys) (h : Inv s) (hq : AtRest s) : sumBy fUnret s.callers = 0 := by
  have hfree := rest_lock_free s h hq
  cases hz : sumBy fUnret s.callers with
  | zero => rfl
  | succ n =>
      exfalso
      obtain ⟨j, c, hj, hne⟩ := exists_pos fUnret s.callers (by omega)
      rcases closeStep_blocked (rest_caller_blocked hq hj) with ⟨_, hl⟩ | ⟨e, _⟩ | ⟨e, _⟩ | e
      · rw [hfree] at hl; cases hl
      · exact critical_moves s h hq j c hj (.inl e)
      · exact critical_moves s h hq j c hj (.inr (.inr e))
      · have := fUnret_eq_zero.mpr e
        omega

theorem iact_rest_closed (s : SSys) (h : Inv s) (hq : AtRest s) (i : IPc) (sq : List Tok)
    (hb : ∀ a, a.sched = true → iact s ⟨i, sq, true⟩ a = none) : i = .done ∨ postBlocked s i := by
  rcases iact_rest s ⟨i, sq, true⟩ h.qpos h.clears.2.2 (hq.others .consume rfl nofun) hb with h1 | ⟨_, _, h3⟩ | h1
  · exact .inl h1
  · cases h3
  · exact .inr h1

theorem old_rest (s : SSys) (h : Inv s) (hq : AtRest s) (o : Old) (ho : o ∈ s.olds) :
    o.ipc = .done ∨ postBlocked s o.ipc := by
  obtain ⟨j, hj⟩ := List.getElem?_of_mem ho
  exact iact_rest_closed s h hq o.ipc o.seqs (fun _ => rest_old_blocked hq hj)

theorem rest_is_done (s : SSys) (h : Inv s) (hq : AtRest s) :
    sumBy fUnret s.callers = 0 ∧
    (s.suspendedFlag = true → s.ppc = .done ∧ (s.ipc = .done ∨ postBlocked s s.ipc)) ∧
    (∀ o ∈ s.olds, o.ipc = .done ∨ postBlocked s o.ipc) ∧
    (s.closedFlag = true → s.quitCloses = 1 ∧ s.suspendedFlag = true ∧ s.ipc = .done ∧ ∀ o ∈ s.olds, o.ipc = .done) := by
  have hunret := rest_all_returned s h hq
  have hsusp : s.suspendedFlag = true → s.ppc = .done ∧ (s.ipc = .done ∨ postBlocked s s.ipc) := by
    intro hs
    obtain ⟨-, e1, e2, e3, -⟩ := idle_counts hunret
    have hsusp := h.susp
    rw [hs] at hsusp
    have hT : pT s = 1 := by simp only [b2n_true] at hsusp; omega
    have hD : s.ppc = .done := by
      cases hp : s.ppc <;> simp [pT, pD, hp] at hT
      rfl
    refine ⟨hD, ?_⟩
    have hch := h.chan
    rw [hD] at hch
    have hcl : s.seqsClosed = true := by cases hx : s.seqsClosed <;> simp [hx, pD] at hch ⊢
    exact iact_rest_closed s h hq s.ipc s.seqs (fun _ ha => hcl ▸ rest_input_blocked hq ha)
  refine ⟨hunret, hsusp, fun o ho => old_rest s h hq o ho, ?_⟩
  intro hcf
  have e5 := (idle_counts hunret).1
  have hflag := h.flag
  have hafter := h.afterClose
  rw [hcf] at hflag
  simp only [b2n_true] at hflag
  have hqc : s.quitCloses = 1 := by omega
  have hsf : s.suspendedFlag = true := by
    have := hafter (by omega)
    cases hsf : s.suspendedFlag <;> simp [hsf] at this ⊢
  have nb : ∀ i, ¬ postBlocked s i := by
    intro i ⟨k, _, _, _, h4⟩; omega
  refine ⟨hqc, hsf, ?_, ?_⟩
  · exact (hsusp hsf).2.resolve_right (nb _)
  · exact fun o ho => (old_rest s h hq o ho).resolve_right (nb _)

theorem enabled_of_not_quiescent (s : SSys) (h : s.quiescent = false) : ∃ l s', l.sched = true ∧ snext s l = some s' := by
  apply Classical.byContradiction
  intro hno
  have hall : ∀ l, l.sched = true → snext s l = none := by
    intro l hl
    cases hs : snext s l with
    | none => rfl
    | some s' => exact absurd ⟨l, s', hl, hs⟩ hno
  have : s.quiescent = true := by
    simp only [SSys.quiescent, List.all_eq_true, Option.isNone_iff_eq_none]
    exact fun l hl => hall l (schedLabels_sched s l hl)
  rw [this] at h; exact absurd h (by simp)

theorem exists_rest : ∀ (n : Nat) (s : SSys), mu s < n →
    ∃ ls s', (∀ l ∈ ls, l.sched = true) ∧ srun s ls = some s' ∧ s'.quiescent = true
  | 0, s, hn => by omega
  | n + 1, s, hn => by
      cases hq : s.quiescent with
      | true => exact ⟨[], s, by simp, rfl, hq⟩
      | false =>
        obtain ⟨l, s1, hl, hs⟩ := enabled_of_not_quiescent s hq
        have hd := mu_decreases s s1 l hl hs
        obtain ⟨ls, s', h1, h2, h3⟩ := exists_rest n s1 (by omega)
        refine ⟨l :: ls, s', ?_, ?_, h3⟩
        · intro x hx
          rcases List.mem_cons.mp hx with rfl | hx
          · exact hl
          · exact h1 x hx
        · simp [srun, hs, h2]

theorem inv_sched (s s' : SSys) (l : SLabel) (hl : l.sched = true) (h : Inv s) (hn : snext s l = some s') : Inv s' := by
  cases l <;> simp [SLabel.sched] at hl
  · exact inv_termReply s s' h hn
  · exact inv_parser s s' h hn
  · rename_i a
    exact inv_input s s' a h hn
  · rename_i j a
    exact inv_old s s' j a h hn
  · exact inv_consume s s' h hn
  · exact inv_caller s s' _ h hn
  · exact inv_drain s s' _ h hn

theorem inv_sched_run : ∀ (ls : List SLabel) (s s' : SSys), (∀ l ∈ ls, l.sched = true) → Inv s → srun s ls = some s' → Inv s' :=
  srun_isRun.invariant inv_sched

end VaxisModel.Lemmas.ConcInv
