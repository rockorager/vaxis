import VaxisModel.Model.ConcProtect

/-! What the classification of `Model/ConcProtect` means for single accesses, for any access table: a
field classified as protected has no pair of accesses of the shape of a data race, whatever the two
roles. -/
namespace VaxisModel.Lemmas.ConcProtect
open VaxisModel.Model.ConcProtect

/-- `dedup` is a structural recursion, so its `contains` comparisons are not visible in a goal that mentions
`dedup`; as a `foldr` they are, and `StringKey.beq_eq_keyBEq` can rewrite them before the table is evaluated. -/
theorem dedup_eq_foldr : ∀ l : List String, dedup l = l.foldr (fun a acc => if acc.contains a then acc else a :: acc) []
  | [] => rfl
  | a :: r => by rw [dedup, dedup_eq_foldr r]; rfl

theorem mem_foldl_filter {α β : Type} (p : β → α → Bool) {m : α} : ∀ (rest : List β) (init : List α),
    m ∈ rest.foldl (fun acc b => acc.filter (p b)) init → m ∈ init ∧ ∀ b ∈ rest, p b m = true
  | [], _, h => ⟨h, nofun⟩
  | b :: rest, init, h => by
      obtain ⟨h1, h2⟩ := mem_foldl_filter p rest _ h
      obtain ⟨h3, h4⟩ := List.mem_filter.mp h1
      refine ⟨h3, fun x hx => ?_⟩
      rcases List.mem_cons.mp hx with rfl | hx
      · exact h4
      · exact h2 x hx

theorem commonLocks_held {l : List RAccess} {m : String} (h : m ∈ commonLocks l) : ∀ a ∈ l, a.2.2.contains m = true := by
  cases l with
  | nil => nofun
  | cons a rest =>
    obtain ⟨h1, h2⟩ := mem_foldl_filter (fun (b : RAccess) x => b.2.2.contains x) rest _ h
    intro x hx
    rcases List.mem_cons.mp hx with rfl | hx
    · exact List.contains_iff_mem.mpr h1
    · exact h2 x hx

theorem protected_no_racy_pair {roles : List (String × List String)} {accs : List Access} {f : String} {p : Protection}
    (h : (f, p) ∈ classify roles accs) (hp : p ≠ .none) (r1 r2 : String) : racyPair roles accs f r1 r2 = false := by
  simp only [classify, List.mem_filterMap] at h
  obtain ⟨f', -, h⟩ := h
  split at h
  · simp only [Option.some.injEq, Prod.mk.injEq] at h
    obtain ⟨rfl, rfl⟩ := h
    simp only [racyPair, List.any_eq_false, Bool.and_eq_true, not_and, Bool.not_eq_true]
    intro a ha b hb ⟨_, hna⟩
    simp only [protectionOf] at hp
    split at hp
    · -- all atomic: the pair is excluded as "both atomic"
      rename_i hall
      have := List.all_eq_true.mp hall
      simp [this a ha, this b hb] at hna
    · split at hp
      · exact absurd rfl hp
      · split at hp
        · -- the common mutex `m` is held at `a` and at `b`
          rename_i m _ hm
          have hmem : m ∈ commonLocks (expand roles accs f') := by rw [hm]; exact List.mem_cons_self
          simp only [Bool.not_eq_eq_eq_not, Bool.not_false, List.any_eq_true]
          exact ⟨m, List.contains_iff_mem.mp (commonLocks_held hmem a ha), commonLocks_held hmem b hb⟩
        · exact absurd rfl hp
  · cases h

theorem classified_protected_or_listed (roles : List (String × List String)) (accs : List Access) :
    ∀ fp ∈ classify roles accs, fp.2 ≠ .none ∨ fp.1 ∈ unprotectedFields roles accs := by
  intro fp h
  by_cases e : fp.2 = .none
  · exact .inr (List.mem_map.mpr ⟨fp, List.mem_filter.mpr ⟨h, by simp [e]⟩, rfl⟩)
  · exact .inl e

end VaxisModel.Lemmas.ConcProtect
