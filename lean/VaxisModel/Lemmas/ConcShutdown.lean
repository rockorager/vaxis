import VaxisModel.Model.Conc
import VaxisModel.Lemmas.Run

namespace VaxisModel.Lemmas.ConcShutdown
open VaxisModel.Model.Conc

theorem mem_schedActs (a : IAct) (h : a.sched = true) : a ∈ schedActs := by
  cases a <;> simp [schedActs, IAct.sched] at h ⊢

theorem sched_mem_or_none (s : SSys) (l : SLabel) (hl : l.sched = true) : l ∈ s.schedLabels ∨ snext s l = none := by
  cases l <;> simp [SLabel.sched] at hl
  · exact .inl (by simp [SSys.schedLabels])
  · exact .inl (by simp [SSys.schedLabels])
  · rename_i a
    exact .inl (by simp only [SSys.schedLabels, List.mem_append, List.mem_map]; exact Or.inl (Or.inl (Or.inr ⟨a, mem_schedActs a hl, rfl⟩)))
  · rename_i j a
    by_cases hj : j < s.olds.length
    · refine .inl ?_
      simp only [SSys.schedLabels, List.mem_append, List.mem_flatMap, List.mem_range, List.mem_map]
      exact Or.inr ⟨j, hj, a, mem_schedActs a hl, rfl⟩
    · have : s.olds[j]? = none := by simp; omega
      exact .inr (by simp [snext, this])
  · exact .inl (by simp [SSys.schedLabels])
  all_goals
    rename_i j
    by_cases hj : j < s.callers.length
    · refine .inl ?_
      simp only [SSys.schedLabels, List.mem_append, List.mem_flatMap, List.mem_range]
      exact Or.inl (Or.inr ⟨j, hj, by simp⟩)
    · have : s.callers[j]? = none := by simp; omega
      exact .inr (by simp [snext, this])

theorem quiescent_sched (s : SSys) (h : s.quiescent = true) (l : SLabel) (hl : l.sched = true) : snext s l = none := by
  simp only [SSys.quiescent, List.all_eq_true, Option.isNone_iff_eq_none] at h
  exact (sched_mem_or_none s l hl).elim (h l) id

theorem schedLabels_sched (s : SSys) (l : SLabel) (h : l ∈ s.schedLabels) : l.sched = true := by
  simp only [SSys.schedLabels, List.mem_append, List.mem_flatMap, List.mem_range, List.mem_map, List.mem_cons,
    List.mem_nil_iff, or_false] at h
  rcases h with ((h | ⟨a, ha, rfl⟩) | ⟨j, _, h⟩) | ⟨j, _, a, ha, rfl⟩
  · rcases h with rfl | rfl | rfl <;> rfl
  · simp [schedActs] at ha; rcases ha with rfl | rfl | rfl | rfl | rfl <;> rfl
  · rcases h with rfl | rfl <;> rfl
  · simp [schedActs] at ha; rcases ha with rfl | rfl | rfl | rfl | rfl <;> rfl

theorem rest_forever (s : SSys) (h : s.quiescent = true) (l : SLabel) (ls : List SLabel) (hl : l.sched = true) :
    srun s (l :: ls) = none := by
  simp [srun, quiescent_sched s h l hl]

theorem srun_isRun : Run.IsRun snext srun := ⟨fun _ => rfl, fun s l ls => by simp only [srun]; cases snext s l <;> rfl⟩

theorem srun_append : ∀ (a b : List SLabel) (s s' : SSys), srun s a = some s' → srun s (a ++ b) = srun s' b :=
  fun _ b _ _ h => srun_isRun.append_of_eq_some h b

theorem srun_reachable : ∀ (ls : List SLabel) (s0 s s' : SSys), SReachable s0 s → srun s ls = some s' → SReachable s0 s' :=
  fun _ _ _ _ h0 h => srun_isRun.preserves (fun _ _ l hr hn => .step l hr hn) h0 h

/-! ### What one step is made of

The labels `caller`, `drain`, `input` and `old` look a goroutine up and run `closeStep` / `iact` on
it; the lemmas below take such a step apart once, so that the proofs about steps start from its parts. -/

theorem snext_caller {s s' : SSys} {j : Nat} (h : snext s (.caller j) = some s') :
    ∃ c s1 pc', s.callers[j]? = some c ∧ closeStep s c.inClose c.pc = some (s1, pc') ∧
      s' = { s1 with callers := s1.callers.set j { c with pc := pc' } } := by
  simp only [snext] at h
  split at h
  · cases h
  · rename_i c hj
    split at h
    · rename_i s1 pc' hc
      cases h
      exact ⟨c, s1, pc', hj, hc, rfl⟩
    · cases h

theorem snext_drain {s s' : SSys} {j : Nat} (h : snext s (.drain j) = some s') :
    ∃ c t r, s.callers[j]? = some c ∧ c.pc = .waitClosed ∧ s.seqs = t :: r ∧ s.waitDrains = true ∧ s' = { s with seqs := r } := by
  simp only [snext] at h
  split at h
  · cases h
  · rename_i c hj
    split at h
    · rename_i t r hpc hs
      split at h
      · rename_i hw
        cases h
        exact ⟨c, t, r, hj, hpc, hs, hw, rfl⟩
      · cases h
    · cases h

theorem snext_input {s s' : SSys} {a : IAct} (h : snext s (.input a) = some s') :
    ∃ s1 v, iact s ⟨s.ipc, s.seqs, s.seqsClosed⟩ a = some (s1, v) ∧ s' = { s1 with ipc := v.ipc, seqs := v.seqs } := by
  simp only [snext] at h
  split at h
  · rename_i s1 v hi
    cases h
    exact ⟨s1, v, hi, rfl⟩
  · cases h

theorem snext_old {s s' : SSys} {j : Nat} {a : IAct} (h : snext s (.old j a) = some s') :
    ∃ o s1 v, s.olds[j]? = some o ∧ iact s ⟨o.ipc, o.seqs, true⟩ a = some (s1, v) ∧
      s' = { s1 with olds := s1.olds.set j ⟨v.ipc, v.seqs⟩ } := by
  simp only [snext] at h
  split at h
  · cases h
  · rename_i o hj
    split at h
    · rename_i s1 v hi
      cases h
      exact ⟨o, s1, v, hj, hi, rfl⟩
    · cases h

/-- The rows of `closeStep`: guard, effect on the shared state, next program counter. -/
inductive CloseStep (s : SSys) (k : Bool) : CPc → SSys → CPc → Prop
  | already : s.closedFlag = true → CloseStep s k .checkFlag s .returned
  | won : s.closedFlag = false → CloseStep s k .checkFlag { s with closedFlag := true } .postQuit
  | post : CloseStep s k .postQuit { s with queueLen := if s.queueLen < s.qcap then s.queueLen + 1 else s.queueLen } .checkSuspended
  | suspended : s.suspLock = false → s.suspendedFlag = true → CloseStep s k .checkSuspended s (afterSuspend k)
  | guard : s.suspLock = false → s.suspendedFlag = false →
      CloseStep s k .checkSuspended { s with suspendedFlag := true, suspLock := true } (afterGuard s)
  | signal : s.closeSig = 0 → CloseStep s k .signalClose { s with closeSig := s.closeSig + 1 } (afterSignal s)
  | da1 : CloseStep s k .writeDA1 { s with da1Pending := s.da1Pending + 1 } (afterDA1 s)
  | wait : 0 < s.closedSig → CloseStep s k .waitClosed { s with closedSig := s.closedSig - 1, suspLock := false } (afterSuspend k)
  | quit : CloseStep s k .closeQuit { s with quitCloses := s.quitCloses + 1 } .returned

theorem closeStep_rows {s s1 : SSys} {k : Bool} {c c' : CPc} (h : closeStep s k c = some (s1, c')) : CloseStep s k c s1 c' := by
  cases c <;> simp only [closeStep] at h
  · split at h <;> cases h
    · exact .already ‹_›
    · exact .won (Bool.eq_false_iff.mpr ‹_›)
  · cases h; exact .post
  · split at h
    · cases h
    · split at h <;> cases h
      · exact .suspended (Bool.eq_false_iff.mpr ‹¬ s.suspLock = true›) ‹_›
      · exact .guard (Bool.eq_false_iff.mpr ‹¬ s.suspLock = true›) (Bool.eq_false_iff.mpr ‹¬ s.suspendedFlag = true›)
  · split at h <;> cases h
    exact .signal (by omega)
  · cases h; exact .da1
  · split at h <;> cases h
    exact .wait ‹_›
  · cases h; exact .quit
  · cases h

/-- What a step of an input goroutine does to the shared state: an event into the queue, a signal
taken, and on the kill arm or the panic path a new caller of `Close`. -/
theorem iact_shape {s s' : SSys} {v v' : IView} {a : IAct} (h : iact s v a = some (s', v')) :
    ∃ q k w, s' = { s with queueLen := q, killSig := k, winchSig := w } ∨
      s' = { s with queueLen := q, killSig := k, winchSig := w, callers := s.callers ++ [closeCaller] } := by
  cases a <;> simp only [iact] at h <;> (repeat' split at h) <;> cases h
  all_goals first | exact ⟨_, _, _, .inl rfl⟩ | exact ⟨_, _, _, .inr rfl⟩

theorem iact_exit {s s' : SSys} {v v' : IView} {a : IAct} (ha : a = .kill ∨ a = .panic) (h : iact s v a = some (s', v')) :
    s'.callers = s.callers ++ [closeCaller] := by
  rcases ha with rfl | rfl <;> simp only [iact] at h <;> (repeat' split at h) <;> cases h <;> rfl

/-- What a step does to the list of callers and to the two facts about `Close` kept outside it. -/
theorem snext_callers {s s' : SSys} {l : SLabel} (h : snext s l = some s') :
    (s'.closedFlag = s.closedFlag ∧ s'.quitCloses = s.quitCloses ∧
      (s'.callers = s.callers ∨ s'.callers = s.callers ++ [closeCaller] ∨
       s'.callers = s.callers ++ [{ pc := .checkSuspended, inClose := false }])) ∨
    ∃ j c s1 pc', s.callers[j]? = some c ∧ closeStep s c.inClose c.pc = some (s1, pc') ∧
      s' = { s1 with callers := s1.callers.set j { c with pc := pc' } } := by
  cases l with
  | caller j => exact .inr ⟨j, snext_caller h⟩
  | input a =>
    obtain ⟨s1, v, hi, rfl⟩ := snext_input h
    obtain ⟨q, k, w, rfl | rfl⟩ := iact_shape hi
    · exact .inl ⟨rfl, rfl, .inl rfl⟩
    · exact .inl ⟨rfl, rfl, .inr (.inl rfl)⟩
  | old j a =>
    obtain ⟨o, s1, v, _, hi, rfl⟩ := snext_old h
    obtain ⟨q, k, w, rfl | rfl⟩ := iact_shape hi
    · exact .inl ⟨rfl, rfl, .inl rfl⟩
    · exact .inl ⟨rfl, rfl, .inr (.inl rfl)⟩
  | callClose => cases h; exact .inl ⟨rfl, rfl, .inr (.inl rfl)⟩
  | callSuspend => cases h; exact .inl ⟨rfl, rfl, .inr (.inr rfl)⟩
  | _ => simp only [snext] at h; (repeat' split at h) <;> cases h <;> exact .inl ⟨rfl, rfl, .inl rfl⟩

theorem closeStep_blocked {s : SSys} {k : Bool} {c : CPc} (h : closeStep s k c = none) :
    (c = .checkSuspended ∧ s.suspLock = true) ∨ (c = .signalClose ∧ 0 < s.closeSig) ∨
    (c = .waitClosed ∧ s.closedSig = 0) ∨ c = .returned := by
  cases c <;> simp only [closeStep] at h <;> (repeat' split at h) <;> simp_all <;> omega

/-- Nothing a scheduler may pick is enabled — except that the parser may be held up from outside while
its channel is not empty (the escape timer's callback holds `p.mu` at its emit, `Model/ConcTimer`). -/
structure AtRest (s : SSys) : Prop where
  others : ∀ l, l.sched = true → l ≠ .parser → snext s l = none
  parser : s.seqs = [] → snext s .parser = none

theorem atRest_of_quiescent {s : SSys} (h : s.quiescent = true) : AtRest s :=
  ⟨fun l hl _ => quiescent_sched s h l hl, fun _ => quiescent_sched s h .parser rfl⟩

theorem rest_caller_blocked {s : SSys} (hq : AtRest s) {j : Nat} {c : Caller} (hj : s.callers[j]? = some c) :
    closeStep s c.inClose c.pc = none := by
  have := hq.others (.caller j) rfl nofun
  simp only [snext, hj] at this
  split at this
  · cases this
  · assumption

theorem rest_input_blocked {s : SSys} (hq : AtRest s) {a : IAct} (ha : a.sched = true) :
    iact s ⟨s.ipc, s.seqs, s.seqsClosed⟩ a = none := by
  have := hq.others (.input a) ha nofun
  simp only [snext] at this
  split at this <;> first | assumption | cases this

theorem rest_old_blocked {s : SSys} (hq : AtRest s) {j : Nat} {o : Old} (hj : s.olds[j]? = some o) {a : IAct}
    (ha : a.sched = true) : iact s ⟨o.ipc, o.seqs, true⟩ a = none := by
  have := hq.others (.old j a) ha nofun
  simp only [snext, hj] at this
  split at this <;> first | assumption | cases this

end VaxisModel.Lemmas.ConcShutdown
