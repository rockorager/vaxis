import VaxisModel.Model.ConcTimer
import VaxisModel.Lemmas.ConcProgress

/-! Lemmas about the shutdown LTS with the escape timer (`Model/ConcTimer.lean`): a variant function,
preservation of the protocol invariant, the timer's own safety invariant, and a state of rest of `TSys`
seen as a state of rest of `SSys` in which the parser may be held up (`AtRest`: the callback at its emit
holds `p.mu`, but then the channel is full). -/
namespace VaxisModel.Lemmas.ConcTimer
open VaxisModel.Model.Conc VaxisModel.Model.ConcTimer VaxisModel.Lemmas.ConcMeasure VaxisModel.Lemmas.ConcInv

def timerW : TPc → Nat
  | .idle => 0
  | .armed => 8
  | .emitting => 7

/-- The variant: that of `SSys`, plus what the timers still to come and the pending one can cost. -/
def muT (t : TSys) : Nat := mu t.s + 9 * t.escs + timerW t.timer

theorem mu_emit (s : SSys) : mu { s with seqs := s.seqs ++ [.seq 1] } = mu s + 6 := by
  simp only [mu, muR, seqsW_append, seqsW, tokW]
  omega

theorem tnext_sys_other (t : TSys) (l : SLabel) (hp : l ≠ .parser) :
    tnext t (.sys l) = (snext t.s l).map fun s' => { t with s := s' } := by
  cases l <;> first | rfl | exact absurd rfl hp

/-- A `sys` step of `TSys` is a step of `SSys` on the first component.  The parser's step is held up
while the callback is at its emit and the step needs `p.mu`; when it takes `p.mu` a pending timer becomes stale. -/
theorem tnext_sys_inv {t t' : TSys} {l : SLabel} (h : tnext t (.sys l) = some t') :
    ∃ s', snext t.s l = some s' ∧
      ((l = .parser ∧ (t.timer = .emitting → needsMu t.s = false) ∧ t' = { t with s := s', stale := t.stale || needsMu t.s }) ∨
       (l ≠ .parser ∧ t' = { t with s := s' })) := by
  by_cases hp : l = .parser
  · subst hp
    simp only [tnext] at h
    split at h
    · cases h
    · rename_i hb
      cases hs : snext t.s .parser with
      | none => simp [hs] at h
      | some s' =>
        simp only [hs, Option.map_some, Option.some.injEq] at h
        exact ⟨s', rfl, .inl ⟨rfl, fun he => by simpa [he] using hb, h.symm⟩⟩
  · rw [tnext_sys_other t l hp] at h
    cases hs : snext t.s l with
    | none => simp [hs] at h
    | some s' => simp only [hs, Option.map_some, Option.some.injEq] at h; exact ⟨s', rfl, .inr ⟨hp, h.symm⟩⟩

theorem tnext_sys (t t' : TSys) (l : SLabel) (h : tnext t (.sys l) = some t') :
    snext t.s l = some t'.s ∧ t'.timer = t.timer ∧ t'.escs = t.escs := by
  obtain ⟨s', hs, ⟨-, -, rfl⟩ | ⟨-, rfl⟩⟩ := tnext_sys_inv h <;> exact ⟨hs, rfl, rfl⟩

theorem tnext_arm {t t' : TSys} (h : tnext t .arm = some t') :
    t.timer = .idle ∧ 0 < t.escs ∧ (t.s.ppc = .top ∨ t.s.ppc = .reading) ∧
      t' = { t with timer := .armed, stale := false, escs := t.escs - 1 } := by
  simp only [tnext] at h
  split at h <;> cases h
  rename_i hc
  simp only [Bool.and_eq_true, Bool.or_eq_true, decide_eq_true_eq, beq_iff_eq] at hc
  exact ⟨hc.1.1, hc.1.2, hc.2, rfl⟩

theorem tnext_fire {t t' : TSys} (h : tnext t .fire = some t') :
    t.timer = .armed ∧ holdsMu t.s.ppc = false ∧
      t' = if t.stale then { t with timer := .idle } else { t with timer := .emitting } := by
  simp only [tnext] at h
  split at h <;> cases h
  rename_i hc
  simp only [Bool.and_eq_true, beq_iff_eq, Bool.not_eq_true'] at hc
  exact ⟨hc.1, hc.2, rfl⟩

theorem tnext_temit {t t' : TSys} (h : tnext t .temit = some t') :
    t.timer = .emitting ∧ t.s.seqs.length < 2 ∧
      t' = { t with timer := .idle, s := { t.s with seqs := t.s.seqs ++ [.seq 1] } } := by
  simp only [tnext] at h
  split at h <;> cases h
  rename_i hc
  simp only [Bool.and_eq_true, beq_iff_eq, decide_eq_true_eq] at hc
  exact ⟨hc.1, hc.2, rfl⟩

theorem muT_decreases (t t' : TSys) (l : TLabel) (hl : l.sched = true) (h : tnext t l = some t') : muT t' < muT t := by
  cases l with
  | sys l =>
    obtain ⟨h1, h2, h3⟩ := tnext_sys t t' l h
    have := mu_decreases t.s t'.s l hl h1
    simp only [muT, h2, h3]; omega
  | termEsc => simp [TLabel.sched] at hl
  | arm =>
    obtain ⟨hi, _, _, rfl⟩ := tnext_arm h
    simp only [muT, timerW, hi]
    omega
  | fire =>
    obtain ⟨ha, _, rfl⟩ := tnext_fire h
    split <;> simp only [muT, timerW, ha] <;> omega
  | temit =>
    obtain ⟨he, _, rfl⟩ := tnext_temit h
    simp only [muT, timerW, he, mu_emit]
    omega

theorem trun_isRun : Run.IsRun tnext trun := ⟨fun _ => rfl, fun t l ls => by simp only [trun]; cases tnext t l <;> rfl⟩

theorem trun_bounded : ∀ (ls : List TLabel) (t t' : TSys), (∀ l ∈ ls, l.sched = true) → trun t ls = some t' →
    ls.length + muT t' ≤ muT t :=
  trun_isRun.variant muT_decreases

theorem inv_tnext (t t' : TSys) (l : TLabel) (hl : l.sched = true) (h : Inv t.s) (hn : tnext t l = some t') : Inv t'.s := by
  cases l with
  | sys l => exact inv_sched t.s t'.s l hl h (tnext_sys t t' l hn).1
  | termEsc => simp [TLabel.sched] at hl
  | arm => obtain ⟨-, -, -, rfl⟩ := tnext_arm hn; exact h
  | fire => obtain ⟨-, -, rfl⟩ := tnext_fire hn; split <;> exact h
  | temit => obtain ⟨-, -, rfl⟩ := tnext_temit hn; exact h.frame ..

/-- While the callback is at its emit the parser is in its loop and outside its critical sections; a
timer that is armed and not stale belongs to a parser whose loop is still running. -/
structure TInv (t : TSys) : Prop where
  emitting : t.timer = .emitting → t.s.ppc = .top ∨ t.s.ppc = .reading
  armed : t.timer = .armed → t.stale = false → preTail t.s.ppc = true

open VaxisModel.Lemmas.ConcShutdown in
theorem ppc_other (s s' : SSys) (l : SLabel) (hl : l.sched = true) (hp : l ≠ .parser) (hn : snext s l = some s') : s'.ppc = s.ppc := by
  cases l with
  | parser => exact absurd rfl hp
  | input a =>
    obtain ⟨s1, v, hi, rfl⟩ := snext_input hn
    obtain ⟨q, k, w, rfl | rfl⟩ := iact_shape hi <;> rfl
  | old j a =>
    obtain ⟨o, s1, v, -, hi, rfl⟩ := snext_old hn
    obtain ⟨q, k, w, rfl | rfl⟩ := iact_shape hi <;> rfl
  | caller j =>
    obtain ⟨⟨pc, k⟩, s1, pc', -, hc, rfl⟩ := snext_caller hn
    cases closeStep_rows hc <;> rfl
  | drain j =>
    obtain ⟨c, t, r, -, -, -, -, rfl⟩ := snext_drain hn
    rfl
  | termReply | consume => simp only [snext] at hn; split at hn <;> cases hn; rfl
  | _ => cases hl

/-- A parser step that does not take `p.mu`: the `default` arm of the loop's `select`, the end of an
emit, `emit(EOF)`, `close(p.sequences); p.closed <- true`. -/
theorem parser_step_noMu (s s' : SSys) (h : snext s .parser = some s') (hm : needsMu s = false) :
    (s.ppc = .top ∧ s'.ppc = .reading) ∨ (∃ k, s.ppc = .emitting k ∧ s'.ppc = .top) ∨
    (s.ppc = .emitEOF ∧ s'.ppc = .signalClosed) ∨ (s.ppc = .signalClosed ∧ s'.ppc = .done) := by
  simp only [snext] at h
  cases hp : s.ppc with
  | top =>
    simp only [hp] at h
    simp only [needsMu, hp, decide_eq_false_iff_not] at hm
    split at h
    · omega
    · cases h; exact Or.inl ⟨rfl, rfl⟩
  | reading => simp [needsMu, hp] at hm
  | emitting k =>
    simp only [hp] at h
    split at h
    · cases h; exact Or.inr (Or.inl ⟨k, rfl, rfl⟩)
    · cases h
  | emitEOF =>
    simp only [hp] at h
    split at h
    · cases h; exact Or.inr (Or.inr (Or.inl ⟨rfl, rfl⟩))
    · cases h
  | signalClosed =>
    simp only [hp] at h
    split at h
    · cases h; exact Or.inr (Or.inr (Or.inr ⟨rfl, rfl⟩))
    · cases h
  | done => simp [hp] at h

theorem TInv.of_idle {t : TSys} (h : t.timer = .idle) : TInv t :=
  ⟨fun he => (by rw [h] at he; cases he), fun ha => (by rw [h] at ha; cases ha)⟩

theorem tinv_tnext (t t' : TSys) (l : TLabel) (hl : l.sched = true) (h : TInv t) (hn : tnext t l = some t') : TInv t' := by
  cases l with
  | sys l =>
    obtain ⟨s', hs, ⟨rfl, hm, rfl⟩ | ⟨hp, rfl⟩⟩ := tnext_sys_inv hn
    · -- the parser: a step that takes `p.mu` is excluded while the callback emits and makes an armed timer stale
      refine ⟨fun he => ?_, fun ha hst => ?_⟩
      · rcases parser_step_noMu t.s s' hs (hm he) with ⟨_, h2⟩ | ⟨k, h1, _⟩ | ⟨h1, _⟩ | ⟨h1, _⟩
        · exact .inr h2
        all_goals rcases h.emitting he with h0 | h0 <;> rw [h0] at h1 <;> cases h1
      · have hst' : t.stale = false ∧ needsMu t.s = false := by simpa using hst
        have hpre := h.armed ha hst'.1
        rcases parser_step_noMu t.s s' hs hst'.2 with ⟨_, h2⟩ | ⟨k, _, h2⟩ | ⟨h1, _⟩ | ⟨h1, _⟩
        · show preTail s'.ppc = true; rw [h2]; rfl
        · show preTail s'.ppc = true; rw [h2]; rfl
        · rw [h1] at hpre; cases hpre
        · rw [h1] at hpre; cases hpre
    · -- every other label leaves the parser's program counter, the timer and `stale` alone
      have hpp : s'.ppc = t.s.ppc := ppc_other t.s s' l hl hp hs
      exact ⟨fun he => by show s'.ppc = _ ∨ s'.ppc = _; rw [hpp]; exact h.emitting he,
             fun ha hst => by show preTail s'.ppc = true; rw [hpp]; exact h.armed ha hst⟩
  | termEsc => cases hl
  | arm =>
    obtain ⟨-, -, hp, rfl⟩ := tnext_arm hn
    exact ⟨nofun, fun _ _ => by show preTail t.s.ppc = true; rcases hp with h0 | h0 <;> rw [h0] <;> rfl⟩
  | fire =>
    obtain ⟨ha, hh, rfl⟩ := tnext_fire hn
    split
    · exact .of_idle rfl
    · -- a timer that is armed and not stale finds the parser in its loop and outside its critical sections
      rename_i hst
      refine ⟨fun _ => ?_, nofun⟩
      have hpre := h.armed ha (by simpa using hst)
      show t.s.ppc = .top ∨ t.s.ppc = .reading
      cases hp : t.s.ppc <;> simp [hp, preTail, holdsMu] at hpre hh ⊢
  | temit => obtain ⟨-, -, rfl⟩ := tnext_temit hn; exact .of_idle rfl

theorem tinv_trun (ls : List TLabel) (t t' : TSys) (hl : ∀ l ∈ ls, l.sched = true) (h1 : TInv t) (h2 : Inv t.s)
    (h : trun t ls = some t') : TInv t' ∧ Inv t'.s :=
  trun_isRun.invariant (P := fun t => TInv t ∧ Inv t.s)
    (fun t t' l hl h hn => ⟨tinv_tnext t t' l hl h.1 hn, inv_tnext t t' l hl h.2 hn⟩) ls t t' hl ⟨h1, h2⟩ h

theorem emit_only_into_open_channel (t : TSys) (h : TInv t) (hi : Inv t.s) (he : t.timer = .emitting) : t.s.seqsClosed = false := by
  have hc := hi.chan
  rcases h.emitting he with h0 | h0 <;> rw [h0] at hc <;> cases hb : t.s.seqsClosed <;> simp [hb, pD] at hc ⊢

theorem postBlocked_setppc (s : SSys) (p : PPc) (i : IPc) : postBlocked { s with ppc := p } i ↔ postBlocked s i := Iff.rfl

open VaxisModel.Lemmas.ConcShutdown in
theorem rest_with_timer (t : TSys) (hi : Inv t.s) (ht : TInv t) (hq : t.quiescent = true) :
    sumBy fUnret t.s.callers = 0 ∧
    (t.s.suspendedFlag = true → t.s.ppc = .done ∧ t.timer = .idle ∧ (t.s.ipc = .done ∨ postBlocked t.s t.s.ipc)) ∧
    (∀ o ∈ t.s.olds, o.ipc = .done ∨ postBlocked t.s o.ipc) ∧
    (t.s.closedFlag = true → t.s.quitCloses = 1 ∧ t.s.suspendedFlag = true ∧ t.s.ipc = .done ∧ ∀ o ∈ t.s.olds, o.ipc = .done) := by
  simp only [TSys.quiescent, Bool.and_eq_true, List.all_eq_true, Option.isNone_iff_eq_none] at hq
  obtain ⟨⟨⟨hsys, _harm⟩, hfire⟩, htemit⟩ := hq
  -- a callback at its emit holds `p.mu`, so the parser may be held up; but then the channel is full,
  -- and `AtRest` asks for the parser's rest only on an empty channel
  have hrest : AtRest t.s := by
    constructor
    · intro l hl hp
      refine (sched_mem_or_none t.s l hl).elim (fun hm => ?_) id
      have h0 := hsys l hm
      rw [tnext_sys_other t l hp] at h0
      cases hs : snext t.s l with
      | none => rfl
      | some x => simp [hs] at h0
    · intro hempty
      have h0 := hsys .parser (by simp [SSys.schedLabels])
      by_cases he : t.timer = .emitting
      · simp [tnext, he, hempty] at htemit
      · have hne : (t.timer == .emitting) = false := by simpa using he
        simp only [tnext, hne, Bool.false_and, Bool.false_eq_true, if_false] at h0
        cases hs : snext t.s .parser with
        | none => rfl
        | some x => simp [hs] at h0
  obtain ⟨r1, r2, r3, r4⟩ := rest_is_done t.s hi hrest
  refine ⟨r1, fun hs => ?_, r3, r4⟩
  obtain ⟨hd, hdone⟩ := r2 hs
  refine ⟨hd, ?_, hdone⟩
  cases htm : t.timer with
  | idle => rfl
  | emitting => rcases ht.emitting htm with h0 | h0 <;> rw [hd] at h0 <;> cases h0
  | armed => simp [tnext, htm, hd, holdsMu] at hfire

end VaxisModel.Lemmas.ConcTimer
