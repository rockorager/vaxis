/-
The reference display `Spec.Display` by itself: runs compose, the `bad` flag is sticky, and what
`poisonPartial`, `writeRow` and `putGlyph` do to a row, cell by cell.
-/
import VaxisModel.Spec.Display
import VaxisModel.Lemmas.ListBasic

namespace VaxisModel.Lemmas.DisplayBasic
open VaxisModel.Spec VaxisModel.Spec.Display
open VaxisModel.Model.Render (Tok)

theorem run_append (tw : String → Nat) (t : Term) (a b : List Tok) :
    run tw t (a ++ b) = run tw (run tw t a) b := by simp [run, List.foldl_append]

theorem step_bad_some (tw : String → Nat) (t : Term) (k : Tok) (w : String) (h : t.bad = some w) :
    (step tw t k).bad = some w := by
  have hm : ∀ (t : Term) (why : String), t.bad = some w → (markBad t why).bad = some w := by
    intro t why h; simp [markBad, h]
  have hp : ∀ (t : Term) g n, t.bad = some w → (putGlyph t g n).bad = some w := by
    intro t g n h
    unfold putGlyph
    repeat' split
    all_goals first | exact hm _ _ h | exact h
  cases k with
  | cup r c => simp only [step]; split; exact hm _ _ h; exact h
  | sgr ps => exact h
  | osc8 p u => simp only [step]; split <;> exact h
  | text g => exact hp _ _ _ h
  | textW n g => simp only [step]; split; exact hm _ _ h; exact hp _ _ _ h
  | decset n => simp only [step]; split; exact h; split <;> exact h
  | decrst n => simp only [step]; split; exact h; split <;> exact h
  | cursorStyle n => exact h
  | pointer s => exact h
  | other r => exact h

theorem step_bad_none (tw : String → Nat) (t : Term) (k : Tok) (h : (step tw t k).bad = none) : t.bad = none := by
  cases hb : t.bad with
  | none => rfl
  | some w => rw [step_bad_some tw t k w hb] at h; cases h

theorem run_bad_none (tw : String → Nat) (toks : List Tok) : ∀ (t : Term), (run tw t toks).bad = none → t.bad = none := by
  induction toks with
  | nil => intro t h; exact h
  | cons k ks ih => intro t h; exact step_bad_none tw t k (ih _ h)

theorem poisonPartial_length (r : List DCell) (lo hi i : Nat) : (poisonPartial r lo hi i).length = r.length := by
  unfold poisonPartial
  simp only
  split
  · rfl
  · split
    · rfl
    · simp

theorem poisonPartial_get (r : List DCell) (lo hi i j : Nat) (x : DCell)
    (h : (poisonPartial r lo hi i)[j]? = some x) : x = .poison ∨ r[j]? = some x := by
  unfold poisonPartial at h
  simp only at h
  split at h
  · exact Or.inr h
  · split at h
    · exact Or.inr h
    · rw [List.getElem?_zipWith] at h
      cases h1 : (List.range r.length)[j]? with
      | none => rw [h1] at h; simp at h
      | some a =>
        cases h2 : r[j]? with
        | none => rw [h1, h2] at h; simp at h
        | some b =>
          rw [h1, h2] at h
          simp only [Option.some.injEq] at h
          split at h
          · exact Or.inl h.symm
          · exact Or.inr (by rw [h])

theorem writeRow_length (r : List DCell) (c w : Nat) (cell : DCell) : (writeRow r c w cell).length = r.length := by
  unfold writeRow
  simp [poisonPartial_length]

theorem writeRow_get0 (r : List DCell) (c w : Nat) (cell : DCell) (j : Nat) :
    (writeRow r c w cell)[j]? =
      ((poisonPartial (poisonPartial r c (c + w) c) c (c + w) (c + w - 1))[j]?).map fun old =>
        if j = c then cell else if c < j ∧ j < c + w then DCell.cont else old := by
  unfold writeRow
  exact ListBasic.getElem?_zipRange _ _ j

theorem writeRow_get (r : List DCell) (c w : Nat) (cell : DCell) (j : Nat) (x : DCell)
    (h : (writeRow r c w cell)[j]? = some x) :
    (j = c ∧ x = cell) ∨ x = .cont ∨ x = .poison ∨ (¬ (c ≤ j ∧ j < c + w) ∧ j ≠ c ∧ r[j]? = some x) := by
  rw [writeRow_get0] at h
  obtain ⟨b, h2, hb⟩ := Option.map_eq_some_iff.mp h
  split at hb
  · exact Or.inl ⟨‹j = c›, hb.symm⟩
  · split at hb
    · exact Or.inr (Or.inl hb.symm)
    · subst hb
      rcases poisonPartial_get _ _ _ _ _ _ h2 with hp | hp
      · exact Or.inr (Or.inr (Or.inl hp))
      · rcases poisonPartial_get _ _ _ _ _ _ hp with hp' | hp'
        · exact Or.inr (Or.inr (Or.inl hp'))
        · exact Or.inr (Or.inr (Or.inr ⟨by omega, ‹¬ j = c›, hp'⟩))

theorem putGlyph_good (t : Term) (g : String) (w : Nat) (hd : t.bad = none) (hb : (putGlyph t g w).bad = none) :
    w ≠ 0 ∧ t.pw = false ∧ t.col + w ≤ t.cols := by
  unfold putGlyph at hb
  split at hb
  · simp [markBad, hd] at hb
  · split at hb
    · simp [markBad, hd] at hb
    · split at hb
      · simp [markBad, hd] at hb
      · rename_i h1 h2 h3
        exact ⟨h1, by simpa using h2, by omega⟩

end VaxisModel.Lemmas.DisplayBasic
