import VaxisModel.Spec.Surface
import VaxisModel.Lemmas.DynListInv
import VaxisModel.Lemmas.SurfacePaintSpec

/-! C19 × C14: the children returned by `Dynamic.Draw`, seen as a surface tree of the painter's
    algorithm of `Spec/Surface.lean` (C14's spec of `render`): which layer is on top in the rows of
    the selected child. -/
namespace VaxisModel.Lemmas.DynCompose
open VaxisModel.Model.Window VaxisModel.Spec.Surface VaxisModel.Model.DynList VaxisModel.Lemmas.DynList

/-- What a child widget drew: a surface `w` cells wide (its height is the child's height). -/
structure Leaf where
  w : Nat
  buf : List Cell

/-- Child `c` as a leaf of the surface tree: at column `col` (the cursor gutter offset), row `c.row`. -/
def childTree (col : Int) (lf : Nat → Leaf) (c : Child) : Tree :=
  .node col c.row 0 (lf c.idx).w c.height (lf c.idx).buf []

/-- The surface `Dynamic.Draw` returns: size `W × H`, own buffer `pbuf`, the children in order. -/
def dynTree (W H : Nat) (pbuf : List Cell) (col : Int) (lf : Nat → Leaf) (cs : List Child) : Tree :=
  .node 0 0 0 W H pbuf (cs.map (childTree col lf))

def childLayer (col : Int) (lf : Nat → Leaf) (clip : Rect) (c : Child) : Layer :=
  { ax := col, ay := c.row,
    clip := clip.inter { x0 := col, y0 := c.row, x1 := col + (lf c.idx).w, y1 := c.row + c.height },
    w := (lf c.idx).w, buf := (lf c.idx).buf }

theorem layersEach_children (col : Int) (lf : Nat → Leaf) (clip : Rect) : ∀ (cs : List Child),
    layersEach (cs.map (childTree col lf)) 0 0 clip = cs.map fun c => ((0 : Int), [childLayer col lf clip c])
  | [] => by simp [layersEach]
  | c :: cs => by
    have ih := layersEach_children col lf clip cs
    simp only [List.map_cons, layersEach, ih, childTree, zOf, layers, orderByKey, keyLevels, List.map_nil,
      List.foldr_nil, List.flatMap_nil, childLayer, Int.zero_add, if_true]

theorem orderByKey_zero {α : Type} (l : List (Int × α)) (h : ∀ p ∈ l, p.1 = 0) : orderByKey l = l :=
  Lemmas.SurfaceOrder.orderByKey_sorted l (List.pairwise_iff_forall_sublist.mpr fun {a b} hs => by
    rw [h a (hs.subset List.mem_cons_self), h b (hs.subset (List.mem_cons_of_mem _ List.mem_cons_self))]
    exact Int.le_refl 0)

theorem flatMap_childLayers (col : Int) (lf : Nat → Leaf) (clip : Rect) (l : List Child) :
    (l.map fun c => ((0 : Int), [childLayer col lf clip c])).flatMap (·.2) = l.map (childLayer col lf clip) := by
  induction l with
  | nil => rfl
  | cons c l ih => simp [List.flatMap_cons, ih]

theorem layers_dynTree (W H : Nat) (pbuf : List Cell) (col : Int) (lf : Nat → Leaf) (cs : List Child) (clip : Rect) :
    layers true (dynTree W H pbuf col lf cs) 0 0 clip =
      { ax := 0, ay := 0, clip := clip.inter { x0 := 0, y0 := 0, x1 := W, y1 := H }, w := W, buf := pbuf } ::
        cs.map (childLayer col lf (clip.inter { x0 := 0, y0 := 0, x1 := W, y1 := H })) := by
  unfold dynTree
  simp only [layers, Int.zero_add, if_true]
  rw [layersEach_children, orderByKey_zero _ (by intro p hp; simp only [List.mem_map] at hp; obtain ⟨c, _, rfl⟩ := hp; rfl)]
  congr 1
  exact flatMap_childLayers col lf _ cs

theorem topAt_none : ∀ (ls : List Layer) (x y : Int), (∀ m ∈ ls, m.at x y = none) → topAt ls x y = none
  | [], _, _, _ => rfl
  | l :: rest, x, y, h => by
    simp only [topAt, topAt_none rest x y (fun m hm => h m (List.mem_cons_of_mem _ hm))]
    exact h l List.mem_cons_self

theorem topAt_split (pre : List Layer) (l : Layer) (post : List Layer) (x y : Int) (c : Cell)
    (hl : l.at x y = some c) (hp : ∀ m ∈ post, m.at x y = none) : topAt (pre ++ l :: post) x y = some c := by
  rw [Lemmas.SurfacePaintSpec.topAt_append, topAt, topAt_none post x y hp, hl]

theorem childLayer_at_none (col : Int) (lf : Nat → Leaf) (clip : Rect) (c : Child) (x y : Int)
    (h : y < c.row ∨ c.row + (c.height : Int) ≤ y) : (childLayer col lf clip c).at x y = none := by
  unfold Layer.at childLayer Rect.has Rect.inter
  simp only []
  rw [if_neg]
  intro hc
  have := hc.1
  simp only [Bool.and_eq_true, decide_eq_true_eq] at this
  omega

theorem leaf_cell {lf : Leaf} {h : Nat} (hbuf : lf.buf.length = lf.w * h) {x y col row : Int}
    (hxc : col ≤ x) (hxw : x < col + lf.w) (hyr : row ≤ y) (hyb : y < row + (h : Int)) :
    (x - col).toNat < lf.w ∧ (y - row).toNat * lf.w + (x - col).toNat < lf.buf.length := by
  have hdx : (x - col).toNat < lf.w := by omega
  have hdy : (y - row).toNat < h := by omega
  refine ⟨hdx, ?_⟩
  rw [hbuf]
  calc (y - row).toNat * lf.w + (x - col).toNat
      < (y - row).toNat * lf.w + lf.w := by omega
    _ = ((y - row).toNat + 1) * lf.w := by rw [Nat.add_mul, Nat.one_mul]
    _ ≤ h * lf.w := Nat.mul_le_mul_right _ (by omega)
    _ = lf.w * h := Nat.mul_comm _ _

theorem layer_at_own (l : Layer) (x y : Int) (hclip : l.clip.has x y = true) (hdx : (x - l.ax).toNat < l.w) :
    l.at x y = l.buf[(y - l.ay).toNat * l.w + (x - l.ax).toNat]? := by
  unfold Layer.at
  rw [if_pos ⟨hclip, by omega⟩]
  simp only []
  rw [if_pos hdx]

/-- In the layers of contiguous children (gap ≥ 0), a layer that shows a cell in a row of child `ch` stays on top of the
    layers of the children after `ch`: they lie below. -/
theorem topAt_over_later (gap : Int) (hg : 0 ≤ gap) (pre : List Child) (ch : Child) (post : List Child)
    (hc : Contig gap (pre ++ ch :: post)) (A : List Layer) (L : Layer) (col : Int) (lf : Nat → Leaf) (clip : Rect)
    (x y : Int) (cell : Cell) (hL : L.at x y = some cell) (hyb : y < ch.row + (ch.height : Int)) :
    topAt (A ++ L :: post.map (childLayer col lf clip)) x y = some cell := by
  apply topAt_split _ _ _ _ _ _ hL
  intro m hm
  simp only [List.mem_map] at hm
  obtain ⟨d, hd, rfl⟩ := hm
  obtain ⟨j, hj⟩ := List.getElem?_of_mem hd
  have hk : (pre ++ ch :: post)[pre.length]? = some ch := by simp
  have hj' : (pre ++ ch :: post)[pre.length + 1 + j]? = some d := by
    rw [List.getElem?_append_right (by omega)]
    have : pre.length + 1 + j - pre.length = j + 1 := by omega
    rw [this, List.getElem?_cons_succ]; exact hj
  have := (contig_pairwise hg (pre ++ ch :: post) hc pre.length (pre.length + 1 + j) ch d (by omega) hk hj').2
  exact childLayer_at_none col lf clip d x y (Or.inl (by omega))

/-- **On top in its rows**: in the surface tree of a `Dynamic.Draw` (children contiguous with a gap
    ≥ 0, hence not overlapping), at every position inside the screen, the viewport, and the rectangle
    of child `k`, the painter's algorithm shows child `k`'s own cell — no sibling and not the list's
    own buffer. -/
theorem child_on_top (W H sw sh : Nat) (pbuf : List Cell) (col : Int) (lf : Nat → Leaf) (gap : Int) (hg : 0 ≤ gap)
    (cs : List Child) (hc : Contig gap cs) (k : Nat) (ch : Child) (hk : cs[k]? = some ch)
    (hbuf : (lf ch.idx).buf.length = (lf ch.idx).w * ch.height)
    (x y : Int) (hx0 : 0 ≤ x) (hxs : x < sw) (hxW : x < W) (hxc : col ≤ x) (hxw : x < col + (lf ch.idx).w)
    (hy0 : 0 ≤ y) (hys : y < sh) (hyH : y < H) (hyr : ch.row ≤ y) (hyb : y < ch.row + (ch.height : Int)) :
    ∃ cell, (lf ch.idx).buf[(y - ch.row).toNat * (lf ch.idx).w + (x - col).toNat]? = some cell ∧
      topAt (layers true (dynTree W H pbuf col lf cs) 0 0 { x0 := 0, y0 := 0, x1 := sw, y1 := sh }) x y = some cell := by
  obtain ⟨hdx, hidx⟩ := leaf_cell hbuf hxc hxw hyr hyb
  refine ⟨_, List.getElem?_eq_getElem hidx, ?_⟩
  have hklt : k < cs.length := ListBasic.lt_of_getElem? hk
  have hsplit : cs = cs.take k ++ ch :: cs.drop (k + 1) := by
    have := List.take_append_drop k cs
    rw [List.drop_eq_getElem_cons hklt, show cs[k] = ch from Option.some.inj ((List.getElem?_eq_getElem hklt).symm.trans hk)] at this
    exact this.symm
  rw [layers_dynTree, hsplit, List.map_append, List.map_cons, ← List.cons_append]
  refine topAt_over_later gap hg _ ch _ (hsplit ▸ hc) _ _ col lf _ x y _ ?_ hyb
  refine (layer_at_own _ x y ?_ hdx).trans (List.getElem?_eq_getElem hidx)
  unfold childLayer Rect.has Rect.inter
  simp only [Bool.and_eq_true, decide_eq_true_eq]
  omega

end VaxisModel.Lemmas.DynCompose
