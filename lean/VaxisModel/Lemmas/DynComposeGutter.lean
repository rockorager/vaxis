import VaxisModel.Lemmas.DynCompose

/-! C19 × C14 with the cursor gutter (`DrawCursor`): `Dynamic.Draw` replaces the cursored child by a
    surface `cur` of the full width (origin column 0, the child's row, the child's height) whose own
    buffer holds the cursor glyph column and whose only child is the widget's surface at column
    `colOffset` — a two-level tree.  In the painter's algorithm the widget's cell is still on top in
    its rectangle: the glyph surface lies under its own child, the siblings are in other rows. -/
namespace VaxisModel.Lemmas.DynCompose
open VaxisModel.Model.Window VaxisModel.Spec.Surface VaxisModel.Model.DynList VaxisModel.Lemmas.DynList

/-- The cursor surface that replaces child `c`. -/
def gutterNode (W : Nat) (curbuf : List Cell) (col : Int) (lf : Nat → Leaf) (c : Child) : Tree :=
  .node 0 c.row 0 W c.height curbuf [childTree col lf { c with row := 0 }]

/-- The surface `Dynamic.Draw` returns with `DrawCursor`: the children `pre`, the cursor surface around
    child `ch`, the children `post`. -/
def dynTreeG (W H : Nat) (pbuf curbuf : List Cell) (col : Int) (lf : Nat → Leaf) (pre : List Child) (ch : Child)
    (post : List Child) : Tree :=
  .node 0 0 0 W H pbuf (pre.map (childTree col lf) ++ gutterNode W curbuf col lf ch :: post.map (childTree col lf))

def curLayer (W : Nat) (curbuf : List Cell) (clip : Rect) (c : Child) : Layer :=
  { ax := 0, ay := c.row, clip := clip.inter { x0 := 0, y0 := c.row, x1 := W, y1 := c.row + c.height }, w := W, buf := curbuf }

def kidLayer (W : Nat) (col : Int) (lf : Nat → Leaf) (clip : Rect) (c : Child) : Layer :=
  { ax := col, ay := c.row,
    clip := (clip.inter { x0 := 0, y0 := c.row, x1 := W, y1 := c.row + c.height }).inter
      { x0 := col, y0 := c.row, x1 := col + (lf c.idx).w, y1 := c.row + c.height },
    w := (lf c.idx).w, buf := (lf c.idx).buf }

theorem layersEach_append : ∀ (a b : List Tree) (px py : Int) (clip : Rect),
    layersEach (a ++ b) px py clip = layersEach a px py clip ++ layersEach b px py clip
  | [], b, px, py, clip => by simp [layersEach]
  | t :: a, b, px, py, clip => by
    simp only [List.cons_append, layersEach, layersEach_append a b px py clip]

theorem layers_gutterNode (W : Nat) (curbuf : List Cell) (col : Int) (lf : Nat → Leaf) (clip : Rect) (c : Child) :
    layers true (gutterNode W curbuf col lf c) 0 0 clip = [curLayer W curbuf clip c, kidLayer W col lf clip c] := by
  simp only [gutterNode, layers, layersEach, childTree, zOf, orderByKey, keyLevels, List.map_cons, List.map_nil,
    List.foldr_cons, List.foldr_nil, insertInt, List.flatMap_cons, List.flatMap_nil, curLayer, kidLayer, Int.zero_add,
    Int.add_zero, List.filter_cons, List.filter_nil, beq_self_eq_true, List.append_nil, ↓reduceIte]

theorem layers_dynTreeG (W H : Nat) (pbuf curbuf : List Cell) (col : Int) (lf : Nat → Leaf) (pre : List Child) (ch : Child)
    (post : List Child) (clip : Rect) :
    layers true (dynTreeG W H pbuf curbuf col lf pre ch post) 0 0 clip =
      ({ ax := 0, ay := 0, clip := clip.inter { x0 := 0, y0 := 0, x1 := W, y1 := H }, w := W, buf := pbuf } ::
        pre.map (childLayer col lf (clip.inter { x0 := 0, y0 := 0, x1 := W, y1 := H }))) ++
      curLayer W curbuf (clip.inter { x0 := 0, y0 := 0, x1 := W, y1 := H }) ch ::
      kidLayer W col lf (clip.inter { x0 := 0, y0 := 0, x1 := W, y1 := H }) ch ::
      post.map (childLayer col lf (clip.inter { x0 := 0, y0 := 0, x1 := W, y1 := H })) := by
  unfold dynTreeG
  simp only [layers, Int.zero_add, if_true]
  obtain ⟨c', hc'⟩ : ∃ c' : Rect, c' = clip.inter { x0 := 0, y0 := 0, x1 := W, y1 := H } := ⟨_, rfl⟩
  rw [← hc']
  rw [layersEach_append, layersEach_children]
  simp only [layersEach, layersEach_children, zOf, gutterNode]
  rw [orderByKey_zero]
  · have hg : layers true (Tree.node 0 ch.row 0 W ch.height curbuf [childTree col lf { ch with row := 0 }]) 0 0 c' =
        [curLayer W curbuf c' ch, kidLayer W col lf c' ch] := layers_gutterNode W curbuf col lf c' ch
    rw [hg]
    simp only [List.flatMap_append, List.flatMap_cons, List.cons_append, List.nil_append]
    rw [flatMap_childLayers col lf c' pre, flatMap_childLayers col lf c' post]
  · intro p hp
    simp only [List.mem_append, List.mem_map, List.mem_cons] at hp
    rcases hp with ⟨c, _, rfl⟩ | rfl | ⟨c, _, rfl⟩ <;> rfl

theorem child_on_top_gutter (W H sw sh : Nat) (pbuf curbuf : List Cell) (col : Int) (lf : Nat → Leaf) (gap : Int) (hg : 0 ≤ gap)
    (pre : List Child) (ch : Child) (post : List Child) (hc : Contig gap (pre ++ ch :: post))
    (hbuf : (lf ch.idx).buf.length = (lf ch.idx).w * ch.height)
    (x y : Int) (hx0 : 0 ≤ x) (hxs : x < sw) (hxW : x < W) (hxc : col ≤ x) (hxw : x < col + (lf ch.idx).w)
    (hy0 : 0 ≤ y) (hys : y < sh) (hyH : y < H) (hyr : ch.row ≤ y) (hyb : y < ch.row + (ch.height : Int)) :
    ∃ cell, (lf ch.idx).buf[(y - ch.row).toNat * (lf ch.idx).w + (x - col).toNat]? = some cell ∧
      topAt (layers true (dynTreeG W H pbuf curbuf col lf pre ch post) 0 0 { x0 := 0, y0 := 0, x1 := sw, y1 := sh }) x y = some cell := by
  obtain ⟨hdx, hidx⟩ := leaf_cell hbuf hxc hxw hyr hyb
  refine ⟨_, List.getElem?_eq_getElem hidx, ?_⟩
  rw [layers_dynTreeG, show ∀ (A : List Layer) (a b : Layer) (B : List Layer), A ++ a :: b :: B = (A ++ [a]) ++ b :: B by simp]
  refine topAt_over_later gap hg pre ch post hc _ _ col lf _ x y _ ?_ hyb
  refine (layer_at_own _ x y ?_ hdx).trans (List.getElem?_eq_getElem hidx)
  unfold kidLayer Rect.has Rect.inter
  simp only [Bool.and_eq_true, decide_eq_true_eq]
  omega

end VaxisModel.Lemmas.DynCompose
