import VaxisModel.Lemmas.DynTrees
import VaxisModel.Lemmas.DynInterp
import VaxisModel.Lemmas.DynList
import VaxisModel.Lemmas.DynExecStore

/-! `Model/DynExec.lean` run on the statement trees of `Lemmas/DynTrees.lean` IS `Model/DynList.lean`, method by method (`Draw` from its
    second phase on: `Lemmas/DynExecDraw.lean`).  A body is run on a machine `m` that is a variable: what the body reads of it is a
    hypothesis (`look R m "v2" = some ah`, `m.us = []`), what it leaves is `m` with the writes folded on it
    (`Lemmas/DynExecStore.lean`).  `Props/C19Exec.lean` transfers the statements to the regenerated bodies. -/

namespace VaxisModel.Lemmas.DynExec
open VaxisModel.Model VaxisModel.Model.GoSyn VaxisModel.Model.DynExec VaxisModel.Model.DynList
open VaxisModel.Lemmas VaxisModel.Lemmas.DynTrees VaxisModel.Lemmas.DynExecStore

/-- The expected bodies, parsed. -/
def expBodies : Bodies :=
  ⟨seqOf drawParts, seqOf insParts, seqOf nextParts, seqOf prevParts, seqOf ensParts, seqOf hevParts, seqOf cevParts⟩

theorem U_nat : U = 18446744073709551616 := by unfold U; rfl

/-- The simp set that symbolically executes a statement tree (`dyn_store`, `Lemmas/DynExecStore.lean`): the machine is a variable (or
    `mkM …`); `bind`, `store` and the reads stay folded on it.  It also reads the facts off the machine a run has left. -/
scoped macro "xt" "[" ts:Lean.Parser.Tactic.simpLemma,* "]" : tactic =>
  `(tactic| simp [exec, evB, evI, bi, tagOf, keyTok, bindChild, childOf, retVals, retVal, isU, setAt, seqOf, dyn_store, -Int.toNat_natCast, $ts,*])

/-- `∃ m', run … m' ∧ facts`: the run decides the machine it leaves, the facts are then read off it. -/
scoped macro "leaves" r:tactic f:tactic : tactic =>
  `(tactic| (refine ⟨?_, ?_, ?_⟩; rotate_left; (· $r:tactic; try rfl); (· $f:tactic)))

theorem hev_all (b : Nat → Option Nat) (s : St) (dis : Bool) (ev : Ev) :
    runHandleEvent expBodies b dis ev s = .ok
      (if dis then (s, false)
       else if ev.typ = "vaxis.Mouse" then
         (if ev.button = "vaxis.MouseWheelDown" then wheelDown s
          else if ev.button = "vaxis.MouseWheelUp" then wheelUp s else (s, false))
       else (s, false)) := by
  xt [mkM, runHandleEvent, runHandler, expBodies, roEv, roSmall, hevParts, hev0, hev1, hev2]
  cases dis
  · by_cases ht : ev.typ = "vaxis.Mouse"
    · by_cases hd : ev.button = "vaxis.MouseWheelDown"
      · xt [wheelDown, ht, hd]
      · have hd' : ¬ ("vaxis.MouseWheelDown" = ev.button) := fun h => hd h.symm
        by_cases hu : ev.button = "vaxis.MouseWheelUp"
        · by_cases h1 : s.offset > 0 <;> by_cases h2 : s.top > 0 <;> xt [wheelUp, ht, hd, hd', hu, h1, h2]
        · have hu' : ¬ ("vaxis.MouseWheelUp" = ev.button) := fun h => hu h.symm
          xt [ht, hd, hu, hd', hu']
    · have ht' : ¬ ("vaxis.Mouse" = ev.typ) := fun h => ht h.symm
      xt [ht, ht']
  · xt []

theorem ens_exec (R : Ro) (m : M) (f : Nat) (hc : m.st.cursor < 2 ^ 64) :
    exec R (seqOf ensParts) f m = .ok
      (if m.st.cursor > m.st.top then (withSt m { m.st with wantsCursor := true }, .ret [])
       else (withSt m { m.st with top := m.st.cursor, offset := 0, pending := 0 }, .norm)) := by
  by_cases h : m.st.cursor > m.st.top
  · xt [ensParts, ens0, ens1, ens2, ens3, h]
  · xt [ensParts, ens0, ens1, ens2, ens3, h, DynInterp.toUint_small _ hc]

/-- What a callee's caller sees of a result. -/
def proj (r : Res) : Option (St × List Child × Ctl) :=
  match r with
  | .ok (m, c) => some (m.st, m.cs, c)
  | .error _ => Option.none

theorem toUintI_add1 (c : Nat) : uaddI (c : Int) 1 = ((uadd c 1 : Nat) : Int) := by
  unfold uaddI toUintI uadd; rw [DynInterp.U_val, U_nat]; omega

theorem toUintI_sub' (a b : Nat) : usubI ↑a ↑b = ((usub a b : Nat) : Int) := by
  unfold usubI toUintI usub; rw [DynInterp.U_val, U_nat]; omega

theorem toUintI_sub1 (c : Nat) : usubI (c : Int) 1 = ((usub c 1 : Nat) : Int) := toUintI_sub' c 1

theorem uadd_lt (a b : Nat) : uadd a b < 2 ^ 64 := by unfold uadd; rw [U_nat]; omega
theorem usub_lt (a b : Nat) : usub a b < 2 ^ 64 := by unfold usub; rw [U_nat]; omega

theorem toUint_uadd (a b : Nat) : DynInterp.toUint ((uadd a b : Nat) : Int) = uadd a b := DynInterp.toUint_small _ (uadd_lt a b)
theorem toUint_usub (a b : Nat) : DynInterp.toUint ((usub a b : Nat) : Int) = usub a b := DynInterp.toUint_small _ (usub_lt a b)

theorem next_exec (hs : List Nat) (dis : Bool) (ev : Ev) (mf : String) (m : M) (f : Nat) :
    proj (exec (roSmall expBodies (builder hs) dis ev mf) (seqOf nextParts) f m) =
      some ((nextItem hs m.st).1, m.cs, .ret [bi (nextItem hs m.st).2]) := by
  have he := fun R => ens_exec R { m with st := { m.st with cursor := uadd m.st.cursor 1 }, ρ := [], us := [] } f (uadd_lt _ _)
  unfold nextItem
  cases hb : builder hs (uadd m.st.cursor 1) with
  | none => xt [proj, roSmall, expBodies, nextParts, next0, next1, next2, next3, next4, toUintI_add1, hb]
  | some h =>
    xt [proj, roSmall, expBodies, nextParts, next0, next1, next2, next3, next4, toUintI_add1, toUint_uadd, hb, ensureCallee, callMethod]
    simp [he]
    by_cases h : uadd m.st.cursor 1 > m.st.top <;> xt [h, ensureScroll, proj, next4, prev5]

theorem prev_zero (hs : List Nat) (dis : Bool) (ev : Ev) (mf : String) (m : M) (f : Nat) (h0 : m.st.cursor = 0) :
    proj (exec (roSmall expBodies (builder hs) dis ev mf) (seqOf prevParts) f m) = some (m.st, m.cs, .ret [0]) := by
  xt [proj, roSmall, expBodies, prevParts, prev0, prev1, prev2, prev3, prev4, prev5, h0]

theorem prev_none (hs : List Nat) (dis : Bool) (ev : Ev) (mf : String) (m : M) (f : Nat) (x : Nat) (h0 : ¬ m.st.cursor = 0)
    (h1 : usubI ↑m.st.cursor 1 = ↑x) (hb : builder hs x = none) :
    proj (exec (roSmall expBodies (builder hs) dis ev mf) (seqOf prevParts) f m) = some (m.st, m.cs, .ret [0]) := by
  xt [proj, roSmall, expBodies, prevParts, prev0, prev1, prev2, prev3, prev4, prev5, h1, hb, h0]

theorem prev_some (hs : List Nat) (dis : Bool) (ev : Ev) (mf : String) (m : M) (f : Nat) (x h : Nat) (h0 : ¬ m.st.cursor = 0)
    (h1 : usubI ↑m.st.cursor 1 = ↑x) (hlt : x < 2 ^ 64) (hb : builder hs x = some h) :
    proj (exec (roSmall expBodies (builder hs) dis ev mf) (seqOf prevParts) f m) =
      some (ensureScroll { m.st with cursor := x }, m.cs, .ret [1]) := by
  have he := fun R => ens_exec R { m with st := { m.st with cursor := x }, ρ := [], us := [] } f hlt
  xt [proj, roSmall, expBodies, prevParts, prev0, prev1, prev2, prev3, prev4, prev5, h1, DynInterp.toUint_small _ hlt, hb, h0, ensureCallee, callMethod]
  simp [he]
  by_cases h : x > m.st.top <;> xt [h, ensureScroll, proj, next4, prev5]

theorem prev_exec (hs : List Nat) (dis : Bool) (ev : Ev) (mf : String) (m : M) (f : Nat) :
    proj (exec (roSmall expBodies (builder hs) dis ev mf) (seqOf prevParts) f m) =
      some ((prevItem hs m.st).1, m.cs, .ret [bi (prevItem hs m.st).2]) := by
  unfold prevItem
  by_cases h0 : m.st.cursor = 0
  · rw [if_pos h0]; simp only [bi, Bool.false_eq_true, ↓reduceIte]; exact prev_zero hs dis ev mf m f h0
  · rw [if_neg h0]
    cases hb : builder hs (usub m.st.cursor 1) with
    | none =>
      simp only [bi, Bool.false_eq_true, ↓reduceIte]
      exact prev_none hs dis ev mf m f _ h0 (toUintI_sub1 _) hb
    | some h =>
      simp only [bi, ↓reduceIte]
      exact prev_some hs dis ev mf m f _ h h0 (toUintI_sub1 _) (usub_lt _ _) hb

def ctlVals : Ctl → List Int
  | .ret vs => vs
  | _ => []

theorem callMethod_proj (R : Ro) (f : Nat) (m : M) (name : String) (args : List Int) (g : List Int → Nat → M → Res)
    (hg : R.call name = some g) (st' : St) (cs' : List Child) (c : Ctl)
    (h : proj (g args f { m with ρ := [], us := [] }) = some (st', cs', c)) :
    callMethod R f m name args = .ok (withCs (withSt m st') cs', ctlVals c) := by
  unfold callMethod
  rw [hg]
  cases hr : g args f { m with ρ := [], us := [] } with
  | error e => rw [hr] at h; simp [proj] at h
  | ok r =>
    obtain ⟨m', c'⟩ := r
    rw [hr] at h
    simp only [proj, Option.some.injEq, Prod.mk.injEq] at h
    obtain ⟨h1, h2, h3⟩ := h
    subst h1 h2 h3
    cases c' <;> simp [ctlVals, hr, withCs, withSt]

theorem roEv_disable (B : Bodies) (b : Nat → Option Nat) (dis : Bool) (ev : Ev) (mf : String) : (roEv B b dis ev mf).disable = dis := rfl
theorem roEv_ev (B : Bodies) (b : Nat → Option Nat) (dis : Bool) (ev : Ev) (mf : String) : (roEv B b dis ev mf).ev = ev := rfl
theorem roEv_matchFn (B : Bodies) (b : Nat → Option Nat) (dis : Bool) (ev : Ev) (mf : String) : (roEv B b dis ev mf).matchFn = mf := rfl
theorem exp_cev : expBodies.captureEvent = seqOf cevParts := rfl

theorem cev_all (hs : List Nat) (s : St) (dis : Bool) (ev : Ev) :
    runCaptureEvent expBodies (builder hs) dis ev s = .ok
      (if dis then (s, false)
       else if ev.typ = "vaxis.Key" then
         (if "'j'" ∈ ev.keys ∨ "vaxis.KeyDown" ∈ ev.keys then nextItem hs s
          else if "'k'" ∈ ev.keys ∨ "vaxis.KeyUp" ∈ ev.keys then prevItem hs s else (s, false))
       else (s, false)) := by
  cases dis
  · have hn := callMethod_proj (roEv expBodies (builder hs) false ev "v1.Matches") 1 ⟨s, [], [], [], "vaxis.Key"⟩ "d.NextItem" [] _ rfl _ _ _
      (next_exec hs false ev "v1.Matches" ⟨s, [], [], [], "vaxis.Key"⟩ 1)
    have hp := callMethod_proj (roEv expBodies (builder hs) false ev "v1.Matches") 1 ⟨s, [], [], [], "vaxis.Key"⟩ "d.PrevItem" [] _ rfl _ _ _
      (prev_exec hs false ev "v1.Matches" ⟨s, [], [], [], "vaxis.Key"⟩ 1)
    generalize nextItem hs s = rn at hn ⊢
    generalize prevItem hs s = rp at hp ⊢
    obtain ⟨sn, bn⟩ := rn
    obtain ⟨sp, bp⟩ := rp
    simp only [ctlVals] at hn hp
    -- one run of the whole switch with every condition open; the cases then only pick a branch
    xt [mkM, runCaptureEvent, runHandler, exp_cev, roEv_disable, roEv_ev, roEv_matchFn, cevParts, cev0, cev1, cev2]
    by_cases ht : ev.typ = "vaxis.Key"
    · by_cases hjd : "'j'" ∈ ev.keys ∨ "vaxis.KeyDown" ∈ ev.keys
      · cases bn <;> xt [ht, hjd, hn, withCs, withSt]
      · by_cases hku : "'k'" ∈ ev.keys ∨ "vaxis.KeyUp" ∈ ev.keys
        · cases bp <;> xt [ht, hjd, hku, hp, withCs, withSt]
        · xt [ht, hjd, hku]
    · have ht' : ¬ ("vaxis.Key" = ev.typ) := fun h => ht h.symm
      xt [ht, ht']
  · xt [mkM, runCaptureEvent, runHandler, expBodies, roEv, roSmall, cevParts, cev0, cev1, cev2]

def insBody : Stmt := match ins3 with | .loop _ b _ => b | _ => .skip
def insCond : Expr := match ins3 with | .loop c _ _ => c | _ => .none

theorem ins3_eq : ins3 = .loop insCond insBody .skip := rfl

theorem ins_cond (R : Ro) (m : M) (ah : Int) (hv : look R m "v2" = some ah) :
    evB R m insCond = some (decide (ah > 0)) := by
  xt [insCond, ins3, hv]

theorem ins_body (R : Ro) (hs : List Nat) (hb : R.b = builder hs) (m : M) (st : St) (acc : List Child) (hm : Is m st acc [])
    (F : Nat) (ah : Int) (hv : look R m "v2" = some ah) :
    match builder hs st.top with
    | none => ∃ m', exec R insBody F m = .ok (m', .brk) ∧ Is m' st acc [] ∧ look R m' "v2" = some ah
    | some h => ∃ m', exec R insBody F m = .ok (m', if st.top = 0 ∨ ah - (↑h + R.gap) ≤ 0 then .brk else .norm) ∧
        Is m' (if st.top = 0 ∨ ah - (↑h + R.gap) ≤ 0 then st else { st with top := usub st.top 1 })
          (⟨st.top, ah - (↑h + R.gap), h⟩ :: acc) [] ∧ look R m' "v2" = some (ah - (↑h + R.gap)) := by
  cases hbt : builder hs st.top with
  | none => exact (by leaves (xt [insBody, ins3, hb, hbt, hm]) (xt [hm, hv]))
  | some h =>
    simp only []
    leaves (xt [insBody, ins3, hb, hv, hbt, hm, ite_ok, ite_pair, andThen_ok_ite, toUintI_sub1 _, toUint_usub])
      (by_cases h0 : st.top = 0 ∨ ah - (↑h + R.gap) ≤ 0 <;> xt [h0, hm])

theorem ins_loop (R : Ro) (hs : List Nat) (hb : R.b = builder hs) :
    ∀ (n : Nat) (m : M) (st : St) (acc : List Child) (F : Nat) (ah : Int), Is m st acc [] →
      st.top < 2 ^ 64 → st.top < n → st.top + 2 ≤ F → look R m "v2" = some ah →
      ∃ m', loopN (fun m => evB R m insCond) (exec R insBody) (exec R .skip) F m = .ok (m', .norm) ∧
        Is m' { st with top := (insertLoop true R.gap hs n st.top ah acc).1 } (insertLoop true R.gap hs n st.top ah acc).2.2 [] ∧
        look R m' "v2" = some (insertLoop true R.gap hs n st.top ah acc).2.1 := by
  intro n
  induction n with
  | zero => intro m st acc F ah _ _ h; omega
  | succ n ih =>
    intro m st acc F ah hm hlt hn hF hv
    obtain ⟨F', rfl⟩ : ∃ F', F = F' + 1 := ⟨F - 1, by omega⟩
    rw [loopN]
    simp only [ins_cond R m ah hv]
    unfold insertLoop
    by_cases hah : ah > 0
    · simp only [hah, decide_true, ↓reduceIte]
      have hbody := ins_body R hs hb m st acc hm F' ah hv
      cases hbt : builder hs st.top with
      | none =>
        rw [hbt] at hbody
        obtain ⟨m1, h1, hm1, hv1⟩ := hbody
        rw [h1]
        exact ⟨m1, rfl, hm1, hv1⟩
      | some h =>
        rw [hbt] at hbody
        obtain ⟨m1, h1, hm1, hv1⟩ := hbody
        rw [h1]
        simp only []
        by_cases hstop : st.top = 0 ∨ ah - (↑h + R.gap) ≤ 0
        · have hs' : (st.top = 0 ∨ (True ∧ ah - (↑h + R.gap) ≤ 0)) := hstop.imp id (fun h => ⟨trivial, h⟩)
          rw [if_pos hstop] at hm1
          simp only [hstop, hs', ↓reduceIte]
          exact ⟨m1, rfl, hm1, hv1⟩
        · have hs' : ¬ (st.top = 0 ∨ (True ∧ ah - (↑h + R.gap) ≤ 0)) := fun h => hstop (h.imp id (fun h => h.2))
          rw [if_neg hstop] at hm1
          simp only [hstop, hs', ↓reduceIte, exec]
          have h0 : st.top ≠ 0 := fun h => hstop (Or.inl h)
          have hu := DynList.usub_one h0 hlt
          obtain ⟨m', h1', h2', h3'⟩ := ih m1 { st with top := usub st.top 1 } (⟨st.top, ah - (↑h + R.gap), h⟩ :: acc) F'
            (ah - (↑h + R.gap)) hm1 (usub_lt _ _) (by show usub st.top 1 < n; omega) (by show usub st.top 1 + 2 ≤ F'; omega) hv1
          exact ⟨m', h1', h2', h3'⟩
    · simp only [hah, decide_false, ↓reduceIte]
      exact ⟨m, rfl, hm, hv⟩

def rsBody : Stmt := match ins5 with | .ite _ (.seq _ (.seq _ (.seq (.range _ _ b) _))) _ => b | _ => .skip

theorem rs_body (R : Ro) (m : M) (st : St) (cs : List Child) (hm : Is m st cs []) (F : Nat) (i : Nat) (c : Child) (row : Int)
    (hi : i < cs.length) (hv : look R m "v9" = some row) :
    ∃ m', exec R rsBody F (bindChild (DynExec.bind m "v10" i) "v11" c) = .ok (m', .norm) ∧
      Is m' st (cs.set i { c with row := row }) [] ∧ look R m' "v9" = some (row + (↑c.height + R.gap)) := by
  have hi' : ¬ (cs.length ≤ i) := by omega
  leaves (xt [rsBody, ins5, hv, hi', setAt, hm]) (xt [hm])

theorem restack_range (R : Ro) (st : St) (F : Nat) :
    ∀ (suf pre : List Child) (m : M) (row : Int), Is m st (pre ++ suf) [] → look R m "v9" = some row →
      ∃ m', rangeN "v10" "v11" (exec R rsBody F) suf.length pre.length m = .ok (m', .norm) ∧
        Is m' st (pre ++ restack R.gap row suf) [] := by
  intro suf
  induction suf with
  | nil => intro pre m row hm _; exact ⟨m, rfl, hm⟩
  | cons c rest ih =>
    intro pre m row hm hv
    have hget : m.cs[pre.length]? = some c := by rw [hm.cs]; simp
    obtain ⟨m1, h1, hm1, hv1⟩ := rs_body R m st _ hm F pre.length c row (by simp) hv
    simp only [List.length_cons, rangeN, hget, h1]
    have hset : (pre ++ c :: rest).set pre.length { c with row := row } = (pre ++ [{ c with row := row }]) ++ rest := by simp
    rw [hset] at hm1
    obtain ⟨m', h, hm'⟩ := ih (pre ++ [{ c with row := row }]) m1 (row + (↑c.height + R.gap)) hm1 hv1
    have hl : (pre ++ [{ c with row := row }]).length = pre.length + 1 := by simp
    rw [hl] at h
    exact ⟨m', h, by simpa [restack] using hm'⟩

theorem seqOf_cons (R : Ro) (a : Stmt) (r : List Stmt) (f : Nat) (m : M) :
    exec R (seqOf (a :: r)) f m = andThen R (seqOf r) f (exec R a f m) :=
  exec_seq a (seqOf r)

def ins5c : Expr := match ins5 with | .ite c _ _ => c | _ => .none
def ins5a : Stmt := match ins5 with | .ite _ (.seq a _) _ => a | _ => .skip
def ins5b : Stmt := match ins5 with | .ite _ (.seq _ (.seq a _)) _ => a | _ => .skip
def ins5r : Stmt := match ins5 with | .ite _ (.seq _ (.seq _ (.seq _ (.seq a _)))) _ => a | _ => .skip
theorem ins5_eq : ins5 = .ite ins5c (.seq ins5a (.seq ins5b (.seq (.range "v10" "v11" rsBody) (.seq ins5r .skip)))) .skip := rfl

theorem ins_tail (R : Ro) (m : M) (st : St) (cs : List Child) (hm : Is m st cs []) (F : Nat) (a : Int)
    (hv : look R m "v2" = some a) :
    proj (exec R (seqOf [ins4, ins5, ins6]) F m) =
      some (if st.top = 0 ∧ a > 0 then ({ st with offset := 0 }, restack R.gap 0 cs, .ret [0])
            else ({ st with offset := a }, cs, .ret [0])) := by
  by_cases h : st.top = 0 ∧ 0 < a
  · obtain ⟨ht, ha⟩ := h
    rw [ins5_eq]
    obtain ⟨m', hr, hm'⟩ := restack_range R { st with offset := 0 } F cs []
      (DynExec.bind (withSt m ⟨st.cursor, 0, 0, st.pending, st.wantsCursor⟩) "v9" 0) 0 (by xt [hm, ht]) (by xt [])
    simp only [List.nil_append, List.length_nil] at hr hm'
    xt [ins4, ins5c, ins5a, ins5b, ins5r, ins5, ins6, hv, ht, ha, proj, hm]
    rw [hr]
    xt [hm'.st, hm'.cs, ht]
  · xt [ins4, ins5, ins6, hv, h, proj, hm]

theorem ins_pre (R : Ro) (m : M) (st : St) (cs : List Child) (hm : Is m st cs []) (F : Nat) (x : Nat)
    (hx : usubI ↑st.top 1 = ↑x) (hxl : x < 2 ^ 64) (rest : List Stmt) :
    ∃ m', exec R (seqOf (ins0 :: ins1 :: ins2 :: rest)) F m = exec R (seqOf rest) F m' ∧
      Is m' { st with top := x } cs [] ∧ look R m' "v2" = look R m "v2" := by
  cases hd : R.drawCursor <;>
  leaves (xt [ins0, ins1, ins2, hx, DynInterp.toUint_small _ hxl, hd, hm]) (xt [hm])

/-- `top ≥ 1` is how `Draw` calls it; fuel: one unit per widget above. -/
theorem ins_exec (R : Ro) (hs : List Nat) (hb : R.b = builder hs) (st : St) (tag : String) (F : Nat) (ah : Int)
    (h1 : 1 ≤ st.top) (hlt : st.top < 2 ^ 64) (hF : st.top + 1 ≤ F) :
    proj (exec R (seqOf insParts) F ⟨st, [], [("v2", ah)], [], tag⟩) =
      some ({ st with top := (insertChildren true R.gap hs st.top ah).1, offset := (insertChildren true R.gap hs st.top ah).2.1 },
            (insertChildren true R.gap hs st.top ah).2.2, .ret [0]) := by
  have hu := DynList.usub_one (show st.top ≠ 0 by omega) hlt
  unfold insParts
  obtain ⟨m0, h0, hm0, hv0⟩ := ins_pre R ⟨st, [], [("v2", ah)], [], tag⟩ st [] ⟨rfl, rfl, rfl⟩ F (usub st.top 1)
    (toUintI_sub1 _) (usub_lt _ _) [ins3, ins4, ins5, ins6]
  obtain ⟨m', hl, hm', hv⟩ := ins_loop R hs hb st.top m0 { st with top := usub st.top 1 } [] F ah hm0
    (usub_lt _ _) (by show usub st.top 1 < st.top; omega) (by show usub st.top 1 + 2 ≤ F; omega)
    (hv0.trans (look_first loc_v2))
  rw [h0, seqOf_cons, ins3_eq, exec_loop, hl, andThen_norm]
  rw [ins_tail R m' _ _ hm' F _ hv]
  unfold insertChildren
  simp only []
  split <;> rfl

def clBody : Stmt := match draw2 with | .loop _ b _ => b | _ => .skip
def clCond : Expr := match draw2 with | .loop c _ _ => c | _ => .none
theorem draw2_eq : draw2 = .loop clCond clBody .skip := rfl

theorem cl_cond (R : Ro) (m : M) :
    evB R m clCond = some (decide (m.st.top > 0) && (R.b m.st.top).isNone) := by
  by_cases h : m.st.top > 0
  · have h' : (0 : Int) < m.st.top := by omega
    xt [clCond, draw2, h, h']
  · have h' : ¬ ((0 : Int) < m.st.top) := by omega
    xt [clCond, draw2, h, h']

theorem cl_body (R : Ro) (m : M) (F : Nat) (x : Nat) (hx : usubI ↑m.st.top 1 = ↑x) (hxl : x < 2 ^ 64) :
    exec R clBody F m = .ok (withSt m { m.st with top := x, offset := 0 }, .norm) := by
  xt [clBody, draw2, hx, DynInterp.toUint_small _ hxl]

theorem cl_loop (R : Ro) (hs : List Nat) (hb : R.b = builder hs) (cursor : Nat) (pending : Int) (wants : Bool)
    (cs : List Child) (ρ : List (String × Int)) (us : List String) (tag : String) :
    ∀ (n top : Nat) (offset : Int) (F : Nat), top < 2 ^ 64 → top ≤ n → top + 1 ≤ F →
      loopN (fun m => evB R m clCond) (exec R clBody) (exec R .skip) F ⟨⟨cursor, top, offset, pending, wants⟩, cs, ρ, us, tag⟩ =
        .ok (⟨⟨cursor, (clampLoop hs n top offset).1, (clampLoop hs n top offset).2, pending, wants⟩, cs, ρ, us, tag⟩, .norm) := by
  intro n
  induction n with
  | zero =>
    intro top offset F hlt hn hF
    obtain ⟨F', rfl⟩ : ∃ F', F = F' + 1 := ⟨F - 1, by omega⟩
    have h0 : decide (top > 0) = false := by simp; omega
    rw [loopN, cl_cond R, hb]
    simp only [h0, Bool.false_and, clampLoop]
  | succ n ih =>
    intro top offset F hlt hn hF
    obtain ⟨F', rfl⟩ : ∃ F', F = F' + 1 := ⟨F - 1, by omega⟩
    rw [loopN, cl_cond R, hb]
    unfold clampLoop
    by_cases hc : top > 0 ∧ builder hs top = none
    · have hu := DynList.usub_one (Nat.ne_of_gt hc.1) hlt
      simp only [hc.1, hc.2, decide_true, Option.isNone_none, Bool.and_self, and_self, ↓reduceIte]
      rw [cl_body R ⟨⟨cursor, top, offset, pending, wants⟩, cs, ρ, us, tag⟩ F' (usub top 1) (toUintI_sub1 top) (usub_lt _ _)]
      simp only []
      rw [exec_skip]
      simp only []
      exact ih (usub top 1) 0 F' (usub_lt _ _) (by omega) (by omega)
    · have : (decide (top > 0) && (builder hs top).isNone) = false := by
        by_cases h1 : top > 0
        · have : ¬ builder hs top = none := fun h => hc ⟨h1, h⟩
          cases hb' : builder hs top with
          | none => exact absurd hb' this
          | some _ => simp
        · simp [h1]
      simp only [this, hc, ↓reduceIte]

end VaxisModel.Lemmas.DynExec
