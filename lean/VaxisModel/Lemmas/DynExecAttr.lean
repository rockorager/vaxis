/-
`dyn_store`: the simp set that runs `Model/DynExec.lean` on a machine that is a variable — the statement forms one by one
(`atom_*`), reads after writes (`look_bind`), the names `fixedEnv` defines (`look_fixed`), the names it does not (`locals`), the
projections of a written machine and what keeps the rest of a body a statement (`andThen`, `ifThen`); tagged in
`Lemmas/DynExecStore.lean`.
-/
import Lean.Meta.Tactic.Simp.RegisterCommand

register_simp_attr dyn_store
