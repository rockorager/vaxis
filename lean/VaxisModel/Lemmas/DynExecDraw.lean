import VaxisModel.Lemmas.DynExec
import VaxisModel.Lemmas.DynList

/-! `Dynamic.Draw`, executed phase by phase (`Model/DynExec.lean` on the trees `draw0 … draw17` of `Lemmas/DynTrees.lean`), is
    `DynList.draw Facts.fixed` (`draw_exec`).  A phase starts on a machine `m` with `Is m st cs us` and the locals it reads as `look`
    facts, and says the same of the machine it leaves (`∃ m', … ∧ Is m' …`); a loop in the middle of a phase is a rewrite rule
    `… m = .ok (g m, .norm)` with the facts about `g m`.  The two halves around the downward loop are also stated on their own
    (`draw_head`, `draw_tail`), and an endless Builder of zero-height widgets runs the loop out of fuel (`draw_hang`). -/

namespace VaxisModel.Lemmas.DynExec
open VaxisModel.Model VaxisModel.Model.GoSyn VaxisModel.Model.DynExec VaxisModel.Model.DynList
open VaxisModel.Lemmas VaxisModel.Lemmas.DynTrees VaxisModel.Lemmas.DynExecStore

theorem pro_exec (R : Ro) (m : M) (st : St) (hm : Is m st [] []) (F : Nat) (rest : List Stmt) :
    ∃ m', exec R (seqOf (draw3 :: draw4 :: draw5 :: draw6 :: rest)) F m = exec R (seqOf rest) F m' ∧
      Is m' (prologue st).2 [] ["v3"] ∧ look R m' "v2" = some (prologue st).1 ∧
      look R m' "v3" = some ((prologue st).2.top : Int) := by
  by_cases h : st.offset + st.pending < 0 ∧ st.top = 0
  · have hp : prologue st = (0, { st with pending := 0, offset := 0 }) := by
      unfold prologue; simp [h.1, h.2]
    rw [hp]
    leaves (xt [draw3, draw4, draw5, draw6, hm.st, hm.us, h]) (xt [hm, h.2])
  · have hp : prologue st = (- (st.offset + st.pending), { st with pending := 0 }) := by
      unfold prologue; simp [h]
    rw [hp]
    leaves (xt [draw3, draw4, draw5, draw6, hm.st, hm.us, h]) (xt [hm])

theorem su_exec (R R0 : Ro) (hs : List Nat) (hcall : R.call "d.insertChildren" = some (insertCallee expBodies R0))
    (hb0 : R0.b = builder hs) (hg : R0.gap = R.gap)
    (m : M) (st : St) (hm : Is m st [] ["v3"]) (F : Nat) (ah1 v : Int)
    (hv2 : look R m "v2" = some ah1) (hv3 : look R m "v3" = some v)
    (htop : ah1 > 0 → 1 ≤ st.top) (hlt : st.top < 2 ^ 64) (hF : st.top + 1 ≤ F) :
    match scrollUp true R.gap hs st ah1 with
    | .error _ => exec R draw7 F m = .error .panic
    | .ok (ah2, s2, cs0) => ∃ m', exec R draw7 F m = .ok (m', .norm) ∧ Is m' s2 cs0 ["v3"] ∧
        look R m' "v2" = some ah2 ∧ look R m' "v3" = some v := by
  unfold scrollUp
  by_cases hah : ah1 > 0
  · have hins := ins_exec R0 hs hb0 st m.tag F ah1 (htop hah) hlt hF
    rw [hg] at hins
    have hcm := callMethod_proj R F m "d.insertChildren" [ah1] _ hcall _ _ _
      (by simpa [insertCallee, expBodies, hm.st, hm.cs] using hins)
    simp only [ctlVals] at hcm
    simp only [hah, ↓reduceIte]
    generalize insertChildren true R.gap hs st.top ah1 = r at hcm ⊢
    obtain ⟨t, o, cs0⟩ := r
    simp only [] at hcm ⊢
    cases hl : cs0.getLast? with
    | none =>
      have : cs0 = [] := List.getLast?_eq_none_iff.mp hl
      subst this
      xt [draw7, hv2, hah, hcm, hm.us]
    | some last =>
      have hne : cs0 ≠ [] := by intro h; subst h; simp at hl
      have hlen : 0 < cs0.length := List.length_pos_iff.mpr hne
      have hidx : cs0[cs0.length - 1]? = some last := by
        rw [List.getLast?_eq_getElem?] at hl; exact hl
      have hnn : ¬ ((cs0.length : Int) - 1 < 0) := by omega
      leaves (xt [draw7, hv2, hah, hcm, hidx, hnn, hm.us]) (xt [hm, hv3])
  · simp only [hah, ↓reduceIte]
    refine ⟨m, ?_, hm, hv2, hv3⟩
    xt [draw7, hv2, hah]

def ddBody : Stmt := match draw10 with | .loop _ b _ => b | _ => .skip
def ddCond : Expr := match draw10 with | .loop c _ _ => c | _ => .none
theorem draw10_eq : draw10 = .loop ddCond ddBody .skip := rfl

theorem dd_cond (R : Ro) (m : M) : evB R m ddCond = some true := by
  xt [ddCond, draw10]

theorem dd_body_nil (R : Ro) (m : M) (F : Nat) (i : Nat) (hv3 : look R m "v3" = some ↑i) (hbt : R.b i = none) :
    exec R ddBody F m = .ok (DynExec.bind m "v7" 0, .brk) := by
  xt [ddBody, draw10, hv3, hbt]

/-- One run of the body on a widget of height `h`: the two `if`s stay open in the way it ends. -/
theorem dd_body (R : Ro) (m : M) (st : St) (acc : List Child) (hm : Is m st acc ["v3"]) (F : Nat) (ah : Int) (i y h : Nat)
    (hv2 : look R m "v2" = some ah) (hv3 : look R m "v3" = some ↑i) (hbt : R.b i = some h) (hi : uaddI ↑i 1 = ↑y) :
    ∃ m', exec R ddBody F m = .ok (m',
        if st.wantsCursor = true ∧ y ≤ st.cursor then .cont else if ah + (↑h + R.gap) ≥ R.H then .brk else .norm) ∧
      Is m' st (acc ++ [{ idx := i, row := ah, height := h }]) ["v3"] ∧ look R m' "v2" = some (ah + (↑h + R.gap)) ∧
      look R m' "v3" = some ↑y := by
  leaves (xt [ddBody, draw10, hv2, hv3, hbt, hi, hm, ite_ok, ite_pair, andThen_ok_ite]) (xt [hm])

theorem uaddI_succ (i : Nat) (h : i + 1 < 2 ^ 64) : uaddI ↑i 1 = ((i + 1 : Nat) : Int) := by
  unfold uaddI toUintI; rw [DynInterp.U_val]; omega

theorem dd_iter (R : Ro) (m : M) (st : St) (acc : List Child) (hm : Is m st acc ["v3"]) (F : Nat) (ah : Int)
    (i y h : Nat) (hv2 : look R m "v2" = some ah) (hv3 : look R m "v3" = some ↑i) (hbt : R.b i = some h) (hi : uaddI ↑i 1 = ↑y) :
    ∃ m', Is m' st (acc ++ [{ idx := i, row := ah, height := h }]) ["v3"] ∧ look R m' "v2" = some (ah + (↑h + R.gap)) ∧
      look R m' "v3" = some ↑y ∧
      loopN (fun m => evB R m ddCond) (exec R ddBody) (exec R .skip) (F + 1) m =
        if (st.wantsCursor = true ∧ y ≤ st.cursor) ∨ ¬ ah + (↑h + R.gap) ≥ R.H then
          loopN (fun m => evB R m ddCond) (exec R ddBody) (exec R .skip) F m'
        else .ok (m', .norm) := by
  obtain ⟨m', hb, hm', h2, h3⟩ := dd_body R m st acc hm F ah i y h hv2 hv3 hbt hi
  refine ⟨m', hm', h2, h3, ?_⟩
  rw [loopN, dd_cond, hb]
  by_cases hw : st.wantsCursor = true ∧ y ≤ st.cursor
  · simp only [if_pos hw, if_pos (Or.inl hw), exec_skip]
  · by_cases hH : ah + (↑h + R.gap) ≥ R.H
    · have hn : ¬ ((st.wantsCursor = true ∧ y ≤ st.cursor) ∨ ¬ ah + (↑h + R.gap) ≥ R.H) := fun h => h.elim hw (fun h' => h' hH)
      simp only [if_neg hw, if_pos hH, if_neg hn]
    · simp only [if_neg hw, if_neg hH, if_pos (Or.inr hH), exec_skip]

theorem dd_loop (R : Ro) (hs : List Nat) (hb : R.b = builder hs) (st : St) :
    ∀ (rest : List Nat) (i : Nat) (ah : Int) (acc : List Child) (m : M) (F : Nat), Is m st acc ["v3"] →
      rest = hs.drop i → i + rest.length < 2 ^ 64 → rest.length + 1 ≤ F →
      look R m "v2" = some ah → look R m "v3" = some ↑i →
      ∃ m', loopN (fun m => evB R m ddCond) (exec R ddBody) (exec R .skip) F m = .ok (m', .norm) ∧
        Is m' st (drawDown R.gap st.wantsCursor st.cursor R.H rest i ah acc) ["v3"] := by
  intro rest
  induction rest with
  | nil =>
    intro i ah acc m F hm hd hlt hF hv2 hv3
    obtain ⟨F', rfl⟩ : ∃ F', F = F' + 1 := ⟨F - 1, by omega⟩
    have hbt : builder hs i = none := by
      unfold builder
      have : hs.length ≤ i := List.drop_eq_nil_iff.mp hd.symm
      simp [this]
    rw [loopN, dd_cond, dd_body_nil R m F' i hv3 (by rw [hb]; exact hbt)]
    exact ⟨_, rfl, hm.bind⟩
  | cons h rest ih =>
    intro i ah acc m F hm hd hlt hF hv2 hv3
    obtain ⟨F', rfl⟩ : ∃ F', F = F' + 1 := ⟨F - 1, by omega⟩
    have hbt : builder hs i = some h := by
      unfold builder
      have := congrArg List.head? hd
      simp at this
      exact this.symm
    have hd' : rest = hs.drop (i + 1) := by
      have := congrArg List.tail hd
      simpa using this
    simp only [List.length_cons] at hlt hF
    obtain ⟨m1, hm1, h2, h3, hit⟩ := dd_iter R m st acc hm F' ah i (i + 1) h hv2 hv3 (by rw [hb]; exact hbt) (uaddI_succ i (by omega))
    rw [hit]
    unfold drawDown
    simp only [Int.add_assoc ah]
    obtain ⟨m', hr, hm'⟩ := ih (i + 1) (ah + (↑h + R.gap)) (acc ++ [{ idx := i, row := ah, height := h }]) m1 F' hm1 hd'
      (by omega) (by omega) h2 h3
    by_cases hw : st.wantsCursor = true ∧ i + 1 ≤ st.cursor
    · rw [if_pos (Or.inl hw), if_pos hw]
      exact ⟨m', hr, hm'⟩
    · by_cases hH : ah + (↑h + R.gap) ≥ R.H
      · have hn : ¬ ((st.wantsCursor = true ∧ i + 1 ≤ st.cursor) ∨ ¬ ah + (↑h + R.gap) ≥ R.H) := fun h => h.elim hw (fun h' => h' hH)
        rw [if_neg hn, if_neg hw, if_pos hH]
        exact ⟨_, rfl, hm1⟩
      · rw [if_pos (Or.inr hH), if_neg hw, if_neg hH]
        exact ⟨m', hr, hm'⟩

theorem rangeN_frame (k v : String) (body : M → Res) (P : M → Prop)
    (hbody : ∀ m (i : Nat) c, P m → ∃ m', body (bindChild (DynExec.bind m k i) v c) = .ok (m', .norm) ∧ P m' ∧ m'.cs = m.cs) :
    ∀ (n i : Nat) (m : M), i + n ≤ m.cs.length → P m → ∃ m', rangeN k v body n i m = .ok (m', .norm) ∧ P m' ∧ m'.cs = m.cs := by
  intro n
  induction n with
  | zero => intro i m _ hP; exact ⟨m, rfl, hP, rfl⟩
  | succ n ih =>
    intro i m hi hP
    have hlt : i < m.cs.length := by omega
    have hget : m.cs[i]? = some m.cs[i] := List.getElem?_eq_getElem hlt
    obtain ⟨m1, h1, hP1, hc1⟩ := hbody m i m.cs[i] hP
    obtain ⟨m2, h2, hP2, hc2⟩ := ih (i + 1) m1 (by rw [hc1]; omega) hP1
    refine ⟨m2, ?_, hP2, hc2.trans hc1⟩
    rw [rangeN]
    simp only [hget, h1]
    exact h2

/-! #### `totalHeight` (computed, never used) -/

def thBody : Stmt := match draw12 with | .range _ _ b => b | _ => .skip
theorem draw12_eq : draw12 = .range "_" "v12" thBody := rfl

theorem th_exec (R : Ro) (m : M) (st : St) (cs : List Child) (hm : Is m st cs ["v3"]) (F : Nat) (rest : List Stmt) :
    ∃ m', exec R (seqOf (draw11 :: draw12 :: draw13 :: rest)) F m = exec R (seqOf rest) F m' ∧ Is m' st cs ["v3"] := by
  have h11 : exec R draw11 F m = .ok (DynExec.bind m "v11" 0, .norm) := by
    xt [draw11, hm.us]
  obtain ⟨m1, h1, ⟨hst1, hus1, x, hx⟩, hcs1⟩ := rangeN_frame "_" "v12" (exec R thBody F)
    (fun m' => m'.st = st ∧ m'.us = ["v3"] ∧ ∃ x, look R m' "v11" = some x)
    (by
      intro m' i c ⟨hst, hus, x, hx⟩
      leaves (xt [thBody, draw12, hx, hus]) (simp [dyn_store, hst, hus]))
    (DynExec.bind m "v11" 0).cs.length 0 (DynExec.bind m "v11" 0) (by omega)
    ⟨bind_st.trans hm.st, bind_us.trans hm.us, 0, by simp [dyn_store]⟩
  rw [bind_cs] at hcs1
  rw [seqOf_cons, h11, andThen_norm]
  rw [seqOf_cons, draw12_eq, exec_range, h1, andThen_norm]
  have hlen : m1.cs.length = cs.length := by rw [hcs1, hm.cs]
  by_cases hg : 0 < R.gap ∧ (1 : Int) < cs.length
  · leaves (xt [draw13, hx, hus1, hlen, hg]) (simp [Is, dyn_store, hst1, hus1, hcs1, hm.cs])
  · refine ⟨m1, ?_, hst1, hcs1.trans hm.cs, hus1⟩
    xt [draw13, hx, hus1, hlen, hg]

def rvB1 : Stmt :=
  (.seq (.atom ⟨4, .addAssign, (.var "v24.Origin.Row"), (.var "v22")⟩)
          (.seq (.atom ⟨4, .assign, (.index (.var "v1.Children") (.var "v23")), (.var "v24")⟩)
          .skip))

def rvB2 : Stmt :=
  (.seq (.atom ⟨5, .addAssign, (.var "v27.Origin.Row"), (.var "v25")⟩)
            (.seq (.atom ⟨5, .assign, (.index (.var "v1.Children") (.var "v26")), (.var "v27")⟩)
            .skip))

def draw15T (B1 B2 : Stmt) : Stmt :=
  (.ite (.var "d.scroll.wantsCursor")
    (.seq (.atom ⟨1, .define, (.var "v19"), (.bin "-" (.var "d.cursor") (.var "d.scroll.top"))⟩)
    (.seq (.ite (.bin "<" (.var "v19") (.arg (.call (.var "uint")) (.arg (.call (.var "len")) (.var "v1.Children"))))
      (.seq (.atom ⟨2, .define, (.var "v20"), (.index (.var "v1.Children") (.var "v19"))⟩)
      (.seq (.atom ⟨2, .define, (.var "v21"), (.bin "+" (.var "v20.Origin.Row") (.arg (.call (.var "int")) (.var "v20.Surface.Size.Height")))⟩)
      (.seq (.ite (.bin ">" (.var "v21") (.arg (.call (.var "int")) (.var "v0.Max.Height")))
        (.seq (.atom ⟨3, .define, (.var "v22"), (.bin "-" (.arg (.call (.var "int")) (.var "v0.Max.Height")) (.var "v21"))⟩)
        (.seq (.range "v23" "v24"
          B1)
        .skip))
        (.seq (.ite (.bin "<" (.var "v20.Origin.Row") (.int 0))
          (.seq (.atom ⟨4, .define, (.var "v25"), (.un "-" (.var "v20.Origin.Row"))⟩)
          (.seq (.range "v26" "v27"
            B2)
          .skip))
          .skip)
        .skip))
      (.seq (.atom ⟨2, .assign, (.var "d.scroll.wantsCursor"), (.var "false")⟩)
      .skip))))
      .skip)
    .skip))
    .skip)

theorem draw15_eq : draw15 = draw15T rvB1 rvB2 := rfl

theorem rangeN_map (k v : String) (body : M → Res) (f : Child → Child) (P : M → Prop)
    (hbody : ∀ m (i : Nat) c, i < m.cs.length → P m →
      ∃ m', body (bindChild (DynExec.bind m k i) v c) = .ok (m', .norm) ∧ P m' ∧ m'.cs = m.cs.set i (f c)) :
    ∃ g : M → M, ∀ m, P m →
      (∀ n, n = m.cs.length → rangeN k v body n 0 m = .ok (g m, .norm)) ∧ P (g m) ∧ (g m).cs = m.cs.map f := by
  have step : ∀ (suf pre : List Child) (m : M), m.cs = pre ++ suf → P m →
      ∃ m', rangeN k v body suf.length pre.length m = .ok (m', .norm) ∧ P m' ∧ m'.cs = pre ++ suf.map f := by
    intro suf
    induction suf with
    | nil => intro pre m hcs hP; exact ⟨m, rfl, hP, by simpa using hcs⟩
    | cons c rest ih =>
      intro pre m hcs hP
      have hget : m.cs[pre.length]? = some c := by simp [hcs]
      have hlen : pre.length < m.cs.length := by simp [hcs]
      obtain ⟨m1, h1, hP1, hc1⟩ := hbody m pre.length c hlen hP
      have hset : m1.cs = (pre ++ [f c]) ++ rest := by rw [hc1, hcs]; simp
      obtain ⟨m2, h2, hP2, hc2⟩ := ih (pre ++ [f c]) m1 hset hP1
      have hl : (pre ++ [f c]).length = pre.length + 1 := by simp
      rw [hl] at h2
      refine ⟨m2, ?_, hP2, by simp [hc2]⟩
      simp only [List.length_cons, rangeN, hget, h1]
      exact h2
  refine exists_fun (Q := fun m m' => (∀ n, n = m.cs.length → rangeN k v body n 0 m = .ok (m', .norm)) ∧ P m' ∧
    m'.cs = m.cs.map f) fun m hP => ?_
  obtain ⟨m', h, hP', hcs⟩ := step m.cs [] m rfl hP
  exact ⟨m', fun n hn => by rw [hn]; exact h, hP', by simpa using hcs⟩

/-- The `uint` locals of `Draw` after the downward loop: `v3`, and `v14`, `v19` once their blocks were entered.
    The later phases only need to know that none of the names they do `int` arithmetic on is among them. -/
def DrawUs (us : List String) : Prop := ∀ n ∈ us, n = "v3" ∨ n = "v14" ∨ n = "v19"

theorem DrawUs.not_mem {us : List String} (h : DrawUs us) (n : String)
    (hn : ¬ (n = "v3" ∨ n = "v14" ∨ n = "v19") := by decide) : n ∉ us :=
  fun hm => hn (h n hm)

theorem DrawUs.cons {us : List String} (h : DrawUs us) (n : String)
    (hn : n = "v3" ∨ n = "v14" ∨ n = "v19" := by decide) : DrawUs (n :: us) := by
  intro x hx
  rcases List.mem_cons.mp hx with rfl | hx
  · exact hn
  · exact h x hx

/-- The two moving loops of the wants-cursor block as rewrite rules: on a machine with `v22 = adj` (`v25 = adj`) the loop leaves
    `g m`, every child moved by `adj`. -/
theorem rv_map1 (R : Ro) (st : St) (us : List String) (hus : DrawUs us) (F : Nat) (adj : Int) :
    ∃ g : M → M, ∀ m, (m.st = st ∧ m.us = us ∧ look R m "v22" = some adj) →
      (∀ n, n = m.cs.length → rangeN "v23" "v24" (exec R rvB1 F) n 0 m = .ok (g m, .norm)) ∧
      ((g m).st = st ∧ (g m).us = us ∧ look R (g m) "v22" = some adj) ∧
      (g m).cs = m.cs.map (fun c => { c with row := c.row + adj }) :=
  rangeN_map "v23" "v24" (exec R rvB1 F) _ (fun m => m.st = st ∧ m.us = us ∧ look R m "v22" = some adj) (by
    intro m i c hi ⟨hst, hus', hv⟩
    have hi' : ¬ (m.cs.length ≤ i) := by omega
    leaves (xt [rvB1, hv, hus', hi', setAt, hus.not_mem "v24.Origin.Row"]) (xt [hst, hus', hv]))

theorem rv_map2 (R : Ro) (st : St) (us : List String) (hus : DrawUs us) (F : Nat) (adj : Int) :
    ∃ g : M → M, ∀ m, (m.st = st ∧ m.us = us ∧ look R m "v25" = some adj) →
      (∀ n, n = m.cs.length → rangeN "v26" "v27" (exec R rvB2 F) n 0 m = .ok (g m, .norm)) ∧
      ((g m).st = st ∧ (g m).us = us ∧ look R (g m) "v25" = some adj) ∧
      (g m).cs = m.cs.map (fun c => { c with row := c.row + adj }) :=
  rangeN_map "v26" "v27" (exec R rvB2 F) _ (fun m => m.st = st ∧ m.us = us ∧ look R m "v25" = some adj) (by
    intro m i c hi ⟨hst, hus', hv⟩
    have hi' : ¬ (m.cs.length ≤ i) := by omega
    leaves (xt [rvB2, hv, hus', hi', setAt, hus.not_mem "v27.Origin.Row"]) (xt [hst, hus', hv]))

/-- `DynList.reveal true true`, the child index `cursor - top` given as `x`. -/
def revealX (cs : List Child) (s : St) (H : Nat) (x : Nat) : List Child × St :=
  if s.wantsCursor then
    if x < cs.length then
      match cs[x]? with
      | some ch =>
        (if ch.row + (ch.height : Int) > H then cs.map fun c => { c with row := c.row + ((H : Int) - (ch.row + (ch.height : Int))) }
         else if ch.row < 0 then cs.map fun c => { c with row := c.row + (- ch.row) } else cs, { s with wantsCursor := false })
      | none => (cs, s)
    else (cs, s)
  else (cs, s)

theorem reveal_eq (cs : List Child) (s : St) (H : Nat) (x : Nat) (hx : usub s.cursor s.top = x) :
    reveal true true cs s H = .ok (revealX cs s H x) := by
  unfold reveal revealX
  rw [DynList.cursorChild_x cs s.cursor s.top x hx]
  by_cases hw : s.wantsCursor = true
  · by_cases hxl : x < cs.length <;> simp [hw, hxl]
  · simp [hw]

theorem rv_exec (R : Ro) (m : M) (st : St) (cs : List Child) (us : List String) (hm : Is m st cs us)
    (hus : DrawUs us) (F : Nat) (x : Nat) (hx : usubI ↑st.cursor ↑st.top = ↑x) :
    ∃ us', DrawUs us' ∧ ∃ m', exec R (draw15T rvB1 rvB2) F m = .ok (m', .norm) ∧
      Is m' (revealX cs st R.H x).2 (revealX cs st R.H x).1 us' := by
  unfold revealX
  by_cases hw : st.wantsCursor = true
  · by_cases hxl : x < cs.length
    · have hget : cs[x]? = some cs[x] := List.getElem?_eq_getElem hxl
      have hxl' : (x : Int) < cs.length := by omega
      simp only [hw, hxl, hget, ↓reduceIte]
      have hus' := hus.cons "v19"
      have u1 := hus.not_mem "v20.Origin.Row"
      have u2 := hus.not_mem "v20.Surface.Size.Height"
      have u3 := hus.not_mem "v0.Max.Height"
      by_cases hb : cs[x].row + (cs[x].height : Int) > R.H
      · obtain ⟨g, hg⟩ := rv_map1 R st ("v19" :: us) hus' F ((R.H : Int) - (cs[x].row + ↑cs[x].height))
        have hb' : (R.H : Int) < cs[x].row + ↑cs[x].height := hb
        refine ⟨"v19" :: us, hus', ?_⟩
        leaves (xt [draw15T, hw, hx, hxl, hxl', hget, hb, hb', hg, u1, u2, u3, hm]) (xt [hm, hg, hb, hb'])
      · have hb' : ¬ ((R.H : Int) < cs[x].row + ↑cs[x].height) := hb
        by_cases hr : cs[x].row < 0
        · obtain ⟨g, hg⟩ := rv_map2 R st ("v19" :: us) hus' F (- cs[x].row)
          refine ⟨"v19" :: us, hus', ?_⟩
          leaves (xt [draw15T, hw, hx, hxl, hxl', hget, hb, hb', hr, hg, u1, u2, u3, hm]) (xt [hm, hg, hb, hb', hr])
        · refine ⟨"v19" :: us, hus', ?_⟩
          leaves (xt [draw15T, hw, hx, hxl, hxl', hget, hb, hb', hr, u1, u2, u3, hm]) (xt [hm, hb, hb', hr])
    · have hxl' : ¬ ((x : Int) < cs.length) := by omega
      simp only [hw, hxl, ↓reduceIte]
      refine ⟨"v19" :: us, hus.cons "v19", ?_⟩
      leaves (xt [draw15T, hw, hx, hxl, hxl', hm]) (xt [hm])
  · simp only [hw]
    refine ⟨us, hus, m, ?_, hm⟩
    xt [draw15T, hw, hm.st]

def rtBody : Stmt := match draw16 with | .range _ _ b => b | _ => .skip
theorem draw16_eq : draw16 = .range "v28" "v29" rtBody := rfl

theorem rt_body (R : Ro) (m : M) (cursor top : Nat) (offset pending : Int) (wants : Bool) (cs : List Child)
    (us : List String) (hm : Is m ⟨cursor, top, offset, pending, wants⟩ cs us) (hus : DrawUs us)
    (F : Nat) (i : Nat) (c : Child) (y : Nat) (hy : uaddI ↑top (toUintI ↑i) = ↑y) (hyl : y < 2 ^ 64) :
    ∃ m', exec R rtBody F (bindChild (DynExec.bind m "v28" i) "v29" c) = .ok (m', .norm) ∧
      Is m' (if c.row ≤ 0 ∧ c.row + (c.height : Int) + R.gap > 0 then ⟨cursor, y, - c.row, pending, wants⟩
            else ⟨cursor, top, offset, pending, wants⟩) cs us := by
  have u1 := hus.not_mem "v29.Origin.Row"
  have u2 := hus.not_mem "v29.Surface.Size.Height"
  leaves (xt [rtBody, draw16, hy, DynInterp.toUint_small _ hyl, u1, u2, hm.st, hm.us, ite_ok, ite_pair])
    (by_cases h1 : c.row ≤ 0 <;> by_cases h2 : 0 < c.row + (c.height : Int) + R.gap <;> xt [h1, h2, hm])

theorem uaddI_cast (top i : Nat) : uaddI ↑top (toUintI ↑i) = ((uadd top i : Nat) : Int) := by
  unfold uaddI toUintI uadd; rw [DynInterp.U_val, U_nat]; omega

theorem rt_range (R : Ro) (cursor : Nat) (pending : Int) (wants : Bool) (us : List String) (hus : DrawUs us) (F : Nat) :
    ∀ (suf pre : List Child) (top : Nat) (offset : Int) (m : M), Is m ⟨cursor, top, offset, pending, wants⟩ (pre ++ suf) us →
      ∃ m', rangeN "v28" "v29" (exec R rtBody F) suf.length pre.length m = .ok (m', .norm) ∧
        Is m' ⟨cursor, (retop R.gap suf pre.length (top, offset)).1, (retop R.gap suf pre.length (top, offset)).2, pending, wants⟩
          (pre ++ suf) us := by
  intro suf
  induction suf with
  | nil => intro pre top offset m hm; exact ⟨m, rfl, hm⟩
  | cons c rest ih =>
    intro pre top offset m hm
    have hget : m.cs[pre.length]? = some c := by rw [hm.cs]; simp
    obtain ⟨m1, h1, hm1⟩ := rt_body R m cursor top offset pending wants (pre ++ c :: rest) us hm hus F pre.length c (uadd top pre.length)
      (uaddI_cast top pre.length) (uadd_lt _ _)
    have happ : pre ++ c :: rest = (pre ++ [c]) ++ rest := by simp
    have hl : (pre ++ [c]).length = pre.length + 1 := by simp
    simp only [List.length_cons, rangeN, hget, h1]
    unfold retop
    rw [happ] at hm1
    by_cases hc : c.row ≤ 0 ∧ c.row + (c.height : Int) + R.gap > 0
    · rw [if_pos hc] at hm1
      obtain ⟨m2, h2, hm2⟩ := ih (pre ++ [c]) (uadd top pre.length) (- c.row) m1 hm1
      rw [hl] at h2 hm2
      rw [← happ] at hm2
      simp only [if_pos hc]
      exact ⟨m2, h2, hm2⟩
    · rw [if_neg hc] at hm1
      obtain ⟨m2, h2, hm2⟩ := ih (pre ++ [c]) top offset m1 hm1
      rw [hl] at h2 hm2
      rw [← happ] at hm2
      simp only [if_neg hc]
      exact ⟨m2, h2, hm2⟩

theorem d0_exec (R : Ro) (F : Nat) (m : M) :
    exec R draw0 F m = if R.H = 65535 ∨ R.W = 65535 then .error .panic else .ok (m, .norm) := by
  unfold draw0
  xt []

theorem d1_exec (R : Ro) (F : Nat) (st : St) (cs : List Child) (ρ : List (String × Int)) (us : List String) (tag : String) :
    exec R draw1 F ⟨st, cs, ρ, us, tag⟩ = .ok (⟨st, [], ρ, us, tag⟩, .norm) := by
  xt [draw1, withCs]

theorem d89_exec (R : Ro) (m : M) (st : St) (cs : List Child) (hm : Is m st cs ["v3"]) (F : Nat) (rest : List Stmt) :
    ∃ m', exec R (seqOf (draw8 :: draw9 :: rest)) F m = exec R (seqOf rest) F m' ∧ Is m' st cs ["v3"] ∧
      look R m' "v2" = look R m "v2" ∧ look R m' "v3" = look R m "v3" := by
  cases hd : R.drawCursor <;> leaves (xt [draw8, draw9, hd, hm.us]) (xt [hm])

def guL13 : Stmt :=
  (.loop (.bin "<" (.var "v13") (.var "v1.Size.Height"))
      (.seq (.atom ⟨2, .exprS, (.arg (.arg (.arg (.call (.var "v1.WriteCell")) (.int 0)) (.var "v13")) (.lit "vaxis.Cell{Character:vaxis.Character{Grapheme:\"\",Width:1}}")), .none⟩)
      (.seq (.atom ⟨2, .exprS, (.arg (.arg (.arg (.call (.var "v1.WriteCell")) (.int 1)) (.var "v13")) (.lit "vaxis.Cell{Character:vaxis.Character{Grapheme:\"\",Width:1}}")), .none⟩)
      .skip))
      (.seq (.atom ⟨3, .addAssign, (.var "v13"), (.int 1)⟩)
      .skip))

def guL17 : Stmt :=
  (.loop (.bin "<" (.var "v17") (.var "v15.Surface.Size.Height"))
        (.seq (.atom ⟨3, .exprS, (.arg (.arg (.arg (.call (.var "v16.WriteCell")) (.int 0)) (.var "v17")) (.lit "vaxis.Cell{Character:vaxis.Character{Grapheme:\"▐\",Width:1}}")), .none⟩)
        .skip)
        (.seq (.atom ⟨4, .addAssign, (.var "v17"), (.int 1)⟩)
        .skip))

def draw14T (L13 L17 : Stmt) : Stmt :=
  (.ite (.var "d.DrawCursor")
    (.seq (.atom ⟨1, .varS, (.var "v13"), (.lit "uint16")⟩)
    (.seq L13
    (.seq (.atom ⟨1, .define, (.var "v14"), (.bin "-" (.var "d.cursor") (.var "d.scroll.top"))⟩)
    (.seq (.ite (.bin "&&" (.bin ">=" (.var "d.cursor") (.var "d.scroll.top")) (.bin "<" (.var "v14") (.arg (.call (.var "uint")) (.arg (.call (.var "len")) (.var "v1.Children")))))
      (.seq (.atom ⟨2, .define, (.var "v15"), (.index (.var "v1.Children") (.var "v14"))⟩)
      (.seq (.atom ⟨2, .define, (.var "v16"), (.arg (.arg (.arg (.call (.var "vxfw.NewSurface")) (.var "v0.Max.Width")) (.var "v15.Surface.Size.Height")) (.var "v15.Surface.Widget"))⟩)
      (.seq (.atom ⟨2, .varS, (.var "v17"), (.lit "uint16")⟩)
      (.seq L17
      (.seq (.atom ⟨2, .exprS, (.arg (.arg (.arg (.call (.var "v16.AddChild")) (.var "v6")) (.int 0)) (.var "v15.Surface")), .none⟩)
      (.seq (.atom ⟨2, .define, (.var "v18"), (.arg (.arg (.arg (.call (.var "vxfw.NewSubSurface")) (.int 0)) (.var "v15.Origin.Row")) (.var "v16"))⟩)
      (.seq (.atom ⟨2, .assign, (.index (.var "v1.Children") (.var "v14")), (.var "v18")⟩)
      .skip)))))))
      .skip)
    .skip))))
    .skip)

theorem draw14_eq : draw14 = draw14T guL13 guL17 := rfl

/-- A counting loop `for v = 0; v < bound; v += 1 { cells only }` as a rewrite rule: it ends, and what the step keeps (`P`) still holds. -/
theorem count_loop (R : Ro) (c : Expr) (body post : Stmt) (var : String) (bound : Nat) (P : M → Prop)
    (hc : ∀ m x, P m → look R m var = some x → evB R m c = some (decide (x < (bound : Int))))
    (hbody : ∀ f m, exec R body f m = .ok (m, .norm))
    (hpost : ∀ f m x, P m → look R m var = some x →
      ∃ m', exec R post f m = .ok (m', .norm) ∧ P m' ∧ look R m' var = some (x + 1))
    (F : Nat) (hF : bound + 1 ≤ F) :
    ∃ g : M → M, ∀ m, (P m ∧ look R m var = some 0) → exec R (.loop c body post) F m = .ok (g m, .norm) ∧ P (g m) := by
  have step : ∀ (n : Nat) (x : Int) (m : M) (F : Nat), P m → look R m var = some x → (bound : Int) - x ≤ n → n + 1 ≤ F →
      ∃ m', loopN (fun m => evB R m c) (exec R body) (exec R post) F m = .ok (m', .norm) ∧ P m' := by
    intro n
    induction n with
    | zero =>
      intro x m F hPm hv hb hF
      obtain ⟨F', rfl⟩ : ∃ F', F = F' + 1 := ⟨F - 1, by omega⟩
      have : decide (x < (bound : Int)) = false := by simp; omega
      rw [loopN, hc m x hPm hv, this]
      exact ⟨m, rfl, hPm⟩
    | succ n ih =>
      intro x m F hPm hv hb hF
      obtain ⟨F', rfl⟩ : ∃ F', F = F' + 1 := ⟨F - 1, by omega⟩
      rw [loopN, hc m x hPm hv]
      by_cases hlt : x < (bound : Int)
      · simp only [hlt, decide_true]
        rw [hbody]
        simp only []
        obtain ⟨m1, h1, hP1, hv1⟩ := hpost F' m x hPm hv
        rw [h1]
        simp only []
        exact ih (x + 1) m1 F' hP1 hv1 (by omega) (by omega)
      · simp only [hlt, decide_false]
        exact ⟨m, rfl, hPm⟩
  exact exists_fun (Q := fun m m' => exec R (.loop c body post) F m = .ok (m', .norm) ∧ P m')
    fun m hP => step bound 0 m F hP.1 hP.2 (by omega) hF

def l13c : Expr := match guL13 with | .loop c _ _ => c | _ => .none
def l13b : Stmt := match guL13 with | .loop _ b _ => b | _ => .skip
def l13p : Stmt := match guL13 with | .loop _ _ p => p | _ => .skip
def l17c : Expr := match guL17 with | .loop c _ _ => c | _ => .none
def l17b : Stmt := match guL17 with | .loop _ b _ => b | _ => .skip
def l17p : Stmt := match guL17 with | .loop _ _ p => p | _ => .skip

/-- The first cell loop of the gutter as a rewrite rule. -/
theorem l13_exec (R : Ro) (st : St) (cs : List Child) (F : Nat) (hF : R.H + 1 ≤ F) :
    ∃ g : M → M, ∀ m, (Is m st cs ["v3"] ∧ look R m "v13" = some 0) →
      exec R guL13 F m = .ok (g m, .norm) ∧ Is (g m) st cs ["v3"] :=
  count_loop R l13c l13b l13p "v13" R.H (fun m => Is m st cs ["v3"])
    (by intro m x _ hv; xt [l13c, guL13, hv])
    (by intro f m; xt [l13b, guL13])
    (by intro f m x hm hv; leaves (xt [l13p, guL13, hv, hm.us]) (xt [hm]))
    F hF

/-- The facts about the locals that the rest of the gutter block reads after the glyph loop. -/
def GuP (R : Ro) (x : Nat) (c : Child) (m : M) : Prop :=
  look R m "v15.Surface.Size.Height" = some (c.height : Int) ∧ look R m "v15.Origin.Row" = some c.row ∧
  look R m "v16.Size.Height" = some (c.height : Int) ∧ look R m "v16.Widget" = some (c.idx : Int) ∧
  look R m "v14" = some (x : Int)

/-- The glyph loop of the gutter as a rewrite rule. -/
theorem l17_exec (R : Ro) (st : St) (cs : List Child) (F : Nat) (x : Nat) (c : Child) (hF : c.height + 1 ≤ F) :
    ∃ g : M → M, ∀ m, ((Is m st cs ["v14", "v3"] ∧ GuP R x c m) ∧ look R m "v17" = some 0) →
      exec R guL17 F m = .ok (g m, .norm) ∧ Is (g m) st cs ["v14", "v3"] ∧ GuP R x c (g m) :=
  count_loop R l17c l17b l17p "v17" c.height (fun m => Is m st cs ["v14", "v3"] ∧ GuP R x c m)
    (by intro m y hP hv; xt [l17c, guL17, hv, hP.2.1])
    (by intro f m; xt [l17b, guL17])
    (by
      intro f m y ⟨hm, hG⟩ hv
      leaves (xt [l17p, guL17, hv, hm.us]) (unfold GuP at *; xt [hm, hG]))
    F hF

theorem gu_exec (R : Ro) (m : M) (st : St) (cs : List Child) (hm : Is m st cs ["v3"]) (F : Nat) (x : Nat)
    (hx : usubI ↑st.cursor ↑st.top = ↑x) (hFH : R.H + 1 ≤ F) (hFc : ∀ c ∈ cs, c.height + 1 ≤ F) :
    ∃ us', DrawUs us' ∧ ∃ m', exec R draw14 F m = .ok (m', .norm) ∧ Is m' st cs us' := by
  rw [draw14_eq]
  cases hdc : R.drawCursor
  · exact ⟨["v3"], by simp [DrawUs], m, by xt [draw14T, hdc], hm⟩
  · obtain ⟨g13, h13⟩ := l13_exec R st cs F hFH
    by_cases hcond : st.cursor ≥ st.top ∧ x < cs.length
    · have hxl := hcond.2
      have hget : cs[x]? = some cs[x] := List.getElem?_eq_getElem hxl
      have hxl' : ¬ (cs.length ≤ x) := by omega
      obtain ⟨g17, h17⟩ := l17_exec R st cs F x cs[x] (hFc _ (List.getElem_mem hxl))
      simp only [GuP] at h17
      refine ⟨["v14", "v3"], by simp [DrawUs], ?_, ?_, ?_⟩
      rotate_left
      · xt [draw14T, hdc, h13, hx, hcond.1, hxl, hxl', hget, h17, setAt, hm]
        rfl
      · simp (maxDischargeDepth := 4) [Is, dyn_store, h13, h17, hm]
        have : ({ idx := cs[x].idx, row := cs[x].row, height := cs[x].height } : Child) = cs[x] := rfl
        rw [this, List.set_getElem_self]
    · have hcond' : ¬ (st.top ≤ st.cursor ∧ x < cs.length) := hcond
      refine ⟨["v14", "v3"], by simp [DrawUs], ?_⟩
      leaves (xt [draw14T, hdc, h13, hx, hcond', hm]) (xt [h13, hm])

def drawRo (b : Nat → Option Nat) (cfg : Cfg) (W H : Nat) : Ro :=
  { roBase b cfg W H with
    call := fun n => if n = "d.insertChildren" then some (insertCallee expBodies (roBase b cfg W H)) else Option.none }

theorem runDraw_eq (b : Nat → Option Nat) (cfg : Cfg) (s : St) (W H F : Nat) :
    runDraw expBodies b cfg s W H F =
      (match exec (drawRo b cfg W H) (seqOf drawParts) F ⟨s, [], [], [], ""⟩ with
       | .error e => .error e
       | .ok (m, _) => .ok (m.st, m.cs)) := rfl

theorem d17_exec (R : Ro) (F : Nat) (m : M) : ∃ vs, exec R (seqOf [draw17]) F m = .ok (m, .ret vs) := by
  exact ⟨[(look R m "v1").getD 1, 0], by simp [seqOf, exec, atom, draw17, retVals, retVal]⟩

/-- What `Draw` returns once the downward loop has left the children `cs`: the cursor revealed, `top` and `offset`
    re-anchored on the child that covers row 0. -/
def drawOut (R : Ro) (st : St) (cs : List Child) : St × List Child :=
  let r := revealX cs st R.H (usub st.cursor st.top)
  let t := retop R.gap r.1 0 (r.2.top, r.2.offset)
  ({ r.2 with top := t.1, offset := t.2 }, r.1)

theorem draw_tail (R : Ro) (m : M) (st : St) (cs : List Child) (hm : Is m st cs ["v3"]) (F : Nat)
    (hFH : R.H + 1 ≤ F) (hFc : ∀ c ∈ cs, c.height + 1 ≤ F) :
    ∃ m' vs, exec R (seqOf [draw11, draw12, draw13, draw14, draw15, draw16, draw17]) F m = .ok (m', .ret vs) ∧
      (m'.st, m'.cs) = drawOut R st cs := by
  obtain ⟨m5, hth, hm5⟩ := th_exec R m st cs hm F [draw14, draw15, draw16, draw17]
  obtain ⟨us6, hus6, m6, hgu, hm6⟩ := gu_exec R m5 st cs hm5 F (usub st.cursor st.top) (toUintI_sub' _ _) hFH hFc
  obtain ⟨us7, hus7, m7, hrv, hm7⟩ := rv_exec R m6 st cs us6 hm6 hus6 F (usub st.cursor st.top) (toUintI_sub' _ _)
  rw [hth, seqOf_cons, hgu, andThen_norm]
  rw [seqOf_cons, draw15_eq, hrv, andThen_norm]
  unfold drawOut
  generalize revealX cs st R.H (usub st.cursor st.top) = rr at hm7 ⊢
  obtain ⟨cs2, ⟨c4, t4, o4, p4, w4⟩⟩ := rr
  simp only [] at hm7
  obtain ⟨m8, hrt, hm8⟩ := rt_range R c4 p4 w4 us7 hus7 F cs2 [] t4 o4 m7 hm7
  simp only [List.nil_append, List.length_nil] at hrt hm8
  obtain ⟨vs, h17⟩ := d17_exec R F m8
  rw [seqOf_cons, draw16_eq, exec_range, hm7.cs, hrt, andThen_norm]
  rw [h17]
  exact ⟨_, vs, rfl, by rw [hm8.st, hm8.cs]⟩

theorem draw_exec (hs : List Nat) (cfg : Cfg) (s : St) (W H F : Nat)
    (ht : s.top < 2 ^ 64) (hlen : hs.length < 2 ^ 64)
    (hF : s.top + hs.length + 2 ≤ F) (hFH : H + 1 ≤ F) (hFh : ∀ h ∈ hs, h + 1 ≤ F) :
    runDraw expBodies (builder hs) cfg s W H F =
      (match draw Facts.fixed cfg hs s W H with
       | .ok r => .ok r
       | .error _ => .error .panic) := by
  rw [runDraw_eq]
  generalize hR : drawRo (builder hs) cfg W H = R
  have hb : R.b = builder hs := by rw [← hR]; rfl
  have hgap : R.gap = cfg.gap := by rw [← hR]; rfl
  have hH : R.H = H := by rw [← hR]; rfl
  have hW : R.W = W := by rw [← hR]; rfl
  have hcall : R.call "d.insertChildren" = some (insertCallee expBodies (roBase (builder hs) cfg W H)) := by rw [← hR]; rfl
  unfold draw
  by_cases hub : H = 65535 ∨ W = 65535
  · have hub' : R.H = 65535 ∨ R.W = 65535 := by rw [hH, hW]; exact hub
    rw [if_pos hub]
    unfold drawParts
    rw [seqOf_cons, d0_exec, if_pos hub', andThen_error]
  · have hub' : ¬ (R.H = 65535 ∨ R.W = 65535) := by rw [hH, hW]; exact hub
    rw [if_neg hub]
    unfold drawParts
    rw [seqOf_cons, d0_exec, if_neg hub', andThen_norm]
    rw [seqOf_cons, d1_exec, andThen_norm]
    obtain ⟨hc1, hc2, hc3, hc4, hc5, _⟩ := DynList.clampTop_spec hs s (by unfold U; exact ht)
    have hcl : exec R draw2 F ⟨s, [], [], [], ""⟩ = .ok (⟨clampTop true hs s, [], [], [], ""⟩, .norm) := by
      obtain ⟨cursor, top, offset, pending, wants⟩ := s
      rw [draw2_eq, exec_loop]
      exact cl_loop R hs hb cursor pending wants [] [] [] "" top top offset F ht (Nat.le_refl _) (by simp only [] at hF; omega)
    rw [seqOf_cons, hcl, andThen_norm]
    simp only [show Facts.fixed.clampTop = true from rfl, show Facts.fixed.gapAbove = true from rfl,
      show Facts.fixed.insertStops = true from rfl, show Facts.fixed.revealAbove = true from rfl,
      show Facts.fixed.uintIndex = true from rfl, ↓reduceIte]
    generalize clampTop true hs s = s1 at hc1 hc2 hc3 hc4 hc5 ⊢
    obtain ⟨m1, hp, hm1, hp2, hp3⟩ := pro_exec R ⟨s1, [], [], [], ""⟩ s1 ⟨rfl, rfl, rfl⟩ F
      [draw7, draw8, draw9, draw10, draw11, draw12, draw13, draw14, draw15, draw16, draw17]
    rw [hp]
    obtain ⟨hpt, hpc, _, hpp⟩ := DynList.prologue_spec s1
    generalize prologue s1 = p at hm1 hp2 hp3 hpt hpc hpp ⊢
    obtain ⟨ah1, s2⟩ := p
    simp only [] at hm1 hp2 hp3 hpt hpc hpp ⊢
    have hsu := su_exec R (roBase (builder hs) cfg W H) hs hcall rfl (by rw [hgap]; rfl) m1 s2 hm1 F ah1 _ hp2 hp3
      (fun h => by have := (hpp h).1; omega) (by omega) (by omega)
    rw [hgap] at hsu
    rw [seqOf_cons]
    cases hsc : scrollUp true cfg.gap hs s2 ah1 with
    | error e =>
      rw [hsc] at hsu
      simp only [] at hsu ⊢
      rw [hsu, andThen_error]
    | ok r =>
      obtain ⟨ah2, s3, cs0⟩ := r
      rw [hsc] at hsu
      simp only [] at hsu ⊢
      obtain ⟨m2, hd7, hm2, hv2, hv3⟩ := hsu
      rw [hd7, andThen_norm]
      obtain ⟨t', w0, hl0, _, _, hlast, _, _⟩ := DynList.scrollUp_window true cfg.gap hs s2 ah1 ah2 s3 cs0 hsc (by unfold U; omega)
        (fun h => by rw [hpt]; exact (hpp h).1)
      obtain ⟨tail, etl, _, w1⟩ := DynList.drawDown_tail cfg.gap s3.wantsCursor s3.cursor (↑H) hs t' (hs.drop s2.top) s2.top ah2 cs0
      have hH1 := (etl ▸ w1 rfl w0 hl0 hlast : DynList.Window cfg.gap hs t' _).heights
      obtain ⟨m3, h89, hm3, h89a, h89b⟩ := d89_exec R m2 s3 cs0 hm2 F [draw10, draw11, draw12, draw13, draw14, draw15, draw16, draw17]
      rw [h89]
      rw [hv2] at h89a
      rw [hv3] at h89b
      have hbound : s2.top + (hs.drop s2.top).length < 2 ^ 64 := by
        rw [List.length_drop]
        rcases hc2 with h | h <;> omega
      obtain ⟨m4, hdd, hm4⟩ := dd_loop R hs hb s3 (hs.drop s2.top) s2.top ah2 cs0 m3 F hm3 rfl hbound
        (by rw [List.length_drop]; omega) h89a h89b
      rw [seqOf_cons, draw10_eq, exec_loop, hdd, andThen_norm]
      rw [hgap, hH] at hm4
      generalize drawDown cfg.gap s3.wantsCursor s3.cursor (↑H) (List.drop s2.top hs) s2.top ah2 cs0 = cs1 at hH1 hm4 ⊢
      obtain ⟨m, vs, htl, hout⟩ := draw_tail R m4 s3 cs1 hm4 F (by rw [hH]; exact hFH)
        (fun c hc => hFh _ (List.mem_of_getElem? (hH1 c hc)))
      rw [htl, DynList.gutter_ok, reveal_eq cs1 s3 H _ rfl]
      simp only []
      rw [hout, drawOut, hH, hgap]

theorem draw_head (R : Ro) (s : St) (F : Nat) (hub : ¬ (R.H = 65535 ∨ R.W = 65535))
    (hcl : evB R ⟨s, [], [], [], ""⟩ clCond = some false) (hno : (prologue s).1 ≤ 0) :
    ∃ m, exec R (seqOf drawParts) (F + 1) ⟨s, [], [], [], ""⟩ =
        exec R (seqOf [draw10, draw11, draw12, draw13, draw14, draw15, draw16, draw17]) (F + 1) m ∧
      Is m (prologue s).2 [] ["v3"] ∧ look R m "v2" = some (prologue s).1 ∧ look R m "v3" = some ((prologue s).2.top : Int) := by
  unfold drawParts
  rw [seqOf_cons, d0_exec, if_neg hub, andThen_norm]
  rw [seqOf_cons, d1_exec, andThen_norm]
  rw [seqOf_cons, draw2_eq, exec_loop, loopN, hcl, andThen_norm]
  obtain ⟨m1, hp, hm1, hp2, hp3⟩ := pro_exec R ⟨s, [], [], [], ""⟩ s ⟨rfl, rfl, rfl⟩ (F + 1)
    [draw7, draw8, draw9, draw10, draw11, draw12, draw13, draw14, draw15, draw16, draw17]
  rw [hp]
  generalize prologue s = p at hm1 hp2 hp3 hno ⊢
  obtain ⟨ah1, s2⟩ := p
  have hah : ¬ (ah1 > 0) := by simp only [] at hno; omega
  have h7 : exec R draw7 (F + 1) m1 = .ok (m1, .norm) := by
    xt [draw7, hp2, hah]
  rw [seqOf_cons, h7, andThen_norm]
  obtain ⟨m3, h89, hm3, h89a, h89b⟩ := d89_exec R m1 s2 [] hm1 (F + 1) [draw10, draw11, draw12, draw13, draw14, draw15, draw16, draw17]
  exact ⟨m3, h89, hm3, h89a.trans hp2, h89b.trans hp3⟩

theorem hang_loop (R : Ro) (hb : ∀ i, R.b i = some 0) (hgap : R.gap = 0) (hH : 1 ≤ R.H) (st : St) :
    ∀ (F : Nat) (acc : List Child) (m : M) (i : Nat), Is m st acc ["v3"] →
      look R m "v2" = some 0 → look R m "v3" = some ↑i →
      loopN (fun m => evB R m ddCond) (exec R ddBody) (exec R .skip) F m = .error .oof := by
  intro F
  induction F with
  | zero => intro acc m i _ _ _; rfl
  | succ F ih =>
    intro acc m i hm hv2 hv3
    obtain ⟨m1, hm1, h2, h3, hit⟩ := dd_iter R m st acc hm F 0 i (uadd i 1) 0 hv2 hv3 (hb i) (toUintI_add1 i)
    rw [hit, if_pos (Or.inr (by rw [hgap]; omega))]
    exact ih _ m1 (uadd i 1) hm1 (by rw [h2, hgap]; rfl) h3

theorem draw_hang (W H F : Nat) (hH : 1 ≤ H) (h1 : H ≠ 65535) (h2 : W ≠ 65535) :
    runDraw expBodies (fun _ => some 0) ⟨0, false⟩ init W H F = .error .oof := by
  rw [runDraw_eq]
  generalize hR : drawRo (fun _ => some 0) ⟨0, false⟩ W H = R
  have hb : ∀ i, R.b i = some 0 := by intro i; rw [← hR]; rfl
  have hgap : R.gap = 0 := by rw [← hR]; rfl
  have hRH : R.H = H := by rw [← hR]; rfl
  have hRW : R.W = W := by rw [← hR]; rfl
  have hub : ¬ (R.H = 65535 ∨ R.W = 65535) := by rw [hRH, hRW]; omega
  cases F with
  | zero =>
    unfold drawParts
    rw [seqOf_cons, d0_exec, if_neg hub, andThen_norm]
    rw [seqOf_cons, d1_exec, andThen_norm]
    rfl
  | succ F' =>
    obtain ⟨m, hhd, hm, hv2, hv3⟩ := draw_head R init F' hub (by rw [cl_cond]; rfl) (by decide)
    rw [hhd, seqOf_cons, draw10_eq, exec_loop, hang_loop R hb hgap (by omega) _ (F' + 1) [] m 0 hm hv2 hv3, andThen_error]

end VaxisModel.Lemmas.DynExec
