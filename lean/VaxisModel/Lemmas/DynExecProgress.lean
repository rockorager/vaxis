import VaxisModel.Lemmas.DynExecDraw

/-! The counterpart of F119i: a Builder that NEVER returns nil (an endless list) but whose widgets make progress
    (height + gap ≥ 1) is drawn in one bounded frame — `Draw`, executed on the statement trees (`expBodies`), returns
    with at most `max k 1` children (`draw_progress`; `Witness/F119i.lean` takes `k = H` from the initial state and
    transfers the statement to the regenerated body).  So the non-termination of F119i needs BOTH an endless Builder
    and zero progress. -/

namespace VaxisModel.Lemmas.DynExec
open VaxisModel.Model VaxisModel.Model.GoSyn VaxisModel.Model.DynExec VaxisModel.Model.DynList
open VaxisModel.Lemmas VaxisModel.Lemmas.DynTrees VaxisModel.Lemmas.DynExecStore

/-- `k` = the larger of the rows still missing to fill the viewport and, while the cursor is still to be reached, the distance to it
    (at least one widget is always drawn).  `n` only drives the induction. -/
theorem pos_loop (R : Ro) (Mx : Nat) (hb : ∀ i, ∃ h, R.b i = some h ∧ h ≤ Mx ∧ 1 ≤ (h : Int) + R.gap) (st : St) :
    ∀ (n k F : Nat) (acc : List Child) (m : M) (i : Nat) (ah : Int), Is m st acc ["v3"] → k < n →
      ((R.H : Int) - ah).toNat ≤ k → (st.wantsCursor = true → st.cursor + 1 - i ≤ k) → k + 2 ≤ F → i + k + 1 < 2 ^ 64 →
      look R m "v2" = some ah → look R m "v3" = some ↑i → (∀ c ∈ acc, c.height ≤ Mx) →
      ∃ acc' m', loopN (fun m => evB R m ddCond) (exec R ddBody) (exec R .skip) F m = .ok (m', .norm) ∧
          Is m' st acc' ["v3"] ∧ acc'.length ≤ acc.length + max k 1 ∧ (∀ c ∈ acc', c.height ≤ Mx) := by
  intro n
  induction n with
  | zero => intro k _ _ _ _ _ _ hk; omega
  | succ n ih =>
    intro k F acc m i ah hm hkn hk hcur hF hi hv2 hv3 hacc
    obtain ⟨F', rfl⟩ : ∃ F', F = F' + 1 := ⟨F - 1, by omega⟩
    obtain ⟨h, hbi, hM, hp⟩ := hb i
    have hacc' : ∀ c ∈ acc ++ [{ idx := i, row := ah, height := h }], c.height ≤ Mx := by
      intro c hc
      rcases List.mem_append.mp hc with h' | h'
      · exact hacc c h'
      · simp at h'; subst h'; exact hM
    obtain ⟨m1, hm1, h2, h3, hit⟩ := dd_iter R m st acc hm F' ah i (i + 1) h hv2 hv3 hbi (uaddI_succ i (by omega))
    rw [hit]
    split
    · rename_i hgo
      have hk2 : 2 ≤ k := by
        rcases hgo with ⟨hw, hc⟩ | hH
        · have := hcur hw; omega
        · omega
      obtain ⟨acc', m', he, hm', hl, hmx⟩ := ih (k - 1) F' (acc ++ [{ idx := i, row := ah, height := h }]) m1 (i + 1)
        (ah + (↑h + R.gap)) hm1 (by omega) (by omega) (fun hw => by have := hcur hw; omega) (by omega) (by omega) h2 h3 hacc'
      refine ⟨acc', m', he, hm', ?_, hmx⟩
      simp only [List.length_append, List.length_cons, List.length_nil] at hl
      omega
    · exact ⟨_, _, rfl, hm1, by simp only [List.length_append, List.length_cons, List.length_nil]; omega, hacc'⟩

theorem revealX_length (cs : List Child) (s : St) (H x : Nat) : (revealX cs s H x).1.length = cs.length := by
  unfold revealX
  split
  · split
    · split
      · simp only []; split
        · simp
        · split <;> simp
      · rfl
    · rfl
  · rfl

/-- **An endless Builder whose widgets make progress is drawn in one bounded frame**, from any state in which no upward
    scroll is due: `Draw`, executed on the statement trees, returns with at most `max k 1` children, where `k` bounds the
    rows to fill and, while the cursor is still to be reached, the distance to it. -/
theorem draw_progress (b : Nat → Option Nat) (cfg : Cfg) (s : St) (W H F Mx k : Nat)
    (hb : ∀ i, ∃ h, b i = some h ∧ h ≤ Mx ∧ 1 ≤ (h : Int) + cfg.gap)
    (h1 : H < 65535) (h2 : W ≠ 65535) (hno : (prologue s).1 ≤ 0)
    (hk : ((H : Int) - (prologue s).1).toNat ≤ k) (hcur : (prologue s).2.wantsCursor = true → s.cursor + 1 - s.top ≤ k)
    (hF : k + 2 ≤ F) (hFH : H + 1 ≤ F) (hFM : Mx + 1 ≤ F) (hidx : s.top + k + 1 < 2 ^ 64) :
    ∃ st cs, runDraw expBodies b cfg s W H F = .ok (st, cs) ∧ cs.length ≤ max k 1 := by
  rw [runDraw_eq]
  generalize hR : drawRo b cfg W H = R
  have hbR : ∀ i, ∃ h, R.b i = some h ∧ h ≤ Mx ∧ 1 ≤ (h : Int) + R.gap := by intro i; rw [← hR]; exact hb i
  have hRH : R.H = H := by rw [← hR]; rfl
  have hRW : R.W = W := by rw [← hR]; rfl
  obtain ⟨F', rfl⟩ : ∃ F', F = F' + 1 := ⟨F - 1, by omega⟩
  obtain ⟨h0, hb0, _, _⟩ := hbR s.top
  obtain ⟨m0, hhd, hm0, hv2, hv3⟩ := draw_head R s F' (by rw [hRH, hRW]; omega) (by rw [cl_cond]; simp [hb0]) hno
  obtain ⟨hpt, hpc, _⟩ := DynList.prologue_spec s
  obtain ⟨cs1, m4, hdd, hm4, hlen, hMx⟩ := pos_loop R Mx hbR (prologue s).2 (k + 1) k (F' + 1) [] m0 (prologue s).2.top (prologue s).1
    hm0 (Nat.lt_succ_self k) (by rw [hRH]; exact hk) (by rw [hpt, hpc]; exact hcur) hF (by rw [hpt]; exact hidx) hv2 hv3 (by simp)
  obtain ⟨m, vs, htl, hout⟩ := draw_tail R m4 (prologue s).2 cs1 hm4 (F' + 1) (by rw [hRH]; exact hFH)
    (fun c hc => by have := hMx c hc; omega)
  rw [hhd, seqOf_cons, draw10_eq, exec_loop, hdd, andThen_norm]
  rw [htl]
  refine ⟨m.st, m.cs, rfl, ?_⟩
  rw [show m.cs = (drawOut R (prologue s).2 cs1).2 from congrArg Prod.snd hout, drawOut]
  simp only []
  rw [revealX_length]
  simpa using hlen

end VaxisModel.Lemmas.DynExec
