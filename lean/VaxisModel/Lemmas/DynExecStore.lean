import VaxisModel.Model.DynExec
import VaxisModel.Lemmas.DynExecAttr

/-! The machine of `Model/DynExec.lean` as a store.  A run leaves its writes (`bind`, `withSt`, `withCs`, `withUs`) folded on the
    machine it started from; a read goes through them (`look_bind`) to a binding, a name of `fixedEnv` (`look_fixed`) or a fact
    about the start machine.  `look` asks `fixedEnv` before the bindings, so a write is seen only under a name that is none of
    `fixedNames`: the side condition of `look_bind`, `look_withSt`, `store_local`, discharged from `locals`.

    A lemma about a piece of a body starts on a variable `m`: `Is m st cs us` says what the piece needs of its state, children and
    `uint` locals, `look R m "v2" = some ah` what it reads of its locals (nothing is said about the other locals, so the lemma
    applies after any earlier piece).  It ends in `∃ m', run ∧ Is m' … ∧ look R m' … = …`, the same for the next piece.
    `leaves (xt […]) (xt […])` (`Lemmas/DynExec.lean`) proves that shape: the first `xt` runs the piece with `m'` still open and
    `rfl` then takes `m'` from the run, the second reads the facts off that machine.

    Two traps.  (1) The projections of a written machine (`(bind m x v).st = m.st`, …) must not be `rfl`-lemmas: as `dsimp` steps
    they leave elaborator and kernel to compare a written machine with the one it started from, field by field and through
    every write (`bind` mentions `m` once per field): `whnf` timeouts, kernel deep recursion.  They are proved by `cases m; rfl`.
    (2) Never write the machine a run leaves next to the run (`⟨bind (bind m …) …, rfl, …⟩`): a text that differs from the run's in
    one instance sends `isDefEq` through both chains of writes.  Let `rfl` on the run give it (`⟨_, rfl, …⟩`, `leaves`). -/
namespace VaxisModel.Lemmas.DynExecStore
open VaxisModel.Model VaxisModel.Model.GoSyn VaxisModel.Model.DynExec VaxisModel.Model.DynList

variable {R : Ro} {f : Nat} {m : M} {d : Nat} {a b c e : Expr} {x y : String} {v : Int}

/-- The names `fixedEnv` defines. -/
def fixedNames : List String :=
  ["d.scroll.offset", "d.scroll.pending", "d.scroll.top", "d.cursor", "d.scroll.wantsCursor", "d.Gap", "d.DrawCursor",
   "d.DisableEventHandlers", "v0.Max.Width", "v0.Max.Height", "v1.Size.Height", "nil", "true", "false"]

theorem lookup_append (p q : List (String × Int)) (n : String) :
    lookup (p ++ q) n = match lookup p n with | some v => some v | Option.none => lookup q n := by
  induction p with
  | nil => rfl
  | cons h p ih => obtain ⟨k, v⟩ := h; simp only [List.cons_append, lookup]; split <;> simp_all

theorem lookup_fixed_none (R : Ro) (s : St) (hx : x ∉ fixedNames) : lookup (fixedEnv R s) x = Option.none := by
  simp only [fixedNames, List.mem_cons, List.mem_nil_iff, or_false, not_or] at hx
  simp [fixedEnv, lookup, hx, Ne.symm]

-- projections: not `rfl`-lemmas, trap (1)

def withCs (m : M) (cs : List Child) : M := { m with cs := cs }
def withSt (m : M) (s : St) : M := { m with st := s }
def withUs (m : M) (us : List String) : M := { m with us := us }

@[dyn_store] theorem bind_st : (DynExec.bind m x v).st = m.st := by cases m; rfl
@[dyn_store] theorem bind_cs : (DynExec.bind m x v).cs = m.cs := by cases m; rfl
@[dyn_store] theorem bind_us : (DynExec.bind m x v).us = m.us := by cases m; rfl
@[dyn_store] theorem bind_tag : (DynExec.bind m x v).tag = m.tag := by cases m; rfl
@[dyn_store] theorem withCs_st {cs : List Child} : (withCs m cs).st = m.st := by cases m; rfl
@[dyn_store] theorem withCs_cs {cs : List Child} : (withCs m cs).cs = cs := by cases m; rfl
@[dyn_store] theorem withCs_us {cs : List Child} : (withCs m cs).us = m.us := by cases m; rfl
@[dyn_store] theorem withSt_st {s : St} : (withSt m s).st = s := by cases m; rfl
@[dyn_store] theorem withSt_cs {s : St} : (withSt m s).cs = m.cs := by cases m; rfl
@[dyn_store] theorem withSt_us {s : St} : (withSt m s).us = m.us := by cases m; rfl
@[dyn_store] theorem withSt_tag {s : St} : (withSt m s).tag = m.tag := by cases m; rfl
@[dyn_store] theorem withSt_withSt {s s' : St} : withSt (withSt m s) s' = withSt m s' := by cases m; rfl
@[dyn_store] theorem withUs_st {us : List String} : (withUs m us).st = m.st := by cases m; rfl
@[dyn_store] theorem withUs_cs {us : List String} : (withUs m us).cs = m.cs := by cases m; rfl
@[dyn_store] theorem withUs_us {us : List String} : (withUs m us).us = us := by cases m; rfl

/-- What a phase of a method says about the machine it starts from or leaves: the state, the children, the `uint` locals
    (a conjunction, so that `simp [hm]` rewrites with all three). -/
@[dyn_store] abbrev Is (m : M) (st : St) (cs : List Child) (us : List String) : Prop := m.st = st ∧ m.cs = cs ∧ m.us = us

theorem Is.st {st : St} {cs : List Child} {us : List String} (h : Is m st cs us) : m.st = st := h.1
theorem Is.cs {st : St} {cs : List Child} {us : List String} (h : Is m st cs us) : m.cs = cs := h.2.1
theorem Is.us {st : St} {cs : List Child} {us : List String} (h : Is m st cs us) : m.us = us := h.2.2

theorem Is.bind {st : St} {cs : List Child} {us : List String} (h : Is m st cs us) : Is (DynExec.bind m x v) st cs us :=
  ⟨bind_st.trans h.st, bind_cs.trans h.cs, bind_us.trans h.us⟩

theorem Is.withSt {st s : St} {cs : List Child} {us : List String} (h : Is m st cs us) : Is (withSt m s) s cs us :=
  ⟨withSt_st, withSt_cs.trans h.cs, withSt_us.trans h.us⟩

/-- A loop that ends on every machine with `P`, as a rewrite rule: the machine it leaves is `g m`. -/
theorem exists_fun {P : M → Prop} {Q : M → M → Prop} (h : ∀ m, P m → ∃ m', Q m m') : ∃ g : M → M, ∀ m, P m → Q m (g m) := by
  classical
  exact ⟨fun m => if hp : P m then Classical.choose (h m hp) else m,
    fun m hp => by simp only [dif_pos hp]; exact Classical.choose_spec (h m hp)⟩

@[dyn_store] theorem look_bind (hx : x ∉ fixedNames) :
    look R (DynExec.bind m x v) y = if x = y then some v else look R m y := by
  unfold look DynExec.bind
  simp only [lookup_append, lookup]
  by_cases h : x = y
  · subst h; simp [lookup_fixed_none R m.st hx]
  · simp [h]
theorem look_first {s : St} {cs : List Child} {ρ : List (String × Int)} {us : List String} {tag : String} (hx : x ∉ fixedNames) :
    look R ⟨s, cs, (x, v) :: ρ, us, tag⟩ x = some v := by
  have h := look_bind (R := R) (m := ⟨s, cs, ρ, us, tag⟩) (v := v) (y := x) hx
  rwa [if_pos rfl] at h
@[dyn_store] theorem look_withCs {cs : List Child} : look R (withCs m cs) y = look R m y := by cases m; rfl
@[dyn_store] theorem look_withUs {us : List String} : look R (withUs m us) y = look R m y := by cases m; rfl
@[dyn_store] theorem look_withSt {s : St} (hy : y ∉ fixedNames) : look R (withSt m s) y = look R m y := by
  unfold look withSt
  simp only [lookup_append, lookup_fixed_none R _ hy]

@[dyn_store] theorem look_fixed :
    look R m "d.scroll.offset" = some m.st.offset ∧ look R m "d.scroll.pending" = some m.st.pending ∧
    look R m "d.scroll.top" = some (m.st.top : Int) ∧ look R m "d.cursor" = some (m.st.cursor : Int) ∧
    look R m "d.scroll.wantsCursor" = some (bi m.st.wantsCursor) ∧ look R m "d.Gap" = some R.gap ∧
    look R m "d.DrawCursor" = some (bi R.drawCursor) ∧ look R m "d.DisableEventHandlers" = some (bi R.disable) ∧
    look R m "v0.Max.Width" = some (R.W : Int) ∧ look R m "v0.Max.Height" = some (R.H : Int) ∧
    look R m "v1.Size.Height" = some (R.H : Int) ∧ look R m "nil" = some 0 ∧ look R m "true" = some 1 ∧
    look R m "false" = some 0 := by
  simp [look, lookup, fixedEnv]

@[dyn_store] theorem store_local (hx : x ∉ fixedNames) : store m x v = DynExec.bind m x v := by
  simp only [fixedNames, List.mem_cons, List.mem_nil_iff, or_false, not_or] at hx
  simp [store, DynExec.bind, hx]
@[dyn_store] theorem store_cursor : store m "d.cursor" v = withSt m { m.st with cursor := DynInterp.toUint v } := by simp [store, withSt]
@[dyn_store] theorem store_top : store m "d.scroll.top" v = withSt m { m.st with top := DynInterp.toUint v } := by simp [store, withSt]
@[dyn_store] theorem store_offset : store m "d.scroll.offset" v = withSt m { m.st with offset := v } := by simp [store, withSt]
@[dyn_store] theorem store_pending : store m "d.scroll.pending" v = withSt m { m.st with pending := v } := by simp [store, withSt]
@[dyn_store] theorem store_wants : store m "d.scroll.wantsCursor" v = withSt m { m.st with wantsCursor := v != 0 } := by simp [store, withSt]

@[dyn_store] theorem withUs_self {us : List String} (h : m.us = us) : withUs m us = m := by subst h; rfl

@[dyn_store] theorem loc_v2 : "v2" ∉ fixedNames := by simp [fixedNames]

/-- The other locals of the seven methods. -/
@[dyn_store] theorem locals :
    "v3" ∉ fixedNames ∧ "v4" ∉ fixedNames ∧ "v5.Origin.Row" ∉ fixedNames ∧ "v5.Surface.Size.Height" ∉ fixedNames ∧
    "v5.Surface.Widget" ∉ fixedNames ∧ "v6" ∉ fixedNames ∧ "v7" ∉ fixedNames ∧ "v7.Draw.Size.Height" ∉ fixedNames ∧
    "v7.Draw.Widget" ∉ fixedNames ∧ "v8" ∉ fixedNames ∧ "v9.Size.Height" ∉ fixedNames ∧ "v9.Widget" ∉ fixedNames ∧
    "v10" ∉ fixedNames ∧ "v11" ∉ fixedNames ∧ "_" ∉ fixedNames ∧ "v12.Origin.Row" ∉ fixedNames ∧
    "v12.Surface.Size.Height" ∉ fixedNames ∧ "v12.Surface.Widget" ∉ fixedNames ∧ "v13" ∉ fixedNames ∧ "v14" ∉ fixedNames ∧
    "v15.Origin.Row" ∉ fixedNames ∧ "v15.Surface.Size.Height" ∉ fixedNames ∧ "v15.Surface.Widget" ∉ fixedNames ∧
    "v16.Size.Height" ∉ fixedNames ∧ "v16.Widget" ∉ fixedNames ∧ "v17" ∉ fixedNames ∧ "v18.Origin.Row" ∉ fixedNames ∧
    "v18.Surface.Size.Height" ∉ fixedNames ∧ "v18.Surface.Widget" ∉ fixedNames ∧ "v19" ∉ fixedNames ∧
    "v20.Origin.Row" ∉ fixedNames ∧ "v20.Surface.Size.Height" ∉ fixedNames ∧ "v20.Surface.Widget" ∉ fixedNames ∧
    "v21" ∉ fixedNames ∧ "v22" ∉ fixedNames ∧ "v23" ∉ fixedNames ∧ "v24.Origin.Row" ∉ fixedNames ∧
    "v24.Surface.Size.Height" ∉ fixedNames ∧ "v24.Surface.Widget" ∉ fixedNames ∧ "v25" ∉ fixedNames ∧ "v26" ∉ fixedNames ∧
    "v27.Origin.Row" ∉ fixedNames ∧ "v27.Surface.Size.Height" ∉ fixedNames ∧ "v27.Surface.Widget" ∉ fixedNames ∧
    "v28" ∉ fixedNames ∧ "v29.Origin.Row" ∉ fixedNames ∧ "v29.Surface.Size.Height" ∉ fixedNames ∧
    "v29.Surface.Widget" ∉ fixedNames ∧ "v5" ∉ fixedNames ∧ "v5.Draw.Size.Height" ∉ fixedNames ∧ "v5.Draw.Widget" ∉ fixedNames ∧
    "v6.Size.Height" ∉ fixedNames ∧ "v6.Widget" ∉ fixedNames ∧ "v8.Origin.Row" ∉ fixedNames ∧
    "v8.Surface.Size.Height" ∉ fixedNames ∧ "v8.Surface.Widget" ∉ fixedNames ∧ "v9" ∉ fixedNames ∧
    "v11.Origin.Row" ∉ fixedNames ∧ "v11.Surface.Size.Height" ∉ fixedNames ∧ "v11.Surface.Widget" ∉ fixedNames ∧
    "v0" ∉ fixedNames ∧ "v0.Draw.Size.Height" ∉ fixedNames ∧ "v0.Draw.Widget" ∉ fixedNames := by
  simp [fixedNames]

/-! `exec` of `s; t` is a `match` on the result of `s` with the run of `t` in an alternative; `simp` would run `t` on the bound
  machine before it knows what `s` leaves, and again afterwards.  `andThen` keeps `t` a statement until `s` has ended. -/

def andThen (R : Ro) (t : Stmt) (f : Nat) (r : Res) : Res :=
  match r with
  | .ok (m', .norm) => exec R t f m'
  | r => r

@[dyn_store ↓] theorem exec_seq (s t : Stmt) : exec R (.seq s t) f m = andThen R t f (exec R s f m) := by
  simp only [exec]; rfl
variable {t : Stmt}
@[dyn_store] theorem andThen_norm : andThen R t f (.ok (m, .norm)) = exec R t f m := rfl
@[dyn_store] theorem andThen_brk : andThen R t f (.ok (m, .brk)) = .ok (m, .brk) := rfl
@[dyn_store] theorem andThen_cont : andThen R t f (.ok (m, .cont)) = .ok (m, .cont) := rfl
@[dyn_store] theorem andThen_ret (vs : List Int) : andThen R t f (.ok (m, .ret vs)) = .ok (m, .ret vs) := rfl
@[dyn_store] theorem andThen_error (e : Err) : andThen R t f (.error e) = .error e := rfl
@[dyn_store] theorem andThen_ite (c : Prop) [Decidable c] (a b : Res) :
    andThen R t f (if c then a else b) = if c then andThen R t f a else andThen R t f b := by
  split <;> rfl

/-- An `if` statement, its branches kept statements until the condition has a value: then a Lean `if` on that value — a run
    that does not decide it executes both branches (so a proof can run the statements before the `if` once and split afterwards),
    a run that decides it only the one taken. -/
def ifThen (R : Ro) (t e : Stmt) (f : Nat) (m : M) (b : Option Bool) : Res :=
  match b with
  | Option.none => .error (.stuck "if condition")
  | some b => if b then exec R t f m else exec R e f m

@[dyn_store ↓] theorem exec_ite (c : Expr) (e : Stmt) : exec R (.ite c t e) f m = ifThen R t e f m (evB R m c) := by
  simp only [exec, ifThen]
  split <;> simp_all
@[dyn_store] theorem ifThen_some (e : Stmt) (b : Bool) :
    ifThen R t e f m (some b) = if b = true then exec R t f m else exec R e f m := rfl
@[dyn_store] theorem ifThen_none (e : Stmt) : ifThen R t e f m Option.none = .error (.stuck "if condition") := rfl

theorem exec_skip (R : Ro) (f : Nat) (m : M) : exec R .skip f m = .ok (m, .norm) := rfl
theorem exec_loop (R : Ro) (c : Expr) (b p : Stmt) (f : Nat) (m : M) :
    exec R (.loop c b p) f m = loopN (fun m => evB R m c) (exec R b) (exec R p) f m := rfl
theorem exec_range (R : Ro) (k v : String) (b : Stmt) (f : Nat) (m : M) :
    exec R (.range k v b) f m = rangeN k v (exec R b f) m.cs.length 0 m := rfl

@[dyn_store] theorem atom_break : atom R f m ⟨d, .breakS, a, b⟩ = .ok (m, .brk) := rfl
@[dyn_store] theorem atom_continue : atom R f m ⟨d, .continueS, a, b⟩ = .ok (m, .cont) := rfl
@[dyn_store] theorem atom_return : atom R f m ⟨d, .returnS, e, b⟩ = .ok (m, .ret (retVals R m e)) := rfl
@[dyn_store] theorem atom_var (ty : String) :
    atom R f m ⟨d, .varS, .var x, .lit ty⟩ = .ok (withUs (DynExec.bind m x 0) (if ty == "uint" then x :: m.us else m.us), .norm) := rfl
@[dyn_store] theorem atom_panic : atom R f m ⟨d, .exprS, .arg (.call (.var "panic")) a, b⟩ = .error .panic := rfl
@[dyn_store] theorem atom_ensureScroll : atom R f m ⟨d, .exprS, .call (.var "d.ensureScroll"), b⟩ =
    match callMethod R f m "d.ensureScroll" [] with
    | .ok (m', _) => .ok (m', .norm)
    | .error e => .error e := rfl
@[dyn_store] theorem atom_addChild (sf : String) :
    atom R f m ⟨d, .exprS, .arg (.arg (.arg (.call (.var "v1.AddChild")) a) c) (.var sf), b⟩ =
    match evI R m c, look R m (sf ++ ".Size.Height"), look R m (sf ++ ".Widget") with
    | some r, some h, some w => .ok (withCs m (m.cs ++ [{ idx := w.toNat, row := r, height := h.toNat }]), .norm)
    | _, _, _ => .error (.stuck "AddChild") := rfl
@[dyn_store] theorem atom_writeCell1 (e' : Expr) :
    atom R f m ⟨d, .exprS, .arg (.arg (.arg (.call (.var "v1.WriteCell")) a) c) e', b⟩ = .ok (m, .norm) := rfl
@[dyn_store] theorem atom_writeCell16 (e' : Expr) :
    atom R f m ⟨d, .exprS, .arg (.arg (.arg (.call (.var "v16.WriteCell")) a) c) e', b⟩ = .ok (m, .norm) := rfl
@[dyn_store] theorem atom_addChild16 (e' : Expr) :
    atom R f m ⟨d, .exprS, .arg (.arg (.arg (.call (.var "v16.AddChild")) a) c) e', b⟩ = .ok (m, .norm) := rfl
@[dyn_store] theorem atom_builder : atom R f m ⟨d, .define, .var x, .arg (.arg (.call (.var "d.Builder")) a) b⟩ =
    match evI R m a with
    | Option.none => .error (.stuck "Builder index")
    | some iv =>
      match R.b iv.toNat with
      | Option.none => .ok (DynExec.bind m x 0, .norm)
      | some h => .ok (DynExec.bind (DynExec.bind (DynExec.bind m x 1) (x ++ ".Draw.Size.Height") (h : Int)) (x ++ ".Draw.Widget") (iv.toNat : Int), .norm) := rfl
@[dyn_store] theorem atom_widgetDraw (sf er fn : String) : atom R f m ⟨d, .define, .pair (.var sf) (.var er), .arg (.call (.var fn)) a⟩ =
    match look R m (fn ++ ".Size.Height"), look R m (fn ++ ".Widget") with
    | some h, some w => .ok (DynExec.bind (DynExec.bind (DynExec.bind m (sf ++ ".Size.Height") h) (sf ++ ".Widget") w) er 0, .norm)
    | _, _ => .error (.stuck "widget Draw") := rfl
@[dyn_store] theorem atom_surface : atom R f m ⟨d, .define, .var x, .arg (.arg (.arg (.call (.var "vxfw.NewSurface")) a) b) (.var "d")⟩ =
    .ok (withCs m [], .norm) := rfl
@[dyn_store] theorem atom_surface15 :
    atom R f m ⟨d, .define, .var x, .arg (.arg (.arg (.call (.var "vxfw.NewSurface")) a) b) (.var "v15.Surface.Widget")⟩ =
    match evI R m b, evI R m (.var "v15.Surface.Widget") with
    | some hv, some w => .ok (DynExec.bind (DynExec.bind m (x ++ ".Size.Height") hv) (x ++ ".Widget") w, .norm)
    | _, _ => .error (.stuck "NewSurface") := rfl
@[dyn_store] theorem atom_subSurface (sf : String) :
    atom R f m ⟨d, .define, .var x, .arg (.arg (.arg (.call (.var "vxfw.NewSubSurface")) a) b) (.var sf)⟩ =
    match evI R m b, look R m (sf ++ ".Size.Height"), look R m (sf ++ ".Widget") with
    | some r, some h, some w => .ok (bindChild m x { idx := w.toNat, row := r, height := h.toNat }, .norm)
    | _, _, _ => .error (.stuck "NewSubSurface") := rfl
@[dyn_store] theorem atom_child : atom R f m ⟨d, .define, .var x, .index (.var "v1.Children") a⟩ =
    match evI R m a with
    | Option.none => .error (.stuck "index")
    | some iv =>
      if iv < 0 then .error .panic else
      match m.cs[iv.toNat]? with
      | Option.none => .error .panic
      | some c => .ok (bindChild m x c, .norm) := rfl
@[dyn_store] theorem atom_setChild : atom R f m ⟨d, .assign, .index (.var "v1.Children") a, .var x⟩ =
    match evI R m a, childOf R m x with
    | some iv, some c =>
      if iv < 0 ∨ iv.toNat ≥ m.cs.length then .error .panic else .ok (withCs m (setAt m.cs iv.toNat c), .norm)
    | _, _ => .error (.stuck "store child") := rfl
@[dyn_store] theorem atom_insert :
    atom R f m ⟨d, .assign, .var "v1.Children", .arg (.arg (.arg (.call (.var "slices.Insert")) (.var "v1.Children")) (.int 0)) (.var x)⟩ =
    match childOf R m x with
    | some c => .ok (withCs m (c :: m.cs), .norm)
    | Option.none => .error (.stuck "slices.Insert") := rfl
@[dyn_store] theorem atom_insertChildren :
    atom R f m ⟨d, .define, .var x, .arg (.arg (.arg (.call (.var "d.insertChildren")) a) c) e⟩ =
    match evI R m e with
    | Option.none => .error (.stuck "insertChildren arg")
    | some av =>
      match callMethod R f m "d.insertChildren" [av] with
      | .ok (m', vs) => .ok (DynExec.bind m' x (vs.headD 0), .norm)
      | .error e => .error e := rfl
@[dyn_store] theorem atom_call (fn : String) : atom R f m ⟨d, .define, .var x, .call (.var fn)⟩ =
    match callMethod R f m fn [] with
    | .ok (m', vs) => .ok (DynExec.bind m' x (vs.headD 0), .norm)
    | .error e => .error e := rfl
@[dyn_store] theorem atom_define_lit (s : String) : atom R f m ⟨d, .define, .var x, .lit s⟩ = .ok (DynExec.bind m x 1, .norm) := rfl
@[dyn_store] theorem atom_define_bin (op : String) : atom R f m ⟨d, .define, .var x, .bin op a b⟩ =
    match evI R m (.bin op a b) with
    | Option.none => .error (.stuck "define")
    | some v => .ok (withUs (DynExec.bind m x v) (if isU m.us (.bin op a b) then x :: m.us else m.us), .norm) := rfl
@[dyn_store] theorem atom_define_un (op : String) : atom R f m ⟨d, .define, .var x, .un op a⟩ =
    match evI R m (.un op a) with
    | Option.none => .error (.stuck "define")
    | some v => .ok (withUs (DynExec.bind m x v) (if isU m.us (.un op a) then x :: m.us else m.us), .norm) := rfl
@[dyn_store] theorem atom_define_var : atom R f m ⟨d, .define, .var x, .var y⟩ =
    match evI R m (.var y) with
    | Option.none => .error (.stuck "define")
    | some v => .ok (withUs (DynExec.bind m x v) (if isU m.us (.var y) then x :: m.us else m.us), .norm) := rfl
@[dyn_store] theorem atom_assign (hx : x ≠ "v1.Children") : atom R f m ⟨d, .assign, .var x, e⟩ =
    match evI R m e with
    | Option.none => .error (.stuck "assign")
    | some v => .ok (store m x v, .norm) := by
  unfold atom
  split <;> (try simp_all) <;> rfl
@[dyn_store] theorem atom_addAssign : atom R f m ⟨d, .addAssign, .var x, e⟩ =
    match look R m x, evI R m e with
    | some cur, some v => .ok (store m x (if isU m.us (.var x) then uaddI cur v else cur + v), .norm)
    | _, _ => .error (.stuck "+=") := rfl
@[dyn_store] theorem atom_subAssign : atom R f m ⟨d, .subAssign, .var x, e⟩ =
    match look R m x, evI R m e with
    | some cur, some v => .ok (store m x (if isU m.us (.var x) then usubI cur v else cur - v), .norm)
    | _, _ => .error (.stuck "-=") := rfl

/-- What `&&` and `||` on undecided conditions evaluate to. -/
@[dyn_store] theorem ite_some {α : Type} (c : Prop) [Decidable c] (a b : α) :
    (if c then some a else some b) = some (if c then a else b) := by
  split <;> rfl

-- for a body that ends in a way an undecided `if` chooses (not in the set: passed where a loop body is run once for all its ways)
theorem ite_ok {ε α : Type} (c : Prop) [Decidable c] (a b : α) :
    (if c then (Except.ok a : Except ε α) else .ok b) = .ok (if c then a else b) := by
  split <;> rfl
theorem ite_pair {α β : Type} (c : Prop) [Decidable c] (a b : α) (x y : β) :
    (if c then (a, x) else (b, y)) = (if c then a else b, if c then x else y) := by
  split <;> rfl
theorem andThen_ok_ite (c : Prop) [Decidable c] (x y : Ctl) :
    andThen R t f (.ok (m, if c then x else y)) = if c then andThen R t f (.ok (m, x)) else andThen R t f (.ok (m, y)) := by
  split <;> rfl

/-- `Int.toNat_natCast`, but not a `rfl`-lemma: as a `dsimp` step it makes the kernel unfold `usub …`
    (and then `% 2^64` on a symbolic number) when it re-checks the proof. -/
@[dyn_store] theorem toNat_cast' (x : Nat) : ((x : Int)).toNat = x := by omega

end VaxisModel.Lemmas.DynExecStore
