import VaxisModel.Model.DynInterp
import VaxisModel.Lemmas.DynSkelExpected

/-! Running the (expected) syntax of `Dynamic`'s small methods through `Model/DynInterp.lean` gives
    exactly the functions of `Model/DynList.lean`.  `Props/C19Tie.lean` transfers these statements to
    the regenerated syntax through the `skeleton_*` equalities. -/
namespace VaxisModel.Lemmas.DynInterp
open VaxisModel.Model VaxisModel.Model.GoSyn VaxisModel.Model.DynList VaxisModel.Model.DynInterp
open VaxisModel.Lemmas

theorem U_val : (U : Int) = 18446744073709551616 := by unfold U; rfl

theorem toUint_small (n : Nat) (h : n < 2 ^ 64) : toUint (n : Int) = n := by
  unfold toUint; rw [U_val]; omega

theorem ensureScroll_interp (hs : List Nat) (s : St) (hc : s.cursor < 2 ^ 64) (f : Nat) :
    exec hs DynSkelExpected.ensureScroll (f + 5) DynSkelExpected.ensureScroll s [] =
      some ⟨DynList.ensureScroll s, [], if s.cursor > s.top then some false else Option.none⟩ := by
  have hU : toUint (s.cursor : Int) = s.cursor := toUint_small _ hc
  unfold DynList.ensureScroll
  by_cases h : s.cursor > s.top
  · simp [exec, DynSkelExpected.ensureScroll, splitBlock, evalB, evalI, lookup, fieldEnv, store, retVal, h]
  · simp [exec, DynSkelExpected.ensureScroll, splitBlock, evalB, evalI, lookup, fieldEnv, store, h, hU]

theorem ensureScroll_run (hs : List Nat) (s : St) (hc : s.cursor < 2 ^ 64) (p : Int) :
    (runMethod hs DynSkelExpected.ensureScroll DynSkelExpected.ensureScroll s p).map (·.st) = some (DynList.ensureScroll s) := by
  have hU : toUint (s.cursor : Int) = s.cursor := toUint_small _ hc
  unfold DynList.ensureScroll
  by_cases h : s.cursor > s.top
  · simp [runMethod, exec, DynSkelExpected.ensureScroll, splitBlock, evalB, evalI, lookup, fieldEnv, store, retVal, h]
  · simp [runMethod, exec, DynSkelExpected.ensureScroll, splitBlock, evalB, evalI, lookup, fieldEnv, store, h, hU]

theorem setCursor_interp (hs : List Nat) (s : St) (c : Nat) (hc : c < 2 ^ 64) :
    (runMethod hs DynSkelExpected.ensureScroll DynSkelExpected.setCursor s c).map (·.st) = some (DynList.setCursor s c) := by
  have hU : toUint (c : Int) = c := toUint_small _ hc
  have he := ensureScroll_interp hs { s with cursor := c } (by show c < 2 ^ 64; omega) 25
  unfold DynList.setCursor
  simp only [runMethod]
  simp [exec, DynSkelExpected.setCursor, evalI, lookup, store, hU] at he ⊢
  rw [he]
  simp

theorem setPendingScroll_interp (hs : List Nat) (s : St) (k : Int) :
    (runMethod hs DynSkelExpected.ensureScroll DynSkelExpected.setPendingScroll s k).map (·.st) = some (DynList.setPending s k) := by
  simp [runMethod, exec, DynSkelExpected.setPendingScroll, evalI, lookup, store, DynList.setPending]

theorem nextItem_interp (hs : List Nat) (s : St) :
    (runMethod hs DynSkelExpected.ensureScroll DynSkelExpected.nextItem s 0).map (fun r => (r.st, r.ret)) =
      some ((DynList.nextItem hs s).1, some (DynList.nextItem hs s).2) := by
  have hU : toUint ((s.cursor : Int) + 1) = uadd s.cursor 1 := by
    unfold toUint uadd; rw [U_val]; unfold U; omega
  have hlt : uadd s.cursor 1 < 2 ^ 64 := by unfold uadd U; omega
  have he := ensureScroll_interp hs { s with cursor := uadd s.cursor 1 } hlt 23
  unfold DynList.nextItem
  cases hb : builder hs (uadd s.cursor 1) with
  | none =>
    simp [runMethod, exec, DynSkelExpected.nextItem, splitBlock, evalB, evalI, lookup, fieldEnv, retVal, hU, hb]
  | some h =>
    simp [runMethod, exec, DynSkelExpected.nextItem, splitBlock, evalB, evalI, lookup, fieldEnv, store, retVal, hU, hb] at he ⊢
    rw [he]
    simp

theorem prevItem_interp (hs : List Nat) (s : St) (hc : s.cursor < 2 ^ 64) :
    (runMethod hs DynSkelExpected.ensureScroll DynSkelExpected.prevItem s 0).map (fun r => (r.st, r.ret)) =
      some ((DynList.prevItem hs s).1, some (DynList.prevItem hs s).2) := by
  unfold DynList.prevItem
  by_cases h0 : s.cursor = 0
  · simp [runMethod, exec, DynSkelExpected.prevItem, splitBlock, evalB, evalI, lookup, fieldEnv, retVal, h0]
  · have hU : toUint ((s.cursor : Int) - 1) = s.cursor - 1 := by
      have := toUint_small (s.cursor - 1) (by omega)
      rw [← this]; congr 1; omega
    have hus : usub s.cursor 1 = s.cursor - 1 := by unfold usub U; omega
    have he := ensureScroll_interp hs { s with cursor := s.cursor - 1 } (by show s.cursor - 1 < 2 ^ 64; omega) 22
    rw [if_neg h0, hus]
    cases hb : builder hs (s.cursor - 1) with
    | none =>
      simp [runMethod, exec, DynSkelExpected.prevItem, splitBlock, evalB, evalI, lookup, fieldEnv, retVal, hU, hb, h0]
    | some h =>
      simp [runMethod, exec, DynSkelExpected.prevItem, splitBlock, evalB, evalI, lookup, fieldEnv, store, retVal, hU, hb, h0] at he ⊢
      rw [he]
      simp

end VaxisModel.Lemmas.DynInterp
