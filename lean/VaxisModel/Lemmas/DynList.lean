import VaxisModel.Model.DynList
import VaxisModel.Lemmas.ListBasic

/-! One `Draw` of vxfw/list `Dynamic` (`Model/DynList.lean`).  Every child list inside `Draw` is a `Window` of the item
    list (items `t, t + 1, …` one below the other) and the two steps that reassign rows move all rows by one amount
    (`shift`); each phase of `Draw` is specified by what it does to a window.  An operation other than `Draw` is
    described by `Moved`. -/
namespace VaxisModel.Lemmas.DynList
open VaxisModel.Lemmas.ListBasic (lt_of_getElem?)
open VaxisModel.Model.DynList

def Link (gap : Int) (c d : Child) : Prop :=
  d.idx = c.idx + 1 ∧ d.row = c.row + (c.height : Int) + gap

def Contig (gap : Int) : List Child → Prop
  | [] => True
  | [_] => True
  | c :: d :: rest => Link gap c d ∧ Contig gap (d :: rest)

def Heights (hs : List Nat) (cs : List Child) : Prop := ∀ c ∈ cs, hs[c.idx]? = some c.height

theorem contig_cons {gap : Int} {c : Child} {cs : List Child} (h : Contig gap cs)
    (hl : ∀ f, cs.head? = some f → Link gap c f) : Contig gap (c :: cs) := by
  cases cs with
  | nil => trivial
  | cons d rest => exact ⟨hl d rfl, h⟩

theorem contig_tail {gap : Int} {c : Child} {cs : List Child} (h : Contig gap (c :: cs)) : Contig gap cs := by
  cases cs with
  | nil => trivial
  | cons d rest => exact h.2

theorem contig_snoc {gap : Int} {c : Child} : ∀ {acc : List Child}, Contig gap acc →
    (∀ l, acc.getLast? = some l → Link gap l c) → Contig gap (acc ++ [c])
  | [], _, _ => trivial
  | [a], _, hl => ⟨hl a rfl, trivial⟩
  | a :: b :: rest, h, hl => by
    refine ⟨h.1, ?_⟩
    have := contig_snoc (acc := b :: rest) h.2 (fun l hlast => hl l (by simpa [List.getLast?_cons_cons] using hlast))
    simpa using this

theorem contig_get_idx {gap : Int} : ∀ (cs : List Child) (f : Child), Contig gap (f :: cs) →
    ∀ (m : Nat) (c : Child), (f :: cs)[m]? = some c → c.idx = f.idx + m := by
  intro cs
  induction cs with
  | nil =>
    intro f _ m c hm
    cases m with
    | zero => simp at hm; subst hm; rfl
    | succ k => simp at hm
  | cons d rest ih =>
    intro f hc m c hm
    cases m with
    | zero => simp at hm; subst hm; rfl
    | succ k =>
      have hm' : (d :: rest)[k]? = some c := by simpa using hm
      have i1 := ih d hc.2 k c hm'
      have l1 := hc.1.1
      omega

theorem contig_get_gap {gap : Int} (hg : 0 ≤ gap) : ∀ (cs : List Child) (f : Child), Contig gap (f :: cs) →
    ∀ (m : Nat) (c : Child), (f :: cs)[m]? = some c → 1 ≤ m → f.row + (f.height : Int) + gap ≤ c.row := by
  intro cs
  induction cs with
  | nil =>
    intro f _ m c hm h1
    cases m with
    | zero => omega
    | succ k => simp at hm
  | cons d rest ih =>
    intro f hc m c hm h1
    cases m with
    | zero => omega
    | succ k =>
      have hm' : (d :: rest)[k]? = some c := by simpa using hm
      obtain ⟨l1, l2⟩ := hc.1
      by_cases hk : k = 0
      · subst hk; simp at hm'; subst hm'; omega
      · have := ih d hc.2 k c hm' (by omega); omega

theorem contig_get {gap : Int} (hg : 0 ≤ gap) : ∀ (cs : List Child) (f : Child), Contig gap (f :: cs) →
    ∀ (m : Nat) (c : Child), (f :: cs)[m]? = some c →
      c.idx = f.idx + m ∧ (m = 0 → c = f) ∧ (1 ≤ m → f.row + (f.height : Int) ≤ c.row) := by
  intro cs f hc m c hm
  refine ⟨contig_get_idx cs f hc m c hm, fun h0 => ?_, fun h1 => ?_⟩
  · subst h0; simpa using hm.symm
  · have := contig_get_gap hg cs f hc m c hm h1; omega

theorem contig_pairwise {gap : Int} (hg : 0 ≤ gap) : ∀ (cs : List Child), Contig gap cs →
    ∀ (i j : Nat) (ci cj : Child), i < j → cs[i]? = some ci → cs[j]? = some cj →
      ci.idx < cj.idx ∧ ci.row + (ci.height : Int) + gap ≤ cj.row
  | [], _, i, j, ci, cj, _, h, _ => by simp at h
  | f :: rest, hc, 0, j, ci, cj, hij, hi, hj => by
    simp at hi; subst hi
    have h1 := contig_get_idx rest f hc j cj hj
    have h2 := contig_get_gap hg rest f hc j cj hj (by omega)
    exact ⟨by omega, h2⟩
  | f :: rest, hc, i + 1, j + 1, ci, cj, hij, hi, hj => by
    exact contig_pairwise hg rest (contig_tail hc) i j ci cj (by omega) (by simpa using hi) (by simpa using hj)
  | f :: rest, _, i + 1, 0, _, _, hij, _, _ => by omega

/-- Both places of `Draw` that reassign rows do this to the whole list: the restacking at the end of `insertChildren`
    (`restack_eq_shift`) and the wants-cursor block (`reveal_shift`). -/
def shift (δ : Int) (cs : List Child) : List Child := cs.map fun c => { c with row := c.row + δ }

theorem shift_zero (cs : List Child) : shift 0 cs = cs := by
  unfold shift
  conv => rhs; rw [← List.map_id cs]
  exact List.map_congr_left fun c _ => by simp

theorem shift_length (δ : Int) (cs : List Child) : (shift δ cs).length = cs.length := List.length_map _

theorem contig_shift {gap : Int} (δ : Int) : ∀ {cs : List Child}, Contig gap cs → Contig gap (shift δ cs)
  | [], _ => trivial
  | [_], _ => trivial
  | a :: b :: rest, h => by
    refine ⟨⟨h.1.1, ?_⟩, contig_shift δ (cs := b :: rest) h.2⟩
    have := h.1.2
    show b.row + δ = a.row + δ + (a.height : Int) + gap
    omega

theorem heights_shift {hs : List Nat} (δ : Int) {cs : List Child} (h : Heights hs cs) : Heights hs (shift δ cs) := by
  intro c hc
  simp only [shift, List.mem_map] at hc
  obtain ⟨c0, hc0, rfl⟩ := hc
  exact h c0 hc0

/-- `cs` shows the items `t, t + 1, …` of the builder, one directly below the other (plus the gap).  Every child list
    inside `Draw` is of this kind; the phases are specified by what they do to a window. -/
structure Window (gap : Int) (hs : List Nat) (t : Nat) (cs : List Child) : Prop where
  contig : Contig gap cs
  heights : Heights hs cs
  head : ∀ f, cs.head? = some f → f.idx = t

theorem Window.nil (gap : Int) (hs : List Nat) (t : Nat) : Window gap hs t [] :=
  { contig := trivial, heights := (by intro c h; cases h), head := (by intro f h; cases h) }

theorem Window.get {gap : Int} {hs : List Nat} {t : Nat} {cs : List Child} (w : Window gap hs t cs)
    {k : Nat} {c : Child} (hk : cs[k]? = some c) :
    c.idx = t + k ∧ hs[t + k]? = some c.height ∧ t + k < hs.length := by
  cases cs with
  | nil => simp at hk
  | cons f rest =>
    have hi := contig_get_idx rest f w.contig k c hk
    have hf := w.head f rfl
    have hh := w.heights c (List.mem_of_getElem? hk)
    rw [hi, hf] at hh
    exact ⟨by omega, hh, lt_of_getElem? hh⟩

theorem Window.head_row_le {gap : Int} (hg : 0 ≤ gap) {hs : List Nat} {t : Nat} {cs : List Child} (w : Window gap hs t cs)
    {f c : Child} {k : Nat} (hf : cs.head? = some f) (hk : cs[k]? = some c) : f.row ≤ c.row := by
  cases cs with
  | nil => simp at hk
  | cons f' rest =>
    cases hf
    cases k with
    | zero => simp at hk; subst hk; exact Int.le_refl _
    | succ k => have := contig_get_gap hg rest f w.contig (k + 1) c hk (by omega); omega

theorem Window.shift {gap : Int} {hs : List Nat} {t : Nat} {cs : List Child} (w : Window gap hs t cs) (δ : Int) :
    Window gap hs t (shift δ cs) :=
  ⟨contig_shift δ w.contig, heights_shift δ w.heights, fun f hf => by
    unfold DynList.shift at hf
    rw [List.head?_map] at hf
    cases hh : cs.head? with
    | none => rw [hh] at hf; cases hf
    | some g => rw [hh] at hf; cases hf; exact w.head g hh⟩

theorem Window.cons {gap : Int} {hs : List Nat} {t : Nat} {cs : List Child} (w : Window gap hs (t + 1) cs) {h : Nat}
    (hb : hs[t]? = some h) (r : Int) (hr : ∀ f, cs.head? = some f → f.row = r + (h : Int) + gap) :
    Window gap hs t ({ idx := t, row := r, height := h } :: cs) :=
  ⟨contig_cons w.contig (fun f hf => ⟨w.head f hf, hr f hf⟩),
   fun c hc => by
     rcases List.mem_cons.mp hc with rfl | hc
     · exact hb
     · exact w.heights c hc,
   fun f hf => by cases hf; rfl⟩

theorem Window.last_idx {gap : Int} {hs : List Nat} {t : Nat} {cs : List Child} (w : Window gap hs t cs) {i : Nat}
    (ht : t + cs.length = i) {l : Child} (hl : cs.getLast? = some l) : l.idx + 1 = i := by
  have hne : cs ≠ [] := by intro h; subst h; cases hl
  have hpos : 0 < cs.length := List.length_pos_iff.mpr hne
  have := (w.get (k := cs.length - 1) (by rw [← List.getLast?_eq_getElem?]; exact hl)).1
  omega

theorem Window.snoc {gap : Int} {hs : List Nat} {t : Nat} {cs : List Child} (w : Window gap hs t cs) {i h : Nat}
    (hi : hs[i]? = some h) (ht : t + cs.length = i) (ah : Int)
    (hl : ∀ l, cs.getLast? = some l → l.row + (l.height : Int) + gap = ah) :
    Window gap hs t (cs ++ [{ idx := i, row := ah, height := h }]) := by
  refine ⟨contig_snoc w.contig (fun l hlast => ?_), fun c hc => ?_, fun f hf => ?_⟩
  · exact ⟨(w.last_idx ht hlast).symm, (hl l hlast).symm⟩
  · rcases List.mem_append.mp hc with hc | hc
    · exact w.heights c hc
    · rw [List.mem_singleton.mp hc]; exact hi
  · cases cs with
    | nil => cases hf; show i = t; simpa using ht.symm
    | cons a rest => exact w.head f (by simpa using hf)

theorem drop_cons_getElem? {hs : List Nat} {i h : Nat} {rest : List Nat} (e : hs.drop i = h :: rest) :
    hs[i]? = some h ∧ hs.drop (i + 1) = rest := by
  constructor
  · have : (hs.drop i)[0]? = some h := by rw [e]; rfl
    simpa [List.getElem?_drop] using this
  · have : (hs.drop i).drop 1 = rest := by rw [e]; rfl
    simpa [List.drop_drop, Nat.add_comm] using this

theorem drawDown_tail (gap : Int) (wants : Bool) (cursor : Nat) (H : Int) (hs : List Nat) (t : Nat) :
    ∀ (rest : List Nat) (i : Nat) (ah : Int) (acc : List Child),
      ∃ tail, drawDown gap wants cursor H rest i ah acc = acc ++ tail ∧
        (∀ f, tail.head? = some f → f.idx = i ∧ f.row = ah) ∧
        (hs.drop i = rest → Window gap hs t acc → t + acc.length = i →
          (∀ l, acc.getLast? = some l → l.row + (l.height : Int) + gap = ah) → Window gap hs t (acc ++ tail)) := by
  intro rest
  induction rest with
  | nil => intro i ah acc; exact ⟨[], by simp [drawDown], fun _ h => (by cases h), fun _ w _ _ => by simpa using w⟩
  | cons h rest ih =>
    intro i ah acc
    obtain ⟨tail, e, _, hw⟩ := ih (i + 1) (ah + (h : Int) + gap) (acc ++ [{ idx := i, row := ah, height := h }])
    have snoc : hs.drop i = h :: rest → Window gap hs t acc → t + acc.length = i →
        (∀ l, acc.getLast? = some l → l.row + (l.height : Int) + gap = ah) →
        hs.drop (i + 1) = rest ∧ Window gap hs t (acc ++ [{ idx := i, row := ah, height := h }]) := fun he w ht hl =>
      ⟨(drop_cons_getElem? he).2, w.snoc (drop_cons_getElem? he).1 ht ah hl⟩
    have go : ∃ tail', drawDown gap wants cursor H rest (i + 1) (ah + (h : Int) + gap) (acc ++ [{ idx := i, row := ah, height := h }]) =
        acc ++ tail' ∧ (∀ f, tail'.head? = some f → f.idx = i ∧ f.row = ah) ∧
        (hs.drop i = h :: rest → Window gap hs t acc → t + acc.length = i →
          (∀ l, acc.getLast? = some l → l.row + (l.height : Int) + gap = ah) → Window gap hs t (acc ++ tail')) :=
      ⟨{ idx := i, row := ah, height := h } :: tail, by rw [e]; simp, fun f hf => by cases hf; exact ⟨rfl, rfl⟩,
        fun he w ht hl => by
          obtain ⟨hd, w'⟩ := snoc he w ht hl
          have := hw hd w' (by simp; omega) (fun l hlast => by
            simp only [List.getLast?_append, List.getLast?_singleton, Option.some_or, Option.some.injEq] at hlast
            subst hlast; rfl)
          simpa using this⟩
    simp only [drawDown]
    split
    · exact go
    · split
      · exact ⟨[{ idx := i, row := ah, height := h }], rfl, fun f hf => by cases hf; exact ⟨rfl, rfl⟩,
          fun he w ht hl => (snoc he w ht hl).2⟩
      · exact go

theorem usub_le {cursor top : Nat} (h1 : top ≤ cursor) (h2 : cursor < U) :
    usub cursor top = cursor - top := by
  unfold usub U at *; omega

theorem usub_one {top : Nat} (h0 : top ≠ 0) (hU : top < U) : usub top 1 = top - 1 := usub_le (Nat.pos_of_ne_zero h0) hU

theorem uadd_small {a b : Nat} (h : a + b < 2 ^ 63) : uadd a b = a + b := by unfold uadd U; omega

theorem toInt_small {u : Nat} (h : u < 2 ^ 63) : toInt u = (u : Int) := by
  unfold toInt; rw [if_pos h]

theorem builder_none {hs : List Nat} {i : Nat} : builder hs i = none ↔ hs.length ≤ i := by
  unfold builder; exact List.getElem?_eq_none_iff

theorem clampLoop_spec (hs : List Nat) : ∀ (fuel top : Nat) (off : Int), top ≤ fuel → top < U →
    (clampLoop hs fuel top off).1 ≤ top ∧
    ((clampLoop hs fuel top off).1 = 0 ∨ (clampLoop hs fuel top off).1 < hs.length) ∧
    ((top = 0 ∨ top < hs.length) → clampLoop hs fuel top off = (top, off)) := by
  intro fuel
  induction fuel with
  | zero =>
    intro top off h _
    have : top = 0 := by omega
    subst this
    exact ⟨Nat.le_refl _, Or.inl rfl, fun _ => rfl⟩
  | succ fuel ih =>
    intro top off hf hU
    simp only [clampLoop]
    split
    · rename_i hc
      have h0 : top ≠ 0 := by omega
      have hu := usub_one h0 hU
      have hn := builder_none.mp hc.2
      obtain ⟨r1, r2, _⟩ := ih (usub top 1) 0 (by rw [hu]; omega) (by rw [hu]; omega)
      rw [hu] at r1 r2 ⊢
      exact ⟨by omega, r2, fun h => by omega⟩
    · rename_i hc
      refine ⟨Nat.le_refl _, ?_, fun _ => rfl⟩
      by_cases h0 : top = 0
      · exact Or.inl h0
      · right
        have : ¬ builder hs top = none := fun h => hc ⟨by omega, h⟩
        rw [builder_none] at this
        omega

theorem clampTop_spec (hs : List Nat) (s : St) (hU : s.top < U) :
    (clampTop true hs s).top ≤ s.top ∧
    ((clampTop true hs s).top = 0 ∨ (clampTop true hs s).top < hs.length) ∧
    (clampTop true hs s).cursor = s.cursor ∧ (clampTop true hs s).wantsCursor = s.wantsCursor ∧
    (clampTop true hs s).pending = s.pending ∧
    ((s.top = 0 ∨ s.top < hs.length) → clampTop true hs s = s) := by
  obtain ⟨r1, r2, r3⟩ := clampLoop_spec hs s.top s.top s.offset (Nat.le_refl _) hU
  unfold clampTop
  rw [if_pos rfl]
  exact ⟨r1, r2, rfl, rfl, rfl, fun h => by rw [r3 h]⟩

/-- `t'`, the first item of the window the loop of `insertChildren` builds, is the returned top, or one below it when the loop
    stopped before inserting (height used up, no widget, fuel). -/
theorem insertLoop_window (stops : Bool) (g : Int) (hs : List Nat) : ∀ (fuel top : Nat) (ah : Int) (acc : List Child),
    top < U → Window g hs (top + 1) acc → (∀ f, acc.head? = some f → f.row = ah) →
    ∃ t' pre, (insertLoop stops g hs fuel top ah acc).2.2 = pre ++ acc ∧
      Window g hs t' (pre ++ acc) ∧ t' + pre.length = top + 1 ∧
      (insertLoop stops g hs fuel top ah acc).1 ≤ t' ∧ t' ≤ (insertLoop stops g hs fuel top ah acc).1 + 1 ∧
      (∀ f, (pre ++ acc).head? = some f → f.row = (insertLoop stops g hs fuel top ah acc).2.1) ∧
      (∀ l, pre.getLast? = some l → l.row + (l.height : Int) + g = ah) := by
  intro fuel
  induction fuel with
  | zero => intro top ah acc _ w hr; exact ⟨top + 1, [], rfl, w, rfl, by simp [insertLoop], by simp [insertLoop], hr, fun _ h => by cases h⟩
  | succ fuel ih =>
    intro top ah acc hU w hr
    have stay : ∃ t' pre, acc = pre ++ acc ∧ Window g hs t' (pre ++ acc) ∧ t' + pre.length = top + 1 ∧ top ≤ t' ∧ t' ≤ top + 1 ∧
        (∀ f, (pre ++ acc).head? = some f → f.row = ah) ∧ (∀ l, pre.getLast? = some l → l.row + (l.height : Int) + g = ah) :=
      ⟨top + 1, [], rfl, w, rfl, by omega, by omega, hr, fun _ h => by cases h⟩
    simp only [insertLoop]
    split
    · cases hb : builder hs top with
      | none => exact stay
      | some h =>
        simp only []
        have w' : Window g hs top ({ idx := top, row := ah - ((h : Int) + g), height := h } :: acc) :=
          w.cons hb _ (fun f hf => by rw [hr f hf]; omega)
        split
        · exact ⟨top, [_], rfl, w', rfl, Nat.le_refl _, by omega, fun f hf => by cases hf; rfl,
            fun l hl => by cases hl; show ah - ((h : Int) + g) + (h : Int) + g = ah; omega⟩
        · rename_i h0'
          have h0 : top ≠ 0 := fun h => h0' (Or.inl h)
          have hu := usub_one h0 hU
          rw [hu]
          obtain ⟨t', pre, e, wr, hl, h1, h2, h3, h4⟩ := ih (top - 1) (ah - ((h : Int) + g)) _ (by omega)
            (by rw [show top - 1 + 1 = top by omega]; exact w') (fun f hf => by cases hf; rfl)
          refine ⟨t', pre ++ [{ idx := top, row := ah - ((h : Int) + g), height := h }], by rw [e]; simp, by simpa using wr,
            by simp; omega, h1, h2, by simpa using h3, fun l hl => ?_⟩
          simp only [List.getLast?_append, List.getLast?_singleton, Option.some_or, Option.some.injEq] at hl
          subst hl
          show ah - ((h : Int) + g) + (h : Int) + g = ah; omega
    · exact stay

theorem insertLoop_exact (g : Int) (hs : List Nat) : ∀ (fuel top : Nat) (ah : Int) (acc : List Child),
    top < U → top < fuel → top < hs.length → ah > 0 →
    (∃ f, (insertLoop true g hs fuel top ah acc).2.2.head? = some f ∧ f.idx = (insertLoop true g hs fuel top ah acc).1) ∧
      ((insertLoop true g hs fuel top ah acc).2.1 ≤ 0 ∨ (insertLoop true g hs fuel top ah acc).1 = 0) := by
  intro fuel
  induction fuel with
  | zero => intro top ah acc _ h; omega
  | succ fuel ih =>
    intro top ah acc hU hfu hn hpos
    have hb : builder hs top = some hs[top] := by unfold builder; exact List.getElem?_eq_getElem hn
    simp only [insertLoop, hpos, if_true, hb]
    split
    · rename_i hstop
      refine ⟨⟨_, rfl, rfl⟩, ?_⟩
      rcases hstop with h | h
      · exact Or.inr h
      · exact Or.inl h.2
    · rename_i hcont
      have h0 : top ≠ 0 := fun h => hcont (Or.inl h)
      have hah : ah - ((hs[top] : Int) + g) > 0 := by
        have : ¬ (ah - ((hs[top] : Int) + g) ≤ 0) := fun h => hcont (Or.inr ⟨by simp, h⟩)
        omega
      rw [usub_one h0 hU]
      exact ih (top - 1) (ah - ((hs[top] : Int) + g)) _ (by omega) (by omega) (by omega) hah

theorem restack_eq_shift (g : Int) : ∀ (cs : List Child) (r : Int) (f : Child), Contig g cs → cs.head? = some f →
    restack g r cs = shift (r - f.row) cs
  | [], _, _, _, h => by cases h
  | [c], r, f, _, h => by
    cases h
    simp only [restack, shift, List.map_cons, List.map_nil, List.cons.injEq, and_true]
    congr 1; omega
  | c :: d :: rest, r, f, hc, h => by
    cases h
    have ih := restack_eq_shift g (d :: rest) (r + ((c.height : Int) + g)) d hc.2 rfl
    have e : r + ((c.height : Int) + g) - d.row = r - c.row := by have := hc.1.2; omega
    rw [e] at ih
    rw [restack, ih]
    simp only [shift, List.map_cons, List.cons.injEq]
    exact ⟨by congr 1; omega, trivial⟩

theorem restack_shift (g : Int) (cs : List Child) (r : Int) (hc : Contig g cs) :
    ∃ δ, restack g r cs = shift δ cs ∧ ∀ f, cs.head? = some f → f.row + δ = r := by
  cases h : cs.head? with
  | none => cases cs with
    | nil => exact ⟨0, rfl, fun _ h => by cases h⟩
    | cons a b => cases h
  | some f => exact ⟨_, restack_eq_shift g cs r f hc h, fun f' hf' => by cases hf'; omega⟩

theorem insertChildren_window (stops : Bool) (g : Int) (hs : List Nat) (top : Nat) (ah : Int) (h0 : top ≠ 0) (hU : top < U) :
    ∃ t', Window g hs t' (insertChildren stops g hs top ah).2.2 ∧ t' + (insertChildren stops g hs top ah).2.2.length = top ∧
      (insertChildren stops g hs top ah).1 ≤ t' ∧ t' ≤ (insertChildren stops g hs top ah).1 + 1 := by
  have hu := usub_one h0 hU
  obtain ⟨t', pre, e, w, hl, h1, h2, _, _⟩ := insertLoop_window stops g hs top (top - 1) ah [] (by omega)
    (Window.nil g hs _) (fun _ h => by cases h)
  rw [List.append_nil] at e w
  unfold insertChildren
  rw [hu]
  simp only []
  split
  · obtain ⟨δ, es, _⟩ := restack_shift g _ 0 (e ▸ w.contig)
    rw [es, e]
    exact ⟨t', w.shift δ, by rw [shift_length]; omega, h1, h2⟩
  · rw [e]; exact ⟨t', w, by omega, h1, h2⟩

theorem insertChildren_exact (g : Int) (hs : List Nat) (top : Nat) (ah : Int) (h0 : top ≠ 0) (hU : top < U)
    (hn : top - 1 < hs.length) (hpos : ah > 0) :
    ∃ f, (insertChildren true g hs top ah).2.2.head? = some f ∧ f.idx = (insertChildren true g hs top ah).1 ∧ f.row ≤ 0 := by
  have hu := usub_one h0 hU
  obtain ⟨⟨f, hf, hfi⟩, hstop⟩ := insertLoop_exact g hs top (top - 1) ah [] (by omega) (by omega) hn hpos
  obtain ⟨t', pre, e, w, _, _, _, hrow, _⟩ := insertLoop_window true g hs top (top - 1) ah [] (by omega)
    (Window.nil g hs _) (fun _ h => by cases h)
  rw [List.append_nil] at e w hrow
  have hfr := hrow f (e ▸ hf)
  unfold insertChildren
  rw [hu]
  simp only []
  split
  · obtain ⟨δ, es, hδ⟩ := restack_shift g _ 0 (e ▸ w.contig)
    rw [es]
    refine ⟨{ f with row := f.row + δ }, by simp [shift, List.head?_map, hf], hfi, ?_⟩
    have := hδ f hf
    show f.row + δ ≤ 0
    omega
  · rename_i hre
    refine ⟨f, hf, hfi, ?_⟩
    rw [hfr]
    rcases hstop with h | h
    · exact h
    · have : ¬ ((insertLoop true g hs top (top - 1) ah []).2.1 > 0) := fun hp => hre ⟨h, hp⟩
      omega

theorem prologue_spec (s : St) :
    (prologue s).2.top = s.top ∧ (prologue s).2.cursor = s.cursor ∧
    (prologue s).2.wantsCursor = s.wantsCursor ∧
    ((prologue s).1 > 0 → s.top ≠ 0 ∧ 0 < - (s.offset + s.pending)) := by
  unfold prologue
  simp only []
  split
  · exact ⟨rfl, rfl, rfl, fun h => absurd h (by omega)⟩
  · rename_i hn
    refine ⟨rfl, rfl, rfl, fun h => ?_⟩
    constructor
    · intro h0; exact hn ⟨h, h0⟩
    · exact h

theorem prologue_pending (s : St) : (prologue s).2.pending = 0 := by
  unfold prologue; simp only []; split <;> rfl

theorem scrollUp_window (stops : Bool) (g : Int) (hs : List Nat) (s1 : St) (ah1 ah2 : Int) (s2 : St) (cs0 : List Child)
    (he : scrollUp stops g hs s1 ah1 = .ok (ah2, s2, cs0)) (hU : s1.top < U) (h0 : ah1 > 0 → s1.top ≠ 0) :
    ∃ t', Window g hs t' cs0 ∧ t' + cs0.length = s1.top ∧ s2.top ≤ t' ∧ t' ≤ s2.top + 1 ∧
      (∀ l, cs0.getLast? = some l → l.row + (l.height : Int) + g = ah2) ∧
      (¬ ah1 > 0 → cs0 = [] ∧ s2 = s1 ∧ ah2 = ah1) ∧
      s2 = { s1 with top := s2.top, offset := s2.offset } := by
  unfold scrollUp at he
  split at he
  · rename_i hpos
    obtain ⟨t', w, hl, h1, h2⟩ := insertChildren_window stops g hs s1.top ah1 (h0 hpos) hU
    simp only [] at he
    split at he
    · cases he
    · rename_i last hlast
      cases he
      exact ⟨t', w, hl, h1, h2, fun l hl' => by rw [hlast] at hl'; cases hl'; rfl, fun h => absurd hpos h, rfl⟩
  · cases he
    exact ⟨s1.top, Window.nil _ _ _, rfl, Nat.le_refl _, by omega, fun _ h => (by cases h), fun _ => ⟨rfl, rfl, rfl⟩, rfl⟩

theorem scrollUp_ok (g : Int) (hs : List Nat) (s1 : St) (ah1 : Int) (hU : s1.top < U)
    (h0 : ah1 > 0 → s1.top ≠ 0 ∧ s1.top < hs.length) :
    ∃ ah2 s2 cs0, scrollUp true g hs s1 ah1 = .ok (ah2, s2, cs0) ∧ Window g hs s2.top cs0 ∧
      s2.top + cs0.length = s1.top ∧ (∀ f, cs0.head? = some f → f.row ≤ 0) ∧ (cs0 = [] → ah2 ≤ 0) ∧
      (∀ l, cs0.getLast? = some l → l.row + (l.height : Int) + g = ah2) ∧
      (¬ ah1 > 0 → cs0 = [] ∧ s2 = s1 ∧ ah2 = ah1) ∧ s2 = { s1 with top := s2.top, offset := s2.offset } := by
  by_cases hpos : ah1 > 0
  · obtain ⟨hne, hlt⟩ := h0 hpos
    obtain ⟨f, hf, hfi, hfr⟩ := insertChildren_exact g hs s1.top ah1 hne hU (by omega) hpos
    have hne' : (insertChildren true g hs s1.top ah1).2.2 ≠ [] := by intro h; rw [h] at hf; cases hf
    cases hl : (insertChildren true g hs s1.top ah1).2.2.getLast? with
    | none => exact absurd (List.getLast?_eq_none_iff.mp hl) hne'
    | some last =>
      have he : scrollUp true g hs s1 ah1 = .ok (last.row + (last.height : Int) + g,
          { s1 with top := (insertChildren true g hs s1.top ah1).1, offset := (insertChildren true g hs s1.top ah1).2.1 },
          (insertChildren true g hs s1.top ah1).2.2) := by
        unfold scrollUp; simp only [hpos, if_true, hl]
      obtain ⟨t', w, hlen, _, _, hlast, hno, es⟩ := scrollUp_window true g hs s1 ah1 _ _ _ he hU (fun h => (h0 h).1)
      have ht : t' = (insertChildren true g hs s1.top ah1).1 := by rw [← w.head f hf, hfi]
      subst ht
      exact ⟨_, _, _, he, w, hlen, fun f' hf' => by rw [hf] at hf'; cases hf'; exact hfr, fun h => absurd h hne', hlast, hno, es⟩
  · exact ⟨ah1, s1, [], by unfold scrollUp; rw [if_neg hpos], Window.nil _ _ _, rfl, fun _ h => (by cases h), fun _ => by omega,
      fun _ h => (by cases h), fun _ => ⟨rfl, rfl, rfl⟩, rfl⟩

/-- The wants-cursor block when the cursored child `ch` is among the children: every child is moved so that the bottom of
    `ch` comes to the last row (it was below the viewport), or its top to row 0 (it was above; repaired code), or not at all. -/
theorem reveal_found (above u : Bool) (cs : List Child) (s : St) (H : Nat) (ch : Child) (hw : s.wantsCursor = true)
    (hcc : cursorChild u cs s.cursor s.top = .ok (some ch)) :
    reveal above u cs s H = .ok (shift (if ch.row + (ch.height : Int) > H then (H : Int) - (ch.row + (ch.height : Int))
      else if above = true ∧ ch.row < 0 then - ch.row else 0) cs, { s with wantsCursor := false }) := by
  unfold reveal
  rw [if_pos hw, hcc]
  simp only []
  split
  · rfl
  · split
    · rfl
    · rw [shift_zero]

theorem reveal_shift (above u : Bool) (cs : List Child) (s : St) (H : Nat) (cs2 : List Child) (s3 : St)
    (he : reveal above u cs s H = .ok (cs2, s3)) :
    ∃ δ : Int, cs2 = shift δ cs ∧ s3 = { s with wantsCursor := s3.wantsCursor } ∧
      (δ ≤ 0 ∨ ∃ ch, s.wantsCursor = true ∧ cursorChild u cs s.cursor s.top = .ok (some ch) ∧ δ = - ch.row) ∧
      (s3.wantsCursor = true → s.wantsCursor = true ∧ cursorChild u cs s.cursor s.top = .ok none) := by
  by_cases hw : s.wantsCursor = true
  · cases hcc : cursorChild u cs s.cursor s.top with
    | error e => unfold reveal at he; rw [if_pos hw, hcc] at he; cases he
    | ok r =>
      cases r with
      | none =>
        unfold reveal at he; rw [if_pos hw, hcc] at he; cases he
        exact ⟨0, (shift_zero _).symm, rfl, Or.inl (Int.le_refl 0), fun _ => ⟨hw, rfl⟩⟩
      | some ch =>
        rw [reveal_found above u cs s H ch hw hcc] at he; cases he
        refine ⟨_, rfl, rfl, ?_, fun h => by cases h⟩
        split
        · exact Or.inl (by omega)
        · split
          · exact Or.inr ⟨ch, hw, rfl, rfl⟩
          · exact Or.inl (Int.le_refl 0)
  · unfold reveal at he; rw [if_neg hw] at he; cases he
    exact ⟨0, (shift_zero _).symm, rfl, Or.inl (Int.le_refl 0), fun h => absurd h hw⟩

/-- `hg`: the upward-scroll code counts the gap (repair F119c present), or the gap is 0. -/
theorem draw_layout (guard : Facts) (cfg : Cfg) (hs : List Nat) (s : St) (W H : Nat)
    (hU : s.top < U) (hC : guard.clampTop = true)
    (hg : guard.gapAbove = true ∨ cfg.gap = 0)
    (s' : St) (cs : List Child) (he : draw guard cfg hs s W H = .ok (s', cs)) :
    Contig cfg.gap cs ∧ Heights hs cs := by
  have hgg : (if guard.gapAbove = true then cfg.gap else 0) = cfg.gap := by
    rcases hg with h | h
    · rw [if_pos h]
    · split
      · rfl
      · exact h.symm
  unfold draw at he
  split at he
  · cases he
  · rw [hC] at he
    obtain ⟨k1, _, _, _, _, _⟩ := clampTop_spec hs s hU
    obtain ⟨p1, p2, p3, p4⟩ := prologue_spec (clampTop true hs s)
    simp only [hgg] at he
    split at he
    · cases he
    · rename_i ah2 s2 cs0 hsu
      obtain ⟨t', w0, hl0, _, _, e0, _, _⟩ := scrollUp_window _ cfg.gap hs _ _ ah2 s2 cs0 hsu (by rw [p1]; omega)
        (fun h => by rw [p1]; exact (p4 h).1)
      obtain ⟨tail, e1, _, w1⟩ := drawDown_tail cfg.gap s2.wantsCursor s2.cursor H hs t' _
        (prologue (clampTop true hs s)).2.top ah2 cs0
      split at he
      · cases he
      · split at he
        · cases he
        · rename_i cs2 s3 hrev
          cases he
          obtain ⟨δ, rfl, _⟩ := reveal_shift _ _ _ _ _ _ _ hrev
          have w := ((e1 ▸ w1 rfl w0 hl0 e0 : Window cfg.gap hs t' _)).shift δ
          exact ⟨w.contig, w.heights⟩

theorem ensureScroll_cursor (s : St) (c : Nat) :
    (ensureScroll { s with cursor := c }).cursor = c ∧ (ensureScroll { s with cursor := c }).top ≤ c ∧
    ((ensureScroll { s with cursor := c }).top = s.top ∨ (ensureScroll { s with cursor := c }).top = c ∧ c ≤ s.top) ∧
    ((ensureScroll { s with cursor := c }).wantsCursor = false →
      (ensureScroll { s with cursor := c }).top = c ∧ (ensureScroll { s with cursor := c }).offset = 0 ∧
      (ensureScroll { s with cursor := c }).pending = 0) := by
  unfold ensureScroll
  simp only []
  split
  · rename_i h; exact ⟨rfl, Nat.le_of_lt h, Or.inl rfl, fun h => by cases h⟩
  · rename_i h; exact ⟨rfl, Nat.le_refl _, Or.inr ⟨rfl, by simpa using h⟩, fun _ => ⟨rfl, rfl, rfl⟩⟩

/-- Operations the API admits: cursors are `uint` values (below 2^64), draw contexts are bounded
    (`Dynamic.Draw` panics by design otherwise). -/
def OpOk : Op → Prop
  | .setCursor c => c < U
  | .draw W H => W ≠ 65535 ∧ H ≠ 65535
  | _ => True

/-- What an operation other than `Draw` does to the scroll state: it sets the pending scroll (possibly to what it was),
    or it moves the cursor to a `uint` value and calls `ensureScroll`. -/
inductive Moved (s : St) : St → Prop
  | pending (k : Int) : Moved s { s with pending := k }
  | cursor (c : Nat) (hc : c < U) : Moved s (ensureScroll { s with cursor := c })

theorem Moved.same (s : St) : Moved s s := Moved.pending s.pending

theorem step_moved (F : Facts) (cfg : Cfg) (hs : List Nat) (s : St) (op : Op) (ho : OpOk op) :
    (∃ W H, op = .draw W H) ∨ ∃ s', step F cfg hs s op = .ok s' ∧ Moved s s' := by
  have hU : ∀ n, n % U < U := fun n => Nat.mod_lt _ (by unfold U; decide)
  cases op with
  | draw W H => exact Or.inl ⟨W, H, rfl⟩
  | setCursor c => exact Or.inr ⟨_, rfl, .cursor c ho⟩
  | pending k => exact Or.inr ⟨_, rfl, .pending k⟩
  | wheelDown => exact Or.inr ⟨_, rfl, .pending _⟩
  | wheelUp =>
    refine Or.inr ⟨_, rfl, ?_⟩; unfold wheelUp; split
    · exact .pending _
    · exact .same s
  | next =>
    refine Or.inr ⟨_, rfl, ?_⟩; unfold nextItem; split
    · exact .same s
    · exact .cursor (uadd s.cursor 1) (hU _)
  | prev =>
    refine Or.inr ⟨_, rfl, ?_⟩; unfold prevItem; split
    · exact .same s
    · split
      · exact .same s
      · dsimp only; exact .cursor (usub s.cursor 1) (hU _)

def EmptyInv (s : St) : Prop := s.top = 0 ∧ s.cursor < U

theorem cursorChild_nil (cursor : Nat) (h : cursor < U) : cursorChild true [] cursor 0 = .ok none := by
  have hu : usub cursor 0 = cursor := by unfold usub U at *; omega
  unfold cursorChild
  simp [hu]

theorem draw_empty (guard : Facts) (hu : guard.uintIndex = true) (cfg : Cfg) (s : St) (W H : Nat) (hi : EmptyInv s)
    (hW : W ≠ 65535) (hH : H ≠ 65535) :
    ∃ s', draw guard cfg [] s W H = .ok (s', []) ∧ EmptyInv s' := by
  obtain ⟨ht, hc⟩ := hi
  have hcl : clampTop guard.clampTop [] s = s := by
    unfold clampTop
    split
    · rw [ht]; simp only [clampLoop]
      cases s; simp_all
    · rfl
  obtain ⟨p1, p2, p3, p4⟩ := prologue_spec s
  have hah : ¬ (prologue s).1 > 0 := fun h => (p4 h).1 ht
  unfold draw
  rw [hcl]
  have hb : ¬ (H = 65535 ∨ W = 65535) := by omega
  simp only [hb, if_false, scrollUp, hah, List.drop_nil, drawDown, gutter, reveal, hu]
  have hcc : cursorChild true [] (prologue s).2.cursor (prologue s).2.top = .ok none := by
    rw [p1, p2, ht]; exact cursorChild_nil _ hc
  simp only [hcc, ite_self]
  exact ⟨_, rfl, by simp [retop, p1, ht], by simp [p2, hc]⟩

theorem Moved.empty {s s' : St} (h : Moved s s') (hi : EmptyInv s) : EmptyInv s' := by
  obtain ⟨ht, hc⟩ := hi
  cases h with
  | pending k => exact ⟨ht, hc⟩
  | cursor c hc' =>
    obtain ⟨e1, _, e3, _⟩ := ensureScroll_cursor s c
    exact ⟨by omega, by rw [e1]; exact hc'⟩

theorem step_empty (guard : Facts) (hu : guard.uintIndex = true) (cfg : Cfg) (s : St) (op : Op) (hi : EmptyInv s) (ho : OpOk op) :
    ∃ s', step guard cfg [] s op = .ok s' ∧ EmptyInv s' := by
  rcases step_moved guard cfg [] s op ho with ⟨W, H, rfl⟩ | ⟨s', he, hm⟩
  · obtain ⟨s', he, hi'⟩ := draw_empty guard hu cfg s W H hi ho.1 ho.2
    exact ⟨s', by simp [step, he], hi'⟩
  · exact ⟨s', he, hm.empty hi⟩

theorem run_keeps (F : Facts) (cfg : Cfg) (hs : List Nat) (P : St → Prop)
    (hstep : ∀ s op, P s → OpOk op → ∃ s', step F cfg hs s op = .ok s' ∧ P s') :
    ∀ (ops : List Op) (s : St), P s → (∀ op ∈ ops, OpOk op) → ∃ s', run F cfg hs s ops = .ok s' ∧ P s'
  | [], s, hi, _ => ⟨s, rfl, hi⟩
  | op :: ops, s, hi, ho => by
    obtain ⟨s1, he, hi1⟩ := hstep s op hi (ho op List.mem_cons_self)
    obtain ⟨s2, he2, hi2⟩ := run_keeps F cfg hs P hstep ops s1 hi1 (fun o h => ho o (List.mem_cons_of_mem _ h))
    exact ⟨s2, by simp [run, he, he2], hi2⟩

theorem run_empty (guard : Facts) (hu : guard.uintIndex = true) (cfg : Cfg) : ∀ (ops : List Op) (s : St), EmptyInv s →
    (∀ op ∈ ops, OpOk op) → ∃ s', run guard cfg [] s ops = .ok s' ∧ EmptyInv s' :=
  run_keeps guard cfg [] EmptyInv (step_empty guard hu cfg)

theorem drawDown_length_ge (gap : Int) (wants : Bool) (cursor : Nat) (H : Int)
    (rest : List Nat) (i : Nat) (ah : Int) (acc : List Child) :
    acc.length ≤ (drawDown gap wants cursor H rest i ah acc).length := by
  obtain ⟨t, ht, _⟩ := drawDown_tail gap wants cursor H [] 0 rest i ah acc
  rw [ht, List.length_append]; omega

theorem drawDown_nonempty (gap : Int) (wants : Bool) (cursor : Nat) (H : Int)
    (h : Nat) (rest : List Nat) (i : Nat) (ah : Int) (acc : List Child) :
    acc.length + 1 ≤ (drawDown gap wants cursor H (h :: rest) i ah acc).length := by
  have := drawDown_length_ge gap wants cursor H rest (i + 1) (ah + (h : Int) + gap) (acc ++ [{ idx := i, row := ah, height := h }])
  simp only [List.length_append, List.length_cons, List.length_nil] at this
  simp only [drawDown]
  split
  · omega
  · split
    · simp
    · omega

theorem drawDown_reaches (gap : Int) (cursor : Nat) (H : Int) :
    ∀ (rest : List Nat) (i : Nat) (ah : Int) (acc : List Child),
      acc.length + min rest.length (cursor + 1 - i) ≤ (drawDown gap true cursor H rest i ah acc).length := by
  intro rest
  induction rest with
  | nil => intro i ah acc; simp [drawDown]
  | cons h rest ih =>
    intro i ah acc
    have h1 := ih (i + 1) (ah + (h : Int) + gap) (acc ++ [{ idx := i, row := ah, height := h }])
    have h2 := drawDown_length_ge gap true cursor H rest (i + 1) (ah + (h : Int) + gap) (acc ++ [{ idx := i, row := ah, height := h }])
    simp only [List.length_append, List.length_cons] at h1 h2 ⊢
    simp only [drawDown]
    split
    · omega
    · rename_i hn
      have : ¬ (i + 1 ≤ cursor) := fun h => hn ⟨by simp, h⟩
      split
      · simp only [List.length_append, List.length_singleton]; omega
      · omega

theorem cursorChild_hit (cs : List Child) (cursor top : Nat) (c : Child)
    (h1 : top ≤ cursor) (h2 : cursor < U) (hc : cs[cursor - top]? = some c) :
    cursorChild true cs cursor top = .ok (some c) := by
  have hu : usub cursor top = cursor - top := usub_le h1 h2
  have hl : cursor - top < cs.length := lt_of_getElem? hc
  unfold cursorChild
  simp only [hu, hc, if_true]
  rw [if_pos hl]

def Visible (H : Nat) (c : Child) : Prop :=
  c.row < (H : Int) ∧ 0 < c.row + (c.height : Int) ∧
    (c.height ≤ H → 0 ≤ c.row ∧ c.row + (c.height : Int) ≤ H)

theorem reveal_visible (cs : List Child) (s : St) (H : Nat) (c : Child)
    (hH : 1 ≤ H) (hh : 1 ≤ c.height) (hw : s.wantsCursor = true)
    (hcc : cursorChild true cs s.cursor s.top = .ok (some c)) (hmem : c ∈ cs) :
    ∃ cs2 s3, reveal true true cs s H = .ok (cs2, s3) ∧ ∃ c' ∈ cs2, c'.idx = c.idx ∧ c'.height = c.height ∧ Visible H c' := by
  refine ⟨_, _, reveal_found true true cs s H c hw hcc, { c with row := c.row + _ }, List.mem_map.mpr ⟨c, hmem, rfl⟩, rfl, rfl, ?_⟩
  unfold Visible
  simp only []
  split
  · omega
  · split <;> rename_i h <;> simp only [true_and] at h <;> omega

theorem cursorChild_x (cs : List Child) (cursor top x : Nat) (hx : usub cursor top = x) :
    cursorChild true cs cursor top =
      if x < cs.length then (match cs[x]? with | some c => .ok (some c) | none => .error (.childIndex x cs.length)) else .ok none := by
  unfold cursorChild
  simp only [hx, ↓reduceIte]
  rfl

theorem cursorChild_total (cs : List Child) (cursor top : Nat) : ∃ r, cursorChild true cs cursor top = .ok r := by
  rw [cursorChild_x cs cursor top _ rfl]
  split
  · rename_i h; rw [List.getElem?_eq_getElem h]; exact ⟨_, rfl⟩
  · exact ⟨_, rfl⟩

theorem reveal_ok (above : Bool) (cs : List Child) (s : St) (H : Nat) : ∃ cs2 s3, reveal above true cs s H = .ok (cs2, s3) := by
  obtain ⟨r, hr⟩ := cursorChild_total cs s.cursor s.top
  unfold reveal
  split
  · rw [hr]; cases r <;> exact ⟨_, _, rfl⟩
  · exact ⟨_, _, rfl⟩

theorem gutter_ok (cfg : Cfg) (cs : List Child) (s : St) : gutter Facts.fixed cfg cs s = .ok () := by
  obtain ⟨r, hr⟩ := cursorChild_total cs s.cursor s.top
  unfold gutter
  split
  · rw [show Facts.fixed.uintIndex = true from rfl, hr]
  · rfl

end VaxisModel.Lemmas.DynList
