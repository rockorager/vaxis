import VaxisModel.Lemmas.DynList

/-! The invariant `Inv` of vxfw/list `Dynamic` does not mention the Builder, so it survives any replacement of the items
    between operations; `Draw` keeps it (`draw_inv`, read off the phase-by-phase description `Phases`), every other
    operation through `Moved`.  Then what a single `Draw` leaves: the scroll state is the anchor of the layout it
    returned, no blank rows above the first child, and after `ensureScroll` the cursored item is shown. -/
namespace VaxisModel.Lemmas.DynList
open VaxisModel.Model.DynList

def Covers (g : Int) (c : Child) : Prop := c.row ≤ 0 ∧ 0 < c.row + (c.height : Int) + g

instance (g : Int) (c : Child) : Decidable (Covers g c) := by unfold Covers; exact inferInstance

theorem retop_none (g : Int) : ∀ (cs : List Child) (i : Nat) (acc : Nat × Int),
    (∀ c ∈ cs, ¬ Covers g c) → retop g cs i acc = acc
  | [], _, _, _ => rfl
  | c :: cs, i, (top, off), h => by
    have hc : ¬ (c.row ≤ 0 ∧ c.row + (c.height : Int) + g > 0) := by
      have := h c List.mem_cons_self; unfold Covers at this; omega
    simp only [retop, hc, if_false]
    exact retop_none g cs (i + 1) (top, off) (fun d hd => h d (List.mem_cons_of_mem _ hd))

/-- With contiguous children (gap ≥ 0) the children after one that covers row 0 lie below it: the final loop of `Draw`
    sets (top, offset) from the covering child and leaves them alone afterwards. -/
theorem retop_hit (g : Int) (hg : 0 ≤ g) : ∀ (cs : List Child) (k : Nat) (c : Child) (i0 top : Nat) (off : Int), Contig g cs →
    cs[k]? = some c → Covers g c → retop g cs i0 (top, off) = (uadd top (i0 + k), - c.row)
  | [], _, _, _, _, _, _, h, _ => by simp at h
  | a :: rest, 0, c, i0, top, off, hc, hk, hcov => by
    simp at hk; subst hk
    have hcov' : a.row ≤ 0 ∧ a.row + (a.height : Int) + g > 0 := ⟨hcov.1, by have := hcov.2; omega⟩
    simp only [retop, hcov', and_self, if_true, Nat.add_zero]
    apply retop_none
    intro d hd hcd
    obtain ⟨m, hm⟩ := List.getElem?_of_mem hd
    have := contig_get_gap hg rest a hc (m + 1) d (by simpa using hm) (by omega)
    unfold Covers at hcd
    omega
  | a :: rest, k + 1, c, i0, top, off, hc, hk, hcov => by
    have hge := contig_get_gap hg rest a hc (k + 1) c hk (by omega)
    have hna : ¬ (a.row ≤ 0 ∧ a.row + (a.height : Int) + g > 0) := by
      unfold Covers at hcov; omega
    simp only [retop, hna, if_false]
    rw [retop_hit g hg rest k c (i0 + 1) top off (contig_tail hc) (by simpa using hk) hcov]
    congr 2; omega

theorem retop_spec (g : Int) (hg : 0 ≤ g) (cs : List Child) (i0 top : Nat) (off : Int) (hc : Contig g cs) :
    retop g cs i0 (top, off) = (top, off) ∨
    ∃ k c, cs[k]? = some c ∧ Covers g c ∧ retop g cs i0 (top, off) = (uadd top (i0 + k), - c.row) := by
  by_cases h : ∃ c ∈ cs, Covers g c
  · obtain ⟨c, hm, hcov⟩ := h
    obtain ⟨k, hk⟩ := List.getElem?_of_mem hm
    exact Or.inr ⟨k, c, hk, hcov, retop_hit g hg cs k c i0 top off hc hk hcov⟩
  · exact Or.inl (retop_none g cs i0 _ (fun c hm hcov => h ⟨c, hm, hcov⟩))

/-- The invariant — it does not mention the Builder, so it survives any replacement of the items:
    the top index is below 2^63 (it is 0, an index of an item, or a former cursor not above one),
    the cursor is a `uint` value, and a pending wants-cursor request refers to a cursor at or below
    the top. -/
structure Inv (s : St) : Prop where
  top_ok : s.top < 2 ^ 63
  wants_ok : s.wantsCursor = true → s.top ≤ s.cursor
  cur_ok : s.cursor < U

theorem cursorChild_ok (cs : List Child) (cursor top : Nat) (h1 : top ≤ cursor) (h2 : cursor < U) :
    (∃ c, cs[cursor - top]? = some c ∧ cursorChild true cs cursor top = .ok (some c)) ∨
    (cs.length ≤ cursor - top ∧ cursorChild true cs cursor top = .ok none) := by
  cases hget : cs[cursor - top]? with
  | some c => exact Or.inl ⟨c, rfl, cursorChild_hit cs cursor top c h1 h2 hget⟩
  | none =>
    have hl : cs.length ≤ cursor - top := by
      rcases Nat.lt_or_ge (cursor - top) cs.length with h | h
      · rw [List.getElem?_eq_getElem h] at hget; cases hget
      · exact h
    refine Or.inr ⟨hl, ?_⟩
    have hu : usub cursor top = cursor - top := usub_le h1 h2
    unfold cursorChild
    simp only [hu, if_true]
    have : ¬ (cursor - top < cs.length) := by omega
    rw [if_neg this]

theorem cursorChild_some (cs : List Child) (cursor top : Nat) (c : Child) (h1 : top ≤ cursor) (h2 : cursor < U)
    (h : cursorChild true cs cursor top = .ok (some c)) : cs[cursor - top]? = some c := by
  rcases cursorChild_ok cs cursor top h1 h2 with ⟨c', hg, e⟩ | ⟨_, e⟩
  · rw [e] at h; cases h; exact hg
  · rw [e] at h; cases h

theorem cursorChild_none (cs : List Child) (cursor top : Nat) (h1 : top ≤ cursor) (h2 : cursor < U)
    (h : cursorChild true cs cursor top = .ok none) : cs.length ≤ cursor - top := by
  rcases cursorChild_ok cs cursor top h1 h2 with ⟨c', _, e⟩ | ⟨hl, _⟩
  · rw [e] at h; cases h
  · exact hl

/-- The phases of one `Draw` of the repaired code from a state `s` with `Inv`: `sc` after the walk back of the top,
    `(ah2, s2, cs0)` after the upward scroll, `cs1` after the downward loop, `(cs2, s3)` after the wants-cursor block
    (`reveal_shift` says what that does); the final loop re-anchors `s3` on `cs2`. -/
structure Phases (cfg : Cfg) (hs : List Nat) (s : St) (W H : Nat) (sc : St) (ah2 : Int) (s2 : St)
    (cs0 cs1 cs2 : List Child) (s3 : St) : Prop where
  clamp : sc = clampTop true hs s
  up : scrollUp true cfg.gap hs (prologue sc).2 (prologue sc).1 = .ok (ah2, s2, cs0)
  down : cs1 = drawDown cfg.gap s2.wantsCursor s2.cursor H (hs.drop sc.top) sc.top ah2 cs0
  win : Window cfg.gap hs s2.top cs1
  first_row : ∀ f, cs1.head? = some f → f.row ≤ 0
  rev : reveal true true cs1 s2 H = .ok (cs2, s3)
  sc_top : sc.top = 0 ∨ sc.top < hs.length
  sc_le : sc.top ≤ s.top
  sc_eq : (s.top = 0 ∨ s.top < hs.length) → sc = s
  cursor : s2.cursor = s.cursor
  wants : s2.wantsCursor = s.wantsCursor
  pending : s2.pending = 0
  up_none : ¬ (prologue sc).1 > 0 → cs0 = [] ∧ s2 = (prologue sc).2 ∧ ah2 = (prologue sc).1
  up_len : s2.top + cs0.length = sc.top
  result : draw Facts.fixed cfg hs s W H = .ok ({ s3 with top := (retop cfg.gap cs2 0 (s3.top, s3.offset)).1, offset := (retop cfg.gap cs2 0 (s3.top, s3.offset)).2 }, cs2)

theorem draw_phases (cfg : Cfg) (hs : List Nat) (s : St) (W H : Nat) (hW : W ≠ 65535) (hH : H ≠ 65535) (hi : Inv s) :
    ∃ sc ah2 s2 cs0 cs1 cs2 s3, Phases cfg hs s W H sc ah2 s2 cs0 cs1 cs2 s3 := by
  have hb : ¬ (H = 65535 ∨ W = 65535) := fun h => h.elim hH hW
  have hsU : s.top < U := by have := hi.top_ok; unfold U; omega
  obtain ⟨k1, k2, k3, k4, k5, k6⟩ := clampTop_spec hs s hsU
  obtain ⟨sc, hsc⟩ : ∃ x, x = clampTop true hs s := ⟨_, rfl⟩
  rw [← hsc] at k1 k2 k3 k4 k5 k6
  obtain ⟨p1, p2, p3, p4⟩ := prologue_spec sc
  have htopU : (prologue sc).2.top < U := by rw [p1]; omega
  have hins : (prologue sc).1 > 0 → (prologue sc).2.top ≠ 0 ∧ (prologue sc).2.top < hs.length := by
    intro h
    have := (p4 h).1
    rw [p1]
    rcases k2 with h' | h'
    · exact absurd h' this
    · exact ⟨this, h'⟩
  obtain ⟨ah2, s2, cs0, hsu, w0, hl0, hrow0, hnil, hlast, hno, es2⟩ := scrollUp_ok cfg.gap hs _ _ htopU hins
  rw [p1] at hl0
  obtain ⟨tail, e1, htl, w1⟩ := drawDown_tail cfg.gap s2.wantsCursor s2.cursor H hs s2.top (hs.drop sc.top) sc.top ah2 cs0
  obtain ⟨cs1, hcs1⟩ : ∃ x, x = drawDown cfg.gap s2.wantsCursor s2.cursor H (hs.drop sc.top) sc.top ah2 cs0 := ⟨_, rfl⟩
  rw [← hcs1] at e1
  obtain ⟨cs2, s3, hrv⟩ := reveal_ok true cs1 s2 H
  refine ⟨sc, ah2, s2, cs0, cs1, cs2, s3, {
    clamp := hsc, up := hsu, down := hcs1, win := e1 ▸ w1 rfl w0 hl0 hlast, first_row := fun f hf => ?_, rev := hrv,
    sc_top := k2, sc_le := k1, sc_eq := k6, cursor := by rw [es2]; exact p2.trans k3, wants := by rw [es2]; exact p3.trans k4,
    pending := by rw [es2]; exact prologue_pending sc, up_none := hno, up_len := hl0, result := ?_ }⟩
  · -- the first child: the first one inserted above, or (nothing inserted: no height was left) the first one drawn
    rw [e1] at hf
    cases cs0 with
    | cons a rest => cases hf; exact hrow0 _ rfl
    | nil => have := (htl f hf).2; have := hnil rfl; omega
  · unfold draw
    rw [if_neg hb]
    simp only [Facts.fixed, if_true]
    rw [← hsc]
    simp only [hsu]
    rw [p1, ← hcs1]
    have hgut : gutter ⟨true, true, true, true, true, true⟩ cfg cs1 s2 = .ok () := gutter_ok cfg cs1 s2
    rw [hgut]
    simp only [hrv]

theorem draw_inv (cfg : Cfg) (hgap : 0 ≤ cfg.gap) (hs : List Nat) (hlen : hs.length < 2 ^ 63) (s : St) (W H : Nat)
    (hW : W ≠ 65535) (hH : H ≠ 65535) (hi : Inv s) :
    ∃ s' cs, draw Facts.fixed cfg hs s W H = .ok (s', cs) ∧ Inv s' ∧ (s'.top = 0 ∨ s'.top < hs.length) ∧
      s'.cursor = s.cursor ∧ s'.pending = 0 := by
  obtain ⟨sc, ah2, s2, cs0, cs1, cs2, s3, P⟩ := draw_phases cfg hs s W H hW hH hi
  obtain ⟨δ, rfl, e3, _, hw3⟩ := reveal_shift _ _ _ _ _ _ _ P.rev
  have w2 := P.win.shift δ
  have ht : s3.top = s2.top := by rw [e3]
  have hc : s3.cursor = s.cursor := by rw [e3]; exact P.cursor
  have hp : s3.pending = 0 := by rw [e3]; exact P.pending
  have ht63 := hi.top_ok
  have h2 := P.up_len
  have h1 := P.sc_le
  have hst := P.sc_top
  -- cursor and pending scroll are those of `s3`; only the new `top` depends on the re-anchoring loop
  suffices hr : (retop cfg.gap (shift δ cs1) 0 (s3.top, s3.offset)).1 < 2 ^ 63 ∧
      (s3.wantsCursor = true → (retop cfg.gap (shift δ cs1) 0 (s3.top, s3.offset)).1 ≤ s.cursor) ∧
      ((retop cfg.gap (shift δ cs1) 0 (s3.top, s3.offset)).1 = 0 ∨ (retop cfg.gap (shift δ cs1) 0 (s3.top, s3.offset)).1 < hs.length) from
    ⟨_, _, P.result, ⟨hr.1, fun hw => by rw [hc]; exact hr.2.1 hw, by show s3.cursor < U; rw [hc]; exact hi.cur_ok⟩, hr.2.2, hc, hp⟩
  have hle : s3.wantsCursor = true → s.top ≤ s.cursor := fun hw => hi.wants_ok (by rw [← P.wants]; exact (hw3 hw).1)
  rcases retop_spec cfg.gap hgap _ 0 s3.top s3.offset w2.contig with hr | ⟨k, c, hk, _, hr⟩
  · rw [hr, ht]
    exact ⟨by omega, fun hw => by have := hle hw; omega, by omega⟩
  · obtain ⟨_, _, hn⟩ := w2.get hk
    rw [hr, ht, Nat.zero_add, uadd_small (by omega)]
    refine ⟨by omega, fun hw => ?_, Or.inr hn⟩
    -- the flag stayed: the cursored child is not among the children, so `k < length ≤ cursor - top`
    have hl := cursorChild_none cs1 s2.cursor s2.top (by rw [P.cursor]; have := hle hw; omega)
      (by rw [P.cursor]; exact hi.cur_ok) (hw3 hw).2
    have := ListBasic.lt_of_getElem? hk
    rw [shift_length] at this
    rw [P.cursor] at hl
    have := hle hw
    omega

theorem ensureScroll_inv (s : St) (c : Nat) (ht : s.top < 2 ^ 63) (hc : c < U) :
    Inv (ensureScroll { s with cursor := c }) := by
  obtain ⟨e1, e2, e3, _⟩ := ensureScroll_cursor s c
  exact ⟨by omega, fun _ => by rw [e1]; exact e2, by rw [e1]; exact hc⟩

theorem Moved.inv {s s' : St} (h : Moved s s') (hi : Inv s) : Inv s' := by
  cases h with
  | pending k => exact ⟨hi.top_ok, hi.wants_ok, hi.cur_ok⟩
  | cursor c hc => exact ensureScroll_inv s c hi.top_ok hc

theorem Moved.top_valid {s s' : St} (h : Moved s s') {n : Nat} (ht : s.top = 0 ∨ s.top < n) : s'.top = 0 ∨ s'.top < n := by
  cases h with
  | pending k => exact ht
  | cursor c hc => obtain ⟨_, _, e3, _⟩ := ensureScroll_cursor s c; omega

theorem init_inv : Inv init := ⟨by decide, (fun h => by cases h), by unfold U; decide⟩

theorem step_inv (cfg : Cfg) (hgap : 0 ≤ cfg.gap) (hs : List Nat) (hlen : hs.length < 2 ^ 63)
    (s : St) (op : Op) (hi : Inv s) (ho : OpOk op) :
    ∃ s', step Facts.fixed cfg hs s op = .ok s' ∧ Inv s' := by
  rcases step_moved Facts.fixed cfg hs s op ho with ⟨W, H, rfl⟩ | ⟨s', he, hm⟩
  · obtain ⟨s', cs, he, hi', _⟩ := draw_inv cfg hgap hs hlen s W H ho.1 ho.2 hi
    exact ⟨s', by simp [step, he], hi'⟩
  · exact ⟨s', he, hm.inv hi⟩

/-- Operations of a history with item replacement: cursors are `uint` values, draw contexts are
    bounded, the Builder has fewer than 2^63 items. -/
def HOpOk : HOp → Prop
  | .op o => OpOk o
  | .items hs => hs.length < 2 ^ 63

theorem runH_inv (cfg : Cfg) (hgap : 0 ≤ cfg.gap) : ∀ (ops : List HOp) (hs : List Nat) (s : St),
    hs.length < 2 ^ 63 → Inv s → (∀ op ∈ ops, HOpOk op) →
    ∃ hs' s', runH Facts.fixed cfg hs s ops = .ok (hs', s') ∧ Inv s' ∧ hs'.length < 2 ^ 63
  | [], hs, s, hl, hi, _ => ⟨hs, s, rfl, hi, hl⟩
  | .items hs' :: ops, hs, s, _, hi, ho => by
    have h1 : HOpOk (.items hs') := ho _ List.mem_cons_self
    obtain ⟨a, b, e, r⟩ := runH_inv cfg hgap ops hs' s h1 hi (fun o h => ho o (List.mem_cons_of_mem _ h))
    exact ⟨a, b, by simp [runH, e], r⟩
  | .op o :: ops, hs, s, hl, hi, ho => by
    obtain ⟨s1, he, hi1⟩ := step_inv cfg hgap hs hl s o hi (ho _ List.mem_cons_self)
    obtain ⟨a, b, e, r⟩ := runH_inv cfg hgap ops hs s1 hl hi1 (fun o h => ho o (List.mem_cons_of_mem _ h))
    exact ⟨a, b, by simp [runH, he, e], r⟩

theorem run_eq_runH (F : Facts) (cfg : Cfg) (hs : List Nat) : ∀ (ops : List Op) (s : St),
    runH F cfg hs s (ops.map HOp.op) = (match run F cfg hs s ops with | .ok s' => .ok (hs, s') | .error e => .error e)
  | [], s => rfl
  | op :: ops, s => by
    simp only [List.map_cons, runH, run]
    cases step F cfg hs s op with
    | error e => rfl
    | ok s' => exact run_eq_runH F cfg hs ops s'

theorem step_inv_top (cfg : Cfg) (hgap : 0 ≤ cfg.gap) (hs : List Nat) (hlen : hs.length < 2 ^ 63)
    (s : St) (op : Op) (hi : Inv s) (ht : s.top = 0 ∨ s.top < hs.length) (ho : OpOk op) :
    ∃ s', step Facts.fixed cfg hs s op = .ok s' ∧ Inv s' ∧ (s'.top = 0 ∨ s'.top < hs.length) := by
  rcases step_moved Facts.fixed cfg hs s op ho with ⟨W, H, rfl⟩ | ⟨s', he, hm⟩
  · obtain ⟨s', cs, he, hi', ht', _⟩ := draw_inv cfg hgap hs hlen s W H ho.1 ho.2 hi
    exact ⟨s', by simp [step, he], hi', ht'⟩
  · exact ⟨s', he, hm.inv hi, hm.top_valid ht⟩

theorem run_inv_top (cfg : Cfg) (hgap : 0 ≤ cfg.gap) (hs : List Nat) (hlen : hs.length < 2 ^ 63)
    (ops : List Op) (s : St) (hi : Inv s) (ht : s.top = 0 ∨ s.top < hs.length) (ho : ∀ op ∈ ops, OpOk op) :
    ∃ s', run Facts.fixed cfg hs s ops = .ok s' ∧ Inv s' ∧ (s'.top = 0 ∨ s'.top < hs.length) :=
  run_keeps Facts.fixed cfg hs (fun s => Inv s ∧ (s.top = 0 ∨ s.top < hs.length))
    (fun s op h => step_inv_top cfg hgap hs hlen s op h.1 h.2) ops s ⟨hi, ht⟩ ho

theorem draw_anchor (cfg : Cfg) (hgap : 0 ≤ cfg.gap) (hs : List Nat) (hlen : hs.length < 2 ^ 63) (s : St) (W H : Nat)
    (hW : W ≠ 65535) (hH : H ≠ 65535) (hi : Inv s) (s' : St) (cs : List Child)
    (he : draw Facts.fixed cfg hs s W H = .ok (s', cs)) (k : Nat) (c : Child) (hk : cs[k]? = some c)
    (hcov : Covers cfg.gap c) : s'.top = c.idx ∧ s'.offset = - c.row := by
  obtain ⟨sc, ah2, s2, cs0, cs1, cs2, s3, P⟩ := draw_phases cfg hs s W H hW hH hi
  obtain ⟨δ, rfl, e3, _, _⟩ := reveal_shift _ _ _ _ _ _ _ P.rev
  rw [P.result] at he
  cases he
  have w2 := P.win.shift δ
  obtain ⟨hidx, _, hn⟩ := w2.get hk
  have ht : s3.top = s2.top := by rw [e3]
  show (retop cfg.gap (shift δ cs1) 0 (s3.top, s3.offset)).1 = c.idx ∧ (retop cfg.gap (shift δ cs1) 0 (s3.top, s3.offset)).2 = - c.row
  rw [retop_hit cfg.gap hgap _ k c 0 s3.top s3.offset w2.contig hk hcov, Nat.zero_add, ht, uadd_small (by omega), hidx]
  exact ⟨rfl, rfl⟩

theorem draw_first_row (cfg : Cfg) (hgap : 0 ≤ cfg.gap) (hs : List Nat) (s : St) (W H : Nat)
    (hW : W ≠ 65535) (hH : H ≠ 65535) (hi : Inv s) (s' : St) (cs : List Child)
    (he : draw Facts.fixed cfg hs s W H = .ok (s', cs)) (f : Child) (hf : cs.head? = some f) : f.row ≤ 0 := by
  obtain ⟨sc, ah2, s2, cs0, cs1, cs2, s3, P⟩ := draw_phases cfg hs s W H hW hH hi
  rw [P.result] at he
  cases he
  obtain ⟨δ, rfl, _, hδ, _⟩ := reveal_shift _ _ _ _ _ _ _ P.rev
  unfold shift at hf
  rw [List.head?_map] at hf
  cases hh : cs1.head? with
  | none => rw [hh] at hf; cases hf
  | some g =>
    rw [hh] at hf; cases hf
    have hg := P.first_row g hh
    show g.row + δ ≤ 0
    rcases hδ with h | ⟨ch, hw, hcc, rfl⟩
    · omega
    · -- moved down by `-ch.row`: the cursored child is at or below the first child
      have hle := hi.wants_ok (by rw [← P.wants]; exact hw)
      have h2 := P.up_len
      have h3 := P.sc_le
      have := P.win.head_row_le hgap hh
        (cursorChild_some cs1 _ _ ch (by rw [P.cursor]; omega) (by rw [P.cursor]; exact hi.cur_ok) hcc)
      omega

theorem next_prev_cases (hs : List Nat) (s s1 : St) (hcu : s.cursor < U)
    (hmove : (nextItem hs s = (s1, true)) ∨ (prevItem hs s = (s1, true))) :
    ∃ c, c < hs.length ∧ s1 = ensureScroll { s with cursor := c } ∧ s1.cursor = c := by
  have cur_es : ∀ c, (ensureScroll { s with cursor := c }).cursor = c := fun c => (ensureScroll_cursor s c).1
  rcases hmove with h | h
  · unfold nextItem at h
    cases hb : builder hs (uadd s.cursor 1) with
    | none => rw [hb] at h; cases h
    | some hc =>
      rw [hb] at h
      have e : s1 = ensureScroll { s with cursor := uadd s.cursor 1 } := (Prod.mk.inj h).1.symm
      exact ⟨_, ListBasic.lt_of_getElem? hb, e, by rw [e]; exact cur_es _⟩
  · unfold prevItem at h
    by_cases h0 : s.cursor = 0
    · rw [if_pos h0] at h; cases h
    · rw [if_neg h0] at h
      have hu : usub s.cursor 1 = s.cursor - 1 := usub_le (by omega) hcu
      rw [hu] at h
      cases hb : builder hs (s.cursor - 1) with
      | none => rw [hb] at h; cases h
      | some hc =>
        rw [hb] at h
        have e : s1 = ensureScroll { s with cursor := s.cursor - 1 } := (Prod.mk.inj h).1.symm
        exact ⟨_, ListBasic.lt_of_getElem? hb, e, by rw [e]; exact cur_es _⟩

theorem ensureScroll_draw_visible (cfg : Cfg) (hs : List Nat) (hlen : hs.length < 2 ^ 63) (s : St) (c W H hc : Nat)
    (hW : W ≠ 65535) (hH : H ≠ 65535) (hH1 : 1 ≤ H)
    (ht : s.top < 2 ^ 63) (hcur : hs[c]? = some hc) (hc1 : 1 ≤ hc) :
    ∃ s' cs, draw Facts.fixed cfg hs (ensureScroll { s with cursor := c }) W H = .ok (s', cs) ∧
      ∃ ch ∈ cs, ch.idx = c ∧ ch.height = hc ∧ Visible H ch := by
  have hcn : c < hs.length := ListBasic.lt_of_getElem? hcur
  have hc63 : c < U := by unfold U; omega
  have hi1 := ensureScroll_inv s c ht hc63
  obtain ⟨hs1c, hs1t, _, hs1w⟩ := ensureScroll_cursor s c
  generalize ensureScroll { s with cursor := c } = s1 at hi1 hs1c hs1t hs1w ⊢
  obtain ⟨sc, ah2, s2, cs0, cs1, cs2, s3, P⟩ := draw_phases cfg hs s1 W H hW hH hi1
  have hcur2 : s2.cursor = c := P.cursor.trans hs1c
  have h2 := P.up_len
  have h1 := P.sc_le
  -- without a wants-cursor request the top is the cursor and nothing is pending: no walk back, no upward scroll
  have hplain : s1.wantsCursor = false → sc = s1 ∧ cs0 = [] ∧ s2.top = c ∧ ah2 = 0 := by
    intro hw
    obtain ⟨e1, e2, e3⟩ := hs1w hw
    have hsceq : sc = s1 := P.sc_eq (Or.inr (by rw [e1]; exact hcn))
    have hpro : prologue sc = (0, { s1 with pending := 0 }) := by
      rw [hsceq]; unfold prologue; simp only [e3, e2]; split <;> simp
    obtain ⟨n1, n2, n3⟩ := P.up_none (by rw [hpro]; simp)
    exact ⟨hsceq, n1, by rw [n2, hpro]; exact e1, by rw [n3, hpro]⟩
  -- the cursor child is among the drawn children
  have hlen1 : c - s2.top < cs1.length := by
    cases hw : s1.wantsCursor with
    | true =>
      have := drawDown_reaches cfg.gap s2.cursor H (hs.drop sc.top) sc.top ah2 cs0
      rw [P.down, P.wants, hw]
      simp only [List.length_drop] at this
      rw [hcur2] at this ⊢
      omega
    | false =>
      obtain ⟨hsceq, hnil, hs2t, _⟩ := hplain hw
      have := drawDown_nonempty cfg.gap s2.wantsCursor s2.cursor H hs[c] (hs.drop (c + 1)) c ah2 []
      rw [hs2t, P.down, hnil, hsceq, (hs1w hw).1, List.drop_eq_getElem_cons hcn]
      simp only [List.length_nil] at this
      omega
  obtain ⟨ch, hchget⟩ : ∃ ch, cs1[c - s2.top]? = some ch := ⟨cs1[c - s2.top], by simp [hlen1]⟩
  have hchmem : ch ∈ cs1 := List.mem_of_getElem? hchget
  obtain ⟨hidx', hh', _⟩ := P.win.get hchget
  have hidx : ch.idx = c := by omega
  have hheight : ch.height = hc := by
    rw [show s2.top + (c - s2.top) = c by omega, hcur] at hh'
    exact (Option.some.inj hh').symm
  have hcc : cursorChild true cs1 s2.cursor s2.top = .ok (some ch) := by
    rw [hcur2]; exact cursorChild_hit cs1 _ _ ch (by omega) hc63 hchget
  refine ⟨_, cs2, P.result, ?_⟩
  cases hw : s2.wantsCursor with
  | true =>
    obtain ⟨cs2', s3', hrev', c', hc'mem, hc'idx, hc'h, hvis⟩ :=
      reveal_visible cs1 s2 H ch hH1 (by omega) hw hcc hchmem
    rw [P.rev] at hrev'
    cases hrev'
    exact ⟨c', hc'mem, hc'idx.trans hidx, hc'h.trans hheight, hvis⟩
  | false =>
    -- no wants-cursor request: the child is the first one drawn, in row 0
    obtain ⟨_, hnil, hs2t, hah⟩ := hplain (by rw [← P.wants]; exact hw)
    have hrv := P.rev
    unfold reveal at hrv
    rw [if_neg (by rw [hw]; exact Bool.false_ne_true)] at hrv
    cases hrv
    obtain ⟨tail, e, htl, _⟩ := drawDown_tail cfg.gap s2.wantsCursor s2.cursor H hs 0 (hs.drop sc.top) sc.top ah2 cs0
    rw [← P.down, hnil, List.nil_append] at e
    rw [show c - s2.top = 0 by omega, e] at hchget
    have hrow := (htl ch (by rw [List.head?_eq_getElem?]; exact hchget)).2
    refine ⟨ch, hchmem, hidx, hheight, ?_⟩
    unfold Visible
    omega

end VaxisModel.Lemmas.DynList
