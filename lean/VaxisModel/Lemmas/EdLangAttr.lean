/-
`edrun`: the equations by which `simp` runs the interpreter of `Model/EdLang.lean` on a translated body —
`execB`, `execS`, `evalE` and the environment's `getV`, `setV` (tagged in `Lemmas/EdLangTF.lean`).  What a proof adds
to it says what is particular to the body at hand: the function's text, the comparisons it makes, the calls it resolves.
-/
import Lean.Meta.Tactic.Simp.RegisterCommand

register_simp_attr edrun

/-- what selects the event switch of `textinput.Update`, one of its arms, and the environment it starts in
    (tagged in `Lemmas/EdLangTIBody.lean`; with `edrun` it runs an arm) -/
register_simp_attr ti_arm

/-- what `Update` makes of the result of an arm, and the model's `Update` down to its key switch
    (tagged in `Lemmas/EdLangTIBody.lean`) -/
register_simp_attr ti_fin

/-- what runs `TextField.HandleEvent` up to its calls of the API functions and of `checkChanged`
    (tagged in `Lemmas/EdLangTFBody.lean`) -/
register_simp_attr tf_handle
