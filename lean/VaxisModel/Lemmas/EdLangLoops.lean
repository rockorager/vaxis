import VaxisModel.Lemmas.EdLangTF
import VaxisModel.Lemmas.TextInput

/-!
Index loops of `textinput.Update` (`for i := …; i < len(m.content); i += 1 { if p(m.content[i]) { m.cursor += 1; continue }; break }`
and the backward ones): what they compute, first for abstract loop components known through their action on environments of the
shape `mk cursor index` (the inductions), then as statements of the translated body.
-/
namespace VaxisModel.Lemmas.EdLangLoops
open VaxisModel.Model.EdLang
open VaxisModel.Spec.Editor (lead)
open VaxisModel.Lemmas.Editor (lead_nil lead_cons lead_le)
open VaxisModel.Lemmas.EdLangTF (lastOr)

variable {A : Type}

theorem fwdLoopSpec (L : List (List A)) (p : List A → Bool) (mk : Int → Int → Env A)
    (cond : Env A → V A) (body post : Env A → Res A)
    (hcond : ∀ c i, cond (mk c i) = .bool (decide (i < L.length)))
    (hbody : ∀ c i g, 0 ≤ i → L[i.toNat]? = some g →
      body (mk c i) = if p g then .cont (mk (c + 1) i) else .brk (mk c i))
    (hpost : ∀ c i, post (mk c i) = .ok (mk c (i + 1)))
    (c i : Int) (k : Nat) (hi : 0 ≤ i) (hk : (L.drop i.toNat).length < k) :
    loopN cond body post k (mk c i) = .ok (mk (c + lead p (L.drop i.toNat)) (i + lead p (L.drop i.toNat))) := by
  generalize hrest : L.drop i.toNat = rest at hk
  induction rest generalizing c i k with
  | nil =>
    obtain ⟨k', rfl⟩ : ∃ k', k = k' + 1 := ⟨k - 1, by simp at hk; omega⟩
    have hge : ¬ i < L.length := by
      have := List.drop_eq_nil_iff.mp hrest
      omega
    simp [loopN, hcond, hge, lead_nil]
  | cons g rest' ih =>
    obtain ⟨k', rfl⟩ : ∃ k', k = k' + 1 := ⟨k - 1, by simp at hk; omega⟩
    have hlt : i.toNat < L.length := by
      have : (L.drop i.toNat).length = (g :: rest').length := by rw [hrest]
      simp at this; omega
    have hg : L[i.toNat]? = some g := by
      have := List.getElem?_drop (xs := L) (i := i.toNat) (j := 0)
      rw [hrest] at this
      simpa using this.symm
    have hrest' : L.drop (i + 1).toNat = rest' := by
      have e : (i + 1).toNat = i.toNat + 1 := by omega
      rw [e, ← List.drop_drop, hrest]
      rfl
    have hilt : i < L.length := by omega
    by_cases hp : p g
    · have := ih (c + 1) (i + 1) k' (by omega) hrest' (by simp at hk ⊢; omega)
      simp only [loopN, hcond, hilt, decide_true, hbody c i g hi hg, hp, if_true, hpost, this, lead_cons]
      congr 2 <;> omega
    · simp [loopN, hcond, hilt, hbody c i g hi hg, hp, lead_cons]

/-- `d`: what `break` adds to the cursor (0, or 1 in the second loop of Alt+b). -/
theorem bwdLoopSpec (L : List (List A)) (p : List A → Bool) (d : Int) (mk : Int → Int → Env A)
    (cond : Env A → V A) (body post : Env A → Res A)
    (hcond : ∀ c i, cond (mk c i) = .bool (decide (i ≥ 0)))
    (hbody : ∀ c i g, 0 ≤ i → L[i.toNat]? = some g →
      body (mk c i) = if p g then .cont (mk (c - 1) i) else .brk (mk (c + d) i))
    (hpost : ∀ c i, post (mk c i) = .ok (mk c (i - 1)))
    (c i : Int) (k : Nat) (hlen : i < L.length) (hk : (L.take (i + 1).toNat).length < k) :
    loopN cond body post k (mk c i) =
      .ok (mk (c - lead p (L.take (i + 1).toNat).reverse +
                (if lead p (L.take (i + 1).toNat).reverse < (L.take (i + 1).toNat).reverse.length then d else 0))
              (i - lead p (L.take (i + 1).toNat).reverse)) := by
  generalize hrest : (L.take (i + 1).toNat).reverse = rest
  have hk' : rest.length < k := by rw [← hrest]; simpa using hk
  clear hk
  induction rest generalizing c i k with
  | nil =>
    obtain ⟨k', rfl⟩ : ∃ k', k = k' + 1 := ⟨k - 1, by simp at hk'; omega⟩
    have hneg : ¬ i ≥ 0 := by
      have h0 : (L.take (i + 1).toNat) = [] := by simpa using hrest
      have := List.take_eq_nil_iff.mp h0
      rcases this with h | h
      · omega
      · subst h; simp at hlen; omega
    simp [loopN, hcond, hneg, lead_nil]
  | cons g rest' ih =>
    obtain ⟨k', rfl⟩ : ∃ k', k = k' + 1 := ⟨k - 1, by simp at hk'; omega⟩
    have hi0 : 0 ≤ i := by
      by_cases hneg : 0 ≤ i
      · exact hneg
      · have : (i + 1).toNat = 0 := by omega
        rw [this] at hrest
        simp at hrest
    have hlt : i.toNat < L.length := by omega
    have e : (i + 1).toNat = i.toNat + 1 := by omega
    have htake : L.take (i.toNat + 1) = L.take i.toNat ++ [L[i.toNat]] := by
      rw [List.take_succ_eq_append_getElem hlt]
    have hg : L[i.toNat]? = some g ∧ (L.take i.toNat).reverse = rest' := by
      rw [e, htake, List.reverse_append] at hrest
      simp only [List.reverse_cons, List.reverse_nil, List.nil_append, List.singleton_append, List.cons.injEq] at hrest
      exact ⟨by rw [List.getElem?_eq_getElem hlt, hrest.1], hrest.2⟩
    have hrest' : (L.take (i - 1 + 1).toNat).reverse = rest' := by
      have : (i - 1 + 1).toNat = i.toNat := by omega
      rw [this]; exact hg.2
    have hge : i ≥ 0 := hi0
    by_cases hp : p g
    · have := ih (c - 1) (i - 1) k' (by omega) hrest' (by simp at hk' ⊢; omega)
      simp only [loopN, hcond, hge, decide_true, hbody c i g hi0 hg.1, hp, if_true, hpost, this, lead_cons, List.length_cons]
      congr 2
      · have := lead_le p rest'
        split <;> split <;> omega
      · omega
    · simp [loopN, hcond, hge, hbody c i g hi0 hg.1, hp, lead_cons]

/-! The six word loops of `Update` have one of two shapes; `fwdScan_run` and `bwdScan_run` run the statement itself, for
environments `mk cursor index` known through what they hold under `m.content`, `m.cursor` and the index variable `I`.
`T` is the test (`isAlphaNumeric(m.content[I])`, negated or not).  For a literal environment the five facts about `mk` hold by
evaluation. -/

theorem evalE_alnumAt [DecidableEq A] (cx : Ctx A) (env : Env A) (I : String) (L : List (List A)) (i : Int) (g : List A)
    (hL : getV env "m.content" = .chars L) (hI : getV env I = .num i) (h0 : 0 ≤ i) (hg : L[i.toNat]? = some g) :
    evalE cx env (.call "isAlphaNumeric" (.index (.v "m.content") (.v I)) .absent) = .bool (cx.isAlnum g) := by
  simp [evalE, hL, hI, h0, hg]

theorem evalE_not_alnumAt [DecidableEq A] (cx : Ctx A) (env : Env A) (I : String) (L : List (List A)) (i : Int) (g : List A)
    (hL : getV env "m.content" = .chars L) (hI : getV env I = .num i) (h0 : 0 ≤ i) (hg : L[i.toNat]? = some g) :
    evalE cx env (.not (.call "isAlphaNumeric" (.index (.v "m.content") (.v I)) .absent)) = .bool (!cx.isAlnum g) := by
  simp [evalE, hL, hI, h0, hg]

open VaxisModel.Lemmas.EdLangTF (vSize_getV_le) in
/-- `for I < len(m.content); I++ { if T { m.cursor++; continue }; break }` -/
theorem fwdScan_run [DecidableEq A] (cx : Ctx A) (I : String) (T : E) (p : List A → Bool) (L : List (List A)) (mk : Int → Int → Env A)
    (hT : ∀ c i g, 0 ≤ i → L[i.toNat]? = some g → evalE cx (mk c i) T = .bool (p g))
    (c i : Int) (h0 : 0 ≤ i)
    (hL : ∀ c i, getV (mk c i) "m.content" = .chars L := by intros; rfl)
    (hc : ∀ c i, getV (mk c i) "m.cursor" = .num c := by intros; rfl) (hI : ∀ c i, getV (mk c i) I = .num i := by intros; rfl)
    (hsc : ∀ c i c', setV "m.cursor" (.num c') (mk c i) = mk c' i := by intros; rfl)
    (hsi : ∀ c i i', setV I (.num i') (mk c i) = mk c i' := by intros; rfl) :
    execS cx (S.loop (.cmp "<" (.v I) (.len (.v "m.content"))) (S.addAssign I (.num 1) ;; B.nil)
        (S.ite T (S.addAssign "m.cursor" (.num 1) ;; S.cont ;; B.nil) B.nil ;; S.brk ;; B.nil)) (mk c i) =
      .ok (mk (c + lead p (L.drop i.toNat)) (i + lead p (L.drop i.toNat))) := by
  have hfuel : (L.drop i.toNat).length < envSize cx.cl (mk c i) + 2 := by
    have := vSize_getV_le cx.cl (mk c i) "m.content"
    rw [hL] at this
    simp only [vSize, List.length_drop] at this ⊢
    omega
  simp only [execS]
  refine fwdLoopSpec L p mk _ _ _ ?_ ?_ ?_ c i _ h0 hfuel
  · intro c i; simp [E.isAbsent, evalE, hI, hL, cmpV, cmpI]
  · intro c i g hi hg
    by_cases hp : p g <;> simp [edrun, hT c i g hi hg, hp, hc, hsc]
  · intro c i; simp [edrun, hI, hsi]

open VaxisModel.Lemmas.EdLangTF (vSize_getV_le) in
/-- `for I >= 0; I-- { if T { m.cursor--; continue }; BRK }`, `BRK` ending in `break` after adding `d` to the cursor -/
theorem bwdScan_run [DecidableEq A] (cx : Ctx A) (I : String) (T : E) (p : List A → Bool) (L : List (List A)) (mk : Int → Int → Env A)
    (BRK : B) (d : Int)
    (hT : ∀ c i g, 0 ≤ i → L[i.toNat]? = some g → evalE cx (mk c i) T = .bool (p g))
    (hbrk : ∀ c i, execB cx BRK (mk c i) = .brk (mk (c + d) i))
    (c i : Int) (hlen : i < L.length)
    (hL : ∀ c i, getV (mk c i) "m.content" = .chars L := by intros; rfl)
    (hc : ∀ c i, getV (mk c i) "m.cursor" = .num c := by intros; rfl) (hI : ∀ c i, getV (mk c i) I = .num i := by intros; rfl)
    (hsc : ∀ c i c', setV "m.cursor" (.num c') (mk c i) = mk c' i := by intros; rfl)
    (hsi : ∀ c i i', setV I (.num i') (mk c i) = mk c i' := by intros; rfl) :
    execS cx (S.loop (.cmp ">=" (.v I) (.num 0)) (S.subAssign I (.num 1) ;; B.nil)
        (S.ite T (S.subAssign "m.cursor" (.num 1) ;; S.cont ;; B.nil) B.nil ;; BRK)) (mk c i) =
      .ok (mk (c - lead p (L.take (i + 1).toNat).reverse +
                (if lead p (L.take (i + 1).toNat).reverse < (L.take (i + 1).toNat).reverse.length then d else 0))
              (i - lead p (L.take (i + 1).toNat).reverse)) := by
  have hfuel : (L.take (i + 1).toNat).length < envSize cx.cl (mk c i) + 2 := by
    have := vSize_getV_le cx.cl (mk c i) "m.content"
    rw [hL] at this
    simp only [vSize, List.length_take] at this ⊢
    omega
  simp only [execS]
  refine bwdLoopSpec L p d mk _ _ _ ?_ ?_ ?_ c i _ hlen hfuel
  · intro c i; simp [E.isAbsent, evalE, hI, cmpV, cmpI]
  · intro c i g hi hg
    by_cases hp : p g <;> simp [edrun, hT c i g hi hg, hp, hc, hsc, hbrk]
  · intro c i; simp [edrun, hI, hsi]

open VaxisModel.Model.TextInput (TI insertChars) in
/-- `for _, char := range chars { m.content = slices.Insert(m.content, m.cursor, char); m.cursor += 1 }`: the model's `insertChars`, or
    the panic of the first `slices.Insert` whose index is out of range. -/
theorem insertRange_run (x : String) (mk : List (List A) → Int → Option (List A) → Env A) (body : Env A → Res A) (off : Int)
    (hset : ∀ content cursor o g, setV x (.str g) (mk content cursor o) = mk content cursor (some g))
    (hbody : ∀ content cursor g, body (mk content cursor (some g)) =
      if VaxisModel.Model.TextInput.inRange content cursor then
        .ok (mk (content.take cursor.toNat ++ [g] ++ content.drop cursor.toNat) (cursor + 1) (some g))
      else .err "slices.Insert out of range") :
    ∀ (gs : List (List A)) (content : List (List A)) (cursor : Int) (o : Option (List A)),
      rangeN x body (gs.map V.str) (mk content cursor o) =
        match insertChars (⟨content, cursor, off, []⟩ : TI (List A)) gs with
        | some m' => .ok (mk m'.content m'.cursor (lastOr o gs))
        | none => .err "slices.Insert out of range" := by
  intro gs
  induction gs with
  | nil => intro content cursor o; simp [rangeN, insertChars, lastOr]
  | cons g gs ih =>
    intro content cursor o
    by_cases hr : VaxisModel.Model.TextInput.inRange content cursor = true
    · simp only [List.map_cons, rangeN, hset, hbody, hr, if_true, insertChars, lastOr]
      exact ih _ _ _
    · simp [rangeN, hset, hbody, hr, insertChars]

end VaxisModel.Lemmas.EdLangLoops
