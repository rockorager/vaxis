import VaxisModel.Model.EdRun
import VaxisModel.Lemmas.Editor
import VaxisModel.Lemmas.EdLangAttr

/-!
Interpreter lemmas for the `*_body_eq_model` theorems of C17: environments, the frame of a method call, and the loops of the bodies
run as statements.  A loop lemma is given to the one `simp` run of a function as a pre-lemma (`↓h`), so the loop is never
unfolded; the interpreter's equations are the simp set `edrun`.
-/
namespace VaxisModel.Lemmas.EdLangTF
open VaxisModel.Model.EdLang VaxisModel.Model.EdRun

variable {A : Type}

attribute [edrun] execB execS evalE getV setV

/-! `recvOf` and `copyBack` are computed key by key: unfolded, they leave `getV env k` under a binder, where `simp` would unfold
it against the concrete `env` for a symbolic key. -/

@[simp] theorem recvOf_nil (env : Env A) : recvOf [] env = [] := by simp [recvOf]
@[simp] theorem recvOf_cons (k : String) (ks : List String) (env : Env A) :
    recvOf (k :: ks) env = (k, getV env k) :: recvOf ks env := by simp [recvOf]
@[simp] theorem copyBack_nil (src dst : Env A) : copyBack [] src dst = dst := by simp [copyBack]
@[simp] theorem copyBack_cons (k : String) (ks : List String) (src dst : Env A) :
    copyBack (k :: ks) src dst = copyBack ks src (setV k (getV src k) dst) := by simp [copyBack]

theorem getV_setV_same (k : String) (v : V A) (env : Env A) (hk : k ≠ "_") : getV (setV k v env) k = v := by
  induction env with
  | nil => simp [setV, hk, getV]
  | cons p r ih =>
    obtain ⟨k', v'⟩ := p
    by_cases h : k' = k
    · simp [setV, hk, h, getV]
    · simp only [setV, hk, if_false, h, getV] at ih ⊢
      exact ih

theorem getV_setV_ne (k k' : String) (v : V A) (env : Env A) (h : k ≠ k') : getV (setV k v env) k' = getV env k' := by
  by_cases hk : k = "_"
  · subst hk; unfold setV; rfl
  · induction env with
    | nil => simp [setV, hk, getV, h]
    | cons p r ih =>
      obtain ⟨k0, v0⟩ := p
      by_cases h0 : k0 = k
      · subst h0; simp [setV, hk, getV, h]
      · by_cases h1 : k0 = k'
        · subst h1; simp [setV, hk, h0, getV]
        · simp only [setV, hk, if_false, h0, getV, h1] at ih ⊢
          exact ih

theorem getV_copyBack (keys : List String) (hk : "_" ∉ keys) (src dst : Env A) (k : String) :
    getV (copyBack keys src dst) k = if k ∈ keys then getV src k else getV dst k := by
  induction keys generalizing dst with
  | nil => simp
  | cons k0 ks ih =>
    have h0 : k0 ≠ "_" := fun h => hk (by simp [h])
    rw [copyBack_cons, ih (fun h => hk (List.mem_cons_of_mem _ h))]
    by_cases hm : k ∈ ks
    · simp [hm]
    · by_cases hkk : k = k0
      · subst hkk; simp [hm, getV_setV_same _ _ _ h0]
      · simp [hm, hkk, getV_setV_ne _ _ _ _ (Ne.symm hkk)]

theorem copyBack_congr (keys : List String) (src src' dst : Env A) (h : ∀ k ∈ keys, getV src k = getV src' k) :
    copyBack keys src dst = copyBack keys src' dst := by
  induction keys generalizing dst with
  | nil => rfl
  | cons k0 ks ih =>
    rw [copyBack_cons, copyBack_cons, h k0 (by simp)]
    exact ih _ (fun k hk => h k (List.mem_cons_of_mem _ hk))

/-- What a method call does on the receiver `recv` alone it does inside every environment that holds `recv`. -/
theorem callMethod_frame [DecidableEq A] (cx : Ctx A) (keys : List String) (hk : "_" ∉ keys) (f : Fn) (args : List (V A))
    (recv recv' env : Env A) (r : V A)
    (h : callMethod cx keys f args recv = some (recv', r)) (hrecv : recvOf keys recv = recv) (henv : recvOf keys env = recv) :
    callMethod cx keys f args env = some (copyBack keys recv' env, r) := by
  unfold callMethod at h ⊢
  rw [hrecv] at h
  rw [henv]
  cases hr : runFn cx f recv args with
  | none => rw [hr] at h; cases h
  | some p =>
    rw [hr] at h
    simp only [Option.some.injEq, Prod.mk.injEq] at h
    obtain ⟨rfl, rfl⟩ := h
    simp only [Option.some.injEq, Prod.mk.injEq, and_true]
    apply copyBack_congr
    intro k hkm
    rw [getV_copyBack keys hk, if_pos hkm]

theorem callMethod_frame_none [DecidableEq A] (cx : Ctx A) (keys : List String) (f : Fn) (args : List (V A)) (recv env : Env A)
    (h : callMethod cx keys f args recv = none) (hrecv : recvOf keys recv = recv) (henv : recvOf keys env = recv) :
    callMethod cx keys f args env = none := by
  unfold callMethod at h ⊢
  rw [hrecv] at h
  rw [henv]
  cases hr : runFn cx f recv args with
  | none => rfl
  | some p => rw [hr] at h; cases h

/-- What is asked of the segmentation for "walk the string until it is empty" to be "walk its
    clusters": the empty string has no cluster, a non-empty one has one. -/
structure ClSane (cl : List A → List (List A)) : Prop where
  nil : cl [] = []
  cons : ∀ s, s ≠ [] → cl s ≠ []
  /-- the clusters concatenate to the text (what is left of a string is what its clusters hold) -/
  flat : ∀ s, (cl s).flatten = s

/-- The value `r` of the variable `rest` stands for the clusters `l` still to come. -/
def Rep (cl : List A → List (List A)) (r : V A) (l : List (List A)) : Prop :=
  r = .chars l ∨ ∃ s, r = .str s ∧ cl s = l

/-- A body result after which the loop goes on with `e`. -/
def Continues (r : Res A) (e : Env A) : Prop := r = .ok e ∨ r = .cont e

@[simp] theorem continues_ok (e e' : Env A) : Continues (.ok e) e' ↔ e = e' := by simp [Continues]
@[simp] theorem continues_cont (e e' : Env A) : Continues (.cont e) e' ↔ e = e' := by simp [Continues]

structure Walked (A σ : Type) where
  cluster : V A
  rest : V A
  state : σ

/-- One pass over the clusters with a loop state `σ`: `stepF s g` is what an iteration makes of the state (`none` =
    `break` right after the cluster is taken). -/
def walk {σ : Type} (stepF : σ → List A → Option σ) : List (List A) → V A → V A → σ → Walked A σ
  | [], c, r, s => ⟨c, r, s⟩
  | g :: rest, _, _, s =>
    match stepF s g with
    | none => ⟨.str g, .chars rest, s⟩
    | some s' => walk stepF rest (.str g) (.chars rest) s'

theorem vSize_getV_le (cl : List A → List (List A)) (env : Env A) (x : String) : vSize cl (getV env x) ≤ envSize cl env := by
  induction env with
  | nil => simp [getV, vSize]
  | cons p r ih =>
    obtain ⟨k, v⟩ := p
    by_cases h : k = x
    · simp [getV, h, envSize]
    · simp only [getV, h, if_false, envSize]; omega

theorem vSize_rep (cl : List A → List (List A)) (r : V A) (l : List (List A)) (h : Rep cl r l) : vSize cl r = l.length := by
  rcases h with rfl | ⟨s, rfl, rfl⟩ <;> rfl

/-- `for len(rest) > 0 { cluster, rest, _, state = uniseg.FirstGraphemeClusterInString(rest, state); BODY }` over
    environments of the shape `mk cluster rest state`: `BODY` is run on every cluster and does to the state what `stepF`
    says.  (The fuel the interpreter gives the loop is enough: `rest` is one of the values the environment holds.) -/
theorem clusterLoop_run {σ : Type} [DecidableEq A] (cx : Ctx A) (hs : ClSane cx.cl) (cv rv : String) (BODY : B)
    (mk : V A → V A → σ → Env A) (stepF : σ → List A → Option σ)
    (hbody : ∀ g rest s,
      match stepF s g with
      | some s' => Continues (execB cx BODY (mk (.str g) (.chars rest) s)) (mk (.str g) (.chars rest) s')
      | none => execB cx BODY (mk (.str g) (.chars rest) s) = .brk (mk (.str g) (.chars rest) s))
    (l : List (List A)) (c r : V A) (s : σ) (hr : Rep cx.cl r l)
    (hget : ∀ c r s, getV (mk c r s) rv = r := by intros; rfl)
    (hset : ∀ c r s g rest, setV rv (.chars rest) (setV cv (.str g) (mk c r s)) = mk (.str g) (.chars rest) s := by intros; rfl) :
    execS cx (S.loop (.nonEmpty (.v rv)) B.nil (S.nextCluster cv rv ;; BODY)) (mk c r s) =
      .ok (mk (walk stepF l c r s).cluster (walk stepF l c r s).rest (walk stepF l c r s).state) := by
  have hk : l.length < envSize cx.cl (mk c r s) + 2 := by
    have := vSize_getV_le cx.cl (mk c r s) rv
    rw [hget, vSize_rep cx.cl r l hr] at this
    omega
  have hpost : (fun env : Env A => execB cx B.nil env) = fun env => .ok env := by funext e; simp [execB]
  simp only [execS, E.isAbsent, Bool.false_eq_true, if_false, evalE, hpost]
  generalize envSize cx.cl (mk c r s) + 2 = k at hk
  induction l generalizing r c s k with
  | nil =>
    obtain ⟨k', rfl⟩ : ∃ k', k = k' + 1 := ⟨k - 1, by simp at hk; omega⟩
    have hc : nonEmptyV r = .bool false := by
      rcases hr with rfl | ⟨t, rfl, hcl⟩
      · rfl
      · cases t with
        | nil => rfl
        | cons a u => exact absurd hcl (hs.cons _ (by simp))
    simp [loopN, hget, hc, walk]
  | cons g rest ih =>
    obtain ⟨k', rfl⟩ : ∃ k', k = k' + 1 := ⟨k - 1, by simp at hk; omega⟩
    have hc : nonEmptyV r = .bool true := by
      rcases hr with rfl | ⟨t, rfl, hcl⟩
      · rfl
      · cases t with
        | nil => rw [hs.nil] at hcl; cases hcl
        | cons a u => rfl
    have hstep : execB cx (S.nextCluster cv rv ;; BODY) (mk c r s) = execB cx BODY (mk (.str g) (.chars rest) s) := by
      rcases hr with rfl | ⟨t, rfl, hcl⟩
      · simp [execB, execS, hget, hset]
      · simp [execB, execS, hget, hset, hcl]
    have hb := hbody g rest s
    have hrec := fun s' => ih (c := .str g) (r := .chars rest) (s := s') (Or.inl rfl) k' (by simp at hk; omega)
    cases hst : stepF s g with
    | none =>
      rw [hst] at hb
      simp [loopN, hget, hc, hstep, hb, walk, hst]
    | some s' =>
      rw [hst] at hb
      rcases hb with hb | hb <;> simp [loopN, hget, hc, hstep, hb, walk, hst, hrec]

/-- What a `range` loop leaves in its loop variable — the last element, if there was one, else what was there (`none`:
    not yet bound).  An environment's shape differs by whether the variable is bound, so loop states carry this. -/
def lastOr {β : Type} (o : Option β) : List β → Option β
  | [] => o
  | b :: bs => lastOr (some b) bs

theorem cmpV_eq_nat [DecidableEq A] (a b : Nat) : cmpV (A := A) "==" (.num a) (.num b) = .bool (decide (a = b)) := by
  simp [cmpV, cmpI, Int.natCast_inj]

theorem cmpV_eq_nat0 [DecidableEq A] (a : Nat) : cmpV (A := A) "==" (.num a) (.num 0) = .bool (decide (a = 0)) := by
  have := cmpV_eq_nat (A := A) a 0
  simpa using this

theorem cmpV_gt_nat [DecidableEq A] (a b : Nat) : cmpV (A := A) ">" (.num a) (.num b) = .bool (decide (b < a)) := by
  simp [cmpV, cmpI]

theorem cmpV_lt_nat [DecidableEq A] (a b : Nat) : cmpV (A := A) "<" (.num a) (.num b) = .bool (decide (a < b)) := by
  simp [cmpV, cmpI]

def stepCount : Int → List A → Option Int := fun i _ => some (i + 1)

theorem walk_count (l : List (List A)) (c r : V A) (i : Int) : (walk stepCount l c r i).state = i + l.length := by
  induction l generalizing i c r with
  | nil => simp [walk]
  | cons g r ih => simp [walk, stepCount, ih]; omega

open VaxisModel.Lemmas.Editor (Act) in
/-- the step of a copying loop (counter, builder) that decides by `d` what to do with a cluster -/
def stepOf (d : Int → Act) : Int × List A → List A → Option (Int × List A) := fun s g =>
  match d s.1 with
  | .copy => some (s.1 + 1, s.2 ++ g)
  | .skip => some (s.1 + 1, s.2)
  | .stop => none

open VaxisModel.Lemmas.Editor (Act scan scan_acc) in
theorem walk_scan (d : Int → Act) : ∀ (l : List (List A)) (cv rv : V A) (i : Nat) (next : List A),
    (walk (stepOf d) l cv rv ((i : Int), next)).state.2 = next ++ (scan (fun n : Nat => d (n : Int)) l i []).1.flatten := by
  intro l
  induction l with
  | nil => intro cv rv i next; simp [walk, scan]
  | cons g r ih =>
    intro cv rv i next
    have e : ((i : Int) + 1) = ((i + 1 : Nat) : Int) := by omega
    cases h : d (i : Int)
    · simp only [walk, stepOf, h, scan, e, ih]
      rw [scan_acc _ r (i + 1) ([] ++ [g])]; simp
    · simp only [walk, stepOf, h, scan, e, ih]
    · simp [walk, stepOf, h, scan]

/-- where the loop of `insertStringAtCursor` breaks (`left`: the clusters not yet taken) -/
structure InsWalked (A : Type) where
  cluster : V A
  rest : V A
  i : Int
  next : List A
  left : List (List A)

/-- Clusters are copied to the builder while the counter is below the insertion point `cur`. -/
def walkIns (cur : Int) : List (List A) → V A → V A → Int → List A → InsWalked A
  | [], c, r, i, next => ⟨c, r, i, next, []⟩
  | g :: rest, c, r, i, next =>
    if i < cur then walkIns cur rest (.str g) (.chars rest) (i + 1) (next ++ g) else ⟨c, r, i, next, g :: rest⟩

/-- `for { if len(rest) > 0 && i < tf.cursor { cluster, rest = …; next += cluster; i++; continue }; …; break }`, run as
    `loopN`: a bare `for`, so the loop condition `cond` is constantly true and only the `break` ends it; the test comes
    BEFORE the cluster is taken (`walk` breaks after taking it and cannot serve: hence `walkIns`).  The first slot of `mk` is
    the variable `tf.cursor`: `cur` going in; the `break` branch overwrites it with the cluster count of `next ++ s` and
    gives the builder `s` and what is left. -/
theorem insertLoopSpec (cl : List A → List (List A))
    (mk : V A → V A → V A → Int → List A → Env A) (cur : Int) (s : List A)
    (cond : Env A → V A) (body post : Env A → Res A)
    (l : List (List A)) (r c : V A) (i : Int) (next : List A) (k : Nat)
    (hcond : ∀ e, cond e = .bool true)
    (hbody : ∀ c r l i next, Rep cl r l →
      match l with
      | g :: rest =>
        if i < cur then Continues (body (mk (.num cur) c r i next)) (mk (.num cur) (.str g) (.chars rest) (i + 1) (next ++ g))
        else body (mk (.num cur) c r i next) = .brk (mk (.num (cl (next ++ s)).length) c r i (next ++ s ++ l.flatten))
      | [] => body (mk (.num cur) c r i next) = .brk (mk (.num (cl (next ++ s)).length) c r i (next ++ s ++ l.flatten)))
    (hpost : ∀ e, post e = .ok e)
    (hr : Rep cl r l) (hk : l.length < k) :
    loopN cond body post k (mk (.num cur) c r i next) =
      let w := walkIns cur l c r i next
      .ok (mk (.num (cl (w.next ++ s)).length) w.cluster w.rest w.i (w.next ++ s ++ w.left.flatten)) := by
  induction l generalizing r c i next k with
  | nil =>
    obtain ⟨k', rfl⟩ : ∃ k', k = k' + 1 := ⟨k - 1, by simp at hk; omega⟩
    have hb := hbody c r [] i next hr
    simp at hb
    simp [loopN, hcond, hb, walkIns]
  | cons g rest ih =>
    obtain ⟨k', rfl⟩ : ∃ k', k = k' + 1 := ⟨k - 1, by simp at hk; omega⟩
    have hb := hbody c r (g :: rest) i next hr
    by_cases hi : i < cur
    · simp only [hi, if_true] at hb
      have hrec := ih (.chars rest) (.str g) (i + 1) (next ++ g) k' (Or.inl rfl) (by simp at hk; omega)
      cases hb with
      | inl hb => simp [loopN, hcond, hb, hpost, walkIns, hi, hrec]
      | inr hb => simp [loopN, hcond, hb, hpost, walkIns, hi, hrec]
    · simp only [hi, if_false] at hb
      simp [loopN, hcond, hb, walkIns, hi]

open VaxisModel.Model.TextField (insertLoop) in
/-- `walkIns` against the model's `insertLoop` (run on clusters, inserting the one "cluster" `s`). -/
theorem walkIns_model (cur : Nat) (s : List A) : ∀ (l : List (List A)) (c r : V A) (i : Nat) (next : List A) (acc : List (List A)),
    acc.flatten = next →
    (walkIns (cur : Int) l c r (i : Int) next).next ++ s = (insertLoop [s] cur l i acc).1.flatten ∧
    (walkIns (cur : Int) l c r (i : Int) next).left.flatten = (insertLoop [s] cur l i acc).2.flatten := by
  intro l
  induction l with
  | nil => intro c r i next acc h; simp [walkIns, insertLoop, h]
  | cons g rest ih =>
    intro c r i next acc h
    by_cases hi : i < cur
    · have hi' : (i : Int) < (cur : Int) := by omega
      have := ih (.str g) (.chars rest) (i + 1) (next ++ g) (acc ++ [g]) (by simp [h])
      simp only [walkIns, hi', if_true, insertLoop, hi]
      simpa using this
    · have hi' : ¬ (i : Int) < (cur : Int) := by omega
      simp [walkIns, hi', insertLoop, hi, h]

end VaxisModel.Lemmas.EdLangTF
