import VaxisModel.Lemmas.EdLangTF
import VaxisModel.Model.EdGen
import VaxisModel.Lemmas.EditorCl

/-! C17 — TextField bodies = model: what every function's proof uses (the counting loop, the loop the three deleting functions
share, the frame of a method call, the receiver with its callback fields and the log of the calls made).  The namespace
`Lemmas.EdLangTFBody` runs over this file and Lemmas/EdLangTF<Function>.lean: one file per function of the TextField, so that a
changed function rebuilds its own proof. -/
namespace VaxisModel.Lemmas.EdLangTFBody
open VaxisModel.Model.EdLang VaxisModel.Model.EdRun VaxisModel.Gen.EditorLang VaxisModel.Lemmas.EdLangTF VaxisModel.Model.EdGen
open VaxisModel.Model

variable {A : Type} [DecidableEq A]

@[simp] theorem genTf_handleEvent : genTf.handleEvent = tfHandleEvent := rfl
@[simp] theorem genTf_checkChanged : genTf.checkChanged = tfCheckChanged := rfl
@[simp] theorem genTf_reset : genTf.reset = tfReset := rfl
@[simp] theorem genTf_insertString : genTf.insertString = tfInsertStringAtCursor := rfl
@[simp] theorem genTf_cursorTo : genTf.cursorTo = tfCursorTo := rfl
@[simp] theorem genTf_delRight : genTf.delRight = tfDeleteCharRightOfCursor := rfl
@[simp] theorem genTf_delLeft : genTf.delLeft = tfDeleteCharLeftOfCursor := rfl
@[simp] theorem genTf_kill : genTf.kill = tfDeleteCursorToEndOfLine := rfl
@[simp] theorem genTf_insertLoop : genTf.insertLoop = tfInsertLoop := rfl
@[simp] theorem genTf_count : genTf.count = tfGraphemeCount := rfl

theorem count_body_eq_model (cl : List A → List (List A)) (hs : ClSane cl) (s : List A) (env : Env A) :
    tfCall0 genTf cl "graphemeCountInString" [.str s] env = some (env, .num (cl s).length) := by
  have hloop := clusterLoop_run (cxBase cl) hs "_" "l0" (S.addAssign "l2" (.num 1) ;; B.nil)
    (fun _ r i => [("p0", .str s), ("l0", r), ("l1", .num (-1)), ("l2", .num i)]) stepCount
    (by intro g rest i; simp [stepCount, edrun])
    (cl s) .opaque (.str s) 0 (Or.inr ⟨s, rfl, rfl⟩)
  simp [tfCall0, callMethod, runFn, tfGraphemeCount, edrun, ↓hloop, walk_count]

/-- The environment of the three deleting loops. -/
abbrev mkDel (tf : TextFieldCl.TF A) : V A → V A → Int → List A → Env A := fun c r i next =>
  [("tf.Value", .str tf.value), ("tf.cursor", .num tf.cursor), ("tf.n", .num tf.n), ("l0", c), ("l1", r), ("l2", .num (-1)),
   ("l3", .num i), ("l4", .str next)]

open VaxisModel.Lemmas.Editor (Act scan) in
/-- The loop the three deleting functions share, for any `BODY` that copies the cluster, skips it or stops as `d` says of
    the counter: the builder ends as the model's `scan d`, flattened. -/
theorem copyLoop_run (cx : Ctx A) (hs : ClSane cx.cl) (tf : TextFieldCl.TF A) (d : Int → Act) (BODY : B)
    (hbody : ∀ g rest (i : Int) next,
      execB cx BODY (mkDel tf (.str g) (.chars rest) i next) =
        match d i with
        | .copy => .ok (mkDel tf (.str g) (.chars rest) (i + 1) (next ++ g))
        | .skip => .cont (mkDel tf (.str g) (.chars rest) (i + 1) next)
        | .stop => .brk (mkDel tf (.str g) (.chars rest) i next)) :
    execS cx (S.loop (.nonEmpty (.v "l1")) B.nil (S.nextCluster "l0" "l1" ;; BODY)) (mkDel tf (.str []) (.str tf.value) 0 []) =
      let w := walk (stepOf d) (cx.cl tf.value) (.str []) (.str tf.value) (0, [])
      .ok (mkDel tf w.cluster w.rest w.state.1 (scan (fun n : Nat => d (n : Int)) (cx.cl tf.value) 0 []).1.flatten) := by
  have hw := walk_scan d (cx.cl tf.value) (.str []) (.str tf.value) 0 []
  simp only [List.nil_append, Int.natCast_zero] at hw
  have h := clusterLoop_run cx hs "l0" "l1" BODY (fun c r s => mkDel tf c r s.1 s.2) (stepOf d)
    (by intro g rest s; rw [hbody]; cases h : d s.1 <;> simp [stepOf, h])
    (cx.cl tf.value) (.str []) (.str tf.value) (0, []) (Or.inr ⟨_, rfl, rfl⟩)
  simp only at h
  rw [h, ← hw]

/-- What the proofs read of the context `tfCx1`, as rewrite rules: they keep `tfCx1 P cl` folded (unfolded, it is a record that
    `simp` carries through every statement of a run) and rewrite only its `call` and `cl`. -/
theorem tfCx1_call (P : TfProg) (cl : List A → List (List A)) : (tfCx1 P cl).call = tfCall0 P cl := rfl

theorem tfCx1_cl (P : TfProg) (cl : List A → List (List A)) : (tfCx1 P cl).cl = cl := rfl

theorem tfCall1_count (P : TfProg) (cl : List A → List (List A)) (args : List (V A)) (env : Env A) :
    tfCall1 P cl "graphemeCountInString" args env = tfCall0 P cl "graphemeCountInString" args env := by
  simp [tfCall1]

omit [DecidableEq A] in
/-- `envOfTF` written out, as a rewrite rule with a proof: when `simp` has to establish a side condition
    `recvOf tfKeys env = envOfTF tf` it must not unfold `envOfTF` definitionally, or the proof it finds is for a
    statement that is the asked one only up to that unfolding, and is rejected. -/
theorem envOfTF_eq (tf : TextFieldCl.TF A) :
    envOfTF tf = [("tf.Value", .str tf.value), ("tf.cursor", .num tf.cursor), ("tf.n", .num tf.n)] := by
  simp [envOfTF]

theorem tf_frame {cx : Ctx A} {f : Fn} {args : List (V A)} {tf tf' : TextFieldCl.TF A} {r : V A}
    (h : callMethod cx tfKeys f args (envOfTF tf) = some (envOfTF tf', r)) (env : Env A) (henv : recvOf tfKeys env = envOfTF tf) :
    callMethod cx tfKeys f args env = some (copyBack tfKeys (envOfTF tf') env, r) :=
  callMethod_frame cx tfKeys (by decide) f args _ _ env r h (by simp [envOfTF, getV]) henv

/-- How the model's callback log reads in the interpreter's log. -/
def callName : TextFieldCl.Call A → String × List A
  | .change v => ("change", v)
  | .submit v => ("submit", v)

/-- A callback field of the receiver: a function value when the application installed one, else `nil`. -/
def cbV : Bool → V A
  | true => .opaque
  | false => .cmd false

/-- The receiver as `HandleEvent` and `checkChanged` see it: the three fields, the two callback fields, the log of
    the calls made. -/
def cbEnv (tf : TextFieldCl.TF A) (onChange onSubmit : Bool) (log : V A) : Env A :=
  envOfTF tf ++ [("tf.OnChange", cbV onChange), ("tf.OnSubmit", cbV onSubmit), ("log", log)]

/-- The calls that reach the application: those whose callback is installed. -/
def installed (onChange onSubmit : Bool) : TextFieldCl.Call A → Bool
  | .change _ => onChange
  | .submit _ => onSubmit

omit [DecidableEq A] in
theorem cbEnv_eq (tf : TextFieldCl.TF A) (onChange onSubmit : Bool) (log : V A) :
    cbEnv tf onChange onSubmit log =
      [("tf.Value", .str tf.value), ("tf.cursor", .num tf.cursor), ("tf.n", .num tf.n),
       ("tf.OnChange", cbV onChange), ("tf.OnSubmit", cbV onSubmit), ("log", log)] := by
  simp [cbEnv, envOfTF]

omit [DecidableEq A] in
@[simp] theorem filter_installed_both (cs : List (TextFieldCl.Call A)) : cs.filter (installed true true) = cs :=
  List.filter_eq_self.2 (by intro c _; cases c <;> rfl)

omit [DecidableEq A] in
@[simp] theorem filter_installed_none (cs : List (TextFieldCl.Call A)) : cs.filter (installed false false) = [] :=
  List.filter_eq_nil_iff.2 (by intro c _; cases c <;> simp [installed])

/-- The log after the calls `cs`. -/
def pushLog (cs : List (TextFieldCl.Call A)) (log : V A) : V A :=
  cs.foldl (fun l c => .pair (.pair (.name (callName c).1) (.str (callName c).2)) l) log

omit [DecidableEq A] in
theorem logOf_pushLog (cs : List (TextFieldCl.Call A)) (log : V A) : logOf (pushLog cs log) = logOf log ++ cs.map callName := by
  induction cs generalizing log with
  | nil => simp [pushLog]
  | cons c cs ih =>
    have := ih (.pair (.pair (.name (callName c).1) (.str (callName c).2)) log)
    simp only [pushLog, List.foldl_cons] at this ⊢
    simp [this, logOf]

theorem tfApi_of_call (cl : List A → List (List A)) (f : String) (args : List (V A)) (tf tf' : TextFieldCl.TF A) (r : V A)
    (h : tfCall2 genTf cl f args (envOfTF tf) = some (envOfTF tf', r)) :
    tfApi genTf cl f args tf = some (tf', r) := by
  unfold tfApi
  rw [h]
  simp [tfOfEnv, envOfTF, getV]

omit [DecidableEq A] in
theorem clSane_of_seg (cl : List A → List (List A)) (h : VaxisModel.Spec.Editor.Segmentation cl) : ClSane cl where
  nil := VaxisModel.Lemmas.EditorCl.cl_nil h
  cons := by
    intro s hs hc
    have := h.flatten s
    rw [hc] at this
    exact hs (by simpa using this.symm)
  flat := h.flatten

end VaxisModel.Lemmas.EdLangTFBody
