import VaxisModel.Lemmas.EdLangTFReset
import VaxisModel.Lemmas.EdLangTFCursorTo
import VaxisModel.Lemmas.EdLangTFDelRight
import VaxisModel.Lemmas.EdLangTFDelLeft
import VaxisModel.Lemmas.EdLangTFKill
import VaxisModel.Lemmas.EdLangTFInsert
import VaxisModel.Lemmas.EdLangTFCheck

/-! C17 — `TextField.HandleEvent` as translated from the source is the model's `handleKey`; histories through the translated bodies. -/
namespace VaxisModel.Lemmas.EdLangTFBody
open VaxisModel.Model.EdLang VaxisModel.Model.EdRun VaxisModel.Gen.EditorLang VaxisModel.Lemmas.EdLangTF VaxisModel.Model.EdGen
open VaxisModel.Model

variable {A : Type} [DecidableEq A]

/-- `HandleEvent` for a key event; `onChange`, `onSubmit`: whether the application installed that callback.
    `tfHandleKey` is the case of both, `tfHandleKeyNoCb` of none. -/
def tfHandleKeyCb (onChange onSubmit : Bool) (cl : List A → List (List A)) (tf : TextFieldCl.TF A) (ev : TextField.KeyEv A) :
    Option (TextFieldCl.TF A × List (String × List A)) :=
  match runFn (tfCx4 genTf cl) tfHandleEvent (cbEnv tf onChange onSubmit .opaque ++ keyEnv ev) [.opaque, .opaque] with
  | some (env', _) => (tfOfEnv env').map (·, logOf (getV env' "log"))
  | none => none

theorem tfHandleKey_eq (cl : List A → List (List A)) (tf : TextFieldCl.TF A) (ev : TextField.KeyEv A) :
    tfHandleKey genTf cl tf ev = tfHandleKeyCb true true cl tf ev := by
  simp only [tfHandleKey, tfHandleKeyCb, cbEnv, cbV, genTf_handleEvent]; rfl

theorem tfHandleKeyNoCb_eq (cl : List A → List (List A)) (tf : TextFieldCl.TF A) (ev : TextField.KeyEv A) :
    tfHandleKeyNoCb genTf cl tf ev = tfHandleKeyCb false false cl tf ev := by
  simp only [tfHandleKeyNoCb, tfHandleKeyCb, cbEnv, cbV, genTf_handleEvent]; rfl

-- `simp [tf_handle, edrun, …]` runs `HandleEvent`; the calls of the API functions and of `checkChanged` are taken from the
-- lemmas given.
attribute [tf_handle] tfHandleKeyCb cbEnv_eq runFn tfHandleEvent keyEnv envOfTF_eq cmpV nonEmptyV tfCx4 doCall evalArgs E.isAbsent
  tfCall3 tfCall2 tfCall1 tfOfEnv logOf logOf_pushLog

section branches
variable (onChange onSubmit : Bool) (cl : List A → List (List A)) (hs : ClSane cl) (tf : TextFieldCl.TF A)
  (text : List A) (home toEnd right left delR delL kill enter : Bool)

theorem handle_release :
    tfHandleKeyCb onChange onSubmit cl tf ⟨true, text, home, toEnd, right, left, delR, delL, kill, enter⟩ = some (tf, []) := by
  simp [tf_handle, edrun]

include hs in
theorem handle_text (ht : text ≠ []) :
    tfHandleKeyCb onChange onSubmit cl tf ⟨false, text, home, toEnd, right, left, delR, delL, kill, enter⟩ =
      some (TextFieldCl.insertString cl tf text,
        ((TextFieldCl.checkChanged tf.value (TextFieldCl.insertString cl tf text)).filter (installed onChange onSubmit)).map callName) := by
  have he : text.isEmpty = false := List.isEmpty_eq_false_iff.2 ht
  obtain ⟨r, hr⟩ := checkChanged_frame cl (TextFieldCl.insertString cl tf text) tf.value true onChange onSubmit .opaque
  simp [tf_handle, edrun, he, tf_frame (insertString_body_eq_model cl hs tf text), hr]

theorem handle_home :
    tfHandleKeyCb onChange onSubmit cl tf ⟨false, [], true, toEnd, right, left, delR, delL, kill, enter⟩ =
      some ((TextFieldCl.cursorTo tf 0).1, []) := by
  simp [tf_handle, edrun, tf_frame (show callMethod _ _ _ [.num 0] _ = _ from cursorTo_body_eq_model cl tf 0)]

theorem handle_end :
    tfHandleKeyCb onChange onSubmit cl tf ⟨false, [], false, true, right, left, delR, delL, kill, enter⟩ =
      some ((TextFieldCl.cursorTo tf tf.n).1, []) := by
  simp [tf_handle, edrun, tf_frame (cursorTo_body_eq_model cl tf tf.n)]

theorem handle_right :
    tfHandleKeyCb onChange onSubmit cl tf ⟨false, [], false, false, true, left, delR, delL, kill, enter⟩ =
      some ((TextFieldCl.cursorTo tf (tf.cursor + 1)).1, []) := by
  simp [tf_handle, edrun, tf_frame (show callMethod _ _ _ [.num (tf.cursor + 1)] _ = _ from cursorTo_body_eq_model cl tf (tf.cursor + 1))]

theorem handle_left :
    tfHandleKeyCb onChange onSubmit cl tf ⟨false, [], false, false, false, true, delR, delL, kill, enter⟩ =
      some (if tf.cursor = 0 then tf else (TextFieldCl.cursorTo tf (tf.cursor - 1)).1, []) := by
  by_cases hc : tf.cursor = 0
  · simp [tf_handle, edrun, hc, cmpI]; rw [← hc]
  · have e : ((tf.cursor : Int) - 1) = ((tf.cursor - 1 : Nat) : Int) := by omega
    simp [tf_handle, edrun, hc, cmpI, e, tf_frame (cursorTo_body_eq_model cl tf (tf.cursor - 1))]

include hs in
theorem handle_delRight :
    tfHandleKeyCb onChange onSubmit cl tf ⟨false, [], false, false, false, false, true, delL, kill, enter⟩ =
      some ((TextFieldCl.deleteRight cl tf).1,
        ((TextFieldCl.checkChanged tf.value (TextFieldCl.deleteRight cl tf).1).filter (installed onChange onSubmit)).map callName) := by
  obtain ⟨r, hr⟩ := checkChanged_frame cl (TextFieldCl.deleteRight cl tf).1 tf.value (TextFieldCl.deleteRight cl tf).2 onChange onSubmit .opaque
  simp [tf_handle, edrun, tf_frame (deleteRight_body_eq_model cl hs tf), hr]

include hs in
theorem handle_delLeft :
    tfHandleKeyCb onChange onSubmit cl tf ⟨false, [], false, false, false, false, false, true, kill, enter⟩ =
      some ((TextFieldCl.deleteLeft cl tf).1,
        ((TextFieldCl.checkChanged tf.value (TextFieldCl.deleteLeft cl tf).1).filter (installed onChange onSubmit)).map callName) := by
  obtain ⟨r, hr⟩ := checkChanged_frame cl (TextFieldCl.deleteLeft cl tf).1 tf.value (TextFieldCl.deleteLeft cl tf).2 onChange onSubmit .opaque
  simp [tf_handle, edrun, tf_frame (deleteLeft_body_eq_model cl hs tf), hr]

include hs in
theorem handle_kill :
    tfHandleKeyCb onChange onSubmit cl tf ⟨false, [], false, false, false, false, false, false, true, enter⟩ =
      some ((TextFieldCl.killToEnd cl tf).1,
        ((TextFieldCl.checkChanged tf.value (TextFieldCl.killToEnd cl tf).1).filter (installed onChange onSubmit)).map callName) := by
  obtain ⟨r, hr⟩ := checkChanged_frame cl (TextFieldCl.killToEnd cl tf).1 tf.value (TextFieldCl.killToEnd cl tf).2 onChange onSubmit .opaque
  simp [tf_handle, edrun, tf_frame (killToEnd_body_eq_model cl hs tf), hr]

theorem handle_enter :
    tfHandleKeyCb onChange onSubmit cl tf ⟨false, [], false, false, false, false, false, false, false, true⟩ =
      some (TextFieldCl.reset tf, if onSubmit then [("submit", tf.value)] else []) := by
  cases onSubmit <;> simp [tf_handle, edrun, tf_frame (reset_body_eq_model cl tf), TextFieldCl.reset, cbV, callback]

theorem handle_none :
    tfHandleKeyCb onChange onSubmit cl tf ⟨false, [], false, false, false, false, false, false, false, false⟩ = some (tf, []) := by
  simp [tf_handle, edrun]

end branches

/-- Whichever callbacks the application installed: the calls made are the model's, less those whose callback is `nil`. -/
theorem handleEvent_run (onChange onSubmit : Bool) (cl : List A → List (List A)) (hs : ClSane cl) (tf : TextFieldCl.TF A)
    (ev : TextField.KeyEv A) :
    tfHandleKeyCb onChange onSubmit cl tf ev =
      some ((TextFieldCl.handleKey cl tf ev).1, ((TextFieldCl.handleKey cl tf ev).2.filter (installed onChange onSubmit)).map callName) := by
  obtain ⟨rel, text, home, toEnd, right, left, delR, delL, kill, enter⟩ := ev
  cases rel
  · by_cases ht : text = []
    · subst ht
      cases home
      · cases toEnd
        · cases right
          · cases left
            · cases delR
              · cases delL
                · cases kill
                  · cases enter
                    · rw [handle_none]; simp [TextFieldCl.handleKey]
                    · rw [handle_enter]; cases onSubmit <;> simp [TextFieldCl.handleKey, callName, installed, List.filter]
                  · rw [handle_kill _ _ cl hs]; simp [TextFieldCl.handleKey]
                · rw [handle_delLeft _ _ cl hs]; simp [TextFieldCl.handleKey]
              · rw [handle_delRight _ _ cl hs]; simp [TextFieldCl.handleKey]
            · rw [handle_left]; by_cases hc : tf.cursor = 0 <;> simp [TextFieldCl.handleKey, hc]
          · rw [handle_right]; simp [TextFieldCl.handleKey]
        · rw [handle_end]; simp [TextFieldCl.handleKey]
      · rw [handle_home]; simp [TextFieldCl.handleKey]
    · have hl : text.length > 0 := by cases text with | nil => exact absurd rfl ht | cons a t => simp
      rw [handle_text _ _ cl hs _ _ _ _ _ _ _ _ _ _ ht]; simp [TextFieldCl.handleKey, hl]
  · rw [handle_release]; simp [TextFieldCl.handleKey]

/-- Both callbacks installed: the translated body — the release test, the text test, the chain of `Matches` tests in source
    order, the calls into the API functions, `checkChanged`, the deferred `Reset` — is the model's `handleKey`, state and callbacks. -/
theorem handleEvent_body_eq_model (cl : List A → List (List A)) (hs : ClSane cl) (tf : TextFieldCl.TF A)
    (ev : TextField.KeyEv A) :
    tfHandleKey genTf cl tf ev = some ((TextFieldCl.handleKey cl tf ev).1, (TextFieldCl.handleKey cl tf ev).2.map callName) := by
  rw [tfHandleKey_eq, handleEvent_run true true cl hs, filter_installed_both]

theorem handleEvent_nocb_body_eq_model (cl : List A → List (List A)) (hs : ClSane cl) (tf : TextFieldCl.TF A)
    (ev : TextField.KeyEv A) :
    tfHandleKeyNoCb genTf cl tf ev = some ((TextFieldCl.handleKey cl tf ev).1, []) := by
  rw [tfHandleKeyNoCb_eq, handleEvent_run false false cl hs, filter_installed_none, List.map_nil]

open VaxisModel.Lemmas.EditorCl (TFOpC tfStepC tfRunC) in
/-- One operation (a key event through `HandleEvent`, or a call of the exported API) run by the
    interpreter on the translated bodies; `none` = the interpreter has no meaning for a statement. -/
def tfStepI (cl : List A → List (List A)) (tf : TextFieldCl.TF A) : TFOpC A → Option (TextFieldCl.TF A)
  | .key ev => (tfHandleKey genTf cl tf ev).map (·.1)
  | .ins s => (tfApi genTf cl "InsertStringAtCursor" [.str s] tf).map (·.1)
  | .cur i => (tfApi genTf cl "CursorTo" [.num i] tf).map (·.1)
  | .delr => (tfApi genTf cl "DeleteCharRightOfCursor" [] tf).map (·.1)
  | .dell => (tfApi genTf cl "DeleteCharLeftOfCursor" [] tf).map (·.1)
  | .kill => (tfApi genTf cl "DeleteCursorToEndOfLine" [] tf).map (·.1)
  | .reset => (tfApi genTf cl "Reset" [] tf).map (·.1)

open VaxisModel.Lemmas.EditorCl (TFOpC tfStepC tfRunC) in
def tfRunI (cl : List A → List (List A)) : TextFieldCl.TF A → List (TFOpC A) → Option (TextFieldCl.TF A)
  | tf, [] => some tf
  | tf, op :: ops =>
    match tfStepI cl tf op with
    | some tf' => tfRunI cl tf' ops
    | none => none

open VaxisModel.Lemmas.EditorCl (TFOpC tfStepC tfRunC) in
theorem tfStepI_eq (cl : List A → List (List A)) (hs : ClSane cl) (tf : TextFieldCl.TF A) (op : TFOpC A) :
    tfStepI cl tf op = some (tfStepC cl tf op).1 := by
  cases op with
  | key ev => simp [tfStepI, tfStepC, handleEvent_body_eq_model cl hs tf ev]
  | ins s => simp [tfStepI, tfStepC, insertString_api cl hs tf s]
  | cur i => simp [tfStepI, tfStepC, cursorTo_api cl tf i]
  | delr => simp [tfStepI, tfStepC, deleteRight_api cl hs tf]
  | dell => simp [tfStepI, tfStepC, deleteLeft_api cl hs tf]
  | kill => simp [tfStepI, tfStepC, killToEnd_api cl hs tf]
  | reset => simp [tfStepI, tfStepC, reset_api cl tf]

open VaxisModel.Lemmas.EditorCl (TFOpC tfStepC tfRunC) in
theorem tfRunI_eq (cl : List A → List (List A)) (hs : ClSane cl) (ops : List (TFOpC A)) (tf : TextFieldCl.TF A) :
    tfRunI cl tf ops = some (tfRunC cl tf ops) := by
  induction ops generalizing tf with
  | nil => rfl
  | cons op ops ih => simp [tfRunI, tfRunC, tfStepI_eq cl hs, ih]

end VaxisModel.Lemmas.EdLangTFBody
