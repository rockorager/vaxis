import VaxisModel.Lemmas.EdLangTFBase

/-! C17 — `TextField.checkChanged` as translated from the source is the model's `checkChanged`. -/
namespace VaxisModel.Lemmas.EdLangTFBody
open VaxisModel.Model.EdLang VaxisModel.Model.EdRun VaxisModel.Gen.EditorLang VaxisModel.Lemmas.EdLangTF VaxisModel.Model.EdGen
open VaxisModel.Model

variable {A : Type} [DecidableEq A]

theorem checkChanged_run (cl : List A → List (List A)) (tf : TextFieldCl.TF A) (pre : List A) (cmd onChange onSubmit : Bool)
    (log : V A) :
    ∃ r, callMethod (tfCx3 genTf cl) tfKeysCb tfCheckChanged [.cmd cmd, .str pre] (cbEnv tf onChange onSubmit log) =
      some (cbEnv tf onChange onSubmit
        (pushLog ((TextFieldCl.checkChanged pre tf).filter (installed onChange onSubmit)) log), r) := by
  by_cases h : tf.value = pre
  · simp [cbEnv, callMethod, runFn, tfCheckChanged, edrun, tfKeys, tfKeysCb, envOfTF, cmpV, h,
      TextFieldCl.checkChanged, pushLog]
  · cases onChange <;>
    simp [cbEnv, callMethod, runFn, tfCheckChanged, edrun, tfKeys, tfKeysCb, envOfTF, cmpV, h,
      TextFieldCl.checkChanged, tfCx3, doCall, evalArgs, E.isAbsent, tfCall2, callback, callName, pushLog, List.filter, installed, cbV]

/-- `checkChanged` called from a larger environment that holds the receiver (the key list is `tfKeysCb`, in the
    form `simp` brings it to: this is a rewrite rule for the proofs about `HandleEvent`). -/
theorem checkChanged_frame (cl : List A → List (List A)) (tf : TextFieldCl.TF A) (pre : List A) (cmd onChange onSubmit : Bool)
    (log : V A) :
    ∃ r, ∀ env, recvOf tfKeysCb env = cbEnv tf onChange onSubmit log →
      callMethod (tfCx3 genTf cl) ["tf.Value", "tf.cursor", "tf.n", "tf.OnChange", "tf.OnSubmit", "log"] tfCheckChanged
          [.cmd cmd, .str pre] env =
        some (copyBack tfKeysCb (cbEnv tf onChange onSubmit
          (pushLog ((TextFieldCl.checkChanged pre tf).filter (installed onChange onSubmit)) log)) env, r) := by
  obtain ⟨r, hr⟩ := checkChanged_run cl tf pre cmd onChange onSubmit log
  exact ⟨r, fun env henv => callMethod_frame _ tfKeysCb (by decide) _ _ _ _ env r hr (by simp [cbEnv, envOfTF, getV]) henv⟩

theorem checkChanged_body_eq_model (cl : List A → List (List A)) (tf : TextFieldCl.TF A) (pre : List A) (cmd : Bool) (log : V A) :
    (callMethod (tfCx3 genTf cl) tfKeysCb tfCheckChanged [.cmd cmd, .str pre]
      (envOfTF tf ++ [("tf.OnChange", .opaque), ("tf.OnSubmit", .opaque), ("log", log)])).map (fun p => logOf (getV p.1 "log")) =
      some (logOf log ++ (TextFieldCl.checkChanged pre tf).map callName) := by
  obtain ⟨r, hr⟩ := checkChanged_run cl tf pre cmd true true log
  simp only [cbEnv, cbV] at hr
  rw [hr]
  simp [getV, envOfTF, logOf_pushLog]

end VaxisModel.Lemmas.EdLangTFBody
