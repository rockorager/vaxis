import VaxisModel.Lemmas.EdLangTFBase

/-! C17 — `TextField.CursorTo` as translated from the source is the model's `cursorTo`. -/
namespace VaxisModel.Lemmas.EdLangTFBody
open VaxisModel.Model.EdLang VaxisModel.Model.EdRun VaxisModel.Gen.EditorLang VaxisModel.Lemmas.EdLangTF VaxisModel.Model.EdGen
open VaxisModel.Model

variable {A : Type} [DecidableEq A]

theorem cursorTo_body_eq_model (cl : List A → List (List A)) (tf : TextFieldCl.TF A) (i : Nat) :
    callMethod (tfCx1 genTf cl) tfKeys tfCursorTo [.num i] (envOfTF tf) =
      some (envOfTF (TextFieldCl.cursorTo tf i).1, .cmd (TextFieldCl.cursorTo tf i).2) := by
  obtain ⟨v, c, n⟩ := tf
  by_cases h1 : n < i
  · by_cases h2 : n = c <;> (try subst h2) <;>
      simp [callMethod, runFn, tfCursorTo, edrun, tfKeys, envOfTF, TextFieldCl.cursorTo, cmpV_eq_nat, cmpV_gt_nat, *]
  · by_cases h2 : i = c <;> (try subst h2) <;>
      simp [callMethod, runFn, tfCursorTo, edrun, tfKeys, envOfTF, TextFieldCl.cursorTo, cmpV_eq_nat, cmpV_gt_nat, *]

theorem cursorTo_api (cl : List A → List (List A)) (tf : TextFieldCl.TF A) (i : Nat) :
    tfApi genTf cl "CursorTo" [.num i] tf = some ((TextFieldCl.cursorTo tf i).1, .cmd (TextFieldCl.cursorTo tf i).2) :=
  tfApi_of_call cl _ _ _ _ _ (by simpa [tfCall2, tfCall1] using cursorTo_body_eq_model cl tf i)

end VaxisModel.Lemmas.EdLangTFBody
