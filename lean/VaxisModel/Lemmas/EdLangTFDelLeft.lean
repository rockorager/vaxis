import VaxisModel.Lemmas.EdLangTFBase

/-! C17 — `TextField.DeleteCharLeftOfCursor` as translated from the source is the model's `deleteLeft`. -/
namespace VaxisModel.Lemmas.EdLangTFBody
open VaxisModel.Model.EdLang VaxisModel.Model.EdRun VaxisModel.Gen.EditorLang VaxisModel.Lemmas.EdLangTF VaxisModel.Model.EdGen
open VaxisModel.Model

variable {A : Type} [DecidableEq A]

theorem deleteLeft_body_eq_model (cl : List A → List (List A)) (hs : ClSane cl) (tf : TextFieldCl.TF A) :
    callMethod (tfCx1 genTf cl) tfKeys tfDeleteCharLeftOfCursor [] (envOfTF tf) =
      some (envOfTF (TextFieldCl.deleteLeft cl tf).1, .cmd (TextFieldCl.deleteLeft cl tf).2) := by
  obtain ⟨v, c, n⟩ := tf
  by_cases h : c = 0
  · subst h
    simp [callMethod, runFn, tfDeleteCharLeftOfCursor, edrun, tfKeys, envOfTF, TextFieldCl.deleteLeft, cmpV, cmpI]
  · have hloop := copyLoop_run (tfCx1 genTf cl) hs ⟨v, c, n⟩ (fun j => if j + 1 = (c : Int) then .skip else .copy)
      (S.addAssign "l3" (.num 1) ;; S.ite (.cmp "==" (.v "l3") (.v "tf.cursor")) (S.cont ;; B.nil) B.nil ;;
        S.write "l4" (.v "l0") ;; B.nil)
      (by intro g rest i next
          by_cases hi : i + 1 = c <;> simp [edrun, cmpV, cmpI, hi])
    simp only [mkDel, tfCx1_cl] at hloop
    have e : ∀ j : Nat, ((j : Int) + 1 = (c : Int)) = (j + 1 = c) := fun j => by simp only [eq_iff_iff]; omega
    simp [callMethod, runFn, tfDeleteCharLeftOfCursor, edrun, ↓hloop, tfKeys, envOfTF, TextFieldCl.deleteLeft, cmpV_eq_nat0, h, tfCx1_call, doCall, evalArgs, E.isAbsent,
      count_body_eq_model cl hs, TextFieldCl.count, VaxisModel.Lemmas.Editor.delLeftLoop_scan, e]
    omega

theorem deleteLeft_api (cl : List A → List (List A)) (hs : ClSane cl) (tf : TextFieldCl.TF A) :
    tfApi genTf cl "DeleteCharLeftOfCursor" [] tf = some ((TextFieldCl.deleteLeft cl tf).1, .cmd (TextFieldCl.deleteLeft cl tf).2) :=
  tfApi_of_call cl _ _ _ _ _ (by simpa [tfCall2, tfCall1] using deleteLeft_body_eq_model cl hs tf)

end VaxisModel.Lemmas.EdLangTFBody
