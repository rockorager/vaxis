import VaxisModel.Lemmas.EdLangTFBase

/-! C17 — `TextField.DeleteCharRightOfCursor` as translated from the source is the model's `deleteRight`. -/
namespace VaxisModel.Lemmas.EdLangTFBody
open VaxisModel.Model.EdLang VaxisModel.Model.EdRun VaxisModel.Gen.EditorLang VaxisModel.Lemmas.EdLangTF VaxisModel.Model.EdGen
open VaxisModel.Model

variable {A : Type} [DecidableEq A]

theorem deleteRight_body_eq_model (cl : List A → List (List A)) (hs : ClSane cl) (tf : TextFieldCl.TF A) :
    callMethod (tfCx1 genTf cl) tfKeys tfDeleteCharRightOfCursor [] (envOfTF tf) =
      some (envOfTF (TextFieldCl.deleteRight cl tf).1, .cmd (TextFieldCl.deleteRight cl tf).2) := by
  obtain ⟨v, c, n⟩ := tf
  by_cases h : n = c
  · subst h
    simp [callMethod, runFn, tfDeleteCharRightOfCursor, edrun, tfKeys, envOfTF, TextFieldCl.deleteRight, cmpV_eq_nat]
  · have hloop := copyLoop_run (tfCx1 genTf cl) hs ⟨v, c, n⟩ (fun j => if j = (c : Int) then .skip else .copy)
      (S.ite (.cmp "==" (.v "l3") (.v "tf.cursor")) (S.addAssign "l3" (.num 1) ;; S.cont ;; B.nil) B.nil ;;
        S.addAssign "l3" (.num 1) ;; S.write "l4" (.v "l0") ;; B.nil)
      (by intro g rest i next
          by_cases hi : i = c <;> simp [edrun, cmpV, cmpI, hi])
    simp only [mkDel, tfCx1_cl] at hloop
    simp [callMethod, runFn, tfDeleteCharRightOfCursor, edrun, ↓hloop, tfKeys, envOfTF, TextFieldCl.deleteRight, cmpV_eq_nat, h, tfCx1_call, doCall, evalArgs, E.isAbsent,
      count_body_eq_model cl hs, TextFieldCl.count, VaxisModel.Lemmas.Editor.delRightLoop_scan, Int.natCast_inj]

theorem deleteRight_api (cl : List A → List (List A)) (hs : ClSane cl) (tf : TextFieldCl.TF A) :
    tfApi genTf cl "DeleteCharRightOfCursor" [] tf = some ((TextFieldCl.deleteRight cl tf).1, .cmd (TextFieldCl.deleteRight cl tf).2) :=
  tfApi_of_call cl _ _ _ _ _ (by simpa [tfCall2, tfCall1] using deleteRight_body_eq_model cl hs tf)

end VaxisModel.Lemmas.EdLangTFBody
