import VaxisModel.Lemmas.EdLangTFBase

/-! C17 — `TextField.Draw` as translated from the source computes the model's cursor column. -/
namespace VaxisModel.Lemmas.EdLangTFBody
open VaxisModel.Model.EdLang VaxisModel.Model.EdRun VaxisModel.Gen.EditorLang VaxisModel.Lemmas.EdLangTF VaxisModel.Model.EdGen
open VaxisModel.Model

variable {A : Type} [DecidableEq A]

@[simp] theorem genTf_draw : genTf.draw = tfDraw := rfl
@[simp] theorem genTf_drawKey : genTf.drawKey = "l0.Cursor.Col" := rfl

/-- The loop state of `Draw`.  `last`: the last character width seen, the loop variable of the inner loop — once that loop has
    run, the environment has two more entries. -/
structure DSt where
  i : Int
  col : Int
  cur : Int
  last : Option Int

/-- One cluster: the column advances by the widths of the characters it is drawn as; the cursor column is the column
    reached when the counter reaches the cursor. -/
def stepDraw (drawW : List A → List Int) (cursor : Int) : DSt → List A → DSt :=
  fun s g =>
    let col := s.col + (drawW g).sum
    ⟨s.i + 1, col, (if s.i + 1 = cursor then col else s.cur), lastOr s.last (drawW g)⟩

omit [DecidableEq A] in
/-- `col += uint16(char.Width)` for every character the cluster is drawn as. -/
theorem rangeWidths (x : String) (mkR : Int → Option Int → Env A) (body : Env A → Res A)
    (hbody : ∀ col o w, body (setV x (.num w) (mkR col o)) = .ok (mkR (col + w) (some w))) :
    ∀ (ws : List Int) (col : Int) (o : Option Int),
      rangeN x body (ws.map V.num) (mkR col o) = .ok (mkR (col + ws.sum) (lastOr o ws)) := by
  intro ws
  induction ws with
  | nil => intro col o; simp [rangeN, lastOr]
  | cons w ws ih =>
    intro col o
    simp only [List.map_cons, rangeN, hbody, List.sum_cons, lastOr]
    rw [ih]
    congr 2
    omega

/-- The environment of the loops of `Draw`. -/
def mkD (tf : TextFieldCl.TF A) (w h : Int) : V A → V A → DSt → Env A := fun c r s =>
  match s.last with
  | none =>
    [("tf.Value", .str tf.value), ("tf.cursor", .num tf.cursor), ("tf.n", .num tf.n), ("tf.Style", .opaque),
     ("p0.Max.Width", .num w), ("p0.Max.Height", .num h), ("p0", .opaque), ("l0", .opaque), ("l0.Cursor.Row", .num 0),
     ("l0.Cursor.Col", .num s.cur), ("l0.Cursor.Shape", .opaque), ("l1", .num s.i), ("l2", .num s.col), ("l3", c), ("l4", r),
     ("l5", .num (-1))]
  | some lw =>
    [("tf.Value", .str tf.value), ("tf.cursor", .num tf.cursor), ("tf.n", .num tf.n), ("tf.Style", .opaque),
     ("p0.Max.Width", .num w), ("p0.Max.Height", .num h), ("p0", .opaque), ("l0", .opaque), ("l0.Cursor.Row", .num 0),
     ("l0.Cursor.Col", .num s.cur), ("l0.Cursor.Shape", .opaque), ("l1", .num s.i), ("l2", .num s.col), ("l3", c), ("l4", r),
     ("l5", .num (-1)), ("l6", .num lw), ("l7", .opaque)]

theorem draw_zero (cl : List A → List (List A)) (drawW : List A → List Int) (tf : TextFieldCl.TF A) (w h : Int)
    (hz : w = 0 ∨ h = 0) : tfDrawCol genTf cl drawW tf w h = some none := by
  rcases hz with rfl | rfl
  · simp [tfDrawCol, runFn, tfDraw, edrun, envOfTF, cmpV, cmpI]
  · by_cases hw : w = 0 <;>
    simp [tfDrawCol, runFn, tfDraw, edrun, envOfTF, cmpV, cmpI, hw]

theorem draw_run (cl : List A → List (List A)) (hs : ClSane cl) (drawW : List A → List Int) (tf : TextFieldCl.TF A) (w h : Int)
    (hw0 : w ≠ 0) (hh0 : h ≠ 0) :
    tfDrawCol genTf cl drawW tf w h =
      let s := (walk (fun s g => some (stepDraw drawW tf.cursor s g)) (cl tf.value) (.str []) (.str tf.value) (⟨0, 0, 0, none⟩ : DSt)).state
      some (some (if s.i < tf.cursor then s.col else s.cur)) := by
  have hloop := clusterLoop_run { cl := cl, isAlnum := fun _ => false, call := fun _ _ _ => none, drawW := drawW } hs "l3" "l4"
    (S.rangeDrawn "l6" (.v "l3") (S.assign "l7" (.opaque "vaxis.Cell{…}") ;; S.effect "WriteCell" ;;
        S.addAssign "l2" (.width (.v "l6")) ;; B.nil) ;;
      S.addAssign "l1" (.num 1) ;; S.ite (.cmp "==" (.v "l1") (.v "tf.cursor")) (S.assign "l0.Cursor.Col" (.v "l2") ;; B.nil) B.nil ;;
      B.nil)
    (mkD tf w h) (fun s g => some (stepDraw drawW tf.cursor s g))
    (by
      intro g rest s
      obtain ⟨i, col, cur, o⟩ := s
      have inner : ∀ (F : Env A → Res A),
          (∀ col' o' w', F (setV "l6" (.num w') (mkD tf w h (.str g) (.chars rest) ⟨i, col', cur, o'⟩)) =
            .ok (mkD tf w h (.str g) (.chars rest) ⟨i, col' + w', cur, some w'⟩)) →
          rangeN "l6" F ((drawW g).map V.num) (mkD tf w h (.str g) (.chars rest) ⟨i, col, cur, o⟩) =
            .ok (mkD tf w h (.str g) (.chars rest) ⟨i, col + (drawW g).sum, cur, lastOr o (drawW g)⟩) :=
        fun F hF => rangeWidths "l6" (fun col' o' => mkD tf w h (.str g) (.chars rest) ⟨i, col', cur, o'⟩) F hF (drawW g) col o
      -- goals, for `o = none` then `some lw`: the statements after the inner loop; the step `hF` of the inner loop
      cases o <;> simp only [mkD] at inner <;> simp [mkD, edrun] <;> rw [inner _ ?_]
      · by_cases hc : i + 1 = tf.cursor <;> cases hl : lastOr none (drawW g) <;>
          simp [edrun, stepDraw, cmpV, cmpI, hc, hl]
      · intro col' o' w'; cases o' <;> simp [edrun]
      · rename_i lw
        by_cases hc : i + 1 = tf.cursor <;> cases hl : lastOr (some lw) (drawW g) <;>
          simp [edrun, stepDraw, cmpV, cmpI, hc, hl]
      · intro col' o' w'; cases o' <;> simp [edrun])
    (cl tf.value) (.str []) (.str tf.value) (⟨0, 0, 0, none⟩ : DSt) (Or.inr ⟨_, rfl, rfl⟩)
    (by intro c r s; obtain ⟨i, col, cur, o⟩ := s; cases o <;> rfl)
    (by intro c r s g rest; obtain ⟨i, col, cur, o⟩ := s; cases o <;> rfl)
  conv at hloop => lhs; simp only [mkD]
  simp [tfDrawCol, runFn, tfDraw, edrun, ↓hloop, envOfTF, cmpV, cmpI, hw0, hh0]
  generalize walk (fun s g => some (stepDraw drawW tf.cursor s g)) (cl tf.value) (.str []) (.str tf.value) (⟨0, 0, 0, none⟩ : DSt) = R
  obtain ⟨c', r', ⟨i', col', cur', o'⟩⟩ := R
  by_cases hlt : i' < tf.cursor <;> cases o' <;> simp [mkD, edrun, hlt]

theorem sum_nonneg (ws : List Int) (h : ∀ w ∈ ws, 0 ≤ w) : 0 ≤ ws.sum := by
  induction ws with
  | nil => simp
  | cons w ws ih =>
    have h1 := h w (by simp)
    have h2 := ih (fun x hx => h x (by simp [hx]))
    simp; omega

theorem drawChars_sum (ws : List Int) (h : ∀ w ∈ ws, 0 ≤ w) (a : Nat) :
    TextField.drawChars (ws.map Int.toNat) (UInt16.ofNat a) = UInt16.ofNat (a + ws.sum.toNat) := by
  induction ws generalizing a with
  | nil => simp [TextField.drawChars]
  | cons w ws ih =>
    have h1 := h w (by simp)
    have h2 : ∀ x ∈ ws, 0 ≤ x := fun x hx => h x (by simp [hx])
    have h3 := sum_nonneg ws h2
    simp only [List.map_cons, TextField.drawChars, List.foldl_cons, List.sum_cons]
    rw [← UInt16.ofNat_add]
    have := ih h2 (a + w.toNat)
    simp only [TextField.drawChars] at this
    rw [this]
    congr 1
    omega

omit [DecidableEq A] in
/-- The integer loop state against the model's `drawLoop` (columns modulo 65536). -/
theorem walk_drawLoop (drawW : List A → List Int) (hw : ∀ g, ∀ w ∈ drawW g, 0 ≤ w) (cursor : Nat) :
    ∀ (l : List (List A)) (c r : V A) (i col cur : Nat) (o : Option Int),
      let s := (walk (fun s g => some (stepDraw drawW (cursor : Int) s g)) l c r (⟨(i : Int), (col : Int), (cur : Int), o⟩ : DSt)).state
      0 ≤ s.i ∧ 0 ≤ s.col ∧ 0 ≤ s.cur ∧
      TextField.drawLoop (fun g => (drawW g).map Int.toNat) cursor l i (UInt16.ofNat col) (UInt16.ofNat cur) =
        (s.i.toNat, UInt16.ofNat s.col.toNat, UInt16.ofNat s.cur.toNat) := by
  intro l
  induction l with
  | nil => intro c r i col cur o; simp [walk, TextField.drawLoop]
  | cons g rest ih =>
    intro c r i col cur o
    have hs := sum_nonneg (drawW g) (hw g)
    have e1 : ((col : Int) + (drawW g).sum) = ((col + (drawW g).sum.toNat : Nat) : Int) := by omega
    have e2 : ((i : Int) + 1) = ((i + 1 : Nat) : Int) := by omega
    simp only [walk, stepDraw, TextField.drawLoop, drawChars_sum (drawW g) (hw g) col]
    by_cases hc : i + 1 = cursor
    · have hc' : (i : Int) + 1 = (cursor : Int) := by omega
      simp only [hc, hc', if_true]
      rw [e1]
      have := ih (.str g) (.chars rest) (i + 1) (col + (drawW g).sum.toNat) (col + (drawW g).sum.toNat) (lastOr o (drawW g))
      rw [hc] at this
      exact this
    · have hc' : ¬ ((i : Int) + 1 = (cursor : Int)) := by omega
      simp only [hc, hc', if_false]
      rw [e1, e2]
      exact ih (.str g) (.chars rest) (i + 1) (col + (drawW g).sum.toNat) cur (lastOr o (drawW g))

theorem draw_body_eq_model (cl : List A → List (List A)) (hs : ClSane cl) (drawW : List A → List Int)
    (hw : ∀ g, ∀ w ∈ drawW g, 0 ≤ w) (tf : TextFieldCl.TF A) (w h : Int) (hw0 : w ≠ 0) (hh0 : h ≠ 0) :
    ∃ c : Int, 0 ≤ c ∧ tfDrawCol genTf cl drawW tf w h = some (some c) ∧
      UInt16.ofNat c.toNat = TextFieldCl.drawCursorCol cl (fun g => (drawW g).map Int.toNat) tf := by
  rw [draw_run cl hs drawW tf w h hw0 hh0]
  have key := walk_drawLoop drawW hw tf.cursor (cl tf.value) (.str []) (.str tf.value) 0 0 0 none
  simp only [Int.natCast_zero] at key
  obtain ⟨k1, k2, k3, k4⟩ := key
  generalize (walk (fun s g => some (stepDraw drawW (tf.cursor : Int) s g)) (cl tf.value) (.str []) (.str tf.value) (⟨0, 0, 0, none⟩ : DSt)).state = s at *
  refine ⟨_, ?_, rfl, ?_⟩
  · split <;> assumption
  · simp only [TextFieldCl.drawCursorCol, TextField.drawCursorCol]
    have k4' : TextField.drawLoop (fun g => (drawW g).map Int.toNat) tf.cursor (cl tf.value) 0 0 0 =
        (s.i.toNat, UInt16.ofNat s.col.toNat, UInt16.ofNat s.cur.toNat) := by simpa using k4
    rw [k4']
    by_cases hlt : s.i < tf.cursor
    · have : s.i.toNat < tf.cursor := by omega
      simp [hlt, this]
    · have : ¬ s.i.toNat < tf.cursor := by omega
      simp [hlt, this]

end VaxisModel.Lemmas.EdLangTFBody
