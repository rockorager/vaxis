import VaxisModel.Lemmas.EdLangTFBase

/-! C17 — `TextField.InsertStringAtCursor` / `insertStringAtCursor` as translated from the source are the model's `insertString`. -/
namespace VaxisModel.Lemmas.EdLangTFBody
open VaxisModel.Model.EdLang VaxisModel.Model.EdRun VaxisModel.Gen.EditorLang VaxisModel.Lemmas.EdLangTF VaxisModel.Model.EdGen
open VaxisModel.Model

variable {A : Type} [DecidableEq A]

/-- The environment of the loop of `insertStringAtCursor`. -/
abbrev mkIns (v : List A) (n : Nat) (s : List A) : V A → V A → V A → Int → List A → Env A := fun cur c r i next =>
  [("tf.Value", .str v), ("tf.cursor", cur), ("tf.n", .num n), ("p0", .str s), ("l0", c), ("l1", r), ("l2", .num (-1)),
   ("l3", .num i), ("l4", .str next)]

/-- `insertStringAtCursor` (the unexported helper: the loop, the cursor, the value; `tf.n` untouched) -/
theorem insertLoop_body_eq_model (cl : List A → List (List A)) (hs : ClSane cl) (tf : TextFieldCl.TF A) (s : List A) :
    tfCall1 genTf cl "insertStringAtCursor" [.str s]
        [("tf.Value", .str tf.value), ("tf.cursor", .num tf.cursor), ("tf.n", .num tf.n), ("p0", .str s)] =
      some ([("tf.Value", .str (TextFieldCl.insertString cl tf s).value), ("tf.cursor", .num (TextFieldCl.insertString cl tf s).cursor),
             ("tf.n", .num tf.n), ("p0", .str s)], .opaque) := by
  obtain ⟨v, c, n⟩ := tf
  have hw := walkIns_model c s (cl v) (.str []) (.str v) 0 [] [] rfl
  simp at hw
  simp [tfCall1, callMethod, runFn, tfInsertLoop, edrun, tfKeys, TextFieldCl.insertString, E.isAbsent, tfCx1, doCall, evalArgs]
  rw [insertLoopSpec cl (mkIns v n s) c s (l := cl v) (c := .str []) (r := .str v) (i := 0) (next := [])]
  -- goals: what is left after the loop; `hcond`; `hbody` (by `rest` a cluster list or a string × no cluster left or one ×
  -- before the cursor or not); `hpost`; the start shape `hr`; the fuel `hk`
  · simp [getV, setV, TextFieldCl.count, hw]
  · intro e; rfl
  · intro c' r l i next hr
    rcases hr with rfl | ⟨s', rfl, hcl⟩
    · cases l with
      | nil => simp [getV, setV, nonEmptyV, count_body_eq_model cl hs]
      | cons g rest =>
        by_cases hi : i < c
        · simp [getV, setV, nonEmptyV, hi, cmpV, cmpI]
        · simp [getV, setV, nonEmptyV, hi, cmpV, cmpI, count_body_eq_model cl hs]
    · cases l with
      | nil =>
        have : s' = [] := by have := hs.flat s'; rw [hcl] at this; simpa using this.symm
        subst this
        simp [getV, setV, nonEmptyV, count_body_eq_model cl hs]
      | cons g rest =>
        have hne : s' ≠ [] := by intro h; subst h; rw [hs.nil] at hcl; cases hcl
        have hfl : s' = g ++ rest.flatten := by have := hs.flat s'; rw [hcl] at this; simpa using this.symm
        have he : s'.isEmpty = false := List.isEmpty_eq_false_iff.2 hne
        by_cases hi : i < c
        · simp [getV, setV, nonEmptyV, hi, cmpV, cmpI, hcl, he]
        · simp [getV, setV, nonEmptyV, hi, cmpV, cmpI, count_body_eq_model cl hs, he]
          exact hfl
  · intro e; rfl
  · exact Or.inr ⟨_, rfl, rfl⟩
  · simp [envSize, vSize]; omega

theorem insertString_body_eq_model (cl : List A → List (List A)) (hs : ClSane cl) (tf : TextFieldCl.TF A) (s : List A) :
    callMethod (tfCx2 genTf cl) tfKeys tfInsertStringAtCursor [.str s] (envOfTF tf) =
      some (envOfTF (TextFieldCl.insertString cl tf s), .cmd true) := by
  simp [callMethod, runFn, tfInsertStringAtCursor, edrun, tfKeys, envOfTF, E.isAbsent, tfCx2, doCall, evalArgs, insertLoop_body_eq_model cl hs, tfCall1_count,
    count_body_eq_model cl hs]
  simp [TextFieldCl.insertString, TextFieldCl.count]

theorem insertString_api (cl : List A → List (List A)) (hs : ClSane cl) (tf : TextFieldCl.TF A) (s : List A) :
    tfApi genTf cl "InsertStringAtCursor" [.str s] tf = some (TextFieldCl.insertString cl tf s, .cmd true) :=
  tfApi_of_call cl _ _ _ _ _ (by simpa [tfCall2] using insertString_body_eq_model cl hs tf s)

end VaxisModel.Lemmas.EdLangTFBody
