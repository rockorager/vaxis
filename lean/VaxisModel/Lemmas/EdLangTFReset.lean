import VaxisModel.Lemmas.EdLangTFBase

/-! C17 — `TextField.Reset` as translated from the source is the model's `reset`. -/
namespace VaxisModel.Lemmas.EdLangTFBody
open VaxisModel.Model.EdLang VaxisModel.Model.EdRun VaxisModel.Gen.EditorLang VaxisModel.Lemmas.EdLangTF VaxisModel.Model.EdGen
open VaxisModel.Model

variable {A : Type} [DecidableEq A]

theorem reset_body_eq_model (cl : List A → List (List A)) (tf : TextFieldCl.TF A) :
    callMethod (tfCx1 genTf cl) tfKeys tfReset [] (envOfTF tf) = some (envOfTF (TextFieldCl.reset tf), .opaque) := by
  simp [callMethod, runFn, tfReset, edrun, tfKeys, envOfTF,
    TextFieldCl.reset]

theorem reset_api (cl : List A → List (List A)) (tf : TextFieldCl.TF A) :
    tfApi genTf cl "Reset" [] tf = some (TextFieldCl.reset tf, .opaque) :=
  tfApi_of_call cl _ _ _ _ _ (by simpa [tfCall2, tfCall1] using reset_body_eq_model cl tf)

end VaxisModel.Lemmas.EdLangTFBody
