import VaxisModel.Model.EdGen
import VaxisModel.Model.TextInput
import VaxisModel.Lemmas.EdLangTF

/-! C17 — textinput's `widthToCursor`, `String()` and `CursorPosition()` as translated from the source are the model's. -/
namespace VaxisModel.Lemmas.EdLangTIWidth
open VaxisModel.Model.EdLang VaxisModel.Model.EdRun VaxisModel.Gen.EditorLang VaxisModel.Model.EdGen
open VaxisModel.Model

variable {A : Type} [DecidableEq A]

/-- the loop variables, once bound -/
abbrev LV (A : Type) := Option (Int × List A)

/-- the model's loop, also tracking the loop variables -/
def walkW (width : List A → Int) (cursor offset : Int) : List (List A) → Int → Int → LV A → Int × LV A
  | [], _, w, o => (w, o)
  | g :: gs, i, w, _ =>
    if i < offset then walkW width cursor offset gs (i + 1) w (some (i, g))
    else if i = cursor then (w + width g, some (i, g))
    else walkW width cursor offset gs (i + 1) (w + width g) (some (i, g))

omit [DecidableEq A] in
theorem walkW_fst (width : List A → Int) (cursor offset : Int) : ∀ (l : List (List A)) (i w : Int) (o : LV A),
    (walkW width cursor offset l i w o).1 = TextInput.widthToCursor width cursor offset l i w := by
  intro l
  induction l with
  | nil => intro i w o; simp [walkW, TextInput.widthToCursor]
  | cons g gs ih =>
    intro i w o
    by_cases h1 : i < offset
    · simp [walkW, TextInput.widthToCursor, h1, ih]
    · by_cases h2 : i = cursor
      · have h3 : ¬ cursor < offset := by omega
        simp [walkW, TextInput.widthToCursor, h2, h3]
      · simp [walkW, TextInput.widthToCursor, h1, h2, ih]

/-- the environment of the loop: the parameters, the width so far, and the loop variables once bound -/
def mkW (chars : List (List A)) (cursor offset : Int) : Int → LV A → Env A := fun w o =>
  [("p0", .chars chars), ("p1", .num cursor), ("p2", .num offset), ("l0", .num w)] ++
    match o with
    | none => []
    | some (i, c) => [("l1", .num i), ("l2", .str c)]

omit [DecidableEq A] in
theorem rangeIdxSpec (width : List A → Int) (chars : List (List A)) (cursor offset : Int) (body : Env A → Res A)
    (hbody : ∀ w o i g, body (setV "l2" (.str g) (setV "l1" (.num i) (mkW chars cursor offset w o))) =
      if i < offset then .cont (mkW chars cursor offset w (some (i, g)))
      else if i = cursor then .brk (mkW chars cursor offset (w + width g) (some (i, g)))
      else .ok (mkW chars cursor offset (w + width g) (some (i, g)))) :
    ∀ (l : List (List A)) (i w : Int) (o : LV A),
      rangeIdxN "l1" "l2" body i (l.map V.str) (mkW chars cursor offset w o) =
        .ok (mkW chars cursor offset (walkW width cursor offset l i w o).1 (walkW width cursor offset l i w o).2) := by
  intro l
  induction l with
  | nil => intro i w o; simp [rangeIdxN, walkW]
  | cons g gs ih =>
    intro i w o
    by_cases h1 : i < offset
    · simp only [List.map_cons, rangeIdxN, hbody, h1, if_true, walkW]
      exact ih _ _ _
    · by_cases h2 : i = cursor
      · have h3 : ¬ cursor < offset := by omega
        simp [rangeIdxN, hbody, h2, h3, walkW]
      · simp only [List.map_cons, rangeIdxN, hbody, h1, h2, if_false, walkW]
        exact ih _ _ _

@[simp] theorem genTi_widthToCursor : genTi.widthToCursor = tiWidthToCursor := rfl

theorem widthToCursor_body_eq_model (width : List A → Int) (chars : List (List A)) (cursor offset : Int) :
    tiWidthToCursorI genTi width chars cursor offset = some (TextInput.widthToCursor width cursor offset chars 0 0) := by
  simp [tiWidthToCursorI, runFn, tiWidthToCursor, edrun]
  have henv : mkW chars cursor offset 0 none =
      [("p0", .chars chars), ("p1", .num cursor), ("p2", .num offset), ("l0", .num 0)] := rfl
  rw [← henv]
  rw [rangeIdxSpec width chars cursor offset _ ?_ chars 0 0 none]
  · rw [← walkW_fst width cursor offset chars 0 0 none]
    cases (walkW width cursor offset chars 0 0 none).2 with
    | none => simp [mkW, getV]
    | some p => obtain ⟨i, c⟩ := p; simp [mkW, getV]
  · -- the body's two tests, for either shape of the environment (loop variables bound or not)
    intro w o i g
    rcases o with _ | ⟨i0, c0⟩ <;> by_cases h1 : i < offset <;> by_cases h2 : i = cursor <;> (try subst h2) <;>
      simp [mkW, getV, setV, cmpV, cmpI, *]

@[simp] theorem genTi_string : genTi.string = tiString := rfl
@[simp] theorem genTi_cursorPosition : genTi.cursorPosition = tiCursorPosition := rfl

/-- the environment of the loop of `String()`: the widget, the string so far, and the loop variable once bound -/
def mkS (m : TextInputCl.TIC A) : List A → Option (List A) → Env A := fun acc o =>
  [("m.content", .chars m.content), ("m.cursor", .num m.cursor), ("m.offset", .num m.offset), ("m.paste", .str m.paste),
   ("l0", .str acc)] ++
    match o with
    | none => []
    | some g => [("l1", .str g)]

omit [DecidableEq A] in
theorem rangeStr (m : TextInputCl.TIC A) (body : Env A → Res A)
    (hbody : ∀ acc o g, body (setV "l1" (.str g) (mkS m acc o)) = .ok (mkS m (acc ++ g) (some g))) :
    ∀ (l : List (List A)) (acc : List A) (o : Option (List A)),
      rangeN "l1" body (l.map V.str) (mkS m acc o) = .ok (mkS m (acc ++ l.flatten) (EdLangTF.lastOr o l)) := by
  intro l
  induction l with
  | nil => intro acc o; simp [rangeN, EdLangTF.lastOr]
  | cons g gs ih =>
    intro acc o
    simp only [List.map_cons, rangeN, hbody, EdLangTF.lastOr, List.flatten_cons]
    rw [ih]
    simp

theorem string_body_eq_model (m : TextInputCl.TIC A) : tiStringI genTi m = some m.content.flatten := by
  simp [tiStringI, runFn, tiString, edrun, envOfTI]
  have henv : mkS m [] none =
      [("m.content", .chars m.content), ("m.cursor", .num m.cursor), ("m.offset", .num m.offset), ("m.paste", .str m.paste),
       ("l0", .str [])] := rfl
  rw [← henv, rangeStr m _ ?_ m.content [] none]
  · cases EdLangTF.lastOr none m.content <;> simp [mkS, getV]
  · intro acc o g
    cases o <;> simp [mkS, getV, setV]

theorem cursorPosition_body_eq_model (m : TextInputCl.TIC A) : tiCursorPositionI genTi m = some m.cursor := by
  simp [tiCursorPositionI, runFn, tiCursorPosition, edrun, envOfTI]

end VaxisModel.Lemmas.EdLangTIWidth
