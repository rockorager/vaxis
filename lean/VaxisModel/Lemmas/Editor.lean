import VaxisModel.Model.TextField
import VaxisModel.Spec.Editor
import VaxisModel.Lemmas.EditorBasic

/-! C17, TextField: its grapheme-walking loops compute take/drop/eraseIdx; with them every operation of the exported API and
`HandleEvent` refine the ideal editor of Spec/Editor.lean under the abstraction `abs` and the invariant `Inv`; the cursor column
`Draw` computes is the display width of the text before the cursor. -/
namespace VaxisModel.Lemmas.Editor
open VaxisModel.Model.TextField

/-! ### The four cluster loops are one loop

`insertStringAtCursor`, `DeleteCharRightOfCursor`, `DeleteCharLeftOfCursor` and `DeleteCursorToEndOfLine` walk the value
cluster by cluster with a counter and a builder; they differ in what they do with the cluster at index `i`: copy it, skip
it (`continue`), or stop (`break`).  `scan d` is that loop for a decision `d i`; its closed form is proved once. -/

/-- what an iteration does with the cluster at the counter's index -/
inductive Act | copy | skip | stop

variable {G : Type}

/-- the loop: the builder, and what is left of the value -/
def scan (d : Nat → Act) : List G → Nat → List G → List G × List G
  | [], _, next => (next, [])
  | c :: rest, i, next =>
    match d i with
    | .copy => scan d rest (i + 1) (next ++ [c])
    | .skip => scan d rest (i + 1) next
    | .stop => (next, c :: rest)

theorem scan_acc (d : Nat → Act) (l : List G) (i : Nat) (next : List G) :
    scan d l i next = (next ++ (scan d l i []).1, (scan d l i []).2) := by
  induction l generalizing i next with
  | nil => simp [scan]
  | cons c rest ih =>
    cases h : d i <;> simp only [scan, h]
    · rw [ih (i + 1) (next ++ [c]), ih (i + 1) ([] ++ [c])]; simp
    · exact ih (i + 1) next
    · simp

theorem scan_copy (d : Nat → Act) : ∀ (l : List G) (i : Nat) (next : List G), (∀ j, i ≤ j → d j = .copy) →
    scan d l i next = (next ++ l, []) := by
  intro l
  induction l with
  | nil => intro i next _; simp [scan]
  | cons c rest ih =>
    intro i next h
    simp [scan, h i (Nat.le_refl _), ih (i + 1) _ (fun j hj => h j (by omega))]

theorem scan_at (d : Nat → Act) (p : Nat) (a : Act) (hlt : ∀ j, j < p → d j = .copy) (hp : d p = a) :
    ∀ (l : List G) (i : Nat) (next : List G), i ≤ p →
    scan d l i next =
      match a with
      | .stop => (next ++ l.take (p - i), l.drop (p - i))
      | .skip => scan d (l.drop (p - i + 1)) (p + 1) (next ++ l.take (p - i))
      | .copy => scan d (l.drop (p - i)) p (next ++ l.take (p - i)) := by
  intro l
  induction l with
  | nil => intro i next _; cases a <;> simp [scan]
  | cons c rest ih =>
    intro i next hi
    by_cases h : i = p
    · subst h
      cases a <;> simp [scan, hp]
    · have e : p - i = (p - (i + 1)) + 1 := by omega
      rw [scan, hlt i (by omega), ih (i + 1) _ (by omega), e]
      cases a <;> simp

theorem insertLoop_scan (s : List G) (c : Nat) (l : List G) (i : Nat) (next : List G) :
    insertLoop s c l i next =
      ((scan (fun j => if j < c then .copy else .stop) l i next).1 ++ s, (scan (fun j => if j < c then .copy else .stop) l i next).2) := by
  induction l generalizing i next with
  | nil => rfl
  | cons g r ih => by_cases h : i < c <;> simp [insertLoop, scan, h, ih]

theorem delRightLoop_scan (c : Nat) (l : List G) (i : Nat) (next : List G) :
    delRightLoop c l i next = (scan (fun j => if j = c then .skip else .copy) l i next).1 := by
  induction l generalizing i next with
  | nil => rfl
  | cons g r ih => by_cases h : i = c <;> simp [delRightLoop, scan, h, ih]

theorem delLeftLoop_scan (c : Nat) (l : List G) (i : Nat) (next : List G) :
    delLeftLoop c l i next = (scan (fun j => if j + 1 = c then .skip else .copy) l i next).1 := by
  induction l generalizing i next with
  | nil => rfl
  | cons g r ih => by_cases h : i + 1 = c <;> simp [delLeftLoop, scan, h, ih]

theorem killLoop_scan (c : Nat) (l : List G) (i : Nat) (next : List G) :
    killLoop c l i next = (scan (fun j => if j = c then .stop else .copy) l i next).1 := by
  induction l generalizing i next with
  | nil => rfl
  | cons g r ih => by_cases h : i = c <;> simp [killLoop, scan, h, ih]

theorem insertLoop_eq (s : List G) (cursor : Nat) (rest : List G) (i : Nat) (next : List G) (hi : i ≤ cursor) :
    insertLoop s cursor rest i next = (next ++ rest.take (cursor - i) ++ s, rest.drop (cursor - i)) := by
  rw [insertLoop_scan, scan_at _ cursor .stop (fun j hj => by simp [hj]) (by simp) rest i next hi]

theorem delRightLoop_eq (cursor : Nat) (rest : List G) (i : Nat) (next : List G) (hi : i ≤ cursor) :
    delRightLoop cursor rest i next = next ++ rest.eraseIdx (cursor - i) := by
  rw [delRightLoop_scan, scan_at _ cursor .skip (fun j hj => by simp; omega) (by simp) rest i next hi]
  simp only
  rw [scan_copy _ _ _ _ (fun j hj => by simp; omega)]
  simp [List.eraseIdx_eq_take_drop_succ]

theorem delLeftLoop_eq (cursor : Nat) (rest : List G) (i : Nat) (next : List G) (hi : i + 1 ≤ cursor) :
    delLeftLoop cursor rest i next = next ++ rest.eraseIdx (cursor - 1 - i) := by
  rw [delLeftLoop_scan, scan_at _ (cursor - 1) .skip (fun j hj => by simp; omega) (by simp; omega) rest i next (by omega)]
  simp only
  rw [scan_copy _ _ _ _ (fun j hj => by simp; omega)]
  simp [List.eraseIdx_eq_take_drop_succ]

theorem killLoop_eq (cursor : Nat) (rest : List G) (i : Nat) (next : List G) (hi : i ≤ cursor) :
    killLoop cursor rest i next = next ++ rest.take (cursor - i) := by
  rw [killLoop_scan, scan_at _ cursor .stop (fun j hj => by simp; omega) (by simp) rest i next hi]

open VaxisModel.Spec.Editor (Ed Op Callback)

/-- Representation invariant of TextField: the cached count is the grapheme count of `Value`, and
the cursor is within the text. -/
def Inv {G : Type} (tf : TF G) : Prop := tf.n = tf.value.length ∧ tf.cursor ≤ tf.value.length

/-- Abstraction function: the ideal editor state a TextField represents. -/
def abs {G : Type} (tf : TF G) : Ed G := ⟨tf.value, tf.cursor⟩

def absCall {G : Type} : Call G → Callback G
  | .change v => .change v
  | .submit v => .submit v

/-- What a key event means to the ideal editor: the binding table of the widget (first match in
source order), independent of the editing functions. -/
def meaningOf {G : Type} (ev : KeyEv G) : Op G :=
  if ev.release then .noop
  else if ev.text.length > 0 then .insert ev.text
  else if ev.home then .home
  else if ev.toEnd then .toEnd
  else if ev.right then .right
  else if ev.left then .left
  else if ev.delRight then .deleteRight
  else if ev.delLeft then .deleteLeft
  else if ev.kill then .killToEnd
  else if ev.enter then .submit
  else .noop

inductive TFOp (G : Type) where
  | key (ev : KeyEv G)
  | ins (s : List G)
  | cur (i : Nat)
  | delr
  | dell
  | kill
  | reset

def tfStep {G : Type} [DecidableEq G] (tf : TF G) : TFOp G → TF G × List (Call G)
  | .key ev => handleKey tf ev
  | .ins s => (insertString tf s, [])
  | .cur i => ((cursorTo tf i).1, [])
  | .delr => ((deleteRight tf).1, [])
  | .dell => ((deleteLeft tf).1, [])
  | .kill => ((killToEnd tf).1, [])
  | .reset => (VaxisModel.Model.TextField.reset tf, [])

def specOf {G : Type} : TFOp G → Op G
  | .key ev => meaningOf ev
  | .ins s => .insert s
  | .cur i => .moveTo i
  | .delr => .deleteRight
  | .dell => .deleteLeft
  | .kill => .killToEnd
  | .reset => .reset

def tfRun {G : Type} [DecidableEq G] (tf : TF G) : List (TFOp G) → TF G
  | [] => tf
  | op :: ops => tfRun (tfStep tf op).1 ops

variable {G : Type} (isWord : G → Bool)

/-- The cursor half of the invariant is the ideal editor's well-formedness: it follows from the abstraction equation (handed
    back with it: the pair is what every `*_refines` states). -/
theorem inv_of_abs {tf tf' : TF G} {op : Op G} (h : Inv tf) (hn : tf'.n = tf'.value.length)
    (ha : abs tf' = VaxisModel.Spec.Editor.apply isWord (abs tf) op) :
    Inv tf' ∧ abs tf' = VaxisModel.Spec.Editor.apply isWord (abs tf) op :=
  ⟨⟨hn, by have := apply_wf isWord (abs tf) h.2 op; rw [← ha] at this; exact this⟩, ha⟩

theorem insert_refines (tf : TF G) (s : List G) (h : Inv tf) :
    Inv (insertString tf s) ∧ abs (insertString tf s) = VaxisModel.Spec.Editor.apply isWord (abs tf) (.insert s) := by
  refine inv_of_abs isWord h rfl ?_
  unfold insertString
  rw [insertLoop_eq s tf.cursor tf.value 0 [] (Nat.zero_le _)]
  simp only [abs, VaxisModel.Spec.Editor.apply, count, List.nil_append, Nat.sub_zero, List.length_append, List.length_take,
    Nat.min_eq_left h.2]

theorem cursorTo_refines (tf : TF G) (i : Nat) (h : Inv tf) :
    Inv (cursorTo tf i).1 ∧ abs (cursorTo tf i).1 = VaxisModel.Spec.Editor.apply isWord (abs tf) (.moveTo i) := by
  obtain ⟨hn, hc⟩ := h
  unfold cursorTo
  simp only [abs, VaxisModel.Spec.Editor.apply, Inv]
  split <;> split <;> simp_all <;> omega

theorem deleteRight_refines (tf : TF G) (h : Inv tf) :
    Inv (deleteRight tf).1 ∧ abs (deleteRight tf).1 = VaxisModel.Spec.Editor.apply isWord (abs tf) .deleteRight := by
  unfold deleteRight
  split
  · exact inv_of_abs isWord h h.1
      (by simp only [abs, VaxisModel.Spec.Editor.apply]; rw [List.eraseIdx_of_length_le (by have := h.1; omega)])
  · exact inv_of_abs isWord h rfl
      (by rw [delRightLoop_eq tf.cursor tf.value 0 [] (Nat.zero_le _)]; simp [abs, VaxisModel.Spec.Editor.apply])

theorem deleteLeft_refines (tf : TF G) (h : Inv tf) :
    Inv (deleteLeft tf).1 ∧ abs (deleteLeft tf).1 = VaxisModel.Spec.Editor.apply isWord (abs tf) .deleteLeft := by
  unfold deleteLeft
  split
  · rename_i heq
    exact inv_of_abs isWord h h.1 (by simp [abs, VaxisModel.Spec.Editor.apply, heq])
  · rename_i hne
    exact inv_of_abs isWord h rfl
      (by rw [delLeftLoop_eq tf.cursor tf.value 0 [] (by omega)]; simp [abs, VaxisModel.Spec.Editor.apply, hne])

theorem killToEnd_refines (tf : TF G) (h : Inv tf) :
    Inv (killToEnd tf).1 ∧ abs (killToEnd tf).1 = VaxisModel.Spec.Editor.apply isWord (abs tf) .killToEnd := by
  unfold killToEnd
  split
  · exact inv_of_abs isWord h h.1
      (by simp only [abs, VaxisModel.Spec.Editor.apply]; rw [List.take_of_length_le (by have := h.1; omega)])
  · exact inv_of_abs isWord h rfl
      (by rw [killLoop_eq tf.cursor tf.value 0 [] (Nat.zero_le _)]; simp [abs, VaxisModel.Spec.Editor.apply])

theorem reset_refines (tf : TF G) :
    Inv (VaxisModel.Model.TextField.reset tf) ∧
    abs (VaxisModel.Model.TextField.reset tf) = VaxisModel.Spec.Editor.apply isWord (abs tf) .reset := by
  simp [VaxisModel.Model.TextField.reset, Inv, abs, VaxisModel.Spec.Editor.apply]

theorem callbacks_ne_submit [DecidableEq G] (s : Ed G) (op : Op G) (h : op ≠ .submit) :
    VaxisModel.Spec.Editor.callbacks isWord s op =
      if (VaxisModel.Spec.Editor.apply isWord s op).text = s.text then []
      else [.change (VaxisModel.Spec.Editor.apply isWord s op).text] := by
  cases op <;> first | rfl | exact absurd rfl h

theorem checkChanged_eq [DecidableEq G] (tf tf' : TF G) (op : Op G)
    (ha : abs tf' = VaxisModel.Spec.Editor.apply isWord (abs tf) op) (hop : op ≠ .submit) :
    (checkChanged tf.value tf').map absCall = VaxisModel.Spec.Editor.callbacks isWord (abs tf) op := by
  have hv : (VaxisModel.Spec.Editor.apply isWord (abs tf) op).text = tf'.value := by rw [← ha]; rfl
  rw [callbacks_ne_submit isWord _ _ hop, hv]
  unfold checkChanged
  simp only [abs]
  split <;> rename_i hh <;> simp [absCall, hh]

theorem handleKey_refines [DecidableEq G] (tf : TF G) (ev : KeyEv G) (h : Inv tf) :
    Inv (handleKey tf ev).1 ∧
    abs (handleKey tf ev).1 = VaxisModel.Spec.Editor.apply isWord (abs tf) (meaningOf ev) ∧
    (handleKey tf ev).2.map absCall = VaxisModel.Spec.Editor.callbacks isWord (abs tf) (meaningOf ev) := by
  -- a motion is a `CursorTo`: the text stays, no callback
  have move : ∀ (i : Nat) (op : Op G), op ≠ .submit →
      VaxisModel.Spec.Editor.apply isWord (abs tf) op = VaxisModel.Spec.Editor.apply isWord (abs tf) (.moveTo i) →
      Inv (cursorTo tf i).1 ∧ abs (cursorTo tf i).1 = VaxisModel.Spec.Editor.apply isWord (abs tf) op ∧
      ([] : List (Call G)).map absCall = VaxisModel.Spec.Editor.callbacks isWord (abs tf) op := by
    intro i op hne heq
    have hc := cursorTo_refines isWord tf i h
    refine ⟨hc.1, by rw [heq]; exact hc.2, ?_⟩
    rw [callbacks_ne_submit isWord _ _ hne, heq]
    simp [VaxisModel.Spec.Editor.apply]
  have noop : Inv tf ∧ abs tf = VaxisModel.Spec.Editor.apply isWord (abs tf) .noop ∧
      ([] : List (Call G)).map absCall = VaxisModel.Spec.Editor.callbacks isWord (abs tf) .noop :=
    ⟨h, rfl, by simp [VaxisModel.Spec.Editor.callbacks, VaxisModel.Spec.Editor.apply]⟩
  -- an edit: the API function's refinement, then `checkChanged`
  have edit : ∀ (tf' : TF G) (op : Op G), op ≠ .submit →
      Inv tf' ∧ abs tf' = VaxisModel.Spec.Editor.apply isWord (abs tf) op →
      Inv tf' ∧ abs tf' = VaxisModel.Spec.Editor.apply isWord (abs tf) op ∧
      (checkChanged tf.value tf').map absCall = VaxisModel.Spec.Editor.callbacks isWord (abs tf) op :=
    fun tf' op hne hr => ⟨hr.1, hr.2, checkChanged_eq isWord tf tf' op hr.2 hne⟩
  obtain ⟨rel, text, home, toEnd, right, left, delR, delL, kill, enter⟩ := ev
  unfold handleKey meaningOf
  simp only
  cases rel
  case true => exact noop
  simp only [Bool.false_eq_true, ↓reduceIte]
  by_cases ht : text.length > 0
  · simp only [ht, ↓reduceIte]
    exact edit _ _ (by intro h; cases h) (insert_refines isWord tf text h)
  simp only [ht, ↓reduceIte]
  cases home
  case true => exact move 0 .home (by intro h; cases h) (by simp [VaxisModel.Spec.Editor.apply])
  simp only [Bool.false_eq_true, ↓reduceIte]
  cases toEnd
  case true => exact move tf.n .toEnd (by intro h; cases h) (by simp [VaxisModel.Spec.Editor.apply, abs, h.1])
  simp only [Bool.false_eq_true, ↓reduceIte]
  cases right
  case true => exact move (tf.cursor + 1) .right (by intro h; cases h) rfl
  simp only [Bool.false_eq_true, ↓reduceIte]
  cases left
  case true =>
    simp only [↓reduceIte]
    by_cases h0 : tf.cursor = 0
    · simp only [h0, ↓reduceIte]
      refine ⟨h, ?_, ?_⟩
      · simp [VaxisModel.Spec.Editor.apply, abs, h0]
      · simp [VaxisModel.Spec.Editor.callbacks, VaxisModel.Spec.Editor.apply]
    · simp only [h0, ↓reduceIte]
      refine move (tf.cursor - 1) .left (by intro h; cases h) ?_
      have := h.2
      simp only [VaxisModel.Spec.Editor.apply, abs]
      congr 1
      omega
  simp only [Bool.false_eq_true, ↓reduceIte]
  cases delR
  case true => exact edit _ _ (by intro h; cases h) (deleteRight_refines isWord tf h)
  simp only [Bool.false_eq_true, ↓reduceIte]
  cases delL
  case true => exact edit _ _ (by intro h; cases h) (deleteLeft_refines isWord tf h)
  simp only [Bool.false_eq_true, ↓reduceIte]
  cases kill
  case true => exact edit _ _ (by intro h; cases h) (killToEnd_refines isWord tf h)
  simp only [Bool.false_eq_true, ↓reduceIte]
  cases enter
  case true =>
    simp only [↓reduceIte]
    have := reset_refines isWord tf
    refine ⟨this.1, ?_, ?_⟩
    · rw [this.2]; simp [VaxisModel.Spec.Editor.apply]
    · simp [VaxisModel.Spec.Editor.callbacks, absCall, abs]
  exact noop

theorem tfStep_refines [DecidableEq G] (tf : TF G) (op : TFOp G) (h : Inv tf) :
    Inv (tfStep tf op).1 ∧ abs (tfStep tf op).1 = VaxisModel.Spec.Editor.apply isWord (abs tf) (specOf op) := by
  cases op with
  | key ev => have := handleKey_refines isWord tf ev h; exact ⟨this.1, this.2.1⟩
  | ins s => exact insert_refines isWord tf s h
  | cur i => exact cursorTo_refines isWord tf i h
  | delr => exact deleteRight_refines isWord tf h
  | dell => exact deleteLeft_refines isWord tf h
  | kill => exact killToEnd_refines isWord tf h
  | reset => exact reset_refines isWord tf

theorem tfRun_refines [DecidableEq G] : ∀ (ops : List (TFOp G)) (tf : TF G), Inv tf →
    Inv (tfRun tf ops) ∧ abs (tfRun tf ops) = VaxisModel.Spec.Editor.run isWord (abs tf) (ops.map specOf) := by
  intro ops
  induction ops with
  | nil => intro tf h; exact ⟨h, rfl⟩
  | cons op ops ih =>
    intro tf h
    have hs := tfStep_refines isWord tf op h
    have := ih (tfStep tf op).1 hs.1
    refine ⟨this.1, ?_⟩
    simp only [tfRun, List.map_cons, VaxisModel.Spec.Editor.run]
    rw [this.2, hs.2]

def widthSum {G : Type} (width : G → Nat) : List G → Nat
  | [] => 0
  | g :: gs => width g + widthSum width gs

def sumW : List Nat → Nat
  | [] => 0
  | w :: ws => w + sumW ws

/-- Display width of a grapheme: the total width of the characters it is drawn as. -/
def cellWidth {G : Type} (chars : G → List Nat) (g : G) : Nat := sumW (chars g)

theorem drawChars_eq (ws : List Nat) : ∀ c : Nat, drawChars ws (UInt16.ofNat c) = UInt16.ofNat (c + sumW ws) := by
  induction ws with
  | nil => intro c; simp [drawChars, sumW]
  | cons w ws ih =>
    intro c
    have := ih (c + w)
    simp only [drawChars, List.foldl_cons, sumW] at this ⊢
    rw [← UInt16.ofNat_add, this, Nat.add_assoc]

theorem drawLoop_eq {G : Type} (chars : G → List Nat) (cursor : Nat) :
    ∀ (l : List G) (i c : Nat) (cur : UInt16),
    drawLoop chars cursor l i (UInt16.ofNat c) cur =
      (i + l.length, UInt16.ofNat (c + widthSum (cellWidth chars) l),
        if i < cursor ∧ cursor ≤ i + l.length then UInt16.ofNat (c + widthSum (cellWidth chars) (l.take (cursor - i))) else cur) := by
  intro l
  induction l with
  | nil =>
    intro i c cur
    have : ¬ (i < cursor ∧ cursor ≤ i + ([] : List G).length) := by simp
    rw [if_neg this]
    simp [drawLoop, widthSum]
  | cons g gs ih =>
    intro i c cur
    unfold drawLoop
    simp only []
    rw [drawChars_eq, ih (i + 1) (c + sumW (chars g))]
    have e1 : i + 1 + gs.length = i + (g :: gs).length := by simp; omega
    have e2 : c + sumW (chars g) + widthSum (cellWidth chars) gs = c + widthSum (cellWidth chars) (g :: gs) := by
      simp [widthSum, cellWidth]; omega
    rw [e1, e2]
    congr 2
    by_cases h1 : i + 1 = cursor
    · have hc1 : ¬ (i + 1 < cursor ∧ cursor ≤ i + (g :: gs).length) := by omega
      have hc2 : i < cursor ∧ cursor ≤ i + (g :: gs).length := by simp; omega
      have h3 : cursor - i = 1 := by omega
      rw [if_neg hc1, if_pos hc2, if_pos h1, h3]
      simp [widthSum, cellWidth]
    · by_cases h2 : i + 1 < cursor ∧ cursor ≤ i + (g :: gs).length
      · have hc2 : i < cursor ∧ cursor ≤ i + (g :: gs).length := by omega
        have h3 : cursor - i = (cursor - (i + 1)) + 1 := by omega
        rw [if_pos h2, if_pos hc2, h3, List.take_succ_cons]
        simp only [widthSum, cellWidth, Nat.add_assoc]
      · have hc2 : ¬ (i < cursor ∧ cursor ≤ i + (g :: gs).length) := by omega
        rw [if_neg h2, if_neg hc2, if_neg h1]

theorem drawCursorCol_eq {G : Type} (chars : G → List Nat) (tf : TF G) :
    drawCursorCol chars tf = UInt16.ofNat (widthSum (cellWidth chars) (tf.value.take tf.cursor)) := by
  unfold drawCursorCol
  have h0 : (0 : UInt16) = UInt16.ofNat 0 := rfl
  have := drawLoop_eq chars tf.cursor tf.value 0 0 (UInt16.ofNat 0)
  simp only [Nat.zero_add, Nat.sub_zero] at this
  rw [h0, this]
  simp only
  by_cases h1 : tf.value.length < tf.cursor
  · rw [if_pos h1, List.take_of_length_le (by omega)]
  · rw [if_neg h1]
    by_cases h2 : 0 < tf.cursor
    · rw [if_pos ⟨h2, by omega⟩]
    · have h3 : tf.cursor = 0 := by omega
      rw [if_neg (by omega), h3]
      simp [widthSum]

end VaxisModel.Lemmas.Editor
