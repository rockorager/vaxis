import VaxisModel.Spec.Editor

/-! The ideal editor `Spec.Editor` by itself: the length `lead p l` of the run of `p` at the head of `l`, the word positions
built from it, and `apply` keeps the cursor within the text (`apply_wf`). -/
namespace VaxisModel.Lemmas.Editor
open VaxisModel.Spec.Editor (Ed Op lead wordLeftPos wordRightPos apply)

variable {G : Type}

theorem lead_le (p : G → Bool) (l : List G) : lead p l ≤ l.length := by
  unfold lead
  exact (List.takeWhile_prefix p).length_le

theorem lead_nil (p : G → Bool) : lead p [] = 0 := rfl

theorem lead_cons (p : G → Bool) (g : G) (l : List G) : lead p (g :: l) = if p g then lead p l + 1 else 0 := by
  by_cases h : p g <;> simp [lead, h]

theorem lead_drop_le (p : G → Bool) (l : List G) (c : Nat) : c + lead p (l.drop c) ≤ max c l.length := by
  have := lead_le p (l.drop c)
  rw [List.length_drop] at this
  omega

theorem lead_take_rev_le (p : G → Bool) (l : List G) (c : Nat) : lead p (l.take c).reverse ≤ c := by
  have := lead_le p (l.take c).reverse
  rw [List.length_reverse, List.length_take] at this
  omega

theorem wordLeftPos_le (isWord : G → Bool) (t : List G) (c : Nat) : wordLeftPos isWord t c ≤ c := by
  simp only [wordLeftPos]; omega

theorem wordRightPos_le (isWord : G → Bool) (t : List G) (c : Nat) (hc : c ≤ t.length) : wordRightPos isWord t c ≤ t.length := by
  simp only [wordRightPos]
  have h1 := lead_drop_le (fun g => !isWord g) t c
  have h2 := lead_drop_le isWord t (c + lead (fun g => !isWord g) (t.drop c))
  omega

theorem apply_wf (isWord : G → Bool) (s : Ed G) (h : s.WF) (op : Op G) : (apply isWord s op).WF := by
  have hl := wordLeftPos_le isWord s.text s.cursor
  have hr := wordRightPos_le isWord s.text s.cursor h
  unfold Ed.WF at h ⊢
  cases op <;> simp only [apply] <;> (try split) <;>
    (try simp only [List.length_append, List.length_take, List.length_drop, List.length_eraseIdx, List.length_nil]) <;>
    (try split) <;> omega

end VaxisModel.Lemmas.Editor
