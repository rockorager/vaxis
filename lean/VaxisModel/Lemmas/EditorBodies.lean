/-! The bookkeeping of the two widgets as the models `Model.TextField(Cl)`, `Model.TextInput(Cl)`,
`Model.TextInputCells` transcribe it: per function, in source order, every write to a field of the
receiver, every receiver-method call statement, every `return`, the `case` labels, and every loop in
full.  `Props.C17.facts_*` compare these tables with `Gen.EditorBodies`, which the extractor
regenerates from /repo on every run: dropping, adding or changing a state update (a `tf.n = …`
recount, the `tf.cursor = …` of the insert, `m.resegment()`, a loop guard) breaks a theorem.
The texts are printed with the function's own variables renamed (receiver `tf` / `m`, parameters `p0…`,
locals `l0…` in order of declaration): renaming a variable is silent. -/
namespace VaxisModel.Lemmas.EditorBodies

/-- state writes, receiver calls, returns and loops of TextField.HandleEvent (vxfw/textfield/textfield.go), in source order -/
def tfHandleEvent : List String := [
  "case vaxis.Key:",
  "return nil, nil",
  "l1 := tf.InsertStringAtCursor(p0.Text)",
  "return tf.checkChanged(l1, l0)",
  "return tf.CursorTo(0), nil",
  "return tf.CursorTo(tf.n), nil",
  "return tf.CursorTo(tf.cursor + 1), nil",
  "return nil, nil",
  "return tf.CursorTo(tf.cursor - 1), nil",
  "l1 := tf.DeleteCharRightOfCursor()",
  "return tf.checkChanged(l1, l0)",
  "l1 := tf.DeleteCharLeftOfCursor()",
  "return tf.checkChanged(l1, l0)",
  "l1 := tf.DeleteCursorToEndOfLine()",
  "return tf.checkChanged(l1, l0)",
  "defer tf.Reset()",
  "return tf.OnSubmit(tf.Value)",
  "return vxfw.ConsumeAndRedraw(), nil",
  "return nil, nil"
]

/-- state writes, receiver calls, returns and loops of TextField.checkChanged (vxfw/textfield/textfield.go), in source order -/
def tfCheckChanged : List String := [
  "return p0, nil",
  "l0, l1 := tf.OnChange(tf.Value)",
  "return nil, l1",
  "return []vxfw.Command{p0, l0}, nil",
  "return p0, nil"
]

/-- state writes, receiver calls, returns and loops of TextField.Reset (vxfw/textfield/textfield.go), in source order -/
def tfReset : List String := [
  "tf.n = 0",
  "tf.Value = \"\"",
  "tf.cursor = 0"
]

/-- state writes, receiver calls, returns and loops of TextField.InsertStringAtCursor (vxfw/textfield/textfield.go), in source order -/
def tfInsertStringAtCursor : List String := [
  "tf.insertStringAtCursor(p0)",
  "tf.n = graphemeCountInString(tf.Value)",
  "return vxfw.ConsumeAndRedraw()"
]

/-- state writes, receiver calls, returns and loops of TextField.CursorTo (vxfw/textfield/textfield.go), in source order -/
def tfCursorTo : List String := [
  "return nil",
  "tf.cursor = p0",
  "return vxfw.ConsumeAndRedraw()"
]

/-- state writes, receiver calls, returns and loops of TextField.DeleteCharRightOfCursor (vxfw/textfield/textfield.go), in source order -/
def tfDeleteCharRightOfCursor : List String := [
  "return nil",
  "for len(l1) > 0 {",
  "l0, l1, _, l2 = uniseg.FirstGraphemeClusterInString(l1, l2)",
  "if l3 == tf.cursor {",
  "l3 += 1",
  "continue",
  "}",
  "l3 += 1",
  "l4.WriteString(l0)",
  "}",
  "tf.Value = l4.String()",
  "tf.n = graphemeCountInString(tf.Value)",
  "return vxfw.ConsumeAndRedraw()"
]

/-- state writes, receiver calls, returns and loops of TextField.DeleteCharLeftOfCursor (vxfw/textfield/textfield.go), in source order -/
def tfDeleteCharLeftOfCursor : List String := [
  "return nil",
  "for len(l1) > 0 {",
  "l0, l1, _, l2 = uniseg.FirstGraphemeClusterInString(l1, l2)",
  "l3 += 1",
  "if l3 == tf.cursor {",
  "continue",
  "}",
  "l4.WriteString(l0)",
  "}",
  "tf.Value = l4.String()",
  "tf.n = graphemeCountInString(tf.Value)",
  "tf.cursor -= 1",
  "return vxfw.ConsumeAndRedraw()"
]

/-- state writes, receiver calls, returns and loops of TextField.DeleteCursorToEndOfLine (vxfw/textfield/textfield.go), in source order -/
def tfDeleteCursorToEndOfLine : List String := [
  "return nil",
  "for len(l1) > 0 {",
  "l0, l1, _, l2 = uniseg.FirstGraphemeClusterInString(l1, l2)",
  "if l3 == tf.cursor {",
  "break",
  "}",
  "l3 += 1",
  "l4.WriteString(l0)",
  "}",
  "tf.Value = l4.String()",
  "tf.n = graphemeCountInString(tf.Value)",
  "return vxfw.ConsumeAndRedraw()"
]

/-- state writes, receiver calls, returns and loops of TextField.Draw (vxfw/textfield/textfield.go), in source order -/
def tfDraw : List String := [
  "return vxfw.Surface{}, nil",
  "for len(l4) > 0 {",
  "l3, l4, _, l5 = uniseg.FirstGraphemeClusterInString(l4, l5)",
  "for _, l6 := range p0.Characters(l3) {",
  "l7 := vaxis.Cell{ Character: l6, Style: tf.Style, }",
  "l0.WriteCell(l2, 0, l7)",
  "l2 += uint16(l6.Width)",
  "}",
  "l1 += 1",
  "if l1 == tf.cursor {",
  "l0.Cursor.Col = l2",
  "}",
  "}",
  "return l0, nil"
]

/-- state writes, receiver calls, returns and loops of TextField.insertStringAtCursor (vxfw/textfield/textfield.go), in source order -/
def tfInsertLoop : List String := [
  "for {",
  "if len(l1) > 0 && l3 < tf.cursor {",
  "l0, l1, _, l2 = uniseg.FirstGraphemeClusterInString(l1, l2)",
  "l4.WriteString(l0)",
  "l3 += 1",
  "continue",
  "}",
  "l4.WriteString(p0)",
  "tf.cursor = graphemeCountInString(l4.String())",
  "l4.WriteString(l1)",
  "break",
  "}",
  "tf.Value = l4.String()"
]

/-- statement skeleton of graphemeCountInString -/
def tfGraphemeCount : List String := [
  "var ( l0 = p0 l1 = -1 l2 uint = 0 )",
  "for len(l0) > 0 {",
  "_, l0, _, l1 = uniseg.FirstGraphemeClusterInString(l0, l1)",
  "l2 += 1",
  "}",
  "return l2"
]

/-- state writes, receiver calls, returns and loops of textinput.Model.SetContent (widgets/textinput/textinput.go), in source order -/
def tiSetContent : List String := [
  "m.content = vaxis.Characters(p0)",
  "m.cursor = len(m.content)",
  "return m"
]

/-- state writes, receiver calls, returns and loops of textinput.Model.Update (widgets/textinput/textinput.go), in source order -/
def tiUpdate : List String := [
  "case vaxis.PasteEndEvent:",
  "m.content = slices.Insert(m.content, m.cursor, l0...)",
  "m.cursor += len(l0)",
  "m.paste = []rune{}",
  "case vaxis.Key:",
  "return",
  "m.paste = append(m.paste, []rune(p0.Text)...)",
  "return",
  "case \"Ctrl+a\", \"Home\":",
  "m.cursor = 0",
  "case \"Ctrl+e\", \"End\":",
  "m.cursor = len(m.content)",
  "case \"Ctrl+f\", \"Right\":",
  "m.cursor += 1",
  "case \"Ctrl+b\", \"Left\":",
  "m.cursor -= 1",
  "case \"Alt+f\", \"Ctrl+Right\":",
  "for l1 := m.cursor; l1 < len(m.content); l1 += 1 {",
  "if !isAlphaNumeric(m.content[l1]) {",
  "m.cursor += 1",
  "continue",
  "}",
  "break",
  "}",
  "for l1 := m.cursor; l1 < len(m.content); l1 += 1 {",
  "if isAlphaNumeric(m.content[l1]) {",
  "m.cursor += 1",
  "continue",
  "}",
  "break",
  "}",
  "case \"Alt+b\", \"Ctrl+Left\":",
  "m.cursor -= 1",
  "m.cursor = len(m.content) - 1",
  "for l1 := m.cursor; l1 >= 0; l1 -= 1 {",
  "if !isAlphaNumeric(m.content[l1]) {",
  "m.cursor -= 1",
  "continue",
  "}",
  "break",
  "}",
  "for l1 := m.cursor; l1 >= 0; l1 -= 1 {",
  "if isAlphaNumeric(m.content[l1]) {",
  "m.cursor -= 1",
  "continue",
  "}",
  "m.cursor += 1",
  "break",
  "}",
  "case \"Ctrl+d\", \"Delete\":",
  "case m.cursor == len(m.content):",
  "m.content = m.content[:m.cursor]",
  "default:",
  "m.content = append(m.content[:m.cursor], m.content[m.cursor+1:]...)",
  "case \"Ctrl+k\":",
  "m.content = m.content[:m.cursor]",
  "case \"Ctrl+u\":",
  "m.content = m.content[m.cursor:]",
  "m.cursor = 0",
  "case \"Ctrl+h\", \"BackSpace\":",
  "case m.cursor == 0:",
  "return",
  "case m.cursor == len(m.content):",
  "m.content = m.content[:m.cursor-1]",
  "default:",
  "m.content = append(m.content[:m.cursor-1], m.content[m.cursor:]...)",
  "m.cursor -= 1",
  "case \"Ctrl+w\":",
  "return",
  "for l1 := m.cursor - 1; l1 >= 0; l1-- {",
  "if !isAlphaNumeric(m.content[l1]) {",
  "m.cursor--",
  "continue",
  "}",
  "break",
  "}",
  "for l1 := m.cursor - 1; l1 >= 0; l1-- {",
  "if isAlphaNumeric(m.content[l1]) {",
  "m.cursor--",
  "continue",
  "}",
  "break",
  "}",
  "m.content = append(m.content[:m.cursor], m.content[originalCursor:]...)",
  "default:",
  "return",
  "return",
  "return",
  "for _, l3 := range l0 {",
  "m.content = slices.Insert(m.content, m.cursor, l3)",
  "m.cursor += 1",
  "}",
  "m.cursor = len(m.content)",
  "m.cursor = 0",
  "m.resegment()"
]

/-- state writes, receiver calls, returns and loops of textinput.Model.resegment (widgets/textinput/textinput.go), in source order -/
def tiResegment : List String := [
  "m.content = vaxis.Characters(m.String())",
  "m.cursor = len(vaxis.Characters(l0.String()))"
]

/-- state writes, receiver calls, returns and loops of textinput.Model.Draw (widgets/textinput/textinput.go), in source order -/
def tiDraw : List String := [
  "return",
  "for _, l2 := range m.prompt {",
  "l3 := vaxis.Cell{ Character: l2, Style: m.Prompt, }",
  "p0.SetCell(l1, 0, l3)",
  "l1 += l2.Width",
  "if l1 >= l0 {",
  "return",
  "}",
  "}",
  "m.offset = 0",
  "for m.offset < m.cursor && widthToCursor(l4, m.cursor, m.offset)+l1+scrolloff >= l0 {",
  "m.offset += 1",
  "}",
  "m.offset = m.cursor - scrolloff",
  "m.offset = 0",
  "for l6, l2 := range m.content {",
  "if l6 < m.offset {",
  "continue",
  "}",
  "if l6+1 == m.cursor {",
  "l5 = l1 + l2.Width",
  "}",
  "l3 := vaxis.Cell{ Character: l2, Style: m.Content, }",
  "if m.invisibleChar.Grapheme != \"\" {",
  "l3.Character = m.invisibleChar",
  "}",
  "if m.offset > 0 && l6 == m.offset {",
  "l3.Character = truncator",
  "}",
  "if l1+l2.Width >= l0 {",
  "l3.Character = truncator",
  "}",
  "p0.SetCell(l1, 0, l3)",
  "l1 += l2.Width",
  "if l1 >= l0 {",
  "break",
  "}",
  "}"
]

/-- statement skeleton of isAlphaNumeric -/
def tiIsAlphaNumeric : List String := [
  "l0 := []rune(p0.Grapheme)",
  "if len(l0) > 1 {",
  "return false",
  "}",
  "if unicode.IsLetter(l0[0]) || unicode.IsNumber(l0[0]) {",
  "return true",
  "}",
  "return false"
]

/-- statement skeleton of widthToCursor -/
def tiWidthToCursor : List String := [
  "l0 := 0",
  "for l1, l2 := range p0 {",
  "if l1 < p2 {",
  "continue",
  "}",
  "l0 += l2.Width",
  "if l1 == p1 {",
  "break",
  "}",
  "}",
  "return l0"
]

end VaxisModel.Lemmas.EditorBodies
