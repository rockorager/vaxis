import VaxisModel.Model.TextFieldCl
import VaxisModel.Spec.Editor
import VaxisModel.Lemmas.Editor

/-! C17: TextField over texts whose graphemes can merge refines the ideal editor with re-segmentation (`Spec.Editor.applyC`). -/
namespace VaxisModel.Lemmas.EditorCl
open VaxisModel.Model.TextFieldCl
open VaxisModel.Model.TextField (KeyEv)
open VaxisModel.Spec.Editor (Ed Op Callback resegment applyC callbacksC runC Segmentation apply wordLeftPos)
open VaxisModel.Lemmas.Editor (insertLoop_eq delRightLoop_eq delLeftLoop_eq killLoop_eq)

variable {A : Type} (cl : List A → List (List A))

/-- Representation invariant: the cached count is the grapheme count of `Value`, the cursor is
within the text. -/
def InvC (tf : TF A) : Prop := tf.n = (cl tf.value).length ∧ tf.cursor ≤ (cl tf.value).length

/-- Abstraction function: the ideal editor state (clusters of `Value`, cursor). -/
def absC (tf : TF A) : Ed (List A) := ⟨cl tf.value, tf.cursor⟩

def absCallC : Call A → Callback (List A)
  | .change v => .change (cl v)
  | .submit v => .submit (cl v)

/-- What a key event means to the ideal editor (typed text = its graphemes). -/
def meaningOfC (ev : KeyEv A) : Op (List A) :=
  if ev.release then .noop
  else if ev.text.length > 0 then .insert (cl ev.text)
  else if ev.home then .home
  else if ev.toEnd then .toEnd
  else if ev.right then .right
  else if ev.left then .left
  else if ev.delRight then .deleteRight
  else if ev.delLeft then .deleteLeft
  else if ev.kill then .killToEnd
  else if ev.enter then .submit
  else .noop

inductive TFOpC (A : Type) where
  | key (ev : KeyEv A)
  | ins (s : List A)
  | cur (i : Nat)
  | delr
  | dell
  | kill
  | reset

def tfStepC [DecidableEq A] (tf : TF A) : TFOpC A → TF A × List (Call A)
  | .key ev => handleKey cl tf ev
  | .ins s => (insertString cl tf s, [])
  | .cur i => ((cursorTo tf i).1, [])
  | .delr => ((deleteRight cl tf).1, [])
  | .dell => ((deleteLeft cl tf).1, [])
  | .kill => ((killToEnd cl tf).1, [])
  | .reset => (VaxisModel.Model.TextFieldCl.reset tf, [])

def specOfC : TFOpC A → Op (List A)
  | .key ev => meaningOfC cl ev
  | .ins s => .insert (cl s)
  | .cur i => .moveTo i
  | .delr => .deleteRight
  | .dell => .deleteLeft
  | .kill => .killToEnd
  | .reset => .reset

def tfRunC [DecidableEq A] (tf : TF A) : List (TFOpC A) → TF A
  | [] => tf
  | op :: ops => tfRunC (tfStepC cl tf op).1 ops

variable {cl}

theorem cl_nil (hs : Segmentation cl) : cl [] = [] := by
  have h := hs.prefixLen [] 0 (Nat.zero_le _)
  simp only [List.take_zero, List.flatten_nil] at h
  exact List.eq_nil_of_length_eq_zero h

theorem prefix_le (hs : Segmentation cl) (v : List A) (j : Nat) (rest : List A) (hj : j ≤ (cl v).length) :
    j ≤ (cl (((cl v).take j).flatten ++ rest)).length := by
  have h1 := hs.prefixLen v j hj
  have h2 := hs.mono ((cl v).take j).flatten rest
  omega

theorem resegment_prefix (hs : Segmentation cl) (v : List A) (j : Nat) (rest : List (List A))
    (hj : j ≤ (cl v).length) :
    resegment cl ⟨(cl v).take j ++ rest, j⟩ = ⟨cl (((cl v).take j).flatten ++ rest.flatten), j⟩ := by
  have hlen : ((cl v).take j).length = j := by rw [List.length_take]; omega
  unfold resegment
  simp only [List.take_left' hlen, List.flatten_append, hs.prefixLen v j hj]
  congr 1
  exact Nat.min_eq_left (prefix_le hs v j rest.flatten hj)

theorem resegment_id (hs : Segmentation cl) (v : List A) (j : Nat) (hj : j ≤ (cl v).length) :
    resegment cl ⟨cl v, j⟩ = ⟨cl v, j⟩ := by
  have h := resegment_prefix hs v j ((cl v).drop j) hj
  rw [List.take_append_drop] at h
  rw [h, ← List.flatten_append, List.take_append_drop, hs.flatten]

variable (isWord : List A → Bool)

/-- Re-segmentation clamps the cursor: the clustered ideal step is well-formed whatever it started from. -/
theorem applyC_wf (s : Ed (List A)) (op : Op (List A)) : (applyC cl isWord s op).WF := Nat.min_le_right _ _

/-- The cursor half of the invariant follows from the abstraction equation (handed back with it, as in `Editor.inv_of_abs`). -/
theorem invC_of_abs {tf' : TF A} {s : Ed (List A)} {op : Op (List A)} (hn : tf'.n = (cl tf'.value).length)
    (ha : absC cl tf' = applyC cl isWord s op) : InvC cl tf' ∧ absC cl tf' = applyC cl isWord s op :=
  ⟨⟨hn, by have := applyC_wf (cl := cl) isWord s op; rw [← ha] at this; exact this⟩, ha⟩

theorem insert_refinesC (hs : Segmentation cl) (tf : TF A) (s : List A) (h : InvC cl tf) :
    InvC cl (insertString cl tf s) ∧
    absC cl (insertString cl tf s) = applyC cl isWord (absC cl tf) (.insert (cl s)) := by
  obtain ⟨hn, hc⟩ := h
  have hlen : ((cl tf.value).take tf.cursor).length = tf.cursor := by rw [List.length_take]; omega
  have hmono := hs.mono (((cl tf.value).take tf.cursor).flatten ++ s) ((cl tf.value).drop tf.cursor).flatten
  refine invC_of_abs isWord rfl ?_
  unfold insertString
  rw [insertLoop_eq [s] tf.cursor (cl tf.value) 0 [] (Nat.zero_le _)]
  simp only [List.nil_append, Nat.sub_zero, List.flatten_append, List.flatten_cons, List.flatten_nil,
    List.append_nil, count]
  simp only [absC, applyC, apply, resegment, List.flatten_append, hs.flatten]
  have ht : ((cl tf.value).take tf.cursor ++ cl s ++ (cl tf.value).drop tf.cursor).take (tf.cursor + (cl s).length)
      = (cl tf.value).take tf.cursor ++ cl s := by
    apply List.take_left'
    simp only [List.length_append, hlen]
  rw [ht]
  simp only [List.flatten_append, hs.flatten]
  congr 1
  exact (Nat.min_eq_left hmono).symm

theorem moveTo_specC (hs : Segmentation cl) (tf : TF A) (j : Nat) :
    applyC cl isWord (absC cl tf) (.moveTo j) = ⟨cl tf.value, min j (cl tf.value).length⟩ := by
  simp only [applyC, apply, absC]
  exact resegment_id hs tf.value _ (Nat.min_le_right _ _)

theorem cursorTo_refinesC (hs : Segmentation cl) (tf : TF A) (i : Nat) (h : InvC cl tf) :
    InvC cl (cursorTo tf i).1 ∧ absC cl (cursorTo tf i).1 = applyC cl isWord (absC cl tf) (.moveTo i) := by
  obtain ⟨hn, hc⟩ := h
  rw [moveTo_specC isWord hs]
  unfold cursorTo
  simp only [absC, InvC]
  split <;> split <;> simp_all <;> omega

theorem deleteRight_refinesC (hs : Segmentation cl) (tf : TF A) (h : InvC cl tf) :
    InvC cl (deleteRight cl tf).1 ∧
    absC cl (deleteRight cl tf).1 = applyC cl isWord (absC cl tf) .deleteRight := by
  obtain ⟨hn, hc⟩ := h
  unfold deleteRight
  split
  · refine invC_of_abs isWord hn ?_
    simp only [absC, applyC, apply]
    rw [List.eraseIdx_of_length_le (by omega)]
    exact (resegment_id hs tf.value _ hc).symm
  · refine invC_of_abs isWord rfl ?_
    rw [delRightLoop_eq tf.cursor (cl tf.value) 0 [] (Nat.zero_le _)]
    simp only [absC, applyC, apply, List.nil_append, Nat.sub_zero, List.eraseIdx_eq_take_drop_succ, List.flatten_append]
    exact (resegment_prefix hs tf.value tf.cursor _ hc).symm

theorem deleteLeft_refinesC (hs : Segmentation cl) (tf : TF A) (h : InvC cl tf) :
    InvC cl (deleteLeft cl tf).1 ∧
    absC cl (deleteLeft cl tf).1 = applyC cl isWord (absC cl tf) .deleteLeft := by
  obtain ⟨hn, hc⟩ := h
  unfold deleteLeft
  split
  · rename_i heq
    refine invC_of_abs isWord hn ?_
    simp only [absC, applyC, apply, heq, ↓reduceIte]
    exact (resegment_id hs tf.value _ (Nat.zero_le _)).symm
  · rename_i hne
    have hc1 : tf.cursor - 1 ≤ (cl tf.value).length := by omega
    have hsucc : tf.cursor - 1 + 1 = tf.cursor := by omega
    refine invC_of_abs isWord rfl ?_
    rw [delLeftLoop_eq tf.cursor (cl tf.value) 0 [] (by omega)]
    simp only [absC, applyC, apply, hne, ↓reduceIte, List.nil_append, Nat.sub_zero, List.eraseIdx_eq_take_drop_succ,
      List.flatten_append, hsucc]
    exact (resegment_prefix hs tf.value (tf.cursor - 1) _ hc1).symm

theorem killToEnd_refinesC (hs : Segmentation cl) (tf : TF A) (h : InvC cl tf) :
    InvC cl (killToEnd cl tf).1 ∧
    absC cl (killToEnd cl tf).1 = applyC cl isWord (absC cl tf) .killToEnd := by
  obtain ⟨hn, hc⟩ := h
  unfold killToEnd
  split
  · refine invC_of_abs isWord hn ?_
    simp only [absC, applyC, apply]
    rw [List.take_of_length_le (by omega)]
    exact (resegment_id hs tf.value _ hc).symm
  · refine invC_of_abs isWord rfl ?_
    rw [killLoop_eq tf.cursor (cl tf.value) 0 [] (Nat.zero_le _)]
    have hr := resegment_prefix hs tf.value tf.cursor [] hc
    simp only [List.append_nil, List.flatten_nil] at hr
    simp only [absC, applyC, apply, List.nil_append, Nat.sub_zero]
    exact hr.symm

theorem reset_refinesC (hs : Segmentation cl) (tf : TF A) :
    InvC cl (VaxisModel.Model.TextFieldCl.reset tf) ∧
    absC cl (VaxisModel.Model.TextFieldCl.reset tf) = applyC cl isWord (absC cl tf) .reset := by
  simp [VaxisModel.Model.TextFieldCl.reset, InvC, absC, applyC, apply, resegment, cl_nil hs]

theorem submit_specC (hs : Segmentation cl) (s : Ed (List A)) :
    applyC cl isWord s .submit = ⟨[], 0⟩ := by
  simp [applyC, apply, resegment, cl_nil hs]

theorem callbacksC_ne_submit [DecidableEq A] (s : Ed (List A)) (op : Op (List A)) (h : op ≠ .submit) :
    callbacksC cl isWord s op =
      if (applyC cl isWord s op).text = s.text then [] else [.change (applyC cl isWord s op).text] := by
  cases op <;> first | rfl | exact absurd rfl h

theorem cl_inj (hs : Segmentation cl) {x y : List A} (h : cl x = cl y) : x = y := by
  rw [← hs.flatten x, ← hs.flatten y, h]

theorem checkChanged_eqC [DecidableEq A] (hs : Segmentation cl) (tf tf' : TF A) (op : Op (List A))
    (ha : absC cl tf' = applyC cl isWord (absC cl tf) op) (hop : op ≠ .submit) :
    (checkChanged tf.value tf').map (absCallC cl) = callbacksC cl isWord (absC cl tf) op := by
  have hv : (applyC cl isWord (absC cl tf) op).text = cl tf'.value := by rw [← ha]; rfl
  rw [callbacksC_ne_submit isWord _ _ hop, hv]
  unfold checkChanged
  simp only [absC]
  by_cases hh : tf'.value = tf.value
  · simp [hh]
  · have : ¬ cl tf'.value = cl tf.value := fun h => hh (cl_inj hs h)
    simp [hh, this, absCallC]

theorem noop_specC (hs : Segmentation cl) (tf : TF A) (h : InvC cl tf) :
    applyC cl isWord (absC cl tf) .noop = absC cl tf := by
  simp only [applyC, apply, absC]
  exact resegment_id hs tf.value _ h.2

theorem handleKey_refinesC [DecidableEq A] (hs : Segmentation cl) (tf : TF A) (ev : KeyEv A) (h : InvC cl tf) :
    InvC cl (handleKey cl tf ev).1 ∧
    absC cl (handleKey cl tf ev).1 = applyC cl isWord (absC cl tf) (meaningOfC cl ev) ∧
    (handleKey cl tf ev).2.map (absCallC cl) = callbacksC cl isWord (absC cl tf) (meaningOfC cl ev) := by
  have hnoop := noop_specC isWord hs tf h
  have hcb : ∀ op : Op (List A), op ≠ .submit → (applyC cl isWord (absC cl tf) op).text = cl tf.value →
      callbacksC cl isWord (absC cl tf) op = [] := by
    intro op hop heq
    rw [callbacksC_ne_submit isWord _ _ hop, heq]
    simp [absC]
  -- a motion: the text is unchanged
  have hmove : ∀ (i : Nat) (op : Op (List A)), op ≠ .submit →
      applyC cl isWord (absC cl tf) op = applyC cl isWord (absC cl tf) (.moveTo i) →
      InvC cl (cursorTo tf i).1 ∧ absC cl (cursorTo tf i).1 = applyC cl isWord (absC cl tf) op ∧
      ([] : List (Call A)).map (absCallC cl) = callbacksC cl isWord (absC cl tf) op := by
    intro i op hop heq
    have hc := cursorTo_refinesC isWord hs tf i h
    refine ⟨hc.1, by rw [heq]; exact hc.2, ?_⟩
    rw [hcb op hop]
    · rfl
    · rw [heq, moveTo_specC isWord hs]
  have hnoopT : (applyC cl isWord (absC cl tf) .noop).text = cl tf.value := by rw [hnoop]; rfl
  have hnoopAll : InvC cl tf ∧ absC cl tf = applyC cl isWord (absC cl tf) .noop ∧
      ([] : List (Call A)).map (absCallC cl) = callbacksC cl isWord (absC cl tf) .noop :=
    ⟨h, hnoop.symm, by rw [hcb _ (by intro h; cases h) hnoopT]; rfl⟩
  -- an edit: the API function's refinement, then `checkChanged`
  have edit : ∀ (tf' : TF A) (op : Op (List A)), op ≠ .submit →
      InvC cl tf' ∧ absC cl tf' = applyC cl isWord (absC cl tf) op →
      InvC cl tf' ∧ absC cl tf' = applyC cl isWord (absC cl tf) op ∧
      (checkChanged tf.value tf').map (absCallC cl) = callbacksC cl isWord (absC cl tf) op :=
    fun tf' op hne hr => ⟨hr.1, hr.2, checkChanged_eqC isWord hs tf tf' op hr.2 hne⟩
  obtain ⟨rel, text, bhome, bend, bright, bleft, bdr, bdl, bkill, benter⟩ := ev
  unfold handleKey meaningOfC
  simp only
  cases rel
  case true => simp only [↓reduceIte]; exact hnoopAll
  simp only [Bool.false_eq_true, ↓reduceIte]
  by_cases ht : text.length > 0
  · simp only [ht, ↓reduceIte]
    exact edit _ _ (by intro h; cases h) (insert_refinesC isWord hs tf text h)
  simp only [ht, ↓reduceIte]
  cases bhome
  case true =>
    simp only [↓reduceIte]
    refine hmove 0 .home (by intro h; cases h) ?_
    show resegment cl ⟨cl tf.value, 0⟩ = resegment cl ⟨cl tf.value, min 0 (cl tf.value).length⟩
    rw [Nat.zero_min]
  simp only [Bool.false_eq_true, ↓reduceIte]
  cases bend
  case true =>
    simp only [↓reduceIte]
    refine hmove tf.n .toEnd (by intro h; cases h) ?_
    show resegment cl ⟨cl tf.value, (cl tf.value).length⟩ = resegment cl ⟨cl tf.value, min tf.n (cl tf.value).length⟩
    rw [h.1, Nat.min_self]
  simp only [Bool.false_eq_true, ↓reduceIte]
  cases bright
  case true =>
    simp only [↓reduceIte]
    exact hmove (tf.cursor + 1) .right (by intro h; cases h) rfl
  simp only [Bool.false_eq_true, ↓reduceIte]
  cases bleft
  case true =>
    simp only [↓reduceIte]
    by_cases h0 : tf.cursor = 0
    · simp only [h0, ↓reduceIte]
      have hl : applyC cl isWord (absC cl tf) .left = applyC cl isWord (absC cl tf) .noop := by
        show resegment cl ⟨cl tf.value, tf.cursor - 1⟩ = resegment cl ⟨cl tf.value, tf.cursor⟩
        rw [h0]
      refine ⟨h, by rw [hl, hnoop], ?_⟩
      rw [hcb _ (by intro h; cases h) (by rw [hl]; exact hnoopT)]
      rfl
    · simp only [h0, ↓reduceIte]
      refine hmove (tf.cursor - 1) .left (by intro h; cases h) ?_
      have := h.2
      show resegment cl ⟨cl tf.value, tf.cursor - 1⟩ = resegment cl ⟨cl tf.value, min (tf.cursor - 1) (cl tf.value).length⟩
      rw [Nat.min_eq_left (by omega)]
  simp only [Bool.false_eq_true, ↓reduceIte]
  cases bdr
  case true =>
    simp only [↓reduceIte]
    exact edit _ _ (by intro h; cases h) (deleteRight_refinesC isWord hs tf h)
  simp only [Bool.false_eq_true, ↓reduceIte]
  cases bdl
  case true =>
    simp only [↓reduceIte]
    exact edit _ _ (by intro h; cases h) (deleteLeft_refinesC isWord hs tf h)
  simp only [Bool.false_eq_true, ↓reduceIte]
  cases bkill
  case true =>
    simp only [↓reduceIte]
    exact edit _ _ (by intro h; cases h) (killToEnd_refinesC isWord hs tf h)
  simp only [Bool.false_eq_true, ↓reduceIte]
  cases benter
  case true =>
    simp only [↓reduceIte]
    have := reset_refinesC isWord hs tf
    refine ⟨this.1, ?_, ?_⟩
    · rw [this.2, submit_specC isWord hs]; simp [applyC, apply, resegment, cl_nil hs]
    · simp [callbacksC, absCallC, absC]
  simp only [Bool.false_eq_true, ↓reduceIte]
  exact hnoopAll

theorem tfStepC_refines [DecidableEq A] (hs : Segmentation cl) (tf : TF A) (op : TFOpC A) (h : InvC cl tf) :
    InvC cl (tfStepC cl tf op).1 ∧
    absC cl (tfStepC cl tf op).1 = applyC cl isWord (absC cl tf) (specOfC cl op) := by
  cases op with
  | key ev => have := handleKey_refinesC isWord hs tf ev h; exact ⟨this.1, this.2.1⟩
  | ins s => exact insert_refinesC isWord hs tf s h
  | cur i => exact cursorTo_refinesC isWord hs tf i h
  | delr => exact deleteRight_refinesC isWord hs tf h
  | dell => exact deleteLeft_refinesC isWord hs tf h
  | kill => exact killToEnd_refinesC isWord hs tf h
  | reset => exact reset_refinesC isWord hs tf

theorem tfRunC_refines [DecidableEq A] (hs : Segmentation cl) : ∀ (ops : List (TFOpC A)) (tf : TF A), InvC cl tf →
    InvC cl (tfRunC cl tf ops) ∧
    absC cl (tfRunC cl tf ops) = runC cl isWord (absC cl tf) (ops.map (specOfC cl)) := by
  intro ops
  induction ops with
  | nil => intro tf h; exact ⟨h, rfl⟩
  | cons op ops ih =>
    intro tf h
    have hstep := tfStepC_refines isWord hs tf op h
    have := ih (tfStepC cl tf op).1 hstep.1
    refine ⟨this.1, ?_⟩
    simp only [tfRunC, List.map_cons, runC]
    rw [this.2, hstep.2]

/-- The segmentation that never merges: every atom is a grapheme. -/
def singletons {A : Type} (x : List A) : List (List A) := x.map fun a => [a]

theorem singletons_flatten {A : Type} (x : List A) : (singletons x).flatten = x := by
  induction x with
  | nil => rfl
  | cons a x ih => simp only [singletons, List.map_cons, List.flatten_cons] at ih ⊢; rw [ih]; rfl

theorem singletons_take {A : Type} (x : List A) (i : Nat) : (singletons x).take i = singletons (x.take i) := by
  simp [singletons, List.map_take]

theorem singletons_seg {A : Type} : Segmentation (singletons (A := A)) where
  flatten := singletons_flatten
  prefixLen := by
    intro x i hi
    rw [singletons_take, singletons_flatten]
    simp only [singletons, List.length_map, List.length_take] at hi ⊢
    omega
  mono := by intro x y; simp [singletons]

/-- The segmentation that merges everything: a text of marks that all join (one grapheme). -/
def oneCluster {A : Type} (x : List A) : List (List A) := if x.isEmpty then [] else [x]

theorem oneCluster_seg {A : Type} : Segmentation (oneCluster (A := A)) where
  flatten := by intro x; cases x <;> simp [oneCluster]
  prefixLen := by
    intro x i hi
    cases x with
    | nil => simp [oneCluster] at hi ⊢; subst hi; simp
    | cons a x =>
      simp only [oneCluster, List.isEmpty_cons, Bool.false_eq_true, ↓reduceIte, List.length_cons, List.length_nil] at hi ⊢
      match i, hi with
      | 0, _ => simp
      | 1, _ => simp
  mono := by
    intro x y
    cases x with
    | nil => simp [oneCluster]
    | cons a x => simp [oneCluster]

def AllSingle {A : Type} (t : List (List A)) : Prop := ∀ c ∈ t, c.length = 1

theorem singletons_flatten_of_allSingle {A : Type} : ∀ (t : List (List A)), AllSingle t → singletons t.flatten = t := by
  intro t
  induction t with
  | nil => intro _; rfl
  | cons c t ih =>
    intro h
    have hc := h c (List.mem_cons_self ..)
    have ht : AllSingle t := fun x hx => h x (List.mem_cons_of_mem _ hx)
    match c, hc with
    | [a], _ =>
      simp only [List.flatten_cons, List.singleton_append, singletons, List.map_cons] at ih ⊢
      rw [ih ht]

theorem allSingle_take {A : Type} (t : List (List A)) (k : Nat) (h : AllSingle t) : AllSingle (t.take k) :=
  fun c hc => h c (List.mem_of_mem_take hc)
theorem allSingle_drop {A : Type} (t : List (List A)) (k : Nat) (h : AllSingle t) : AllSingle (t.drop k) :=
  fun c hc => h c (List.mem_of_mem_drop hc)
theorem allSingle_append {A : Type} (t u : List (List A)) (h1 : AllSingle t) (h2 : AllSingle u) : AllSingle (t ++ u) := by
  intro c hc
  rcases List.mem_append.mp hc with h | h
  · exact h1 c h
  · exact h2 c h
theorem allSingle_eraseIdx {A : Type} (t : List (List A)) (k : Nat) (h : AllSingle t) : AllSingle (t.eraseIdx k) :=
  fun c hc => h c (List.mem_of_mem_eraseIdx hc)
theorem allSingle_singletons {A : Type} (x : List A) : AllSingle (singletons x) := by
  intro c hc
  simp only [singletons, List.mem_map] at hc
  obtain ⟨a, _, rfl⟩ := hc
  rfl

theorem resegment_singletons {A : Type} (t : List (List A)) (k : Nat) (h : AllSingle t) :
    resegment singletons ⟨t, k⟩ = ⟨t, min k t.length⟩ := by
  unfold resegment
  simp only [singletons_flatten_of_allSingle t h, singletons_flatten_of_allSingle _ (allSingle_take t k h), List.length_take]
  congr 1
  omega

/-- The payload of an operation consists of single-atom graphemes. -/
def OpSingle {A : Type} : Op (List A) → Prop
  | .insert gs => AllSingle gs
  | .setContent gs => AllSingle gs
  | _ => True

theorem apply_allSingle {A : Type} (isWord : List A → Bool) (s : Ed (List A)) (op : Op (List A))
    (hs : AllSingle s.text) (hop : OpSingle op) : AllSingle (apply isWord s op).text := by
  cases op with
  | insert gs => exact allSingle_append _ _ (allSingle_append _ _ (allSingle_take _ _ hs) hop) (allSingle_drop _ _ hs)
  | deleteLeft =>
    simp only [apply]
    split
    · exact hs
    · exact allSingle_eraseIdx _ _ hs
  | deleteRight => exact allSingle_eraseIdx _ _ hs
  | killToEnd => exact allSingle_take _ _ hs
  | killToStart => exact allSingle_drop _ _ hs
  | deleteWordLeft => exact allSingle_append _ _ (allSingle_take _ _ hs) (allSingle_drop _ _ hs)
  | setContent gs => exact hop
  | reset => intro c hc; cases hc
  | submit => intro c hc; cases hc
  | _ => exact hs

theorem applyC_singletons {A : Type} (isWord : List A → Bool) (s : Ed (List A)) (op : Op (List A))
    (hs : AllSingle s.text) (hop : OpSingle op) :
    applyC singletons isWord s op =
      ⟨(apply isWord s op).text, min (apply isWord s op).cursor (apply isWord s op).text.length⟩ :=
  resegment_singletons _ _ (apply_allSingle isWord s op hs hop)

end VaxisModel.Lemmas.EditorCl
