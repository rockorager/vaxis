/-
Basic lemmas for the emulator model (`Model/Emu.lean`): the state invariant `EmuInv`, when the checked accesses and the grid
primitives succeed and with what, and the loop combinators with an invariant — for a loop shown to run through with the index in
the invariant (`*_ix`), for a run that is known to have succeeded (`*_run`, `*_keeps`), and without the index (`*_ok`).
-/
import VaxisModel.Model.Emu
import VaxisModel.Lemmas.ExceptM

namespace VaxisModel.Lemmas.Emu
open VaxisModel.Model.Emu

/-- A grid with exactly `rows` rows of exactly `cols` cells. -/
structure GridOk (g : Grid) (rows cols : Nat) : Prop where
  len : g.length = rows
  rowLen : ∀ r ∈ g, r.length = cols

/-- The saved cursor of a DECSC slot lies on the screen. -/
structure SavedOk (s : Saved) (rows cols : Nat) : Prop where
  rowLo : 0 ≤ s.cur.row
  rowHi : s.cur.row < rows
  colLo : 0 ≤ s.cur.col
  colHi : s.cur.col ≤ cols

/-- What the code maintains between sequences on a `rows × cols` terminal. The first three groups
    are the state clause of C05 (cursor within the screen — the column may equal `cols`, the
    pending-wrap position —, margins ordered and within the screen, every row of both grids has
    exactly `cols` cells); the saved cursors and tab stops are needed to make it inductive. -/
structure EmuInv (e : Emu) (rows cols : Nat) : Prop where
  prim : GridOk e.primary rows cols
  alt : GridOk e.alt rows cols
  rowLo : 0 ≤ e.cur.row
  rowHi : e.cur.row < rows
  colLo : 0 ≤ e.cur.col
  colHi : e.cur.col ≤ cols
  topLo : 0 ≤ e.top
  topLe : e.top ≤ e.bottom
  botHi : e.bottom < rows
  left0 : e.left = 0
  right : e.right = (cols : Int) - 1
  savedP : SavedOk e.savedP rows cols
  savedA : SavedOk e.savedA rows cols
  tabs : ∀ t ∈ e.tabs, 0 ≤ t

theorem getI_eq_ok {α : Type} {l : List α} {i : Int} {x : α} :
    getI l i = .ok x ↔ 0 ≤ i ∧ l[i.toNat]? = some x := by
  unfold getI
  split
  · cases h : l[i.toNat]? <;> simp [*]
  · simp [*]

theorem getI_of_lt {α : Type} {l : List α} {i : Int} (h0 : 0 ≤ i) (h1 : i.toNat < l.length) :
    getI l i = .ok l[i.toNat] :=
  getI_eq_ok.mpr ⟨h0, List.getElem?_eq_getElem h1⟩

theorem getI_ok {α : Type} (l : List α) (i : Int) (h0 : 0 ≤ i) (h1 : i < l.length) :
    ∃ x, getI l i = .ok x ∧ x ∈ l := by
  have hlt : i.toNat < l.length := by omega
  exact ⟨l[i.toNat], getI_of_lt h0 hlt, List.getElem_mem hlt⟩

theorem setI_eq_ok {α : Type} {l l' : List α} {i : Int} {x : α} :
    setI l i x = .ok l' ↔ (0 ≤ i ∧ i.toNat < l.length) ∧ l' = l.set i.toNat x := by
  unfold setI
  split
  · simp [*, eq_comm]
  · simp [*]

theorem setI_ok {α : Type} (l : List α) (i : Int) (x : α) (h0 : 0 ≤ i) (h1 : i < l.length) :
    setI l i x = .ok (l.set i.toNat x) :=
  setI_eq_ok.mpr ⟨⟨h0, by omega⟩, rfl⟩

theorem gridOk_set {g : Grid} {rows cols : Nat} (h : GridOk g rows cols) (i : Nat) (r : Row)
    (hr : r.length = cols) : GridOk (g.set i r) rows cols := by
  refine ⟨by simp [h.len], ?_⟩
  intro r' hr'
  rcases List.mem_or_eq_of_mem_set hr' with h1 | h1
  · exact h.rowLen _ h1
  · exact h1 ▸ hr

theorem modCell_eq_ok {g g' : Grid} {r c : Int} {f : ECell → ECell} :
    modCell g r c f = .ok g' ↔
      ∃ row x, (0 ≤ r ∧ g[r.toNat]? = some row) ∧ (0 ≤ c ∧ row[c.toNat]? = some x) ∧
        g' = g.set r.toNat (row.set c.toNat (f x)) := by
  unfold modCell
  constructor
  · intro h
    obtain ⟨row, h1, h⟩ := Except.bind_eq_ok h
    obtain ⟨x, h2, h⟩ := Except.bind_eq_ok h
    obtain ⟨row', h3, h⟩ := Except.bind_eq_ok h
    obtain ⟨_, rfl⟩ := setI_eq_ok.mp h3
    obtain ⟨_, rfl⟩ := setI_eq_ok.mp h
    exact ⟨row, x, getI_eq_ok.mp h1, getI_eq_ok.mp h2, rfl⟩
  · rintro ⟨row, x, h1, h2, rfl⟩
    have hr := (List.getElem?_eq_some_iff.mp h1.2).1
    have hc := (List.getElem?_eq_some_iff.mp h2.2).1
    rw [getI_eq_ok.mpr h1, Except.ok_bind, getI_eq_ok.mpr h2, Except.ok_bind,
      setI_eq_ok.mpr ⟨⟨h2.1, hc⟩, rfl⟩, Except.ok_bind, setI_eq_ok.mpr ⟨⟨h1.1, hr⟩, rfl⟩]

/-- `copy(g[d], g[s])` succeeds exactly when both rows exist; Go's `copy` moves `min(len)` cells. -/
theorem copyRow_eq_ok {g g' : Grid} {d s : Int} :
    copyRow g d s = .ok g' ↔
      ∃ dr sr, (0 ≤ d ∧ g[d.toNat]? = some dr) ∧ (0 ≤ s ∧ g[s.toNat]? = some sr) ∧
        g' = g.set d.toNat (sr.take dr.length ++ dr.drop sr.length) := by
  unfold copyRow
  constructor
  · intro h
    obtain ⟨dr, h1, h⟩ := Except.bind_eq_ok h
    obtain ⟨sr, h2, h⟩ := Except.bind_eq_ok h
    exact ⟨dr, sr, getI_eq_ok.mp h1, getI_eq_ok.mp h2, (setI_eq_ok.mp h).2⟩
  · rintro ⟨dr, sr, h1, h2, rfl⟩
    rw [getI_eq_ok.mpr h1, Except.ok_bind, getI_eq_ok.mpr h2, Except.ok_bind,
      setI_eq_ok.mpr ⟨⟨h1.1, (List.getElem?_eq_some_iff.mp h1.2).1⟩, rfl⟩]

theorem modCell_ok {g : Grid} {rows cols : Nat} (h : GridOk g rows cols) (r c : Int) (f : ECell → ECell)
    (hr0 : 0 ≤ r) (hr1 : r < rows) (hc0 : 0 ≤ c) (hc1 : c < cols) :
    ∃ g', modCell g r c f = .ok g' ∧ GridOk g' rows cols := by
  have hr : r.toNat < g.length := by rw [h.len]; omega
  have hl : g[r.toNat].length = cols := h.rowLen _ (List.getElem_mem hr)
  have hc : c.toNat < g[r.toNat].length := by omega
  exact ⟨_, modCell_eq_ok.mpr ⟨_, _, ⟨hr0, List.getElem?_eq_getElem hr⟩, ⟨hc0, List.getElem?_eq_getElem hc⟩, rfl⟩,
    gridOk_set h _ _ (by simp [hl])⟩

theorem copyRow_ok {g : Grid} {rows cols : Nat} (h : GridOk g rows cols) (d s : Int)
    (hd0 : 0 ≤ d) (hd1 : d < rows) (hs0 : 0 ≤ s) (hs1 : s < rows) :
    ∃ g', copyRow g d s = .ok g' ∧ GridOk g' rows cols := by
  have hd : d.toNat < g.length := by rw [h.len]; omega
  have hs : s.toNat < g.length := by rw [h.len]; omega
  exact ⟨_, copyRow_eq_ok.mpr ⟨_, _, ⟨hd0, List.getElem?_eq_getElem hd⟩, ⟨hs0, List.getElem?_eq_getElem hs⟩, rfl⟩,
    gridOk_set h _ _ (by simp [h.rowLen _ (List.getElem_mem hd), h.rowLen _ (List.getElem_mem hs)])⟩

theorem forUpGo_ix {σ : Type} (P : Int → σ → Prop) (body : Int → σ → M σ) :
    ∀ (n : Nat) (i0 : Int) (s : σ), P i0 s →
      (∀ i s, i0 ≤ i → i < i0 + n → P i s → ∃ s', body i s = .ok s' ∧ P (i + 1) s') →
      ∃ s', forUpGo body n i0 s = .ok s' ∧ P (i0 + n) s' := by
  intro n
  induction n with
  | zero => intro i0 s hs _; exact ⟨s, rfl, by simpa using hs⟩
  | succ n ih =>
    intro i0 s hs hb
    obtain ⟨s1, h1, hp1⟩ := hb i0 s (by omega) (by omega) hs
    obtain ⟨s2, h2, hp2⟩ := ih (i0 + 1) s1 hp1 (fun i s hi1 hi2 hp => hb i s (by omega) (by omega) hp)
    refine ⟨s2, by simp only [forUpGo, h1, bind, Except.bind, h2], ?_⟩
    have he : i0 + ((n + 1 : Nat) : Int) = i0 + 1 + (n : Int) := by omega
    rw [he]; exact hp2

theorem forUp_ix {σ : Type} (P : Int → σ → Prop) (body : Int → σ → M σ) (lo hi : Int) (s : σ)
    (hle : lo ≤ hi + 1) (hn : hi + 1 - lo ≤ (hangLimit : Int)) (hs : P lo s)
    (hb : ∀ i s, lo ≤ i → i ≤ hi → P i s → ∃ s', body i s = .ok s' ∧ P (i + 1) s') :
    ∃ s', forUp body (lo := lo) (hi := hi) s = .ok s' ∧ P (hi + 1) s' := by
  unfold forUp
  have hle' : (hi + 1 - lo).toNat ≤ hangLimit := by omega
  simp only [hle', if_true]
  obtain ⟨s', h1, h2⟩ := forUpGo_ix P body (hi + 1 - lo).toNat lo s hs
    (fun i s h1 h2 hp => hb i s h1 (by omega) hp)
  refine ⟨s', h1, ?_⟩
  have he : lo + (((hi + 1 - lo).toNat : Nat) : Int) = hi + 1 := by omega
  rw [he] at h2; exact h2

theorem forUp_empty {σ : Type} (body : Int → σ → M σ) (lo hi : Int) (s : σ) (h : hi + 1 ≤ lo) :
    forUp body (lo := lo) (hi := hi) s = .ok s := by
  unfold forUp
  have h0 : (hi + 1 - lo).toNat = 0 := by omega
  simp only [h0, Nat.zero_le, if_true, forUpGo]

theorem forUpBrkGo_ix {σ : Type} (P : Int → σ → Prop) (Q : σ → Prop) (body : Int → σ → M (σ × Bool)) :
    ∀ (n : Nat) (i0 : Int) (s : σ), P i0 s →
      (∀ i s, i0 ≤ i → i < i0 + n → P i s →
        ∃ r, body i s = .ok r ∧ (r.2 = true → P (i + 1) r.1) ∧ (r.2 = false → Q r.1)) →
      (∀ s, P (i0 + n) s → Q s) →
      ∃ r, forUpBrkGo body n i0 s = .ok r ∧ Q r.1 := by
  intro n
  induction n with
  | zero => intro i0 s hs _ he; exact ⟨(s, false), rfl, he s (by simpa using hs)⟩
  | succ n ih =>
    intro i0 s hs hb he
    obtain ⟨⟨s1, go⟩, h1, hp1, hq1⟩ := hb i0 s (by omega) (by omega) hs
    cases go with
    | false => exact ⟨(s1, true), by simp only [forUpBrkGo, h1, bind, Except.bind]; rfl, hq1 rfl⟩
    | true =>
      obtain ⟨r2, h2, hp2⟩ := ih (i0 + 1) s1 (hp1 rfl)
        (fun i s hi1 hi2 hp => hb i s (by omega) (by omega) hp)
        (fun s hp => he s (by
          have he : i0 + ((n + 1 : Nat) : Int) = i0 + 1 + (n : Int) := by omega
          rw [he]; exact hp))
      exact ⟨r2, by simp only [forUpBrkGo, h1, bind, Except.bind, h2, if_true], hp2⟩

theorem forUpBrk_ix {σ : Type} (P : Int → σ → Prop) (Q : σ → Prop) (body : Int → σ → M (σ × Bool))
    (lo hi : Int) (s : σ) (hle : lo ≤ hi + 1) (hn : hi + 1 - lo ≤ (hangLimit : Int)) (hs : P lo s)
    (hb : ∀ i s, lo ≤ i → i ≤ hi → P i s →
      ∃ r, body i s = .ok r ∧ (r.2 = true → P (i + 1) r.1) ∧ (r.2 = false → Q r.1))
    (he : ∀ s, P (hi + 1) s → Q s) :
    ∃ s', forUpBrk body (lo := lo) (hi := hi) s = .ok s' ∧ Q s' := by
  unfold forUpBrk
  have hle' : (hi + 1 - lo).toNat ≤ hangLimit := by omega
  simp only [hle', if_true]
  obtain ⟨r, hr, hq⟩ := forUpBrkGo_ix P Q body (hi + 1 - lo).toNat lo s hs
    (fun i s h1 h2 hp => hb i s h1 (by omega) hp)
    (fun s hp => he s (by
      have he : lo + (((hi + 1 - lo).toNat : Nat) : Int) = hi + 1 := by omega
      rw [he] at hp; exact hp))
  exact ⟨r.1, by rw [hr]; rfl, hq⟩

theorem forDownGo_ix {σ : Type} (P : Int → σ → Prop) (body : Int → σ → M σ) :
    ∀ (n : Nat) (i0 : Int) (s : σ), P i0 s →
      (∀ i s, i ≤ i0 → i0 - n < i → P i s → ∃ s', body i s = .ok s' ∧ P (i - 1) s') →
      ∃ s', forDownGo body n i0 s = .ok s' ∧ P (i0 - n) s' := by
  intro n
  induction n with
  | zero => intro i0 s hs _; exact ⟨s, rfl, by simpa using hs⟩
  | succ n ih =>
    intro i0 s hs hb
    obtain ⟨s1, h1, hp1⟩ := hb i0 s (by omega) (by omega) hs
    obtain ⟨s2, h2, hp2⟩ := ih (i0 - 1) s1 hp1 (fun i s hi1 hi2 hp => hb i s (by omega) (by omega) hp)
    refine ⟨s2, by simp only [forDownGo, h1, bind, Except.bind, h2], ?_⟩
    have : i0 - ((n + 1 : Nat) : Int) = i0 - 1 - (n : Int) := by omega
    rw [this]; exact hp2

theorem forDown_ix {σ : Type} (P : Int → σ → Prop) (body : Int → σ → M σ) (hi lo : Int) (s : σ)
    (hlo : lo ≤ hi + 1) (hn : hi + 1 - lo ≤ (hangLimit : Int)) (hs : P hi s)
    (hb : ∀ i s, lo ≤ i → i ≤ hi → P i s → ∃ s', body i s = .ok s' ∧ P (i - 1) s') :
    ∃ s', forDown hi lo body s = .ok s' ∧ P (lo - 1) s' := by
  unfold forDown
  have hle : (hi + 1 - lo).toNat ≤ hangLimit := by omega
  simp only [hle, if_true]
  obtain ⟨s', h1, h2⟩ := forDownGo_ix P body (hi + 1 - lo).toNat hi s hs
    (fun i s h1 h2 hp => hb i s (by omega) h1 hp)
  refine ⟨s', h1, ?_⟩
  have : hi - ((hi + 1 - lo).toNat : Int) = lo - 1 := by omega
  rw [← this]; exact h2

theorem forDown_empty {σ : Type} (body : Int → σ → M σ) (hi lo : Int) (s : σ) (h : hi + 1 ≤ lo) :
    forDown hi lo body s = .ok s := by
  unfold forDown
  have : (hi + 1 - lo).toNat = 0 := by omega
  simp [this, forDownGo]

/-! For what a successful run computed, no bound on the number of iterations and no success of the body is asked for: that the
loops of a handler run through is `Safe`, proved per handler in `Lemmas/EmuSafe*.lean`. -/

theorem forUpGo_run {σ : Type} (P : Int → σ → Prop) (body : Int → σ → M σ) :
    ∀ (n : Nat) (i0 : Int) (s s' : σ), P i0 s →
      (∀ i s s', i0 ≤ i → i < i0 + n → P i s → body i s = .ok s' → P (i + 1) s') →
      forUpGo body n i0 s = .ok s' → P (i0 + n) s' := by
  intro n
  induction n with
  | zero => intro i0 s s' hs _ h; cases h; simpa using hs
  | succ n ih =>
    intro i0 s s' hs hb h
    obtain ⟨s1, h1, h2⟩ := Except.bind_eq_ok h
    have := ih (i0 + 1) s1 s' (hb i0 s s1 (by omega) (by omega) hs h1)
      (fun i s s' hi1 hi2 => hb i s s' (by omega) (by omega)) h2
    rwa [show i0 + ((n + 1 : Nat) : Int) = i0 + 1 + (n : Int) by omega]

theorem forUp_run {σ : Type} (P : Int → σ → Prop) (body : Int → σ → M σ) (lo hi : Int) (s s' : σ)
    (hle : lo ≤ hi + 1) (hs : P lo s)
    (hb : ∀ i s s', lo ≤ i → i ≤ hi → P i s → body i s = .ok s' → P (i + 1) s')
    (h : forUp lo hi body s = .ok s') : P (hi + 1) s' := by
  unfold forUp at h
  simp only at h
  split at h
  · have := forUpGo_run P body _ lo s s' hs (fun i s s' h1 h2 => hb i s s' h1 (by omega)) h
    rwa [show lo + (((hi + 1 - lo).toNat : Nat) : Int) = hi + 1 by omega] at this
  · obtain ⟨_, _, h⟩ := Except.bind_eq_ok h; cases h

theorem forUp_empty_run {σ : Type} {body : Int → σ → M σ} {lo hi : Int} {s s' : σ} (hl : hi + 1 ≤ lo)
    (h : forUp lo hi body s = .ok s') : s' = s := by
  rw [forUp_empty body lo hi s hl] at h; cases h; rfl

theorem forUpBrkGo_run {σ : Type} (P : Int → σ → Prop) (Q : σ → Prop) (body : Int → σ → M (σ × Bool)) :
    ∀ (n : Nat) (i0 : Int) (s : σ) (r : σ × Bool), P i0 s →
      (∀ i s r, i0 ≤ i → i < i0 + n → P i s → body i s = .ok r →
        (r.2 = true → P (i + 1) r.1) ∧ (r.2 = false → Q r.1)) →
      forUpBrkGo body n i0 s = .ok r → (r.2 = true → Q r.1) ∧ (r.2 = false → P (i0 + n) r.1) := by
  intro n
  induction n with
  | zero => intro i0 s r hs _ h; cases h; exact ⟨nofun, fun _ => by simpa using hs⟩
  | succ n ih =>
    intro i0 s r hs hb h
    obtain ⟨⟨s1, go⟩, h1, h2⟩ := Except.bind_eq_ok h
    obtain ⟨hp1, hq1⟩ := hb i0 s (s1, go) (by omega) (by omega) hs h1
    cases go with
    | false => cases h2; exact ⟨fun _ => hq1 rfl, nofun⟩
    | true =>
      have := ih (i0 + 1) s1 r (hp1 rfl) (fun i s r hi1 hi2 => hb i s r (by omega) (by omega)) h2
      rwa [show i0 + ((n + 1 : Nat) : Int) = i0 + 1 + (n : Int) by omega]

theorem forUpBrk_run {σ : Type} (P : Int → σ → Prop) (Q : σ → Prop) (body : Int → σ → M (σ × Bool))
    (lo hi : Int) (s s' : σ) (hle : lo ≤ hi + 1) (hs : P lo s)
    (hb : ∀ i s r, lo ≤ i → i ≤ hi → P i s → body i s = .ok r →
      (r.2 = true → P (i + 1) r.1) ∧ (r.2 = false → Q r.1))
    (he : ∀ s, P (hi + 1) s → Q s) (h : forUpBrk lo hi body s = .ok s') : Q s' := by
  unfold forUpBrk at h
  simp only at h
  split at h
  · obtain ⟨⟨s1, b⟩, h1, h2⟩ := Except.bind_eq_ok h
    cases h2
    have := forUpBrkGo_run P Q body _ lo s _ hs (fun i s r h1 h2 => hb i s r h1 (by omega)) h1
    cases b with
    | true => exact this.1 rfl
    | false =>
      refine he _ ?_
      have := this.2 rfl
      rwa [show lo + (((hi + 1 - lo).toNat : Nat) : Int) = hi + 1 by omega] at this
  · obtain ⟨⟨s1, b⟩, h1, h2⟩ := Except.bind_eq_ok h
    cases b with
    | true =>
      cases h2
      exact (forUpBrkGo_run P Q body _ lo s _ hs (fun i s r h1 h2 => hb i s r h1 (by omega)) h1).1 rfl
    | false => cases h2

theorem forUpBrk_empty {σ : Type} (body : Int → σ → M (σ × Bool)) (lo hi : Int) (s : σ) (h : hi + 1 ≤ lo) :
    forUpBrk body (lo := lo) (hi := hi) s = .ok s := by
  unfold forUpBrk
  have h0 : (hi + 1 - lo).toNat = 0 := by omega
  simp only [h0, Nat.zero_le, if_true, forUpBrkGo]
  rfl

theorem forUp_ok {σ : Type} (P : σ → Prop) (body : Int → σ → M σ) (lo hi : Int) (s : σ)
    (hn : hi + 1 - lo ≤ (hangLimit : Int)) (hs : P s)
    (hb : ∀ i s, lo ≤ i → i ≤ hi → P s → ∃ s', body i s = .ok s' ∧ P s') :
    ∃ s', forUp body (lo := lo) (hi := hi) s = .ok s' ∧ P s' := by
  by_cases hle : lo ≤ hi + 1
  · exact forUp_ix (fun _ => P) body lo hi s hle hn hs hb
  · exact ⟨s, forUp_empty body lo hi s (by omega), hs⟩

theorem forDown_ok {σ : Type} (P : σ → Prop) (body : Int → σ → M σ) (hi lo : Int) (s : σ)
    (hn : hi + 1 - lo ≤ (hangLimit : Int)) (hs : P s)
    (hb : ∀ i s, lo ≤ i → i ≤ hi → P s → ∃ s', body i s = .ok s' ∧ P s') :
    ∃ s', forDown body (hi := hi) (lo := lo) s = .ok s' ∧ P s' := by
  by_cases hle : lo ≤ hi + 1
  · exact forDown_ix (fun _ => P) body hi lo s hle hn hs hb
  · exact ⟨s, forDown_empty body hi lo s (by omega), hs⟩

theorem forUpBrk_okI {σ : Type} (P : σ → Prop) (I : Int → Prop) (body : Int → σ → M (σ × Bool))
    (lo hi : Int) (s : σ) (hn : hi + 1 - lo ≤ (hangLimit : Int)) (hs : P s) (hI : I lo)
    (hb : ∀ i s, lo ≤ i → i ≤ hi → I i → P s →
      ∃ r, body i s = .ok r ∧ P r.1 ∧ (r.2 = true → I (i + 1))) :
    ∃ s', forUpBrk body (lo := lo) (hi := hi) s = .ok s' ∧ P s' := by
  by_cases hle : lo ≤ hi + 1
  · exact forUpBrk_ix (fun i s => P s ∧ I i) P body lo hi s hle hn ⟨hs, hI⟩
      (fun i s h1 h2 ⟨hp, hi'⟩ =>
        let ⟨r, hr, hp', hI'⟩ := hb i s h1 h2 hi' hp
        ⟨r, hr, fun hg => ⟨hp', hI' hg⟩, fun _ => hp'⟩)
      (fun _ h => h.1)
  · exact ⟨s, forUpBrk_empty body lo hi s (by omega), hs⟩

theorem forUpBrk_ok {σ : Type} (P : σ → Prop) (body : Int → σ → M (σ × Bool)) (lo hi : Int) (s : σ)
    (hn : hi + 1 - lo ≤ (hangLimit : Int)) (hs : P s)
    (hb : ∀ i s, lo ≤ i → i ≤ hi → P s → ∃ r, body i s = .ok r ∧ P r.1) :
    ∃ s', forUpBrk body (lo := lo) (hi := hi) s = .ok s' ∧ P s' :=
  forUpBrk_okI P (fun _ => True) body lo hi s hn hs trivial
    (fun i s h1 h2 _ hp => let ⟨r, hr, hp'⟩ := hb i s h1 h2 hp; ⟨r, hr, hp', fun _ => trivial⟩)

theorem forUp_keeps {σ : Type} (P : σ → Prop) (body : Int → σ → M σ) (hb : ∀ i s s', body i s = .ok s' → P s → P s')
    (lo hi : Int) (s s' : σ) (hp : P s) (h : forUp lo hi body s = .ok s') : P s' := by
  by_cases hle : lo ≤ hi + 1
  · exact forUp_run (fun _ => P) body lo hi s s' hle hp (fun i s s' _ _ hp hr => hb i s s' hr hp) h
  · exact forUp_empty_run (by omega) h ▸ hp

theorem forDownGo_keeps {σ : Type} (P : σ → Prop) (body : Int → σ → M σ) (hb : ∀ i s s', body i s = .ok s' → P s → P s') :
    ∀ (n : Nat) (i : Int) (s s' : σ), P s → forDownGo body n i s = .ok s' → P s'
  | 0, _, s, s', hp, h => by cases h; exact hp
  | n + 1, i, s, s', hp, h => by
    obtain ⟨s1, h1, h2⟩ := Except.bind_eq_ok h
    exact forDownGo_keeps P body hb n (i - 1) s1 s' (hb i s s1 h1 hp) h2

theorem forDown_keeps {σ : Type} (P : σ → Prop) (body : Int → σ → M σ) (hb : ∀ i s s', body i s = .ok s' → P s → P s')
    (hi lo : Int) (s s' : σ) (hp : P s) (h : forDown hi lo body s = .ok s') : P s' := by
  unfold forDown at h
  simp only at h
  split at h
  · exact forDownGo_keeps P body hb _ _ _ _ hp h
  · obtain ⟨_, _, h2⟩ := Except.bind_eq_ok h; cases h2

theorem forUpBrk_keeps {σ : Type} (P : σ → Prop) (body : Int → σ → M (σ × Bool))
    (hb : ∀ i s r, body i s = .ok r → P s → P r.1) (lo hi : Int) (s s' : σ) (hp : P s)
    (h : forUpBrk lo hi body s = .ok s') : P s' := by
  by_cases hle : lo ≤ hi + 1
  · exact forUpBrk_run (fun _ => P) P body lo hi s s' hle hp
      (fun i s r _ _ hp hr => ⟨fun _ => hb i s r hr hp, fun _ => hb i s r hr hp⟩) (fun _ h => h) h
  · rw [forUpBrk_empty body lo hi s (by omega)] at h; cases h; exact hp

theorem repeatGo_ok {σ : Type} (P : σ → Prop) (f : σ → M σ)
    (hf : ∀ s, P s → ∃ s', f s = .ok s' ∧ P s') :
    ∀ (n : Nat) (s : σ), P s → ∃ s', repeatGo f n s = .ok s' ∧ P s' := by
  intro n
  induction n with
  | zero => intro s hs; exact ⟨s, rfl, hs⟩
  | succ n ih =>
    intro s hs
    obtain ⟨s1, h1, hp1⟩ := hf s hs
    obtain ⟨s2, h2, hp2⟩ := ih s1 hp1
    exact ⟨s2, by simp only [repeatGo, h1, bind, Except.bind, h2], hp2⟩

theorem repeatM_ok {σ : Type} (P : σ → Prop) (f : σ → M σ) (n : Nat) (s : σ) (hn : n ≤ hangLimit)
    (hs : P s) (hf : ∀ s, P s → ∃ s', f s = .ok s' ∧ P s') :
    ∃ s', repeatN f n s = .ok s' ∧ P s' := by
  unfold repeatN
  simp only [hn, if_true]
  exact repeatGo_ok P f hf n s hs

theorem eraseCols_ok {g : Grid} {rows cols : Nat} (h : GridOk g rows cols) (r lo hi : Int) (bg : Nat)
    (hr0 : 0 ≤ r) (hr1 : r < rows) (hlo : 0 ≤ lo) (hhi : hi < cols) (hc : (cols : Int) ≤ hangLimit) :
    ∃ g', eraseCols g r lo hi bg = .ok g' ∧ GridOk g' rows cols := by
  unfold eraseCols
  exact forUp_ok (fun g => GridOk g rows cols) _ lo hi g (by omega) h
    (fun c g h1 h2 hg => modCell_ok hg r c _ hr0 hr1 (by omega) (by omega))

theorem find_label {A : Type} (T : List (List Nat × A × VaxisModel.Gen.TermModes.ArgKind)) (label : List Nat) :
    (T.find? (·.1 = label) = none ∧ lookupArm T label = none) ∨
      ∃ a k, T.find? (·.1 = label) = some (label, a, k) ∧ (label, a, k) ∈ T := by
  cases hf : T.find? (·.1 = label) with
  | none => exact .inl ⟨rfl, by unfold lookupArm; rw [hf]; rfl⟩
  | some x =>
    obtain ⟨l, a, k⟩ := x
    have hl : l = label := by simpa using List.find?_some hf
    subst hl
    exact .inr ⟨a, k, rfl, List.mem_of_find?_eq_some hf⟩

theorem active_ok {e : Emu} {rows cols : Nat} (h : EmuInv e rows cols) : GridOk e.active rows cols := by
  unfold Emu.active
  split
  · exact h.alt
  · exact h.prim

theorem height_eq {e : Emu} {rows cols : Nat} (h : EmuInv e rows cols) : e.height = rows := by
  unfold Emu.height
  rw [(active_ok h).len]

theorem width_eq {e : Emu} {rows cols : Nat} (h : EmuInv e rows cols) (hr : 1 ≤ rows) : e.width = cols := by
  unfold Emu.width
  have hg := active_ok h
  match hm : e.active with
  | [] => rw [hm] at hg; have := hg.len; simp at this; omega
  | r :: _ =>
    simp only
    rw [hg.rowLen r (by rw [hm]; exact List.mem_cons_self)]

theorem setActive_inv {e : Emu} {rows cols : Nat} (h : EmuInv e rows cols) {g : Grid}
    (hg : GridOk g rows cols) : EmuInv (e.setActive g) rows cols := by
  unfold Emu.setActive
  split
  · exact { h with alt := hg }
  · exact { h with prim := hg }

@[simp] theorem setActive_cur (e : Emu) (g : Grid) : (e.setActive g).cur = e.cur := by
  unfold Emu.setActive; split <;> rfl
@[simp] theorem setActive_top (e : Emu) (g : Grid) : (e.setActive g).top = e.top := by
  unfold Emu.setActive; split <;> rfl
@[simp] theorem setActive_bottom (e : Emu) (g : Grid) : (e.setActive g).bottom = e.bottom := by
  unfold Emu.setActive; split <;> rfl
@[simp] theorem setActive_left (e : Emu) (g : Grid) : (e.setActive g).left = e.left := by
  unfold Emu.setActive; split <;> rfl
@[simp] theorem setActive_right (e : Emu) (g : Grid) : (e.setActive g).right = e.right := by
  unfold Emu.setActive; split <;> rfl
@[simp] theorem setActive_mode (e : Emu) (g : Grid) : (e.setActive g).mode = e.mode := by
  unfold Emu.setActive; split <;> rfl
@[simp] theorem setActive_lastCol (e : Emu) (g : Grid) : (e.setActive g).lastCol = e.lastCol := by
  unfold Emu.setActive; split <;> rfl
@[simp] theorem setActive_altActive (e : Emu) (g : Grid) : (e.setActive g).altActive = e.altActive := by
  unfold Emu.setActive; split <;> rfl
@[simp] theorem setActive_active (e : Emu) (g : Grid) : (e.setActive g).active = g := by
  unfold Emu.setActive Emu.active; split <;> simp_all
theorem setActive_cs (e : Emu) (g : Grid) : (e.setActive g).cs = e.cs := by unfold Emu.setActive; split <;> rfl
theorem setActive_osc8 (e : Emu) (g : Grid) : (e.setActive g).osc8 = e.osc8 := by unfold Emu.setActive; split <;> rfl
theorem setActive_tabs (e : Emu) (g : Grid) : (e.setActive g).tabs = e.tabs := by unfold Emu.setActive; split <;> rfl
theorem setActive_savedP (e : Emu) (g : Grid) : (e.setActive g).savedP = e.savedP := by unfold Emu.setActive; split <;> rfl
theorem setActive_savedA (e : Emu) (g : Grid) : (e.setActive g).savedA = e.savedA := by unfold Emu.setActive; split <;> rfl
theorem setActive_hasVx (e : Emu) (g : Grid) : (e.setActive g).hasVx = e.hasVx := by unfold Emu.setActive; split <;> rfl

theorem inv_setCursor {e : Emu} {rows cols : Nat} (h : EmuInv e rows cols) (r c : Int) (lc : Bool)
    (hr0 : 0 ≤ r) (hr1 : r < rows) (hc0 : 0 ≤ c) (hc1 : c ≤ cols) :
    EmuInv { e with cur := { e.cur with row := r, col := c }, lastCol := lc } rows cols :=
  { h with rowLo := hr0, rowHi := hr1, colLo := hc0, colHi := hc1 }

theorem grid_bind_inv {x : M Grid} {k : Grid → Emu} {e' : Emu}
    (h : (x >>= fun g => Except.ok (k g)) = .ok e') : ∃ g, e' = k g := by
  obtain ⟨g, _, hg⟩ := Except.bind_eq_ok h
  cases hg
  exact ⟨g, rfl⟩

theorem runOps_append : ∀ (a b : List EOp) (e0 : Emu), runOps e0 (a ++ b) = (runOps e0 a >>= fun e => runOps e b)
  | [], _, _ => rfl
  | op :: rest, b, e0 => by
    simp only [List.cons_append, runOps]
    cases emuStep e0 op with
    | error p => rfl
    | ok r =>
      obtain ⟨e1, k⟩ := r
      simp only [bind, Except.bind]
      exact runOps_append rest b e1

theorem scrollUp_lastCol {e e' : Emu} {n : Int} (h : scrollUp e n = .ok e') : e'.lastCol = e.lastCol := by
  unfold scrollUp at h
  obtain ⟨g, rfl⟩ := grid_bind_inv h
  exact setActive_lastCol e g

theorem ind_lastCol {e e' : Emu} (h : ind e = .ok e') : e'.lastCol = false := by
  unfold ind at h
  simp only at h
  split at h
  · exact (scrollUp_lastCol h).trans rfl
  · split at h <;> (cases h; rfl)

theorem nel_lastCol {e e' : Emu} (h : nel e = .ok e') : e'.lastCol = false := by
  unfold nel at h
  obtain ⟨e1, h1, h2⟩ := Except.bind_eq_ok h
  cases h2
  exact (ind_lastCol h1 : e1.lastCol = false)

theorem runOps_invariant {P : Emu → Prop} {L : List EOp}
    (step : ∀ op ∈ L, ∀ e, P e → ∃ e' k, emuStep e op = .ok (e', k) ∧ P e') :
    ∀ (ops : List EOp), (∀ op ∈ ops, op ∈ L) → ∀ e, P e → ∃ e', runOps e ops = .ok e' ∧ P e'
  | [], _, e, h => ⟨e, rfl, h⟩
  | op :: rest, hall, e, h => by
    obtain ⟨e1, k, hs, h1⟩ := step op (hall op List.mem_cons_self) e h
    obtain ⟨e2, hr, h2⟩ := runOps_invariant step rest (fun o ho => hall o (List.mem_cons_of_mem _ ho)) e1 h1
    exact ⟨e2, by simp only [runOps, hs, bind, Except.bind]; exact hr, h2⟩

/-- An `if` under an equivalent condition (`apply ite_iff; omega`). -/
theorem ite_iff {α : Type} {A B : Prop} [Decidable A] [Decidable B] (h : A ↔ B) (x y : α) :
    (if A then x else y) = if B then x else y := by
  by_cases hA : A
  · rw [if_pos hA, if_pos (h.mp hA)]
  · rw [if_neg hA, if_neg (fun hB => hA (h.mpr hB))]

theorem forUpBrk_none {σ : Type} (body : Int → σ → M (σ × Bool)) (s : σ) :
    forUpBrk 1 (((1 : Nat) : Int) - 1) body s = .ok s := rfl

theorem forUpBrk_once {σ : Type} (body : Int → σ → M (σ × Bool)) (s : σ) :
    forUpBrk 1 (((2 : Nat) : Int) - 1) body s = (body 1 s >>= fun r => .ok r.1) := by
  show (forUpBrkGo body 1 1 s >>= fun r => Except.ok r.1) = _
  unfold forUpBrkGo
  cases body 1 s with
  | error e => rfl
  | ok r => obtain ⟨s', go⟩ := r; cases go <;> rfl

theorem modCell_eq {g : Grid} {row : Row} {x : ECell} (r c : Int) (f : ECell → ECell)
    (hr0 : 0 ≤ r) (hc0 : 0 ≤ c) (hrow : g[r.toNat]? = some row) (hx : row[c.toNat]? = some x) :
    modCell g r c f = .ok (g.set r.toNat (row.set c.toNat (f x))) :=
  modCell_eq_ok.mpr ⟨row, x, ⟨hr0, hrow⟩, ⟨hc0, hx⟩, rfl⟩

end VaxisModel.Lemmas.Emu
