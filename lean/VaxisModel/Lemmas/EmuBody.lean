/-
Running a translated body (`Model/EmuBody.lean`) on a symbolic frame, for Props/C05Bodies.lean. The model functions of
Model/Emu.lean are written from the same Go text, with the same conditions in the same order and clamps as conditional values,
so a body run ONCE with these rules (the frame as a store, the Go idioms that would otherwise fork the run as equations of
`evalS`, the simp set `emu_eval`, the tactic `body_norm`) shows the model's text; splitting on the inputs first and running the
body at every leaf is never needed.
-/
import VaxisModel.Model.EmuBody
import VaxisModel.Model.EmuBodyRange
import VaxisModel.Gen.TermBodies
import VaxisModel.Lemmas.EmuBasic
import VaxisModel.Lemmas.EmuEvalAttr

namespace VaxisModel.Lemmas.EmuBody
open VaxisModel.Model.Emu VaxisModel.Model.EmuBody VaxisModel.Lemmas.Emu

theorem ok_bind {α β : Type} (a : α) (f : α → M β) : (Except.ok a >>= f) = f a := Except.ok_bind a f
theorem err_bind {α β : Type} (p : Panic) (f : α → M β) : ((Except.error p : M α) >>= f) = .error p := Except.error_bind p f
/-! `vt.height()`, `vt.width()`, `vt.activeScreen` as functions of the three fields they read, so
that `simp` sees through record updates of the other fields without case-splitting on `altActive`. -/

def gridActive (p a : Grid) (aa : Bool) : Grid := if aa then a else p
def gridHeight (p a : Grid) (aa : Bool) : Int := ((gridActive p a aa).length : Int)
def gridWidth (p a : Grid) (aa : Bool) : Int :=
  match gridActive p a aa with
  | [] => 0
  | r :: _ => r.length

theorem active_def (e : Emu) : e.active = gridActive e.primary e.alt e.altActive := rfl
theorem height_def (e : Emu) : e.height = gridHeight e.primary e.alt e.altActive := rfl
theorem width_def (e : Emu) : e.width = gridWidth e.primary e.alt e.altActive := rfl

theorem gridActive_setActive (e : Emu) (g : Grid) :
    gridActive (e.setActive g).primary (e.setActive g).alt e.altActive = g := by
  unfold Emu.setActive gridActive; cases e.altActive <;> simp
theorem gridHeight_setActive (e : Emu) (g : Grid) :
    gridHeight (e.setActive g).primary (e.setActive g).alt e.altActive = (g.length : Int) := by
  unfold gridHeight; rw [gridActive_setActive]
theorem setActive_setActive (e : Emu) (g g' : Grid) : (e.setActive g).setActive g' = e.setActive g' := by
  unfold Emu.setActive; cases e.altActive <;> simp

theorem cellCopy_same_row (g : Grid) (r c c2 : Int) :
    cellCopy g r c r c2 = (do
      let row ← getI g r
      let x ← getI row c2
      let row' ← setI row c x
      setI g r row') := by
  unfold cellCopy
  cases h : getI g r <;> simp [ok_bind, err_bind]

theorem andThen_norm (s : Frame) (k : Frame → Bool) : andThen (.ok (s, .norm)) k = k s := rfl
theorem andThen_ret (s : Frame) (k : Frame → Bool) : andThen (.ok (s, .ret)) k = true := rfl
theorem andThen_brk (s : Frame) (k : Frame → Bool) : andThen (.ok (s, .brk)) k = true := rfl
theorem andThen_cont (s : Frame) (k : Frame → Bool) : andThen (.ok (s, .cont)) k = true := rfl
theorem andThen_err (p : Panic) (k : Frame → Bool) : andThen (.error p) k = true := rfl
theorem andThen_ite (c : Prop) [Decidable c] (a b : M (Frame × Sig)) (k : Frame → Bool) :
    andThen (if c then a else b) k = if c then andThen a k else andThen b k := by split <;> rfl
theorem andThen_bind {α : Type} (x : M α) (f : α → M (Frame × Sig)) (k : Frame → Bool) :
    andThen (x >>= f) k = andThenM x (fun a => andThen (f a) k) := by
  cases x <;> rfl
theorem andThenM_ok {α : Type} (a : α) (k : α → Bool) : andThenM (.ok a) k = k a := rfl
theorem andThenM_err {α : Type} (p : Panic) (k : α → Bool) : andThenM (.error p : M α) k = true := rfl
theorem andThenM_ite {α : Type} (c : Prop) [Decidable c] (a b : M α) (k : α → Bool) :
    andThenM (if c then a else b) k = if c then andThenM a k else andThenM b k := by split <;> rfl
theorem andThenM_bind {α β : Type} (x : M α) (f : α → M β) (k : β → Bool) :
    andThenM (x >>= f) k = andThenM x (fun a => andThenM (f a) k) := by
  cases x <;> rfl
theorem andThenM_all {α : Type} (x : M α) (k : α → Bool) (h : ∀ a, k a = true) : andThenM x k = true := by
  cases x with
  | ok a => exact h a
  | error p => rfl

theorem Frame.set_get (s : Frame) (l : Loc) : s.set l (s.get l) = s := by
  cases l <;> try rfl
  rename_i k
  show ({ s with vars := fun j => if j = k then s.vars k else s.vars j } : Frame) = s
  have : (fun j => if j = k then s.vars k else s.vars j) = s.vars := by
    funext j; split <;> simp_all
  rw [this]

theorem Frame.set_set (s : Frame) (l : Loc) (a b : Int) : (s.set l a).set l b = s.set l b := by
  cases l <;> try rfl
  rename_i k
  show ({ s with vars := _ } : Frame) = { s with vars := _ }
  congr 1; funext j
  show (if j = k then b else if j = k then a else s.vars j) = if j = k then b else s.vars j
  split <;> simp_all

theorem Frame.set_comm (s : Frame) (l l' : Loc) (a b : Int) (h : l ≠ l') : (s.set l a).set l' b = (s.set l' b).set l a := by
  cases l <;> cases l' <;> first | rfl | exact absurd rfl h | skip
  rename_i k k'
  have hk : k ≠ k' := fun e => h (e ▸ rfl)
  show ({ s with vars := _ } : Frame) = { s with vars := _ }
  congr 1; funext j
  show (if j = k' then b else if j = k then a else s.vars j) = if j = k then a else if j = k' then b else s.vars j
  by_cases h1 : j = k <;> by_cases h2 : j = k' <;> simp_all

/-- `if c { l = x }` is an assignment of a conditional value: ONE frame, not two paths that every later statement is run on
    (k such `if`s in a row would give 2^k). `x` is evaluated, and its accesses to the parameter list checked, only when `c` holds. -/
theorem evalS_guarded_assign (pm : List Param) (c : Cond) (l : Loc) (x : Ex) (s : Frame) :
    evalS pm (.ite c (.assign l x) .skip) s =
      if evalCond pm s [] c = true ∧ exOk pm x = false then .error .oob
      else .ok (s.set l (if evalCond pm s [] c then evalEx pm s [] x else s.get l), .norm) := by
  simp only [evalS]
  by_cases hc : evalCond pm s [] c = true
  · cases hx : exOk pm x <;> simp [hc]
  · simp [hc, Frame.set_get]

/-- `if c { return }` in front of `b`: the rest runs on the frame as it is. -/
theorem evalS_guard (pm : List Param) (c : Cond) (b : Stmt) (s : Frame) :
    evalS pm (.seq (.ite c .ret .skip) b) s = if evalCond pm s [] c then .ok (s, .ret) else evalS pm b s := by
  show ((if evalCond pm s [] c = true then (Except.ok (s, Sig.ret) : M (Frame × Sig)) else .ok (s, .norm)) >>= _) = _
  split <;> rfl

/-- a run of early returns against the one disjunction the model tests -/
theorem ite_or {α : Type} (a b : Prop) [Decidable a] [Decidable b] (x y : α) :
    (if a ∨ b then x else y) = if a then x else if b then x else y := by
  by_cases a <;> by_cases b <;> simp [*]

def headSeq : Stmt → Stmt
  | .seq a _ => a
  | s => s

def tailSeq : Stmt → Stmt
  | .seq _ b => b
  | s => s

def dropSeq : Nat → Stmt → Stmt
  | 0, s => s
  | k + 1, s => tailSeq (dropSeq k s)

theorem dropSeq_succ {k : Nat} {s a b : Stmt} (h : dropSeq k s = .seq a b) : dropSeq (k + 1) s = b := by
  simp [dropSeq, h, tailSeq]

theorem goOn_norm : goOn .norm = true := by decide
theorem goOn_cont : goOn .cont = true := by decide
theorem goOn_brk : goOn .brk = false := by decide
theorem goOn_ret : goOn .ret = false := by decide

theorem min_clamp (a w : Int) : min a (w - 1) = if w ≤ a then w - 1 else a := by
  split <;> omega

/-! The model matches on the shape of the parameter list; the code tests `len(pm)` and reads `pm[k][0]`. With the model's match
restated once as those reads, a body that takes the list runs once on a VARIABLE list. -/

theorem cup_reads (e : Emu) (pm : List Param) :
    cup Fixes.current e pm =
      let e := { e with lastCol := false }
      let r : Int := if pm.length = 0 then 0 else pmGet pm 0 - 1
      let c : Int := if pm.length = 0 then 0 else if pm.length = 1 then 0 else pmGet pm 1 - 1
      let c := if c > e.width - 1 then e.width - 1 else c
      let r := if r > e.height - 1 then e.height - 1 else r
      let c := if c < 0 then 0 else c
      let r := if r < 0 then 0 else r
      { e with cur := { e.cur with row := r, col := c } } := by
  rcases pm with _ | ⟨a, _ | ⟨b, _ | ⟨c, r⟩⟩⟩ <;> simp [cup, pmGet, Fixes.current]

theorem decstbm_reads (e : Emu) (pm : List Param) :
    decstbm Fixes.current e pm =
      let h := e.height
      let top : Int := if pm.length = 0 then 0 else pmGet pm 0 - 1
      let bot : Int := if pm.length = 0 then h - 1 else if pm.length = 1 then h - 1 else pmGet pm 1 - 1
      let top := if top < 0 then 0 else top
      let bot := if bot < 0 ∨ bot > h - 1 then h - 1 else bot
      if top ≥ bot then e
      else { e with lastCol := false, top := top, bottom := bot, cur := { e.cur with row := 0, col := 0 } } := by
  rcases pm with _ | ⟨a, _ | ⟨b, _ | ⟨c, r⟩⟩⟩ <;> simp [decstbm, pmGet, Fixes.current]

/-- The bodies for which `body_<fn>` is proved (Props/C05Bodies.lean): none of them contains a statement outside
    the language, and all satisfy the side conditions of `evalBody` (loop bodies only touch cells,
    `return` inside a loop only at the end of the function, `break`/`continue` only in loops). -/
def covered : List Body :=
  [VaxisModel.Gen.TermBodies.body_cuu, VaxisModel.Gen.TermBodies.body_cud, VaxisModel.Gen.TermBodies.body_cuf, VaxisModel.Gen.TermBodies.body_cub, VaxisModel.Gen.TermBodies.body_cnl,
   VaxisModel.Gen.TermBodies.body_cpl, VaxisModel.Gen.TermBodies.body_cha, VaxisModel.Gen.TermBodies.body_cup, VaxisModel.Gen.TermBodies.body_vpa, VaxisModel.Gen.TermBodies.body_vpr,
   VaxisModel.Gen.TermBodies.body_hpa, VaxisModel.Gen.TermBodies.body_hpr, VaxisModel.Gen.TermBodies.body_decstbm, VaxisModel.Gen.TermBodies.body_ind, VaxisModel.Gen.TermBodies.body_nel,
   VaxisModel.Gen.TermBodies.body_ri, VaxisModel.Gen.TermBodies.body_bs, VaxisModel.Gen.TermBodies.body_ht, VaxisModel.Gen.TermBodies.body_lf, VaxisModel.Gen.TermBodies.body_vt,
   VaxisModel.Gen.TermBodies.body_ff, VaxisModel.Gen.TermBodies.body_cr, VaxisModel.Gen.TermBodies.body_csi_su, VaxisModel.Gen.TermBodies.body_csi_sd,
   VaxisModel.Gen.TermBodies.body_el, VaxisModel.Gen.TermBodies.body_ech, VaxisModel.Gen.TermBodies.body_ed, VaxisModel.Gen.TermBodies.body_il, VaxisModel.Gen.TermBodies.body_dl,
   VaxisModel.Gen.TermBodies.body_dch, VaxisModel.Gen.TermBodies.body_scrollUp, VaxisModel.Gen.TermBodies.body_scrollDown,
   VaxisModel.Gen.TermBodies.body_ich, VaxisModel.Gen.TermBodies.body_print,
   VaxisModel.Gen.TermBodies.body_rep, VaxisModel.Gen.TermBodies.body_cht, VaxisModel.Gen.TermBodies.body_cbt,
   VaxisModel.Gen.TermBodies.body_tbc, VaxisModel.Gen.TermBodies.body_hts, VaxisModel.Gen.TermBodies.body_resize,
   VaxisModel.Gen.TermBodies.body_decsc, VaxisModel.Gen.TermBodies.body_decrc, VaxisModel.Gen.TermBodies.body_ris,
   VaxisModel.Gen.TermBodies.body_setDefaultTabStops, VaxisModel.Gen.TermBodies.body_sm, VaxisModel.Gen.TermBodies.body_rm,
   VaxisModel.Gen.TermBodies.body_decset, VaxisModel.Gen.TermBodies.body_decrst, VaxisModel.Gen.TermBodies.body_decrqm,
   VaxisModel.Gen.TermBodies.body_sgr, VaxisModel.Gen.TermBodies.body_osc,
   VaxisModel.Gen.TermBodies.body_csi_arm_2071, VaxisModel.Gen.TermBodies.body_esc_arm_4e, VaxisModel.Gen.TermBodies.body_esc_arm_4f, VaxisModel.Gen.TermBodies.body_esc_arm_3d, VaxisModel.Gen.TermBodies.body_esc_arm_3e, VaxisModel.Gen.TermBodies.body_esc_arm_2830, VaxisModel.Gen.TermBodies.body_esc_arm_2930, VaxisModel.Gen.TermBodies.body_esc_arm_2a30, VaxisModel.Gen.TermBodies.body_esc_arm_2b30, VaxisModel.Gen.TermBodies.body_esc_arm_2842, VaxisModel.Gen.TermBodies.body_esc_arm_2942, VaxisModel.Gen.TermBodies.body_esc_arm_2a42, VaxisModel.Gen.TermBodies.body_esc_arm_2b42, VaxisModel.Gen.TermBodies.body_c0_arm_0e, VaxisModel.Gen.TermBodies.body_c0_arm_0f,
   -- the arms that only answer the child / post an event / are empty, and the statements of csi() in front of its switch
   VaxisModel.Gen.TermBodies.body_csi_arm_63, VaxisModel.Gen.TermBodies.body_csi_arm_3e63, VaxisModel.Gen.TermBodies.body_csi_arm_6e,
   VaxisModel.Gen.TermBodies.body_csi_arm_2470, VaxisModel.Gen.TermBodies.body_esc_arm_2338, VaxisModel.Gen.TermBodies.body_c0_arm_07,
   VaxisModel.Gen.TermBodies.body_csi_pre]

/-! `emu_eval` (Lemmas/EmuEvalAttr.lean). The two idiom rules are pre-rules (`↓`): tried on a statement before the general
equation of `.ite` / `.seq` can take it apart. -/

attribute [emu_eval] height_def width_def active_def Emu.bg gridActive_setActive setActive_setActive setActive_altActive setActive_cs
  setActive_tabs setActive_savedP setActive_savedA setActive_osc8 setActive_hasVx setActive_cur setActive_top setActive_bottom
  setActive_left setActive_right setActive_mode setActive_lastCol evalBody evalS evalG initFrame evalCond evalEx evalBnd exOk Frame.get
  Frame.set ok_bind err_bind Except.ite_bind Except.bind_bind callFn pmGet hasBrk goOn_norm goOn_cont goOn_brk goOn_ret loopUp loopDown
  List.getD_cons_zero List.getD_cons_succ List.getD_nil List.getElem?_cons_zero List.getElem?_cons_succ List.getElem?_nil
  List.length_cons List.length_nil Int.natCast_add Int.natCast_one Int.natCast_zero Nat.zero_add Option.getD_some Option.getD_none
  List.nil_append List.cons_append Bool.and_true Bool.true_and if_true if_false ite_true ite_false and_false Nat.succ_ne_zero
  Bool.false_eq_true Bool.or_self Bool.or_false
attribute [emu_eval ↓] evalS_guarded_assign evalS_guard

/-! `body_norm` runs `evalBody` on a concrete body: first the interpreter itself (`emu_eval`), with the comparisons still folded
so that their `Decidable` instances are built from normalised operands (unfolded in the same pass, `decide` keeps an instance
over `evalEx … (frame)` that no later rewrite reaches); then comparisons; then the model side. -/

macro "body_norm" : tactic => `(tactic|
  (simp only [emu_eval, reduceIte, reduceCtorEq, Nat.reduceEqDiff]
   all_goals try simp only [evalCmp, Fixes.current, decide_eq_true_eq, Bool.and_eq_true, Bool.or_eq_true, Bool.not_eq_true',
     Bool.true_and, Bool.false_and, decide_eq_false_iff_not, Bool.not_eq_eq_eq_not, Bool.not_true]
   all_goals simp [evalCmp, Fixes.current, dflt1, height_def, width_def, active_def, gridActive_setActive, setActive_setActive, setActive_cs, setActive_tabs, setActive_savedP, setActive_savedA, setActive_osc8, setActive_hasVx, Emu.bg, ok_bind, err_bind, Except.ite_bind, Except.bind_ok]))

end VaxisModel.Lemmas.EmuBody
