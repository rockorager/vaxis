/-
Why the range check of Model/EmuBodyRange.lean succeeds on the control functions: every number a body reads (cursor, margins,
screen size, parameters, locals) is a 16-bit quantity and a body performs only a handful of additions, so no intermediate
value comes anywhere near 2^62. `stMag st B` computes, for a statement whose inputs are all within `±B`, a bound within which
every value it computes and stores stays; `stMag_sound` shows that `rangeS` holds whenever that bound is at most `lim`.
-/
import VaxisModel.Model.EmuBodyRange
import VaxisModel.Lemmas.EmuBody
import VaxisModel.Lemmas.EmuSafe1
import VaxisModel.Lemmas.ListBasic

namespace VaxisModel.Lemmas.EmuBody
open VaxisModel.Model.Emu VaxisModel.Model.EmuBody VaxisModel.Lemmas.Emu

/-- `|v| ≤ B`; reducible, so that `omega` reads it in hypotheses and goals -/
abbrev Within (B v : Int) : Prop := -B ≤ v ∧ v ≤ B

theorem Within.mono {B B' v : Int} (h : Within B v) (hB : B ≤ B') : Within B' v := by omega

/-- a bound on the absolute value of an expression (hence of each of its sub-expressions) when everything it reads is within
    `B`; beyond `lim` for the reads that are not followed (tab stops, the locals of resize() and sgr()) -/
def exMag (B : Int) : Ex → Int
  | .lit n => n.natAbs
  | .add a b => exMag B a + exMag B b
  | .sub a b => exMag B a + exMag B b
  | .loc _ => B
  | .lv _ => B
  | .width => B
  | .height => B
  | .pm _ => B
  | .lenPm => B
  | .psParams => B
  | _ => lim + 1

def condMag (B : Int) : Cond → Int
  | .cmp _ a b => max (exMag B a) (exMag B b)
  | .and a b => max (condMag B a) (condMag B b)
  | .or a b => max (condMag B a) (condMag B b)
  | .not a => condMag B a
  | _ => 0

/-- covers the inclusive bound and the counter's exit value, one above it -/
def bndMag (B : Int) : Bnd → Int
  | .lt e => exMag B e + 1
  | .le e => exMag B e + 1
  | .both a b => max (bndMag B a) (bndMag B b)

/-- the int arguments of a formatted reply -/
def exsMag (B : Int) : List Ex → Int
  | [] => 0
  | x :: rest => max (exMag B x) (exsMag B rest)

/-- everything a body can read off the frame and the parameter list is within `B` -/
structure Bd (pm : List Param) (B : Int) (s : Frame) : Prop where
  loc : ∀ l, Within B (s.get l)
  width : Within B s.e.width
  height : Within B s.e.height
  par : ∀ k, Within B (pmGet pm k)
  len : Within B pm.length
  first : Within B (ps pm)

theorem Bd.mono {pm : List Param} {B B' : Int} {s : Frame} (h : Bd pm B s) (hB : B ≤ B') : Bd pm B' s := by
  exact ⟨fun l => (h.loc l).mono hB, h.width.mono hB, h.height.mono hB, fun k => (h.par k).mono hB, h.len.mono hB, h.first.mono hB⟩

theorem Bd.of_reads {pm : List Param} {B : Int} {s s1 : Frame} (h : Bd pm B s) (hg : ∀ l, s1.get l = s.get l)
    (hw : s1.e.width = s.e.width) (hh : s1.e.height = s.e.height) : Bd pm B s1 :=
  ⟨fun l => hg l ▸ h.loc l, hw ▸ h.width, hh ▸ h.height, h.par, h.len, h.first⟩

theorem Bd.nonneg {pm : List Param} {B : Int} {s : Frame} (h : Bd pm B s) : 0 ≤ B := by
  have := h.width.1; have := h.width.2; omega

theorem exMag_nonneg {B : Int} (hB : 0 ≤ B) (x : Ex) : 0 ≤ exMag B x := by
  induction x <;> simp only [exMag] <;> first | omega | (unfold lim; omega)

theorem exMag_sound {pm : List Param} {B : Int} {s : Frame} {lvs : List Int} (hs : Bd pm B s) (hl : ∀ v ∈ lvs, Within B v) :
    ∀ x, exMag B x ≤ lim → Within (exMag B x) (evalEx pm s lvs x) ∧ exR pm s lvs x = true := by
  have hB := hs.nonneg
  intro x
  induction x with
  | lit n => intro _; exact ⟨by simp only [exMag, evalEx]; omega, rfl⟩
  | loc l => intro _; exact ⟨hs.loc l, rfl⟩
  | lv k =>
    intro _
    refine ⟨?_, rfl⟩
    simp only [exMag, evalEx, List.getD_eq_getElem?_getD]
    cases hk : lvs[k]? with
    | none => simp only [Option.getD_none]; omega
    | some v => exact hl v (List.mem_of_getElem? hk)
  | width => intro _; exact ⟨hs.width, rfl⟩
  | height => intro _; exact ⟨hs.height, rfl⟩
  | pm k => intro _; exact ⟨hs.par k, rfl⟩
  | lenPm => intro _; exact ⟨hs.len, rfl⟩
  | psParams => intro _; exact ⟨hs.first, rfl⟩
  | add a b iha ihb | sub a b iha ihb =>
    intro hm
    simp only [exMag] at hm
    have := exMag_nonneg hB a; have := exMag_nonneg hB b
    obtain ⟨wa, ra⟩ := iha (by omega)
    obtain ⟨wb, rb⟩ := ihb (by omega)
    refine ⟨by simp only [exMag, evalEx]; omega, ?_⟩
    simp only [exR, ra, rb, inR, evalEx, Bool.true_and]
    exact decide_eq_true (by omega)
  | _ => intro hm; exact absurd hm (by simp only [exMag]; omega)

theorem exsMag_sound {pm : List Param} {B : Int} {s : Frame} (hs : Bd pm B s) :
    ∀ xs, exsMag B xs ≤ lim → exsR pm s xs = true
  | [], _ => rfl
  | x :: rest, hm => by
    simp only [exsMag] at hm
    simp only [exsR, (exMag_sound (lvs := []) hs (fun _ hv => nomatch hv) x (by omega)).2, exsMag_sound hs rest (by omega), Bool.and_self]

theorem condMag_sound {pm : List Param} {B : Int} {s : Frame} {lvs : List Int} (hs : Bd pm B s) (hl : ∀ v ∈ lvs, Within B v) :
    ∀ c, condMag B c ≤ lim → condR pm s lvs c = true := by
  intro c
  induction c with
  | cmp op a b =>
    intro hm
    simp only [condMag] at hm
    simp only [condR, (exMag_sound hs hl a (by omega)).2, (exMag_sound hs hl b (by omega)).2, Bool.and_self]
  | and a b iha ihb => intro hm; simp only [condMag] at hm; simp only [condR, iha (by omega), ihb (by omega), Bool.and_self]
  | or a b iha ihb => intro hm; simp only [condMag] at hm; simp only [condR, iha (by omega), ihb (by omega), Bool.and_self]
  | not a iha => intro hm; exact iha hm
  | _ => intro _; rfl

theorem bndMag_sound {pm : List Param} {B : Int} {s : Frame} {lvs : List Int} (hs : Bd pm B s) (hl : ∀ v ∈ lvs, Within B v) :
    ∀ b, bndMag B b ≤ lim →
      Within (bndMag B b) (evalBnd pm s lvs b) ∧ Within (bndMag B b) (evalBnd pm s lvs b + 1) ∧ bndR pm s lvs b = true := by
  intro b
  induction b with
  | lt e | le e =>
    intro hm
    simp only [bndMag] at hm
    obtain ⟨w, r⟩ := exMag_sound hs hl e (by omega)
    simp only [bndMag, evalBnd, bndR, r, and_true]
    omega
  | both a b iha ihb =>
    intro hm
    simp only [bndMag] at hm
    obtain ⟨wa, wa', ra⟩ := iha (by omega)
    obtain ⟨wb, wb', rb⟩ := ihb (by omega)
    simp only [bndMag, evalBnd, bndR, ra, rb, Bool.and_self, and_true]
    omega

/-- statements inside loops: the loop variable ranges between the values of its two bounds -/
def gMag : Stmt → Int → Int
  | .seq a b, B => max (gMag a B) (gMag b B)
  | .ite c t f, B => max (condMag B c) (max (gMag t B) (gMag f B))
  | .forUp lo hi body, B => gMag body (max B (max (exMag B lo) (bndMag B hi)))
  | .forDown hi lo body, B => gMag body (max B (max (exMag B hi) (exMag B lo + 1)))
  | .erase r c, B => max B (max (exMag B r) (exMag B c))
  | .copyRow r c, B => max B (max (exMag B r) (exMag B c))
  | .cellCopy r c r2 c2, B => max B (max (max (exMag B r) (exMag B c)) (max (exMag B r2) (exMag B c2)))
  | .cellZero r c, B => max B (max (exMag B r) (exMag B c))
  | .touchRow r, B => max B (exMag B r)
  | .setWrapped r c, B => max B (max (exMag B r) (exMag B c))
  | .putGlyph r c w, B => max B (max (max (exMag B r) (exMag B c)) (exMag B w))
  | .setSpace r c, B => max B (max (exMag B r) (exMag B c))
  | .setPen r c, B => max B (max (exMag B r) (exMag B c))
  | .setCharFromCell r c, B => max B (max (exMag B r) (exMag B c))
  | _, B => B

theorem le_gMag (st : Stmt) : ∀ B, B ≤ gMag st B := by
  induction st with
  | seq a b iha ihb => intro B; have := iha B; simp only [gMag]; omega
  | ite c t f iht ihf => intro B; have := iht B; simp only [gMag]; omega
  | forUp lo hi body ih => intro B; have := ih (max B (max (exMag B lo) (bndMag B hi))); simp only [gMag]; omega
  | forDown hi lo body ih => intro B; have := ih (max B (max (exMag B hi) (exMag B lo + 1))); simp only [gMag]; omega
  | _ => intro B; simp only [gMag]; omega

theorem gMag_sound {pm : List Param} {s : Frame} (st : Stmt) : ∀ (B : Int) (l : List Int), Bd pm B s → (∀ v ∈ l, Within B v) →
    gMag st B ≤ lim → rangeG pm s st l = true := by
  induction st with
  | seq a b iha ihb =>
    intro B l hs hl hm
    simp only [gMag] at hm
    simp only [rangeG, iha B l hs hl (by omega), ihb B l hs hl (by omega), Bool.and_self]
  | ite c t f iht ihf =>
    intro B l hs hl hm
    simp only [gMag] at hm
    simp only [rangeG, condMag_sound hs hl c (by omega), iht B l hs hl (by omega), ihf B l hs hl (by omega), Bool.and_self]
  | forUp lo hi body ih =>
    intro B l hs hl hm
    simp only [gMag] at hm
    have hle := le_gMag body (max B (max (exMag B lo) (bndMag B hi)))
    obtain ⟨wlo, rlo⟩ := exMag_sound hs hl lo (by omega)
    obtain ⟨whi, whi', rhi⟩ := bndMag_sound hs hl hi (by omega)
    simp only [rangeG, rlo, rhi, Bool.true_and, Bool.and_eq_true, List.all_eq_true, List.mem_range, inR, decide_eq_true_eq]
    refine ⟨⟨by omega, by omega⟩, fun k hk => ?_⟩
    refine ih _ _ (hs.mono (by omega)) ?_ hm
    intro v hv
    rcases List.mem_append.mp hv with hv | hv
    · exact (hl v hv).mono (by omega)
    · rw [List.mem_singleton] at hv; omega
  | forDown hi lo body ih =>
    intro B l hs hl hm
    simp only [gMag] at hm
    have hle := le_gMag body (max B (max (exMag B hi) (exMag B lo + 1)))
    obtain ⟨wlo, rlo⟩ := exMag_sound hs hl lo (by omega)
    obtain ⟨whi, rhi⟩ := exMag_sound hs hl hi (by omega)
    simp only [rangeG, rlo, rhi, Bool.true_and, Bool.and_eq_true, List.all_eq_true, List.mem_range, inR, decide_eq_true_eq]
    refine ⟨⟨by omega, by omega⟩, fun k hk => ?_⟩
    refine ih _ _ (hs.mono (by omega)) ?_ hm
    intro v hv
    rcases List.mem_append.mp hv with hv | hv
    · exact (hl v hv).mono (by omega)
    · rw [List.mem_singleton] at hv; omega
  | erase r c | copyRow r c | cellZero r c | setWrapped r c | setSpace r c | setPen r c | setCharFromCell r c =>
    intro B l hs hl hm
    simp only [gMag] at hm
    simp only [rangeG, (exMag_sound hs hl r (by omega)).2, (exMag_sound hs hl c (by omega)).2, Bool.and_self]
  | touchRow r =>
    intro B l hs hl hm
    simp only [gMag] at hm
    simp only [rangeG, (exMag_sound hs hl r (by omega)).2]
  | putGlyph r c w =>
    intro B l hs hl hm
    simp only [gMag] at hm
    simp only [rangeG, (exMag_sound hs hl r (by omega)).2, (exMag_sound hs hl c (by omega)).2, (exMag_sound hs hl w (by omega)).2,
      Bool.and_self]
  | cellCopy r c r2 c2 =>
    intro B l hs hl hm
    simp only [gMag] at hm
    simp only [rangeG, (exMag_sound hs hl r (by omega)).2, (exMag_sound hs hl c (by omega)).2, (exMag_sound hs hl r2 (by omega)).2,
      (exMag_sound hs hl c2 (by omega)).2, Bool.and_self]
  | _ => intros; rfl

/-- the row lengths of a grid: all that `vt.width()` and `vt.height()` read -/
def shape (g : Grid) : List Nat := g.map List.length

theorem setI_eq_set {α : Type} {l l' : List α} {i : Int} {x : α} (h : setI l i x = .ok l') : l' = l.set i.toNat x :=
  (setI_eq_ok.mp h).2

theorem setI_length {α : Type} {l l' : List α} {i : Int} {x : α} (h : setI l i x = .ok l') : l'.length = l.length := by
  rw [setI_eq_set h, List.length_set]

theorem shape_set {g : Grid} {i : Nat} {row row' : Row} (hg : g[i]? = some row) (hl : row'.length = row.length) :
    shape (g.set i row') = shape g := by
  unfold shape
  rw [List.map_set, hl]
  exact ListBasic.set_self_of_getElem? (by rw [List.getElem?_map, hg]; rfl)

theorem setRow_shape {g g' : Grid} {r : Int} {row row' : Row} (hg : getI g r = .ok row) (hl : row'.length = row.length)
    (h : setI g r row' = .ok g') : shape g' = shape g := by
  rw [setI_eq_set h]
  exact shape_set (getI_eq_ok.mp hg).2 hl

theorem modCell_shape {g g' : Grid} {r c : Int} {f : ECell → ECell} (h : modCell g r c f = .ok g') : shape g' = shape g := by
  obtain ⟨row, x, h1, _, rfl⟩ := modCell_eq_ok.mp h
  exact shape_set h1.2 List.length_set

theorem copyRow_shape {g g' : Grid} {d sr : Int} (h : copyRow g d sr = .ok g') : shape g' = shape g := by
  obtain ⟨dr, srow, h1, _, rfl⟩ := copyRow_eq_ok.mp h
  exact shape_set h1.2 (by simp only [List.length_append, List.length_take, List.length_drop]; omega)

theorem cellCopy_shape {g g' : Grid} {r c r2 c2 : Int} (h : cellCopy g r c r2 c2 = .ok g') : shape g' = shape g := by
  unfold cellCopy at h
  obtain ⟨row, h1, h⟩ := Except.bind_eq_ok h
  obtain ⟨row2, _, h⟩ := Except.bind_eq_ok h
  obtain ⟨x, _, h⟩ := Except.bind_eq_ok h
  obtain ⟨row', h4, h⟩ := Except.bind_eq_ok h
  exact setRow_shape h1 (setI_length h4) h

theorem evalG_shape {pm : List Param} {s : Frame} (st : Stmt) : ∀ (l : List Int) (g g' : Grid) (sg : Sig),
    evalG pm s st l g = .ok (g', sg) → shape g' = shape g := by
  induction st with
  | seq a b iha ihb =>
    intro l g g' sg h
    simp only [evalG] at h
    obtain ⟨r, h1, h2⟩ := Except.bind_eq_ok h
    obtain ⟨g1, sg1⟩ := r
    split at h2
    · exact (ihb l _ _ _ h2).trans (iha l _ _ _ h1)
    · cases h2; exact iha l _ _ _ h1
  | ite c t f iht ihf =>
    intro l g g' sg h
    simp only [evalG] at h
    split at h
    · exact iht l _ _ _ h
    · exact ihf l _ _ _ h
  | forUp lo hi body ih =>
    intro l g g' sg h
    simp only [evalG, loopUp] at h
    obtain ⟨g1, h1, h2⟩ := Except.bind_eq_ok h
    cases h2
    -- with or without `break`: the body keeps the shape
    split at h1 <;>
      first
        | refine forUpBrk_keeps (fun x => shape x = shape g) _ ?_ _ _ _ _ rfl h1
        | refine forUp_keeps (fun x => shape x = shape g) _ ?_ _ _ _ _ rfl h1
    all_goals
      intro i x r hr hp
      obtain ⟨r1, hr1, hr2⟩ := Except.bind_eq_ok hr
      cases hr2
      exact (ih _ _ _ _ hr1).trans hp
  | forDown hi lo body ih =>
    intro l g g' sg h
    simp only [evalG, loopDown] at h
    obtain ⟨g1, h1, h2⟩ := Except.bind_eq_ok h
    cases h2
    refine forDown_keeps (fun x => shape x = shape g) _ ?_ _ _ _ _ rfl h1
    intro i x x' hr hp
    obtain ⟨r1, hr1, hr2⟩ := Except.bind_eq_ok hr
    cases hr2
    exact (ih _ _ _ _ hr1).trans hp
  | erase r c | cellZero r c | setWrapped r c | setSpace r c | setPen r c | setCharFromCell r c | copyRow d sr | cellCopy r c r2 c2 =>
    intro l g g' sg h
    simp only [evalG] at h
    obtain ⟨g1, h1, h2⟩ := Except.bind_eq_ok h
    cases h2
    first | exact modCell_shape h1 | exact copyRow_shape h1 | exact cellCopy_shape h1
  | touchRow r =>
    intro l g g' sg h
    simp only [evalG] at h
    obtain ⟨_, _, h2⟩ := Except.bind_eq_ok h
    cases h2
    rfl
  | putGlyph r c w =>
    intro l g g' sg h
    simp only [evalG] at h
    obtain ⟨row, h1, h⟩ := Except.bind_eq_ok h
    obtain ⟨row', h2, h⟩ := Except.bind_eq_ok h
    obtain ⟨g1, h3, h⟩ := Except.bind_eq_ok h
    cases h
    exact setRow_shape h1 (setI_length h2) h3
  | _ =>
    intro l g g' sg h
    exact congrArg shape (Prod.mk.inj (Except.ok.inj h)).1.symm

/-- the bound within which everything stays that the statement computes or leaves in the frame; beyond `lim` for statements
    that are not followed (calls, the loops over tab stops and parameters, what only resize(), sgr() and osc() use) -/
def stMag : Stmt → Int → Int
  | .seq a b, B => stMag b (stMag a B)
  | .ite c t f, B => max (condMag B c) (max (stMag t B) (stMag f B))
  | .assign _ x, B => max B (exMag B x)
  | .skip, B => B
  | .ret, B => B
  | .setLastCol _, B => B
  | .loadCell r c, B => max B (max (exMag B r) (exMag B c))
  | .reply (.sprintf _ args), B => max B (exsMag B args)
  | .reply (.fprintf _ args), B => max B (exsMag B args)
  | .reply _, B => B
  | .forUp lo hi body, B => gMag (.forUp lo hi body) B
  | .forDown hi lo body, B => gMag (.forDown hi lo body) B
  | .erase r c, B => gMag (.erase r c) B
  | .copyRow r c, B => gMag (.copyRow r c) B
  | .cellCopy r c r2 c2, B => gMag (.cellCopy r c r2 c2) B
  | .cellZero r c, B => gMag (.cellZero r c) B
  | .touchRow r, B => gMag (.touchRow r) B
  | .setWrapped r c, B => gMag (.setWrapped r c) B
  | .putGlyph r c w, B => gMag (.putGlyph r c w) B
  | .setSpace r c, B => gMag (.setSpace r c) B
  | .setPen r c, B => gMag (.setPen r c) B
  | .setCharFromCell r c, B => gMag (.setCharFromCell r c) B
  | _, B => max B (lim + 1)

theorem le_stMag (st : Stmt) : ∀ B, B ≤ stMag st B := by
  induction st with
  | seq a b iha ihb => intro B; have := iha B; have := ihb (stMag a B); simp only [stMag]; omega
  | ite c t f iht ihf => intro B; have := iht B; simp only [stMag]; omega
  | forUp lo hi body _ | forDown hi lo body _ | erase | copyRow | cellCopy | cellZero | touchRow | setWrapped | putGlyph | setSpace | setPen | setCharFromCell =>
    intro B; exact le_gMag _ B
  | reply r => intro B; cases r <;> simp only [stMag] <;> omega
  | _ => intro B; simp only [stMag]; omega

theorem Bd.set {pm : List Param} {B : Int} {s : Frame} (hs : Bd pm B s) (l : Loc) {v : Int} (hv : Within B v) :
    Bd pm B (s.set l v) := by
  refine ⟨fun l' => ?_, ?_, ?_, hs.par, hs.len, hs.first⟩
  · have := hs.loc l'
    cases l <;> cases l' <;> simp only [Frame.set, Frame.get] at * <;> first | exact hv | exact this | (split <;> assumption)
  · cases l <;> exact hs.width
  · cases l <;> exact hs.height

theorem dims_of_shape {e e' : Emu} (h : shape e'.active = shape e.active) : e'.width = e.width ∧ e'.height = e.height := by
  have hlen : e'.active.length = e.active.length := by simpa [shape] using congrArg List.length h
  refine ⟨?_, by unfold Emu.height; rw [hlen]⟩
  unfold Emu.width
  unfold shape at h
  cases h1 : e.active <;> cases h2 : e'.active <;> simp_all

theorem Bd.grid {pm : List Param} {B : Int} {s s1 : Frame} {sg : Sig} {st : Stmt} (hs : Bd pm B s)
    (h : (evalG pm s st [] s.e.active >>= fun r => Except.ok ({ s with e := s.e.setActive r.1 }, Sig.norm)) = .ok (s1, sg)) :
    Bd pm B s1 := by
  obtain ⟨r, h1, h2⟩ := Except.bind_eq_ok h
  obtain ⟨g', sg'⟩ := r
  cases h2
  obtain ⟨hw, hh⟩ := dims_of_shape (e := s.e) (e' := s.e.setActive g') (by rw [setActive_active]; exact evalG_shape st _ _ _ _ h1)
  refine hs.of_reads (fun l => ?_) hw hh
  cases l <;> simp only [Frame.get, setActive_cur, setActive_top, setActive_bottom, setActive_left, setActive_right]

theorem stMag_sound {pm : List Param} (st : Stmt) : ∀ (B : Int) (s : Frame), Bd pm B s → stMag st B ≤ lim →
    rangeS pm st s = true ∧ ∀ s1 sg, evalS pm st s = .ok (s1, sg) → Bd pm (stMag st B) s1 := by
  have nil : ∀ B : Int, ∀ v ∈ ([] : List Int), Within B v := fun _ _ hv => nomatch hv
  induction st with
  | seq a b iha ihb =>
    intro B s hs hm
    simp only [stMag] at hm
    have hle := le_stMag b (stMag a B)
    obtain ⟨ra, pa⟩ := iha B s hs (by omega)
    simp only [rangeS, ra, Bool.true_and, stMag, evalS]
    cases hev : evalS pm a s with
    | error p => exact ⟨rfl, fun s1 sg h => nomatch h⟩
    | ok r =>
      obtain ⟨s1, sg1⟩ := r
      have hs1 := pa s1 sg1 hev
      cases sg1 with
      | norm =>
        obtain ⟨rb, pb⟩ := ihb _ s1 hs1 hm
        exact ⟨rb, fun s2 sg h => pb s2 sg h⟩
      | _ => exact ⟨rfl, fun s2 sg h => by cases h; exact hs1.mono hle⟩
  | ite c t f iht ihf =>
    intro B s hs hm
    simp only [stMag] at hm
    obtain ⟨rt, pt⟩ := iht B s hs (by omega)
    obtain ⟨rf, pf⟩ := ihf B s hs (by omega)
    simp only [rangeS, condMag_sound hs (nil B) c (by omega), Bool.true_and, stMag, evalS]
    split
    · exact ⟨rt, fun s1 sg h => (pt s1 sg h).mono (by omega)⟩
    · exact ⟨rf, fun s1 sg h => (pf s1 sg h).mono (by omega)⟩
  | assign l x =>
    intro B s hs hm
    simp only [stMag] at hm
    obtain ⟨w, r⟩ := exMag_sound hs (nil B) x (by omega)
    refine ⟨by simpa only [rangeS] using r, fun s1 sg h => ?_⟩
    simp only [evalS] at h
    split at h
    · cases h
      simp only [stMag]
      exact (hs.mono (by omega)).set l (by omega)
    · cases h
  | skip => intro B s hs _; exact ⟨rfl, fun s1 sg h => by cases h; exact hs⟩
  | ret => intro B s hs _; exact ⟨rfl, fun s1 sg h => by cases h; exact hs⟩
  | setLastCol b =>
    intro B s hs _
    refine ⟨rfl, fun s1 sg h => ?_⟩
    cases h
    exact hs.of_reads (fun l => by cases l <;> rfl) rfl rfl
  | loadCell r c =>
    intro B s hs hm
    simp only [stMag] at hm
    refine ⟨by simp only [rangeS, (exMag_sound hs (nil B) r (by omega)).2, (exMag_sound hs (nil B) c (by omega)).2, Bool.and_self],
      fun s1 sg h => ?_⟩
    simp only [evalS] at h
    obtain ⟨_, _, h⟩ := Except.bind_eq_ok h
    obtain ⟨_, _, h⟩ := Except.bind_eq_ok h
    cases h
    exact (hs.mono (le_stMag (.loadCell r c) B)).of_reads (fun l => by cases l <;> rfl) rfl rfl
  | reply r =>
    intro B s hs hm
    have post : ∀ s1 sg, evalS pm (.reply r) s = .ok (s1, sg) → Bd pm (stMag (.reply r) B) s1 :=
      fun s1 sg h => by cases h; exact hs.mono (le_stMag _ B)
    cases r with
    | sprintf f args => simp only [stMag] at hm; exact ⟨exsMag_sound hs args (by omega), post⟩
    | fprintf f args => simp only [stMag] at hm; exact ⟨exsMag_sound hs args (by omega), post⟩
    | _ => exact ⟨rfl, post⟩
  | forUp lo hi body _ | forDown hi lo body _ | erase | copyRow | cellCopy | cellZero | touchRow | setWrapped | putGlyph | setSpace | setPen | setCharFromCell =>
    intro B s hs hm
    exact ⟨gMag_sound _ B [] hs (nil B) hm, fun s1 sg h => (hs.grid h).mono (le_gMag _ B)⟩
  | _ => intro B s _ hm; exact absurd (show max B (lim + 1) ≤ lim from hm) (by omega)

/-- the numeric facts of a good state (for `omega`: `obtain ⟨⟩ := good_bounds h d` puts them all in the context) -/
structure Bounds (e : Emu) (rows cols : Nat) : Prop where
  rowLo : 0 ≤ e.cur.row
  rowHi : e.cur.row < rows
  colLo : 0 ≤ e.cur.col
  colHi : e.cur.col ≤ cols
  topLo : 0 ≤ e.top
  topLe : e.top ≤ e.bottom
  botHi : e.bottom < rows
  left0 : e.left = 0
  right : e.right = (cols : Int) - 1
  height : gridHeight e.primary e.alt e.altActive = rows
  width : gridWidth e.primary e.alt e.altActive = cols
  rows1 : (1 : Int) ≤ rows
  rowsMax : (rows : Int) ≤ 65535
  cols1 : (1 : Int) ≤ cols
  colsMax : (cols : Int) ≤ 65535

theorem good_bounds {e : Emu} {rows cols : Nat} (h : EmuInv e rows cols) (d : Dim rows cols) : Bounds e rows cols := by
  have hh := height_eq h
  have hw := width_eq h d.r1
  rw [height_def] at hh
  rw [width_def] at hw
  have := d.r1; have := d.c1; have := d.rmax; have := d.cmax
  refine ⟨h.rowLo, h.rowHi, h.colLo, h.colHi, h.topLo, h.topLe, h.botHi, h.left0, h.right, hh, hw, ?_, ?_, ?_, ?_⟩ <;> omega

theorem bd_of_inv {s : Frame} {rows cols : Nat} (h : EmuInv s.e rows cols) (d : Dim rows cols) {pm : List Param}
    (hpm : ∀ p ∈ pm, POk p.1) (hlen : pm.length ≤ 65535) (hv : ∀ k, Within 65535 (s.vars k)) : Bd pm 65535 s := by
  obtain ⟨⟩ := good_bounds h d
  have hh := height_eq h
  have hw := width_eq h d.r1
  have par : ∀ k, Within 65535 (pmGet pm k) := by
    intro k
    unfold pmGet
    cases hk : pm[k]? with
    | none => show Within 65535 0; omega
    | some p => have := hpm p (List.mem_of_getElem? hk); unfold POk at this; show Within 65535 p.1; omega
  refine ⟨fun l => ?_, by omega, by omega, par, by omega, ?_⟩
  · cases l with
    | var k => exact hv k
    | _ => simp only [Frame.get]; omega
  · cases pm with
    | nil => exact ⟨by simp [ps], by simp [ps]⟩
    | cons p rest => have := hpm p List.mem_cons_self; unfold POk at this; simp only [ps]; omega

theorem bd_init {e : Emu} {rows cols : Nat} (h : EmuInv e rows cols) (d : Dim rows cols) {pm : List Param} {args : List Int}
    (hpm : ∀ p ∈ pm, POk p.1) (hlen : pm.length ≤ 65535) (hargs : ∀ a ∈ args, POk a) : Bd pm 65535 (initFrame e args) := by
  refine bd_of_inv h d hpm hlen (fun k => ?_)
  simp only [initFrame, List.getD_eq_getElem?_getD]
  cases hk : args[k]? with
  | none => simp; omega
  | some a => have := hargs a (List.mem_of_getElem? hk); unfold POk at this; simp; omega

theorem range_of_mag {e : Emu} {rows cols : Nat} (h : EmuInv e rows cols) (d : Dim rows cols) (b : Body) {pm : List Param}
    {args : List Int} (hpm : ∀ p ∈ pm, POk p.1) (hlen : pm.length ≤ 65535) (hargs : ∀ a ∈ args, POk a)
    (hm : stMag b.stmt 65535 ≤ lim) : rangeBody b pm args e = true :=
  (stMag_sound b.stmt 65535 _ (bd_init h d hpm hlen hargs) hm).1

def flatEx : Ex → Bool
  | .add _ _ => false
  | .sub _ _ => false
  | _ => true

def flatCond : Cond → Bool
  | .cmp _ a b => flatEx a && flatEx b
  | .and a b => flatCond a && flatCond b
  | .or a b => flatCond a && flatCond b
  | .not a => flatCond a
  | _ => true

/-- no `+` or `-` in any expression and no loop (a loop increments its counter): branches, assignments, calls, replies -/
def flatS : Stmt → Bool
  | .seq a b => flatS a && flatS b
  | .ite c t f => flatCond c && flatS t && flatS f
  | .assign _ x => flatEx x
  | .call _ (some x) => flatEx x
  | .call _ none => true
  | .skip => true
  | .ret => true
  | .setLastCol _ => true
  | .reply (.sprintf _ args) => args.all flatEx
  | .reply (.fprintf _ args) => args.all flatEx
  | .reply _ => true
  | _ => false

theorem exR_flat {pm : List Param} {s : Frame} {l : List Int} {x : Ex} (h : flatEx x = true) : exR pm s l x = true := by
  cases x <;> first | rfl | cases h

theorem exsR_flat {pm : List Param} {s : Frame} : ∀ xs : List Ex, xs.all flatEx = true → exsR pm s xs = true
  | [], _ => rfl
  | x :: rest, h => by
    simp only [List.all_cons, Bool.and_eq_true] at h
    simp only [exsR, exR_flat h.1, exsR_flat rest h.2, Bool.and_self]

theorem condR_flat {pm : List Param} {s : Frame} {l : List Int} (c : Cond) : flatCond c = true → condR pm s l c = true := by
  induction c with
  | cmp op a b => intro h; simp only [flatCond, Bool.and_eq_true] at h; simp only [condR, exR_flat h.1, exR_flat h.2, Bool.and_self]
  | and a b iha ihb => intro h; simp only [flatCond, Bool.and_eq_true] at h; simp only [condR, iha h.1, ihb h.2, Bool.and_self]
  | or a b iha ihb => intro h; simp only [flatCond, Bool.and_eq_true] at h; simp only [condR, iha h.1, ihb h.2, Bool.and_self]
  | not a iha => intro h; exact iha h
  | _ => intro _; rfl

theorem andThen_all (r : M (Frame × Sig)) (k : Frame → Bool) (h : ∀ s, k s = true) : andThen r k = true := by
  unfold andThen
  split
  · exact h _
  · rfl

theorem rangeS_flat {pm : List Param} (st : Stmt) : flatS st = true → ∀ s, rangeS pm st s = true := by
  induction st with
  | seq a b iha ihb =>
    intro h s
    simp only [flatS, Bool.and_eq_true] at h
    simp only [rangeS, iha h.1 s, andThen_all _ _ (ihb h.2), Bool.and_self]
  | ite c t f iht ihf =>
    intro h s
    simp only [flatS, Bool.and_eq_true] at h
    simp only [rangeS, condR_flat c h.1.1, iht h.1.2 s, ihf h.2 s, ite_self, Bool.and_self]
  | assign l x => intro h s; exact exR_flat h
  | call f arg =>
    intro h s
    cases arg with
    | none => rfl
    | some x => exact exR_flat h
  | reply r =>
    intro h s
    cases r with
    | sprintf f args => exact exsR_flat args h
    | fprintf f args => exact exsR_flat args h
    | _ => rfl
  | skip | ret | setLastCol => intro _ _; rfl
  | _ => intro h; cases h

end VaxisModel.Lemmas.EmuBody
