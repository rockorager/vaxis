/-
Lemmas for `body_<fn>` (Props/C05Bodies.lean) of decsc / decrc / ris / setDefaultTabStops (esc.go) and sm / rm / decset / decrst /
decrqm (mode.go). The loops `for _, param := range params` run at function level (`paramLoop`) and are the `foldlM` of the model;
decrqm() changes nothing but int locals (`localOnly`, Lemmas/EmuBodyTop.lean).
-/
import VaxisModel.Lemmas.EmuBodyTop

namespace VaxisModel.Lemmas.EmuBody
open VaxisModel.Model.Emu VaxisModel.Model.EmuBody VaxisModel.Lemmas.Emu VaxisModel.Gen VaxisModel.Gen.TermModes

theorem paramLoop_fold (pm0 : List Param) (body : Stmt) (f : Emu → Param → M Emu)
    (h : ∀ (s : Frame) (p : Param), evalS pm0 body { s with param := p.1 } =
      (f s.e p >>= fun e' => .ok ({ s with e := e', param := p.1 }, .norm))) :
    ∀ (pm : List Param) (s : Frame),
      (paramLoop (fun p s => do
        let r ← evalS pm0 body { s with param := p }
        .ok ({ r.1 with param := s.param }, r.2)) pm s >>= fun s' => .ok s'.e) = pm.foldlM f s.e := by
  intro pm
  induction pm with
  | nil => intro s; rfl
  | cons p rest ih =>
    intro s
    simp only [paramLoop, h s p, List.foldlM_cons, Except.bind_bind]
    cases hf : f s.e p with
    | error x => rfl
    | ok e' =>
      simp only [ok_bind, reduceCtorEq, or_self, if_false]
      exact ih { s with e := e' }

theorem evalBody_forParams (pm : List Param) (body : Stmt) (f : Emu → Param → M Emu) (e : Emu) (name : String) (k : Nat)
    (h : ∀ (s : Frame) (p : Param), evalS pm body { s with param := p.1 } =
      (f s.e p >>= fun e' => .ok ({ s with e := e', param := p.1 }, .norm))) :
    evalBody { name := name, nlocals := k, stmt := .forParams body } pm [] e = pm.foldlM f e := by
  have := paramLoop_fold pm body f h pm (initFrame e [])
  simp only [evalBody, evalS, Except.bind_bind, ok_bind]
  exact this

theorem foldlM_ok {α β : Type} (f : β → α → β) (l : List α) (b : β) :
    l.foldlM (fun b a => (Except.ok (f b a) : M β)) b = .ok (l.foldl f b) := by
  induction l generalizing b with
  | nil => rfl
  | cons a r ih => simp only [List.foldlM_cons, ok_bind, List.foldl_cons]; exact ih _

theorem rangeStep_default : rangeStep 8 350 8 = defaultTabs := by decide

theorem lookupMode_nil (n : Int) : lookupMode [] n = none := rfl
theorem lookupMode_cons (k : Int) (f : ModeField) (t : List (Int × ModeField)) (n : Int) :
    lookupMode ((k, f) :: t) n = if n = k then some f else lookupMode t n := by
  unfold lookupMode
  simp only [List.find?]
  by_cases h : n = k
  · subst h; simp
  · have : ¬ k = n := fun h' => h h'.symm
    simp [h, this]

theorem body_decrqm_eq (e : Emu) (pd : Int) : evalBody TermBodies.body_decrqm [] [pd] e = .ok e :=
  localOnly_body _ (by decide) [] [pd] e

end VaxisModel.Lemmas.EmuBody
