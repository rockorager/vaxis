/-
`body_osc`: the translated body of osc() (osc.go) is the model's `osc` — state and number of events posted — for every
payload, every base64 verdict, every answer of the host terminal, from every state. `cutString` is a primitive of the
language (`Stmt.cut` = `cutSemi`); its source text is pinned by `cutString_pinned` (Props/C05Bodies.lean).
-/
import VaxisModel.Lemmas.EmuBody

namespace VaxisModel.Lemmas.EmuBody
open VaxisModel.Model.Emu VaxisModel.Model.EmuBody VaxisModel.Lemmas.Emu VaxisModel.Gen VaxisModel.Gen.TermModes

theorem body_osc_eq (e : Emu) (data : List Nat) (info : OscInfo) (he : Bool) :
    evalOsc TermBodies.body_osc data info he e = osc Fixes.current e data info := by
  simp only [TermBodies.body_osc, TermBodies.stmt_osc, evalOsc, osc]
  -- one run: the early returns keep it a tree with the model's branches, in the model's order
  simp only [emu_eval, evalCmp, Fixes.current]
  rcases hc : cutSemi data with ⟨sel, val, found⟩
  simp only [reduceCtorEq, Option.some.injEq, Nat.reduceEqDiff, if_false]
  simp

end VaxisModel.Lemmas.EmuBody
