/-
print() (widgets/term/term.go): the translated body equals the model function. The body is long, so
it is run in phases (`runE k` = from the (k+1)-th statement on), mirroring the phase functions
`printK0 / printK1 / printK2 / printWrite / printAdvance` of Lemmas/EmuSafe4.lean, last phase first.
-/
import VaxisModel.Lemmas.EmuBodyRow
import VaxisModel.Lemmas.EmuSafe4
namespace VaxisModel.Lemmas.EmuBody
open VaxisModel.Model.Emu VaxisModel.Model.EmuBody VaxisModel.Lemmas.Emu VaxisModel.Gen

/-- run print() from its (k+1)-th statement on -/
def runFrom (k : Nat) (s : Frame) : M (Frame × Sig) := evalS [] (dropSeq k TermBodies.stmt_print) s

theorem runFrom_succ (k : Nat) (a b : Stmt) (h : dropSeq k TermBodies.stmt_print = .seq a b) (s : Frame) :
    runFrom k s = (evalS [] a s >>= fun r => if r.2 = .norm then runFrom (k + 1) r.1 else .ok r) := by
  unfold runFrom
  rw [h, dropSeq_succ h]
  rfl

/-- print, statements 18–20: the cursor advance -/
theorem print_adv (s : Frame) (w : Nat) (h1 : s.vars 1 = w) :
    runFrom 17 s = .ok ({ s with e := printAdvance s.e w }, .norm) := by
  obtain ⟨e, vars, g⟩ := s
  simp only at h1
  simp only [runFrom, dropSeq, tailSeq, TermBodies.stmt_print, printAdvance]
  body_norm
  simp only [h1, Modes.get]
  -- `printAdvance` tests whole states where the body tests values: every combination of the three conditions
  repeat' (split <;> try simp_all)

theorem modCell_then (g : Grid) (r c : Int) (f f2 : ECell → ECell) :
    (modCell g r c f >>= fun g1 => modCell g1 r c f2) = modCell g r c (fun x => f2 (f x)) := by
  unfold modCell
  cases hg : getI g r with
  | error p => rfl
  | ok row =>
    simp only [ok_bind, Except.bind_bind]
    cases hx : getI row c with
    | error p => rfl
    | ok x =>
      simp only [ok_bind, setI_of hx, setI_of hg, getI_set hg, getI_set hx, setI_set hx, setI_set hg]

/-- print, statements 17–20: blank the trailing cells of a wide glyph, advance -/
theorem print_trail (s : Frame) (w : Nat) (h1 : s.vars 1 = w) :
    runFrom 16 s =
      (forUpBrk 1 ((w : Int) - 1) (fun i gr =>
          if s.vars 3 + i > s.e.right then .ok (gr, false)
          else do
            let gr' ← modCell gr (s.vars 4) (s.vars 3 + i) (fun c => { c with g := [32], st := s.e.cur.st })
            .ok (gr', true)) s.e.active >>= fun g2 =>
        .ok ({ s with e := printAdvance (s.e.setActive g2) w }, .norm)) := by
  obtain ⟨e, vars, g⟩ := s
  simp only at h1
  rw [runFrom_succ 16 _ _ rfl]
  body_norm
  simp only [h1]
  have hb : (fun i g =>
        if e.right < vars 3 + i then (Except.ok (g, false) : M (Grid × Bool))
        else do
          let a ← modCell g (vars 4) (vars 3 + i) fun x => { g := [32], w := x.w, st := x.st, wrapped := x.wrapped }
          let a ← modCell a (vars 4) (vars 3 + i) fun x => { g := x.g, w := x.w, st := e.cur.st, wrapped := x.wrapped }
          Except.ok (a, true)) =
      (fun i gr =>
        if e.right < vars 3 + i then Except.ok (gr, false)
        else do
          let gr' ← modCell gr (vars 4) (vars 3 + i) fun c => { g := [32], w := c.w, st := e.cur.st, wrapped := c.wrapped }
          Except.ok (gr', true)) := by
    funext i g
    split
    · rfl
    · rw [← Except.bind_bind, modCell_then]
  rw [hb]
  congr 1
  funext a
  rw [print_adv _ w (by simpa using h1)]

/-- print, statements 16–20: write the glyph, blank the trailing cells, advance -/
theorem print_write (s : Frame) (w : Nat) (h0 : s.vars 0 = w) (h1 : s.vars 1 = w) (hw : w ≠ 0) :
    runFrom 15 s =
      (printWrite s.e s.g w (s.vars 3) (s.vars 4) >>= fun e' => .ok ({ s with e := e' }, .norm)) := by
  obtain ⟨e, vars, g⟩ := s
  simp only at h0 h1
  rw [runFrom_succ 15 _ _ rfl]
  simp only [printWrite, hw, if_false]
  body_norm
  simp only [h0, Int.toNat_natCast]
  congr 1; funext a; congr 1; funext a; congr 1; funext a
  rw [print_trail _ w (by simpa using h1)]
  simp only [active_def, gridActive_setActive, setActive_altActive, setActive_right, setActive_cur, setActive_setActive]

/-- the emulator print() leaves behind when run from its (k+1)-th statement on -/
def runE (k : Nat) (s : Frame) : M Emu := runFrom k s >>= fun r => .ok r.1.e

theorem runE_succ (k : Nat) (a b : Stmt) (h : dropSeq k TermBodies.stmt_print = .seq a b) (s : Frame) :
    runE k s = (evalS [] a s >>= fun r => if r.2 = .norm then runE (k + 1) r.1 else .ok r.1.e) := by
  unfold runE
  rw [runFrom_succ k a b h, Except.bind_bind]
  congr 1
  funext r
  split <;> rfl

theorem print_write' (s : Frame) (w : Nat) (h0 : s.vars 0 = w) (h1 : s.vars 1 = w) (hw : w ≠ 0) :
    runE 15 s = printWrite s.e s.g w (s.vars 3) (s.vars 4) := by
  unfold runE
  rw [print_write s w h0 h1 hw, Except.bind_bind]
  simp only [ok_bind, Except.bind_ok]

theorem print_k2c (s : Frame) (w : Nat) (h0 : s.vars 0 = w) (h1 : s.vars 1 = w) :
    runE 13 s = printWrite s.e s.g w (s.vars 3) (s.vars 4) := by
  obtain ⟨e, vars, g⟩ := s
  simp only at h0 h1
  rw [runE_succ 13 _ _ rfl]
  body_norm
  simp only [h1]
  by_cases hw : w = 0
  · subst hw
    simp [printWrite]
  · have hw' : ¬ ((w : Int) = 0) := by omega
    simp only [hw', if_false]
    rw [runE_succ 14 _ _ rfl]
    body_norm
    exact print_write' _ w h0 h1 hw

theorem print_k2b (s : Frame) (w : Nat) (h0 : s.vars 0 = w) (h1 : s.vars 1 = w) :
    runE 12 s = printWrite s.e s.g w (s.vars 3) (if s.vars 4 > s.e.height - 1 then s.e.height - 1 else s.vars 4) := by
  obtain ⟨e, vars, g⟩ := s
  simp only at h0 h1
  rw [runE_succ 12 _ _ rfl]
  body_norm
  rw [print_k2c _ w (by simpa using h0) (by simpa using h1)]
  simp

/-- print, statements 12–20: clamp the position, nothing for a zero-width glyph, else write -/
theorem print_k2 (s : Frame) (w : Nat) (h0 : s.vars 0 = w) (h1 : s.vars 1 = w) :
    runE 11 s = printK2 (s.vars 3) (s.vars 4) s.g w s.e := by
  obtain ⟨e, vars, g⟩ := s
  simp only at h0 h1
  rw [runE_succ 11 _ _ rfl]
  body_norm
  unfold printK2
  rw [print_k2b _ w (by simpa using h0) (by simpa using h1)]
  simp [width_def, height_def]

/-- print, statements 11–20: the insert-mode shift, then the write phase -/
theorem print_k1b (s : Frame) (w : Nat) (h0 : s.vars 0 = w) (h1 : s.vars 1 = w)
    (h3 : s.vars 3 = s.e.cur.col) (h4 : s.vars 4 = s.e.cur.row) :
    runE 10 s = printK1 s.g w s.e := by
  obtain ⟨e, vars, g⟩ := s
  simp only at h0 h1 h3 h4
  rw [runE_succ 10 _ _ rfl]
  body_norm
  unfold printK1
  simp only [h1, h3, h4, Modes.get]
  split
  · rw [active_def]
    cases hrow : getI (gridActive e.primary e.alt e.altActive) e.cur.row with
    | error p => rfl
    | ok line =>
      simp only [ok_bind]
      rw [forDown_row _ (fun i line => do let x ← getI line (i - (w : Int)); setI line i x) e.cur.row
        (by intro i g row hg; simp only [cellCopy_same_row, rowB, Except.bind_bind]) e.right (e.cur.col + (w : Int)) _ line hrow]
      simp only [Except.bind_bind]
      congr 1; funext line'
      congr 1; funext g'
      rw [print_k2 _ w (by simpa using h0) (by simpa using h1)]
      simp only [h3, h4]
  · rw [print_k2 _ w (by simpa using h0) (by simpa using h1)]
    simp only [h3, h4]

theorem print_k1 (s : Frame) (w : Nat) (h0 : s.vars 0 = w) (h1 : s.vars 1 = w) :
    runE 8 s = printK1 s.g w s.e := by
  obtain ⟨e, vars, g⟩ := s
  simp only at h0 h1
  rw [runE_succ 8 _ _ rfl]
  body_norm
  rw [runE_succ 9 _ _ rfl]
  body_norm
  rw [print_k1b _ w (by simpa using h0) (by simpa using h1) (by simp) (by simp)]

/-- the autowrap phase with the decision given -/
def printWrapIf (c : Bool) (g : G) (w : Nat) (e : Emu) : M Emu :=
  if c then do
    let e' := { e with lastCol := false }
    let g' ← modCell e'.active e'.cur.row (e'.width - 1) (fun c => { c with wrapped := true })
    let e1 ← nel (e'.setActive g')
    printK1 g w e1
  else printK1 g w e

/-- print, statement 8 on: the wrap action, then the rest -/
theorem print_k0b (s : Frame) (w : Nat) (h0 : s.vars 0 = w) (h1 : s.vars 1 = w) :
    runE 7 s = printWrapIf (decide (s.vars 2 ≠ 0)) s.g w s.e := by
  obtain ⟨e, vars, g⟩ := s
  simp only at h0 h1
  rw [runE_succ 7 _ _ rfl]
  body_norm
  cases hc : decide (vars 2 ≠ 0)
  · have h : vars 2 = 0 := by simpa using hc
    rw [if_pos h, print_k1 _ w (by simpa using h0) (by simpa using h1)]
    simp [printWrapIf, h]
  · have h : ¬ vars 2 = 0 := by simpa using hc
    rw [if_neg h]
    simp only [printWrapIf, h, width_def, active_def]
    congr 1; funext a; congr 1; funext a
    rw [print_k1 _ w (by simpa using h0) (by simpa using h1)]

theorem print_k0c (s : Frame) (w : Nat) (h0 : s.vars 0 = w) (h1 : s.vars 1 = w) :
    runE 6 s = printWrapIf (decide (s.vars 2 ≠ 0) && s.e.mode.decawm) s.g w s.e := by
  obtain ⟨e, vars, g⟩ := s
  simp only at h0 h1
  rw [runE_succ 6 _ _ rfl]
  body_norm
  by_cases hd : e.mode.get .decawm = false
  · rw [if_pos hd, print_k0b _ w (by simpa using h0) (by simpa using h1)]
    have hd' : e.mode.decawm = false := hd
    simp [hd']
  · rw [if_neg hd, print_k0b _ w (by simpa using h0) (by simpa using h1)]
    have hd' : e.mode.decawm = true := by
      have : e.mode.get .decawm = e.mode.decawm := rfl
      rw [this] at hd
      simpa using hd
    simp [hd']

theorem print_k0d (s : Frame) (w : Nat) (h0 : s.vars 0 = w) (h1 : s.vars 1 = w) :
    runE 5 s = printWrapIf ((decide (s.vars 2 ≠ 0) || decide (s.e.cur.col + (w : Int) - 1 > s.e.right)) && s.e.mode.decawm) s.g w s.e := by
  obtain ⟨e, vars, g⟩ := s
  simp only at h0 h1
  rw [runE_succ 5 _ _ rfl]
  body_norm
  simp only [h1]
  by_cases h : e.right < e.cur.col + (w : Int) - 1
  · rw [if_pos h, print_k0c _ w (by simpa using h0) (by simpa using h1)]
    simp [h]
  · rw [if_neg h, print_k0c _ w (by simpa using h0) (by simpa using h1)]
    simp [h]

/-- print, statements 3–20: from `w := seq.Width` on -/
theorem print_k0 (s : Frame) (w : Nat) (h0 : s.vars 0 = w) :
    runE 2 s = printK0 s.g w s.e := by
  obtain ⟨e, vars, g⟩ := s
  simp only at h0
  rw [runE_succ 2 _ _ rfl]; body_norm
  rw [runE_succ 3 _ _ rfl]; body_norm
  rw [runE_succ 4 _ _ rfl]; body_norm
  unfold printK0
  cases hl : e.lastCol
  · simp only [Bool.false_eq_true, if_false]
    rw [print_k0d _ w (by simpa using h0) (by simpa using h0)]
    simp [printWrapIf]
  · simp only [if_true]
    rw [print_k0d _ w (by simpa using h0) (by simpa using h0)]
    simp [printWrapIf]

theorem print_body_eq (e : Emu) (g : G) (w : Nat) :
    evalPrint TermBodies.body_print g (w : Int) e = print Fixes.current e g w := by
  rw [print_eq]
  have h : evalPrint TermBodies.body_print g (w : Int) e = runE 0 { e := e, vars := fun k => [(w : Int)].getD k 0, g := g } := rfl
  rw [h, runE_succ 0 _ _ rfl]
  body_norm
  rw [runE_succ 1 _ _ rfl]
  body_norm
  unfold printPre printGlyph
  split
  · rw [print_k0 _ w (by simp)]
    rcases g with _ | ⟨b, _ | ⟨c, r⟩⟩ <;> simp [*]
  · rw [print_k0 _ w (by simp)]
    rcases g with _ | ⟨b, _ | ⟨c, r⟩⟩ <;> simp [*]
end VaxisModel.Lemmas.EmuBody
