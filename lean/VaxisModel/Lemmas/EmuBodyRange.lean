/-
Helpers for Props/C05Overflow.lean: `range_norm` / `range_fin` evaluate `rangeBody` on a concrete translated body and discharge
the resulting interval goals (used where Lemmas/EmuBodyMag.lean does not apply: a call in one branch and arithmetic in another);
the walk over the tab stops of cht() / cbt().
-/
import VaxisModel.Model.EmuBodyRange
import VaxisModel.Lemmas.EmuBody
import VaxisModel.Lemmas.EmuSafe1
import VaxisModel.Lemmas.EmuBodyMag

namespace VaxisModel.Lemmas.EmuBody
open VaxisModel.Model.Emu VaxisModel.Model.EmuBody VaxisModel.Lemmas.Emu VaxisModel.Gen

macro "range_norm" : tactic => `(tactic|
  (simp only [emu_eval, rangeBody, rangeS, rangeG, andThen_norm, andThen_ret, andThen_brk, andThen_cont, andThen_err, andThen_ite,
    andThen_bind, andThenM_ok, andThenM_err, andThenM_ite, andThenM_bind, exR, condR, bndR, reduceIte, reduceCtorEq, Nat.reduceEqDiff,
    Int.reduceAdd, Int.reduceEq]
   all_goals try simp only [evalCmp, inR, lim, Fixes.current, decide_eq_true_eq, Bool.and_eq_true, Bool.or_eq_true, Bool.not_eq_true',
     Bool.true_and, Bool.false_and, decide_eq_false_iff_not, Bool.not_eq_eq_eq_not, Bool.not_true, List.all_eq_true, List.mem_range]))

macro "range_fin" : tactic => `(tactic|
  all_goals ((repeat' (first
      | split
      | intro _
      | (apply andThenM_all; intro _)
      | (simp only [Bool.and_eq_true, Bool.and_true, Bool.true_and, decide_eq_true_eq, and_true, true_and, and_self, List.all_eq_true, List.mem_range])
      | apply And.intro
      | apply decide_eq_true)) <;> (try trivial) <;> (try omega)))

/-!
`rangeS` follows `forTabs` / `forTabsDown` (`rangeTabLoop`: the body is checked at every tab stop actually visited). The only
arithmetic in both loops is the counter `n + 1`; the loop leaves at `n == ps`, so `0 ≤ n ≤ ps ≤ 65535` is an invariant of the
walk (`CntInv`) whatever the tab stops are — no bound on their number or their values is needed. -/

/-- the body of cht()'s loop over the tab stops, as the translator emits it -/
def chtLoopBody : Stmt :=
 (.seq (.ite (.cmp .eq (.loc (.var 1)) (.loc (.var 0)))
 .brk
 .skip)
 (.seq (.ite (.cmp .gt (.loc .curCol) .tab)
 .cont
 .skip)
 (.seq (.assign .curCol .tab)
 (.assign (.var 1) (.add (.loc (.var 1)) (.lit 1))))))

def CntInv (s : Frame) : Prop := 0 ≤ s.vars 1 ∧ s.vars 1 ≤ s.vars 0 ∧ s.vars 0 ≤ 65535

theorem tabLoop_range (chk : Frame → Bool) (run : Frame → M (Frame × Sig)) (hchk : ∀ s, CntInv s → chk s = true)
    (hrun : ∀ s s2 sg, CntInv s → run s = .ok (s2, sg) → CntInv s2) :
    ∀ (tabs : List Int) (s : Frame), CntInv s → rangeTabLoop chk run tabs s = true
  | [], _, _ => rfl
  | t :: rest, s, hi => by
    have hi' : CntInv { s with tab := t } := hi
    simp only [rangeTabLoop, hchk _ hi', Bool.true_and]
    cases hr : run { s with tab := t } with
    | error p => rfl
    | ok r =>
      obtain ⟨s2, sg⟩ := r
      simp only
      split
      · rfl
      · exact tabLoop_range chk run hchk hrun rest _ (hrun _ s2 sg hi' hr)

def chtNext (s : Frame) : Frame := (s.set .curCol s.tab).set (.var 1) (s.vars 1 + 1)

theorem cntLoop_range (pm : List Param) (body : Stmt) (c : Frame → Prop) [DecidablePred c] (sg : Sig)
    (hchk : ∀ s, 0 ≤ s.vars 1 → s.vars 1 ≤ 65535 → rangeS pm body s = true)
    (heval : ∀ s, evalS pm body s = .ok (if s.vars 1 = s.vars 0 then (s, Sig.brk) else if c s then (s, sg) else (chtNext s, Sig.norm)))
    (tabs : List Int) (s : Frame) (hi : CntInv s) :
    rangeTabLoop (fun s => rangeS pm body s) (fun s => evalS pm body s) tabs s = true := by
  refine tabLoop_range _ _ (fun s h => hchk s h.1 (by have := h.2.1; have := h.2.2; omega)) ?_ tabs s hi
  intro s s2 sg' ⟨h0, h1, h2⟩ hr
  rw [heval] at hr
  have hr := Except.ok.inj hr
  split at hr
  · cases hr; exact ⟨h0, h1, h2⟩
  · split at hr
    · cases hr; exact ⟨h0, h1, h2⟩
    · cases hr
      refine ⟨?_, ?_, ?_⟩ <;> simp [chtNext, Frame.set] <;> omega

theorem chtLoopBody_eval (pm : List Param) (s : Frame) : evalS pm chtLoopBody s =
    .ok (if s.vars 1 = s.vars 0 then (s, Sig.brk) else if s.e.cur.col > s.tab then (s, Sig.cont) else (chtNext s, Sig.norm)) := by
  simp only [chtLoopBody, evalS, evalCond, evalEx, exOk, Frame.get, ok_bind, Bool.and_true, if_true]
  simp only [evalCmp]
  by_cases hc : s.vars 1 = s.vars 0
  · simp [hc, ok_bind]
  · by_cases hg : s.e.cur.col > s.tab
    · simp [hc, hg, ok_bind]
    · simp [hc, hg, ok_bind, chtNext, Frame.set]

theorem chtLoopBody_chk (pm : List Param) (s : Frame) (h0 : 0 ≤ s.vars 1) (h1 : s.vars 1 ≤ 65535) :
    rangeS pm chtLoopBody s = true := by
  simp only [chtLoopBody]
  range_norm
  (try range_norm)
  (try range_norm)
  range_fin

theorem chtLoop_range (pm : List Param) (tabs : List Int) (s : Frame) (hi : CntInv s) :
    rangeTabLoop (fun s => rangeS pm chtLoopBody s) (fun s => evalS pm chtLoopBody s) tabs s = true :=
  cntLoop_range pm chtLoopBody (fun s => s.e.cur.col > s.tab) .cont (chtLoopBody_chk pm) (chtLoopBody_eval pm) tabs s hi

theorem rangeS_seq (pm : List Param) (a b : Stmt) (s : Frame) :
    rangeS pm (.seq a b) s = (rangeS pm a s && andThen (evalS pm a s) (fun s1 => rangeS pm b s1)) := by
  simp only [rangeS]

/-- the statement after the loop of cht(): `if vt.cursor.col > vt.margin.right { vt.cursor.col = vt.margin.right }` — no arithmetic -/
def chtTail : Stmt := (.ite (.cmp .gt (.loc .curCol) (.loc .right)) (.assign .curCol (.loc .right)) .skip)

theorem chtTail_range (pm : List Param) (s : Frame) : rangeS pm chtTail s = true := by
  simp only [chtTail, rangeS, condR, exR, Bool.and_true, Bool.true_and]
  split <;> rfl

theorem cht_shape : TermBodies.stmt_cht =
    .seq (.setLastCol false) (.seq (.ite (.cmp .eq (.loc (.var 0)) (.lit 0)) (.assign (.var 0) (.lit 1)) .skip)
      (.seq (.assign (.var 1) (.lit 0)) (.seq (.forTabs chtLoopBody) chtTail))) := rfl

/-- the body of cbt()'s loop over the tab stops (from the last one down), as the translator emits it -/
def cbtLoopBody : Stmt :=
 (.seq (.ite (.cmp .eq (.loc (.var 1)) (.loc (.var 0)))
 .brk
 .skip)
 (.seq (.ite (.cmp .lt (.loc .curCol) .tab)
 .brk
 .skip)
 (.seq (.assign .curCol .tab)
 (.assign (.var 1) (.add (.loc (.var 1)) (.lit 1))))))

theorem cbtLoopBody_eval (pm : List Param) (s : Frame) : evalS pm cbtLoopBody s =
    .ok (if s.vars 1 = s.vars 0 then (s, Sig.brk) else if s.e.cur.col < s.tab then (s, Sig.brk) else (chtNext s, Sig.norm)) := by
  simp only [cbtLoopBody, evalS, evalCond, evalEx, exOk, Frame.get, ok_bind, Bool.and_true, if_true]
  simp only [evalCmp]
  by_cases hc : s.vars 1 = s.vars 0
  · simp [hc, ok_bind]
  · by_cases hg : s.e.cur.col < s.tab
    · simp [hc, hg, ok_bind]
    · simp [hc, hg, ok_bind, chtNext, Frame.set]

theorem cbtLoopBody_chk (pm : List Param) (s : Frame) (h0 : 0 ≤ s.vars 1) (h1 : s.vars 1 ≤ 65535) :
    rangeS pm cbtLoopBody s = true := by
  simp only [cbtLoopBody]
  range_norm
  (try range_norm)
  (try range_norm)
  range_fin

theorem cbtLoop_range (pm : List Param) (tabs : List Int) (s : Frame) (hi : CntInv s) :
    rangeTabLoop (fun s => rangeS pm cbtLoopBody s) (fun s => evalS pm cbtLoopBody s) tabs s = true :=
  cntLoop_range pm cbtLoopBody (fun s => s.e.cur.col < s.tab) .brk (cbtLoopBody_chk pm) (cbtLoopBody_eval pm) tabs s hi

theorem cbt_shape : TermBodies.stmt_cbt =
    .seq (.setLastCol false) (.seq (.ite (.cmp .eq (.loc (.var 0)) (.lit 0)) (.assign (.var 0) (.lit 1)) .skip)
      (.seq (.assign (.var 1) (.lit 0)) (.forTabsDown cbtLoopBody))) := rfl

/-- cht() and cbt() begin alike — `vt.lastCol = false; if ps == 0 { ps = 1 }; n := 0` — and no arithmetic happens there; what follows
    starts under the counter invariant `CntInv` (the counter at 0, `ps ≤ 65535`) -/
theorem tab_prologue (pm : List Param) (rest : Stmt) (e : Emu) {n : Int} (hn : POk n)
    (hrest : ∀ s, CntInv s → rangeS pm rest s = true) :
    rangeS pm (.seq (.setLastCol false) (.seq (.ite (.cmp .eq (.loc (.var 0)) (.lit 0)) (.assign (.var 0) (.lit 1)) .skip)
      (.seq (.assign (.var 1) (.lit 0)) rest))) (initFrame e [n]) = true := by
  unfold POk at hn
  simp only [rangeS, condR, exR, evalS, evalCond, evalCmp, evalEx, exOk, Frame.get, Bool.and_true, Bool.true_and, if_true,
    andThen_norm]
  by_cases h0 : n = 0
  · simp only [initFrame, List.getD_cons_zero, h0, decide_true, if_true, andThen_norm]
    exact hrest _ ⟨by simp [Frame.set], by simp [Frame.set], by simp [Frame.set]⟩
  · simp only [initFrame, List.getD_cons_zero, h0, decide_false, Bool.false_eq_true, if_false, andThen_norm]
    exact hrest _ ⟨by simp [Frame.set], by simp [Frame.set]; omega, by simp [Frame.set]; omega⟩

end VaxisModel.Lemmas.EmuBody
