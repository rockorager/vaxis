/-
Go `int` versus ℤ for print(): the range check of the translated body, in the phases of the body-equivalence proof
(Lemmas/EmuBodyPrint.lean). The statements in front of the wrap only assign to locals; the wrap calls `vt.nel()`, after which
the invariant holds again by `nel_safe`; everything after the wrap (the insert-mode shift, the store, the trailing cells, the
cursor advance) is within the fragment of Lemmas/EmuBodyMag.lean, so its check follows from the magnitude bound.
-/
import VaxisModel.Lemmas.EmuBodyRange
import VaxisModel.Lemmas.EmuBodyPrint
import VaxisModel.Lemmas.EmuResize

namespace VaxisModel.Lemmas.EmuBody
open VaxisModel.Model.Emu VaxisModel.Model.EmuBody VaxisModel.Lemmas.Emu VaxisModel.Gen

/-- check print() from its (k+1)-th statement on -/
def rangeFrom (k : Nat) (s : Frame) : Bool := rangeS [] (dropSeq k TermBodies.stmt_print) s

theorem rangeFrom_succ (k : Nat) (a b : Stmt) (h : dropSeq k TermBodies.stmt_print = .seq a b) (s : Frame) :
    rangeFrom k s = (rangeS [] a s && andThen (evalS [] a s) (fun s1 => rangeFrom (k + 1) s1)) := by
  unfold rangeFrom
  rw [h, dropSeq_succ h]
  simp only [rangeS]

/-- the invariant carried through the statements of print() in front of the store -/
structure PG (rows cols w : Nat) (s : Frame) : Prop where
  inv : EmuInv s.e rows cols
  v0 : s.vars 0 = w

/-- what the range check carries through print(): a good state and 16-bit locals -/
structure PV (rows cols : Nat) (s : Frame) : Prop where
  inv : EmuInv s.e rows cols
  vars : ∀ k, Within 65535 (s.vars k)

theorem PV.bd {rows cols : Nat} {s : Frame} (h : PV rows cols s) (d : Dim rows cols) : Bd [] 65535 s :=
  bd_of_inv h.inv d (fun _ hp => nomatch hp) (by simp) h.vars

theorem PV.setVar {rows cols : Nat} {s : Frame} (h : PV rows cols s) (k : Nat) {v : Int} (hv : Within 65535 v) :
    PV rows cols (s.set (.var k) v) :=
  ⟨h.inv, fun j => by simp only [Frame.set]; split <;> first | exact hv | exact h.vars j⟩

theorem PV.guarded {rows cols : Nat} {s s' : Frame} (h : PV rows cols s) (c : Cond) (k : Nat) {n : Int} (hn : Within 65535 n)
    (hs : evalS [] (.ite c (.assign (.var k) (.lit n)) .skip) s = .ok (s', .norm)) : PV rows cols s' := by
  simp only [evalS, evalEx, exOk, if_true] at hs
  split at hs <;> cases hs
  · exact h.setVar k hn
  · exact h

theorem range_step (k : Nat) (a b : Stmt) (hd : dropSeq k TermBodies.stmt_print = .seq a b) (s : Frame)
    (hr : rangeS [] a s = true)
    (hnext : ∀ s', evalS [] a s = .ok (s', .norm) → rangeFrom (k + 1) s' = true) : rangeFrom k s = true := by
  rw [rangeFrom_succ k a b hd, hr, Bool.true_and]
  unfold andThen
  split
  · rename_i s1 heq; exact hnext s1 heq
  · rfl

/-- print(), statements 9–20: everything after the wrap -/
theorem range_post {rows cols : Nat} (d : Dim rows cols) (s : Frame) (h : PV rows cols s) : rangeFrom 8 s = true :=
  (stMag_sound _ 65535 s (h.bd d) (by decide +kernel)).1

/-- statement 8, the wrap: `if wrap { vt.lastCol = false; …[width-1].wrapped = true; vt.nel() }` — afterwards the invariant holds again -/
theorem range_wrap {rows cols : Nat} (d : Dim rows cols) (s : Frame) (h : PV rows cols s) : rangeFrom 7 s = true := by
  have hb := good_bounds h.inv d
  obtain ⟨⟩ := good_bounds h.inv d
  apply range_step 7 _ _ rfl
  · -- the check of the wrap statement itself: `vt.width() - 1`
    simp only [rangeS, rangeG, condR, exR, evalEx, evalS, width_def, hb.width, inR, lim, Bool.true_and, Bool.and_true, andThen_norm]
    split
    · rw [Bool.and_eq_true]
      exact ⟨decide_eq_true (by omega), andThen_all _ _ (fun _ => rfl)⟩
    · rfl
  · intro s' hs'
    simp only [evalS, evalCond, evalEx, Frame.get] at hs'
    simp only [evalCmp] at hs'
    by_cases hc : s.vars 2 = 0
    · simp [hc] at hs'
      obtain ⟨rfl⟩ := hs'
      exact range_post d s h
    · simp [hc] at hs'
      have h' := inv_lastCol h.inv false
      have hwd := width_eq h' d.r1
      have := d.c1
      obtain ⟨g', hg', hok'⟩ := modCell_ok (active_ok h') s.e.cur.row ({ s.e with lastCol := false }.width - 1)
        (fun c => { c with wrapped := true }) h.inv.rowLo h.inv.rowHi (by rw [hwd]; omega) (by rw [hwd]; omega)
      obtain ⟨e1, he1, hi1⟩ := nel_safe (setActive_inv h' hok') d
      simp only [ok_bind, evalG, evalEx, Frame.get, callFn, if_true] at hs'
      rw [hg'] at hs'
      simp only [ok_bind] at hs'
      rw [he1] at hs'
      simp only [ok_bind] at hs'
      have hs3 : s' = { s with e := e1 } := (Prod.mk.inj (Except.ok.inj hs')).1.symm
      subst hs3
      exact range_post d _ ⟨hi1, h.vars⟩

/-- statements 5–7 only assign 0 or 1 to the local `wrap` -/
theorem range_from4 {rows cols : Nat} (d : Dim rows cols) (s : Frame) (h : PV rows cols s) : rangeFrom 4 s = true := by
  refine range_step 4 _ _ rfl s (stMag_sound _ 65535 s (h.bd d) (by decide)).1 fun s5 hs5 => ?_
  have h5 : PV rows cols s5 := h.guarded _ 2 (n := 1) (by omega) hs5
  refine range_step 5 _ _ rfl s5 (stMag_sound _ 65535 s5 (h5.bd d) (by decide)).1 fun s6 hs6 => ?_
  have h6 : PV rows cols s6 := h5.guarded _ 2 (n := 1) (by omega) hs6
  refine range_step 6 _ _ rfl s6 (stMag_sound _ 65535 s6 (h6.bd d) (by decide)).1 fun s7 hs7 => ?_
  exact range_wrap d s7 (h6.guarded _ 2 (n := 0) (by omega) hs7)

/-- statements 1–4: the character-set translation leaves the numbers alone; `w := seq.Width`, `wrap := false` -/
theorem range_from0 {rows cols : Nat} (d : Dim rows cols) (s : Frame) (h : PV rows cols s) : rangeFrom 0 s = true := by
  refine range_step 0 _ _ rfl _ rfl fun s1 hs1 => ?_
  have h1 : PV rows cols s1 := by cases hs1; exact ⟨h.inv, h.vars⟩
  refine range_step 1 _ _ rfl _ rfl fun s2 hs2 => ?_
  have h2 : PV rows cols s2 := by cases hs2; split <;> first | exact h1 | exact ⟨{ h1.inv with }, h1.vars⟩
  refine range_step 2 _ _ rfl _ rfl fun s3 hs3 => ?_
  have h3 : PV rows cols s3 := by cases hs3; exact h2.setVar 1 (h2.vars 0)
  refine range_step 3 _ _ rfl _ rfl fun s4 hs4 => ?_
  cases hs4
  exact range_from4 d _ (h3.setVar 2 (v := 0) ⟨by omega, by omega⟩)

theorem range_print_body {e : Emu} {rows cols : Nat} (h : EmuInv e rows cols) (d : Dim rows cols) (w : Nat)
    (hw : (w : Int) ≤ 65535) : rangeBody TermBodies.body_print [] [(w : Int)] e = true :=
  range_from0 d (initFrame e [(w : Int)]) ⟨h, fun k => by
    simp only [initFrame, List.getD_eq_getElem?_getD]
    cases k with
    | zero => exact ⟨by simp, by simpa using hw⟩
    | succ k => exact ⟨by simp, by simp⟩⟩

end VaxisModel.Lemmas.EmuBody
