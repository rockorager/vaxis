/-
Go `int` versus ℤ for resize() (Props/C05Overflow.lean `range_resize`): the range check `rangeR`
(Model/EmuBodyRangeR.lean) of the translated body, following the reflow loop nest iteration by iteration with the emulator
invariant at the NEW size (each `vt.print` call is checked by `range_print_body` in the state it is made in — the invariant
there from `print_safe` / `nel_safe` — and the loop counters against the size of the old screen).
-/
import VaxisModel.Model.EmuBodyRangeR
import VaxisModel.Lemmas.EmuBodyRange2
import VaxisModel.Lemmas.EmuBodyReflow

namespace VaxisModel.Lemmas.EmuBody
open VaxisModel.Model.Emu VaxisModel.Model.EmuBody VaxisModel.Lemmas.Emu VaxisModel.Gen

theorem inR_small {v : Int} (h : -65536 ≤ v ∧ v ≤ 65536) : inR v = true := by
  unfold inR lim; exact decide_eq_true (by omega)

theorem rangeForS_inv (I : Nat → Frame → Prop) (N : Nat) (chk : Frame → Bool) (run : Frame → M (Frame × Sig)) (v : Nat)
    (hstep : ∀ (j : Nat) (s : Frame), j < N → I j s → inR ((j : Int) + 1) = true ∧ chk (s.set (.var v) j) = true ∧
      ∀ s2 sg, run (s.set (.var v) j) = .ok (s2, sg) → sg = .brk ∨ sg = .ret ∨ I (j + 1) s2) :
    ∀ (n j : Nat) (s : Frame), j + n ≤ N → I j s → rangeForS chk run v n j s = true
  | 0, _, _, _, _ => rfl
  | n + 1, j, s, hn, hi => by
    obtain ⟨h1, h2, h3⟩ := hstep j s (by omega) hi
    simp only [rangeForS, h1, h2, Bool.true_and]
    cases hr : run (s.set (.var v) j) with
    | error p => rfl
    | ok q =>
      obtain ⟨s2, sg⟩ := q
      rcases h3 s2 sg hr with hb | hb | hi2
      · simp only [hb, true_or, if_true]
      · simp only [hb, or_true, if_true]
      · simp only
        split
        · rfl
        · have := rangeForS_inv I N chk run v hstep n (j + 1) s2 (by omega) hi2
          rw [Int.natCast_add, Int.natCast_one] at this
          exact this

theorem innerBody_chk {R C : Nat} (d : Dim R C) (old : Grid) (last : Int) (pen : EStyle) (i : Int) (r : Row) (hr : getI old i = .ok r)
    (s : Frame) (c : Nat) (cell : ECell) (hcell : getI r (c : Int) = .ok cell) (hi : Inv old last pen s) (h3 : s.vars 3 = i)
    (hinv : EmuInv s.e R C) (hw : (cell.w : Int) ≤ 65535) :
    rangeR [] innerBody (s.set (.var 5) c) = true := by
  have hp : rangeBody TermBodies.body_print [] [(cell.w : Int)] { s.e with cur := { s.e.cur with st := cell.st } } = true :=
    range_print_body (inv_pen hinv cell.st) d cell.w hw
  simp only [innerBody, rangeR, rangeS, exR, evalS, evalEx, Frame.get, Frame.set, hi.old, h3, hr, hcell, ok_bind, andThen_norm,
    Bool.true_and, Nat.reduceEqDiff, if_false, if_true]
  rw [hp, Bool.true_and]
  exact andThen_all _ _ (fun _ => rfl)

theorem inner_range {R C : Nat} (d : Dim R C) (old : Grid) (last : Int) (pen : EStyle) (i : Int) (r : Row) (hr : getI old i = .ok r)
    (hwid : ∀ c ∈ r, (c.w : Int) ≤ 65535) (hlen : (r.length : Int) ≤ 65535) (s : Frame) (hi : Inv old last pen s) (h3 : s.vars 3 = i)
    (hinv : EmuInv s.e R C) :
    rangeForS (fun s => rangeR [] innerBody s) (fun s => evalS [] innerBody s) 5 r.length (0 : Nat) s = true := by
  refine rangeForS_inv (fun _ s => Inv old last pen s ∧ s.vars 3 = i ∧ EmuInv s.e R C) r.length _ _ 5 ?_ r.length 0 s (by omega)
    ⟨hi, h3, hinv⟩
  intro c s hc ⟨hi, h3, hinv⟩
  have hcell : getI r (c : Int) = .ok r[c] := getI_eq_ok.mpr ⟨Int.natCast_nonneg c, by simp [hc]⟩
  refine ⟨?_, innerBody_chk d old last pen i r hr s c _ hcell hi h3 hinv (hwid _ (List.getElem_mem hc)), ?_⟩
  · exact inR_small (by omega)
  · intro s2 sg hrun
    rw [innerBody_eval [] old last pen i r hr s c _ hcell hi h3] at hrun
    obtain ⟨e1, he1, hi1⟩ := print_safe (inv_pen hinv r[c].st) d r[c].g r[c].w
    rw [he1] at hrun
    cases hrun
    exact .inr (.inr ⟨⟨hi.old, by simp only [Frame.set, Nat.reduceEqDiff, if_false]; exact hi.last, hi.pen⟩,
      by simp only [Frame.set, Nat.reduceEqDiff, if_false]; exact h3, by simpa [Frame.set] using hi1⟩)

theorem outer_range {R C : Nat} (d : Dim R C) (old : Grid) (last : Int) (pen : EStyle) (hrect : Rect old)
    (hwid : ∀ r ∈ old, ∀ c ∈ r, (c.w : Int) ≤ 65535) (hlen : (old.length : Int) ≤ 65535) (hw0 : (width0 old : Int) ≤ 65535)
    (s : Frame) (hi : Inv old last pen s) (hinv : EmuInv s.e R C) :
    rangeForS (fun s => rangeR [] outerBody s) (fun s => evalS [] outerBody s) 3 old.length (0 : Nat) s = true := by
  refine rangeForS_inv (fun _ s => Inv old last pen s ∧ EmuInv s.e R C) old.length _ _ 3 ?_ old.length 0 s (by omega) ⟨hi, hinv⟩
  intro k s hk ⟨hi, hinv⟩
  have hd : old.drop k = old[k] :: old.drop (k + 1) := List.drop_eq_getElem_cons hk
  generalize old[k] = r at hd
  have hrow : getI old (k : Int) = .ok r := getI_drop hd
  have hw : r.length = width0 old := width0_of_drop hd hrect
  have hmem : r ∈ old := List.mem_of_mem_drop (hd ▸ List.mem_cons_self)
  have hi1 : Inv old last pen ((s.set (.var 3) k).set (.var 4) 0) :=
    ⟨hi.old, by simp only [Frame.set, Nat.reduceEqDiff, if_false]; exact hi.last, hi.pen⟩
  refine ⟨?_, ?_, ?_⟩
  · exact inR_small (by omega)
  · -- the check of the body of the row loop
    by_cases hkl : (k : Int) = last
    · simp only [outerBody, rangeR, rangeS, condR, exR, evalS, evalCond, evalEx, evalCmp, Frame.get, Frame.set, hi.last, hkl, if_true,
        Nat.reduceEqDiff, if_false, decide_true, Bool.true_and, Bool.and_true, andThen_brk]
    · have hinner := inner_range d old last pen (k : Int) r hrow (hwid r hmem) (by rw [hw]; exact hw0) _ hi1
        (by simp only [Frame.set, Nat.reduceEqDiff, if_false, if_true]) hinv
      have hlenW : oldWidth s.old = (r.length : Int) := by rw [hi.old, hw]; cases old <;> rfl
      have htrip : ((r.length : Int) - 1 + 1 - 0).toNat = r.length := by omega
      simp only [Int.natCast_zero] at hinner
      simp only [outerBody, rangeR, rangeS, condR, exR, bndR, evalS, evalCond, evalEx, evalCmp, evalBnd, exOk, Frame.get, Frame.set,
        hi.last, hkl, if_true, Nat.reduceEqDiff, if_false, decide_false, Bool.true_and, Bool.and_true,
        andThen_norm, Bool.false_eq_true, hlenW, htrip]
      rw [Bool.and_eq_true, Bool.and_eq_true, Bool.and_eq_true]
      refine ⟨⟨⟨?_, ?_⟩, hinner⟩, andThen_all _ _ (fun s1 => by simp)⟩
      · exact inR_small (by omega)
      · exact inR_small (by omega)
  · -- the frame the next iteration starts from
    intro s2 sg hrun
    by_cases hkl : (k : Int) = last
    · rw [outerBody_brk [] hi hkl] at hrun
      cases hrun
      exact .inl rfl
    · rw [outerBody_eval [] hrect hi hd hkl] at hrun
      have hin := inner_loop [] old last pen (k : Int) r hrow r 0 _ false (by simp) hi1
        (by simp only [Frame.set, Nat.reduceEqDiff, if_false, if_true]) (by simp only [Frame.set, if_true]; simp)
      obtain ⟨res, hres, hresInv⟩ := reflowFold_safe d r (((s.set (.var 3) k).set (.var 4) 0).e, false) hinv
      rw [show List.foldlM cellStep _ r = .ok res from hres] at hin
      obtain ⟨s3, hs3, he3, hi3, _, _⟩ := hin
      simp only [Int.natCast_zero] at hs3 hrun
      rw [hs3] at hrun
      simp only [ok_bind, if_true] at hrun
      have hinv3 : EmuInv s3.e R C := by rw [he3]; exact hresInv
      split at hrun
      · obtain ⟨e4, he4, hi4⟩ := nel_safe hinv3 d
        rw [he4] at hrun
        cases hrun
        exact .inr (.inr ⟨⟨hi3.old, hi3.last, hi3.pen⟩, hi4⟩)
      · cases hrun
        exact .inr (.inr ⟨hi3, hinv3⟩)

theorem nest_range {R C : Nat} (d : Dim R C) (s : Frame) (hrect : Rect s.old)
    (hwid : ∀ r ∈ s.old, ∀ c ∈ r, (c.w : Int) ≤ 65535) (hlen : (s.old.length : Int) ≤ 65535) (hw0 : (width0 s.old : Int) ≤ 65535)
    (hinv : EmuInv s.e R C) : rangeR [] nest s = true := by
  have htrip : ((s.old.length : Int) - 1 + 1 - 0).toNat = s.old.length := by omega
  have ho := outer_range d s.old (s.vars 2) s.pen hrect hwid hlen hw0 s ⟨rfl, rfl, rfl⟩ hinv
  simp only [Int.natCast_zero] at ho
  simp only [nest, rangeR, exR, bndR, evalEx, evalBnd, Bool.true_and, htrip]
  rw [Bool.and_eq_true, Bool.and_eq_true]
  refine ⟨⟨?_, ?_⟩, ho⟩
  · exact inR_small (by omega)
  · exact inR_small (by omega)

end VaxisModel.Lemmas.EmuBody
