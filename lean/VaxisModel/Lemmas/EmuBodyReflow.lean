/-
resize(): the reflow loop nest, interpreted. `extract/cmd/C05/bodies.go` translates the nest statement by
statement (two function-level loops `Stmt.forS` over the local snapshot `primary`, `cell := primary[row][col]`,
`vt.cursor.Style = cell.Style`, `vt.print(…)`, `wrapped = cell.wrapped`, `if !wrapped { vt.nel() }`);
here its evaluation is proved equal to the model's `reflow` for every old screen whose rows all have the width
of the first row (what `len(primary[0])` as the bound of the inner loop presupposes; `Rect`).
-/
import VaxisModel.Lemmas.EmuBody

namespace VaxisModel.Lemmas.EmuBody
open VaxisModel.Model.Emu VaxisModel.Model.EmuBody VaxisModel.Lemmas.Emu VaxisModel.Gen

/-- `len(primary[0])` -/
def width0 (g : Grid) : Nat :=
  match g with
  | [] => 0
  | r :: _ => r.length

/-- every row of the old screen has the width of the first one -/
def Rect (g : Grid) : Prop := ∀ r ∈ g, r.length = width0 g

def innerBody : Stmt :=
  (.seq (.loadOldCell (.loc (.var 3)) (.loc (.var 5)))
  (.seq .penFromCell
  (.seq .printCell
  (.assignCellWrapped 4))))

def outerBody : Stmt :=
  (.seq (.ite (.cmp .eq (.loc (.var 3)) (.loc (.var 2))) .brk .skip)
  (.seq (.assign (.var 4) (.lit 0))
  (.seq (.forS 5 (.lit 0) (.lt .lenOld0) innerBody)
  (.ite (.not (.cmp .ne (.loc (.var 4)) (.lit 0))) (.call .nel none) .skip))))

def nest : Stmt := .forS 3 (.lit 0) (.lt .lenOld) outerBody

/-- the per-cell step of `reflowRow` -/
def cellStep (acc : Emu × Bool) (cell : ECell) : M (Emu × Bool) := do
  let e := { acc.1 with cur := { acc.1.cur with st := cell.st } }
  let e ← print Fixes.current e cell.g cell.w
  .ok (e, cell.wrapped)

theorem reflowRow_fold (e : Emu) (cells : Row) : reflowRow Fixes.current e cells = cells.foldlM cellStep (e, false) := rfl

structure Inv (old : Grid) (last : Int) (pen : EStyle) (s : Frame) : Prop where
  old : s.old = old
  last : s.vars 2 = last
  pen : s.pen = pen

theorem getI_drop {α : Type} {l : List α} {c : Nat} {x : α} {rest : List α} (h : l.drop c = x :: rest) :
    getI l (c : Int) = .ok x := by
  refine getI_eq_ok.mpr ⟨Int.natCast_nonneg c, ?_⟩
  have := congrArg List.head? h
  simpa [List.head?_drop] using this

theorem drop_succ_of_drop {α : Type} {l : List α} {c : Nat} {x : α} {rest : List α} (h : l.drop c = x :: rest) :
    l.drop (c + 1) = rest := by
  have h1 : l.drop (c + 1) = (l.drop c).drop 1 := by rw [List.drop_drop]
  rw [h1, h]
  rfl

theorem innerBody_eval (pm : List Param) (old : Grid) (last : Int) (pen : EStyle) (i : Int) (r : Row) (hr : getI old i = .ok r)
    (s : Frame) (c : Nat) (cell : ECell) (hcell : getI r (c : Int) = .ok cell) (hi : Inv old last pen s) (h3 : s.vars 3 = i) :
    evalS pm innerBody (s.set (.var 5) c) =
      (print Fixes.current { s.e with cur := { s.e.cur with st := cell.st } } cell.g cell.w >>= fun e1 =>
        .ok (({ (s.set (.var 5) c) with cell := cell, e := e1 } : Frame).set (.var 4) (if cell.wrapped then 1 else 0), .norm)) := by
  simp only [innerBody, evalS, evalEx, Frame.get, Frame.set, hi.old, h3, hr, hcell, ok_bind, Except.bind_bind, Nat.reduceEqDiff,
    if_false, if_true]

theorem inner_loop (pm : List Param) (old : Grid) (last : Int) (pen : EStyle) (i : Int) (r : Row)
    (hr : getI old i = .ok r) :
    ∀ (cells : Row) (c : Nat) (s : Frame) (wr : Bool), r.drop c = cells → Inv old last pen s → s.vars 3 = i →
      (s.vars 4 ≠ 0 ↔ wr = true) →
      match cells.foldlM cellStep (s.e, wr) with
      | .error p => forSGo (fun j s => evalS pm innerBody (s.set (.var 5) j)) cells.length c s = .error p
      | .ok (e', wr') => ∃ s', forSGo (fun j s => evalS pm innerBody (s.set (.var 5) j)) cells.length c s = .ok (s', .norm) ∧
          s'.e = e' ∧ Inv old last pen s' ∧ s'.vars 3 = i ∧ (s'.vars 4 ≠ 0 ↔ wr' = true) := by
  intro cells
  induction cells with
  | nil =>
    intro c s wr _ hi h3 h4
    exact ⟨s, rfl, rfl, hi, h3, h4⟩
  | cons cell rest ih =>
    intro c s wr hd hi h3 h4
    have hcell : getI r (c : Int) = .ok cell := getI_drop hd
    have hrest : r.drop (c + 1) = rest := drop_succ_of_drop hd
    simp only [List.foldlM_cons, List.length_cons, forSGo]
    rw [innerBody_eval pm old last pen i r hr s c cell hcell hi h3]
    rw [show cellStep (s.e, wr) cell =
      (print Fixes.current { s.e with cur := { s.e.cur with st := cell.st } } cell.g cell.w >>= fun e1 =>
        .ok (e1, cell.wrapped)) from rfl]
    simp only [Except.bind_bind, ok_bind]
    cases hp : print Fixes.current { s.e with cur := { s.e.cur with st := cell.st } } cell.g cell.w with
    | error p => rfl
    | ok e1 =>
      simp only [ok_bind, reduceCtorEq, if_false]
      have := ih (c + 1) (({ (s.set (.var 5) c) with cell := cell, e := e1 } : Frame).set (.var 4) (if cell.wrapped then 1 else 0))
        cell.wrapped hrest
        ⟨hi.old, by simp only [Frame.set, Nat.reduceEqDiff, if_false]; exact hi.last, hi.pen⟩
        (by simp only [Frame.set, Nat.reduceEqDiff, if_false]; exact h3)
        (by simp only [Frame.set, if_true]; cases cell.wrapped <;> simp)
      rw [Int.natCast_add, Int.natCast_one] at this
      exact this

theorem width0_of_drop {old : Grid} {k : Nat} {r : Row} {rest : List Row} (h : old.drop k = r :: rest) (hrect : Rect old) :
    r.length = width0 old := by
  apply hrect
  have : r ∈ old.drop k := by rw [h]; exact List.mem_cons_self
  exact List.mem_of_mem_drop this

theorem outerBody_brk (pm : List Param) {old : Grid} {last : Int} {pen : EStyle} {s : Frame} (hi : Inv old last pen s) {k : Nat}
    (hk : (k : Int) = last) : evalS pm outerBody (s.set (.var 3) k) = .ok (s.set (.var 3) k, .brk) := by
  simp only [outerBody, evalS, evalCond, evalEx, evalCmp, Frame.get, Frame.set, hi.last, hk, if_true, Nat.reduceEqDiff, if_false,
    decide_true, ok_bind, reduceCtorEq]

theorem outerBody_eval (pm : List Param) {old : Grid} {last : Int} {pen : EStyle} (hrect : Rect old) {s : Frame}
    (hi : Inv old last pen s) {k : Nat} {r : Row} {rest : List Row} (hd : old.drop k = r :: rest) (hk : ¬ (k : Int) = last) :
    evalS pm outerBody (s.set (.var 3) k) =
      (forSGo (fun j s => evalS pm innerBody (s.set (.var 5) j)) r.length (0 : Nat) ((s.set (.var 3) k).set (.var 4) 0) >>= fun q =>
        if q.2 = .norm then
          (if (!decide (q.1.vars 4 ≠ 0)) = true then (nel q.1.e >>= fun e2 => .ok ({ q.1 with e := e2 }, .norm)) else .ok (q.1, .norm))
        else .ok q) := by
  have hne : old.isEmpty = false := by
    cases old with
    | nil => simp at hd
    | cons a b => rfl
  have hlen : oldWidth old = (r.length : Int) := by
    rw [width0_of_drop hd hrect]; cases old <;> rfl
  have : ((r.length : Int) - 1 + 1 - 0).toNat = r.length := by omega
  simp only [outerBody, evalS, evalCond, evalEx, evalCmp, evalBnd, Frame.get, Frame.set, hi.last, hk, exOk, bndReadsOld0, exReadsOld0,
    hi.old, hne, Nat.reduceEqDiff, if_false, if_true, decide_false, ok_bind, Bool.false_eq_true, Bool.true_and, Bool.not_true, callFn]
  simp only [hlen, this, Int.natCast_zero]
  rfl

theorem outer_loop (pm : List Param) (old : Grid) (last : Int) (pen : EStyle) (hrect : Rect old) :
    ∀ (rows : List Row) (k : Nat) (s : Frame), old.drop k = rows → Inv old last pen s →
      match reflow Fixes.current last rows k s.e with
      | .error p => forSGo (fun i s => evalS pm outerBody (s.set (.var 3) i)) rows.length k s = .error p
      | .ok e' => ∃ s', forSGo (fun i s => evalS pm outerBody (s.set (.var 3) i)) rows.length k s = .ok (s', .norm) ∧
          s'.e = e' ∧ Inv old last pen s' := by
  intro rows
  induction rows with
  | nil =>
    intro k s _ hi
    exact ⟨s, rfl, rfl, hi⟩
  | cons r rest ih =>
    intro k s hd hi
    have hrow : getI old (k : Int) = .ok r := getI_drop hd
    have hrest : old.drop (k + 1) = rest := drop_succ_of_drop hd
    unfold reflow
    simp only [List.length_cons, forSGo]
    by_cases hk : (k : Int) = last
    · -- `break`
      simp only [if_pos hk]
      refine ⟨s.set (.var 3) k, ?_, rfl, ⟨hi.old, by simp only [Frame.set, Nat.reduceEqDiff, if_false]; exact hi.last, hi.pen⟩⟩
      rw [outerBody_brk pm hi hk]
      simp only [ok_bind, reduceCtorEq, if_false, if_true]
    · simp only [hk, if_false]
      let s1 : Frame := (s.set (.var 3) k).set (.var 4) 0
      have hi1 : Inv old last pen s1 := ⟨hi.old, by simp only [s1, Frame.set, Nat.reduceEqDiff, if_false]; exact hi.last, hi.pen⟩
      have hin := inner_loop pm old last pen (k : Int) r hrow r 0 s1 false (by simp) hi1
        (by simp only [s1, Frame.set, Nat.reduceEqDiff, if_false, if_true])
        (by simp only [s1, Frame.set, if_true]; simp)
      have hs1e : s1.e = s.e := rfl
      rw [hs1e] at hin
      rw [outerBody_eval pm hrect hi hd hk, reflowRow_fold]
      simp only [s1, Int.natCast_zero] at hin ⊢
      cases hf : List.foldlM cellStep (s.e, false) r with
      | error p =>
        rw [hf] at hin
        simp only [hin, err_bind]
      | ok res =>
        obtain ⟨e1, wr1⟩ := res
        rw [hf] at hin
        obtain ⟨s2, hs2, he2, hi2, _, hw2⟩ := hin
        simp only [hs2, ok_bind, if_true]
        cases wr1 with
        | false =>
          have hz : s2.vars 4 = 0 := Decidable.not_not.mp fun h0 => by simpa using hw2.mp h0
          simp only [hz, ne_eq, not_true_eq_false, decide_false, Bool.not_false, if_true, he2, Bool.not_false]
          cases hn : nel e1 with
          | error p => simp only [err_bind]
          | ok e2 =>
            simp only [ok_bind, reduceCtorEq, if_false]
            have := ih (k + 1) { s2 with e := e2 } hrest ⟨hi2.old, hi2.last, hi2.pen⟩
            rw [Int.natCast_add, Int.natCast_one] at this
            exact this
        | true =>
          have hz : s2.vars 4 ≠ 0 := hw2.mpr rfl
          simp only [ne_eq, hz, not_false_eq_true, decide_true, Bool.not_true, Bool.false_eq_true, if_false, ok_bind, reduceCtorEq]
          have := ih (k + 1) s2 hrest hi2
          rw [Int.natCast_add, Int.natCast_one, he2] at this
          exact this

theorem nest_eq (pm : List Param) (s : Frame) (hrect : Rect s.old) :
    match reflow Fixes.current (s.vars 2) s.old 0 s.e with
    | .error p => evalS pm nest s = .error p
    | .ok e' => ∃ s', evalS pm nest s = .ok (s', .norm) ∧ s'.e = e' ∧ s'.pen = s.pen := by
  have h := outer_loop pm s.old (s.vars 2) s.pen hrect s.old 0 s rfl ⟨rfl, rfl, rfl⟩
  have htrip : ((s.old.length : Int) - 1 + 1 - 0).toNat = s.old.length := by omega
  have hev : evalS pm nest s = forSGo (fun i s => evalS pm outerBody (s.set (.var 3) i)) s.old.length ((0 : Nat) : Int) s := by
    simp only [nest, evalS, evalBnd, evalEx, exOk, bndReadsOld0, exReadsOld0, Bool.false_and, Bool.false_eq_true, if_false,
      Bool.not_true, htrip, Int.natCast_zero]
  rw [hev]
  cases hq : reflow Fixes.current (s.vars 2) s.old 0 s.e with
  | error p => rw [hq] at h; exact h
  | ok e' =>
    rw [hq] at h
    obtain ⟨s', h1, h2, h3⟩ := h
    exact ⟨s', h1, h2, h3.pen⟩

/-- the form in which `body_resize` (Props/C05Bodies) meets the nest: whatever follows reads only the state and the saved pen -/
theorem nest_close (s : Frame) (last : Int) (e0 : Emu) (old : Grid) (hrect : Rect old) (ho : s.old = old) (hl : s.vars 2 = last) (he : s.e = e0)
    (k : Frame → Emu) (k' : Emu → Emu)
    (hk : ∀ s' : Frame, s'.pen = s.pen → k s' = k' s'.e) :
    (evalS [] nest s >>= fun a => if a.2 = .norm then (Except.ok (k a.1) : M Emu) else .ok a.1.e) =
      (reflow Fixes.current last old 0 e0 >>= fun e1 => .ok (k' e1)) := by
  subst ho hl he
  have h := nest_eq [] s hrect
  cases hq : reflow Fixes.current (s.vars 2) s.old 0 s.e with
  | error p => rw [hq] at h; rw [h]; rfl
  | ok e' =>
    rw [hq] at h
    obtain ⟨s', h1, h2, h3⟩ := h
    rw [h1]
    simp only [ok_bind, if_true, hk s' h3, h2]

/-- resize() around the nest -/
def resizeWith (n : Stmt) : Stmt :=
 (.seq (.prim .snapshotPrimary)
 (.seq (.allocAlt (.loc (.var 1)))
 (.seq (.allocPrimary (.loc (.var 1)))
 (.seq (.fillRows (.loc (.var 0)))
 (.seq (.assign (.var 2) (.loc .curRow))
 (.seq (.assign .top (.lit 0))
 (.seq (.clampSaved (.loc (.var 1)) (.loc (.var 0)))
 (.seq (.assign .bottom (.sub (.loc (.var 1)) (.lit 1)))
 (.seq (.assign .right (.sub (.loc (.var 0)) (.lit 1)))
 (.seq (.assign .curRow (.lit 0))
 (.seq (.assign .curCol (.lit 0))
 (.seq (.setLastCol false)
 (.seq (.prim .activePrimary)
 (.seq (.prim .savePen)
 (.seq n
 (.seq (.prim .restorePen)
 (.prim .activeBySmcup)))))))))))))))))

/-- the generated body of resize() is exactly this shape (an edit of the nest or of the frame breaks `rfl`) -/
theorem stmt_resize_shape : TermBodies.stmt_resize = resizeWith nest := rfl

end VaxisModel.Lemmas.EmuBody
