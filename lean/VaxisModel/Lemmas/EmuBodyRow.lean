/-
Row-lifting lemmas for Props/C05Bodies.lean: a loop that updates cells of ONE row of the grid
(`line := vt.activeScreen[row]; for … { line[i] = … }`, which the translated body expresses as
cell statements on `vt.activeScreen[row][i]`) is the same loop over that row (the shape `ich` and
`print` use in Model/Emu.lean), once the row exists.
-/
import VaxisModel.Lemmas.EmuBody

namespace VaxisModel.Lemmas.EmuBody
open VaxisModel.Model.Emu VaxisModel.Model.EmuBody VaxisModel.Lemmas.Emu

theorem getI_inv {α : Type} {l : List α} {i : Int} {x : α} (h : getI l i = .ok x) :
    0 ≤ i ∧ ∃ hi : i.toNat < l.length, l[i.toNat] = x :=
  ⟨(getI_eq_ok.mp h).1, List.getElem?_eq_some_iff.mp (getI_eq_ok.mp h).2⟩

theorem setI_of {α : Type} {l : List α} {i : Int} {x : α} (h : getI l i = .ok x) (y : α) :
    setI l i y = .ok (l.set i.toNat y) :=
  setI_eq_ok.mpr ⟨⟨(getI_inv h).1, (getI_inv h).2.1⟩, rfl⟩

theorem setI_self {α : Type} {l : List α} {i : Int} {x : α} (h : getI l i = .ok x) : setI l i x = .ok l := by
  obtain ⟨_, h1, h2⟩ := getI_inv h
  rw [setI_of h, ← h2, List.set_getElem_self]

theorem getI_set {α : Type} {l : List α} {i : Int} {x : α} (h : getI l i = .ok x) (y : α) :
    getI (l.set i.toNat y) i = .ok y :=
  getI_eq_ok.mpr ⟨(getI_inv h).1, by simp [(getI_inv h).2.1]⟩

theorem setI_set {α : Type} {l : List α} {i : Int} {x : α} (h : getI l i = .ok x) (y z : α) :
    setI (l.set i.toNat y) i z = setI l i z := by
  rw [setI_of (getI_set h y), setI_of h, List.set_set]

theorem setI_err_of_getI_err {α : Type} {l : List α} {i : Int} {p : Panic} (h : getI l i = .error p) (y : α) :
    setI l i y = .error .oob := by
  cases hs : setI l i y with
  | error q => unfold setI at hs; split at hs <;> cases hs; rfl
  | ok l' =>
    obtain ⟨⟨h0, h1⟩, _⟩ := setI_eq_ok.mp hs
    rw [getI_of_lt h0 h1] at h
    cases h

theorem getI_err_oob {α : Type} {l : List α} {i : Int} {p : Panic} (h : getI l i = .error p) : p = .oob := by
  unfold getI at h
  split at h
  · split at h
    · cases h
    · cases h; rfl
  · cases h; rfl

theorem modCell_const_then (g : Grid) (r c : Int) (row : Row) (hg : getI g r = .ok row) (a : ECell) (f : ECell → ECell) :
    (modCell g r c (fun _ => a) >>= fun g1 => modCell g1 r c f) =
      (setI row c (f a) >>= fun l => setI g r l) := by
  unfold modCell
  simp only [hg, ok_bind, Except.bind_bind]
  cases hx : getI row c with
  | error p =>
    have := getI_err_oob hx
    subst this
    simp [err_bind, setI_err_of_getI_err hx]
  | ok x =>
    simp only [ok_bind, setI_of hx, setI_of hg, getI_set hg, getI_set hx, setI_set hx, setI_set hg]

/-- a row-level loop body lifted to the grid -/
def rowB (b : Int → Row → M Row) (r : Int) : Int → Grid → M Grid :=
  fun i g => do
    let row ← getI g r
    let row' ← b i row
    setI g r row'

def rowBB (b : Int → Row → M (Row × Bool)) (r : Int) : Int → Grid → M (Grid × Bool) :=
  fun i g => do
    let row ← getI g r
    let p ← b i row
    let g' ← setI g r p.1
    .ok (g', p.2)

theorem rowB_step (b : Int → Row → M Row) (r i : Int) (g : Grid) (row : Row) (h : getI g r = .ok row) :
    rowB b r i g = (b i row >>= fun row' => setI g r row') := by
  simp only [rowB, h, ok_bind]

theorem rowBB_step (b : Int → Row → M (Row × Bool)) (r i : Int) (g : Grid) (row : Row) (h : getI g r = .ok row) :
    rowBB b r i g = (b i row >>= fun p => (setI g r p.1 >>= fun g' => .ok (g', p.2))) := by
  simp only [rowBB, h, ok_bind]

theorem forDownGo_row (B : Int → Grid → M Grid) (b : Int → Row → M Row) (r : Int)
    (hB : ∀ i g row, getI g r = .ok row → B i g = rowB b r i g) :
    ∀ (n : Nat) (i : Int) (g : Grid) (row : Row), getI g r = .ok row →
      forDownGo B n i g = (forDownGo b n i row >>= fun row' => setI g r row') := by
  intro n
  induction n with
  | zero => intro i g row h; simp [forDownGo, ok_bind, setI_self h]
  | succ n ih =>
    intro i g row h
    simp only [forDownGo, hB i g row h, rowB_step b r i g row h, Except.bind_bind]
    cases hb : b i row with
    | error p => simp [err_bind]
    | ok row1 =>
      simp only [ok_bind, setI_of h]
      rw [ih (i - 1) (g.set r.toNat row1) row1 (getI_set h row1)]
      congr 1
      funext row'
      rw [setI_set h row1 row', setI_of h]

theorem forDown_row (B : Int → Grid → M Grid) (b : Int → Row → M Row) (r : Int)
    (hB : ∀ i g row, getI g r = .ok row → B i g = rowB b r i g) (hi lo : Int) (g : Grid) (row : Row)
    (h : getI g r = .ok row) :
    forDown hi lo B g = (forDown hi lo b row >>= fun row' => setI g r row') := by
  unfold forDown
  simp only
  split
  · exact forDownGo_row B b r hB _ hi g row h
  · rw [forDownGo_row B b r hB _ hi g row h]
    simp only [Except.bind_bind]
    cases forDownGo b hangLimit hi row with
    | error p => rfl
    | ok row' => simp [ok_bind, err_bind, setI_of h]

theorem forUpBrkGo_row (B : Int → Grid → M (Grid × Bool)) (b : Int → Row → M (Row × Bool)) (r : Int)
    (hB : ∀ i g row, getI g r = .ok row → B i g = rowBB b r i g) :
    ∀ (n : Nat) (i : Int) (g : Grid) (row : Row), getI g r = .ok row →
      forUpBrkGo B n i g =
        (forUpBrkGo b n i row >>= fun p => (setI g r p.1 >>= fun g' => .ok (g', p.2))) := by
  intro n
  induction n with
  | zero => intro i g row h; simp [forUpBrkGo, ok_bind, setI_self h]
  | succ n ih =>
    intro i g row h
    simp only [forUpBrkGo, hB i g row h, rowBB_step b r i g row h, Except.bind_bind]
    cases hb : b i row with
    | error p => simp [err_bind]
    | ok p =>
      obtain ⟨row1, go⟩ := p
      simp only [ok_bind, setI_of h]
      cases go with
      | false => simp [ok_bind]
      | true =>
        simp only [if_true]
        rw [ih (i + 1) (g.set r.toNat row1) row1 (getI_set h row1)]
        congr 1
        funext p
        rw [setI_set h row1 p.1, setI_of h]
        rfl

theorem forUpBrk_row (B : Int → Grid → M (Grid × Bool)) (b : Int → Row → M (Row × Bool)) (r : Int)
    (hB : ∀ i g row, getI g r = .ok row → B i g = rowBB b r i g) (lo hi : Int) (g : Grid) (row : Row)
    (h : getI g r = .ok row) :
    forUpBrk lo hi B g = (forUpBrk lo hi b row >>= fun row' => setI g r row') := by
  unfold forUpBrk
  simp only
  split
  · rw [forUpBrkGo_row B b r hB _ lo g row h]
    simp only [Except.bind_bind]
    cases forUpBrkGo b _ lo row with
    | error p => rfl
    | ok p => simp [ok_bind, setI_of h]
  · rw [forUpBrkGo_row B b r hB _ lo g row h]
    simp only [Except.bind_bind]
    cases forUpBrkGo b hangLimit lo row with
    | error p => rfl
    | ok p =>
      simp only [ok_bind, setI_of h]
      cases p.2 <;> simp [ok_bind, err_bind]

theorem ich_core (e : Emu) (n : Int) (G : Grid) :
    (do
      let _ ← getI G e.cur.row
      let a ← forDown e.right (e.cur.col + n) (fun i g => cellCopy g e.cur.row i e.cur.row (i - n)) G
      let a ← forUpBrk 0 (n - 1)
          (fun i g =>
            if e.right < e.cur.col + i then Except.ok (g, false)
            else do
              let a ← modCell g e.cur.row (e.cur.col + i) fun _ => ({} : ECell)
              let a ← modCell a e.cur.row (e.cur.col + i) fun x => x.erase e.cur.st.bg
              Except.ok (a, true))
          a
      Except.ok (e.setActive a)) =
    (do
      let line ← getI G e.cur.row
      let line1 ← forDown e.right (e.cur.col + n)
          (fun i line => do
            let x ← getI line (i - n)
            setI line i x)
          line
      let line2 ← forUpBrk 0 (n - 1)
          (fun i line =>
            if e.right < e.cur.col + i then Except.ok (line, false)
            else do
              let l ← setI line (e.cur.col + i) (({} : ECell).erase e.cur.st.bg)
              Except.ok (l, true))
          line1
      let g ← setI G e.cur.row line2
      Except.ok (e.setActive g)) := by
  cases hrow : getI G e.cur.row with
  | error p => rfl
  | ok line =>
    simp only [ok_bind]
    rw [forDown_row _ (fun i line => do let x ← getI line (i - n); setI line i x) e.cur.row
      (by intro i g row hg; simp only [cellCopy_same_row, rowB, Except.bind_bind]) e.right (e.cur.col + n) G line hrow]
    simp only [Except.bind_bind]
    cases hl1 : forDown e.right (e.cur.col + n) (fun i line => do let x ← getI line (i - n); setI line i x) line with
    | error p => rfl
    | ok line1 =>
      simp only [ok_bind, setI_of hrow]
      rw [forUpBrk_row _ (fun i line =>
            if e.right < e.cur.col + i then Except.ok (line, false)
            else do
              let l ← setI line (e.cur.col + i) (({} : ECell).erase e.cur.st.bg)
              Except.ok (l, true)) e.cur.row ?_ 0 (n - 1) _ line1 (getI_set hrow line1)]
      · simp only [Except.bind_bind]
        cases forUpBrk 0 (n - 1) _ line1 with
        | error p => rfl
        | ok line2 => simp only [ok_bind, setI_set hrow, setI_of hrow]
      · intro i g row hg
        simp only [rowBB, hg, ok_bind]
        split
        · simp [ok_bind, setI_self hg]
        · have := modCell_const_then g e.cur.row (e.cur.col + i) row hg ({} : ECell) (fun x => x.erase e.cur.st.bg)
          simp only [Except.bind_bind] at this ⊢
          rw [← Except.bind_bind, this]
          simp only [Except.bind_bind, ok_bind]

end VaxisModel.Lemmas.EmuBody
