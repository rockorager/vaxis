/-
For `body_sgr` (Props/C05Bodies.lean): the translated body of sgr() (sgr.go) is the model's `sgr` for every pen and every parameter list
(any length, any sub-parameters, malformed forms included). The loop `for i := 0; i < len(params); i += 1` is
`Stmt.forSgr` (`sgrWalk`: the body sees `params[i]`, `params[i+1:]` and may advance `i`), one iteration is the
model's `sgrOne` (`sgr_iter`), the extended-colour arms 38 / 48 / 58 are the model's `sgrExt` (`ext_eval`).
-/
import VaxisModel.Lemmas.EmuBody

namespace VaxisModel.Lemmas.EmuBody
open VaxisModel.Model.Emu VaxisModel.Model.EmuBody VaxisModel.Lemmas.Emu VaxisModel.Gen VaxisModel.Gen.TermModes

def loopBodyOf : Stmt → Stmt
  | .seq _ (.forSgr b) => b
  | _ => .skip

def sgrBody : Stmt := loopBodyOf TermBodies.stmt_sgr

theorem stmt_sgr_shape : TermBodies.stmt_sgr = .seq .pmDefault0 (.forSgr sgrBody) := rfl

def toCS : Slot → ColSlot
  | .fg => .fg
  | .bg => .bg
  | .ul => .ul

theorem setPenCol_eq (st : EStyle) (slot : Slot) (c : Nat) : setPenCol st slot c = setCol st (toCS slot) c := by
  cases slot <;> rfl

/-- the arm of `case 38 / 48 / 58` (the three copies in the source differ only in the colour they set); reducible, so that
    `ext_eval` is indexed by the arm itself and meets its three copies in the generated term -/
@[reducible] def extStmt (slot : Slot) : Stmt :=
 (.ite (.cmp .eq .lenCur (.lit 1))
 (.seq (.ite (.cmp .lt .lenFrom (.lit 3))
 (.seq .logErr
 .ret)
 .skip)
 (.iteP (.cmp .eq (.nxt 1 0) (.lit 2))
 (.seq (.ite (.cmp .lt .lenFrom (.lit 5))
 (.seq .logErr
 .ret)
 .skip)
 (.seq (.setCol slot (.rgb (.nxt 2 0) (.nxt 3 0) (.nxt 4 0)))
 (.skipParams 4)))
 (.iteP (.cmp .eq (.nxt 1 0) (.lit 5))
 (.seq (.setCol slot (.index (.nxt 2 0)))
 (.skipParams 2))
 (.seq .logErr
 .ret))))
 (.ite (.cmp .eq .lenCur (.lit 3))
 (.seq (.iteP (.cmp .ne (.cur 1) (.lit 5))
 (.seq .logErr
 .ret)
 .skip)
 (.setCol slot (.index (.cur 2))))
 (.ite (.cmp .eq .lenCur (.lit 5))
 (.seq (.iteP (.cmp .ne (.cur 1) (.lit 2))
 (.seq .logErr
 .ret)
 .skip)
 (.setCol slot (.rgb (.cur 2) (.cur 3) (.cur 4))))
 (.ite (.cmp .eq .lenCur (.lit 6))
 (.seq (.iteP (.cmp .ne (.cur 1) (.lit 2))
 (.seq .logErr
 .ret)
 .skip)
 (.setCol slot (.rgb (.cur 3) (.cur 4) (.cur 5))))
 .skip))))

def iterResult (s : Frame) (p : Param) (rest : List Param) (r : M (Option (EStyle × Nat))) : M (Frame × Sig) :=
  match r with
  | .error x => .error x
  | .ok none => .ok ({ s with curP := p, restP := rest, skip := 0 }, .ret)
  | .ok (some (st', k)) =>
    .ok ({ s with curP := p, restP := rest, skip := k, e := { s.e with cur := { s.e.cur with st := st' } } }, .norm)

theorem iterResult_error (s : Frame) (p : Param) (rest : List Param) (x : Panic) :
    iterResult s p rest (.error x) = .error x := rfl
theorem iterResult_none (s : Frame) (p : Param) (rest : List Param) :
    iterResult s p rest (.ok none) = .ok ({ s with curP := p, restP := rest, skip := 0 }, .ret) := rfl
theorem iterResult_some (s : Frame) (p : Param) (rest : List Param) (st' : EStyle) (k : Nat) :
    iterResult s p rest (.ok (some (st', k))) =
      .ok ({ s with curP := p, restP := rest, skip := k, e := { s.e with cur := { s.e.cur with st := st' } } }, .norm) := rfl
theorem iterResult_ite (s : Frame) (p : Param) (rest : List Param) (c : Prop) [Decidable c] (a b : M (Option (EStyle × Nat))) :
    iterResult s p rest (if c then a else b) = if c then iterResult s p rest a else iterResult s p rest b := by
  split <;> rfl

theorem one_add_pos (n : Nat) : (0 < 1 + n) = True := eq_true (by omega)

theorem len5_not_lt3 (n : Nat) : ((n : Int) + 1 + 1 + 1 + 1 + 1 < 3) = False := eq_false (by omega)
theorem len5_not_lt5 (n : Nat) : ((n : Int) + 1 + 1 + 1 + 1 + 1 < 5) = False := eq_false (by omega)

theorem len7_ne1 (n : Nat) : (1 + ((n : Int) + 1 + 1 + 1 + 1 + 1 + 1) = 1) = False := eq_false (by omega)
theorem len7_ne3 (n : Nat) : (1 + ((n : Int) + 1 + 1 + 1 + 1 + 1 + 1) = 3) = False := eq_false (by omega)
theorem len7_ne5 (n : Nat) : (1 + ((n : Int) + 1 + 1 + 1 + 1 + 1 + 1) = 5) = False := eq_false (by omega)
theorem len7_ne6 (n : Nat) : (1 + ((n : Int) + 1 + 1 + 1 + 1 + 1 + 1) = 6) = False := eq_false (by omega)

theorem sgrExt_long (st : EStyle) (slot : ColSlot) (n a b c d e5 f : Int) (more : List Int) (rest : List Param) :
    sgrExt st slot (n, a :: b :: c :: d :: e5 :: f :: more) rest = .ok (some (st, 0)) := by
  have hl : Param.len (n, a :: b :: c :: d :: e5 :: f :: more) = more.length + 7 := by
    simp only [Param.len, List.length_cons]; omega
  unfold sgrExt
  rw [hl]
  split <;> first | omega | rfl

theorem nlen5_not_lt3 (n : Nat) : (n + 1 + 1 + 1 + 1 + 1 < 3) = False := eq_false (by omega)
theorem nlen5_not_lt5 (n : Nat) : (n + 1 + 1 + 1 + 1 + 1 < 5) = False := eq_false (by omega)

macro "sgr_simp" : tactic => `(tactic|
  simp [one_add_pos, len5_not_lt3, len5_not_lt5, nlen5_not_lt3, nlen5_not_lt5, extStmt, iterResult_ite, iterResult_some, iterResult_none,
    iterResult_error, evalS, evalCond, evalEx, evalCmp, condOkS, exOkS, sgrExt, Param.len, Param.get, setPenCol_eq, toCS,
    ok_bind, err_bind, Except.bind_bind, Except.ite_bind])

theorem ext_eval (pm : List Param) (slot : Slot) (s : Frame) (p : Param) (rest : List Param) :
    evalS pm (extStmt slot) { s with curP := p, restP := rest, skip := 0 } =
      iterResult s p rest (sgrExt s.e.cur.st (toCS slot) p rest) := by
  obtain ⟨n, subs⟩ := p
  rcases subs with _ | ⟨a, _ | ⟨b, _ | ⟨c, _ | ⟨d, _ | ⟨e5, _ | ⟨f, more⟩⟩⟩⟩⟩⟩
  case cons.cons.cons.cons.cons.cons =>
    rw [sgrExt_long]
    simp [len7_ne1, len7_ne3, len7_ne5, len7_ne6, iterResult_some, evalS, evalCond, evalEx, evalCmp, Param.len]
  · -- legacy form: the colour follows in the next parameters
    rcases rest with _ | ⟨k, _ | ⟨x, _ | ⟨y, _ | ⟨z, more⟩⟩⟩⟩ <;> sgr_simp
  all_goals sgr_simp

theorem len3_ne1 (n : Nat) : (1 + ((n : Int) + 1 + 1) = 1) = False := eq_false (by omega)
theorem len3_ne2 (n : Nat) : (1 + ((n : Int) + 1 + 1) = 2) = False := eq_false (by omega)

theorem sgrOne_4_long (st : EStyle) (k k2 : Int) (more : List Int) (rest : List Param) :
    sgrOne st (4, k :: k2 :: more) rest = .ok (some (st, 0)) := by
  have hl : Param.len (4, k :: k2 :: more) = more.length + 3 := by
    simp only [Param.len, List.length_cons]; omega
  simp only [sgrOne]
  rw [hl]
  simp

/-- the model tests the four runs of eight colour labels as ranges, the body label by label -/
theorem octet30 (n : Int) : (n = 30 ∨ n = 31 ∨ n = 32 ∨ n = 33 ∨ n = 34 ∨ n = 35 ∨ n = 36 ∨ n = 37) = (30 ≤ n ∧ n ≤ 37) :=
  propext (by omega)
theorem octet40 (n : Int) : (n = 40 ∨ n = 41 ∨ n = 42 ∨ n = 43 ∨ n = 44 ∨ n = 45 ∨ n = 46 ∨ n = 47) = (40 ≤ n ∧ n ≤ 47) :=
  propext (by omega)
theorem octet90 (n : Int) : (n = 90 ∨ n = 91 ∨ n = 92 ∨ n = 93 ∨ n = 94 ∨ n = 95 ∨ n = 96 ∨ n = 97) = (90 ≤ n ∧ n ≤ 97) :=
  propext (by omega)
theorem octet100 (n : Int) :
    (n = 100 ∨ n = 101 ∨ n = 102 ∨ n = 103 ∨ n = 104 ∨ n = 105 ∨ n = 106 ∨ n = 107) = (100 ≤ n ∧ n ≤ 107) :=
  propext (by omega)

/-- Every case label but 4 and 21, and the `default` arm: the loop body, run once on an unknown label, IS the chain of tests
    of `sgrOne` (same labels, same order). -/
theorem sgr_iter_chain (pm : List Param) (s : Frame) (n : Int) (subs : List Int) (rest : List Param) (h4 : ¬ n = 4)
    (h21 : ¬ n = 21) :
    evalS pm sgrBody { s with curP := (n, subs), restP := rest, skip := 0 } =
      iterResult s (n, subs) rest (sgrOne s.e.cur.st (n, subs) rest) := by
  simp only [sgrBody, loopBodyOf, TermBodies.stmt_sgr, evalS, evalCond, evalEx, sgrOne, ↓ext_eval, exOkS, Param.len, one_add_pos, decide_true, Bool.and_true,
    ok_bind, if_true]
  simp only [evalCmp, h4, h21, decide_false, Bool.false_eq_true, if_false, decide_eq_true_eq, Bool.or_eq_true, octet30, octet40,
    octet90, octet100, iterResult_ite, iterResult_some, setPenCol, toCS, underlineOff]

-- what evaluating the arm of one label of the loop body and of `sgrOne` unfolds
attribute [local simp] sgrBody loopBodyOf TermBodies.stmt_sgr iterResult evalS evalCond evalEx evalCmp sgrOne setPenCol underlineOff underlineSingle underlineDouble underlineCurly underlineDotted underlineDashed toCS Param.len Param.get condOkS exOkS one_add_pos ok_bind

/-- One iteration of the loop of sgr() is the model's `sgrOne`. Label 4 (the underline styles: the model matches on the number
    of sub-parameters) and label 21 (an empty `case` in the source, no arm in the model) by themselves. -/
theorem sgr_iter (pm : List Param) (s : Frame) (p : Param) (rest : List Param) :
    evalS pm sgrBody { s with curP := p, restP := rest, skip := 0 } = iterResult s p rest (sgrOne s.e.cur.st p rest) := by
  obtain ⟨n, subs⟩ := p
  by_cases h4 : n = 4
  · subst h4
    rcases subs with _ | ⟨k, _ | ⟨k2, more⟩⟩
    · simp
    · by_cases k0 : k = 0
      · subst k0; simp
      by_cases k1 : k = 1
      · subst k1; simp
      by_cases k2 : k = 2
      · subst k2; simp
      by_cases k3 : k = 3
      · subst k3; simp
      by_cases k4 : k = 4
      · subst k4; simp
      by_cases k5 : k = 5
      · subst k5; simp
      simp [k0, k1, k2, k3, k4, k5]
    · rw [sgrOne_4_long]
      simp [len3_ne1, len3_ne2, Param.len]
  by_cases h21 : n = 21
  · subst h21; simp
  exact sgr_iter_chain pm s n subs rest h4 h21

theorem sgr_walk_gen (body : Param → List Param → Frame → M (Frame × Sig))
    (hb : ∀ p rest s, body p rest s = iterResult s p rest (sgrOne s.e.cur.st p rest)) :
    ∀ (fuel : Nat) (l : List Param) (s : Frame),
    (sgrWalk body fuel l s >>= fun s' => .ok s'.e) =
      (sgrLoop fuel s.e.cur.st l >>= fun st => (.ok { s.e with cur := { s.e.cur with st := st } } : M Emu)) := by
  intro fuel
  induction fuel with
  | zero => intro l s; cases l <;> rfl
  | succ fuel ih =>
    intro l s
    cases l with
    | nil => rfl
    | cons p rest =>
      simp only [sgrWalk, sgrLoop, hb, Except.bind_bind]
      cases hq : sgrOne s.e.cur.st p rest with
      | error x => rfl
      | ok o =>
        cases o with
        | none => rfl
        | some r =>
          obtain ⟨st', k⟩ := r
          simp only [iterResult, ok_bind, reduceCtorEq, or_self, if_false]
          exact ih (rest.drop k) _

theorem sgr_walk (pm : List Param) : ∀ (fuel : Nat) (l : List Param) (s : Frame),
    (sgrWalk (fun p rest s => evalS pm sgrBody { s with curP := p, restP := rest, skip := 0 }) fuel l s >>= fun s' => .ok s'.e) =
      (sgrLoop fuel s.e.cur.st l >>= fun st => (.ok { s.e with cur := { s.e.cur with st := st } } : M Emu)) :=
  sgr_walk_gen _ (fun p rest s => sgr_iter pm s p rest)

end VaxisModel.Lemmas.EmuBody
