/-
The loops over the tab stops (cht, cbt, tbc in csi.go): the translated loop, run by
`tabLoop`, computes what the list recursions `chtLoop` / `cbtLoop` / `List.filter` of Model/Emu.lean
compute — by induction over the tab-stop list, for every state.
-/
import VaxisModel.Lemmas.EmuBodyRow
namespace VaxisModel.Lemmas.EmuBody
open VaxisModel.Model.Emu VaxisModel.Model.EmuBody VaxisModel.Lemmas.Emu VaxisModel.Gen

/-- the counter `n` of cht() after the loop -/
def chtK (n : Int) : List Int → Int → Int → Int
  | [], _, k => k
  | ts :: rest, col, k =>
    if k = n then k
    else if col > ts then chtK n rest col k
    else chtK n rest ts (k + 1)

/-- the body of the loop of cht(), as translated -/
def chtBody : Stmt :=
  (.seq (.ite (.cmp .eq (.loc (.var 1)) (.loc (.var 0))) .brk .skip)
  (.seq (.ite (.cmp .gt (.loc .curCol) .tab) .cont .skip)
  (.seq (.assign .curCol .tab) (.assign (.var 1) (.add (.loc (.var 1)) (.lit 1))))))

theorem Frame.set_col_count_same (s : Frame) : (s.set .curCol s.e.cur.col).set (.var 1) (s.vars 1) = s := by
  rw [show s.set .curCol s.e.cur.col = s from Frame.set_get s .curCol, show s.set (.var 1) (s.vars 1) = s from Frame.set_get s (.var 1)]

theorem Frame.set_col_count_twice (s : Frame) (t a c k : Int) :
    (((s.set .curCol t).set (.var 1) a).set .curCol c).set (.var 1) k = (s.set .curCol c).set (.var 1) k := by
  rw [Frame.set_comm (s.set .curCol t) (.var 1) .curCol _ _ (by decide), Frame.set_set, Frame.set_set]

/-- What the loop of cht() leaves: the column and the counter, on any frame. `F` is one run of the loop body. -/
theorem cht_loop (F : Int → Frame → M (Frame × Sig))
    (hF : ∀ (t : Int) (s : Frame), F t s =
        if s.vars 1 = s.vars 0 then .ok (s, .brk)
        else if t < s.e.cur.col then .ok (s, .cont)
        else .ok ((s.set .curCol t).set (.var 1) (s.vars 1 + 1), .norm))
    (tabs : List Int) : ∀ s : Frame,
    tabLoop F tabs s =
      .ok ((s.set .curCol (chtLoop (s.vars 0) tabs s.e.cur.col (s.vars 1))).set (.var 1)
        (chtK (s.vars 0) tabs s.e.cur.col (s.vars 1))) := by
  induction tabs with
  | nil =>
    intro s
    simp only [tabLoop, chtLoop, chtK]
    rw [Frame.set_col_count_same]
  | cons t rest ih =>
    intro s
    simp only [tabLoop, hF, chtLoop, chtK]
    by_cases h1 : s.vars 1 = s.vars 0
    · simp only [if_pos h1, ok_bind, true_or, if_true]
      rw [Frame.set_col_count_same]
    · simp only [h1, if_false]
      by_cases h2 : t < s.e.cur.col
      · simp only [h2, if_true, ok_bind, reduceCtorEq, or_self, if_false]
        exact ih s
      · simp only [h2, if_false, ok_bind, reduceCtorEq, or_self]
        rw [ih]
        exact congrArg Except.ok (Frame.set_col_count_twice s t _ _ _)

/-- the counter `n` of cbt() after the loop -/
def cbtK (n : Int) : List Int → Int → Int → Int
  | [], _, k => k
  | ts :: rest, col, k =>
    if k = n then k
    else if col < ts then k
    else cbtK n rest ts (k + 1)

theorem cbt_loop (F : Int → Frame → M (Frame × Sig))
    (hF : ∀ (t : Int) (s : Frame), F t s =
        if s.vars 1 = s.vars 0 then .ok (s, .brk)
        else if s.e.cur.col < t then .ok (s, .brk)
        else .ok ((s.set .curCol t).set (.var 1) (s.vars 1 + 1), .norm))
    (tabs : List Int) : ∀ s : Frame,
    tabLoop F tabs s =
      .ok ((s.set .curCol (cbtLoop (s.vars 0) tabs s.e.cur.col (s.vars 1))).set (.var 1)
        (cbtK (s.vars 0) tabs s.e.cur.col (s.vars 1))) := by
  induction tabs with
  | nil =>
    intro s
    simp only [tabLoop, cbtLoop, cbtK]
    rw [Frame.set_col_count_same]
  | cons t rest ih =>
    intro s
    simp only [tabLoop, hF, cbtLoop, cbtK]
    by_cases h1 : s.vars 1 = s.vars 0
    · simp only [if_pos h1, ok_bind, true_or, if_true]
      rw [Frame.set_col_count_same]
    · simp only [h1, if_false]
      by_cases h2 : s.e.cur.col < t
      · simp only [h2, if_true, ok_bind, true_or]
        rw [Frame.set_col_count_same]
      · simp only [h2, if_false, ok_bind, reduceCtorEq, or_self]
        rw [ih]
        exact congrArg Except.ok (Frame.set_col_count_twice s t _ _ _)

theorem tbc_loop (F : Int → Frame → M (Frame × Sig))
    (hF : ∀ (t : Int) (s : Frame), F t s =
        if t = s.e.cur.col then .ok (s, .cont) else .ok ({ s with acc := s.acc ++ [t] }, .norm))
    (tabs : List Int) : ∀ s : Frame,
    tabLoop F tabs s = .ok { s with acc := s.acc ++ tabs.filter (fun t => t ≠ s.e.cur.col) } := by
  induction tabs with
  | nil => intro s; simp [tabLoop]
  | cons t rest ih =>
    intro s
    simp only [tabLoop, hF]
    by_cases h : t = s.e.cur.col
    · simp only [h, if_true, ok_bind, reduceCtorEq, or_self, if_false]
      rw [ih]
      simp
    · simp only [h, if_false, ok_bind, reduceCtorEq, or_self]
      rw [ih]
      simp [h]

end VaxisModel.Lemmas.EmuBody
