/-
The hand-transcribed pieces of the dispatch path (Props/C05Bodies.lean). The arms of csi() / esc() that only answer the child (DA1
`CSI c`, DA2 `CSI > c`, DSR `CSI n`) or are empty (`CSI $ p`, `ESC # 8`): a body made of `reply` / `skip` / literals assigned to
locals / branches (`localOnly`; decrqm() is one too) leaves the emulator state alone, whatever the reply text is. The statements of csi() in front of its dispatch switch, `for _, param := range params { for i, p
:= range param { if p < 0 || p > maxParam { param[i] = maxParam } } }`: a loop over all values whose body maps `p` to `g p` maps the
parameter list, for EVERY parameter list (sub-parameters included).
-/
import VaxisModel.Lemmas.EmuBody

namespace VaxisModel.Lemmas.EmuBody
open VaxisModel.Model.Emu VaxisModel.Model.EmuBody VaxisModel.Lemmas.Emu VaxisModel.Gen VaxisModel.Gen.TermModes

/-- statements that can only change int locals: assignments of literals to locals, branches, replies -/
def localOnly : Stmt → Bool
  | .skip => true
  | .seq a b => localOnly a && localOnly b
  | .ite _ t f => localOnly t && localOnly f
  | .assign (.var _) (.lit _) => true
  | .reply _ => true
  | _ => false

theorem evalS_localOnly (pm : List Param) : ∀ (st : Stmt), localOnly st = true → ∀ s : Frame,
    ∃ s', evalS pm st s = .ok (s', .norm) ∧ s'.e = s.e := by
  intro st
  induction st with
  | skip => intro _ s; exact ⟨s, by simp only [evalS], rfl⟩
  | seq a b iha ihb =>
    intro h s
    simp only [localOnly, Bool.and_eq_true] at h
    obtain ⟨s1, h1, e1⟩ := iha h.1 s
    obtain ⟨s2, h2, e2⟩ := ihb h.2 s1
    exact ⟨s2, by simp only [evalS, h1, ok_bind, if_true, h2], e2.trans e1⟩
  | ite c t f iht ihf =>
    intro h s
    simp only [localOnly, Bool.and_eq_true] at h
    simp only [evalS]
    split
    · exact iht h.1 s
    · exact ihf h.2 s
  | assign l x =>
    intro h s
    cases l <;> cases x <;> simp only [localOnly, reduceCtorEq] at h
    rename_i k n
    exact ⟨s.set (.var k) (evalEx pm s [] (.lit n)), by simp only [evalS, exOk, if_true], rfl⟩
  | reply r => intro _ s; exact ⟨s, by simp only [evalS], rfl⟩
  | _ => intro h; simp only [localOnly, reduceCtorEq] at h

theorem localOnly_body (b : Body) (h : localOnly b.stmt = true) (pm : List Param) (args : List Int) (e : Emu) :
    evalBody b pm args e = .ok e := by
  obtain ⟨s', hs, he⟩ := evalS_localOnly pm b.stmt h (initFrame e args)
  unfold evalBody
  rw [hs]
  simp only [ok_bind, he, initFrame]

theorem mapValsM_pure (f : Int → Int) : ∀ l : List Int, mapValsM (fun v => .ok (f v)) l = .ok (l.map f)
  | [] => rfl
  | v :: r => by simp only [mapValsM, ok_bind, mapValsM_pure f r, List.map]

theorem mapPmM_pure (f : Int → Int) : ∀ pm : List Param,
    mapPmM (fun v => .ok (f v)) pm = .ok (pm.map (fun p => (f p.1, p.2.map f)))
  | [] => rfl
  | p :: r => by simp only [mapPmM, ok_bind, mapValsM_pure f p.2, mapPmM_pure f r, List.map]

theorem mapPmM_eq (f : Int → M Int) (g : Int → Int) (h : ∀ v, f v = .ok (g v)) (pm : List Param) :
    mapPmM f pm = .ok (pm.map (fun p => (g p.1, p.2.map g))) := by
  have : f = fun v => .ok (g v) := funext h
  subst this; exact mapPmM_pure g pm

theorem forPmAll_eval (pm : List Param) (body : Stmt) (g : Int → Int) (s : Frame)
    (h : ∀ v, (evalS pm body { s with pcur := v } >>= fun r => (Except.ok r.1.pcur : M Int)) = .ok (g v)) :
    evalS pm (.forPmAll body) s =
      .ok ({ s with pmOv := some ((s.pmOv.getD pm).map (fun p => (g p.1, p.2.map g))) }, .norm) := by
  simp only [evalS]
  rw [mapPmM_eq _ g h]
  rfl

theorem ite_setPcur_eval (pm : List Param) (c : Cond) (x : Ex) (s : Frame) :
    (evalS pm (.ite c (.setPcur x) .skip) s >>= fun r => (Except.ok r.1.pcur : M Int)) =
      .ok (if evalCond pm s [] c then evalEx pm s [] x else s.pcur) := by
  simp only [evalS]
  cases evalCond pm s [] c <;> rfl

end VaxisModel.Lemmas.EmuBody
