/-
Helper lemmas for `Props/C05Draw.lean`: the loops of `Draw` on a well-formed grid, the window chain.
-/
import VaxisModel.Model.EmuDraw
import VaxisModel.Lemmas.EmuBasic
import VaxisModel.Lemmas.EmuSafe1

namespace VaxisModel.Lemmas.EmuDraw
open VaxisModel.Model.Emu VaxisModel.Model.EmuDraw VaxisModel.Lemmas.Emu

/-- The step of the inner loop. -/
def stepW (c : ECell) : Int := if c.w = 0 then 1 else (c.w : Int)

theorem stepW_pos (c : ECell) : 1 ≤ stepW c := by
  unfold stepW; split <;> omega

/-- The calls of one row, from column `col`: a call at the current column with the cell stored
    there (after the ""→" " substitution), the next column is `col + max w 1` (the columns under a
    wide glyph are skipped), until the column reaches `cols`. -/
inductive RowWalk (line : Row) (row cols : Int) : Int → List DrawCall → Prop
  | done {col : Int} : cols ≤ col → RowWalk line row cols col []
  | step {col : Int} {cell : ECell} {rest : List DrawCall} :
      col < cols → getI line col = .ok cell →
      RowWalk line row cols (col + stepW cell) rest →
      RowWalk line row cols col ({ col := col, row := row, cell := drawnCell cell } :: rest)

theorem rowCalls_walk {g : Grid} {rows cols : Nat} (hg : GridOk g rows cols) (row : Int)
    (hr0 : 0 ≤ row) (hr1 : row < rows) {line : Row} (hline : getI g row = .ok line) :
    ∀ (fuel : Nat) (col : Int), 0 ≤ col → (cols : Int) - col ≤ fuel →
      ∃ l, rowCalls g cols row fuel col = .ok l ∧ RowWalk line row cols col l := by
  have hlen : line.length = cols := by
    obtain ⟨line', h1, hl⟩ := getRow_ok hg row hr0 hr1
    rw [hline] at h1; cases h1; exact hl
  intro fuel
  induction fuel with
  | zero =>
    intro col _ h2
    have : ¬ col < (cols : Int) := by omega
    exact ⟨[], by simp only [rowCalls, this, if_false], .done (by omega)⟩
  | succ n ih =>
    intro col h1 h2
    by_cases hc : col < (cols : Int)
    · obtain ⟨cell, hcell, _⟩ := getI_ok line col h1 (by rw [hlen]; exact hc)
      have hw : 1 ≤ stepW cell := stepW_pos cell
      obtain ⟨rest, hrest, hb⟩ := ih (col + stepW cell) (by omega) (by omega)
      refine ⟨{ col := col, row := row, cell := drawnCell cell } :: rest, ?_, .step hc hcell hb⟩
      unfold stepW at hrest
      simp only [rowCalls, hc, if_true, hline, hcell, bind, Except.bind, hrest]
    · exact ⟨[], by simp only [rowCalls, hc, if_false], .done (by omega)⟩

theorem RowWalk.bounds {line : Row} {row cols col : Int} {l : List DrawCall} (h : RowWalk line row cols col l) :
    ∀ c ∈ l, col ≤ c.col ∧ c.col < cols ∧ c.row = row := by
  induction h with
  | done _ => intro c hc; cases hc
  | @step col cell _ hlt _ _ ih =>
    intro c hc
    rcases List.mem_cons.mp hc with h | h
    · subst h; exact ⟨Int.le_refl _, hlt, rfl⟩
    · have := ih c h; have := stepW_pos cell; exact ⟨by omega, by omega, by omega⟩

theorem rowCalls_ok {g : Grid} {rows cols : Nat} (hg : GridOk g rows cols) (row : Int)
    (hr0 : 0 ≤ row) (hr1 : row < rows) (fuel : Nat) (col : Int) (h1 : 0 ≤ col) (h2 : (cols : Int) - col ≤ fuel) :
    ∃ l, rowCalls g cols row fuel col = .ok l ∧ ∀ c ∈ l, col ≤ c.col ∧ c.col < cols ∧ c.row = row := by
  obtain ⟨line, hline, _⟩ := getRow_ok hg row hr0 hr1
  obtain ⟨l, hl, hw⟩ := rowCalls_walk hg row hr0 hr1 hline fuel col h1 h2
  exact ⟨l, hl, hw.bounds⟩

theorem allRows_walk {g : Grid} {rows cols : Nat} (hg : GridOk g rows cols) :
    ∀ (n : Nat) (row : Int), 0 ≤ row → row + n ≤ rows →
      ∃ per : List (List DrawCall), allRows g cols n row = .ok per.flatten ∧ per.length = n ∧
        ∀ (k : Nat) (l : List DrawCall), per[k]? = some l →
          ∃ line, getI g (row + k) = .ok line ∧ RowWalk line (row + k) cols 0 l := by
  intro n
  induction n with
  | zero => intro row _ _; exact ⟨[], rfl, rfl, by simp⟩
  | succ n ih =>
    intro row h1 h2
    obtain ⟨line, hline, _⟩ := getI_ok g row h1 (by rw [hg.len]; omega)
    obtain ⟨a, ha, hwa⟩ := rowCalls_walk hg row h1 (by omega) hline (cols : Int).toNat 0 (by omega) (by omega)
    obtain ⟨per, hb, hlen, hper⟩ := ih (row + 1) (by omega) (by omega)
    refine ⟨a :: per, by simp only [allRows, ha, hb, bind, Except.bind, List.flatten_cons], by simp [hlen], ?_⟩
    intro k l hk
    cases k with
    | zero =>
      simp only [List.getElem?_cons_zero, Option.some.injEq] at hk
      subst hk
      exact ⟨line, by simpa using hline, by simpa using hwa⟩
    | succ k =>
      simp only [List.getElem?_cons_succ] at hk
      obtain ⟨line', h1', h2'⟩ := hper k l hk
      have e1 : row + ((k + 1 : Nat) : Int) = row + 1 + (k : Int) := by omega
      rw [e1]
      exact ⟨line', h1', h2'⟩

theorem allRows_ok {g : Grid} {rows cols : Nat} (hg : GridOk g rows cols) (n : Nat) (row : Int) (h1 : 0 ≤ row)
    (h2 : row + n ≤ rows) :
    ∃ l, allRows g cols n row = .ok l ∧ ∀ c ∈ l, 0 ≤ c.col ∧ c.col < cols ∧ row ≤ c.row ∧ c.row < row + n := by
  obtain ⟨per, hper, hlen, hw⟩ := allRows_walk hg n row h1 h2
  refine ⟨_, hper, fun c hc => ?_⟩
  obtain ⟨l, hl, hcl⟩ := List.mem_flatten.mp hc
  obtain ⟨k, hk, rfl⟩ := List.getElem_of_mem hl
  obtain ⟨line, _, hwalk⟩ := hw k _ (List.getElem?_eq_getElem hk)
  have := hwalk.bounds c hcl
  exact ⟨this.1, this.2.1, by omega, by omega⟩

theorem drawCalls_ok {e : Emu} {rows cols : Nat} (h : EmuInv e rows cols) (hr : 1 ≤ rows) :
    ∃ l, drawCalls e = .ok l ∧
      ∀ c ∈ l, 0 ≤ c.col ∧ c.col < cols ∧ 0 ≤ c.row ∧ c.row < rows := by
  unfold drawCalls
  rw [width_eq h hr, height_eq h]
  obtain ⟨l, hl, hb⟩ := allRows_ok (active_ok h) (rows : Int).toNat 0 (by omega) (by omega)
  refine ⟨l, hl, ?_⟩
  intro c hc
  have := hb c hc
  exact ⟨this.1, this.2.1, this.2.2.1, by omega⟩

theorem shownCursor_ok {e : Emu} {rows cols : Nat} (h : EmuInv e rows cols) (hc : 1 ≤ cols) (focused : Bool) :
    ∀ p, shownCursor true e focused = some p → 0 ≤ p.1 ∧ p.1 < cols ∧ 0 ≤ p.2 ∧ p.2 < rows := by
  intro p hp
  unfold shownCursor at hp
  have h1 := h.colLo; have h2 := h.colHi; have h3 := h.rowLo; have h4 := h.rowHi; have h5 := h.right
  split at hp
  · simp only [Bool.true_and, Option.some.injEq] at hp
    subst hp
    simp only
    split
    · rename_i hgt; simp only [decide_eq_true_eq] at hgt; omega
    · rename_i hgt; simp only [decide_eq_true_eq] at hgt; omega
  · cases hp

theorem draw_sized {e : Emu} {rows cols : Nat} (h : EmuInv e rows cols) (d : Dim rows cols) (focused : Bool) :
    ∃ calls, drawCalls e = .ok calls ∧
      (∀ c ∈ calls, 0 ≤ c.col ∧ c.col < cols ∧ 0 ≤ c.row ∧ c.row < rows) ∧
      (∀ p, shownCursor true e focused = some p → 0 ≤ p.1 ∧ p.1 < cols ∧ 0 ≤ p.2 ∧ p.2 < rows) ∧
      EmuInv { e with hasVx := true } rows cols := by
  obtain ⟨l, hl, hb⟩ := drawCalls_ok h d.r1
  exact ⟨l, hl, hb, shownCursor_ok h d.c1 focused, inv_hasVx h true⟩

theorem setCellChain_some (sw sh : Int) :
    ∀ (chain : List Win) (col row : Int) (p : Int × Int), setCellChain sw sh chain col row = some p →
      p = showCursorChain chain col row ∧ 0 ≤ p.1 ∧ p.1 < sw ∧ 0 ≤ p.2 ∧ p.2 < sh := by
  intro chain
  induction chain with
  | nil =>
    intro col row p hp
    simp only [setCellChain] at hp
    split at hp
    · cases hp
    · split at hp
      · cases hp
      · split at hp
        · cases hp
        · simp only [Option.some.injEq] at hp
          subst hp
          simp only [showCursorChain, true_and]
          omega
  | cons w ps ih =>
    intro col row p hp
    simp only [setCellChain] at hp
    split at hp
    · cases hp
    · split at hp
      · cases hp
      · simpa only [showCursorChain] using ih _ _ p hp

theorem setCellChain_cons_some (sw sh : Int) (w : Win) (ps : List Win) (col row : Int) (p : Int × Int)
    (hp : setCellChain sw sh (w :: ps) col row = some p) :
    0 ≤ col ∧ col < w.w ∧ 0 ≤ row ∧ row < w.h := by
  simp only [setCellChain] at hp
  split at hp
  · cases hp
  · split at hp
    · cases hp
    · omega

theorem showCursorChain_add :
    ∀ (chain : List Win) (col row : Int),
      showCursorChain chain col row = ((origin chain).1 + col, (origin chain).2 + row) := by
  intro chain
  induction chain with
  | nil => intro col row; simp [showCursorChain, origin]
  | cons w ps ih =>
    intro col row
    simp only [origin, showCursorChain]
    rw [ih (col + w.col) (row + w.row), ih (0 + w.col) (0 + w.row)]
    simp only [origin, Prod.mk.injEq]
    omega

end VaxisModel.Lemmas.EmuDraw
