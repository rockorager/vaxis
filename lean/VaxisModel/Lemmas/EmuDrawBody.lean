/-
`(*Model).Draw` is tied to the source structurally. `Gen/TermDraw.lean` holds the body of Draw translated statement
by statement (extract/cmd/C05/draw.go); `evalDraw` (Model/EmuDrawBody.lean) is its meaning. Here: the translated body IS the
hand-written model `Model.EmuDraw.drawG` (the one `draw_clipped` & co. are about) for EVERY emulator state, window size and
focus flag — the column loop with its variable step against `rowCalls`, the row loop against `allRows`, the rest by evaluation.
-/
import VaxisModel.Model.EmuDrawBody
import VaxisModel.Gen.TermDraw
import VaxisModel.Lemmas.EmuBody

namespace VaxisModel.Lemmas.EmuDrawBody
open VaxisModel.Model.Emu VaxisModel.Model.EmuBody VaxisModel.Model.EmuDraw VaxisModel.Model.EmuDrawBody VaxisModel.Lemmas.EmuBody

def colBody : DStmt :=
 (.seq (.loadCell (.loc (.var 2)) (.loc (.var 3)))
 (.seq (.wFromCell 4)
 (.seq .spaceIfEmpty
 (.seq (.setCell (.loc (.var 3)) (.loc (.var 2)))
 (.seq (.ite (.cmp .eq (.loc (.var 4)) (.lit 0))
 (.assign 4 (.lit 1))
 .skip)
 (.assign 3 (.add (.loc (.var 3)) (.loc (.var 4)))))))))

def cellW (x : ECell) : Int := if x.w = 0 then 1 else (x.w : Int)
def spaced (x : ECell) : ECell := { x with g := (if x.g = [] then [32] else x.g) }
def colStep (s : DFrame) (x : ECell) : DFrame :=
  let s1 : DFrame := { s with f := { s.f with cell := spaced x } }
  let s2 : DFrame := { s1 with calls := s.calls ++ [{ col := s.f.vars 3, row := s.f.vars 2, cell := drawnCell x }] }
  (s2.setVar 4 (cellW x)).setVar 3 (s.f.vars 3 + cellW x)

theorem colBody_eval (s : DFrame) :
    evalD colBody s =
      (do let line ← getI s.f.e.active (s.f.vars 2)
          let x ← getI line (s.f.vars 3)
          Except.ok (colStep s x, false)) := by
  simp only [colBody, evalD, ev, evalEx, Frame.get, bind, Except.bind]
  cases h1 : getI s.f.e.active (s.f.vars 2) with
  | error p => rfl
  | ok line =>
    simp only []
    cases h2 : getI line (s.f.vars 3) with
    | error p => rfl
    | ok x =>
      simp [DFrame.setVar, Frame.set, evalCond, evalCmp, evalEx, Frame.get, colStep, cellW, spaced, drawnCell]
      by_cases hw : x.w = 0
      · simp [hw]; funext j; by_cases h3 : j = 3 <;> by_cases h4 : j = 4 <;> simp [h3, h4]
      · simp [hw]

/-- what the loops leave alone -/
structure Keep (s s' : DFrame) : Prop where
  e : s'.f.e = s.f.e
  focused : s'.focused = s.focused
  cursor : s'.cursor = s.cursor
  winW : s'.winW = s.winW
  winH : s'.winH = s.winH

theorem Keep.refl (s : DFrame) : Keep s s := ⟨rfl, rfl, rfl, rfl, rfl⟩
theorem Keep.trans {a b c : DFrame} (h1 : Keep a b) (h2 : Keep b c) : Keep a c :=
  ⟨h2.e.trans h1.e, h2.focused.trans h1.focused, h2.cursor.trans h1.cursor, h2.winW.trans h1.winW, h2.winH.trans h1.winH⟩

/-- a loop of the translated body agrees with a list of calls computed by the hand-written model -/
def Agrees (s : DFrame) (loopRes : M (DFrame × Bool)) (callsRes : M (List DrawCall)) : Prop :=
  match callsRes with
  | .ok l => ∃ s', loopRes = .ok (s', false) ∧ Keep s s' ∧ s'.calls = s.calls ++ l
  | .error p => loopRes = .error p

theorem Agrees.step {s s1 : DFrame} {a : List DrawCall} {r : M (DFrame × Bool)} {c : M (List DrawCall)}
    (hk : Keep s s1) (hc : s1.calls = s.calls ++ a) (h : Agrees s1 r c) : Agrees s r (c >>= fun l => .ok (a ++ l)) := by
  cases c with
  | error p => exact h
  | ok l =>
    obtain ⟨s', hs', hk', hc'⟩ := h
    exact ⟨s', hs', hk.trans hk', by rw [hc', hc, List.append_assoc]⟩

def colCond (s : DFrame) : Bool := decide (s.f.vars 3 < ev s .width)
def colB (s : DFrame) : M (DFrame × Bool) := evalD colBody s

theorem colLoop_agrees (g : Grid) (width row : Int) : ∀ (fuel : Nat) (s : DFrame),
    s.f.e.active = g → s.f.e.width = width → s.f.vars 2 = row →
    Agrees s (whileLoop colCond colB fuel s) (rowCalls g width row fuel (s.f.vars 3))
  | 0, s, hg, hw, hr => by
    simp only [whileLoop, rowCalls, colCond, ev, evalEx, hw]
    by_cases hc : s.f.vars 3 < width
    · simp [hc, Agrees]
    · simp [hc, Agrees]; exact Keep.refl s
  | fuel + 1, s, hg, hw, hr => by
    simp only [whileLoop, rowCalls, colCond, ev, evalEx, hw, colB, colBody_eval, hg, hr]
    by_cases hc : s.f.vars 3 < width
    · simp only [hc, decide_true, if_true]
      cases getI g row with
      | error p => exact rfl
      | ok line =>
        simp only [bind, Except.bind]
        cases getI line (s.f.vars 3) with
        | error p => exact rfl
        | ok x =>
          exact Agrees.step (s1 := colStep s x) (a := [{ col := s.f.vars 3, row := row, cell := drawnCell x }])
            ⟨rfl, rfl, rfl, rfl, rfl⟩ (by rw [← hr]; rfl)
            (colLoop_agrees g width row fuel (colStep s x) hg hw hr)
    · simp [hc, Agrees]; exact Keep.refl s

def rowBody : DStmt := .forWhile 3 (.lit 0) .width colBody

theorem rowBody_eval (s : DFrame) :
    evalD rowBody s = whileLoop colCond colB s.f.e.width.toNat (s.setVar 3 0) := by
  simp only [rowBody, evalD, ev, evalEx, DFrame.setVar, Frame.set, Int.sub_zero]
  rfl

def rowB (i : Int) (s : DFrame) : M (DFrame × Bool) := evalD rowBody (s.setVar 2 i)

theorem rowLoop_agrees (g : Grid) (width : Int) : ∀ (n : Nat) (i : Int) (s : DFrame),
    s.f.e.active = g → s.f.e.width = width →
    Agrees s (upLoop rowB n i s) (allRows g width n i)
  | 0, i, s, hg, hw => ⟨s, rfl, Keep.refl s, by simp⟩
  | n + 1, i, s, hg, hw => by
    simp only [upLoop, allRows, rowB, rowBody_eval]
    have hcol : Agrees _ _ (rowCalls g width i width.toNat 0) :=
      colLoop_agrees g width i width.toNat ((s.setVar 2 i).setVar 3 0) hg hw rfl
    rw [show (s.setVar 2 i).f.e.width = width from hw]
    revert hcol
    cases rowCalls g width i width.toNat 0 with
    | error p => intro hcol; simp only [Agrees] at hcol; rw [hcol]; exact rfl
    | ok a =>
      rintro ⟨s1, hs1, hk1, hc1⟩
      have hk0 : Keep s ((s.setVar 2 i).setVar 3 0) := ⟨rfl, rfl, rfl, rfl, rfl⟩
      rw [hs1]
      exact Agrees.step (hk0.trans hk1) hc1 (rowLoop_agrees g width n (i + 1) s1 (hk1.e ▸ hg) (hk1.e ▸ hw))

def tailStmt : DStmt :=
 (.seq (.iteFocused (.mode .dectcem)
 (.seq (.assign 5 (.loc .curCol))
 (.seq (.ite (.cmp .gt (.loc (.var 5)) (.loc .right))
 (.assign 5 (.loc .right))
 .skip)
 (.showCursor (.loc (.var 5)) (.loc .curRow)))))
 (.seq .vxLocal
 (.seq .setVx
 .graphics)))

theorem tail_eval (s : DFrame) : ∃ s', evalD tailStmt s = .ok (s', false) ∧ s'.f.e = { s.f.e with hasVx := true } ∧
    s'.calls = s.calls ∧ s'.cursor = (match shownCursor true s.f.e s.focused with | some c => some c | none => s.cursor) := by
  simp only [tailStmt, evalD, ev, evalEx, evalCond, evalCmp, Frame.get, DFrame.setVar, Frame.set, bind, Except.bind, shownCursor, Modes.get]
  by_cases hd : s.f.e.mode.dectcem = true <;> by_cases hf : s.focused = true <;> by_cases hc : s.f.e.cur.col > s.f.e.right <;>
    simp [hd, hf, hc]

def guardStmt : DStmt :=
 (.ite (.or (.cmp .le (.loc (.var 0)) (.lit 0)) (.cmp .le (.loc (.var 1)) (.lit 0))) .ret .skip)
def resizeStmt : DStmt :=
 (.ite (.or (.cmp .ne (.loc (.var 0)) .width) (.cmp .ne (.loc (.var 1)) .height))
 (.seq (.setWinW (.loc (.var 0))) (.seq (.setWinH (.loc (.var 1))) (.resize (.loc (.var 0)) (.loc (.var 1)))))
 .skip)

/-- `colBody` (inside `rowBody`), `rowBody`, `tailStmt`, `guardStmt` and `resizeStmt` above are written out by hand; this `rfl` is what
ties them to the translated body. -/
theorem draw_shape : VaxisModel.Gen.TermDraw.stmt_Draw =
    .seq .lock (.seq .deferUnlock (.seq .dirtyFalse (.seq (.winSize 0 1) (.seq guardStmt (.seq resizeStmt
      (.seq (.forUp 2 (.lit 0) .height rowBody) tailStmt)))))) := rfl

theorem seq_eval (a b : DStmt) (s : DFrame) :
    evalD (.seq a b) s = (evalD a s >>= fun r => if r.2 then Except.ok r else evalD b r.1) := by
  simp only [evalD]

theorem guard_eval (s : DFrame) :
    evalD guardStmt s = .ok (s, decide (s.f.vars 0 ≤ 0) || decide (s.f.vars 1 ≤ 0)) := by
  simp only [guardStmt, evalD, evalCond, evalEx, Frame.get]
  simp only [evalCmp]
  by_cases hb : (decide (s.f.vars 0 ≤ 0) || decide (s.f.vars 1 ≤ 0)) = true
  · simp only [hb, if_true]
  · simp only [Bool.not_eq_true] at hb; simp [hb]

theorem resizeStmt_eval (s : DFrame) :
    evalD resizeStmt s =
      if s.f.vars 0 ≠ s.f.e.width ∨ s.f.vars 1 ≠ s.f.e.height then
        (resize Fixes.current s.f.e (s.f.vars 0) (s.f.vars 1) >>= fun e' => Except.ok (({ s with f := { s.f with e := e' } } : DFrame), false))
      else .ok (s, false) := by
  simp only [resizeStmt, evalD, evalCond, evalEx, ev, Frame.get, bind, Except.bind, Bool.false_eq_true, if_false]
  simp only [evalCmp]
  by_cases h0 : s.f.vars 0 ≠ s.f.e.width <;> by_cases h1 : s.f.vars 1 ≠ s.f.e.height <;> simp [h0, h1]
  all_goals (simp only [ne_eq, Decidable.not_not] at h0 h1; simp [h0, h1])

theorem rows_eval (s : DFrame) :
    evalD (.forUp 2 (.lit 0) .height rowBody) s = upLoop rowB s.f.e.height.toNat 0 s := by
  simp only [evalD, ev, evalEx, Int.sub_zero]; rfl

theorem loops_tail (s : DFrame) (hc : s.calls = []) (hcur : s.cursor = none) :
    ((evalD (.seq (.forUp 2 (.lit 0) .height rowBody) tailStmt) s) >>= fun r => Except.ok (r.1.f.e, r.1.calls, r.1.cursor)) =
      (drawCalls s.f.e >>= fun calls => Except.ok ({ s.f.e with hasVx := true }, calls, shownCursor true s.f.e s.focused)) := by
  rw [seq_eval, rows_eval]
  have h := rowLoop_agrees s.f.e.active s.f.e.width s.f.e.height.toNat 0 s rfl rfl
  unfold drawCalls
  revert h
  cases allRows s.f.e.active s.f.e.width s.f.e.height.toNat 0 with
  | error p => intro h; simp only [Agrees] at h; rw [h]; rfl
  | ok l =>
    rintro ⟨s', hs', hk, hcalls⟩
    obtain ⟨s2, hs2, he2, hc2, hcur2⟩ := tail_eval s'
    rw [hs']
    simp only [bind, Except.bind, Bool.false_eq_true, if_false, hs2, he2, hc2, hcur2, hcalls, hc, List.nil_append, hk.e, hk.focused, hk.cursor, hcur]
    cases shownCursor true s.f.e s.focused <;> rfl

theorem body_Draw_eq (e : Emu) (winW winH : Int) (focused : Bool) :
    evalDraw VaxisModel.Gen.TermDraw.stmt_Draw e winW winH focused = drawG true true Fixes.current e winW winH focused := by
  rw [draw_shape]
  unfold evalDraw
  -- lock, defer, dirty, `width, height := win.Size()`
  have h4 : ∀ (rest : DStmt) (s : DFrame),
      evalD (.seq .lock (.seq .deferUnlock (.seq .dirtyFalse (.seq (.winSize 0 1) rest)))) s =
        evalD rest ((s.setVar 0 s.winW).setVar 1 s.winH) := by
    intro rest s; simp only [evalD, bind, Except.bind, Bool.false_eq_true, if_false]
  rw [h4, seq_eval, guard_eval]
  generalize hs1 : (({ f := initFrame e [], winW := winW, winH := winH, focused := focused } : DFrame).setVar 0 _).setVar 1 _ = s1
  have hv0 : s1.f.vars 0 = winW := by subst hs1; simp [DFrame.setVar, Frame.set]
  have hv1 : s1.f.vars 1 = winH := by subst hs1; simp [DFrame.setVar, Frame.set]
  have he : s1.f.e = e := by subst hs1; simp [DFrame.setVar, Frame.set, initFrame]
  have hcalls : s1.calls = [] := by subst hs1; simp [DFrame.setVar]
  have hcur : s1.cursor = none := by subst hs1; simp [DFrame.setVar]
  have hfoc : s1.focused = focused := by subst hs1; simp [DFrame.setVar]
  rw [hv0, hv1]
  unfold drawG
  simp only [Bool.true_and, ok_bind]
  by_cases hg : (decide (winW ≤ 0) || decide (winH ≤ 0)) = true
  · simp only [hg, if_true, he, hcalls, hcur, ok_bind]
  · simp only [Bool.not_eq_true] at hg
    simp only [hg, Bool.false_eq_true, if_false]
    rw [seq_eval, resizeStmt_eval, hv0, hv1, he]
    unfold draw
    by_cases hr : winW ≠ e.width ∨ winH ≠ e.height
    · simp only [hr, if_true]
      cases hres : resize Fixes.current e winW winH with
      | error p => rfl
      | ok e' =>
        simp only [ok_bind, Bool.false_eq_true, if_false]
        have := loops_tail ({ s1 with f := { s1.f with e := e' } }) hcalls hcur
        rw [← hfoc]
        exact this
    · simp only [hr, if_false, ok_bind, Bool.false_eq_true]
      have := loops_tail s1 hcalls hcur
      rw [he] at this
      rw [← hfoc]
      exact this

end VaxisModel.Lemmas.EmuDrawBody
