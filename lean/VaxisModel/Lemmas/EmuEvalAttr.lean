/-
`emu_eval`: the simp set that runs a translated body of widgets/term (`Model/EmuBody.lean`) on a symbolic frame — the
equations of the interpreter, the rules for the Go idioms, the monad laws and the list lemmas that read arguments and
parameters; tagged in `Lemmas/EmuBody.lean`. Comparisons (`evalCmp`) are left out on purpose: they are unfolded in a second
pass, when their operands are normal (see `body_norm`).
-/
import Lean.Meta.Tactic.Simp.RegisterCommand

register_simp_attr emu_eval
