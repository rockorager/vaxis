/-
Frame rule of the emulator's handlers, for what they do not write.  `Keeps φ π e x`: every successful outcome `r` of `x`
still has (at `π r`) the `φ` of `e`.  It is closed under the constructors of the handlers' do-blocks, so the proof for a
handler has the shape of its definition and never unfolds the grid loops.  `kept e` is the strongest `φ` the handlers
that only display keep, for any `Fixes`; what other files need is a projection of it (`cfg`, `EmuResize.Keep`, `EFrame`).
-/
import VaxisModel.Lemmas.EmuBasic

namespace VaxisModel.Lemmas.EmuKeeps
open VaxisModel.Model.Emu VaxisModel.Gen.TermModes

def Keeps {α γ : Type} (φ : Emu → γ) (π : α → Emu) (e : Emu) (x : M α) : Prop := ∀ r, x = .ok r → φ (π r) = φ e

section
variable {α β γ δ : Type} {φ : Emu → γ} {π : α → Emu} {e : Emu}

theorem keeps_ok {r : α} (h : φ (π r) = φ e) : Keeps φ π e (.ok r) :=
  fun _ hr => Except.ok.inj hr ▸ h

theorem keeps_error {p : Panic} : Keeps φ π e (.error p) := fun _ h => nomatch h

theorem keeps_ite {c : Prop} [Decidable c] {a b : M α} (ha : Keeps φ π e a) (hb : Keeps φ π e b) :
    Keeps φ π e (if c then a else b) := by
  split <;> assumption

theorem keeps_bind {x : M β} {f : β → M α} (hf : ∀ b, Keeps φ π e (f b)) : Keeps φ π e (x >>= f) :=
  fun r h => let ⟨b, _, hb⟩ := Except.bind_eq_ok h; hf b r hb

theorem keeps_then' {ρ : β → Emu} {x : M β} {f : β → M α} (hx : Keeps φ ρ e x)
    (hf : ∀ b, Keeps φ π (ρ b) (f b)) : Keeps φ π e (x >>= f) :=
  fun r h => let ⟨b, h1, hr⟩ := Except.bind_eq_ok h; (hf b r hr).trans (hx b h1)

theorem keeps_then {x : M Emu} {f : Emu → M α} (hx : Keeps φ id e x) (hf : ∀ e1, Keeps φ π e1 (f e1)) :
    Keeps φ π e (x >>= f) := keeps_then' hx hf

theorem Keeps.of {e0 : Emu} {x : M α} (h : Keeps φ π e0 x) (h0 : φ e0 = φ e) : Keeps φ π e x :=
  fun r hr => (h r hr).trans h0

theorem Keeps.map (f : γ → δ) {x : M α} (h : Keeps φ π e x) : Keeps (fun a => f (φ a)) π e x :=
  fun r hr => congrArg f (h r hr)

theorem keeps_foldlM {σ : Type} {π : σ → Emu} (f : σ → β → M σ) (hf : ∀ s b, Keeps φ π (π s) (f s b)) :
    ∀ (l : List β) (s : σ), Keeps φ π (π s) (l.foldlM f s)
  | [], _ => keeps_ok rfl
  | b :: r, s => by
    rw [List.foldlM_cons]
    exact keeps_then' (hf s b) (keeps_foldlM f hf r)

end

/-- The grid `setActive` does not write. -/
def inactive (e : Emu) : Grid := if e.altActive then e.primary else e.alt

/-- What the handlers that only display leave alone. -/
def kept (e : Emu) :=
  (e.mode, e.osc8, e.hasVx, e.cur.shape, e.tabs, e.savedP, e.savedA, e.altActive, inactive e, e.top, e.bottom, e.left,
   e.right, (if e.cs.ss then none else some e.cs))

/-- What no handler below the mode functions writes. -/
def cfg (e : Emu) : Modes × Bool := (e.mode, e.osc8)

section
variable {α β : Type} {π : α → Emu} {e : Emu}

theorem Keeps.toCfg {x : M α} (h : Keeps kept π e x) : Keeps cfg π e x := h.map fun t => (t.1, t.2.1)

theorem Keeps.osc8 {x : M α} (h : Keeps cfg π e x) : Keeps Emu.osc8 π e x := fun r hr => congrArg Prod.snd (h r hr)

theorem Keeps.mode {x : M Emu} (h : Keeps cfg id e x) {e' : Emu} (hr : x = .ok e') : e'.mode = e.mode :=
  congrArg Prod.fst (h e' hr)

theorem Keeps.mode_fst {x : M (Emu × β)} (h : Keeps cfg Prod.fst e x) {e' : Emu} {k : β} (hr : x = .ok (e', k)) :
    e'.mode = e.mode :=
  congrArg Prod.fst (h (e', k) hr)

end

theorem kept_setActive (e : Emu) (g : Grid) : kept (e.setActive g) = kept e := by
  unfold kept inactive Emu.setActive
  cases e.altActive <;> rfl

theorem kept_cur (e : Emu) (c : Cursor) (h : c.shape = e.cur.shape) : kept { e with cur := c } = kept e := by
  unfold kept inactive; rw [h]

/-- The common end of the grid handlers: install the new grid. -/
theorem keeps_setActive {e e0 : Emu} {x : M Grid} (h0 : kept e0 = kept e) :
    Keeps kept id e (x >>= fun g => .ok (e0.setActive g)) :=
  keeps_bind fun g => keeps_ok ((kept_setActive e0 g).trans h0)

theorem scrollUp_keeps (e : Emu) (n : Int) : Keeps kept id e (scrollUp e n) := keeps_setActive rfl
theorem scrollDown_keeps (e : Emu) (n : Int) : Keeps kept id e (scrollDown e n) := keeps_setActive rfl

theorem ind_keeps (e : Emu) : Keeps kept id e (ind e) :=
  keeps_ite ((scrollUp_keeps _ 1).of rfl) (keeps_ite (keeps_ok rfl) (keeps_ok rfl))

theorem nel_keeps (e : Emu) : Keeps kept id e (nel e) :=
  keeps_then (ind_keeps e) fun _ => keeps_ok rfl

theorem ri_keeps (fx : Fixes) (e : Emu) : Keeps kept id e (ri fx e) :=
  keeps_ite
    (keeps_ite ((scrollDown_keeps _ 1).of rfl) (keeps_ite (keeps_ok rfl) (keeps_ok rfl)))
    (keeps_ite (keeps_ok rfl) (keeps_ite ((scrollDown_keeps _ 1).of rfl) (keeps_ok rfl)))

theorem repeatGo_keeps {f : Emu → M Emu} (hf : ∀ s, Keeps kept id s (f s)) :
    ∀ (n : Nat) (s : Emu), Keeps kept id s (repeatGo f n s)
  | 0, _ => keeps_ok rfl
  | n + 1, s => keeps_then (hf s) (repeatGo_keeps hf n)

theorem repeatN_keeps {f : Emu → M Emu} (hf : ∀ s, Keeps kept id s (f s)) (n : Nat) (s : Emu) :
    Keeps kept id s (repeatN f n s) :=
  keeps_ite (repeatGo_keeps hf n s) (keeps_bind fun _ => keeps_error)

theorem ich_keeps (fx : Fixes) (e : Emu) (n : Int) : Keeps kept id e (ich fx e n) :=
  keeps_bind fun _ => keeps_bind fun _ => keeps_bind fun _ => keeps_setActive rfl

theorem ed_keeps (e : Emu) (n : Int) : Keeps kept id e (ed e n) :=
  keeps_ite (keeps_setActive rfl) <| keeps_ite (keeps_setActive rfl) <| keeps_ite (keeps_setActive rfl) (keeps_ok rfl)

theorem el_keeps (fx : Fixes) (e : Emu) (n : Int) : Keeps kept id e (el fx e n) :=
  keeps_ite (keeps_setActive rfl) <| keeps_ite (keeps_setActive rfl) <| keeps_ite (keeps_setActive rfl) (keeps_ok rfl)

theorem il_keeps (fx : Fixes) (e : Emu) (n : Int) : Keeps kept id e (il fx e n) :=
  keeps_ite (keeps_ok rfl) <| keeps_bind fun _ => keeps_bind fun g =>
    keeps_ok (by dsimp only [id]; exact (kept_cur _ _ (by simp)).trans (kept_setActive _ g))

theorem dl_keeps (fx : Fixes) (e : Emu) (n : Int) : Keeps kept id e (dl fx e n) :=
  keeps_ite (keeps_ok rfl) <| keeps_bind fun g =>
    keeps_ok (by dsimp only [id]; exact (kept_cur _ _ (by simp)).trans (kept_setActive _ g))

theorem dch_keeps (e : Emu) (n : Int) : Keeps kept id e (dch e n) := keeps_setActive rfl
theorem ech_keeps (e : Emu) (n : Int) : Keeps kept id e (ech e n) := keeps_setActive rfl

theorem rep_keeps (fx : Fixes) (e : Emu) (n : Int) : Keeps kept id e (rep fx e n) :=
  keeps_ite (keeps_ok rfl) <| keeps_bind fun _ => keeps_bind fun _ => keeps_setActive rfl

theorem sgr_keeps (e : Emu) (pm : List Param) : Keeps kept id e (sgr e pm) :=
  keeps_bind fun _ => keeps_ok rfl

theorem osc_keeps (fx : Fixes) (e : Emu) (d : List Nat) (info : OscInfo) : Keeps kept Prod.fst e (osc fx e d info) := by
  have same : ∀ {k : Nat}, Keeps kept Prod.fst e (.ok (e, k)) := keeps_ok rfl
  unfold osc
  rcases cutSemi d with ⟨sel, val, found⟩
  exact keeps_ite same <| keeps_ite same <|
    keeps_ite (keeps_ite (keeps_ite same (keeps_ok rfl)) same) <|
    keeps_ite same <| keeps_ite same <|
    keeps_ite (keeps_ite same <| keeps_ite same <| keeps_ite same keeps_error) <|
    keeps_ite (keeps_ite same <| keeps_ite (keeps_ite same same) same) same

theorem print_keeps (fx : Fixes) (e : Emu) (g : G) (w : Nat) : Keeps kept id e (print fx e g w) := by
  have hss : kept (if e.cs.ss then { e with cs := { e.cs with sel := e.cs.saved } } else e) = kept e := by
    split
    · rename_i h; unfold kept inactive; simp only [h, if_true]
    · rfl
  unfold print
  -- three stages: the wrap (CR LF first), the insert-mode shift, the write. The later stages are join points of the
  -- do-block, so each comes up once per branch of the stage before.
  refine keeps_ite (keeps_bind fun _ => keeps_then ((nel_keeps _).of ((kept_setActive _ _).trans hss)) fun e1 => ?_)
    (keeps_then (keeps_ok hss) fun e1 => ?_)
  all_goals
    refine keeps_ite
      (keeps_bind fun _ => keeps_bind fun _ => keeps_bind fun _ =>
        keeps_then (keeps_ok (kept_setActive _ _)) fun e2 => ?_)
      (keeps_then (keeps_ok rfl) fun e2 => ?_)
  all_goals
    refine keeps_ite (keeps_ok rfl) <|
      keeps_bind fun _ => keeps_bind fun _ => keeps_bind fun _ => keeps_bind fun g2 => keeps_ok ?_
    dsimp only [id]
    (repeat' split) <;> exact kept_setActive e2 g2

theorem cnl_keeps (fx : Fixes) (e : Emu) (n : Int) : Keeps kept id e (cnl fx e n) :=
  keeps_ite (keeps_ok rfl) ((repeatN_keeps nel_keeps _ _).of rfl)

theorem cpl_keeps (fx : Fixes) (e : Emu) (n : Int) : Keeps kept id e (cpl fx e n) :=
  keeps_ite (keeps_ok rfl) (keeps_then ((repeatN_keeps (ri_keeps fx) _ _).of rfl) fun _ => keeps_ok rfl)

theorem lf_keeps (e : Emu) : Keeps kept id e (lf e) :=
  keeps_then (ind_keeps e) fun e1 => keeps_ok (by dsimp only [id]; split <;> rfl)

theorem reflowRow_keeps (fx : Fixes) (e : Emu) (cells : Row) : Keeps kept Prod.fst e (reflowRow fx e cells) := by
  unfold reflowRow
  refine keeps_foldlM (π := Prod.fst) _ (fun acc cell => ?_) cells (e, false)
  exact keeps_then ((print_keeps fx _ _ _).of rfl) fun e1 => keeps_ok (π := Prod.fst) (r := (e1, cell.wrapped)) rfl

theorem reflow_keeps (fx : Fixes) (last : Int) : ∀ (old : List Row) (k : Nat) (e : Emu),
    Keeps kept id e (reflow fx last old k e)
  | [], _, _ => keeps_ok rfl
  | r :: rest, k, e => by
    unfold reflow
    exact keeps_ite (keeps_ok rfl) <| keeps_then' (reflowRow_keeps fx e r) fun ⟨e1, _⟩ =>
      keeps_ite (keeps_then (nel_keeps e1) fun e2 => reflow_keeps fx last rest (k + 1) e2)
        (keeps_then (keeps_ok rfl) fun e2 => reflow_keeps fx last rest (k + 1) e2)

end VaxisModel.Lemmas.EmuKeeps
