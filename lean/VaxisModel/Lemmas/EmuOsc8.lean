/-
No operation changes the OSC 8 switch (`emuStep_o8`): needed to carry "hyperlinks are honoured" along a history.
The handlers that only display keep `kept` (Lemmas/EmuKeeps.lean), of which `cfg` = the `mode` struct and the switch is
a part; here the rest: C0 and the arms of csi() / esc() that return a state computed without the grid keep `cfg`, the
mode functions (SM / RM / DECSET / DECRST) keep the switch.
-/
import VaxisModel.Lemmas.EmuResize

namespace VaxisModel.Lemmas.EmuOsc8
open VaxisModel.Model.Emu VaxisModel.Gen.TermModes VaxisModel.Lemmas.EmuKeeps

theorem pure_inj {α : Type} {a b : α} (h : (pure a : M α) = .ok b) : a = b := by
  injection h

theorem ok_bind' {α β : Type} (a : α) (f : α → M β) : ((Except.ok a : M α) >>= f) = f a := rfl
theorem pure_bind' {α β : Type} (a : α) (f : α → M β) : ((pure a : M α) >>= f) = f a := rfl

/-- The arms that return a state computed without the grid keep `cfg`: each is a record update that names neither a
    mode nor the switch (`rfl`); the handlers listed are the ones that begin with an `if`. -/
local macro "pure_cfg" : tactic => `(tactic|
  (refine keeps_ok ?_
   first
   | rfl
   | (simp only [tbc, decstbm, hts, bs, cr]; (repeat' split) <;> rfl)))

theorem c0_keeps (fx : Fixes) (e : Emu) (r : Nat) : Keeps cfg Prod.fst e (c0 fx e r) := by
  have viaLf : Keeps cfg Prod.fst e (do .ok (← lf e, 0)) := keeps_then (lf_keeps e).toCfg fun _ => keeps_ok rfl
  unfold c0
  split
  · exact keeps_ok rfl
  · rename_i arm _
    cases arm
    case lf | vt | ff => exact viaLf
    all_goals pure_cfg

theorem smOne_o8 (tab : List (Int × ModeField)) (b : Bool) (e : Emu) (p : Param) : (smOne tab b e p).osc8 = e.osc8 := by
  unfold smOne; split <;> rfl

theorem foldl_o8 (f : Emu → Param → Emu) (hf : ∀ e p, (f e p).osc8 = e.osc8) :
    ∀ (pm : List Param) (e : Emu), (pm.foldl f e).osc8 = e.osc8
  | [], _ => rfl
  | p :: r, e => (foldl_o8 f hf r _).trans (hf e p)

theorem foldlM_o8 (f : Emu → Param → M Emu) (hf : ∀ e p, Keeps Emu.osc8 id e (f e p)) :
    ∀ (pm : List Param) (e : Emu), Keeps Emu.osc8 id e (pm.foldlM f e)
  | [], _ => keeps_ok rfl
  | p :: r, e => by
    rw [List.foldlM_cons]
    exact keeps_then (hf e p) (foldlM_o8 f hf r)

theorem decsc_o8 (e : Emu) : (decsc e).osc8 = e.osc8 := by unfold decsc; split <;> rfl
theorem decrc_o8 (e : Emu) : (decrc e).osc8 = e.osc8 := rfl

theorem decsetOne_o8 (fx : Fixes) (e : Emu) (p : Param) : Keeps Emu.osc8 id e (decsetOne fx e p) := by
  unfold decsetOne
  split
  · exact keeps_ok rfl
  · exact keeps_ite (keeps_ok rfl) <| keeps_ite
      (keeps_ite (keeps_then ((ed_keeps _ 2).toCfg.osc8.of (decsc_o8 e)) fun _ => keeps_ok rfl)
        (keeps_then (keeps_ok (decsc_o8 e)) fun _ => keeps_ok rfl))
      (keeps_ok rfl)

theorem decrstOne_o8 (e : Emu) (p : Param) : Keeps Emu.osc8 id e (decrstOne e p) := by
  unfold decrstOne
  split
  · exact keeps_ok rfl
  · exact keeps_ite (keeps_ok rfl) <| keeps_ite
      (keeps_ite (keeps_then (ed_keeps e 2).toCfg.osc8 fun _ => keeps_ok rfl) (keeps_then (keeps_ok rfl) fun _ => keeps_ok rfl))
      (keeps_ok rfl)

theorem csi_o8 (e : Emu) (label : List Nat) (pm0 : List Param) : Keeps Emu.osc8 id e (csi Fixes.current e label pm0) := by
  unfold csi
  dsimp only
  split
  · exact keeps_ok rfl
  · rename_i arm _
    cases arm
    case ich => exact (ich_keeps _ _ _).toCfg.osc8
    case cnl => exact (cnl_keeps _ _ _).toCfg.osc8
    case cpl => exact (cpl_keeps _ _ _).toCfg.osc8
    case ed => exact (ed_keeps _ _).toCfg.osc8
    case el => exact (el_keeps _ _ _).toCfg.osc8
    case il => exact (il_keeps _ _ _).toCfg.osc8
    case dl => exact (dl_keeps _ _ _).toCfg.osc8
    case dch => exact (dch_keeps _ _).toCfg.osc8
    case arm_53 => exact (scrollUp_keeps _ _).toCfg.osc8
    case arm_54 => exact keeps_ite (keeps_ok rfl) (scrollDown_keeps _ _).toCfg.osc8
    case ech => exact (ech_keeps _ _).toCfg.osc8
    case rep => exact (rep_keeps _ _ _).toCfg.osc8
    case sm | rm => exact keeps_ok (foldl_o8 _ (smOne_o8 _ _) _ _)
    case decset => exact foldlM_o8 _ (decsetOne_o8 _) _ _
    case decrst => exact foldlM_o8 _ decrstOne_o8 _ _
    case sgr => exact (sgr_keeps _ _).toCfg.osc8
    case decsc => exact keeps_ok (decsc_o8 e)
    all_goals pure_cfg

theorem esc_o8 (e : Emu) (label : List Nat) : Keeps Emu.osc8 id e (esc Fixes.current e label) := by
  unfold esc
  split
  · exact keeps_ok rfl
  · rename_i arm _
    cases arm
    case ind => exact (ind_keeps e).toCfg.osc8
    case nel => exact (nel_keeps e).toCfg.osc8
    case ri => exact (ri_keeps _ e).toCfg.osc8
    case decsc => exact keeps_ok (decsc_o8 e)
    all_goals pure_cfg

theorem emuStep_o8 {e : Emu} {op : EOp} {r : Emu × Nat} (h : emuStep e op = .ok r) : r.1.osc8 = e.osc8 := by
  have lift : ∀ {x : M Emu}, Keeps Emu.osc8 id e x → Keeps Emu.osc8 Prod.fst e (do .ok (← x, 0)) :=
    fun hx => keeps_then hx fun _ => keeps_ok rfl
  refine (?_ : Keeps Emu.osc8 Prod.fst e (emuStep e op)) r h
  cases op with
  | print g w => exact lift (print_keeps _ _ _ _).toCfg.osc8
  | c0 x => exact (c0_keeps _ _ _).osc8
  | esc l => exact lift (esc_o8 _ _)
  | csi l pm => exact lift (csi_o8 _ _ _)
  | osc d info => exact (osc_keeps _ _ _ _).toCfg.osc8
  | dcs => exact keeps_ok rfl
  | apc => exact keeps_ok rfl
  | resize w hh => exact lift fun _ h1 => (VaxisModel.Lemmas.EmuResize.resize_keep h1).osc8

end VaxisModel.Lemmas.EmuOsc8
