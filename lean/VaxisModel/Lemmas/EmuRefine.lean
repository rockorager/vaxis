/-
C06 refinement, foundation: the simulation relation `Sim t e` between a state `t` of the reference
terminal (Spec.Term) and a state `e` of the emulator model, and what the files on the grid operations share (the
clamped parameter, acceptance index by index).

`Sim t e rows cols` says: `e` is a well-formed `rows × cols` emulator state (EmuInv) in the modes the
C06 vocabulary cannot leave (autowrap on, insert mode off, LNM off, ASCII charset), and the reference
state `t` accepts what the emulator shows: same size, screen selector, cursor (the emulator's
column = width is the reference's pending-wrap flag), pen, margins, and every cell of the active
grid (`poison` and `cont` cells of the reference accept anything).
-/
import VaxisModel.Lemmas.EmuSafe1
import VaxisModel.Lemmas.EmuSafe2
import VaxisModel.Model.EmuAbs
import VaxisModel.Spec.Term
import VaxisModel.Lemmas.TermBasic

namespace VaxisModel.Lemmas.EmuRefine
open VaxisModel.Model.Emu VaxisModel.Model.EmuAbs VaxisModel.Lemmas.Emu VaxisModel.Spec

/-- The modes the vocabulary of C06 cannot change. -/
structure VocabModes (e : Emu) : Prop where
  awm : e.mode.decawm = true
  irm : e.mode.irm = false
  lnm : e.mode.lnm = false
  ascii : e.cs.desig e.cs.sel = 0
  noShift : e.cs.ss = false

theorem VocabModes.congr {e e' : Emu} (h : VocabModes e) (hm : e'.mode = e.mode) (hc : e'.cs = e.cs) :
    VocabModes e' :=
  ⟨hm ▸ h.awm, hm ▸ h.irm, hm ▸ h.lnm, hc ▸ h.ascii, hc ▸ h.noShift⟩

structure Sim (t : Term.T) (e : Emu) (rows cols : Nat) : Prop where
  inv : EmuInv e rows cols
  dim : Dim rows cols
  vm : VocabModes e
  trows : t.rows = rows
  tcols : t.cols = cols
  onAlt : t.onAlt = e.altActive
  row : (t.row : Int) = e.cur.row
  col : (t.col : Int) = (if e.cur.col ≥ cols then (cols : Int) - 1 else e.cur.col)
  pw : t.pw = decide (e.cur.col ≥ cols)
  pen : t.pen = absStyle e.cur.st
  link : t.link = e.cur.st.link
  top : (t.top : Int) = e.top
  bottom : (t.bottom : Int) = e.bottom
  grid : Term.gridAccepts t.grid (e.active.map absRow) = true

/-- What a refinement step has to deliver: the reference leaves the result unconstrained, or one of
    the states it accepts simulates the emulator's new state. -/
def Refines (r : Term.Res) (e' : Emu) (rows cols : Nat) : Prop :=
  match r with
  | .unconstrained => True
  | .accept l => ∃ t' ∈ l, Sim t' e' rows cols

/-- `print` reads the `lastCol` flag; `Sim` does not constrain it. What the code maintains: the
    flag is only set while the cursor is in the pending-wrap column. -/
def LastColOk (e : Emu) (cols : Nat) : Prop := e.lastCol = true → (cols : Int) ≤ e.cur.col

theorem refines_one {t' : Term.T} {e' : Emu} {rows cols : Nat} (h : Sim t' e' rows cols) :
    Refines (Term.one t') e' rows cols := ⟨t', List.mem_singleton.mpr rfl, h⟩

theorem col_lt_of_not_pw {t : Term.T} {e : Emu} {rows cols : Nat} (s : Sim t e rows cols)
    (hp : t.pw = false) : e.cur.col < cols := by
  have := s.pw; rw [hp] at this
  have h2 : ¬ (e.cur.col ≥ (cols : Int)) := by
    intro hc; simp [hc] at this
  omega

theorem tcol_eq {t : Term.T} {e : Emu} {rows cols : Nat} (s : Sim t e rows cols)
    (hp : t.pw = false) : (t.col : Int) = e.cur.col := by
  have hlt := col_lt_of_not_pw s hp
  have := s.col
  rw [this]; split <;> omega

/-! A count or position `n` reaches the reference as `d1 n` and the emulator as `dflt1 (cp n)`: the same
number, cut at 65535, which no screen reaches. -/

/-- the parameter as csi() hands it to the handler -/
def cp (n : Nat) : Int := clampParam (n : Int)

theorem cp_eq (n : Nat) : cp n = if n > 65535 then 65535 else (n : Int) := by
  unfold cp clampParam maxParam
  split <;> split <;> omega

theorem cp_ok (n : Nat) : POk (cp n) := by
  rw [cp_eq]; unfold POk; split <;> omega

theorem d1_pos (n : Nat) : 1 ≤ Term.d1 n := by
  unfold Term.d1; split <;> omega

theorem dflt1_cp (n : Nat) : dflt1 (cp n) = min (Term.d1 n : Int) 65535 := by
  simp only [dflt1, cp_eq, Term.d1]
  (repeat' split) <;> omega

theorem dflt1_cp_nat (n : Nat) : ∃ k : Nat, dflt1 (cp n) = (k : Int) ∧ 1 ≤ k ∧ k ≤ 65535 ∧
    ∀ x : Nat, x ≤ 65535 → min (Term.d1 n) x = min k x := by
  have := d1_pos n
  exact ⟨min (Term.d1 n) 65535, by rw [dflt1_cp]; omega, by omega, by omega, fun x hx => by omega⟩

theorem sim_setPen {t : Term.T} {e : Emu} {rows cols : Nat} (s : Sim t e rows cols)
    (tp : TStyle) (st : EStyle) (hp : tp = absStyle st) (hl : st.link = e.cur.st.link) :
    Sim { t with pen := tp } { e with cur := { e.cur with st := st } } rows cols :=
  { s with inv := { s.inv with }, vm := s.vm.congr rfl rfl
           pen := hp, link := by simp only; rw [hl]; exact s.link }

theorem accepts_poison (a : Term.TCell) : Term.TCell.accepts .poison a = true := rfl
theorem accepts_cont (a : Term.TCell) : Term.TCell.accepts .cont a = true := rfl

theorem row_at {g : Grid} {rows cols : Nat} (h : GridOk g rows cols) (r : Nat) (hr : r < rows) :
    ∃ row, g[r]? = some row ∧ row.length = cols := by
  have hlt : r < g.length := by rw [h.len]; exact hr
  exact ⟨g[r], List.getElem?_eq_getElem hlt, h.rowLen _ (List.getElem_mem hlt)⟩

theorem all_zip_iff {α β : Type} (p : α × β → Bool) : ∀ (l1 : List α) (l2 : List β),
    (l1.zip l2).all p = true ↔ ∀ (i : Nat) (a : α) (b : β), l1[i]? = some a → l2[i]? = some b → p (a, b) = true := by
  intro l1
  induction l1 with
  | nil => intro l2; simp
  | cons x xs ih =>
    intro l2
    cases l2 with
    | nil => simp
    | cons y ys =>
      simp only [List.zip_cons_cons, List.all_cons, Bool.and_eq_true, ih]
      constructor
      · rintro ⟨h0, hs⟩ i a b ha hb
        cases i with
        | zero =>
          simp only [List.getElem?_cons_zero, Option.some.injEq] at ha hb
          subst ha; subst hb; exact h0
        | succ i =>
          simp only [List.getElem?_cons_succ] at ha hb
          exact hs i a b ha hb
      · intro hh
        exact ⟨hh 0 x y (by simp) (by simp), fun i a b ha hb => hh (i + 1) a b (by simpa using ha) (by simpa using hb)⟩

theorem rowAccepts_iff (tr ar : Term.TRow) :
    Term.rowAccepts tr ar = true ↔
      tr.length = ar.length ∧ ∀ (j : Nat) (a b : Term.TCell), tr[j]? = some a → ar[j]? = some b → a.accepts b = true := by
  unfold Term.rowAccepts
  simp only [Bool.and_eq_true, decide_eq_true_eq, all_zip_iff]

theorem gridAccepts_iff (tg ag : Term.TGrid) :
    Term.gridAccepts tg ag = true ↔
      tg.length = ag.length ∧ ∀ (i : Nat) (a b : Term.TRow), tg[i]? = some a → ag[i]? = some b → Term.rowAccepts a b = true := by
  unfold Term.gridAccepts
  simp only [Bool.and_eq_true, decide_eq_true_eq, all_zip_iff]

theorem absCell_erase (c : ECell) (bg : Nat) : absCell (c.erase bg) = .blank (absCol bg) := by
  unfold absCell ECell.erase; simp

theorem accepts_blank_erase (c : ECell) (bg : Nat) :
    Term.TCell.accepts (.blank (absCol bg)) (absCell (c.erase bg)) = true := by
  rw [absCell_erase]; simp [Term.TCell.accepts]

theorem blank_eq {t : Term.T} {e : Emu} {rows cols : Nat} (s : Sim t e rows cols) :
    t.blank = .blank (absCol e.bg) := by
  unfold Term.T.blank Emu.bg; rw [s.pen]; rfl

theorem rowAccepts_cons (c x : Term.TCell) (r xs : Term.TRow) :
    Term.rowAccepts (c :: r) (x :: xs) = true ↔ c.accepts x = true ∧ Term.rowAccepts r xs = true := by
  simp only [Term.rowAccepts, List.length_cons, List.zip_cons_cons, List.all_cons, Bool.and_eq_true, decide_eq_true_eq]
  constructor
  · rintro ⟨hl, hc, ha⟩; exact ⟨hc, by omega, ha⟩
  · rintro ⟨hc, hl, ha⟩; exact ⟨by omega, hc, ha⟩

/-- `healRow` only turns cells into `poison` (which accepts anything) or leaves them. -/
theorem healGo_accepts : ∀ (r : Term.TRow) (a : List Term.TCell) (b : Bool),
    Term.rowAccepts r a = true → Term.rowAccepts (Term.healGo b r) a = true := by
  intro r
  induction r with
  | nil => intro a b h; simpa [Term.healGo] using h
  | cons c rest ih =>
    intro a b h
    cases a with
    | nil => simp [Term.rowAccepts] at h
    | cons x xs =>
      obtain ⟨hc, hrest⟩ := (rowAccepts_cons c x rest xs).mp h
      have key : ∀ (c' : Term.TCell) (b' : Bool), c'.accepts x = true →
          Term.rowAccepts (c' :: Term.healGo b' rest) (x :: xs) = true :=
        fun c' b' hc' => (rowAccepts_cons _ _ _ _).mpr ⟨hc', ih xs b' hrest⟩
      unfold Term.healGo
      cases c with
      | blank bg => exact key _ _ hc
      | poison => exact key _ _ hc
      | cont => simp only; split <;> exact key _ _ rfl
      | glyph g w st l =>
        simp only
        split
        · split
          · exact key _ _ hc
          · exact key _ _ rfl
        · exact key _ _ hc

theorem healRow_accepts (r : Term.TRow) (a : List Term.TCell) (h : Term.rowAccepts r a = true) :
    Term.rowAccepts (Term.healRow r) a = true := healGo_accepts r a false h

end VaxisModel.Lemmas.EmuRefine
