/-
C06 refinement, the full simulation relation `Sim2`: `Sim` (Lemmas/EmuRefine.lean) plus what is needed for print
(`LastColOk`), for DECSC/DECRC (the saved cursors correspond) and for the alternate screen (while it is active the
reference's primary grid still accepts the emulator's). The lemmas `sim2_*` rebuild `Sim2` after each kind of change an
operation of the vocabulary makes; both new states are written out there, so what the operation leaves alone
(`EFrame`, `TFrame`) is read off them.
-/
import VaxisModel.Lemmas.EmuRefine

namespace VaxisModel.Lemmas.EmuRefine
open VaxisModel.Model.Emu VaxisModel.Model.EmuAbs VaxisModel.Lemmas.Emu VaxisModel.Spec

/-- A saved cursor of the reference corresponds to a DECSC slot of the emulator. `none` (nothing
    saved: DECRC homes the cursor and resets the pen) corresponds to the emulator's initial slot. -/
def SavedRel (ts : Option Term.SavedCursor) (es : Saved) (cols : Nat) : Prop :=
  es.decawm = true ∧ es.cs.desig es.cs.sel = 0 ∧
  match ts with
  | none => es.cur.row = 0 ∧ es.cur.col = 0 ∧ absStyle es.cur.st = {} ∧ es.cur.st.link = []
  | some s =>
    (s.row : Int) = es.cur.row ∧
    (s.col : Int) = (if es.cur.col ≥ cols then (cols : Int) - 1 else es.cur.col) ∧
    s.pw = decide (es.cur.col ≥ cols) ∧ s.pen = absStyle es.cur.st ∧ s.link = es.cur.st.link

structure Sim2 (t : Term.T) (e : Emu) (rows cols : Nat) : Prop where
  sim : Sim t e rows cols
  lc : LastColOk e cols
  savedP : SavedRel t.savedP e.savedP cols
  savedA : SavedRel t.savedA e.savedA cols
  smcup : e.mode.smcup = e.altActive
  prim : e.altActive = true → Term.gridAccepts t.primary (e.primary.map absRow) = true

/-- What an emulator operation other than DECSC/DECRC/?1049 leaves alone. -/
structure EFrame (e e' : Emu) : Prop where
  savedP : e'.savedP = e.savedP
  savedA : e'.savedA = e.savedA
  smcup : e'.mode.smcup = e.mode.smcup
  altActive : e'.altActive = e.altActive
  inactive : e.altActive = true → e'.primary = e.primary

/-- What a reference step other than DECSC/DECRC/?1049 leaves alone. -/
structure TFrame (t t' : Term.T) : Prop where
  savedP : t'.savedP = t.savedP
  savedA : t'.savedA = t.savedA
  onAlt : t'.onAlt = t.onAlt
  inactive : t.onAlt = true → t'.primary = t.primary

theorem sim2_of_frame {t t' : Term.T} {e e' : Emu} {rows cols : Nat} (s2 : Sim2 t e rows cols)
    (s' : Sim t' e' rows cols) (hl : LastColOk e' cols) (fe : EFrame e e') (ft : TFrame t t') :
    Sim2 t' e' rows cols :=
  { sim := s', lc := hl
    savedP := by rw [ft.savedP, fe.savedP]; exact s2.savedP
    savedA := by rw [ft.savedA, fe.savedA]; exact s2.savedA
    smcup := by rw [fe.smcup, fe.altActive]; exact s2.smcup
    prim := by
      intro ha
      rw [fe.altActive] at ha
      have hon : t.onAlt = true := by rw [s2.sim.onAlt]; exact ha
      rw [ft.inactive hon, fe.inactive ha]
      exact s2.prim ha }

def Refines2 (r : Term.Res) (e' : Emu) (rows cols : Nat) : Prop :=
  match r with
  | .unconstrained => True
  | .accept l => ∃ t' ∈ l, Sim2 t' e' rows cols

theorem refines2_one {t' : Term.T} {e' : Emu} {rows cols : Nat} (h : Sim2 t' e' rows cols) :
    Refines2 (Term.one t') e' rows cols := ⟨t', List.mem_singleton.mpr rfl, h⟩

theorem refines2_unlessPw {t : Term.T} {f : Term.T → Term.Res} {e' : Emu} {rows cols : Nat}
    (h : t.pw = false → Refines2 (f t) e' rows cols) : Refines2 (Term.unlessPw t f) e' rows cols := by
  unfold Term.unlessPw
  split
  · trivial
  · rename_i hp; exact h (by simpa using hp)

/-- A handler that is `Safe` and tests the pending wrap on the reference side: what is left to show is
    that its result, whatever it is, is accepted where the reference constrains it. -/
theorem refines2_of_safe {t : Term.T} {f : Term.T → Term.Res} {rows cols : Nat} {r : M Emu}
    (hs : Safe rows cols r)
    (h : ∀ e', r = .ok e' → EmuInv e' rows cols → t.pw = false → Refines2 (f t) e' rows cols) :
    ∃ e', r = .ok e' ∧ Refines2 (Term.unlessPw t f) e' rows cols :=
  let ⟨e', he', hi⟩ := hs
  ⟨e', he', refines2_unlessPw (h e' he' hi)⟩

theorem EFrame.refl (e : Emu) : EFrame e e := ⟨rfl, rfl, rfl, rfl, fun _ => rfl⟩

theorem EFrame.trans {a b c : Emu} (h1 : EFrame a b) (h2 : EFrame b c) : EFrame a c :=
  ⟨h2.savedP.trans h1.savedP, h2.savedA.trans h1.savedA, h2.smcup.trans h1.smcup,
   h2.altActive.trans h1.altActive,
   fun h => (h2.inactive (h1.altActive.trans h)).trans (h1.inactive h)⟩

theorem setActive_frame (e : Emu) (g : Grid) : EFrame e (e.setActive g) := by
  unfold Emu.setActive
  split
  · exact ⟨rfl, rfl, rfl, rfl, fun _ => rfl⟩
  · rename_i h
    exact ⟨rfl, rfl, rfl, rfl, fun h' => absurd h' h⟩

theorem frame_lastCol (e : Emu) (b : Bool) : EFrame e { e with lastCol := b } :=
  ⟨rfl, rfl, rfl, rfl, fun _ => rfl⟩

theorem frame_cur (e : Emu) (c : Cursor) : EFrame e { e with cur := c } :=
  ⟨rfl, rfl, rfl, rfl, fun _ => rfl⟩

theorem frame_cur_lastCol (e : Emu) (c : Cursor) (b : Bool) : EFrame e { e with cur := c, lastCol := b } :=
  ⟨rfl, rfl, rfl, rfl, fun _ => rfl⟩

theorem TFrame.refl (t : Term.T) : TFrame t t := ⟨rfl, rfl, rfl, fun _ => rfl⟩

theorem tframe_row (t : Term.T) (r : Nat) : TFrame t { t with row := r } := ⟨rfl, rfl, rfl, fun _ => rfl⟩

theorem TFrame.trans {a b c : Term.T} (h1 : TFrame a b) (h2 : TFrame b c) : TFrame a c :=
  ⟨h2.savedP.trans h1.savedP, h2.savedA.trans h1.savedA, h2.onAlt.trans h1.onAlt,
   fun h => (h2.inactive (h1.onAlt.trans h)).trans (h1.inactive h)⟩

theorem setGrid_tframe (t : Term.T) (g : Term.TGrid) : TFrame t (t.setGrid g) := by
  unfold Term.T.setGrid
  split
  · exact ⟨rfl, rfl, rfl, fun _ => rfl⟩
  · rename_i h
    exact ⟨rfl, rfl, rfl, fun h' => absurd h' h⟩

theorem lastColOk_of_false {e : Emu} {cols : Nat} (h : e.lastCol = false) : LastColOk e cols := by
  intro h'; rw [h] at h'; cases h'

theorem lastCol_false_of_not_pw {t : Term.T} {e : Emu} {rows cols : Nat} (s : Sim t e rows cols)
    (hl : LastColOk e cols) (hp : t.pw = false) : e.lastCol = false := by
  have hc := col_lt_of_not_pw s hp
  cases h : e.lastCol with
  | false => rfl
  | true => have := hl h; omega

section rebuild
variable {t : Term.T} {e : Emu} {rows cols : Nat}

theorem sim2_cursor (s2 : Sim2 t e rows cols)
    (tr tc : Nat) (r c : Int) (hr : (tr : Int) = r) (hc : (tc : Int) = c) (hr1 : tr < rows) (hc1 : tc < cols) :
    Sim2 { t with row := tr, col := tc, pw := false }
        { ({ e with lastCol := false } : Emu) with cur := { e.cur with row := r, col := c } } rows cols := by
  subst hr; subst hc
  have s := s2.sim
  refine sim2_of_frame s2 ?_ (lastColOk_of_false rfl) ⟨rfl, rfl, rfl, rfl, fun _ => rfl⟩ ⟨rfl, rfl, rfl, fun _ => rfl⟩
  exact
  { s with
    inv := inv_setCursor s.inv tr tc false (by omega) (by omega) (by omega) (by omega)
    vm := s.vm.congr rfl rfl
    row := rfl
    col := by simp only; split <;> omega
    pw := by simp only; symm; rw [decide_eq_false_iff_not]; omega }

theorem sim2_cursorNoPw (s2 : Sim2 t e rows cols) (hp : t.pw = false)
    (tr tc : Nat) (r c : Int) (hr : (tr : Int) = r) (hc : (tc : Int) = c) (hr1 : tr < rows) (hc1 : tc < cols) :
    Sim2 { t with row := tr, col := tc }
        { ({ e with lastCol := false } : Emu) with cur := { e.cur with row := r, col := c } } rows cols := by
  have ht : ({ t with row := tr, col := tc } : Term.T) = { t with row := tr, col := tc, pw := false } := by
    rw [← hp]
  rw [ht]
  exact sim2_cursor s2 tr tc r c hr hc hr1 hc1

theorem sim2_moveRow (s2 : Sim2 t e rows cols) (tr : Nat) (r : Int) (hr : (tr : Int) = r) (hr1 : tr < rows)
    (lc : Bool) (hlc : lc = true → e.lastCol = true) :
    Sim2 { t with row := tr } { e with cur := { e.cur with row := r }, lastCol := lc } rows cols :=
  have s := s2.sim
  sim2_of_frame s2
    { s with inv := { s.inv with rowLo := by simp only; omega, rowHi := by simp only; omega }
             vm := s.vm.congr rfl rfl, row := hr }
    (fun h => s2.lc (hlc h)) ⟨rfl, rfl, rfl, rfl, fun _ => rfl⟩ ⟨rfl, rfl, rfl, fun _ => rfl⟩

theorem sim2_lastCol (s2 : Sim2 t e rows cols) : Sim2 t { e with lastCol := false } rows cols :=
  sim2_moveRow s2 t.row e.cur.row s2.sim.row
    (by have := s2.sim.row; have := s2.sim.inv.rowHi; omega) false nofun

theorem sim2_setGrid (s2 : Sim2 t e rows cols) (tg : Term.TGrid) (g : Grid) (hg : GridOk g rows cols)
    (hacc : Term.gridAccepts tg (g.map absRow) = true) (lc : Bool) (hlc : lc = true → e.lastCol = true) :
    Sim2 (t.setGrid tg) { (e.setActive g) with lastCol := lc } rows cols := by
  have s := s2.sim
  refine sim2_of_frame s2 ?_ (fun h => by have := s2.lc (hlc h); rwa [← setActive_cur e g] at this)
    ((setActive_frame e g).trans (frame_lastCol _ lc)) (setGrid_tframe t tg)
  have hi : EmuInv (e.setActive g) rows cols := setActive_inv s.inv hg
  have hact : ({ (e.setActive g) with lastCol := lc } : Emu).active = g := by
    show (Emu.active { (e.setActive g) with lastCol := lc }) = g
    have := setActive_active e g
    unfold Emu.active at this ⊢
    simpa using this
  exact
  { inv := { hi with }  -- `hi` is about `e.setActive g`; `EmuInv` does not read `lastCol`
    dim := s.dim
    vm := s.vm.congr (setActive_mode e g) (setActive_cs e g)
    trows := by rw [setGrid_keeps t tg (·.rows) fun _ _ => ⟨rfl, rfl⟩]; exact s.trows
    tcols := by rw [setGrid_keeps t tg (·.cols) fun _ _ => ⟨rfl, rfl⟩]; exact s.tcols
    onAlt := by rw [setGrid_keeps t tg (·.onAlt) fun _ _ => ⟨rfl, rfl⟩]; simpa using s.onAlt
    row := by rw [setGrid_keeps t tg (·.row) fun _ _ => ⟨rfl, rfl⟩]; simpa using s.row
    col := by rw [setGrid_keeps t tg (·.col) fun _ _ => ⟨rfl, rfl⟩]; simpa using s.col
    pw := by rw [setGrid_keeps t tg (·.pw) fun _ _ => ⟨rfl, rfl⟩]; simpa using s.pw
    pen := by rw [setGrid_keeps t tg (·.pen) fun _ _ => ⟨rfl, rfl⟩]; simpa using s.pen
    link := by rw [setGrid_keeps t tg (·.link) fun _ _ => ⟨rfl, rfl⟩]; simpa using s.link
    top := by rw [setGrid_keeps t tg (·.top) fun _ _ => ⟨rfl, rfl⟩]; simpa using s.top
    bottom := by rw [setGrid_keeps t tg (·.bottom) fun _ _ => ⟨rfl, rfl⟩]; simpa using s.bottom
    grid := by rw [grid_setGrid, hact]; exact hacc }

theorem sim2_setPen (s2 : Sim2 t e rows cols) (tp : TStyle) (st : EStyle) (hp : tp = absStyle st)
    (hl : st.link = e.cur.st.link) :
    Sim2 { t with pen := tp } { e with cur := { e.cur with st := st } } rows cols :=
  sim2_of_frame s2 (sim_setPen s2.sim tp st hp hl) (fun h => s2.lc h)
    ⟨rfl, rfl, rfl, rfl, fun _ => rfl⟩ ⟨rfl, rfl, rfl, fun _ => rfl⟩

end rebuild

end VaxisModel.Lemmas.EmuRefine
