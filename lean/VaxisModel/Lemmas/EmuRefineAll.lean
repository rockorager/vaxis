/-
C06 refinement, final assembly: one step and all histories over the whole vocabulary, SGR included.
-/
import VaxisModel.Lemmas.EmuRefineStep
import VaxisModel.Lemmas.EmuRefineSgr

namespace VaxisModel.Lemmas.EmuRefine
open VaxisModel.Model.Emu VaxisModel.Model.EmuAbs VaxisModel.Lemmas.Emu VaxisModel.Spec

theorem csi_109 (e : Emu) (pm : List Param) :
    csi Fixes.current e [109] pm = sgr e (clampParams pm) := rfl

theorem sgr_step2 {t : Term.T} {e : Emu} {rows cols : Nat} (s2 : Sim2 t e rows cols)
    {pm : List Param} {ps : List (List Nat)} (hp : sgrParams pm = some ps) (hw : WfSgr ps = true) :
    ∃ r, emuStep e (.csi [109] pm) = .ok r ∧ Refines2 (Term.step t (.sgr ps)) r.1 rows cols := by
  obtain ⟨st', hs, habs, hk⟩ := sgr_pen e hp hw
  have hstep : emuStep e (.csi [109] pm) = .ok ({ e with cur := { e.cur with st := st' } }, 0) :=
    emuStep_csi_ok (by rw [csi_109]; exact hs)
  refine ⟨_, hstep, refines2_one (sim2_setPen s2 _ st' ?_ hk.link)⟩
  rw [habs, s2.sim.pen]

/-- An operation of the vocabulary with its token: printed graphemes non-empty; an SGR token comes
    from `CSI pm m` (that is what `tokOf` does) with well-formed parameters (`WfSgr`: complete
    extended-colour forms, `4:k` with k ≤ 5). -/
def VocabOpAll (op : EOp) (tok : Term.Tok) : Prop :=
  tokOf op = some tok ∧
  (∀ ps, tok = .sgr ps → WfSgr ps = true ∧ ∃ pm, op = .csi [109] pm ∧ sgrParams pm = some ps) ∧
  (∀ g w, op = .print g w → g ≠ [])

theorem emu_refines_step_all {t : Term.T} {e : Emu} {rows cols : Nat} (op : EOp) (tok : Term.Tok)
    (hv : VocabOpAll op tok) (s2 : Sim2 t e rows cols) :
    ∃ r, emuStep e op = .ok r ∧ Refines2 (Term.step t tok) r.1 rows cols := by
  by_cases hs : ∃ ps, tok = .sgr ps
  · obtain ⟨ps, rfl⟩ := hs
    obtain ⟨hw, pm, rfl, hp⟩ := hv.2.1 ps rfl
    exact sgr_step2 s2 hp hw
  · exact emu_refines_step op tok hv.1 (fun pm hc => hs ⟨pm, hc⟩) hv.2.2 s2

inductive VocabHistAll : List EOp → List Term.Tok → Prop
  | nil : VocabHistAll [] []
  | cons {op : EOp} {tok : Term.Tok} {ops : List EOp} {toks : List Term.Tok}
      (h : VocabOpAll op tok) (rest : VocabHistAll ops toks) : VocabHistAll (op :: ops) (tok :: toks)

theorem VocabHistAll.hist {ops : List EOp} {toks : List Term.Tok} (h : VocabHistAll ops toks) :
    Hist VocabOpAll ops toks := by
  induction h with
  | nil => exact .nil
  | cons h _ ih => exact .cons h ih

theorem emu_refines_history_all (hs : StepSafe) {rows cols : Nat} {ops : List EOp} {toks : List Term.Tok}
    (hv : VocabHistAll ops toks) {t : Term.T} {e : Emu} (s2 : Sim2 t e rows cols) :
    ∃ e', runOps e ops = .ok e' ∧ SpecAllows t toks e' rows cols :=
  history_of_step (J := fun _ => True) hs (fun h => vocab_not_resize h.1) (fun _ _ => trivial)
    (fun h s2 _ => emu_refines_step_all _ _ h s2) hv.hist s2 trivial

theorem emu_refines_session_all (hs : StepSafe) (w h : Int) (hw1 : 1 ≤ w) (hw2 : w ≤ 65535) (hh1 : 1 ≤ h)
    (hh2 : h ≤ 65535) {ops : List EOp} {toks : List Term.Tok} (hv : VocabHistAll ops toks) :
    ∃ e0 e', Emu.new Fixes.current w h = .ok e0 ∧ runOps e0 ops = .ok e' ∧
      SpecAllows (Term.T.init h.toNat w.toNat) toks e' h.toNat w.toNat :=
  session_of w h hw1 hw2 hh1 hh2 (emu_refines_history_all hs hv)

end VaxisModel.Lemmas.EmuRefine
