/-
C06 refinement: operations that move the cursor or set the margins (CR, CUP/HVP, CHA/HPA,
VPA, CUU, CUD, CUF, CUB, CNL, CPL, DECSTBM). The emulator receives the parameter after the clamp of
csi() (`clampParam`), the reference receives the raw parameter; they agree because the screen has
at most 65535 lines/columns.

Every handler clears `lastCol` and writes a cursor position, so every proof is `sim2_cursor` (or
`sim2_cursorNoPw`, behind the reference's pending-wrap test) applied to two equations between the
reference's `Nat` position and the emulator's `Int` position.
-/
import VaxisModel.Lemmas.EmuRefine2

namespace VaxisModel.Lemmas.EmuRefine
open VaxisModel.Model.Emu VaxisModel.Model.EmuAbs VaxisModel.Lemmas.Emu VaxisModel.Spec

theorem cr_refines2 {t : Term.T} {e : Emu} {rows cols : Nat} (s2 : Sim2 t e rows cols) :
    Refines2 (Term.step t .cr) (cr e) rows cols := by
  have s := s2.sim
  have := s.dim.c1; have := s.inv.rowHi; have hr := s.row
  refine refines2_one (sim2_cursor s2 t.row 0 e.cur.row e.left hr (by rw [s.inv.left0]; rfl) (by omega) (by omega))

theorem height_lc {e : Emu} {rows cols : Nat} (h : EmuInv e rows cols) : ({ e with lastCol := false } : Emu).height = rows :=
  height_eq (e := { e with lastCol := false }) { h with }
theorem width_lc {e : Emu} {rows cols : Nat} (h : EmuInv e rows cols) (hr : 1 ≤ rows) : ({ e with lastCol := false } : Emu).width = cols :=
  width_eq (e := { e with lastCol := false }) { h with } hr

/-- `absPos` as the emulator computes it: one less than the count, cut to the last line / column. -/
theorem absPos_cast {n size : Nat} (h1 : 1 ≤ size) (hm : size ≤ 65535) :
    ((Term.absPos n size : Nat) : Int) =
      if dflt1 (cp n) - 1 > (size : Int) - 1 then (size : Int) - 1 else dflt1 (cp n) - 1 := by
  have := d1_pos n
  rw [dflt1_cp]; unfold Term.absPos
  split <;> omega

theorem absPos_lt {n size : Nat} (h1 : 1 ≤ size) : Term.absPos n size < size := by
  unfold Term.absPos; omega

/-- unfold the clamps on both sides, split every `if`, finish with `omega` -/
local macro "c06_arith" hh:ident hw:ident : tactic => `(tactic| (
  simp only [Fixes.current, Bool.true_and, $hh:ident, $hw:ident, cp_eq, Term.absPos, Term.d1, dflt1,
    decide_eq_true_eq, Bool.not_eq_true', decide_eq_false_iff_not] at *
  (repeat' split) <;> omega))

section
variable {t : Term.T} {e : Emu} {rows cols : Nat}

/-- CUP does not default its parameters: `x` is the zero-based position it computes before cutting
    it to the screen, `cp n - 1` for a parameter that is present and `0` for an omitted one. -/
theorem absPos_cup {n size : Nat} {x : Int} (hx : x = cp n - 1 ∨ (n = 0 ∧ x = 0)) (h1 : 1 ≤ size) (hm : size ≤ 65535) :
    ((Term.absPos n size : Nat) : Int) =
      (let y := if x > (size : Int) - 1 then (size : Int) - 1 else x
       if Fixes.current.f15 && decide (y < 0) then 0 else y) := by
  rw [absPos_cast h1 hm]
  rcases hx with rfl | ⟨rfl, rfl⟩ <;>
    simp only [Fixes.current, Bool.true_and, decide_eq_true_eq, dflt1, cp_eq] <;> (repeat' split) <;> omega

theorem cup_refines2 (s2 : Sim2 t e rows cols) (ps' : List Nat) (hl : ps'.length ≤ 2) :
    Refines2 (Term.step t (.cup (nth0 ps' 0) (nth0 ps' 1)))
      (cup Fixes.current e (ps'.map fun n => (cp n, []))) rows cols := by
  have s := s2.sim
  obtain ⟨rfl, rfl⟩ := And.intro s.trows s.tcols
  have hh := height_lc s.inv; have hw := width_lc s.inv s.dim.r1
  have hr := s.dim.r1; have hc := s.dim.c1
  refine refines2_one ?_
  match ps', hl with
  | [], _ =>
    exact sim2_cursor s2 _ _ _ _ (hh ▸ absPos_cup (.inr ⟨rfl, rfl⟩) hr s.dim.rmax)
      (hw ▸ absPos_cup (.inr ⟨rfl, rfl⟩) hc s.dim.cmax) (absPos_lt hr) (absPos_lt hc)
  | [a], _ =>
    exact sim2_cursor s2 _ _ _ _ (hh ▸ absPos_cup (.inl rfl) hr s.dim.rmax)
      (hw ▸ absPos_cup (.inr ⟨rfl, rfl⟩) hc s.dim.cmax) (absPos_lt hr) (absPos_lt hc)
  | [a, b], _ =>
    exact sim2_cursor s2 _ _ _ _ (hh ▸ absPos_cup (.inl rfl) hr s.dim.rmax)
      (hw ▸ absPos_cup (.inl rfl) hc s.dim.cmax) (absPos_lt hr) (absPos_lt hc)

theorem cha_refines2 (s2 : Sim2 t e rows cols) (n : Nat) :
    Refines2 (Term.step t (.cha n)) (cha e (cp n)) rows cols := by
  have s := s2.sim
  obtain rfl := s.tcols
  have hc := absPos_cast (n := n) s.dim.c1 s.dim.cmax
  have := dflt1_cp n; have := d1_pos n; have := s.inv.left0; have := s.inv.right
  have := s.row; have := s.inv.rowHi
  refine refines2_one (sim2_cursor s2 t.row _ e.cur.row _ s.row ?_ (by omega) (absPos_lt s.dim.c1))
  rw [hc]
  show _ = if (if dflt1 (cp n) - 1 > e.right then e.right else dflt1 (cp n) - 1) < e.left then e.left
    else if dflt1 (cp n) - 1 > e.right then e.right else dflt1 (cp n) - 1
  (repeat' split) <;> omega

theorem hpa_refines2 (s2 : Sim2 t e rows cols) (n : Nat) :
    Refines2 (Term.step t (.cha n)) (hpa e (cp n)) rows cols := by
  have s := s2.sim
  obtain rfl := s.tcols
  have := s.row; have := s.inv.rowHi
  exact refines2_one (sim2_cursor s2 t.row _ e.cur.row _ s.row
    (width_lc s.inv s.dim.r1 ▸ absPos_cast s.dim.c1 s.dim.cmax) (by omega) (absPos_lt s.dim.c1))

theorem tcol_lt (s : Sim t e rows cols) : t.col < cols := by
  have h := s.col; have := s.dim.c1; have := s.inv.colLo
  split at h <;> omega

theorem vpa_refines2 (s2 : Sim2 t e rows cols) (n : Nat) :
    Refines2 (Term.step t (.vpa n)) (vpa Fixes.current e (cp n)) rows cols := by
  have s := s2.sim
  obtain rfl := s.trows
  have := s.col; have := s.inv.right
  refine refines2_one (sim2_cursor s2 _ t.col _ _ (height_lc s.inv ▸ absPos_cast s.dim.r1 s.dim.rmax) ?_
    (absPos_lt s.dim.r1) (tcol_lt s))
  show _ = if Fixes.current.f106a && decide (e.cur.col > e.right) then e.right else e.cur.col
  simp only [Fixes.current, Bool.true_and, decide_eq_true_eq]
  (repeat' split) <;> omega

theorem cuuCore_row (s : Sim t e rows cols) (n : Nat) :
    ((t.cuuCore n).row : Int) = (cuu e (cp n)).cur.row ∧ (t.cuuCore n).row < rows := by
  have := s.row; have := s.top; have := s.inv.rowHi; have := s.inv.topLo; have := s.dim.rmax
  have := dflt1_cp n; have := d1_pos n
  show ((max (t.row - Term.d1 n) (if t.row ≥ t.top then t.top else 0) : Nat) : Int) =
      (if e.cur.row - dflt1 (cp n) < (if e.cur.row ≥ e.top then e.top else 0)
        then (if e.cur.row ≥ e.top then e.top else 0) else e.cur.row - dflt1 (cp n)) ∧
    max (t.row - Term.d1 n) (if t.row ≥ t.top then t.top else 0) < rows
  (repeat' split) <;> omega

theorem cudCore_row (s : Sim t e rows cols) (n : Nat) :
    ((t.cudCore n).row : Int) = (cud Fixes.current e (cp n)).cur.row ∧ (t.cudCore n).row < rows := by
  obtain rfl := s.trows
  have := s.row; have := s.bottom; have := s.inv.rowHi; have := s.inv.botHi; have := s.dim.rmax
  have := dflt1_cp n; have := d1_pos n; have hh := height_lc s.inv
  show ((min (t.row + Term.d1 n) (if t.row ≤ t.bottom then t.bottom else t.rows - 1) : Nat) : Int) =
      (let clamp : Int := if Fixes.current.f106b && !decide (e.cur.row ≤ e.bottom)
          then ({ e with lastCol := false } : Emu).height - 1 else e.bottom
       if e.cur.row + dflt1 (cp n) > clamp then clamp else e.cur.row + dflt1 (cp n)) ∧
    min (t.row + Term.d1 n) (if t.row ≤ t.bottom then t.bottom else t.rows - 1) < t.rows
  simp only [Fixes.current, Bool.true_and, Bool.not_eq_true', decide_eq_false_iff_not, hh]
  (repeat' split) <;> omega

theorem cuu_refines2 (s2 : Sim2 t e rows cols) (n : Nat) :
    Refines2 (Term.step t (.cuu n)) (cuu e (cp n)) rows cols :=
  have s := s2.sim
  refines2_unlessPw (f := fun t => Term.one (t.cuuCore n)) fun hp => refines2_one <|
    sim2_cursorNoPw s2 hp (t.cuuCore n).row t.col _ e.cur.col (cuuCore_row s n).1 (tcol_eq s hp) (cuuCore_row s n).2 (tcol_lt s)

theorem cud_refines2 (s2 : Sim2 t e rows cols) (n : Nat) :
    Refines2 (Term.step t (.cud n)) (cud Fixes.current e (cp n)) rows cols :=
  have s := s2.sim
  refines2_unlessPw (f := fun t => Term.one (t.cudCore n)) fun hp => refines2_one <|
    sim2_cursorNoPw s2 hp (t.cudCore n).row t.col _ e.cur.col (cudCore_row s n).1 (tcol_eq s hp) (cudCore_row s n).2 (tcol_lt s)

/-- CNL is CUD followed by a move to the left margin (F54). -/
theorem cnl_refines2 (s2 : Sim2 t e rows cols) (n : Nat) :
    ∃ e', cnl Fixes.current e (cp n) = .ok e' ∧ Refines2 (Term.step t (.cnl n)) e' rows cols :=
  have s := s2.sim
  ⟨_, rfl, refines2_unlessPw (f := fun t => Term.one { t.cudCore n with col := 0 }) fun hp => refines2_one <|
    sim2_cursorNoPw s2 hp (t.cudCore n).row 0 _ e.left (cudCore_row s n).1 (by rw [s.inv.left0]; rfl) (cudCore_row s n).2 s.dim.c1⟩

theorem cpl_refines2 (s2 : Sim2 t e rows cols) (n : Nat) :
    ∃ e', cpl Fixes.current e (cp n) = .ok e' ∧ Refines2 (Term.step t (.cpl n)) e' rows cols :=
  have s := s2.sim
  ⟨_, rfl, refines2_unlessPw (f := fun t => Term.one { t.cuuCore n with col := 0 }) fun hp => refines2_one <|
    sim2_cursorNoPw s2 hp (t.cuuCore n).row 0 _ e.left (cuuCore_row s n).1 (by rw [s.inv.left0]; rfl) (cuuCore_row s n).2 s.dim.c1⟩

theorem cuf_refines2 (s2 : Sim2 t e rows cols) (n : Nat) :
    Refines2 (Term.step t (.cuf n)) (cuf e (cp n)) rows cols := by
  have s := s2.sim
  obtain rfl := s.tcols
  refine refines2_unlessPw (f := fun t => Term.one { t with col := min (t.col + Term.d1 n) (t.cols - 1) }) fun hp => ?_
  have := tcol_eq s hp; have := tcol_lt s; have := s.inv.right; have := s.dim.cmax
  have := dflt1_cp n; have := d1_pos n; have := s.row; have := s.inv.rowHi
  refine refines2_one (sim2_cursorNoPw s2 hp t.row _ e.cur.row _ s.row ?_ (by omega) (by omega))
  show _ = if e.cur.col + dflt1 (cp n) > e.right then e.right else e.cur.col + dflt1 (cp n)
  split <;> omega

theorem cub_refines2 (s2 : Sim2 t e rows cols) (n : Nat) :
    Refines2 (Term.step t (.cub n)) (cub e (cp n)) rows cols := by
  have s := s2.sim
  refine refines2_unlessPw (f := fun t => Term.one { t with col := t.col - Term.d1 n }) fun hp => ?_
  have := tcol_eq s hp; have := tcol_lt s; have := s.inv.left0; have := s.dim.cmax
  have := dflt1_cp n; have := d1_pos n; have := s.row; have := s.inv.rowHi
  refine refines2_one (sim2_cursorNoPw s2 hp t.row _ e.cur.row _ s.row ?_ (by omega) (by omega))
  show _ = if e.cur.col - dflt1 (cp n) < e.left then e.left else e.cur.col - dflt1 (cp n)
  split <;> omega

/-! DECSTBM: the reference accepts "clamped" or "ignored" for a bottom margin below the screen; the emulator
(with F17) clamps the bottom margin to the last line and then ignores the sequence when
`top ≥ bottom`. -/

theorem sim2_setMargins (s2 : Sim2 t e rows cols)
    (tt tb : Nat) (top bot : Int) (h1 : (tt : Int) = top) (h2 : (tb : Int) = bot) (hle : tt ≤ tb) (hb : tb < rows) :
    Sim2 { t with top := tt, bottom := tb, row := 0, col := 0, pw := false }
        { e with lastCol := false, top := top, bottom := bot, cur := { e.cur with row := 0, col := 0 } } rows cols := by
  subst h1; subst h2
  have s := s2.sim
  have := s.dim.r1; have := s.dim.c1
  refine sim2_of_frame s2 ?_ (lastColOk_of_false rfl) ⟨rfl, rfl, rfl, rfl, fun _ => rfl⟩ ⟨rfl, rfl, rfl, fun _ => rfl⟩
  exact
  { s with
    inv := { s.inv with rowLo := by simp, rowHi := by simp only; omega, colLo := by simp, colHi := by simp only; omega,
                        topLo := by simp only; omega, topLe := by simp only; omega, botHi := by simp only; omega }
    vm := s.vm.congr rfl rfl
    row := rfl
    col := by simp only; split <;> omega
    pw := by simp only; symm; rw [decide_eq_false_iff_not]; omega
    top := rfl, bottom := rfl }

/-- The margins the handler computes, whatever the number of parameters: `top` is the first
    parameter (1 if omitted or 0) less one, `bot` the second (the last line if omitted, 0 or below
    the screen) less one. -/
theorem decstbm_margins (s2 : Sim2 t e rows cols) (a b : Nat) {top bot : Int}
    (hT : top = dflt1 (cp a) - 1) (hB : bot = min (if b = 0 then (rows : Int) else b) rows - 1) :
    Refines2 (Term.step t (.decstbm a b))
      (if top ≥ bot then e
       else { e with lastCol := false, top := top, bottom := bot, cur := { e.cur with row := 0, col := 0 } })
      rows cols := by
  have s := s2.sim
  obtain rfl := s.trows
  have := s.dim.r1; have := s.dim.rmax; have := d1_pos a
  have hB' : (if b = 0 then (t.rows : Int) else b) = ((if b = 0 then t.rows else b : Nat) : Int) := by
    split <;> rfl
  rw [hB'] at hB; rw [dflt1_cp] at hT
  simp only [Term.step, Term.one]
  generalize (if b = 0 then t.rows else b) = B at hB ⊢
  generalize Term.d1 a = D at *
  by_cases hb : B ≤ t.rows
  · rw [if_pos hb]
    by_cases ht : D < B
    · rw [if_pos ht, if_neg (by omega)]
      exact refines2_one (sim2_setMargins s2 _ _ _ _ (by omega) (by omega) (by omega) (by omega))
    · rw [if_neg ht, if_pos (by omega)]
      exact refines2_one s2
  · rw [if_neg hb]
    by_cases ht : D < t.rows
    · rw [if_pos ht, if_neg (by omega)]
      exact ⟨_, List.mem_append_left _ (List.mem_singleton.mpr rfl),
        sim2_setMargins s2 _ _ _ _ (by omega) (by omega) (by omega) (by omega)⟩
    · rw [if_neg ht, if_pos (by omega)]
      exact ⟨t, List.mem_append_right _ (List.mem_singleton.mpr rfl), s2⟩

/-- `x` is the zero-based top margin before the cut at 0 (F17): `cp a - 1`, or `0` when omitted. -/
theorem stbm_top {a : Nat} {x : Int} (hx : x = cp a - 1 ∨ (a = 0 ∧ x = 0)) :
    (if Fixes.current.f17 && decide (x < 0) then 0 else x) = dflt1 (cp a) - 1 := by
  rcases hx with rfl | ⟨rfl, rfl⟩ <;>
    simp only [Fixes.current, Bool.true_and, decide_eq_true_eq, dflt1, cp_eq] <;> (repeat' split) <;> omega

/-- `x` is the zero-based bottom margin before the cut to the screen of height `h` (F17): `cp b - 1`,
    or the last line when omitted. -/
theorem stbm_bot {b rows : Nat} {h x : Int} (hh : h = rows) (hx : x = cp b - 1 ∨ (b = 0 ∧ x = h - 1))
    (hm : rows ≤ 65535) :
    (if Fixes.current.f17 && (decide (x < 0) || decide (x > h - 1)) then h - 1 else x) =
      min (if b = 0 then (rows : Int) else b) rows - 1 := by
  subst hh
  rcases hx with rfl | ⟨rfl, rfl⟩ <;>
    simp only [Fixes.current, Bool.true_and, Bool.or_eq_true, decide_eq_true_eq, cp_eq, ↓reduceIte] <;>
    (repeat' split) <;> omega

theorem decstbm_refines2 (s2 : Sim2 t e rows cols) (ps' : List Nat) (hl : ps'.length ≤ 2) :
    Refines2 (Term.step t (.decstbm (nth0 ps' 0) (nth0 ps' 1)))
      (decstbm Fixes.current e (ps'.map fun n => (cp n, []))) rows cols := by
  have hh := height_eq s2.sim.inv; have hm := s2.sim.dim.rmax
  match ps', hl with
  | [], _ => exact decstbm_margins s2 _ _ (stbm_top (.inr ⟨rfl, rfl⟩)) (stbm_bot hh (.inr ⟨rfl, rfl⟩) hm)
  | [a], _ => exact decstbm_margins s2 _ _ (stbm_top (.inl rfl)) (stbm_bot hh (.inr ⟨rfl, rfl⟩) hm)
  | [a, b], _ => exact decstbm_margins s2 _ _ (stbm_top (.inl rfl)) (stbm_bot hh (.inl rfl) hm)

end
end VaxisModel.Lemmas.EmuRefine
