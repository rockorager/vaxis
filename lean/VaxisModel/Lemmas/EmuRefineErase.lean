/-
C06 refinement: the erase operations (EL, ED, ECH).

First what a successful run of the emulator's loops computed (every cell of the grid after the loop,
`cellAt`; no hypothesis on the grid: an access that succeeded was inside it), then the connection to
the reference terminal, whose `blankRange` is a `mapIdx` and whose `T.modRow` is `List.modify` + `healRow`. That the
handlers succeed and keep the grid rectangular is Lemmas/EmuSafe3.lean.
-/
import VaxisModel.Lemmas.EmuRefine2
import VaxisModel.Lemmas.EmuSafe3

/-! Auxiliary lemmas live in their own namespace (sibling files of the C06 refinement define
    lemmas with similar names). -/
namespace VaxisModel.Lemmas.EmuRefine.EraseAux
open VaxisModel.Model.Emu VaxisModel.Model.EmuAbs VaxisModel.Lemmas.Emu VaxisModel.Spec

/-- The cell at row `i`, column `j` (`none` outside the grid). -/
def cellAt (g : Grid) (i j : Nat) : Option ECell :=
  match g[i]? with
  | some row => row[j]?
  | none => none

theorem cellAt_of_row {g : Grid} {i : Nat} {row : Row} (h : g[i]? = some row) (j : Nat) :
    cellAt g i j = row[j]? := by
  unfold cellAt; rw [h]

theorem modCell_cells {g g' : Grid} {r c : Int} {f : ECell → ECell} (h : modCell g r c f = .ok g') (i j : Nat) :
    cellAt g' i j = if (i : Int) = r ∧ (j : Int) = c then (cellAt g i j).map f else cellAt g i j := by
  obtain ⟨row, x, ⟨hr0, hr⟩, ⟨hc0, hx⟩, rfl⟩ := modCell_eq_ok.mp h
  unfold cellAt
  by_cases hi : (i : Int) = r
  · obtain rfl : i = r.toNat := by omega
    rw [List.getElem?_set_self (List.getElem?_eq_some_iff.mp hr).1, hr]
    by_cases hj : (j : Int) = c
    · obtain rfl : j = c.toNat := by omega
      simp [hi, hj, List.getElem?_set_self (List.getElem?_eq_some_iff.mp hx).1, hx]
    · simp [hi, hj, List.getElem?_set_ne (show c.toNat ≠ j by omega)]
  · simp [hi, List.getElem?_set_ne (show r.toNat ≠ i by omega)]

theorem colLoop_cells {g g' : Grid} (r lo hi : Int) (bg : Nat) (skip : Int → Prop) [DecidablePred skip]
    (h : forUp lo hi (fun c g => if skip c then .ok g else modCell g r c (·.erase bg)) g = .ok g') (i j : Nat) :
    cellAt g' i j =
      if (i : Int) = r ∧ lo ≤ (j : Int) ∧ (j : Int) ≤ hi ∧ ¬ skip j
      then (cellAt g i j).map (·.erase bg) else cellAt g i j := by
  by_cases hle : lo ≤ hi + 1
  · rw [forUp_run
      (fun k s => ∀ i j, cellAt s i j =
        if (i : Int) = r ∧ lo ≤ (j : Int) ∧ (j : Int) < k ∧ ¬ skip j
        then (cellAt g i j).map (·.erase bg) else cellAt g i j)
      _ lo hi g g' hle (fun i j => by rw [if_neg (fun hh => by omega)])
      (by
        intro k s s' hk0 hk1 hP hb i j
        by_cases hskip : skip k
        · rw [if_pos hskip] at hb; cases hb
          rw [hP i j]
          apply ite_iff
          constructor
          · rintro ⟨a, b, c, d⟩; exact ⟨a, b, by omega, d⟩
          · rintro ⟨a, b, c, d⟩
            refine ⟨a, b, ?_, d⟩
            by_cases hjk : (j : Int) = k
            · subst hjk; exact absurd hskip d
            · omega
        · rw [if_neg hskip] at hb
          rw [modCell_cells hb i j, hP i j]
          by_cases h1 : (i : Int) = r ∧ (j : Int) = k
          · obtain ⟨hi, hj⟩ := h1
            subst hj
            rw [if_pos ⟨hi, rfl⟩, if_neg (fun hh => by omega), if_pos ⟨hi, hk0, by omega, hskip⟩]
          · rw [if_neg h1]
            apply ite_iff
            constructor
            · rintro ⟨a, b, c, d⟩; exact ⟨a, b, by omega, d⟩
            · rintro ⟨a, b, c, d⟩; exact ⟨a, b, by omega, d⟩) h i j]
    apply ite_iff
    constructor
    · rintro ⟨a, b, c, d⟩; exact ⟨a, b, by omega, d⟩
    · rintro ⟨a, b, c, d⟩; exact ⟨a, b, by omega, d⟩
  · rw [forUp_empty_run (by omega) h, if_neg (fun hh => by omega)]

theorem eraseCols_cells {g g' : Grid} {r lo hi : Int} {bg : Nat} (h : eraseCols g r lo hi bg = .ok g') (i j : Nat) :
    cellAt g' i j =
      if (i : Int) = r ∧ lo ≤ (j : Int) ∧ (j : Int) ≤ hi
      then (cellAt g i j).map (·.erase bg) else cellAt g i j := by
  have h1 : forUp lo hi (fun c g => if (fun _ => False) c then .ok g else modCell g r c (·.erase bg)) g = .ok g' := by
    simpa only [if_false, eraseCols] using h
  rw [colLoop_cells r lo hi bg (fun _ => False) h1 i j]
  exact ite_iff (by simp) _ _

theorem eraseCols_spec {g : Grid} {rows cols : Nat} (h : GridOk g rows cols) (r lo hi : Int) (bg : Nat)
    (hr0 : 0 ≤ r) (hr1 : r < rows) (hlo : 0 ≤ lo) (hhi : hi < cols) (hc : (cols : Int) ≤ hangLimit) :
    ∃ g', eraseCols g r lo hi bg = .ok g' ∧ GridOk g' rows cols ∧
      ∀ i j, cellAt g' i j =
        if (i : Int) = r ∧ lo ≤ (j : Int) ∧ (j : Int) ≤ hi
        then (cellAt g i j).map (·.erase bg) else cellAt g i j :=
  let ⟨g', h1, h2⟩ := eraseCols_ok h r lo hi bg hr0 hr1 hlo hhi hc
  ⟨g', h1, h2, eraseCols_cells h1⟩

theorem brkLoop_cells {g g' : Grid} (r lo hi : Int) (bg : Nat)
    (brk : Int → Prop) [DecidablePred brk] (hmono : ∀ a b, brk a → a ≤ b → brk b) (hle : lo ≤ hi + 1)
    (h : forUpBrk lo hi (fun c g =>
        if brk c then .ok (g, false)
        else do
          let g' ← modCell g r c (·.erase bg)
          .ok (g', true)) g = .ok g') (i j : Nat) :
    cellAt g' i j =
      if (i : Int) = r ∧ lo ≤ (j : Int) ∧ (j : Int) ≤ hi ∧ ¬ brk j
      then (cellAt g i j).map (·.erase bg) else cellAt g i j := by
  refine forUpBrk_run
    (fun k s => (∀ k', lo ≤ k' → k' < k → ¬ brk k') ∧ ∀ i j, cellAt s i j =
      if (i : Int) = r ∧ lo ≤ (j : Int) ∧ (j : Int) < k
      then (cellAt g i j).map (·.erase bg) else cellAt g i j)
    (fun s => ∀ i j, cellAt s i j =
      if (i : Int) = r ∧ lo ≤ (j : Int) ∧ (j : Int) ≤ hi ∧ ¬ brk j
      then (cellAt g i j).map (·.erase bg) else cellAt g i j)
    _ lo hi g g' hle
    ⟨fun k' a b => by omega, fun i j => by rw [if_neg (fun hh => by omega)]⟩ ?_ ?_ h i j
  · intro k s rr hk0 hk1 ⟨hnb, hP⟩ hb
    by_cases hbk : brk k
    · rw [if_pos hbk] at hb; cases hb
      refine ⟨nofun, fun _ i j => ?_⟩
      show cellAt s i j = _
      rw [hP i j]
      apply ite_iff
      constructor
      · rintro ⟨a, b, c⟩; exact ⟨a, b, by omega, hnb _ b c⟩
      · rintro ⟨a, b, c, d⟩
        refine ⟨a, b, ?_⟩
        by_cases hjk : (j : Int) < k
        · exact hjk
        · exact absurd (hmono k j hbk (by omega)) d
    · rw [if_neg hbk] at hb
      obtain ⟨s', e1, hb⟩ := Except.bind_eq_ok hb
      cases hb
      refine ⟨fun _ => ⟨?_, fun i j => ?_⟩, nofun⟩
      · intro k' a b
        by_cases hkk : k' = k
        · subst hkk; exact hbk
        · exact hnb k' a (by omega)
      · show cellAt s' i j = _
        rw [modCell_cells e1 i j, hP i j]
        by_cases h1 : (i : Int) = r ∧ (j : Int) = k
        · obtain ⟨hi, hj⟩ := h1
          subst hj
          rw [if_pos ⟨hi, rfl⟩, if_neg (fun hh => by omega), if_pos ⟨hi, hk0, by omega⟩]
        · rw [if_neg h1]
          apply ite_iff
          omega
  · intro s ⟨hnb, hP⟩ i j
    rw [hP i j]
    apply ite_iff
    constructor
    · rintro ⟨a, b, c⟩; exact ⟨a, b, by omega, hnb _ b c⟩
    · rintro ⟨a, b, c, d⟩; exact ⟨a, b, by omega⟩

/-- An outer loop over the rows `rlo..rhi` whose body erases the cells `C r ·` of row `r`; `I` is what the
    body may assume of the grid it starts from (and has to keep). -/
theorem rowsLoop_cells {g g' : Grid} (I : Grid → Prop) (rlo rhi : Int) (bg : Nat)
    (inner : Int → Grid → M Grid) (C : Int → Nat → Prop) [∀ r j, Decidable (C r j)]
    (hle : rlo ≤ rhi + 1) (hI : I g)
    (hinner : ∀ r s s', rlo ≤ r → r ≤ rhi → I s → inner r s = .ok s' →
      I s' ∧ ∀ i j, cellAt s' i j =
        if (i : Int) = r ∧ C r j then (cellAt s i j).map (·.erase bg) else cellAt s i j)
    (h : forUp rlo rhi inner g = .ok g') (i j : Nat) :
    cellAt g' i j =
      if rlo ≤ (i : Int) ∧ (i : Int) ≤ rhi ∧ C i j
      then (cellAt g i j).map (·.erase bg) else cellAt g i j := by
  rw [(forUp_run
    (fun k s => I s ∧ ∀ i j, cellAt s i j =
      if rlo ≤ (i : Int) ∧ (i : Int) < k ∧ C i j
      then (cellAt g i j).map (·.erase bg) else cellAt g i j)
    inner rlo rhi g g' hle ⟨hI, fun i j => by rw [if_neg (fun hh => by omega)]⟩
    (by
      intro k s s' hk0 hk1 ⟨hs, hP⟩ e1
      obtain ⟨hs', hm⟩ := hinner k s s' hk0 hk1 hs e1
      refine ⟨hs', fun i j => ?_⟩
      rw [hm i j, hP i j]
      by_cases hik : (i : Int) = k
      · subst hik
        by_cases hC : C (i : Int) j
        · rw [if_pos ⟨rfl, hC⟩, if_neg (fun hh => by omega), if_pos ⟨hk0, by omega, hC⟩]
        · rw [if_neg (fun hh => hC hh.2), if_neg (fun hh => by omega), if_neg (fun hh => hC hh.2.2)]
      · rw [if_neg (fun hh => hik hh.1)]
        apply ite_iff
        constructor
        · rintro ⟨a, b, c⟩; exact ⟨a, by omega, c⟩
        · rintro ⟨a, b, c⟩; exact ⟨a, by omega, c⟩) h).2 i j]
  apply ite_iff
  constructor
  · rintro ⟨a, b, c⟩; exact ⟨a, by omega, c⟩
  · rintro ⟨a, b, c⟩; exact ⟨a, by omega, c⟩

theorem rowsLoop_spec {g : Grid} {rows cols : Nat} (h : GridOk g rows cols) (rlo rhi : Int) (bg : Nat)
    (inner : Int → Grid → M Grid) (C : Int → Nat → Prop) [∀ r j, Decidable (C r j)]
    (hle : rlo ≤ rhi + 1) (hn : rhi + 1 - rlo ≤ (hangLimit : Int))
    (hinner : ∀ r s, rlo ≤ r → r ≤ rhi → GridOk s rows cols →
      ∃ s', inner r s = .ok s' ∧ GridOk s' rows cols ∧
        ∀ i j, cellAt s' i j =
          if (i : Int) = r ∧ C r j then (cellAt s i j).map (·.erase bg) else cellAt s i j) :
    ∃ g', forUp rlo rhi inner g = .ok g' ∧ GridOk g' rows cols ∧
      ∀ i j, cellAt g' i j =
        if rlo ≤ (i : Int) ∧ (i : Int) ≤ rhi ∧ C i j
        then (cellAt g i j).map (·.erase bg) else cellAt g i j := by
  obtain ⟨g', h1, h2⟩ := forUp_ok (fun s => GridOk s rows cols) inner rlo rhi g hn h
    (fun r s a b hs => let ⟨s', e1, hs', _⟩ := hinner r s a b hs; ⟨s', e1, hs'⟩)
  refine ⟨g', h1, h2, rowsLoop_cells (fun s => GridOk s rows cols) rlo rhi bg inner C hle h ?_ h1⟩
  intro r s s' a b hs e1
  obtain ⟨s'', e2, hs'', hc⟩ := hinner r s a b hs
  rw [e1] at e2; cases e2
  exact ⟨hs'', hc⟩

theorem gridAccepts_of_rows {tg tg' : Term.TGrid} {g g' : Grid} {rows cols : Nat}
    (hg : GridOk g rows cols) (hg' : GridOk g' rows cols)
    (hacc : Term.gridAccepts tg (g.map absRow) = true) (hlen : tg'.length = tg.length)
    (hrow : ∀ (i : Nat) (tr tr' : Term.TRow) (row row' : Row), tg[i]? = some tr → tg'[i]? = some tr' → g[i]? = some row →
      g'[i]? = some row' → Term.rowAccepts tr (absRow row) = true →
      Term.rowAccepts tr' (absRow row') = true) :
    Term.gridAccepts tg' (g'.map absRow) = true := by
  rw [gridAccepts_iff] at hacc ⊢
  obtain ⟨hl, ha⟩ := hacc
  simp only [List.length_map] at hl ⊢
  refine ⟨by rw [hlen, hl, hg.len, hg'.len], ?_⟩
  intro i tr' ar' htr' har'
  rw [List.getElem?_map] at har'
  have hi : i < tg'.length := (List.getElem?_eq_some_iff.mp htr').1
  have hi1 : i < tg.length := by omega
  have hi2 : i < g.length := by omega
  have hi3 : i < g'.length := by rw [hg'.len, ← hg.len]; exact hi2
  rw [List.getElem?_eq_getElem hi3] at har'
  simp only [Option.map_some, Option.some.injEq] at har'
  subst har'
  exact hrow i tg[i] tr' g[i] g'[i] (List.getElem?_eq_getElem hi1) htr' (List.getElem?_eq_getElem hi2)
    (List.getElem?_eq_getElem hi3)
    (ha i tg[i] (absRow g[i]) (List.getElem?_eq_getElem hi1) (by rw [List.getElem?_map, List.getElem?_eq_getElem hi2]; rfl))

theorem row_same {g g' : Grid} {i : Nat} {row row' : Row} (hr : g[i]? = some row) (hr' : g'[i]? = some row')
    (h : ∀ j, cellAt g' i j = cellAt g i j) : row' = row := by
  apply List.ext_getElem?
  intro j
  rw [← cellAt_of_row hr' j, ← cellAt_of_row hr j]; exact h j

theorem row_blank {tr : Term.TRow} {row row' : Row} (bg : Nat) (P : Nat → Prop) [DecidablePred P]
    (hacc : Term.rowAccepts tr (absRow row) = true) (hlen : row'.length = row.length)
    (h : ∀ j, row'[j]? = if P j then (row[j]?).map (·.erase bg) else row[j]?) :
    Term.rowAccepts (tr.mapIdx fun j c => if P j then .blank (absCol bg) else c) (absRow row') = true := by
  rw [rowAccepts_iff] at hacc ⊢
  obtain ⟨hl, ha⟩ := hacc
  unfold absRow at hl ha ⊢
  simp only [List.length_map, List.length_mapIdx] at hl ⊢
  refine ⟨by omega, ?_⟩
  intro j a b hja hjb
  rw [List.getElem?_mapIdx] at hja
  rw [List.getElem?_map, h j] at hjb
  cases htr : tr[j]? with
  | none => rw [htr] at hja; cases hja
  | some c0 =>
    rw [htr] at hja
    simp only [Option.map_some, Option.some.injEq] at hja
    cases hrow : row[j]? with
    | none => rw [hrow] at hjb; simp at hjb
    | some x0 =>
      rw [hrow] at hjb
      by_cases hP : P j
      · simp only [hP, if_true, Option.map_some, Option.some.injEq] at hja hjb
        subst hja; subst hjb
        exact accepts_blank_erase x0 bg
      · simp only [hP, if_false, Option.map_some, Option.some.injEq] at hja hjb
        subst hja; subst hjb
        exact ha j c0 (absCell x0) htr (by rw [List.getElem?_map, hrow]; rfl)

theorem row_allblank {row row' : Row} (bg cols : Nat) (hlen : row'.length = cols)
    (h : ∀ j : Nat, j < cols → row'[j]? = (row[j]?).map (·.erase bg)) :
    Term.rowAccepts (List.replicate cols (.blank (absCol bg))) (absRow row') = true := by
  rw [rowAccepts_iff]
  unfold absRow
  simp only [List.length_map, List.length_replicate]
  refine ⟨hlen.symm, ?_⟩
  intro j a b hja hjb
  rw [List.getElem?_replicate] at hja
  split at hja
  · rename_i hj
    rw [List.getElem?_map, h j hj] at hjb
    simp only [Option.some.injEq] at hja
    subst hja
    cases hrow : row[j]? with
    | none => rw [hrow] at hjb; simp at hjb
    | some x0 =>
      rw [hrow] at hjb
      simp only [Option.map_some, Option.some.injEq] at hjb
      subst hjb
      exact accepts_blank_erase x0 bg
  · cases hja

theorem rowLen_of_getElem? {g : Grid} {rows cols : Nat} (h : GridOk g rows cols) {i : Nat} {row : Row}
    (hr : g[i]? = some row) : row.length = cols :=
  h.rowLen _ (List.mem_of_getElem? hr)

theorem setActive_lastCol_comm (e : Emu) (g : Grid) (b : Bool) :
    ({ e with lastCol := b } : Emu).setActive g = { (e.setActive g) with lastCol := b } := by
  unfold Emu.setActive; simp only; split <;> rfl

theorem sim2_eraseGrid {t : Term.T} {e : Emu} {rows cols : Nat} (s2 : Sim2 t e rows cols)
    (tg : Term.TGrid) (g : Grid) (hg : GridOk g rows cols)
    (hacc : Term.gridAccepts tg (g.map absRow) = true) :
    Sim2 (t.setGrid tg) (({ e with lastCol := false } : Emu).setActive g) rows cols := by
  rw [setActive_lastCol_comm]; exact sim2_setGrid s2 tg g hg hacc false nofun

theorem gridOk_of_setActive {e : Emu} {g : Grid} {rows cols : Nat} (h : EmuInv (e.setActive g) rows cols) :
    GridOk g rows cols := by
  have := active_ok h; rwa [setActive_active] at this

theorem el_0 (fx : Fixes) (e : Emu) : el fx e 0 =
    (eraseCols e.active e.cur.row e.cur.col (e.width - 1) e.bg >>= fun g =>
      .ok (({ e with lastCol := false } : Emu).setActive g)) := rfl

theorem el_1 (e : Emu) : el Fixes.current e 1 =
    (eraseCols e.active e.cur.row 0 (if e.cur.col ≥ e.width then e.width - 1 else e.cur.col) e.bg >>= fun g =>
      .ok (({ e with lastCol := false } : Emu).setActive g)) := by
  unfold el
  simp [Fixes.current]
  rfl

theorem el_2 (fx : Fixes) (e : Emu) : el fx e 2 =
    (eraseCols e.active e.cur.row 0 (e.width - 1) e.bg >>= fun g =>
      .ok (({ e with lastCol := false } : Emu).setActive g)) := rfl

/-- The loop of ech(): `m` cells from column `c`, stopping at the end of the line. -/
theorem echLoop_cells {g g' : Grid} {cols : Nat} (r c m : Int) (bg : Nat) (hc1 : c ≤ cols) (hm0 : 1 ≤ m)
    (h : forUpBrk 0 (m - 1) (fun i g =>
        if c + i = (cols : Int) then .ok (g, false)
        else do
          let g' ← modCell g r (c + i) (·.erase bg)
          .ok (g', true)) g = .ok g') (i j : Nat) :
    cellAt g' i j =
      if (i : Int) = r ∧ c ≤ (j : Int) ∧ (j : Int) < c + m ∧ (j : Int) < cols
      then (cellAt g i j).map (·.erase bg) else cellAt g i j := by
  refine forUpBrk_run
    (fun k s => c + k ≤ cols ∧ ∀ i j, cellAt s i j =
      if (i : Int) = r ∧ c ≤ (j : Int) ∧ (j : Int) < c + k
      then (cellAt g i j).map (·.erase bg) else cellAt g i j)
    (fun s => ∀ i j, cellAt s i j =
      if (i : Int) = r ∧ c ≤ (j : Int) ∧ (j : Int) < c + m ∧ (j : Int) < cols
      then (cellAt g i j).map (·.erase bg) else cellAt g i j)
    _ 0 (m - 1) g g' (by omega)
    ⟨by omega, fun i j => by rw [if_neg (fun hh => by omega)]⟩ ?_ ?_ h i j
  · intro k s rr hk0 hk1 ⟨hck, hP⟩ hb
    by_cases hbk : c + k = (cols : Int)
    · rw [if_pos hbk] at hb; cases hb
      refine ⟨nofun, fun _ i j => ?_⟩
      show cellAt s i j = _
      rw [hP i j]
      apply ite_iff
      omega
    · rw [if_neg hbk] at hb
      obtain ⟨s', e1, hb⟩ := Except.bind_eq_ok hb
      cases hb
      refine ⟨fun _ => ⟨by show c + (k + 1) ≤ (cols : Int); omega, fun i j => ?_⟩, nofun⟩
      show cellAt s' i j = _
      rw [modCell_cells e1 i j, hP i j]
      by_cases h1 : (i : Int) = r ∧ (j : Int) = c + k
      · obtain ⟨hi, hj⟩ := h1
        rw [if_pos ⟨hi, hj⟩, if_neg (fun hh => by omega), if_pos ⟨hi, by omega, by omega⟩]
      · rw [if_neg h1]
        apply ite_iff
        omega
  · intro s ⟨hck, hP⟩ i j
    rw [hP i j]
    apply ite_iff
    omega

theorem ech_eq (e : Emu) (n : Int) : ech e n =
    (forUpBrk 0 (dflt1 n - 1) (fun i g =>
        if e.cur.col + i = e.width then .ok (g, false)
        else do
          let g' ← modCell g e.cur.row (e.cur.col + i) (·.erase e.bg)
          .ok (g', true)) e.active >>= fun g =>
      .ok (({ e with lastCol := false } : Emu).setActive g)) := rfl

theorem cellAt_none {g : Grid} {rows cols : Nat} (h : GridOk g rows cols) (i j : Nat) (hj : cols ≤ j) :
    cellAt g i j = none := by
  unfold cellAt
  cases hr : g[i]? with
  | none => rfl
  | some row =>
    simp only
    rw [List.getElem?_eq_none_iff, rowLen_of_getElem? h hr]; exact hj

theorem lt_rows_of_getElem? {g : Grid} {rows cols : Nat} (h : GridOk g rows cols) {i : Nat} {row : Row}
    (hr : g[i]? = some row) : i < rows :=
  h.len ▸ (List.getElem?_eq_some_iff.mp hr).1

theorem row_same_b {g g' : Grid} {rows cols : Nat} (hg : GridOk g rows cols) (hg' : GridOk g' rows cols)
    {i : Nat} {row row' : Row} (hr : g[i]? = some row) (hr' : g'[i]? = some row')
    (h : ∀ j, j < cols → cellAt g' i j = cellAt g i j) : row' = row := by
  refine row_same hr hr' (fun j => ?_)
  by_cases hj : j < cols
  · exact h j hj
  · rw [cellAt_none hg' i j (by omega), cellAt_none hg i j (by omega)]

theorem row_blank_b {g g' : Grid} {rows cols : Nat} (hg : GridOk g rows cols) (hg' : GridOk g' rows cols)
    {i : Nat} {tr : Term.TRow} {row row' : Row} (hr : g[i]? = some row) (hr' : g'[i]? = some row')
    (bg : Nat) (P : Nat → Prop) [DecidablePred P]
    (hacc : Term.rowAccepts tr (absRow row) = true)
    (h : ∀ j, j < cols → cellAt g' i j = if P j then (cellAt g i j).map (·.erase bg) else cellAt g i j) :
    Term.rowAccepts (tr.mapIdx fun j c => if P j then .blank (absCol bg) else c) (absRow row') = true := by
  refine row_blank (row' := row') bg P hacc (by rw [rowLen_of_getElem? hg hr, rowLen_of_getElem? hg' hr']) ?_
  intro j
  rw [← cellAt_of_row hr' j, ← cellAt_of_row hr j]
  by_cases hj : j < cols
  · exact h j hj
  · rw [cellAt_none hg' i j (by omega), cellAt_none hg i j (by omega)]
    split <;> rfl

/-- The grid part of ED 0 / ED 1: in the reference the cursor row gets `healRow (blankRange …)` and
    the rows with `B` (below / above the cursor) become blank rows. -/
theorem acc_ed {t : Term.T} {e : Emu} {rows cols : Nat} (s : Sim t e rows cols)
    {g' : Grid} (hg' : GridOk g' rows cols) (lo hi : Nat) (P : Nat → Prop) [DecidablePred P]
    (hP : ∀ j, P j ↔ lo ≤ j ∧ j < hi) (B : Nat → Prop) [DecidablePred B]
    (hc : ∀ i j, i < rows → j < cols → cellAt g' i j =
      if B i ∨ ((i : Int) = e.cur.row ∧ P j)
      then (cellAt e.active i j).map (·.erase e.bg) else cellAt e.active i j) :
    Term.gridAccepts
      ((t.grid.modify t.row fun row => Term.healRow (Term.blankRange row lo hi t.blank)).mapIdx
        fun i row => if B i then t.blankRow else row)
      (g'.map absRow) = true := by
  have hg := active_ok s.inv
  have hrow := s.row
  refine gridAccepts_of_rows hg hg' s.grid (by rw [List.length_mapIdx, List.length_modify]) ?_
  intro i tr tr' row row' htr htr' hr hr' hacc
  rw [List.getElem?_mapIdx, List.getElem?_modify, htr] at htr'
  simp only [Option.map_eq_map, Option.map_some, Option.some.injEq] at htr'
  subst htr'
  have hir := lt_rows_of_getElem? hg hr
  by_cases hBi : B i
  · rw [if_pos hBi]
    unfold Term.T.blankRow
    rw [blank_eq s, s.tcols]
    refine row_allblank (row := row) e.bg cols (rowLen_of_getElem? hg' hr') ?_
    intro j hj
    rw [← cellAt_of_row hr' j, ← cellAt_of_row hr j, hc i j hir hj, if_pos (Or.inl hBi)]
  · rw [if_neg hBi]
    by_cases hti : t.row = i
    · rw [if_pos hti]
      apply healRow_accepts
      unfold Term.blankRange
      rw [blank_eq s]
      have := row_blank_b hg hg' hr hr' e.bg P hacc
        (by
          intro j hj
          rw [hc i j hir hj]
          apply ite_iff
          constructor
          · rintro (a | ⟨_, b⟩)
            · exact absurd a hBi
            · exact b
          · intro b; exact Or.inr ⟨by omega, b⟩)
      have he : (fun j c => if P j then Term.TCell.blank (absCol e.bg) else c) =
          (fun j c => if lo ≤ j ∧ j < hi then Term.TCell.blank (absCol e.bg) else c) := by
        funext j c; exact ite_iff (hP j) _ _
      rw [← he]; exact this
    · rw [if_neg hti]
      have := row_same_b hg hg' hr hr' (fun j hj => by
        rw [hc i j hir hj, if_neg (fun hh => by
          rcases hh with a | ⟨a, _⟩
          · exact hBi a
          · omega)])
      subst this
      exact hacc

/-- The grid part of EL / ECH: `acc_ed` without blank rows. -/
theorem acc_modRow_blank {t : Term.T} {e : Emu} {rows cols : Nat} (s : Sim t e rows cols)
    {g' : Grid} (hg' : GridOk g' rows cols) (lo hi : Nat) (P : Nat → Prop) [DecidablePred P]
    (hP : ∀ j, P j ↔ lo ≤ j ∧ j < hi)
    (hc : ∀ i j, cellAt g' i j =
      if (i : Int) = e.cur.row ∧ P j then (cellAt e.active i j).map (·.erase e.bg) else cellAt e.active i j) :
    Term.gridAccepts (t.grid.modify t.row fun row => Term.healRow (Term.blankRange row lo hi t.blank))
      (g'.map absRow) = true := by
  have h := acc_ed s hg' lo hi P hP (fun _ => False)
    (fun i j _ _ => by rw [hc i j]; exact ite_iff (by simp) _ _)
  have hid : ∀ l : Term.TGrid, l.mapIdx (fun _ row => row) = l := fun l =>
    List.ext_getElem? fun j => by simp
  simpa [hid] using h

theorem ed_0 (e : Emu) : ed e 0 =
    (forUp e.cur.row (e.height - 1) (fun r g =>
      forUp 0 (e.width - 1) (fun col g =>
        if r = e.cur.row ∧ col < e.cur.col then .ok g
        else modCell g r col (·.erase e.bg)) g) e.active >>= fun g =>
      .ok (({ e with lastCol := false } : Emu).setActive g)) := rfl

theorem ed_1 (e : Emu) : ed e 1 =
    (forUp 0 e.cur.row (fun r g =>
      forUpBrk 0 (e.width - 1) (fun col g =>
        if r = e.cur.row ∧ col > e.cur.col then .ok (g, false)
        else do
          let g' ← modCell g r col (·.erase e.bg)
          .ok (g', true)) g) e.active >>= fun g =>
      .ok (({ e with lastCol := false } : Emu).setActive g)) := rfl

theorem ed_2 (e : Emu) : ed e 2 =
    (forUp 0 (e.height - 1) (fun r g =>
      forUp 0 (e.width - 1) (fun col g => modCell g r col (·.erase e.bg)) g) e.active >>= fun g =>
      .ok (({ e with lastCol := false } : Emu).setActive g)) := rfl

theorem ed2_cells {e e' : Emu} {rows cols : Nat} (h : EmuInv e rows cols) (d : Dim rows cols)
    (he : ed e 2 = .ok e') (hi : EmuInv e' rows cols) :
    ∃ g', e' = ({ e with lastCol := false } : Emu).setActive g' ∧ GridOk g' rows cols ∧
      ∀ i j, i < rows → j < cols → cellAt g' i j = (cellAt e.active i j).map (·.erase e.bg) := by
  have hh := height_eq h; have hw := width_eq h d.r1
  rw [ed_2] at he
  obtain ⟨g', e1, he⟩ := Except.bind_eq_ok he
  cases he
  refine ⟨g', rfl, gridOk_of_setActive hi, fun i j hi' hj => ?_⟩
  rw [rowsLoop_cells (fun _ => True) 0 (e.height - 1) e.bg _
    (fun _ j => (0 : Int) ≤ (j : Int) ∧ (j : Int) ≤ e.width - 1) (by omega) trivial
    (fun r s s' _ _ _ e2 => ⟨trivial, eraseCols_cells e2⟩) e1 i j, if_pos (by omega)]

end VaxisModel.Lemmas.EmuRefine.EraseAux

namespace VaxisModel.Lemmas.EmuRefine
open VaxisModel.Model.Emu VaxisModel.Model.EmuAbs VaxisModel.Lemmas.Emu VaxisModel.Spec
open EraseAux

section
variable {t : Term.T} {e : Emu} {rows cols : Nat}

/-- The end of every erase handler: the grid its loop computed becomes the active grid and the flag is cleared. That
    refines a `setGrid` of the reference as soon as the new reference grid accepts the loop's grid. -/
theorem erase_refines2 (s2 : Sim2 t e rows cols) {x : M Grid} {e' : Emu} {tg : Term.TGrid}
    (he : (x >>= fun g => .ok (({ e with lastCol := false } : Emu).setActive g)) = .ok e')
    (hi : EmuInv e' rows cols)
    (hacc : ∀ g', x = .ok g' → GridOk g' rows cols → Term.gridAccepts tg (g'.map absRow) = true) :
    Refines2 (Term.one (t.setGrid tg)) e' rows cols := by
  obtain ⟨g', e1, he⟩ := Except.bind_eq_ok he
  cases he
  have hg' := gridOk_of_setActive hi
  exact refines2_one (sim2_eraseGrid s2 tg g' hg' (hacc g' e1 hg'))

theorem el_refines2 (s2 : Sim2 t e rows cols) (n : Nat) :
    ∃ e', el Fixes.current e (cp n) = .ok e' ∧ Refines2 (Term.step t (.el n)) e' rows cols := by
  have s := s2.sim
  simp only [Term.step]
  refine refines2_of_safe (el_safe s.inv s.dim (cp n)) fun e' he hi hp => ?_
  have hcol := col_lt_of_not_pw s hp
  have htc := tcol_eq s hp
  have hw : e.width = cols := width_eq s.inv s.dim.r1
  have hg := active_ok s.inv
  have := s.inv.rowLo; have := s.inv.rowHi; have := s.inv.colLo
  have htcols := s.tcols
  by_cases h0 : n = 0
  · subst h0
    rw [show cp 0 = 0 from rfl, el_0] at he
    simp only [if_true]
    unfold Term.T.modRow
    refine erase_refines2 s2 he hi fun g' e1 hg' => ?_
    exact acc_modRow_blank s hg' _ _ (fun j => e.cur.col ≤ (j : Int) ∧ (j : Int) ≤ e.width - 1)
      (fun j => by omega) (eraseCols_cells e1)
  · by_cases h1 : n = 1
    · subst h1
      rw [show cp 1 = 1 from rfl, el_1, if_neg (by omega)] at he
      simp only [if_true, if_neg h0]
      unfold Term.T.modRow
      refine erase_refines2 s2 he hi fun g' e1 hg' => ?_
      exact acc_modRow_blank s hg' _ _ (fun j => (0 : Int) ≤ (j : Int) ∧ (j : Int) ≤ e.cur.col)
        (fun j => by omega) (eraseCols_cells e1)
    · by_cases h2 : n = 2
      · subst h2
        rw [show cp 2 = 2 from rfl, el_2] at he
        simp only [if_true, if_neg h0, if_neg h1]
        unfold Term.T.modRow
        refine erase_refines2 s2 he hi fun g' e1 hg' => ?_
        have hc := eraseCols_cells e1
        refine gridAccepts_of_rows hg hg' s.grid (by rw [List.length_modify]) ?_
        intro i tr tr' row row' htr htr' hr hr' hacc
        rw [List.getElem?_modify, htr] at htr'
        simp only [Option.map_eq_map, Option.map_some, Option.some.injEq] at htr'
        subst htr'
        have hrow := s.row
        by_cases hi : t.row = i
        · rw [if_pos hi]
          apply healRow_accepts
          unfold Term.T.blankRow
          rw [blank_eq s, htcols]
          refine row_allblank (row := row) e.bg cols (rowLen_of_getElem? hg' hr') ?_
          intro j hj
          rw [← cellAt_of_row hr' j, ← cellAt_of_row hr j, hc i j, if_pos (by omega)]
        · rw [if_neg hi]
          have := row_same hr hr' (fun j => by rw [hc i j, if_neg (fun hh => by omega)])
          subst this
          exact hacc
      · simp only [if_neg h0, if_neg h1, if_neg h2]
        trivial

theorem ech_refines2 (s2 : Sim2 t e rows cols) (n : Nat) :
    ∃ e', ech e (cp n) = .ok e' ∧ Refines2 (Term.step t (.ech n)) e' rows cols := by
  have s := s2.sim
  simp only [Term.step]
  refine refines2_of_safe (ech_safe s.inv s.dim (cp_ok n)) fun e' he hi hp => ?_
  have hcol := col_lt_of_not_pw s hp
  have htc := tcol_eq s hp
  have hw : e.width = cols := width_eq s.inv s.dim.r1
  have := s.inv.colLo
  have htcols := s.tcols
  have hd := dflt1_cp n; have := d1_pos n; have := s.dim.cmax
  rw [ech_eq, hw] at he
  unfold Term.T.modRow
  refine erase_refines2 s2 he hi fun g' e1 hg' => ?_
  exact acc_modRow_blank s hg' _ _
    (fun j => e.cur.col ≤ (j : Int) ∧ (j : Int) < e.cur.col + dflt1 (cp n) ∧ (j : Int) < (cols : Int))
    (fun j => by omega) (echLoop_cells e.cur.row e.cur.col (dflt1 (cp n)) e.bg (by omega) (by omega) e1)

theorem ed_refines2 (s2 : Sim2 t e rows cols) (n : Nat) :
    ∃ e', ed e (cp n) = .ok e' ∧ Refines2 (Term.step t (.ed n)) e' rows cols := by
  have s := s2.sim
  simp only [Term.step]
  refine refines2_of_safe (ed_safe s.inv s.dim (cp n)) fun e' he hi hp => ?_
  have hcol := col_lt_of_not_pw s hp
  have htc := tcol_eq s hp
  have hw : e.width = cols := width_eq s.inv s.dim.r1
  have hh : e.height = rows := height_eq s.inv
  have hg := active_ok s.inv
  have := s.inv.rowLo; have := s.inv.rowHi; have := s.inv.colLo; have := s.dim.c1
  have htcols := s.tcols
  have htrow := s.row
  by_cases h0 : n = 0
  · subst h0
    rw [show cp 0 = 0 from rfl, ed_0] at he
    simp only [if_true]
    unfold Term.T.modRow
    rw [grid_setGrid, setGrid_setGrid]
    refine erase_refines2 s2 he hi fun g' e1 hg' => ?_
    have hc := rowsLoop_cells (fun _ => True) e.cur.row (e.height - 1) e.bg _
      (fun r j => (0 : Int) ≤ (j : Int) ∧ (j : Int) ≤ e.width - 1 ∧ ¬ (r = e.cur.row ∧ (j : Int) < e.cur.col))
      (by omega) trivial
      (fun r s' s'' _ _ _ e2 => ⟨trivial, colLoop_cells r 0 (e.width - 1) e.bg
        (fun col => r = e.cur.row ∧ col < e.cur.col) e2⟩) e1
    refine acc_ed s hg' _ _ (fun j => e.cur.col ≤ (j : Int) ∧ j < cols) (fun j => by omega)
      (fun i => i > t.row) ?_
    intro i j hi hj
    rw [hc i j]
    apply ite_iff
    omega
  · by_cases h1 : n = 1
    · subst h1
      rw [show cp 1 = 1 from rfl, ed_1] at he
      simp only [if_true, if_neg h0]
      unfold Term.T.modRow
      rw [grid_setGrid, setGrid_setGrid]
      refine erase_refines2 s2 he hi fun g' e1 hg' => ?_
      have hc := rowsLoop_cells (fun _ => True) 0 e.cur.row e.bg _
        (fun r j => (0 : Int) ≤ (j : Int) ∧ (j : Int) ≤ e.width - 1 ∧ ¬ (r = e.cur.row ∧ (j : Int) > e.cur.col))
        (by omega) trivial
        (fun r s' s'' _ _ _ e2 => ⟨trivial, brkLoop_cells r 0 (e.width - 1) e.bg
          (fun col => r = e.cur.row ∧ col > e.cur.col) (fun a b ha hab => ⟨ha.1, by omega⟩) (by omega) e2⟩) e1
      refine acc_ed s hg' _ _ (fun j => (j : Int) ≤ e.cur.col) (fun j => by omega) (fun i => i < t.row) ?_
      intro i j hi hj
      rw [hc i j]
      apply ite_iff
      omega
    · by_cases h2 : n = 2
      · subst h2
        rw [show cp 2 = 2 from rfl] at he
        obtain ⟨g', rfl, hg', hc⟩ := ed2_cells s.inv s.dim he hi
        simp only [if_true, if_neg h0, if_neg h1]
        refine refines2_one ?_
        refine sim2_eraseGrid s2 _ g' hg' ?_
        have hgl : t.grid.length = rows := by
          have := (gridAccepts_iff _ _).mp s.grid
          rw [this.1, List.length_map, hg.len]
        refine gridAccepts_of_rows hg hg' s.grid (by rw [List.length_replicate, hgl, s.trows]) ?_
        intro i tr tr' row row' htr htr' hr hr' hacc
        rw [List.getElem?_replicate] at htr'
        split at htr'
        · simp only [Option.some.injEq] at htr'
          subst htr'
          have hi := lt_rows_of_getElem? hg hr
          unfold Term.T.blankRow
          rw [blank_eq s, htcols]
          refine row_allblank (row := row) e.bg cols (rowLen_of_getElem? hg' hr') ?_
          intro j hj
          rw [← cellAt_of_row hr' j, ← cellAt_of_row hr j, hc i j hi hj]
        · cases htr'
      · simp only [if_neg h0, if_neg h1, if_neg h2]
        trivial

end

end VaxisModel.Lemmas.EmuRefine
