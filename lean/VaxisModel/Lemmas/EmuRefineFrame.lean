/-
What `print` leaves alone on the emulator side (`EFrame`), for every successful run and without a related reference
state: needed where a token list is followed across a resize (Lemmas/C12Sim.lean). `EFrame` is part of
`EmuResize.Keep`, which is read off the one walk over `print` in Lemmas/EmuKeeps.lean.
-/
import VaxisModel.Lemmas.EmuRefine2
import VaxisModel.Lemmas.EmuResize

namespace VaxisModel.Lemmas.EmuRefine
open VaxisModel.Model.Emu VaxisModel.Model.EmuAbs VaxisModel.Lemmas.Emu VaxisModel.Spec

theorem keep_eframe {a b : Emu} (k : VaxisModel.Lemmas.EmuResize.Keep a b) : EFrame a b :=
  ⟨k.savedP, k.savedA, by rw [k.mode], k.altActive, k.prim⟩

theorem print_frame {e e' : Emu} {g : G} {w : Nat} (h : print Fixes.current e g w = .ok e') :
    EFrame e e' :=
  keep_eframe (VaxisModel.Lemmas.EmuResize.print_keep h)

end VaxisModel.Lemmas.EmuRefine
