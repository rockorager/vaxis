/-
C06 refinement: PRINT (narrow / wide, with and without autowrap), ICH, DCH.

`print` reads the emulator's `lastCol` flag (it wraps when the flag is set, wherever the cursor is); that
the flag is only set in the pending-wrap column is the field `Sim2.lc`. A glyph is written in two steps
shared by both widths and by the wrapping and non-wrapping cases: the cells, then the cursor advance; an
autowrap is NEL from any state before that.
-/
import VaxisModel.Lemmas.ListBasic
import VaxisModel.Lemmas.EmuRefineScroll
import VaxisModel.Lemmas.EmuSafe3
import VaxisModel.Lemmas.EmuSafe4

namespace VaxisModel.Lemmas.EmuRefine.PrintAux
open VaxisModel.Model.Emu VaxisModel.Model.EmuAbs VaxisModel.Lemmas.Emu VaxisModel.Spec

theorem accepts_self (c : Term.TCell) : c.accepts c = true := by
  cases c <;> simp [Term.TCell.accepts]

theorem gridAccepts_modify_set {tg : Term.TGrid} {g : Grid} (h : Term.gridAccepts tg (g.map absRow) = true)
    (r : Nat) (f : Term.TRow → Term.TRow) (row' : Row)
    (hrow : ∀ trow row, tg[r]? = some trow → g[r]? = some row →
      Term.rowAccepts trow (absRow row) = true → Term.rowAccepts (f trow) (absRow row') = true) :
    Term.gridAccepts (tg.modify r f) ((g.set r row').map absRow) = true := by
  rw [gridAccepts_iff] at h ⊢
  obtain ⟨hl, hi⟩ := h
  refine ⟨by simpa using hl, ?_⟩
  intro i x y hx hy
  rw [List.getElem?_modify] at hx
  rw [List.getElem?_map, List.getElem?_set] at hy
  by_cases hir : r = i
  · subst hir
    simp only [if_true] at hx hy
    cases htg : tg[r]? with
    | none => rw [htg] at hx; simp at hx
    | some trow =>
      rw [htg] at hx; simp at hx
      cases hg : g[r]? with
      | none =>
        have : ¬ r < g.length := by
          intro hlt; rw [List.getElem?_eq_getElem hlt] at hg; simp at hg
        simp [this] at hy
      | some row =>
        have hlt : r < g.length := (List.getElem?_eq_some_iff.mp hg).1
        simp [hlt] at hy
        subst hx; subst hy
        exact hrow trow row htg hg (hi r trow (absRow row) htg (by simp [hg]))
  · simp only [hir, if_false] at hx hy
    simp at hx
    exact hi i x y hx (by simpa using hy)

theorem sim2_setCol {t : Term.T} {e : Emu} {rows cols : Nat} (s2 : Sim2 t e rows cols)
    (tc : Nat) (tpw : Bool) (c : Int) (lc : Bool) (hc0 : 0 ≤ c) (hc1 : c ≤ cols)
    (hcol : (tc : Int) = if c ≥ cols then (cols : Int) - 1 else c) (hpw : tpw = decide (c ≥ cols))
    (hlc : lc = true → (cols : Int) ≤ c) :
    Sim2 { t with col := tc, pw := tpw } { e with cur := { e.cur with col := c }, lastCol := lc } rows cols :=
  have s := s2.sim
  sim2_of_frame s2
    { s with inv := { s.inv with colLo := hc0, colHi := hc1 }, vm := s.vm.congr rfl rfl, col := hcol, pw := hpw }
    hlc ⟨rfl, rfl, rfl, rfl, fun _ => rfl⟩ ⟨rfl, rfl, rfl, fun _ => rfl⟩

theorem sim2_setGridCol {t : Term.T} {e : Emu} {rows cols : Nat} (s2 : Sim2 t e rows cols)
    (tg : Term.TGrid) (g : Grid) (hg : GridOk g rows cols)
    (hacc : Term.gridAccepts tg (g.map absRow) = true)
    (tc : Nat) (tpw : Bool) (c : Int) (lc : Bool) (hc0 : 0 ≤ c) (hc1 : c ≤ cols)
    (hcol : (tc : Int) = if c ≥ cols then (cols : Int) - 1 else c) (hpw : tpw = decide (c ≥ cols))
    (hlc : lc = true → (cols : Int) ≤ c) :
    Sim2 { (t.setGrid tg) with col := tc, pw := tpw }
        { (e.setActive g) with cur := { (e.setActive g).cur with col := c }, lastCol := lc } rows cols :=
  sim2_setCol (sim2_setGrid s2 tg g hg hacc (e.setActive g).lastCol (fun h => by rwa [setActive_lastCol] at h))
    tc tpw c lc hc0 hc1 hcol hpw hlc

theorem printAdvance_eq (e : Emu) (w : Nat) (cols : Nat) (hawm : e.mode.decawm = true)
    (hright : e.right = (cols : Int) - 1) (hle : e.cur.col + (w : Int) ≤ cols) :
    printAdvance e w =
      { e with cur := { e.cur with col := e.cur.col + (w : Int) },
               lastCol := if e.cur.col + (w : Int) ≥ cols then true else e.lastCol } := by
  unfold printAdvance
  simp only [hawm, Bool.not_true, Bool.false_and, Bool.false_eq_true, if_false, hright,
    decide_eq_true_eq]
  have h1 : ¬ (e.cur.col + (w : Int) > (cols : Int) - 1 + 1) := by omega
  simp only [h1, if_false]
  by_cases h2 : e.cur.col + (w : Int) ≥ cols
  · have h3 : e.cur.col + (w : Int) ≥ (cols : Int) - 1 + 1 := by omega
    simp [h2, hawm]
  · have h3 : ¬ (e.cur.col + (w : Int) ≥ (cols : Int) - 1 + 1) := by omega
    simp [h2]

theorem printK1_pos {e : Emu} {rows cols : Nat} (h : EmuInv e rows cols) (d : Dim rows cols)
    (hirm : e.mode.irm = false) (hc : e.cur.col < cols) (g : G) (w : Nat) :
    printK1 g w e = printWrite e g w e.cur.col e.cur.row := by
  have hh := height_eq h
  have hw := width_eq h d.r1
  have := h.rowLo; have := h.rowHi; have := h.colLo
  unfold printK1
  simp only [hirm, Bool.false_eq_true, if_false]
  unfold printK2
  rw [hh, hw]
  have e1 : (if e.cur.col > (cols : Int) - 1 then (cols : Int) - 1 else e.cur.col) = e.cur.col := by
    split <;> omega
  have e2 : (if e.cur.row > (rows : Int) - 1 then (rows : Int) - 1 else e.cur.row) = e.cur.row := by
    split <;> omega
  rw [e1, e2]

theorem printK1_narrow {e : Emu} {rows cols : Nat} (h : EmuInv e rows cols) (d : Dim rows cols)
    (hirm : e.mode.irm = false) (hc : e.cur.col < cols) (g : G) {row : Row}
    (hrow : e.active[e.cur.row.toNat]? = some row) (hlen : row.length = cols) :
    printK1 g 1 e = .ok (printAdvance (e.setActive (e.active.set e.cur.row.toNat
        (row.set e.cur.col.toNat { g := g, w := 1, st := e.cur.st }))) ((1 : Nat) : Int)) := by
  have hg := active_ok h
  have := h.rowLo; have := h.rowHi; have := h.colLo
  rw [printK1_pos h d hirm hc]
  unfold printWrite
  rw [if_neg (by decide)]
  rw [getI_eq_ok.mpr ⟨h.rowLo, hrow⟩, Except.ok_bind, setI_ok row _ _ h.colLo (by omega), Except.ok_bind,
    setI_ok e.active _ _ h.rowLo (by rw [hg.len]; omega), Except.ok_bind, forUpBrk_none, Except.ok_bind]

theorem printK1_wide {e : Emu} {rows cols : Nat} (h : EmuInv e rows cols) (d : Dim rows cols)
    (hirm : e.mode.irm = false) (hc : e.cur.col + 1 < cols) (g : G) {row : Row} {x : ECell}
    (hrow : e.active[e.cur.row.toNat]? = some row) (hlen : row.length = cols)
    (hx : row[e.cur.col.toNat + 1]? = some x) :
    printK1 g 2 e = .ok (printAdvance (e.setActive (e.active.set e.cur.row.toNat
        ((row.set e.cur.col.toNat { g := g, w := 2, st := e.cur.st }).set (e.cur.col.toNat + 1)
          { x with g := [32], st := e.cur.st }))) ((2 : Nat) : Int)) := by
  have hg := active_ok h
  have := h.rowLo; have := h.rowHi; have := h.colLo; have hr := h.right
  rw [printK1_pos h d hirm (by omega)]
  unfold printWrite
  rw [if_neg (by decide)]
  rw [getI_eq_ok.mpr ⟨h.rowLo, hrow⟩, Except.ok_bind, setI_ok row _ _ h.colLo (by omega), Except.ok_bind,
    setI_ok e.active _ _ h.rowLo (by rw [hg.len]; omega), Except.ok_bind, forUpBrk_once]
  rw [if_neg (by omega)]
  have hn : (e.cur.col + 1).toNat = e.cur.col.toNat + 1 := by omega
  have hrow' : (e.active.set e.cur.row.toNat
      (row.set e.cur.col.toNat { g := g, w := 2, st := e.cur.st }))[e.cur.row.toNat]? =
      some (row.set e.cur.col.toNat { g := g, w := 2, st := e.cur.st }) := by
    rw [List.getElem?_set]; simp; rw [hg.len]; omega
  have hx' : (row.set e.cur.col.toNat { g := g, w := 2, st := e.cur.st })[(e.cur.col + 1).toNat]? = some x := by
    rw [hn, List.getElem?_set]; simp; exact hx
  rw [modCell_eq _ _ _ h.rowLo (by omega) hrow' hx', Except.ok_bind, Except.ok_bind, Except.ok_bind,
    List.set_set, hn]

theorem rowAccepts_set {trow arow : Term.TRow} (h : Term.rowAccepts trow arow = true) (k : Nat)
    (x y : Term.TCell) (hxy : x.accepts y = true) :
    Term.rowAccepts (trow.set k x) (arow.set k y) = true := by
  rw [rowAccepts_iff] at h ⊢
  obtain ⟨hl, hi⟩ := h
  refine ⟨by simpa using hl, ?_⟩
  intro i a b ha hb
  rw [List.getElem?_set] at ha hb
  by_cases hk : k = i
  · simp only [hk, if_true] at ha hb
    split at ha
    · split at hb
      · simp at ha hb; subst ha; subst hb; exact hxy
      · simp at hb
    · simp at ha
  · simp only [hk, if_false] at ha hb
    exact hi i a b ha hb

theorem absCell_glyph (g : G) (w : Nat) (st : EStyle) (hg : g ≠ []) :
    absCell { g := g, w := w, st := st } = .glyph g w (absStyle st) st.link := by
  unfold absCell; simp [hg]

theorem absRow_wrapped {row : Row} {k : Nat} {x : ECell} (h : row[k]? = some x) :
    absRow (row.set k { x with wrapped := true }) = absRow row := by
  unfold absRow
  rw [List.map_set]
  have : absCell { x with wrapped := true } = absCell x := rfl
  rw [this]
  exact ListBasic.set_self_of_getElem? (by simp [h])

theorem wrapT_eq (t : Term.T) : wrapT t = { t.indCore with col := 0, pw := false } := by
  unfold wrapT Term.T.indCore Term.T.scrollUp Term.T.setGrid Term.T.grid Term.T.blankRow Term.T.blank
  simp only
  split
  · split <;> rfl
  · split <;> rfl

theorem wrapT_pw (t : Term.T) : (wrapT t).pw = false := rfl

theorem wrapT_col (t : Term.T) : (wrapT t).col = 0 := by rw [wrapT_eq]

/-- first loop of ich(): `line[i] = line[i-k]` for `i` from the right margin down to `col+k` -/
theorem ich_loop1 (line : Row) (cols c k : Nat) (hlen : line.length = cols) (hk : 1 ≤ k)
    (hcm : cols ≤ 65535) :
    ∃ line1, forDown ((cols : Int) - 1) ((c : Int) + (k : Int)) (fun i line => do
        let x ← getI line (i - (k : Int))
        setI line i x) line = .ok line1 ∧ line1.length = cols ∧
      ∀ j : Nat, line1[j]? = if c + k ≤ j ∧ j < cols then line[j - k]? else line[j]? := by
  by_cases hfit : c + k ≤ cols
  · obtain ⟨l1, h1, h2, h3⟩ := sweepDown (fun l : Row => l.length = cols) (fun l j => l[j]?) hlen (fun j => line[j - k]?)
      (fun i line => do
        let x ← getI line (i - (k : Int))
        setI line i x) ((cols : Int) - 1) ((c : Int) + (k : Int)) (by omega) (by omega) (by rw [hangLimit_val]; omega)
      (by
        intro i l hi0 hi1 hl hsame
        obtain ⟨x, hx⟩ := ListBasic.getElem?_some_of_lt line (i - (k : Int)).toNat (by omega)
        rw [getI_eq_ok.mpr ⟨(by omega), (hsame _ (by omega)).trans hx⟩, Except.ok_bind, setI_ok l i x (by omega) (by omega)]
        refine ⟨_, rfl, by simp [hl], fun j => ?_⟩
        rw [List.getElem?_set, show i.toNat - k = (i - (k : Int)).toNat by omega, hx]
        by_cases hj : i.toNat = j
        · rw [if_pos hj, if_pos (by omega), if_pos hj.symm]
        · rw [if_neg hj, if_neg (fun h => hj h.symm)])
    refine ⟨l1, h1, h2, fun j => ?_⟩
    rw [h3]
    exact ite_iff (by omega) _ _
  · refine ⟨line, forDown_empty _ _ _ _ (by omega), hlen, fun j => ?_⟩
    rw [if_neg (by omega)]

/-- second loop of ich(): blanks at `col .. col+k-1`, stopping after the right margin -/
theorem ich_loop2 (line1 : Row) (cols c k : Nat) (b : ECell)
    (hlen : line1.length = cols) (hk : 1 ≤ k) (hk2 : k ≤ 65535) (hc : c < cols) :
    ∃ line2, forUpBrk 0 ((k : Int) - 1) (fun i line =>
        if (c : Int) + i > (cols : Int) - 1 then .ok (line, false)
        else do
          let l ← setI line ((c : Int) + i) b
          .ok (l, true)) line1 = .ok line2 ∧ line2.length = cols ∧
      ∀ j : Nat, line2[j]? = if c ≤ j ∧ j < c + k ∧ j < cols then some b else line1[j]? := by
  obtain ⟨l2, h1, h2, h3⟩ := forUpBrk_ix
    (fun (i : Int) (l : Row) => l.length = cols ∧
      ∀ j : Nat, l[j]? = if c ≤ j ∧ (j : Int) < (c : Int) + i ∧ j < cols then some b else line1[j]?)
    _  -- a `break` establishes the invariant of the regular end
    (fun i line =>
        if (c : Int) + i > (cols : Int) - 1 then .ok (line, false)
        else do
          let l ← setI line ((c : Int) + i) b
          .ok (l, true)) 0 ((k : Int) - 1) line1 (by omega) (by rw [hangLimit_val]; omega)
    ⟨hlen, fun j => by
      have : ¬ (c ≤ j ∧ (j : Int) < (c : Int) + 0 ∧ j < cols) := by omega
      rw [if_neg this]⟩
    (by
      intro i l hi0 hi1 ⟨hl, hP⟩
      by_cases hb : (c : Int) + i > (cols : Int) - 1
      · rw [if_pos hb]
        refine ⟨_, rfl, fun hf => by simp at hf, fun _ => ⟨hl, ?_⟩⟩
        intro j
        rw [hP]
        exact ite_iff (by omega) _ _
      · rw [if_neg hb, setI_ok l _ b (by omega) (by omega), Except.ok_bind]
        refine ⟨_, rfl, fun _ => ⟨by simp [hl], ?_⟩, fun hf => by simp at hf⟩
        intro j
        show (l.set ((c : Int) + i).toNat b)[j]? = _
        rw [List.getElem?_set]
        by_cases hj : ((c : Int) + i).toNat = j
        · have h1 : ((c : Int) + i).toNat < l.length := by omega
          rw [if_pos hj, if_pos h1, if_pos (by omega)]
        · rw [if_neg hj, hP]
          exact ite_iff (by omega) _ _)
    (fun _ h => h)
  refine ⟨l2, h1, h2, ?_⟩
  intro j
  rw [h3]
  exact ite_iff (by omega) _ _

/-- ich(), exactly: the cursor row becomes
    `line[..col] ++ m erased blanks ++ line[col .. cols-m]`, `m = min k (cols - col)`. -/
theorem ich_exact {e : Emu} {rows cols : Nat} (h : EmuInv e rows cols) (d : Dim rows cols)
    (n : Int) (k c : Nat) (hn : dflt1 n = (k : Int)) (hcc : e.cur.col = (c : Int)) (hc : c < cols)
    (hk1 : 1 ≤ k) (hk2 : k ≤ 65535) {line : Row}
    (hrow : e.active[e.cur.row.toNat]? = some line) (hlen : line.length = cols) :
    ∃ line2, ich Fixes.current e n = .ok (e.setActive (e.active.set e.cur.row.toNat line2)) ∧
      line2.length = cols ∧
      ∀ j : Nat, line2[j]? =
        if j < c then line[j]? else if j < c + min k (cols - c) then some (({} : ECell).erase e.bg)
        else if j < cols then line[j - min k (cols - c)]? else none := by
  have hg := active_ok h
  have := h.rowLo; have := h.rowHi
  obtain ⟨line1, h1, hl1, hs1⟩ := ich_loop1 line cols c k hlen hk1 d.cmax
  obtain ⟨line2, h2, hl2, hs2⟩ := ich_loop2 line1 cols c k (({} : ECell).erase e.bg) hl1 hk1 hk2 hc
  refine ⟨line2, ?_, hl2, ?_⟩
  · unfold ich
    simp only [Fixes.current, Bool.not_true, Bool.false_and, Bool.false_eq_true, if_true, if_false,
      decide_eq_true_eq, hn, hcc, h.right]
    rw [getI_eq_ok.mpr ⟨h.rowLo, hrow⟩, Except.ok_bind, h1, Except.ok_bind, h2, Except.ok_bind,
      setI_ok e.active _ _ h.rowLo (by rw [hg.len]; omega), Except.ok_bind]
  · intro j
    rw [hs2, hs1]
    -- stretch by stretch: left of the cursor, the blanks, the shifted cells, beyond the row
    by_cases hj1 : j < c
    · rw [if_neg (by omega), if_neg (by omega), if_pos hj1]
    by_cases hj2 : j < c + min k (cols - c)
    · rw [if_pos (by omega), if_neg hj1, if_pos hj2]
    by_cases hj3 : j < cols
    · rw [if_neg (by omega), if_pos (by omega), if_neg hj1, if_neg hj2, if_pos hj3]; congr 1; omega
    · rw [if_neg (by omega), if_neg (by omega), if_neg hj1, if_neg hj2, if_neg hj3]; exact List.getElem?_eq_none (by omega)

/-- the loop of dch(): `line[i] = line[i+k]` going up, erased cells once `i+k` is beyond the margin -/
theorem dch_loop (g0 : Grid) (line : Row) (cols c k : Nat) (bg : Nat) (rowI col0 right nI : Int)
    (h0 : 0 ≤ rowI) (hr : right = (cols : Int) - 1) (hc0 : col0 = (c : Int)) (hnI : nI = (k : Int))
    (hrow : g0[rowI.toNat]? = some line) (hlen : line.length = cols) (hk : 1 ≤ k) (hc : c ≤ cols)
    (hcm : cols ≤ 65535) :
    ∃ ln, forUp col0 right (fun col g =>
        if col + nI > right then modCell g rowI col (fun x => x.erase bg)
        else do
          let r ← getI g rowI
          let x ← getI r (col + nI)
          let r' ← setI r col x
          setI g rowI r') g0 = .ok (g0.set rowI.toNat ln) ∧ ln.length = cols ∧
      ∀ j : Nat, ln[j]? =
        if c ≤ j ∧ j < cols then (if j + k < cols then line[j + k]? else (line[j]?).map (fun x => x.erase bg))
        else line[j]? := by
  subst hr hc0 hnI
  have hrlt : rowI.toNat < g0.length := (List.getElem?_eq_some_iff.mp hrow).1
  have hat : ∀ ln : Row, (g0.set rowI.toNat ln)[rowI.toNat]? = some ln := fun ln => by
    rw [List.getElem?_set]; simp [hrlt]
  obtain ⟨g1, h1, ⟨ln, hg1, hl⟩, hP⟩ := sweepUp
    (fun g : Grid => ∃ ln : Row, g = g0.set rowI.toNat ln ∧ ln.length = cols)
    (fun g j => (g[rowI.toNat]?).bind (·[j]?)) ⟨line, (ListBasic.set_self_of_getElem? hrow).symm, hlen⟩
    (fun j => if j + k < cols then line[j + k]? else (line[j]?).map (fun x => x.erase bg))
    (fun col g =>
        if col + (k : Int) > (cols : Int) - 1 then modCell g rowI col (fun x => x.erase bg)
        else do
          let r ← getI g rowI
          let x ← getI r (col + (k : Int))
          let r' ← setI r col x
          setI g rowI r') (c : Int) ((cols : Int) - 1) (by omega) (by omega) (by rw [hangLimit_val]; omega)
    (by
      intro i g hi0 hi1 ⟨ln, hg, hl⟩ hsame
      subst hg
      simp only [hat, hrow, Option.bind_some] at hsame
      -- either way cell `i` of the row is replaced by `x`, the value the map gives
      have hnew : ∀ (x : ECell), ∃ g2, g2 = (g0.set rowI.toNat ln).set rowI.toNat (ln.set i.toNat x) ∧
          (∃ ln' : Row, g2 = g0.set rowI.toNat ln' ∧ ln'.length = cols) ∧
          ∀ j : Nat, (g2[rowI.toNat]?).bind (·[j]?) = if j = i.toNat then some x else ((g0.set rowI.toNat ln)[rowI.toNat]?).bind (·[j]?) := by
        intro x
        refine ⟨_, rfl, ⟨_, List.set_set .., by simp [hl]⟩, fun j => ?_⟩
        rw [List.set_set, hat, hat, Option.bind_some, Option.bind_some, List.getElem?_set]
        by_cases hj : i.toNat = j
        · rw [if_pos hj, if_pos (by omega), if_pos hj.symm]
        · rw [if_neg hj, if_neg (fun h => hj h.symm)]
      by_cases hb : i + (k : Int) > (cols : Int) - 1
      · rw [if_pos hb, if_neg (by omega)]
        obtain ⟨x, hx⟩ := ListBasic.getElem?_some_of_lt line i.toNat (by omega)
        obtain ⟨g2, e2, hok2, hrow2⟩ := hnew (x.erase bg)
        rw [modCell_eq rowI i _ h0 (by omega) (hat ln) ((hsame _ (by omega)).trans hx), ← e2, hx]
        exact ⟨g2, rfl, hok2, hrow2⟩
      · rw [if_neg hb, if_pos (by omega)]
        obtain ⟨x, hx⟩ := ListBasic.getElem?_some_of_lt line (i.toNat + k) (by omega)
        have hik : (i + (k : Int)).toNat = i.toNat + k := by omega
        obtain ⟨g2, e2, hok2, hrow2⟩ := hnew x
        rw [getI_eq_ok.mpr ⟨h0, hat ln⟩, Except.ok_bind,
          getI_eq_ok.mpr ⟨(by omega), by rw [hik]; exact (hsame _ (by omega)).trans hx⟩, Except.ok_bind,
          setI_ok ln i x (by omega) (by omega), Except.ok_bind,
          setI_ok _ rowI _ h0 (by simp; omega), ← e2, hx]
        exact ⟨g2, rfl, hok2, hrow2⟩)
  subst hg1
  refine ⟨ln, h1, hl, fun j => ?_⟩
  have := hP j
  simp only [hat, hrow, Option.bind_some] at this
  rw [this]
  exact ite_iff (by omega) _ _

/-- dch(), exactly: the abstraction of the cursor row becomes
    `row[..col] ++ row[col+m..] ++ m blanks`, `m = min k (cols - col)`. -/
theorem dch_exact {e : Emu} {rows cols : Nat} (h : EmuInv e rows cols) (d : Dim rows cols)
    (n : Int) (k c : Nat) (hn : dflt1 n = (k : Int)) (hcc : e.cur.col = (c : Int)) (hc : c < cols)
    (hk1 : 1 ≤ k) {line : Row}
    (hrow : e.active[e.cur.row.toNat]? = some line) (hlen : line.length = cols) :
    ∃ ln, dch e n = .ok (({ e with lastCol := false } : Emu).setActive (e.active.set e.cur.row.toNat ln)) ∧
      ln.length = cols ∧
      ∀ j : Nat, (ln[j]?).map absCell =
        if j < c then (line[j]?).map absCell
        else if j + min k (cols - c) < cols then (line[j + min k (cols - c)]?).map absCell
        else if j < cols then some (.blank (absCol e.bg)) else none := by
  obtain ⟨ln, h1, hl, hs⟩ := dch_loop e.active line cols c k e.bg e.cur.row e.cur.col e.right (dflt1 n)
    h.rowLo h.right hcc hn hrow hlen hk1 (by omega) d.cmax
  refine ⟨ln, ?_, hl, ?_⟩
  · unfold dch
    show (forUp e.cur.col e.right (fun col g =>
        if col + dflt1 n > e.right then modCell g e.cur.row col (fun x => x.erase e.bg)
        else do
          let r ← getI g e.cur.row
          let x ← getI r (col + dflt1 n)
          let r' ← setI r col x
          setI g e.cur.row r') e.active >>= fun g =>
        Except.ok (({ e with lastCol := false } : Emu).setActive g)) = _
    rw [h1, Except.ok_bind]
  · intro j
    rw [hs]
    -- stretch by stretch: left of the cursor, the shifted cells, the erased cells, beyond the row
    by_cases hj1 : j < c
    · rw [if_neg (by omega), if_pos hj1]
    by_cases hj2 : j + min k (cols - c) < cols
    · rw [if_pos (by omega), if_pos (by omega), if_neg hj1, if_pos hj2]; congr 2; omega
    by_cases hj3 : j < cols
    · obtain ⟨x, hx⟩ := ListBasic.getElem?_some_of_lt line j (by omega)
      rw [if_pos (by omega), if_neg (by omega), if_neg hj1, if_neg hj2, if_pos hj3, hx]
      simp only [Option.map_some, absCell_erase]
    · rw [if_neg (by omega), if_neg hj1, if_neg hj2, if_neg hj3, List.getElem?_eq_none (by omega)]; rfl

end VaxisModel.Lemmas.EmuRefine.PrintAux

namespace VaxisModel.Lemmas.EmuRefine
open VaxisModel.Model.Emu VaxisModel.Model.EmuAbs VaxisModel.Lemmas.Emu VaxisModel.Spec
open PrintAux

theorem advance_sim2 {t : Term.T} {e : Emu} {rows cols : Nat} (s2 : Sim2 t e rows cols)
    (hp : t.pw = false) (w : Nat) (hw : 1 ≤ w) (hfit : e.cur.col + (w : Int) ≤ cols)
    (tg : Term.TGrid) (g' : Grid) (hg' : GridOk g' rows cols)
    (hacc : Term.gridAccepts tg (g'.map absRow) = true) :
    Sim2 (if t.col + w = t.cols then { (t.setGrid tg) with col := t.col + w - 1, pw := true }
          else { (t.setGrid tg) with col := t.col + w })
      (printAdvance (e.setActive g') (w : Int)) rows cols := by
  have s := s2.sim
  have hlc := lastCol_false_of_not_pw s s2.lc hp
  have hc := col_lt_of_not_pw s hp
  have htc := tcol_eq s hp
  have hcol0 := s.inv.colLo
  have hcs := s.tcols
  have hawm : (e.setActive g').mode.decawm = true := by simpa using s.vm.awm
  have hright : (e.setActive g').right = (cols : Int) - 1 := by simpa using s.inv.right
  have hle : (e.setActive g').cur.col + (w : Int) ≤ cols := by simp; omega
  rw [printAdvance_eq _ w cols hawm hright hle]
  have key := sim2_setGridCol s2 _ _ hg' hacc
  by_cases h1 : t.col + w = t.cols
  · rw [if_pos h1]
    refine key (t.col + w - 1) true _ _ ?_ ?_ ?_ ?_ ?_
    · first | omega | (simp; omega)
    · first | omega | (simp; omega)
    · simp; split <;> omega
    · simp; omega
    · intro _; simp; omega
  · rw [if_neg h1]
    refine key (t.col + w) (Term.T.setGrid t _).pw _ _ ?_ ?_ ?_ ?_ ?_
    · first | omega | (simp; omega)
    · first | omega | (simp; omega)
    · simp; split <;> omega
    · rw [setGrid_pw, hp]; simp; omega
    · intro hl
      simp only [setActive_cur, setActive_lastCol, hlc] at hl ⊢
      split at hl
      · first | omega | (simp; omega)
      · simp at hl

theorem cursorRow_accepts {t : Term.T} {e : Emu} {rows cols : Nat} (s : Sim t e rows cols) {line line2 : Row}
    (hrow : e.active[e.cur.row.toNat]? = some line) (f : Term.TRow → Term.TRow)
    (h : ∀ trow, Term.rowAccepts trow (absRow line) = true → Term.rowAccepts (f trow) (absRow line2) = true) :
    Term.gridAccepts (t.grid.modify t.row fun r => Term.healRow (f r))
      ((e.active.set e.cur.row.toNat line2).map absRow) = true := by
  have htr : t.row = e.cur.row.toNat := by have := s.row; have := s.inv.rowLo; omega
  rw [htr]
  refine gridAccepts_modify_set s.grid _ _ _ fun trow row0 _ hr0 hra => healRow_accepts _ _ ?_
  rw [hrow] at hr0
  obtain rfl : line = row0 := by simpa using hr0
  exact h trow hra

theorem narrow_accepts {t : Term.T} {e : Emu} {rows cols : Nat} (s : Sim t e rows cols) (hp : t.pw = false)
    (g : G) (hg : g ≠ []) {row : Row} (hrow : e.active[e.cur.row.toNat]? = some row) :
    Term.gridAccepts
      (t.grid.modify t.row (fun r => Term.healRow (r.set t.col (.glyph g 1 t.pen t.link))))
      ((e.active.set e.cur.row.toNat
        (row.set e.cur.col.toNat { g := g, w := 1, st := e.cur.st })).map absRow) = true := by
  have htc := tcol_eq s hp
  have htcn : t.col = e.cur.col.toNat := by have := s.inv.colLo; omega
  refine cursorRow_accepts s hrow _ fun trow hra => ?_
  unfold absRow
  rw [List.map_set, htcn]
  refine rowAccepts_set hra _ _ _ ?_
  rw [absCell_glyph g 1 _ hg, s.pen, s.link]
  exact accepts_self _

theorem wide_accepts {t : Term.T} {e : Emu} {rows cols : Nat} (s : Sim t e rows cols) (hp : t.pw = false)
    (g : G) (hg : g ≠ []) {row : Row} (hrow : e.active[e.cur.row.toNat]? = some row) (x : ECell) :
    Term.gridAccepts
      (t.grid.modify t.row (fun r => Term.healRow
        ((r.set t.col (.glyph g 2 t.pen t.link)).set (t.col + 1) .cont)))
      ((e.active.set e.cur.row.toNat
        ((row.set e.cur.col.toNat { g := g, w := 2, st := e.cur.st }).set (e.cur.col.toNat + 1)
          { x with g := [32], st := e.cur.st })).map absRow) = true := by
  have htc := tcol_eq s hp
  have htcn : t.col = e.cur.col.toNat := by have := s.inv.colLo; omega
  refine cursorRow_accepts s hrow _ fun trow hra => ?_
  unfold absRow
  rw [List.map_set, List.map_set, htcn]
  refine rowAccepts_set (rowAccepts_set hra _ _ _ ?_) _ _ _ (accepts_cont _)
  rw [absCell_glyph g 2 _ hg, s.pen, s.link]
  exact accepts_self _

/-- `printK1` is `print` from the insert-mode phase on. -/
theorem printK1_narrow_sim2 {t : Term.T} {e : Emu} {rows cols : Nat} (s2 : Sim2 t e rows cols)
    (hp : t.pw = false) (g : G) (hg : g ≠ []) :
    ∃ e', printK1 g 1 e = .ok e' ∧ Sim2 (narrowCore t g) e' rows cols := by
  have s := s2.sim
  have hc := col_lt_of_not_pw s hp
  have hrow0 := s.inv.rowLo; have hrow1 := s.inv.rowHi
  obtain ⟨row, hrow, hlen⟩ := row_at (active_ok s.inv) e.cur.row.toNat (by omega)
  rw [narrowCore_eq]
  exact ⟨_, printK1_narrow s.inv s.dim s.vm.irm hc g hrow hlen,
    advance_sim2 s2 hp 1 (by omega) (by omega) _ _ (gridOk_set (active_ok s.inv) _ _ (by simp [hlen]))
      (narrow_accepts s hp g hg hrow)⟩

theorem printK1_wide_sim2 {t : Term.T} {e : Emu} {rows cols : Nat} (s2 : Sim2 t e rows cols)
    (hp : t.pw = false) (hfit : e.cur.col + 1 < cols) (g : G) (hg : g ≠ []) :
    ∃ e', printK1 g 2 e = .ok e' ∧ Sim2 (wideCore t g) e' rows cols := by
  have s := s2.sim
  have hrow0 := s.inv.rowLo; have hrow1 := s.inv.rowHi; have hcol0 := s.inv.colLo
  obtain ⟨row, hrow, hlen⟩ := row_at (active_ok s.inv) e.cur.row.toNat (by omega)
  obtain ⟨x, hx⟩ := ListBasic.getElem?_some_of_lt row (e.cur.col.toNat + 1) (by omega)
  rw [wideCore_eq]
  exact ⟨_, printK1_wide s.inv s.dim s.vm.irm hfit g hrow hlen hx,
    advance_sim2 s2 hp 2 (by omega) (by omega) _ _ (gridOk_set (active_ok s.inv) _ _ (by simp [hlen]))
      (wide_accepts s hp g hg hrow x)⟩

theorem print_eq_K0_of_modes {e : Emu} (vm : VocabModes e) (g : G) (w : Nat) :
    print Fixes.current e g w = printK0 g w e := by
  rw [print_eq]
  have h1 : printPre e = e := by unfold printPre; simp [vm.noShift]
  have h2 : printGlyph e g = g := by
    unfold printGlyph
    split
    · simp [vm.ascii]
    · rfl
  rw [h1, h2]

theorem print_eq_K1_of_modes {e : Emu} {rows cols : Nat} (h : EmuInv e rows cols) (vm : VocabModes e) (g : G) (w : Nat)
    (hlc : e.lastCol = false) (hfit : e.cur.col + (w : Int) ≤ cols) :
    print Fixes.current e g w = printK1 g w e := by
  rw [print_eq_K0_of_modes vm]
  unfold printK0
  have hr := h.right
  have : ¬ (e.cur.col + (w : Int) - 1 > e.right) := by omega
  simp [hlc, this]

theorem print_narrow_nowrap2 {t : Term.T} {e : Emu} {rows cols : Nat} (s2 : Sim2 t e rows cols)
    (hp : t.pw = false) (g : G) (hg : g ≠ []) :
    ∃ e', print Fixes.current e g 1 = .ok e' ∧ Refines2 (Term.step t (.print g 1)) e' rows cols := by
  have s := s2.sim
  have hlc := lastCol_false_of_not_pw s s2.lc hp
  have hc := col_lt_of_not_pw s hp
  obtain ⟨e', he', hs'⟩ := printK1_narrow_sim2 s2 hp g hg
  refine ⟨e', by rw [print_eq_K1_of_modes s.inv s.vm g 1 hlc (by omega)]; exact he', ?_⟩
  have : Term.step t (.print g 1) = Term.one (narrowCore t g) := by
    simp only [Term.step, if_true, writeNarrow_eq, hp, Bool.false_eq_true, if_false]
  rw [this]
  exact refines2_one hs'

theorem print_wide_nowrap2 {t : Term.T} {e : Emu} {rows cols : Nat} (s2 : Sim2 t e rows cols)
    (hp : t.pw = false) (hfit : e.cur.col + 1 < cols) (g : G) (hg : g ≠ []) :
    ∃ e', print Fixes.current e g 2 = .ok e' ∧ Refines2 (Term.step t (.print g 2)) e' rows cols := by
  have s := s2.sim
  have hlc := lastCol_false_of_not_pw s s2.lc hp
  have htc := tcol_eq s hp
  have hcs := s.tcols
  obtain ⟨e', he', hs'⟩ := printK1_wide_sim2 s2 hp hfit g hg
  refine ⟨e', by rw [print_eq_K1_of_modes s.inv s.vm g 2 hlc (by omega)]; exact he', ?_⟩
  have h2 : t.cols ≥ 2 := by have := s.inv.colLo; omega
  have h3 : ¬ (t.pw = true ∨ t.col + 1 = t.cols) := by
    rw [hp]; simp; omega
  have : Term.step t (.print g 2) = Term.one (wideCore t g) := by
    simp only [Term.step, writeWide_eq, if_neg h3, h2, if_true]
    simp
  rw [this]
  exact refines2_one hs'

/-- NEL in every state, also pending wrap (where `Term.step t .nel` is unconstrained): the result is
    simulated by `wrapT t`, the state in which `T.writeNarrow` / `T.writeWide` write after an autowrap. -/
theorem nel_wrap2 {t : Term.T} {e : Emu} {rows cols : Nat} (s2 : Sim2 t e rows cols) :
    ∃ e2, nel e = .ok e2 ∧ Sim2 (wrapT t) e2 rows cols := by
  obtain ⟨e2, he2, s2', hlc⟩ := ind_sim2 s2
  have hl := s2'.sim.inv.left0
  have hc1 := s2'.sim.dim.c1
  refine ⟨{ e2 with cur := { e2.cur with col := e2.left } }, by unfold nel; rw [he2]; rfl, ?_⟩
  rw [wrapT_eq]
  exact sim2_setCol s2' 0 false e2.left e2.lastCol (by omega) (by omega)
    (by split <;> omega) (by symm; rw [decide_eq_false_iff_not]; omega) (by rw [hlc]; nofun)

theorem sim2_markWrapped {t : Term.T} {e : Emu} {rows cols : Nat} (s2 : Sim2 t e rows cols) :
    ∃ g', modCell e.active e.cur.row (({ e with lastCol := false } : Emu).width - 1)
        (fun c => { c with wrapped := true }) = .ok g' ∧
      Sim2 t (({ e with lastCol := false } : Emu).setActive g') rows cols := by
  have s := s2.sim
  have hw : ({ e with lastCol := false } : Emu).width = cols := width_eq (inv_lastCol s.inv false) s.dim.r1
  have hrow0 := s.inv.rowLo; have hrow1 := s.inv.rowHi; have hc1 := s.dim.c1
  obtain ⟨row, hrow, hlen⟩ := row_at (active_ok s.inv) e.cur.row.toNat (by omega)
  obtain ⟨x, hx⟩ := ListBasic.getElem?_some_of_lt row ((cols : Int) - 1).toNat (by omega)
  rw [hw, modCell_eq _ _ _ hrow0 (by omega) hrow hx]
  refine ⟨_, rfl, ?_⟩
  have hg' : GridOk (e.active.set e.cur.row.toNat
      (row.set ((cols : Int) - 1).toNat { x with wrapped := true })) rows cols :=
    gridOk_set (active_ok s.inv) _ _ (by simp [hlen])
  have hacc : Term.gridAccepts t.grid ((e.active.set e.cur.row.toNat
      (row.set ((cols : Int) - 1).toNat { x with wrapped := true })).map absRow) = true := by
    rw [List.map_set, absRow_wrapped hx, ListBasic.set_self_of_getElem? (by simp [hrow])]
    exact s.grid
  have := EraseAux.sim2_eraseGrid s2 t.grid _ hg' hacc
  rw [setGrid_self] at this
  exact this

/-- The autowrap phase of `print`: the emulator marks the line as wrapped and performs NEL; the
    rest of `print` runs from a state related to the reference's wrapped state. -/
theorem print_wrap_phase2 {t : Term.T} {e : Emu} {rows cols : Nat} (s2 : Sim2 t e rows cols)
    (g : G) (w : Nat)
    (hwrap : e.lastCol = true ∨ (cols : Int) < e.cur.col + (w : Int)) :
    ∃ e2, Sim2 (wrapT t) e2 rows cols ∧ print Fixes.current e g w = printK1 g w e2 := by
  have s := s2.sim
  obtain ⟨g', hg', s1⟩ := sim2_markWrapped s2
  obtain ⟨e2, he2, s2'⟩ := nel_wrap2 s1
  refine ⟨e2, s2', ?_⟩
  rw [print_eq_K0_of_modes s.vm]
  unfold printK0
  have hr := s.inv.right
  have hcond : ((e.lastCol || decide (e.cur.col + (w : Int) - 1 > e.right)) && e.mode.decawm) = true := by
    rw [s.vm.awm, Bool.and_true, Bool.or_eq_true, decide_eq_true_eq]
    rcases hwrap with h | h
    · exact Or.inl h
    · exact Or.inr (by omega)
  rw [if_pos hcond]
  show (modCell e.active e.cur.row (({ e with lastCol := false } : Emu).width - 1)
    (fun c => { c with wrapped := true }) >>= fun g' =>
      nel (({ e with lastCol := false } : Emu).setActive g') >>= fun e1 => printK1 g w e1) = _
  rw [hg', Except.ok_bind, he2, Except.ok_bind]

theorem print_narrow_wrap2 {t : Term.T} {e : Emu} {rows cols : Nat} (s2 : Sim2 t e rows cols)
    (hp : t.pw = true) (g : G) (hg : g ≠ []) :
    ∃ e', print Fixes.current e g 1 = .ok e' ∧ Refines2 (Term.step t (.print g 1)) e' rows cols := by
  have hcol : (cols : Int) ≤ e.cur.col := by
    have := s2.sim.pw; rw [hp] at this; simpa using this.symm
  obtain ⟨e2, s2', hpr⟩ := print_wrap_phase2 s2 g 1 (Or.inr (by omega))
  obtain ⟨e', he', hs'⟩ := printK1_narrow_sim2 s2' (wrapT_pw t) g hg
  refine ⟨e', by rw [hpr]; exact he', ?_⟩
  have : Term.step t (.print g 1) = Term.one (narrowCore (wrapT t) g) := by
    simp only [Term.step, if_true, writeNarrow_eq, hp]
  rw [this]
  exact refines2_one hs'

theorem print_wide_wrap2 {t : Term.T} {e : Emu} {rows cols : Nat} (s2 : Sim2 t e rows cols)
    (h2 : 2 ≤ cols) (hw : (cols : Int) ≤ e.cur.col + 1) (g : G) (hg : g ≠ []) :
    ∃ e', print Fixes.current e g 2 = .ok e' ∧ Refines2 (Term.step t (.print g 2)) e' rows cols := by
  have s := s2.sim
  obtain ⟨e2, s2', hpr⟩ := print_wrap_phase2 s2 g 2 (Or.inr (by omega))
  have hc2 : e2.cur.col = 0 := by
    have h1 := tcol_eq s2'.sim (wrapT_pw t)
    rw [wrapT_col] at h1
    omega
  obtain ⟨e', he', hs'⟩ := printK1_wide_sim2 s2' (wrapT_pw t) (by omega) g hg
  refine ⟨e', by rw [hpr]; exact he', ?_⟩
  have hcs := s.tcols
  have h3 : t.pw = true ∨ t.col + 1 = t.cols := by
    cases hpw : t.pw with
    | true => exact Or.inl rfl
    | false =>
      have := tcol_eq s hpw
      exact Or.inr (by have := col_lt_of_not_pw s hpw; omega)
  have : Term.step t (.print g 2) = Term.one (wideCore (wrapT t) g) := by
    simp only [Term.step, writeWide_eq, if_pos h3]
    have : t.cols ≥ 2 := by omega
    simp [this]
  rw [this]
  exact refines2_one hs'

/-- ICH / DCH: both sides replace the cursor row.  If the emulator's new row `line2` has the width and the reference's new row
    `f trow` accepts it cell by cell whenever `trow` accepted the old row, the states stay related (`lc`: the `lastCol` the
    emulator leaves). -/
theorem sim2_cursorRow {t : Term.T} {e : Emu} {rows cols : Nat} (s2 : Sim2 t e rows cols) {line line2 : Row}
    (hrow : e.active[e.cur.row.toNat]? = some line) (hl2 : line2.length = cols)
    (f : Term.TRow → Term.TRow) (lc : Bool) (hlc : lc = true → e.lastCol = true)
    (hcell : ∀ trow : Term.TRow, trow.length = line.length →
      (∀ (i : Nat) (x y : Term.TCell), trow[i]? = some x → (line[i]?).map absCell = some y → x.accepts y = true) →
      (f trow).length = cols ∧
        ∀ (i : Nat) (x y : Term.TCell), (f trow)[i]? = some x → (line2[i]?).map absCell = some y → x.accepts y = true) :
    Sim2 (t.modRow t.row f) { (e.setActive (e.active.set e.cur.row.toNat line2)) with lastCol := lc } rows cols := by
  have s := s2.sim
  unfold Term.T.modRow
  refine sim2_setGrid s2 _ _ (gridOk_set (active_ok s.inv) _ _ hl2) (cursorRow_accepts s hrow f fun trow hra => ?_) lc hlc
  obtain ⟨htl, hidx⟩ := (rowAccepts_iff _ _).mp hra
  unfold absRow at htl hidx
  obtain ⟨h1, h2⟩ := hcell trow (by rw [htl, List.length_map])
    (fun i x y hx hy => hidx i x y hx (by rw [List.getElem?_map]; exact hy))
  rw [rowAccepts_iff]
  unfold absRow
  exact ⟨by rw [h1, List.length_map, hl2], fun i x y hx hy => h2 i x y hx (by rw [← List.getElem?_map]; exact hy)⟩

theorem ich_refines2 {t : Term.T} {e : Emu} {rows cols : Nat} (s2 : Sim2 t e rows cols) (n : Nat) :
    ∃ e', ich Fixes.current e (cp n) = .ok e' ∧ Refines2 (Term.step t (.ich n)) e' rows cols := by
  have s := s2.sim
  simp only [Term.step]
  refine refines2_of_safe (ich_safe s.inv s.dim (cp_ok n)) fun e' he _ hp => ?_
  have hc := col_lt_of_not_pw s hp
  have htc := tcol_eq s hp
  have hrow0 := s.inv.rowLo; have hrow1 := s.inv.rowHi; have hcol0 := s.inv.colLo
  have hcm := s.dim.cmax
  have hcc : e.cur.col = ((t.col : Nat) : Int) := by omega
  obtain ⟨k, hk, hk1, hk2, hmin⟩ := dflt1_cp_nat n
  obtain ⟨line, hrow, hlen⟩ := row_at (active_ok s.inv) e.cur.row.toNat (by omega)
  obtain ⟨line2, hich, hl2, hs2⟩ := ich_exact s.inv s.dim (cp n) k t.col hk hcc (by omega) hk1 hk2 hrow hlen
  rw [hich] at he; cases he
  refine refines2_one (sim2_cursorRow s2 hrow hl2 _ (e.setActive (e.active.set e.cur.row.toNat line2)).lastCol
    (fun h => by rwa [setActive_lastCol] at h) fun trow htl hidx => ?_)
  rw [hlen] at htl
  simp only [s.tcols, hmin (cols - t.col) (by omega)]
  have hcmle : t.col + min k (cols - t.col) ≤ cols := by omega
  refine ⟨by simp only [List.length_append, List.length_take, List.length_replicate, List.length_drop, htl]; omega, ?_⟩
  intro i x y hx hy
  rw [ListBasic.ins_getElem? trow t.col _ cols t.blank htl hcmle i] at hx
  rw [hs2] at hy
  by_cases hj1 : i < t.col
  · rw [if_pos hj1] at hx hy
    exact hidx i x y hx hy
  · rw [if_neg hj1] at hx hy
    by_cases hj2 : i < t.col + min k (cols - t.col)
    · rw [if_pos hj2] at hx hy
      simp only [Option.map_some, Option.some.injEq] at hx hy
      subst hx; subst hy
      rw [blank_eq s]
      exact accepts_blank_erase _ _
    · rw [if_neg hj2] at hx hy
      by_cases hj3 : i < cols
      · rw [if_pos hj3] at hx hy
        exact hidx _ x y hx hy
      · rw [if_neg hj3] at hx
        cases hx

theorem dch_refines2 {t : Term.T} {e : Emu} {rows cols : Nat} (s2 : Sim2 t e rows cols) (n : Nat) :
    ∃ e', dch e (cp n) = .ok e' ∧ Refines2 (Term.step t (.dch n)) e' rows cols := by
  have s := s2.sim
  simp only [Term.step]
  refine refines2_of_safe (dch_safe s.inv s.dim (cp_ok n)) fun e' he _ hp => ?_
  have hc := col_lt_of_not_pw s hp
  have htc := tcol_eq s hp
  have hrow0 := s.inv.rowLo; have hrow1 := s.inv.rowHi; have hcol0 := s.inv.colLo
  have hcm := s.dim.cmax
  have hcc : e.cur.col = ((t.col : Nat) : Int) := by omega
  obtain ⟨k, hk, hk1, hk2, hmin⟩ := dflt1_cp_nat n
  obtain ⟨line, hrow, hlen⟩ := row_at (active_ok s.inv) e.cur.row.toNat (by omega)
  obtain ⟨ln, hdch, hl2, hs2⟩ := dch_exact s.inv s.dim (cp n) k t.col hk hcc (by omega) hk1 hrow hlen
  rw [hdch, EraseAux.setActive_lastCol_comm] at he; cases he
  refine refines2_one (sim2_cursorRow s2 hrow hl2 _ false nofun fun trow htl hidx => ?_)
  rw [hlen] at htl
  simp only [s.tcols, hmin (cols - t.col) (by omega)]
  have hcmle : t.col + min k (cols - t.col) ≤ cols := by omega
  refine ⟨by simp only [List.length_append, List.length_take, List.length_replicate, List.length_drop, htl]; omega, ?_⟩
  intro i x y hx hy
  rw [ListBasic.del_getElem? trow t.col _ cols t.blank htl hcmle i] at hx
  rw [hs2] at hy
  by_cases hj1 : i < t.col
  · rw [if_pos hj1] at hx hy
    exact hidx i x y hx hy
  · rw [if_neg hj1] at hx hy
    by_cases hj2 : i + min k (cols - t.col) < cols
    · rw [if_pos hj2] at hx hy
      exact hidx _ x y hx hy
    · rw [if_neg hj2] at hx hy
      by_cases hj3 : i < cols
      · rw [if_pos hj3] at hx hy
        simp only [Option.some.injEq] at hx hy
        subst hx; subst hy
        rw [blank_eq s]
        simp [Term.TCell.accepts]
      · rw [if_neg hj3] at hx
        cases hx

theorem dch_lastColOk {e e' : Emu} {n : Int} {cols : Nat} (h : dch e n = .ok e') : LastColOk e' cols := by
  unfold dch at h
  simp only [bind, Except.bind] at h
  split at h
  · simp at h
  · simp only [Except.ok.injEq] at h
    subst h
    intro hl
    simp at hl

theorem print_refines2 {t : Term.T} {e : Emu} {rows cols : Nat} (s2 : Sim2 t e rows cols)
    (g : G) (hg : g ≠ []) (w : Nat) :
    ∃ e', print Fixes.current e g w = .ok e' ∧ Refines2 (Term.step t (.print g w)) e' rows cols := by
  have s := s2.sim
  by_cases h1 : w = 1
  · subst h1
    cases hp : t.pw with
    | false => exact print_narrow_nowrap2 s2 hp g hg
    | true => exact print_narrow_wrap2 s2 hp g hg
  · by_cases h2 : w = 2 ∧ 2 ≤ cols
    · obtain ⟨rfl, hc2⟩ := h2
      by_cases hfit : e.cur.col + 1 < cols
      · have hp : t.pw = false := by
          have := s.pw; rw [this, decide_eq_false_iff_not]; omega
        exact print_wide_nowrap2 s2 hp hfit g hg
      · exact print_wide_wrap2 s2 hc2 (by omega) g hg
    · -- other widths, and a wide glyph on a one-column screen: not constrained by the reference
      obtain ⟨e', he', _⟩ := print_safe s.inv s.dim g w
      refine ⟨e', he', ?_⟩
      have : Term.step t (.print g w) = .unconstrained := by
        have := s.tcols
        simp only [Term.step, if_neg h1]
        split
        · rw [if_neg (by omega)]
        · rfl
      rw [this]
      trivial

/-! ### non-vacuity: related states exist, without and with pending wrap -/

/-- a blank 1×2 emulator, cursor at column `c` -/
def exE (c : Int) (lc : Bool) : Emu :=
  { primary := [[{}, {}]], alt := [[{}, {}]], bottom := 0, right := 1, cur := { col := c }, lastCol := lc }

theorem exSim0 : Sim (Term.T.init 1 2) (exE 0 false) 1 2 :=
  { inv := { prim := ⟨rfl, by decide⟩, alt := ⟨rfl, by decide⟩, rowLo := by decide, rowHi := by decide,
             colLo := by decide, colHi := by decide, topLo := by decide, topLe := by decide,
             botHi := by decide, left0 := rfl, right := by decide,
             savedP := ⟨by decide, by decide, by decide, by decide⟩,
             savedA := ⟨by decide, by decide, by decide, by decide⟩,
             tabs := by decide }
    dim := ⟨by decide, by decide, by decide, by decide⟩
    vm := ⟨rfl, rfl, rfl, rfl, rfl⟩
    trows := rfl, tcols := rfl, onAlt := rfl, row := rfl, col := by decide, pw := by decide
    pen := by decide, link := rfl, top := rfl, bottom := rfl, grid := by decide }

theorem exSim2 : Sim { Term.T.init 1 2 with col := 1, pw := true } (exE 2 true) 1 2 :=
  { inv := { prim := ⟨rfl, by decide⟩, alt := ⟨rfl, by decide⟩, rowLo := by decide, rowHi := by decide,
             colLo := by decide, colHi := by decide, topLo := by decide, topLe := by decide,
             botHi := by decide, left0 := rfl, right := by decide,
             savedP := ⟨by decide, by decide, by decide, by decide⟩,
             savedA := ⟨by decide, by decide, by decide, by decide⟩,
             tabs := by decide }
    dim := ⟨by decide, by decide, by decide, by decide⟩
    vm := ⟨rfl, rfl, rfl, rfl, rfl⟩
    trows := rfl, tcols := rfl, onAlt := rfl, row := rfl, col := by decide, pw := by decide
    pen := by decide, link := rfl, top := rfl, bottom := rfl, grid := by decide }

/-- the hypotheses of `print_narrow_nowrap2` / `print_wide_nowrap2` / `ich_refines2` / `dch_refines2` -/
example : ∃ t e, Sim t e 1 2 ∧ LastColOk e 2 ∧ t.pw = false ∧ e.cur.col + 1 < 2 :=
  ⟨_, _, exSim0, (fun h => by cases h), rfl, by decide⟩

/-- the hypotheses of `print_narrow_wrap2` / `print_wide_wrap2` -/
example : ∃ t e, Sim t e 1 2 ∧ LastColOk e 2 ∧ t.pw = true ∧ (2 : Int) ≤ e.cur.col + 1 :=
  ⟨_, _, exSim2, (fun _ => by decide), rfl, by decide⟩

end VaxisModel.Lemmas.EmuRefine
