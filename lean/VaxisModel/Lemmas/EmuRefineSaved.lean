/-
C06 refinement: the saved cursor and the alternate screen (DECSC, DECRC, ?1049 h/l), stated
for the full simulation relation `Sim2` (Lemmas/EmuRefine2.lean).
-/
import VaxisModel.Lemmas.EmuRefine2
import VaxisModel.Lemmas.EmuRefineErase
import VaxisModel.Lemmas.EmuSafe3

namespace VaxisModel.Lemmas.EmuRefine
open VaxisModel.Model.Emu VaxisModel.Model.EmuAbs VaxisModel.Lemmas.Emu VaxisModel.Spec
open EraseAux

namespace SavedAux

/-- The slot DECSC writes. -/
def eSlot (e : Emu) : Saved :=
  { cur := e.cur, decawm := e.mode.decawm, decom := e.mode.decom,
    cs := { sel := e.cs.sel, saved := e.cs.saved, ss := false,
            g0 := e.cs.g0, g1 := e.cs.g1, g2 := e.cs.g2, g3 := e.cs.g3 } }

/-- The saved cursor the reference remembers. -/
def tSlot (t : Term.T) : Term.SavedCursor :=
  { row := t.row, col := t.col, pw := t.pw, pen := t.pen, link := t.link }

theorem eSlot_ok {e : Emu} {rows cols : Nat} (h : EmuInv e rows cols) : SavedOk (eSlot e) rows cols :=
  ⟨h.rowLo, h.rowHi, h.colLo, h.colHi⟩

theorem savedRel_slot {t : Term.T} {e : Emu} {rows cols : Nat} (s : Sim t e rows cols) :
    SavedRel (some (tSlot t)) (eSlot e) cols :=
  ⟨s.vm.awm, s.vm.ascii, s.row, s.col, s.pw, s.pen, s.link⟩

theorem decsc_prim {e : Emu} (h : e.mode.smcup = false) : decsc e = { e with savedP := eSlot e } := by
  unfold decsc eSlot; simp only [h]; rfl

theorem decsc_alt {e : Emu} (h : e.mode.smcup = true) : decsc e = { e with savedA := eSlot e } := by
  unfold decsc eSlot; simp only [h]; rfl

theorem save_prim {t : Term.T} (h : t.onAlt = false) : t.save = { t with savedP := some (tSlot t) } := by
  unfold Term.T.save tSlot; simp only [h]; rfl

theorem save_alt {t : Term.T} (h : t.onAlt = true) : t.save = { t with savedA := some (tSlot t) } := by
  unfold Term.T.save tSlot; simp only [h]; rfl

theorem sim_saved {t : Term.T} {e : Emu} {rows cols : Nat} (s : Sim t e rows cols)
    (tp ta : Option Term.SavedCursor) (ep ea : Saved)
    (hp : SavedOk ep rows cols) (ha : SavedOk ea rows cols) :
    Sim { t with savedP := tp, savedA := ta } { e with savedP := ep, savedA := ea } rows cols :=
  { s with inv := { s.inv with savedP := hp, savedA := ha }, vm := s.vm.congr rfl rfl }

/-- What `decrc` does with the slot `es`. -/
def restoreFrom (e : Emu) (es : Saved) : Emu :=
  { e with cur := es.cur,
           cs := { sel := es.cs.sel, saved := es.cs.saved, ss := false,
                   g0 := es.cs.g0, g1 := es.cs.g1, g2 := es.cs.g2, g3 := es.cs.g3 },
           mode := { e.mode with decawm := es.decawm, decom := es.decom },
           lastCol := false }

theorem decrc_eq (e : Emu) : decrc e = restoreFrom e (if e.mode.smcup then e.savedA else e.savedP) := rfl

/-- What the reference's DECRC accepts, given the saved cursor of the active screen. -/
def restoreList (t : Term.T) (ts : Option Term.SavedCursor) : List Term.T :=
  match ts with
  | some s =>
    let t1 : Term.T := { t with row := min s.row (t.rows - 1), col := min s.col (t.cols - 1), pw := false,
                                pen := s.pen, link := s.link }
    if s.pw then [t1, { t1 with pw := true }] else [t1]
  | none => [{ t with row := 0, col := 0, pw := false, pen := {}, link := [] }]

theorem restore_eq (t : Term.T) : t.restore = restoreList t (if t.onAlt then t.savedA else t.savedP) := rfl

theorem sim_restore {t : Term.T} {e : Emu} {rows cols : Nat} (s : Sim t e rows cols)
    (es : Saved) (hok : SavedOk es rows cols) (hawm : es.decawm = true)
    (hcs : es.cs.desig es.cs.sel = 0)
    (tr tc : Nat) (tpw : Bool) (pen : TStyle) (link : Term.G)
    (hrow : (tr : Int) = es.cur.row)
    (hcol : (tc : Int) = (if es.cur.col ≥ cols then (cols : Int) - 1 else es.cur.col))
    (hpw : tpw = decide (es.cur.col ≥ cols)) (hpen : pen = absStyle es.cur.st)
    (hlink : link = es.cur.st.link) :
    Sim { t with row := tr, col := tc, pw := tpw, pen := pen, link := link }
        (restoreFrom e es) rows cols :=
  { inv := { s.inv with rowLo := hok.rowLo, rowHi := hok.rowHi, colLo := hok.colLo, colHi := hok.colHi }
    dim := s.dim
    vm := ⟨hawm, s.vm.irm, s.vm.lnm, hcs, rfl⟩
    trows := s.trows, tcols := s.tcols, onAlt := s.onAlt
    row := hrow, col := hcol, pw := hpw
    pen := hpen, link := hlink, top := s.top, bottom := s.bottom
    grid := s.grid }

/-- The parts of the reference state DECRC leaves alone. -/
structure TSame (t t' : Term.T) : Prop where
  savedP : t'.savedP = t.savedP
  savedA : t'.savedA = t.savedA
  onAlt : t'.onAlt = t.onAlt
  primary : t'.primary = t.primary
  alt : t'.alt = t.alt

theorem restore_sim {t : Term.T} {e : Emu} {rows cols : Nat} (s : Sim t e rows cols)
    (ts : Option Term.SavedCursor) (es : Saved) (hok : SavedOk es rows cols)
    (hrel : SavedRel ts es cols) :
    ∃ t' ∈ restoreList t ts, Sim t' (restoreFrom e es) rows cols ∧ TSame t t' := by
  have hc1 := s.dim.c1
  have h1 := hok.rowLo; have h2 := hok.rowHi; have h3 := hok.colLo; have h4 := hok.colHi
  obtain ⟨hawm, hcs, hrest⟩ := hrel
  cases ts with
  | none =>
    obtain ⟨hr, hc, hst, hl⟩ := hrest
    refine ⟨_, List.mem_singleton.mpr rfl, ?_, ⟨rfl, rfl, rfl, rfl, rfl⟩⟩
    refine sim_restore s es hok hawm hcs 0 0 false {} [] (by rw [hr]; rfl) ?_ ?_ hst.symm hl.symm
    · rw [hc]; split <;> omega
    · rw [hc]; symm; rw [decide_eq_false_iff_not]; omega
  | some sv =>
    obtain ⟨hr, hc, hpw, hpen, hl⟩ := hrest
    have hmr : min sv.row (t.rows - 1) = sv.row := by rw [s.trows]; omega
    have hmc : min sv.col (t.cols - 1) = sv.col := by
      rw [s.tcols]; split at hc <;> omega
    by_cases hge : es.cur.col ≥ cols
    · have hpw' : sv.pw = true := by rw [hpw]; exact decide_eq_true hge
      simp only [restoreList, hpw', if_true, hmr, hmc]
      refine ⟨_, List.mem_cons_of_mem _ (List.mem_singleton.mpr rfl), ?_, ⟨rfl, rfl, rfl, rfl, rfl⟩⟩
      exact sim_restore s es hok hawm hcs sv.row sv.col true sv.pen sv.link hr hc
        (decide_eq_true hge).symm hpen hl
    · have hpw' : sv.pw = false := by rw [hpw]; exact decide_eq_false hge
      simp only [restoreList, hpw', Bool.false_eq_true, if_false, hmr, hmc]
      refine ⟨_, List.mem_singleton.mpr rfl, ?_, ⟨rfl, rfl, rfl, rfl, rfl⟩⟩
      exact sim_restore s es hok hawm hcs sv.row sv.col false sv.pen sv.link hr hc
        (decide_eq_false hge).symm hpen hl

theorem lastColOk_restore (e : Emu) (es : Saved) (cols : Nat) : LastColOk (restoreFrom e es) cols := by
  intro h; simp [restoreFrom] at h

end SavedAux
open SavedAux

theorem Sim2.onScreen {t : Term.T} {e : Emu} {rows cols : Nat} (s2 : Sim2 t e rows cols) {b : Bool} (ha : e.altActive = b) :
    e.mode.smcup = b ∧ t.onAlt = b :=
  ⟨s2.smcup.trans ha, s2.sim.onAlt.trans ha⟩

theorem decsc_refines2 {t : Term.T} {e : Emu} {rows cols : Nat} (s2 : Sim2 t e rows cols) :
    Refines2 (Term.step t .decsc) (decsc e) rows cols := by
  have s := s2.sim
  refine ⟨t.save, List.mem_singleton.mpr rfl, ?_⟩
  cases ha : e.altActive with
  | false =>
    obtain ⟨hsm, hon⟩ := s2.onScreen ha
    rw [decsc_prim hsm, save_prim hon]
    exact
    { sim := sim_saved s _ _ _ _ (eSlot_ok s.inv) s.inv.savedA
      lc := s2.lc
      savedP := savedRel_slot s
      savedA := s2.savedA
      smcup := s2.smcup
      prim := s2.prim }
  | true =>
    obtain ⟨hsm, hon⟩ := s2.onScreen ha
    rw [decsc_alt hsm, save_alt hon]
    exact
    { sim := sim_saved s _ _ _ _ s.inv.savedP (eSlot_ok s.inv)
      lc := s2.lc
      savedP := s2.savedP
      savedA := savedRel_slot s
      smcup := s2.smcup
      prim := s2.prim }

theorem decrc_refines2 {t : Term.T} {e : Emu} {rows cols : Nat} (s2 : Sim2 t e rows cols) :
    Refines2 (Term.step t .decrc) (decrc e) rows cols := by
  have s := s2.sim
  show ∃ t' ∈ t.restore, Sim2 t' (decrc e) rows cols
  rw [restore_eq, decrc_eq]
  have key : ∀ (ts : Option Term.SavedCursor) (es : Saved), SavedOk es rows cols → SavedRel ts es cols →
      ∃ t' ∈ restoreList t ts, Sim2 t' (restoreFrom e es) rows cols := by
    intro ts es hok hrel
    obtain ⟨t', hmem, hsim, hsame⟩ := restore_sim s ts es hok hrel
    refine ⟨t', hmem, sim2_of_frame s2 hsim (lastColOk_restore e es cols)
      ⟨rfl, rfl, rfl, rfl, fun _ => rfl⟩ ⟨hsame.savedP, hsame.savedA, hsame.onAlt, fun _ => hsame.primary⟩⟩
  cases ha : e.altActive with
  | false =>
    obtain ⟨hsm, hon⟩ := s2.onScreen ha
    simp only [hsm, hon, Bool.false_eq_true, if_false]
    exact key _ _ s.inv.savedP s2.savedP
  | true =>
    obtain ⟨hsm, hon⟩ := s2.onScreen ha
    simp only [hsm, hon, if_true]
    exact key _ _ s.inv.savedA s2.savedA

namespace SavedAux

theorem ed2_spec {e : Emu} {rows cols : Nat} (h : EmuInv e rows cols) (d : Dim rows cols) :
    ∃ g', ed e 2 = .ok (({ e with lastCol := false } : Emu).setActive g') ∧ GridOk g' rows cols ∧
      Term.gridAccepts (Term.blankGrid rows cols (absCol e.bg)) (g'.map absRow) = true := by
  have hg := active_ok h
  obtain ⟨e', he, hi⟩ := ed_safe h d 2
  obtain ⟨g', rfl, hg', hc⟩ := ed2_cells h d he hi
  refine ⟨g', he, hg', ?_⟩
  rw [gridAccepts_iff]
  unfold Term.blankGrid
  simp only [List.length_replicate, List.length_map]
  refine ⟨hg'.len.symm, ?_⟩
  intro i a b ha hb
  rw [List.getElem?_replicate] at ha
  split at ha
  · rename_i hi
    simp only [Option.some.injEq] at ha
    subst ha
    have hi' : i < g'.length := by rw [hg'.len]; exact hi
    have hi0 : i < e.active.length := by rw [hg.len]; exact hi
    rw [List.getElem?_map, List.getElem?_eq_getElem hi'] at hb
    simp only [Option.map_some, Option.some.injEq] at hb
    subst hb
    refine row_allblank (row := e.active[i]) e.bg cols (hg'.rowLen _ (List.getElem_mem hi')) ?_
    intro j hj
    rw [← cellAt_of_row (List.getElem?_eq_getElem hi') j, ← cellAt_of_row (List.getElem?_eq_getElem hi0) j,
      hc i j hi hj]
  · cases ha

theorem decset_1049 (e : Emu) : decset Fixes.current e [(1049, [])] =
    (ed { decsc e with altActive := true } 2 >>= fun e1 =>
      .ok { e1 with mode := { e1.mode with smcup := true, altScroll := true } }) := by
  have hl : lookupMode VaxisModel.Gen.TermModes.decsetTable 1049 = none := by decide
  unfold decset
  simp only [List.foldlM_cons, List.foldlM_nil]
  unfold decsetOne
  have h7 : ¬ ((1049 : Int) = 7) := by decide
  have hf : Fixes.current.f106c = true := rfl
  simp only [hl, h7, hf, if_true, if_false, bind_pure]

/-- The emulator after `CSI ? 1049 h` from the primary screen; `g'` is the cleared alternate grid. -/
def altOnState (e : Emu) (g' : Grid) : Emu :=
  { e with savedP := eSlot e, altActive := true, lastCol := false, alt := g',
           mode := { e.mode with smcup := true, altScroll := true } }

theorem prim_of_sim {t : Term.T} {e : Emu} {rows cols : Nat} (s : Sim t e rows cols)
    (ha : e.altActive = false) : Term.gridAccepts t.primary (e.primary.map absRow) = true := by
  have hon : t.onAlt = false := by rw [s.onAlt, ha]
  have := s.grid
  unfold Term.T.grid Emu.active at this
  simpa only [hon, ha, Bool.false_eq_true, if_false] using this

theorem altOn_sim2 {t : Term.T} {e : Emu} {rows cols : Nat} (s2 : Sim2 t e rows cols)
    (ha : e.altActive = false) (g' : Grid) (hg' : GridOk g' rows cols) (tg : Term.TGrid)
    (hacc : Term.gridAccepts tg (g'.map absRow) = true) :
    Sim2 { t with savedP := some (tSlot t), onAlt := true, alt := tg } (altOnState e g') rows cols :=
  have s := s2.sim
  { sim :=
    { s with inv := { s.inv with alt := hg', savedP := eSlot_ok s.inv }, vm := { s.vm with }
             onAlt := rfl, grid := hacc }
    lc := by intro h; simp [altOnState] at h
    savedP := savedRel_slot s
    savedA := s2.savedA
    smcup := rfl
    prim := fun _ => (prim_of_sim s ha :) }

end SavedAux

theorem alton_refines2 {t : Term.T} {e : Emu} {rows cols : Nat} (s2 : Sim2 t e rows cols) :
    ∃ e', decset Fixes.current e [(1049, [])] = .ok e' ∧ Refines2 (Term.step t .altOn) e' rows cols := by
  have s := s2.sim
  cases ha : e.altActive with
  | true =>
    obtain ⟨e', he', _⟩ := decset_safe s.inv s.dim [(1049, [])]
    refine ⟨e', he', ?_⟩
    have hon := (s2.onScreen ha).2
    simp only [Term.step, hon, if_true]
    trivial
  | false =>
    obtain ⟨hsm, hon⟩ := s2.onScreen ha
    have hinv1 : EmuInv { decsc e with altActive := true } rows cols := { decsc_inv s.inv with }
    obtain ⟨g', e1, hg', hacc⟩ := ed2_spec hinv1 s.dim
    have hbg : absCol (Emu.bg { decsc e with altActive := true }) = t.pen.bg := by
      rw [s.pen, decsc_prim hsm]; rfl
    rw [hbg] at hacc
    refine ⟨altOnState e g', ?_, ?_⟩
    · rw [decset_1049, e1, decsc_prim hsm]; rfl
    · simp only [Term.step, hon, Bool.false_eq_true, if_false, save_prim hon]
      by_cases hd : t.pen.bg = .default
      · refine ⟨_, List.mem_append_left _ (List.mem_singleton.mpr rfl), ?_⟩
        refine altOn_sim2 s2 ha g' hg' _ ?_
        rw [s.trows, s.tcols, ← hd]; exact hacc
      · rw [if_neg hd]
        refine ⟨_, List.mem_append_right _ (List.mem_singleton.mpr rfl), ?_⟩
        refine altOn_sim2 s2 ha g' hg' _ ?_
        rw [s.trows, s.tcols]; exact hacc

namespace SavedAux

theorem decrst_1049 (e : Emu) : decrst e [(1049, [])] =
    ((if e.mode.smcup then ed e 2 else .ok e) >>= fun e1 =>
      .ok (decrc { e1 with altActive := false,
                           mode := { e1.mode with smcup := false, altScroll := false } })) := by
  have hl : lookupMode VaxisModel.Gen.TermModes.decrstTable 1049 = none := by decide
  unfold decrst
  simp only [List.foldlM_cons, List.foldlM_nil]
  unfold decrstOne
  have h7 : ¬ ((1049 : Int) = 7) := by decide
  simp only [hl, h7, if_true, if_false, bind_pure]
  split <;> rfl

/-- The emulator after `CSI ? 1049 l` from the alternate screen, before the cursor is restored;
    `g'` is the cleared alternate grid. -/
def altOffState (e : Emu) (g' : Grid) : Emu :=
  { e with lastCol := false, alt := g', altActive := false,
           mode := { e.mode with smcup := false, altScroll := false } }

theorem altOff_sim {t : Term.T} {e : Emu} {rows cols : Nat} (s2 : Sim2 t e rows cols)
    (ha : e.altActive = true) (g' : Grid) (hg' : GridOk g' rows cols) :
    Sim { t with onAlt := false } (altOffState e g') rows cols :=
  have s := s2.sim
  { s with inv := { s.inv with alt := hg' }, vm := { s.vm with }, onAlt := rfl, grid := (s2.prim ha :) }

end SavedAux

theorem altoff_refines2 {t : Term.T} {e : Emu} {rows cols : Nat} (s2 : Sim2 t e rows cols) :
    ∃ e', decrst e [(1049, [])] = .ok e' ∧ Refines2 (Term.step t .altOff) e' rows cols := by
  have s := s2.sim
  cases ha : e.altActive with
  | false =>
    obtain ⟨e', he', _⟩ := decrst_safe s.inv s.dim [(1049, [])]
    refine ⟨e', he', ?_⟩
    have hon := (s2.onScreen ha).2
    simp only [Term.step, hon, Bool.not_false, if_true]
    trivial
  | true =>
    obtain ⟨hsm, hon⟩ := s2.onScreen ha
    obtain ⟨g', e1, hg', _⟩ := ed2_spec s.inv s.dim
    have hs0 := altOff_sim s2 ha g' hg'
    obtain ⟨t', hmem, hsim, hsame⟩ := restore_sim hs0 t.savedP e.savedP s.inv.savedP s2.savedP
    refine ⟨restoreFrom (altOffState e g') e.savedP, ?_, ?_⟩
    · rw [decrst_1049, hsm, if_pos rfl, e1]
      show Except.ok (decrc _) = _
      rw [decrc_eq]
      unfold Emu.setActive
      simp only [ha, if_true]
      rfl
    · simp only [Term.step, hon, Bool.not_true, Bool.false_eq_true, if_false]
      refine ⟨t', hmem, ?_⟩
      exact
      { sim := hsim
        lc := lastColOk_restore _ _ _
        savedP := by rw [hsame.savedP]; exact s2.savedP
        savedA := by rw [hsame.savedA]; exact s2.savedA
        smcup := rfl
        prim := fun h => by simp [restoreFrom, altOffState] at h }

end VaxisModel.Lemmas.EmuRefine
