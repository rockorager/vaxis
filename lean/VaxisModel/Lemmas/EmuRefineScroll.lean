/-
C06 refinement: the scrolling operations (SU, SD, IND, LF, NEL, RI, IL, DL).

The core is a FUNCTIONAL characterisation of the emulator's in-place scroll loops (`scrollUp`, `scrollDown`, the loops of
`il` and `dl`): row `j` of the grid they compute, as a function of the grid they started from (`shiftRow`, for both
directions). The loops alias source and destination (they copy rows inside one grid); `sweepUp` / `sweepDown` carry the
invariant "positions already visited are final, the others still hold the original content". The reference's
`scrollRegionUp` / `scrollRegionDown` (take/drop/replicate) are characterised row-wise as well and the two sides are
compared row by row.
-/
import VaxisModel.Lemmas.EmuRefineErase
import VaxisModel.Lemmas.EmuSafe1
import VaxisModel.Lemmas.EmuSafe3

namespace VaxisModel.Lemmas.EmuRefine
open VaxisModel.Model.Emu VaxisModel.Model.EmuAbs VaxisModel.Lemmas.Emu VaxisModel.Spec

def eraseRow (bg : Nat) (r : Row) : Row := r.map (·.erase bg)

/-- `copy(g[d], g[s])` on a well-formed grid replaces row `d` by row `s`. -/
theorem copy_step {g : Grid} {rows cols : Nat} (h : GridOk g rows cols) (d s : Int)
    (hd0 : 0 ≤ d) (hd1 : d < rows) (hs0 : 0 ≤ s) (hs1 : s < rows) :
    ∃ g', copyRow g d s = .ok g' ∧ GridOk g' rows cols ∧
      ∀ j : Nat, g'[j]? = if j = d.toNat then g[s.toNat]? else g[j]? := by
  obtain ⟨dr, hdr, hdl⟩ := row_at h d.toNat (by omega)
  obtain ⟨sr, hsr, hsl⟩ := row_at h s.toNat (by omega)
  have hrow : sr.take dr.length ++ dr.drop sr.length = sr := by
    rw [hdl, ← hsl, List.take_length, hsl, ← hdl, List.drop_length, List.append_nil]
  refine ⟨g.set d.toNat sr, copyRow_eq_ok.mpr ⟨dr, sr, ⟨hd0, hdr⟩, ⟨hs0, hsr⟩, by rw [hrow]⟩,
    gridOk_set h _ _ hsl, ?_⟩
  · intro j
    have hlt : d.toNat < g.length := by rw [h.len]; omega
    rw [List.getElem?_set, hsr]
    by_cases hj : j = d.toNat
    · subst hj; simp [hlt]
    · have : ¬ d.toNat = j := fun h => hj h.symm
      simp [this, hj]

theorem erase_step {g : Grid} {rows cols : Nat} (h : GridOk g rows cols) (r : Int) (bg : Nat)
    (hr0 : 0 ≤ r) (hr1 : r < rows) (hc : cols ≤ 65535) :
    ∃ g', eraseCols g r 0 ((cols : Int) - 1) bg = .ok g' ∧ GridOk g' rows cols ∧
      ∀ j : Nat, g'[j]? = if j = r.toNat then (g[r.toNat]?).map (eraseRow bg) else g[j]? := by
  obtain ⟨g', h1, hok, hcell⟩ := EraseAux.eraseCols_spec h r 0 ((cols : Int) - 1) bg hr0 hr1
    (by omega) (by omega) (by rw [hangLimit_val]; omega)
  refine ⟨g', h1, hok, fun j => ?_⟩
  by_cases hj : j < rows
  · obtain ⟨row, hrow, hl⟩ := row_at h j hj
    obtain ⟨row', hrow', hl'⟩ := row_at hok j hj
    have hrows : row' = if j = r.toNat then eraseRow bg row else row := by
      apply List.ext_getElem?
      intro k
      have hk := hcell j k
      rw [EraseAux.cellAt_of_row hrow', EraseAux.cellAt_of_row hrow] at hk
      rw [hk]
      by_cases hjr : j = r.toNat
      · rw [if_pos hjr]
        unfold eraseRow
        rw [List.getElem?_map]
        by_cases hkc : k < cols
        · rw [if_pos (by omega)]
        · rw [if_neg (by omega), List.getElem?_eq_none (by omega)]; rfl
      · rw [if_neg hjr, if_neg (by omega)]
    rw [hrow', hrows]
    split
    · rename_i hjr; rw [← hjr, hrow]; rfl
    · rw [hrow]
  · rw [List.getElem?_eq_none (by rw [hok.len]; omega), if_neg (by omega),
      List.getElem?_eq_none (by rw [h.len]; omega)]

inductive Dir where
  | up
  | down

/-- The row that row `j` of the region comes from when the region scrolls by `n`. -/
@[reducible] def Dir.src (d : Dir) (n : Int) : Int → Int :=
  match d with
  | .up => fun j => j + n
  | .down => fun j => j - n

/-- Row `j` after the rows `top..bottom` of `g` were scrolled: rows outside the region are kept, row `j` of the region is
    the old row `src j` if that is inside the region, else the old row `j` with every cell erased. With `src = Dir.up.src n`
    this is what the loops of `scrollUp` and `dl` compute, with `Dir.down.src n` those of `scrollDown` and `il`. -/
def shiftRow (src : Int → Int) (g : Grid) (top bottom : Int) (bg : Nat) (j : Nat) : Option Row :=
  if top ≤ (j : Int) ∧ (j : Int) ≤ bottom then
    if top ≤ src j ∧ src j ≤ bottom then g[(src j).toNat]? else (g[j]?).map (eraseRow bg)
  else g[j]?

/-- Row `j` after scrolling rows `top..bottom` of `g` up by `n` (what the loops of `scrollUp` and
    `dl` compute): rows outside the region are kept, row `j` of the region is the old row `j+n` if
    that is inside the region, else the old row `j` with every cell erased. -/
def upRow (g : Grid) (top bottom n : Int) (bg : Nat) (j : Nat) : Option Row :=
  if top ≤ (j : Int) ∧ (j : Int) ≤ bottom then
    if (j : Int) + n ≤ bottom then g[((j : Int) + n).toNat]? else (g[j]?).map (eraseRow bg)
  else g[j]?

/-- Row `j` after scrolling rows `top..bottom` of `g` down by `n` (`scrollDown`, `il`). -/
def downRow (g : Grid) (top bottom n : Int) (bg : Nat) (j : Nat) : Option Row :=
  if top ≤ (j : Int) ∧ (j : Int) ≤ bottom then
    if top + n ≤ (j : Int) then g[((j : Int) - n).toNat]? else (g[j]?).map (eraseRow bg)
  else g[j]?

/-- An upward sweep over the positions `lo..hi` of a state seen through `at_` (the rows of a grid; the cells of a row, or
    of one row of a grid) that puts `F i` at position `i`, where the body may rely on the positions from `i` on still holding
    their original content (the loops copy inside one list).  `Ok` is what the body needs and keeps (the shape). -/
theorem sweepUp {σ β : Type} (Ok : σ → Prop) (at_ : σ → Nat → Option β) {s : σ} (h : Ok s) (F : Nat → Option β)
    (body : Int → σ → M σ) (lo hi : Int) (h0 : 0 ≤ lo) (hle : lo ≤ hi + 1)
    (hn : hi + 1 - lo ≤ (hangLimit : Int))
    (hstep : ∀ (i : Int) (s1 : σ), lo ≤ i → i ≤ hi → Ok s1 →
      (∀ j : Nat, i ≤ (j : Int) → at_ s1 j = at_ s j) →
      ∃ s2, body i s1 = .ok s2 ∧ Ok s2 ∧
        ∀ j : Nat, at_ s2 j = if j = i.toNat then F i.toNat else at_ s1 j) :
    ∃ s', forUp lo hi body s = .ok s' ∧ Ok s' ∧
      ∀ j : Nat, at_ s' j = if lo ≤ (j : Int) ∧ (j : Int) ≤ hi then F j else at_ s j := by
  obtain ⟨s', hs', hok, hrows⟩ := forUp_ix
    (fun (i : Int) (s1 : σ) => Ok s1 ∧
      ∀ j : Nat, at_ s1 j = if lo ≤ (j : Int) ∧ (j : Int) < i then F j else at_ s j)
    body lo hi s hle hn ⟨h, fun j => by rw [if_neg (by omega)]⟩
    (by
      intro i s1 hi0 hi1 ⟨hs1, hP⟩
      obtain ⟨s2, h2, hok2, hrow2⟩ := hstep i s1 hi0 hi1 hs1 (fun j hj => by rw [hP, if_neg (by omega)])
      refine ⟨s2, h2, hok2, fun j => ?_⟩
      rw [hrow2, hP]
      by_cases hj : j = i.toNat
      · subst hj; rw [if_pos rfl, if_pos (by omega)]
      · rw [if_neg hj]
        exact ite_iff (by omega) _ _)
  refine ⟨s', hs', hok, fun j => ?_⟩
  rw [hrows]
  exact ite_iff (by omega) _ _

/-- The same downwards: the body may rely on the positions up to `i`. -/
theorem sweepDown {σ β : Type} (Ok : σ → Prop) (at_ : σ → Nat → Option β) {s : σ} (h : Ok s) (F : Nat → Option β)
    (body : Int → σ → M σ) (hi lo : Int) (h0 : 0 ≤ lo) (hle : lo ≤ hi + 1)
    (hn : hi + 1 - lo ≤ (hangLimit : Int))
    (hstep : ∀ (i : Int) (s1 : σ), lo ≤ i → i ≤ hi → Ok s1 →
      (∀ j : Nat, (j : Int) ≤ i → at_ s1 j = at_ s j) →
      ∃ s2, body i s1 = .ok s2 ∧ Ok s2 ∧
        ∀ j : Nat, at_ s2 j = if j = i.toNat then F i.toNat else at_ s1 j) :
    ∃ s', forDown hi lo body s = .ok s' ∧ Ok s' ∧
      ∀ j : Nat, at_ s' j = if lo ≤ (j : Int) ∧ (j : Int) ≤ hi then F j else at_ s j := by
  obtain ⟨s', hs', hok, hrows⟩ := forDown_ix
    (fun (i : Int) (s1 : σ) => Ok s1 ∧
      ∀ j : Nat, at_ s1 j = if i < (j : Int) ∧ (j : Int) ≤ hi then F j else at_ s j)
    body hi lo s hle hn ⟨h, fun j => by rw [if_neg (by omega)]⟩
    (by
      intro i s1 hi0 hi1 ⟨hs1, hP⟩
      obtain ⟨s2, h2, hok2, hrow2⟩ := hstep i s1 hi0 hi1 hs1 (fun j hj => by rw [hP, if_neg (by omega)])
      refine ⟨s2, h2, hok2, fun j => ?_⟩
      rw [hrow2, hP]
      by_cases hj : j = i.toNat
      · subst hj; rw [if_pos rfl, if_pos (by omega)]
      · rw [if_neg hj]
        exact ite_iff (by omega) _ _)
  refine ⟨s', hs', hok, fun j => ?_⟩
  rw [hrows]
  exact ite_iff (by omega) _ _

theorem shiftRow_outside (src : Int → Int) (g : Grid) (top bottom : Int) (bg : Nat) (j : Nat)
    (h : ¬ (top ≤ (j : Int) ∧ (j : Int) ≤ bottom)) : shiftRow src g top bottom bg j = g[j]? := if_neg h

/-- One row of the region: copied from its source row if that lies in the region (a row the sweep has not reached yet),
    else erased. -/
theorem shift_step {g g1 : Grid} {rows cols : Nat} (hg1 : GridOk g1 rows cols) (hc : cols ≤ 65535)
    (src : Int → Int) (top bottom : Int) (bg : Nat) (i : Int) (ht : 0 ≤ top) (hb : bottom < rows)
    (hi0 : top ≤ i) (hi1 : i ≤ bottom)
    (hsame : ∀ j : Nat, (j : Int) = i ∨ (j : Int) = src i → g1[j]? = g[j]?) :
    ∃ g2, (if top ≤ src i ∧ src i ≤ bottom then copyRow g1 i (src i)
        else eraseCols g1 i 0 ((cols : Int) - 1) bg) = .ok g2 ∧
      GridOk g2 rows cols ∧
      ∀ j : Nat, g2[j]? = if j = i.toNat then shiftRow src g top bottom bg i.toNat else g1[j]? := by
  have hi : ((i.toNat : Nat) : Int) = i := by omega
  have hin : top ≤ ((i.toNat : Nat) : Int) ∧ ((i.toNat : Nat) : Int) ≤ bottom := by omega
  unfold shiftRow
  rw [if_pos hin, hi]
  by_cases hs : top ≤ src i ∧ src i ≤ bottom
  · obtain ⟨g2, h2, hok2, hrow2⟩ := copy_step hg1 i (src i) (by omega) (by omega) (by omega) (by omega)
    rw [if_pos hs, if_pos hs, ← hsame (src i).toNat (Or.inr (by omega))]
    exact ⟨g2, h2, hok2, hrow2⟩
  · obtain ⟨g2, h2, hok2, hrow2⟩ := erase_step hg1 i bg (by omega) (by omega) hc
    rw [if_neg hs, if_neg hs, ← hsame i.toNat (Or.inl hi)]
    exact ⟨g2, h2, hok2, hrow2⟩

theorem keep_step {g g1 : Grid} (F : Nat → Option Row) (i : Int) (hF : F i.toNat = g[i.toNat]?)
    (hsame : g1[i.toNat]? = g[i.toNat]?) :
    ∀ j : Nat, g1[j]? = if j = i.toNat then F i.toNat else g1[j]? := by
  intro j
  split
  · rename_i hj; rw [hj, hF, hsame]
  · rfl

theorem scrollUpLoop_spec {g : Grid} {rows cols : Nat} (h : GridOk g rows cols) (hr : rows ≤ 65535)
    (hc : cols ≤ 65535) (top bottom n : Int) (bg : Nat) (ht : 0 ≤ top) (hb : bottom < rows) (hn : 0 ≤ n) :
    ∃ g', forUp 0 ((rows : Int) - 1) (fun row g =>
        if row > bottom then .ok g
        else if row < top then .ok g
        else if row + n > bottom then eraseCols g row 0 ((cols : Int) - 1) bg
        else copyRow g row (row + n)) g = .ok g' ∧ GridOk g' rows cols ∧
      ∀ j : Nat, g'[j]? = shiftRow (Dir.up.src n) g top bottom bg j := by
  obtain ⟨g', hg', hok, hrows⟩ := sweepUp (GridOk · rows cols) (fun g j => g[j]?) h
    (shiftRow (Dir.up.src n) g top bottom bg)
    (fun row g =>
        if row > bottom then .ok g
        else if row < top then .ok g
        else if row + n > bottom then eraseCols g row 0 ((cols : Int) - 1) bg
        else copyRow g row (row + n)) 0 ((rows : Int) - 1) (by omega) (by omega)
    (by rw [hangLimit_val]; omega)
    (by
      intro i g1 hi0 hi1 hg1 hsame
      by_cases hout : i > bottom ∨ i < top
      · refine ⟨g1, ?_, hg1, keep_step _ i (shiftRow_outside _ _ _ _ _ _ (by omega)) (hsame _ (by omega))⟩
        show (if i > bottom then Except.ok g1 else if i < top then .ok g1 else _) = _
        split
        · rfl
        · rw [if_pos (by omega)]
      · show ∃ g2, (if i > bottom then Except.ok g1 else if i < top then .ok g1 else _) = _ ∧ _
        rw [if_neg (by omega), if_neg (by omega)]
        have := shift_step hg1 hc (fun j => j + n) top bottom bg i ht hb (by omega) (by omega) (g := g)
          (fun j hj => hsame j (by omega))
        by_cases hmv : i + n > bottom
        · rw [if_neg (by omega)] at this; rw [if_pos hmv]; exact this
        · rw [if_pos (by omega)] at this; rw [if_neg hmv]; exact this)
  refine ⟨g', hg', hok, fun j => ?_⟩
  rw [hrows]
  split
  · rfl
  · rw [shiftRow_outside _ _ _ _ _ _ (by omega)]

theorem dlLoop_spec {g : Grid} {rows cols : Nat} (h : GridOk g rows cols) (hr : rows ≤ 65535)
    (hc : cols ≤ 65535) (top bottom n : Int) (bg : Nat) (ht : 0 ≤ top) (htb : top ≤ bottom + 1)
    (hb : bottom < rows) (hn : 0 ≤ n) :
    ∃ g', forUp top bottom (fun r g =>
        if r ≤ bottom - n then copyRow g r (r + n)
        else eraseCols g r 0 ((cols : Int) - 1) bg) g = .ok g' ∧ GridOk g' rows cols ∧
      ∀ j : Nat, g'[j]? = shiftRow (Dir.up.src n) g top bottom bg j := by
  obtain ⟨g', hg', hok, hrows⟩ := sweepUp (GridOk · rows cols) (fun g j => g[j]?) h
    (shiftRow (Dir.up.src n) g top bottom bg)
    (fun r g =>
        if r ≤ bottom - n then copyRow g r (r + n)
        else eraseCols g r 0 ((cols : Int) - 1) bg) top bottom ht htb
    (by rw [hangLimit_val]; omega)
    (by
      intro i g1 hi0 hi1 hg1 hsame
      have := shift_step hg1 hc (fun j => j + n) top bottom bg i ht hb hi0 hi1 (g := g)
        (fun j hj => hsame j (by omega))
      show ∃ g2, (if i ≤ bottom - n then copyRow g1 i (i + n) else _) = _ ∧ _
      rw [ite_iff (show i ≤ bottom - n ↔ top ≤ i + n ∧ i + n ≤ bottom by omega)]
      exact this)
  refine ⟨g', hg', hok, fun j => ?_⟩
  rw [hrows]
  split
  · rfl
  · rename_i hj; rw [shiftRow_outside _ _ _ _ _ _ hj]

theorem scrollDownLoop_spec {g : Grid} {rows cols : Nat} (h : GridOk g rows cols) (hr : rows ≤ 65535)
    (hc : cols ≤ 65535) (top bottom n : Int) (bg : Nat) (ht : 0 ≤ top) (htb : top ≤ bottom + 1)
    (hb : bottom < rows) (hn : 0 ≤ n) :
    ∃ g', forDown bottom top (fun r g =>
        if r - n < top then eraseCols g r 0 ((cols : Int) - 1) bg
        else copyRow g r (r - n)) g = .ok g' ∧ GridOk g' rows cols ∧
      ∀ j : Nat, g'[j]? = shiftRow (Dir.down.src n) g top bottom bg j := by
  obtain ⟨g', hg', hok, hrows⟩ := sweepDown (GridOk · rows cols) (fun g j => g[j]?) h
    (shiftRow (Dir.down.src n) g top bottom bg)
    (fun r g =>
        if r - n < top then eraseCols g r 0 ((cols : Int) - 1) bg
        else copyRow g r (r - n)) bottom top ht htb
    (by rw [hangLimit_val]; omega)
    (by
      intro i g1 hi0 hi1 hg1 hsame
      have := shift_step hg1 hc (fun j => j - n) top bottom bg i ht hb hi0 hi1 (g := g)
        (fun j hj => hsame j (by omega))
      show ∃ g2, (if i - n < top then eraseCols g1 i 0 _ bg else _) = _ ∧ _
      by_cases hmv : i - n < top
      · rw [if_neg (by omega)] at this; rw [if_pos hmv]; exact this
      · rw [if_pos (by omega)] at this; rw [if_neg hmv]; exact this)
  refine ⟨g', hg', hok, fun j => ?_⟩
  rw [hrows]
  split
  · rfl
  · rename_i hj; rw [shiftRow_outside _ _ _ _ _ _ hj]

/-- The two loops of `il`: shift down from the bottom margin, then erase the vacated rows. -/
theorem ilLoop_spec {g : Grid} {rows cols : Nat} (h : GridOk g rows cols) (hr : rows ≤ 65535)
    (hc : cols ≤ 65535) (top bottom n : Int) (bg : Nat) (ht : 0 ≤ top)
    (hb : bottom < rows) (hn : 0 ≤ n) (hnb : top + n ≤ bottom + 1) :
    ∃ g1 g', forDown bottom (top + n) (fun r g => copyRow g r (r - n)) g = .ok g1 ∧
      forUp 0 (n - 1) (fun r g => eraseCols g (top + r) 0 ((cols : Int) - 1) bg) g1 = .ok g' ∧
      GridOk g' rows cols ∧ ∀ j : Nat, g'[j]? = shiftRow (Dir.down.src n) g top bottom bg j := by
  obtain ⟨g1, hg1, hok1, hrows1⟩ := sweepDown (GridOk · rows cols) (fun g j => g[j]?) h (shiftRow (Dir.down.src n) g top bottom bg)
    (fun r g => copyRow g r (r - n)) bottom (top + n) (by omega) hnb (by rw [hangLimit_val]; omega)
    (by
      intro i g1 hi0 hi1 hg1 hsame
      have := shift_step hg1 hc (fun j => j - n) top bottom bg i ht hb (by omega) hi1 (g := g)
        (fun j hj => hsame j (by omega))
      rwa [if_pos (by omega)] at this)
  obtain ⟨g', hg', hok, hrows⟩ := forUp_ix
    (fun (r : Int) (g' : Grid) => GridOk g' rows cols ∧
      ∀ j : Nat, g'[j]? = if top + r ≤ (j : Int) ∧ (j : Int) < top + n then g[j]?
        else shiftRow (Dir.down.src n) g top bottom bg j)
    (fun r g => eraseCols g (top + r) 0 ((cols : Int) - 1) bg) 0 (n - 1) g1 (by omega)
    (by rw [hangLimit_val]; omega)
    ⟨hok1, fun j => by
      rw [hrows1]
      by_cases hj : top + n ≤ (j : Int) ∧ (j : Int) ≤ bottom
      · rw [if_pos hj, if_neg (by omega)]
      · rw [if_neg hj]
        split
        · rfl
        · rw [shiftRow_outside _ _ _ _ _ _ (by omega)]⟩
    (by
      intro r g2 hr0 hr1 ⟨hg2, hQ⟩
      obtain ⟨g3, h3, hok3, hrow3⟩ := erase_step hg2 (top + r) bg (by omega) (by omega) hc
      refine ⟨g3, h3, hok3, ?_⟩
      intro j
      rw [hrow3]
      by_cases hj : j = (top + r).toNat
      · subst hj
        rw [if_pos rfl, hQ]
        rw [if_pos (by omega), if_neg (by omega)]
        unfold shiftRow
        rw [if_pos (by omega), if_neg (by simp only [Dir.src]; omega)]
      · rw [if_neg hj, hQ]
        exact ite_iff (by omega) _ _)
  refine ⟨g1, g', hg1, hg', hok, ?_⟩
  intro j
  rw [hrows]
  have : ¬ (top + (n - 1 + 1) ≤ (j : Int) ∧ (j : Int) < top + n) := by omega
  rw [if_neg this]

def Dir.region (d : Dir) (g : Term.TGrid) (top bottom k : Nat) (b : Term.TRow) : Term.TGrid :=
  match d with
  | .up => Term.scrollRegionUp g top bottom k b
  | .down => Term.scrollRegionDown g top bottom k b

theorem region_get (d : Dir) (g : Term.TGrid) (rows top bottom k : Nat) (b : Term.TRow)
    (hl : g.length = rows) (htb : top ≤ bottom) (hb : bottom < rows) (j : Nat) :
    (d.region g top bottom k b)[j]? =
      if top ≤ j ∧ j ≤ bottom then
        (if (top : Int) ≤ d.src k j ∧ d.src k j ≤ bottom then g[(d.src k j).toNat]? else some b)
      else g[j]? := by
  cases d <;>
  · simp only [Dir.region, Dir.src, Term.scrollRegionUp, Term.scrollRegionDown, List.getElem?_append, List.length_take,
      List.length_drop, List.length_append, List.length_replicate, List.getElem?_take, List.getElem?_drop,
      List.getElem?_replicate, hl]
    have h1 : min top rows = top := by omega
    have h2 : min (bottom + 1 - top) (rows - top) = bottom + 1 - top := by omega
    simp only [h1, h2]
    -- name the number of rows that enter, so that `omega` meets one `min` instead of eight
    obtain ⟨m, hm⟩ : ∃ m, m = min k (bottom + 1 - top) := ⟨_, rfl⟩
    rw [← hm]
    have hm' : (m = k ∧ k ≤ bottom + 1 - top) ∨ (m = bottom + 1 - top ∧ bottom + 1 - top ≤ k) := by omega
    clear hm h1 h2 hl
    repeat' split
    all_goals first | rfl | (exfalso; omega) | (congr 1; omega)

theorem region_length (d : Dir) (g : Term.TGrid) (rows top bottom k : Nat) (b : Term.TRow)
    (hl : g.length = rows) (htb : top ≤ bottom) (hb : bottom < rows) :
    (d.region g top bottom k b).length = rows := by
  cases d <;>
  · simp only [Dir.region, Term.scrollRegionUp, Term.scrollRegionDown, List.length_take, List.length_drop,
      List.length_append, List.length_replicate, hl]
    omega

theorem rowAccepts_blank_erase (row : Row) (cols : Nat) (bg : Nat) (hl : row.length = cols) :
    Term.rowAccepts (List.replicate cols (.blank (absCol bg))) (absRow (eraseRow bg row)) = true := by
  subst hl
  induction row with
  | nil => rfl
  | cons c rest ih =>
    simp only [Term.rowAccepts, absRow, eraseRow, List.length_cons, List.replicate_succ, List.map_cons,
      List.zip_cons_cons, List.all_cons, List.length_replicate, List.length_map, decide_true,
      Bool.true_and, accepts_blank_erase] at ih ⊢
    exact ih


/-- `k` is the reference's count, `n` the emulator's: equal, or both larger than the region. -/
theorem shift_accepts (d : Dir) {tg : Term.TGrid} {g g' : Grid} {rows cols : Nat} (hg : GridOk g rows cols)
    (hg' : GridOk g' rows cols) (hacc : Term.gridAccepts tg (g.map absRow) = true)
    (tT tB k : Nat) (n : Int) (bg : Nat) (hTB : tT ≤ tB) (hB : tB < rows)
    (hk : (k : Int) = n ∨ ((tB : Int) - tT < k ∧ (tB : Int) - tT < n))
    (hrow : ∀ j : Nat, g'[j]? = shiftRow (d.src n) g tT tB bg j) :
    Term.gridAccepts (d.region tg tT tB k (List.replicate cols (.blank (absCol bg)))) (g'.map absRow) = true := by
  rw [gridAccepts_iff] at hacc ⊢
  obtain ⟨hlen, hall⟩ := hacc
  have htl : tg.length = rows := by rw [hlen, List.length_map, hg.len]
  refine ⟨by rw [region_length d tg rows tT tB k _ htl hTB hB, List.length_map, hg'.len], ?_⟩
  intro j tr ar htr har
  rw [region_get d tg rows tT tB k _ htl hTB hB] at htr
  rw [List.getElem?_map, hrow j] at har
  unfold shiftRow at har
  by_cases hin : tT ≤ j ∧ j ≤ tB
  · rw [if_pos hin] at htr; rw [if_pos (by omega)] at har
    -- with either count the source row is the same row of the region, or outside it
    have hsrc : ((tT : Int) ≤ d.src n j ∧ d.src n j ≤ tB) ↔ ((tT : Int) ≤ d.src k j ∧ d.src k j ≤ tB) := by
      cases d <;> simp only [Dir.src] <;> omega
    by_cases hmv : (tT : Int) ≤ d.src k j ∧ d.src k j ≤ tB
    · have hto : (d.src n j).toNat = (d.src k j).toNat := by
        cases d <;> simp only [Dir.src] at hmv ⊢ <;> omega
      rw [if_pos hmv] at htr
      rw [if_pos (hsrc.mpr hmv), hto] at har
      exact hall _ tr ar htr (by rw [List.getElem?_map]; exact har)
    · rw [if_neg hmv] at htr; rw [if_neg (fun h => hmv (hsrc.mp h))] at har
      obtain ⟨r, hr, hrl⟩ := row_at hg j (by omega)
      rw [hr] at har
      simp only [Option.map_some, Option.some.injEq] at har htr
      subst har; subst htr
      exact rowAccepts_blank_erase r cols bg hrl
  · rw [if_neg hin] at htr; rw [if_neg (by omega)] at har
    exact hall j tr ar htr (by rw [List.getElem?_map]; exact har)

theorem blankRow_eq {t : Term.T} {e : Emu} {rows cols : Nat} (s : Sim t e rows cols) :
    t.blankRow = List.replicate cols (.blank (absCol e.bg)) := by
  unfold Term.T.blankRow; rw [s.tcols, blank_eq s]

def Dir.scroll (d : Dir) (t : Term.T) (top bottom k : Nat) : Term.T :=
  match d with
  | .up => t.scrollUp top bottom k
  | .down => t.scrollDown top bottom k

theorem scroll_eq (d : Dir) (t : Term.T) (a b k : Nat) :
    d.scroll t a b k = t.setGrid (d.region t.grid a b k t.blankRow) := by cases d <;> rfl

theorem scroll_pw (d : Dir) (t : Term.T) (a b k : Nat) : (d.scroll t a b k).pw = t.pw := by
  rw [scroll_eq]; exact setGrid_pw _ _

theorem sim2_scroll (d : Dir) {t : Term.T} {e : Emu} {rows cols : Nat} (s2 : Sim2 t e rows cols)
    (tT tB k : Nat) (n : Int) (hTB : tT ≤ tB) (hB : tB < rows)
    (hk : (k : Int) = n ∨ ((tB : Int) - tT < k ∧ (tB : Int) - tT < n))
    {g' : Grid} (hg' : GridOk g' rows cols)
    (hrow : ∀ j : Nat, g'[j]? = shiftRow (d.src n) e.active tT tB e.bg j) :
    Sim2 (d.scroll t tT tB k) (e.setActive g') rows cols := by
  rw [scroll_eq, blankRow_eq s2.sim]
  exact sim2_setGrid s2 _ g' hg'
    (shift_accepts d (active_ok s2.sim.inv) hg' s2.sim.grid tT tB k n e.bg hTB hB hk hrow) (e.setActive g').lastCol
    (fun h => by rwa [setActive_lastCol] at h)

theorem scrollUp_spec {e : Emu} {rows cols : Nat} (h : EmuInv e rows cols) (d : Dim rows cols)
    {n : Int} (hn : 0 ≤ n) :
    ∃ g', scrollUp e n = .ok (e.setActive g') ∧ GridOk g' rows cols ∧
      ∀ j : Nat, g'[j]? = shiftRow (Dir.up.src n) e.active e.top e.bottom e.bg j := by
  obtain ⟨g', h1, h2, h3⟩ := scrollUpLoop_spec (active_ok h) d.rmax d.cmax e.top e.bottom n e.bg
    h.topLo h.botHi hn
  refine ⟨g', ?_, h2, h3⟩
  unfold scrollUp
  rw [height_eq h, h.left0, h.right]
  simp only [h1, bind, Except.bind]

theorem scrollDown_spec {e : Emu} {rows cols : Nat} (h : EmuInv e rows cols) (d : Dim rows cols)
    {n : Int} (hn : 0 ≤ n) :
    ∃ g', scrollDown e n = .ok (e.setActive g') ∧ GridOk g' rows cols ∧
      ∀ j : Nat, g'[j]? = shiftRow (Dir.down.src n) e.active e.top e.bottom e.bg j := by
  have := h.topLe
  obtain ⟨g', h1, h2, h3⟩ := scrollDownLoop_spec (active_ok h) d.rmax d.cmax e.top e.bottom n e.bg
    h.topLo (by omega) h.botHi hn
  refine ⟨g', ?_, h2, h3⟩
  unfold scrollDown
  rw [h.left0, h.right]
  simp only [h1, bind, Except.bind]

theorem susd_refines2 (d : Dir) {t : Term.T} {e : Emu} {rows cols : Nat} (s2 : Sim2 t e rows cols) (n : Nat) {r : M Emu}
    (hspec : ∃ g', r = .ok (e.setActive g') ∧ GridOk g' rows cols ∧
      ∀ j : Nat, g'[j]? = shiftRow (d.src (dflt1 (cp n))) e.active e.top e.bottom e.bg j) :
    ∃ e', r = .ok e' ∧ Refines2 (Term.one (d.scroll t t.top t.bottom (Term.d1 n))) e' rows cols := by
  have s := s2.sim
  have := s.dim.rmax; have ht := s.top; have hb := s.bottom; have := s.inv.topLe; have := s.inv.botHi
  obtain ⟨g', h1, h2, h3⟩ := hspec
  refine ⟨_, h1, refines2_one
    (sim2_scroll d s2 t.top t.bottom (Term.d1 n) (dflt1 (cp n)) (by omega) (by omega) ?_ h2 ?_)⟩
  · have := dflt1_cp n; omega
  · rw [ht, hb]; exact h3

theorem su_refines2 {t : Term.T} {e : Emu} {rows cols : Nat} (s2 : Sim2 t e rows cols) (n : Nat) :
    ∃ e', scrollUp e (dflt1 (cp n)) = .ok e' ∧ Refines2 (Term.step t (.su n)) e' rows cols :=
  susd_refines2 .up s2 n (scrollUp_spec s2.sim.inv s2.sim.dim (by have := dflt1_ok (cp_ok n); omega))

theorem sd_refines2 {t : Term.T} {e : Emu} {rows cols : Nat} (s2 : Sim2 t e rows cols) (n : Nat) :
    ∃ e', scrollDown e (dflt1 (cp n)) = .ok e' ∧ Refines2 (Term.step t (.sd n)) e' rows cols :=
  susd_refines2 .down s2 n (scrollDown_spec s2.sim.inv s2.sim.dim (by have := dflt1_ok (cp_ok n); omega))

theorem sim2_col0 {t : Term.T} {e : Emu} {rows cols : Nat} (s2 : Sim2 t e rows cols) (hp : t.pw = false)
    (c : Cursor) (hc : c = e.cur) :
    Sim2 { t with col := 0 } { e with cur := { c with col := 0 } } rows cols := by
  subst hc
  have s := s2.sim
  have := s.dim.c1
  have hlc := lastCol_false_of_not_pw s s2.lc hp
  refine sim2_of_frame s2 ?_ (fun h => absurd (hlc ▸ h) nofun)
    ⟨rfl, rfl, rfl, rfl, fun _ => rfl⟩ ⟨rfl, rfl, rfl, fun _ => rfl⟩
  exact
  { s with
    inv := { s.inv with colLo := by simp only; omega, colHi := by simp only; omega }
    vm := s.vm.congr rfl rfl
    col := by simp only; split <;> omega
    pw := by simp only; rw [hp]; symm; rw [decide_eq_false_iff_not]; omega }

theorem indCore_pw (t : Term.T) : t.indCore.pw = t.pw := by
  unfold Term.T.indCore
  split
  · exact scroll_pw .up _ _ _ _
  · split <;> rfl

/-- IND moves both sides alike, in every state (the pending-wrap test is the caller's). -/
theorem ind_sim2 {t : Term.T} {e : Emu} {rows cols : Nat} (s2 : Sim2 t e rows cols) :
    ∃ e', ind e = .ok e' ∧ Sim2 t.indCore e' rows cols ∧ e'.lastCol = false := by
  have s := s2.sim
  have s0 := sim2_lastCol s2
  have hh := height_eq s0.sim.inv
  have hr := s.row; have ht := s.top; have hb := s.bottom; have := s.inv.topLe; have := s.inv.botHi
  have := s.inv.rowLo; have := s.inv.rowHi; have := s.trows
  unfold ind Term.T.indCore
  simp only [hh]
  by_cases h1 : e.cur.row = e.bottom
  · have h1' : t.row = t.bottom := by omega
    rw [if_pos h1, if_pos h1']
    obtain ⟨g', hg1, hg2, hg3⟩ := scrollUp_spec s0.sim.inv s0.sim.dim (n := 1) (by omega)
    refine ⟨_, hg1, sim2_scroll .up s0 t.top t.bottom 1 1 (by omega) (by omega) (Or.inl rfl) hg2 ?_,
      setActive_lastCol _ _⟩
    rw [ht, hb]; exact hg3
  · have h1' : ¬ t.row = t.bottom := by omega
    rw [if_neg h1, if_neg h1']
    by_cases h2 : e.cur.row ≥ (rows : Int) - 1
    · have h2' : ¬ (t.row + 1 < t.rows) := by omega
      rw [if_pos h2, if_neg h2']
      exact ⟨_, rfl, s0, rfl⟩
    · have h2' : t.row + 1 < t.rows := by omega
      rw [if_neg h2, if_pos h2']
      exact ⟨_, rfl, sim2_moveRow s2 (t.row + 1) (e.cur.row + 1) (by omega) (by omega) false nofun, rfl⟩

theorem ind_refines2 {t : Term.T} {e : Emu} {rows cols : Nat} (s2 : Sim2 t e rows cols) :
    ∃ e', ind e = .ok e' ∧ Refines2 (Term.step t .ind) e' rows cols := by
  obtain ⟨e', h1, h2, _⟩ := ind_sim2 s2
  refine ⟨e', h1, ?_⟩
  simp only [Term.step]
  exact refines2_unlessPw (fun _ => refines2_one h2)

theorem lf_refines2 {t : Term.T} {e : Emu} {rows cols : Nat} (s2 : Sim2 t e rows cols) :
    ∃ e', lf e = .ok e' ∧ Refines2 (Term.step t .lf) e' rows cols := by
  obtain ⟨e', h1, h2, _⟩ := ind_sim2 s2
  refine ⟨e', ?_, ?_⟩
  · unfold lf
    simp only [h1, bind, Except.bind, h2.sim.vm.lnm, Bool.not_false, if_true]
  · simp only [Term.step]
    exact refines2_unlessPw (fun _ => refines2_one h2)

theorem nel_refines2 {t : Term.T} {e : Emu} {rows cols : Nat} (s2 : Sim2 t e rows cols) :
    ∃ e', nel e = .ok e' ∧ Refines2 (Term.step t .nel) e' rows cols := by
  obtain ⟨e', h1, h2, _⟩ := ind_sim2 s2
  refine ⟨{ e' with cur := { e'.cur with col := e'.left } }, ?_, ?_⟩
  · unfold nel
    simp only [h1, bind, Except.bind]
  · simp only [Term.step]
    refine refines2_unlessPw (fun hp => refines2_one ?_)
    have heq : ({ e' with cur := { e'.cur with col := e'.left } } : Emu) =
        { e' with cur := { e'.cur with col := 0 } } := by rw [h2.sim.inv.left0]
    rw [heq]
    exact sim2_col0 h2 (by rw [indCore_pw]; exact hp) e'.cur rfl

theorem riCore_pw (t : Term.T) : t.riCore.pw = t.pw := by
  unfold Term.T.riCore
  split
  · exact scroll_pw .down _ _ _ _
  · split <;> rfl

theorem ri_sim2 {t : Term.T} {e : Emu} {rows cols : Nat} (s2 : Sim2 t e rows cols) :
    ∃ e', ri Fixes.current e = .ok e' ∧ Sim2 t.riCore e' rows cols := by
  have s := s2.sim
  have s0 := sim2_lastCol s2
  have hr := s.row; have ht := s.top; have hb := s.bottom; have := s.inv.topLe; have := s.inv.botHi
  have := s.inv.rowLo; have := s.inv.rowHi; have := s.trows
  unfold ri Term.T.riCore
  simp only [Fixes.current, if_true]
  by_cases h1 : e.cur.row = e.top
  · have h1' : t.row = t.top := by omega
    rw [if_pos h1, if_pos h1']
    obtain ⟨g', hg1, hg2, hg3⟩ := scrollDown_spec s0.sim.inv s0.sim.dim (n := 1) (by omega)
    refine ⟨_, hg1, sim2_scroll .down s0 t.top t.bottom 1 1 (by omega) (by omega) (Or.inl rfl) hg2 ?_⟩
    rw [ht, hb]; exact hg3
  · have h1' : ¬ t.row = t.top := by omega
    rw [if_neg h1, if_neg h1']
    by_cases h2 : e.cur.row ≤ 0
    · have h2' : ¬ (t.row > 0) := by omega
      rw [if_pos h2, if_neg h2']
      exact ⟨_, rfl, s0⟩
    · have h2' : t.row > 0 := by omega
      rw [if_neg h2, if_pos h2']
      exact ⟨_, rfl, sim2_moveRow s2 (t.row - 1) (e.cur.row - 1) (by omega) (by omega) false nofun⟩

theorem ri_refines2 {t : Term.T} {e : Emu} {rows cols : Nat} (s2 : Sim2 t e rows cols) :
    ∃ e', ri Fixes.current e = .ok e' ∧ Refines2 (Term.step t .ri) e' rows cols := by
  obtain ⟨e', h1, h2⟩ := ri_sim2 s2
  refine ⟨e', h1, ?_⟩
  simp only [Term.step]
  exact refines2_unlessPw (fun _ => refines2_one h2)

theorem il_spec {e e0 : Emu} {rows cols : Nat} (he0 : e0 = { e with lastCol := false }) (h : EmuInv e rows cols)
    (d : Dim rows cols) (hin : e.top ≤ e.cur.row ∧ e.cur.row ≤ e.bottom) (hcol : e.cur.col < cols) {n : Int}
    (hn : POk n) :
    ∃ g', il Fixes.current e n = .ok { (e0.setActive g') with cur := { e0.cur with col := 0 } } ∧
      GridOk g' rows cols ∧
      ∀ j : Nat, g'[j]? = shiftRow (Dir.down.src (ilClamp Fixes.current e0 n)) e0.active e0.cur.row e0.bottom e0.bg j := by
  have h0 : EmuInv e0 rows cols := by rw [he0]; exact inv_lastCol h false
  have hin0 : e0.top ≤ e0.cur.row ∧ e0.cur.row ≤ e0.bottom := by rw [he0]; exact hin
  have hcol0 : e0.cur.col < cols := by rw [he0]; exact hcol
  unfold il
  rw [← he0]
  simp only []
  have hb := ilClamp_bounds e0 hn hin0.2
  have hk1 : 1 ≤ ilClamp Fixes.current e0 n := by
    have hd := dflt1_ok hn
    unfold ilClamp; simp only [Fixes.current, if_true]; split <;> omega
  generalize ilClamp Fixes.current e0 n = k at hb hk1 ⊢
  have := h0.colLo; have := h0.left0; have := h0.right
  obtain ⟨g1, g', hl1, hl2, hg', hrows⟩ := ilLoop_spec (active_ok h0) d.rmax d.cmax e0.cur.row e0.bottom k
    e0.bg h0.rowLo h0.botHi (by omega) (by omega)
  refine ⟨g', ?_, hg', hrows⟩
  have hcond : ¬ (e0.cur.row < e0.top ∨ e0.cur.row > e0.bottom ∨ e0.cur.col < e0.left ∨ e0.cur.col > e0.right) := by
    omega
  rw [if_neg hcond, h0.left0, h0.right]
  simp only [hl1, hl2, bind, Except.bind]

theorem dl_spec {e e0 : Emu} {rows cols : Nat} (he0 : e0 = { e with lastCol := false }) (h : EmuInv e rows cols)
    (d : Dim rows cols) (hin : e.top ≤ e.cur.row ∧ e.cur.row ≤ e.bottom) (hcol : e.cur.col < cols) {n : Int}
    (hn : POk n) :
    ∃ g', dl Fixes.current e n = .ok { (e0.setActive g') with cur := { e0.cur with col := 0 } } ∧
      GridOk g' rows cols ∧
      ∀ j : Nat, g'[j]? = shiftRow (Dir.up.src (ilClamp Fixes.current e0 n)) e0.active e0.cur.row e0.bottom e0.bg j := by
  have h0 : EmuInv e0 rows cols := by rw [he0]; exact inv_lastCol h false
  have hin0 : e0.top ≤ e0.cur.row ∧ e0.cur.row ≤ e0.bottom := by rw [he0]; exact hin
  have hcol0 : e0.cur.col < cols := by rw [he0]; exact hcol
  unfold dl
  rw [← he0]
  simp only []
  have hb := ilClamp_bounds e0 hn hin0.2
  generalize ilClamp Fixes.current e0 n = k at hb ⊢
  have := h0.colLo; have := h0.left0; have := h0.right
  obtain ⟨g', hl1, hg', hrows⟩ := dlLoop_spec (active_ok h0) d.rmax d.cmax e0.cur.row e0.bottom k
    e0.bg h0.rowLo (by omega) h0.botHi (by omega)
  refine ⟨g', ?_, hg', hrows⟩
  have hcond : ¬ (e0.cur.row < e0.top ∨ e0.cur.row > e0.bottom ∨ e0.cur.col < e0.left ∨ e0.cur.col > e0.right) := by
    omega
  rw [if_neg hcond, h0.left0, h0.right]
  simp only [hl1, bind, Except.bind]


/-- the count of IL/DL after `ilClamp`, against the reference's `d1 n` over the region `row..bottom` -/
theorem ilCount_rel (e : Emu) (n : Nat) (hrow : e.cur.row ≤ e.bottom) (hb : e.bottom < 65535) (h0 : 0 ≤ e.cur.row) :
    ((Term.d1 n : Nat) : Int) = ilClamp Fixes.current e (cp n) ∨
      (e.bottom - e.cur.row < ((Term.d1 n : Nat) : Int) ∧ e.bottom - e.cur.row < ilClamp Fixes.current e (cp n)) := by
  have := dflt1_cp n
  unfold ilClamp
  simp only [Fixes.current, if_true]
  split <;> omega


/-- The handler `r` first clears the flag (`e0`) and stops there when the cursor is outside the
    margins (`hout`); inside them it scrolls the rows `row..bottom` in direction `d` and moves to column 0 (`hspec`), as the
    reference does. -/
theorem ildl_refines2 (d : Dir) {t : Term.T} {e e0 : Emu} {rows cols : Nat} (s2 : Sim2 t e rows cols) (n : Nat)
    (he0 : e0 = { e with lastCol := false }) {r : M Emu} (hs : Safe rows cols r)
    (hspec : e.top ≤ e.cur.row ∧ e.cur.row ≤ e.bottom → e.cur.col < cols →
      ∃ g', r = .ok { (e0.setActive g') with cur := { e0.cur with col := 0 } } ∧ GridOk g' rows cols ∧
        ∀ j : Nat, g'[j]? = shiftRow (d.src (ilClamp Fixes.current e0 (cp n))) e0.active e0.cur.row e0.bottom e0.bg j)
    (hout : e.cur.row < e.top ∨ e.cur.row > e.bottom ∨ e.cur.col < e.left ∨ e.cur.col > e.right → r = .ok e0) :
    ∃ e', r = .ok e' ∧ Refines2 (Term.unlessPw t fun t =>
      if t.top ≤ t.row ∧ t.row ≤ t.bottom then
        .accept [d.scroll t t.row t.bottom (Term.d1 n), { d.scroll t t.row t.bottom (Term.d1 n) with col := 0 }]
      else Term.one t) e' rows cols := by
  subst he0
  have s := s2.sim
  refine refines2_of_safe hs fun e' he _ hp => ?_
  have hcol := col_lt_of_not_pw s hp
  have s0 := sim2_lastCol s2
  have hr := s.row; have ht := s.top; have hb := s.bottom; have := s.inv.topLe; have := s.inv.botHi
  have := s.inv.rowLo; have := s.inv.rowHi; have := s.inv.colLo; have := s.inv.left0; have := s.inv.right
  have := s.dim.rmax
  by_cases hin : e.top ≤ e.cur.row ∧ e.cur.row ≤ e.bottom
  · obtain ⟨g', h1, hg', hrows⟩ := hspec hin hcol
    rw [h1] at he; cases he
    rw [if_pos (by omega)]
    have s1 := sim2_scroll d s0 t.row t.bottom (Term.d1 n)
      (ilClamp Fixes.current { e with lastCol := false } (cp n)) (by omega) (by omega)
      (by rw [hr, hb]
          exact ilCount_rel { e with lastCol := false } n hin.2 (by simp only; omega) (by simp only; omega))
      hg' (by rw [hr, hb]; exact hrows)
    refine ⟨_, List.mem_cons_of_mem _ (List.mem_singleton.mpr rfl), ?_⟩
    exact sim2_col0 s1 (by rw [scroll_pw]; exact hp) _ (setActive_cur { e with lastCol := false } g').symm
  · rw [hout (by omega)] at he; cases he
    rw [if_neg (by omega)]
    exact refines2_one s0

theorem il_refines2 {t : Term.T} {e : Emu} {rows cols : Nat} (s2 : Sim2 t e rows cols) (n : Nat) :
    ∃ e', il Fixes.current e (cp n) = .ok e' ∧ Refines2 (Term.step t (.il n)) e' rows cols :=
  ildl_refines2 .down s2 n rfl (il_safe s2.sim.inv s2.sim.dim (cp_ok n))
    (fun hin hcol => il_spec rfl s2.sim.inv s2.sim.dim hin hcol (cp_ok n))
    (fun hcond => by unfold il; simp only []; rw [if_pos hcond])

theorem dl_refines2 {t : Term.T} {e : Emu} {rows cols : Nat} (s2 : Sim2 t e rows cols) (n : Nat) :
    ∃ e', dl Fixes.current e (cp n) = .ok e' ∧ Refines2 (Term.step t (.dl n)) e' rows cols :=
  ildl_refines2 .up s2 n rfl (dl_safe s2.sim.inv s2.sim.dim (cp_ok n))
    (fun hin hcol => dl_spec rfl s2.sim.inv s2.sim.dim hin hcol (cp_ok n))
    (fun hcond => by unfold dl; simp only []; rw [if_pos hcond])

end VaxisModel.Lemmas.EmuRefine

/-! ### sanity: the functional characterisations on a concrete 4×1 screen (region rows 1..3) -/
section sanity
open VaxisModel.Model.Emu VaxisModel.Lemmas.EmuRefine

private def cellOf (k : Nat) : ECell := { g := [48 + k], w := 1 }
private def e4 : Emu :=
  { primary := [[cellOf 0], [cellOf 1], [cellOf 2], [cellOf 3]], alt := [[cellOf 0], [cellOf 1], [cellOf 2], [cellOf 3]],
    top := 1, bottom := 3, right := 0, cur := { row := 1, st := { bg := 7 } } }

private def obs (r : M Emu) : Option Grid := match r with | .ok e => some e.primary | .error _ => none

example : obs (scrollUp e4 2) = some ((List.range 4).filterMap (upRow e4.active 1 3 2 7)) := by decide
example : obs (scrollDown e4 1) = some ((List.range 4).filterMap (downRow e4.active 1 3 1 7)) := by decide
example : obs (il Fixes.current e4 2) = some ((List.range 4).filterMap (downRow e4.active 1 3 2 7)) := by decide
example : obs (dl Fixes.current e4 1) = some ((List.range 4).filterMap (upRow e4.active 1 3 1 7)) := by decide
example : (List.range 4).filterMap (upRow e4.active 1 3 2 7) =
    [[cellOf 0], [cellOf 3], [(cellOf 2).erase 7], [(cellOf 3).erase 7]] := by decide
end sanity
