/-
C06 refinement, SGR: the emulator's `sgr` (transcription of widgets/term/sgr.go) against the
reference `Spec.sgr`, on the sequences `WfSgr` of the vocabulary (`sgrParams`: values 0..255, heads
other than 6 and 21).

`WfSgr` holds of every sequence made of
* any code other than 4 / 38 / 48 / 58, with or without (ignored) sub-parameters — the codes neither
  side knows are no-ops on both sides;
* `4` and `4:k` with k ≤ 5;
* `38|48|58 : 5 : n`, `: 2 : r : g : b`, `: 2 : cs : r : g : b`;
* the legacy forms `38|48|58 ; 5 ; n` and `38|48|58 ; 2 ; r ; g ; b` (followers without sub-parameters);
and it also lets a sequence END in a form on which both sides give up in the same way: a colon form
with the wrong kind (`38:k:a` k ≠ 5, `38:k:a:b:c[:d]` k ≠ 2), a bare 38|48|58 followed by fewer than two
parameters / by a kind other than 2 and 5 / by kind 2 and fewer than four parameters (`legacyStops`),
a colon form with 1, 3 or more than 5 sub-parameters as the very last parameter.
Left out because the two definitions DISAGREE (witnesses D1–D4 at the end of the file): `4:k` with
k > 5, `4:k:x…`, a colon form with 1, 3, 6.. sub-parameters followed by more parameters, legacy forms
whose followers carry sub-parameters.
-/
import VaxisModel.Lemmas.EmuRefine
import VaxisModel.Lemmas.EmuSafe2

namespace VaxisModel.Lemmas.EmuRefine
open VaxisModel.Model.Emu VaxisModel.Model.EmuAbs VaxisModel.Lemmas.Emu VaxisModel.Spec
open VaxisModel.Gen.TermModes

theorem hasBit_pow (a k : Nat) : hasBit a (2 ^ k) = a.testBit k := by
  unfold hasBit; rw [Nat.testBit_eq_decide_div_mod_eq]

theorem hb_bold (a : Nat) : hasBit a attrBold = a.testBit 1 := hasBit_pow a 1
theorem hb_dim (a : Nat) : hasBit a attrDim = a.testBit 2 := hasBit_pow a 2
theorem hb_italic (a : Nat) : hasBit a attrItalic = a.testBit 3 := hasBit_pow a 3
theorem hb_blink (a : Nat) : hasBit a attrBlink = a.testBit 4 := hasBit_pow a 4
theorem hb_reverse (a : Nat) : hasBit a attrReverse = a.testBit 5 := hasBit_pow a 5
theorem hb_invisible (a : Nat) : hasBit a attrInvisible = a.testBit 6 := hasBit_pow a 6
theorem hb_strike (a : Nat) : hasBit a attrStrikethrough = a.testBit 7 := hasBit_pow a 7

theorem absStyle_eq (s : EStyle) : absStyle s =
    { fg := absCol s.fg, bg := absCol s.bg, ul := absCol s.ul, ulStyle := s.ulStyle,
      bold := s.attr.testBit 1, dim := s.attr.testBit 2, italic := s.attr.testBit 3,
      blink := s.attr.testBit 4, reverse := s.attr.testBit 5, hidden := s.attr.testBit 6,
      strike := s.attr.testBit 7 } := by
  unfold absStyle
  rw [hb_bold, hb_dim, hb_italic, hb_blink, hb_reverse, hb_invisible, hb_strike]

theorem absCol_zero : absCol 0 = .default := by decide

theorem u8_nat (n : Nat) (h : n ≤ 255) : u8 (n : Int) = n := by
  unfold u8; omega

theorem absCol_index (n : Nat) (h : n ≤ 255) : absCol (indexColor (n : Int)) = .idx n := by
  unfold indexColor indexedBit; rw [u8_nat n h]
  unfold absCol
  have h1 : (n + 2 ^ 24) / 2 ^ 24 % 2 = 1 := by omega
  have h2 : (n + 2 ^ 24) % 256 = n := by omega
  rw [if_pos h1, h2]

theorem absCol_rgb (r g b : Nat) (hr : r ≤ 255) (hg : g ≤ 255) (hb : b ≤ 255) :
    absCol (rgbColor (r : Int) (g : Int) (b : Int)) = .rgb r g b := by
  unfold rgbColor rgbBit; rw [u8_nat r hr, u8_nat g hg, u8_nat b hb]
  unfold absCol
  have h1 : ¬ ((r * 65536 + g * 256 + b + 2 ^ 25) / 2 ^ 24 % 2 = 1) := by omega
  have h2 : (r * 65536 + g * 256 + b + 2 ^ 25) / 2 ^ 25 % 2 = 1 := by omega
  have h3 : (r * 65536 + g * 256 + b + 2 ^ 25) / 65536 % 256 = r := by omega
  have h4 : (r * 65536 + g * 256 + b + 2 ^ 25) / 256 % 256 = g := by omega
  have h5 : (r * 65536 + g * 256 + b + 2 ^ 25) % 256 = b := by omega
  rw [if_neg h1, if_pos h2, h3, h4, h5]

structure Keeps (s s1 : EStyle) : Prop where
  link : s1.link = s.link
  linkParams : s1.linkParams = s.linkParams
  attr : s.attr < 256 → s1.attr < 256

theorem Keeps.refl (s : EStyle) : Keeps s s := ⟨rfl, rfl, id⟩
theorem Keeps.trans {a b c : EStyle} (h1 : Keeps a b) (h2 : Keeps b c) : Keeps a c :=
  ⟨h2.link.trans h1.link, h2.linkParams.trans h1.linkParams, fun h => h2.attr (h1.attr h)⟩

theorem keeps_attrOn (s : EStyle) (b : Nat) (hb : b < 256) : Keeps s (attrOn s b) :=
  ⟨rfl, rfl, fun h => Nat.or_lt_two_pow (n := 8) h hb⟩
theorem keeps_attrOff (s : EStyle) (b : Nat) : Keeps s (attrOff s b) :=
  ⟨rfl, rfl, fun h => Nat.lt_of_le_of_lt Nat.and_le_left h⟩
theorem keeps_setCol (s : EStyle) (slot : ColSlot) (c : Nat) : Keeps s (setCol s slot c) := by
  cases slot <;> exact ⟨rfl, rfl, id⟩

def KeepsRes (s : EStyle) (x : M (Option (EStyle × Nat))) : Prop :=
  ∀ s1 k, x = .ok (some (s1, k)) → Keeps s s1

theorem keepsRes_ok {s s1 : EStyle} {k : Nat} (h : Keeps s s1) : KeepsRes s (.ok (some (s1, k))) := by
  intro a b hab; cases hab; exact h

theorem keepsRes_ite {s : EStyle} (c : Prop) [Decidable c] (a b : M (Option (EStyle × Nat)))
    (ha : KeepsRes s a) (hb : KeepsRes s b) : KeepsRes s (if c then a else b) := by
  split
  · exact ha
  · exact hb

theorem keepsRes_bind {α : Type} {s : EStyle} (x : M α) (f : α → M (Option (EStyle × Nat)))
    (h : ∀ a, KeepsRes s (f a)) : KeepsRes s (x >>= f) := by
  intro s1 k hx
  obtain ⟨a, -, ha⟩ := Except.bind_eq_ok hx
  exact h a s1 k ha

theorem sgrExt_keepsRes (s : EStyle) (slot : ColSlot) (p : Param) (rest : List Param) :
    KeepsRes s (sgrExt s slot p rest) := by
  unfold sgrExt
  repeat' (first | apply keepsRes_ite | refine keepsRes_bind _ _ (fun _ => ?_) | split)
  all_goals first
    | exact keepsRes_ok (keeps_setCol _ _ _)
    | exact keepsRes_ok (Keeps.refl _)
    | exact fun _ _ h => nomatch h

theorem sgrOne_keepsRes (s : EStyle) (p : Param) (rest : List Param) : KeepsRes s (sgrOne s p rest) := by
  unfold sgrOne
  simp only
  repeat' (first | apply keepsRes_ite | split)
  all_goals first
    | exact sgrExt_keepsRes _ _ _ _
    | exact keepsRes_ok (Keeps.refl _)
    | exact keepsRes_ok ⟨rfl, rfl, id⟩
    | exact keepsRes_ok ⟨rfl, rfl, fun _ => Nat.zero_lt_succ _⟩
    | (intro s1 k h
       obtain ⟨a, -, h⟩ := Except.bind_eq_ok h
       cases h
       repeat' split
       all_goals exact ⟨rfl, rfl, id⟩)
    | exact keepsRes_ok (keeps_attrOn _ _ (by decide))
    | exact keepsRes_ok (keeps_attrOff _ _)
    | exact keepsRes_ok ((keeps_attrOff _ _).trans (keeps_attrOff _ _))

theorem sgrOne_keeps {s s1 : EStyle} {p : Param} {rest : List Param} {k : Nat}
    (h : sgrOne s p rest = .ok (some (s1, k))) : Keeps s s1 := sgrOne_keepsRes s p rest s1 k h

theorem sgrLoop_keeps : ∀ (fuel : Nat) (s : EStyle) (pm : List Param) (s' : EStyle),
    sgrLoop fuel s pm = .ok s' → Keeps s s' := by
  intro fuel
  induction fuel with
  | zero => intro s pm s' h; simp only [sgrLoop] at h; cases h; exact Keeps.refl _
  | succ fuel ih =>
    intro s pm s' h
    cases pm with
    | nil => simp only [sgrLoop] at h; cases h; exact Keeps.refl _
    | cons p rest =>
      simp only [sgrLoop] at h
      obtain ⟨r, hr, h⟩ := Except.bind_eq_ok h
      cases r with
      | none => cases h; exact Keeps.refl _
      | some r =>
        obtain ⟨s1, k⟩ := r
        exact (sgrOne_keeps hr).trans (ih _ _ _ h)

/-- The emulator's parameter for a reference parameter (value :: sub-parameters). -/
def up : List Nat → Param
  | [] => (0, [])
  | n :: sub => ((n : Int), sub.map Int.ofNat)

/-- What `sgrParams` guarantees of one parameter. -/
def VocabP : List Nat → Bool
  | [] => false
  | n :: sub => decide (n ≠ 6) && decide (n ≠ 21) && decide (n ≤ 255) && sub.all (fun v => decide (v ≤ 255))

def Vocab (ps : List (List Nat)) : Bool := ps.all VocabP

theorem vocab_cons (n : Nat) (sub : List Nat) (ps : List (List Nat)) :
    Vocab ((n :: sub) :: ps) = true ↔
      (n ≠ 6 ∧ n ≠ 21 ∧ n ≤ 255 ∧ sub.all (fun v => decide (v ≤ 255)) = true) ∧ Vocab ps = true := by
  simp only [Vocab, VocabP, List.all_cons, Bool.and_eq_true, decide_eq_true_eq, and_assoc]

theorem map_toNat_ofNat : ∀ (l : List Int), (l.all fun v => decide (0 ≤ v) && decide (v ≤ 255)) = true →
    (l.map Int.toNat).map Int.ofNat = l ∧ ((l.map Int.toNat).all fun v => decide (v ≤ 255)) = true := by
  intro l
  induction l with
  | nil => intro _; exact ⟨rfl, rfl⟩
  | cons a l ih =>
    intro h
    simp only [List.all_cons, Bool.and_eq_true, decide_eq_true_eq] at h
    obtain ⟨⟨h0, h1⟩, h2⟩ := h
    obtain ⟨i1, i2⟩ := ih h2
    refine ⟨?_, ?_⟩
    · simp only [List.map_cons, i1]
      congr 1
      show ((a.toNat : Nat) : Int) = a
      omega
    · simp only [List.map_cons, List.all_cons, i2, Bool.and_true, decide_eq_true_eq]
      omega

theorem sgrParams_up : ∀ (pm : List Param) (ps : List (List Nat)), sgrParams pm = some ps →
    pm = ps.map up ∧ Vocab ps = true := by
  intro pm
  induction pm with
  | nil => intro ps h; simp [sgrParams] at h; subst h; exact ⟨rfl, rfl⟩
  | cons p pm ih =>
    intro ps h
    simp only [sgrParams, List.mapM_cons] at h
    have hfold : ∀ f, f = (fun (p : Param) =>
        if 0 ≤ p.1 ∧ p.1 ≠ 6 ∧ p.1 ≠ 21 ∧ p.1 ≤ 255 ∧ p.2.all (fun v => decide (0 ≤ v) && decide (v ≤ 255)) then
          some (p.1.toNat :: p.2.map Int.toNat)
        else none) → List.mapM f pm = sgrParams pm := by intro f hf; subst hf; rfl
    rw [hfold _ rfl] at h
    split at h
    · rename_i hc
      obtain ⟨c0, c6, c21, c255, call⟩ := hc
      cases hq : sgrParams pm with
      | none => simp [hq] at h
      | some qs =>
        simp [hq] at h
        subst h
        obtain ⟨h1, h2⟩ := ih qs hq
        obtain ⟨m1, m2⟩ := map_toNat_ofNat p.2 call
        refine ⟨?_, ?_⟩
        · rw [List.map_cons, ← h1]
          congr 1
          show p = (((p.1.toNat : Nat) : Int), (p.2.map Int.toNat).map Int.ofNat)
          rw [m1]
          have : ((p.1.toNat : Nat) : Int) = p.1 := by omega
          rw [this]
        · rw [vocab_cons]
          exact ⟨⟨by omega, by omega, by omega, m2⟩, h2⟩
    · simp at h

/-- After a bare 38 / 48 / 58 (legacy form): the following parameters make BOTH sides give up — fewer
    than two follow, or the kind is neither 2 nor 5, or the kind is 2 and fewer than four follow. -/
def legacyStops : List (List Nat) → Bool
  | [] => true
  | [_] => true
  | [] :: _ :: _ => false
  | (k :: _) :: _ :: r => decide (k ≠ 5) && (decide (k ≠ 2) || decide (r.length < 2))

/-- The sequences on which the emulator and the reference are proved to agree. -/
def WfSgr : List (List Nat) → Bool
  | [] => true
  | [] :: _ => false
  | (p :: sub) :: rest =>
    if p = 38 ∨ p = 48 ∨ p = 58 then
      match sub with
      | [] =>
        match rest with
        | [5] :: [_] :: rest' => WfSgr rest'
        | [2] :: [_] :: [_] :: [_] :: rest' => WfSgr rest'
        | _ => legacyStops rest
      | [5, _] => WfSgr rest
      | [2, _, _, _] => WfSgr rest
      | [2, _, _, _, _] => WfSgr rest
      | [_, _] => true              -- kind ≠ 5: both stop
      | [_, _, _, _] => true        -- kind ≠ 2: both stop
      | [_, _, _, _, _] => true     -- kind ≠ 2: both stop
      | _ => rest.isEmpty           -- 1, 3, 6.. sub-parameters: the emulator goes on, the reference stops
    else if p = 4 then
      match sub with
      | [] => WfSgr rest
      | [k] => decide (k ≤ 5) && WfSgr rest
      | _ => false
    else WfSgr rest

theorem abs_fg (s : EStyle) (c : Nat) : absStyle { s with fg := c } = { absStyle s with fg := absCol c } := rfl
theorem abs_bg (s : EStyle) (c : Nat) : absStyle { s with bg := c } = { absStyle s with bg := absCol c } := rfl
theorem abs_ul (s : EStyle) (c : Nat) : absStyle { s with ul := c } = { absStyle s with ul := absCol c } := rfl
theorem abs_uls (s : EStyle) (c : Nat) : absStyle { s with ulStyle := c } = { absStyle s with ulStyle := c } := rfl
theorem abs_reset (s : EStyle) :
    absStyle { s with attr := 0, fg := 0, bg := 0, ul := 0, ulStyle := 0 } = TStyle.reset := by
  simp +decide [absStyle_eq, absCol_zero, TStyle.reset]

theorem idx_int (x : Int) (m : Nat) (hx : x = (m : Int)) (hm : m ≤ 255) :
    absCol (indexColor x) = .idx m := by
  subst hx; exact absCol_index m hm

/-- The codes with an arm of their own in both chains. -/
def Single (n : Nat) : Prop :=
  n = 0 ∨ n = 1 ∨ n = 2 ∨ n = 3 ∨ n = 4 ∨ n = 5 ∨ n = 6 ∨ n = 7 ∨ n = 8 ∨ n = 9 ∨ n = 21 ∨ n = 22 ∨ n = 23 ∨ n = 24 ∨
  n = 25 ∨ n = 27 ∨ n = 28 ∨ n = 29 ∨ n = 38 ∨ n = 39 ∨ n = 48 ∨ n = 49 ∨ n = 58 ∨ n = 59

/-- Past the single codes the emulator's chain is its four colour ranges (and so is the reference's: `sgrSimple_ranges`). -/
theorem sgrOne_ranges (s : EStyle) (n : Nat) (sub : List Int) (rest : List Param) (hs : ¬ Single n) :
    sgrOne s ((n : Int), sub) rest = .ok (some (
      (if 30 ≤ n ∧ n ≤ 37 then { s with fg := indexColor ((n : Int) - 30) }
       else if 40 ≤ n ∧ n ≤ 47 then { s with bg := indexColor ((n : Int) - 40) }
       else if 90 ≤ n ∧ n ≤ 97 then { s with fg := indexColor ((n : Int) - 90 + 8) }
       else if 100 ≤ n ∧ n ≤ 107 then { s with bg := indexColor ((n : Int) - 100 + 8) }
       else s), 0)) := by
  unfold Single at hs
  unfold sgrOne; simp only []
  -- one walk down the chain: the single codes fall away, each range is met once
  repeat rw [if_neg (by omega)]
  by_cases h1 : 30 ≤ n ∧ n ≤ 37
  · rw [if_pos (by omega), if_pos h1]
  rw [if_neg (by omega), if_neg h1]
  repeat rw [if_neg (by omega)]
  by_cases h2 : 40 ≤ n ∧ n ≤ 47
  · rw [if_pos (by omega), if_pos h2]
  rw [if_neg (by omega), if_neg h2]
  repeat rw [if_neg (by omega)]
  by_cases h3 : 90 ≤ n ∧ n ≤ 97
  · rw [if_pos (by omega), if_pos h3]
  rw [if_neg (by omega), if_neg h3]
  by_cases h4 : 100 ≤ n ∧ n ≤ 107
  · rw [if_pos (by omega), if_pos h4]
  rw [if_neg (by omega), if_neg h4]

theorem sgrSimple_ranges (t : TStyle) (n : Nat) (hs : ¬ Single n) :
    sgrSimple t n =
      (if 30 ≤ n ∧ n ≤ 37 then { t with fg := .idx (n - 30) }
       else if 40 ≤ n ∧ n ≤ 47 then { t with bg := .idx (n - 40) }
       else if 90 ≤ n ∧ n ≤ 97 then { t with fg := .idx (n - 90 + 8) }
       else if 100 ≤ n ∧ n ≤ 107 then { t with bg := .idx (n - 100 + 8) }
       else t) := by
  unfold Single at hs
  unfold sgrSimple
  -- the same walk; after 49 and 59 what is left of the chain is the right-hand side, which closes the goal
  repeat rw [if_neg (by omega)]
  by_cases h1 : 30 ≤ n ∧ n ≤ 37
  · rw [if_pos (by omega), if_pos h1]
  rw [if_neg (by omega), if_neg h1]
  repeat rw [if_neg (by omega)]
  by_cases h2 : 40 ≤ n ∧ n ≤ 47
  · rw [if_pos (by omega), if_pos h2]
  rw [if_neg (by omega), if_neg h2]
  repeat rw [if_neg (by omega)]

/-- A code without look-ahead (anything but 4, 38, 48, 58; 6 and 21 are outside the vocabulary). -/
theorem step_simple (s : EStyle) (n : Nat) (sub : List Int) (rest : List Param)
    (hn : n ≤ 255) (h4 : n ≠ 4) (h6 : n ≠ 6) (h21 : n ≠ 21) (h38 : n ≠ 38) (h48 : n ≠ 48) (h58 : n ≠ 58) :
    ∃ s1, sgrOne s ((n : Int), sub) rest = .ok (some (s1, 0)) ∧
      absStyle s1 = sgrSimple (absStyle s) n := by
  by_cases hs : Single n
  · unfold Single at hs
    rcases hs with h | h | h | h | h | h | h | h | h | h | h | h | h | h | h | h | h | h | h | h | h | h | h | h
    all_goals first | omega | subst h
    · exact ⟨_, rfl, abs_reset s⟩
    -- the fourteen attribute codes: a bit of the mask set or cleared, read off bit by bit (`absStyle_eq`)
    iterate 14
      exact ⟨_, rfl, by
        have h : ∀ j, j < 8 → Nat.testBit 253 j = decide (j ≠ 1) ∧ Nat.testBit 251 j = decide (j ≠ 2) := by decide
        simp +decide [absStyle_eq, attrOn, attrOff, sgrSimple, attrBold, attrDim, attrItalic, attrBlink, attrReverse,
          attrInvisible, attrStrikethrough, h]⟩
    · exact ⟨_, rfl, by rw [abs_fg, absCol_zero]; rfl⟩
    · exact ⟨_, rfl, by rw [abs_bg, absCol_zero]; rfl⟩
    · exact ⟨_, rfl, by rw [abs_ul, absCol_zero]; rfl⟩
  · refine ⟨_, sgrOne_ranges s n sub rest hs, ?_⟩
    rw [sgrSimple_ranges _ n hs]
    split
    · rw [abs_fg, idx_int _ (n - 30) (by omega) (by omega)]
    split
    · rw [abs_bg, idx_int _ (n - 40) (by omega) (by omega)]
    split
    · rw [abs_fg, idx_int _ (n - 90 + 8) (by omega) (by omega)]
    split
    · rw [abs_bg, idx_int _ (n - 100 + 8) (by omega) (by omega)]
    · rfl

def slotOf (w : Nat) : ColSlot := if w = 38 then .fg else if w = 48 then .bg else .ul

theorem abs_setCol (s : EStyle) (w : Nat) (c : Nat) :
    absStyle (setCol s (slotOf w) c) = setExt (absStyle s) w (absCol c) := by
  unfold slotOf setExt
  split
  · rfl
  · split <;> rfl

theorem sgrOne_ext (s : EStyle) (w : Nat) (hw : w = 38 ∨ w = 48 ∨ w = 58) (sub : List Int) (rest : List Param) :
    sgrOne s ((w : Int), sub) rest = sgrExt s (slotOf w) ((w : Int), sub) rest := by
  rcases hw with h | h | h <;> subst h <;> rfl

theorem step_ul1 (s : EStyle) (rest : List Param) :
    sgrOne s ((4 : Nat), []) rest = .ok (some ({ s with ulStyle := 1 }, 0)) := rfl

theorem step_ul2 (s : EStyle) (k : Nat) (hk : k ≤ 5) (rest : List Param) :
    sgrOne s ((4 : Nat), [(k : Int)]) rest = .ok (some ({ s with ulStyle := k }, 0)) := by
  have : k = 0 ∨ k = 1 ∨ k = 2 ∨ k = 3 ∨ k = 4 ∨ k = 5 := by omega
  rcases this with h | h | h | h | h | h <;> subst h <;> rfl

theorem step_legacy_idx (s : EStyle) (w : Nat) (hw : w = 38 ∨ w = 48 ∨ w = 58) (n : Int) (sa sb : List Int)
    (rest : List Param) :
    sgrOne s ((w : Int), []) ((5, sa) :: (n, sb) :: rest) =
      .ok (some (setCol s (slotOf w) (indexColor n), 2)) := by
  rw [sgrOne_ext s w hw]
  unfold sgrExt
  simp only [Param.len, List.length_nil, List.length_cons]
  rw [if_neg (by omega)]
  rfl

theorem step_legacy_rgb (s : EStyle) (w : Nat) (hw : w = 38 ∨ w = 48 ∨ w = 58) (r g b : Int)
    (sa sr sg sb : List Int) (rest : List Param) :
    sgrOne s ((w : Int), []) ((2, sa) :: (r, sr) :: (g, sg) :: (b, sb) :: rest) =
      .ok (some (setCol s (slotOf w) (rgbColor r g b), 4)) := by
  rw [sgrOne_ext s w hw]
  unfold sgrExt
  simp only [Param.len, List.length_nil, List.length_cons]
  rw [if_neg (by omega)]
  rw [if_pos trivial, if_neg (by omega)]

theorem sgrLoop_cons (fuel : Nat) (s : EStyle) (p : Param) (rest : List Param) (s1 : EStyle) (k : Nat)
    (h : sgrOne s p rest = .ok (some (s1, k))) :
    sgrLoop (fuel + 1) s (p :: rest) = sgrLoop fuel s1 (rest.drop k) := by
  simp only [sgrLoop, h, bind, Except.bind]

theorem sgrLoop_nil (fuel : Nat) (s : EStyle) : sgrLoop fuel s [] = .ok s := by
  cases fuel <;> simp only [sgrLoop]

theorem spec_legacy_idx (t : TStyle) (w n : Nat) (hw : w = 38 ∨ w = 48 ∨ w = 58) :
    sgrStep (sgrStep (sgrStep (t, .none) [w]) [5]) [n] = (setExt t w (.idx n), .none) := by
  rcases hw with h | h | h <;> subst h <;> rfl

theorem spec_legacy_rgb (t : TStyle) (w r g b : Nat) (hw : w = 38 ∨ w = 48 ∨ w = 58) :
    sgrStep (sgrStep (sgrStep (sgrStep (sgrStep (t, .none) [w]) [2]) [r]) [g]) [b] =
      (setExt t w (.rgb r g b), .none) := by
  rcases hw with h | h | h <;> subst h <;> rfl

theorem spec_colon (t : TStyle) (w : Nat) (sub : List Nat) (c : Col) (hw : w = 38 ∨ w = 48 ∨ w = 58)
    (hne : sub ≠ []) (hc : extColon sub = some c) :
    sgrStep (t, .none) (w :: sub) = (setExt t w c, .none) := by
  cases sub with
  | nil => exact absurd rfl hne
  | cons a l =>
    simp only [sgrStep, if_pos hw, hc]

theorem spec_simple (t : TStyle) (p : Nat) (sub : List Nat) (h : ¬ (p = 38 ∨ p = 48 ∨ p = 58)) (h4 : p ≠ 4) :
    sgrStep (t, .none) (p :: sub) = (sgrSimple t p, .none) := by
  simp only [sgrStep, if_neg h, if_neg h4]

/-- The statement proved by induction over the sequence. -/
def LoopOk (ps : List (List Nat)) : Prop :=
  ∀ (fuel : Nat) (s : EStyle), ps.length ≤ fuel →
    ∃ s', sgrLoop fuel s (ps.map up) = .ok s' ∧
      absStyle s' = (ps.foldl sgrStep (absStyle s, .none)).1

/-- One parameter consumed on both sides — together with the parameters `mid` its legacy form looks ahead at. -/
theorem loop_skip (q : List Nat) (mid rest : List (List Nat)) (ih : LoopOk rest)
    (h : ∀ s, ∃ s1, sgrOne s (up q) ((mid ++ rest).map up) = .ok (some (s1, mid.length)) ∧
      mid.foldl sgrStep (sgrStep (absStyle s, .none) q) = (absStyle s1, .none)) : LoopOk (q :: (mid ++ rest)) := by
  intro fuel s hf
  cases fuel with
  | zero => simp at hf
  | succ f =>
    obtain ⟨s1, hone, hspec⟩ := h s
    obtain ⟨s', e1, e2⟩ := ih f s1 (by simp only [List.length_cons, List.length_append] at hf; omega)
    refine ⟨s', ?_, ?_⟩
    · rw [List.map_cons, sgrLoop_cons f s _ _ s1 _ hone, List.map_append, ← List.length_map (f := up),
        List.drop_left]
      exact e1
    · rw [List.foldl_cons, List.foldl_append, hspec]; exact e2

theorem loop_step (q : List Nat) (rest : List (List Nat)) (ih : LoopOk rest)
    (h : ∀ s, ∃ s1, sgrOne s (up q) (rest.map up) = .ok (some (s1, 0)) ∧
      sgrStep (absStyle s, .none) q = (absStyle s1, .none)) : LoopOk (q :: rest) :=
  loop_skip q [] rest ih h

theorem sgrLoop_stop (fuel : Nat) (s : EStyle) (p : Param) (rest : List Param)
    (h : sgrOne s p rest = .ok none) : sgrLoop (fuel + 1) s (p :: rest) = .ok s := by
  simp only [sgrLoop, h, bind, Except.bind]

theorem spec_dead (t : TStyle) : ∀ (l : List (List Nat)), l.foldl sgrStep (t, .dead) = (t, .dead) := by
  intro l
  induction l with
  | nil => rfl
  | cons q l ih => rw [List.foldl_cons]; exact ih

theorem loop_stop (q : List Nat) (rest : List (List Nat))
    (h : ∀ s, sgrOne s (up q) (rest.map up) = .ok none ∧
      ((q :: rest).foldl sgrStep (absStyle s, .none)).1 = absStyle s) : LoopOk (q :: rest) := by
  intro fuel s hf
  cases fuel with
  | zero => simp at hf
  | succ f =>
    obtain ⟨h1, h2⟩ := h s
    exact ⟨s, by rw [List.map_cons, sgrLoop_stop f s _ _ h1], h2.symm⟩

theorem extColon_none2 (k a : Nat) (hk : k ≠ 5) : extColon [k, a] = none := by
  unfold extColon; split <;> simp_all
theorem extColon_none4 (k a b c : Nat) (hk : k ≠ 2) : extColon [k, a, b, c] = none := by
  unfold extColon; split <;> simp_all
theorem extColon_none5 (k a b c d : Nat) (hk : k ≠ 2) : extColon [k, a, b, c, d] = none := by
  unfold extColon; split <;> simp_all

theorem spec_colon_dead (t : TStyle) (w : Nat) (sub : List Nat) (hw : w = 38 ∨ w = 48 ∨ w = 58)
    (hne : sub ≠ []) (hc : extColon sub = none) (rest : List (List Nat)) :
    (((w :: sub) :: rest).foldl sgrStep (t, .none)).1 = t := by
  cases sub with
  | nil => exact absurd rfl hne
  | cons a l =>
    have : sgrStep (t, .none) (w :: a :: l) = (t, .dead) := by simp only [sgrStep, if_pos hw, hc]
    rw [List.foldl_cons, this, spec_dead]

/-- The emulator on a colon form `w:sub` with two, four or five sub-parameters of the vocabulary: it sets the colour `extColon`
    reads off `sub`, and stops where `extColon` reads none (a kind other than 5, resp. 2). -/
theorem emu_colon (s : EStyle) (w : Nat) (hw : w = 38 ∨ w = 48 ∨ w = 58) (sub : List Nat) (rest : List Param)
    (hl : sub.length = 2 ∨ sub.length = 4 ∨ sub.length = 5) (hv : sub.all (fun v => decide (v ≤ 255)) = true) :
    match extColon sub with
    | some c => ∃ s1, sgrOne s (up (w :: sub)) rest = .ok (some (s1, 0)) ∧ absStyle s1 = setExt (absStyle s) w c
    | none => sgrOne s (up (w :: sub)) rest = .ok none := by
  have he : sgrOne s (up (w :: sub)) rest = sgrExt s (slotOf w) ((w : Int), sub.map Int.ofNat) rest :=
    sgrOne_ext s w hw _ rest
  rw [he]
  have stop : ∀ (k : Nat) (l : List Int), (l.length = 1 ∧ k ≠ 5) ∨ ((l.length = 3 ∨ l.length = 4) ∧ k ≠ 2) →
      sgrExt s (slotOf w) ((w : Int), (k : Int) :: l) rest = .ok none := by
    intro k l h
    rcases l with _ | ⟨a, _ | ⟨b, _ | ⟨c, _ | ⟨d, _ | ⟨x, l⟩⟩⟩⟩⟩ <;> simp only [List.length_cons, List.length_nil] at h <;>
      first
      | omega
      | (have h5 : ((k : Int) ≠ 5) := by omega
         simp only [sgrExt, Param.len, Param.get, List.length_cons, List.length_nil, bind, Except.bind,
           List.getElem?_cons_zero, if_pos h5])
      | (have h2 : ((k : Int) ≠ 2) := by omega
         simp only [sgrExt, Param.len, Param.get, List.length_cons, List.length_nil, bind, Except.bind,
           List.getElem?_cons_zero, if_pos h2])
  rcases sub with _ | ⟨k, _ | ⟨a, _ | ⟨b, _ | ⟨c, _ | ⟨d, _ | ⟨x, l⟩⟩⟩⟩⟩⟩ <;>
    simp only [List.length_cons, List.length_nil] at hl <;> try omega
  all_goals simp only [List.all_cons, List.all_nil, Bool.and_true, Bool.and_eq_true, decide_eq_true_eq] at hv
  · by_cases hk : k = 5
    · subst hk; exact ⟨_, rfl, by rw [abs_setCol]; exact congrArg _ (absCol_index a hv.2)⟩
    · rw [extColon_none2 k a hk]; exact stop k _ (Or.inl ⟨rfl, hk⟩)
  · by_cases hk : k = 2
    · subst hk; exact ⟨_, rfl, by rw [abs_setCol]; exact congrArg _ (absCol_rgb a b c hv.2.1 hv.2.2.1 hv.2.2.2)⟩
    · rw [extColon_none4 k a b c hk]; exact stop k _ (Or.inr ⟨Or.inl rfl, hk⟩)
  · by_cases hk : k = 2
    · subst hk; exact ⟨_, rfl, by rw [abs_setCol]; exact congrArg _ (absCol_rgb b c d hv.2.2.1 hv.2.2.2.1 hv.2.2.2.2)⟩
    · rw [extColon_none5 k a b c d hk]; exact stop k _ (Or.inr ⟨Or.inr rfl, hk⟩)

theorem loop_colon (w : Nat) (hw : w = 38 ∨ w = 48 ∨ w = 58) (sub : List Nat) (rest : List (List Nat))
    (hl : sub.length = 2 ∨ sub.length = 4 ∨ sub.length = 5) (hv : Vocab ((w :: sub) :: rest) = true)
    (ih : extColon sub ≠ none → Vocab rest = true → LoopOk rest) : LoopOk ((w :: sub) :: rest) := by
  rw [vocab_cons] at hv
  have hne : sub ≠ [] := by rintro rfl; simp at hl
  have hemu := fun s => emu_colon s w hw sub (rest.map up) hl hv.1.2.2.2
  cases hc : extColon sub with
  | none =>
    refine loop_stop _ _ fun s => ⟨?_, spec_colon_dead _ w sub hw hne hc rest⟩
    have := hemu s; rw [hc] at this; exact this
  | some c =>
    refine loop_step _ _ (ih (by rw [hc]; nofun) hv.2) fun s => ?_
    have := hemu s; rw [hc] at this
    obtain ⟨s1, h1, h2⟩ := this
    exact ⟨s1, h1, by rw [spec_colon _ w sub c hw hne hc, h2]⟩

theorem sgrExt_other (s : EStyle) (slot : ColSlot) (w : Int) (sub : List Int) (rest : List Param)
    (h0 : sub.length ≠ 0) (h2 : sub.length ≠ 2) (h4 : sub.length ≠ 4) (h5 : sub.length ≠ 5) :
    sgrExt s slot (w, sub) rest = .ok (some (s, 0)) := by
  unfold sgrExt
  split
  all_goals first
    | rfl
    | (rename_i heq; simp only [Param.len] at heq; omega)

theorem len_facts (sub : List Nat) (h0 : sub = [] → False) (h2 : ∀ a b, sub = [a, b] → False)
    (h4 : ∀ a b c d, sub = [a, b, c, d] → False) (h5 : ∀ a b c d e, sub = [a, b, c, d, e] → False) :
    sub.length ≠ 0 ∧ sub.length ≠ 2 ∧ sub.length ≠ 4 ∧ sub.length ≠ 5 := by
  rcases sub with _ | ⟨a, _ | ⟨b, _ | ⟨c, _ | ⟨d, _ | ⟨e, _ | ⟨f, l⟩⟩⟩⟩⟩⟩
  · exact absurd rfl h0
  · simp
  · exact absurd rfl (h2 a b)
  · simp
  · exact absurd rfl (h4 a b c d)
  · exact absurd rfl (h5 a b c d e)
  · simp only [List.length_cons]; omega

theorem kind_fst (t : TStyle) (w : Nat) (q : List Nat) : (sgrStep (t, .kind w) q).1 = t := by
  simp only [sgrStep]; split <;> rfl

theorem kind_dead (t : TStyle) (w k : Nat) (sub : List Nat) (h5 : k ≠ 5) (h2 : k ≠ 2 ∨ sub ≠ []) :
    sgrStep (t, .kind w) (k :: sub) = (t, .dead) := by
  simp only [sgrStep]
  split
  · rename_i h; cases h; exact absurd rfl h5
  · rename_i h; cases h; rcases h2 with h | h <;> exact absurd rfl h
  · rfl

theorem rgb_step (t : TStyle) (w : Nat) (acc : List Nat) (hacc : acc.length < 2) (q : List Nat) :
    sgrStep (t, .rgb w acc) q = (t, .dead) ∨ ∃ v, sgrStep (t, .rgb w acc) q = (t, .rgb w (acc ++ [v])) := by
  simp only [sgrStep]
  split
  · simp at hacc
  · exact Or.inr ⟨_, rfl⟩
  · exact Or.inl rfl

theorem rgb_fold (t : TStyle) (w : Nat) : ∀ (l : List (List Nat)) (acc : List Nat), acc.length + l.length ≤ 2 →
    (l.foldl sgrStep (t, .rgb w acc)).1 = t := by
  intro l
  induction l with
  | nil => intro acc _; rfl
  | cons q l ih =>
    intro acc h
    simp only [List.length_cons] at h
    rw [List.foldl_cons]
    rcases rgb_step t w acc (by omega) q with h1 | ⟨v, h1⟩
    · rw [h1, spec_dead]
    · rw [h1]; exact ih _ (by simp only [List.length_append, List.length_cons, List.length_nil]; omega)

theorem spec_legacy_stop (t : TStyle) (w : Nat) (rest : List (List Nat)) (h : legacyStops rest = true) :
    (rest.foldl sgrStep (t, .kind w)).1 = t := by
  rcases rest with _ | ⟨q1, _ | ⟨q2, r⟩⟩
  · rfl
  · exact kind_fst t w q1
  · cases q1 with
    | nil => simp [legacyStops] at h
    | cons k sub =>
      simp only [legacyStops, Bool.and_eq_true, Bool.or_eq_true, decide_eq_true_eq] at h
      rw [List.foldl_cons]
      by_cases hk : k = 2
      · cases sub with
        | nil =>
          subst hk
          have : sgrStep (t, .kind w) [2] = (t, .rgb w []) := rfl
          rw [this]
          refine rgb_fold t w _ [] ?_
          simp only [List.length_cons, List.length_nil]
          rcases h.2 with h' | h'
          · exact absurd rfl h'
          · omega
        | cons a l => rw [kind_dead t w k _ h.1 (Or.inr (by simp)), spec_dead]
      · rw [kind_dead t w k _ h.1 (Or.inl hk), spec_dead]

theorem emu_legacy_stop (s : EStyle) (slot : ColSlot) (w : Int) (rest : List (List Nat))
    (h : legacyStops rest = true) : sgrExt s slot (w, []) (rest.map up) = .ok none := by
  rcases rest with _ | ⟨q1, _ | ⟨q2, r⟩⟩
  · rfl
  · rfl
  · cases q1 with
    | nil => simp [legacyStops] at h
    | cons k sub =>
      simp only [legacyStops, Bool.and_eq_true, Bool.or_eq_true, decide_eq_true_eq] at h
      unfold sgrExt
      simp only [Param.len, List.length_nil, List.map_cons, List.length_cons, List.length_map, up]
      rw [if_neg (by omega)]
      by_cases hk : k = 2
      · rw [if_pos (by omega), if_pos (by rcases h.2 with h' | h'; exact absurd hk h'; omega)]
      · rw [if_neg (by omega), if_neg (by omega)]

theorem sgrLoop_refines (ps : List (List Nat)) : WfSgr ps = true → Vocab ps = true → LoopOk ps := by
  fun_induction WfSgr ps
  · -- []
    intro _ _ fuel s _
    exact ⟨s, sgrLoop_nil fuel s, rfl⟩
  · intro h; cases h
  · -- legacy 38;5;n
    rename_i w hw n rest ih
    intro hwf hv
    simp only [vocab_cons, List.all_nil] at hv
    refine loop_skip [w] [[5], [n]] rest (ih hwf hv.2.2.2) (fun s => ?_)
    refine ⟨_, step_legacy_idx s w hw (n : Int) [] [] (rest.map up), ?_⟩
    simp only [List.foldl_cons, List.foldl_nil]
    rw [spec_legacy_idx _ w n hw, abs_setCol, absCol_index n (by omega)]
  · -- legacy 38;2;r;g;b
    rename_i w hw r g b rest ih
    intro hwf hv
    simp only [vocab_cons, List.all_nil] at hv
    refine loop_skip [w] [[2], [r], [g], [b]] rest (ih hwf hv.2.2.2.2.2) (fun s => ?_)
    refine ⟨_, step_legacy_rgb s w hw (r : Int) (g : Int) (b : Int) [] [] [] [] (rest.map up), ?_⟩
    simp only [List.foldl_cons, List.foldl_nil]
    rw [spec_legacy_rgb _ w r g b hw, abs_setCol, absCol_rgb r g b (by omega) (by omega) (by omega)]
  · -- bare 38 / 48 / 58 followed by something both sides give up on
    rename_i w rest hw _ _
    intro hs _
    refine loop_stop _ _ (fun s => ⟨?_, ?_⟩)
    · show sgrOne s ((w : Int), []) (rest.map up) = .ok none
      rw [sgrOne_ext s w hw]; exact emu_legacy_stop s _ _ rest hs
    · rw [List.foldl_cons]
      have : sgrStep (absStyle s, .none) [w] = (absStyle s, .kind w) := by
        simp only [sgrStep, if_pos hw]
      rw [this]; exact spec_legacy_stop _ w rest hs
  · -- 38:5:n
    rename_i w rest hw n ih
    intro hwf hv
    exact loop_colon w hw _ rest (by simp) hv fun _ => ih hwf
  · -- 38:2:r:g:b
    rename_i w rest hw r g b ih
    intro hwf hv
    exact loop_colon w hw _ rest (by simp) hv fun _ => ih hwf
  · -- 38:2:cs:r:g:b
    rename_i w rest hw cs r g b ih
    intro hwf hv
    exact loop_colon w hw _ rest (by simp) hv fun _ => ih hwf
  · -- 38:k:a with k ≠ 5
    rename_i w rest hw k a hk
    intro _ hv
    exact loop_colon w hw _ rest (by simp) hv fun h => absurd (extColon_none2 k a (fun h => hk h)) h
  · -- 38:k:a:b:c with k ≠ 2
    rename_i w rest hw k a b c hk
    intro _ hv
    exact loop_colon w hw _ rest (by simp) hv fun h => absurd (extColon_none4 k a b c (fun h => hk h)) h
  · -- 38:k:a:b:c:d with k ≠ 2
    rename_i w rest hw k a b c d hk
    intro _ hv
    exact loop_colon w hw _ rest (by simp) hv fun h => absurd (extColon_none5 k a b c d (fun h => hk h)) h
  · -- 1, 3, 6.. sub-parameters, last parameter of the sequence
    rename_i w sub rest hw h0 h5n h2r h2c h2 h4 h5
    intro hr _
    have hrest : rest = [] := by
      cases rest with
      | nil => rfl
      | cons a l => simp at hr
    subst hrest
    obtain ⟨l0, l2, l4, l5⟩ := len_facts sub h0 h2 h4 h5
    have hnone : extColon sub = none := by
      unfold extColon; split
      · exact absurd rfl (fun h => h5n _ h)
      · exact absurd rfl (fun h => h2r _ _ _ h)
      · exact absurd rfl (fun h => h2c _ _ _ _ h)
      · rfl
    intro fuel s hf
    cases fuel with
    | zero => simp at hf
    | succ f =>
      have hone : sgrOne s (up (w :: sub)) [] = .ok (some (s, 0)) := by
        show sgrOne s ((w : Int), sub.map Int.ofNat) [] = .ok (some (s, 0))
        rw [sgrOne_ext s w hw]
        exact sgrExt_other s _ _ _ _ (by simpa using l0) (by simpa using l2) (by simpa using l4) (by simpa using l5)
      refine ⟨s, ?_, ?_⟩
      · show sgrLoop (f + 1) s (up (w :: sub) :: []) = .ok s
        rw [sgrLoop_cons f s _ _ s 0 hone]; exact sgrLoop_nil f s
      · exact (spec_colon_dead _ w sub hw (fun h => h0 h) hnone []).symm
  · -- 4
    rename_i rest _ ih
    intro hwf hv
    rw [vocab_cons] at hv
    refine loop_step _ _ (ih hwf hv.2) (fun s => ?_)
    exact ⟨_, step_ul1 s (rest.map up), rfl⟩
  · -- 4:k
    rename_i rest k _ ih
    intro hwf hv
    rw [vocab_cons] at hv
    simp only [Bool.and_eq_true, decide_eq_true_eq] at hwf
    refine loop_step _ _ (ih hwf.2 hv.2) (fun s => ?_)
    refine ⟨_, step_ul2 s k hwf.1 (rest.map up), ?_⟩
    simp only [sgrStep, if_pos hwf.1]
    rfl
  · intro h; cases h
  · -- everything else
    rename_i p sub rest hp h4 ih
    intro hwf hv
    rw [vocab_cons] at hv
    refine loop_step _ _ (ih hwf hv.2) (fun s => ?_)
    obtain ⟨s1, h1, h2⟩ := step_simple s p (sub.map Int.ofNat) (rest.map up) (by omega) h4 (by omega) (by omega)
      (by omega) (by omega) (by omega)
    refine ⟨s1, h1, ?_⟩
    rw [spec_simple _ p sub hp h4, h2]

theorem absStyle_sgr {pm : List Param} {ps : List (List Nat)} (s : EStyle)
    (hw : WfSgr ps = true) (hp : sgrParams pm = some ps) :
    ∃ s', sgrLoop (pm.length + 1) s pm = .ok s' ∧
      absStyle s' = (ps.foldl sgrStep (absStyle s, .none)).1 := by
  obtain ⟨h1, h2⟩ := sgrParams_up pm ps hp
  subst h1
  exact sgrLoop_refines ps hw h2 _ s (by simp)

theorem clampParam_id (n : Int) (h0 : 0 ≤ n) (h1 : n ≤ 65535) : clampParam n = n := by
  unfold clampParam maxParam
  split
  · omega
  · rfl

theorem clampParam_nat (n : Nat) (h : n ≤ 255) : clampParam (n : Int) = n :=
  clampParam_id n (by omega) (by omega)

theorem clamp_map : ∀ (l : List Nat), (l.all fun v => decide (v ≤ 255)) = true →
    (l.map Int.ofNat).map clampParam = l.map Int.ofNat := by
  intro l
  induction l with
  | nil => intro _; rfl
  | cons a l ih =>
    intro h
    simp only [List.all_cons, Bool.and_eq_true, decide_eq_true_eq] at h
    simp only [List.map_cons, ih h.2]
    congr 1
    exact clampParam_nat a h.1

theorem clampParams_up : ∀ (ps : List (List Nat)), Vocab ps = true → clampParams (ps.map up) = ps.map up := by
  intro ps
  induction ps with
  | nil => intro _; rfl
  | cons q ps ih =>
    intro h
    cases q with
    | nil => simp [Vocab, VocabP] at h
    | cons n sub =>
      rw [vocab_cons] at h
      have ih' := ih h.2
      unfold clampParams at ih' ⊢
      rw [List.map_cons, List.map_cons, ih']
      congr 1
      show (clampParam (n : Int), (sub.map Int.ofNat).map clampParam) = ((n : Int), sub.map Int.ofNat)
      rw [clampParam_nat n h.1.2.2.1, clamp_map sub h.1.2.2.2]

theorem clampParams_sgrParams {pm : List Param} {ps : List (List Nat)} (hp : sgrParams pm = some ps) :
    clampParams pm = pm := by
  obtain ⟨h1, h2⟩ := sgrParams_up pm ps hp
  subst h1
  exact clampParams_up ps h2

theorem sgr_eq (e : Emu) (pm : List Param) (s' : EStyle)
    (h : sgrLoop ((if pm.isEmpty then [((0 : Int), ([] : List Int))] else pm).length + 1) e.cur.st
      (if pm.isEmpty then [((0 : Int), ([] : List Int))] else pm) = .ok s') :
    Model.Emu.sgr e pm = .ok { e with cur := { e.cur with st := s' } } := by
  unfold Model.Emu.sgr
  simp only [h, bind, Except.bind]

theorem sgr_pen {pm : List Param} {ps : List (List Nat)} (e : Emu)
    (hp : sgrParams pm = some ps) (hw : WfSgr ps = true) :
    ∃ s', Model.Emu.sgr e (clampParams pm) = .ok { e with cur := { e.cur with st := s' } } ∧
      absStyle s' = Spec.sgr (absStyle e.cur.st) ps ∧ Keeps e.cur.st s' := by
  rw [clampParams_sgrParams hp]
  cases pm with
  | nil =>
    simp [sgrParams] at hp
    subst hp
    refine ⟨{ e.cur.st with attr := 0, fg := 0, bg := 0, ul := 0, ulStyle := 0 }, sgr_eq e [] _ rfl, ?_,
      ⟨rfl, rfl, fun _ => Nat.zero_lt_succ _⟩⟩
    rw [abs_reset]; rfl
  | cons p pm =>
    obtain ⟨s', h1, h2⟩ := absStyle_sgr e.cur.st hw hp
    refine ⟨s', sgr_eq e (p :: pm) s' h1, ?_, sgrLoop_keeps _ _ _ _ h1⟩
    rw [h2]
    obtain ⟨h3, -⟩ := sgrParams_up _ _ hp
    cases ps with
    | nil => simp at h3
    | cons q ps => rfl

theorem sgr_refines {t : Term.T} {e : Emu} {rows cols : Nat} (s : Sim t e rows cols)
    (hattr : e.cur.st.attr < 256) (pm : List Param) (ps : List (List Nat))
    (hp : sgrParams pm = some ps) (hw : WfSgr ps = true) :
    ∃ e', Model.Emu.sgr e (clampParams pm) = .ok e' ∧ Refines (Term.step t (.sgr ps)) e' rows cols ∧
      e'.cur.st.attr < 256 ∧ ∃ s', e' = { e with cur := { e.cur with st := s' } } := by
  obtain ⟨s', h1, h2, h3⟩ := sgr_pen e hp hw
  refine ⟨_, h1, ?_, h3.attr hattr, s', rfl⟩
  show Refines (Term.one { t with pen := Spec.sgr t.pen ps }) _ rows cols
  exact refines_one (sim_setPen s _ s' (by rw [h2, s.pen]) h3.link)

/-! ### what is in `WfSgr`, and the inputs left out because the two definitions DISAGREE on them -/

section tests
-- in: simple codes (also unknown ones, also with stray sub-parameters), 4:k, colon and legacy colour forms
example : WfSgr [[0], [1], [2, 9], [3], [4], [4, 3], [5], [7], [8], [9], [10], [22], [26], [39], [49], [59],
    [73], [91], [107], [200]] = true := by decide
example : WfSgr [[38, 5, 200], [48, 2, 1, 2, 3], [58, 2, 0, 1, 2, 3], [1]] = true := by decide
example : WfSgr [[38], [5], [200], [48], [2], [1], [2], [3], [1]] = true := by decide
-- in: both sides give up (truncated legacy form, unknown kind)
example : WfSgr [[1], [38], [5]] = true := by decide
example : WfSgr [[38], [2], [1], [2]] = true := by decide
example : WfSgr [[38], [7], [1], [1], [1]] = true := by decide
example : WfSgr [[38, 7, 1], [1]] = true := by decide
example : WfSgr [[38, 5]] = true := by decide
-- out
example : WfSgr [[4, 7]] = false := by decide
example : WfSgr [[4, 2, 0]] = false := by decide
example : WfSgr [[38, 5], [1]] = false := by decide
example : WfSgr [[38], [5, 9], [3]] = false := by decide
example : WfSgr [[38], [5], [3, 9]] = false := by decide
example : WfSgr [[38], [2], [3, 7], [4], [5]] = false := by decide

/-- D1: `4:k` with k > 5 — the emulator leaves the underline style alone, the reference (as kitty /
    VTE do for an unknown style) falls back to a single underline. -/
example : sgrLoop 2 { ulStyle := 3 } [(4, [7])] = .ok { ulStyle := 3 } ∧
    Spec.sgr { ulStyle := 3 } [[4, 7]] = { ulStyle := 1 } := ⟨rfl, by decide⟩
/-- D2: `4:k:x` (more than one sub-parameter) — the emulator ignores the parameter, the reference
    reads the first sub-parameter. -/
example : sgrLoop 2 { ulStyle := 3 } [(4, [2, 0])] = .ok { ulStyle := 3 } ∧
    Spec.sgr { ulStyle := 3 } [[4, 2, 0]] = { ulStyle := 2 } := ⟨rfl, by decide⟩
/-- D3: `38:5` (colon form with 1, 3 or more than 5 sub-parameters) followed by more parameters — the
    emulator skips the malformed parameter and goes on, the reference ignores the rest. -/
example : sgrLoop 3 {} [(38, [5]), (1, [])] = .ok { attr := 2 } ∧
    Spec.sgr {} [[38, 5], [1]] = {} := ⟨rfl, by decide⟩
/-- D4: legacy form whose follow-up parameters carry sub-parameters (`38;5:9;3`, `38;5;3:9`,
    `38;2;3:7;4;5`) — the emulator reads only the values and sets the colour, the reference gives up. -/
example : sgrLoop 4 {} [(38, []), (5, [9]), (3, [])] = .ok { fg := 3 + 2 ^ 24 } ∧
    Spec.sgr {} [[38], [5, 9], [3]] = {} := ⟨rfl, by decide⟩
example : sgrLoop 4 {} [(38, []), (5, []), (3, [9])] = .ok { fg := 3 + 2 ^ 24 } ∧
    Spec.sgr {} [[38], [5], [3, 9]] = {} := ⟨rfl, by decide⟩
end tests

end VaxisModel.Lemmas.EmuRefine
