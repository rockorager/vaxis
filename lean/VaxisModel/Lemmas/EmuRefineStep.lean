/-
C06 refinement, assembly: every operation of the vocabulary, dispatched through `emuStep` (the
generated tables `csiTable` / `escTable` / `c0Table` and the parameter clamp of csi()), refines the
step of the reference terminal on the token `tokOf` assigns to it, for the full simulation relation
`Sim2`; lifted to all histories over any vocabulary whose steps refine; the state after `New()` is a
`Sim2` pair with the reference's power-on state.
-/
import VaxisModel.Lemmas.EmuRefine2
import VaxisModel.Lemmas.EmuRefineCursor
import VaxisModel.Lemmas.EmuRefineErase
import VaxisModel.Lemmas.EmuRefineScroll
import VaxisModel.Lemmas.EmuRefinePrint
import VaxisModel.Lemmas.EmuRefineFrame
import VaxisModel.Lemmas.EmuRefineSaved

namespace VaxisModel.Lemmas.EmuRefine
open VaxisModel.Model.Emu VaxisModel.Model.EmuAbs VaxisModel.Lemmas.Emu VaxisModel.Spec
open VaxisModel.Gen.TermModes

/-- the parameter as csi() hands it to the handler (the same function as `cp`) -/
def cpE (n : Nat) : Int := clampParam (n : Int)
def cpS (n : Nat) : Int := clampParam (n : Int)
def cpP (n : Nat) : Int := clampParam (n : Int)

theorem cpE_eq_cp : cpE = cp := rfl
theorem cpS_eq_cp : cpS = cp := rfl
theorem cpP_eq_cp : cpP = cp := rfl

theorem emuStep_csi_ok {e e' : Emu} {l : List Nat} {pm : List Param}
    (h : csi Fixes.current e l pm = .ok e') : emuStep e (.csi l pm) = .ok (e', 0) := by
  unfold emuStep emuStepF
  simp only [h, bind, Except.bind]

theorem emuStep_esc_ok {e e' : Emu} {l : List Nat}
    (h : esc Fixes.current e l = .ok e') : emuStep e (.esc l) = .ok (e', 0) := by
  unfold emuStep emuStepF
  simp only [h, bind, Except.bind]

theorem emuStep_print_ok {e e' : Emu} {g : G} {w : Nat}
    (h : print Fixes.current e g w = .ok e') : emuStep e (.print g w) = .ok (e', 0) := by
  unfold emuStep emuStepF
  simp only [h, bind, Except.bind]

theorem emuStep_osc_ok {e e' : Emu} {data : List Nat} {info : OscInfo} {k : Nat}
    (h : osc Fixes.current e data info = .ok (e', k)) : emuStep e (.osc data info) = .ok (e', k) := by
  unfold emuStep emuStepF
  exact h

theorem plainParams_nil : plainParams [] = some [] := rfl

theorem plainParams_cons (p : Param) (rest : List Param) :
    plainParams (p :: rest) =
      (if p.2 = [] ∧ 0 ≤ p.1 then
        match plainParams rest with
        | some l => some (p.1.toNat :: l)
        | none => none
       else none) := by
  unfold plainParams
  rw [List.mapM_cons]
  split
  · simp only [bind, Option.bind, pure]
    cases List.mapM (fun p : Param => if p.2 = [] ∧ 0 ≤ p.1 then some p.1.toNat else none) rest <;> rfl
  · rfl

theorem plainParams_shape : ∀ (pm : List Param) (ps : List Nat), plainParams pm = some ps →
    pm = ps.map (fun (n : Nat) => ((n : Int), ([] : List Int)))
  | [], ps, h => by
    rw [plainParams_nil] at h
    cases h; rfl
  | p :: rest, ps, h => by
    rw [plainParams_cons] at h
    split at h
    · rename_i hp
      cases hr : plainParams rest with
      | none => rw [hr] at h; cases h
      | some l =>
        rw [hr] at h
        cases h
        have ih := plainParams_shape rest l hr
        obtain ⟨a, b⟩ := p
        simp only at hp
        obtain ⟨hb, ha⟩ := hp
        subst hb
        rw [List.map_cons, ← ih]
        congr 2
        omega
    · cases h

theorem plain_le1 {pm : List Param} {ps : List Nat} (hp : plainParams pm = some ps) (hl : ps.length ≤ 1) :
    (ps = [] ∧ pm = []) ∨ ∃ a : Nat, ps = [a] ∧ pm = [((a : Int), [])] := by
  have h := plainParams_shape pm ps hp
  match ps, hl with
  | [], _ => exact Or.inl ⟨rfl, h⟩
  | [a], _ => exact Or.inr ⟨a, rfl, h⟩
  | _ :: _ :: _, hl => simp at hl

theorem cp_zero : cp 0 = 0 := by decide

theorem ps_clamp {pm : List Param} {ps' : List Nat} (hp : plainParams pm = some ps') (hl : ps'.length ≤ 1) :
    ps (clampParams pm) = cp (nth0 ps' 0) := by
  rcases plain_le1 hp hl with ⟨rfl, rfl⟩ | ⟨a, rfl, rfl⟩
  · exact cp_zero.symm
  · rfl

theorem clamp_plain {pm : List Param} {ps' : List Nat} (hp : plainParams pm = some ps') :
    clampParams pm = ps'.map fun n => (cp n, []) := by
  rw [plainParams_shape pm ps' hp, clampParams, List.map_map]
  rfl

theorem length_clamp {pm : List Param} {ps' : List Nat} (hp : plainParams pm = some ps') :
    (clampParams pm).length = ps'.length := by
  rw [clamp_plain hp, List.length_map]

theorem csi_64 (e : Emu) (pm : List Param) :
    csi Fixes.current e [64] pm = ich Fixes.current e (ps (clampParams pm)) := rfl
theorem csi_65 (e : Emu) (pm : List Param) :
    csi Fixes.current e [65] pm = .ok (cuu e (ps (clampParams pm))) := rfl
theorem csi_66 (e : Emu) (pm : List Param) :
    csi Fixes.current e [66] pm = .ok (cud Fixes.current e (ps (clampParams pm))) := rfl
theorem csi_67 (e : Emu) (pm : List Param) :
    csi Fixes.current e [67] pm = .ok (cuf e (ps (clampParams pm))) := rfl
theorem csi_68 (e : Emu) (pm : List Param) :
    csi Fixes.current e [68] pm = .ok (cub e (ps (clampParams pm))) := rfl
theorem csi_69 (e : Emu) (pm : List Param) :
    csi Fixes.current e [69] pm = cnl Fixes.current e (ps (clampParams pm)) := rfl
theorem csi_70 (e : Emu) (pm : List Param) :
    csi Fixes.current e [70] pm = cpl Fixes.current e (ps (clampParams pm)) := rfl
theorem csi_71 (e : Emu) (pm : List Param) :
    csi Fixes.current e [71] pm = .ok (cha e (ps (clampParams pm))) := rfl
theorem csi_72 (e : Emu) (pm : List Param) :
    csi Fixes.current e [72] pm = .ok (cup Fixes.current e (clampParams pm)) := rfl
theorem csi_102 (e : Emu) (pm : List Param) :
    csi Fixes.current e [102] pm = .ok (cup Fixes.current e (clampParams pm)) := rfl
theorem csi_74 (e : Emu) (pm : List Param) :
    csi Fixes.current e [74] pm = ed e (ps (clampParams pm)) := rfl
theorem csi_75 (e : Emu) (pm : List Param) :
    csi Fixes.current e [75] pm = el Fixes.current e (ps (clampParams pm)) := rfl
theorem csi_76 (e : Emu) (pm : List Param) :
    csi Fixes.current e [76] pm = il Fixes.current e (ps (clampParams pm)) := rfl
theorem csi_77 (e : Emu) (pm : List Param) :
    csi Fixes.current e [77] pm = dl Fixes.current e (ps (clampParams pm)) := rfl
theorem csi_80 (e : Emu) (pm : List Param) :
    csi Fixes.current e [80] pm = dch e (ps (clampParams pm)) := rfl
theorem csi_83 (e : Emu) (pm : List Param) :
    csi Fixes.current e [83] pm = scrollUp e (dflt1 (ps (clampParams pm))) := rfl
theorem csi_84 (e : Emu) (pm : List Param) :
    csi Fixes.current e [84] pm = if (clampParams pm).length = 5 then .ok e else scrollDown e (dflt1 (ps (clampParams pm))) := rfl
theorem csi_88 (e : Emu) (pm : List Param) :
    csi Fixes.current e [88] pm = ech e (ps (clampParams pm)) := rfl
theorem csi_96 (e : Emu) (pm : List Param) :
    csi Fixes.current e [96] pm = .ok (hpa e (ps (clampParams pm))) := rfl
theorem csi_100 (e : Emu) (pm : List Param) :
    csi Fixes.current e [100] pm = .ok (vpa Fixes.current e (ps (clampParams pm))) := rfl
theorem csi_114 (e : Emu) (pm : List Param) :
    csi Fixes.current e [114] pm = .ok (decstbm Fixes.current e (clampParams pm)) := rfl
theorem csi_decset (e : Emu) (pm : List Param) :
    csi Fixes.current e [63, 104] pm = decset Fixes.current e (clampParams pm) := rfl
theorem csi_decrst (e : Emu) (pm : List Param) :
    csi Fixes.current e [63, 108] pm = decrst e (clampParams pm) := rfl
theorem esc_55 (e : Emu) : esc Fixes.current e [55] = .ok (decsc e) := rfl
theorem esc_56 (e : Emu) : esc Fixes.current e [56] = .ok (decrc e) := rfl
theorem esc_68 (e : Emu) : esc Fixes.current e [68] = ind e := rfl
theorem esc_69 (e : Emu) : esc Fixes.current e [69] = nel e := rfl
theorem esc_77 (e : Emu) : esc Fixes.current e [77] = ri Fixes.current e := rfl
theorem c0_13 (e : Emu) : c0 Fixes.current e 13 = .ok (cr e, 0) := rfl
theorem c0_10 (e : Emu) : c0 Fixes.current e 10 = (do .ok (← lf e, 0)) := rfl
theorem c0_11 (e : Emu) : c0 Fixes.current e 11 = (do .ok (← lf e, 0)) := rfl
theorem c0_12 (e : Emu) : c0 Fixes.current e 12 = (do .ok (← lf e, 0)) := rfl

section ops
variable {t : Term.T} {e : Emu} {rows cols : Nat}

theorem cr_step2 (s2 : Sim2 t e rows cols) :
    ∃ r, emuStep e (.c0 13) = .ok r ∧ Refines2 (Term.step t .cr) r.1 rows cols :=
  ⟨(cr e, 0), c0_13 e, cr_refines2 s2⟩

theorem lf_step2 (s2 : Sim2 t e rows cols) (b : Nat) (hb : b = 10 ∨ b = 11 ∨ b = 12) :
    ∃ r, emuStep e (.c0 b) = .ok r ∧ Refines2 (Term.step t .lf) r.1 rows cols := by
  obtain ⟨e', he, hr⟩ := lf_refines2 s2
  have hs : emuStep e (.c0 b) = .ok (e', 0) := by
    show c0 Fixes.current e b = _
    rcases hb with rfl | rfl | rfl
    · rw [c0_10, he]; rfl
    · rw [c0_11, he]; rfl
    · rw [c0_12, he]; rfl
  exact ⟨_, hs, hr⟩

theorem ind_step2 (s2 : Sim2 t e rows cols) :
    ∃ r, emuStep e (.esc [68]) = .ok r ∧ Refines2 (Term.step t .ind) r.1 rows cols := by
  obtain ⟨e', he, hr⟩ := ind_refines2 s2
  exact ⟨_, emuStep_esc_ok ((esc_68 e).trans he), hr⟩

theorem nel_step2 (s2 : Sim2 t e rows cols) :
    ∃ r, emuStep e (.esc [69]) = .ok r ∧ Refines2 (Term.step t .nel) r.1 rows cols := by
  obtain ⟨e', he, hr⟩ := nel_refines2 s2
  exact ⟨_, emuStep_esc_ok ((esc_69 e).trans he), hr⟩

theorem ri_step2 (s2 : Sim2 t e rows cols) :
    ∃ r, emuStep e (.esc [77]) = .ok r ∧ Refines2 (Term.step t .ri) r.1 rows cols := by
  obtain ⟨e', he, hr⟩ := ri_refines2 s2
  exact ⟨_, emuStep_esc_ok ((esc_77 e).trans he), hr⟩

theorem decsc_step2 (s2 : Sim2 t e rows cols) :
    ∃ r, emuStep e (.esc [55]) = .ok r ∧ Refines2 (Term.step t .decsc) r.1 rows cols :=
  ⟨(decsc e, 0), emuStep_esc_ok (esc_55 e), decsc_refines2 s2⟩

theorem decrc_step2 (s2 : Sim2 t e rows cols) :
    ∃ r, emuStep e (.esc [56]) = .ok r ∧ Refines2 (Term.step t .decrc) r.1 rows cols :=
  ⟨(decrc e, 0), emuStep_esc_ok (esc_56 e), decrc_refines2 s2⟩

theorem clamp_1049 : clampParams [((1049 : Int), ([] : List Int))] = [(1049, [])] := by decide

theorem altOn_step2 (s2 : Sim2 t e rows cols) :
    ∃ r, emuStep e (.csi [63, 104] [(1049, [])]) = .ok r ∧ Refines2 (Term.step t .altOn) r.1 rows cols := by
  obtain ⟨e', he, hr⟩ := alton_refines2 s2
  have hc : csi Fixes.current e [63, 104] [(1049, [])] = .ok e' := by
    rw [csi_decset, clamp_1049]; exact he
  exact ⟨(e', 0), emuStep_csi_ok hc, hr⟩

theorem altOff_step2 (s2 : Sim2 t e rows cols) :
    ∃ r, emuStep e (.csi [63, 108] [(1049, [])]) = .ok r ∧ Refines2 (Term.step t .altOff) r.1 rows cols := by
  obtain ⟨e', he, hr⟩ := altoff_refines2 s2
  have hc : csi Fixes.current e [63, 108] [(1049, [])] = .ok e' := by
    rw [csi_decrst, clamp_1049]; exact he
  exact ⟨(e', 0), emuStep_csi_ok hc, hr⟩

theorem csi1_step {f : Nat} {tok : Nat → Term.Tok}
    {h : Int → M Emu} (harm : ∀ pm, csi Fixes.current e [f] pm = h (ps (clampParams pm)))
    {pm : List Param} {ps' : List Nat} (hp : plainParams pm = some ps') (hl : ps'.length ≤ 1)
    (hh : ∀ n, ∃ e', h (cp n) = .ok e' ∧ Refines2 (Term.step t (tok n)) e' rows cols) :
    ∃ r, emuStep e (.csi [f] pm) = .ok r ∧ Refines2 (Term.step t (tok (nth0 ps' 0))) r.1 rows cols := by
  obtain ⟨e', he, hr⟩ := hh (nth0 ps' 0)
  exact ⟨(e', 0), emuStep_csi_ok (by rw [harm, ps_clamp hp hl]; exact he), hr⟩

theorem cup_step2 (s2 : Sim2 t e rows cols) {f : Nat} (hf : f = 72 ∨ f = 102) {pm : List Param} {ps' : List Nat}
    (hp : plainParams pm = some ps') (hl : ps'.length ≤ 2) :
    ∃ r, emuStep e (.csi [f] pm) = .ok r ∧
      Refines2 (Term.step t (.cup (nth0 ps' 0) (nth0 ps' 1))) r.1 rows cols := by
  have hc : csi Fixes.current e [f] pm = .ok (cup Fixes.current e (clampParams pm)) := by
    rcases hf with rfl | rfl
    · exact csi_72 e pm
    · exact csi_102 e pm
  have hr := cup_refines2 s2 ps' hl
  rw [← clamp_plain hp] at hr
  exact ⟨_, emuStep_csi_ok hc, hr⟩

theorem decstbm_step2 (s2 : Sim2 t e rows cols) {pm : List Param} {ps' : List Nat}
    (hp : plainParams pm = some ps') (hl : ps'.length ≤ 2) :
    ∃ r, emuStep e (.csi [114] pm) = .ok r ∧
      Refines2 (Term.step t (.decstbm (nth0 ps' 0) (nth0 ps' 1))) r.1 rows cols := by
  have hr := decstbm_refines2 s2 ps' hl
  rw [← clamp_plain hp] at hr
  exact ⟨_, emuStep_csi_ok (csi_114 e pm), hr⟩

theorem print_step2 (s2 : Sim2 t e rows cols) (g : G) (w : Nat) (hg : g ≠ []) :
    ∃ r, emuStep e (.print g w) = .ok r ∧ Refines2 (Term.step t (.print g w)) r.1 rows cols :=
  let ⟨e', he, hr⟩ := print_refines2 s2 g hg w
  ⟨(e', 0), emuStep_print_ok he, hr⟩

end ops

/-- One level of the if-chain of `tokOf` (`split` runs out of steps on the whole chain). -/
theorem ite_some_cases {α : Type} {c : Prop} [Decidable c] {a b : Option α} {x : α}
    (h : (if c then a else b) = some x) : (c ∧ a = some x) ∨ (¬ c ∧ b = some x) := by
  split at h
  · exact Or.inl ⟨‹c›, h⟩
  · exact Or.inr ⟨‹¬ c›, h⟩

theorem emu_refines_step {t : Term.T} {e : Emu} {rows cols : Nat} (op : EOp) (tok : Term.Tok)
    (h : tokOf op = some tok) (hsgr : ∀ pm, tok ≠ .sgr pm) (hpr : ∀ g w, op = .print g w → g ≠ [])
    (s2 : Sim2 t e rows cols) :
    ∃ r, emuStep e op = .ok r ∧ Refines2 (Term.step t tok) r.1 rows cols := by
  unfold tokOf at h
  split at h
  · cases h; exact print_step2 s2 _ _ (hpr _ _ rfl)
  · cases h; exact cr_step2 s2
  · cases h; exact lf_step2 s2 10 (Or.inl rfl)
  · cases h; exact lf_step2 s2 11 (Or.inr (Or.inl rfl))
  · cases h; exact lf_step2 s2 12 (Or.inr (Or.inr rfl))
  · cases h; exact ind_step2 s2
  · cases h; exact nel_step2 s2
  · cases h; exact ri_step2 s2
  · cases h; exact decsc_step2 s2
  · cases h; exact decrc_step2 s2
  · rename_i pm
    cases hs : sgrParams pm with
    | none => rw [hs] at h; cases h
    | some l => rw [hs] at h; cases h; exact absurd rfl (hsgr l)
  · cases h; exact altOn_step2 s2
  · cases h; exact altOff_step2 s2
  · rename_i f pm _
    cases hp : plainParams pm with
    | none => rw [hp] at h; cases h
    | some ps' =>
      rw [hp] at h
      -- `h` still has the `match` on `some ps'` around the chain and `let n := …` inside it: restated with both
      -- reduced, so that every `ite_some_cases` below meets an `if`
      replace h : (if ps'.length > 2 then none
        else if f = 72 ∨ f = 102 then some (Term.Tok.cup (nth0 ps' 0) (nth0 ps' 1))
        else if f = 114 then some (Term.Tok.decstbm (nth0 ps' 0) (nth0 ps' 1))
        else if ps'.length > 1 then none
        else if f = 71 ∨ f = 96 then some (Term.Tok.cha (nth0 ps' 0))
        else if f = 100 then some (.vpa (nth0 ps' 0))
        else if f = 65 then some (.cuu (nth0 ps' 0))
        else if f = 66 then some (.cud (nth0 ps' 0))
        else if f = 67 then some (.cuf (nth0 ps' 0))
        else if f = 68 then some (.cub (nth0 ps' 0))
        else if f = 69 then some (.cnl (nth0 ps' 0))
        else if f = 70 then some (.cpl (nth0 ps' 0))
        else if f = 75 then some (.el (nth0 ps' 0))
        else if f = 74 then some (.ed (nth0 ps' 0))
        else if f = 88 then some (.ech (nth0 ps' 0))
        else if f = 64 then some (.ich (nth0 ps' 0))
        else if f = 80 then some (.dch (nth0 ps' 0))
        else if f = 76 then some (.il (nth0 ps' 0))
        else if f = 77 then some (.dl (nth0 ps' 0))
        else if f = 83 then some (.su (nth0 ps' 0))
        else if f = 84 then some (.sd (nth0 ps' 0)) else none) = some tok := h
      rcases ite_some_cases h with ⟨_, h⟩ | ⟨hl2, h⟩
      · cases h
      have hl2 : ps'.length ≤ 2 := by omega
      rcases ite_some_cases h with ⟨hf, h⟩ | ⟨_, h⟩
      · cases h; exact cup_step2 s2 hf hp hl2
      rcases ite_some_cases h with ⟨hf, h⟩ | ⟨_, h⟩
      · cases h; subst hf; exact decstbm_step2 s2 hp hl2
      rcases ite_some_cases h with ⟨_, h⟩ | ⟨hl1, h⟩
      · cases h
      have hl1 : ps'.length ≤ 1 := by omega
      rcases ite_some_cases h with ⟨hf, h⟩ | ⟨_, h⟩
      · cases h
        rcases hf with rfl | rfl
        · exact csi1_step (h := fun x => .ok (cha e x)) (csi_71 e) hp hl1 fun n => ⟨_, rfl, cha_refines2 s2 n⟩
        · exact csi1_step (h := fun x => .ok (hpa e x)) (csi_96 e) hp hl1 fun n => ⟨_, rfl, hpa_refines2 s2 n⟩
      rcases ite_some_cases h with ⟨hf, h⟩ | ⟨_, h⟩
      · cases h; subst hf
        exact csi1_step (h := fun x => .ok (vpa Fixes.current e x)) (csi_100 e) hp hl1 fun n => ⟨_, rfl, vpa_refines2 s2 n⟩
      rcases ite_some_cases h with ⟨hf, h⟩ | ⟨_, h⟩
      · cases h; subst hf
        exact csi1_step (h := fun x => .ok (cuu e x)) (csi_65 e) hp hl1 fun n => ⟨_, rfl, cuu_refines2 s2 n⟩
      rcases ite_some_cases h with ⟨hf, h⟩ | ⟨_, h⟩
      · cases h; subst hf
        exact csi1_step (h := fun x => .ok (cud Fixes.current e x)) (csi_66 e) hp hl1 fun n => ⟨_, rfl, cud_refines2 s2 n⟩
      rcases ite_some_cases h with ⟨hf, h⟩ | ⟨_, h⟩
      · cases h; subst hf
        exact csi1_step (h := fun x => .ok (cuf e x)) (csi_67 e) hp hl1 fun n => ⟨_, rfl, cuf_refines2 s2 n⟩
      rcases ite_some_cases h with ⟨hf, h⟩ | ⟨_, h⟩
      · cases h; subst hf
        exact csi1_step (h := fun x => .ok (cub e x)) (csi_68 e) hp hl1 fun n => ⟨_, rfl, cub_refines2 s2 n⟩
      rcases ite_some_cases h with ⟨hf, h⟩ | ⟨_, h⟩
      · cases h; subst hf
        exact csi1_step (csi_69 e) hp hl1 (cnl_refines2 s2)
      rcases ite_some_cases h with ⟨hf, h⟩ | ⟨_, h⟩
      · cases h; subst hf
        exact csi1_step (csi_70 e) hp hl1 (cpl_refines2 s2)
      rcases ite_some_cases h with ⟨hf, h⟩ | ⟨_, h⟩
      · cases h; subst hf
        exact csi1_step (csi_75 e) hp hl1 (el_refines2 s2)
      rcases ite_some_cases h with ⟨hf, h⟩ | ⟨_, h⟩
      · cases h; subst hf
        exact csi1_step (csi_74 e) hp hl1 (ed_refines2 s2)
      rcases ite_some_cases h with ⟨hf, h⟩ | ⟨_, h⟩
      · cases h; subst hf
        exact csi1_step (csi_88 e) hp hl1 (ech_refines2 s2)
      rcases ite_some_cases h with ⟨hf, h⟩ | ⟨_, h⟩
      · cases h; subst hf
        exact csi1_step (csi_64 e) hp hl1 (ich_refines2 s2)
      rcases ite_some_cases h with ⟨hf, h⟩ | ⟨_, h⟩
      · cases h; subst hf
        exact csi1_step (csi_80 e) hp hl1 (dch_refines2 s2)
      rcases ite_some_cases h with ⟨hf, h⟩ | ⟨_, h⟩
      · cases h; subst hf
        exact csi1_step (csi_76 e) hp hl1 (il_refines2 s2)
      rcases ite_some_cases h with ⟨hf, h⟩ | ⟨_, h⟩
      · cases h; subst hf
        exact csi1_step (csi_77 e) hp hl1 (dl_refines2 s2)
      rcases ite_some_cases h with ⟨hf, h⟩ | ⟨_, h⟩
      · cases h; subst hf
        exact csi1_step (h := fun x => scrollUp e (dflt1 x)) (csi_83 e) hp hl1 (su_refines2 s2)
      rcases ite_some_cases h with ⟨hf, h⟩ | ⟨_, h⟩
      · cases h; subst hf
        -- SD: the arm ignores the sequence when it has five parameters (xterm's mouse tracking)
        obtain ⟨e', he, hr⟩ := sd_refines2 s2 (nth0 ps' 0)
        have hc : csi Fixes.current e [84] pm = .ok e' := by
          rw [csi_84, ps_clamp hp hl1, if_neg (by rw [length_clamp hp]; omega)]; exact he
        exact ⟨_, emuStep_csi_ok hc, hr⟩
      cases h
  · cases h

/-- `op` is an operation of the C06 vocabulary (SGR is refined separately) and `tok` is its token. -/
def VocabOp (op : EOp) (tok : Term.Tok) : Prop :=
  tokOf op = some tok ∧ (∀ pm, tok ≠ .sgr pm) ∧ (∀ g w, op = .print g w → g ≠ [])

inductive VocabHist : List EOp → List Term.Tok → Prop
  | nil : VocabHist [] []
  | cons {op : EOp} {tok : Term.Tok} {ops : List EOp} {toks : List Term.Tok}
      (h : VocabOp op tok) (rest : VocabHist ops toks) : VocabHist (op :: ops) (tok :: toks)

/-- The reference, fed `toks` one by one from `t` and choosing some accepted member at every step,
    either reaches a step it leaves unconstrained (from there on the property says nothing), or it
    ends in a state that simulates (`Sim2`) the emulator state `e'`. -/
inductive SpecAllows : Term.T → List Term.Tok → Emu → Nat → Nat → Prop
  | done {t : Term.T} {e' : Emu} {rows cols : Nat} (h : Sim2 t e' rows cols) : SpecAllows t [] e' rows cols
  | unconstrained {t : Term.T} {tok : Term.Tok} {toks : List Term.Tok} {e' : Emu} {rows cols : Nat}
      (h : Term.step t tok = .unconstrained) : SpecAllows t (tok :: toks) e' rows cols
  | step {t t' : Term.T} {tok : Term.Tok} {toks : List Term.Tok} {l : List Term.T} {e' : Emu} {rows cols : Nat}
      (h : Term.step t tok = .accept l) (hm : t' ∈ l) (hrest : SpecAllows t' toks e' rows cols) :
      SpecAllows t (tok :: toks) e' rows cols

/-- Panic-freedom of one operation on a fixed-size terminal: the statement of `Props.C05.emu_safe`
    (taken as a hypothesis here so that this module does not depend on `Props/`). It is only used to run the
    emulator on past a step the reference leaves unconstrained. -/
def StepSafe : Prop :=
  ∀ (e : Emu) (rows cols : Nat) (op : EOp), EmuInv e rows cols → Dim rows cols →
    (∀ w h, op ≠ .resize w h) → ∃ r, emuStep e op = .ok r ∧ EmuInv r.1 rows cols

theorem vocab_not_resize {op : EOp} {tok : Term.Tok} (h : tokOf op = some tok) :
    ∀ w hh, op ≠ .resize w hh := by
  intro w hh hc
  subst hc
  simp [tokOf] at h

theorem runOps_cons {e e' : Emu} {op : EOp} {rest : List EOp} {r : Emu × Nat}
    (hr : emuStep e op = .ok r) (he : runOps r.1 rest = .ok e') : runOps e (op :: rest) = .ok e' := by
  obtain ⟨e1, k⟩ := r
  simp only [runOps, hr, bind, Except.bind]
  exact he

inductive Hist (V : EOp → Term.Tok → Prop) : List EOp → List Term.Tok → Prop
  | nil : Hist V [] []
  | cons {op : EOp} {tok : Term.Tok} {ops : List EOp} {toks : List Term.Tok}
      (h : V op tok) (rest : Hist V ops toks) : Hist V (op :: ops) (tok :: toks)

theorem VocabHist.hist {ops : List EOp} {toks : List Term.Tok} (h : VocabHist ops toks) : Hist VocabOp ops toks := by
  induction h with
  | nil => exact .nil
  | cons h _ ih => exact .cons h ih

theorem run_safe (hs : StepSafe) {rows cols : Nat} (d : Dim rows cols) {V : EOp → Term.Tok → Prop}
    (hnr : ∀ {op tok}, V op tok → ∀ w h, op ≠ .resize w h) {ops : List EOp} {toks : List Term.Tok}
    (hv : Hist V ops toks) : ∀ {e : Emu}, EmuInv e rows cols → ∃ e', runOps e ops = .ok e' := by
  induction hv with
  | nil => intro e _; exact ⟨e, rfl⟩
  | cons hop _ ih =>
    intro e hi
    obtain ⟨r, hr, hi'⟩ := hs e rows cols _ hi d (hnr hop)
    obtain ⟨e', he'⟩ := ih hi'
    exact ⟨e', runOps_cons hr he'⟩

/-- From one step to all histories, for any vocabulary `V` whose steps refine from the related states
    with `J`, a condition every step keeps. After a step the reference leaves unconstrained only
    safety carries the run on. -/
theorem history_of_step (hs : StepSafe) {rows cols : Nat} {V : EOp → Term.Tok → Prop} {J : Emu → Prop}
    (hnr : ∀ {op tok}, V op tok → ∀ w h, op ≠ .resize w h)
    (hJ : ∀ {e op r}, emuStep e op = .ok r → J e → J r.1)
    (hstep : ∀ {op tok t e}, V op tok → Sim2 t e rows cols → J e →
      ∃ r, emuStep e op = .ok r ∧ Refines2 (Term.step t tok) r.1 rows cols)
    {ops : List EOp} {toks : List Term.Tok} (hv : Hist V ops toks) :
    ∀ {t : Term.T} {e : Emu}, Sim2 t e rows cols → J e →
      ∃ e', runOps e ops = .ok e' ∧ SpecAllows t toks e' rows cols := by
  induction hv with
  | nil => intro t e s2 _; exact ⟨e, rfl, .done s2⟩
  | @cons op tok ops toks hop hrest ih =>
    intro t e s2 hj
    obtain ⟨r, hr, h2⟩ := hstep hop s2 hj
    cases hts : Term.step t tok with
    | unconstrained =>
      obtain ⟨r', hr', hi'⟩ := hs e rows cols op s2.sim.inv s2.sim.dim (hnr hop)
      obtain rfl : r' = r := by rw [hr] at hr'; cases hr'; rfl
      obtain ⟨e', he'⟩ := run_safe hs s2.sim.dim hnr hrest hi'
      exact ⟨e', runOps_cons hr he', .unconstrained hts⟩
    | accept l =>
      rw [hts] at h2
      obtain ⟨t', hm, s2'⟩ := h2
      obtain ⟨e', he', hsa⟩ := ih s2' (hJ hr hj)
      exact ⟨e', runOps_cons hr he', .step hts hm hsa⟩

theorem emu_refines_history (hs : StepSafe) {rows cols : Nat} {ops : List EOp} {toks : List Term.Tok}
    (hv : VocabHist ops toks) {t : Term.T} {e : Emu} (s2 : Sim2 t e rows cols) :
    ∃ e', runOps e ops = .ok e' ∧ SpecAllows t toks e' rows cols :=
  history_of_step (J := fun _ => True) hs (fun h => vocab_not_resize h.1) (fun _ _ => trivial)
    (fun h s2 _ => emu_refines_step _ _ h.1 h.2.1 h.2.2 s2) hv.hist s2 trivial

/-- The same without the safety hypothesis, up to and including the first step the reference leaves
    unconstrained: every operation up to there runs without panic and is accepted. -/
def HistOk (rows cols : Nat) : Term.T → Emu → List EOp → List Term.Tok → Prop
  | t, e, [], [] => Sim2 t e rows cols
  | t, e, op :: ops, tok :: toks =>
    ∃ r, emuStep e op = .ok r ∧
      (Term.step t tok = .unconstrained ∨
        ∃ l t', Term.step t tok = .accept l ∧ t' ∈ l ∧ HistOk rows cols t' r.1 ops toks)
  | _, _, _, _ => False

theorem emu_refines_prefix {rows cols : Nat} {ops : List EOp} {toks : List Term.Tok}
    (hv : VocabHist ops toks) :
    ∀ {t : Term.T} {e : Emu}, Sim2 t e rows cols → HistOk rows cols t e ops toks := by
  induction hv with
  | nil => intro t e s2; exact s2
  | @cons op tok ops toks hop hrest ih =>
    intro t e s2
    obtain ⟨r, hr, h2⟩ := emu_refines_step op tok hop.1 hop.2.1 hop.2.2 s2
    refine ⟨r, hr, ?_⟩
    cases hstep : Term.step t tok with
    | unconstrained => exact Or.inl rfl
    | accept l =>
      rw [hstep] at h2
      obtain ⟨t', hm, s2'⟩ := h2
      exact Or.inr ⟨l, t', rfl, hm, ih s2'⟩

/-- resize()'s clamp of a saved cursor (F19). -/
def newSaved (w h : Int) (s : Saved) : Saved :=
  { s with cur := { s.cur with row := if s.cur.row > h - 1 then h - 1 else s.cur.row,
                               col := if s.cur.col > w - 1 then w - 1 else s.cur.col } }

theorem newSaved_default (w h : Int) (hw : 1 ≤ w) (hh : 1 ≤ h) : newSaved w h {} = {} := by
  unfold newSaved
  have h1 : (if (({} : Saved).cur.row) > h - 1 then h - 1 else ({} : Saved).cur.row) = 0 := by
    show (if (0 : Int) > h - 1 then h - 1 else 0) = 0
    split <;> omega
  have h2 : (if (({} : Saved).cur.col) > w - 1 then w - 1 else ({} : Saved).cur.col) = 0 := by
    show (if (0 : Int) > w - 1 then w - 1 else 0) = 0
    split <;> omega
  rw [h1, h2]

/-- The state after `New()` + `resize(w, h)`: nothing to reflow. -/
def newState (w h : Int) : Emu :=
  { Emu.init with alt := blankGrid w.toNat h.toNat, primary := blankGrid w.toNat h.toNat,
                  savedP := newSaved w h Emu.init.savedP, savedA := newSaved w h Emu.init.savedA,
                  bottom := h - 1, right := w - 1, top := 0,
                  cur := { Emu.init.cur with row := 0, col := 0 }, lastCol := false, altActive := false }

theorem new_eq (w h : Int) (hw : 0 ≤ w) (hh : 0 ≤ h) : Emu.new Fixes.current w h = .ok (newState w h) := by
  unfold Emu.new resize
  rw [if_neg (by omega)]
  rfl

theorem rowAccepts_replicate (n : Nat) (c c' : Term.TCell) (h : c.accepts c' = true) :
    Term.rowAccepts (List.replicate n c) (List.replicate n c') = true := by
  simp [Term.rowAccepts, h]

theorem gridAccepts_replicate (n : Nat) (r r' : Term.TRow) (h : Term.rowAccepts r r' = true) :
    Term.gridAccepts (List.replicate n r) (List.replicate n r') = true := by
  simp [Term.gridAccepts, h]

theorem absStyle_default : absStyle ({} : EStyle) = {} := by decide

theorem absCell_default : absCell ({} : ECell) = .blank .default := by decide

theorem blankGrid_accepts (rows cols : Nat) :
    Term.gridAccepts (Term.blankGrid rows cols) ((blankGrid cols rows).map absRow) = true := by
  unfold Term.blankGrid blankGrid absRow
  rw [List.map_replicate, List.map_replicate, absCell_default]
  exact gridAccepts_replicate _ _ _ (rowAccepts_replicate _ _ _ rfl)

theorem savedRel_new (w h : Int) (hw : 1 ≤ w) (hh : 1 ≤ h) (cols : Nat) :
    SavedRel none (newSaved w h {}) cols := by
  rw [newSaved_default w h hw hh]
  exact ⟨rfl, rfl, rfl, rfl, absStyle_default, rfl⟩

theorem sim2_init (w h : Int) (hw1 : 1 ≤ w) (hw2 : w ≤ 65535) (hh1 : 1 ≤ h) (hh2 : h ≤ 65535)
    {e0 : Emu} (he : Emu.new Fixes.current w h = .ok e0) :
    Sim2 (Term.T.init h.toNat w.toNat) e0 h.toNat w.toNat := by
  obtain ⟨e', he', hi⟩ := new_safe w h hw1 hw2 hh1 hh2
  have h0 : e0 = newState w h := by
    rw [new_eq w h (by omega) (by omega)] at he; cases he; rfl
  have h1 : e' = newState w h := by
    rw [new_eq w h (by omega) (by omega)] at he'; cases he'; rfl
  subst h0
  subst h1
  have hs : Sim (Term.T.init h.toNat w.toNat) (newState w h) h.toNat w.toNat :=
    { inv := hi
      dim := ⟨by omega, by omega, by omega, by omega⟩
      vm := ⟨rfl, rfl, rfl, rfl, rfl⟩
      trows := rfl, tcols := rfl, onAlt := rfl
      row := rfl
      col := by
        show ((0 : Nat) : Int) = if (0 : Int) ≥ (w.toNat : Int) then (w.toNat : Int) - 1 else 0
        split <;> omega
      pw := by
        show false = decide ((0 : Int) ≥ (w.toNat : Int))
        symm; rw [decide_eq_false_iff_not]; omega
      pen := absStyle_default.symm
      link := rfl
      top := rfl
      bottom := by
        show ((h.toNat - 1 : Nat) : Int) = h - 1
        omega
      grid := blankGrid_accepts h.toNat w.toNat }
  exact
    { sim := hs
      lc := lastColOk_of_false rfl
      savedP := savedRel_new w h hw1 hh1 _
      savedA := savedRel_new w h hw1 hh1 _
      smcup := rfl
      prim := by intro ha; cases ha }

/-- Non-vacuity: a fresh 80×24 terminal and the reference's power-on state are a `Sim2` pair. -/
example : Sim2 (Term.T.init 24 80) (newState 80 24) 24 80 :=
  sim2_init 80 24 (by decide) (by decide) (by decide) (by decide) (new_eq 80 24 (by decide) (by decide))

theorem session_of (w h : Int) (hw1 : 1 ≤ w) (hw2 : w ≤ 65535) (hh1 : 1 ≤ h) (hh2 : h ≤ 65535)
    {ops : List EOp} {toks : List Term.Tok}
    (H : Sim2 (Term.T.init h.toNat w.toNat) (newState w h) h.toNat w.toNat →
      ∃ e', runOps (newState w h) ops = .ok e' ∧ SpecAllows (Term.T.init h.toNat w.toNat) toks e' h.toNat w.toNat) :
    ∃ e0 e', Emu.new Fixes.current w h = .ok e0 ∧ runOps e0 ops = .ok e' ∧
      SpecAllows (Term.T.init h.toNat w.toNat) toks e' h.toNat w.toNat :=
  have he := new_eq w h (by omega) (by omega)
  let ⟨e', hr, hsa⟩ := H (sim2_init w h hw1 hw2 hh1 hh2 he)
  ⟨_, e', he, hr, hsa⟩

theorem emu_refines_session (hs : StepSafe) (w h : Int) (hw1 : 1 ≤ w) (hw2 : w ≤ 65535) (hh1 : 1 ≤ h)
    (hh2 : h ≤ 65535) {ops : List EOp} {toks : List Term.Tok} (hv : VocabHist ops toks) :
    ∃ e0 e', Emu.new Fixes.current w h = .ok e0 ∧ runOps e0 ops = .ok e' ∧
      SpecAllows (Term.T.init h.toNat w.toNat) toks e' h.toNat w.toNat :=
  session_of w h hw1 hw2 hh1 hh2 (emu_refines_history hs hv)

theorem vocabHist_of_zip : ∀ (ops : List EOp) (toks : List Term.Tok), ops.length = toks.length →
    (∀ p ∈ ops.zip toks, VocabOp p.1 p.2) → VocabHist ops toks
  | [], [], _, _ => .nil
  | [], _ :: _, hl, _ => by simp at hl
  | _ :: _, [], hl, _ => by simp at hl
  | op :: ops, tok :: toks, hl, h =>
    .cons (h (op, tok) (by simp)) (vocabHist_of_zip ops toks (by simpa using hl)
      (fun p hp => h p (by simp only [List.zip_cons_cons, List.mem_cons]; exact Or.inr hp)))

end VaxisModel.Lemmas.EmuRefine
