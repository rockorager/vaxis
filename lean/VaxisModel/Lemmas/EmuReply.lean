/-
`replyS` (Model/EmuReply.lean) is `evalS` plus the bytes written to the child; the text decrqm() answers for every mode number;
the two report formats rendered from C12's parsed form of a reply.
-/
import VaxisModel.Model.EmuReply
import VaxisModel.Lemmas.EmuBodyModes
import VaxisModel.Model.C12Replies
import VaxisModel.Gen.TermReplies

namespace VaxisModel.Lemmas.EmuReply
open VaxisModel.Model.Emu VaxisModel.Model.EmuBody VaxisModel.Model.EmuReply VaxisModel.Lemmas.EmuBody
open VaxisModel.Gen VaxisModel.Gen.TermModes
open VaxisModel.Model.C12Replies (replies seqBytes decrqmValue)

theorem replyS_sound (pm : List Param) : ∀ (st : Stmt) (s : Frame) (o : Out) (s' : Frame) (o' : Out),
    replyS pm st s o = some (s', o') → evalS pm st s = .ok (s', .norm) := by
  intro st
  induction st with
  | skip =>
    intro s o s' o' h
    simp only [replyS, Option.some.injEq, Prod.mk.injEq] at h
    simp only [evalS, h.1]
  | seq a b iha ihb =>
    intro s o s' o' h
    simp only [replyS] at h
    split at h
    · rename_i r hr
      have h1 := iha s o r.1 r.2 hr
      have h2 := ihb r.1 r.2 s' o' h
      simp only [evalS, h1, ok_bind, if_true, h2]
    · exact absurd h (by simp)
  | ite c t f iht ihf =>
    intro s o s' o' h
    simp only [replyS] at h
    simp only [evalS]
    split
    · rename_i hc; rw [if_pos hc] at h; exact iht s o s' o' h
    · rename_i hc; rw [if_neg hc] at h; exact ihf s o s' o' h
  | assign l x =>
    intro s o s' o' h
    cases l <;> cases x <;> simp only [replyS, reduceCtorEq] at h
    rename_i k n
    simp only [Option.some.injEq, Prod.mk.injEq] at h
    simp only [evalS, exOk, if_true, evalEx, h.1]
  | reply r =>
    intro s o s' o' h
    simp only [replyS] at h
    split at h
    · simp only [Option.some.injEq, Prod.mk.injEq] at h
      simp only [evalS, h.1]
    · exact absurd h (by simp)
  | _ => intro s o s' o' h; simp only [replyS, reduceCtorEq] at h

theorem replyOf_evalBody (b : Body) (pm : List Param) (args : List Int) (e : Emu) (bytes : List Nat)
    (h : replyOf b pm args e = some bytes) :
    ∃ s' o', replyS pm b.stmt (initFrame e args) {} = some (s', o') ∧ o'.out = bytes ∧ evalBody b pm args e = .ok s'.e := by
  unfold replyOf at h
  split at h
  · rename_i r hr
    simp only [Option.some.injEq] at h
    refine ⟨r.1, r.2, hr, h, ?_⟩
    simp only [evalBody, replyS_sound pm b.stmt _ _ r.1 r.2 hr, ok_bind]
  · exact absurd h (by simp)

/-!
The body is `ps := 0; switch pd { case k: if vt.mode.f { ps = 1 } else … }; fmt.Fprintf(vt.pty, …, pd, ps)`. The switch does nothing
but compute `ps` (`setsVar`), so it is run as ONE assignment of the value `valS`, and the reply is formatted once, from that value. -/

/-- branches whose leaves are `local k = literal` -/
def setsVar (k : Nat) : Stmt → Bool
  | .skip => true
  | .assign (.var k') (.lit _) => decide (k' = k)
  | .ite _ t f => setsVar k t && setsVar k f
  | _ => false

/-- the value such a statement leaves in the local -/
def valS (pm : List Param) (k : Nat) : Stmt → Frame → Int
  | .assign _ x, s => evalEx pm s [] x
  | .ite c t f, s => if evalCond pm s [] c then valS pm k t s else valS pm k f s
  | _, s => s.vars k

theorem replyS_setsVar (pm : List Param) (k : Nat) : ∀ (st : Stmt) (s : Frame) (o : Out), setsVar k st = true →
    replyS pm st s o = some (s.set (.var k) (valS pm k st s), o) := by
  intro st
  induction st with
  | skip => intro s o _; simp only [replyS, valS]; exact congrArg (fun x => some (x, o)) (Frame.set_get s (.var k)).symm
  | assign l x =>
    intro s o h
    cases l <;> cases x <;> simp only [setsVar, decide_eq_true_eq, Bool.false_eq_true] at h
    simp only [replyS, valS, evalEx, h]
  | ite c t f iht ihf =>
    intro s o h
    simp only [setsVar, Bool.and_eq_true] at h
    simp only [replyS, valS]
    split
    · exact iht s o h.1
    · exact ihf s o h.2
  | _ => intro s o h; simp only [setsVar, Bool.false_eq_true] at h

/-- `decrqmValue` over an arbitrary table, to be walked along it -/
def decrqmValueOn (t : List (Int × ModeField)) (e : Emu) (pd : Int) : Int :=
  match lookupMode t pd with
  | some f => if e.mode.get f then 1 else 2
  | none => if pd = 2027 then 3 else 0

theorem decrqmValueOn_cons (e : Emu) (pd k : Int) (f : ModeField) (t : List (Int × ModeField)) :
    decrqmValueOn ((k, f) :: t) e pd = if pd = k then (if e.mode.get f then 1 else 2) else decrqmValueOn t e pd := by
  simp only [decrqmValueOn, lookupMode_cons]
  by_cases h : pd = k <;> simp only [h, if_true, if_false]
theorem decrqmValueOn_nil (e : Emu) (pd : Int) : decrqmValueOn [] e pd = if pd = 2027 then 3 else 0 := rfl
theorem decrqmValue_on (e : Emu) (pd : Int) : decrqmValue e pd = decrqmValueOn decrqmTable e pd := rfl

/-- the arms of the switch: `if vt.mode.f { ps = 1 } else if !vt.mode.f { ps = 2 }` -/
theorem ite_not_self {α : Type} (m : Bool) (a b c : α) :
    (if m = true then a else if (!m) = true then b else c) = if m = true then a else b := by
  cases m <;> rfl

theorem decrqm_shape : TermBodies.stmt_decrqm =
    .seq (.assign (.var 1) (.lit 0)) (.seq (headSeq (dropSeq 1 TermBodies.stmt_decrqm)) (dropSeq 2 TermBodies.stmt_decrqm)) := rfl

theorem reply_decrqm_eq (e : Emu) (pd : Int) :
    replyOf TermBodies.body_decrqm [] [pd] e = some (sprintfD TermReplies.decrpmFormat [pd, decrqmValue e pd]) := by
  -- `case 5:` is empty in the source and 5 is not in the model's table: both leave 0
  by_cases h5 : pd = 5
  · subst h5; rfl
  have hc : setsVar 1 (headSeq (dropSeq 1 TermBodies.stmt_decrqm)) = true := by decide
  simp only [replyOf, TermBodies.body_decrqm]
  rw [decrqm_shape]
  simp only [replyS, replyS_setsVar [] 1 _ _ _ hc]
  simp only [headSeq, dropSeq, tailSeq, TermBodies.stmt_decrqm, replyS, stepReply, valS, evalCond, evalEx, initFrame, Frame.get, Frame.set,
    List.map_cons, List.map_nil, List.nil_append, List.getD_cons_zero, List.getD_cons_succ, if_true, Nat.reduceEqDiff, if_false, Modes.get]
  -- the value of `ps` and `decrqmValue` are now the same chain of tests on `pd`, in the order of the table
  simp only [evalCmp, decide_eq_true_eq, h5, if_false, ite_not_self, decrqmValue_on, decrqmTable, decrqmValueOn_cons, decrqmValueOn_nil,
    TermReplies.decrpmFormat]
  rfl

theorem natDigits_eq : ∀ (fuel n : Nat), natDigits fuel n = Model.C12Replies.natDigits fuel n
  | 0, _ => rfl
  | fuel + 1, n => by simp only [natDigits, Model.C12Replies.natDigits, natDigits_eq fuel]

theorem intBytes_eq (n : Int) : intBytes n = Model.C12Replies.intBytes n := by
  simp only [intBytes, Model.C12Replies.intBytes, natDigits_eq]

theorem cpr_wire (a b : Int) :
    sprintfD TermReplies.cprFormat [a, b] = seqBytes (.csi [] [[a], [b]] 82) := by
  simp [sprintfD, TermReplies.cprFormat, seqBytes, Model.C12Replies.paramBytes, List.intercalate, intBytes_eq]

theorem decrpm_wire (a b : Int) :
    sprintfD TermReplies.decrpmFormat [a, b] = seqBytes (.csi [63, 36] [[a], [b]] 121) := by
  simp [sprintfD, TermReplies.decrpmFormat, seqBytes, Model.C12Replies.paramBytes, List.intercalate, intBytes_eq]

end VaxisModel.Lemmas.EmuReply
