/-
What `resize` (term.go) leaves alone. The reflow re-prints the old primary screen through `print` and `nel`; `Keep a b` lists the
fields neither of them touches (modes, OSC 8 switch, cursor shape, tab stops, saved cursors, margins, which screen is active, the
INACTIVE grid, and — outside a single shift — the character sets); it is the projection `kept` of Lemmas/EmuKeeps.lean written
out. `resize_keep` adds what resize itself sets, for every old state (no invariant needed).
-/
import VaxisModel.Lemmas.EmuSafe4
import VaxisModel.Lemmas.EmuKeeps

namespace VaxisModel.Lemmas.EmuResize
open VaxisModel.Model.Emu VaxisModel.Lemmas.Emu

structure Keep (a b : Emu) : Prop where
  mode : b.mode = a.mode
  osc8 : b.osc8 = a.osc8
  hasVx : b.hasVx = a.hasVx
  shape : b.cur.shape = a.cur.shape
  tabs : b.tabs = a.tabs
  savedP : b.savedP = a.savedP
  savedA : b.savedA = a.savedA
  altActive : b.altActive = a.altActive
  alt : a.altActive = false → b.alt = a.alt
  prim : a.altActive = true → b.primary = a.primary
  cs : a.cs.ss = false → b.cs = a.cs
  top : b.top = a.top
  bottom : b.bottom = a.bottom
  left : b.left = a.left
  right : b.right = a.right

theorem Keep.refl (e : Emu) : Keep e e :=
  ⟨rfl, rfl, rfl, rfl, rfl, rfl, rfl, rfl, fun _ => rfl, fun _ => rfl, fun _ => rfl, rfl, rfl, rfl, rfl⟩

theorem Keep.trans {a b c : Emu} (h1 : Keep a b) (h2 : Keep b c) : Keep a c :=
  ⟨h2.mode.trans h1.mode, h2.osc8.trans h1.osc8, h2.hasVx.trans h1.hasVx, h2.shape.trans h1.shape,
   h2.tabs.trans h1.tabs, h2.savedP.trans h1.savedP, h2.savedA.trans h1.savedA,
   h2.altActive.trans h1.altActive,
   fun h => (h2.alt (h1.altActive.trans h)).trans (h1.alt h),
   fun h => (h2.prim (h1.altActive.trans h)).trans (h1.prim h),
   fun h => (h2.cs (by rw [h1.cs h]; exact h)).trans (h1.cs h),
   h2.top.trans h1.top, h2.bottom.trans h1.bottom, h2.left.trans h1.left, h2.right.trans h1.right⟩

open VaxisModel.Lemmas.EmuKeeps in
theorem keep_of_kept {a b : Emu} (h : kept b = kept a) : Keep a b := by
  unfold kept inactive at h
  simp only [Prod.mk.injEq] at h
  obtain ⟨h1, h2, h3, h4, h5, h6, h7, h8, h9, h10, h11, h12, h13, h14⟩ := h
  refine ⟨h1, h2, h3, h4, h5, h6, h7, h8, fun ha => ?_, fun ha => ?_, fun hs => ?_, h10, h11, h12, h13⟩
  · rw [h8, ha] at h9; simpa using h9
  · rw [h8, ha] at h9; simpa using h9
  · rw [hs] at h14; split at h14 <;> simp_all

theorem keep_pos (e : Emu) (r c : Int) : Keep e { e with cur := { e.cur with row := r, col := c } } :=
  ⟨rfl, rfl, rfl, rfl, rfl, rfl, rfl, rfl, fun _ => rfl, fun _ => rfl, fun _ => rfl, rfl, rfl, rfl, rfl⟩

theorem print_keep {fx : Fixes} {e e' : Emu} {g : G} {w : Nat} (h : print fx e g w = .ok e') : Keep e e' :=
  keep_of_kept (EmuKeeps.print_keeps fx e g w e' h)

theorem reflow_keep {fx : Fixes} {last : Int} {old : List Row} {k : Nat} {e e' : Emu}
    (h : reflow fx last old k e = .ok e') : Keep e e' :=
  keep_of_kept (EmuKeeps.reflow_keeps fx last old k e e' h)

/-- `lastCol` set ⇒ the cursor is beyond the right margin (the pending-wrap column). -/
def LC (e : Emu) : Prop := e.lastCol = true → e.right + 1 ≤ e.cur.col

theorem lc_of_false {e : Emu} (h : e.lastCol = false) : LC e := by
  intro h'; rw [h] at h'; cases h'

theorem setActive_lc {e : Emu} (g : Grid) (h : LC e) : LC (e.setActive g) := by
  unfold Emu.setActive
  split <;> exact h

theorem printAdvance_lc (e : Emu) (wi : Int) (hw : 0 ≤ wi) (h : LC e) : LC (printAdvance e wi) := by
  have s1 : LC (if (!e.mode.decawm && decide (e.cur.col + wi > e.right)) = true then e
      else { e with cur := { e.cur with col := e.cur.col + wi } }) := by
    split
    · exact h
    · intro hl
      have := h hl
      show e.right + 1 ≤ e.cur.col + wi
      omega
  have s2 : ∀ x : Emu, LC x →
      LC (if decide (x.cur.col > x.right + 1) = true then { x with cur := { x.cur with col := x.right + 1 } } else x) := by
    intro x hx
    split
    · intro _; exact Int.le_refl _
    · exact hx
  have s3 : ∀ x : Emu, LC x →
      LC (if (decide (x.cur.col ≥ x.right + 1) && x.mode.decawm) = true then { x with lastCol := true } else x) := by
    intro x hx
    split
    · rename_i hc
      intro _
      simp only [Bool.and_eq_true, decide_eq_true_eq] at hc
      exact hc.1
    · exact hx
  unfold printAdvance
  exact s3 _ (s2 _ s1)

theorem printWrite_lc {e e' : Emu} {g : G} {w : Nat} {col rw : Int}
    (h : printWrite e g w col rw = .ok e') (hl : LC e) : LC e' := by
  unfold printWrite at h
  split at h
  · cases h; exact hl
  · obtain ⟨row, _, h⟩ := Except.bind_eq_ok h
    obtain ⟨row', _, h⟩ := Except.bind_eq_ok h
    obtain ⟨g1, _, h⟩ := Except.bind_eq_ok h
    obtain ⟨g2, rfl⟩ := grid_bind_inv h
    exact printAdvance_lc _ _ (Int.natCast_nonneg _) (setActive_lc _ hl)

theorem printK1_lc {e e' : Emu} {g : G} {w : Nat} (h : printK1 g w e = .ok e') (hl : LC e) : LC e' := by
  unfold printK1 at h
  split at h
  · obtain ⟨line, _, h⟩ := Except.bind_eq_ok h
    obtain ⟨line', _, h⟩ := Except.bind_eq_ok h
    obtain ⟨g', _, h⟩ := Except.bind_eq_ok h
    unfold printK2 at h
    exact printWrite_lc h (setActive_lc _ hl)
  · unfold printK2 at h
    exact printWrite_lc h hl

theorem printK0_lc {e e' : Emu} {g : G} {w : Nat} (h : printK0 g w e = .ok e') (hl : LC e) : LC e' := by
  unfold printK0 at h
  split at h
  · obtain ⟨g', _, h⟩ := Except.bind_eq_ok h
    obtain ⟨e1, h1, h⟩ := Except.bind_eq_ok h
    exact printK1_lc h (lc_of_false (nel_lastCol h1))
  · exact printK1_lc h hl

theorem printPre_lc {e : Emu} (h : LC e) : LC (printPre e) := by
  unfold printPre
  split <;> exact h

theorem print_lc {e e' : Emu} {g : G} {w : Nat} (h : print Fixes.current e g w = .ok e') (hl : LC e) :
    LC e' := by
  rw [print_eq] at h
  exact printK0_lc h (printPre_lc hl)

theorem reflowFold_lc (cells : Row) :
    ∀ (acc r : Emu × Bool), LC acc.1 →
      cells.foldlM (fun (acc : Emu × Bool) cell => do
        let e := { acc.1 with cur := { acc.1.cur with st := cell.st } }
        let e ← print Fixes.current e cell.g cell.w
        .ok (e, cell.wrapped)) acc = .ok r → LC r.1 := by
  induction cells with
  | nil => intro acc r hl h; cases h; exact hl
  | cons c cs ih =>
    intro acc r hl h
    simp only [List.foldlM_cons] at h
    obtain ⟨x, hx, h⟩ := Except.bind_eq_ok h
    obtain ⟨e1, he1, hx'⟩ := Except.bind_eq_ok hx
    cases hx'
    exact ih _ _ (print_lc (e := { acc.1 with cur := { acc.1.cur with st := c.st } }) he1 hl) h

theorem reflow_lc (last : Int) (old : List Row) :
    ∀ (k : Nat) (e e' : Emu), LC e → reflow Fixes.current last old k e = .ok e' → LC e' := by
  induction old with
  | nil => intro k e e' hl h; cases h; exact hl
  | cons r rest ih =>
    intro k e e' hl h
    unfold reflow at h
    split at h
    · cases h; exact hl
    · obtain ⟨⟨e1, wr⟩, h1, h⟩ := Except.bind_eq_ok h
      have k1 : LC e1 := by
        unfold reflowRow at h1
        exact reflowFold_lc r (e, false) (e1, wr) hl h1
      cases wr with
      | false =>
        simp only [Bool.not_false, if_true] at h
        obtain ⟨e2, h2, h⟩ := Except.bind_eq_ok h
        exact ih _ _ _ (lc_of_false (nel_lastCol h2)) h
      | true =>
        simp only [Bool.not_true, Bool.false_eq_true, if_false, Except.ok_bind] at h
        exact ih _ _ _ k1 h

/-- resize(): everything the caller may rely on besides the invariant. For EVERY old state. -/
structure ResizeFrame (e e' : Emu) (w h : Int) : Prop where
  pen : e'.cur.st = e.cur.st
  shape : e'.cur.shape = e.cur.shape
  mode : e'.mode = e.mode
  osc8 : e'.osc8 = e.osc8
  hasVx : e'.hasVx = e.hasVx
  tabs : e'.tabs = e.tabs
  altActive : e'.altActive = e.mode.smcup
  alt : e'.alt = blankGrid w.toNat h.toNat
  cs : e.cs.ss = false → e'.cs = e.cs
  top : e'.top = 0
  bottom : e'.bottom = h - 1
  left : e'.left = e.left
  right : e'.right = w - 1
  savedP : e'.savedP = clampSaved e.savedP w h
  savedA : e'.savedA = clampSaved e.savedA w h
  lastCol : e'.lastCol = true → (w.toNat : Int) ≤ e'.cur.col

theorem resize_keep {e e' : Emu} {w h : Int} (hr : resize Fixes.current e w h = .ok e') :
    ResizeFrame e e' w h := by
  rw [resize_eq] at hr
  split at hr
  · cases hr
  · rename_i hneg
    obtain ⟨e1, h1, hr⟩ := Except.bind_eq_ok hr
    cases hr
    have k := reflow_keep h1
    have l : LC e1 := reflow_lc _ _ _ _ _ (lc_of_false rfl) h1
    refine ⟨rfl, k.shape, k.mode, k.osc8, k.hasVx, k.tabs, by rw [k.mode]; rfl, k.alt rfl, k.cs,
      k.top, k.bottom, k.left, k.right, k.savedP, k.savedA, ?_⟩
    intro hl
    have h2 := l hl
    have h3 : e1.right = w - 1 := k.right
    show (w.toNat : Int) ≤ e1.cur.col
    omega

end VaxisModel.Lemmas.EmuResize
