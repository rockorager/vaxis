/-
Per-operation safety of the emulator model, part 1: shared definitions (`Dim`, `Safe`, `POk`), CUU / CUD,
scrolling, DECSC / DECRC, IND / NEL / RI / LF.
-/
import VaxisModel.Lemmas.EmuBasic

namespace VaxisModel.Lemmas.Emu
open VaxisModel.Model.Emu

/-- Size hypotheses: at least 1×1, at most 65535×65535 (a pty's winsize fields are uint16). -/
structure Dim (rows cols : Nat) : Prop where
  r1 : 1 ≤ rows
  c1 : 1 ≤ cols
  rmax : rows ≤ 65535
  cmax : cols ≤ 65535

def Safe (rows cols : Nat) (r : M Emu) : Prop := ∃ e', r = .ok e' ∧ EmuInv e' rows cols

theorem Safe.ok {rows cols : Nat} {e : Emu} (h : EmuInv e rows cols) : Safe rows cols (.ok e) := ⟨e, rfl, h⟩

theorem safe_bind {α : Type} {rows cols : Nat} (P : α → Prop) {m : M α} {f : α → M Emu}
    (hm : ∃ a, m = .ok a ∧ P a) (hf : ∀ a, P a → Safe rows cols (f a)) :
    Safe rows cols (m >>= f) := by
  obtain ⟨a, ha, hp⟩ := hm
  obtain ⟨e', he', hi⟩ := hf a hp
  exact ⟨e', by simp only [ha, bind, Except.bind, he'], hi⟩

theorem safe_foldlM {α : Type} {rows cols : Nat} {f : Emu → α → M Emu}
    (hf : ∀ e a, EmuInv e rows cols → Safe rows cols (f e a)) :
    ∀ (l : List α) {e : Emu}, EmuInv e rows cols → Safe rows cols (l.foldlM f e)
  | [], _, h => Safe.ok h
  | a :: l, _, h => by
    rw [List.foldlM_cons]
    exact safe_bind (fun e => EmuInv e rows cols) (hf _ a h) (fun _ h1 => safe_foldlM hf l h1)

theorem Safe.step0 {rows cols : Nat} {m : M Emu} (h : Safe rows cols m) :
    ∃ r : Emu × Nat, (m >>= fun x => (Except.ok (x, 0) : M (Emu × Nat))) = .ok r ∧ EmuInv r.1 rows cols := by
  obtain ⟨e', he, hi⟩ := h
  exact ⟨(e', 0), by simp only [he, bind, Except.bind], hi⟩

theorem Dim.ofInt {w h : Int} (hw1 : 1 ≤ w) (hw2 : w ≤ 65535) (hh1 : 1 ≤ h) (hh2 : h ≤ 65535) : Dim h.toNat w.toNat :=
  ⟨by omega, by omega, by omega, by omega⟩

theorem getRow_ok {g : Grid} {rows cols : Nat} (h : GridOk g rows cols) (r : Int)
    (hr0 : 0 ≤ r) (hr1 : r < rows) : ∃ row, getI g r = .ok row ∧ row.length = cols := by
  obtain ⟨row, hrow, hmem⟩ := getI_ok g r hr0 (by rw [h.len]; exact hr1)
  exact ⟨row, hrow, h.rowLen _ hmem⟩

theorem hangLimit_val : (hangLimit : Int) = 1000000 := rfl

/-- A parameter after `clampParam`. -/
def POk (n : Int) : Prop := 0 ≤ n ∧ n ≤ 65535

theorem dflt1_ok {n : Int} (h : POk n) : 1 ≤ dflt1 n ∧ dflt1 n ≤ 65535 := by
  unfold dflt1 POk at *; split <;> omega

theorem cuu_inv {e : Emu} {rows cols : Nat} (h : EmuInv e rows cols) {n : Int} (hn : POk n) :
    EmuInv (cuu e n) rows cols := by
  have hd := dflt1_ok hn
  have := h.rowLo; have := h.rowHi; have := h.topLo; have := h.topLe; have := h.botHi
  unfold cuu
  refine { h with rowLo := ?_, rowHi := ?_ } <;> simp only <;> split <;> split <;> omega

theorem cud_inv {e : Emu} {rows cols : Nat} (h : EmuInv e rows cols) {n : Int} (hn : POk n) :
    EmuInv (cud Fixes.current e n) rows cols := by
  have hd := dflt1_ok hn
  have hh : ({ e with lastCol := false } : Emu).height = rows := height_eq (e := { e with lastCol := false }) { h with }
  have := h.rowLo; have := h.rowHi; have := h.topLo; have := h.topLe; have := h.botHi
  unfold cud
  simp only [Fixes.current, Bool.true_and, hh]
  refine { h with rowLo := ?_, rowHi := ?_ } <;> simp only <;> split <;> split <;> simp_all <;> omega

theorem scrollUp_safe {e : Emu} {rows cols : Nat} (h : EmuInv e rows cols) (d : Dim rows cols)
    {n : Int} (hn : 0 ≤ n) : Safe rows cols (scrollUp e n) := by
  have hg := active_ok h
  have hh := height_eq h
  have := h.topLo; have := h.botHi; have := h.left0; have := h.right; have := d.rmax; have := d.cmax
  unfold scrollUp
  obtain ⟨g', hg', hok⟩ := forUp_ok (fun g => GridOk g rows cols) (fun row g =>
      if row > e.bottom then .ok g
      else if row < e.top then .ok g
      else if row + n > e.bottom then eraseCols g row e.left e.right e.bg
      else copyRow g row (row + n)) 0 (e.height - 1) e.active (by rw [hh, hangLimit_val]; omega) hg
    (by
      intro i g hi0 hi1 hgi
      rw [hh] at hi1
      split
      · exact ⟨g, rfl, hgi⟩
      · split
        · exact ⟨g, rfl, hgi⟩
        · split
          · exact eraseCols_ok hgi i e.left e.right e.bg hi0 (by omega) (by omega) (by omega)
              (by rw [hangLimit_val]; omega)
          · exact copyRow_ok hgi i (i + n) hi0 (by omega) (by omega) (by omega))
  exact ⟨e.setActive g', by simp only [hg', bind, Except.bind], setActive_inv h hok⟩

theorem scrollDown_safe {e : Emu} {rows cols : Nat} (h : EmuInv e rows cols) (d : Dim rows cols)
    {n : Int} (hn : 0 ≤ n) : Safe rows cols (scrollDown e n) := by
  have hg := active_ok h
  have := h.topLo; have := h.botHi; have := h.left0; have := h.right; have := d.rmax; have := d.cmax
  unfold scrollDown
  obtain ⟨g', hg', hok⟩ := forDown_ok (fun g => GridOk g rows cols) (fun r g =>
      if r - n < e.top then eraseCols g r e.left e.right e.bg
      else copyRow g r (r - n)) e.bottom e.top e.active (by rw [hangLimit_val]; omega) hg
    (by
      intro i g hi0 hi1 hgi
      split
      · exact eraseCols_ok hgi i e.left e.right e.bg (by omega) (by omega) (by omega) (by omega)
          (by rw [hangLimit_val]; omega)
      · exact copyRow_ok hgi i (i - n) (by omega) (by omega) (by omega) (by omega))
  exact ⟨e.setActive g', by simp only [hg', bind, Except.bind], setActive_inv h hok⟩

theorem inv_lastCol {e : Emu} {rows cols : Nat} (h : EmuInv e rows cols) (b : Bool) :
    EmuInv { e with lastCol := b } rows cols := { h with }

theorem height_lastCol (e : Emu) (b : Bool) : ({ e with lastCol := b } : Emu).height = e.height := rfl
theorem width_lastCol (e : Emu) (b : Bool) : ({ e with lastCol := b } : Emu).width = e.width := rfl

theorem inv_mode {e : Emu} {rows cols : Nat} (h : EmuInv e rows cols) (m : Modes) :
    EmuInv { e with mode := m } rows cols := { h with }

theorem inv_pen {e : Emu} {rows cols : Nat} (h : EmuInv e rows cols) (st : EStyle) :
    EmuInv { e with cur := { e.cur with st := st } } rows cols := { h with }

theorem inv_hasVx {e : Emu} {rows cols : Nat} (h : EmuInv e rows cols) (b : Bool) :
    EmuInv { e with hasVx := b } rows cols := { h with }

theorem savedOk_of_cur {e : Emu} {rows cols : Nat} (h : EmuInv e rows cols) (s : Saved)
    (hs : s.cur = e.cur) : SavedOk s rows cols :=
  ⟨hs ▸ h.rowLo, hs ▸ h.rowHi, hs ▸ h.colLo, hs ▸ h.colHi⟩

theorem decsc_inv {e : Emu} {rows cols : Nat} (h : EmuInv e rows cols) : EmuInv (decsc e) rows cols := by
  unfold decsc
  simp only
  split
  · exact { h with savedA := savedOk_of_cur h _ rfl }
  · exact { h with savedP := savedOk_of_cur h _ rfl }

theorem decrc_inv {e : Emu} {rows cols : Nat} (h : EmuInv e rows cols) : EmuInv (decrc e) rows cols := by
  unfold decrc
  simp only
  split
  · exact { h with rowLo := h.savedA.rowLo, rowHi := h.savedA.rowHi, colLo := h.savedA.colLo,
                   colHi := h.savedA.colHi }
  · exact { h with rowLo := h.savedP.rowLo, rowHi := h.savedP.rowHi, colLo := h.savedP.colLo,
                   colHi := h.savedP.colHi }

theorem blankGrid_ok (w h : Nat) : GridOk (blankGrid w h) h w := by
  unfold blankGrid
  refine ⟨List.length_replicate, ?_⟩
  intro r hr
  rw [(List.mem_replicate.mp hr).2]
  exact List.length_replicate

theorem defaultTabs_nonneg : ∀ t ∈ defaultTabs, 0 ≤ t := by
  intro t ht
  unfold defaultTabs at ht
  obtain ⟨k, _, hk⟩ := List.mem_map.mp ht
  rw [← hk]
  exact Int.natCast_nonneg _

theorem ind_safe {e : Emu} {rows cols : Nat} (h : EmuInv e rows cols) (d : Dim rows cols) :
    Safe rows cols (ind e) := by
  have h' := inv_lastCol h false
  have hh := height_eq h'
  have := h.rowLo; have := h.rowHi
  unfold ind
  simp only
  split
  · exact scrollUp_safe h' d (by omega)
  · split
    · exact Safe.ok h'
    · rename_i h1 h2
      simp only [hh] at h2
      exact Safe.ok { h' with rowLo := by simp only; omega, rowHi := by simp only; omega }

theorem nel_safe {e : Emu} {rows cols : Nat} (h : EmuInv e rows cols) (d : Dim rows cols) :
    Safe rows cols (nel e) := by
  obtain ⟨e1, h1, hi1⟩ := ind_safe h d
  unfold nel
  simp only [h1, bind, Except.bind]
  have := hi1.left0
  exact Safe.ok { hi1 with colLo := by simp only; omega, colHi := by simp only; omega }

theorem ri_safe {e : Emu} {rows cols : Nat} (h : EmuInv e rows cols) (d : Dim rows cols) :
    Safe rows cols (ri Fixes.current e) := by
  have h' := inv_lastCol h false
  have := h.rowLo; have := h.rowHi
  unfold ri
  simp only [Fixes.current, if_true]
  split
  · exact scrollDown_safe h' d (by omega)
  · split
    · exact Safe.ok h'
    · exact Safe.ok { h' with rowLo := by simp only; omega, rowHi := by simp only; omega }

theorem lf_safe {e : Emu} {rows cols : Nat} (h : EmuInv e rows cols) (d : Dim rows cols) :
    Safe rows cols (lf e) := by
  obtain ⟨e1, h1, hi1⟩ := ind_safe h d
  unfold lf
  simp only [h1, bind, Except.bind]
  have := hi1.left0
  split
  · exact Safe.ok hi1
  · exact Safe.ok { hi1 with colLo := by simp only; omega, colHi := by simp only; omega }

end VaxisModel.Lemmas.Emu
