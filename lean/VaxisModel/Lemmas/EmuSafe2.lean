/-
Per-operation safety of the emulator model, part 2: the operations that only touch the cursor, the
margins, the modes, the tab stops or the pen (CUF CUB CHA CUP CHT CBT TBC HTS VPA VPR HPA HPR DECSTBM
BS CR SM RM RIS SGR OSC and the C0 dispatch). DECSC / DECRC are in EmuSafe1.lean, DECSET / DECRST in
EmuSafe3.lean.
-/
import VaxisModel.Lemmas.EmuSafe1

namespace VaxisModel.Lemmas.Emu
open VaxisModel.Model.Emu
open VaxisModel.Gen.TermModes

theorem cuf_inv {e : Emu} {rows cols : Nat} (h : EmuInv e rows cols) (d : Dim rows cols) {n : Int}
    (hn : POk n) : EmuInv (cuf e n) rows cols := by
  have hd := dflt1_ok hn
  have := h.colLo; have := h.colHi; have := h.right; have := d.c1
  unfold cuf
  refine { h with colLo := ?_, colHi := ?_ } <;> simp only <;> split <;> omega

theorem cub_inv {e : Emu} {rows cols : Nat} (h : EmuInv e rows cols) {n : Int} (hn : POk n) :
    EmuInv (cub e n) rows cols := by
  have hd := dflt1_ok hn
  have := h.colLo; have := h.colHi; have := h.left0
  unfold cub
  refine { h with colLo := ?_, colHi := ?_ } <;> simp only <;> split <;> omega

theorem cha_inv {e : Emu} {rows cols : Nat} (h : EmuInv e rows cols) {n : Int} (hn : POk n) :
    EmuInv (cha e n) rows cols := by
  have hd := dflt1_ok hn
  have := h.colLo; have := h.colHi; have := h.left0; have := h.right
  unfold cha
  refine { h with colLo := ?_, colHi := ?_ } <;> simp only <;> split <;> split <;> omega

theorem cup_inv {e : Emu} {rows cols : Nat} (h : EmuInv e rows cols) (d : Dim rows cols)
    (pm : List Param) : EmuInv (cup Fixes.current e pm) rows cols := by
  have := h.rowLo; have := h.rowHi; have := h.colLo; have := h.colHi; have := d.c1; have := d.r1
  unfold cup
  simp only [Fixes.current, Bool.true_and, height_lastCol, width_lastCol, height_eq h, width_eq h d.r1]
  refine { h with rowLo := ?_, rowHi := ?_, colLo := ?_, colHi := ?_ } <;> simp only <;>
    split <;> split <;> simp only [decide_eq_true_eq] at * <;> omega

theorem chtLoop_nonneg (n : Int) : ∀ (ts : List Int) (col k : Int), 0 ≤ col → (∀ t ∈ ts, 0 ≤ t) →
    0 ≤ chtLoop n ts col k := by
  intro ts
  induction ts with
  | nil => intro col k hc _; simpa only [chtLoop] using hc
  | cons t rest ih =>
    intro col k hc ht
    have ht0 : 0 ≤ t := ht t List.mem_cons_self
    have hrest : ∀ t ∈ rest, 0 ≤ t := fun t' h' => ht t' (List.mem_cons_of_mem _ h')
    unfold chtLoop
    split
    · exact hc
    · split
      · exact ih col k hc hrest
      · exact ih t (k + 1) ht0 hrest

theorem cht_inv {e : Emu} {rows cols : Nat} (h : EmuInv e rows cols) (d : Dim rows cols) (n : Int) :
    EmuInv (cht Fixes.current e n) rows cols := by
  have hc := chtLoop_nonneg (dflt1 n) e.tabs e.cur.col 0 h.colLo h.tabs
  have := h.right; have := d.c1
  unfold cht
  simp only [Fixes.current, Bool.true_and]
  refine { h with colLo := ?_, colHi := ?_ } <;> simp only <;> split <;>
    simp only [decide_eq_true_eq] at * <;> omega

theorem cbtLoop_bounds (n : Int) : ∀ (ts : List Int) (col k : Int), 0 ≤ col → (∀ t ∈ ts, 0 ≤ t) →
    0 ≤ cbtLoop n ts col k ∧ cbtLoop n ts col k ≤ col := by
  intro ts
  induction ts with
  | nil => intro col k hc _; simp only [cbtLoop]; omega
  | cons t rest ih =>
    intro col k hc ht
    have ht0 : 0 ≤ t := ht t List.mem_cons_self
    have hrest : ∀ t ∈ rest, 0 ≤ t := fun t' h' => ht t' (List.mem_cons_of_mem _ h')
    unfold cbtLoop
    split
    · omega
    · split
      · omega
      · have := ih t (k + 1) ht0 hrest
        omega

theorem cbt_inv {e : Emu} {rows cols : Nat} (h : EmuInv e rows cols) (n : Int) :
    EmuInv (cbt e n) rows cols := by
  have hc := cbtLoop_bounds (dflt1 n) e.tabs.reverse e.cur.col 0 h.colLo
    (fun t ht => h.tabs t (List.mem_reverse.mp ht))
  have := h.colHi
  unfold cbt
  refine { h with colLo := ?_, colHi := ?_ } <;> simp only <;> omega

theorem tbc_inv {e : Emu} {rows cols : Nat} (h : EmuInv e rows cols) (n : Int) :
    EmuInv (tbc e n) rows cols := by
  unfold tbc
  split
  · exact { h with tabs := fun t ht => h.tabs t (List.mem_filter.mp ht).1 }
  · split
    · exact { h with tabs := fun t ht => nomatch ht }
    · exact h

theorem hts_inv {e : Emu} {rows cols : Nat} (h : EmuInv e rows cols) : EmuInv (hts e) rows cols := by
  unfold hts
  refine { h with tabs := ?_ }
  intro t ht
  rcases List.mem_append.mp ht with h1 | h1
  · exact h.tabs t h1
  · rw [List.mem_singleton.mp h1]; exact h.colLo

theorem vpa_inv {e : Emu} {rows cols : Nat} (h : EmuInv e rows cols) (d : Dim rows cols) {n : Int}
    (hn : POk n) : EmuInv (vpa Fixes.current e n) rows cols := by
  have hd := dflt1_ok hn
  have := h.rowLo; have := h.rowHi; have := h.colLo; have := h.colHi; have := h.right; have := d.c1
  unfold vpa
  simp only [Fixes.current, Bool.true_and, decide_eq_true_eq, height_lastCol, height_eq h]
  refine { h with rowLo := ?_, rowHi := ?_, colLo := ?_, colHi := ?_ } <;> simp only <;> split <;> omega

theorem vpr_inv {e : Emu} {rows cols : Nat} (h : EmuInv e rows cols) {n : Int} (hn : POk n) :
    EmuInv (vpr e n) rows cols := by
  have hd := dflt1_ok hn
  have := h.rowLo; have := h.rowHi
  unfold vpr
  simp only [height_lastCol, height_eq h]
  refine { h with rowLo := ?_, rowHi := ?_ } <;> simp only <;> split <;> omega

theorem hpa_inv {e : Emu} {rows cols : Nat} (h : EmuInv e rows cols) (d : Dim rows cols) {n : Int}
    (hn : POk n) : EmuInv (hpa e n) rows cols := by
  have hd := dflt1_ok hn
  have := h.colLo; have := h.colHi; have := d.c1
  unfold hpa
  simp only [width_lastCol, width_eq h d.r1]
  refine { h with colLo := ?_, colHi := ?_ } <;> simp only <;> split <;> omega

theorem hpr_inv {e : Emu} {rows cols : Nat} (h : EmuInv e rows cols) (d : Dim rows cols) {n : Int}
    (hn : POk n) : EmuInv (hpr e n) rows cols := by
  have hd := dflt1_ok hn
  have := h.colLo; have := h.colHi; have := d.c1
  unfold hpr
  simp only [width_lastCol, width_eq h d.r1]
  refine { h with colLo := ?_, colHi := ?_ } <;> simp only <;> split <;> omega

theorem decstbm_set {e : Emu} {rows cols : Nat} (h : EmuInv e rows cols) (top bot : Int)
    (h0 : 0 ≤ top) (h1 : top ≤ bot) (h2 : bot < rows) :
    EmuInv { e with lastCol := false, top := top, bottom := bot, cur := { e.cur with row := 0, col := 0 } }
      rows cols := by
  have := h.rowLo; have := h.rowHi
  refine { h with rowLo := ?_, rowHi := ?_, colLo := ?_, colHi := ?_, topLo := h0, topLe := h1,
                  botHi := h2 } <;> simp only <;> omega

theorem decstbm_core {e : Emu} {rows cols : Nat} (h : EmuInv e rows cols) (top bot : Int)
    (h0 : 0 ≤ top) (h2 : bot < rows) :
    EmuInv (if top ≥ bot then e else
      { e with lastCol := false, top := top, bottom := bot, cur := { e.cur with row := 0, col := 0 } })
      rows cols := by
  split
  · exact h
  · exact decstbm_set h top bot h0 (by omega) h2

theorem decstbm_inv {e : Emu} {rows cols : Nat} (h : EmuInv e rows cols)
    (pm : List Param) : EmuInv (decstbm Fixes.current e pm) rows cols := by
  have hh := height_eq h
  have := h.rowLo; have := h.rowHi
  unfold decstbm
  simp only [Fixes.current, Bool.true_and, hh]
  split <;> refine decstbm_core h _ _ ?_ ?_ <;>
    simp only [Bool.or_eq_true, decide_eq_true_eq] <;> omega

theorem bs_inv {e : Emu} {rows cols : Nat} (h : EmuInv e rows cols) (d : Dim rows cols) :
    EmuInv (bs Fixes.current e) rows cols := by
  have h' := inv_lastCol h false
  have := h.rowLo; have := h.rowHi; have := h.colLo; have := h.colHi; have := h.left0; have := h.right
  have := d.c1
  unfold bs
  simp only [Fixes.current, Bool.true_and]
  split
  · split
    · exact h'
    · rename_i h1 h2
      simp only [Bool.or_eq_true, decide_eq_true_eq, not_or] at h2
      exact { h' with rowLo := by simp only; omega, rowHi := by simp only; omega,
                      colLo := by simp only; omega, colHi := by simp only; omega }
  · exact { h' with colLo := by simp only; omega, colHi := by simp only; omega }

theorem cr_inv {e : Emu} {rows cols : Nat} (h : EmuInv e rows cols) : EmuInv (cr e) rows cols := by
  have := h.left0
  unfold cr
  exact { h with colLo := by simp only; omega, colHi := by simp only; omega }

theorem smOne_inv {e : Emu} {rows cols : Nat} (h : EmuInv e rows cols) (tab : List (Int × ModeField))
    (b : Bool) (p : Param) : EmuInv (smOne tab b e p) rows cols := by
  unfold smOne
  split
  · exact inv_mode h _
  · exact h

theorem foldl_inv {rows cols : Nat} (f : Emu → Param → Emu)
    (hf : ∀ e p, EmuInv e rows cols → EmuInv (f e p) rows cols) :
    ∀ (pm : List Param) (e : Emu), EmuInv e rows cols → EmuInv (pm.foldl f e) rows cols := by
  intro pm
  induction pm with
  | nil => intro e h; exact h
  | cons p rest ih => intro e h; exact ih (f e p) (hf e p h)

theorem sm_inv {e : Emu} {rows cols : Nat} (h : EmuInv e rows cols) (pm : List Param) :
    EmuInv (sm e pm) rows cols :=
  foldl_inv _ (fun _ p he => smOne_inv he smTable true p) pm e h

theorem rm_inv {e : Emu} {rows cols : Nat} (h : EmuInv e rows cols) (pm : List Param) :
    EmuInv (rm e pm) rows cols :=
  foldl_inv _ (fun _ p he => smOne_inv he rmTable false p) pm e h

theorem ris_inv {e : Emu} {rows cols : Nat} (h : EmuInv e rows cols) (d : Dim rows cols) :
    EmuInv (ris e) rows cols := by
  have hh := height_eq h
  have hw := width_eq h d.r1
  have := h.topLo; have := h.topLe; have := h.botHi; have := d.r1; have := d.c1
  have hf : Fixes.current.f106e = true := rfl
  unfold ris risF
  simp only [hh, hw, Int.toNat_natCast, hf, if_true]
  exact { h with prim := blankGrid_ok cols rows, alt := blankGrid_ok cols rows,
                 rowLo := by simp only; omega, rowHi := by simp only; omega,
                 colLo := by simp only; omega, colHi := by simp only; omega,
                 topLo := by simp only; omega,
                 topLe := by simp only; omega, botHi := by simp only; omega,
                 right := rfl, tabs := defaultTabs_nonneg,
                 savedP := ⟨Int.le_refl 0, by simp only; omega, Int.le_refl 0, by simp only; omega⟩,
                 savedA := ⟨Int.le_refl 0, by simp only; omega, Int.le_refl 0, by simp only; omega⟩ }

theorem Param.get_ok (p : Param) (k : Nat) (hk : k < p.len) : ∃ v, p.get k = .ok v := by
  unfold Param.len at hk
  cases k with
  | zero => exact ⟨_, rfl⟩
  | succ k =>
    have hlt : k < p.2.length := by omega
    unfold Param.get
    simp only [List.getElem?_eq_getElem hlt]
    exact ⟨_, rfl⟩

theorem sgrExt_ok (s : EStyle) (slot : ColSlot) (p : Param) (rest : List Param) :
    ∃ r, sgrExt s slot p rest = .ok r := by
  unfold sgrExt
  generalize hl : p.len = L
  split
  · -- len 1: the colour is in the following parameters
    split
    · exact ⟨_, rfl⟩
    · rename_i hlen
      rcases rest with _ | ⟨k, r1⟩
      · simp only [List.length_nil] at hlen; omega
      · simp only
        split
        · split
          · exact ⟨_, rfl⟩
          · rename_i hlen5
            rcases r1 with _ | ⟨a, _ | ⟨b, _ | ⟨c, t⟩⟩⟩
            · simp only [List.length_cons, List.length_nil] at hlen5; omega
            · simp only [List.length_cons, List.length_nil] at hlen5; omega
            · simp only [List.length_cons, List.length_nil] at hlen5; omega
            · exact ⟨_, rfl⟩
        · split
          · rcases r1 with _ | ⟨a, t⟩
            · simp only [List.length_cons, List.length_nil] at hlen; omega
            · exact ⟨_, rfl⟩
          · exact ⟨_, rfl⟩
  · obtain ⟨k, hk⟩ := Param.get_ok p 1 (by omega)
    obtain ⟨v, hv⟩ := Param.get_ok p 2 (by omega)
    simp only [hk, hv, bind, Except.bind]
    split <;> exact ⟨_, rfl⟩
  · obtain ⟨k, hk⟩ := Param.get_ok p 1 (by omega)
    obtain ⟨v2, hv2⟩ := Param.get_ok p 2 (by omega)
    obtain ⟨v3, hv3⟩ := Param.get_ok p 3 (by omega)
    obtain ⟨v4, hv4⟩ := Param.get_ok p 4 (by omega)
    simp only [hk, hv2, hv3, hv4, bind, Except.bind]
    split <;> exact ⟨_, rfl⟩
  · obtain ⟨k, hk⟩ := Param.get_ok p 1 (by omega)
    obtain ⟨v3, hv3⟩ := Param.get_ok p 3 (by omega)
    obtain ⟨v4, hv4⟩ := Param.get_ok p 4 (by omega)
    obtain ⟨v5, hv5⟩ := Param.get_ok p 5 (by omega)
    simp only [hk, hv3, hv4, hv5, bind, Except.bind]
    split <;> exact ⟨_, rfl⟩
  · exact ⟨_, rfl⟩

theorem ite_ok {α : Type} (c : Prop) [Decidable c] (a b : M α) (ha : ∃ r, a = .ok r)
    (hb : ∃ r, b = .ok r) : ∃ r, (if c then a else b) = .ok r := by
  split
  · exact ha
  · exact hb

theorem sgrOne_ok (s : EStyle) (p : Param) (rest : List Param) : ∃ r, sgrOne s p rest = .ok r := by
  unfold sgrOne
  simp only
  generalize hl : p.len = L
  repeat' (first
    | exact ⟨_, rfl⟩
    | exact sgrExt_ok _ _ _ _
    | (obtain ⟨k, hk⟩ := Param.get_ok p 1 (by omega)
       simp only [hk, bind, Except.bind]
       exact ⟨_, rfl⟩)
    | apply ite_ok
    | split)

theorem sgrLoop_ok : ∀ (fuel : Nat) (s : EStyle) (pm : List Param), ∃ s', sgrLoop fuel s pm = .ok s' := by
  intro fuel
  induction fuel with
  | zero => intro s pm; exact ⟨s, by simp only [sgrLoop]⟩
  | succ fuel ih =>
    intro s pm
    cases pm with
    | nil => exact ⟨s, by simp only [sgrLoop]⟩
    | cons p rest =>
      obtain ⟨r, hr⟩ := sgrOne_ok s p rest
      simp only [sgrLoop, hr, bind, Except.bind]
      cases r with
      | none => exact ⟨s, rfl⟩
      | some r => exact ih r.1 (rest.drop r.2)

theorem sgr_safe {e : Emu} {rows cols : Nat} (h : EmuInv e rows cols) (pm : List Param) :
    Safe rows cols (sgr e pm) := by
  unfold sgr
  simp only
  generalize (if pm.isEmpty = true then [((0 : Int), ([] : List Int))] else pm) = pm'
  obtain ⟨s', hs⟩ := sgrLoop_ok (pm'.length + 1) e.cur.st pm'
  simp only [hs, bind, Except.bind]
  exact ⟨_, rfl, inv_pen h s'⟩

/-- what osc() can return: the state untouched or with a new hyperlink on the pen, and at most one event -/
def OscOut (e : Emu) (x : M (Emu × Nat)) : Prop :=
  ∃ e' k, x = .ok (e', k) ∧ k ≤ 1 ∧
    (e' = e ∨ ∃ url params, e' = { e with cur := { e.cur with st := { e.cur.st with link := url, linkParams := params } } })

theorem OscOut.same (e : Emu) {k : Nat} (hk : k ≤ 1) : OscOut e (.ok (e, k)) := ⟨e, k, rfl, hk, .inl rfl⟩

theorem OscOut.ite {e : Emu} (c : Prop) [Decidable c] (a b : M (Emu × Nat)) (ha : c → OscOut e a) (hb : ¬ c → OscOut e b) :
    OscOut e (if c then a else b) := by
  split
  · exact ha ‹_›
  · exact hb ‹_›

/-- osc() of the current source, on any payload, any base64 verdict, any state: with F105d the nil `*Vaxis` of OSC 52 is never reached -/
theorem osc_out (e : Emu) (data : List Nat) (info : OscInfo) : OscOut e (osc Fixes.current e data info) := by
  unfold osc
  simp only [Fixes.current, Bool.true_and]
  rcases cutSemi data with ⟨sel, val, found⟩
  rcases cutSemi val with ⟨s2, v2, f2⟩
  rcases cutSemi v2 with ⟨s3, v3, f3⟩
  -- the one failing leaf, `vt.vx.ClipboardPush` on nil, sits under `!e.hasVx = false` and `e.hasVx = false`
  repeat' (first
    | exact OscOut.same e (by omega)
    | exact ⟨_, 0, rfl, by omega, .inr ⟨_, _, rfl⟩⟩
    | (apply OscOut.ite <;> intro _)
    | (exfalso; simp_all))

theorem osc_safe {e : Emu} {rows cols : Nat} (h : EmuInv e rows cols) (data : List Nat) (info : OscInfo) :
    ∃ r, osc Fixes.current e data info = .ok r ∧ EmuInv r.1 rows cols := by
  obtain ⟨e', k, hr, _, he | ⟨url, params, he⟩⟩ := osc_out e data info
  · exact ⟨_, hr, he ▸ h⟩
  · exact ⟨_, hr, he ▸ { h with }⟩

theorem inv_cs {e : Emu} {rows cols : Nat} (h : EmuInv e rows cols) (c : Charsets) :
    EmuInv { e with cs := c } rows cols := { h with }

theorem inv_shape {e : Emu} {rows cols : Nat} (h : EmuInv e rows cols) (n : Int) :
    EmuInv { e with cur := { e.cur with shape := n } } rows cols := { h with }

theorem c0_safe {e : Emu} {rows cols : Nat} (h : EmuInv e rows cols) (d : Dim rows cols) (r0 : Nat) :
    ∃ r, c0 Fixes.current e r0 = .ok r ∧ EmuInv r.1 rows cols := by
  obtain ⟨e1, h1, hi1⟩ := lf_safe h d
  unfold c0
  cases hla : lookupArm c0Table [r0] with
  | none => exact ⟨_, rfl, h⟩
  | some arm =>
    cases arm with
    | arm_07 => exact ⟨_, rfl, h⟩
    | bs => exact ⟨_, rfl, bs_inv h d⟩
    | ht => exact ⟨_, rfl, cht_inv h d 1⟩
    | lf | vt | ff => simp only [h1, bind, Except.bind]; exact ⟨_, rfl, hi1⟩
    | cr => exact ⟨_, rfl, cr_inv h⟩
    | arm_0e | arm_0f => exact ⟨_, rfl, inv_cs h _⟩

end VaxisModel.Lemmas.Emu
