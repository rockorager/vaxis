/-
Per-operation safety of the emulator model, part 3: the grid-editing operations
(ED, EL, ECH, DCH, ICH, REP, IL, DL), CNL/CPL, DECRST and DECSET (whose arm 1049 runs ED).
-/
import VaxisModel.Lemmas.EmuSafe1

namespace VaxisModel.Lemmas.Emu
open VaxisModel.Model.Emu

theorem safe_setActive {e : Emu} {rows cols : Nat} (h : EmuInv e rows cols) {m : M Grid}
    (hm : ∃ g, m = .ok g ∧ GridOk g rows cols) :
    Safe rows cols (m >>= fun g => .ok (e.setActive g)) :=
  safe_bind _ hm fun _ hok => Safe.ok (setActive_inv h hok)

theorem brkStep_ok {rows cols : Nat} {m : M Grid} (hm : ∃ g, m = .ok g ∧ GridOk g rows cols) :
    ∃ r : Grid × Bool, (m >>= fun g' => .ok (g', true)) = .ok r ∧ GridOk r.1 rows cols := by
  obtain ⟨g, hg, hok⟩ := hm
  exact ⟨(g, true), by simp only [hg, bind, Except.bind], hok⟩

theorem ed_safe {e : Emu} {rows cols : Nat} (h : EmuInv e rows cols) (d : Dim rows cols) (n : Int) :
    Safe rows cols (ed e n) := by
  have h' := inv_lastCol h false
  have hh := height_eq h'
  have hw := width_eq h' d.r1
  have hg := active_ok h'
  have := h.rowLo; have := h.rowHi; have := h.colLo; have := h.colHi
  have := d.rmax; have := d.cmax
  unfold ed
  split
  · refine safe_setActive h' ?_
    refine forUp_ok (fun g => GridOk g rows cols) _ _ _ _ (by rw [hh, hangLimit_val]; simp only; omega) hg ?_
    intro r g hr0 hr1 hgr
    rw [hh] at hr1
    simp only at hr0
    refine forUp_ok (fun g => GridOk g rows cols) _ _ _ _ (by rw [hw, hangLimit_val]; omega) hgr ?_
    intro c g hc0 hc1 hgc
    rw [hw] at hc1
    split
    · exact ⟨g, rfl, hgc⟩
    · exact modCell_ok hgc r c _ (by omega) (by omega) hc0 (by omega)
  · split
    · refine safe_setActive h' ?_
      refine forUp_ok (fun g => GridOk g rows cols) _ _ _ _ (by rw [hangLimit_val]; simp only; omega) hg ?_
      intro r g hr0 hr1 hgr
      simp only at hr1
      refine forUpBrk_ok (fun g => GridOk g rows cols) _ _ _ _ (by rw [hw, hangLimit_val]; omega) hgr ?_
      intro c g hc0 hc1 hgc
      rw [hw] at hc1
      split
      · exact ⟨(g, false), rfl, hgc⟩
      · exact brkStep_ok (modCell_ok hgc r c _ (by omega) (by omega) hc0 (by omega))
    · split
      · refine safe_setActive h' ?_
        refine forUp_ok (fun g => GridOk g rows cols) _ _ _ _ (by rw [hh, hangLimit_val]; omega) hg ?_
        intro r g hr0 hr1 hgr
        rw [hh] at hr1
        refine forUp_ok (fun g => GridOk g rows cols) _ _ _ _ (by rw [hw, hangLimit_val]; omega) hgr ?_
        intro c g hc0 hc1 hgc
        rw [hw] at hc1
        exact modCell_ok hgc r c _ (by omega) (by omega) hc0 (by omega)
      · exact Safe.ok h

theorem el_safe {e : Emu} {rows cols : Nat} (h : EmuInv e rows cols) (d : Dim rows cols) (n : Int) :
    Safe rows cols (el Fixes.current e n) := by
  have h' := inv_lastCol h false
  have hw := width_eq h' d.r1
  have hg := active_ok h'
  have := h.rowLo; have := h.rowHi; have := h.colLo; have := h.colHi
  have := d.rmax; have := d.cmax
  have hc : (cols : Int) ≤ hangLimit := by rw [hangLimit_val]; omega
  unfold el
  simp only [Fixes.current, Bool.true_and]
  split
  · refine safe_setActive h' ?_
    rw [hw]
    exact eraseCols_ok hg _ _ _ _ (by omega) (by omega) (by omega) (by omega) hc
  · split
    · refine safe_setActive h' ?_
      rw [hw]
      refine eraseCols_ok hg _ _ _ _ (by omega) (by omega) (by omega) ?_ hc
      simp only [decide_eq_true_eq]
      split <;> omega
    · split
      · refine safe_setActive h' ?_
        rw [hw]
        exact eraseCols_ok hg _ _ _ _ (by omega) (by omega) (by omega) (by omega) hc
      · exact Safe.ok h'

theorem ech_safe {e : Emu} {rows cols : Nat} (h : EmuInv e rows cols) (d : Dim rows cols)
    {n : Int} (hn : POk n) : Safe rows cols (ech e n) := by
  have h' := inv_lastCol h false
  have hw := width_eq h' d.r1
  have hg := active_ok h'
  have hd := dflt1_ok hn
  have := h.rowLo; have := h.rowHi; have := h.colLo; have := h.colHi
  unfold ech
  refine safe_setActive h' ?_
  refine forUpBrk_okI (fun g => GridOk g rows cols) (fun i => e.cur.col + i ≤ cols) _ _ _ _
    (by rw [hangLimit_val]; omega) hg (by omega) ?_
  intro i g hi0 hi1 hI hgi
  rw [hw]
  simp only
  split
  · exact ⟨(g, false), rfl, hgi, fun hf => by simp at hf⟩
  · obtain ⟨g', hg', hok⟩ := modCell_ok hgi e.cur.row (e.cur.col + i) (·.erase (Emu.bg { e with lastCol := false }))
      (by omega) (by omega) (by omega) (by omega)
    exact ⟨(g', true), by simp only [hg', bind, Except.bind], hok, fun _ => by omega⟩

/-- `g[r][c] = g[r][c2]` -/
theorem moveCell_ok {g : Grid} {rows cols : Nat} (h : GridOk g rows cols) (r c c2 : Int)
    (hr0 : 0 ≤ r) (hr1 : r < rows) (hc0 : 0 ≤ c) (hc1 : c < cols) (hd0 : 0 ≤ c2) (hd1 : c2 < cols) :
    ∃ g', (do
        let row ← getI g r
        let x ← getI row c2
        let row' ← setI row c x
        setI g r row') = .ok g' ∧ GridOk g' rows cols := by
  obtain ⟨row, hrow, hlen⟩ := getRow_ok h r hr0 hr1
  obtain ⟨x, hx, _⟩ := getI_ok row c2 hd0 (by rw [hlen]; exact hd1)
  have hs := setI_ok row c x hc0 (by rw [hlen]; exact hc1)
  have hs2 := setI_ok g r (row.set c.toNat x) hr0 (by rw [h.len]; exact hr1)
  simp only [hrow, hx, hs, hs2, bind, Except.bind]
  exact ⟨_, rfl, gridOk_set h _ _ (by simp [hlen])⟩

theorem dch_safe {e : Emu} {rows cols : Nat} (h : EmuInv e rows cols) (d : Dim rows cols)
    {n : Int} (hn : POk n) : Safe rows cols (dch e n) := by
  have h' := inv_lastCol h false
  have hg := active_ok h'
  have hd := dflt1_ok hn
  have := h.rowLo; have := h.rowHi; have := h.colLo; have := h.colHi; have := h.right
  have := d.cmax
  unfold dch
  refine safe_setActive h' ?_
  refine forUp_ok (fun g => GridOk g rows cols) _ _ _ _ (by rw [hangLimit_val]; simp only; omega) hg ?_
  intro c g hc0 hc1 hgc
  simp only at hc0 hc1 ⊢
  split
  · exact modCell_ok hgc _ c _ (by omega) (by omega) (by omega) (by omega)
  · exact moveCell_ok hgc _ c (c + dflt1 n) (by omega) (by omega) (by omega) (by omega) (by omega) (by omega)

theorem ich_safe {e : Emu} {rows cols : Nat} (h : EmuInv e rows cols) (d : Dim rows cols)
    {n : Int} (hn : POk n) : Safe rows cols (ich Fixes.current e n) := by
  have hg := active_ok h
  have hd := dflt1_ok hn
  have := h.rowLo; have := h.rowHi; have := h.colLo; have := h.colHi; have := h.right
  have := d.cmax
  unfold ich
  simp only [Fixes.current, Bool.not_true, Bool.false_and, Bool.false_eq_true, if_true, if_false,
    decide_eq_true_eq]
  refine safe_bind (fun l : Row => l.length = cols) (getRow_ok hg _ (by omega) (by omega)) ?_
  intro line hline
  refine safe_bind (fun l : Row => l.length = cols) ?_ ?_
  · refine forDown_ok (fun l : Row => l.length = cols) _ _ _ _ (by rw [hangLimit_val]; omega) hline ?_
    intro i l hi0 hi1 hl
    obtain ⟨x, hx, _⟩ := getI_ok l (i - dflt1 n) (by omega) (by omega)
    have hs := setI_ok l i x (by omega) (by omega)
    exact ⟨l.set i.toNat x, by simp only [hx, hs, bind, Except.bind], by simp [hl]⟩
  · intro line1 hline1
    refine safe_bind (fun l : Row => l.length = cols) ?_ ?_
    · refine forUpBrk_ok (fun l : Row => l.length = cols) _ _ _ _ (by rw [hangLimit_val]; omega) hline1 ?_
      intro i l hi0 hi1 hl
      split
      · exact ⟨(l, false), rfl, hl⟩
      · have hs := setI_ok l (e.cur.col + i) (({} : ECell).erase e.bg) (by omega) (by omega)
        exact ⟨(l.set (e.cur.col + i).toNat (({} : ECell).erase e.bg), true),
          by simp only [hs, bind, Except.bind], by simp [hl]⟩
    · intro line2 hline2
      have hs := setI_ok e.active e.cur.row line2 (by omega) (by rw [hg.len]; omega)
      rw [hs]
      exact ⟨_, rfl, setActive_inv h (gridOk_set hg _ _ hline2)⟩

theorem rep_safe {e : Emu} {rows cols : Nat} (h : EmuInv e rows cols) (d : Dim rows cols)
    {n : Int} (hn : POk n) : Safe rows cols (rep Fixes.current e n) := by
  have h' := inv_lastCol h false
  have hg := active_ok h'
  have := h.rowLo; have := h.rowHi; have := h.colLo; have := h.colHi; have := h.right
  have := d.cmax
  unfold rep
  simp only [Fixes.current, if_true]
  split
  · exact Safe.ok h'
  · rename_i hc
    refine safe_bind (fun l : Row => l.length = cols) (getRow_ok hg _ (by omega) (by omega)) ?_
    intro row hrow
    refine safe_bind (fun _ : ECell => True) ?_ ?_
    · obtain ⟨x, hx, _⟩ := getI_ok row (e.cur.col - 1) (by omega) (by omega)
      exact ⟨x, hx, trivial⟩
    · intro ch _
      refine safe_setActive h' ?_
      refine forUpBrk_ok (fun g => GridOk g rows cols) _ _ _ _ (by rw [hangLimit_val]; have := hn.2; omega) hg ?_
      intro i g hi0 hi1 hgi
      simp only [decide_eq_true_eq]
      split
      · exact ⟨(g, false), rfl, hgi⟩
      · exact brkStep_ok (modCell_ok hgi _ _ _ (by omega) (by omega) (by omega) (by omega))

theorem ilClamp_bounds (e : Emu) {n : Int} (hn : POk n) (hrow : e.cur.row ≤ e.bottom) :
    0 ≤ ilClamp Fixes.current e n ∧ e.cur.row + ilClamp Fixes.current e n ≤ e.bottom + 1 ∧
      ilClamp Fixes.current e n ≤ 65535 := by
  have hd := dflt1_ok hn
  unfold ilClamp
  simp only [Fixes.current, if_true]
  split <;> omega

theorem setActive_col0_inv {e : Emu} {rows cols : Nat} (h : EmuInv e rows cols) {g : Grid}
    (hg : GridOk g rows cols) :
    EmuInv { (e.setActive g) with cur := { e.cur with col := e.left } } rows cols := by
  have hi := setActive_inv h hg
  have := h.left0
  exact { hi with
    rowLo := by simp only; exact h.rowLo
    rowHi := by simp only; exact h.rowHi
    colLo := by simp only; omega
    colHi := by simp only; omega }

theorem il_safe {e : Emu} {rows cols : Nat} (h : EmuInv e rows cols) (d : Dim rows cols)
    {n : Int} (hn : POk n) : Safe rows cols (il Fixes.current e n) := by
  have h' := inv_lastCol h false
  have hg := active_ok h'
  have := h.rowLo; have := h.rowHi; have := h.colLo; have := h.colHi; have := h.right
  have := h.left0; have := h.topLo; have := h.botHi
  have := d.cmax; have := d.rmax
  have hc : (cols : Int) ≤ hangLimit := by rw [hangLimit_val]; omega
  unfold il
  simp only
  split
  · exact Safe.ok h'
  · rename_i hcond
    have hb := ilClamp_bounds { e with lastCol := false } hn (by simp only; omega)
    generalize ilClamp Fixes.current { e with lastCol := false } n = k at hb ⊢
    simp only at hb
    refine safe_bind (fun g => GridOk g rows cols) ?_ ?_
    · refine forDown_ok (fun g => GridOk g rows cols) _ _ _ _ (by rw [hangLimit_val]; omega) hg ?_
      intro r g hr0 hr1 hgr
      exact copyRow_ok hgr r (r - k) (by omega) (by omega) (by omega) (by omega)
    · intro g1 hg1
      refine safe_bind (fun g => GridOk g rows cols) ?_ ?_
      · refine forUp_ok (fun g => GridOk g rows cols) _ _ _ _ (by rw [hangLimit_val]; omega) hg1 ?_
        intro r g hr0 hr1 hgr
        exact eraseCols_ok hgr _ _ _ _ (by omega) (by omega) (by omega) (by omega) hc
      · intro g2 hg2
        exact Safe.ok (setActive_col0_inv h' hg2)

theorem dl_safe {e : Emu} {rows cols : Nat} (h : EmuInv e rows cols) (d : Dim rows cols)
    {n : Int} (hn : POk n) : Safe rows cols (dl Fixes.current e n) := by
  have h' := inv_lastCol h false
  have hg := active_ok h'
  have := h.rowLo; have := h.rowHi; have := h.colLo; have := h.colHi; have := h.right
  have := h.left0; have := h.topLo; have := h.botHi
  have := d.cmax; have := d.rmax
  have hc : (cols : Int) ≤ hangLimit := by rw [hangLimit_val]; omega
  unfold dl
  simp only
  split
  · exact Safe.ok h'
  · rename_i hcond
    have hb := ilClamp_bounds { e with lastCol := false } hn (by simp only; omega)
    generalize ilClamp Fixes.current { e with lastCol := false } n = k at hb ⊢
    simp only at hb
    refine safe_bind (fun g => GridOk g rows cols) ?_ ?_
    · refine forUp_ok (fun g => GridOk g rows cols) _ _ _ _ (by rw [hangLimit_val]; omega) hg ?_
      intro r g hr0 hr1 hgr
      split
      · exact copyRow_ok hgr r (r + k) (by omega) (by omega) (by omega) (by omega)
      · exact eraseCols_ok hgr _ _ _ _ (by omega) (by omega) (by omega) (by omega) hc
    · intro g1 hg1
      exact Safe.ok (setActive_col0_inv h' hg1)

theorem cnl_safe {e : Emu} {rows cols : Nat} (h : EmuInv e rows cols)
    {n : Int} (hn : POk n) : Safe rows cols (cnl Fixes.current e n) := by
  have hi1 := cud_inv h hn
  have := hi1.left0
  unfold cnl
  simp only [show Fixes.current.f54 = true from rfl, if_true]
  exact Safe.ok { hi1 with colLo := by simp only; omega, colHi := by simp only; omega }

theorem cpl_safe {e : Emu} {rows cols : Nat} (h : EmuInv e rows cols)
    {n : Int} (hn : POk n) : Safe rows cols (cpl Fixes.current e n) := by
  have hi1 := cuu_inv h hn
  have := hi1.left0
  unfold cpl
  simp only [show Fixes.current.f54 = true from rfl, if_true]
  exact Safe.ok { hi1 with colLo := by simp only; omega, colHi := by simp only; omega }

theorem decrstOne_safe {e : Emu} {rows cols : Nat} (h : EmuInv e rows cols) (d : Dim rows cols)
    (p : Param) : Safe rows cols (decrstOne e p) := by
  unfold decrstOne
  split
  · exact Safe.ok (inv_mode h _)
  · split
    · exact Safe.ok { h with }
    · split
      · simp only
        split
        · refine safe_bind (fun e => EmuInv e rows cols) (ed_safe h d 2) ?_
          intro e1 hi1
          exact Safe.ok (decrc_inv { hi1 with })
        · exact Safe.ok (decrc_inv { h with })
      · exact Safe.ok h

theorem decrst_safe {e : Emu} {rows cols : Nat} (h : EmuInv e rows cols) (d : Dim rows cols)
    (pm : List Param) : Safe rows cols (decrst e pm) := by
  unfold decrst
  exact safe_foldlM (fun _ p h => decrstOne_safe h d p) pm h

/-! ### decset (1049 saves the cursor, switches to the alternate screen and clears it) -/

theorem decsetOne_safe {e : Emu} {rows cols : Nat} (h : EmuInv e rows cols) (d : Dim rows cols)
    (p : Param) : Safe rows cols (decsetOne Fixes.current e p) := by
  unfold decsetOne
  split
  · exact Safe.ok (inv_mode h _)
  · split
    · exact Safe.ok { h with }
    · split
      · have h2 : EmuInv { decsc e with altActive := true } rows cols := { decsc_inv h with }
        have hf : Fixes.current.f106c = true := rfl
        simp only [hf, if_true]
        refine safe_bind (fun e => EmuInv e rows cols) (ed_safe h2 d 2) ?_
        intro e1 hi1
        exact Safe.ok (inv_mode hi1 _)
      · exact Safe.ok h

theorem decset_safe {e : Emu} {rows cols : Nat} (h : EmuInv e rows cols) (d : Dim rows cols)
    (pm : List Param) : Safe rows cols (decset Fixes.current e pm) := by
  unfold decset
  exact safe_foldlM (fun _ p h => decsetOne_safe h d p) pm h

end VaxisModel.Lemmas.Emu
