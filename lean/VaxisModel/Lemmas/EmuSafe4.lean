/-
Per-operation safety of the emulator model, part 4: `print` (every glyph, every width, also widths
larger than the screen) and `resize` / `Emu.new`.
-/
import VaxisModel.Lemmas.EmuSafe1

namespace VaxisModel.Lemmas.Emu
open VaxisModel.Model.Emu

/-!
`forUpBrk_ok` needs the trip count to be at most `hangLimit`. The trailing-cells loop of `print`
has the trip count `w - 1` (any width) but leaves through `break` after at most `cols`
iterations. The rule below only asks the body to break from iteration `lo + k` on, `k < hangLimit`. -/

theorem forUpBrkGo_brk {σ : Type} (P : σ → Prop) (body : Int → σ → M (σ × Bool)) :
    ∀ (n k : Nat) (i0 : Int) (s : σ), k < n → P s →
      (∀ i s, i0 ≤ i → P s → ∃ r, body i s = .ok r ∧ P r.1 ∧ (i0 + k ≤ i → r.2 = false)) →
      ∃ r, forUpBrkGo body n i0 s = .ok r ∧ P r.1 ∧ r.2 = true := by
  intro n
  induction n with
  | zero => intro k i0 s hk; omega
  | succ n ih =>
    intro k i0 s hk hs hb
    obtain ⟨⟨s1, go⟩, h1, hp1, hbr⟩ := hb i0 s (by omega) hs
    cases go with
    | false => exact ⟨(s1, true), by simp only [forUpBrkGo, h1, bind, Except.bind]; rfl, hp1, rfl⟩
    | true =>
      cases k with
      | zero => exact absurd (hbr (by omega)) (by simp)
      | succ k =>
        obtain ⟨r2, h2, hp2, hb2⟩ := ih k (i0 + 1) s1 (by omega) hp1
          (fun i s hi hp => by
            obtain ⟨r, hr, hpr, hbr⟩ := hb i s (by omega) hp
            exact ⟨r, hr, hpr, fun hik => hbr (by omega)⟩)
        exact ⟨r2, by simp only [forUpBrkGo, h1, bind, Except.bind, h2, if_true], hp2, hb2⟩

theorem forUpBrk_brk_ok {σ : Type} (P : σ → Prop) (body : Int → σ → M (σ × Bool)) (lo hi : Int) (s : σ)
    (k : Nat) (hk : k < hangLimit) (hs : P s)
    (hb : ∀ i s, lo ≤ i → P s → ∃ r, body i s = .ok r ∧ P r.1 ∧ (lo + k ≤ i → r.2 = false)) :
    ∃ s', forUpBrk lo hi body s = .ok s' ∧ P s' := by
  by_cases hn : hi + 1 - lo ≤ (hangLimit : Int)
  · exact forUpBrk_ok P body lo hi s hn hs (fun i s h1 _ hp => let ⟨r, hr, hpr, _⟩ := hb i s h1 hp; ⟨r, hr, hpr⟩)
  · unfold forUpBrk
    rw [if_neg (by omega)]
    obtain ⟨⟨s', b⟩, hr, hp, hbk⟩ := forUpBrkGo_brk P body hangLimit k lo s hk hs hb
    simp only at hbk hp
    subst hbk
    exact ⟨s', by rw [hr]; rfl, hp⟩

/-- the single shift: only `cs` changes -/
def printPre (e : Emu) : Emu :=
  if e.cs.ss then { e with cs := { e.cs with sel := e.cs.saved } } else e

/-- the charset translation: only the glyph changes -/
def printGlyph (e : Emu) (g0 : G) : G :=
  match g0 with
  | [b] => if e.cs.desig e.cs.sel = 1 then (lookupSpecial b).getD g0 else g0
  | _ => g0

/-- the cursor advance (with F103 repaired) -/
def printAdvance (e : Emu) (wi : Int) : Emu :=
  let e :=
    if !e.mode.decawm && decide (e.cur.col + wi > e.right) then e
    else { e with cur := { e.cur with col := e.cur.col + wi } }
  let e :=
    if decide (e.cur.col > e.right + 1) then { e with cur := { e.cur with col := e.right + 1 } } else e
  if decide (e.cur.col ≥ e.right + 1) && e.mode.decawm then { e with lastCol := true } else e

/-- the write phase at the clamped position `(rw, col)` -/
def printWrite (e : Emu) (g : G) (w : Nat) (col rw : Int) : M Emu :=
  if w = 0 then .ok e
  else do
    let cell : ECell := { g := g, w := w, st := e.cur.st }
    let row ← getI e.active rw
    let row' ← setI row col cell
    let g1 ← setI e.active rw row'
    let g2 ← forUpBrk 1 ((w : Int) - 1) (fun i gr =>
      if col + i > e.right then .ok (gr, false)
      else do
        let gr' ← modCell gr rw (col + i) (fun c => { c with g := [32], st := e.cur.st })
        .ok (gr', true)) g1
    .ok (printAdvance (e.setActive g2) w)

def printK2 (col0 rw0 : Int) (g : G) (w : Nat) (e : Emu) : M Emu :=
  printWrite e g w (if col0 > e.width - 1 then e.width - 1 else col0)
    (if rw0 > e.height - 1 then e.height - 1 else rw0)

/-- the insert-mode phase (with F16 repaired), then the write phase -/
def printK1 (g : G) (w : Nat) (e : Emu) : M Emu :=
  if e.mode.irm = true then do
    let line ← getI e.active e.cur.row
    let line' ← forDown e.right (e.cur.col + (w : Int)) (fun i line => do
        let x ← getI line (i - (w : Int))
        setI line i x) line
    let g' ← setI e.active e.cur.row line'
    printK2 e.cur.col e.cur.row g w (e.setActive g')
  else printK2 e.cur.col e.cur.row g w e

/-- the autowrap phase, then the rest -/
def printK0 (g : G) (w : Nat) (e : Emu) : M Emu :=
  if ((e.lastCol || decide (e.cur.col + (w : Int) - 1 > e.right)) && e.mode.decawm) = true then do
    let e' := { e with lastCol := false }
    let g' ← modCell e'.active e'.cur.row (e'.width - 1) (fun c => { c with wrapped := true })
    let e1 ← nel (e'.setActive g')
    printK1 g w e1
  else printK1 g w e

/-- `print` of the model (current code) is the composition of the phases; the shape follows the
    join points of the `do` block, so this holds by unfolding. -/
theorem print_eq (e : Emu) (g0 : G) (w : Nat) :
    print Fixes.current e g0 w = printK0 (printGlyph e g0) w (printPre e) := rfl

theorem printPre_inv {e : Emu} {rows cols : Nat} (h : EmuInv e rows cols) : EmuInv (printPre e) rows cols := by
  unfold printPre
  split
  · exact { h with }
  · exact h

theorem printAdvance_inv {e : Emu} {rows cols : Nat} (h : EmuInv e rows cols) (w : Nat) :
    EmuInv (printAdvance e w) rows cols := by
  have := h.colLo; have := h.colHi; have := h.right
  unfold printAdvance
  simp only
  split <;> split <;> split <;>
    refine { h with colLo := ?_, colHi := ?_ } <;>
    simp only [decide_eq_true_eq, Bool.and_eq_true, Bool.not_eq_true'] at * <;> omega

theorem printWrite_safe {e : Emu} {rows cols : Nat} (h : EmuInv e rows cols) (d : Dim rows cols)
    (g : G) (w : Nat) (col rw : Int) (hc0 : 0 ≤ col) (hc1 : col < cols) (hr0 : 0 ≤ rw) (hr1 : rw < rows) :
    Safe rows cols (printWrite e g w col rw) := by
  have hg := active_ok h
  have hright := h.right
  have hcm := d.cmax
  unfold printWrite
  split
  · exact Safe.ok h
  · obtain ⟨row, hrow, hlen⟩ := getRow_ok hg rw hr0 hr1
    have hs1 := setI_ok row col { g := g, w := w, st := e.cur.st } hc0 (by rw [hlen]; exact hc1)
    have hs2 := setI_ok e.active rw (row.set col.toNat { g := g, w := w, st := e.cur.st }) hr0
      (by rw [hg.len]; exact hr1)
    have hg1 : GridOk (e.active.set rw.toNat (row.set col.toNat { g := g, w := w, st := e.cur.st })) rows cols :=
      gridOk_set hg _ _ (by simp [hlen])
    simp only [hrow, hs1, hs2, Except.ok_bind]
    refine safe_bind (fun g => GridOk g rows cols)
      (forUpBrk_brk_ok _ _ _ _ _ cols (by unfold hangLimit; omega) hg1 ?_)
      fun g2 hok2 => Safe.ok (printAdvance_inv (setActive_inv h hok2) w)
    intro i gr hi hgr
    split
    · exact ⟨(gr, false), rfl, hgr, fun _ => rfl⟩
    · rename_i hlt
      obtain ⟨gr', hgr', hok'⟩ := modCell_ok hgr rw (col + i)
        (fun c => { c with g := [32], st := e.cur.st }) hr0 hr1 (by omega) (by omega)
      refine ⟨(gr', true), by simp only [hgr', bind, Except.bind], hok', ?_⟩
      intro hik
      omega

theorem printK2_safe {e : Emu} {rows cols : Nat} (h : EmuInv e rows cols) (d : Dim rows cols)
    (g : G) (w : Nat) (col0 rw0 : Int) (hc0 : 0 ≤ col0) (hr0 : 0 ≤ rw0) :
    Safe rows cols (printK2 col0 rw0 g w e) := by
  have hh := height_eq h
  have hw := width_eq h d.r1
  have := d.r1; have := d.c1
  unfold printK2
  rw [hh, hw]
  apply printWrite_safe h d <;> split <;> omega

theorem printK1_safe {e : Emu} {rows cols : Nat} (h : EmuInv e rows cols) (d : Dim rows cols)
    (g : G) (w : Nat) : Safe rows cols (printK1 g w e) := by
  have hg := active_ok h
  have hright := h.right
  have hcm := d.cmax
  have hc0 := h.colLo
  unfold printK1
  split
  · obtain ⟨line, hl, hlen⟩ := getRow_ok hg e.cur.row h.rowLo h.rowHi
    simp only [hl, Except.ok_bind]
    refine safe_bind (fun l : Row => l.length = cols)
      (forDown_ok _ _ _ _ _ (by rw [hangLimit_val]; omega) hlen ?_) fun line' hlen' => ?_
    · intro i l h1 h2 hll
      obtain ⟨x, hx, _⟩ := getI_ok l (i - (w : Int)) (by omega) (by omega)
      have hs := setI_ok l i x (by omega) (by omega)
      simp only [hx, hs, Except.ok_bind]
      exact ⟨_, rfl, by simp [hll]⟩
    · have hs := setI_ok e.active e.cur.row line' h.rowLo (by rw [hg.len]; exact h.rowHi)
      simp only [hs, Except.ok_bind]
      exact printK2_safe (setActive_inv h (gridOk_set hg _ _ hlen')) d g w _ _ hc0 h.rowLo
  · exact printK2_safe h d g w _ _ hc0 h.rowLo

theorem printK0_safe {e : Emu} {rows cols : Nat} (h : EmuInv e rows cols) (d : Dim rows cols)
    (g : G) (w : Nat) : Safe rows cols (printK0 g w e) := by
  unfold printK0
  split
  · have h' := inv_lastCol h false
    have hw := width_eq h' d.r1
    have := d.c1
    obtain ⟨g', hg', hok'⟩ := modCell_ok (active_ok h') e.cur.row ({ e with lastCol := false }.width - 1)
      (fun c => { c with wrapped := true }) h.rowLo h.rowHi (by rw [hw]; omega) (by rw [hw]; omega)
    obtain ⟨e1, he1, hi1⟩ := nel_safe (setActive_inv h' hok') d
    simp only [hg', he1, Except.ok_bind]
    exact printK1_safe hi1 d g w
  · exact printK1_safe h d g w

/-- `print` never panics or hangs and re-establishes the invariant: every glyph, every width
    (zero, wide, wider than the screen), insert mode, autowrap on or off, pending wrap. -/
theorem print_safe {e : Emu} {rows cols : Nat} (h : EmuInv e rows cols) (d : Dim rows cols)
    (g : G) (w : Nat) : Safe rows cols (print Fixes.current e g w) := by
  rw [print_eq]
  exact printK0_safe (printPre_inv h) d _ w

theorem reflowFold_safe {rows cols : Nat} (d : Dim rows cols) (cells : Row) :
    ∀ (acc : Emu × Bool), EmuInv acc.1 rows cols →
      ∃ r, cells.foldlM (fun (acc : Emu × Bool) cell => do
        let e := { acc.1 with cur := { acc.1.cur with st := cell.st } }
        let e ← print Fixes.current e cell.g cell.w
        .ok (e, cell.wrapped)) acc = .ok r ∧ EmuInv r.1 rows cols := by
  induction cells with
  | nil => intro acc h; exact ⟨acc, rfl, h⟩
  | cons c cs ih =>
    intro acc h
    obtain ⟨e1, he1, hi1⟩ := print_safe (inv_pen h c.st) d c.g c.w
    simp only [List.foldlM_cons, he1, Except.ok_bind]
    exact ih (e1, c.wrapped) hi1

theorem reflowRow_safe {e : Emu} {rows cols : Nat} (h : EmuInv e rows cols) (d : Dim rows cols)
    (cells : Row) : ∃ r, reflowRow Fixes.current e cells = .ok r ∧ EmuInv r.1 rows cols := by
  unfold reflowRow
  exact reflowFold_safe d cells (e, false) h

theorem reflow_safe {rows cols : Nat} (d : Dim rows cols) (last : Int) (old : List Row) :
    ∀ (k : Nat) (e : Emu), EmuInv e rows cols → Safe rows cols (reflow Fixes.current last old k e) := by
  induction old with
  | nil => intro k e h; exact Safe.ok h
  | cons r rest ih =>
    intro k e h
    unfold reflow
    split
    · exact Safe.ok h
    · obtain ⟨⟨e1, wr⟩, he1, hi1⟩ := reflowRow_safe h d r
      simp only [he1, Except.ok_bind]
      cases wr with
      | false =>
        obtain ⟨e2, he2, hi2⟩ := nel_safe hi1 d
        simp only [Bool.not_false, if_true, he2, Except.ok_bind]
        exact ih (k + 1) e2 hi2
      | true =>
        simp only [Bool.not_true, Bool.false_eq_true, if_false]
        exact ih (k + 1) e1 hi1

/-- resize(): a saved cursor after the F19 clamp -/
def clampSaved (s : Saved) (w h : Int) : Saved :=
  { s with cur := { s.cur with row := if s.cur.row > h - 1 then h - 1 else s.cur.row,
                               col := if s.cur.col > w - 1 then w - 1 else s.cur.col } }

/-- resize(): the state before the old screen is re-printed (current code) -/
def resizeInit (e : Emu) (w h : Int) : Emu :=
  { e with alt := blankGrid w.toNat h.toNat, primary := blankGrid w.toNat h.toNat,
           savedP := clampSaved e.savedP w h, savedA := clampSaved e.savedA w h,
           bottom := h - 1, right := w - 1, top := 0,
           cur := { e.cur with row := 0, col := 0 }, lastCol := false, altActive := false }

theorem resize_eq (e : Emu) (w h : Int) :
    resize Fixes.current e w h =
      (if w < 0 ∨ h < 0 then .error .oob
       else do
        let e1 ← reflow Fixes.current e.cur.row e.primary 0 (resizeInit e w h)
        .ok { e1 with cur := { e1.cur with st := e.cur.st }, altActive := e1.mode.smcup }) := rfl

theorem clampSaved_ok {s : Saved} {w h : Int} (hw : 1 ≤ w) (hh : 1 ≤ h)
    (hr : 0 ≤ s.cur.row) (hc : 0 ≤ s.cur.col) : SavedOk (clampSaved s w h) h.toNat w.toNat := by
  unfold clampSaved
  refine ⟨?_, ?_, ?_, ?_⟩ <;> simp only <;> split <;> omega

/-- What `resize` needs of the OLD state: nothing about its grids, cursor or margins. -/
structure ResizePre (e : Emu) : Prop where
  left0 : e.left = 0
  savedPRow : 0 ≤ e.savedP.cur.row
  savedPCol : 0 ≤ e.savedP.cur.col
  savedARow : 0 ≤ e.savedA.cur.row
  savedACol : 0 ≤ e.savedA.cur.col
  tabs : ∀ t ∈ e.tabs, 0 ≤ t

theorem resizeInit_inv {e : Emu} (p : ResizePre e) {w h : Int} (hw : 1 ≤ w) (hh : 1 ≤ h) :
    EmuInv (resizeInit e w h) h.toNat w.toNat := by
  unfold resizeInit
  exact {
    prim := blankGrid_ok _ _
    alt := blankGrid_ok _ _
    rowLo := by simp only; omega
    rowHi := by simp only; omega
    colLo := by simp only; omega
    colHi := by simp only; omega
    topLo := by simp only; omega
    topLe := by simp only; omega
    botHi := by simp only; omega
    left0 := p.left0
    right := by simp only; omega
    savedP := clampSaved_ok hw hh p.savedPRow p.savedPCol
    savedA := clampSaved_ok hw hh p.savedARow p.savedACol
    tabs := p.tabs }

theorem inv_altActive' {e : Emu} {rows cols : Nat} (h : EmuInv e rows cols) (b : Bool) :
    EmuInv { e with altActive := b } rows cols := { h with }

theorem resize_safe_gen {e : Emu} (p : ResizePre e) (w h : Int)
    (hw1 : 1 ≤ w) (hw2 : w ≤ 65535) (hh1 : 1 ≤ h) (hh2 : h ≤ 65535) :
    ∃ e', resize Fixes.current e w h = .ok e' ∧ EmuInv e' h.toNat w.toNat := by
  have d := Dim.ofInt hw1 hw2 hh1 hh2
  have hneg : ¬ (w < 0 ∨ h < 0) := by omega
  obtain ⟨e1, he1, hi1⟩ := reflow_safe d e.cur.row e.primary 0 _ (resizeInit_inv p hw1 hh1)
  rw [resize_eq, if_neg hneg, he1, Except.ok_bind]
  exact ⟨_, rfl, { hi1 with }⟩

theorem resizePre_of_inv {e : Emu} {rows cols : Nat} (h : EmuInv e rows cols) : ResizePre e :=
  ⟨h.left0, h.savedP.rowLo, h.savedP.colLo, h.savedA.rowLo, h.savedA.colLo, h.tabs⟩

theorem resize_safe {e : Emu} {rows cols : Nat} (h : EmuInv e rows cols) (_d : Dim rows cols) (w hh : Int)
    (hw1 : 1 ≤ w) (hw2 : w ≤ 65535) (hh1 : 1 ≤ hh) (hh2 : hh ≤ 65535) :
    ∃ e', resize Fixes.current e w hh = .ok e' ∧ EmuInv e' hh.toNat w.toNat :=
  resize_safe_gen (resizePre_of_inv h) w hh hw1 hw2 hh1 hh2

theorem resizePre_init : ResizePre Emu.init :=
  ⟨rfl, by decide, by decide, by decide, by decide, defaultTabs_nonneg⟩

theorem new_safe (w h : Int) (hw1 : 1 ≤ w) (hw2 : w ≤ 65535) (hh1 : 1 ≤ h) (hh2 : h ≤ 65535) :
    ∃ e', Emu.new Fixes.current w h = .ok e' ∧ EmuInv e' h.toNat w.toNat := by
  unfold Emu.new
  exact resize_safe_gen resizePre_init w h hw1 hw2 hh1 hh2

/-- Non-vacuity: states satisfying `EmuInv` and `Dim` exist (e.g. a fresh 80×24 terminal), so
    `print_safe` / `resize_safe` are not vacuous. -/
example : ∃ e, EmuInv e 24 80 ∧ Dim 24 80 := by
  obtain ⟨e, _, h⟩ := new_safe 80 24 (by decide) (by decide) (by decide) (by decide)
  exact ⟨e, h, ⟨by decide, by decide, by decide, by decide⟩⟩

end VaxisModel.Lemmas.Emu
