/-
Exact results of the emulator on the two sequences whose payload is cut at the first `;` (OSC 8) or is a single parameter (DECSCUSR).
-/
import VaxisModel.Lemmas.EmuBasic
import VaxisModel.Lemmas.ListBasic

namespace VaxisModel.Lemmas.Emu
open VaxisModel.Model.Emu

theorem decscusr_eq (e : Emu) (n : Int) :
    csi Fixes.current e [32, 113] [(n, [])] = .ok { e with cur := { e.cur with shape := clampParam n } } := rfl

theorem cutSemi_at (P U : List Nat) (hP : 59 ∉ P) : cutSemi (P ++ 59 :: U) = (P, U, true) := by
  unfold cutSemi List.span
  rw [ListBasic.span_loop_append_cons _ 59 U (by simp) P [] (by intro y hy; simp; intro h; exact hP (h ▸ hy))]
  simp

end VaxisModel.Lemmas.Emu
