/-
Helpers for the `Witness/Fnn.lean` files of C05/C06: run a list of operations on the emulator model
under a given set of repairs (`Fixes`) and observe the outcome through Bool observers (so that
`decide` can check it).
-/
import VaxisModel.Model.Emu
import VaxisModel.Model.EmuAbs
import VaxisModel.Spec.Term

namespace VaxisModel.Lemmas.EmuWitness
open VaxisModel.Model.Emu VaxisModel.Model.EmuAbs VaxisModel.Spec

def runF (fx : Fixes) (e : Emu) : List EOp → M Emu
  | [] => .ok e
  | op :: rest => do
    let (e', _) ← emuStepF fx e op
    runF fx e' rest

def play (fx : Fixes) (w h : Int) (ops : List EOp) : M Emu := do
  let e ← Emu.new fx w h
  runF fx e ops

def panics (r : M Emu) : Bool := match r with | .error .oob => true | _ => false
def hangs (r : M Emu) : Bool := match r with | .error .hang => true | _ => false

def gridOkB (g : Grid) (rows cols : Nat) : Bool :=
  g.length == rows && g.all (fun r => r.length == cols)

/-- The state clause of C05 as a Bool (cf. `EmuInv`). -/
def invB (e : Emu) (rows cols : Nat) : Bool :=
  gridOkB e.primary rows cols && gridOkB e.alt rows cols &&
  decide (0 ≤ e.cur.row) && decide (e.cur.row < rows) && decide (0 ≤ e.cur.col) && decide (e.cur.col ≤ cols) &&
  decide (0 ≤ e.top) && decide (e.top ≤ e.bottom) && decide (e.bottom < rows) &&
  decide (e.left = 0) && decide (e.right = (cols : Int) - 1)

/-- ran without panic/hang and the final state satisfies the state clause -/
def fine (r : M Emu) (rows cols : Nat) : Bool := match r with | .ok e => invB e rows cols | _ => false
/-- ran without panic/hang but the final state violates the state clause -/
def breaksInv (r : M Emu) (rows cols : Nat) : Bool := match r with | .ok e => !invB e rows cols | _ => false

/-- Run the reference terminal on the tokens of the operations, always taking the first accepted
    state; `none` if an operation is outside the vocabulary or unconstrained. -/
def specRun (t : Term.T) : List EOp → Option Term.T
  | [] => some t
  | op :: rest =>
    match tokOf op with
    | none => none
    | some tok =>
      match Term.step t tok with
      | .accept (t' :: _) => specRun t' rest
      | _ => none

/-- Does the emulator's final state show what the reference terminal requires (first alternative)? -/
def agrees (fx : Fixes) (w h : Nat) (ops : List EOp) : Bool :=
  match play fx w h ops, specRun (Term.T.init h w) ops with
  | .ok e, some t => t.accepts (abs e)
  | _, _ => false

/-- Both ran, and the emulator's final state is NOT what the reference requires. -/
def disagrees (fx : Fixes) (w h : Nat) (ops : List EOp) : Bool :=
  match play fx w h ops, specRun (Term.T.init h w) ops with
  | .ok e, some t => !t.accepts (abs e)
  | _, _ => false

/-- as `specRun`, over the extended vocabulary `tokOfX` -/
def specRunX (t : Term.T) : List EOp → Option Term.T
  | [] => some t
  | op :: rest =>
    match tokOfX op with
    | none => none
    | some tok =>
      match Term.step t tok with
      | .accept (t' :: _) => specRunX t' rest
      | _ => none

def agreesX (fx : Fixes) (w h : Nat) (ops : List EOp) : Bool :=
  match play fx w h ops, specRunX (Term.T.init h w) ops with
  | .ok e, some t => t.accepts (abs e)
  | _, _ => false

def disagreesX (fx : Fixes) (w h : Nat) (ops : List EOp) : Bool :=
  match play fx w h ops, specRunX (Term.T.init h w) ops with
  | .ok e, some t => !t.accepts (abs e)
  | _, _ => false

/-- as `specRunX`, over the oracle's vocabulary `tokOfJ` (colon sub-parameters outside SGR = ignored) -/
def specRunJ (t : Term.T) : List EOp → Option Term.T
  | [] => some t
  | op :: rest =>
    match tokOfJ op with
    | none => none
    | some tok =>
      match Term.step t tok with
      | .accept (t' :: _) => specRunJ t' rest
      | _ => none

def agreesJ (fx : Fixes) (w h : Nat) (ops : List EOp) : Bool :=
  match play fx w h ops, specRunJ (Term.T.init h w) ops with
  | .ok e, some t => t.accepts (abs e)
  | _, _ => false

def disagreesJ (fx : Fixes) (w h : Nat) (ops : List EOp) : Bool :=
  match play fx w h ops, specRunJ (Term.T.init h w) ops with
  | .ok e, some t => !t.accepts (abs e)
  | _, _ => false

def pr (g : List Nat) (w : Nat := 1) : EOp := .print g w
def csi1 (final : Nat) (ps : List Int := []) : EOp := .csi [final] (ps.map fun p => (p, []))

end VaxisModel.Lemmas.EmuWitness
