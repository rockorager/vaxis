/-
`Except ε` as a monad, in the forms the proofs rewrite with: the laws stated with the constructors `.ok` / `.error` (core
states them with `pure`, which a goal unfolded to constructors does not show), and the inversion of a bind or a `map` that
succeeded. Core Lean only; no import, so that every model's lemma files can sit on it.
-/

namespace Except
universe u v
theorem ok_bind {ε : Type u} {α β : Type v} (a : α) (f : α → Except ε β) : (Except.ok a >>= f) = f a := rfl

theorem error_bind {ε : Type u} {α β : Type v} (e : ε) (f : α → Except ε β) : ((Except.error e : Except ε α) >>= f) = .error e := rfl

theorem bind_ok {ε : Type u} {α : Type v} (x : Except ε α) : (x >>= fun a => Except.ok a) = x := by
  cases x <;> rfl

theorem bind_bind {ε : Type u} {α β γ : Type v} (x : Except ε α) (f : α → Except ε β) (g : β → Except ε γ) :
    ((x >>= f) >>= g) = x >>= fun a => f a >>= g := by
  cases x <;> rfl

theorem ite_bind {ε : Type u} {α β : Type v} (c : Prop) [Decidable c] (a b : Except ε α) (f : α → Except ε β) :
    ((if c then a else b) >>= f) = if c then a >>= f else b >>= f := by
  split <;> rfl

theorem bind_eq_ok {ε : Type u} {α β : Type v} {x : Except ε α} {f : α → Except ε β} {b : β} (h : (x >>= f) = .ok b) :
    ∃ a, x = .ok a ∧ f a = .ok b := by
  cases x with
  | error e => cases h
  | ok a => exact ⟨a, rfl, h⟩

theorem map_eq_ok {ε : Type u} {α β : Type v} {x : Except ε α} {f : α → β} {b : β} (h : x.map f = .ok b) :
    ∃ a, x = .ok a ∧ f a = b := by
  cases x with
  | error e => cases h
  | ok a => exact ⟨a, rfl, Except.ok.inj h⟩

end Except
