/-
The integer arithmetic behind `Lemmas.FloatStd` — if two successive operations are each within
relative error `1/(F+1)` of their exact results (quotient `N/P ≈ a/b`, product `M/Q ≈ (N/P)·x`), the truncated
product is `⌊a·x/b⌋`, or one less exactly when the exact value is an integer, as long as `2·a·x ≤ F`; and two
rounded quotients compare like the exact ones as long as `2·a·d < F`.
-/
namespace VaxisModel.Lemmas.FloatArith

theorem fin_upper (E Y X : Nat) (s8 : X ≤ (E + 1) * (E + 1) * Y) (hR : 2 * Y < E) : X < E * E * (Y + 1) := by
  have e1 : (E + 1) * (E + 1) * Y = E * E * Y + 2 * (E * Y) + Y := by grind
  have e2 : E * E * (Y + 1) = E * E * Y + E * E := by grind
  have s9 : (2 * Y + 1) * E ≤ E * E := Nat.mul_le_mul_right E (by omega)
  have e3 : (2 * Y + 1) * E = 2 * (E * Y) + E := by grind
  omega

theorem fin_lower (F Y Z : Nat) (t8 : F * F * Y < (F + 1) * (F + 1) * Z) (hR : 2 * Y < F + 1) : Y ≤ Z := by
  apply Nat.le_of_not_lt
  intro hlt
  have u1 : (F + 1) * (F + 1) * (Z + 1) ≤ (F + 1) * (F + 1) * Y := Nat.mul_le_mul_left _ hlt
  have e1 : (F + 1) * (F + 1) * (Z + 1) = (F + 1) * (F + 1) * Z + (F * F + 2 * F + 1) := by grind
  have e2 : (F + 1) * (F + 1) * Y = F * F * Y + 2 * (F * Y) + Y := by grind
  have u2 : (2 * Y) * F ≤ F * F := Nat.mul_le_mul_right F (by omega)
  have e3 : (2 * Y) * F = 2 * (F * Y) := by grind
  omega

theorem trunc_upper (E a b x N P M Q r : Nat) (hP : 0 < P) (hQ : 0 < Q)
    (hD : E * (N * b) ≤ (E + 1) * (a * P))
    (hM : E * (M * P) ≤ (E + 1) * (N * x * Q))
    (hT : r * Q ≤ M)
    (hR : 2 * (a * x) < E) : r * b ≤ a * x := by
  have s1 : E * (r * Q * P) ≤ E * (M * P) := Nat.mul_le_mul_left _ (Nat.mul_le_mul_right _ hT)
  have s2 : E * (r * Q * P) ≤ (E + 1) * (N * x * Q) := Nat.le_trans s1 hM
  have s3 : (E * (r * P)) * Q ≤ ((E + 1) * (N * x)) * Q := by grind
  have s4 : E * (r * P) ≤ (E + 1) * (N * x) := Nat.le_of_mul_le_mul_right s3 hQ
  have s5 : (E * (r * P)) * (E * b) ≤ ((E + 1) * (N * x)) * (E * b) := Nat.mul_le_mul_right _ s4
  have s6 : ((E + 1) * x) * (E * (N * b)) ≤ ((E + 1) * x) * ((E + 1) * (a * P)) := Nat.mul_le_mul_left _ hD
  have s7 : (E * E * (r * b)) * P ≤ ((E + 1) * (E + 1) * (a * x)) * P := by grind
  have s8 : E * E * (r * b) ≤ (E + 1) * (E + 1) * (a * x) := Nat.le_of_mul_le_mul_right s7 hP
  have s10 : E * E * (r * b) < E * E * (a * x + 1) := fin_upper E (a * x) _ s8 hR
  have := Nat.lt_of_mul_lt_mul_left s10
  omega

theorem trunc_lower (F a b x N P M Q r : Nat) (hP : 0 < P) (hb : 0 < b)
    (hD : F * (a * P) ≤ (F + 1) * (N * b))
    (hM : F * (N * x * Q) ≤ (F + 1) * (M * P))
    (hT : M < (r + 1) * Q)
    (hR : 2 * (a * x) < F + 1) : a * x ≤ (r + 1) * b := by
  have t1 : (F + 1) * (M * P) < (F + 1) * ((r + 1) * Q * P) :=
    Nat.mul_lt_mul_of_pos_left (Nat.mul_lt_mul_of_pos_right hT hP) (by omega)
  have t2 : F * (N * x * Q) < (F + 1) * ((r + 1) * Q * P) := Nat.lt_of_le_of_lt hM t1
  have t3 : (F * (N * x)) * Q < ((F + 1) * ((r + 1) * P)) * Q := by grind
  have t4 : F * (N * x) < (F + 1) * ((r + 1) * P) := Nat.lt_of_mul_lt_mul_right t3
  have t5 : (F * (N * x)) * ((F + 1) * b) < ((F + 1) * ((r + 1) * P)) * ((F + 1) * b) :=
    Nat.mul_lt_mul_of_pos_right t4 (Nat.mul_pos (by omega) hb)
  have t6 : (F * x) * (F * (a * P)) ≤ (F * x) * ((F + 1) * (N * b)) := Nat.mul_le_mul_left _ hD
  have t7 : (F * F * (a * x)) * P < ((F + 1) * (F + 1) * ((r + 1) * b)) * P := by grind
  have t8 : F * F * (a * x) < (F + 1) * (F + 1) * ((r + 1) * b) := Nat.lt_of_mul_lt_mul_right t7
  exact fin_lower F (a * x) ((r + 1) * b) t8 hR

theorem cmp_lt (F a b c d N1 P1 N2 P2 : Nat) (hP1 : 0 < P1) (hP2 : 0 < P2)
    (hU1 : (F + 1) * (N1 * b) ≤ (F + 2) * (a * P1))
    (hL2 : F * (c * P2) ≤ (F + 1) * (N2 * d))
    (hlt : a * d < c * b) (hR : 2 * (a * d) < F) : N1 * P2 < N2 * P1 := by
  apply Nat.lt_of_not_le
  intro hge
  have c1 : ((F + 1) * (F + 1) * (d * b)) * (N2 * P1) ≤ ((F + 1) * (F + 1) * (d * b)) * (N1 * P2) :=
    Nat.mul_le_mul_left _ hge
  have c2 : (F * (c * P2)) * ((F + 1) * (b * P1)) ≤ ((F + 1) * (N2 * d)) * ((F + 1) * (b * P1)) :=
    Nat.mul_le_mul_right _ hL2
  have c3 : ((F + 1) * (N1 * b)) * ((F + 1) * (d * P2)) ≤ ((F + 2) * (a * P1)) * ((F + 1) * (d * P2)) :=
    Nat.mul_le_mul_right _ hU1
  have c4 : ((F + 1) * (F * (c * b))) * (P1 * P2) ≤ ((F + 1) * ((F + 2) * (a * d))) * (P1 * P2) := by grind
  have c5 : (F + 1) * (F * (c * b)) ≤ (F + 1) * ((F + 2) * (a * d)) :=
    Nat.le_of_mul_le_mul_right c4 (Nat.mul_pos hP1 hP2)
  have c6 : F * (c * b) ≤ (F + 2) * (a * d) := Nat.le_of_mul_le_mul_left c5 (by omega)
  have c7 : F * (a * d + 1) ≤ F * (c * b) := Nat.mul_le_mul_left _ hlt
  have e1 : F * (a * d + 1) = F * (a * d) + F := by grind
  have e2 : (F + 2) * (a * d) = F * (a * d) + 2 * (a * d) := by grind
  omega

end VaxisModel.Lemmas.FloatArith
