/-
The float steps of `resizeImage` from the standard model of floating-point arithmetic.  `StdModel F` says of the two
float computations only what IEEE-754 guarantees of every single operation on doubles in the normal range — the result
is within relative error 2⁻⁵³ of the exact result (`Rounds`), conversions of the integers involved are exact, an
operation is a function of its exact result — stated over the integers (a value is any fraction `N/P`; no
representation is assumed).  Below 2²⁶ in every dimension `Sound` follows from it (`clamp_sound`, `resizeDims_clamp`).
-/
import VaxisModel.Lemmas.ImageFit
import VaxisModel.Lemmas.FloatArith

namespace VaxisModel.Lemmas.FloatStd
open VaxisModel.Model.ImageFit VaxisModel.Gen.ImageConsts VaxisModel.Lemmas.FloatArith

/-- 2⁵³ − 1. -/
def Em : Nat := 9007199254740991

/-- The value `N/P` is within relative error 2⁻⁵³ of `a/b`. -/
def Rounds (N P a b : Nat) : Prop :=
  0 < P ∧ (Em + 1) * (N * b) ≤ (Em + 2) * (a * P) ∧ Em * (a * P) ≤ (Em + 1) * (N * b)

structure StdModel (F : FloatOps) : Prop where
  /-- `int((float64(a)/float64(b)) * float64(x))`: a quotient within 2⁻⁵³ of `a/b`, a product within 2⁻⁵³ of
      quotient · x, truncated toward zero. -/
  scale : ∀ a b x, 0 < b → ∃ N P M Q, Rounds N P a b ∧ Rounds M Q (N * x) P ∧
    F.scale a b x * Q ≤ M ∧ M < (F.scale a b x + 1) * Q
  /-- comparing `float64(a)/float64(b)` with `float64(c)/float64(d)`: both quotients rounded, the outcome is the
      comparison of the rounded values, and equal exact quotients round to equal values. -/
  cmp : ∀ a b c d, 0 < b → 0 < d → ∃ N1 P1 N2 P2, Rounds N1 P1 a b ∧ Rounds N2 P2 c d ∧
    F.cmp a b c d = compare (N1 * P2) (N2 * P1) ∧ (a * d = c * b → N1 * P2 = N2 * P1)

theorem rounds_self (a b : Nat) (hb : 0 < b) : Rounds a b a b :=
  ⟨hb, Nat.mul_le_mul_right _ (by omega), Nat.mul_le_mul_right _ (by omega)⟩

theorem exactOps_std : StdModel exactOps where
  scale a b x hb :=
    ⟨a, b, a * x, b, rounds_self a b hb, rounds_self (a * x) b hb, Nat.div_mul_le_self _ _,
      show a * x < (a * x / b + 1) * b from Nat.mul_comm b _ ▸ Nat.lt_mul_div_succ (a * x) hb⟩
  cmp a b c d hb hd := ⟨a, b, c, d, rounds_self a b hb, rounds_self c d hd, rfl, fun h => h⟩

theorem scale_in_range (F : FloatOps) (hS : StdModel F) (a b x : Nat) (hb : 0 < b) (hR : 2 * (a * x) < Em + 1) :
    F.scale a b x * b ≤ a * x ∧ a * x ≤ (F.scale a b x + 1) * b := by
  obtain ⟨N, P, M, Q, ⟨hP, hU, hL⟩, ⟨_, hMU, hML⟩, hT1, hT2⟩ := hS.scale a b x hb
  have hQ : 0 < Q := by
    rcases Nat.eq_zero_or_pos Q with h | h
    · rw [h] at hT2; simp at hT2
    · exact h
  exact ⟨trunc_upper (Em + 1) a b x N P M Q _ hP hQ hU hMU hT1 hR,
         trunc_lower Em a b x N P M Q _ hP hb hL hML hT2 hR⟩

theorem cmp_in_range (F : FloatOps) (hS : StdModel F) (a b c d : Nat) (hb : 0 < b) (hd : 0 < d)
    (h1 : 2 * (a * d) < Em) (h2 : 2 * (c * b) < Em) : F.cmp a b c d = ratCmp a b c d := by
  obtain ⟨N1, P1, N2, P2, ⟨hP1, hU1, hL1⟩, ⟨hP2, hU2, hL2⟩, hc, hfun⟩ := hS.cmp a b c d hb hd
  rw [hc, ratCmp]
  rcases Nat.lt_trichotomy (a * d) (c * b) with hlt | heq | hgt
  · have := cmp_lt Em a b c d N1 P1 N2 P2 hP1 hP2 hU1 hL2 hlt h1
    rw [Nat.compare_eq_lt.mpr this, Nat.compare_eq_lt.mpr hlt]
  · rw [Nat.compare_eq_eq.mpr (hfun heq), Nat.compare_eq_eq.mpr heq]
  · have := cmp_lt Em c d a b N2 P2 N1 P1 hP2 hP1 hU2 hL1 hgt h2
    rw [Nat.compare_eq_gt.mpr this, Nat.compare_eq_gt.mpr hgt]

def clampOps (F : FloatOps) : FloatOps where
  cmp a b c d := if 2 * (a * d) < Em ∧ 2 * (c * b) < Em then F.cmp a b c d else ratCmp a b c d
  scale a b x := if 2 * (a * x) < Em + 1 then F.scale a b x else a * x / b

theorem clampOps_cmp (F : FloatOps) (a b c d : Nat) (h1 : 2 * (a * d) < Em) (h2 : 2 * (c * b) < Em) :
    (clampOps F).cmp a b c d = F.cmp a b c d := if_pos ⟨h1, h2⟩

theorem clampOps_scale (F : FloatOps) (a b x : Nat) (h : 2 * (a * x) < Em + 1) :
    (clampOps F).scale a b x = F.scale a b x := if_pos h

theorem clamp_sound (F : FloatOps) (hS : StdModel F) : Sound (clampOps F) where
  cmp_exact a b c d hb hd := by
    unfold clampOps
    simp only
    split
    · next h => exact cmp_in_range F hS a b c d hb hd h.1 h.2
    · rfl
  scale_le a b x hb := by
    unfold clampOps
    simp only
    split
    · next h => exact (scale_in_range F hS a b x hb h).1
    · exact VaxisModel.Lemmas.ImageFit.exactOps_sound.scale_le a b x hb
  scale_ge a b x hb := by
    unfold clampOps
    simp only
    split
    · next h => exact (scale_in_range F hS a b x hb h).2
    · exact VaxisModel.Lemmas.ImageFit.exactOps_sound.scale_ge a b x hb

/-- 2²⁶: below it in every dimension all products the code forms are in range. -/
def dimBound : Nat := 67108864

theorem in_range (a b : Nat) (ha : a < dimBound) (hb : b < dimBound) : 2 * (a * b) < Em := by
  have h1 : a * b ≤ (dimBound - 1) * (dimBound - 1) := Nat.mul_le_mul (by unfold dimBound at *; omega) (by unfold dimBound at *; omega)
  have h2 : (dimBound - 1) * (dimBound - 1) = 4503599493152769 := by decide
  unfold Em
  omega

/-- A cell count is at most the pixel count (a remainder needs `c ≥ 2`, so the `+ 1` is paid for). -/
theorem cells_le (ru : Bool) (x c n : Nat) (hx0 : 0 < x) (h : cells ru x c = .ok n) : n ≤ x := by
  unfold cells at h
  split at h
  · cases h
  · cases h
    have h0 := Nat.div_le_self x c
    have h1 := Nat.div_mul_le_self x c
    split
    · next hr =>
      have hx : x % c ≠ 0 := by
        have := (Bool.and_eq_true _ _ ▸ hr).2
        simpa using this
      have hc2 : 2 ≤ c := by
        rcases c with _ | _ | c
        · contradiction
        · exact absurd (Nat.mod_one x) hx
        · omega
      have : x / c * 2 ≤ x := Nat.le_trans (Nat.mul_le_mul_left _ hc2) h1
      omega
    · omega

theorem runArms_congr (F F' : FloatOps) (arms : List Arm) (o : Ordering) (wPix hPix w columns h lines : Nat)
    (hs : ∀ x, x = wPix ∨ x = hPix → F.scale w columns x = F'.scale w columns x ∧ F.scale h lines x = F'.scale h lines x) :
    runArms F arms o wPix hPix w columns h lines = runArms F' arms o wPix hPix w columns h lines := by
  induction arms with
  | nil => rfl
  | cons a rest ih =>
    unfold runArms
    have e : ∀ (f : Factor) (x : Nat), x = wPix ∨ x = hPix →
        applyFactor F f w columns h lines x = applyFactor F' f w columns h lines x := by
      intro f x hx
      cases f
      · rfl
      · exact (hs x hx).1
      · exact (hs x hx).2
    rw [e a.fw wPix (Or.inl rfl), e a.fh hPix (Or.inr rfl), ih]

/-- Below 2²⁶ in every dimension the clamp does nothing, so every theorem that assumes `Sound` applies to `F` itself
    under `StdModel F`. -/
theorem resizeDims_clamp (cfg : Cfg) (F : FloatOps) (wPix hPix w h cellW cellH : Nat)
    (hwp : 0 < wPix) (hhp : 0 < hPix)
    (h1 : wPix < dimBound) (h2 : hPix < dimBound) (h3 : w < dimBound) (h4 : h < dimBound) :
    resizeDimsWith cfg (clampOps F) wPix hPix w h cellW cellH = resizeDimsWith cfg F wPix hPix w h cellW cellH := by
  unfold resizeDimsWith
  cases hc : cells cfg.colsUp wPix cellW with
  | error e => rfl
  | ok columns =>
    cases hl : cells cfg.linesUp hPix cellH with
    | error e => rfl
    | ok lines =>
      simp only [bind, Except.bind, pure, Except.pure]
      have hcol : columns < dimBound := Nat.lt_of_le_of_lt (cells_le _ _ _ _ hwp hc) h1
      have hlin : lines < dimBound := Nat.lt_of_le_of_lt (cells_le _ _ _ _ hhp hl) h2
      have ecmp := clampOps_cmp F w columns h lines (in_range w lines h3 hlin) (in_range h columns h4 hcol)
      have escale : ∀ a b x, a < dimBound → x < dimBound → (clampOps F).scale a b x = F.scale a b x :=
        fun a b x ha hx => clampOps_scale F a b x (by have := in_range a x ha hx; omega)
      split
      · rfl
      · rw [ecmp]
        congr 1
        apply runArms_congr
        intro x hx
        have hxb : x < dimBound := by rcases hx with rfl | rfl <;> assumption
        exact ⟨escale w columns x h3 hxb, escale h lines x h4 hxb⟩

end VaxisModel.Lemmas.FloatStd
