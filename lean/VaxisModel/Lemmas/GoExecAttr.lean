/-
The three simp sets with which an interpreted Go body (`Model/GoInterp.lean`) is run symbolically on an environment whose
look-ups are known.  A run reads `simp only [go_exec, go_step, go_val, <the look-up facts of the environment>]`.
-/
import Lean.Meta.Tactic.Simp.RegisterCommand

/-- `go_exec`: expressions — the equations of `evalE` / `evalEs`, the interpreter's lemmas on results, operators and calls on
    evaluated arguments (`Lemmas/GoInterp.lean`), and the projections and constants of the body's context.  Tagged per
    context: in `Lemmas/KeyBodyEval.lean` (key.go) and in `Lemmas/TermBodyEval.lean` (widgets/term). -/
register_simp_attr go_exec

/-- `go_step`: statements (`Lemmas/GoInterp.lean`) — one equation per statement form, with what follows a statement entered
    only once its result is known (`thenSs`, `thenIf`, `thenSwitch`). -/
register_simp_attr go_step

/-- `go_val`: the functions that inspect a value by overlapping patterns — `hasErr`, `bind`, `bindAll`, `assignVals`, and
    `retOne`, `setResult`, `switchOn` (return, `|=` / `+=`, switch tag) — on each shape of value (`Lemmas/GoInterp.lean`), in
    place of their generated equations. -/
register_simp_attr go_val
