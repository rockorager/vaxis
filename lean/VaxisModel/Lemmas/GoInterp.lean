/-
Evaluation lemmas for the Go-body interpreter (`Model/GoInterp.lean`): they let `simp` run a
concrete body on symbolic inputs statement by statement (the continuation is only entered once the
state in front of it is known).
-/
import VaxisModel.Model.GoInterp
import VaxisModel.Lemmas.GoExecAttr

namespace VaxisModel.Lemmas.GoInterp
open VaxisModel.Model.GoBody VaxisModel.Model.GoInterp VaxisModel.Model.Key

@[simp] theorem andThen_norm (st : St) (f : St → R) : (R.norm st).andThen f = f st := rfl
@[simp] theorem andThen_ret (st : St) (v : V) (f : St → R) : (R.ret st v).andThen f = .ret st v := rfl
@[simp] theorem andThen_brk (st : St) (f : St → R) : (R.brk st).andThen f = .brk st := rfl
@[simp] theorem andThen_cont (st : St) (f : St → R) : (R.cont st).andThen f = .cont st := rfl
@[simp] theorem andThen_err (e : String) (f : St → R) : (R.err e).andThen f = .err e := rfl
theorem andThen_ite (p : Prop) [Decidable p] (a b : R) (f : St → R) :
    (if p then a else b).andThen f = if p then a.andThen f else b.andThen f := by split <;> rfl

@[simp] theorem branch_bool (x : Bool) (a b : Unit → R) : branch (.bool x) a b = if x = true then a () else b () := rfl

@[simp] theorem isTrue_bool (x : Bool) : (V.bool x).isTrue = x := rfl

@[simp] theorem afterSwitch_norm (st : St) : afterSwitch (.norm st) = .norm st := rfl
@[simp] theorem afterSwitch_ret (st : St) (v : V) : afterSwitch (.ret st v) = .ret st v := rfl
@[simp] theorem afterSwitch_brk (st : St) : afterSwitch (.brk st) = .norm st := rfl
@[simp] theorem afterSwitch_cont (st : St) : afterSwitch (.cont st) = .cont st := rfl
@[simp] theorem afterSwitch_err (e : String) : afterSwitch (.err e) = .err e := rfl
theorem afterSwitch_ite (p : Prop) [Decidable p] (a b : R) :
    afterSwitch (if p then a else b) = if p then afterSwitch a else afterSwitch b := by split <;> rfl

@[simp] theorem binop_land (x y : Bool) : binop .land (.bool x) (.bool y) = .bool (x && y) := by
  cases x <;> rfl
theorem binop_land_false (x : V) : binop .land (.bool false) x = .bool false := by
  cases x <;> rfl
@[simp] theorem binop_lor (x y : Bool) : binop .lor (.bool x) (.bool y) = .bool (x || y) := by
  cases x <;> rfl
@[simp] theorem binop_eq_int (x y : Int) : binop .eq (.int x) (.int y) = .bool (decide (x = y)) := rfl
@[simp] theorem binop_eq_str (x y : Str) : binop .eq (.str x) (.str y) = .bool (decide (x = y)) := rfl
@[simp] theorem binop_eq_bool (x y : Bool) : binop .eq (.bool x) (.bool y) = .bool (decide (x = y)) := rfl
@[simp] theorem binop_ne_int (x y : Int) : binop .ne (.int x) (.int y) = .bool (!decide (x = y)) := rfl
@[simp] theorem binop_ne_str (x y : Str) : binop .ne (.str x) (.str y) = .bool (!decide (x = y)) := rfl
@[simp] theorem binop_lt (x y : Int) : binop .lt (.int x) (.int y) = .bool (decide (x < y)) := rfl
@[simp] theorem binop_le (x y : Int) : binop .le (.int x) (.int y) = .bool (decide (x ≤ y)) := rfl
@[simp] theorem binop_gt (x y : Int) : binop .gt (.int x) (.int y) = .bool (decide (x > y)) := rfl
@[simp] theorem binop_ge (x y : Int) : binop .ge (.int x) (.int y) = .bool (decide (x ≥ y)) := rfl
@[simp] theorem binop_add (x y : Int) : binop .add (.int x) (.int y) = .int (x + y) := rfl
@[simp] theorem binop_sub (x y : Int) : binop .sub (.int x) (.int y) = .int (x - y) := rfl
@[simp] theorem binop_band (x y : Int) : binop .band (.int x) (.int y) = .int ((x.toNat &&& y.toNat : Nat) : Int) := rfl
@[simp] theorem binop_bor (x y : Int) : binop .bor (.int x) (.int y) = .int ((x.toNat ||| y.toNat : Nat) : Int) := rfl
@[simp] theorem binop_andNot (x y : Int) : binop .andNot (.int x) (.int y) = .int ((andNot x.toNat y.toNat : Nat) : Int) := rfl
@[simp] theorem unop_not (x : Bool) : unop .not (.bool x) = .bool (!x) := rfl

theorem retEnv_ite (p : Prop) [Decidable p] (a b : R) :
    (if p then a else b).retEnv = if p then a.retEnv else b.retEnv := by split <;> rfl
@[simp] theorem retBool_ret (st : St) (b : Bool) : (R.ret st (.bool b)).retBool = some b := rfl
@[simp] theorem retStr_ret (st : St) (s : Str) : (R.ret st (.str s)).retStr = some s := rfl
@[simp] theorem outRetStr_ret (st : St) (s : Str) : (R.ret st (.str s)).outRetStr = some (st.out, s) := rfl
@[simp] theorem outOnly_ret (st : St) : (R.ret st .unit).outOnly = some st.out := rfl
@[simp] theorem outOnly_norm (st : St) : (R.norm st).outOnly = some st.out := rfl
@[simp] theorem retEnv_ret (st : St) (v : V) : (R.ret st v).retEnv = some st.env := rfl

theorem ite_or_same {α : Type} (p q : Prop) [Decidable p] [Decidable q] (x y : α) :
    (if p then x else if q then x else y) = if p ∨ q then x else y := by
  by_cases p <;> by_cases q <;> simp [*]
theorem ite_and_same {α : Type} (p q : Prop) [Decidable p] [Decidable q] (x y : α) :
    (if p then (if q then x else y) else y) = if p ∧ q then x else y := by
  by_cases p <;> by_cases q <;> simp [*]

/-- A look-up in a literal table, unfolded entry by entry, is a chain of `if`s under `Option.elim` (no `match`, which would
    only fit its own matcher). -/
theorem elim_ite {α β : Type} (c : Prop) [Decidable c] (a : α) (rest : Option α) (d : β) (f : α → β) :
    (if c then some a else rest).elim d f = if c then f a else rest.elim d f := by split <;> rfl

theorem strOfRune_eq (r : Int) : strOfRune r = [if validRune r then r else 0xFFFD] := by
  unfold strOfRune; split <;> rfl

/-! `callFn` on the calls the bodies make.  `callFn` is a chain of `if fn = "…"` over some 25 names; the String simproc
decides each comparison outright, where `rfl` would decide it by reduction (a `String` is a byte array). -/
theorem callFn_string (c : Ctx) (env : Env) (r : Int) : callFn c env "string" [.int r] = .str (strOfRune r) := by
  unfold callFn; simp
theorem callFn_rune (c : Ctx) (env : Env) (r : Int) : callFn c env "rune" [.int r] = .int (toRune r) := by
  unfold callFn; simp
theorem callFn_int (c : Ctx) (env : Env) (r : Int) : callFn c env "int" [.int r] = .int r := by
  unfold callFn; simp
theorem callFn_isUpper (c : Ctx) (env : Env) (r : Int) : callFn c env "unicode.IsUpper" [.int r] = .bool (c.u.isUpper r) := by
  unfold callFn; simp [uniPred]
theorem callFn_isLower (c : Ctx) (env : Env) (r : Int) : callFn c env "unicode.IsLower" [.int r] = .bool (c.u.isLower r) := by
  unfold callFn; simp [uniPred]
theorem callFn_isLetter (c : Ctx) (env : Env) (r : Int) : callFn c env "unicode.IsLetter" [.int r] = .bool (c.u.isLetter r) := by
  unfold callFn; simp [uniPred]
theorem callFn_isGraphic (c : Ctx) (env : Env) (r : Int) : callFn c env "unicode.IsGraphic" [.int r] = .bool (c.u.isGraphic r) := by
  unfold callFn; simp [uniPred]
theorem callFn_isPrint (c : Ctx) (env : Env) (r : Int) : callFn c env "unicode.IsPrint" [.int r] = .bool (c.u.isPrint r) := by
  unfold callFn; simp [uniPred]
theorem callFn_toUpper (c : Ctx) (env : Env) (r : Int) : callFn c env "unicode.ToUpper" [.int r] = .int (c.u.toUpper r) := by
  unfold callFn; simp [uniMap]
theorem callFn_toLower (c : Ctx) (env : Env) (r : Int) : callFn c env "unicode.ToLower" [.int r] = .int (c.u.toLower r) := by
  unfold callFn; simp [uniMap]
theorem callFn_sprintf (c : Ctx) (env : Env) (f : Str) (rest : List V) :
    callFn c env "fmt.Sprintf" (.str f :: rest) = sprintfAux c.fmtD f false rest [] := by
  unfold callFn; simp
theorem callFn_bufString (c : Ctx) (env : Env) :
    callFn c env "buf.String" [] = (match env.lookup "buf" with | some (.str b) => .str b | _ => .err "buf.String") := by
  unfold callFn
  simp only [String.reduceEq, reduceIte, or_self]
  split <;> simp_all
theorem callFn_newBuffer (c : Ctx) (env : Env) : callFn c env "bytes.NewBuffer" [.unit] = .str [] := by
  unfold callFn; simp

theorem callStmt_writeString (c : Ctx) (st : St) (s : Str) :
    callStmt c st "vt.pty.WriteString" [.str s] = .norm { st with out := st.out ++ s } := by
  unfold callStmt; simp [hasErr]
theorem callStmt_noop (c : Ctx) (st : St) (fn : String) (h : c.noops.contains fn = true)
    (h1 : fn ≠ "vt.pty.WriteString") (h2 : fn ≠ "buf.WriteRune") (h3 : fn ≠ "buf.WriteString") :
    callStmt c st fn [] = .norm st := by
  have hm : fn ∈ c.noops := by simpa using h
  unfold callStmt; simp [hasErr, hm, h1, h2, h3]

@[go_step] theorem execSs_nil (c : Ctx) (st : St) : execSs c .nil st = .norm st := by
  simp only [execSs]

theorem andThen_assoc (r : R) (f g : St → R) : (r.andThen f).andThen g = r.andThen (fun st => (f st).andThen g) := by
  cases r <;> rfl

/-- `++` on statement lists (`Ss` is not `List S`): a body cut into pieces is run piece by piece. -/
def appendSs : Ss → Ss → Ss
  | .nil, q => q
  | .cons h t, q => .cons h (appendSs t q)

theorem execSs_append (c : Ctx) : ∀ (p q : Ss) (st : St),
    execSs c (appendSs p q) st = (execSs c p st).andThen (execSs c q)
  | .nil, q, st => by simp only [appendSs, execSs, andThen_norm]
  | .cons h t, q, st => by
    simp only [appendSs, execSs, andThen_assoc]
    congr 1; funext st'; exact execSs_append c t q st'

theorem execSs_cons2 (c : Ctx) (s1 s2 : S) (rest : Ss) (st : St) :
    execSs c (.cons s1 (.cons s2 rest)) st = (execSs c (.cons s1 (.cons s2 .nil)) st).andThen (fun st' => execSs c rest st') :=
  execSs_append c (.cons s1 (.cons s2 .nil)) rest st
theorem execSs_cons5 (c : Ctx) (s1 s2 s3 s4 s5 : S) (rest : Ss) (st : St) :
    execSs c (.cons s1 (.cons s2 (.cons s3 (.cons s4 (.cons s5 rest))))) st =
      (execSs c (.cons s1 (.cons s2 (.cons s3 (.cons s4 (.cons s5 .nil))))) st).andThen (fun st' => execSs c rest st') :=
  execSs_append c (.cons s1 (.cons s2 (.cons s3 (.cons s4 (.cons s5 .nil))))) rest st

/-! `execSs`, `.ifS` and `.switchS` continue with a function of the state the previous run leaves (`r.andThen fun st' => …`).
`simp` simplifies such a continuation under its binder, i.e. runs the whole rest of the body on an unknown state
(evaluating every stuck look-up in the closed constant table on the way) and then again once the state is known.
The operators below carry the rest as data; their `_norm` lemmas enter it when the state is there.  One equation per
statement form (`execS_*`) stands for the unfolding of `execS`. -/

def thenSs (c : Ctx) (t : Ss) (r : R) : R := r.andThen (execSs c t)
/-- `if init; cond { thn } else { els }` after its init statement -/
def thenIf (c : Ctx) (cond : E) (thn els : Ss) (r : R) : R :=
  r.andThen fun st1 => branch (evalE c st1.env cond) (fun _ => execSs c thn st1) (fun _ => execSs c els st1)
def switchOn (c : Ctx) (st : St) (cases : Cs) (tv : V) : R :=
  match tv with
  | .err e => .err e
  | _ => afterSwitch (execCs c tv st (fun _ => execDefault c st cases) cases)
@[go_val] theorem switchOn_int (c : Ctx) (st : St) (cases : Cs) (n : Int) :
    switchOn c st cases (.int n) = afterSwitch (execCs c (.int n) st (fun _ => execDefault c st cases) cases) := rfl
@[go_val] theorem switchOn_bool (c : Ctx) (st : St) (cases : Cs) (b : Bool) :
    switchOn c st cases (.bool b) = afterSwitch (execCs c (.bool b) st (fun _ => execDefault c st cases) cases) := rfl
@[go_val] theorem switchOn_str (c : Ctx) (st : St) (cases : Cs) (s : Str) :
    switchOn c st cases (.str s) = afterSwitch (execCs c (.str s) st (fun _ => execDefault c st cases) cases) := rfl


/-- `switch init; tag { cases }` after its init statement -/
def thenSwitch (c : Ctx) (tag : E) (cases : Cs) (r : R) : R :=
  r.andThen fun st1 => switchOn c st1 cases (match tag with | .nilv => V.bool true | _ => evalE c st1.env tag)

@[go_step] theorem execSs_seq (c : Ctx) (s : S) (t : Ss) (st : St) : execSs c (.cons s t) st = thenSs c t (execS c s st) := by
  simp only [execSs, thenSs]
/-- The same with the rest as a continuation: for a body whose paths share their tail (`andThen_ite` then copies one term, not
    one run per path). -/
theorem execSs_cons (c : Ctx) (s : S) (t : Ss) (st : St) :
    execSs c (.cons s t) st = (execS c s st).andThen (fun st' => execSs c t st') := execSs_seq c s t st
@[go_step] theorem thenSs_norm (c : Ctx) (t : Ss) (st : St) : thenSs c t (.norm st) = execSs c t st := rfl
@[go_step] theorem thenSs_ret (c : Ctx) (t : Ss) (st : St) (v : V) : thenSs c t (.ret st v) = .ret st v := rfl
@[go_step] theorem thenSs_brk (c : Ctx) (t : Ss) (st : St) : thenSs c t (.brk st) = .brk st := rfl
@[go_step] theorem thenSs_cont (c : Ctx) (t : Ss) (st : St) : thenSs c t (.cont st) = .cont st := rfl
@[go_step] theorem thenSs_err (c : Ctx) (t : Ss) (e : String) : thenSs c t (.err e) = .err e := rfl
theorem thenSs_ite (c : Ctx) (t : Ss) (p : Prop) [Decidable p] (a b : R) :
    thenSs c t (if p then a else b) = if p then thenSs c t a else thenSs c t b := by split <;> rfl

@[go_step] theorem execS_ifS (c : Ctx) (init : Ss) (cond : E) (thn els : Ss) (st : St) :
    execS c (.ifS init cond thn els) st = thenIf c cond thn els (execSs c init st) := by
  simp only [execS, thenIf]
@[go_step] theorem thenIf_norm (c : Ctx) (cond : E) (thn els : Ss) (st : St) :
    thenIf c cond thn els (.norm st) = branch (evalE c st.env cond) (fun _ => execSs c thn st) (fun _ => execSs c els st) := rfl
@[go_step] theorem execS_switchS (c : Ctx) (init : Ss) (tag : E) (cases : Cs) (st : St) :
    execS c (.switchS init tag cases) st = thenSwitch c tag cases (execSs c init st) := by
  simp only [execS, thenSwitch]
  rfl
@[go_step] theorem thenSwitch_norm (c : Ctx) (tag : E) (cases : Cs) (st : St) :
    thenSwitch c tag cases (.norm st) = switchOn c st cases (match tag with | .nilv => V.bool true | _ => evalE c st.env tag) := rfl
/-! The functions that inspect a value by overlapping patterns (`hasErr`, `bind`, `assignVals`), on each shape of value
the bodies produce.  Their generated equations carry side conditions ("the value is not an `err`, not a `tup` …") which
`simp` discharges by evaluating the value — also one that is still stuck, closed table look-ups inside it included;
these shape lemmas have none. -/

@[go_val] theorem hasErr_nil : hasErr [] = false := rfl
@[go_val] theorem hasErr_int (n : Int) (t : List V) : hasErr (.int n :: t) = hasErr t := rfl
@[go_val] theorem hasErr_str (s : Str) (t : List V) : hasErr (.str s :: t) = hasErr t := rfl
@[go_val] theorem hasErr_bool (b : Bool) (t : List V) : hasErr (.bool b :: t) = hasErr t := rfl
@[go_val] theorem hasErr_ints (l : List Int) (t : List V) : hasErr (.ints l :: t) = hasErr t := rfl
@[go_val] theorem hasErr_intss (l : List (List Int)) (t : List V) : hasErr (.intss l :: t) = hasErr t := rfl
@[go_val] theorem hasErr_strs (l : List Str) (t : List V) : hasErr (.strs l :: t) = hasErr t := rfl
@[go_val] theorem hasErr_struct (fs : List (String × V)) (t : List V) : hasErr (.struct fs :: t) = hasErr t := rfl
@[go_val] theorem hasErr_unit (t : List V) : hasErr (.unit :: t) = hasErr t := rfl
@[go_val] theorem hasErr_tup (l t : List V) :
    hasErr (.tup l :: t) = ((l.any fun v => match v with | .err _ => true | _ => false) || hasErr t) := rfl

@[go_val] theorem bind_int (x : String) (n : Int) (env : Env) :
    bind x (.int n) env = if x = "_" ∨ x = "" then env else (x, .int n) :: env := rfl
@[go_val] theorem bind_str (x : String) (s : Str) (env : Env) :
    bind x (.str s) env = if x = "_" ∨ x = "" then env else (x, .str s) :: env := rfl
@[go_val] theorem bind_bool (x : String) (b : Bool) (env : Env) :
    bind x (.bool b) env = if x = "_" ∨ x = "" then env else (x, .bool b) :: env := rfl
@[go_val] theorem bind_ints (x : String) (l : List Int) (env : Env) :
    bind x (.ints l) env = if x = "_" ∨ x = "" then env else (x, .ints l) :: env := rfl
@[go_val] theorem bind_intss (x : String) (l : List (List Int)) (env : Env) :
    bind x (.intss l) env = if x = "_" ∨ x = "" then env else (x, .intss l) :: env := rfl
@[go_val] theorem bind_strs (x : String) (l : List Str) (env : Env) :
    bind x (.strs l) env = if x = "_" ∨ x = "" then env else (x, .strs l) :: env := rfl

/-- Binding a record also binds its fields.  Not in `go_val`: with a field list that is not yet a literal the flattened
    names get evaluated by the unifier; tag it where the records bound are literals. -/
theorem bind_struct (x : String) (fs : List (String × V)) (env : Env) :
    bind x (.struct fs) env =
      if x = "_" ∨ x = "" then env else (x, .struct fs) :: ((fs.map fun fw => (x ++ "." ++ fw.1, fw.2)) ++ env) := rfl

@[go_val] theorem bindAll_nil (env : Env) : bindAll [] [] env = env := rfl
@[go_val] theorem bindAll_cons (x : String) (xs : List String) (v : V) (vs : List V) (env : Env) :
    bindAll (x :: xs) (v :: vs) env = bindAll xs vs (bind x v env) := rfl

/-- `return v` -/
def retOne (st : St) (v : V) : R := match v with | .err e => .err e | _ => .ret st v
@[go_val] theorem retOne_bool (st : St) (b : Bool) : retOne st (.bool b) = .ret st (.bool b) := rfl
@[go_val] theorem retOne_str (st : St) (s : Str) : retOne st (.str s) = .ret st (.str s) := rfl
@[go_val] theorem retOne_int (st : St) (n : Int) : retOne st (.int n) = .ret st (.int n) := rfl
@[go_val] theorem retOne_struct (st : St) (fs : List (String × V)) : retOne st (.struct fs) = .ret st (.struct fs) := rfl
@[go_val] theorem retOne_unit (st : St) : retOne st .unit = .ret st .unit := rfl

/-- `a |= v`, `a += v`: bind the result of the operator -/
def setResult (st : St) (a : String) (w : V) : R :=
  match w with | .err e => .err e | w => .norm { st with env := bind a w st.env }
@[go_val] theorem setResult_int (st : St) (a : String) (n : Int) :
    setResult st a (.int n) = .norm { st with env := bind a (.int n) st.env } := rfl
@[go_val] theorem setResult_str (st : St) (a : String) (s : Str) :
    setResult st a (.str s) = .norm { st with env := bind a (.str s) st.env } := rfl


@[go_val] theorem assignVals_set1 (a : String) (v : V) (st : St) :
    assignVals .set [a] [v] st = if hasErr [v] then .err "assign: error value" else .norm { st with env := bind a v st.env } := by
  unfold assignVals; split <;> rfl
@[go_val] theorem assignVals_define1 (a : String) (v : V) (st : St) :
    assignVals .define [a] [v] st = if hasErr [v] then .err "assign: error value" else .norm { st with env := bind a v st.env } := by
  unfold assignVals; split <;> rfl
@[go_val] theorem assignVals_set2 (a b : String) (x y : V) (st : St) :
    assignVals .set [a, b] [.tup [x, y]] st =
      if hasErr [.tup [x, y]] then .err "assign: error value" else .norm { st with env := bind b y (bind a x st.env) } := by
  unfold assignVals; split <;> rfl
@[go_val] theorem assignVals_define2 (a b : String) (x y : V) (st : St) :
    assignVals .define [a, b] [.tup [x, y]] st =
      if hasErr [.tup [x, y]] then .err "assign: error value" else .norm { st with env := bind b y (bind a x st.env) } := by
  unfold assignVals; split <;> rfl
@[go_val] theorem assignVals_set11 (a b : String) (x y : V) (st : St) :
    assignVals .set [a, b] [x, y] st =
      if hasErr [x, y] then .err "assign: error value" else .norm { st with env := bind b y (bind a x st.env) } := by
  -- the matcher looks at the first value before it looks at the length of the list
  unfold assignVals
  split <;> (cases x with | tup l => rcases l with _ | ⟨_, _ | ⟨_, _ | _⟩⟩ <;> rfl | _ => rfl)
@[go_val] theorem assignVals_define11 (a b : String) (x y : V) (st : St) :
    assignVals .define [a, b] [x, y] st =
      if hasErr [x, y] then .err "assign: error value" else .norm { st with env := bind b y (bind a x st.env) } := by
  unfold assignVals
  split <;> (cases x with | tup l => rcases l with _ | ⟨_, _ | ⟨_, _ | _⟩⟩ <;> rfl | _ => rfl)
@[go_val] theorem assignVals_orSet (a : String) (v : V) (st : St) :
    assignVals .orSet [a] [v] st =
      if hasErr [v] then .err "assign: error value" else
      match st.env.lookup a with
      | some old => setResult st a (binop .bor old v)
      | none => .err "assign |= unbound" := by
  unfold assignVals; split <;> rfl
@[go_val] theorem assignVals_addSet (a : String) (v : V) (st : St) :
    assignVals .addSet [a] [v] st =
      if hasErr [v] then .err "assign: error value" else
      match st.env.lookup a with
      | some old => setResult st a (binop .add old v)
      | none => .err "assign += unbound" := by
  unfold assignVals; split <;> rfl

@[go_step] theorem execS_assign (c : Ctx) (tok : AssignTok) (lhs rhs : Es) (st : St) :
    execS c (.assign tok lhs rhs) st =
      match lhsNames lhs with
      | none => .err "assign target"
      | some names =>
        match rhs with
        | .cons (.call fn args) .nil =>
          let vals := evalEs c st.env args
          (match c.funcs fn vals with
           | some (v, w) => if hasErr vals then .err "call: error value" else assignVals tok names [v] { st with out := st.out ++ w }
           | none => assignVals tok names (evalEs c st.env rhs) st)
        | _ => assignVals tok names (evalEs c st.env rhs) st := by
  rw [execS] <;> rfl
@[go_step] theorem execS_ret0 (c : Ctx) (st : St) : execS c (.ret .nil) st = .ret st .unit := by rw [execS]; rfl
@[go_step] theorem execS_ret1 (c : Ctx) (e : E) (st : St) : execS c (.ret (.cons e .nil)) st = retOne st (evalE c st.env e) := by
  rw [execS]; simp only [evalEs, retOne]; rfl
@[go_step] theorem execS_typeSwitch (c : Ctx) (bnd : String) (x : E) (cases : Cs) (st : St) :
    execS c (.typeSwitch bnd x cases) st =
      match evalE c st.env x with
      | .tag ty inner =>
        let st1 := { st with env := bind bnd inner st.env }
        afterSwitch (execTy c ty st1 (fun _ => execDefault c st1 cases) cases)
      | _ => .err "type switch subject" := by
  rw [execS] <;> rfl
@[go_step] theorem execS_forRange (c : Ctx) (k v : String) (x : E) (body : Ss) (st : St) :
    execS c (.forRange k v x body) st =
      match rangeItems c st.env x with
      | none => .err "range"
      | some items =>
        loop (fun st' it i => execSs c body { st' with env := bind v it (bind k (.int i) st'.env) }) items 0 st := by
  rw [execS] <;> rfl
@[go_step] theorem execS_expr (c : Ctx) (e : E) (st : St) :
    execS c (.expr e) st =
      match e with
      | .call fn args => callStmt c st fn (evalEs c st.env args)
      | _ => .err "expression statement" := by
  cases e <;> rfl
@[go_step] theorem execS_brk (c : Ctx) (st : St) : execS c .brk st = .brk st := by rw [execS]
@[go_step] theorem execS_cont (c : Ctx) (st : St) : execS c .cont st = .cont st := by rw [execS]
@[go_step] theorem execS_varDecl (c : Ctx) (name ty : String) (st : St) :
    execS c (.varDecl name ty) st =
      match zeroOf ty with
      | .err e => .err e
      | z => .norm { st with env := bind name z st.env } := by
  rw [execS] <;> rfl

theorem lookup_map_snd {α β : Type} (g : α → β) (n : String) (t : List (String × α)) :
    List.lookup n (t.map fun nv => (nv.1, g nv.2)) = (t.lookup n).map g := by
  induction t with
  | nil => rfl
  | cons p t ih => obtain ⟨m, a⟩ := p; simp only [List.map_cons, List.lookup_cons, ih]; split <;> rfl

theorem lookup_map_key {α β : Type} (ρ : String → String) (g : α → β) (n : String) (t : List (String × α)) :
    List.lookup n (t.map fun nv => (ρ nv.1, g nv.2)) = ((t.map fun nv => (ρ nv.1, nv.2)).lookup n).map g := by
  induction t with
  | nil => rfl
  | cons p t ih => simp only [List.map_cons, List.lookup_cons, ih]; split <;> rfl

theorem lookup_cons_ne {x y : String} (hxy : x ≠ y) (v : V) (E : Env) :
    List.lookup x ((y, v) :: E) = E.lookup x := by
  rw [List.lookup_cons, beq_false_of_ne hxy]

theorem lookup_cons_of_not_mem {names : List String} {y : String} (hy : y ∉ names) (v : V) (E : Env) :
    ∀ x ∈ names, List.lookup x ((y, v) :: E) = E.lookup x :=
  fun x hx => lookup_cons_ne (fun (e : x = y) => hy (e ▸ hx)) v E

theorem fresh_cons {names : List String} {E : Env} (h : ∀ x ∈ names, E.lookup x = none) {y : String}
    (hy : y ∉ names) (v : V) : ∀ x ∈ names, List.lookup x ((y, v) :: E) = none :=
  fun x hx => (lookup_cons_of_not_mem hy v E x hx).trans (h x hx)

theorem fresh_append {names : List String} {E : Env} (h : ∀ x ∈ names, E.lookup x = none) (l : Env)
    (hl : ∀ p ∈ l, p.1 ∉ names) : ∀ x ∈ names, List.lookup x (l ++ E) = none := by
  induction l with
  | nil => exact h
  | cons p l ih =>
    exact fresh_cons (ih fun q hq => hl q (List.mem_cons_of_mem _ hq)) (hl p List.mem_cons_self) p.2

theorem lookupKey_map1 {α β : Type} (k : Int) (t : List (Int × β)) (g : β → α) :
    lookupKey [k] (t.map fun e => ([e.1], g e.2)) = (lookup k t).map g := by
  induction t with
  | nil => rfl
  | cons e t ih =>
    obtain ⟨k', v⟩ := e
    simp only [List.map, lookupKey, lookup]
    by_cases h : k = k'
    · simp [h]
    · simp [h, ih]

theorem lookupKey_map_id {β : Type} (k : Int) (t : List (Int × β)) :
    lookupKey [k] (t.map fun e => ([e.1], e.2)) = lookup k t := by
  simpa using lookupKey_map1 k t (fun x : β => x)

theorem lookupKey_map2 (a b : Int) (t : List ((Int × Int) × Int)) :
    lookupKey [a, b] (t.map fun e => ([e.1.1, e.1.2], e.2)) = lookup2 (a, b) t := by
  induction t with
  | nil => rfl
  | cons e t ih =>
    obtain ⟨⟨a', b'⟩, v⟩ := e
    simp only [List.map, lookupKey, lookup2, ih, List.cons.injEq, and_true]

theorem loop_cons_norm {F : St → V → Nat → R} {it : V} {rest : List V} {i : Nat} {st st' : St}
    (h : F st it i = .norm st') : loop F (it :: rest) i st = loop F rest (i + 1) st' := by
  simp only [loop, h]
theorem loop_cons_cont {F : St → V → Nat → R} {it : V} {rest : List V} {i : Nat} {st st' : St}
    (h : F st it i = .cont st') : loop F (it :: rest) i st = loop F rest (i + 1) st' := by
  simp only [loop, h]
theorem loop_cons_brk {F : St → V → Nat → R} {it : V} {rest : List V} {i : Nat} {st st' : St}
    (h : F st it i = .brk st') : loop F (it :: rest) i st = .norm st' := by
  simp only [loop, h]
theorem loop_cons_ret {F : St → V → Nat → R} {it : V} {rest : List V} {i : Nat} {st st' : St} {v : V}
    (h : F st it i = .ret st' v) : loop F (it :: rest) i st = .ret st' v := by
  simp only [loop, h]

/-! `iter step l i s` is the state after running `step` over `l` with indices `i, i+1, …`; if every
iteration of the interpreted body ends normally (or with `continue`) and maps the invariant `P E s`
to `P E' (step a i s)`, the interpreted loop ends normally in a state satisfying `P E' (iter …)`. -/

def iter {α σ : Type} (step : α → Nat → σ → σ) : List α → Nat → σ → σ
  | [], _, s => s
  | a :: l, i, s => iter step l (i + 1) (step a i s)

theorem loop_inv {α σ : Type} (F : St → V → Nat → R) (P : Env → σ → Prop) (step : α → Nat → σ → σ) (toV : α → V)
    (hstep : ∀ (E : Env) (s : σ) (a : α) (i : Nat) (o : Str), P E s →
      ∃ E', P E' (step a i s) ∧
        (F { env := E, out := o } (toV a) i = .norm { env := E', out := o } ∨
         F { env := E, out := o } (toV a) i = .cont { env := E', out := o })) :
    ∀ (l : List α) (i : Nat) (E : Env) (s : σ) (o : Str), P E s →
      ∃ E', loop F (l.map toV) i { env := E, out := o } = .norm { env := E', out := o } ∧ P E' (iter step l i s) := by
  intro l
  induction l with
  | nil => intro i E s o h; exact ⟨E, rfl, h⟩
  | cons a l ih =>
    intro i E s o h
    obtain ⟨E1, h1, e | e⟩ := hstep E s a i o h
    · rw [List.map_cons, loop_cons_norm e]; exact ih (i + 1) E1 _ o h1
    · rw [List.map_cons, loop_cons_cont e]; exact ih (i + 1) E1 _ o h1

theorem slice_dropLast (l : List Str) (h : l ≠ []) :
    listSlice (.strs l) (.int 0) (.int ((l.length : Int) - 1)) = .strs l.dropLast := by
  have hl : 0 < l.length := List.length_pos_iff.mpr h
  have c : (0 : Int) ≤ 0 ∧ (0 : Int) ≤ (l.length : Int) - 1 ∧ (l.length : Int) - 1 ≤ (l.length : Int) := by omega
  have e : ((l.length : Int) - 1).toNat = l.length - 1 := by omega
  simp only [listSlice, c, and_self, reduceIte, e, Int.toNat_zero, List.drop_zero, List.dropLast_eq_take]

theorem index_last (l : List Str) (h : l ≠ []) :
    listIndex (.strs l) (.int ((l.length : Int) - 1)) = .str (l.getLastD []) := by
  have hl : 0 < l.length := List.length_pos_iff.mpr h
  have c : (0 : Int) ≤ (l.length : Int) - 1 := by omega
  have e : ((l.length : Int) - 1).toNat = l.length - 1 := by omega
  have g : l[l.length - 1]? = some (l.getLastD []) := by
    rw [← List.getLast?_eq_getElem?, List.getLastD_eq_getLast?]
    cases hg : l.getLast? with
    | none => exact absurd (List.getLast?_eq_none_iff.mp hg) h
    | some a => rfl
  simp only [listIndex, c, reduceIte, e, g]

theorem slice_dropLast2 (l : List Str) (h : l.length > 2) :
    listSlice (.strs l) (.int 0) (.int ((l.length : Int) - 2)) = .strs l.dropLast.dropLast := by
  have c : (0 : Int) ≤ 0 ∧ (0 : Int) ≤ (l.length : Int) - 2 ∧ (l.length : Int) - 2 ≤ (l.length : Int) := by omega
  have e : ((l.length : Int) - 2).toNat = l.length - 2 := by omega
  simp only [listSlice, c, and_self, reduceIte, e, Int.toNat_zero, List.drop_zero, List.dropLast_eq_take, List.length_take, List.take_take]
  congr 2
  omega

theorem index_last2 (l : List Str) (h : l.length > 2) :
    listIndex (.strs l) (.int ((l.length : Int) - 2)) = .str (l.dropLast.getLastD [0]) := by
  have c : (0 : Int) ≤ (l.length : Int) - 2 := by omega
  have e : ((l.length : Int) - 2).toNat = l.length - 2 := by omega
  have g : l[l.length - 2]? = some (l.dropLast.getLastD [0]) := by
    rw [List.getLastD_eq_getLast?, List.getLast?_eq_getElem?, List.length_dropLast, List.getElem?_dropLast]
    have : l.length - 1 - 1 < l.length - 1 := by omega
    simp only [this, reduceIte]
    have e2 : l.length - 1 - 1 = l.length - 2 := by omega
    rw [e2]
    have : l.length - 2 < l.length := by omega
    rw [List.getElem?_eq_getElem this]
    rfl
  simp only [listIndex, c, reduceIte, e, g]

theorem utf8Len_pos (r : Int) : 0 < utf8Len r := by
  unfold utf8Len; split <;> (try split) <;> (try split) <;> omega

theorem strLen_nonneg (s : Str) : 0 ≤ strLen s := by
  induction s with
  | nil => simp [strLen]
  | cons r t ih => have := utf8Len_pos r; simp only [strLen]; omega

theorem strLen_cons2_ne (r r2 : Int) (t : Str) : ¬ utf8Len r = strLen (r :: r2 :: t) := by
  have := utf8Len_pos r2
  have := strLen_nonneg t
  simp only [strLen]; omega

end VaxisModel.Lemmas.GoInterp
