/-
The arithmetic of `resizeImage`'s fit: the fit / no-panic properties as predicates on a source configuration
(`Props/C20` asserts them of the regenerated `genCfg`; `Witness/F51` refutes `FitStatement` of the configuration
before the repair), a closed form of `resizeDimsWith` for the two-arm switch `sfX ≤ sfY ⇒ sfX, sfX > sfY ⇒ sfY`,
the cell sizes of the three protocols, and the byte arithmetic of `toRGB` and of premultiplied alpha.
-/
import VaxisModel.Model.ImageFit
import VaxisModel.Spec.Images
import VaxisModel.Model.Blocks
import VaxisModel.Lemmas.ExceptM

namespace VaxisModel.Lemmas.ImageFit
open VaxisModel.Model.ImageFit VaxisModel.Spec.Images VaxisModel.Gen.ImageConsts

/-- Every successful result of a resize fits the box (for positive image and cell sizes). -/
def FitStatement (cfg : Cfg) : Prop :=
  ∀ F, Sound F → ∀ wPix hPix w h cellW cellH pw ph, 0 < wPix → 0 < hPix → 0 < cellW → 0 < cellH →
    resizeDimsWith cfg F wPix hPix w h cellW cellH = .ok (pw, ph) → FitsBox pw ph w h cellW cellH

def NoUpscaleStatement (cfg : Cfg) : Prop :=
  ∀ F, Sound F → ∀ wPix hPix w h cellW cellH pw ph, 0 < wPix → 0 < hPix → 0 < cellW → 0 < cellH →
    resizeDimsWith cfg F wPix hPix w h cellW cellH = .ok (pw, ph) → NoUpscale pw ph wPix hPix

def AspectStatement (cfg : Cfg) : Prop :=
  ∀ F, Sound F → ∀ wPix hPix w h cellW cellH pw ph, 0 < wPix → 0 < hPix → 0 < cellW → 0 < cellH →
    resizeDimsWith cfg F wPix hPix w h cellW cellH = .ok (pw, ph) → AspectKept pw ph wPix hPix

/-- With positive cell sizes a resize never panics. -/
def NoPanicStatement (cfg : Cfg) : Prop :=
  ∀ F wPix hPix w h cellW cellH, 0 < cellW → 0 < cellH →
    ∃ r, resizeDimsWith cfg F wPix hPix w h cellW cellH = .ok r

theorem exactOps_sound : Sound exactOps where
  cmp_exact := fun _ _ _ _ _ _ => rfl
  scale_le := fun a b x _ => Nat.div_mul_le_self (a * x) b
  scale_ge := fun a b x hb => by
    show a * x ≤ (a * x / b + 1) * b
    rw [Nat.mul_comm (a * x / b + 1) b]
    exact Nat.le_of_lt (Nat.lt_mul_div_succ (a * x) hb)

theorem cells_true (x c : Nat) (hc : 0 < c) : cells true x c = .ok (ceilDiv x c) := by
  unfold cells ceilDiv
  rw [if_neg (by omega)]
  congr 1
  have h1 := Nat.div_add_mod x c
  have h2 := Nat.mod_lt x hc
  by_cases h : x % c = 0
  · simp only [h, bne_self_eq_false, Bool.and_false, Bool.false_eq_true, if_false, Nat.add_zero]
    exact (Nat.div_eq_of_lt_le (by rw [Nat.mul_comm]; omega) (by rw [Nat.add_mul, Nat.mul_comm]; omega)).symm
  · have hne : (x % c != 0) = true := by simp [h]
    simp only [hne, Bool.and_self, if_true]
    exact (Nat.div_eq_of_lt_le (by rw [Nat.add_mul, Nat.mul_comm (x / c)]; omega)
      (by rw [Nat.add_mul, Nat.add_mul, Nat.mul_comm (x / c)]; omega)).symm

theorem ceilDiv_le_iff (x c w : Nat) (hc : 0 < c) : ceilDiv x c ≤ w ↔ x ≤ w * c := by
  unfold ceilDiv
  rw [← Nat.lt_succ_iff, Nat.div_lt_iff_lt_mul hc, Nat.succ_mul]
  omega

theorem le_ceilDiv_mul (x c : Nat) (hc : 0 < c) : x ≤ ceilDiv x c * c :=
  (ceilDiv_le_iff x c _ hc).mp (Nat.le_refl _)

theorem ceilDiv_pos (x c : Nat) (hx : 0 < x) (hc : 0 < c) : 0 < ceilDiv x c :=
  Nat.pos_of_ne_zero fun h => by have := le_ceilDiv_mul x c hc; rw [h] at this; omega

theorem blockHeight_eq (ph : Nat) : blockHeight ph = ceilDiv ph 2 := by
  unfold blockHeight ceilDiv
  rcases Nat.mod_two_eq_zero_or_one ph with h | h
  · simp only [h, bne_self_eq_false, Bool.false_eq_true, if_false]; omega
  · simp only [h, Nat.reduceBneDiff, if_true]; omega

theorem protoCellSize_eq (F : FloatOps) (wPix hPix w h cellW cellH : Nat) (hcw : 0 < cellW) (hch : 0 < cellH) :
    protoCellSize F wPix hPix w h cellW cellH =
      (resizeDims F wPix hPix w h cellW cellH).map fun d => (ceilDiv d.1 cellW, ceilDiv d.2 cellH) := by
  unfold protoCellSize
  cases resizeDims F wPix hPix w h cellW cellH with
  | error e => rfl
  | ok d =>
    simp only [cellsUp, cells_true _ _ hcw, cells_true _ _ hch]
    rfl

theorem halfCellSize_eq (F : FloatOps) (wPix hPix w h : Nat) :
    halfCellSize F wPix hPix w h =
      (resizeDims F wPix hPix w h halfBlockGeom.1 halfBlockGeom.2).map fun d => (d.1, ceilDiv d.2 2) := by
  unfold halfCellSize
  cases resizeDims F wPix hPix w h halfBlockGeom.1 halfBlockGeom.2 with
  | error e => rfl
  | ok d => simp only [blockHeight_eq]; rfl

theorem fullCellSize_eq (F : FloatOps) (wPix hPix w h : Nat) :
    fullCellSize F wPix hPix w h =
      (resizeDims F wPix hPix w h fullBlockGeom.1 fullBlockGeom.2).map fun d => (d.1, ceilDiv d.2 2) := by
  unfold fullCellSize
  cases resizeDims F wPix hPix w h fullBlockGeom.1 fullBlockGeom.2 with
  | error e => rfl
  | ok d => simp only [blockHeight_eq]; rfl

/-- The arm structure after the F51 repair. -/
def stdCfg : Cfg := ⟨true, true, (.le, .and, .le), [⟨.le, .sfX, .sfX⟩, ⟨.gt, .sfY, .sfY⟩]⟩

theorem resizeDimsWith_std (F : FloatOps) (wPix hPix w h cellW cellH : Nat) (hcw : 0 < cellW) (hch : 0 < cellH) :
    resizeDimsWith stdCfg F wPix hPix w h cellW cellH =
      .ok (if ceilDiv wPix cellW ≤ w ∧ ceilDiv hPix cellH ≤ h then (wPix, hPix)
           else if F.cmp w (ceilDiv wPix cellW) h (ceilDiv hPix cellH) = .gt then
             (F.scale h (ceilDiv hPix cellH) wPix, F.scale h (ceilDiv hPix cellH) hPix)
           else (F.scale w (ceilDiv wPix cellW) wPix, F.scale w (ceilDiv wPix cellW) hPix)) := by
  simp only [resizeDimsWith, stdCfg, cells_true _ _ hcw, cells_true _ _ hch, evalFit, evalCmp]
  by_cases hfit : ceilDiv wPix cellW ≤ w ∧ ceilDiv hPix cellH ≤ h
  · simp [hfit, bind, Except.bind, pure, Except.pure]
  · have : (decide (ceilDiv wPix cellW ≤ w) && decide (ceilDiv hPix cellH ≤ h)) = false := by
      simpa using hfit
    simp only [bind, Except.bind, pure, Except.pure, this, hfit, if_false, Bool.false_eq_true]
    cases F.cmp w (ceilDiv wPix cellW) h (ceilDiv hPix cellH) <;>
      simp [runArms, ordSat, applyFactor]

/-- The arithmetic core of fit: `r` is `x` scaled by `a/b` (truncated), `x` fills at most `d` cells of `c` pixels,
    and the factor is at most `n/d` ⇒ `r` fills at most `n` cells: `r·b ≤ a·x`, `x ≤ d·c`, `a·d ≤ n·b` ⇒ `r ≤ n·c`. -/
theorem scaled_cross_le (r a b x c d n : Nat) (hb : 0 < b) (h1 : r * b ≤ a * x) (h2 : x ≤ d * c)
    (h3 : a * d ≤ n * b) : r ≤ n * c := by
  apply Nat.le_of_mul_le_mul_right _ hb
  calc r * b ≤ a * x := h1
    _ ≤ a * (d * c) := Nat.mul_le_mul_left a h2
    _ = a * d * c := by rw [Nat.mul_assoc]
    _ ≤ n * b * c := Nat.mul_le_mul_right _ h3
    _ = n * c * b := by rw [Nat.mul_assoc, Nat.mul_comm b c, Nat.mul_assoc]

theorem scaled_lt (r a b x : Nat) (hab : a < b) (hx : 0 < x) (h1 : r * b ≤ a * x) : r < x := by
  apply Nat.lt_of_mul_lt_mul_right (a := b)
  calc r * b ≤ a * x := h1
    _ < b * x := Nat.mul_lt_mul_of_pos_right hab hx
    _ = x * b := Nat.mul_comm ..

/-- The smaller of the two factors `a/b`, `c/d` of a box that is too small in some direction is below one. -/
theorem factor_lt {a b c d : Nat} (hb : 0 < b) (h : a * d ≤ c * b) (hn : ¬ (d ≤ c ∧ b ≤ a)) : a < b := by
  apply Nat.lt_of_not_le
  intro hba
  have h1 : b * d ≤ c * b := Nat.le_trans (Nat.mul_le_mul_right d hba) h
  rw [Nat.mul_comm c b] at h1
  exact hn ⟨Nat.le_of_mul_le_mul_left h1 hb, hba⟩

/-- Scaled dimensions in closed form, for a sound float step: the image as it is when it fits; else both dimensions
    are scaled by one factor `a/b` — the smaller of `w/columns`, `h/lines`, so below one and at most either — each
    truncated or one less. -/
theorem std_cases (F : FloatOps) (hF : Sound F) (wPix hPix w h cellW cellH pw ph : Nat)
    (hw : 0 < wPix) (hh : 0 < hPix) (hcw : 0 < cellW) (hch : 0 < cellH)
    (hr : resizeDimsWith stdCfg F wPix hPix w h cellW cellH = .ok (pw, ph)) :
    let columns := ceilDiv wPix cellW
    let lines := ceilDiv hPix cellH
    0 < columns ∧ 0 < lines ∧ wPix ≤ columns * cellW ∧ hPix ≤ lines * cellH ∧
    ((columns ≤ w ∧ lines ≤ h ∧ pw = wPix ∧ ph = hPix) ∨
     (¬ (columns ≤ w ∧ lines ≤ h) ∧ ∃ a b, 0 < b ∧ a < b ∧ a * columns ≤ w * b ∧ a * lines ≤ h * b ∧
        pw * b ≤ a * wPix ∧ a * wPix ≤ (pw + 1) * b ∧ ph * b ≤ a * hPix ∧ a * hPix ≤ (ph + 1) * b)) := by
  intro columns lines
  have hc : 0 < columns := ceilDiv_pos wPix cellW hw hcw
  have hl : 0 < lines := ceilDiv_pos hPix cellH hh hch
  refine ⟨hc, hl, le_ceilDiv_mul _ _ hcw, le_ceilDiv_mul _ _ hch, ?_⟩
  rw [resizeDimsWith_std F _ _ _ _ _ _ hcw hch] at hr
  have hr' := Except.ok.inj hr
  by_cases hfit : columns ≤ w ∧ lines ≤ h
  · rw [if_pos hfit] at hr'
    obtain ⟨rfl, rfl⟩ := Prod.mk.inj hr'
    exact Or.inl ⟨hfit.1, hfit.2, rfl, rfl⟩
  · rw [if_neg hfit] at hr'
    refine Or.inr ⟨hfit, ?_⟩
    by_cases hgt : F.cmp w columns h lines = .gt
    · rw [if_pos hgt] at hr'
      obtain ⟨rfl, rfl⟩ := Prod.mk.inj hr'
      rw [hF.cmp_exact w columns h lines hc hl, ratCmp, Nat.compare_eq_gt] at hgt
      exact ⟨h, lines, hl, factor_lt hl (Nat.le_of_lt hgt) hfit, Nat.le_of_lt hgt, Nat.le_refl _,
        hF.scale_le _ _ _ hl, hF.scale_ge _ _ _ hl, hF.scale_le _ _ _ hl, hF.scale_ge _ _ _ hl⟩
    · rw [if_neg hgt] at hr'
      obtain ⟨rfl, rfl⟩ := Prod.mk.inj hr'
      rw [hF.cmp_exact w columns h lines hc hl, ratCmp, Nat.compare_eq_gt] at hgt
      exact ⟨w, columns, hc, factor_lt hc (Nat.le_of_not_lt hgt) (fun hn => hfit ⟨hn.2, hn.1⟩), Nat.le_refl _,
        Nat.le_of_not_lt hgt, hF.scale_le _ _ _ hc, hF.scale_ge _ _ _ hc, hF.scale_le _ _ _ hc, hF.scale_ge _ _ _ hc⟩

theorem aspect_core (pw ph a b X Y : Nat) (hb : 0 < b) (h1 : pw * b ≤ a * X) (h4 : a * Y ≤ (ph + 1) * b) :
    pw * Y ≤ ph * X + X := by
  apply Nat.le_of_mul_le_mul_right _ hb
  calc pw * Y * b = pw * b * Y := Nat.mul_right_comm ..
    _ ≤ a * X * Y := Nat.mul_le_mul_right _ h1
    _ = a * Y * X := Nat.mul_right_comm ..
    _ ≤ (ph + 1) * b * X := Nat.mul_le_mul_right _ h4
    _ = (ph * X + X) * b := by rw [Nat.mul_right_comm, Nat.add_mul, Nat.one_mul]

section pixels
open VaxisModel.Model.Blocks

theorem toRGB_of_ne (c : C16) (h : c.a ≠ 0) :
    toRGB c = ⟨u8 (u32 (c.r * 255) / c.a), u8 (u32 (c.g * 255) / c.a), u8 (u32 (c.b * 255) / c.a), u8 (c.a / 256)⟩ := by
  simp [toRGB, h]

theorem toRGB_of_zero (c : C16) (h : c.a = 0) : toRGB c = ⟨u8 c.r, u8 c.g, u8 c.b, 0⟩ := by
  simp [toRGB, h]

theorem byte_rt2 (r : Nat) (hr : r < 256) : r * 257 / 256 % 256 = r := by
  have h2 : r * 257 / 256 = r := by omega
  rw [h2]; exact Nat.mod_eq_of_lt hr

theorem toRGB_alpha (c : C16) (a : Nat) (h : c.a = a * 257) (ha : a < 256) : (toRGB c).a = a := by
  by_cases h0 : a = 0
  · subst h0
    rw [toRGB_of_zero c (by rw [h])]
  · rw [toRGB_of_ne c (by rw [h]; omega)]
    show c.a / 256 % 256 = a
    rw [h]; exact byte_rt2 a ha

theorem unpremul_opaque' (c : Nat) (h : c < 256) : u8 (u32 (c * 257 * 255) / 65535) = c := by
  have h1 : c * 257 * 255 % 4294967296 = c * 65535 := by
    rw [Nat.mod_eq_of_lt (by omega)]; omega
  show c * 257 * 255 % 4294967296 / 65535 % 256 = c
  rw [h1, Nat.mul_div_cancel _ (by decide), Nat.mod_eq_of_lt h]

theorem unpremul_opaque (c : Nat) (h : c < 256) : u8 (u32 (c * 257 * 255 / 255 * 255) / 65535) = c := by
  rw [Nat.mul_div_cancel _ (by decide)]
  exact unpremul_opaque' c h

theorem rgbColor_eq (r g b : Nat) (hr : r < 256) (hg : g < 256) (hb : b < 256) :
    rgbColor r g b = directColor r g b := by
  unfold rgbColor directColor
  have hs : rgbShift = 25 := by decide
  rw [hs]
  have h1 : g <<< 8 ||| b = g <<< 8 + b := (Nat.shiftLeft_add_eq_or_of_lt (by omega) g).symm
  have h2 : r <<< 16 ||| (g <<< 8 + b) = r <<< 16 + (g <<< 8 + b) :=
    (Nat.shiftLeft_add_eq_or_of_lt (by rw [Nat.shiftLeft_eq]; omega) r).symm
  have h3 : (1 <<< 25) ||| (r <<< 16 + (g <<< 8 + b)) = 1 <<< 25 + (r <<< 16 + (g <<< 8 + b)) :=
    (Nat.shiftLeft_add_eq_or_of_lt (by rw [Nat.shiftLeft_eq, Nat.shiftLeft_eq]; omega) 1).symm
  rw [Nat.or_assoc (r <<< 16) (g <<< 8) b, h1, h2, Nat.or_comm, h3]
  simp only [Nat.shiftLeft_eq]
  omega

theorem fullBlockCmp_std : fullBlockCmp = (.lt, 50) := by decide

theorem fullCell_eq (top bot : C16) :
    fullCell top bot =
      ⟨0x20, 0, if ((toRGB bot).a + (toRGB top).a) / 2 % 256 < 50 then 0
                else rgbColor (((toRGB bot).r + (toRGB top).r) / 2 % 256) (((toRGB bot).g + (toRGB top).g) / 2 % 256)
                              (((toRGB bot).b + (toRGB top).b) / 2 % 256)⟩ := by
  simp only [fullCell, fullColor, averageColor, fullBlockCmp_std, evalCmp, List.cons_append, List.nil_append, List.map_cons,
    List.map_nil, List.sum_cons, List.sum_nil, List.length_cons, List.length_nil, Nat.add_zero, u8, decide_eq_true_eq]

/-- Premultiplying a byte `c` by a 16-bit alpha `q` (`c·q / 255`) and dividing it out again (`·255 / q`, in
    `uint32`, cut to `uint8`) truncates twice and loses less than `q`, so at most one, once `q ≥ 255`. -/
theorem unpremul_within_one (c q : Nat) (hc : c < 256) (hq : 255 ≤ q) (hq' : q < 65536) :
    u8 (u32 (c * q / 255 * 255) / q) ≤ c ∧ c ≤ u8 (u32 (c * q / 255 * 255) / q) + 1 := by
  unfold u8 u32
  have hb : c * q ≤ 255 * q := Nat.mul_le_mul_right _ (by omega)
  have hs : (c - 1) * q = c * q - q := by rw [Nat.sub_mul, Nat.one_mul]
  have hle : c * q / 255 * 255 % 4294967296 / q ≤ c :=
    Nat.div_le_of_le_mul (by rw [Nat.mul_comm q]; omega)
  have hge : c - 1 ≤ c * q / 255 * 255 % 4294967296 / q :=
    (Nat.le_div_iff_mul_le (by omega)).mpr (by omega)
  omega

end pixels

end VaxisModel.Lemmas.ImageFit
