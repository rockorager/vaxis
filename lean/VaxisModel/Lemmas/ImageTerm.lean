/-
Lemmas for `Model/ImageTerm.lean`: the regenerated `cellPixelSize` and `Resize` shapes are the standard ones, the
signed-box model agrees with the unsigned one on non-negative boxes and returns an empty image on negative ones,
which pixels a cell of the block renderers covers, upload bookkeeping.
-/
import VaxisModel.Model.ImageTerm
import VaxisModel.Lemmas.ImageFit

namespace VaxisModel.Lemmas.ImageTerm
open VaxisModel.Model.ImageFit VaxisModel.Model.ImageTerm VaxisModel.Gen.ImageConsts VaxisModel.Lemmas.ImageFit
open VaxisModel.Model.Blocks
open VaxisModel.Spec.Images (ceilDiv)

theorem cellPixelSize_shape :
    cellPixelSizeW = some ⟨1, .gt, 0, .gt, 0⟩ ∧ cellPixelSizeH = some ⟨1, .gt, 0, .gt, 0⟩ := by decide

theorem termCellWith_std (pix cells : Int) : termCellWith (some ⟨1, .gt, 0, .gt, 0⟩) pix cells = termCell pix cells := by
  unfold termCellWith termCell
  simp only [evalCmpI, Bool.and_eq_true, decide_eq_true_eq, gt_iff_lt, Int.cast_ofNat_Int]

theorem termCellW_eq (pix cells : Int) : termCellW pix cells = termCell pix cells := by
  unfold termCellW; rw [cellPixelSize_shape.1]; exact termCellWith_std pix cells

theorem termCellH_eq (pix cells : Int) : termCellH pix cells = termCell pix cells := by
  unfold termCellH; rw [cellPixelSize_shape.2]; exact termCellWith_std pix cells

theorem resizeShape_std : kittyResize = ⟨true, true, true, true, true⟩ ∧ sixelResize = ⟨true, true, true, true, true⟩ := by
  decide

theorem protoCellSizeWith_std (F : FloatOps) (wPix hPix w h cellW cellH : Nat) :
    protoCellSizeWith ⟨true, true, true, true, true⟩ F wPix hPix w h cellW cellH = protoCellSize F wPix hPix w h cellW cellH := rfl

theorem kittyCellSizeTerm_eq (F : FloatOps) (wPix hPix w h : Nat) (xpix cols ypix rows : Int) :
    kittyCellSizeTerm F wPix hPix w h xpix cols ypix rows = protoCellSizeTerm F wPix hPix w h xpix cols ypix rows := by
  unfold kittyCellSizeTerm protoCellSizeTerm
  rw [resizeShape_std.1, protoCellSizeWith_std]

theorem sixelCellSizeTerm_eq (F : FloatOps) (wPix hPix w h : Nat) (xpix cols ypix rows : Int) :
    sixelCellSizeTerm F wPix hPix w h xpix cols ypix rows = protoCellSizeTerm F wPix hPix w h xpix cols ypix rows := by
  unfold sixelCellSizeTerm protoCellSizeTerm
  rw [resizeShape_std.2, protoCellSizeWith_std]

theorem termCell_pos (pix cells : Int) : 0 < termCell pix cells := by
  unfold termCell
  split
  · rename_i h; omega
  · decide

theorem evalCmpI_cast (c : Cmp) (x y : Nat) : evalCmpI c (x : Int) (y : Int) = evalCmp c x y := by
  cases c <;> simp [evalCmpI, evalCmp] <;> omega

theorem evalFitI_cast (fc : Cmp × Conn × Cmp) (columns w lines h : Nat) :
    evalFitI fc columns (w : Int) lines (h : Int) = evalFit fc columns w lines h := by
  unfold evalFitI evalFit
  cases fc.2.1 <;> simp [evalCmpI_cast]

theorem cmpI_cast (F : FloatOps) (w columns h lines : Nat) : cmpI F (w : Int) columns (h : Int) lines = F.cmp w columns h lines := by
  unfold cmpI
  simp

theorem scaleI_cast (F : FloatOps) (a b x : Nat) : scaleI F (a : Int) b x = (F.scale a b x : Int) := by
  unfold scaleI
  simp

theorem applyFactorI_cast (F : FloatOps) (f : Factor) (w columns h lines x : Nat) :
    applyFactorI F f (w : Int) columns (h : Int) lines x = (applyFactor F f w columns h lines x : Int) := by
  cases f <;> simp [applyFactorI, applyFactor, scaleI_cast]

theorem runArmsI_cast (F : FloatOps) (arms : List Arm) (o : Ordering) (wPix hPix w columns h lines : Nat) :
    runArmsI F arms o wPix hPix (w : Int) columns (h : Int) lines =
      (((runArms F arms o wPix hPix w columns h lines).1 : Int), ((runArms F arms o wPix hPix w columns h lines).2 : Int)) := by
  induction arms with
  | nil => rfl
  | cons a rest ih =>
    unfold runArmsI runArms
    split
    · simp [applyFactorI_cast]
    · exact ih

theorem resizeDimsBoxWith_nonneg (cfg : Cfg) (F : FloatOps) (wPix hPix w h cellW cellH : Nat) :
    resizeDimsBoxWith cfg F wPix hPix (w : Int) (h : Int) cellW cellH = resizeDimsWith cfg F wPix hPix w h cellW cellH := by
  unfold resizeDimsBoxWith resizeRawBoxWith resizeDimsWith
  cases cells cfg.colsUp wPix cellW with
  | error e => rfl
  | ok columns =>
    cases cells cfg.linesUp hPix cellH with
    | error e => rfl
    | ok lines =>
      simp only [bind, Except.bind, evalFitI_cast, cmpI_cast, runArmsI_cast, pure, Except.pure]
      by_cases hf : evalFit cfg.fit columns w lines h = true <;> simp [hf]

theorem scaleI_neg (F : FloatOps) (a : Int) (b x : Nat) (ha : a < 0) : scaleI F a b x ≤ 0 := by
  unfold scaleI
  rw [if_neg (by omega)]
  omega

/-- A box with a negative dimension: the result is the empty image (`Bounds().Max = (0,0)`), for every float step. -/
theorem resizeDimsBoxWith_std_negative (F : FloatOps) (wPix hPix : Nat) (w h : Int) (cellW cellH : Nat)
    (hcw : 0 < cellW) (hch : 0 < cellH) (hneg : w < 0 ∨ h < 0) :
    resizeDimsBoxWith stdCfg F wPix hPix w h cellW cellH = .ok (0, 0) := by
  simp only [resizeDimsBoxWith, resizeRawBoxWith, stdCfg, cells_true _ _ hcw, cells_true _ _ hch, bind, Except.bind, pure, Except.pure]
  have hfit : evalFitI (Cmp.le, Conn.and, Cmp.le) (ceilDiv wPix cellW) w (ceilDiv hPix cellH) h = false := by
    simp only [evalFitI, evalCmpI]
    rcases hneg with hn | hn
    · have : ¬ ((ceilDiv wPix cellW : Nat) : Int) ≤ w := by omega
      simp [this]
    · have : ¬ ((ceilDiv hPix cellH : Nat) : Int) ≤ h := by omega
      simp [this]
  simp only [hfit, Bool.false_eq_true, if_false]
  -- the arm that fires scales by `h/lines` on `.gt` and by `w/columns` otherwise; the signs decide the comparison
  -- when they differ, so the factor used is always a negative one
  have harms : ∀ o, runArmsI F [⟨.le, .sfX, .sfX⟩, ⟨.gt, .sfY, .sfY⟩] o wPix hPix w (ceilDiv wPix cellW) h (ceilDiv hPix cellH) =
      if o = .gt then (scaleI F h (ceilDiv hPix cellH) wPix, scaleI F h (ceilDiv hPix cellH) hPix)
      else (scaleI F w (ceilDiv wPix cellW) wPix, scaleI F w (ceilDiv wPix cellW) hPix) := by
    intro o; cases o <;> rfl
  have hlt : w < 0 → 0 ≤ h → cmpI F w (ceilDiv wPix cellW) h (ceilDiv hPix cellH) = .lt := fun a b => by
    unfold cmpI; rw [if_neg (by omega), if_pos ⟨a, b⟩]
  have hgt : 0 ≤ w → h < 0 → cmpI F w (ceilDiv wPix cellW) h (ceilDiv hPix cellH) = .gt := fun a b => by
    unfold cmpI; rw [if_neg (by omega), if_neg (by omega), if_pos ⟨a, b⟩]
  rw [harms]
  by_cases ho : cmpI F w (ceilDiv wPix cellW) h (ceilDiv hPix cellH) = .gt
  · have hh : h < 0 := Int.lt_of_not_ge fun hn => by
      rw [hlt (by omega) hn] at ho; cases ho
    rw [if_pos ho, Int.toNat_eq_zero.mpr (scaleI_neg F h _ _ hh), Int.toNat_eq_zero.mpr (scaleI_neg F h _ _ hh)]
  · have hw : w < 0 := Int.lt_of_not_ge fun hn => ho (hgt hn (by omega))
    rw [if_neg ho, Int.toNat_eq_zero.mpr (scaleI_neg F w _ _ hw), Int.toNat_eq_zero.mpr (scaleI_neg F w _ _ hw)]

theorem div_of_index (w x y : Nat) (hx : x < w) : (y * w + x) / w = y := by
  have hw : 0 < w := by omega
  rw [Nat.add_comm, Nat.add_mul_div_right _ _ hw, Nat.div_eq_of_lt hx, Nat.zero_add]

theorem blockCellsWith_length (mode : Bottom) (cell : C16 → C16 → BCell) (img : Img) :
    (blockCellsWith mode cell img).length = blockHeight img.h * img.w := by
  simp [blockCellsWith]

theorem blockCellsWith_get (mode : Bottom) (cell : C16 → C16 → BCell) (img : Img) (x y : Nat) (hx : x < img.w) (hy : y < blockHeight img.h) :
    (blockCellsWith mode cell img)[y * img.w + x]? = some (x, y, cell (img.at x (2 * y)) (lowerPx mode img x (2 * y))) := by
  have hi : y * img.w + x < blockHeight img.h * img.w := by
    calc y * img.w + x < y * img.w + img.w := by omega
      _ = (y + 1) * img.w := by rw [Nat.add_mul, Nat.one_mul]
      _ ≤ blockHeight img.h * img.w := Nat.mul_le_mul_right _ hy
  simp only [blockCellsWith, List.getElem?_map, List.getElem?_range hi, Option.map_some, div_of_index img.w x y hx]
  simp

theorem blockCellsWith_mem (mode : Bottom) (cell : C16 → C16 → BCell) (img : Img) (e : Nat × Nat × BCell)
    (he : e ∈ blockCellsWith mode cell img) :
    e.1 < img.w ∧ e.2.1 < blockHeight img.h ∧ e.2.2 = cell (img.at e.1 (2 * e.2.1)) (lowerPx mode img e.1 (2 * e.2.1)) ∧
    (blockCellsWith mode cell img)[e.2.1 * img.w + e.1]? = some e := by
  simp only [blockCellsWith, List.mem_map, List.mem_range] at he
  obtain ⟨i, hi, rfl⟩ := he
  have hw : 0 < img.w := by
    rcases Nat.eq_zero_or_pos img.w with h | h
    · rw [h] at hi; simp at hi
    · exact h
  have hy : i / img.w < blockHeight img.h := Nat.div_lt_of_lt_mul (by rw [Nat.mul_comm]; exact hi)
  have hx : i - i / img.w * img.w = i % img.w := by
    have := Nat.div_add_mod i img.w
    rw [Nat.mul_comm] at this
    omega
  have hxl : i % img.w < img.w := Nat.mod_lt _ hw
  refine ⟨by simp only [hx]; exact hxl, hy, rfl, ?_⟩
  simp only [hx]
  have := blockCellsWith_get mode cell img (i % img.w) (i / img.w) hxl hy
  rw [this]

theorem blockHeight_rows (ph y : Nat) (hy : y < blockHeight ph) :
    2 * y < ph ∧ (2 * y + 1 < ph ∨ (ph % 2 = 1 ∧ y + 1 = blockHeight ph)) := by
  rw [blockHeight_eq] at hy ⊢
  unfold VaxisModel.Spec.Images.ceilDiv at hy ⊢
  omega

/-- On this model's images (`at` is the zero colour outside the bounds) not reading a missing lower pixel is the
    same as reading it. -/
theorem lowerPx_zeroIfMissing (img : Img) (x y : Nat) : lowerPx .zeroIfMissing img x y = lowerPx .read img x y := by
  show (if y + 1 < img.h then img.at x (y + 1) else ⟨0, 0, 0, 0⟩) = img.at x (y + 1)
  split
  · rfl
  · rename_i hlt
    exact (if_neg fun hh => hlt hh.2).symm

/-- The source regenerated says: the lower pixel of a full-block cell is the upper one again when the image has no
    such row (F220 repaired). -/
theorem full_block_bottom_shape : fullBlockBottom = .topIfMissing := by decide

theorem halfCells_mem (img : Img) (e : Nat × Nat × BCell) (he : e ∈ halfCells img) :
    e.1 < img.w ∧ e.2.1 < ceilDiv img.h 2 ∧ 2 * e.2.1 < img.h ∧
    e.2.2 = halfCell (img.at e.1 (2 * e.2.1))
      (if 2 * e.2.1 + 1 < img.h then img.at e.1 (2 * e.2.1 + 1) else ⟨0, 0, 0, 0⟩) := by
  obtain ⟨h1, h2, h3, _⟩ := blockCellsWith_mem .read halfCell img e he
  refine ⟨h1, blockHeight_eq img.h ▸ h2, (blockHeight_rows img.h e.2.1 h2).1, ?_⟩
  rw [h3, ← lowerPx_zeroIfMissing]
  rfl

def finalK : KImg → List KEv → KImg
  | k, [] => k
  | k, .resize ok :: r => finalK (k.resize ok) r
  | k, .write :: r => finalK (k.write).1 r

def okResizes : List KEv → Nat
  | [] => 0
  | .resize true :: r => okResizes r + 1
  | _ :: r => okResizes r

theorem uploads_conserve : ∀ (evs : List KEv) (k : KImg),
    (uploads k evs).sum + (finalK k evs).encs = k.encs + okResizes evs
  | [], k => by simp [uploads, finalK, okResizes]
  | .resize true :: r, k => by
    have := uploads_conserve r (k.resize true)
    simp only [uploads, finalK, okResizes, KImg.resize, if_true] at this ⊢
    omega
  | .resize false :: r, k => by
    have := uploads_conserve r (k.resize false)
    simp only [uploads, finalK, okResizes, KImg.resize] at this ⊢
    simpa using this
  | .write :: r, k => by
    have := uploads_conserve r (k.write).1
    simp only [uploads, finalK, okResizes, List.sum_cons] at this ⊢
    unfold KImg.write at this ⊢
    split <;> simp_all <;> omega

theorem uploads_quiet : ∀ (evs : List KEv) (k : KImg), k.uploaded = true → (∀ e ∈ evs, e ≠ KEv.resize true) →
    ∀ n ∈ uploads k evs, n = 0
  | [], _, _, _, n, hn => by simp [uploads] at hn
  | .resize true :: _, _, _, h, _, _ => absurd rfl (h _ (by simp))
  | .resize false :: r, k, hk, h, n, hn => by
    simp only [uploads, KImg.resize] at hn
    exact uploads_quiet r k hk (fun e he => h e (by simp [he])) n (by simpa using hn)
  | .write :: r, k, hk, h, n, hn => by
    simp only [uploads, KImg.write, hk, if_true, List.mem_cons] at hn
    rcases hn with rfl | hn
    · rfl
    · exact uploads_quiet r k hk (fun e he => h e (by simp [he])) n hn

end VaxisModel.Lemmas.ImageTerm
