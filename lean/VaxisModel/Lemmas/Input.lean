import VaxisModel.Model.InputLoop
import VaxisModel.Spec.InputEvents
import VaxisModel.Spec.Startup
import VaxisModel.Lemmas.ExceptM
import VaxisModel.Lemmas.ListSplit

/-! The hand model of `handleSequence` (`Model.Input.handle`): the regenerated constants it reads, its bit masks as
arithmetic, when it does not panic (`ok?` pushed through `if` and `>>=`), and what it returns — the postcondition calculus
`Post` with the shapes of the replies. -/
namespace VaxisModel.Lemmas.Input
open VaxisModel.Model.Input

theorem kinds_now : VaxisModel.Model.InputLoop.Kinds.ofGen =
    { cursorPos := .nonblocking, sizeDone := .nonblocking, color := .nonblocking, fg := .nonblocking,
      bg := .nonblocking, clipboard := .timeout } := by decide +kernel

theorem decrpm0 : decrpmVals 0 = [1, 2] := by decide +kernel
theorem decrpm1 : decrpmVals 1 = [1, 2, 3] := by decide +kernel
theorem decrpm2 : decrpmVals 2 = [1, 2] := by decide +kernel

theorem and195 : ∀ r : Fin 256, r.val &&& 195 = r.val % 4 + (r.val / 64 % 4) * 64 := by decide +kernel

theorem andMask_nat (b m : Nat) : andMask (b : Int) m = (b % 256) &&& m := by
  unfold andMask
  have : ((b : Int) % 256).toNat = b % 256 := by omega
  rw [this]

theorem andMask_buttons (b : Nat) : andMask (b : Int) 195 = b % 4 + (b / 64 % 4) * 64 := by
  rw [andMask_nat]
  have := and195 ⟨b % 256, by omega⟩
  simp only at this
  rw [this]; omega

theorem and_two_pow_eq_zero (x k : Nat) : x &&& 2 ^ k = 0 ↔ x.testBit k = false := by
  constructor
  · intro h
    have := congrArg (·.testBit k) h
    simpa [Nat.testBit_and, Nat.testBit_two_pow_self] using this
  · intro h
    apply Nat.eq_of_testBit_eq
    intro i
    by_cases hi : k = i
    · subst hi; simp [Nat.testBit_and, h]
    · simp [Nat.testBit_and, hi]

theorem andMask_pow (b k : Nat) (hk : k < 8) : andMask (b : Int) (2 ^ k) = 0 ↔ b / 2 ^ k % 2 = 0 := by
  rw [andMask_nat, and_two_pow_eq_zero, show (256 : Nat) = 2 ^ 8 from rfl, Nat.testBit_mod_two_pow]
  simp only [hk, decide_true, Bool.true_and, Nat.testBit_eq_decide_div_mod_eq, decide_eq_false_iff_not]
  omega

theorem andMask_shift (b : Nat) : andMask (b : Int) 4 = 0 ↔ b / 4 % 2 = 0 := andMask_pow b 2 (by decide)
theorem andMask_alt (b : Nat) : andMask (b : Int) 8 = 0 ↔ b / 8 % 2 = 0 := andMask_pow b 3 (by decide)
theorem andMask_ctrl (b : Nat) : andMask (b : Int) 16 = 0 ↔ b / 16 % 2 = 0 := andMask_pow b 4 (by decide)
theorem andMask_motion (b : Nat) : andMask (b : Int) 32 = 0 ↔ b / 32 % 2 = 0 := andMask_pow b 5 (by decide)

theorem wrap64_pred (x : Nat) (h : x < 2 ^ 63) : wrap64 ((x : Int) - 1) = (x : Int) - 1 := by
  unfold wrap64; omega

theorem mouseGuard_sgr : mouseGuard [60] = .ok false := by rfl

/-- The modifier word assembled with `|=` equals the arithmetic sum of the three bits. -/
theorem mods_sum (b : Nat) :
    (((if andMask (b : Int) 4 = 0 then 0 else modShift) ||| if andMask (b : Int) 8 = 0 then 0 else modAlt) |||
      if andMask (b : Int) 16 = 0 then 0 else modCtrl) = b / 4 % 2 * 1 + b / 8 % 2 * 2 + b / 16 % 2 * 4 := by
  simp only [andMask_shift, andMask_alt, andMask_ctrl]
  rcases Nat.mod_two_eq_zero_or_one (b / 4) with h1 | h1 <;>
  rcases Nat.mod_two_eq_zero_or_one (b / 8) with h2 | h2 <;>
  rcases Nat.mod_two_eq_zero_or_one (b / 16) with h3 | h3 <;>
  simp [h1, h2, h3, modShift, modAlt, modCtrl]

def WfParams (ps : List (List Int)) : Prop := ∀ p ∈ ps, p ≠ []

def ok? {ε α} : Except ε α → Bool | .ok _ => true | .error _ => false

theorem ok_iff {ε α} (x : Except ε α) : (∃ r, x = .ok r) ↔ ok? x = true := by
  cases x <;> simp [ok?]

theorem mapM_idx0_ok (ps : List (List Int)) (h : WfParams ps) : ∃ l, ps.mapM (fun p => idx p 0) = .ok l := by
  induction ps with
  | nil => exact ⟨[], rfl⟩
  | cons a t ih =>
    have ha : a ≠ [] := h a (by simp)
    obtain ⟨l, hl⟩ := ih (fun p hp => h p (by simp [hp]))
    cases a with
    | nil => exact absurd rfl ha
    | cons x xs =>
      refine ⟨x :: l, ?_⟩
      simp only [List.mapM_cons, hl]
      simp [idx, bind, Except.bind, pure, Except.pure]

theorem wf_cons {a : List Int} {t : List (List Int)} (h : WfParams (a :: t)) :
    (∃ a0 as, a = a0 :: as) ∧ WfParams t := by
  constructor
  · have := h a (by simp)
    cases a with
    | nil => exact absurd rfl this
    | cons x xs => exact ⟨x, xs, rfl⟩
  · exact fun p hp => h p (by simp [hp])

theorem ok_ok {ε α} (a : α) : ok? (Except.ok a : Except ε α) = true := rfl

theorem ok_ite_iff {ε α} (c : Prop) [Decidable c] (a b : Except ε α) :
    ok? (if c then a else b) = true ↔ (c → ok? a = true) ∧ (¬c → ok? b = true) := by split <;> simp [*]

theorem ok_bind_iff {ε α β} (x : Except ε α) (f : α → Except ε β) :
    ok? (x >>= f) = true ↔ ok? x = true ∧ ∀ a, x = .ok a → ok? (f a) = true := by
  cases x <;> simp [ok?, Except.ok_bind, Except.error_bind]

theorem idx2_ok (ps : List (List Int)) (h : WfParams ps) (k : Nat) : ok? (idx2 ps k 0) = true ↔ k < ps.length := by
  unfold idx2 idx
  cases hk : ps[k]? with
  | none => simpa [ok?, bind, Except.bind] using hk
  | some p =>
    have hlt : k < ps.length := by
      rcases Nat.lt_or_ge k ps.length with h' | h'
      · exact h'
      · simp [List.getElem?_eq_none h'] at hk
    cases p with
    | nil => exact absurd rfl (h [] (List.mem_of_getElem? hk))
    | cons a t => simp [ok?, bind, Except.bind, hlt]

theorem idx_ok {α} (l : List α) (k : Nat) : ok? (idx l k) = true ↔ k < l.length := by
  unfold idx
  cases h : l[k]? with
  | none => simpa [ok?] using h
  | some a => simp [ok?, (List.getElem?_eq_some_iff.mp h).1]

theorem parseMouse_ok (interm : List Nat) (params : List (List Int)) (final : Nat)
    (h : WfParams params) : ok? (parseMouse interm params final) = true := by
  have okp : ∀ x : Option Mouse, ok? (pure x : Except Panic (Option Mouse)) = true := fun _ => rfl
  have okb : ∀ x : Bool, ok? (pure x : Except Panic Bool) = true := fun _ => rfl
  unfold parseMouse mouseGuard mouseGuardWith
  simp only [ok_ite_iff, ok_bind_iff, idx2_ok params h, idx_ok, ok_ok, okp, okb, VaxisModel.Gen.Caps.mouseGuardIsOr]
  simp +contextual

/-- Every `Parameters[k][0]` of `handleCSI` stands behind a test of `len(Parameters)` that covers `k`:
after one pass over the definition only these length facts are left. -/
theorem handleCSI_ok (st : VState) (interm : List Nat) (params : List (List Int)) (final : Nat)
    (h : WfParams params) : ok? (handleCSI st interm params final) = true := by
  obtain ⟨fs, hfs⟩ := mapM_idx0_ok params h
  have hpm := parseMouse_ok interm params final h
  have okp : ∀ x : VState × List Effect, ok? (pure x : Res) = true := fun _ => rfl
  unfold handleCSI
  simp only [ok_ite_iff, ok_bind_iff, idx2_ok params h, keyArm, post, decrpmArm, ok_ok, hfs]
  simp [okp, hpm]
  repeat' (first | intro _ | constructor)
  all_goals first | omega | exact List.length_pos_iff.2 ‹_› | (rename_i a _; cases a <;> rfl)

theorem splitOn_eq_split (sep : Nat) : ∀ s, splitOn sep s = ListSplit.split sep s
  | [] => rfl
  | c :: rest => by
    simp only [splitOn, ListSplit.split, splitOn_eq_split sep rest]
    cases ListSplit.split sep rest with
    | nil => rfl
    | cons a t => by_cases hc : c = sep <;> simp [hc]

theorem splitOn_ne_nil (sep : Nat) (l : List Nat) : ∃ h t, splitOn sep l = h :: t := by
  rw [splitOn_eq_split]
  cases h : ListSplit.split sep l with
  | nil => exact absurd h (ListSplit.split_ne_nil sep l)
  | cons a t => exact ⟨a, t, rfl⟩

theorem suffix_q_nil : isSuffix (str " q") [] = false := by rfl

theorem handleDCS_ok (st : VState) (final : Nat) (interm : List Nat) (params : List Int) (data : List Nat) :
    ok? (handleDCS st final interm params data) = true := by
  have okp : ∀ x : VState × List Effect, ok? (pure x : Res) = true := fun _ => rfl
  obtain ⟨v0, vt, hv⟩ := splitOn_ne_nil (ch '=') data
  unfold handleDCS
  simp only [ok_ite_iff, ok_bind_iff, idx_ok, ok_ok, okp, post, hv]
  simp +contextual [Nat.pos_iff_ne_zero]
  rintro - - - - - - hs rfl
  simp [suffix_q_nil] at hs

theorem handleOSC_ok (b64 : List Nat → Option (List Nat)) (st : VState) (payload : List Nat) :
    ok? (handleOSC b64 st payload) = true := by
  unfold handleOSC
  generalize splitOn (ch ';') payload = vals
  rcases vals with _ | ⟨v0, _ | ⟨v1, _ | ⟨v2, _ | ⟨v3, vrest⟩⟩⟩⟩ <;>
  simp [idx, bind, Except.bind, pure, Except.pure, ok_ite_iff, ok_ok]
  cases b64 v2 <;> simp [ok_ok]

def WfSeq : Seq → Prop
  | .csi _ ps _ => WfParams ps
  | _ => True

theorem handle_ok (b64 : List Nat → Option (List Nat)) (st : VState) (s : Seq) (h : WfSeq s) :
    ok? (handle b64 st s) = true := by
  cases s with
  | csi i p f => exact handleCSI_ok st i p f h
  | dcs f i p d => exact handleDCS_ok st f i p d
  | osc p => exact handleOSC_ok b64 st p
  | apc d => simp [handle, post, ok_ite_iff, ok_ok]
  | _ => simp [handle, keyArm, ok_ok]

/-! `Post Q r`: whatever `r` returns satisfies `Q` (a panic satisfies everything).  The rules follow the constructs the
hand model is written with — a result (`.ok` / `pure`), `if`, and `>>=` over `Except` — so that one `simp only` pass over
an arm leaves the conditions of its leaves; `idx2_eq_ok` turns the checked index into the accessor `par` the
specifications are written with, so no parameter list has to be taken apart. -/

def Post (Q : VState → List Effect → Prop) (r : Res) : Prop := ∀ st' effs, r = .ok (st', effs) → Q st' effs

section
variable {Q : VState → List Effect → Prop}

theorem Post_ok (st : VState) (effs : List Effect) : Post Q (.ok (st, effs)) ↔ Q st effs :=
  ⟨fun h => h st effs rfl, fun h _ _ e => by cases e; exact h⟩
theorem Post_pure (st : VState) (effs : List Effect) : Post Q (pure (st, effs)) ↔ Q st effs := Post_ok st effs
theorem Post_ite (c : Prop) [Decidable c] (a b : Res) : Post Q (if c then a else b) ↔ (c → Post Q a) ∧ (¬c → Post Q b) := by
  split <;> simp [*]
theorem Post_bind {α} (x : Except Panic α) (f : α → Res) : Post Q (x >>= f) ↔ ∀ a, x = .ok a → Post Q (f a) := by
  cases x with
  | error e => simp [Post, Except.error_bind]
  | ok a => simp [Except.ok_bind]
theorem Post_mono {Q' : VState → List Effect → Prop} {r : Res} (h : ∀ s e, Q s e → Q' s e) (hr : Post Q r) : Post Q' r :=
  fun s e he => h s e (hr s e he)

end

open VaxisModel.Spec.Startup (par) in
theorem idx2_eq_ok (ps : List (List Int)) (i : Nat) (a : Int) : idx2 ps i 0 = .ok a ↔ par ps i = some a := by
  unfold idx2 idx par
  cases h : ps[i]? with
  | none => simp [bind, Except.bind]
  | some p => cases p <;> simp [bind, Except.bind]

theorem idx_eq_ok {α} (l : List α) (i : Nat) (a : α) : idx l i = .ok a ↔ l[i]? = some a := by
  unfold idx; split <;> simp_all

theorem idx0_eq_ok {α} (l : List α) (a : α) : idx l 0 = .ok a ↔ l.head? = some a := by
  cases l <;> simp [idx]

open VaxisModel.Spec.Startup (par) in
theorem par_lt {ps : List (List Int)} {i : Nat} {a : Int} (h : par ps i = some a) : i < ps.length := by
  unfold par at h
  cases hp : ps[i]? with
  | none => simp [hp] at h
  | some p => exact (List.getElem?_eq_some_iff.mp hp).1

/-- One arm of `handleCSI`: the tests on the final are decided, the postcondition is pushed to the leaves, and an index
that succeeds becomes the specification's `par params k = some a` (`idx2_eq_ok`). -/
macro "post_arm" : tactic => `(tactic| (
  unfold handleCSI
  simp only [ch, Nat.reduceBEq, Char.reduceToNat, Bool.false_eq_true, Bool.or_self, ↓reduceIte]
  simp only [Post_ite, Post_bind, Post_ok, Post_pure, keyArm, post, decrpmArm, idx2_eq_ok]))

def effInternal : Effect → Bool
  | .postB e | .postNB e => !e.userVisible
  | _ => true

def Reply (st : VState) : VState → List Effect → Prop :=
  fun st' effs => effs.all effInternal = true ∧ st'.pastePending = st.pastePending ∧ st'.reqCursorPos = st.reqCursorPos

def isQueryReplyCSI (interm : List Nat) (params : List (List Int)) (final : Nat) : Bool :=
  (final == ch 'c' && isPrivate interm) || (final == ch 'S' && isPrivate interm && decide (3 ≤ params.length)) ||
  final == ch 'y' || (final == ch 'u' && isPrivate interm) ||
  (final == ch 't' && !(params.head?.bind List.head? == some 48)) ||
  (final == ch 'n' && isPrivate interm && params.length == 2 && !(params.head?.bind List.head? == some 997))

open VaxisModel.Spec.Startup (par) in
theorem reply_csi (st : VState) (interm : List Nat) (params : List (List Int)) (final : Nat)
    (h : isQueryReplyCSI interm params final = true) : Post (Reply st) (handleCSI st interm params final) := by
  have hpar0 : params.head?.bind List.head? = par params 0 := by simp [par, List.head?_eq_getElem?]
  simp only [isQueryReplyCSI, hpar0, Bool.or_eq_true, Bool.and_eq_true, beq_iff_eq, decide_eq_true_eq, Bool.not_eq_true',
    beq_eq_false_iff_ne, ne_eq] at h
  -- the final first: each case then walks through its own arm only
  rcases h with ((((⟨rfl, hp⟩ | ⟨⟨rfl, hp⟩, hl⟩) | rfl) | ⟨rfl, hp⟩) | ⟨rfl, h48⟩) | ⟨⟨⟨rfl, hp⟩, hl⟩, h997⟩
  all_goals
    post_arm
    simp_all [Reply, effInternal, Event.userVisible, Gen.Caps.colorThemeResp]
  all_goals (intros; subst_vars; contradiction)

theorem decrpm_post (vs : VState) (interm : List Nat) (params : List (List Int)) :
    Post (fun vs' effs => vs' = vs ∧ (effs = [] ∨ ∃ i, effs = [.postB (.internal i)])) (handleCSI vs interm params (ch 'y')) := by
  post_arm
  simp +contextual

open VaxisModel.Spec.Startup (par) in
theorem cpr_post (vs : VState) (interm : List Nat) (params : List (List Int)) :
    Post (fun vs' effs =>
        (vs.reqCursorPos = true ∧ vs' = { vs with reqCursorPos := false } ∧
          ((params.length ≠ 2 ∧ effs = []) ∨
           (params.length = 2 ∧ ∃ r c, par params 0 = some r ∧ par params 1 = some c ∧ effs = [.sendCursorPos r c]))) ∨
        (vs.reqCursorPos = false ∧ vs' = vs ∧ effs = [.postB (.key (.csi interm params (ch 'R')) vs.pastePending)]))
      (handleCSI vs interm params (ch 'R')) := by
  post_arm
  cases vs.reqCursorPos <;> simp +contextual

theorem reply_dcs (st : VState) (final : Nat) (interm : List Nat) (params : List Int) (data : List Nat) :
    Post (Reply st) (handleDCS st final interm params data) := by
  unfold handleDCS
  simp only [Post_ite, Post_bind, Post_ok, Post_pure, post]
  simp [Reply, effInternal, Event.userVisible]

def oscEff : Effect → Bool
  | .sendColor _ | .sendFg _ | .sendBg _ | .sendClipboard _ | .postB (.internal _) | .postNB (.appID _) => true
  | _ => false

theorem osc_effs (b64 : List Nat → Option (List Nat)) (st : VState) (payload : List Nat) :
    Post (fun st' effs => st' = st ∧ ∀ e ∈ effs, oscEff e = true) (handleOSC b64 st payload) := by
  unfold handleOSC
  extract_lets e4 e10 e11 acc vals jp
  have hacc : ∀ e ∈ acc, oscEff e = true :=
    List.all_eq_true.mp (by simp [acc, e4, e10, e11, List.all_append, apply_ite (List.all · oscEff), oscEff])
  have hjp : ∀ r a, (∀ e ∈ a, oscEff e = true) →
      Post (fun st' effs => st' = st ∧ ∀ e ∈ effs, oscEff e = true) (jp (r, a)) := by
    intro r a ha
    have h176 : ∀ v, oscEff (.postNB (.appID v)) = true := fun _ => rfl
    simp +contextual [-bind_pure_comp, jp, Post_ite, Post_bind, Post_pure, or_imp, ha, h176]
  simp only [pure_bind, Post_ite, Post_bind]
  refine ⟨fun _ => ⟨fun _ => hjp _ _ hacc, fun _ v2 _ => ?_⟩, fun _ => hjp _ _ hacc⟩
  cases b64 v2
  · exact hjp _ _ hacc
  · exact hjp _ _ fun e he => (List.mem_append.mp he).elim (hacc e) fun h => by cases List.mem_singleton.mp h; rfl

theorem reply_osc (b64 : List Nat → Option (List Nat)) (st : VState) (payload : List Nat) :
    Post (Reply st) (handleOSC b64 st payload) := by
  refine Post_mono (fun s e ⟨hs, he⟩ => ⟨List.all_eq_true.mpr fun x hx => ?_, by rw [hs], by rw [hs]⟩) (osc_effs b64 st payload)
  have := he x hx
  revert this
  cases x <;> simp [oscEff, effInternal]
  all_goals (rename_i ev; cases ev <;> simp [Event.userVisible])

end VaxisModel.Lemmas.Input
