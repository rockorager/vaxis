/-
Evaluation lemmas for the interpreter of the regenerated input bodies (`Model/InputBody.lean`): they
let `simp` run a concrete body on symbolic inputs statement by statement.
-/
import VaxisModel.Model.InputBody
import VaxisModel.Lemmas.InputBodyAttr

namespace VaxisModel.Lemmas.InputBody
open VaxisModel.Model.GoBody VaxisModel.Model.Input VaxisModel.Model.InputBody VaxisModel.Model.InputLoop

/-! This interpreter has its own `St`, `V`, `R` (Model/InputBody.lean); Lemmas/GoInterp.lean has these lemmas for the key decoder's. -/
@[simp] theorem andThen_norm (st : St) (f : St → R) : (R.norm st).andThen f = f st := rfl
@[simp] theorem andThen_ret (st : St) (v : V) (f : St → R) : (R.ret st v).andThen f = .ret st v := rfl
@[simp] theorem andThen_brk (st : St) (f : St → R) : (R.brk st).andThen f = .brk st := rfl
@[simp] theorem andThen_cont (st : St) (f : St → R) : (R.cont st).andThen f = .cont st := rfl
@[simp] theorem andThen_fail (e : Fail) (f : St → R) : (R.fail e).andThen f = .fail e := rfl
theorem andThen_ite (p : Prop) [Decidable p] (a b : R) (f : St → R) :
    (if p then a else b).andThen f = if p then a.andThen f else b.andThen f := by split <;> rfl

@[simp] theorem afterSwitch_norm (st : St) : afterSwitch (.norm st) = .norm st := rfl
@[simp] theorem afterSwitch_ret (st : St) (v : V) : afterSwitch (.ret st v) = .ret st v := rfl
@[simp] theorem afterSwitch_brk (st : St) : afterSwitch (.brk st) = .norm st := rfl
@[simp] theorem afterSwitch_cont (st : St) : afterSwitch (.cont st) = .cont st := rfl
@[simp] theorem afterSwitch_fail (e : Fail) : afterSwitch (.fail e) = .fail e := rfl
theorem afterSwitch_ite (p : Prop) [Decidable p] (a b : R) :
    afterSwitch (if p then a else b) = if p then afterSwitch a else afterSwitch b := by split <;> rfl

theorem strLen_nonneg : ∀ s, 0 ≤ strLen s
  | [] => by simp [strLen]
  | r :: t => by
    have := strLen_nonneg t
    simp only [strLen, utf8Len]; split <;> (try split) <;> (try split) <;> omega

section
variable (c : Ctx) (env : Env) (vs : VState)
theorem callFn_len_str (s : List Nat) : callFn c env vs "len" [.str s] = .ok (.int (strLen s)) := by unfold callFn; simp
theorem callFn_len_ints (l : List Int) : callFn c env vs "len" [.ints l] = .ok (.int l.length) := by unfold callFn; simp
theorem callFn_len_intss (l : List (List Int)) : callFn c env vs "len" [.intss l] = .ok (.int l.length) := by unfold callFn; simp
theorem callFn_len_strs (l : List (List Nat)) : callFn c env vs "len" [.strs l] = .ok (.int l.length) := by unfold callFn; simp
theorem callFn_string (s : List Nat) : callFn c env vs "string" [.str s] = .ok (.str s) := by unfold callFn; simp
theorem callFn_ctm (n : Int) : callFn c env vs "ColorThemeMode" [.int n] = .ok (.int n) := by unfold callFn; simp
theorem callFn_mb (n : Int) : callFn c env vs "MouseButton" [.int n] = .ok (.int n) := by unfold callFn; simp
theorem callFn_cs (n : Int) : callFn c env vs "CursorStyle" [.int n] = .ok (.int n) := by unfold callFn; simp
theorem callFn_terminalID (s : List Nat) : callFn c env vs "terminalID" [.str s] = .ok (.ev (.terminalID s)) := by unfold callFn; simp
theorem callFn_appID (s : List Nat) : callFn c env vs "appID" [.str s] = .ok (.ev (.appID s)) := by unfold callFn; simp
theorem callFn_decodeKey (s : Seq) : callFn c env vs "decodeKey" [.seq s] = .ok (.key s false) := by unfold callFn; simp
theorem callFn_parseMouse (s : Seq) : callFn c env vs "parseMouseEvent" [.seq s] = c.parseMouse s := by unfold callFn; simp
theorem callFn_split (s : List Nat) (sep : Nat) : callFn c env vs "strings.Split" [.str s, .str [sep]] = .ok (.strs (splitOn sep s)) := by unfold callFn; simp
theorem callFn_hasPrefix (s p : List Nat) : callFn c env vs "strings.HasPrefix" [.str s, .str p] = .ok (.bool (isPrefix p s)) := by unfold callFn; simp
theorem callFn_hasSuffix (s p : List Nat) : callFn c env vs "strings.HasSuffix" [.str s, .str p] = .ok (.bool (isSuffix p s)) := by unfold callFn; simp
theorem callFn_hexEncode (s : List Nat) : callFn c env vs "hexEncode" [.str s] = .ok (.str (hexEncode s)) := by unfold callFn; simp
theorem callFn_b64 (s : List Nat) : callFn c env vs "base64.StdEncoding.DecodeString" [.str s] =
    (match c.b64 s with | some b => .ok (.pair (.str b) .nil) | none => .ok (.pair (.str []) .errv)) := rfl
theorem callFn_can4 : callFn c env vs "vx.CanReportColor" [] = .ok (.bool vs.caps.osc4) := by unfold callFn; simp
theorem callFn_can10 : callFn c env vs "vx.CanReportForegroundColor" [] = .ok (.bool vs.caps.osc10) := by unfold callFn; simp
theorem callFn_can11 : callFn c env vs "vx.CanReportBackgroundColor" [] = .ok (.bool vs.caps.osc11) := by unfold callFn; simp
theorem callFn_background : callFn c env vs "context.Background" [] = .ok (.opaque "background") := by unfold callFn; simp
theorem callFn_mul (n : Int) : callFn c env vs "mul" [.int n, .opaque "duration"] = .ok (.opaque "duration") := by unfold callFn; simp
theorem callFn_withTimeout : callFn c env vs "context.WithTimeout" [.opaque "background", .opaque "duration"] =
    .ok (.pair (.opaque "timeout context") (.opaque "cancel")) := by unfold callFn; simp
end

section
variable (env : Env) (vs : VState)
theorem readGlobal_0 : readGlobal env vs "seq.Final" = envSeqField env "Final" := by simp [readGlobal]
theorem readGlobal_1 : readGlobal env vs "seq.Intermediate" = envSeqField env "Intermediate" := by simp [readGlobal]
theorem readGlobal_2 : readGlobal env vs "seq.Parameters" = envSeqField env "Parameters" := by simp [readGlobal]
theorem readGlobal_3 : readGlobal env vs "seq.Data" = envSeqField env "Data" := by simp [readGlobal]
theorem readGlobal_4 : readGlobal env vs "seq.Payload" = envSeqField env "Payload" := by simp [readGlobal]
theorem readGlobal_5 : readGlobal env vs "vx.pastePending" = .ok (.bool vs.pastePending) := by simp [readGlobal]
theorem readGlobal_6 : readGlobal env vs "vx.caps.reportSizePixels" = .ok (.bool vs.caps.reportSizePixels) := by simp [readGlobal]
theorem readGlobal_7 : readGlobal env vs "vx.caps.reportSizeChars" = .ok (.bool vs.caps.reportSizeChars) := by simp [readGlobal]
theorem readGlobal_8 : readGlobal env vs "vx.caps.inBandResize" = .ok (.bool vs.caps.inBandResize) := by simp [readGlobal]
theorem readGlobal_9 : readGlobal env vs "EventPress" = .ok (.int evPress) := by simp [readGlobal]
theorem readGlobal_10 : readGlobal env vs "EventRelease" = .ok (.int evRelease) := by simp [readGlobal]
theorem readGlobal_11 : readGlobal env vs "EventMotion" = .ok (.int evMotion) := by simp [readGlobal]
theorem readGlobal_12 : readGlobal env vs "EventPaste" = .ok (.int evPaste) := by simp [readGlobal]
theorem readGlobal_13 : readGlobal env vs "ModShift" = .ok (.int modShift) := by simp [readGlobal]
theorem readGlobal_14 : readGlobal env vs "ModAlt" = .ok (.int modAlt) := by simp [readGlobal]
theorem readGlobal_15 : readGlobal env vs "ModCtrl" = .ok (.int modCtrl) := by simp [readGlobal]
theorem readGlobal_16 : readGlobal env vs "buttonBits" = .ok (.int Gen.Caps.buttonBits) := by simp [readGlobal]
theorem readGlobal_17 : readGlobal env vs "motion" = .ok (.int Gen.Caps.motion) := by simp [readGlobal]
theorem readGlobal_18 : readGlobal env vs "mouseModShift" = .ok (.int Gen.Caps.mouseModShift) := by simp [readGlobal]
theorem readGlobal_19 : readGlobal env vs "mouseModAlt" = .ok (.int Gen.Caps.mouseModAlt) := by simp [readGlobal]
theorem readGlobal_20 : readGlobal env vs "mouseModCtrl" = .ok (.int Gen.Caps.mouseModCtrl) := by simp [readGlobal]
theorem readGlobal_21 : readGlobal env vs "colorThemeResp" = .ok (.int Gen.Caps.colorThemeResp) := by simp [readGlobal]
theorem readGlobal_22 : readGlobal env vs "vx.chCursorPos" = .ok (.chan "chCursorPos") := by simp [readGlobal]
theorem readGlobal_23 : readGlobal env vs "vx.chSizeDone" = .ok (.chan "chSizeDone") := by simp [readGlobal]
theorem readGlobal_24 : readGlobal env vs "vx.chColor" = .ok (.chan "chColor") := by simp [readGlobal]
theorem readGlobal_25 : readGlobal env vs "vx.chFg" = .ok (.chan "chFg") := by simp [readGlobal]
theorem readGlobal_26 : readGlobal env vs "vx.chBg" = .ok (.chan "chBg") := by simp [readGlobal]
theorem readGlobal_27 : readGlobal env vs "vx.chClipboard" = .ok (.chan "chClipboard") := by simp [readGlobal]
theorem readGlobal_28 : readGlobal env vs "vx" = .ok (.opaque "vx") := by simp [readGlobal]
theorem readGlobal_29 : readGlobal env vs "time.Millisecond" = .ok (.opaque "duration") := by simp [readGlobal]
theorem readGlobal_30 : readGlobal env vs "Mode" = .ok (.opaque "field Mode") := by simp [readGlobal]
end

theorem litValue_0 : litValue "Mouse" [] = .ok (.mouse zeroMouse) := by simp [litValue]
theorem litValue_1 : litValue "FocusIn" [] = .ok (.ev .focusIn) := by simp [litValue]
theorem litValue_2 : litValue "FocusOut" [] = .ok (.ev .focusOut) := by simp [litValue]
theorem litValue_3 : litValue "PasteStartEvent" [] = .ok (.ev .pasteStart) := by simp [litValue]
theorem litValue_4 : litValue "PasteEndEvent" [] = .ok (.ev .pasteEnd) := by simp [litValue]
theorem litValue_5 : litValue "Redraw" [] = .ok (.ev .redraw) := by simp [litValue]
theorem litValue_6 : litValue "primaryDeviceAttribute" [] = .ok (.ev (.internal .primaryDeviceAttribute)) := by simp [litValue, internalOfName, Internal.all, Internal.name]
theorem litValue_7 : litValue "capabilitySixel" [] = .ok (.ev (.internal .capabilitySixel)) := by simp [litValue, internalOfName, Internal.all, Internal.name]
theorem litValue_8 : litValue "capabilityOsc4" [] = .ok (.ev (.internal .capabilityOsc4)) := by simp [litValue, internalOfName, Internal.all, Internal.name]
theorem litValue_9 : litValue "capabilityOsc10" [] = .ok (.ev (.internal .capabilityOsc10)) := by simp [litValue, internalOfName, Internal.all, Internal.name]
theorem litValue_10 : litValue "capabilityOsc11" [] = .ok (.ev (.internal .capabilityOsc11)) := by simp [litValue, internalOfName, Internal.all, Internal.name]
theorem litValue_11 : litValue "synchronizedUpdates" [] = .ok (.ev (.internal .synchronizedUpdates)) := by simp [litValue, internalOfName, Internal.all, Internal.name]
theorem litValue_12 : litValue "unicodeCoreCap" [] = .ok (.ev (.internal .unicodeCoreCap)) := by simp [litValue, internalOfName, Internal.all, Internal.name]
theorem litValue_13 : litValue "notifyColorChange" [] = .ok (.ev (.internal .notifyColorChange)) := by simp [litValue, internalOfName, Internal.all, Internal.name]
theorem litValue_14 : litValue "kittyKeyboard" [] = .ok (.ev (.internal .kittyKeyboard)) := by simp [litValue, internalOfName, Internal.all, Internal.name]
theorem litValue_15 : litValue "styledUnderlines" [] = .ok (.ev (.internal .styledUnderlines)) := by simp [litValue, internalOfName, Internal.all, Internal.name]
theorem litValue_16 : litValue "truecolor" [] = .ok (.ev (.internal .truecolor)) := by simp [litValue, internalOfName, Internal.all, Internal.name]
theorem litValue_17 : litValue "kittyGraphics" [] = .ok (.ev (.internal .kittyGraphics)) := by simp [litValue, internalOfName, Internal.all, Internal.name]
theorem litValue_18 : litValue "textAreaPix" [] = .ok (.ev (.internal .textAreaPix)) := by simp [litValue, internalOfName, Internal.all, Internal.name]
theorem litValue_19 : litValue "textAreaChar" [] = .ok (.ev (.internal .textAreaChar)) := by simp [litValue, internalOfName, Internal.all, Internal.name]
theorem litValue_20 : litValue "inBandResizeEvents" [] = .ok (.ev (.internal .inBandResizeEvents)) := by simp [litValue, internalOfName, Internal.all, Internal.name]
theorem litValue_ctu (m : Int) : litValue "ColorThemeUpdate" [.opaque "field Mode", .int m] = .ok (.ev (.colorTheme m)) := by simp [litValue]
theorem litValue_2int (a b : Int) : litValue "[2]int" [.int a, .int b] = .ok (.ints [a, b]) := by simp [litValue]

section
variable (c : Ctx) (st : St)
theorem callStmt_postB (v : V) : callStmt c st "vx.PostEventBlocking" [v] =
    (match eventOf v with | .ok e => .norm (st.emit (.postB e) .blocking) | .error f => .fail f) := rfl
theorem callStmt_postNB (v : V) : callStmt c st "vx.PostEvent" [v] =
    (match eventOf v with | .ok e => .norm (st.emit (.postNB e) .nonblocking) | .error f => .fail f) := rfl
theorem callStmt_trySend (ch : String) (v : V) : callStmt c st "trySend" [.chan ch, v] = doSend st .nonblocking ch v := by unfold callStmt; simp
theorem callStmt_send (ch : String) (v : V) : callStmt c st "send" [.chan ch, v] = doSend st .blocking ch v := by unfold callStmt; simp
theorem callStmt_sendOrDone (ch : String) (v : V) : callStmt c st "sendOrDone" [.chan ch, v, .opaque "done"] = doSend st .timeout ch v := by unfold callStmt; simp
theorem callStmt_atomicStore (b : Bool) : callStmt c st "atomicStore" [.ref "vx.resize", .bool b] = .norm { st with vs := { st.vs with resizeFlag := b } } := by unfold callStmt; simp
theorem callStmt_resize : callStmt c st "vx.Resize" [] = c.resize st := by unfold callStmt; simp
theorem callStmt_noop0 : callStmt c st "log.Trace" [] = .norm st := by unfold callStmt; simp [noops]
theorem callStmt_noop1 : callStmt c st "log.Debug" [] = .norm st := by unfold callStmt; simp [noops]
theorem callStmt_noop2 : callStmt c st "log.Warn" [] = .norm st := by unfold callStmt; simp [noops]
theorem callStmt_noop3 : callStmt c st "log.Error" [] = .norm st := by unfold callStmt; simp [noops]
theorem callStmt_noop4 : callStmt c st "vx.mu.Lock" [] = .norm st := by unfold callStmt; simp [noops]
theorem callStmt_noop5 : callStmt c st "vx.mu.Unlock" [] = .norm st := by unfold callStmt; simp [noops]
theorem callStmt_verif (s : List Nat) : callStmt c st "verifC03" [.opaque "vx", .str s] = .norm st := by unfold callStmt; simp [noops]
end

theorem doSend_cursor (st : St) (k : SendKind) (r c : Int) : doSend st k "chCursorPos" (.ints [r, c]) = .norm (st.emit (.sendCursorPos r c) k) := by simp [doSend, sendEffect]
theorem doSend_size (st : St) (k : SendKind) : doSend st k "chSizeDone" (.bool true) = .norm (st.emit .sendSizeDone k) := by simp [doSend, sendEffect]
theorem doSend_color (st : St) (k : SendKind) (s : List Nat) : doSend st k "chColor" (.str s) = .norm (st.emit (.sendColor s) k) := by simp [doSend, sendEffect]
theorem doSend_fg (st : St) (k : SendKind) (s : List Nat) : doSend st k "chFg" (.str s) = .norm (st.emit (.sendFg s) k) := by simp [doSend, sendEffect]
theorem doSend_bg (st : St) (k : SendKind) (s : List Nat) : doSend st k "chBg" (.str s) = .norm (st.emit (.sendBg s) k) := by simp [doSend, sendEffect]
theorem doSend_clip (st : St) (k : SendKind) (s : List Nat) : doSend st k "chClipboard" (.str s) = .norm (st.emit (.sendClipboard s) k) := by simp [doSend, sendEffect]

section
variable (st : St)
theorem assign1_paste (b : Bool) : assign1 "vx.pastePending" (.bool b) st = .norm { st with vs := { st.vs with pastePending := b } } := by unfold assign1; simp
theorem assign1_xpix (n : Int) : assign1 "vx.nextSize.XPixel" (.int n) st = .norm { st with vs := { st.vs with nextSize := { st.vs.nextSize with xpix := n } } } := by unfold assign1; simp
theorem assign1_ypix (n : Int) : assign1 "vx.nextSize.YPixel" (.int n) st = .norm { st with vs := { st.vs with nextSize := { st.vs.nextSize with ypix := n } } } := by unfold assign1; simp
theorem assign1_cols (n : Int) : assign1 "vx.nextSize.Cols" (.int n) st = .norm { st with vs := { st.vs with nextSize := { st.vs.nextSize with cols := n } } } := by unfold assign1; simp
theorem assign1_rows (n : Int) : assign1 "vx.nextSize.Rows" (.int n) st = .norm { st with vs := { st.vs with nextSize := { st.vs.nextSize with rows := n } } } := by unfold assign1; simp
theorem assign1_ucs (n : Int) : assign1 "vx.userCursorStyle" (.int n) st = .norm { st with vs := { st.vs with userCursorStyle := n } } := by unfold assign1; simp
theorem assign1_keyET (n : Int) : assign1 "key.EventType" (.int n) st =
    (match st.env.lookup "key" with
     | some (.key s _) => if n = evPaste then .norm { st with env := ("key", .key s true) :: st.env } else .fail (.stuck "key.EventType value")
     | _ => .fail (.stuck "key.EventType")) := by
  unfold assign1; simp; split <;> simp_all
theorem assign1_mET (n : Int) : assign1 "mouse.EventType" (.int n) st =
    (match setMouse st.env fun m => { m with eventType := n.toNat } with | .ok e => .norm { st with env := e } | .error f => .fail f) := rfl
theorem assign1_mB (n : Int) : assign1 "mouse.Button" (.int n) st =
    (match setMouse st.env fun m => { m with button := n } with | .ok e => .norm { st with env := e } | .error f => .fail f) := rfl
theorem assign1_mC (n : Int) : assign1 "mouse.Col" (.int n) st =
    (match setMouse st.env fun m => { m with col := n } with | .ok e => .norm { st with env := e } | .error f => .fail f) := rfl
theorem assign1_mR (n : Int) : assign1 "mouse.Row" (.int n) st =
    (match setMouse st.env fun m => { m with row := n } with | .ok e => .norm { st with env := e } | .error f => .fail f) := rfl
theorem assign1_l_key (v : V) : assign1 "key" v st = .norm { st with env := ("key", v) :: st.env } := by unfold assign1; simp [localNames, bindVar]
theorem assign1_l_mouse (v : V) : assign1 "mouse" v st = .norm { st with env := ("mouse", v) :: st.env } := by unfold assign1; simp [localNames, bindVar]
theorem assign1_l_ok (v : V) : assign1 "ok" v st = .norm { st with env := ("ok", v) :: st.env } := by unfold assign1; simp [localNames, bindVar]
theorem assign1_l_ps (v : V) : assign1 "ps" v st = .norm { st with env := ("ps", v) :: st.env } := by unfold assign1; simp [localNames, bindVar]
theorem assign1_l_m (v : V) : assign1 "m" v st = .norm { st with env := ("m", v) :: st.env } := by unfold assign1; simp [localNames, bindVar]
theorem assign1_l_typ (v : V) : assign1 "typ" v st = .norm { st with env := ("typ", v) :: st.env } := by unfold assign1; simp [localNames, bindVar]
theorem assign1_l_h (v : V) : assign1 "h" v st = .norm { st with env := ("h", v) :: st.env } := by unfold assign1; simp [localNames, bindVar]
theorem assign1_l_w (v : V) : assign1 "w" v st = .norm { st with env := ("w", v) :: st.env } := by unfold assign1; simp [localNames, bindVar]
theorem assign1_l_report (v : V) : assign1 "report" v st = .norm { st with env := ("report", v) :: st.env } := by unfold assign1; simp [localNames, bindVar]
theorem assign1_l_resize (v : V) : assign1 "resize" v st = .norm { st with env := ("resize", v) :: st.env } := by unfold assign1; simp [localNames, bindVar]
theorem assign1_l_vals (v : V) : assign1 "vals" v st = .norm { st with env := ("vals", v) :: st.env } := by unfold assign1; simp [localNames, bindVar]
theorem assign1_l_b (v : V) : assign1 "b" v st = .norm { st with env := ("b", v) :: st.env } := by unfold assign1; simp [localNames, bindVar]
theorem assign1_l_err (v : V) : assign1 "err" v st = .norm { st with env := ("err", v) :: st.env } := by unfold assign1; simp [localNames, bindVar]
theorem assign1_l_ctx (v : V) : assign1 "ctx" v st = .norm { st with env := ("ctx", v) :: st.env } := by unfold assign1; simp [localNames, bindVar]
theorem assign1_l_cancel (v : V) : assign1 "cancel" v st = .norm { st with env := ("cancel", v) :: st.env } := by unfold assign1; simp [localNames, bindVar]
theorem assign1_l_cursorStyle (v : V) : assign1 "cursorStyle" v st = .norm { st with env := ("cursorStyle", v) :: st.env } := by unfold assign1; simp [localNames, bindVar]
theorem assign1_l_button (v : V) : assign1 "button" v st = .norm { st with env := ("button", v) :: st.env } := by unfold assign1; simp [localNames, bindVar]
theorem assign1_l_blank (v : V) : assign1 "_" v st = .norm st := by unfold assign1; simp [localNames, bindVar]
theorem orAssign_mods (n : Int) (h : 0 ≤ n) : orAssign "mouse.Modifiers" (.int n) st =
    (match setMouse st.env fun m => { m with mods := m.mods ||| n.toNat } with | .ok e => .norm { st with env := e } | .error f => .fail f) := by
  simp only [orAssign, if_true, h]
  rfl
end

/-! The raw equations of `execS` / `execSs` put the rest of a block under a `fun st' => …`; `simp` would
run the rest on the unknown `st'`.  These first-order forms only continue once the result in front
is known (`.norm st`, `.ok (b, st)`, an `if` over such results). -/

def thenSs (c : Ctx) (r : R) (t : Ss) : R := match r with | .norm st => execSs c t st | r => r
def condBranch (c : Ctx) (r : Except Fail (Bool × St)) (thn els : Ss) : R :=
  match r with
  | .ok (b, st2) => if b = true then execSs c thn st2 else execSs c els st2
  | .error f => .fail f
def swStep (c : Ctx) (r : Except Fail V) (st : St) (cases : Cs) : R :=
  match r with
  | .ok tv => afterSwitch (execCs c tv st (fun _ => execDefault c st cases) cases)
  | .error f => .fail f
def csStep (c : Ctx) (r : Except Fail Bool) (tv : V) (st : St) (dflt : Unit → R) (body : Ss) (t : Cs) : R :=
  match r with
  | .ok true => execSs c body st
  | .ok false => execCs c tv st dflt t
  | .error f => .fail f
def hitStep (c : Ctx) (r : Except Fail Bool) (tv : V) (st : St) (t : Es) : Except Fail Bool :=
  match r with
  | .ok true => .ok true
  | .ok false => labelHit c tv st t
  | .error f => .error f
def loopBody (c : Ctx) (v : String) (body : Ss) : St → V → R :=
  fun st' it => execSs c body { st' with env := bindVar v it st'.env }
def forStep (c : Ctx) (v : String) (body : Ss) (r : Except Fail V) (st : St) : R :=
  match r with
  | .ok xv => (match rangeItems xv with | some items => loop (loopBody c v body) items st | none => .fail (.stuck "range"))
  | .error f => .fail f
def tsStep (c : Ctx) (bnd : String) (r : Except Fail V) (st : St) (cases : Cs) : R :=
  match r with
  | .ok (.seq s) =>
    afterSwitch (execTy c (seqTypeName s) { st with env := bindVar bnd (.seq s) st.env }
      (fun _ => execDefault c { st with env := bindVar bnd (.seq s) st.env } cases) cases)
  | .ok _ => .fail (.stuck "type switch subject")
  | .error f => .fail f
def exprStep (c : Ctx) (st : St) (fn : String) (r : Except Fail (List V)) : R :=
  match r with | .ok l => callStmt c st fn l | .error f => .fail f
def assignStep (tok : AssignTok) (names : Option (List String)) (r : Except Fail V) (st : St) : R :=
  match names with
  | some ns => (match r with | .ok v => assignVals tok ns v st | .error f => .fail f)
  | none => .fail (.stuck "assignment shape")
def retStep (st : St) (r : Except Fail (List V)) : R :=
  match r with
  | .ok [] => .ret st .nil
  | .ok [v] => .ret st v
  | .ok [a, b] => .ret st (.pair a b)
  | .ok _ => .fail (.stuck "return arity")
  | .error f => .fail f

section
variable (c : Ctx) (st : St)
theorem execSs_nil : execSs c .nil st = .norm st := by rw [execSs]
theorem execSs_cons (h : S) (t : Ss) : execSs c (.cons h t) st = thenSs c (execS c h st) t := by
  rw [execSs]; cases execS c h st <;> rfl
theorem execS_assign (tok : AssignTok) (lhs : Es) (e : E) :
    execS c (.assign tok lhs (.cons e .nil)) st = assignStep tok (lhsNames lhs) (evalE c st.env st.vs e) st := by
  cases h : lhsNames lhs <;> simp [execS, assignStep, h] <;> rfl
theorem execS_if (cond : E) (thn els : Ss) :
    execS c (.ifS .nil cond thn els) st = condBranch c (evalCond c cond st) thn els := by
  rw [execS, execSs]; rfl
theorem execS_ret (vals : Es) : execS c (.ret vals) st = retStep st (evalEs c st.env st.vs vals) := by
  rw [execS]; rfl
theorem execS_switch (tag : E) (cases : Cs) (h : tag ≠ .nilv) :
    execS c (.switchS .nil tag cases) st = swStep c (evalE c st.env st.vs tag) st cases := by
  rw [execS, execSs]
  cases tag <;> first | rfl | exact absurd rfl h
theorem execS_typeSwitch (bnd : String) (x : E) (cases : Cs) :
    execS c (.typeSwitch bnd x cases) st = tsStep c bnd (evalE c st.env st.vs x) st cases := by
  rw [execS]; rfl
theorem execS_forRange (k v : String) (x : E) (body : Ss) :
    execS c (.forRange k v x body) st = forStep c v body (evalE c st.env st.vs x) st := by
  rw [execS]; rfl
theorem execS_expr (fn : String) (args : Es) :
    execS c (.expr (.call fn args)) st = exprStep c st fn (evalEs c st.env st.vs args) := by
  rw [execS]; rfl
theorem execS_brk : execS c .brk st = .brk st := by rw [execS]
theorem execS_defer_cancel : execS c (.deferS (.call "cancel" .nil)) st = .norm st := by rw [execS]; rfl

theorem thenSs_norm (t : Ss) : thenSs c (.norm st) t = execSs c t st := rfl
theorem thenSs_ret (v : V) (t : Ss) : thenSs c (.ret st v) t = .ret st v := rfl
theorem thenSs_brk (t : Ss) : thenSs c (.brk st) t = .brk st := rfl
theorem thenSs_cont (t : Ss) : thenSs c (.cont st) t = .cont st := rfl
theorem thenSs_fail (f : Fail) (t : Ss) : thenSs c (.fail f) t = .fail f := rfl
theorem thenSs_ite (p : Prop) [Decidable p] (a b : R) (t : Ss) :
    thenSs c (if p then a else b) t = if p then thenSs c a t else thenSs c b t := by split <;> rfl
/- the instances of `condBranch_ok` for a condition that came out as a literal, so that no `if true = true` is left behind -/
theorem condBranch_true (thn els : Ss) : condBranch c (.ok (true, st)) thn els = execSs c thn st := rfl
theorem condBranch_false (thn els : Ss) : condBranch c (.ok (false, st)) thn els = execSs c els st := rfl
theorem condBranch_decide (p : Prop) [Decidable p] (thn els : Ss) :
    condBranch c (.ok (decide p, st)) thn els = if p then execSs c thn st else execSs c els st := by
  by_cases h : p <;> simp [h, condBranch]
theorem condBranch_not (b : Bool) (thn els : Ss) :
    condBranch c (.ok (!b, st)) thn els = if b = true then execSs c els st else execSs c thn st := by
  cases b <;> rfl
theorem condBranch_ok (b : Bool) (thn els : Ss) :
    condBranch c (.ok (b, st)) thn els = if b = true then execSs c thn st else execSs c els st := rfl
theorem condBranch_err (f : Fail) (thn els : Ss) : condBranch c (.error f) thn els = .fail f := rfl
theorem swStep_ok (tv : V) (cases : Cs) :
    swStep c (.ok tv) st cases = afterSwitch (execCs c tv st (fun _ => execDefault c st cases) cases) := rfl
theorem swStep_err (f : Fail) (cases : Cs) : swStep c (.error f) st cases = .fail f := rfl
theorem execCs_nil (tv : V) (dflt : Unit → R) : execCs c tv st dflt .nil = dflt () := by rw [execCs]
theorem execCs_cons (tv : V) (dflt : Unit → R) (labels : Es) (body : Ss) (t : Cs) :
    execCs c tv st dflt (.cons labels body t) = csStep c (labelHit c tv st labels) tv st dflt body t := by
  rw [execCs]; unfold csStep; cases labelHit c tv st labels with
  | error f => rfl
  | ok b => cases b <;> rfl
theorem csStep_true (tv : V) (dflt : Unit → R) (body : Ss) (t : Cs) :
    csStep c (.ok true) tv st dflt body t = execSs c body st := rfl
theorem csStep_false (tv : V) (dflt : Unit → R) (body : Ss) (t : Cs) :
    csStep c (.ok false) tv st dflt body t = execCs c tv st dflt t := rfl
theorem csStep_decide (p : Prop) [Decidable p] (tv : V) (dflt : Unit → R) (body : Ss) (t : Cs) :
    csStep c (.ok (decide p)) tv st dflt body t = if p then execSs c body st else execCs c tv st dflt t := by
  by_cases h : p <;> simp [h, csStep]
theorem csStep_ite (p : Prop) [Decidable p] (a b : Except Fail Bool) (tv : V) (dflt : Unit → R) (body : Ss) (t : Cs) :
    csStep c (if p then a else b) tv st dflt body t = if p then csStep c a tv st dflt body t else csStep c b tv st dflt body t := by
  split <;> rfl
theorem csStep_err (f : Fail) (tv : V) (dflt : Unit → R) (body : Ss) (t : Cs) :
    csStep c (.error f) tv st dflt body t = .fail f := rfl
theorem labelHit_nil (tv : V) : labelHit c tv st .nil = .ok false := by rw [labelHit]
theorem labelHit_cons (tv : V) (l : E) (t : Es) :
    labelHit c tv st (.cons l t) =
      (match evalE c st.env st.vs l with
       | .ok lv => hitStep c (vEq tv lv) tv st t
       | .error f => .error f) := by
  rw [labelHit]; unfold hitStep
  cases evalE c st.env st.vs l with
  | error f => rfl
  | ok lv => cases vEq tv lv with
    | error f => rfl
    | ok b => cases b <;> rfl
theorem hitStep_true (tv : V) (t : Es) : hitStep c (.ok true) tv st t = .ok true := rfl
theorem hitStep_false (tv : V) (t : Es) : hitStep c (.ok false) tv st t = labelHit c tv st t := rfl
theorem hitStep_decide (p : Prop) [Decidable p] (tv : V) (t : Es) :
    hitStep c (.ok (decide p)) tv st t = if p then .ok true else labelHit c tv st t := by
  by_cases h : p <;> simp [h, hitStep]
theorem hitStep_err (f : Fail) (tv : V) (t : Es) : hitStep c (.error f) tv st t = .error f := rfl
theorem forStep_err (v : String) (body : Ss) (f : Fail) : forStep c v body (.error f) st = .fail f := rfl
theorem forStep_intss (v : String) (body : Ss) (l : List (List Int)) :
    forStep c v body (.ok (.intss l)) st = loop (loopBody c v body) (l.map V.ints) st := rfl
theorem tsStep_seq (bnd : String) (s : Seq) (cases : Cs) :
    tsStep c bnd (.ok (.seq s)) st cases =
      afterSwitch (execTy c (seqTypeName s) { st with env := bindVar bnd (.seq s) st.env }
        (fun _ => execDefault c { st with env := bindVar bnd (.seq s) st.env } cases) cases) := rfl
theorem exprStep_ok (fn : String) (l : List V) : exprStep c st fn (.ok l) = callStmt c st fn l := rfl
theorem exprStep_err (fn : String) (f : Fail) : exprStep c st fn (.error f) = .fail f := rfl
theorem assignStep_ok (tok : AssignTok) (ns : List String) (v : V) :
    assignStep tok (some ns) (.ok v) st = assignVals tok ns v st := rfl
theorem assignStep_err (tok : AssignTok) (ns : List String) (f : Fail) :
    assignStep tok (some ns) (.error f) st = .fail f := rfl
theorem retStep_nil : retStep st (.ok []) = .ret st .nil := rfl
theorem retStep_one (v : V) : retStep st (.ok [v]) = .ret st v := rfl
theorem retStep_two (a b : V) : retStep st (.ok [a, b]) = .ret st (.pair a b) := rfl
theorem retStep_err (f : Fail) : retStep st (.error f) = .fail f := rfl
end

attribute [ib] execSs_nil execSs_cons execS_assign execS_if execS_ret execS_switch execS_typeSwitch execS_forRange execS_expr
  execS_brk execS_defer_cancel thenSs_norm thenSs_ret thenSs_brk thenSs_cont thenSs_fail thenSs_ite condBranch_true condBranch_false condBranch_decide condBranch_err
  swStep_ok swStep_err execCs_nil execCs_cons csStep_true csStep_false csStep_decide csStep_ite csStep_err labelHit_nil labelHit_cons hitStep_true hitStep_false hitStep_decide hitStep_err
  forStep_err forStep_intss tsStep_seq exprStep_ok exprStep_err assignStep_ok assignStep_err retStep_nil retStep_one retStep_two retStep_err
  afterSwitch_ite

theorem finish_norm (st : St) : finish (.norm st) = .ok (st.vs, st.effs) := rfl
theorem finish_ret (st : St) (v : V) : finish (.ret st v) = .ok (st.vs, st.effs) := rfl
theorem finish_fail (f : Fail) : finish (.fail f) = .error f := rfl
theorem finish_ite (p : Prop) [Decidable p] (a b : R) : finish (if p then a else b) = if p then finish a else finish b := by
  split <;> rfl
attribute [ib] finish_norm finish_ret finish_fail finish_ite

/-! Length facts `len*_eq_k_m`, `len*_lt_k_m`: `len(l) == m` and `len(l) < m` are false for a list given by its first `k` elements
(`lenI_*` over `Int`, where `len` lives; `lenN_*` over `Nat`). -/
theorem lenN_eq_1_0 (n : Nat) : (n + 1 = 0) = False := by simp only [eq_iff_iff, iff_false]; omega
theorem lenN_lt_1_1 (n : Nat) : (n + 1 < 1) = False := by simp only [eq_iff_iff, iff_false]; omega
theorem lenI_eq_2_0 (n : Nat) : (((n : Nat) : Int) + 1 + 1 = 0) = False := by simp only [eq_iff_iff, iff_false]; omega
theorem lenN_eq_2_0 (n : Nat) : (n + 1 + 1 = 0) = False := by simp only [eq_iff_iff, iff_false]; omega
theorem lenN_lt_2_1 (n : Nat) : (n + 1 + 1 < 1) = False := by simp only [eq_iff_iff, iff_false]; omega
theorem lenN_eq_2_1 (n : Nat) : (n + 1 + 1 = 1) = False := by simp only [eq_iff_iff, iff_false]; omega
theorem lenI_eq_3_0 (n : Nat) : (((n : Nat) : Int) + 1 + 1 + 1 = 0) = False := by simp only [eq_iff_iff, iff_false]; omega
theorem lenN_eq_3_0 (n : Nat) : (n + 1 + 1 + 1 = 0) = False := by simp only [eq_iff_iff, iff_false]; omega
theorem lenI_lt_3_1 (n : Nat) : (((n : Nat) : Int) + 1 + 1 + 1 < 1) = False := by simp only [eq_iff_iff, iff_false]; omega
theorem lenN_lt_3_1 (n : Nat) : (n + 1 + 1 + 1 < 1) = False := by simp only [eq_iff_iff, iff_false]; omega
theorem lenI_eq_3_1 (n : Nat) : (((n : Nat) : Int) + 1 + 1 + 1 = 1) = False := by simp only [eq_iff_iff, iff_false]; omega
theorem lenN_eq_3_1 (n : Nat) : (n + 1 + 1 + 1 = 1) = False := by simp only [eq_iff_iff, iff_false]; omega
theorem lenI_lt_3_2 (n : Nat) : (((n : Nat) : Int) + 1 + 1 + 1 < 2) = False := by simp only [eq_iff_iff, iff_false]; omega
theorem lenN_lt_3_2 (n : Nat) : (n + 1 + 1 + 1 < 2) = False := by simp only [eq_iff_iff, iff_false]; omega
theorem lenI_eq_4_0 (n : Nat) : (((n : Nat) : Int) + 1 + 1 + 1 + 1 = 0) = False := by simp only [eq_iff_iff, iff_false]; omega
theorem lenN_eq_4_0 (n : Nat) : (n + 1 + 1 + 1 + 1 = 0) = False := by simp only [eq_iff_iff, iff_false]; omega
theorem lenI_lt_4_1 (n : Nat) : (((n : Nat) : Int) + 1 + 1 + 1 + 1 < 1) = False := by simp only [eq_iff_iff, iff_false]; omega
theorem lenN_lt_4_1 (n : Nat) : (n + 1 + 1 + 1 + 1 < 1) = False := by simp only [eq_iff_iff, iff_false]; omega
theorem lenI_eq_4_1 (n : Nat) : (((n : Nat) : Int) + 1 + 1 + 1 + 1 = 1) = False := by simp only [eq_iff_iff, iff_false]; omega
theorem lenN_eq_4_1 (n : Nat) : (n + 1 + 1 + 1 + 1 = 1) = False := by simp only [eq_iff_iff, iff_false]; omega
theorem lenI_lt_4_2 (n : Nat) : (((n : Nat) : Int) + 1 + 1 + 1 + 1 < 2) = False := by simp only [eq_iff_iff, iff_false]; omega
theorem lenN_lt_4_2 (n : Nat) : (n + 1 + 1 + 1 + 1 < 2) = False := by simp only [eq_iff_iff, iff_false]; omega
theorem lenI_eq_4_2 (n : Nat) : (((n : Nat) : Int) + 1 + 1 + 1 + 1 = 2) = False := by simp only [eq_iff_iff, iff_false]; omega
theorem lenN_eq_4_2 (n : Nat) : (n + 1 + 1 + 1 + 1 = 2) = False := by simp only [eq_iff_iff, iff_false]; omega
theorem lenI_lt_4_3 (n : Nat) : (((n : Nat) : Int) + 1 + 1 + 1 + 1 < 3) = False := by simp only [eq_iff_iff, iff_false]; omega
theorem lenN_lt_4_3 (n : Nat) : (n + 1 + 1 + 1 + 1 < 3) = False := by simp only [eq_iff_iff, iff_false]; omega
theorem lenN_eq_4_3 (n : Nat) : (n + 1 + 1 + 1 + 1 = 3) = False := by simp only [eq_iff_iff, iff_false]; omega
theorem lenI_lt_4_4 (n : Nat) : (((n : Nat) : Int) + 1 + 1 + 1 + 1 < 4) = False := by simp only [eq_iff_iff, iff_false]; omega
theorem lenN_lt_4_4 (n : Nat) : (n + 1 + 1 + 1 + 1 < 4) = False := by simp only [eq_iff_iff, iff_false]; omega
theorem lenI_eq_5_0 (n : Nat) : (((n : Nat) : Int) + 1 + 1 + 1 + 1 + 1 = 0) = False := by simp only [eq_iff_iff, iff_false]; omega
theorem lenN_eq_5_0 (n : Nat) : (n + 1 + 1 + 1 + 1 + 1 = 0) = False := by simp only [eq_iff_iff, iff_false]; omega
theorem lenI_lt_5_1 (n : Nat) : (((n : Nat) : Int) + 1 + 1 + 1 + 1 + 1 < 1) = False := by simp only [eq_iff_iff, iff_false]; omega
theorem lenN_lt_5_1 (n : Nat) : (n + 1 + 1 + 1 + 1 + 1 < 1) = False := by simp only [eq_iff_iff, iff_false]; omega
theorem lenI_eq_5_1 (n : Nat) : (((n : Nat) : Int) + 1 + 1 + 1 + 1 + 1 = 1) = False := by simp only [eq_iff_iff, iff_false]; omega
theorem lenN_eq_5_1 (n : Nat) : (n + 1 + 1 + 1 + 1 + 1 = 1) = False := by simp only [eq_iff_iff, iff_false]; omega
theorem lenI_lt_5_2 (n : Nat) : (((n : Nat) : Int) + 1 + 1 + 1 + 1 + 1 < 2) = False := by simp only [eq_iff_iff, iff_false]; omega
theorem lenN_lt_5_2 (n : Nat) : (n + 1 + 1 + 1 + 1 + 1 < 2) = False := by simp only [eq_iff_iff, iff_false]; omega
theorem lenI_eq_5_2 (n : Nat) : (((n : Nat) : Int) + 1 + 1 + 1 + 1 + 1 = 2) = False := by simp only [eq_iff_iff, iff_false]; omega
theorem lenN_eq_5_2 (n : Nat) : (n + 1 + 1 + 1 + 1 + 1 = 2) = False := by simp only [eq_iff_iff, iff_false]; omega
theorem lenI_lt_5_3 (n : Nat) : (((n : Nat) : Int) + 1 + 1 + 1 + 1 + 1 < 3) = False := by simp only [eq_iff_iff, iff_false]; omega
theorem lenN_lt_5_3 (n : Nat) : (n + 1 + 1 + 1 + 1 + 1 < 3) = False := by simp only [eq_iff_iff, iff_false]; omega
theorem lenI_eq_5_3 (n : Nat) : (((n : Nat) : Int) + 1 + 1 + 1 + 1 + 1 = 3) = False := by simp only [eq_iff_iff, iff_false]; omega
theorem lenN_eq_5_3 (n : Nat) : (n + 1 + 1 + 1 + 1 + 1 = 3) = False := by simp only [eq_iff_iff, iff_false]; omega
theorem lenI_lt_5_4 (n : Nat) : (((n : Nat) : Int) + 1 + 1 + 1 + 1 + 1 < 4) = False := by simp only [eq_iff_iff, iff_false]; omega
theorem lenN_lt_5_4 (n : Nat) : (n + 1 + 1 + 1 + 1 + 1 < 4) = False := by simp only [eq_iff_iff, iff_false]; omega
theorem lenI_eq_5_4 (n : Nat) : (((n : Nat) : Int) + 1 + 1 + 1 + 1 + 1 = 4) = False := by simp only [eq_iff_iff, iff_false]; omega
theorem lenN_eq_5_4 (n : Nat) : (n + 1 + 1 + 1 + 1 + 1 = 4) = False := by simp only [eq_iff_iff, iff_false]; omega
theorem lenI_lt_5_5 (n : Nat) : (((n : Nat) : Int) + 1 + 1 + 1 + 1 + 1 < 5) = False := by simp only [eq_iff_iff, iff_false]; omega
theorem lenN_lt_5_5 (n : Nat) : (n + 1 + 1 + 1 + 1 + 1 < 5) = False := by simp only [eq_iff_iff, iff_false]; omega
theorem lenI_eq_6_0 (n : Nat) : (((n : Nat) : Int) + 1 + 1 + 1 + 1 + 1 + 1 = 0) = False := by simp only [eq_iff_iff, iff_false]; omega
theorem lenN_eq_6_0 (n : Nat) : (n + 1 + 1 + 1 + 1 + 1 + 1 = 0) = False := by simp only [eq_iff_iff, iff_false]; omega
theorem lenI_lt_6_1 (n : Nat) : (((n : Nat) : Int) + 1 + 1 + 1 + 1 + 1 + 1 < 1) = False := by simp only [eq_iff_iff, iff_false]; omega
theorem lenN_lt_6_1 (n : Nat) : (n + 1 + 1 + 1 + 1 + 1 + 1 < 1) = False := by simp only [eq_iff_iff, iff_false]; omega
theorem lenI_eq_6_1 (n : Nat) : (((n : Nat) : Int) + 1 + 1 + 1 + 1 + 1 + 1 = 1) = False := by simp only [eq_iff_iff, iff_false]; omega
theorem lenN_eq_6_1 (n : Nat) : (n + 1 + 1 + 1 + 1 + 1 + 1 = 1) = False := by simp only [eq_iff_iff, iff_false]; omega
theorem lenI_lt_6_2 (n : Nat) : (((n : Nat) : Int) + 1 + 1 + 1 + 1 + 1 + 1 < 2) = False := by simp only [eq_iff_iff, iff_false]; omega
theorem lenN_lt_6_2 (n : Nat) : (n + 1 + 1 + 1 + 1 + 1 + 1 < 2) = False := by simp only [eq_iff_iff, iff_false]; omega
theorem lenI_eq_6_2 (n : Nat) : (((n : Nat) : Int) + 1 + 1 + 1 + 1 + 1 + 1 = 2) = False := by simp only [eq_iff_iff, iff_false]; omega
theorem lenN_eq_6_2 (n : Nat) : (n + 1 + 1 + 1 + 1 + 1 + 1 = 2) = False := by simp only [eq_iff_iff, iff_false]; omega
theorem lenN_lt_6_3 (n : Nat) : (n + 1 + 1 + 1 + 1 + 1 + 1 < 3) = False := by simp only [eq_iff_iff, iff_false]; omega
theorem lenI_eq_6_3 (n : Nat) : (((n : Nat) : Int) + 1 + 1 + 1 + 1 + 1 + 1 = 3) = False := by simp only [eq_iff_iff, iff_false]; omega
theorem lenN_eq_6_3 (n : Nat) : (n + 1 + 1 + 1 + 1 + 1 + 1 = 3) = False := by simp only [eq_iff_iff, iff_false]; omega
theorem lenI_lt_6_4 (n : Nat) : (((n : Nat) : Int) + 1 + 1 + 1 + 1 + 1 + 1 < 4) = False := by simp only [eq_iff_iff, iff_false]; omega
theorem lenN_lt_6_4 (n : Nat) : (n + 1 + 1 + 1 + 1 + 1 + 1 < 4) = False := by simp only [eq_iff_iff, iff_false]; omega
theorem lenI_eq_6_4 (n : Nat) : (((n : Nat) : Int) + 1 + 1 + 1 + 1 + 1 + 1 = 4) = False := by simp only [eq_iff_iff, iff_false]; omega
theorem lenN_eq_6_4 (n : Nat) : (n + 1 + 1 + 1 + 1 + 1 + 1 = 4) = False := by simp only [eq_iff_iff, iff_false]; omega
theorem lenI_lt_6_5 (n : Nat) : (((n : Nat) : Int) + 1 + 1 + 1 + 1 + 1 + 1 < 5) = False := by simp only [eq_iff_iff, iff_false]; omega
theorem lenN_lt_6_5 (n : Nat) : (n + 1 + 1 + 1 + 1 + 1 + 1 < 5) = False := by simp only [eq_iff_iff, iff_false]; omega
theorem lenN_eq_6_5 (n : Nat) : (n + 1 + 1 + 1 + 1 + 1 + 1 = 5) = False := by simp only [eq_iff_iff, iff_false]; omega

theorem callFn_ctxDone (c : Ctx) (env : Env) (vs : VState) (h : List.lookup "ctx" env = some (V.opaque "timeout context")) :
    callFn c env vs "ctx.Done" [] = .ok (.opaque "done") := by
  unfold callFn; simp [h]
attribute [ib] callFn_ctxDone

attribute [ib] orAssign_mods assign1_l_blank
attribute [ib low] condBranch_ok condBranch_not

theorem retVal_ret (st : St) (v : V) : retVal (.ret st v) = .ok v := rfl
theorem retVal_fail (f : Fail) : retVal (.fail f) = .error f := rfl
theorem retVal_ite (p : Prop) [Decidable p] (a b : R) : retVal (if p then a else b) = if p then retVal a else retVal b := by
  split <;> rfl
theorem pmOfModel_ite (p : Prop) [Decidable p] (a b : Except Panic (Option Mouse)) :
    pmOfModel (if p then a else b) = if p then pmOfModel a else pmOfModel b := by split <;> rfl
theorem pmOfModel_some (m : Mouse) : pmOfModel (.ok (some m)) = .ok (.pair (.mouse m) (.bool true)) := rfl
theorem pmOfModel_none : pmOfModel (.ok none) = .ok (.pair (.mouse zeroMouse) (.bool false)) := rfl
theorem pmOfModel_error (e : Panic) : pmOfModel (.error e) = .error .panic := rfl
/-! A rune or a length compared with a literal: the interpreter compares in `Int`, the model in `Nat`. -/
theorem natCast_eq_lit (f n : Nat) : ((f : Int) = no_index (OfNat.ofNat n)) = (f = OfNat.ofNat n) :=
  propext Int.ofNat_inj
theorem natCast_lt_lit (f n : Nat) : ((f : Int) < no_index (OfNat.ofNat n)) = (f < OfNat.ofNat n) :=
  propext Int.ofNat_lt
theorem lit_lt_natCast (f n : Nat) : ((no_index (OfNat.ofNat n) : Int) < (f : Int)) = (OfNat.ofNat n < f) :=
  propext Int.ofNat_lt
attribute [ib] retVal_ret retVal_fail retVal_ite pmOfModel_ite pmOfModel_some pmOfModel_none pmOfModel_error natCast_eq_lit natCast_lt_lit
  lit_lt_natCast

attribute [ib] andThen_norm andThen_ret andThen_brk andThen_cont andThen_fail afterSwitch_norm afterSwitch_ret afterSwitch_brk afterSwitch_cont afterSwitch_fail callFn_len_str callFn_len_ints callFn_len_intss callFn_len_strs callFn_string callFn_ctm callFn_mb callFn_cs callFn_terminalID callFn_appID callFn_decodeKey callFn_parseMouse callFn_split callFn_hasPrefix callFn_hasSuffix callFn_hexEncode callFn_b64 callFn_can4 callFn_can10 callFn_can11 callFn_background callFn_mul callFn_withTimeout readGlobal_0 readGlobal_1 readGlobal_2 readGlobal_3 readGlobal_4 readGlobal_5 readGlobal_6 readGlobal_7 readGlobal_8 readGlobal_9 readGlobal_10 readGlobal_11 readGlobal_12 readGlobal_13 readGlobal_14 readGlobal_15 readGlobal_16 readGlobal_17 readGlobal_18 readGlobal_19 readGlobal_20 readGlobal_21 readGlobal_22 readGlobal_23 readGlobal_24 readGlobal_25 readGlobal_26 readGlobal_27 readGlobal_28 readGlobal_29 readGlobal_30 litValue_0 litValue_1 litValue_2 litValue_3 litValue_4 litValue_5 litValue_6 litValue_7 litValue_8 litValue_9 litValue_10 litValue_11 litValue_12 litValue_13 litValue_14 litValue_15 litValue_16 litValue_17 litValue_18 litValue_19 litValue_20 litValue_ctu litValue_2int callStmt_postB callStmt_postNB callStmt_trySend callStmt_send callStmt_sendOrDone callStmt_atomicStore callStmt_resize callStmt_noop0 callStmt_noop1 callStmt_noop2 callStmt_noop3 callStmt_noop4 callStmt_noop5 callStmt_verif doSend_cursor doSend_size doSend_color doSend_fg doSend_bg doSend_clip assign1_paste assign1_xpix assign1_ypix assign1_cols assign1_rows assign1_ucs assign1_keyET assign1_mET assign1_mB assign1_mC assign1_mR assign1_l_key assign1_l_mouse assign1_l_ok assign1_l_ps assign1_l_m assign1_l_typ assign1_l_h assign1_l_w assign1_l_report assign1_l_resize assign1_l_vals assign1_l_b assign1_l_err assign1_l_ctx assign1_l_cancel assign1_l_cursorStyle assign1_l_button
/- the definitions `ib` unfolds (InputBodyArms* erases `evalE evalEs evalCond index` again and uses the equations of InputBodyRun instead) -/
attribute [ib] execTy execDefault evalE evalEs evalCond isCASReq lhsNames assignVals readVar bindVar tyHit
  Ss.ofList Es.ofList Cs.ofList St.emit eventOf index binop vEq intCmp rangeItems envSeqField seqField seqTypeName List.lookup

end VaxisModel.Lemmas.InputBody
