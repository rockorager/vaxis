/-
`handleSequence` arm by arm (continued in `InputBodyArms2`, `InputBodyArms3`): the interpreter of `Model/InputBody.lean` run on
the regenerated body (`Gen/InputBody.lean`) equals the hand model (`Model/Input.lean`), for all states and all values of the
sequence's fields.  An arm is run once with the fields as variables (`Lemmas/InputBodyRun.lean`): a test of the arm becomes the
same `if` the model has, an early `return` or `break` the end of its branch (`afterFinal`); `ib_eval` closes the goal when the
two trees are the same, and where they differ in one place, that place is the rest of the proof.
-/
import VaxisModel.Lemmas.InputBodyRun
import VaxisModel.Lemmas.Input

namespace VaxisModel.Lemmas.InputBodyArms
open VaxisModel.Model.GoBody VaxisModel.Model.Input VaxisModel.Model.InputBody VaxisModel.Model.InputLoop
open VaxisModel.Gen.InputBody VaxisModel.Lemmas.InputBody
open VaxisModel.Lemmas.Input (kinds_now decrpm0 decrpm1 decrpm2)

-- `Lemmas/InputBodyRun` unfolds these
attribute [-ib] evalE evalEs evalCond index

abbrev Goal (b64 : List Nat → Option (List Nat)) (vs : VState) (s : Seq) : Prop :=
  runHs b64 vs s = ofModel Kinds.ofGen (handle b64 vs s)

/-- The arm of the switch on `seq.Final` of a CSI sequence (none: the empty list). -/
def csiArm (f : Nat) : Ss :=
  if f = 99 then hs_s1_a4_s0_a0 else if f = 73 then hs_s1_a4_s0_a1 else if f = 79 then hs_s1_a4_s0_a2
  else if f = 82 then hs_s1_a4_s0_a3 else if f = 83 then hs_s1_a4_s0_a4 else if f = 110 then hs_s1_a4_s0_a5
  else if f = 121 then hs_s1_a4_s0_a6 else if f = 117 then hs_s1_a4_s0_a7 else if f = 126 then hs_s1_a4_s0_a8
  else if f = 77 then hs_s1_a4_s0_a9 else if f = 109 then hs_s1_a4_s0_a9 else if f = 116 then hs_s1_a4_s0_a10
  else .nil

def dcsArm (f : Nat) : Ss :=
  if f = 114 then hs_s1_a5_s0_a0 else if f = 124 then hs_s1_a5_s0_a1 else .nil

/-- The state in which the arm for the sequence's type starts: the type switch binds `seq` again. -/
def armSt (vs : VState) (s : Seq) : St := { env := [("seq", .seq s), ("seq", .seq s)], vs := vs }

/-- How `handleSequence` goes on once the arm of a CSI final has run to `r`: a `return` ends the call; after a `break`, or at the
end of the arm, the statements below the switch decode the sequence as a key (they are the statements of the `ansi.Print` arm). -/
def afterFinal (b64 : List Nat → Option (List Nat)) (r : R) : Except Fail (VState × List KEff) :=
  finish (thenSs (ctxHs b64) (afterSwitch (thenSs (ctxHs b64) (afterSwitch r) hs_s1_a0)) .nil)

section
variable (b64 : List Nat → Option (List Nat)) (vs : VState)

theorem afterFinal_ret (st : St) (v : V) : afterFinal b64 (.ret st v) = .ok (st.vs, st.effs) := rfl
theorem afterFinal_fail (f : Fail) : afterFinal b64 (.fail f) = .error f := rfl
theorem afterFinal_ite (p : Prop) [Decidable p] (a b : R) :
    afterFinal b64 (if p then a else b) = if p then afterFinal b64 a else afterFinal b64 b := by split <;> rfl
theorem key_run (s : Seq) (effs : List KEff) :
    finish (afterSwitch (execSs (ctxHs b64) hs_s1_a0 { env := [("seq", .seq s), ("seq", .seq s)], vs := vs, effs := effs })) =
      .ok (vs, effs ++ [(.postB (.key s vs.pastePending), .blocking)]) := by
  rcases vs with ⟨pp, rcp, rf, caps, ns, ucs⟩
  cases pp <;> simp [hs_s1_a0, ib]
theorem afterFinal_norm (s : Seq) (effs : List KEff) :
    afterFinal b64 (.norm { env := [("seq", .seq s), ("seq", .seq s)], vs := vs, effs := effs }) =
      .ok (vs, effs ++ [(.postB (.key s vs.pastePending), .blocking)]) := by
  simp only [afterFinal, afterSwitch_norm, thenSs_norm, thenSs_nil, key_run]
theorem afterFinal_brk (s : Seq) (effs : List KEff) :
    afterFinal b64 (.brk { env := [("seq", .seq s), ("seq", .seq s)], vs := vs, effs := effs }) =
      .ok (vs, effs ++ [(.postB (.key s vs.pastePending), .blocking)]) :=
  afterFinal_norm b64 vs s effs

theorem runHs_csi (i : List Nat) (p : List (List Int)) (f : Nat) :
    runHs b64 vs (.csi i p f) = afterFinal b64 (execSs (ctxHs b64) (csiArm f) (armSt vs (.csi i p f))) := by
  simp only [csiArm, apply_ite fun a => afterFinal b64 (execSs (ctxHs b64) a (armSt vs (.csi i p f)))]
  simp [runHs, hs, hs_s1_a4, hs_s1_a0, ib, afterFinal, armSt]

theorem runHs_dcs (f : Nat) (i : List Nat) (p : List Int) (d : List Nat) :
    runHs b64 vs (.dcs f i p d) = finish (afterSwitch (execSs (ctxHs b64) (dcsArm f) (armSt vs (.dcs f i p d)))) := by
  simp only [dcsArm, apply_ite fun a => finish (afterSwitch (execSs (ctxHs b64) a (armSt vs (.dcs f i p d))))]
  simp [runHs, hs, hs_s1_a5, ib, thenSs_nil, afterSwitch_idem, armSt]

theorem runHs_apc (d : List Nat) :
    runHs b64 vs (.apc d) = finish (afterSwitch (execSs (ctxHs b64) hs_s1_a6 (armSt vs (.apc d)))) := by
  simp [runHs, hs, ib, thenSs_nil, armSt]

theorem runHs_osc (pl : List Nat) :
    runHs b64 vs (.osc pl) = finish (afterSwitch (execSs (ctxHs b64) hs_s1_a7 (armSt vs (.osc pl)))) := by
  simp [runHs, hs, ib, thenSs_nil, armSt]

theorem eval_private (c : Ctx) (i : List Nat) (p : List (List Int)) (f : Nat) :
    evalE c [("seq", .seq (.csi i p f)), ("seq", .seq (.csi i p f))] vs
      (.bin .land (.bin .eq (.call "len" (.cons (.var "seq.Intermediate") .nil)) (.int 1))
        (.bin .eq (.idx (.var "seq.Intermediate") (.int 0)) (.int 63))) = .ok (.bool (isPrivate i)) := by
  simp [ib, isPrivate, ch]
  rcases i with _ | ⟨i0, _ | ⟨i1, it⟩⟩ <;> simp [landV, asBool_bool, Except.ok_bind, idx, got, val]
  rfl
end
attribute [ib high] eval_private
attribute [ib] runHs_csi runHs_dcs runHs_apc runHs_osc csiArm dcsArm armSt afterFinal_ret afterFinal_fail afterFinal_ite
  afterFinal_norm afterFinal_brk hs_s1_a4_s0_a0 hs_s1_a4_s0_a1 hs_s1_a4_s0_a2 hs_s1_a4_s0_a3 hs_s1_a4_s0_a4 hs_s1_a4_s0_a5
  hs_s1_a4_s0_a6 hs_s1_a4_s0_a7 hs_s1_a4_s0_a8 hs_s1_a4_s0_a9 hs_s1_a4_s0_a10 hs_s1_a5_s0_a0 hs_s1_a5_s0_a1 hs_s1_a6 hs_s1_a7
  decrpm0 decrpm1 decrpm2 handle handleCSI handleDCS handleOSC decrpmArm ch kinds_now keyArm post kindOf pure Except.pure

macro "ib_eval" : tactic => `(tactic| simp [Goal, ib, *])

section
variable (b64 : List Nat → Option (List Nat)) (vs : VState)

/-- `case ansi.Print, ansi.C0, ansi.ESC, ansi.SS3`: the four arms are the same three statements (`key_run`); this runs the type
switch down to them.  Any other value on the channel has no arm. -/
macro "key_eval" : tactic => `(tactic| simp [Goal, runHs, hs, show hs_s1_a1 = hs_s1_a0 from rfl, show hs_s1_a2 = hs_s1_a0 from rfl,
  show hs_s1_a3 = hs_s1_a0 from rfl, ib, thenSs_nil, key_run, handle, keyArm, kindOf])

theorem key_print (g : List Nat) (w : Int) : Goal b64 vs (.print g w) := by key_eval
theorem key_c0 (r : Nat) : Goal b64 vs (.c0 r) := by key_eval
theorem key_esc (i : List Nat) (f : Nat) : Goal b64 vs (.esc i f) := by key_eval
theorem key_ss3 (r : Nat) : Goal b64 vs (.ss3 r) := by key_eval
theorem no_arm : Goal b64 vs .other := by key_eval

/-- `CSI I`, `CSI O`: focus in / out, posted without a test. -/
theorem csi_I (i : List Nat) (p : List (List Int)) : Goal b64 vs (.csi i p 73) := by ib_eval
theorem csi_O (i : List Nat) (p : List (List Int)) : Goal b64 vs (.csi i p 79) := by ib_eval

/-- `CSI R`, a cursor position report: the compare-and-swap takes the request flag (not raised: the sequence is a key). -/
theorem csi_R (i : List Nat) (p : List (List Int)) : Goal b64 vs (.csi i p 82) := by
  rcases vs with ⟨pp, rcp, rf, caps, ns, ucs⟩
  ib_eval
  -- the compare-and-swap leaves the flag lowered on both paths; the model's other path says so by `rcp = false`
  cases rcp <;> rfl

/-- `CSI ? … S`, the sixel geometry reply (not private: a key). -/
theorem csi_S (i : List Nat) (p : List (List Int)) : Goal b64 vs (.csi i p 83) := by ib_eval
/-- `CSI ? … n`, the colour theme report. -/
theorem csi_n (i : List Nat) (p : List (List Int)) : Goal b64 vs (.csi i p 110) := by ib_eval
/-- `CSI ? … u`, the kitty keyboard reply. -/
theorem csi_u (i : List Nat) (p : List (List Int)) : Goal b64 vs (.csi i p 117) := by ib_eval
/-- `CSI 200 ~` / `201 ~`: bracketed paste starts / ends (`vx.pastePending`); any other `~` is a key. -/
theorem csi_tilde (i : List Nat) (p : List (List Int)) : Goal b64 vs (.csi i p 126) := by ib_eval
/-- `CSI … y`, DECRPM for the modes 2026, 2027, 2031 (several labels of a `case` are one test, `ite_or_same`). -/
theorem csi_y (i : List Nat) (p : List (List Int)) : Goal b64 vs (.csi i p 121) := by ib_eval

end

theorem or_ite_zero (p : Prop) [Decidable p] (m k : Nat) : (if p then m else m ||| k) = m ||| if p then 0 else k := by
  split <;> simp

/-- `parseMouseEvent` in one run: each `if` that sets the event type or a modifier leaves one state (`ite_norm` …), the five reads
of `Parameters[0][0]` are one test (`ite_then_ite`). -/
theorem pm_eq (i : List Nat) (p : List (List Int)) (f : Nat) :
    runPm (.csi i p f) = pmOfModel (parseMouse i p f) := by
  simp [runPm, pm, ib, parseMouse, mouseGuard, mouseGuardWith, VaxisModel.Gen.Caps.mouseGuardIsOr,
    VaxisModel.Gen.Caps.buttonBits, VaxisModel.Gen.Caps.motion, VaxisModel.Gen.Caps.mouseModShift, VaxisModel.Gen.Caps.mouseModAlt,
    VaxisModel.Gen.Caps.mouseModCtrl, zeroMouse, setMouse, ite_norm, ite_St, lookup_ite, ite_some, ite_mouse, ite_Mouse, or_ite_zero,
    evPress, evRelease, evMotion, modShift, modAlt, modCtrl, ch, pure, Except.pure]

/-- `CSI M` / `CSI m`: `parseMouseEvent(seq)` is `pm_eq`; left is `if ok { post }` on its three kinds of result. -/
theorem csi_Mm (b64 : List Nat → Option (List Nat)) (vs : VState) (i : List Nat) (p : List (List Int)) (f : Nat)
    (hf : f = 77 ∨ f = 109) : Goal b64 vs (.csi i p f) := by
  rcases hf with rfl | rfl <;>
  · ib_eval
    simp only [ctxHs, pm_eq]
    generalize parseMouse i p _ = r
    rcases r with e | _ | m <;> simp [ib]

end VaxisModel.Lemmas.InputBodyArms
