/-
`handleSequence` arm by arm, continued: `CSI … t`, APC, DCS (`|`, `r`, the other finals).
-/
import VaxisModel.Lemmas.InputBodyArms

namespace VaxisModel.Lemmas.InputBodyArms
open VaxisModel.Model.GoBody VaxisModel.Model.Input VaxisModel.Model.InputBody VaxisModel.Model.InputLoop
open VaxisModel.Gen.InputBody VaxisModel.Lemmas.InputBody

theorem str_smulx : str "Smulx" = [83, 109, 117, 108, 120] := by decide +kernel
theorem str_rgb : str "RGB" = [82, 71, 66] := by decide +kernel
theorem str_vte : str "~VTE" = [126, 86, 84, 69] := by decide +kernel
theorem str_q : str " q" = [32, 113] := by decide +kernel
theorem str_G : str "G" = [71] := by decide +kernel
theorem str_4 : str "4" = [52] := by decide +kernel
theorem str_10 : str "10" = [49, 48] := by decide +kernel
theorem str_11 : str "11" = [49, 49] := by decide +kernel
theorem str_52 : str "52" = [53, 50] := by decide +kernel
theorem str_176 : str "176" = [49, 55, 54] := by decide +kernel

theorem strLen_nil : strLen [] = 0 := rfl
theorem strLen_eq_zero : ∀ s, (strLen s = 0) = (s = [])
  | [] => by simp [strLen]
  | r :: t => by
    have := strLen_nonneg t
    simp only [strLen, utf8Len, reduceCtorEq, eq_iff_iff, iff_false]; split <;> (try split) <;> (try split) <;> omega

attribute [-ib] evalE evalEs evalCond index
/-- `vx.Resize()`, run once. -/
theorem runRz_eq (st : St) : runRz st =
    .norm { st with vs := { st.vs with resizeFlag := true }, effs := st.effs ++ [(.postNB .redraw, .nonblocking)] } := by
  delta runRz; simp [rz, ib]

attribute [ib] ctxHs runRz_eq str_smulx str_rgb str_vte str_q str_G str_4 str_10 str_11 str_52 str_176 strLen_eq_zero strLen_nil

section
variable (b64 : List Nat → Option (List Nat)) (vs : VState)

/-- `CSI … t`, the size reports: 4 the text area in pixels, 8 in cells, 48 the in-band resize. -/
theorem csi_t (i : List Nat) (p : List (List Int)) : Goal b64 vs (.csi i p 116) := by
  ib_eval
  -- left: the model appends a conditional list where the body has an `if` around a post
  cases vs.caps.inBandResize <;> rfl

/-- APC: data that begins with `G` is the kitty graphics reply; empty data and anything else nothing. -/
theorem apc_all (d : List Nat) : Goal b64 vs (.apc d) := by ib_eval

/-- `DCS ! |` with the data `~VTE` in hex: styled underlines; `DCS > |`: the terminal's name and version. -/
theorem dcs_pipe (i : List Nat) (p : List Int) (d : List Nat) : Goal b64 vs (.dcs 124 i p d) := by ib_eval

theorem dcs_other (f : Nat) (i : List Nat) (p : List Int) (d : List Nat) (h1 : f ≠ 114) (h2 : f ≠ 124) :
    Goal b64 vs (.dcs f i p d) := by
  ib_eval

/-- `DCS + r`: an XTGETTCAP reply (`Smulx`, `RGB`); `DCS $ r` with data ending in ` q`: the DECRQSS reply for the cursor style. -/
theorem dcs_r (i : List Nat) (p : List Int) (d : List Nat) : Goal b64 vs (.dcs 114 i p d) := by
  ib_eval
  -- left: the test of the cursor style `cs` and `cs - '0'`, which does not wrap for `cs ≤ '6'`
  by_cases hlo : val (idx d 0) < 48
  · simp [hlo]
  · by_cases hhi : 54 < val (idx d 0)
    · simp [hlo, hhi]
    · have : wrap64 (↑(val (idx d 0)) - 48) = ↑(val (idx d 0)) - 48 := by unfold wrap64; omega
      simp [hlo, hhi, this]

end
end VaxisModel.Lemmas.InputBodyArms
