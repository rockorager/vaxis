/-
`handleSequence` arm by arm, continued: `CSI ? … c` (the loop over the parameters), the CSI finals without an arm, OSC.
-/
import VaxisModel.Lemmas.InputBodyArms2

namespace VaxisModel.Lemmas.InputBodyArms
open VaxisModel.Model.GoBody VaxisModel.Model.Input VaxisModel.Model.InputBody VaxisModel.Model.InputLoop
open VaxisModel.Gen.InputBody VaxisModel.Lemmas.InputBody

attribute [-ib] evalE evalEs evalCond index

def daLoopBody : Ss :=
  Ss.ofList [.switchS .nil (.idx (.var "ps") (.int 0)) (Cs.ofList [((Es.ofList [(.int 4)]), (Ss.ofList [
    (.expr (.call "vx.PostEventBlocking" (Es.ofList [(.lit "capabilitySixel" .nil)])))]))])]

def envAfter : List (List Int) → Env → Env
  | [], e => e
  | ps :: rest, e => envAfter rest (("ps", .ints ps) :: e)

def sixes (firsts : List Int) : List KEff :=
  (firsts.filter (· == 4)).map fun _ => (Effect.postB (.internal .capabilitySixel), SendKind.blocking)

theorem step_c (c : Ctx) (st : St) (ps : List Int) :
    loopBody c "ps" daLoopBody st (.ints ps) =
      if got (idx ps 0) then
        .norm { env := ("ps", .ints ps) :: st.env, vs := st.vs,
                effs := if val (idx ps 0) = 4 then st.effs ++ [(Effect.postB (.internal .capabilitySixel), SendKind.blocking)] else st.effs }
      else .fail .panic := by
  simp [loopBody, daLoopBody, ib, ite_norm, ite_St]

theorem loop_c (c : Ctx) : ∀ (l : List (List Int)) (st : St),
    loop (loopBody c "ps" daLoopBody) (l.map V.ints) st =
      match l.mapM (fun ps => idx ps 0) with
      | .ok firsts => .norm { env := envAfter l st.env, vs := st.vs, effs := st.effs ++ sixes firsts }
      | .error _ => .fail .panic
  | [], st => by simp [loop, envAfter, sixes, pure, Except.pure]
  | ps :: rest, st => by
    simp only [List.map_cons, loop, step_c, List.mapM_cons, idx_bind]
    by_cases hg : got (idx ps 0) = true
    · simp only [hg, if_true, loop_c c rest]
      rcases rest.mapM (fun ps => idx ps 0) with e | l
      · rfl
      · by_cases h4 : val (idx ps 0) = 4 <;> simp [h4, envAfter, sixes, pure, Except.pure, Except.ok_bind]
    · simp only [hg]; rfl

section
variable (b64 : List Nat → Option (List Nat)) (vs : VState)

/-- `CSI ? … c`, the primary device attributes; the loop over the parameters is the model's `mapM` (`loop_c`). -/
theorem csi_c (i : List Nat) (p : List (List Int)) : Goal b64 vs (.csi i p 99) := by
  have hl := loop_c (ctxHs b64) p
  simp only [daLoopBody, Ss.ofList, Es.ofList, Cs.ofList, ctxHs] at hl
  ib_eval
  rcases p.mapM (fun ps => idx ps 0) with e | l <;> simp [ib, sixes, Function.comp_def]

theorem csi_other (i : List Nat) (p : List (List Int)) (f : Nat)
    (h : f ≠ 99 ∧ f ≠ 73 ∧ f ≠ 79 ∧ f ≠ 82 ∧ f ≠ 83 ∧ f ≠ 110 ∧ f ≠ 121 ∧ f ≠ 117 ∧ f ≠ 126 ∧ f ≠ 77 ∧ f ≠ 109 ∧ f ≠ 116) :
    Goal b64 vs (.csi i p f) := by
  obtain ⟨h1, h2, h3, h4, h5, h6, h7, h8, h9, h10, h11, h12⟩ := h
  ib_eval

theorem ite_append_self {α} (c : Prop) [Decidable c] (l x : List α) : (if c then l ++ x else l) = l ++ if c then x else [] := by
  split <;> simp
theorem ite_append_left {α} (c : Prop) [Decidable c] (l x y : List α) :
    (if c then l ++ x else l ++ y) = l ++ if c then x else y := by split <;> rfl
theorem map_ite {α β} (f : α → β) (c : Prop) [Decidable c] (a b : List α) :
    List.map f (if c then a else b) = if c then List.map f a else List.map f b := by split <;> rfl

macro "osc_eval" : tactic => `(tactic| simp [Goal, ib, ite_norm, ite_St, ite_append_self, ite_append_left, map_ite])

/-- OSC: five consecutive `if strings.HasPrefix(payload, …)`.  The blocks for `4`, `10`, `11` only add effects and are merged
(`ite_norm` …) into the model's `e4 ++ e10 ++ e11`, no prefix is decided; the one case split is on `b64` of the clipboard field (`52`). -/
theorem osc_all (pl : List Nat) : Goal b64 vs (.osc pl) := by
  osc_eval
  rcases b64 (val (idx (splitOn 59 pl) 2)) with _ | b <;> osc_eval
end
end VaxisModel.Lemmas.InputBodyArms
