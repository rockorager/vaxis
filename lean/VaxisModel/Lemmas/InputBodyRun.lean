/-
Running the interpreter of `Model/InputBody.lean` on sequences whose fields stay variables.  The equations of `evalE` are stated
with `>>=`, so that a value still undecided (an `if` over results) moves out of every operator by `Except.ite_bind`.  A checked read
`l[n]` is the `if` `got (idx l n)` over the total value `val (idx l n)`, on the side of the interpreter (`index_*`) and of the hand
model (`idx_bind`): both sides of an arm normalise to the same tree of `if`s and no list is taken apart.  Two branches that both end
normally are one state with conditional components (`ite_norm`, `ite_St` …); these merging lemmas are not in `ib`: where an `if` is
followed by a `return` the hand model is a tree of results, so they are given only to the runs of bodies with independent `if`s.
-/
import VaxisModel.Lemmas.InputBody
import VaxisModel.Lemmas.ExceptM
import VaxisModel.Lemmas.GoInterp

namespace VaxisModel.Lemmas.InputBody
open VaxisModel.Model.GoBody VaxisModel.Model.Input VaxisModel.Model.InputBody VaxisModel.Model.InputLoop

section
variable {ε α β : Type}
/-- Two results in front of a strict binary operation.  Written `ra >>= fun x => rb >>= f x`, `simp` would
run `f x b` on the bound `x` as soon as `rb` is a value. -/
def bind2 {γ : Type} (f : α → β → Except ε γ) (ra : Except ε α) (rb : Except ε β) : Except ε γ :=
  ra >>= fun x => rb >>= f x
variable {γ : Type} (f : α → β → Except ε γ)
theorem bind2_ok (a : α) (b : β) : bind2 f (.ok a) (.ok b) = f a b := rfl
theorem bind2_error (e : ε) (rb : Except ε β) : bind2 f (.error e) rb = .error e := rfl
theorem bind2_ite (p : Prop) [Decidable p] (x y : Except ε α) (rb : Except ε β) :
    bind2 f (if p then x else y) rb = if p then bind2 f x rb else bind2 f y rb := by split <;> rfl
theorem bind2_ok_ite (a : α) (p : Prop) [Decidable p] (x y : Except ε β) :
    bind2 f (.ok a) (if p then x else y) = if p then bind2 f (.ok a) x else bind2 f (.ok a) y := by split <;> rfl
end

def got {α} (x : Except Panic α) : Bool := match x with | .ok _ => true | .error _ => false
def val {α} [Inhabited α] (x : Except Panic α) : α := match x with | .ok a => a | .error _ => default

theorem got_ok {α} (a : α) : got (.ok a : Except Panic α) = true := rfl
theorem val_ok {α} [Inhabited α] (a : α) : val (.ok a : Except Panic α) = a := rfl

theorem idx_bind {α β} [Inhabited α] (l : List α) (n : Nat) (k : α → Except Panic β) :
    (idx l n >>= k) = if got (idx l n) then k (val (idx l n)) else .error .indexOutOfRange := by
  rcases idx l n with ⟨⟨⟩⟩ | a <;> rfl

theorem idx2_bind {β} (l : List (List Int)) (i j : Nat) (k : Int → Except Panic β) :
    (idx2 l i j >>= k) = if got (idx2 l i j) then k (val (idx2 l i j)) else .error .indexOutOfRange := by
  rcases idx2 l i j with ⟨⟨⟩⟩ | a <;> rfl

theorem got_idx_map {α β} (f : α → β) (l : List α) (n : Nat) : got (idx (l.map f) n) = got (idx l n) := by
  simp only [idx, List.getElem?_map]; cases l[n]? <;> rfl
theorem val_idx_ofNat (l : List Nat) (n : Nat) : val (idx (l.map Int.ofNat) n) = Int.ofNat (val (idx l n)) := by
  simp only [idx, List.getElem?_map]; cases l[n]? <;> rfl

private theorem lit_toNat (n : Nat) : (OfNat.ofNat n : Int).toNat = n := rfl
private theorem lit_nonneg (n : Nat) : ((0 : Int) ≤ OfNat.ofNat n) = True := eq_true (Int.natCast_nonneg n)
/-- `l[n]` for a literal `n`.  `no_index`: simp's index of lemmas keys a numeral in the goal as a literal, and would key
`OfNat.ofNat n` with a variable `n` as an application that no literal matches; left out of the index, unification finds `n`. -/
theorem index_intss (l : List (List Int)) (n : Nat) : index (.intss l) (.int (no_index (OfNat.ofNat n))) =
    if got (idx l n) then .ok (.ints (val (idx l n))) else .error .panic := by
  simp only [index, lit_toNat, lit_nonneg, if_true, idx]; split <;> simp [got, val, *]
theorem index_ints (l : List Int) (n : Nat) : index (.ints l) (.int (no_index (OfNat.ofNat n))) =
    if got (idx l n) then .ok (.int (val (idx l n))) else .error .panic := by
  simp only [index, lit_toNat, lit_nonneg, if_true, idx]; split <;> simp [got, val, *]
theorem index_strs (l : List (List Nat)) (n : Nat) : index (.strs l) (.int (no_index (OfNat.ofNat n))) =
    if got (idx l n) then .ok (.str (val (idx l n))) else .error .panic := by
  simp only [index, lit_toNat, lit_nonneg, if_true, idx]; split <;> simp [got, val, *]
theorem index_str (l : List Nat) (n : Nat) : index (.str l) (.int (no_index (OfNat.ofNat n))) =
    if got (idx l n) then .ok (.int ((val (idx l n) : Nat) : Int)) else .error .panic := by
  simp only [index, lit_toNat, lit_nonneg, if_true, idx]; split <;> simp [got, val, *]

/-- `l[i][j]`: the two reads are one read of the hand model. -/
theorem index_intss2 (l : List (List Int)) (i j : Nat) :
    bind2 index (if got (idx l i) then .ok (.ints (val (idx l i))) else .error .panic) (.ok (.int (no_index (OfNat.ofNat j)))) =
      if got (idx2 l i j) then .ok (.int (val (idx2 l i j))) else .error .panic := by
  unfold idx2
  rcases idx l i with ⟨⟨⟩⟩ | a
  · rfl
  · simp only [got_ok, val_ok, if_true, bind2_ok, index_ints, Except.ok_bind]; rfl

def notV : V → Except Fail V
  | .bool x => .ok (.bool (!x))
  | _ => .error (.stuck "!")
/-- The right operand of `&&` / `||` once the left one has not decided. -/
def asBool (op : String) : V → Except Fail V
  | .bool y => .ok (.bool y)
  | _ => .error (.stuck op)
def landV (rb : Except Fail V) : V → Except Fail V
  | .bool true => rb >>= asBool "&&"
  | .bool false => .ok (.bool false)
  | _ => .error (.stuck "&&")
def lorV (rb : Except Fail V) : V → Except Fail V
  | .bool false => rb >>= asBool "||"
  | .bool true => .ok (.bool true)
  | _ => .error (.stuck "||")
def condV (st : St) : V → Except Fail (Bool × St)
  | .bool b => .ok (b, st)
  | _ => .error (.stuck "condition is not a bool")

theorem notV_bool (x : Bool) : notV (.bool x) = .ok (.bool (!x)) := rfl
theorem asBool_bool (op : String) (y : Bool) : asBool op (.bool y) = .ok (.bool y) := rfl
theorem lorV_bool (rb : Except Fail V) (x : Bool) :
    lorV rb (.bool x) = if x = true then .ok (.bool true) else rb >>= asBool "||" := by cases x <;> rfl
theorem landV_bool_ok (x y : Bool) : landV (.ok (.bool y)) (.bool x) = .ok (.bool (x && y)) := by cases x <;> rfl
theorem lorV_bool_ok (x y : Bool) : lorV (.ok (.bool y)) (.bool x) = .ok (.bool (x || y)) := by cases x <;> rfl
theorem condV_bool (st : St) (b : Bool) : condV st (.bool b) = .ok (b, st) := rfl

section
variable (c : Ctx) (env : Env) (vs : VState)
theorem evalE_int (n : Int) : evalE c env vs (.int n) = .ok (.int n) := by rw [evalE]
theorem evalE_str (s : List Int) : evalE c env vs (.str s) = .ok (.str (s.map Int.toNat)) := by rw [evalE]
theorem evalE_tt : evalE c env vs .tt = .ok (.bool true) := by rw [evalE]
theorem evalE_ff : evalE c env vs .ff = .ok (.bool false) := by rw [evalE]
theorem evalE_nilv : evalE c env vs .nilv = .ok .nil := by rw [evalE]
theorem evalE_var (x : String) : evalE c env vs (.var x) = readVar env vs x := by rw [evalE]
theorem evalE_addr (x : String) : evalE c env vs (.un .addr (.var x)) = .ok (.ref x) := by rw [evalE]
theorem evalE_not (a : E) : evalE c env vs (.un .not a) = evalE c env vs a >>= notV := by
  rw [evalE]; cases evalE c env vs a with | error f => rfl | ok v => cases v <;> rfl
theorem evalE_land (a b : E) : evalE c env vs (.bin .land a b) = evalE c env vs a >>= landV (evalE c env vs b) := by
  rw [evalE]; cases evalE c env vs a with
  | error f => rfl
  | ok v => cases v with
    | bool x => cases x <;> simp only [Except.ok_bind, landV] <;> cases evalE c env vs b with
      | error f => rfl
      | ok w => cases w <;> rfl
    | _ => rfl
theorem evalE_lor (a b : E) : evalE c env vs (.bin .lor a b) = evalE c env vs a >>= lorV (evalE c env vs b) := by
  rw [evalE]; cases evalE c env vs a with
  | error f => rfl
  | ok v => cases v with
    | bool x => cases x <;> simp only [Except.ok_bind, lorV] <;> cases evalE c env vs b with
      | error f => rfl
      | ok w => cases w <;> rfl
    | _ => rfl
theorem evalE_bin (op : BinOp) (a b : E) (h1 : op ≠ .land) (h2 : op ≠ .lor) :
    evalE c env vs (.bin op a b) = bind2 (binop op) (evalE c env vs a) (evalE c env vs b) := by
  rw [evalE]
  · cases evalE c env vs a with
    | error f => rfl
    | ok v => cases evalE c env vs b <;> rfl
  · exact h1
  · exact h2
theorem evalE_idx (a i : E) :
    evalE c env vs (.idx a i) = bind2 index (evalE c env vs a) (evalE c env vs i) := by
  rw [evalE]; cases evalE c env vs a with
  | error f => rfl
  | ok v => cases evalE c env vs i <;> rfl
theorem evalE_call (fn : String) (args : Es) :
    evalE c env vs (.call fn args) = evalEs c env vs args >>= callFn c env vs fn := by
  rw [evalE]; cases evalEs c env vs args <;> rfl
theorem evalE_lit (ty : String) (args : Es) : evalE c env vs (.lit ty args) = evalEs c env vs args >>= litValue ty := by
  rw [evalE]; cases evalEs c env vs args <;> rfl
theorem evalEs_nil : evalEs c env vs .nil = .ok [] := by rw [evalEs]
theorem evalEs_cons (h : E) (t : Es) :
    evalEs c env vs (.cons h t) = bind2 (fun v l => .ok (v :: l)) (evalE c env vs h) (evalEs c env vs t) := by
  rw [evalEs]; cases evalE c env vs h with
  | error f => rfl
  | ok v => cases evalEs c env vs t <;> rfl
end

theorem evalCond_expr (c : Ctx) (cond : E) (st : St) (h : ∀ args, cond ≠ .call "atomic.CompareAndSwapInt32" args) :
    evalCond c cond st = evalE c st.env st.vs cond >>= condV st := by
  have : isCASReq cond = false := by
    unfold isCASReq; split
    · rename_i fn x
      have := h (.cons (.un .addr (.var x)) (.cons (.int 1) (.cons (.int 0) .nil)))
      simp_all
    · rfl
  simp only [evalCond, this]
  cases evalE c st.env st.vs cond with
  | error f => rfl
  | ok v => cases v <;> rfl
theorem evalCond_cas (c : Ctx) (st : St) :
    evalCond c (.call "atomic.CompareAndSwapInt32" (.cons (.un .addr (.var "vx.reqCursorPos")) (.cons (.int 1) (.cons (.int 0) .nil)))) st =
      .ok (st.vs.reqCursorPos, { st with vs := { st.vs with reqCursorPos := false } }) := rfl

theorem thenSs_nil (c : Ctx) (r : R) : thenSs c r .nil = r := by cases r <;> simp [thenSs, execSs_nil]
theorem afterSwitch_idem (r : R) : afterSwitch (afterSwitch r) = afterSwitch r := by cases r <;> rfl

section
variable (c : Ctx) (st : St) (p : Prop) [Decidable p]
theorem condBranch_ite (a b : Except Fail (Bool × St)) (thn els : Ss) :
    condBranch c (if p then a else b) thn els = if p then condBranch c a thn els else condBranch c b thn els := by split <;> rfl
theorem swStep_ite (a b : Except Fail V) (cases : Cs) :
    swStep c (if p then a else b) st cases = if p then swStep c a st cases else swStep c b st cases := by split <;> rfl
theorem exprStep_ite (fn : String) (a b : Except Fail (List V)) :
    exprStep c st fn (if p then a else b) = if p then exprStep c st fn a else exprStep c st fn b := by split <;> rfl
theorem assignStep_ite (tok : AssignTok) (ns : Option (List String)) (a b : Except Fail V) :
    assignStep tok ns (if p then a else b) st = if p then assignStep tok ns a st else assignStep tok ns b st := by split <;> rfl
end

theorem ofModel_ok (k : Kinds) (vs : VState) (effs : List Effect) :
    ofModel k (.ok (vs, effs)) = .ok (vs, effs.map fun e => (e, kindOf k e)) := rfl
theorem ofModel_error (k : Kinds) (e : Panic) : ofModel k (.error e) = .error .panic := rfl
theorem ofModel_ite (k : Kinds) (p : Prop) [Decidable p] (a b : Res) :
    ofModel k (if p then a else b) = if p then ofModel k a else ofModel k b := by split <;> rfl

section
variable (p : Prop) [Decidable p]
theorem ite_then_ite {α} (a b d : α) : (if p then (if p then a else b) else d) = if p then a else d := by split <;> rfl
theorem ite_norm (a b : St) : (if p then R.norm a else R.norm b) = R.norm (if p then a else b) := by split <;> rfl
theorem ite_St (e1 e2 : Env) (v1 v2 : VState) (f1 f2 : List KEff) :
    (if p then (⟨e1, v1, f1⟩ : St) else ⟨e2, v2, f2⟩) = ⟨if p then e1 else e2, if p then v1 else v2, if p then f1 else f2⟩ := by
  split <;> rfl
theorem lookup_ite (x : String) (a b : Env) :
    List.lookup x (if p then a else b) = if p then List.lookup x a else List.lookup x b := by split <;> rfl
theorem ite_some {α} (a b : α) : (if p then some a else some b) = some (if p then a else b) := by split <;> rfl
theorem ite_mouse (a b : Mouse) : (if p then V.mouse a else V.mouse b) = V.mouse (if p then a else b) := by split <;> rfl
theorem ite_Mouse (a1 a2 b1 b2 c1 c2 : Int) (d1 d2 e1 e2 : Nat) :
    (if p then (⟨a1, b1, c1, d1, e1⟩ : Mouse) else ⟨a2, b2, c2, d2, e2⟩) =
      ⟨if p then a1 else a2, if p then b1 else b2, if p then c1 else c2, if p then d1 else d2, if p then e1 else e2⟩ := by
  split <;> rfl
end

attribute [ib] Except.ok_bind Except.error_bind Except.ite_bind bind2_ok bind2_error bind2_ite bind2_ok_ite got_ok val_ok got_idx_map val_idx_ofNat index_intss index_ints index_strs
  index_str notV_bool asBool_bool lorV_bool condV_bool evalE_int evalE_str evalE_tt evalE_ff evalE_nilv evalE_var
  evalE_addr evalE_not evalE_land evalE_lor evalE_bin evalE_idx evalE_call evalE_lit evalEs_nil evalEs_cons evalCond_expr
  evalCond_cas condBranch_ite swStep_ite exprStep_ite assignStep_ite ofModel_ok ofModel_error ofModel_ite idx_bind idx2_bind ite_then_ite GoInterp.ite_or_same
-- in front of `bind2_ite` and `lorV_bool`, which apply to the same terms and would take them apart first
attribute [ib high] index_intss2 landV_bool_ok lorV_bool_ok

end VaxisModel.Lemmas.InputBody
