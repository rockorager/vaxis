import VaxisModel.Lemmas.Input
import VaxisModel.Lemmas.InputLoop
import VaxisModel.Spec.InputEvents

/-! Sequence-level reports (`SReport`) and the sequential pipeline: for each well-formed report `handle` posts exactly the
events the grammar-level spec requires. -/
namespace VaxisModel.Lemmas.InputEvents
open VaxisModel.Model.Input VaxisModel.Lemmas.Input
open VaxisModel.Spec.InputEvents

def posted : List Effect → List Event
  | [] => []
  | .postB e :: r => e :: posted r
  | .postNB e :: r => e :: posted r
  | _ :: r => posted r

theorem mem_posted {effs : List Effect} {e : Event} : e ∈ posted effs ↔ Effect.postB e ∈ effs ∨ Effect.postNB e ∈ effs := by
  induction effs with
  | nil => simp [posted]
  | cons x t ih => cases x <;> simp [posted, ih, or_assoc, or_left_comm]

/-- The sequential pipeline: each sequence is handled in turn, every effect completes and no
non-blocking post is dropped (queue never full). Result: final state and all posted events. -/
def pipeline (b64 : List Nat → Option (List Nat)) : VState → List Seq → Except Panic (VState × List Event)
  | st, [] => .ok (st, [])
  | st, s :: ss =>
    match handle b64 st s with
    | .error e => .error e
    | .ok (st1, effs) =>
      match pipeline b64 st1 ss with
      | .error e => .error e
      | .ok (st2, evs) => .ok (st2, posted effs ++ evs)

/-- Which CSI sequences are consumed as replies (never reach the key decoder). -/
def isQueryReply : Seq → Bool
  | .dcs .. | .apc .. | .osc .. => true
  | .csi interm params final => isQueryReplyCSI interm params final
  | _ => false

/-- Sequences that encode a key press: text, C0 controls, ESC-prefixed, SS3, and CSI without
private marker whose final byte is not one of the report finals (`CSI 200~`/`201~` are the paste
brackets). -/
def LegitKey : Seq → Prop
  | .print .. | .c0 .. | .esc .. | .ss3 .. => True
  | .csi interm params final =>
      interm = [] ∧ final ≠ ch 'I' ∧ final ≠ ch 'O' ∧ final ≠ ch 'y' ∧ final ≠ ch 'M' ∧ final ≠ ch 'm' ∧ final ≠ ch 't' ∧
      (final = ch '~' → ∃ k r m, params = (k :: r) :: m ∧ k ≠ 200 ∧ k ≠ 201)
  | _ => False

theorem key_csi (st : VState) (params : List (List Int)) (final : Nat)
    (hreq : st.reqCursorPos = false ∨ final ≠ ch 'R') (h : LegitKey (.csi [] params final)) :
    handleCSI st [] params final = .ok (st, [.postB (.key (.csi [] params final) st.pastePending)]) := by
  obtain ⟨-, hI, hO, hy, hM, hm, ht, htilde⟩ := h
  by_cases hT : final = ch '~'
  · obtain ⟨k, r, m, hp, h200, h201⟩ := htilde hT
    subst hT hp
    simp [handleCSI, ch, idx2, idx, keyArm, bind, Except.bind, h200, h201]
  · rcases hreq with hreq | hR
    · simp [handleCSI, isPrivate, hreq, hI, hO, hy, hM, hm, ht, hT, keyArm]
    · simp [handleCSI, isPrivate, hR, hI, hO, hy, hM, hm, ht, hT, keyArm]

inductive SReport
  | key (s : Seq)
  | mouse (b x y : Nat) (rel : Bool)
  | focus (gained : Bool)
  | pasteStart | pasteEnd
  | reply (s : Seq)
  | inband (h w yp xp : Int)
  | theme (m : Nat)

def SReport.Wf : SReport → Prop
  | .key s => LegitKey s
  | .mouse _ x y _ => x < 2 ^ 63 ∧ y < 2 ^ 63
  | .reply s => isQueryReply s = true ∧ WfSeq s
  | _ => True

/-- The sequence the parser delivers for the report (C02's round trip). -/
def SReport.seq : SReport → Seq
  | .key s => s
  | .mouse b x y rel => .csi [ch '<'] [[(b : Int)], [(x : Int)], [(y : Int)]] (if rel then ch 'm' else ch 'M')
  | .focus true => .csi [] [] (ch 'I')
  | .focus false => .csi [] [] (ch 'O')
  | .pasteStart => .csi [] [[200]] (ch '~')
  | .pasteEnd => .csi [] [[201]] (ch '~')
  | .reply s => s
  | .inband h w yp xp => .csi [] [[48], [h], [w], [yp], [xp]] (ch 't')
  | .theme m => .csi [ch '?'] [[997], [(m : Int)]] (ch 'n')

/-- The grammar-level report (key token = the sequence itself; event type 0 stands for "whatever
the key encoding says"). -/
def SReport.spec : SReport → Report Seq
  | .key s => .key s 0
  | .mouse b x y rel => .mouseSGR b x y rel
  | .focus g => .focus g
  | .pasteStart => .pasteStart
  | .pasteEnd => .pasteEnd
  | .reply _ => .reply "reply" none
  | .inband .. => .replyInband none
  | .theme m => .replyTheme m

/-- Application-visible image of a model event. -/
def toU : Event → Option (UEvent Seq)
  | .key s paste => some (.key s (if paste then (etPaste : Int) else 0))
  | .mouse m => some (.mouse m.button.toNat m.col m.row m.eventType m.mods)
  | .focusIn => some .focusIn | .focusOut => some .focusOut
  | .pasteStart => some .pasteStart | .pasteEnd => some .pasteEnd
  | .colorTheme m => some (.colorTheme m.toNat)
  | .redraw => some .redraw
  | _ => none

def visible (evs : List Event) : List (UEvent Seq) := evs.filterMap toU

def pasteAfter (p : Bool) : SReport → Bool
  | .pasteStart => true
  | .pasteEnd => false
  | _ => p

theorem spec_cons (p : Bool) (r : SReport) (rs : List SReport) :
    specEvents p ((r :: rs).map SReport.spec) = specEvents p [r.spec] ++ specEvents (pasteAfter p r) (rs.map SReport.spec) := by
  cases r <;> simp [specEvents, SReport.spec, pasteAfter]
  case focus g => cases g <;> simp

theorem toU_internal (e : Event) (h : e.userVisible = false) : toU e = none := by
  cases e <;> simp [Event.userVisible] at h <;> rfl

theorem posted_internal (effs : List Effect) (ha : effs.all effInternal = true) :
    ∀ e ∈ posted effs, e.userVisible = false := by
  intro e he
  rcases mem_posted.1 he with h | h <;> simpa [effInternal] using List.all_eq_true.1 ha _ h

theorem visible_internal (effs : List Effect) (h : effs.all effInternal = true) : visible (posted effs) = [] :=
  List.filterMap_eq_nil_iff.2 fun e he => toU_internal e (posted_internal effs h e he)

theorem isQueryReply_post (b64 : List Nat → Option (List Nat)) (st : VState) (s : Seq) (h : isQueryReply s = true) :
    Post (Reply st) (handle b64 st s) := by
  cases s with
  | dcs f i p d => exact reply_dcs st f i p d
  | osc p => exact reply_osc b64 st p
  | apc d => simp [handle, post, Post_ite, Post_ok, Reply, effInternal, Event.userVisible]
  | csi interm params final => exact reply_csi st interm params final h
  | _ => simp [isQueryReply] at h

/-- The SGR decoding written arithmetically, as a model `Mouse`. -/
def sgrMouse (b x y : Nat) (rel : Bool) : Mouse :=
  { button := ((b % 4 + (b / 64 % 4) * 64 : Nat) : Int), row := (y : Int) - 1, col := (x : Int) - 1,
    eventType := if b / 32 % 2 == 1 then evMotion else if rel then evRelease else evPress,
    mods := b / 4 % 2 * 1 + b / 8 % 2 * 2 + b / 16 % 2 * 4 }

theorem sgr_mouse_parse (b x y : Nat) (rel : Bool) (hx : x < 2 ^ 63) (hy : y < 2 ^ 63) :
    parseMouse [60] [[(b : Int)], [(x : Int)], [(y : Int)]] (if rel then 109 else 77)
      = .ok (some (sgrMouse b x y rel)) := by
  unfold sgrMouse
  have hg : mouseGuard [60] = .ok false := mouseGuard_sgr
  cases rel <;>
  simp [parseMouse, hg, idx2, idx, bind, Except.bind, pure, Except.pure, VaxisModel.Gen.Caps.buttonBits,
    VaxisModel.Gen.Caps.motion, VaxisModel.Gen.Caps.mouseModShift, VaxisModel.Gen.Caps.mouseModAlt,
    VaxisModel.Gen.Caps.mouseModCtrl, andMask_buttons, wrap64_pred, hx, hy, mods_sum, andMask_motion, ch,
    evPress, evMotion, evRelease] <;>
  (rcases Nat.mod_two_eq_zero_or_one (b / 32) with h | h <;> simp [h])

/-- The report is not a key whose encoding is `CSI … R` (F3 with modifiers in the legacy encoding
shares its final byte with the cursor-position report: by design such a key is taken for the answer
while a query is outstanding).  Declared here because `one_report` is stated with it. -/
def _root_.VaxisModel.Lemmas.InputFlowAny.NotCprKey : SReport → Prop
  | .key (.csi _ _ final) => final ≠ ch 'R'
  | _ => True

theorem one_report (b64 : List Nat → Option (List Nat)) (r : SReport) (st : VState) (hw : r.Wf)
    (hk : st.reqCursorPos = false ∨ VaxisModel.Lemmas.InputFlowAny.NotCprKey r) :
    ∃ st' effs, handle b64 st r.seq = .ok (st', effs) ∧ st'.reqCursorPos = st.reqCursorPos ∧
      st'.pastePending = pasteAfter st.pastePending r ∧
      visible (posted effs) = specEvents st.pastePending [r.spec] := by
  cases r with
  | key s =>
    cases s with
    | csi interm params final =>
      have hi : interm = [] := hw.1
      subst hi
      refine ⟨st, _, key_csi st params final hk hw, rfl, rfl, ?_⟩
      cases hp : st.pastePending <;> simp [visible, posted, toU, specEvents, SReport.spec]
    | print _ _ | c0 _ | esc _ _ | ss3 _ =>
      exact ⟨st, _, rfl, rfl, rfl, by cases st.pastePending <;> simp [visible, posted, toU, specEvents, SReport.spec, SReport.seq]⟩
    | _ => exact absurd hw (by simp [SReport.Wf, LegitKey])
  | mouse b x y rel =>
    obtain ⟨hx, hy⟩ := hw
    have hm := sgr_mouse_parse b x y rel hx hy
    refine ⟨st, [.postB (.mouse (sgrMouse b x y rel))], ?_, rfl, rfl, ?_⟩
    · cases rel <;> simp [SReport.seq, handle, handleCSI, ch] at hm ⊢ <;> simp [hm, bind, Except.bind, pure, Except.pure]
    · simp [visible, posted, toU, specEvents, SReport.spec, mouseEvent, sgrMouse, evMotion, evRelease, evPress,
        etMotion, etRelease, etPress]
      omega
  | focus g => cases g <;> exact ⟨st, _, rfl, rfl, rfl, rfl⟩
  | pasteStart => exact ⟨{ st with pastePending := true }, _, rfl, rfl, rfl, rfl⟩
  | pasteEnd => exact ⟨{ st with pastePending := false }, _, rfl, rfl, rfl, rfl⟩
  | reply s =>
    obtain ⟨hq, hwf⟩ := hw
    have hok := handle_ok b64 st s hwf
    have hr := isQueryReply_post b64 st s hq
    simp only [SReport.seq]
    cases hh : handle b64 st s with
    | error e => simp [hh, ok?] at hok
    | ok res =>
      obtain ⟨st', effs⟩ := res
      obtain ⟨ha, hp, hrq⟩ := hr st' effs hh
      exact ⟨st', effs, rfl, hrq, by simpa [pasteAfter] using hp,
        by simpa [specEvents, SReport.spec] using visible_internal effs ha⟩
  | inband h w yp xp =>
    refine ⟨{ st with resizeFlag := true, nextSize := { cols := w, rows := h, ypix := yp, xpix := xp } }, _, rfl, rfl, rfl, ?_⟩
    cases hc : st.caps.inBandResize <;> simp [visible, posted, toU, specEvents, SReport.spec, List.filterMap_cons]
  | theme m =>
    exact ⟨st, [.postB (.colorTheme m)], rfl, rfl, rfl, by simp [visible, posted, toU, specEvents, SReport.spec]⟩

theorem pipeline_events (b64 : List Nat → Option (List Nat)) :
    ∀ (rs : List SReport) (st : VState), (∀ r ∈ rs, r.Wf) → st.reqCursorPos = false →
      ∃ st' evs, pipeline b64 st (rs.map SReport.seq) = .ok (st', evs) ∧
        visible evs = specEvents st.pastePending (rs.map SReport.spec) := by
  intro rs
  induction rs with
  | nil => intro st _ _; exact ⟨st, [], rfl, rfl⟩
  | cons r rs ih =>
    intro st hw hreq
    obtain ⟨st1, effs, hh, hreq1, hp1, hv1⟩ := one_report b64 r st (hw r (by simp)) (.inl hreq)
    obtain ⟨st2, evs, hpipe, hv2⟩ := ih st1 (fun r' hr' => hw r' (by simp [hr'])) (hreq1.trans hreq)
    refine ⟨st2, posted effs ++ evs, ?_, ?_⟩
    · simp [pipeline, hh, hpipe]
    · rw [spec_cons, ← hv1, ← hp1, ← hv2]
      simp [visible]

theorem posted_of_queued {p : VaxisModel.Model.InputLoop.Params} {s s' : VaxisModel.Model.InputLoop.Sys} {e : Effect}
    (rest : List Effect) (h : VaxisModel.Lemmas.InputLoop.Queued p s e s') :
    (s'.queue ++ posted rest = s.queue ++ posted (e :: rest) ∧ s'.dropped = s.dropped) ∨
    (∃ ev, e = .postNB ev ∧ s'.queue = s.queue ∧ s'.dropped = s.dropped + 1) := by
  cases h with
  | posted ev he _ hq hdr => exact Or.inl ⟨by rcases he with rfl | rfl <;> simp [hq, posted], hdr⟩
  | droppedNB ev he _ hq hdr => exact Or.inr ⟨ev, he, hq, hdr⟩
  | handOff he hq hdr =>
    refine Or.inl ⟨?_, hdr⟩
    cases e <;> first | exact absurd rfl (he _).1 | exact absurd rfl (he _).2 | simp [hq, posted]

theorem kinds_safe : VaxisModel.Lemmas.InputLoop.Kinds.safe VaxisModel.Model.InputLoop.Kinds.ofGen := by
  rw [kinds_now]; simp [VaxisModel.Lemmas.InputLoop.Kinds.safe]

/-- `chCursorPos` of the source has capacity 1. -/
theorem cursorCap_one : VaxisModel.Model.InputLoop.cursorCapGen = 1 := by decide +kernel

end VaxisModel.Lemmas.InputEvents
