import VaxisModel.Lemmas.InputEvents
import VaxisModel.Lemmas.InputLoop

/-! User input is never lost, duplicated or reordered on its way through the input LTS
(`handleSequence` → pending posts → event queue → application), for every interleaving. -/
namespace VaxisModel.Lemmas.InputFlow
open VaxisModel.Model.Input VaxisModel.Model.InputLoop
open VaxisModel.Lemmas.Input VaxisModel.Lemmas.InputEvents
open VaxisModel.Spec.InputEvents

def isUserInput : Event → Bool
  | .key .. | .mouse .. | .focusIn | .focusOut | .pasteStart | .pasteEnd => true
  | _ => false

/-- Everything posted and not yet lost: delivered to the application, queued, or still to be
posted by the sequence being handled — in this order. -/
def flow (s : Sys) : List Event := s.delivered ++ s.queue ++ posted s.pend

def ui (l : List Event) : List Event := l.filter isUserInput

def emittedBy (p : Params) (s : Sys) : Label → List Event
  | .input q =>
    match s.pend, handle p.b64 s.vs q with
    | [], .ok (_, effs) => posted effs
    | _, _ => []
  | _ => []

/-- Non-blocking posts are never user input (only `Redraw` and the app id). -/
def nbOK : List Effect → Prop
  | [] => True
  | .postNB ev :: r => isUserInput ev = false ∧ nbOK r
  | _ :: r => nbOK r

theorem nbOK_append (a b : List Effect) : nbOK (a ++ b) ↔ nbOK a ∧ nbOK b := by
  induction a with
  | nil => simp [nbOK]
  | cons x t ih => cases x <;> simp_all [nbOK, and_assoc]

theorem nbOK_of {l : List Effect} (h : ∀ ev, Effect.postNB ev ∈ l → isUserInput ev = false) : nbOK l := by
  induction l with
  | nil => trivial
  | cons x t ih =>
    have := ih fun ev hev => h ev (List.mem_cons_of_mem _ hev)
    cases x <;> simp_all [nbOK]

theorem nbOK_of_no_nb (l : List Effect) (h : ∀ e ∈ l, ∀ ev, e ≠ .postNB ev) : nbOK l :=
  nbOK_of fun ev hev => absurd rfl (h _ hev ev)

theorem nbOK_map_postB {α} (l : List α) (f : α → Event) : nbOK (l.map fun x => Effect.postB (f x)) := by
  induction l with
  | nil => trivial
  | cons a t ih => simpa [nbOK] using ih

def NB (r : Res) : Prop := Post (fun _ effs => nbOK effs) r

theorem csi_nb (st : VState) (interm : List Nat) (params : List (List Int)) (final : Nat) :
    NB (handleCSI st interm params final) := by
  unfold NB handleCSI  -- every final at once (`post_arm` is for one)
  simp only [Post_ite, Post_bind, Post_ok, Post_pure, keyArm, post, decrpmArm]
  simp [nbOK, nbOK_append, nbOK_map_postB, isUserInput, apply_ite nbOK]
  rintro - - - - - - - - - - (_ | m) - <;> simp [Post_pure, nbOK]

theorem dcs_nb (st : VState) (fin : Nat) (interm : List Nat) (ps : List Int) (data : List Nat) :
    NB (handleDCS st fin interm ps data) := by
  unfold NB handleDCS
  simp only [Post_ite, Post_bind, Post_ok, Post_pure, post]
  simp [nbOK]

theorem osc_nb (b64 : List Nat → Option (List Nat)) (st : VState) (pl : List Nat) : NB (handleOSC b64 st pl) := by
  refine Post_mono (fun _ effs h => ?_) (osc_effs b64 st pl)
  refine nbOK_of (fun ev hev => ?_)
  cases ev <;> first | rfl | exact absurd (h.2 _ hev) (by simp [oscEff])

theorem handle_nb (b64 : List Nat → Option (List Nat)) (st : VState) (s : Seq) : NB (handle b64 st s) := by
  cases s with
  | csi i p f => exact csi_nb st i p f
  | dcs f i p d => exact dcs_nb st f i p d
  | osc pl => exact osc_nb b64 st pl
  | _ => simp [NB, handle, keyArm, post, Post_ite, Post_ok, nbOK]

theorem nbOK_tail (e : Effect) (rest : List Effect) (h : nbOK (e :: rest)) : nbOK rest := by
  cases e <;> simp_all [nbOK]

theorem ui_append (a b : List Event) : ui (a ++ b) = ui a ++ ui b := by simp [ui]

theorem flow_next (p : Params) (s s' : Sys) (l : Label) (hn : next p s l = some (.ok s')) (hnb : nbOK s.pend) :
    ui (flow s') = ui (flow s) ++ ui (emittedBy p s l) ∧ nbOK s'.pend := by
  cases VaxisModel.Lemmas.InputLoop.step_of_next hn with
  | input q vs effs hpend hh =>
    exact ⟨by simp [flow, emittedBy, hpend, hh, posted, ui_append], handle_nb p.b64 s.vs q vs effs hh⟩
  | step e rest s' hpend ha =>
    have hP := VaxisModel.Lemmas.InputLoop.stepEffect_inv ha
    rw [hpend] at hnb
    refine ⟨?_, by rw [hP.pend]; exact nbOK_tail e rest hnb⟩
    simp only [emittedBy, ui, List.filter_nil, List.append_nil]
    rcases posted_of_queued rest hP.queue with ⟨hq, -⟩ | ⟨ev, rfl, hq, -⟩
    · simp only [flow, hP.delivered, hP.pend, hpend, List.append_assoc, hq]
    · have hev : isUserInput ev = false := hnb.1
      simp [flow, hP.delivered, hP.pend, hpend, hq, posted, List.filter_append, hev]
  | consume ev q hq => exact ⟨by simp [flow, hq, emittedBy, ui], hnb⟩
  | clipTimeout v rest hpend =>
    rw [hpend] at hnb
    exact ⟨by simp [flow, hpend, posted, emittedBy, ui], nbOK_tail _ _ hnb⟩
  | requester l s' hi hl hr =>
    refine ⟨?_, hr.pend ▸ hnb⟩
    have he : emittedBy p s l = [] := by cases l <;> first | rfl | exact absurd rfl (hl _)
    simp [flow, hr.delivered, hr.queue, hr.pend, he, ui]

def emitted (p : Params) : Sys → List Label → List Event
  | _, [] => []
  | s, l :: ls =>
    match next p s l with
    | some (.ok s') => emittedBy p s l ++ emitted p s' ls
    | _ => []

theorem flow_run (p : Params) (ls : List Label) (s s' : Sys) (hr : run p s ls = some s') : nbOK s.pend →
    ui (flow s') = ui (flow s) ++ ui (emitted p s ls) ∧ nbOK s'.pend := by
  apply VaxisModel.Lemmas.InputLoop.run_ind ?_ ?_ hr
  · intro s hnb; simp [emitted, ui, hnb]
  intro s l s1 ls s' hn _ ih hnb
  obtain ⟨h1, hnb1⟩ := flow_next p s s1 l hn hnb
  obtain ⟨h2, hnb2⟩ := ih hnb1
  refine ⟨?_, hnb2⟩
  rw [h2, h1]
  simp [emitted, hn, ui_append]

def inputSeqs : List Label → List Seq
  | [] => []
  | .input q :: r => q :: inputSeqs r
  | _ :: r => inputSeqs r

def uiU : UEvent Seq → Bool
  | .key .. | .mouse .. | .focusIn | .focusOut | .pasteStart | .pasteEnd => true
  | _ => false

theorem visible_ui (l : List Event) : visible (ui l) = (visible l).filter uiU := by
  induction l with
  | nil => rfl
  | cons e t ih =>
    cases e <;> simp [ui, visible, List.filter_cons, List.filterMap_cons, isUserInput, toU, uiU] at ih ⊢ <;> simp [ih]

theorem visible_ui_keep (keep : UEvent Seq → Bool) (hk : ∀ u, keep u = true → uiU u = true) (l : List Event) :
    (visible (ui l)).filter keep = (visible l).filter keep := by
  rw [visible_ui, List.filter_filter]
  congr 1; funext u
  cases h : keep u <;> simp [hk u, h]

theorem flow_spec (p : Params) (ls : List Label) (s s' : Sys) (hr : run p s ls = some s') (hnb : nbOK s.pend)
    (keep : UEvent Seq → Bool) (hk : ∀ u, keep u = true → uiU u = true) (want : List (UEvent Seq))
    (h : (visible (emitted p s ls)).filter keep = want.filter keep) :
    (visible (flow s')).filter keep = (visible (flow s)).filter keep ++ want.filter keep := by
  rw [← visible_ui_keep keep hk (flow s'), (flow_run p ls s s' hr hnb).1, ← visible_ui_keep keep hk (flow s), ← h,
    ← visible_ui_keep keep hk (emitted p s ls)]
  simp [visible, List.filterMap_append]

theorem next_vs_other (p : Params) (s s' : Sys) (l : Label) (hn : next p s l = some (.ok s'))
    (h1 : ∀ q, l ≠ .input q) (h2 : l ≠ .cursorCall) :
    s'.vs.pastePending = s.vs.pastePending ∧ (s.vs.reqCursorPos = false → s'.vs.reqCursorPos = false) ∧ emittedBy p s l = [] := by
  cases VaxisModel.Lemmas.InputLoop.step_of_next hn with
  | input q vs effs hp hh => exact absurd rfl (h1 q)
  | step e rest s' hp hs => rw [VaxisModel.Lemmas.InputLoop.stepEffect_vs p s s' e rest hs]; exact ⟨rfl, id, rfl⟩
  | clipTimeout v rest hp => exact ⟨rfl, id, rfl⟩
  | consume ev q hq => exact ⟨rfl, id, rfl⟩
  | requester l s' hi hl hr =>
    refine ⟨by rw [hr.vs], fun h0 => ?_, by cases l <;> first | rfl | exact absurd rfl (hl _)⟩
    rcases hr.flag with h | ⟨rfl, -⟩ | ⟨-, h⟩
    · exact h.trans h0
    · exact absurd rfl h2
    · exact h

theorem visible_filter_append (keep : UEvent Seq → Bool) (a b : List Event) :
    (visible (a ++ b)).filter keep = (visible a).filter keep ++ (visible b).filter keep := by
  simp [visible, List.filterMap_append]

theorem filter_const_true (l : List (UEvent Seq)) : l.filter (fun _ => true) = l := List.filter_eq_self.2 fun _ _ => rfl

/-- What a run posts is what the spec says of its reports, seen through `keep`: given that each report does so by
itself in states satisfying `J` (`hstep`) and that the other labels allowed (`L`) keep `J` and the paste flag and post
nothing (`hother`). -/
theorem emitted_spec_gen (p : Params) (J : VState → Prop) (Ok : SReport → Prop) (L : Label → Prop) (keep : UEvent Seq → Bool)
    (hstep : ∀ r st, r.Wf → Ok r → J st → ∃ st' effs, handle p.b64 st r.seq = .ok (st', effs) ∧ J st' ∧
      st'.pastePending = pasteAfter st.pastePending r ∧
      (visible (posted effs)).filter keep = (specEvents st.pastePending [r.spec]).filter keep)
    (hother : ∀ s s' l, L l → (∀ q, l ≠ .input q) → next p s l = some (.ok s') → J s.vs →
      J s'.vs ∧ s'.vs.pastePending = s.vs.pastePending ∧ emittedBy p s l = [])
    (ls : List Label) (s s' : Sys) (hr : run p s ls = some s') :
    ∀ rs : List SReport, inputSeqs ls = rs.map SReport.seq → (∀ r ∈ rs, r.Wf) → (∀ r ∈ rs, Ok r) → J s.vs → (∀ l ∈ ls, L l) →
    (visible (emitted p s ls)).filter keep = (specEvents s.vs.pastePending (rs.map SReport.spec)).filter keep := by
  apply VaxisModel.Lemmas.InputLoop.run_ind ?_ ?_ hr
  · intro s rs hin _ _ _ _
    cases rs with
    | nil => simp [emitted, visible, specEvents]
    | cons r t => simp [inputSeqs] at hin
  · intro s l s1 ls s' hn _ ih rs hin hw hk hJ hL
    have hL' : ∀ l ∈ ls, L l := fun l hl => hL l (List.mem_cons_of_mem _ hl)
    by_cases hl : ∃ q, l = .input q
    · obtain ⟨q, rfl⟩ := hl
      cases rs with
      | nil => simp [inputSeqs] at hin
      | cons r rt =>
        simp only [inputSeqs, List.map_cons, List.cons.injEq] at hin
        obtain ⟨hq, hin'⟩ := hin
        subst hq
        obtain ⟨st1, effs, hh, hJ1, hp1, hv1⟩ := hstep r s.vs (hw r (by simp)) (hk r (by simp)) hJ
        obtain ⟨hpend, _, _, hh', rfl⟩ := VaxisModel.Lemmas.InputLoop.next_input hn
        cases hh.symm.trans hh'
        have ih := ih rt hin' (fun r' hr' => hw r' (by simp [hr']))
          (fun r' hr' => hk r' (by simp [hr'])) hJ1 hL'
        simp only [emitted, hn, emittedBy, hpend, hh]
        rw [visible_filter_append, ih, hv1]
        show _ = (specEvents s.vs.pastePending ((r :: rt).map SReport.spec)).filter keep
        rw [spec_cons, List.filter_append, hp1]
    · have h1 : ∀ q, l ≠ .input q := fun q hq => hl ⟨q, hq⟩
      obtain ⟨hJ1, hp, he⟩ := hother s s1 l (hL l (by simp)) h1 hn hJ
      have hin' : inputSeqs ls = rs.map SReport.seq := by
        cases l with
        | input q => exact absurd rfl (h1 q)
        | _ => simpa only [inputSeqs] using hin
      have ih := ih rs hin' hw hk hJ1 hL'
      simp only [emitted, hn, he, List.nil_append]
      rw [ih, hp]

theorem emitted_spec (p : Params) (ls : List Label) (rs : List SReport) (s s' : Sys)
    (hin : inputSeqs ls = rs.map SReport.seq) (hw : ∀ r ∈ rs, r.Wf) (hreq : s.vs.reqCursorPos = false)
    (hnc : ∀ l ∈ ls, l ≠ .cursorCall) (hr : run p s ls = some s') :
    visible (emitted p s ls) = specEvents s.vs.pastePending (rs.map SReport.spec) := by
  have := emitted_spec_gen p (fun st => st.reqCursorPos = false) (fun _ => True) (· ≠ .cursorCall) (fun _ => true)
    (fun r st hw _ hJ => by
      obtain ⟨st', effs, h1, h2, h3, h4⟩ := one_report p.b64 r st hw (.inl hJ)
      exact ⟨st', effs, h1, h2.trans hJ, h3, by rw [h4]⟩)
    (fun s s' l h2 h1 hn hJ => by
      obtain ⟨a, b, c⟩ := next_vs_other p s s' l hn h1 h2
      exact ⟨b hJ, a, c⟩) ls s s' hr rs hin hw (fun _ _ => trivial) hreq hnc
  simpa only [filter_const_true] using this

end VaxisModel.Lemmas.InputFlow
