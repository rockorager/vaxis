import VaxisModel.Lemmas.InputFlow

/-! `input_never_lost` without the "no cursor-position query during the run" hypothesis: for report streams whose
keys are not encoded `CSI … R` (`NotCprKey`, declared beside `InputEvents.one_report`), whatever `CursorPosition` calls,
answers and time-outs happen in between. -/
namespace VaxisModel.Lemmas.InputFlowAny
open VaxisModel.Model.Input VaxisModel.Model.InputLoop
open VaxisModel.Lemmas.Input VaxisModel.Lemmas.InputLoop VaxisModel.Lemmas.InputEvents VaxisModel.Lemmas.InputFlow
open VaxisModel.Spec.InputEvents (specEvents)

theorem next_vs_any (p : Params) (s s' : Sys) (l : Label) (hn : next p s l = some (.ok s'))
    (h1 : ∀ q, l ≠ .input q) :
    s'.vs.pastePending = s.vs.pastePending ∧ emittedBy p s l = [] := by
  by_cases h2 : l = .cursorCall
  · subst h2
    simp only [next] at hn
    split at hn
    · simp at hn
    · simp at hn; subst hn; exact ⟨rfl, by simp [emittedBy]⟩
  · obtain ⟨a, _, c⟩ := next_vs_other p s s' l hn h1 h2
    exact ⟨a, c⟩

theorem emitted_spec_any (p : Params) (ls : List Label) (rs : List SReport) (s s' : Sys)
    (hin : inputSeqs ls = rs.map SReport.seq) (hw : ∀ r ∈ rs, r.Wf) (hk : ∀ r ∈ rs, NotCprKey r)
    (hr : run p s ls = some s') :
    visible (emitted p s ls) = specEvents s.vs.pastePending (rs.map SReport.spec) := by
  have := emitted_spec_gen p (fun _ => True) NotCprKey (fun _ => True) (fun _ => true)
    (fun r st hw hn _ => by
      obtain ⟨st', effs, h1, _, h3, h4⟩ := one_report p.b64 r st hw (.inr hn)
      exact ⟨st', effs, h1, trivial, h3, by rw [h4]⟩)
    (fun s s' l _ h1 hn _ => ⟨trivial, next_vs_any p s s' l hn h1⟩) ls s s' hr rs hin hw hk trivial (fun _ _ => trivial)
  simpa only [filter_const_true] using this

end VaxisModel.Lemmas.InputFlowAny
