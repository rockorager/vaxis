import VaxisModel.Lemmas.InputFlowAny

/-! `input_never_lost` for streams that also contain `CSI … R` sequences (cursor-position reports / the keys that share their encoding), under arbitrary requester activity: everything but those ambiguous keys is delivered exactly as the spec says. -/

namespace VaxisModel.Lemmas.InputFlowCpr
open VaxisModel.Model.Input VaxisModel.Model.InputLoop
open VaxisModel.Lemmas.Input VaxisModel.Lemmas.InputLoop VaxisModel.Lemmas.InputEvents VaxisModel.Lemmas.InputFlow VaxisModel.Lemmas.InputFlowAny
open VaxisModel.Spec.InputEvents (specEvents UEvent)

/-- User-input events other than a key encoded `CSI … R` (which is, by design, the cursor-position
report's encoding: reply or key depending on the request flag). -/
def unambiguous : UEvent Seq → Bool
  | .key (.csi _ _ 82) _ => false
  | u => uiU u

theorem spec_key (p : Bool) (s : Seq) : specEvents p [SReport.spec (.key s)] = [.key s (if p then VaxisModel.Spec.InputEvents.etPaste else 0)] := by
  cases p <;> simp [specEvents, SReport.spec]

theorem cpr_step (b64 : List Nat → Option (List Nat)) (st : VState) (params : List (List Int))
    (hw : WfParams params) :
    ∃ st' effs, handle b64 st (.csi [] params 82) = .ok (st', effs) ∧ st'.pastePending = st.pastePending ∧
      (visible (posted effs)).filter unambiguous = [] := by
  cases hreq : st.reqCursorPos
  · have hk : LegitKey (.csi [] params 82) := by simp [LegitKey, ch]
    refine ⟨st, _, key_csi st params 82 (.inl hreq) hk, rfl, ?_⟩
    simp [visible, posted, toU, unambiguous]
  · rcases params with _ | ⟨a, _ | ⟨b, _ | ⟨c, rest⟩⟩⟩
    · exact ⟨{ st with reqCursorPos := false }, [], by simp [handle, handleCSI, ch, hreq], rfl, by simp [visible, posted]⟩
    · exact ⟨{ st with reqCursorPos := false }, [], by simp [handle, handleCSI, ch, hreq], rfl, by simp [visible, posted]⟩
    · have ha : a ≠ [] := hw a (by simp)
      have hb : b ≠ [] := hw b (by simp)
      obtain ⟨a0, at', rfl⟩ := List.exists_cons_of_ne_nil ha
      obtain ⟨b0, bt, rfl⟩ := List.exists_cons_of_ne_nil hb
      exact ⟨{ st with reqCursorPos := false }, [.sendCursorPos a0 b0],
        by simp [handle, handleCSI, ch, hreq, idx2, idx, bind, Except.bind, pure, Except.pure], rfl, by simp [visible, posted]⟩
    · exact ⟨{ st with reqCursorPos := false }, [], by simp [handle, handleCSI, ch, hreq], rfl, by simp [visible, posted]⟩

def isCprKey : SReport → Bool
  | .key (.csi _ _ 82) => true
  | _ => false

theorem notCpr_of (r : SReport) (h : isCprKey r = false) : NotCprKey r := by
  cases r with
  | key s =>
    cases s with
    | csi i p f =>
      simp only [NotCprKey, ch]
      intro hf
      have : f = 82 := hf
      subst this
      simp [isCprKey] at h
    | _ => trivial
  | _ => trivial

theorem one_report_cpr (b64 : List Nat → Option (List Nat)) (r : SReport) (st : VState) (hw : r.Wf) (hs : WfSeq r.seq) :
    ∃ st' effs, handle b64 st r.seq = .ok (st', effs) ∧ st'.pastePending = pasteAfter st.pastePending r ∧
      (visible (posted effs)).filter unambiguous = (specEvents st.pastePending [r.spec]).filter unambiguous := by
  cases hc : isCprKey r
  · obtain ⟨st', effs, h1, _, h3, h4⟩ := one_report b64 r st hw (.inr (notCpr_of r hc))
    exact ⟨st', effs, h1, h3, by rw [h4]⟩
  · cases r with
    | key s =>
      cases s with
      | csi interm params final =>
        have hf : final = 82 := by
          simp only [isCprKey] at hc
          split at hc <;> simp_all
        have hi : interm = [] := hw.1
        subst hf hi
        obtain ⟨st', effs, h1, h2, h3⟩ := cpr_step b64 st params hs
        refine ⟨st', effs, h1, by simpa [pasteAfter] using h2, ?_⟩
        rw [h3, spec_key]; simp [unambiguous]
      | _ => simp [isCprKey] at hc
    | _ => simp [isCprKey] at hc

theorem emitted_spec_cpr (p : Params) (ls : List Label) (rs : List SReport) (s s' : Sys)
    (hin : inputSeqs ls = rs.map SReport.seq) (hw : ∀ r ∈ rs, r.Wf) (hk : ∀ r ∈ rs, WfSeq r.seq)
    (hr : run p s ls = some s') :
    (visible (emitted p s ls)).filter unambiguous = (specEvents s.vs.pastePending (rs.map SReport.spec)).filter unambiguous :=
  emitted_spec_gen p (fun _ => True) (fun r => WfSeq r.seq) (fun _ => True) unambiguous
    (fun r st hw hs _ => by
      obtain ⟨st', effs, h1, h3, h4⟩ := one_report_cpr p.b64 r st hw hs
      exact ⟨st', effs, h1, trivial, h3, h4⟩)
    (fun s s' l _ h1 hn _ => ⟨trivial, next_vs_any p s s' l hn h1⟩) ls s s' hr rs hin hw hk trivial (fun _ _ => trivial)

end VaxisModel.Lemmas.InputFlowCpr
