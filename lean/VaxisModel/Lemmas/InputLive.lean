/-
Liveness of the input goroutine in the LTS of `Model/InputLoop.lean`, as statements about ALL runs:
a measure that every internal move strictly decreases, enabledness of an internal move whenever
effects are pending, and the consumption of a whole stream from any reachable state.
-/
import VaxisModel.Lemmas.InputLoop
import VaxisModel.Lemmas.Input

namespace VaxisModel.Lemmas.InputLive
open VaxisModel.Model.Input VaxisModel.Model.InputLoop VaxisModel.Lemmas.InputLoop VaxisModel.Lemmas.Input

/-- Work the goroutine and the application still have in front of them: two units per pending
effect (a blocking post moves one unit into the queue), one per queued event. -/
def work (s : Sys) : Nat := 2 * s.pend.length + s.queue.length

theorem stepEffect_work (p : Params) (s s' : Sys) (e : Effect) (rest : List Effect) (hp : s.pend = e :: rest)
    (h : stepEffect p s e rest = some s') : work s' < work s := by
  unfold work
  obtain ⟨-, hpe, -, ⟨ev, -, -, hqu, -⟩ | ⟨ev, -, -, hqu, -⟩ | ⟨-, hqu, -⟩⟩ := stepEffect_inv h <;> rw [hp, hpe, hqu] <;> simp <;> omega

theorem internal_decreases (p : Params) (s s' : Sys) (l : Label) (hi : l.internal = true)
    (h : next p s l = some (.ok s')) : work s' < work s := by
  cases step_of_next h with
  | input q vs effs hp hh => cases hi
  | step e rest s' hp hs => exact stepEffect_work p s s' e rest hp hs
  | clipTimeout v rest hp => unfold work; rw [hp]; simp <;> omega
  | consume ev q hq => unfold work; rw [hq]; simp
  | requester l s' hi' hl hr => rw [hi] at hi'; cases hi'

theorem internal_no_panic (p : Params) (s : Sys) (l : Label) (hi : l.internal = true) (e : Panic) :
    next p s l ≠ some (.error e) := by
  cases l <;> simp [Label.internal] at hi
  case step =>
    simp only [next]; split
    · simp
    · simp [Option.map]
      split <;> simp
  case clipTimeout =>
    simp only [next]; split
    · split <;> simp
    · simp
  case consume =>
    simp only [next]; split <;> simp

theorem run_cons_inv {p : Params} {s s' : Sys} {l : Label} {t : List Label} (h : run p s (l :: t) = some s') :
    ∃ s1, next p s l = some (.ok s1) ∧ run p s1 t = some s' := by
  simp only [run] at h
  cases hn : next p s l with
  | none => simp [hn] at h
  | some r =>
    cases r with
    | error e => simp [hn] at h
    | ok s1 => exact ⟨s1, rfl, by simpa only [hn] using h⟩

theorem internal_run_bounded (p : Params) : ∀ (ls : List Label) (s s' : Sys), (∀ l ∈ ls, l.internal = true) →
    run p s ls = some s' → ls.length + work s' ≤ work s
  | [], s, s', _, h => by simp [run] at h; subst h; simp
  | l :: t, s, s', hi, h => by
    obtain ⟨s1, hn, h⟩ := run_cons_inv h
    have h1 := internal_decreases p s s1 l (hi l (List.mem_cons_self ..)) hn
    have h2 := internal_run_bounded p t s1 s' (fun x hx => hi x (List.mem_cons_of_mem _ hx)) h
    simp only [List.length_cons]; omega

theorem requester_keeps_work (p : Params) (s s' : Sys) (l : Label) (hi : l.internal = false)
    (hn : ∀ q, l ≠ .input q) (h : next p s l = some (.ok s')) : work s' = work s := by
  cases step_of_next h with
  | input q vs effs hp hh => exact absurd rfl (hn q)
  | requester l s' hi' hl hr => unfold work; rw [hr.pend, hr.queue]
  | _ => cases hi

theorem schedule_bounded (p : Params) : ∀ (ls : List Label) (s s' : Sys), (∀ l ∈ ls, ∀ q, l ≠ .input q) →
    run p s ls = some s' → (ls.filter (·.internal)).length + work s' ≤ work s
  | [], s, s', _, h => by simp [run] at h; subst h; simp
  | l :: t, s, s', hni, h => by
    obtain ⟨s1, hn, h⟩ := run_cons_inv h
    have h2 := schedule_bounded p t s1 s' (fun x hx => hni x (List.mem_cons_of_mem _ hx)) h
    cases hi : l.internal with
    | true =>
      have h1 := internal_decreases p s s1 l hi hn
      simp only [List.filter_cons, hi, if_true, List.length_cons]; omega
    | false =>
      have h1 := requester_keeps_work p s s1 l hi (hni l (List.mem_cons_self ..)) hn
      simp only [List.filter_cons, hi]; simp; omega

theorem internal_enabled (p : Params) (hq : 0 < p.qcap) (hk : Kinds.safe p.kinds) (s : Sys)
    (hql : s.queue.length ≤ p.qcap) (hp : s.pend ≠ []) :
    ∃ l s', l.internal = true ∧ next p s l = some (.ok s') := by
  obtain ⟨ls, s', hi, hr, hp'⟩ := settle p hq hk s.pend s rfl hql
  cases ls with
  | nil => simp [run] at hr; subst hr; exact absurd hp' hp
  | cons l t =>
    obtain ⟨s1, hn, -⟩ := run_cons_inv hr
    exact ⟨l, s1, hi l (List.mem_cons_self ..), hn⟩

def inputsOf (ls : List Label) : List Seq := ls.filterMap fun l => match l with | .input q => some q | _ => none

theorem inputsOf_internal : ∀ (ls : List Label), (∀ l ∈ ls, l.internal = true) → inputsOf ls = []
  | [], _ => rfl
  | l :: t, h => by
    have hl := h l (List.mem_cons_self ..)
    have ht := inputsOf_internal t (fun x hx => h x (List.mem_cons_of_mem _ hx))
    cases l <;> simp [Label.internal] at hl <;> simpa [inputsOf] using ht

theorem inputsOf_append (a b : List Label) : inputsOf (a ++ b) = inputsOf a ++ inputsOf b := by
  simp [inputsOf, List.filterMap_append]

theorem stream_consumed (p : Params) (hq : 0 < p.qcap) (hk : Kinds.safe p.kinds) :
    ∀ (qs : List Seq) (s : Sys), (∀ q ∈ qs, WfSeq q) → s.queue.length ≤ p.qcap →
      ∃ ls s', run p s ls = some s' ∧ s'.pend = [] ∧ s'.queue.length ≤ p.qcap ∧
        inputsOf ls = qs ∧
        (∀ l ∈ ls, l.internal = true ∨ ∃ q, l = .input q)
  | [], s, _, hql => by
    obtain ⟨ls, s', hi, hr, hp⟩ := settle p hq hk s.pend s rfl hql
    refine ⟨ls, s', hr, hp, ?_, ?_, fun l hl => Or.inl (hi l hl)⟩
    · exact run_queue_le p ls s s' hr hql
    · exact inputsOf_internal ls hi
  | q :: qs, s, hwf, hql => by
    -- settle, take `q`, recurse
    obtain ⟨ls0, s0, hi0, hr0, hp0⟩ := settle p hq hk s.pend s rfl hql
    have hq0 := run_queue_le p ls0 s s0 hr0 hql
    obtain ⟨r, hr⟩ := (ok_iff _).mpr (handle_ok p.b64 s0.vs q (hwf q (List.mem_cons_self ..)))
    obtain ⟨vs1, effs⟩ := r
    have hn : next p s0 (.input q) = some (.ok { s0 with vs := vs1, pend := effs }) := by
      simp [next, hp0, hr]
    obtain ⟨ls1, s1, hr1, hp1, hq1, hf1, hl1⟩ := stream_consumed p hq hk qs { s0 with vs := vs1, pend := effs }
      (fun x hx => hwf x (List.mem_cons_of_mem _ hx)) hq0
    refine ⟨ls0 ++ .input q :: ls1, s1, ?_, hp1, hq1, ?_, ?_⟩
    · rw [run_append p ls0 _ s s0 hr0, run_cons_ok hn, hr1]
    · rw [inputsOf_append, inputsOf_internal ls0 hi0]; simp [inputsOf] at hf1 ⊢; exact hf1
    · intro l hl
      rcases List.mem_append.mp hl with h | h
      · exact Or.inl (hi0 l h)
      · rcases List.mem_cons.mp h with rfl | h
        · exact Or.inr ⟨q, rfl⟩
        · exact hl1 l h
where
  run_queue_le (p : Params) (ls : List Label) (a b : Sys) (h : run p a ls = some b) (hq : a.queue.length ≤ p.qcap) :
      b.queue.length ≤ p.qcap :=
    reach_queue_le p a b hq (reachable_of_run .init h)

theorem drain_queue (p : Params) : ∀ (n : Nat) (s : Sys), s.queue.length = n → s.pend = [] →
    ∃ s', run p s (List.replicate n .consume) = some s' ∧ s'.pend = [] ∧ s'.queue = []
  | 0, s, hq, hp => ⟨s, rfl, hp, List.eq_nil_of_length_eq_zero hq⟩
  | n + 1, s, hq, hp => by
    cases hqe : s.queue with
    | nil => simp [hqe] at hq
    | cons ev q =>
      have hn : next p s .consume = some (.ok { s with queue := q, delivered := s.delivered ++ [ev] }) := by
        simp [next, hqe]
      obtain ⟨s', hr, hp', hq'⟩ := drain_queue p n { s with queue := q, delivered := s.delivered ++ [ev] }
        (by simp [hqe] at hq; simpa using hq) hp
      exact ⟨s', by rw [List.replicate_succ, run_cons_ok hn]; exact hr, hp', hq'⟩

theorem inputsOf_consumes (n : Nat) : inputsOf (List.replicate n Label.consume) = [] :=
  inputsOf_internal _ (fun l hl => by rw [List.eq_of_mem_replicate hl]; rfl)

end VaxisModel.Lemmas.InputLive
