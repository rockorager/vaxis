import VaxisModel.Model.InputLoop
import VaxisModel.Lemmas.Run

/-! The input-loop LTS (`Model/InputLoop.lean`) read as relations — what one performed effect does, what a requester's label
leaves alone, the cases of `next` — its runs as runs of `Lemmas/Run`, and the progress of the goroutine: internal labels
alone bring it back to its `select`. -/
namespace VaxisModel.Lemmas.InputLoop
open VaxisModel.Model.Input VaxisModel.Model.InputLoop

/-- Every `sendCursorPos` in the pending effects will find the requester still waiting: `w` is
whether a requester is waiting now; a completed hand-off releases it. -/
def CursorOK : List Effect → Bool → Prop
  | [], _ => True
  | .sendCursorPos _ _ :: rest, w => w = true ∧ CursorOK rest false
  | _ :: rest, w => CursorOK rest w

def Kinds.safe (k : Kinds) : Prop :=
  k.cursorPos ≠ .blocking ∧ k.sizeDone ≠ .blocking ∧ k.color ≠ .blocking ∧ k.fg ≠ .blocking ∧ k.bg ≠ .blocking ∧
  k.clipboard = .timeout

theorem send1_some (k : SendKind) (hk : k ≠ .blocking) (n : Nat) : ∃ b, send1 k n = some b := by
  unfold send1
  split
  · exact ⟨true, rfl⟩
  · cases k <;> simp at hk ⊢

inductive Queued (p : Params) (s : Sys) (e : Effect) (s' : Sys) : Prop
  | posted (ev : Event) (he : e = .postB ev ∨ e = .postNB ev) (room : s.queue.length < p.qcap)
      (queue : s'.queue = s.queue ++ [ev]) (dropped : s'.dropped = s.dropped)
  | droppedNB (ev : Event) (he : e = .postNB ev) (full : ¬ s.queue.length < p.qcap)
      (queue : s'.queue = s.queue) (dropped : s'.dropped = s.dropped + 1)
  | handOff (he : ∀ ev, e ≠ .postB ev ∧ e ≠ .postNB ev) (queue : s'.queue = s.queue) (dropped : s'.dropped = s.dropped)

theorem Queued.queue_le {p : Params} {s s' : Sys} {e : Effect} (h : Queued p s e s') (hq : s.queue.length ≤ p.qcap) :
    s'.queue.length ≤ p.qcap := by
  cases h with
  | posted ev _ room queue _ => rw [queue]; simp; omega
  | droppedNB ev _ _ queue _ => rw [queue]; exact hq
  | handOff _ queue _ => rw [queue]; exact hq

structure Performed (p : Params) (s : Sys) (e : Effect) (rest : List Effect) (s' : Sys) : Prop where
  delivered : s'.delivered = s.delivered
  pend : s'.pend = rest
  vs : s'.vs = s.vs
  queue : Queued p s e s'

theorem stepEffect_inv {p : Params} {s s' : Sys} {e : Effect} {rest : List Effect} (h : stepEffect p s e rest = some s') :
    Performed p s e rest s' := by
  cases e <;> simp only [stepEffect] at h
  all_goals (repeat' split at h)
  all_goals first
    | (simp at h; done)
    | (simp at h; subst h
       exact ⟨rfl, rfl, rfl, by
         first
           | exact .posted _ (by simp) ‹_› rfl rfl
           | exact .droppedNB _ rfl ‹_› rfl rfl
           | exact .handOff (fun ev => ⟨by simp, by simp⟩) rfl rfl⟩)

theorem perform (p : Params) (hk : Kinds.safe p.kinds) (s : Sys) (e : Effect) (rest : List Effect) (hp : s.pend = e :: rest)
    (hroom : s.queue.length < p.qcap ∨ ∀ ev, e ≠ .postB ev) :
    ∃ l s', (l = .step ∨ l = .clipTimeout) ∧ next p s l = some (.ok s') ∧ Performed p s e rest s' := by
  obtain ⟨hcp, hsd, hco, hfg, hbg, hcl⟩ := hk
  -- it is enough that the step is defined
  have via : (stepEffect p s e rest).isSome = true →
      ∃ l s', (l = .step ∨ l = .clipTimeout) ∧ next p s l = some (.ok s') ∧ Performed p s e rest s' := fun h => by
    obtain ⟨s', hs⟩ := Option.isSome_iff_exists.mp h
    exact ⟨.step, s', Or.inl rfl, by simp [next, hp, hs], stepEffect_inv hs⟩
  cases e with
  | postB ev =>
    have hlt := hroom.resolve_right (fun h => h ev rfl)
    exact via (by simp [stepEffect, hlt])
  | postNB ev => by_cases hlt : s.queue.length < p.qcap <;> exact via (by simp [stepEffect, hlt])
  | sendCursorPos r c =>
    by_cases hcap : p.cursorCap = 0
    · by_cases hw : s.cursorWaiting = true
      · exact via (by simp [stepEffect, hw, hcap])
      · exact via (by cases hk' : p.kinds.cursorPos <;> simp [stepEffect, hw, hcap, hk'] <;> exact absurd hk' hcp)
    · obtain ⟨b, hb⟩ := send1_some p.kinds.cursorPos hcp s.cursorCh.length
      cases b <;> exact via (by simp [stepEffect, hb, hcap])
  | sendSizeDone =>
    obtain ⟨b, hb⟩ := send1_some p.kinds.sizeDone hsd s.sizeDone
    cases b <;> exact via (by simp [stepEffect, hb])
  | sendColor v =>
    obtain ⟨b, hb⟩ := send1_some p.kinds.color hco s.color.length
    cases b <;> exact via (by simp [stepEffect, hb])
  | sendFg v =>
    obtain ⟨b, hb⟩ := send1_some p.kinds.fg hfg s.fg.length
    cases b <;> exact via (by simp [stepEffect, hb])
  | sendBg v =>
    obtain ⟨b, hb⟩ := send1_some p.kinds.bg hbg s.bg.length
    cases b <;> exact via (by simp [stepEffect, hb])
  | sendClipboard v =>
    by_cases hw : s.clipWaiting = true
    · exact via (by simp [stepEffect, hw])
    · exact ⟨.clipTimeout, { s with pend := rest }, Or.inr rfl, by simp [next, hp, hcl],
        rfl, rfl, rfl, .handOff (fun ev => ⟨by simp, by simp⟩) rfl rfl⟩

structure Requester (s : Sys) (l : Label) (s' : Sys) : Prop where
  pend : s'.pend = s.pend
  queue : s'.queue = s.queue
  delivered : s'.delivered = s.delivered
  dropped : s'.dropped = s.dropped
  vs : s'.vs = { s.vs with reqCursorPos := s'.vs.reqCursorPos }
  flag : s'.vs.reqCursorPos = s.vs.reqCursorPos ∨ (l = .cursorCall ∧ s'.vs.reqCursorPos = true) ∨
    (l = .cursorTimeout ∧ s'.vs.reqCursorPos = false)

inductive Step (p : Params) (s : Sys) : Label → Sys → Prop
  | input (q : Seq) (vs : VState) (effs : List Effect) (hp : s.pend = []) (hh : handle p.b64 s.vs q = .ok (vs, effs)) :
      Step p s (.input q) { s with vs := vs, pend := effs }
  | step (e : Effect) (rest : List Effect) (s' : Sys) (hp : s.pend = e :: rest) (hs : stepEffect p s e rest = some s') :
      Step p s .step s'
  | clipTimeout (v : List Nat) (rest : List Effect) (hp : s.pend = .sendClipboard v :: rest) :
      Step p s .clipTimeout { s with pend := rest }
  | consume (ev : Event) (q : List Event) (hq : s.queue = ev :: q) :
      Step p s .consume { s with queue := q, delivered := s.delivered ++ [ev] }
  | requester (l : Label) (s' : Sys) (hi : l.internal = false) (hl : ∀ q, l ≠ .input q) (hr : Requester s l s') : Step p s l s'

theorem step_of_next {p : Params} {s s' : Sys} {l : Label} (h : next p s l = some (.ok s')) : Step p s l s' := by
  cases l <;> simp only [next] at h
  case input q =>
    split at h
    · rename_i hp
      split at h
      · rename_i vs effs hh; simp at h; subst h; exact .input q vs effs hp hh
      · simp at h
    · simp at h
  case step =>
    split at h
    · simp at h
    · rename_i e rest hp
      obtain ⟨a, ha, hb⟩ := Option.map_eq_some_iff.mp h
      cases hb; exact .step e rest _ hp ha
  case clipTimeout =>
    split at h
    · rename_i v rest hp
      split at h
      · simp at h; subst h; exact .clipTimeout v rest hp
      · simp at h
    · simp at h
  case consume =>
    split at h
    · simp at h
    · rename_i ev q hq; simp at h; subst h; exact .consume ev q hq
  all_goals (repeat' split at h)
  all_goals first
    | (simp at h; done)
    | (simp only [Option.some.injEq, Except.ok.injEq] at h; subst h
       exact .requester _ _ rfl (fun q hq => by cases hq) ⟨rfl, rfl, rfl, rfl, rfl, by simp⟩)

theorem next_input {p : Params} {s s' : Sys} {q : Seq} (h : next p s (.input q) = some (.ok s')) :
    s.pend = [] ∧ ∃ vs effs, handle p.b64 s.vs q = .ok (vs, effs) ∧ s' = { s with vs := vs, pend := effs } := by
  cases step_of_next h with
  | input _ vs effs hp hh => exact ⟨hp, vs, effs, hh, rfl⟩
  | requester _ _ _ hl _ => exact absurd rfl (hl q)

theorem next_step {p : Params} {s s' : Sys} (h : next p s .step = some (.ok s')) :
    ∃ e rest, s.pend = e :: rest ∧ stepEffect p s e rest = some s' := by
  cases step_of_next h with
  | step e rest _ hp hs => exact ⟨e, rest, hp, hs⟩
  | requester _ _ hi _ _ => cases hi

theorem next_clipTimeout {p : Params} {s s' : Sys} (h : next p s .clipTimeout = some (.ok s')) :
    ∃ v rest, s.pend = .sendClipboard v :: rest ∧ s' = { s with pend := rest } := by
  cases step_of_next h with
  | clipTimeout v rest hp => exact ⟨v, rest, hp, rfl⟩
  | requester _ _ hi _ _ => cases hi

theorem run_cons_ok {p : Params} {s s' : Sys} {l : Label} {ls : List Label}
    (h : next p s l = some (.ok s')) : run p s (l :: ls) = run p s' ls := by
  simp [run, h]

/-- `next` as the step function of `Lemmas/Run`: a panic ends a run like a label that is not enabled. -/
def okNext {σ ℓ ε : Type} (next : σ → ℓ → Option (Except ε σ)) (s : σ) (l : ℓ) : Option σ :=
  match next s l with
  | some (.ok s') => some s'
  | _ => none

theorem okNext_eq_some {σ ℓ ε : Type} {next : σ → ℓ → Option (Except ε σ)} {s s' : σ} {l : ℓ} :
    okNext next s l = some s' ↔ next s l = some (.ok s') := by
  unfold okNext; split <;> simp_all

theorem run_isRun (p : Params) : Run.IsRun (okNext (next p)) (run p) :=
  ⟨fun _ => rfl, fun s l ls => by
    simp only [run, okNext]
    cases next p s l with
    | none => rfl
    | some r => cases r <;> rfl⟩

theorem run_ind {p : Params} {C : Sys → List Label → Sys → Prop} (nil : ∀ s, C s [] s)
    (cons : ∀ {s l s1 ls s'}, next p s l = some (.ok s1) → run p s1 ls = some s' → C s1 ls s' → C s (l :: ls) s')
    {ls : List Label} {s s' : Sys} (h : run p s ls = some s') : C s ls s' :=
  (run_isRun p).induction nil (fun hn => cons (okNext_eq_some.1 hn)) ls s s' h

theorem reachable_of_run {p : Params} {ls : List Label} {s0 s s' : Sys} (hr : Reachable p s0 s) (h : run p s ls = some s') :
    Reachable p s0 s' :=
  (run_isRun p).invariant (ok := fun _ => True) (P := Reachable p s0)
    (fun _ _ l _ hr hn => .step l hr (okNext_eq_some.1 hn)) ls s s' (fun _ _ => trivial) hr h

theorem run_append (p : Params) (ls1 ls2 : List Label) (a b : Sys) (h : run p a ls1 = some b) :
    run p a (ls1 ++ ls2) = run p b ls2 := by
  rw [(run_isRun p).append, h]; rfl

theorem settle (p : Params) (hq : 0 < p.qcap) (hk : Kinds.safe p.kinds) :
    ∀ (pend : List Effect) (s : Sys), s.pend = pend → s.queue.length ≤ p.qcap →
      ∃ ls s', (∀ l ∈ ls, l.internal = true) ∧ run p s ls = some s' ∧ s'.pend = [] := by
  intro pend
  induction pend with
  | nil => intro s hp _; exact ⟨[], s, by simp, rfl, hp⟩
  | cons e rest ih =>
    intro s hp hql
    -- it suffices to make one internal move (or two) to a state with `pend = rest`
    suffices h : ∃ ls1 s1, (∀ l ∈ ls1, l.internal = true) ∧ run p s ls1 = some s1 ∧ s1.pend = rest ∧
        s1.queue.length ≤ p.qcap by
      obtain ⟨ls1, s1, hi1, hr1, hp1, hq1⟩ := h
      obtain ⟨ls2, s2, hi2, hr2, hp2⟩ := ih s1 hp1 hq1
      refine ⟨ls1 ++ ls2, s2, ?_, ?_, hp2⟩
      · intro l hl
        rcases List.mem_append.mp hl with h | h
        · exact hi1 l h
        · exact hi2 l h
      · rw [run_append p ls1 ls2 s s1 hr1, hr2]
    -- one move performs `e` when the queue has room or `e` is not a blocking post …
    have one : ∀ t : Sys, t.pend = e :: rest → t.queue.length ≤ p.qcap → (t.queue.length < p.qcap ∨ ∀ ev, e ≠ .postB ev) →
        ∃ ls1 s1, (∀ l ∈ ls1, l.internal = true) ∧ run p t ls1 = some s1 ∧ s1.pend = rest ∧ s1.queue.length ≤ p.qcap := by
      intro t ht htq hroom
      obtain ⟨l, s1, hl, hn, hP⟩ := perform p hk t e rest ht hroom
      refine ⟨[l], s1, ?_, by simp [run, hn], hP.pend, hP.queue.queue_le htq⟩
      intro l' hl'; cases List.mem_singleton.mp hl'; rcases hl with rfl | rfl <;> rfl
    by_cases hroom : s.queue.length < p.qcap ∨ ∀ ev, e ≠ .postB ev
    · exact one s hp hql hroom
    · -- … otherwise the application consumes one event first
      have hlt : ¬ s.queue.length < p.qcap := fun h => hroom (Or.inl h)
      have hne : s.queue ≠ [] := by
        intro h; rw [h] at hlt; simp at hlt; omega
      obtain ⟨q0, qt, hqe⟩ := List.exists_cons_of_ne_nil hne
      have hl : qt.length < p.qcap := by rw [hqe] at hql; simp at hql; omega
      obtain ⟨ls1, s1, hi1, hr1, hp1, hq1⟩ :=
        one { s with queue := qt, delivered := s.delivered ++ [q0] } hp (Nat.le_of_lt hl) (Or.inl hl)
      refine ⟨.consume :: ls1, s1, ?_, ?_, hp1, hq1⟩
      · intro l hl'; rcases List.mem_cons.mp hl' with rfl | h
        · rfl
        · exact hi1 l h
      · simpa [run, next, hqe] using hr1

theorem stepEffect_queue_le (p : Params) (s s' : Sys) (e : Effect) (rest : List Effect)
    (h : stepEffect p s e rest = some s') (hq : s.queue.length ≤ p.qcap) : s'.queue.length ≤ p.qcap :=
  (stepEffect_inv h).queue.queue_le hq

theorem next_queue_le (p : Params) (s s' : Sys) (l : Label)
    (h : next p s l = some (.ok s')) (hq : s.queue.length ≤ p.qcap) : s'.queue.length ≤ p.qcap := by
  cases step_of_next h with
  | input q vs effs hp hh => exact hq
  | step e rest s' hp hs => exact stepEffect_queue_le p s s' e rest hs hq
  | clipTimeout v rest hp => exact hq
  | consume ev q hqe => rw [hqe] at hq; simp at hq ⊢; omega
  | requester l s' hi hl hr => rw [hr.queue]; exact hq

theorem reach_queue_le (p : Params) (s0 s : Sys) (h0 : s0.queue.length ≤ p.qcap) (hr : Reachable p s0 s) :
    s.queue.length ≤ p.qcap := by
  induction hr with
  | init => exact h0
  | step l _ hn ih => exact next_queue_le p _ _ l hn ih

theorem stepEffect_vs (p : Params) (s s' : Sys) (e : Effect) (rest : List Effect)
    (h : stepEffect p s e rest = some s') : s'.vs = s.vs := (stepEffect_inv h).vs

theorem stepEffect_cursorCh {p : Params} {s s' : Sys} {e : Effect} {rest : List Effect} (h : stepEffect p s e rest = some s') :
    (∃ r c, e = .sendCursorPos r c ∧ s'.cursorCh = s.cursorCh ++ [(r, c)]) ∨
    (s'.cursorCh = s.cursorCh ∧ ((∃ r c, e = .sendCursorPos r c) → p.cursorCap = 0 ∨ s.cursorCh ≠ [])) := by
  cases e <;> simp only [stepEffect] at h
  case sendCursorPos r c =>
    by_cases hcap : p.cursorCap = 0
    · refine Or.inr ⟨?_, fun _ => Or.inl hcap⟩
      simp only [hcap, if_true] at h
      repeat' split at h
      all_goals first | (cases h; done) | (cases h; rfl)
    · simp only [hcap, if_false] at h
      split at h
      · cases h; exact Or.inl ⟨r, c, rfl, rfl⟩
      · rename_i hsend
        cases h
        refine Or.inr ⟨rfl, fun _ => Or.inr fun hc => ?_⟩
        simp [send1, hc] at hsend
      · cases h
  all_goals
    refine Or.inr ⟨?_, fun ⟨_, _, he⟩ => by cases he⟩
    repeat' split at h
    all_goals first | (cases h; done) | (cases h; rfl)

end VaxisModel.Lemmas.InputLoop
