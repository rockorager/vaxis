import VaxisModel.Model.InputQuery
import VaxisModel.Lemmas.Input
import VaxisModel.Lemmas.ListBasic

/-! Lemmas about the two models of the colour requesters' reply parse (`Model/InputQuery.lean`): `parseColorReply` and the
`Sscanf` the code used before. -/
namespace VaxisModel.Lemmas.InputQuery
open VaxisModel.Model.InputQuery VaxisModel.Model.Color

theorem hexVal_some {d v : Nat} (h : hexVal d = some v) :
    v < 16 ∧ ((48 ≤ d ∧ d ≤ 57) ∨ (97 ≤ d ∧ d ≤ 102) ∨ (65 ≤ d ∧ d ≤ 70)) := by
  unfold hexVal at h
  split at h
  · rename_i c; simp at c h; omega
  · split at h
    · rename_i c; simp at c h; omega
    · split at h
      · rename_i c; simp at c h; omega
      · simp at h

theorem hexVal_range (d : Nat) (h : (hexVal d).isSome = true) :
    (48 ≤ d ∧ d ≤ 57) ∨ (97 ≤ d ∧ d ≤ 102) ∨ (65 ≤ d ∧ d ≤ 70) :=
  let ⟨_, hv⟩ := Option.isSome_iff_exists.mp h; (hexVal_some hv).2

theorem hexVal_lt (d v : Nat) (h : hexVal d = some v) : v < 16 := (hexVal_some h).1

theorem hexDigit_plain (d : Nat) (h : (hexVal d).isSome = true) :
    (d == 10) = false ∧ isSpace d = false ∧ (d == 45) = false ∧ (d == 43) = false ∧ isNumRune d = true := by
  have hr := hexVal_range d h
  refine ⟨by simp; omega, ?_, by simp; omega, by simp; omega, by simp [isNumRune, h]⟩
  unfold isSpace
  simp only [Bool.or_eq_false_iff, Bool.and_eq_false_iff, decide_eq_false_iff_not, beq_eq_false_iff_ne]
  omega

theorem hexNum_some (ds : List Nat) : ∀ acc, (∀ d ∈ ds, (hexVal d).isSome = true) →
    ∃ v, hexNum ds acc = some v ∧ v < (acc + 1) * 16 ^ ds.length := by
  induction ds with
  | nil => intro acc _; exact ⟨acc, rfl, by simp⟩
  | cons d ds ih =>
    intro acc h
    have hd := h d (by simp)
    cases hv : hexVal d with
    | none => simp [hv] at hd
    | some v =>
      have hlt := hexVal_lt d v hv
      obtain ⟨w, hw, hb⟩ := ih (acc * 16 + v) (fun x hx => h x (by simp [hx]))
      refine ⟨w, by simp [hexNum, hv, hw], ?_⟩
      have : (acc * 16 + v + 1) * 16 ^ ds.length ≤ (acc + 1) * 16 ^ (ds.length + 1) := by
        rw [Nat.pow_succ, ← Nat.mul_assoc, Nat.mul_right_comm]
        apply Nat.mul_le_mul_right
        omega
      simpa using Nat.lt_of_lt_of_le hb this

theorem scanHex_digits (ds rest : List Nat) (hne : ds ≠ []) (hall : ∀ d ∈ ds, (hexVal d).isSome = true)
    (hlen : ds.length ≤ 15) (hrest : ∀ c, rest.head? = some c → isNumRune c = false) :
    ∃ v, hexNum ds 0 = some v ∧ v < 16 ^ ds.length ∧ scanHex (ds ++ rest) = some ((v : Int), rest) := by
  obtain ⟨v, hv, hb⟩ := hexNum_some ds 0 hall
  simp only [Nat.zero_add, Nat.one_mul] at hb
  refine ⟨v, hv, hb, ?_⟩
  cases ds with
  | nil => exact absurd rfl hne
  | cons d ds' =>
    obtain ⟨h10, hsp, h45, h43, _⟩ := hexDigit_plain d (hall d (by simp))
    have hnum : ∀ x ∈ d :: ds', isNumRune x = true := fun x hx => (hexDigit_plain x (hall x hx)).2.2.2.2
    obtain ⟨t1, t2⟩ := VaxisModel.Lemmas.ListBasic.takeWhile_dropWhile_append isNumRune (d :: ds') rest hnum hrest
    have hv63 : v < 2 ^ 63 := by
      have : 16 ^ (d :: ds').length ≤ 16 ^ 15 := Nat.pow_le_pow_right (by decide) hlen
      have h2 : (16 : Nat) ^ 15 < 2 ^ 63 := by decide
      omega
    unfold scanHex
    simp only [List.cons_append, skipSpace, h10, hsp, h45, h43, Bool.false_eq_true, if_false]
    have t1' : List.takeWhile isNumRune (d :: (ds' ++ rest)) = d :: ds' := by simpa using t1
    have t2' : List.dropWhile isNumRune (d :: (ds' ++ rest)) = rest := by simpa using t2
    simp [t1', t2', hv, hv63]

theorem matchLit_app (lit inp : List Nat) : matchLit lit (lit ++ inp) = some inp := by
  induction lit with
  | nil => rfl
  | cons f fs ih => simp [matchLit, ih]

theorem slash_not_num : isNumRune 47 = false := by decide

open VaxisModel.Model.Input in
theorem splitOn_nosep (sep : Nat) (l : List Nat) (h : ∀ x ∈ l, x ≠ sep) : splitOn sep l = [l] := by
  rw [Input.splitOn_eq_split]; exact (ListSplit.split_field sep l h).1

open VaxisModel.Model.Input in
theorem splitOn_sep_app (sep : Nat) (l rest : List Nat) (h : ∀ x ∈ l, x ≠ sep) :
    splitOn sep (l ++ sep :: rest) = l :: splitOn sep rest := by
  simp only [Input.splitOn_eq_split]; exact (ListSplit.split_field sep l h).2 rest

theorem hexNum_all_hex (ds : List Nat) : ∀ acc v, hexNum ds acc = some v → ∀ d ∈ ds, (hexVal d).isSome = true := by
  induction ds with
  | nil => intro _ _ _ d hd; cases hd
  | cons a t ih =>
    intro acc v h d hd
    unfold hexNum at h
    cases ha : hexVal a with
    | none => simp [ha] at h
    | some x =>
      simp only [ha] at h
      rcases List.mem_cons.mp hd with rfl | hd
      · simp [ha]
      · exact ih _ _ h d hd

theorem hex_ne_slash (d : Nat) (h : (hexVal d).isSome = true) : d ≠ 47 ∧ d ≠ 95 := by
  have := hexVal_range d h; omega

theorem parseChannel_some {ds : List Nat} {v : Nat} (h : parseChannel ds = some v) :
    (1 ≤ ds.length ∧ ds.length ≤ 4) ∧ ∃ x, hexNum ds 0 = some x ∧ v = x * 65535 / (16 ^ ds.length - 1) / 256 := by
  unfold parseChannel at h
  split at h
  · cases h
  · rename_i hlen
    simp only [Bool.or_eq_true, decide_eq_true_eq, not_or, Nat.not_lt] at hlen
    obtain ⟨x, hx, rfl⟩ := Option.map_eq_some_iff.mp h
    exact ⟨⟨by omega, by omega⟩, x, hx, rfl⟩

/-- The channel parser of the code is XParseColor's reading. -/
theorem parseChannel_eq_xparse (ds : List Nat) : parseChannel ds = xparseChannel ds := by
  unfold parseChannel xparseChannel
  cases ds with
  | nil => simp
  | cons a t =>
    by_cases h4 : 4 < t.length + 1
    · simp [h4]
    · by_cases hm : 95 = a ∨ 95 ∈ t
      · have hnone : hexNum (a :: t) 0 = none := by
          cases hn : hexNum (a :: t) 0 with
          | none => rfl
          | some v =>
            have := hexNum_all_hex (a :: t) 0 v hn 95 (by simpa [eq_comm] using hm)
            simp [hexVal] at this
        simp [h4, hm, hnone]
      · simp [h4, hm]

end VaxisModel.Lemmas.InputQuery
