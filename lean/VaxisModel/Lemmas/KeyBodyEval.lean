/-
What the runs of the four key.go bodies (`Lemmas/KeyBodyEvalString`, `…Decode`, `…Match`, `…Matches`) share: the projections
of the key.go context `Model.KeyBody.ctx` (so that it stays folded in a run), the values of the constants the bodies name in
`keyConstEnv` (look-ups in the regenerated tables, the `Key*` ones decided once), and the `go_exec` list for this context.
The interpreter's own lemmas are in `Lemmas/GoInterp.lean`.
-/
import VaxisModel.Model.KeyBody
import VaxisModel.Lemmas.GoInterp
import VaxisModel.Lemmas.GoExecAttr

namespace VaxisModel.Lemmas.KeyBodyEval
open VaxisModel.Model.GoBody VaxisModel.Model.GoInterp VaxisModel.Model.Key VaxisModel.Model.KeyBody
open VaxisModel.Gen.Keys VaxisModel.Lemmas.GoInterp

theorem ctx_u (u : Uni) (f : String → List V → Option (V × Str)) : (ctx u f).u = u := rfl
theorem ctx_consts (u : Uni) (f : String → List V → Option (V × Str)) : (ctx u f).consts = keyConstEnv := rfl
theorem ctx_maps (u : Uni) (f : String → List V → Option (V × Str)) :
    (ctx u f).maps = [("specialsKeys", .ints (specialsKeys.map fun e => ([e.1.1, e.1.2], e.2)))] := rfl
theorem ctx_slices (u : Uni) (f : String → List V → Option (V × Str)) :
    (ctx u f).slices = [("keyNames", keyNames.map fun e => V.struct [("key", .int e.1), ("name", .str e.2)])] := rfl
theorem ctx_structs (u : Uni) (f : String → List V → Option (V × Str)) :
    (ctx u f).structs = [("Key", keyStruct), ("specialKey", [("keycode", .int 0), ("final", .int 0)])] := rfl
theorem ctx_funcs (u : Uni) (f : String → List V → Option (V × Str)) : (ctx u f).funcs = f := rfl
theorem ctx_noops (u : Uni) (f : String → List V → Option (V × Str)) : (ctx u f).noops = [] := rfl

theorem lookup_modConst {n : String} {m : Nat} (h : modConsts.lookup n = some m) :
    List.lookup n keyConstEnv = some (.int (m : Nat)) := by
  unfold keyConstEnv
  rw [List.append_assoc, List.lookup_append, lookup_map_snd (fun m : Nat => V.int m), h]; rfl

theorem const_ModShift : List.lookup "ModShift" keyConstEnv = some (.int (ModShift : Nat)) := lookup_modConst rfl
theorem const_ModAlt : List.lookup "ModAlt" keyConstEnv = some (.int (ModAlt : Nat)) := lookup_modConst rfl
theorem const_ModCtrl : List.lookup "ModCtrl" keyConstEnv = some (.int (ModCtrl : Nat)) := lookup_modConst rfl
theorem const_ModSuper : List.lookup "ModSuper" keyConstEnv = some (.int (ModSuper : Nat)) := lookup_modConst rfl
theorem const_ModHyper : List.lookup "ModHyper" keyConstEnv = some (.int (ModHyper : Nat)) := lookup_modConst rfl
theorem const_ModMeta : List.lookup "ModMeta" keyConstEnv = some (.int (ModMeta : Nat)) := lookup_modConst rfl
theorem const_ModCapsLock : List.lookup "ModCapsLock" keyConstEnv = some (.int (ModCapsLock : Nat)) := lookup_modConst rfl
theorem const_ModNumLock : List.lookup "ModNumLock" keyConstEnv = some (.int (ModNumLock : Nat)) := lookup_modConst rfl
theorem const_EventRelease : List.lookup "EventRelease" keyConstEnv = some (.int EventRelease) := rfl
theorem const_MaxRune : List.lookup "unicode.MaxRune" keyConstEnv = some (.int maxRune) := rfl

theorem lookup_keyConst {n : String} {v : Int} (hk : keyConsts.lookup n = some v) (hm : modConsts.lookup n = none)
    (he : List.lookup n [("EventPress", V.int EventPress), ("EventRepeat", .int EventRepeat), ("EventRelease", .int EventRelease),
      ("EventMotion", .int EventMotion), ("EventPaste", .int EventPaste), ("unicode.MaxRune", .int maxRune)] = none) :
    List.lookup n keyConstEnv = some (.int v) := by
  unfold keyConstEnv
  rw [List.lookup_append, List.lookup_append, lookup_map_snd (fun m : Nat => V.int m), hm, he, lookup_map_snd, hk]; rfl

def bodyKeyConsts : List (String × Int) :=
  [("KeyTab", KeyTab), ("KeySpace", KeySpace), ("KeyEsc", KeyEsc), ("KeyBackspace", KeyBackspace), ("KeyEnter", KeyEnter),
   ("KeyUp", KeyUp), ("KeyDown", KeyDown), ("KeyRight", KeyRight), ("KeyLeft", KeyLeft), ("KeyKeyPadBegin", KeyKeyPadBegin),
   ("KeyEnd", KeyEnd), ("KeyHome", KeyHome), ("KeyF01", KeyF01), ("KeyF02", KeyF02), ("KeyF03", KeyF03), ("KeyF04", KeyF04)]

/-- One evaluation of the regenerated tables: each of them is where `keyConsts` says, and is neither a modifier nor an
    event name (the two parts of `keyConstEnv` in front of the `Key*` constants). -/
theorem bodyKeyConsts_found :
    (bodyKeyConsts.all fun p => keyConsts.lookup p.1 == some p.2 && (modConsts.lookup p.1).isNone &&
      (List.lookup p.1 [("EventPress", V.int EventPress), ("EventRepeat", .int EventRepeat), ("EventRelease", .int EventRelease),
        ("EventMotion", .int EventMotion), ("EventPaste", .int EventPaste), ("unicode.MaxRune", .int maxRune)]).isNone) = true := by
  decide +kernel

theorem const_of_idx {n : String} {v : Int} (i : Nat) (h : bodyKeyConsts[i]? = some (n, v)) :
    List.lookup n keyConstEnv = some (.int v) := by
  have := List.all_eq_true.mp bodyKeyConsts_found _ (List.mem_of_getElem? h)
  simp only [Bool.and_eq_true, beq_iff_eq, Option.isNone_iff_eq_none] at this
  exact lookup_keyConst this.1.1 this.1.2 this.2

theorem const_KeyTab : List.lookup "KeyTab" keyConstEnv = some (.int KeyTab) := const_of_idx 0 rfl
theorem const_KeySpace : List.lookup "KeySpace" keyConstEnv = some (.int KeySpace) := const_of_idx 1 rfl
theorem const_KeyEsc : List.lookup "KeyEsc" keyConstEnv = some (.int KeyEsc) := const_of_idx 2 rfl
theorem const_KeyBackspace : List.lookup "KeyBackspace" keyConstEnv = some (.int KeyBackspace) := const_of_idx 3 rfl
theorem const_KeyEnter : List.lookup "KeyEnter" keyConstEnv = some (.int KeyEnter) := const_of_idx 4 rfl
theorem const_KeyUp : List.lookup "KeyUp" keyConstEnv = some (.int KeyUp) := const_of_idx 5 rfl
theorem const_KeyDown : List.lookup "KeyDown" keyConstEnv = some (.int KeyDown) := const_of_idx 6 rfl
theorem const_KeyRight : List.lookup "KeyRight" keyConstEnv = some (.int KeyRight) := const_of_idx 7 rfl
theorem const_KeyLeft : List.lookup "KeyLeft" keyConstEnv = some (.int KeyLeft) := const_of_idx 8 rfl
theorem const_KeyKeyPadBegin : List.lookup "KeyKeyPadBegin" keyConstEnv = some (.int KeyKeyPadBegin) := const_of_idx 9 rfl
theorem const_KeyEnd : List.lookup "KeyEnd" keyConstEnv = some (.int KeyEnd) := const_of_idx 10 rfl
theorem const_KeyHome : List.lookup "KeyHome" keyConstEnv = some (.int KeyHome) := const_of_idx 11 rfl
theorem const_KeyF01 : List.lookup "KeyF01" keyConstEnv = some (.int KeyF01) := const_of_idx 12 rfl
theorem const_KeyF02 : List.lookup "KeyF02" keyConstEnv = some (.int KeyF02) := const_of_idx 13 rfl
theorem const_KeyF03 : List.lookup "KeyF03" keyConstEnv = some (.int KeyF03) := const_of_idx 14 rfl
theorem const_KeyF04 : List.lookup "KeyF04" keyConstEnv = some (.int KeyF04) := const_of_idx 15 rfl

theorem evalE_var_env (c : Ctx) (env : Env) (x : String) (v : V) (h : env.lookup x = some v) :
    evalE c env (.var x) = v := by
  simp only [evalE, h]

theorem evalE_var_const (c : Ctx) (env : Env) (x : String) (v : V) (h : env.lookup x = none)
    (hc : c.consts.lookup x = some v) : evalE c env (.var x) = v := by
  simp only [evalE, h, hc]

theorem loop_nil (F : St → V → Nat → R) (i : Nat) (st : St) : loop F [] i st = .norm st := rfl

attribute [go_exec] Ss.ofList Es.ofList Cs.ofList evalE evalEs lhsNames
  andThen_norm andThen_ret andThen_brk andThen_cont andThen_err
  afterSwitch_norm afterSwitch_ret afterSwitch_brk afterSwitch_cont afterSwitch_err branch_bool isTrue_bool
  binop_land binop_lor binop_eq_int binop_eq_str binop_eq_bool binop_ne_int binop_ne_str binop_lt binop_le binop_gt binop_ge
  binop_add binop_sub binop_band binop_bor binop_andNot unop_not
  callFn_string callFn_rune callFn_int callFn_isUpper callFn_isLower callFn_isLetter callFn_isGraphic callFn_isPrint
  callFn_toUpper callFn_toLower ctx_u ctx_consts ctx_maps ctx_slices ctx_structs ctx_funcs ctx_noops noFuncs

end VaxisModel.Lemmas.KeyBodyEval
