/-
`Key.MatchString`: the interpreted extracted body (`matchStringGen`) equals the hand model
(`matchString`), given that the interpreted `Key.Matches` it calls equals `matches`
(`Props/C09Body.matches_body_eq_model`).  Slices / indices of the symbolic `strings.Split` result,
the modifier loop (= `parseMods`) and the `keyNames` loop (= `findName`) by induction.
-/
import VaxisModel.Lemmas.KeyBodyEval
import VaxisModel.Lemmas.KeySelf
namespace VaxisModel.Lemmas.KeyBodyEval
open VaxisModel.Model.GoBody VaxisModel.Model.GoInterp VaxisModel.Model.Key VaxisModel.Model.KeyBody
open VaxisModel.Gen.Keys VaxisModel.Lemmas.GoInterp

def mS1 : S := (.ifS .nil (.bin .eq (.var "tgt") (.str [])) (Ss.ofList [(.ret (Es.ofList [.ff]))]) .nil)
def mS2 : S :=
    (.ifS (Ss.ofList [(.assign .define (Es.ofList [(.var "r"), (.var "n")]) (Es.ofList [(.call "utf8.DecodeRuneInString" (Es.ofList [(.var "tgt")]))]))]) (.bin .eq (.var "n") (.call "len" (Es.ofList [(.var "tgt")]))) (Ss.ofList [
      (.ret (Es.ofList [(.call "k.Matches" (Es.ofList [(.var "r")]))]))]) .nil)
def mS3 : S := (.assign .define (Es.ofList [(.var "vals")]) (Es.ofList [(.call "strings.Split" (Es.ofList [(.var "tgt"), (.str [43])]))]))
def mS4 : S := (.assign .define (Es.ofList [(.var "mods")]) (Es.ofList [(.slc (.var "vals") (.int 0) (.bin .sub (.call "len" (Es.ofList [(.var "vals")])) (.int 1)))]))
def mS5 : S := (.assign .define (Es.ofList [(.var "key")]) (Es.ofList [(.idx (.var "vals") (.bin .sub (.call "len" (Es.ofList [(.var "vals")])) (.int 1)))]))
def mS6 : S :=
    (.ifS .nil (.bin .land (.bin .land (.bin .eq (.var "key") (.str [])) (.bin .gt (.call "len" (Es.ofList [(.var "vals")])) (.int 2))) (.bin .eq (.idx (.var "vals") (.bin .sub (.call "len" (Es.ofList [(.var "vals")])) (.int 2))) (.str []))) (Ss.ofList [
      (.assign .set (Es.ofList [(.var "key")]) (Es.ofList [(.str [43])])),
      (.assign .set (Es.ofList [(.var "mods")]) (Es.ofList [(.slc (.var "vals") (.int 0) (.bin .sub (.call "len" (Es.ofList [(.var "vals")])) (.int 2)))]))]) .nil)
def mS7 : S := (.varDecl "mask" "ModifierMask")
/-- `case "l₁": mask |= NAME₁ …` for a table of (label, constant name, its bit). -/
def maskCases (t : List (Str × String × Nat)) : Cs :=
  t.foldr (fun e acc => .cons (.cons (.str e.1) .nil)
    (.cons (.assign .orSet (.cons (.var "mask") .nil) (.cons (.var e.2.1) .nil)) .nil) acc) .nil

def modLabels : List (Str × String × Nat) :=
  [([115, 104, 105, 102, 116], "ModShift", ModShift), ([97, 108, 116], "ModAlt", ModAlt), ([99, 116, 114, 108], "ModCtrl", ModCtrl),
   ([115, 117, 112, 101, 114], "ModSuper", ModSuper), ([104, 121, 112, 101, 114], "ModHyper", ModHyper), ([109, 101, 116, 97], "ModMeta", ModMeta),
   ([99, 97, 112, 115], "ModCapsLock", ModCapsLock), ([110, 117, 109], "ModNumLock", ModNumLock)]

def modSwitch : S := .switchS .nil (.call "strings.ToLower" (.cons (.var "m") .nil)) (maskCases modLabels)
def mS8 : S := .forRange "_" "m" (.var "mods") (.cons modSwitch .nil)
def mS9 : S :=
    (.ifS (Ss.ofList [(.assign .define (Es.ofList [(.var "r"), (.var "n")]) (Es.ofList [(.call "utf8.DecodeRuneInString" (Es.ofList [(.var "key")]))]))]) (.bin .eq (.var "n") (.call "len" (Es.ofList [(.var "key")]))) (Ss.ofList [
      (.ret (Es.ofList [(.call "k.Matches" (Es.ofList [(.var "r"), (.var "mask")]))]))]) .nil)
def namesBody : Ss := (Ss.ofList [
      (.ifS .nil (.un .not (.call "strings.EqualFold" (Es.ofList [(.var "kn.name"), (.var "key")]))) (Ss.ofList [
        .cont]) .nil),
      (.ret (Es.ofList [(.call "k.Matches" (Es.ofList [(.var "kn.key"), (.var "mask")]))]))])
def mS10 : S := .forRange "_" "kn" (.var "keyNames") namesBody
def mS11 : S :=
    (.forRange "_" "r" (.var "key") (Ss.ofList [
      (.ret (Es.ofList [(.call "k.Matches" (Es.ofList [(.var "r"), (.var "mask")]))]))]))
def mS12 : S := (.ret (Es.ofList [.ff]))

theorem matchStringBody_eq : VaxisModel.Gen.KeyBody.matchStringBody =
    .cons mS1 (.cons mS2 (.cons mS3 (.cons mS4 (.cons mS5 (.cons mS6 (.cons mS7 (.cons mS8 (.cons mS9 (.cons mS10 (.cons mS11 (.cons mS12 .nil))))))))))) := rfl

/-- Names that must not be shadowed by local variables while `MatchString` runs. -/
def msFresh : List String :=
  ["ModShift", "ModAlt", "ModCtrl", "ModSuper", "ModHyper", "ModMeta", "ModCapsLock", "ModNumLock", "keyNames"]

structure MsEnv (E : Env) (mods : List Str) (key : Str) (mask : Nat) : Prop where
  mods : E.lookup "mods" = some (.strs mods)
  key : E.lookup "key" = some (.str key)
  mask : E.lookup "mask" = some (.int (mask : Nat))
  fresh : ∀ x ∈ msFresh, E.lookup x = none

def msEnvNames : List String := "mods" :: "key" :: "mask" :: msFresh

theorem MsEnv.bind {E : Env} {mods : List Str} {key : Str} {mask : Nat} (h : MsEnv E mods key mask) (x : String) (v : V)
    (hx : x ∉ msEnvNames := by simp [msEnvNames, msFresh]) : MsEnv ((x, v) :: E) mods key mask := by
  have ne := lookup_cons_of_not_mem hx v E
  exact ⟨(ne _ (by simp [msEnvNames])).trans h.mods, (ne _ (by simp [msEnvNames])).trans h.key,
    (ne _ (by simp [msEnvNames])).trans h.mask, fun n hn => (ne n (by simp [msEnvNames, hn])).trans (h.fresh n hn)⟩

theorem MsEnv.setMask {E : Env} {mods : List Str} {key : Str} {mask : Nat} (h : MsEnv E mods key mask) (mask' : Nat) :
    MsEnv (("mask", .int (mask' : Nat)) :: E) mods key mask' := by
  refine ⟨?_, ?_, ?_, fresh_cons h.fresh (by simp [msFresh]) _⟩ <;>
    simp only [List.lookup_cons, String.reduceBEq, h.mods, h.key]

theorem callFn_len_strs (c : Ctx) (env : Env) (l : List Str) : callFn c env "len" [.strs l] = .int l.length := by
  unfold callFn; simp
theorem callFn_len_str (c : Ctx) (env : Env) (s : Str) : callFn c env "len" [.str s] = .int (strLen s) := by
  unfold callFn; simp
theorem callFn_split (c : Ctx) (env : Env) (s : Str) (sep : Int) : callFn c env "strings.Split" [.str s, .str [sep]] = .strs (splitOn sep s) := by
  unfold callFn; simp
theorem callFn_toLowerStr (c : Ctx) (env : Env) (s : Str) : callFn c env "strings.ToLower" [.str s] = .str (s.map c.u.toLower) := by
  unfold callFn; simp
theorem callFn_equalFold (c : Ctx) (env : Env) (a b : Str) : callFn c env "strings.EqualFold" [.str a, .str b] = .bool (equalFold c.u a b) := by
  unfold callFn; simp
theorem callFn_decode_nil (c : Ctx) (env : Env) : callFn c env "utf8.DecodeRuneInString" [.str []] = .tup [.int 0xFFFD, .int 0] := by
  unfold callFn; simp
theorem callFn_decode_cons (c : Ctx) (env : Env) (r : Int) (t : Str) :
    callFn c env "utf8.DecodeRuneInString" [.str (r :: t)] = .tup [.int r, .int (utf8Len r)] := by
  unfold callFn; simp

/-- the key is `+` itself (`"Ctrl++"`): the last two fields are empty -/
def msPlus (l : List Str) : Prop := l.getLastD [] = [] ∧ l.length > 2 ∧ l.dropLast.getLastD [0] = []
instance (l : List Str) : Decidable (msPlus l) := by unfold msPlus; infer_instance
/-- the fields `mods` / `key` of the hand model, after that adjustment -/
def msMods (l : List Str) : List Str := if msPlus l then l.dropLast.dropLast else l.dropLast
def msKey (l : List Str) : Str := if msPlus l then [43] else l.getLastD []

theorem ms_S3_S7 (u : Uni) (k : Key) (E : Env) (o : Str) (tgt : Str) (ht : E.lookup "tgt" = some (.str tgt))
    (hfr : ∀ x ∈ msFresh, E.lookup x = none) :
    ∃ E', execSs (ctx u (matchesCall u k)) (.cons mS3 (.cons mS4 (.cons mS5 (.cons mS6 (.cons mS7 .nil))))) { env := E, out := o } =
        .norm { env := E', out := o } ∧ MsEnv E' (msMods (splitOn 43 tgt)) (msKey (splitOn 43 tgt)) 0 := by
  have e3 : execS (ctx u (matchesCall u k)) mS3 { env := E, out := o } = .norm { env := ("vals", .strs (splitOn 43 tgt)) :: E, out := o } := by
    unfold mS3
    simp only [go_val, Es.ofList, go_step, lhsNames, Option.map, evalEs, evalE, ht, ctx_funcs, matchesCall, String.reduceEq, reduceIte,
      callFn_split, Bool.false_eq_true, or_self]
  rw [execSs_cons, e3, andThen_norm]
  have hl := VaxisModel.Lemmas.KeySelf.splitOn_ne_nil 43 tgt
  generalize splitOn 43 tgt = l at hl ⊢
  have h0 : MsEnv (("mask", V.int ((0 : Nat) : Int)) :: ("key", V.str (l.getLastD [])) :: ("mods", V.strs l.dropLast) :: ("vals", V.strs l) :: E) l.dropLast (l.getLastD []) 0 := by
    exact ⟨by simp [List.lookup], by simp [List.lookup], by simp [List.lookup], fresh_append hfr [_, _, _, _] (by simp [msFresh])⟩
  unfold mS4 mS5 mS6 mS7
  simp only [go_val, Ss.ofList, Es.ofList, go_step, lhsNames, Option.map, evalEs, evalE, String.reduceEq, reduceIte, Bool.false_eq_true, or_self,
    List.lookup, String.reduceBEq, callFn_len_strs, binop_sub, slice_dropLast l hl, index_last l hl, ctx_maps, binop_eq_str, binop_gt, binop_land]
  by_cases hlen : l.length > 2
  · have hlen' : (l.length : Int) > 2 := by omega
    by_cases hp : msPlus l
    · have hp' := hp
      obtain ⟨p1, _, p3⟩ := hp'
      simp only [go_step, go_val, index_last2 l hlen, slice_dropLast2 l hlen, binop_eq_str, binop_land, branch_bool, p1, p3, hlen', decide_true, Bool.and_self, reduceIte, Bool.false_eq_true, zeroOf, String.reduceEq, true_or, or_self]
      refine ⟨_, rfl, ?_⟩
      simp only [msMods, msKey, hp, reduceIte]
      exact ⟨by simp [List.lookup], by simp [List.lookup], by simp [List.lookup], fresh_append hfr [_, _, _, _, _, _] (by simp [msFresh])⟩
    · have hc : (decide (l.getLastD [] = []) && decide ((l.length : Int) > 2) && decide (l.dropLast.getLastD [0] = [])) = false := by
        rw [Bool.eq_false_iff]
        intro hh
        simp only [Bool.and_eq_true, decide_eq_true_eq] at hh
        exact hp ⟨hh.1.1, hlen, hh.2⟩
      simp only [go_step, go_val, index_last2 l hlen, binop_eq_str, binop_land, branch_bool, hc, Bool.false_eq_true, reduceIte,
        zeroOf, String.reduceEq, true_or, or_self]
      refine ⟨_, rfl, ?_⟩
      simp only [msMods, msKey, hp, reduceIte]
      exact h0
  · have hlen' : ¬ (l.length : Int) > 2 := by omega
    have hp : ¬ msPlus l := fun hp => hlen hp.2.1
    simp only [go_step, go_val, hlen', decide_false, Bool.and_false, binop_land_false, branch_bool, Bool.false_eq_true, reduceIte,
      zeroOf, String.reduceEq, true_or, or_self]
    refine ⟨_, rfl, ?_⟩
    simp only [msMods, msKey, hp, reduceIte]
    exact h0

def maskBit (u : Uni) (m : Str) : Nat :=
  match lookupStr (m.map u.toLower) matchStringMods with
  | some b => b
  | none => 0

def maskStep (u : Uni) (m : Str) (_ : Nat) (mask : Nat) : Nat := mask ||| maskBit u m

theorem mask_iter (u : Uni) (mods : List Str) : ∀ (i : Nat) (mask : Nat),
    iter (maskStep u) mods i mask = mask ||| parseMods u mods := by
  induction mods with
  | nil => intro i mask; simp [iter, parseMods]
  | cons m rest ih =>
    intro i mask
    rw [iter, ih]
    simp only [maskStep, maskBit, parseMods, Nat.or_assoc]
    rfl

theorem execCs_maskCases (c : Ctx) (lw : Str) (E : Env) (o : Str) (mask : Nat) (dflt : Unit → R) (t : List (Str × String × Nat))
    (hmask : E.lookup "mask" = some (.int (mask : Nat)))
    (hn : ∀ e ∈ t, E.lookup e.2.1 = none) (hc : ∀ e ∈ t, c.consts.lookup e.2.1 = some (.int (e.2.2 : Nat))) :
    execCs c (.str lw) { env := E, out := o } dflt (maskCases t) =
      match lookupStr lw (t.map fun e => (e.1, e.2.2)) with
      | some bit => .norm { env := ("mask", .int ((mask ||| bit : Nat) : Int)) :: E, out := o }
      | none => dflt () := by
  induction t with
  | nil => rfl
  | cons e t ih =>
    have h1 := hn e List.mem_cons_self
    have h2 := hc e List.mem_cons_self
    rw [List.map_cons, lookupStr]
    simp only [maskCases, List.foldr_cons, execCs, labelHit, evalE, binop_eq_str, isTrue_bool, Bool.or_false, decide_eq_true_eq,
      @eq_comm _ e.1 lw]
    split
    · simp only [go_val, go_exec, go_step, Option.map, h1, h2, Bool.false_eq_true, reduceIte, hmask, Int.toNat_natCast, String.reduceEq, or_self]
    · exact ih (fun e he => hn e (List.mem_cons_of_mem _ he)) (fun e he => hc e (List.mem_cons_of_mem _ he))

theorem ms_mods_body (u : Uni) (k : Key) (mods0 : List Str) (key : Str) (E : Env) (mask : Nat) (m : Str) (i : Nat) (o : Str)
    (h : MsEnv E mods0 key mask) :
    ∃ E', MsEnv E' mods0 key (maskStep u m i mask) ∧
      (execSs (ctx u (matchesCall u k)) (.cons modSwitch .nil)
          { env := VaxisModel.Model.GoInterp.bind "m" (.str m) (VaxisModel.Model.GoInterp.bind "_" (.int i) E), out := o } = .norm { env := E', out := o } ∨
       execSs (ctx u (matchesCall u k)) (.cons modSwitch .nil)
          { env := VaxisModel.Model.GoInterp.bind "m" (.str m) (VaxisModel.Model.GoInterp.bind "_" (.int i) E), out := o } = .cont { env := E', out := o }) := by
  have hM0 : MsEnv (("m", V.str m) :: E) mods0 key mask := h.bind "m" _
  unfold modSwitch
  simp only [go_val, go_step, evalE, evalEs,
    String.reduceEq, or_self, true_or, reduceIte, List.lookup, String.reduceBEq, callFn_toLowerStr, ctx_u]
  rw [execCs_maskCases _ _ _ o mask _ modLabels hM0.mask (fun e he => hM0.fresh _ (by revert e; decide))
    (by simp [modLabels, ctx_consts, const_ModShift, const_ModAlt, const_ModCtrl, const_ModSuper, const_ModHyper, const_ModMeta,
      const_ModCapsLock, const_ModNumLock])]
  rw [show modLabels.map (fun e => (e.1, e.2.2)) = matchStringMods from rfl]
  simp only [maskStep, maskBit]
  cases lookupStr (m.map u.toLower) matchStringMods with
  | some bit => exact ⟨_, hM0.setMask _, Or.inl rfl⟩
  | none => exact ⟨_, by rw [Nat.or_zero]; exact hM0, Or.inl rfl⟩

theorem ms_mods_loop (u : Uni) (k : Key) (mods0 : List Str) (key : Str) (E : Env) (o : Str) (h : MsEnv E mods0 key 0) :
    ∃ E', execS (ctx u (matchesCall u k)) mS8 { env := E, out := o } = .norm { env := E', out := o } ∧
      MsEnv E' mods0 key (parseMods u mods0) := by
  unfold mS8
  simp only [go_val, go_step, rangeItems, h.mods, evalE]
  have e : parseMods u mods0 = iter (maskStep u) mods0 0 0 := by rw [mask_iter, Nat.zero_or]
  rw [e]
  exact loop_inv _ (fun E mask => MsEnv E mods0 key mask) (maskStep u) V.str (fun E s a i o hP => ms_mods_body u k mods0 key E s a i o hP) mods0 0 E 0 o h

/-- the interpreted `Key.Matches` is the hand model (proved in Props/C09Body: `matches_body_eq_model`) -/
def MatchesOK (u : Uni) (k : Key) : Prop := ∀ key m, matchesGen u k key m = some («matches» u k key m)

theorem callFn_Matches2 (u : Uni) (k : Key) (hM : MatchesOK u k) (env : Env) (r : Int) (m : Nat) :
    callFn (ctx u (matchesCall u k)) env "k.Matches" [.int r, .int (m : Nat)] = .bool («matches» u k r m) := by
  unfold callFn
  simp only [String.reduceEq, reduceIte, or_self, ctx_funcs, matchesCall, hM r m, Option.map, Int.toNat_natCast]

theorem callFn_Matches1 (u : Uni) (k : Key) (hM : MatchesOK u k) (env : Env) (r : Int) :
    callFn (ctx u (matchesCall u k)) env "k.Matches" [.int r] = .bool («matches» u k r 0) := by
  unfold callFn
  simp only [String.reduceEq, reduceIte, or_self, ctx_funcs, matchesCall, hM r 0, Option.map]

/-! ### Statement 9: `if r, n := utf8.DecodeRuneInString(key); n == len(key)` -/

theorem ms_S9_nil (u : Uni) (k : Key) (hM : MatchesOK u k) (E : Env) (o : Str) (mods : List Str) (mask : Nat) (h : MsEnv E mods [] mask) :
    ∃ E', execS (ctx u (matchesCall u k)) mS9 { env := E, out := o } = .ret { env := E', out := o } (.bool («matches» u k 0xFFFD mask)) := by
  unfold mS9
  simp only [go_val, Ss.ofList, Es.ofList, go_step, lhsNames, Option.map, evalEs, evalE, h.key, ctx_funcs, matchesCall, String.reduceEq, reduceIte,
    callFn_decode_nil, List.any, Bool.or_false, Bool.false_eq_true, or_self,
    List.lookup, String.reduceBEq, callFn_len_str, strLen, binop_eq_int, branch_bool, decide_true, h.mask, callFn_Matches2 u k hM]
  exact ⟨_, rfl⟩

theorem ms_S9_one (u : Uni) (k : Key) (hM : MatchesOK u k) (E : Env) (o : Str) (mods : List Str) (r : Int) (mask : Nat) (h : MsEnv E mods [r] mask) :
    ∃ E', execS (ctx u (matchesCall u k)) mS9 { env := E, out := o } = .ret { env := E', out := o } (.bool («matches» u k r mask)) := by
  unfold mS9
  simp only [go_val, Ss.ofList, Es.ofList, go_step, lhsNames, Option.map, evalEs, evalE, h.key, ctx_funcs, matchesCall, String.reduceEq, reduceIte,
    callFn_decode_cons, List.any, Bool.or_false, Bool.false_eq_true, or_self,
    List.lookup, String.reduceBEq, callFn_len_str, strLen, Int.add_zero, binop_eq_int, branch_bool, decide_true, h.mask, callFn_Matches2 u k hM]
  exact ⟨_, rfl⟩

theorem ms_S9_more (u : Uni) (k : Key) (E : Env) (o : Str) (mods : List Str) (r r2 : Int) (t : Str) (mask : Nat) (h : MsEnv E mods (r :: r2 :: t) mask) :
    ∃ E', execS (ctx u (matchesCall u k)) mS9 { env := E, out := o } = .norm { env := E', out := o } ∧ MsEnv E' mods (r :: r2 :: t) mask := by
  unfold mS9
  simp only [go_val, Ss.ofList, Es.ofList, go_step, lhsNames, Option.map, evalEs, evalE, h.key, ctx_funcs, matchesCall, String.reduceEq, reduceIte,
    callFn_decode_cons, List.any, Bool.or_false, Bool.false_eq_true, or_self,
    List.lookup, String.reduceBEq, callFn_len_str, binop_eq_int, branch_bool, strLen_cons2_ne, decide_false]
  exact ⟨_, rfl, (h.bind "r" _).bind "n" _⟩

theorem ms_names_body (u : Uni) (k : Key) (hM : MatchesOK u k) (E : Env) (o : Str) (mods : List Str) (key : Str) (mask : Nat)
    (h : MsEnv E mods key mask) (i : Nat) (kc : Int) (name : Str) :
    ∃ E', MsEnv E' mods key mask ∧
      execSs (ctx u (matchesCall u k)) namesBody
        { env := VaxisModel.Model.GoInterp.bind "kn" (V.struct [("key", .int kc), ("name", .str name)])
            (VaxisModel.Model.GoInterp.bind "_" (.int i) E), out := o } =
      if equalFold u name key = true then .ret { env := E', out := o } (.bool («matches» u k kc mask)) else .cont { env := E', out := o } := by
  have hE' : MsEnv (("kn", V.struct [("key", .int kc), ("name", .str name)]) :: ("kn.key", .int kc) :: ("kn.name", .str name) :: E) mods key mask := by
    exact ((h.bind "kn.name" _).bind "kn.key" _).bind "kn" _
  refine ⟨_, hE', ?_⟩
  cases he : equalFold u name key <;>
    simp only [go_val, VaxisModel.Model.GoInterp.bind, go_exec, go_step, namesBody, String.reduceEq, reduceIte, or_false, or_self, List.map, String.reduceAppend,
      List.cons_append, List.nil_append, List.lookup, String.reduceBEq, h.key, h.mask, callFn_equalFold, Bool.not_eq_true', callFn_Matches2 u k hM, he,
      Bool.true_eq_false, Bool.false_eq_true]

theorem ms_names_loop (u : Uni) (k : Key) (hM : MatchesOK u k) (o : Str) (mods : List Str) (key : Str) (mask : Nat)
    (names : List (Int × Str)) :
    ∀ (i : Nat) (E : Env), MsEnv E mods key mask →
    (∃ kn E', findName u key names = some kn ∧
        loop (fun st' it i => execSs (ctx u (matchesCall u k)) namesBody
              { st' with env := VaxisModel.Model.GoInterp.bind "kn" it (VaxisModel.Model.GoInterp.bind "_" (.int i) st'.env) })
            (names.map fun e => V.struct [("key", .int e.1), ("name", .str e.2)]) i { env := E, out := o }
          = .ret { env := E', out := o } (.bool («matches» u k kn mask))) ∨
    (findName u key names = none ∧ ∃ E',
        loop (fun st' it i => execSs (ctx u (matchesCall u k)) namesBody
              { st' with env := VaxisModel.Model.GoInterp.bind "kn" it (VaxisModel.Model.GoInterp.bind "_" (.int i) st'.env) })
            (names.map fun e => V.struct [("key", .int e.1), ("name", .str e.2)]) i { env := E, out := o }
          = .norm { env := E', out := o } ∧ MsEnv E' mods key mask) := by
  induction names with
  | nil =>
    intro i E h
    exact Or.inr ⟨rfl, E, rfl, h⟩
  | cons e rest ih =>
    intro i E h
    obtain ⟨kc, name⟩ := e
    obtain ⟨E', hE', hbody⟩ := ms_names_body u k hM E o mods key mask h i kc name
    by_cases he : equalFold u name key = true
    · rw [if_pos he] at hbody
      refine Or.inl ⟨kc, E', by simp only [findName, he, reduceIte], ?_⟩
      rw [List.map_cons, loop_cons_ret hbody]
    · rw [if_neg he] at hbody
      rw [List.map_cons, loop_cons_cont hbody]
      simp only [findName, he, reduceIte, Bool.false_eq_true]
      exact ih (i + 1) E' hE'

theorem ms_S10 (u : Uni) (k : Key) (hM : MatchesOK u k) (E : Env) (o : Str) (mods : List Str) (key : Str) (mask : Nat)
    (h : MsEnv E mods key mask) :
    (∃ kn E', findName u key keyNames = some kn ∧
        execS (ctx u (matchesCall u k)) mS10 { env := E, out := o } = .ret { env := E', out := o } (.bool («matches» u k kn mask))) ∨
    (findName u key keyNames = none ∧ ∃ E',
        execS (ctx u (matchesCall u k)) mS10 { env := E, out := o } = .norm { env := E', out := o } ∧ MsEnv E' mods key mask) := by
  have hk := h.fresh "keyNames" (by simp [msFresh])
  unfold mS10
  simp only [go_val, go_step, rangeItems, hk, ctx_slices, List.lookup, String.reduceBEq]
  exact ms_names_loop u k hM o mods key mask keyNames 0 E h

/-! ### Statement 11: `for _, r := range key { return … }` -/

theorem ms_S11 (u : Uni) (k : Key) (hM : MatchesOK u k) (E : Env) (o : Str) (mods : List Str) (r : Int) (t : Str) (mask : Nat)
    (h : MsEnv E mods (r :: t) mask) :
    ∃ E', execS (ctx u (matchesCall u k)) mS11 { env := E, out := o } = .ret { env := E', out := o } (.bool («matches» u k r mask)) := by
  unfold mS11
  simp only [go_val, go_exec, go_step, rangeItems, h.key, List.map, loop, String.reduceEq, reduceIte, true_or, or_self, List.lookup, String.reduceBEq, h.mask,
    callFn_Matches2 u k hM]
  exact ⟨_, rfl⟩

/-- The hand model by the shape of the key field: its three cases are the three ways out of the body (statements 9, 10, 11). -/
theorem matchFields_eq (u : Uni) (k : Key) (l : List Str) :
    matchFields u k l =
      (match msKey l with
       | [] => «matches» u k 0xFFFD (parseMods u (msMods l))
       | [r] => «matches» u k r (parseMods u (msMods l))
       | r :: _ =>
         match findName u (msKey l) keyNames with
         | some kn => «matches» u k kn (parseMods u (msMods l))
         | none => «matches» u k r (parseMods u (msMods l))) := by
  unfold matchFields msKey msMods
  by_cases hp : msPlus l
  · have hd : decide (l.getLastD [] = [] ∧ l.length > 2 ∧ l.dropLast.getLastD [0] = []) = true := decide_eq_true hp
    simp only [hd, hp, reduceIte]
  · have hd : decide (l.getLastD [] = [] ∧ l.length > 2 ∧ l.dropLast.getLastD [0] = []) = false := decide_eq_false hp
    simp only [hd, hp, reduceIte, Bool.false_eq_true]
    rfl

theorem matchString_body_eq (u : Uni) (k : Key) (hM : MatchesOK u k) (tgt : Str) :
    matchStringGen u k tgt = some (matchString u k tgt) := by
  unfold matchStringGen
  rw [matchStringBody_eq]
  match tgt with
  | [] =>
    simp only [VaxisModel.Model.GoInterp.bind, go_val, mS1, Ss.ofList, Es.ofList, go_step, evalE, String.reduceEq, or_self, reduceIte,
      keyFields, List.map, String.reduceAppend, List.cons_append, List.nil_append, List.lookup, String.reduceBEq, binop_eq_str, decide_true, branch_bool,
      retBool_ret, matchString]
  | [r] =>
    simp only [VaxisModel.Model.GoInterp.bind, go_val, mS1, mS2, Ss.ofList, Es.ofList, go_step, evalE, evalEs, String.reduceEq, or_self, reduceIte,
      keyFields, List.map, String.reduceAppend, List.cons_append, List.nil_append, List.lookup, String.reduceBEq, binop_eq_str, binop_eq_int, branch_bool,
      reduceCtorEq, decide_false, Bool.false_eq_true, lhsNames, Option.map, ctx_funcs, matchesCall, callFn_decode_cons, List.any, Bool.or_false,
      callFn_len_str, strLen, Int.add_zero, decide_true, callFn_Matches1 u k hM, retBool_ret, matchString]
  | r :: r2 :: t =>
    have e12 : execSs (ctx u (matchesCall u k)) (.cons mS1 (.cons mS2 .nil))
        { env := VaxisModel.Model.GoInterp.bind "k" (.struct (keyFields k)) [("tgt", .str (r :: r2 :: t))] } =
        .norm { env := ("n", .int (utf8Len r)) :: ("r", .int r) :: VaxisModel.Model.GoInterp.bind "k" (.struct (keyFields k)) [("tgt", .str (r :: r2 :: t))] } := by
      simp only [go_val, VaxisModel.Model.GoInterp.bind, mS1, mS2, Ss.ofList, Es.ofList, go_step, evalE, evalEs, String.reduceEq, or_self, reduceIte,
        keyFields, List.map, String.reduceAppend, List.cons_append, List.nil_append, List.lookup, String.reduceBEq, binop_eq_str, binop_eq_int, branch_bool,
        reduceCtorEq, decide_false, Bool.false_eq_true, lhsNames, Option.map, ctx_funcs, matchesCall, callFn_decode_cons, List.any, Bool.or_false,
        callFn_len_str, strLen_cons2_ne]
    rw [execSs_cons2, e12, andThen_norm]
    obtain ⟨E3, e3, h3⟩ := ms_S3_S7 u k (("n", .int (utf8Len r)) :: ("r", .int r) :: VaxisModel.Model.GoInterp.bind "k" (.struct (keyFields k)) [("tgt", .str (r :: r2 :: t))]) [] (r :: r2 :: t)
      (by rfl) (fresh_append (E := []) (fun _ _ => rfl) [_, _, _, _, _, _, _, _, _, _] (by simp [msFresh]))
    rw [execSs_cons5, e3, andThen_norm, execSs_cons]
    obtain ⟨E4, e4, h4⟩ := ms_mods_loop u k _ _ E3 [] h3
    rw [e4, andThen_norm, execSs_cons]
    have hmodel : matchString u k (r :: r2 :: t) = matchFields u k (splitOn 43 (r :: r2 :: t)) := rfl
    rw [hmodel, matchFields_eq]
    generalize msKey (splitOn 43 (r :: r2 :: t)) = key at h4 ⊢
    generalize parseMods u (msMods (splitOn 43 (r :: r2 :: t))) = mask at h4 ⊢
    match key with
    | [] =>
      obtain ⟨E5, e5⟩ := ms_S9_nil u k hM E4 [] _ mask h4
      rw [e5, andThen_ret, retBool_ret]
    | [r'] =>
      obtain ⟨E5, e5⟩ := ms_S9_one u k hM E4 [] _ r' mask h4
      rw [e5, andThen_ret, retBool_ret]
    | r' :: r2' :: t' =>
      obtain ⟨E5, e5, h5⟩ := ms_S9_more u k E4 [] _ r' r2' t' mask h4
      rw [e5, andThen_norm, execSs_cons]
      rcases ms_S10 u k hM E5 [] _ _ mask h5 with ⟨kn, E6, hfn, e6⟩ | ⟨hfn, E6, e6, h6⟩
      · rw [e6, andThen_ret, retBool_ret]
        simp only [hfn]
      · rw [e6, andThen_norm, execSs_cons]
        obtain ⟨E7, e7⟩ := ms_S11 u k hM E6 [] _ r' _ mask h6
        rw [e7, andThen_ret, retBool_ret]
        simp only [hfn]

end VaxisModel.Lemmas.KeyBodyEval
