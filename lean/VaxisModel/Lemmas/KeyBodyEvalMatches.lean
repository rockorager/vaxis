/-
`Key.Matches` with its variadic argument: the interpreted extracted body (`matchesGenL`) over a list
of masks of *any* length equals the hand model on the OR of the list.

The `for _, mod := range modifiers { mods |= mod }` loop conses two bindings (`mod`, `mods`) in front
of the environment per iteration, so the environment after the loop has a length that depends on the
list.  The rest of the body is therefore evaluated over an abstract environment `E` of which only
the look-ups the body makes are known (`MatEnv`); the loop keeps `MatEnv` by induction on the list.
-/
import VaxisModel.Lemmas.KeyBodyEval
namespace VaxisModel.Lemmas.KeyBodyEval
open VaxisModel.Model.GoBody VaxisModel.Model.GoInterp VaxisModel.Model.Key VaxisModel.Model.KeyBody
open VaxisModel.Gen.Keys VaxisModel.Lemmas.GoInterp

def mtS1 : S := (.varDecl "mods" "ModifierMask")
def mtLoopBody : Ss := (Ss.ofList [
      (.assign .orSet (Es.ofList [(.var "mods")]) (Es.ofList [(.var "mod")]))])
def mtS2 : S := (.forRange "_" "mod" (.var "modifiers") mtLoopBody)
def mtRest : Ss :=
  (Ss.ofList [
    (.assign .set (Es.ofList [(.var "mods")]) (Es.ofList [(.bin .andNot (.var "mods") (.var "ModCapsLock"))])),
    (.assign .set (Es.ofList [(.var "mods")]) (Es.ofList [(.bin .andNot (.var "mods") (.var "ModNumLock"))])),
    (.assign .define (Es.ofList [(.var "kMods")]) (Es.ofList [(.bin .andNot (.var "k.Modifiers") (.var "ModCapsLock"))])),
    (.assign .set (Es.ofList [(.var "kMods")]) (Es.ofList [(.bin .andNot (.var "kMods") (.var "ModNumLock"))])),
    (.assign .define (Es.ofList [(.var "unshiftedkMods")]) (Es.ofList [(.bin .andNot (.var "kMods") (.var "ModShift"))])),
    (.assign .define (Es.ofList [(.var "unshiftedMods")]) (Es.ofList [(.bin .andNot (.var "mods") (.var "ModShift"))])),
    (.ifS .nil (.bin .land (.bin .eq (.var "k.Keycode") (.var "key")) (.bin .eq (.var "mods") (.var "kMods"))) (Ss.ofList [
      (.ret (Es.ofList [.tt]))]) .nil),
    (.ifS .nil (.bin .land (.bin .eq (.var "k.Text") (.call "string" (Es.ofList [(.var "key")]))) (.bin .eq (.var "mods") (.var "kMods"))) (Ss.ofList [
      (.ret (Es.ofList [.tt]))]) .nil),
    (.ifS .nil (.bin .land (.bin .eq (.var "k.ShiftedCode") (.var "key")) (.bin .eq (.var "mods") (.var "unshiftedkMods"))) (Ss.ofList [
      (.ret (Es.ofList [.tt]))]) .nil),
    (.ifS .nil (.bin .land (.bin .eq (.var "k.BaseLayoutCode") (.var "key")) (.bin .eq (.var "mods") (.var "kMods"))) (Ss.ofList [
      (.ret (Es.ofList [.tt]))]) .nil),
    (.ifS .nil (.bin .land (.un .not (.call "unicode.IsLetter" (Es.ofList [(.var "key")]))) (.call "unicode.IsGraphic" (Es.ofList [(.var "key")]))) (Ss.ofList [
      (.ifS .nil (.bin .land (.bin .eq (.var "k.Keycode") (.var "key")) (.bin .eq (.var "unshiftedkMods") (.var "unshiftedMods"))) (Ss.ofList [
        (.ret (Es.ofList [.tt]))]) .nil),
      (.ifS .nil (.bin .land (.bin .eq (.var "k.ShiftedCode") (.var "key")) (.bin .eq (.var "unshiftedkMods") (.var "unshiftedMods"))) (Ss.ofList [
        (.ret (Es.ofList [.tt]))]) .nil)]) .nil),
    (.ifS .nil (.bin .land (.bin .land (.bin .ne (.bin .band (.var "mods") (.var "ModShift")) (.int 0)) (.call "unicode.IsLower" (Es.ofList [(.var "key")]))) (.bin .ne (.call "unicode.ToUpper" (Es.ofList [(.var "key")])) (.var "key"))) (Ss.ofList [
      (.assign .set (Es.ofList [(.var "key")]) (Es.ofList [(.call "unicode.ToUpper" (Es.ofList [(.var "key")]))])),
      (.ifS .nil (.bin .land (.bin .eq (.var "k.Text") (.call "string" (Es.ofList [(.var "key")]))) (.bin .eq (.var "unshiftedMods") (.var "unshiftedkMods"))) (Ss.ofList [
        (.ret (Es.ofList [.tt]))]) .nil)]) .nil),
    (.ret (Es.ofList [.ff]))])

theorem matchesBody_eq : VaxisModel.Gen.KeyBody.matchesBody = .cons mtS1 (.cons mtS2 mtRest) := rfl

/-- What the body of `Matches` reads: the local `mods` (the OR so far), the fields of the receiver,
    the parameter `key`; the three constants it names are not shadowed. -/
structure MatEnv (E : Env) (k : Key) (key : Int) (M : Nat) : Prop where
  mods : E.lookup "mods" = some (.int (M : Nat))
  keycode : E.lookup "k.Keycode" = some (.int k.keycode)
  text : E.lookup "k.Text" = some (.str k.text)
  shifted : E.lookup "k.ShiftedCode" = some (.int k.shifted)
  base : E.lookup "k.BaseLayoutCode" = some (.int k.base)
  kmods : E.lookup "k.Modifiers" = some (.int (k.mods : Nat))
  key : E.lookup "key" = some (.int key)
  fShift : E.lookup "ModShift" = none
  fCaps : E.lookup "ModCapsLock" = none
  fNum : E.lookup "ModNumLock" = none

theorem matEnv_init (k : Key) (key : Int) (l : List Int) :
    MatEnv (("mods", V.int 0) :: VaxisModel.Model.GoInterp.bind "k" (.struct (keyFields k)) [("key", .int key), ("modifiers", .ints l)]) k key 0 := by
  constructor <;> simp [VaxisModel.Model.GoInterp.bind, keyFields, List.lookup]

theorem mt_step (u : Uni) (k : Key) (key : Int) (E : Env) (a m i : Nat) (o : Str) (h : MatEnv E k key a) :
    execSs (ctx u noFuncs) mtLoopBody
        { env := VaxisModel.Model.GoInterp.bind "mod" (.int (m : Nat)) (VaxisModel.Model.GoInterp.bind "_" (.int (i : Nat)) E), out := o } =
      .norm { env := ("mods", V.int ((a ||| m : Nat) : Int)) :: ("mod", V.int (m : Nat)) :: E, out := o } := by
  unfold mtLoopBody
  simp only [go_exec, go_step, go_val, Option.map, String.reduceEq, or_self, or_false, reduceIte, List.lookup, String.reduceBEq,
    Bool.false_eq_true, h.mods, Int.toNat_natCast]

theorem matEnv_step (k : Key) (key : Int) (E : Env) (a m : Nat) (h : MatEnv E k key a) :
    MatEnv (("mods", V.int ((a ||| m : Nat) : Int)) :: ("mod", V.int (m : Nat)) :: E) k key (a ||| m) := by
  constructor
  · simp [List.lookup]
  · simpa [List.lookup] using h.keycode
  · simpa [List.lookup] using h.text
  · simpa [List.lookup] using h.shifted
  · simpa [List.lookup] using h.base
  · simpa [List.lookup] using h.kmods
  · simpa [List.lookup] using h.key
  · simpa [List.lookup] using h.fShift
  · simpa [List.lookup] using h.fCaps
  · simpa [List.lookup] using h.fNum

theorem mt_loop (u : Uni) (k : Key) (key : Int) (ms : List Nat) :
    ∀ (i : Nat) (E : Env) (a : Nat) (o : Str), MatEnv E k key a →
      ∃ E', loop (fun st' it i => execSs (ctx u noFuncs) mtLoopBody
                { st' with env := VaxisModel.Model.GoInterp.bind "mod" it (VaxisModel.Model.GoInterp.bind "_" (.int i) st'.env) })
              ((ms.map fun (m : Nat) => (m : Int)).map V.int) i { env := E, out := o } = .norm { env := E', out := o } ∧
            MatEnv E' k key (ms.foldl (· ||| ·) a) := by
  induction ms with
  | nil => intro i E a o h; exact ⟨E, rfl, h⟩
  | cons m ms ih =>
    intro i E a o h
    simp only [List.map_cons, List.foldl_cons, loop, mt_step u k key E a m i o h]
    exact ih (i + 1) _ (a ||| m) o (matEnv_step k key E a m h)

theorem mt_rest (u : Uni) (k : Key) (key : Int) (E : Env) (M : Nat) (o : Str) (h : MatEnv E k key M) :
    (execSs (ctx u noFuncs) mtRest { env := E, out := o }).retBool = some («matches» u k key M) := by
  unfold mtRest
  simp only [go_exec, execS, execSs_cons, execSs_nil, go_val,
    List.lookup, String.reduceEq, String.reduceBEq, reduceIte, or_self, Option.map, h.mods,
    h.keycode, h.text, h.shifted, h.base, h.kmods, h.key, h.fShift, h.fCaps, h.fNum, andThen_ite, Bool.false_eq_true, const_ModShift,
    const_ModCapsLock, const_ModNumLock, Int.toNat_natCast, apply_ite R.retBool, retBool_ret]
  -- both sides are now chains of guards returning `true`; merge them into one disjunction each
  unfold «matches»
  simp only [apply_ite some, ite_or_same, ite_and_same, Bool.and_eq_true, decide_eq_true_eq, Int.natCast_inj, Int.natCast_eq_zero,
    ne_eq, Bool.not_eq_eq_eq_not, Bool.not_true, decide_eq_false_iff_not, @eq_comm _ (andNot (andNot (andNot k.mods _) _) _)]
  -- rule 6 follows rule 5 in the code whether or not the guard of rule 5 held
  by_cases hA : u.isLetter key = false ∧ u.isGraphic key = true
  · simp only [hA, true_and, reduceIte, ite_or_same, or_assoc, and_assoc]
  · simp only [hA, false_and, false_or, reduceIte, ite_or_same, or_assoc, and_assoc]

theorem matches_body_variadic_eq (u : Uni) (k : Key) (key : Int) (ms : List Nat) :
    matchesGenL u k key ms = some («matches» u k key (ms.foldl (· ||| ·) 0)) := by
  unfold matchesGenL
  rw [matchesBody_eq, execSs_cons]
  have e1 : ∀ (E : Env) (o : Str), execS (ctx u noFuncs) mtS1 { env := E, out := o } = .norm { env := ("mods", V.int 0) :: E, out := o } := by
    intro E o
    unfold mtS1
    simp only [go_exec, go_step, go_val, zeroOf, String.reduceEq, or_self, or_false, reduceIte]
  rw [e1, andThen_norm, execSs_cons]
  have h0 := matEnv_init k key (ms.map fun (m : Nat) => (m : Int))
  have hmods : List.lookup "modifiers" (("mods", V.int 0) :: VaxisModel.Model.GoInterp.bind "k" (.struct (keyFields k))
      [("key", .int key), ("modifiers", .ints (ms.map fun (m : Nat) => (m : Int)))]) = some (.ints (ms.map fun (m : Nat) => (m : Int))) := by
    simp [VaxisModel.Model.GoInterp.bind, keyFields, List.lookup]
  generalize (("mods", V.int 0) :: VaxisModel.Model.GoInterp.bind "k" (.struct (keyFields k))
      [("key", .int key), ("modifiers", .ints (ms.map fun (m : Nat) => (m : Int)))]) = E0 at h0 hmods ⊢
  have e2 : execS (ctx u noFuncs) mtS2 { env := E0, out := [] } =
      loop (fun st' it i => execSs (ctx u noFuncs) mtLoopBody
                { st' with env := VaxisModel.Model.GoInterp.bind "mod" it (VaxisModel.Model.GoInterp.bind "_" (.int i) st'.env) })
              ((ms.map fun (m : Nat) => (m : Int)).map V.int) 0 { env := E0, out := [] } := by
    unfold mtS2
    simp only [go_exec, go_step, go_val, rangeItems, hmods]
  obtain ⟨E1, hl, h1⟩ := mt_loop u k key ms 0 E0 0 [] h0
  rw [e2, hl, andThen_norm]
  exact mt_rest u k key E1 _ [] h1

end VaxisModel.Lemmas.KeyBodyEval
