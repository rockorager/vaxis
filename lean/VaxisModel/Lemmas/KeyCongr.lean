/-
Congruence of the key model in the `unicode` oracle: `decodeKey`, `matchSpec`, `encodeXterm` consult `u` only at
the runes of their arguments.  If two oracles agree at those runes, the results are equal.  Used to lift the
kernel-evaluated table theorems (stated for `asciiUni` = Go's tables on ASCII) to EVERY oracle that agrees with Go on
ASCII and on the key codes above the Unicode range (`AgreeOnKeys`).
-/
import VaxisModel.Model.Key
import VaxisModel.Spec.KeyEnc
import VaxisModel.Spec.KeyEvent

namespace VaxisModel.Lemmas.KeyCongr
open VaxisModel.Model.Key VaxisModel.Spec.KeyEnc VaxisModel.Gen.Keys

structure AgreeAt (u v : Uni) (r : Int) : Prop where
  isUpper : u.isUpper r = v.isUpper r
  isLower : u.isLower r = v.isLower r
  isLetter : u.isLetter r = v.isLetter r
  isGraphic : u.isGraphic r = v.isGraphic r
  isPrint : u.isPrint r = v.isPrint r
  toUpper : u.toUpper r = v.toUpper r
  toLower : u.toLower r = v.toLower r

/-- `u` agrees with Go's tables on ASCII (`asciiUni`) and on the key codes above `MaxRune` (where Go's predicates are
    false and the case maps the identity — also what `asciiUni` says there). -/
def AgreeOnKeys (u : Uni) : Prop := ∀ r, inKeyDom r = true → AgreeAt u asciiUni r

/-- The rune of a sequence that `decodeRaw` asks `u` about. -/
def seqHead : Seq → Int
  | .print g => g.headD 0
  | .esc f => f
  | _ => 0

theorem decodeRaw_congr (u v : Uni) (s : Seq) (h : AgreeAt u v (seqHead s)) : decodeRaw u s = decodeRaw v s := by
  cases s with
  | print g => simp only [decodeRaw, seqHead] at h ⊢; rw [h.isUpper, h.toLower]
  | esc f => simp only [decodeRaw, seqHead] at h ⊢; rw [h.isUpper, h.toLower]
  | c0 b => rfl
  | ss3 b => rfl
  | csi p f => rfl

theorem shiftText_congr (u v : Uni) (k : Key) (h1 : AgreeAt u v k.keycode) (h2 : AgreeAt u v k.shifted) :
    shiftText u k = shiftText v k := by
  unfold shiftText
  rw [h1.isPrint, h2.isPrint, h1.toUpper]

theorem decodeKey_congr (u v : Uni) (s : Seq) (h : AgreeAt u v (seqHead s))
    (h1 : AgreeAt u v (decodeRaw v s).keycode) (h2 : AgreeAt u v (decodeRaw v s).shifted) :
    decodeKey u s = decodeKey v s := by
  unfold decodeKey
  rw [decodeRaw_congr u v s h]
  exact shiftText_congr u v _ h1 h2

theorem matchSpec_congr_uni (u v : Uni) (k : Key) (key : Int) (m : Nat) (h : AgreeAt u v key) :
    matchSpec u k key m ↔ matchSpec v k key m := by
  unfold matchSpec
  rw [h.isLetter, h.isGraphic, h.isLower, h.toUpper]

end VaxisModel.Lemmas.KeyCongr
