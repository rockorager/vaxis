/-
Helper lemmas for C09 `cross_protocol`: when two decoded events cannot be told apart by
`String()` and `Matches`.
-/
import VaxisModel.Model.Key
import VaxisModel.Spec.KeyEnc
import VaxisModel.Lemmas.KeyMatch

namespace VaxisModel.Lemmas.KeyCross
open VaxisModel.Model.Key VaxisModel.Spec.KeyEnc VaxisModel.Gen.Keys VaxisModel.Lemmas.KeyMatch

/-- Two decoded events that `String()` and `Matches` cannot tell apart: all fields equal, or they
    differ only in that the first carries the key's own character as text (legacy byte) and the second
    no text (kitty report without text), for an unmodified key that is not an upper-case letter. -/
def sameForMatching (k1 k2 : Key) : Bool :=
  k1.keycode == k2.keycode && k1.shifted == k2.shifted && k1.base == k2.base && k1.mods == k2.mods &&
  k1.event == k2.event &&
  (k1.text == k2.text ||
    (k1.mods == 0 && k1.text == [k1.keycode] && k2.text == [] && validRune k1.keycode && k1.keycode != 0xFFFD &&
      !(decide (65 ≤ k1.keycode) && decide (k1.keycode ≤ 90))))

theorem keyString_congr (u : Uni) (k1 k2 : Key) (h1 : k1.keycode = k2.keycode) (h2 : k1.mods = k2.mods)
    (h3 : k1.event = k2.event) (h4 : k1.text = k2.text ∨ k1.mods = 0) : keyString u k1 = keyString u k2 := by
  unfold keyString
  rcases h4 with h4 | h4
  · rw [h1, h2, h3, h4]
  · have h0 : k2.mods = 0 := by rw [← h2, h4]
    have c1 : ¬(k1.mods &&& ModCapsLock ≠ 0 ∧ k1.text = strOfRune (u.toUpper k1.keycode)) := by
      rw [h4]; simp
    have c2 : ¬(k2.mods &&& ModCapsLock ≠ 0 ∧ k2.text = strOfRune (u.toUpper k2.keycode)) := by
      rw [h0]; simp
    simp only [c1, c2, if_false]
    rw [h1, h2, h3]

theorem sameForMatching_fields {k1 k2 : Key} (h : sameForMatching k1 k2 = true) :
    k1.keycode = k2.keycode ∧ k1.shifted = k2.shifted ∧ k1.base = k2.base ∧ k1.mods = k2.mods ∧ k1.event = k2.event ∧
    (k1.text = k2.text ∨
      (k1.mods = 0 ∧ k1.text = [k1.keycode] ∧ k2.text = [] ∧ validRune k1.keycode = true ∧ k1.keycode ≠ 0xFFFD ∧
        (65 ≤ k1.keycode → ¬k1.keycode ≤ 90))) := by
  simp only [sameForMatching, Bool.and_eq_true, Bool.or_eq_true, beq_iff_eq, Bool.not_eq_true',
    Bool.and_eq_false_imp, decide_eq_true_eq, decide_eq_false_iff_not, bne_iff_ne, ne_eq] at h
  obtain ⟨⟨⟨⟨⟨hk, hs⟩, hb⟩, hm⟩, he⟩, ht⟩ := h
  refine ⟨hk, hs, hb, hm, he, ht.imp id ?_⟩
  rintro ⟨⟨⟨⟨⟨hm0, ht1⟩, ht2⟩, hv⟩, hfffd⟩, hup⟩
  exact ⟨hm0, ht1, ht2, hv, hfffd, hup⟩

def xpAll (key : Int) (mods : Nat) (shifted : Int) (P : Seq → Seq → Bool) (sL : Seq) : Bool :=
  (kittyCodes key).all fun nf => (xpForms key mods).all fun ft =>
    let c : Chord := { key := key, mods := mods, shifted := shifted,
                       text := if ft.2 then [if mods &&& 1 ≠ 0 then shifted else key] else [] }
    P sL (kittySeq nf.1 nf.2 c ft.1)

theorem xpAll_and {key : Int} {mods : Nat} {shifted : Int} {P Q : Seq → Seq → Bool} {sL : Seq}
    (h : xpAll key mods shifted (fun a b => P a b && Q a b) sL = true) :
    xpAll key mods shifted P sL = true ∧ xpAll key mods shifted Q sL = true := by
  simp only [xpAll, List.all_eq_true, Bool.and_eq_true] at h ⊢
  exact ⟨fun a ha b hb => (h a ha b hb).1, fun a ha b hb => (h a ha b hb).2⟩

def xpOK (u : Uni) (ch : Int × Nat × Int) : Bool :=
  let (key, mods, shifted) := ch
  [false, true].all fun ckm =>
    match xtermLegacy key mods shifted ckm with
    | none => true
    | some sL => xpAll key mods shifted (fun sL sK => sameForMatching (decodeKey u sL) (decodeKey u sK)) sL


end VaxisModel.Lemmas.KeyCross
