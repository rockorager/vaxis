/-
C09 — the table behind `cross_protocol`: ONE kernel evaluation over the chords of `xpChords` × the kitty codes of the
key × the considered field combinations, from which `Props.C09.xp_table` (the two decoded events cannot be told
apart), `Props.C09CrossUni.xp_dom` (both reports only involve ASCII runes and key codes) and
`Props.C09.xp_domain_size` (how many chords the legacy protocol expresses) are read off.  Each row decodes the legacy
and the kitty report once and asks all three questions of them.
-/
import VaxisModel.Lemmas.KeyCross
import VaxisModel.Lemmas.KeyCongr

namespace VaxisModel.Props.C09CrossUni
open VaxisModel.Model.Key VaxisModel.Spec.KeyEnc VaxisModel.Gen.Keys
open VaxisModel.Lemmas.KeyCross VaxisModel.Lemmas.KeyCongr

/-- The runes one decoded report makes the model ask the oracle about. -/
def seqDomOK (s : Seq) : Bool :=
  inKeyDom (seqHead s) && inKeyDom (decodeRaw asciiUni s).keycode && inKeyDom (decodeRaw asciiUni s).shifted &&
  inKeyDom (decodeKey asciiUni s).keycode

/-- Same shape as `xpOK`: both reports of every chord / code / form only involve ASCII runes and key codes. -/
def xpDomOK (ch : Int × Nat × Int) : Bool :=
  let (key, mods, shifted) := ch
  [false, true].all fun ckm =>
    match xtermLegacy key mods shifted ckm with
    | none => true
    | some sL =>
      (kittyCodes key).all fun nf => (xpForms key mods).all fun ft =>
        let c : Chord := { key := key, mods := mods, shifted := shifted,
                           text := if ft.2 then [if mods &&& 1 ≠ 0 then shifted else key] else [] }
        seqDomOK sL && seqDomOK (kittySeq nf.1 nf.2 c ft.1)

end VaxisModel.Props.C09CrossUni

namespace VaxisModel.Lemmas.KeyCross
open VaxisModel.Model.Key VaxisModel.Spec.KeyEnc VaxisModel.Gen.Keys VaxisModel.Props.C09CrossUni

/-- One row of the table: (`xpOK` and `xpDomOK` of the chord, whether the legacy protocol expresses it). -/
def xpRow (ch : Int × Nat × Int) : Bool × Bool :=
  let (key, mods, shifted) := ch
  let l := xtermLegacy key mods shifted false
  ([l, xtermLegacy key mods shifted true].all fun r =>
    match r with
    | none => true
    | some sL =>
      xpAll key mods shifted (fun sL sK =>
        sameForMatching (decodeKey asciiUni sL) (decodeKey asciiUni sK) && (seqDomOK sL && seqDomOK sK)) sL,
   l.isSome)

/-- All rows hold, and so many have the second component. -/
def sweep {α : Type} (row : α → Bool × Bool) (l : List α) (acc : Bool × Nat) : Bool × Nat :=
  l.foldl (fun acc a => let r := row a; (acc.1 && r.1, if r.2 then acc.2 + 1 else acc.2)) acc

theorem sweep_eq {α : Type} (row : α → Bool × Bool) (l : List α) : ∀ acc : Bool × Nat,
    sweep row l acc = (acc.1 && l.all fun a => (row a).1, acc.2 + (l.filter fun a => (row a).2).length) := by
  induction l with
  | nil => intro acc; simp [sweep]
  | cons a l ih =>
    intro acc
    rw [sweep, List.foldl_cons, ← sweep, ih]
    cases h : (row a).2 <;> simp [h, Bool.and_assoc] <;> omega

theorem xp_sweep : sweep xpRow xpChords (true, 0) = (true, 384) := by decide +kernel

theorem xpRow_fst (ch : Int × Nat × Int) (h : (xpRow ch).1 = true) : xpOK asciiUni ch = true ∧ xpDomOK ch = true := by
  obtain ⟨key, mods, shifted⟩ := ch
  simp only [xpRow, List.all_cons, List.all_nil, Bool.and_true, Bool.and_eq_true] at h
  simp only [xpOK, xpDomOK, List.all_cons, List.all_nil, Bool.and_true, Bool.and_eq_true]
  generalize xtermLegacy key mods shifted false = l0 at h ⊢
  generalize xtermLegacy key mods shifted true = l1 at h ⊢
  obtain ⟨h0, h1⟩ := h
  refine ⟨⟨?_, ?_⟩, ?_, ?_⟩
  · cases l0 with | none => rfl | some s => exact (xpAll_and h0).1
  · cases l1 with | none => rfl | some s => exact (xpAll_and h1).1
  · cases l0 with | none => rfl | some s => exact (xpAll_and h0).2
  · cases l1 with | none => rfl | some s => exact (xpAll_and h1).2

theorem xpRow_snd : (fun ch => (xpRow ch).2) = fun ch => (xtermLegacy ch.1 ch.2.1 ch.2.2 false).isSome :=
  funext fun ⟨_, _, _⟩ => rfl

theorem xp_rows (ch : Int × Nat × Int) (hch : ch ∈ xpChords) : xpOK asciiUni ch = true ∧ xpDomOK ch = true := by
  have h : (xpChords.all fun a => (xpRow a).1) = true := by
    simpa only [Bool.true_and] using (congrArg Prod.fst (xp_sweep.symm.trans (sweep_eq xpRow xpChords (true, 0)))).symm
  exact xpRow_fst ch (List.all_eq_true.mp h ch hch)

theorem xp_count : (xpChords.filter fun ch => (xtermLegacy ch.1 ch.2.1 ch.2.2 false).isSome).length = 384 := by
  have h := congrArg Prod.snd (xp_sweep.symm.trans (sweep_eq xpRow xpChords (true, 0)))
  simp only [Nat.zero_add, xpRow_snd] at h
  exact h.symm

theorem xp_entry (ch : Int × Nat × Int) (hch : ch ∈ xpChords) (ckm : Bool) (sL : Seq)
    (hL : xtermLegacy ch.1 ch.2.1 ch.2.2 ckm = some sL)
    (nf : Int × Int) (hnf : nf ∈ kittyCodes ch.1) (ft : Form × Bool) (hft : ft ∈ xpForms ch.1 ch.2.1) :
    let c : Chord := { key := ch.1, mods := ch.2.1, shifted := ch.2.2,
                       text := if ft.2 then [if ch.2.1 &&& 1 ≠ 0 then ch.2.2 else ch.1] else [] }
    let sK := kittySeq nf.1 nf.2 c ft.1
    sameForMatching (decodeKey asciiUni sL) (decodeKey asciiUni sK) = true ∧ seqDomOK sL = true ∧ seqDomOK sK = true := by
  obtain ⟨h, hd⟩ := xp_rows ch hch
  obtain ⟨key, mods, shifted⟩ := ch
  simp only [xpOK, xpDomOK, List.all_cons, List.all_nil, Bool.and_true, Bool.and_eq_true] at h hd
  simp only at hL
  have h' := (show _ ∧ _ from by cases ckm; exact ⟨h.1, hd.1⟩; exact ⟨h.2, hd.2⟩ :
    (match xtermLegacy key mods shifted ckm with
      | none => true
      | some sL => xpAll key mods shifted (fun sL sK => sameForMatching (decodeKey asciiUni sL) (decodeKey asciiUni sK)) sL) = true ∧
    (match xtermLegacy key mods shifted ckm with
      | none => true
      | some sL => xpAll key mods shifted (fun sL sK => seqDomOK sL && seqDomOK sK) sL) = true)
  rw [hL] at h'
  simp only [xpAll] at h'
  have h2 := List.all_eq_true.mp (List.all_eq_true.mp h'.1 nf hnf) ft hft
  have hd2 := List.all_eq_true.mp (List.all_eq_true.mp h'.2 nf hnf) ft hft
  simp only [Bool.and_eq_true] at hd2
  exact ⟨h2, hd2⟩

end VaxisModel.Lemmas.KeyCross
