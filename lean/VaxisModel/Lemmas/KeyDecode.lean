/-
Helper lemmas for C09 `decode_exact_*`: the decoder on the sequences the Spec encoders produce.
-/
import VaxisModel.Model.Key
import VaxisModel.Spec.KeyEnc
import VaxisModel.Lemmas.KeyMatch

namespace VaxisModel.Lemmas.KeyDecode
open VaxisModel.Model.Key VaxisModel.Spec.KeyEnc VaxisModel.Gen.Keys

theorem shiftText_eq (u : Uni) (k : Key) : shiftText u k = shiftFix u k := by
  unfold shiftText shiftFix
  by_cases hp : u.isPrint k.shifted = true
  · simp only [hp, if_true]; rfl
  · simp only [hp]; rfl

theorem decodeKey_eq (u : Uni) (s : Seq) : decodeKey u s = shiftFix u (decodeRaw u s) := shiftText_eq u _

theorem shiftFix_id (u : Uni) (k : Key) (h : k.text ≠ [] ∨ stripLocks k.mods ≠ shiftBit) : shiftFix u k = k := by
  unfold shiftFix
  rcases h with h | h <;> simp [h]

/-- A form that carries every field the chord sets reports the chord itself (text as far as the form has it). -/
theorem kittyExpected_carries (u : Uni) (ch : Chord) (f : Form)
    (hs : f.withShifted = false → ch.shifted = 0) (hb : f.withBase = false → ch.base = 0)
    (hm : f.hasMods = false → ch.mods = 0) (he : f.withEvent = false → ch.event = 0) :
    kittyExpected u ch f = shiftFix u {
      keycode := ch.key, shifted := ch.shifted, base := ch.base, mods := ch.mods,
      event := ch.event, text := if f.withText then ch.text else [] } := by
  unfold kittyExpected
  congr 2
  · cases h : f.withShifted <;> simp [hs, h]
  · cases h : f.withBase <;> simp [hb, h]
  · cases h : f.hasMods <;> simp [hm, h]
  · cases h : f.withEvent <;> simp [he, h]

theorem toRune_id (x : Int) (h0 : 0 ≤ x) (h1 : x < 2147483648) : toRune x = x :=
  VaxisModel.Lemmas.KeyMatch.toRune_of_int32 x (by omega) h1

/-- The C0 arm of `decodeKey` (it does not consult `unicode`). -/
def c0Raw (b : Int) : Key :=
  match lookup b c0Keys with
  | some k => { keycode := k }
  | none =>
    let kc : Int := if b = 0 then 64 else if b ≤ 0x1A then b + 0x60 else if b < 0x20 then b + 0x40 else 0
    { keycode := kc, mods := ModCtrl }

theorem decodeRaw_c0 (u : Uni) (b : Int) : decodeRaw u (.c0 b) = c0Raw b := rfl

/-- The SS3 arm of `decodeKey`. -/
def ss3Raw (b : Int) : Key :=
  match lookup b ss3Keys with
  | some k => { keycode := k }
  | none => {}

theorem decodeRaw_ss3 (u : Uni) (b : Int) : decodeRaw u (.ss3 b) = ss3Raw b := rfl

theorem c0Raw_table : ∀ n : Fin 32, c0Raw (n.val : Int) = c0Expected (n.val : Int) ∧
    stripLocks (c0Raw (n.val : Int)).mods ≠ shiftBit := by decide

/-- A 31-bit non-negative value: `rune(x)` keeps it. -/
def inRune (x : Int) : Prop := 0 ≤ x ∧ x < 2147483648

theorem lookup2_some_mem {k : Int × Int} {v : Int} :
    ∀ {l : List ((Int × Int) × Int)}, lookup2 k l = some v → ((k.1, k.2), v) ∈ l
  | [], h => by simp [lookup2] at h
  | (k', v') :: rest, h => by
    unfold lookup2 at h
    split at h
    · rename_i hk
      cases h
      have : k' = (k.1, k.2) := by
        rcases k' with ⟨a, b⟩; simp at hk; simp [hk.1, hk.2]
      simp [this]
    · exact List.mem_cons_of_mem _ (lookup2_some_mem h)

theorem all_lookup {l l' : List ((Int × Int) × Int)} (h : (l.all fun e => lookup2 e.1 l' = some e.2) = true)
    {e : (Int × Int) × Int} (he : e ∈ l) : lookup2 e.1 l' = some e.2 := by
  have := List.all_eq_true.mp h e he
  simpa using this

theorem lookup2_tables_agree {l l' : List ((Int × Int) × Int)}
    (h1 : (l.all fun e => lookup2 e.1 l' = some e.2) = true)
    (h2 : (l'.all fun e => lookup2 e.1 l = some e.2) = true) (k : Int × Int) :
    lookup2 k l = lookup2 k l' := by
  cases h : lookup2 k l with
  | some v =>
    have := all_lookup h1 (lookup2_some_mem h)
    simpa using this.symm
  | none =>
    cases h' : lookup2 k l' with
    | none => rfl
    | some w =>
      have := all_lookup h2 (lookup2_some_mem h')
      have e : lookup2 k l = some w := by simpa using this
      rw [h] at e; cases e

theorem decodeKey_print (u : Uni) (g : Str) (hg : g ≠ [])
    (h127 : u.isUpper (g.headD 0) = true → u.toLower (g.headD 0) ≠ 127) :
    decodeKey u (.print g) = printExpected u g := by
  have hraw : decodeRaw u (.print g) = printExpected u g := by
    dsimp only [decodeRaw, printExpected]
    generalize g.headD 0 = ch at h127 ⊢
    by_cases hu : u.isUpper ch = true
    · have := h127 hu
      simp [hu, KeyBackspace, this, ModShift, shiftBit]
    · by_cases hd : ch = 127
      · subst hd; simp [hu, KeyBackspace]
      · simp [hu, hd, KeyBackspace]
  rw [decodeKey_eq, hraw]
  apply shiftFix_id
  dsimp only [printExpected]
  generalize g.headD 0 = ch
  by_cases hu : u.isUpper ch = true
  · left; simp [hu, hg]
  · by_cases hd : ch = 127
    · right; subst hd; simp [hu, stripLocks, andNot, shiftBit]
    · left; simp [hu, hd, hg]

theorem decodeKey_c0 (u : Uni) (b : Int) (h0 : 0 ≤ b) (h1 : b < 32) :
    decodeKey u (.c0 b) = c0Expected b := by
  obtain ⟨n, rfl⟩ : ∃ n : Nat, b = n := ⟨b.toNat, by omega⟩
  have hn : n < 32 := by omega
  have := c0Raw_table ⟨n, hn⟩
  rw [decodeKey_eq, decodeRaw_c0, shiftFix_id _ _ (Or.inr this.2)]
  exact this.1

theorem decodeKey_esc (u : Uni) (final : Int) : decodeKey u (.esc final) = escExpected u final := by
  rw [decodeKey_eq]
  have hraw : decodeRaw u (.esc final) = escExpected u final := by
    dsimp only [decodeRaw, escExpected]
    split <;> rfl
  rw [hraw]
  apply shiftFix_id; right
  unfold escExpected
  split
  · show stripLocks (altBit ||| shiftBit) ≠ shiftBit; decide
  · show stripLocks altBit ≠ shiftBit; decide

end VaxisModel.Lemmas.KeyDecode
