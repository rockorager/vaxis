/-
Helper lemmas for C09: bit-level facts about `andNot` (Go's `&^`), the reduction of
`Model.Key.matches` to the documented rules, `rune(x)` on an int32.
-/
import VaxisModel.Model.Key
import VaxisModel.Spec.KeyEnc

namespace VaxisModel.Lemmas.KeyMatch
open VaxisModel.Model.Key VaxisModel.Spec.KeyEnc VaxisModel.Gen.Keys

theorem testBit_andNot (a b i : Nat) : (andNot a b).testBit i = (a.testBit i && !b.testBit i) := by
  simp only [andNot, Nat.testBit_xor, Nat.testBit_and]
  cases a.testBit i <;> cases b.testBit i <;> rfl

theorem andNot_andNot (x a b : Nat) : andNot (andNot x a) b = andNot x (a ||| b) := by
  apply Nat.eq_of_testBit_eq; intro i
  simp only [testBit_andNot, Nat.testBit_or]
  cases x.testBit i <;> cases a.testBit i <;> cases b.testBit i <;> rfl

theorem ite_true_iff {c : Prop} [Decidable c] {e : Bool} :
    ((if c then true else e) = true) ↔ (c ∨ e = true) := by
  by_cases h : c <;> simp [h]

theorem strip_eq (m : Nat) : andNot (andNot m ModCapsLock) ModNumLock = stripLocks m := by
  rw [andNot_andNot]; rfl

theorem matches_iff (u : Uni) (k : Key) (key : Int) (m : Nat) :
    «matches» u k key m = true ↔ matchSpec u k key m := by
  unfold «matches» matchSpec
  simp only [ite_true_iff, strip_eq]
  have hs : ModShift = shiftBit := rfl
  simp only [hs, unshift, Bool.and_eq_true, Bool.not_eq_true', Bool.false_eq_true, or_false]
  -- the two sides differ in the shape of the fifth rule only
  refine or_congr Iff.rfl (or_congr Iff.rfl (or_congr Iff.rfl (or_congr Iff.rfl (or_congr ?_ Iff.rfl))))
  constructor
  · rintro ⟨⟨h1, h2⟩, (⟨h3, h4⟩ | ⟨h3, h4⟩)⟩
    · exact ⟨h1, h2, Or.inl h3, h4.symm⟩
    · exact ⟨h1, h2, Or.inr h3, h4.symm⟩
  · rintro ⟨h1, h2, (h3 | h3), h4⟩
    · exact ⟨⟨h1, h2⟩, Or.inl ⟨h3, h4.symm⟩⟩
    · exact ⟨⟨h1, h2⟩, Or.inr ⟨h3, h4.symm⟩⟩

theorem strong_andNot (x b : Nat) (h : b &&& strongMask = 0) : strong (andNot x b) = strong x := by
  unfold strong andNot
  rw [Nat.and_xor_distrib_right, Nat.and_assoc, h, Nat.and_zero, Nat.xor_zero]

theorem strong_strip (m : Nat) : strong (stripLocks m) = strong m := strong_andNot _ _ (by decide)
theorem strong_unshift (m : Nat) : strong (unshift m) = strong m := strong_andNot _ _ (by decide)

def weakMask : Nat := shiftBit ||| capsBit ||| numBit

theorem unshift_strip (m : Nat) : unshift (stripLocks m) = andNot m weakMask := by
  unfold unshift stripLocks weakMask
  rw [andNot_andNot]
  congr 1

theorem unshift_idem (m : Nat) : unshift (unshift m) = unshift m := by
  unfold unshift; rw [andNot_andNot, Nat.or_self]

theorem matchSpec_core {u : Uni} {k : Key} {key : Int} {m : Nat} (h : matchSpec u k key m) :
    andNot k.mods weakMask = andNot m weakMask := by
  rw [← unshift_strip, ← unshift_strip]
  rcases h with ⟨_, h⟩ | ⟨_, h⟩ | ⟨_, h⟩ | ⟨_, h⟩ | ⟨_, _, _, h⟩ | ⟨_, _, _, _, h⟩
  · rw [h]
  · rw [h]
  · rw [h, unshift_idem]
  · rw [h]
  · exact h.symm
  · exact h.symm

theorem strip_xor_locks (m l : Nat) (hl : andNot l (capsBit ||| numBit) = 0) :
    stripLocks (m ^^^ l) = stripLocks m := by
  apply Nat.eq_of_testBit_eq; intro i
  have h := congrArg (·.testBit i) hl
  simp only [testBit_andNot, Nat.zero_testBit] at h
  simp only [stripLocks, testBit_andNot, Nat.testBit_xor]
  cases hb : (capsBit ||| numBit).testBit i <;> simp_all

theorem matchSpec_congr (u : Uni) (k k' : Key) (key : Int) (m m' : Nat)
    (hk : k' = { k with mods := k'.mods }) (h1 : stripLocks k'.mods = stripLocks k.mods)
    (h2 : stripLocks m' = stripLocks m) : matchSpec u k' key m' ↔ matchSpec u k key m := by
  unfold matchSpec
  rw [h1, h2, hk]

theorem toRune_of_int32 (x : Int) (h0 : -2147483648 ≤ x) (h1 : x < 2147483648) : toRune x = x := by
  unfold toRune; omega

end VaxisModel.Lemmas.KeyMatch
