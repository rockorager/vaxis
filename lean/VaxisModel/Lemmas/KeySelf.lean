/-
Helper lemmas for C09 `self_match`: `strings.Split` on `prefix ++ name`, independence of
`MatchString` from the non-ASCII part of the `unicode` tables on ASCII strings, and `keyString`
case by case (`keycode_cases`, `keyString_name` … `keyString_char`).
-/
import VaxisModel.Model.Key
import VaxisModel.Spec.KeyEnc
import VaxisModel.Lemmas.KeyMatch
import VaxisModel.Lemmas.ListSplit

namespace VaxisModel.Lemmas.KeySelf
open VaxisModel.Model.Key VaxisModel.Spec.KeyEnc VaxisModel.Gen.Keys VaxisModel.Lemmas.KeyMatch
open VaxisModel.Lemmas.ListSplit

theorem splitOn_eq_split (sep : Int) : ∀ s, splitOn sep s = split sep s
  | [] => rfl
  | c :: rest => by
    simp only [splitOn, split, splitOn_eq_split sep rest]
    cases h : split sep rest with
    | nil => exact absurd h (split_ne_nil sep rest)
    | cons a t => by_cases hc : c = sep <;> simp [hc]

theorem splitOn_ne_nil (sep : Int) (s : Str) : splitOn sep s ≠ [] := by
  rw [splitOn_eq_split]; exact split_ne_nil sep s

theorem splitOn_noSep (sep : Int) (s : Str) (h : sep ∉ s) : splitOn sep s = [s] := by
  rw [splitOn_eq_split]; exact (split_field sep s (fun b hb e => h (e ▸ hb))).1

theorem splitOn_append (sep : Int) (name : Str) (h : sep ∉ name) :
    ∀ p, splitOn sep (p ++ name) = (splitOn sep p).dropLast ++ [(splitOn sep p).getLastD [] ++ name]
  | [] => by simp [splitOn, splitOn_noSep sep name h]
  | c :: rest => by
    have ih := splitOn_append sep name h rest
    have hne := splitOn_ne_nil sep rest
    by_cases hc : c = sep
    · simp only [List.cons_append, splitOn, hc, if_true]
      rw [ih]
      cases hS : splitOn sep rest with
      | nil => exact absurd hS hne
      | cons a t => simp [List.dropLast, List.getLastD]
    · simp only [List.cons_append, splitOn, hc, if_false]
      rw [ih]
      cases hS : splitOn sep rest with
      | nil => exact absurd hS hne
      | cons a t =>
        cases t with
        | nil => simp
        | cons b t' => simp [List.dropLast]

/-- The `unicode` functions agree with Go's on ASCII (all that `MatchString` needs for ASCII names). -/
structure AsciiAgree (u : Uni) : Prop where
  lower : ∀ r, 0 ≤ r → r < 128 → u.toLower r = asciiUni.toLower r
  fold : ∀ a b, 0 ≤ a → a < 128 → 0 ≤ b → b < 128 → u.foldEq a b = asciiUni.foldEq a b

def asciiB (s : Str) : Bool := s.all fun r => decide (0 ≤ r) && decide (r < 128)

theorem asciiB_cons {c : Int} {s : Str} : asciiB (c :: s) = true ↔ (0 ≤ c ∧ c < 128) ∧ asciiB s = true := by
  simp [asciiB]

theorem asciiB_mem {s : Str} (h : asciiB s = true) {r : Int} (hr : r ∈ s) : 0 ≤ r ∧ r < 128 := by
  have := List.all_eq_true.mp h r hr
  simpa using this

theorem map_lower_congr {u : Uni} (hu : AsciiAgree u) : ∀ s, asciiB s = true → s.map u.toLower = s.map asciiUni.toLower
  | [], _ => rfl
  | c :: rest, h => by
    obtain ⟨hc, hr⟩ := asciiB_cons.1 h
    simp [hu.lower c hc.1 hc.2, map_lower_congr hu rest hr]

theorem parseMods_congr {u : Uni} (hu : AsciiAgree u) : ∀ l : List Str, (l.all asciiB) = true → parseMods u l = parseMods asciiUni l
  | [], _ => rfl
  | m :: rest, h => by
    simp only [List.all_cons, Bool.and_eq_true] at h
    simp only [parseMods, map_lower_congr hu m h.1, parseMods_congr hu rest h.2]

theorem equalFold_congr {u : Uni} (hu : AsciiAgree u) : ∀ a b : Str, asciiB a = true → asciiB b = true →
    equalFold u a b = equalFold asciiUni a b
  | [], [], _, _ => rfl
  | [], _ :: _, _, _ => rfl
  | _ :: _, [], _, _ => rfl
  | x :: a, y :: b, ha, hb => by
    obtain ⟨hx, ha'⟩ := asciiB_cons.1 ha
    obtain ⟨hy, hb'⟩ := asciiB_cons.1 hb
    simp only [equalFold, hu.fold x y hx.1 hx.2 hy.1 hy.2, equalFold_congr hu a b ha' hb']

theorem findName_congr {u : Uni} (hu : AsciiAgree u) (key : Str) (hk : asciiB key = true) :
    ∀ tbl : List (Int × Str), (tbl.all fun e => asciiB e.2) = true → findName u key tbl = findName asciiUni key tbl
  | [], _ => rfl
  | (k, name) :: rest, h => by
    simp only [List.all_cons, Bool.and_eq_true] at h
    simp only [findName, equalFold_congr hu name key h.1 hk, findName_congr hu key hk rest h.2]

theorem matchFields_concat (u : Uni) (k : Key) (D : List Str) (a b : Int) (rest : Str) :
    matchFields u k (D ++ [a :: b :: rest]) =
      match findName u (a :: b :: rest) keyNames with
      | some kn => «matches» u k kn (parseMods u D)
      | none => «matches» u k a (parseMods u D) := by
  simp [matchFields]
  cases findName u (a :: b :: rest) keyNames <;> rfl

theorem matchString_long (u : Uni) (k : Key) (p : Str) (a b : Int) (rest : Str) :
    matchString u k (p ++ a :: b :: rest) = matchFields u k (splitOn 43 (p ++ a :: b :: rest)) := by
  cases p with
  | nil => rfl
  | cons c p' =>
    cases p' with
    | nil => rfl
    | cons d p'' => rfl

/-- The keys the switch of `Key.String()` lists in its first case (their names come from `keyNames`). -/
abbrev NamedFirst (kc : Int) : Prop :=
  kc = KeyTab ∨ kc = KeySpace ∨ kc = KeyEsc ∨ kc = KeyBackspace ∨ kc = KeyEnter

/-- …in numbers, for `omega`. -/
theorem NamedFirst.num {kc : Int} (h : NamedFirst kc) : kc = 9 ∨ kc = 32 ∨ kc = 27 ∨ kc = 127 ∨ kc = 13 := h

/-- What `Key.String()` writes before the key itself: the modifiers, except on a release. -/
def keyPre (k : Key) : Str := if k.event ≠ EventRelease then modPrefix k.mods stringMods else []

theorem keyPre_press {k : Key} (hev : k.event ≠ EventRelease) : keyPre k = modPrefix k.mods stringMods := if_pos hev

theorem keycode_cases (kc : Int) :
    (NamedFirst kc ∨ maxRune < kc) ∨ kc = 8 ∨ kc < 0 ∨ (¬ NamedFirst kc ∧ kc ≠ 8 ∧ 0 ≤ kc ∧ kc < 32) ∨
      (¬ NamedFirst kc ∧ 32 ≤ kc ∧ kc ≤ maxRune) := by
  by_cases hn : NamedFirst kc
  · exact .inl (.inl hn)
  · simp only [hn, false_or, not_false_eq_true, true_and, maxRune]; omega

theorem keyString_name (u : Uni) (k : Key) (h : NamedFirst k.keycode ∨ maxRune < k.keycode) :
    keyString u k = keyPre k ++ findKeyName k.keycode keyNames := by
  unfold keyString
  rcases h with h | h
  · simp only [show (_ ∨ _ ∨ _ ∨ _ ∨ _) from h, if_true, keyPre]
  · have hn : ¬ NamedFirst k.keycode := fun hn => by have := hn.num; simp only [maxRune] at h; omega
    simp only [maxRune] at h
    simp only [hn, show ¬ k.keycode = 8 by omega, show ¬ k.keycode < 0 by omega, show ¬ k.keycode < 0x20 by omega,
      show ¬ k.keycode ≤ maxRune by simp only [maxRune]; omega, if_false, keyPre]

/-- `Ctrl+h` is written as Backspace. -/
theorem keyString_bs (u : Uni) (k : Key) (h : k.keycode = 8) :
    keyString u k = keyPre k ++ findKeyName KeyBackspace keyNames := by
  unfold keyString
  have hn : ¬ NamedFirst k.keycode := fun hn => by have := hn.num; omega
  simp only [hn, if_false]
  simp only [h, if_true, keyPre]

theorem keyString_neg (u : Uni) (k : Key) (h : k.keycode < 0) :
    keyString u k = [105, 110, 118, 97, 108, 105, 100] := by
  unfold keyString
  have hn : ¬ NamedFirst k.keycode := fun hn => by have := hn.num; omega
  simp only [hn, show ¬ k.keycode = 8 by omega, h, if_false, if_true]

theorem keyString_ctrl (u : Uni) (k : Key) (hn : ¬ NamedFirst k.keycode) (h8 : k.keycode ≠ 8) (h0 : 0 ≤ k.keycode)
    (h32 : k.keycode < 32) :
    keyString u k =
      [67, 116, 114, 108, 43, if k.keycode = 0 then 64 else if k.keycode ≤ 0x1A then k.keycode + 0x60 else k.keycode + 0x40] := by
  unfold keyString
  simp only [hn, h8, show ¬ k.keycode < 0 by omega, h32, if_false, if_true]

theorem keyString_char (u : Uni) (k : Key) (hn : ¬ NamedFirst k.keycode) (h32 : 32 ≤ k.keycode) (hmax : k.keycode ≤ maxRune) :
    keyString u k = keyPre k ++
      strOfRune (if k.mods &&& ModCapsLock ≠ 0 ∧ k.text = strOfRune (u.toUpper k.keycode) then u.toUpper k.keycode else k.keycode) ++
      findKeyName k.keycode keyNames := by
  unfold keyString
  simp only [hn, show ¬ k.keycode = 8 by omega, show ¬ k.keycode < 0 by omega, show ¬ k.keycode < 0x20 by omega, hmax, if_false,
    if_true, keyPre]

theorem findKeyName_none (kc : Int) : ∀ tbl : List (Int × Str), (∀ e ∈ tbl, e.1 ≠ kc) → findKeyName kc tbl = []
  | [], _ => rfl
  | (k, n) :: rest, h => by
    have h1 : k ≠ kc := h (k, n) (by simp)
    simp [findKeyName, h1, findKeyName_none kc rest (fun e he => h e (by simp [he]))]

theorem matchFields_single (u : Uni) (k : Key) (D : List Str) (c : Int) :
    matchFields u k (D ++ [[c]]) = «matches» u k c (parseMods u D) := by
  simp [matchFields]

theorem splitOn_sep (sep : Int) : ∀ p, splitOn sep (p ++ [sep]) = splitOn sep p ++ [[]]
  | [] => by simp [splitOn]
  | c :: rest => by
    have ih := splitOn_sep sep rest
    have hne := splitOn_ne_nil sep rest
    by_cases hc : c = sep
    · simp only [List.cons_append, splitOn, hc, if_true, ih, List.cons_append]
    · simp only [List.cons_append, splitOn, hc, if_false, ih]
      cases hS : splitOn sep rest with
      | nil => exact absurd hS hne
      | cons a t => simp

theorem matchFields_plus (u : Uni) (k : Key) (D : List Str) (hD : D ≠ []) :
    matchFields u k (D ++ [[], []]) = «matches» u k 43 (parseMods u D) := by
  have e : D ++ [[], []] = (D ++ [[]]) ++ [([] : Str)] := by simp
  have h1 : (D ++ [[], []]).dropLast = D ++ [[]] := by rw [e, List.dropLast_concat]
  have h2 : (D ++ [[], []]).getLastD [] = ([] : Str) := by rw [e, List.getLastD_concat]
  have h3 : (D ++ [([] : Str)]).getLastD [0] = ([] : Str) := List.getLastD_concat ..
  have h4 : (D ++ [[], []]).length > 2 := by
    cases D with
    | nil => exact absurd rfl hD
    | cons a t => simp
  have h5 : (D ++ [([] : Str)]).dropLast = D := List.dropLast_concat
  unfold matchFields
  simp only [h1, h2, h3, h4, h5, and_self, decide_true, if_true]

theorem dropLast_concat_of_last : ∀ S : List Str, S ≠ [] → S.getLastD [] = [] → S = S.dropLast ++ [[]]
  | [], h, _ => absurd rfl h
  | [x], _, h => by simp [List.getLastD] at h; simp [h]
  | x :: y :: t, _, h => by
    have ih := dropLast_concat_of_last (y :: t) (by simp) (by simpa [List.getLastD] using h)
    simp only [List.dropLast_cons_cons, List.cons_append]
    rw [← ih]

theorem named_of_any {kc : Int} (h : (keyNames.any fun e => e.1 == kc) = true) : ∃ e ∈ keyNames, e.1 = kc := by
  obtain ⟨e, he, h⟩ := List.any_eq_true.mp h
  exact ⟨e, he, by simpa using h⟩

end VaxisModel.Lemmas.KeySelf
