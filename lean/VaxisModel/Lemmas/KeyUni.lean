/-
Lemmas for Props/C09.lean and Props/C09Uni.lean: `rune(x)`; the CSI arm of `decodeKey` in closed form for
every parameter list over ℤ (its loops → closed forms → `Spec.KeyEncUni.csiFields`), and on the reports
`kittySeq` builds; the legacy report of a character key; `sameForMatching_sound` (the soundness of
`KeyCross.sameForMatching`, here because it is an instance of the statement for an arbitrary `unicode` oracle).
-/
import VaxisModel.Model.Key
import VaxisModel.Spec.KeyEnc
import VaxisModel.Spec.KeyEncUni
import VaxisModel.Lemmas.KeyMatch
import VaxisModel.Lemmas.KeyDecode
import VaxisModel.Lemmas.KeyCross

namespace VaxisModel.Lemmas.KeyUni
open VaxisModel.Model.Key VaxisModel.Spec.KeyEnc VaxisModel.Spec.KeyEncUni VaxisModel.Gen.Keys
open VaxisModel.Lemmas.KeyMatch VaxisModel.Lemmas.KeyDecode VaxisModel.Lemmas.KeyCross

theorem toRune_eq_wrap32 (x : Int) : toRune x = wrap32 x := by
  unfold toRune wrap32
  simp only
  split <;> omega

theorem wrap32_id (x : Int) (h0 : 0 ≤ x) (h1 : x < 2147483648) : wrap32 x = x := by
  unfold wrap32; simp only; split <;> omega

theorem wrap32_periodic (x n : Int) : wrap32 (x + 4294967296 * n) = wrap32 x := by
  unfold wrap32
  simp only [Int.add_mul_emod_self_left]

theorem wrap32_high (x : Int) (h0 : 2147483648 ≤ x) (h1 : x < 4294967296) : wrap32 x = x - 4294967296 := by
  unfold wrap32; simp only; split <;> omega

theorem wrap32_range (x : Int) : -2147483648 ≤ wrap32 x ∧ wrap32 x < 2147483648 := by
  unfold wrap32; simp only; split <;> omega

theorem wrap32_idem (x : Int) : wrap32 (wrap32 x) = wrap32 x := by
  have := wrap32_range x
  unfold wrap32 at this ⊢
  simp only at this ⊢
  split <;> split <;> omega

theorem csiCodes_ge3 (fin : Int) : ∀ (l : List Int) (j : Nat) (key : Key), 3 ≤ j → csiCodes fin l j key = key
  | [], _, _, _ => rfl
  | _ :: rest, j, key, h => by
    unfold csiCodes
    match j, h with
    | j + 3, _ => exact csiCodes_ge3 fin rest (j + 3 + 1) key (by omega)

theorem csiParams_ge3 (fin : Int) : ∀ (l : List (List Int)) (i : Nat) (key : Key), 3 ≤ i → csiParams fin l i key = key
  | [], _, _, _ => rfl
  | _ :: rest, i, key, h => by
    unfold csiParams
    match i, h with
    | i + 3, _ => exact csiParams_ge3 fin rest (i + 3 + 1) key (by omega)

/-- The key-code sub-parameters in closed form (any length). -/
def codesSpec (fin : Int) (p0 : List Int) (key : Key) : Key :=
  let k1 : Key := match p0[0]? with
    | none => key
    | some n =>
      if wrap32 n = 1 ∧ fin = 90 then { key with keycode := KeyTab, mods := ModShift }
      else match lookup2 (wrap32 n, fin) specialsKeys with
        | some k => { key with keycode := k }
        | none => { key with keycode := wrap32 n }
  let k2 : Key := match p0[1]? with | some s => { k1 with shifted := wrap32 s } | none => k1
  match p0[2]? with | some b => { k2 with base := wrap32 b } | none => k2

theorem csiCodes_eq (fin : Int) (p0 : List Int) (key : Key) : csiCodes fin p0 0 key = codesSpec fin p0 key := by
  have tail : ∀ rest k, csiCodes fin rest 3 k = k := fun rest k => csiCodes_ge3 fin rest 3 k (Nat.le_refl 3)
  match p0 with
  | [] => rfl
  | [a] | [a, _] | a :: _ :: _ :: _ =>
    simp only [csiCodes, codesSpec, toRune_eq_wrap32, tail]
    by_cases hz : wrap32 a = 1 ∧ fin = 90
    · simp [hz]
    · cases hl : lookup2 (wrap32 a, fin) specialsKeys <;> simp [hz, hl]

/-- The modifier sub-parameters in closed form (any length).  The model's `pm.headD 0` is only
    evaluated at `j = 0` of `csiMods pm pm 0`, where the list is `m :: _`: the default is never used. -/
def modsSpec (p1 : List Int) (key : Key) : Key :=
  match p1 with
  | [] => key
  | [m] => { key with mods := (m - 1).toNat }
  | m :: e :: _ => { key with mods := (m - 1).toNat, event := e - 1 }

/-- The same loop with the default of `headD` replaced by any other value gives the same result:
    Go's `pm[0]` inside `for j, ps := range pm` is never out of range. -/
def csiModsD (d : Int) (pm : List Int) : List Int → Nat → Key → Key
  | [], _, key => key
  | ps :: rest, j, key =>
    let key' :=
      match j with
      | 0 => { key with mods := (pm.headD d - 1).toNat }
      | 1 => { key with event := ps - 1 }
      | _ => key
    csiModsD d pm rest (j + 1) key'

theorem csiModsD_zero (pm l : List Int) (j : Nat) (key : Key) : csiModsD 0 pm l j key = csiMods pm l j key := by
  induction l generalizing j key with
  | nil => rfl
  | cons a l ih => unfold csiModsD csiMods; exact ih _ _

theorem csiModsD_ge2 (d : Int) (pm : List Int) : ∀ (l : List Int) (j : Nat) (key : Key), 2 ≤ j → csiModsD d pm l j key = key
  | [], _, _, _ => rfl
  | _ :: rest, j, key, h => by
    unfold csiModsD
    match j, h with
    | j + 2, _ => exact csiModsD_ge2 d pm rest (j + 2 + 1) key (by omega)

theorem csiModsD_eq (d : Int) (p1 : List Int) (key : Key) : csiModsD d p1 p1 0 key = modsSpec p1 key := by
  match p1 with
  | [] => rfl
  | [m] => simp [csiModsD, modsSpec]
  | m :: e :: rest =>
    simp only [csiModsD, modsSpec, csiModsD_ge2 d (m :: e :: rest) rest 2 _ (Nat.le_refl 2)]
    simp

theorem csiMods_eq (p1 : List Int) (key : Key) : csiMods p1 p1 0 key = modsSpec p1 key := by
  rw [← csiModsD_zero, csiModsD_eq]

theorem csiMods_default_unused (d : Int) (p1 : List Int) (key : Key) : csiModsD d p1 p1 0 key = csiMods p1 p1 0 key := by
  rw [csiModsD_eq, csiMods_eq]

/-- The text / modifyOtherKeys parameter in closed form. -/
def textSpec (fin : Int) (p2 : List Int) (key : Key) : Key :=
  match p2 with
  | [] => key
  | c :: _ =>
    if key.keycode = 27 ∧ fin = 126 then { key with keycode := wrap32 c }
    else { key with text := key.text ++ p2.map textRune }

theorem map_textRune (p2 : List Int) :
    (p2.map fun p => if validRune (toRune p) then toRune p else 0xFFFD) = p2.map textRune := by
  apply List.map_congr_left
  intro p _
  simp only [textRune, toRune_eq_wrap32]

def paramsSpec (fin : Int) (ps : List (List Int)) (key : Key) : Key :=
  let k0 := match ps[0]? with | some p0 => codesSpec fin p0 key | none => key
  let k1 := match ps[1]? with | some p1 => modsSpec p1 k0 | none => k0
  match ps[2]? with | some p2 => textSpec fin p2 k1 | none => k1

theorem csiParams2_eq (fin : Int) (p2 : List Int) (key : Key) (rest : List (List Int)) :
    csiParams fin (p2 :: rest) 2 key = textSpec fin p2 key := by
  unfold csiParams
  simp only [csiParams_ge3 fin rest 3 _ (Nat.le_refl 3), map_textRune]
  match p2 with
  | [] => simp [textSpec]
  | c :: t =>
    by_cases h : key.keycode = 27 ∧ fin = 126
    · simp [textSpec, h, toRune_eq_wrap32]
    · have h' : ¬(key.keycode = 27 ∧ fin = 126 ∧ c :: t ≠ []) := fun x => h ⟨x.1, x.2.1⟩
      simp only [textSpec, h, h', if_false]

theorem csiParams_eq (fin : Int) (ps : List (List Int)) (key : Key) :
    csiParams fin ps 0 key = paramsSpec fin ps key := by
  match ps with
  | [] => rfl
  | [p0] => simp [csiParams, paramsSpec, csiCodes_eq]
  | [p0, p1] => simp [csiParams, paramsSpec, csiCodes_eq, csiMods_eq]
  | p0 :: p1 :: p2 :: rest =>
    have := csiParams2_eq fin p2 (modsSpec p1 (codesSpec fin p0 key)) rest
    simp only [csiParams, paramsSpec, csiCodes_eq, csiMods_eq] at this ⊢
    simpa using this

theorem codesSpec_fields (fin : Int) (p0 : List Int)
    (htab : ∀ k, lookup2 k specialsKeys = lookup2 k functional) :
    codesSpec fin p0 {} =
      { keycode := csiKeyOf p0 fin
        shifted := match p0[1]? with | some s => wrap32 s | none => 0
        base := match p0[2]? with | some b => wrap32 b | none => 0
        mods := if isShiftTab p0 fin = true then shiftBit else 0 } := by
  have hs : ModShift = shiftBit := rfl
  cases p0 with
  | nil => rfl
  | cons a t =>
    simp only [codesSpec, csiKeyOf, isShiftTab, htab, hs, List.getElem?_cons_zero, List.getElem?_cons_succ]
    by_cases hz : wrap32 a = 1 ∧ fin = 90
    · cases t[0]? <;> cases t[1]? <;> simp [hz]
    · cases lookup2 (wrap32 a, fin) functional <;> cases t[0]? <;> cases t[1]? <;> simp [hz]

theorem modsSpec_fields (p1 : List Int) (k : Key) :
    modsSpec p1 k =
      { k with
        mods := match p1[0]? with | some m => (m - 1).toNat | none => k.mods
        event := match p1[1]? with | some e => e - 1 | none => k.event } := by
  match p1 with
  | [] => rfl
  | [m] => rfl
  | m :: e :: rest => rfl

theorem textSpec_fields (fin : Int) (p2 : List Int) (k : Key) (ht : k.text = []) :
    textSpec fin p2 k =
      { k with
        keycode := match p2[0]? with
          | some c => if decide (k.keycode = 27 ∧ fin = 126) = true then wrap32 c else k.keycode
          | none => k.keycode
        text := if decide (k.keycode = 27 ∧ fin = 126) = true then [] else p2.map textRune } := by
  match p2 with
  | [] => cases k; simp_all [textSpec]
  | c :: t =>
    by_cases h : k.keycode = 27 ∧ fin = 126
    · simp [textSpec, h, ht]
    · simp [textSpec, h, ht]

theorem paramsSpec_fields (fin : Int) (ps : List (List Int)) (hne : ps ≠ [])
    (htab : ∀ k, lookup2 k specialsKeys = lookup2 k functional) :
    paramsSpec fin ps {} = csiFieldsNE ps fin := by
  match ps, hne with
  | [p0], _ =>
    simp only [paramsSpec, csiFieldsNE, List.getElem?_cons_zero, List.getElem?_cons_succ, List.getElem?_nil,
      Option.getD_some, Option.getD_none, codesSpec_fields fin p0 htab, List.map_nil, ite_self]
    rfl
  | [p0, p1], _ =>
    simp only [paramsSpec, csiFieldsNE, List.getElem?_cons_zero, List.getElem?_cons_succ, List.getElem?_nil,
      Option.getD_some, Option.getD_none, codesSpec_fields fin p0 htab, modsSpec_fields, List.map_nil, ite_self]
    rfl
  | p0 :: p1 :: p2 :: rest, _ =>
    simp only [paramsSpec, csiFieldsNE, List.getElem?_cons_zero, List.getElem?_cons_succ,
      Option.getD_some, codesSpec_fields fin p0 htab, modsSpec_fields]
    rw [textSpec_fields fin p2 _ rfl]
    rfl

theorem decodeRaw_csi_fields (u : Uni) (params : List (List Int)) (fin : Int)
    (htab : ∀ k, lookup2 k specialsKeys = lookup2 k functional) :
    decodeRaw u (.csi params fin) = csiFields params fin := by
  show csiParams fin (if params = [] then [[1]] else params) 0 {} = _
  rw [csiParams_eq, paramsSpec_fields fin _ (by split <;> simp_all) htab]
  rfl

theorem shiftFix_keycode (u : Uni) (k : Key) : (shiftFix u k).keycode = k.keycode := by
  unfold shiftFix; split <;> rfl

theorem shiftFix_mods (u : Uni) (k : Key) : (shiftFix u k).mods = k.mods := by
  unfold shiftFix; split <;> rfl

theorem shiftFix_event (u : Uni) (k : Key) : (shiftFix u k).event = k.event := by
  unfold shiftFix; split <;> rfl

theorem lookup2_neg (n f : Int) (hn : n < 0) : ∀ (l : List ((Int × Int) × Int)),
    (l.all fun e => decide (0 ≤ e.1.1)) = true → lookup2 (n, f) l = none
  | [], _ => rfl
  | (k', v) :: rest, h => by
    simp only [List.all_cons, Bool.and_eq_true, decide_eq_true_eq] at h
    unfold lookup2
    have : ¬((n, f).1 = k'.1 ∧ (n, f).2 = k'.2) := by
      intro hh; have := hh.1; simp only at this; omega
    rw [if_neg this]
    exact lookup2_neg n f hn rest h.2

theorem functional_nonneg : (functional.all fun e => decide (0 ≤ e.1.1)) = true := by decide +kernel

theorem textRune_wrap (x : Int) : textRune (wrap32 x) = textRune x := by
  unfold textRune; rw [wrap32_idem]

theorem csiNormal_get (ps : List (List Int)) :
    (csiNormal ps)[0]?.getD [] = (ps[0]?.getD []).map wrap32 ∧ (csiNormal ps)[1]?.getD [] = ps[1]?.getD [] ∧
    (csiNormal ps)[2]?.getD [] = (ps[2]?.getD []).map wrap32 := by
  match ps with
  | [] => exact ⟨rfl, rfl, rfl⟩
  | [p0] => exact ⟨rfl, rfl, rfl⟩
  | [p0, p1] => exact ⟨rfl, rfl, rfl⟩
  | p0 :: p1 :: p2 :: _ => exact ⟨rfl, rfl, rfl⟩

theorem isShiftTab_wrap (p0 : List Int) (fin : Int) : isShiftTab (p0.map wrap32) fin = isShiftTab p0 fin := by
  cases p0 <;> simp [isShiftTab, wrap32_idem]

theorem csiKeyOf_wrap (p0 : List Int) (fin : Int) : csiKeyOf (p0.map wrap32) fin = csiKeyOf p0 fin := by
  cases p0 with
  | nil => rfl
  | cons n t =>
    simp only [csiKeyOf, List.map_cons, List.getElem?_cons_zero, wrap32_idem]
    rw [← List.map_cons, isShiftTab_wrap]

/-- Only the residues modulo 2^32 of the rune-typed fields matter, and nothing after the third parameter:
    every reader of a rune-typed field applies `wrap32`, which is idempotent. -/
theorem csiFieldsNE_normal (ps : List (List Int)) (fin : Int) :
    csiFieldsNE ps fin = csiFieldsNE (csiNormal ps) fin := by
  obtain ⟨e0, e1, e2⟩ := csiNormal_get ps
  have ht : ∀ l : List Int, (l.map wrap32).map textRune = l.map textRune := by
    intro l; rw [List.map_map]; congr 1; funext x; exact textRune_wrap x
  simp only [csiFieldsNE, e0, e1, e2, isModifyOther, isShiftTab_wrap, csiKeyOf_wrap, List.getElem?_map, ht]
  cases (ps[2]?.getD [])[0]? <;> cases (ps[0]?.getD [])[1]? <;> cases (ps[0]?.getD [])[2]? <;> simp [wrap32_idem]

theorem csiFields_normal (params : List (List Int)) (fin : Int) :
    csiFields params fin = csiFields (csiNormal params) fin := by
  unfold csiFields
  match params with
  | [] => rfl
  | [p0] => simpa [csiNormal] using csiFieldsNE_normal [p0] fin
  | [p0, p1] => simpa [csiNormal] using csiFieldsNE_normal [p0, p1] fin
  | p0 :: p1 :: p2 :: rest => simpa [csiNormal] using csiFieldsNE_normal (p0 :: p1 :: p2 :: rest) fin

theorem validRune_range {c : Int} (hv : validRune c = true) : 0 ≤ c ∧ c ≤ maxRune := by
  simp only [validRune, Bool.and_eq_true, decide_eq_true_eq] at hv
  exact hv.1

theorem validRune_inRune {c : Int} (hv : validRune c = true) : inRune c := by
  have := validRune_range hv
  exact ⟨this.1, by simp only [maxRune] at this; omega⟩

theorem wrap32_of_inRune {x : Int} (h : inRune x) : wrap32 x = x := wrap32_id x h.1 h.2

theorem map_textRune_valid (t : Str) (h : ∀ p ∈ t, inRune p ∧ validRune p = true) : t.map textRune = t := by
  induction t with
  | nil => rfl
  | cons a t ih =>
    have ha := h a (by simp)
    rw [List.map_cons, ih (fun p hp => h p (by simp [hp])), textRune, wrap32_of_inRune ha.1, ha.2, if_pos rfl]

theorem csiKeyOf_cons (num fin : Int) (rest : List Int) (key : Int) (hnum : inRune num)
    (hkey : lookup2 (num, fin) functional = some key ∨ (lookup2 (num, fin) functional = none ∧ key = num))
    (hZ : ¬(num = 1 ∧ fin = 90)) :
    isShiftTab (num :: rest) fin = false ∧ csiKeyOf (num :: rest) fin = key := by
  have hs : isShiftTab (num :: rest) fin = false := by
    simp only [isShiftTab, List.getElem?_cons_zero, wrap32_of_inRune hnum, hZ, decide_false]
  refine ⟨hs, ?_⟩
  simp only [csiKeyOf, List.getElem?_cons_zero, hs, wrap32_of_inRune hnum, Bool.false_eq_true, if_false]
  rcases hkey with h | ⟨h, rfl⟩ <;> rw [h]

theorem kitty_p0 (num : Int) (c : Chord) (ws wb : Bool) (hsh : wrap32 c.shifted = c.shifted) (hbase : wrap32 c.base = c.base) :
    ∃ rest, (if wb then [num, if ws then c.shifted else 0, c.base] else if ws then [num, c.shifted] else [num]) = num :: rest ∧
      (match rest[0]? with | some s => wrap32 s | none => 0) = (if ws then c.shifted else 0) ∧
      (match rest[1]? with | some b => wrap32 b | none => 0) = (if wb then c.base else 0) := by
  have h0 : wrap32 0 = 0 := by decide
  cases ws <;> cases wb <;> exact ⟨_, rfl, by simp [hsh, h0], by simp [hbase]⟩

theorem csiFieldsNE_three (num fin key : Int) (rest p1 p2 : List Int)
    (hst : isShiftTab (num :: rest) fin = false) (hk : csiKeyOf (num :: rest) fin = key) (hmok : ¬(key = 27 ∧ fin = 126)) :
    csiFieldsNE [num :: rest, p1, p2] fin =
      { keycode := key
        shifted := match rest[0]? with | some s => wrap32 s | none => 0
        base := match rest[1]? with | some b => wrap32 b | none => 0
        mods := match p1[0]? with | some m => (m - 1).toNat | none => 0
        event := match p1[1]? with | some e => e - 1 | none => 0
        text := p2.map textRune } := by
  have hmo : isModifyOther (num :: rest) fin = false := by simp only [isModifyOther, hk, hmok, decide_false]
  simp only [csiFieldsNE, List.getElem?_cons_zero, List.getElem?_cons_succ, Option.getD_some, hst, hk, hmo, Bool.false_eq_true, if_false]
  congr 1
  split <;> rfl

/-- On 31-bit non-negative parameters the closed form of a kitty / xterm report is the chord it was built from
    (the fields the form carries). -/
theorem csiFields_kitty (num fin : Int) (c : Chord) (f : Form)
    (hnum : inRune num) (hsh : inRune c.shifted) (hbase : inRune c.base)
    (htext : ∀ p ∈ c.text, inRune p ∧ validRune p = true)
    (hkey : lookup2 (num, fin) functional = some c.key ∨ (lookup2 (num, fin) functional = none ∧ c.key = num))
    (hZ : ¬(num = 1 ∧ fin = 90)) (hmok : ¬(c.key = 27 ∧ fin = 126)) :
    (match kittySeq num fin c f with
     | .csi params fin' => csiFields params fin'
     | _ => {}) =
      { keycode := c.key
        shifted := if f.withShifted then c.shifted else 0
        base := if f.withBase then c.base else 0
        mods := if f.hasMods then c.mods else 0
        event := if f.withEvent then c.event else 0
        text := if f.withText then c.text else [] } := by
  obtain ⟨ws, wb, wm, we, wt⟩ := f
  obtain ⟨rest, e0, hs, hb⟩ := kitty_p0 num c ws wb (wrap32_of_inRune hsh) (wrap32_of_inRune hbase)
  obtain ⟨hst, hk⟩ := csiKeyOf_cons num fin rest c.key hnum hkey hZ
  have h3 := fun p1 p2 => csiFieldsNE_three num fin c.key rest p1 p2 hst hk hmok
  have h4 := map_textRune_valid c.text htext
  simp only [kittySeq, e0]
  -- the report has one, two or three parameters; an absent one reads as empty
  have one : csiFieldsNE [num :: rest] fin = csiFieldsNE [num :: rest, [], []] fin := rfl
  have two : ∀ p1, csiFieldsNE [num :: rest, p1] fin = csiFieldsNE [num :: rest, p1, []] fin := fun _ => rfl
  cases wt <;> cases wm <;> cases we <;>
    simp [Form.hasMods, csiFields, one, two, h3, hs, hb, h4]

theorem print_lower (u : Uni) (c : Int) (rest : Str) (hup : u.isUpper c = false) (hdel : c ≠ 127) :
    decodeKey u (.print (c :: rest)) = { keycode := c, text := c :: rest } := by
  rw [decodeKey_print u (c :: rest) (by simp) (by simp [hup])]
  simp [printExpected, hup, hdel]

theorem print_upper (u : Uni) (c C : Int) (rest : Str) (hup : u.isUpper C = true) (hlow : u.toLower C = c) (hdel : c ≠ 127) :
    decodeKey u (.print (C :: rest)) = { keycode := c, shifted := C, mods := shiftBit, text := C :: rest } := by
  rw [decodeKey_print u (C :: rest) (by simp) (by simp [hlow, hdel])]
  simp [printExpected, hup, hlow]

/-- The legacy byte carries the key's own character as text, the kitty report carries no text; the
    key is unmodified; no lower-case rune *with an upper case of its own* has the key's character as that
    upper case (else rule 6 of `Matches` — "Shift + lower-case binding matches the upper-case text" — fires
    for the legacy event only).  Rule 6 does not fire for a rune that is its own
    upper case ('ß': `IsLower('ß')` and `ToUpper('ß') = 'ß'`), so such keys meet the clause; Go's tables
    violate it only for the 27 title-case letters ᾈ … ῼ, which are what Shift + ᾀ … produces, not keys. -/
def OwnCharText (u : Uni) (k1 k2 : Key) : Prop :=
  k1.mods = 0 ∧ k1.text = [k1.keycode] ∧ k2.text = [] ∧ validRune k1.keycode = true ∧ k1.keycode ≠ 0xFFFD ∧
  ∀ r, u.isLower r = true → u.toUpper r ≠ r → u.toUpper r ≠ k1.keycode

theorem sameForMatching_sound_uni (u : Uni) (k1 k2 : Key)
    (hk : k1.keycode = k2.keycode) (hs : k1.shifted = k2.shifted) (hb : k1.base = k2.base)
    (hm : k1.mods = k2.mods) (he : k1.event = k2.event)
    (ht : k1.text = k2.text ∨ OwnCharText u k1 k2) :
    keyString u k1 = keyString u k2 ∧ ∀ b m, «matches» u k1 b m = «matches» u k2 b m := by
  refine ⟨keyString_congr _ _ _ hk hm he (by
    rcases ht with ht | ⟨hm0, _⟩
    · exact Or.inl ht
    · exact Or.inr hm0), ?_⟩
  intro b m
  rcases ht with ht | ⟨hm0, ht1, ht2, hv, hfffd, hup⟩
  · have : k1 = k2 := by
      cases k1; cases k2; simp_all
    rw [this]
  · rw [Bool.eq_iff_iff, matches_iff, matches_iff]
    unfold matchSpec
    rw [← hk, ← hs, ← hb, ← hm, ht1, ht2]
    have f2 : ∀ key, ([k1.keycode] : Str) = strOfRune key → k1.keycode = key := by
      intro key h
      unfold strOfRune at h
      split at h
      · simpa using h
      · simp at h; exact absurd h hfffd
    have g : ∀ key, ([] : Str) ≠ strOfRune key := by
      intro key; unfold strOfRune; split <;> simp
    have f6 : ∀ key, u.isLower key = true → u.toUpper key ≠ key → ([k1.keycode] : Str) ≠ strOfRune (u.toUpper key) := by
      intro key hl hne h
      exact hup key hl hne (f2 _ h).symm
    constructor
    · rintro (h | ⟨h, hM⟩ | h | h | h | ⟨_, hl, hne, h, _⟩)
      · exact Or.inl h
      · exact Or.inl ⟨f2 _ h, hM⟩
      · exact Or.inr (Or.inr (Or.inl h))
      · exact Or.inr (Or.inr (Or.inr (Or.inl h)))
      · exact Or.inr (Or.inr (Or.inr (Or.inr (Or.inl h))))
      · exact absurd h (f6 _ hl hne)
    · rintro (h | ⟨h, _⟩ | h | h | h | ⟨_, _, _, h, _⟩)
      · exact Or.inl h
      · exact absurd h (g _)
      · exact Or.inr (Or.inr (Or.inl h))
      · exact Or.inr (Or.inr (Or.inr (Or.inl h)))
      · exact Or.inr (Or.inr (Or.inr (Or.inr (Or.inl h))))
      · exact absurd h (g _)

theorem sameForMatching_is_instance (k1 k2 : Key) (h : sameForMatching k1 k2 = true) :
    k1.keycode = k2.keycode ∧ k1.shifted = k2.shifted ∧ k1.base = k2.base ∧ k1.mods = k2.mods ∧
    k1.event = k2.event ∧ (k1.text = k2.text ∨ OwnCharText asciiUni k1 k2) := by
  obtain ⟨hk, hs, hb, hm, he, ht⟩ := sameForMatching_fields h
  refine ⟨hk, hs, hb, hm, he, ht.imp id ?_⟩
  rintro ⟨hm0, ht1, ht2, hv, hfffd, hup⟩
  refine ⟨hm0, ht1, ht2, hv, hfffd, ?_⟩
  intro r hl _
  simp only [asciiUni, decide_eq_true_eq] at hl
  simp only [asciiUni, hl, and_self, if_true]
  omega

theorem sameForMatching_sound (k1 k2 : Key) (h : sameForMatching k1 k2 = true) :
    keyString asciiUni k1 = keyString asciiUni k2 ∧
    ∀ b m, «matches» asciiUni k1 b m = «matches» asciiUni k2 b m := by
  obtain ⟨hk, hs, hb, hm, he, ht⟩ := sameForMatching_is_instance k1 k2 h
  exact sameForMatching_sound_uni asciiUni k1 k2 hk hs hb hm he ht

end VaxisModel.Lemmas.KeyUni
