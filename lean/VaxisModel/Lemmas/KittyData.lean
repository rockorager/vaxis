/-
C20: the image-data side of the terminal model (`Model/KittyTerm.lean`).  Invariant over all
histories: for every image, either `uploaded` is set, nothing waits in `k.buf` and the terminal holds the encoding of
the last successful `Resize`; or `uploaded` is clear and that encoding is the last one waiting in `k.buf`.  Proved for
histories that mix kitty and sixel images (`stepK_DI`, `runK_data`); histories of kitty images are the instance.
-/
import VaxisModel.Lemmas.KittyTerm

namespace VaxisModel.Lemmas.KittyData
open VaxisModel.Model.KittyTerm VaxisModel.Model.Placements VaxisModel.Spec.Images VaxisModel.Gen.ImageConsts
open VaxisModel.Lemmas.KittyTerm

def DI (imgs : Nat → KBuf) (t : Term) (latest : Nat → Option Nat) (id : Nat) : Prop :=
  ((imgs id).uploaded = true ∧ (imgs id).buf = [] ∧ t.data id = latest id) ∨
  ((imgs id).uploaded = false ∧ (imgs id).buf.getLast? = latest id ∧ ((imgs id).buf = [] → t.data id = none))

def DataInv (w : World) (id : Nat) : Prop := DI w.imgs w.term w.latest id

theorem update_same {α : Type} (f : Nat → α) (i : Nat) (v : α) : update f i v i = v := by simp [update]
theorem update_other {α : Type} (f : Nat → α) (i j : Nat) (v : α) (h : j ≠ i) : update f i v j = f j := by simp [update, h]

theorem run_transmits_data (t : Term) (id : Nat) (es : List Nat) (j : Nat) :
    (t.run (es.map fun e => Cmd.transmit id e)).data j =
      if j = id then (match es.getLast? with | some e => some e | none => t.data j) else t.data j := by
  induction es generalizing t with
  | nil => simp [Term.run]
  | cons e r ih =>
    rw [List.map_cons, run_cons, ih]
    by_cases hj : j = id
    · simp only [hj, if_true, Term.apply]
      cases hr : r.getLast? with
      | none =>
        have : r = [] := by simpa using hr
        subst this; simp
      | some x => rw [List.getLast?_cons, hr]; rfl
    · simp [hj, Term.apply]

theorem run_place_data (t : Term) (p : Placement) : (t.run [Cmd.place p]).data = t.data := rfl

theorem write_DI (imgs : Nat → KBuf) (t : Term) (latest : Nat → Option Nat) (p : Placement)
    (h : ∀ id, DI imgs t latest id) (id : Nat) :
    DI (update imgs p.id (writeWith stdWriteBody (imgs p.id)).1)
       (t.run ((writeWith stdWriteBody (imgs p.id)).2.flatMap (outCmds p))) latest id := by
  rw [outCmds_std, run_append]
  unfold DI
  rw [run_place_data]
  by_cases hid : id = p.id
  · subst hid
    rw [update_same, writeWith_std, pending]
    rcases h p.id with ⟨hu, hb, hd⟩ | ⟨hu, hb, hd⟩
    all_goals left
    · simp only [hu, if_true]
      exact ⟨trivial, hb, hd⟩
    · simp only [hu, Bool.false_eq_true, if_false, true_and]
      rw [run_transmits_data]
      simp only [if_true]
      cases hl : (imgs p.id).buf.getLast? with
      | none =>
        have hnil : (imgs p.id).buf = [] := by simpa using hl
        rw [← hb, hl]; exact hd hnil
      | some e => rw [← hb, hl]
  · rw [update_other _ _ _ _ hid]
    have hdata : (t.run (pending (imgs p.id) p.id)).data id = t.data id := by
      unfold pending
      split
      · rfl
      · rw [run_transmits_data, if_neg hid]
    rw [hdata]
    exact h id

theorem emit_DI (latest : Nat → Option Nat) (evs : List REv) : ∀ (imgs : Nat → KBuf) (t : Term),
    (∀ id, DI imgs t latest id) →
    ∀ id, DI (emit (fun _ => true) stdWriteBody imgs evs).1 (t.run (emit (fun _ => true) stdWriteBody imgs evs).2) latest id := by
  induction evs with
  | nil => intro imgs t h; exact h
  | cons ev r ih =>
    intro imgs t h
    rw [emit_cons, run_append]
    apply ih
    cases ev with
    | del p => exact h
    | wr p =>
      simp only [emitEv, if_true, List.nil_append]
      exact write_DI imgs t latest p h

theorem write_uploaded (k : KBuf) : (writeWith stdWriteBody k).1.uploaded = true := by
  rw [writeWith_std]
  cases h : k.uploaded <;> simp [h]

theorem emit_keeps_uploaded (evs : List REv) : ∀ (imgs : Nat → KBuf) (id : Nat), (imgs id).uploaded = true →
    ((emit (fun _ => true) stdWriteBody imgs evs).1 id).uploaded = true := by
  induction evs with
  | nil => intro imgs id h; exact h
  | cons ev r ih =>
    intro imgs id h
    rw [emit_cons]
    apply ih
    cases ev with
    | del p => exact h
    | wr p =>
      simp only [emitEv, if_true]
      by_cases hid : id = p.id
      · subst hid; rw [update_same]; exact write_uploaded _
      · rw [update_other _ _ _ _ hid]; exact h

theorem emit_sets_uploaded (evs : List REv) : ∀ (imgs : Nat → KBuf) (p : Placement), REv.wr p ∈ evs →
    ((emit (fun _ => true) stdWriteBody imgs evs).1 p.id).uploaded = true := by
  induction evs with
  | nil => intro imgs p h; cases h
  | cons ev r ih =>
    intro imgs p h
    rw [emit_cons]
    rcases List.mem_cons.mp h with h | h
    · subst h
      apply emit_keeps_uploaded
      simp only [emitEv, if_true]
      rw [update_same]; exact write_uploaded _
    · exact ih _ p h

theorem resize_DI (w : World) (i : Nat) (h : ∀ id, DataInv w id) (id : Nat) :
    DI (update w.imgs i ⟨(w.imgs i).buf ++ [w.serial], false⟩) w.term (update w.latest i (some w.serial)) id := by
  by_cases hid : id = i
  · subst hid
    right
    rw [update_same, update_same]
    exact ⟨rfl, by simp, fun hn => by simp at hn⟩
  · unfold DI
    rw [update_other _ _ _ _ hid, update_other _ _ _ _ hid]
    exact h id

/-- Whichever images are kitty images: a sixel image's events change neither the image states nor the terminal
    (`emit_kitty`). -/
theorem stepK_DI (kitty : Nat → Bool) (w : World) (op : WOp) (h : ∀ id, DataInv w id) : ∀ id, DataInv (w.stepK kitty op) id := by
  have frame : ∀ evs id, DI (emit kitty kittyWriteBody w.imgs evs).1 (w.term.run (emit kitty kittyWriteBody w.imgs evs).2) w.latest id := by
    intro evs id
    rw [emit_congr kitty _ _ writeGen_std, (emit_kitty kitty stdWriteBody _ w.imgs w.term).1,
      (emit_kitty kitty stdWriteBody _ w.imgs w.term).2]
    exact emit_DI w.latest _ w.imgs w.term h id
  cases op with
  | resize i ok =>
    cases ok
    · exact h
    · intro id
      show DI (update w.imgs i (resizeGen (w.imgs i) w.serial)) w.term (update w.latest i (some w.serial)) id
      unfold resizeGen
      rw [resizeGen_std]
      exact resize_DI w i h id
  | draw p => exact h
  | clear => exact h
  | render => exact frame _
  | refresh => exact frame _

theorem runK_data (kitty : Nat → Bool) (ops : List WOp) : ∀ w : World, (∀ id, DataInv w id) → ∀ id, DataInv (w.runK kitty ops) id := by
  induction ops with
  | nil => intro w h; exact h
  | cons op rest ih => intro w h; exact ih (w.stepK kitty op) (stepK_DI kitty w op h)

theorem step_DI (w : World) (op : WOp) (h : ∀ id, DataInv w id) : ∀ id, DataInv (w.step op) id :=
  stepK_all ▸ stepK_DI (fun _ => true) w op h

theorem run_data (ops : List WOp) (w : World) (h : ∀ id, DataInv w id) : ∀ id, DataInv (w.run ops) id :=
  runK_all w ops ▸ runK_data (fun _ => true) ops w h

theorem init_data (id : Nat) : DataInv World.init id := Or.inr ⟨rfl, rfl, fun _ => rfl⟩

theorem written_data (w : World) (hw : ∀ id, DataInv w id) (refresh : Bool) (p : Placement)
    (hp : REv.wr p ∈ (renderGen { w.ps with refresh := w.ps.refresh || refresh }).2) :
    (w.step (if refresh then .refresh else .render)).term.data p.id = w.latest p.id := by
  have hinv := step_DI w (if refresh then .refresh else .render) hw p.id
  unfold renderGen at hp
  rw [render_std_shape.1, render_std_shape.2, VaxisModel.Lemmas.Placements.same_std] at hp
  rw [step_render] at hinv ⊢
  rcases hinv with ⟨_, _, hd⟩ | ⟨hu, _, _⟩
  · exact hd
  · exact absurd ((emit_sets_uploaded _ w.imgs p hp).symm.trans hu) (by decide)

end VaxisModel.Lemmas.KittyData
