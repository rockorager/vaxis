/-
C20: the placement table in histories that mix kitty and sixel images (`World.stepK`).  What a frame
does to the terminal's kitty tables is what the frame restricted to the kitty images does: sixel placements contribute no
delete command and a write the tables ignore (`Lemmas.KittyTerm.emit_kitty`), and the diff of `render` commutes with
restricting both lists to the kitty images.  (The image-data invariant of such histories is in `Lemmas/KittyData`.)
-/
import VaxisModel.Lemmas.KittyTerm

namespace VaxisModel.Lemmas.KittyMixed
open VaxisModel.Model.KittyTerm VaxisModel.Model.Placements VaxisModel.Spec.Images VaxisModel.Gen.ImageConsts
open VaxisModel.Lemmas.KittyTerm

theorem renderGen_std (s : State) :
    renderGen s = ((renderWith stdSame s).1,
      (renderWith stdSame s).2.deletes.map .del ++ (renderWith stdSame s).2.writes.map .wr) := by
  unfold renderGen
  rw [render_std_shape.1, render_std_shape.2, VaxisModel.Lemmas.Placements.same_std]
  exact renderStaged_std _ s

theorem run_nil (t : Term) : t.run [] = t := rfl

theorem renderWith_kitty (kitty : Nat → Bool) (s : State) :
    (renderWith stdSame { next := kittyOf kitty s.next, last := kittyOf kitty s.last, refresh := s.refresh }).2 =
      ⟨kittyOf kitty (renderWith stdSame s).2.deletes, kittyOf kitty (renderWith stdSame s).2.writes⟩ := by
  rw [VaxisModel.Lemmas.Placements.renderWith_eq_spec, VaxisModel.Lemmas.Placements.renderWith_eq_spec]
  simp only [mustDelete, mustWrite, kittyOf, List.filter_filter, Out.mk.injEq]
  constructor <;>
  · apply List.filter_congr
    intro p _
    cases hk : kitty p.id
    · simp
    · simp [List.contains_eq_mem, List.mem_filter, hk]

theorem events_filter (kitty : Nat → Bool) (ds ws : List Placement) :
    (ds.map REv.del ++ ws.map REv.wr).filter (evKitty kitty) =
      (kittyOf kitty ds).map REv.del ++ (kittyOf kitty ws).map REv.wr := by
  rw [List.filter_append, List.filter_map, List.filter_map]
  rfl

/-- The terminal's kitty table is the table of the kitty placements of the saved frame. -/
def InvK (kitty : Nat → Bool) (w : World) : Prop :=
  (∀ k, w.term.places k = tableOf (kittyOf kitty w.ps.last) k) ∧ KeyFun (kittyOf kitty w.ps.last)

theorem renderK_inv (kitty : Nat → Bool) (w : World) (r : Bool) (hi : InvK kitty w) (hn : KeyFun (kittyOf kitty w.ps.next)) :
    InvK kitty (w.renderK kitty r).1 := by
  unfold World.renderK
  simp only
  rw [renderGen_std, emit_congr kitty _ _ writeGen_std]
  constructor
  · intro k
    show ((w.term.run (emit kitty stdWriteBody w.imgs _).2)).places k = tableOf (kittyOf kitty w.ps.next) k
    rw [(emit_kitty kitty stdWriteBody _ w.imgs w.term).2, events_filter, emit_append, emit_dels, run_append]
    have hrw := renderWith_kitty kitty { w.ps with refresh := w.ps.refresh || r }
    have hd := congrArg Out.deletes hrw
    have hw := congrArg Out.writes hrw
    dsimp only at hd hw
    rw [← hd, ← hw]
    exact frame_table w.term w.imgs { next := kittyOf kitty w.ps.next, last := kittyOf kitty w.ps.last, refresh := w.ps.refresh || r }
      hi.2 hn hi.1 k
  · exact hn

theorem renderK_next (kitty : Nat → Bool) (w : World) (r : Bool) : (w.renderK kitty r).1.ps.next = w.ps.next := by
  unfold World.renderK
  simp only
  rw [renderGen_std]
  rfl

theorem runK_inv (kitty : Nat → Bool) (ops : List WOp) : ∀ w : World, InvK kitty w → FramesKeyFunK kitty w.ps.next ops →
    InvK kitty (w.runK kitty ops) := by
  induction ops with
  | nil => intro w hi _; exact hi
  | cons op rest ih =>
    intro w hi hf
    show InvK kitty ((w.stepK kitty op).runK kitty rest)
    cases op with
    | resize id ok => cases ok <;> exact ih _ hi hf
    | draw p => exact ih _ hi hf
    | clear => exact ih _ hi hf
    | render => exact ih _ (renderK_inv kitty w false hi hf.1) (renderK_next kitty w false ▸ hf.2)
    | refresh => exact ih _ (renderK_inv kitty w true hi hf.1) (renderK_next kitty w true ▸ hf.2)

theorem kittyOf_all (l : List Placement) : kittyOf (fun _ => true) l = l := List.filter_eq_self.mpr fun _ _ => rfl

theorem framesKeyFunK_all (ops : List WOp) : ∀ cur, FramesKeyFunK (fun _ => true) cur ops = FramesKeyFun cur ops := by
  induction ops with
  | nil => intro _; rfl
  | cons op rest ih => intro cur; cases op <;> simp only [FramesKeyFunK, FramesKeyFun, ih, kittyOf_all]

theorem run_inv (ops : List WOp) (w : World) (hi : KittyTerm.Inv w) (hf : FramesKeyFun w.ps.next ops) :
    KittyTerm.Inv (w.run ops) := by
  have := runK_inv (fun _ => true) ops w (by simpa only [InvK, kittyOf_all, KittyTerm.Inv] using hi) (framesKeyFunK_all ops _ ▸ hf)
  simpa only [InvK, kittyOf_all, runK_all, KittyTerm.Inv] using this

end VaxisModel.Lemmas.KittyMixed
