/-
C20: the STRICT terminal (`Term.applyDrop`: kitty's own behaviour — transmitting data under an id that
already has an image removes that image's placements) agrees with the lenient one (`Term.apply`, whose frame
invariant is in `Lemmas/KittyTerm.lean`) on every history in which no placement is kept across a frame while its
image has new data waiting (`StrictFrames`).
-/
import VaxisModel.Lemmas.KittyData

namespace VaxisModel.Lemmas.KittyStrict
open VaxisModel.Model.KittyTerm VaxisModel.Model.Placements VaxisModel.Spec.Images VaxisModel.Gen.ImageConsts
open VaxisModel.Lemmas.KittyTerm VaxisModel.Lemmas.KittyData

def runDrop (t : Term) (cs : List Cmd) : Term := cs.foldl Term.applyDrop t

theorem runDrop_append (t : Term) (a b : List Cmd) : runDrop t (a ++ b) = runDrop (runDrop t a) b := by
  simp [runDrop, List.foldl_append]

theorem runDrop_cons (t : Term) (c : Cmd) (cs : List Cmd) : runDrop t (c :: cs) = runDrop (t.applyDrop c) cs := rfl

theorem term_ext (a b : Term) (h1 : a.data = b.data) (h2 : a.places = b.places) : a = b := by
  cases a; cases b; simp_all

theorem applyDrop_transmit (t : Term) (id e : Nat) (h : ∀ k : Key, k.1 = id → t.places k = none) :
    t.applyDrop (.transmit id e) = t.apply (.transmit id e) := by
  apply term_ext
  · rfl
  · funext k
    show (if k.1 = id ∧ (t.data id).isSome = true then none else t.places k) = t.places k
    by_cases hk : k.1 = id
    · rw [h k hk]; split <;> rfl
    · rw [if_neg (fun hh => hk hh.1)]

theorem runDrop_transmits (id : Nat) (es : List Nat) : ∀ t : Term, (∀ k : Key, k.1 = id → t.places k = none) →
    runDrop t (es.map fun e => Cmd.transmit id e) = t.run (es.map fun e => Cmd.transmit id e) := by
  induction es with
  | nil => intro t _; rfl
  | cons e r ih =>
    intro t h
    rw [List.map_cons, runDrop_cons, run_cons, applyDrop_transmit t id e h]
    exact ih _ h

theorem runDrop_deletes (ds : List Placement) : ∀ t : Term,
    runDrop t (ds.map fun p => Cmd.delete (key p)) = t.run (ds.map fun p => Cmd.delete (key p)) := by
  induction ds with
  | nil => intro t; rfl
  | cons d r ih => intro t; rw [List.map_cons, runDrop_cons, run_cons]; exact ih _

/-- No write of the list will transmit for an image that has a placement on the terminal. -/
def NoPending (t : Term) (imgs : Nat → KBuf) (ws : List Placement) : Prop :=
  ∀ p ∈ ws, (imgs p.id).uploaded = false → ∀ k : Key, k.1 = p.id → t.places k = none

theorem runDrop_writes (ws : List Placement) : ∀ (t : Term) (imgs : Nat → KBuf), NoPending t imgs ws →
    runDrop t (writeCmds imgs ws).2 = t.run (writeCmds imgs ws).2 := by
  induction ws with
  | nil => intro t imgs _; rfl
  | cons p r ih =>
    intro t imgs h
    rw [writeCmds_cons, runDrop_append, run_append, runDrop_append, run_append]
    -- the transmissions of this write (none when the image is uploaded)
    have ht : runDrop t (pending (imgs p.id) p.id) = t.run (pending (imgs p.id) p.id) := by
      unfold pending
      cases hu : (imgs p.id).uploaded
      · exact runDrop_transmits p.id _ t (h p (List.mem_cons_self ..) hu)
      · rfl
    rw [ht, show ∀ t' : Term, runDrop t' [Cmd.place p] = t'.run [Cmd.place p] from fun _ => rfl]
    apply ih
    intro q hq hu k hk
    have hne : q.id ≠ p.id := by
      intro e
      rw [e, update_same, write_uploaded] at hu
      cases hu
    rw [update_other _ _ _ _ hne] at hu
    rw [← run_append, run_write_one]
    have hkp : ¬ k = key p := by
      intro e
      apply hne
      rw [← hk, e]; rfl
    rw [if_neg hkp]
    exact h q (List.mem_cons_of_mem _ hq) hu k hk

theorem frame_strict (t : Term) (imgs : Nat → KBuf) (s : State)
    (inv : ∀ k, t.places k = tableOf s.last k)
    (hs : ∀ q ∈ s.next, s.refresh = false → q ∈ s.last → (imgs q.id).uploaded = true) :
    let o := (renderWith stdSame s).2
    runDrop t ((o.deletes.map fun p => Cmd.delete (key p)) ++ (writeCmds imgs o.writes).2) =
      t.run ((o.deletes.map fun p => Cmd.delete (key p)) ++ (writeCmds imgs o.writes).2) := by
  intro o
  rw [runDrop_append, run_append, runDrop_deletes]
  apply runDrop_writes
  intro p _ hu k hk
  rw [run_deletes_places]
  split
  · rfl
  · rename_i hnd
    rw [inv]
    cases hq : tableOf s.last k with
    | none => rfl
    | some q =>
      exfalso
      obtain ⟨hql, hqk⟩ := tableOf_some_mem hq
      have hnotdel : q ∉ o.deletes := by
        intro hdq
        apply hnd
        rw [List.any_eq_true]
        exact ⟨q, hdq, by simpa using hqk⟩
      obtain ⟨hr, hqn⟩ := VaxisModel.Lemmas.Placements.kept_of_not_deleted s q hql hnotdel
      have hup := hs q hqn hr hql
      have hid : q.id = p.id := by rw [← hk, ← hqk]; rfl
      rw [hid, hu] at hup
      cases hup

/-- What a frame must satisfy for the strict terminal: key-functional, and no placement is kept while its image has new
    data waiting (its `uploaded` flag is clear). -/
def OKFrame (w : World) (r : Bool) : Prop :=
  KeyFun w.ps.next ∧ ∀ q ∈ w.ps.next, (w.ps.refresh || r) = false → q ∈ w.ps.last → (w.imgs q.id).uploaded = true

def StrictFrames (w : World) : List WOp → Prop
  | [] => True
  | op :: rest =>
    (match op with
     | .render => OKFrame w false
     | .refresh => OKFrame w true
     | _ => True) ∧ StrictFrames (w.step op) rest

theorem render_std (w : World) (r : Bool) :
    w.render renderOrder renderShape samePlacement kittyWriteBody r =
      w.render stdOrder stdShape stdSame stdWriteBody r := by
  rw [render_std_shape.1, render_std_shape.2, VaxisModel.Lemmas.Placements.same_std]
  simp only [World.render, emit_congr _ _ _ writeGen_std]

theorem strict_render (w : World) (r : Bool) (hi : Inv w) (hf : OKFrame w r) :
    runDrop w.term (w.render renderOrder renderShape samePlacement kittyWriteBody r).2 =
      (w.render stdOrder stdShape stdSame stdWriteBody r).1.term ∧
    Inv (w.render stdOrder stdShape stdSame stdWriteBody r).1 := by
  refine ⟨?_, render_inv w r hi hf.1⟩
  rw [render_std, render_cmds]
  simp only
  rw [← run_append]
  exact frame_strict w.term w.imgs { w.ps with refresh := w.ps.refresh || r } hi.1 hf.2

theorem strict_run (ops : List WOp) : ∀ w : World, Inv w → StrictFrames w ops →
    runDrop w.term (World.trace w ops) = (w.run ops).term ∧ Inv (w.run ops) := by
  induction ops with
  | nil => intro w hi _; exact ⟨rfl, hi⟩
  | cons op rest ih =>
    intro w hi hf
    show runDrop w.term (World.trace w (op :: rest)) = ((w.step op).run rest).term ∧ Inv ((w.step op).run rest)
    have frame : ∀ r : Bool, OKFrame w r → StrictFrames (w.step (if r then .refresh else .render)) rest →
        runDrop w.term ((w.render renderOrder renderShape samePlacement kittyWriteBody r).2 ++
            World.trace (w.step (if r then .refresh else .render)) rest) =
          ((w.step (if r then .refresh else .render)).run rest).term ∧
        Inv ((w.step (if r then .refresh else .render)).run rest) := by
      intro r hok hrest
      obtain ⟨hcmd, hi'⟩ := strict_render w r hi hok
      rw [runDrop_append, hcmd, ← step_render]
      exact ih _ (step_render w r ▸ hi') hrest
    cases op with
    | resize id ok =>
      have hi' : Inv (w.step (.resize id ok)) := by rw [step_std]; cases ok <;> exact hi
      have ht : (w.step (.resize id ok)).term = w.term := by rw [step_std]; cases ok <;> rfl
      have := ih (w.step (.resize id ok)) hi' hf.2
      rw [ht] at this
      exact this
    | draw p => exact ih (w.step (.draw p)) (by rw [step_std]; exact hi) hf.2
    | clear => exact ih (w.step .clear) (by rw [step_std]; exact hi) hf.2
    | render => exact frame false hf.1 hf.2
    | refresh => exact frame true hf.1 hf.2

end VaxisModel.Lemmas.KittyStrict
