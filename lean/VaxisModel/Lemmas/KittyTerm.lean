/-
Lemmas about `Model/KittyTerm.lean`.  The frame invariant: the terminal's placement table is the table of the last
rendered frame (`frame_table` for the commands of one frame, `render_inv`; over histories `KittyMixed.run_inv`); events
of sixel images change nothing (`emit_kitty`).  At the end the abstraction `absK` / `sentCount` to the counting model of
`Model/ImageTerm.lean`, and the draw loop of the block renderers on the standard loop shape.
-/
import VaxisModel.Model.KittyTerm
import VaxisModel.Lemmas.Placements
import VaxisModel.Model.ImageTerm
import VaxisModel.Model.ImageDraw
import VaxisModel.Lemmas.ListBasic

namespace VaxisModel.Lemmas.KittyTerm
open VaxisModel.Model.KittyTerm VaxisModel.Model.Placements VaxisModel.Spec.Images VaxisModel.Gen.ImageConsts
open VaxisModel.Lemmas.Placements (same_std)

def stdOrder : List RStage := [.deleteLoop, .clearLast, .writeLoop, .saveLast]
def stdShape : RenderShape := ⟨true, true, true, true, true, true, true, []⟩
/-- The comparison of all five fields (`Lemmas.Placements.same_std`): equality of placements. -/
abbrev stdSame : Placement → Placement → Bool := fun a b => a == b
def stdResizeBody : List KStmt := [.act (.storeUploaded false), .act .appendChunks]
def stdWriteBody : List KStmt := [.ifNotUploaded [.sendBuf, .storeUploaded true, .resetBuf], .act .place]

theorem resizeWith_std (k : KBuf) (e : Nat) : resizeWith stdResizeBody k e = ⟨k.buf ++ [e], false⟩ := rfl

theorem writeWith_std (k : KBuf) :
    writeWith stdWriteBody k = if k.uploaded then (k, [.place]) else (⟨[], true⟩, [.send k.buf, .place]) := by
  cases k with
  | mk buf up => cases up <;> rfl

theorem renderStaged_std (same : Placement → Placement → Bool) (s : State) :
    renderStaged stdOrder stdShape same s =
      ((renderWith same s).1, (renderWith same s).2.deletes.map .del ++ (renderWith same s).2.writes.map .wr) := by
  have h := VaxisModel.Lemmas.Placements.renderShaped_std same s
  unfold renderShaped renderWith at h
  simp only [Prod.mk.injEq, Out.mk.injEq] at h
  unfold renderStaged renderWith stdOrder stdShape
  simp only [List.foldl_cons, List.foldl_nil, runStage, List.nil_append, if_true]
  rw [h.2.1, h.2.2]

theorem run_append (t : Term) (a b : List Cmd) : t.run (a ++ b) = (t.run a).run b := by
  simp [Term.run, List.foldl_append]

theorem run_cons (t : Term) (c : Cmd) (cs : List Cmd) : t.run (c :: cs) = (t.apply c).run cs := rfl

/-- What a `writeTo` sends before it places: the whole buffer, unless the image is uploaded. -/
def pending (k : KBuf) (id : Nat) : List Cmd := if k.uploaded then [] else k.buf.map fun e => Cmd.transmit id e

theorem outCmds_std (k : KBuf) (p : Placement) :
    (writeWith stdWriteBody k).2.flatMap (outCmds p) = pending k p.id ++ [.place p] := by
  rw [writeWith_std, pending]
  cases k.uploaded <;> simp [outCmds]

theorem transmits_places (t : Term) (id : Nat) (es : List Nat) :
    (t.run (es.map fun e => Cmd.transmit id e)).places = t.places := by
  induction es generalizing t with
  | nil => rfl
  | cons e r ih => rw [List.map_cons, run_cons, ih]; rfl

theorem pending_places (t : Term) (kb : KBuf) (id : Nat) : (t.run (pending kb id)).places = t.places := by
  unfold pending
  split
  · rfl
  · exact transmits_places t id kb.buf

theorem run_write_one (t : Term) (kb : KBuf) (p : Placement) (k : Key) :
    (t.run (pending kb p.id ++ [.place p])).places k = if k = key p then some p else t.places k := by
  rw [run_append]
  show (if k = key p then some p else (t.run _).places k) = _
  rw [pending_places]

/-- The commands of a list of write events (all images kitty images, standard body), from any image states. -/
def writeCmds (imgs : Nat → KBuf) (ws : List Placement) : (Nat → KBuf) × List Cmd :=
  emit (fun _ => true) stdWriteBody imgs (ws.map .wr)

theorem emitEv_from (kitty : Nat → Bool) (wb : List KStmt) (imgs : Nat → KBuf) (pre : List Cmd) (ev : REv) :
    emitEv kitty wb (imgs, pre) ev =
      ((emitEv kitty wb (imgs, []) ev).1, pre ++ (emitEv kitty wb (imgs, []) ev).2) := by
  cases ev with
  | del p => simp only [emitEv]; split <;> simp
  | wr p => simp only [emitEv]; split <;> simp

theorem emit_from (kitty : Nat → Bool) (wb : List KStmt) (imgs : Nat → KBuf) (pre : List Cmd) (evs : List REv) :
    evs.foldl (emitEv kitty wb) (imgs, pre) =
      ((emit kitty wb imgs evs).1, pre ++ (emit kitty wb imgs evs).2) := by
  induction evs generalizing imgs pre with
  | nil => simp [emit]
  | cons ev r ih =>
    unfold emit
    rw [List.foldl_cons, List.foldl_cons, emitEv_from, ih, emitEv_from kitty wb imgs [], ih (pre := [] ++ _)]
    simp [emit]

theorem emit_cons (kitty : Nat → Bool) (wb : List KStmt) (imgs : Nat → KBuf) (ev : REv) (evs : List REv) :
    emit kitty wb imgs (ev :: evs) =
      ((emit kitty wb (emitEv kitty wb (imgs, []) ev).1 evs).1,
       (emitEv kitty wb (imgs, []) ev).2 ++ (emit kitty wb (emitEv kitty wb (imgs, []) ev).1 evs).2) := by
  show (evs.foldl (emitEv kitty wb) (emitEv kitty wb (imgs, []) ev)) = _
  rw [show emitEv kitty wb (imgs, []) ev = ((emitEv kitty wb (imgs, []) ev).1, (emitEv kitty wb (imgs, []) ev).2) from rfl,
    emit_from]

theorem emit_append (kitty : Nat → Bool) (wb : List KStmt) (imgs : Nat → KBuf) (a b : List REv) :
    emit kitty wb imgs (a ++ b) =
      ((emit kitty wb (emit kitty wb imgs a).1 b).1, (emit kitty wb imgs a).2 ++ (emit kitty wb (emit kitty wb imgs a).1 b).2) := by
  unfold emit
  rw [List.foldl_append]
  rw [show List.foldl (emitEv kitty wb) (imgs, []) a = ((emit kitty wb imgs a).1, (emit kitty wb imgs a).2) from rfl, emit_from]
  rfl

theorem emit_dels (wb : List KStmt) (imgs : Nat → KBuf) (ds : List Placement) :
    emit (fun _ => true) wb imgs (ds.map .del) = (imgs, ds.map fun p => Cmd.delete (key p)) := by
  induction ds generalizing imgs with
  | nil => rfl
  | cons d r ih => rw [List.map_cons, emit_cons]; simp [emitEv, ih]

def evKitty (kitty : Nat → Bool) : REv → Bool
  | .del p => kitty p.id
  | .wr p => kitty p.id

theorem emitEv_kitty {kitty : Nat → Bool} {ev : REv} (wb : List KStmt) (st : (Nat → KBuf) × List Cmd)
    (h : evKitty kitty ev = true) : emitEv kitty wb st ev = emitEv (fun _ => true) wb st ev := by
  cases ev <;> simp only [evKitty] at h <;> simp only [emitEv, h, if_true]

/-- An event of a sixel image (no delete command; data at the cursor, which the tables ignore) changes neither the
    image states nor the terminal. -/
theorem emitEv_sixel {kitty : Nat → Bool} {ev : REv} (wb : List KStmt) (imgs : Nat → KBuf) (t : Term)
    (h : evKitty kitty ev = false) :
    (emitEv kitty wb (imgs, []) ev).1 = imgs ∧ t.run (emitEv kitty wb (imgs, []) ev).2 = t := by
  cases ev with
  | del p => have hk : kitty p.id = false := h; rw [emitEv, hk]; exact ⟨rfl, rfl⟩
  | wr p => have hk : kitty p.id = false := h; rw [emitEv, hk]; exact ⟨rfl, rfl⟩

theorem emit_kitty (kitty : Nat → Bool) (wb : List KStmt) (evs : List REv) : ∀ (imgs : Nat → KBuf) (t : Term),
    (emit kitty wb imgs evs).1 = (emit (fun _ => true) wb imgs (evs.filter (evKitty kitty))).1 ∧
    t.run (emit kitty wb imgs evs).2 = t.run (emit (fun _ => true) wb imgs (evs.filter (evKitty kitty))).2 := by
  induction evs with
  | nil => intro imgs t; exact ⟨rfl, rfl⟩
  | cons ev r ih =>
    intro imgs t
    rw [emit_cons, run_append]
    cases hk : evKitty kitty ev
    · rw [List.filter_cons_of_neg (by simp [hk]), (emitEv_sixel wb imgs t hk).1, (emitEv_sixel wb imgs t hk).2]
      exact ih imgs t
    · rw [List.filter_cons_of_pos hk, emit_cons, run_append, emitEv_kitty wb _ hk]
      exact ih _ _

theorem run_deletes_places (t : Term) (ds : List Placement) (k : Key) :
    (t.run (ds.map fun p => Cmd.delete (key p))).places k = if (ds.any fun p => key p = k) then none else t.places k := by
  induction ds generalizing t with
  | nil => rfl
  | cons d r ih =>
    rw [List.map_cons, run_cons, ih]
    simp only [Term.apply, List.any_cons, Bool.or_eq_true, decide_eq_true_eq]
    by_cases h1 : key d = k
    · simp [h1]
    · have h2 : ¬ k = key d := fun h => h1 h.symm
      simp [h1, h2]

theorem run_deletes_data (t : Term) (ds : List Placement) :
    (t.run (ds.map fun p => Cmd.delete (key p))).data = t.data := by
  induction ds generalizing t with
  | nil => rfl
  | cons d r ih => rw [List.map_cons, run_cons, ih]; rfl

theorem writeCmds_cons (imgs : Nat → KBuf) (p : Placement) (r : List Placement) :
    (writeCmds imgs (p :: r)).2 =
      (pending (imgs p.id) p.id ++ [.place p]) ++
        (writeCmds (update imgs p.id (writeWith stdWriteBody (imgs p.id)).1) r).2 := by
  unfold writeCmds
  rw [List.map_cons, emit_cons]
  simp only [emitEv, if_true]
  rw [outCmds_std, List.nil_append]

theorem run_writes_other (t : Term) (imgs : Nat → KBuf) (ws : List Placement) (k : Key)
    (h : ∀ p ∈ ws, key p ≠ k) : (t.run (writeCmds imgs ws).2).places k = t.places k := by
  induction ws generalizing t imgs with
  | nil => rfl
  | cons p r ih =>
    have hp : ¬ k = key p := fun e => h p (List.mem_cons_self ..) e.symm
    rw [writeCmds_cons, run_append, ih _ _ (fun q hq => h q (List.mem_cons_of_mem _ hq)), run_write_one, if_neg hp]

theorem run_writes_at (t : Term) (imgs : Nat → KBuf) (ws : List Placement) (p : Placement)
    (hp : p ∈ ws) (hu : ∀ q ∈ ws, key q = key p → q = p) :
    (t.run (writeCmds imgs ws).2).places (key p) = some p := by
  induction ws generalizing t imgs with
  | nil => cases hp
  | cons q r ih =>
    have hur : ∀ q' ∈ r, key q' = key p → q' = p := fun q' h' => hu q' (List.mem_cons_of_mem _ h')
    rw [writeCmds_cons, run_append]
    by_cases hpr : p ∈ r
    · exact ih _ _ hpr hur
    · have hqp : q = p := by
        rcases List.mem_cons.mp hp with h | h
        · exact h.symm
        · exact absurd h hpr
      have hno : ∀ q' ∈ r, key q' ≠ key p := fun q' h' e => hpr (hur q' h' e ▸ h')
      rw [run_writes_other _ _ r (key p) hno, hqp, run_write_one, if_pos rfl]

theorem tableOf_none {l : List Placement} {k : Key} : tableOf l k = none ↔ ∀ p ∈ l, key p ≠ k := by
  unfold tableOf
  rw [List.find?_eq_none]
  simp

theorem tableOf_some_mem {l : List Placement} {k : Key} {p : Placement} (h : tableOf l k = some p) : p ∈ l ∧ key p = k := by
  unfold tableOf at h
  exact ⟨List.mem_of_find?_eq_some h, by simpa using List.find?_some h⟩

theorem tableOf_of_mem {l : List Placement} {p : Placement} (hk : KeyFun l) (hp : p ∈ l) : tableOf l (key p) = some p := by
  cases h : tableOf l (key p) with
  | none => exact absurd rfl (tableOf_none.mp h p hp)
  | some q =>
    have ⟨hq, hkq⟩ := tableOf_some_mem h
    rw [hk q hq p hp hkq]

theorem keyFun_filter {l : List Placement} (f : Placement → Bool) (h : KeyFun l) : KeyFun (l.filter f) :=
  fun p hp q hq e => h p (List.mem_filter.mp hp).1 q (List.mem_filter.mp hq).1 e

theorem keyFun_nil : KeyFun [] := fun p hp => by cases hp

theorem frame_table (t : Term) (imgs : Nat → KBuf) (s : State)
    (hl : KeyFun s.last) (hn : KeyFun s.next) (inv : ∀ k, t.places k = tableOf s.last k) (k : Key) :
    let o := (renderWith stdSame s).2
    ((t.run (o.deletes.map fun p => Cmd.delete (key p))).run (writeCmds imgs o.writes).2).places k = tableOf s.next k := by
  intro o
  have hd := VaxisModel.Lemmas.Placements.mem_render_deletes s
  have hw := VaxisModel.Lemmas.Placements.mem_render_writes s
  have hwk : KeyFun o.writes := fun p hp q hq e => hn p ((hw p).mp hp).1 q ((hw q).mp hq).1 e
  cases hnext : tableOf s.next k with
  | some p =>
    have ⟨hpn, hpk⟩ := tableOf_some_mem hnext
    subst hpk
    by_cases hpw : p ∈ o.writes
    · exact run_writes_at _ imgs o.writes p hpw (fun q hq e => hwk q hq p hpw e)
    · -- kept: not refreshed, was in `last`, not deleted, not written
      have hno : ∀ q ∈ o.writes, key q ≠ key p := by
        intro q hq e
        exact hpw (hn q ((hw q).mp hq).1 p hpn e ▸ hq)
      rw [run_writes_other _ imgs o.writes (key p) hno, run_deletes_places]
      obtain ⟨hr, hpl⟩ := VaxisModel.Lemmas.Placements.kept_of_not_written s p hpn hpw
      have hnd : (o.deletes.any fun q => key q = key p) = false := by
        rw [Bool.eq_false_iff]
        intro h
        rw [List.any_eq_true] at h
        obtain ⟨q, hq, hqk⟩ := h
        have hqk : key q = key p := by simpa using hqk
        have ⟨hql, hq2⟩ := (hd q).mp hq
        have : q = p := hl q hql p hpl hqk
        subst this
        rcases hq2 with h | h
        · rw [hr] at h; cases h
        · exact h hpn
      rw [hnd]
      simp only [Bool.false_eq_true, if_false]
      rw [inv, tableOf_of_mem hl hpl]
  | none =>
    have hnone := tableOf_none.mp hnext
    have hno : ∀ q ∈ o.writes, key q ≠ k := fun q hq => hnone q ((hw q).mp hq).1
    rw [run_writes_other _ imgs o.writes k hno, run_deletes_places]
    cases hlast : tableOf s.last k with
    | none =>
      split
      · rfl
      · rw [inv, hlast]
    | some p1 =>
      have ⟨h1, h1k⟩ := tableOf_some_mem hlast
      have : (o.deletes.any fun q => key q = k) = true := by
        rw [List.any_eq_true]
        refine ⟨p1, (hd p1).mpr ⟨h1, Or.inr ?_⟩, by simpa using h1k⟩
        intro h
        exact hnone p1 h h1k
      rw [this]; rfl

def Inv (w : World) : Prop := (∀ k, w.term.places k = tableOf w.ps.last k) ∧ KeyFun w.ps.last

theorem render_std_shape : renderOrder = stdOrder ∧ renderShape = stdShape :=
  ⟨by decide, VaxisModel.Lemmas.Placements.renderShape_std⟩

theorem render_cmds (w : World) (r : Bool) :
    let s : State := { w.ps with refresh := w.ps.refresh || r }
    let o := (renderWith stdSame s).2
    w.render stdOrder stdShape stdSame stdWriteBody r =
      ({ w with ps := (renderWith stdSame s).1, imgs := (writeCmds w.imgs o.writes).1,
                term := (w.term.run (o.deletes.map fun p => Cmd.delete (key p))).run (writeCmds w.imgs o.writes).2 },
       (o.deletes.map fun p => Cmd.delete (key p)) ++ (writeCmds w.imgs o.writes).2) := by
  intro s o
  unfold World.render
  simp only
  rw [renderStaged_std, emit_append, emit_dels, run_append]
  rfl

theorem render_inv (w : World) (r : Bool) (hi : Inv w) (hn : KeyFun w.ps.next) :
    Inv (w.render stdOrder stdShape stdSame stdWriteBody r).1 := by
  rw [render_cmds]
  constructor
  · intro k
    exact frame_table w.term w.imgs { w.ps with refresh := w.ps.refresh || r } hi.2 hn hi.1 k
  · exact hn

set_option linter.unusedSimpArgs false in
/-- The regenerated `writeTo` body does what the standard one does (SEMANTIC: evaluated on both values of the flag and a
    symbolic buffer, so a harmless reordering of its statements still passes). -/
theorem writeGen_std (k : KBuf) : writeWith kittyWriteBody k = writeWith stdWriteBody k := by
  cases k with
  | mk buf up =>
    cases up <;>
      simp [writeWith, runBody, kittyWriteBody, stdWriteBody, runStmt, runAct, runActs]

set_option linter.unusedSimpArgs false in
/-- The regenerated upload side of `Resize` does what the standard one does (semantic, as above). -/
theorem resizeGen_std (k : KBuf) (e : Nat) : resizeWith kittyResizeBody k e = resizeWith stdResizeBody k e := by
  cases k with
  | mk buf up =>
    cases up <;>
      simp [resizeWith, runBody, kittyResizeBody, stdResizeBody, runStmt, runAct, runActs]

theorem emitEv_congr (kitty : Nat → Bool) (b1 b2 : List KStmt) (h : ∀ k, writeWith b1 k = writeWith b2 k) :
    emitEv kitty b1 = emitEv kitty b2 := by
  funext st ev
  cases ev with
  | del p => rfl
  | wr p => simp only [emitEv, h]

theorem emit_congr (kitty : Nat → Bool) (b1 b2 : List KStmt) (h : ∀ k, writeWith b1 k = writeWith b2 k) :
    emit kitty b1 = emit kitty b2 := by
  funext imgs evs
  unfold emit
  rw [emitEv_congr kitty b1 b2 h]

theorem step_std (w : World) (op : WOp) :
    w.step op = World.stepWith stdOrder stdShape stdSame stdResizeBody stdWriteBody w op := by
  unfold World.step
  rw [render_std_shape.1, render_std_shape.2, same_std]
  cases op with
  | resize id ok => simp only [World.stepWith, resizeGen_std]
  | draw p => rfl
  | clear => rfl
  | render => simp only [World.stepWith, World.render, emit_congr _ _ _ writeGen_std]
  | refresh => simp only [World.stepWith, World.render, emit_congr _ _ _ writeGen_std]

theorem step_render (w : World) (r : Bool) :
    w.step (if r then .refresh else .render) = (w.render stdOrder stdShape stdSame stdWriteBody r).1 := by
  rw [step_std]; cases r <;> rfl

theorem stepK_all : World.stepK (fun _ => true) = World.step := by
  funext w op; cases op <;> rfl

theorem runK_all (w : World) (ops : List WOp) : w.runK (fun _ => true) ops = w.run ops := by
  unfold World.runK World.run; rw [stepK_all]

theorem next_is_drawn (ops : List WOp) : ∀ w : World, (w.run ops).ps.next = drawnSinceClear w.ps.next ops := by
  induction ops with
  | nil => intro w; rfl
  | cons op rest ih =>
    intro w
    show ((w.step op).run rest).ps.next = _
    rw [ih]
    cases op with
    | resize id ok => cases ok <;> rfl
    | draw p => rfl
    | clear => rfl
    | render => rfl
    | refresh => rfl

theorem lists_good (Good : Placement → Prop) (ops : List WOp) : ∀ w : World,
    (∀ p ∈ w.ps.next, Good p) → (∀ p ∈ w.ps.last, Good p) → (∀ p, WOp.draw p ∈ ops → Good p) →
    (∀ p ∈ (w.run ops).ps.next, Good p) ∧ (∀ p ∈ (w.run ops).ps.last, Good p) := by
  induction ops with
  | nil => intro w hn hl _; exact ⟨hn, hl⟩
  | cons op rest ih =>
    intro w hn hl hd
    have hd' : ∀ p, WOp.draw p ∈ rest → Good p := fun p hp => hd p (List.mem_cons_of_mem _ hp)
    show (∀ p ∈ ((w.step op).run rest).ps.next, Good p) ∧ (∀ p ∈ ((w.step op).run rest).ps.last, Good p)
    rw [step_std]
    cases op with
    | resize id ok => cases ok <;> exact ih _ hn hl hd'
    | draw p =>
      refine ih _ ?_ hl hd'
      intro q hq
      rcases List.mem_append.mp hq with h | h
      · exact hn q h
      · have : q = p := by simpa using h
        rw [this]; exact hd p (List.mem_cons_self ..)
    | clear => exact ih _ (fun q hq => by cases hq) hl hd'
    | render => rw [World.stepWith, render_cmds]; exact ih _ hn hn hd'
    | refresh => rw [World.stepWith, render_cmds]; exact ih _ hn hn hd'

theorem trace_run (ops : List WOp) : ∀ w : World, (w.run ops).term = w.term.run (World.trace w ops) := by
  induction ops with
  | nil => intro w; rfl
  | cons op rest ih =>
    intro w
    show ((w.step op).run rest).term = _
    rw [ih]
    cases op with
    | resize id ok => cases ok <;> rfl
    | draw p => rfl
    | clear => rfl
    | render => rw [World.trace, run_append]; rfl
    | refresh => rw [World.trace, run_append]; rfl

/-- The counting model `ImageTerm.KImg`: how many encodings wait in the buffer. -/
def absK (k : KBuf) : VaxisModel.Model.ImageTerm.KImg := ⟨k.buf.length, k.uploaded⟩

def sentCount (o : List KOut) : Nat := (o.map fun | .send encs => encs.length | _ => 0).sum

theorem absK_resize (k : KBuf) (e : Nat) : absK (resizeWith stdResizeBody k e) = (absK k).resize true := by
  simp [resizeWith_std, absK, VaxisModel.Model.ImageTerm.KImg.resize]

theorem absK_write (k : KBuf) :
    absK (writeWith stdWriteBody k).1 = ((absK k).write).1 ∧ sentCount (writeWith stdWriteBody k).2 = ((absK k).write).2 := by
  rw [writeWith_std]
  cases k with
  | mk buf up => cases up <;> simp [absK, sentCount, VaxisModel.Model.ImageTerm.KImg.write]

/-- The loop of the block renderers' `Draw` with every statement in place: `for i, cell := range cells`, `y := i / width`,
    `x := i - (y * width)`, `SetCell(x, y, …)` with the cell made as `cf` says, nothing else. -/
def stdLoop (cf : CellForm) : DrawLoop := ⟨true, .div .i .width, .sub .i (.mul .y .width), .x, .y, cf, []⟩

open VaxisModel.Model.Blocks VaxisModel.Model.ImageDraw in
theorem loopCoords_std (cf : CellForm) (w i : Nat) (hw : 0 < w) :
    loopCoords (stdLoop cf) w i =
      some (((i - i / w * w : Nat) : Int), ((i / w : Nat) : Int)) := by
  have hne : ¬ ((w : Int) = 0) := by omega
  have hdiv : Int.tdiv (i : Int) (w : Int) = ((i / w : Nat) : Int) := by
    rw [Int.tdiv_eq_ediv_of_nonneg (by omega)]; exact (Int.natCast_ediv i w).symm
  have hle : i / w * w ≤ i := Nat.div_mul_le_self i w
  simp only [loopCoords, stdLoop, evalI, hne, if_false, hdiv]
  congr 2
  rw [Int.natCast_sub hle, Int.natCast_mul]

open VaxisModel.Model.Blocks VaxisModel.Model.ImageDraw in
theorem mapM_loop (cf : CellForm) (toCell : BCell → VaxisModel.Model.Window.Cell) (w : Nat) (hw : 0 < w) (f : Nat → BCell) (l : List Nat) :
    (l.map fun i => (f i, i)).mapM (fun (ci : BCell × Nat) =>
        (loopCoords (stdLoop cf) w ci.2).map fun cr =>
          ({ col := cr.1, row := cr.2, cell := toCell ci.1 } : VaxisModel.Model.Window.Op)) =
      some (blockOps toCell (l.map fun i => (i - i / w * w, i / w, f i))) := by
  induction l with
  | nil => rfl
  | cons i r ih =>
    rw [List.map_cons, List.mapM_cons, ih, loopCoords_std cf w i hw]
    rfl

open VaxisModel.Model.Blocks VaxisModel.Model.ImageDraw in
theorem drawLoopOps_std (cf : CellForm) (toCell : BCell → VaxisModel.Model.Window.Cell) (mode : Bottom) (cell : C16 → C16 → BCell) (img : Img) :
    drawLoopOps (stdLoop cf) toCell img.w ((blockCellsWith mode cell img).map (·.2.2)) =
      some (blockOps toCell (blockCellsWith mode cell img)) := by
  unfold drawLoopOps stdLoop
  simp only [Bool.not_true, List.isEmpty_nil, Bool.or_self, Bool.false_eq_true, if_false]
  rcases Nat.eq_zero_or_pos img.w with h0 | hw
  · simp [blockCellsWith, h0, blockOps]
  · unfold blockCellsWith
    simp only [List.map_map]
    rw [VaxisModel.Lemmas.ListBasic.zipIdx_map_range]
    exact mapM_loop cf toCell img.w hw (fun i => cell (img.at (i - i / img.w * img.w) (2 * (i / img.w))) (lowerPx mode img (i - i / img.w * img.w) (2 * (i / img.w)))) _

end VaxisModel.Lemmas.KittyTerm
