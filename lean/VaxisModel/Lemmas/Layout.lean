/-
Layout contract of the built-in widgets (C14), the parts: which constraints a widget tree accepts (`accepts`: no Center / Button /
Dynamic of the tree receives an unbounded one), the bounded-constraint guards as the source has them, the TextField leaf
(no larger than the maximum), the dimensions of Dynamic's surface. The induction over the tree is
`Lemmas/SurfaceSized.draw_post`.
-/
import VaxisModel.Lemmas.Surface

namespace VaxisModel.Lemmas.Layout
open VaxisModel.Model.Window VaxisModel.Model.Surface VaxisModel.Model.Layout VaxisModel.Lemmas.Surface

def bounded (c : Ctx) : Prop := c.maxW ≠ unbounded ∧ c.maxH ≠ unbounded

def boundedB (c : Ctx) : Bool := c.maxW != unbounded && c.maxH != unbounded

theorem boundedB_iff (c : Ctx) : boundedB c = true ↔ bounded c := by
  simp [boundedB, bounded]

/-- Widgets whose Draw documents "must have bounded constraints": read from the source. -/
def needsBounded (w : Widget) : Bool := Gen.SurfaceFacts.boundedPanicWidgets.contains w.goName

mutual
/-- No widget of the tree that needs bounded constraints receives an unbounded one.  Center and
Button hand their own Max on; Dynamic hands every child an unbounded height. -/
def accepts : Widget → Ctx → Bool
  | .text .., _ => true
  | .rich .., _ => true
  | .field .., _ => true
  | .center child, c => boundedB c && accepts child { minW := 0, minH := 0, maxW := c.maxW, maxH := c.maxH }
  | .button .., c => boundedB c
  | .dynamic cursor _ kids, c => boundedB c && acceptsAll kids (dynChildCtx cursor c)
def acceptsAll : Widgets → Ctx → Bool
  | .nil, _ => true
  | .cons w rest, c => accepts w c && acceptsAll rest c
end

theorem guard_listed (name : String) (h : Gen.SurfaceFacts.boundedPanicWidgets.contains name = true) (c : Ctx) :
    boundedPanic name c = !boundedB c := by
  simp only [boundedPanic, h, boundedB, Bool.true_and, bne]
  cases (c.maxH == unbounded) <;> cases (c.maxW == unbounded) <;> rfl

theorem guard_center (c : Ctx) : boundedPanic "center.Center" c = !boundedB c := guard_listed _ (by decide) c

theorem guard_button (c : Ctx) : boundedPanic "button.Button" c = !boundedB c := guard_listed _ (by decide) c

theorem guard_dynamic (c : Ctx) : boundedPanic "list.Dynamic" c = !boundedB c := guard_listed _ (by decide) c

theorem field_size_le (c : Ctx) (chars : List Cell) :
    ∃ s, drawField exact c chars = .ok s ∧ s.w ≤ c.maxW ∧ s.h ≤ c.maxH := by
  unfold drawField
  rw [surface_field]
  split
  · refine ⟨emptySurface, rfl, ?_, ?_⟩ <;> exact UInt16.le_iff_toNat_le.2 (Nat.zero_le _)
  · rename_i hz
    obtain ⟨s', h, k⟩ := fieldLoop_ok chars 0 (newSurface exact c.maxW 1) (newSurface_sized c.maxW 1)
    refine ⟨s', h, ?_, ?_⟩
    · rw [k.w, newSurface_w]; exact UInt16.le_refl _
    · rw [k.h, newSurface_h]
      have : c.maxH ≠ 0 := by
        intro e; apply hz; simp [e]
      rw [UInt16.le_iff_toNat_le]
      have h0 : c.maxH.toNat ≠ 0 := fun e => this (UInt16.toNat_inj.1 (by simpa using e))
      have : (1 : UInt16).toNat = 1 := rfl
      omega

theorem dynPlace_shape (off gap : Int) (chs : List Surface) (ah : Int) (w h : UInt16) (b : List Cell) (k : Kids) :
    ∃ k', dynPlace off gap chs ah (.mk w h b k) = .mk w h b k' := by
  induction chs generalizing ah k with
  | nil => exact ⟨k, rfl⟩
  | cons ch rest ih => exact ih _ _

theorem dynAround_shape (a : Arith) (cursor : Bool) (gap : Int) (c : Ctx) (chs : List Surface) :
    ∃ k, dynAround a cursor gap c chs = .mk c.maxW c.maxH (newSurface a c.maxW c.maxH).buf k := by
  obtain ⟨k', e⟩ := dynPlace_shape (Int.ofNat (dynOff cursor).toNat) gap chs 0 c.maxW c.maxH
    (newSurface a c.maxW c.maxH).buf .nil
  simp only [dynAround, surface_dynamic]
  rw [show newSurface a c.maxW c.maxH = .mk c.maxW c.maxH (newSurface a c.maxW c.maxH).buf .nil from rfl, e]
  exact ⟨_, rfl⟩

theorem dynAround_w (a : Arith) (cursor : Bool) (gap : Int) (c : Ctx) (chs : List Surface) :
    (dynAround a cursor gap c chs).w = c.maxW := by
  obtain ⟨k, e⟩ := dynAround_shape a cursor gap c chs; rw [e]; rfl

theorem dynAround_h (a : Arith) (cursor : Bool) (gap : Int) (c : Ctx) (chs : List Surface) :
    (dynAround a cursor gap c chs).h = c.maxH := by
  obtain ⟨k, e⟩ := dynAround_shape a cursor gap c chs; rw [e]; rfl

theorem dynAround_buf (a : Arith) (cursor : Bool) (gap : Int) (c : Ctx) (chs : List Surface) :
    (dynAround a cursor gap c chs).buf = (newSurface a c.maxW c.maxH).buf := by
  obtain ⟨k, e⟩ := dynAround_shape a cursor gap c chs; rw [e]; rfl

theorem dynChildCtx_unbounded (cursor : Bool) (c : Ctx) : boundedB (dynChildCtx cursor c) = false := by
  simp [boundedB, dynChildCtx]

theorem needsBounded_eq (w : Widget) :
    needsBounded w = match w with | .center .. | .button .. | .dynamic .. => true | _ => false := by
  cases w <;> (simp only [needsBounded, Widget.goName]; decide)

theorem not_accepts_of_needsBounded (w : Widget) (c : Ctx) (hn : needsBounded w = true) (hb : boundedB c = false) :
    accepts w c = false := by
  rw [needsBounded_eq] at hn
  cases w <;> simp_all [accepts]

theorem accepts_of_not_needsBounded (w : Widget) (c : Ctx) (hn : needsBounded w = false) : accepts w c = true := by
  rw [needsBounded_eq] at hn
  cases w <;> simp_all [accepts]

theorem acceptsAll_dyn (cursor : Bool) (c : Ctx) : ∀ k : Widgets,
    acceptsAll k (dynChildCtx cursor c) = k.toList.all (fun w => !needsBounded w)
  | .nil => rfl
  | .cons w rest => by
    simp only [acceptsAll, Widgets.toList, List.all_cons, acceptsAll_dyn cursor c rest]
    cases hn : needsBounded w with
    | true => rw [not_accepts_of_needsBounded w _ hn (dynChildCtx_unbounded cursor c)]; rfl
    | false => rw [accepts_of_not_needsBounded w _ hn]; rfl

end VaxisModel.Lemmas.Layout
