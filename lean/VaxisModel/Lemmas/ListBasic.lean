/-
List facts (and one about `UInt16`) that several properties use and core does not state in this form.
Core Lean only; imports nothing of the project.
-/
namespace VaxisModel.Lemmas.ListBasic

theorem lt_of_getElem? {α : Type} {l : List α} {k : Nat} {x : α} (h : l[k]? = some x) : k < l.length :=
  (List.getElem?_eq_some_iff.mp h).1

theorem set_self_of_getElem? {α : Type} {l : List α} {i : Nat} {a : α} (h : l[i]? = some a) : l.set i a = l := by
  obtain ⟨hi, rfl⟩ := List.getElem?_eq_some_iff.mp h
  exact List.set_getElem_self hi

theorem getElem?_zipRange {α β : Type} (f : Nat → α → β) (r : List α) (j : Nat) :
    ((List.range r.length).zipWith f r)[j]? = r[j]?.map (f j) := by
  rw [List.getElem?_zipWith]
  by_cases h : j < r.length
  · rw [List.getElem?_range h, List.getElem?_eq_getElem h]; rfl
  · have h' : r.length ≤ j := by omega
    rw [List.getElem?_eq_none h']
    cases (List.range r.length)[j]? <;> rfl

theorem takeWhile_dropWhile_append {α : Type} (p : α → Bool) (l r : List α) (hl : ∀ x ∈ l, p x = true)
    (hr : ∀ c, r.head? = some c → p c = false) :
    (l ++ r).takeWhile p = l ∧ (l ++ r).dropWhile p = r := by
  induction l with
  | nil =>
    cases r with
    | nil => simp
    | cons c r' => simp [hr c rfl]
  | cons x l ih =>
    have hx := hl x (by simp)
    obtain ⟨i1, i2⟩ := ih (fun y hy => hl y (by simp [hy]))
    simp [hx, i1, i2]

theorem takeWhile_dropWhile_append_cons {α : Type} (p : α → Bool) (l : List α) (x : α) (t : List α)
    (hl : ∀ d ∈ l, p d = true) (hx : p x = false) :
    (l ++ x :: t).takeWhile p = l ∧ (l ++ x :: t).dropWhile p = x :: t :=
  takeWhile_dropWhile_append p l (x :: t) hl (fun c hc => by cases hc; exact hx)

theorem span_loop_append_cons {α : Type} (p : α → Bool) (x : α) (U : List α) (hx : p x = false) :
    ∀ (P acc : List α), (∀ y ∈ P, p y = true) → List.span.loop p (P ++ x :: U) acc = (acc.reverse ++ P, x :: U) := by
  intro P
  induction P with
  | nil => intro acc _; simp [List.span.loop, hx]
  | cons y ys ih =>
    intro acc h
    have hy : p y = true := h y (by simp)
    simp only [List.cons_append, List.span.loop, hy]
    rw [ih (y :: acc) (fun z hz => h z (by simp [hz]))]
    simp

theorem all_zip_map {α β γ : Type} {f : α × γ → Bool} {g : β → γ} {l₁ : List α} {l₂ : List β}
    (h : ∀ (i : Nat) a b, l₁[i]? = some a → l₂[i]? = some b → f (a, g b) = true) : (l₁.zip (l₂.map g)).all f = true := by
  rw [List.all_eq_true]
  intro p hp
  obtain ⟨i, hi⟩ := List.getElem?_of_mem hp
  rw [List.getElem?_zip_eq_some, List.getElem?_map] at hi
  obtain ⟨h1, h2⟩ := hi
  cases hb : l₂[i]? with
  | none => rw [hb] at h2; cases h2
  | some b =>
    rw [hb] at h2
    have := h i _ b h1 hb
    rwa [Option.some.inj h2] at this

theorem u16_succ_toNat {x m : UInt16} (h : x.toNat < m.toNat) : (x + 1).toNat = x.toNat + 1 := by
  have := UInt16.toNat_lt m
  rw [UInt16.toNat_add, UInt16.toNat_one]; omega

theorem zipIdx_map_range {α : Type} (g : Nat → α) (n : Nat) :
    ((List.range n).map g).zipIdx = (List.range n).map fun i => (g i, i) := by
  apply List.ext_getElem <;> simp

theorem first_split_unique {α : Type} (P : α → Bool) :
    ∀ (A A' : List α) (d d' : α) (B B' : List α), A ++ d :: B = A' ++ d' :: B' → P d = true → P d' = true →
      (∀ x ∈ A, P x = false) → (∀ x ∈ A', P x = false) → A = A' ∧ d = d' ∧ B = B' := by
  intro A
  induction A with
  | nil =>
    intro A' d d' B B' h hd hd' _ hA'
    cases A' with
    | nil => simp at h; exact ⟨rfl, h.1, h.2⟩
    | cons a as =>
      simp at h
      have := hA' a (by simp)
      rw [← h.1, hd] at this; cases this
  | cons a as ih =>
    intro A' d d' B B' h hd hd' hA hA'
    cases A' with
    | nil =>
      simp at h
      have := hA a (by simp)
      rw [h.1, hd'] at this; cases this
    | cons a' as' =>
      simp at h
      obtain ⟨r1, r2, r3⟩ := ih as' d d' B B' h.2 hd hd' (fun x hx => hA x (by simp [hx])) (fun x hx => hA' x (by simp [hx]))
      exact ⟨by rw [h.1, r1], r2, r3⟩

theorem countP_flatMap_eq {α β : Type} (p : β → Bool) (f : α → List β) (g : α → Nat) (l : List α)
    (h : ∀ a ∈ l, (f a).countP p = g a) : (l.flatMap f).countP p = (l.map g).sum := by
  rw [List.countP_flatMap]
  exact congrArg _ (List.map_congr_left h)

theorem countP_of_const {α : Type} (p : α → Bool) (l : List α) (b : Bool) (h : ∀ x ∈ l, p x = b) :
    l.countP p = if b then l.length else 0 := by
  rw [List.countP_congr (q := fun _ => b) (fun x hx => by rw [h x hx])]
  cases b <;> simp

theorem getLast?_take_succ {α : Type} {l : List α} {k : Nat} {x : α} (hk : l[k]? = some x) :
    (l.take (k + 1)).getLast? = some x := by
  have hlen : k < l.length := (List.getElem?_eq_some_iff.mp hk).1
  have : (l.take (k + 1)).length = k + 1 := by rw [List.length_take]; omega
  rw [List.getLast?_eq_getElem?, this, List.getElem?_take]
  simpa using hk

theorem getElem?_some_of_lt {α : Type} (l : List α) (j : Nat) (h : j < l.length) : ∃ x, l[j]? = some x :=
  ⟨l[j], List.getElem?_eq_getElem h⟩

/-- A row after inserting `m` cells `b` at `c` (the cells pushed beyond `cols` fall off), position by position. -/
theorem ins_getElem? {α : Type} (l : List α) (c m cols : Nat) (b : α) (hl : l.length = cols)
    (hcm : c + m ≤ cols) (j : Nat) :
    (l.take c ++ List.replicate m b ++ (l.drop c).take (cols - c - m))[j]? =
      if j < c then l[j]? else if j < c + m then some b else if j < cols then l[j - m]? else none := by
  rw [List.getElem?_append, List.getElem?_append]
  simp only [List.length_append, List.length_take, List.length_replicate, hl,
    List.getElem?_take, List.getElem?_replicate, List.getElem?_drop]
  have h1 : min c cols = c := by omega
  rw [h1]
  by_cases hj1 : j < c
  · have : j < c + m := by omega
    simp [hj1, this]
  · by_cases hj2 : j < c + m
    · have : j - c < m := by omega
      simp [hj1, hj2, this]
    · by_cases hj3 : j < cols
      · have h4 : j - (c + m) < cols - c - m := by omega
        have h5 : c + (j - (c + m)) = j - m := by omega
        simp [hj1, hj2, hj3, h4, h5]
      · have h4 : ¬ (j - (c + m) < cols - c - m) := by omega
        simp [hj1, hj2, hj3, h4]

/-- A row after deleting `m` cells at `c` (`m` cells `b` come in at the end), position by position. -/
theorem del_getElem? {α : Type} (l : List α) (c m cols : Nat) (b : α) (hl : l.length = cols)
    (hcm : c + m ≤ cols) (j : Nat) :
    (l.take c ++ l.drop (c + m) ++ List.replicate m b)[j]? =
      if j < c then l[j]? else if j + m < cols then l[j + m]? else if j < cols then some b else none := by
  rw [List.getElem?_append, List.getElem?_append]
  simp only [List.length_append, List.length_take, List.length_drop, hl,
    List.getElem?_take, List.getElem?_replicate, List.getElem?_drop]
  have h1 : min c cols = c := by omega
  rw [h1]
  by_cases hj1 : j < c
  · have : j < c + (cols - (c + m)) := by omega
    simp [hj1, this]
  · by_cases hj2 : j + m < cols
    · have h3 : j < c + (cols - (c + m)) := by omega
      have h5 : c + m + (j - c) = j + m := by omega
      simp [hj1, hj2, h3, h5]
    · have h3 : ¬ (j < c + (cols - (c + m))) := by omega
      by_cases hj3 : j < cols
      · have h4 : j - (c + (cols - (c + m))) < m := by omega
        simp [hj1, hj2, hj3, h3, h4]
      · have h4 : ¬ (j - (c + (cols - (c + m))) < m) := by omega
        simp [hj1, hj2, hj3, h3, h4]

end VaxisModel.Lemmas.ListBasic
