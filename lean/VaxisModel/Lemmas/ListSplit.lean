/-
`strings.Split` for a one-element separator, for any element type: the model and the specifications
each carry their own copy of this function (on runes, bytes, `Int` code points); a copy is shown
equal to `split` once and its facts are read off here.  Core Lean only.
-/
namespace VaxisModel.Lemmas.ListSplit

def split {α : Type} [DecidableEq α] (sep : α) : List α → List (List α)
  | [] => [[]]
  | c :: rest =>
    match split sep rest with
    | [] => [[]]
    | h :: t => if c = sep then [] :: h :: t else (c :: h) :: t

variable {α : Type} [DecidableEq α]

theorem split_ne_nil (sep : α) : ∀ l : List α, split sep l ≠ []
  | [] => by simp [split]
  | c :: rest => by
    simp only [split]
    cases split sep rest with
    | nil => simp
    | cons h t => simp only []; split <;> simp

theorem split_cons_sep (sep : α) (rest : List α) : split sep (sep :: rest) = [] :: split sep rest := by
  simp only [split]
  cases h : split sep rest with
  | nil => exact absurd h (split_ne_nil sep rest)
  | cons hd tl => simp

theorem split_cons_ne (sep c : α) (hc : c ≠ sep) (rest : List α) :
    ∃ hd tl, split sep rest = hd :: tl ∧ split sep (c :: rest) = (c :: hd) :: tl := by
  cases h : split sep rest with
  | nil => exact absurd h (split_ne_nil sep rest)
  | cons hd tl => exact ⟨hd, tl, rfl, by simp [split, h, hc]⟩

theorem split_field (sep : α) : ∀ (f : List α), (∀ b ∈ f, b ≠ sep) →
    split sep f = [f] ∧ ∀ rest, split sep (f ++ sep :: rest) = f :: split sep rest
  | [], _ => ⟨rfl, fun rest => split_cons_sep sep rest⟩
  | b :: f, hf => by
    obtain ⟨i1, i2⟩ := split_field sep f (fun x hx => hf x (List.mem_cons_of_mem _ hx))
    have hb : b ≠ sep := hf b List.mem_cons_self
    exact ⟨by simp [split, i1, hb], fun rest => by simp [split, i2 rest, hb]⟩

theorem split_mem (sep : α) : ∀ (l : List α), ∀ f ∈ split sep l, ∀ b ∈ f, b ∈ l ∧ b ≠ sep
  | [] => by simp [split]
  | c :: rest => by
    have ih := split_mem sep rest
    by_cases hc : c = sep
    · subst hc
      rw [split_cons_sep]
      intro f hf b hb
      rcases List.mem_cons.mp hf with rfl | hf
      · cases hb
      · exact ⟨List.mem_cons_of_mem _ (ih f hf b hb).1, (ih f hf b hb).2⟩
    · obtain ⟨hd, tl, e1, e2⟩ := split_cons_ne sep c hc rest
      rw [e2]
      rw [e1] at ih
      intro f hf b hb
      rcases List.mem_cons.mp hf with rfl | hf
      · rcases List.mem_cons.mp hb with rfl | hb
        · exact ⟨List.mem_cons_self, hc⟩
        · exact ⟨List.mem_cons_of_mem _ (ih hd List.mem_cons_self b hb).1, (ih hd List.mem_cons_self b hb).2⟩
      · exact ⟨List.mem_cons_of_mem _ (ih f (List.mem_cons_of_mem _ hf) b hb).1, (ih f (List.mem_cons_of_mem _ hf) b hb).2⟩

end VaxisModel.Lemmas.ListSplit
