import VaxisModel.Model.Pager

namespace VaxisModel.Lemmas.Pager
open VaxisModel.Model.Pager

def widthSum : Line → Int
  | [] => 0
  | c :: cs => c.width + widthSum cs

theorem widthSum_append (a b : Line) : widthSum (a ++ b) = widthSum a + widthSum b := by
  induction a with
  | nil => simp [widthSum]
  | cons c cs ih => simp only [List.cons_append, widthSum, ih]; omega

/-- A line respects the width `w`: it is at most one character, or everything before its last
    character is narrower than `w` (the last character — possibly a wide one — is what made the
    line reach the width). -/
def Good (w : Int) (l : Line) : Prop := l.length ≤ 1 ∨ widthSum l.dropLast < w

def flat (s : LState) : List Ch := s.lines.flatten ++ s.cur

theorem flat_step (w : Int) (s : LState) (c : Ch) :
    flat (layoutStep w s c) = flat s ++ (if c.isNl then [] else [c]) := by
  unfold layoutStep flat
  by_cases hn : c.isNl = true
  · simp [hn]
  · simp only [hn, Bool.false_eq_true, if_false]
    split <;> simp

theorem flat_loop (w : Int) (cs : List Ch) : ∀ s : LState,
    flat (layoutLoop w s cs) = flat s ++ cs.filter (fun c => !c.isNl) := by
  induction cs with
  | nil => intro s; simp [layoutLoop]
  | cons c cs ih =>
    intro s
    have := ih (layoutStep w s c)
    simp only [layoutLoop, List.foldl_cons] at this ⊢
    rw [this, flat_step]
    by_cases hn : c.isNl = true <;> simp [hn]

structure LInv (w : Int) (s : LState) : Prop where
  col_eq : s.col = widthSum s.cur
  col_lt : s.cur ≠ [] → s.col < w
  cur_good : Good w s.cur
  lines_good : ∀ l ∈ s.lines, Good w l

theorem good_snoc (w : Int) (cur : Line) (c : Ch) (h : cur ≠ [] → widthSum cur < w) :
    Good w (cur ++ [c]) := by
  unfold Good
  by_cases hc : cur = []
  · left; simp [hc]
  · right; simp only [List.dropLast_concat]; exact h hc

theorem good_lines_snoc {w : Int} {ls : List Line} {c : Line} (hl : ∀ l ∈ ls, Good w l) (hc : Good w c) :
    ∀ l ∈ ls ++ [c], Good w l := by
  intro l h
  rcases List.mem_append.mp h with h | h
  · exact hl l h
  · rw [List.mem_singleton.mp h]; exact hc

theorem inv_step (w : Int) (s : LState) (c : Ch) (h : LInv w s) : LInv w (layoutStep w s c) := by
  unfold layoutStep
  by_cases hn : c.isNl = true
  · simp only [hn, if_true]
    exact ⟨by simp [widthSum], by simp, by simp [Good], good_lines_snoc h.lines_good h.cur_good⟩
  · simp only [hn, Bool.false_eq_true, if_false]
    have hg : Good w (s.cur ++ [c]) := good_snoc w s.cur c (fun hc => by have := h.col_lt hc; rw [h.col_eq] at this; exact this)
    split
    · exact ⟨by simp [widthSum], by simp, by simp [Good], good_lines_snoc h.lines_good hg⟩
    · rename_i hlt
      refine ⟨?_, ?_, hg, h.lines_good⟩
      · simp only [widthSum_append, widthSum, h.col_eq]; omega
      · intro _; simp only []; omega

theorem inv_loop (w : Int) (cs : List Ch) : ∀ s : LState, LInv w s → LInv w (layoutLoop w s cs) := by
  induction cs with
  | nil => intro s h; simpa [layoutLoop] using h
  | cons c cs ih =>
    intro s h
    have := ih (layoutStep w s c) (inv_step w s c h)
    simpa [layoutLoop] using this

theorem inv_init (w : Int) : LInv w { lines := [], cur := [], col := 0 } :=
  ⟨by simp [widthSum], by simp, by simp [Good], by simp⟩

theorem layout_flatten (w : Int) (cs : List Ch) :
    (layout true w cs).flatten = cs.filter (fun c => !c.isNl) := by
  have h := flat_loop w cs { lines := [], cur := [], col := 0 }
  simp only [flat, List.flatten_nil, List.nil_append] at h
  unfold layout
  simp only [Bool.true_and]
  split
  · rw [List.flatten_append]; simpa using h
  · rename_i hc
    have : (layoutLoop w { lines := [], cur := [], col := 0 } cs).cur = [] := by
      simpa using hc
    rw [this] at h; simpa using h

theorem layout_good (flush : Bool) (w : Int) (cs : List Ch) : ∀ l ∈ layout flush w cs, Good w l := by
  have h := inv_loop w cs _ (inv_init w)
  unfold layout
  intro l hl
  simp only [] at hl
  split at hl
  · exact good_lines_snoc h.lines_good h.cur_good l hl
  · exact h.lines_good l hl

theorem clampOffset_eq (n : Nat) (off h : Int) : clampOffset n off h = max 0 (min off ((n : Int) - h)) := by
  unfold clampOffset
  simp only []
  split <;> split <;> omega

theorem clamp_bounds (n : Nat) (off : Int) (h : Nat) :
    0 ≤ clampOffset n off h ∧ clampOffset n off h ≤ max 0 ((n : Int) - h) := by
  rw [clampOffset_eq]; omega

theorem go_spec (w : Nat) : ∀ (rest : List Ch) (cells : List (Option Ch)) (col : Int),
    0 ≤ col → (∀ c ∈ rest, 1 ≤ c.width) → cells.length = w →
    (drawRow.go w cells col rest).length = w ∧
    (∀ j : Nat, (j : Int) < col → (drawRow.go w cells col rest)[j]? = cells[j]?) ∧
    (∀ (k : Nat) (c : Ch), rest[k]? = some c → col + widthSum (rest.take k) < w →
      (drawRow.go w cells col rest)[(col + widthSum (rest.take k)).toNat]? = some (some c)) := by
  intro rest
  induction rest with
  | nil =>
    intro cells col _ _ hl
    exact ⟨hl, fun _ _ => rfl, fun k c h => by simp at h⟩
  | cons d rest ih =>
    intro cells col h0 hpos hl
    have hd : 1 ≤ d.width := hpos d List.mem_cons_self
    obtain ⟨cells', hc'⟩ : ∃ x, x = (if 0 ≤ col ∧ col < (w : Int) then cells.set col.toNat (some d) else cells) := ⟨_, rfl⟩
    have hl' : cells'.length = w := by rw [hc']; split <;> simp [hl]
    obtain ⟨i1, i2, i3⟩ := ih cells' (col + d.width) (by omega) (fun c hc => hpos c (List.mem_cons_of_mem _ hc)) hl'
    have hgo : drawRow.go w cells col (d :: rest) = drawRow.go w cells' (col + d.width) rest := by
      rw [hc']; rfl
    rw [hgo]
    refine ⟨i1, ?_, ?_⟩
    · intro j hj
      rw [i2 j (by omega), hc']
      split
      · rw [List.getElem?_set_ne (by omega)]
      · rfl
    · intro k c hk hlt
      cases k with
      | zero =>
        simp only [List.getElem?_cons_zero, Option.some.injEq] at hk
        subst hk
        simp only [List.take_zero, widthSum, Int.add_zero] at hlt ⊢
        rw [i2 col.toNat (by omega), hc', if_pos ⟨h0, hlt⟩]
        rw [List.getElem?_set_self (by omega)]
      | succ k =>
        have hk' : rest[k]? = some c := by simpa using hk
        have e : col + widthSum ((d :: rest).take (k + 1)) = col + d.width + widthSum (rest.take k) := by
          simp only [List.take_succ_cons, widthSum]; omega
        rw [e] at hlt ⊢
        exact i3 k c hk' hlt

theorem good_cols (w : Nat) (hw : 1 ≤ w) (l : Line) (hg : Good w l) (hpos : ∀ c ∈ l, 1 ≤ c.width)
    (k : Nat) (c : Ch) (hk : l[k]? = some c) : widthSum (l.take k) < w := by
  have hkl : k < l.length := (List.getElem?_eq_some_iff.mp hk).1
  have mono : ∀ (a b : Line), (∀ c ∈ b, 1 ≤ c.width) → widthSum a ≤ widthSum (a ++ b) := by
    intro a b hb
    rw [widthSum_append]
    have : ∀ (b : Line), (∀ c ∈ b, 1 ≤ c.width) → 0 ≤ widthSum b := by
      intro b
      induction b with
      | nil => intro _; simp [widthSum]
      | cons x xs ih =>
        intro hx
        have := ih (fun c hc => hx c (List.mem_cons_of_mem _ hc))
        have := hx x List.mem_cons_self
        simp only [widthSum]; omega
    have := this b hb
    omega
  rcases hg with h1 | h1
  · have : k = 0 := by omega
    subst this
    simp [widthSum]; omega
  · -- take k l is a prefix of dropLast l
    have hpre : l.dropLast = l.take k ++ (l.dropLast.drop k) := by
      have : l.take k = l.dropLast.take k := by
        rw [List.dropLast_eq_take, List.take_take]
        congr 1; omega
      rw [this, List.take_append_drop]
    have hm := mono (l.take k) (l.dropLast.drop k) (fun c hc => hpos c (by
      have h' := List.mem_of_mem_drop hc
      rw [List.dropLast_eq_take] at h'
      exact List.mem_of_mem_take h'))
    rw [← hpre] at hm
    omega

end VaxisModel.Lemmas.Pager
