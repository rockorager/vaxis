/-
C02: step lemmas for the hand model (`pstep`), one per (state, byte class) that the round-trip
theorems need, and the run lemmas built from them.
-/
import VaxisModel.Model.Parser
import VaxisModel.Lemmas.ParserParams
import VaxisModel.Lemmas.ParserRow

namespace VaxisModel.Lemmas.Parser
open VaxisModel.Model.ParserTable VaxisModel.Model.Parser VaxisModel.Lemmas.ParserParams
open VaxisModel.Lemmas.ParserRow

/-- A rune other than CAN, SUB, ESC is passed by `anywhere` to the state function. -/
theorem anywhere_plain (r : Nat) (h1 : r ≠ 0x18) (h2 : r ≠ 0x1A) (h3 : r ≠ 0x1B) :
    handAnywhere.row (.rune r) = ([], .dispatch) := by
  simp [StateFn.row, StateFn.arm, handAnywhere, findArm, findEarly, Arm.fires, Guard.eval, h1, h2, h3]

theorem pstep_esc (s : PState) (he : s.exit = none) :
    pstep s (.rune 0x1B) = ⟨{ s with state := .escape, inter := [], params := [] }, [], false⟩ := by
  rw [pstep_eq_runRow, show jointRow handTable s.state (.rune 0x1B) = ([.runExitIfSet, .clear, .startTimer], .st .escape) from rfl]
  simp only [runRow, runActs, applyAct, he]
  rfl

theorem escape_csi (s : PState) (hs : s.state = .escape) :
    pstep s (.rune 0x5B) = ⟨{ s with state := .csiEntry, inter := [], params := [], ignoreST := false }, [], false⟩ := by
  have hrow : jointRow handTable .escape (.rune 0x5B) = ([.deferClearIgnoreST, .clear], .st .csiEntry) := by decide
  rw [pstep_eq_runRow, hs, hrow]
  rfl

def CsiHead (s : PState) : Prop := s.state = .csiEntry ∨ s.state = .csiParam
def CsiBody (s : PState) : Prop := s.state = .csiEntry ∨ s.state = .csiParam ∨ s.state = .csiIntermediate

theorem row_param (st : StateId) (hst : st = .csiEntry ∨ st = .csiParam) (r : Nat) (h1 : 0x30 ≤ r) (h2 : r ≤ 0x3B) :
    jointRow handTable st (.rune r) = ([.param], .st .csiParam) := by
  by_cases h : r ≤ 0x39
  · rcases hst with h' | h' <;> subst h' <;> exact hand_row _ 0x30 0x39 r _ (by decide) (by decide) h1 h
  · by_cases h' : r = 0x3A
    · subst h'; rcases hst with h' | h' <;> subst h' <;> decide
    · have : r = 0x3B := by omega
      subst this; rcases hst with h' | h' <;> subst h' <;> decide

theorem csi_param (s : PState) (hs : CsiHead s) (r : Nat) (h1 : 0x30 ≤ r) (h2 : r ≤ 0x3B) :
    pstep s (.rune r) = ⟨{ s with state := .csiParam, params := s.params ++ [r] }, [], false⟩ := by
  rw [pstep_eq_runRow, row_param s.state hs r h1 h2]
  rfl

theorem csi_private (s : PState) (hs : s.state = .csiEntry) (r : Nat) (h1 : 0x3C ≤ r) (h2 : r ≤ 0x3F) :
    pstep s (.rune r) = ⟨{ s with state := .csiParam, inter := s.inter ++ [r] }, [], false⟩ := by
  have hrow : jointRow handTable .csiEntry (.rune r) = ([.collect], .st .csiParam) :=
    hand_row _ 0x3C 0x3F r _ (by decide) (by decide) h1 h2
  rw [pstep_eq_runRow, hs, hrow]
  rfl

theorem row_inter (st : StateId) (hst : st = .csiEntry ∨ st = .csiParam ∨ st = .csiIntermediate) (r : Nat)
    (h1 : 0x20 ≤ r) (h2 : r ≤ 0x2F) :
    jointRow handTable st (.rune r) = ([.collect], .st .csiIntermediate) := by
  rcases hst with h' | h' | h' <;> subst h' <;> exact hand_row _ 0x20 0x2F r _ (by decide) (by decide) h1 h2

theorem csi_inter (s : PState) (hs : CsiBody s) (r : Nat) (h1 : 0x20 ≤ r) (h2 : r ≤ 0x2F) :
    pstep s (.rune r) = ⟨{ s with state := .csiIntermediate, inter := s.inter ++ [r] }, [], false⟩ := by
  rw [pstep_eq_runRow, row_inter s.state hs r h1 h2]
  rfl

theorem row_final (st : StateId) (hst : st = .csiEntry ∨ st = .csiParam ∨ st = .csiIntermediate) (r : Nat)
    (h1 : 0x40 ≤ r) (h2 : r ≤ 0x7E) :
    jointRow handTable st (.rune r) = ([.csiDispatch], .st .ground) := by
  rcases hst with h' | h' | h' <;> subst h' <;> exact hand_row _ 0x40 0x7E r _ (by decide) (by decide) h1 h2

theorem csi_final (s : PState) (hs : CsiBody s) (r : Nat) (h1 : 0x40 ≤ r) (h2 : r ≤ 0x7E) :
    pstep s (.rune r) =
      ⟨{ s with state := .ground, inter := [] }, [.csi s.inter (decodeParams s.params) r], false⟩ := by
  rw [pstep_eq_runRow, row_final s.state hs r h1 h2]
  rfl

theorem run_append (s : PState) (u v : List Nat) :
    run s (u ++ v) = ((run (run s u).1 v).1, (run s u).2 ++ (run (run s u).1 v).2) := by
  induction u generalizing s with
  | nil => simp [run]
  | cons a u ih => simp only [List.cons_append, run, ih, List.append_assoc]

/-- A run over bytes each of which makes a step that keeps `P`: it ends in `F s w` having delivered `O w`, if `F` and `O`
    follow the steps. -/
theorem run_steps {P : PState → Prop} {ok : Nat → Prop} {F : PState → List Nat → PState} {O : List Nat → List Seq}
    (hnil : ∀ s, F s [] = s ∧ O [] = [])
    (hstep : ∀ s b w, P s → ok b →
      ∃ s' o, pstep s (.rune b) = ⟨s', o, false⟩ ∧ P s' ∧ F s' w = F s (b :: w) ∧ o ++ O w = O (b :: w)) :
    ∀ (w : List Nat) (s : PState), (∀ b ∈ w, ok b) → P s → run s w = (F s w, O w)
  | [], s, _, _ => by simp only [run, (hnil s).1, (hnil s).2]
  | b :: w, s, hw, hs => by
    obtain ⟨s', o, h1, h2, h3, h4⟩ := hstep s b w hs (hw b (by simp))
    simp only [run, h1, run_steps hnil hstep w s' (fun x hx => hw x (by simp [hx])) h2, h3, h4]

theorem run_params (w : List Nat) (hw : ∀ b ∈ w, 0x30 ≤ b ∧ b ≤ 0x3B) (s : PState) (hs : CsiHead s) :
    run s w = ({ s with state := if w.isEmpty then s.state else .csiParam, params := s.params ++ w }, []) :=
  run_steps (P := CsiHead) (O := fun _ => [])
    (F := fun s w => { s with state := if w.isEmpty then s.state else .csiParam, params := s.params ++ w }) (fun s => by simp)
    (fun s b w hs hb => ⟨_, _, csi_param s hs b hb.1 hb.2, Or.inr rfl, by cases w <;> simp, rfl⟩) w s hw hs

theorem run_inters (w : List Nat) (hw : ∀ b ∈ w, 0x20 ≤ b ∧ b ≤ 0x2F) (s : PState) (hs : CsiBody s) :
    run s w = ({ s with state := if w.isEmpty then s.state else .csiIntermediate, inter := s.inter ++ w }, []) :=
  run_steps (P := CsiBody) (O := fun _ => [])
    (F := fun s w => { s with state := if w.isEmpty then s.state else .csiIntermediate, inter := s.inter ++ w }) (fun s => by simp)
    (fun s b w hs hb => ⟨_, _, csi_inter s hs b hb.1 hb.2, Or.inr (Or.inr rfl), by cases w <;> simp, rfl⟩) w s hw hs

theorem csi_tail (s : PState) (hs : CsiHead s) (pb ib : List Nat) (f : Nat)
    (hp : ∀ b ∈ pb, 0x30 ≤ b ∧ b ≤ 0x3B) (hi : ∀ b ∈ ib, 0x20 ≤ b ∧ b ≤ 0x2F) (hf1 : 0x40 ≤ f) (hf2 : f ≤ 0x7E) :
    run s (pb ++ (ib ++ [f])) =
      ({ s with state := .ground, inter := [], params := s.params ++ pb },
       [.csi (s.inter ++ ib) (decodeParams (s.params ++ pb)) f]) := by
  rw [run_append, run_params pb hp s hs]
  simp only []
  generalize hs1 : ({ s with state := if pb.isEmpty then s.state else .csiParam, params := s.params ++ pb } : PState) = s1
  have hb1 : CsiBody s1 := by
    subst hs1; unfold CsiBody; rcases hs with h | h <;> cases pb <;> simp [h]
  rw [run_append, run_inters ib hi s1 hb1]
  simp only []
  generalize hs2 : ({ s1 with state := if ib.isEmpty then s1.state else .csiIntermediate, inter := s1.inter ++ ib } : PState) = s2
  have hb2 : CsiBody s2 := by
    subst hs2; unfold CsiBody; rcases hb1 with h | h | h <;> cases ib <;> simp [h]
  simp only [run]
  rw [csi_final s2 hb2 f hf1 hf2]
  subst hs2; subst hs1
  simp

/-- A well-formed control sequence value. `priv` is the private marker (3C–3F), delivered as the
    first intermediate, as the implementation documents. -/
structure CsiVal where
  priv : Option Nat
  params : List (List Nat)
  inters : List Nat
  final : Nat

def CsiVal.WF (v : CsiVal) : Prop :=
  (∀ p ∈ v.priv, 0x3C ≤ p ∧ p ≤ 0x3F) ∧ ParamsOk v.params ∧
  (∀ b ∈ v.inters, 0x20 ≤ b ∧ b ≤ 0x2F) ∧ 0x40 ≤ v.final ∧ v.final ≤ 0x7E

def encodeCsi (v : CsiVal) : List Nat :=
  0x1B :: 0x5B :: (v.priv.toList ++ (encParams v.params ++ (v.inters ++ [v.final])))

theorem pstep_esc_exit (s : PState) (f : ExitFn) (he : s.exit = some f) :
    pstep s (.rune 0x1B) =
      ⟨{ (runExitFn s f).1 with state := .escape, inter := [], params := [], exit := none }, (runExitFn s f).2, false⟩ := by
  rw [pstep_eq_runRow, show jointRow handTable s.state (.rune 0x1B) = ([.runExitIfSet, .clear, .startTimer], .st .escape) from rfl]
  simp only [runRow, runActs, applyAct, he]
  cases f <;> rfl

theorem escape_inter (s : PState) (hs : s.state = .escape) (r : Nat) (h1 : 0x20 ≤ r) (h2 : r ≤ 0x2F) :
    pstep s (.rune r) = ⟨{ s with state := .escapeIntermediate, inter := s.inter ++ [r], ignoreST := false }, [], false⟩ := by
  have hrow : jointRow handTable .escape (.rune r) = ([.deferClearIgnoreST, .collect], .st .escapeIntermediate) :=
    hand_row _ 0x20 0x2F r _ (by decide) (by decide) h1 h2
  rw [pstep_eq_runRow, hs, hrow]
  rfl

theorem escInt_inter (s : PState) (hs : s.state = .escapeIntermediate) (r : Nat) (h1 : 0x20 ≤ r) (h2 : r ≤ 0x2F) :
    pstep s (.rune r) = ⟨{ s with inter := s.inter ++ [r] }, [], false⟩ := by
  have hrow : jointRow handTable .escapeIntermediate (.rune r) = ([.collect], .st .escapeIntermediate) :=
    hand_row _ 0x20 0x2F r _ (by decide) (by decide) h1 h2
  rw [pstep_eq_runRow, hs, hrow]
  rfl

theorem escInt_final (s : PState) (hs : s.state = .escapeIntermediate) (r : Nat) (h1 : 0x30 ≤ r) (h2 : r ≤ 0x7E) :
    pstep s (.rune r) = ⟨{ s with state := .ground, inter := [] }, [.esc s.inter r], false⟩ := by
  have hrow : jointRow handTable .escapeIntermediate (.rune r) = ([.escapeDispatch], .st .ground) :=
    hand_row _ 0x30 0x7E r _ (by decide) (by decide) h1 h2
  rw [pstep_eq_runRow, hs, hrow]
  rfl

/-- The finals that `escape` dispatches directly (everything in 30–7F except the introducers
    O P X [ \ ] ^ _). -/
def EscFinal (r : Nat) : Prop :=
  (0x30 ≤ r ∧ r ≤ 0x4E) ∨ (0x51 ≤ r ∧ r ≤ 0x57) ∨ r = 0x59 ∨ r = 0x5A ∨ (0x60 ≤ r ∧ r ≤ 0x7F)

theorem escape_final (s : PState) (hs : s.state = .escape) (r : Nat) (hr : EscFinal r) :
    pstep s (.rune r) = ⟨{ s with state := .ground, inter := [], ignoreST := false }, [.esc s.inter r], false⟩ := by
  have hrow : jointRow handTable .escape (.rune r) = ([.deferClearIgnoreST, .escapeDispatch], .st .ground) := by
    rcases hr with ⟨h1, h2⟩ | ⟨h1, h2⟩ | h | h | ⟨h1, h2⟩
    · exact hand_row _ 0x30 0x4E r _ (by decide) (by decide) h1 h2
    · exact hand_row _ 0x51 0x57 r _ (by decide) (by decide) h1 h2
    · subst h; decide
    · subst h; decide
    · exact hand_row _ 0x60 0x7F r _ (by decide) (by decide) h1 h2
  rw [pstep_eq_runRow, hs, hrow]
  rfl

/-- `ESC \` when no control string was open: an ordinary escape sequence (Alt+\). -/
theorem escape_backslash (s : PState) (hs : s.state = .escape) (hi : s.ignoreST = false) :
    pstep s (.rune 0x5C) = ⟨{ s with state := .ground, inter := [] }, [.esc s.inter 0x5C], false⟩ := by
  have hrow : jointRow handTable .escape (.rune 0x5C) =
      ([.deferClearIgnoreST, .retIfIgnoreST (.st .ground), .escapeDispatch], .st .ground) := by decide
  rw [pstep_eq_runRow, hs, hrow]
  simp only [runRow, runActs, applyAct, hi]
  rfl

/-- `ESC \` as the terminator of a control string: nothing is delivered. -/
theorem escape_st (s : PState) (hs : s.state = .escape) (hi : s.ignoreST = true) :
    pstep s (.rune 0x5C) = ⟨{ s with state := .ground, ignoreST := false }, [], false⟩ := by
  have hrow : jointRow handTable .escape (.rune 0x5C) =
      ([.deferClearIgnoreST, .retIfIgnoreST (.st .ground), .escapeDispatch], .st .ground) := by decide
  rw [pstep_eq_runRow, hs, hrow]
  simp only [runRow, runActs, applyAct, hi]
  rfl

theorem run_escInters (w : List Nat) (hw : ∀ b ∈ w, 0x20 ≤ b ∧ b ≤ 0x2F) (s : PState) (hs : s.state = .escapeIntermediate) :
    run s w = ({ s with inter := s.inter ++ w }, []) :=
  run_steps (P := fun s => s.state = .escapeIntermediate) (O := fun _ => []) (F := fun s w => { s with inter := s.inter ++ w })
    (fun s => by simp) (fun s b w hs hb => ⟨_, _, escInt_inter s hs b hb.1 hb.2, hs, by simp, rfl⟩) w s hw hs

theorem escape_ss3 (s : PState) (hs : s.state = .escape) :
    pstep s (.rune 0x4F) = ⟨{ s with state := .ss3, ignoreST := false }, [], false⟩ := by
  have hrow : jointRow handTable .escape (.rune 0x4F) = ([.deferClearIgnoreST], .st .ss3) := by decide
  rw [pstep_eq_runRow, hs, hrow]
  rfl

theorem ss3_final (s : PState) (hs : s.state = .ss3) (r : Nat) (h1 : 0x20 ≤ r) (h2 : r ≠ 0x7F) :
    pstep s (.rune r) = ⟨{ s with state := .ground }, [.ss3 r], false⟩ := by
  have hrow : jointRow handTable .ss3 (.rune r) = ([.emitSS3], .st .ground) := by
    by_cases h : r ≤ 0x7E
    · exact hand_row _ 0x20 0x7E r _ (by decide) (by decide) h1 h
    · exact hand_row_above _ 0x80 r _ (by decide) (by decide) (by omega)
  rw [pstep_eq_runRow, hs, hrow]
  rfl

theorem escape_osc (s : PState) (hs : s.state = .escape) :
    pstep s (.rune 0x5D) = ⟨{ s with state := .oscString, exit := some .oscEnd, ignoreST := false }, [], false⟩ := by
  have hrow : jointRow handTable .escape (.rune 0x5D) = ([.deferClearIgnoreST, .oscStart], .st .oscString) := by decide
  rw [pstep_eq_runRow, hs, hrow]
  rfl

theorem osc_put (s : PState) (hs : s.state = .oscString) (r : Nat) (h1 : 0x20 ≤ r) :
    pstep s (.rune r) = ⟨{ s with osc := s.osc ++ [r], ignoreST := true }, [], false⟩ := by
  have hrow : jointRow handTable .oscString (.rune r) = ([.setIgnoreST, .oscPut], .st .oscString) := by
    by_cases h : r ≤ 0x7F
    · exact hand_row _ 0x20 0x7F r _ (by decide) (by decide) h1 h
    · exact hand_row_above _ 0x80 r _ (by decide) (by decide) (by omega)
  rw [pstep_eq_runRow, hs, hrow]
  rfl

theorem osc_bel (s : PState) (hs : s.state = .oscString) (he : s.exit = some .oscEnd) :
    pstep s (.rune 0x07) = ⟨{ s with state := .ground, exit := none, osc := [], ignoreST := false }, [.osc s.osc], false⟩ := by
  have hrow : jointRow handTable .oscString (.rune 0x07) =
      ([.setIgnoreST, .runExit, .clearExit, .clearIgnoreST], .st .ground) := by decide
  rw [pstep_eq_runRow, hs, hrow]
  simp only [runRow, runActs, applyAct, he]
  rfl

theorem run_osc (w : List Nat) (hw : ∀ b ∈ w, 0x20 ≤ b) (s : PState) (hs : s.state = .oscString) :
    run s w = ({ s with osc := s.osc ++ w, ignoreST := if w.isEmpty then s.ignoreST else true }, []) :=
  run_steps (P := fun s => s.state = .oscString) (O := fun _ => [])
    (F := fun s w => { s with osc := s.osc ++ w, ignoreST := if w.isEmpty then s.ignoreST else true }) (fun s => by simp)
    (fun s b w hs hb => ⟨_, _, osc_put s hs b hb, hs, by cases w <;> simp, rfl⟩) w s hw hs

theorem escape_apc (s : PState) (hs : s.state = .escape) :
    pstep s (.rune 0x5F) = ⟨{ s with state := .apc, exit := some .apcUnhook, ignoreST := false }, [], false⟩ := by
  have hrow : jointRow handTable .escape (.rune 0x5F) = ([.deferClearIgnoreST, .setExitApc], .st .apc) := by decide
  rw [pstep_eq_runRow, hs, hrow]
  rfl

theorem apc_put (s : PState) (hs : s.state = .apc) (r : Nat) (h1 : 0x20 ≤ r) :
    pstep s (.rune r) = ⟨{ s with apc := s.apc ++ [r], ignoreST := true }, [], false⟩ := by
  have hrow : jointRow handTable .apc (.rune r) = ([.setIgnoreST, .apcPut], .st .apc) :=
    hand_row_above _ 0x20 r _ (by decide) (by decide) h1
  rw [pstep_eq_runRow, hs, hrow]
  rfl

theorem run_apc (w : List Nat) (hw : ∀ b ∈ w, 0x20 ≤ b) (s : PState) (hs : s.state = .apc) :
    run s w = ({ s with apc := s.apc ++ w, ignoreST := if w.isEmpty then s.ignoreST else true }, []) :=
  run_steps (P := fun s => s.state = .apc) (O := fun _ => [])
    (F := fun s w => { s with apc := s.apc ++ w, ignoreST := if w.isEmpty then s.ignoreST else true }) (fun s => by simp)
    (fun s b w hs hb => ⟨_, _, apc_put s hs b hb, hs, by cases w <;> simp, rfl⟩) w s hw hs

theorem ground_print (s : PState) (hs : s.state = .ground) (r : Nat) (h1 : 0x20 ≤ r) :
    pstep s (.rune r) = ⟨s, [.print r], false⟩ := by
  have hrow : jointRow handTable .ground (.rune r) = ([.print], .st .ground) :=
    hand_row_above _ 0x20 r _ (by decide) (by decide) h1
  rw [pstep_eq_runRow, hs, hrow]
  cases s; cases hs; rfl

theorem run_ground_text (w : List Nat) (hw : ∀ b ∈ w, 0x20 ≤ b) (s : PState) (hs : s.state = .ground) :
    run s w = (s, w.map .print) :=
  run_steps (P := fun s => s.state = .ground) (F := fun s _ => s) (O := fun w => w.map .print) (fun _ => ⟨rfl, rfl⟩)
    (fun s b _ hs hb => ⟨_, _, ground_print s hs b hb, hs, rfl, rfl⟩) w s hw hs

theorem row_forall (f : StateFn) (P : List Act × Next → Prop)
    (hb : clearAbove f.bounds 256 = true) (h : ∀ c ∈ List.range 257, P (f.row (.rune c))) (c : Nat) :
    P (f.row (.rune c)) := by
  by_cases hc : c ≤ 256
  · exact h c (List.mem_range.mpr (by omega))
  · rw [StateFn.row_const_above f 256 c hb (by omega)]
    exact h 256 (List.mem_range.mpr (by omega))

theorem runActs_quiet (acts : List Act) (hq : ∀ a ∈ acts, a = .execute ∨ a = .setIgnoreST) (r : Nat)
    (s : PState) (out : List Seq) (n : Next) (ho : ∀ x ∈ out, ∃ c, x = Seq.c0 c) :
    (∀ x ∈ (runActs acts (.rune r) s out n).2.1, ∃ c, x = Seq.c0 c) ∧
    (runActs acts (.rune r) s out n).2.2 = n := by
  induction acts generalizing s out with
  | nil => exact ⟨by simpa [runActs] using ho, rfl⟩
  | cons a rest ih =>
    rcases hq a (by simp) with h | h <;> subst h
    · simp only [runActs]
      apply ih (fun a' ha' => hq a' (by simp [ha']))
      intro x hx
      simp only [applyAct, List.mem_append] at hx
      rcases hx with hx | hx
      · exact ho x hx
      · split at hx <;> simp at hx
        exact ⟨r, hx⟩
    · simp only [runActs]
      apply ih (fun a' ha' => hq a' (by simp [ha']))
      intro x hx
      simp only [applyAct, List.append_nil] at hx
      exact ho x hx

/-- The rows of the three ignore states, read off the arms: only `execute` and the flag write run,
    and the state is kept — except for the final byte of a CSI, which returns to ground. -/
theorem ignore_row (st : StateId) (hs : st = .csiIgnore ∨ st = .dcsIgnore ∨ st = .sosPm) (r : Nat) :
    ∃ acts x, (handFn st).row (.rune r) = (acts, .st x) ∧ (∀ a ∈ acts, a = .execute ∨ a = .setIgnoreST) ∧
      (x = st ∨ (st = .csiIgnore ∧ 0x40 ≤ r ∧ r ≤ 0x7E ∧ x = .ground)) := by
  have hrow : (handFn st).row (.rune r) =
      ((handFn st).pre ++ (findArm (handFn st).arms (handFn st).dflt (.rune r)).acts,
       (findArm (handFn st).arms (handFn st).dflt (.rune r)).next) := by
    rcases hs with rfl | rfl | rfl <;> rfl
  have hm := findArm_mem (handFn st).arms (handFn st).dflt (.rune r)
  rw [hrow]
  generalize findArm (handFn st).arms (handFn st).dflt (.rune r) = arm at hm
  rcases hs with rfl | rfl | rfl
  · rcases hm with rfl | ⟨hm, hf⟩
    · exact ⟨_, _, rfl, by simp [handFn], .inl rfl⟩
    · simp only [handFn, List.mem_cons, List.not_mem_nil, or_false] at hm
      rcases hm with rfl | rfl | rfl
      · exact ⟨_, _, rfl, by simp [handFn], .inl rfl⟩
      · exact ⟨_, _, rfl, by simp [handFn], .inl rfl⟩
      · refine ⟨_, _, rfl, by simp [handFn], .inr ⟨rfl, ?_⟩⟩
        simpa [Arm.fires, Guard.eval] using hf
  · rcases hm with rfl | ⟨hm, hf⟩
    · exact ⟨_, _, rfl, by simp [handFn], .inl rfl⟩
    · simp only [handFn, List.mem_cons, List.not_mem_nil, or_false] at hm
      rcases hm with rfl | rfl <;> exact ⟨_, _, rfl, by simp [handFn], .inl rfl⟩
  · rcases hm with rfl | ⟨hm, hf⟩
    · exact ⟨_, _, rfl, by simp [handFn], .inl rfl⟩
    · simp only [handFn, List.mem_cons, List.not_mem_nil, or_false] at hm
      rcases hm with rfl
      exact ⟨_, _, rfl, by simp [handFn], .inl rfl⟩

theorem pstep_quiet (s : PState) (r : Nat) (h1 : r ≠ 0x18) (h2 : r ≠ 0x1A) (h3 : r ≠ 0x1B) (acts : List Act)
    (x : StateId) (hrow : (handFn s.state).row (.rune r) = (acts, .st x))
    (hq : ∀ a ∈ acts, a = .execute ∨ a = .setIgnoreST) :
    (∀ y ∈ (pstep s (.rune r)).out, ∃ c, y = Seq.c0 c) ∧ (pstep s (.rune r)).st.state = x := by
  obtain ⟨hout, hnext⟩ := runActs_quiet acts hq r s [] (.st x) (by simp)
  have ha : handTable.anywhere.row (.rune r) = ([], .dispatch) := anywhere_plain r h1 h2 h3
  have hj : jointRow handTable s.state (.rune r) = (acts, .st x) := by
    rw [jointRow_dispatch (by rw [ha]), ha]; exact hrow
  rw [pstep_eq_runRow, hj]
  simp only [runRow, hnext, finish]
  exact ⟨hout, trivial⟩

end VaxisModel.Lemmas.Parser
