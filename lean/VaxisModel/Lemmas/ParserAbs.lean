/-
C02/C08: a finite abstraction of the parser state — (state function, exit function, ignoreST) —
that `step` respects exactly.  Invariants over these three fields are then decided on the finite
abstraction (all abstract states × one rune per interval class + eof) and lifted to every concrete
state and every input by the interval lemma.
-/
import VaxisModel.Model.Parser
import VaxisModel.Lemmas.ParserConform
import VaxisModel.Lemmas.ParserStepBasic
import VaxisModel.Lemmas.ParserRow

namespace VaxisModel.Lemmas.ParserAbs
open VaxisModel.Model.ParserTable VaxisModel.Model.Parser VaxisModel.Lemmas.ParserConform
open VaxisModel.Lemmas.ParserRow

structure AS where
  state : StateId
  exit : Option ExitFn
  ign : Bool
  deriving DecidableEq, Repr, Inhabited

def α (s : PState) : AS := ⟨s.state, s.exit, s.ignoreST⟩

/-- Effect of one statement on (exit, ignoreST), and whether it panics. -/
def aAct (a : Act) (e : Option ExitFn) (g : Bool) : Option ExitFn × Bool × Bool :=
  match a with
  | .hook => (some .unhook, g, false)
  | .oscStart => (some .oscEnd, g, false)
  | .setIgnoreST => (e, true, false)
  | .clearIgnoreST => (e, false, false)
  | .setExitUnhook => (some .unhook, g, false)
  | .setExitApc => (some .apcUnhook, g, false)
  | .runExit => (e, g, e.isNone)
  | .clearExit => (none, g, false)
  | .runExitIfSet => (none, g, false)
  | .runExitIfSetST => (none, if e.isSome then true else g, false)
  | _ => (e, g, false)

theorem applyAct_abs (a : Act) (r : Nat) (s : PState) :
    (applyAct a r s).1.exit = (aAct a s.exit s.ignoreST).1 ∧
    (applyAct a r s).1.ignoreST = (aAct a s.exit s.ignoreST).2.1 ∧
    (applyAct a r s).1.state = s.state ∧
    (Seq.panic ∈ (applyAct a r s).2 ↔ (aAct a s.exit s.ignoreST).2.2 = true) := by
  rcases h : applyAct a r s with ⟨t, o⟩
  cases ParserStepBasic.does_of h <;> simp [aAct, *]

/-- Abstract `runActs`: (exit, ignoreST, panicked, next). -/
def aRunActs : List Act → Bool → Option ExitFn → Bool → Bool → Next → Option ExitFn × Bool × Bool × Next
  | [], _, e, g, p, n => (e, g, p, n)
  | .retIfIgnoreST n' :: rest, eof, e, g, p, n => if g then (e, g, p, n') else aRunActs rest eof e g p n
  | a :: rest, eof, e, g, p, n =>
    if eof && usesRune a then (e, g, true, .stop)
    else
      let (e', g', p') := aAct a e g
      aRunActs rest eof e' g' (p || p') n

def isEof : Inp → Bool
  | .eof => true
  | _ => false

theorem aRunActs_cons (a : Act) (rest : List Act) (hno : ∀ n', a ≠ .retIfIgnoreST n') (eof : Bool) (e : Option ExitFn)
    (g p : Bool) (n : Next) :
    aRunActs (a :: rest) eof e g p n =
      (if eof && usesRune a then (e, g, true, .stop)
       else aRunActs rest eof (aAct a e g).1 (aAct a e g).2.1 (p || (aAct a e g).2.2) n) := by
  cases a <;> first | exact absurd rfl (hno _) | rfl

theorem runActs_abs (acts : List Act) (i : Inp) (s : PState) (out : List Seq) (n : Next) :
    let c := runActs acts i s out n
    let a := aRunActs acts (isEof i) s.exit s.ignoreST (decide (Seq.panic ∈ out)) n
    c.1.exit = a.1 ∧ c.1.ignoreST = a.2.1 ∧ c.1.state = s.state ∧
    (Seq.panic ∈ c.2.1 ↔ a.2.2.1 = true) ∧ c.2.2 = a.2.2.2 := by
  refine ParserStepBasic.runActs_induct i n (motive := fun acts s out c =>
    let a := aRunActs acts (isEof i) s.exit s.ignoreST (decide (Seq.panic ∈ out)) n
    c.1.exit = a.1 ∧ c.1.ignoreST = a.2.1 ∧ c.1.state = s.state ∧
    (Seq.panic ∈ c.2.1 ↔ a.2.2.1 = true) ∧ c.2.2 = a.2.2.2) ?_ ?_ ?_ ?_ ?_ acts s out
  · intro s out; simp [aRunActs]
  · intro n' rest s out h; simp [aRunActs, h]
  · intro n' rest s out res h ih; simpa only [aRunActs, h, Bool.false_eq_true, if_false] using ih
  · intro a rest s out hi hu
    have hno : ∀ n', a ≠ .retIfIgnoreST n' := by rintro n' rfl; cases hu
    simp [aRunActs_cons a rest hno, hi, isEof, hu]
  · intro a rest r s out res hno hr ih
    obtain ⟨h1, h2, h3, h4⟩ := applyAct_abs a r s
    have hc : (isEof i && usesRune a) = false := by rcases hr with rfl | ⟨rfl, hu, _⟩ <;> simp [isEof, *]
    simp only [aRunActs_cons a rest hno, hc, Bool.false_eq_true, if_false]
    simpa only [h1, h2, h3, List.mem_append, h4, Bool.decide_or, Bool.decide_eq_true] using ih

def aRunFn (f : StateFn) (i : Inp) (a : AS) : AS × Bool × Next :=
  let r := aRunActs (f.row i).1 (isEof i) a.exit a.ign false (f.row i).2
  (⟨a.state, r.1, if (f.row i).1.contains .deferClearIgnoreST then false else r.2.1⟩, r.2.2.1, r.2.2.2)

def aFinish (a : AS) (p : Bool) : Next → AS × Bool × Bool
  | .st x => ({ a with state := x }, p, false)
  | .stop => (a, p, true)
  | .dispatch => (a, true, true)

theorem finish_abs (s : PState) (out : List Seq) (n : Next) (p : Bool) (hp : Seq.panic ∈ out ↔ p = true) :
    α (finish s out n).st = (aFinish (α s) p n).1 ∧
    (Seq.panic ∈ (finish s out n).out ↔ (aFinish (α s) p n).2.1 = true) ∧
    (finish s out n).stop = (aFinish (α s) p n).2.2 := by
  cases n <;> simp [finish, aFinish, α, hp]

/-- Abstract `step`. Result: new abstract state, panicked, stopped. -/
def aStep (T : Table) (a : AS) (i : Inp) : AS × Bool × Bool :=
  match aRunFn T.anywhere i a with
  | (a1, p1, .dispatch) =>
    let r := aRunFn (T.fn a1.state) i a1
    aFinish r.1 (p1 || r.2.1) r.2.2
  | (a1, p1, n) => aFinish a1 p1 n

/-- Abstract `runRow`: new abstract state, panicked, stopped. -/
def aRunRow (row : List Act × Next) (eof : Bool) (a : AS) : AS × Bool × Bool :=
  let r := aRunActs row.1 eof a.exit a.ign false row.2
  aFinish ⟨a.state, r.1, if row.1.contains .deferClearIgnoreST then false else r.2.1⟩ r.2.2.1 r.2.2.2

theorem runRow_abs (row : List Act × Next) (i : Inp) (s : PState) :
    α (runRow row i s).st = (aRunRow row (isEof i) (α s)).1 ∧
    (Seq.panic ∈ (runRow row i s).out ↔ (aRunRow row (isEof i) (α s)).2.1 = true) ∧
    (runRow row i s).stop = (aRunRow row (isEof i) (α s)).2.2 := by
  have h := runActs_abs row.1 i s [] row.2
  simp only [List.not_mem_nil, decide_false] at h
  obtain ⟨h1, h2, h3, h4, h5⟩ := h
  have hα : α (if row.1.contains .deferClearIgnoreST then { (runActs row.1 i s [] row.2).1 with ignoreST := false }
      else (runActs row.1 i s [] row.2).1) =
      ⟨s.state, (aRunActs row.1 (isEof i) s.exit s.ignoreST false row.2).1,
        if row.1.contains .deferClearIgnoreST then false else (aRunActs row.1 (isEof i) s.exit s.ignoreST false row.2).2.1⟩ := by
    split <;> simp [α, h1, h2, h3]
  have := finish_abs
    (if row.1.contains .deferClearIgnoreST then { (runActs row.1 i s [] row.2).1 with ignoreST := false }
     else (runActs row.1 i s [] row.2).1) (runActs row.1 i s [] row.2).2.1 (runActs row.1 i s [] row.2).2.2 _ h4
  rw [hα, h5] at this
  simp only [runRow, aRunRow, α, h5]
  exact this

theorem aRunFn_above (f : StateFn) (hb : clearAbove f.bounds cut = true) (a : AS) (c : Nat) (hc : cut ≤ c) :
    aRunFn f (.rune c) a = aRunFn f (.rune cut) a := by
  simp only [aRunFn, StateFn.row_const_above f cut c hb hc, isEof]

theorem aStep_above (T : Table) (hb : boundsOk T = true) (a : AS) (c : Nat) (hc : cut ≤ c) :
    aStep T a (.rune c) = aStep T a (.rune cut) := by
  simp only [boundsOk, Bool.and_eq_true, List.all_eq_true] at hb
  unfold aStep
  rw [aRunFn_above T.anywhere hb.1 a c hc]
  have : ∀ a1 : AS, aRunFn (T.fn a1.state) (.rune c) a1 = aRunFn (T.fn a1.state) (.rune cut) a1 :=
    fun a1 => aRunFn_above _ (hb.2 _ (mem_allStates _)) a1 c hc
  simp only [this]

/-- The inputs that have to be looked at: eof and the runes 0 … cut. -/
def reps : List Inp := .eof :: (List.range (cut + 1)).map .rune

theorem forall_inputs (T : Table) (hb : boundsOk T = true) (a : AS) (P : AS × Bool × Bool → Prop)
    (h : ∀ i ∈ reps, P (aStep T a i)) (i : Inp) : P (aStep T a i) := by
  cases i with
  | eof => exact h .eof (by simp [reps])
  | rune c =>
    by_cases hc : c ≤ cut
    · exact h (.rune c) (by simp only [reps, List.mem_cons, List.mem_map, List.mem_range]; exact Or.inr ⟨c, by omega, rfl⟩)
    · rw [aStep_above T hb a c (by omega)]
      exact h (.rune cut) (by simp only [reps, List.mem_cons, List.mem_map, List.mem_range]; exact Or.inr ⟨cut, by omega, rfl⟩)

def isStringState : StateId → Bool
  | .dcsPassthrough | .dcsIgnore | .oscString | .sosPm | .apc => true
  | _ => false

/-- `exit` is the exit function of the current state, and `ignoreST` is only set inside a control
    string or in the escape state. -/
def invB (a : AS) : Bool :=
  decide (a.exit = implExit a.state) && (!a.ign || isStringState a.state || decide (a.state = .escape))

theorem invB_spec (a : AS) : invB a = true ↔
    a.exit = implExit a.state ∧ (a.ign = true → isStringState a.state = true ∨ a.state = .escape) := by
  obtain ⟨st, e, g⟩ := a
  cases g <;> simp [invB]

def invStates : List AS :=
  allStates.flatMap fun st => [⟨st, implExit st, false⟩, ⟨st, implExit st, true⟩].filter invB

theorem mem_invStates (a : AS) (h : invB a = true) : a ∈ invStates := by
  obtain ⟨st, e, g⟩ := a
  have he : e = implExit st := by
    simp only [invB, Bool.and_eq_true, decide_eq_true_eq] at h; exact h.1
  subst he
  simp only [invStates, List.mem_flatMap]
  refine ⟨st, mem_allStates st, ?_⟩
  cases g <;> simp [h]

/-- What is checked for every invariant state: the row an iteration runs (`jointRow`) on the left
    end of every class, and on eof. -/
def stepOk (T : Table) : Bool :=
  invStates.all fun a =>
    (0 :: (T.anywhere.bounds ++ (T.fn a.state).bounds)).all (fun c =>
      let r := aRunRow (jointRow T a.state (.rune c)) false a; invB r.1 && !r.2.1 && !r.2.2) &&
    (let r := aRunRow (jointRow T a.state .eof) true a; !r.2.1 && r.2.2)

theorem inv_step_of_ok (T : Table) (hT : plainAnywhere T.anywhere = true) (hok : stepOk T = true) (s : PState)
    (h : invB (α s) = true) (i : Inp) :
    (isEof i = false → invB (α (step T s i).st) = true) ∧ Seq.panic ∉ (step T s i).out ∧
    (step T s i).stop = isEof i := by
  rw [step_eq_runRow T hT]
  obtain ⟨h1, h2, h3⟩ := runRow_abs (jointRow T s.state i) i s
  simp only [stepOk, List.all_eq_true, Bool.and_eq_true] at hok
  have ha := hok (α s) (mem_invStates _ h)
  simp only [show (α s).state = s.state from rfl] at ha
  cases i with
  | eof =>
    have := ha.2
    simp only [Bool.not_eq_true'] at this
    rw [h3]
    refine ⟨by simp [isEof], ?_, by simpa [isEof] using this.2⟩
    rw [h2]; simp [isEof, this.1]
  | rune c =>
    have := ha.1 _ (classOf_spec (T.anywhere.bounds ++ (T.fn s.state).bounds) c).2.1
    rw [← jointRow_classOf] at this
    simp only [Bool.not_eq_true'] at this
    rw [h1, h3]
    refine ⟨fun _ => this.1.1, ?_, by simpa [isEof] using this.2⟩
    rw [h2]; simp [isEof, this.1.2]

/-- The hand-written table has the rows of the regenerated one; whatever is evaluated on the hand
    table below therefore holds of the table of this run. -/
theorem hand_sameRows_gen : sameRows handTable genTable = true := by decide +kernel

theorem step_gen_eq_hand (s : PState) (i : Inp) : step genTable s i = step handTable s i :=
  (step_congr handTable genTable hand_sameRows_gen s i).symm

theorem hand_stepOk : stepOk handTable = true := by decide +kernel

theorem hand_inv_step (s : PState) (h : invB (α s) = true) (i : Inp) :
    (isEof i = false → invB (α (pstep s i).st) = true) ∧ Seq.panic ∉ (pstep s i).out ∧
    (pstep s i).stop = isEof i :=
  inv_step_of_ok handTable hand_plain hand_stepOk s h i

end VaxisModel.Lemmas.ParserAbs
