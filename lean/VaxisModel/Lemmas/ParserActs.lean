/-
Lemmas for Props/C02Acts.lean: the interpretation (`Model/ParserActs.lean`) of the statement skeletons of `csiDispatch` and
`hook` equals the hand-written `applyAct`, and Go `int` wrap-around in the parameter decoder.  No lemma mentions a particular
statement list: they say what the `switch` of csiDispatch's loop / the body of hook's `range` loop have to *compute* (`CsiStep`,
`HookFieldOk`) for the loops to be `decodeLoop` / `hookParams`; Props/C02Acts proves these conditions for the regenerated
bodies by evaluating the interpreter on them.  The generated file is not imported here.
-/
import VaxisModel.Model.ParserActs

namespace VaxisModel.Lemmas.ParserActs
open VaxisModel.Model.Parser VaxisModel.Model.ParserActs VaxisModel.Model.ParserTable

theorem wrap64_range (a : Int) : -9223372036854775808 ≤ wrap64 a ∧ wrap64 a < 9223372036854775808 := by
  unfold wrap64; omega

theorem wrap64_emod (a : Int) : wrap64 a % 18446744073709551616 = a % 18446744073709551616 := by
  unfold wrap64; omega

theorem wrap64_id (a : Int) (h1 : -9223372036854775808 ≤ a) (h2 : a < 9223372036854775808) :
    wrap64 a = a := by
  unfold wrap64; omega

/-- `ps *= 10; ps += d` with a wrap after each operation = one wrap of the exact result. -/
theorem wrap64_mul_add (a d : Int) : wrap64 (wrap64 (a * 10) + d) = wrap64 (a * 10 + d) := by
  unfold wrap64; omega

theorem wrap64_step (a d : Int) : wrap64 (wrap64 a * 10 + d) = wrap64 (a * 10 + d) := by
  unfold wrap64; omega

/-- What one iteration of csiDispatch's loop (`switch b { … }`) must compute on the locals
    `(ps, param, csi.Parameters)`. -/
def CsiStep (cases : List (Nat × List LoopOp)) (dflt : List LoopOp) : Prop :=
  ∀ (b : Rune) (st : LoopSt),
    runOps b (findCase cases dflt b) st =
      if b = 0x3B then { ps := 0, param := [], acc := st.acc ++ [st.param ++ [st.ps]] }
      else if b = 0x3A then { ps := 0, param := st.param ++ [st.ps], acc := st.acc }
      else { ps := wrap64 (st.ps * 10 + ((b : Int) - 0x30)), param := st.param, acc := st.acc }

theorem loopRun_sem (cases : List (Nat × List LoopOp)) (dflt : List LoopOp) (h : CsiStep cases dflt)
    (bs : List Rune) (st : LoopSt) :
    (loopRun cases dflt bs st).acc ++
      [(loopRun cases dflt bs st).param ++ [(loopRun cases dflt bs st).ps]]
      = decodeLoop bs st.ps st.param st.acc := by
  induction bs generalizing st with
  | nil => rfl
  | cons b rest ih =>
    simp only [loopRun, decodeLoop, h b st]
    by_cases h1 : b = 0x3B
    · simp only [h1, if_true]; rw [ih]
    · by_cases h2 : b = 0x3A
      · simp only [h2, if_true]; rw [ih]; rfl
      · simp only [h1, h2, if_false]; rw [ih]

/-- What the body of hook's `for _, param := range paramStr` must compute for one field, from the
    locals `params` (`val`, `err` are fresh in every iteration). -/
def HookFieldOk (ops : List HookOp) : Prop :=
  ∀ (f : List Rune) (ps : List Int),
    hookField f ops ps 0 false =
      if f.isEmpty then .cont (ps ++ [0])
      else match atoi f with
        | some v => .cont (ps ++ [v])
        | none => .ret ps [.err]

theorem hookLoop_some (ops : List HookOp) (hf : HookFieldOk ops) (fs : List (List Rune)) (acc l : List Int)
    (h : hookParams fs = some l) :
    hookLoopRun ops fs acc = (acc ++ l, [], false) := by
  induction fs generalizing acc l with
  | nil => simp [hookParams] at h; subst h; simp [hookLoopRun]
  | cons f rest ih =>
    simp only [hookParams] at h
    simp only [hookLoopRun, hf f acc]
    split at h
    · rename_i he
      cases hr : hookParams rest with
      | none => simp [hr] at h
      | some l' =>
        simp [hr] at h; subst h
        simp only [he, if_true]
        rw [ih _ _ hr]; simp
    · rename_i he
      cases ha : atoi f with
      | none => simp [ha] at h
      | some v =>
        simp only [ha] at h
        cases hr : hookParams rest with
        | none => simp [hr] at h
        | some l' =>
          simp [hr] at h; subst h
          simp only [he]
          simp
          rw [ih _ _ hr]; simp

theorem hookLoop_none (ops : List HookOp) (hf : HookFieldOk ops) (fs : List (List Rune)) (acc : List Int)
    (h : hookParams fs = none) :
    ∃ ps, hookLoopRun ops fs acc = (ps, [.err], true) := by
  induction fs generalizing acc with
  | nil => simp [hookParams] at h
  | cons f rest ih =>
    simp only [hookParams] at h
    simp only [hookLoopRun, hf f acc]
    split at h
    · rename_i he
      simp only [he, if_true]
      cases hr : hookParams rest with
      | some l' => simp [hr] at h
      | none => exact ih _ hr
    · rename_i he
      simp only [he]
      cases ha : atoi f with
      | none => simp
      | some v =>
        simp only [ha] at h
        cases hr : hookParams rest with
        | some l' => simp [hr] at h
        | none => simp; exact ih _ hr

theorem isDigit_iff (b : Nat) : isDigit b = true ↔ 0x30 ≤ b ∧ b ≤ 0x39 := by
  simp [isDigit]

theorem decodeLoop_digits_aux (ds : List Nat) (h : ds.all isDigit = true) (v : Nat) (param : List Int)
    (acc : List (List Int)) :
    decodeLoop ds (wrap64 v) param acc
      = acc ++ [param ++ [wrap64 ((ds.foldl (fun v b => v * 10 + (b - 0x30)) v : Nat) : Int)]] := by
  induction ds generalizing v with
  | nil => rfl
  | cons b rest ih =>
    simp only [List.all_cons, Bool.and_eq_true] at h
    have hb := (isDigit_iff b).mp h.1
    have h1 : ¬ b = 0x3B := by omega
    have h2 : ¬ b = 0x3A := by omega
    simp only [decodeLoop, h1, h2, if_false, List.foldl_cons]
    rw [wrap64_step, ← ih h.2]
    congr 2
    omega

theorem decodeLoop_digits (ds : List Rune) (h : ds.all isDigit = true) :
    decodeLoop ds 0 [] [] = [[wrap64 (decimal ds)]] := by
  have := decodeLoop_digits_aux ds h 0 [] []
  have w0 : wrap64 ((0 : Nat) : Int) = 0 := by decide
  rw [w0] at this
  simpa [decimal] using this

theorem splitOn_no_sep (sep : Nat) (ds cur : List Nat) (h : ∀ b ∈ ds, b ≠ sep) :
    splitOn sep ds cur = [cur ++ ds] := by
  induction ds generalizing cur with
  | nil => simp [splitOn]
  | cons b rest ih =>
    have hb : ¬ b = sep := h b (by simp)
    simp only [splitOn, hb, if_false]
    rw [ih _ (fun x hx => h x (by simp [hx]))]; simp

theorem splitOn_digits (ds : List Nat) (h : ds.all isDigit = true) : splitOn 0x3B ds [] = [ds] := by
  rw [splitOn_no_sep]
  · simp
  · intro b hb
    have := (isDigit_iff b).mp (List.all_eq_true.mp h b hb)
    omega

/-- `123456789012345678901234567890` as parameter bytes. -/
def digits30 : List Rune :=
  [0x31, 0x32, 0x33, 0x34, 0x35, 0x36, 0x37, 0x38, 0x39, 0x30, 0x31, 0x32, 0x33, 0x34, 0x35, 0x36, 0x37, 0x38, 0x39, 0x30,
   0x31, 0x32, 0x33, 0x34, 0x35, 0x36, 0x37, 0x38, 0x39, 0x30]

/-- `9223372036854775808` (2^63) as parameter bytes. -/
def digitsTwo63 : List Rune :=
  [0x39, 0x32, 0x32, 0x33, 0x33, 0x37, 0x32, 0x30, 0x33, 0x36, 0x38, 0x35, 0x34, 0x37, 0x37, 0x35, 0x38, 0x30, 0x38]

end VaxisModel.Lemmas.ParserActs
