/-
C02: the two parameter decoders agree on everything that can be collected:
`csiDispatch`'s loop (`decodeParams`, Go `int` wrap-around) = the Spec's `parseParams` with every
number reduced into the 64-bit signed range; `hook`'s `strings.Split` + `strconv.Atoi`
(`hookParams`) = the Spec's `parseDcsParams`, or an error when a value does not fit an `int`.
-/
import VaxisModel.Lemmas.ParserRefine
import VaxisModel.Lemmas.ParserActs
import VaxisModel.Lemmas.ParserParams
import VaxisModel.Lemmas.ListSplit

namespace VaxisModel.Lemmas.ParserCodec
open VaxisModel.Model.Parser VaxisModel.Lemmas.ParserRefine VaxisModel.Lemmas.ParserActs
open VaxisModel.Spec.VT500 (splitAt number parseParams parseDcsParams)
open VaxisModel.Lemmas.ListSplit

def numFrom (v : Nat) (ds : List Nat) : Nat := ds.foldl (fun v d => 10 * v + (d - 0x30)) v

theorem number_eq (ds : List Nat) : number ds = numFrom 0 ds := rfl

theorem splitAt_eq_split (sep : Nat) : ∀ s, splitAt sep s = split sep s
  | [] => rfl
  | c :: rest => by simp only [splitAt, split, splitAt_eq_split sep rest]; cases split sep rest <;> rfl

theorem splitAt_ne_nil (sep : Nat) (l : List Nat) : splitAt sep l ≠ [] := by
  rw [splitAt_eq_split]; exact split_ne_nil sep l

theorem splitAt_cons_sep (sep : Nat) (rest : List Nat) : splitAt sep (sep :: rest) = [] :: splitAt sep rest := by
  simp only [splitAt_eq_split]; exact split_cons_sep sep rest

theorem splitAt_cons_other (sep c : Nat) (hc : c ≠ sep) (rest : List Nat) :
    ∃ hd tl, splitAt sep rest = hd :: tl ∧ splitAt sep (c :: rest) = (c :: hd) :: tl := by
  simp only [splitAt_eq_split]; exact split_cons_ne sep c hc rest

/-- Sub-parameters of the field being read, the first number continuing from `v`. -/
def subG (v : Nat) (first : List Nat) : List Int :=
  match splitAt 0x3A first with
  | [] => []
  | f0 :: fs => goInt (numFrom v f0) :: fs.map (fun p => goInt (number p))

def G (v : Nat) (param : List Int) (ps : List Nat) : List (List Int) :=
  match splitAt 0x3B ps with
  | [] => []
  | first :: others =>
    (param ++ subG v first) :: others.map (fun p => (splitAt 0x3A p).map (fun q => goInt (number q)))

theorem subG_zero (first : List Nat) : subG 0 first = (splitAt 0x3A first).map (fun q => goInt (number q)) := by
  unfold subG
  cases h : splitAt 0x3A first with
  | nil => rfl
  | cons f0 fs => simp [number_eq]

theorem wrap64_zero : wrap64 ((0 : Nat) : Int) = 0 := by unfold wrap64; omega

theorem subG_nil (v : Nat) : subG v [] = [goInt v] := by simp [subG, splitAt, numFrom]

theorem subG_sep (v : Nat) (first : List Nat) : subG v (0x3A :: first) = goInt v :: subG 0 first := by
  rw [subG_zero]
  simp [subG, splitAt_cons_sep, numFrom]

theorem subG_digit (v b : Nat) (hb : b ≠ 0x3A) (first : List Nat) :
    subG v (b :: first) = subG (10 * v + (b - 0x30)) first := by
  obtain ⟨f0, fs, e3, e4⟩ := splitAt_cons_other 0x3A b hb first
  simp [subG, e3, e4, numFrom]

theorem decodeLoop_G (ps : List Nat) (hps : ∀ b ∈ ps, 0x30 ≤ b ∧ b ≤ 0x3B) (v : Nat) (param : List Int)
    (acc : List (List Int)) : decodeLoop ps (wrap64 (v : Int)) param acc = acc ++ G v param ps := by
  induction ps generalizing v param acc with
  | nil => simp [decodeLoop, G, splitAt, subG_nil, goInt]
  | cons b rest ih =>
    have hb := hps b (by simp)
    have hrest : ∀ b' ∈ rest, 0x30 ≤ b' ∧ b' ≤ 0x3B := fun b' hb' => hps b' (by simp [hb'])
    by_cases h1 : b = 0x3B
    · subst h1
      simp only [decodeLoop, if_true]
      have := ih hrest 0 [] (acc ++ [param ++ [wrap64 (v : Int)]])
      rw [wrap64_zero] at this
      rw [this]
      simp only [G, splitAt_cons_sep]
      cases hsp : splitAt 0x3B rest with
      | nil => exact absurd hsp (splitAt_ne_nil _ _)
      | cons first others => simp [subG_nil, subG_zero, goInt]
    by_cases h2 : b = 0x3A
    · subst h2
      simp only [decodeLoop, h1, if_false, if_true]
      have := ih hrest 0 (param ++ [wrap64 (v : Int)]) acc
      rw [wrap64_zero] at this
      rw [this]
      obtain ⟨first, others, e1, e2⟩ := splitAt_cons_other 0x3B 0x3A (by decide) rest
      simp only [G, e1, e2, subG_sep]
      simp [goInt]
    · simp only [decodeLoop, h1, h2, if_false]
      have hstep : wrap64 (wrap64 (v : Int) * 10 + ((b : Int) - 0x30)) = wrap64 (((10 * v + (b - 0x30) : Nat)) : Int) := by
        rw [wrap64_step]
        congr 1
        omega
      rw [hstep, ih hrest (10 * v + (b - 0x30)) param acc]
      obtain ⟨first, others, e1, e2⟩ := splitAt_cons_other 0x3B b h1 rest
      simp only [G, e1, e2, subG_digit v b h2]

theorem G_zero (ps : List Nat) :
    [] ++ G 0 [] ps = ((splitAt 0x3B ps).map fun p => (splitAt 0x3A p).map number).map (·.map goInt) := by
  simp only [G, List.nil_append]
  cases hsp : splitAt 0x3B ps with
  | nil => exact absurd hsp (splitAt_ne_nil _ _)
  | cons first others => simp only [subG_zero, List.map_cons, List.map_map, Function.comp_def]

/-- For any collected parameter bytes (30–3B), `csiDispatch` delivers the Spec's
    parameters and sub-parameters with every number reduced mod 2^64 into the signed range. -/
theorem codec_csi (ps : List Nat) (hps : ∀ b ∈ ps, 0x30 ≤ b ∧ b ≤ 0x3B) :
    decodeParams ps = (parseParams ps).map (·.map goInt) := by
  cases ps with
  | nil => simp [decodeParams, parseParams]
  | cons b rest =>
    have h1 : decodeParams (b :: rest) = decodeLoop (b :: rest) 0 [] [] := by simp [decodeParams]
    have h2 : parseParams (b :: rest) =
        (splitAt 0x3B (b :: rest)).map fun p => (splitAt 0x3A p).map number := by simp [parseParams]
    have h3 := decodeLoop_G (b :: rest) hps 0 [] []
    rw [wrap64_zero] at h3
    rw [h1, h2, h3]
    exact G_zero (b :: rest)

theorem splitOn_splitAt (sep : Nat) (l cur : List Nat) :
    ∃ hd tl, splitAt sep l = hd :: tl ∧ splitOn sep l cur = (cur ++ hd) :: tl := by
  induction l generalizing cur with
  | nil => exact ⟨[], [], by simp [splitAt], by simp [splitOn]⟩
  | cons b rest ih =>
    by_cases hb : b = sep
    · subst hb
      obtain ⟨hd, tl, e1, e2⟩ := ih []
      refine ⟨[], hd :: tl, by rw [splitAt_cons_sep, e1], ?_⟩
      simp [splitOn, e2]
    · obtain ⟨hd, tl, e1, e2⟩ := ih (cur ++ [b])
      obtain ⟨hd', tl', e3, e4⟩ := splitAt_cons_other sep b hb rest
      rw [e1] at e3
      obtain ⟨rfl, rfl⟩ := List.cons.inj e3
      exact ⟨b :: hd, tl, e4, by simp [splitOn, hb, e2]⟩

theorem splitAt_fields (sep : Nat) (l : List Nat) : ∀ f ∈ splitAt sep l, ∀ b ∈ f, b ∈ l ∧ b ≠ sep := by
  rw [splitAt_eq_split]; exact split_mem sep l

theorem number_eq_decimal (ds : List Nat) : number ds = decimal ds := by
  unfold number decimal
  congr 1
  funext v b
  omega

theorem hookParams_fields (fs : List (List Nat)) (hd : ∀ f ∈ fs, ∀ b ∈ f, 0x30 ≤ b ∧ b ≤ 0x39) :
    hookParams fs =
      (if (fs.map number).all (fun p => decide (p < 9223372036854775808))
       then some ((fs.map number).map Int.ofNat) else none) := by
  induction fs with
  | nil => simp [hookParams]
  | cons p rest ih =>
    have ih' := ih (fun f hf => hd f (by simp [hf]))
    simp only [hookParams, ih', List.map_cons, List.all_cons]
    cases hp : p with
    | nil =>
      simp only [List.isEmpty_nil, if_true]
      have : number [] = 0 := rfl
      simp only [this]
      by_cases hall : ((rest.map number).all fun p => decide (p < 9223372036854775808)) = true <;> simp [hall]
    | cons b t =>
      simp only [List.isEmpty_cons, Bool.false_eq_true, if_false]
      have hdig : (b :: t).all isDigit = true := by
        simp only [List.all_eq_true]
        intro x hx
        have := hd p (by simp) x (by rw [hp]; exact hx)
        simp [isDigit, this.1, this.2]
      by_cases hlt : number (b :: t) < 9223372036854775808
      · have ha : atoi (b :: t) = some ((number (b :: t) : Nat) : Int) := by
          simp only [atoi, hdig, ← number_eq_decimal, hlt, decide_true, Bool.and_self, if_true]
        simp only [ha, hlt, decide_true, Bool.true_and]
        by_cases hall : ((rest.map number).all fun p => decide (p < 9223372036854775808)) = true <;> simp [hall]
      · have ha : atoi (b :: t) = none := by
          simp only [atoi, hdig, ← number_eq_decimal, hlt, decide_false, Bool.and_false, Bool.false_eq_true, if_false]
        simp [ha, hlt]

/-- `hook` delivers the Spec's parameters, or reports an error (and delivers
    none) exactly when one of them does not fit a Go `int`. -/
theorem codec_dcs (ps : List Nat) (hne : ps ≠ []) (hps : ∀ b ∈ ps, 0x30 ≤ b ∧ b ≤ 0x3B ∧ b ≠ 0x3A) :
    hookParams (splitOn 0x3B ps []) =
      (if (parseDcsParams ps).all (fun p => decide (p < 9223372036854775808))
       then some ((parseDcsParams ps).map Int.ofNat) else none) := by
  obtain ⟨hd, tl, e1, e2⟩ := splitOn_splitAt 0x3B ps []
  have hpd : parseDcsParams ps = (splitAt 0x3B ps).map number := by simp [parseDcsParams, hne]
  rw [hpd, e2, List.nil_append, ← e1]
  apply hookParams_fields
  intro f hf b hb
  have := splitAt_fields 0x3B ps f hf b hb
  have h2 := hps b this.1
  omega

/-! ### the printed form read back

The Spec's parser inverts `encParams`; the implementation's decoders then do so because they are the
Spec's (`codec_csi`, `codec_dcs`). -/

open VaxisModel.Lemmas.ParserParams

theorem splitAt_field (sep : Nat) (f : List Nat) (hf : ∀ b ∈ f, b ≠ sep) :
    splitAt sep f = [f] ∧ ∀ rest, splitAt sep (f ++ sep :: rest) = f :: splitAt sep rest := by
  simp only [splitAt_eq_split]; exact split_field sep f hf

theorem number_digitsOf (n : Nat) : number (digitsOf n) = n := by
  induction n using digitsOf.induct with
  | case1 n h =>
    unfold digitsOf; simp only [h, if_true, number, List.foldl_cons, List.foldl_nil]; omega
  | case2 n h ih =>
    unfold digitsOf
    simp only [h, if_false, number, List.foldl_append, List.foldl_cons, List.foldl_nil]
    simp only [number] at ih
    rw [ih]; omega

theorem digitsOf_no_sep (n : Nat) : ∀ b ∈ digitsOf n, b ≠ 0x3A ∧ b ≠ 0x3B := by
  intro b hb; have := digitsOf_bytes n b hb; omega

theorem splitAt_encSub : ∀ p : List Nat, p ≠ [] → splitAt 0x3A (encSub p) = p.map digitsOf
  | [], h => absurd rfl h
  | [x], _ => (splitAt_field _ _ fun b hb => (digitsOf_no_sep x b hb).1).1
  | x :: y :: t, _ => by
    rw [encSub, (splitAt_field _ _ fun b hb => (digitsOf_no_sep x b hb).1).2, splitAt_encSub (y :: t) (by simp)]; rfl

theorem encSub_no_semicolon (p : List Nat) : ∀ b ∈ encSub p, b ≠ 0x3B := by
  induction p using encSub.induct with
  | case1 => simp [encSub]
  | case2 x => exact fun b hb => (digitsOf_no_sep x b hb).2
  | case3 x y t ih =>
    intro b hb
    simp only [encSub, List.mem_append, List.mem_cons] at hb
    rcases hb with hb | rfl | hb
    · exact (digitsOf_no_sep x b hb).2
    · decide
    · exact ih b hb

theorem splitAt_encParams : ∀ ps : List (List Nat), ps ≠ [] → splitAt 0x3B (encParams ps) = ps.map encSub
  | [], h => absurd rfl h
  | [p], _ => (splitAt_field _ _ (encSub_no_semicolon p)).1
  | p :: q :: t, _ => by
    rw [encParams, (splitAt_field _ _ (encSub_no_semicolon p)).2, splitAt_encParams (q :: t) (by simp)]; rfl

theorem parseParams_encParams (ps : List (List Nat)) (hok : ∀ p ∈ ps, p ≠ []) (hne : encParams ps ≠ []) :
    parseParams (encParams ps) = ps := by
  have hps : ps ≠ [] := by rintro rfl; exact hne rfl
  simp only [parseParams, hne, if_false, splitAt_encParams ps hps, List.map_map]
  conv => rhs; rw [← List.map_id ps]
  apply List.map_congr_left
  intro p hp
  simp only [Function.comp, splitAt_encSub p (hok p hp), List.map_map, id]
  conv => rhs; rw [← List.map_id p]
  exact List.map_congr_left fun x _ => number_digitsOf x

theorem decodeParams_encParams_goInt (ps : List (List Nat)) (hok : ∀ p ∈ ps, p ≠ []) (hne : encParams ps ≠ []) :
    decodeParams (encParams ps) = ps.map (·.map goInt) := by
  rw [codec_csi _ (encParams_bytes _), parseParams_encParams _ hok hne]

theorem goInt_small (n : Nat) (h : n < 9223372036854775808) : goInt n = (n : Int) :=
  wrap64_id (n : Int) (by omega) (by omega)

/-- Decoding the printed form of any parameter list (every parameter with
    at least one sub-parameter, every value below 2^63) gives the list back; no parameters ↔ nil. -/
theorem decodeParams_encParams (ps : List (List Nat)) (hok : ParamsOk ps) :
    decodeParams (encParams ps) = ps.map (·.map Int.ofNat) := by
  cases ps with
  | nil => rfl
  | cons p tl =>
    rw [decodeParams_encParams_goInt _ (fun q hq => (hok q hq).1) (encParams_ne_nil _ (by simp) hok)]
    apply List.map_congr_left
    intro q hq
    exact List.map_congr_left fun x hx => goInt_small x ((hok q hq).2 x hx)

theorem codec : Codec := ⟨codec_csi, codec_dcs⟩

end VaxisModel.Lemmas.ParserCodec
