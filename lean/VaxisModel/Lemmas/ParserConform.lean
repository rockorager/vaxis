/-
C02: the bridge between the implementation's transition table (statement lists per `case` arm)
and the Spec's (Williams actions with entry/exit actions): `implRow` abstracts an arm into Spec
actions; the comparison is decided on one rune per interval class and holds on the whole class
by the interval lemmas of Model/ParserTable.lean.
-/
import VaxisModel.Model.Parser
import VaxisModel.Spec.VT500

namespace VaxisModel.Lemmas.ParserConform
open VaxisModel.Model.ParserTable VaxisModel.Model.Parser
open VaxisModel.Spec.VT500 (S A)

def toS : StateId → S
  | .ground => .ground | .escape => .escape | .escapeIntermediate => .escapeIntermediate
  | .csiEntry => .csiEntry | .csiParam => .csiParam | .csiIntermediate => .csiIntermediate
  | .csiIgnore => .csiIgnore | .dcsEntry => .dcsEntry | .dcsParam => .dcsParam
  | .dcsIntermediate => .dcsIntermediate | .dcsPassthrough => .dcsPassthrough
  | .dcsIgnore => .dcsIgnore | .oscString => .oscString | .sosPm => .sosPmApcString
  | .apc => .apcString | .ss3 => .ss3

/-- The exit function the implementation holds in each state (an invariant of the
    parser: `invB` in Lemmas/ParserAbs.lean, the field `ex` of `R` in Lemmas/ParserRefineStep.lean). -/
def implExit : StateId → Option ExitFn
  | .oscString => some .oscEnd
  | .dcsPassthrough => some .unhook
  | .apc => some .apcUnhook
  | _ => none

def exitA : Option ExitFn → List A
  | some .oscEnd => [.oscEnd]
  | some .unhook => [.unhook]
  | some .apcUnhook => [.apcEnd]
  | none => []

/-- Statement list of an arm ↦ Spec actions, in state `st`.  Bookkeeping that has no counterpart in
    the published machine (flag writes, the timer, re-asserting the exit function, error reports)
    maps to nothing; running the exit function maps to the exit action of the current state;
    `if p.ignoreST { return n }; escapeDispatch` is the Spec's `stOrDispatch`. -/
def absActs (st : StateId) (n : Next) : List Act → List A
  | [] => []
  | .retIfIgnoreST n' :: .escapeDispatch :: rest =>
    if n' = n then .stOrDispatch :: absActs st n rest else .escDispatch :: absActs st n rest
  | a :: rest =>
    (match a with
     | .execute => [A.execute] | .print => [.print] | .collect => [.collect] | .param => [.param]
     | .csiDispatch => [.csiDispatch] | .escapeDispatch => [.escDispatch] | .hook => [.hook]
     | .put => [.put] | .oscStart => [.oscStart] | .oscPut => [.oscPut] | .apcPut => [.apcPut]
     | .clear => [.clear] | .emitSS3 => [.ss3Dispatch] | .setExitApc => [.apcStart]
     | .runExit | .runExitIfSet | .runExitIfSetST => exitA (implExit st)
     | _ => []) ++ absActs st n rest

def nextS : Next → Option S
  | .st x => some (toS x)
  | _ => none

/-- Everything the implementation does for input `i` in state `st`, in Spec vocabulary:
    `anywhere` first, then (on `p.state(r, p)`) the state function. -/
def implRow (T : Table) (st : StateId) (i : Inp) : List A × Option S :=
  let (a1, n1) := T.anywhere.row i
  match n1 with
  | .dispatch =>
    let (a2, n2) := (T.fn st).row i
    (absActs st n1 a1 ++ absActs st n2 a2, nextS n2)
  | n => (absActs st n a1, nextS n)

def specRow (st : StateId) : Inp → List A × Option S
  | .rune c => let (a, t) := Spec.VT500.trans (toS st) (.rune c); (a, some t)
  | .eof => ((Spec.VT500.trans (toS st) .eof).1, none)

/-- Largest rune that has to be looked at individually. -/
def cut : Nat := 256

def boundsOk (T : Table) : Bool :=
  clearAbove T.anywhere.bounds cut && allStates.all fun st => clearAbove (T.fn st).bounds cut

/-! ### one rune per class

Both sides of the comparison depend on the rune only through comparisons with constants: the guard
constants of `anywhere` and of the state function, and the `lo`/`hi` of the Spec rows (and 0x80).
It is therefore decided on the left end of every class and holds on the whole class. -/

def rowBounds (rows : List Spec.VT500.Row) : List Nat := rows.flatMap fun x => [x.lo, x.hi + 1]

theorem findRow_const (rows : List Spec.VT500.Row) (a c : Nat) (h : ∀ b ∈ rowBounds rows, b ≤ a ∨ c < b)
    (hac : a ≤ c) : Spec.VT500.findRow rows c = Spec.VT500.findRow rows a := by
  induction rows with
  | nil => rfl
  | cons x rest ih =>
    have h1 := h x.lo (by simp [rowBounds])
    have h2 := h (x.hi + 1) (by simp [rowBounds])
    have hc : (x.lo ≤ c ∧ c ≤ x.hi) = (x.lo ≤ a ∧ a ≤ x.hi) := by simp only [eq_iff_iff]; omega
    simp only [Spec.VT500.findRow, hc]
    rw [ih (fun b hb => h b (by simp only [rowBounds, List.flatMap_cons, List.mem_append]; exact .inr hb))]

def classBounds (T : Table) (st : StateId) : List Nat :=
  T.anywhere.bounds ++ (T.fn st).bounds ++
    0x80 :: rowBounds (Spec.VT500.anywhereRows ++ (Spec.VT500.overrides (toS st) ++ Spec.VT500.williams (toS st)))

theorem implRow_class (T : Table) (st : StateId) (bs : List Nat)
    (h : ∀ b ∈ T.anywhere.bounds ++ (T.fn st).bounds, b ∈ bs) (c : Nat) :
    implRow T st (.rune c) = implRow T st (.rune (classOf bs c)) := by
  have h1 := T.anywhere.row_classOf bs (fun b hb => h b (List.mem_append_left _ hb)) c
  have h2 := (T.fn st).row_classOf bs (fun b hb => h b (List.mem_append_right _ hb)) c
  simp only [implRow, h1, h2]

theorem specRow_class (T : Table) (st : StateId) (c : Nat) :
    specRow st (.rune c) = specRow st (.rune (classOf (classBounds T st) c)) := by
  obtain ⟨h1, _, h3⟩ := classOf_spec (classBounds T st) c
  have hb : ∀ b ∈ rowBounds (Spec.VT500.anywhereRows ++
      (Spec.VT500.overrides (toS st) ++ Spec.VT500.williams (toS st))), b ≤ classOf (classBounds T st) c ∨ c < b :=
    fun b hb => h3 b (by simp only [classBounds, List.mem_append, List.mem_cons]; exact .inr (.inr hb))
  have h80 := h3 0x80 (by simp [classBounds])
  have e80 : (0x80 ≤ c) = (0x80 ≤ classOf (classBounds T st) c) := by simp only [eq_iff_iff]; omega
  have hb1 : ∀ b ∈ rowBounds Spec.VT500.anywhereRows, b ≤ classOf (classBounds T st) c ∨ c < b :=
    fun b hb' => hb b (by simp only [rowBounds, List.flatMap_append, List.mem_append] at hb' ⊢; exact .inl hb')
  have hb2 : ∀ b ∈ rowBounds (Spec.VT500.overrides (toS st) ++ Spec.VT500.williams (toS st)),
      b ≤ classOf (classBounds T st) c ∨ c < b :=
    fun b hb' => hb b (by simp only [rowBounds, List.flatMap_append, List.mem_append] at hb' ⊢; exact .inr hb')
  simp only [specRow, Spec.VT500.trans, e80, findRow_const _ _ c hb1 h1, findRow_const _ _ c hb2 h1]

def conformsOn (T : Table) : Bool :=
  allStates.all fun st =>
    (0 :: classBounds T st).all (fun c => decide (implRow T st (.rune c) = specRow st (.rune c))) &&
    decide (implRow T st .eof = specRow st .eof)

theorem conforms_of_classes (T : Table) (hf : conformsOn T = true) (st : StateId) (i : Inp) :
    implRow T st i = specRow st i := by
  simp only [conformsOn, List.all_eq_true, Bool.and_eq_true, decide_eq_true_eq] at hf
  have hst := hf st (mem_allStates st)
  cases i with
  | eof => exact hst.2
  | rune c =>
    rw [implRow_class T st (classBounds T st) (fun b hb => by
        simp only [classBounds, List.mem_append] at hb ⊢; exact .inl hb) c, specRow_class T st c]
    exact hst.1 _ (classOf_spec _ c).2.1

def sameFn (f g : StateFn) : Bool :=
  (0 :: (f.bounds ++ g.bounds)).all (fun c => decide (f.row (.rune c) = g.row (.rune c))) &&
  decide (f.row .eof = g.row .eof) &&
  (f.pre.contains .deferClearIgnoreST == g.pre.contains .deferClearIgnoreST)

def sameRows (T U : Table) : Bool :=
  sameFn T.anywhere U.anywhere && allStates.all fun st => sameFn (T.fn st) (U.fn st)

theorem sameFn_row (f g : StateFn) (h : sameFn f g = true) (i : Inp) : f.row i = g.row i := by
  simp only [sameFn, Bool.and_eq_true, List.all_eq_true, decide_eq_true_eq] at h
  cases i with
  | eof => exact h.1.2
  | rune c =>
    rw [f.row_classOf (f.bounds ++ g.bounds) (fun b hb => List.mem_append_left _ hb) c,
      g.row_classOf (f.bounds ++ g.bounds) (fun b hb => List.mem_append_right _ hb) c]
    exact h.1.1 _ (classOf_spec _ c).2.1

theorem sameRows_row (T U : Table) (h : sameRows T U = true) (i : Inp) :
    T.anywhere.row i = U.anywhere.row i ∧ ∀ st, (T.fn st).row i = (U.fn st).row i := by
  simp only [sameRows, Bool.and_eq_true, List.all_eq_true] at h
  exact ⟨sameFn_row _ _ h.1 i, fun st => sameFn_row _ _ (h.2 st (mem_allStates st)) i⟩

theorem step_congr (T U : Table) (h : sameRows T U = true) (s : PState) (i : Inp) : step T s i = step U s i := by
  obtain ⟨h1, h2⟩ := sameRows_row T U h i
  simp only [step, runFn, h1, h2]

theorem implRow_congr (T U : Table) (h : sameRows T U = true) (st : StateId) (i : Inp) :
    implRow T st i = implRow U st i := by
  obtain ⟨h1, h2⟩ := sameRows_row T U h i
  simp only [implRow, h1, h2]

end VaxisModel.Lemmas.ParserConform
