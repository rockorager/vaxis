/-
C02: device control strings — `hook` (`strings.Split` + `Atoi`) on printed DCS parameters and the step
lemmas of the DCS states.
-/
import VaxisModel.Lemmas.Parser
import VaxisModel.Lemmas.ParserCodec

namespace VaxisModel.Lemmas.ParserDcs
open VaxisModel.Model.ParserTable VaxisModel.Model.Parser VaxisModel.Lemmas.ParserParams
open VaxisModel.Lemmas.Parser VaxisModel.Lemmas.ParserRow

/-- DCS parameters have no sub-parameters: digits joined by `;`. -/
def encDcs (ps : List Nat) : List Nat := encParams (ps.map fun x => [x])

theorem encDcs_bytes : ∀ (ps : List Nat), ∀ b ∈ encDcs ps, (0x30 ≤ b ∧ b ≤ 0x39) ∨ b = 0x3B
  | [], b, hb => by simp [encDcs, encParams] at hb
  | [x], b, hb => by
    simp only [encDcs, List.map_cons, List.map_nil, encParams, encSub] at hb
    exact Or.inl (digitsOf_bytes x b hb)
  | x :: y :: rest, b, hb => by
    simp only [encDcs, List.map_cons, encParams, encSub, List.mem_append, List.mem_cons] at hb
    rcases hb with hb | hb | hb
    · exact Or.inl (digitsOf_bytes x b hb)
    · exact Or.inr hb
    · exact encDcs_bytes (y :: rest) b (by simpa [encDcs] using hb)

theorem decimal_digitsOf (n : Nat) : decimal (digitsOf n) = n :=
  (ParserCodec.number_eq_decimal _).symm.trans (ParserCodec.number_digitsOf n)

theorem encDcs_ne_nil (ps : List Nat) (hne : ps ≠ []) : (encDcs ps).isEmpty = false := by
  cases ps with
  | nil => exact absurd rfl hne
  | cons x rest =>
    cases rest <;>
    · simp only [encDcs, List.map_cons, List.map_nil, encParams, encSub]
      cases hx : digitsOf x with
      | nil => exact absurd hx (digitsOf_ne_nil x)
      | cons _ _ => rfl

/-- `hook` decodes the printed DCS parameters: it is the Spec's parser (`codec_dcs`), which reads the
    printed form back. -/
theorem hook_codec (ps : List Nat) (hne : ps ≠ []) (h : ∀ x ∈ ps, x < 9223372036854775808) :
    hookParams (splitOn 0x3B (encDcs ps) []) = some (ps.map Int.ofNat) := by
  have hb : ∀ b ∈ encDcs ps, 0x30 ≤ b ∧ b ≤ 0x3B ∧ b ≠ 0x3A := fun b hb => by
    have := encDcs_bytes ps b hb; omega
  have hne' : encDcs ps ≠ [] := fun e => by simpa [e] using encDcs_ne_nil ps hne
  have hp : Spec.VT500.parseDcsParams (encDcs ps) = ps := by
    have hs : Spec.VT500.splitAt 0x3B (encDcs ps) = (ps.map fun x => [x]).map encSub :=
      ParserCodec.splitAt_encParams _ (by simpa using hne)
    simp only [Spec.VT500.parseDcsParams, hne', if_false, hs, List.map_map]
    conv => rhs; rw [← List.map_id ps]
    exact List.map_congr_left fun x _ => ParserCodec.number_digitsOf x
  rw [ParserCodec.codec_dcs _ hne' hb, hp, if_pos (by simpa using h)]

theorem escape_dcs (s : PState) (hs : s.state = .escape) :
    pstep s (.rune 0x50) = ⟨{ s with state := .dcsEntry, inter := [], params := [], ignoreST := false }, [], false⟩ := by
  have hrow : jointRow handTable .escape (.rune 0x50) = ([.deferClearIgnoreST, .clear], .st .dcsEntry) := by decide
  rw [pstep_eq_runRow, hs, hrow]
  rfl

def DcsHead (s : PState) : Prop := s.state = .dcsEntry ∨ s.state = .dcsParam
def DcsBody (s : PState) : Prop := s.state = .dcsEntry ∨ s.state = .dcsParam ∨ s.state = .dcsIntermediate

theorem dcs_param (s : PState) (hs : DcsHead s) (r : Nat) (hr : (0x30 ≤ r ∧ r ≤ 0x39) ∨ r = 0x3B) :
    pstep s (.rune r) = ⟨{ s with state := .dcsParam, params := s.params ++ [r] }, [], false⟩ := by
  have hrow : jointRow handTable s.state (.rune r) = ([.param], .st .dcsParam) := by
    rcases hr with ⟨h1, h2⟩ | h
    · rcases hs with h' | h' <;> rw [h'] <;> exact hand_row _ 0x30 0x39 r _ (by decide) (by decide) h1 h2
    · subst h; rcases hs with h' | h' <;> rw [h'] <;> decide
  rw [pstep_eq_runRow, hrow]
  rfl

theorem dcs_private (s : PState) (hs : s.state = .dcsEntry) (r : Nat) (h1 : 0x3C ≤ r) (h2 : r ≤ 0x3F) :
    pstep s (.rune r) = ⟨{ s with state := .dcsParam, inter := s.inter ++ [r] }, [], false⟩ := by
  have hrow : jointRow handTable .dcsEntry (.rune r) = ([.collect], .st .dcsParam) :=
    hand_row _ 0x3C 0x3F r _ (by decide) (by decide) h1 h2
  rw [pstep_eq_runRow, hs, hrow]
  rfl

theorem dcs_inter (s : PState) (hs : DcsBody s) (r : Nat) (h1 : 0x20 ≤ r) (h2 : r ≤ 0x2F) :
    pstep s (.rune r) = ⟨{ s with state := .dcsIntermediate, inter := s.inter ++ [r] }, [], false⟩ := by
  have hrow : jointRow handTable s.state (.rune r) = ([.collect], .st .dcsIntermediate) := by
    rcases hs with h' | h' | h' <;> rw [h'] <;> exact hand_row _ 0x20 0x2F r _ (by decide) (by decide) h1 h2
  rw [pstep_eq_runRow, hrow]
  rfl

theorem dcs_final_row (st : StateId) (hst : st = .dcsEntry ∨ st = .dcsParam ∨ st = .dcsIntermediate) (r : Nat)
    (h1 : 0x40 ≤ r) (h2 : r ≤ 0x7E) : jointRow handTable st (.rune r) = ([.hook], .st .dcsPassthrough) := by
  rcases hst with h' | h' | h' <;> subst h' <;> exact hand_row _ 0x40 0x7E r _ (by decide) (by decide) h1 h2

theorem run_dcs_params (w : List Nat) (hw : ∀ b ∈ w, (0x30 ≤ b ∧ b ≤ 0x39) ∨ b = 0x3B) (s : PState) (hs : DcsHead s) :
    run s w = ({ s with state := if w.isEmpty then s.state else .dcsParam, params := s.params ++ w }, []) := by
  induction w generalizing s with
  | nil => simp [run]
  | cons b w ih =>
    simp only [run, dcs_param s hs b (hw b (by simp))]
    rw [ih (fun b' hb' => hw b' (by simp [hb'])) _ (Or.inr rfl)]
    cases w <;> simp

theorem run_dcs_inters (w : List Nat) (hw : ∀ b ∈ w, 0x20 ≤ b ∧ b ≤ 0x2F) (s : PState) (hs : DcsBody s) :
    run s w = ({ s with state := if w.isEmpty then s.state else .dcsIntermediate, inter := s.inter ++ w }, []) := by
  induction w generalizing s with
  | nil => simp [run]
  | cons b w ih =>
    have hb := hw b (by simp)
    simp only [run, dcs_inter s hs b hb.1 hb.2]
    rw [ih (fun b' hb' => hw b' (by simp [hb'])) _ (Or.inr (Or.inr rfl))]
    cases w <;> simp

theorem dcs_put (s : PState) (hs : s.state = .dcsPassthrough) (r : Nat) (h1 : 0x20 ≤ r) (h2 : r ≠ 0x7F) :
    pstep s (.rune r) =
      ⟨{ s with ignoreST := true, exit := some .unhook, dcs := { s.dcs with data := s.dcs.data ++ [r] } }, [], false⟩ := by
  have hrow : jointRow handTable .dcsPassthrough (.rune r) = ([.setIgnoreST, .setExitUnhook, .put], .st .dcsPassthrough) := by
    by_cases h : r ≤ 0x7E
    · exact hand_row _ 0x20 0x7E r _ (by decide) (by decide) h1 h
    · exact hand_row_above _ 0x80 r _ (by decide) (by decide) (by omega)
  rw [pstep_eq_runRow, hs, hrow]
  rfl

theorem run_dcs_data (w : List Nat) (hw : ∀ b ∈ w, 0x20 ≤ b ∧ b ≠ 0x7F) (s : PState) (hs : s.state = .dcsPassthrough)
    (he : s.exit = some .unhook) :
    run s w = ({ s with ignoreST := if w.isEmpty then s.ignoreST else true,
                        dcs := { s.dcs with data := s.dcs.data ++ w } }, []) := by
  induction w generalizing s with
  | nil => simp [run]
  | cons b w ih =>
    have hb := hw b (by simp)
    simp only [run, dcs_put s hs b hb.1 hb.2]
    rw [ih (fun b' hb' => hw b' (by simp [hb'])) _ (by exact hs) rfl]
    cases w <;> simp [he]

theorem dcs_final (s : PState) (hs : DcsBody s) (r : Nat) (h1 : 0x40 ≤ r) (h2 : r ≤ 0x7E)
    (ps : List Nat) (hp : s.params = encDcs ps) (hok : ∀ x ∈ ps, x < 9223372036854775808) :
    pstep s (.rune r) =
      ⟨{ s with state := .dcsPassthrough, exit := some .unhook, inter := [],
                dcs := { final := r, inter := s.inter, params := ps.map Int.ofNat, data := [] } }, [], false⟩ := by
  rw [pstep_eq_runRow, dcs_final_row s.state hs r h1 h2]
  cases ps with
  | nil =>
    have hpe : s.params = [] := by simpa [encDcs, encParams] using hp
    simp [runRow, runActs, applyAct, finish, hpe]
  | cons x rest =>
    have hne : s.params.isEmpty = false := by rw [hp]; exact encDcs_ne_nil _ (by simp)
    have hc := hook_codec (x :: rest) (by simp) hok
    rw [← hp] at hc
    simp [runRow, runActs, applyAct, finish, hne, hc]

theorem dcs_tail (s : PState) (hs : DcsHead s) (hp0 : s.params = []) (hd0 : s.dcs = {}) (ps ib : List Nat) (f : Nat)
    (data : List Nat) (hok : ∀ x ∈ ps, x < 9223372036854775808) (hi : ∀ b ∈ ib, 0x20 ≤ b ∧ b ≤ 0x2F)
    (hf1 : 0x40 ≤ f) (hf2 : f ≤ 0x7E) (hdata : ∀ b ∈ data, 0x20 ≤ b ∧ b ≠ 0x7F) (hne : data ≠ []) :
    run s (encDcs ps ++ (ib ++ (f :: (data ++ [0x1B, 0x5C])))) =
      ({ s with state := .ground, inter := [], params := [], exit := none, ignoreST := false, dcs := {} },
       [.dcs f (s.inter ++ ib) (ps.map Int.ofNat) data]) := by
  rw [run_append, run_dcs_params _ (encDcs_bytes ps) s hs]
  simp only []
  generalize hs1 : ({ s with state := if (encDcs ps).isEmpty then s.state else .dcsParam,
                             params := s.params ++ encDcs ps } : PState) = s1
  have hb1 : DcsBody s1 := by
    subst hs1; unfold DcsBody; rcases hs with h | h <;> cases (encDcs ps) <;> simp [h]
  have hp1 : s1.params = encDcs ps := by subst hs1; simp [hp0]
  rw [run_append, run_dcs_inters ib hi s1 hb1]
  simp only []
  generalize hs2 : ({ s1 with state := if ib.isEmpty then s1.state else .dcsIntermediate, inter := s1.inter ++ ib } : PState) = s2
  have hb2 : DcsBody s2 := by
    subst hs2; unfold DcsBody; rcases hb1 with h | h | h <;> cases ib <;> simp [h]
  have hp2 : s2.params = encDcs ps := by subst hs2; exact hp1
  simp only [run]
  rw [dcs_final s2 hb2 f hf1 hf2 ps hp2 hok]
  simp only []
  rw [run_append, run_dcs_data data hdata _ rfl rfl]
  simp only [run]
  rw [pstep_esc_exit _ .unhook rfl]
  simp only [runExitFn]
  rw [escape_st _ rfl (by cases data <;> simp_all)]
  subst hs2; subst hs1
  simp

end VaxisModel.Lemmas.ParserDcs
