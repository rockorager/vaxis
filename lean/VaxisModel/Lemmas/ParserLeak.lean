/-
C02, no_leak: collected intermediates and parameter bytes that are left over from an earlier
(finished, cancelled or malformed) sequence never influence what is delivered later.  In the
states where no sequence header is being collected ("dead" states: ground, ss3, the string states,
the ignore states) every arm either does not touch `intermediate`/`params` at all or clears them
first (the ESC arm of `anywhere`): `deadOk'` evaluates this on one rune per interval class of the row an
iteration runs (`ParserRow.jointRow`), `rowOk_all` extends it to every rune, `step_rel` lifts it by simulation.
-/
import VaxisModel.Model.Parser
import VaxisModel.Lemmas.ParserConform
import VaxisModel.Lemmas.ParserRow

namespace VaxisModel.Lemmas.ParserLeak
open VaxisModel.Model.ParserTable VaxisModel.Model.Parser VaxisModel.Lemmas.ParserConform
open VaxisModel.Lemmas.ParserRow

def Sim (s s' : PState) : Prop :=
  s.state = s'.state ∧ s.exit = s'.exit ∧ s.ignoreST = s'.ignoreST ∧ s.osc = s'.osc ∧ s.apc = s'.apc ∧
  s.dcs = s'.dcs

theorem Sim.refl (s : PState) : Sim s s := ⟨rfl, rfl, rfl, rfl, rfl, rfl⟩

theorem eq_of_sim (s s' : PState) (h : Sim s s') (hi : s.inter = s'.inter) (hp : s.params = s'.params) : s = s' := by
  obtain ⟨h1, h2, h3, h4, h5, h6⟩ := h
  cases s; cases s'; simp_all

/-- The statement neither reads nor writes `intermediate` / `params`. -/
def ipFree : Act → Bool
  | .collect | .param | .csiDispatch | .escapeDispatch | .hook | .clear => false
  | _ => true

theorem applyAct_sim (a : Act) (ha : ipFree a = true) (r : Nat) (s s' : PState) (hs : Sim s s') :
    (applyAct a r s).2 = (applyAct a r s').2 ∧ Sim (applyAct a r s).1 (applyAct a r s').1 := by
  obtain ⟨h1, h2, h3, h4, h5, h6⟩ := hs
  replace h2 := h2.symm
  rcases h : applyAct a r s with ⟨t, o⟩
  cases ParserStepBasic.does_of h <;> clear h <;> cases ha <;> simp [applyAct, runExitFn, Sim, *]

/-- Safe statement list: free statements, possibly up to a `clear` (after which anything goes). -/
def ipSafe : List Act → Bool
  | [] => true
  | .clear :: _ => true
  | a :: rest => ipFree a && ipSafe rest

/-- … and it does reach that `clear` (no early return before it). -/
def clearsFirst : List Act → Bool
  | [] => false
  | .clear :: _ => true
  | .retIfIgnoreST _ :: _ => false
  | a :: rest => ipFree a && clearsFirst rest

theorem runActs_sim (acts : List Act) (hsafe : ipSafe acts = true) (r : Nat) (s s' : PState) (out : List Seq)
    (n : Next) (hs : Sim s s') :
    (runActs acts (.rune r) s out n).2 = (runActs acts (.rune r) s' out n).2 ∧
    Sim (runActs acts (.rune r) s out n).1 (runActs acts (.rune r) s' out n).1 ∧
    (clearsFirst acts = true → (runActs acts (.rune r) s out n).1 = (runActs acts (.rune r) s' out n).1) := by
  induction acts generalizing s s' out with
  | nil => simp [runActs, hs, clearsFirst]
  | cons a rest ih =>
    by_cases hcl : a = .clear
    · subst hcl
      have heq : (applyAct .clear r s).1 = (applyAct .clear r s').1 := by
        exact eq_of_sim _ _ hs rfl rfl
      have hout : (applyAct .clear r s).2 = (applyAct .clear r s').2 := rfl
      simp only [runActs]
      rw [heq, hout]
      exact ⟨rfl, Sim.refl _, fun _ => rfl⟩
    · have hfree : ipFree a = true ∧ ipSafe rest = true := by
        cases a <;> first | exact absurd rfl hcl | simpa [ipSafe] using hsafe
      by_cases hret : ∃ n', a = .retIfIgnoreST n'
      · obtain ⟨n', rfl⟩ := hret
        simp only [runActs, ← hs.2.2.1]
        split
        · exact ⟨rfl, hs, fun h => by simp [clearsFirst] at h⟩
        · have := ih hfree.2 s s' out hs
          exact ⟨this.1, this.2.1, fun h => by simp [clearsFirst] at h⟩
      · have hr1 := fun s => ParserStepBasic.runActs_cons_rune a rest (fun n' h => hret ⟨n', h⟩) r s out n
        rw [hr1 s, hr1 s']
        obtain ⟨e1, e2⟩ := applyAct_sim a hfree.1 r s s' hs
        rw [e1]
        have := ih hfree.2 (applyAct a r s).1 (applyAct a r s').1 (out ++ (applyAct a r s').2) e2
        refine ⟨this.1, this.2.1, fun hc => this.2.2 ?_⟩
        cases a <;> first | exact absurd rfl hcl | exact absurd ⟨_, rfl⟩ hret | (simp [clearsFirst] at hc; exact hc.2)

/-- States in which no sequence header is being collected. -/
def dead : StateId → Bool
  | .ground | .ss3 | .oscString | .sosPm | .apc | .dcsPassthrough | .dcsIgnore | .csiIgnore => true
  | _ => false

/-- The row (statements of `anywhere` and, on dispatch, of the state function; returned state) that
    a dead state executes for a rune, and the check: safe, and if the next state is not dead the
    leftovers have been cleared. -/
def deadRowOk (T : Table) (st : StateId) (c : Nat) : Bool :=
  let (a1, n1) := T.anywhere.row (.rune c)
  match n1 with
  | .dispatch =>
    let (a2, n2) := (T.fn st).row (.rune c)
    ipSafe a1 && ipSafe a2 && !(a1.any fun a => !ipFree a) &&
    (match n2 with
     | .st x => dead x || clearsFirst a2
     | _ => true)
  | .st x => ipSafe a1 && (dead x || clearsFirst a1)
  | .stop => ipSafe a1

def deadOk (T : Table) : Bool :=
  (allStates.filter dead).all fun st => (List.range (cut + 1)).all fun c => deadRowOk T st c

theorem deadRowOk_all (T : Table) (hb : boundsOk T = true) (hok : deadOk T = true) (st : StateId)
    (hd : dead st = true) (c : Nat) : deadRowOk T st c = true := by
  simp only [deadOk, List.all_eq_true, List.mem_filter, and_imp] at hok
  simp only [boundsOk, Bool.and_eq_true, List.all_eq_true] at hb
  by_cases hc : c ≤ cut
  · exact hok st (mem_allStates st) hd c (List.mem_range.mpr (by omega))
  · have h1 := StateFn.row_const_above T.anywhere cut c hb.1 (by omega)
    have h2 := StateFn.row_const_above (T.fn st) cut c (hb.2 st (mem_allStates st)) (by omega)
    have := hok st (mem_allStates st) hd cut (List.mem_range.mpr (by omega))
    simp only [deadRowOk, h1, h2] at this ⊢
    exact this

def Rel (s s' : PState) : Prop := s = s' ∨ (dead s.state = true ∧ Sim s s')

theorem finish_rel (s s' : PState) (out : List Seq) (n : Next) (hs : Sim s s')
    (h : s = s' ∨ (match n with | .st x => dead x = true | _ => dead s.state = true)) :
    (finish s out n).out = (finish s' out n).out ∧ (finish s out n).stop = (finish s' out n).stop ∧
    Rel (finish s out n).st (finish s' out n).st := by
  rcases h with rfl | h
  · exact ⟨rfl, rfl, Or.inl rfl⟩
  · cases n with
    | st x =>
      refine ⟨rfl, rfl, Or.inr ⟨h, ?_⟩⟩
      obtain ⟨_, b, c, d, e, g⟩ := hs
      exact ⟨rfl, b, c, d, e, g⟩
    | stop => exact ⟨rfl, rfl, Or.inr ⟨h, hs⟩⟩
    | dispatch => exact ⟨rfl, rfl, Or.inr ⟨h, hs⟩⟩

/-- A row run from a dead state: safe, runs to its end, and if the next state is not dead the
    leftovers have been cleared. -/
def rowOk (row : List Act × Next) : Bool :=
  ipSafe row.1 && row.1.all (fun a => !isRet a) &&
    (match row.2 with
     | .st x => dead x || clearsFirst row.1
     | _ => true)

def deadOk' (T : Table) : Bool :=
  (allStates.filter dead).all fun st =>
    (0 :: (T.anywhere.bounds ++ (T.fn st).bounds)).all fun c => rowOk (jointRow T st (.rune c))

theorem rowOk_all (T : Table) (hok : deadOk' T = true) (st : StateId) (hd : dead st = true) (c : Nat) :
    rowOk (jointRow T st (.rune c)) = true := by
  simp only [deadOk', List.all_eq_true, List.mem_filter, and_imp] at hok
  rw [jointRow_classOf]
  exact hok st (mem_allStates st) hd _ (classOf_spec _ c).2.1

theorem runRow_rel (row : List Act × Next) (hok : rowOk row = true) (c : Nat) (s s' : PState)
    (hd : dead s.state = true) (hs : Sim s s') :
    (runRow row (.rune c) s).out = (runRow row (.rune c) s').out ∧
    (runRow row (.rune c) s).stop = (runRow row (.rune c) s').stop ∧
    Rel (runRow row (.rune c) s).st (runRow row (.rune c) s').st := by
  obtain ⟨acts, n⟩ := row
  simp only [rowOk, Bool.and_eq_true] at hok
  obtain ⟨⟨hsafe, hnr⟩, hnext⟩ := hok
  obtain ⟨e1, e2, e3⟩ := runActs_sim acts hsafe c s s' [] n hs
  have hn := ParserStepBasic.runActs_next_rune acts (noRet_of_all hnr) c s [] n
  have hst := ParserStepBasic.runActs_state acts (.rune c) s [] n
  simp only [runRow, ← e1]
  apply finish_rel
  · split
    · obtain ⟨a, b, _, d, e, g⟩ := e2; exact ⟨a, b, rfl, d, e, g⟩
    · exact e2
  · rw [hn]
    cases n with
    | st x =>
      rcases Bool.or_eq_true _ _ ▸ hnext with hx | hx
      · exact .inr hx
      · exact .inl (by rw [e3 hx])
    | stop | dispatch => right; show dead (PState.state (ite _ _ _)) = true; split <;> (show dead _ = true; rw [hst]; exact hd)

theorem step_rel (T : Table) (hT : plainAnywhere T.anywhere = true) (hok : deadOk' T = true) (s s' : PState)
    (h : Rel s s') (c : Nat) :
    (step T s (.rune c)).out = (step T s' (.rune c)).out ∧ (step T s (.rune c)).stop = (step T s' (.rune c)).stop ∧
    Rel (step T s (.rune c)).st (step T s' (.rune c)).st := by
  rcases h with rfl | ⟨hd, hs⟩
  · exact ⟨rfl, rfl, .inl rfl⟩
  · rw [step_eq_runRow T hT, step_eq_runRow T hT, ← hs.1]
    exact runRow_rel _ (rowOk_all T hok s.state hd c) c s s' hd hs

theorem hand_deadOk' : deadOk' handTable = true := by decide +kernel

/-- One step of the hand model from related states, the end of input included (there `anywhere`
    only runs the exit function, which does not look at the leftovers). -/
theorem hand_step_rel (s s' : PState) (h : Rel s s') (i : Inp) :
    (step handTable s i).out = (step handTable s' i).out ∧ (step handTable s i).stop = (step handTable s' i).stop ∧
    Rel (step handTable s i).st (step handTable s' i).st := by
  cases i with
  | rune c => exact step_rel handTable hand_plain hand_deadOk' s s' h c
  | eof =>
    rcases h with rfl | ⟨hd, hs⟩
    · exact ⟨rfl, rfl, .inl rfl⟩
    · obtain ⟨e1, e2⟩ := applyAct_sim .runExitIfSet rfl 0 s s' hs
      have hst := ParserStepBasic.applyAct_state .runExitIfSet 0 s
      rw [step_eq_runRow handTable hand_plain, step_eq_runRow handTable hand_plain]
      show (finish (applyAct .runExitIfSet 0 s).1 ([] ++ (applyAct .runExitIfSet 0 s).2) .stop).out =
          (finish (applyAct .runExitIfSet 0 s').1 ([] ++ (applyAct .runExitIfSet 0 s').2) .stop).out ∧ _ ∧
          Rel (finish (applyAct .runExitIfSet 0 s).1 _ .stop).st (finish (applyAct .runExitIfSet 0 s').1 _ .stop).st
      rw [e1]
      exact finish_rel _ _ _ _ e2 (.inr (by show dead _ = true; rw [hst]; exact hd))

theorem runWith_rel (is : List Inp) (s s' : PState) (h : Rel s s') :
    (runWith handTable s is).2 = (runWith handTable s' is).2 := by
  induction is generalizing s s' with
  | nil => rfl
  | cons i rest ih =>
    obtain ⟨h1, h2, h3⟩ := hand_step_rel s s' h i
    simp only [runWith, h1, h2]
    split
    · rfl
    · have := ih _ _ h3
      show (_ ++ _, _) = (_ ++ _, _)
      rw [congrArg Prod.fst this, congrArg Prod.snd this]

end VaxisModel.Lemmas.ParserLeak
