/-
C02: a property of every item the automaton can emit, from a property of what each statement emits.
-/
import VaxisModel.Lemmas.ParserStepBasic
import VaxisModel.Lemmas.ParserRow

namespace VaxisModel.Lemmas.ParserOut
open VaxisModel.Model.ParserTable VaxisModel.Model.Parser VaxisModel.Lemmas.ParserStepBasic

theorem runActs_forall (P : Seq → Prop) (acts : List Act) (hP : ∀ a ∈ acts, ∀ r s, ∀ x ∈ (applyAct a r s).2, P x)
    (hpanic : P .panic) (i : Inp) (s : PState) (out : List Seq) (n : Next) (ho : ∀ x ∈ out, P x) :
    ∀ x ∈ (runActs acts i s out n).2.1, P x :=
  runActs_inv (fun _ out => ∀ x ∈ out, P x) acts i
    (fun a ha r s _ h x hx => (List.mem_append.mp hx).elim (h x) (hP a ha r s x))
    (fun _ _ h x hx => (List.mem_append.mp hx).elim (h x) (fun hx => by simp at hx; subst hx; exact hpanic))
    s out n ho

theorem finish_forall (P : Seq → Prop) (hpanic : P .panic) (s : PState) (out : List Seq) (n : Next) (ho : ∀ x ∈ out, P x) :
    ∀ x ∈ (finish s out n).out, P x := by
  cases n <;> simp only [finish] <;> try exact ho
  intro x hx
  rcases List.mem_append.mp hx with hx | hx
  · exact ho x hx
  · simp at hx; subst hx; exact hpanic

theorem runRow_forall (P : Seq → Prop) (hpanic : P .panic) (row : List Act × Next) (i : Inp) (s : PState)
    (h : ∀ a ∈ row.1, ∀ r s, ∀ x ∈ (applyAct a r s).2, P x) : ∀ x ∈ (ParserRow.runRow row i s).out, P x :=
  finish_forall P hpanic _ _ _ (runActs_forall P row.1 h hpanic i s [] row.2 (by simp))

theorem step_forall_rows (P : Seq → Prop) (hpanic : P .panic) (T : Table) (s : PState) (i : Inp)
    (h1 : ∀ a ∈ (T.anywhere.row i).1, ∀ r s, ∀ x ∈ (applyAct a r s).2, P x)
    (h2 : (runFn T.anywhere i s).2.2 = .dispatch →
      ∀ a ∈ ((T.fn s.state).row i).1, ∀ r s, ∀ x ∈ (applyAct a r s).2, P x) :
    ∀ x ∈ (step T s i).out, P x := by
  have hfn : ∀ f s, (∀ a ∈ (f.row i).1, ∀ r s, ∀ x ∈ (applyAct a r s).2, P x) →
      ∀ x ∈ (runFn f i s).2.1, P x := by
    intro f s h
    simp only [runFn]
    exact runActs_forall P _ h hpanic i s [] _ (by simp)
  refine ParserRow.step_cases (motive := fun r => ∀ x ∈ r.out, P x) T s i (fun s1 o1 n e1 _ => finish_forall P hpanic _ _ _ ?_)
    (fun s1 o1 s2 o2 n2 e1 e2 => finish_forall P hpanic _ _ _ fun x hx => ?_)
  · have := hfn T.anywhere s h1; rwa [e1] at this
  · have g1 := hfn T.anywhere s h1
    have g2 := hfn (T.fn s.state) s1 (h2 (by rw [e1]))
    rw [e1] at g1; rw [e2] at g2
    exact (List.mem_append.mp hx).elim (g1 x) (g2 x)

theorem step_forall (P : Seq → Prop) (hP : ∀ a r s, ∀ x ∈ (applyAct a r s).2, P x) (hpanic : P .panic)
    (T : Table) (s : PState) (i : Inp) : ∀ x ∈ (step T s i).out, P x :=
  step_forall_rows P hpanic T s i (fun a _ => hP a) (fun _ a _ => hP a)

theorem decodeLoop_nonempty (ps : List Nat) (v : Int) (param : List Int) (acc : List (List Int))
    (hacc : ∀ p ∈ acc, p ≠ []) : ∀ p ∈ decodeLoop ps v param acc, p ≠ [] := by
  have snoc : ∀ (acc : List (List Int)) (q : List Int) (x : Int), (∀ p ∈ acc, p ≠ []) → ∀ p ∈ acc ++ [q ++ [x]], p ≠ [] := by
    intro acc q x hacc p hp
    rcases List.mem_append.mp hp with hp | hp
    · exact hacc p hp
    · simp at hp; subst hp; simp
  induction ps generalizing v param acc with
  | nil => simp only [decodeLoop]; exact snoc _ _ _ hacc
  | cons b rest ih =>
    simp only [decodeLoop]
    split
    · exact ih _ _ _ (snoc _ _ _ hacc)
    · split <;> exact ih _ _ _ hacc

theorem decodeParams_nonempty (ps : List Nat) : ∀ p ∈ decodeParams ps, p ≠ [] := by
  unfold decodeParams
  split
  · simp
  · exact decodeLoop_nonempty ps 0 [] [] (by simp)

theorem applyAct_out (a : Act) (r : Nat) (s : PState) (x : Seq) (hx : x ∈ (applyAct a r s).2) :
    (a = .print ∧ x = .print r) ∨ (a = .csiDispatch ∧ x = .csi s.inter (decodeParams s.params) r) ∨
    ((∀ c, x ≠ .print c) ∧ ∀ i p f, x ≠ .csi i p f) := by
  rcases h : applyAct a r s with ⟨t, o⟩
  rw [h] at hx
  cases does_of h <;> simp_all

def CsiOk (x : Seq) : Prop := ∀ i p f, x = .csi i p f → ∀ q ∈ p, q ≠ []

theorem applyAct_csiOk (a : Act) (r : Nat) (s : PState) : ∀ x ∈ (applyAct a r s).2, CsiOk x := by
  intro x hx i p f he
  rcases applyAct_out a r s x hx with ⟨_, rfl⟩ | ⟨_, rfl⟩ | ⟨_, h⟩
  · cases he
  · cases he; exact decodeParams_nonempty s.params
  · exact absurd he (h i p f)

end VaxisModel.Lemmas.ParserOut
