/-
C02: the CSI parameter codec.  `encParams` prints parameters with sub-parameters the way a
terminal or application does (`;` between parameters, `:` between sub-parameters, decimal
digits), and the bytes it is made of.  That `decodeParams` (the loop of `csiDispatch`) inverts it is
`ParserCodec.decodeParams_encParams`.
-/
import VaxisModel.Model.Parser

namespace VaxisModel.Lemmas.ParserParams
open VaxisModel.Model.Parser

def digitsOf (n : Nat) : List Nat :=
  if n < 10 then [0x30 + n] else digitsOf (n / 10) ++ [0x30 + n % 10]

/-- One parameter: sub-parameters joined by `:`. -/
def encSub : List Nat → List Nat
  | [] => []
  | [x] => digitsOf x
  | x :: y :: rest => digitsOf x ++ 0x3A :: encSub (y :: rest)

/-- Parameter list: parameters joined by `;`. -/
def encParams : List (List Nat) → List Nat
  | [] => []
  | [p] => encSub p
  | p :: q :: rest => encSub p ++ 0x3B :: encParams (q :: rest)

theorem digitsOf_bytes (n : Nat) : ∀ b ∈ digitsOf n, 0x30 ≤ b ∧ b ≤ 0x39 := by
  induction n using digitsOf.induct with
  | case1 n h => unfold digitsOf; simp only [h, if_true, List.mem_singleton]; intro b hb; omega
  | case2 n h ih =>
    unfold digitsOf; simp only [h, if_false, List.mem_append, List.mem_singleton]
    intro b hb
    cases hb with
    | inl hb => exact ih b hb
    | inr hb => omega

theorem digitsOf_ne_nil (n : Nat) : digitsOf n ≠ [] := by
  unfold digitsOf; split <;> simp

theorem encSub_bytes : ∀ (p : List Nat), ∀ b ∈ encSub p, 0x30 ≤ b ∧ b ≤ 0x3B
  | [], b, hb => by simp [encSub] at hb
  | [x], b, hb => by
    have := digitsOf_bytes x b (by simpa [encSub] using hb); omega
  | x :: y :: rest, b, hb => by
    simp only [encSub, List.mem_append, List.mem_cons] at hb
    rcases hb with hb | hb | hb
    · have := digitsOf_bytes x b hb; omega
    · omega
    · exact encSub_bytes (y :: rest) b hb

theorem encParams_bytes : ∀ (ps : List (List Nat)), ∀ b ∈ encParams ps, 0x30 ≤ b ∧ b ≤ 0x3B
  | [], b, hb => by simp [encParams] at hb
  | [p], b, hb => encSub_bytes p b (by simpa [encParams] using hb)
  | p :: q :: rest, b, hb => by
    simp only [encParams, List.mem_append, List.mem_cons] at hb
    rcases hb with hb | hb | hb
    · exact encSub_bytes p b hb
    · omega
    · exact encParams_bytes (q :: rest) b hb

def SubOk (p : List Nat) : Prop := p ≠ [] ∧ ∀ x ∈ p, x < 9223372036854775808

def ParamsOk (ps : List (List Nat)) : Prop := ∀ p ∈ ps, SubOk p

theorem encParams_ne_nil : ∀ (ps : List (List Nat)), ps ≠ [] → ParamsOk ps → encParams ps ≠ []
  | [], h, _ => absurd rfl h
  | [p], _, hok => by
    have hp := (hok p (by simp)).1
    cases p with
    | nil => exact absurd rfl hp
    | cons x t =>
      cases t with
      | nil => simpa [encParams, encSub] using digitsOf_ne_nil x
      | cons y t => simp [encParams, encSub]
  | p :: q :: tl, _, _ => by simp [encParams]

end VaxisModel.Lemmas.ParserParams
