/-
C08: the parameter-pool model driven by the automaton (Model/ParserParamsDrive.lean): every pool
operation of an expanded `csiDispatch` is enabled whatever the consumer does in between, the labels
issued are a run of `pstep`, and what `csi.Parameters` reads at the `emit` is `decodeParams p.params`.
-/
import VaxisModel.Model.ParserParamsDrive
import VaxisModel.Lemmas.ParserPools
import VaxisModel.Lemmas.ParserPoolsDrive
import VaxisModel.Lemmas.ParserActs

namespace VaxisModel.Lemmas.ParserParamsDrive
open VaxisModel.Model.ParserTable VaxisModel.Model.ParserPools
open VaxisModel.Model.Parser hiding pstep run
open VaxisModel.Model.ParserParamsDrive VaxisModel.Lemmas.ParserPools

theorem dec_enc (v : Int) : dec (enc v) = v := by
  cases v with
  | ofNat n =>
    have h1 : 2 * n % 2 = 0 := by omega
    have h2 : 2 * n / 2 = n := by omega
    simp only [enc, dec, h1, h2, if_true]
  | negSucc n =>
    have h1 : ¬ ((2 * n + 1) % 2 = 0) := by omega
    have h2 : (2 * n + 1) / 2 = n := by omega
    simp only [enc, dec, h1, h2, if_false]

/-- Where the body of `csiDispatch` is: outside / `csi.Parameters` taken and empty / `csi.Parameters`
    non-empty, no current `param` / a current `param`. -/
inductive Phase | idle | listE | listN | param
  deriving DecidableEq, Repr

def phStep : Phase → POp → Option Phase
  | .idle, .begin => some .listE
  | .listE, .get => some .param
  | .listN, .get => some .param
  | .param, .app _ => some .param
  | .param, .push => some .listN
  | .listN, .emit => some .idle
  | _, _ => none

/-- The operations are in an order the pool model accepts, and end outside the body. -/
def okOps : Phase → List POp → Bool
  | ph, [] => ph == .idle
  | ph, op :: rest =>
    match phStep ph op with
    | none => false
    | some ph' => okOps ph' rest

theorem okOps_loopOps (bs : List Rune) (ps : Int) : okOps .param (loopOps bs ps) = true := by
  induction bs generalizing ps with
  | nil => rfl
  | cons b rest ih =>
    simp only [loopOps]
    split
    · simpa [okOps, phStep] using ih 0
    · split
      · simpa [okOps, phStep] using ih 0
      · exact ih _

theorem okOps_csiOps (params : List Rune) : okOps .idle (csiOps params) = true := by
  unfold csiOps
  split
  · rfl
  · simpa [okOps, phStep] using okOps_loopOps params 0

theorem okOps_actOps (a : Act) (s : PState) : okOps .idle (actOps a s) = true := by
  cases a <;> first | rfl | exact okOps_csiOps _

/-- What the operations compute, on lists: the values of `csi.Parameters` at each `emit`
    (`a` = `csi.Parameters`, `p` = `param`). -/
def semOps : List POp → List (List Nat) → List Nat → List (List (List Nat))
  | [], _, _ => []
  | .begin :: r, _, p => semOps r [] p
  | .get :: r, a, _ => semOps r a []
  | .app v :: r, a, p => semOps r a (p ++ [enc v])
  | .push :: r, a, p => semOps r (a ++ [p]) p
  | .emit :: r, a, p => a :: semOps r a p

theorem semOps_loopOps (bs : List Rune) (ps : Int) (param : List Int) (acc : List (List Int)) :
    semOps (loopOps bs ps) (acc.map (·.map enc)) (param.map enc) =
      [(decodeLoop bs ps param acc).map (·.map enc)] := by
  induction bs generalizing ps param acc with
  | nil => simp [loopOps, semOps, decodeLoop]
  | cons b rest ih =>
    simp only [loopOps, decodeLoop]
    split
    · have := ih 0 [] (acc ++ [param ++ [ps]])
      simpa [semOps] using this
    · split
      · have := ih 0 (param ++ [ps]) acc
        simpa [semOps] using this
      · exact ih _ _ _

theorem semOps_csiOps_eq (params : List Rune) (a : List (List Nat)) (p : List Nat) :
    semOps (csiOps params) a p =
      if params.isEmpty then [] else [(decodeParams params).map (·.map enc)] := by
  unfold csiOps decodeParams
  split
  · rfl
  · have := semOps_loopOps params 0 [] []
    simp only [List.map_nil] at this
    simp only [List.cons_append, List.nil_append, semOps, this]

theorem semOps_csiOps (params : List Rune) (a : List (List Nat)) (p : List Nat) :
    ∀ x ∈ semOps (csiOps params) a p, x = (decodeParams params).map (·.map enc) := by
  rw [semOps_csiOps_eq]; split <;> simp

theorem semOps_actOps (act : Act) (s : PState) (a : List (List Nat)) (p : List Nat) :
    ∀ x ∈ semOps (actOps act s) a p, x = (decodeParams s.params).map (·.map enc) := by
  cases act <;> first | (intro x hx; simp [actOps, semOps] at hx; done) | exact semOps_csiOps _ _ _

/-- The pool state is at phase `ph` of the body and its locals read `a` (`csi.Parameters`) and `p`
    (`param`). -/
def Reads (ph : Phase) (s : PSt) (a : List (List Nat)) (p : List Nat) : Prop :=
  match ph with
  | .idle => s.work = none
  | .listE => ∃ l, s.work = some (l, none) ∧ readParams s.pheap s.lheap l = a
  | .listN => ∃ l, s.work = some (l, none) ∧ l.len ≠ 0 ∧ readParams s.pheap s.lheap l = a
  | .param => ∃ l q, s.work = some (l, some q) ∧ readParams s.pheap s.lheap l = a ∧
      q.len ≤ (cells s.pheap q.arr).length ∧ (cells s.pheap q.arr).take q.len = p

theorem Reads_frame (ph : Phase) (s s' : PSt) (a : List (List Nat)) (p : List Nat)
    (hw : s'.work = s.work) (hp : s'.pheap = s.pheap) (hl : s'.lheap = s.lheap)
    (h : Reads ph s a p) : Reads ph s' a p := by
  cases ph <;> simpa only [Reads, hw, hp, hl] using h

theorem getAns_lt {g : Option Nat} {pool : List Slice} {k : Nat} (h : getAns g pool = some k) :
    k < pool.length := by
  unfold getAns at h
  split at h
  · split at h
    · cases h; assumption
    · cases h
  · cases h

theorem cons_frame (s s' : PSt) (c : CLabel) (h : pstep s c.toP = some s') :
    s'.work = s.work ∧ s'.pheap = s.pheap ∧ s'.lheap = s.lheap := by
  cases c with
  | finish k =>
    simp only [CLabel.toP, pstep] at h
    split at h
    · cases h
    · cases h; exact ⟨rfl, rfl, rfl⟩
  | finPut j =>
    simp only [CLabel.toP, pstep] at h
    split at h
    · cases h
    · split at h <;> (cases h; exact ⟨rfl, rfl, rfl⟩)

theorem work_hdr_lt {s : PSt} (hinv : PInv s) (l : Slice) (q : Option Slice)
    (hw : s.work = some (l, q)) (h : Slice) (hh : h ∈ hdrs s.lheap l) : h.arr < s.pheap.length := by
  apply hinv.pown.2
  simp only [powners, wl, hw, List.flatMap_cons, List.flatMap_nil, List.append_nil, List.map_append,
    List.mem_append, List.mem_map]
  exact Or.inl (Or.inl (Or.inl (Or.inr ⟨h, hh, rfl⟩)))

theorem work_param_lt {s : PSt} (hinv : PInv s) (l q : Slice)
    (hw : s.work = some (l, some q)) : q.arr < s.pheap.length := by
  apply hinv.pown.2
  simp [powners, wp, hw]

theorem work_param_ne_hdr {s : PSt} (hinv : PInv s) (l q : Slice)
    (hw : s.work = some (l, some q)) (h : Slice) (hh : h ∈ hdrs s.lheap l) : q.arr ≠ h.arr := by
  have hn := hinv.pown.1
  simp only [powners, wp, wl, hw, List.flatMap_cons, List.flatMap_nil, List.append_nil, List.map_append,
    List.map_cons, List.cons_append, List.nil_append, List.nodup_cons, List.mem_append, List.mem_map,
    not_or] at hn
  intro he
  exact hn.1.1.1.1 ⟨h, hh, he.symm⟩

theorem readParams_alloc (s : PSt) (hinv : PInv s) (l : Slice) (q : Option Slice)
    (hw : s.work = some (l, q)) (c : List Nat) :
    readParams (s.pheap ++ [c]) s.lheap l = readParams s.pheap s.lheap l :=
  readParams_congr _ _ _ _ _ rfl (fun h hh => cells_alloc_lt _ _ _ (work_hdr_lt hinv l q hw h hh))

theorem step_begin (sl : Slot) (s : PSt) (a : List (List Nat)) (p : List Nat)
    (h : Reads .idle s a p) :
    ∃ s', pstep s (opLabel sl s .begin) = some s' ∧ Reads .listE s' [] p := by
  simp only [Reads] at h
  simp only [opLabel, pstep, h]
  cases hg : getAns sl.g s.lpool with
  | none => exact ⟨_, rfl, _, rfl, by simp [readParams, hdrs]⟩
  | some k =>
    have hk := getAns_lt hg
    simp only [List.getElem?_eq_getElem hk]
    exact ⟨_, rfl, _, rfl, by simp [readParams, hdrs]⟩

theorem step_get (sl : Slot) (s : PSt) (a : List (List Nat)) (hinv : PInv s) (l : Slice)
    (hw : s.work = some (l, none)) (ha : readParams s.pheap s.lheap l = a) :
    ∃ s', pstep s (opLabel sl s .get) = some s' ∧ Reads .param s' a [] := by
  simp only [opLabel, pstep, hw]
  cases hg : getAns sl.g s.ppool with
  | none =>
    refine ⟨_, rfl, l, _, rfl, ?_, Nat.zero_le _, rfl⟩
    rw [← ha]; exact readParams_alloc s hinv l none hw _
  | some k =>
    have hk := getAns_lt hg
    simp only [List.getElem?_eq_getElem hk]
    exact ⟨_, rfl, l, _, rfl, ha, Nat.zero_le _, rfl⟩

theorem take_grow {α : Type} [Inhabited α] (c : List α) (n : Nat) (v : α) (nc : Nat) (h : n ≤ c.length) :
    (grow c n v nc).take (n + 1) = c.take n ++ [v] := by
  have hlen : (c.take n ++ [v]).length = n + 1 := by
    simp only [List.length_append, List.length_take, List.length_cons, List.length_nil]; omega
  simp only [grow]
  rw [List.take_append_of_le_length (by omega), ← hlen, List.take_length]

theorem step_app (sl : Slot) (s : PSt) (a : List (List Nat)) (p : List Nat) (v : Int) (hinv : PInv s)
    (h : Reads .param s a p) :
    ∃ s', pstep s (opLabel sl s (.app v)) = some s' ∧ Reads .param s' a (p ++ [enc v]) := by
  obtain ⟨l, q, hw, ha, hcap, hp⟩ := h
  simp only [opLabel, pstep, hw]
  by_cases hroom : q.len < (cells s.pheap q.arr).length
  · simp only [hroom, if_true]
    have hq := work_param_lt hinv l q hw
    refine ⟨_, rfl, l, _, rfl, ?_, ?_, ?_⟩
    · rw [← ha]
      exact readParams_congr _ _ _ _ _ rfl
        (fun h hh => cells_write_ne _ _ _ _ _ (work_param_ne_hdr hinv l q hw h hh))
    · simp only [cells_write_eq _ _ _ _ hq, List.length_set]; exact hroom
    · simp only [cells_write_eq _ _ _ _ hq]
      rw [take_set_succ _ _ _ hroom, hp]
  · have hn : q.len + 1 ≤ q.len + 1 + sl.extra := Nat.le_add_right _ _
    simp only [hroom, if_false, hn, if_true]
    refine ⟨_, rfl, l, _, rfl, ?_, ?_, ?_⟩
    · rw [← ha]; exact readParams_alloc s hinv l _ hw _
    · simp only [cells_alloc_eq, length_grow _ _ _ _ hcap hn]; exact hn
    · simp only [cells_alloc_eq]
      rw [take_grow _ _ _ _ hcap, hp]

theorem step_push (sl : Slot) (s : PSt) (a : List (List Nat)) (p : List Nat) (hinv : PInv s)
    (h : Reads .param s a p) :
    ∃ s', pstep s (opLabel sl s .push) = some s' ∧ Reads .listN s' (a ++ [p]) p := by
  obtain ⟨l, q, hw, ha, _, hp⟩ := h
  have hlt := hinv.work_lt l _ hw
  have hc := hinv.wcap _ _ hw
  simp only [opLabel, pstep, hw]
  by_cases hroom : l.len < (cells s.lheap l.arr).length
  · simp only [hroom, if_true]
    refine ⟨_, rfl, _, rfl, Nat.succ_ne_zero _, ?_⟩
    simp only [readParams, hdrs_write_push _ _ _ hlt hroom, List.map_append, List.map_cons, List.map_nil,
      hp]
    simp only [readParams] at ha
    rw [ha]
  · have hn : l.len + 1 ≤ l.len + 1 + sl.extra := Nat.le_add_right _ _
    simp only [hroom, if_false, hn, if_true]
    refine ⟨_, rfl, _, rfl, Nat.succ_ne_zero _, ?_⟩
    simp only [readParams, hdrs_grow_push _ _ _ _ hc, List.map_append, List.map_cons, List.map_nil, hp]
    simp only [readParams] at ha
    rw [ha]

theorem step_emit (sl : Slot) (s : PSt) (a : List (List Nat)) (p : List Nat)
    (h : Reads .listN s a p) :
    ∃ s', pstep s (opLabel sl s .emit) = some s' ∧ Reads .idle s' a p ∧ readWork s = a := by
  obtain ⟨l, hw, hlen, ha⟩ := h
  simp only [opLabel, pstep, hw, hlen, if_false, readWork]
  exact ⟨_, rfl, rfl, ha⟩

/-- The effect of one operation on the ghost locals. -/
def semStep : POp → List (List Nat) × List Nat → List (List Nat) × List Nat
  | .begin, (_, p) => ([], p)
  | .get, (a, _) => (a, [])
  | .app v, (a, p) => (a, p ++ [enc v])
  | .push, (a, p) => (a ++ [p], p)
  | .emit, (a, p) => (a, p)

theorem semOps_cons (op : POp) (r : List POp) (a : List (List Nat)) (p : List Nat) :
    semOps (op :: r) a p =
      (if isEmit op then [a] else []) ++ semOps r (semStep op (a, p)).1 (semStep op (a, p)).2 := by
  cases op <;> rfl

theorem step_op (sl : Slot) (s : PSt) (ph ph' : Phase) (op : POp) (a : List (List Nat)) (p : List Nat)
    (hinv : PInv s) (h : Reads ph s a p) (hph : phStep ph op = some ph') :
    ∃ s', pstep s (opLabel sl s op) = some s' ∧
      Reads ph' s' (semStep op (a, p)).1 (semStep op (a, p)).2 ∧ (isEmit op = true → readWork s = a) := by
  cases ph <;> cases op <;> simp only [phStep, Option.some.injEq] at hph <;> try (cases hph; done)
  all_goals subst hph
  · obtain ⟨s', h1, h2⟩ := step_begin sl s a p h
    exact ⟨s', h1, h2, fun hf => by cases hf⟩
  · obtain ⟨l, hw, ha⟩ := h
    obtain ⟨s', h1, h2⟩ := step_get sl s a hinv l hw ha
    exact ⟨s', h1, h2, fun hf => by cases hf⟩
  · obtain ⟨l, hw, _, ha⟩ := h
    obtain ⟨s', h1, h2⟩ := step_get sl s a hinv l hw ha
    exact ⟨s', h1, h2, fun hf => by cases hf⟩
  · obtain ⟨s', h1, h2, h3⟩ := step_emit sl s a p h
    exact ⟨s', h1, h2, fun _ => h3⟩
  · obtain ⟨s', h1, h2⟩ := step_app sl s a p _ hinv h
    exact ⟨s', h1, h2, fun hf => by cases hf⟩
  · obtain ⟨s', h1, h2⟩ := step_push sl s a p hinv h
    exact ⟨s', h1, h2, fun hf => by cases hf⟩

theorem prun_snoc (st st1 st2 : PSt) (ls : List PLabel) (l : PLabel) (h1 : prun st ls = some st1)
    (h2 : pstep st1 l = some st2) : prun st (ls ++ [l]) = some st2 := by
  rw [prun_isRun.append_of_eq_some h1]
  simp [prun, h2]

/-- What is kept along the walk: the pool state satisfies the ownership invariant and the labels
    issued lead to it. -/
structure AInv (st0 : PSt) (acc : Acc) : Prop where
  inv : PInv acc.st
  run : prun st0 acc.ls = some acc.st

theorem consStep_spec (st0 : PSt) (acc : Acc) (c : CLabel) (ph : Phase) (a : List (List Nat)) (p : List Nat)
    (hA : AInv st0 acc) (hR : Reads ph acc.st a p) :
    AInv st0 (consStep acc c) ∧ Reads ph (consStep acc c).st a p ∧ (consStep acc c).views = acc.views := by
  unfold consStep
  cases hs : pstep acc.st c.toP with
  | none => exact ⟨hA, hR, rfl⟩
  | some st' =>
    obtain ⟨hw, hp, hl⟩ := cons_frame _ _ _ hs
    exact ⟨⟨pstep_inv _ _ _ hA.inv hs, prun_snoc _ _ _ _ _ hA.run hs⟩, Reads_frame _ _ _ _ _ hw hp hl hR, rfl⟩

theorem consSteps_spec (st0 : PSt) (cs : List CLabel) (acc : Acc) (ph : Phase) (a : List (List Nat))
    (p : List Nat) (hA : AInv st0 acc) (hR : Reads ph acc.st a p) :
    AInv st0 (consSteps acc cs) ∧ Reads ph (consSteps acc cs).st a p ∧ (consSteps acc cs).views = acc.views := by
  induction cs generalizing acc with
  | nil => exact ⟨hA, hR, rfl⟩
  | cons c rest ih =>
    obtain ⟨h1, h2, h3⟩ := consStep_spec st0 acc c ph a p hA hR
    obtain ⟨h4, h5, h6⟩ := ih (consStep acc c) h1 h2
    exact ⟨h4, h5, h6.trans h3⟩

/-- **An expanded `csiDispatch` never blocks**, whatever the consumer does between its operations and
    whatever the `Get`s return; the labels issued extend the run; at every `emit` the slice handed
    over reads what the operations computed. -/
theorem driveOps_spec (st0 : PSt) (auto : List (List Int)) (ops : List POp) (ph : Phase) (sch : List Slot)
    (acc : Acc) (a : List (List Nat)) (p : List Nat)
    (hok : okOps ph ops = true) (hA : AInv st0 acc) (hR : Reads ph acc.st a p) :
    ∃ acc' sch', driveOps auto ops sch acc = some (acc', sch') ∧ AInv st0 acc' ∧ acc'.st.work = none ∧
      acc'.views = acc.views ++ (semOps ops a p).map (fun x => ⟨auto, x⟩) := by
  induction ops generalizing ph sch acc a p with
  | nil =>
    simp only [okOps, beq_iff_eq] at hok
    subst hok
    exact ⟨acc, sch, rfl, hA, hR, by simp [semOps]⟩
  | cons op rest ih =>
    simp only [okOps] at hok
    cases hph : phStep ph op with
    | none => simp [hph] at hok
    | some ph' =>
      simp only [hph] at hok
      obtain ⟨hA1, hR1, hv1⟩ := consSteps_spec st0 (sch.headD {}).pre acc ph a p hA hR
      obtain ⟨s', hs, hR', hem⟩ := step_op (sch.headD {}) _ ph ph' op a p hA1.inv hR1 hph
      simp only [driveOps, hs]
      have hA' : AInv st0
          { st := s', ls := (consSteps acc (sch.headD {}).pre).ls ++ [opLabel (sch.headD {}) (consSteps acc (sch.headD {}).pre).st op],
            views := if isEmit op then (consSteps acc (sch.headD {}).pre).views ++
              [⟨auto, readWork (consSteps acc (sch.headD {}).pre).st⟩] else (consSteps acc (sch.headD {}).pre).views } :=
        ⟨pstep_inv _ _ _ hA1.inv hs, prun_snoc _ _ _ _ _ hA1.run hs⟩
      obtain ⟨acc', sch', e1, e2, e3, e4⟩ := ih ph' sch.tail _ _ _ hok hA' hR'
      refine ⟨acc', sch', e1, e2, e3, ?_⟩
      rw [e4, semOps_cons, hv1]
      cases hE : isEmit op with
      | false => simp
      | true => simpa using hem hE

/-- Every held CSI's snapshot is the slice of a recorded hand-over. -/
def Cov (acc : Acc) : Prop := ∀ x ∈ acc.st.delivered, ∃ v ∈ acc.views, x.snap = v.slice

theorem pstep_delivered (s s' : PSt) (l : PLabel) (h : pstep s l = some s') :
    ∀ x ∈ s'.delivered, x ∈ s.delivered ∨ (l = .emit ∧ x.snap = readWork s) := by
  cases l with
  | «begin» gl =>
    simp only [pstep] at h
    split at h
    · cases h
    · split at h
      · cases h; exact fun x hx => Or.inl hx
      · split at h
        · cases h
        · cases h; exact fun x hx => Or.inl hx
  | get gp =>
    simp only [pstep] at h
    split at h
    · split at h
      · cases h; exact fun x hx => Or.inl hx
      · split at h
        · cases h
        · cases h; exact fun x hx => Or.inl hx
    · cases h
  | app v nc =>
    simp only [pstep] at h
    split at h
    · split at h
      · cases h; exact fun x hx => Or.inl hx
      · split at h
        · cases h; exact fun x hx => Or.inl hx
        · cases h
    · cases h
  | push nc =>
    simp only [pstep] at h
    split at h
    · split at h
      · cases h; exact fun x hx => Or.inl hx
      · split at h
        · cases h; exact fun x hx => Or.inl hx
        · cases h
    · cases h
  | emit =>
    simp only [pstep] at h
    split at h
    · rename_i l hw
      split at h
      · cases h
      · cases h
        intro x hx
        rcases List.mem_cons.1 hx with rfl | hx
        · exact Or.inr ⟨rfl, by simp only [readWork, hw]⟩
        · exact Or.inl hx
    · cases h
  | finish k =>
    simp only [pstep] at h
    split at h
    · cases h
    · cases h; exact fun x hx => Or.inl (List.mem_of_mem_eraseIdx hx)
  | finPut j =>
    simp only [pstep] at h
    split at h
    · cases h
    · split at h <;> (cases h; exact fun x hx => Or.inl hx)

theorem consStep_cov (acc : Acc) (c : CLabel) (h : Cov acc) : Cov (consStep acc c) := by
  unfold consStep
  cases hs : pstep acc.st c.toP with
  | none => exact h
  | some st' =>
    intro x hx
    rcases pstep_delivered _ _ _ hs x hx with hx | ⟨he, _⟩
    · exact h x hx
    · cases c <;> cases he

theorem consSteps_cov (cs : List CLabel) (acc : Acc) (h : Cov acc) : Cov (consSteps acc cs) := by
  induction cs generalizing acc with
  | nil => exact h
  | cons c rest ih => exact ih _ (consStep_cov acc c h)

theorem driveOps_cov (auto : List (List Int)) (ops : List POp) (sch : List Slot) (acc : Acc)
    (r : Acc × List Slot) (h : Cov acc) (hd : driveOps auto ops sch acc = some r) : Cov r.1 := by
  induction ops generalizing sch acc with
  | nil => simp only [driveOps, Option.some.injEq] at hd; subst hd; exact h
  | cons op rest ih =>
    simp only [driveOps] at hd
    split at hd
    · cases hd
    · rename_i st' hs
      refine ih _ _ ?_ hd
      have h1 := consSteps_cov (sch.headD {}).pre acc h
      intro x hx
      rcases pstep_delivered _ _ _ hs x hx with hx | ⟨he, hsn⟩
      · obtain ⟨v, hv, e⟩ := h1 x hx
        refine ⟨v, ?_, e⟩
        show v ∈ (if isEmit op then _ else _)
        split
        · exact List.mem_append_left _ hv
        · exact hv
      · have hop : isEmit op = true := by cases op <;> first | rfl | cases he
        refine ⟨⟨auto, readWork (consSteps acc (sch.headD {}).pre).st⟩, ?_, hsn⟩
        show _ ∈ (if isEmit op then _ else _)
        rw [if_pos hop]
        exact List.mem_append_right _ (List.mem_singleton.2 rfl)

/-- Every hand-over so far gave the consumer a slice that reads the decoded parameters. -/
def Good (vs : List View) : Prop := ∀ v ∈ vs, v.slice = v.auto.map (·.map enc)

/-- The invariant of the walk between two statements: ownership invariant, the labels issued lead to
    the pool state, no `csiDispatch` is running, all hand-overs were good. -/
structure WInv (st0 : PSt) (acc : Acc) : Prop where
  a : AInv st0 acc
  idle : acc.st.work = none
  good : Good acc.views
  cov : Cov acc

theorem driveOps_winv (st0 : PSt) (a : Act) (s : PState) (sch : List Slot) (acc : Acc) (h : WInv st0 acc) :
    ∃ acc1 sch1, driveOps (decodeParams s.params) (actOps a s) sch acc = some (acc1, sch1) ∧ WInv st0 acc1 ∧
      acc1.views = acc.views ++ (semOps (actOps a s) [] []).map (fun x => ⟨decodeParams s.params, x⟩) := by
  obtain ⟨acc1, sch1, e1, e2, e3, e4⟩ :=
    driveOps_spec st0 (decodeParams s.params) (actOps a s) .idle sch acc [] [] (okOps_actOps a s) h.a h.idle
  refine ⟨acc1, sch1, e1, ⟨e2, e3, ?_, driveOps_cov _ _ _ _ _ h.cov e1⟩, e4⟩
  intro v hv
  rw [e4] at hv
  rcases List.mem_append.1 hv with hv | hv
  · exact h.good v hv
  · obtain ⟨x, hx, rfl⟩ := List.mem_map.1 hv
    exact semOps_actOps a s [] [] x hx

def handed1 : Seq → List (List (List Int))
  | .csi _ ps _ => if ps.isEmpty then [] else [ps]
  | _ => []

/-- The `Parameters` of the CSI items delivered with parameters (non-nil), in order. -/
def handed (out : List Seq) : List (List (List Int)) := out.flatMap handed1

theorem handed_append (a b : List Seq) : handed (a ++ b) = handed a ++ handed b := by
  simp [handed, List.flatMap_append]

theorem decodeLoop_ne_nil (bs : List Rune) (ps : Int) (param : List Int) (acc : List (List Int)) :
    decodeLoop bs ps param acc ≠ [] := by
  induction bs generalizing ps param acc with
  | nil => simp [decodeLoop]
  | cons b rest ih =>
    simp only [decodeLoop]
    split
    · exact ih _ _ _
    · split <;> exact ih _ _ _

theorem decodeParams_isEmpty (ps : List Rune) : (decodeParams ps).isEmpty = ps.isEmpty := by
  unfold decodeParams
  split
  · rename_i h; simp [h]
  · rename_i h
    have := decodeLoop_ne_nil ps 0 [] []
    simp only [Bool.not_eq_true] at h
    rw [h]
    cases hd : decodeLoop ps 0 [] [] with
    | nil => exact absurd hd this
    | cons x xs => rfl

/-- One statement: as many hand-overs recorded as CSI items with parameters emitted (0 or 1), with
    the same `Parameters`. -/
theorem act_handed (a : Act) (r : Nat) (s : PState) :
    (semOps (actOps a s) [] []).map (fun _ => decodeParams s.params) = handed (applyAct a r s).2 := by
  rcases h : applyAct a r s with ⟨t, o⟩
  cases ParserStepBasic.does_of h
  case csi =>
    simp only [actOps, semOps_csiOps_eq, handed, List.flatMap_cons, List.flatMap_nil,
      List.append_nil, handed1, decodeParams_isEmpty]
    split <;> rfl
  all_goals rfl

/-- Walking a row never blocks, keeps the invariant, and records exactly the hand-overs of the items `runActs`
    emits for it. -/
theorem driveActs_spec (st0 : PSt) (acts : List Act) (r : Nat) (s : PState) (sch : List Slot) (acc : Acc)
    (h : WInv st0 acc) :
    ∃ acc' sch', driveActs acts r s sch acc = some (acc', sch') ∧ WInv st0 acc' ∧
      ∀ (out : List Seq) (n : Next) (V : List (List (List Int))), acc.views.map (·.auto) = V ++ handed out →
        acc'.views.map (·.auto) = V ++ handed (runActs acts (.rune r) s out n).2.1 := by
  induction acts generalizing s sch acc with
  | nil => exact ⟨acc, sch, rfl, h, fun out n V hV => by simpa [runActs] using hV⟩
  | cons a rest ih =>
    obtain ⟨acc1, sch1, e1, w1, v1⟩ := driveOps_winv st0 a s sch acc h
    cases hr : isRet a with
    | true =>
      cases a <;> try (cases hr; done)
      rename_i n'
      cases hig : s.ignoreST with
      | true => exact ⟨acc, sch, by simp [driveActs, isRet, hig], h, fun out n V hV => by simpa [runActs, hig] using hV⟩
      | false =>
        obtain ⟨acc', sch', e, w, v⟩ := ih s sch acc h
        exact ⟨acc', sch', by simpa [driveActs, isRet, hig, actOps, driveOps, applyAct] using e, w,
          fun out n V hV => by simpa [runActs, hig] using v out n V hV⟩
    | false =>
      obtain ⟨acc', sch', e, w, v⟩ := ih (applyAct a r s).1 sch1 acc1 w1
      refine ⟨acc', sch', by simp only [driveActs, hr, Bool.false_and, Bool.false_eq_true, if_false, e1, e], w,
        fun out n V hV => ?_⟩
      rw [ParserStepBasic.runActs_cons_rune a rest (by rintro n' rfl; cases hr)]
      refine v _ n V ?_
      rw [v1, List.map_append, hV, handed_append, List.append_assoc, ← act_handed a r s]
      simp only [List.map_map]
      rfl

theorem runFn_out_eq (f : StateFn) (i : Inp) (s : PState) :
    (runFn f i s).2.1 = (runActs (f.row i).1 i s [] (f.row i).2).2.1 := by
  simp only [runFn]

theorem handed_finish (s : PState) (out : List Seq) (n : Next) : handed (Model.Parser.finish s out n).out = handed out := by
  cases n <;> simp [Model.Parser.finish, handed, handed1]

theorem handed_step (T : Table) (s : PState) (i : Inp) :
    handed (Model.Parser.step T s i).out =
      handed (runFn T.anywhere i s).2.1 ++
        (match (runFn T.anywhere i s).2.2 with
         | .dispatch => handed (runFn (T.fn (runFn T.anywhere i s).1.state) i (runFn T.anywhere i s).1).2.1
         | _ => []) := by
  unfold Model.Parser.step
  rcases hA : runFn T.anywhere i s with ⟨s1, o1, n1⟩
  cases n1 with
  | dispatch => simp only [handed_finish, handed_append]
  | st x => simp only [handed_finish, List.append_nil]
  | stop => simp only [handed_finish, List.append_nil]

theorem driveRune_spec (st0 : PSt) (T : Table) (sch : List Slot) (s : PState) (acc : Acc) (r : Nat)
    (h : WInv st0 acc) :
    ∃ acc', driveRune T sch s acc r = some acc' ∧ WInv st0 acc' ∧
      acc'.views.map (·.auto) = acc.views.map (·.auto) ++ handed (Model.Parser.step T s (.rune r)).out := by
  obtain ⟨acc1, sch1, e1, w1, v1⟩ := driveActs_spec st0 (T.anywhere.row (.rune r)).1 r s sch acc h
  have v1 := v1 [] (T.anywhere.row (.rune r)).2 (acc.views.map (·.auto)) (by simp [handed])
  rw [← runFn_out_eq] at v1
  simp only [driveRune, e1]
  rw [handed_step]
  cases hn : (runFn T.anywhere (.rune r) s).2.2 with
  | dispatch =>
    obtain ⟨acc2, sch2, e2, w2, v2⟩ := driveActs_spec st0 ((T.fn (runFn T.anywhere (.rune r) s).1.state).row (.rune r)).1 r
      (runFn T.anywhere (.rune r) s).1 sch1 acc1 w1
    have v2 := v2 [] ((T.fn (runFn T.anywhere (.rune r) s).1.state).row (.rune r)).2 (acc1.views.map (·.auto))
      (by simp [handed])
    rw [← runFn_out_eq] at v2
    exact ⟨acc2, by simp [e2], w2, by rw [v2, v1, List.append_assoc]⟩
  | st x => exact ⟨acc1, rfl, w1, by simpa using v1⟩
  | stop => exact ⟨acc1, rfl, w1, by simpa using v1⟩

theorem WInv_init : WInv PSt.init ({} : Acc) :=
  ⟨⟨PInv_init, rfl⟩, rfl, fun _ hv => (by cases hv), fun x hx => (by have h0 : x ∈ ([] : List PDeliv) := hx; cases h0)⟩

theorem consStep_winv (st0 : PSt) (acc : Acc) (c : CLabel) (h : WInv st0 acc) : WInv st0 (consStep acc c) := by
  obtain ⟨h1, h2, h3⟩ := consStep_spec st0 acc c .idle [] [] h.a h.idle
  exact ⟨h1, h2, by rw [h3]; exact h.good, consStep_cov _ _ h.cov⟩

/-- The composite never blocks, keeps the invariant, and the hand-overs recorded stay the CSI items with parameters on
    the channel. -/
theorem drun_spec_views (T : Table) (ls : List DLabel) (d : DSt) (h : WInv PSt.init d.acc) :
    ∃ d', drun T d ls = some d' ∧ WInv PSt.init d'.acc ∧
      (d.acc.views.map (·.auto) = handed d.out → d'.acc.views.map (·.auto) = handed d'.out) := by
  induction ls generalizing d with
  | nil => exact ⟨d, rfl, h, id⟩
  | cons l rest ih =>
    cases l with
    | rune r sch =>
      obtain ⟨acc', e1, e2, e3⟩ := driveRune_spec PSt.init T sch d.ps d.acc r h
      obtain ⟨d', f1, f2, f3⟩ := ih ⟨(Model.Parser.step T d.ps (.rune r)).st, acc', d.out ++ (Model.Parser.step T d.ps (.rune r)).out⟩ e2
      exact ⟨d', by simpa only [drun, dstep, e1] using f1, f2, fun hv => f3 (by simp only [handed_append, ← hv]; exact e3)⟩
    | cons c =>
      obtain ⟨d', f1, f2, f3⟩ := ih { d with acc := consStep d.acc c } (consStep_winv _ _ c h)
      exact ⟨d', by simpa only [drun, dstep] using f1, f2,
        fun hv => f3 (by rw [(consStep_spec PSt.init d.acc c .idle [] [] h.a h.idle).2.2]; exact hv)⟩

theorem drun_spec (T : Table) (ls : List DLabel) (d : DSt) (h : WInv PSt.init d.acc) :
    ∃ d', drun T d ls = some d' ∧ WInv PSt.init d'.acc := by
  obtain ⟨d', h1, h2, _⟩ := drun_spec_views T ls d h
  exact ⟨d', h1, h2⟩

theorem drun_reached {T : Table} {ls : List DLabel} {d : DSt} (h : drun T DSt.init ls = some d) : WInv PSt.init d.acc := by
  obtain ⟨d', h1, h2⟩ := drun_spec T ls DSt.init WInv_init
  rw [h] at h1; cases h1; exact h2

theorem drun_views (T : Table) (ls : List DLabel) (d d' : DSt) (h : WInv PSt.init d.acc)
    (hv : d.acc.views.map (·.auto) = handed d.out) (hd : drun T d ls = some d') :
    d'.acc.views.map (·.auto) = handed d'.out := by
  obtain ⟨d'', h1, _, h3⟩ := drun_spec_views T ls d h
  rw [hd] at h1; cases h1; exact h3 hv

theorem prun_take (ls : List PLabel) (s s' : PSt) (h : prun s ls = some s') (n : Nat) :
    ∃ s1, prun s (ls.take n) = some s1 ∧ prun s1 (ls.drop n) = some s' := by
  have e := prun_isRun.append (ls.take n) (ls.drop n) s
  rw [List.take_append_drop, h] at e
  cases h1 : prun s (ls.take n) with
  | none => rw [h1] at e; cases e
  | some s1 => rw [h1] at e; exact ⟨s1, rfl, e.symm⟩

def runesOf : List DLabel → List Nat
  | [] => []
  | .rune r _ :: ls => r :: runesOf ls
  | .cons _ :: ls => runesOf ls

open VaxisModel.Lemmas.ParserPoolsDrive (autoRun) in
theorem drun_automaton (T : Table) (ls : List DLabel) (d d' : DSt) (h : drun T d ls = some d') :
    (d'.ps, d'.out) = autoRun T d.ps d.out (runesOf ls) := by
  induction ls generalizing d with
  | nil => simp only [drun, Option.some.injEq] at h; subst h; rfl
  | cons l rest ih =>
    simp only [drun] at h
    cases hs : dstep T d l with
    | none => rw [hs] at h; cases h
    | some d1 =>
      rw [hs] at h
      have := ih d1 h
      cases l with
      | rune r sch =>
        simp only [dstep] at hs
        split at hs
        · cases hs
        · cases hs; simpa [runesOf, autoRun] using this
      | cons c =>
        simp only [dstep, Option.some.injEq] at hs
        subst hs; simpa [runesOf] using this

/-! ### the expansion read off the statement skeleton of `csiDispatch`

Nothing here mentions a particular statement list: `OpsStep` says what the `switch` of the loop has
to issue and compute; `Props/C08DriveParams.lean` proves it for the regenerated body by evaluation. -/

section Body
open VaxisModel.Model.ParserActs

/-- What one iteration of the loop (`switch b { … }`) must issue, and leave in `ps`. -/
def OpsStep (cases : List (Nat × List LoopOp)) (dflt : List LoopOp) : Prop :=
  ∀ (b : Rune) (st : LoopSt),
    (opsOfOps b (findCase cases dflt b) st).1 =
      (if b = 0x3B then [.app st.ps, .push, .get] else if b = 0x3A then [.app st.ps] else []) ∧
    (opsOfOps b (findCase cases dflt b) st).2.ps =
      (if b = 0x3B then 0 else if b = 0x3A then 0 else wrap64 (st.ps * 10 + ((b : Int) - 0x30)))

/-- A loop whose iteration is `OpsStep`, followed by `append(param, ps)`, `append(csi.Parameters, param)`,
    `emit` = `loopOps`, from any decoder state. -/
theorem opsOfLoop_sem (cases : List (Nat × List LoopOp)) (dflt : List LoopOp) (h : OpsStep cases dflt)
    (bs : List Rune) (st : LoopSt) :
    (opsOfLoop cases dflt bs st).1 ++ [.app (opsOfLoop cases dflt bs st).2.ps, .push, .emit] =
      loopOps bs st.ps := by
  induction bs generalizing st with
  | nil => rfl
  | cons b rest ih =>
    simp only [opsOfLoop, loopOps, List.append_assoc]
    rw [ih, (h b st).1, (h b st).2]
    by_cases h1 : b = 0x3B
    · simp only [h1, if_true]
    · by_cases h2 : b = 0x3A
      · simp only [h2, if_true]; rfl
      · simp only [h1, h2, if_false, List.nil_append]

end Body

end VaxisModel.Lemmas.ParserParamsDrive
