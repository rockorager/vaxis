/-
C08 — helper lemmas for the pool model over explicit backing arrays (Model/ParserPools.lean): heap
lemmas, the abstraction to the id-only model `Own` of Model/ParserRun.lean, the invariant `Inv` (`OwnInv`
of the abstraction, and what was delivered still reads the same), the step as a relation (`Step`), `Inv`
kept through the refinement, slices within capacity (`Cap`); then the ownership invariant `PInv` of
`paramPool` / `paramListPool` and its preservation.
-/
import VaxisModel.Model.ParserPools
import VaxisModel.Model.ParserRun
import VaxisModel.Lemmas.ParserRun
import VaxisModel.Lemmas.Run

namespace VaxisModel.Lemmas.ParserPools
open VaxisModel.Model.ParserPools

theorem cells_write_ne {α : Type} (h : List (List α)) (a b i : Nat) (v : α) (hab : a ≠ b) :
    cells (write h a i v) b = cells h b := by
  simp only [cells, write, List.getElem?_set_ne hab]

theorem cells_write_eq {α : Type} (h : List (List α)) (a i : Nat) (v : α) (ha : a < h.length) :
    cells (write h a i v) a = (cells h a).set i v := by
  simp only [cells, write, List.getElem?_set_self ha, Option.getD_some]

theorem cells_alloc_lt {α : Type} (h : List (List α)) (c : List α) (b : Nat) (hb : b < h.length) :
    cells (h ++ [c]) b = cells h b := by
  simp only [cells, List.getElem?_append_left hb]

theorem cells_alloc_eq {α : Type} (h : List (List α)) (c : List α) : cells (h ++ [c]) h.length = c := by
  simp [cells]

theorem length_write {α : Type} (h : List (List α)) (a i : Nat) (v : α) :
    (write h a i v).length = h.length := by
  simp [write]

theorem take_set_succ {α : Type} (c : List α) (n : Nat) (v : α) (h : n < c.length) :
    (c.set n v).take (n + 1) = c.take n ++ [v] := by
  simp only [List.take_add_one, List.take_set_of_le (Nat.le_refl _), List.getElem?_set_self h,
    Option.toList_some]

open VaxisModel.Model.ParserRun (Own) in
/-- Forget cells, lengths and snapshots: who owns which array id. -/
def abs (s : St) : Own :=
  { cur := s.cur.map (·.arr), pool := s.pool.map (·.arr), held := s.delivered.map (·.s.arr),
    next := s.heap.length }

open VaxisModel.Model.ParserRun (OwnLabel) in
/-- The `Own` label a step of the array model corresponds to (in state `s`). -/
def absLabel (s : St) : Label → OwnLabel
  | .collect _ _ =>
    match s.cur with
    | none => .collect true
    | some sl => .collect (!decide (sl.len < (cells s.heap sl.arr).length))
  | .clear => .clear
  | .dispatch none => .dispatch none
  | .dispatch (some k) => .dispatch (some (s.pool[k]?.getD default).arr)
  | .finish k => .finish (s.delivered[k]?.getD default).s.arr

open VaxisModel.Lemmas.ParserRun (OwnInv) in
/-- Every backing array has at most one owner among the parser (`cur`), the pool, the delivered sequences, and all of them are
    allocated — which speaks of array ids only: it is `OwnInv` of the abstraction —; and every delivered sequence reads what it
    read at delivery. -/
structure Inv (s : St) : Prop where
  own : OwnInv (abs s)
  intact : ∀ d ∈ s.delivered, d.now s.heap = d.snap

theorem Inv_init : Inv St.init := ⟨by simp [VaxisModel.Lemmas.ParserRun.OwnInv, abs, St.init], by simp [St.init]⟩

/-! What `OwnInv (abs s)` says in terms of slices. -/

theorem Inv.cur {s : St} (h : Inv s) (c : Slice) (hc : s.cur = some c) :
    c.arr ∉ (abs s).held ∧ c.arr ∉ (abs s).pool ∧ c.arr < s.heap.length :=
  h.own.1 c.arr (by simp [abs, hc])

theorem Inv.curPool {s : St} (h : Inv s) (c : Slice) (hc : s.cur = some c) : ∀ p ∈ s.pool, p.arr ≠ c.arr :=
  fun p hp e => (h.cur c hc).2.1 (List.mem_map.2 ⟨p, hp, e⟩)

theorem Inv.curDel {s : St} (h : Inv s) (c : Slice) (hc : s.cur = some c) : ∀ d ∈ s.delivered, d.s.arr ≠ c.arr :=
  fun d hd e => (h.cur c hc).1 (List.mem_map.2 ⟨d, hd, e⟩)

theorem Inv.curLt {s : St} (h : Inv s) (c : Slice) (hc : s.cur = some c) : c.arr < s.heap.length := (h.cur c hc).2.2

theorem Inv.poolDel {s : St} (h : Inv s) : ∀ p ∈ s.pool, ∀ d ∈ s.delivered, p.arr ≠ d.s.arr :=
  fun p hp d hd e => (h.own.2.1 p.arr (List.mem_map.2 ⟨p, hp, rfl⟩)).1 (List.mem_map.2 ⟨d, hd, e.symm⟩)

theorem Inv.poolLt {s : St} (h : Inv s) : ∀ p ∈ s.pool, p.arr < s.heap.length :=
  fun p hp => (h.own.2.1 p.arr (List.mem_map.2 ⟨p, hp, rfl⟩)).2

theorem Inv.delLt {s : St} (h : Inv s) : ∀ d ∈ s.delivered, d.s.arr < s.heap.length :=
  fun d hd => h.own.2.2.1 d.s.arr (List.mem_map.2 ⟨d, hd, rfl⟩)

theorem Inv.poolDistinct {s : St} (h : Inv s) : s.pool.Pairwise (fun a b => a.arr ≠ b.arr) :=
  List.pairwise_map.1 h.own.2.2.2.1

theorem Inv.delDistinct {s : St} (h : Inv s) : s.delivered.Pairwise (fun a b => a.s.arr ≠ b.s.arr) :=
  List.pairwise_map.1 h.own.2.2.2.2

/-- The eight outcomes of `step`, guards as hypotheses. -/
inductive Step (c : Cfg) (s : St) : Label → St → Prop
  | collectNil (r n : Nat) : s.cur = none → 1 ≤ n →
      Step c s (.collect r n) { s with heap := s.heap ++ [grow [] 0 r n], cur := some ⟨s.heap.length, 1⟩ }
  | collectIn (r n : Nat) (sl : Slice) : s.cur = some sl → sl.len < (cells s.heap sl.arr).length →
      Step c s (.collect r n) { s with heap := write s.heap sl.arr sl.len r, cur := some ⟨sl.arr, sl.len + 1⟩ }
  | collectGrow (r n : Nat) (sl : Slice) : s.cur = some sl → ¬ sl.len < (cells s.heap sl.arr).length → sl.len + 1 ≤ n →
      Step c s (.collect r n) { s with heap := s.heap ++ [grow (cells s.heap sl.arr) sl.len r n],
                                       cur := some ⟨s.heap.length, sl.len + 1⟩ }
  | clear : Step c s .clear { s with cur := s.cur.map fun sl => { sl with len := 0 } }
  | dispatchNew (sl : Slice) : s.cur = some sl → sl.len ≠ 0 → c.getOnDispatch = true →
      Step c s (.dispatch none) { s with heap := s.heap ++ [List.replicate 2 0], cur := some ⟨s.heap.length, 0⟩,
                                         delivered := ⟨sl, (cells s.heap sl.arr).take sl.len⟩ :: s.delivered }
  | dispatchPool (sl : Slice) (k : Nat) (p : Slice) : s.cur = some sl → sl.len ≠ 0 → c.getOnDispatch = true →
      s.pool[k]? = some p →
      Step c s (.dispatch (some k)) { s with cur := some p, pool := s.pool.eraseIdx k,
                                             delivered := ⟨sl, (cells s.heap sl.arr).take sl.len⟩ :: s.delivered }
  | dispatchKeep (sl : Slice) (g : Option Nat) : s.cur = some sl → sl.len ≠ 0 → c.getOnDispatch = false →
      Step c s (.dispatch g) { s with delivered := ⟨sl, (cells s.heap sl.arr).take sl.len⟩ :: s.delivered }
  | finish (k : Nat) (d : Deliv) : s.delivered[k]? = some d →
      Step c s (.finish k) { s with pool := if c.putTwice then d.s :: d.s :: s.pool else d.s :: s.pool,
                                    delivered := s.delivered.eraseIdx k }

theorem step_rel {c : Cfg} {s s' : St} {l : Label} (h : step c s l = some s') : Step c s l s' := by
  cases l with
  | collect r n =>
    simp only [step] at h
    split at h
    · rename_i hc
      split at h
      · cases h; exact .collectNil r n hc ‹_›
      · cases h
    · rename_i sl hc
      split at h
      · cases h; exact .collectIn r n sl hc ‹_›
      · split at h
        · cases h; exact .collectGrow r n sl hc ‹_› ‹_›
        · cases h
  | clear => simp only [step, Option.some.injEq] at h; subst h; exact .clear
  | dispatch g =>
    simp only [step] at h
    split at h
    · cases h
    · rename_i sl hc
      split at h
      · cases h
      · rename_i hl
        split at h
        · rename_i hg
          split at h
          · cases h; exact .dispatchNew sl hc hl hg
          · split at h
            · cases h
            · cases h; exact .dispatchPool sl _ _ hc hl hg ‹_›
        · cases h; exact .dispatchKeep sl g hc hl (by simpa using ‹¬ c.getOnDispatch = true›)
  | finish k =>
    simp only [step] at h
    split at h
    · cases h
    · cases h; exact .finish k _ ‹_›

/-- What a step does to the heap and to the delivered records: only an in-place `collect` changes cells of an allocated
    array (the parser's own), and only a dispatch adds a record (the parser's slice as it reads now). -/
theorem step_frame {c : Cfg} {s s' : St} {l : Label} (hstep : step c s l = some s') :
    (∀ a, a < s.heap.length → (∀ r n sl, l = .collect r n → s.cur = some sl → sl.arr ≠ a) →
      cells s'.heap a = cells s.heap a) ∧
    (∀ d ∈ s'.delivered, d ∈ s.delivered ∨
      ((∃ g, l = .dispatch g) ∧ ∃ sl, s.cur = some sl ∧ d = ⟨sl, (cells s.heap sl.arr).take sl.len⟩)) := by
  have new : ∀ sl g, s.cur = some sl → ∀ d ∈ (⟨sl, (cells s.heap sl.arr).take sl.len⟩ :: s.delivered : List Deliv),
      d ∈ s.delivered ∨ ((∃ g', Label.dispatch g = .dispatch g') ∧
        ∃ sl', s.cur = some sl' ∧ d = ⟨sl', (cells s.heap sl'.arr).take sl'.len⟩) := by
    intro sl g hcur d hd
    rcases List.mem_cons.1 hd with rfl | hd
    · exact Or.inr ⟨⟨g, rfl⟩, sl, hcur, rfl⟩
    · exact Or.inl hd
  cases step_rel hstep with
  | collectNil | collectGrow => exact ⟨fun a ha _ => cells_alloc_lt _ _ _ ha, fun d hd => Or.inl hd⟩
  | collectIn r n sl hc => exact ⟨fun a _ hne => cells_write_ne _ _ _ _ _ (hne r n sl rfl hc), fun d hd => Or.inl hd⟩
  | clear => exact ⟨fun _ _ _ => rfl, fun d hd => Or.inl hd⟩
  | dispatchNew sl hc => exact ⟨fun a ha _ => cells_alloc_lt _ _ _ ha, new sl _ hc⟩
  | dispatchPool sl _ _ hc | dispatchKeep sl _ hc => exact ⟨fun _ _ _ => rfl, new sl _ hc⟩
  | finish => exact ⟨fun _ _ _ => rfl, fun d hd => Or.inl (List.mem_of_mem_eraseIdx hd)⟩

theorem map_eraseIdx_eq_erase {α : Type} (f : α → Nat) (l : List α)
    (hp : l.Pairwise (fun a b => f a ≠ f b)) (k : Nat) (x : α) (hk : l[k]? = some x) :
    (l.eraseIdx k).map f = (l.map f).erase (f x) := by
  induction l generalizing k with
  | nil => simp at hk
  | cons a l ih =>
    rw [List.pairwise_cons] at hp
    cases k with
    | zero =>
      simp only [List.getElem?_cons_zero, Option.some.injEq] at hk
      subst hk
      simp
    | succ k =>
      simp only [List.getElem?_cons_succ] at hk
      have hne : f a ≠ f x := hp.1 x (List.mem_of_getElem? hk)
      simp only [List.eraseIdx_cons_succ, List.map_cons]
      rw [List.erase_cons_tail (by simpa using hne), ih hp.2 k hk]

open VaxisModel.Model.ParserRun (Own OwnLabel) in
/-- Every step of the array model is the corresponding step of `Own` on the abstraction; the
    array `Own` reports as written is the parser's array after the step. -/
theorem step_refines_Own (s s' : St) (l : Label) (hinv : Inv s) (hstep : step Cfg.code s l = some s') :
    ∃ w, (abs s).step (absLabel s l) = some (abs s', w) ∧ (w ≠ none → w = (abs s').cur) := by
  cases step_rel hstep with
  | collectNil r n hc => exact ⟨_, by simp [Own.step, abs, absLabel, hc], fun _ => rfl⟩
  | collectIn r n sl hc hroom => exact ⟨_, by simp [Own.step, abs, absLabel, hc, hroom, length_write], fun _ => rfl⟩
  | collectGrow r n sl hc hroom => exact ⟨_, by simp [Own.step, abs, absLabel, hc, hroom], fun _ => rfl⟩
  | clear => exact ⟨none, by cases hc : s.cur <;> simp [Own.step, abs, absLabel, hc], fun h => absurd rfl h⟩
  | dispatchNew sl hc => exact ⟨none, by simp [Own.step, abs, absLabel, hc], fun h => absurd rfl h⟩
  | dispatchPool sl k p hc _ _ hp =>
    have hmem : p.arr ∈ s.pool.map (·.arr) := List.mem_map_of_mem (List.mem_of_getElem? hp)
    have he := map_eraseIdx_eq_erase (fun x : Slice => x.arr) s.pool hinv.poolDistinct k p hp
    exact ⟨none, by simp [Own.step, abs, absLabel, hc, hp, hmem, he], fun h => absurd rfl h⟩
  | dispatchKeep _ _ _ _ hg => cases hg
  | finish k d hd =>
    have hmem : d.s.arr ∈ s.delivered.map (·.s.arr) := List.mem_map_of_mem (List.mem_of_getElem? hd)
    have he := map_eraseIdx_eq_erase (fun x : Deliv => x.s.arr) s.delivered hinv.delDistinct k d hd
    exact ⟨none, by simp [Own.step, abs, absLabel, Cfg.code, hd, hmem, he], fun h => absurd rfl h⟩

/-- Ownership is kept because `Own` keeps it; intactness because the only cells a step changes are the parser's own. -/
theorem step_inv (s s' : St) (l : Label) (hinv : Inv s) (hstep : step Cfg.code s l = some s') : Inv s' := by
  obtain ⟨w, hw, _⟩ := step_refines_Own s s' l hinv hstep
  obtain ⟨hfr, hdel⟩ := step_frame hstep
  refine ⟨(VaxisModel.Lemmas.ParserRun.own_step_inv _ _ _ w hinv.own hw).1, fun d hd => ?_⟩
  rcases hdel d hd with hd | ⟨⟨g, rfl⟩, sl, hcur, rfl⟩
  · rw [← hinv.intact d hd, Deliv.now, Deliv.now,
      hfr d.s.arr (hinv.delLt d hd) (fun r n sl _ hc => (hinv.curDel sl hc d hd).symm)]
  · rw [Deliv.now, hfr sl.arr (hinv.curLt sl hcur) (fun r n _ h _ => by cases h)]

theorem run_isRun (c : Cfg) : VaxisModel.Lemmas.Run.IsRun (step c) (run c) :=
  ⟨fun _ => rfl, fun s l ls => by simp only [run]; cases step c s l <;> rfl⟩

theorem run_inv (ls : List Label) (s s' : St) (hinv : Inv s) (h : run Cfg.code s ls = some s') : Inv s' :=
  (run_isRun _).preserves (fun s s1 l hi hs => step_inv s s1 l hi hs) hinv h

/-- The `Own` labels of a run of the array model. -/
def absRun : St → List Label → List VaxisModel.Model.ParserRun.OwnLabel
  | _, [] => []
  | s, l :: ls =>
    absLabel s l :: (match step Cfg.code s l with
                     | none => []
                     | some s' => absRun s' ls)

open VaxisModel.Model.ParserRun (Own OwnLabel) in
theorem run_refines_Own (ls : List Label) (s s' : St) (hinv : Inv s) (h : run Cfg.code s ls = some s') :
    (abs s).run (absRun s ls) = some (abs s') :=
  (run_isRun _).induction (C := fun s ls s' => Inv s → (abs s).run (absRun s ls) = some (abs s')) (fun _ _ => rfl)
    (fun {s l s1 _ _} hs _ ih hinv => by
      obtain ⟨w, hw, _⟩ := step_refines_Own s s1 l hinv hs
      simp only [absRun, hs, Own.run, hw]
      exact ih (step_inv s s1 l hinv hs)) ls s s' h hinv

def lenOk (h : Heap) (sl : Slice) : Prop := sl.len ≤ (cells h sl.arr).length

theorem lenOk_alloc (h : Heap) (c : List Nat) (sl : Slice) (hlt : sl.arr < h.length) (hok : lenOk h sl) :
    lenOk (h ++ [c]) sl := by
  simpa only [lenOk, cells_alloc_lt _ _ _ hlt] using hok

theorem lenOk_write (h : Heap) (a i v : Nat) (sl : Slice) (hne : a ≠ sl.arr) (hok : lenOk h sl) :
    lenOk (write h a i v) sl := by
  simpa only [lenOk, cells_write_ne _ _ _ _ _ hne] using hok

theorem length_grow {α : Type} [Inhabited α] (old : List α) (len : Nat) (r : α) (newcap : Nat) (h1 : len ≤ old.length) (h2 : len + 1 ≤ newcap) :
    (grow old len r newcap).length = newcap := by
  simp only [grow, List.length_append, List.length_take, List.length_cons, List.length_nil,
    List.length_replicate]
  omega

structure Cap (s : St) : Prop where
  cur : ∀ c, s.cur = some c → lenOk s.heap c
  pool : ∀ p ∈ s.pool, lenOk s.heap p
  del : ∀ d ∈ s.delivered, lenOk s.heap d.s

theorem Cap_init : Cap St.init := by
  constructor <;> simp [St.init]

theorem Cap_alloc (s : St) (hinv : Inv s) (hcap : Cap s) (c : List Nat) (n : Nat) (hn : n ≤ c.length) :
    Cap { s with heap := s.heap ++ [c], cur := some ⟨s.heap.length, n⟩ } := by
  refine ⟨?_, ?_, ?_⟩
  · intro x hx
    simp only [Option.some.injEq] at hx; subst hx
    simpa only [lenOk, cells_alloc_eq] using hn
  · intro p hp; exact lenOk_alloc _ _ _ (hinv.poolLt p hp) (hcap.pool p hp)
  · intro d hd; exact lenOk_alloc _ _ _ (hinv.delLt d hd) (hcap.del d hd)

theorem step_cap (s s' : St) (l : Label) (hinv : Inv s) (hcap : Cap s)
    (hstep : step Cfg.code s l = some s') : Cap s' := by
  have hdel : ∀ sl, s.cur = some sl → ∀ d ∈ (⟨sl, (cells s.heap sl.arr).take sl.len⟩ :: s.delivered : List Deliv),
      lenOk s.heap d.s ∧ d.s.arr < s.heap.length := by
    intro sl hcur d hd
    rcases List.mem_cons.1 hd with rfl | hd
    · exact ⟨hcap.cur sl hcur, hinv.curLt sl hcur⟩
    · exact ⟨hcap.del d hd, hinv.delLt d hd⟩
  cases step_rel hstep with
  | collectNil r n hc hn =>
    exact Cap_alloc s hinv hcap _ _ (by rw [length_grow _ _ _ _ (Nat.zero_le _) hn]; exact hn)
  | collectGrow r n sl hc _ hn =>
    exact Cap_alloc s hinv hcap _ _ (by rw [length_grow _ _ _ _ (hcap.cur sl hc) hn]; exact hn)
  | collectIn r n sl hc hroom =>
    refine ⟨?_, fun p hp => lenOk_write _ _ _ _ _ (fun h => hinv.curPool sl hc p hp h.symm) (hcap.pool p hp),
      fun d hd => lenOk_write _ _ _ _ _ (fun h => hinv.curDel sl hc d hd h.symm) (hcap.del d hd)⟩
    intro x hx; cases hx
    simp only [lenOk, cells_write_eq _ _ _ _ (hinv.curLt sl hc), List.length_set]
    exact hroom
  | clear =>
    refine ⟨?_, hcap.pool, hcap.del⟩
    intro x hx
    simp only [Option.map_eq_some_iff] at hx
    obtain ⟨sl, _, rfl⟩ := hx
    exact Nat.zero_le _
  | dispatchNew sl hc =>
    exact ⟨fun x hx => by cases hx; exact Nat.zero_le _,
      fun p hp => lenOk_alloc _ _ _ (hinv.poolLt p hp) (hcap.pool p hp),
      fun d hd => lenOk_alloc _ _ _ (hdel sl hc d hd).2 (hdel sl hc d hd).1⟩
  | dispatchPool sl k p hc _ _ hp =>
    exact ⟨fun x hx => by cases hx; exact hcap.pool p (List.mem_of_getElem? hp),
      fun q hq => hcap.pool q (List.mem_of_mem_eraseIdx hq), fun d hd => (hdel sl hc d hd).1⟩
  | dispatchKeep _ _ _ _ hg => cases hg
  | finish k d hd =>
    refine ⟨hcap.cur, ?_, fun e he => hcap.del e (List.mem_of_mem_eraseIdx he)⟩
    intro p hp
    simp only [Cfg.code, Bool.false_eq_true, if_false] at hp
    rcases List.mem_cons.1 hp with rfl | hp
    · exact hcap.del d (List.mem_of_getElem? hd)
    · exact hcap.pool p hp

theorem run_cap (ls : List Label) (s s' : St) (hinv : Inv s) (hcap : Cap s)
    (h : run Cfg.code s ls = some s') : Cap s' :=
  ((run_isRun _).preserves (P := fun s => Inv s ∧ Cap s)
    (fun s s1 l hi hs => ⟨step_inv s s1 l hi.1 hs, step_cap s s1 l hi.1 hi.2 hs⟩) ⟨hinv, hcap⟩ h).2

theorem perm_cons_eraseIdx {α : Type} (l : List α) (k : Nat) (x : α) (hk : l[k]? = some x) :
    l.Perm (x :: l.eraseIdx k) := by
  induction l generalizing k with
  | nil => simp at hk
  | cons a l ih =>
    cases k with
    | zero =>
      simp only [List.getElem?_cons_zero, Option.some.injEq] at hk
      subst hk; simp
    | succ k =>
      simp only [List.getElem?_cons_succ] at hk
      simp only [List.eraseIdx_cons_succ]
      exact ((ih k hk).cons a).trans (List.Perm.swap x a _)

/-- `csi.Parameters` of the running dispatch, as a list. -/
def wl (s : PSt) : List Slice := match s.work with | some (l, _) => [l] | none => []
/-- `param` of the running dispatch, as a list. -/
def wp (s : PSt) : List Slice := match s.work with | some (_, some p) => [p] | _ => []

/-- All headers reachable through delivered sequences. -/
def dl (lh : List (List Slice)) (ds : List PDeliv) : List Slice := ds.flatMap fun d => hdrs lh d.l

/-- The headers a `Finish` in progress has yet to put. -/
def fl (lh : List (List Slice)) (fs : List (Slice × Nat)) : List Slice :=
  fs.flatMap fun f => (hdrs lh f.1).drop f.2

/-- The `[][]int` arrays in use, by owner: the running dispatch, the list pool, delivered sequences,
    `Finish` calls in progress. -/
def lowners (s : PSt) : List Nat :=
  (wl s ++ s.lpool ++ s.delivered.map (·.l) ++ s.fin.map (·.1)).map (·.arr)

/-- The `[]int` arrays in use, by owner: `param`, the headers already in `csi.Parameters`, the
    param pool, the headers of delivered sequences, the headers `Finish` calls in progress have
    yet to put. -/
def powners (s : PSt) : List Nat :=
  (wp s ++ (wl s).flatMap (hdrs s.lheap) ++ s.ppool ++ dl s.lheap s.delivered ++ fl s.lheap s.fin).map (·.arr)

open VaxisModel.Lemmas.ParserRun (Owned)

structure PInv (s : PSt) : Prop where
  lown : Owned s.lheap.length (lowners s)
  pown : Owned s.pheap.length (powners s)
  wcap : ∀ l p, s.work = some (l, p) → l.len ≤ (cells s.lheap l.arr).length
  intact : ∀ d ∈ s.delivered, readParams s.pheap s.lheap d.l = d.snap

theorem PInv_init : PInv PSt.init := by
  refine ⟨?_, ?_, ?_, ?_⟩ <;> simp [PSt.init, Owned, lowners, powners, wl, wp, dl, fl]

theorem hdrs_alloc_lt (lh : List (List Slice)) (c : List Slice) (l : Slice) (h : l.arr < lh.length) :
    hdrs (lh ++ [c]) l = hdrs lh l := by
  simp only [hdrs, cells_alloc_lt _ _ _ h]

theorem hdrs_write_ne (lh : List (List Slice)) (a i : Nat) (v l : Slice) (h : a ≠ l.arr) :
    hdrs (write lh a i v) l = hdrs lh l := by
  simp only [hdrs, cells_write_ne _ _ _ _ _ h]

theorem hdrs_len_zero (lh : List (List Slice)) (a : Nat) : hdrs lh ⟨a, 0⟩ = [] := by
  simp [hdrs]

theorem hdrs_write_push (lh : List (List Slice)) (l p : Slice) (h1 : l.arr < lh.length)
    (h2 : l.len < (cells lh l.arr).length) :
    hdrs (write lh l.arr l.len p) ⟨l.arr, l.len + 1⟩ = hdrs lh l ++ [p] := by
  simp only [hdrs, cells_write_eq _ _ _ _ h1, List.take_add_one, List.take_set_of_le (Nat.le_refl _),
    List.getElem?_set_self h2, Option.toList_some]

theorem hdrs_grow_push (lh : List (List Slice)) (l p : Slice) (nc : Nat)
    (h2 : l.len ≤ (cells lh l.arr).length) :
    hdrs (lh ++ [grow (cells lh l.arr) l.len p nc]) ⟨lh.length, l.len + 1⟩ = hdrs lh l ++ [p] := by
  have hlen : ((cells lh l.arr).take l.len ++ [p]).length = l.len + 1 := by
    simp only [List.length_append, List.length_take, List.length_cons, List.length_nil]; omega
  simp only [hdrs, cells_alloc_eq, grow]
  rw [List.take_append_of_le_length (by omega), ← hlen, List.take_length]

theorem dl_congr (lh lh' : List (List Slice)) (ds : List PDeliv)
    (h : ∀ d ∈ ds, hdrs lh' d.l = hdrs lh d.l) : dl lh' ds = dl lh ds := by
  induction ds with
  | nil => rfl
  | cons d ds ih =>
    simp only [dl, List.flatMap_cons] at ih ⊢
    rw [h d (List.mem_cons_self), ih (fun e he => h e (List.mem_cons_of_mem _ he))]

theorem fl_congr (lh lh' : List (List Slice)) (fs : List (Slice × Nat))
    (h : ∀ f ∈ fs, hdrs lh' f.1 = hdrs lh f.1) : fl lh' fs = fl lh fs := by
  induction fs with
  | nil => rfl
  | cons f fs ih =>
    simp only [fl, List.flatMap_cons] at ih ⊢
    rw [h f (List.mem_cons_self), ih (fun e he => h e (List.mem_cons_of_mem _ he))]

theorem readParams_congr (ph ph' : List (List Nat)) (lh lh' : List (List Slice)) (l : Slice)
    (h1 : hdrs lh' l = hdrs lh l) (h2 : ∀ h ∈ hdrs lh l, cells ph' h.arr = cells ph h.arr) :
    readParams ph' lh' l = readParams ph lh l := by
  simp only [readParams, h1]
  exact List.map_congr_left (fun h hh => by rw [h2 h hh])

theorem mem_dl (lh : List (List Slice)) (ds : List PDeliv) (d : PDeliv) (hd : d ∈ ds) (h : Slice)
    (hh : h ∈ hdrs lh d.l) : h ∈ dl lh ds := by
  simp only [dl, List.mem_flatMap]; exact ⟨d, hd, hh⟩

theorem PInv.del_lt {s : PSt} (hinv : PInv s) (d : PDeliv) (hd : d ∈ s.delivered) :
    d.l.arr < s.lheap.length := by
  apply hinv.lown.lt
  simp only [lowners, List.map_append, List.mem_append, List.mem_map]
  exact Or.inl (Or.inr ⟨d.l, ⟨d, hd, rfl⟩, rfl⟩)

theorem PInv.del_hdr_lt {s : PSt} (hinv : PInv s) (d : PDeliv) (hd : d ∈ s.delivered) (h : Slice)
    (hh : h ∈ hdrs s.lheap d.l) : h.arr < s.pheap.length := by
  apply hinv.pown.lt
  simp only [powners, List.map_append, List.mem_append, List.mem_map]
  exact Or.inl (Or.inr ⟨h, mem_dl _ _ d hd h hh, rfl⟩)

theorem PInv.del_ne_work {s : PSt} (hinv : PInv s) (l : Slice) (p : Option Slice)
    (hw : s.work = some (l, p)) (d : PDeliv) (hd : d ∈ s.delivered) : l.arr ≠ d.l.arr := by
  have h := hinv.lown.nodup
  simp only [lowners, wl, hw, List.map_append, List.map_cons, List.cons_append,
    List.nil_append, List.nodup_cons, List.mem_append, List.mem_map, not_or] at h
  intro he
  exact h.1.1.2 ⟨d.l, ⟨d, hd, rfl⟩, he.symm⟩

theorem PInv.fin_lt {s : PSt} (hinv : PInv s) (f : Slice × Nat) (hf : f ∈ s.fin) :
    f.1.arr < s.lheap.length := by
  apply hinv.lown.lt
  simp only [lowners, List.map_append, List.mem_append, List.mem_map]
  exact Or.inr ⟨f.1, ⟨f, hf, rfl⟩, rfl⟩

theorem PInv.fin_ne_work {s : PSt} (hinv : PInv s) (l : Slice) (p : Option Slice)
    (hw : s.work = some (l, p)) (f : Slice × Nat) (hf : f ∈ s.fin) : l.arr ≠ f.1.arr := by
  have h := hinv.lown.nodup
  simp only [lowners, wl, hw, List.map_append, List.map_cons, List.cons_append,
    List.nil_append, List.nodup_cons, List.mem_append, List.mem_map, not_or] at h
  intro he
  exact h.1.2 ⟨f.1, ⟨f, hf, rfl⟩, he.symm⟩

theorem PInv.del_hdr_ne_param {s : PSt} (hinv : PInv s) (l p : Slice)
    (hw : s.work = some (l, some p)) (d : PDeliv) (hd : d ∈ s.delivered) (h : Slice)
    (hh : h ∈ hdrs s.lheap d.l) : p.arr ≠ h.arr := by
  have hn := hinv.pown.nodup
  simp only [powners, wp, hw, List.map_append, List.map_cons, List.cons_append,
    List.nil_append, List.nodup_cons, List.mem_append, List.mem_map, not_or] at hn
  intro he
  exact hn.1.1.2 ⟨h, mem_dl _ _ d hd h hh, he.symm⟩

/-- Delivered sequences are unaffected by a step that allocates in both heaps or neither, writes
    `[]int` cells only outside delivered headers, and leaves delivered list arrays alone. -/
theorem intact_frame (s : PSt) (hinv : PInv s) (ph' : List (List Nat)) (lh' : List (List Slice))
    (h1 : ∀ d ∈ s.delivered, hdrs lh' d.l = hdrs s.lheap d.l)
    (h2 : ∀ d ∈ s.delivered, ∀ h ∈ hdrs s.lheap d.l, cells ph' h.arr = cells s.pheap h.arr) :
    ∀ d ∈ s.delivered, readParams ph' lh' d.l = d.snap := by
  intro d hd
  rw [readParams_congr s.pheap ph' s.lheap lh' d.l (h1 d hd) (h2 d hd)]
  exact hinv.intact d hd

theorem pstep_begin_inv (s s' : PSt) (gl : Option Nat) (hinv : PInv s)
    (hstep : pstep s (.begin gl) = some s') : PInv s' := by
  simp only [pstep] at hstep
  split at hstep
  · cases hstep
  · rename_i hw
    split at hstep
    · simp only [Option.some.injEq] at hstep; subst hstep
      have hfr : ∀ d ∈ s.delivered, hdrs (s.lheap ++ [List.replicate 4 default]) d.l = hdrs s.lheap d.l :=
        fun d hd => hdrs_alloc_lt _ _ _ (hinv.del_lt d hd)
      have hfr2 : ∀ f ∈ s.fin, hdrs (s.lheap ++ [List.replicate 4 default]) f.1 = hdrs s.lheap f.1 :=
        fun f hf => hdrs_alloc_lt _ _ _ (hinv.fin_lt f hf)
      refine ⟨?_, ?_, ?_, ?_⟩
      · have := hinv.lown.fresh
        simpa [lowners, wl, hw] using this
      · have := hinv.pown
        simp only [powners, wl, wp, hw] at this ⊢
        rw [dl_congr _ _ _ hfr, fl_congr _ _ _ hfr2]
        simpa [hdrs_len_zero] using this
      · intro l p hlp
        cases hlp
        exact Nat.zero_le _
      · exact intact_frame s hinv _ _ hfr (fun _ _ _ _ => rfl)
    · rename_i k
      split at hstep
      · cases hstep
      · rename_i l0 hl0
        simp only [Option.some.injEq] at hstep; subst hstep
        refine ⟨?_, ?_, ?_, hinv.intact⟩
        · refine hinv.lown.perm ?_
          have hp := (perm_cons_eraseIdx s.lpool k l0 hl0).map (·.arr)
          simp only [lowners, wl, hw, List.map_append, List.map_cons, List.nil_append,
            List.cons_append]
          simp only [List.map_cons] at hp
          rw [List.perm_iff_count] at hp ⊢
          intro a
          have := hp a
          simp only [List.count_append, List.count_cons] at this ⊢
          omega
        · have := hinv.pown
          simp only [powners, wl, wp, hw] at this ⊢
          simpa [hdrs_len_zero] using this
        · intro l p hlp
          cases hlp
          exact Nat.zero_le _

theorem PInv.work_lt {s : PSt} (hinv : PInv s) (l : Slice) (p : Option Slice)
    (hw : s.work = some (l, p)) : l.arr < s.lheap.length := by
  apply hinv.lown.lt
  simp [lowners, wl, hw]

theorem pstep_get_inv (s s' : PSt) (gp : Option Nat) (hinv : PInv s)
    (hstep : pstep s (.get gp) = some s') : PInv s' := by
  simp only [pstep] at hstep
  split at hstep
  · rename_i l hw
    split at hstep
    · simp only [Option.some.injEq] at hstep; subst hstep
      refine ⟨?_, ?_, ?_, ?_⟩
      · have := hinv.lown
        simpa only [lowners, wl, hw] using this
      · have := hinv.pown.fresh
        simpa [powners, wl, wp, hw] using this
      · intro l' p' hlp
        cases hlp
        exact hinv.wcap _ _ hw
      · exact intact_frame s hinv _ _ (fun _ _ => rfl)
          (fun d hd h hh => cells_alloc_lt _ _ _ (hinv.del_hdr_lt d hd h hh))
    · rename_i k
      split at hstep
      · cases hstep
      · rename_i p0 hp0
        simp only [Option.some.injEq] at hstep; subst hstep
        refine ⟨?_, ?_, ?_, hinv.intact⟩
        · have := hinv.lown
          simpa only [lowners, wl, hw] using this
        · refine hinv.pown.perm ?_
          have hp := (perm_cons_eraseIdx s.ppool k p0 hp0).map (·.arr)
          simp only [powners, wl, wp, hw, List.map_append, List.map_cons, List.nil_append,
            List.cons_append, List.flatMap_cons, List.flatMap_nil, List.append_nil]
          simp only [List.map_cons] at hp
          rw [List.perm_iff_count] at hp ⊢
          intro a
          have := hp a
          simp only [List.count_append, List.count_cons] at this ⊢
          omega
        · intro l' p' hlp
          cases hlp
          exact hinv.wcap _ _ hw
  · cases hstep

theorem pstep_app_inv (s s' : PSt) (v nc : Nat) (hinv : PInv s)
    (hstep : pstep s (.app v nc) = some s') : PInv s' := by
  simp only [pstep] at hstep
  split at hstep
  · rename_i l p hw
    split at hstep
    · simp only [Option.some.injEq] at hstep; subst hstep
      refine ⟨?_, ?_, ?_, ?_⟩
      · have := hinv.lown
        simpa only [lowners, wl, hw] using this
      · have := hinv.pown
        simpa [powners, wl, wp, hw, length_write] using this
      · intro l' p' hlp
        cases hlp
        exact hinv.wcap _ _ hw
      · exact intact_frame s hinv _ _ (fun _ _ => rfl)
          (fun d hd h hh => cells_write_ne _ _ _ _ _ (hinv.del_hdr_ne_param l p hw d hd h hh))
    · split at hstep
      · simp only [Option.some.injEq] at hstep; subst hstep
        refine ⟨?_, ?_, ?_, ?_⟩
        · have := hinv.lown
          simpa only [lowners, wl, hw] using this
        · have h0 := hinv.pown
          simp only [powners, wl, wp, hw, List.map_append, List.map_cons,
            List.cons_append, List.nil_append] at h0
          have := (h0.sublist (List.sublist_cons_self _ _)).fresh
          simpa [powners, wl, wp, hw] using this
        · intro l' p' hlp
          cases hlp
          exact hinv.wcap _ _ hw
        · exact intact_frame s hinv _ _ (fun _ _ => rfl)
            (fun d hd h hh => cells_alloc_lt _ _ _ (hinv.del_hdr_lt d hd h hh))
      · cases hstep
  · cases hstep

theorem pstep_push_inv (s s' : PSt) (nc : Nat) (hinv : PInv s)
    (hstep : pstep s (.push nc) = some s') : PInv s' := by
  simp only [pstep] at hstep
  split at hstep
  · rename_i l p hw
    have hlt := hinv.work_lt l _ hw
    split at hstep
    · rename_i hroom
      simp only [Option.some.injEq] at hstep; subst hstep
      have hfr : ∀ d ∈ s.delivered, hdrs (write s.lheap l.arr l.len p) d.l = hdrs s.lheap d.l :=
        fun d hd => hdrs_write_ne _ _ _ _ _ (hinv.del_ne_work l _ hw d hd)
      have hfr2 : ∀ f ∈ s.fin, hdrs (write s.lheap l.arr l.len p) f.1 = hdrs s.lheap f.1 :=
        fun f hf => hdrs_write_ne _ _ _ _ _ (hinv.fin_ne_work l _ hw f hf)
      refine ⟨?_, ?_, ?_, ?_⟩
      · have := hinv.lown
        simpa [lowners, wl, hw, length_write] using this
      · refine hinv.pown.perm ?_
        simp only [powners, wl, wp, hw, List.flatMap_cons, List.flatMap_nil, List.append_nil,
          List.nil_append]
        rw [dl_congr _ _ _ hfr, fl_congr _ _ _ hfr2, hdrs_write_push _ _ _ hlt hroom]
        simp only [List.map_append, List.map_cons, List.map_nil]
        rw [List.perm_iff_count]
        intro a
        simp only [List.count_append, List.count_cons, List.count_nil]
        omega
      · intro l' p' hlp
        cases hlp
        simp only [cells_write_eq _ _ _ _ hlt, List.length_set]
        exact hroom
      · exact intact_frame s hinv _ _ hfr (fun _ _ _ _ => rfl)
    · split at hstep
      · rename_i hn
        simp only [Option.some.injEq] at hstep; subst hstep
        have hfr : ∀ d ∈ s.delivered,
            hdrs (s.lheap ++ [grow (cells s.lheap l.arr) l.len p nc]) d.l = hdrs s.lheap d.l :=
          fun d hd => hdrs_alloc_lt _ _ _ (hinv.del_lt d hd)
        have hfr2 : ∀ f ∈ s.fin,
            hdrs (s.lheap ++ [grow (cells s.lheap l.arr) l.len p nc]) f.1 = hdrs s.lheap f.1 :=
          fun f hf => hdrs_alloc_lt _ _ _ (hinv.fin_lt f hf)
        have hc := hinv.wcap _ _ hw
        refine ⟨?_, ?_, ?_, ?_⟩
        · have h0 := hinv.lown
          simp only [lowners, wl, hw, List.map_append, List.map_cons,
            List.cons_append, List.nil_append] at h0
          have := (h0.sublist (List.sublist_cons_self _ _)).fresh
          simpa [lowners, wl, hw] using this
        · refine hinv.pown.perm ?_
          simp only [powners, wl, wp, hw, List.flatMap_cons, List.flatMap_nil, List.append_nil,
            List.nil_append]
          rw [dl_congr _ _ _ hfr, fl_congr _ _ _ hfr2, hdrs_grow_push _ _ _ _ hc]
          simp only [List.map_append, List.map_cons, List.map_nil]
          rw [List.perm_iff_count]
          intro a
          simp only [List.count_append, List.count_cons, List.count_nil]
          omega
        · intro l' p' hlp
          cases hlp
          simp only [cells_alloc_eq, length_grow _ _ _ _ hc hn]
          exact hn
        · exact intact_frame s hinv _ _ hfr (fun _ _ _ _ => rfl)
      · cases hstep
  · cases hstep

theorem pstep_emit_inv (s s' : PSt) (hinv : PInv s)
    (hstep : pstep s .emit = some s') : PInv s' := by
  simp only [pstep] at hstep
  split at hstep
  · rename_i l hw
    split at hstep
    · cases hstep
    · simp only [Option.some.injEq] at hstep; subst hstep
      refine ⟨?_, ?_, ?_, ?_⟩
      · refine hinv.lown.perm ?_
        simp only [lowners, wl, hw, List.map_append, List.map_cons, List.map_nil, List.nil_append]
        rw [List.perm_iff_count]
        intro a
        simp only [List.count_append, List.count_cons, List.count_nil]
        omega
      · refine hinv.pown.perm ?_
        simp only [powners, wl, wp, hw, dl, List.flatMap_cons, List.flatMap_nil, List.append_nil,
          List.nil_append, List.map_append]
        rw [List.perm_iff_count]
        intro a
        simp only [List.count_append]
        omega
      · intro l' p' hlp; cases hlp
      · intro d hd
        rcases List.mem_cons.1 hd with rfl | hd
        · rfl
        · exact hinv.intact d hd
  · cases hstep

theorem pstep_finish_inv (s s' : PSt) (k : Nat) (hinv : PInv s)
    (hstep : pstep s (.finish k) = some s') : PInv s' := by
  simp only [pstep] at hstep
  split at hstep
  · cases hstep
  · rename_i d hd
    simp only [Option.some.injEq] at hstep; subst hstep
    have hperm := perm_cons_eraseIdx s.delivered k d hd
    refine ⟨?_, ?_, hinv.wcap, fun e he => hinv.intact e (List.mem_of_mem_eraseIdx he)⟩
    · refine hinv.lown.perm ?_
      have hp := (hperm.map (·.l)).map (·.arr)
      simp only [lowners, wl, List.map_append, List.map_cons]
      simp only [List.map_cons] at hp
      rw [List.perm_iff_count] at hp ⊢
      intro a
      have := hp a
      simp only [List.count_append, List.count_cons] at this ⊢
      omega
    · refine hinv.pown.perm ?_
      have hp := (hperm.flatMap_right (fun d => hdrs s.lheap d.l)).map (·.arr)
      simp only [powners, wl, wp, dl, fl, List.map_append, List.flatMap_cons, List.drop_zero]
      simp only [List.flatMap_cons, List.map_append] at hp
      rw [List.perm_iff_count] at hp ⊢
      intro a
      have := hp a
      simp only [List.count_append] at this ⊢
      omega

theorem pstep_finPut_inv (s s' : PSt) (j : Nat) (hinv : PInv s)
    (hstep : pstep s (.finPut j) = some s') : PInv s' := by
  simp only [pstep] at hstep
  split at hstep
  · cases hstep
  · rename_i l i hf
    have hperm := perm_cons_eraseIdx s.fin j (l, i) hf
    split at hstep
    · rename_i h hh
      simp only [Option.some.injEq] at hstep; subst hstep
      refine ⟨?_, ?_, hinv.wcap, hinv.intact⟩
      · refine hinv.lown.perm ?_
        have hp := (hperm.map (·.1)).map (·.arr)
        simp only [lowners, wl, List.map_append, List.map_cons]
        simp only [List.map_cons] at hp
        rw [List.perm_iff_count] at hp ⊢
        intro a
        have := hp a
        simp only [List.count_append, List.count_cons] at this ⊢
        omega
      · refine hinv.pown.perm ?_
        have hp := (hperm.flatMap_right (fun f => (hdrs s.lheap f.1).drop f.2)).map (·.arr)
        have hdrop : (hdrs s.lheap l).drop i = h :: (hdrs s.lheap l).drop (i + 1) := by
          obtain ⟨hi, rfl⟩ := List.getElem?_eq_some_iff.1 hh
          exact List.drop_eq_getElem_cons hi
        simp only [powners, wl, wp, fl, List.map_append, List.flatMap_cons, List.map_cons]
        simp only [List.flatMap_cons, List.map_append, hdrop, List.map_cons] at hp
        rw [List.perm_iff_count] at hp ⊢
        intro a
        have := hp a
        simp only [List.count_append, List.count_cons] at this ⊢
        omega
    · rename_i hh
      simp only [Option.some.injEq] at hstep; subst hstep
      refine ⟨?_, ?_, hinv.wcap, hinv.intact⟩
      · refine hinv.lown.perm ?_
        have hp := (hperm.map (·.1)).map (·.arr)
        simp only [lowners, wl, List.map_append, List.map_cons]
        simp only [List.map_cons] at hp
        rw [List.perm_iff_count] at hp ⊢
        intro a
        have := hp a
        simp only [List.count_append, List.count_cons] at this ⊢
        omega
      · refine hinv.pown.perm ?_
        have hp := (hperm.flatMap_right (fun f => (hdrs s.lheap f.1).drop f.2)).map (·.arr)
        have hdrop : (hdrs s.lheap l).drop i = [] :=
          List.drop_eq_nil_of_le (List.getElem?_eq_none_iff.1 hh)
        simp only [powners, wl, wp, fl, List.map_append]
        simp only [List.flatMap_cons, hdrop, List.nil_append] at hp
        rw [List.perm_iff_count] at hp ⊢
        intro a
        have := hp a
        simp only [List.count_append] at this ⊢
        omega
theorem pstep_inv (s s' : PSt) (l : PLabel) (hinv : PInv s) (hstep : pstep s l = some s') : PInv s' := by
  cases l with
  | «begin» gl => exact pstep_begin_inv s s' gl hinv hstep
  | get gp => exact pstep_get_inv s s' gp hinv hstep
  | app v nc => exact pstep_app_inv s s' v nc hinv hstep
  | push nc => exact pstep_push_inv s s' nc hinv hstep
  | emit => exact pstep_emit_inv s s' hinv hstep
  | finish k => exact pstep_finish_inv s s' k hinv hstep
  | finPut j => exact pstep_finPut_inv s s' j hinv hstep

theorem prun_isRun : VaxisModel.Lemmas.Run.IsRun pstep prun :=
  ⟨fun _ => rfl, fun s l ls => by simp only [prun]; cases pstep s l <;> rfl⟩

theorem prun_inv (ls : List PLabel) (s s' : PSt) (hinv : PInv s) (h : prun s ls = some s') : PInv s' :=
  prun_isRun.preserves (fun s s1 l hi hs => pstep_inv s s1 l hi hs) hinv h

end VaxisModel.Lemmas.ParserPools
