/-
C08: the pool model driven by the automaton (Model/ParserPoolsDrive.lean): every label the parser's
statements issue is enabled, and what was issued is a run of the pool model.
-/
import VaxisModel.Model.ParserPoolsDrive
import VaxisModel.Lemmas.ParserPools

namespace VaxisModel.Lemmas.ParserPoolsDrive
open VaxisModel.Model.ParserTable VaxisModel.Model.Parser VaxisModel.Model.ParserPools
open VaxisModel.Model.ParserPoolsDrive VaxisModel.Lemmas.ParserPools

theorem poolLabel_enabled (c : Choice) (st : St) (a : Act) (r : Nat) (l : Label)
    (h : poolLabel c st a r = some l) : ∃ st', Model.ParserPools.step .code st l = some st' := by
  cases a <;> simp only [poolLabel] at h <;> try (cases h; done)
  case collect =>
    cases h
    cases hc : st.cur with
    | none => simp [Model.ParserPools.step, hc]
    | some sl =>
      simp only [Model.ParserPools.step, hc]
      split
      · exact ⟨_, rfl⟩
      · rw [if_pos (by omega)]; exact ⟨_, rfl⟩
  case clear => cases h; exact ⟨_, rfl⟩
  all_goals
    cases hc : st.cur with
    | none => rw [hc] at h; cases h
    | some sl =>
      rw [hc] at h
      simp only at h
      split at h
      · cases h
      · rename_i hlen
        cases h
        simp only [Model.ParserPools.step, hc, hlen, if_false, Cfg.code, if_true]
        cases hg : c.g with
        | none => exact ⟨_, rfl⟩
        | some k =>
          simp only
          by_cases hk : k < st.pool.length
          · have : st.pool[k]? = some st.pool[k] := List.getElem?_eq_getElem hk
            simp only [hk, if_true, this]
            exact ⟨_, rfl⟩
          · simp only [hk, if_false]
            exact ⟨_, rfl⟩

theorem run_snoc (st st1 st2 : St) (ls : List Label) (l : Label) (h1 : run .code st ls = some st1)
    (h2 : Model.ParserPools.step .code st1 l = some st2) : run .code st (ls ++ [l]) = some st2 := by
  rw [(run_isRun .code).append_of_eq_some h1]
  simp [Model.ParserPools.run, h2]

theorem driveActs_cons (c : Choice) (a : Act) (hnr : ∀ n', a ≠ .retIfIgnoreST n') (rest : List Act) (r : Nat)
    (s : PState) (acc : Acc) :
    driveActs c (a :: rest) r s acc =
      (match poolLabel c acc.st a r with
       | none => driveActs c rest r (applyAct a r s).1 acc
       | some l =>
         match Model.ParserPools.step .code acc.st l with
         | none => none
         | some st' =>
           driveActs c rest r (applyAct a r s).1
             { st := st', ls := acc.ls ++ [l],
               views := if isDispatchLabel l then acc.views ++ [⟨s.inter, contents acc.st⟩] else acc.views }) := by
  cases a <;> first | (exfalso; exact hnr _ rfl) | rfl

theorem driveActs_run (c : Choice) (acts : List Act) (r : Nat) (s : PState) (st0 : St) (acc : Acc)
    (h0 : run .code st0 acc.ls = some acc.st) :
    ∃ acc', driveActs c acts r s acc = some acc' ∧ run .code st0 acc'.ls = some acc'.st := by
  induction acts generalizing s acc with
  | nil => exact ⟨acc, rfl, h0⟩
  | cons a rest ih =>
    by_cases hret : ∃ n', a = .retIfIgnoreST n'
    · obtain ⟨n', rfl⟩ := hret
      simp only [driveActs]
      split
      · exact ⟨acc, rfl, h0⟩
      · exact ih s acc h0
    · rw [driveActs_cons c a (fun n' h => hret ⟨n', h⟩)]
      cases hl : poolLabel c acc.st a r with
      | none => exact ih _ acc h0
      | some l =>
        obtain ⟨st1, hs⟩ := poolLabel_enabled c acc.st a r l hl
        simp only [hs]
        exact ih (applyAct a r s).1 _ (run_snoc st0 acc.st st1 acc.ls l h0 hs)

theorem driveRune_run (T : Table) (c : Choice) (s : PState) (st0 : St) (acc : Acc) (r : Nat)
    (h0 : run .code st0 acc.ls = some acc.st) :
    ∃ acc', driveRune T c s acc r = some acc' ∧ run .code st0 acc'.ls = some acc'.st := by
  obtain ⟨acc1, e1, e2⟩ := driveActs_run c (T.anywhere.row (.rune r)).1 r s st0 acc h0
  simp only [driveRune, e1]
  cases hn : (runFn T.anywhere (.rune r) s).2.2 with
  | dispatch =>
    simp only
    exact driveActs_run c _ r _ st0 acc1 e2
  | st x => exact ⟨acc1, rfl, e2⟩
  | stop => exact ⟨acc1, rfl, e2⟩

theorem drun_run (T : Table) (ls : List DLabel) (d : DSt) (h0 : run .code St.init d.trace = some d.pool) :
    ∃ d', drun T d ls = some d' ∧ run .code St.init d'.trace = some d'.pool := by
  induction ls generalizing d with
  | nil => exact ⟨d, rfl, h0⟩
  | cons l rest ih =>
    cases l with
    | rune r c =>
      obtain ⟨acc', e1, e2⟩ := driveRune_run T c d.ps St.init d.acc r h0
      simp only [drun, dstep, e1]
      exact ih _ e2
    | finish k =>
      simp only [drun, dstep]
      cases hs : Model.ParserPools.step .code d.acc.st (.finish k) with
      | none => exact ih d h0
      | some st' => exact ih _ (run_snoc St.init d.pool st' d.trace _ h0 hs)

def runesOf : List DLabel → List Nat
  | [] => []
  | .rune r _ :: ls => r :: runesOf ls
  | .finish _ :: ls => runesOf ls

/-- The automaton alone over a list of runes (state, everything emitted). -/
def autoRun (T : Table) : PState → List Seq → List Nat → PState × List Seq
  | s, out, [] => (s, out)
  | s, out, r :: rs => autoRun T (Model.Parser.step T s (.rune r)).st (out ++ (Model.Parser.step T s (.rune r)).out) rs

theorem drun_isRun (T : Table) : VaxisModel.Lemmas.Run.IsRun (dstep T) (drun T) :=
  ⟨fun _ => rfl, fun d l ls => by simp only [drun]; cases dstep T d l <;> rfl⟩

/-- The parser component of the composite is the automaton's own run over the runes of the schedule
    (the pool component does not influence it). -/
theorem drun_automaton (T : Table) (ls : List DLabel) (d d' : DSt) (h : drun T d ls = some d') :
    (d'.ps, d'.out) = autoRun T d.ps d.out (runesOf ls) :=
  (drun_isRun T).induction (C := fun d ls d' => (d'.ps, d'.out) = autoRun T d.ps d.out (runesOf ls)) (fun _ => rfl)
    (fun {d l d1 ls d'} hs _ ih => by
      cases l with
      | rune r c =>
        simp only [dstep] at hs
        split at hs <;> cases hs
        simpa [runesOf, autoRun] using ih
      | finish k =>
        simp only [dstep] at hs
        split at hs <;> (cases hs; simpa [runesOf] using ih)) ls d d' h

end VaxisModel.Lemmas.ParserPoolsDrive
