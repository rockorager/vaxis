/-
C08: the link between the automaton's `inter` (a list, `Model/Parser.lean`) and the slice
`p.intermediate` of the pool model, along the composite run of `Model/ParserPoolsDrive.lean`: outside
the states in which `p.intermediate` is dead (ground, dcsPassthrough: nothing reads it before the next
`clear()`), the slice reads exactly `inter`; hence at every hand-over the slice the consumer receives
reads what the automaton put into the sequence.
-/
import VaxisModel.Lemmas.ParserPoolsDrive
import VaxisModel.Lemmas.ParserStale
import VaxisModel.Lemmas.ParserAbs
import VaxisModel.Lemmas.ParserStepBasic
import VaxisModel.Lemmas.ParserRow
import VaxisModel.Lemmas.ParserPools

namespace VaxisModel.Lemmas.ParserPoolsLink
open VaxisModel.Model.ParserTable VaxisModel.Model.Parser VaxisModel.Model.ParserPools
open VaxisModel.Model.ParserPoolsDrive VaxisModel.Lemmas.ParserPoolsDrive VaxisModel.Lemmas.ParserPools
open VaxisModel.Lemmas.ParserStale VaxisModel.Lemmas.Parser VaxisModel.Lemmas.ParserConform

def isDeadB : StateId → Bool
  | .ground | .dcsPassthrough => true
  | _ => false

def isDeadNext : Next → Bool
  | .st t => isDeadB t
  | _ => false

/-- One statement on the flag "the slice reads `inter`": `none` = the statement needs the flag and it
    is not known to hold. -/
def linkAct : Act → Bool → Option Bool
  | .collect, f => if f then some true else none
  | .clear, _ => some true
  | .escapeDispatch, f | .csiDispatch, f | .hook, f => if f then some false else none
  | _, f => some f

def linkActs : List Act → Bool → Option Bool
  | [], f => some f
  | .retIfIgnoreST n' :: rest, f => if isDeadNext n' then linkActs rest f else none
  | a :: rest, f =>
    match linkAct a f with
    | none => none
    | some f' => linkActs rest f'

theorem take_len_succ_append (l : List Nat) (r : Nat) (t : List Nat) : (l ++ r :: t).take (l.length + 1) = l ++ [r] := by
  induction l with
  | nil => simp
  | cons a l ih => simp [ih]

theorem collect_contents (st st' : St) (r cap : Nat) (hcap : ∀ c, st.cur = some c → c.len ≤ (cells st.heap c.arr).length)
    (h : Model.ParserPools.step .code st (.collect r cap) = some st') : contents st' = contents st ++ [r] := by
  cases step_rel h with
  | collectNil _ _ hc => simp [contents, hc, cells_alloc_eq, grow]
  | collectIn _ _ sl hc hlt =>
    have harr : sl.arr < st.heap.length := by
      rcases Nat.lt_or_ge sl.arr st.heap.length with h | h
      · exact h
      · simp [cells, List.getElem?_eq_none h] at hlt
    simp only [contents, hc, cells_write_eq _ _ _ _ harr]
    exact take_set_succ _ _ _ hlt
  | collectGrow _ _ sl hc hroom =>
    have heq : sl.len = (cells st.heap sl.arr).length := by have := hcap sl hc; omega
    simp only [contents, hc, cells_alloc_eq, grow]
    rw [heq, List.take_length]
    simp only [List.append_assoc, List.singleton_append]
    exact take_len_succ_append _ _ _

theorem clear_contents (st st' : St) (h : Model.ParserPools.step .code st .clear = some st') : contents st' = [] := by
  cases step_rel h with
  | clear => cases st.cur <;> simp [contents]

theorem applyAct_inter_same (a : Act) (ha : interFree a = true) (r : Nat) (s : PState) :
    (applyAct a r s).1.inter = s.inter := by
  have := applyAct_inter a ha r s s.inter
  have hs : ({ s with inter := s.inter } : PState) = s := rfl
  rw [hs] at this
  exact congrArg (fun x => x.1.inter) this

theorem poolLabel_interFree (c : Choice) (st : St) (a : Act) (r : Nat) (ha : interFree a = true) :
    poolLabel c st a r = none := by
  cases a <;> simp only [interFree] at ha <;> first | (cases ha; done) | rfl

theorem linkAct_interFree (a : Act) (f : Bool) (ha : interFree a = true) : linkAct a f = some f := by
  cases a <;> simp only [interFree] at ha <;> first | (cases ha; done) | rfl

/-- All hand-overs seen so far agree: the automaton's `inter` is what the slice reads. -/
def GoodViews (acc : Acc) : Prop := ∀ v ∈ acc.views, v.auto = v.slice

theorem link_step (c : Choice) (a : Act) (hnr : ∀ n', a ≠ .retIfIgnoreST n') (r : Nat) (s : PState) (acc : Acc)
    (f f1 : Bool) (hrun : run .code St.init acc.ls = some acc.st) (hf : f = true → contents acc.st = s.inter)
    (hg : GoodViews acc) (hla : linkAct a f = some f1) :
    ∃ acc1, (∀ rest, driveActs c (a :: rest) r s acc = driveActs c rest r (applyAct a r s).1 acc1) ∧
      run .code St.init acc1.ls = some acc1.st ∧ GoodViews acc1 ∧
      (f1 = true → contents acc1.st = (applyAct a r s).1.inter) := by
  by_cases hfree : interFree a = true
  · rw [linkAct_interFree a f hfree] at hla
    cases hla
    refine ⟨acc, fun rest => ?_, hrun, hg, fun h => ?_⟩
    · rw [driveActs_cons c a hnr, poolLabel_interFree c acc.st a r hfree]
    · rw [applyAct_inter_same a hfree]; exact hf h
  · have hcap := (run_cap acc.ls St.init acc.st Inv_init Cap_init hrun).cur
    cases a <;> simp only [interFree] at hfree <;> first | (exact absurd trivial hfree) | (exact absurd rfl hfree) | skip
    case collect =>
      simp only [linkAct] at hla
      split at hla
      · rename_i hft
        cases hla
        obtain ⟨st1, hs⟩ := poolLabel_enabled c acc.st .collect r _ rfl
        refine ⟨{ st := st1, ls := acc.ls ++ [_], views := acc.views }, fun rest => ?_,
          run_snoc St.init acc.st st1 acc.ls _ hrun hs, hg, fun _ => ?_⟩
        · rw [driveActs_cons c .collect hnr]
          simp only [poolLabel, hs, isDispatchLabel, Bool.false_eq_true, if_false]
        · simp only [applyAct]
          rw [collect_contents acc.st st1 r _ hcap hs, hf hft]
      · cases hla
    case clear =>
      simp only [linkAct, Option.some.injEq] at hla
      subst hla
      obtain ⟨st1, hs⟩ := poolLabel_enabled c acc.st .clear r _ rfl
      refine ⟨{ st := st1, ls := acc.ls ++ [_], views := acc.views }, fun rest => ?_,
        run_snoc St.init acc.st st1 acc.ls _ hrun hs, hg, fun _ => ?_⟩
      · rw [driveActs_cons c .clear hnr]
        simp only [poolLabel, hs, isDispatchLabel, Bool.false_eq_true, if_false]
      · simp only [applyAct]
        exact clear_contents acc.st st1 hs
    all_goals
      simp only [linkAct] at hla
      split at hla
      · rename_i hft
        cases hla
        cases hl : poolLabel c acc.st _ r with
        | none =>
          refine ⟨acc, fun rest => ?_, hrun, hg, fun h => by cases h⟩
          rw [driveActs_cons c _ hnr, hl]
        | some l =>
          obtain ⟨st1, hs⟩ := poolLabel_enabled c acc.st _ r l hl
          refine ⟨{ st := st1, ls := acc.ls ++ [l],
                    views := if isDispatchLabel l then acc.views ++ [⟨s.inter, contents acc.st⟩] else acc.views },
            fun rest => ?_, run_snoc St.init acc.st st1 acc.ls _ hrun hs, ?_, fun h => by cases h⟩
          · rw [driveActs_cons c _ hnr, hl]
            simp only [hs]
          · intro v hv
            simp only at hv
            split at hv
            · rcases List.mem_append.mp hv with hv | hv
              · exact hg v hv
              · simp only [List.mem_singleton] at hv
                subst hv
                exact (hf hft).symm
            · exact hg v hv
      · cases hla

/-- **One row.**  Walking the statements of a row on both sides: if the flag computation accepts the
    row (`linkActs`), the hand-overs stay good, and at the end either the slice reads `inter`
    (when the flag says so) or the row returned, through its early `return`, a dead state. -/
theorem link_acts (c : Choice) (acts : List Act) (r : Nat) (s : PState) (acc acc' : Acc) (f f' : Bool)
    (out : List Seq) (nx : Next)
    (hrun : run .code St.init acc.ls = some acc.st) (hf : f = true → contents acc.st = s.inter)
    (hg : GoodViews acc) (hl : linkActs acts f = some f') (hd : driveActs c acts r s acc = some acc') :
    GoodViews acc' ∧ run .code St.init acc'.ls = some acc'.st ∧
    (((f' = true → contents acc'.st = (runActs acts (.rune r) s out nx).1.inter) ∧
        (runActs acts (.rune r) s out nx).2.2 = nx) ∨
      isDeadNext (runActs acts (.rune r) s out nx).2.2 = true) := by
  induction acts generalizing s acc f out with
  | nil =>
    simp only [linkActs, Option.some.injEq] at hl
    simp only [driveActs, Option.some.injEq] at hd
    subst hl; subst hd
    exact ⟨hg, hrun, Or.inl ⟨by simpa [runActs] using hf, rfl⟩⟩
  | cons a rest ih =>
    by_cases hret : ∃ n', a = .retIfIgnoreST n'
    · obtain ⟨n', rfl⟩ := hret
      simp only [linkActs] at hl
      split at hl
      · rename_i hdead
        simp only [driveActs] at hd
        simp only [runActs]
        by_cases hi : s.ignoreST = true
        · simp only [hi, if_true] at hd ⊢
          cases hd
          exact ⟨hg, hrun, Or.inr hdead⟩
        · simp only [hi, Bool.false_eq_true, if_false] at hd ⊢
          exact ih s acc f out hrun hf hg hl hd
      · cases hl
    · have hnr : ∀ n', a ≠ .retIfIgnoreST n' := fun n' h => hret ⟨n', h⟩
      have hl1 : linkActs (a :: rest) f = (match linkAct a f with | none => none | some f1 => linkActs rest f1) := by
        cases a <;> first | (exfalso; exact hnr _ rfl) | rfl
      rw [hl1] at hl
      cases hla : linkAct a f with
      | none => rw [hla] at hl; cases hl
      | some f1 =>
        rw [hla] at hl
        simp only at hl
        obtain ⟨acc1, e1, e2, e3, e4⟩ := link_step c a hnr r s acc f f1 hrun hf hg hla
        rw [e1 rest] at hd
        rw [ParserStepBasic.runActs_cons_rune a rest hnr r s out nx]
        exact ih (applyAct a r s).1 acc1 f1 _ e2 e4 e3 hl hd

/-- Everything the link needs of the table, for a row of `anywhere` and a row of the function of state
    `st`: starting with "the slice reads `inter`" known exactly outside the dead states, the statements
    of `anywhere` and of the state function only `collect`/dispatch while it is known, and at the end
    it is known again or the state returned is dead. -/
def linkCheck (st : StateId) (r1 r2 : List Act × Next) : Bool :=
  match linkActs r1.1 (!isDeadB st) with
  | none => false
  | some f1 =>
    match r1.2 with
    | .dispatch =>
      match linkActs r2.1 f1 with
      | none => false
      | some f2 => f2 || isDeadNext r2.2
    | n => f1 || isDeadNext n

theorem linkCheck_rows : ∀ st ∈ allStates, ∀ r1 ∈ rows handAnywhere, ∀ r2 ∈ rows (handFn st),
    linkCheck st r1 r2 = true := by decide +kernel

theorem linkCheck_all (st : StateId) (c : Nat) :
    linkCheck st (handAnywhere.row (.rune c)) ((handFn st).row (.rune c)) = true :=
  linkCheck_rows st (mem_allStates st) _ (row_mem_rows _ c) _ (row_mem_rows _ c)

/-- The slice reads `inter`, or nothing reads it before the next `clear()`. -/
def Link (s : PState) (st : St) : Prop := isDeadB s.state = true ∨ contents st = s.inter

theorem runFn_inter (f : StateFn) (i : Inp) (s : PState) :
    (runFn f i s).1.inter = (runActs (f.row i).1 i s [] (f.row i).2).1.inter := by
  simp only [runFn]; split <;> rfl

theorem runFn_next (f : StateFn) (i : Inp) (s : PState) :
    (runFn f i s).2.2 = (runActs (f.row i).1 i s [] (f.row i).2).2.2 := by
  simp only [runFn]

theorem link_fn (c : Choice) (fn : StateFn) (r : Nat) (s : PState) (acc acc' : Acc) (f f' : Bool)
    (hrun : run .code St.init acc.ls = some acc.st) (hf : f = true → contents acc.st = s.inter)
    (hg : GoodViews acc) (hl : linkActs (fn.row (.rune r)).1 f = some f')
    (hd : driveActs c (fn.row (.rune r)).1 r s acc = some acc') :
    GoodViews acc' ∧ run .code St.init acc'.ls = some acc'.st ∧
    (((f' = true → contents acc'.st = (runFn fn (.rune r) s).1.inter) ∧ (runFn fn (.rune r) s).2.2 = (fn.row (.rune r)).2) ∨
      isDeadNext (runFn fn (.rune r) s).2.2 = true) := by
  rw [runFn_inter, runFn_next]; exact link_acts c _ r s acc acc' f f' [] _ hrun hf hg hl hd

theorem link_finish (s : PState) (out : List Seq) (n : Next) (st : St)
    (h : isDeadNext n = true ∨ contents st = s.inter) : Link (finish s out n).st st := by
  cases n with
  | st x => exact h
  | _ => exact Or.inr (h.resolve_left (by simp [isDeadNext]))

theorem link_rune (c : Choice) (s : PState) (acc acc' : Acc) (r : Nat)
    (hrun : run .code St.init acc.ls = some acc.st) (hL : Link s acc.st) (hg : GoodViews acc)
    (hd : driveRune handTable c s acc r = some acc') :
    GoodViews acc' ∧ run .code St.init acc'.ls = some acc'.st ∧ Link (pstep s (.rune r)).st acc'.st := by
  have hchk := linkCheck_all s.state r
  simp only [linkCheck] at hchk
  simp only [driveRune, handTable] at hd
  split at hchk
  · cases hchk
  rename_i f1 hl1
  split at hd
  · cases hd
  rename_i acc1 hd1
  obtain ⟨g1, r1, a1⟩ := link_fn c handAnywhere r s acc acc1 _ f1 hrun
    (fun h => hL.resolve_left (by simpa using h)) hg hl1 hd1
  refine ParserRow.step_cases handTable s (.rune r)
    (motive := fun o => GoodViews acc' ∧ run .code St.init acc'.ls = some acc'.st ∧ Link o.st acc'.st)
    (fun s1 o1 n e1 hn => ?_) (fun s1 o1 s2 o2 n2 e1 e2 => ?_)
  · simp only [handTable] at e1
    rw [e1] at hd a1
    cases n with
    | dispatch => exact absurd rfl hn
    | _ =>
      cases hd
      refine ⟨g1, r1, link_finish _ _ _ _ ?_⟩
      rcases a1 with ⟨h1, h2⟩ | h
      · rw [← h2] at hchk; cases f1 <;> simp_all
      · exact Or.inl h
  · simp only [handTable] at e1 e2
    have hs1 := VaxisModel.Lemmas.ParserStepBasic.runFn_state handAnywhere (.rune r) s
    rw [e1] at hd a1 hs1
    simp only at hd a1 hs1
    rw [hs1] at hd
    have hleft := a1.resolve_right (by simp [isDeadNext])
    rw [← hleft.2] at hchk
    simp only at hchk
    split at hchk
    · cases hchk
    rename_i f2 hl2
    obtain ⟨g2, r2, a2⟩ := link_fn c (handFn s.state) r s1 acc1 acc' f1 f2 r1 hleft.1 g1 hl2 hd
    rw [e2] at a2
    refine ⟨g2, r2, link_finish _ _ _ _ ?_⟩
    rcases a2 with ⟨h1, h2⟩ | h
    · rw [← h2] at hchk; cases f2 <;> simp_all
    · exact Or.inl h

theorem finish_contents (st st' : St) (k : Nat) (h : Model.ParserPools.step .code st (.finish k) = some st') :
    contents st' = contents st := by
  cases step_rel h with
  | finish => rfl

structure DInv (d : DSt) : Prop where
  isRun : run .code St.init d.trace = some d.pool
  link : Link d.ps d.pool
  good : GoodViews d.acc

theorem DInv_init : DInv DSt.init := ⟨rfl, Or.inl rfl, by intro v hv; cases hv⟩

theorem dstep_inv (d d' : DSt) (l : DLabel) (hinv : DInv d) (h : dstep handTable d l = some d') : DInv d' := by
  cases l with
  | rune r c =>
    simp only [dstep] at h
    cases hd : driveRune handTable c d.ps d.acc r with
    | none => rw [hd] at h; cases h
    | some acc' =>
      rw [hd] at h
      cases h
      obtain ⟨g, r', l⟩ := link_rune c d.ps d.acc acc' r hinv.isRun hinv.link hinv.good hd
      exact ⟨r', l, g⟩
  | finish k =>
    simp only [dstep] at h
    cases hs : Model.ParserPools.step .code d.acc.st (.finish k) with
    | none => rw [hs] at h; cases h; exact hinv
    | some st' =>
      rw [hs] at h
      cases h
      refine ⟨run_snoc St.init d.pool st' d.trace _ hinv.isRun hs, ?_, hinv.good⟩
      rcases hinv.link with h | h
      · exact Or.inl h
      · exact Or.inr (by rw [finish_contents d.acc.st st' k hs]; exact h)

theorem drun_inv (ls : List DLabel) (d d' : DSt) (hinv : DInv d) (h : drun handTable d ls = some d') : DInv d' :=
  VaxisModel.Lemmas.Run.IsRun.preserves (next := dstep handTable) (run := drun handTable)
    ⟨fun _ => rfl, fun d l ls => by simp only [drun]; cases dstep handTable d l <;> rfl⟩
    (fun d d1 l hi hs => dstep_inv d d1 l hi hs) hinv h

end VaxisModel.Lemmas.ParserPoolsLink
