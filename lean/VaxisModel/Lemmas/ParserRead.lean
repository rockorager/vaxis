/-
C02: the run loop over arbitrary byte streams (Model/ParserIO.lean `runLoop`) equals, modulo
merging adjacent Prints, the automaton run over the units of the stream (`runRunes`): the reads,
bufio and the look-ahead of `print` disappear.
-/
import VaxisModel.Lemmas.ParserTextU
import VaxisModel.Lemmas.ParserOut
import VaxisModel.Lemmas.ParserStepBasic

namespace VaxisModel.Lemmas.ParserRead
open VaxisModel.Model.ParserTable VaxisModel.Model.Parser VaxisModel.Model.ParserIO VaxisModel.Model.ParserUtf8
open VaxisModel.Lemmas.Parser VaxisModel.Lemmas.ParserText VaxisModel.Lemmas.ParserUtf8 VaxisModel.Lemmas.ParserTextU
open VaxisModel.Lemmas.ParserStepBasic VaxisModel.Lemmas.ParserRow

def isPrint : Seq → Bool
  | .print _ => true
  | _ => false

theorem applyAct_noprint (a : Act) (ha : a ≠ .print) (r : Nat) (s : PState) :
    ∀ x ∈ (applyAct a r s).2, isPrint x = false := by
  intro x hx
  rcases VaxisModel.Lemmas.ParserOut.applyAct_out a r s x hx with ⟨h, _⟩ | ⟨_, rfl⟩ | ⟨h, _⟩
  · exact absurd h ha
  · rfl
  · cases x <;> first | rfl | exact absurd rfl (h _)

theorem nonground_noprint (st : StateId) (hst : st ≠ .ground) (i : Inp) :
    Act.print ∉ ((handFn st).row i).1 := by
  cases st <;> first
    | (exact absurd rfl hst)
    | (exact StateFn.not_mem_row _ _ (by decide) _)

theorem ground_c0_noprint (c : Nat) (hc : c < 0x20) : Act.print ∉ (jointRow handTable .ground (.rune c)).1 := by
  have : ∀ c ∈ List.range 0x20, Act.print ∉ (jointRow handTable .ground (.rune c)).1 := by decide +kernel
  exact this c (List.mem_range.mpr hc)

theorem print_only_ground (s : PState) (r : Nat) (x : Seq) (hx : x ∈ (pstep s (.rune r)).out)
    (hp : isPrint x = true) : s.state = .ground ∧ 0x20 ≤ r ∧ pstep s (.rune r) = ⟨s, [.print r], false⟩ := by
  by_cases hg : s.state = .ground ∧ 0x20 ≤ r
  · exact ⟨hg.1, hg.2, ground_print s hg.1 r hg.2⟩
  · exfalso
    have hnp : Act.print ∉ (jointRow handTable s.state (.rune r)).1 := by
      by_cases hs : s.state = .ground
      · rw [hs]; exact ground_c0_noprint r (Nat.lt_of_not_le fun h => hg ⟨hs, h⟩)
      · intro h
        rcases mem_jointRow h with h | h
        · exact StateFn.not_mem_row handAnywhere _ (by decide) _ h
        · exact nonground_noprint s.state hs _ h
    rw [pstep_eq_runRow] at hx
    have := VaxisModel.Lemmas.ParserOut.runRow_forall (fun x => isPrint x = false) rfl _ (.rune r) s
      (fun a ha => applyAct_noprint a (fun h => hnp (h ▸ ha))) x hx
    rw [hp] at this
    cases this

theorem deliver_noprint (cl : Nat → Nat) (start : Nat) (out : List Seq) (rd : Rd)
    (h : ∀ x ∈ out, isPrint x = false) : deliver cl start out rd = (out.map .seq, rd) := by
  induction out with
  | nil => rfl
  | cons x rest ih =>
    have hx := h x (by simp)
    have ih' := ih (fun y hy => h y (by simp [hy]))
    cases x <;> first | (simp [isPrint] at hx; done) | simp [deliver, ih']

@[simp] theorem flat_map_seq (l : List Seq) : flat (l.map .seq) = l := by
  induction l with
  | nil => rfl
  | cons x rest ih => simp [flat, ih]

theorem flat_append (a b : List Item) : flat (a ++ b) = flat a ++ flat b := by
  induction a with
  | nil => rfl
  | cons x rest ih => cases x <;> simp [flat, ih]

theorem absRun_ge (us rest : List U) (h : us.length ≤ absRun (us ++ rest)) : ∀ u ∈ us, absorbable u = true := by
  induction us with
  | nil => simp
  | cons u us ih =>
    simp only [List.cons_append, absRun, List.length_cons] at h
    by_cases hu : absorbable u = true
    · simp only [hu, if_true] at h
      intro v hv
      rcases List.mem_cons.mp hv with rfl | hv
      · exact hu
      · exact ih (by omega) v hv
    · simp only [hu, Bool.false_eq_true, if_false] at h
      omega

theorem Respects_append (cl : Nat → Nat) (pos : Nat) (us rest : List U) (h : Respects cl pos (us ++ rest)) :
    Respects cl (pos + ulen us) rest := by
  induction us generalizing pos with
  | nil => simpa [ulen] using h
  | cons u us ih =>
    simp only [List.cons_append, Respects] at h
    have := ih _ h.2
    simpa [ulen, Nat.add_assoc] using this

theorem _root_.VaxisModel.Lemmas.ParserTextU.Adv.respects {rd rd' : Rd} {us : List U} (a : Adv rd us rd') {cl : Nat → Nat}
    (h : Respects cl rd.pos (units (bytesOf rd))) : Respects cl rd'.pos (units (bytesOf rd')) := by
  rw [a.units] at h
  rw [a.pos]
  exact Respects_append cl _ us _ h

theorem runRunes_ground_text (s : PState) (hs : s.state = .ground) (w rest : List Nat) (hw : ∀ b ∈ w, 0x20 ≤ b) :
    runRunes handTable s (w ++ rest) = w.map .print ++ runRunes handTable s rest := by
  induction w with
  | nil => rfl
  | cons b w ih =>
    have hp := ground_print s hs b (hw b (by simp))
    simp only [pstep] at hp
    simp only [List.cons_append, runRunes, hp, Bool.false_eq_true, if_false, List.map_cons]
    rw [ih (fun b' hb' => hw b' (by simp [hb']))]
    simp

/-- One turn of the run loop: at the end of the stream the end-of-input step and `EOF{}`; otherwise the first unit of what is
    to come is read (raw-byte fallback) and either it is printed — from ground, with the units `us` the look-ahead takes, which
    are valid, within the oracle's cluster, and fewer only at an empty buffer or in front of an invalid byte — or the items of
    its step are delivered as they are. -/
theorem runLoop_turn {motive : List Item → Prop} (cl : Nat → Nat) (n : Nat) (s : PState) (rd : Rd)
    (eof : bytesOf rd = [] → motive ((pstep s .eof).out.map .seq ++ [.seq .eof]))
    (print : ∀ b t us rd2, bytesOf rd = b :: t → s.state = .ground → 0x20 ≤ (unit1 (b :: t)).raw →
      Adv rd (unit1 (b :: t) :: us) rd2 → (∀ u ∈ us, u.inv = false) → 1 + us.length ≤ max 1 (cl rd.pos) →
      (1 + us.length = max 1 (cl rd.pos) ∨ rd2.buf = [] ∨ ∃ u rest, units (bytesOf rd2) = u :: rest ∧ u.inv = true) →
      motive (.print ((unit1 (b :: t)).raw :: us.map U.raw) :: runLoop handTable cl n s rd2))
    (other : ∀ b t rd1, bytesOf rd = b :: t → Adv rd [unit1 (b :: t)] rd1 →
      (∀ x ∈ (pstep s (.rune (unit1 (b :: t)).raw)).out, isPrint x = false) →
      motive (if (pstep s (.rune (unit1 (b :: t)).raw)).stop then (pstep s (.rune (unit1 (b :: t)).raw)).out.map .seq ++ [.seq .eof]
        else (pstep s (.rune (unit1 (b :: t)).raw)).out.map .seq ++
          runLoop handTable cl n (pstep s (.rune (unit1 (b :: t)).raw)).st rd1)) :
    motive (runLoop handTable cl (n + 1) s rd) := by
  obtain ⟨hnil, hcons⟩ := readRune_spec rd
  simp only [runLoop]
  cases hbytes : bytesOf rd with
  | nil =>
    have h1 := hnil hbytes
    generalize readRune rd = rr at h1
    obtain ⟨ro, rd1⟩ := rr
    subst h1
    exact eof hbytes
  | cons b t =>
    obtain ⟨h1, a1⟩ := hcons b t hbytes
    generalize readRune rd = rr at h1 a1
    obtain ⟨ro, rd1⟩ := rr
    simp only at h1 a1
    subst h1
    dsimp only
    by_cases hpr : ∃ x ∈ (pstep s (.rune (unit1 (b :: t)).raw)).out, isPrint x = true
    · obtain ⟨x, hx, hxp⟩ := hpr
      obtain ⟨hg, hr20, hp⟩ := print_only_ground s _ x hx hxp
      simp only [pstep] at hp
      simp only [hp, deliver, Bool.false_eq_true, if_false]
      generalize hpl : printLoop (max 1 (cl rd.pos)) (rd1.remaining + 1) rd1 [(unit1 (b :: t)).raw] = pl
      obtain ⟨g, rd2⟩ := pl
      obtain ⟨us, g1, a2, hval, hle, hstop⟩ := print_ahead hpl
      rw [g1]
      exact print b t us rd2 hbytes hg hr20 (a1.trans a2) hval hle hstop
    · have hnp : ∀ x ∈ (pstep s (.rune (unit1 (b :: t)).raw)).out, isPrint x = false := by
        intro x hx
        cases hxp : isPrint x with
        | false => rfl
        | true => exact absurd ⟨x, hx, hxp⟩ hpr
      rw [deliver_noprint cl rd.pos (step handTable s (.rune (unit1 (b :: t)).raw)).out rd1 hnp]
      exact other b t rd1 hbytes a1 hnp

/-- **The reads disappear.**  For every byte stream still to come, every way it is split into reads
    and every cluster oracle that respects the stream, the items the run loop delivers are — once
    every Print is split into its runes — exactly what the automaton delivers for the units of the
    stream read one by one (`readRune`'s raw-byte fallback on every unit), then end of input. -/
theorem runLoop_flat (cl : Nat → Nat) (fuel : Nat) (s : PState) (rd : Rd)
    (hR : Respects cl rd.pos (units (bytesOf rd))) (hf : (bytesOf rd).length + 1 ≤ fuel) :
    flat (runLoop handTable cl fuel s rd) = runRunes handTable s ((units (bytesOf rd)).map U.raw) := by
  induction fuel generalizing s rd with
  | zero => omega
  | succ n ih =>
    refine runLoop_turn (motive := fun r => flat r = runRunes handTable s ((units (bytesOf rd)).map U.raw)) cl n s rd (fun hb => ?_)
      (fun b t us rd2 hb hg hr20 a hval hle _ => ?_) (fun b t rd1 hb a1 hnp => ?_)
    · rw [hb]; simp [flat_append, flat, runRunes, pstep]
    · have hs1 := (unit1_sz b t).1
      have hR1 := hR
      rw [a.units, List.cons_append] at hR1 ⊢
      -- the units taken by the look-ahead are not C0 controls (oracle) and are valid (the loop itself)
      have hraw : ∀ r ∈ us.map U.raw, 0x20 ≤ r := by
        intro r hr
        obtain ⟨u, hu, rfl⟩ := List.mem_map.mp hr
        have := absRun_ge us (units (bytesOf rd2)) (by have := hR1.1; omega) u hu
        simpa only [absorbable, hval u hu, Bool.false_or, decide_eq_true_eq] using this
      have hlen := a.length
      simp only [ulen_cons] at hlen
      have hp := ground_print s hg _ hr20
      simp only [pstep] at hp
      simp only [flat, List.map_cons, runRunes, hp, Bool.false_eq_true, if_false, List.map_append,
        ih s rd2 (a.respects hR) (by omega)]
      rw [runRunes_ground_text s hg _ _ hraw]
      simp
    · have hs1 := (unit1_sz b t).1
      have hlen := a1.length
      simp only [ulen_cons, ulen_nil] at hlen
      rw [a1.units]
      simp only [List.singleton_append, List.map_cons, runRunes, pstep]
      by_cases hstop : (step handTable s (.rune (unit1 (b :: t)).raw)).stop = true
      · simp [hstop, flat_append, flat]
      · simp only [hstop, Bool.false_eq_true, if_false, flat_append, flat_map_seq]
        congr 1
        exact ih _ rd1 (a1.respects hR) (by omega)

theorem runLoop_table_congr (T U : Table) (h : ∀ s i, step T s i = step U s i) (cl : Nat → Nat) (fuel : Nat)
    (s : PState) (rd : Rd) : runLoop T cl fuel s rd = runLoop U cl fuel s rd := by
  induction fuel generalizing s rd with
  | zero => rfl
  | succ n ih => simp only [runLoop, h, ih]

theorem runRunes_table_congr (T U : Table) (h : ∀ s i, step T s i = step U s i) (s : PState) (w : List Nat) :
    runRunes T s w = runRunes U s w := by
  induction w generalizing s with
  | nil => simp only [runRunes, h]
  | cons r w ih => simp only [runRunes, h, ih]

theorem flatten_filter_nonempty (chunks : List (List Nat)) :
    (chunks.filter (!·.isEmpty)).flatten = chunks.flatten := by
  induction chunks with
  | nil => rfl
  | cons c cs ih =>
    cases c with
    | nil => simpa [List.filter] using ih
    | cons b r => simp [List.filter, ih]

theorem runChunks_flat (cl : Nat → Nat) (chunks : List (List Nat))
    (hR : Respects cl 0 (units chunks.flatten)) :
    flat (runChunks handTable cl chunks) = runRunes handTable PState.init (decodeRunes chunks.flatten) := by
  unfold runChunks
  have hb : bytesOf { buf := [], chunks := chunks.filter (!·.isEmpty) } = chunks.flatten := by
    simp [bytesOf, flatten_filter_nonempty]
  have := runLoop_flat cl (({ buf := [], chunks := chunks.filter (!·.isEmpty) } : Rd).remaining + 2) PState.init
    { buf := [], chunks := chunks.filter (!·.isEmpty) } (by rw [hb]; exact hR) (by rw [remaining_eq]; omega)
  rw [this, hb]
  rfl

theorem respects_const_one (pos : Nat) (us : List U) : Respects (fun _ => 1) pos us := by
  induction us generalizing pos with
  | nil => trivial
  | cons u us ih => exact ⟨by show 1 ≤ 1 + absRun us; omega, ih _⟩

theorem unit1_raw_ge (b : Nat) (t : List Nat) (hb : 0x20 ≤ b) : 0x20 ≤ (unit1 (b :: t)).raw := by
  by_cases hv : (decodeRune (b :: t)).1 = runeError ∧ (decodeRune (b :: t)).2 = 1
  · have : unit1 (b :: t) = ⟨b, true, 1⟩ := by simp [unit1, hv]
    rw [this]; exact hb
  · obtain ⟨_, h2⟩ := decodeRune_valid b t hv
    have hu : unit1 (b :: t) = ⟨(decodeRune (b :: t)).1, false, (decodeRune (b :: t)).2⟩ := by
      simp only [unit1, hv, if_false]
    rw [hu]
    show 0x20 ≤ (decodeRune (b :: t)).1
    have hsz := decodeRune_sz b t
    rcases Nat.lt_or_ge (decodeRune (b :: t)).1 0x20 with hlt | hge
    · exfalso
      have he : encodeRune (decodeRune (b :: t)).1 = [(decodeRune (b :: t)).1] := by
        unfold encodeRune
        rw [if_pos (by omega)]
      rw [he] at h2
      obtain ⟨k, hk⟩ : ∃ k, (decodeRune (b :: t)).2 = k + 1 := ⟨(decodeRune (b :: t)).2 - 1, by omega⟩
      rw [hk, List.take_succ_cons] at h2
      have h3 := (List.cons.inj h2).1
      rw [h3] at hlt
      omega
    · exact hge

theorem units_raw_ge (bs : List Nat) (h : ∀ b ∈ bs, 0x20 ≤ b) : ∀ u ∈ units bs, 0x20 ≤ u.raw := by
  induction hn : bs.length using Nat.strongRecOn generalizing bs with
  | _ n ih =>
    cases bs with
    | nil => simp
    | cons b t =>
      have hs := unit1_sz b t
      rw [units_cons]
      have hlen : ((b :: t).drop (unit1 (b :: t)).sz).length < n := by
        rw [← hn]; simp only [List.length_drop, List.length_cons]; omega
      have i := ih _ hlen _ (fun x hx => h x (List.mem_of_mem_drop hx)) rfl
      intro u hu
      rcases List.mem_cons.mp hu with rfl | hu
      · exact unit1_raw_ge b t (h b (by simp))
      · exact i u hu

theorem runRunes_text (s : PState) (hs : s.state = .ground) (he : s.exit = none) (w : List Nat)
    (hw : ∀ r ∈ w, 0x20 ≤ r) : runRunes handTable s w = w.map .print ++ [.eof] := by
  have := runRunes_ground_text s hs w [] hw
  rw [List.append_nil] at this
  rw [this]
  have hq := pstep_eof_quiet s he
  simp only [pstep] at hq
  simp [runRunes, hq]

def InvRd (chunks0 : List (List Nat)) (rd : Rd) : Prop :=
  rd.pos + (bytesOf rd).length = chunks0.flatten.length ∧ ∃ k, rd.chunks = chunks0.drop k

theorem InvRd.cut {chunks0 : List (List Nat)} {rd : Rd} (h : InvRd chunks0 rd) (hb : rd.buf = []) :
    IsCut chunks0 rd.pos := by
  obtain ⟨h1, k, h2⟩ := h
  refine ⟨k, ?_⟩
  have hsplit : chunks0.flatten.length = (chunks0.take k).flatten.length + (chunks0.drop k).flatten.length := by
    rw [← List.length_append, ← List.flatten_append, List.take_append_drop]
  simp only [bytesOf, hb, h2, List.nil_append] at h1
  omega

theorem _root_.VaxisModel.Lemmas.ParserTextU.Adv.invRd {rd rd' : Rd} {us : List U} (a : Adv rd us rd')
    {chunks0 : List (List Nat)} (h : InvRd chunks0 rd) : InvRd chunks0 rd' := by
  obtain ⟨h1, k, h2⟩ := h
  obtain ⟨k', h3⟩ := a.chunks
  have := a.length
  exact ⟨by rw [a.pos]; omega, k + k', by rw [h3, h2, List.drop_drop]⟩

theorem startsInvalid_of_flatten (cl : Nat → Nat) (cut : Nat → Prop) (pos : Nat) (blocks : List (List U)) (u : U)
    (rest : List U) (hB : BlocksOk cl cut pos blocks) (hf : blocks.flatten = u :: rest) (hu : u.inv = true) :
    startsInvalid blocks := by
  cases blocks with
  | nil => simp at hf
  | cons b bs =>
    cases b with
    | nil => exact absurd rfl hB.1
    | cons u0 t0 =>
      simp only [List.flatten_cons, List.cons_append, List.cons.injEq] at hf
      show u0.inv = true
      rw [hf.1]; exact hu

/-- **Text as blocks.**  On a stream of bytes ≥ 0x20, whatever the reads and the oracle (no
    hypothesis on it): the items are Prints then `EOF{}`; the Prints are consecutive blocks of the
    units of the stream (`render`: every unit as its own rune; only the first unit of a block can be
    an invalid byte); each block is one cluster of the oracle — or shorter, and then it ends exactly
    at a read boundary or in front of an invalid byte. -/
theorem runLoop_blocks (cl : Nat → Nat) (chunks0 : List (List Nat)) (fuel : Nat) (s : PState)
    (hs : s.state = .ground) (he : s.exit = none) (rd : Rd) (htext : ∀ b ∈ bytesOf rd, 0x20 ≤ b)
    (hinv : InvRd chunks0 rd) (hf : (bytesOf rd).length + 1 ≤ fuel) :
    ∃ blocks : List (List U),
      runLoop handTable cl fuel s rd = blocks.map (fun b => Item.print (render b)) ++ [.seq .eof] ∧
      blocks.flatten = units (bytesOf rd) ∧ BlocksOk cl (IsCut chunks0) rd.pos blocks := by
  induction fuel generalizing rd with
  | zero => omega
  | succ n ih =>
    refine runLoop_turn (motive := fun r => ∃ blocks : List (List U), r = blocks.map (fun b => Item.print (render b)) ++ [.seq .eof] ∧
        blocks.flatten = units (bytesOf rd) ∧ BlocksOk cl (IsCut chunks0) rd.pos blocks) cl n s rd (fun hb => ?_)
      (fun b t us rd2 hb _ _ a hval hle hstop => ?_) (fun b t rd1 hb _ hnp => ?_)
    · exact ⟨[], by simp [pstep_eof_quiet s he], by simp [hb], trivial⟩
    · have hs1 := (unit1_sz b t).1
      have hlen := a.length
      simp only [ulen_cons] at hlen
      have hinv2 := a.invRd hinv
      obtain ⟨blocks, j1, j2, j3⟩ := ih rd2 (fun x hx => htext x (a.mem hx)) hinv2 (by omega)
      refine ⟨(unit1 (b :: t) :: us) :: blocks, by simp [j1, render], by rw [List.flatten_cons, j2, a.units], ?_⟩
      refine ⟨by simp, by simpa using hval, by simpa [Nat.add_comm] using hle, ?_, by rw [← a.pos]; exact j3⟩
      rcases hstop with h | h | ⟨u, rest, h, hu⟩
      · left; simp only [List.length_cons]; omega
      · right; left; rw [← a.pos]; exact hinv2.cut h
      · right; right
        rw [h] at j2
        exact startsInvalid_of_flatten cl _ _ blocks u rest j3 j2 hu
    · -- on text from ground every unit is printed
      have hp := ground_print s hs _ (unit1_raw_ge b t (htext b (by rw [hb]; simp)))
      exact absurd (hnp (.print (unit1 (b :: t)).raw) (by rw [hp]; simp)) (by simp [isPrint])

theorem flat_blocks (blocks : List (List U)) :
    flat (blocks.map (fun b => Item.print (render b)) ++ [.seq .eof]) =
      (blocks.flatten.map U.raw).map Seq.print ++ [.eof] := by
  induction blocks with
  | nil => rfl
  | cons b rest ih =>
    simp only [List.map_cons, List.cons_append, flat, List.flatten_cons, List.map_append,
      List.append_assoc]
    rw [ih]; rfl

theorem take_filter_nonempty (cs : List (List Nat)) (k : Nat) :
    ∃ k', ((cs.filter (!·.isEmpty)).take k).flatten = (cs.take k').flatten := by
  induction cs generalizing k with
  | nil => exact ⟨0, by simp⟩
  | cons c rest ih =>
    cases c with
    | nil =>
      obtain ⟨k', hk⟩ := ih k
      exact ⟨k' + 1, by simpa [List.filter] using hk⟩
    | cons b r =>
      cases k with
      | zero => exact ⟨0, by simp⟩
      | succ j =>
        obtain ⟨k', hk⟩ := ih j
        exact ⟨k' + 1, by simp [List.filter, hk]⟩

theorem IsCut_of_filter (cs : List (List Nat)) (n : Nat) (h : IsCut (cs.filter (!·.isEmpty)) n) : IsCut cs n := by
  obtain ⟨k, hk⟩ := h
  obtain ⟨k', hk'⟩ := take_filter_nonempty cs k
  exact ⟨k', by rw [hk, hk']⟩

theorem BlocksOk_mono (cl : Nat → Nat) (P Q : Nat → Prop) (hPQ : ∀ n, P n → Q n) (pos : Nat) (bl : List (List U))
    (h : BlocksOk cl P pos bl) : BlocksOk cl Q pos bl := by
  induction bl generalizing pos with
  | nil => trivial
  | cons b rest ih =>
    obtain ⟨h1, h2, h3, h4, h5⟩ := h
    exact ⟨h1, h2, h3, h4.imp id (Or.imp (hPQ _) id), ih _ h5⟩

theorem BlocksOk_ne_nil (cl : Nat → Nat) (P : Nat → Prop) (pos : Nat) (bl : List (List U))
    (h : BlocksOk cl P pos bl) : ∀ b ∈ bl, b ≠ [] := by
  induction bl generalizing pos with
  | nil => exact fun _ hb => nomatch hb
  | cons b rest ih =>
    intro b' hb'
    rcases List.mem_cons.mp hb' with rfl | hb'
    · exact h.1
    · exact ih _ h.2.2.2.2 b' hb'

theorem runChunks_blocks (cl : Nat → Nat) (chunks : List (List Nat)) (htext : ∀ b ∈ chunks.flatten, 0x20 ≤ b) :
    ∃ blocks : List (List U),
      runChunks handTable cl chunks = blocks.map (fun b => Item.print (render b)) ++ [.seq .eof] ∧
      blocks.flatten = units chunks.flatten ∧ BlocksOk cl (IsCut chunks) 0 blocks := by
  unfold runChunks
  have hb : bytesOf { buf := [], chunks := chunks.filter (!·.isEmpty) } = chunks.flatten := by
    simp [bytesOf, flatten_filter_nonempty]
  obtain ⟨blocks, h1, h2, h3⟩ := runLoop_blocks cl (chunks.filter (!·.isEmpty))
    (({ buf := [], chunks := chunks.filter (!·.isEmpty) } : Rd).remaining + 2) PState.init rfl rfl
    { buf := [], chunks := chunks.filter (!·.isEmpty) } (by rw [hb]; exact htext)
    ⟨by rw [hb]; simp [flatten_filter_nonempty], ⟨0, by simp⟩⟩ (by rw [remaining_eq]; omega)
  exact ⟨blocks, h1, by rw [h2, hb], BlocksOk_mono cl _ _ (IsCut_of_filter chunks) _ _ h3⟩

end VaxisModel.Lemmas.ParserRead
