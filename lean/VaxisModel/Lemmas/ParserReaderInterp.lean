/-
C02: when the interpreter of the `readRune` / `print` skeletons (Model/ParserReaderInterp.lean)
computes the model functions `ParserIO.readRune` / `ParserIO.printLoop`, and the width of a Print —
stated as semantic conditions on a body, not for a particular statement list (no hand copy of the
skeletons: `Props/C02Text.lean` evaluates the interpreter on the regenerated bodies).
-/
import VaxisModel.Model.ParserReaderInterp
import VaxisModel.Lemmas.ParserTextU

namespace VaxisModel.Lemmas.ParserReaderInterp
open VaxisModel.Model.Parser VaxisModel.Model.ParserIO VaxisModel.Model.ParserReaderSk
open VaxisModel.Model.ParserReaderInterp VaxisModel.Lemmas.ParserTextU

theorem readRuneB_nil (b : BR) (h : b.rd.fill.buf = []) : readRuneB b = ((0, 0, true), ⟨b.rd.fill, none⟩) := by
  simp only [readRuneB, h]

theorem readRuneB_cons (b : BR) (b0 : Nat) (t : List Nat) (h : b.rd.fill.buf = b0 :: t) :
    readRuneB b = (((decodeRune (b0 :: t)).1, (decodeRune (b0 :: t)).2, false),
      ⟨b.rd.fill.consume (decodeRune (b0 :: t)).2, some b.rd.fill⟩) := by
  simp only [readRuneB, h]

theorem fill_buf_ne (rd : Rd) (h : rd.buf.isEmpty = false) : rd.fill.buf ≠ [] := by
  obtain ⟨x, hx⟩ := (fill_spec rd).buf
  rw [hx]
  cases hb : rd.buf with
  | nil => rw [hb] at h; simp at h
  | cons a t => simp

/-- What the statements in front of the loop must establish: builder and grapheme hold `r`, no
    width yet, the reader untouched. -/
def PreOk (pre : List RStmt) : Prop :=
  ∀ (r : Rune) (rd : Rd), ∃ st1, prePhase r pre { b := ⟨rd, none⟩ } = some st1 ∧
    st1.b.rd = rd ∧ st1.bldr = [r] ∧ st1.grapheme = [r] ∧ st1.w = 0

/-- What one pass through the loop body must do, started with a non-empty (filled) buffer
    `b0 :: t`, the builder holding the grapheme so far and that grapheme within the cluster length:
    an invalid byte ahead ⇒ `break`, reader at the filled buffer, grapheme and width untouched;
    the next rune would exceed the cluster ⇒ `break`, reader at the filled buffer, grapheme unchanged,
    width = the one reported for it; else the rune is consumed and appended, no `break`. -/
def LoopPass (cl : Nat) (wd : List Rune → Nat) (loop : List RStmt) : Prop :=
  ∀ (st : PR) (b0 : Nat) (t : List Nat), st.b.rd.fill.buf = b0 :: t → st.bldr = st.grapheme →
    st.grapheme.length ≤ cl →
    ∃ st' brk, loopBody cl wd loop st = some (st', brk) ∧
      if (decodeRune (b0 :: t)).1 = runeError ∧ (decodeRune (b0 :: t)).2 = 1 then
        brk = true ∧ st'.grapheme = st.grapheme ∧ st'.b.rd = st.b.rd.fill ∧ st'.w = st.w
      else if st.grapheme.length + 1 > cl then
        brk = true ∧ st'.grapheme = st.grapheme ∧ st'.b.rd = st.b.rd.fill ∧ st'.w = wd st.grapheme
      else
        brk = false ∧ st'.grapheme = st.grapheme ++ [(decodeRune (b0 :: t)).1] ∧ st'.bldr = st'.grapheme ∧
          st'.b.rd = st.b.rd.fill.consume (decodeRune (b0 :: t)).2 ∧ st'.w = wd st'.grapheme

/-- What the statements after the loop must do: emit the grapheme with the width, re-measured with
    `StringWidth` when it is 0; the reader as the loop left it. -/
def PostOk (sw : List Rune → Nat) (post : List RStmt) : Prop :=
  ∀ st : PR, postPhase sw post st = some (st.grapheme, (if st.w = 0 then sw st.grapheme else st.w), st.b.rd)

/-- **A look-ahead loop whose body does `LoopPass` is `printLoop`**; and the width it leaves is the
    one `FirstGraphemeClusterInString` reported for the grapheme it leaves — or it has not changed
    anything (no iteration reached the cluster call). -/
theorem whileBuffered_sem (cl : Nat) (wd : List Rune → Nat) (loop : List RStmt) (hl : LoopPass cl wd loop)
    (fuel : Nat) (st : PR) (hacc : st.bldr = st.grapheme) (hlen : st.grapheme.length ≤ cl) :
    ∃ st', whileBuffered cl wd loop fuel st = some st' ∧
      (st'.grapheme, st'.b.rd) = printLoop cl fuel st.b.rd st.grapheme ∧
      ((st'.w = st.w ∧ st'.grapheme = st.grapheme) ∨ st'.w = wd st'.grapheme) := by
  induction fuel generalizing st with
  | zero => exact ⟨st, rfl, rfl, Or.inl ⟨rfl, rfl⟩⟩
  | succ n ih =>
    by_cases he : st.b.rd.buf.isEmpty = true
    · refine ⟨st, by simp [whileBuffered, he], by simp [printLoop, he], Or.inl ⟨rfl, rfl⟩⟩
    · have he' : st.b.rd.buf.isEmpty = false := by simpa using he
      have hne := fill_buf_ne st.b.rd he'
      cases hfb : st.b.rd.fill.buf with
      | nil => exact absurd hfb hne
      | cons b0 t =>
        obtain ⟨st1, brk, hp, hcase⟩ := hl st b0 t hfb hacc hlen
        simp only [whileBuffered, he', Bool.false_eq_true, if_false, hp, printLoop, hfb, lookahead_flag, Bool.true_and]
        by_cases hinv : (decodeRune (b0 :: t)).1 = runeError ∧ (decodeRune (b0 :: t)).2 = 1
        · rw [if_pos hinv] at hcase
          obtain ⟨rfl, h1, h2, h3⟩ := hcase
          have hinv' : (decide ((decodeRune (b0 :: t)).1 = runeError) && decide ((decodeRune (b0 :: t)).2 = 1)) = true := by
            simp [hinv.1, hinv.2]
          simp only [hinv', if_true]
          exact ⟨st1, rfl, by rw [h1, h2], Or.inl ⟨h3, h1⟩⟩
        · rw [if_neg hinv] at hcase
          have hinv' : (decide ((decodeRune (b0 :: t)).1 = runeError) && decide ((decodeRune (b0 :: t)).2 = 1)) = false := by
            simpa using hinv
          simp only [hinv', Bool.false_eq_true, if_false]
          by_cases hcl : st.grapheme.length + 1 > cl
          · rw [if_pos hcl] at hcase
            obtain ⟨rfl, h1, h2, h3⟩ := hcase
            simp only [hcl, if_true]
            exact ⟨st1, rfl, by rw [h1, h2], Or.inr (by rw [h3, h1])⟩
          · rw [if_neg hcl] at hcase
            obtain ⟨rfl, h1, h2, h3, h4⟩ := hcase
            simp only [hcl, if_false]
            obtain ⟨st', i1, i2, i3⟩ := ih st1 h2 (by rw [h1]; simp; omega)
            refine ⟨st', i1, by rw [i2, h3, h1], Or.inr ?_⟩
            rcases i3 with ⟨j1, j2⟩ | j
            · rw [j1, j2, h4]
            · exact j

/-- **`print`, from the semantics of its three parts**: the grapheme and the reader afterwards are
    the model's `printLoop` (started with the builder `[r]`), and the width is
    `FirstGraphemeClusterInString`'s for that grapheme, re-measured with `StringWidth` when it is 0
    (also when the loop never ran). -/
theorem interpPrint_sem (body : List RStmt) (cl : Nat) (hcl : 1 ≤ cl) (wd sw : List Rune → Nat)
    (hs : (splitWhile body).isNone = false) (hpre : PreOk (preOf body)) (hloop : LoopPass cl wd (loopOf body))
    (hpost : PostOk sw (postOf body)) (fuel : Nat) (r : Rune) (rd : Rd) :
    ∃ w, interpPrint cl wd sw fuel r body rd =
        some ((printLoop cl fuel rd [r]).1, w, (printLoop cl fuel rd [r]).2) ∧
      (w = sw (printLoop cl fuel rd [r]).1 ∨ (w = wd (printLoop cl fuel rd [r]).1 ∧ w ≠ 0)) := by
  obtain ⟨st1, p1, p2, p3, p4, p5⟩ := hpre r rd
  obtain ⟨st', h1, h2, h3⟩ := whileBuffered_sem cl wd (loopOf body) hloop fuel st1 (by rw [p3, p4])
    (by rw [p4]; simpa using hcl)
  rw [p2, p4] at h2
  have hg : st'.grapheme = (printLoop cl fuel rd [r]).1 := by
    have := congrArg Prod.fst h2; simpa using this
  have hr : st'.b.rd = (printLoop cl fuel rd [r]).2 := by
    have := congrArg Prod.snd h2; simpa using this
  simp only [interpPrint, hs, Bool.false_eq_true, if_false, p1, h1, hpost st']
  by_cases hw : st'.w = 0
  · simp only [hw, if_true]
    exact ⟨sw st'.grapheme, by rw [hg, hr], Or.inl (by rw [hg])⟩
  · simp only [hw, if_false]
    refine ⟨st'.w, by rw [hg, hr], ?_⟩
    rcases h3 with ⟨j1, _⟩ | j
    · exact absurd (j1.trans p5) hw
    · exact Or.inr ⟨by rw [j, hg], hw⟩

open VaxisModel.Model.ParserUtf8 VaxisModel.Lemmas.ParserUtf8 in
/-- A buffer that some extension completes to a well-formed encoding (DecodeRune consumes all of it,
    more than one byte) is a proper prefix of the encoding of a scalar value. -/
theorem proper_of_decode (bs ext : List Nat) (b0 : Nat) (t : List Nat) (hfull : bs ++ ext = b0 :: t) (hext : ext ≠ [])
    (hsz : (decodeRune (b0 :: t)).2 = (b0 :: t).length) (h1 : (decodeRune (b0 :: t)).2 ≠ 1) :
    ∃ r, IsScalar r ∧ bs <+: encodeRune r ∧ bs ≠ encodeRune r := by
  obtain ⟨hs, he⟩ := decodeRune_valid b0 t (fun h => h1 h.2)
  rw [hsz, List.take_length] at he
  refine ⟨_, hs, ⟨ext, by rw [he, hfull]⟩, ?_⟩
  rw [he, ← hfull]
  intro h
  have := congrArg List.length h
  simp at this
  exact hext this

open VaxisModel.Model.ParserUtf8 VaxisModel.Lemmas.ParserUtf8 in
theorem fullRune_false_proper (bs : List Nat) (h : fullRune bs = false) (hne : bs ≠ []) :
    ∃ r, IsScalar r ∧ bs <+: encodeRune r ∧ bs ≠ encodeRune r := by
  rcases bs with _ | ⟨b0, rest⟩
  · exact absurd rfl hne
  · simp only [fullRune] at h
    by_cases h0 : b0 < 0x80
    · simp [h0] at h
    · simp only [h0, if_false] at h
      cases hl : lead b0 with
      | none => simp [hl] at h
      | some x =>
        obtain ⟨sz, lo, hi⟩ := x
        have hls := lead_some hl
        simp only [hl] at h
        by_cases hlen : rest.length + 1 ≥ sz
        · simp [hlen] at h
        · simp only [hlen, if_false] at h
          have c80 : isCont 0x80 = true := by decide
          rcases rest with _ | ⟨b1, rest1⟩
          · -- only the lead byte
            simp only [List.length_nil] at hlen
            rcases hls.1 with rfl | rfl | rfl
            · have hd := decodeRune_wf2 b0 lo [] lo hi hl ⟨Nat.le_refl _, hls.2.2.2.1⟩
              exact proper_of_decode [b0] [lo] b0 [lo] rfl (by simp) (by rw [hd]; rfl) (by rw [hd]; simp)
            · have hd := decodeRune_wf3 b0 lo 0x80 [] lo hi hl ⟨Nat.le_refl _, hls.2.2.2.1⟩ c80
              exact proper_of_decode [b0] [lo, 0x80] b0 [lo, 0x80] rfl (by simp) (by rw [hd]; rfl) (by rw [hd]; simp)
            · have hd := decodeRune_wf4 b0 lo 0x80 0x80 [] lo hi hl ⟨Nat.le_refl _, hls.2.2.2.1⟩ c80 c80
              exact proper_of_decode [b0] [lo, 0x80, 0x80] b0 [lo, 0x80, 0x80] rfl (by simp) (by rw [hd]; rfl)
                (by rw [hd]; simp)
          · by_cases hb1 : b1 < lo ∨ hi < b1
            · simp [hb1] at h
            · simp only [hb1, if_false] at h
              have hb1' : lo ≤ b1 ∧ b1 ≤ hi := by omega
              rcases rest1 with _ | ⟨b2, rest2⟩
              · simp only [List.length_cons, List.length_nil] at hlen
                rcases hls.1 with rfl | rfl | rfl
                · omega
                · have hd := decodeRune_wf3 b0 b1 0x80 [] lo hi hl hb1' c80
                  exact proper_of_decode [b0, b1] [0x80] b0 [b1, 0x80] rfl (by simp) (by rw [hd]; rfl) (by rw [hd]; simp)
                · have hd := decodeRune_wf4 b0 b1 0x80 0x80 [] lo hi hl hb1' c80 c80
                  exact proper_of_decode [b0, b1] [0x80, 0x80] b0 [b1, 0x80, 0x80] rfl (by simp) (by rw [hd]; rfl)
                    (by rw [hd]; simp)
              · simp only [Bool.not_eq_eq_eq_not, Bool.not_false] at h
                simp only [List.length_cons] at hlen
                rcases hls.1 with rfl | rfl | rfl
                · omega
                · omega
                · have hr2 : rest2 = [] := by
                    rcases rest2 with _ | ⟨_, _⟩
                    · rfl
                    · simp only [List.length_cons] at hlen; omega
                  subst hr2
                  have hd := decodeRune_wf4 b0 b1 b2 0x80 [] lo hi hl hb1' h c80
                  exact proper_of_decode [b0, b1, b2] [0x80] b0 [b1, b2, 0x80] rfl (by simp) (by rw [hd]; rfl)
                    (by rw [hd]; simp)

open VaxisModel.Model.ParserUtf8 VaxisModel.Lemmas.ParserUtf8 in
theorem proper_fullRune_false (bs : List Nat) (hne : bs ≠ [])
    (h : ∃ r, IsScalar r ∧ bs <+: encodeRune r ∧ bs ≠ encodeRune r) : fullRune bs = false := by
  obtain ⟨r, hs, ⟨ext, he⟩, hneq⟩ := h
  cases hf : fullRune bs with
  | false => rfl
  | true =>
    exfalso
    have hst := decodeRune_stable bs ext (Or.inl hf)
    have hde := decodeRune_encode r hs []
    rw [List.append_nil, ← he, hst] at hde
    rcases bs with _ | ⟨b0, t⟩
    · exact hne rfl
    · have hsz := (decodeRune_sz b0 t).2.1
      rw [hde] at hsz
      simp only [List.length_append] at hsz
      have hext : ext = [] := by
        apply List.eq_nil_of_length_eq_zero; omega
      subst hext
      exact hneq (by rw [← he, List.append_nil])

def ReadOk (rbody : List RStmt) : Prop := ∀ rd, readRuneI rbody rd = some (readRune rd)
def PrintOk (pbody : List RStmt) : Prop := ∀ cl, 1 ≤ cl → ∀ fuel r rd, ∃ w,
  interpPrint cl (fun _ => 0) (fun _ => 0) fuel r pbody rd = some ((printLoop cl fuel rd [r]).1, w, (printLoop cl fuel rd [r]).2)

theorem deliverI_eq (pbody : List RStmt) (hp : PrintOk pbody) (cl : Nat → Nat) (start : Nat) (out : List Seq) (rd : Rd) :
    deliverI pbody cl start out rd = some (deliver cl start out rd) := by
  induction out generalizing rd with
  | nil => rfl
  | cons x rest ih =>
    cases x
    case print r =>
      obtain ⟨w, hw⟩ := hp (max 1 (cl start)) (by omega) (rd.remaining + 1) r rd
      simp only [deliverI, deliver, hw, ih]
    all_goals simp only [deliverI, deliver, ih]

theorem runLoopI_eq (rbody pbody : List RStmt) (hr : ReadOk rbody) (hp : PrintOk pbody) (T : Model.Parser.Table)
    (cl : Nat → Nat) (fuel : Nat) (s : PState) (rd : Rd) :
    runLoopI rbody pbody T cl fuel s rd = some (runLoop T cl fuel s rd) := by
  induction fuel generalizing s rd with
  | zero => rfl
  | succ n ih =>
    simp only [runLoopI, runLoop, hr rd]
    cases hrr : readRune rd with
    | mk ro rd1 =>
      cases ro with
      | none => rfl
      | some r =>
        simp only [deliverI_eq pbody hp]
        cases hd : deliver cl rd.pos (Model.Parser.step T s (.rune r)).out rd1 with
        | mk items rd2 =>
          simp only
          split
          · rfl
          · simp only [ih]

theorem runChunksI_eq (rbody pbody : List RStmt) (hr : ReadOk rbody) (hp : PrintOk pbody) (T : Model.Parser.Table)
    (cl : Nat → Nat) (chunks : List (List Nat)) :
    runChunksI rbody pbody T cl chunks = some (runChunks T cl chunks) := by
  simp only [runChunksI, runChunks]
  exact runLoopI_eq rbody pbody hr hp T cl _ _ _

end VaxisModel.Lemmas.ParserReaderInterp
