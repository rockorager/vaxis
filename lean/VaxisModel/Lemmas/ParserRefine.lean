/-
C02: whole-stream refinement  model ⊑ Spec.VT500  at the rune level.  The data part: a relation
`Dat` between the parser state and the reference machine, indexed by validity flags (`Fl`) that an
abstract interpreter (`absI`) pushes through the statement list of a row; the per-statement
simulation `sim_act`; the per-row simulation `sim_acts`.
-/
import VaxisModel.Lemmas.ParserAbs
import VaxisModel.Spec.VT500

namespace VaxisModel.Lemmas.ParserRefine
open VaxisModel.Model.ParserTable VaxisModel.Model.Parser
open VaxisModel.Lemmas.ParserConform VaxisModel.Lemmas.ParserAbs
open VaxisModel.Spec.VT500 (S A M)

/-- A Spec number as the Go code delivers it in a CSI: accumulated in a 64-bit `int` (wrap-around). -/
def goInt (n : Nat) : Int := wrap64 (Int.ofNat n)

/-- Spec DCS parameters as `hook` delivers them: `strconv.Atoi` fails on a value ≥ 2^63, and then
    `Parameters` stays nil (and an `error` item is reported). -/
def goDcs (ps : List Nat) : List Int :=
  if ps.all (fun p => decide (p < 9223372036854775808)) then ps.map Int.ofNat else []

def specSeq : Spec.VT500.Item → Seq
  | .print c => .print c
  | .c0 c => .c0 c
  | .esc i f => .esc i f
  | .ss3 c => .ss3 c
  | .csi i p f => .csi i (p.map (·.map goInt)) f
  | .osc p => .osc p
  | .dcs f i p d => .dcs f i (goDcs p) d
  | .apc d => .apc d

/-- `error` items are reports, not sequences: they are dropped from the comparison. -/
def noErr (l : List Seq) : List Seq := l.filter (fun x => decide (x ≠ .err))

@[simp] theorem noErr_nil : noErr [] = [] := rfl
@[simp] theorem noErr_append (a b : List Seq) : noErr (a ++ b) = noErr a ++ noErr b := by simp [noErr]

/-- The two parameter codecs agree (csiDispatch's loop / hook's Split+Atoi vs the Spec's
    `parseParams` / `parseDcsParams`), on the bytes that can be collected. -/
structure Codec : Prop where
  csi : ∀ ps : List Nat, (∀ b ∈ ps, 0x30 ≤ b ∧ b ≤ 0x3B) →
    decodeParams ps = (Spec.VT500.parseParams ps).map (·.map goInt)
  dcs : ∀ ps : List Nat, ps ≠ [] → (∀ b ∈ ps, 0x30 ≤ b ∧ b ≤ 0x3B ∧ b ≠ 0x3A) →
    hookParams (splitOn 0x3B ps []) =
      (if (Spec.VT500.parseDcsParams ps).all (fun p => decide (p < 9223372036854775808))
       then some ((Spec.VT500.parseDcsParams ps).map Int.ofNat) else none)

/-- Which parts of the two states are known to agree. -/
structure Fl where
  hdr : Bool    -- intermediates and parameter bytes agree; parameter bytes are 30–3B
  noc : Bool    -- no 3A among the parameter bytes
  osc : Bool    -- OSC accumulators agree
  oscE : Bool   -- the parser's OSC accumulator is empty
  apc : Bool
  apcE : Bool
  dcs : Bool    -- the pending DCS agrees
  deriving DecidableEq, Repr, Inhabited

def Dat (v : Fl) (s : PState) (m : M) : Prop :=
  (v.hdr = true → s.inter = m.inter ∧ s.params = m.params ∧ ∀ b ∈ s.params, 0x30 ≤ b ∧ b ≤ 0x3B) ∧
  (v.noc = true → ∀ b ∈ s.params, b ≠ 0x3A) ∧
  (v.osc = true → s.osc = m.osc) ∧ (v.oscE = true → s.osc = []) ∧
  (v.apc = true → s.apc = m.apc) ∧ (v.apcE = true → s.apc = []) ∧
  (v.dcs = true → s.dcs = ⟨m.dFinal, m.dInter, goDcs m.dParams, m.dData⟩)

def exitFl (f : ExitFn) (v : Fl) : Option Fl :=
  match f with
  | .oscEnd => if v.osc then some { v with osc := false, oscE := true } else none
  | .unhook => if v.dcs then some { v with dcs := false } else none
  | .apcUnhook => if v.apc then some { v with apc := false, apcE := true } else none

/-- One statement, abstractly: the flags afterwards, `none` if a requirement is not met.
    `e` is the exit function held at that point. -/
def absAct (st : StateId) (c : Nat) (a : Act) (v : Fl) (e : Option ExitFn) : Option Fl :=
  match a with
  | .execute => if c ≤ 0x1F then some v else none
  | .print | .emitErr | .emitSS3 | .startTimer | .deferClearIgnoreST | .collect | .put
  | .setIgnoreST | .clearIgnoreST | .clearExit => some v
  | .param => if 0x30 ≤ c ∧ c ≤ 0x3B then some { v with noc := v.noc && decide (c ≠ 0x3A) } else none
  | .csiDispatch | .escapeDispatch => if v.hdr then some { v with hdr := false, noc := false } else none
  | .hook => if v.hdr && v.noc then some { v with hdr := false, noc := false, dcs := true } else none
  | .oscStart => if v.oscE then some { v with osc := true } else none
  | .oscPut => some { v with oscE := false }
  | .apcPut => some { v with apcE := false }
  | .clear => some { v with hdr := true, noc := true }
  | .setExitUnhook => if e = some .unhook then some v else none
  | .setExitApc => if v.apcE then some { v with apc := true } else none
  | .runExit => if e = implExit st then (match e with | some f => exitFl f v | none => none) else none
  | .runExitIfSet | .runExitIfSetST =>
    if e = implExit st then (match e with | some f => exitFl f v | none => some v) else none
  | .retIfIgnoreST _ | .unknown => none

/-- The Spec actions of one statement (as `absActs`, without the `retIfIgnoreST` pairing). -/
def abs1 (st : StateId) : Act → List A
  | .execute => [A.execute] | .print => [.print] | .collect => [.collect] | .param => [.param]
  | .csiDispatch => [.csiDispatch] | .escapeDispatch => [.escDispatch] | .hook => [.hook]
  | .put => [.put] | .oscStart => [.oscStart] | .oscPut => [.oscPut] | .apcPut => [.apcPut]
  | .clear => [.clear] | .emitSS3 => [.ss3Dispatch] | .setExitApc => [.apcStart]
  | .runExit | .runExitIfSet | .runExitIfSetST => exitA (implExit st)
  | _ => []

def sameCtl (m m' : M) : Prop := m'.s = m.s ∧ m'.afterString = m.afterString ∧ m'.fresh = m.fresh

theorem act_ctl (m : M) (c : Nat) (a : A) : sameCtl m (Spec.VT500.act m c a).1 := by
  cases a <;> simp [Spec.VT500.act, sameCtl]

theorem acts_append (m : M) (c : Nat) (as bs : List A) :
    Spec.VT500.acts m c (as ++ bs) =
      ((Spec.VT500.acts (Spec.VT500.acts m c as).1 c bs).1,
       (Spec.VT500.acts m c as).2 ++ (Spec.VT500.acts (Spec.VT500.acts m c as).1 c bs).2) := by
  induction as generalizing m with
  | nil => simp [Spec.VT500.acts]
  | cons a rest ih => simp [Spec.VT500.acts, ih, List.append_assoc]

/-- **One statement.**  If the abstract interpreter accepts statement `a` with flags `v`, running it
    on related states gives related states (flags `v'`) and the same items (errors dropped). -/
theorem sim_act (K : Codec) (st : StateId) (c : Nat) (a : Act) (s : PState) (m : M) (v v' : Fl)
    (hD : Dat v s m) (hI : absAct st c a v s.exit = some v') :
    Dat v' (applyAct a c s).1 (Spec.VT500.acts m c (abs1 st a)).1 ∧
    noErr (applyAct a c s).2 = (Spec.VT500.acts m c (abs1 st a)).2.map specSeq := by
  rcases h : applyAct a c s with ⟨t, o⟩
  cases ParserStepBasic.does_of h <;> clear h <;>
    (first | simp only [absAct, exitFl, eq_comm (b := implExit st), ‹s.exit = _›] at hI | simp only [absAct] at hI) <;>
    (repeat' split at hI) <;> cases hI
  case param =>
    rename_i h
    refine ⟨⟨fun hh => ?_, fun hh => ?_, hD.2.2⟩, rfl⟩
    · obtain ⟨e1, e2, e3⟩ := hD.1 hh
      exact ⟨e1, by simp [Spec.VT500.acts, Spec.VT500.act, abs1, e2], by simpa [or_imp, forall_and, h] using e3⟩
    · simp only [Bool.and_eq_true, decide_eq_true_eq] at hh
      simpa [or_imp, forall_and, hh.2] using hD.2.1 hh.1
  case csi =>
    rename_i h
    have hk := K.csi s.params (hD.1 h).2.2
    simp_all [abs1, Spec.VT500.acts, Spec.VT500.act, noErr, specSeq, Dat]
  case hookErr | hook =>
    rename_i hp hh h
    simp only [Bool.and_eq_true] at h
    obtain ⟨e1, e2, e3⟩ := hD.1 h.1
    have hk := K.dcs s.params hp (fun b hb => ⟨(e3 b hb).1, (e3 b hb).2, hD.2.1 h.2 b hb⟩)
    simp_all [abs1, Spec.VT500.acts, Spec.VT500.act, noErr, Dat, goDcs]
    try (obtain ⟨x, hx, hb⟩ := hk; exact fun hall => absurd (hall x hx) (by omega))
  case hook0 => simp_all [abs1, Spec.VT500.acts, Spec.VT500.act, noErr, Dat, Spec.VT500.parseDcsParams, goDcs]
  all_goals
    first
    | exact ⟨hD, rfl⟩
    | simp_all [abs1, exitA, Spec.VT500.acts, Spec.VT500.act, noErr, specSeq, Dat]

/-- The abstract interpreter over a statement list: flags, exit function, `ignoreST`. -/
def absI (st : StateId) (c : Nat) : List Act → Fl → Option ExitFn → Bool → Option (Fl × Option ExitFn × Bool)
  | [], v, e, g => some (v, e, g)
  | a :: rest, v, e, g =>
    match absAct st c a v e with
    | none => none
    | some v' => absI st c rest v' (aAct a e g).1 (aAct a e g).2.1

/-- **One row** (no early return in it). -/
theorem sim_acts (K : Codec) (st : StateId) (c : Nat) (acts : List Act)
    (hno : ∀ a ∈ acts, ∀ n', a ≠ .retIfIgnoreST n') (s : PState) (m : M) (v : Fl) (out : List Seq) (n : Next)
    (hD : Dat v s m) (v' : Fl) (e' : Option ExitFn) (g' : Bool)
    (hI : absI st c acts v s.exit s.ignoreST = some (v', e', g')) :
    Dat v' (runActs acts (.rune c) s out n).1 (Spec.VT500.acts m c (acts.flatMap (abs1 st))).1 ∧
    (runActs acts (.rune c) s out n).1.exit = e' ∧ (runActs acts (.rune c) s out n).1.ignoreST = g' ∧
    noErr (runActs acts (.rune c) s out n).2.1 =
      noErr out ++ (Spec.VT500.acts m c (acts.flatMap (abs1 st))).2.map specSeq := by
  induction acts generalizing s m v out with
  | nil =>
    simp only [absI, Option.some.injEq, Prod.mk.injEq] at hI
    obtain ⟨rfl, rfl, rfl⟩ := hI
    simp [runActs, Spec.VT500.acts, hD]
  | cons a rest ih =>
    simp only [absI] at hI
    cases ha : absAct st c a v s.exit with
    | none => rw [ha] at hI; cases hI
    | some v1 =>
      rw [ha] at hI
      simp only at hI
      obtain ⟨h1, h2⟩ := sim_act K st c a s m v v1 hD ha
      obtain ⟨a1, a2, _, _⟩ := applyAct_abs a c s
      rw [ParserStepBasic.runActs_cons_rune a rest (hno a (by simp)) c s out n]
      rw [← a1, ← a2] at hI
      obtain ⟨i1, i2, i3, i4⟩ := ih (fun a' ha' => hno a' (by simp [ha'])) (applyAct a c s).1
        (Spec.VT500.acts m c (abs1 st a)).1 v1 (out ++ (applyAct a c s).2) h1 hI
      simp only [List.flatMap_cons, acts_append]
      refine ⟨i1, i2, i3, ?_⟩
      rw [i4, noErr_append, h2]
      simp

end VaxisModel.Lemmas.ParserRefine
