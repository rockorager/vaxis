/-
C02: the hand-written table conforms to the Spec table row by row (as `Props.C02.table_conforms`
for the regenerated one); kept in its own module so that it is checked in parallel.
-/
import VaxisModel.Lemmas.ParserAbs

namespace VaxisModel.Lemmas.ParserRefineConf
open VaxisModel.Model.ParserTable VaxisModel.Model.Parser
open VaxisModel.Lemmas.ParserConform VaxisModel.Lemmas.ParserAbs

theorem hand_conforms (st : StateId) (i : Inp) : implRow handTable st i = specRow st i :=
  conforms_of_classes handTable (by decide +kernel) st i

end VaxisModel.Lemmas.ParserRefineConf
