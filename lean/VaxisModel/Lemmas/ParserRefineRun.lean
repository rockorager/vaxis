/-
C02: whole-stream refinement — one step, then whole rune streams, then end of input.
-/
import VaxisModel.Lemmas.ParserRefineStep
import VaxisModel.Model.ParserUtf8

namespace VaxisModel.Lemmas.ParserRefineRun
open VaxisModel.Model.ParserTable VaxisModel.Model.Parser VaxisModel.Model.ParserUtf8
open VaxisModel.Lemmas.ParserConform VaxisModel.Lemmas.ParserAbs VaxisModel.Lemmas.ParserRefine
open VaxisModel.Lemmas.Parser VaxisModel.Lemmas.ParserRefineStep VaxisModel.Lemmas.ParserRefineCheck VaxisModel.Lemmas.ParserRefineConf
open VaxisModel.Spec.VT500 (S A M)

theorem fl_ground : fl .ground = ⟨false, false, false, true, false, true, false⟩ := by decide

theorem trans_st : Spec.VT500.trans .escape (.rune 0x5C) = ([.stOrDispatch], .ground) := by decide

/-- The `ESC \` row (the only one with an early return). -/
theorem sim_step_st (s : PState) (m : M) (hR : R s m) (hs : s.state = .escape) :
    R (pstep s (.rune 0x5C)).st (Spec.VT500.stepRuneD devAll m 0x5C).1 ∧
    noErr (pstep s (.rune 0x5C)).out = (Spec.VT500.stepRuneD devAll m 0x5C).2.map specSeq ∧
    (pstep s (.rune 0x5C)).stop = false := by
  obtain ⟨r1, r2, r3, r4⟩ := hR
  rw [hs] at r1 r2 r3 r4
  simp only [gOf, if_true] at r3
  obtain ⟨d1, d2, d3, d4, d5, d6, d7⟩ := r4
  have hhdr := d1 rfl
  have ho := d4 rfl
  have ha := d6 rfl
  simp only [Spec.VT500.stepRuneD, r1, toS, trans_st, Spec.VT500.acts, Spec.VT500.act]
  cases hi : s.ignoreST with
  | false =>
    rw [escape_backslash s hs hi]
    rw [hi] at r3
    refine ⟨⟨rfl, by simpa [implExit] using r2, by simp [gOf, isStringState, hi], ?_⟩, ?_, rfl⟩
    · simp [Dat, fl_ground, ho, ha]
    · simp [← r3, noErr, specSeq, hhdr.1]
  | true =>
    rw [escape_st s hs hi]
    rw [hi] at r3
    refine ⟨⟨rfl, by simpa [implExit] using r2, by simp [gOf, isStringState], ?_⟩, ?_, rfl⟩
    · simp [Dat, fl_ground, ho, ha]
    · simp [← r3, noErr]

theorem close_step (st st' : StateId) (c : Nat) (s1 : PState) (m mq : M) (v : Fl) (e : Option ExitFn) (g : Bool)
    (hm : m.s = toS st) (hD : Dat v s1 mq) (he : s1.exit = e) (hg : s1.ignoreST = g)
    (hok : okTarget st m.afterString m.fresh c v e g (.st st') = true) :
    R { s1 with state := st' }
      { mq with s := toS st',
                afterString :=
                  if c = 0x1B then
                    ((Spec.VT500.isString m.s && !(devAll.lazyST && m.fresh)) || (decide (m.s = .escape) && m.afterString))
                  else if toS st' = .escape then (m.afterString && !devAll.c0ClearsST) else false,
                fresh := decide (toS st' ≠ m.s) } := by
  simp only [okTarget, Bool.and_eq_true, decide_eq_true_eq, beq_iff_eq] at hok
  obtain ⟨⟨h1, h2⟩, h3⟩ := hok
  refine ⟨rfl, by simpa [he] using h2, ?_, ?_⟩
  · simp only [hg, h3, ctlNext, hm, devAll]
  · exact Dat_congr_m (Dat_congr (Dat_mono h1 hD) rfl rfl rfl rfl rfl) rfl rfl rfl rfl rfl rfl rfl rfl

/-- **One step.**  Related states, any rune: related states afterwards, the same items delivered
    (`error` reports dropped; Spec numbers rendered as Go delivers them), and the loop goes on. -/
theorem sim_step (K : Codec) (s : PState) (m : M) (hR : R s m) (c : Nat) :
    R (pstep s (.rune c)).st (Spec.VT500.stepRuneD devAll m c).1 ∧
    noErr (pstep s (.rune c)).out = (Spec.VT500.stepRuneD devAll m c).2.map specSeq ∧
    (pstep s (.rune c)).stop = false := by
  by_cases hST : s.state = .escape ∧ c = 0x5C
  · obtain ⟨h1, rfl⟩ := hST; exact sim_step_st s m hR h1
  obtain ⟨r1, r2, r3, r4⟩ := hR
  have hchk := stepCheck_all s.state m.afterString m.fresh c
  rw [stepCheck_eq _ _ _ _ hST, rowCheck, Bool.and_eq_true, ← r3, ← r2] at hchk
  obtain ⟨hnr, hchk⟩ := hchk
  cases hI : absI s.state c (ParserRow.jointRow handTable s.state (.rune c)).1 (fl s.state) s.exit s.ignoreST with
  | none => rw [hI] at hchk; cases hchk
  | some x =>
    obtain ⟨v, e, g⟩ := x
    rw [hI] at hchk
    cases hn : (ParserRow.jointRow handTable s.state (.rune c)).2 with
    | stop => rw [hn] at hchk; simp [okTarget] at hchk
    | dispatch => rw [hn] at hchk; simp [okTarget] at hchk
    | st st' =>
      rw [hn] at hchk
      have hno := noRetL_spec _ hnr
      -- the Spec's transition is the row, statement by statement
      have htr : Spec.VT500.trans m.s (.rune c) =
          ((ParserRow.jointRow handTable s.state (.rune c)).1.flatMap (abs1 s.state), toS st') := by
        have := (implRow_row handTable s.state (.rune c) hnr).symm.trans (hand_conforms s.state (.rune c))
        rw [hn] at this
        rw [r1]
        exact Prod.ext (congrArg Prod.fst this).symm (Option.some.inj (congrArg Prod.snd this)).symm
      obtain ⟨a1, a2, a3, a4⟩ := sim_acts K s.state c _ hno s m (fl s.state) [] (.st st') r4 v e g hI
      have a5 := ParserStepBasic.runActs_next_rune _ hno c s [] (.st st')
      rw [ParserRow.pstep_eq_runRow]
      simp only [ParserRow.runRow, hn]
      generalize runActs (ParserRow.jointRow handTable s.state (.rune c)).1 (.rune c) s [] (.st st') = res
        at a1 a2 a3 a4 a5 ⊢
      obtain ⟨s1, o1, n1⟩ := res
      simp only at a1 a2 a3 a4 a5 ⊢
      subst a5
      simp only [finish, Spec.VT500.stepRuneD, htr]
      refine ⟨?_, by simpa using a4, trivial⟩
      by_cases hdf : (ParserRow.jointRow handTable s.state (.rune c)).1.contains .deferClearIgnoreST = true
      · simp only [hdf, if_true] at hchk ⊢
        have := close_step s.state st' c { s1 with ignoreST := false } m _ v e false r1
          (Dat_congr a1 rfl rfl rfl rfl rfl) a2 rfl hchk
        simpa [r1] using this
      · simp only [hdf, Bool.false_eq_true, if_false] at hchk ⊢
        have := close_step s.state st' c s1 m _ v e g r1 a1 a2 a3 hchk
        simpa [r1] using this

theorem exit_toS (st : StateId) : Spec.VT500.exit (toS st) = exitA (implExit st) := by cases st <;> rfl

theorem fl_osc : (fl .oscString).osc = true := by decide
theorem fl_dcs : (fl .dcsPassthrough).dcs = true := by decide
theorem fl_apc : (fl .apc).apc = true := by decide

/-- **End of input**: the pending control string (if any) is delivered, as the Spec's exit action. -/
theorem sim_eof (K : Codec) (s : PState) (m : M) (hR : R s m) :
    noErr (pstep s .eof).out = (Spec.VT500.acts m 0 (Spec.VT500.exit m.s)).2.map specSeq := by
  obtain ⟨r1, r2, r3, r4⟩ := hR
  rw [r1, exit_toS, ParserRow.pstep_eq_runRow,
    show ParserRow.jointRow handTable s.state .eof = ([.runExitIfSet], .stop) from rfl]
  have hI : ∃ v', absAct s.state 0 .runExitIfSet (fl s.state) s.exit = some v' := by
    simp only [absAct, r2, if_true]
    cases hs : s.state <;> simp [implExit, exitFl, fl_osc, fl_dcs, fl_apc]
  obtain ⟨v', hI⟩ := hI
  simpa [ParserRow.runRow, runActs, usesRune, finish, abs1] using (sim_act K s.state 0 .runExitIfSet s m _ v' r4 hI).2

theorem sim_run (K : Codec) (rs : List Nat) (s : PState) (m : M) (hR : R s m) :
    noErr (runRunes handTable s rs) =
      ((Spec.VT500.runFromD devAll m rs).2 ++
        (Spec.VT500.acts (Spec.VT500.runFromD devAll m rs).1 0
          (Spec.VT500.exit (Spec.VT500.runFromD devAll m rs).1.s)).2).map specSeq ++ [.eof] := by
  induction rs generalizing s m with
  | nil =>
    have := sim_eof K s m hR
    simp only [pstep] at this
    simp only [runRunes, Spec.VT500.runFromD, noErr_append, this, List.nil_append]
    rfl
  | cons r rs ih =>
    obtain ⟨h1, h2, h3⟩ := sim_step K s m hR r
    simp only [pstep] at h1 h2 h3
    simp only [runRunes, h3, Bool.false_eq_true, if_false, Spec.VT500.runFromD, noErr_append, h2, ih _ _ h1]
    simp

theorem R_init : R PState.init {} := by
  refine ⟨rfl, rfl, rfl, ?_⟩
  simp [Dat, fl_ground, PState.init]

/-- The situation in which the `lazyST` switch changes the reference machine (F102): an ESC arrives
    in a control-string state that was entered by the previous rune (the string has no payload yet). -/
def trigger (m : M) (c : Nat) : Bool :=
  c == 0x1B && Spec.VT500.isString m.s && m.fresh

/-- The stream never gets into that situation (along the run of the Spec proper). -/
def Avoids : M → List Nat → Bool
  | _, [] => true
  | m, c :: rest => !trigger m c && Avoids (Spec.VT500.stepRune m c).1 rest

theorem stepRuneD_eq (d : Spec.VT500.Dev) (hd : d.c0ClearsST = false) (m : M) (c : Nat) (h : trigger m c = false) :
    Spec.VT500.stepRuneD d m c = Spec.VT500.stepRune m c := by
  simp only [Spec.VT500.stepRune, Spec.VT500.stepRuneD, Spec.VT500.Dev.none, hd]
  simp only [trigger, Bool.and_eq_false_iff] at h
  by_cases hc : c = 0x1B
  · subst hc
    simp only [beq_self_eq_true, Bool.true_eq_false, false_or] at h
    rcases h with h1 | h1
    · simp [h1]
    · simp [h1]
  · simp only [hc, if_false]

theorem runFromD_eq (d : Spec.VT500.Dev) (hd : d.c0ClearsST = false) (m : M) (rs : List Nat) (h : Avoids m rs = true) :
    Spec.VT500.runFromD d m rs = Spec.VT500.runFrom m rs := by
  induction rs generalizing m with
  | nil => rfl
  | cons c rest ih =>
    simp only [Avoids, Bool.and_eq_true, Bool.not_eq_eq_eq_not, Bool.not_true] at h
    have h1 := stepRuneD_eq d hd m c h.1
    simp only [Spec.VT500.runFrom, Spec.VT500.runFromD, h1]
    simp only [Spec.VT500.stepRune] at ⊢
    rw [ih _ (by simpa [Spec.VT500.stepRune] using h.2)]
    rfl

end VaxisModel.Lemmas.ParserRefineRun
