/-
C02: whole-stream refinement, the step lemmas: the table-wide check extended from one rune per class to all runes, rows
without early return as plain `flatMap`s, the check read on the row an iteration runs (`rowCheck`, `stepCheck_eq`).
-/
import VaxisModel.Lemmas.ParserRefineCheck
import VaxisModel.Lemmas.ParserRefineConf
import VaxisModel.Lemmas.ParserStepBasic
import VaxisModel.Lemmas.Parser

namespace VaxisModel.Lemmas.ParserRefineStep
open VaxisModel.Model.ParserTable VaxisModel.Model.Parser
open VaxisModel.Lemmas.ParserConform VaxisModel.Lemmas.ParserAbs VaxisModel.Lemmas.ParserRefine
open VaxisModel.Lemmas.Parser VaxisModel.Lemmas.ParserStepBasic VaxisModel.Lemmas.ParserRow
open VaxisModel.Lemmas.ParserRefineCheck VaxisModel.Lemmas.ParserRefineConf
open VaxisModel.Spec.VT500 (S A M)

/-- The abstract interpreter looks at the rune only in the requirements of `execute` and `param`. -/
theorem absI_congr (st : StateId) (c c' : Nat) (h1 : (c ≤ 0x1F) = (c' ≤ 0x1F))
    (h2 : (0x30 ≤ c ∧ c ≤ 0x3B) = (0x30 ≤ c' ∧ c' ≤ 0x3B)) (h3 : (c ≠ 0x3A) = (c' ≠ 0x3A))
    (acts : List Act) (v : Fl) (e : Option ExitFn) (g : Bool) : absI st c acts v e g = absI st c' acts v e g := by
  have ha : ∀ a v e, absAct st c a v e = absAct st c' a v e := by
    intro a v e; cases a <;> simp only [absAct, h1, h2, h3]
  induction acts generalizing v e g with
  | nil => rfl
  | cons a rest ih => simp only [absI, ha, ih]

theorem stepCheck_class (st : StateId) (after fresh : Bool) (c : Nat) :
    stepCheck st after fresh c = stepCheck st after fresh (classOf (stepBounds st) c) := by
  obtain ⟨hle, _, hcl⟩ := classOf_spec (stepBounds st) c
  have hk : ∀ k ∈ [0x1B, 0x1C, 0x20, 0x30, 0x3A, 0x3B, 0x3C, 0x5C, 0x5D],
      k ≤ classOf (stepBounds st) c ∨ c < k :=
    fun k hk => hcl k (List.mem_append_right _ hk)
  have k1 := hk 0x1B (by simp); have k2 := hk 0x1C (by simp); have k3 := hk 0x20 (by simp)
  have k4 := hk 0x30 (by simp); have k5 := hk 0x3A (by simp); have k6 := hk 0x3B (by simp)
  have k7 := hk 0x3C (by simp); have k8 := hk 0x5C (by simp); have k9 := hk 0x5D (by simp)
  have hin : ∀ b ∈ handAnywhere.bounds ++ (handFn st).bounds, b ∈ stepBounds st :=
    fun b hb => List.mem_append_left _ hb
  have r1 := handAnywhere.row_classOf _ (fun b hb => hin b (List.mem_append_left _ hb)) c
  have r2 := (handFn st).row_classOf _ (fun b hb => hin b (List.mem_append_right _ hb)) c
  have e1 : (c = 0x1B) = (classOf (stepBounds st) c = 0x1B) := by simp only [eq_iff_iff]; omega
  have e2 : (c = 0x5C) = (classOf (stepBounds st) c = 0x5C) := by simp only [eq_iff_iff]; omega
  have hI := absI_congr st c (classOf (stepBounds st) c) (by simp only [eq_iff_iff]; omega)
    (by simp only [eq_iff_iff]; omega) (by simp only [eq_iff_iff]; omega)
  simp only [stepCheck, okTarget, ctlNext, r1, r2, hI, e1, e2]

theorem stepCheck_all (st : StateId) (after fresh : Bool) (c : Nat) : stepCheck st after fresh c = true := by
  have hb : ∀ b : Bool, b ∈ [true, false] := by intro b; cases b <;> simp
  rw [stepCheck_class]
  exact stepCheck_classes st (mem_allStates st) after (hb _) fresh (hb _) _ (classOf_spec _ c).2.1

theorem absActs_noRet (st : StateId) (n : Next) (acts : List Act) (h : noRetL acts = true) :
    absActs st n acts = acts.flatMap (abs1 st) := by
  induction acts with
  | nil => rfl
  | cons a rest ih =>
    simp only [noRetL, List.all_cons, Bool.and_eq_true] at h
    have ih' := ih (by simpa [noRetL] using h.2)
    cases a <;> first | (simp at h; done) | (simp only [absActs, abs1, List.flatMap_cons, ih'])

theorem noRetL_spec (acts : List Act) (h : noRetL acts = true) : ∀ a ∈ acts, ∀ n', a ≠ .retIfIgnoreST n' := by
  intro a ha n' he
  simp only [noRetL, List.all_eq_true] at h
  have := h a ha
  subst he
  simp at this

theorem absI_append (st : StateId) (c : Nat) (a1 a2 : List Act) (v : Fl) (e : Option ExitFn) (g : Bool) :
    absI st c (a1 ++ a2) v e g =
      match absI st c a1 v e g with
      | none => none
      | some (v1, e1, g1) => absI st c a2 v1 e1 g1 := by
  induction a1 generalizing v e g with
  | nil => rfl
  | cons a rest ih =>
    simp only [List.cons_append, absI]
    cases absAct st c a v e with
    | none => rfl
    | some v' => exact ih _ _ _

/-- The check of one row: no early return, the abstract interpreter accepts it, and what it
    establishes is the relation of the target state. -/
def rowCheck (st : StateId) (after fresh : Bool) (c : Nat) (row : List Act × Next) : Bool :=
  noRetL row.1 &&
  match absI st c row.1 (fl st) (implExit st) (gOf st after fresh) with
  | none => false
  | some (v, e, g) => okTarget st after fresh c v e (if row.1.contains .deferClearIgnoreST then false else g) row.2

/-- `stepCheck` is `rowCheck` of the row the iteration runs (`ParserRow.jointRow`); the `ESC \` row,
    with its early return, is exempt. -/
theorem stepCheck_eq (st : StateId) (after fresh : Bool) (c : Nat) (hST : ¬(st = .escape ∧ c = 0x5C)) :
    stepCheck st after fresh c = rowCheck st after fresh c (jointRow handTable st (.rune c)) := by
  have hd : (handAnywhere.row (.rune c)).1.contains Act.deferClearIgnoreST = false := by
    simpa using StateFn.not_mem_row handAnywhere .deferClearIgnoreST (by decide) (.rune c)
  by_cases hn : (handTable.anywhere.row (.rune c)).2 = .dispatch
  · rw [jointRow_dispatch hn]
    have hn' : (handAnywhere.row (.rune c)).2 = .dispatch := hn
    simp only [stepCheck, rowCheck, handTable, hn', hST, if_false, absI_append, noRetL, List.all_append,
      List.contains_append, hd, Bool.false_or]
    cases absI st c (handAnywhere.row (.rune c)).1 (fl st) (implExit st) (gOf st after fresh) with
    | none => simp
    | some x => obtain ⟨v, e, g⟩ := x; simp only [Bool.and_assoc]; rfl
  · rw [jointRow_other hn]
    have hn' : (handAnywhere.row (.rune c)).2 ≠ .dispatch := hn
    simp only [stepCheck, rowCheck, handTable, hd]
    cases absI st c (handAnywhere.row (.rune c)).1 (fl st) (implExit st) (gOf st after fresh) with
    | none => rfl
    | some x =>
      obtain ⟨v, e, g⟩ := x
      simp only [Bool.false_eq_true, if_false]

theorem implRow_row (T : Table) (st : StateId) (i : Inp) (hnr : noRetL (jointRow T st i).1 = true) :
    implRow T st i = ((jointRow T st i).1.flatMap (abs1 st), nextS (jointRow T st i).2) := by
  by_cases hn : (T.anywhere.row i).2 = .dispatch
  · rw [jointRow_dispatch hn] at hnr ⊢
    simp only [noRetL, List.all_append, Bool.and_eq_true] at hnr
    simp only [implRow, hn, absActs_noRet _ _ _ hnr.1, absActs_noRet _ _ _ hnr.2, List.flatMap_append]
  · rw [jointRow_other hn] at hnr ⊢
    simp only [implRow]
    rw [absActs_noRet _ _ _ hnr]

structure R (s : PState) (m : M) : Prop where
  st : m.s = toS s.state
  ex : s.exit = implExit s.state
  ctl : s.ignoreST = gOf s.state m.afterString m.fresh
  dat : Dat (fl s.state) s m

theorem Dat_congr {v : Fl} {s s' : PState} {m : M} (h : Dat v s m) (h1 : s'.inter = s.inter)
    (h2 : s'.params = s.params) (h3 : s'.osc = s.osc) (h4 : s'.apc = s.apc) (h5 : s'.dcs = s.dcs) : Dat v s' m := by
  simp only [Dat, h1, h2, h3, h4, h5]; exact h

theorem Dat_congr_m {v : Fl} {s : PState} {m m' : M} (h : Dat v s m) (h1 : m'.inter = m.inter)
    (h2 : m'.params = m.params) (h3 : m'.osc = m.osc) (h4 : m'.apc = m.apc) (h5 : m'.dFinal = m.dFinal)
    (h6 : m'.dInter = m.dInter) (h7 : m'.dParams = m.dParams) (h8 : m'.dData = m.dData) : Dat v s m' := by
  simp only [Dat, h1, h2, h3, h4, h5, h6, h7, h8]; exact h

end VaxisModel.Lemmas.ParserRefineStep
