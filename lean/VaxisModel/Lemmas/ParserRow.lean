/-
C02/C08: what one iteration of the run loop executes, as one statement list.  `anywhere` of
ansi/parser.go neither returns early nor defers, so `step` in state `st` on input `i` runs the row of
`anywhere` followed — when that passes the input on — by the row of the state function: `jointRow`.
`step_eq_runRow` says so; what holds of `runActs` on a list then holds of an iteration, and the table
only says which list.
-/
import VaxisModel.Lemmas.ParserStepBasic

namespace VaxisModel.Lemmas.ParserRow
open VaxisModel.Model.ParserTable VaxisModel.Model.Parser VaxisModel.Lemmas.ParserStepBasic

/-- One iteration of the parser's loop, by cases: `anywhere` keeps the input (`stop`), or passes it on
    to the function of the current state (`pass`).  For any table; for a table whose `anywhere` is plain
    `step_eq_runRow` below says more. -/
theorem step_cases (T : Table) (s : PState) (i : Inp) {motive : StepOut → Prop}
    (stop : ∀ s1 o1 n, runFn T.anywhere i s = (s1, o1, n) → n ≠ .dispatch → motive (finish s1 o1 n))
    (pass : ∀ s1 o1 s2 o2 n2, runFn T.anywhere i s = (s1, o1, .dispatch) → runFn (T.fn s.state) i s1 = (s2, o2, n2) →
      motive (finish s2 (o1 ++ o2) n2)) : motive (step T s i) := by
  have hst := runFn_state T.anywhere i s
  unfold step
  rcases h1 : runFn T.anywhere i s with ⟨s1, o1, n1⟩
  rw [h1] at hst
  cases n1 with
  | dispatch =>
    simp only
    rcases h2 : runFn (T.fn s1.state) i s1 with ⟨s2, o2, n2⟩
    exact pass s1 o1 s2 o2 n2 h1 (by rw [← hst]; exact h2)
  | st x => exact stop s1 o1 _ h1 (by simp)
  | stop => exact stop s1 o1 _ h1 (by simp)

/-- The one statement that can end a state function early. -/
def isRet : Act → Bool
  | .retIfIgnoreST _ => true
  | _ => false

theorem isRet_false {a : Act} (h : isRet a = false) (n' : Next) : a ≠ .retIfIgnoreST n' := by
  rintro rfl; cases h

theorem noRet_of_all {acts : List Act} (h : acts.all (fun a => !isRet a) = true) :
    ∀ a ∈ acts, ∀ n', a ≠ .retIfIgnoreST n' :=
  fun a ha => isRet_false (by simpa using List.all_eq_true.mp h a ha)

/-- Everything one iteration executes in state `st` on input `i`, and what it returns. -/
def jointRow (T : Table) (st : StateId) (i : Inp) : List Act × Next :=
  if (T.anywhere.row i).2 = .dispatch then
    ((T.anywhere.row i).1 ++ ((T.fn st).row i).1, ((T.fn st).row i).2)
  else T.anywhere.row i

theorem jointRow_dispatch {T : Table} {i : Inp} (h : (T.anywhere.row i).2 = .dispatch) (st : StateId) :
    jointRow T st i = ((T.anywhere.row i).1 ++ ((T.fn st).row i).1, ((T.fn st).row i).2) := by
  simp only [jointRow, h, if_true]

theorem jointRow_other {T : Table} {i : Inp} (h : (T.anywhere.row i).2 ≠ .dispatch) (st : StateId) :
    jointRow T st i = T.anywhere.row i := by
  simp only [jointRow, h, if_false]

theorem mem_jointRow {T : Table} {st : StateId} {i : Inp} {a : Act} (h : a ∈ (jointRow T st i).1) :
    a ∈ (T.anywhere.row i).1 ∨ a ∈ ((T.fn st).row i).1 := by
  unfold jointRow at h
  split at h
  · exact List.mem_append.mp h
  · exact .inl h

theorem jointRow_const_of (T : Table) (st : StateId) (a r : Nat)
    (h : ∀ b ∈ T.anywhere.bounds ++ (T.fn st).bounds, b ≤ a ∨ r < b) (har : a ≤ r) :
    jointRow T st (.rune r) = jointRow T st (.rune a) := by
  simp only [jointRow, T.anywhere.row_const_of a r (fun b hb => h b (List.mem_append_left _ hb)) har,
    (T.fn st).row_const_of a r (fun b hb => h b (List.mem_append_right _ hb)) har]

theorem jointRow_classOf (T : Table) (st : StateId) (c : Nat) :
    jointRow T st (.rune c) = jointRow T st (.rune (classOf (T.anywhere.bounds ++ (T.fn st).bounds) c)) :=
  jointRow_const_of T st _ c (classOf_spec _ c).2.2 (classOf_spec _ c).1

def runRow (row : List Act × Next) (i : Inp) (s : PState) : StepOut :=
  finish
    (if row.1.contains .deferClearIgnoreST then { (runActs row.1 i s [] row.2).1 with ignoreST := false }
     else (runActs row.1 i s [] row.2).1)
    (runActs row.1 i s [] row.2).2.1 (runActs row.1 i s [] row.2).2.2

theorem runActs_acc (acts : List Act) (i : Inp) (s : PState) (out : List Seq) (n : Next) :
    runActs acts i s out n =
      ((runActs acts i s [] n).1, out ++ (runActs acts i s [] n).2.1, (runActs acts i s [] n).2.2) := by
  induction acts generalizing s out with
  | nil => simp [runActs]
  | cons a rest ih =>
    by_cases hret : ∃ n', a = .retIfIgnoreST n'
    · obtain ⟨n', rfl⟩ := hret
      simp only [runActs]
      split
      · simp
      · exact ih s out
    · have hc := runActs_cons a rest (fun n' h => hret ⟨n', h⟩) i
      rw [hc s out n, hc s [] n]
      cases i with
      | rune r =>
        simp only [List.nil_append]
        rw [ih _ (out ++ _), ih _ (applyAct a r s).2, List.append_assoc]
      | eof =>
        simp only [List.nil_append]
        split
        · rfl
        · rw [ih _ (out ++ _), ih _ (applyAct a 0 s).2, List.append_assoc]

/-- Statements that run to their end (no early return; at the end of input none that reads the
    rune) can be run first; they return what they were given to return. -/
theorem runActs_append (a1 a2 : List Act) (i : Inp)
    (h : ∀ a ∈ a1, isRet a = false ∧ (i = .eof → usesRune a = false)) (s : PState) (out : List Seq) (n n0 : Next) :
    runActs (a1 ++ a2) i s out n = runActs a2 i (runActs a1 i s out n0).1 (runActs a1 i s out n0).2.1 n ∧
    (runActs a1 i s out n0).2.2 = n0 := by
  induction a1 generalizing s out with
  | nil => exact ⟨rfl, rfl⟩
  | cons a rest ih =>
    have ha := h a List.mem_cons_self
    have ih' := ih (fun a' ha' => h a' (List.mem_cons_of_mem _ ha'))
    rw [List.cons_append, runActs_cons a _ (isRet_false ha.1), runActs_cons a _ (isRet_false ha.1)]
    cases i with
    | rune r => exact ih' _ _
    | eof => simp only [ha.2 rfl, Bool.false_eq_true, if_false]; exact ih' _ _

/-- `anywhere` neither returns early nor defers, and at the end of input does not read the rune. -/
def plainAnywhere (f : StateFn) : Bool :=
  f.stmts.all (fun a => !isRet a && a != .deferClearIgnoreST) && (f.row .eof).1.all (fun a => !usesRune a)

theorem step_eq_runRow (T : Table) (hT : plainAnywhere T.anywhere = true) (s : PState) (i : Inp) :
    step T s i = runRow (jointRow T s.state i) i s := by
  simp only [plainAnywhere, Bool.and_eq_true] at hT
  have h1 : ∀ a ∈ (T.anywhere.row i).1, isRet a = false ∧ (i = .eof → usesRune a = false) := by
    intro a ha
    have := List.all_eq_true.mp (T.anywhere.row_all _ hT.1 i) a ha
    simp only [Bool.and_eq_true, Bool.not_eq_true'] at this
    refine ⟨this.1, ?_⟩
    rintro rfl
    simpa using List.all_eq_true.mp hT.2 a ha
  have hd : (T.anywhere.row i).1.contains .deferClearIgnoreST = false := by
    have := List.all_eq_true.mp (T.anywhere.row_all _ hT.1 i)
    simp only [Bool.and_eq_true, bne_iff_ne, ne_eq] at this
    simpa using fun h => (this _ h).2 rfl
  have hA : runFn T.anywhere i s = ((runActs (T.anywhere.row i).1 i s [] (T.anywhere.row i).2).1,
      (runActs (T.anywhere.row i).1 i s [] (T.anywhere.row i).2).2.1, (T.anywhere.row i).2) := by
    simp only [runFn, hd, Bool.false_eq_true, if_false]
    rw [(runActs_append _ [] i h1 s [] .stop (T.anywhere.row i).2).2]
  unfold step
  rw [hA]
  by_cases hdis : (T.anywhere.row i).2 = .dispatch
  · rw [jointRow_dispatch hdis, hdis]
    simp only [runRow, runFn, runActs_state, List.contains_append, hd, Bool.false_or]
    rw [(runActs_append _ ((T.fn s.state).row i).1 i h1 s [] ((T.fn s.state).row i).2 .dispatch).1, ← hdis,
      runActs_acc _ i _ (runActs (T.anywhere.row i).1 i s [] (T.anywhere.row i).2).2.1]
  · rw [jointRow_other hdis]
    simp only [runRow, hd, Bool.false_eq_true, if_false]
    rw [(runActs_append _ [] i h1 s [] .stop (T.anywhere.row i).2).2]

theorem hand_plain : plainAnywhere handAnywhere = true := by decide

theorem pstep_eq_runRow (s : PState) (i : Inp) : pstep s i = runRow (jointRow handTable s.state i) i s :=
  step_eq_runRow handTable hand_plain s i

/-- The row of a whole class `[a, hi]` from that of its left end. -/
theorem hand_row (st : StateId) (a hi r : Nat) (res : List Act × Next)
    (hc : clear (handAnywhere.bounds ++ (handFn st).bounds) a hi = true)
    (hrow : jointRow handTable st (.rune a) = res) (h1 : a ≤ r) (h2 : r ≤ hi) :
    jointRow handTable st (.rune r) = res := by
  rw [jointRow_const_of handTable st a r _ h1, hrow]
  intro b hb
  have := (List.all_eq_true.mp hc) b hb
  simp only [Bool.or_eq_true, decide_eq_true_eq] at this
  omega

/-- … and of `[a, ∞)`. -/
theorem hand_row_above (st : StateId) (a r : Nat) (res : List Act × Next)
    (hc : clearAbove (handAnywhere.bounds ++ (handFn st).bounds) a = true)
    (hrow : jointRow handTable st (.rune a) = res) (h1 : a ≤ r) :
    jointRow handTable st (.rune r) = res := by
  rw [jointRow_const_of handTable st a r _ h1, hrow]
  intro b hb
  have := (List.all_eq_true.mp hc) b hb
  simp only [decide_eq_true_eq] at this
  omega

end VaxisModel.Lemmas.ParserRow
