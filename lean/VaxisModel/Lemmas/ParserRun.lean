/-
C08: lemmas about the life-cycle LTS (Model/ParserRun.lean): what `step` can emit, the EOF
discipline (`EofInv`), the system invariant `SInv` with the Escape-key accounting, the pool ownership
invariant (`OwnInv`).
-/
import VaxisModel.Model.ParserRun
import VaxisModel.Lemmas.Parser
import VaxisModel.Lemmas.ParserAbs
import VaxisModel.Lemmas.Run

namespace VaxisModel.Lemmas.ParserRun
open VaxisModel.Model.ParserTable VaxisModel.Model.Parser VaxisModel.Model.ParserRun
open VaxisModel.Lemmas.ParserAbs VaxisModel.Lemmas.ParserConform VaxisModel.Lemmas.OptRun

/-- Items the automaton itself never produces: the end marker and the Escape key. -/
def Special (x : Seq) : Prop := x = .eof ∨ x = .c0 0x1B

theorem runExitFn_no_special (s : PState) (f : ExitFn) : ∀ x ∈ (runExitFn s f).2, ¬ Special x := by
  cases f <;> simp [runExitFn, Special]

theorem applyAct_out (a : Act) (r : Nat) (s : PState) :
    ∀ x ∈ (applyAct a r s).2, (a = .execute ∧ x = .c0 r) ∨ (x ≠ .eof ∧ ∀ c, x ≠ .c0 c) := by
  rcases h : applyAct a r s with ⟨t, o⟩
  cases ParserStepBasic.does_of h <;> simp

def OkItem (i : Inp) (x : Seq) : Prop :=
  (∃ r, i = .rune r ∧ x = .c0 r) ∨ (x ≠ .eof ∧ ∀ c, x ≠ .c0 c)

theorem runActs_out (acts : List Act) (i : Inp) (s : PState) (out : List Seq) (n : Next)
    (ho : ∀ x ∈ out, OkItem i x) : ∀ x ∈ (runActs acts i s out n).2.1, OkItem i x := by
  refine ParserStepBasic.runActs_induct i n (motive := fun _ _ out res => (∀ x ∈ out, OkItem i x) → ∀ x ∈ res.2.1, OkItem i x)
    (fun _ _ h => h) (fun _ _ _ _ _ h => h) (fun _ _ _ _ _ _ ih => ih) ?_ ?_ acts s out ho
  · intro a rest s out _ _ ho x hx
    rcases List.mem_append.mp hx with hx | hx
    · exact ho x hx
    · simp at hx; subst hx; exact .inr ⟨by simp, by simp⟩
  · intro a rest r s out res _ hr ih ho
    refine ih fun x hx => (List.mem_append.mp hx).elim (ho x) fun hx => ?_
    rcases applyAct_out a r s x hx with h | h
    · rcases hr with rfl | ⟨_, hu, _⟩
      · exact .inl ⟨r, rfl, h.2⟩
      · rw [h.1] at hu; cases hu
    · exact .inr h

theorem runFn_out (f : StateFn) (i : Inp) (s : PState) : ∀ x ∈ (runFn f i s).2.1, OkItem i x := by
  simp only [runFn]
  exact runActs_out _ i s [] _ (by simp)

theorem finish_out (s : PState) (out : List Seq) (n : Next) (i : Inp) (ho : ∀ x ∈ out, OkItem i x) :
    ∀ x ∈ (finish s out n).out, OkItem i x := by
  cases n <;> simp only [finish] <;> try exact ho
  intro x hx
  rcases List.mem_append.mp hx with hx | hx
  · exact ho x hx
  · simp at hx; subst hx; exact Or.inr ⟨by simp, by simp⟩

theorem step_out (T : Table) (s : PState) (i : Inp) : ∀ x ∈ (step T s i).out, OkItem i x := by
  unfold step
  have h1 := runFn_out T.anywhere i s
  generalize runFn T.anywhere i s = r1 at h1
  obtain ⟨s1, o1, n1⟩ := r1
  cases n1 with
  | dispatch =>
    simp only
    have h2 := runFn_out (T.fn s1.state) i s1
    generalize runFn (T.fn s1.state) i s1 = r2 at h2
    obtain ⟨s2, o2, n2⟩ := r2
    apply finish_out
    intro x hx
    rcases List.mem_append.mp hx with hx | hx
    · exact h1 x hx
    · exact h2 x hx
  | st x => exact finish_out _ _ _ _ h1
  | stop => exact finish_out _ _ _ _ h1

theorem step_no_eof (T : Table) (s : PState) (i : Inp) : Seq.eof ∉ (step T s i).out := by
  intro h
  rcases step_out T s i _ h with ⟨r, _, h'⟩ | ⟨h', _⟩
  · cases h'
  · exact h' rfl

/-- The hand model never emits the Escape key by itself (ESC is intercepted by `anywhere`, whose
    arm has no `execute`). -/
theorem pstep_no_esc_key (s : PState) (i : Inp) : Seq.c0 0x1B ∉ (pstep s i).out := by
  intro h
  cases i with
  | eof =>
    rcases step_out handTable s .eof _ h with ⟨r, h', _⟩ | ⟨_, h'⟩
    · cases h'
    · exact h' 0x1B rfl
  | rune r =>
    by_cases hr : r = 0x1B
    · subst hr
      cases he : s.exit with
      | none => rw [VaxisModel.Lemmas.Parser.pstep_esc s he] at h; simp at h
      | some f =>
        rw [VaxisModel.Lemmas.Parser.pstep_esc_exit s f he] at h
        exact runExitFn_no_special s f _ h (Or.inr rfl)
    · rcases step_out handTable s (.rune r) _ h with ⟨r', h1, h2⟩ | ⟨_, h'⟩
      · cases h1; cases h2; exact hr rfl
      · exact h' 0x1B rfl

/-- What `Sys.step` does, one constructor per enabled arm (guards as hypotheses). -/
inductive Step (T : Table) (c : Cfg) (s : Sys) : Label → Sys → List Seq → Prop
  | closeSig : Step T c s .closeSig { s with closeReq := true } []
  | enterRead : s.pc = .atSelect → s.closeReq = false → Step T c s .enterRead { s with pc := .inRead } []
  | breakClose : s.pc = .atSelect → s.closeReq = true →
      Step T c s .breakClose (finishing s s.ps []).1 (finishing s s.ps []).2
  | readStop (r : Nat) : s.pc = .inRead → (VaxisModel.Model.Parser.step T s.ps (.rune r)).stop = true →
      Step T c s (.read r) (finishing s (VaxisModel.Model.Parser.step T s.ps (.rune r)).st (VaxisModel.Model.Parser.step T s.ps (.rune r)).out).1
        (finishing s (VaxisModel.Model.Parser.step T s.ps (.rune r)).st (VaxisModel.Model.Parser.step T s.ps (.rune r)).out).2
  | readGo (r : Nat) : s.pc = .inRead → (VaxisModel.Model.Parser.step T s.ps (.rune r)).stop = false →
      Step T c s (.read r)
        { s.outdate with ps := (VaxisModel.Model.Parser.step T s.ps (.rune r)).st, pc := .atSelect, armed := startsTimer T r }
        (VaxisModel.Model.Parser.step T s.ps (.rune r)).out
  | readEnd : s.pc = .inRead →
      Step T c s .readEnd (finishing s (VaxisModel.Model.Parser.step T s.ps .eof).st (VaxisModel.Model.Parser.step T s.ps .eof).out).1
        (finishing s (VaxisModel.Model.Parser.step T s.ps .eof).st (VaxisModel.Model.Parser.step T s.ps .eof).out).2
  | timerFire : s.armed = true → s.pc = .inRead →
      Step T c s .timerFire { s with ps := timerReset c.clearsST s.ps, armed := false } [.c0 0x1B]
  | timerExpire : s.armed = true → Step T c s .timerExpire { s with armed := false, fresh := true } []
  | cbFresh : s.fresh = true →
      Step T c s (.cbRun true) { s with ps := timerReset c.clearsST s.ps, fresh := false }
        [if s.chanClosed && !c.guarded then .panic else .c0 0x1B]
  | cbStaleGuarded : 0 < s.stale → c.guarded = true → Step T c s (.cbRun false) { s with stale := s.stale - 1 } []
  | cbStale : 0 < s.stale → c.guarded = false →
      Step T c s (.cbRun false) { s with ps := timerReset c.clearsST s.ps, stale := s.stale - 1 }
        [if s.chanClosed then .panic else .c0 0x1B]

theorem step_rel {T : Table} {c : Cfg} {s s' : Sys} {l : Label} {o : List Seq}
    (h : Sys.step T c s l = some (s', o)) : Step T c s l s' o := by
  cases l with
  | closeSig => cases h; exact .closeSig
  | enterRead => simp only [Sys.step] at h; split at h <;> cases h; rename_i hc; exact .enterRead hc.1 hc.2
  | breakClose => simp only [Sys.step] at h; split at h <;> cases h; rename_i hc; exact .breakClose hc.1 hc.2
  | read r =>
    simp only [Sys.step] at h
    split at h
    · rename_i hc
      split at h <;> cases h
      · rename_i hs; exact .readStop r hc hs
      · rename_i hs; exact .readGo r hc (by simpa using hs)
    · cases h
  | readEnd => simp only [Sys.step] at h; split at h <;> cases h; rename_i hc; exact .readEnd hc
  | timerFire => simp only [Sys.step] at h; split at h <;> cases h; rename_i hc; exact .timerFire hc.1 hc.2
  | timerExpire => simp only [Sys.step] at h; split at h <;> cases h; rename_i hc; exact .timerExpire hc
  | cbRun fresh =>
    cases fresh with
    | true => simp only [Sys.step] at h; split at h <;> cases h; rename_i hc; exact .cbFresh hc
    | false =>
      simp only [Sys.step] at h
      split at h
      · rename_i hc
        split at h <;> cases h
        · rename_i hg; exact .cbStaleGuarded hc hg
        · rename_i hg; exact .cbStale hc (by simpa using hg)
      · cases h

def EofInv (s : Sys) (out : List Seq) : Prop :=
  (s.pc = .done → (∃ pre, out = pre ++ [.eof] ∧ Seq.eof ∉ pre) ∧ s.chanClosed = true ∧
      s.armed = false ∧ s.fresh = false) ∧
  (s.pc ≠ .done → Seq.eof ∉ out ∧ s.chanClosed = false)

theorem finishing_inv (s : Sys) (ps : PState) (o acc : List Seq) (hacc : Seq.eof ∉ acc) (ho : Seq.eof ∉ o) :
    EofInv (finishing s ps o).1 (acc ++ (finishing s ps o).2) := by
  refine ⟨fun _ => ⟨⟨acc ++ o, by simp [finishing], by simp [hacc, ho]⟩, rfl, rfl, rfl⟩, fun h => absurd rfl h⟩

theorem step_EofInv (T : Table) (c : Cfg) (hg : c.guarded = true) (s : Sys) (acc : List Seq) (l : Label)
    (s' : Sys) (o : List Seq) (hinv : EofInv s acc) (hstep : Sys.step T c s l = some (s', o)) :
    EofInv s' (acc ++ o) := by
  have hne : ∀ r, Seq.eof ∉ (VaxisModel.Model.Parser.step T s.ps r).out := fun r => step_no_eof T s.ps r
  have live : ∀ {pc}, s.pc = pc → pc ≠ .done → Seq.eof ∉ acc ∧ s.chanClosed = false :=
    fun h hd => hinv.2 (by rw [h]; exact hd)
  cases step_rel hstep with
  | closeSig => simpa [EofInv] using hinv
  | enterRead hc _ => exact ⟨fun h => by simp at h, fun _ => by simpa using live hc (by decide)⟩
  | breakClose hc _ => exact finishing_inv s _ _ acc (live hc (by decide)).1 (by simp)
  | readStop r hc _ => exact finishing_inv s _ _ acc (live hc (by decide)).1 (hne _)
  | readGo r hc _ =>
    have := live hc (by decide)
    exact ⟨fun h => by simp at h, fun _ => ⟨by simp [this.1, hne], this.2⟩⟩
  | readEnd hc => exact finishing_inv s _ _ acc (live hc (by decide)).1 (hne _)
  | timerFire _ hc =>
    have := live hc (by decide)
    exact ⟨fun h => by simp [hc] at h, fun _ => ⟨by simp [this.1], this.2⟩⟩
  | timerExpire hc =>
    have hnd : s.pc ≠ .done := fun h => by have := (hinv.1 h).2.2.1; rw [hc] at this; cases this
    exact ⟨fun h => absurd h hnd, fun _ => by simpa using hinv.2 hnd⟩
  | cbFresh hc =>
    have hnd : s.pc ≠ .done := fun h => by have := (hinv.1 h).2.2.2; rw [hc] at this; cases this
    have := hinv.2 hnd
    exact ⟨fun h => absurd h hnd, fun _ => ⟨by simp [hg, this.1], this.2⟩⟩
  | cbStaleGuarded => simpa [EofInv] using hinv
  | cbStale _ hc => rw [hg] at hc; cases hc

theorem run_eq (T : Table) (c : Cfg) (s : Sys) (ls : List Label) : Sys.run T c s ls = orun (Sys.step T c) s ls := by
  induction ls generalizing s with
  | nil => rfl
  | cons l ls ih =>
    cases h : Sys.step T c s l with
    | none => simp only [Sys.run, orun, h]
    | some r =>
      obtain ⟨s1, o1⟩ := r
      simp only [Sys.run, orun, h, ih]
      cases orun (Sys.step T c) s1 ls <;> rfl

theorem sys_run_cons_inv {T : Table} {c : Cfg} {s s2 : Sys} {l : Label} {ls : List Label} {out : List Seq}
    (h : Sys.run T c s (l :: ls) = some (s2, out)) :
    ∃ s1 o1 o2, Sys.step T c s l = some (s1, o1) ∧ Sys.run T c s1 ls = some (s2, o2) ∧ out = o1 ++ o2 := by
  simp only [run_eq] at h ⊢; exact orun_cons_some h

theorem sys_run_append (T : Table) (c : Cfg) (l1 l2 : List Label) (s s1 s2 : Sys) (o1 o2 : List Seq)
    (h1 : Sys.run T c s l1 = some (s1, o1)) (h2 : Sys.run T c s1 l2 = some (s2, o2)) :
    Sys.run T c s (l1 ++ l2) = some (s2, o1 ++ o2) := by
  rw [run_eq] at h1 h2 ⊢; exact orun_append_some h1 h2

theorem run_EofInv (T : Table) (c : Cfg) (hg : c.guarded = true) (ls : List Label) (s : Sys) (acc : List Seq)
    (s' : Sys) (o : List Seq) (hinv : EofInv s acc) (hrun : Sys.run T c s ls = some (s', o)) :
    EofInv s' (acc ++ o) :=
  orun_induct EofInv (fun s acc l s' o hi hs => step_EofInv T c hg s acc l s' o hi hs) hinv (run_eq T c s ls ▸ hrun)

open VaxisModel.Lemmas.Parser in
theorem startsTimer_hand (r : Nat) : startsTimer handTable r = decide (r = 0x1B) := by
  have := row_forall handAnywhere
    (fun row => True) (by decide) (fun _ _ => trivial) r
  clear this
  by_cases hr : r = 0x1B
  · subst hr; decide
  · have h1 : decide (r = 0x1B) = false := by simp [hr]
    rw [h1]
    by_cases h18 : r = 0x18
    · subst h18; decide
    · by_cases h1a : r = 0x1A
      · subst h1a; decide
      · simp [startsTimer, handTable, anywhere_plain r h18 h1a hr]

/-- While the loop runs: the automaton invariant holds; the timer is only pending, and a started
    callback is only up to date, in the `escape` state reached by its ESC; not both at once. -/
def SInv (s : Sys) : Prop :=
  s.pc ≠ .done → (invB (α s.ps) = true ∧ ((s.armed = true ∨ s.fresh = true) → s.ps.state = .escape) ∧
    (s.armed = true → s.fresh = false))

theorem SInv_init : SInv Sys.init := by
  intro _; exact ⟨by decide, by simp [Sys.init], by simp [Sys.init]⟩

theorem pstep_esc_state (ps : PState) : (pstep ps (.rune 0x1B)).st.state = .escape := by
  cases he : ps.exit with
  | none => rw [VaxisModel.Lemmas.Parser.pstep_esc ps he]
  | some f => rw [VaxisModel.Lemmas.Parser.pstep_esc_exit ps f he]

theorem timerReset_inv (ps : PState) (hi : invB (α ps) = true) (hesc : ps.state = .escape) :
    invB (α (timerReset true ps)) = true := by
  have hex := ((invB_spec _).mp hi).1
  simp only [α, hesc] at hex
  simp only [timerReset, α, invB, if_true]
  rw [hex]
  decide

/-- Every step — including the delayed-callback interleavings — preserves the invariant and emits
    no panic item (the callback with the generation check: `Cfg.fixed`). -/
theorem step_SInv (s : Sys) (l : Label) (s' : Sys) (o : List Seq)
    (hinv : SInv s) (hstep : Sys.step handTable Cfg.fixed s l = some (s', o)) :
    SInv s' ∧ Seq.panic ∉ o := by
  cases step_rel hstep with
  | closeSig => exact ⟨hinv, by simp⟩
  | enterRead hc _ => exact ⟨fun _ => hinv (by rw [hc]; decide), by simp⟩
  | breakClose => exact ⟨fun h => absurd rfl h, by simp [finishing]⟩
  | readStop r hc hs =>
    -- no rune makes `anywhere` return nil
    have := (hand_inv_step s.ps (hinv (by rw [hc]; decide)).1 (.rune r)).2.2
    simp [pstep, isEof, hs] at this
  | readGo r hc _ =>
    have hi := hinv (by rw [hc]; decide)
    have hs := hand_inv_step s.ps hi.1 (.rune r)
    refine ⟨fun _ => ⟨hs.1 rfl, fun ha => ?_, fun _ => rfl⟩, hs.2.1⟩
    simp only [Sys.outdate, Bool.false_eq_true, or_false, startsTimer_hand, decide_eq_true_eq] at ha
    subst ha
    exact pstep_esc_state s.ps
  | readEnd hc =>
    have hs := hand_inv_step s.ps (hinv (by rw [hc]; decide)).1 .eof
    refine ⟨fun h => absurd rfl h, ?_⟩
    have := hs.2.1
    simp only [pstep] at this
    simp [finishing, this]
  | timerFire ha hc =>
    have hi := hinv (by rw [hc]; decide)
    have hf := hi.2.2 ha
    refine ⟨fun _ => ⟨timerReset_inv s.ps hi.1 (hi.2.1 (Or.inl ha)), ?_, by simp⟩, by simp⟩
    simp [hf]
  | timerExpire hc =>
    refine ⟨fun hnd => ?_, by simp⟩
    have hi := hinv hnd
    exact ⟨hi.1, fun _ => hi.2.1 (Or.inl hc), by simp⟩
  | cbFresh hc =>
    refine ⟨fun hnd => ?_, by simp [Cfg.fixed]⟩
    have hi := hinv hnd
    have ha : s.armed = false := by
      cases h : s.armed with
      | false => rfl
      | true => have := hi.2.2 h; rw [hc] at this; cases this
    exact ⟨timerReset_inv s.ps hi.1 (hi.2.1 (Or.inr hc)), by simp [ha], by simp⟩
  | cbStaleGuarded => exact ⟨hinv, by simp⟩
  | cbStale _ hc => cases hc

theorem run_SInv (ls : List Label) (s : Sys) (s' : Sys) (o : List Seq)
    (hinv : SInv s) (hrun : Sys.run handTable Cfg.fixed s ls = some (s', o)) : SInv s' ∧ Seq.panic ∉ o := by
  have := orun_induct (acc := []) (fun s acc => SInv s ∧ Seq.panic ∉ acc)
    (fun s acc l s' o hi hs => ⟨(step_SInv s l s' o hi.1 hs).1, by simp [hi.2, (step_SInv s l s' o hi.1 hs).2]⟩)
    ⟨hinv, by simp⟩ (run_eq _ _ s ls ▸ hrun)
  simpa using this

/-- A label that delivers the Escape key: the timer firing, or its (up-to-date) callback running. -/
def Label.isEscKey : Label → Bool
  | .timerFire | .cbRun true => true
  | _ => false

theorem step_esc_count (s : Sys) (l : Label) (s' : Sys) (o : List Seq)
    (hstep : Sys.step handTable Cfg.fixed s l = some (s', o)) :
    o.count (.c0 0x1B) = if Label.isEscKey l then 1 else 0 := by
  have hne : ∀ i, (VaxisModel.Model.Parser.step handTable s.ps i).out.count (.c0 0x1B) = 0 := fun i =>
    List.count_eq_zero.mpr (pstep_no_esc_key s.ps i)
  cases step_rel hstep
  case cbStale hg => cases hg
  all_goals simp [finishing, List.count_append, hne, Label.isEscKey, Cfg.fixed]

theorem run_esc_count (ls : List Label) (s s' : Sys) (o : List Seq)
    (hrun : Sys.run handTable Cfg.fixed s ls = some (s', o)) :
    o.count (.c0 0x1B) = (ls.filter Label.isEscKey).length := by
  induction ls generalizing s o with
  | nil => obtain ⟨_, rfl⟩ := orun_nil_some (run_eq _ _ s _ ▸ hrun); rfl
  | cons l ls ih =>
    obtain ⟨s1, o1, o2, h1, h2, rfl⟩ := sys_run_cons_inv hrun
    rw [List.count_append, step_esc_count s l s1 o1 h1, ih s1 o2 h2, List.filter_cons]
    by_cases h : Label.isEscKey l = true <;> simp [h, Nat.add_comm]

def OwnInv (o : Own) : Prop :=
  (∀ b, o.cur = some b → b ∉ o.held ∧ b ∉ o.pool ∧ b < o.next) ∧
  (∀ b ∈ o.pool, b ∉ o.held ∧ b < o.next) ∧ (∀ b ∈ o.held, b < o.next) ∧
  o.pool.Nodup ∧ o.held.Nodup

theorem OwnInv_init : OwnInv {} := by
  simp [OwnInv]

/-- A list of array ids without repetition, all allocated (`< n`). -/
def Owned (n : Nat) (l : List Nat) : Prop := l.Nodup ∧ ∀ a ∈ l, a < n

theorem Owned.nodup {n : Nat} {l : List Nat} (h : Owned n l) : l.Nodup := h.1

theorem Owned.lt {n : Nat} {l : List Nat} (h : Owned n l) : ∀ a ∈ l, a < n := h.2

theorem Owned.perm {n : Nat} {l l' : List Nat} (h : Owned n l) (hp : l'.Perm l) : Owned n l' :=
  ⟨hp.symm.nodup h.1, fun a ha => h.2 a (hp.mem_iff.1 ha)⟩

theorem Owned.sublist {n : Nat} {l l' : List Nat} (h : Owned n l) (hs : l'.Sublist l) : Owned n l' :=
  ⟨h.1.sublist hs, fun a ha => h.2 a (hs.subset ha)⟩

theorem Owned.fresh {n : Nat} {l : List Nat} (h : Owned n l) : Owned (n + 1) (n :: l) := by
  refine ⟨List.nodup_cons.2 ⟨fun hm => Nat.lt_irrefl _ (h.2 n hm), h.1⟩, ?_⟩
  intro a ha
  rcases List.mem_cons.1 ha with rfl | ha
  · exact Nat.lt_succ_self _
  · exact Nat.lt_succ_of_lt (h.2 a ha)

/-- Every array some party owns: the one collected into, the pooled ones, the delivered ones. -/
def owners (o : Own) : List Nat := o.cur.toList ++ (o.pool ++ o.held)

theorem ownInv_iff (o : Own) : OwnInv o ↔ Owned o.next (owners o) := by
  obtain ⟨cur, pool, held, next⟩ := o
  cases cur <;> simp only [OwnInv, Owned, owners, Option.toList_none, List.nil_append, Option.toList_some,
    List.singleton_append, List.nodup_cons, List.nodup_append, List.mem_cons, List.mem_append] <;> grind

/-- A step permutes the owners, drops one, or adds the one fresh array. -/
theorem own_step_inv (o : Own) (l : OwnLabel) (o' : Own) (w : Option Nat) (hinv : OwnInv o)
    (hstep : Own.step o l = some (o', w)) : OwnInv o' ∧ (∀ b, w = some b → b ∉ o'.held) := by
  obtain ⟨cur, pool, held, next⟩ := o
  have hO := (ownInv_iff _).1 hinv
  rw [ownInv_iff]
  cases l with
  | collect realloc =>
    simp only [Own.step] at hstep
    split at hstep <;> cases hstep
    · exact ⟨hO, fun _ h => by cases h; exact (hinv.1 _ rfl).1⟩
    · exact ⟨hO.fresh.sublist (by cases cur <;> simp [owners]),
        fun _ h hm => by cases h; exact Nat.lt_irrefl _ (hinv.2.2.1 _ hm)⟩
  | clear => cases hstep; exact ⟨hO, nofun⟩
  | dispatch g =>
    simp only [Own.step] at hstep
    split at hstep
    · cases hstep
    · split at hstep
      · split at hstep <;> cases hstep
        rename_i hg
        exact ⟨hO.perm (((List.perm_cons_erase hg).symm.append_right _).trans List.perm_middle), nofun⟩
      · cases hstep
        exact ⟨hO.fresh.perm (List.perm_middle.cons _), nofun⟩
  | finish b =>
    simp only [Own.step] at hstep
    split at hstep <;> cases hstep
    rename_i hb
    exact ⟨hO.perm ((List.perm_middle.symm.trans ((List.perm_cons_erase hb).symm.append_left _)).append_left _),
      nofun⟩

theorem ownRun_isRun : VaxisModel.Lemmas.Run.IsRun (fun o l => (Own.step o l).map (·.1)) Own.run :=
  ⟨fun _ => rfl, fun o l ls => by simp only [Own.run]; cases Own.step o l <;> rfl⟩

theorem run_OwnInv (ls : List OwnLabel) (o o' : Own) (hinv : OwnInv o) (h : Own.run o ls = some o') :
    OwnInv o' :=
  ownRun_isRun.preserves
    (fun o o1 l hi hs => by
      cases hr : Own.step o l with
      | none => rw [hr] at hs; cases hs
      | some r => rw [hr] at hs; cases hs; exact (own_step_inv o l r.1 r.2 hi hr).1)
    hinv h

end VaxisModel.Lemmas.ParserRun
