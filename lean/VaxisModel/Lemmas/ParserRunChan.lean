/-
C08 (liveness layer): helper lemmas for Model/ParserRunChan.lean — the step inversions, the channel
bound, the refinement of the atomic LTS (FIFO: nothing lost, duplicated or reordered), and the
measure argument for the fair driver.
-/
import VaxisModel.Model.ParserRunChan
import VaxisModel.Lemmas.ParserRun

namespace VaxisModel.Lemmas.ParserRunChan
open VaxisModel.Model.ParserTable VaxisModel.Model.Parser VaxisModel.Model.ParserRun
open VaxisModel.Model.ParserRunChan VaxisModel.Lemmas.ParserRun

/-- Everything the atomic steps have emitted, in the order the consumer gets (or will get) it. -/
def flow (s : CSys) : List Seq := s.recvd ++ s.chan ++ s.pending

theorem step_sys_inv {T : Table} {c : Cfg} {cap : Nat} {s s' : CSys} {l : Label}
    (h : CSys.step T c cap s (.sys l) = some s') :
    ∃ s1 o, s.pending = [] ∧ Sys.step T c s.sys l = some (s1, o) ∧ s' = { s with sys := s1, pending := o } := by
  simp only [CSys.step] at h
  split at h
  · rename_i hp
    split at h
    · cases h
    · rename_i s1 o hs
      exact ⟨s1, o, hp, hs, (Option.some.inj h).symm⟩
  · cases h

theorem step_send_inv {T : Table} {c : Cfg} {cap : Nat} {s s' : CSys}
    (h : CSys.step T c cap s .send = some s') :
    ∃ x p, s.pending = x :: p ∧ s.chan.length < cap ∧ s' = { s with chan := s.chan ++ [x], pending := p } := by
  simp only [CSys.step] at h
  split at h
  · cases h
  · rename_i x p hp
    split at h
    · rename_i hlt
      exact ⟨x, p, hp, hlt, (Option.some.inj h).symm⟩
    · cases h

theorem step_recv_inv {T : Table} {c : Cfg} {cap : Nat} {s s' : CSys}
    (h : CSys.step T c cap s .recv = some s') :
    ∃ x ch, s.chan = x :: ch ∧ s' = { s with chan := ch, recvd := s.recvd ++ [x] } := by
  simp only [CSys.step] at h
  split at h
  · cases h
  · rename_i x ch hc
    exact ⟨x, ch, hc, (Option.some.inj h).symm⟩

theorem send_enabled {T : Table} {c : Cfg} {cap : Nat} (s : CSys) (x : Seq) (p : List Seq)
    (hp : s.pending = x :: p) (hlt : s.chan.length < cap) :
    CSys.step T c cap s .send = some { s with chan := s.chan ++ [x], pending := p } := by
  simp [CSys.step, hp, hlt]

theorem send_blocked {T : Table} {c : Cfg} {cap : Nat} (s : CSys) (h : s.pending = [] ∨ cap ≤ s.chan.length) :
    CSys.step T c cap s .send = none := by
  simp only [CSys.step]
  split
  · rfl
  · rcases h with h | h
    · simp_all
    · rw [if_neg (by omega)]

theorem recv_enabled {T : Table} {c : Cfg} {cap : Nat} (s : CSys) (x : Seq) (ch : List Seq)
    (hc : s.chan = x :: ch) :
    CSys.step T c cap s .recv = some { s with chan := ch, recvd := s.recvd ++ [x] } := by
  simp [CSys.step, hc]

theorem recv_blocked {T : Table} {c : Cfg} {cap : Nat} (s : CSys) (h : s.chan = []) :
    CSys.step T c cap s .recv = none := by
  simp [CSys.step, h]

theorem sys_enabled {T : Table} {c : Cfg} {cap : Nat} (s : CSys) (l : Label) (s1 : Sys) (o : List Seq)
    (hp : s.pending = []) (hs : Sys.step T c s.sys l = some (s1, o)) :
    CSys.step T c cap s (.sys l) = some { s with sys := s1, pending := o } := by
  simp [CSys.step, hp, hs]

theorem sys_blocked {T : Table} {c : Cfg} {cap : Nat} (s : CSys) (l : Label) (hp : s.pending ≠ []) :
    CSys.step T c cap s (.sys l) = none := by
  simp only [CSys.step]
  split
  · contradiction
  · rfl

theorem step_inv {T : Table} {c : Cfg} {cap : Nat} {s s' : CSys} {l : CLabel}
    (h : CSys.step T c cap s l = some s') (hb : s.chan.length ≤ cap) :
    s'.chan.length ≤ cap ∧
    ∃ o, Sys.run T c s.sys (sysLabels [l]) = some (s'.sys, o) ∧ flow s' = flow s ++ o := by
  cases l with
  | sys l =>
    obtain ⟨s1, o, hp, hs, rfl⟩ := step_sys_inv h
    refine ⟨hb, o, ?_, ?_⟩
    · simp [sysLabels, Sys.run, hs]
    · simp [flow, hp]
  | send =>
    obtain ⟨x, p, hp, hlt, rfl⟩ := step_send_inv h
    refine ⟨?_, [], ?_, ?_⟩
    · simp only [List.length_append, List.length_cons, List.length_nil]; omega
    · simp [sysLabels, Sys.run]
    · simp [flow, hp]
  | recv =>
    obtain ⟨x, ch, hc, rfl⟩ := step_recv_inv h
    refine ⟨?_, [], ?_, ?_⟩
    · rw [hc] at hb; simp only [List.length_cons] at hb
      show ch.length ≤ cap
      omega
    · simp [sysLabels, Sys.run]
    · simp [flow, hc]

theorem sysLabels_cons (l : CLabel) (ls : List CLabel) : sysLabels (l :: ls) = sysLabels [l] ++ sysLabels ls := by
  cases l <;> simp [sysLabels]

/-- **Refinement + FIFO + bound** for a run from any state within the bound. -/
theorem run_inv (T : Table) (c : Cfg) (cap : Nat) (ls : List CLabel) (s s' : CSys)
    (h : CSys.run T c cap s ls = some s') (hb : s.chan.length ≤ cap) :
    s'.chan.length ≤ cap ∧
    ∃ o, Sys.run T c s.sys (sysLabels ls) = some (s'.sys, o) ∧ flow s' = flow s ++ o := by
  induction ls generalizing s with
  | nil =>
    simp only [CSys.run, Option.some.injEq] at h
    subst h
    exact ⟨hb, [], by simp [sysLabels, Sys.run], by simp⟩
  | cons l ls ih =>
    simp only [CSys.run] at h
    split at h
    · cases h
    · rename_i s1 hs
      obtain ⟨hb1, o1, hr1, hf1⟩ := step_inv hs hb
      obtain ⟨hb2, o2, hr2, hf2⟩ := ih s1 h hb1
      refine ⟨hb2, o1 ++ o2, ?_, ?_⟩
      · rw [sysLabels_cons]; exact sys_run_append T c _ _ _ _ _ _ _ hr1 hr2
      · rw [hf2, hf1, List.append_assoc]

/-- The measure: two steps (`send`, `recv`) for each item not yet sent, one for each queued item,
    one for each atomic label still to be taken. -/
def mu (s : CSys) (ls : List Label) (out : List Seq) : Nat :=
  2 * s.pending.length + s.chan.length + 2 * out.length + ls.length

/-- From any state within the bound, for any atomic schedule `ls` that the atomic LTS can run from
    the current atomic state (emitting `out`), the fair driver with fuel ≥ the measure ends in the
    atomic end state with everything sent and received, in order. -/
theorem drive_spec (T : Table) (c : Cfg) (cap : Nat) (hcap : 0 < cap) (fuel : Nat) (s : CSys) (ls : List Label)
    (s1 : Sys) (out : List Seq) (hb : s.chan.length ≤ cap)
    (hr : Sys.run T c s.sys ls = some (s1, out)) (hf : mu s ls out ≤ fuel) :
    drive T c cap fuel s ls = { sys := s1, chan := [], pending := [], recvd := flow s ++ out } := by
  induction fuel generalizing s ls out with
  | zero =>
    simp only [mu] at hf
    have hp : s.pending = [] := List.eq_nil_of_length_eq_zero (by omega)
    have hc : s.chan = [] := List.eq_nil_of_length_eq_zero (by omega)
    have ho : out = [] := List.eq_nil_of_length_eq_zero (by omega)
    have hl : ls = [] := List.eq_nil_of_length_eq_zero (by omega)
    subst hl ho
    simp only [Sys.run, Option.some.injEq, Prod.mk.injEq] at hr
    obtain ⟨s0, ch, p, rc⟩ := s
    simp only at hp hc hr
    subst hp hc; rw [← hr.1]
    simp [drive, flow]
  | succ n ih =>
    obtain ⟨s0, ch, p, rc⟩ := s
    simp only at hb hr
    cases p with
    | cons x p =>
      by_cases hlt : ch.length < cap
      · -- send
        have hs := @send_enabled T c cap ⟨s0, ch, x :: p, rc⟩ x p rfl hlt
        have := ih ⟨s0, ch ++ [x], p, rc⟩ ls out (by simp only [List.length_append, List.length_cons, List.length_nil]; omega)
          hr (by simp only [mu, List.length_append, List.length_cons, List.length_nil] at hf ⊢; omega)
        simp only [drive, hs]
        rw [this]; simp [flow]
      · -- the channel is full: recv
        cases ch with
        | nil => simp only [List.length_nil] at hlt; omega
        | cons y ch =>
          have hs := @send_blocked T c cap ⟨s0, y :: ch, x :: p, rc⟩ (Or.inr (by simp only at hlt ⊢; omega))
          have hv := @recv_enabled T c cap ⟨s0, y :: ch, x :: p, rc⟩ y ch rfl
          have := ih ⟨s0, ch, x :: p, rc ++ [y]⟩ ls out (by simp only [List.length_cons] at hb ⊢; omega)
            hr (by simp only [mu, List.length_cons] at hf ⊢; omega)
          simp only [drive, hs, hv]
          rw [this]; simp [flow]
    | nil =>
      have hs := @send_blocked T c cap ⟨s0, ch, [], rc⟩ (Or.inl rfl)
      cases ch with
      | cons y ch =>
        have hv := @recv_enabled T c cap ⟨s0, y :: ch, [], rc⟩ y ch rfl
        have := ih ⟨s0, ch, [], rc ++ [y]⟩ ls out (by simp only [List.length_cons] at hb ⊢; omega)
          hr (by simp only [mu, List.length_cons] at hf ⊢; omega)
        simp only [drive, hs, hv]
        rw [this]; simp [flow]
      | nil =>
        have hv := @recv_blocked T c cap ⟨s0, [], [], rc⟩ rfl
        cases ls with
        | nil =>
          simp only [Sys.run, Option.some.injEq, Prod.mk.injEq] at hr
          obtain ⟨rfl, rfl⟩ := hr
          simp [drive, hs, hv, flow]
        | cons l rest =>
          obtain ⟨sa, oa, ob, hsa, hrb, rfl⟩ := sys_run_cons_inv hr
          have hy := @sys_enabled T c cap ⟨s0, [], [], rc⟩ l sa oa rfl hsa
          have := ih ⟨sa, [], oa, rc⟩ rest ob (by simp) hrb
            (by simp only [mu, List.length_cons, List.length_append, List.length_nil] at hf ⊢; omega)
          simp only [drive, hs, hv, hy]
          rw [this]; simp [flow]

theorem script_length (rs : List Nat) : (script rs).length = 2 * rs.length + 2 := by
  induction rs with
  | nil => rfl
  | cons r rs ih => simp only [script, List.length_cons, ih]; omega

theorem script_done (T : Table) (c : Cfg) (rs : List Nat) (s s1 : Sys) (out : List Seq)
    (h : Sys.run T c s (script rs) = some (s1, out)) : s1.pc = .done := by
  induction rs generalizing s out with
  | nil =>
    obtain ⟨sa, oa, ob, _, hr, _⟩ := sys_run_cons_inv (l := .enterRead) (ls := [.readEnd]) h
    obtain ⟨sb, _, _, hs, hr2, _⟩ := sys_run_cons_inv hr
    simp only [Sys.run, Option.some.injEq, Prod.mk.injEq] at hr2
    rw [← hr2.1]
    simp only [Sys.step] at hs
    split at hs
    · simp only [finishing, Option.some.injEq, Prod.mk.injEq] at hs
      rw [← hs.1]
    · cases hs
  | cons r rs ih =>
    obtain ⟨sa, oa, ob, _, hr, _⟩ := sys_run_cons_inv (l := .enterRead) (ls := .read r :: script rs) h
    obtain ⟨sb, _, oc, _, hr2, _⟩ := sys_run_cons_inv hr
    exact ih sb oc hr2

/-- The parser's table and the callback with the generation check: from any state of the loop at the `select`
    with no Close() pending, the script of any finite input runs to the end (no rune stops the loop, the end of
    the input does). -/
theorem script_runs (rs : List Nat) (s : Sys) (hinv : SInv s) (hpc : s.pc = .atSelect) (hcl : s.closeReq = false) :
    ∃ s1 out, Sys.run handTable Cfg.fixed s (script rs) = some (s1, out) ∧ s1.pc = .done := by
  induction rs generalizing s with
  | nil => exact ⟨_, _, by simp [script, Sys.run, Sys.step, hpc, hcl]; exact ⟨rfl, rfl⟩, rfl⟩
  | cons r rs ih =>
    have hi := (hinv (by rw [hpc]; decide)).1
    have hstop : (VaxisModel.Model.Parser.step handTable s.ps (.rune r)).stop = false := by
      have := (VaxisModel.Lemmas.ParserAbs.hand_inv_step s.ps hi (.rune r)).2.2
      simpa [pstep, VaxisModel.Lemmas.ParserAbs.isEof] using this
    have hrun2 : Sys.run handTable Cfg.fixed s [.enterRead, .read r] =
        some ({ s.outdate with ps := (pstep s.ps (.rune r)).st, pc := .atSelect, armed := startsTimer handTable r },
              (pstep s.ps (.rune r)).out) := by
      simp [Sys.run, Sys.step, hpc, hcl, hstop, pstep, Sys.outdate]
    have hinv2 := (run_SInv _ s _ _ hinv hrun2).1
    obtain ⟨s3, o3, hr3, hd⟩ := ih _ hinv2 rfl (by simp [Sys.outdate, hcl])
    exact ⟨s3, _ ++ o3, sys_run_append handTable Cfg.fixed [.enterRead, .read r] (script rs) _ _ _ _ _ hrun2 hr3, hd⟩

end VaxisModel.Lemmas.ParserRunChan
