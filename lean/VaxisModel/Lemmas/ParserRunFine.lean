/-
C08: the statement-grained life-cycle system (Model/ParserRunFine.lean) — its invariant (mutual
exclusion, generations, the callback's view of the parser state), the forward simulation onto the
atomic system of Model/ParserRun.lean (`run_sim`), what follows for reachable states (`reach_sim`,
`esc_report_state`, `no_deadlock`, `single_emitter`), and the converse: every atomic step is a schedule
of statements between quiescent states (`conv_step`, `conv_run`).
-/
import VaxisModel.Model.ParserRunFine
import VaxisModel.Lemmas.ParserRun

namespace VaxisModel.Lemmas.ParserRunFine
open VaxisModel.Model.ParserTable VaxisModel.Model.Parser VaxisModel.Model.ParserRun
open VaxisModel.Model.ParserRunFine VaxisModel.Lemmas.ParserRun VaxisModel.Lemmas.OptRun

theorem countP_set {α} (p : α → Bool) : ∀ (l : List α) (i : Nat) (y x : α), l[i]? = some y →
    (l.set i x).countP p + (p y).toNat = l.countP p + (p x).toNat := by
  intro l
  induction l with
  | nil => intro i y x h; simp at h
  | cons a l ih =>
    intro i y x h
    cases i with
    | zero =>
      simp only [List.getElem?_cons_zero, Option.some.injEq] at h
      subst h
      simp only [List.set_cons_zero, List.countP_cons]
      cases p a <;> cases p x <;> simp <;> omega
    | succ i =>
      simp only [List.getElem?_cons_succ] at h
      have := ih i y x h
      simp only [List.set_cons_succ, List.countP_cons]
      omega

theorem forall_set {α} (P : α → Prop) (l : List α) (i : Nat) (x : α) (h : ∀ c ∈ l, P c) (hx : P x) :
    ∀ c ∈ l.set i x, P c := by
  intro c hc
  rcases List.mem_or_eq_of_mem_set hc with h1 | h1
  · exact h c h1
  · exact h1 ▸ hx

theorem getElem?_set_self_of {α} {l : List α} {k : Nat} {y : α} (x : α) (h : l[k]? = some y) :
    (l.set k x)[k]? = some x := by
  have hlt : k < l.length := (List.getElem?_eq_some_iff.mp h).1
  simp [hlt]

theorem set_concat_self {α} (l : List α) (x y : α) : (l ++ [x]).set l.length y = l ++ [y] := by
  induction l with
  | nil => rfl
  | cons a l ih => simp [ih]

/-- What `mainStep` does, one constructor per statement of `run` (the `select` twice), with the guard as hypothesis. -/
inductive MainStep (T : Table) (f : FSys) : FSys → List Seq → Prop
  | selectClose : f.mpc = .atSelect → f.closeReq = true → MainStep T f { f with mpc := .fin .stop false } []
  | selectRead : f.mpc = .atSelect → f.closeReq = false → MainStep T f { f with mpc := .inRead } []
  | stop (i : Inp) : f.mpc = .readDone i → MainStep T f { f with armed := none, mpc := .stopped i } []
  | lock (i : Inp) : f.mpc = .stopped i → f.mutex = none →
      MainStep T f { f with mutex := some .main, mpc := .locked i } []
  | bump (i : Inp) : f.mpc = .locked i → MainStep T f { f with escGen := f.escGen + 1, mpc := .bumped i } []
  | anywhere (i : Inp) : f.mpc = .bumped i →
      MainStep T f { f with ps := (VaxisModel.Model.Parser.step T f.ps i).st,
                            armed := if arms T i then some f.escGen else f.armed,
                            mpc := .stepped (stops T f.ps i) } (VaxisModel.Model.Parser.step T f.ps i).out
  | unlock (b : Bool) : f.mpc = .stepped b →
      MainStep T f { f with mutex := none, mpc := if b then .fin .stop true else .atSelect } []
  | finStop (v : Bool) : f.mpc = .fin .stop v → MainStep T f { f with armed := none, mpc := .fin .lock v } []
  | finLock (v : Bool) : f.mpc = .fin .lock v → f.mutex = none →
      MainStep T f { f with mutex := some .main, mpc := .fin .bump v } []
  | finBump (v : Bool) : f.mpc = .fin .bump v →
      MainStep T f { f with escGen := f.escGen + 1, mpc := .fin .unlock v } []
  | finUnlock (v : Bool) : f.mpc = .fin .unlock v → MainStep T f { f with mutex := none, mpc := .fin .emit v } []
  | finEmit (v : Bool) : f.mpc = .fin .emit v → MainStep T f { f with mpc := .fin .close v } [.eof]
  | finClose (v : Bool) : f.mpc = .fin .close v → MainStep T f { f with chanClosed := true, mpc := .done } []

theorem mainStep_rel {T : Table} {f f' : FSys} {o : List Seq} (h : mainStep T f = some (f', o)) : MainStep T f f' o := by
  unfold mainStep at h
  cases hpc : f.mpc with
  | atSelect =>
    rw [hpc] at h; simp only at h
    split at h <;> cases h
    · rename_i hc; exact .selectClose hpc hc
    · rename_i hc; exact .selectRead hpc (by simpa using hc)
  | inRead => rw [hpc] at h; cases h
  | readDone i => rw [hpc] at h; cases h; exact .stop i hpc
  | stopped i => rw [hpc] at h; simp only at h; split at h <;> cases h; rename_i hm; exact .lock i hpc hm
  | locked i => rw [hpc] at h; cases h; exact .bump i hpc
  | bumped i => rw [hpc] at h; cases h; exact .anywhere i hpc
  | stepped b => rw [hpc] at h; cases h; exact .unlock b hpc
  | fin st v =>
    rw [hpc] at h
    cases st <;> simp only at h
    case lock => split at h <;> cases h; rename_i hm; exact .finLock v hpc hm
    case stop => cases h; exact .finStop v hpc
    case bump => cases h; exact .finBump v hpc
    case unlock => cases h; exact .finUnlock v hpc
    case emit => cases h; exact .finEmit v hpc
    case close => cases h; exact .finClose v hpc
  | done => rw [hpc] at h; cases h

inductive CbStep (f : FSys) (i : Nat) : FSys → List Seq → Prop
  | lock (g : Nat) : f.cbs[i]? = some (g, .started) → f.mutex = none →
      CbStep f i { f with mutex := some .cb, cbs := f.cbs.set i (g, .locked) } []
  | check (g : Nat) : f.cbs[i]? = some (g, .locked) →
      CbStep f i { f with cbs := f.cbs.set i (g, if g = f.escGen then .passed else .failed) } []
  | emit (g : Nat) : f.cbs[i]? = some (g, .passed) →
      CbStep f i { f with cbs := f.cbs.set i (g, .emitted) } [if f.chanClosed then .panic else .c0 0x1B]
  | setState (g : Nat) : f.cbs[i]? = some (g, .emitted) →
      CbStep f i { f with ps := { f.ps with state := .ground }, cbs := f.cbs.set i (g, .stateSet) } []
  | setST (g : Nat) : f.cbs[i]? = some (g, .stateSet) →
      CbStep f i { f with ps := { f.ps with ignoreST := false }, cbs := f.cbs.set i (g, .stSet) } []
  | unlock (g : Nat) (pc : CbPc) : f.cbs[i]? = some (g, pc) → pc = .stSet ∨ pc = .failed →
      CbStep f i { f with mutex := none, cbs := f.cbs.set i (g, .gone) } []

theorem cbStep_rel {f f' : FSys} {i : Nat} {o : List Seq} (h : cbStep f i = some (f', o)) : CbStep f i f' o := by
  unfold cbStep at h
  split at h
  · cases h
  · rename_i g pc hi
    cases pc <;> simp only at h
    case started => split at h <;> cases h; rename_i hm; exact .lock g hi hm
    case locked => cases h; exact .check g hi
    case passed => cases h; exact .emit g hi
    case emitted => cases h; exact .setState g hi
    case stateSet => cases h; exact .setST g hi
    case stSet => cases h; exact .unlock g _ hi (Or.inl rfl)
    case failed => cases h; exact .unlock g _ hi (Or.inr rfl)
    case gone => cases h

inductive FStep (T : Table) (f : FSys) : FLabel → FSys → List Seq → Prop
  | closeSig : FStep T f .closeSig { f with closeReq := true } []
  | readRet (i : Inp) : f.mpc = .inRead → FStep T f (.readRet i) { f with mpc := .readDone i } []
  | expire (g : Nat) : f.armed = some g →
      FStep T f .expire { f with armed := none, cbs := f.cbs ++ [(g, .started)] } []
  | main {f' : FSys} {o : List Seq} : MainStep T f f' o → FStep T f .main f' o
  | cb (i : Nat) {f' : FSys} {o : List Seq} : CbStep f i f' o → FStep T f (.cb i) f' o

theorem fstep_rel {T : Table} {f f' : FSys} {l : FLabel} {o : List Seq} (h : FSys.step T f l = some (f', o)) :
    FStep T f l f' o := by
  cases l with
  | closeSig => cases h; exact .closeSig
  | readRet i => simp only [FSys.step] at h; split at h <;> cases h; rename_i hc; exact .readRet i hc
  | expire => simp only [FSys.step] at h; split at h <;> cases h; rename_i g hg; exact .expire g hg
  | main => exact .main (mainStep_rel h)
  | cb k => exact .cb k (cbStep_rel h)

theorem step_main_inRead {T : Table} {f : FSys} (h : f.mpc = .inRead) : FSys.step T f .main = none := by
  simp [FSys.step, mainStep, h]

theorem step_readRet_pos {T : Table} {f : FSys} (i : Inp) (h : f.mpc = .inRead) :
    FSys.step T f (.readRet i) = some ({ f with mpc := .readDone i }, []) := by
  simp [FSys.step, h]

theorem step_readRet_neg {T : Table} {f : FSys} (i : Inp) (h : f.mpc ≠ .inRead) : FSys.step T f (.readRet i) = none := by
  simp [FSys.step, h]

theorem readRet_inRead {T : Table} {f : FSys} {i : Inp} {r : FSys × List Seq} (h : FSys.step T f (.readRet i) = some r) :
    f.mpc = .inRead := by
  refine Classical.byContradiction fun hn => ?_
  rw [step_readRet_neg i hn] at h; cases h

theorem step_expire_some {T : Table} {f : FSys} {g : Nat} (h : f.armed = some g) :
    FSys.step T f .expire = some ({ f with armed := none, cbs := f.cbs ++ [(g, .started)] }, []) := by
  simp [FSys.step, h]

theorem step_expire_none {T : Table} {f : FSys} (h : f.armed = none) : FSys.step T f .expire = none := by
  simp [FSys.step, h]

theorem step_cb_ge {T : Table} {f : FSys} {k : Nat} (h : f.cbs.length ≤ k) : FSys.step T f (.cb k) = none := by
  simp [FSys.step, cbStep, List.getElem?_eq_none h]

theorem cb_lt {T : Table} {f : FSys} {k : Nat} {r : FSys × List Seq} (h : FSys.step T f (.cb k) = some r) :
    k < f.cbs.length := by
  refine Nat.lt_of_not_le fun hk => ?_
  rw [step_cb_ge hk] at h; cases h

/-- Callback statements before its effect on the atomic system (up to and including the check). -/
def pre3 : CbPc → Bool | .started | .locked | .passed => true | _ => false
def pre2 : CbPc → Bool | .started | .locked => true | _ => false
/-- Between `emit` and `Unlock`: the atomic callback has run, the statements are catching up. -/
def mid : CbPc → Bool | .emitted | .stateSet | .stSet => true | _ => false
/-- Holding the mutex. -/
def crit : CbPc → Bool | .started | .gone => false | _ => true

abbrev Cbs := List (Nat × CbPc)

def nFresh (e : Nat) (l : Cbs) : Nat := l.countP (fun c => decide (c.1 = e) && pre3 c.2)
def nStale (e : Nat) (l : Cbs) : Nat := l.countP (fun c => !decide (c.1 = e) && pre2 c.2)
def nMid (l : Cbs) : Nat := l.countP (fun c => mid c.2)
def nCrit (l : Cbs) : Nat := l.countP (fun c => crit c.2)

def holdsMain : MPc → Bool
  | .locked _ | .bumped _ | .stepped _ | .fin .bump _ | .fin .unlock _ => true
  | _ => false

/-- Places where every started callback is out of date. -/
def strict : MPc → Bool
  | .bumped _ | .stepped true | .fin _ true | .fin .unlock false | .fin .emit false | .fin .close false
  | .done => true
  | _ => false

/-- Places where the timer may be pending. -/
def armedOk : MPc → Bool
  | .stepped false | .atSelect | .inRead | .readDone _ | .fin .stop false => true
  | _ => false

theorem armedOk_not_strict (pc : MPc) (h : armedOk pc = true) : strict pc = false := by
  cases pc with
  | stepped b => cases b <;> simp_all [armedOk, strict]
  | fin st v => cases st <;> cases v <;> simp_all [armedOk, strict]
  | _ => simp_all [armedOk, strict]

theorem armedOk_not_holds (pc : MPc) (h : armedOk pc = true) (st : strict pc = true) : False := by
  rw [armedOk_not_strict pc h] at st; cases st

structure FInv (f : FSys) : Prop where
  /-- mutual exclusion, main goroutine -/
  m1 : f.mutex = some .main ↔ holdsMain f.mpc = true
  /-- mutual exclusion, callbacks: exactly one is inside iff the mutex says so -/
  m2 : nCrit f.cbs = if f.mutex = some .cb then 1 else 0
  /-- generations: no callback is newer than `escGen`; at the `strict` places every one is older -/
  g1 : ∀ c ∈ f.cbs, c.1 ≤ f.escGen ∧ (strict f.mpc = true → c.1 < f.escGen)
  /-- a pending timer carries the current generation, and only at the places of `armedOk` -/
  g2 : ∀ g, f.armed = some g → g = f.escGen ∧ armedOk f.mpc = true
  /-- at most one callback of the current generation has not passed its check yet -/
  u1 : nFresh f.escGen f.cbs ≤ 1
  /-- … and none while the timer is pending -/
  u2 : f.armed.isSome = true → nFresh f.escGen f.cbs = 0
  /-- a callback past its check saw the current generation -/
  p1 : ∀ c ∈ f.cbs, c.2 = .passed → c.1 = f.escGen
  /-- what a callback has written so far is still there (it holds the mutex) -/
  p2 : ∀ c ∈ f.cbs, (c.2 = .stateSet → f.ps.state = .ground) ∧
        (c.2 = .stSet → f.ps.state = .ground ∧ f.ps.ignoreST = false)
  /-- the channel is closed by the last statement of `run` only -/
  c1 : f.chanClosed = true → f.mpc = .done

theorem FInv_init : FInv FSys.init := by
  refine ⟨by simp [FSys.init, holdsMain], by simp [FSys.init, nCrit], by simp [FSys.init], by simp [FSys.init],
    by simp [FSys.init, nFresh], by simp [FSys.init], by simp [FSys.init], by simp [FSys.init], by simp [FSys.init]⟩

theorem nCrit_zero {l : Cbs} (h : nCrit l = 0) : ∀ c ∈ l, crit c.2 = false := by
  intro c hc
  have := (List.countP_eq_zero.mp h) c hc
  simpa using this

theorem nFresh_zero_of_lt {e : Nat} {l : Cbs} (h : ∀ c ∈ l, c.1 < e) : nFresh e l = 0 := by
  apply List.countP_eq_zero.mpr
  intro c hc
  have := h c hc
  simp; intro h'; omega

theorem armed_none {f : FSys} (hinv : FInv f) (h : armedOk f.mpc = false) : f.armed = none := by
  cases ha : f.armed with
  | none => rfl
  | some g => have := (hinv.g2 g ha).2; rw [h] at this; cases this

theorem main_no_crit {f : FSys} (hinv : FInv f) (h : holdsMain f.mpc = true) : nCrit f.cbs = 0 := by
  have hm := hinv.m1.mpr h
  have := hinv.m2
  rw [hm] at this
  simpa using this

theorem current_open {f : FSys} (hinv : FInv f) {c : Nat × CbPc} (hc : c ∈ f.cbs) (hg : c.1 = f.escGen) :
    strict f.mpc = false ∧ f.chanClosed = false := by
  have hns : strict f.mpc = false := by
    cases hs : strict f.mpc with
    | false => rfl
    | true => have := (hinv.g1 c hc).2 hs; omega
  refine ⟨hns, ?_⟩
  cases hcl : f.chanClosed with
  | false => rfl
  | true => rw [hinv.c1 hcl] at hns; cases hns

theorem inv_pc_only (f : FSys) (hinv : FInv f) (pc : MPc) (a : Option Nat)
    (hh : holdsMain pc = holdsMain f.mpc) (hs : strict pc = true → strict f.mpc = true)
    (ha : a = none ∨ (a = f.armed ∧ (armedOk f.mpc = true → armedOk pc = true)))
    (hd : f.mpc = .done → pc = .done) :
    FInv { f with mpc := pc, armed := a } := by
  refine ⟨by simpa [hh] using hinv.m1, hinv.m2, fun c hc => ⟨(hinv.g1 c hc).1, fun h => (hinv.g1 c hc).2 (hs h)⟩,
    ?_, hinv.u1, ?_, hinv.p1, hinv.p2, fun h => hd (hinv.c1 h)⟩
  · intro g hg
    rcases ha with rfl | ⟨rfl, ha⟩
    · cases hg
    · exact ⟨(hinv.g2 g hg).1, ha (hinv.g2 g hg).2⟩
  · intro h
    rcases ha with rfl | ⟨rfl, _⟩
    · cases h
    · exact hinv.u2 h

theorem inv_main_lock (f : FSys) (hinv : FInv f) (pc : MPc) (hm : f.mutex = none)
    (hh : holdsMain pc = true) (hs : strict pc = true → strict f.mpc = true)
    (ha : armedOk f.mpc = false) (hd : f.mpc ≠ .done) :
    FInv { f with mutex := some .main, mpc := pc } := by
  have hm2 := hinv.m2
  rw [hm] at hm2
  have han := armed_none hinv ha
  refine ⟨by simp [hh], by simpa using hm2, fun c hc => ⟨(hinv.g1 c hc).1, fun h => (hinv.g1 c hc).2 (hs h)⟩,
    by simp [han], hinv.u1, by simp [han], hinv.p1, hinv.p2, fun h => absurd (hinv.c1 h) hd⟩

theorem inv_main_unlock (f : FSys) (hinv : FInv f) (pc : MPc) (hold : holdsMain f.mpc = true)
    (hh : holdsMain pc = false) (hs : strict pc = true → strict f.mpc = true)
    (ha : armedOk f.mpc = true → armedOk pc = true) (hd : f.mpc ≠ .done) :
    FInv { f with mutex := none, mpc := pc } := by
  have hc0 := main_no_crit hinv hold
  refine ⟨by simp [hh], by simpa using hc0, fun c hc => ⟨(hinv.g1 c hc).1, fun h => (hinv.g1 c hc).2 (hs h)⟩,
    fun g hg => ⟨(hinv.g2 g hg).1, ha (hinv.g2 g hg).2⟩, hinv.u1, hinv.u2, hinv.p1, hinv.p2,
    fun h => absurd (hinv.c1 h) hd⟩

theorem inv_bump (f : FSys) (hinv : FInv f) (pc : MPc) (hold : holdsMain f.mpc = true)
    (hh : holdsMain pc = true) (ha : armedOk f.mpc = false) (hd : f.mpc ≠ .done) :
    FInv { f with escGen := f.escGen + 1, mpc := pc } := by
  have hc0 := main_no_crit hinv hold
  have han := armed_none hinv ha
  have hlt : ∀ c ∈ f.cbs, c.1 < f.escGen + 1 := fun c hc => Nat.lt_succ_of_le (hinv.g1 c hc).1
  have hnf := nFresh_zero_of_lt hlt
  refine ⟨?_, hinv.m2, fun c hc => ⟨Nat.le_of_lt (hlt c hc), fun _ => hlt c hc⟩,
    by simp [han], by simp [hnf], by simp [hnf], ?_, hinv.p2, fun h => absurd (hinv.c1 h) hd⟩
  · have := hinv.m1; simp only [hold, iff_true] at this; simp [this, hh]
  · intro c hc hp
    have := nCrit_zero hc0 c hc
    rw [hp] at this; cases this

/-- The tables considered: `anywhere` never both arms the timer and ends the loop. -/
def TimerOk (T : Table) : Prop := ∀ ps r, (VaxisModel.Model.Parser.step T ps (.rune r)).stop = true → startsTimer T r = false

theorem inv_anywhere (T : Table) (hT : TimerOk T) (f : FSys) (hinv : FInv f) (i : Inp) (hpc : f.mpc = .bumped i) :
    FInv { f with ps := (VaxisModel.Model.Parser.step T f.ps i).st, armed := if arms T i then some f.escGen else f.armed,
                  mpc := .stepped (stops T f.ps i) } := by
  have hold : holdsMain f.mpc = true := by rw [hpc]; rfl
  have hc0 := main_no_crit hinv hold
  have han := armed_none hinv (by rw [hpc]; rfl)
  have hlt : ∀ c ∈ f.cbs, c.1 < f.escGen := fun c hc => (hinv.g1 c hc).2 (by rw [hpc]; rfl)
  have hnf := nFresh_zero_of_lt hlt
  refine ⟨?_, hinv.m2, fun c hc => ⟨(hinv.g1 c hc).1, fun _ => hlt c hc⟩, ?_, hinv.u1, fun _ => hnf, hinv.p1, ?_,
    fun h => by have := hinv.c1 h; rw [hpc] at this; cases this⟩
  · have := hinv.m1; simp only [hold, iff_true] at this; simp [this, holdsMain]
  · intro g hg
    simp only [han] at hg
    split at hg
    · rename_i ha
      simp only [Option.some.injEq] at hg
      refine ⟨hg.symm, ?_⟩
      cases i with
      | eof => simp [arms] at ha
      | rune r =>
        simp only [arms] at ha
        have : stops T f.ps (.rune r) = false := by
          cases hs : stops T f.ps (.rune r) with
          | false => rfl
          | true => simp only [stops] at hs; rw [hT f.ps r hs] at ha; cases ha
        rw [this]; rfl
    · cases hg
  · intro c hc
    have := nCrit_zero hc0 c hc
    constructor
    · intro h; rw [h] at this; cases this
    · intro h; rw [h] at this; cases this

theorem main_inv (T : Table) (hT : TimerOk T) (f f' : FSys) (o : List Seq) (hinv : FInv f)
    (h : mainStep T f = some (f', o)) : FInv f' := by
  cases mainStep_rel h with
  | selectClose hpc _ =>
    simpa using inv_pc_only f hinv (.fin .stop false) f.armed (by rw [hpc]; rfl) (by simp [strict])
      (Or.inr ⟨rfl, fun _ => rfl⟩) (by simp [hpc])
  | selectRead hpc _ =>
    simpa using inv_pc_only f hinv .inRead f.armed (by rw [hpc]; rfl) (by simp [strict])
      (Or.inr ⟨rfl, fun _ => rfl⟩) (by simp [hpc])
  | stop i hpc =>
    exact inv_pc_only f hinv (.stopped i) none (by rw [hpc]; rfl) (by simp [strict]) (Or.inl rfl) (by simp [hpc])
  | lock i hpc hm =>
    exact inv_main_lock f hinv (.locked i) hm rfl (by simp [strict]) (by rw [hpc]; rfl) (by simp [hpc])
  | bump i hpc => exact inv_bump f hinv (.bumped i) (by rw [hpc]; rfl) rfl (by rw [hpc]; rfl) (by simp [hpc])
  | anywhere i hpc => exact inv_anywhere T hT f hinv i hpc
  | unlock b hpc =>
    cases b with
    | true =>
      exact inv_main_unlock f hinv (.fin .stop true) (by rw [hpc]; rfl) rfl (by rw [hpc]; simp [strict])
        (by rw [hpc]; simp [armedOk]) (by simp [hpc])
    | false =>
      exact inv_main_unlock f hinv .atSelect (by rw [hpc]; rfl) rfl (by simp [strict])
        (by rw [hpc]; simp [armedOk]) (by simp [hpc])
  | finStop v hpc =>
    exact inv_pc_only f hinv (.fin .lock v) none (by rw [hpc]; rfl) (by rw [hpc]; cases v <;> simp [strict])
      (Or.inl rfl) (by simp [hpc])
  | finLock v hpc hm =>
    exact inv_main_lock f hinv (.fin .bump v) hm rfl (by rw [hpc]; cases v <;> simp [strict])
      (by rw [hpc]; rfl) (by simp [hpc])
  | finBump v hpc => exact inv_bump f hinv (.fin .unlock v) (by rw [hpc]; rfl) rfl (by rw [hpc]; rfl) (by simp [hpc])
  | finUnlock v hpc =>
    exact inv_main_unlock f hinv (.fin .emit v) (by rw [hpc]; rfl) rfl (by rw [hpc]; cases v <;> simp [strict])
      (by rw [hpc]; simp [armedOk]) (by simp [hpc])
  | finEmit v hpc =>
    simpa using inv_pc_only f hinv (.fin .close v) f.armed (by rw [hpc]; rfl) (by rw [hpc]; cases v <;> simp [strict])
      (Or.inr ⟨rfl, by rw [hpc]; simp [armedOk]⟩) (by simp [hpc])
  | finClose v hpc =>
    have h1 := inv_pc_only f hinv .done f.armed (by rw [hpc]; rfl) (by rw [hpc]; cases v <;> simp [strict])
      (Or.inr ⟨rfl, by rw [hpc]; simp [armedOk]⟩) (by simp [hpc])
    exact ⟨h1.m1, h1.m2, h1.g1, h1.g2, h1.u1, h1.u2, h1.p1, h1.p2, fun _ => rfl⟩

theorem expire_inv (f : FSys) (hinv : FInv f) (g : Nat) (ha : f.armed = some g) :
    FInv { f with armed := none, cbs := f.cbs ++ [(g, .started)] } := by
  obtain ⟨hg, hok⟩ := hinv.g2 g ha
  have hns := armedOk_not_strict _ hok
  have hu2 := hinv.u2 (by rw [ha]; rfl)
  refine ⟨hinv.m1, ?_, ?_, by simp, ?_, by simp, ?_, ?_, hinv.c1⟩
  · have := hinv.m2; simpa [nCrit, List.countP_append, crit] using this
  · intro c hc
    rcases List.mem_append.mp hc with hc | hc
    · exact hinv.g1 c hc
    · simp only [List.mem_singleton] at hc; subst hc
      exact ⟨Nat.le_of_eq hg, fun h => by rw [hns] at h; cases h⟩
  · show nFresh f.escGen (f.cbs ++ [(g, .started)]) ≤ 1
    have : nFresh f.escGen (f.cbs ++ [(g, .started)]) = nFresh f.escGen f.cbs + 1 := by
      simp [nFresh, List.countP_append, hg, pre3]
    omega
  · intro c hc hp
    rcases List.mem_append.mp hc with hc | hc
    · exact hinv.p1 c hc hp
    · simp only [List.mem_singleton] at hc; subst hc; cases hp
  · intro c hc
    rcases List.mem_append.mp hc with hc | hc
    · exact hinv.p2 c hc
    · simp only [List.mem_singleton] at hc; subst hc
      exact ⟨fun h => (nomatch h), fun h => (nomatch h)⟩

theorem readRet_inv (f : FSys) (hinv : FInv f) (i : Inp) (hpc : f.mpc = .inRead) :
    FInv { f with mpc := .readDone i } := by
  have := inv_pc_only f hinv (.readDone i) f.armed (by rw [hpc]; rfl) (by simp [strict])
    (Or.inr ⟨rfl, fun _ => rfl⟩) (by simp [hpc])
  simpa using this

theorem closeSig_inv (f : FSys) (hinv : FInv f) : FInv { f with closeReq := true } :=
  ⟨hinv.m1, hinv.m2, hinv.g1, hinv.g2, hinv.u1, hinv.u2, hinv.p1, hinv.p2, hinv.c1⟩

theorem nCrit_set (l : Cbs) (i g : Nat) (pc pc' : CbPc) (hi : l[i]? = some (g, pc)) :
    nCrit (l.set i (g, pc')) + (crit pc).toNat = nCrit l + (crit pc').toNat :=
  countP_set _ l i _ _ hi

theorem nMid_set (l : Cbs) (i g : Nat) (pc pc' : CbPc) (hi : l[i]? = some (g, pc)) :
    nMid (l.set i (g, pc')) + (mid pc).toNat = nMid l + (mid pc').toNat :=
  countP_set _ l i _ _ hi

theorem nFresh_set (e : Nat) (l : Cbs) (i g : Nat) (pc pc' : CbPc) (hi : l[i]? = some (g, pc)) :
    nFresh e (l.set i (g, pc')) + (decide (g = e) && pre3 pc).toNat =
      nFresh e l + (decide (g = e) && pre3 pc').toNat :=
  countP_set _ l i _ _ hi

theorem nStale_set (e : Nat) (l : Cbs) (i g : Nat) (pc pc' : CbPc) (hi : l[i]? = some (g, pc)) :
    nStale e (l.set i (g, pc')) + (!decide (g = e) && pre2 pc).toNat =
      nStale e l + (!decide (g = e) && pre2 pc').toNat :=
  countP_set _ l i _ _ hi

theorem counts_set (e : Nat) (l : Cbs) (i g : Nat) (pc pc' : CbPc) (hi : l[i]? = some (g, pc)) :
    nFresh e (l.set i (g, pc')) + (decide (g = e) && pre3 pc).toNat = nFresh e l + (decide (g = e) && pre3 pc').toNat ∧
    nStale e (l.set i (g, pc')) + (!decide (g = e) && pre2 pc).toNat = nStale e l + (!decide (g = e) && pre2 pc').toNat ∧
    nMid (l.set i (g, pc')) + (mid pc).toNat = nMid l + (mid pc').toNat :=
  ⟨nFresh_set e l i g pc pc' hi, nStale_set e l i g pc pc' hi, nMid_set l i g pc pc' hi⟩

theorem g1_set (f : FSys) (hinv : FInv f) (i g : Nat) (pc pc' : CbPc) (hi : f.cbs[i]? = some (g, pc)) :
    ∀ c ∈ f.cbs.set i (g, pc'), c.1 ≤ f.escGen ∧ (strict f.mpc = true → c.1 < f.escGen) :=
  forall_set _ _ _ _ hinv.g1 (hinv.g1 (g, pc) (List.mem_of_getElem? hi))

theorem cb_excl (f : FSys) (hinv : FInv f) (i g : Nat) (pc : CbPc) (hi : f.cbs[i]? = some (g, pc))
    (hc : crit pc = true) : f.mutex = some .cb ∧ holdsMain f.mpc = false ∧ nCrit f.cbs = 1 := by
  have hpos : 0 < nCrit f.cbs := List.countP_pos_iff.mpr ⟨(g, pc), List.mem_of_getElem? hi, hc⟩
  have hm2 := hinv.m2
  by_cases hm : f.mutex = some .cb
  · rw [if_pos hm] at hm2
    refine ⟨hm, ?_, hm2⟩
    cases hh : holdsMain f.mpc with
    | false => rfl
    | true => have := hinv.m1.mpr hh; rw [hm] at this; cases this
  · rw [if_neg hm] at hm2; omega

theorem inv_cb_lock (f : FSys) (hinv : FInv f) (i g : Nat) (hi : f.cbs[i]? = some (g, .started)) (hm : f.mutex = none) :
    FInv { f with mutex := some .cb, cbs := f.cbs.set i (g, .locked) } := by
  have hm2 := hinv.m2
  rw [hm] at hm2
  have hnh : holdsMain f.mpc = false := by
    cases hh : holdsMain f.mpc with
    | false => rfl
    | true => have := hinv.m1.mpr hh; rw [hm] at this; cases this
  have hcs := nCrit_set f.cbs i g _ .locked hi
  have hfs := nFresh_set f.escGen f.cbs i g _ .locked hi
  simp [crit] at hcs hm2
  simp only [pre3] at hfs
  refine ⟨by simp [hnh], ?_, g1_set f hinv i g _ _ hi, hinv.g2, ?_, ?_, ?_, ?_, hinv.c1⟩
  · show nCrit (f.cbs.set i (g, .locked)) = _; simp; omega
  · have := hinv.u1; show nFresh f.escGen (f.cbs.set i (g, .locked)) ≤ 1; omega
  · intro h; have := hinv.u2 h; show nFresh f.escGen (f.cbs.set i (g, .locked)) = 0; omega
  · exact forall_set _ _ _ _ hinv.p1 (fun h => nomatch h)
  · exact forall_set _ _ _ _ hinv.p2 ⟨fun h => (nomatch h), fun h => (nomatch h)⟩

theorem inv_cb_mid (f : FSys) (hinv : FInv f) (i g : Nat) (pc pc' : CbPc) (ps' : PState)
    (hi : f.cbs[i]? = some (g, pc)) (hc : crit pc = true) (hc' : crit pc' = true)
    (hf : (decide (g = f.escGen) && pre3 pc') = true → pre3 pc = true)
    (hp1 : pc' = .passed → g = f.escGen)
    (hp2 : ∀ c ∈ f.cbs.set i (g, pc'), (c.2 = .stateSet → ps'.state = .ground) ∧
        (c.2 = .stSet → ps'.state = .ground ∧ ps'.ignoreST = false)) :
    FInv { f with ps := ps', cbs := f.cbs.set i (g, pc') } := by
  have hcs := nCrit_set f.cbs i g pc pc' hi
  have hfs := nFresh_set f.escGen f.cbs i g pc pc' hi
  rw [hc, hc'] at hcs
  have hle : nFresh f.escGen (f.cbs.set i (g, pc')) ≤ nFresh f.escGen f.cbs := by
    cases h1 : (decide (g = f.escGen) && pre3 pc') with
    | false => rw [h1] at hfs; simp at hfs; omega
    | true =>
      have h2 := hf h1
      have h3 : (decide (g = f.escGen) && pre3 pc) = true := by
        simp only [Bool.and_eq_true] at h1 ⊢; exact ⟨h1.1, h2⟩
      rw [h1, h3] at hfs; omega
  refine ⟨hinv.m1, ?_, g1_set f hinv i g _ _ hi, hinv.g2, ?_, ?_, ?_, hp2, hinv.c1⟩
  · have := hinv.m2; show nCrit (f.cbs.set i (g, pc')) = (if f.mutex = some .cb then 1 else 0); omega
  · have := hinv.u1; show nFresh f.escGen (f.cbs.set i (g, pc')) ≤ 1; omega
  · intro h; have := hinv.u2 h; show nFresh f.escGen (f.cbs.set i (g, pc')) = 0; omega
  · exact forall_set _ _ _ _ hinv.p1 hp1

theorem inv_cb_unlock (f : FSys) (hinv : FInv f) (i g : Nat) (pc : CbPc)
    (hi : f.cbs[i]? = some (g, pc)) (hc : crit pc = true) :
    FInv { f with mutex := none, cbs := f.cbs.set i (g, .gone) } := by
  obtain ⟨hm, hnh, h1⟩ := cb_excl f hinv i g pc hi hc
  have hcs := nCrit_set f.cbs i g pc .gone hi
  have hfs := nFresh_set f.escGen f.cbs i g pc .gone hi
  rw [hc] at hcs
  simp [crit] at hcs
  simp [pre3] at hfs
  refine ⟨by simp [hnh], ?_, g1_set f hinv i g _ _ hi, hinv.g2, ?_, ?_, ?_, ?_, hinv.c1⟩
  · show nCrit (f.cbs.set i (g, .gone)) = _; simp; omega
  · have := hinv.u1; show nFresh f.escGen (f.cbs.set i (g, .gone)) ≤ 1; omega
  · intro h; have := hinv.u2 h; show nFresh f.escGen (f.cbs.set i (g, .gone)) = 0; omega
  · exact forall_set _ _ _ _ hinv.p1 (fun h => nomatch h)
  · exact forall_set _ _ _ _ hinv.p2 ⟨fun h => (nomatch h), fun h => (nomatch h)⟩

theorem cb_inv (f f' : FSys) (o : List Seq) (i : Nat) (hinv : FInv f) (h : cbStep f i = some (f', o)) : FInv f' := by
  cases cbStep_rel h with
  | lock g hi hm => exact inv_cb_lock f hinv i g hi hm
  | check g hi =>
    have := inv_cb_mid f hinv i g .locked (if g = f.escGen then .passed else .failed) f.ps hi rfl
      (by split <;> rfl) (fun _ => rfl) (by split <;> simp_all)
      (forall_set _ _ _ _ hinv.p2 (by split <;> exact ⟨fun h => (nomatch h), fun h => (nomatch h)⟩))
    simpa using this
  | emit g hi =>
    have := inv_cb_mid f hinv i g .passed .emitted f.ps hi rfl rfl (fun _ => rfl) (fun h => nomatch h)
      (forall_set _ _ _ _ hinv.p2 ⟨fun h => (nomatch h), fun h => (nomatch h)⟩)
    simpa using this
  | setState g hi =>
    refine inv_cb_mid f hinv i g .emitted .stateSet _ hi rfl rfl (by simp [pre3]) (fun h => nomatch h) ?_
    exact forall_set _ _ _ _ (fun c hc => ⟨fun _ => rfl, fun h => ⟨rfl, ((hinv.p2 c hc).2 h).2⟩⟩)
      ⟨fun _ => rfl, fun h => (nomatch h)⟩
  | setST g hi =>
    have hg := (hinv.p2 _ (List.mem_of_getElem? hi)).1 rfl
    refine inv_cb_mid f hinv i g .stateSet .stSet _ hi rfl rfl (by simp [pre3]) (fun h => nomatch h) ?_
    exact forall_set _ _ _ _ (fun c hc => ⟨fun _ => hg, fun _ => ⟨hg, rfl⟩⟩) ⟨fun _ => hg, fun _ => ⟨hg, rfl⟩⟩
  | unlock g pc hi hpc => exact inv_cb_unlock f hinv i g pc hi (by rcases hpc with rfl | rfl <;> rfl)

theorem step_inv (T : Table) (hT : TimerOk T) (f f' : FSys) (l : FLabel) (o : List Seq) (hinv : FInv f)
    (h : FSys.step T f l = some (f', o)) : FInv f' := by
  cases fstep_rel h with
  | closeSig => exact closeSig_inv f hinv
  | readRet i hpc => exact readRet_inv f hinv i hpc
  | expire g ha => exact expire_inv f hinv g ha
  | main _ => exact main_inv T hT f f' o hinv h
  | cb i _ => exact cb_inv f f' o i hinv h

theorem frun_eq (T : Table) (f : FSys) (ls : List FLabel) : FSys.run T f ls = orun (FSys.step T) f ls := by
  induction ls generalizing f with
  | nil => rfl
  | cons l ls ih =>
    cases h : FSys.step T f l with
    | none => simp only [FSys.run, orun, h]
    | some r =>
      obtain ⟨f1, o1⟩ := r
      simp only [FSys.run, orun, h, ih]
      cases orun (FSys.step T) f1 ls <;> rfl

theorem frun_append (T : Table) (ls1 ls2 : List FLabel) (s s1 s2 : FSys) (o1 o2 : List Seq)
    (h1 : FSys.run T s ls1 = some (s1, o1)) (h2 : FSys.run T s1 ls2 = some (s2, o2)) :
    FSys.run T s (ls1 ++ ls2) = some (s2, o1 ++ o2) := by
  rw [frun_eq] at h1 h2 ⊢; exact orun_append_some h1 h2

theorem run_inv (T : Table) (hT : TimerOk T) (ls : List FLabel) (f f' : FSys) (o : List Seq) (hinv : FInv f)
    (h : FSys.run T f ls = some (f', o)) : FInv f' :=
  orun_preserves FInv (fun f l f' o hi hs => step_inv T hT f f' l o hi hs) hinv (frun_eq T f ls ▸ h)

/-! ### the abstraction: which atomic state a statement-grained state stands for

The atomic `read r` / `readEnd` step is taken when the main goroutine has bumped the generation (from
then on no callback of an older ESC can act; the mutex is held until `anywhere` has run); the atomic
`breakClose` at the bump after the loop; the atomic `cbRun` at the callback's `emit` (up to date) or at
its failed check (out of date); `timerExpire` at `expire`.  All other statements are stuttering steps.
`pend` is what the atomic system has emitted ahead of the statements. -/

def absPc (T : Table) (f : FSys) : Pc :=
  match f.mpc with
  | .atSelect => .atSelect
  | .inRead | .readDone _ | .stopped _ | .locked _ => .inRead
  | .bumped i => if stops T f.ps i then .done else .atSelect
  | .stepped stop => if stop then .done else .atSelect
  | .fin st v => if v then .done else (match st with | .stop | .lock | .bump => .atSelect | _ => .done)
  | .done => .done

def absPs (T : Table) (f : FSys) : PState :=
  match f.mpc with
  | .bumped i => (VaxisModel.Model.Parser.step T f.ps i).st
  | _ => if 0 < nMid f.cbs then timerReset true f.ps else f.ps

def pend (T : Table) (f : FSys) : List Seq :=
  match f.mpc with
  | .bumped i => (VaxisModel.Model.Parser.step T f.ps i).out ++ (if stops T f.ps i then [.eof] else [])
  | .stepped true => [.eof]
  | .fin .stop true | .fin .lock true | .fin .bump true | .fin .unlock _ | .fin .emit _ => [.eof]
  | _ => []

/-- The atomic system's `armed` flag must be up where the timer is (or is about to be) pending; it may
    also still be up after a `Stop()` (the atomic system has no separate Stop). -/
def needArmed (T : Table) (f : FSys) : Bool :=
  f.armed.isSome || (match f.mpc with | .bumped i => arms T i | _ => false)

def abs (T : Table) (f : FSys) (b : Bool) : Sys :=
  { ps := absPs T f, pc := absPc T f, armed := b, closeReq := f.closeReq,
    chanClosed := decide (absPc T f = .done), fresh := decide (0 < nFresh f.escGen f.cbs),
    stale := nStale f.escGen f.cbs }

/-- The statements from `f` to `f'` (one, or a whole run) are matched by atomic steps `ls` with the same output, up to
    `pend`. -/
def Sim (T : Table) (f f' : FSys) (b : Bool) (o : List Seq) : Prop :=
  ∃ ls b' o', Sys.run T Cfg.fixed (abs T f b) ls = some (abs T f' b', o') ∧
    (needArmed T f' = true → b' = true) ∧ pend T f ++ o' = o ++ pend T f'

theorem sim_stutter (T : Table) (f f' : FSys) (b : Bool) (o : List Seq)
    (h1 : abs T f' b = abs T f b) (h2 : needArmed T f' = true → b = true) (h3 : pend T f = o ++ pend T f') :
    Sim T f f' b o :=
  ⟨[], b, [], by simp [Sys.run, h1], h2, by simpa using h3⟩

theorem sim_one (T : Table) (f f' : FSys) (b : Bool) (o : List Seq) (l : Label) (b' : Bool) (o' : List Seq)
    (h1 : Sys.step T Cfg.fixed (abs T f b) l = some (abs T f' b', o'))
    (h2 : needArmed T f' = true → b' = true) (h3 : pend T f ++ o' = o ++ pend T f') :
    Sim T f f' b o :=
  ⟨[l], b', o', by simp [Sys.run, h1], h2, h3⟩

theorem nMid_le_nCrit (l : Cbs) : nMid l ≤ nCrit l := by
  apply List.countP_mono_left
  intro c _ h
  cases hc : c.2 <;> simp_all [mid, crit]

theorem main_no_mid {f : FSys} (hinv : FInv f) (h : holdsMain f.mpc = true) : nMid f.cbs = 0 := by
  have := main_no_crit hinv h; have := nMid_le_nCrit f.cbs; omega

theorem nStale_cons (e g : Nat) (pc : CbPc) (l : Cbs) :
    nStale e ((g, pc) :: l) = nStale e l + (!decide (g = e) && pre2 pc).toNat := by
  simp only [nStale, List.countP_cons]; cases (!decide (g = e) && pre2 pc) <;> simp

theorem nFresh_cons (e g : Nat) (pc : CbPc) (l : Cbs) :
    nFresh e ((g, pc) :: l) = nFresh e l + (decide (g = e) && pre3 pc).toNat := by
  simp only [nFresh, List.countP_cons]; cases (decide (g = e) && pre3 pc) <;> simp

/-- Bumping the generation outdates the started callbacks (none is inside: the mutex is held). -/
theorem outdate_count (e : Nat) (l : Cbs) (h1 : ∀ c ∈ l, c.1 ≤ e) (h2 : ∀ c ∈ l, crit c.2 = false) :
    nStale (e + 1) l = nStale e l + nFresh e l ∧ nFresh (e + 1) l = 0 := by
  induction l with
  | nil => simp [nStale, nFresh]
  | cons c l ih =>
    have ih' := ih (fun c hc => h1 c (List.mem_cons_of_mem _ hc)) (fun c hc => h2 c (List.mem_cons_of_mem _ hc))
    obtain ⟨g, pc⟩ := c
    have hg : g ≤ e := h1 (g, pc) List.mem_cons_self
    have hc : crit pc = false := h2 (g, pc) List.mem_cons_self
    have hne : g ≠ e + 1 := by omega
    rw [nStale_cons, nStale_cons, nFresh_cons, nFresh_cons]
    cases pc <;> simp [crit] at hc <;> simp [pre2, pre3, hne] <;> (try (by_cases hge : g = e <;> simp [hge])) <;> omega

/-- The loop was left through `<-p.close` only if `Close()` had been called. -/
def CInv (f : FSys) : Prop := ∀ st, f.mpc = .fin st false → f.closeReq = true

theorem CInv_init : CInv FSys.init := by intro st h; cases h

theorem cbStep_frame (f f' : FSys) (i : Nat) (o : List Seq) (h : cbStep f i = some (f', o)) :
    f'.mpc = f.mpc ∧ f'.closeReq = f.closeReq ∧ f'.chanClosed = f.chanClosed ∧ f'.armed = f.armed ∧
    f'.escGen = f.escGen ∧ i < f.cbs.length := by
  cases cbStep_rel h with
  | lock g hi _ | check g hi | emit g hi | setState g hi | setST g hi | unlock g _ hi _ =>
    exact ⟨rfl, rfl, rfl, rfl, rfl, (List.getElem?_eq_some_iff.mp hi).1⟩

theorem cbStep_other (f f' : FSys) (i : Nat) (o : List Seq) (h : cbStep f i = some (f', o)) (k : Nat) (hik : i ≠ k) :
    f'.cbs[k]? = f.cbs[k]? := by
  cases cbStep_rel h <;> exact List.getElem?_set_ne hik

/-- The program counter after the next statement of the main goroutine (the arrows `pc → pc'` of the main
    goroutine's table in `Model/ParserRunFine.lean`). -/
def nextPc (T : Table) (f : FSys) : MPc :=
  match f.mpc with
  | .atSelect => if f.closeReq then .fin .stop false else .inRead
  | .inRead => .inRead
  | .readDone i => .stopped i
  | .stopped i => .locked i
  | .locked i => .bumped i
  | .bumped i => .stepped (stops T f.ps i)
  | .stepped stop => if stop then .fin .stop true else .atSelect
  | .fin .stop v => .fin .lock v
  | .fin .lock v => .fin .bump v
  | .fin .bump v => .fin .unlock v
  | .fin .unlock v => .fin .emit v
  | .fin .emit v => .fin .close v
  | .fin .close _ => .done
  | .done => .done

theorem mainStep_pc (T : Table) (f f' : FSys) (o : List Seq) (h : mainStep T f = some (f', o)) :
    f'.mpc = nextPc T f ∧ f'.closeReq = f.closeReq ∧ f'.cbs = f.cbs ∧ f.mpc ≠ .inRead ∧ f.mpc ≠ .done ∧
    (f'.mpc = .done → f'.chanClosed = true) := by
  cases mainStep_rel h
  case unlock b _ => cases b <;> simp_all [nextPc]
  all_goals simp_all [nextPc]

theorem mainStep_guarded (T : Table) (f f' : FSys) (o : List Seq) (h : mainStep T f = some (f', o)) :
    (f'.escGen = f.escGen ∧ f'.ps = f.ps) ∨ (holdsMain f.mpc = true ∧ f'.mutex = f.mutex) := by
  cases mainStep_rel h
  case bump hpc | anywhere hpc | finBump hpc => right; rw [hpc]; exact ⟨rfl, rfl⟩
  all_goals left; exact ⟨rfl, rfl⟩

/-- The main goroutine is past the read that returned `eof`, or has left the loop. -/
def pastEof : MPc → Bool
  | .readDone .eof | .stopped .eof | .locked .eof | .bumped .eof | .stepped true | .fin _ _ | .done => true
  | _ => false

theorem pastEof_next (T : Table) (f : FSys) (h : pastEof f.mpc = true) : pastEof (nextPc T f) = true := by
  unfold nextPc
  cases hpc : f.mpc with
  | fin st v => cases st <;> rfl
  | stepped b => cases b <;> simp_all [pastEof]
  | bumped i => cases i <;> simp_all [pastEof, stops]
  | readDone i | stopped i | locked i => cases i <;> simp_all [pastEof]
  | _ => simp_all [pastEof]

theorem step_CInv (T : Table) (f f' : FSys) (l : FLabel) (o : List Seq) (hinv : CInv f)
    (h : FSys.step T f l = some (f', o)) : CInv f' := by
  intro st hst
  cases fstep_rel h with
  | closeSig => rfl
  | readRet i _ => cases hst
  | expire g _ => exact hinv st hst
  | cb i _ =>
    obtain ⟨e1, e2, _⟩ := cbStep_frame f f' i o h
    rw [e1] at hst; rw [e2]; exact hinv st hst
  | main hm =>
    -- the loop is left with `viaEof = false` at the `select` only, with `closeReq` set; the flag is kept afterwards
    cases hm
    case selectClose hc => exact hc
    case finStop hpc | finLock hpc _ | finBump hpc | finUnlock hpc | finEmit hpc => cases hst; exact hinv _ hpc
    case unlock b _ => cases b <;> cases hst
    all_goals cases hst

theorem run_CInv (T : Table) (fls : List FLabel) (f0 f : FSys) (out : List Seq) (h0 : CInv f0)
    (h : FSys.run T f0 fls = some (f, out)) : CInv f :=
  orun_preserves CInv (fun f l f' o hi hs => step_CInv T f f' l o hi hs) h0 (frun_eq T f0 fls ▸ h)

/-! Away from `p.state = anywhere(r, p)` the abstraction does not look at the table. -/

def absPcNB : MPc → Pc
  | .atSelect => .atSelect
  | .inRead | .readDone _ | .stopped _ | .locked _ => .inRead
  | .bumped _ => .done
  | .stepped stop => if stop then .done else .atSelect
  | .fin st v => if v then .done else (match st with | .stop | .lock | .bump => .atSelect | _ => .done)
  | .done => .done

def pendNB : MPc → List Seq
  | .stepped true => [.eof]
  | .fin .stop true | .fin .lock true | .fin .bump true | .fin .unlock _ | .fin .emit _ => [.eof]
  | _ => []

theorem abs_nb (T : Table) (f : FSys) (b : Bool) (h : ∀ i, f.mpc ≠ .bumped i) :
    abs T f b = ⟨if 0 < nMid f.cbs then timerReset true f.ps else f.ps, absPcNB f.mpc, b, f.closeReq,
      decide (absPcNB f.mpc = .done), decide (0 < nFresh f.escGen f.cbs), nStale f.escGen f.cbs⟩ ∧
    pend T f = pendNB f.mpc ∧ needArmed T f = f.armed.isSome := by
  cases hpc : f.mpc with
  | bumped i => exact absurd hpc (h i)
  | stepped v => cases v <;> simp [abs, absPs, absPc, absPcNB, pend, pendNB, needArmed, hpc]
  | fin st v => cases st <;> cases v <;> simp [abs, absPs, absPc, absPcNB, pend, pendNB, needArmed, hpc]
  | _ => simp [abs, absPs, absPc, absPcNB, pend, pendNB, needArmed, hpc]

theorem not_bumped {pc : MPc} (h : holdsMain pc = false) : ∀ i, pc ≠ .bumped i := fun i e => by rw [e] at h; cases h

/-- A statement of the main goroutine that the atomic system does not see: the program counter moves
    within one atomic place; the mutex may be taken or released, the timer stopped. -/
theorem sim_main_stutter (T : Table) (f : FSys) (b : Bool) (hb : needArmed T f = true → b = true)
    (m : Option Owner) (a : Option Nat) (pc : MPc) (o : List Seq) (ha : a = none ∨ a = f.armed)
    (h1 : ∀ i, f.mpc ≠ .bumped i) (h2 : ∀ i, pc ≠ .bumped i) (hpc : absPcNB pc = absPcNB f.mpc)
    (hpend : pendNB f.mpc = o ++ pendNB pc) : Sim T f { f with mutex := m, mpc := pc, armed := a } b o := by
  obtain ⟨e1, e2, e3⟩ := abs_nb T f b h1
  obtain ⟨e1', e2', e3'⟩ := abs_nb T { f with mutex := m, mpc := pc, armed := a } b h2
  apply sim_stutter
  · rw [e1, e1']; simp only [hpc]
  · rw [e3']; rw [e3] at hb
    rcases ha with rfl | rfl
    · intro h; cases h
    · exact hb
  · rw [e2, e2']; exact hpend

theorem abs_outdate (f : FSys) (hinv : FInv f) (hold : holdsMain f.mpc = true) :
    nStale (f.escGen + 1) f.cbs = nStale f.escGen f.cbs + (if decide (0 < nFresh f.escGen f.cbs) = true then 1 else 0) ∧
    nFresh (f.escGen + 1) f.cbs = 0 := by
  have hc0 := main_no_crit hinv hold
  obtain ⟨hst, hfr⟩ := outdate_count f.escGen f.cbs (fun c hc => (hinv.g1 c hc).1) (nCrit_zero hc0)
  have hu1 := hinv.u1
  refine ⟨?_, hfr⟩
  rw [hst]
  by_cases h : 0 < nFresh f.escGen f.cbs
  · simp [h]; omega
  · simp [h]; omega

theorem sim_bump (T : Table) (hT : TimerOk T) (f : FSys) (b : Bool) (hinv : FInv f) (i : Inp)
    (hpc : f.mpc = .locked i) : Sim T f { f with escGen := f.escGen + 1, mpc := .bumped i } b [] := by
  have hold : holdsMain f.mpc = true := by rw [hpc]; rfl
  have hmid := main_no_mid hinv hold
  have han := armed_none hinv (by rw [hpc]; rfl)
  obtain ⟨hst, hfr⟩ := abs_outdate f hinv hold
  cases i with
  | rune r =>
    cases hs : (VaxisModel.Model.Parser.step T f.ps (.rune r)).stop with
    | true =>
      apply sim_one T f _ b [] (.read r) false ((VaxisModel.Model.Parser.step T f.ps (.rune r)).out ++ [.eof])
      · simp [Sys.step, abs, absPs, absPc, hpc, hmid, hs, finishing, Sys.outdate, stops, hst, hfr]
      · simp [needArmed, han, arms, hT f.ps r hs]
      · simp [pend, hpc, stops, hs]
    | false =>
      apply sim_one T f _ b [] (.read r) (startsTimer T r) (VaxisModel.Model.Parser.step T f.ps (.rune r)).out
      · simp [Sys.step, abs, absPs, absPc, hpc, hmid, hs, Sys.outdate, stops, hst, hfr]
      · simp [needArmed, han, arms]
      · simp [pend, hpc, stops, hs]
  | eof =>
    apply sim_one T f _ b [] .readEnd false ((VaxisModel.Model.Parser.step T f.ps .eof).out ++ [.eof])
    · simp [Sys.step, abs, absPs, absPc, hpc, hmid, finishing, Sys.outdate, stops, hst, hfr]
    · simp [needArmed, han, arms]
    · simp [pend, hpc, stops]

theorem sim_anywhere (T : Table) (f : FSys) (b : Bool) (hb : needArmed T f = true → b = true)
    (hinv : FInv f) (i : Inp) (hpc : f.mpc = .bumped i) :
    Sim T f { f with ps := (VaxisModel.Model.Parser.step T f.ps i).st,
                     armed := if arms T i then some f.escGen else f.armed,
                     mpc := .stepped (stops T f.ps i) } b (VaxisModel.Model.Parser.step T f.ps i).out := by
  have hold : holdsMain f.mpc = true := by rw [hpc]; rfl
  have hmid := main_no_mid hinv hold
  have han := armed_none hinv (by rw [hpc]; rfl)
  apply sim_stutter
  · simp [abs, absPs, absPc, hpc, hmid]
  · intro h
    apply hb
    simp only [needArmed, han, hpc] at h ⊢
    split at h <;> simp_all
  · cases hs : stops T f.ps i <;> simp [pend, hpc, hs]

/-- `p.escGen++` after the loop: the atomic `breakClose` if the loop was left through `<-p.close`. -/
theorem sim_fin_bump (T : Table) (f : FSys) (b : Bool) (hinv : FInv f) (hcl : CInv f) (v : Bool)
    (hpc : f.mpc = .fin .bump v) : Sim T f { f with escGen := f.escGen + 1, mpc := .fin .unlock v } b [] := by
  have hold : holdsMain f.mpc = true := by rw [hpc]; rfl
  have hmid := main_no_mid hinv hold
  have han := armed_none hinv (by rw [hpc]; rfl)
  obtain ⟨hst, hfr⟩ := abs_outdate f hinv hold
  cases v with
  | true =>
    have hlt : ∀ c ∈ f.cbs, c.1 < f.escGen := fun c hc => (hinv.g1 c hc).2 (by rw [hpc]; rfl)
    have hnf := nFresh_zero_of_lt hlt
    apply sim_stutter
    · simp [abs, absPs, absPc, hpc, hst, hfr, hnf]
    · simp [needArmed, han]
    · simp [pend, hpc]
  | false =>
    have hc := hcl _ hpc
    apply sim_one T f _ b [] .breakClose false [.eof]
    · simp [Sys.step, abs, absPs, absPc, hpc, hmid, hc, finishing, Sys.outdate, hst, hfr]
    · simp [needArmed, han]
    · simp [pend, hpc]

theorem sim_main (T : Table) (hT : TimerOk T) (f f' : FSys) (o : List Seq) (b : Bool)
    (hb : needArmed T f = true → b = true) (hinv : FInv f) (hcl : CInv f) (h : mainStep T f = some (f', o)) :
    Sim T f f' b o := by
  cases mainStep_rel h with
  | selectClose hpc _ =>
    exact sim_main_stutter T f b hb f.mutex f.armed _ [] (Or.inr rfl) (by simp [hpc]) (by simp) (by rw [hpc]; rfl)
      (by rw [hpc]; rfl)
  | selectRead hpc hc =>
    apply sim_one T f _ b [] .enterRead b []
    · simp [Sys.step, abs, absPs, absPc, hpc, hc]
    · simpa [needArmed, hpc] using hb
    · simp [pend, hpc]
  | stop i hpc =>
    exact sim_main_stutter T f b hb f.mutex none _ [] (Or.inl rfl) (by simp [hpc]) (by simp) (by rw [hpc]; rfl)
      (by rw [hpc]; rfl)
  | lock i hpc _ =>
    exact sim_main_stutter T f b hb _ f.armed _ [] (Or.inr rfl) (by simp [hpc]) (by simp) (by rw [hpc]; rfl)
      (by rw [hpc]; rfl)
  | bump i hpc => exact sim_bump T hT f b hinv i hpc
  | anywhere i hpc => exact sim_anywhere T f b hb hinv i hpc
  | unlock stop hpc =>
    exact sim_main_stutter T f b hb none f.armed _ [] (Or.inr rfl) (by simp [hpc]) (by cases stop <;> simp)
      (by rw [hpc]; cases stop <;> rfl) (by rw [hpc]; cases stop <;> rfl)
  | finBump v hpc => exact sim_fin_bump T f b hinv hcl v hpc
  | finStop v hpc =>
    exact sim_main_stutter T f b hb f.mutex none _ [] (Or.inl rfl) (by simp [hpc]) (by simp) (by rw [hpc]; rfl)
      (by rw [hpc]; cases v <;> rfl)
  | finLock v hpc _ =>
    exact sim_main_stutter T f b hb _ f.armed _ [] (Or.inr rfl) (by simp [hpc]) (by simp) (by rw [hpc]; rfl)
      (by rw [hpc]; cases v <;> rfl)
  | finUnlock v hpc =>
    exact sim_main_stutter T f b hb none f.armed _ [] (Or.inr rfl) (by simp [hpc]) (by simp)
      (by rw [hpc]; cases v <;> rfl) (by rw [hpc]; rfl)
  | finEmit v hpc =>
    exact sim_main_stutter T f b hb f.mutex f.armed _ [.eof] (Or.inr rfl) (by simp [hpc]) (by simp)
      (by rw [hpc]; cases v <;> rfl) (by rw [hpc]; rfl)
  | finClose v hpc =>
    apply sim_stutter
    · cases v <;> simp [abs, absPs, absPc, hpc]
    · simpa [needArmed, hpc] using hb
    · cases v <;> simp [pend, hpc]

theorem not_bumped_of_armedOk {pc : MPc} (h : armedOk pc = true) : ∀ i, pc ≠ .bumped i := by
  intro i hi; subst hi; cases h

theorem sim_expire (T : Table) (f : FSys) (b : Bool) (hb : needArmed T f = true → b = true) (hinv : FInv f)
    (g : Nat) (ha : f.armed = some g) :
    Sim T f { f with armed := none, cbs := f.cbs ++ [(g, .started)] } b [] := by
  obtain ⟨hg, hok⟩ := hinv.g2 g ha
  have hbt : b = true := hb (by simp [needArmed, ha])
  have hnb := not_bumped_of_armedOk hok
  obtain ⟨e1, e2, _⟩ := abs_nb T f b hnb
  obtain ⟨e1', e2', e3'⟩ := abs_nb T { f with armed := none, cbs := f.cbs ++ [(g, .started)] } false hnb
  have hn1 : nMid (f.cbs ++ [(g, .started)]) = nMid f.cbs := by simp [nMid, List.countP_append, mid]
  have hn2 : nStale f.escGen (f.cbs ++ [(g, .started)]) = nStale f.escGen f.cbs := by
    simp [nStale, List.countP_append, hg]
  have hn3 : 0 < nFresh f.escGen (f.cbs ++ [(g, .started)]) := by
    simp [nFresh, List.countP_append, hg, pre3]
  apply sim_one T f _ b [] .timerExpire false []
  · rw [e1, e1']; simp [Sys.step, hbt, hn1, hn2, hn3]
  · rw [e3']; intro h; cases h
  · rw [e2, e2']; simp

theorem pendNB_nil {pc : MPc} (h1 : strict pc = false) : pendNB pc = [] := by
  cases pc with
  | stepped b => cases b <;> simp_all [strict, pendNB]
  | fin st v => cases st <;> cases v <;> simp_all [strict, pendNB]
  | _ => simp_all [strict, pendNB]

theorem timerReset_idem (ps : PState) (h1 : ps.state = .ground) (h2 : ps.ignoreST = false) :
    timerReset true ps = ps := by
  cases ps; simp_all [timerReset]

theorem sim_cb_stutter (T : Table) (f : FSys) (b : Bool) (hb : needArmed T f = true → b = true)
    (hnh : holdsMain f.mpc = false) (ps' : PState) (m' : Option Owner) (l' : Cbs)
    (h1 : nFresh f.escGen l' = nFresh f.escGen f.cbs) (h2 : nStale f.escGen l' = nStale f.escGen f.cbs)
    (h3 : (if 0 < nMid l' then timerReset true ps' else ps') = (if 0 < nMid f.cbs then timerReset true f.ps else f.ps)) :
    Sim T f { f with ps := ps', mutex := m', cbs := l' } b [] := by
  obtain ⟨e1, e2, e3⟩ := abs_nb T f b (not_bumped hnh)
  obtain ⟨e1', e2', e3'⟩ := abs_nb T { f with ps := ps', mutex := m', cbs := l' } b (not_bumped hnh)
  apply sim_stutter
  · rw [e1, e1']; simp only [h1, h2, h3]
  · rw [e3']; rw [e3] at hb; exact hb
  · rw [e2, e2']; simp

theorem sim_cb (T : Table) (f f' : FSys) (o : List Seq) (i : Nat) (b : Bool) (hb : needArmed T f = true → b = true)
    (hinv : FInv f) (h : cbStep f i = some (f', o)) : Sim T f f' b o := by
  cases cbStep_rel h with
  | lock g hi hm =>
    have hnh : holdsMain f.mpc = false := by
      cases hh : holdsMain f.mpc with
      | false => rfl
      | true => have := hinv.m1.mpr hh; rw [hm] at this; cases this
    obtain ⟨s1, s2, s3⟩ := counts_set f.escGen f.cbs i g _ .locked hi
    simp only [pre3, pre2, mid] at s1 s2 s3
    have := sim_cb_stutter T f b hb hnh f.ps (some .cb) (f.cbs.set i (g, .locked)) (by omega) (by omega)
      (by rw [show nMid (f.cbs.set i (g, .locked)) = nMid f.cbs by omega])
    simpa using this
  | check g hi =>
    obtain ⟨hm, hnh, hn1⟩ := cb_excl f hinv i g _ hi rfl
    by_cases hge : g = f.escGen
    · subst hge
      obtain ⟨s1, s2, s3⟩ := counts_set f.escGen f.cbs i f.escGen _ .passed hi
      simp [pre3, pre2, mid] at s1 s2 s3
      have := sim_cb_stutter T f b hb hnh f.ps f.mutex (f.cbs.set i (f.escGen, .passed)) (by omega) (by omega)
        (by rw [show nMid (f.cbs.set i (f.escGen, .passed)) = nMid f.cbs by omega])
      simpa using this
    · have s1 := nFresh_set f.escGen f.cbs i g _ .failed hi
      have s2 := nStale_set f.escGen f.cbs i g _ .failed hi
      have s3 := nMid_set f.cbs i g _ .failed hi
      simp [pre3, pre2, mid, hge] at s1 s2 s3
      obtain ⟨e1, e2, e3⟩ := abs_nb T f b (not_bumped hnh)
      obtain ⟨e1', e2', e3'⟩ := abs_nb T { f with cbs := f.cbs.set i (g, .failed) } b (not_bumped hnh)
      simp only [hge, if_false]
      apply sim_one T f _ b [] (.cbRun false) b []
      · rw [e1, e1']
        simp only [Sys.step, Cfg.fixed, if_true]
        rw [if_pos (by omega)]
        simp only [Option.some.injEq, Prod.mk.injEq, and_true]
        rw [s1, s3, ← s2]; simp
      · rw [e3']; rw [e3] at hb; exact hb
      · rw [e2, e2']; simp
  | emit g hi =>
    have hmem : (g, CbPc.passed) ∈ f.cbs := List.mem_of_getElem? hi
    obtain ⟨hm, hnh, hn1⟩ := cb_excl f hinv i g _ hi rfl
    have hge : g = f.escGen := hinv.p1 _ hmem rfl
    subst hge
    obtain ⟨hns, hcc⟩ := current_open hinv hmem rfl
    obtain ⟨s1, s2, s3⟩ := counts_set f.escGen f.cbs i f.escGen _ .emitted hi
    have s4 := nCrit_set f.cbs i f.escGen _ .gone hi
    have s5 := nMid_set f.cbs i f.escGen _ .gone hi
    have s6 := nMid_le_nCrit (f.cbs.set i (f.escGen, .gone))
    have hu1 := hinv.u1
    simp [pre3, pre2, mid, crit] at s1 s2 s3 s4 s5
    have hmid0 : nMid f.cbs = 0 := by omega
    obtain ⟨e1, e2, e3⟩ := abs_nb T f b (not_bumped hnh)
    obtain ⟨e1', e2', e3'⟩ := abs_nb T { f with cbs := f.cbs.set i (f.escGen, .emitted) } b (not_bumped hnh)
    have hout : (if f.chanClosed = true then Seq.panic else Seq.c0 0x1B) = Seq.c0 0x1B := by simp [hcc]
    rw [hout]
    apply sim_one T f _ b [.c0 0x1B] (.cbRun true) b [.c0 0x1B]
    · rw [e1, e1']
      simp only [Sys.step, Cfg.fixed]
      rw [if_pos (by simp; omega)]
      simp only [Option.some.injEq, Prod.mk.injEq]
      rw [s3, s2, hmid0, show nFresh f.escGen (f.cbs.set i (f.escGen, .emitted)) = 0 by omega]
      simp
    · rw [e3']; rw [e3] at hb; exact hb
    · rw [e2, e2']; simp [pendNB_nil hns]
  | setState g hi =>
    obtain ⟨hm, hnh, hn1⟩ := cb_excl f hinv i g _ hi rfl
    obtain ⟨s1, s2, s3⟩ := counts_set f.escGen f.cbs i g _ .stateSet hi
    simp [pre3, pre2, mid] at s1 s2 s3
    have hpos : 0 < nMid f.cbs := List.countP_pos_iff.mpr ⟨_, List.mem_of_getElem? hi, rfl⟩
    have := sim_cb_stutter T f b hb hnh { f.ps with state := .ground } f.mutex (f.cbs.set i (g, .stateSet)) s1 s2
      (by rw [s3]; simp [hpos, timerReset])
    simpa using this
  | setST g hi =>
    obtain ⟨hm, hnh, hn1⟩ := cb_excl f hinv i g _ hi rfl
    obtain ⟨s1, s2, s3⟩ := counts_set f.escGen f.cbs i g _ .stSet hi
    simp [pre3, pre2, mid] at s1 s2 s3
    have hpos : 0 < nMid f.cbs := List.countP_pos_iff.mpr ⟨_, List.mem_of_getElem? hi, rfl⟩
    have := sim_cb_stutter T f b hb hnh { f.ps with ignoreST := false } f.mutex (f.cbs.set i (g, .stSet)) s1 s2
      (by rw [s3]; simp [hpos, timerReset])
    simpa using this
  | unlock g pc hi hpc =>
    have hmem : (g, pc) ∈ f.cbs := List.mem_of_getElem? hi
    obtain ⟨hm, hnh, hn1⟩ := cb_excl f hinv i g pc hi (by rcases hpc with rfl | rfl <;> rfl)
    obtain ⟨s1, s2, s3⟩ := counts_set f.escGen f.cbs i g pc .gone hi
    rcases hpc with rfl | rfl
    · have s4 := nCrit_set f.cbs i g _ .gone hi
      have s6 := nMid_le_nCrit (f.cbs.set i (g, .gone))
      simp [pre3, pre2, mid, crit] at s1 s2 s3 s4
      have hpos : 0 < nMid f.cbs := List.countP_pos_iff.mpr ⟨_, hmem, rfl⟩
      have hp2 := (hinv.p2 _ hmem).2 rfl
      have := sim_cb_stutter T f b hb hnh f.ps none (f.cbs.set i (g, .gone)) s1 s2
        (by rw [show nMid (f.cbs.set i (g, .gone)) = 0 by omega]; simp [hpos, timerReset_idem f.ps hp2.1 hp2.2])
      simpa using this
    · simp [pre3, pre2, mid] at s1 s2 s3
      have := sim_cb_stutter T f b hb hnh f.ps none (f.cbs.set i (g, .gone)) s1 s2 (by rw [s3])
      simpa using this

/-- **One statement of the statement-grained system is zero or one step of the atomic system.** -/
theorem sim_step (T : Table) (hT : TimerOk T) (f f' : FSys) (l : FLabel) (o : List Seq) (b : Bool)
    (hb : needArmed T f = true → b = true) (hinv : FInv f) (hcl : CInv f)
    (h : FSys.step T f l = some (f', o)) : Sim T f f' b o := by
  cases fstep_rel h with
  | closeSig =>
    apply sim_one T f _ b [] .closeSig b []
    · cases hpc : f.mpc <;> simp [Sys.step, abs, absPs, absPc, hpc]
    · cases hpc : f.mpc <;> simpa [needArmed, hpc] using hb
    · cases hpc : f.mpc <;> simp [pend, hpc]
  | readRet i hpc =>
    exact sim_main_stutter T f b hb f.mutex f.armed _ [] (Or.inr rfl) (by simp [hpc]) (by simp) (by rw [hpc]; rfl)
      (by rw [hpc]; rfl)
  | main _ => exact sim_main T hT f f' o b hb hinv hcl h
  | expire g ha => exact sim_expire T f b hb hinv g ha
  | cb i _ => exact sim_cb T f f' o i b hb hinv h

/-- **Refinement.**  Every run of the statement-grained system from a state satisfying the invariants is
    matched by a run of the atomic system between the corresponding abstract states, with the same
    output up to what the atomic system has emitted ahead (`pend`). -/
theorem run_sim (T : Table) (hT : TimerOk T) (fls : List FLabel) (f f' : FSys) (o : List Seq) (b : Bool)
    (hb : needArmed T f = true → b = true) (hinv : FInv f) (hcl : CInv f)
    (h : FSys.run T f fls = some (f', o)) : Sim T f f' b o := by
  induction fls generalizing f o b with
  | nil =>
    obtain ⟨rfl, rfl⟩ := orun_nil_some (frun_eq T f _ ▸ h)
    exact ⟨[], b, [], rfl, hb, by simp⟩
  | cons l fls ih =>
    obtain ⟨f1, o1, o2, h1, h2, rfl⟩ := orun_cons_some (frun_eq T f _ ▸ h)
    obtain ⟨ls1, b1, oa1, hr1, hb1, hp1⟩ := sim_step T hT f f1 l o1 b hb hinv hcl h1
    obtain ⟨ls2, b2, oa2, hr2, hb2, hp2⟩ := ih f1 o2 b1 hb1 (step_inv T hT f f1 l o1 hinv h1)
      (step_CInv T f f1 l o1 hcl h1) (frun_eq T f1 fls ▸ h2)
    refine ⟨ls1 ++ ls2, b2, oa1 ++ oa2, sys_run_append T _ ls1 ls2 _ _ _ _ _ hr1 hr2, hb2, ?_⟩
    rw [← List.append_assoc, hp1, List.append_assoc, hp2, List.append_assoc]

theorem abs_init (T : Table) : abs T FSys.init false = Sys.init := by
  simp [abs, absPs, absPc, FSys.init, Sys.init, nMid, nFresh, nStale]

/-- The ESC arm of `anywhere` returns `escape`, not nil. -/
theorem handTable_timerOk : TimerOk handTable := by
  intro ps r hs
  rw [startsTimer_hand]
  by_cases hr : r = 0x1B
  · subst hr
    exfalso
    cases he : ps.exit with
    | none => have := VaxisModel.Lemmas.Parser.pstep_esc ps he; simp only [pstep] at this; rw [this] at hs; cases hs
    | some f => have := VaxisModel.Lemmas.Parser.pstep_esc_exit ps f he; simp only [pstep] at this; rw [this] at hs; cases hs
  · simp [hr]

theorem reach_sim (T : Table) (hT : TimerOk T) (fls : List FLabel) (f : FSys) (out : List Seq)
    (h : FSys.run T FSys.init fls = some (f, out)) :
    FInv f ∧ CInv f ∧ ∃ ls b oa, Sys.run T Cfg.fixed Sys.init ls = some (abs T f b, oa) ∧
      (needArmed T f = true → b = true) ∧ oa = out ++ pend T f := by
  refine ⟨run_inv T hT fls _ f out FInv_init h, run_CInv T fls _ f out CInv_init h, ?_⟩
  · obtain ⟨ls, b, oa, h1, h2, h3⟩ := run_sim T hT fls FSys.init f out false (by simp [needArmed, FSys.init])
      FInv_init CInv_init h
    rw [abs_init] at h1
    refine ⟨ls, b, oa, h1, h2, ?_⟩
    simpa [pend, FSys.init] using h3

theorem absPc_done_pend (T : Table) (f : FSys) (h : absPc T f = .done) :
    (pend T f = [] ∧ ((∃ v, f.mpc = .fin .close v) ∨ f.mpc = .done)) ∨ ∃ X, pend T f = X ++ [.eof] := by
  cases hpc : f.mpc with
  | bumped i =>
    right
    simp only [absPc, hpc] at h
    split at h
    · rename_i hs; exact ⟨(VaxisModel.Model.Parser.step T f.ps i).out, by simp [pend, hpc, hs]⟩
    · cases h
  | stepped stop =>
    cases stop with
    | true => right; exact ⟨[], by simp [pend, hpc]⟩
    | false => simp [absPc, hpc] at h
  | fin st v =>
    cases st with
    | close => left; exact ⟨by simp [pend, hpc], Or.inl ⟨_, rfl⟩⟩
    | unlock => right; exact ⟨[], by simp [pend, hpc]⟩
    | emit => right; exact ⟨[], by simp [pend, hpc]⟩
    | stop => cases v with
      | true => right; exact ⟨[], by simp [pend, hpc]⟩
      | false => simp [absPc, hpc] at h
    | lock => cases v with
      | true => right; exact ⟨[], by simp [pend, hpc]⟩
      | false => simp [absPc, hpc] at h
    | bump => cases v with
      | true => right; exact ⟨[], by simp [pend, hpc]⟩
      | false => simp [absPc, hpc] at h
  | done => left; exact ⟨by simp [pend, hpc], Or.inr rfl⟩
  | _ => simp [absPc, hpc] at h

/-- Past its `emit(EOF{})` the main goroutine stands for the finished atomic system and nothing is pending (the
    converse of `absPc_done_pend`). -/
theorem past_eof_abs (T : Table) (f : FSys) (b : Bool) (hpc : (∃ v, f.mpc = .fin .close v) ∨ f.mpc = .done) :
    (abs T f b).pc = .done ∧ pend T f = [] := by
  rcases hpc with ⟨v, hpc⟩ | hpc
  · cases v <;> simp [abs, absPc, pend, hpc]
  · simp [abs, absPc, pend, hpc]

theorem pend_quiescent (T : Table) (f : FSys) (h : f.mpc = .atSelect ∨ f.mpc = .inRead ∨ f.mpc = .done) :
    pend T f = [] := by
  rcases h with h | h | h <;> simp [pend, h]

theorem closed_step_silent (T : Table) (f f' : FSys) (l : FLabel) (o : List Seq) (hinv : FInv f)
    (hc : f.chanClosed = true) (h : FSys.step T f l = some (f', o)) : o = [] ∧ f'.chanClosed = true := by
  have hd := hinv.c1 hc
  cases fstep_rel h with
  | closeSig => exact ⟨rfl, hc⟩
  | readRet i hpc => rw [hd] at hpc; cases hpc
  | main _ => simp [FSys.step, mainStep, hd] at h
  | expire g ha => rw [armed_none hinv (by rw [hd]; rfl)] at ha; cases ha
  | cb i hcb =>
    cases hcb
    case emit g hi =>
      exfalso
      have hmem : (g, CbPc.passed) ∈ f.cbs := List.mem_of_getElem? hi
      have h1 := hinv.p1 _ hmem rfl
      have h2 := (hinv.g1 _ hmem).2 (by rw [hd]; rfl)
      simp only at h1 h2; omega
    all_goals exact ⟨rfl, hc⟩

/-- A callback that is about to report the Escape key: it holds the mutex, saw the current
    generation, the channel is open — and (atomic invariant) the parser is in the escape state. -/
theorem esc_report_state (f : FSys) (hinv : FInv f) (i g : Nat) (hi : f.cbs[i]? = some (g, .passed))
    (b : Bool) (hs : SInv (abs handTable f b)) :
    f.mutex = some .cb ∧ g = f.escGen ∧ f.chanClosed = false ∧ f.ps.state = .escape := by
  have hmem : (g, CbPc.passed) ∈ f.cbs := List.mem_of_getElem? hi
  obtain ⟨hm, hnh, hn1⟩ := cb_excl f hinv i g _ hi rfl
  have hge : g = f.escGen := hinv.p1 _ hmem rfl
  subst hge
  obtain ⟨hns, hcc⟩ := current_open hinv hmem rfl
  refine ⟨hm, rfl, hcc, ?_⟩
  have s4 := nCrit_set f.cbs i f.escGen _ .gone hi
  have s5 := nMid_set f.cbs i f.escGen _ .gone hi
  have s6 := nMid_le_nCrit (f.cbs.set i (f.escGen, .gone))
  simp [mid, crit] at s4 s5
  have hmid0 : nMid f.cbs = 0 := by omega
  have hfr : 0 < nFresh f.escGen f.cbs := List.countP_pos_iff.mpr ⟨_, hmem, by simp [pre3]⟩
  obtain ⟨e1, _, _⟩ := abs_nb handTable f b (not_bumped hnh)
  rw [e1] at hs
  have hnd : absPcNB f.mpc ≠ .done := by
    cases hpc : f.mpc with
    | stepped sb => rw [hpc] at hns; cases sb <;> simp_all [strict, absPcNB]
    | fin st v => rw [hpc] at hns; cases st <;> cases v <;> simp_all [strict, absPcNB]
    | done => rw [hpc] at hns; cases hns
    | bumped i => rw [hpc] at hns; cases hns
    | _ => simp [absPcNB]
  have := (hs hnd).2.1 (Or.inr (by simp [hfr]))
  simpa [hmid0] using this

theorem crit_cb_enabled (f : FSys) (i g : Nat) (pc : CbPc) (hi : f.cbs[i]? = some (g, pc)) (hc : crit pc = true) :
    (cbStep f i).isSome = true := by
  unfold cbStep
  rw [hi]
  cases pc <;> simp_all [crit]

/-- The mutex is never held for ever: if the main goroutine is not blocked in the read and not
    finished, either its next statement is enabled or the callback that holds the mutex can move. -/
theorem no_deadlock (T : Table) (f : FSys) (hinv : FInv f) (h1 : f.mpc ≠ .inRead) (h2 : f.mpc ≠ .done) :
    (mainStep T f).isSome = true ∨ ∃ i, (cbStep f i).isSome = true := by
  by_cases hm : f.mutex = none
  · left
    cases hpc : f.mpc with
    | fin st v => cases st <;> simp [mainStep, hpc, hm]
    | atSelect => simp only [mainStep, hpc]; split <;> rfl
    | _ => simp_all [mainStep]
  · by_cases hmm : f.mutex = some .main
    · left
      have hh := hinv.m1.mp hmm
      cases hpc : f.mpc with
      | fin st v => cases st <;> simp_all [mainStep, holdsMain]
      | _ => simp_all [mainStep, holdsMain]
    · right
      have hcb : f.mutex = some .cb := by
        cases hx : f.mutex with
        | none => exact absurd hx hm
        | some ow => cases ow with
          | main => exact absurd hx hmm
          | cb => rfl
      have hn := hinv.m2
      rw [if_pos hcb] at hn
      have hpos : 0 < nCrit f.cbs := by omega
      obtain ⟨c, hc, hcc⟩ := List.countP_pos_iff.mp hpos
      obtain ⟨i, hi⟩ := List.getElem?_of_mem hc
      exact ⟨i, crit_cb_enabled f i c.1 c.2 hi hcc⟩

/-- Quiescent: nobody holds the mutex, the main goroutine is at the `select`, blocked in the read, or
    finished, and every callback goroutine has either not locked yet or has returned. -/
structure Quiet (f : FSys) : Prop where
  mu : f.mutex = none
  pc : f.mpc = .atSelect ∨ f.mpc = .inRead ∨ f.mpc = .done
  cbs : ∀ c ∈ f.cbs, c.2 = .started ∨ c.2 = .gone

theorem Quiet.nocrit {f : FSys} (q : Quiet f) : ∀ c ∈ f.cbs, crit c.2 = false := by
  intro c hc; rcases q.cbs c hc with h | h <;> rw [h] <;> rfl

theorem Quiet.nMid {f : FSys} (q : Quiet f) : nMid f.cbs = 0 := by
  apply List.countP_eq_zero.mpr
  intro c hc; rcases q.cbs c hc with h | h <;> rw [h] <;> simp [mid]

theorem Quiet.holds {f : FSys} (q : Quiet f) : holdsMain f.mpc = false := by
  rcases q.pc with h | h | h <;> rw [h] <;> rfl

/-- The atomic state a quiescent state stands for (no slack in `armed` here). -/
def absQ (T : Table) (f : FSys) : Sys := abs T f f.armed.isSome

theorem absQ_eq (T : Table) (f : FSys) (q : Quiet f) :
    absQ T f = ⟨f.ps, absPcNB f.mpc, f.armed.isSome, f.closeReq, decide (absPcNB f.mpc = .done),
      decide (0 < nFresh f.escGen f.cbs), nStale f.escGen f.cbs⟩ := by
  have := (abs_nb T f f.armed.isSome (not_bumped q.holds)).1
  rw [absQ, this, q.nMid]; simp

def Conv (T : Table) (f : FSys) (a' : Sys) (o : List Seq) : Prop :=
  ∃ fls f', FSys.run T f fls = some (f', o) ∧ Quiet f' ∧ a' = absQ T f'

theorem conv_closeSig (T : Table) (f : FSys) (q : Quiet f) :
    Conv T f { absQ T f with closeReq := true } [] := by
  have q' : Quiet { f with closeReq := true } := ⟨q.mu, q.pc, q.cbs⟩
  refine ⟨[.closeSig], { f with closeReq := true }, by simp [FSys.run, FSys.step], q', ?_⟩
  rw [absQ_eq T f q, absQ_eq T _ q']

theorem conv_enterRead (T : Table) (f : FSys) (q : Quiet f) (hpc : f.mpc = .atSelect) (hc : f.closeReq = false) :
    Conv T f { absQ T f with pc := .inRead } [] := by
  have q' : Quiet { f with mpc := .inRead } := ⟨q.mu, Or.inr (Or.inl rfl), q.cbs⟩
  refine ⟨[.main], { f with mpc := .inRead }, by simp [FSys.run, FSys.step, mainStep, hpc, hc], q', ?_⟩
  rw [absQ_eq T f q, absQ_eq T _ q']
  simp [hpc, absPcNB]

theorem quiet_outdate (f : FSys) (hinv : FInv f) (q : Quiet f) :
    nStale (f.escGen + 1) f.cbs = nStale f.escGen f.cbs + (if decide (0 < nFresh f.escGen f.cbs) = true then 1 else 0) ∧
    nFresh (f.escGen + 1) f.cbs = 0 ∧ nStale (f.escGen + 1 + 1) f.cbs = nStale (f.escGen + 1) f.cbs ∧
    nFresh (f.escGen + 1 + 1) f.cbs = 0 := by
  obtain ⟨hst, hfr⟩ := outdate_count f.escGen f.cbs (fun c hc => (hinv.g1 c hc).1) q.nocrit
  obtain ⟨hst2, hfr2⟩ := outdate_count (f.escGen + 1) f.cbs (fun c hc => Nat.le_succ_of_le (hinv.g1 c hc).1) q.nocrit
  have hu1 := hinv.u1
  refine ⟨?_, hfr, by omega, hfr2⟩
  rw [hst]
  by_cases h : 0 < nFresh f.escGen f.cbs
  · simp [h]; omega
  · simp [h]; omega

theorem conv_read_go (T : Table) (f : FSys) (hinv : FInv f) (q : Quiet f) (hpc : f.mpc = .inRead) (i : Inp)
    (hstop : stops T f.ps i = false) :
    Conv T f { (absQ T f).outdate with ps := (VaxisModel.Model.Parser.step T f.ps i).st, pc := .atSelect, armed := arms T i }
      (VaxisModel.Model.Parser.step T f.ps i).out := by
  let f' : FSys := { f with ps := (VaxisModel.Model.Parser.step T f.ps i).st, escGen := f.escGen + 1, mpc := .atSelect,
                            armed := if arms T i then some (f.escGen + 1) else none }
  have q' : Quiet f' := ⟨q.mu, Or.inl rfl, q.cbs⟩
  obtain ⟨h1, h2, _, _⟩ := quiet_outdate f hinv q
  refine ⟨[.readRet i, .main, .main, .main, .main, .main], f', ?_, q', ?_⟩
  · simp [FSys.run, FSys.step, mainStep, hpc, q.mu, hstop, f']
  · rw [absQ_eq T f q, absQ_eq T f' q']
    simp only [f', Sys.outdate, hpc, absPcNB, h1, h2]
    cases arms T i <;> simp

theorem conv_read_stop (T : Table) (f : FSys) (hinv : FInv f) (q : Quiet f) (hpc : f.mpc = .inRead) (i : Inp)
    (hstop : stops T f.ps i = true) (harm : arms T i = false) :
    Conv T f (finishing (absQ T f) (VaxisModel.Model.Parser.step T f.ps i).st (VaxisModel.Model.Parser.step T f.ps i).out).1
      ((VaxisModel.Model.Parser.step T f.ps i).out ++ [.eof]) := by
  let f' : FSys := { f with ps := (VaxisModel.Model.Parser.step T f.ps i).st, escGen := f.escGen + 1 + 1, mpc := .done,
                            armed := none, chanClosed := true }
  have q' : Quiet f' := ⟨q.mu, Or.inr (Or.inr rfl), q.cbs⟩
  obtain ⟨h1, h2, h3, h4⟩ := quiet_outdate f hinv q
  refine ⟨[.readRet i, .main, .main, .main, .main, .main, .main, .main, .main, .main, .main, .main], f', ?_, q', ?_⟩
  · simp [FSys.run, FSys.step, mainStep, hpc, q.mu, hstop, harm, f']
  · rw [absQ_eq T f q, absQ_eq T f' q']
    simp [f', finishing, Sys.outdate, absPcNB, h1, h3, h4]

theorem conv_breakClose (T : Table) (f : FSys) (hinv : FInv f) (q : Quiet f) (hpc : f.mpc = .atSelect)
    (hc : f.closeReq = true) :
    Conv T f (finishing (absQ T f) f.ps []).1 [.eof] := by
  let f' : FSys := { f with escGen := f.escGen + 1, mpc := .done, armed := none, chanClosed := true }
  have q' : Quiet f' := ⟨q.mu, Or.inr (Or.inr rfl), q.cbs⟩
  obtain ⟨h1, h2, h3, h4⟩ := quiet_outdate f hinv q
  refine ⟨[.main, .main, .main, .main, .main, .main, .main], f', ?_, q', ?_⟩
  · simp [FSys.run, FSys.step, mainStep, hpc, q.mu, hc, f']
  · rw [absQ_eq T f q, absQ_eq T f' q']
    simp [f', finishing, Sys.outdate, absPcNB, h1, h2]

theorem cb_run_fresh (T : Table) (f : FSys) (k : Nat) (hk : f.cbs[k]? = some (f.escGen, .started)) (hm : f.mutex = none) :
    FSys.run T f [.cb k, .cb k, .cb k, .cb k, .cb k, .cb k] =
      some ({ f with ps := { f.ps with state := .ground, ignoreST := false }, cbs := f.cbs.set k (f.escGen, .gone) },
            [if f.chanClosed then .panic else .c0 0x1B]) := by
  have e1 := getElem?_set_self_of (f.escGen, CbPc.locked) hk
  have e2 := getElem?_set_self_of (f.escGen, CbPc.passed) hk
  have e3 := getElem?_set_self_of (f.escGen, CbPc.emitted) hk
  have e4 := getElem?_set_self_of (f.escGen, CbPc.stateSet) hk
  have e5 := getElem?_set_self_of (f.escGen, CbPc.stSet) hk
  simp [FSys.run, FSys.step, cbStep, hk, hm, e1, e2, e3, e4, e5, List.set_set]

/-- An out-of-date callback: Lock, failed check, Unlock. -/
theorem cb_run_stale (T : Table) (f : FSys) (k g : Nat) (hk : f.cbs[k]? = some (g, .started)) (hm : f.mutex = none)
    (hg : g ≠ f.escGen) :
    FSys.run T f [.cb k, .cb k, .cb k] = some ({ f with cbs := f.cbs.set k (g, .gone) }, []) := by
  have e1 := getElem?_set_self_of (g, CbPc.locked) hk
  have e2 := getElem?_set_self_of (g, CbPc.failed) hk
  simp [FSys.run, FSys.step, cbStep, hk, hm, e1, e2, hg, List.set_set]
theorem quiet_set (f : FSys) (q : Quiet f) (k g : Nat) :
    ∀ c ∈ f.cbs.set k (g, .gone), c.2 = .started ∨ c.2 = .gone :=
  forall_set _ _ _ _ q.cbs (Or.inr rfl)

theorem conv_timerExpire (T : Table) (f : FSys) (hinv : FInv f) (q : Quiet f) (ha : f.armed.isSome = true) :
    Conv T f { absQ T f with armed := false, fresh := true } [] := by
  cases hg : f.armed with
  | none => rw [hg] at ha; cases ha
  | some g =>
    have hge := (hinv.g2 g hg).1
    let f' : FSys := { f with armed := none, cbs := f.cbs ++ [(g, .started)] }
    have q' : Quiet f' := ⟨q.mu, q.pc, fun c hc => by
      rcases List.mem_append.mp hc with h | h
      · exact q.cbs c h
      · simp only [List.mem_singleton] at h; subst h; exact Or.inl rfl⟩
    refine ⟨[.expire], f', by simp [FSys.run, FSys.step, hg, f'], q', ?_⟩
    rw [absQ_eq T f q, absQ_eq T f' q']
    have hn2 : nStale f.escGen (f.cbs ++ [(g, .started)]) = nStale f.escGen f.cbs := by
      simp [nStale, List.countP_append, hge]
    have hn3 : 0 < nFresh f.escGen (f.cbs ++ [(g, .started)]) := by
      simp [nFresh, List.countP_append, hge, pre3]
    simp [f', hn2, hn3]

theorem conv_timerFire (T : Table) (f : FSys) (hinv : FInv f) (q : Quiet f) (ha : f.armed.isSome = true)
    (hpc : f.mpc = .inRead) :
    Conv T f { absQ T f with ps := timerReset true (absQ T f).ps, armed := false } [.c0 0x1B] := by
  cases hg : f.armed with
  | none => rw [hg] at ha; cases ha
  | some g =>
    have hge := (hinv.g2 g hg).1
    subst hge
    have hcc : f.chanClosed = false := by
      cases hc : f.chanClosed with
      | false => rfl
      | true => have := hinv.c1 hc; rw [hpc] at this; cases this
    let f1 : FSys := { f with armed := none, cbs := f.cbs ++ [(f.escGen, .started)] }
    let f' : FSys := { f with ps := { f.ps with state := .ground, ignoreST := false }, armed := none,
                              cbs := f.cbs ++ [(f.escGen, .gone)] }
    have q' : Quiet f' := ⟨q.mu, q.pc, fun c hc => by
      rcases List.mem_append.mp hc with h | h
      · exact q.cbs c h
      · simp only [List.mem_singleton] at h; subst h; exact Or.inr rfl⟩
    have hrun := cb_run_fresh T f1 f.cbs.length List.getElem?_concat_length q.mu
    refine ⟨[.expire, .cb f.cbs.length, .cb f.cbs.length, .cb f.cbs.length, .cb f.cbs.length, .cb f.cbs.length,
      .cb f.cbs.length], f', ?_, q', ?_⟩
    · rw [FSys.run]
      simp only [FSys.step, hg]
      rw [show ({ f with armed := none, cbs := f.cbs ++ [(f.escGen, CbPc.started)] } : FSys) = f1 from rfl, hrun]
      simp [f1, f', hcc]
    · rw [absQ_eq T f q, absQ_eq T f' q']
      have hn1 : nFresh f.escGen (f.cbs ++ [(f.escGen, .gone)]) = nFresh f.escGen f.cbs := by
        simp [nFresh, List.countP_append, pre3]
      have hn2 : nStale f.escGen (f.cbs ++ [(f.escGen, .gone)]) = nStale f.escGen f.cbs := by
        simp [nStale, List.countP_append]
      simp [f', hn1, hn2, timerReset]

theorem conv_cbRun_fresh (T : Table) (f : FSys) (hinv : FInv f) (q : Quiet f)
    (hf : 0 < nFresh f.escGen f.cbs) :
    Conv T f { absQ T f with ps := timerReset true (absQ T f).ps, fresh := false } [.c0 0x1B] := by
  obtain ⟨c, hc, hp⟩ := List.countP_pos_iff.mp hf
  obtain ⟨g, pc⟩ := c
  simp only [Bool.and_eq_true, decide_eq_true_eq] at hp
  obtain ⟨hg, hp3⟩ := hp
  subst hg
  have hst : pc = .started := by
    rcases q.cbs _ hc with h | h
    · exact h
    · simp only at h; subst h; cases hp3
  subst hst
  obtain ⟨k, hk⟩ := List.getElem?_of_mem hc
  obtain ⟨hns, hcc⟩ := current_open hinv hc rfl
  let f' : FSys := { f with ps := { f.ps with state := .ground, ignoreST := false }, cbs := f.cbs.set k (f.escGen, .gone) }
  have q' : Quiet f' := ⟨q.mu, q.pc, quiet_set f q k _⟩
  refine ⟨[.cb k, .cb k, .cb k, .cb k, .cb k, .cb k], f', ?_, q', ?_⟩
  · rw [cb_run_fresh T f k hk q.mu]; simp [f', hcc]
  · rw [absQ_eq T f q, absQ_eq T f' q']
    have s1 := nFresh_set f.escGen f.cbs k f.escGen _ .gone hk
    have s2 := nStale_set f.escGen f.cbs k f.escGen _ .gone hk
    have hu1 := hinv.u1
    simp [pre3, pre2] at s1 s2
    have : nFresh f.escGen (f.cbs.set k (f.escGen, .gone)) = 0 := by omega
    simp [f', this, s2, timerReset]

theorem conv_cbRun_stale (T : Table) (f : FSys) (q : Quiet f) (hs : 0 < nStale f.escGen f.cbs) :
    Conv T f { absQ T f with stale := (absQ T f).stale - 1 } [] := by
  obtain ⟨c, hc, hp⟩ := List.countP_pos_iff.mp hs
  obtain ⟨g, pc⟩ := c
  simp only [Bool.and_eq_true, Bool.not_eq_true', decide_eq_false_iff_not] at hp
  obtain ⟨hg, hp2⟩ := hp
  have hst : pc = .started := by
    rcases q.cbs _ hc with h | h
    · exact h
    · simp only at h; subst h; cases hp2
  subst hst
  obtain ⟨k, hk⟩ := List.getElem?_of_mem hc
  let f' : FSys := { f with cbs := f.cbs.set k (g, .gone) }
  have q' : Quiet f' := ⟨q.mu, q.pc, quiet_set f q k _⟩
  refine ⟨[.cb k, .cb k, .cb k], f', cb_run_stale T f k g hk q.mu hg, q', ?_⟩
  rw [absQ_eq T f q, absQ_eq T f' q']
  have s1 := nFresh_set f.escGen f.cbs k g _ .gone hk
  have s2 := nStale_set f.escGen f.cbs k g _ .gone hk
  simp [pre3, pre2, hg] at s1 s2
  simp [f', s1, ← s2]

theorem absQ_fields (T : Table) (f : FSys) (q : Quiet f) :
    (absQ T f).ps = f.ps ∧ (absQ T f).armed = f.armed.isSome ∧ (absQ T f).closeReq = f.closeReq ∧
    (absQ T f).fresh = decide (0 < nFresh f.escGen f.cbs) ∧ (absQ T f).stale = nStale f.escGen f.cbs ∧
    ((absQ T f).pc = .atSelect → f.mpc = .atSelect) ∧ ((absQ T f).pc = .inRead → f.mpc = .inRead) := by
  rw [absQ_eq T f q]
  refine ⟨rfl, rfl, rfl, rfl, rfl, ?_, ?_⟩
  · rcases q.pc with h | h | h <;> simp [h, absPcNB]
  · rcases q.pc with h | h | h <;> simp [h, absPcNB]

/-- **Every atomic step is a schedule of statements** between quiescent states. -/
theorem conv_step (T : Table) (hT : TimerOk T) (f : FSys) (hinv : FInv f) (q : Quiet f) (l : Label)
    (a' : Sys) (o : List Seq) (h : Sys.step T Cfg.fixed (absQ T f) l = some (a', o)) : Conv T f a' o := by
  obtain ⟨eps, ear, ecl, efr, est, epa, epi⟩ := absQ_fields T f q
  cases step_rel h with
  | closeSig => exact conv_closeSig T f q
  | enterRead hc1 hc2 => exact conv_enterRead T f q (epa hc1) (by rw [← ecl]; exact hc2)
  | breakClose hc1 hc2 =>
    have := conv_breakClose T f hinv q (epa hc1) (by rw [← ecl]; exact hc2)
    rw [eps]; simpa [finishing] using this
  | readStop r hc hs =>
    rw [eps] at hs ⊢
    have := conv_read_stop T f hinv q (epi hc) (.rune r) hs (hT f.ps r hs)
    simpa [finishing] using this
  | readGo r hc hs =>
    rw [eps] at hs ⊢
    exact conv_read_go T f hinv q (epi hc) (.rune r) (by simpa [stops] using hs)
  | readEnd hc =>
    rw [eps]
    have := conv_read_stop T f hinv q (epi hc) .eof rfl rfl
    simpa [finishing] using this
  | timerFire ha hc => exact conv_timerFire T f hinv q (by rw [← ear]; exact ha) (epi hc)
  | timerExpire hc => exact conv_timerExpire T f hinv q (by rw [← ear]; exact hc)
  | cbFresh hc =>
    have := conv_cbRun_fresh T f hinv q (by rw [efr] at hc; simpa using hc)
    simpa [Cfg.fixed] using this
  | cbStaleGuarded hc _ => exact conv_cbRun_stale T f q (by rw [← est]; exact hc)
  | cbStale _ hg => cases hg

theorem conv_run (T : Table) (hT : TimerOk T) (ls : List Label) (f : FSys) (hinv : FInv f) (q : Quiet f)
    (a' : Sys) (oa : List Seq) (h : Sys.run T Cfg.fixed (absQ T f) ls = some (a', oa)) :
    ∃ fls f', FSys.run T f fls = some (f', oa) ∧ Quiet f' ∧ a' = absQ T f' := by
  induction ls generalizing f oa with
  | nil =>
    obtain ⟨rfl, rfl⟩ := orun_nil_some (run_eq T _ _ _ ▸ h)
    exact ⟨[], f, rfl, q, rfl⟩
  | cons l ls ih =>
    obtain ⟨a1, o1, o2, h1, h2, rfl⟩ := sys_run_cons_inv h
    obtain ⟨fls1, f1, hr1, q1, e1⟩ := conv_step T hT f hinv q l a1 o1 h1
    subst e1
    obtain ⟨fls2, f2, hr2, q2, e2⟩ := ih f1 (run_inv T hT fls1 f f1 o1 hinv hr1) q1 o2 h2
    exact ⟨fls1 ++ fls2, f2, frun_append T fls1 fls2 f f1 f2 o1 o2 hr1 hr2, q2, e2⟩

theorem quiet_init : Quiet FSys.init := ⟨rfl, Or.inl rfl, by simp [FSys.init]⟩

theorem absQ_init (T : Table) : absQ T FSys.init = Sys.init := abs_init T

/-- Emitting statements are serialised: while a callback is at its `emit`, the main goroutine is at
    neither of its emitting statements and no other callback is at its `emit`. -/
theorem single_emitter (f : FSys) (hinv : FInv f) (i g : Nat) (hi : f.cbs[i]? = some (g, .passed)) :
    (∀ inp, f.mpc ≠ .bumped inp) ∧ (∀ v, f.mpc ≠ .fin .emit v) ∧
    (∀ j g', f.cbs[j]? = some (g', .passed) → j = i) := by
  have hmem : (g, CbPc.passed) ∈ f.cbs := List.mem_of_getElem? hi
  obtain ⟨hm, hnh, hn1⟩ := cb_excl f hinv i g _ hi rfl
  have hge : g = f.escGen := hinv.p1 _ hmem rfl
  have hns := (current_open hinv hmem hge).1
  refine ⟨?_, ?_, ?_⟩
  · intro inp h; rw [h] at hnh; cases hnh
  · intro v h; rw [h] at hns; cases v <;> cases hns
  intro j g' hj
  by_cases hji : j = i
  · exact hji
  · exfalso
    have s4 := nCrit_set f.cbs i g _ .gone hi
    simp [crit] at s4
    have h0 : nCrit (f.cbs.set i (g, .gone)) = 0 := by omega
    have hj' : (f.cbs.set i (g, .gone))[j]? = some (g', .passed) := by
      rw [List.getElem?_set_ne (fun h => hji h.symm)]; exact hj
    have := nCrit_zero h0 _ (List.mem_of_getElem? hj')
    cases this

end VaxisModel.Lemmas.ParserRunFine
