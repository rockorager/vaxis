/-
C08: the bounded channel on the statement-grained life cycle (Model/ParserRunFineChan.lean):
invariant, projection onto the statement-grained system without channel, blocking and progress.
-/
import VaxisModel.Model.ParserRunFineChan
import VaxisModel.Lemmas.ParserRunFine

namespace VaxisModel.Lemmas.ParserRunFineChan
open VaxisModel.Model.ParserTable VaxisModel.Model.Parser VaxisModel.Model.ParserRun VaxisModel.Model.ParserRunFine
open VaxisModel.Model.ParserRunFineChan VaxisModel.Lemmas.ParserRunFine

/-- Invariant of the layer: the statement-grained invariant; items of `anywhere` are pending only
    while the main goroutine sits between `anywhere` and its `Unlock`; the channel is within capacity. -/
structure CI (cap : Nat) (s : FCSys) : Prop where
  inv : FInv s.f
  pendAt : s.pend ≠ [] → ∃ b, s.f.mpc = .stepped b
  bound : s.chan.length ≤ cap

theorem CI_init (cap : Nat) : CI cap FCSys.init := ⟨FInv_init, by simp [FCSys.init], by simp [FCSys.init]⟩

/-- Where items are emitted: `anywhere`, `emit(EOF{})`, a callback's `emit(C0 0x1B)`. -/
theorem emit_sites (T : Table) (f f' : FSys) (l : FLabel) (o : List Seq) (h : FSys.step T f l = some (f', o))
    (ho : o ≠ []) :
    (l = .main ∧ atAnywhere f.mpc = true) ∨ (l = .main ∧ (∃ v, f.mpc = .fin .emit v) ∧ o.length = 1) ∨
    (∃ i g, l = .cb i ∧ f.cbs[i]? = some (g, .passed) ∧ o.length = 1) := by
  cases fstep_rel h with
  | main hm =>
    cases hm
    case anywhere hpc => exact Or.inl ⟨rfl, by simp [atAnywhere, hpc]⟩
    case finEmit v hpc => exact Or.inr (Or.inl ⟨rfl, ⟨v, hpc⟩, rfl⟩)
    all_goals exact absurd rfl ho
  | cb i hc =>
    cases hc
    case emit g hi => exact Or.inr (Or.inr ⟨i, g, rfl, hi, rfl⟩)
    all_goals exact absurd rfl ho
  | _ => exact absurd rfl ho

theorem mpc_other (T : Table) (f f' : FSys) (l : FLabel) (o : List Seq) (h : FSys.step T f l = some (f', o))
    (hl : isMainL l = false) : f'.mpc = f.mpc ∨ f.mpc = .inRead := by
  cases fstep_rel h with
  | main _ => cases hl
  | readRet i hpc => exact Or.inr hpc
  | cb i _ => exact Or.inl (cbStep_frame f f' i o h).1
  | _ => exact Or.inl rfl

theorem mpc_anywhere (T : Table) (f f' : FSys) (o : List Seq) (h : FSys.step T f .main = some (f', o))
    (ha : atAnywhere f.mpc = true) : ∃ b, f'.mpc = .stepped b := by
  cases fstep_rel h with
  | main hm =>
    cases hm
    case anywhere i hpc => exact ⟨_, rfl⟩
    all_goals simp_all [atAnywhere]

/-- What `FCSys.step` does: a send of a pending item of `anywhere`, a receive, `p.state = anywhere(r, p)` (its items
    become pending), a statement that emits nothing, a statement whose items go into the channel. -/
inductive FCStep (T : Table) (cap : Nat) (s : FCSys) : FCLabel → FCSys → Prop
  | send (x : Seq) (p : List Seq) : s.pend = x :: p → s.chan.length < cap →
      FCStep T cap s .send { s with chan := s.chan ++ [x], pend := p }
  | recv (x : Seq) (ch : List Seq) : s.chan = x :: ch → FCStep T cap s .recv { s with chan := ch, recvd := s.recvd ++ [x] }
  | anywhere (f' : FSys) (o : List Seq) : s.pend = [] → atAnywhere s.f.mpc = true →
      FSys.step T s.f .main = some (f', o) → FCStep T cap s (.stmt .main) { s with f := f', pend := o }
  | silent (fl : FLabel) (f' : FSys) : (isMainL fl = true → s.pend = [] ∧ atAnywhere s.f.mpc = false) →
      FSys.step T s.f fl = some (f', []) → FCStep T cap s (.stmt fl) { s with f := f' }
  | emit (fl : FLabel) (f' : FSys) (o : List Seq) : (isMainL fl = true → s.pend = [] ∧ atAnywhere s.f.mpc = false) →
      FSys.step T s.f fl = some (f', o) → o ≠ [] → s.chan.length + o.length ≤ cap →
      FCStep T cap s (.stmt fl) { s with f := f', chan := s.chan ++ o }

theorem fcstep_rel {T : Table} {cap : Nat} {s s' : FCSys} {l : FCLabel} (h : FCSys.step T cap s l = some s') :
    FCStep T cap s l s' := by
  cases l with
  | send =>
    simp only [FCSys.step] at h
    cases hp : s.pend with
    | nil => rw [hp] at h; cases h
    | cons x p =>
      rw [hp] at h; simp only at h
      split at h <;> cases h
      rename_i hroom; exact .send x p hp hroom
  | recv =>
    simp only [FCSys.step] at h
    cases hc : s.chan with
    | nil => rw [hc] at h; cases h
    | cons x ch => rw [hc] at h; cases h; exact .recv x ch hc
  | stmt fl =>
    simp only [FCSys.step] at h
    by_cases hg : (isMainL fl && !s.pend.isEmpty) = true
    · rw [if_pos hg] at h; cases h
    · rw [if_neg hg] at h
      -- the main goroutine only moves with nothing pending
      have hmainp : isMainL fl = true → s.pend = [] := by
        intro hm
        simp only [hm, Bool.true_and, Bool.not_eq_true'] at hg
        cases hp : s.pend with
        | nil => rfl
        | cons x p => rw [hp] at hg; simp at hg
      cases hfs : FSys.step T s.f fl with
      | none => rw [hfs] at h; cases h
      | some res =>
        obtain ⟨f', o⟩ := res
        rw [hfs] at h; simp only at h
        by_cases ha : (isMainL fl && atAnywhere s.f.mpc) = true
        · rw [if_pos ha] at h; cases h
          simp only [Bool.and_eq_true] at ha
          have hfl : fl = .main := by cases fl <;> first | rfl | (cases ha.1)
          subst hfl
          exact .anywhere f' o (hmainp rfl) ha.2 hfs
        · rw [if_neg ha] at h
          have hm : isMainL fl = true → s.pend = [] ∧ atAnywhere s.f.mpc = false := fun hm =>
            ⟨hmainp hm, by simpa [hm] using ha⟩
          by_cases ho : o.isEmpty = true
          · rw [if_pos ho] at h; cases h
            rw [List.isEmpty_iff.mp ho] at hfs
            exact .silent fl f' hm hfs
          · rw [if_neg ho] at h
            split at h <;> cases h
            rename_i hroom
            exact .emit fl f' o hm hfs (fun hh => ho (by rw [hh]; rfl)) hroom

/-- What one transition of the layer is in the system without channel, and what it does to the
    stream `recvd ++ chan ++ pend` (everything emitted so far, in order). -/
def StepProj (T : Table) (s s' : FCSys) : FCLabel → Prop
  | .stmt fl => ∃ o, FSys.step T s.f fl = some (s'.f, o) ∧
      s'.recvd ++ s'.chan ++ s'.pend = s.recvd ++ s.chan ++ s.pend ++ o
  | _ => s'.f = s.f ∧ s'.recvd ++ s'.chan ++ s'.pend = s.recvd ++ s.chan ++ s.pend

theorem step_proj (T : Table) (hT : TimerOk T) (cap : Nat) (s s' : FCSys) (l : FCLabel) (hci : CI cap s)
    (h : FCSys.step T cap s l = some s') : CI cap s' ∧ StepProj T s s' l := by
  cases fcstep_rel h with
  | send x p hp hroom =>
    refine ⟨⟨hci.inv, fun _ => hci.pendAt (by rw [hp]; simp), ?_⟩, rfl, ?_⟩
    · simp only [List.length_append, List.length_cons, List.length_nil]; omega
    · simp only [hp, List.append_assoc, List.cons_append, List.nil_append]
  | recv x ch hc =>
    refine ⟨⟨hci.inv, hci.pendAt, ?_⟩, rfl, ?_⟩
    · have := hci.bound; rw [hc] at this; simp only [List.length_cons] at this
      show ch.length ≤ cap; omega
    · simp only [hc, List.append_assoc, List.cons_append, List.nil_append]
  | anywhere f' o hp ha hfs =>
    refine ⟨⟨step_inv T hT s.f f' _ o hci.inv hfs, fun _ => mpc_anywhere T s.f f' o hfs ha, hci.bound⟩, o, hfs, ?_⟩
    simp only [hp, List.append_nil]
  | silent fl f' hm hfs =>
    refine ⟨⟨step_inv T hT s.f f' fl [] hci.inv hfs, ?_, hci.bound⟩, [], hfs, by simp⟩
    intro hpne
    obtain ⟨b, hb⟩ := hci.pendAt hpne
    have hnm : isMainL fl = false := by
      cases hml : isMainL fl with
      | false => rfl
      | true => exact absurd (hm hml).1 hpne
    rcases mpc_other T s.f f' fl [] hfs hnm with h1 | h1
    · exact ⟨b, by rw [h1, hb]⟩
    · rw [hb] at h1; cases h1
  | emit fl f' o hm hfs hone hroom =>
    -- nothing of `anywhere` is pending when another emit happens
    have hp : s.pend = [] := by
      cases hpe : s.pend with
      | nil => rfl
      | cons x p =>
        exfalso
        have hpne : s.pend ≠ [] := by rw [hpe]; simp
        obtain ⟨b, hb⟩ := hci.pendAt hpne
        rcases emit_sites T s.f f' fl o hfs hone with ⟨rfl, _⟩ | ⟨rfl, _⟩ | ⟨i, g, rfl, hi, _⟩
        · exact hpne (hm rfl).1
        · exact hpne (hm rfl).1
        · have := (cb_excl s.f hci.inv i g .passed hi rfl).2.1
          rw [hb] at this; cases this
    refine ⟨⟨step_inv T hT s.f f' fl o hci.inv hfs, fun hh => absurd hp hh, ?_⟩, o, hfs, ?_⟩
    · simp only [List.length_append]; exact hroom
    · simp only [hp, List.append_nil, List.append_assoc]

theorem fcRun_isRun (T : Table) (cap : Nat) : VaxisModel.Lemmas.Run.IsRun (FCSys.step T cap) (FCSys.run T cap) :=
  ⟨fun _ => rfl, fun s l ls => by simp only [FCSys.run]; cases FCSys.step T cap s l <;> rfl⟩

theorem run_proj (T : Table) (hT : TimerOk T) (cap : Nat) (ls : List FCLabel) (s s' : FCSys) (hci : CI cap s)
    (h : FCSys.run T cap s ls = some s') :
    CI cap s' ∧ ∃ out, FSys.run T s.f (stmtLabels ls) = some (s'.f, out) ∧
      s'.recvd ++ s'.chan ++ s'.pend = s.recvd ++ s.chan ++ s.pend ++ out := by
  refine (fcRun_isRun T cap).induction (C := fun s ls s' => CI cap s → CI cap s' ∧ ∃ out,
      FSys.run T s.f (stmtLabels ls) = some (s'.f, out) ∧
      s'.recvd ++ s'.chan ++ s'.pend = s.recvd ++ s.chan ++ s.pend ++ out)
    (fun s hci => ⟨hci, [], rfl, by simp⟩) (fun {s l s1 ls s'} hs _ ih hci => ?_) ls s s' h hci
  obtain ⟨hci1, hp⟩ := step_proj T hT cap s s1 l hci hs
  obtain ⟨hci', out, hr, ht⟩ := ih hci1
  refine ⟨hci', ?_⟩
  cases l with
  | stmt fl =>
    obtain ⟨o, ho1, ho2⟩ := hp
    refine ⟨o ++ out, ?_, ?_⟩
    · simp only [stmtLabels, FSys.run, ho1, hr]
    · rw [ht, ho2]; simp only [List.append_assoc]
  | send | recv =>
    obtain ⟨hf, hst⟩ := hp
    exact ⟨out, by simp only [stmtLabels]; rw [← hf]; exact hr, by rw [ht, hst]⟩

/-- A statement that is enabled without the channel is enabled with it, unless `emit` blocks — and
    then the channel is full, so the consumer can receive. -/
theorem stmt_enabled_or_recv (T : Table) (cap : Nat) (hcap : 0 < cap) (s : FCSys) (fl : FLabel)
    (hp : s.pend = []) (h : (FSys.step T s.f fl).isSome = true) :
    (FCSys.step T cap s (.stmt fl)).isSome = true ∨ (FCSys.step T cap s .recv).isSome = true := by
  cases hfs : FSys.step T s.f fl with
  | none => rw [hfs] at h; cases h
  | some res =>
    obtain ⟨f', o⟩ := res
    simp only [FCSys.step, hp, List.isEmpty_nil, Bool.not_true, Bool.and_false, Bool.false_eq_true, if_false, hfs]
    by_cases ha : (isMainL fl && atAnywhere s.f.mpc) = true
    · left; rw [if_pos ha]; rfl
    · rw [if_neg ha]
      by_cases ho : o.isEmpty = true
      · left; rw [if_pos ho]; rfl
      · rw [if_neg ho]
        by_cases hroom : s.chan.length + o.length ≤ cap
        · left; rw [if_pos hroom]; rfl
        · right
          have hone : o ≠ [] := fun hh => ho (by rw [hh]; rfl)
          have hlen : o.length = 1 := by
            rcases emit_sites T s.f f' fl o hfs hone with ⟨rfl, h2⟩ | ⟨_, _, h2⟩ | ⟨_, _, _, _, h2⟩
            · simp only [isMainL, Bool.true_and] at ha; exact absurd h2 ha
            · exact h2
            · exact h2
          cases hc : s.chan with
          | nil => rw [hc] at hroom; simp only [List.length_nil] at hroom; omega
          | cons x ch => rfl

/-- **No deadlock with a consumer that keeps receiving** (capacity ≥ 1). -/
theorem chan_no_deadlock (T : Table) (cap : Nat) (hcap : 0 < cap) (s : FCSys) (hci : CI cap s)
    (h1 : s.f.mpc ≠ .inRead) (h2 : ¬ s.finished) :
    (FCSys.step T cap s (.stmt .main)).isSome = true ∨ (∃ i, (FCSys.step T cap s (.stmt (.cb i))).isSome = true) ∨
    (FCSys.step T cap s .send).isSome = true ∨ (FCSys.step T cap s .recv).isSome = true := by
  cases hp : s.pend with
  | cons x p =>
    by_cases hroom : s.chan.length < cap
    · right; right; left; simp [FCSys.step, hp, hroom]
    · right; right; right
      cases hc : s.chan with
      | nil => rw [hc] at hroom; simp at hroom; omega
      | cons y ch => simp [FCSys.step, hc]
  | nil =>
    by_cases hd : s.f.mpc = .done
    · right; right; right
      cases hc : s.chan with
      | nil => exact absurd ⟨hd, hp, hc⟩ h2
      | cons y ch => simp [FCSys.step, hc]
    · rcases no_deadlock T s.f hci.inv h1 hd with hm | ⟨i, hi⟩
      · rcases stmt_enabled_or_recv T cap hcap s .main hp hm with h | h
        · exact Or.inl h
        · exact Or.inr (Or.inr (Or.inr h))
      · rcases stmt_enabled_or_recv T cap hcap s (.cb i) hp hi with h | h
        · exact Or.inr (Or.inl ⟨i, h⟩)
        · exact Or.inr (Or.inr (Or.inr h))

/-- **A callback blocked in `emit` holds the mutex** — and one receive by the consumer unblocks the `emit`. -/
theorem blocked_callback (T : Table) (cap : Nat) (hcap : 0 < cap) (s : FCSys) (hci : CI cap s) (i g : Nat)
    (hi : s.f.cbs[i]? = some (g, .passed)) (hfull : s.chan.length = cap) :
    FCSys.step T cap s (.stmt (.cb i)) = none ∧ s.f.mutex = some .cb ∧ holdsMain s.f.mpc = false ∧ s.pend = [] ∧
    ((∃ inp, s.f.mpc = .stopped inp) ∨ (∃ v, s.f.mpc = .fin .lock v) → FCSys.step T cap s (.stmt .main) = none) ∧
    (∀ j, j ≠ i → FCSys.step T cap s (.stmt (.cb j)) = none) ∧
    (∃ s1, FCSys.step T cap s .recv = some s1 ∧ (FCSys.step T cap s1 (.stmt (.cb i))).isSome = true) := by
  obtain ⟨hm, hnh, hn1⟩ := cb_excl s.f hci.inv i g .passed hi rfl
  have hp : s.pend = [] := by
    cases hpe : s.pend with
    | nil => rfl
    | cons x p =>
      obtain ⟨b, hb⟩ := hci.pendAt (by rw [hpe]; simp)
      rw [hb] at hnh; cases hnh
  refine ⟨?_, hm, hnh, hp, ?_, ?_, ?_⟩
  · simp only [FCSys.step, isMainL, Bool.false_and, Bool.false_eq_true, if_false, FSys.step, cbStep, hi]
    simp only [List.isEmpty_cons, Bool.false_eq_true, if_false, List.length_cons, List.length_nil, hfull]
    rw [if_neg (by omega)]
  · intro hpc
    have : mainStep T s.f = none := by
      rcases hpc with ⟨inp, h⟩ | ⟨v, h⟩ <;> simp [mainStep, h, hm]
    simp [FCSys.step, FSys.step, this, hp]
  · intro j hj
    have : cbStep s.f j = none := by
      unfold cbStep
      cases hcj : s.f.cbs[j]? with
      | none => rfl
      | some c =>
        obtain ⟨g', pc⟩ := c
        have hnc : crit pc = false := by
          have s4 := nCrit_set s.f.cbs i g .passed .gone hi
          simp [crit] at s4
          have h0 : nCrit (s.f.cbs.set i (g, .gone)) = 0 := by omega
          have hj' : (s.f.cbs.set i (g, .gone))[j]? = some (g', pc) := by
            rw [List.getElem?_set_ne (fun h => hj h.symm)]; exact hcj
          exact nCrit_zero h0 _ (List.mem_of_getElem? hj')
        cases pc <;> first | (cases hnc; done) | simp [hm]
    simp [FCSys.step, FSys.step, this, isMainL]
  · cases hc : s.chan with
    | nil => rw [hc] at hfull; simp at hfull; omega
    | cons x ch =>
      refine ⟨{ s with chan := ch, recvd := s.recvd ++ [x] }, by simp [FCSys.step, hc], ?_⟩
      have hlen : ch.length + 1 ≤ cap := by rw [hc] at hfull; simp at hfull; omega
      simp only [FCSys.step, isMainL, Bool.false_and, Bool.false_eq_true, if_false, FSys.step, cbStep, hi]
      simp only [List.isEmpty_cons, Bool.false_eq_true, if_false, List.length_cons, List.length_nil]
      rw [if_pos hlen]; rfl

/-- **The main goroutine blocked in an `emit` inside `anywhere` holds the mutex.** -/
theorem blocked_main (T : Table) (cap : Nat) (s : FCSys) (hci : CI cap s) (hpend : s.pend ≠ []) :
    FCSys.step T cap s (.stmt .main) = none ∧ s.f.mutex = some .main ∧
    (∀ j, FCSys.step T cap s (.stmt (.cb j)) = none) := by
  obtain ⟨b, hb⟩ := hci.pendAt hpend
  have hh : holdsMain s.f.mpc = true := by rw [hb]; rfl
  have hm := hci.inv.m1.mpr hh
  have hnc := nCrit_zero (main_no_crit hci.inv hh)
  refine ⟨?_, hm, ?_⟩
  · have : s.pend.isEmpty = false := by
      cases hp : s.pend with
      | nil => exact absurd hp hpend
      | cons x p => rfl
    simp [FCSys.step, isMainL, this]
  · intro j
    have : cbStep s.f j = none := by
      unfold cbStep
      cases hcj : s.f.cbs[j]? with
      | none => rfl
      | some c =>
        obtain ⟨g', pc⟩ := c
        have := hnc _ (List.mem_of_getElem? hcj)
        cases pc <;> first | (cases this; done) | simp [hm]
    simp [FCSys.step, FSys.step, this, isMainL]

end VaxisModel.Lemmas.ParserRunFineChan
