/-
C08: lemmas for the fair scheduler over the statement-grained life cycle with the bounded channel
(Model/ParserRunFineFair.lean): a measure that every transition other than `Close()` decreases, the
scheduler's invariants, "stuck ⇒ everything is over", and the resulting termination theorem
(`fdrive_final`).  Further: a bound on what one `anywhere` emits (`step_out_le`), the parser's table reads
the whole script (`fdrive_reads_all`), and `Close()` inside the fair run (`reads_after_close`).
-/
import VaxisModel.Model.ParserRunFineFair
import VaxisModel.Lemmas.ParserRunFineChan

namespace VaxisModel.Lemmas.ParserRunFineFair
open VaxisModel.Model.ParserTable VaxisModel.Model.Parser VaxisModel.Model.ParserRun VaxisModel.Model.ParserRunFine
open VaxisModel.Model.ParserRunFineChan VaxisModel.Model.ParserRunFineFair
open VaxisModel.Lemmas.ParserRunFine VaxisModel.Lemmas.ParserRunFineChan

/-- Statements a callback goroutine still has to execute, plus two for the item it may emit. -/
def cbW : CbPc → Nat
  | .gone => 0 | .stSet => 1 | .failed => 1 | .stateSet => 2 | .emitted => 3
  | .passed => 6 | .locked => 7 | .started => 8

def cbsW : List (Nat × CbPc) → Nat
  | [] => 0
  | c :: l => cbW c.2 + cbsW l

/-- A pending timer: its expiry and the callback it starts. -/
def armedW : Option Nat → Nat
  | none => 0
  | some _ => 9

/-- Statements the main goroutine still has to execute when the reader has `k` more inputs, with
    what they may emit (at most `B` items per `anywhere`, two transitions per item) and the timer
    they may arm. -/
def mainW (B k : Nat) : MPc → Nat
  | .done => 0
  | .fin .close _ => 1
  | .fin .emit _ => 4
  | .fin .unlock _ => 5
  | .fin .bump _ => 6
  | .fin .lock _ => 7
  | .fin .stop _ => 8
  | .stepped true => 9
  | .atSelect => (24 + 2 * B) * k + 9
  | .stepped false => (24 + 2 * B) * k + 10
  | .bumped _ => (24 + 2 * B) * k + 20 + 2 * B
  | .locked _ => (24 + 2 * B) * k + 21 + 2 * B
  | .stopped _ => (24 + 2 * B) * k + 22 + 2 * B
  | .readDone _ => (24 + 2 * B) * k + 23 + 2 * B
  | .inRead => (24 + 2 * B) * k

def fmu (B : Nat) (f : FSys) (k : Nat) : Nat := mainW B k f.mpc + cbsW f.cbs + armedW f.armed

/-- The measure: statements still to be executed, two transitions for every item still to be sent,
    one for every item queued. -/
def mu (B : Nat) (s : FCSys) (sc : List Inp) : Nat := fmu B s.f sc.length + 2 * s.pend.length + s.chan.length

theorem cbsW_append (l : List (Nat × CbPc)) (c : Nat × CbPc) : cbsW (l ++ [c]) = cbsW l + cbW c.2 := by
  induction l with
  | nil => simp [cbsW]
  | cons x l ih => simp only [List.cons_append, cbsW, ih]; omega

theorem cbsW_set : ∀ (l : List (Nat × CbPc)) (i g : Nat) (pc pc' : CbPc), l[i]? = some (g, pc) →
    cbsW (l.set i (g, pc')) + cbW pc = cbsW l + cbW pc'
  | [], _, _, _, _, h => by simp at h
  | c :: l, 0, g, pc, pc', h => by
    simp only [List.getElem?_cons_zero, Option.some.injEq] at h
    subst h
    simp only [List.set_cons_zero, cbsW]; omega
  | c :: l, i + 1, g, pc, pc', h => by
    simp only [List.getElem?_cons_succ] at h
    have := cbsW_set l i g pc pc' h
    simp only [List.set_cons_succ, cbsW]; omega

theorem armedW_le (a : Option Nat) : armedW a ≤ 9 := by cases a <;> simp [armedW]

theorem cbsW_le (l : List (Nat × CbPc)) : cbsW l ≤ 8 * l.length := by
  induction l with
  | nil => simp [cbsW]
  | cons c l ih =>
    have : cbW c.2 ≤ 8 := by cases c.2 <;> simp [cbW]
    simp only [cbsW, List.length_cons]; omega

theorem cbsW_zero (l : List (Nat × CbPc)) (h : cbsW l = 0) : ∀ c ∈ l, c.2 = .gone := by
  induction l with
  | nil => intro c hc; cases hc
  | cons x l ih =>
    simp only [cbsW] at h
    intro c hc
    rcases List.mem_cons.mp hc with rfl | hc
    · have : cbW c.2 = 0 := by omega
      revert this; cases c.2 <;> simp [cbW]
    · exact ih (by omega) c hc

theorem cbStep_dec (B : Nat) (f f' : FSys) (i : Nat) (o : List Seq) (k : Nat) (h : cbStep f i = some (f', o)) :
    fmu B f' k + 2 * o.length < fmu B f k := by
  have key : ∀ g pc pc' m ps, f.cbs[i]? = some (g, pc) → cbW pc' + 2 * o.length < cbW pc →
      fmu B { f with ps := ps, mutex := m, cbs := f.cbs.set i (g, pc') } k + 2 * o.length < fmu B f k := by
    intro g pc pc' m ps hi hw
    have := cbsW_set f.cbs i g pc pc' hi
    simp only [fmu]; omega
  cases cbStep_rel h with
  | lock g hi _ => exact key g _ .locked _ f.ps hi (by simp [cbW])
  | check g hi => exact key g _ _ f.mutex f.ps hi (by split <;> simp [cbW])
  | emit g hi => exact key g _ .emitted f.mutex f.ps hi (by simp [cbW])
  | setState g hi => exact key g _ .stateSet f.mutex _ hi (by simp [cbW])
  | setST g hi => exact key g _ .stSet f.mutex _ hi (by simp [cbW])
  | unlock g pc hi hpc => exact key g pc .gone none f.ps hi (by rcases hpc with rfl | rfl <;> simp [cbW])

theorem mainStep_dec (T : Table) (B : Nat) (hB : ∀ ps i, (VaxisModel.Model.Parser.step T ps i).out.length ≤ B) (f f' : FSys)
    (o : List Seq) (k : Nat) (h : mainStep T f = some (f', o)) : fmu B f' k + 2 * o.length < fmu B f k := by
  have ha := armedW_le
  have ha0 := ha f.armed
  cases mainStep_rel h
  case anywhere i hpc =>
    have h1 := hB f.ps i
    have h2 := ha (if arms T i then some f.escGen else f.armed)
    have h3 : mainW B k (.stepped (stops T f.ps i)) ≤ (24 + 2 * B) * k + 10 := by
      cases stops T f.ps i <;> simp [mainW]
    have h4 : mainW B k (.bumped i) = (24 + 2 * B) * k + 20 + 2 * B := rfl
    simp only [fmu, hpc]
    omega
  case unlock b hpc => cases b <;> simp [fmu, hpc, mainW] <;> omega
  case selectClose hpc _ | selectRead hpc _ | lock hpc _ | finLock hpc _ => simp [fmu, hpc, mainW]; try omega
  all_goals (rename_i hpc; simp [fmu, hpc, mainW, armedW]; try omega)

theorem fstep_dec (T : Table) (B : Nat) (hB : ∀ ps i, (VaxisModel.Model.Parser.step T ps i).out.length ≤ B)
    (f f' : FSys) (l : FLabel) (o : List Seq) (k : Nat) (h : FSys.step T f l = some (f', o))
    (hl : l ≠ .closeSig) (hr : ∀ i, l ≠ .readRet i) : fmu B f' k + 2 * o.length < fmu B f k := by
  cases fstep_rel h with
  | closeSig => exact absurd rfl hl
  | readRet i _ => exact absurd rfl (hr i)
  | main _ => exact mainStep_dec T B hB f f' o k h
  | cb i _ => exact cbStep_dec B f f' i o k h
  | expire g hg =>
    simp only [fmu, hg, cbsW_append, cbW, armedW, List.length_nil]
    omega

theorem readRet_dec (T : Table) (B : Nat) (f f' : FSys) (i : Inp) (o : List Seq) (k : Nat)
    (h : FSys.step T f (.readRet i) = some (f', o)) : fmu B f' k + 2 * o.length < fmu B f (k + 1) := by
  cases fstep_rel h with
  | readRet _ hpc =>
    simp only [fmu, hpc, mainW, List.length_nil, Nat.mul_succ]
    omega

theorem fc_step_f (T : Table) (cap : Nat) (s s' : FCSys) (l : FCLabel) (h : FCSys.step T cap s l = some s') :
    match l with
    | .stmt fl => ∃ o, FSys.step T s.f fl = some (s'.f, o)
    | _ => s'.f = s.f := by
  cases fcstep_rel h with
  | send | recv => rfl
  | anywhere f' o _ _ hfs => exact ⟨o, hfs⟩
  | silent fl f' _ hfs => exact ⟨[], hfs⟩
  | emit fl f' o _ hfs => exact ⟨o, hfs⟩

theorem allowed_readRet {sc : List Inp} {i : Inp} (h : allowed sc (.stmt (.readRet i)) = true) :
    ∃ rest, sc = i :: rest ∧ consume sc (.stmt (.readRet i)) = rest := by
  cases sc with
  | nil => simp [allowed] at h
  | cons j rest =>
    simp only [allowed, List.head?_cons, decide_eq_true_eq, Option.some.injEq] at h
    exact ⟨rest, by rw [h], rfl⟩

theorem step_dec (T : Table) (B : Nat) (hB : ∀ ps i, (VaxisModel.Model.Parser.step T ps i).out.length ≤ B) (cap : Nat)
    (s s' : FCSys) (l : FCLabel) (sc : List Inp) (h : FCSys.step T cap s l = some s')
    (hal : allowed sc l = true) : mu B s' (consume sc l) < mu B s sc := by
  have key : ∀ fl f' o, FSys.step T s.f fl = some (f', o) → allowed sc (.stmt fl) = true →
      fmu B f' (consume sc (.stmt fl)).length + 2 * o.length < fmu B s.f sc.length := by
    intro fl f' o hfs hal
    cases fl with
    | closeSig => simp [allowed] at hal
    | readRet i =>
      obtain ⟨rest, rfl, _⟩ := allowed_readRet hal
      simp only [consume, List.tail_cons, List.length_cons]
      exact readRet_dec T B s.f f' i o rest.length hfs
    | main => exact fstep_dec T B hB s.f f' .main o _ hfs (by simp) (by simp)
    | expire => exact fstep_dec T B hB s.f f' .expire o _ hfs (by simp) (by simp)
    | cb i => exact fstep_dec T B hB s.f f' (.cb i) o _ hfs (by simp) (by simp)
  cases fcstep_rel h with
  | send x p hp _ =>
    simp only [mu, consume, hp, List.length_append, List.length_cons, List.length_nil]
    omega
  | recv x ch hc =>
    simp only [mu, consume, hc, List.length_cons]
    omega
  | anywhere f' o hp _ hfs =>
    have := key _ f' o hfs hal
    simp only [mu, hp, List.length_nil] at this ⊢
    omega
  | silent fl f' _ hfs =>
    have := key fl f' [] hfs hal
    simp only [mu] at this ⊢
    omega
  | emit fl f' o _ hfs _ _ =>
    have := key fl f' o hfs hal
    simp only [mu, List.length_append] at this ⊢
    omega

/-- `close(p.sequences)` is the last statement; when the script is used up the main goroutine is
    not going to read again (the last input was `eof`, or `Close()` has been called); a script that
    is not used up ends with `eof`. -/
structure E (f : FSys) (sc : List Inp) : Prop where
  dc : f.mpc = .done → f.chanClosed = true
  e1 : sc = [] → f.mpc ≠ .inRead ∧ (f.closeReq = true ∨ pastEof f.mpc = true)
  e2 : sc ≠ [] → sc.getLast? = some .eof

theorem E_pc (f : FSys) (sc : List Inp) (hE : E f sc) (f' : FSys) (hc : f'.closeReq = f.closeReq)
    (hd : f'.mpc = .done → f'.chanClosed = true)
    (hn : f'.mpc ≠ .inRead ∨ (f.closeReq = false ∧ pastEof f.mpc = false))
    (hp : pastEof f.mpc = true → pastEof f'.mpc = true) : E f' sc := by
  refine ⟨hd, fun hsc => ?_, hE.e2⟩
  obtain ⟨_, h2⟩ := hE.e1 hsc
  constructor
  · rcases hn with hn | ⟨hn1, hn2⟩
    · exact hn
    · rcases h2 with h2 | h2
      · rw [hn1] at h2; cases h2
      · rw [hn2] at h2; cases h2
  · rcases h2 with h2 | h2
    · exact Or.inl (by rw [hc]; exact h2)
    · exact Or.inr (hp h2)

theorem nextPc_inRead (T : Table) (f : FSys) (h : nextPc T f = .inRead) :
    f.mpc = .inRead ∨ (f.mpc = .atSelect ∧ f.closeReq = false) := by
  unfold nextPc at h
  cases hpc : f.mpc with
  | atSelect => cases hc : f.closeReq <;> simp_all
  | inRead => exact Or.inl rfl
  | stepped b => cases b <;> simp_all
  | fin st v => cases st <;> simp_all
  | _ => simp_all

theorem E_main (T : Table) (f f' : FSys) (o : List Seq) (sc : List Inp) (hE : E f sc)
    (h : mainStep T f = some (f', o)) : E f' sc := by
  obtain ⟨e1, e2, _, hnr, _, h5⟩ := mainStep_pc T f f' o h
  refine E_pc f sc hE f' e2 h5 ?_ (fun hp => e1 ▸ pastEof_next T f hp)
  by_cases hr : f'.mpc = .inRead
  · rcases nextPc_inRead T f (e1 ▸ hr) with h' | ⟨h1, h2⟩
    · exact absurd h' hnr
    · exact Or.inr ⟨h2, by rw [h1]; rfl⟩
  · exact Or.inl hr

theorem E_same (f f' : FSys) (sc : List Inp) (hE : E f sc) (h1 : f'.mpc = f.mpc) (h2 : f'.closeReq = f.closeReq)
    (h3 : f'.chanClosed = f.chanClosed) : E f' sc :=
  ⟨by rw [h1, h3]; exact hE.dc, by rw [h1, h2]; exact hE.e1, hE.e2⟩

theorem E_step (T : Table) (f f' : FSys) (l : FLabel) (o : List Seq) (sc : List Inp) (hE : E f sc)
    (h : FSys.step T f l = some (f', o)) (hal : allowed sc (.stmt l) = true) : E f' (consume sc (.stmt l)) := by
  cases fstep_rel h with
  | closeSig => simp [allowed] at hal
  | main _ => exact E_main T f f' o sc hE h
  | cb i _ =>
    obtain ⟨h1, h2, h3, _⟩ := cbStep_frame f f' i o h
    exact E_same f f' sc hE h1 h2 h3
  | expire g _ => exact E_same f _ sc hE rfl rfl rfl
  | readRet i hpc =>
    obtain ⟨rest, rfl, _⟩ := allowed_readRet hal
    have hl := hE.e2 (by simp)
    simp only [consume, List.tail_cons]
    refine ⟨by simp, fun hr => ?_, fun hr => ?_⟩
    · subst hr
      simp only [List.getLast?_singleton, Option.some.injEq] at hl
      subst hl
      exact ⟨by simp, Or.inr rfl⟩
    · cases rest with
      | nil => exact absurd rfl hr
      | cons a r => rw [List.getLast?_cons_cons] at hl; exact hl

theorem E_fc_step (T : Table) (cap : Nat) (s s' : FCSys) (l : FCLabel) (sc : List Inp) (hE : E s.f sc)
    (h : FCSys.step T cap s l = some s') (hal : allowed sc l = true) : E s'.f (consume sc l) := by
  have := fc_step_f T cap s s' l h
  cases l with
  | send => simp only at this; rw [this]; exact hE
  | recv => simp only at this; rw [this]; exact hE
  | stmt fl =>
    obtain ⟨o, ho⟩ := this
    exact E_step T s.f s'.f fl o sc hE ho hal

theorem noRead_step (T : Table) (f f' : FSys) (l : FLabel) (o : List Seq)
    (hN : f.closeReq = true ∧ f.mpc ≠ .inRead) (h : FSys.step T f l = some (f', o)) :
    f'.closeReq = true ∧ f'.mpc ≠ .inRead := by
  cases fstep_rel h with
  | closeSig => exact ⟨rfl, hN.2⟩
  | readRet i hpc => exact absurd hpc hN.2
  | expire g _ => exact hN
  | cb i _ =>
    obtain ⟨h1, h2, _, _⟩ := cbStep_frame f f' i o h
    rw [h1, h2]; exact hN
  | main _ =>
    obtain ⟨e1, e2, _⟩ := mainStep_pc T f f' o h
    refine ⟨e2 ▸ hN.1, fun hr => ?_⟩
    rcases nextPc_inRead T f (e1 ▸ hr) with h' | ⟨_, h'⟩
    · exact hN.2 h'
    · rw [hN.1] at h'; cases h'

theorem noRead_run (T : Table) (cap : Nat) (ls : List FCLabel) (s s' : FCSys)
    (hN : s.f.closeReq = true ∧ s.f.mpc ≠ .inRead) (h : FCSys.run T cap s ls = some s') :
    s'.f.closeReq = true ∧ s'.f.mpc ≠ .inRead :=
  (fcRun_isRun T cap).preserves (P := fun s => s.f.closeReq = true ∧ s.f.mpc ≠ .inRead)
    (fun s s1 l hN hs => by
      have := fc_step_f T cap s s1 l hs
      cases l with
      | stmt fl => obtain ⟨o, ho⟩ := this; exact noRead_step T s.f s1.f fl o hN ho
      | _ => simp only at this; rw [this]; exact hN)
    hN h

theorem firstEnabled_some (T : Table) (cap : Nat) (s : FCSys) : ∀ (ls : List FCLabel) (l : FCLabel) (s' : FCSys),
    firstEnabled T cap s ls = some (l, s') → l ∈ ls ∧ FCSys.step T cap s l = some s'
  | [], _, _, h => by cases h
  | x :: ls, l, s', h => by
    simp only [firstEnabled] at h
    cases hx : FCSys.step T cap s x with
    | some s1 =>
      rw [hx] at h
      cases h
      exact ⟨List.mem_cons_self .., hx⟩
    | none =>
      rw [hx] at h
      obtain ⟨h1, h2⟩ := firstEnabled_some T cap s ls l s' h
      exact ⟨List.mem_cons_of_mem _ h1, h2⟩

theorem firstEnabled_none (T : Table) (cap : Nat) (s : FCSys) : ∀ (ls : List FCLabel),
    firstEnabled T cap s ls = none → ∀ l ∈ ls, FCSys.step T cap s l = none
  | [], _, _, hl => by cases hl
  | x :: ls, h, l, hl => by
    simp only [firstEnabled] at h
    cases hx : FCSys.step T cap s x with
    | some s1 => rw [hx] at h; cases h
    | none =>
      rw [hx] at h
      rcases List.mem_cons.mp hl with rfl | hl
      · exact hx
      · exact firstEnabled_none T cap s ls h l hl

theorem cands_allowed (pol : Policy) (s : FCSys) (sc : List Inp) : ∀ l ∈ cands pol s sc, allowed sc l = true := by
  intro l hl
  simp only [cands, List.mem_append, List.mem_filter] at hl
  rcases hl with ⟨_, h⟩ | h
  · exact h
  · simp only [defaults, critCbs, List.mem_append, List.mem_cons, List.mem_map, List.not_mem_nil, or_false] at h
    rcases h with ((((rfl | rfl) | ⟨i, _, rfl⟩) | rfl) | h) | ⟨i, _, rfl⟩
    · rfl
    · rfl
    · rfl
    · rfl
    · cases sc with
      | nil => simp [readL] at h
      | cons j rest =>
        simp only [readL, List.mem_cons, List.not_mem_nil, or_false] at h
        subst h
        simp [allowed]
    · rfl

theorem mutex_free (f : FSys) (hinv : FInv f) (hm : holdsMain f.mpc = false) (hc : ∀ c ∈ f.cbs, crit c.2 = false) :
    f.mutex = none := by
  cases hmu : f.mutex with
  | none => rfl
  | some ow =>
    cases ow with
    | main => rw [hinv.m1.mp hmu] at hm; cases hm
    | cb =>
      have h2 := hinv.m2
      rw [hmu] at h2
      have h0 : nCrit f.cbs = 0 := List.countP_eq_zero.mpr (by intro c hc'; simp [hc c hc'])
      simp at h2; omega

/-- **The scheduler stops only when everything is over** (capacity ≥ 1): if none of its candidates is
    enabled, `run` has returned, nothing is in flight, every callback goroutine has returned. -/
theorem stuck_final (T : Table) (cap : Nat) (hcap : 0 < cap) (pol : Policy) (s : FCSys) (sc : List Inp)
    (hci : CI cap s) (hE : E s.f sc) (h : firstEnabled T cap s (cands pol s sc) = none) : Final s := by
  have hall := firstEnabled_none T cap s _ h
  have hd : ∀ l ∈ defaults s sc, FCSys.step T cap s l = none := fun l hl => hall l (List.mem_append_right _ hl)
  have hrecv : FCSys.step T cap s .recv = none := hd _ (by simp [defaults])
  have hsend : FCSys.step T cap s .send = none := hd _ (by simp [defaults])
  have hmain : FCSys.step T cap s (.stmt .main) = none := hd _ (by simp [defaults])
  have hcb : ∀ i, FCSys.step T cap s (.stmt (.cb i)) = none := by
    intro i
    by_cases hi : i < s.f.cbs.length
    · refine hd _ ?_
      simp only [defaults, List.mem_append, List.mem_map, List.mem_range]
      exact Or.inr ⟨i, hi, rfl⟩
    · simp [FCSys.step, step_cb_ge (Nat.le_of_not_lt hi), isMainL]
  have hnr : s.f.mpc ≠ .inRead := by
    intro hr
    cases sc with
    | nil => exact (hE.e1 rfl).1 hr
    | cons j rest =>
      have := hd (.stmt (.readRet j)) (by simp [defaults, readL])
      simp [FCSys.step, step_readRet_pos j hr, isMainL] at this
  have hfin : s.finished := by
    apply Classical.byContradiction
    intro hnf
    rcases chan_no_deadlock T cap hcap s hci hnr hnf with h | ⟨i, h⟩ | h | h
    · rw [hmain] at h; cases h
    · rw [hcb i] at h; cases h
    · rw [hsend] at h; cases h
    · rw [hrecv] at h; cases h
  obtain ⟨hdone, hp, hc⟩ := hfin
  refine ⟨hdone, hp, hc, ?_⟩
  have hen : ∀ i, (cbStep s.f i).isSome = true → False := by
    intro i hi
    rcases stmt_enabled_or_recv T cap hcap s (.cb i) hp (by simpa [FSys.step] using hi) with h | h
    · rw [hcb i] at h; cases h
    · rw [hrecv] at h; cases h
  have hnocrit : ∀ c ∈ s.f.cbs, crit c.2 = false := by
    intro c hc'
    cases hcr : crit c.2 with
    | false => rfl
    | true =>
      obtain ⟨i, hi⟩ := List.getElem?_of_mem hc'
      exact (hen i (crit_cb_enabled s.f i c.1 c.2 hi hcr)).elim
  have hmu : s.f.mutex = none := mutex_free s.f hci.inv (by rw [hdone]; rfl) hnocrit
  intro c hc'
  obtain ⟨i, hi⟩ := List.getElem?_of_mem hc'
  have hcr := hnocrit c hc'
  obtain ⟨g, pc⟩ := c
  cases pc with
  | gone => rfl
  | started =>
    exfalso
    apply hen i
    unfold cbStep
    rw [hi]
    simp [hmu]
  | _ => cases hcr

/-- **The fair run, as a case principle**: the scheduler stops (out of fuel, or no candidate enabled), or takes
    an allowed candidate `l` that is enabled and goes on from there.  `fdrive`, `ftrace`, `frest` are the end
    state, the labels taken and what is left of the script. -/
theorem fdrive_induct (T : Table) (cap : Nat) (pol : Policy)
    {motive : Nat → FCSys → List Inp → FCSys → List FCLabel → List Inp → Prop}
    (stop : ∀ n s sc, n = 0 ∨ firstEnabled T cap s (cands pol s sc) = none → motive n s sc s [] sc)
    (step : ∀ n s sc l s' e tr rest, firstEnabled T cap s (cands pol s sc) = some (l, s') → allowed sc l = true →
      FCSys.step T cap s l = some s' → motive n s' (consume sc l) e tr rest → motive (n + 1) s sc e (l :: tr) rest) :
    ∀ (n : Nat) (s : FCSys) (sc : List Inp),
      motive n s sc (fdrive T cap pol n s sc) (ftrace T cap pol n s sc) (frest T cap pol n s sc)
  | 0, s, sc => stop 0 s sc (Or.inl rfl)
  | n + 1, s, sc => by
    simp only [fdrive, ftrace, frest]
    cases hfe : firstEnabled T cap s (cands pol s sc) with
    | none => exact stop (n + 1) s sc (Or.inr hfe)
    | some res =>
      obtain ⟨l, s'⟩ := res
      obtain ⟨hmem, hstep⟩ := firstEnabled_some T cap s _ l s' hfe
      exact step n s sc l s' _ _ _ hfe (cands_allowed pol s sc l hmem) hstep
        (fdrive_induct T cap pol stop step n s' (consume sc l))

theorem fdrive_is_run (T : Table) (cap : Nat) (pol : Policy) (fuel : Nat) (s : FCSys) (sc : List Inp) :
    FCSys.run T cap s (ftrace T cap pol fuel s sc) = some (fdrive T cap pol fuel s sc) :=
  fdrive_induct T cap pol (motive := fun _ s _ e tr _ => FCSys.run T cap s tr = some e) (fun _ _ _ _ => rfl)
    (fun _ _ _ _ _ _ _ _ _ _ hstep ih => by simp only [FCSys.run, hstep]; exact ih) fuel s sc

theorem ftrace_mu (T : Table) (B : Nat) (hB : ∀ ps i, (VaxisModel.Model.Parser.step T ps i).out.length ≤ B)
    (cap : Nat) (pol : Policy) (fuel : Nat) (s : FCSys) (sc : List Inp) :
    (ftrace T cap pol fuel s sc).length + mu B (fdrive T cap pol fuel s sc) (frest T cap pol fuel s sc) ≤ mu B s sc :=
  fdrive_induct T cap pol (motive := fun _ s sc e tr rest => tr.length + mu B e rest ≤ mu B s sc)
    (fun _ _ _ _ => by simp)
    (fun _ s sc l s' _ _ _ _ hal hstep ih => by
      have := step_dec T B hB cap s s' l sc hstep hal
      simp only [List.length_cons]; omega) fuel s sc

theorem ftrace_length (T : Table) (B : Nat) (hB : ∀ ps i, (VaxisModel.Model.Parser.step T ps i).out.length ≤ B)
    (cap : Nat) (pol : Policy) (fuel : Nat) (s : FCSys) (sc : List Inp) :
    (ftrace T cap pol fuel s sc).length ≤ mu B s sc := by
  have := ftrace_mu T B hB cap pol fuel s sc; omega

theorem fdrive_inv (T : Table) (hT : TimerOk T) (cap : Nat) (pol : Policy) (n : Nat) (s : FCSys) (sc : List Inp) :
    CI cap s → E s.f sc → CI cap (fdrive T cap pol n s sc) ∧ E (fdrive T cap pol n s sc).f (frest T cap pol n s sc) :=
  fdrive_induct T cap pol (motive := fun _ s sc e _ rest => CI cap s → E s.f sc → CI cap e ∧ E e.f rest)
    (fun _ _ _ _ hci hE => ⟨hci, hE⟩)
    (fun _ s sc l s' _ _ _ _ hal hstep ih hci hE =>
      ih (step_proj T hT cap s s' l hci hstep).1 (E_fc_step T cap s s' l sc hE hstep hal)) n s sc

/-- **Termination of the fair run, with the measure as the bound**: from any state that meets the
    layer's invariant and the script invariant, with more fuel than the measure, the scheduler ends in
    a state where everything is over (no fuel exhaustion). -/
theorem fdrive_final (T : Table) (hT : TimerOk T) (B : Nat)
    (hB : ∀ ps i, (VaxisModel.Model.Parser.step T ps i).out.length ≤ B) (cap : Nat) (hcap : 0 < cap) (pol : Policy)
    (fuel : Nat) (s : FCSys) (sc : List Inp) : CI cap s → E s.f sc → mu B s sc < fuel →
      Final (fdrive T cap pol fuel s sc) ∧ E (fdrive T cap pol fuel s sc).f (frest T cap pol fuel s sc) :=
  fdrive_induct T cap pol (motive := fun n s sc e _ rest => CI cap s → E s.f sc → mu B s sc < n → Final e ∧ E e.f rest)
    (fun n s sc h hci hE hf => by
      rcases h with rfl | h
      · omega
      · exact ⟨stuck_final T cap hcap pol s sc hci hE h, hE⟩)
    (fun _ s sc l s' _ _ _ _ hal hstep ih hci hE hf => by
      have := step_dec T B hB cap s s' l sc hstep hal
      exact ih (step_proj T hT cap s s' l hci hstep).1 (E_fc_step T cap s s' l sc hE hstep hal) (by omega)) fuel s sc

theorem ftrace_reads (T : Table) (cap : Nat) (pol : Policy) (fuel : Nat) (s : FCSys) (sc : List Inp) :
    readsOf (ftrace T cap pol fuel s sc) ++ frest T cap pol fuel s sc = sc :=
  fdrive_induct T cap pol (motive := fun _ _ sc _ tr rest => readsOf tr ++ rest = sc) (fun _ _ _ _ => rfl)
    (fun _ _ sc l _ _ _ _ _ hal _ ih => by
      cases l with
      | stmt fl =>
        cases fl with
        | readRet i =>
          obtain ⟨rest, rfl, _⟩ := allowed_readRet hal
          simp only [consume, List.tail_cons] at ih
          simp only [readsOf, List.cons_append, ih]
        | _ => simpa [readsOf, consume] using ih
      | _ => simpa [readsOf, consume] using ih) fuel s sc

theorem inputScript_length (rs : List Nat) : (inputScript rs).length = rs.length + 1 := by
  simp [inputScript]

theorem E_init (rs : List Nat) : E FCSys.init.f (inputScript rs) := by
  refine ⟨by simp [FCSys.init], fun h => ?_, fun _ => by simp [inputScript]⟩
  simp [inputScript] at h

theorem mu_init (B : Nat) (rs : List Nat) : mu B FCSys.init (inputScript rs) + 1 = stepBound B rs.length := by
  simp only [mu, fmu, inputScript_length, stepBound]
  simp [FCSys.init, mainW, cbsW, armedW]

theorem le_foldr_max (l : List Nat) (a : Nat) (h : a ∈ l) : a ≤ l.foldr max 0 := by
  induction l with
  | nil => cases h
  | cons x l ih =>
    simp only [List.foldr_cons]
    rcases List.mem_cons.mp h with rfl | h
    · exact Nat.le_max_left ..
    · exact Nat.le_trans (ih h) (Nat.le_max_right ..)

theorem applyAct_out_le (a : Act) (r : Rune) (s : PState) : (applyAct a r s).2.length ≤ 1 := by
  rcases h : applyAct a r s with ⟨t, o⟩
  cases ParserStepBasic.does_of h <;> simp

theorem runActs_out_le (acts : List Act) (i : Inp) (s : PState) (out : List Seq) (n : Next) :
    (runActs acts i s out n).2.1.length ≤ out.length + acts.length := by
  refine ParserStepBasic.runActs_induct i n (motive := fun acts _ out res => res.2.1.length ≤ out.length + acts.length)
    ?_ ?_ ?_ ?_ ?_ acts s out
  · simp
  · simp
  · intro _ _ _ _ _ _ ih; simp only [List.length_cons]; omega
  · simp
  · intro a rest r s out res _ _ ih
    have := applyAct_out_le a r s
    simp only [List.length_append, List.length_cons] at ih ⊢
    omega

theorem row_le (f : StateFn) (i : Inp) : (f.row i).1.length ≤ fnBound f := by
  unfold StateFn.row fnBound
  split
  · rename_i a ha
    have := le_foldr_max (f.early.map (fun a => a.acts.length)) a.acts.length
      (List.mem_map.mpr ⟨a, findEarly_mem _ _ _ ha, rfl⟩)
    simp only
    omega
  · simp only [List.length_append, StateFn.arm]
    rcases findArm_mem f.arms f.dflt i with h | ⟨h, _⟩
    · rw [h]; omega
    · have := le_foldr_max (f.arms.map (fun a => a.acts.length)) (findArm f.arms f.dflt i).acts.length
        (List.mem_map.mpr ⟨_, h, rfl⟩)
      omega

theorem runFn_out_le (f : StateFn) (i : Inp) (s : PState) : (runFn f i s).2.1.length ≤ fnBound f := by
  have h1 := runActs_out_le (f.row i).1 i s [] (f.row i).2
  have h2 := row_le f i
  simp only [runFn]
  rcases hra : runActs (f.row i).1 i s [] (f.row i).2 with ⟨s', o', n'⟩
  rw [hra] at h1
  simp only [List.length_nil, Nat.zero_add] at h1 ⊢
  omega

theorem finish_out_le (s : PState) (out : List Seq) (n : Next) : (finish s out n).out.length ≤ out.length + 1 := by
  cases n <;> simp [finish]

theorem step_out_le (T : Table) (s : PState) (i : Inp) :
    (VaxisModel.Model.Parser.step T s i).out.length ≤ tableBound T := by
  have h1 := runFn_out_le T.anywhere i s
  unfold VaxisModel.Model.Parser.step tableBound
  split
  · rename_i s1 o1 heq
    rw [heq] at h1
    simp only at h1
    have h2 := runFn_out_le (T.fn s1.state) i s1
    have h3 := le_foldr_max (allStates.map (fun st => fnBound (T.fn st))) (fnBound (T.fn s1.state))
      (List.mem_map.mpr ⟨_, mem_allStates _, rfl⟩)
    rcases hr2 : runFn (T.fn s1.state) i s1 with ⟨s2, o2, n2⟩
    rw [hr2] at h2
    have h4 := finish_out_le s2 (o1 ++ o2) n2
    simp only [List.length_append] at h4
    simp only at h2 ⊢
    omega
  · rename_i s1 o1 n _ heq
    rw [heq] at h1
    simp only at h1
    have h4 := finish_out_le s1 o1 n
    omega

theorem hand_tableBound : tableBound handTable = 9 := by decide

theorem final_quiet (f : FSys) (hinv : FInv f) (hd : f.mpc = .done) (hg : ∀ c ∈ f.cbs, c.2 = .gone) :
    f.mutex = none ∧ f.armed = none :=
  ⟨mutex_free f hinv (by rw [hd]; rfl) (fun c hc => by rw [hg c hc]; rfl), armed_none hinv (by rw [hd]; rfl)⟩

theorem mu_close (B : Nat) (cap : Nat) (s : FCSys) (hci : CI cap s) (hpc : s.f.mpc = .inRead) (i : Inp) :
    mu B { s with f := { s.f with mpc := .readDone i } } [] < closeBound B s.f.cbs.length s.chan.length := by
  have hp : s.pend = [] := by
    cases hpe : s.pend with
    | nil => rfl
    | cons x p =>
      obtain ⟨b, hb⟩ := hci.pendAt (by rw [hpe]; simp)
      rw [hb] at hpc; cases hpc
  have h1 := cbsW_le s.f.cbs
  have h2 := armedW_le s.f.armed
  simp only [mu, fmu, mainW, closeBound, hp, List.length_nil]
  omega

theorem cb_none_of_main (f : FSys) (hinv : FInv f) (hh : holdsMain f.mpc = true) (j : Nat) : cbStep f j = none := by
  have hm := hinv.m1.mpr hh
  have hnc := nCrit_zero (main_no_crit hinv hh)
  unfold cbStep
  cases hcj : f.cbs[j]? with
  | none => rfl
  | some c =>
    obtain ⟨g', pc⟩ := c
    have := hnc _ (List.mem_of_getElem? hcj)
    cases pc <;> first | (cases this; done) | simp [hm]

/-- Reachable, the main goroutine has just locked the mutex: the automaton invariant holds of the
    parser fields as they are (through the simulation by the atomic system and its invariant). -/
theorem locked_invB (fls : List FLabel) (f : FSys) (out : List Seq)
    (h : FSys.run handTable FSys.init fls = some (f, out)) (i : Inp) (hpc : f.mpc = .locked i) :
    VaxisModel.Lemmas.ParserAbs.invB (VaxisModel.Lemmas.ParserAbs.α f.ps) = true := by
  obtain ⟨hinv, _, ls, b, oa, h1, _, _⟩ := reach_sim handTable handTable_timerOk fls f out h
  have hS := (VaxisModel.Lemmas.ParserRun.run_SInv ls Sys.init _ oa VaxisModel.Lemmas.ParserRun.SInv_init h1).1
  have hmid := main_no_mid hinv (by rw [hpc]; rfl)
  have hpc' : (abs handTable f b).pc = .inRead := by simp [abs, absPc, hpc]
  have := (hS (by rw [hpc']; decide)).1
  simpa [abs, absPs, hpc, hmid] using this

/-- No rune makes `anywhere` return nil. -/
def NS (f : FSys) : Prop := ∀ r, f.mpc = .bumped (.rune r) → stops handTable f.ps (.rune r) = false

theorem NS_step (fls : List FLabel) (f : FSys) (out : List Seq) (h : FSys.run handTable FSys.init fls = some (f, out))
    (hns : NS f) (l : FLabel) (f' : FSys) (o : List Seq) (hs : FSys.step handTable f l = some (f', o)) : NS f' := by
  intro r hpc'
  cases fstep_rel hs with
  | closeSig => exact hns r hpc'
  | readRet i _ => cases hpc'
  | expire g _ => exact hns r hpc'
  | cb j _ =>
    obtain ⟨h1, _, _, _⟩ := cbStep_frame f f' j o hs
    have hinv := run_inv handTable handTable_timerOk fls _ f out FInv_init h
    have := cb_none_of_main f hinv (by rw [← h1, hpc']; rfl) j
    simp only [FSys.step] at hs
    rw [this] at hs; cases hs
  | main hm =>
    -- the statement is `escGen++` behind the `Lock`: the automaton invariant holds of the parser fields
    cases hm
    case bump i hl =>
      cases hpc'
      have := (VaxisModel.Lemmas.ParserAbs.hand_inv_step f.ps (locked_invB fls f out h _ hl) (.rune r)).2.2
      simpa [stops, pstep, VaxisModel.Lemmas.ParserAbs.isEof] using this
    case unlock b _ => cases b <;> cases hpc'
    all_goals cases hpc'

/-- `Close()` has not been called; the script is what is left of a finite input followed by `eof`;
    the main goroutine is past the read of `eof` only when the script is used up. -/
structure R (f : FSys) (sc : List Inp) : Prop where
  nc : f.closeReq = false
  shape : sc = [] ∨ ∃ rs, sc = inputScript rs
  pe : pastEof f.mpc = true → sc = []

theorem R_pc (f f' : FSys) (sc : List Inp) (hR : R f sc) (hc : f'.closeReq = f.closeReq)
    (hp : pastEof f'.mpc = true → pastEof f.mpc = true) : R f' sc :=
  ⟨by rw [hc]; exact hR.nc, hR.shape, fun h => hR.pe (hp h)⟩

theorem R_step (f f' : FSys) (l : FLabel) (o : List Seq) (sc : List Inp) (hns : NS f) (hR : R f sc)
    (hs : FSys.step handTable f l = some (f', o)) (hal : allowed sc (.stmt l) = true) :
    R f' (consume sc (.stmt l)) := by
  cases fstep_rel hs with
  | closeSig => simp [allowed] at hal
  | cb j _ =>
    obtain ⟨h1, h2, _, _⟩ := cbStep_frame f f' j o hs
    exact R_pc f f' sc hR h2 (by rw [h1]; exact id)
  | expire g _ => exact R_pc f _ sc hR rfl id
  | readRet i _ =>
    obtain ⟨rest, rfl, _⟩ := allowed_readRet hal
    simp only [consume, List.tail_cons]
    rcases hR.shape with h | ⟨rs, h⟩
    · cases h
    · cases rs with
      | nil =>
        simp only [inputScript, List.map_nil, List.nil_append, List.cons.injEq] at h
        obtain ⟨rfl, rfl⟩ := h
        exact ⟨hR.nc, Or.inl rfl, fun _ => rfl⟩
      | cons r rs' =>
        simp only [inputScript, List.map_cons, List.cons_append, List.cons.injEq] at h
        obtain ⟨rfl, rfl⟩ := h
        exact ⟨hR.nc, Or.inr ⟨rs', rfl⟩, fun hp => by simp [pastEof] at hp⟩
  | main _ =>
    obtain ⟨e1, e2, _⟩ := mainStep_pc handTable f f' o hs
    refine R_pc f f' sc hR e2 fun hp => ?_
    -- with no `Close()` pending and no rune ending the loop, only the read of `eof` leads past it
    rw [e1] at hp; unfold nextPc at hp
    cases hpc : f.mpc with
    | atSelect => rw [hpc] at hp; simp [hR.nc, pastEof] at hp
    | bumped i =>
      cases i with
      | eof => rfl
      | rune r => rw [hpc] at hp; simp [pastEof, hns r hpc] at hp
    | stepped b => rw [hpc] at hp; cases b <;> simp_all [pastEof]
    | fin st v => rfl
    | done => rfl
    | inRead => rw [hpc] at hp; cases hp
    | readDone i | stopped i | locked i => rw [hpc] at hp; cases i <;> simp_all [pastEof]

/-- **The parser's table: the scheduler keeps `R`** — in particular when the main goroutine is `done`
    the whole script has been read. -/
theorem fdrive_reads_all (cap : Nat) (pol : Policy) (fuel : Nat) (s : FCSys) (sc : List Inp) :
    (∃ fls out, FSys.run handTable FSys.init fls = some (s.f, out)) → NS s.f → R s.f sc →
    R (fdrive handTable cap pol fuel s sc).f (frest handTable cap pol fuel s sc) :=
  fdrive_induct handTable cap pol (motive := fun _ s sc e _ rest =>
      (∃ fls out, FSys.run handTable FSys.init fls = some (s.f, out)) → NS s.f → R s.f sc → R e.f rest)
    (fun _ _ _ _ _ _ hR => hR)
    (fun _ s sc l s' _ _ _ _ hal hstep ih ⟨fls, out, hreach⟩ hns hR => by
      have hf := fc_step_f handTable cap s s' l hstep
      cases l with
      | stmt fl =>
        obtain ⟨o, ho⟩ := hf
        have hrun1 : FSys.run handTable s.f [fl] = some (s'.f, o ++ []) := by simp [FSys.run, ho]
        exact ih ⟨fls ++ [fl], out ++ (o ++ []), frun_append handTable fls [fl] FSys.init s.f s'.f out _ hreach hrun1⟩
          (NS_step fls s.f out hreach hns fl s'.f o ho) (R_step s.f s'.f fl o sc hns hR ho hal)
      | send => simp only at hf; exact ih ⟨fls, out, by rw [hf]; exact hreach⟩ (by rw [hf]; exact hns) (by rw [hf]; exact hR)
      | recv => simp only at hf; exact ih ⟨fls, out, by rw [hf]; exact hreach⟩ (by rw [hf]; exact hns) (by rw [hf]; exact hR))
    fuel s sc

theorem R_init (rs : List Nat) : R FCSys.init.f (inputScript rs) :=
  ⟨rfl, Or.inr ⟨rs, rfl⟩, fun h => by simp [FCSys.init, pastEof] at h⟩

theorem NS_init : NS FCSys.init.f := by intro r h; simp [FCSys.init] at h

theorem fdrive_stable (T : Table) (B : Nat)
    (hB : ∀ ps i, (VaxisModel.Model.Parser.step T ps i).out.length ≤ B) (cap : Nat) (pol : Policy)
    (fuel : Nat) (s : FCSys) (sc : List Inp) : mu B s sc < fuel → ∀ k,
      fdrive T cap pol (fuel + k) s sc = fdrive T cap pol fuel s sc ∧
      ftrace T cap pol (fuel + k) s sc = ftrace T cap pol fuel s sc :=
  fdrive_induct T cap pol (motive := fun n s sc e tr _ => mu B s sc < n → ∀ k,
      fdrive T cap pol (n + k) s sc = e ∧ ftrace T cap pol (n + k) s sc = tr)
    (fun n s sc h hf k => by
      rcases h with rfl | h
      · omega
      · obtain ⟨m, rfl⟩ : ∃ m, n = m + 1 := ⟨n - 1, by omega⟩
        rw [Nat.add_right_comm m 1 k]
        simp only [fdrive, ftrace, h, and_self])
    (fun n s sc l s' _ _ _ hfe hal hstep ih hf k => by
      have := step_dec T B hB cap s s' l sc hstep hal
      obtain ⟨h1, h2⟩ := ih (by omega) k
      rw [Nat.add_right_comm n 1 k]
      simp only [fdrive, ftrace, hfe, h1, h2, and_self]) fuel s sc

theorem close_step (T : Table) (cap : Nat) (s : FCSys) : FCSys.step T cap s (.stmt .closeSig) = some (closeOf s) := by
  simp [FCSys.step, FSys.step, isMainL, closeOf]

theorem E_close (s : FCSys) (sc : List Inp) (hE : E s.f sc) : E (closeOf s).f sc :=
  ⟨hE.dc, fun h => ⟨(hE.e1 h).1, Or.inl rfl⟩, hE.e2⟩

theorem mu_close_eq (B : Nat) (s : FCSys) (sc : List Inp) : mu B (closeOf s) sc = mu B s sc := rfl

theorem readsOf_append (l1 l2 : List FCLabel) : readsOf (l1 ++ l2) = readsOf l1 ++ readsOf l2 := by
  induction l1 with
  | nil => rfl
  | cons l ls ih =>
    cases l with
    | send => simpa [readsOf] using ih
    | recv => simpa [readsOf] using ih
    | stmt fl => cases fl <;> simp [readsOf, ih]

theorem closeReq_step (T : Table) (f f' : FSys) (l : FLabel) (o : List Seq) (hc : f.closeReq = true)
    (h : FSys.step T f l = some (f', o)) : f'.closeReq = true := by
  cases fstep_rel h with
  | closeSig => rfl
  | readRet i _ => exact hc
  | expire g _ => exact hc
  | cb i _ => rw [(cbStep_frame f f' i o h).2.1]; exact hc
  | main _ => rw [(mainStep_pc T f f' o h).2.1]; exact hc

/-- **After `Close()` at most one read returns — in every schedule**: the pending one, if the main
    goroutine is blocked in the read; none otherwise. -/
theorem reads_after_close (T : Table) (cap : Nat) : ∀ (ls : List FCLabel) (s s' : FCSys), s.f.closeReq = true →
    FCSys.run T cap s ls = some s' → (readsOf ls).length ≤ (if s.f.mpc = .inRead then 1 else 0)
  | [], _, _, _, _ => by simp [readsOf]
  | l :: ls, s, s', hc, h => by
    simp only [FCSys.run] at h
    cases hs : FCSys.step T cap s l with
    | none => rw [hs] at h; cases h
    | some s1 =>
      rw [hs] at h
      have hf := fc_step_f T cap s s1 l hs
      cases l with
      | send =>
        simp only at hf
        have := reads_after_close T cap ls s1 s' (by rw [hf]; exact hc) h
        rw [hf] at this; simpa [readsOf] using this
      | recv =>
        simp only at hf
        have := reads_after_close T cap ls s1 s' (by rw [hf]; exact hc) h
        rw [hf] at this; simpa [readsOf] using this
      | stmt fl =>
        obtain ⟨o, ho⟩ := hf
        have ih := reads_after_close T cap ls s1 s' (closeReq_step T s.f s1.f fl o hc ho) h
        generalize s1.f = f1 at ho ih
        cases fstep_rel ho with
        | readRet i hpc =>
          have ih' : (readsOf ls).length ≤ 0 := by simpa using ih
          simp only [readsOf, List.length_cons, hpc, if_true]
          omega
        | main _ =>
          have hnr : f1.mpc ≠ .inRead := by
            by_cases hr : s.f.mpc = .inRead
            · rw [step_main_inRead hr] at ho; cases ho
            · exact (noRead_step T s.f f1 .main o ⟨hc, hr⟩ ho).2
          simp only [hnr, if_false] at ih
          simp only [readsOf]; omega
        | cb j _ => rw [(cbStep_frame s.f f1 j o ho).1] at ih; simpa [readsOf] using ih
        | _ => simpa [readsOf] using ih

end VaxisModel.Lemmas.ParserRunFineFair
