/-
C08: schedules of the statement-grained life cycle (`FSys.run`, Model/ParserRunFine.lean) as lists that can be
taken apart and rearranged: how a run splits at its first statements, two adjacent statements that commute can
be swapped anywhere in a schedule (`swap_in_schedule`), and the four commutations the normal forms of
Lemmas/ParserRunSched{Normal,Carry,Group}.lean rest on — `Close()` against everything but the `select`, a timer
expiry against everything that does not touch the timer, a read return against every other goroutine, a
callback's check / `p.ignoreST = false` against everything outside the mutex.
-/
import VaxisModel.Lemmas.ParserRunFine

namespace VaxisModel.Lemmas.ParserRunSched
open VaxisModel.Model.ParserTable VaxisModel.Model.Parser VaxisModel.Model.ParserRun VaxisModel.Model.ParserRunFine
open VaxisModel.Lemmas.ParserRunFine VaxisModel.Lemmas.OptRun

theorem run_append (T : Table) (f : FSys) (as bs : List FLabel) :
    FSys.run T f (as ++ bs) =
      (match FSys.run T f as with
       | none => none
       | some (f1, o1) => match FSys.run T f1 bs with
         | none => none
         | some (f2, o2) => some (f2, o1 ++ o2)) := by
  simp only [frun_eq, orun_append]
  cases orun (FSys.step T) f as with
  | none => rfl
  | some r => obtain ⟨f1, o1⟩ := r; cases h : orun (FSys.step T) f1 bs <;> simp only [h]

theorem run_cons_some (T : Table) (f f' : FSys) (l : FLabel) (o : List Seq) (X : List FLabel)
    (hs : FSys.step T f l = some (f', o)) :
    FSys.run T f (l :: X) = (FSys.run T f' X).map (fun r => (r.1, o ++ r.2)) := by
  rw [frun_eq, frun_eq]; exact orun_cons hs X

theorem run_cons_end (T : Table) (f f' : FSys) (l : FLabel) (o : List Seq) (X : List FLabel) (r : FSys × List Seq)
    (hs : FSys.step T f l = some (f', o)) (h : FSys.run T f (l :: X) = some r) :
    ∃ r', FSys.run T f' X = some r' ∧ r'.1 = r.1 := by
  rw [run_cons_some T f f' l o X hs] at h
  cases hx : FSys.run T f' X with
  | none => rw [hx] at h; cases h
  | some r' => rw [hx] at h; cases h; exact ⟨r', rfl, rfl⟩

theorem run_cons_nil_out (T : Table) (f f' : FSys) (l : FLabel) (X : List FLabel)
    (h : FSys.step T f l = some (f', [])) : FSys.run T f (l :: X) = FSys.run T f' X := by
  rw [run_cons_some T f f' l [] X h]
  cases FSys.run T f' X with
  | none => rfl
  | some r => cases r; rfl

theorem run_cons_congr (T : Table) (f f' : FSys) (l : FLabel) (o : List Seq) (X Y : List FLabel)
    (hs : FSys.step T f l = some (f', o)) (h : FSys.run T f' X = FSys.run T f' Y) :
    FSys.run T f (l :: X) = FSys.run T f (l :: Y) := by
  rw [run_cons_some T f f' l o X hs, run_cons_some T f f' l o Y hs, h]

theorem isSome_cons (T : Table) (f : FSys) (l : FLabel) (ls : List FLabel)
    (h : (FSys.run T f (l :: ls)).isSome = true) :
    ∃ f' o, FSys.step T f l = some (f', o) ∧ (FSys.run T f' ls).isSome = true := by
  obtain ⟨⟨f2, o⟩, hr⟩ := Option.isSome_iff_exists.mp h
  obtain ⟨f', o1, o2, hs, hr', _⟩ := orun_cons_some (frun_eq T f _ ▸ hr)
  exact ⟨f', o1, hs, by rw [frun_eq, hr']; rfl⟩

def EndP (P : FSys → Prop) (T : Table) (f : FSys) (ls : List FLabel) : Prop :=
  ∃ r, FSys.run T f ls = some r ∧ P r.1

theorem EndP_cons (P : FSys → Prop) (T : Table) (f : FSys) (l : FLabel) (ls : List FLabel)
    (h : EndP P T f (l :: ls)) : ∃ f' o, FSys.step T f l = some (f', o) ∧ EndP P T f' ls := by
  obtain ⟨⟨f2, o⟩, hr, hm⟩ := h
  obtain ⟨f', o1, o2, hs, hr', _⟩ := orun_cons_some (frun_eq T f _ ▸ hr)
  exact ⟨f', o1, hs, (f2, o2), frun_eq T f' ls ▸ hr', hm⟩

theorem EndP_prepend {P : FSys → Prop} {T : Table} {f f' : FSys} {l : FLabel} {o : List Seq} {ls : List FLabel}
    (hs : FSys.step T f l = some (f', o)) (h : EndP P T f' ls) : EndP P T f (l :: ls) := by
  obtain ⟨r, hr, hm⟩ := h
  exact ⟨(r.1, o ++ r.2), by rw [run_cons_some T f f' l o ls hs, hr]; rfl, hm⟩

theorem EndP_isSome (P : FSys → Prop) (T : Table) (f : FSys) (ls : List FLabel) (h : EndP P T f ls) :
    (FSys.run T f ls).isSome = true := by
  obtain ⟨r, hr, _⟩ := h; rw [hr]; rfl

def step2 (T : Table) (f : FSys) (a b : FLabel) : Option (FSys × List Seq) := FSys.run T f [a, b]

theorem commute_steps (T : Table) (f f1 f2 : FSys) (a b : FLabel) (o1 o2 : List Seq)
    (h : step2 T f a b = step2 T f b a) (h1 : FSys.step T f a = some (f1, o1))
    (h2 : FSys.step T f1 b = some (f2, o2)) :
    ∃ f' o' o2', FSys.step T f b = some (f', o') ∧ FSys.step T f' a = some (f2, o2') ∧ o1 ++ o2 = o' ++ o2' := by
  have hab : step2 T f a b = some (f2, o1 ++ (o2 ++ [])) := by simp only [step2, FSys.run, h1, h2]
  rw [h, step2, frun_eq] at hab
  obtain ⟨f', o', _, h3, h4, he⟩ := orun_cons_some hab
  obtain ⟨_, o2', _, h5, h6, he'⟩ := orun_cons_some h4
  obtain ⟨rfl, rfl⟩ := orun_nil_some h6
  exact ⟨f', o', o2', h3, h5, by simpa [he'] using he⟩

theorem swap_in_schedule (T : Table) (pre post : List FLabel) (a b : FLabel) (f0 : FSys)
    (h : ∀ f o, FSys.run T f0 pre = some (f, o) → step2 T f a b = step2 T f b a) :
    FSys.run T f0 (pre ++ a :: b :: post) = FSys.run T f0 (pre ++ b :: a :: post) := by
  rw [run_append, run_append]
  cases hp : FSys.run T f0 pre with
  | none => rfl
  | some r =>
    obtain ⟨f, o⟩ := r
    simp only
    have hab := h f o hp
    have e1 : FSys.run T f (a :: b :: post) = FSys.run T f ([a, b] ++ post) := rfl
    have e2 : FSys.run T f (b :: a :: post) = FSys.run T f ([b, a] ++ post) := rfl
    rw [e1, e2, run_append, run_append]
    simp only [step2] at hab
    rw [hab]

/-- **No statement but the `select` looks at `p.close`**: with `Close()` called or not, any other statement — of the
    main goroutine unless it stands at the `select`, of a callback, a read return, an expiry — is enabled alike and does
    the same. -/
theorem step_close_equivariant (T : Table) (f : FSys) (l : FLabel) (hsel : ¬ (l = .main ∧ f.mpc = .atSelect)) :
    FSys.step T { f with closeReq := true } l =
      (FSys.step T f l).map (fun r => ({ r.1 with closeReq := true }, r.2)) := by
  cases l with
  | closeSig => rfl
  | readRet i =>
    simp only [FSys.step]
    by_cases h : f.mpc = .inRead <;> simp [h]
  | expire =>
    simp only [FSys.step]
    cases h : f.armed <;> simp
  | main =>
    simp only [FSys.step, mainStep]
    cases hpc : f.mpc with
    | atSelect => exact absurd ⟨rfl, hpc⟩ hsel
    | fin st v => cases st <;> simp
    | _ => simp
  | cb k =>
    simp only [FSys.step, cbStep]
    cases hk : f.cbs[k]? with
    | none => simp
    | some c =>
      obtain ⟨g, pc⟩ := c
      cases pc <;> simp

/-- **`Close()` commutes with every statement except the `select`** (nothing else reads `p.close`):
    issuing it before or after any other statement — of the main goroutine unless it stands in front
    of the `select`, of a callback, a read return, an expiry — gives the same state and the same
    items.  So a schedule loses nothing when every `Close()` is moved forward to the next `select`
    (reduction 1 of `enumerate`). -/
theorem closeSig_commutes (T : Table) (f : FSys) (l : FLabel) (hsel : ¬ (l = .main ∧ f.mpc = .atSelect)) :
    step2 T f .closeSig l = step2 T f l .closeSig := by
  simp only [step2, FSys.run, show FSys.step T f .closeSig = some ({ f with closeReq := true }, []) from rfl,
    step_close_equivariant T f l hsel]
  cases FSys.step T f l with
  | none => rfl
  | some r => simp [FSys.step]

/-- **A timer expiry commutes with every statement that does not touch the timer**: while the timer
    is pending, letting it expire before or after a statement `l` gives the same state and items,
    for every `l` except the statements that stop or (re-)arm the timer (`Stop()` in `readRune`,
    `Stop()` after the loop, `anywhere`), another expiry, and the first statement of the very callback
    this expiry starts.  So the callback of a timer that expires
    at all may be taken to have started right after the timer was armed (reduction 2 of `enumerate`):
    its first statement can still be scheduled at any later point. -/
theorem expire_commutes (T : Table) (f : FSys) (g : Nat) (l : FLabel) (ha : f.armed = some g)
    (hl : l ≠ .expire)
    (hm : l = .main → (∀ i, f.mpc ≠ .readDone i) ∧ (∀ v, f.mpc ≠ .fin .stop v) ∧ (∀ i, f.mpc ≠ .bumped i))
    (hcb : ∀ k, l = .cb k → k ≠ f.cbs.length) :
    step2 T f .expire l = step2 T f l .expire := by
  simp only [step2, FSys.run, FSys.step, ha]
  cases l with
  | expire => exact absurd rfl hl
  | closeSig => simp
  | readRet i =>
    by_cases h : f.mpc = .inRead <;> simp [h]
  | main =>
    obtain ⟨h1, h2, h3⟩ := hm rfl
    simp only [mainStep]
    cases hpc : f.mpc with
    | atSelect => by_cases hc : f.closeReq = true <;> simp [hc, ha]
    | inRead => simp
    | done => simp
    | readDone i => exact absurd hpc (h1 i)
    | stopped i => by_cases hmx : f.mutex = none <;> simp [hmx, ha]
    | locked i => simp [ha]
    | bumped i => exact absurd hpc (h3 i)
    | stepped b => simp [ha]
    | fin st v =>
      cases st with
      | stop => exact absurd hpc (h2 v)
      | lock => by_cases hmx : f.mutex = none <;> simp [hmx, ha]
      | bump => simp [ha]
      | unlock => simp [ha]
      | emit => simp [ha]
      | close => simp [ha]
  | cb k =>
    simp only [cbStep]
    by_cases hlt : k < f.cbs.length
    · have e1 : (f.cbs ++ [(g, CbPc.started)])[k]? = f.cbs[k]? := List.getElem?_append_left hlt
      rw [e1]
      cases hk : f.cbs[k]? with
      | none => simp
      | some c =>
        obtain ⟨gk, pc⟩ := c
        have hset : ∀ x, (f.cbs ++ [(g, CbPc.started)]).set k x = f.cbs.set k x ++ [(g, CbPc.started)] := fun x => by
          rw [List.set_append_left _ _ hlt]
        cases pc <;> simp [ha, hset]
        by_cases hmx : f.mutex = none <;> simp [hmx]
    · -- `k` names no callback yet: the statement is not enabled before the expiry …
      have hnone : f.cbs[k]? = none := List.getElem?_eq_none (Nat.le_of_not_lt hlt)
      simp only [hnone]
      -- … nor after it (`k` is not the callback this expiry starts)
      have hk : k ≠ f.cbs.length := hcb k rfl
      have : (f.cbs ++ [(g, CbPc.started)])[k]? = none := by
        apply List.getElem?_eq_none
        simp only [List.length_append, List.length_cons, List.length_nil]
        omega
      simp [this]

/-- **The read return commutes with every statement of another party** (nobody but the main goroutine
    looks at where the main goroutine is). -/
theorem readRet_commutes (T : Table) (f : FSys) (i : Inp) (l : FLabel) (hl : l ≠ .main) :
    step2 T f (.readRet i) l = step2 T f l (.readRet i) := by
  simp only [step2, FSys.run, FSys.step]
  cases l with
  | main => exact absurd rfl hl
  | closeSig => by_cases h : f.mpc = .inRead <;> simp [h]
  | readRet j => by_cases h : f.mpc = .inRead <;> simp [h]
  | expire =>
    cases ha : f.armed <;> by_cases h : f.mpc = .inRead <;> simp [h]
  | cb k =>
    simp only [cbStep]
    cases hk : f.cbs[k]? with
    | none => by_cases h : f.mpc = .inRead <;> simp [h, hk]
    | some c =>
      obtain ⟨g, pc⟩ := c
      by_cases h : f.mpc = .inRead <;> by_cases hm : f.mutex = none <;> cases pc <;> simp [h, hk, hm]

/-- **A callback's check and its `p.ignoreST = false` commute with every statement of every other
    goroutine that is not inside the mutex** (they read `p.escGen`, write `p.ignoreST` and the
    callback's own program counter; they leave the mutex as it is). -/
theorem cb_mid_commutes (T : Table) (f : FSys) (k g : Nat) (pc : CbPc) (l : FLabel)
    (hk : f.cbs[k]? = some (g, pc)) (hpc : pc = .locked ∨ pc = .stateSet) (hl : l ≠ .cb k)
    (hm : holdsMain f.mpc = false) : step2 T f (.cb k) l = step2 T f l (.cb k) := by
  have hlt : k < f.cbs.length := (List.getElem?_eq_some_iff.mp hk).1
  cases l with
  | cb j =>
    have hjk : j ≠ k := fun h => hl (by rw [h])
    rcases hpc with rfl | rfl
    all_goals
      simp only [step2, FSys.run, FSys.step, cbStep, hk]
      cases hj : f.cbs[j]? with
      | none => simp [hj, List.getElem?_set_ne hjk.symm]
      | some c =>
        obtain ⟨gj, pcj⟩ := c
        cases pcj with
        | started =>
          by_cases hmx : f.mutex = none <;>
            simp [hj, hk, hmx, List.getElem?_set_ne (Ne.symm hjk), List.getElem?_set_ne hjk, List.set_comm _ _ hjk]
        | _ => simp [hj, hk, List.getElem?_set_ne (Ne.symm hjk), List.getElem?_set_ne hjk, List.set_comm _ _ hjk]
  | closeSig =>
    rcases hpc with rfl | rfl <;> simp [step2, FSys.run, FSys.step, cbStep, hk]
  | readRet i =>
    rcases hpc with rfl | rfl <;> by_cases h : f.mpc = .inRead <;> simp [step2, FSys.run, FSys.step, cbStep, hk, h]
  | expire =>
    cases ha : f.armed with
    | none => rcases hpc with rfl | rfl <;> simp [step2, FSys.run, FSys.step, cbStep, hk, ha]
    | some ga =>
      have e1 : (f.cbs ++ [(ga, CbPc.started)])[k]? = f.cbs[k]? := List.getElem?_append_left hlt
      have hset : ∀ x, (f.cbs ++ [(ga, CbPc.started)]).set k x = f.cbs.set k x ++ [(ga, CbPc.started)] := fun x => by
        rw [List.set_append_left _ _ hlt]
      rcases hpc with rfl | rfl <;> simp [step2, FSys.run, FSys.step, cbStep, hk, ha, e1, hset]
  | main =>
    -- outside its critical sections the main goroutine reads `closeReq` and the mutex only
    rcases hpc with rfl | rfl
    all_goals
      simp only [step2, FSys.run, FSys.step, cbStep, hk, mainStep]
      cases hmpc : f.mpc with
      | atSelect => by_cases hc : f.closeReq = true <;> simp [hc, hk]
      | stopped i => by_cases hmx : f.mutex = none <;> simp [hmx, hk]
      | fin st v =>
        rw [hmpc] at hm
        cases st <;> first | (cases hm; done) | (by_cases hmx : f.mutex = none <;> simp [hmx, hk])
      | locked i => rw [hmpc] at hm; cases hm
      | bumped i => rw [hmpc] at hm; cases hm
      | stepped b => rw [hmpc] at hm; cases hm
      | _ => simp [hk]

/-- **Moving a `Close()` one statement later changes nothing** — in any schedule, at any position,
    unless the statement it is moved over is the `select` of the main goroutine: same final state,
    same items (and the schedule is enabled iff the other is).  Repeating the move brings every
    `Close()` in front of the next `select` (or to the end of the schedule, where it has no effect on
    what was delivered): reduction 1 of `enumerate`, on whole schedules. -/
theorem closeSig_moves_later (T : Table) (pre post : List FLabel) (l : FLabel) (f0 : FSys)
    (hsel : ∀ f o, FSys.run T f0 pre = some (f, o) → ¬ (l = .main ∧ f.mpc = .atSelect)) :
    FSys.run T f0 (pre ++ .closeSig :: l :: post) = FSys.run T f0 (pre ++ l :: .closeSig :: post) :=
  swap_in_schedule T pre post .closeSig l f0 (fun f o hp => closeSig_commutes T f l (hsel f o hp))

/-- **Moving a timer expiry one statement earlier changes nothing** — in any schedule, at any
    position where the timer is already pending and the statement it is moved over neither stops nor
    arms the timer (and is not the first statement of the callback the expiry starts).  Repeating the
    move brings the expiry right behind the `anywhere` that armed the timer: reduction 2 of
    `enumerate`, on whole schedules. -/
theorem expire_moves_earlier (T : Table) (pre post : List FLabel) (l : FLabel) (f0 : FSys)
    (hl : l ≠ .expire)
    (h : ∀ f o, FSys.run T f0 pre = some (f, o) →
      (∃ g, f.armed = some g) ∧
      (l = .main → (∀ i, f.mpc ≠ .readDone i) ∧ (∀ v, f.mpc ≠ .fin .stop v) ∧ (∀ i, f.mpc ≠ .bumped i)) ∧
      (∀ k, l = .cb k → k ≠ f.cbs.length)) :
    FSys.run T f0 (pre ++ l :: .expire :: post) = FSys.run T f0 (pre ++ .expire :: l :: post) :=
  swap_in_schedule T pre post l .expire f0 (fun f o hp => by
    obtain ⟨⟨g, hg⟩, hm, hcb⟩ := h f o hp
    exact (expire_commutes T f g l hg hl hm hcb).symm)

end VaxisModel.Lemmas.ParserRunSched
