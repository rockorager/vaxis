/-
C08: carrying a statement forward to its partner.  Two of the normalisations of schedules of the statement-grained
life cycle make two statements adjacent that the harness executes as one label: the read return and the `Stop()`
that follows it, a callback's failed check / `p.ignoreST = false` and its deferred `Unlock`
(`readNorm`, `cbNorm` of Lemmas/ParserRunSchedGroup.lean).  Both are the function `carry` below, for a `Carrier`
that says which statement is picked up, and which one it is carried to.  What a carried schedule looks like is
proved once (`carry_induct`); the theorems about it are case checks on that (`carry_perm` alone holds whether or
not the schedule runs and is a recursion of its own).
-/
import VaxisModel.Lemmas.ParserRunSchedNormal

namespace VaxisModel.Lemmas.ParserRunSchedCarry
open VaxisModel.Model.ParserTable VaxisModel.Model.Parser VaxisModel.Model.ParserRun VaxisModel.Model.ParserRunFine
open VaxisModel.Lemmas.ParserRunSched VaxisModel.Lemmas.ParserRunSchedNormal

/-- `pick f l = some k`: the statement `l`, taken in `f`, is picked up (it is `lab k`) and carried over every
    label but `stop k`. -/
structure Carrier (κ : Type) where
  pick : FSys → FLabel → Option κ
  lab : κ → FLabel
  stop : κ → FLabel

variable {κ : Type}

/-- The statement that is being carried. -/
def Carrier.pend (C : Carrier κ) : Option κ → List FLabel
  | none => []
  | some k => [C.lab k]

@[simp] theorem Carrier.pend_none (C : Carrier κ) : C.pend none = [] := rfl
@[simp] theorem Carrier.pend_some (C : Carrier κ) (k : κ) : C.pend (some k) = [C.lab k] := rfl

/-- The normalising function (recursion along the run): a picked statement travels to its partner. -/
def carry (C : Carrier κ) (T : Table) : Option κ → FSys → List FLabel → List FLabel
  | p, _, [] => C.pend p
  | none, f, l :: ls =>
    match C.pick f l with
    | some k => carry C T (some k) f ls
    | none =>
      match FSys.step T f l with
      | some (f', _) => l :: carry C T none f' ls
      | none => l :: ls
  | some k, f, l :: ls =>
    if l = C.stop k then
      match FSys.run T f [C.lab k, C.stop k] with
      | some (f'', _) => C.lab k :: C.stop k :: carry C T none f'' ls
      | none => C.lab k :: C.stop k :: ls
    else
      match FSys.step T f l with
      | some (f', _) => l :: carry C T (some k) f' ls
      | none => C.lab k :: l :: ls

/-- What makes carrying sound on the states that meet `Inv`.  `Open f k`: in `f`, `lab k` is a statement that is
    carried; `Half f k`: `f` lies between `lab k` and `stop k`. -/
structure Carrier.Sound (C : Carrier κ) (T : Table) (Inv : FSys → Prop) (Open Half : FSys → κ → Prop) : Prop where
  inv_step : ∀ f f' l o, Inv f → FSys.step T f l = some (f', o) → Inv f'
  pick_spec : ∀ f l k, C.pick f l = some k → l = C.lab k ∧ (Inv f → Open f k)
  pick_open : ∀ f k, Inv f → Open f k → C.pick f (C.lab k) = some k
  /-- the carried statement commutes with every label but its partner … -/
  commute : ∀ f k l, Inv f → Open f k → l ≠ C.stop k → step2 T f (C.lab k) l = step2 T f l (C.lab k)
  /-- … and stays what it is while it travels -/
  keep : ∀ f f' k l o, Inv f → Open f k → l ≠ C.stop k → FSys.step T f l = some (f', o) → Open f' k
  /-- a label that is enabled right behind it is not itself picked up -/
  excl : ∀ f f1 k l o, Inv f → Open f k → l ≠ C.stop k → FSys.step T f (C.lab k) = some (f1, o) →
    (FSys.step T f1 l).isSome = true → C.pick f l = none
  half : ∀ f f1 k o, Inv f → Open f k → FSys.step T f (C.lab k) = some (f1, o) → Half f1 k
  half_pick : ∀ f k, Half f k → C.pick f (C.stop k) = none

/-- The carried statement and its partner have no part in the timer, in `Close()` or in the `select`. -/
structure Carrier.Apart (C : Carrier κ) (T : Table) (Inv : FSys → Prop) (Open Half : FSys → κ → Prop) : Prop where
  lab_ne : ∀ k, C.lab k ≠ .expire ∧ C.lab k ≠ .closeSig
  stop_ne : ∀ k, C.stop k ≠ .closeSig
  lab_arm : ∀ f k, isArming T f (C.lab k) = false
  arm : ∀ f f1 k l o, Inv f → Open f k → l ≠ C.stop k → FSys.step T f (C.lab k) = some (f1, o) →
    isArming T f l = false ∧ isArming T f1 l = false
  pick_none : ∀ f, C.pick f .closeSig = none ∧ C.pick f .main = none
  half_close : ∀ f k, Half f k → Half (closeF f) k
  select : ∀ f f1 k o, Inv f → Open f k → FSys.step T f (C.lab k) = some (f1, o) → f1.mpc = .atSelect →
    f.mpc = .atSelect ∧ C.stop k ≠ .main

section
variable {C : Carrier κ} {T : Table} {Inv : FSys → Prop} {Open Half : FSys → κ → Prop}

/-- **What carrying does to a schedule that runs**, as a case principle: the four ways a label is treated, each
    with the steps that are enabled there — in `over`, `lab k` and `l` in both orders, to the same state and items. -/
theorem carry_induct (S : C.Sound T Inv Open Half)
    {motive : Option κ → FSys → List FLabel → List FLabel → Prop}
    (nil : ∀ p f, Inv f → (∀ k, p = some k → Open f k) → motive p f [] (C.pend p))
    (pick : ∀ f k ls out, Inv f → Open f k → motive (some k) f ls out → motive none f (C.lab k :: ls) out)
    (step : ∀ f l ls f' o out, Inv f → C.pick f l = none → FSys.step T f l = some (f', o) →
      motive none f' ls out → motive none f (l :: ls) (l :: out))
    (stop : ∀ f k ls f1 o1 f2 o2 out, Inv f → Open f k → FSys.step T f (C.lab k) = some (f1, o1) →
      FSys.step T f1 (C.stop k) = some (f2, o2) →
      motive none f2 ls out → motive (some k) f (C.stop k :: ls) (C.lab k :: C.stop k :: out))
    (over : ∀ f k l ls f1 o1 f12 o12 f' o' o2' out, Inv f → Open f k → l ≠ C.stop k →
      FSys.step T f (C.lab k) = some (f1, o1) → FSys.step T f1 l = some (f12, o12) →
      FSys.step T f l = some (f', o') → FSys.step T f' (C.lab k) = some (f12, o2') → o1 ++ o12 = o' ++ o2' →
      motive (some k) f' ls out → motive (some k) f (l :: ls) (l :: out)) :
    ∀ (ls : List FLabel) (p : Option κ) (f : FSys), Inv f → (∀ k, p = some k → Open f k) →
      (FSys.run T f (C.pend p ++ ls)).isSome = true → motive p f ls (carry C T p f ls)
  | [], p, f, hinv, hop, _ => by simp only [carry]; exact nil p f hinv hop
  | l :: ls, none, f, hinv, _, hr => by
    simp only [Carrier.pend_none, List.nil_append] at hr
    simp only [carry]
    cases ho : C.pick f l with
    | some k =>
      obtain ⟨rfl, hop⟩ := S.pick_spec f l k ho
      exact pick f k ls _ hinv (hop hinv)
        (carry_induct S nil pick step stop over ls (some k) f hinv (fun k' hk' => by cases hk'; exact hop hinv) hr)
    | none =>
      obtain ⟨f', o, hs, hr'⟩ := isSome_cons T f l ls hr
      simp only [hs]
      exact step f l ls f' o _ hinv ho hs
        (carry_induct S nil pick step stop over ls none f' (S.inv_step f f' l o hinv hs) (fun _ h => by cases h) hr')
  | l :: ls, some k, f, hinv, hop, hr => by
    have hop := hop k rfl
    simp only [Carrier.pend_some, List.singleton_append] at hr
    obtain ⟨f1, o1, hs1, hr1⟩ := isSome_cons T f _ _ hr
    obtain ⟨f12, o12, hs12, hr12⟩ := isSome_cons T f1 l _ hr1
    simp only [carry]
    by_cases hl : l = C.stop k
    · subst hl
      have hrun : FSys.run T f [C.lab k, C.stop k] = some (f12, o1 ++ (o12 ++ [])) := by
        simp only [FSys.run, hs1, hs12]
      simp only [if_true, hrun]
      exact stop f k ls f1 o1 f12 o12 _ hinv hop hs1 hs12
        (carry_induct S nil pick step stop over ls none f12
          (S.inv_step _ _ _ _ (S.inv_step _ _ _ _ hinv hs1) hs12) (fun _ h => by cases h) hr12)
    · obtain ⟨f', o', o2', hs', hs'2, ho⟩ :=
        commute_steps T f f1 f12 _ l o1 o12 (S.commute f k l hinv hop hl) hs1 hs12
      simp only [if_neg hl, hs']
      refine over f k l ls f1 o1 f12 o12 f' o' o2' _ hinv hop hl hs1 hs12 hs' hs'2 ho
        (carry_induct S nil pick step stop over ls (some k) f' (S.inv_step f f' l o' hinv hs')
          (fun k' hk' => by cases hk'; exact S.keep f f' k l o' hinv hop hl hs') ?_)
      simp only [Carrier.pend_some, List.singleton_append]
      rw [run_cons_some T f' f12 _ o2' _ hs'2]
      cases hx : FSys.run T f12 ls with
      | none => rw [hx] at hr12; cases hr12
      | some x => rfl

theorem carry_run (S : C.Sound T Inv Open Half) (ls : List FLabel) (f : FSys) (hinv : Inv f)
    (hr : (FSys.run T f ls).isSome = true) : FSys.run T f (carry C T none f ls) = FSys.run T f ls := by
  refine carry_induct S (motive := fun p f ls out => FSys.run T f out = FSys.run T f (C.pend p ++ ls))
    (fun p f _ _ => by simp) ?_ ?_ ?_ ?_ ls none f hinv (fun _ h => by cases h) hr
  · intro f k ls out _ _ ih
    exact ih
  · intro f l ls f' o out _ _ hs ih
    exact run_cons_congr T f f' l o _ _ hs ih
  · intro f k ls f1 o1 f2 o2 out _ _ hs1 hs2 ih
    exact run_cons_congr T f f1 _ o1 _ _ hs1 (run_cons_congr T f1 f2 _ o2 _ _ hs2 ih)
  · intro f k l ls f1 o1 f12 o12 f' o' o2' out _ _ _ hs1 hs12 hs' hs'2 ho ih
    rw [run_cons_congr T f f' l o' _ _ hs' ih]
    simp only [Carrier.pend_some, List.singleton_append]
    rw [run_cons_some T f f' l o' _ hs', run_cons_some T f' f12 _ o2' _ hs'2, run_cons_some T f f1 _ o1 _ hs1,
      run_cons_some T f1 f12 l o12 _ hs12]
    cases FSys.run T f12 ls with
    | none => rfl
    | some r => simp only [Option.map_some, ← List.append_assoc, ho]

theorem carry_perm (hp : ∀ f l k, C.pick f l = some k → l = C.lab k) :
    ∀ (ls : List FLabel) (p : Option κ) (f : FSys), (carry C T p f ls).Perm (C.pend p ++ ls)
  | [], p, f => by simp [carry]
  | l :: ls, none, f => by
    simp only [carry, Carrier.pend_none, List.nil_append]
    cases ho : C.pick f l with
    | some k => rw [hp f l k ho]; exact carry_perm hp ls (some k) f
    | none =>
      cases hs : FSys.step T f l with
      | none => exact List.Perm.refl _
      | some r => exact (carry_perm hp ls none r.1).cons _
  | l :: ls, some k, f => by
    simp only [carry, Carrier.pend_some, List.singleton_append]
    by_cases hl : l = C.stop k
    · subst hl
      rw [if_pos rfl]
      cases h2 : FSys.run T f [C.lab k, C.stop k] with
      | none => exact List.Perm.refl _
      | some r => exact ((carry_perm hp ls none r.1).cons _).cons _
    · rw [if_neg hl]
      cases hs : FSys.step T f l with
      | none => exact List.Perm.refl _
      | some r => exact ((carry_perm hp ls (some k) r.1).cons _).trans (List.Perm.swap _ _ _)

/-- Along the run from `f`: every statement that is picked up is immediately followed by its partner. -/
def adj (C : Carrier κ) (T : Table) : FSys → List FLabel → Bool
  | _, [] => true
  | f, l :: ls =>
    match FSys.step T f l with
    | none => true
    | some (f', _) =>
      (match C.pick f l with
       | some k => decide (ls.head? = some (C.stop k))
       | none => true) && adj C T f' ls

/-- The schedule runs and does not end between a carried statement and its partner. -/
abbrev Ends (T : Table) (Half : FSys → κ → Prop) (f : FSys) (ls : List FLabel) : Prop :=
  EndP (fun f => ∀ k, ¬ Half f k) T f ls

theorem Ends.step {f f' : FSys} {l : FLabel} {o : List Seq} {ls : List FLabel} (h : Ends T Half f (l :: ls))
    (hs : FSys.step T f l = some (f', o)) : Ends T Half f' ls := by
  obtain ⟨_, _, hs', h'⟩ := EndP_cons _ T f l ls h
  rw [hs] at hs'; cases hs'; exact h'

theorem carry_adj (S : C.Sound T Inv Open Half) (ls : List FLabel) (f : FSys) (hinv : Inv f)
    (he : Ends T Half f ls) : adj C T f (carry C T none f ls) = true := by
  refine carry_induct S (motive := fun p f ls out => Ends T Half f (C.pend p ++ ls) → adj C T f out = true)
    ?_ ?_ ?_ ?_ ?_ ls none f hinv (fun _ h => by cases h) (EndP_isSome _ T _ _ he) he
  · intro p f hinv hop he
    cases p with
    | none => rfl
    | some k =>
      -- a schedule that ends here ends in the middle of the pair
      exfalso
      obtain ⟨f', o, hs, r, hr, hm⟩ := EndP_cons _ T f (C.lab k) [] he
      cases hr
      exact hm k (S.half f f' k o hinv (hop k rfl) hs)
  · intro f k ls out _ _ ih he
    exact ih he
  · intro f l ls f' o out _ hp hs ih he
    simp only [adj, hs, hp, Bool.true_and]
    exact ih (he.step hs)
  · intro f k ls f1 o1 f2 o2 out hinv hop hs1 hs2 ih he
    simp only [adj, hs1, hs2, S.pick_open f k hinv hop, S.half_pick f1 k (S.half f f1 k o1 hinv hop hs1),
      List.head?_cons, decide_true, Bool.true_and]
    exact ih ((Ends.step he hs1).step hs2)
  · intro f k l ls f1 o1 f12 o12 f' o' o2' out hinv hop hl hs1 hs12 hs' hs'2 _ ih he
    simp only [adj, hs', S.excl f f1 k l o1 hinv hop hl hs1 (by rw [hs12]; rfl), Bool.true_and]
    exact ih (EndP_prepend hs'2 ((Ends.step he hs1).step hs12))

theorem carry_expNormal (S : C.Sound T Inv Open Half) (A : C.Apart T Inv Open Half) (ls : List FLabel)
    (f : FSys) (hinv : Inv f) (hr : (FSys.run T f ls).isSome = true) :
    ∀ fl, expNormal T fl f ls = true → expNormal T fl f (carry C T none f ls) = true := by
  refine carry_induct S (motive := fun p f ls out =>
      ∀ fl, expNormal T fl f (C.pend p ++ ls) = true → expNormal T fl f out = true)
    (fun p f _ _ fl h => by simpa using h) ?_ ?_ ?_ ?_ ls none f hinv (fun _ h => by cases h) hr
  · intro f k ls out _ _ ih fl h
    exact ih fl h
  · intro f l ls f' o out _ _ hs ih fl h
    simp only [Carrier.pend_none, List.nil_append, expNormal, hs, Bool.and_eq_true] at h ih ⊢
    exact ⟨h.1, ih _ h.2⟩
  · intro f k ls f1 o1 f2 o2 out _ _ hs1 hs2 ih fl h
    simp only [Carrier.pend_none, Carrier.pend_some, List.nil_append, List.singleton_append, expNormal, hs1, hs2,
      if_neg (A.lab_ne k).1, Bool.true_and, Bool.and_eq_true, A.lab_arm] at h ih ⊢
    exact ⟨h.1, ih _ h.2⟩
  · intro f k l ls f1 o1 f12 o12 f' o' o2' out hinv hop hl hs1 hs12 hs' hs'2 _ ih fl h
    obtain ⟨hia, hia1⟩ := A.arm f f1 k l o1 hinv hop hl hs1
    simp only [Carrier.pend_some, List.singleton_append, expNormal, hs1, hs12, hs', hs'2, if_neg (A.lab_ne k).1,
      Bool.true_and, Bool.and_eq_true, A.lab_arm, hia, hia1] at h ih ⊢
    have hle : l ≠ .expire := fun hh => by rw [if_pos hh] at h; exact absurd h.1 (by simp)
    rw [if_neg hle]
    exact ⟨rfl, ih false h.2⟩

theorem allClose_cons (l : FLabel) (ls : List FLabel) (h : allClose (l :: ls) = true) :
    l = .closeSig ∧ allClose ls = true := by
  simpa [allClose] using h

theorem allClose_half (hc : ∀ f k, Half f k → Half (closeF f) k) (k : κ) :
    ∀ (ls : List FLabel) (f : FSys) (r : FSys × List Seq), allClose ls = true → Half f k →
    FSys.run T f ls = some r → Half r.1 k
  | [], f, r, _, hh, h => by simp only [FSys.run, Option.some.injEq] at h; rw [← h]; exact hh
  | l :: ls, f, r, ha, hh, h => by
    obtain ⟨rfl, ha'⟩ := allClose_cons l ls ha
    rw [run_close_cons] at h
    exact allClose_half hc k ls (closeF f) r ha' (hc f k hh) h

/-- The first two parts of the motive are what `closeNormal` looks ahead at in the rest of the schedule. -/
theorem carry_closeNormal (S : C.Sound T Inv Open Half) (A : C.Apart T Inv Open Half) (ls : List FLabel)
    (f : FSys) (hinv : Inv f) (he : Ends T Half f ls) (h : closeNormal T f ls = true) :
    closeNormal T f (carry C T none f ls) = true := by
  refine (carry_induct S (motive := fun p f ls out =>
      (allClose ls = true → p = none → out = ls) ∧
      (headIsMain ls = true → (∀ k, p = some k → FLabel.main ≠ C.stop k) → headIsMain out = true) ∧
      (Ends T Half f (C.pend p ++ ls) → closeNormal T f (C.pend p ++ ls) = true → closeNormal T f out = true))
    ?_ ?_ ?_ ?_ ?_ ls none f hinv (fun _ h => by cases h) (EndP_isSome _ T _ _ he)).2.2 he h
  · intro p f _ _
    exact ⟨fun _ hp => (by rw [hp]; rfl), fun h => (by cases h), fun _ h => by simpa using h⟩
  · intro f k ls out hinv hop ih
    refine ⟨fun ha => absurd (allClose_cons _ _ ha).1 (A.lab_ne k).2, fun hh => ?_, ih.2.2⟩
    have hm : C.lab k = .main := by cases hl : C.lab k <;> rw [hl] at hh <;> first | rfl | cases hh
    have := S.pick_open f k hinv hop
    rw [hm, (A.pick_none f).2] at this; cases this
  · intro f l ls f' o out _ _ hs ih
    refine ⟨fun ha _ => ?_, fun hh _ => ?_, fun he h => ?_⟩
    · rw [ih.1 (allClose_cons _ _ ha).2 rfl]
    · cases l <;> first | rfl | cases hh
    · simp only [Carrier.pend_none, List.nil_append] at he h
      have he' := he.step hs
      by_cases hl : l = .closeSig
      · subst hl
        rw [step_close] at hs; cases hs
        simp only [closeNormal, if_true, Bool.and_eq_true, Bool.or_eq_true] at h ⊢
        refine ⟨?_, ih.2.2 he' h.2⟩
        rcases h.1 with ha | ha
        · left; rw [ih.1 ha rfl]; exact ha
        · right; exact ⟨ha.1, ih.2.1 ha.2 (fun _ h => by cases h)⟩
      · simp only [closeNormal, if_neg hl, hs] at h ⊢
        exact ih.2.2 he' h
  · intro f k ls f1 o1 f2 o2 out _ _ hs1 hs2 ih
    refine ⟨fun _ hp => (by cases hp), fun hh hne => ?_, fun he h => ?_⟩
    · exact absurd (by cases hl : C.stop k <;> rw [hl] at hh <;> first | rfl | cases hh) (hne k rfl)
    · simp only [Carrier.pend_some, List.singleton_append] at he h
      simp only [closeNormal, if_neg (A.lab_ne k).2, if_neg (A.stop_ne k), hs1, hs2] at h ⊢
      exact ih.2.2 ((Ends.step he hs1).step hs2) h
  · intro f k l ls f1 o1 f12 o12 f' o' o2' out hinv hop hl hs1 hs12 hs' hs'2 _ ih
    refine ⟨fun _ hp => (by cases hp), fun hh _ => (by cases l <;> first | rfl | cases hh), fun he h => ?_⟩
    simp only [Carrier.pend_some, List.singleton_append] at he h
    have he12 := (Ends.step he hs1).step hs12
    have he' : Ends T Half f' (C.pend (some k) ++ ls) := EndP_prepend hs'2 he12
    have hne := (A.lab_ne k).2
    simp only [closeNormal, if_neg hne, hs1] at h
    by_cases hlc : l = .closeSig
    · subst hlc
      simp only [if_true, Bool.and_eq_true, Bool.or_eq_true, hs12] at h
      rw [step_close] at hs12 hs'
      cases hs12; cases hs'
      have ih3 := ih.2.2 he'
        (by simp only [Carrier.pend_some, List.singleton_append, closeNormal, if_neg hne, hs'2]; exact h.2)
      simp only [closeNormal, if_true, Bool.and_eq_true, Bool.or_eq_true]
      refine ⟨?_, ih3⟩
      rcases h.1 with ha | ha
      · -- the `Close()` cannot stay last: the schedule would end inside the pair
        exfalso
        obtain ⟨r, hr, hm'⟩ := he12
        exact hm' k (allClose_half A.half_close k ls _ r ha (A.half_close _ k (S.half f f1 k o1 hinv hop hs1)) hr)
      · right
        obtain ⟨hsel, hstop⟩ := A.select f f1 k o1 hinv hop hs1 (by simpa using ha.1)
        exact ⟨by simpa using hsel, ih.2.1 ha.2 (fun k' hk' => by cases hk'; exact hstop.symm)⟩
    · simp only [if_neg hlc, hs12] at h
      simp only [closeNormal, if_neg hlc, hs']
      exact ih.2.2 he'
        (by simp only [Carrier.pend_some, List.singleton_append, closeNormal, if_neg hne, hs'2]; exact h)

end

end VaxisModel.Lemmas.ParserRunSchedCarry
