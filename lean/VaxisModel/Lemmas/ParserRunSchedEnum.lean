/-
C08: closing the loop between the normal forms of schedules (Lemmas/ParserRunSchedNormal.lean,
Lemmas/ParserRunSchedGroup.lean) and the enumeration of harness schedules (`Reduced`, Props/C08Sched.lean):
the composition `normalForm` of the four normalisations keeps the script (`runes`: the runes read, in order);
a complete schedule that is normal and grouped, with at most one `Close()` and that one issued in front
of the `select` (`closeAt`), maps under `toS` to a `Reduced` schedule (`reduced_core_mc`).
-/
import VaxisModel.Props.C08Sched
import VaxisModel.Lemmas.ParserRunSchedGroup

namespace VaxisModel.Lemmas.ParserRunSchedEnum
open VaxisModel.Model.ParserTable VaxisModel.Model.Parser VaxisModel.Model.ParserRun VaxisModel.Model.ParserRunFine
open VaxisModel.Props.C08Sched VaxisModel.Lemmas.ParserRunSched VaxisModel.Lemmas.ParserRunSchedNormal
  VaxisModel.Lemmas.ParserRunSchedGroup VaxisModel.Lemmas.ParserRunSchedCarry
open VaxisModel.Lemmas.ParserRunFine hiding pend

open VaxisModel.Model.ParserRunSched

/-- The script: the runes the read returns, in order. -/
def runes : List FLabel → List Nat
  | [] => []
  | .readRet (.rune r) :: ls => r :: runes ls
  | _ :: ls => runes ls

theorem pastEof_step (T : Table) (f f' : FSys) (l : FLabel) (o : List Seq) (hs : FSys.step T f l = some (f', o))
    (h : pastEof f.mpc = true) : pastEof f'.mpc = true ∧ isRead l = false := by
  cases fstep_rel hs with
  | readRet i hpc => rw [hpc] at h; cases h
  | cb k _ => rw [(cbStep_frame f f' k o hs).1]; exact ⟨h, rfl⟩
  | main _ => exact ⟨(mainStep_pc T f f' o hs).1 ▸ pastEof_next T f h, rfl⟩
  | _ => exact ⟨h, rfl⟩

theorem no_reads_after_eof (T : Table) : ∀ (ls : List FLabel) (f : FSys), pastEof f.mpc = true →
    (FSys.run T f ls).isSome = true → runes ls = []
  | [], _, _, _ => rfl
  | l :: ls, f, h, hr => by
    obtain ⟨f', o, hs, hr'⟩ := isSome_cons T f l ls hr
    obtain ⟨h1, h2⟩ := pastEof_step T f f' l o hs h
    have ih := no_reads_after_eof T ls f' h1 hr'
    cases l with
    | readRet i => cases h2
    | _ => simpa [runes] using ih

theorem finished_stuck (T : Table) (f : FSys) (h : finished f = true) (l : FLabel) (hl : l ≠ .closeSig) :
    FSys.step T f l = none := by
  simp only [finished, Bool.and_eq_true, decide_eq_true_eq, List.all_eq_true] at h
  obtain ⟨⟨hd, hg⟩, ha⟩ := h
  cases l with
  | closeSig => exact absurd rfl hl
  | readRet i => exact step_readRet_neg i (by simp [hd])
  | main => simp [FSys.step, mainStep, hd]
  | expire =>
    cases hx : f.armed with
    | none => exact step_expire_none hx
    | some g => rw [hx] at ha; cases ha
  | cb k =>
    simp only [FSys.step]
    unfold cbStep
    cases hk : f.cbs[k]? with
    | none => rfl
    | some c =>
      obtain ⟨g, pc⟩ := c
      have := hg (g, pc) (List.mem_of_getElem? hk)
      simp only at this
      rw [this]

theorem arming_stepped (T : Table) (f f' : FSys) (l : FLabel) (o : List Seq) (h : isArming T f l = true)
    (hs : FSys.step T f l = some (f', o)) : ∃ b, f'.mpc = .stepped b := by
  cases l with
  | main =>
    simp only [isArming] at h
    cases hpc : f.mpc with
    | bumped i =>
      simp only [FSys.step, mainStep, hpc, Option.some.injEq, Prod.mk.injEq] at hs
      exact ⟨_, by rw [← hs.1]⟩
    | _ => rw [hpc] at h; cases h
  | _ => cases h

theorem runes_nonread (l : FLabel) (ls : List FLabel) (h : isRead l = false) : runes (l :: ls) = runes ls := by
  cases l with
  | readRet i => cases h
  | _ => rfl

theorem runes_congr (l : FLabel) (a b : List FLabel) (h : runes a = runes b) : runes (l :: a) = runes (l :: b) := by
  cases l with
  | readRet i => cases i <;> simp [runes, h]
  | _ => simpa [runes] using h

theorem runes_cs (k : Nat) (ls : List FLabel) : runes (cs k ++ ls) = runes ls := by
  induction k with
  | zero => simp [cs]
  | succ k ih => rw [cs_succ, List.cons_append]; simpa [runes] using ih

theorem extract_runes (T : Table) (ls : List FLabel) (f : FSys) (ls' : List FLabel)
    (h : extract T f ls = some ls') : runes ls = runes ls' := by
  fun_induction extract T f ls generalizing ls' with
  | case1 => cases h
  | case2 f ls => cases h; rfl
  | case3 f l ls hl hst => cases h
  | case4 f l ls hl hst f1 o hs ih =>
    simp only [Option.map_eq_some_iff] at h
    obtain ⟨ls1, h1, rfl⟩ := h
    exact runes_congr l _ _ (ih ls1 h1)
  | case5 f l ls hl hst hs => cases h

theorem expNorm_runes (T : Table) (n : Nat) (f : FSys) (ls : List FLabel) : runes (expNorm T n f ls) = runes ls := by
  fun_induction expNorm T n f ls with
  | case1 | case2 | case3 => rfl
  | case4 n f l ls f' o hs harm ls' f'' o'' hx he ih =>
    refine runes_congr l _ _ ?_
    rw [extract_runes T ls f' ls' he]
    simpa [runes] using ih
  | case5 n f l ls f' o hs harm hno ih => exact runes_congr l _ _ ih
  | case6 n f l ls f' o hs harm ih => exact runes_congr l _ _ ih

theorem closeNorm_runes (T : Table) (ls : List FLabel) (k : Nat) (f : FSys) : runes (closeNorm T k f ls) = runes ls := by
  fun_induction closeNorm T k f ls with
  | case1 k f => simpa using runes_cs k []
  | case2 k f ls ih => rw [ih]; rfl
  | case3 k f l ls hl hx ih => obtain ⟨_, rfl, _⟩ := hx; simpa [runes] using ih
  | case4 k f l ls hl hx f' o hs ih => exact runes_congr l _ _ ih
  | case5 k f l ls hl hx hs => exact runes_congr l _ _ (runes_cs k ls)

/-- Carrying keeps the script, for a carrier that picks up every read return or none. -/
theorem carry_runes {κ : Type} {C : Carrier κ} {T : Table} {Inv : FSys → Prop} {Open Half : FSys → κ → Prop}
    (S : C.Sound T Inv Open Half)
    (hreads : ∀ f l, isRead l = true → C.pick f l = none → ∀ k, isRead (C.lab k) = false)
    (ls : List FLabel) (f : FSys) (hinv : Inv f) (hr : (FSys.run T f ls).isSome = true) :
    runes (carry C T none f ls) = runes ls := by
  refine carry_induct S (motive := fun p _ ls out => runes out = runes (C.pend p ++ ls))
    (fun p f _ _ => by simp) ?_ ?_ ?_ ?_ ls none f hinv (fun _ h => by cases h) hr
  · intro f k ls out _ _ ih
    exact ih
  · intro f l ls f' o out _ _ _ ih
    exact runes_congr l _ _ ih
  · intro f k ls f1 o1 f2 o2 out _ _ _ _ ih
    exact runes_congr _ _ _ (runes_congr _ _ _ ih)
  · intro f k l ls f1 o1 f12 o12 f' o' o2' out hinv hop hl hs1 hs12 _ _ _ ih
    simp only [Carrier.pend_some, List.singleton_append] at ih ⊢
    cases hrd : isRead l with
    | false => rw [runes_nonread l _ hrd, ih]; exact (runes_congr _ _ _ (runes_nonread l ls hrd)).symm
    | true =>
      have hk := hreads f l hrd (S.excl f f1 k l o1 hinv hop hl hs1 (by rw [hs12]; rfl)) k
      rw [runes_nonread _ _ hk] at ih ⊢
      exact runes_congr l _ _ ih

/-- The normal form of a schedule: expiries pulled behind their arming statements, `Close()` calls carried
    to the next `select`, read returns to their `Stop()`, callback checks to their `Unlock`. -/
def normalForm (T : Table) (f0 : FSys) (ls : List FLabel) : List FLabel :=
  cbNorm T none f0 (readNorm T none f0 (closeNorm T 0 f0 (expNorm T ls.length f0 ls)))

theorem normalForm_perm (T : Table) (f0 : FSys) (ls : List FLabel) : (normalForm T f0 ls).Perm ls :=
  (cbNorm_perm T _ f0).trans ((readNorm_perm T _ f0).trans
    ((by simpa [cs] using closeNorm_perm T (expNorm T ls.length f0 ls) 0 f0 :
      (closeNorm T 0 f0 (expNorm T ls.length f0 ls)).Perm (expNorm T ls.length f0 ls)).trans (expNorm_perm T _ f0 ls)))

theorem closeNorm_expNorm_run (T : Table) (f0 : FSys) (ls : List FLabel) (r : FSys × List Seq)
    (h : FSys.run T f0 ls = some r) : FSys.run T f0 (closeNorm T 0 f0 (expNorm T ls.length f0 ls)) = some r := by
  rw [closeNorm_run]; simpa [cs, expNorm_run] using h

theorem normalForm_runes (T : Table) (hT : TimerOk T) (f0 : FSys) (hinv : FInv f0) (ls : List FLabel)
    (r : FSys × List Seq) (h : FSys.run T f0 ls = some r) : runes (normalForm T f0 ls) = runes ls := by
  have e2 := closeNorm_expNorm_run T f0 ls r h
  have hs2 : (FSys.run T f0 (closeNorm T 0 f0 (expNorm T ls.length f0 ls))).isSome = true := by rw [e2]; rfl
  unfold normalForm
  rw [cbNorm_eq, carry_runes (cbC_sound T hT) (fun _ _ _ _ _ => rfl) _ f0 hinv (by rw [readNorm_run T _ f0 r e2]; rfl),
    readNorm_eq, carry_runes (readC_sound T) (fun f l hl hp => by cases l with | readRet i => cases hp | _ => cases hl) _ f0 trivial hs2,
    closeNorm_runes, expNorm_runes]

/-- The four normalisations one after the other, `normalForm T f0 ls`: each stage keeps the result and
    what the stages before it established; the script (the runes the read returns, in order) is kept too. -/
theorem normal_form_explicit (T : Table) (hT : TimerOk T) (f0 : FSys)
    (hinv : FInv f0) (ha : f0.armed = none)
    (ls : List FLabel) (r : FSys × List Seq) (h : FSys.run T f0 ls = some r)
    (hend1 : ∀ i, r.1.mpc ≠ .readDone i) (hend2 : ∀ c ∈ r.1.cbs, c.2 ≠ .failed ∧ c.2 ≠ .stSet) :
    FSys.run T f0 (normalForm T f0 ls) = some r ∧ (normalForm T f0 ls).Perm ls ∧
      expNormal T false f0 (normalForm T f0 ls) = true ∧ closeNormal T f0 (normalForm T f0 ls) = true ∧
      readAdj (normalForm T f0 ls) = true ∧ cbAdj T f0 (normalForm T f0 ls) = true ∧
      runes (normalForm T f0 ls) = runes ls := by
  have e2 := closeNorm_expNorm_run T f0 ls r h
  have e3 := readNorm_run T _ f0 r e2
  have x1 := expNorm_normal T hT ls.length f0 ls false (Nat.le_refl _) hinv (fun g hg => by rw [ha] at hg; cases hg)
  have x2 := closeNorm_expNormal T (expNorm T ls.length f0 ls) 0 f0 false (by rw [if_pos rfl]; exact x1)
  have c2 := closeNorm_normal T (expNorm T ls.length f0 ls) 0 f0
  have r3 := readNorm_adj T _ f0 r e2 hend1
  -- the two carriers: each keeps what the stages before it established
  have hR := readC_sound T
  have hC := cbC_sound T hT
  have x3 := carry_expNormal hR (readC_apart T) _ f0 trivial (by rw [e2]; rfl) false x2
  have c3 := carry_closeNormal hR (readC_apart T) _ f0 trivial ⟨r, e2, hend1⟩ c2
  rw [← readNorm_eq] at x3 c3
  have x4 := carry_expNormal hC (cbC_apart T) _ f0 hinv (by rw [e3]; rfl) false x3
  have c4 := carry_closeNormal hC (cbC_apart T) _ f0 hinv ⟨r, e3, (noHalf_iff r.1).mp hend2⟩ c3
  rw [← cbNorm_eq] at x4 c4
  exact ⟨cbNorm_run T hT _ f0 hinv r e3, normalForm_perm T f0 ls, x4, c4, cbNorm_readAdj T hT _ f0 hinv r e3 r3,
    cbNorm_adj T hT _ f0 hinv r e3 hend2, normalForm_runes T hT f0 hinv ls r h⟩

/-- Along the run: every `Close()` is issued while the main goroutine stands in front of the `select`. -/
def closeAt (T : Table) : FSys → List FLabel → Bool
  | _, [] => true
  | f, l :: ls =>
    match FSys.step T f l with
    | none => true
    | some (f', _) => (if l = .closeSig then decide (f.mpc = .atSelect) else true) && closeAt T f' ls

theorem not_finished (T : Table) (f f' : FSys) (l : FLabel) (o : List Seq) (hs : FSys.step T f l = some (f', o))
    (hc : l = .closeSig → f.mpc = .atSelect) : finished f = false := by
  cases h : finished f with
  | false => rfl
  | true =>
    by_cases hl : l = .closeSig
    · have := hc hl
      simp only [finished, Bool.and_eq_true, decide_eq_true_eq] at h
      rw [h.1.1] at this; cases this
    · rw [finished_stuck T f h l hl] at hs; cases hs

theorem mem_cb (T : Table) (f : FSys) (ins : List Nat) (mc : Bool) (k : Nat) (hk : k < f.cbs.length)
    (hx : (sstep T f (.cb k)).isSome = true) : SLabel.cb k ∈ enabled T f ins mc := by
  simp only [enabled, List.mem_append, List.mem_filterMap, List.mem_range]
  exact Or.inl (Or.inr ⟨k, hk, by simp [hx]⟩)

theorem mem_single (T : Table) (f f' : FSys) (ins : List Nat) (mc : Bool) (l : FLabel) (o : List Seq)
    (hnr : isRead l = false) (hlc : l = .closeSig → mc = true ∧ f.mpc = .atSelect) (hs : FSys.step T f l = some (f', o))
    (hx : (sstep T f (sl l)).isSome = true) (hexp : l = .expire → ∃ b, f.mpc = .stepped b) :
    sl l ∈ enabled T f ins mc := by
  cases l with
  | readRet i => cases hnr
  | closeSig =>
    obtain ⟨h1, h2⟩ := hlc rfl
    simp [enabled, sl, h1, h2]
  | main =>
    have hpc : f.mpc ≠ .inRead := fun h => by rw [step_main_inRead h] at hs; cases hs
    simp only [sl] at hx ⊢
    simp only [enabled, List.mem_append]
    right
    simp [hpc, hx]
  | expire =>
    obtain ⟨b, hb⟩ := hexp rfl
    have ha : f.armed.isSome = true := by
      cases h : f.armed with
      | none => rw [step_expire_none h] at hs; cases hs
      | some g => rfl
    simp only [enabled, List.mem_append, sl]
    left; left; right
    simp [hb, ha]
  | cb k =>
    exact mem_cb T f ins mc k (cb_lt hs) hx

theorem mem_read (T : Table) (f : FSys) (ins : List Nat) (mc : Bool) (i : Inp) (hpc : f.mpc = .inRead)
    (hi : i = (match ins with | r :: _ => Inp.rune r | [] => Inp.eof)) : SLabel.read i ∈ enabled T f ins mc := by
  subst hi
  simp only [enabled, List.mem_append]
  right
  cases ins <;> simp [hpc]

theorem mc_after (l : FLabel) (ls : List FLabel) (hcnt : (l :: ls).count .closeSig ≤ 1) :
    mcAfter ((l :: ls).contains .closeSig) (sl l) = ls.contains .closeSig := by
  cases l with
  | closeSig =>
    simp only [sl, mcAfter]
    simp only [List.count_cons_self] at hcnt
    have h0 : ls.count .closeSig = 0 := by omega
    have := List.count_eq_zero.mp h0
    simpa using this
  | _ => simp [sl, mcAfter]

/-- **A complete schedule of single statements that is expiry-normal and grouped, with at most one
    `Close()` and that one observed, is (the expansion of) a schedule of the enumeration**: `toS` of it
    is `Reduced` for the script of its rune reads. -/
theorem reduced_core_mc (T : Table) (ls : List FLabel) (f : FSys) (fl : Bool) (r : FSys × List Seq)
    (hr : FSys.run T f ls = some r) (hfin : finished r.1 = true)
    (hcl : closeAt T f ls = true ∧ ls.count .closeSig ≤ 1) (hra : readAdj ls = true) (hca : cbAdj T f ls = true)
    (hex : expNormal T fl f ls = true) (hfl : fl = true → ∃ b, f.mpc = .stepped b) (hnd : ∀ i, f.mpc ≠ .readDone i) :
    Reduced T f (runes ls) (ls.contains .closeSig) (toS T false f ls) := by
  refine grouped_induct T (motive := fun f ls xs => ∀ (fl : Bool) (r : FSys × List Seq), FSys.run T f ls = some r →
      finished r.1 = true → closeAt T f ls = true → ls.count .closeSig ≤ 1 → expNormal T fl f ls = true →
      (fl = true → ∃ b, f.mpc = .stepped b) → Reduced T f (runes ls) (ls.contains .closeSig) xs)
    ?_ ?_ ?_ ?_ ls f (by rw [hr]; rfl) hra hca hnd fl r hr hfin hcl.1 hcl.2 hex hfl
  · intro f fl r hr hfin _ _ _ _
    cases hr
    exact Reduced.done f _ _ hfin
  · intro f l rest f1 o1 xs hs hnr ho hx hnd ih fl r hr hfin hcl hcnt hex hfl
    obtain ⟨r1, hr1, he⟩ := run_cons_end T f f1 l o1 rest r hs hr
    simp only [closeAt, hs, Bool.and_eq_true] at hcl
    simp only [expNormal, hs, Bool.and_eq_true] at hex
    have hlc : l = .closeSig → f.mpc = .atSelect := fun h => by rw [if_pos h] at hcl; simpa using hcl.1
    have hrun : FSys.run T f [l] = some (f1, o1 ++ []) := by simp only [FSys.run, hs]
    have hcnt' : rest.count .closeSig ≤ 1 := by
      have := List.count_le_count_cons (a := FLabel.closeSig) (b := l) (l := rest); omega
    have ih' := ih (isArming T f l) r1 hr1 (by rw [he]; exact hfin) hcl.2 hcnt' hex.2
      (fun h => arming_stepped T f f1 l o1 h hs)
    rw [runes_nonread l _ hnr]
    refine Reduced.step f _ _ (sl l) f1 (o1 ++ []) _ (not_finished T f f1 l o1 hs hlc)
      (mem_single T f f1 _ _ l o1 hnr (fun h => ⟨by rw [h]; simp, hlc h⟩) hs (by rw [hx, hrun]; rfl)
        (fun he => hfl (by rw [if_pos he] at hex; exact hex.1)))
      (by rw [hx, hrun]) ?_
    rw [mc_after l rest hcnt]
    have hia : insAfter (runes rest) (sl l) = runes rest := by
      cases l with
      | readRet i => cases hnr
      | _ => rfl
    rw [hia]; exact ih'
  · intro f i rest f1 o1 f2 o2 xs hpc hs1 hs2 hf1 hf2 ih fl r hr hfin hcl hcnt hex _
    obtain ⟨r1, hr1, he1⟩ := run_cons_end T f f1 _ o1 _ r hs1 hr
    obtain ⟨r2, hr2, he2⟩ := run_cons_end T f1 f2 _ o2 _ r1 hs2 hr1
    simp only [closeAt, hs1, hs2, Bool.and_eq_true] at hcl
    have hia : isArming T f1 .main = false := by simp [isArming, hf1]
    simp only [expNormal, hs1, hs2, Bool.and_eq_true, hia] at hex
    have hrun2 : FSys.run T f [.readRet i, .main] = some (f2, o1 ++ (o2 ++ [])) := by simp only [FSys.run, hs1, hs2]
    have ih' := ih false r2 hr2 (by rw [he2, he1]; exact hfin) hcl.2.2 (by simpa using hcnt) hex.2.2 (fun h => by cases h)
    have hx : sstep T f (.read i) = some (f2, o1 ++ (o2 ++ [])) := by rw [sstep_read, hrun2]
    have hnf := not_finished T f f1 _ o1 hs1 (fun h => by cases h)
    have hmc : (FLabel.readRet i :: FLabel.main :: rest).contains .closeSig = rest.contains .closeSig := by simp
    rw [hmc]
    cases i with
    | rune rr =>
      refine Reduced.step f _ _ (.read (.rune rr)) f2 _ _ hnf (mem_read T f _ _ _ hpc (by simp [runes])) hx ?_
      simpa [insAfter, runes, mcAfter] using ih'
    | eof =>
      -- nothing is read after the end of input
      have hre : runes rest = [] := no_reads_after_eof T rest f2 (by rw [hf2]; rfl) (by rw [hr2]; rfl)
      have hrl : runes (FLabel.readRet .eof :: .main :: rest) = [] := by simpa [runes] using hre
      rw [hrl]
      refine Reduced.step f _ _ (.read .eof) f2 _ _ hnf (mem_read T f _ _ _ hpc rfl) hx ?_
      simpa [insAfter, hre, mcAfter] using ih'
  · intro f k rest f1 o1 f2 o2 xs hop hs1 hs2 _ _ _ ih fl r hr hfin hcl hcnt hex _
    obtain ⟨r1, hr1, he1⟩ := run_cons_end T f f1 _ o1 _ r hs1 hr
    obtain ⟨r2, hr2, he2⟩ := run_cons_end T f1 f2 _ o2 _ r1 hs2 hr1
    simp only [closeAt, hs1, hs2, Bool.and_eq_true] at hcl
    have hia : isArming T f1 (.cb k) = false := rfl
    simp only [expNormal, hs1, hs2, Bool.and_eq_true, hia] at hex
    have hrun2 : FSys.run T f [.cb k, .cb k] = some (f2, o1 ++ (o2 ++ [])) := by simp only [FSys.run, hs1, hs2]
    have ih' := ih false r2 hr2 (by rw [he2, he1]; exact hfin) hcl.2.2 (by simpa using hcnt) hex.2.2 (fun h => by cases h)
    have hx : sstep T f (.cb k) = some (f2, o1 ++ (o2 ++ [])) := by rw [sstep_cb_pair T f k hop, hrun2]
    have hmc : (FLabel.cb k :: FLabel.cb k :: rest).contains .closeSig = rest.contains .closeSig := by simp
    rw [hmc]
    refine Reduced.step f _ _ (.cb k) f2 _ _ (not_finished T f f1 _ o1 hs1 (fun h => by cases h))
      (mem_cb T f _ _ k (cb_lt hs1) (by rw [hx]; rfl)) hx ?_
    simpa [insAfter, runes, mcAfter] using ih'

theorem closeAt_of_no_close (T : Table) : ∀ (ls : List FLabel) (f : FSys), (∀ l ∈ ls, l ≠ .closeSig) →
    closeAt T f ls = true
  | [], _, _ => rfl
  | l :: ls, f, h => by
    simp only [closeAt]
    split
    · rfl
    · rw [if_neg (h l List.mem_cons_self), closeAt_of_no_close T ls _ fun x hx => h x (List.mem_cons_of_mem _ hx)]
      rfl

end VaxisModel.Lemmas.ParserRunSchedEnum
