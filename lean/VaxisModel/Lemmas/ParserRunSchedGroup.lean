/-
C08: grouping normal forms of schedules of the statement-grained life cycle: the statements that the
harness labels of Model/ParserRunSched.lean group (no yield point in between) can be made adjacent in
every schedule without changing its result.  The two normalising functions are instances of `carry`
(Lemmas/ParserRunSchedCarry.lean), and what is proved about them here are its theorems for these two carriers;
then `grouped_induct` (what a grouped schedule looks like) and the harness schedule `toS` it expands.
-/
import VaxisModel.Lemmas.ParserRunSchedCarry
import VaxisModel.Model.ParserRunSched
import VaxisModel.Lemmas.ListBasic

namespace VaxisModel.Lemmas.ParserRunSchedGroup
open VaxisModel.Lemmas.ListBasic (lt_of_getElem?)
open VaxisModel.Model.ParserTable VaxisModel.Model.Parser VaxisModel.Model.ParserRun VaxisModel.Model.ParserRunFine
open VaxisModel.Lemmas.ParserRunSched VaxisModel.Lemmas.ParserRunSchedNormal VaxisModel.Lemmas.ParserRunSchedCarry

def isRead : FLabel → Bool
  | .readRet _ => true
  | _ => false

/-- Every `readRet` is immediately followed by a statement of the main goroutine (the `Stop()`). -/
def readAdj : List FLabel → Bool
  | [] => true
  | l :: ls => (if isRead l then headIsMain ls else true) && readAdj ls

/-- The read return that is being carried forward. -/
def pend : Option Inp → List FLabel
  | none => []
  | some i => [.readRet i]

/-- The normalising function: a read return is carried forward (the main goroutine is not looked at by
    anybody else) to the next statement of the main goroutine — its `Stop()`. -/
def readNorm (T : Table) : Option Inp → FSys → List FLabel → List FLabel
  | p, _, [] => pend p
  | none, f, l :: ls =>
    match l with
    | .readRet i => readNorm T (some i) f ls
    | _ =>
      match FSys.step T f l with
      | some (f', _) => l :: readNorm T none f' ls
      | none => l :: ls
  | some i, f, l :: ls =>
    if l = .main then
      match FSys.run T f [.readRet i, .main] with
      | some (f'', _) => .readRet i :: .main :: readNorm T none f'' ls
      | none => .readRet i :: .main :: ls
    else
      match FSys.step T f l with
      | some (f', _) => l :: readNorm T (some i) f' ls
      | none => .readRet i :: l :: ls

@[reducible] def readC : Carrier Inp where
  pick := fun _ l => match l with | .readRet i => some i | _ => none
  lab := .readRet
  stop := fun _ => .main

theorem readNorm_eq (T : Table) : ∀ (ls : List FLabel) (p : Option Inp) (f : FSys),
    readNorm T p f ls = carry readC T p f ls
  | [], p, f => by cases p <;> rfl
  | l :: ls, none, f => by
    cases l with
    | readRet i => simp only [readNorm, carry]; exact readNorm_eq T ls (some i) f
    | _ => simp only [readNorm, carry]; cases FSys.step T f _ <;> simp only [readNorm_eq T ls none]
  | l :: ls, some i, f => by
    simp only [readNorm, carry]
    cases FSys.step T f l <;> cases FSys.run T f [.readRet i, .main] <;> simp only [readNorm_eq T ls]

theorem readRet_step (T : Table) (f f1 : FSys) (i : Inp) (o : List Seq)
    (h : FSys.step T f (.readRet i) = some (f1, o)) : f1.mpc = .readDone i := by
  rw [ParserRunFine.step_readRet_pos i (ParserRunFine.readRet_inRead h)] at h; cases h; rfl

theorem isArming_not_main (T : Table) (f : FSys) (l : FLabel) (hl : l ≠ .main) : isArming T f l = false := by
  cases l <;> first | rfl | exact absurd rfl hl

/-- Nobody but the main goroutine looks at where the main goroutine is; `Half`: it stands behind a read return. -/
theorem readC_sound (T : Table) :
    readC.Sound T (fun _ => True) (fun _ _ => True) (fun f i => f.mpc = .readDone i) where
  inv_step := fun _ _ _ _ _ _ => trivial
  pick_spec := fun f l k h => by cases l <;> cases h <;> exact ⟨rfl, fun _ => trivial⟩
  pick_open := fun _ _ _ _ => rfl
  commute := fun f k l _ _ hl => readRet_commutes T f k l hl
  keep := fun _ _ _ _ _ _ _ _ _ => trivial
  excl := fun f f1 i l o _ _ _ hs h1 => by
    -- two read returns in a row: the second is not enabled
    cases l with
    | readRet j => simp [FSys.step, readRet_step T f f1 i o hs] at h1
    | _ => rfl
  half := fun f f1 i o _ _ hs => readRet_step T f f1 i o hs
  half_pick := fun _ _ _ => rfl

theorem readC_apart (T : Table) :
    readC.Apart T (fun _ => True) (fun _ _ => True) (fun f i => f.mpc = .readDone i) where
  lab_ne := fun _ => ⟨fun h => (by cases h), fun h => (by cases h)⟩
  stop_ne := fun _ h => by cases h
  lab_arm := fun _ _ => rfl
  arm := fun f f1 _ l _ _ _ hl _ => ⟨isArming_not_main T f l hl, isArming_not_main T f1 l hl⟩
  pick_none := fun _ => ⟨rfl, rfl⟩
  half_close := fun _ _ h => h
  select := fun f f1 i o _ _ hs h1 => by rw [readRet_step T f f1 i o hs] at h1; cases h1

theorem readAdj_of_adj (T : Table) : ∀ (ls : List FLabel) (f : FSys), (FSys.run T f ls).isSome = true →
    adj readC T f ls = true → readAdj ls = true
  | [], _, _, _ => rfl
  | l :: ls, f, hr, h => by
    obtain ⟨f', o, hs, hr'⟩ := isSome_cons T f l ls hr
    simp only [adj, hs, Bool.and_eq_true] at h
    simp only [readAdj, Bool.and_eq_true]
    refine ⟨?_, readAdj_of_adj T ls f' hr' h.2⟩
    cases l with
    | readRet i =>
      have := h.1
      simp only [decide_eq_true_eq] at this
      cases ls with
      | nil => cases this
      | cons l2 ls => cases this; rfl
    | _ => rfl

theorem readNorm_run (T : Table) (ls : List FLabel) (f : FSys) (r : FSys × List Seq) (h : FSys.run T f ls = some r) :
    FSys.run T f (readNorm T none f ls) = some r := by
  rw [readNorm_eq, carry_run (readC_sound T) ls f trivial (by rw [h]; rfl)]
  exact h

theorem readNorm_perm (T : Table) (ls : List FLabel) (f : FSys) : (readNorm T none f ls).Perm ls := by
  rw [readNorm_eq]; exact carry_perm (fun f l k h => ((readC_sound T).pick_spec f l k h).1) ls none f

/-- **In the normalised schedule every read return is directly followed by its `Stop()`** — for a schedule that
    runs and does not end between the two. -/
theorem readNorm_adj (T : Table) (ls : List FLabel) (f : FSys) (r : FSys × List Seq)
    (h : FSys.run T f ls = some r) (hend : ∀ i, r.1.mpc ≠ .readDone i) : readAdj (readNorm T none f ls) = true := by
  refine readAdj_of_adj T _ f (by rw [readNorm_run T ls f r h]; rfl) ?_
  rw [readNorm_eq]
  exact carry_adj (readC_sound T) ls f trivial ⟨r, h, hend⟩

open VaxisModel.Lemmas.ParserRunFine

/-- Callback `k`'s next statement is one that the harness label `cb k` runs on from, through the
    deferred `Unlock`: a check that fails, or `p.ignoreST = false`. -/
def opens (f : FSys) (k : Nat) : Bool :=
  match f.cbs[k]? with
  | some (g, .locked) => !decide (g = f.escGen)
  | some (_, .stateSet) => true
  | _ => false

def openK (f : FSys) : FLabel → Option Nat
  | .cb k => if opens f k then some k else none
  | _ => none

/-- Along the run from `f`: every callback statement that leads to `failed` / `stSet` is immediately
    followed by the next statement of the same callback (the deferred `Unlock`). -/
def cbAdj (T : Table) : FSys → List FLabel → Bool
  | _, [] => true
  | f, l :: ls =>
    match FSys.step T f l with
    | none => true
    | some (f', _) =>
      (match openK f l with
       | some k => decide (ls.head? = some (.cb k))
       | none => true) && cbAdj T f' ls

def pendc : Option Nat → List FLabel
  | none => []
  | some k => [.cb k]

/-- The normalising function: such a statement is carried forward to the callback's next statement. -/
def cbNorm (T : Table) : Option Nat → FSys → List FLabel → List FLabel
  | p, _, [] => pendc p
  | none, f, l :: ls =>
    match openK f l with
    | some k => cbNorm T (some k) f ls
    | none =>
      match FSys.step T f l with
      | some (f', _) => l :: cbNorm T none f' ls
      | none => l :: ls
  | some k, f, l :: ls =>
    if l = .cb k then
      match FSys.run T f [.cb k, .cb k] with
      | some (f'', _) => .cb k :: .cb k :: cbNorm T none f'' ls
      | none => .cb k :: .cb k :: ls
    else
      match FSys.step T f l with
      | some (f', _) => l :: cbNorm T (some k) f' ls
      | none => .cb k :: l :: ls

theorem opens_spec (f : FSys) (k : Nat) (h : opens f k = true) :
    ∃ g pc, f.cbs[k]? = some (g, pc) ∧ (pc = .locked ∨ pc = .stateSet) ∧ (pc = .locked → g ≠ f.escGen) := by
  unfold opens at h
  split at h
  · rename_i g hk
    exact ⟨g, .locked, hk, Or.inl rfl, fun _ => by simpa using h⟩
  · rename_i g hk
    exact ⟨g, .stateSet, hk, Or.inr rfl, fun h => by cases h⟩
  · cases h

theorem openK_spec (f : FSys) (l : FLabel) (k : Nat) (h : openK f l = some k) : l = .cb k ∧ opens f k = true := by
  cases l with
  | cb j =>
    simp only [openK] at h
    split at h
    · rename_i ho
      simp only [Option.some.injEq] at h
      subst h; exact ⟨rfl, ho⟩
    · cases h
  | _ => cases h

theorem frame_k (T : Table) (f f' : FSys) (l : FLabel) (o : List Seq) (k : Nat)
    (hs : FSys.step T f l = some (f', o)) (hl : l ≠ .cb k) (hm : holdsMain f.mpc = false)
    (hlt : k < f.cbs.length) : f'.cbs[k]? = f.cbs[k]? ∧ f'.escGen = f.escGen := by
  cases fstep_rel hs with
  | expire g _ => exact ⟨List.getElem?_append_left hlt, rfl⟩
  | cb j _ =>
    exact ⟨cbStep_other f f' j o hs k fun h => hl (by rw [h]), (cbStep_frame f f' j o hs).2.2.2.2.1⟩
  | main _ =>
    refine ⟨by rw [(mainStep_pc T f f' o hs).2.2.1], ?_⟩
    rcases mainStep_guarded T f f' o hs with ⟨h1, _⟩ | ⟨h1, _⟩
    · exact h1
    · rw [hm] at h1; cases h1
  | _ => exact ⟨rfl, rfl⟩

theorem opens_crit (f : FSys) (hinv : FInv f) (k : Nat) (h : opens f k = true) :
    holdsMain f.mpc = false ∧ k < f.cbs.length := by
  obtain ⟨g, pc, hk, hpc, _⟩ := opens_spec f k h
  exact ⟨(cb_excl f hinv k g pc hk (by rcases hpc with rfl | rfl <;> rfl)).2.1, lt_of_getElem? hk⟩

theorem opens_keep (T : Table) (f f' : FSys) (l : FLabel) (o : List Seq) (k : Nat) (hinv : FInv f)
    (hs : FSys.step T f l = some (f', o)) (hl : l ≠ .cb k) (h : opens f k = true) : opens f' k = true := by
  obtain ⟨hm, hlt⟩ := opens_crit f hinv k h
  obtain ⟨h1, h2⟩ := frame_k T f f' l o k hs hl hm hlt
  unfold opens at h ⊢
  rw [h1, h2]; exact h

/-- No callback goroutine stands between its failed check / `p.ignoreST = false` and its `Unlock`. -/
def noHalf (f : FSys) : Prop := ∀ c ∈ f.cbs, c.2 ≠ .failed ∧ c.2 ≠ .stSet

/-- Callback `k` stands between its failed check / `p.ignoreST = false` and its `Unlock`. -/
def HalfCb (f : FSys) (k : Nat) : Prop := ∃ g pc, f.cbs[k]? = some (g, pc) ∧ (pc = .failed ∨ pc = .stSet)

theorem open_step (T : Table) (f f' : FSys) (k : Nat) (o : List Seq) (h : opens f k = true)
    (hs : FSys.step T f (.cb k) = some (f', o)) : HalfCb f' k := by
  obtain ⟨g, pc, hk, hpc, hg⟩ := opens_spec f k h
  have hlt := lt_of_getElem? hk
  simp only [FSys.step, cbStep, hk] at hs
  rcases hpc with rfl | rfl
  · simp only [if_neg (hg rfl), Option.some.injEq, Prod.mk.injEq] at hs
    rw [← hs.1]
    exact ⟨g, .failed, by simp [List.getElem?_set_self hlt], Or.inl rfl⟩
  · simp only [Option.some.injEq, Prod.mk.injEq] at hs
    rw [← hs.1]
    exact ⟨g, .stSet, by simp [List.getElem?_set_self hlt], Or.inr rfl⟩

theorem not_opens_half (f : FSys) (k : Nat) (h : HalfCb f k) : opens f k = false := by
  obtain ⟨g, pc, hk, hpc⟩ := h
  unfold opens
  rw [hk]
  rcases hpc with rfl | rfl <;> rfl

/-- Two callbacks are never both inside the mutex. -/
theorem other_not_opens (f : FSys) (hinv : FInv f) (k j : Nat) (hk : opens f k = true) (hjk : j ≠ k) :
    opens f j = false := by
  cases hj : opens f j with
  | false => rfl
  | true =>
    exfalso
    obtain ⟨g, pc, hgk, hpc, _⟩ := opens_spec f k hk
    obtain ⟨g', pc', hgj, hpc', _⟩ := opens_spec f j hj
    have hck : crit pc = true := by rcases hpc with rfl | rfl <;> rfl
    have hcj : crit pc' = true := by rcases hpc' with rfl | rfl <;> rfl
    have h1 := (cb_excl f hinv k g pc hgk hck).2.2
    have s4 := nCrit_set f.cbs k g pc .gone hgk
    rw [hck, show crit CbPc.gone = false from rfl] at s4
    simp only [Bool.toNat_true, Bool.toNat_false] at s4
    have h0 : nCrit (f.cbs.set k (g, .gone)) = 0 := by omega
    have hj' : (f.cbs.set k (g, .gone))[j]? = some (g', pc') := by
      rw [List.getElem?_set_ne (fun h => hjk h.symm)]; exact hgj
    have := nCrit_zero h0 _ (List.mem_of_getElem? hj')
    rw [hcj] at this; cases this

@[reducible] def cbC : Carrier Nat where
  pick := openK
  lab := .cb
  stop := .cb

theorem cbNorm_eq (T : Table) : ∀ (ls : List FLabel) (p : Option Nat) (f : FSys),
    cbNorm T p f ls = carry cbC T p f ls
  | [], p, f => by cases p <;> rfl
  | l :: ls, none, f => by
    simp only [cbNorm, carry]
    cases openK f l with
    | some k => exact cbNorm_eq T ls (some k) f
    | none => cases FSys.step T f l <;> simp only [cbNorm_eq T ls none]
  | l :: ls, some i, f => by
    simp only [cbNorm, carry]
    cases FSys.step T f l <;> cases FSys.run T f [.cb i, .cb i] <;> simp only [cbNorm_eq T ls]

theorem cbAdj_eq (T : Table) : ∀ (ls : List FLabel) (f : FSys), cbAdj T f ls = adj cbC T f ls
  | [], _ => rfl
  | l :: ls, f => by
    simp only [cbAdj, adj]
    cases FSys.step T f l with
    | none => rfl
    | some r => simp only [cbAdj_eq T ls r.1]; cases openK f l <;> rfl

theorem isArming_holds (T : Table) (f : FSys) (l : FLabel) (h : holdsMain f.mpc = false) : isArming T f l = false := by
  cases l with
  | main =>
    simp only [isArming]
    cases hpc : f.mpc <;> first | rfl | (rw [hpc] at h; cases h)
  | _ => rfl

theorem noHalf_iff (f : FSys) : noHalf f ↔ ∀ k, ¬ HalfCb f k := by
  constructor
  · rintro h k ⟨g, pc, hk, hpc⟩
    have := h (g, pc) (List.mem_of_getElem? hk)
    rcases hpc with rfl | rfl
    · exact this.1 rfl
    · exact this.2 rfl
  · intro h c hc
    obtain ⟨k, hk⟩ := List.getElem?_of_mem hc
    exact ⟨fun e => h k ⟨c.1, c.2, hk, Or.inl e⟩, fun e => h k ⟨c.1, c.2, hk, Or.inr e⟩⟩

/-- From a state that meets `FInv`: the two statements are taken inside the mutex, which no other statement
    that could matter is (`cb_mid_commutes`). -/
theorem cbC_sound (T : Table) (hT : TimerOk T) : cbC.Sound T FInv (fun f k => opens f k = true) HalfCb where
  inv_step := fun f f' l o hinv hs => step_inv T hT f f' l o hinv hs
  pick_spec := fun f l k h => by
    obtain ⟨rfl, hop⟩ := openK_spec f l k h
    exact ⟨rfl, fun _ => hop⟩
  pick_open := fun f k _ hop => by simp [openK, hop]
  commute := fun f k l hinv hop hl => by
    obtain ⟨g, pc, hk, hpc, _⟩ := opens_spec f k hop
    exact cb_mid_commutes T f k g pc l hk hpc hl (opens_crit f hinv k hop).1
  keep := fun f f' k l o hinv hop hl hs => opens_keep T f f' l o k hinv hs hl hop
  excl := fun f _ k l _ hinv hop hl _ _ => by
    cases l with
    | cb j => simp [openK, other_not_opens f hinv k j hop fun h => hl (by rw [h])]
    | _ => rfl
  half := fun f f1 k o _ hop hs => open_step T f f1 k o hop hs
  half_pick := fun f k h => by simp [openK, not_opens_half f k h]

theorem cbC_apart (T : Table) : cbC.Apart T FInv (fun f k => opens f k = true) HalfCb where
  lab_ne := fun _ => ⟨fun h => (by cases h), fun h => (by cases h)⟩
  stop_ne := fun _ h => by cases h
  lab_arm := fun _ _ => rfl
  arm := fun f f1 k l o hinv hop _ hs => by
    have hm := (opens_crit f hinv k hop).1
    exact ⟨isArming_holds T f l hm, isArming_holds T f1 l (by rw [(cbStep_frame f f1 k o hs).1]; exact hm)⟩
  pick_none := fun _ => ⟨rfl, rfl⟩
  half_close := fun _ _ h => h
  select := fun f f1 k o _ _ hs h1 => ⟨by rw [← (cbStep_frame f f1 k o hs).1]; exact h1, fun h => by cases h⟩

theorem cbNorm_run (T : Table) (hT : TimerOk T) (ls : List FLabel) (f : FSys) (hinv : FInv f) (r : FSys × List Seq)
    (h : FSys.run T f ls = some r) : FSys.run T f (cbNorm T none f ls) = some r := by
  rw [cbNorm_eq, carry_run (cbC_sound T hT) ls f hinv (by rw [h]; rfl)]
  exact h

theorem cbNorm_perm (T : Table) (ls : List FLabel) (f : FSys) : (cbNorm T none f ls).Perm ls := by
  rw [cbNorm_eq]; exact carry_perm (fun f l k h => (openK_spec f l k h).1) ls none f

/-- **In the normalised schedule every failed check / `p.ignoreST = false` is directly followed by the
    callback's `Unlock`** — for a schedule that runs and does not end in between. -/
theorem cbNorm_adj (T : Table) (hT : TimerOk T) (ls : List FLabel) (f : FSys) (hinv : FInv f) (r : FSys × List Seq)
    (h : FSys.run T f ls = some r) (hend : noHalf r.1) : cbAdj T f (cbNorm T none f ls) = true := by
  rw [cbAdj_eq, cbNorm_eq]
  exact carry_adj (cbC_sound T hT) ls f hinv ⟨r, h, (noHalf_iff r.1).mp hend⟩

theorem cbNorm_readAdj (T : Table) (hT : TimerOk T) (ls : List FLabel) (f : FSys) (hinv : FInv f)
    (r : FSys × List Seq) (hr : FSys.run T f ls = some r) (h : readAdj ls = true) :
    readAdj (cbNorm T none f ls) = true := by
  rw [cbNorm_eq]
  -- a statement that stays in front of a schedule and of what the schedule is carried to
  have key : ∀ (l : FLabel) (ls out : List FLabel), readAdj (l :: ls) = true →
      (readAdj ls = true → readAdj out = true ∧ (headIsMain ls = true → headIsMain out = true)) →
      readAdj (l :: out) = true ∧ (headIsMain (l :: ls) = true → headIsMain (l :: out) = true) := by
    intro l ls out h ih
    simp only [readAdj, Bool.and_eq_true] at h ⊢
    obtain ⟨i1, i2⟩ := ih h.2
    refine ⟨⟨?_, i1⟩, fun hh => by cases l <;> first | rfl | cases hh⟩
    by_cases hrd : isRead l = true
    · rw [if_pos hrd] at h ⊢; exact i2 h.1
    · rw [if_neg hrd]
  refine (carry_induct (cbC_sound T hT) (motive := fun _ _ ls out =>
      readAdj ls = true → readAdj out = true ∧ (headIsMain ls = true → headIsMain out = true))
    ?_ ?_ ?_ ?_ ?_ ls none f hinv (fun _ h => by cases h) (by rw [Carrier.pend_none, List.nil_append, hr]; rfl) h).1
  · intro p f _ _ _
    cases p <;> exact ⟨rfl, fun h => by cases h⟩
  · intro f k ls out _ _ ih h
    simp only [readAdj, Bool.and_eq_true] at h
    exact ⟨(ih h.2).1, fun hh => by cases hh⟩
  · exact fun f l ls f' o out _ _ _ ih h => key l ls out h ih
  · intro f k ls f1 o1 f2 o2 out _ _ _ _ ih h
    simp only [readAdj, Bool.and_eq_true] at h
    simp only [readAdj, isRead, Bool.false_eq_true, if_false, Bool.true_and]
    exact ⟨(ih h.2).1, fun hh => by cases hh⟩
  · exact fun f k l ls f1 o1 f12 o12 f' o' o2' out _ _ _ _ _ _ _ _ ih h => key l ls out h ih

open VaxisModel.Model.ParserRunSched

/-- The harness label a statement (the first of its group) belongs to. -/
def sl : FLabel → SLabel
  | .closeSig => .close
  | .readRet i => .read i
  | .main => .main
  | .expire => .expire
  | .cb k => .cb k

/-- The statement opens a group of two. -/
def pairs (f : FSys) (l : FLabel) : Bool := isRead l || (openK f l).isSome

/-- The schedule of harness labels of a grouped schedule of statements (recursion along the run; the
    flag says that the statement is the second of its group: its label has been produced already). -/
def toS (T : Table) : Bool → FSys → List FLabel → List SLabel
  | _, _, [] => []
  | true, f, l :: ls =>
    match FSys.step T f l with
    | some (f', _) => toS T false f' ls
    | none => []
  | false, f, l :: ls =>
    match FSys.step T f l with
    | some (f', _) => sl l :: toS T (pairs f l) f' ls
    | none => []

theorem expand_cb (f : FSys) (k : Nat) : expand f (.cb k) = if opens f k then [.cb k, .cb k] else [.cb k] := by
  cases hk : f.cbs[k]? with
  | none => simp [expand, opens, hk]
  | some c =>
    obtain ⟨g, pc⟩ := c
    cases pc <;> simp [expand, opens, hk]

theorem srun_bridge (T : Table) (f : FSys) (x : SLabel) (es rest : List FLabel) (s' : List SLabel)
    (hx : sstep T f x = FSys.run T f es)
    (hrest : ∀ f1 o1, FSys.run T f es = some (f1, o1) → srun T f1 s' = FSys.run T f1 rest) :
    srun T f (x :: s') = FSys.run T f (es ++ rest) := by
  simp only [srun, hx, run_append]
  cases h : FSys.run T f es with
  | none => rfl
  | some r =>
    obtain ⟨f1, o1⟩ := r
    simp only [seqBind, hrest f1 o1 h]
    cases FSys.run T f1 rest with
    | none => rfl
    | some r2 => rfl

theorem not_readDone_step (T : Table) (f f' : FSys) (l : FLabel) (o : List Seq)
    (hs : FSys.step T f l = some (f', o)) (hr : isRead l = false) (hnd : ∀ i, f.mpc ≠ .readDone i) :
    ∀ i, f'.mpc ≠ .readDone i := by
  cases fstep_rel hs with
  | readRet i _ => cases hr
  | cb k _ => rw [(cbStep_frame f f' k o hs).1]; exact hnd
  | main hm =>
    -- no statement of the main goroutine leads to `readDone` (the read return does)
    intro i hi
    cases hm
    case unlock b _ => cases b <;> cases hi
    all_goals cases hi
  | _ => exact hnd

theorem sstep_single (T : Table) (f : FSys) (l : FLabel) (hr : isRead l = false) (ho : openK f l = none)
    (hen : (FSys.step T f l).isSome = true) (hnd : ∀ i, f.mpc ≠ .readDone i) :
    sstep T f (sl l) = FSys.run T f [l] := by
  cases l with
  | readRet i => cases hr
  | closeSig => simp [sstep, sl, canRelease, expand]
  | expire => simp [sstep, sl, canRelease, expand]
  | cb k =>
    have hno : opens f k = false := by
      simp only [openK] at ho
      cases h : opens f k with
      | false => rfl
      | true => rw [h] at ho; simp at ho
    simp [sstep, sl, canRelease, expand_cb, hno]
  | main =>
    have hcr : canRelease f .main = true := by
      simp only [canRelease]
      cases hpc : f.mpc with
      | inRead => rw [step_main_inRead hpc] at hen; cases hen
      | readDone i => exact absurd hpc (hnd i)
      | _ => rfl
    simp [sstep, sl, hcr, expand]

theorem sstep_read (T : Table) (f : FSys) (i : Inp) : sstep T f (.read i) = FSys.run T f [.readRet i, .main] := by
  simp [sstep, canRelease, expand]

theorem sstep_cb_pair (T : Table) (f : FSys) (k : Nat) (h : opens f k = true) :
    sstep T f (.cb k) = FSys.run T f [.cb k, .cb k] := by
  simp [sstep, canRelease, expand_cb, h]

/-- **What a grouped schedule that runs looks like**, as a case principle: it is a sequence of blocks, each the
    statements of one harness label — a single statement that opens no group, a read return with its `Stop()`, a
    callback's failed check / `p.ignoreST = false` with its `Unlock` — and `toS` lists those labels. -/
theorem grouped_induct (T : Table) {motive : FSys → List FLabel → List SLabel → Prop}
    (nil : ∀ f, motive f [] [])
    (single : ∀ f l rest f1 o1 xs, FSys.step T f l = some (f1, o1) → isRead l = false → openK f l = none →
      sstep T f (sl l) = FSys.run T f [l] → (∀ i, f.mpc ≠ .readDone i) → motive f1 rest xs →
      motive f (l :: rest) (sl l :: xs))
    (read : ∀ f i rest f1 o1 f2 o2 xs, f.mpc = .inRead → FSys.step T f (.readRet i) = some (f1, o1) →
      FSys.step T f1 .main = some (f2, o2) → f1.mpc = .readDone i → f2.mpc = .stopped i → motive f2 rest xs →
      motive f (.readRet i :: .main :: rest) (.read i :: xs))
    (cb : ∀ f k rest f1 o1 f2 o2 xs, opens f k = true → FSys.step T f (.cb k) = some (f1, o1) →
      FSys.step T f1 (.cb k) = some (f2, o2) → f1.mpc = f.mpc → f2.mpc = f.mpc → (∀ i, f.mpc ≠ .readDone i) →
      motive f2 rest xs → motive f (.cb k :: .cb k :: rest) (.cb k :: xs)) :
    ∀ (ls : List FLabel) (f : FSys), (FSys.run T f ls).isSome = true → readAdj ls = true → cbAdj T f ls = true →
      (∀ i, f.mpc ≠ .readDone i) → motive f ls (toS T false f ls) := by
  suffices h : ∀ (n : Nat) (ls : List FLabel) (f : FSys), ls.length ≤ n → (FSys.run T f ls).isSome = true →
      readAdj ls = true → cbAdj T f ls = true → (∀ i, f.mpc ≠ .readDone i) → motive f ls (toS T false f ls) from
    fun ls f => h ls.length ls f (Nat.le_refl _)
  intro n
  induction n with
  | zero =>
    intro ls f hn _ _ _ _
    cases ls with
    | nil => exact nil f
    | cons _ _ => cases hn
  | succ n ih =>
    intro ls f hn hr hra hca hnd
    cases ls with
    | nil => exact nil f
    | cons l ls =>
      simp only [List.length_cons] at hn
      obtain ⟨f1, o1, hs1, hr1⟩ := isSome_cons T f l _ hr
      simp only [readAdj, Bool.and_eq_true] at hra
      simp only [cbAdj, hs1, Bool.and_eq_true] at hca
      cases l with
      | readRet i =>
        -- followed by `.main`, the `Stop()` inside `readRune`
        cases ls with
        | nil => simp [isRead, headIsMain] at hra
        | cons l2 rest =>
          have hl2 : l2 = .main := by cases l2 <;> first | rfl | simp [isRead, headIsMain] at hra
          subst hl2
          obtain ⟨f2, o2, hs2, hr2⟩ := isSome_cons T f1 .main _ hr1
          have hpc : f.mpc = .inRead := readRet_inRead hs1
          have hf1 := readRet_step T f f1 i o1 hs1
          have hf2 : f2.mpc = .stopped i := by
            simp only [FSys.step, mainStep, hf1, Option.some.injEq, Prod.mk.injEq] at hs2
            rw [← hs2.1]
          simp only [readAdj, Bool.and_eq_true] at hra
          simp only [cbAdj, hs2, Bool.and_eq_true] at hca
          have ht : toS T false f (.readRet i :: .main :: rest) = .read i :: toS T false f2 rest := by
            simp [toS, hs1, hs2, pairs, isRead, sl]
          rw [ht]
          exact read f i rest f1 o1 f2 o2 _ hpc hs1 hs2 hf1 hf2
            (ih rest f2 (by simp only [List.length_cons] at hn; omega) hr2 hra.2.2 hca.2.2
              (fun j hj => by rw [hf2] at hj; cases hj))
      | cb k =>
        cases ho : openK f (.cb k) with
        | some k' =>
          -- followed by the next statement of the same callback, its `Unlock`
          obtain ⟨hk, hop⟩ := openK_spec f _ k' ho
          cases hk
          rw [ho] at hca
          cases ls with
          | nil => simp at hca
          | cons l2 rest =>
            simp only [List.head?_cons, decide_eq_true_eq, Option.some.injEq] at hca
            have hl2 : l2 = .cb k := hca.1
            subst hl2
            obtain ⟨f2, o2, hs2, hr2⟩ := isSome_cons T f1 (.cb k) _ hr1
            have hm1 : f1.mpc = f.mpc := (cbStep_frame f f1 k o1 hs1).1
            have hm2 : f2.mpc = f.mpc := by rw [(cbStep_frame f1 f2 k o2 hs2).1, hm1]
            have hca2 := hca.2
            simp only [readAdj, Bool.and_eq_true] at hra
            simp only [cbAdj, hs2, Bool.and_eq_true] at hca2
            have ht : toS T false f (.cb k :: .cb k :: rest) = .cb k :: toS T false f2 rest := by
              simp [toS, hs1, hs2, pairs, ho, sl]
            rw [ht]
            exact cb f k rest f1 o1 f2 o2 _ hop hs1 hs2 hm1 hm2 hnd
              (ih rest f2 (by simp only [List.length_cons] at hn; omega) hr2 hra.2.2 hca2.2
                (fun j hj => by rw [hm2] at hj; exact hnd j hj))
        | none =>
          have ht : toS T false f (.cb k :: ls) = sl (.cb k) :: toS T false f1 ls := by simp [toS, hs1, pairs, ho, isRead]
          rw [ht]
          exact single f _ ls f1 o1 _ hs1 rfl ho (sstep_single T f _ rfl ho (by rw [hs1]; rfl) hnd) hnd
            (ih ls f1 (by omega) hr1 hra.2 hca.2 (not_readDone_step T f f1 _ o1 hs1 rfl hnd))
      | _ =>
        refine (?_ : ∀ l, isRead l = false → openK f l = none → FSys.step T f l = some (f1, o1) →
          motive f (l :: ls) (toS T false f (l :: ls))) _ rfl rfl hs1
        intro l hnr ho hs
        have ht : toS T false f (l :: ls) = sl l :: toS T false f1 ls := by simp [toS, hs, pairs, ho, hnr]
        rw [ht]
        exact single f l ls f1 o1 _ hs hnr ho (sstep_single T f l hnr ho (by rw [hs]; rfl) hnd) hnd
          (ih ls f1 (by omega) hr1 hra.2 hca.2 (not_readDone_step T f f1 l o1 hs hnr hnd))

/-- **A grouped schedule is the expansion of a schedule of harness labels**: `srun` of `toS` gives the
    result of the statement schedule. -/
theorem toS_run (T : Table) (ls : List FLabel) (f : FSys) (hr : (FSys.run T f ls).isSome = true)
    (hra : readAdj ls = true) (hca : cbAdj T f ls = true) (hnd : ∀ i, f.mpc ≠ .readDone i) :
    srun T f (toS T false f ls) = FSys.run T f ls := by
  refine grouped_induct T (motive := fun f ls xs => srun T f xs = FSys.run T f ls) (fun _ => rfl) ?_ ?_ ?_ ls f hr hra hca hnd
  · intro f l rest f1 o1 xs hs _ _ hx _ ih
    exact srun_bridge T f (sl l) [l] rest xs hx (fun f' o' h => by
      simp only [FSys.run, hs, Option.some.injEq, Prod.mk.injEq] at h; rw [← h.1]; exact ih)
  · intro f i rest f1 o1 f2 o2 xs _ hs1 hs2 _ _ ih
    exact srun_bridge T f (.read i) [.readRet i, .main] rest xs (sstep_read T f i) (fun f' o' h => by
      simp only [FSys.run, hs1, hs2, Option.some.injEq, Prod.mk.injEq] at h; rw [← h.1]; exact ih)
  · intro f k rest f1 o1 f2 o2 xs hop hs1 hs2 _ _ _ ih
    exact srun_bridge T f (.cb k) [.cb k, .cb k] rest xs (sstep_cb_pair T f k hop) (fun f' o' h => by
      simp only [FSys.run, hs1, hs2, Option.some.injEq, Prod.mk.injEq] at h; rw [← h.1]; exact ih)

/-- The statement of `grouped_normal_form` (proved in `Props/C08SchedEnum.lean`): every complete schedule
    of the parser's table from the initial state (main goroutine `done`, every callback `gone`) has a
    permutation with the same result that is expiry-normal and `Close()`-normal (every `expire` directly
    behind the arming statement, every `closeSig` in front of a `select` or at the end), grouped in both
    senses (`readAdj`, `cbAdj`), and the expansion of the schedule `toS …` of harness labels. -/
def grouped_normal_form_full : Prop :=
  ∀ (ls : List FLabel) (r : FSys × List Seq), FSys.run handTable FSys.init ls = some r → r.1.mpc = .done →
    (∀ c ∈ r.1.cbs, c.2 = .gone) →
    ∃ ls', FSys.run handTable FSys.init ls' = some r ∧ ls'.Perm ls ∧ expNormal handTable false FSys.init ls' = true ∧
      closeNormal handTable FSys.init ls' = true ∧ readAdj ls' = true ∧ cbAdj handTable FSys.init ls' = true ∧
      srun handTable FSys.init (toS handTable false FSys.init ls') = some r

end VaxisModel.Lemmas.ParserRunSchedGroup
