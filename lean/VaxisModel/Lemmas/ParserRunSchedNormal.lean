/-
C08: normal forms of schedules of the statement-grained life cycle (`FSys`, Model/ParserRunFine.lean).
`Lemmas/ParserRunSched.lean` proves the single moves (`closeSig_commutes`, `closeSig_moves_later`, …); here the
moves are iterated: every `Close()` is carried forward to the next `select` of the main goroutine, or to
the end of the schedule (`closeNorm`, `closeNormal`); every `expire` is pulled directly behind the
`anywhere` that armed the timer (`expNorm`, `expNormal`); carrying `Close()` calls forward keeps a schedule
expiry-normal (`closeNorm_expNormal`).
-/
import VaxisModel.Lemmas.ParserRunSched

namespace VaxisModel.Lemmas.ParserRunSchedNormal
open VaxisModel.Model.ParserTable VaxisModel.Model.Parser VaxisModel.Model.ParserRun VaxisModel.Model.ParserRunFine
open VaxisModel.Lemmas.ParserRunSched

/-- Nothing but `Close()` calls. -/
def allClose : List FLabel → Bool
  | [] => true
  | l :: ls => decide (l = .closeSig) && allClose ls

def headIsMain : List FLabel → Bool
  | .main :: _ => true
  | _ => false

/-- The state after `Close()` (`closeSig` is always enabled and does just this). -/
def closeF (f : FSys) : FSys := { f with closeReq := true }

/-- **Normal form for `Close()`**, checked along the run of the schedule from `f`: every `closeSig` is
    either followed by nothing but `closeSig`s up to the end of the schedule, or immediately followed by
    a statement of the main goroutine that is taken at the `select` (`mpc = atSelect` in the state in
    which the `closeSig` — and, since `closeSig` does not move the main goroutine, that `.main` — is
    taken).  (Beyond a label that is not enabled there is nothing to check.) -/
def closeNormal (T : Table) : FSys → List FLabel → Bool
  | _, [] => true
  | f, l :: ls =>
    if l = .closeSig then
      (allClose ls || (decide (f.mpc = .atSelect) && headIsMain ls)) && closeNormal T (closeF f) ls
    else
      match FSys.step T f l with
      | some (f', _) => closeNormal T f' ls
      | none => true

/-- `k` calls of `Close()`. -/
def cs (k : Nat) : List FLabel := List.replicate k .closeSig

/-- The normalising function: `k` `Close()` calls are being carried forward from state `f` over the
    schedule; they are dropped in front of the next `select` (one of them: the others have no effect
    any more and travel on) or at the end. -/
def closeNorm (T : Table) : Nat → FSys → List FLabel → List FLabel
  | k, _, [] => cs k
  | k, f, l :: ls =>
    if l = .closeSig then closeNorm T (k + 1) f ls
    else if k ≠ 0 ∧ l = .main ∧ f.mpc = .atSelect then
      .closeSig :: .main :: closeNorm T (k - 1) { closeF f with mpc := .fin .stop false } ls
    else
      match FSys.step T f l with
      | some (f', _) => l :: closeNorm T k f' ls
      | none => l :: (cs k ++ ls)

theorem cs_succ (k : Nat) : cs (k + 1) = .closeSig :: cs k := List.replicate_succ

theorem cs_succ_append (k : Nat) (ls : List FLabel) : cs (k + 1) ++ ls = cs k ++ .closeSig :: ls := by
  simp only [cs, List.replicate_succ', List.append_assoc, List.singleton_append]

theorem run_close_cons (T : Table) (f : FSys) (X : List FLabel) :
    FSys.run T f (.closeSig :: X) = FSys.run T (closeF f) X :=
  run_cons_nil_out T f (closeF f) .closeSig X rfl

theorem closeF_noop (f : FSys) (h : f.closeReq = true) : closeF f = f := by
  cases f; simp_all [closeF]

theorem run_cs_noop (T : Table) (f : FSys) (h : f.closeReq = true) (k : Nat) (X : List FLabel) :
    FSys.run T f (cs k ++ X) = FSys.run T f X := by
  induction k with
  | zero => simp [cs]
  | succ k ih => rw [cs_succ, List.cons_append, run_close_cons, closeF_noop f h, ih]

theorem cs_cross (T : Table) (l : FLabel) (X : List FLabel) : ∀ (k : Nat) (f : FSys),
    ¬ (l = .main ∧ f.mpc = .atSelect) → FSys.run T f (cs k ++ l :: X) = FSys.run T f (l :: (cs k ++ X))
  | 0, _, _ => by simp [cs]
  | k + 1, f, hsel => by
    have ih := cs_cross T l X k (closeF f) hsel
    have hmove := closeSig_moves_later T [] (cs k ++ X) l f (fun f' o hp => by
      simp only [FSys.run, Option.some.injEq, Prod.mk.injEq] at hp
      rw [← hp.1]; exact hsel)
    simp only [List.nil_append] at hmove
    rw [cs_succ, List.cons_append, run_close_cons, ih, ← run_close_cons, hmove, List.cons_append]

theorem select_close_step (T : Table) (f : FSys) (h : f.mpc = .atSelect) :
    FSys.step T (closeF f) .main = some ({ closeF f with mpc := .fin .stop false }, []) := by
  simp [FSys.step, mainStep, closeF, h]

/-- `k` `Close()` calls (none, if `k = 0`) move over a statement that is not taken at the `select` with a call in flight. -/
theorem cs_cross' (T : Table) {k : Nat} {f : FSys} {l : FLabel} (ls : List FLabel)
    (hx : ¬(k ≠ 0 ∧ l = .main ∧ f.mpc = .atSelect)) : FSys.run T f (cs k ++ l :: ls) = FSys.run T f (l :: (cs k ++ ls)) := by
  cases k with
  | zero => simp [cs]
  | succ k' => exact cs_cross T l ls (k' + 1) f (fun h => hx ⟨Nat.succ_ne_zero _, h⟩)

theorem closeNorm_run (T : Table) (ls : List FLabel) (k : Nat) (f : FSys) :
    FSys.run T f (closeNorm T k f ls) = FSys.run T f (cs k ++ ls) := by
  fun_induction closeNorm T k f ls with
  | case1 k f => simp
  | case2 k f ls ih => rw [ih, cs_succ_append]
  | case3 k f l ls hl hx ih =>
    obtain ⟨hk, rfl, hpc⟩ := hx
    obtain ⟨k', rfl⟩ := Nat.exists_eq_succ_of_ne_zero hk
    have hstep := select_close_step T f hpc
    have hc : ({ closeF f with mpc := .fin .stop false } : FSys).closeReq = true := rfl
    rw [Nat.succ_sub_one] at ih ⊢
    rw [run_close_cons, run_cons_nil_out T _ _ _ _ hstep, ih,
      cs_succ, List.cons_append, run_close_cons, run_cs_noop T (closeF f) rfl,
      run_cons_nil_out T _ _ _ _ hstep, run_cs_noop T _ hc]
  | case4 k f l ls hl hx f' o hs ih => rw [cs_cross' T ls hx]; simp only [FSys.run, hs, ih]
  | case5 k f l ls hl hx hs => rw [cs_cross' T ls hx]

theorem closeNorm_perm (T : Table) (ls : List FLabel) (k : Nat) (f : FSys) :
    (closeNorm T k f ls).Perm (cs k ++ ls) := by
  fun_induction closeNorm T k f ls with
  | case1 k f => simp
  | case2 k f ls ih => rw [← cs_succ_append]; exact ih
  | case3 k f l ls hl hx ih =>
    obtain ⟨hk, rfl, hpc⟩ := hx
    obtain ⟨k', rfl⟩ := Nat.exists_eq_succ_of_ne_zero hk
    rw [Nat.succ_sub_one] at ih
    rw [cs_succ, List.cons_append]
    exact List.Perm.cons _ ((ih.cons _).trans List.perm_middle.symm)
  | case4 k f l ls hl hx f' o hs ih => exact (ih.cons _).trans List.perm_middle.symm
  | case5 k f l ls hl hx hs => exact List.perm_middle.symm

theorem allClose_cs (k : Nat) : allClose (cs k) = true := by
  induction k with
  | zero => rfl
  | succ k ih => rw [cs_succ]; simp [allClose, ih]

theorem closeNormal_cs (T : Table) : ∀ (k : Nat) (f : FSys), closeNormal T f (cs k) = true
  | 0, _ => rfl
  | k + 1, f => by
    rw [cs_succ]
    simp only [closeNormal, if_true, allClose_cs, Bool.true_or, Bool.true_and]
    exact closeNormal_cs T k (closeF f)

theorem closeNorm_normal (T : Table) (ls : List FLabel) (k : Nat) (f : FSys) :
    closeNormal T f (closeNorm T k f ls) = true := by
  fun_induction closeNorm T k f ls with
  | case1 k f => exact closeNormal_cs T k f
  | case2 k f ls ih => exact ih
  | case3 k f l ls hl hx ih =>
    obtain ⟨hk, rfl, hpc⟩ := hx
    simp only [closeNormal, if_true, hpc, decide_true, headIsMain, Bool.and_self, Bool.or_true, Bool.true_and,
      if_neg hl, select_close_step T f hpc]
    exact ih
  | case4 k f l ls hl hx f' o hs ih => simp only [closeNormal, if_neg hl, hs]; exact ih
  | case5 k f l ls hl hx hs => simp only [closeNormal, if_neg hl, hs]

open VaxisModel.Lemmas.ParserRunFine

/-- The next statement of the main goroutine stops or (re-)arms the timer. -/
def stopsTimer (f : FSys) : Bool :=
  match f.mpc with
  | .readDone _ | .fin .stop _ | .bumped _ => true
  | _ => false

theorem stopsTimer_iff (f : FSys) : stopsTimer f = true ↔
    (∃ i, f.mpc = .readDone i) ∨ (∃ v, f.mpc = .fin .stop v) ∨ ∃ i, f.mpc = .bumped i := by
  unfold stopsTimer
  cases f.mpc with
  | fin st v => cases st <;> simp
  | _ => simp

/-- The statement `p.state = anywhere(r, p)` with `r` = ESC: it arms the timer. -/
def isArming (T : Table) (f : FSys) (l : FLabel) : Bool :=
  match l, f.mpc with
  | .main, .bumped i => arms T i
  | _, _ => false

/-- Take out the `expire` that consumes the timer pending in `f`: the first `expire` of the schedule,
    provided no statement in front of it stops the timer (and all of them are enabled). -/
def extract (T : Table) : FSys → List FLabel → Option (List FLabel)
  | _, [] => none
  | f, l :: ls =>
    if l = .expire then some ls
    else if l = .main ∧ stopsTimer f = true then none
    else match FSys.step T f l with
      | some (f1, _) => (extract T f1 ls).map (l :: ·)
      | none => none

/-- The normalising function (fuel = length of the schedule): behind every arming statement, the
    expiry of that timer — if there is one further on — is pulled forward. -/
def expNorm (T : Table) : Nat → FSys → List FLabel → List FLabel
  | 0, _, ls => ls
  | _ + 1, _, [] => []
  | n + 1, f, l :: ls =>
    match FSys.step T f l with
    | none => l :: ls
    | some (f', _) =>
      if isArming T f l then
        match extract T f' ls, FSys.step T f' .expire with
        | some ls', some (f'', _) => l :: .expire :: expNorm T n f'' ls'
        | _, _ => l :: expNorm T n f' ls
      else l :: expNorm T n f' ls

/-- **Normal form for timer expiries**, checked along the run from `f`: every `expire` stands directly
    behind the statement of the main goroutine that armed the timer (`fl` = the previous statement
    was such a statement). -/
def expNormal (T : Table) : Bool → FSys → List FLabel → Bool
  | _, _, [] => true
  | fl, f, l :: ls =>
    match FSys.step T f l with
    | none => true
    | some (f', _) => (if l = .expire then fl else true) && expNormal T (isArming T f l) f' ls

theorem mainStep_armed (T : Table) (f f' : FSys) (o : List Seq) (h : mainStep T f = some (f', o)) :
    (stopsTimer f = false → f'.armed = f.armed) ∧
    ((∃ i, f.mpc = .readDone i) ∨ (∃ v, f.mpc = .fin .stop v) → f'.armed = none) ∧
    (∀ i, f.mpc = .bumped i → f'.armed = if arms T i then some f.escGen else f.armed) := by
  cases mainStep_rel h <;> simp_all [stopsTimer]

theorem armed_keep (T : Table) (f f1 : FSys) (l : FLabel) (o : List Seq) (g : Nat)
    (hs : FSys.step T f l = some (f1, o)) (ha : f.armed = some g) (hl : l ≠ .expire)
    (hst : ¬ (l = .main ∧ stopsTimer f = true)) : f1.armed = some g := by
  cases fstep_rel hs with
  | expire _ _ => exact absurd rfl hl
  | cb k _ => rw [(cbStep_frame f f1 k o hs).2.2.2.1]; exact ha
  | main _ => rw [(mainStep_armed T f f1 o hs).1 (by simpa using fun h => hst ⟨rfl, h⟩)]; exact ha
  | _ => exact ha

theorem extract_run (T : Table) (ls : List FLabel) (f : FSys) (ls' : List FLabel)
    (harm : ∃ g, f.armed = some g) (h : extract T f ls = some ls') : FSys.run T f ls = FSys.run T f (.expire :: ls') := by
  fun_induction extract T f ls generalizing ls' with
  | case1 => cases h
  | case2 f ls => cases h; rfl
  | case3 f l ls hl hst => cases h
  | case4 f l ls hl hst f1 o hs ih =>
    obtain ⟨g, ha⟩ := harm
    simp only [Option.map_eq_some_iff] at h
    obtain ⟨ls1, h1, rfl⟩ := h
    rw [run_cons_congr T f f1 l o _ _ hs (ih ls1 ⟨g, armed_keep T f f1 l o g hs ha hl hst⟩ h1)]
    have := expire_moves_earlier T [] ls1 l f hl (fun f' o' hp => by
      simp only [FSys.run, Option.some.injEq, Prod.mk.injEq] at hp
      obtain ⟨rfl, _⟩ := hp
      refine ⟨⟨g, ha⟩, fun hm => ?_, fun k hk => ?_⟩
      · have hst' := fun h => hst ⟨hm, (stopsTimer_iff f).2 h⟩
        exact ⟨fun i e => hst' (.inl ⟨i, e⟩), fun v e => hst' (.inr (.inl ⟨v, e⟩)), fun i e => hst' (.inr (.inr ⟨i, e⟩))⟩
      · subst hk
        simp only [FSys.step] at hs
        have := (cbStep_frame f f1 k o hs).2.2.2.2.2
        omega)
    simpa using this
  | case5 f l ls hl hst hs => cases h

theorem extract_perm (T : Table) (ls : List FLabel) (f : FSys) (ls' : List FLabel)
    (h : extract T f ls = some ls') : ls.Perm (.expire :: ls') := by
  fun_induction extract T f ls generalizing ls' with
  | case1 => cases h
  | case2 f ls => cases h; exact List.Perm.refl _
  | case3 f l ls hl hst => cases h
  | case4 f l ls hl hst f1 o hs ih =>
    simp only [Option.map_eq_some_iff] at h
    obtain ⟨ls1, h1, rfl⟩ := h
    exact ((ih ls1 h1).cons l).trans (List.Perm.swap _ _ _)
  | case5 f l ls hl hst hs => cases h

theorem expire_some_armed (T : Table) (f f'' : FSys) (o : List Seq) (h : FSys.step T f .expire = some (f'', o)) :
    (∃ g, f.armed = some g) ∧ f''.armed = none := by
  cases fstep_rel h with
  | expire g hg => exact ⟨⟨g, hg⟩, rfl⟩

theorem expNorm_run (T : Table) (n : Nat) (f : FSys) (ls : List FLabel) :
    FSys.run T f (expNorm T n f ls) = FSys.run T f ls := by
  fun_induction expNorm T n f ls with
  | case1 | case2 | case3 => rfl
  | case4 n f l ls f' o hs harm ls' f'' o'' hx he ih =>
    refine run_cons_congr T f f' l o _ _ hs ?_
    rw [extract_run T ls f' ls' (expire_some_armed T f' f'' o'' hx).1 he]
    exact run_cons_congr T f' f'' .expire o'' _ _ hx ih
  | case5 n f l ls f' o hs harm hno ih => exact run_cons_congr T f f' l o _ _ hs ih
  | case6 n f l ls f' o hs harm ih => exact run_cons_congr T f f' l o _ _ hs ih

theorem expNorm_perm (T : Table) (n : Nat) (f : FSys) (ls : List FLabel) : (expNorm T n f ls).Perm ls := by
  fun_induction expNorm T n f ls with
  | case1 | case2 | case3 => exact List.Perm.refl _
  | case4 n f l ls f' o hs harm ls' f'' o'' hx he ih =>
    exact ((ih.cons _).trans (extract_perm T ls f' ls' he).symm).cons _
  | case5 n f l ls f' o hs harm hno ih => exact ih.cons _
  | case6 n f l ls f' o hs harm ih => exact ih.cons _

theorem armed_origin (T : Table) (f f' : FSys) (l : FLabel) (o : List Seq) (g : Nat)
    (hs : FSys.step T f l = some (f', o)) (ha' : f'.armed = some g) (hna : isArming T f l = false)
    (hl : l ≠ .expire) :
    f.armed = some g ∧ (l = .main → (∀ i, f.mpc ≠ .readDone i) ∧ (∀ v, f.mpc ≠ .fin .stop v)) := by
  cases fstep_rel hs with
  | expire _ _ => exact absurd rfl hl
  | closeSig => exact ⟨ha', fun h => by cases h⟩
  | readRet i _ => exact ⟨ha', fun h => by cases h⟩
  | cb k _ => rw [(cbStep_frame f f' k o hs).2.2.2.1] at ha'; exact ⟨ha', fun h => by cases h⟩
  | main _ =>
    obtain ⟨h1, h2, h3⟩ := mainStep_armed T f f' o hs
    have hns : f'.armed ≠ none := by rw [ha']; exact fun h => nomatch h
    have hno : (∀ i, f.mpc ≠ .readDone i) ∧ (∀ v, f.mpc ≠ .fin .stop v) :=
      ⟨fun i e => hns (h2 (Or.inl ⟨i, e⟩)), fun v e => hns (h2 (Or.inr ⟨v, e⟩))⟩
    refine ⟨?_, fun _ => hno⟩
    by_cases hst : stopsTimer f = true
    · rcases (stopsTimer_iff f).1 hst with ⟨i, e⟩ | ⟨v, e⟩ | ⟨i, e⟩
      · exact absurd e (hno.1 i)
      · exact absurd e (hno.2 v)
      · rw [h3 i e] at ha'
        simp only [isArming, e] at hna
        simpa [hna] using ha'
    · rw [← h1 (by simpa using hst)]; exact ha'

theorem isArming_main (T : Table) (f : FSys) (l : FLabel) (h : isArming T f l = true) : l = .main := by
  cases l <;> simp [isArming] at h ⊢

/-- **The normalised schedule is in normal form** — from a state that meets the invariant of the
    statement-grained system (`FInv`: every reachable state does), in which no timer is pending whose
    expiry is further on in the schedule. -/
theorem expNorm_normal (T : Table) (hT : TimerOk T) (n : Nat) (f : FSys) (ls : List FLabel) (fl : Bool)
    (hn : ls.length ≤ n) (hinv : FInv f) (hex : ∀ g, f.armed = some g → extract T f ls = none) :
    expNormal T fl f (expNorm T n f ls) = true := by
  fun_induction expNorm T n f ls generalizing fl with
  | case1 f ls => rw [List.eq_nil_of_length_eq_zero (by omega : ls.length = 0)]; rfl
  | case2 => rfl
  | case3 n f l ls hs => simp only [expNormal, hs]
  | case4 n f l ls f' o hs harm ls' f'' o'' hx he ih =>
    have hlm : l ≠ .expire := by rw [isArming_main T f l harm]; decide
    have hlen := (extract_perm T ls f' ls' he).length_eq
    simp only [List.length_cons] at hlen hn
    simp only [expNormal, hs, if_neg hlm, harm, hx, if_true, Bool.true_and]
    exact ih _ (by omega) (step_inv T hT f' f'' .expire o'' (step_inv T hT f f' l o hinv hs) hx)
      (fun g hg => by rw [(expire_some_armed T f' f'' o'' hx).2] at hg; cases hg)
  | case5 n f l ls f' o hs harm hno ih =>
    have hlm : l ≠ .expire := by rw [isArming_main T f l harm]; decide
    simp only [List.length_cons] at hn
    simp only [expNormal, hs, if_neg hlm, Bool.true_and]
    refine ih _ (by omega) (step_inv T hT f f' l o hinv hs) (fun g hg => ?_)
    cases he : extract T f' ls with
    | none => rfl
    | some ls' =>
      exact (hno ls' { f' with armed := none, cbs := f'.cbs ++ [(g, .started)] } [] he (step_expire_some hg)).elim
  | case6 n f l ls f' o hs harm ih =>
    simp only [List.length_cons] at hn
    by_cases hl : l = .expire
    · subst hl
      obtain ⟨⟨g, hg⟩, _⟩ := expire_some_armed T f f' o hs
      have := hex g hg
      simp [extract] at this
    · simp only [expNormal, hs, if_neg hl, Bool.true_and]
      refine ih _ (by omega) (step_inv T hT f f' l o hinv hs) (fun g hg => ?_)
      obtain ⟨ha, hm⟩ := armed_origin T f f' l o g hs hg (by simpa using harm) hl
      have hst : ¬ (l = .main ∧ stopsTimer f = true) := by
        rintro ⟨rfl, hst⟩
        obtain ⟨h1, h2⟩ := hm rfl
        rcases (stopsTimer_iff f).1 hst with ⟨i, e⟩ | ⟨v, e⟩ | ⟨i, e⟩
        · exact h1 i e
        · exact h2 v e
        · have hok := (hinv.g2 g ha).2
          rw [e] at hok; cases hok
      have := hex g ha
      simp only [extract, if_neg hl, if_neg hst, hs, Option.map_eq_none_iff] at this
      exact this

theorem step_close (T : Table) (f : FSys) : FSys.step T f .closeSig = some (closeF f, []) := rfl

theorem step_closeF (T : Table) (f : FSys) (l : FLabel) (hsel : ¬ (l = .main ∧ f.mpc = .atSelect)) :
    FSys.step T (closeF f) l = (FSys.step T f l).map (fun r => (closeF r.1, r.2)) :=
  step_close_equivariant T f l hsel

theorem isArming_closeF (T : Table) (f : FSys) (l : FLabel) : isArming T (closeF f) l = isArming T f l := rfl

theorem isArming_expire (T : Table) (f : FSys) : isArming T f .expire = false := rfl
theorem isArming_close (T : Table) (f : FSys) : isArming T f .closeSig = false := rfl

theorem expNormal_mono (T : Table) (f : FSys) (ls : List FLabel) (fl : Bool) (h : expNormal T false f ls = true) :
    expNormal T fl f ls = true := by
  cases ls with
  | nil => rfl
  | cons l ls =>
    simp only [expNormal] at h ⊢
    cases hs : FSys.step T f l with
    | none => rfl
    | some r =>
      rw [hs] at h
      simp only [Bool.and_eq_true] at h ⊢
      refine ⟨?_, h.2⟩
      by_cases hl : l = .expire
      · rw [if_pos hl] at h; exact absurd h.1 (by simp)
      · rw [if_neg hl]

theorem expNormal_close_cons (T : Table) (f : FSys) (ls : List FLabel) (fl : Bool) :
    expNormal T fl f (.closeSig :: ls) = expNormal T false (closeF f) ls := by
  simp only [expNormal, step_close]
  simp [isArming_close]

theorem expNormal_cs (T : Table) : ∀ (k : Nat) (f : FSys) (fl : Bool), expNormal T fl f (cs k) = true
  | 0, _, _ => rfl
  | k + 1, f, fl => by rw [cs_succ, expNormal_close_cons]; exact expNormal_cs T k _ _

theorem closeNorm_expNormal (T : Table) (ls : List FLabel) (k : Nat) (f : FSys) (fl : Bool)
    (h : (if k = 0 then expNormal T fl f ls else expNormal T fl (closeF f) ls) = true) :
    expNormal T fl f (closeNorm T k f ls) = true := by
  fun_induction closeNorm T k f ls generalizing fl with
  | case1 k f => exact expNormal_cs T k f fl
  | case2 k f ls ih =>
    refine ih fl ?_
    rw [if_neg (Nat.succ_ne_zero k)]
    apply expNormal_mono
    by_cases hk : k = 0
    · rw [if_pos hk, expNormal_close_cons] at h; exact h
    · rw [if_neg hk, expNormal_close_cons, closeF_noop (closeF f) rfl] at h; exact h
  | case3 k f l ls hl hx ih =>
    obtain ⟨hk, rfl, hpc⟩ := hx
    have hstep := select_close_step T f hpc
    have hia : isArming T (closeF f) .main = false := by simp [isArming, closeF, hpc]
    rw [if_neg hk] at h
    simp only [expNormal, hstep, hia, if_neg (by decide : FLabel.main ≠ .expire), Bool.true_and] at h
    rw [expNormal_close_cons]
    simp only [expNormal, hstep, hia, if_neg (by decide : FLabel.main ≠ .expire), Bool.true_and]
    refine ih false ?_
    by_cases hk1 : k - 1 = 0
    · rw [if_pos hk1]; exact h
    · rw [if_neg hk1, closeF_noop _ rfl]; exact h
  | case4 k f l ls hl hx f' o hs ih =>
    have key : (if l = .expire then fl else true) = true ∧
        (if k = 0 then expNormal T (isArming T f l) f' ls else expNormal T (isArming T f l) (closeF f') ls) = true := by
      by_cases hk : k = 0
      · simpa only [if_pos hk, expNormal, hs, Bool.and_eq_true] using h
      · have hsc := step_closeF T f l (fun hh => hx ⟨hk, hh⟩)
        rw [hs, Option.map_some] at hsc
        simpa only [if_neg hk, expNormal, hsc, Bool.and_eq_true, isArming_closeF] using h
    simp only [expNormal, hs, Bool.and_eq_true]
    exact ⟨key.1, ih _ key.2⟩
  | case5 k f l ls hl hx hs => simp only [expNormal, hs]

end VaxisModel.Lemmas.ParserRunSchedNormal
