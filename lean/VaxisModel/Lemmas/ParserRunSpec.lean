/-
C08 ∘ C02: the life cycle LTS (Model/ParserRun.lean) refines the reference machine of
Spec/VT500.lean driven by the same labels — runes through `stepRuneD devAll`, every (up-to-date)
timer firing through `escKey`, end of input through the exit action of the open control string.
-/
import VaxisModel.Lemmas.ParserRun
import VaxisModel.Lemmas.ParserRefineRun
import VaxisModel.Lemmas.ParserCodec

namespace VaxisModel.Lemmas.ParserRunSpec
open VaxisModel.Model.ParserTable VaxisModel.Model.Parser VaxisModel.Model.ParserRun
open VaxisModel.Lemmas.ParserConform VaxisModel.Lemmas.ParserAbs VaxisModel.Lemmas.ParserRefine
open VaxisModel.Lemmas.ParserRefineCheck VaxisModel.Lemmas.ParserRefineStep VaxisModel.Lemmas.ParserRefineRun
open VaxisModel.Lemmas.ParserRun VaxisModel.Lemmas.ParserCodec
open VaxisModel.Spec.VT500 (M)

/-- What the Spec prescribes for one label of the life cycle: a rune is one step of the reference
    machine (recorded deviations F102/F102c on); the Escape timer firing — at once, or as a late but
    still up-to-date callback — is the Escape key; the end of input delivers the control string still
    open, then `EOF{}`; `Close()` just ends (`EOF{}`); everything else is silent. -/
def specLabel (m : M) : Label → M × List Seq
  | .read r => ((Spec.VT500.stepRuneD devAll m r).1, (Spec.VT500.stepRuneD devAll m r).2.map specSeq)
  | .timerFire | .cbRun true => ((Spec.VT500.escKey m).1, (Spec.VT500.escKey m).2.map specSeq)
  | .readEnd => (m, (Spec.VT500.acts m 0 (Spec.VT500.exit m.s)).2.map specSeq ++ [.eof])
  | .breakClose => (m, [.eof])
  | _ => (m, [])

def specLabels : M → List Label → M × List Seq
  | m, [] => (m, [])
  | m, l :: ls => ((specLabels (specLabel m l).1 ls).1, (specLabel m l).2 ++ (specLabels (specLabel m l).1 ls).2)

def J (s : Sys) (m : M) : Prop :=
  SInv s ∧ (s.pc ≠ .done → R s.ps m) ∧ (s.pc = .done → s.armed = false ∧ s.fresh = false)

theorem J_init : J Sys.init {} := ⟨SInv_init, fun _ => R_init, fun h => by cases h⟩

theorem fle_ground_escape : fle (fl .ground) (fl .escape) = true := by decide

theorem R_escKey (ps : PState) (m : M) (hR : R ps m) (hesc : ps.state = .escape) :
    R (timerReset true ps) (Spec.VT500.escKey m).1 := by
  obtain ⟨r1, r2, r3, r4⟩ := hR
  rw [hesc] at r2 r4
  refine ⟨rfl, by simpa [timerReset, implExit] using r2, by simp [timerReset, gOf, isStringState], ?_⟩
  have := Dat_mono fle_ground_escape r4
  exact Dat_congr_m (Dat_congr this rfl rfl rfl rfl rfl) rfl rfl rfl rfl rfl rfl rfl rfl

theorem noErr_eof (l : List Seq) : noErr (l ++ [.eof]) = noErr l ++ [.eof] := by
  rw [noErr_append]; rfl

theorem step_J (s : Sys) (m : M) (l : Label) (s' : Sys) (o : List Seq) (hJ : J s m)
    (hstep : Sys.step handTable Cfg.fixed s l = some (s', o)) :
    J s' (specLabel m l).1 ∧ noErr o = (specLabel m l).2 := by
  obtain ⟨hS, hR, hD⟩ := hJ
  obtain ⟨hS', _⟩ := step_SInv s l s' o hS hstep
  cases step_rel hstep with
  | closeSig => exact ⟨⟨hS', hR, hD⟩, rfl⟩
  | enterRead hc _ => exact ⟨⟨hS', fun _ => hR (by rw [hc]; decide), fun h => by cases h⟩, rfl⟩
  | breakClose => exact ⟨⟨hS', fun h => absurd rfl h, fun _ => ⟨rfl, by simp [finishing, Sys.outdate]⟩⟩, rfl⟩
  | readStop r hc hs =>
    have := (sim_step codec s.ps m (hR (by rw [hc]; decide)) r).2.2
    simp only [pstep, hs] at this; cases this
  | readGo r hc _ =>
    obtain ⟨g1, g2, _⟩ := sim_step codec s.ps m (hR (by rw [hc]; decide)) r
    simp only [pstep] at g1 g2
    exact ⟨⟨hS', fun _ => g1, fun h => by cases h⟩, g2⟩
  | readEnd hc =>
    have he := sim_eof codec s.ps m (hR (by rw [hc]; decide))
    simp only [pstep] at he
    refine ⟨⟨hS', fun h => absurd rfl h, fun _ => ⟨rfl, by simp [finishing, Sys.outdate]⟩⟩, ?_⟩
    simp only [specLabel, finishing]
    rw [noErr_eof, he]
  | timerFire ha hc =>
    have hnd : s.pc ≠ .done := by rw [hc]; decide
    exact ⟨⟨hS', fun _ => R_escKey s.ps m (hR hnd) ((hS hnd).2.1 (Or.inl ha)), fun h => by rw [hc] at h; cases h⟩, rfl⟩
  | timerExpire hc =>
    refine ⟨⟨hS', hR, fun h => ?_⟩, rfl⟩
    have := (hD h).1
    rw [hc] at this; cases this
  | cbFresh hc =>
    have hnd : s.pc ≠ .done := by
      intro h
      have := (hD h).2
      rw [hc] at this; cases this
    refine ⟨⟨hS', fun _ => R_escKey s.ps m (hR hnd) ((hS hnd).2.1 (Or.inr hc)), fun h => absurd h hnd⟩, ?_⟩
    simp [Cfg.fixed, specLabel, Spec.VT500.escKey, specSeq, noErr]
  | cbStaleGuarded => exact ⟨⟨hS', hR, hD⟩, rfl⟩
  | cbStale _ hc => cases hc

theorem run_J (ls : List Label) (s : Sys) (m : M) (s' : Sys) (o : List Seq) (hJ : J s m)
    (hrun : Sys.run handTable Cfg.fixed s ls = some (s', o)) :
    J s' (specLabels m ls).1 ∧ noErr o = (specLabels m ls).2 := by
  induction ls generalizing s m o with
  | nil =>
    simp only [Sys.run, Option.some.injEq, Prod.mk.injEq] at hrun
    obtain ⟨rfl, rfl⟩ := hrun
    exact ⟨hJ, rfl⟩
  | cons l ls ih =>
    obtain ⟨s1, o1, o2, h1, h2, rfl⟩ := sys_run_cons_inv hrun
    obtain ⟨g1, g2⟩ := step_J s m l s1 o1 hJ h1
    obtain ⟨g3, g4⟩ := ih s1 _ o2 g1 h2
    exact ⟨g3, by simp only [specLabels, noErr_append, g2, g4]⟩

theorem specLabels_append (m : M) (a b : List Label) :
    specLabels m (a ++ b) =
      ((specLabels (specLabels m a).1 b).1, (specLabels m a).2 ++ (specLabels (specLabels m a).1 b).2) := by
  induction a generalizing m with
  | nil => simp [specLabels]
  | cons l a ih => simp [specLabels, ih, List.append_assoc]

/-- The labels of one run of back-to-back reads (the loop is left blocked in the next read). -/
def readsOf (w : List Nat) : List Label := w.flatMap fun r => [.read r, .enterRead]

theorem specLabels_reads (m : M) (w : List Nat) :
    specLabels m (readsOf w) =
      ((Spec.VT500.runFromD devAll m w).1, (Spec.VT500.runFromD devAll m w).2.map specSeq) := by
  induction w generalizing m with
  | nil => simp [readsOf, specLabels, Spec.VT500.runFromD]
  | cons r w ih =>
    have : readsOf (r :: w) = [.read r, .enterRead] ++ readsOf w := by simp [readsOf]
    rw [this, specLabels_append]
    simp only [specLabels, specLabel, List.append_nil, ih, Spec.VT500.runFromD, List.map_append]

/-- Segments of runes; every segment but the last is followed by silence long enough for the Escape
    timer to fire. -/
def segsOf : List (List Nat) → List Label
  | [] => []
  | [w] => readsOf w
  | w :: rest => readsOf w ++ [.timerFire] ++ segsOf rest

theorem specLabels_segs (m : M) (segs : List (List Nat)) :
    specLabels m (segsOf segs) =
      ((Spec.VT500.runSegmentsD devAll m segs).1, (Spec.VT500.runSegmentsD devAll m segs).2.map specSeq) := by
  induction segs generalizing m with
  | nil => simp [segsOf, specLabels, Spec.VT500.runSegmentsD]
  | cons w rest ih =>
    cases rest with
    | nil => simp only [segsOf, Spec.VT500.runSegmentsD]; exact specLabels_reads m w
    | cons w2 rest2 =>
      have : segsOf (w :: w2 :: rest2) = readsOf w ++ ([.timerFire] ++ segsOf (w2 :: rest2)) := by
        simp [segsOf]
      rw [this, specLabels_append, specLabels_reads, specLabels_append]
      simp only [specLabels, specLabel, List.append_nil, ih, Spec.VT500.runSegmentsD, List.map_append,
        List.append_assoc]

end VaxisModel.Lemmas.ParserRunSpec
