/-
C08: `p.intermediate` after a dispatch.  In the Go code `escapeDispatch/csiDispatch/hook` replace
`p.intermediate` by `intermediatePool.Get()`, which may return a slice with a *stale, non-zero length*
(`Finish` puts the delivered slice back as it is); Model/Parser.lean sets `inter := []` there instead.
The difference cannot be observed (`Props.C08Pools.stale_intermediate_unobservable`, by the relation of
Lemmas/ParserLeak.lean): after a dispatch the parser is in `ground` (or, after `hook`, in `dcsPassthrough`),
and from those states nothing reads `inter` before the `clear()` that every ESC runs.  Here: the statements
that leave `inter` alone, and table checks over the arms of a state function (`rows`, `rows_all`) — among them
that every dispatching arm returns to one of those two states (`dispatch_rows`).
-/
import VaxisModel.Lemmas.Parser

namespace VaxisModel.Lemmas.ParserStale
open VaxisModel.Model.ParserTable VaxisModel.Model.Parser VaxisModel.Lemmas.Parser

/-- Statements that neither read nor write `p.intermediate`. -/
def interFree : Act → Bool
  | .collect | .csiDispatch | .escapeDispatch | .hook | .clear => false
  | _ => true

theorem runExitFn_inter (s : PState) (x : List Rune) (f : ExitFn) :
    runExitFn { s with inter := x } f = ({ (runExitFn s f).1 with inter := x }, (runExitFn s f).2) := by
  cases f <;> rfl

theorem applyAct_inter (a : Act) (ha : interFree a = true) (r : Rune) (s : PState) (x : List Rune) :
    applyAct a r { s with inter := x } = ({ (applyAct a r s).1 with inter := x }, (applyAct a r s).2) := by
  rcases h : applyAct a r s with ⟨t, o⟩
  cases ParserStepBasic.does_of h <;> cases ha <;> simp_all [applyAct, runExitFn]

/-- An arm with a label other than `eof`: only these can fire on a rune. -/
def onRune (a : Arm) : Bool := a.guards.any (· != .isEof)

/-- Every row a state function can return for a rune: the body of an early `if`, or the prologue
    followed by an arm of the `switch` or by its default. -/
def rows (f : StateFn) : List (List Act × Next) :=
  (f.early.filter onRune).map (fun a => (a.acts, a.next)) ++
    (f.dflt :: f.arms.filter onRune).map (fun a => (f.pre ++ a.acts, a.next))

theorem onRune_of_fires {a : Arm} {r : Nat} (h : a.fires (.rune r) = true) : onRune a = true := by
  obtain ⟨g, hg, he⟩ := List.any_eq_true.mp h
  exact List.any_eq_true.mpr ⟨g, hg, by cases g <;> simp_all [Guard.eval]⟩

theorem findEarly_mem_onRune {arms : List Arm} {r : Nat} {a : Arm} (h : findEarly arms (.rune r) = some a) :
    a ∈ arms.filter onRune := by
  induction arms with
  | nil => cases h
  | cons m rest ih =>
    simp only [findEarly] at h
    split at h
    · rename_i hf
      cases h
      exact List.mem_filter.mpr ⟨List.mem_cons_self, onRune_of_fires hf⟩
    · exact List.mem_filter.mpr ⟨List.mem_cons_of_mem _ (List.mem_filter.mp (ih h)).1, (List.mem_filter.mp (ih h)).2⟩

theorem findArm_mem_onRune (arms : List Arm) (d : Arm) (r : Nat) :
    findArm arms d (.rune r) ∈ d :: arms.filter onRune := by
  rcases Model.ParserTable.findArm_mem arms d (.rune r) with e | ⟨hm, hf⟩
  · rw [e]; exact List.mem_cons_self
  · exact List.mem_cons_of_mem _ (List.mem_filter.mpr ⟨hm, onRune_of_fires hf⟩)

theorem row_mem_rows (f : StateFn) (r : Nat) : f.row (.rune r) ∈ rows f := by
  unfold StateFn.row rows
  split
  · rename_i a h
    exact List.mem_append_left _ (List.mem_map.mpr ⟨a, findEarly_mem_onRune h, rfl⟩)
  · exact List.mem_append_right _ (List.mem_map.mpr ⟨_, findArm_mem_onRune f.arms f.dflt r, rfl⟩)

theorem rows_all (f : StateFn) (p : List Act × Next → Bool) (h : (rows f).all p = true) (r : Nat) :
    p (f.row (.rune r)) = true :=
  List.all_eq_true.mp h _ (row_mem_rows f r)

def isDispatch : Act → Bool
  | .escapeDispatch | .csiDispatch | .hook => true
  | _ => false

def retTargetsDead : List Act → Bool
  | [] => true
  | .retIfIgnoreST n :: rest => (n == .st .ground || n == .st .dcsPassthrough) && retTargetsDead rest
  | _ :: rest => retTargetsDead rest

/-- A row that dispatches returns to `ground` or `dcsPassthrough` (also through its early return). -/
def dispatchRowOk (row : List Act × Next) : Bool :=
  !row.1.any isDispatch || ((row.2 == .st .ground || row.2 == .st .dcsPassthrough) && retTargetsDead row.1)

theorem dispatch_rows (st : StateId) (r : Nat) : dispatchRowOk ((handFn st).row (.rune r)) = true := by
  cases st <;> exact rows_all _ dispatchRowOk (by decide) _

end VaxisModel.Lemmas.ParserStale
