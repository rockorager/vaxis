/-
C02: basic facts about `applyAct` / `runActs` / `runFn` used by several lemma files: what one statement
does, branch by branch, as a relation (`Does`, inverted once by `does`); statements never change
`p.state`; a row without an early return returns the arm's `return` value.
-/
import VaxisModel.Model.Parser

namespace VaxisModel.Lemmas.ParserStepBasic
open VaxisModel.Model.ParserTable VaxisModel.Model.Parser

/-- What one statement does, branch by branch: the state it leaves and what it delivers. -/
inductive Does (r : Rune) (s : PState) : Act → PState → List Seq → Prop
  | c0 : r ≤ 0x1F → Does r s .execute s [.c0 r]
  | noC0 : ¬ r ≤ 0x1F → Does r s .execute s []
  | print : Does r s .print s [.print r]
  | collect : Does r s .collect { s with inter := s.inter ++ [r] } []
  | param : Does r s .param { s with params := s.params ++ [r] } []
  | csi : Does r s .csiDispatch { s with inter := [] } [.csi s.inter (decodeParams s.params) r]
  | esc : Does r s .escapeDispatch { s with inter := [] } [.esc s.inter r]
  | hook0 : s.params = [] →
      Does r s .hook { s with exit := some .unhook, dcs := { final := r, inter := s.inter }, inter := [] } []
  | hookErr : s.params ≠ [] → hookParams (splitOn 0x3B s.params []) = none →
      Does r s .hook { s with exit := some .unhook, dcs := { final := r, inter := s.inter }, inter := [] } [.err]
  | hook (ps) : s.params ≠ [] → hookParams (splitOn 0x3B s.params []) = some ps →
      Does r s .hook
        { s with exit := some .unhook, dcs := { final := r, inter := s.inter, params := ps }, inter := [] } []
  | put : Does r s .put { s with dcs := { s.dcs with data := s.dcs.data ++ [r] } } []
  | oscStart : Does r s .oscStart { s with exit := some .oscEnd } []
  | oscPut : Does r s .oscPut { s with osc := s.osc ++ [r] } []
  | apcPut : Does r s .apcPut { s with apc := s.apc ++ [r] } []
  | clear : Does r s .clear { s with inter := [], params := [] } []
  | emitErr : Does r s .emitErr s [.err]
  | emitSS3 : Does r s .emitSS3 s [.ss3 r]
  | setIgnoreST : Does r s .setIgnoreST { s with ignoreST := true } []
  | setExitUnhook : Does r s .setExitUnhook { s with exit := some .unhook } []
  | setExitApc : Does r s .setExitApc { s with exit := some .apcUnhook } []
  | nilCall : s.exit = none → Does r s .runExit s [.panic]
  | osc : s.exit = some .oscEnd → Does r s .runExit { s with osc := [] } [.osc s.osc]
  | unhook : s.exit = some .unhook →
      Does r s .runExit { s with dcs := {} } [.dcs s.dcs.final s.dcs.inter s.dcs.params s.dcs.data]
  | apc : s.exit = some .apcUnhook → Does r s .runExit { s with apc := [] } [.apc s.apc]
  | clearExit : Does r s .clearExit { s with exit := none } []
  | unset : s.exit = none → Does r s .runExitIfSet s []
  | oscIfSet : s.exit = some .oscEnd → Does r s .runExitIfSet { s with osc := [], exit := none } [.osc s.osc]
  | unhookIfSet : s.exit = some .unhook →
      Does r s .runExitIfSet { s with dcs := {}, exit := none } [.dcs s.dcs.final s.dcs.inter s.dcs.params s.dcs.data]
  | apcIfSet : s.exit = some .apcUnhook → Does r s .runExitIfSet { s with apc := [], exit := none } [.apc s.apc]
  | unsetST : s.exit = none → Does r s .runExitIfSetST s []
  | oscIfSetST : s.exit = some .oscEnd →
      Does r s .runExitIfSetST { s with osc := [], exit := none, ignoreST := true } [.osc s.osc]
  | unhookIfSetST : s.exit = some .unhook →
      Does r s .runExitIfSetST { s with dcs := {}, exit := none, ignoreST := true }
        [.dcs s.dcs.final s.dcs.inter s.dcs.params s.dcs.data]
  | apcIfSetST : s.exit = some .apcUnhook →
      Does r s .runExitIfSetST { s with apc := [], exit := none, ignoreST := true } [.apc s.apc]
  | clearIgnoreST : Does r s .clearIgnoreST { s with ignoreST := false } []
  | startTimer : Does r s .startTimer s []
  | defer : Does r s .deferClearIgnoreST s []
  | ret (n) : Does r s (.retIfIgnoreST n) s []
  | unknown : Does r s .unknown s []

theorem does (a : Act) (r : Rune) (s : PState) : Does r s a (applyAct a r s).1 (applyAct a r s).2 := by
  cases a
  case execute => by_cases h : r ≤ 0x1F <;> simp only [applyAct, h, decide_true, decide_false] <;> constructor <;> exact h
  case hook =>
    by_cases hp : s.params = []
    · simpa [applyAct, hp] using Does.hook0 (r := r) hp
    · have hne : s.params.isEmpty = false := by simpa using hp
      cases hk : hookParams (splitOn 0x3B s.params []) with
      | none => simpa [applyAct, hne, hk] using Does.hookErr (r := r) hp hk
      | some ps => simpa [applyAct, hne, hk] using Does.hook (r := r) ps hp hk
  case runExit | runExitIfSet | runExitIfSetST =>
    simp only [applyAct]
    cases he : s.exit with
    | none => constructor; exact he
    | some f => cases f <;> constructor <;> exact he
  all_goals constructor

/-- The form for `cases`: state and items as variables. -/
theorem does_of {a : Act} {r : Rune} {s t : PState} {o : List Seq} (h : applyAct a r s = (t, o)) : Does r s a t o := by
  have := does a r s; rwa [h] at this

theorem applyAct_state (a : Act) (r : Nat) (s : PState) : (applyAct a r s).1.state = s.state := by
  rcases h : applyAct a r s with ⟨t, o⟩
  cases does_of h <;> rfl

theorem runActs_cons (a : Act) (rest : List Act) (hret : ∀ n', a ≠ .retIfIgnoreST n') (i : Inp) (s : PState)
    (out : List Seq) (n : Next) :
    runActs (a :: rest) i s out n =
      (match i with
       | .rune r => runActs rest i (applyAct a r s).1 (out ++ (applyAct a r s).2) n
       | .eof => if usesRune a then (s, out ++ [.panic], .stop)
                 else runActs rest i (applyAct a 0 s).1 (out ++ (applyAct a 0 s).2) n) := by
  cases a <;> first | (exfalso; exact hret _ rfl) | (cases i <;> simp [runActs])

theorem runActs_cons_rune (a : Act) (rest : List Act) (hno : ∀ n', a ≠ .retIfIgnoreST n') (c : Nat) (s : PState)
    (out : List Seq) (n : Next) :
    runActs (a :: rest) (.rune c) s out n = runActs rest (.rune c) (applyAct a c s).1 (out ++ (applyAct a c s).2) n :=
  runActs_cons a rest hno (.rune c) s out n

/-- Induction over a statement list as `runActs` runs it: the early return taken or passed, the
    `panic` of a rune-reading statement on end of input, a statement run on the rune (0 on end of input). -/
theorem runActs_induct (i : Inp) (n : Next) {motive : List Act → PState → List Seq → PState × List Seq × Next → Prop}
    (nil : ∀ s out, motive [] s out (s, out, n))
    (ret : ∀ n' rest s out, s.ignoreST = true → motive (.retIfIgnoreST n' :: rest) s out (s, out, n'))
    (skip : ∀ n' rest s out res, s.ignoreST = false → motive rest s out res →
      motive (.retIfIgnoreST n' :: rest) s out res)
    (panic : ∀ a rest s out, i = .eof → usesRune a = true → motive (a :: rest) s out (s, out ++ [.panic], .stop))
    (act : ∀ a rest r s out res, (∀ n', a ≠ .retIfIgnoreST n') → (i = .rune r ∨ i = .eof ∧ usesRune a = false ∧ r = 0) →
      motive rest (applyAct a r s).1 (out ++ (applyAct a r s).2) res → motive (a :: rest) s out res)
    (acts : List Act) (s : PState) (out : List Seq) : motive acts s out (runActs acts i s out n) := by
  induction acts generalizing s out with
  | nil => exact nil s out
  | cons a rest ih =>
    by_cases hret : ∃ n', a = .retIfIgnoreST n'
    · obtain ⟨n', rfl⟩ := hret
      simp only [runActs]
      split
      · exact ret _ _ _ _ ‹_›
      · exact skip _ _ _ _ _ (Bool.eq_false_iff.2 ‹_›) (ih s out)
    · have hno : ∀ n', a ≠ .retIfIgnoreST n' := fun n' h => hret ⟨n', h⟩
      rw [runActs_cons a rest hno]
      cases i with
      | rune r => exact act a rest r s out _ hno (.inl rfl) (ih _ _)
      | eof =>
        simp only
        split
        · exact panic a rest s out rfl ‹_›
        · exact act a rest 0 s out _ hno (.inr ⟨rfl, Bool.eq_false_iff.2 ‹_›, rfl⟩) (ih _ _)

/-- What every statement of the list preserves (of the state and the items so far), and the `panic`
    item does, holds after the list. -/
theorem runActs_inv (Q : PState → List Seq → Prop) (acts : List Act) (i : Inp)
    (hstep : ∀ a ∈ acts, ∀ r s out, Q s out → Q (applyAct a r s).1 (out ++ (applyAct a r s).2))
    (hpanic : ∀ s out, Q s out → Q s (out ++ [.panic])) (s : PState) (out : List Seq) (n : Next)
    (h0 : Q s out) : Q (runActs acts i s out n).1 (runActs acts i s out n).2.1 := by
  refine runActs_induct i n (motive := fun acts s out res =>
    (∀ a ∈ acts, ∀ r s out, Q s out → Q (applyAct a r s).1 (out ++ (applyAct a r s).2)) → Q s out → Q res.1 res.2.1)
    (fun _ _ _ h => h) (fun _ _ _ _ _ _ h => h) (fun _ _ _ _ _ _ ih hs => ih fun a ha => hs a (.tail _ ha))
    (fun _ _ _ _ _ _ _ h => hpanic _ _ h)
    (fun a _ r s out _ _ _ ih hs h => ih (fun a ha => hs a (.tail _ ha)) (hs a (.head _) r s out h)) acts s out hstep h0

theorem runActs_state (acts : List Act) (i : Inp) (s : PState) (out : List Seq) (n : Next) :
    (runActs acts i s out n).1.state = s.state :=
  runActs_inv (fun s' _ => s'.state = s.state) acts i
    (fun a _ r s' _ h => (applyAct_state a r s').trans h) (fun _ _ h => h) s out n rfl

theorem runFn_state (f : StateFn) (i : Inp) (s : PState) : (runFn f i s).1.state = s.state := by
  simp only [runFn]
  split <;> simp [runActs_state]

theorem runActs_next_rune (acts : List Act) (hno : ∀ a ∈ acts, ∀ n', a ≠ .retIfIgnoreST n') (r : Nat) (s : PState)
    (out : List Seq) (n : Next) : (runActs acts (.rune r) s out n).2.2 = n := by
  induction acts generalizing s out with
  | nil => rfl
  | cons a rest ih =>
    rw [runActs_cons_rune a rest (hno a List.mem_cons_self)]
    exact ih (fun a' ha' => hno a' (by simp [ha'])) _ _

end VaxisModel.Lemmas.ParserStepBasic
