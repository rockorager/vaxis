/-
C02: the reading side (Model/ParserIO.lean): the bytes a reader still holds, and the step on the
end of input.
-/
import VaxisModel.Model.ParserIO
import VaxisModel.Lemmas.Parser

namespace VaxisModel.Lemmas.ParserText
open VaxisModel.Model.ParserTable VaxisModel.Model.Parser VaxisModel.Model.ParserIO
open VaxisModel.Lemmas.Parser

/-- All bytes still to come. -/
def bytesOf (rd : Rd) : List Nat := rd.buf ++ rd.chunks.flatten

theorem remaining_eq (rd : Rd) : rd.remaining = (bytesOf rd).length := by
  simp [Rd.remaining, bytesOf, List.length_flatten]

theorem pstep_eof_quiet (s : PState) (he : s.exit = none) : pstep s .eof = ⟨s, [], true⟩ := by
  rw [VaxisModel.Lemmas.ParserRow.pstep_eq_runRow,
    show VaxisModel.Lemmas.ParserRow.jointRow handTable s.state .eof = ([.runExitIfSet], .stop) from rfl]
  simp only [VaxisModel.Lemmas.ParserRow.runRow, runActs, usesRune, applyAct, he]
  rfl

end VaxisModel.Lemmas.ParserText
