/-
C02: the reading side (Model/ParserIO.lean) for **arbitrary byte streams**: bufio's fill loop,
`readRune` with its raw-byte fallback, `print`'s look-ahead (stops in front of an invalid byte), for any split into
reads and any cluster oracle.  The reads disappear: what is delivered is a function of the units
of the stream (`ParserUtf8.units`) — except for *how many* units a Print takes.
-/
import VaxisModel.Lemmas.ParserText
import VaxisModel.Lemmas.ParserUtf8

namespace VaxisModel.Lemmas.ParserTextU
open VaxisModel.Model.ParserTable VaxisModel.Model.Parser VaxisModel.Model.ParserIO VaxisModel.Model.ParserUtf8
open VaxisModel.Lemmas.Parser VaxisModel.Lemmas.ParserText VaxisModel.Lemmas.ParserUtf8

theorem fillLoop_gen (chunks : List (List Nat)) (buf : List Nat) :
    (fillLoop buf chunks).1 ++ (fillLoop buf chunks).2.flatten = buf ++ chunks.flatten ∧
    (fullRune (fillLoop buf chunks).1 = true ∨ 4 ≤ (fillLoop buf chunks).1.length ∨ (fillLoop buf chunks).2 = []) ∧
    (∃ x, (fillLoop buf chunks).1 = buf ++ x) ∧ (∃ k, (fillLoop buf chunks).2 = chunks.drop k) := by
  induction chunks generalizing buf with
  | nil => exact ⟨by simp [fillLoop], Or.inr (Or.inr (by simp [fillLoop])), ⟨[], by simp [fillLoop]⟩, ⟨0, by simp [fillLoop]⟩⟩
  | cons c cs ih =>
    by_cases hc : (decide (buf.length < 4) && !fullRune buf) = true
    · have hstep : fillLoop buf (c :: cs) = fillLoop (buf ++ c) cs := by simp only [fillLoop, hc, if_true]
      rw [hstep]
      obtain ⟨h1, h2, ⟨x, h3⟩, ⟨k, h4⟩⟩ := ih (buf ++ c)
      refine ⟨by rw [h1]; simp, h2, ⟨c ++ x, by rw [h3]; simp⟩, ⟨k + 1, by rw [h4]; simp⟩⟩
    · have hstep : fillLoop buf (c :: cs) = (buf, c :: cs) := by simp only [fillLoop, hc]; rfl
      rw [hstep]
      refine ⟨rfl, ?_, ⟨[], by simp⟩, ⟨0, by simp⟩⟩
      simp only [Bool.and_eq_true, decide_eq_true_eq, Bool.not_eq_eq_eq_not, Bool.not_true, not_and,
        Bool.not_eq_false] at hc
      by_cases hl : buf.length < 4
      · exact Or.inl (hc hl)
      · exact Or.inr (Or.inl (by show 4 ≤ buf.length; omega))

/-- `rd'` is `rd` with its buffer filled: the same bytes to come at the same offset, some reads moved into the
    buffer; the buffer decides what `utf8.DecodeRune` sees, and it is empty only at the end of the stream. -/
structure Filled (rd rd' : Rd) : Prop where
  bytes : bytesOf rd' = bytesOf rd
  pos : rd'.pos = rd.pos
  decode : decodeRune rd'.buf = decodeRune (bytesOf rd)
  nil : rd'.buf = [] → bytesOf rd = []
  buf : ∃ x, rd'.buf = rd.buf ++ x
  chunks : ∃ k, rd'.chunks = rd.chunks.drop k

theorem fill_spec (rd : Rd) : Filled rd rd.fill := by
  obtain ⟨h1, h2, h3, h4⟩ := fillLoop_gen rd.chunks rd.buf
  have hb : rd.fill.buf = (fillLoop rd.buf rd.chunks).1 := rfl
  have hc : rd.fill.chunks = (fillLoop rd.buf rd.chunks).2 := rfl
  have hbytes : bytesOf rd.fill = bytesOf rd := by simp only [bytesOf, hb, hc]; exact h1
  refine ⟨hbytes, rfl, ?_, ?_, by rw [hb]; exact h3, by rw [hc]; exact h4⟩
  · rw [← hbytes]
    simp only [bytesOf, hb, hc]
    rcases h2 with h | h | h
    · exact (decodeRune_stable _ _ (Or.inl h)).symm
    · exact (decodeRune_stable _ _ (Or.inr h)).symm
    · rw [h]; simp
  · intro he
    rw [← hbytes]
    rw [hb] at he
    rcases h2 with h | h | h
    · rw [he] at h; simp [fullRune] at h
    · rw [he] at h; simp at h
    · simp only [bytesOf, hb, hc, he, h]; rfl

theorem bytesOf_consume (rd : Rd) (n : Nat) (h : n ≤ rd.buf.length) :
    bytesOf (rd.consume n) = (bytesOf rd).drop n := by
  simp only [bytesOf, Rd.consume]
  rw [List.drop_append_of_le_length h]

/-- The reader has moved from `rd` to `rd'` over exactly the units `us` of the stream. -/
structure Adv (rd : Rd) (us : List U) (rd' : Rd) : Prop where
  units : units (bytesOf rd) = us ++ units (bytesOf rd')
  bytes : bytesOf rd' = (bytesOf rd).drop (ulen us)
  len : ulen us ≤ (bytesOf rd).length
  pos : rd'.pos = rd.pos + ulen us
  chunks : ∃ k, rd'.chunks = rd.chunks.drop k

theorem Adv.same {rd rd' : Rd} (hb : bytesOf rd' = bytesOf rd) (hp : rd'.pos = rd.pos)
    (hc : ∃ k, rd'.chunks = rd.chunks.drop k) : Adv rd [] rd' :=
  ⟨by rw [hb]; rfl, by rw [hb]; rfl, Nat.zero_le _, hp, hc⟩

theorem Filled.adv {rd rd' : Rd} (f : Filled rd rd') : Adv rd [] rd' := .same f.bytes f.pos f.chunks

theorem Adv.one {rd rd' : Rd} {b : Nat} {t : List Nat} (hbt : bytesOf rd = b :: t)
    (hb : bytesOf rd' = (b :: t).drop (unit1 (b :: t)).sz) (hp : rd'.pos = rd.pos + (unit1 (b :: t)).sz)
    (hc : ∃ k, rd'.chunks = rd.chunks.drop k) : Adv rd [unit1 (b :: t)] rd' := by
  have hs := unit1_sz b t
  refine ⟨by rw [hbt, units_cons, hb]; rfl, by rw [hb, hbt]; simp, ?_, by simpa using hp, hc⟩
  rw [hbt]; simp only [ulen_cons, ulen_nil, List.length_cons]; omega

theorem Adv.trans {rd rd1 rd2 : Rd} {us vs : List U} (a : Adv rd us rd1) (b : Adv rd1 vs rd2) :
    Adv rd (us ++ vs) rd2 := by
  obtain ⟨k1, h1⟩ := a.chunks
  obtain ⟨k2, h2⟩ := b.chunks
  have hl := b.len
  rw [a.bytes, List.length_drop] at hl
  refine ⟨by rw [a.units, b.units, List.append_assoc], by rw [b.bytes, a.bytes, List.drop_drop, ulen_append], ?_, ?_,
    ⟨k1 + k2, by rw [h2, h1, List.drop_drop]⟩⟩
  · have := a.len; rw [ulen_append]; omega
  · rw [b.pos, a.pos, ulen_append, Nat.add_assoc]

theorem Adv.length {rd rd' : Rd} {us : List U} (a : Adv rd us rd') :
    (bytesOf rd').length + ulen us = (bytesOf rd).length := by
  have := a.len; rw [a.bytes, List.length_drop]; omega

theorem Adv.mem {rd rd' : Rd} {us : List U} (a : Adv rd us rd') {x : Nat} (h : x ∈ bytesOf rd') : x ∈ bytesOf rd := by
  rw [a.bytes] at h; exact List.mem_of_mem_drop h

theorem fallback_flag : Gen.ParserTable.fallbackOnlyInvalid = true := rfl

/-- `Parser.readRune`, whatever the reads: `eof` exactly at the end of the stream; otherwise the
    `raw` reading of the first unit of what is still to come, and the reader has moved over that unit. -/
theorem readRune_spec (rd : Rd) :
    (bytesOf rd = [] → (readRune rd).1 = none) ∧
    (∀ b t, bytesOf rd = b :: t →
      (readRune rd).1 = some (unit1 (b :: t)).raw ∧ Adv rd [unit1 (b :: t)] (readRune rd).2) := by
  have f := fill_spec rd
  refine ⟨fun he => ?_, fun b t hbt => ?_⟩
  · have hb : rd.fill.buf = [] := by
      have : bytesOf rd.fill = [] := by rw [f.bytes, he]
      simp only [bytesOf, List.append_eq_nil_iff] at this
      exact this.1
    simp only [readRune, hb]
  · cases hb : rd.fill.buf with
    | nil => rw [f.nil hb] at hbt; cases hbt
    | cons b0 brest =>
      have hbytes : bytesOf rd.fill = b0 :: (brest ++ rd.fill.chunks.flatten) := by simp [bytesOf, hb]
      rw [f.bytes, hbt] at hbytes
      obtain ⟨rfl, _⟩ := List.cons.inj hbytes
      have hd : decodeRune (b :: brest) = decodeRune (b :: t) := by rw [← hb, f.decode, hbt]
      have hsz := decodeRune_sz b brest
      rw [hd, ← (unit1_look b t).2] at hsz
      -- either way the unit's `sz` bytes leave the buffer
      have a1 : Adv rd.fill [unit1 (b :: t)] (rd.fill.consume (unit1 (b :: t)).sz) :=
        .one (by rw [f.bytes, hbt]) (by rw [bytesOf_consume _ _ (by rw [hb]; exact hsz.2.1), f.bytes, hbt])
          (by simp [Rd.consume]) ⟨0, by simp [Rd.consume]⟩
      simp only [readRune, hb, hd, fallback_flag, Bool.not_true, Bool.or_false, unit1_test]
      cases hv : (unit1 (b :: t)).inv with
      | true =>
        have hu : unit1 (b :: t) = ⟨b, true, 1⟩ := by simp [unit1, (unit1_inv b t).mp hv]
        rw [hu] at a1
        simp only [if_true, hu]
        exact ⟨trivial, f.adv.trans a1⟩
      | false =>
        rw [(unit1_look b t).2] at a1
        simp only [Bool.false_eq_true, if_false, unit1_raw_valid b t hv]
        exact ⟨trivial, f.adv.trans a1⟩

theorem lookahead_flag : Gen.ParserTable.lookaheadStopsAtInvalid = true := rfl

/-- What `print`'s loop has done when it returns `res`: it has appended the next `k` units — all of them
    well-formed scalars, each as itself — and moved the reader over exactly those; it has not taken more
    than the oracle's cluster length allows, and it has stopped short of that only when the buffer was
    empty (a read boundary, or the end of the stream) or in front of an invalid byte, which it leaves to
    `readRune`. -/
abbrev Ahead (cl fuel : Nat) (rd : Rd) (acc : List Nat) (res : List Nat × Rd) : Prop :=
  ∃ us : List U, res.1 = acc ++ us.map U.raw ∧ Adv rd us res.2 ∧ us.length ≤ ulen us ∧ (∀ u ∈ us, u.inv = false) ∧
    (us ≠ [] → acc.length + us.length ≤ cl) ∧
    (cl ≤ acc.length + us.length ∨ res.2.buf = [] ∨ fuel ≤ us.length ∨
      ∃ u rest, units (bytesOf res.2) = u :: rest ∧ u.inv = true)

theorem Ahead.stay {cl fuel : Nat} {rd rd' : Rd} {acc : List Nat} (a : Adv rd [] rd')
    (h : cl ≤ acc.length + 0 ∨ rd'.buf = [] ∨ fuel ≤ 0 ∨ ∃ u rest, units (bytesOf rd') = u :: rest ∧ u.inv = true) :
    Ahead cl fuel rd acc (acc, rd') :=
  ⟨[], by simp, a, Nat.le_refl _, by simp, by simp, h⟩

theorem printLoop_spec (cl : Nat) (fuel : Nat) (rd : Rd) (acc : List Nat) :
    Ahead cl fuel rd acc (printLoop cl fuel rd acc) := by
  induction fuel generalizing rd acc with
  | zero => exact Ahead.stay (.same rfl rfl ⟨0, rfl⟩) (.inr (.inr (.inl (Nat.le_refl _))))
  | succ n ih =>
    simp only [printLoop]
    cases hb : rd.buf with
    | nil => exact Ahead.stay (.same rfl rfl ⟨0, rfl⟩) (.inr (.inl hb))
    | cons b0 brest =>
      have f := fill_spec rd
      simp only [List.isEmpty_cons, Bool.false_eq_true, if_false, lookahead_flag, Bool.true_and]
      have hbytes : bytesOf rd = b0 :: (brest ++ rd.chunks.flatten) := by simp [bytesOf, hb]
      generalize htl : brest ++ rd.chunks.flatten = t at hbytes
      have hlk := unit1_look b0 t
      have hd : decodeRune rd.fill.buf = decodeRune (b0 :: t) := by rw [f.decode, hbytes]
      rw [hd, unit1_test]
      cases hval : (unit1 (b0 :: t)).inv with
      | true =>
        -- invalid byte: leave it
        simp only [if_true]
        exact Ahead.stay f.adv (.inr (.inr (.inr ⟨unit1 (b0 :: t), units ((b0 :: t).drop (unit1 (b0 :: t)).sz),
          by rw [f.bytes, hbytes, units_cons], hval⟩)))
      | false =>
        simp only [Bool.false_eq_true, if_false]
        by_cases hcl : acc.length + 1 > cl
        · simp only [hcl, if_true]
          exact Ahead.stay f.adv (.inl (by omega))
        · simp only [hcl, if_false]
          obtain ⟨x, h5⟩ := f.buf
          have hfb : rd.fill.buf = b0 :: (brest ++ x) := by rw [h5, hb]; rfl
          have hsz := decodeRune_sz b0 (brest ++ x)
          rw [← hfb, hd] at hsz
          -- one unit taken, then the rest of the loop
          have a1 : Adv rd.fill [unit1 (b0 :: t)] (rd.fill.consume (decodeRune (b0 :: t)).2) :=
            .one (by rw [f.bytes, hbytes]) (by rw [bytesOf_consume _ _ hsz.2.1, f.bytes, hbytes, hlk.2])
              (by simp [Rd.consume, hlk.2]) ⟨0, by simp [Rd.consume]⟩
          obtain ⟨us, g1, g2, g3, g4, g5, g6⟩ :=
            ih (rd.fill.consume (decodeRune (b0 :: t)).2) (acc ++ [(decodeRune (b0 :: t)).1])
          have hs := (unit1_sz b0 t).1
          refine ⟨unit1 (b0 :: t) :: us, ?_, f.adv.trans (a1.trans g2), ?_, ?_, ?_, ?_⟩
          · rw [g1, ← unit1_raw_valid b0 t hval]; simp
          · simp only [ulen_cons, List.length_cons]; omega
          · intro u hu
            rcases List.mem_cons.mp hu with rfl | hu
            · exact hval
            · exact g4 u hu
          · intro _
            by_cases hne : us = []
            · subst hne; simp only [List.length_cons, List.length_nil]; omega
            · have := g5 hne
              simp only [List.length_append, List.length_cons, List.length_nil] at this ⊢
              omega
          · simp only [List.length_append, List.length_cons, List.length_nil] at g6 ⊢
            rcases g6 with h | h | h | h
            · exact Or.inl (by omega)
            · exact Or.inr (Or.inl h)
            · exact Or.inr (Or.inr (Or.inl (by omega)))
            · exact Or.inr (Or.inr (Or.inr h))

/-- One Print: `print` called with the rune `readRune` delivered, as `deliver` calls it.  The grapheme
    is that rune followed by the next `k` units, each a well-formed scalar; the reader has moved over
    exactly those; `1 + k` is at most the oracle's cluster length, and less only if the buffer is empty
    afterwards or the next unit is an invalid byte. -/
theorem print_ahead {cl r : Nat} {rd rd' : Rd} {g : List Nat}
    (h : printLoop (max 1 cl) (rd.remaining + 1) rd [r] = (g, rd')) :
    ∃ us : List U, g = r :: us.map U.raw ∧ Adv rd us rd' ∧ (∀ u ∈ us, u.inv = false) ∧ 1 + us.length ≤ max 1 cl ∧
      (1 + us.length = max 1 cl ∨ rd'.buf = [] ∨ ∃ u rest, units (bytesOf rd') = u :: rest ∧ u.inv = true) := by
  obtain ⟨us, g1, g2, g3, g4, g5, g6⟩ := printLoop_spec (max 1 cl) (rd.remaining + 1) rd [r]
  rw [h] at g1 g2 g6
  have hle : 1 + us.length ≤ max 1 cl := by
    by_cases hne : us = []
    · subst hne; simp only [List.length_nil]; omega
    · have := g5 hne; simp only [List.length_cons, List.length_nil] at this; omega
  refine ⟨us, by simpa using g1, g2, g4, hle, ?_⟩
  simp only [List.length_cons, List.length_nil] at g6
  have hrem := remaining_eq rd
  have := g2.len
  rcases g6 with h | h | h | h
  · exact .inl (by omega)
  · exact .inr (.inl h)
  · exfalso; omega
  · exact .inr (.inr h)

end VaxisModel.Lemmas.ParserTextU
