/-
C02: lemmas about the UTF-8 model (`ParserIO.decodeRune`/`fullRune` = Go's `utf8.DecodeRune` / `utf8.FullRune`;
`ParserUtf8.encodeRune`, `units`, `decodeRunes`).  Table 3-7 of the Unicode standard enters once, as the rows `Row3`/`Row4`
read off `lead`.  A sequence is handled through its payload digits (a scalar, its own encoding, decoded as such: `seq2/3/4`),
and a sequence that fits a row is of that form (`wf2/3/4`); decode ∘ encode and what an invalid unit is follow without a
case analysis over byte ranges.
-/
import VaxisModel.Model.ParserUtf8

namespace VaxisModel.Lemmas.ParserUtf8
open VaxisModel.Model.Parser VaxisModel.Model.ParserIO VaxisModel.Model.ParserUtf8

/-- Rows of Table 3-7 with a three-byte lead: the range of the second byte. -/
def Row3 (b lo hi : Nat) : Prop :=
  (b = 0xE0 ∧ lo = 0xA0 ∧ hi = 0xBF) ∨ (0xE1 ≤ b ∧ b ≤ 0xEC ∧ lo = 0x80 ∧ hi = 0xBF) ∨
  (b = 0xED ∧ lo = 0x80 ∧ hi = 0x9F) ∨ (0xEE ≤ b ∧ b ≤ 0xEF ∧ lo = 0x80 ∧ hi = 0xBF)

/-- … and with a four-byte lead. -/
def Row4 (b lo hi : Nat) : Prop :=
  (b = 0xF0 ∧ lo = 0x90 ∧ hi = 0xBF) ∨ (0xF1 ≤ b ∧ b ≤ 0xF3 ∧ lo = 0x80 ∧ hi = 0xBF) ∨
  (b = 0xF4 ∧ lo = 0x80 ∧ hi = 0x8F)

/-- What the arithmetic needs of a row (as a conjunction: `omega` does not have to look at the rows one
    by one): the lead's range, and the second bytes a row leaves out — overlong forms, surrogates. -/
theorem Row3.bounds {b lo hi : Nat} (h : Row3 b lo hi) :
    0xE0 ≤ b ∧ b ≤ 0xEF ∧ 0x80 ≤ lo ∧ hi ≤ 0xBF ∧ (b = 0xE0 → 0xA0 ≤ lo) ∧ (b = 0xED → hi ≤ 0x9F) := by
  unfold Row3 at h; omega

/-- … overlong forms, values above U+10FFFF. -/
theorem Row4.bounds {b lo hi : Nat} (h : Row4 b lo hi) :
    0xF0 ≤ b ∧ b ≤ 0xF4 ∧ 0x80 ≤ lo ∧ hi ≤ 0xBF ∧ (b = 0xF0 → 0x90 ≤ lo) ∧ (b = 0xF4 → hi ≤ 0x8F) := by
  unfold Row4 at h; omega

/-- Table 3-7 as `lead` holds it: lead bytes by announced size, with the range of the second byte. -/
theorem lead_char {b sz lo hi : Nat} (h : lead b = some (sz, lo, hi)) :
    (sz = 2 ∧ 0xC2 ≤ b ∧ b ≤ 0xDF ∧ lo = 0x80 ∧ hi = 0xBF) ∨ (sz = 3 ∧ Row3 b lo hi) ∨ (sz = 4 ∧ Row4 b lo hi) := by
  unfold Row3 Row4
  unfold lead at h
  by_cases h1 : 0xC2 ≤ b ∧ b ≤ 0xDF
  · rw [if_pos h1] at h; cases h; exact .inl ⟨rfl, h1.1, h1.2, rfl, rfl⟩
  rw [if_neg h1] at h
  by_cases h2 : b = 0xE0
  · rw [if_pos h2] at h; cases h; exact .inr (.inl ⟨rfl, .inl ⟨h2, rfl, rfl⟩⟩)
  rw [if_neg h2] at h
  by_cases h3 : 0xE1 ≤ b ∧ b ≤ 0xEC
  · rw [if_pos h3] at h; cases h; exact .inr (.inl ⟨rfl, .inr (.inl ⟨h3.1, h3.2, rfl, rfl⟩)⟩)
  rw [if_neg h3] at h
  by_cases h4 : b = 0xED
  · rw [if_pos h4] at h; cases h; exact .inr (.inl ⟨rfl, .inr (.inr (.inl ⟨h4, rfl, rfl⟩))⟩)
  rw [if_neg h4] at h
  by_cases h5 : 0xEE ≤ b ∧ b ≤ 0xEF
  · rw [if_pos h5] at h; cases h; exact .inr (.inl ⟨rfl, .inr (.inr (.inr ⟨h5.1, h5.2, rfl, rfl⟩))⟩)
  rw [if_neg h5] at h
  by_cases h6 : b = 0xF0
  · rw [if_pos h6] at h; cases h; exact .inr (.inr ⟨rfl, .inl ⟨h6, rfl, rfl⟩⟩)
  rw [if_neg h6] at h
  by_cases h7 : 0xF1 ≤ b ∧ b ≤ 0xF3
  · rw [if_pos h7] at h; cases h; exact .inr (.inr ⟨rfl, .inr (.inl ⟨h7.1, h7.2, rfl, rfl⟩)⟩)
  rw [if_neg h7] at h
  by_cases h8 : b = 0xF4
  · rw [if_pos h8] at h; cases h; exact .inr (.inr ⟨rfl, .inr (.inr ⟨h8, rfl, rfl⟩)⟩)
  rw [if_neg h8] at h
  cases h

theorem lead_some {b sz lo hi : Nat} (h : lead b = some (sz, lo, hi)) :
    (sz = 2 ∨ sz = 3 ∨ sz = 4) ∧ 0x80 ≤ lo ∧ hi ≤ 0xBF ∧ lo ≤ hi ∧ 0xC2 ≤ b ∧ b ≤ 0xF4 := by
  have := lead_char h; unfold Row3 Row4 at this; omega

theorem lead_ge {b0 sz lo hi : Nat} (hl : lead b0 = some (sz, lo, hi)) : ¬ b0 < 0x80 := by
  have := lead_some hl; omega

theorem decodeRune_short {b0 sz lo hi : Nat} (hl : lead b0 = some (sz, lo, hi)) (rest : List Nat)
    (h : rest.length + 1 < sz) : decodeRune (b0 :: rest) = (runeError, 1) := by
  cases rest with
  | nil => simp only [decodeRune, lead_ge hl, hl, if_false]
  | cons b1 t => simp only [decodeRune, lead_ge hl, hl, h, if_false, if_true]

theorem decodeRune_bad1 {b0 sz lo hi b1 : Nat} (hl : lead b0 = some (sz, lo, hi)) (hb : b1 < lo ∨ hi < b1)
    (t : List Nat) : decodeRune (b0 :: b1 :: t) = (runeError, 1) := by
  simp only [decodeRune, lead_ge hl, hl, hb, if_false, if_true, ite_self]

theorem decodeRune_bad2 {b0 sz lo hi b2 : Nat} (hl : lead b0 = some (sz, lo, hi)) (hsz : sz ≠ 2)
    (hb : isCont b2 = false) (b1 : Nat) (t : List Nat) : decodeRune (b0 :: b1 :: b2 :: t) = (runeError, 1) := by
  simp only [decodeRune, lead_ge hl, hl, hsz, hb, if_false, if_true, ite_self, Bool.not_false]

theorem decodeRune_two {b0 lo hi : Nat} (hl : lead b0 = some (2, lo, hi)) (b1 : Nat) (t : List Nat) :
    decodeRune (b0 :: b1 :: t) =
      if b1 < lo ∨ hi < b1 then (runeError, 1) else ((b0 % 32) * 64 + b1 % 64, 2) := by
  have hlen : ¬ (b1 :: t).length + 1 < 2 := by simp only [List.length_cons]; omega
  simp only [decodeRune, lead_ge hl, hl, hlen, if_false, if_true]

theorem decodeRune_three {b0 lo hi : Nat} (hl : lead b0 = some (3, lo, hi)) (b1 b2 : Nat) (t : List Nat) :
    decodeRune (b0 :: b1 :: b2 :: t) =
      if b1 < lo ∨ hi < b1 then (runeError, 1) else if !isCont b2 then (runeError, 1)
      else ((b0 % 16) * 4096 + (b1 % 64) * 64 + b2 % 64, 3) := by
  have hlen : ¬ (b1 :: b2 :: t).length + 1 < 3 := by simp only [List.length_cons]; omega
  simp only [decodeRune, lead_ge hl, hl, hlen, if_false, if_true, show ¬ (3 = 2) by omega]

theorem decodeRune_four {b0 lo hi : Nat} (hl : lead b0 = some (4, lo, hi)) (b1 b2 b3 : Nat) (t : List Nat) :
    decodeRune (b0 :: b1 :: b2 :: b3 :: t) =
      if b1 < lo ∨ hi < b1 then (runeError, 1) else if !isCont b2 then (runeError, 1)
      else if !isCont b3 then (runeError, 1)
      else ((b0 % 8) * 262144 + (b1 % 64) * 4096 + (b2 % 64) * 64 + b3 % 64, 4) := by
  have hlen : ¬ (b1 :: b2 :: b3 :: t).length + 1 < 4 := by simp only [List.length_cons]; omega
  simp only [decodeRune, lead_ge hl, hl, hlen, if_false, show ¬ (4 = 2) by omega, show ¬ (4 = 3) by omega]

/-- bufio's fill loop stops when `utf8.FullRune` holds (or 4 bytes are buffered): from then on
    `utf8.DecodeRune` does not depend on what follows. -/
theorem decodeRune_stable (p q : List Nat) (h : fullRune p = true ∨ 4 ≤ p.length) :
    decodeRune (p ++ q) = decodeRune p := by
  rcases p with _ | ⟨b0, rest⟩
  · simp [fullRune] at h
  by_cases h0 : b0 < 0x80
  · simp only [List.cons_append, decodeRune, h0, if_true]
  cases hl : lead b0 with
  | none => simp only [List.cons_append, decodeRune, h0, hl, if_false]
  | some x =>
    obtain ⟨sz, lo, hi⟩ := x
    have hs := (lead_some hl).1
    simp only [fullRune, h0, hl, if_false, List.length_cons, List.cons_append] at h ⊢
    by_cases hlen : rest.length + 1 ≥ sz
    · -- all announced bytes are there: both sides look at the same bytes
      rcases hs with rfl | rfl | rfl
      · rcases rest with _ | ⟨b1, t⟩
        · simp at hlen
        · rw [List.cons_append, decodeRune_two hl, decodeRune_two hl]
      · rcases rest with _ | ⟨b1, _ | ⟨b2, t⟩⟩
        · simp at hlen
        · simp at hlen
        · rw [List.cons_append, List.cons_append, decodeRune_three hl, decodeRune_three hl]
      · rcases rest with _ | ⟨b1, _ | ⟨b2, _ | ⟨b3, t⟩⟩⟩
        · simp at hlen
        · simp at hlen
        · simp at hlen
        · rw [List.cons_append, List.cons_append, List.cons_append, decodeRune_four hl, decodeRune_four hl]
    · -- too few: `FullRune` holds because a byte already there is wrong
      rw [decodeRune_short hl rest (by omega)]
      simp only [hlen, if_false] at h
      rcases h with h | h
      · rcases rest with _ | ⟨b1, rest1⟩
        · cases h
        · by_cases hb : b1 < lo ∨ hi < b1
          · exact decodeRune_bad1 hl hb _
          · simp only [hb, if_false] at h
            rcases rest1 with _ | ⟨b2, t⟩
            · cases h
            · simp only [List.length_cons] at hlen
              exact decodeRune_bad2 hl (by omega) (by simpa using h) b1 _
      · omega

/-- Whatever `utf8.DecodeRune` returns other than the error is one of four shapes. -/
theorem decodeRune_inv (b0 : Nat) (rest : List Nat) :
    decodeRune (b0 :: rest) = (runeError, 1) ∨ (b0 < 0x80 ∧ decodeRune (b0 :: rest) = (b0, 1)) ∨
    (∃ b1 t, (0xC2 ≤ b0 ∧ b0 ≤ 0xDF) ∧ rest = b1 :: t ∧ (0x80 ≤ b1 ∧ b1 ≤ 0xBF) ∧
      decodeRune (b0 :: rest) = ((b0 % 32) * 64 + b1 % 64, 2)) ∨
    (∃ lo hi b1 b2 t, Row3 b0 lo hi ∧ rest = b1 :: b2 :: t ∧ (lo ≤ b1 ∧ b1 ≤ hi) ∧
      isCont b2 = true ∧ decodeRune (b0 :: rest) = ((b0 % 16) * 4096 + (b1 % 64) * 64 + b2 % 64, 3)) ∨
    (∃ lo hi b1 b2 b3 t, Row4 b0 lo hi ∧ rest = b1 :: b2 :: b3 :: t ∧ (lo ≤ b1 ∧ b1 ≤ hi) ∧
      isCont b2 = true ∧ isCont b3 = true ∧
      decodeRune (b0 :: rest) = ((b0 % 8) * 262144 + (b1 % 64) * 4096 + (b2 % 64) * 64 + b3 % 64, 4)) := by
  by_cases h0 : b0 < 0x80
  · exact .inr (.inl ⟨h0, by simp only [decodeRune, h0, if_true]⟩)
  cases hl : lead b0 with
  | none => exact .inl (by simp only [decodeRune, h0, hl, if_false])
  | some x =>
    obtain ⟨sz, lo, hi⟩ := x
    by_cases hlen : rest.length + 1 < sz
    · exact .inl (decodeRune_short hl rest hlen)
    rcases lead_char hl with ⟨rfl, l⟩ | ⟨rfl, l⟩ | ⟨rfl, l⟩
    · rcases rest with _ | ⟨b1, t⟩
      · simp at hlen
      by_cases hb : b1 < lo ∨ hi < b1
      · exact .inl (decodeRune_bad1 hl hb t)
      exact .inr (.inr (.inl ⟨b1, t, ⟨l.1, l.2.1⟩, rfl, by omega, by rw [decodeRune_two hl, if_neg hb]⟩))
    · rcases rest with _ | ⟨b1, _ | ⟨b2, t⟩⟩
      · simp at hlen
      · simp at hlen
      by_cases hb : b1 < lo ∨ hi < b1
      · exact .inl (decodeRune_bad1 hl hb _)
      cases hc : isCont b2 with
      | false => exact .inl (decodeRune_bad2 hl (by omega) hc b1 t)
      | true =>
        exact .inr (.inr (.inr (.inl ⟨lo, hi, b1, b2, t, l, rfl, by omega, hc, by
          simp only [decodeRune_three hl, hb, hc, if_false, Bool.not_true, Bool.false_eq_true]⟩)))
    · rcases rest with _ | ⟨b1, _ | ⟨b2, _ | ⟨b3, t⟩⟩⟩
      · simp at hlen
      · simp at hlen
      · simp at hlen
      by_cases hb : b1 < lo ∨ hi < b1
      · exact .inl (decodeRune_bad1 hl hb _)
      cases hc : isCont b2 with
      | false => exact .inl (decodeRune_bad2 hl (by omega) hc b1 _)
      | true =>
        cases hc3 : isCont b3 with
        | false =>
          exact .inl (by simp only [decodeRune_four hl, hb, hc, hc3, if_false, if_true, Bool.not_true,
            Bool.not_false, Bool.false_eq_true])
        | true =>
          exact .inr (.inr (.inr (.inr ⟨lo, hi, b1, b2, b3, t, l, rfl, by omega, hc, hc3, by
            simp only [decodeRune_four hl, hb, hc, hc3, if_false, Bool.not_true, Bool.false_eq_true]⟩)))

theorem decodeRune_sz (b : Nat) (t : List Nat) :
    1 ≤ (decodeRune (b :: t)).2 ∧ (decodeRune (b :: t)).2 ≤ (b :: t).length ∧ (decodeRune (b :: t)).2 ≤ 4 := by
  rcases decodeRune_inv b t with e | ⟨_, e⟩ | ⟨_, _, _, rfl, _, e⟩ | ⟨_, _, _, _, _, _, rfl, _, _, e⟩ |
    ⟨_, _, _, _, _, _, _, rfl, _, _, _, e⟩ <;> rw [e] <;> simp only [List.length_cons] <;> omega

theorem unit1_sz (b : Nat) (t : List Nat) :
    1 ≤ (unit1 (b :: t)).sz ∧ (unit1 (b :: t)).sz ≤ t.length + 1 ∧ (unit1 (b :: t)).sz ≤ 4 := by
  have := decodeRune_sz b t
  unfold unit1
  split
  · simp
  · simpa using this

theorem unit1_look (b : Nat) (t : List Nat) :
    (unit1 (b :: t)).look = (decodeRune (b :: t)).1 ∧ (unit1 (b :: t)).sz = (decodeRune (b :: t)).2 := by
  unfold unit1 U.look
  split
  · rename_i h; simp [h.1, h.2]
  · simp

theorem unit1_inv (b : Nat) (t : List Nat) :
    (unit1 (b :: t)).inv = true ↔ ((decodeRune (b :: t)).1 = runeError ∧ (decodeRune (b :: t)).2 = 1) := by
  unfold unit1
  split
  · rename_i h; simp [h.1, h.2]
  · rename_i h; simp only [Bool.false_eq_true, false_iff]; exact h

/-- The test `readRune` and `print`'s look-ahead make on what `utf8.DecodeRune` returns is `inv` of the first unit. -/
theorem unit1_test (b : Nat) (t : List Nat) :
    (decide ((decodeRune (b :: t)).1 = runeError) && decide ((decodeRune (b :: t)).2 = 1)) = (unit1 (b :: t)).inv := by
  cases h : (unit1 (b :: t)).inv with
  | true => simp [(unit1_inv b t).mp h]
  | false =>
    have := mt (unit1_inv b t).mpr (by simp [h])
    simp only [Bool.and_eq_false_iff, decide_eq_false_iff_not]
    by_cases h1 : (decodeRune (b :: t)).1 = runeError
    · exact .inr fun h2 => this ⟨h1, h2⟩
    · exact .inl h1

theorem unit1_raw_valid (b : Nat) (t : List Nat) (h : (unit1 (b :: t)).inv = false) :
    (unit1 (b :: t)).raw = (decodeRune (b :: t)).1 := by
  have := (unit1_look b t).1
  simp only [U.look, h, Bool.false_eq_true, if_false] at this
  exact this

@[simp] theorem ulen_nil : ulen [] = 0 := rfl
@[simp] theorem ulen_cons (u : U) (us : List U) : ulen (u :: us) = u.sz + ulen us := by simp [ulen]
@[simp] theorem ulen_append (us vs : List U) : ulen (us ++ vs) = ulen us + ulen vs := by simp [ulen]

theorem unitsF_fuel (f g : Nat) (bs : List Nat) (hf : bs.length ≤ f) (hg : bs.length ≤ g) :
    unitsF f bs = unitsF g bs := by
  induction f generalizing g bs with
  | zero =>
    have : bs = [] := List.eq_nil_of_length_eq_zero (by omega)
    subst this
    cases g <;> rfl
  | succ f ih =>
    cases bs with
    | nil => cases g <;> rfl
    | cons b t =>
      cases g with
      | zero => simp at hg
      | succ g =>
        simp only [unitsF]
        have hs := unit1_sz b t
        have hl : ((b :: t).drop (unit1 (b :: t)).sz).length ≤ t.length := by
          simp only [List.length_drop, List.length_cons]; omega
        simp only [List.length_cons] at hf hg
        rw [ih g _ (by omega) (by omega)]

@[simp] theorem units_nil : units [] = [] := rfl

theorem units_cons (b : Nat) (t : List Nat) :
    units (b :: t) = unit1 (b :: t) :: units ((b :: t).drop (unit1 (b :: t)).sz) := by
  have hs := unit1_sz b t
  show unitsF (t.length + 1) (b :: t) = _
  simp only [unitsF, units]
  congr 1
  apply unitsF_fuel
  · simp only [List.length_drop, List.length_cons]; omega
  · exact Nat.le_refl _

theorem units_eq_nil (bs : List Nat) : units bs = [] ↔ bs = [] := by
  cases bs with
  | nil => simp
  | cons b t => simp [units_cons]

theorem decodeRune_wf2 (b0 b1 : Nat) (rest : List Nat) (lo hi : Nat) (hl : lead b0 = some (2, lo, hi))
    (h1 : lo ≤ b1 ∧ b1 ≤ hi) : decodeRune (b0 :: b1 :: rest) = ((b0 % 32) * 64 + b1 % 64, 2) := by
  rw [decodeRune_two hl, if_neg (by omega)]

theorem decodeRune_wf3 (b0 b1 b2 : Nat) (rest : List Nat) (lo hi : Nat) (hl : lead b0 = some (3, lo, hi))
    (h1 : lo ≤ b1 ∧ b1 ≤ hi) (h2 : isCont b2 = true) :
    decodeRune (b0 :: b1 :: b2 :: rest) = ((b0 % 16) * 4096 + (b1 % 64) * 64 + b2 % 64, 3) := by
  rw [decodeRune_three hl, if_neg (by omega), h2]; rfl

theorem decodeRune_wf4 (b0 b1 b2 b3 : Nat) (rest : List Nat) (lo hi : Nat) (hl : lead b0 = some (4, lo, hi))
    (h1 : lo ≤ b1 ∧ b1 ≤ hi) (h2 : isCont b2 = true) (h3 : isCont b3 = true) :
    decodeRune (b0 :: b1 :: b2 :: b3 :: rest) =
      ((b0 % 8) * 262144 + (b1 % 64) * 4096 + (b2 % 64) * 64 + b3 % 64, 4) := by
  rw [decodeRune_four hl, if_neg (by omega), h2, h3]; rfl

theorem isCont_iff (b : Nat) : isCont b = true ↔ 0x80 ≤ b ∧ b ≤ 0xBF := by simp [isCont]

/-- `lead` on the lead bytes `utf8.EncodeRune` writes (evaluated: the table is finite). -/
theorem lead_enc2 : ∀ x < 32, 2 ≤ x → lead (0xC0 + x) = some (2, 0x80, 0xBF) := by decide
theorem lead_enc3 : ∀ x < 16,
    lead (0xE0 + x) = some (3, if x = 0 then 0xA0 else 0x80, if x = 13 then 0x9F else 0xBF) := by decide
theorem lead_enc4 : ∀ x < 5,
    lead (0xF0 + x) = some (4, if x = 0 then 0x90 else 0x80, if x = 4 then 0x8F else 0xBF) := by decide

theorem digit64 (hi lo : Nat) (h : lo < 64) : (hi * 64 + lo) / 64 = hi ∧ (hi * 64 + lo) % 64 = lo := by
  constructor
  · rw [Nat.add_comm, Nat.add_mul_div_right _ _ (by decide), Nat.div_eq_of_lt h, Nat.zero_add]
  · rw [Nat.add_comm, Nat.add_mul_mod_self_right, Nat.mod_eq_of_lt h]

theorem digits3 (y x1 x2 : Nat) (h1 : x1 < 64) (h2 : x2 < 64) :
    (y * 4096 + x1 * 64 + x2) / 4096 = y ∧ (y * 4096 + x1 * 64 + x2) / 64 % 64 = x1 ∧
    (y * 4096 + x1 * 64 + x2) % 64 = x2 := by
  have e : y * 4096 + x1 * 64 + x2 = (y * 64 + x1) * 64 + x2 := by omega
  rw [e, ← Nat.div_div_eq_div_mul _ 64 64, (digit64 _ x2 h2).1, (digit64 _ x2 h2).2, (digit64 y x1 h1).1, (digit64 y x1 h1).2]
  exact ⟨rfl, rfl, rfl⟩

theorem digits4 (y x1 x2 x3 : Nat) (h1 : x1 < 64) (h2 : x2 < 64) (h3 : x3 < 64) :
    (y * 262144 + x1 * 4096 + x2 * 64 + x3) / 262144 = y ∧ (y * 262144 + x1 * 4096 + x2 * 64 + x3) / 4096 % 64 = x1 ∧
    (y * 262144 + x1 * 4096 + x2 * 64 + x3) / 64 % 64 = x2 ∧ (y * 262144 + x1 * 4096 + x2 * 64 + x3) % 64 = x3 := by
  have e : y * 262144 + x1 * 4096 + x2 * 64 + x3 = (y * 4096 + x1 * 64 + x2) * 64 + x3 := by omega
  obtain ⟨d1, d2, d3⟩ := digits3 y x1 x2 h1 h2
  have q := (digit64 (y * 4096 + x1 * 64 + x2) x3 h3).1
  rw [e]
  refine ⟨?_, ?_, ?_, (digit64 _ x3 h3).2⟩
  · show _ / (64 * 4096) = y
    rw [← Nat.div_div_eq_div_mul, q, d1]
  · show _ / (64 * 64) % 64 = x1
    rw [← Nat.div_div_eq_div_mul, q, d2]
  · rw [q, d3]

/-- The masks of `utf8.DecodeRune` take the marker bits off. -/
theorem mask (x : Nat) : (x < 64 → (0x80 + x) % 64 = x) ∧ (x < 32 → (0xC0 + x) % 32 = x) ∧
    (x < 16 → (0xE0 + x) % 16 = x) ∧ (x < 8 → (0xF0 + x) % 8 = x) := by omega

theorem seq2 (y x1 : Nat) (hy : 2 ≤ y ∧ y < 32) (h1 : x1 < 64) :
    IsScalar (y * 64 + x1) ∧ encodeRune (y * 64 + x1) = [0xC0 + y, 0x80 + x1] ∧
    ∀ rest, decodeRune ((0xC0 + y) :: (0x80 + x1) :: rest) = (y * 64 + x1, 2) := by
  have hlo : 0x80 ≤ y * 64 + x1 := by omega
  have hhi : y * 64 + x1 < 0x800 := by omega
  refine ⟨.inl (by omega), ?_, fun rest => ?_⟩
  · unfold encodeRune
    rw [if_neg (Nat.not_lt.mpr hlo), if_pos hhi, (digit64 y x1 h1).1, (digit64 y x1 h1).2]
  · rw [decodeRune_wf2 _ _ _ _ _ (lead_enc2 y hy.2 hy.1) (by omega), (mask y).2.1 hy.2, (mask x1).1 h1]

/-- `hov`: no overlong form; `hsur`: no surrogate. -/
theorem seq3 (y x1 x2 : Nat) (hy : y < 16) (h1 : x1 < 64) (h2 : x2 < 64)
    (hov : y = 0 → 32 ≤ x1) (hsur : y = 13 → x1 < 32) :
    IsScalar (y * 4096 + x1 * 64 + x2) ∧
    encodeRune (y * 4096 + x1 * 64 + x2) = [0xE0 + y, 0x80 + x1, 0x80 + x2] ∧
    ∀ rest, decodeRune ((0xE0 + y) :: (0x80 + x1) :: (0x80 + x2) :: rest) = (y * 4096 + x1 * 64 + x2, 3) := by
  have hlo : 0x800 ≤ y * 4096 + x1 * 64 + x2 := by omega
  have hhi : y * 4096 + x1 * 64 + x2 < 0x10000 := by omega
  have hsc : IsScalar (y * 4096 + x1 * 64 + x2) := by unfold IsScalar; omega
  have hb : (if y = 0 then 0xA0 else 0x80) ≤ 0x80 + x1 ∧ 0x80 + x1 ≤ (if y = 13 then 0x9F else 0xBF) := by
    refine ⟨?_, ?_⟩ <;> split <;> omega
  obtain ⟨d1, d2, d3⟩ := digits3 y x1 x2 h1 h2
  refine ⟨hsc, ?_, fun rest => ?_⟩
  · unfold encodeRune
    rw [if_neg (Nat.not_lt.mpr (Nat.le_trans (by decide) hlo)), if_neg (Nat.not_lt.mpr hlo), if_pos hhi, d1, d2, d3]
  · rw [decodeRune_wf3 _ _ _ _ _ _ (lead_enc3 y hy) hb ((isCont_iff _).mpr (by omega)), (mask y).2.2.1 hy,
      (mask x1).1 h1, (mask x2).1 h2]

/-- `hov`: no overlong form; `hmax`: nothing above U+10FFFF. -/
theorem seq4 (y x1 x2 x3 : Nat) (hy : y < 5) (h1 : x1 < 64) (h2 : x2 < 64) (h3 : x3 < 64)
    (hov : y = 0 → 16 ≤ x1) (hmax : y = 4 → x1 < 16) :
    IsScalar (y * 262144 + x1 * 4096 + x2 * 64 + x3) ∧
    encodeRune (y * 262144 + x1 * 4096 + x2 * 64 + x3) = [0xF0 + y, 0x80 + x1, 0x80 + x2, 0x80 + x3] ∧
    ∀ rest, decodeRune ((0xF0 + y) :: (0x80 + x1) :: (0x80 + x2) :: (0x80 + x3) :: rest) =
      (y * 262144 + x1 * 4096 + x2 * 64 + x3, 4) := by
  have hlo : 0x10000 ≤ y * 262144 + x1 * 4096 + x2 * 64 + x3 := by omega
  have hsc : IsScalar (y * 262144 + x1 * 4096 + x2 * 64 + x3) := by unfold IsScalar; omega
  have hb : (if y = 0 then 0x90 else 0x80) ≤ 0x80 + x1 ∧ 0x80 + x1 ≤ (if y = 4 then 0x8F else 0xBF) := by
    refine ⟨?_, ?_⟩ <;> split <;> omega
  obtain ⟨d1, d2, d3, d4⟩ := digits4 y x1 x2 x3 h1 h2 h3
  refine ⟨hsc, ?_, fun rest => ?_⟩
  · unfold encodeRune
    rw [if_neg (Nat.not_lt.mpr (Nat.le_trans (by decide) hlo)), if_neg (Nat.not_lt.mpr (Nat.le_trans (by decide) hlo)),
      if_neg (Nat.not_lt.mpr hlo), d1, d2, d3, d4]
  · rw [decodeRune_wf4 _ _ _ _ _ _ _ (lead_enc4 y hy) hb ((isCont_iff _).mpr (by omega)) ((isCont_iff _).mpr (by omega)),
      (mask y).2.2.2 (by omega), (mask x1).1 h1, (mask x2).1 h2, (mask x3).1 h3]

theorem wf2 {b0 b1 : Nat} (h0 : 0xC2 ≤ b0 ∧ b0 ≤ 0xDF) (h1 : 0x80 ≤ b1 ∧ b1 ≤ 0xBF) :
    ∃ v, b0 % 32 * 64 + b1 % 64 = v ∧ (b0 - 0xC0) * 64 + (b1 - 0x80) = v ∧ IsScalar v ∧ encodeRune v = [b0, b1] := by
  obtain ⟨y, rfl⟩ := Nat.exists_eq_add_of_le (Nat.le_trans (by decide : 0xC0 ≤ 0xC2) h0.1)
  obtain ⟨x1, rfl⟩ := Nat.exists_eq_add_of_le h1.1
  have hy : 2 ≤ y ∧ y < 32 := by omega
  have hx : x1 < 64 := by omega
  rw [Nat.add_sub_cancel_left, Nat.add_sub_cancel_left, (mask y).2.1 hy.2, (mask x1).1 hx]
  exact ⟨_, rfl, rfl, (seq2 y x1 hy hx).1, (seq2 y x1 hy hx).2.1⟩

theorem wf3 {b0 b1 b2 lo hi : Nat} (h : Row3 b0 lo hi) (h1 : lo ≤ b1 ∧ b1 ≤ hi) (h2 : 0x80 ≤ b2 ∧ b2 ≤ 0xBF) :
    ∃ v, b0 % 16 * 4096 + b1 % 64 * 64 + b2 % 64 = v ∧ (b0 - 0xE0) * 4096 + (b1 - 0x80) * 64 + (b2 - 0x80) = v ∧
      IsScalar v ∧ encodeRune v = [b0, b1, b2] := by
  have hb := h.bounds
  clear h
  obtain ⟨y, rfl⟩ := Nat.exists_eq_add_of_le hb.1
  obtain ⟨x1, rfl⟩ := Nat.exists_eq_add_of_le (Nat.le_trans hb.2.2.1 h1.1)
  obtain ⟨x2, rfl⟩ := Nat.exists_eq_add_of_le h2.1
  have hy : y < 16 := by omega
  have hx1 : x1 < 64 := by omega
  have hx2 : x2 < 64 := by omega
  have := seq3 y x1 x2 hy hx1 hx2 (by omega) (by omega)
  rw [Nat.add_sub_cancel_left, Nat.add_sub_cancel_left, Nat.add_sub_cancel_left, (mask y).2.2.1 hy, (mask x1).1 hx1,
    (mask x2).1 hx2]
  exact ⟨_, rfl, rfl, this.1, this.2.1⟩

theorem wf4 {b0 b1 b2 b3 lo hi : Nat} (h : Row4 b0 lo hi) (h1 : lo ≤ b1 ∧ b1 ≤ hi) (h2 : 0x80 ≤ b2 ∧ b2 ≤ 0xBF)
    (h3 : 0x80 ≤ b3 ∧ b3 ≤ 0xBF) :
    ∃ v, b0 % 8 * 262144 + b1 % 64 * 4096 + b2 % 64 * 64 + b3 % 64 = v ∧
      (b0 - 0xF0) * 262144 + (b1 - 0x80) * 4096 + (b2 - 0x80) * 64 + (b3 - 0x80) = v ∧
      IsScalar v ∧ encodeRune v = [b0, b1, b2, b3] := by
  have hb := h.bounds
  clear h
  obtain ⟨y, rfl⟩ := Nat.exists_eq_add_of_le hb.1
  obtain ⟨x1, rfl⟩ := Nat.exists_eq_add_of_le (Nat.le_trans hb.2.2.1 h1.1)
  obtain ⟨x2, rfl⟩ := Nat.exists_eq_add_of_le h2.1
  obtain ⟨x3, rfl⟩ := Nat.exists_eq_add_of_le h3.1
  have hy : y < 5 := by omega
  have hx1 : x1 < 64 := by omega
  have hx2 : x2 < 64 := by omega
  have hx3 : x3 < 64 := by omega
  have := seq4 y x1 x2 x3 hy hx1 hx2 hx3 (by omega) (by omega)
  rw [Nat.add_sub_cancel_left, Nat.add_sub_cancel_left, Nat.add_sub_cancel_left, Nat.add_sub_cancel_left,
    (mask y).2.2.2 (by omega), (mask x1).1 hx1, (mask x2).1 hx2, (mask x3).1 hx3]
  exact ⟨_, rfl, rfl, this.1, this.2.1⟩

/-- **decode ∘ encode**: `utf8.DecodeRune` on the encoding of a scalar value, whatever follows. -/
theorem decodeRune_encode (r : Nat) (hr : IsScalar r) (rest : List Nat) :
    decodeRune (encodeRune r ++ rest) = (r, (encodeRune r).length) := by
  unfold IsScalar at hr
  by_cases c1 : r < 0x80
  · simp [encodeRune, c1, decodeRune]
  by_cases c2 : r < 0x800
  · obtain ⟨y, x1, rfl, h1⟩ : ∃ y x1, r = y * 64 + x1 ∧ x1 < 64 := ⟨r / 64, r % 64, by omega, by omega⟩
    obtain ⟨_, he, hd⟩ := seq2 y x1 (by omega) h1
    rw [he]; exact hd rest
  by_cases c3 : r < 0x10000
  · obtain ⟨y, x1, x2, rfl, h1, h2⟩ : ∃ y x1 x2, r = y * 4096 + x1 * 64 + x2 ∧ x1 < 64 ∧ x2 < 64 :=
      ⟨r / 4096, r / 64 % 64, r % 64, by omega, by omega, by omega⟩
    obtain ⟨_, he, hd⟩ := seq3 y x1 x2 (by omega) h1 h2 (by omega) (by omega)
    rw [he]; exact hd rest
  · obtain ⟨y, x1, x2, x3, rfl, h1, h2, h3⟩ : ∃ y x1 x2 x3, r = y * 262144 + x1 * 4096 + x2 * 64 + x3 ∧
        x1 < 64 ∧ x2 < 64 ∧ x3 < 64 :=
      ⟨r / 262144, r / 4096 % 64, r / 64 % 64, r % 64, by omega, by omega, by omega, by omega⟩
    obtain ⟨_, he, hd⟩ := seq4 y x1 x2 x3 (by omega) h1 h2 h3 (by omega) (by omega)
    rw [he]; exact hd rest

/-- **encode ∘ decode**: whenever `utf8.DecodeRune` does not report an invalid byte, the rune is a
    scalar value and the bytes consumed are exactly its encoding (no overlong form, no surrogate,
    nothing above U+10FFFF, no truncated sequence is ever accepted). -/
theorem decodeRune_valid (b : Nat) (t : List Nat)
    (h : ¬((decodeRune (b :: t)).1 = runeError ∧ (decodeRune (b :: t)).2 = 1)) :
    IsScalar (decodeRune (b :: t)).1 ∧
    encodeRune (decodeRune (b :: t)).1 = (b :: t).take (decodeRune (b :: t)).2 := by
  rcases decodeRune_inv b t with e | ⟨h0, e⟩ | ⟨b1, t, l, rfl, h1, e⟩ |
    ⟨lo, hi, b1, b2, t, l, rfl, h1, c2, e⟩ | ⟨lo, hi, b1, b2, b3, t, l, rfl, h1, c2, c3, e⟩
  · rw [e] at h; exact absurd ⟨rfl, rfl⟩ h
  · rw [e]
    exact ⟨.inl (by omega), by simp only [encodeRune, h0, if_true, List.take_succ_cons, List.take_zero]⟩
  · obtain ⟨v, rfl, _, hs, he⟩ := wf2 l h1
    rw [e]; exact ⟨hs, he⟩
  · obtain ⟨v, rfl, _, hs, he⟩ := wf3 l h1 ((isCont_iff _).mp c2)
    rw [e]; exact ⟨hs, he⟩
  · obtain ⟨v, rfl, _, hs, he⟩ := wf4 l h1 ((isCont_iff _).mp c2) ((isCont_iff _).mp c3)
    rw [e]; exact ⟨hs, he⟩

theorem encodeRune_length (r : Nat) : 1 ≤ (encodeRune r).length ∧ ((encodeRune r).length = 1 → r < 0x80) := by
  unfold encodeRune
  repeat' split
  all_goals simp
  all_goals omega

theorem unit1_encode (r : Nat) (hr : IsScalar r) (rest : List Nat) :
    unit1 (encodeRune r ++ rest) = ⟨r, false, (encodeRune r).length⟩ := by
  have hd := decodeRune_encode r hr rest
  have hl := encodeRune_length r
  unfold unit1
  rw [hd]
  have : ¬ (r = runeError ∧ (encodeRune r).length = 1) := by
    intro ⟨h1, h2⟩
    have := hl.2 h2
    simp only [runeError] at h1
    omega
  simp only [this, if_false]

theorem units_encode (r : Nat) (hr : IsScalar r) (rest : List Nat) :
    units (encodeRune r ++ rest) = ⟨r, false, (encodeRune r).length⟩ :: units rest := by
  have hl := encodeRune_length r
  cases he : encodeRune r with
  | nil => rw [he] at hl; simp at hl
  | cons b t =>
    have hu := unit1_encode r hr rest
    rw [he] at hu
    simp only [List.cons_append] at hu ⊢
    rw [units_cons, hu]
    simp only [List.length_cons]
    congr 1
    have : (b :: (t ++ rest)) = (b :: t) ++ rest := rfl
    rw [this, List.drop_append_of_le_length (by simp)]
    simp

theorem units_invalid (b : Nat) (t : List Nat)
    (h : (decodeRune (b :: t)).1 = runeError ∧ (decodeRune (b :: t)).2 = 1) :
    units (b :: t) = ⟨b, true, 1⟩ :: units t := by
  rw [units_cons]
  have : unit1 (b :: t) = ⟨b, true, 1⟩ := by simp [unit1, h]
  rw [this]
  rfl

theorem unit1_inv_iff (b : Nat) (t : List Nat) :
    (unit1 (b :: t)).inv = true ↔ ∀ r, IsScalar r → ¬ (encodeRune r <+: b :: t) := by
  constructor
  · intro hinv r hr ⟨rest, hp⟩
    have := unit1_encode r hr rest
    rw [hp] at this
    rw [this] at hinv
    cases hinv
  · intro h
    by_cases hv : (decodeRune (b :: t)).1 = runeError ∧ (decodeRune (b :: t)).2 = 1
    · simp [unit1, hv]
    · exfalso
      obtain ⟨h1, h2⟩ := decodeRune_valid b t hv
      exact h _ h1 ⟨(b :: t).drop (decodeRune (b :: t)).2, by rw [h2]; exact List.take_append_drop _ _⟩

theorem unit1_bytes (b : Nat) (t : List Nat) :
    (unit1 (b :: t)).bytes = (b :: t).take (unit1 (b :: t)).sz ∧
    ((unit1 (b :: t)).inv = false → IsScalar (unit1 (b :: t)).raw) := by
  by_cases hv : (decodeRune (b :: t)).1 = runeError ∧ (decodeRune (b :: t)).2 = 1
  · have : unit1 (b :: t) = ⟨b, true, 1⟩ := by simp [unit1, hv]
    rw [this]
    simp [U.bytes]
  · obtain ⟨h1, h2⟩ := decodeRune_valid b t hv
    have : unit1 (b :: t) = ⟨(decodeRune (b :: t)).1, false, (decodeRune (b :: t)).2⟩ := by
      simp only [unit1, hv, if_false]
    rw [this]
    exact ⟨by simpa [U.bytes] using h2, fun _ => h1⟩

@[simp] theorem decodeRunes_nil : decodeRunes [] = [] := rfl

theorem decodeRunes_encode (r : Nat) (hr : IsScalar r) (rest : List Nat) :
    decodeRunes (encodeRune r ++ rest) = r :: decodeRunes rest := by
  simp [decodeRunes, units_encode r hr rest]

theorem decodeRunes_encodeAll (rs : List Nat) (h : ∀ r ∈ rs, IsScalar r) :
    decodeRunes (rs.flatMap encodeRune) = rs := by
  induction rs with
  | nil => rfl
  | cons r rs ih =>
    simp only [List.flatMap_cons]
    rw [decodeRunes_encode r (h r (by simp)), ih (fun r' hr' => h r' (by simp [hr']))]

theorem decodeRunes_ascii (bs : List Nat) (h : ∀ b ∈ bs, b < 0x80) : decodeRunes bs = bs := by
  induction bs with
  | nil => rfl
  | cons b t ih =>
    have hb := h b List.mem_cons_self
    have := decodeRunes_encode b (.inl (by omega)) t
    rw [show encodeRune b = [b] by simp [encodeRune, hb]] at this
    exact this.trans (by rw [ih (fun x hx => h x (List.mem_cons_of_mem _ hx))])

end VaxisModel.Lemmas.ParserUtf8
