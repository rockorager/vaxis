/-
C02: the model's decoding of a byte stream (`utf8.DecodeRune` + `readRune`'s fallback:
`ParserUtf8.decodeRunes`) is the Spec's (`Spec.VT500.decode`, written from Table 3-7 of the Unicode
standard: well-formed sequences are scalars, every other byte is delivered raw).
-/
import VaxisModel.Lemmas.ParserUtf8
import VaxisModel.Spec.VT500

namespace VaxisModel.Lemmas.ParserUtf8Spec
open VaxisModel.Model.Parser VaxisModel.Model.ParserIO VaxisModel.Model.ParserUtf8 VaxisModel.Lemmas.ParserUtf8
open VaxisModel.Spec.VT500 (decode1 cont)

theorem cont_iff (b : Nat) : cont b = true ↔ 0x80 ≤ b ∧ b ≤ 0xBF := by simp [cont]

/-- The Spec's condition on the lead and second byte of a three-byte sequence: a row of Table 3-7 and
    its range. -/
theorem spec3_iff (b b1 : Nat) :
    ((b = 0xE0 ∧ 0xA0 ≤ b1 ∧ b1 ≤ 0xBF) ∨ (0xE1 ≤ b ∧ b ≤ 0xEC ∧ cont b1 = true) ∨
      (b = 0xED ∧ 0x80 ≤ b1 ∧ b1 ≤ 0x9F) ∨ (0xEE ≤ b ∧ b ≤ 0xEF ∧ cont b1 = true)) ↔
    ∃ lo hi, Row3 b lo hi ∧ lo ≤ b1 ∧ b1 ≤ hi := by
  simp only [cont_iff, Row3]
  constructor
  · rintro (⟨rfl, h⟩ | ⟨h1, h2, h⟩ | ⟨rfl, h⟩ | ⟨h1, h2, h⟩)
    · exact ⟨0xA0, 0xBF, .inl ⟨rfl, rfl, rfl⟩, h⟩
    · exact ⟨0x80, 0xBF, .inr (.inl ⟨h1, h2, rfl, rfl⟩), h⟩
    · exact ⟨0x80, 0x9F, .inr (.inr (.inl ⟨rfl, rfl, rfl⟩)), h⟩
    · exact ⟨0x80, 0xBF, .inr (.inr (.inr ⟨h1, h2, rfl, rfl⟩)), h⟩
  · rintro ⟨lo, hi, (⟨rfl, rfl, rfl⟩ | ⟨h1, h2, rfl, rfl⟩ | ⟨rfl, rfl, rfl⟩ | ⟨h1, h2, rfl, rfl⟩), h⟩
    · exact .inl ⟨rfl, h⟩
    · exact .inr (.inl ⟨h1, h2, h⟩)
    · exact .inr (.inr (.inl ⟨rfl, h⟩))
    · exact .inr (.inr (.inr ⟨h1, h2, h⟩))

/-- … of a four-byte sequence. -/
theorem spec4_iff (b b1 : Nat) :
    ((b = 0xF0 ∧ 0x90 ≤ b1 ∧ b1 ≤ 0xBF) ∨ (0xF1 ≤ b ∧ b ≤ 0xF3 ∧ cont b1 = true) ∨
      (b = 0xF4 ∧ 0x80 ≤ b1 ∧ b1 ≤ 0x8F)) ↔
    ∃ lo hi, Row4 b lo hi ∧ lo ≤ b1 ∧ b1 ≤ hi := by
  simp only [cont_iff, Row4]
  constructor
  · rintro (⟨rfl, h⟩ | ⟨h1, h2, h⟩ | ⟨rfl, h⟩)
    · exact ⟨0x90, 0xBF, .inl ⟨rfl, rfl, rfl⟩, h⟩
    · exact ⟨0x80, 0xBF, .inr (.inl ⟨h1, h2, rfl, rfl⟩), h⟩
    · exact ⟨0x80, 0x8F, .inr (.inr ⟨rfl, rfl, rfl⟩), h⟩
  · rintro ⟨lo, hi, (⟨rfl, rfl, rfl⟩ | ⟨h1, h2, rfl, rfl⟩ | ⟨rfl, rfl, rfl⟩), h⟩
    · exact .inl ⟨rfl, h⟩
    · exact .inr (.inl ⟨h1, h2, h⟩)
    · exact .inr (.inr ⟨rfl, h⟩)

/-- On every sequence `utf8.DecodeRune` accepts, the Spec's `decode1` returns the same: shape by
    shape (`decodeRune_inv`), the lead byte's row of Table 3-7 being the Spec's condition. -/
theorem decode1_eq_of_valid (b : Nat) (t : List Nat)
    (h : ¬((decodeRune (b :: t)).1 = runeError ∧ (decodeRune (b :: t)).2 = 1)) :
    decode1 (b :: t) = decodeRune (b :: t) := by
  rcases decodeRune_inv b t with e | ⟨h0, e⟩ | ⟨b1, t, l, rfl, h1, e⟩ |
    ⟨lo, hi, b1, b2, t, l, rfl, h1, c2, e⟩ | ⟨lo, hi, b1, b2, b3, t, l, rfl, h1, c2, c3, e⟩
  · rw [e] at h; exact absurd ⟨rfl, rfl⟩ h
  · rw [e]; simp only [decode1, h0, if_true]
  · obtain ⟨v, rfl, ev, _⟩ := wf2 l h1
    have hc := (cont_iff b1).mpr h1
    have h0 : ¬ b < 0x80 := by omega
    rw [e]; simp only [decode1, h0, l, hc, and_self, if_true, if_false, ev]
  · have hb := l.bounds
    have k2 := (isCont_iff b2).mp c2
    obtain ⟨v, rfl, ev, _⟩ := wf3 l h1 k2
    have h0 : ¬ b < 0x80 := by omega
    have n2 : ¬ (0xC2 ≤ b ∧ b ≤ 0xDF ∧ cont b1 = true) := fun ⟨_, h, _⟩ => by omega
    have ok := (spec3_iff b b1).mpr ⟨lo, hi, l, h1⟩
    rw [e]; simp only [decode1, h0, n2, ok, (cont_iff b2).mpr k2, and_self, if_true, if_false, ev]
  · have hb := l.bounds
    have k2 := (isCont_iff b2).mp c2
    have k3 := (isCont_iff b3).mp c3
    obtain ⟨v, rfl, ev, _⟩ := wf4 l h1 k2 k3
    have h0 : ¬ b < 0x80 := by omega
    have n2 : ¬ (0xC2 ≤ b ∧ b ≤ 0xDF ∧ cont b1 = true) := fun ⟨_, h, _⟩ => by omega
    have n3 := mt (spec3_iff b b1).mp fun ⟨_, _, l', _⟩ => by have := l'.bounds; omega
    have ok := (spec4_iff b b1).mpr ⟨lo, hi, l, h1⟩
    rw [e]
    simp only [decode1, h0, n2, n3, ok, (cont_iff b2).mpr k2, (cont_iff b3).mpr k3, and_self, false_and, if_true, if_false,
      ev]

theorem decode1_valid (b : Nat) (t : List Nat) :
    decode1 (b :: t) = (b, 1) ∨
    (IsScalar (decode1 (b :: t)).1 ∧ encodeRune (decode1 (b :: t)).1 = (b :: t).take (decode1 (b :: t)).2) := by
  by_cases h0 : b < 0x80
  · left; simp [decode1, h0]
  rcases t with _ | ⟨b1, t1⟩
  · left; simp [decode1, h0]
  simp only [decode1, h0, if_false]
  split
  · rename_i c2
    obtain ⟨v, _, rfl, h⟩ := wf2 ⟨c2.1, c2.2.1⟩ ((cont_iff _).mp c2.2.2)
    exact .inr h
  rcases t1 with _ | ⟨b2, t2⟩
  · exact .inl rfl
  simp only
  split
  · rename_i c3
    obtain ⟨lo, hi, l, hr⟩ := (spec3_iff b b1).mp c3.1
    obtain ⟨v, _, rfl, h⟩ := wf3 l hr ((cont_iff _).mp c3.2)
    exact .inr h
  rcases t2 with _ | ⟨b3, t3⟩
  · exact .inl rfl
  simp only
  split
  · rename_i c4
    obtain ⟨lo, hi, l, hr⟩ := (spec4_iff b b1).mp c4.1
    obtain ⟨v, _, rfl, h⟩ := wf4 l hr ((cont_iff _).mp c4.2.1) ((cont_iff _).mp c4.2.2)
    exact .inr h
  · exact .inl rfl

theorem scalar_lt_mark (r : Nat) (h : IsScalar r) : r < 0x1000000 := by unfold IsScalar at h; omega

theorem unmark_mark (r : Nat) : Spec.VT500.unmark (Spec.VT500.invalidMark + r) = r := by
  unfold Spec.VT500.unmark Spec.VT500.invalidMark
  split <;> omega

theorem unmark_small (r : Nat) (h : r < 0x1000000) : Spec.VT500.unmark r = r := by
  unfold Spec.VT500.unmark Spec.VT500.invalidMark
  split <;> omega

theorem decode1_unit1 (b : Nat) (t : List Nat) :
    decode1 (b :: t) = ((unit1 (b :: t)).raw, (unit1 (b :: t)).sz) ∧
    ((unit1 (b :: t)).inv = true ↔ (0x80 ≤ (unit1 (b :: t)).raw ∧ (unit1 (b :: t)).sz = 1)) ∧
    ((unit1 (b :: t)).inv = false → (unit1 (b :: t)).raw < 0x1000000) := by
  by_cases hv : (decodeRune (b :: t)).1 = runeError ∧ (decodeRune (b :: t)).2 = 1
  · have hu : unit1 (b :: t) = ⟨b, true, 1⟩ := by simp [unit1, hv]
    have hb : 0x80 ≤ b := by
      rcases Nat.lt_or_ge b 0x80 with h | h
      · exfalso
        have : decodeRune (b :: t) = (b, 1) := by simp [decodeRune, h]
        rw [this] at hv
        have h1 : b = 0xFFFD := hv.1
        omega
      · exact h
    have hinv : (unit1 (b :: t)).inv = true := by rw [hu]
    rw [hu]
    refine ⟨?_, by simp [hb], by simp⟩
    rcases decode1_valid b t with h | ⟨h1, h2⟩
    · exact h
    · exfalso
      exact (unit1_inv_iff b t).mp hinv _ h1 ⟨(b :: t).drop (decode1 (b :: t)).2, by rw [h2]; exact List.take_append_drop _ _⟩
  · obtain ⟨h1, h2⟩ := decodeRune_valid b t hv
    have hu : unit1 (b :: t) = ⟨(decodeRune (b :: t)).1, false, (decodeRune (b :: t)).2⟩ := by
      simp only [unit1, hv, if_false]
    have hsz := decodeRune_sz b t
    rw [hu]
    have hlen : (encodeRune (decodeRune (b :: t)).1).length = (decodeRune (b :: t)).2 := by
      rw [h2, List.length_take]; exact Nat.min_eq_left hsz.2.1
    refine ⟨?_, ?_, ?_⟩
    · exact decode1_eq_of_valid b t hv
    · simp only [Bool.false_eq_true, false_iff, not_and]
      intro hge hone
      have := (encodeRune_length (decodeRune (b :: t)).1).2 (by rw [hlen]; exact hone)
      exact Nat.not_le.mpr this hge
    · intro _
      exact scalar_lt_mark _ h1

theorem decodeFuelM_units (f : Nat) (bs : List Nat) :
    (Spec.VT500.decodeFuelM f bs).map Spec.VT500.unmark = (unitsF f bs).map U.raw := by
  induction f generalizing bs with
  | zero => simp [Spec.VT500.decodeFuelM, unitsF]
  | succ n ih =>
    cases bs with
    | nil => simp [Spec.VT500.decodeFuelM, unitsF]
    | cons b t =>
      obtain ⟨h1, h2, h3⟩ := decode1_unit1 b t
      have hs := unit1_sz b t
      simp only [Spec.VT500.decodeFuelM, unitsF, h1, List.map_cons]
      rw [Nat.max_eq_left hs.1, ih]
      congr 1
      by_cases hinv : (unit1 (b :: t)).inv = true
      · have := h2.mp hinv
        simp only [ge_iff_le, this, and_self, if_true]
        exact unmark_mark _
      · have hf : (unit1 (b :: t)).inv = false := by simpa using hinv
        have hlt := h3 hf
        have hn : ¬ (0x80 ≤ (unit1 (b :: t)).raw ∧ (unit1 (b :: t)).sz = 1) := fun h => hinv (h2.mpr h)
        simp only [ge_iff_le, hn, if_false]
        exact unmark_small _ hlt

/-- **The model's decoder is the Spec's decoder** (Table 3-7; invalid byte ⇒ raw), every byte list. -/
theorem decode_eq (bs : List Nat) : Spec.VT500.decode bs = decodeRunes bs := by
  simp only [Spec.VT500.decode, Spec.VT500.decodeMarked, decodeRunes, units]
  exact decodeFuelM_units _ _

end VaxisModel.Lemmas.ParserUtf8Spec
