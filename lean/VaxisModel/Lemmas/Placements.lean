/-
Placement bookkeeping: with the five fields compared, `samePlacement` is equality of placements, and the model's
render then computes exactly the spec's diff; over op histories the invariant is "`last` is the previous frame's
placement list".
-/
import VaxisModel.Model.Placements

namespace VaxisModel.Lemmas.Placements
open VaxisModel.Model.Placements VaxisModel.Spec.Images VaxisModel.Gen.ImageConsts

theorem samePlacementWith_all_eq (a b : Placement) :
    samePlacementWith [.id, .col, .row, .w, .h] a b = (a == b) := by
  cases a; cases b
  simp only [samePlacementWith, List.all_cons, List.all_nil, fieldEq, Bool.and_true]
  rw [Bool.eq_iff_iff]
  simp [Placement.mk.injEq]

theorem samePlacementFields_std : samePlacementFields = [.id, .col, .row, .w, .h] := by decide

theorem same_std : samePlacement = fun a b => a == b := by
  funext a b
  rw [samePlacement, samePlacementFields_std, samePlacementWith_all_eq]

theorem any_beq (p : Placement) (l : List Placement) : (l.any fun p2 => p == p2) = decide (p ∈ l) := by
  rw [Bool.eq_iff_iff]
  simp [List.any_eq_true]

theorem renderWith_eq_spec (s : State) :
    renderWith (fun a b => a == b) s =
      ({ next := s.next, last := s.next, refresh := false },
       ⟨mustDelete s.last ⟨s.next, s.refresh⟩, mustWrite s.last ⟨s.next, s.refresh⟩⟩) := by
  unfold renderWith mustDelete mustWrite
  cases hr : s.refresh
  · simp
    constructor
    · apply List.filter_congr; intro p _; rw [any_beq]
    · apply List.filter_congr; intro p _; rw [any_beq]
  · simp

theorem mem_render_deletes (s : State) (p : Placement) :
    p ∈ (renderWith (fun a b => a == b) s).2.deletes ↔ p ∈ s.last ∧ (s.refresh = true ∨ p ∉ s.next) := by
  rw [renderWith_eq_spec]; simp [mustDelete, List.mem_filter]

theorem mem_render_writes (s : State) (p : Placement) :
    p ∈ (renderWith (fun a b => a == b) s).2.writes ↔ p ∈ s.next ∧ (s.refresh = true ∨ p ∉ s.last) := by
  rw [renderWith_eq_spec]; simp [mustWrite, List.mem_filter]

theorem kept_of_not_written (s : State) (p : Placement) (hp : p ∈ s.next)
    (h : p ∉ (renderWith (fun a b => a == b) s).2.writes) : s.refresh = false ∧ p ∈ s.last := by
  have hk : ¬ (s.refresh = true ∨ p ∉ s.last) := fun hh => h ((mem_render_writes s p).mpr ⟨hp, hh⟩)
  exact ⟨by cases hr : s.refresh <;> simp_all, Decidable.not_not.mp fun hn => hk (Or.inr hn)⟩

theorem kept_of_not_deleted (s : State) (p : Placement) (hp : p ∈ s.last)
    (h : p ∉ (renderWith (fun a b => a == b) s).2.deletes) : s.refresh = false ∧ p ∈ s.next := by
  have hk : ¬ (s.refresh = true ∨ p ∉ s.next) := fun hh => h ((mem_render_deletes s p).mpr ⟨hp, hh⟩)
  exact ⟨by cases hr : s.refresh <;> simp_all, Decidable.not_not.mp fun hn => hk (Or.inr hn)⟩

theorem outputsWith_eq_expected (ops : List Op) : ∀ s : State,
    outputsWith (fun a b => a == b) s ops = expected s.last (framesOf s.refresh s.next ops) := by
  induction ops with
  | nil => intro s; rfl
  | cons op rest ih =>
    intro s
    cases op with
    | draw p | clear => simp only [outputsWith, stepWith, framesOf]; exact ih _
    | render | refresh =>
      simp only [outputsWith, stepWith, framesOf, renderWith_eq_spec, expected]
      rw [ih]

theorem outputsWith_good (same : Placement → Placement → Bool) (Good : Placement → Prop) :
    ∀ (ops : List Op) (s : State),
      (∀ p ∈ s.next, Good p) → (∀ p ∈ s.last, Good p) → (∀ p, Op.draw p ∈ ops → Good p) →
      ∀ o ∈ outputsWith same s ops, (∀ p ∈ o.1, Good p) ∧ (∀ p ∈ o.2, Good p) := by
  intro ops
  induction ops with
  | nil => intro s _ _ _ o ho; simp [outputsWith] at ho
  | cons op rest ih =>
    intro s hn hl hd o ho
    have hd' : ∀ p, Op.draw p ∈ rest → Good p := fun p hp => hd p (List.mem_cons_of_mem _ hp)
    cases op with
    | draw p =>
      simp only [outputsWith, stepWith] at ho
      refine ih ⟨s.next ++ [p], s.last, s.refresh⟩ ?_ hl hd' o ho
      intro q hq
      rcases List.mem_append.mp hq with h | h
      · exact hn q h
      · have : q = p := by simpa using h
        rw [this]; exact hd p (List.mem_cons_self ..)
    | clear =>
      simp only [outputsWith, stepWith] at ho
      exact ih ⟨[], s.last, s.refresh⟩ (fun q hq => by cases hq) hl hd' o ho
    | render | refresh =>
      simp only [outputsWith, stepWith, renderWith, List.mem_cons] at ho
      rcases ho with rfl | ho
      · exact ⟨fun p hp => hl p (List.mem_filter.mp hp).1, fun p hp => hn p (List.mem_filter.mp hp).1⟩
      · exact ih ⟨s.next, s.next, false⟩ hn hn hd' o ho

/-- The regenerated skeleton of `render`'s placement stretch has every statement and nothing else. -/
theorem renderShape_std : renderShape = ⟨true, true, true, true, true, true, true, []⟩ := by decide

theorem renderShaped_std (same : Placement → Placement → Bool) (s : State) :
    renderShaped ⟨true, true, true, true, true, true, true, []⟩ same s = renderWith same s := by
  unfold renderShaped renderWith
  simp only [Bool.true_and, if_true]
  congr 2
  · apply List.filter_congr
    intro p _
    cases s.refresh <;> cases (s.next.any fun p2 => same p p2) <;> rfl
  · apply List.filter_congr
    intro p _
    cases ((if s.refresh = true then [] else s.last).any fun p2 => same p p2) <;> rfl

theorem stepShaped_std (same : Placement → Placement → Bool) (s : State) (op : Op) :
    stepShaped ⟨true, true, true, true, true, true, true, []⟩ same s op = stepWith same s op := by
  cases op <;> simp only [stepShaped, stepWith, renderShaped_std]

end VaxisModel.Lemmas.Placements
