/-
The regenerated body of `parseColorReply`, executed (`Model/QueryBody.lean`), equals the model
(`parseReply` / `colorOfReply`) for every reply and prefix.
-/
import VaxisModel.Model.QueryBody
import VaxisModel.Lemmas.InputQuery
import VaxisModel.Lemmas.InputBody

namespace VaxisModel.Lemmas.QueryBody
open VaxisModel.Model.GoBody VaxisModel.Model.Color VaxisModel.Model.InputQuery VaxisModel.Model VaxisModel.Model.QueryBody
open VaxisModel.Lemmas.InputQuery

/-- The body of the loop over the channels, as it stands in `Gen.InputBody.pr`. -/
def prLoopBody : Ss :=
  (Ss.ofList [
      (.assign .define (Es.ofList [(.var "n")]) (Es.ofList [(.call "len" (Es.ofList [(.var "ch")]))])),
      (.ifS .nil (.bin .lor (.bin .lt (.var "n") (.int 1)) (.bin .gt (.var "n") (.int 4))) (Ss.ofList [
        (.ret (Es.ofList [(.call "Color" (Es.ofList [(.int 0)])), .ff]))]) .nil),
      (.assign .define (Es.ofList [(.var "v"), (.var "err")]) (Es.ofList [(.call "strconv.ParseUint" (Es.ofList [(.var "ch"), (.int 16), (.int 16)]))])),
      (.ifS .nil (.bin .ne (.var "err") .nilv) (Ss.ofList [
        (.ret (Es.ofList [(.call "Color" (Es.ofList [(.int 0)])), .ff]))]) .nil),
      (.assign .define (Es.ofList [(.var "max")]) (Es.ofList [(.bin .sub (.call "shl" (Es.ofList [(.call "uint64" (Es.ofList [(.int 1)])), (.call "mul" (Es.ofList [(.int 4), (.var "n")]))])) (.int 1))])),
      (.assign .set (Es.ofList [(.idx (.var "rgb") (.var "i"))]) (Es.ofList [(.call "uint8" (Es.ofList [(.call "shr" (Es.ofList [(.call "div" (Es.ofList [(.call "mul" (Es.ofList [(.var "v"), (.int 65535)])), (.var "max")])), (.int 8)]))]))]))])

/-- The regenerated body has the shape the proof follows: prefix test, split, channel count, the
array, the loop with exactly that body, the result. -/
theorem pr_shape : Gen.InputBody.pr =
    (Ss.ofList [
      (.ifS .nil (.un .not (.call "strings.HasPrefix" (Es.ofList [(.var "resp"), (.bin .add (.var "prefix") (.str [114, 103, 98, 58]))]))) (Ss.ofList [
        (.ret (Es.ofList [(.call "Color" (Es.ofList [(.int 0)])), .ff]))]) .nil),
      (.assign .define (Es.ofList [(.var "channels")]) (Es.ofList [(.call "strings.Split" (Es.ofList [(.call "strings.TrimPrefix" (Es.ofList [(.var "resp"), (.bin .add (.var "prefix") (.str [114, 103, 98, 58]))])), (.str [47])]))])),
      (.ifS .nil (.bin .ne (.call "len" (Es.ofList [(.var "channels")])) (.int 3)) (Ss.ofList [
        (.ret (Es.ofList [(.call "Color" (Es.ofList [(.int 0)])), .ff]))]) .nil),
      (.varDecl "rgb" "[3]uint8"),
      (.forRange "i" "ch" (.var "channels") prLoopBody),
      (.ret (Es.ofList [(.call "RGBColor" (Es.ofList [(.idx (.var "rgb") (.int 0)), (.idx (.var "rgb") (.int 1)), (.idx (.var "rgb") (.int 2))])), .tt]))]) := rfl

theorem matchLit_isPrefix : ∀ (lit resp : List Nat),
    matchLit lit resp = if Input.isPrefix lit resp then some (resp.drop lit.length) else none
  | [], resp => by simp [matchLit, Input.isPrefix]
  | f :: fs, [] => by simp [matchLit, Input.isPrefix]
  | f :: fs, c :: inp => by
    have ih := matchLit_isPrefix fs inp
    by_cases h : f = c
    · subst h; simp [matchLit, Input.isPrefix, ih]
    · simp [matchLit, Input.isPrefix, h]

/-- Hexadecimal digits are one byte each in UTF-8. -/
theorem strLen_hex : ∀ (ds : List Nat), (∀ d ∈ ds, (hexVal d).isSome = true) → InputBody.strLen ds = ds.length
  | [], _ => rfl
  | d :: t, h => by
    have hd := hexVal_range d (h d (List.mem_cons_self ..))
    have ht := strLen_hex t (fun x hx => h x (List.mem_cons_of_mem _ hx))
    have : d < 128 := by omega
    simp [InputBody.strLen, InputBody.utf8Len, this, ht]; omega

theorem strLen_nonneg : ∀ s, 0 ≤ InputBody.strLen s := VaxisModel.Lemmas.InputBody.strLen_nonneg

@[simp] theorem andThen_norm (env : QEnv) (f : QEnv → QR) : (QR.norm env).andThen f = f env := rfl
@[simp] theorem andThen_ret (v : QV) (f : QEnv → QR) : (QR.ret v).andThen f = .ret v := rfl
@[simp] theorem andThen_fail (w : String) (f : QEnv → QR) : (QR.fail w).andThen f = .fail w := rfl

def qthen (r : QR) (t : Ss) : QR := match r with | .norm env => qexecSs t env | r => r
theorem qexecSs_cons (h : S) (t : Ss) (env : QEnv) : qexecSs (.cons h t) env = qthen (qexecS h env) t := by
  rw [qexecSs]; cases qexecS h env <;> rfl
theorem qexecSs_nil (env : QEnv) : qexecSs .nil env = .norm env := by rw [qexecSs]
@[simp] theorem qthen_norm (env : QEnv) (t : Ss) : qthen (.norm env) t = qexecSs t env := rfl
@[simp] theorem qthen_ret (v : QV) (t : Ss) : qthen (.ret v) t = .ret v := rfl
@[simp] theorem qthen_fail (w : String) (t : Ss) : qthen (.fail w) t = .fail w := rfl
theorem qthen_ite (p : Prop) [Decidable p] (a b : QR) (t : Ss) : qthen (if p then a else b) t = if p then qthen a t else qthen b t := by
  split <;> rfl

/- The evaluator unfolds in every `simp` of this file. Given by attribute, its equation lemmas are generated once, here;
named in the `simp` calls they were generated again inside each proof that runs the body. -/
attribute [local simp] qexecS qeval qevals qcall qbin

macro "q_eval" : tactic => `(tactic| simp [Ss.ofList, Es.ofList, qexecSs_cons, qexecSs_nil, qthen_ite, List.lookup, parseUint16, trimPrefix, U64, *])

theorem loop_step (env : QEnv) (i : Nat) (ch : List Nat) (l : List Nat) (hl : env.lookup "rgb" = some (.arr l)) (hi : i < l.length) :
    qexecSs prLoopBody (("ch", .str ch) :: ("i", .nat i) :: env) =
      match parseChannel ch with
      | none => .ret (.pair (.color 0) (.bool false))
      | some v => .norm (("rgb", .arr (l.set i v)) :: ("max", .nat (16 ^ ch.length - 1)) :: ("err", .nil) :: ("v", .nat ((hexNum ch 0).getD 0)) ::
          ("n", .nat ch.length) :: ("ch", .str ch) :: ("i", .nat i) :: env) := by
  cases hh : hexNum ch 0 with
  | none =>
    have hp : parseChannel ch = none := by simp [parseChannel, hh]
    rw [hp]
    unfold prLoopBody
    by_cases h1 : InputBody.strLen ch ≤ 0
    · q_eval
    · by_cases h2 : 4 < InputBody.strLen ch
      · q_eval
      · cases ch with
        | nil => simp [InputBody.strLen] at h1
        | cons c t => q_eval
  | some v =>
    have hall := hexNum_all_hex ch 0 v hh
    have hlen := strLen_hex ch hall
    have hv : v < 16 ^ ch.length := by
      obtain ⟨w, hw, hb⟩ := hexNum_some ch 0 hall
      rw [hh] at hw; cases hw; simpa using hb
    unfold prLoopBody
    rcases ch with _ | ⟨a, _ | ⟨b, _ | ⟨c, _ | ⟨d, _ | ⟨e, t⟩⟩⟩⟩⟩
    case nil => simp [parseChannel]; q_eval
    case cons.cons.cons.cons.cons =>
      have h6 : ¬ ((t.length : Int) + 1 + 1 + 1 + 1 + 1 ≤ 0) := by omega
      have h7 : (4 : Int) < (t.length : Int) + 1 + 1 + 1 + 1 + 1 := by omega
      simp [parseChannel] at hlen ⊢
      q_eval
    -- one to four digits
    all_goals
      simp [parseChannel, hh] at hv ⊢; simp at hlen
      have hv' : v < 65536 := by omega
      q_eval; congr 1
      rw [Nat.mod_eq_of_lt (by omega : v * 65535 < 18446744073709551616)]; omega

theorem isPrefix_split : ∀ (p s : List Nat), Input.isPrefix p s = true → ∃ r, s = p ++ r
  | [], s, _ => ⟨s, rfl⟩
  | a :: as, [], h => by simp [Input.isPrefix] at h
  | a :: as, b :: bs, h => by
    simp only [Input.isPrefix, Bool.and_eq_true, beq_iff_eq] at h
    obtain ⟨r, hr⟩ := isPrefix_split as bs h.2
    exact ⟨r, by rw [h.1, hr]; rfl⟩

theorem isPrefix_append : ∀ (p r : List Nat), Input.isPrefix p (p ++ r) = true
  | [], r => by simp [Input.isPrefix]
  | a :: as, r => by simp [Input.isPrefix, isPrefix_append as r]

theorem trimPrefix_append (p r : List Nat) : trimPrefix p (p ++ r) = r := by
  simp [trimPrefix, isPrefix_append]

theorem pr_eq (resp pfx : List Nat) :
    runPr resp pfx = .ok (match parseReply (pfx ++ [114, 103, 98, 58]) resp with | some c => (c, true) | none => (0, false)) := by
  unfold runPr
  rw [pr_shape]
  simp only [parseReply, matchLit_isPrefix]
  by_cases hp : Input.isPrefix (pfx ++ [114, 103, 98, 58]) resp = true
  · obtain ⟨chans, hc⟩ : ∃ chans, Input.splitOn 47 (List.drop (pfx.length + 4) resp) = chans := ⟨_, rfl⟩
    -- one run up to the loop, the number of channels left as an `if`
    q_eval
    rcases chans with _ | ⟨a, _ | ⟨b, _ | ⟨c, _ | ⟨d, t⟩⟩⟩⟩ <;> try simp
    simp only [qloop]
    rw [loop_step _ 0 a [0, 0, 0] (by rfl) (by decide)]
    cases ha : parseChannel a with
    | none => simp
    | some va =>
      simp only []
      rw [loop_step _ 1 b _ (by rfl) (by simp)]
      cases hb : parseChannel b with
      | none => simp
      | some vb =>
        simp only []
        rw [loop_step _ 2 c _ (by rfl) (by simp)]
        cases hcc : parseChannel c with
        | none => simp
        | some vc => q_eval
  · q_eval

end VaxisModel.Lemmas.QueryBody
