/-
The repaired cell loop (`Model/RenderClip.lean`) is the old cell loop run on the clipped row, the
clipped grid always fits, and the clipped grid means `Spec.Expected.expectedC`.
-/
import VaxisModel.Model.RenderClip
import VaxisModel.Spec.ExpectedClip
import VaxisModel.Lemmas.RenderDisplay

namespace VaxisModel.Lemmas.RenderClip
open VaxisModel.Model.Render VaxisModel.Spec VaxisModel.Spec.Display VaxisModel.Spec.Expected
open VaxisModel.Lemmas.RenderDisplay
open VaxisModel.Props.C01 (FitsRow Fits)

theorem clipCell_sixel (cw : String → Nat) (rem : Nat) (c : Cell) : (clipCell cw rem c).sixel = c.sixel := by
  unfold clipCell; split <;> rfl

theorem clipCell_style (cw : String → Nat) (rem : Nat) (c : Cell) : (clipCell cw rem c).style = c.style := by
  unfold clipCell; split <;> rfl

theorem clipRow_length (cw : String → Nat) (l : List Cell) : (clipRow cw l).length = l.length := by
  induction l with
  | nil => rfl
  | cons c cs ih => simp [clipRow, ih]

theorem renderCellsC_eq (cw : String → Nat) (caps : Caps) (refresh : Bool) (row : Nat) :
    ∀ (ns ls : List Cell) (col skip : Nat) (track : Bool) (dirty : Nat) (st : RSt),
      renderCellsC cw caps refresh row col skip track dirty ns ls st =
        renderCells cw caps refresh row col skip track dirty (clipRow cw ns) ls st := by
  intro ns
  induction ns with
  | nil => intro ls col skip track dirty st; simp [renderCellsC, renderCells, clipRow]
  | cons n0 ns ih =>
    intro ls col skip track dirty st
    cases ls with
    | nil => simp [renderCellsC, renderCells, clipRow]
    | cons l ls =>
      cases skip with
      | succ k =>
        simp only [renderCellsC, renderCells, clipRow]
        rw [ih]
      | zero =>
        simp only [renderCellsC, renderCells, clipRow, clipCell_sixel]
        split
        · rw [ih]
        · split
          · rw [ih]
          · rw [ih]

theorem renderRowsC_eq (cw : String → Nat) (caps : Caps) (refresh : Bool) :
    ∀ (ns ls : Grid) (row : Nat) (st : RSt),
      renderRowsC cw caps refresh row ns ls st = renderRows cw caps refresh row (clipGrid cw ns) ls st := by
  intro ns
  induction ns with
  | nil => intro ls row st; simp [renderRowsC, renderRows, clipGrid]
  | cons n ns ih =>
    intro ls row st
    cases ls with
    | nil => simp [renderRowsC, renderRows, clipGrid]
    | cons l ls =>
      simp only [renderRowsC, renderRows, clipGrid, List.map_cons, renderCellsC_eq]
      have := ih ls (row + 1)
      simp only [clipGrid] at this
      simp only [this]

/-- **The repaired renderer is the old renderer on the clipped grid.** -/
theorem renderFrameC_eq (cw : String → Nat) (f : Frame) :
    renderFrameC cw f = renderFrame cw { f with next := clipGrid cw f.next } := by
  simp only [renderFrameC, renderFrame, renderBodyC, renderBody, renderRowsC_eq]

theorem width_clip (cw : String → Nat) (c : Cell) :
    cellWidth cw ({ c with g := "20", w := 1 } : Cell) = 1 := by
  simp [cellWidth]

/-- The substitution fires exactly when the glyph does not fit. -/
theorem clip_iff (cw : String → Nat) (rem : Nat) (c : Cell) (hrem : 1 ≤ rem) :
    rem ≤ advance cw c ↔ ¬ (cellWidth cw c).toNat ≤ rem := by
  rw [adv_eq]; omega

theorem clipRow_fits (cw : String → Nat) : ∀ (l : List Cell) (k : Nat), FitsRow cw k (clipRow cw l) := by
  intro l
  induction l with
  | nil => intro k; simp [clipRow, FitsRow]
  | cons c cs ih =>
    intro k
    cases k with
    | succ k => simp only [clipRow, FitsRow]; exact ih k
    | zero =>
      simp only [clipRow, FitsRow, List.length_cons, clipRow_length]
      refine ⟨?_, ih _⟩
      unfold clipCell
      split
      · rw [width_clip]; simp
      · rename_i h
        have := mt (clip_iff cw (cs.length + 1) c (by omega)).2 h
        omega

theorem clipGrid_fits (cw : String → Nat) (g : Grid) : Fits cw (clipGrid cw g) := by
  intro r hr
  obtain ⟨l, _, rfl⟩ := List.mem_map.mp hr
  exact clipRow_fits cw l 0

theorem expectedRowC_eq (cw : String → Nat) (caps : Caps) :
    ∀ (l : List Cell) (k : Nat), expectedRowC cw caps k l = expectedRow cw caps k (clipRow cw l) := by
  intro l
  induction l with
  | nil => intro k; cases k <;> simp [expectedRowC, expectedRow, clipRow]
  | cons c cs ih =>
    intro k
    cases k with
    | succ k => simp only [expectedRowC, expectedRow, clipRow, ih]
    | zero =>
      simp only [expectedRowC, clipRow, expectedRow]
      unfold clipCell
      by_cases h : (cellWidth cw c).toNat ≤ cs.length + 1
      · have h' : ¬ cs.length + 1 ≤ advance cw c := fun h' => (clip_iff cw _ c (by omega)).1 h' h
        simp only [h, h', if_true, if_false, ih]
      · have h' : cs.length + 1 ≤ advance cw c := (clip_iff cw _ c (by omega)).2 h
        simp only [h, h', if_true, if_false, ih, width_clip]
        simp [blankOf, expectedCell, cellWidth]

theorem expectedC_eq (cw : String → Nat) (caps : Caps) (g : Grid) :
    expectedC cw caps g = expected cw caps (clipGrid cw g) := by
  simp only [expectedC, expected, clipGrid, List.map_map]
  apply List.map_congr_left
  intro l _
  exact expectedRowC_eq cw caps l 0

theorem clipRow_id (cw : String → Nat) {caps : Caps} : ∀ (l : List Cell) (k : Nat), FitsRow cw k l →
    expectedRow cw caps k (clipRow cw l) = expectedRow cw caps k l := by
  intro l
  induction l with
  | nil => intro k _; rfl
  | cons c cs ih =>
    intro k hf
    cases k with
    | succ k => simp only [clipRow, expectedRow]; rw [ih k (by simpa [FitsRow] using hf)]
    | zero =>
      simp only [FitsRow, List.length_cons] at hf
      have h' : ¬ cs.length + 1 ≤ advance cw c := fun h' => (clip_iff cw _ c (by omega)).1 h' hf.1
      simp only [clipRow, clipCell, h', if_false, expectedRow]
      rw [ih _ hf.2]

theorem expectedC_of_fits (cw : String → Nat) (caps : Caps) (g : Grid) (h : Fits cw g) :
    expectedC cw caps g = expected cw caps g := by
  rw [expectedC_eq]
  simp only [expected, clipGrid, List.map_map]
  apply List.map_congr_left
  intro l hl
  exact clipRow_id cw l 0 (h l hl)

theorem clipRow_mem (cw : String → Nat) : ∀ (l : List Cell) (c : Cell), c ∈ clipRow cw l →
    ∃ c0 ∈ l, c = c0 ∨ c = { c0 with g := "20", w := 1 } := by
  intro l
  induction l with
  | nil => intro c h; simp [clipRow] at h
  | cons x xs ih =>
    intro c h
    simp only [clipRow, List.mem_cons] at h
    rcases h with rfl | h
    · refine ⟨x, by simp, ?_⟩
      unfold clipCell; split
      · exact Or.inr rfl
      · exact Or.inl rfl
    · obtain ⟨c0, h0, hc⟩ := ih c h
      exact ⟨c0, by simp [h0], hc⟩

theorem clipGrid_cells (cw : String → Nat) (caps : Caps) (hsp : cw "20" = 1) (g : Grid)
    (h : ∀ r ∈ g, ∀ c ∈ r, c.sixel = false ∧ 0 ≤ c.w ∧ WidthOk cw caps c) :
    ∀ r ∈ clipGrid cw g, ∀ c ∈ r, c.sixel = false ∧ 0 ≤ c.w ∧ WidthOk cw caps c := by
  intro r hr c hc
  obtain ⟨l, hl, rfl⟩ := List.mem_map.mp hr
  obtain ⟨c0, h0, hc⟩ := clipRow_mem cw l c hc
  rcases hc with rfl | rfl
  · exact h l hl c h0
  · refine ⟨(h l hl c0 h0).1, by simp, Or.inr (Or.inl ?_)⟩
    simp [hsp]

theorem clipGrid_dims (cw : String → Nat) (g : Grid) (C : Nat) (h : ∀ r ∈ g, r.length = C) :
    (clipGrid cw g).length = g.length ∧ ∀ r ∈ clipGrid cw g, r.length = C := by
  refine ⟨by simp [clipGrid], ?_⟩
  intro r hr
  obtain ⟨l, hl, rfl⟩ := List.mem_map.mp hr
  rw [clipRow_length]; exact h l hl

end VaxisModel.Lemmas.RenderClip
