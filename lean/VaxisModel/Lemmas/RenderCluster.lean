/-
Helper lemmas for `Props/C01Cluster.lean`: the clustering terminal equals the plain one on token
lists without a joining adjacent pair; two raw text writes of `render()` are adjacent on the wire only if
they are the glyphs of consecutive shown cells of one row (`headToks`), and every row's output begins with
a control sequence.  That no grapheme of a row joins a later one of the same row is a stronger condition
(`tight_of_pairwise`).
-/
import VaxisModel.Spec.DisplayCluster
import VaxisModel.Lemmas.RenderSixel

namespace VaxisModel.Lemmas.RenderCluster
open VaxisModel.Model.Render VaxisModel.Spec.Display VaxisModel.Lemmas.RenderToks

theorem runC'_eq (joins : String → String → Bool) (tw : String → Nat) (toks : List Tok) :
    ∀ (t : Term) (p : Option String), adjOk joins p toks = true →
      (runC' joins tw (t, p) toks).1 = run tw t toks := by
  induction toks with
  | nil => intro t p _; rfl
  | cons k rest ih =>
    intro t p h
    cases k with
    | text b =>
      simp only [adjOk, Bool.and_eq_true] at h
      cases p with
      | none =>
        simp only [runC', List.foldl_cons, stepC, run]
        exact ih _ _ h.2
      | some a =>
        have hj : joins a b = false := by simpa using h.1
        simp only [runC', List.foldl_cons, stepC, hj, Bool.false_eq_true, if_false, run]
        exact ih _ _ h.2
    | _ =>
      simp only [adjOk] at h
      simp only [runC', List.foldl_cons, stepC, run]
      exact ih _ _ h

theorem runC_eq_run (joins : String → String → Bool) (tw : String → Nat) (t : Term) (toks : List Tok)
    (h : adjOk joins none toks = true) : runC joins tw t toks = run tw t toks :=
  runC'_eq joins tw toks t none h

theorem adjOk_quiet (joins : String → String → Bool) (p : Option String) (b : List Tok)
    (hb : startsQuiet b = true) : adjOk joins p b = adjOk joins none b := by
  cases b with
  | nil => rfl
  | cons k rest => cases k <;> simp_all [adjOk, startsQuiet]

theorem adjOk_append_quiet (joins : String → String → Bool) (a b : List Tok) (hb : startsQuiet b = true) :
    ∀ p, adjOk joins p (a ++ b) = (adjOk joins p a && adjOk joins none b) := by
  induction a with
  | nil => intro p; simp [adjOk, adjOk_quiet joins p b hb]
  | cons k rest ih =>
    intro p
    cases k <;> simp [adjOk, ih, Bool.and_assoc]

theorem startsQuiet_append (a b : List Tok) (ha : startsQuiet a = true) (hb : startsQuiet b = true) :
    startsQuiet (a ++ b) = true := by
  cases a with
  | nil => exact hb
  | cons k rest => cases k <;> first | rfl | exact ha

theorem texts_append (a b : List Tok) : texts (a ++ b) = texts a ++ texts b := by
  induction a with
  | nil => rfl
  | cons k rest ih => cases k <;> simp [texts, ih]

theorem adjOk_of_pairwise (joins : String → String → Bool) (toks : List Tok) :
    ∀ p : Option String, (p.toList ++ texts toks).Pairwise (fun a b => joins a b = false) →
      adjOk joins p toks = true := by
  induction toks with
  | nil => intro p _; rfl
  | cons k rest ih =>
    intro p h
    cases k with
    | text b =>
      simp only [adjOk, Bool.and_eq_true]
      simp only [texts] at h
      constructor
      · cases p with
        | none => rfl
        | some a =>
          simp only [Option.toList, List.singleton_append, List.pairwise_cons] at h
          simpa using h.1 b List.mem_cons_self
      · apply ih (some b)
        simp only [Option.toList, List.singleton_append]
        exact (List.pairwise_append.1 h).2.1
    | _ =>
      simp only [adjOk]
      apply ih none
      simp only [texts] at h
      simp only [Option.toList, List.nil_append]
      exact (List.pairwise_append.1 h).2.1

/-- The glyph token every cell of a row gets *if* it is written (after the F02 substitution). -/
def shownRow (cw : String → Nat) (caps : Caps) : List Cell → List Tok
  | [] => []
  | n0 :: ns => glyphTok cw caps (clipCell cw (ns.length + 1) n0) :: shownRow cw caps ns

theorem penDelta_no_text (caps : Caps) (pen next : Style) : ∀ k ∈ penDelta caps pen next, ∀ g, k ≠ Tok.text g :=
  penDelta_all_sgr caps pen next (fun _ _ => nofun) (fun _ _ => nofun)

theorem flush_adjOk (joins : String → String → Bool) (caps : Caps) (cn cl : CursorState) (body : List Tok)
    (hbody : adjOk joins none body = true) : adjOk joins none (flush caps cn cl body) = true := by
  unfold flush
  by_cases hemp : body.isEmpty = true
  · simp only [hemp, if_true]
    repeat' split
    all_goals rfl
  · simp only [hemp, Bool.false_eq_true, if_false, List.append_assoc]
    -- the prologue has no text token, so whatever follows starts "after a control sequence"; so does what
    -- follows the body, which begins with the SGR reset
    have hpro : ∀ (rest : List Tok), adjOk joins none
        ((if cl.visible = true then [Tok.decrst 25] else []) ++ ((if caps.sync = true then [Tok.decset 2026] else []) ++ rest)) =
        adjOk joins none rest := by
      intro rest; split <;> split <;> rfl
    have hepi : ∀ (x : List Tok), startsQuiet (Tok.sgr [] :: x) = true := fun _ => rfl
    rw [hpro, List.singleton_append, adjOk_append_quiet joins body _ (hepi _), hbody]
    split <;> split <;> rfl

/-- The glyph tokens of the cells the loop visits (the heads of the row walk: a cell covered by a
    wide glyph to its left is jumped over), in order; an image cell is a separator (the loop writes
    nothing for it and re-addresses the cursor afterwards). -/
def headToks (cw : String → Nat) (caps : Caps) : Nat → List Cell → List Tok
  | _, [] => []
  | skip + 1, _ :: ns => headToks cw caps skip ns
  | 0, n0 :: ns =>
      if n0.sixel then Tok.other "" :: headToks cw caps 0 ns
      else glyphTok cw caps (clipCell cw (ns.length + 1) n0) ::
        headToks cw caps (advance cw (clipCell cw (ns.length + 1) n0)) ns

def tokText : Tok → Option String
  | .text g => some g
  | _ => none

theorem adjOk_tail (joins : String → String → Bool) (p : Option String) (k : Tok) (rest : List Tok)
    (h : adjOk joins p (k :: rest) = true) : adjOk joins (tokText k) rest = true := by
  cases k <;> simp_all [adjOk, tokText]

theorem adjOk_head (joins : String → String → Bool) (a b : String) (rest : List Tok)
    (h : adjOk joins (some a) (Tok.text b :: rest) = true) : joins a b = false := by
  simp only [adjOk, Bool.and_eq_true] at h
  simpa using h.1

theorem adjOk_none_of (joins : String → String → Bool) (p : Option String) (l : List Tok)
    (h : adjOk joins p l = true) : adjOk joins none l = true := by
  cases l with
  | nil => rfl
  | cons k rest => cases k <;> simp_all [adjOk]

theorem adjOk_ctl_prefix (joins : String → String → Bool) (a X : List Tok) (h : ∀ k ∈ a, ∀ g, k ≠ Tok.text g) :
    ∀ p, adjOk joins p (a ++ X) = if a = [] then adjOk joins p X else adjOk joins none X := by
  induction a with
  | nil => intro p; simp
  | cons k rest ih =>
    intro p
    have hk := h k List.mem_cons_self
    have ih' := ih (fun k' hk' => h k' (List.mem_cons_of_mem _ hk'))
    have : adjOk joins p (k :: (rest ++ X)) = adjOk joins none (rest ++ X) := by
      cases k with
      | text g => exact absurd rfl (hk g)
      | _ => rfl
    simp only [List.cons_append, this, ih' none]
    split <;> simp

theorem glyphTok_cases (cw : String → Nat) (caps : Caps) (c : Cell) :
    (∃ g, glyphTok cw caps c = Tok.text g) ∨ (∃ w g, glyphTok cw caps c = Tok.textW w g) := by
  unfold glyphTok glyphTokW
  split
  · exact Or.inl ⟨_, rfl⟩
  · split
    · exact Or.inr ⟨_, _, rfl⟩
    · exact Or.inl ⟨_, rfl⟩

open VaxisModel.Lemmas.RenderDisplay (cellToks) in
/-- **One written cell** in the row invariant below: the cell's tokens in front of what the loop appends for the rest
    of the row (`e`, which may follow the cell's glyph).  After a reposition they begin with OSC 8 / CUP; otherwise
    only the pen delta — if there is one — separates the glyph from the one before (`p`). -/
theorem cellToks_adj (joins : String → String → Bool) (cw : String → Nat) (caps : Caps) (st : RSt) (row col : Nat) (m : Cell)
    (p : Option String) (H e : List Tok) (hH : adjOk joins p (glyphTok cw caps m :: H) = true)
    (he : adjOk joins (tokText (glyphTok cw caps m)) e = true) :
    (st.reposition = true → startsQuiet (cellToks cw caps st row col m ++ e) = true ∧
      adjOk joins none (cellToks cw caps st row col m ++ e) = true) ∧
    (st.reposition = false → adjOk joins p (cellToks cw caps st row col m ++ e) = true) := by
  simp only [cellToks]
  generalize hpre : (if st.reposition = true then
      (if st.pen.link ≠ "" then [Tok.osc8 "" ""] else []) ++ [Tok.cup (↑row + 1) (↑col + 1)] else []) = pre
  generalize (if st.reposition = true ∧ st.pen.link ≠ "" then
      ({ st.pen with link := "", linkParams := "" } : Style) else st.pen) = pen
  constructor
  · -- reposition was set: the cell's tokens begin with OSC 8 / CUP
    intro hr
    have hpre' : pre = (if st.pen.link ≠ "" then [Tok.osc8 "" ""] else []) ++ [Tok.cup (↑row + 1) (↑col + 1)] := by
      rw [← hpre]; simp [hr]
    have hctl : ∀ k ∈ pre ++ penDelta caps pen m.style, ∀ g, k ≠ Tok.text g := by
      intro k hk g hg
      rcases List.mem_append.1 hk with hk | hk
      · rw [hpre'] at hk
        simp only [List.mem_append, List.mem_singleton] at hk
        rcases hk with hk | hk
        · split at hk <;> simp at hk; subst hk; cases hg
        · subst hk; cases hg
      · exact penDelta_no_text caps pen _ k hk g hg
    have hne : pre ++ penDelta caps pen m.style ≠ [] := by
      rw [hpre']; split <;> simp
    constructor
    · rw [hpre']; split <;> rfl
    · have := adjOk_ctl_prefix joins _ ([glyphTok cw caps m] ++ e) hctl none
      simp only [hne, if_false] at this
      rw [show (pre ++ penDelta caps pen m.style ++ [glyphTok cw caps m]) ++ e =
          (pre ++ penDelta caps pen m.style) ++ ([glyphTok cw caps m] ++ e) by simp only [List.append_assoc]]
      rw [this]
      rcases glyphTok_cases cw caps m with ⟨g, hg⟩ | ⟨w, g, hg⟩
      · rw [hg] at he ⊢; simpa [adjOk, tokText] using he
      · rw [hg] at he ⊢; simpa [adjOk, tokText] using he
  · -- reposition was not set: no CUP; the pen delta (if any) separates
    intro hr
    have hpre' : pre = [] := by rw [← hpre]; simp [hr]
    rw [hpre', List.nil_append]
    have hctl : ∀ k ∈ penDelta caps pen m.style, ∀ g, k ≠ Tok.text g := penDelta_no_text caps pen _
    have := adjOk_ctl_prefix joins _ ([glyphTok cw caps m] ++ e) hctl p
    rw [show (penDelta caps pen m.style ++ [glyphTok cw caps m]) ++ e =
          penDelta caps pen m.style ++ ([glyphTok cw caps m] ++ e) by simp only [List.append_assoc]]
    rw [this]
    rcases glyphTok_cases cw caps m with ⟨g, hg⟩ | ⟨w, g, hg⟩
    · rw [hg] at he hH ⊢
      have he' : adjOk joins (some g) e = true := by simpa [tokText] using he
      split
      · -- directly after the previous cell's grapheme
        cases p with
        | none => simpa [adjOk] using he'
        | some a =>
          have := adjOk_head joins a g _ hH
          simp [adjOk, this, he']
      · simpa [adjOk] using he'
    · rw [hg] at he ⊢
      have he' : adjOk joins none e = true := by simpa [tokText] using he
      split <;> simpa [adjOk] using he'

/-- The row invariant in its tight form.  `p` = the grapheme written raw by the directly preceding
    token when `reposition` is false. -/
theorem renderCellsS_adj (joins : String → String → Bool) (cw : String → Nat) (caps : Caps) (refresh : Bool) (row : Nat) :
    ∀ (next last : List Cell) (col skip : Nat) (track : Bool) (dirty : Nat) (st : RSt) (p : Option String),
      adjOk joins p (headToks cw caps skip next) = true →
      ∃ extra, (renderCellsS cw caps refresh row col skip track dirty next last st).2.out = st.out ++ extra ∧
        (st.reposition = true → startsQuiet extra = true ∧ adjOk joins none extra = true) ∧
        (st.reposition = false → adjOk joins p extra = true) := by
  -- from a conclusion for a state with `reposition = true`
  have lift : ∀ (st : RSt) (p : Option String) (e : List Tok), startsQuiet e = true ∧ adjOk joins none e = true →
      (st.reposition = true → startsQuiet e = true ∧ adjOk joins none e = true) ∧
      (st.reposition = false → adjOk joins p e = true) :=
    fun _ p e he => ⟨fun _ => he, fun _ => by rw [adjOk_quiet joins p e he.1]; exact he.2⟩
  refine VaxisModel.Lemmas.RenderSixel.renderCellsS_ind cw caps refresh row
    (M := fun _ skip _ _ ns _ st r => ∀ p, adjOk joins p (headToks cw caps skip ns) = true →
      ∃ extra, r.2.out = st.out ++ extra ∧
        (st.reposition = true → startsQuiet extra = true ∧ adjOk joins none extra = true) ∧
        (st.reposition = false → adjOk joins p extra = true)) ?_ ?_ ?_ ?_ ?_
  · intro _ _ _ _ _ _ st _ p _
    exact ⟨[], (List.append_nil _).symm, fun _ => ⟨rfl, rfl⟩, fun _ => rfl⟩
  · intro _ _ _ _ _ _ _ _ _ _ ih p hH
    simp only [headToks] at hH
    exact ih p hH
  · intro _ _ _ _ _ _ _ st _ hsx ih p hH
    simp only [headToks, hsx, if_true] at hH
    obtain ⟨e, he, h1, _⟩ := ih none (adjOk_tail joins p _ _ hH)
    exact ⟨e, he, lift st p e (h1 rfl)⟩
  · intro _ _ _ _ _ _ _ st _ _ hsx hm _ ih p hH
    simp only [headToks, hsx, Bool.false_eq_true, if_false, hm] at hH
    obtain ⟨e, he, h1, _⟩ := ih _ (adjOk_tail joins p _ _ hH)
    exact ⟨e, he, lift st p e (h1 rfl)⟩
  · intro col _ _ _ _ _ _ st m _ hsx hm _ ih p hH
    simp only [headToks, hsx, Bool.false_eq_true, if_false, hm] at hH
    obtain ⟨e, he, _, h2⟩ := ih _ (adjOk_tail joins p _ _ hH)
    exact ⟨_, by rw [he, List.append_assoc], cellToks_adj joins cw caps st row col m p _ e hH (h2 rfl)⟩

theorem renderRowsS_adjOk_tight (joins : String → String → Bool) (cw : String → Nat) (caps : Caps) (refresh : Bool) :
    ∀ (next last : Grid) (row : Nat) (st : RSt),
      (∀ r ∈ next, adjOk joins none (headToks cw caps 0 r) = true) →
      ∃ extra, (renderRowsS cw caps refresh row next last st).2.out = st.out ++ extra ∧
        startsQuiet extra = true ∧ adjOk joins none extra = true := by
  intro next
  induction next with
  | nil => intro last row st _; exact ⟨[], by simp [renderRowsS], rfl, rfl⟩
  | cons n ns ih =>
    intro last row st h
    cases last with
    | nil => exact ⟨[], by simp [renderRowsS], rfl, rfl⟩
    | cons l ls =>
      simp only [renderRowsS]
      obtain ⟨e1, he1, h1, _⟩ := renderCellsS_adj joins cw caps refresh row n l 0 0 false 0 { st with reposition := true } none
        (h n List.mem_cons_self)
      obtain ⟨hq1, ha1⟩ := h1 rfl
      obtain ⟨e2, he2, hq2, ha2⟩ := ih ls (row + 1)
        (renderCellsS cw caps refresh row 0 0 false 0 n l { st with reposition := true }).2
        (fun r hr => h r (List.mem_cons_of_mem _ hr))
      refine ⟨e1 ++ e2, ?_, ?_, ?_⟩
      · rw [he2, he1]; simp only [List.append_assoc]
      · exact startsQuiet_append e1 e2 hq1 hq2
      · rw [adjOk_append_quiet joins e1 e2 hq2, ha2, ha1]; rfl

/-- The whole frame, from the tight hypothesis: no two horizontally consecutive shown cells join. -/
theorem renderFrameS_adjOk_tight (joins : String → String → Bool) (cw : String → Nat) (f : Frame)
    (h : ∀ r ∈ f.next, adjOk joins none (headToks cw f.caps 0 r) = true) :
    adjOk joins none (renderFrameS cw f).2 = true := by
  unfold renderFrameS renderBodyS
  generalize hpre : (if f.shapeLast ≠ f.shapeNext then [Tok.pointer f.shapeNext] else []) = pre
  obtain ⟨e, he, hq, ha⟩ := renderRowsS_adjOk_tight joins cw f.caps f.refresh f.next f.last 0 { out := pre } h
  generalize hres : renderRowsS cw f.caps f.refresh 0 f.next f.last { out := pre } = res at he
  obtain ⟨last', st⟩ := res
  simp only at he
  simp only [hres, he]
  -- body = pre ++ e ++ close ++ show; every piece but `e` consists of control sequences
  have hbody : adjOk joins none (pre ++ e ++ (if st.pen.link ≠ "" then [Tok.osc8 "" ""] else []) ++
      (if f.cursorNext.visible = true ∧ ¬ f.cursorLast.visible = true then showCursorToks f.cursorNext else [])) = true := by
    have hpre' : adjOk joins none pre = true := by subst hpre; split <;> rfl
    rw [List.append_assoc, List.append_assoc, adjOk_append_quiet joins pre _ ?_, hpre', Bool.true_and]
    · rw [adjOk_append_quiet joins e _ ?_, ha, Bool.true_and]
      · split <;> split <;> rfl
      · split <;> split <;> rfl
    · exact startsQuiet_append e _ hq (by split <;> split <;> rfl)
  exact flush_adjOk joins f.caps f.cursorNext f.cursorLast _ hbody

theorem headToks_sublist (cw : String → Nat) (caps : Caps) :
    ∀ (r : List Cell) (skip : Nat), (texts (headToks cw caps skip r)).Sublist (texts (shownRow cw caps r)) := by
  intro r
  induction r with
  | nil => intro skip; cases skip <;> simp [headToks, shownRow, texts]
  | cons n0 ns ih =>
    intro skip
    have hcons : texts (shownRow cw caps (n0 :: ns)) =
        texts [glyphTok cw caps (clipCell cw (ns.length + 1) n0)] ++ texts (shownRow cw caps ns) := by
      rw [← texts_append]; rfl
    cases skip with
    | succ k =>
      simp only [headToks]
      rw [hcons]
      exact List.Sublist.trans (ih k) (List.sublist_append_right _ _)
    | zero =>
      simp only [headToks]
      split
      · rw [hcons]
        have : texts (Tok.other "" :: headToks cw caps 0 ns) = texts (headToks cw caps 0 ns) := rfl
        rw [this]
        exact List.Sublist.trans (ih 0) (List.sublist_append_right _ _)
      · rw [hcons]
        have : texts (glyphTok cw caps (clipCell cw (ns.length + 1) n0) :: headToks cw caps (advance cw (clipCell cw (ns.length + 1) n0)) ns) =
            texts [glyphTok cw caps (clipCell cw (ns.length + 1) n0)] ++
              texts (headToks cw caps (advance cw (clipCell cw (ns.length + 1) n0)) ns) := by
          rw [← texts_append]; rfl
        rw [this]
        exact List.Sublist.append (List.Sublist.refl _) (ih _)

theorem tight_of_pairwise (joins : String → String → Bool) (cw : String → Nat) (caps : Caps) (r : List Cell)
    (h : (texts (shownRow cw caps r)).Pairwise (fun a b => joins a b = false)) :
    adjOk joins none (headToks cw caps 0 r) = true := by
  apply adjOk_of_pairwise joins _ none
  simp only [Option.toList, List.nil_append]
  exact List.Pairwise.sublist (headToks_sublist cw caps r 0) h

end VaxisModel.Lemmas.RenderCluster
