/-
The cursor clause for a frame that writes something (`renderBody ≠ []`): the hardware cursor ends
up as requested whatever *position* it had before — only its visibility matters, and only when it
was and stays hidden.  This is what makes the first frame after a size change (a refresh of a
non-empty screen) re-establish the cursor although the terminal may have moved it.
(`Props.C01.cursor_as_requested` needs the previous position for the cursor-only flush.)
-/
import VaxisModel.Props.C01
import VaxisModel.Lemmas.RenderDisplay

namespace VaxisModel.Lemmas.RenderCursor
open VaxisModel.Model.Render VaxisModel.Spec VaxisModel.Spec.Display VaxisModel.Lemmas.RenderToks
open VaxisModel.Props.C01

theorem cursor_nonempty (tw cw : String → Nat) (f : Frame) (t : Term)
    (hin : f.cursorNext.visible = true →
      (0 ≤ f.cursorNext.row ∧ f.cursorNext.row < t.rows) ∧ (0 ≤ f.cursorNext.col ∧ f.cursorNext.col < t.cols))
    (hne : (renderBody cw f).2 ≠ [])
    (hvis : f.cursorLast.visible = false → t.cursorVisible = false) :
    CursorAs (run tw t (renderFrame cw f).2) f.cursorNext :=
  flush_cursor_nonempty tw f _ (renderBody_shape cw f) t hin hne hvis

/-- A frame that requests the cursor hidden leaves it hidden — empty body (cursor-only branch of the
    writer) or not, whatever the screen's size (an empty screen included) and wherever the cursor was
    — given only that a cursor last rendered hidden is hidden on the terminal. -/
theorem cursor_hidden (tw cw : String → Nat) (f : Frame) (t : Term) (hv : f.cursorNext.visible = false)
    (hvis : f.cursorLast.visible = false → t.cursorVisible = false) :
    CursorAs (run tw t (renderFrame cw f).2) f.cursorNext := by
  by_cases hne : (renderBody cw f).2 = []
  · simp only [CursorAs, hv, Bool.false_eq_true, if_false]
    unfold renderFrame flush
    simp only [hne, List.isEmpty_nil, if_true, hv, Bool.false_eq_true, not_false_eq_true, true_and]
    by_cases hcl : f.cursorLast.visible = true
    · simp [hcl, run, step]
    · simp only [hcl, if_false, Bool.false_eq_true]
      simpa [run] using hvis (by simpa using hcl)
  · exact cursor_nonempty tw cw f t (fun h => absurd h (by simp [hv])) hne hvis

open VaxisModel.Lemmas.RenderDisplay in
theorem renderCells_out_nonempty (cw : String → Nat) (caps : Caps) (row col : Nat) (track : Bool) (dirty : Nat)
    (c l0 : Cell) (cs ls0 : List Cell) (st : RSt) (hlink : linkRun "" st.out = st.pen.link) (hsx : c.sixel = false) :
    (renderCells cw caps true row col 0 track dirty (c :: cs) (l0 :: ls0) st).2.out ≠ [] := by
  have hc : ¬ (c = l0 ∧ ¬ (true : Bool) = true ∧ col ≥ dirty) := by simp
  rw [renderCells_write_eq cw caps true row col track dirty c l0 cs ls0 st hsx hc]
  simp only
  -- the cell is written, and the rest of the row only appends
  exact (renderCells_post cw caps true row "" cs ls0 (col + 1) (advance cw c) true
    (if col + advance cw l0 + 1 > dirty then col + advance cw l0 + 1 else dirty)
    ⟨false, c.style, st.out ++ cellToks cw caps st row col c⟩ (cell_post cw caps row col "" st c hlink).link).out_ne_nil
    (by simp [cellToks])

theorem renderBody_nonempty (cw : String → Nat) (f : Frame) (hr : f.refresh = true)
    (c : Cell) (cs : List Cell) (ns : Grid) (l0 : Cell) (ls0 : List Cell) (ls : Grid)
    (hn : f.next = (c :: cs) :: ns) (hl : f.last = (l0 :: ls0) :: ls) (hsx : c.sixel = false) :
    (renderBody cw f).2 ≠ [] := by
  unfold renderBody
  generalize hpre : (if f.shapeLast ≠ f.shapeNext then [Tok.pointer f.shapeNext] else []) = pre
  have h0 : linkRun "" pre = "" := by
    subst hpre; split <;> simp [linkRun, linkStep]
  have hout : (renderRows cw f.caps f.refresh 0 f.next f.last { out := pre }).2.out ≠ [] := by
    rw [hn, hl, hr]
    simp only [renderRows]
    have hlink0 : linkRun "" (⟨true, {}, pre⟩ : RSt).out = (⟨true, {}, pre⟩ : RSt).pen.link := h0
    have a := renderCells_out_nonempty cw f.caps 0 0 false 0 c l0 cs ls0 ⟨true, {}, pre⟩ hlink0 hsx
    have p1 := renderCells_post cw f.caps true 0 "" (c :: cs) (l0 :: ls0) 0 0 false 0 ⟨true, {}, pre⟩ hlink0
    exact (renderRows_post cw f.caps true "" ns ls (0 + 1) _ p1.link).out_ne_nil a
  generalize hres : renderRows cw f.caps f.refresh 0 f.next f.last { out := pre } = res at hout
  obtain ⟨last', st⟩ := res
  simp only at hout ⊢
  rw [hres]
  simp only
  intro h
  simp only [List.append_eq_nil_iff] at h
  exact hout h.1.1

end VaxisModel.Lemmas.RenderCursor
