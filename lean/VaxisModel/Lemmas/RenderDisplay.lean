/-
Display proof of C01, the parts that do not depend on which transcription of the cell loop runs: the
tokens of one written cell, interpreted by the reference terminal, perform one `writeRow` (`cell_write`);
well-formed terminal rows; the shape of a frame's tokens around the loop's output.  The induction over a row
is in Lemmas/RenderImages.lean, row algebra in Lemmas/RenderRow.lean, the pen lemma in Lemmas/RenderPen.lean;
Lemmas/RenderToks.lean declares `cellToks`, the tokens of one written cell.
-/
import VaxisModel.Lemmas.RenderToks
import VaxisModel.Lemmas.RenderRow
import VaxisModel.Lemmas.RenderPen
import VaxisModel.Spec.Expected
import VaxisModel.Props.C01

namespace VaxisModel.Lemmas.RenderDisplay
open VaxisModel.Model.Render VaxisModel.Spec VaxisModel.Spec.Display
open VaxisModel.Lemmas.RenderToks VaxisModel.Lemmas.RenderRow VaxisModel.Lemmas.RenderPen
open VaxisModel.Spec.Expected
open VaxisModel.Props.C01 (FitsRow Fits)

theorem lpFieldL_eq : ∀ (n : Nat) (l : List Char), l.length ≤ n → lpFieldL l = paramFieldL l := by
  intro n
  induction n with
  | zero => intro l h; cases l with
    | nil => rfl
    | cons a r => simp at h
  | succ n ih =>
    intro l h
    match l with
    | [] => rfl
    | [a] => rfl
    | a :: b :: r =>
      have hr : r.length ≤ n := by simp at h; omega
      simp only [lpFieldL, paramFieldL, Prod.mk.injEq, ih r hr]

/-- The model's `lpField` (transcribed from `render()`) is the spec's `paramField` (from the OSC 8 syntax). -/
theorem lpField_eq (s : String) : lpField s = paramField s := by
  unfold lpField paramField
  rw [lpFieldL_eq _ _ (Nat.le_refl _)]

@[simp] theorem lpField_empty : lpField "" = "" := by decide

/-- The cell's explicit width (if any) is the width the terminal gives the grapheme, unless the
    explicit-width protocol is in use (then any width > 1 is transmitted). -/
def WidthOk (cw : String → Nat) (caps : Caps) (c : Cell) : Prop :=
  c.w = 0 ∨ c.w = (cw c.g : Int) ∨ (1 < c.w ∧ caps.explicitWidth = true)

/-- How a cell of the previous frame shows on the terminal: its display cell and its advance. -/
def phi (cw : String → Nat) (caps : Caps) (l : Cell) : VCell := (expectedCell cw caps l, advance cw l)

theorem adv_eq (cw : String → Nat) (c : Cell) : advance cw c = (cellWidth cw c).toNat - 1 := by
  unfold advance resolvedW cellWidth
  split <;> split <;> omega

theorem phi_ok (cw : String → Nat) (caps : Caps) (l : Cell) : VOk (phi cw caps l) := by
  left
  unfold phi expectedCell
  simp only
  split
  · rename_i h
    have : advance cw l = 0 := by rw [adv_eq]; omega
    exact ⟨"20", shown caps l.style, paramField (if l.style.link = "" then "" else l.style.linkParams), l.style.link, by rw [this]⟩
  · rename_i h
    have : (cellWidth cw l).toNat = advance cw l + 1 := by rw [adv_eq]; omega
    exact ⟨l.g, shown caps l.style, paramField (if l.style.link = "" then "" else l.style.linkParams), l.style.link, by rw [this]⟩

theorem eRow_map_phi (cw : String → Nat) (caps : Caps) (k : Nat) (ls : List Cell) :
    eRow k (ls.map (phi cw caps)) = expectedRow cw caps k ls := by
  induction ls generalizing k with
  | nil => cases k <;> rfl
  | cons l ls ih =>
    cases k with
    | zero => simp only [List.map_cons, eRow, expectedRow, ih]; simp [phi, adv_eq]
    | succ k => simp only [List.map_cons, eRow, expectedRow, ih]

/-- Tokens that neither print nor move the cursor (`cup` is allowed when inside the screen). -/
def NoPrint (R C : Nat) : Tok → Prop
  | .text _ | .textW _ _ => False
  | .cup r c => 1 ≤ r ∧ r ≤ (R : Int) ∧ 1 ≤ c ∧ c ≤ (C : Int)
  | _ => True

structure SameGrid (t t' : Term) : Prop where
  grid : t'.grid = t.grid
  bad : t'.bad = t.bad
  rows : t'.rows = t.rows
  cols : t'.cols = t.cols

theorem SameGrid.refl (t : Term) : SameGrid t t := ⟨rfl, rfl, rfl, rfl⟩

theorem SameGrid.trans {t t' t'' : Term} (h : SameGrid t t') (h' : SameGrid t' t'') : SameGrid t t'' :=
  ⟨h'.grid.trans h.grid, h'.bad.trans h.bad, h'.rows.trans h.rows, h'.cols.trans h.cols⟩

theorem step_noPrint (tw : String → Nat) (t : Term) (k : Tok) (h : NoPrint t.rows t.cols k) :
    SameGrid t (step tw t k) := by
  suffices h : (step tw t k).grid = t.grid ∧ (step tw t k).bad = t.bad from
    ⟨h.1, h.2, (step_frame tw t k).rows, (step_frame tw t k).cols⟩
  cases k <;> simp only [NoPrint] at h <;> simp only [step]
  case cup r c =>
    have : ¬ (r < 1 ∨ c < 1 ∨ r > (t.rows : Int) ∨ c > (t.cols : Int)) := by omega
    simp [this]
  case osc8 p u => split <;> simp
  case decset n => repeat' split
                   all_goals simp
  case decrst n => repeat' split
                   all_goals simp
  all_goals simp

theorem run_noPrint (tw : String → Nat) (toks : List Tok) (t : Term) (h : ∀ k ∈ toks, NoPrint t.rows t.cols k) :
    SameGrid t (run tw t toks) :=
  run_keeps tw (J := SameGrid t)
    (fun t' k ht hk => ht.trans (step_noPrint tw t' k (by rw [ht.rows, ht.cols]; exact hk)))
    toks h t (SameGrid.refl t)

/-- Style tokens (SGR, OSC 8) additionally leave the cursor alone. -/
def StyleTok : Tok → Prop
  | .sgr _ | .osc8 _ _ => True
  | _ => False

theorem step_style (tw : String → Nat) (t : Term) (k : Tok) (h : StyleTok k) :
    (step tw t k).row = t.row ∧ (step tw t k).col = t.col ∧ (step tw t k).pw = t.pw := by
  cases k <;> simp only [StyleTok] at h <;> simp only [step]
  case osc8 p u => split <;> simp
  all_goals simp

theorem run_style (tw : String → Nat) (toks : List Tok) (h : ∀ k ∈ toks, StyleTok k) (t : Term) :
    (run tw t toks).row = t.row ∧ (run tw t toks).col = t.col ∧ (run tw t toks).pw = t.pw :=
  run_keeps tw (J := fun t' => t'.row = t.row ∧ t'.col = t.col ∧ t'.pw = t.pw)
    (fun t' k ht hk => by
      obtain ⟨a1, a2, a3⟩ := step_style tw t' k hk
      exact ⟨a1.trans ht.1, a2.trans ht.2.1, a3.trans ht.2.2⟩)
    toks h t ⟨rfl, rfl, rfl⟩

theorem StyleTok.noPrint {R C : Nat} {k : Tok} (h : StyleTok k) : NoPrint R C k := by
  cases k <;> simp [StyleTok] at h <;> trivial

theorem putGlyph_ok (t : Term) (g : String) (w : Nat) (r : List DCell) (hw : 1 ≤ w) (hpw : t.pw = false)
    (hfit : t.col + w ≤ t.cols) (hr : t.grid[t.row]? = some r) :
    (putGlyph t g w).bad = t.bad ∧
    (putGlyph t g w).grid = t.grid.set t.row (writeRow r t.col w (DCell.glyph g w t.pen t.linkParams t.link)) ∧
    (putGlyph t g w).row = t.row ∧
    (t.col + w < t.cols → (putGlyph t g w).col = t.col + w ∧ (putGlyph t g w).pw = false) ∧
    (putGlyph t g w).pen = t.pen ∧ (putGlyph t g w).link = t.link ∧
    (putGlyph t g w).linkParams = t.linkParams ∧ (putGlyph t g w).rows = t.rows ∧ (putGlyph t g w).cols = t.cols := by
  unfold putGlyph
  have h1 : ¬ (w = 0) := by omega
  have h2 : ¬ (t.col + w > t.cols) := by omega
  simp only [h1, hpw, h2, if_false, hr, Bool.false_eq_true]
  split
  · refine ⟨rfl, rfl, rfl, ?_, rfl, rfl, rfl, rfl, rfl⟩
    intro h; omega
  · refine ⟨rfl, rfl, rfl, ?_, rfl, rfl, rfl, rfl, rfl⟩
    intro _; exact ⟨rfl, rfl⟩

/-- What `glyphTok` prints for an admissible cell: grapheme and width. -/
def shownG (cw : String → Nat) (c : Cell) : String := if cellWidth cw c ≤ 0 then "20" else c.g

theorem glyph_step (cw : String → Nat) (caps : Caps) (c : Cell) (t : Term) (hsp : cw "20" = 1)
    (hw0 : 0 ≤ c.w) (hok : WidthOk cw caps c) :
    step cw t (glyphTok cw caps c) = putGlyph t (shownG cw c) (advance cw c + 1) := by
  have hrw : resolvedW cw c = cellWidth cw c := rfl
  unfold glyphTok glyphTokW shownG
  rw [hrw]
  have hadv : advance cw c = (cellWidth cw c).toNat - 1 := adv_eq cw c
  by_cases h0 : cellWidth cw c = 0
  · have : cellWidth cw c ≤ 0 := by omega
    simp only [h0, if_true, step, hsp, hadv]
    rfl
  · have hpos : 0 < cellWidth cw c := by
      unfold cellWidth at h0 ⊢; split at h0 <;> split <;> omega
    have hn : ¬ (cellWidth cw c ≤ 0) := by omega
    simp only [h0, hn, if_false]
    have hwd : (cellWidth cw c).toNat = advance cw c + 1 := by omega
    split
    · rename_i h
      simp only [step]
      have : ¬ (cellWidth cw c < 1) := by omega
      simp only [this, if_false, hwd]
    · rename_i h
      simp only [step]
      congr 1
      rw [← hwd]
      unfold cellWidth at *
      rcases hok with hk | hk | hk
      · simp only [hk, if_true]; simp
      · split
        · simp
        · rw [hk]; simp
      · exfalso; apply h; refine ⟨?_, hk.2⟩
        have : ¬ c.w = 0 := by omega
        simp only [this, if_false]; exact hk.1

theorem expectedCell_eq (cw : String → Nat) (caps : Caps) (c : Cell) :
    expectedCell cw caps c = DCell.glyph (shownG cw c) (advance cw c + 1) (shown caps c.style) (lpOf c.style) c.style.link := by
  unfold expectedCell shownG lpOf
  rw [lpField_eq]
  have hadv : advance cw c = (cellWidth cw c).toNat - 1 := adv_eq cw c
  simp only
  split
  · rename_i h
    have : advance cw c = 0 := by omega
    rw [this]
  · rename_i h
    have : (cellWidth cw c).toNat = advance cw c + 1 := by omega
    rw [this]

theorem penDelta_style (caps : Caps) (pen next : Style) : ∀ k ∈ penDelta caps pen next, StyleTok k :=
  penDelta_all_sgr caps pen next (fun _ => trivial) (fun _ => trivial)

/-- The terminal is sane and its registers show the tracked pen `p`: pen, hyperlink and hyperlink parameters. -/
structure Tracks (caps : Caps) (t : Term) (p : Style) : Prop where
  bad : t.bad = none
  pen : t.pen = shown caps p
  link : t.link = p.link
  lp : t.linkParams = lpOf p

theorem Tracks.delta (cw : String → Nat) {caps : Caps} {t : Term} {pen : Style} (h : Tracks caps t pen) (next : Style) :
    Tracks caps (run cw t (penDelta caps pen next)) next := by
  have a := run_noPrint cw (penDelta caps pen next) t (fun k hk => (penDelta_style caps pen next k hk).noPrint)
  have c := run_fields cw (penDelta caps pen next) t
  exact ⟨a.bad.trans h.bad, by rw [c.pen, h.pen, penRun_penDelta], by rw [c.link, h.link, linkRun_penDelta],
    by rw [c.linkParams, h.lp, lpRun_penDelta]⟩

/-- The terminal state just before a glyph is printed at `(row, col)` with tracked pen `pen`. -/
structure Cur (caps : Caps) (t : Term) (p : Style) (r c : Nat) : Prop extends Tracks caps t p where
  row : t.row = r
  col : t.col = c
  pw : t.pw = false

theorem delta_run (cw : String → Nat) (caps : Caps) (t : Term) (pen next : Style) (row col : Nat)
    (h : Cur caps t pen row col) :
    Cur caps (run cw t (penDelta caps pen next)) next row col ∧ SameGrid t (run cw t (penDelta caps pen next)) := by
  have hst := penDelta_style caps pen next
  obtain ⟨b1, b2, b3⟩ := run_style cw (penDelta caps pen next) hst t
  exact ⟨⟨h.toTracks.delta cw next, b1.trans h.row, b2.trans h.col, b3.trans h.pw⟩,
    run_noPrint cw (penDelta caps pen next) t (fun k hk => (hst k hk).noPrint)⟩

/-- The terminal between two cells of the loop: pen and hyperlink are the tracked ones; if no
    reposition is pending the cursor stands at column `pos` of `row` (unless the row is full). -/
structure TInv (caps : Caps) (t : Term) (st : RSt) (row pos : Nat) : Prop extends Tracks caps t st.pen where
  cur : st.reposition = false → t.row = row ∧ (pos < t.cols → t.col = pos ∧ t.pw = false)

theorem cup_run (cw : String → Nat) (t : Term) (row col : Nat) (hr : row < t.rows) (hc : col < t.cols) :
    run cw t [Tok.cup (row + 1) (col + 1)] = { t with row := row, col := col, pw := false } := by
  simp only [run, List.foldl_cons, List.foldl_nil, step]
  have : ¬ ((row : Int) + 1 < 1 ∨ (col : Int) + 1 < 1 ∨ (row : Int) + 1 > t.rows ∨ (col : Int) + 1 > t.cols) := by omega
  simp only [this, if_false]
  simp

theorem pre_run (cw : String → Nat) (caps : Caps) (t : Term) (st : RSt) (row col : Nat)
    (h : TInv caps t st row col) (hr : row < t.rows) (hc : col < t.cols) :
    let pre : List Tok := if st.reposition then
        (if st.pen.link ≠ "" then [Tok.osc8 "" ""] else []) ++ [Tok.cup (row + 1) (col + 1)] else []
    let pen : Style := if st.reposition ∧ st.pen.link ≠ "" then { st.pen with link := "", linkParams := "" } else st.pen
    Cur caps (run cw t pre) pen row col ∧ SameGrid t (run cw t pre) := by
  intro pre pen
  by_cases hrp : st.reposition = true
  · by_cases hl : st.pen.link = ""
    · have hpre : pre = [Tok.cup (row + 1) (col + 1)] := by simp [pre, hrp, hl]
      have hpen : pen = st.pen := by simp [pen, hl]
      rw [hpre, hpen, cup_run cw t row col hr hc]
      exact ⟨⟨⟨h.bad, h.pen, h.link, h.lp⟩, rfl, rfl, rfl⟩, rfl, rfl, rfl, rfl⟩
    · have hpre : pre = [Tok.osc8 "" ""] ++ [Tok.cup (row + 1) (col + 1)] := by simp [pre, hrp, hl]
      have hpen : pen = { st.pen with link := "", linkParams := "" } := by simp [pen, hrp, hl]
      rw [hpre, hpen, DisplayBasic.run_append]
      have h1 : run cw t [Tok.osc8 "" ""] = { t with link := "", linkParams := "" } := by
        simp [run, step]
      rw [h1, cup_run cw { t with link := "", linkParams := "" } row col hr hc]
      refine ⟨⟨⟨h.bad, ?_, rfl, ?_⟩, rfl, rfl, rfl⟩, rfl, h.bad ▸ rfl, rfl, rfl⟩
      · simp only [h.pen]; rfl
      · simp [lpOf]
  · have hrp' : st.reposition = false := by simpa using hrp
    have hpre : pre = [] := by simp [pre, hrp']
    have hpen : pen = st.pen := by simp [pen, hrp']
    rw [hpre, hpen]
    obtain ⟨c1, c2⟩ := h.cur hrp'
    obtain ⟨c2, c3⟩ := c2 hc
    exact ⟨⟨h.toTracks, c1, c2, c3⟩, SameGrid.refl t⟩

/-- **One written cell**: the tokens `render` writes for a changed cell perform `writeRow` at the current
    column of the row under work, whatever that row holds.  In the loop's terms: `t` is the terminal after all
    written so far (`st.out`), `st'` the loop state after the cell. -/
theorem cell_write (cw : String → Nat) (caps : Caps) (hsp : cw "20" = 1) (t0 t : Term) (st st' : RSt) (row col : Nat)
    (n : Cell) (r : List DCell) (ht : run cw t0 st.out = t)
    (hst' : st' = { reposition := false, pen := n.style, out := st.out ++ cellToks cw caps st row col n })
    (h : TInv caps t st row col) (hr : row < t.rows) (hcols : col + (advance cw n + 1) ≤ t.cols)
    (hg : t.grid[row]? = some r)
    (hw0 : 0 ≤ n.w) (hwok : WidthOk cw caps n) :
    (run cw t0 st'.out).grid = t.grid.set row (writeRow r col (advance cw n + 1) (expectedCell cw caps n)) ∧
    (run cw t0 st'.out).rows = t.rows ∧ (run cw t0 st'.out).cols = t.cols ∧
    TInv caps (run cw t0 st'.out) st' row (col + 1 + advance cw n) := by
  have e : run cw t0 st'.out = run cw t (cellToks cw caps st row col n) := by rw [hst', DisplayBasic.run_append, ht]
  rw [e]
  subst hst'
  generalize ht0 : run cw t (cellToks cw caps st row col n) = t'
  have hc : col < t.cols := by omega
  obtain ⟨hc1, s1⟩ := pre_run cw caps t st row col h hr hc
  generalize hpre : (if st.reposition then
        (if st.pen.link ≠ "" then [Tok.osc8 "" ""] else []) ++ [Tok.cup (row + 1) (col + 1)] else []) = pre at hc1 s1
  generalize hpen : (if st.reposition ∧ st.pen.link ≠ "" then ({ st.pen with link := "", linkParams := "" } : Style) else st.pen) = pen at hc1
  obtain ⟨hc2, s2⟩ := delta_run cw caps (run cw t pre) pen n.style row col hc1
  replace s2 := s1.trans s2
  have ht' : t' = putGlyph (run cw (run cw t pre) (penDelta caps pen n.style)) (shownG cw n) (advance cw n + 1) := by
    rw [← ht0]
    simp only [cellToks, hpre, hpen, DisplayBasic.run_append]
    simp only [run, List.foldl_cons, List.foldl_nil]
    exact glyph_step cw caps n _ hsp hw0 hwok
  generalize run cw (run cw t pre) (penDelta caps pen n.style) = t2 at hc2 s2 ht'
  have hg2 : t2.grid[t2.row]? = some r := by rw [hc2.row, s2.grid]; exact hg
  have hfit2 : t2.col + (advance cw n + 1) ≤ t2.cols := by rw [hc2.col, s2.cols]; omega
  obtain ⟨p1, p2, p3, p4, p5, p6, p7, p8, p9⟩ := putGlyph_ok t2 (shownG cw n) (advance cw n + 1) _ (by omega) hc2.pw hfit2 hg2
  rw [← ht'] at p1 p2 p3 p4 p5 p6 p7 p8 p9
  refine ⟨?_, by rw [p8, s2.rows], by rw [p9, s2.cols], ⟨⟨by rw [p1, hc2.bad], by rw [p5, hc2.pen], by rw [p6, hc2.link], by rw [p7, hc2.lp]⟩, ?_⟩⟩
  · rw [p2, hc2.row, hc2.col, s2.grid, hc2.pen, hc2.lp, hc2.link, ← expectedCell_eq]
  · intro _
    refine ⟨by rw [p3, hc2.row], ?_⟩
    intro hlt
    rw [p9, s2.cols] at hlt
    have := p4 (by rw [hc2.col, s2.cols]; omega)
    rw [hc2.col] at this
    exact ⟨by rw [this.1]; omega, this.2⟩

theorem renderCells_write_eq (cw : String → Nat) (caps : Caps) (refresh : Bool) (row col : Nat) (track : Bool)
    (dirty : Nat) (n l : Cell) (ns ls : List Cell) (st : RSt) (h : n.sixel = false)
    (hc : ¬ (n = l ∧ ¬ refresh ∧ col ≥ dirty)) :
    renderCells cw caps refresh row col 0 track dirty (n :: ns) (l :: ls) st =
      (n :: (renderCells cw caps refresh row (col + 1) (advance cw n) true
              (if col + advance cw l + 1 > dirty then col + advance cw l + 1 else dirty) ns ls
              { reposition := false, pen := n.style, out := st.out ++ cellToks cw caps st row col n }).1,
       (renderCells cw caps refresh row (col + 1) (advance cw n) true
              (if col + advance cw l + 1 > dirty then col + advance cw l + 1 else dirty) ns ls
              { reposition := false, pen := n.style, out := st.out ++ cellToks cw caps st row col n }).2) := by
  simp only [renderCells, h, hc, Bool.false_eq_true, if_false]
  rfl

/-- The new `last` row means what the new row means: skipped cells are nulled, the others copied. -/
theorem renderCells_last (cw : String → Nat) (caps : Caps) (refresh : Bool) (row : Nat) :
    ∀ (ns ls : List Cell) (col skip : Nat) (track : Bool) (dirty : Nat) (st : RSt),
      ns.length = ls.length → (∀ c ∈ ns, c.sixel = false) →
      expectedRow cw caps skip (renderCells cw caps refresh row col skip track dirty ns ls st).1
        = expectedRow cw caps skip ns := by
  intro ns
  induction ns with
  | nil => intro ls col skip track dirty st _ _; simp [renderCells]
  | cons n ns ih =>
    intro ls col skip track dirty st hl hs
    have hs' : ∀ c ∈ ns, c.sixel = false := fun c hc => hs c (List.mem_cons_of_mem _ hc)
    cases ls with
    | nil => simp at hl
    | cons l ls =>
      have hl' : ns.length = ls.length := by simpa using hl
      cases skip with
      | succ k => simp only [renderCells, expectedRow, ih ls _ k _ _ st hl' hs']
      | zero =>
        simp only [renderCells, hs n List.mem_cons_self, Bool.false_eq_true, if_false]
        split
        · rename_i hc
          simp only [← hc.1, expectedRow, ← adv_eq, ih ls _ _ _ _ _ hl' hs']
        · simp only [expectedRow, ← adv_eq, ih ls _ _ _ _ _ hl' hs']

theorem renderRows_last (cw : String → Nat) (caps : Caps) (refresh : Bool) :
    ∀ (ns ls : Grid) (row : Nat) (st : RSt), ns.length = ls.length →
      (∀ r ∈ ns, ∀ r' ∈ ls, r.length = r'.length) → (∀ r ∈ ns, ∀ c ∈ r, c.sixel = false) →
      expected cw caps (renderRows cw caps refresh row ns ls st).1 = expected cw caps ns := by
  intro ns
  induction ns with
  | nil => intro ls row st _ _ _; simp [renderRows]
  | cons n ns ih =>
    intro ls row st hl hlen hs
    cases ls with
    | nil => simp at hl
    | cons l ls =>
      simp only [renderRows, expected, List.map_cons]
      have := ih ls (row + 1) (renderCells cw caps refresh row 0 0 false 0 n l { st with reposition := true }).2
        (by simpa using hl) (fun r hr r' hr' => hlen r (List.mem_cons_of_mem _ hr) r' (List.mem_cons_of_mem _ hr'))
        (fun r hr => hs r (List.mem_cons_of_mem _ hr))
      simp only [expected] at this
      rw [this, renderCells_last cw caps refresh row n l 0 0 false 0 _
        (hlen n List.mem_cons_self l List.mem_cons_self) (hs n List.mem_cons_self)]

/-- A terminal row is well formed when every continuation cell is owned: a glyph of width `w` is
    followed by exactly `w - 1` continuation cells (fewer only at the end of the row). `k` =
    continuation cells still owed. -/
def WFRow : Nat → List DCell → Prop
  | _, [] => True
  | 0, DCell.glyph _ w _ _ _ :: r => 1 ≤ w ∧ WFRow (w - 1) r
  | 0, DCell.poison :: r => WFRow 0 r
  | 0, DCell.cont :: _ => False
  | k + 1, DCell.cont :: r => WFRow k r
  | _ + 1, DCell.glyph _ _ _ _ _ :: _ => False
  | _ + 1, DCell.poison :: _ => False

theorem wf_eRow : ∀ (r : List DCell) (k : Nat), WFRow k r →
    ∃ V : List VCell, r = eRow k V ∧ V.length = r.length ∧ ∀ v ∈ V, VOk v := by
  intro r
  induction r with
  | nil => intro k _; exact ⟨[], by cases k <;> rfl, rfl, by simp⟩
  | cons x r ih =>
    intro k h
    cases k with
    | zero =>
      cases x with
      | glyph g w st lp lk =>
        obtain ⟨hw, h'⟩ := h
        obtain ⟨V, e, hl, hv⟩ := ih (w - 1) h'
        refine ⟨(DCell.glyph g w st lp lk, w - 1) :: V, by simp [eRow, ← e], by simp [hl], ?_⟩
        intro v hv'
        rcases List.mem_cons.mp hv' with rfl | hv'
        · left; exact ⟨g, st, lp, lk, by simp; omega⟩
        · exact hv v hv'
      | cont => exact absurd h (by simp [WFRow])
      | poison =>
        obtain ⟨V, e, hl, hv⟩ := ih 0 h
        refine ⟨(DCell.poison, 0) :: V, by simp [eRow, ← e], by simp [hl], ?_⟩
        intro v hv'
        rcases List.mem_cons.mp hv' with rfl | hv'
        · right; exact ⟨rfl, rfl⟩
        · exact hv v hv'
    | succ k =>
      cases x with
      | glyph g w st lp lk => exact absurd h (by simp [WFRow])
      | poison => exact absurd h (by simp [WFRow])
      | cont =>
        obtain ⟨V, e, hl, hv⟩ := ih k h
        refine ⟨(DCell.poison, 0) :: V, by simp [eRow, ← e], by simp [hl], ?_⟩
        intro v hv'
        rcases List.mem_cons.mp hv' with rfl | hv'
        · right; exact ⟨rfl, rfl⟩
        · exact hv v hv'

theorem eRow_wf : ∀ (V : List VCell) (k : Nat), (∀ v ∈ V, VOk v) → WFRow k (eRow k V) := by
  intro V
  induction V with
  | nil => intro k _; cases k <;> simp [eRow, WFRow]
  | cons v V ih =>
    intro k h
    have h' : ∀ x ∈ V, VOk x := fun x hx => h x (by simp [hx])
    cases k with
    | succ k => simp only [eRow, WFRow]; exact ih k h'
    | zero =>
      simp only [eRow]
      rcases h v (by simp) with ⟨g, st, lp, lk, e⟩ | ⟨e1, e2⟩
      · rw [e]; simp only [WFRow]; exact ⟨by omega, by simpa using ih v.2 h'⟩
      · rw [e1, e2]; simp only [WFRow]; exact ih 0 h'

theorem expectedRow_wf (cw : String → Nat) (caps : Caps) (l : List Cell) : WFRow 0 (expectedRow cw caps 0 l) := by
  rw [← eRow_map_phi]
  apply eRow_wf
  intro v hv
  obtain ⟨c, _, rfl⟩ := List.mem_map.mp hv
  exact phi_ok cw caps c

def PreTok : Tok → Prop
  | .decset _ | .decrst _ | .pointer _ => True
  | _ => False

theorem PreTok.noPrint {R C : Nat} {k : Tok} (h : PreTok k) : NoPrint R C k := by
  cases k <;> first | trivial | exact h.elim

structure SamePen (t t' : Term) : Prop extends SameGrid t t' where
  pen : t'.pen = t.pen
  link : t'.link = t.link
  linkParams : t'.linkParams = t.linkParams

theorem SamePen.trans {t t' t'' : Term} (h : SamePen t t') (h' : SamePen t' t'') : SamePen t t'' :=
  ⟨h.toSameGrid.trans h'.toSameGrid, h'.pen.trans h.pen, h'.link.trans h.link, h'.linkParams.trans h.linkParams⟩

theorem step_preTok (tw : String → Nat) (t : Term) (k : Tok) (h : PreTok k) : SamePen t (step tw t k) := by
  have b := step_frame tw t k
  refine ⟨step_noPrint tw t k h.noPrint, b.pen.trans ?_, b.link.trans ?_, b.linkParams.trans ?_⟩ <;>
    cases k <;> first | rfl | exact h.elim

theorem run_preToks (tw : String → Nat) (toks : List Tok) (h : ∀ k ∈ toks, PreTok k) (t : Term) :
    SamePen t (run tw t toks) :=
  run_keeps tw (J := SamePen t) (fun t' k ht hk => ht.trans (step_preTok tw t' k hk)) toks h t
    ⟨SameGrid.refl t, rfl, rfl, rfl⟩

theorem showCursor_noPrint (R C : Nat) (c : CursorState)
    (h : (0 ≤ c.row ∧ c.row < R) ∧ (0 ≤ c.col ∧ c.col < C)) : ∀ k ∈ showCursorToks c, NoPrint R C k := by
  intro k hk
  simp only [showCursorToks, List.mem_cons, List.not_mem_nil, or_false] at hk
  rcases hk with rfl | rfl | rfl
  · trivial
  · simp only [NoPrint]; omega
  · trivial

/-- The cursor-only branch of `Flush`. -/
def cursorOnly (cn cl : CursorState) : List Tok :=
  if ¬ cn.visible ∧ cl.visible then [.decrst 25]
  else if ¬ cn.visible then []
  else if cn.row ≠ cl.row then showCursorToks cn
  else if cn.col ≠ cl.col then showCursorToks cn
  else if cn.style ≠ cl.style then showCursorToks cn
  else []

theorem cursorOnly_noPrint (R C : Nat) (cn cl : CursorState)
    (hcur : cn.visible = true → (0 ≤ cn.row ∧ cn.row < R) ∧ (0 ≤ cn.col ∧ cn.col < C)) :
    ∀ k ∈ cursorOnly cn cl, NoPrint R C k := by
  intro k hk
  have : k = Tok.decrst 25 ∨ (cn.visible = true ∧ k ∈ showCursorToks cn) := by
    unfold cursorOnly at hk
    by_cases hv : cn.visible = true
    · simp only [hv, not_true_eq_false, false_and, if_false] at hk
      repeat' split at hk
      all_goals first | exact Or.inr ⟨hv, hk⟩ | cases hk
    · simp only [hv] at hk
      split at hk
      · exact Or.inl (List.mem_singleton.mp hk)
      · cases hk
  rcases this with rfl | ⟨hv, h⟩
  · trivial
  · exact showCursor_noPrint R C cn (hcur hv) k h

/-- What the writer puts around the cell-loop output `st.out` (followed in the body by the hyperlink close and the
    cursor show): a prologue, and an epilogue that does not print. -/
theorem flush_shape (f : Frame) (R C : Nat)
    (hcur : f.cursorNext.visible = true →
      (0 ≤ f.cursorNext.row ∧ f.cursorNext.row < R) ∧ (0 ≤ f.cursorNext.col ∧ f.cursorNext.col < C)) (st : RSt) :
    ∃ (X Y : List Tok),
      flush f.caps f.cursorNext f.cursorLast (st.out ++ (if st.pen.link ≠ "" then [Tok.osc8 "" ""] else []) ++
        (if f.cursorNext.visible ∧ ¬ f.cursorLast.visible then showCursorToks f.cursorNext else [])) = X ++ st.out ++ Y ∧
      (∀ k ∈ X, PreTok k) ∧ (∀ k ∈ Y, NoPrint R C k) := by
  unfold flush
  by_cases hemp : (st.out ++ (if st.pen.link ≠ "" then [Tok.osc8 "" ""] else []) ++
      (if f.cursorNext.visible = true ∧ ¬ f.cursorLast.visible = true then showCursorToks f.cursorNext else [])).isEmpty = true
  · simp only [hemp, if_true]
    have h0 := hemp
    simp only [List.isEmpty_iff, List.append_eq_nil_iff] at h0
    obtain ⟨⟨ho, hcl⟩, _⟩ := h0
    exact ⟨[], cursorOnly f.cursorNext f.cursorLast, by rw [ho]; rfl, by simp,
      cursorOnly_noPrint R C f.cursorNext f.cursorLast hcur⟩
  · simp only [hemp, Bool.false_eq_true, if_false]
    refine ⟨(if f.cursorLast.visible = true then [Tok.decrst 25] else []) ++
        (if f.caps.sync = true then [Tok.decset 2026] else []),
      (if st.pen.link ≠ "" then [Tok.osc8 "" ""] else []) ++
      (if f.cursorNext.visible = true ∧ ¬ f.cursorLast.visible = true then showCursorToks f.cursorNext else []) ++
      [Tok.sgr []] ++
      (if f.cursorNext.visible = true ∧ f.cursorLast.visible = true then showCursorToks f.cursorNext else []) ++
      (if f.caps.sync = true then [Tok.decrst 2026] else []), by simp only [List.append_assoc], ?_, ?_⟩
    · intro k hk
      rcases List.mem_append.mp hk with h | h <;> split at h <;> simp at h <;> subst h <;> trivial
    · intro k hk
      simp only [List.mem_append] at hk
      rcases hk with (((h | h) | h) | h) | h
      · split at h <;> simp at h
        subst h; trivial
      · split at h
        · rename_i hv; exact showCursor_noPrint R C _ (hcur hv.1) k h
        · simp at h
      · simp at h; subst h; trivial
      · split at h
        · rename_i hv; exact showCursor_noPrint R C _ (hcur hv.1) k h
        · simp at h
      · split at h <;> simp at h
        subst h; trivial

theorem frame_shape (cw : String → Nat) (f : Frame) (R C : Nat)
    (hcur : f.cursorNext.visible = true →
      (0 ≤ f.cursorNext.row ∧ f.cursorNext.row < R) ∧ (0 ≤ f.cursorNext.col ∧ f.cursorNext.col < C)) :
    ∃ (pre X Y : List Tok), (pre = [] ∨ ∃ s, pre = [Tok.pointer s]) ∧
      (renderFrame cw f).1 = (renderRows cw f.caps f.refresh 0 f.next f.last { out := pre }).1 ∧
      (renderFrame cw f).2 = X ++ (renderRows cw f.caps f.refresh 0 f.next f.last { out := pre }).2.out ++ Y ∧
      (∀ k ∈ X, PreTok k) ∧ (∀ k ∈ Y, NoPrint R C k) := by
  obtain ⟨X, Y, h⟩ := flush_shape f R C hcur
    (renderRows cw f.caps f.refresh 0 f.next f.last { out := if f.shapeLast ≠ f.shapeNext then [Tok.pointer f.shapeNext] else [] }).2
  exact ⟨_, X, Y, by split <;> simp, rfl, h⟩

theorem expectedRow_length (cw : String → Nat) (caps : Caps) (k : Nat) (l : List Cell) :
    (expectedRow cw caps k l).length = l.length := by
  rw [← eRow_map_phi]; simp

theorem expected_dims (cw : String → Nat) (caps : Caps) (C : Nat) :
    ∀ (a b : Grid), expected cw caps a = expected cw caps b → (∀ r ∈ b, r.length = C) →
      a.length = b.length ∧ ∀ r ∈ a, r.length = C := by
  intro a
  induction a with
  | nil =>
    intro b h _
    cases b with
    | nil => exact ⟨rfl, by simp⟩
    | cons _ _ => simp [expected] at h
  | cons x a ih =>
    intro b h hb
    cases b with
    | nil => simp [expected] at h
    | cons y b =>
      simp only [expected, List.map_cons, List.cons.injEq] at h
      obtain ⟨h1, h2⟩ := ih b h.2 (fun r hr => hb r (by simp [hr]))
      refine ⟨by simp [h1], ?_⟩
      intro r hr
      rcases List.mem_cons.mp hr with rfl | hr
      · have := congrArg List.length h.1
        rw [expectedRow_length, expectedRow_length] at this
        rw [this]; exact hb y (by simp)
      · exact h2 r hr

end VaxisModel.Lemmas.RenderDisplay
