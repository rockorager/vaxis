/-
Interpretation of the tables `Gen/RenderFacts.lean` extracts from `render()`: the attribute on/off
chains (names resolved through `Gen.SgrCases.attrConsts` and the strings of `Gen.Sequences`, lexed
by `toksOf`) and the order of the six style-field deltas.
-/
import VaxisModel.Gen.RenderFacts
import VaxisModel.Gen.Sequences
import VaxisModel.Gen.SgrCases
import VaxisModel.Model.Lifecycle
import VaxisModel.Lemmas.RenderFactsPinned

namespace VaxisModel.Lemmas.RenderFacts
open VaxisModel.Model.Render VaxisModel.Model.Lifecycle

/-- Attribute constant by Go name (style.go, regenerated). -/
def bitOf (name : String) : Nat := (VaxisModel.Gen.SgrCases.attrConsts.lookup name).getD 0

/-- The escape strings `render()` writes for attributes, by Go name (sequences.go, regenerated). -/
def seqTable : List (String × String) :=
  open VaxisModel.Gen.Sequences in
  [("boldSet", boldSet), ("dimSet", dimSet), ("italicSet", italicSet), ("blinkSet", blinkSet), ("reverseSet", reverseSet),
   ("hiddenSet", hiddenSet), ("strikethroughSet", strikethroughSet), ("boldDimReset", boldDimReset),
   ("italicReset", italicReset), ("blinkReset", blinkReset), ("reverseReset", reverseReset), ("hiddenReset", hiddenReset),
   ("strikethroughReset", strikethroughReset)]

def seqToks (name : String) : List Tok := if name = "" then [] else
  match seqTable.lookup name with
  | some s => toksOf s
  | none => [Tok.other name]

def resolveOn (r : String × String) : Nat × List Tok := (bitOf r.1, seqToks r.2)
def resolveOff (r : String × String × String × String) : Nat × List Tok × Nat × List Tok :=
  (bitOf r.1, seqToks r.2.1, bitOf r.2.2.1, seqToks r.2.2.2)

/-- The attribute delta as `render()` computes it, over arbitrary on/off tables. -/
def attrToksOf (on : List (Nat × List Tok)) (off : List (Nat × List Tok × Nat × List Tok)) (a b : Nat) : List Tok :=
  if a = b then [] else
  let d := a ^^^ b
  let onm := d &&& b
  let offm := d &&& a
  (on.flatMap fun r => if hasBit onm r.1 then r.2 else []) ++
  (off.flatMap fun r => if hasBit offm r.1 then r.2.1 ++ (if hasBit b r.2.2.1 then r.2.2.2 else []) else [])

def litOn : List (Nat × List Tok) :=
  [(2, [.sgr [[1]]]), (4, [.sgr [[2]]]), (8, [.sgr [[3]]]), (16, [.sgr [[5]]]), (32, [.sgr [[7]]]), (64, [.sgr [[8]]]),
   (128, [.sgr [[9]]])]
def litOff : List (Nat × List Tok × Nat × List Tok) :=
  [(2, [.sgr [[22]]], 4, [.sgr [[2]]]), (4, [.sgr [[22]]], 2, [.sgr [[1]]]), (8, [.sgr [[23]]], 0, []),
   (16, [.sgr [[25]]], 0, []), (32, [.sgr [[27]]], 0, []), (64, [.sgr [[28]]], 0, []), (128, [.sgr [[29]]], 0, [])]

theorem hasBit_zero_bit (b : Nat) : hasBit b 0 = false := by simp [hasBit]

theorem attrToks_lit (a b : Nat) : attrToks a b = attrToksOf litOn litOff a b := by
  unfold attrToks attrToksOf
  split
  · rfl
  · simp only [litOn, litOff, List.flatMap_cons, List.flatMap_nil, onTok, attrBold, attrDim, attrItalic, attrBlink,
      attrReverse, attrInvisible, attrStrikethrough, hasBit_zero_bit, Bool.false_eq_true, if_false, List.append_nil,
      List.append_assoc]
    rfl

/-- One style field's part of the pen delta, by the field's Go name. -/
def deltaPart (caps : Caps) (pen next : Style) (field : String) : List Tok :=
  if field = "Foreground" then (if pen.fg ≠ next.fg then colorToks caps 30 next.fg else [])
  else if field = "Background" then (if pen.bg ≠ next.bg then colorToks caps 40 next.bg else [])
  else if field = "UnderlineColor" then (if caps.styledUnderlines ∧ pen.ul ≠ next.ul then ulColorToks caps next.ul else [])
  else if field = "Attribute" then attrToks pen.attr next.attr
  else if field = "UnderlineStyle" then
    (if pen.ulStyle ≠ next.ulStyle then
      (if caps.styledUnderlines then [Tok.sgr [[4, next.ulStyle]]]
       else if next.ulStyle = 0 then [Tok.sgr [[24]]] else [Tok.sgr [[4]]])
     else [])
  else if field = "Hyperlink" then
    (if pen.link ≠ next.link ∨ (next.link ≠ "" ∧ pen.linkParams ≠ next.linkParams) then
      [Tok.osc8 (lpField (if next.link = "" then "" else next.linkParams)) next.link]
     else [])
  else [Tok.other field]

/-- Lines of a skeleton at a given depth with one of the given kinds. -/
def linesAt (sk : List (Nat × String × String)) (depth : Nat) (kinds : List String) : List String :=
  (sk.filter fun l => l.1 == depth && kinds.contains l.2.1).map (·.2.2)

/-- The part of `render`'s skeleton inside the cell loop (`for col := …`). -/
def cellLoop (sk : List (Nat × String × String)) : List (Nat × String × String) :=
  ((sk.dropWhile fun l => !(l.1 == 1 && l.2.1 == "for")).drop 1).takeWhile fun l => decide (2 ≤ l.1)

/-- The atoms the writer's guards test. -/
def evalAtom (caps : Caps) (cn cl : CursorState) (a : String) : Bool :=
  if a = "cursorLast.visible" then cl.visible
  else if a = "cursorNext.visible" then cn.visible
  else if a = "caps.synchronizedUpdate" then caps.sync
  else if a = "cursorNext.row!=cursorLast.row" then decide (cn.row ≠ cl.row)
  else if a = "cursorNext.col!=cursorLast.col" then decide (cn.col ≠ cl.col)
  else if a = "cursorNext.style!=cursorLast.style" then decide (cn.style ≠ cl.style)
  else false

def evalGuard (caps : Caps) (cn cl : CursorState) (g : List (Bool × String)) : Bool :=
  g.all fun a => if a.1 then !(evalAtom caps cn cl a.2) else evalAtom caps cn cl a.2

/-- What a write argument puts on the wire (mode numbers: `Props.C01Seq.mode_numbers`). -/
def writeToks (cn : CursorState) (w : String) : List Tok :=
  if w = "" then []
  else if w = "decrst(cursorVisibility)" then [.decrst 25]
  else if w = "decset(synchronizedUpdate)" then [.decset 2026]
  else if w = "decrst(synchronizedUpdate)" then [.decrst 2026]
  else if w = "sgrReset" then [.sgr []]
  else if w = "showCursor()" then showCursorToks cn
  else [.other w]

/-- All guarded writes whose guard holds, in order. -/
def runGuarded (caps : Caps) (cn cl : CursorState) (l : List (List (Bool × String) × String)) : List Tok :=
  l.flatMap fun gw => if evalGuard caps cn cl gw.1 then writeToks cn gw.2 else []

/-- The first case of a `switch` whose guard holds. -/
def firstCase (caps : Caps) (cn cl : CursorState) : List (List (Bool × String) × String) → List Tok
  | [] => []
  | gw :: rest => if evalGuard caps cn cl gw.1 then writeToks cn gw.2 else firstCase caps cn cl rest

/-- `render(); Flush()` on the wire, over arbitrary extracted tables. -/
def flushOf (pro cur epi : List (List (Bool × String) × String)) (caps : Caps) (cn cl : CursorState) (body : List Tok) : List Tok :=
  if body.isEmpty then firstCase caps cn cl cur
  else runGuarded caps cn cl pro ++ body ++ runGuarded caps cn cl epi

end VaxisModel.Lemmas.RenderFacts
