/-
C07 helper lemmas: every token the renderer model writes for a frame is allowed under the
capability set (`allowedTok`).
-/
import VaxisModel.Lemmas.RenderToks
import VaxisModel.Lemmas.Argmin

namespace VaxisModel.Lemmas.RenderGate
open VaxisModel.Model.Render VaxisModel.Model.Color VaxisModel.Lemmas.RenderToks

/-- An SGR parameter that selects a direct (RGB) colour: `38:2:…`, `48:2:…`, `58:2:…`. -/
def isDirect : List Nat → Bool
  | h :: s :: t => (h == 38 || h == 48 || h == 58) && s == 2 && (t.length == 3 || t.length == 4)
  | _ => false

/-- An SGR parameter from the styled-underline extension: `4:n`, `58…`, `59`. -/
def isStyledUl : List Nat → Bool
  | [] => false
  | h :: t => (h == 4 && t.length == 1) || h == 58 || (h == 59 && t.isEmpty)

/-- The capability-gated part of the renderer's vocabulary. Everything else it writes (CUP, basic
    and 256-colour SGR, OSC 8, text, cursor visibility/shape, pointer shape) is baseline. -/
def allowedTok (caps : Caps) : Tok → Bool
  | .sgr ps => (caps.rgb || !ps.any isDirect) && (caps.styledUnderlines || !ps.any isStyledUl)
  | .textW _ _ => caps.explicitWidth
  | .decset n => n == 25 || (n == 2026 && caps.sync)
  | .decrst n => n == 25 || (n == 2026 && caps.sync)
  | _ => true

theorem params_len (c : Nat) : (params c).length = 0 ∨ (params c).length = 1 ∨ ((params c).length = 3 ∧ isRGB c = true) := by
  unfold params
  split
  · simp
  · split
    · rename_i h; simp [h]
    · simp

theorem effParams_norgb (caps : Caps) (h : caps.rgb = false) (c : Nat) : (effParams caps c).length ≤ 1 := by
  unfold effParams
  simp only [h, Bool.false_eq_true, if_false]
  by_cases hr : isRGB c = true
  · have hne : Gen.Palette.palette ≠ [] := by decide +kernel
    have hs : Gen.Palette.diffSigned = true := by decide
    -- asIndex of a direct colour is an indexed colour below 2^25
    unfold asIndex asIndexWith
    simp only [hr, Bool.not_true, Bool.false_eq_true, if_false]
    obtain ⟨i, s, hi, _⟩ := argmin_spec (scoreWith Gen.Palette.diffSigned weights c) Gen.Palette.palette hne
    rw [hi]
    simp only
    have hlt : (i + 16) % 256 < 256 := Nat.mod_lt _ (by decide)
    have h1 : isIndexed (indexColor ((i + 16) % 256)) = true := by
      simp only [isIndexed, indexColor, indexedBit, Gen.Palette.indexedShift]
      have : (((i + 16) % 256 + 2 ^ 24 : Nat)) / 2 ^ 24 = 1 := by omega
      simp [this]
    simp [params, h1]
  · have hr' : isRGB c = false := by simpa using hr
    have : asIndex c = c := by simp [asIndex, asIndexWith, hr']
    rw [this]
    rcases params_len c with h | h | ⟨_, h⟩
    · omega
    · omega
    · rw [hr'] at h; cases h

theorem colorToksP_allowed (caps : Caps) (which : Nat) (hw : which = 30 ∨ which = 40) (ps : List Nat)
    (h : caps.rgb = true ∨ ps.length ≤ 1) : ∀ k ∈ colorToksP which ps, allowedTok caps k = true := by
  intro k hk
  unfold colorToksP at hk
  split at hk
  · simp at hk; subst hk; rcases hw with rfl | rfl <;> simp [allowedTok, isDirect, isStyledUl]
  · split at hk
    · simp at hk; subst hk
      rename_i i hi
      rcases hw with rfl | rfl <;> simp [allowedTok, isDirect, isStyledUl] <;> omega
    · split at hk
      · simp at hk; subst hk
        rename_i i h1 h2
        rcases hw with rfl | rfl <;> simp [allowedTok, isDirect, isStyledUl] <;> omega
      · simp at hk; subst hk
        rcases hw with rfl | rfl <;> simp [allowedTok, isDirect, isStyledUl]
  · simp at hk; subst hk
    rcases h with h | h
    · rcases hw with rfl | rfl <;> simp [allowedTok, isDirect, isStyledUl, h]
    · simp at h
  · simp at hk

theorem ulColorToksP_allowed (caps : Caps) (hsu : caps.styledUnderlines = true) (ps : List Nat)
    (h : caps.rgb = true ∨ ps.length ≤ 1) : ∀ k ∈ ulColorToksP ps, allowedTok caps k = true := by
  intro k hk
  unfold ulColorToksP at hk
  split at hk
  · simp at hk; subst hk; simp [allowedTok, isDirect, isStyledUl, hsu]
  · simp at hk; subst hk; simp [allowedTok, isDirect, isStyledUl, hsu]
  · simp at hk; subst hk
    rcases h with h | h
    · simp [allowedTok, isDirect, isStyledUl, hsu, h]
    · simp at h
  · simp at hk

theorem attrToks_allowed (caps : Caps) (a b : Nat) : ∀ k ∈ attrToks a b, allowedTok caps k = true := by
  have hall : (attrToks a b).all (fun k => allowedTok caps k) = true := by
    unfold attrToks
    split
    · rfl
    · simp only [List.all_append, onTok, Bool.and_eq_true]
      repeat' apply And.intro
      all_goals (repeat' split)
      all_goals simp [allowedTok, isDirect, isStyledUl]
  intro k hk
  rw [List.all_eq_true] at hall
  exact hall k hk

theorem penDelta_allowed (caps : Caps) (pen next : Style) : ∀ k ∈ penDelta caps pen next, allowedTok caps k = true := by
  have hcol : ∀ c, caps.rgb = true ∨ (effParams caps c).length ≤ 1 := by
    intro c
    by_cases h : caps.rgb = true
    · exact Or.inl h
    · exact Or.inr (effParams_norgb caps (by simpa using h) c)
  exact VaxisModel.Lemmas.RenderToks.penDelta_all caps pen next
    (colorToksP_allowed caps 30 (Or.inl rfl) _ (hcol _)) (colorToksP_allowed caps 40 (Or.inr rfl) _ (hcol _))
    (fun hsu => ulColorToksP_allowed caps hsu _ (hcol _)) (attrToks_allowed caps _ _)
    (fun hsu => by simp [allowedTok, isDirect, isStyledUl, hsu]) (fun _ _ => by simp [allowedTok, isDirect, isStyledUl])
    (fun _ _ => by simp [allowedTok, isDirect, isStyledUl]) (fun _ => rfl)

theorem glyphTok_allowed (cw : String → Nat) (caps : Caps) (c : Cell) : allowedTok caps (glyphTok cw caps c) = true := by
  unfold glyphTok glyphTokW
  split
  · rfl
  · split
    · rename_i h; simp [allowedTok, h.2]
    · rfl

end VaxisModel.Lemmas.RenderGate
