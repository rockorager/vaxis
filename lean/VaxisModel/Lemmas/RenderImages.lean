/-
Display proof of C01 over the cell loop `Model.RenderSixel.renderCellsS` (F02 clip inside the loop, F113 sixel
branch), for screens with or without image cells.  The row invariant `RowInv`: the terminal row is the finished
part followed by the part under work, parsed into cells with the columns they cover.  At an image cell the loop
writes nothing, so that position is not constrained (`Masked`; the finished part is known outside the mask only,
`SameOut`).  An image cell over the HEAD of a wide glyph the terminal still shows leaves the part under work `Stale`:
the F113 repair rewrites the glyph's other columns, and on the reference terminal that write poisons the hidden
head (row algebra: `Lemmas/RenderRowStale.writeRow_stale`).
-/
import VaxisModel.Lemmas.RenderDisplay
import VaxisModel.Lemmas.RenderClip
import VaxisModel.Lemmas.RenderRowStale
import VaxisModel.Lemmas.RenderSixel

namespace VaxisModel.Lemmas.RenderImages
open VaxisModel.Model.Render VaxisModel.Spec VaxisModel.Spec.Display
open VaxisModel.Lemmas.RenderToks VaxisModel.Lemmas.RenderRow VaxisModel.Lemmas.RenderPen
open VaxisModel.Spec.Expected VaxisModel.Lemmas.RenderDisplay VaxisModel.Lemmas.RenderClip VaxisModel.Lemmas.RenderSixel

/-- What the rest of a row shows after the loop: `skip` continuation cells, then per cell — an
    image cell: anything; any other cell: its glyph (a blank when it does not fit in the rest of
    the row) followed by its continuation cells. -/
def Masked (cw : String → Nat) (caps : Caps) : Nat → List Cell → List DCell → Prop
  | _, [], X => X = []
  | _, _ :: _, [] => False
  | skip + 1, _ :: ns, x :: X => x = DCell.cont ∧ Masked cw caps skip ns X
  | 0, n :: ns, x :: X =>
      if n.sixel then Masked cw caps 0 ns X
      else x = expectedCell cw caps (clipCell cw (ns.length + 1) n) ∧
           Masked cw caps (advance cw (clipCell cw (ns.length + 1) n)) ns X

/-- The terminal row (parse `V`) shows the previous frame's row `ls` outside that row's image
    cells; under an image cell of `ls` it shows some cell of width 1 (or poison). -/
def RelV (cw : String → Nat) (caps : Caps) : List VCell → List Cell → Prop
  | [], [] => True
  | v :: vs, l :: ls => (v = phi cw caps l ∨ (l.sixel = true ∧ v.2 = 0 ∧ advance cw l = 0)) ∧ RelV cw caps vs ls
  | _, _ => False

theorem relV_map_phi (cw : String → Nat) (caps : Caps) (ls : List Cell) : RelV cw caps (ls.map (phi cw caps)) ls := by
  induction ls with
  | nil => trivial
  | cons l ls ih => exact ⟨Or.inl rfl, ih⟩

theorem relV_v2 (cw : String → Nat) (caps : Caps) (v : VCell) (l : Cell)
    (h : v = phi cw caps l ∨ (l.sixel = true ∧ v.2 = 0 ∧ advance cw l = 0)) : v.2 = advance cw l := by
  rcases h with h | ⟨_, h1, h2⟩
  · rw [h]; rfl
  · rw [h1, h2]

theorem clipCell_adv (cw : String → Nat) (rem : Nat) (c : Cell) (hrem : 1 ≤ rem) :
    advance cw (clipCell cw rem c) < rem := by
  unfold clipCell
  split
  · have : advance cw ({ c with g := "20", w := 1 } : Cell) = 0 := by
      rw [adv_eq, width_clip]; rfl
    omega
  · omega

theorem clipCell_ok (cw : String → Nat) (caps : Caps) (hsp : cw "20" = 1) (rem : Nat) (c : Cell)
    (h : 0 ≤ c.w ∧ WidthOk cw caps c) : 0 ≤ (clipCell cw rem c).w ∧ WidthOk cw caps (clipCell cw rem c) := by
  unfold clipCell
  split
  · refine ⟨by simp, Or.inr (Or.inl ?_)⟩
    simp [hsp]
  · exact h

/-- `P'` is `P` except possibly at the positions flagged in `mp` (positions under image cells). -/
def SameOut (mp : List Bool) (P P' : List DCell) : Prop :=
  P'.length = P.length ∧ ∀ (i : Nat), mp[i]? ≠ some true → P'[i]? = P[i]?

theorem SameOut.refl (mp : List Bool) (P : List DCell) : SameOut mp P P := ⟨rfl, fun _ _ => rfl⟩

theorem SameOut.trans {mp : List Bool} {P P' P'' : List DCell} (h1 : SameOut mp P P') (h2 : SameOut mp P' P'') :
    SameOut mp P P'' := ⟨h2.1.trans h1.1, fun i hi => (h2.2 i hi).trans (h1.2 i hi)⟩

theorem SameOut.snoc {mp : List Bool} {P : List DCell} {x : DCell} {b : Bool} {P'' : List DCell} (hmp : mp.length = P.length)
    (h : SameOut (mp ++ [b]) (P ++ [x]) P'') :
    ∃ P' x', P'' = P' ++ [x'] ∧ SameOut mp P P' ∧ (b = false → x' = x) := by
  obtain ⟨hl, hp⟩ := h
  have hl' : P''.length = P.length + 1 := by simpa using hl
  have hne : P'' ≠ [] := by intro e; rw [e] at hl'; simp at hl'
  refine ⟨P''.dropLast, P''.getLast hne, (List.dropLast_concat_getLast hne).symm, ⟨by simp [hl'], ?_⟩, ?_⟩
  · intro i hi
    by_cases hlt : i < P.length
    · have h1 : (mp ++ [b])[i]? ≠ some true := by
        rw [List.getElem?_append_left (by omega)]; exact hi
      have := hp i h1
      rw [List.getElem?_append_left hlt] at this
      rw [← this, List.getElem?_dropLast]
      simp [hl', hlt]
    · rw [List.getElem?_eq_none (by simp [hl']; omega), List.getElem?_eq_none (by omega)]
  · intro hb
    have h1 : (mp ++ [b])[P.length]? ≠ some true := by
      rw [List.getElem?_append_right (by omega), hmp]; simp [hb]
    have := hp P.length h1
    rw [List.getElem?_append_right (Nat.le_refl _)] at this
    simp only [Nat.sub_self, List.getElem?_cons_zero] at this
    have h2 : P''[P.length]? = some (P''.getLast hne) := by
      rw [List.getLast_eq_getElem, List.getElem?_eq_getElem (by omega)]
      congr 2; omega
    rw [h2] at this
    exact Option.some.inj this

/-- The part under work begins with `sk ≥ 1` continuation cells of a glyph whose head is in the
    finished part, under an image cell (as are all positions since): the loop is not skipping. -/
def Stale (mp : List Bool) (P : List DCell) (skip sk k : Nat) : Prop :=
  skip = 0 ∧ 1 ≤ sk ∧ k = sk ∧
  ∃ (Q : List DCell) (x : VCell) (j : Nat), P = Q ++ x.1 :: List.replicate j DCell.cont ∧ VOk x ∧ x.2 = j + sk ∧
    ∀ i, Q.length ≤ i → i < P.length → mp[i]? = some true

/-- **Writing a glyph in the stale state**: the hidden head and the continuation cells before the
    current column become poison (all under image cells), then the write is the ordinary one. -/
theorem writeRow_staleP (mp : List Bool) (P : List DCell) (sk : Nat) (v : VCell) (vs : List VCell) (w : Nat) (cell : DCell)
    (hst : Stale mp P 0 sk sk) (hok : ∀ x ∈ v :: vs, VOk x) (hw : 1 ≤ w) (hfit : w ≤ (v :: vs).length) :
    ∃ Pm, SameOut mp P Pm ∧
      writeRow (P ++ sRow sk sk (v :: vs)) P.length w cell = Pm ++ cell :: sRow (w - 1) (nextL sk v) vs := by
  obtain ⟨_, hsk, _, Q, x, j, hP, hx, hx2, hmask⟩ := hst
  let ys : List VCell := List.replicate j (DCell.poison, 0)
  have hys : ys.length = j := by simp [ys]
  have hrow : P ++ sRow sk sk (v :: vs) = Q ++ x.1 :: eRow x.2 (ys ++ v :: vs) := by
    rw [sRow_diag, hP, hx2, eRow_append_conts j sk ys (v :: vs) hys]; simp
  have hPl : P.length = Q.length + (1 + j) := by rw [hP]; simp; omega
  rw [hrow, hPl, writeRow_stale Q x (ys ++ v :: vs) (1 + j) w cell hx (by omega) (by omega) (by simp [hys]; omega)]
  have hs := sRow_poisons (1 + j) sk (x :: (ys ++ v :: vs)) (by simp [hys]; omega)
  have e1 : sk + (1 + j) = x.2 + 1 := by omega
  have e2 : (x :: (ys ++ v :: vs)).drop (1 + j) = v :: vs := by
    have : 1 + j = j + 1 := by omega
    rw [this, List.drop_succ_cons, List.drop_left' hys]
  rw [e1, e2] at hs
  rw [hs]
  refine ⟨Q ++ List.replicate (1 + j) DCell.poison, ⟨by rw [hPl]; simp, ?_⟩, ?_⟩
  · intro i hi
    by_cases hlt : i < Q.length
    · rw [List.getElem?_append_left hlt, hP, List.getElem?_append_left hlt]
    · by_cases hlt2 : i < P.length
      · exact absurd (hmask i (by omega) hlt2) hi
      · rw [List.getElem?_eq_none (by simp; omega), List.getElem?_eq_none (by omega)]
  · have hl2 : (Q ++ List.replicate (1 + j) DCell.poison).length = Q.length + (1 + j) := by simp
    have := writeRow_sRow (Q ++ List.replicate (1 + j) DCell.poison) sk v vs w cell hok hw hfit
    rw [hl2] at this
    rw [← this]; simp

/-- What one run of `renderCellsS` over (the rest of) a row achieves: the finished part is
    still `P` outside the mask, the rest shows the new row outside its image cells. -/
def CellsPostM (cw : String → Nat) (caps : Caps) (row : Nat) (t0 : Term) (G : List (List DCell)) (R C : Nat)
    (mp : List Bool) (P : List DCell) (skip : Nat) (ns : List Cell) (res : List Cell × RSt) : Prop :=
  ∃ P' X, (run cw t0 res.2.out).grid = G.set row (P' ++ X) ∧ SameOut mp P P' ∧ Masked cw caps skip ns X ∧
  (run cw t0 res.2.out).rows = R ∧ (run cw t0 res.2.out).cols = C ∧
  Tracks caps (run cw t0 res.2.out) res.2.pen

theorem postM_nil (cw : String → Nat) (caps : Caps) (row : Nat) (t0 : Term) (mp : List Bool) (P : List DCell) (skip : Nat)
    (st : RSt) (pos : Nat) (hg : (run cw t0 st.out).grid[row]? = some P)
    (hinv : TInv caps (run cw t0 st.out) st row pos) :
    CellsPostM cw caps row t0 (run cw t0 st.out).grid (run cw t0 st.out).rows (run cw t0 st.out).cols mp P skip []
      ([], st) := by
  refine ⟨P, [], ?_, SameOut.refl mp P, ?_, rfl, rfl, hinv.toTracks⟩
  · rw [List.append_nil, ListBasic.set_self_of_getElem? hg]
  · cases skip <;> rfl

/-- One more position: the loop continued from the finished part `Pm ++ [x]` (with `Pm` = `P` outside
    the mask); `b` says whether position `|P|` is under an image cell. -/
theorem postM_cons (cw : String → Nat) (caps : Caps) (row : Nat) (t0 : Term) (G G' : List (List DCell)) (R C : Nat)
    (mp : List Bool) (P Pm : List DCell) (x : DCell) (b : Bool) (skip skip' : Nat) (n c : Cell) (ns : List Cell)
    (res : List Cell × RSt) (hmp : mp.length = P.length)
    (hG : ∀ Y, G'.set row Y = G.set row Y) (hPm : SameOut mp P Pm)
    (hM : ∀ x' X, (b = false → x' = x) → Masked cw caps skip' ns X → Masked cw caps skip (n :: ns) (x' :: X))
    (h : CellsPostM cw caps row t0 G' R C (mp ++ [b]) (Pm ++ [x]) skip' ns res) :
    CellsPostM cw caps row t0 G R C mp P skip (n :: ns) (c :: res.1, res.2) := by
  obtain ⟨P'', X, h1, hs, hm, h2, h3, h4⟩ := h
  obtain ⟨P', x', e, hs', hx'⟩ := SameOut.snoc (hmp.trans hPm.1.symm) hs
  refine ⟨P', x' :: X, ?_, hPm.trans hs', hM x' X hx' hm, h2, h3, h4⟩
  rw [h1, hG, e]; simp

theorem sRow_stale_head (sk : Nat) (v : VCell) (vs : List VCell) :
    sRow (sk + 1) (sk + 1) (v :: vs) = DCell.cont :: sRow sk sk vs := by
  simp [sRow, nextL]

/-- The `dirty` bound survives a step of the loop: a glyph still shown `nextL k v` cells beyond the next column
    (more than the `s` about to be skipped) ends before `dirty`, extended by the glyph the cell used to hold. -/
theorem nextL_dirty {k col dirty a s : Nat} {v : VCell} (hv2 : v.2 = a) (e2 : s + 1 < k → col + k ≤ dirty)
    (hlt : s < nextL k v) :
    col + 1 + nextL k v ≤ if col + a + 1 > dirty then col + a + 1 else dirty := by
  by_cases hk : k = 0
  · simp only [nextL, hk, if_true, hv2] at hlt ⊢
    split <;> omega
  · simp only [nextL, hk, if_false] at hlt ⊢
    have := e2 (by omega)
    split <;> omega

section RowMoves
variable {cw : String → Nat} {caps : Caps} {refresh : Bool} {row : Nat} {t0 : Term}
  {col skip : Nat} {track : Bool} {dirty : Nat} {n l : Cell} {ns ls : List Cell} {st : RSt}
  {v : VCell} {vs : List VCell} {V : List VCell} {k : Nat} {P : List DCell} {t : Term} {mp : List Bool} {sk : Nat}

/-- **The row invariant** of the display proof, at one configuration of the loop (`col`, `skip`, `track`, `dirty`, the
    rest `ns` of the row, the rest `ls` of the previous frame's row, the loop state `st`): `t` is the terminal after all
    written so far; its row `row` is the finished part `P` (known outside the mask `mp`) followed by the part under work
    `sRow sk k V`, with `V` a parse of what the terminal shows there (`RelV`: the previous frame outside its image
    cells, unless the frame is a refresh); `sk` is `skip` except in the stale state; a glyph of the previous frame that
    still covers `k > skip` cells ends before `dirty`; the cursor stands `skip` cells ahead (`TInv`). -/
structure RowInv (cw : String → Nat) (caps : Caps) (refresh : Bool) (row : Nat) (t0 : Term)
    (col skip : Nat) (track : Bool) (dirty : Nat) (ns ls : List Cell) (st : RSt)
    (V : List VCell) (k : Nat) (P : List DCell) (t : Term) (mp : List Bool) (sk : Nat) : Prop where
  run : run cw t0 st.out = t
  len : ns.length = ls.length
  vlen : V.length = ns.length
  vok : ∀ v ∈ V, VOk v
  grid : t.grid[row]? = some (P ++ sRow sk k V)
  plen : P.length = col
  mlen : mp.length = col
  cols : col + ns.length = t.cols
  rows : row < t.rows
  stale : sk = skip ∨ Stale mp P skip sk k
  prev : refresh = false → RelV cw caps V ls ∧ (skip < k → col + k ≤ dirty) ∧ (track = false → 0 < skip → k = skip)
  fit : skip ≤ ns.length
  cells : ∀ c ∈ ns, 0 ≤ c.w ∧ WidthOk cw caps c
  inv : TInv caps t st row (col + skip)

theorem RowInv.rest (h : RowInv cw caps refresh row t0 col skip track dirty (n :: ns) (l :: ls) st (v :: vs) k P t mp sk) :
    ns.length = ls.length ∧ vs.length = ns.length ∧ (∀ x ∈ vs, VOk x) ∧ (∀ c ∈ ns, 0 ≤ c.w ∧ WidthOk cw caps c) ∧
    mp.length = P.length :=
  ⟨by simpa using h.len, by simpa using h.vlen, fun x hx => h.vok x (List.mem_cons_of_mem _ hx),
    fun c hc => h.cells c (List.mem_cons_of_mem _ hc), h.mlen.trans h.plen.symm⟩

theorem RowInv.done (h : RowInv cw caps refresh row t0 col skip track dirty [] ls st V k P t mp sk) :
    CellsPostM cw caps row t0 t.grid t.rows t.cols mp P skip [] ([], st) := by
  have hV0 : V = [] := by simpa using h.vlen
  subst hV0
  have hs : sRow sk k [] = [] := by cases sk <;> cases k <;> rfl
  have hg := h.grid
  rw [hs, List.append_nil] at hg
  have hinv := h.inv
  cases h.run
  exact postM_nil cw caps row t0 mp P skip st _ hg hinv

/-- **A covered cell** (the loop counts `skip` down): the position shows a continuation cell. -/
theorem RowInv.covered (h : RowInv cw caps refresh row t0 col (skip + 1) track dirty (n :: ns) (l :: ls) st (v :: vs) k P t mp sk) :
    RowInv cw caps refresh row t0 (col + 1) skip track
      (if track ∧ col + advance cw l + 1 > dirty then col + advance cw l + 1 else dirty) ns ls st vs (nextL k v)
      (P ++ [DCell.cont]) t (mp ++ [false]) skip ∧
    ∀ res, CellsPostM cw caps row t0 t.grid t.rows t.cols (mp ++ [false]) (P ++ [DCell.cont]) skip ns res →
      CellsPostM cw caps row t0 t.grid t.rows t.cols mp P (skip + 1) (n :: ns) (({} : Cell) :: res.1, res.2) := by
  obtain ⟨hl', hV', hok', hcells', hmpP⟩ := h.rest
  have hsk : sk = skip + 1 := by
    rcases h.stale with h' | h'
    · exact h'
    · exact absurd h'.1 (by omega)
  subst hsk
  have hcols := h.cols
  have hfit := h.fit
  simp only [List.length_cons] at hcols hfit
  refine ⟨{
      run := h.run, len := hl', vlen := hV', vok := hok', grid := by rw [h.grid]; simp [sRow],
      plen := by simp [h.plen], mlen := by simp [h.mlen], cols := by omega, rows := h.rows, stale := Or.inl rfl,
      prev := ?_, fit := by omega, cells := hcells', inv := ?_ }, fun res hres =>
      postM_cons cw caps row t0 t.grid t.grid _ _ mp P P DCell.cont false (skip + 1) skip n ({} : Cell) ns res hmpP
        (fun _ => rfl) (SameOut.refl mp P) (fun x' X hx hX => ⟨hx rfl, hX⟩) hres⟩
  · intro hrf
    obtain ⟨e1, e2, e3⟩ := h.prev hrf
    have hv2 : v.2 = advance cw l := relV_v2 cw caps v l e1.1
    refine ⟨e1.2, ?_, ?_⟩
    · intro hlt
      cases track with
      | false =>
        have := e3 rfl (by omega)
        subst this
        simp [nextL] at hlt
      | true =>
        simp only [true_and]
        exact nextL_dirty hv2 e2 hlt
    · intro htr hpos
      have := e3 htr (by omega)
      subst this
      simp [nextL]
  · have : col + 1 + skip = col + (skip + 1) := by omega
    rw [this]; exact h.inv

/-- **An image cell**: nothing is written; the position keeps what the terminal shows (`x`), and it is masked.  When the
    head of a wide glyph comes under the image the part under work goes into the stale state (`sk'`). -/
theorem RowInv.image (h : RowInv cw caps refresh row t0 col 0 track dirty (n :: ns) (l :: ls) st (v :: vs) k P t mp sk)
    (hsx : n.sixel = true) :
    ∃ x sk', RowInv cw caps refresh row t0 (col + 1) 0 false
        (if col + advance cw l + 1 > dirty then col + advance cw l + 1 else dirty) ns ls { st with reposition := true }
        vs (nextL k v) (P ++ [x]) t (mp ++ [true]) sk' ∧
      ∀ res, CellsPostM cw caps row t0 t.grid t.rows t.cols (mp ++ [true]) (P ++ [x]) 0 ns res →
        CellsPostM cw caps row t0 t.grid t.rows t.cols mp P 0 (n :: ns) (n :: res.1, res.2) := by
  obtain ⟨hl', hV', hok', hcells', hmpP⟩ := h.rest
  have href := h.prev
  -- what the position shows and how the part under work continues
  have hx : ∃ x sk', sRow sk k (v :: vs) = x :: sRow sk' (nextL k v) vs ∧
      (sk' = 0 ∨ Stale (mp ++ [true]) (P ++ [x]) 0 sk' (nextL k v)) ∧
      (refresh = false → 0 < nextL k v → col + 1 + nextL k v ≤ (if col + advance cw l + 1 > dirty then col + advance cw l + 1 else dirty)) := by
    rcases h.stale with hsk | ⟨_, hsk1, hks, Q, x, j, hPq, hxok, hx2, hmask⟩
    · subst hsk
      cases k with
      | succ k =>
        refine ⟨DCell.poison, 0, by simp [sRow, nextL], Or.inl rfl, ?_⟩
        intro hrf hpos
        have := (href hrf).2.1 (by omega)
        simp only [nextL_succ] at hpos ⊢
        split <;> omega
      | zero =>
        by_cases hv0 : v.2 = 0
        · refine ⟨v.1, 0, by simp [sRow, nextL, hv0, sRow_zero_zero], Or.inl rfl, ?_⟩
          intro _ hpos; simp [nextL, hv0] at hpos
        · -- the head of a wide glyph comes under the image: stale state
          refine ⟨v.1, v.2, by simp [sRow, nextL, sRow_diag], Or.inr ⟨rfl, by omega, by simp [nextL], P, v, 0, by simp, h.vok v (by simp), by simp, ?_⟩, ?_⟩
          · intro i h1 h2
            have : i = P.length := by simp at h2; omega
            rw [this, List.getElem?_append_right (by omega), hmpP]; simp
          · intro hrf _
            have hv2 : v.2 = advance cw l := relV_v2 cw caps v l (href hrf).1.1
            simp only [nextL_zero, hv2]
            split <;> omega
    · subst hks
      obtain ⟨s, rfl⟩ : ∃ s, k = s + 1 := ⟨k - 1, by omega⟩
      refine ⟨DCell.cont, s, by rw [sRow_stale_head]; simp [nextL], ?_, ?_⟩
      · by_cases hs0 : s = 0
        · exact Or.inl hs0
        · refine Or.inr ⟨rfl, by omega, by simp [nextL], Q, x, j + 1, ?_, hxok, by omega, ?_⟩
          · rw [hPq]; simp [List.replicate_succ']
          · intro i h1 h2
            by_cases hi : i < P.length
            · rw [List.getElem?_append_left (by omega)]; exact hmask i h1 hi
            · have : i = P.length := by simp at h2; omega
              rw [this, List.getElem?_append_right (by omega), hmpP]; simp
      · intro hrf hpos
        have := (href hrf).2.1 (by omega)
        simp only [nextL_succ] at hpos ⊢
        split <;> omega
  obtain ⟨x, sk', hx, hst', hdirty⟩ := hx
  refine ⟨x, sk', {
      run := h.run, len := hl', vlen := hV', vok := hok', grid := by rw [h.grid, hx]; simp,
      plen := by simp [h.plen], mlen := by simp [h.mlen], cols := by have := h.cols; simp at this; omega,
      rows := h.rows, stale := hst',
      prev := fun hrf => ⟨(href hrf).1.2, fun hlt => hdirty hrf hlt, fun _ h => absurd h (Nat.lt_irrefl 0)⟩,
      fit := Nat.zero_le _, cells := hcells', inv := ⟨h.inv.toTracks, by intro h; simp at h⟩ }, fun res hres =>
      postM_cons cw caps row t0 t.grid t.grid _ _ mp P P x true 0 0 n n ns res hmpP (fun _ => rfl) (SameOut.refl mp P)
        (fun x' X _ hX => by simp only [Masked, hsx, if_true]; exact hX) hres⟩

/-- A cell that is not an image cell shows as its clipped form `m`, followed by what `m` covers.  (`hx'` in the form
    `postM_cons` hands it over for a position outside the mask.) -/
theorem masked_cons (hsx : n.sixel = false) {m : Cell} (hm : clipCell cw (ns.length + 1) n = m) (x' : DCell) (X : List DCell)
    (hx' : (false : Bool) = false → x' = expectedCell cw caps m) (hX : Masked cw caps (advance cw m) ns X) :
    Masked cw caps 0 (n :: ns) (x' :: X) := by
  simp only [Masked, hsx, Bool.false_eq_true, if_false, hm]
  exact ⟨hx' rfl, hX⟩

/-- **An unchanged cell**: nothing is written; the terminal shows it already (no glyph of the previous frame is cut,
    the part under work is not stale: `col ≥ dirty`). -/
theorem RowInv.unchanged (h : RowInv cw caps refresh row t0 col 0 track dirty (n :: ns) (l :: ls) st (v :: vs) k P t mp sk)
    (hsx : n.sixel = false) {m : Cell} (hm : clipCell cw (ns.length + 1) n = m) (hc : m = l ∧ ¬ refresh ∧ col ≥ dirty) :
    RowInv cw caps refresh row t0 (col + 1) (advance cw m) false dirty ns ls { st with reposition := true } vs (advance cw m)
      (P ++ [expectedCell cw caps m]) t (mp ++ [false]) (advance cw m) ∧
    ∀ res, CellsPostM cw caps row t0 t.grid t.rows t.cols (mp ++ [false]) (P ++ [expectedCell cw caps m]) (advance cw m) ns res →
      CellsPostM cw caps row t0 t.grid t.rows t.cols mp P 0 (n :: ns) (l :: res.1, res.2) := by
  obtain ⟨hl', hV', hok', hcells', hmpP⟩ := h.rest
  have hadv : advance cw m < ns.length + 1 := hm ▸ clipCell_adv cw (ns.length + 1) n (by omega)
  obtain ⟨hnl, hrf, hcd⟩ := hc
  have hrf' : refresh = false := by simpa using hrf
  obtain ⟨e1, e2, e3⟩ := h.prev hrf'
  have hsk0 : sk = 0 := by
    rcases h.stale with h' | ⟨_, h1, hks, _⟩
    · exact h'
    · have := e2 (by omega); omega
  subst hsk0
  have hk : k = 0 := by
    rcases Nat.eq_zero_or_pos k with h | h
    · exact h
    · have := e2 h; omega
  subst hk
  have hls : l.sixel = false := by rw [← hnl, ← hm, clipCell_sixel]; exact hsx
  have ev : v = phi cw caps l := by
    rcases e1.1 with h | ⟨h, _⟩
    · exact h
    · rw [hls] at h; cases h
  subst hnl
  exact ⟨{
      run := h.run, len := hl', vlen := hV', vok := hok', grid := by rw [h.grid, ev]; simp [sRow, phi, sRow_diag],
      plen := by simp [h.plen], mlen := by simp [h.mlen], cols := by have := h.cols; simp at this; omega,
      rows := h.rows, stale := Or.inl rfl, prev := fun _ => ⟨e1.2, by omega, fun _ _ => rfl⟩, fit := by omega,
      cells := hcells', inv := ⟨h.inv.toTracks, by intro h; simp at h⟩ }, fun res hres =>
      postM_cons cw caps row t0 t.grid t.grid _ _ mp P P (expectedCell cw caps m) false 0 (advance cw m) n m ns res hmpP
        (fun _ => rfl) (SameOut.refl mp P) (masked_cons hsx hm) hres⟩

/-- **A written cell**: its tokens perform `writeRow` at the current column (`cell_write`) — on the part under work as it is,
    or, in the stale state, after poisoning the hidden head (`Pm`: the finished part changes under the mask). -/
theorem RowInv.written (hsp : cw "20" = 1)
    (h : RowInv cw caps refresh row t0 col 0 track dirty (n :: ns) (l :: ls) st (v :: vs) k P t mp sk)
    (hsx : n.sixel = false) {m : Cell} (hm : clipCell cw (ns.length + 1) n = m) :
    ∃ Pm t', RowInv cw caps refresh row t0 (col + 1) (advance cw m) true
        (if col + advance cw l + 1 > dirty then col + advance cw l + 1 else dirty) ns ls
        { reposition := false, pen := m.style, out := st.out ++ cellToks cw caps st row col m } vs (nextL k v)
        (Pm ++ [expectedCell cw caps m]) t' (mp ++ [false]) (advance cw m) ∧
      t'.rows = t.rows ∧ t'.cols = t.cols ∧
      ∀ res, CellsPostM cw caps row t0 t'.grid t.rows t.cols (mp ++ [false]) (Pm ++ [expectedCell cw caps m]) (advance cw m) ns res →
        CellsPostM cw caps row t0 t.grid t.rows t.cols mp P 0 (n :: ns) (m :: res.1, res.2) := by
  obtain ⟨hl', hV', hok', hcells', hmpP⟩ := h.rest
  obtain ⟨hw0, hwok⟩ := hm ▸ clipCell_ok cw caps hsp (ns.length + 1) n (h.cells n List.mem_cons_self)
  have hP := h.plen
  have hcols := h.cols
  simp only [List.length_cons] at hcols
  have hadv : advance cw m < ns.length + 1 := hm ▸ clipCell_adv cw (ns.length + 1) n (by omega)
  have hfitw : advance cw m + 1 ≤ (v :: vs).length := by
    simp only [List.length_cons, hV']; omega
  have hwr : ∃ Pm, SameOut mp P Pm ∧
      writeRow (P ++ sRow sk k (v :: vs)) col (advance cw m + 1) (expectedCell cw caps m) =
        Pm ++ expectedCell cw caps m :: sRow (advance cw m) (nextL k v) vs := by
    rcases h.stale with hsk | hst
    · subst hsk
      refine ⟨P, SameOut.refl mp P, ?_⟩
      rw [← hP, writeRow_sRow P k v vs _ _ h.vok (by omega) hfitw]; simp
    · have hks : k = sk := hst.2.2.1
      subst hks
      obtain ⟨Pm, h1, h2⟩ := writeRow_staleP mp P k v vs (advance cw m + 1) (expectedCell cw caps m) hst h.vok (by omega) hfitw
      exact ⟨Pm, h1, by rw [← hP, h2]; simp⟩
  obtain ⟨Pm, hPm, hwr⟩ := hwr
  obtain ⟨g1, r1, c1, inv1⟩ := cell_write cw caps hsp t0 t st _ row col m (P ++ sRow sk k (v :: vs)) h.run rfl
    (by simpa using h.inv) h.rows (by omega) h.grid hw0 hwok
  rw [hwr] at g1
  refine ⟨Pm, _, {
      run := rfl, len := hl', vlen := hV', vok := hok', grid := ?_, plen := by simp [hPm.1, hP],
      mlen := by simp [h.mlen], cols := by rw [c1]; omega, rows := by rw [r1]; exact h.rows, stale := Or.inl rfl,
      prev := ?_, fit := by omega, cells := hcells', inv := inv1 }, r1, c1, fun res hres =>
      postM_cons cw caps row t0 t.grid _ _ _ mp P Pm (expectedCell cw caps m) false 0 (advance cw m) n m ns res hmpP
        (fun Y => by rw [g1, List.set_set]) hPm (masked_cons hsx hm) hres⟩
  · rw [g1, List.getElem?_set]
    have : row < t.grid.length := by
      rcases Nat.lt_or_ge row t.grid.length with h' | h'
      · exact h'
      · have hg := h.grid
        rw [List.getElem?_eq_none h'] at hg; simp at hg
    simp [this]
  · intro hrf
    obtain ⟨e1, e2, e3⟩ := h.prev hrf
    have hv2 : v.2 = advance cw l := relV_v2 cw caps v l e1.1
    exact ⟨e1.2, fun hlt => nextL_dirty hv2 (fun h => e2 (by omega)) hlt, fun h => by simp at h⟩

end RowMoves

/-- **The cell loop of one row**: from the row invariant to the masked post-condition, by induction over the loop
    (`renderCellsS_ind`) — each of its moves keeps the invariant and carries the post-condition back. -/
theorem renderCellsS_rowInv (cw : String → Nat) (caps : Caps) (refresh : Bool) (row : Nat) (hsp : cw "20" = 1) (t0 : Term) :
    ∀ (ns ls : List Cell) (col skip : Nat) (track : Bool) (dirty : Nat) (st : RSt) (V : List VCell) (k : Nat)
      (P : List DCell) (t : Term) (mp : List Bool) (sk : Nat),
      RowInv cw caps refresh row t0 col skip track dirty ns ls st V k P t mp sk →
      CellsPostM cw caps row t0 t.grid t.rows t.cols mp P skip ns
        (renderCellsS cw caps refresh row col skip track dirty ns ls st) := by
  -- at a cell, `last` and the parse have a head too
  have cons : ∀ {col skip track dirty n ns ls st V k P t mp sk},
      RowInv cw caps refresh row t0 col skip track dirty (n :: ns) ls st V k P t mp sk →
      ∃ l ls' v vs, ls = l :: ls' ∧ V = v :: vs := by
    intro _ _ _ _ _ _ ls _ V _ _ _ _ _ h
    cases ls with
    | nil => have := h.len; simp at this
    | cons l ls' => cases V with
      | nil => have := h.vlen; simp at this
      | cons v vs => exact ⟨l, ls', v, vs, rfl, rfl⟩
  refine renderCellsS_ind cw caps refresh row
    (M := fun col skip track dirty ns ls st r => ∀ V k P t mp sk,
      RowInv cw caps refresh row t0 col skip track dirty ns ls st V k P t mp sk →
      CellsPostM cw caps row t0 t.grid t.rows t.cols mp P skip ns r) ?_ ?_ ?_ ?_ ?_
  · intro col skip track dirty ns ls st hnil V k P t mp sk h
    have : ns = [] := by
      rcases hnil with h' | h'
      · exact h'
      · have := h.len; rw [h'] at this; exact List.eq_nil_of_length_eq_zero this
    subst this
    exact h.done
  · intro _ _ _ _ _ _ _ _ _ r ih V k P t mp sk h
    obtain ⟨_, _, v, vs, e1, rfl⟩ := cons h
    cases e1
    exact h.covered.2 r (ih _ _ _ _ _ _ h.covered.1)
  · intro _ _ _ _ _ _ _ _ r hsx ih V k P t mp sk h
    obtain ⟨_, _, v, vs, e1, rfl⟩ := cons h
    cases e1
    obtain ⟨x, sk', hI, lift⟩ := h.image hsx
    exact lift r (ih _ _ _ _ _ _ hI)
  · intro _ _ _ _ _ _ _ _ m r hsx hm hc ih V k P t mp sk h
    obtain ⟨_, _, v, vs, e1, rfl⟩ := cons h
    cases e1
    exact (h.unchanged hsx hm hc).2 r (ih _ _ _ _ _ _ (h.unchanged hsx hm hc).1)
  · intro _ _ _ _ _ _ _ _ m r hsx hm _ ih V k P t mp sk h
    obtain ⟨_, _, v, vs, e1, rfl⟩ := cons h
    cases e1
    obtain ⟨Pm, t', hI, r1, c1, lift⟩ := h.written hsp hsx hm
    have := ih _ _ _ _ _ _ hI
    rw [r1, c1] at this
    exact lift r this

/-- Row by row: the terminal row is well formed (a parse `V`) and shows the previous frame's row
    outside that row's image cells (unless the frame is a refresh). -/
def RowsOkM (cw : String → Nat) (caps : Caps) (refresh : Bool) (C : Nat) : List (List DCell) → Grid → Grid → Prop
  | [], [], [] => True
  | r :: rs, l :: ls, _ :: ns =>
      (∃ V : List VCell, r = eRow 0 V ∧ V.length = C ∧ (∀ v ∈ V, VOk v) ∧ (refresh = false → RelV cw caps V l)) ∧
        RowsOkM cw caps refresh C rs ls ns
  | _, _, _ => False

def MaskedRows (cw : String → Nat) (caps : Caps) : Grid → List (List DCell) → Prop
  | [], [] => True
  | n :: ns, x :: xs => Masked cw caps 0 n x ∧ MaskedRows cw caps ns xs
  | _, _ => False

theorem MaskedRows.nil {cw : String → Nat} {caps : Caps} {M : List (List DCell)} (h : MaskedRows cw caps [] M) : M = [] := by
  cases M with
  | nil => rfl
  | cons _ _ => exact h.elim

theorem MaskedRows.cons {cw : String → Nat} {caps : Caps} {n : List Cell} {ns : Grid} {M : List (List DCell)}
    (h : MaskedRows cw caps (n :: ns) M) : ∃ x xs, M = x :: xs ∧ Masked cw caps 0 n x ∧ MaskedRows cw caps ns xs := by
  cases M with
  | nil => exact h.elim
  | cons x xs => exact ⟨x, xs, rfl, h.1, h.2⟩

def RowsPostM (cw : String → Nat) (caps : Caps) (t0 : Term) (D : List (List DCell)) (R C : Nat) (ns : Grid)
    (res : Grid × RSt) : Prop :=
  ∃ M, (run cw t0 res.2.out).grid = D ++ M ∧ MaskedRows cw caps ns M ∧
  (run cw t0 res.2.out).rows = R ∧ (run cw t0 res.2.out).cols = C ∧
  Tracks caps (run cw t0 res.2.out) res.2.pen

theorem renderRowsS_display (cw : String → Nat) (caps : Caps) (refresh : Bool) (hsp : cw "20" = 1) (t0 : Term) :
    ∀ (ns ls : Grid) (row : Nat) (st : RSt) (D Rm : List (List DCell)) (t : Term), run cw t0 st.out = t →
      ns.length = ls.length → t.grid = D ++ Rm → D.length = row → row + ns.length = t.rows →
      (∀ r ∈ ns, r.length = t.cols) → (∀ r ∈ ls, r.length = t.cols) →
      RowsOkM cw caps refresh t.cols Rm ls ns →
      (∀ r ∈ ns, ∀ c ∈ r, 0 ≤ c.w ∧ WidthOk cw caps c) →
      Tracks caps t st.pen →
      RowsPostM cw caps t0 D t.rows t.cols ns (renderRowsS cw caps refresh row ns ls st) := by
  intro ns
  induction ns with
  | nil =>
    intro ls row st D Rm t ht hl hg hD hrows hn hlc hok hcells htr
    have : ls = [] := by cases ls with
      | nil => rfl
      | cons _ _ => simp at hl
    subst this
    have : Rm = [] := by cases Rm with
      | nil => rfl
      | cons _ _ => simp [RowsOkM] at hok
    subst this
    subst ht
    simp only [renderRowsS]
    exact ⟨[], by simpa using hg, trivial, rfl, rfl, htr⟩
  | cons n ns ih =>
    intro ls row st D Rm t ht hl hg hD hrows hn hlc hok hcells htr
    cases ls with
    | nil => simp at hl
    | cons l ls =>
      cases Rm with
      | nil => simp [RowsOkM] at hok
      | cons r Rm =>
        obtain ⟨⟨V, hrV, hVlen, hVok, hVref⟩, hok'⟩ := hok
        have hnl : n.length = t.cols := hn n (by simp)
        have hll : l.length = t.cols := hlc l (by simp)
        have hgrow : t.grid[row]? = some ([] ++ sRow 0 0 V) := by
          rw [hg, ← hD, List.getElem?_append_right (Nat.le_refl _)]
          simp [hrV, sRow_zero_zero]
        have hc := renderCellsS_rowInv cw caps refresh row hsp t0 n l 0 0 false 0 { st with reposition := true } V 0 [] t [] 0 {
          run := ht, len := by rw [hnl, hll], vlen := by rw [hVlen, hnl], vok := hVok, grid := hgrow, plen := rfl,
          mlen := rfl, cols := by rw [hnl]; omega, rows := by simp at hrows; omega, stale := Or.inl rfl,
          prev := fun h => ⟨hVref h, fun h' => absurd h' (Nat.lt_irrefl 0), fun _ h' => absurd h' (Nat.lt_irrefl 0)⟩,
          fit := Nat.zero_le _, cells := hcells n (by simp), inv := ⟨htr, by intro h; simp at h⟩ }
        simp only [renderRowsS]
        generalize renderCellsS cw caps refresh row 0 0 false 0 n l { st with reposition := true } = rc at hc
        obtain ⟨l', st'⟩ := rc
        obtain ⟨P', X, g1, s1, m1, r1, c1, tr1⟩ := hc
        have hP' : P' = [] := List.eq_nil_of_length_eq_zero (by simpa using s1.1)
        subst hP'
        simp only [List.nil_append] at g1
        simp only at g1 r1 c1 tr1
        have hg1 : (run cw t0 st'.out).grid = (D ++ [X]) ++ Rm := by
          rw [g1, hg, ← hD]; simp
        have := ih ls (row + 1) st' (D ++ [X]) Rm (run cw t0 st'.out) rfl
          (by simpa using hl) hg1 (by simp [hD]) (by rw [r1]; simp at hrows; omega)
          (by rw [c1]; exact fun r hr => hn r (by simp [hr])) (by rw [c1]; exact fun r hr => hlc r (by simp [hr]))
          (by rw [c1]; exact hok') (fun r hr => hcells r (by simp [hr]))
          tr1
        rw [r1, c1] at this
        obtain ⟨M, a1, am, a2, a3, a4⟩ := this
        exact ⟨X :: M, by rw [a1]; simp, ⟨m1, am⟩, a2, a3, a4⟩

theorem frame_shapeS (cw : String → Nat) (f : Frame) (R C : Nat)
    (hcur : f.cursorNext.visible = true →
      (0 ≤ f.cursorNext.row ∧ f.cursorNext.row < R) ∧ (0 ≤ f.cursorNext.col ∧ f.cursorNext.col < C)) :
    ∃ (pre X Y : List Tok), (pre = [] ∨ ∃ s, pre = [Tok.pointer s]) ∧
      (renderFrameS cw f).1 = (renderRowsS cw f.caps f.refresh 0 f.next f.last { out := pre }).1 ∧
      (renderFrameS cw f).2 = X ++ (renderRowsS cw f.caps f.refresh 0 f.next f.last { out := pre }).2.out ++ Y ∧
      (∀ k ∈ X, PreTok k) ∧ (∀ k ∈ Y, NoPrint R C k) := by
  obtain ⟨X, Y, h⟩ := flush_shape f R C hcur
    (renderRowsS cw f.caps f.refresh 0 f.next f.last { out := if f.shapeLast ≠ f.shapeNext then [Tok.pointer f.shapeNext] else [] }).2
  exact ⟨_, X, Y, by split <;> simp, rfl, h⟩

theorem frame_coreS (cw : String → Nat) (hsp : cw "20" = 1) (f : Frame) (t : Term) (X Y pre : List Tok)
    (hX : ∀ k ∈ X, PreTok k) (hY : ∀ k ∈ Y, NoPrint t.rows t.cols k)
    (hpre : pre = [] ∨ ∃ s, pre = [Tok.pointer s])
    (hpen : t.pen = TStyle.reset) (hlink : t.link = "") (hlp : t.linkParams = "") (hbad : t.bad = none)
    (hlast : f.last.length = f.next.length)
    (hnc : ∀ r ∈ f.next, r.length = t.cols)
    (hlc : ∀ r ∈ f.last, r.length = t.cols) (hrows : t.rows = f.next.length)
    (hcells : ∀ r ∈ f.next, ∀ c ∈ r, 0 ≤ c.w ∧ WidthOk cw f.caps c)
    (hok : RowsOkM cw f.caps f.refresh t.cols t.grid f.last f.next) :
    (run cw t (X ++ (renderRowsS cw f.caps f.refresh 0 f.next f.last { out := pre }).2.out ++ Y)).bad = none ∧
    MaskedRows cw f.caps f.next
      (run cw t (X ++ (renderRowsS cw f.caps f.refresh 0 f.next f.last { out := pre }).2.out ++ Y)).grid := by
  have hpt : ∀ k ∈ pre, PreTok k := by
    rcases hpre with h | ⟨s, h⟩ <;> subst h <;> simp [PreTok]
  -- `x`: the terminal after `X` and `pre` has the grid, the dimensions and the pen registers of `t`
  have x := (run_preToks cw X hX t).trans (run_preToks cw pre hpt (run cw t X))
  have hpost := renderRowsS_display cw f.caps f.refresh hsp (run cw t X) f.next f.last 0 { out := pre } []
    (run cw (run cw t X) pre).grid (run cw (run cw t X) pre) rfl hlast.symm (by simp) rfl
    (by rw [x.rows, hrows]; simp) (by rw [x.cols]; exact hnc) (by rw [x.cols]; exact hlc)
    (by rw [x.cols, x.grid]; exact hok)
    hcells ⟨by rw [x.bad, hbad], by rw [x.pen, hpen, shown_default], by rw [x.link, hlink], by rw [x.linkParams, hlp]; rfl⟩
  generalize renderRowsS cw f.caps f.refresh 0 f.next f.last { out := pre } = res at hpost
  obtain ⟨M, p1, pm, p2, p3, p4⟩ := hpost
  rw [x.rows] at p2
  rw [x.cols] at p3
  rw [List.append_assoc, DisplayBasic.run_append, DisplayBasic.run_append]
  have z := run_noPrint cw Y (run cw (run cw t X) res.2.out) (by rw [p2, p3]; exact hY)
  refine ⟨by rw [z.bad, p4.bad], ?_⟩
  rw [z.grid, p1]; simpa using pm

end VaxisModel.Lemmas.RenderImages
