/-
From the masked row post-condition of `Lemmas/RenderImages` to the statement of
`Props.C01Sixel.frame_displays_images` (pointwise, "unknown pixels" excluded), from the
frame-level hypotheses to `RowsOkM`, and the case in which nothing is masked: the frame theorem for screens without
image cells in which every glyph fits (`frame_core`, on which Props/C01Display rests).
-/
import VaxisModel.Lemmas.RenderImages

namespace VaxisModel.Lemmas.RenderImages
open VaxisModel.Model.Render VaxisModel.Spec VaxisModel.Spec.Display
open VaxisModel.Lemmas.RenderToks VaxisModel.Lemmas.RenderRow VaxisModel.Lemmas.RenderPen
open VaxisModel.Spec.Expected VaxisModel.Lemmas.RenderDisplay VaxisModel.Lemmas.RenderClip

/-- "Unknown pixels" of one row: an image cell that is not covered by a wide glyph to its left. -/
def maskAt (cw : String → Nat) (caps : Caps) (skip : Nat) (ns : List Cell) (i : Nat) : Bool :=
  (match ns[i]? with | some cell => cell.sixel | none => false) &&
  (match (expectedRowC cw caps skip ns)[i]? with | some DCell.cont => false | _ => true)

theorem expectedCell_clip (cw : String → Nat) (caps : Caps) (rem : Nat) (n : Cell) (hrem : 1 ≤ rem) :
    (if (cellWidth cw n).toNat ≤ rem then expectedCell cw caps n else blankOf caps n) = expectedCell cw caps (clipCell cw rem n) ∧
    (if (cellWidth cw n).toNat ≤ rem then (cellWidth cw n).toNat - 1 else 0) = advance cw (clipCell cw rem n) := by
  unfold clipCell
  by_cases h : rem ≤ advance cw n
  · have h' : ¬ (cellWidth cw n).toNat ≤ rem := (clip_iff cw rem n hrem).1 h
    simp only [h, h', if_true, if_false]
    constructor
    · simp [expectedCell, blankOf, cellWidth]
    · rw [adv_eq, width_clip]; rfl
  · have h' : (cellWidth cw n).toNat ≤ rem := by
      by_cases h2 : (cellWidth cw n).toNat ≤ rem
      · exact h2
      · exact absurd ((clip_iff cw rem n hrem).2 h2) h
    simp only [h, h', if_true, if_false]
    exact ⟨trivial, (adv_eq cw n).symm⟩

theorem masked_eq (cw : String → Nat) (caps : Caps) :
    ∀ (ns : List Cell) (skip : Nat) (X : List DCell), Masked cw caps skip ns X →
      (∀ c ∈ ns, c.sixel = true → advance cw c = 0) →
      X.length = ns.length ∧ ∀ i, maskAt cw caps skip ns i = false → X[i]? = (expectedRowC cw caps skip ns)[i]? := by
  intro ns
  induction ns with
  | nil =>
    intro skip X h _
    have : X = [] := by cases skip <;> simpa [Masked] using h
    subst this
    exact ⟨rfl, fun i _ => by cases skip <;> simp [expectedRowC]⟩
  | cons n ns ih =>
    intro skip X h himg
    have himg' : ∀ c ∈ ns, c.sixel = true → advance cw c = 0 := fun c hc => himg c (by simp [hc])
    cases X with
    | nil => cases skip <;> simp [Masked] at h
    | cons x X =>
      cases skip with
      | succ skip =>
        obtain ⟨hx, hX⟩ := h
        obtain ⟨l1, e1⟩ := ih skip X hX himg'
        refine ⟨by simp [l1], ?_⟩
        intro i hi
        cases i with
        | zero => simp [expectedRowC, hx]
        | succ i =>
          simp only [expectedRowC, List.getElem?_cons_succ]
          apply e1 i
          simpa [maskAt, expectedRowC] using hi
      | zero =>
        by_cases hsx : n.sixel = true
        · simp only [Masked, hsx, if_true] at h
          obtain ⟨l1, e1⟩ := ih 0 X h himg'
          have hadv : advance cw n = 0 := himg n (by simp) hsx
          have hw : (cellWidth cw n).toNat - 1 = 0 := by rw [← adv_eq]; exact hadv
          have hfit : (cellWidth cw n).toNat ≤ ns.length + 1 := by omega
          have hE : expectedRowC cw caps 0 (n :: ns) = expectedCell cw caps n :: expectedRowC cw caps 0 ns := by
            simp only [expectedRowC, hfit, if_true, hw]
          refine ⟨by simp [l1], ?_⟩
          intro i hi
          cases i with
          | zero =>
            exfalso
            have hne : expectedCell cw caps n ≠ DCell.cont := by
              unfold expectedCell; simp only; split <;> simp
            simp only [maskAt, hE, List.getElem?_cons_zero, hsx, Bool.true_and] at hi
            split at hi
            · rename_i he; exact hne (Option.some.inj he)
            · simp at hi
          | succ i =>
            rw [hE]
            simp only [List.getElem?_cons_succ]
            apply e1 i
            simpa [maskAt, hE] using hi
        · have hsx' : n.sixel = false := by simpa using hsx
          simp only [Masked, hsx', Bool.false_eq_true, if_false] at h
          obtain ⟨hx, hX⟩ := h
          obtain ⟨c1, c2⟩ := expectedCell_clip cw caps (ns.length + 1) n (by omega)
          obtain ⟨l1, e1⟩ := ih _ X hX himg'
          have hE : expectedRowC cw caps 0 (n :: ns) =
              expectedCell cw caps (clipCell cw (ns.length + 1) n) ::
                expectedRowC cw caps (advance cw (clipCell cw (ns.length + 1) n)) ns := by
            rw [← c1, ← c2]
            simp only [expectedRowC]
            split <;> rfl
          refine ⟨by simp [l1], ?_⟩
          intro i hi
          cases i with
          | zero => simp [hE, hx]
          | succ i =>
            rw [hE]
            simp only [List.getElem?_cons_succ]
            apply e1 i
            simpa [maskAt, hE] using hi

theorem maskedRows_shows (cw : String → Nat) (caps : Caps) :
    ∀ (next : Grid) (M : List (List DCell)), MaskedRows cw caps next M →
      (∀ r ∈ next, ∀ c ∈ r, c.sixel = true → advance cw c = 0) →
      ∀ (r c : Nat), (match next[r]? with | some row => maskAt cw caps 0 row c | none => false) = false →
        (M[r]?.bind (·[c]?)) = ((expectedC cw caps next)[r]?.bind (·[c]?)) := by
  intro next
  induction next with
  | nil =>
    intro M h _ r c _
    rw [h.nil]; simp [expectedC]
  | cons n ns ih =>
    intro M h himg r c hm
    obtain ⟨x, xs, rfl, h1, h2⟩ := h.cons
    cases r with
    | zero =>
      simp only [List.getElem?_cons_zero, expectedC, List.map_cons, Option.bind_some] at hm ⊢
      exact (masked_eq cw caps n 0 x h1 (himg n (by simp))).2 c hm
    | succ r =>
      simp only [List.getElem?_cons_succ, expectedC, List.map_cons] at hm ⊢
      exact ih xs h2 (fun r hr => himg r (by simp [hr])) r c hm

theorem rowsOkM_of (cw : String → Nat) (caps : Caps) (refresh : Bool) (C : Nat) :
    ∀ (G : List (List DCell)) (ls ns : Grid), G.length = ls.length → ls.length = ns.length →
      (∀ r ∈ G, r.length = C) → (∀ l ∈ ls, l.length = C) →
      (refresh = false → G = expected cw caps ls) → (refresh = true → ∀ r ∈ G, WFRow 0 r) →
      RowsOkM cw caps refresh C G ls ns := by
  intro G
  induction G with
  | nil =>
    intro ls ns hl hl2 _ _ _ _
    cases ls with
    | nil => cases ns with
      | nil => trivial
      | cons _ _ => simp at hl2
    | cons _ _ => simp at hl
  | cons r G ih =>
    intro ls ns hl hl2 hG hL hag hwf
    cases ls with
    | nil => simp at hl
    | cons l ls =>
      cases ns with
      | nil => simp at hl2
      | cons n ns =>
        refine ⟨?_, ih ls ns (by simpa using hl) (by simpa using hl2) (fun r hr => hG r (by simp [hr]))
          (fun l hl' => hL l (by simp [hl']))
          (fun h => by have := hag h; simp only [expected, List.map_cons, List.cons.injEq] at this; exact this.2)
          (fun h r hr => hwf h r (by simp [hr]))⟩
        cases refresh with
        | false =>
          have := hag rfl
          simp only [expected, List.map_cons, List.cons.injEq] at this
          refine ⟨l.map (phi cw caps), by rw [this.1, eRow_map_phi], by simp [hL l (by simp)], ?_,
            fun _ => relV_map_phi cw caps l⟩
          intro v hv
          obtain ⟨c, _, rfl⟩ := List.mem_map.mp hv
          exact phi_ok cw caps c
        | true =>
          obtain ⟨V, e, hlen, hv⟩ := wf_eRow r 0 (hwf rfl r (by simp))
          exact ⟨V, e, by rw [hlen]; exact hG r (by simp), hv, fun h => by simp at h⟩

open VaxisModel.Props.C01 in
theorem renderCellsS_of_fits (cw : String → Nat) (caps : Caps) (refresh : Bool) (row : Nat) :
    ∀ (ns ls : List Cell) (col skip : Nat) (track : Bool) (dirty : Nat) (st : RSt),
      FitsRow cw skip ns → (∀ c ∈ ns, c.sixel = false) →
      renderCellsS cw caps refresh row col skip track dirty ns ls st =
        renderCells cw caps refresh row col skip track dirty ns ls st := by
  intro ns
  induction ns with
  | nil => intro ls col skip track dirty st _ _; simp [renderCellsS, renderCells]
  | cons n ns ih =>
    intro ls col skip track dirty st hf hs
    have hs' : ∀ c ∈ ns, c.sixel = false := fun c hc => hs c (List.mem_cons_of_mem _ hc)
    cases ls with
    | nil => simp [renderCellsS, renderCells]
    | cons l ls =>
      cases skip with
      | succ k => simp only [renderCellsS, renderCells, ih ls _ k _ _ st hf hs']
      | zero =>
        obtain ⟨h1, h2⟩ : (cellWidth cw n).toNat ≤ (n :: ns).length ∧ FitsRow cw ((cellWidth cw n).toNat - 1) ns := hf
        have hclip : clipCell cw (ns.length + 1) n = n := by
          have : ¬ ns.length + 1 ≤ advance cw n := fun h' => (clip_iff cw _ n (by omega)).1 h' h1
          simp [clipCell, this]
        rw [← adv_eq] at h2
        simp only [renderCellsS, renderCells, hs n List.mem_cons_self, hclip, Bool.false_eq_true, if_false,
          ih ls _ _ _ _ _ h2 hs']

open VaxisModel.Props.C01 in
theorem renderRowsS_of_fits (cw : String → Nat) (caps : Caps) (refresh : Bool) :
    ∀ (ns ls : Grid) (row : Nat) (st : RSt), Fits cw ns → (∀ r ∈ ns, ∀ c ∈ r, c.sixel = false) →
      renderRowsS cw caps refresh row ns ls st = renderRows cw caps refresh row ns ls st := by
  intro ns
  induction ns with
  | nil => intro ls row st _ _; simp [renderRowsS, renderRows]
  | cons n ns ih =>
    intro ls row st hf hs
    cases ls with
    | nil => simp [renderRowsS, renderRows]
    | cons l ls =>
      simp only [renderRowsS, renderRows,
        renderCellsS_of_fits cw caps refresh row n l 0 0 false 0 _ (hf n List.mem_cons_self) (hs n List.mem_cons_self),
        ih ls (row + 1) _ (fun r hr => hf r (List.mem_cons_of_mem _ hr)) (fun r hr => hs r (List.mem_cons_of_mem _ hr))]

theorem masked_plain (cw : String → Nat) (caps : Caps) (ns : List Cell) (X : List DCell)
    (h : Masked cw caps 0 ns X) (hs : ∀ c ∈ ns, c.sixel = false) : X = expectedRowC cw caps 0 ns := by
  obtain ⟨hl, he⟩ := masked_eq cw caps ns 0 X h (fun c hc hsx => by rw [hs c hc] at hsx; cases hsx)
  apply List.ext_getElem?
  intro i
  apply he
  unfold maskAt
  cases hi : ns[i]? with
  | none => rfl
  | some c => simp [hs c (List.mem_of_getElem? hi)]

theorem maskedRows_plain (cw : String → Nat) (caps : Caps) :
    ∀ (next : Grid) (M : List (List DCell)), MaskedRows cw caps next M →
      (∀ r ∈ next, ∀ c ∈ r, c.sixel = false) → M = expectedC cw caps next := by
  intro next
  induction next with
  | nil => intro M h _; rw [h.nil]; rfl
  | cons n ns ih =>
    intro M h hs
    obtain ⟨x, xs, rfl, h1, h2⟩ := h.cons
    simp only [expectedC, List.map_cons]
    rw [masked_plain cw caps n x h1 (hs n List.mem_cons_self)]
    have := ih xs h2 (fun r hr => hs r (List.mem_cons_of_mem _ hr))
    simp only [expectedC] at this
    rw [this]

open VaxisModel.Props.C01 in
/-- The frame theorem for screens without image cells in which every glyph fits: the case of `frame_coreS`
    in which nothing is masked, plus what the loop leaves in `last`. -/
theorem frame_core (cw : String → Nat) (hsp : cw "20" = 1) (f : Frame) (t : Term) (X Y pre : List Tok)
    (hX : ∀ k ∈ X, PreTok k) (hY : ∀ k ∈ Y, NoPrint t.rows t.cols k)
    (hpre : pre = [] ∨ ∃ s, pre = [Tok.pointer s])
    (hpen : t.pen = TStyle.reset) (hlink : t.link = "") (hlp : t.linkParams = "") (hbad : t.bad = none)
    (hlen : t.grid.length = f.next.length) (hlast : f.last.length = f.next.length)
    (hgc : ∀ r ∈ t.grid, r.length = t.cols) (hnc : ∀ r ∈ f.next, r.length = t.cols)
    (hlc : ∀ r ∈ f.last, r.length = t.cols) (hrows : t.rows = f.next.length) (hfits : Fits cw f.next)
    (hcells : ∀ r ∈ f.next, ∀ c ∈ r, c.sixel = false ∧ 0 ≤ c.w ∧ WidthOk cw f.caps c)
    (hagree : f.refresh = false → t.grid = expected cw f.caps f.last)
    (hwf : f.refresh = true → ∀ r ∈ t.grid, WFRow 0 r) :
    (run cw t (X ++ (renderRows cw f.caps f.refresh 0 f.next f.last { out := pre }).2.out ++ Y)).bad = none ∧
    (run cw t (X ++ (renderRows cw f.caps f.refresh 0 f.next f.last { out := pre }).2.out ++ Y)).grid
      = expected cw f.caps f.next ∧
    expected cw f.caps (renderRows cw f.caps f.refresh 0 f.next f.last { out := pre }).1 = expected cw f.caps f.next := by
  have hsx : ∀ r ∈ f.next, ∀ c ∈ r, c.sixel = false := fun r hr c hc => (hcells r hr c hc).1
  obtain ⟨c1, c2⟩ := frame_coreS cw hsp f t X Y pre hX hY hpre hpen hlink hlp hbad hlast hnc hlc hrows
    (fun r hr c hc => (hcells r hr c hc).2)
    (rowsOkM_of cw f.caps f.refresh t.cols t.grid f.last f.next (by rw [hlen, hlast]) hlast hgc hlc hagree hwf)
  rw [renderRowsS_of_fits cw f.caps f.refresh f.next f.last 0 _ hfits hsx] at c1 c2
  refine ⟨c1, ?_, ?_⟩
  · rw [maskedRows_plain cw f.caps f.next _ c2 hsx, expectedC_of_fits cw f.caps f.next hfits]
  · exact renderRows_last cw f.caps f.refresh f.next f.last 0 _ hlast.symm
      (fun r hr r' hr' => (hnc r hr).trans (hlc r' hr').symm) hsx

end VaxisModel.Lemmas.RenderImages
