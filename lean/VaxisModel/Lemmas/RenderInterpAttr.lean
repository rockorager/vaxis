import Lean.Meta.Tactic.Simp.RegisterCommand
/- The simp set `interp`: the equations by which `simp` runs the interpreter of the regenerated `render()`
   skeletons (`Model.RenderInterp.exec`) on a block whose lines are known. -/
register_simp_attr interp
