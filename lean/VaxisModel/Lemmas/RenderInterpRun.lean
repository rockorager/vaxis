/-
C01: facts about the interpreter `Model/RenderInterp` that the block runs of `Props/C01Body` share.
-/
import VaxisModel.Model.RenderInterp
import VaxisModel.Lemmas.RenderInterpAttr

namespace VaxisModel.Lemmas.RenderInterpRun
open VaxisModel.Model.Render VaxisModel.Model.RenderInterp

theorem foldl_length_le {α β σ : Type} (f : List α × σ → β → List α × σ)
    (hf : ∀ st l, (f st l).1.length ≤ st.1.length + 1) :
    ∀ (p : List β) (st : List α × σ), (p.foldl f st).1.length ≤ st.1.length + p.length
  | [], _ => Nat.le_refl _
  | l :: rest, st => by
    refine Nat.le_trans (foldl_length_le f hf rest _) ?_
    have := hf st l
    simp only [List.length_cons]; omega

theorem prune_length_le (p : List (Nat × Kind × Atom)) : (prune p).length ≤ p.length := by
  unfold prune
  rw [List.length_reverse]
  refine Nat.le_trans (foldl_length_le _ ?_ p ([], none)) (by simp)
  intro st l
  rcases st with ⟨acc, _ | d⟩ <;> simp only <;> repeat' split
  all_goals simp only [List.length_cons]; omega

/-- The fuel `runP` gives a block: one more than the number of its lines, hence at least one more than
    the number of lines `prune` keeps. -/
theorem runP_fuel (cw : String → Nat) (caps : Caps) {sk : List Line} {p : List (Nat × Kind × Atom)}
    (h : prune (prog sk) = p) (e : Env) :
    ∃ f, runP cw caps sk e = exec cw caps (f + (p.length + 1)) p e := by
  have := prune_length_le (prog sk)
  rw [h] at this
  simp only [prog, List.length_map] at this
  exact ⟨sk.length - p.length, by rw [runP, h]; congr 1; omega⟩

theorem env_ite (c : Prop) [Decidable c] (a b : Env) :
    (if c then a else b).cont = (if c then a.cont else b.cont) ∧ (if c then a else b).ret = (if c then a.ret else b.ret) ∧
    (if c then a else b).brk = (if c then a.brk else b.brk) ∧ (if c then a else b).unknown = (if c then a.unknown else b.unknown) ∧
    (if c then a else b).out = (if c then a.out else b.out) ∧ (if c then a else b).reposition = (if c then a.reposition else b.reposition) ∧
    (if c then a else b).lastSet = (if c then a.lastSet else b.lastSet) ∧ (if c then a else b).dirty = (if c then a.dirty else b.dirty) ∧
    (if c then a else b).cursor = (if c then a.cursor else b.cursor) ∧ (if c then a else b).next = (if c then a.next else b.next) ∧
    (if c then a else b).link = (if c then a.link else b.link) ∧ (if c then a else b).linkPs = (if c then a.linkPs else b.linkPs) ∧
    (if c then a else b).idx = (if c then a.idx else b.idx) ∧ (if c then a else b).endv = (if c then a.endv else b.endv) ∧
    (if c then a else b).col = (if c then a.col else b.col) ∧ (if c then a else b).row = (if c then a.row else b.row) ∧
    (if c then a else b).ps = (if c then a.ps else b.ps) ∧ (if c then a else b).w = (if c then a.w else b.w) ∧
    (if c then a else b).skipv = (if c then a.skipv else b.skipv) ∧ (if c then a else b).nulled = (if c then a.nulled else b.nulled) := by
  split <;> simp

theorem ite_append_right {α : Type} (c : Prop) [Decidable c] (X a b : List α) :
    (if c then X ++ a else X ++ b) = X ++ (if c then a else b) := by split <;> rfl
theorem ite_append_nil_left {α : Type} (c : Prop) [Decidable c] (X a : List α) :
    (if c then X else X ++ a) = X ++ (if c then [] else a) := by split <;> simp
theorem ite_append_nil_right {α : Type} (c : Prop) [Decidable c] (X a : List α) :
    (if c then X ++ a else X) = X ++ (if c then a else []) := by split <;> simp
theorem ite_singleton {α : Type} (c : Prop) [Decidable c] (a b : α) :
    (if c then [a] else [b]) = [if c then a else b] := by split <;> rfl
theorem ite_ite_and {α : Type} (c d : Prop) [Decidable c] [Decidable d] (p q : α) :
    (if c then (if d then p else q) else p) = if c ∧ ¬ d then q else p := by
  by_cases c <;> by_cases d <;> simp [*]

attribute [interp] exec execArms evalG evalS tagMatch List.takeWhile List.dropWhile env_ite
  ite_append_right ite_append_nil_left ite_append_nil_right ite_singleton ite_ite_and

theorem run_eq (cw : String → Nat) (caps : Caps) {sk : List Line} {p : List (Nat × Kind × Atom)} (h : prog sk = p) (e : Env) :
    run cw caps sk e = exec cw caps (p.length + 1) p e := by
  subst h; simp [run, prog]

end VaxisModel.Lemmas.RenderInterpRun
