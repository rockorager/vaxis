/-
F112b repair, byte view of `Model.Render.lpField`: under the hex decoding of the model's opaque
strings (two lower-case hex digits per byte — `hx.Hex`, `Driver.Common.hexOfBytes`) the parameter
field `render()` writes into OSC 8 contains no `;` (byte 59), whatever `Style.HyperlinkParams` holds.
Provided for the C12 composition (its wire model needs "the parameter string has no `;`").
-/
import VaxisModel.Model.Render

namespace VaxisModel.Lemmas.RenderLink
open VaxisModel.Model.Render

/-- Value of a lower-case hex digit; 16 for anything else (so that no other pair decodes to 59). -/
def hexVal (c : Char) : Nat :=
  if 48 ≤ c.toNat ∧ c.toNat ≤ 57 then c.toNat - 48
  else if 97 ≤ c.toNat ∧ c.toNat ≤ 102 then c.toNat - 87
  else 16

/-- Bytes of a hex string, pair by pair. -/
def hexDecL : List Char → List Nat
  | a :: b :: r => (16 * hexVal a + hexVal b) :: hexDecL r
  | _ => []

def hexDec (s : String) : List Nat := hexDecL s.toList

theorem hexVal_le (c : Char) : hexVal c ≤ 16 := by
  unfold hexVal; split
  · omega
  · split <;> omega

theorem char_of_toNat (c : Char) (n : Nat) (h : c.toNat = n) : c = Char.ofNat n := by
  subst h
  exact (Char.ofNat_toNat c).symm

theorem pair_59 (a b : Char) (h : 16 * hexVal a + hexVal b = 59) : a = '3' ∧ b = 'b' := by
  have ha := hexVal_le a
  have hb := hexVal_le b
  have h3 : hexVal a = 3 := by omega
  have h11 : hexVal b = 11 := by omega
  constructor
  · unfold hexVal at h3
    split at h3
    · exact char_of_toNat a 51 (by omega)
    · split at h3 <;> omega
  · unfold hexVal at h11
    split at h11
    · omega
    · split at h11
      · exact char_of_toNat b 98 (by omega)
      · omega

theorem lpFieldL_no59 (l : List Char) : 59 ∉ hexDecL (lpFieldL l) := by
  induction l using lpFieldL.induct with
  | case1 a b r hab => simp [lpFieldL, hab, hexDecL]
  | case2 a b r hab ih =>
    simp only [lpFieldL, hab, if_false, hexDecL, List.mem_cons, not_or]
    exact ⟨fun h59 => hab (pair_59 a b h59.symm), ih⟩
  | case3 r h =>
    match r, h with
    | [], _ => simp [lpFieldL, hexDecL]
    | [a], _ => simp [lpFieldL, hexDecL]
    | a :: b :: r, h => exact absurd rfl (h a b r)

/-- **The OSC 8 parameter field the renderer writes never contains `;`.** -/
theorem lpField_no_semicolon (s : String) : 59 ∉ hexDec (lpField s) := by
  unfold hexDec lpField
  rw [String.toList_ofList]
  exact lpFieldL_no59 _

/-- The field is the whole string when the string holds no `;` (nothing is lost for valid parameters). -/
theorem lpFieldL_id (l : List Char) (h59 : 59 ∉ hexDecL l) : lpFieldL l = l := by
  induction l using lpFieldL.induct with
  | case1 a b r hab =>
    obtain ⟨rfl, rfl⟩ := hab
    simp only [hexDecL, List.mem_cons, not_or] at h59
    exact absurd (by decide) h59.1
  | case2 a b r hab ih =>
    simp only [hexDecL, List.mem_cons, not_or] at h59
    simp only [lpFieldL, hab, if_false, ih h59.2]
  | case3 r h => unfold lpFieldL; split <;> first | rfl | exact absurd rfl (h _ _ _)

theorem lpField_id (s : String) (h : 59 ∉ hexDec s) : lpField s = s := by
  unfold lpField
  rw [lpFieldL_id _ h, String.ofList_toList]

example : hexDec "613b62" = [97, 59, 98] ∧ lpField "613b62" = "61" ∧ hexDec (lpField "613b62") = [97] := by decide

end VaxisModel.Lemmas.RenderLink
