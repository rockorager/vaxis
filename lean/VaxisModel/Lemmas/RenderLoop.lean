/-
The loop FRAME of `render()`'s cell loop, transcribed literally — an index `col` into the rows, the
`last` row updated in place, `col += skip` after the two nulling loops

    for i := 1; i < skip+1; i += 1 {
        if col+i >= len(row) { break }
        [ if end := col+i+advance(last[col+i])+1; end > dirty { dirty = end } ]      (second loop only)
        last[col+i] = Cell{}
    }

— and proved equal to the model's list recursion `renderCellsS` with its `skip` counter and `track`
flag (`goRow_eq`).  The three branch bodies are the ones `Props/C01Body` executes from the extracted
text (`render_*_branch_eq_interp`); what this file adds is the refinement between the two loop
schemes.
-/
import VaxisModel.Model.RenderSixel
import VaxisModel.Lemmas.RenderDisplay

namespace VaxisModel.Lemmas.RenderLoop
open VaxisModel.Model.Render
open VaxisModel.Lemmas.RenderDisplay (cellToks)

/-- The nulling loop: `count` = `skip`, `p` = `col + i`; with `track` the `dirty` extension of the
    second loop.  Returns the row and `dirty`. -/
def nullLoop (cw : String → Nat) (track : Bool) : Nat → Nat → List Cell → Nat → List Cell × Nat
  | 0, _, L, d => (L, d)
  | c + 1, p, L, d =>
    match L[p]? with
    | none => (L, d)                      -- col+i >= len: break
    | some l =>
      nullLoop cw track c (p + 1) (L.set p {})
        (if track ∧ p + advance cw l + 1 > d then p + advance cw l + 1 else d)

/-- `dirty` after the model's skip branch has passed `s` cells. -/
def foldDirty (cw : String → Nat) (track : Bool) : Nat → Nat → List Cell → Nat → Nat
  | _, 0, _, d => d
  | _, _ + 1, [], d => d
  | col, s + 1, l :: ls, d =>
    foldDirty cw track (col + 1) s ls (if track ∧ col + advance cw l + 1 > d then col + advance cw l + 1 else d)

/-- The cell loop as the source writes it (fuel: one unit per iteration). -/
def goRow (cw : String → Nat) (caps : Caps) (refresh : Bool) (row : Nat) (ns : List Cell) :
    Nat → Nat → Nat → RSt → List Cell → List Cell × RSt
  | 0, _, _, st, L => (L, st)
  | f + 1, col, dirty, st, L =>
    match ns[col]?, L[col]? with
    | some n0, some l =>
      if n0.sixel then
        goRow cw caps refresh row ns f (col + 1)
          (if col + advance cw l + 1 > dirty then col + advance cw l + 1 else dirty)
          { st with reposition := true } (L.set col n0)
      else
        let m := clipCell cw (ns.length - col) n0
        if m = l ∧ ¬ refresh ∧ col ≥ dirty then
          let r := nullLoop cw false (advance cw m) (col + 1) L dirty
          goRow cw caps refresh row ns f (col + advance cw m + 1) r.2 { st with reposition := true } r.1
        else
          let dirty1 := if col + advance cw l + 1 > dirty then col + advance cw l + 1 else dirty
          let st' : RSt := { reposition := false, pen := m.style, out := st.out ++ cellToks cw caps st row col m }
          let r := nullLoop cw true (advance cw m) (col + 1) (L.set col m) dirty1
          goRow cw caps refresh row ns f (col + advance cw m + 1) r.2 st' r.1
    | _, _ => (L, st)

theorem nullLoop_closed (cw : String → Nat) (track : Bool) :
    ∀ (s : Nat) (P S : List Cell) (d : Nat),
      nullLoop cw track s P.length (P ++ S) d =
        (P ++ List.replicate (min s S.length) ({} : Cell) ++ S.drop s, foldDirty cw track P.length s S d) := by
  intro s
  induction s with
  | zero => intro P S d; simp [nullLoop, foldDirty]
  | succ s ih =>
    intro P S d
    cases S with
    | nil => simp [nullLoop, foldDirty]
    | cons x S =>
      have hget : (P ++ x :: S)[P.length]? = some x := by simp
      have hset : (P ++ x :: S).set P.length ({} : Cell) = (P ++ [({} : Cell)]) ++ S := by simp
      simp only [nullLoop, hget, hset]
      have := ih (P ++ [({} : Cell)]) S (if track ∧ P.length + advance cw x + 1 > d then P.length + advance cw x + 1 else d)
      simp only [List.length_append, List.length_singleton] at this
      rw [this]
      simp only [foldDirty, List.length_cons, List.drop_succ_cons]
      have hm : min (s + 1) (S.length + 1) = min s S.length + 1 := by omega
      rw [hm, List.replicate_succ]
      simp

theorem skip_closed (cw : String → Nat) (caps : Caps) (refresh : Bool) (row : Nat) :
    ∀ (s : Nat) (ns ls : List Cell) (col : Nat) (track : Bool) (d : Nat) (st : RSt), ns.length = ls.length →
      renderCellsS cw caps refresh row col s track d ns ls st =
        (List.replicate (min s ns.length) ({} : Cell) ++
            (renderCellsS cw caps refresh row (col + min s ns.length) 0 track (foldDirty cw track col s ls d)
              (ns.drop s) (ls.drop s) st).1,
         (renderCellsS cw caps refresh row (col + min s ns.length) 0 track (foldDirty cw track col s ls d)
              (ns.drop s) (ls.drop s) st).2) := by
  intro s
  induction s with
  | zero => intro ns ls col track d st _; simp [foldDirty]
  | succ s ih =>
    intro ns ls col track d st hl
    cases ns with
    | nil =>
      have : ls = [] := List.eq_nil_of_length_eq_zero hl.symm
      subst this
      simp [renderCellsS, foldDirty]
    | cons n ns =>
      cases ls with
      | nil => simp at hl
      | cons l ls =>
        have hl' : ns.length = ls.length := by simpa using hl
        simp only [renderCellsS, foldDirty, List.drop_succ_cons, List.length_cons]
        rw [ih ns ls (col + 1) track _ st hl']
        have hm : min (s + 1) (ns.length + 1) = min s ns.length + 1 := by omega
        have hc : col + 1 + min s ns.length = col + (min s ns.length + 1) := by omega
        rw [hm, hc, List.replicate_succ]
        simp

theorem goRow_done (cw : String → Nat) (caps : Caps) (refresh : Bool) (row : Nat) (N : List Cell) (f col dirty : Nat) (st : RSt)
    (L : List Cell) (h : N.length ≤ col) : goRow cw caps refresh row N f col dirty st L = (L, st) := by
  cases f with
  | zero => rfl
  | succ f =>
    have : N[col]? = none := List.getElem?_eq_none h
    simp [goRow, this]

/-- After a cell (left as `c` in `last`) whose glyph covers `a` further cells, both schemes null those cells and
    resume behind them — the index loop by its nulling loop and `col += skip`, the list recursion by counting `skip`
    down — or stop where the row ends.  `ih`: the two agree on what is left of the row. -/
theorem goRow_resume (cw : String → Nat) (caps : Caps) (refresh : Bool) (row : Nat) (N ns ls : List Cell) (f : Nat)
    (D : List Cell) (c : Cell) (a : Nat) (track : Bool) (dirty : Nat) (st : RSt)
    (ih : ∀ (ns' ls' D' : List Cell) (dirty' : Nat), ns'.length ≤ ns.length → ns'.length = ls'.length →
      N.drop D'.length = ns' → D'.length + ns'.length = N.length →
      goRow cw caps refresh row N f D'.length dirty' st (D' ++ ls') =
        (D' ++ (renderCellsS cw caps refresh row D'.length 0 track dirty' ns' ls' st).1,
         (renderCellsS cw caps refresh row D'.length 0 track dirty' ns' ls' st).2))
    (hl : ns.length = ls.length) (hN : N.drop (D.length + 1) = ns) (hlen : D.length + 1 + ns.length = N.length) :
    goRow cw caps refresh row N f (D.length + a + 1) (nullLoop cw track a (D.length + 1) (D ++ c :: ls) dirty).2 st
        (nullLoop cw track a (D.length + 1) (D ++ c :: ls) dirty).1 =
      (D ++ c :: (renderCellsS cw caps refresh row (D.length + 1) a track dirty ns ls st).1,
       (renderCellsS cw caps refresh row (D.length + 1) a track dirty ns ls st).2) := by
  have e1 : D ++ c :: ls = (D ++ [c]) ++ ls := by simp
  have e2 : (D ++ [c]).length = D.length + 1 := by simp
  rw [e1, ← e2, nullLoop_closed cw track a (D ++ [c]) ls dirty, e2,
    skip_closed cw caps refresh row a ns ls (D.length + 1) track dirty st hl]
  simp only
  by_cases hle : a ≤ ls.length
  · have h1 : min a ls.length = a := Nat.min_eq_left hle
    have h2 : min a ns.length = a := by rw [hl]; exact h1
    have := ih (ns.drop a) (ls.drop a) (D ++ [c] ++ List.replicate a ({} : Cell))
      (foldDirty cw track (D.length + 1) a ls dirty) (by simp) (by simp [hl])
      (by simp only [List.length_append, List.length_singleton, List.length_replicate]; rw [← hN, List.drop_drop])
      (by simp; omega)
    simp only [List.length_append, List.length_singleton, List.length_replicate] at this
    rw [h1, h2]
    have e3 : D.length + a + 1 = D.length + 1 + a := by omega
    rw [e3, this]
    simp [List.append_assoc]
  · -- the glyph reaches beyond the row: everything to the end is nulled, the loop ends
    have h1 : min a ls.length = ls.length := Nat.min_eq_right (by omega)
    have h2 : min a ns.length = ns.length := by rw [hl]; exact h1
    have hd1 : ns.drop a = [] := List.drop_eq_nil_of_le (by omega)
    have hd2 : ls.drop a = [] := List.drop_eq_nil_of_le (by omega)
    rw [h1, h2, hd1, hd2, goRow_done cw caps refresh row N f _ _ _ _ (by omega)]
    simp [renderCellsS, hl]

/-- At column `col = |D|`, with the finished part `D` of the `last` row and the untouched rest `ls`,
    the index loop computes what the list recursion computes. -/
theorem goRow_gen (cw : String → Nat) (caps : Caps) (refresh : Bool) (row : Nat) (N : List Cell) :
    ∀ (k : Nat) (ns ls : List Cell) (f : Nat) (D : List Cell) (dirty : Nat) (track : Bool) (st : RSt),
      ns.length = k → ns.length = ls.length → N.drop D.length = ns → D.length + ns.length = N.length → ns.length < f →
      goRow cw caps refresh row N f D.length dirty st (D ++ ls) =
        (D ++ (renderCellsS cw caps refresh row D.length 0 track dirty ns ls st).1,
         (renderCellsS cw caps refresh row D.length 0 track dirty ns ls st).2) := by
  intro k
  induction k using Nat.strongRecOn with
  | _ k ih =>
    intro ns ls f D dirty track st hk hl hN hlen hf
    cases f with
    | zero => omega
    | succ f =>
      cases ns with
      | nil =>
        have hls : ls = [] := List.eq_nil_of_length_eq_zero hl.symm
        subst hls
        have hnone : N[D.length]? = none := by
          apply List.getElem?_eq_none; simp at hlen; omega
        simp [goRow, hnone, renderCellsS]
      | cons n0 ns =>
        cases ls with
        | nil => simp at hl
        | cons l ls =>
          have hl' : ns.length = ls.length := by simpa using hl
          have hn0 : N[D.length]? = some n0 := by
            have := congrArg (fun x => x[0]?) hN
            simpa [List.getElem?_drop] using this
          have hl0 : (D ++ l :: ls)[D.length]? = some l := by simp
          have hNd : N.drop (D.length + 1) = ns := by
            have := congrArg (fun x => x.drop 1) hN
            simpa [List.drop_drop, Nat.add_comm] using this
          have hrem : N.length - D.length = ns.length + 1 := by simp at hlen; omega
          have hlen' : D.length + 1 + ns.length = N.length := by simp at hlen; omega
          -- the two schemes agree on every shorter rest of the row, whatever `track`, `dirty` and the state
          have rest : ∀ (track' : Bool) (st' : RSt) (ns' ls' D' : List Cell) (dirty' : Nat), ns'.length ≤ ns.length →
              ns'.length = ls'.length → N.drop D'.length = ns' → D'.length + ns'.length = N.length →
              goRow cw caps refresh row N f D'.length dirty' st' (D' ++ ls') =
                (D' ++ (renderCellsS cw caps refresh row D'.length 0 track' dirty' ns' ls' st').1,
                 (renderCellsS cw caps refresh row D'.length 0 track' dirty' ns' ls' st').2) :=
            fun track' st' ns' ls' D' dirty' hle h1 h2 h3 =>
              ih ns'.length (by simp at hk; omega) ns' ls' f D' dirty' track' st' rfl h1 h2 h3 (by simp at hf; omega)
          simp only [goRow, hn0, hl0]
          by_cases hsx : n0.sixel = true
          · -- image cell
            simp only [hsx, if_true]
            have hset : (D ++ l :: ls).set D.length n0 = (D ++ [n0]) ++ ls := by simp
            rw [hset]
            have := rest false { st with reposition := true } ns ls (D ++ [n0])
              (if D.length + advance cw l + 1 > dirty then D.length + advance cw l + 1 else dirty)
              (Nat.le_refl _) hl' (by simpa using hNd) (by simp; omega)
            simp only [List.length_append, List.length_singleton] at this
            rw [this]
            simp [renderCellsS, hsx]
          · have hsx' : n0.sixel = false := by simpa using hsx
            simp only [hsx', Bool.false_eq_true, if_false, hrem]
            generalize hm : clipCell cw (ns.length + 1) n0 = m
            by_cases hc : m = l ∧ ¬ refresh ∧ D.length ≥ dirty
            · -- unchanged
              rw [if_pos hc]
              have hmodel : renderCellsS cw caps refresh row D.length 0 track dirty (n0 :: ns) (l :: ls) st =
                  (l :: (renderCellsS cw caps refresh row (D.length + 1) (advance cw m) false dirty ns ls { st with reposition := true }).1,
                   (renderCellsS cw caps refresh row (D.length + 1) (advance cw m) false dirty ns ls { st with reposition := true }).2) := by
                simp only [renderCellsS, hsx', Bool.false_eq_true, if_false, hm]
                rw [if_pos hc]
              rw [hmodel]
              exact goRow_resume cw caps refresh row N ns ls f D l (advance cw m) false dirty _ (rest false _) hl' hNd hlen'
            · -- written
              rw [if_neg hc]
              have hset : (D ++ l :: ls).set D.length m = D ++ m :: ls := by simp
              rw [hset]
              generalize hd1 : (if D.length + advance cw l + 1 > dirty then D.length + advance cw l + 1 else dirty) = dirty1
              generalize hst' : ({ reposition := false, pen := m.style, out := st.out ++ cellToks cw caps st row D.length m } : RSt) = st'
              have hmodel : renderCellsS cw caps refresh row D.length 0 track dirty (n0 :: ns) (l :: ls) st =
                  (m :: (renderCellsS cw caps refresh row (D.length + 1) (advance cw m) true dirty1 ns ls st').1,
                   (renderCellsS cw caps refresh row (D.length + 1) (advance cw m) true dirty1 ns ls st').2) := by
                simp only [renderCellsS, hsx', Bool.false_eq_true, if_false, hm]
                rw [if_neg hc, ← hd1, ← hst']
                rfl
              rw [hmodel]
              exact goRow_resume cw caps refresh row N ns ls f D m (advance cw m) true dirty1 st' (rest true st') hl' hNd hlen'

/-- **The index loop of the source is the model's list recursion**, for every row, previous row, loop
    state, width oracle and capability set. -/
theorem goRow_eq (cw : String → Nat) (caps : Caps) (refresh : Bool) (row : Nat) (ns ls : List Cell) (st : RSt)
    (hl : ns.length = ls.length) :
    goRow cw caps refresh row ns (ns.length + 1) 0 0 st ls = renderCellsS cw caps refresh row 0 0 false 0 ns ls st := by
  have := goRow_gen cw caps refresh row ns ns.length ns ls (ns.length + 1) [] 0 false st rfl hl (by simp) (by simp) (by omega)
  simpa using this

end VaxisModel.Lemmas.RenderLoop
