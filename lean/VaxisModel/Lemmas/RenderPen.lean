/-
The pen lemma for the diffing renderer (C01 display proof): after the tokens of `penDelta caps pen next`
a terminal whose pen shows `pen` shows `next`.
-/
import VaxisModel.Lemmas.RenderToks
import VaxisModel.Spec.Expected
import VaxisModel.Lemmas.SpecSgr

namespace VaxisModel.Lemmas.RenderPen
open VaxisModel.Model.Render VaxisModel.Spec VaxisModel.Spec.Display VaxisModel.Lemmas.RenderToks
open VaxisModel.Spec.Expected (shown colOf)
open VaxisModel.Model
open VaxisModel.Lemmas.SpecSgr

theorem penRun_nil (s : TStyle) : penRun s [] = s := rfl

theorem penRun_cons (s : TStyle) (t : Tok) (ts : List Tok) : penRun s (t :: ts) = penRun (penStep s t) ts := rfl

theorem penRun_sgr1 (s : TStyle) (ps : List (List Nat)) : penRun s [Tok.sgr ps] = sgr s ps := rfl

theorem effParams_eq (caps : Caps) (c : Nat) :
    effParams caps c = Color.params (if caps.rgb then c else Color.asIndex c) := by
  unfold effParams; split <;> rfl

/-- The colour tokens of a slot (`which` = 30: foreground, 40: background) set that slot: `set` is the slot's update, the
    five hypotheses say what `Spec.sgr` does with the five forms `colorToksP` writes. -/
theorem penRun_colorToks (which : Nat) (set : TStyle → Col → TStyle) (caps : Caps) (s : TStyle) (c : Nat)
    (hdef : sgr s [[which + 9]] = set s .default)
    (hlow : ∀ i, i < 8 → sgr s [[which + i]] = set s (.idx i))
    (hhigh : ∀ i, ¬ i < 8 → i < 16 → sgr s [[which + 60 + (i - 8)]] = set s (.idx i))
    (hidx : ∀ i, sgr s [[which + 8, 5, i]] = set s (.idx i))
    (hrgb : ∀ r g b, sgr s [[which + 8, 2, r, g, b]] = set s (.rgb r g b)) :
    penRun s (colorToks caps which c) = set s (colOf caps c) := by
  unfold colorToks colOf
  rw [effParams_eq]
  generalize (if caps.rgb then c else Color.asIndex c) = x
  unfold Color.params
  split
  · simp only [colorToksP]
    split
    · rw [penRun_sgr1, hlow _ (by assumption)]
    · split
      · rw [penRun_sgr1, hhigh _ (by assumption) (by assumption)]
      · rw [penRun_sgr1, hidx]
  · split
    · simp only [colorToksP]; rw [penRun_sgr1, hrgb]
    · simp only [colorToksP]; rw [penRun_sgr1, hdef]

theorem penRun_colorToks_fg (caps : Caps) (s : TStyle) (c : Nat) :
    penRun s (colorToks caps 30 c) = { s with fg := colOf caps c } :=
  penRun_colorToks 30 (fun s c => { s with fg := c }) caps s c (sgr_39 s) (sgr_fgLow s) (sgr_fgHigh s) (sgr_fgIdx s)
    (sgr_fgRgb s)

theorem penRun_colorToks_bg (caps : Caps) (s : TStyle) (c : Nat) :
    penRun s (colorToks caps 40 c) = { s with bg := colOf caps c } :=
  penRun_colorToks 40 (fun s c => { s with bg := c }) caps s c (sgr_49 s) (sgr_bgLow s) (sgr_bgHigh s) (sgr_bgIdx s)
    (sgr_bgRgb s)

theorem penRun_ulColorToks (caps : Caps) (s : TStyle) (c : Nat) :
    penRun s (ulColorToks caps c) = { s with ul := colOf caps c } := by
  unfold ulColorToks colOf
  rw [effParams_eq]
  generalize (if caps.rgb then c else Color.asIndex c) = x
  unfold Color.params
  split
  · simp only [ulColorToksP]; rw [penRun_sgr1, sgr_ulIdx]
  · split
    · simp only [ulColorToksP]; rw [penRun_sgr1, sgr_ulRgb]
    · simp only [ulColorToksP]; rw [penRun_sgr1, sgr_59]

theorem TStyle.ext' {a b : TStyle} (h1 : a.fg = b.fg) (h2 : a.bg = b.bg) (h3 : a.ul = b.ul) (h4 : a.ulStyle = b.ulStyle)
    (h5 : a.bold = b.bold) (h6 : a.dim = b.dim) (h7 : a.italic = b.italic) (h8 : a.blink = b.blink)
    (h9 : a.reverse = b.reverse) (h10 : a.hidden = b.hidden) (h11 : a.strike = b.strike) : a = b := by
  cases a; cases b; simp_all

/-- A part of the delta guarded by `p ≠ n` (the field shows `p`, `r p = s`): right if its tokens are right when written. -/
theorem part_guard (s : TStyle) (p n : Nat) (toks : List Tok) (r : Nat → TStyle) (h : r p = s) (hw : penRun s toks = r n) :
    penRun s (if p ≠ n then toks else []) = r n := by
  split
  · exact hw
  · rename_i hn
    rw [← Decidable.not_not.mp hn, penRun_nil, h]

theorem part_fg (caps : Caps) (s : TStyle) (p n : Nat) (h : s.fg = colOf caps p) :
    penRun s (if p ≠ n then colorToks caps 30 n else []) = { s with fg := colOf caps n } :=
  part_guard s p n _ (fun n => { s with fg := colOf caps n }) (by rw [← h]) (penRun_colorToks_fg caps s n)

theorem part_bg (caps : Caps) (s : TStyle) (p n : Nat) (h : s.bg = colOf caps p) :
    penRun s (if p ≠ n then colorToks caps 40 n else []) = { s with bg := colOf caps n } :=
  part_guard s p n _ (fun n => { s with bg := colOf caps n }) (by rw [← h]) (penRun_colorToks_bg caps s n)

theorem part_ul (caps : Caps) (s : TStyle) (p n : Nat)
    (h : s.ul = if caps.styledUnderlines then colOf caps p else .default) :
    penRun s (if caps.styledUnderlines ∧ p ≠ n then ulColorToks caps n else []) =
      { s with ul := if caps.styledUnderlines then colOf caps n else .default } := by
  split
  · rename_i hc
    rw [if_pos hc.1]
    exact penRun_ulColorToks caps s n
  · rename_i hc
    rw [penRun_nil]
    by_cases hs : caps.styledUnderlines = true
    · have : p = n := Decidable.not_not.mp (fun hpn => hc ⟨hs, hpn⟩)
      subst this
      rw [← h]
    · rw [if_neg hs] at h ⊢
      rw [← h]

/-- The underline style `Spec.Expected.shown` shows for the style `u` (its expression there, named). -/
def ulStyleOf (caps : Caps) (u : Nat) : Nat :=
  if caps.styledUnderlines then (if u ≤ 5 then u else 1) else (if u = 0 then 0 else 1)

theorem part_ulStyle (caps : Caps) (s : TStyle) (p n : Nat) (h : s.ulStyle = ulStyleOf caps p) :
    penRun s (if p ≠ n then
        (if caps.styledUnderlines then [Tok.sgr [[4, n]]]
         else if n = 0 then [Tok.sgr [[24]]] else [Tok.sgr [[4]]])
      else []) = { s with ulStyle := ulStyleOf caps n } := by
  refine part_guard s p n _ (fun n => { s with ulStyle := ulStyleOf caps n }) (by rw [← h]) ?_
  unfold ulStyleOf
  split
  · rw [penRun_sgr1, sgr_4n]
  · split
    · rw [penRun_sgr1, sgr_24]
    · rw [penRun_sgr1, sgr_4]

theorem hasBit_pow (m k : Nat) : hasBit m (2 ^ k) = m.testBit k := by
  rw [Nat.testBit_eq_decide_div_mod_eq, hasBit, Bool.eq_iff_iff]; simp

theorem hasBit_on (a b k : Nat) : hasBit ((a ^^^ b) &&& b) (2 ^ k) = (hasBit b (2 ^ k) && !hasBit a (2 ^ k)) := by
  simp only [hasBit_pow, Nat.testBit_and, Nat.testBit_xor]
  cases a.testBit k <;> cases b.testBit k <;> rfl

theorem hasBit_off (a b k : Nat) : hasBit ((a ^^^ b) &&& a) (2 ^ k) = (hasBit a (2 ^ k) && !hasBit b (2 ^ k)) := by
  simp only [hasBit_pow, Nat.testBit_and, Nat.testBit_xor]
  cases a.testBit k <;> cases b.testBit k <;> rfl

/-- A conditional single-code SGR without look-ahead applies `sgrSimple` when its condition holds; the twelve stages
    below say what that is for each code. -/
theorem stage (s : TStyle) (c : Bool) (p : Nat) (hp : p ≠ 38 ∧ p ≠ 48 ∧ p ≠ 58 ∧ p ≠ 4) :
    penRun s (if c = true then [Tok.sgr [[p]]] else []) = if c = true then sgrSimple s p else s := by
  cases c
  · rfl
  · rw [if_pos rfl, if_pos rfl, penRun_sgr1, sgr_single s _ hp.1 hp.2.1 hp.2.2.1 hp.2.2.2]

theorem stage_on1 (s : TStyle) (c : Bool) :
    penRun s (if c = true then [Tok.sgr [[1]]] else []) = { s with bold := s.bold || c } := by
  rw [stage s c 1 (by decide)]; cases c <;> cases s <;> simp [sgrSimple]
theorem stage_on2 (s : TStyle) (c : Bool) :
    penRun s (if c = true then [Tok.sgr [[2]]] else []) = { s with dim := s.dim || c } := by
  rw [stage s c 2 (by decide)]; cases c <;> cases s <;> simp [sgrSimple]
theorem stage_on3 (s : TStyle) (c : Bool) :
    penRun s (if c = true then [Tok.sgr [[3]]] else []) = { s with italic := s.italic || c } := by
  rw [stage s c 3 (by decide)]; cases c <;> cases s <;> simp [sgrSimple]
theorem stage_on5 (s : TStyle) (c : Bool) :
    penRun s (if c = true then [Tok.sgr [[5]]] else []) = { s with blink := s.blink || c } := by
  rw [stage s c 5 (by decide)]; cases c <;> cases s <;> simp [sgrSimple]
theorem stage_on7 (s : TStyle) (c : Bool) :
    penRun s (if c = true then [Tok.sgr [[7]]] else []) = { s with reverse := s.reverse || c } := by
  rw [stage s c 7 (by decide)]; cases c <;> cases s <;> simp [sgrSimple]
theorem stage_on8 (s : TStyle) (c : Bool) :
    penRun s (if c = true then [Tok.sgr [[8]]] else []) = { s with hidden := s.hidden || c } := by
  rw [stage s c 8 (by decide)]; cases c <;> cases s <;> simp [sgrSimple]
theorem stage_on9 (s : TStyle) (c : Bool) :
    penRun s (if c = true then [Tok.sgr [[9]]] else []) = { s with strike := s.strike || c } := by
  rw [stage s c 9 (by decide)]; cases c <;> cases s <;> simp [sgrSimple]
theorem stage_off23 (s : TStyle) (c : Bool) :
    penRun s (if c = true then [Tok.sgr [[23]]] else []) = { s with italic := s.italic && !c } := by
  rw [stage s c 23 (by decide)]; cases c <;> cases s <;> simp [sgrSimple]
theorem stage_off25 (s : TStyle) (c : Bool) :
    penRun s (if c = true then [Tok.sgr [[25]]] else []) = { s with blink := s.blink && !c } := by
  rw [stage s c 25 (by decide)]; cases c <;> cases s <;> simp [sgrSimple]
theorem stage_off27 (s : TStyle) (c : Bool) :
    penRun s (if c = true then [Tok.sgr [[27]]] else []) = { s with reverse := s.reverse && !c } := by
  rw [stage s c 27 (by decide)]; cases c <;> cases s <;> simp [sgrSimple]
theorem stage_off28 (s : TStyle) (c : Bool) :
    penRun s (if c = true then [Tok.sgr [[28]]] else []) = { s with hidden := s.hidden && !c } := by
  rw [stage s c 28 (by decide)]; cases c <;> cases s <;> simp [sgrSimple]
theorem stage_off29 (s : TStyle) (c : Bool) :
    penRun s (if c = true then [Tok.sgr [[29]]] else []) = { s with strike := s.strike && !c } := by
  rw [stage s c 29 (by decide)]; cases c <;> cases s <;> simp [sgrSimple]

theorem stage_offBold (s : TStyle) (c d : Bool) :
    penRun s (if c = true then [Tok.sgr [[22]]] ++ (if d = true then [Tok.sgr [[2]]] else []) else []) =
      { s with bold := s.bold && !c, dim := if c then d else s.dim } := by
  cases c
  · cases s; simp [penRun_nil]
  · cases d
    · simp [penRun_sgr1, sgr_22]
    · simp [penRun_cons, penRun_nil, penStep, sgr_22, sgr_2]

theorem stage_offDim (s : TStyle) (c d : Bool) :
    penRun s (if c = true then [Tok.sgr [[22]]] ++ (if d = true then [Tok.sgr [[1]]] else []) else []) =
      { s with bold := if c then d else s.bold, dim := s.dim && !c } := by
  cases c
  · cases s; simp [penRun_nil]
  · cases d
    · simp [penRun_sgr1, sgr_22]
    · simp [penRun_cons, penRun_nil, penStep, sgr_22, sgr_1]

def attrBody (a1 a2 a3 a4 a5 a6 a7 b1 b2 b3 b4 b5 b6 b7 : Bool) : List Tok :=
  (if (b1 && !a1) = true then [Tok.sgr [[1]]] else []) ++ (if (b2 && !a2) = true then [Tok.sgr [[2]]] else []) ++
  (if (b3 && !a3) = true then [Tok.sgr [[3]]] else []) ++ (if (b4 && !a4) = true then [Tok.sgr [[5]]] else []) ++
  (if (b5 && !a5) = true then [Tok.sgr [[7]]] else []) ++ (if (b6 && !a6) = true then [Tok.sgr [[8]]] else []) ++
  (if (b7 && !a7) = true then [Tok.sgr [[9]]] else []) ++
  (if (a1 && !b1) = true then [Tok.sgr [[22]]] ++ (if b2 = true then [Tok.sgr [[2]]] else []) else []) ++
  (if (a2 && !b2) = true then [Tok.sgr [[22]]] ++ (if b1 = true then [Tok.sgr [[1]]] else []) else []) ++
  (if (a3 && !b3) = true then [Tok.sgr [[23]]] else []) ++ (if (a4 && !b4) = true then [Tok.sgr [[25]]] else []) ++
  (if (a5 && !b5) = true then [Tok.sgr [[27]]] else []) ++ (if (a6 && !b6) = true then [Tok.sgr [[28]]] else []) ++
  (if (a7 && !b7) = true then [Tok.sgr [[29]]] else [])

theorem penRun_attrBody (s : TStyle) (a1 a2 a3 a4 a5 a6 a7 b1 b2 b3 b4 b5 b6 b7 : Bool)
    (h1 : s.bold = a1) (h2 : s.dim = a2) (h3 : s.italic = a3) (h4 : s.blink = a4) (h5 : s.reverse = a5)
    (h6 : s.hidden = a6) (h7 : s.strike = a7) :
    penRun s (attrBody a1 a2 a3 a4 a5 a6 a7 b1 b2 b3 b4 b5 b6 b7) =
      { s with bold := b1, dim := b2, italic := b3, blink := b4, reverse := b5, hidden := b6, strike := b7 } := by
  unfold attrBody
  simp only [penRun_append, stage_on1, stage_on2, stage_on3, stage_on5, stage_on7, stage_on8, stage_on9,
    stage_offBold, stage_offDim, stage_off23, stage_off25, stage_off27, stage_off28, stage_off29]
  cases s
  simp only at h1 h2 h3 h4 h5 h6 h7
  subst h1 h2 h3 h4 h5 h6 h7
  simp only [TStyle.mk.injEq, true_and]
  rename_i bold dim italic blink reverse hidden strike
  refine ⟨?_, ?_, ?_, ?_, ?_, ?_, ?_⟩
  · cases bold <;> cases dim <;> cases b1 <;> cases b2 <;> rfl
  · cases bold <;> cases dim <;> cases b1 <;> cases b2 <;> rfl
  · cases italic <;> cases b3 <;> rfl
  · cases blink <;> cases b4 <;> rfl
  · cases reverse <;> cases b5 <;> rfl
  · cases hidden <;> cases b6 <;> rfl
  · cases strike <;> cases b7 <;> rfl

theorem on_Bold (a b : Nat) : hasBit ((a ^^^ b) &&& b) attrBold = (hasBit b attrBold && !hasBit a attrBold) :=
  hasBit_on a b 1
theorem off_Bold (a b : Nat) : hasBit ((a ^^^ b) &&& a) attrBold = (hasBit a attrBold && !hasBit b attrBold) :=
  hasBit_off a b 1
theorem on_Dim (a b : Nat) : hasBit ((a ^^^ b) &&& b) attrDim = (hasBit b attrDim && !hasBit a attrDim) :=
  hasBit_on a b 2
theorem off_Dim (a b : Nat) : hasBit ((a ^^^ b) &&& a) attrDim = (hasBit a attrDim && !hasBit b attrDim) :=
  hasBit_off a b 2
theorem on_Italic (a b : Nat) : hasBit ((a ^^^ b) &&& b) attrItalic = (hasBit b attrItalic && !hasBit a attrItalic) :=
  hasBit_on a b 3
theorem off_Italic (a b : Nat) : hasBit ((a ^^^ b) &&& a) attrItalic = (hasBit a attrItalic && !hasBit b attrItalic) :=
  hasBit_off a b 3
theorem on_Blink (a b : Nat) : hasBit ((a ^^^ b) &&& b) attrBlink = (hasBit b attrBlink && !hasBit a attrBlink) :=
  hasBit_on a b 4
theorem off_Blink (a b : Nat) : hasBit ((a ^^^ b) &&& a) attrBlink = (hasBit a attrBlink && !hasBit b attrBlink) :=
  hasBit_off a b 4
theorem on_Reverse (a b : Nat) : hasBit ((a ^^^ b) &&& b) attrReverse = (hasBit b attrReverse && !hasBit a attrReverse) :=
  hasBit_on a b 5
theorem off_Reverse (a b : Nat) : hasBit ((a ^^^ b) &&& a) attrReverse = (hasBit a attrReverse && !hasBit b attrReverse) :=
  hasBit_off a b 5
theorem on_Invisible (a b : Nat) : hasBit ((a ^^^ b) &&& b) attrInvisible = (hasBit b attrInvisible && !hasBit a attrInvisible) :=
  hasBit_on a b 6
theorem off_Invisible (a b : Nat) : hasBit ((a ^^^ b) &&& a) attrInvisible = (hasBit a attrInvisible && !hasBit b attrInvisible) :=
  hasBit_off a b 6
theorem on_Strikethrough (a b : Nat) : hasBit ((a ^^^ b) &&& b) attrStrikethrough = (hasBit b attrStrikethrough && !hasBit a attrStrikethrough) :=
  hasBit_on a b 7
theorem off_Strikethrough (a b : Nat) : hasBit ((a ^^^ b) &&& a) attrStrikethrough = (hasBit a attrStrikethrough && !hasBit b attrStrikethrough) :=
  hasBit_off a b 7

theorem attrToks_eq (a b : Nat) (h : a ≠ b) :
    attrToks a b = attrBody (hasBit a attrBold) (hasBit a attrDim) (hasBit a attrItalic) (hasBit a attrBlink)
      (hasBit a attrReverse) (hasBit a attrInvisible) (hasBit a attrStrikethrough)
      (hasBit b attrBold) (hasBit b attrDim) (hasBit b attrItalic) (hasBit b attrBlink)
      (hasBit b attrReverse) (hasBit b attrInvisible) (hasBit b attrStrikethrough) := by
  unfold attrToks attrBody onTok
  rw [if_neg h]
  simp only [on_Bold, on_Dim, on_Italic, on_Blink, on_Reverse, on_Invisible, on_Strikethrough,
    off_Bold, off_Dim, off_Italic, off_Blink, off_Reverse, off_Invisible, off_Strikethrough]

theorem part_attr (s : TStyle) (a b : Nat)
    (h1 : s.bold = hasBit a attrBold) (h2 : s.dim = hasBit a attrDim) (h3 : s.italic = hasBit a attrItalic)
    (h4 : s.blink = hasBit a attrBlink) (h5 : s.reverse = hasBit a attrReverse)
    (h6 : s.hidden = hasBit a attrInvisible) (h7 : s.strike = hasBit a attrStrikethrough) :
    penRun s (attrToks a b) =
      { s with bold := hasBit b attrBold, dim := hasBit b attrDim, italic := hasBit b attrItalic,
               blink := hasBit b attrBlink, reverse := hasBit b attrReverse,
               hidden := hasBit b attrInvisible, strike := hasBit b attrStrikethrough } := by
  by_cases h : a = b
  · subst h
    have e : attrToks a a = [] := by unfold attrToks; rw [if_pos rfl]
    rw [e, penRun_nil, ← h1, ← h2, ← h3, ← h4, ← h5, ← h6, ← h7]
  · rw [attrToks_eq a b h]
    exact penRun_attrBody s _ _ _ _ _ _ _ _ _ _ _ _ _ _ h1 h2 h3 h4 h5 h6 h7

theorem penRun_linkTail (s : TStyle) (c : Prop) [Decidable c] (p u : String) :
    penRun s (if c then [Tok.osc8 p u] else []) = s := by
  split <;> rfl

theorem penRun_penDelta (caps : Caps) (pen next : Style) :
    penRun (shown caps pen) (penDelta caps pen next) = shown caps next := by
  unfold penDelta
  simp only [penRun_append]
  rw [part_fg caps _ pen.fg next.fg rfl]
  rw [part_bg caps _ pen.bg next.bg rfl]
  rw [part_ul caps _ pen.ul next.ul rfl]
  rw [part_attr _ pen.attr next.attr rfl rfl rfl rfl rfl rfl rfl]
  rw [part_ulStyle caps _ pen.ulStyle next.ulStyle rfl]
  rw [penRun_linkTail]
  rfl

theorem hasBit_zero (b : Nat) : hasBit 0 b = false := by
  simp [hasBit]

theorem colOf_zero (caps : Caps) : colOf caps 0 = .default := by
  have e : Color.asIndex 0 = 0 := by
    simp [Color.asIndex, Color.asIndexWith, Color.isRGB]
  unfold colOf
  rw [e]
  simp [Color.params, Color.isIndexed, Color.isRGB]

theorem shown_default (caps : Caps) : shown caps ({} : Style) = TStyle.reset := by
  simp [shown, colOf_zero, hasBit_zero, TStyle.reset]

end VaxisModel.Lemmas.RenderPen
