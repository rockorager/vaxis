/-
Row algebra for the display proof of C01 (Props/C01Display.lean): what `Spec.Display.writeRow`
does to a terminal row that is described by a left-to-right parse.

A row (or the part of it right of the cursor) is described by a list of *virtual cells*
`(d, a)`: "a glyph starting here shows as `d` and is followed by `a` continuation cells"
(`d` = `poison`, `a = 0` describes a poisoned cell).  `eRow k vs` reads such a list like
`Spec.Expected.expectedRow` reads the application's cells (`k` = cells still shadowed).
`sRow sk k vs` is the row *while the renderer works on it*: the next `sk` cells are continuation
cells of a glyph just written, then the rest of a glyph of the previous frame that was partly
overwritten shows as poison (`k` counts the cells it still covers from the current column).
Main result: `writeRow_sRow`.
-/
import VaxisModel.Spec.Display
import VaxisModel.Lemmas.DisplayBasic

namespace VaxisModel.Lemmas.RenderRow
open VaxisModel.Spec VaxisModel.Spec.Display

abbrev VCell := DCell × Nat

/-- A virtual cell is a glyph of width `a + 1`, or poison with `a = 0`. -/
def VOk (v : VCell) : Prop :=
  (∃ g st lp lk, v.1 = DCell.glyph g (v.2 + 1) st lp lk) ∨ (v.1 = DCell.poison ∧ v.2 = 0)

theorem VOk.ne_cont {v : VCell} (h : VOk v) : v.1 ≠ DCell.cont := by
  rcases h with ⟨g, st, lp, lk, h⟩ | ⟨h, _⟩ <;> rw [h] <;> simp

def eRow : Nat → List VCell → List DCell
  | _, [] => []
  | k + 1, _ :: vs => DCell.cont :: eRow k vs
  | 0, v :: vs => v.1 :: eRow v.2 vs

/-- Parse state (cells still shadowed) after the cell `v`. -/
def nextL (k : Nat) (v : VCell) : Nat := if k = 0 then v.2 else k - 1

/-- Parse state after `j` cells. -/
def psk : Nat → List VCell → Nat → Nat
  | k, _, 0 => k
  | k, [], j + 1 => psk (k - 1) [] j
  | k, v :: vs, j + 1 => psk (nextL k v) vs j

def sRow : Nat → Nat → List VCell → List DCell
  | _, _, [] => []
  | sk + 1, k, v :: vs => DCell.cont :: sRow sk (nextL k v) vs
  | 0, k + 1, _ :: vs => DCell.poison :: sRow 0 k vs
  | 0, 0, v :: vs => v.1 :: eRow v.2 vs

def poisonFirst : Nat → List DCell → List DCell
  | 0, r => r
  | _ + 1, [] => []
  | k + 1, _ :: r => DCell.poison :: poisonFirst k r

@[simp] theorem eRow_length (k : Nat) (vs : List VCell) : (eRow k vs).length = vs.length := by
  induction vs generalizing k with
  | nil => cases k <;> rfl
  | cons v vs ih => cases k <;> simp [eRow, ih]

@[simp] theorem sRow_length (sk k : Nat) (vs : List VCell) : (sRow sk k vs).length = vs.length := by
  induction vs generalizing sk k with
  | nil => cases sk <;> cases k <;> rfl
  | cons v vs ih => cases sk <;> cases k <;> simp [sRow, ih]

@[simp] theorem poisonFirst_length (k : Nat) (r : List DCell) : (poisonFirst k r).length = r.length := by
  induction r generalizing k with
  | nil => cases k <;> rfl
  | cons x r ih => cases k <;> simp [poisonFirst, ih]

theorem sRow_diag (k : Nat) (vs : List VCell) : sRow k k vs = eRow k vs := by
  induction vs generalizing k with
  | nil => cases k <;> rfl
  | cons v vs ih =>
    cases k with
    | zero => rfl
    | succ k => simp [sRow, eRow, nextL, ih]

theorem sRow_zero_zero (vs : List VCell) : sRow 0 0 vs = eRow 0 vs := sRow_diag 0 vs

theorem poisonFirst_eRow (k : Nat) (vs : List VCell) : poisonFirst k (eRow k vs) = sRow 0 k vs := by
  induction vs generalizing k with
  | nil => cases k <;> rfl
  | cons v vs ih =>
    cases k with
    | zero => rfl
    | succ k => simp [sRow, eRow, poisonFirst, ih]

theorem eRow_conts (k : Nat) (vs : List VCell) (h : k ≤ vs.length) :
    eRow k vs = List.replicate k DCell.cont ++ eRow 0 (vs.drop k) := by
  induction vs generalizing k with
  | nil => have : k = 0 := by simpa using h
           subst this; rfl
  | cons v vs ih =>
    cases k with
    | zero => rfl
    | succ k =>
      simp only [eRow, List.replicate_succ, List.cons_append, List.drop_succ_cons]
      rw [ih k (by simpa using h)]

theorem eRow_getElem?_lt (k : Nat) (vs : List VCell) (j : Nat) (h1 : j < k) (h2 : j < vs.length) :
    (eRow k vs)[j]? = some DCell.cont := by
  induction vs generalizing k j with
  | nil => simp at h2
  | cons v vs ih =>
    cases k with
    | zero => omega
    | succ k =>
      cases j with
      | zero => rfl
      | succ j => simp only [eRow, List.getElem?_cons_succ]; exact ih k j (by omega) (by simpa using h2)

theorem nextL_succ (k : Nat) (v : VCell) : nextL (k + 1) v = k := by simp [nextL]
theorem nextL_zero (v : VCell) : nextL 0 v = v.2 := by simp [nextL]

theorem psk_le (k : Nat) (vs : List VCell) (j : Nat) (h1 : j ≤ k) : psk k vs j = k - j := by
  induction j generalizing k vs with
  | zero => cases vs <;> rfl
  | succ j ih =>
    cases vs with
    | nil => simp only [psk]; rw [ih _ _ (by omega)]; omega
    | cons v vs =>
      simp only [psk]
      have : nextL k v = k - 1 := by unfold nextL; split <;> omega
      rw [this, ih _ _ (by omega)]; omega

theorem psk_conts (k : Nat) (vs : List VCell) (j : Nat) (h : k ≤ vs.length) :
    psk k vs (k + j) = psk 0 (vs.drop k) j := by
  induction k generalizing vs with
  | zero => simp
  | succ k ih =>
    cases vs with
    | nil => simp at h
    | cons v vs =>
      have : k + 1 + j = (k + j) + 1 := by omega
      rw [this]
      simp only [psk, nextL_succ, List.drop_succ_cons]
      exact ih vs (by simpa using h)

theorem sRow_conts (sk k : Nat) (vs : List VCell) (h : sk ≤ vs.length) :
    sRow sk k vs = List.replicate sk DCell.cont ++ sRow 0 (psk k vs sk) (vs.drop sk) := by
  induction sk generalizing k vs with
  | zero => simp [psk]
  | succ sk ih =>
    cases vs with
    | nil => simp at h
    | cons v vs =>
      simp only [sRow, psk, List.replicate_succ, List.cons_append, List.drop_succ_cons]
      rw [ih _ vs (by simpa using h)]

theorem drop_sRow (k : Nat) (vs : List VCell) (j : Nat) (h : j ≤ k) :
    (sRow 0 k vs).drop j = sRow 0 (k - j) (vs.drop j) := by
  induction j generalizing k vs with
  | zero => simp
  | succ j ih =>
    cases vs with
    | nil => simp [sRow]
    | cons v vs =>
      cases k with
      | zero => omega
      | succ k =>
        simp only [sRow, List.drop_succ_cons]
        rw [ih k vs (by omega)]
        congr 1; omega

theorem drop_eRow (k : Nat) (vs : List VCell) (h : k ≤ vs.length) :
    (eRow k vs).drop k = eRow 0 (vs.drop k) := by
  rw [eRow_conts k vs h, List.drop_left' (by simp)]

theorem zipRange_length {α β : Type} (f : Nat → α → β) (r : List α) :
    ((List.range r.length).zipWith f r).length = r.length := by simp

theorem getElem?_poisonFirst (k : Nat) (r : List DCell) (j : Nat) :
    (poisonFirst k r)[j]? = if j < k then r[j]?.map (fun _ => DCell.poison) else r[j]? := by
  induction r generalizing k j with
  | nil => cases k <;> simp [poisonFirst]
  | cons x r ih =>
    cases k with
    | zero => simp [poisonFirst]
    | succ k =>
      cases j with
      | zero => simp [poisonFirst]
      | succ j => simp only [poisonFirst, List.getElem?_cons_succ, ih]; simp

theorem poisonRange_append (Q S : List DCell) (k : Nat) :
    (List.range (Q ++ S).length).zipWith
      (fun j c => if Q.length ≤ j ∧ j < Q.length + k then DCell.poison else c) (Q ++ S)
    = Q ++ poisonFirst k S := by
  apply List.ext_getElem?
  intro j
  rw [ListBasic.getElem?_zipRange]
  by_cases h : j < Q.length
  · rw [List.getElem?_append_left h, List.getElem?_append_left h]
    have : ¬ (Q.length ≤ j ∧ j < Q.length + k) := by omega
    cases Q[j]? <;> simp [this]
  · have h' : Q.length ≤ j := by omega
    rw [List.getElem?_append_right h', List.getElem?_append_right h', getElem?_poisonFirst]
    by_cases h2 : j - Q.length < k
    · have : Q.length ≤ j ∧ j < Q.length + k := by omega
      simp only [h2, this, and_self, if_true]
    · have : ¬ (Q.length ≤ j ∧ j < Q.length + k) := by omega
      simp only [h2, this, if_false]
      cases S[j - Q.length]? <;> rfl

theorem overwrite_eq (r : List DCell) (c w : Nat) (cell : DCell) (hw : 1 ≤ w) (hfit : c + w ≤ r.length) :
    (List.range r.length).zipWith
      (fun j old => if j = c then cell else if c < j ∧ j < c + w then DCell.cont else old) r
    = r.take c ++ cell :: (List.replicate (w - 1) DCell.cont ++ r.drop (c + w)) := by
  apply List.ext_getElem?
  intro j
  rw [ListBasic.getElem?_zipRange]
  have hlt : (r.take c).length = c := by simp; omega
  by_cases h1 : j < c
  · rw [List.getElem?_append_left (by omega), List.getElem?_take]
    have : j ≠ c := by omega
    have h3 : ¬ (c < j ∧ j < c + w) := by omega
    simp only [h1, if_true]
    cases r[j]? <;> simp [this, h3]
  · rw [List.getElem?_append_right (by omega), hlt]
    by_cases h2 : j = c
    · subst h2
      have : j < r.length := by omega
      rw [List.getElem?_eq_getElem this]
      simp
    · have hj : j - c = (j - c - 1) + 1 := by omega
      rw [hj, List.getElem?_cons_succ]
      by_cases h3 : j < c + w
      · have : j < r.length := by omega
        rw [List.getElem?_eq_getElem this, List.getElem?_append_left (by simp; omega), List.getElem?_replicate]
        have h4 : c < j ∧ j < c + w := by omega
        have h5 : j - c - 1 < w - 1 := by omega
        simp [h2, h4, h5]
      · rw [List.getElem?_append_right (by simp; omega), List.getElem?_drop]
        have h4 : ¬ (c < j ∧ j < c + w) := by omega
        have h5 : c + w + (j - c - 1 - (List.replicate (w - 1) DCell.cont).length) = j := by simp; omega
        rw [h5]
        cases r[j]? <;> simp [h2, h4]

theorem ownerOf_of_conts (r : List DCell) (o : Nat) : ∀ i, o ≤ i → r[o]? ≠ some DCell.cont →
    (∀ k, o < k → k ≤ i → r[k]? = some DCell.cont) → ownerOf r i = o := by
  intro i
  induction i with
  | zero => intro h _ _; simp [ownerOf]; omega
  | succ i ih =>
    intro h hn hc
    by_cases he : o = i + 1
    · subst he
      unfold ownerOf
      split
      · rename_i h'; exact absurd h' hn
      · rfl
    · have := hc (i + 1) (by omega) (by omega)
      unfold ownerOf
      rw [this]
      exact ih (by omega) hn (fun k h1 h2 => hc k h1 (by omega))

theorem ownerOf_le (r : List DCell) (i : Nat) : ownerOf r i ≤ i := by
  induction i with
  | zero => simp [ownerOf]
  | succ i ih => unfold ownerOf; split <;> omega

theorem ownerOf_ge (r : List DCell) (a : Nat) (ha : r[a]? ≠ some DCell.cont) : ∀ i, a ≤ i → a ≤ ownerOf r i := by
  intro i
  induction i with
  | zero => intro h; simp [ownerOf]; omega
  | succ i ih =>
    intro h
    unfold ownerOf
    split
    · rename_i h'
      have : a ≠ i + 1 := by intro e; subst e; exact ha h'
      exact ih (by omega)
    · exact h

theorem poisonPartial_take (r : List DCell) (lo hi i a : Nat) (h : a ≤ ownerOf r i) :
    (poisonPartial r lo hi i).take a = r.take a := by
  unfold poisonPartial
  simp only
  split
  · rfl
  · split
    · rfl
    · apply List.ext_getElem?
      intro j
      rw [List.getElem?_take, List.getElem?_take, ListBasic.getElem?_zipRange]
      split
      · have : ¬ (ownerOf r i ≤ j ∧ j < ownerOf r i + glyphWidthAt r (ownerOf r i)) := by omega
        cases r[j]? <;> simp [this]
      · rfl

/-- Aimed at a poisoned cell, `poisonPartial` does nothing. -/
theorem pp_noncover (r : List DCell) (lo hi i : Nat) (h : r[i]? = some DCell.poison) :
    poisonPartial r lo hi i = r := by
  have ho : ownerOf r i = i := ownerOf_of_conts r i i (Nat.le_refl _) (by rw [h]; simp) (by intro k h1 h2; omega)
  unfold poisonPartial
  simp only [ho, glyphWidthAt, h]
  simp

/-- `poisonPartial` aimed at a column covered by the glyph at the head of the described part. -/
theorem pp_head (Q : List DCell) (x : VCell) (xs : List VCell) (lo hi i : Nat) (hx : VOk x)
    (hi1 : i ≤ x.2) (hi2 : i ≤ xs.length) (hlo : lo ≤ Q.length) :
    poisonPartial (Q ++ x.1 :: eRow x.2 xs) lo hi (Q.length + i) =
      if 1 ≤ x.2 ∧ hi < Q.length + x.2 + 1 then Q ++ sRow 0 (x.2 + 1) (x :: xs) else Q ++ x.1 :: eRow x.2 xs := by
  have h0 : (Q ++ x.1 :: eRow x.2 xs)[Q.length]? = some x.1 := by
    rw [List.getElem?_append_right (Nat.le_refl _)]; simp
  have ho : ownerOf (Q ++ x.1 :: eRow x.2 xs) (Q.length + i) = Q.length := by
    apply ownerOf_of_conts _ _ _ (by omega)
    · rw [h0]; intro h; exact hx.ne_cont (Option.some.inj h)
    · intro k h1 h2
      rw [List.getElem?_append_right (by omega)]
      have : k - Q.length = (k - Q.length - 1) + 1 := by omega
      rw [this, List.getElem?_cons_succ]
      exact eRow_getElem?_lt _ _ _ (by omega) (by omega)
  unfold poisonPartial
  simp only [ho, glyphWidthAt, h0]
  rcases hx with ⟨g, st, lp, lk, hg⟩ | ⟨hp, hz⟩
  · rw [hg]
    simp only
    by_cases hc : 1 ≤ x.2 ∧ hi < Q.length + x.2 + 1
    · have c1 : ¬ (x.2 + 1 ≤ 1) := by omega
      have c2 : ¬ (lo ≤ Q.length ∧ Q.length + (x.2 + 1) ≤ hi) := by omega
      simp only [c1, c2, hc, and_self, if_true, if_false]
      rw [poisonRange_append]
      simp only [poisonFirst, sRow, poisonFirst_eRow]
    · simp only [hc, if_false]
      by_cases c1 : x.2 + 1 ≤ 1
      · simp only [c1, if_true]
      · have c2 : lo ≤ Q.length ∧ Q.length + (x.2 + 1) ≤ hi := by omega
        simp only [c1, c2, and_self, if_true, if_false]
  · rw [hp]
    have hc : ¬ (1 ≤ x.2 ∧ hi < Q.length + x.2 + 1) := by omega
    simp [hc]

theorem sRow_head_ne_cont (k : Nat) (x : VCell) (xs : List VCell) (hx : VOk x) :
    (sRow 0 k (x :: xs))[0]? ≠ some DCell.cont := by
  cases k with
  | zero => simp only [sRow, List.getElem?_cons_zero]; intro h; exact hx.ne_cont (Option.some.inj h)
  | succ k => simp [sRow]

/-- `poisonPartial` aimed at column `i` of the described part with upper bound `i + 1`: right of
    that column the row is again described by `sRow`, now with the parse state after `i + 1` cells
    as poison count. -/
theorem pp_sRow_drop : ∀ (i : Nat) (Q : List DCell) (k : Nat) (xs : List VCell) (lo : Nat),
    (∀ x ∈ xs, VOk x) → i < xs.length → lo ≤ Q.length →
    (poisonPartial (Q ++ sRow 0 k xs) lo (Q.length + i + 1) (Q.length + i)).drop (Q.length + i + 1)
      = sRow 0 (psk k xs (i + 1)) (xs.drop (i + 1)) := by
  intro i
  induction i using Nat.strongRecOn with
  | _ i ih =>
    intro Q k xs lo hok hlen hlo
    cases xs with
    | nil => simp at hlen
    | cons x xs =>
      have hx : VOk x := hok x (by simp)
      have hok' : ∀ y ∈ xs, VOk y := fun y hy => hok y (by simp [hy])
      cases k with
      | succ k =>
        cases i with
        | zero =>
          rw [pp_noncover _ _ _ _ (by rw [List.getElem?_append_right (by omega)]; simp [sRow])]
          rw [Nat.add_assoc, List.drop_length_add_append]
          simp [sRow, psk, nextL_succ]
        | succ i =>
          have e1 : Q ++ sRow 0 (k + 1) (x :: xs) = (Q ++ [DCell.poison]) ++ sRow 0 k xs := by
            simp [sRow]
          have e2 : (Q ++ [DCell.poison]).length = Q.length + 1 := by simp
          have := ih i (by omega) (Q ++ [DCell.poison]) k xs lo hok' (by simpa using hlen) (by omega)
          rw [e2] at this
          rw [e1]
          have e3 : Q.length + (i + 1) = Q.length + 1 + i := by omega
          rw [e3, this]
          simp only [psk, nextL_succ, List.drop_succ_cons]
      | zero =>
        have hs : sRow 0 0 (x :: xs) = x.1 :: eRow x.2 xs := rfl
        rw [hs]
        have hlen' : i ≤ xs.length := by simpa [Nat.lt_succ_iff] using hlen
        by_cases hcov : i ≤ x.2
        · rw [pp_head Q x xs lo _ i hx hcov hlen' hlo]
          by_cases hlt : i < x.2
          · have hc : 1 ≤ x.2 ∧ Q.length + i + 1 < Q.length + x.2 + 1 := by omega
            simp only [hc, and_self, if_true]
            rw [Nat.add_assoc, List.drop_length_add_append, drop_sRow _ _ _ (by omega)]
            simp only [psk, nextL_zero, List.drop_succ_cons]
            rw [psk_le _ _ _ hcov]
            congr 1; omega
          · have hc : ¬ (1 ≤ x.2 ∧ Q.length + i + 1 < Q.length + x.2 + 1) := by omega
            have he : i = x.2 := by omega
            simp only [hc, if_false]
            rw [Nat.add_assoc, List.drop_length_add_append]
            simp only [psk, nextL_zero, List.drop_succ_cons]
            rw [psk_le _ _ _ hcov, he, drop_eRow _ _ (by omega), Nat.sub_self, sRow_zero_zero]
        · have hgt : x.2 < i := by omega
          have hx2 : x.2 ≤ xs.length := by omega
          have e1 : Q ++ x.1 :: eRow x.2 xs
              = (Q ++ x.1 :: List.replicate x.2 DCell.cont) ++ sRow 0 0 (xs.drop x.2) := by
            rw [eRow_conts _ _ hx2, sRow_zero_zero]; simp
          have e2 : (Q ++ x.1 :: List.replicate x.2 DCell.cont).length = Q.length + 1 + x.2 := by simp; omega
          have := ih (i - x.2 - 1) (by omega) (Q ++ x.1 :: List.replicate x.2 DCell.cont) 0 (xs.drop x.2) lo
            (fun y hy => hok' y (List.mem_of_mem_drop hy)) (by simp; omega) (by omega)
          rw [e2] at this
          have e3 : Q.length + 1 + x.2 + (i - x.2 - 1) = Q.length + i := by omega
          rw [e3] at this
          rw [e1, this]
          simp only [psk, nextL_zero, List.drop_succ_cons]
          have e4 : i = x.2 + (i - x.2 - 1 + 1) := by omega
          rw [List.drop_drop]
          conv => rhs; rw [e4]
          rw [psk_conts _ _ _ hx2]

/-- First half of `writeRow`: the glyph under the start column. -/
theorem writeRow_stepA (P : List DCell) (k : Nat) (v : VCell) (vs : List VCell) (hi : Nat) (hv : VOk v) :
    ∃ k1, poisonPartial (P ++ sRow 0 k (v :: vs)) P.length hi P.length = P ++ sRow 0 k1 (v :: vs) ∧
      nextL k1 v = nextL k v := by
  cases k with
  | succ k =>
    refine ⟨k + 1, ?_, rfl⟩
    exact pp_noncover _ _ _ _ (by rw [List.getElem?_append_right (by omega)]; simp [sRow])
  | zero =>
    have hs : sRow 0 0 (v :: vs) = v.1 :: eRow v.2 vs := rfl
    have := pp_head P v vs P.length hi 0 hv (Nat.zero_le _) (Nat.zero_le _) (Nat.le_refl _)
    rw [Nat.add_zero] at this
    by_cases hc : 1 ≤ v.2 ∧ hi < P.length + v.2 + 1
    · refine ⟨v.2 + 1, ?_, by simp [nextL]⟩
      rw [hs, this]; simp only [hc, and_self, if_true]
    · refine ⟨0, ?_, rfl⟩
      rw [hs, this]; simp only [hc, if_false]

/-- **Writing a glyph of width `w` at the current column** of a row under work. -/
theorem writeRow_sRow (P : List DCell) (k : Nat) (v : VCell) (vs : List VCell) (w : Nat) (cell : DCell)
    (hok : ∀ x ∈ v :: vs, VOk x) (hw : 1 ≤ w) (hfit : w ≤ (v :: vs).length) :
    writeRow (P ++ sRow 0 k (v :: vs)) P.length w cell = P ++ cell :: sRow (w - 1) (nextL k v) vs := by
  have hv : VOk v := hok v (by simp)
  obtain ⟨k1, hA, hk1⟩ := writeRow_stepA P k v vs (P.length + w) hv
  unfold writeRow
  simp only
  rw [hA]
  have hi : P.length + w - 1 = P.length + (w - 1) := by omega
  have hi' : P.length + w = P.length + (w - 1) + 1 := by omega
  generalize hr2 : poisonPartial (P ++ sRow 0 k1 (v :: vs)) P.length (P.length + w) (P.length + w - 1) = r2
  have hlen : r2.length = P.length + (vs.length + 1) := by
    rw [← hr2, DisplayBasic.poisonPartial_length]; simp
  have htake : r2.take P.length = P := by
    rw [← hr2, poisonPartial_take _ _ _ _ _ (ownerOf_ge _ P.length (by
      rw [List.getElem?_append_right (Nat.le_refl _), Nat.sub_self]
      exact sRow_head_ne_cont k1 v vs hv) _ (by omega))]
    simp
  have hdrop : r2.drop (P.length + w) = sRow 0 (psk k1 (v :: vs) w) ((v :: vs).drop w) := by
    rw [← hr2]
    have := pp_sRow_drop (w - 1) P k1 (v :: vs) P.length hok (by simp at hfit ⊢; omega) (Nat.le_refl _)
    rw [← hi', ← hi] at this
    rw [this]
    congr 2 <;> omega
  rw [overwrite_eq r2 P.length w cell hw (by rw [hlen]; simp at hfit; omega), htake, hdrop]
  have hw' : w = (w - 1) + 1 := by omega
  rw [sRow_conts (w - 1) (nextL k v) vs (by simp at hfit; omega)]
  conv => lhs; rw [hw']
  simp only [psk, List.drop_succ_cons, hk1]
  simp

end VaxisModel.Lemmas.RenderRow
