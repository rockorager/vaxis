/-
Row algebra, continued (C01, screens with image cells): writing INTO a wide glyph whose head lies
to the left of the write position (the head is hidden under an image cell, the renderer rewrites
the glyph's other columns).  `Spec.Display.writeRow` then poisons the whole glyph first; from there
the write is the ordinary one of `Lemmas/RenderRow.writeRow_sRow`.
-/
import VaxisModel.Lemmas.RenderRow

namespace VaxisModel.Lemmas.RenderRow
open VaxisModel.Spec VaxisModel.Spec.Display

/-- `poisonPartial` aimed at a column covered by the glyph at the head of the described part, with a
    lower bound right of that head: the glyph is never completely inside, so it is poisoned. -/
theorem pp_head_right (Q : List DCell) (x : VCell) (xs : List VCell) (lo hi i : Nat) (hx : VOk x)
    (hi1 : i ≤ x.2) (hi2 : i ≤ xs.length) (hlo : Q.length < lo) (h1 : 1 ≤ x.2) :
    poisonPartial (Q ++ x.1 :: eRow x.2 xs) lo hi (Q.length + i) = Q ++ sRow 0 (x.2 + 1) (x :: xs) := by
  have h0 : (Q ++ x.1 :: eRow x.2 xs)[Q.length]? = some x.1 := by
    rw [List.getElem?_append_right (Nat.le_refl _)]; simp
  have ho : ownerOf (Q ++ x.1 :: eRow x.2 xs) (Q.length + i) = Q.length := by
    apply ownerOf_of_conts _ _ _ (by omega)
    · rw [h0]; intro h; exact hx.ne_cont (Option.some.inj h)
    · intro k h1 h2
      rw [List.getElem?_append_right (by omega)]
      have : k - Q.length = (k - Q.length - 1) + 1 := by omega
      rw [this, List.getElem?_cons_succ]
      exact eRow_getElem?_lt _ _ _ (by omega) (by omega)
  unfold poisonPartial
  simp only [ho, glyphWidthAt, h0]
  rcases hx with ⟨g, st, lp, lk, hg⟩ | ⟨_, hz⟩
  · rw [hg]
    simp only
    have c1 : ¬ (x.2 + 1 ≤ 1) := by omega
    have c2 : ¬ (lo ≤ Q.length ∧ Q.length + (x.2 + 1) ≤ hi) := by omega
    simp only [c1, c2, if_false]
    rw [poisonRange_append]
    simp only [poisonFirst, sRow, poisonFirst_eRow]
  · omega

theorem sRow_poisons : ∀ (i m : Nat) (ys : List VCell), i ≤ ys.length →
    sRow 0 (m + i) ys = List.replicate i DCell.poison ++ sRow 0 m (ys.drop i) := by
  intro i
  induction i with
  | zero => intro m ys _; simp
  | succ i ih =>
    intro m ys h
    cases ys with
    | nil => simp at h
    | cons y ys =>
      have : m + (i + 1) = (m + i) + 1 := by omega
      rw [this]
      simp only [sRow, List.replicate_succ, List.cons_append, List.drop_succ_cons]
      rw [ih m ys (by simpa using h)]

theorem eRow_append_conts : ∀ (j s : Nat) (ys W : List VCell), ys.length = j →
    eRow (j + s) (ys ++ W) = List.replicate j DCell.cont ++ eRow s W := by
  intro j
  induction j with
  | zero => intro s ys W h; have : ys = [] := by simpa using h
            subst this; simp
  | succ j ih =>
    intro s ys W h
    cases ys with
    | nil => simp at h
    | cons y ys =>
      have : j + 1 + s = (j + s) + 1 := by omega
      rw [this]
      simp only [List.cons_append, eRow, List.replicate_succ]
      rw [ih s ys W (by simpa using h)]

/-- **Writing into a glyph whose head lies left of the write position** is writing onto the row in
    which that glyph is already poison. -/
theorem writeRow_stale (Q : List DCell) (x : VCell) (xs : List VCell) (i w : Nat) (cell : DCell) (hx : VOk x)
    (h1 : 1 ≤ i) (hi1 : i ≤ x.2) (hi2 : i ≤ xs.length) :
    writeRow (Q ++ x.1 :: eRow x.2 xs) (Q.length + i) w cell =
      writeRow (Q ++ sRow 0 (x.2 + 1) (x :: xs)) (Q.length + i) w cell := by
  have hA := pp_head_right Q x xs (Q.length + i) (Q.length + i + w) i hx hi1 hi2 (by omega) (by omega)
  have hp : (Q ++ sRow 0 (x.2 + 1) (x :: xs))[Q.length + i]? = some DCell.poison := by
    rw [List.getElem?_append_right (by omega)]
    have : Q.length + i - Q.length = i := by omega
    rw [this]
    have hs := sRow_poisons (i + 1) (x.2 - i) (x :: xs) (by simp; omega)
    have e : x.2 - i + (i + 1) = x.2 + 1 := by omega
    rw [e] at hs
    rw [hs, List.getElem?_append_left (by simp)]
    simp
  have hB := pp_noncover (Q ++ sRow 0 (x.2 + 1) (x :: xs)) (Q.length + i) (Q.length + i + w) (Q.length + i) hp
  unfold writeRow
  simp only
  rw [hA, hB]

end VaxisModel.Lemmas.RenderRow
