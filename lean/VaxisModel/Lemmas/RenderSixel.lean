/-
The cell loop `renderCellsS` of `Model.RenderSixel` (clip inside the loop, image cells skipped): without
sixel-flagged cells it is the loop of `Model.RenderClip` (`renderFrameS_eq`); its unfolding equations and the induction
principle over it (`renderCellsS_ind`: one case per thing the loop does with a cell); the loop rule for its state
(`renderCellsS_inv`, `renderRowsS_inv`) and, from that, the shape of the body it writes (`renderBodyS_shape`).
-/
import VaxisModel.Model.RenderSixel
import VaxisModel.Lemmas.RenderToks

namespace VaxisModel.Lemmas.RenderSixel
open VaxisModel.Model.Render

theorem renderCellsS_eq (cw : String → Nat) (caps : Caps) (refresh : Bool) (row : Nat) :
    ∀ (ns ls : List Cell) (col skip : Nat) (track : Bool) (dirty : Nat) (st : RSt), (∀ c ∈ ns, c.sixel = false) →
      renderCellsS cw caps refresh row col skip track dirty ns ls st =
        renderCellsC cw caps refresh row col skip track dirty ns ls st := by
  intro ns
  induction ns with
  | nil => intro ls col skip track dirty st _; simp [renderCellsS, renderCellsC]
  | cons n0 ns ih =>
    intro ls col skip track dirty st h
    have h0 : n0.sixel = false := h n0 List.mem_cons_self
    have ih' := fun ls col skip track dirty st => ih ls col skip track dirty st (fun c hc => h c (List.mem_cons_of_mem _ hc))
    cases ls with
    | nil => simp [renderCellsS, renderCellsC]
    | cons l ls =>
      cases skip with
      | succ k => simp only [renderCellsS, renderCellsC, ih']
      | zero => simp only [renderCellsS, renderCellsC, h0, Bool.false_eq_true, if_false, ih']

theorem renderRowsS_eq (cw : String → Nat) (caps : Caps) (refresh : Bool) :
    ∀ (ns ls : Grid) (row : Nat) (st : RSt), (∀ r ∈ ns, ∀ c ∈ r, c.sixel = false) →
      renderRowsS cw caps refresh row ns ls st = renderRowsC cw caps refresh row ns ls st := by
  intro ns
  induction ns with
  | nil => intro ls row st _; simp [renderRowsS, renderRowsC]
  | cons n ns ih =>
    intro ls row st h
    cases ls with
    | nil => simp [renderRowsS, renderRowsC]
    | cons l ls =>
      simp only [renderRowsS, renderRowsC, renderCellsS_eq cw caps refresh row n l 0 0 false 0 _ (h n List.mem_cons_self),
        ih ls (row + 1) _ (fun r hr => h r (List.mem_cons_of_mem _ hr))]

theorem renderFrameS_eq (cw : String → Nat) (f : Frame) (h : ∀ r ∈ f.next, ∀ c ∈ r, c.sixel = false) :
    renderFrameS cw f = renderFrameC cw f := by
  simp only [renderFrameS, renderFrameC, renderBodyS, renderBodyC, renderRowsS_eq cw f.caps f.refresh f.next f.last 0 _ h]


open VaxisModel.Lemmas.RenderDisplay (cellToks)

theorem renderCellsS_sixel_eq (cw : String → Nat) (caps : Caps) (refresh : Bool) (row col : Nat) (track : Bool)
    (dirty : Nat) (n l : Cell) (ns ls : List Cell) (st : RSt) (h : n.sixel = true) :
    renderCellsS cw caps refresh row col 0 track dirty (n :: ns) (l :: ls) st =
      (n :: (renderCellsS cw caps refresh row (col + 1) 0 false
              (if col + advance cw l + 1 > dirty then col + advance cw l + 1 else dirty) ns ls { st with reposition := true }).1,
       (renderCellsS cw caps refresh row (col + 1) 0 false
              (if col + advance cw l + 1 > dirty then col + advance cw l + 1 else dirty) ns ls { st with reposition := true }).2) := by
  simp only [renderCellsS, h, if_true]

theorem renderCellsS_write_eq (cw : String → Nat) (caps : Caps) (refresh : Bool) (row col : Nat) (track : Bool)
    (dirty : Nat) (n0 l : Cell) (ns ls : List Cell) (st : RSt) (h : n0.sixel = false)
    (hc : ¬ (clipCell cw (ns.length + 1) n0 = l ∧ ¬ refresh ∧ col ≥ dirty)) :
    renderCellsS cw caps refresh row col 0 track dirty (n0 :: ns) (l :: ls) st =
      (clipCell cw (ns.length + 1) n0 :: (renderCellsS cw caps refresh row (col + 1) (advance cw (clipCell cw (ns.length + 1) n0)) true
              (if col + advance cw l + 1 > dirty then col + advance cw l + 1 else dirty) ns ls
              { reposition := false, pen := (clipCell cw (ns.length + 1) n0).style,
                out := st.out ++ cellToks cw caps st row col (clipCell cw (ns.length + 1) n0) }).1,
       (renderCellsS cw caps refresh row (col + 1) (advance cw (clipCell cw (ns.length + 1) n0)) true
              (if col + advance cw l + 1 > dirty then col + advance cw l + 1 else dirty) ns ls
              { reposition := false, pen := (clipCell cw (ns.length + 1) n0).style,
                out := st.out ++ cellToks cw caps st row col (clipCell cw (ns.length + 1) n0) }).2) := by
  simp only [renderCellsS, h, Bool.false_eq_true, if_false]
  rw [if_neg hc]
  rfl

theorem renderCellsS_equal_eq (cw : String → Nat) (caps : Caps) (refresh : Bool) (row col : Nat) (track : Bool)
    (dirty : Nat) (n0 l : Cell) (ns ls : List Cell) (st : RSt) (h : n0.sixel = false)
    (hc : clipCell cw (ns.length + 1) n0 = l ∧ ¬ refresh ∧ col ≥ dirty) :
    renderCellsS cw caps refresh row col 0 track dirty (n0 :: ns) (l :: ls) st =
      (l :: (renderCellsS cw caps refresh row (col + 1) (advance cw (clipCell cw (ns.length + 1) n0)) false dirty ns ls
              { st with reposition := true }).1,
       (renderCellsS cw caps refresh row (col + 1) (advance cw (clipCell cw (ns.length + 1) n0)) false dirty ns ls
              { st with reposition := true }).2) := by
  simp only [renderCellsS, h, Bool.false_eq_true, if_false]
  rw [if_pos hc]


/-- **Induction over the cell loop `renderCellsS`**, one case per thing it does with a cell: the row (or `last`) is
    exhausted; the cell is covered by a glyph written before; it is an image cell; it is unchanged; it is written
    (`m` = the cell after clipping).  `r` stands for what the loop returns for the rest of the row. -/
theorem renderCellsS_ind (cw : String → Nat) (caps : Caps) (refresh : Bool) (row : Nat)
    {M : Nat → Nat → Bool → Nat → List Cell → List Cell → RSt → List Cell × RSt → Prop}
    (done : ∀ col skip track dirty ns ls st, ns = [] ∨ ls = [] → M col skip track dirty ns ls st ([], st))
    (covered : ∀ col skip track dirty n ns l ls st r,
      M (col + 1) skip track (if track ∧ col + advance cw l + 1 > dirty then col + advance cw l + 1 else dirty) ns ls st r →
      M col (skip + 1) track dirty (n :: ns) (l :: ls) st (({} : Cell) :: r.1, r.2))
    (image : ∀ col track dirty n ns l ls st r, n.sixel = true →
      M (col + 1) 0 false (if col + advance cw l + 1 > dirty then col + advance cw l + 1 else dirty) ns ls
        { st with reposition := true } r →
      M col 0 track dirty (n :: ns) (l :: ls) st (n :: r.1, r.2))
    (unchanged : ∀ col track dirty n ns l ls st m r, n.sixel = false → clipCell cw (ns.length + 1) n = m →
      (m = l ∧ ¬ refresh ∧ col ≥ dirty) →
      M (col + 1) (advance cw m) false dirty ns ls { st with reposition := true } r →
      M col 0 track dirty (n :: ns) (l :: ls) st (l :: r.1, r.2))
    (written : ∀ col track dirty n ns l ls st m r, n.sixel = false → clipCell cw (ns.length + 1) n = m →
      ¬ (m = l ∧ ¬ refresh ∧ col ≥ dirty) →
      M (col + 1) (advance cw m) true (if col + advance cw l + 1 > dirty then col + advance cw l + 1 else dirty) ns ls
        { reposition := false, pen := m.style, out := st.out ++ cellToks cw caps st row col m } r →
      M col 0 track dirty (n :: ns) (l :: ls) st (m :: r.1, r.2)) :
    ∀ (ns ls : List Cell) (col skip : Nat) (track : Bool) (dirty : Nat) (st : RSt),
      M col skip track dirty ns ls st (renderCellsS cw caps refresh row col skip track dirty ns ls st) := by
  intro ns
  induction ns with
  | nil => intro ls col skip track dirty st; simp only [renderCellsS]; exact done _ _ _ _ _ _ _ (Or.inl rfl)
  | cons n ns ih =>
    intro ls col skip track dirty st
    cases ls with
    | nil => simp only [renderCellsS]; exact done _ _ _ _ _ _ _ (Or.inr rfl)
    | cons l ls =>
      cases skip with
      | succ k => simp only [renderCellsS]; exact covered _ _ _ _ _ _ _ _ _ _ (ih _ _ _ _ _ _)
      | zero =>
        by_cases hsx : n.sixel = true
        · rw [renderCellsS_sixel_eq cw caps refresh row col track dirty n l ns ls st hsx]
          exact image _ _ _ _ _ _ _ _ _ hsx (ih _ _ _ _ _ _)
        · have hsx : n.sixel = false := by simpa using hsx
          by_cases hc : clipCell cw (ns.length + 1) n = l ∧ ¬ refresh ∧ col ≥ dirty
          · rw [renderCellsS_equal_eq cw caps refresh row col track dirty n l ns ls st hsx hc]
            exact unchanged _ _ _ _ _ _ _ _ _ _ hsx rfl hc (ih _ _ _ _ _ _)
          · rw [renderCellsS_write_eq cw caps refresh row col track dirty n l ns ls st hsx hc]
            exact written _ _ _ _ _ _ _ _ _ _ hsx rfl hc (ih _ _ _ _ _ _)

open VaxisModel.Lemmas.RenderToks

/-- `RenderToks.renderCells_inv` for `renderCellsS`: the cell written is the clipped one. -/
theorem renderCellsS_inv (cw : String → Nat) (caps : Caps) (refresh : Bool) (row : Nat)
    {I : RSt → Prop} {C : Cell → Prop}
    (hrep : ∀ st, I st → I { st with reposition := true })
    (hw : ∀ st col rem n, C n → I st →
      I { reposition := false, pen := (clipCell cw rem n).style, out := st.out ++ cellToks cw caps st row col (clipCell cw rem n) }) :
    ∀ (next last : List Cell) (col skip : Nat) (track : Bool) (dirty : Nat) (st : RSt),
      (∀ c ∈ next, C c) → I st → I (renderCellsS cw caps refresh row col skip track dirty next last st).2 :=
  renderCellsS_ind cw caps refresh row (M := fun _ _ _ _ ns _ st r => (∀ c ∈ ns, C c) → I st → I r.2)
    (fun _ _ _ _ _ _ _ _ _ h => h)
    (fun _ _ _ _ _ _ _ _ _ _ ih hc h => ih (fun c hc' => hc c (List.mem_cons_of_mem _ hc')) h)
    (fun _ _ _ _ _ _ _ st _ _ ih hc h => ih (fun c hc' => hc c (List.mem_cons_of_mem _ hc')) (hrep st h))
    (fun _ _ _ _ _ _ _ st _ _ _ _ _ ih hc h => ih (fun c hc' => hc c (List.mem_cons_of_mem _ hc')) (hrep st h))
    (fun col _ _ n _ _ _ st _ _ _ hm _ ih hc h => ih (fun c hc' => hc c (List.mem_cons_of_mem _ hc'))
      (hm ▸ hw st col _ n (hc n List.mem_cons_self) h))

theorem renderRowsS_inv (cw : String → Nat) (caps : Caps) (refresh : Bool)
    {I : RSt → Prop} {C : Cell → Prop}
    (hrep : ∀ st, I st → I { st with reposition := true })
    (hw : ∀ st row col rem n, C n → I st →
      I { reposition := false, pen := (clipCell cw rem n).style, out := st.out ++ cellToks cw caps st row col (clipCell cw rem n) }) :
    ∀ (next last : Grid) (row : Nat) (st : RSt),
      (∀ r ∈ next, ∀ c ∈ r, C c) → I st → I (renderRowsS cw caps refresh row next last st).2 := by
  intro next
  induction next with
  | nil => intro last row st _ h; simpa [renderRowsS] using h
  | cons n ns ih =>
    intro last row st hc h
    cases last with
    | nil => simpa [renderRowsS] using h
    | cons l ls =>
      simp only [renderRowsS]
      exact ih ls _ _ (fun r hr => hc r (List.mem_cons_of_mem _ hr))
        (renderCellsS_inv cw caps refresh row hrep (fun st col rem n => hw st row col rem n) n l 0 0 false 0 _
          (hc n List.mem_cons_self) (hrep st h))

theorem renderRowsS_post (cw : String → Nat) (caps : Caps) (refresh : Bool) (l0 : String)
    (next last : Grid) (row : Nat) (st : RSt) (h : linkRun l0 st.out = st.pen.link) :
    LoopPost l0 st (renderRowsS cw caps refresh row next last st).2 :=
  renderRowsS_inv cw caps refresh (I := LoopPost l0 st) (C := fun _ => True) (fun _ hs => ⟨hs.link, hs.ext⟩)
    (fun s row col rem n _ hs => hs.trans (cell_post cw caps row col l0 s (clipCell cw rem n) hs.link))
    next last row st (fun _ _ _ _ => trivial) (LoopPost.refl h)

theorem renderBodyS_shape (cw : String → Nat) (f : Frame) :
    ∃ (pre extra close show_ : List Tok),
      (renderBodyS cw f).2 = pre ++ extra ++ close ++ show_ ∧
      (pre = [] ∨ ∃ s, pre = [Tok.pointer s]) ∧
      (∀ k ∈ extra, CellTok k) ∧
      (close = [] ∨ close = [Tok.osc8 "" ""]) ∧
      linkRun "" (pre ++ extra ++ close) = "" ∧
      show_ = (if f.cursorNext.visible ∧ ¬ f.cursorLast.visible then showCursorToks f.cursorNext else []) :=
  shape_of_post f (pointer_pre f).1 (renderRowsS_post cw f.caps f.refresh "" f.next f.last 0 _ (pointer_pre f).2)

end VaxisModel.Lemmas.RenderSixel
