/-
Helper lemmas for C01/C07: what one token does to the registers of the reference terminal and the projections
of `Spec.Display.run` that depend on the token list only (hyperlink and its parameters, pen, sync depth, cursor
visibility/shape); the vocabulary of the pen delta and of the cell loop; what the cell loop can do to its state
(`renderCells_inv`) and, from it, every token of a frame (`renderFrame_all`).
-/
import VaxisModel.Model.Render
import VaxisModel.Spec.Display
import VaxisModel.Lemmas.DisplayBasic

namespace VaxisModel.Lemmas.RenderDisplay
open VaxisModel.Model.Render

/-- Tokens written for one changed cell.  (Declared here, below the display proof it is named after: the rule
    for the cell loop in this file, `renderCells_inv`, is stated with it.) -/
def cellToks (cw : String → Nat) (caps : Caps) (st : RSt) (row col : Nat) (n : Cell) : List Tok :=
  (if st.reposition then
      (if st.pen.link ≠ "" then [Tok.osc8 "" ""] else []) ++ [Tok.cup (row + 1) (col + 1)]
    else []) ++
  penDelta caps (if st.reposition ∧ st.pen.link ≠ "" then { st.pen with link := "", linkParams := "" } else st.pen) n.style ++
  [glyphTok cw caps n]

end VaxisModel.Lemmas.RenderDisplay

namespace VaxisModel.Lemmas.RenderToks
open VaxisModel.Model.Render VaxisModel.Spec VaxisModel.Spec.Display
open VaxisModel.Lemmas.RenderDisplay (cellToks)

def linkStep (l : String) : Tok → String
  | .osc8 _ u => u
  | _ => l
def linkRun (l : String) (toks : List Tok) : String := toks.foldl linkStep l

def lpStep (p : String) : Tok → String
  | .osc8 p' u => if u = "" then "" else p'
  | _ => p
def lpRun (p : String) (toks : List Tok) : String := toks.foldl lpStep p

/-- The parameter field the terminal holds while the pen is `s`: none without a hyperlink. -/
def lpOf (s : Style) : String := lpField (if s.link = "" then "" else s.linkParams)

def penStep (p : TStyle) : Tok → TStyle
  | .sgr ps => sgr p ps
  | _ => p
def penRun (p : TStyle) (toks : List Tok) : TStyle := toks.foldl penStep p

def syncStep (n : Int) : Tok → Int
  | .decset m => if m = 2026 then n + 1 else n
  | .decrst m => if m = 2026 then n - 1 else n
  | _ => n
def syncRun (n : Int) (toks : List Tok) : Int := toks.foldl syncStep n

def visStep (v : Bool) : Tok → Bool
  | .decset m => if m = 25 then true else v
  | .decrst m => if m = 25 then false else v
  | _ => v
def visRun (v : Bool) (toks : List Tok) : Bool := toks.foldl visStep v

def shapeStep (s : Nat) : Tok → Nat
  | .cursorStyle n => n
  | _ => s
def shapeRun (s : Nat) (toks : List Tok) : Nat := toks.foldl shapeStep s

theorem putGlyph_fields (t : Term) (g : String) (w : Nat) :
    (putGlyph t g w).link = t.link ∧ (putGlyph t g w).pen = t.pen ∧ (putGlyph t g w).sync = t.sync ∧
    (putGlyph t g w).cursorVisible = t.cursorVisible ∧ (putGlyph t g w).cursorShape = t.cursorShape ∧
    (putGlyph t g w).rows = t.rows ∧ (putGlyph t g w).cols = t.cols ∧ (putGlyph t g w).linkParams = t.linkParams := by
  unfold putGlyph markBad
  repeat' split
  all_goals simp

/-- **The registers of `t'` are those of `t` after the tokens `toks`**, whatever these did to the grid and the cursor: the
    dimensions stay, and hyperlink, pen, sync depth, cursor visibility, cursor shape and hyperlink parameters are each
    the fold of a function of the token alone. -/
structure Regs (t t' : Term) (toks : List Tok) : Prop where
  link : t'.link = linkRun t.link toks
  pen : t'.pen = penRun t.pen toks
  sync : t'.sync = syncRun t.sync toks
  cursorVisible : t'.cursorVisible = visRun t.cursorVisible toks
  cursorShape : t'.cursorShape = shapeRun t.cursorShape toks
  linkParams : t'.linkParams = lpRun t.linkParams toks
  rows : t'.rows = t.rows
  cols : t'.cols = t.cols

theorem step_frame (tw : String → Nat) (t : Term) (k : Tok) : Regs t (step tw t k) [k] := by
  suffices h : (step tw t k).link = linkStep t.link k ∧ (step tw t k).pen = penStep t.pen k ∧
      (step tw t k).sync = syncStep t.sync k ∧ (step tw t k).cursorVisible = visStep t.cursorVisible k ∧
      (step tw t k).cursorShape = shapeStep t.cursorShape k ∧ (step tw t k).linkParams = lpStep t.linkParams k ∧
      (step tw t k).rows = t.rows ∧ (step tw t k).cols = t.cols by
    obtain ⟨a, b, c, d, e, f, g, i⟩ := h
    exact ⟨a, b, c, d, e, f, g, i⟩
  cases k <;> simp only [step, linkStep, lpStep, penStep, syncStep, visStep, shapeStep]
  case text g => have := putGlyph_fields t g (tw g); simp [this]
  case textW w g =>
    split
    · unfold markBad; split <;> simp
    · have := putGlyph_fields t g w.toNat; simp [this]
  case cup r c => unfold markBad; repeat' split
                  all_goals simp
  case osc8 p u => split <;> simp_all
  case decset n => repeat' split
                   all_goals simp_all
  case decrst n => repeat' split
                   all_goals simp_all
  all_goals simp

theorem run_keeps (tw : String → Nat) {J : Term → Prop} {Q : Tok → Prop} (h : ∀ t k, J t → Q k → J (step tw t k))
    (toks : List Tok) (hq : ∀ k ∈ toks, Q k) : ∀ t : Term, J t → J (run tw t toks) := by
  induction toks with
  | nil => intro t ht; exact ht
  | cons k ks ih =>
    intro t ht
    exact ih (fun k' hk' => hq k' (List.mem_cons_of_mem _ hk')) _ (h t k ht (hq k List.mem_cons_self))

theorem run_fields (tw : String → Nat) (toks : List Tok) (t : Term) : Regs t (run tw t toks) toks where
  link := (List.foldl_hom (fun t : Term => t.link) (g₁ := step tw) (g₂ := linkStep) fun t k => (step_frame tw t k).link.symm).symm
  pen := (List.foldl_hom (fun t : Term => t.pen) (g₁ := step tw) (g₂ := penStep) fun t k => (step_frame tw t k).pen.symm).symm
  sync := (List.foldl_hom (fun t : Term => t.sync) (g₁ := step tw) (g₂ := syncStep) fun t k => (step_frame tw t k).sync.symm).symm
  cursorVisible := (List.foldl_hom (fun t : Term => t.cursorVisible) (g₁ := step tw) (g₂ := visStep) fun t k => (step_frame tw t k).cursorVisible.symm).symm
  cursorShape := (List.foldl_hom (fun t : Term => t.cursorShape) (g₁ := step tw) (g₂ := shapeStep) fun t k => (step_frame tw t k).cursorShape.symm).symm
  linkParams := (List.foldl_hom (fun t : Term => t.linkParams) (g₁ := step tw) (g₂ := lpStep) fun t k => (step_frame tw t k).linkParams.symm).symm
  rows := run_keeps tw (J := fun t' => t'.rows = t.rows) (Q := fun _ => True)
    (fun t' k h _ => (step_frame tw t' k).rows.trans h) toks (fun _ _ => trivial) t rfl
  cols := run_keeps tw (J := fun t' => t'.cols = t.cols) (Q := fun _ => True)
    (fun t' k h _ => (step_frame tw t' k).cols.trans h) toks (fun _ _ => trivial) t rfl

/-- Tokens the cell loop of `render` can write. -/
def CellTok : Tok → Prop
  | .cup _ _ | .sgr _ | .osc8 _ _ | .text _ | .textW _ _ => True
  | _ => False

theorem colorToks_cell (caps : Caps) (w c : Nat) : ∀ k ∈ colorToks caps w c, ∃ ps, k = .sgr ps := by
  intro k hk
  unfold colorToks colorToksP at hk
  split at hk
  · simp at hk; exact ⟨_, hk⟩
  · split at hk
    · simp at hk; exact ⟨_, hk⟩
    · split at hk <;> (simp at hk; exact ⟨_, hk⟩)
  · simp at hk; exact ⟨_, hk⟩
  · simp at hk

theorem ulColorToks_cell (caps : Caps) (c : Nat) : ∀ k ∈ ulColorToks caps c, ∃ ps, k = .sgr ps := by
  intro k hk
  unfold ulColorToks ulColorToksP at hk
  split at hk
  · simp at hk; exact ⟨_, hk⟩
  · simp at hk; exact ⟨_, hk⟩
  · simp at hk; exact ⟨_, hk⟩
  · simp at hk

theorem onTok_cell (a b c : Nat) : ∀ k ∈ onTok a b c, ∃ ps, k = .sgr ps := by
  intro k hk
  unfold onTok at hk
  split at hk <;> simp at hk
  exact ⟨_, hk⟩

def isSgr : Tok → Bool
  | .sgr _ => true
  | _ => false

theorem attrToks_all (a b : Nat) : (attrToks a b).all isSgr = true := by
  unfold attrToks
  split
  · rfl
  · simp only [List.all_append, onTok, Bool.and_eq_true]
    repeat' apply And.intro
    all_goals (repeat' split)
    all_goals simp [isSgr]

theorem attrToks_cell (a b : Nat) : ∀ k ∈ attrToks a b, ∃ ps, k = .sgr ps := by
  intro k hk
  have h := attrToks_all a b
  rw [List.all_eq_true] at h
  have := h k hk
  cases k <;> simp [isSgr] at this
  exact ⟨_, rfl⟩

/-- **The six parts of the pen delta**: a property holds of every token `render` writes between the CUP and the
    glyph when it holds of the foreground and the background colour, the underline colour (styled underlines
    only), the attribute delta, the underline style in its three forms, and the OSC 8 (when the hyperlink changes). -/
theorem penDelta_all {P : Tok → Prop} (caps : Caps) (pen next : Style)
    (hfg : ∀ k ∈ colorToks caps 30 next.fg, P k) (hbg : ∀ k ∈ colorToks caps 40 next.bg, P k)
    (hul : caps.styledUnderlines = true → ∀ k ∈ ulColorToks caps next.ul, P k)
    (hattr : ∀ k ∈ attrToks pen.attr next.attr, P k)
    (hus : caps.styledUnderlines = true → P (.sgr [[4, next.ulStyle]]))
    (hus0 : caps.styledUnderlines = false → next.ulStyle = 0 → P (.sgr [[24]]))
    (hus1 : caps.styledUnderlines = false → next.ulStyle ≠ 0 → P (.sgr [[4]]))
    (hlink : (pen.link ≠ next.link ∨ (next.link ≠ "" ∧ pen.linkParams ≠ next.linkParams)) →
      P (.osc8 (lpField (if next.link = "" then "" else next.linkParams)) next.link)) :
    ∀ k ∈ penDelta caps pen next, P k := by
  intro k hk
  simp only [penDelta, List.mem_append] at hk
  rcases hk with ((((h | h) | h) | h) | h) | h
  · exact hfg k (List.mem_ite_nil_right.mp h).2
  · exact hbg k (List.mem_ite_nil_right.mp h).2
  · exact hul (List.mem_ite_nil_right.mp h).1.1 k (List.mem_ite_nil_right.mp h).2
  · exact hattr k h
  · have h := (List.mem_ite_nil_right.mp h).2
    by_cases hs : caps.styledUnderlines = true
    · rw [if_pos hs] at h; rw [List.mem_singleton.mp h]; exact hus hs
    · rw [if_neg hs] at h
      have hs : caps.styledUnderlines = false := by simpa using hs
      by_cases h0 : next.ulStyle = 0
      · rw [if_pos h0] at h; rw [List.mem_singleton.mp h]; exact hus0 hs h0
      · rw [if_neg h0] at h; rw [List.mem_singleton.mp h]; exact hus1 hs h0
  · rw [List.mem_singleton.mp (List.mem_ite_nil_right.mp h).2]; exact hlink (List.mem_ite_nil_right.mp h).1

theorem penDelta_all_sgr {P : Tok → Prop} (caps : Caps) (pen next : Style) (hsgr : ∀ ps, P (.sgr ps))
    (hlink : (pen.link ≠ next.link ∨ (next.link ≠ "" ∧ pen.linkParams ≠ next.linkParams)) →
      P (.osc8 (lpField (if next.link = "" then "" else next.linkParams)) next.link)) :
    ∀ k ∈ penDelta caps pen next, P k :=
  penDelta_all caps pen next
    (fun k hk => by obtain ⟨ps, rfl⟩ := colorToks_cell _ _ _ k hk; exact hsgr ps)
    (fun k hk => by obtain ⟨ps, rfl⟩ := colorToks_cell _ _ _ k hk; exact hsgr ps)
    (fun _ k hk => by obtain ⟨ps, rfl⟩ := ulColorToks_cell _ _ k hk; exact hsgr ps)
    (fun k hk => by obtain ⟨ps, rfl⟩ := attrToks_cell _ _ k hk; exact hsgr ps)
    (fun _ => hsgr _) (fun _ _ => hsgr _) (fun _ _ => hsgr _) hlink

theorem penDelta_vocab (caps : Caps) (pen next : Style) : ∀ k ∈ penDelta caps pen next, CellTok k :=
  penDelta_all_sgr caps pen next (fun _ => trivial) (fun _ => trivial)

theorem penDelta_split (caps : Caps) (pen next : Style) :
    ∃ sg, (∀ k ∈ sg, ∃ ps, k = Tok.sgr ps) ∧
      penDelta caps pen next = sg ++
        (if pen.link ≠ next.link ∨ (next.link ≠ "" ∧ pen.linkParams ≠ next.linkParams) then
           [Tok.osc8 (lpField (if next.link = "" then "" else next.linkParams)) next.link] else []) := by
  refine ⟨_, ?_, rfl⟩
  -- the five SGR parts are the whole delta towards `next` carrying the hyperlink of `pen`
  have := penDelta_all_sgr (P := fun k => ∃ ps, k = Tok.sgr ps) caps pen
    { next with link := pen.link, linkParams := pen.linkParams } (fun ps => ⟨ps, rfl⟩) (fun h => absurd h (by simp))
  simpa [penDelta] using this

theorem linkRun_append (l : String) (a b : List Tok) : linkRun l (a ++ b) = linkRun (linkRun l a) b := by
  simp [linkRun, List.foldl_append]

theorem linkRun_sgrs (l : String) (toks : List Tok) (h : ∀ k ∈ toks, ∃ ps, k = Tok.sgr ps) : linkRun l toks = l := by
  induction toks generalizing l with
  | nil => rfl
  | cons k ks ih =>
    obtain ⟨ps, hk⟩ := h k (by simp)
    subst hk
    simp only [linkRun, List.foldl_cons, linkStep]
    exact ih l (fun k' hk' => h k' (by simp [hk']))

theorem linkRun_penDelta (caps : Caps) (pen next : Style) :
    linkRun pen.link (penDelta caps pen next) = next.link := by
  obtain ⟨sg, hsg, he⟩ := penDelta_split caps pen next
  rw [he, linkRun_append, linkRun_sgrs _ sg hsg]
  split
  · rfl
  · rename_i hc; exact Decidable.not_not.mp fun h => hc (Or.inl h)

theorem lpRun_append (p : String) (a b : List Tok) : lpRun p (a ++ b) = lpRun (lpRun p a) b := by
  simp [lpRun, List.foldl_append]

theorem lpRun_sgrs (p : String) (toks : List Tok) (h : ∀ k ∈ toks, ∃ ps, k = Tok.sgr ps) : lpRun p toks = p := by
  induction toks generalizing p with
  | nil => rfl
  | cons k ks ih =>
    obtain ⟨ps, hk⟩ := h k (by simp)
    subst hk
    simp only [lpRun, List.foldl_cons, lpStep]
    exact ih p (fun k' hk' => h k' (by simp [hk']))

theorem lpRun_penDelta (caps : Caps) (pen next : Style) :
    lpRun (lpOf pen) (penDelta caps pen next) = lpOf next := by
  obtain ⟨sg, hsg, he⟩ := penDelta_split caps pen next
  rw [he]
  have : ∀ b, lpRun (lpOf pen) (sg ++ b) = lpRun (lpOf pen) b := by
    intro b
    have := lpRun_sgrs (lpOf pen) sg hsg
    simp only [lpRun, List.foldl_append] at this ⊢
    rw [this]
  rw [this]
  by_cases hc : pen.link ≠ next.link ∨ (next.link ≠ "" ∧ pen.linkParams ≠ next.linkParams)
  · simp only [hc, if_true, lpRun, List.foldl_cons, List.foldl_nil, lpStep, lpOf]
    split <;> rfl
  · simp only [hc, if_false, lpRun, List.foldl_nil]
    have h1 : pen.link = next.link := by
      by_cases h : pen.link = next.link
      · exact h
      · exact absurd (Or.inl h) hc
    unfold lpOf
    by_cases h2 : next.link = ""
    · simp [h1, h2]
    · have : pen.linkParams = next.linkParams := by
        by_cases h : pen.linkParams = next.linkParams
        · exact h
        · exact absurd (Or.inr ⟨h2, h⟩) hc
      simp [h1, this]

theorem showCursor_lp (c : CursorState) (p : String) : lpRun p (showCursorToks c) = p := by
  simp [showCursorToks, lpRun, lpStep]

theorem cellToks_all {P : Tok → Prop} (cw : String → Nat) (caps : Caps) (st : RSt) (row col : Nat) (n : Cell)
    (h8 : P (.osc8 "" "")) (hcup : P (.cup (row + 1) (col + 1)))
    (hpen : ∀ pen, ∀ k ∈ penDelta caps pen n.style, P k) (hg : P (glyphTok cw caps n)) :
    ∀ k ∈ cellToks cw caps st row col n, P k := by
  intro k hk
  simp only [cellToks, List.mem_append, List.mem_singleton] at hk
  rcases hk with (hk | hk) | rfl
  · rcases List.mem_append.mp (List.mem_ite_nil_right.mp hk).2 with hk | hk
    · rw [List.mem_singleton.mp (List.mem_ite_nil_right.mp hk).2]; exact h8
    · rw [List.mem_singleton.mp hk]; exact hcup
  · exact hpen _ k hk
  · exact hg

/-- **What the cell loop can do to its state**: ask for a reposition, or write one of the row's cells.  Whatever
    both keep (`I`) holds after the loop; `C` is what is known of the row's cells.  The skipped, the image
    and the unchanged cells differ from each other only in `last`, `skip` and `dirty`, which `I` does not see. -/
theorem renderCells_inv (cw : String → Nat) (caps : Caps) (refresh : Bool) (row : Nat)
    {I : RSt → Prop} {C : Cell → Prop}
    (hrep : ∀ st, I st → I { st with reposition := true })
    (hw : ∀ st col n, C n → I st → I { reposition := false, pen := n.style, out := st.out ++ cellToks cw caps st row col n }) :
    ∀ (next last : List Cell) (col skip : Nat) (track : Bool) (dirty : Nat) (st : RSt),
      (∀ c ∈ next, C c) → I st → I (renderCells cw caps refresh row col skip track dirty next last st).2 := by
  intro next
  induction next with
  | nil => intro last col skip track dirty st _ h; simpa [renderCells] using h
  | cons n ns ih =>
    intro last col skip track dirty st hc h
    have hcs : ∀ c ∈ ns, C c := fun c hc' => hc c (List.mem_cons_of_mem _ hc')
    cases last with
    | nil => simpa [renderCells] using h
    | cons l ls =>
      cases skip with
      | succ k => simp only [renderCells]; exact ih ls _ k track _ st hcs h
      | zero =>
        simp only [renderCells]
        split
        · exact ih ls _ 0 false dirty _ hcs (hrep st h)
        · split
          · exact ih ls _ _ false dirty _ hcs (hrep st h)
          · exact ih ls _ _ true _ _ hcs (hw st col n (hc n List.mem_cons_self) h)

theorem renderRows_inv (cw : String → Nat) (caps : Caps) (refresh : Bool)
    {I : RSt → Prop} {C : Cell → Prop}
    (hrep : ∀ st, I st → I { st with reposition := true })
    (hw : ∀ st row col n, C n → I st → I { reposition := false, pen := n.style, out := st.out ++ cellToks cw caps st row col n }) :
    ∀ (next last : Grid) (row : Nat) (st : RSt),
      (∀ r ∈ next, ∀ c ∈ r, C c) → I st → I (renderRows cw caps refresh row next last st).2 := by
  intro next
  induction next with
  | nil => intro last row st _ h; simpa [renderRows] using h
  | cons n ns ih =>
    intro last row st hc h
    cases last with
    | nil => simpa [renderRows] using h
    | cons l ls =>
      simp only [renderRows]
      exact ih ls _ _ (fun r hr => hc r (List.mem_cons_of_mem _ hr))
        (renderCells_inv cw caps refresh row hrep (fun st col n => hw st row col n) n l 0 0 false 0 _
          (hc n List.mem_cons_self) (hrep st h))

/-- What the cell loop guarantees about the tokens it appends to `st.out`. -/
structure LoopPost (l0 : String) (st st' : RSt) : Prop where
  link : linkRun l0 st'.out = st'.pen.link
  ext : ∃ extra, st'.out = st.out ++ extra ∧ ∀ k ∈ extra, CellTok k

theorem LoopPost.refl {l0 : String} {st : RSt} (h : linkRun l0 st.out = st.pen.link) : LoopPost l0 st st :=
  ⟨h, [], by simp, by simp⟩

/-- The loops only append to `out`. -/
theorem LoopPost.out_ne_nil {l0 : String} {st st' : RSt} (h : LoopPost l0 st st') (hne : st.out ≠ []) : st'.out ≠ [] := by
  obtain ⟨e, he, _⟩ := h.ext
  rw [he]; simp [hne]

theorem LoopPost.trans {l0 : String} {a b c : RSt} (h1 : LoopPost l0 a b) (h2 : LoopPost l0 b c) : LoopPost l0 a c := by
  obtain ⟨e1, he1, hv1⟩ := h1.ext
  obtain ⟨e2, he2, hv2⟩ := h2.ext
  refine ⟨h2.link, e1 ++ e2, by rw [he2, he1, List.append_assoc], ?_⟩
  intro k hk
  rcases List.mem_append.mp hk with h | h
  · exact hv1 k h
  · exact hv2 k h

theorem glyphTok_vocab (cw : String → Nat) (caps : Caps) (c : Cell) : CellTok (glyphTok cw caps c) := by
  unfold glyphTok glyphTokW
  repeat' split
  all_goals trivial

theorem glyphTok_link (cw : String → Nat) (caps : Caps) (c : Cell) (l : String) :
    linkStep l (glyphTok cw caps c) = l := by
  unfold glyphTok glyphTokW
  repeat' split
  all_goals rfl

theorem cell_post (cw : String → Nat) (caps : Caps) (row col : Nat) (l0 : String) (st : RSt) (n : Cell)
    (h : linkRun l0 st.out = st.pen.link) :
    LoopPost l0 st { reposition := false, pen := n.style, out := st.out ++ cellToks cw caps st row col n } := by
  constructor
  · show linkRun l0 (st.out ++ cellToks cw caps st row col n) = n.style.link
    simp only [cellToks, linkRun_append, h]
    have hpre : linkRun st.pen.link (if st.reposition then
          (if st.pen.link ≠ "" then [Tok.osc8 "" ""] else []) ++ [Tok.cup (row + 1) (col + 1)] else [])
        = (if st.reposition ∧ st.pen.link ≠ "" then ({ st.pen with link := "", linkParams := "" } : Style) else st.pen).link := by
      by_cases hr : st.reposition = true <;> by_cases hl : st.pen.link = "" <;>
        simp [hr, hl, linkRun, linkStep]
    rw [hpre, linkRun_penDelta]
    simp [linkRun, glyphTok_link]
  · exact ⟨_, rfl, cellToks_all cw caps st row col n trivial trivial (fun pen => penDelta_vocab caps pen n.style)
      (glyphTok_vocab cw caps n)⟩

theorem renderCells_post (cw : String → Nat) (caps : Caps) (refresh : Bool) (row : Nat) (l0 : String)
    (next last : List Cell) (col skip : Nat) (track : Bool) (dirty : Nat) (st : RSt)
    (h : linkRun l0 st.out = st.pen.link) :
    LoopPost l0 st (renderCells cw caps refresh row col skip track dirty next last st).2 :=
  renderCells_inv cw caps refresh row (I := LoopPost l0 st) (C := fun _ => True) (fun _ hs => ⟨hs.link, hs.ext⟩)
    (fun s col n _ hs => hs.trans (cell_post cw caps row col l0 s n hs.link))
    next last col skip track dirty st (fun _ _ => trivial) (LoopPost.refl h)

theorem renderRows_post (cw : String → Nat) (caps : Caps) (refresh : Bool) (l0 : String)
    (next last : Grid) (row : Nat) (st : RSt) (h : linkRun l0 st.out = st.pen.link) :
    LoopPost l0 st (renderRows cw caps refresh row next last st).2 :=
  renderRows_inv cw caps refresh (I := LoopPost l0 st) (C := fun _ => True) (fun _ hs => ⟨hs.link, hs.ext⟩)
    (fun s row col n _ hs => hs.trans (cell_post cw caps row col l0 s n hs.link))
    next last row st (fun _ _ _ _ => trivial) (LoopPost.refl h)

theorem cell_lp (cw : String → Nat) (caps : Caps) (row col : Nat) (p0 : String) (st : RSt) (n : Cell)
    (h : lpRun p0 st.out = lpOf st.pen) : lpRun p0 (st.out ++ cellToks cw caps st row col n) = lpOf n.style := by
  simp only [cellToks, lpRun_append, h]
  have hpre : lpRun (lpOf st.pen) (if st.reposition then
        (if st.pen.link ≠ "" then [Tok.osc8 "" ""] else []) ++ [Tok.cup (row + 1) (col + 1)] else [])
      = lpOf (if st.reposition ∧ st.pen.link ≠ "" then ({ st.pen with link := "", linkParams := "" } : Style) else st.pen) := by
    by_cases hr : st.reposition = true <;> by_cases hl : st.pen.link = "" <;>
      simp [hr, hl, lpRun, lpStep, lpOf, lpField, lpFieldL]
  rw [hpre, lpRun_penDelta]
  unfold glyphTok glyphTokW
  repeat' split
  all_goals rfl

theorem renderRows_lp (cw : String → Nat) (caps : Caps) (refresh : Bool) (p0 : String)
    (next last : Grid) (row : Nat) (st : RSt) (h : lpRun p0 st.out = lpOf st.pen) :
    lpRun p0 (renderRows cw caps refresh row next last st).2.out = lpOf (renderRows cw caps refresh row next last st).2.pen :=
  renderRows_inv cw caps refresh (I := fun s => lpRun p0 s.out = lpOf s.pen) (C := fun _ => True) (fun _ h => h)
    (fun s row col n _ h => cell_lp cw caps row col p0 s n h) next last row st (fun _ _ _ _ => trivial) h

theorem flush_lp (caps : Caps) (cn cl : CursorState) (body : List Tok) (p : String) :
    lpRun p (flush caps cn cl body) = lpRun p body := by
  have hshow : ∀ (c : Prop) [Decidable c] (p : String), lpRun p (if c then showCursorToks cn else []) = p := by
    intro c _ p; split
    · exact showCursor_lp _ _
    · rfl
  have hone : ∀ (c : Prop) [Decidable c] (k : Tok) (p : String), (∀ q, lpStep q k = q) → lpRun p (if c then [k] else []) = p := by
    intro c _ k p hk; split
    · exact hk p
    · rfl
  unfold flush
  by_cases hemp : body.isEmpty = true
  · rw [List.isEmpty_iff.mp hemp]
    have hnil : lpRun p [] = p := rfl
    have h25 : lpRun p [Tok.decrst 25] = p := rfl
    simp only [List.isEmpty_nil, if_true, apply_ite (lpRun p), showCursor_lp, hnil, h25, ite_self]
  · simp only [hemp, Bool.false_eq_true, if_false, lpRun_append, hshow,
      hone _ (Tok.decrst 25) _ (fun _ => rfl), hone _ (Tok.decset 2026) _ (fun _ => rfl),
      hone _ (Tok.decrst 2026) _ (fun _ => rfl)]
    rfl

/-- **No frame leaves hyperlink parameters behind**, whatever the grids, styles and cursors: the loop keeps the
    terminal's field equal to the pen's, the trailing OSC 8 close clears it, the writer does not touch it. -/
theorem renderFrame_lp (cw : String → Nat) (f : Frame) : lpRun "" (renderFrame cw f).2 = "" := by
  show lpRun "" (flush f.caps f.cursorNext f.cursorLast (renderBody cw f).2) = ""
  rw [flush_lp]
  simp only [renderBody, lpRun_append]
  have h0 : lpRun "" ({ out := if f.shapeLast ≠ f.shapeNext then [Tok.pointer f.shapeNext] else [] } : RSt).out
      = lpOf ({ out := if f.shapeLast ≠ f.shapeNext then [Tok.pointer f.shapeNext] else [] } : RSt).pen := by
    show lpRun "" (if f.shapeLast ≠ f.shapeNext then [Tok.pointer f.shapeNext] else []) = _
    split <;> rfl
  rw [renderRows_lp cw f.caps f.refresh "" f.next f.last 0 _ h0]
  generalize (renderRows cw f.caps f.refresh 0 f.next f.last _).2.pen = pen
  have hclose : lpRun (lpOf pen) (if pen.link ≠ "" then [Tok.osc8 "" ""] else []) = "" := by
    by_cases h : pen.link = ""
    · simp [h, lpOf, lpRun, lpField, lpFieldL]
    · simp [h, lpRun, lpStep]
  rw [hclose]
  split
  · exact showCursor_lp _ _
  · rfl

theorem renderRows_out_all {P : Tok → Prop} (cw : String → Nat) (caps : Caps) (refresh : Bool)
    (h8 : P (.osc8 "" "")) (hcup : ∀ r c : Nat, P (.cup (r + 1) (c + 1)))
    (next last : Grid) (row : Nat) (st : RSt)
    (hcell : ∀ r ∈ next, ∀ n ∈ r, (∀ pen, ∀ k ∈ penDelta caps pen n.style, P k) ∧ P (glyphTok cw caps n))
    (h : ∀ k ∈ st.out, P k) :
    ∀ k ∈ (renderRows cw caps refresh row next last st).2.out, P k :=
  renderRows_inv cw caps refresh (I := fun st => ∀ k ∈ st.out, P k) (fun _ h => h)
    (fun st row col n hn h k hk => (List.mem_append.mp hk).elim (h k)
      (cellToks_all cw caps st row col n h8 (hcup row col) hn.1 hn.2 k))
    next last row st hcell h

theorem renderBody_all {P : Tok → Prop} (cw : String → Nat) (f : Frame)
    (hptr : P (.pointer f.shapeNext)) (h8 : P (.osc8 "" "")) (hcup : ∀ r c : Nat, P (.cup (r + 1) (c + 1)))
    (hcell : ∀ r ∈ f.next, ∀ n ∈ r, (∀ pen, ∀ k ∈ penDelta f.caps pen n.style, P k) ∧ P (glyphTok cw f.caps n))
    (hshow : f.cursorNext.visible = true → ∀ k ∈ showCursorToks f.cursorNext, P k) :
    ∀ k ∈ (renderBody cw f).2, P k := by
  intro k hk
  simp only [renderBody, List.mem_append] at hk
  rcases hk with (hk | hk) | hk
  · refine renderRows_out_all cw f.caps f.refresh h8 hcup f.next f.last 0 _ hcell ?_ k hk
    intro k' hk'
    rw [List.mem_singleton.mp (List.mem_ite_nil_right.mp hk').2]; exact hptr
  · rw [List.mem_singleton.mp (List.mem_ite_nil_right.mp hk).2]; exact h8
  · exact hshow (List.mem_ite_nil_right.mp hk).1.1 k (List.mem_ite_nil_right.mp hk).2

theorem flush_all {P : Tok → Prop} (caps : Caps) (cn cl : CursorState) (body : List Tok)
    (hbody : ∀ k ∈ body, P k)
    (hshow : cn.visible = true → ∀ k ∈ showCursorToks cn, P k)
    (hhide : P (.decrst 25)) (hsync : caps.sync = true → P (.decset 2026) ∧ P (.decrst 2026)) (hreset : P (.sgr [])) :
    ∀ k ∈ flush caps cn cl body, P k := by
  intro k hk
  have ite {c : Prop} [Decidable c] {l m : List Tok} (h : k ∈ if c then l else m) : (c ∧ k ∈ l) ∨ (¬ c ∧ k ∈ m) := by
    split at h
    · exact Or.inl ⟨‹c›, h⟩
    · exact Or.inr ⟨‹¬ c›, h⟩
  simp only [flush] at hk
  rcases ite hk with ⟨_, hk⟩ | ⟨_, hk⟩
  · rcases ite hk with ⟨_, h⟩ | ⟨_, hk⟩
    · rw [List.mem_singleton.mp h]; exact hhide
    · rcases ite hk with ⟨_, h⟩ | ⟨hv, hk⟩
      · cases h
      · have hv : cn.visible = true := Decidable.not_not.mp hv
        rcases ite hk with ⟨_, h⟩ | ⟨_, hk⟩
        · exact hshow hv k h
        · rcases ite hk with ⟨_, h⟩ | ⟨_, hk⟩
          · exact hshow hv k h
          · exact hshow hv k (List.mem_ite_nil_right.mp hk).2
  · simp only [List.mem_append, List.mem_singleton] at hk
    rcases hk with ((((hk | hk) | hk) | rfl) | hk) | hk
    · rw [List.mem_singleton.mp (List.mem_ite_nil_right.mp hk).2]; exact hhide
    · rw [List.mem_singleton.mp (List.mem_ite_nil_right.mp hk).2]; exact (hsync (List.mem_ite_nil_right.mp hk).1).1
    · exact hbody k hk
    · exact hreset
    · exact hshow (List.mem_ite_nil_right.mp hk).1.1 k (List.mem_ite_nil_right.mp hk).2
    · rw [List.mem_singleton.mp (List.mem_ite_nil_right.mp hk).2]; exact (hsync (List.mem_ite_nil_right.mp hk).1).2

/-- **Every token of a frame.**  A property of tokens holds of all a `Render()` puts on the wire when it holds of
    the pointer-shape sequence, the hyperlink close, the CUPs of the cell loop, the pen delta (from any pen) and
    the glyph of every cell of the frame, `showCursor()` for a visible cursor, `CSI ? 25 l`, `CSI m` and — under
    synchronized output — mode 2026 set and reset. -/
theorem renderFrame_all {P : Tok → Prop} (cw : String → Nat) (f : Frame)
    (hptr : P (.pointer f.shapeNext)) (h8 : P (.osc8 "" "")) (hcup : ∀ r c : Nat, P (.cup (r + 1) (c + 1)))
    (hcell : ∀ r ∈ f.next, ∀ n ∈ r, (∀ pen, ∀ k ∈ penDelta f.caps pen n.style, P k) ∧ P (glyphTok cw f.caps n))
    (hshow : f.cursorNext.visible = true → ∀ k ∈ showCursorToks f.cursorNext, P k)
    (hhide : P (.decrst 25)) (hsync : f.caps.sync = true → P (.decset 2026) ∧ P (.decrst 2026)) (hreset : P (.sgr [])) :
    ∀ k ∈ (renderFrame cw f).2, P k :=
  flush_all f.caps f.cursorNext f.cursorLast _ (renderBody_all cw f hptr h8 hcup hcell hshow) hshow hhide hsync hreset

/-- The shape of a body, from the loop's post-condition alone (whichever transcription of the loop ran). -/
theorem shape_of_post (f : Frame) {pre0 : List Tok} {st : RSt} (hpre : pre0 = [] ∨ ∃ s, pre0 = [Tok.pointer s])
    (hp : LoopPost "" { out := pre0 } st) :
    ∃ (pre extra close show_ : List Tok),
      st.out ++ (if st.pen.link ≠ "" then [Tok.osc8 "" ""] else []) ++
          (if f.cursorNext.visible ∧ ¬ f.cursorLast.visible then showCursorToks f.cursorNext else [])
        = pre ++ extra ++ close ++ show_ ∧
      (pre = [] ∨ ∃ s, pre = [Tok.pointer s]) ∧
      (∀ k ∈ extra, CellTok k) ∧
      (close = [] ∨ close = [Tok.osc8 "" ""]) ∧
      linkRun "" (pre ++ extra ++ close) = "" ∧
      show_ = (if f.cursorNext.visible ∧ ¬ f.cursorLast.visible then showCursorToks f.cursorNext else []) := by
  obtain ⟨extra, hext, hvoc⟩ := hp.ext
  have hext : st.out = pre0 ++ extra := hext
  refine ⟨pre0, extra, if st.pen.link ≠ "" then [Tok.osc8 "" ""] else [], _, by rw [hext], hpre, hvoc, ?_, ?_, rfl⟩
  · split
    · exact Or.inr rfl
    · exact Or.inl rfl
  · rw [linkRun_append, ← hext, hp.link]
    split
    · simp [linkRun, linkStep]
    · rename_i h; simp only [ne_eq, Decidable.not_not] at h; simp [linkRun, h]

theorem pointer_pre (f : Frame) :
    let pre := if f.shapeLast ≠ f.shapeNext then [Tok.pointer f.shapeNext] else []
    (pre = [] ∨ ∃ s, pre = [Tok.pointer s]) ∧ linkRun "" ({ out := pre } : RSt).out = ({ out := pre } : RSt).pen.link := by
  intro pre
  have hpre : pre = [] ∨ ∃ s, pre = [Tok.pointer s] := by
    simp only [pre]; split
    · exact Or.inr ⟨_, rfl⟩
    · exact Or.inl rfl
  refine ⟨hpre, ?_⟩
  rcases hpre with h | ⟨s, h⟩ <;> rw [h] <;> rfl

theorem renderBody_shape (cw : String → Nat) (f : Frame) :
    ∃ (pre extra close show_ : List Tok),
      (renderBody cw f).2 = pre ++ extra ++ close ++ show_ ∧
      (pre = [] ∨ ∃ s, pre = [Tok.pointer s]) ∧
      (∀ k ∈ extra, CellTok k) ∧
      (close = [] ∨ close = [Tok.osc8 "" ""]) ∧
      linkRun "" (pre ++ extra ++ close) = "" ∧
      show_ = (if f.cursorNext.visible ∧ ¬ f.cursorLast.visible then showCursorToks f.cursorNext else []) :=
  shape_of_post f (pointer_pre f).1 (renderRows_post cw f.caps f.refresh "" f.next f.last 0 _ (pointer_pre f).2)

/-- Tokens that touch neither the sync depth, nor cursor visibility / shape, nor the pen. -/
def Quiet : Tok → Prop
  | .cup _ _ | .osc8 _ _ | .text _ | .textW _ _ | .pointer _ => True
  | _ => False

theorem syncRun_append (n : Int) (a b : List Tok) : syncRun n (a ++ b) = syncRun (syncRun n a) b := by
  simp [syncRun, List.foldl_append]
theorem visRun_append (v : Bool) (a b : List Tok) : visRun v (a ++ b) = visRun (visRun v a) b := by
  simp [visRun, List.foldl_append]
theorem shapeRun_append (v : Nat) (a b : List Tok) : shapeRun v (a ++ b) = shapeRun (shapeRun v a) b := by
  simp [shapeRun, List.foldl_append]
theorem penRun_append (p : TStyle) (a b : List Tok) : penRun p (a ++ b) = penRun (penRun p a) b := by
  simp [penRun, List.foldl_append]

theorem run_cellToks (toks : List Tok) (h : ∀ k ∈ toks, CellTok k ∨ Quiet k) (n : Int) (v : Bool) (s : Nat) :
    syncRun n toks = n ∧ visRun v toks = v ∧ shapeRun s toks = s := by
  induction toks with
  | nil => simp [syncRun, visRun, shapeRun]
  | cons k ks ih =>
    have hk := h k (by simp)
    have ih' := ih (fun k' hk' => h k' (by simp [hk']))
    simp only [syncRun, visRun, shapeRun, List.foldl_cons] at *
    cases k <;> simp [CellTok, Quiet] at hk <;> simp [syncStep, visStep, shapeStep, ih']

end VaxisModel.Lemmas.RenderToks
