/-
The regenerated bodies of `QueryColor`, `QueryForeground`, `QueryBackground`, executed
(`Model/RequesterBody.lean`), equal the model for every capability state, colour and received payload.
-/
import VaxisModel.Model.RequesterBody
import VaxisModel.Lemmas.QueryBody

namespace VaxisModel.Lemmas.RequesterBody
open VaxisModel.Model.GoBody VaxisModel.Model.Color VaxisModel.Model.InputQuery VaxisModel.Model VaxisModel.Model.QueryBody
open VaxisModel.Model.RequesterBody VaxisModel.Lemmas.QueryBody

def rthen (inp : ReqIn) (r : RR) (t : Ss) : RR := match r with | .norm st => rexecSs inp t st | r => r
theorem rexecSs_cons (inp : ReqIn) (h : S) (t : Ss) (st : RSt) : rexecSs inp (.cons h t) st = rthen inp (rexecS inp h st) t := by
  rw [rexecSs]; cases rexecS inp h st <;> rfl
theorem rexecSs_nil (inp : ReqIn) (st : RSt) : rexecSs inp .nil st = .norm st := by rw [rexecSs]
@[simp] theorem rthen_norm (inp : ReqIn) (st : RSt) (t : Ss) : rthen inp (.norm st) t = rexecSs inp t st := rfl
@[simp] theorem rthen_ret (inp : ReqIn) (st : RSt) (v : QV) (t : Ss) : rthen inp (.ret st v) t = .ret st v := rfl
@[simp] theorem rthen_fail (inp : ReqIn) (w : String) (t : Ss) : rthen inp (.fail w) t = .fail w := rfl
theorem rthen_ite (inp : ReqIn) (p : Prop) [Decidable p] (a b : RR) (t : Ss) :
    rthen inp (if p then a else b) t = if p then rthen inp a t else rthen inp b t := by split <;> rfl

theorem colorOfReply_eq (lit resp : List Nat) :
    colorOfReply lit resp = (match parseReply lit resp with | some c => c | none => 0) := by
  unfold parseReply colorOfReply
  cases matchLit lit resp with
  | none => rfl
  | some rest =>
    simp only []
    rcases Input.splitOn 47 rest with _ | ⟨a, _ | ⟨b, _ | ⟨c, _ | ⟨d, t⟩⟩⟩⟩ <;> try rfl
    cases ha : parseChannel a <;> cases hb : parseChannel b <;> cases hc : parseChannel c <;> simp [ha, hb, hc]

theorem ascii_4 : ascii "4;" = [52, 59] := by decide +kernel
theorem ascii_rgb : ascii ";rgb:" = [59, 114, 103, 98, 58] := by decide +kernel
theorem ascii_10 : ascii "10;rgb:" = [49, 48, 59, 114, 103, 98, 58] := by decide +kernel
theorem ascii_11 : ascii "11;rgb:" = [49, 49, 59, 114, 103, 98, 58] := by decide +kernel

macro "r_eval" : tactic => `(tactic| simp [runReq, Ss.ofList, Es.ofList, rexecSs_cons, rexecSs_nil, rthen_ite, rexecS, reqCond, isCanCall,
  reqCallStmt, reqDefine1, reqDefine2, qeval, qevals, qcall, qbin, List.lookup, sprintfV, pr_eq, *])

theorem qf_eq (can : Bool) (ps resp : List Nat) (c : Color) :
    runReq Gen.InputBody.qf ⟨can, ps, resp⟩ c = .ok (queryFgBgModel can "vx.chFg" "osc10" litFg resp) := by
  have hl : litFg = [49, 48, 59] ++ [114, 103, 98, 58] := by simp [litFg, ascii_10]
  unfold queryFgBgModel Gen.InputBody.qf
  rw [colorOfReply_eq, hl]
  r_eval
  cases can <;> cases parseReply [49, 48, 59, 114, 103, 98, 58] resp <;> simp

theorem qb_eq (can : Bool) (ps resp : List Nat) (c : Color) :
    runReq Gen.InputBody.qb ⟨can, ps, resp⟩ c = .ok (queryFgBgModel can "vx.chBg" "osc11" litBg resp) := by
  have hl : litBg = [49, 49, 59] ++ [114, 103, 98, 58] := by simp [litBg, ascii_11]
  unfold queryFgBgModel Gen.InputBody.qb
  rw [colorOfReply_eq, hl]
  r_eval
  cases can <;> cases parseReply [49, 49, 59, 114, 103, 98, 58] resp <;> simp

theorem qc_eq (can : Bool) (c : Color) (resp : List Nat) :
    runReq Gen.InputBody.qc ⟨can, params c, resp⟩ c = .ok (queryColorModel can c resp) := by
  unfold queryColorModel queryColorPre Gen.InputBody.qc
  generalize params c = ps
  -- one run up to `p[0]`, the number of parameters left as an `if`
  r_eval
  cases can
  · simp
  · rcases ps with _ | ⟨i, _ | ⟨j, _ | ⟨k, _ | ⟨l, t⟩⟩⟩⟩ <;> try simp
    have hl : litColor i = ([52, 59] ++ (decimal i ++ [59])) ++ [114, 103, 98, 58] := by
      simp [litColor, ascii_4, ascii_rgb]
    rw [colorOfReply_eq, hl]
    r_eval
    cases parseReply (52 :: 59 :: (decimal i ++ [59, 114, 103, 98, 58])) resp <;> simp

end VaxisModel.Lemmas.RequesterBody
