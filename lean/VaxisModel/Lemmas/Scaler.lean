/-
Lemmas for `Model/Scaler.lean`: the index formula, stored pixels of the scaled image, the view the block renderers
read, a translucent pixel through the 8-bit store.
-/
import VaxisModel.Model.Scaler
import VaxisModel.Lemmas.ImageFit
import VaxisModel.Lemmas.ImageTerm

namespace VaxisModel.Lemmas.Scaler
open VaxisModel.Model.Scaler VaxisModel.Model.Blocks VaxisModel.Model.ImageFit VaxisModel.Spec.Images
open VaxisModel.Gen.ImageConsts
open VaxisModel.Lemmas.ImageFit (byte_rt2)

theorem nnIndex_lt (d s dn : Nat) (hd : d < dn) (hs : 0 < s) : nnIndex d s dn < s := by
  unfold nnIndex
  rw [Nat.div_lt_iff_lt_mul (by omega)]
  have h : (2 * d + 1) * s < (2 * dn) * s := Nat.mul_lt_mul_of_pos_right (by omega) hs
  rw [Nat.mul_comm s]
  exact h

/-- The source pixel chosen for destination pixel `d` overlaps the part of the source that `d` covers:
    `[q, q+1) ∩ (d·s/dn, (d+1)·s/dn) ≠ ∅`, cross-multiplied — from `2·dn·q ≤ (2d+1)·s < 2·dn·(q+1)` for
    `q = nnIndex d s dn`. -/
theorem nnIndex_overlaps (d s dn : Nat) (hdn : 0 < dn) (hs : 0 < s) :
    nnIndex d s dn * dn < (d + 1) * s ∧ d * s < (nnIndex d s dn + 1) * dn := by
  have h1 := Nat.div_mul_le_self ((2 * d + 1) * s) (2 * dn)
  have h2 := Nat.lt_mul_div_succ ((2 * d + 1) * s) (show 0 < 2 * dn by omega)
  have e0 : (2 * d + 1) * s = 2 * (d * s) + s := by rw [Nat.add_mul, Nat.mul_assoc, Nat.one_mul]
  have e1 : (2 * d + 1) * s / (2 * dn) * (2 * dn) = 2 * ((2 * d + 1) * s / (2 * dn) * dn) := by
    rw [Nat.mul_left_comm]
  have e2 : 2 * dn * ((2 * d + 1) * s / (2 * dn) + 1) = 2 * ((2 * d + 1) * s / (2 * dn) * dn) + 2 * dn := by
    rw [Nat.mul_add, Nat.mul_one, Nat.mul_assoc, Nat.mul_comm dn]
  unfold nnIndex
  rw [e1] at h1
  rw [e2] at h2
  generalize (2 * d + 1) * s / (2 * dn) = q at h1 h2 ⊢
  rw [e0] at h1 h2
  rw [Nat.add_mul d, Nat.one_mul, Nat.add_mul q, Nat.one_mul]
  omega

theorem nnIndex_same (d s : Nat) (hs : 0 < s) : nnIndex d s s = d := by
  unfold nnIndex
  have e : (2 * d + 1) * s = d * (2 * s) + s := by
    rw [Nat.add_mul, Nat.one_mul, Nat.mul_assoc, Nat.mul_left_comm]
  rw [e, Nat.mul_comm d, Nat.mul_add_div (by omega), Nat.div_eq_of_lt (by omega)]
  rfl

theorem nnIndex_mono (d d' s dn : Nat) (h : d ≤ d') : nnIndex d s dn ≤ nnIndex d' s dn := by
  unfold nnIndex
  exact Nat.div_le_div_right (Nat.mul_le_mul_right _ (by omega))

theorem storeOver_zero (c : C16) : storeOver ⟨0, 0, 0, 0⟩ c = storeSrc c := by
  simp [storeOver, storeSrc]

/-- On the fresh all-zero destination either operator stores the loaded pixel's high bytes. -/
theorem scaledPx_eq (over : Bool) (src : Img8) (dw dh dx dy : Nat) :
    scaledPx over src dw dh dx dy = storeSrc (load src.kind (src.pix (nnIndex dx src.w dw) (nnIndex dy src.h dh))) := by
  unfold scaledPx
  cases over
  · rfl
  · simp only [if_true, storeOver_zero]

theorem byte_rt1 (r : Nat) (hr : r < 256) : r * 65535 / 255 / 256 % 256 = r := by
  have h1 : r * 65535 / 255 = r * 257 := by omega
  rw [h1]; exact byte_rt2 r hr

theorem roundtrip_opaque (k : Kind) (p : P8) (ha : p.a = 255) (hr : p.r < 256) (hg : p.g < 256) (hb : p.b < 256) :
    storeSrc (load k p) = p := by
  obtain ⟨r, g, b, a⟩ := p
  simp only at ha hr hg hb
  subst ha
  cases k
  · show (⟨r * (255 * 257) / 255 / 256 % 256, g * (255 * 257) / 255 / 256 % 256, b * (255 * 257) / 255 / 256 % 256,
        255 * 257 / 256 % 256⟩ : P8) = _
    rw [show 255 * 257 = 65535 from rfl, byte_rt1 _ hr, byte_rt1 _ hg, byte_rt1 _ hb]
  · show (⟨r * 257 / 256 % 256, g * 257 / 256 % 256, b * 257 / 256 % 256, 255 * 257 / 256 % 256⟩ : P8) = _
    rw [byte_rt2 _ hr, byte_rt2 _ hg, byte_rt2 _ hb]

theorem conv_zero (k : Kind) : conv k ⟨0, 0, 0, 0⟩ = ⟨0, 0, 0, 0⟩ := by
  cases k <;> rfl

theorem conv_opaque (k : Kind) (p : P8) (ha : p.a = 255) : conv k p = .ofQuad (nrgbaRGBA p.r p.g p.b 255) := by
  obtain ⟨r, g, b, a⟩ := p
  simp only at ha
  subst ha
  cases k
  · rfl
  · show (⟨r * 257, g * 257, b * 257, 255 * 257⟩ : C16) = ⟨r * 257 * 255 / 255, g * 257 * 255 / 255, b * 257 * 255 / 255, 255 * 257⟩
    rw [Nat.mul_div_cancel _ (by decide), Nat.mul_div_cancel _ (by decide), Nat.mul_div_cancel _ (by decide)]

theorem getD_map_zero (a : Array P8) (f : P8 → C16) (i : Nat) (hf : f ⟨0, 0, 0, 0⟩ = ⟨0, 0, 0, 0⟩) :
    (a.map f).getD i ⟨0, 0, 0, 0⟩ = f (a.getD i ⟨0, 0, 0, 0⟩) := by
  by_cases h : i < a.size
  · simp [Array.getD, h]
  · simp [Array.getD, h, hf]

theorem view_at (img : Img8) (x y : Nat) (hx : x < img.w) (hy : y < img.h) :
    img.view.at x y = conv img.kind (img.pix x y) := by
  have hb : x < img.view.w ∧ y < img.view.h := ⟨hx, hy⟩
  unfold Img.at
  rw [if_pos hb]
  exact getD_map_zero img.px (conv img.kind) _ (conv_zero img.kind)

theorem view_w (img : Img8) : img.view.w = img.w := rfl
theorem view_h (img : Img8) : img.view.h = img.h := rfl

theorem conv_alpha (k : Kind) (p : P8) : (conv k p).a = p.a * 257 := by
  cases k <;> rfl

/-- A byte `c` premultiplied by the 16-bit alpha `a·257`, stored as its high byte `p`, widened (`p·257`) and divided
    by the alpha again, is `p·255 / a` with `p = ⌊c·a·257 / 65280⌋`, so `c·a - 254 ≤ p·255 < c·a + a`: the channel
    does not grow, and the two truncations lose less than `255/a + 1`. -/
theorem premul_byte_back (c a : Nat) (hc : c < 256) (ha : a < 256) (ha0 : 0 < a) :
    u8 (u32 (u8 (c * (a * 257) / 255 / 256) * 257 * 255) / (a * 257)) ≤ c ∧
    (c - u8 (u32 (u8 (c * (a * 257) / 255 / 256) * 257 * 255) / (a * 257))) * a ≤ 255 + a := by
  unfold u8 u32
  have hb : c * a ≤ 255 * a := Nat.mul_le_mul_right _ (by omega)
  rw [← Nat.mul_assoc c a]
  generalize hp : c * a * 257 / 255 / 256 = p
  have hp' : p < 256 ∧ p * 255 < c * a + a ∧ c * a ≤ p * 255 + 254 := by omega
  clear hp
  have e : p * 257 * 255 % 4294967296 / (a * 257) = p * 255 / a := by
    rw [Nat.mod_eq_of_lt (by omega), Nat.mul_right_comm, Nat.mul_div_mul_right _ _ (by decide)]
  have h2 := Nat.lt_div_mul_add (a := p * 255) ha0
  have hle : p * 255 / a < c + 1 := (Nat.div_lt_iff_lt_mul ha0).mpr (by rw [Nat.add_mul]; omega)
  rw [Nat.mod_eq_of_lt hp'.1, e, Nat.mod_eq_of_lt (by omega), Nat.sub_mul]
  omega

theorem scaledBack_eq (c a : Nat) (ha : a < 256) (ha0 : 0 < a) :
    scaledBack c a = (u8 (u32 (u8 (c * (a * 257) / 255 / 256) * 257 * 255) / (a * 257)), a) := by
  have hA : u8 (a * 257 / 256) = a := byte_rt2 a ha
  unfold scaledBack
  simp only [load, storeSrc, conv, rgbaRGBA, C16.ofQuad, hA]
  rw [VaxisModel.Lemmas.ImageFit.toRGB_of_ne _ (show a * 257 ≠ 0 by omega)]
  simp only [hA]

end VaxisModel.Lemmas.Scaler
