/-
The resize pipeline for a source of any concrete type (`Scaler.ImgG`, `resizeImgG`, `scaleG`): what `resizeImage`
returns is the source itself or its nearest-neighbour scaling, so pixel `(x, y)` of the result is source pixel
`(nnIndex x, nnIndex y)`, as it is or through the 8-bit store (`resizeImgG_at`); with the cell loop of the block
renderers this says what every cell of every renderer shows (`resized_cells`).  A stored NRGBA / RGBA image seen
through `RGBA()` is one such source, and the fast-path pipeline `resizeImg` is the generic one on it.
-/
import VaxisModel.Lemmas.Scaler
import VaxisModel.Lemmas.ExceptM

namespace VaxisModel.Lemmas.ScalerGeneric
open VaxisModel.Model.Blocks VaxisModel.Model.Scaler VaxisModel.Model.ImageFit VaxisModel.Spec.Images
open VaxisModel.Gen.ImageConsts VaxisModel.Lemmas.Scaler VaxisModel.Lemmas.ImageTerm
open VaxisModel.Lemmas.ImageFit (blockHeight_eq byte_rt2 toRGB_alpha)

def ImgG.asImg (src : ImgG) : Img := ⟨src.w, src.h, src.px⟩

theorem asImg_at (src : ImgG) (x y : Nat) (hx : x < src.w) (hy : y < src.h) : (ImgG.asImg src).at x y = src.pix x y := by
  have hb : x < (ImgG.asImg src).w ∧ y < (ImgG.asImg src).h := ⟨hx, hy⟩
  unfold Img.at
  rw [if_pos hb]
  rfl

theorem scaleG_pix (over : Bool) (src : ImgG) (dw dh x y : Nat) (hx : x < dw) (hy : y < dh) :
    (scaleG over src dw dh).pix x y = scaledPxGeneric over src.pix src.w src.h dw dh x y := by
  have hi : y * dw + x < dh * dw := by
    calc y * dw + x < y * dw + dw := by omega
      _ = (y + 1) * dw := by rw [Nat.add_mul, Nat.one_mul]
      _ ≤ dh * dw := Nat.mul_le_mul_right _ hy
  have hm : (y * dw + x) % dw = x := by
    rw [Nat.add_comm, Nat.add_mul_mod_self_right, Nat.mod_eq_of_lt hx]
  have hq : (y * dw + x) / dw = y := VaxisModel.Lemmas.ImageTerm.div_of_index dw x y hx
  simp [Img8.pix, scaleG, Array.getD, hi, hm, hq]

/-- What the renderers read from the scaled image: the stored bytes (either operator stores the same on the fresh
    destination) widened again by `color.RGBA.RGBA()`. -/
theorem scaleG_view_at (over : Bool) (src : ImgG) (dw dh x y : Nat) (hx : x < dw) (hy : y < dh) :
    (scaleG over src dw dh).view.at x y = conv .rgba (storeSrc (src.pix (nnIndex x src.w dw) (nnIndex y src.h dh))) := by
  have h1 : x < (scaleG over src dw dh).w := hx
  have h2 : y < (scaleG over src dw dh).h := hy
  rw [view_at _ x y h1 h2, scaleG_pix over src dw dh x y hx hy]
  have hk : (scaleG over src dw dh).kind = .rgba := rfl
  rw [hk]
  unfold scaledPxGeneric
  cases over
  · rfl
  · simp only [if_true, storeOver_zero]

theorem resizeImgG_cases (cfg : Cfg) (F : FloatOps) (src : ImgG) (o : Bool) (w h cellW cellH : Nat) (v : Img)
    (hr : resizeImgGWith cfg F src o w h cellW cellH = .ok v) :
    resizeDimsWith cfg F src.w src.h w h cellW cellH = .ok (v.w, v.h) ∧
    (v = ImgG.asImg src ∨ v = (scaleG (!o) src v.w v.h).view) := by
  unfold resizeImgGWith at hr
  unfold resizeDimsWith
  cases h1 : cells cfg.colsUp src.w cellW with
  | error e => rw [h1] at hr; cases hr
  | ok columns =>
    cases h2 : cells cfg.linesUp src.h cellH with
    | error e => rw [h1, h2] at hr; cases hr
    | ok lines =>
      rw [h1, h2] at hr
      simp only [bind, Except.bind, pure, Except.pure] at hr ⊢
      by_cases hf : evalFit cfg.fit columns w lines h = true
      · rw [if_pos hf] at hr ⊢
        cases hr
        exact ⟨rfl, Or.inl rfl⟩
      · rw [if_neg hf] at hr ⊢
        cases hr
        exact ⟨rfl, Or.inr rfl⟩

/-- How a resized image shows a source pixel, the same way for the whole image: as it is (the image fitted), or through the
    scaler's 8-bit store and back (`color.RGBA.RGBA()` of the stored bytes). -/
def Seen (seen : C16 → C16) : Prop := seen = id ∨ seen = fun c => conv .rgba (storeSrc c)

theorem resizeImgG_at (F : FloatOps) (src : ImgG) (o : Bool) (w h cellW cellH : Nat) (hw : 0 < src.w) (hh : 0 < src.h)
    (v : Img) (hr : resizeImgG F src o w h cellW cellH = .ok v) :
    resizeDims F src.w src.h w h cellW cellH = .ok (v.w, v.h) ∧
    ∃ seen : C16 → C16, Seen seen ∧
      ∀ x y, x < v.w → y < v.h → v.at x y = seen (src.pix (nnIndex x src.w v.w) (nnIndex y src.h v.h)) := by
  obtain ⟨hd, he | he⟩ := resizeImgG_cases genCfg F src o w h _ _ v hr
  · refine ⟨hd, id, Or.inl rfl, fun x y hx hy => ?_⟩
    have hvw : v.w = src.w := by rw [he]; rfl
    have hvh : v.h = src.h := by rw [he]; rfl
    rw [hvw, hvh, nnIndex_same x src.w hw, nnIndex_same y src.h hh, he]
    exact asImg_at src x y (hvw ▸ hx) (hvh ▸ hy)
  · refine ⟨hd, fun c => conv .rgba (storeSrc c), Or.inr rfl, fun x y hx hy => ?_⟩
    have := scaleG_view_at (!o) src v.w v.h x y hx hy
    rw [← he] at this
    exact this

/-- Cell `e` of the list a block renderer makes of the resized image `v`: inside the cell grid, on a row the image has, and
    `cell` of the two source pixels under it as they are seen — `px x y` = what is seen of source pixel `(nnIndex x, nnIndex y)` —,
    the lower one replaced by `low` of the upper where the image has no row `2y+1`. -/
structure CellOf (px : Nat → Nat → C16) (v : Img) (cell : C16 → C16 → BCell) (low : C16 → C16) (e : Nat × Nat × BCell) : Prop where
  col : e.1 < v.w
  row : e.2.1 < ceilDiv v.h 2
  top : 2 * e.2.1 < v.h
  eq : e.2.2 = cell (px e.1 (2 * e.2.1)) (if 2 * e.2.1 + 1 < v.h then px e.1 (2 * e.2.1 + 1) else low (px e.1 (2 * e.2.1)))

theorem resized_cells (F : FloatOps) (src : ImgG) (o : Bool) (w h cellW cellH : Nat) (hw : 0 < src.w) (hh : 0 < src.h)
    (v : Img) (hr : resizeImgG F src o w h cellW cellH = .ok v)
    (mode : Bottom) (cell : C16 → C16 → BCell) (low : C16 → C16)
    (hlow : ∀ x y, ¬ y + 1 < v.h → lowerPx mode v x y = low (v.at x y))
    (hin : ∀ x y, y + 1 < v.h → lowerPx mode v x y = v.at x (y + 1)) :
    resizeDims F src.w src.h w h cellW cellH = .ok (v.w, v.h) ∧
    (blockCellsWith mode cell v).length = ceilDiv v.h 2 * v.w ∧
    ∃ seen : C16 → C16, Seen seen ∧
      ∀ e ∈ blockCellsWith mode cell v,
        CellOf (fun x y => seen (src.pix (nnIndex x src.w v.w) (nnIndex y src.h v.h))) v cell low e := by
  obtain ⟨hd, seen, hs, hat⟩ := resizeImgG_at F src o w h _ _ hw hh v hr
  refine ⟨hd, blockHeight_eq v.h ▸ blockCellsWith_length mode cell v, seen, hs, fun e he => ?_⟩
  obtain ⟨h1, h2, h3, _⟩ := blockCellsWith_mem mode cell v e he
  have hrow := (blockHeight_rows v.h e.2.1 h2).1
  refine ⟨h1, blockHeight_eq v.h ▸ h2, hrow, ?_⟩
  rw [h3, hat _ _ h1 hrow]
  split
  · next hb => rw [hin _ _ hb, hat _ _ h1 hb]
  · next hb => rw [hlow _ _ hb, hat _ _ h1 hrow]

/-- Half blocks: the lower half is transparent where the image has no row. -/
theorem half_cells (F : FloatOps) (src : ImgG) (o : Bool) (w h : Nat) (hw : 0 < src.w) (hh : 0 < src.h)
    (v : Img) (hr : resizeImgG F src o w h halfBlockGeom.1 halfBlockGeom.2 = .ok v) :
    resizeDims F src.w src.h w h halfBlockGeom.1 halfBlockGeom.2 = .ok (v.w, v.h) ∧
    (halfCells v).length = ceilDiv v.h 2 * v.w ∧
    ∃ seen : C16 → C16, Seen seen ∧
      ∀ e ∈ halfCells v,
        CellOf (fun x y => seen (src.pix (nnIndex x src.w v.w) (nnIndex y src.h v.h))) v halfCell (fun _ => ⟨0, 0, 0, 0⟩) e :=
  resized_cells F src o w h _ _ hw hh v hr .read halfCell (fun _ => ⟨0, 0, 0, 0⟩)
    (fun _ _ hb => if_neg fun hh => hb hh.2) (fun _ _ _ => rfl)

/-- Full blocks: the upper pixel again. -/
theorem full_cells (F : FloatOps) (src : ImgG) (o : Bool) (w h : Nat) (hw : 0 < src.w) (hh : 0 < src.h)
    (v : Img) (hr : resizeImgG F src o w h fullBlockGeom.1 fullBlockGeom.2 = .ok v) :
    resizeDims F src.w src.h w h fullBlockGeom.1 fullBlockGeom.2 = .ok (v.w, v.h) ∧
    (fullCells v).length = ceilDiv v.h 2 * v.w ∧
    ∃ seen : C16 → C16, Seen seen ∧
      ∀ e ∈ fullCells v,
        CellOf (fun x y => seen (src.pix (nnIndex x src.w v.w) (nnIndex y src.h v.h))) v fullCell (fun c => c) e :=
  resized_cells F src o w h _ _ hw hh v hr fullBlockBottom fullCell id
    (fun _ _ hb => by rw [full_block_bottom_shape]; exact if_neg hb)
    (fun _ _ hb => by rw [full_block_bottom_shape]; exact if_pos hb)

/-- **The type-specific fast paths read what `At(x, y).RGBA()` returns**: the 16-bit premultiplied pixel the
    `scale_RGBA_NRGBA_*` / `scale_RGBA_RGBA_*` paths compute from the `Pix` bytes (`load`) is exactly the colour
    type's own conversion (`conv` = `color.NRGBA.RGBA()` / `color.RGBA.RGBA()`): they are the generic path
    `scale_RGBA_Image_*` specialised, not a different computation. -/
theorem fast_path_reads_rgba (k : Kind) (p : P8) : load k p = conv k p := by
  cases k
  · simp only [load, conv, C16.ofQuad, nrgbaRGBA, C16.mk.injEq]
    refine ⟨?_, ?_, ?_, trivial⟩ <;> rw [Nat.mul_comm p.a 257, Nat.mul_assoc]
  · rfl

theorem generic_w (src : Img8) : src.generic.w = src.w := rfl
theorem generic_h (src : Img8) : src.generic.h = src.h := rfl

theorem generic_pix (src : Img8) (x y : Nat) : src.generic.pix x y = conv src.kind (src.pix x y) :=
  getD_map_zero src.px (conv src.kind) _ (conv_zero src.kind)

theorem scaleG_generic (over : Bool) (src : Img8) (dw dh : Nat) :
    scaleG over src.generic dw dh = scale over src dw dh := by
  unfold scaleG scale scaledPxGeneric scaledPx
  simp only [generic_pix, fast_path_reads_rgba]
  rfl

theorem scale_pix (over : Bool) (src : Img8) (dw dh x y : Nat) (hx : x < dw) (hy : y < dh) :
    (scale over src dw dh).pix x y = scaledPx over src dw dh x y := by
  rw [← scaleG_generic, scaleG_pix over _ dw dh x y hx hy]
  unfold scaledPxGeneric scaledPx
  rw [generic_pix, fast_path_reads_rgba]
  rfl

theorem resizeImgG_generic (F : FloatOps) (src : Img8) (w h cellW cellH : Nat) :
    resizeImgG F src.generic src.opaque w h cellW cellH = (resizeImg F src w h cellW cellH).map Img8.view := by
  unfold resizeImgG resizeImg resizeImgGWith resizeImgWith
  rw [generic_w, generic_h]
  cases h1 : cells genCfg.colsUp src.w cellW with
  | error e => rfl
  | ok columns =>
    cases h2 : cells genCfg.linesUp src.h cellH with
    | error e => rfl
    | ok lines =>
      simp only [bind, Except.bind, pure, Except.pure, Except.map]
      by_cases hf : evalFit genCfg.fit columns w lines h = true
      · simp only [hf, if_true]; rfl
      · simp only [hf, scaleG_generic]
        rfl

section seen
variable {seen : C16 → C16} (hs : Seen seen)
include hs

theorem seen_alpha (k : Kind) (p : P8) (ha : p.a < 256) : (toRGB (seen (conv k p))).a = p.a := by
  rcases hs with rfl | rfl
  · exact toRGB_alpha _ _ (conv_alpha k p) ha
  · refine toRGB_alpha _ _ ?_ ha
    show (conv k p).a / 256 % 256 * 257 = p.a * 257
    rw [conv_alpha, byte_rt2 p.a ha]

theorem seen_opaque (k : Kind) (p : P8) (ha : p.a = 255) (hr : p.r < 256) (hg : p.g < 256) (hb : p.b < 256) :
    seen (conv k p) = .ofQuad (nrgbaRGBA p.r p.g p.b 255) := by
  rcases hs with rfl | rfl
  · exact conv_opaque k p ha
  · show conv .rgba (storeSrc (conv k p)) = _
    rw [← fast_path_reads_rgba k p, roundtrip_opaque k p ha hr hg hb, conv_opaque .rgba p ha]

end seen

theorem view_opaque (img : Img8) (x y : Nat) (hx : x < img.w) (hy : y < img.h) (ha : (img.pix x y).a = 255) :
    img.view.at x y = .ofQuad (nrgbaRGBA (img.pix x y).r (img.pix x y).g (img.pix x y).b 255) := by
  rw [view_at img x y hx hy, conv_opaque _ _ ha]

theorem scaled_channels (p : P8) :
    let q := toRGB (conv .rgba (storeSrc (load .nrgba p)))
    q.r = (scaledBack p.r p.a).1 ∧ q.g = (scaledBack p.g p.a).1 ∧ q.b = (scaledBack p.b p.a).1 ∧
    q.a = (scaledBack p.r p.a).2 := by
  simp only [scaledBack, storeSrc, load, conv, C16.ofQuad, rgbaRGBA, toRGB]
  by_cases h0 : u8 (p.a * 257 / 256) * 257 = 0
  · simp only [h0, if_true, and_self]
  · simp only [h0, if_false, and_self]

/-- What is computed from the view of a resized stored image (`halfResize`, `fullResize`) is computed from the generic
    pipeline on the image seen through `RGBA()`. -/
theorem resize_generic {α : Type} (f : Img → α) {F : FloatOps} {src : Img8} {w h cellW cellH : Nat} {cs : α}
    (hr : (resizeImg F src w h cellW cellH >>= fun img => pure (f img.view)) = .ok cs) :
    ∃ v, resizeImgG F src.generic src.opaque w h cellW cellH = .ok v ∧ cs = f v := by
  obtain ⟨img, hi, hc⟩ := Except.bind_eq_ok hr
  exact ⟨img.view, by rw [resizeImgG_generic, hi]; rfl, (Except.ok.inj hc).symm⟩

theorem half_cells_stored {F : FloatOps} {src : Img8} {w h : Nat} (hw : 0 < src.w) (hh : 0 < src.h)
    {cs : List (Nat × Nat × BCell)} (hr : halfResize F src w h = .ok cs) :
    ∃ v : Img, resizeDims F src.w src.h w h halfBlockGeom.1 halfBlockGeom.2 = .ok (v.w, v.h) ∧
      cs.length = ceilDiv v.h 2 * v.w ∧
      ∃ seen : C16 → C16, Seen seen ∧ ∀ e ∈ cs,
        CellOf (fun x y => seen (conv src.kind (src.pix (nnIndex x src.w v.w) (nnIndex y src.h v.h)))) v halfCell
          (fun _ => ⟨0, 0, 0, 0⟩) e := by
  obtain ⟨v, hv, rfl⟩ := resize_generic halfCells hr
  obtain ⟨hd, hlen, seen, hs, hc⟩ := half_cells F src.generic _ w h hw hh v hv
  exact ⟨v, hd, hlen, seen, hs, fun e he => by simpa only [generic_pix, generic_w, generic_h] using hc e he⟩

theorem full_cells_stored {F : FloatOps} {src : Img8} {w h : Nat} (hw : 0 < src.w) (hh : 0 < src.h)
    {cs : List (Nat × Nat × BCell)} (hr : fullResize F src w h = .ok cs) :
    ∃ v : Img, resizeDims F src.w src.h w h fullBlockGeom.1 fullBlockGeom.2 = .ok (v.w, v.h) ∧
      cs.length = ceilDiv v.h 2 * v.w ∧
      ∃ seen : C16 → C16, Seen seen ∧ ∀ e ∈ cs,
        CellOf (fun x y => seen (conv src.kind (src.pix (nnIndex x src.w v.w) (nnIndex y src.h v.h)))) v fullCell (fun c => c) e := by
  obtain ⟨v, hv, rfl⟩ := resize_generic fullCells hr
  obtain ⟨hd, hlen, seen, hs, hc⟩ := full_cells F src.generic _ w h hw hh v hv
  exact ⟨v, hd, hlen, seen, hs, fun e he => by simpa only [generic_pix, generic_w, generic_h] using hc e he⟩

end VaxisModel.Lemmas.ScalerGeneric
