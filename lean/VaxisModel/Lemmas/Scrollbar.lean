import VaxisModel.Model.Scrollbar

namespace VaxisModel.Lemmas.Scrollbar
open VaxisModel.Model.Scrollbar

theorem bar_in_track (total view top h : Int)
    (hv : 1 ≤ view) (hvt : view < total) (ht0 : 0 ≤ top) (ht : top ≤ total - view) (hh : 1 ≤ h) :
    ∃ b, bar total view top h = some b ∧ 0 ≤ b.top ∧ 1 ≤ b.len ∧ b.top + b.len ≤ h := by
  have htot : 0 < total := by omega
  have hne : total ≠ 0 := by omega
  have e1 : Int.tdiv (view * h) total = view * h / total :=
    Int.tdiv_eq_ediv_of_nonneg (Int.mul_nonneg (by omega) (by omega))
  have e2 : Int.tdiv (top * h) total = top * h / total :=
    Int.tdiv_eq_ediv_of_nonneg (Int.mul_nonneg ht0 (by omega))
  have x0 : 0 ≤ view * h / total := Int.ediv_nonneg (Int.mul_nonneg (by omega) (by omega)) (by omega)
  have y0 : 0 ≤ top * h / total := Int.ediv_nonneg (Int.mul_nonneg ht0 (by omega)) (by omega)
  have xm : view * h / total * total ≤ view * h := Int.ediv_mul_le _ hne
  have ym : top * h / total * total ≤ top * h := Int.ediv_mul_le _ hne
  -- (x + y) * total ≤ (view + top) * h ≤ total * h
  have hsum : (view + top) * h ≤ total * h := Int.mul_le_mul_of_nonneg_right (by omega) (by omega)
  have hxy : view * h / total + top * h / total ≤ h := by
    apply Int.le_of_mul_le_mul_right (a := total) _ htot
    have : (view * h / total + top * h / total) * total
        = view * h / total * total + top * h / total * total := Int.add_mul _ _ _
    have e : (view + top) * h = view * h + top * h := Int.add_mul _ _ _
    have e' : h * total = total * h := Int.mul_comm _ _
    omega
  -- y < h because top ≤ total − 1
  have hy : top * h / total < h := by
    apply Int.lt_of_mul_lt_mul_right (a := total) _ (by omega)
    have h1 : top * h ≤ (total - 1) * h := Int.mul_le_mul_of_nonneg_right (by omega) (by omega)
    have e : (total - 1) * h = total * h - h := by rw [Int.sub_mul]; omega
    have e' : h * total = total * h := Int.mul_comm _ _
    omega
  unfold bar
  have c1 : ¬ total < 1 := by omega
  have c2 : ¬ view ≥ total := by omega
  simp only [c1, c2, if_false, e1, e2]
  by_cases hb : view * h / total < 1
  · exact ⟨_, rfl, y0, by simp [hb], by simp only [hb, if_true]; omega⟩
  · exact ⟨_, rfl, y0, by simp only [hb, if_false]; omega, by simp only [hb, if_false]; omega⟩

end VaxisModel.Lemmas.Scrollbar
