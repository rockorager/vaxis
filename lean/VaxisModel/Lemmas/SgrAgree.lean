/-
C18: do the three SGR consumers agree on EVERY parameter list?

* `parseSGR` and the embedded terminal's `sgr` are the same function: `intSgr` depends on its configuration only through
  `labels.contains`, `accepts` (for 4 / 38 / 48 / 58) and `ulSubs.contains`, and the two extracted configurations are the
  same as sets (`cfgSameB`, robust against reordered `case` clauses).
* `NewStyledString` does NOT agree with them on every list (it never `return`s on a malformed form, compares the text of the
  look-ahead parameters, has no six-sub-parameter form and reads `4:k:…`).  `agreeStep` / `agreeLoop` is a decidable class of
  lists on which it does, for any pair of configurations: at every position both consumers take the same step.
-/
import VaxisModel.Lemmas.Sgr
import VaxisModel.Model.SgrAgree

namespace VaxisModel.Lemmas.SgrAgree
open VaxisModel VaxisModel.Gen VaxisModel.Model.Sgr VaxisModel.Lemmas.Sgr
open VaxisModel.Model.Color (Color indexColor rgbColor)

structure CfgSame (c1 c2 : Cfg) : Prop where
  labels : ∀ p, c1.labels.contains p = c2.labels.contains p
  accepts : ∀ p, p = 4 ∨ p = 38 ∨ p = 48 ∨ p = 58 → ∀ n, c1.accepts p n = c2.accepts p n
  ulSubs : ∀ k, c1.ulSubs.contains k = c2.ulSubs.contains k
  nums : ∀ p, p = 38 ∨ p = 48 ∨ p = 58 → c1.nums p = c2.nums p

theorem extColour_same (c1 c2 : Cfg) (h : CfgSame c1 c2) (p : Nat) (hp : p = 38 ∨ p = 48 ∨ p = 58) (cur : Param) (rest : List Param) :
    extColour c1 p cur rest = extColour c2 p cur rest := by
  unfold extColour
  simp only [h.accepts p (Or.inr hp), h.nums p hp]

theorem ulCase_same (c1 c2 : Cfg) (h : CfgSame c1 c2) (cur : Param) (s : Style) : ulCase c1 cur s = ulCase c2 cur s := by
  unfold ulCase
  simp only [h.accepts 4 (Or.inl rfl), h.ulSubs]

theorem intOne_same (c1 c2 : Cfg) (h : CfgSame c1 c2) (cur : Param) (rest : List Param) (s : Style) :
    intOne c1 cur rest s = intOne c2 cur rest s := by
  unfold intOne
  simp only [h.labels, extColour_same c1 c2 h 38 (Or.inl rfl), extColour_same c1 c2 h 48 (Or.inr (Or.inl rfl)),
    extColour_same c1 c2 h 58 (Or.inr (Or.inr rfl)), ulCase_same c1 c2 h]

theorem intLoop_same (c1 c2 : Cfg) (h : CfgSame c1 c2) : ∀ (ps : List Param) (k : Nat) (s : Style),
    intLoop c1 k ps s = intLoop c2 k ps s
  | [], k, s => by cases k <;> rfl
  | cur :: rest, k + 1, s => by simp only [intLoop]; exact intLoop_same c1 c2 h rest k s
  | cur :: rest, 0, s => by
    simp only [intLoop, intOne_same c1 c2 h]
    cases intOne c2 cur rest s with
    | error e => rfl
    | ok r =>
      obtain ⟨s', nx⟩ := r
      cases nx with
      | stop => rfl
      | cont k => exact intLoop_same c1 c2 h rest k s'

theorem intSgr_same (c1 c2 : Cfg) (h : CfgSame c1 c2) (s : Style) (q : Seq) : intSgr c1 s q = intSgr c2 s q :=
  intLoop_same c1 c2 h _ 0 s

def sameSet (l1 l2 : List Nat) : Bool := l1.all l2.contains && l2.all l1.contains

theorem sameSet_contains (l1 l2 : List Nat) (h : sameSet l1 l2 = true) (x : Nat) : l1.contains x = l2.contains x := by
  unfold sameSet at h
  rw [Bool.and_eq_true, List.all_eq_true, List.all_eq_true] at h
  rw [Bool.eq_iff_iff]
  constructor
  · intro hx
    exact h.1 x (List.contains_iff_mem.mp hx)
  · intro hx
    exact h.2 x (List.contains_iff_mem.mp hx)

def rowSame (r1 r2 : Option (Nat × List Nat × Bool)) : Bool :=
  match r1, r2 with
  | none, none => true
  | some (_, l1, o1), some (_, l2, o2) => sameSet l1 l2 && o1 == o2 && (!o1 || l1.getLast? == l2.getLast?)
  | _, _ => false

def cfgSameB (c1 c2 : Cfg) : Bool :=
  sameSet c1.labels c2.labels && sameSet c1.ulSubs c2.ulSubs &&
  ([4, 38, 48, 58].all fun p => rowSame (c1.arities.find? (fun a => a.1 == p)) (c2.arities.find? (fun a => a.1 == p))) &&
  [38, 48, 58].all fun p => decide (c1.nums p = c2.nums p)

/-- The two `switch len(…)` tables are the same: same first parameters, and per first parameter the same set of accepted
    lengths (order of the `case` clauses irrelevant), same "or more" flag.  `true` means: for every first parameter `p` and
    every length `n` the two consumers agree on whether `p` with `n` sub-parameters has a case (`Cfg.accepts p n`), also for a
    `p` neither table lists; `cfgSameB` asks this of the rows 4 / 38 / 48 / 58 only, which is all `intSgr` reads. -/
def aritiesSameB (a1 a2 : List (Nat × List Nat × Bool)) : Bool :=
  sameSet (a1.map (·.1)) (a2.map (·.1)) &&
  (a1.map (·.1)).all fun p => rowSame (a1.find? (fun a => a.1 == p)) (a2.find? (fun a => a.1 == p))

theorem accepts_of_rowSame (c1 c2 : Cfg) (p : Nat)
    (h : rowSame (c1.arities.find? (fun a => a.1 == p)) (c2.arities.find? (fun a => a.1 == p)) = true) (n : Nat) :
    c1.accepts p n = c2.accepts p n := by
  unfold Cfg.accepts
  revert h
  cases c1.arities.find? (fun a => a.1 == p) with
  | none =>
    cases c2.arities.find? (fun a => a.1 == p) with
    | none => intro _; rfl
    | some r => intro h; simp [rowSame] at h
  | some r1 =>
    cases c2.arities.find? (fun a => a.1 == p) with
    | none => intro h; simp [rowSame] at h
    | some r2 =>
      obtain ⟨k1, l1, o1⟩ := r1
      obtain ⟨k2, l2, o2⟩ := r2
      intro h
      simp only [rowSame, Bool.and_eq_true, beq_iff_eq, Bool.or_eq_true, Bool.not_eq_true'] at h
      obtain ⟨⟨hs, ho⟩, hl⟩ := h
      subst ho
      simp only [sameSet_contains l1 l2 hs n]
      cases o1 with
      | false => simp
      | true =>
        rcases hl with hl | hl
        · cases hl
        · rw [hl]

theorem cfgSame_of_B (c1 c2 : Cfg) (h : cfgSameB c1 c2 = true) : CfgSame c1 c2 := by
  unfold cfgSameB at h
  simp only [Bool.and_eq_true, List.all_eq_true] at h
  obtain ⟨⟨⟨hl, hu⟩, hr⟩, hnum⟩ := h
  refine ⟨sameSet_contains _ _ hl, ?_, sameSet_contains _ _ hu, ?_⟩
  · intro p hp n
    apply accepts_of_rowSame
    apply hr
    rcases hp with rfl | rfl | rfl | rfl <;> simp
  · intro p hp
    have := hnum p (by rcases hp with rfl | rfl | rfl <;> simp)
    simpa using this

theorem legacyOK_some (rest : Seq) (k : Nat) (h : legacyOK rest = some k) :
    (∃ v tl, rest = [5] :: [v] :: tl ∧ k = 2) ∨ (∃ r g b tl, rest = [2] :: [r] :: [g] :: [b] :: tl ∧ k = 4) := by
  unfold legacyOK at h
  split at h
  · cases h; exact Or.inl ⟨_, _, rfl, rfl⟩
  · cases h; exact Or.inr ⟨_, _, _, _, rfl, rfl⟩
  · cases h

abbrev tk (q : Seq) : List (List SubTok) := q.map (·.map tokN)

theorem ext_agree_1 (ci cs : Cfg) (p : Nat) (rest : Seq) (k : Nat) (hn : ci.nums p = {}) (h : extStepCore ci cs p [] rest = some k) :
    ∃ oc, ssColour cs p [tokN p] (tk rest) = .ok (oc, k) ∧
      (extColour ci p [p] rest = .ok (oc, .cont k) ∨ (extColour ci p [p] rest = .ok (oc, .stop) ∧ rest = [])) := by
  simp only [extStepCore, List.length_nil, Nat.zero_add, if_true] at h
  cases hai : ci.accepts p 1 <;> cases has : cs.accepts p 1 <;> simp only [hai, has, Bool.and_self, Bool.and_false, Bool.and_true,
    Bool.false_eq_true, if_false, if_true, Bool.not_false, Bool.not_true] at h
  · cases h
    exact ⟨none, by simp [ssColour, has], Or.inl (by simp [extColour, hai])⟩
  · cases h
  · cases h
  · cases hl : legacyOK rest with
    | some k' =>
      rw [hl] at h
      cases h
      rcases legacyOK_some rest k hl with ⟨v, tl, rfl, rfl⟩ | ⟨r, g, b, tl, rfl, rfl⟩
      · exact ⟨some (indexColor (u8 v)), by simp [ssColour, has, ssLegacy, rawIs, rawAtoi, tokN, tk, u8i_nat],
          Or.inl (by simp [extColour, hai, idx2, idx, hn])⟩
      · exact ⟨some (rgbColor (u8 r) (u8 g) (u8 b)), by simp [ssColour, has, ssLegacy, rawIs, rawAtoi, tokN, tk, u8i_nat],
          Or.inl (by
            simp [extColour, hai, idx2, idx, hn]
            rw [if_neg (by omega), if_neg (by omega)])⟩
    | none =>
      rw [hl] at h
      simp only at h
      split at h
      · cases h
        rename_i he
        have : rest = [] := by cases rest <;> simp_all
        subst this
        exact ⟨none, by simp [ssColour, has, ssLegacy, tk], Or.inr ⟨by simp [extColour, hai, hn], rfl⟩⟩
      · cases h

theorem extColour_other (cfg : Cfg) (p : Nat) (cur : Param) (rest : Seq)
    (h1 : cur.length ≠ 1) (h3 : cur.length ≠ 3) (h5 : cur.length ≠ 5) (h6 : cur.length ≠ 6) :
    extColour cfg p cur rest = .ok (none, .cont 0) := by
  unfold extColour
  simp only [if_neg h1, if_neg h3, if_neg h5, if_neg h6]
  split <;> rfl

theorem ssColour_other (cfg : Cfg) (p : Nat) (subs : List SubTok) (rest : List (List SubTok))
    (h1 : subs.length ≠ 1) (h3 : subs.length ≠ 3) (h5 : subs.length ≠ 5) :
    ssColour cfg p subs rest = .ok (none, 0) := by
  unfold ssColour
  simp only [if_neg h1, if_neg h3, if_neg h5]
  split <;> rfl

/-- The forms `38:5:v` and `38:2:r:g:b`: the same arm of all three functions but for the arity, the selector and the colour. -/
theorem ext_agree_35 (ci cs : Cfg) (p : Nat) (subs : List Nat) (rest : Seq) (k : Nat) (hn : ci.nums p = {})
    (hs : (∃ a b, subs = [a, b]) ∨ (∃ a b c d, subs = [a, b, c, d])) (h : extStepCore ci cs p subs rest = some k) :
    ∃ oc, ssColour cs p ((p :: subs).map tokN) (tk rest) = .ok (oc, k) ∧ extColour ci p (p :: subs) rest = .ok (oc, .cont k) := by
  rcases hs with ⟨a, b, rfl⟩ | ⟨a, b, c, d, rfl⟩ <;>
  · simp only [extStepCore, List.length_cons, List.length_nil, Nat.zero_add, Nat.reduceAdd, Nat.reduceEqDiff, if_false, if_true,
      List.head?_cons, Option.some.injEq] at h
    split at h
    · -- both accept the arity: the selector decides
      rename_i hacc
      simp only [Bool.and_eq_true] at hacc
      split at h
      · cases h
        rename_i ha
        subst ha
        first
        | exact ⟨some (rgbColor (u8 b) (u8 c) (u8 d)), by simp [ssColour, hacc.2, idx, tokN, u8i_nat],
            by simp [extColour, hacc.1, idx, hn]⟩
        | exact ⟨some (indexColor (u8 b)), by simp [ssColour, hacc.2, idx, tokN, u8i_nat], by simp [extColour, hacc.1, idx, hn]⟩
      · cases h
    · split at h
      · -- neither accepts it: no colour, nothing passed over
        cases h
        rename_i hacc
        simp only [Bool.and_eq_true, Bool.not_eq_true'] at hacc
        exact ⟨none, by simp [ssColour, hacc.2], by simp [extColour, hacc.1]⟩
      · cases h

theorem ext_agree_6 (ci cs : Cfg) (p a b c d e : Nat) (rest : Seq) (k : Nat) (h : extStepCore ci cs p [a, b, c, d, e] rest = some k) :
    ∃ oc, ssColour cs p [tokN p, tokN a, tokN b, tokN c, tokN d, tokN e] (tk rest) = .ok (oc, k) ∧
      extColour ci p [p, a, b, c, d, e] rest = .ok (oc, .cont k) := by
  simp only [extStepCore, List.length_cons, List.length_nil, Nat.zero_add, Nat.reduceAdd, Nat.reduceEqDiff, if_false, if_true] at h
  split at h
  · cases h
    rename_i hai
    refine ⟨none, ssColour_other _ _ _ _ (by simp) (by simp) (by simp), ?_⟩
    simp only [Bool.not_eq_true'] at hai
    simp [extColour, hai]
  · cases h

theorem extStep_some (ci cs : Cfg) (p : Nat) (subs : List Nat) (rest : Seq) (k : Nat) (h : extStep ci cs p subs rest = some k) :
    ci.nums p = {} ∧ extStepCore ci cs p subs rest = some k := by
  unfold extStep at h
  split at h
  · cases h
  · rename_i hne
    refine ⟨?_, h⟩
    simpa using hne

theorem ext_agree (ci cs : Cfg) (p : Nat) (subs : List Nat) (rest : Seq) (k : Nat) (h : extStep ci cs p subs rest = some k) :
    ∃ oc, ssColour cs p ((p :: subs).map tokN) (tk rest) = .ok (oc, k) ∧
      (extColour ci p (p :: subs) rest = .ok (oc, .cont k) ∨ (extColour ci p (p :: subs) rest = .ok (oc, .stop) ∧ rest = [])) := by
  obtain ⟨hn, h⟩ := extStep_some ci cs p subs rest k h
  match subs, h with
  | [], h => exact ext_agree_1 ci cs p rest k hn h
  | [a, b], h =>
    obtain ⟨oc, h1, h2⟩ := ext_agree_35 ci cs p _ rest k hn (.inl ⟨a, b, rfl⟩) h
    exact ⟨oc, h1, Or.inl h2⟩
  | [a, b, c, d], h =>
    obtain ⟨oc, h1, h2⟩ := ext_agree_35 ci cs p _ rest k hn (.inr ⟨a, b, c, d, rfl⟩) h
    exact ⟨oc, h1, Or.inl h2⟩
  | [a, b, c, d, e], h =>
    obtain ⟨oc, h1, h2⟩ := ext_agree_6 ci cs p a b c d e rest k h
    exact ⟨oc, h1, Or.inl h2⟩
  | [a], h =>
    simp only [extStepCore, List.length_cons, List.length_nil, Nat.zero_add, Nat.reduceAdd, Nat.reduceEqDiff, if_false] at h
    cases h
    exact ⟨none, ssColour_other _ _ _ _ (by simp) (by simp) (by simp), Or.inl (extColour_other _ _ _ _ (by simp) (by simp) (by simp) (by simp))⟩
  | [a, b, c], h =>
    simp only [extStepCore, List.length_cons, List.length_nil, Nat.zero_add, Nat.reduceAdd, Nat.reduceEqDiff, if_false] at h
    cases h
    exact ⟨none, ssColour_other _ _ _ _ (by simp) (by simp) (by simp), Or.inl (extColour_other _ _ _ _ (by simp) (by simp) (by simp) (by simp))⟩
  | a :: b :: c :: d :: e :: f :: tl, h =>
    have hk : k = 0 := by
      unfold extStepCore at h
      simp only [List.length_cons] at h
      rw [if_neg (by omega), if_neg (by omega), if_neg (by omega), if_neg (by omega)] at h
      cases h; rfl
    subst hk
    exact ⟨none, ssColour_other _ _ _ _ (by simp) (by simp) (by simp),
      Or.inl (extColour_other _ _ _ _ (by simp) (by simp) (by simp) (by simp))⟩

theorem ulCase_eff (cfg : Cfg) (subs : List Nat) (s : Style) :
    ulCase cfg (4 :: subs) s = .ok (match ulEff cfg subs with | some v => { s with ulStyle := v } | none => s) := by
  unfold ulCase ulEff
  simp only [List.length_cons]
  split
  · rfl
  · cases subs with
    | nil => simp
    | cons k tl =>
      simp only [List.length_cons, Nat.add_eq_right, Nat.add_eq_zero_iff, List.length_eq_zero_iff, Nat.succ_ne_self, and_false,
        if_false, idx, List.getElem?_cons_succ, List.getElem?_cons_zero]
      split <;> rfl

theorem ssOne_4 (cfg : Cfg) (subs : List Nat) (rest : List (List SubTok)) (s : Style) (hl : cfg.labels.contains 4 = true) :
    ssOne cfg {} s ((4 :: subs).map tokN) rest =
      .ok ((match ulEff cfg subs with | some v => { s with ulStyle := v } | none => s), 0) := by
  unfold ulEff
  cases subs with
  | nil =>
    simp only [ssOne, idx, List.map_cons, List.map_nil, List.getElem?_cons_zero, tokN, hl, Bool.not_true, Bool.false_eq_true,
      if_false, List.length_cons, List.length_nil]
    simp
    split <;> simp_all
  | cons k tl =>
    simp only [ssOne, idx, List.map_cons, List.getElem?_cons_zero, List.getElem?_cons_succ, tokN, hl, Bool.not_true,
      Bool.false_eq_true, if_false, List.length_cons, List.length_map]
    simp
    split
    · simp_all
    · simp_all
      split <;> rfl

theorem simple_21 (s : Style) : simple 21 s = s := rfl

theorem intOne_head (cfg : Cfg) (p : Nat) (subs : List Nat) (rest : Seq) (s : Style) :
    intOne cfg (p :: subs) rest s =
      (if !cfg.labels.contains p then .ok (s, .cont 0)
       else if p = 38 then
         match extColour cfg 38 (p :: subs) rest with
         | .error e => .error e
         | .ok (some c, nx) => .ok ({ s with fg := c }, nx)
         | .ok (none, nx) => .ok (s, nx)
       else if p = 48 then
         match extColour cfg 48 (p :: subs) rest with
         | .error e => .error e
         | .ok (some c, nx) => .ok ({ s with bg := c }, nx)
         | .ok (none, nx) => .ok (s, nx)
       else if p = 58 then
         match extColour cfg 58 (p :: subs) rest with
         | .error e => .error e
         | .ok (some c, nx) => .ok ({ s with ul := c }, nx)
         | .ok (none, nx) => .ok (s, nx)
       else if p = 4 then
         match ulCase cfg (p :: subs) s with
         | .error e => .error e
         | .ok s' => .ok (s', .cont 0)
       else .ok (simple p s, .cont 0)) := rfl

theorem ssOne_unfold (cfg : Cfg) (p : Nat) (subs : List Nat) (rest : List (List SubTok)) (s : Style) :
    ssOne cfg {} s ((p :: subs).map tokN) rest =
      (if !cfg.labels.contains p then .ok (s, 0)
       else if p = 0 then .ok ({}, 0)
       else if p = 38 then
         match ssColour cfg 38 ((p :: subs).map tokN) rest with
         | .error e => .error e
         | .ok (some c, k) => .ok ({ s with fg := c }, k)
         | .ok (none, k) => .ok (s, k)
       else if p = 48 then
         match ssColour cfg 48 ((p :: subs).map tokN) rest with
         | .error e => .error e
         | .ok (some c, k) => .ok ({ s with bg := c }, k)
         | .ok (none, k) => .ok (s, k)
       else if p = 58 then
         match ssColour cfg 58 ((p :: subs).map tokN) rest with
         | .error e => .error e
         | .ok (some c, k) => .ok ({ s with ul := c }, k)
         | .ok (none, k) => .ok (s, k)
       else if p = 4 then
         if !cfg.accepts 4 ((p :: subs).map tokN).length then .ok (s, 0)
         else if ((p :: subs).map tokN).length > 1 then
           match idx ((p :: subs).map tokN) 1 with
           | .error e => .error e
           | .ok k =>
             match k.lab with
             | some k => if cfg.ulSubs.contains k then .ok ({ s with ulStyle := ulConst k }, 0) else .ok (s, 0)
             | none => .ok (s, 0)
         else .ok ({ s with ulStyle := SgrCases.UnderlineSingle }, 0)
       else .ok (simple p s, 0)) := rfl

theorem labels_both (ci cs : Cfg) (p : Nat) (h1 : ¬ ((!ci.labels.contains p && !cs.labels.contains p) = true))
    (h2 : ¬ ((ci.labels.contains p != cs.labels.contains p) = true)) :
    ci.labels.contains p = true ∧ cs.labels.contains p = true := by
  generalize ci.labels.contains p = a at *
  generalize cs.labels.contains p = b at *
  cases a <;> cases b <;> simp_all

theorem step_agree_4 (ci cs : Cfg) (subs : List Nat) (rest : Seq) (k : Nat) (s : Style)
    (h : agreeStep ci cs (4 :: subs) rest = some k) :
    ∃ s', ssOne cs {} s ((4 :: subs).map tokN) (tk rest) = .ok (s', k) ∧ intOne ci (4 :: subs) rest s = .ok (s', .cont k) := by
  simp only [agreeStep] at h
  split at h
  · rename_i hb
    cases h
    simp only [Bool.and_eq_true] at hb
    refine ⟨s, ?_, ?_⟩
    · rw [ssOne_unfold, if_pos hb.2]
    · rw [intOne_head, if_pos hb.1]
  · rename_i hb
    simp only [Nat.reduceEqDiff, if_false, show isExt 4 = false from rfl, Bool.false_eq_true, if_true] at h
    split at h
    · cases h
    · rename_i hne
      obtain ⟨hci, hcs⟩ := labels_both ci cs 4 hb hne
      split at h
      · cases h
        rename_i he
        refine ⟨_, ssOne_4 cs subs _ s hcs, ?_⟩
        rw [intOne_head]
        simp only [hci, Bool.not_true, Bool.false_eq_true, if_false, Nat.reduceEqDiff, if_true, ulCase_eff, he]
      · cases h

/-- `agreeStep` answers `some k` in four situations, and the proof is these four: neither consumer
    has the label (both leave the style alone); the label is 21 (no body in either); it is 38 / 48 / 58 and `extStep` answers
    (`ext_agree`: the same colour or none for the same field, the same number of parameters passed over — or the `[][]int`
    consumer returns, at the end of the list); any other label both have (4: `step_agree_4`; else `simple p`, where 0 resets to
    the default, here the zero style).  A label only one of them has gives `none`. -/
theorem step_agree (ci cs : Cfg) (cur : Param) (rest : Seq) (k : Nat) (s : Style) (h : agreeStep ci cs cur rest = some k) :
    ∃ s', ssOne cs {} s (cur.map tokN) (tk rest) = .ok (s', k) ∧
      (intOne ci cur rest s = .ok (s', .cont k) ∨ (intOne ci cur rest s = .ok (s', .stop) ∧ rest = [])) := by
  cases cur with
  | nil => simp [agreeStep] at h
  | cons p subs =>
    by_cases h4 : p = 4
    · subst h4
      obtain ⟨s', h1, h2⟩ := step_agree_4 ci cs subs rest k s h
      exact ⟨s', h1, Or.inl h2⟩
    -- both sides as the same cascade of `if`s over `p`; `h` says which arm
    rw [intOne_head, ssOne_unfold]
    simp only [agreeStep] at h
    split at h
    ·
      rename_i hb
      cases h
      simp only [Bool.and_eq_true] at hb
      exact ⟨s, by rw [if_pos hb.2], Or.inl (by rw [if_pos hb.1])⟩
    · rename_i hb
      split at h
      ·
        rename_i h21
        cases h
        subst h21
        refine ⟨s, ?_, Or.inl ?_⟩ <;>
        · split
          · rfl
          · simp [simple_21]
      · split at h
        · cases h
        · rename_i h21 hne
          obtain ⟨hci, hcs⟩ := labels_both ci cs p hb hne
          simp only [hci, hcs, Bool.not_true, Bool.false_eq_true, if_false]
          split at h
          · -- 38 / 48 / 58: whichever field it is, `oc` is written into it (or nothing) on both sides
            rename_i hext
            have hp : p = 38 ∨ p = 48 ∨ p = 58 := by simpa [isExt, or_assoc] using hext
            obtain ⟨oc, h1, h2⟩ := ext_agree ci cs p subs rest k h
            rcases hp with rfl | rfl | rfl <;>
            · simp only [Nat.reduceEqDiff, if_false, if_true, h1]
              cases oc <;> rcases h2 with h2 | ⟨h2, hr⟩ <;> rw [h2] <;>
                first | exact ⟨_, rfl, Or.inl rfl⟩ | exact ⟨_, rfl, Or.inr ⟨rfl, hr⟩⟩
          · rename_i hext
            have h38 : p ≠ 38 := by intro e; subst e; simp [isExt] at hext
            have h48 : p ≠ 48 := by intro e; subst e; simp [isExt] at hext
            have h58 : p ≠ 58 := by intro e; subst e; simp [isExt] at hext
            cases h
            simp only [h38, h48, h58, h4, if_false]
            by_cases h0 : p = 0
            · subst h0
              exact ⟨{}, by simp, Or.inl (by simp [simple_zero])⟩
            · exact ⟨simple p s, by simp [h0], Or.inl rfl⟩

theorem loop_agree (ci cs : Cfg) : ∀ (q : Seq) (k : Nat) (s : Style), agreeLoop ci cs k q = true →
    intLoop ci k q s = ssLoopK cs {} k (tk q) s
  | [], k, s, _ => by cases k <;> rfl
  | cur :: rest, k + 1, s, h => by
    simp only [agreeLoop] at h
    simp only [intLoop, tk, List.map_cons, ssLoopK]
    exact loop_agree ci cs rest k s h
  | cur :: rest, 0, s, h => by
    simp only [agreeLoop] at h
    cases hst : agreeStep ci cs cur rest with
    | none => rw [hst] at h; cases h
    | some k =>
      rw [hst] at h
      obtain ⟨s', h1, h2⟩ := step_agree ci cs cur rest k s hst
      simp only [intLoop, tk, List.map_cons, ssLoopK]
      have h1' : ssOne cs {} s (cur.map tokN) (rest.map (·.map tokN)) = .ok (s', k) := h1
      rw [h1']
      rcases h2 with h2 | ⟨h2, hr⟩
      · rw [h2]
        exact loop_agree ci cs rest k s' h
      · rw [h2]
        subst hr
        cases k <;> rfl

theorem toks_agree {γ : Type} (f g : Style → Seq → Except Panic Style) (P : Seq → Prop)
    (hfg : ∀ s q, P q → f s q = g s q) :
    ∀ (ts : List (Tok Seq γ)) (s : Style), (∀ q, Tok.sgr q ∈ ts → P q) →
      (∀ e, parseToks f s ts ≠ .error e) → parseToks f s ts = ssParseToks g s ts
  | [], _, _, _ => rfl
  | .text x :: r, s, h, hne => by
    have ih := toks_agree f g P hfg r s (fun q hq => h q (List.mem_cons_of_mem _ hq))
      (by
        intro e he
        apply hne e
        simp only [parseToks, he])
    simp only [parseToks, ssParseToks, ih]
  | .sgr q :: r, s, h, hne => by
    have hq := hfg s q (h q (List.mem_cons_self ..))
    simp only [parseToks, ssParseToks]
    cases hr : r with
    | nil =>
      simp only [List.isEmpty_nil, if_true]
      cases hf : f s q with
      | ok s' => simp [parseToks]
      | error e =>
        exfalso
        apply hne e
        simp only [parseToks, hf]
    | cons t r' =>
      simp only [List.isEmpty_cons, Bool.false_eq_true, if_false, ← hq]
      cases hf : f s q with
      | error e => rfl
      | ok s' =>
        have := toks_agree f g P hfg (t :: r') s' (fun q hq => h q (by rw [hr]; exact List.mem_cons_of_mem _ hq))
          (by
            intro e he
            apply hne e
            simp only [parseToks, hf, hr, he])
        exact this

theorem parseToks_no_error {γ : Type} (f : Style → Seq → Except Panic Style)
    (hf : ∀ s q, (∀ p ∈ q, p ≠ []) → ∃ s', f s q = .ok s') :
    ∀ (ts : List (Tok Seq γ)) (s : Style), (∀ q, Tok.sgr q ∈ ts → ∀ p ∈ q, p ≠ []) → ∀ e, parseToks f s ts ≠ .error e
  | [], _, _, e => by simp [parseToks]
  | .text x :: r, s, h, e => by
    have ih := parseToks_no_error f hf r s (fun q hq => h q (List.mem_cons_of_mem _ hq))
    simp only [parseToks]
    cases hr : parseToks f s r with
    | ok cs => simp
    | error e' => exact absurd hr (ih e')
  | .sgr q :: r, s, h, e => by
    obtain ⟨s', hs'⟩ := hf s q (h q (List.mem_cons_self ..))
    simp only [parseToks, hs']
    exact parseToks_no_error f hf r s' (fun q hq => h q (List.mem_cons_of_mem _ hq)) e

theorem cfgs_same : cfgSameB parseCfg emuCfg = true := by decide

theorem parse_eq_emu (s : Style) (q : Seq) : parseSGR s q = emuSgr s q :=
  intSgr_same parseCfg emuCfg (cfgSame_of_B _ _ cfgs_same) s q

theorem parse_eq_ss_on_class (s : Style) (q : Seq) (h : agreeClass q = true) : parseSGR s q = ssSeq {} s q := by
  cases q with
  | nil => exact int_empty parseCfg s (by decide)
  | cons c r =>
    simp only [agreeClass, List.isEmpty_cons, Bool.false_or] at h
    exact loop_agree parseCfg ssCfg (c :: r) 0 s h

/-- Everything the producers write is in the class: the forms without variables by evaluation, those with colour values
    because the class does not look at them. -/
theorem range_in_class (q : Seq) (hq : emittableLegacy q = true) : agreeClass q = true := by
  have solo : ∀ p ∈ soloCodes, agreeClass [[p]] = true := by decide
  have ul : ∀ n, n ≤ 5 → agreeClass [[4, n]] = true := by decide
  rcases emittableLegacy_cases q hq with h | h
  · rcases emittable_cases q h with rfl | ⟨p, hp, rfl⟩ | ⟨n, hn, rfl⟩ | ⟨p, n, hp, _, rfl⟩ | ⟨p, r, g, b, hp, _, _, _, rfl⟩
    · rfl
    · exact solo p hp
    · exact ul n hn
    · rcases hp with rfl | rfl | rfl <;> rfl
    · rcases hp with rfl | rfl | rfl <;> rfl
  · rcases h with ⟨p, n, hp, _, rfl⟩ | ⟨p, r, g, b, hp, _, _, _, rfl⟩
    · rcases hp with rfl | rfl <;> rfl
    · rcases hp with rfl | rfl <;> rfl

end VaxisModel.Lemmas.SgrAgree
