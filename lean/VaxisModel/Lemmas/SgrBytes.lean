/-
Byte level of C18: the regenerated format strings print exactly the parameter lists of the token-level
model (`sprintf (bytesOf «name») args = csiM (fmt «name»_t args)`, instances of `SgrPrint.sprintf_printT`), so the
byte-level producers are the token-level producers printed canonically; the C02 parser model reads `csiM q` back as `q`
(`csi_roundtrip`); NewStyledString's own Cut / Split / Atoi reads it back as `q` too.
-/
import VaxisModel.Model.SgrBytes
import VaxisModel.Model.SgrLinks
import VaxisModel.Lemmas.Sgr
import VaxisModel.Lemmas.Parser
import VaxisModel.Lemmas.ParserDcs
import VaxisModel.Lemmas.ParserText
import VaxisModel.Lemmas.SgrPrint
import VaxisModel.Lemmas.ParserCodec
import VaxisModel.Props.C02

namespace VaxisModel.Lemmas.SgrBytes
open VaxisModel.Gen VaxisModel.Model.Sgr VaxisModel.Model.SgrBytes VaxisModel.Lemmas.ParserParams VaxisModel.Lemmas.Sgr
open VaxisModel.Model.Color (Color params)
open VaxisModel.Lemmas.SgrPrint (sprintf_printT sprintf_prints)

theorem digitsOf_lt (n : Nat) (h : n < 10 := by decide) : digitsOf n = [0x30 + n] := by
  rw [digitsOf]; simp [h]

theorem digitsOf_two (n : Nat) (h1 : 10 ≤ n := by decide) (h2 : n < 100 := by decide) :
    digitsOf n = [0x30 + n / 10, 0x30 + n % 10] := by
  rw [digitsOf, if_neg (by omega), digitsOf_lt (n / 10) (by omega)]; rfl

theorem digitsOf_three (n : Nat) (h1 : 100 ≤ n := by decide) (h2 : n < 1000 := by decide) :
    digitsOf n = [0x30 + n / 100, 0x30 + n / 10 % 10, 0x30 + n % 10] := by
  rw [digitsOf, if_neg (by omega), digitsOf_two (n / 10) (by omega) (by omega)]
  have : n / 10 / 10 = n / 100 := by omega
  simp [this]

theorem d0 : digitsOf 0 = [48] := digitsOf_lt 0
theorem d1 : digitsOf 1 = [49] := digitsOf_lt 1
theorem d2 : digitsOf 2 = [50] := digitsOf_lt 2
theorem d3 : digitsOf 3 = [51] := digitsOf_lt 3
theorem d4 : digitsOf 4 = [52] := digitsOf_lt 4
theorem d5 : digitsOf 5 = [53] := digitsOf_lt 5
theorem d6 : digitsOf 6 = [54] := digitsOf_lt 6
theorem d7 : digitsOf 7 = [55] := digitsOf_lt 7
theorem d10 : digitsOf 10 = [49, 48] := digitsOf_two 10
theorem d11 : digitsOf 11 = [49, 49] := digitsOf_two 11
theorem d12 : digitsOf 12 = [49, 50] := digitsOf_two 12
theorem d13 : digitsOf 13 = [49, 51] := digitsOf_two 13
theorem d14 : digitsOf 14 = [49, 52] := digitsOf_two 14
theorem d15 : digitsOf 15 = [49, 53] := digitsOf_two 15
theorem d16 : digitsOf 16 = [49, 54] := digitsOf_two 16
theorem d17 : digitsOf 17 = [49, 55] := digitsOf_two 17
theorem d18 : digitsOf 18 = [49, 56] := digitsOf_two 18
theorem d19 : digitsOf 19 = [49, 57] := digitsOf_two 19
theorem d20 : digitsOf 20 = [50, 48] := digitsOf_two 20
theorem d21 : digitsOf 21 = [50, 49] := digitsOf_two 21
theorem d26 : digitsOf 26 = [50, 54] := digitsOf_two 26
theorem d50 : digitsOf 50 = [53, 48] := digitsOf_two 50
theorem d51 : digitsOf 51 = [53, 49] := digitsOf_two 51
theorem d52 : digitsOf 52 = [53, 50] := digitsOf_two 52
theorem d53 : digitsOf 53 = [53, 51] := digitsOf_two 53
theorem d54 : digitsOf 54 = [53, 52] := digitsOf_two 54
theorem d55 : digitsOf 55 = [53, 53] := digitsOf_two 55
theorem d56 : digitsOf 56 = [53, 54] := digitsOf_two 56
theorem d57 : digitsOf 57 = [53, 55] := digitsOf_two 57
theorem d60 : digitsOf 60 = [54, 48] := digitsOf_two 60
theorem d61 : digitsOf 61 = [54, 49] := digitsOf_two 61
theorem d62 : digitsOf 62 = [54, 50] := digitsOf_two 62
theorem d63 : digitsOf 63 = [54, 51] := digitsOf_two 63
theorem d64 : digitsOf 64 = [54, 52] := digitsOf_two 64
theorem d65 : digitsOf 65 = [54, 53] := digitsOf_two 65
theorem d66 : digitsOf 66 = [54, 54] := digitsOf_two 66
theorem d67 : digitsOf 67 = [54, 55] := digitsOf_two 67
theorem d68 : digitsOf 68 = [54, 56] := digitsOf_two 68
theorem d69 : digitsOf 69 = [54, 57] := digitsOf_two 69
theorem d70 : digitsOf 70 = [55, 48] := digitsOf_two 70
theorem d71 : digitsOf 71 = [55, 49] := digitsOf_two 71
theorem d72 : digitsOf 72 = [55, 50] := digitsOf_two 72
theorem d73 : digitsOf 73 = [55, 51] := digitsOf_two 73
theorem d74 : digitsOf 74 = [55, 52] := digitsOf_two 74
theorem d75 : digitsOf 75 = [55, 53] := digitsOf_two 75
theorem d76 : digitsOf 76 = [55, 54] := digitsOf_two 76
theorem d77 : digitsOf 77 = [55, 55] := digitsOf_two 77
theorem d78 : digitsOf 78 = [55, 56] := digitsOf_two 78
theorem d79 : digitsOf 79 = [55, 57] := digitsOf_two 79
theorem d80 : digitsOf 80 = [56, 48] := digitsOf_two 80
theorem d81 : digitsOf 81 = [56, 49] := digitsOf_two 81
theorem d82 : digitsOf 82 = [56, 50] := digitsOf_two 82
theorem d83 : digitsOf 83 = [56, 51] := digitsOf_two 83
theorem d84 : digitsOf 84 = [56, 52] := digitsOf_two 84
theorem d85 : digitsOf 85 = [56, 53] := digitsOf_two 85
theorem d86 : digitsOf 86 = [56, 54] := digitsOf_two 86
theorem d87 : digitsOf 87 = [56, 55] := digitsOf_two 87
theorem d88 : digitsOf 88 = [56, 56] := digitsOf_two 88
theorem d89 : digitsOf 89 = [56, 57] := digitsOf_two 89
theorem d98 : digitsOf 98 = [57, 56] := digitsOf_two 98
theorem d99 : digitsOf 99 = [57, 57] := digitsOf_two 99

theorem b_boldSet : bytesOf Sequences.boldSet = csiM boldSetQ :=
  sprintf_printT Sequences.boldSet_t (by decide) [] _ rfl

theorem b_dimSet : bytesOf Sequences.dimSet = csiM dimSetQ :=
  sprintf_printT Sequences.dimSet_t (by decide) [] _ rfl

theorem b_italicSet : bytesOf Sequences.italicSet = csiM italicSetQ :=
  sprintf_printT Sequences.italicSet_t (by decide) [] _ rfl

theorem b_blinkSet : bytesOf Sequences.blinkSet = csiM blinkSetQ :=
  sprintf_printT Sequences.blinkSet_t (by decide) [] _ rfl

theorem b_reverseSet : bytesOf Sequences.reverseSet = csiM reverseSetQ :=
  sprintf_printT Sequences.reverseSet_t (by decide) [] _ rfl

theorem b_hiddenSet : bytesOf Sequences.hiddenSet = csiM hiddenSetQ :=
  sprintf_printT Sequences.hiddenSet_t (by decide) [] _ rfl

theorem b_strikethroughSet : bytesOf Sequences.strikethroughSet = csiM strikethroughSetQ :=
  sprintf_printT Sequences.strikethroughSet_t (by decide) [] _ rfl

theorem b_boldDimReset : bytesOf Sequences.boldDimReset = csiM boldDimResetQ :=
  sprintf_printT Sequences.boldDimReset_t (by decide) [] _ rfl

theorem b_italicReset : bytesOf Sequences.italicReset = csiM italicResetQ :=
  sprintf_printT Sequences.italicReset_t (by decide) [] _ rfl

theorem b_blinkReset : bytesOf Sequences.blinkReset = csiM blinkResetQ :=
  sprintf_printT Sequences.blinkReset_t (by decide) [] _ rfl

theorem b_reverseReset : bytesOf Sequences.reverseReset = csiM reverseResetQ :=
  sprintf_printT Sequences.reverseReset_t (by decide) [] _ rfl

theorem b_hiddenReset : bytesOf Sequences.hiddenReset = csiM hiddenResetQ :=
  sprintf_printT Sequences.hiddenReset_t (by decide) [] _ rfl

theorem b_strikethroughReset : bytesOf Sequences.strikethroughReset = csiM strikethroughResetQ :=
  sprintf_printT Sequences.strikethroughReset_t (by decide) [] _ rfl

theorem b_underlineSet : bytesOf Sequences.underlineSet = csiM underlineSetQ :=
  sprintf_printT Sequences.underlineSet_t (by decide) [] _ rfl

theorem b_underlineReset : bytesOf Sequences.underlineReset = csiM underlineResetQ :=
  sprintf_printT Sequences.underlineReset_t (by decide) [] _ rfl

theorem b_sgrReset : bytesOf Sequences.sgrReset = csiM sgrResetQ :=
  sprintf_printT Sequences.sgrReset_t (by decide) [] _ rfl

theorem b_fgReset : bytesOf Sequences.fgReset = csiM (fmt Sequences.fgReset_t []) :=
  sprintf_printT Sequences.fgReset_t (by decide) [] _ rfl

theorem b_bgReset : bytesOf Sequences.bgReset = csiM (fmt Sequences.bgReset_t []) :=
  sprintf_printT Sequences.bgReset_t (by decide) [] _ rfl

theorem b_ulColorReset : bytesOf Sequences.ulColorReset = csiM (fmt Sequences.ulColorReset_t []) :=
  sprintf_printT Sequences.ulColorReset_t (by decide) [] _ rfl

theorem b_fgSet (i : Nat) :
    sprintf (bytesOf Sequences.fgSet) [i] = csiM (fmt Sequences.fgSet_t [i]) :=
  sprintf_prints _ Sequences.fgSet_t [i] _ rfl

theorem b_fgBrightSet (i : Nat) :
    sprintf (bytesOf Sequences.fgBrightSet) [i] = csiM (fmt Sequences.fgBrightSet_t [i]) :=
  sprintf_prints _ Sequences.fgBrightSet_t [i] _ rfl

theorem b_bgSet (i : Nat) :
    sprintf (bytesOf Sequences.bgSet) [i] = csiM (fmt Sequences.bgSet_t [i]) :=
  sprintf_prints _ Sequences.bgSet_t [i] _ rfl

theorem b_bgBrightSet (i : Nat) :
    sprintf (bytesOf Sequences.bgBrightSet) [i] = csiM (fmt Sequences.bgBrightSet_t [i]) :=
  sprintf_prints _ Sequences.bgBrightSet_t [i] _ rfl

theorem b_fgIndexSet (n : Nat) : sprintf (bytesOf Sequences.fgIndexSet) [n] = csiM (fmt Sequences.fgIndexSet_t [n]) :=
  sprintf_prints _ Sequences.fgIndexSet_t [n] _ rfl

theorem b_bgIndexSet (n : Nat) : sprintf (bytesOf Sequences.bgIndexSet) [n] = csiM (fmt Sequences.bgIndexSet_t [n]) :=
  sprintf_prints _ Sequences.bgIndexSet_t [n] _ rfl

theorem b_ulIndexSet (n : Nat) : sprintf (bytesOf Sequences.ulIndexSet) [n] = csiM (fmt Sequences.ulIndexSet_t [n]) :=
  sprintf_prints _ Sequences.ulIndexSet_t [n] _ rfl

theorem b_ulStyleSet (n : Nat) : sprintf (bytesOf Sequences.ulStyleSet) [n] = csiM (fmt Sequences.ulStyleSet_t [n]) :=
  sprintf_prints _ Sequences.ulStyleSet_t [n] _ rfl

theorem b_fgRGBSet (r g b : Nat) :
    sprintf (bytesOf Sequences.fgRGBSet) [r, g, b] = csiM (fmt Sequences.fgRGBSet_t [r, g, b]) :=
  sprintf_prints _ Sequences.fgRGBSet_t [r, g, b] _ rfl

theorem b_bgRGBSet (r g b : Nat) :
    sprintf (bytesOf Sequences.bgRGBSet) [r, g, b] = csiM (fmt Sequences.bgRGBSet_t [r, g, b]) :=
  sprintf_prints _ Sequences.bgRGBSet_t [r, g, b] _ rfl

theorem b_ulRGBSet (r g b : Nat) :
    sprintf (bytesOf Sequences.ulRGBSet) [r, g, b] = csiM (fmt Sequences.ulRGBSet_t [r, g, b]) :=
  sprintf_prints _ Sequences.ulRGBSet_t [r, g, b] _ rfl

theorem b_fgIndexSet_legacy (n : Nat) :
    sprintf (replaceColon (bytesOf Sequences.fgIndexSet)) [n] = csiM (fmt (legacyT Sequences.fgIndexSet_t) [n]) :=
  sprintf_prints _ (legacyT Sequences.fgIndexSet_t) [n] _ rfl

theorem b_bgIndexSet_legacy (n : Nat) :
    sprintf (replaceColon (bytesOf Sequences.bgIndexSet)) [n] = csiM (fmt (legacyT Sequences.bgIndexSet_t) [n]) :=
  sprintf_prints _ (legacyT Sequences.bgIndexSet_t) [n] _ rfl

theorem b_fgRGBSet_legacy (r g b : Nat) :
    sprintf (replaceColon (bytesOf Sequences.fgRGBSet)) [r, g, b] = csiM (fmt (legacyT Sequences.fgRGBSet_t) [r, g, b]) :=
  sprintf_prints _ (legacyT Sequences.fgRGBSet_t) [r, g, b] _ rfl

theorem b_bgRGBSet_legacy (r g b : Nat) :
    sprintf (replaceColon (bytesOf Sequences.bgRGBSet)) [r, g, b] = csiM (fmt (legacyT Sequences.bgRGBSet_t) [r, g, b]) :=
  sprintf_prints _ (legacyT Sequences.bgRGBSet_t) [r, g, b] _ rfl

theorem b_q (legacy : Bool) (s : Str) (t : Sequences.Template) (args : List Nat)
    (hc : sprintf s args = csiM (fmt t args)) (hl : sprintf (replaceColon s) args = csiM (fmt (legacyT t) args)) :
    sprintf (qB legacy s) args = csiM (fmt (q legacy t) args) := by
  cases legacy
  · exact hc
  · exact hl

theorem b_encodeCellsFgIndex (legacy : Bool) (n : Nat) :
    sprintf (qB legacy (bytesOf SgrCases.encodeCellsFgIndex_s)) [n] = csiM (fmt (q legacy Sequences.fgIndexSet_t) [n]) :=
  b_q legacy _ _ _ (b_fgIndexSet n) (b_fgIndexSet_legacy n)

theorem b_encodeCellsBgIndex (legacy : Bool) (n : Nat) :
    sprintf (qB legacy (bytesOf SgrCases.encodeCellsBgIndex_s)) [n] = csiM (fmt (q legacy Sequences.bgIndexSet_t) [n]) :=
  b_q legacy _ _ _ (b_bgIndexSet n) (b_bgIndexSet_legacy n)

theorem b_encodeCellsFgRGB (legacy : Bool) (r g b : Nat) :
    sprintf (qB legacy (bytesOf SgrCases.encodeCellsFgRGB_s)) [r, g, b] = csiM (fmt (q legacy Sequences.fgRGBSet_t) [r, g, b]) :=
  b_q legacy _ _ _ (b_fgRGBSet r g b) (b_fgRGBSet_legacy r g b)

theorem b_encodeCellsBgRGB (legacy : Bool) (r g b : Nat) :
    sprintf (qB legacy (bytesOf SgrCases.encodeCellsBgRGB_s)) [r, g, b] = csiM (fmt (q legacy Sequences.bgRGBSet_t) [r, g, b]) :=
  b_q legacy _ _ _ (b_bgRGBSet r g b) (b_bgRGBSet_legacy r g b)

theorem b_renderFgIndex (legacy : Bool) (n : Nat) :
    sprintf (qB legacy (bytesOf SgrCases.renderFgIndex_s)) [n] = csiM (fmt (q legacy Sequences.fgIndexSet_t) [n]) :=
  b_q legacy _ _ _ (b_fgIndexSet n) (b_fgIndexSet_legacy n)

theorem b_renderBgIndex (legacy : Bool) (n : Nat) :
    sprintf (qB legacy (bytesOf SgrCases.renderBgIndex_s)) [n] = csiM (fmt (q legacy Sequences.bgIndexSet_t) [n]) :=
  b_q legacy _ _ _ (b_bgIndexSet n) (b_bgIndexSet_legacy n)

theorem b_renderFgRGB (legacy : Bool) (r g b : Nat) :
    sprintf (qB legacy (bytesOf SgrCases.renderFgRGB_s)) [r, g, b] = csiM (fmt (q legacy Sequences.fgRGBSet_t) [r, g, b]) :=
  b_q legacy _ _ _ (b_fgRGBSet r g b) (b_fgRGBSet_legacy r g b)

theorem b_renderBgRGB (legacy : Bool) (r g b : Nat) :
    sprintf (qB legacy (bytesOf SgrCases.renderBgRGB_s)) [r, g, b] = csiM (fmt (q legacy Sequences.bgRGBSet_t) [r, g, b]) :=
  b_q legacy _ _ _ (b_bgRGBSet r g b) (b_bgRGBSet_legacy r g b)

theorem b_ssFgIndex (legacy : Bool) (n : Nat) :
    sprintf (qB (legacy && SgrCases.ssEncodeFgIndexMutable) (bytesOf SgrCases.ssEncodeFgIndex_s)) [n] =
      csiM (fmt (ssT legacy SgrCases.ssEncodeFgIndexMutable SgrCases.ssEncodeFgIndex_t) [n]) := by
  cases legacy
  · exact sprintf_prints _ (ssT false SgrCases.ssEncodeFgIndexMutable SgrCases.ssEncodeFgIndex_t) [n] _ rfl
  · exact sprintf_prints _ (ssT true SgrCases.ssEncodeFgIndexMutable SgrCases.ssEncodeFgIndex_t) [n] _ rfl

theorem b_ssBgIndex (legacy : Bool) (n : Nat) :
    sprintf (qB (legacy && SgrCases.ssEncodeBgIndexMutable) (bytesOf SgrCases.ssEncodeBgIndex_s)) [n] =
      csiM (fmt (ssT legacy SgrCases.ssEncodeBgIndexMutable SgrCases.ssEncodeBgIndex_t) [n]) := by
  cases legacy
  · exact sprintf_prints _ (ssT false SgrCases.ssEncodeBgIndexMutable SgrCases.ssEncodeBgIndex_t) [n] _ rfl
  · exact sprintf_prints _ (ssT true SgrCases.ssEncodeBgIndexMutable SgrCases.ssEncodeBgIndex_t) [n] _ rfl

theorem b_ssFgRGB (legacy : Bool) (r g b : Nat) :
    sprintf (qB (legacy && SgrCases.ssEncodeFgRGBMutable) (bytesOf SgrCases.ssEncodeFgRGB_s)) [r, g, b] =
      csiM (fmt (ssT legacy SgrCases.ssEncodeFgRGBMutable SgrCases.ssEncodeFgRGB_t) [r, g, b]) := by
  cases legacy
  · exact sprintf_prints _ (ssT false SgrCases.ssEncodeFgRGBMutable SgrCases.ssEncodeFgRGB_t) [r, g, b] _ rfl
  · exact sprintf_prints _ (ssT true SgrCases.ssEncodeFgRGBMutable SgrCases.ssEncodeFgRGB_t) [r, g, b] _ rfl

theorem b_ssBgRGB (legacy : Bool) (r g b : Nat) :
    sprintf (qB (legacy && SgrCases.ssEncodeBgRGBMutable) (bytesOf SgrCases.ssEncodeBgRGB_s)) [r, g, b] =
      csiM (fmt (ssT legacy SgrCases.ssEncodeBgRGBMutable SgrCases.ssEncodeBgRGB_t) [r, g, b]) := by
  cases legacy
  · exact sprintf_prints _ (ssT false SgrCases.ssEncodeBgRGBMutable SgrCases.ssEncodeBgRGB_t) [r, g, b] _ rfl
  · exact sprintf_prints _ (ssT true SgrCases.ssEncodeBgRGBMutable SgrCases.ssEncodeBgRGB_t) [r, g, b] _ rfl

theorem bytesOfSeqs_nil : bytesOfSeqs [] = [] := rfl
theorem bytesOfSeqs_cons (q : Seq) (l : List Seq) : bytesOfSeqs (q :: l) = csiM q ++ bytesOfSeqs l := by
  simp [bytesOfSeqs]
theorem bytesOfSeqs_single (q : Seq) : bytesOfSeqs [q] = csiM q := by simp [bytesOfSeqs]
theorem bytesOfSeqs_append (l₁ l₂ : List Seq) : bytesOfSeqs (l₁ ++ l₂) = bytesOfSeqs l₁ ++ bytesOfSeqs l₂ := by
  simp [bytesOfSeqs]
theorem bytesOfSeqs_opt (c : Bool) (q : Seq) : bytesOfSeqs (opt c q) = optB c (csiM q) := by
  cases c <;> simp [opt, optB, bytesOfSeqs]
theorem bytesOfSeqs_ite (c : Prop) [Decidable c] (l : List Seq) :
    bytesOfSeqs (if c then l else []) = if c then bytesOfSeqs l else [] := by
  split <;> rfl

theorem colourB_eq (resetS setS brightS idxS rgbS : Str) (resetT setT brightT idxT rgbT : Sequences.Template)
    (h0 : resetS = csiM (fmt resetT []))
    (h1 : ∀ i, sprintf setS [i] = csiM (fmt setT [i]))
    (h2 : ∀ i, sprintf brightS [i] = csiM (fmt brightT [i]))
    (h3 : ∀ n, sprintf idxS [n] = csiM (fmt idxT [n]))
    (h4 : ∀ r g b, sprintf rgbS [r, g, b] = csiM (fmt rgbT [r, g, b])) (c : Color) :
    colourB resetS setS brightS idxS rgbS c = bytesOfSeqs (colourSeq resetT setT brightT idxT rgbT c) := by
  unfold colourB colourSeq
  generalize params c = ps
  match ps with
  | [] => simp only [bytesOfSeqs_single, h0]
  | [i] =>
    by_cases h8 : i < 8
    · simp only [h8, if_true, bytesOfSeqs_single, h1]
    · by_cases h16 : i < 16
      · simp only [h8, h16, if_true, if_false, bytesOfSeqs_single, h2]
      · simp only [h8, h16, if_false, bytesOfSeqs_single, h3]
  | [r, g, b] => simp only [bytesOfSeqs_single, h4]
  | [_, _] => rfl
  | _ :: _ :: _ :: _ :: _ => rfl

theorem ulColourB_eq (c : Color) : ulColourB c = bytesOfSeqs (ulColourSeq c) := by
  unfold ulColourB ulColourSeq
  generalize params c = ps
  match ps with
  | [] => simp only [bytesOfSeqs_single, b_ulColorReset]
  | [i] => simp only [bytesOfSeqs_single, b_ulIndexSet]
  | [r, g, b] => simp only [bytesOfSeqs_single, b_ulRGBSet]
  | [_, _] => rfl
  | _ :: _ :: _ :: _ :: _ => rfl

theorem attrBodyB_eq (a b : Nat) : attrBodyB a b = bytesOfSeqs (attrBody a b) := by
  unfold attrBodyB attrBody
  simp only [bytesOfSeqs_append, bytesOfSeqs_opt, b_boldSet, b_dimSet, b_italicSet,
    b_blinkSet, b_reverseSet, b_hiddenSet, b_strikethroughSet, b_boldDimReset, b_italicReset, b_blinkReset,
    b_reverseReset, b_hiddenReset, b_strikethroughReset]
  congr 8
  · split <;> simp [bytesOfSeqs_cons, bytesOfSeqs_opt, bytesOfSeqs_nil]
  congr 1
  · split <;> simp [bytesOfSeqs_cons, bytesOfSeqs_opt, bytesOfSeqs_nil]

theorem attrDeltaB_eq (a b : Nat) : attrDeltaB a b = bytesOfSeqs (attrDelta a b) := by
  unfold attrDeltaB attrDelta
  split
  · exact attrBodyB_eq a b
  · rfl

theorem encodeDeltaB_eq (legacy : Bool) (p n : Style) : encodeDeltaB legacy p n = bytesOfSeqs (encodeDelta legacy p n) := by
  unfold encodeDeltaB encodeDelta
  simp only [bytesOfSeqs_append, bytesOfSeqs_ite, attrDeltaB_eq, ulColourB_eq, bytesOfSeqs_single, b_ulStyleSet]
  rw [colourB_eq _ _ _ _ _ Sequences.fgReset_t Sequences.fgSet_t Sequences.fgBrightSet_t
        (q legacy Sequences.fgIndexSet_t) (q legacy Sequences.fgRGBSet_t) b_fgReset b_fgSet b_fgBrightSet
        (b_encodeCellsFgIndex legacy) (b_encodeCellsFgRGB legacy),
      colourB_eq _ _ _ _ _ Sequences.bgReset_t Sequences.bgSet_t Sequences.bgBrightSet_t
        (q legacy Sequences.bgIndexSet_t) (q legacy Sequences.bgRGBSet_t) b_bgReset b_bgSet b_bgBrightSet
        (b_encodeCellsBgIndex legacy) (b_encodeCellsBgRGB legacy)]

theorem ssDeltaB_eq (legacy : Bool) (p n : Style) : ssDeltaB legacy p n = bytesOfSeqs (ssDelta legacy p n) := by
  unfold ssDeltaB ssDelta
  simp only [bytesOfSeqs_append, bytesOfSeqs_ite, attrDeltaB_eq, ulColourB_eq, bytesOfSeqs_single, b_ulStyleSet]
  rw [colourB_eq _ _ _ _ _ Sequences.fgReset_t Sequences.fgSet_t Sequences.fgBrightSet_t
        (ssT legacy SgrCases.ssEncodeFgIndexMutable SgrCases.ssEncodeFgIndex_t)
        (ssT legacy SgrCases.ssEncodeFgRGBMutable SgrCases.ssEncodeFgRGB_t) b_fgReset b_fgSet b_fgBrightSet
        (b_ssFgIndex legacy) (b_ssFgRGB legacy),
      colourB_eq _ _ _ _ _ Sequences.bgReset_t Sequences.bgSet_t Sequences.bgBrightSet_t
        (ssT legacy SgrCases.ssEncodeBgIndexMutable SgrCases.ssEncodeBgIndex_t)
        (ssT legacy SgrCases.ssEncodeBgRGBMutable SgrCases.ssEncodeBgRGB_t) b_bgReset b_bgSet b_bgBrightSet
        (b_ssBgIndex legacy) (b_ssBgRGB legacy)]

theorem renderDeltaB_eq (rgb su legacy : Bool) (p n : Style) :
    renderDeltaB rgb su legacy p n = bytesOfSeqs (renderDelta rgb su legacy p n) := by
  unfold renderDeltaB renderDelta
  simp only [bytesOfSeqs_append, bytesOfSeqs_ite, attrDeltaB_eq, ulColourB_eq, b_ulStyleSet]
  rw [colourB_eq _ _ _ _ _ Sequences.fgReset_t Sequences.fgSet_t Sequences.fgBrightSet_t
        (q legacy Sequences.fgIndexSet_t) (q legacy Sequences.fgRGBSet_t) b_fgReset b_fgSet b_fgBrightSet
        (b_renderFgIndex legacy) (b_renderFgRGB legacy),
      colourB_eq _ _ _ _ _ Sequences.bgReset_t Sequences.bgSet_t Sequences.bgBrightSet_t
        (q legacy Sequences.bgIndexSet_t) (q legacy Sequences.bgRGBSet_t) b_bgReset b_bgSet b_bgBrightSet
        (b_renderBgIndex legacy) (b_renderBgRGB legacy)]
  cases su <;> simp [bytesOfSeqs_single, b_underlineReset, b_underlineSet, apply_ite bytesOfSeqs]

theorem bytesOfToks_append (a b : List (Tok Seq Str)) : bytesOfToks (a ++ b) = bytesOfToks a ++ bytesOfToks b := by
  simp [bytesOfToks]

theorem bytesOfToks_sgrs (l : List Seq) : bytesOfToks (l.map Tok.sgr) = bytesOfSeqs l := by
  induction l with
  | nil => rfl
  | cons q l ih =>
    have : bytesOfToks (Tok.sgr q :: l.map Tok.sgr) = csiM q ++ bytesOfToks (l.map Tok.sgr) := by
      simp [bytesOfToks, tokBytes]
    rw [List.map_cons, this, ih, bytesOfSeqs_cons]

theorem bytesOfToks_text (g : Str) (r : List (Tok Seq Str)) : bytesOfToks (Tok.text g :: r) = g ++ bytesOfToks r := by
  simp [bytesOfToks, tokBytes]

theorem bytesOfToks_sgr (q : Seq) (r : List (Tok Seq Str)) : bytesOfToks (Tok.sgr q :: r) = csiM q ++ bytesOfToks r := by
  simp [bytesOfToks, tokBytes]

theorem encodeFromB_eq (deltaB : Style → Style → Str) (delta : Style → Style → List Seq)
    (h : ∀ p n, deltaB p n = bytesOfSeqs (delta p n)) :
    ∀ (cs : List (Cell Str)) (s : Style), encodeFromB deltaB s cs = bytesOfToks (encodeFrom delta s cs) := by
  intro cs
  induction cs with
  | nil =>
    intro s
    unfold encodeFromB encodeFrom
    split
    · rw [b_sgrReset]; simp [bytesOfToks, tokBytes]
    · rfl
  | cons c cs ih =>
    intro s
    unfold encodeFromB encodeFrom
    rw [bytesOfToks_append, bytesOfToks_sgrs, bytesOfToks_text, h, ih]

open VaxisModel.Model.Parser (PState pstep run)
open VaxisModel.Model.ParserTable (Inp StateId)
open VaxisModel.Lemmas.Parser (encodeCsi ground_print)

/-- What the parser delivers for a token. -/
def itemOf : Tok Seq Str → Item
  | .sgr q => .seq (.csi [] (q.map (·.map Int.ofNat)) 0x6D)
  | .text g => .text g

theorem toNat_ofNat (q : Seq) : (q.map (·.map Int.ofNat)).map (·.map Int.toNat) = q := by
  simp [List.map_map, Function.comp_def]

/-- The hypotheses on a token sequence: SGR parameter lists printable (every parameter has at least one
    sub-parameter, values below 2^63); every grapheme is non-empty, starts with a rune ≥ 0x20 (so the
    parser prints it and `NewStyledString` does not take it for a sequence), and is a whole grapheme
    cluster of the text that follows it in the string (**A-concat**, for the cluster oracle `cl`). -/
def Good (cl : Str → Nat) : List (Tok Seq Str) → Prop
  | [] => True
  | .sgr q :: r => ParamsOk q ∧ Good cl r
  | .text g :: r => (∃ c g', g = c :: g' ∧ 0x20 ≤ c) ∧ cl (g ++ bytesOfToks r) = g.length ∧ Good cl r

theorem csiM_eq (q : Seq) : csiM q = encodeCsi ⟨none, q, [], 0x6D⟩ := by
  simp [csiM, encodeCsi]

theorem run_csiM (s : PState) (he : s.exit = none) (q : Seq) (hq : ParamsOk q) :
    run s (csiM q) =
      ({ s with state := .ground, inter := [], params := encParams q, ignoreST := false },
       [.csi [] (q.map (·.map Int.ofNat)) 0x6D]) := by
  rw [csiM_eq]
  have := VaxisModel.Props.C02.csi_roundtrip s he ⟨none, q, [], 0x6D⟩
    ⟨by simp, hq, by simp, by simp, by simp⟩
  simpa using this

theorem cluster_cut (c : Nat) (g' rest : Str) :
    max 1 (c :: g').length = (c :: g').length ∧ (c :: (g' ++ rest)).take (c :: g').length = c :: g' ∧
      (c :: (g' ++ rest)).drop (c :: g').length = rest :=
  ⟨by simp, by rw [← List.cons_append]; simp, by rw [← List.cons_append]; simp⟩

theorem scan_nil (cl : Str → Nat) (fuel : Nat) (s : PState) : scan cl fuel s [] = [] := by
  cases fuel <;> rfl

theorem scan_step_quiet (cl : Str → Nat) (fuel : Nat) (s : PState) (r : Nat) (w : Str)
    (h : ∀ x ∈ (pstep s (.rune r)).out, ∀ c, x ≠ Model.Parser.Seq.print c) :
    scan cl (fuel + 1) s (r :: w) = (pstep s (.rune r)).out.map Item.seq ++ scan cl fuel (pstep s (.rune r)).st w := by
  conv => lhs; unfold scan
  simp only []
  split
  · rename_i c hc
    exact absurd rfl (h (.print c) (by rw [hc]; simp) c)
  · rfl

theorem scan_run (cl : Str → Nat) (w1 : Str) : ∀ (s : PState) (fuel : Nat) (w2 : Str),
    (∀ x ∈ (run s w1).2, ∀ c, x ≠ Model.Parser.Seq.print c) → w1.length ≤ fuel →
    scan cl fuel s (w1 ++ w2) = (run s w1).2.map Item.seq ++ scan cl (fuel - w1.length) (run s w1).1 w2 := by
  induction w1 with
  | nil => intro s fuel w2 _ _; simp [run]
  | cons r w ih =>
    intro s fuel w2 hq hf
    cases fuel with
    | zero => simp at hf
    | succ fuel =>
      simp only [run] at hq ⊢
      have h1 : ∀ x ∈ (pstep s (.rune r)).out, ∀ c, x ≠ Model.Parser.Seq.print c := fun x hx => hq x (by simp [hx])
      have h2 : ∀ x ∈ (run (pstep s (.rune r)).st w).2, ∀ c, x ≠ Model.Parser.Seq.print c := fun x hx => hq x (by simp [hx])
      rw [List.cons_append, scan_step_quiet cl fuel s r (w ++ w2) h1, ih _ fuel w2 h2 (by simpa using hf)]
      simp

theorem bytesOfToks_length_sgr (q : Seq) (r : List (Tok Seq Str)) :
    (bytesOfToks (Tok.sgr q :: r)).length = (csiM q).length + (bytesOfToks r).length := by
  rw [bytesOfToks_sgr]; simp

theorem penOf_items (f : Style → Seq → Except Panic Style) (ts : List (Tok Seq Str)) :
    ∀ s, penOf f s (ts.map itemOf) = penAfter f s ts := by
  induction ts with
  | nil => intro s; rfl
  | cons t r ih =>
    intro s
    cases t with
    | text g => simp only [List.map_cons, itemOf, penOf, penAfter, ih]
    | sgr q =>
      simp only [List.map_cons, itemOf, penOf, penAfter, toNat_ofNat, if_true]
      cases f s q with
      | error e => rfl
      | ok s' => exact ih s'

open VaxisModel.Model.Parser (decimal)
open VaxisModel.Lemmas.ParserDcs (decimal_digitsOf)

open VaxisModel.Model.SgrLinks (cutByte) in
theorem cutByte_append (sep : Nat) (a rest : Str) (ha : ∀ b ∈ a, b ≠ sep) :
    cutByte sep (a ++ sep :: rest) = (a, rest) := by
  induction a with
  | nil => simp [cutByte]
  | cons b a ih =>
    have hb : b ≠ sep := ha b (by simp)
    simp only [List.cons_append, cutByte, hb, if_false, ih (fun x hx => ha x (by simp [hx]))]

open VaxisModel.Model.SgrLinks (cutByte) in
theorem cutM_eq_cutByte : ∀ r : Str, cutM r = cutByte 0x6D r
  | [] => rfl
  | b :: r => by simp only [cutM, cutByte, cutM_eq_cutByte r]

theorem cutM_append (a rest : Str) (ha : ∀ b ∈ a, b ≠ 0x6D) : cutM (a ++ 0x6D :: rest) = (a, rest) := by
  rw [cutM_eq_cutByte]; exact cutByte_append 0x6D a rest ha

/-- Go's `strings.Split` for a one-byte separator is the `splitAt` of the VT500 specification: what C02 proves of the one
    (`Lemmas/ParserCodec`) holds of the other. -/
theorem splitB_eq_splitAt (sep : Nat) : ∀ s : Str, splitB sep s = Spec.VT500.splitAt sep s
  | [] => rfl
  | b :: r => by
    have ih := splitB_eq_splitAt sep r
    simp only [splitB, Spec.VT500.splitAt, ih]
    cases h : Spec.VT500.splitAt sep r with
    | nil => exact absurd h (ParserCodec.splitAt_ne_nil sep r)
    | cons hd tl => by_cases hb : b = sep <;> simp [hb]

theorem splitB_ne_nil (sep : Nat) (s : Str) : splitB sep s ≠ [] := by
  rw [splitB_eq_splitAt]; exact ParserCodec.splitAt_ne_nil sep s

theorem encParams_no_m (q : Seq) : ∀ b ∈ encParams q, b ≠ 0x6D := fun b hb => by
  have := encParams_bytes q b hb; omega

theorem splitB_encSub (p : List Nat) (hp : p ≠ []) : splitB 0x3A (encSub p) = p.map digitsOf := by
  rw [splitB_eq_splitAt]; exact ParserCodec.splitAt_encSub p hp

theorem splitB_encParams (q : Seq) (hq : q ≠ []) : splitB 0x3B (encParams q) = q.map encSub := by
  rw [splitB_eq_splitAt]; exact ParserCodec.splitAt_encParams q hq

theorem digitsOf_head (n : Nat) : ∃ d ds, digitsOf n = d :: ds ∧ 0x30 ≤ d ∧ d ≤ 0x39 ∧ (d = 0x30 → n = 0) := by
  induction n using digitsOf.induct with
  | case1 n h => exact ⟨0x30 + n, [], by rw [digitsOf_lt n h], by omega, by omega, by omega⟩
  | case2 n h ih =>
    obtain ⟨d, ds, e, h1, h2, h3⟩ := ih
    refine ⟨d, ds ++ [0x30 + n % 10], ?_, h1, h2, ?_⟩
    · rw [digitsOf, if_neg h, e]; rfl
    · intro hd; have := h3 hd; omega

theorem digitsOf_all (n : Nat) : (digitsOf n).all isDigitB = true := by
  rw [List.all_eq_true]
  intro b hb
  have := digitsOf_bytes n b hb
  simp [isDigitB, this.1, this.2]

theorem subTokOf_digitsOf (n : Nat) (hn : n < 9223372036854775808) : subTokOf (digitsOf n) = tokN n := by
  obtain ⟨d, ds, e, h1, h2, h3⟩ := digitsOf_head n
  have hall := digitsOf_all n
  have hdec := decimal_digitsOf n
  have hlen : ((digitsOf n).length == 1 || (digitsOf n).head? != some 0x30) = true := by
    by_cases hd : d = 0x30
    · rw [h3 hd, d0]; rfl
    · rw [e]; simp [hd]
  have hsd : signSplit (digitsOf n) = (false, digitsOf n) := by
    rw [e]
    unfold signSplit
    split
    · rename_i r h; injection h with h _; omega
    · rename_i r h; injection h with h _; omega
    · rfl
  have hne : (digitsOf n).isEmpty = false := by rw [e]; rfl
  have hcanon : canonB (digitsOf n) = true := by simp [canonB, hne, hall, hlen]
  have hat : atoiB (digitsOf n) = (n : Int) := by
    unfold atoiB
    simp only [hsd, hne, hall, hdec, Bool.not_false, Bool.true_and, if_true, Bool.false_eq_true, if_false]
    have : ¬ (n > 2 ^ 63 - 1) := by omega
    simp [this]
  simp [subTokOf, tokN, hcanon, hat, hdec]

theorem splitParams_encParams (q : Seq) (hq : ParamsOk q) (hne : q ≠ []) :
    splitParams (encParams q) = q.map (·.map tokN) := by
  unfold splitParams
  rw [splitB_encParams q hne, List.map_map]
  apply List.map_congr_left
  intro p hp
  obtain ⟨hpne, hlt⟩ := hq p hp
  simp only [Function.comp]
  rw [splitB_encSub p hpne, List.map_map]
  apply List.map_congr_left
  intro x hx
  exact subTokOf_digitsOf x (hlt x hx)

theorem csiM_length_pos (q : Seq) : 2 ≤ (csiM q).length := by simp [csiM]

/-- The text part of `Good`: the hypothesis on the graphemes and the cluster oracle (**A-concat**). -/
def TextOK (cl : Str → Nat) : List (Tok Seq Str) → Prop
  | [] => True
  | .sgr _ :: r => TextOK cl r
  | .text g :: r => (∃ c g', g = c :: g' ∧ 0x20 ≤ c) ∧ cl (g ++ bytesOfToks r) = g.length ∧ TextOK cl r

theorem good_of (cl : Str → Nat) : ∀ (ts : List (Tok Seq Str)), TextOK cl ts → (∀ q, Tok.sgr q ∈ ts → ParamsOk q) → Good cl ts
  | [], _, _ => trivial
  | .sgr q :: r, ht, hs => ⟨hs q (by simp), good_of cl r ht (fun q' h => hs q' (by simp [h]))⟩
  | .text g :: r, ht, hs => ⟨ht.1, ht.2.1, good_of cl r ht.2.2 (fun q' h => hs q' (by simp [h]))⟩

theorem good_sgrs (cl : Str → Nat) (rest : List (Tok Seq Str)) (hr : Good cl rest) :
    ∀ (l : List Seq), (∀ q ∈ l, ParamsOk q) → Good cl (l.map Tok.sgr ++ rest)
  | [], _ => hr
  | q :: l, h => ⟨h q (List.mem_cons_self ..), good_sgrs cl rest hr l (fun x hx => h x (List.mem_cons_of_mem _ hx))⟩

theorem solo_lt : ∀ p ∈ soloCodes, p < 108 := by decide

theorem paramsOk_of_eml (q : Seq) (h : emittableLegacy q = true) : ParamsOk q := by
  rcases emittableLegacy_cases q h with h | ⟨p, n, hp, hn, rfl⟩ | ⟨p, r, g, b, hp, hr, hg, hb, rfl⟩
  · rcases emittable_cases q h with rfl | ⟨p, hp, rfl⟩ | ⟨n, hn, rfl⟩ | ⟨p, n, hp, hn, rfl⟩ | ⟨p, r, g, b, hp, hr, hg, hb, rfl⟩
    · intro p hp; simp at hp
    · have := solo_lt p hp
      simp [ParamsOk, SubOk]; omega
    all_goals simp [ParamsOk, SubOk]; omega
  all_goals simp [ParamsOk, SubOk]; omega

end VaxisModel.Lemmas.SgrBytes
