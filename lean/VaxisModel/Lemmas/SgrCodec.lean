/-
C18: the codecs as two small interfaces.  A `Consumer` is an SGR handler that returns `decoded` on the producers' range; a
`Producer` is a pen delta that stays in the range and makes a terminal show the next style.  Every producer × consumer
statement is one theorem about the two; what a `Spec.sgr` terminal shows is the same theorem for the consumer `specTerm`.
Of the three consumers only `parseSGR` is evaluated on the range; the embedded terminal is `parseSGR` on every list and
`NewStyledString` on the agreement class, which contains the range (`Lemmas/SgrAgree.lean`).
-/
import VaxisModel.Lemmas.SgrAgree
import VaxisModel.Lemmas.SgrDelta

namespace VaxisModel.Lemmas.SgrCodec
open VaxisModel VaxisModel.Model.Sgr VaxisModel.Spec VaxisModel.Lemmas.Sgr VaxisModel.Lemmas.SgrReads VaxisModel.Lemmas.SgrDelta
open VaxisModel.Lemmas.SgrAgree

structure Consumer where
  f : Style → Seq → Except Panic Style
  decodes : ∀ s q, emittableLegacy q = true → f s q = .ok (decoded s q)

structure Producer where
  delta : Style → Style → List Seq
  /-- what a terminal shows for a style once the producer has written it -/
  sh : Style → TStyle
  /-- the style a consumer should hold for it: the one that shows `sh` -/
  view : Style → Style
  sh_view : ∀ s, sh s = shown (view s)
  view_wf : ∀ s, s.wf → (view s).wf
  view_default : view {} = {}
  /-- every sequence of a delta lies in the range the consumers are evaluated on, and none is the bare reset -/
  mem : ∀ p n, n.ulStyle ≤ 5 → ∀ x ∈ delta p n, emittableLegacy x = true ∧ x ≠ []
  shows : ∀ p n, n.ulStyle ≤ 5 → apply (sh p) (delta p n) = sh n

theorem parseCfg_covers : covers parseCfg = true ∧ coversLegacy parseCfg = true := by decide

theorem parseCfg_legacy (p : Nat) (hp : p = 38 ∨ p = 48) : parseCfg.accepts p 1 = true := by
  rcases hp with rfl | rfl <;> decide

def parseC : Consumer := ⟨parseSGR, int_decoded_legacy parseCfg (covers_iff _ parseCfg_covers.1) parseCfg_legacy⟩
def emuC : Consumer := ⟨emuSgr, fun s q hq => (parse_eq_emu s q).symm.trans (parseC.decodes s q hq)⟩
def ssC : Consumer :=
  ⟨ssSeq {}, fun s q hq => (parse_eq_ss_on_class s q (range_in_class q hq)).symm.trans (parseC.decodes s q hq)⟩

def encodeP (legacy : Bool) : Producer :=
  ⟨encodeDelta legacy, shown, id, fun _ => rfl, fun _ h => h, rfl, encodeDelta_mem legacy, encodeDelta_correct legacy⟩
def ssP (legacy : Bool) : Producer :=
  ⟨ssDelta legacy, shown, id, fun _ => rfl, fun _ h => h, rfl, fun p n hn => eml_of_em_all (ssDelta_mem legacy p n hn),
    ssDelta_correct legacy⟩
def renderP (rgb su legacy : Bool) : Producer :=
  ⟨renderDelta rgb su legacy, shownCaps rgb su, capStyle rgb su, fun s => (shown_capStyle rgb su s).symm, capStyle_wf rgb su,
    capStyle_default rgb su, renderDelta_mem rgb su legacy, renderDelta_correct rgb su legacy⟩

namespace Consumer
variable (C : Consumer) (P : Producer)

theorem reset (s : Style) : C.f s sgrResetQ = .ok {} := sgrResetQ_eq ▸ C.decodes s [] rfl

theorem reads_delta (p n : Style) (hp : p.wf) (hn : n.wf) : foldC C.f (P.view p) (P.delta p n) = .ok (P.view n) :=
  reads_back C.f (fun q => emittableLegacy q = true) (fun _ h => h) C.decodes _ (fun x hx => (P.mem p n hn.ulStyle x hx).1) _ _
    (P.view_wf p hp) (P.view_wf n hn) (by rw [← P.sh_view, ← P.sh_view]; exact P.shows p n hn.ulStyle)

theorem reads_written {γ : Type} {w : Style → List (Cell γ) → List (Tok Seq γ)} (W : Writes P.delta w) (cs : List (Cell γ))
    (hcs : ∀ c ∈ cs, c.st.wf) : Reads C.f {} (w {} cs) (cs.map fun c => (c.g, P.view c.st)) {} := by
  have := SgrReads.reads_written W C.f P.view Style.wf (fun s n hs hn => .of_foldC _ _ _ (C.reads_delta P s n hs hn))
    (fun s => (C.reset _).trans (congrArg _ P.view_default.symm)) cs {} wf_default hcs
  rwa [P.view_default] at this

theorem reads_encoded {γ : Type} (cs : List (Cell γ)) (hcs : ∀ c ∈ cs, c.st.wf) :
    Reads C.f {} (encodeFrom P.delta {} cs) (cs.map fun c => (c.g, P.view c.st)) {} :=
  C.reads_written P (writes_encodeFrom _) cs hcs

theorem reads_frame {γ : Type} (rgb su legacy : Bool) (cs : List (Cell γ)) (hcs : ∀ c ∈ cs, c.st.wf) :
    Reads C.f {} (renderFrom rgb su legacy {} cs) (cs.map fun c => (c.g, capStyle rgb su c.st)) {} :=
  C.reads_written (renderP rgb su legacy) (writes_renderFrom rgb su legacy) cs hcs

end Consumer

namespace Producer
variable (P : Producer)

theorem sh_default : P.sh {} = TStyle.reset := by rw [P.sh_view, P.view_default, shown_default]

theorem shows_written {γ : Type} {w : Style → List (Cell γ) → List (Tok Seq γ)} (W : Writes P.delta w) (cs : List (Cell γ))
    (hcs : ∀ c ∈ cs, c.st.ulStyle ≤ 5) :
    Reads specTerm TStyle.reset (w {} cs) (cs.map fun c => (c.g, P.sh c.st)) TStyle.reset := by
  have := SgrReads.reads_written W specTerm P.sh (·.ulStyle ≤ 5) (fun s n _ hn => P.shows s n hn ▸ Reads.of_apply _ _)
    (fun _ => by rw [P.sh_default, sgrResetQ_eq]; rfl) cs {} (Nat.zero_le _) hcs
  rwa [P.sh_default] at this

theorem shows_encoded {γ : Type} (cs : List (Cell γ)) (hcs : ∀ c ∈ cs, c.st.ulStyle ≤ 5) :
    Reads specTerm TStyle.reset (encodeFrom P.delta {} cs) (cs.map fun c => (c.g, P.sh c.st)) TStyle.reset :=
  P.shows_written (writes_encodeFrom _) cs hcs

end Producer

theorem shows_frame {γ : Type} (rgb su legacy : Bool) (cs : List (Cell γ)) (hcs : ∀ c ∈ cs, c.st.ulStyle ≤ 5) :
    Reads specTerm TStyle.reset (renderFrom rgb su legacy {} cs) (cs.map fun c => (c.g, shownCaps rgb su c.st)) TStyle.reset :=
  (renderP rgb su legacy).shows_written (writes_renderFrom rgb su legacy) cs hcs

end VaxisModel.Lemmas.SgrCodec
