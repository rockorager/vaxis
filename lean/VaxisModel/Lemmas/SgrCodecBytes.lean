/-
C18: the codec interface at the byte level.  A producer also says which bytes it writes for a pen delta; they are its
sequences printed (`deltaB_eq`), so what the parser-based consumers and `NewStyledString`'s own loop make of the bytes is what
the token-level consumers make of the sequences.
-/
import VaxisModel.Lemmas.SgrCodec
import VaxisModel.Lemmas.SgrLinksFull

namespace VaxisModel.Lemmas.SgrCodec
open VaxisModel VaxisModel.Model.Sgr VaxisModel.Model.SgrBytes VaxisModel.Lemmas.Sgr VaxisModel.Lemmas.SgrBytes
open VaxisModel.Lemmas.SgrReads VaxisModel.Lemmas.SgrDelta VaxisModel.Lemmas.ParserParams
open VaxisModel.Model.SgrLinks VaxisModel.Lemmas.SgrLinks

structure ProducerB extends Producer where
  deltaB : Style → Style → Str
  deltaB_eq : ∀ p n, deltaB p n = bytesOfSeqs (delta p n)

def encodePB (legacy : Bool) : ProducerB := { encodeP legacy with deltaB := encodeDeltaB legacy, deltaB_eq := encodeDeltaB_eq legacy }
def ssPB (legacy : Bool) : ProducerB := { ssP legacy with deltaB := ssDeltaB legacy, deltaB_eq := ssDeltaB_eq legacy }
def renderPB (rgb su legacy : Bool) : ProducerB :=
  { renderP rgb su legacy with deltaB := renderDeltaB rgb su legacy, deltaB_eq := renderDeltaB_eq rgb su legacy }

namespace ProducerB
variable (P : ProducerB)

theorem paramsOk (p n : Style) (hn : n.ulStyle ≤ 5) : ∀ q ∈ P.delta p n, ParamsOk q :=
  fun q hq => paramsOk_of_eml q (P.mem p n hn q hq).1

theorem bytes_encoded (cs : List (Cell Str)) : encodeFromB P.deltaB {} cs = bytesOfToks (encodeFrom P.delta {} cs) :=
  encodeFromB_eq _ _ P.deltaB_eq cs {}

theorem good_encoded (cl : Str → Nat) (cs : List (Cell Str)) (hcs : ∀ c ∈ cs, c.st.ulStyle ≤ 5)
    (ht : TextOK cl (encodeFrom P.delta {} cs)) : Good cl (encodeFrom P.delta {} cs) :=
  good_of cl _ ht (encodeFrom_sgr_mem P.delta ParamsOk (by rw [sgrResetQ_eq]; intro p hp; cases hp) P.paramsOk cs {} hcs)

theorem bytes_encodedL (cs : List LCell) : encodeFromBL P.deltaB {} {} cs = bytesOfLToks (encodeFromL P.delta {} {} cs) :=
  encodeFromBL_eq _ _ P.deltaB_eq cs {} {}

theorem goodL_encoded (cl : Str → Nat) (cs : List LCell) (hcs : ∀ c ∈ cs, c.cell.st.ulStyle ≤ 5) (hl : CellLinksOK cs)
    (ht : TextOKL cl (encodeFromL P.delta {} {} cs)) : GoodL cl (encodeFromL P.delta {} {} cs) :=
  have h := encodeFromL_mem P.delta ParamsOk (by rw [sgrResetQ_eq]; intro p hp; cases hp) P.paramsOk cs {} {} hcs hl
  goodL_of cl _ ht h.1 h.2

end ProducerB

theorem Consumer.pen_delta_bytes (C : Consumer) (P : ProducerB) (cl : Str → Nat) (p n : Style) (hp : p.wf) (hn : n.wf) :
    penOf C.f (P.view p) (tokenize cl (P.deltaB p n)) = .ok (P.view n) := by
  have hg := good_sgrs cl [] trivial _ (P.paramsOk p n hn.ulStyle)
  rw [List.append_nil] at hg
  rw [P.deltaB_eq, ← bytesOfToks_sgrs, tokenize_toks cl _ hg, penOf_items]
  exact (Reads.of_foldC _ _ _ (C.reads_delta P.toProducer p n hp hn)).penAfter

theorem nss_delta_bytes (P : ProducerB) (cl : Str → Nat) (p n : Style) (hp : p.wf) (hn : n.wf)
    (g : Str) (hg : ∃ c g', g = c :: g' ∧ 0x20 ≤ c) (hcl : cl g = g.length) :
    nssLoop cl {} (P.deltaB p n ++ g).length (P.view p) (P.deltaB p n ++ g) = .ok [⟨g, P.view n⟩] := by
  have hgood : Good cl ((P.delta p n).map Tok.sgr ++ [Tok.text g]) :=
    good_sgrs cl [Tok.text g] ⟨hg, by simpa [bytesOfToks] using hcl, trivial⟩ _ (P.paramsOk p n hn.ulStyle)
  have hb : bytesOfToks ((P.delta p n).map Tok.sgr ++ [Tok.text g]) = P.deltaB p n ++ g := by
    rw [bytesOfToks_append, bytesOfToks_sgrs, P.deltaB_eq]; simp [bytesOfToks, tokBytes]
  rw [← hb, nss_toks cl {} _ _ _ hgood (Nat.le_refl _)]
  exact ((Reads.of_foldC _ _ _ (ssC.reads_delta P.toProducer p n hp hn)).append (.text (.nil _))).ssParseToks rfl

/-- A string consumer `X` that is the token-level consumer `Y` on printed token lists (`*_toks`) is `Y` on the tokens of
    any producer's encoder, read from the bytes that encoder writes. -/
theorem producer_read {β : Type} (P : ProducerB) (cl : Str → Nat) (X : Str → β) (Y : List (Tok Seq Str) → β)
    (hXY : ∀ ts, Good cl ts → X (bytesOfToks ts) = Y ts) (cs : List (Cell Str)) (hul : ∀ c ∈ cs, c.st.ulStyle ≤ 5)
    (ht : TextOK cl (encodeFrom P.delta {} cs)) :
    X (encodeFromB P.deltaB {} cs) = Y (encodeFrom P.delta {} cs) := by
  rw [P.bytes_encoded, hXY _ (P.good_encoded cl cs hul ht)]

theorem producer_readL {β : Type} (P : ProducerB) (cl : Str → Nat) (X : Str → β) (Y : List LTok → β)
    (hXY : ∀ ts, GoodL cl ts → X (bytesOfLToks ts) = Y ts) (cs : List LCell) (hcs : ∀ c ∈ cs, c.cell.st.wf)
    (hl : CellLinksOK cs) (ht : TextOKL cl (encodeFromL P.delta {} {} cs)) :
    X (encodeFromBL P.deltaB {} {} cs) = Y (encodeFromL P.delta {} {} cs) := by
  rw [P.bytes_encodedL, hXY _ (P.goodL_encoded cl cs (ul_of_wf cs hcs) hl ht)]

end VaxisModel.Lemmas.SgrCodec
