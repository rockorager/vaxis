/-
C18: the style a consumer holds when it follows the renderer on a terminal with given capabilities
(`capStyle`: direct colours replaced by their palette fallback without `rgb`; no underline colour and only
off / single underline without `styledUnderlines`), it is well formed (by the shape of `Color.asIndex`, C07's model) and shows what `shownCaps` says.
-/
import VaxisModel.Lemmas.Sgr

namespace VaxisModel.Lemmas.SgrDelta
open VaxisModel VaxisModel.Gen VaxisModel.Model.Sgr VaxisModel.Spec VaxisModel.Lemmas.Sgr
open VaxisModel.Model.Color (Color indexColor rgbColor asIndex asIndexWith isRGB)

/-- The style whose `shown` is `shownCaps rgb su s`: what the renderer's sequences make of `s` on such a terminal. -/
def capStyle (rgb su : Bool) (s : Style) : Style :=
  { fg := if rgb then s.fg else asIndex s.fg,
    bg := if rgb then s.bg else asIndex s.bg,
    ul := if su then (if rgb then s.ul else asIndex s.ul) else 0,
    ulStyle := if su then s.ulStyle else (if s.ulStyle = SgrCases.UnderlineOff then 0 else 1),
    attr := s.attr }

theorem capStyle_full (s : Style) : capStyle true true s = s := by
  cases s; rfl

theorem capStyle_default (rgb su : Bool) : capStyle rgb su {} = {} := by
  cases rgb <;> cases su <;> simp [capStyle, asIndex_zero] <;> rfl

theorem shown_capStyle (rgb su : Bool) (s : Style) : shown (capStyle rgb su s) = shownCaps rgb su s := by
  cases rgb <;> cases su <;> simp [shown, shownCaps, capStyle, col_zero]

/-- The palette fallback of a constructor-built colour is constructor-built, whatever the palette and the weights: by the
    shape of `asIndex` alone (unchanged unless direct; else `IndexColor(uint8(i + 16))` for the selected entry; C07 proves
    which entry). -/
theorem asIndex_wf (c : Color) (h : Color.wf c) : Color.wf (asIndex c) := by
  unfold asIndex asIndexWith
  split
  · exact h
  · split
    · exact Or.inl rfl
    · exact Or.inr (Or.inl ⟨_, Nat.mod_lt _ (by decide), rfl⟩)

theorem capStyle_wf (rgb su : Bool) (s : Style) (h : s.wf) : (capStyle rgb su s).wf := by
  have hc : ∀ c, Color.wf c → Color.wf (if rgb then c else asIndex c) := fun c hc => by
    cases rgb
    · exact asIndex_wf _ hc
    · exact hc
  refine ⟨hc _ h.fg, hc _ h.bg, ?_, ?_, h.attr⟩
  · show Color.wf (if su then (if rgb then s.ul else asIndex s.ul) else 0)
    cases su
    · exact Or.inl rfl
    · exact hc _ h.ul
  · show (if su then s.ulStyle else (if s.ulStyle = SgrCases.UnderlineOff then 0 else 1)) ≤ 5
    cases su
    · simp only [Bool.false_eq_true, if_false]; split <;> omega
    · exact h.ulStyle

end VaxisModel.Lemmas.SgrDelta
