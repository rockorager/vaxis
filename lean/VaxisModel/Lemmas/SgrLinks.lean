/-
Lemmas for `Model/SgrLinks.lean`: the printed token sequence with hyperlinks is read back by the C02 parser model
(`scan_ltoks`); plain token sequences are the hyperlink-free case (`tokenize_toks`, `parseStyledB_toks`, `encodeFrom_sgr_mem`
are declared here, under the namespace of `Lemmas/SgrBytes.lean`).  `encodeFromL` is read through the relation `Reads` by whoever
reads its pen deltas and hyperlinks (an OSC 8 token is one more control sequence), of which the consumers that pass over
hyperlinks and the open-hyperlink bit `linkOpen` are projections.  How `NewStyledString` reads such a string is proved for the
loop with the hyperlink fields (`Lemmas/SgrLinksFull.lean`), of which the loop without them is the projection.
-/
import VaxisModel.Model.SgrLinks
import VaxisModel.Lemmas.SgrBytes
import VaxisModel.Lemmas.SgrCodec
import VaxisModel.Props.C02

namespace VaxisModel.Lemmas.SgrLinks
open VaxisModel.Gen VaxisModel.Model.Sgr VaxisModel.Model.SgrBytes VaxisModel.Model.SgrLinks
open VaxisModel.Lemmas.ParserParams VaxisModel.Lemmas.Sgr VaxisModel.Lemmas.SgrBytes VaxisModel.Lemmas.SgrReads
open VaxisModel.Model.Parser (PState pstep run)
open VaxisModel.Model.ParserTable (Inp StateId)
open VaxisModel.Lemmas.Parser (ground_print)

theorem osc8Bytes_eq (l : Link) : osc8Bytes l = ltokBytes (.link (osc8Payload l)) := by
  have h1 : bytesOf Sequences.osc8 = [0x1B, 0x5D, 0x38, 0x3B, 0x25, 0x73, 0x3B, 0x25, 0x73, 0x1B, 0x5C] := by decide
  unfold osc8Bytes
  rw [h1]
  simp [sprintfS, ltokBytes, osc8Payload]

theorem bytesOfLToks_append (a b : List LTok) : bytesOfLToks (a ++ b) = bytesOfLToks a ++ bytesOfLToks b := by
  simp [bytesOfLToks]

theorem bytesOfLToks_cons (t : LTok) (r : List LTok) : bytesOfLToks (t :: r) = ltokBytes t ++ bytesOfLToks r := by
  simp [bytesOfLToks]

theorem bytesOfLToks_sgrs (l : List Seq) : bytesOfLToks (l.map (fun q => LTok.tok (.sgr q))) = bytesOfSeqs l := by
  induction l with
  | nil => rfl
  | cons q l ih => rw [List.map_cons, bytesOfLToks_cons, ih, bytesOfSeqs_cons]; rfl

theorem encodeFromBL_eq (deltaB : Style → Style → Str) (delta : Style → Style → List Seq)
    (h : ∀ p n, deltaB p n = bytesOfSeqs (delta p n)) :
    ∀ (cs : List LCell) (s : Style) (l : Link), encodeFromBL deltaB s l cs = bytesOfLToks (encodeFromL delta s l cs) := by
  intro cs
  induction cs with
  | nil =>
    intro s l
    unfold encodeFromBL encodeFromL
    rw [bytesOfLToks_append]
    congr 1
    · split
      · simp [bytesOfLToks, osc8Bytes_eq]
      · rfl
    · split
      · rw [b_sgrReset]; simp [bytesOfLToks, ltokBytes, tokBytes]
      · rfl
  | cons c cs ih =>
    intro s l
    unfold encodeFromBL encodeFromL
    rw [bytesOfLToks_append, bytesOfLToks_sgrs, bytesOfLToks_append, bytesOfLToks_cons, h, ih]
    congr 2
    split
    · simp [bytesOfLToks, osc8Bytes_eq]
    · rfl

def litemOf : LTok → Item
  | .tok t => itemOf t
  | .link p => .seq (.osc p)

/-- Hypotheses on a token sequence with hyperlinks: as `Good`, and an OSC 8 payload starts with `8;` and has no
    control characters (so the parser's OSC string and NewStyledString's `Cut` end at the ST written after it). -/
def GoodL (cl : Str → Nat) : List LTok → Prop
  | [] => True
  | .tok (.sgr q) :: r => ParamsOk q ∧ GoodL cl r
  | .tok (.text g) :: r => (∃ c g', g = c :: g' ∧ 0x20 ≤ c) ∧ cl (g ++ bytesOfLToks r) = g.length ∧ GoodL cl r
  | .link p :: r => (∃ p', p = 0x38 :: 0x3B :: p') ∧ (∀ b ∈ p, 0x20 ≤ b) ∧ GoodL cl r

theorem scan_ltoks (cl : Str → Nat) : ∀ (ts : List LTok) (s : PState) (fuel : Nat),
    s.state = .ground → s.exit = none → s.osc = [] → GoodL cl ts → (bytesOfLToks ts).length ≤ fuel →
    scan cl fuel s (bytesOfLToks ts) = ts.map litemOf := by
  intro ts
  induction ts with
  | nil => intro s fuel _ _ _ _ _; exact scan_nil cl fuel s
  | cons t r ih =>
    intro s fuel hs he ho hg hf
    rw [bytesOfLToks_cons] at hf ⊢
    match t, hg with
    | .tok (.sgr q), hg =>
      obtain ⟨hq, hr⟩ := hg
      have hrun := run_csiM s he q hq
      show scan cl fuel s (csiM q ++ bytesOfLToks r) = _
      have hf' : (csiM q ++ bytesOfLToks r).length ≤ fuel := hf
      rw [scan_run cl (csiM q) s fuel _ (by rw [hrun]; intro x hx c; simp at hx; subst hx; simp)
        (by simp at hf'; omega), hrun]
      simp only [List.map_cons, List.map_nil, List.cons_append, List.nil_append, litemOf, itemOf]
      congr 1
      exact ih _ _ rfl he ho hr (by simp at hf'; omega)
    | .tok (.text g), hg =>
      obtain ⟨⟨c, g', rfl, hc⟩, hcl, hr⟩ := hg
      show scan cl fuel s ((c :: g') ++ bytesOfLToks r) = _
      have hf' : ((c :: g') ++ bytesOfLToks r).length ≤ fuel := hf
      cases fuel with
      | zero => simp at hf'
      | succ fuel =>
        simp only [List.cons_append] at hcl hf' ⊢
        conv => lhs; unfold scan
        simp only [ground_print s hs c hc, hcl]
        obtain ⟨hn, ht, hd⟩ := cluster_cut c g' (bytesOfLToks r)
        rw [hn, ht, hd]
        simp only [List.map_cons, litemOf, itemOf]
        congr 1
        exact ih s fuel hs he ho hr (by simp at hf'; omega)
    | .link p, hg =>
      obtain ⟨⟨p', rfl⟩, hp, hr⟩ := hg
      have hrun := VaxisModel.Props.C02.osc_roundtrip_st s he ho (0x38 :: 0x3B :: p') hp (by simp)
      show scan cl fuel s ((0x1B :: 0x5D :: ((0x38 :: 0x3B :: p') ++ [0x1B, 0x5C])) ++ bytesOfLToks r) = _
      have hf' : ((0x1B :: 0x5D :: ((0x38 :: 0x3B :: p') ++ [0x1B, 0x5C])) ++ bytesOfLToks r).length ≤ fuel := hf
      rw [scan_run cl _ s fuel _ (by rw [hrun]; intro x hx c; simp at hx; subst hx; simp)
        (by simp at hf' ⊢; omega), hrun]
      simp only [List.map_cons, List.map_nil, List.cons_append, List.nil_append, litemOf]
      congr 1
      exact ih _ _ rfl rfl rfl hr (by simp at hf' ⊢; omega)

theorem cellsOf_litems (ts : List LTok) : ∀ s, cellsOf s (ts.map litemOf) = parseToks parseSGR s (dropLinks ts) := by
  induction ts with
  | nil => intro s; rfl
  | cons t r ih =>
    intro s
    match t with
    | .link p => simp only [List.map_cons, litemOf, cellsOf, dropLinks, ih]
    | .tok (.text g) =>
      simp only [List.map_cons, litemOf, itemOf, cellsOf, dropLinks, parseToks, ih]
      cases parseToks parseSGR s (dropLinks r) <;> rfl
    | .tok (.sgr q) =>
      simp only [List.map_cons, litemOf, itemOf, cellsOf, dropLinks, parseToks, toNat_ofNat, if_true]
      cases parseSGR s q with
      | error e => rfl
      | ok s' => exact ih s'

theorem parseStyledB_ltoks (cl : Str → Nat) (ts : List LTok) (hg : GoodL cl ts) :
    parseStyledB cl (bytesOfLToks ts) = parseStyled (dropLinks ts) := by
  unfold parseStyledB tokenize parseStyled
  rw [scan_ltoks cl ts PState.init _ rfl rfl rfl hg (Nat.le_refl _), cellsOf_litems]

theorem bytesOfLToks_toks (ts : List (Tok Seq Str)) : bytesOfLToks (ts.map .tok) = bytesOfToks ts := by
  simp [bytesOfLToks, bytesOfToks, List.map_map, Function.comp_def, ltokBytes]

theorem goodL_toks (cl : Str → Nat) : ∀ (ts : List (Tok Seq Str)), Good cl ts → GoodL cl (ts.map .tok)
  | [], _ => trivial
  | .sgr _ :: r, h => ⟨h.1, goodL_toks cl r h.2⟩
  | .text _ :: r, h => ⟨h.1, by rw [bytesOfLToks_toks]; exact h.2.1, goodL_toks cl r h.2.2⟩

theorem _root_.VaxisModel.Lemmas.SgrBytes.tokenize_toks (cl : Str → Nat) (ts : List (Tok Seq Str)) (hg : Good cl ts) :
    tokenize cl (bytesOfToks ts) = ts.map itemOf := by
  unfold tokenize
  rw [← bytesOfLToks_toks, scan_ltoks cl _ PState.init _ rfl rfl rfl (goodL_toks cl ts hg) (Nat.le_refl _), List.map_map]
  rfl

theorem dropLinks_toks : ∀ (ts : List (Tok Seq Str)), dropLinks (ts.map .tok) = ts
  | [] => rfl
  | _ :: r => congrArg _ (dropLinks_toks r)

theorem _root_.VaxisModel.Lemmas.SgrBytes.parseStyledB_toks (cl : Str → Nat) (ts : List (Tok Seq Str)) (hg : Good cl ts) :
    parseStyledB cl (bytesOfToks ts) = parseStyled ts := by
  rw [← bytesOfLToks_toks, parseStyledB_ltoks cl _ (goodL_toks cl ts hg), dropLinks_toks]

theorem cutST_append (a rest : Str) (ha : ∀ b ∈ a, 0x20 ≤ b) : cutST (a ++ 0x1B :: 0x5C :: rest) = (a, rest) := by
  induction a with
  | nil => simp [cutST]
  | cons b a ih =>
    have hb : b ≠ 0x1B := by have := ha b (by simp); omega
    have ih' := ih (fun x hx => ha x (by simp [hx]))
    cases a with
    | nil =>
      simp only [List.cons_append, List.nil_append, cutST, hb, false_and, if_false] at ih' ⊢
      simp
    | cons c a' =>
      simp only [List.cons_append, cutST, hb, false_and, if_false] at ih' ⊢
      rw [ih']

theorem goodL_empty (cl : Str → Nat) : ∀ (r : List LTok), GoodL cl r → (bytesOfLToks r).isEmpty = r.isEmpty
  | [], _ => rfl
  | .tok (.sgr q) :: r, _ => by rw [bytesOfLToks_cons]; simp [ltokBytes, tokBytes, csiM]
  | .tok (.text g) :: r, h => by
    obtain ⟨⟨c, g', rfl, _⟩, _⟩ := h
    rw [bytesOfLToks_cons]; simp [ltokBytes, tokBytes]
  | .link p :: r, _ => by rw [bytesOfLToks_cons]; simp [ltokBytes]

def TextOKL (cl : Str → Nat) : List LTok → Prop
  | [] => True
  | .tok (.sgr _) :: r => TextOKL cl r
  | .link _ :: r => TextOKL cl r
  | .tok (.text g) :: r => (∃ c g', g = c :: g' ∧ 0x20 ≤ c) ∧ cl (g ++ bytesOfLToks r) = g.length ∧ TextOKL cl r

def LinkOK (p : Str) : Prop := (∃ p', p = 0x38 :: 0x3B :: p') ∧ ∀ b ∈ p, 0x20 ≤ b

theorem goodL_of (cl : Str → Nat) : ∀ (ts : List LTok), TextOKL cl ts → (∀ q, LTok.tok (.sgr q) ∈ ts → ParamsOk q) →
    (∀ p, LTok.link p ∈ ts → LinkOK p) → GoodL cl ts
  | [], _, _, _ => trivial
  | .tok (.sgr q) :: r, ht, hs, hl =>
    ⟨hs q (by simp), goodL_of cl r ht (fun q' h => hs q' (by simp [h])) (fun p h => hl p (by simp [h]))⟩
  | .tok (.text g) :: r, ht, hs, hl =>
    ⟨ht.1, ht.2.1, goodL_of cl r ht.2.2 (fun q' h => hs q' (by simp [h])) (fun p h => hl p (by simp [h]))⟩
  | .link p :: r, ht, hs, hl =>
    ⟨(hl p (by simp)).1, (hl p (by simp)).2, goodL_of cl r ht (fun q' h => hs q' (by simp [h])) (fun p' h => hl p' (by simp [h]))⟩

def CellLinksOK (cs : List LCell) : Prop := ∀ c ∈ cs, (∀ b ∈ c.link.url, 0x20 ≤ b) ∧ (∀ b ∈ c.link.params, 0x20 ≤ b)

theorem osc8Payload_ok (l : Link) (h1 : ∀ b ∈ l.url, 0x20 ≤ b) (h2 : ∀ b ∈ l.params, 0x20 ≤ b) : LinkOK (osc8Payload l) := by
  refine ⟨⟨_, rfl⟩, ?_⟩
  intro b hb
  unfold osc8Payload at hb
  simp only [List.mem_cons, List.mem_append] at hb
  rcases hb with rfl | rfl | hb | rfl | hb
  · decide
  · decide
  · split at hb
    · simp at hb
    · exact h2 b hb
  · decide
  · exact h1 b hb

theorem encodeFromL_mem (delta : Style → Style → List Seq) (P : Seq → Prop) (hreset : P sgrResetQ)
    (hd : ∀ p n, n.ulStyle ≤ 5 → ∀ q ∈ delta p n, P q) :
    ∀ (cs : List LCell) (s : Style) (l : Link), (∀ c ∈ cs, c.cell.st.ulStyle ≤ 5) → CellLinksOK cs →
      (∀ q, LTok.tok (.sgr q) ∈ encodeFromL delta s l cs → P q) ∧
      (∀ p, LTok.link p ∈ encodeFromL delta s l cs → LinkOK p) := by
  intro cs
  induction cs with
  | nil =>
    intro s l _ _
    unfold encodeFromL
    constructor
    · intro q hq
      simp only [List.mem_append] at hq
      rcases hq with hq | hq
      · split at hq <;> simp at hq
      · split at hq
        · simp at hq; subst hq; exact hreset
        · simp at hq
    · intro p hp
      simp only [List.mem_append] at hp
      rcases hp with hp | hp
      · split at hp
        · simp at hp; subst hp
          exact osc8Payload_ok {} (by simp) (by simp)
        · simp at hp
      · split at hp <;> simp at hp
  | cons c cs ih =>
    intro s l hcs hlk
    obtain ⟨ih1, ih2⟩ := ih c.cell.st c.link (fun d hd' => hcs d (by simp [hd'])) (fun d hd' => hlk d (by simp [hd']))
    unfold encodeFromL
    constructor
    · intro q hq
      simp only [List.mem_append, List.mem_map, List.mem_cons] at hq
      rcases hq with ⟨q', hq', e⟩ | hq | hq | hq
      · injection e with e; injection e with e; subst e
        exact hd s c.cell.st (hcs c (by simp)) q' hq'
      · split at hq <;> simp at hq
      · cases hq
      · exact ih1 q hq
    · intro p hp
      simp only [List.mem_append, List.mem_map, List.mem_cons] at hp
      rcases hp with ⟨q', _, e⟩ | hp | hp | hp
      · cases e
      · split at hp
        · simp at hp; subst hp
          exact osc8Payload_ok c.link (hlk c (by simp)).1 (hlk c (by simp)).2
        · simp at hp
      · cases hp
      · exact ih2 p hp

theorem encodeFromL_plain (delta : Style → Style → List Seq) : ∀ (cs : List (Cell Str)) (s : Style),
    encodeFromL delta s {} (cs.map fun c => ⟨c, {}⟩) = (encodeFrom delta s cs).map .tok
  | [], s => by unfold encodeFromL encodeFrom; by_cases h : s = {} <;> simp [h]
  | c :: cs, s => by
    simp only [List.map_cons, encodeFromL, encodeFrom, encodeFromL_plain delta cs, bne_self_eq_false, Bool.false_eq_true, if_false,
      List.nil_append, List.map_append, List.map_map, Function.comp_def]

theorem _root_.VaxisModel.Lemmas.SgrBytes.encodeFrom_sgr_mem (delta : Style → Style → List Seq) (P : Seq → Prop) (hreset : P sgrResetQ)
    (hd : ∀ p n, n.ulStyle ≤ 5 → ∀ q ∈ delta p n, P q) (cs : List (Cell Str)) (s : Style) (hcs : ∀ c ∈ cs, c.st.ulStyle ≤ 5)
    (q : Seq) (hq : Tok.sgr q ∈ encodeFrom delta s cs) : P q :=
  (encodeFromL_mem delta P hreset hd (cs.map fun c => ⟨c, {}⟩) s {} (by simpa using hcs) (by intro c hc; simp at hc; obtain ⟨_, _, rfl⟩ := hc; simp)).1 q
    (by rw [encodeFromL_plain]; exact List.mem_map_of_mem hq)

theorem osc8Payload_closed_iff (l : Link) : osc8Payload l = osc8Payload {} ↔ l.url = [] := by
  constructor
  · intro h
    by_cases hu : l.url = []
    · exact hu
    · have := congrArg List.length h
      simp [osc8Payload, hu] at this
      cases hl : l.url with
      | nil => exact absurd hl hu
      | cons a b => rw [hl] at this; simp at this; omega
  · intro h; simp [osc8Payload, h]

/-! An OSC 8 token is one more kind of control sequence: `LTok` embeds into `Tok (Seq ⊕ Str) Str`, and a consumer handles
`.inl q` (SGR) and `.inr payload` (hyperlink). -/

def ltok : LTok → Tok (Seq ⊕ Str) Str
  | .tok (.sgr q) => .sgr (.inl q)
  | .tok (.text g) => .text g
  | .link p => .sgr (.inr p)

/-- Whoever reads the pen deltas (whatever hyperlink is open), an OSC 8 as the step to the link it names, and the bare reset
    as the return to the default, reads the whole string as the cells in his view `v`. -/
theorem reads_encodeFromL {π ε : Type} (F : π → Seq ⊕ Str → Except ε π) (v : Style → Link → π) (ok : Style → Prop)
    (delta : Style → Style → List Seq)
    (hdelta : ∀ s n l, ok s → ok n → Reads (γ := Str) F (v s l) ((delta s n).map fun q => .sgr (.inl q)) [] (v n l))
    (hlink : ∀ s cur l, cur.url ≠ l.url → F (v s cur) (.inr (osc8Payload l)) = .ok (v s l))
    (hsame : ∀ s cur l, cur.url = l.url → v s cur = v s l)
    (hreset : ∀ s l, l.url = [] → F (v s l) (.inl sgrResetQ) = .ok (v {} {})) :
    ∀ (cs : List LCell) (s : Style) (cur : Link), ok s → (∀ c ∈ cs, ok c.cell.st) →
      Reads F (v s cur) ((encodeFromL delta s cur cs).map ltok) (cs.map fun c => (c.cell.g, v c.cell.st c.link)) (v {} {})
  | [], s, cur, _, _ => by
    unfold encodeFromL
    by_cases hu : cur.url = []
    · by_cases hz : (s != {} || cur != {}) = true
      · simp only [hu, bne_self_eq_false, Bool.false_eq_true, if_false, hz, if_true, List.nil_append, List.map_cons, List.map_nil, ltok]
        exact .sgr (hreset s cur hu) (.nil _)
      · have : s = {} ∧ cur = {} := by simpa using hz
        simp only [bne_self_eq_false, Bool.false_eq_true, if_false, List.nil_append, List.map_nil, this.1, this.2]
        exact .nil _
    · have hz : (s != {} || cur != {}) = true := by
        have : cur ≠ {} := fun h => hu (by rw [h])
        simp [this]
      have hu' : (cur.url != []) = true := by simpa using hu
      simp only [hu', if_true, hz, List.cons_append, List.nil_append, List.map_cons, List.map_nil, ltok]
      exact .sgr (hlink s cur {} hu) (.sgr (hreset s {} rfl) (.nil _))
  | c :: cs, s, cur, hs, hcs => by
    have hc := hcs c (List.mem_cons_self ..)
    have ih := reads_encodeFromL F v ok delta hdelta hlink hsame hreset cs c.cell.st c.link hc
      (fun d hd => hcs d (List.mem_cons_of_mem _ hd))
    unfold encodeFromL
    rw [List.map_append, List.map_map, List.map_append, List.map_cons]
    refine (hdelta s c.cell.st cur hs hc).append ?_
    by_cases hu : cur.url = c.link.url
    · have hu' : (cur.url != c.link.url) = false := by simpa using hu
      simp only [hu', Bool.false_eq_true, if_false, List.map_nil, List.nil_append, ltok]
      rw [hsame c.cell.st cur c.link hu]
      exact .text ih
    · have hu' : (cur.url != c.link.url) = true := by simpa using hu
      simp only [hu', if_true, List.map_cons, List.map_nil, List.cons_append, List.nil_append, ltok]
      exact .sgr (hlink c.cell.st cur c.link hu) (.text ih)

def skipLinks (f : Style → Seq → Except Panic Style) (s : Style) : Seq ⊕ Str → Except Panic Style
  | .inl q => f s q
  | .inr _ => .ok s

theorem Reads.dropLinks {f : Style → Seq → Except Panic Style} : ∀ (ts : List LTok) {s l e},
    Reads (skipLinks f) s (ts.map ltok) l e → Reads f s (dropLinks ts) l e
  | [], _, _, _, h => by cases h; exact .nil _
  | .tok (.text _) :: r, _, _, _, h => by cases h with | text h => exact .text (Reads.dropLinks r h)
  | .tok (.sgr _) :: r, _, _, _, h => by cases h with | sgr hf h => exact .sgr hf (Reads.dropLinks r h)
  | .link _ :: r, _, _, _, h => by cases h with | sgr hf h => cases hf; exact Reads.dropLinks r h

theorem Reads.ssParseLToks {f : Style → Seq → Except Panic Style} : ∀ (ts : List LTok) {s l e cs},
    Reads (skipLinks f) s (ts.map ltok) l e → cells l = cs → ssParseLToks f s ts = .ok cs
  | [], _, _, _, _, h, hl => by cases h; cases hl; rfl
  | .tok (.text g) :: r, _, _, _, _, h, hl => by
    cases h with | text h => cases hl; simp only [Model.SgrLinks.ssParseLToks, Reads.ssParseLToks r h rfl, cells, List.map_cons]
  | .link _ :: r, _, _, _, _, h, hl => by
    cases h with | sgr hf h => cases hf; exact Reads.ssParseLToks r h hl
  | .tok (.sgr q) :: r, s, _, _, _, h, hl => by
    cases h with
    | sgr hf h =>
      have hf' : f s q = .ok _ := hf
      cases r with
      | nil => cases h; cases hl; rfl
      | cons t r =>
        simp only [Model.SgrLinks.ssParseLToks, List.isEmpty_cons, Bool.false_eq_true, if_false, hf']
        exact Reads.ssParseLToks (t :: r) h hl

/-- Is a hyperlink open: a consumer whose pen is one bit. -/
def openF (b : Bool) : Seq ⊕ Str → Except Panic Bool
  | .inl _ => .ok b
  | .inr p => .ok (decide (p ≠ osc8Payload {}))

theorem Reads.linkOpen : ∀ (ts : List LTok) {b l e}, Reads openF b (ts.map ltok) l e → linkOpen b ts = e
  | [], _, _, _, h => by cases h; rfl
  | .tok (.text _) :: r, _, _, _, h => by cases h with | text h => exact Reads.linkOpen r h
  | .tok (.sgr _) :: r, _, _, _, h => by cases h with | sgr hf h => cases hf; exact Reads.linkOpen r h
  | .link _ :: r, _, _, _, h => by cases h with | sgr hf h => cases hf; exact Reads.linkOpen r h

theorem reads_open_sgrs (b : Bool) : ∀ xs : List Seq, Reads (γ := Str) openF b (xs.map fun q => .sgr (.inl q)) [] b
  | [] => .nil b
  | _ :: xs => .sgr rfl (reads_open_sgrs b xs)

theorem linkOpen_encodeFromL (delta : Style → Style → List Seq) (cs : List LCell) (s : Style) (l : Link) :
    linkOpen (decide (l.url ≠ [])) (encodeFromL delta s l cs) = false :=
  Reads.linkOpen _ (reads_encodeFromL openF (fun _ l => decide (l.url ≠ [])) (fun _ => True) delta
    (fun _ _ _ _ _ => reads_open_sgrs _ _) (fun _ _ l _ => by simp only [openF, ne_eq, osc8Payload_closed_iff])
    (fun _ _ _ h => by rw [h]) (fun _ l h => by simp [openF, h]) cs s l trivial (fun _ _ => trivial))

theorem reads_encodedL (C : SgrCodec.Consumer) (P : SgrCodec.Producer) (cs : List LCell) (hcs : ∀ c ∈ cs, c.cell.st.wf) :
    Reads (skipLinks C.f) {} ((encodeFromL P.delta {} {} cs).map ltok) (cs.map fun c => (c.cell.g, P.view c.cell.st)) {} := by
  have := reads_encodeFromL (skipLinks C.f) (fun s _ => P.view s) Style.wf P.delta
    (fun s n _ hs hn => .of_foldC_map Sum.inl (fun _ _ => rfl) _ _ _ (C.reads_delta P s n hs hn)) (fun _ _ _ _ => rfl) (fun _ _ _ _ => rfl)
    (fun s _ _ => (C.reset _).trans (congrArg _ P.view_default.symm)) cs {} {} wf_default hcs
  rwa [P.view_default] at this

theorem cells_cell (cs : List LCell) : cells (cs.map fun c => (c.cell.g, id c.cell.st)) = cs.map (·.cell) := by
  simp [cells, List.map_map, Function.comp_def]

end VaxisModel.Lemmas.SgrLinks
