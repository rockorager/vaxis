/-
C18: `NewStyledString` restores hyperlinks (URL and parameters) — lemmas for `Model.SgrLinks.nssLoopL`:
byte level = token level on printed token sequences (`nssL_ltoks`), the OSC 8 payload is read back as the link
(`linkOfSeq_payload`), the SGR sequences `Encode` writes never touch the link (`Sgr.ssDelta_mem`, `ssSeqL_emittable`),
what it returns for the encoding of any cell list (`parse_encoded`: the cells with the links `readBack` computes), hence the
round trip under `LinksRestorable` (`ss_roundtrip_links_full`).
-/
import VaxisModel.Lemmas.SgrLinks

namespace VaxisModel.Lemmas.SgrLinksFull
open VaxisModel.Gen VaxisModel.Model.Sgr VaxisModel.Model.SgrBytes VaxisModel.Model.SgrLinks
open VaxisModel.Lemmas.ParserParams VaxisModel.Lemmas.Sgr VaxisModel.Lemmas.SgrBytes VaxisModel.Lemmas.SgrLinks
open VaxisModel.Model.Color (indexColor rgbColor)

/-- A link the encoders can transmit: parameters without `;`, and none at all for the empty URL (`linkPs = ""`). -/
def LinkCanon (l : Link) : Prop := (∀ b ∈ l.params, b ≠ 0x3B) ∧ (l.url = [] → l.params = [])

/-- `Cut(seq, ";")` on the payload `8;params;url` (after `TrimPrefix "ESC ] 8 ;"`) gives the link back. -/
theorem linkOfSeq_payload (l : Link) (h : LinkCanon l) : linkOfSeq ((osc8Payload l).drop 2) = l := by
  obtain ⟨h1, h2⟩ := h
  have hd : (osc8Payload l).drop 2 = (if l.url = [] then [] else l.params) ++ 0x3B :: l.url := rfl
  rw [hd]
  unfold linkOfSeq
  by_cases hu : l.url = []
  · have hp := h2 hu
    rw [if_pos hu, cutByte_append 0x3B [] l.url (by simp)]
    cases l; simp_all
  · rw [if_neg hu, cutByte_append 0x3B l.params l.url h1]

theorem linkOfSeq_closing : linkOfSeq ((osc8Payload {}).drop 2) = {} :=
  linkOfSeq_payload {} ⟨by simp, fun _ => rfl⟩

theorem ssLoopK_nil (cfg : Cfg) (dflt : Style) (k : Nat) (s : Style) : ssLoopK cfg dflt k [] s = .ok s := by
  cases k <;> rfl

theorem ssLoopKL_nil (cfg : Cfg) (dflt : Style) (dl : Link) (k : Nat) (s : Style) (l : Link) :
    ssLoopKL cfg dflt dl k [] s l = .ok (s, l) := by
  cases k <;> rfl

/-- The style part of `ssLoopKL` is `ssLoopK` (the link never influences the style). -/
theorem ssLoopKL_fst (cfg : Cfg) (dflt : Style) (dl : Link) : ∀ (ps : List (List SubTok)) (k : Nat) (s : Style) (l : Link),
    (match ssLoopKL cfg dflt dl k ps s l with | .ok r => Except.ok r.1 | .error e => .error e) = ssLoopK cfg dflt k ps s := by
  intro ps
  induction ps with
  | nil => intro k s l; rw [ssLoopKL_nil, ssLoopK_nil]
  | cons subs rest ih =>
    intro k s l
    cases k with
    | succ k => simp only [ssLoopKL, ssLoopK]; exact ih k s l
    | zero =>
      simp only [ssLoopKL, ssLoopK]
      cases h : ssOne cfg dflt s subs rest with
      | error e => rfl
      | ok r => obtain ⟨s', k'⟩ := r; exact ih k' s' _

theorem ssLoopKL_single (cfg : Cfg) (dflt : Style) (dl : Link) (subs : List SubTok) (s : Style) (l : Link)
    (h0 : isResetParam cfg subs = false) :
    ssLoopKL cfg dflt dl 0 [subs] s l =
      match ssLoop cfg dflt [subs] s with
      | .ok s' => .ok (s', l)
      | .error e => .error e := by
  simp only [ssLoopKL, ssLoop, ssLoopK, h0, Bool.false_eq_true, if_false]
  cases ssOne cfg dflt s subs [] with
  | error e => rfl
  | ok r => obtain ⟨s', k'⟩ := r; rfl

theorem ssSeqL_emittable (dflt : Style) (dl : Link) (s : Style) (l : Link) (x : Seq) (hx : emittable x = true) (hne : x ≠ []) :
    ssSeqL dflt dl s l x =
      match ssSeq dflt s x with
      | .ok s' => .ok (s', l)
      | .error e => .error e := by
  have key : ∀ (p0 : Nat) (tl : List Nat), p0 ≠ 0 →
      ssSeqL dflt dl s l [p0 :: tl] =
        match ssSeq dflt s [p0 :: tl] with
        | .ok s' => .ok (s', l)
        | .error e => .error e := by
    intro p0 tl hp
    have hr : isResetParam ssCfg ((p0 :: tl).map tokN) = false := by
      simp [isResetParam, tokN, hp]
    simp only [ssSeqL, ssSeq, ssSeqTok, List.isEmpty_cons, Bool.false_eq_true, if_false, List.map_cons, List.map_nil]
    exact ssLoopKL_single ssCfg dflt dl _ s l hr
  rcases emittable_cases x hx with rfl | ⟨p, hp, rfl⟩ | ⟨n, _, rfl⟩ | ⟨p, n, hp, _, rfl⟩ | ⟨p, r, g, b, hp, _, _, _, rfl⟩
  · exact absurd rfl hne
  · exact key p [] (solo_ne0 p hp)
  · exact key 4 [n] (by decide)
  · exact key p [5, n] (by rcases hp with rfl | rfl | rfl <;> decide)
  · exact key p [2, r, g, b] (by rcases hp with rfl | rfl | rfl <;> decide)

def foldCL (f : Style → Link → Seq → Except Panic (Style × Link)) : Style → Link → List Seq → Except Panic (Style × Link)
  | s, l, [] => .ok (s, l)
  | s, l, x :: r =>
    match f s l x with
    | .ok (s', l') => foldCL f s' l' r
    | .error e => .error e

theorem nssL_step_sgr (cl : Str → Nat) (dflt : Style) (dl : Link) (fuel : Nat) (st : Style) (lk : Link) (body rest : Str)
    (hb : ∀ b ∈ body, b ≠ 0x6D) :
    nssLoopL cl dflt dl (fuel + 1) st lk (0x1B :: 0x5B :: (body ++ 0x6D :: rest)) =
      if rest.isEmpty then .ok []
      else if body.isEmpty then nssLoopL cl dflt dl fuel dflt dl rest
      else
        match ssLoopKL ssCfg dflt dl 0 (splitParams body) st lk with
        | .error e => .error e
        | .ok (st', lk') => nssLoopL cl dflt dl fuel st' lk' rest := by
  conv => lhs; unfold nssLoopL
  have hd : List.drop 2 (0x1B :: 0x5B :: (body ++ 0x6D :: rest)) = body ++ 0x6D :: rest := rfl
  simp only [hasCsiPrefix, if_true, hd, cutM_append body rest hb]
  split
  · rfl
  · split
    · rfl
    · cases ssLoopKL ssCfg dflt dl 0 (splitParams body) st lk <;> rfl

theorem nssL_step_text (cl : Str → Nat) (dflt : Style) (dl : Link) (fuel : Nat) (st : Style) (lk : Link) (c : Nat)
    (g' rest : Str) (hc : 0x20 ≤ c) (hcl : cl (c :: g' ++ rest) = (c :: g').length) :
    nssLoopL cl dflt dl (fuel + 1) st lk (c :: g' ++ rest) =
      match nssLoopL cl dflt dl fuel st lk rest with
      | .ok cs => .ok (⟨⟨c :: g', st⟩, lk⟩ :: cs)
      | .error e => .error e := by
  have hpre : hasCsiPrefix (c :: (g' ++ rest)) = false := by
    unfold hasCsiPrefix
    split
    · rename_i h; injection h with h _; omega
    · rfl
  have hosc : hasOsc8Prefix (c :: (g' ++ rest)) = false := by
    unfold hasOsc8Prefix
    split
    · rename_i h; injection h with h _; omega
    · rfl
  obtain ⟨hn, ht, hd⟩ := cluster_cut c g' rest
  simp only [List.cons_append] at hcl ⊢
  conv => lhs; unfold nssLoopL
  simp only [hpre, hosc, Bool.false_eq_true, if_false, hcl, hn, ht, hd]
  cases nssLoopL cl dflt dl fuel st lk rest <;> rfl

theorem nssL_step_link (cl : Str → Nat) (dflt : Style) (dl : Link) (fuel : Nat) (st : Style) (lk : Link) (p' rest : Str)
    (hp : ∀ b ∈ p', 0x20 ≤ b) :
    nssLoopL cl dflt dl (fuel + 1) st lk (0x1B :: 0x5D :: 0x38 :: 0x3B :: (p' ++ 0x1B :: 0x5C :: rest)) =
      nssLoopL cl dflt dl fuel st (linkOfSeq p') rest := by
  conv => lhs; unfold nssLoopL
  have h1 : hasCsiPrefix (0x1B :: 0x5D :: 0x38 :: 0x3B :: (p' ++ 0x1B :: 0x5C :: rest)) = false := by rfl
  have h2 : hasOsc8Prefix (0x1B :: 0x5D :: 0x38 :: 0x3B :: (p' ++ 0x1B :: 0x5C :: rest)) = true := by rfl
  have hd : List.drop 4 (0x1B :: 0x5D :: 0x38 :: 0x3B :: (p' ++ 0x1B :: 0x5C :: rest)) = p' ++ 0x1B :: 0x5C :: rest := rfl
  simp only [h1, h2, Bool.false_eq_true, if_false, if_true, hd, cutST_append p' rest hp]

theorem nssL_ltoks (cl : Str → Nat) (dflt : Style) (dl : Link) : ∀ (ts : List LTok) (st : Style) (lk : Link) (fuel : Nat),
    GoodL cl ts → (bytesOfLToks ts).length ≤ fuel →
    nssLoopL cl dflt dl fuel st lk (bytesOfLToks ts) = ssParseLToksL (ssSeqL dflt dl) st lk ts := by
  intro ts
  induction ts with
  | nil => intro st lk fuel _ _; cases fuel <;> rfl
  | cons t r ih =>
    intro st lk fuel hg hf
    rw [bytesOfLToks_cons] at hf ⊢
    match t, hg with
    | .tok (.sgr q), hg =>
      obtain ⟨hq, hr⟩ := hg
      have h2 := csiM_length_pos q
      have hf' : (csiM q ++ bytesOfLToks r).length ≤ fuel := hf
      show nssLoopL cl dflt dl fuel st lk (csiM q ++ bytesOfLToks r) = _
      cases fuel with
      | zero => simp only [List.length_append] at hf'; omega
      | succ fuel =>
        have hshape : csiM q ++ bytesOfLToks r = 0x1B :: 0x5B :: (encParams q ++ 0x6D :: bytesOfLToks r) := by
          simp [csiM]
        have hlen : (bytesOfLToks r).length ≤ fuel := by
          simp only [List.length_append] at hf'; omega
        rw [hshape, nssL_step_sgr cl dflt dl fuel st lk _ _ (encParams_no_m q), goodL_empty cl r hr]
        simp only [ssParseLToksL]
        by_cases hre : r.isEmpty = true
        · simp [hre]
        · simp only [hre, Bool.false_eq_true, if_false]
          cases q with
          | nil =>
            simp only [encParams, List.isEmpty_nil, if_true]
            rw [ih dflt dl fuel hr hlen]
            rfl
          | cons p q' =>
            have hne : (encParams (p :: q')).isEmpty = false := by
              have := encParams_ne_nil (p :: q') (by simp) hq
              cases h : encParams (p :: q') with
              | nil => exact absurd h this
              | cons _ _ => rfl
            simp only [hne, Bool.false_eq_true, if_false]
            rw [splitParams_encParams (p :: q') hq (by simp)]
            have hss : ssSeqL dflt dl st lk (p :: q') = ssLoopKL ssCfg dflt dl 0 ((p :: q').map (·.map tokN)) st lk := by
              simp [ssSeqL]
            rw [hss]
            cases ssLoopKL ssCfg dflt dl 0 ((p :: q').map (·.map tokN)) st lk with
            | error e => rfl
            | ok r' => obtain ⟨st', lk'⟩ := r'; exact ih st' lk' fuel hr hlen
    | .tok (.text g), hg =>
      obtain ⟨⟨c, g', rfl, hc⟩, hcl, hr⟩ := hg
      have hf' : ((c :: g') ++ bytesOfLToks r).length ≤ fuel := hf
      show nssLoopL cl dflt dl fuel st lk ((c :: g') ++ bytesOfLToks r) = _
      cases fuel with
      | zero => simp at hf'
      | succ fuel =>
        rw [nssL_step_text cl dflt dl fuel st lk c g' _ hc hcl, ih st lk fuel hr (by simp at hf'; omega)]
        simp only [ssParseLToksL]
        cases ssParseLToksL (ssSeqL dflt dl) st lk r <;> rfl
    | .link p, hg =>
      obtain ⟨⟨p', rfl⟩, hp, hr⟩ := hg
      have hp' : ∀ b ∈ p', 0x20 ≤ b := fun b hb => hp b (by simp [hb])
      have hshape : ltokBytes (.link (0x38 :: 0x3B :: p')) ++ bytesOfLToks r =
          0x1B :: 0x5D :: 0x38 :: 0x3B :: (p' ++ 0x1B :: 0x5C :: bytesOfLToks r) := by
        simp [ltokBytes]
      rw [hshape] at hf ⊢
      cases fuel with
      | zero => simp at hf
      | succ fuel =>
        rw [nssL_step_link cl dflt dl fuel st lk p' _ hp', ih st _ fuel hr (by simp at hf; omega)]
        simp only [ssParseLToksL, List.drop_succ_cons, List.drop_zero]

theorem newStyledStringBL_ltoks (cl : Str → Nat) (dflt : Style) (dl : Link) (ts : List LTok) (hg : GoodL cl ts) :
    newStyledStringBL cl dflt dl (bytesOfLToks ts) = ssParseLToksL (ssSeqL dflt dl) dflt dl ts := by
  unfold newStyledStringBL
  exact nssL_ltoks cl dflt dl ts dflt dl _ hg (Nat.le_refl _)

/-- The restriction under which the hyperlinks of a cell list can come back: `Encode` writes OSC 8 only when the URL
    differs from the previous cell's (the cursor starts without a link), and writes no parameters for the empty URL.
    So: every link is `LinkCanon`, and a cell with the same URL as its predecessor has the same parameters. -/
def LinksRestorable : Link → List LCell → Prop
  | _, [] => True
  | l, c :: cs => LinkCanon c.link ∧ (c.link.url = l.url → c.link.params = l.params) ∧ LinksRestorable c.link cs

theorem ssParseLToksL_sgrs (f : Style → Link → Seq → Except Panic (Style × Link)) (xs : List Seq) (rest : List LTok)
    (hrest : rest ≠ []) :
    ∀ s l, ssParseLToksL f s l (xs.map (fun q => LTok.tok (.sgr q)) ++ rest) =
      match foldCL f s l xs with
      | .ok (s', l') => ssParseLToksL f s' l' rest
      | .error e => .error e := by
  induction xs with
  | nil => intro s l; rfl
  | cons x xs ih =>
    intro s l
    have hne : (List.map (fun q => LTok.tok (.sgr q)) xs ++ rest).isEmpty = false := by
      cases xs <;> cases rest <;> simp_all
    simp only [List.map_cons, List.cons_append, ssParseLToksL, foldCL, hne]
    cases f s l x with
    | error e => rfl
    | ok r => obtain ⟨s', l'⟩ := r; exact ih s' l'

/-- What `NewStyledString` returns for the encoding of any cell list: each cell with the link the parser holds there — the
    one it held before (`pl`) where the encoder, believing `el` current, sends no OSC 8, else what `Cut` makes of the payload. -/
def readBack : Link → Link → List LCell → List LCell
  | _, _, [] => []
  | pl, el, c :: cs =>
    let pl' := if el.url = c.link.url then pl else linkOfSeq ((osc8Payload c.link).drop 2)
    ⟨c.cell, pl'⟩ :: readBack pl' c.link cs

theorem parse_encoded (f : Style → Link → Seq → Except Panic (Style × Link)) (delta : Style → Style → List Seq)
    (hdelta : ∀ s n l, s.wf → n.wf → foldCL f s l (delta s n) = .ok (n, l)) :
    ∀ (cs : List LCell) (s : Style) (pl el : Link), s.wf → (∀ c ∈ cs, c.cell.st.wf) →
      ssParseLToksL f s pl (encodeFromL delta s el cs) = .ok (readBack pl el cs)
  | [], s, pl, el, _, _ => by
    unfold encodeFromL
    by_cases hu : (el.url != []) = true <;> by_cases hc : (s != {} || el != {}) = true <;>
      simp [hu, hc, ssParseLToksL, readBack]
  | c :: cs, s, pl, el, hs, hcs => by
    have hc : c.cell.st.wf := hcs c (List.mem_cons_self ..)
    have ih := fun pl' => parse_encoded f delta hdelta cs c.cell.st pl' c.link hc (fun d hd => hcs d (List.mem_cons_of_mem _ hd))
    unfold encodeFromL
    rw [ssParseLToksL_sgrs f _ _ (by split <;> simp), hdelta s c.cell.st pl hs hc]
    by_cases hu : el.url = c.link.url
    · have hu' : (el.url != c.link.url) = false := by simp [hu]
      simp only [hu', Bool.false_eq_true, if_false, List.nil_append, ssParseLToksL, ih, readBack, if_pos hu]
    · have hu' : (el.url != c.link.url) = true := by simp [hu]
      simp only [hu', if_true, List.cons_append, List.nil_append, ssParseLToksL, ih, readBack, if_neg hu]

theorem readBack_of_restorable : ∀ (cs : List LCell) (l : Link), LinksRestorable l cs → readBack l l cs = cs
  | [], _, _ => rfl
  | c :: cs, l, ⟨hcan, hsame, hrest⟩ => by
    have hl : (if l.url = c.link.url then l else linkOfSeq ((osc8Payload c.link).drop 2)) = c.link := by
      split
      · rename_i hu
        have hp := hsame hu.symm
        cases l; cases hcl : c.link; rw [hcl] at hu hp; simp_all
      · exact linkOfSeq_payload c.link hcan
    simp only [readBack, hl, readBack_of_restorable cs c.link hrest]

theorem ss_roundtrip_links_full (f : Style → Link → Seq → Except Panic (Style × Link)) (delta : Style → Style → List Seq)
    (hdelta : ∀ s n l, s.wf → n.wf → foldCL f s l (delta s n) = .ok (n, l))
    (cs : List LCell) (s : Style) (l : Link) (hs : s.wf) (hcs : ∀ c ∈ cs, c.cell.st.wf) (hr : LinksRestorable l cs) :
    ssParseLToksL f s l (encodeFromL delta s l cs) = .ok cs := by
  rw [parse_encoded f delta hdelta cs s l l hs hcs, readBack_of_restorable cs l hr]

theorem nssLoopL_cells (cl : Str → Nat) (dflt : Style) (dl : Link) : ∀ (fuel : Nat) (st : Style) (lk : Link) (s : Str),
    (match nssLoopL cl dflt dl fuel st lk s with | .ok cs => Except.ok (cs.map (·.cell)) | .error e => .error e)
      = nssLoop cl dflt fuel st s := by
  intro fuel
  induction fuel with
  | zero => intro st lk s; rfl
  | succ fuel ih =>
    intro st lk s
    cases s with
    | nil => rfl
    | cons c r =>
      conv => lhs; unfold nssLoopL
      conv => rhs; unfold nssLoop
      by_cases h1 : hasCsiPrefix (c :: r) = true
      · simp only [h1, if_true]
        by_cases hA : (cutM (List.drop 2 (c :: r))).2.isEmpty = true
        · simp only [hA, if_true, List.map_nil]
        · simp only [hA, Bool.false_eq_true, if_false]
          by_cases hB : (cutM (List.drop 2 (c :: r))).1.isEmpty = true
          · simp only [hB, if_true]; exact ih dflt dl _
          · simp only [hB, Bool.false_eq_true, if_false]
            have hf := ssLoopKL_fst ssCfg dflt dl (splitParams (cutM (List.drop 2 (c :: r))).1) 0 st lk
            unfold ssLoop
            rw [← hf]
            cases ssLoopKL ssCfg dflt dl 0 (splitParams (cutM (List.drop 2 (c :: r))).1) st lk with
            | error e => rfl
            | ok r' => obtain ⟨st', lk'⟩ := r'; exact ih st' lk' _
      · simp only [h1, Bool.false_eq_true, if_false]
        by_cases h2 : hasOsc8Prefix (c :: r) = true
        · simp only [h2, if_true]; exact ih st _ _
        · simp only [h2, Bool.false_eq_true, if_false]
          rw [← ih st lk (List.drop (max 1 (cl (c :: r))) (c :: r))]
          cases nssLoopL cl dflt dl fuel st lk (List.drop (max 1 (cl (c :: r))) (c :: r)) <;> rfl

theorem ssSeqL_fst (dflt : Style) (dl : Link) (s : Style) (l : Link) (ps : Seq) :
    (match ssSeqL dflt dl s l ps with | .ok r => Except.ok r.1 | .error e => .error e) = ssSeq dflt s ps := by
  cases ps with
  | nil => rfl
  | cons p ps => exact ssLoopKL_fst ssCfg dflt dl _ 0 s l

theorem ssParseLToksL_cells (dflt : Style) (dl : Link) : ∀ (ts : List LTok) (st : Style) (lk : Link),
    (match ssParseLToksL (ssSeqL dflt dl) st lk ts with | .ok cs => Except.ok (cs.map (·.cell)) | .error e => .error e)
      = ssParseLToks (ssSeq dflt) st ts
  | [], _, _ => rfl
  | .link p :: r, st, lk => by simp only [ssParseLToksL, ssParseLToks]; exact ssParseLToksL_cells dflt dl r st _
  | .tok (.text g) :: r, st, lk => by
    simp only [ssParseLToksL, ssParseLToks, ← ssParseLToksL_cells dflt dl r st lk]
    cases ssParseLToksL (ssSeqL dflt dl) st lk r <;> rfl
  | .tok (.sgr q) :: r, st, lk => by
    simp only [ssParseLToksL, ssParseLToks, ← ssSeqL_fst dflt dl st lk q]
    by_cases hr : r.isEmpty = true
    · simp only [hr, if_true, List.map_nil]
    · simp only [hr, Bool.false_eq_true, if_false]
      cases ssSeqL dflt dl st lk q with
      | error e => rfl
      | ok r' => exact ssParseLToksL_cells dflt dl r r'.1 r'.2

theorem newStyledStringB_ltoks (cl : Str → Nat) (dflt : Style) (ts : List LTok) (hg : GoodL cl ts) :
    newStyledStringB cl dflt (bytesOfLToks ts) = ssParseLToks (ssSeq dflt) dflt ts := by
  unfold newStyledStringB
  rw [← nssLoopL_cells cl dflt {} _ dflt {}, nssL_ltoks cl dflt {} ts dflt {} _ hg (Nat.le_refl _)]
  exact ssParseLToksL_cells dflt {} ts dflt {}

theorem ssParseLToks_toks (f : Style → Seq → Except Panic Style) : ∀ (ts : List (Tok Seq Str)) (s : Style),
    ssParseLToks f s (ts.map .tok) = ssParseToks f s ts
  | [], _ => rfl
  | .text g :: r, s => by
    simp only [List.map_cons, ssParseLToks, ssParseToks, ssParseLToks_toks f r s]
    cases ssParseToks f s r <;> rfl
  | .sgr q :: r, s => by
    simp only [List.map_cons, ssParseLToks, ssParseToks, List.isEmpty_map]
    split
    · rfl
    · cases f s q with
      | error e => rfl
      | ok s' => exact ssParseLToks_toks f r s'

theorem _root_.VaxisModel.Lemmas.SgrBytes.nss_toks (cl : Str → Nat) (dflt : Style) (ts : List (Tok Seq Str)) (st : Style)
    (fuel : Nat) (hg : Good cl ts) (hf : (bytesOfToks ts).length ≤ fuel) :
    nssLoop cl dflt fuel st (bytesOfToks ts) = ssParseToks (ssSeq dflt) st ts := by
  rw [← bytesOfLToks_toks] at hf ⊢
  rw [← nssLoopL_cells cl dflt {} fuel st {}, nssL_ltoks cl dflt {} _ st {} fuel (goodL_toks cl ts hg) hf, ssParseLToksL_cells,
    ssParseLToks_toks]

theorem _root_.VaxisModel.Lemmas.SgrBytes.newStyledStringB_toks (cl : Str → Nat) (dflt : Style) (ts : List (Tok Seq Str))
    (hg : Good cl ts) : newStyledStringB cl dflt (bytesOfToks ts) = ssParse dflt ts :=
  SgrBytes.nss_toks cl dflt ts dflt _ hg (Nat.le_refl _)

theorem ssLoopKL_skip2 (cfg : Cfg) (dflt : Style) (dl : Link) (a b : List SubTok) (s : Style) (l : Link) :
    ssLoopKL cfg dflt dl 2 [a, b] s l = .ok (s, l) := rfl

theorem ssLoopKL_skip4 (cfg : Cfg) (dflt : Style) (dl : Link) (a b c d : List SubTok) (s : Style) (l : Link) :
    ssLoopKL cfg dflt dl 4 [a, b, c, d] s l = .ok (s, l) := rfl

theorem ssSeqL_idx_legacy (dflt : Style) (dl : Link) (s : Style) (l : Link) (p n : Nat) (hp : p = 38 ∨ p = 48) :
    ssSeqL dflt dl s l [[p], [5], [n]] = .ok (setCol p s (indexColor (u8 n)), l) := by
  have hl : p ∈ ssCfg.labels := by rcases hp with rfl | rfl <;> decide
  have ha : ssCfg.accepts p 1 = true := by rcases hp with rfl | rfl <;> decide
  rcases hp with rfl | rfl <;>
    simp [ssSeqL, ssLoopKL, ssOne, idx, tokN, hl, ssColour, ssLegacy, rawIs, rawAtoi, ha, setCol, u8i_nat, isResetParam]

theorem ssSeqL_rgb_legacy (dflt : Style) (dl : Link) (s : Style) (l : Link) (p r g b : Nat) (hp : p = 38 ∨ p = 48) :
    ssSeqL dflt dl s l [[p], [2], [r], [g], [b]] = .ok (setCol p s (rgbColor (u8 r) (u8 g) (u8 b)), l) := by
  have hl : p ∈ ssCfg.labels := by rcases hp with rfl | rfl <;> decide
  have ha : ssCfg.accepts p 1 = true := by rcases hp with rfl | rfl <;> decide
  rcases hp with rfl | rfl <;>
    simp [ssSeqL, ssLoopKL, ssOne, idx, tokN, hl, ssColour, ssLegacy, rawIs, rawAtoi, ha, setCol, u8i_nat, isResetParam]

theorem ssSeqL_emittableLegacy (dflt : Style) (dl : Link) (s : Style) (l : Link) (x : Seq) (hx : emittableLegacy x = true) (hne : x ≠ []) :
    ssSeqL dflt dl s l x =
      match ssSeq dflt s x with
      | .ok s' => .ok (s', l)
      | .error e => .error e := by
  rcases emittableLegacy_cases x hx with h | ⟨p, n, hp, _, rfl⟩ | ⟨p, r, g, b, hp, _, _, _, rfl⟩
  · exact ssSeqL_emittable dflt dl s l x h hne
  -- the style part of `ssSeqL` is `ssSeq` (`ssSeqL_fst`), so one evaluation gives both sides
  · rw [← ssSeqL_fst dflt dl s l, ssSeqL_idx_legacy dflt dl s l p n hp]
  · rw [← ssSeqL_fst dflt dl s l, ssSeqL_rgb_legacy dflt dl s l p r g b hp]

theorem foldCL_of_foldC (dflt : Style) (dl : Link) (xs : List Seq) (hx : ∀ x ∈ xs, emittableLegacy x = true ∧ x ≠ []) :
    ∀ (s : Style) (l : Link) (n : Style), foldC (ssSeq dflt) s xs = .ok n → foldCL (ssSeqL dflt dl) s l xs = .ok (n, l) := by
  induction xs with
  | nil => intro s l n h; simp only [foldC] at h; injection h with h; subst h; rfl
  | cons x r ih =>
    intro s l n h
    obtain ⟨he, hne⟩ := hx x (List.mem_cons_self ..)
    simp only [foldC] at h
    simp only [foldCL, ssSeqL_emittableLegacy dflt dl s l x he hne]
    cases hs : ssSeq dflt s x with
    | error e => rw [hs] at h; cases h
    | ok s' =>
      rw [hs] at h
      exact ih (fun y hy => hx y (List.mem_cons_of_mem _ hy)) s' l n h

theorem ssL_reads_delta (P : SgrCodec.Producer) (s n : Style) (l : Link) (hs : s.wf) (hn : n.wf) :
    foldCL (ssSeqL {} {}) (P.view s) l (P.delta s n) = .ok (P.view n, l) :=
  foldCL_of_foldC {} {} _ (P.mem s n hn.ulStyle) _ l _ (SgrCodec.ssC.reads_delta P s n hs hn)

/-- `LinksRestorable` as the driver evaluates it. -/
theorem restorableB_iff : ∀ (cs : List LCell) (l : Link), restorableB l cs = true ↔ LinksRestorable l cs := by
  intro cs
  induction cs with
  | nil => intro l; simp [restorableB, LinksRestorable]
  | cons c cs ih =>
    intro l
    simp only [restorableB, LinksRestorable, LinkCanon, Bool.and_eq_true, ih c.link]
    constructor
    · rintro ⟨⟨⟨h1, h2⟩, h3⟩, h4⟩
      refine ⟨⟨?_, ?_⟩, ?_, h4⟩
      · intro b hb he; subst he; simp [hb] at h1
      · intro hu; simpa [hu] using h2
      · intro hu; simpa [hu] using h3
    · rintro ⟨⟨h1, h2⟩, h3, h4⟩
      refine ⟨⟨⟨?_, ?_⟩, ?_⟩, h4⟩
      · simp only [Bool.not_eq_true', List.contains_eq_mem, decide_eq_false_iff_not]; intro hm; exact h1 _ hm rfl
      · by_cases hu : c.link.url = [] <;> simp [hu, h2]
      · by_cases hu : c.link.url = l.url <;> simp [hu, h3]

end VaxisModel.Lemmas.SgrLinksFull
