/-
C18, hyperlinks: NECESSITY of `LinksRestorable` for the round trip `Encode` / `NewStyledString` with the hyperlink
fields.  Token level: when `ssParseLToksL` returns the cell list that `encodeFromL` was given (cursor link = the link
the parser holds, and that link transmittable — `LinkCanon`, as the start link `{}` is), the list is `LinksRestorable`.
-/
import VaxisModel.Lemmas.SgrLinksFull

namespace VaxisModel.Lemmas.SgrLinksIff
open VaxisModel.Gen VaxisModel.Model.Sgr VaxisModel.Model.SgrBytes VaxisModel.Model.SgrLinks
open VaxisModel.Lemmas.Sgr VaxisModel.Lemmas.SgrBytes VaxisModel.Lemmas.SgrLinks VaxisModel.Lemmas.SgrLinksFull

theorem cutByte_fst_no_sep (sep : Nat) : ∀ (s : Str), ∀ b ∈ (cutByte sep s).1, b ≠ sep := by
  intro s
  induction s with
  | nil => intro b hb; simp [cutByte] at hb
  | cons c r ih =>
    intro b hb
    unfold cutByte at hb
    by_cases hc : c = sep
    · simp [hc] at hb
    · simp only [hc, if_false, List.mem_cons] at hb
      rcases hb with rfl | hb
      · exact hc
      · exact ih b hb

theorem cutByte_fst_length_lt (sep : Nat) : ∀ (a rest : Str), sep ∈ a → (cutByte sep (a ++ rest)).1.length < a.length := by
  intro a
  induction a with
  | nil => intro _ h; cases h
  | cons c r ih =>
    intro rest h
    by_cases hc : c = sep
    · simp [cutByte, hc]
    · have hr : sep ∈ r := by
        rcases List.mem_cons.mp h with h | h
        · exact absurd h.symm hc
        · exact h
      have := ih rest hr
      simp only [List.cons_append, cutByte, hc, if_false, List.length_cons]
      omega

/-- The payload read back (`TrimPrefix "ESC ] 8 ;"`, then `Cut(seq, ";")`): parameters up to the first `;` of
    `params;url` (of `;url` for the empty URL), URL everything after it. -/
theorem linkOfSeq_payload_eq (l : Link) :
    linkOfSeq ((osc8Payload l).drop 2) =
      ⟨(cutByte 0x3B ((if l.url = [] then [] else l.params) ++ 0x3B :: l.url)).2,
       (cutByte 0x3B ((if l.url = [] then [] else l.params) ++ 0x3B :: l.url)).1⟩ := rfl

theorem linkCanon_of_payload (l : Link) (h : linkOfSeq ((osc8Payload l).drop 2) = l) : LinkCanon l := by
  rw [linkOfSeq_payload_eq] at h
  have hp : (cutByte 0x3B ((if l.url = [] then [] else l.params) ++ 0x3B :: l.url)).1 = l.params :=
    congrArg Link.params h
  by_cases hu : l.url = []
  · rw [if_pos hu] at hp
    have hp' : l.params = [] := by rw [← hp]; simp [cutByte]
    exact ⟨(by rw [hp']; intro b hb; cases hb), fun _ => hp'⟩
  · rw [if_neg hu] at hp
    refine ⟨?_, fun h0 => absurd h0 hu⟩
    rw [← hp]
    exact cutByte_fst_no_sep 0x3B _

theorem linkCanon_iff_payload (l : Link) : linkOfSeq ((osc8Payload l).drop 2) = l ↔ LinkCanon l :=
  ⟨linkCanon_of_payload l, linkOfSeq_payload l⟩

theorem linkCanon_default : LinkCanon {} := ⟨(by intro b hb; cases hb), fun _ => rfl⟩

theorem linkOfSeq_payload_empty_url (l : Link) (hu : l.url = []) : linkOfSeq ((osc8Payload l).drop 2) = {} := by
  rw [linkOfSeq_payload_eq, if_pos hu, hu]
  rfl

theorem linkOfSeq_payload_semicolon (l : Link) (hu : l.url ≠ []) (hs : 0x3B ∈ l.params) :
    (linkOfSeq ((osc8Payload l).drop 2)).params.length < l.params.length := by
  rw [linkOfSeq_payload_eq, if_neg hu]
  exact cutByte_fst_length_lt 0x3B l.params _ hs

theorem restorable_of_readBack : ∀ (cs : List LCell) (l : Link), LinkCanon l → readBack l l cs = cs → LinksRestorable l cs
  | [], _, _, _ => trivial
  | c :: cs, l, hl, h => by
    simp only [readBack, List.cons.injEq] at h
    obtain ⟨hhead, htail⟩ := h
    have hlink : (if l.url = c.link.url then l else linkOfSeq ((osc8Payload c.link).drop 2)) = c.link :=
      congrArg LCell.link hhead
    rw [hlink] at htail
    by_cases hu : l.url = c.link.url
    · rw [if_pos hu] at hlink
      subst hlink
      exact ⟨hl, fun _ => rfl, restorable_of_readBack cs _ hl htail⟩
    · rw [if_neg hu] at hlink
      have hcan := linkCanon_of_payload c.link hlink
      exact ⟨hcan, fun h' => absurd h'.symm hu, restorable_of_readBack cs c.link hcan htail⟩

theorem ss_roundtrip_links_needs (f : Style → Link → Seq → Except Panic (Style × Link)) (delta : Style → Style → List Seq)
    (hdelta : ∀ s n l, s.wf → n.wf → foldCL f s l (delta s n) = .ok (n, l))
    (cs : List LCell) (s : Style) (l : Link) (hs : s.wf) (hcs : ∀ c ∈ cs, c.cell.st.wf) (hl : LinkCanon l)
    (h : ssParseLToksL f s l (encodeFromL delta s l cs) = .ok cs) : LinksRestorable l cs := by
  rw [parse_encoded f delta hdelta cs s l l hs hcs, Except.ok.injEq] at h
  exact restorable_of_readBack cs l hl h

theorem ss_roundtrip_links_iff (f : Style → Link → Seq → Except Panic (Style × Link)) (delta : Style → Style → List Seq)
    (hdelta : ∀ s n l, s.wf → n.wf → foldCL f s l (delta s n) = .ok (n, l))
    (cs : List LCell) (s : Style) (l : Link) (hs : s.wf) (hcs : ∀ c ∈ cs, c.cell.st.wf) (hl : LinkCanon l) :
    ssParseLToksL f s l (encodeFromL delta s l cs) = .ok cs ↔ LinksRestorable l cs :=
  ⟨ss_roundtrip_links_needs f delta hdelta cs s l hs hcs hl, ss_roundtrip_links_full f delta hdelta cs s l hs hcs⟩

theorem restorable_mem_canon : ∀ (cs : List LCell) (l : Link), LinksRestorable l cs → ∀ c ∈ cs, LinkCanon c.link := by
  intro cs
  induction cs with
  | nil => intro _ _ c hc; cases hc
  | cons d cs ih =>
    intro l h c hc
    obtain ⟨h1, _, h3⟩ := h
    rcases List.mem_cons.mp hc with rfl | hc
    · exact h1
    · exact ih d.link h3 c hc

theorem restorable_neighbours : ∀ (cs : List LCell) (l : Link), LinksRestorable l cs →
    ∀ (i : Nat) (h : i + 1 < cs.length), (cs[i + 1]).link.url = (cs[i]).link.url → (cs[i + 1]).link.params = (cs[i]).link.params := by
  intro cs
  induction cs with
  | nil => intro _ _ i h; simp at h
  | cons d cs ih =>
    intro l hr i h
    obtain ⟨_, _, h3⟩ := hr
    cases i with
    | zero =>
      cases cs with
      | nil => simp at h
      | cons e cs => intro hu; exact h3.2.1 hu
    | succ i =>
      have h' : i + 1 < cs.length := by simpa using h
      simpa using ih d.link h3 i h'

theorem restorable_of_clauses : ∀ (cs : List LCell) (l : Link), (∀ c ∈ cs, LinkCanon c.link) →
    (∀ c, cs.head? = some c → c.link.url = l.url → c.link.params = l.params) →
    (∀ (i : Nat) (h : i + 1 < cs.length), (cs[i + 1]).link.url = (cs[i]).link.url → (cs[i + 1]).link.params = (cs[i]).link.params) →
    LinksRestorable l cs := by
  intro cs
  induction cs with
  | nil => intro _ _ _ _; trivial
  | cons d cs ih =>
    intro l hcan hhead hnb
    refine ⟨hcan d (List.mem_cons_self ..), hhead d rfl, ih d.link (fun c hc => hcan c (List.mem_cons_of_mem _ hc)) ?_ ?_⟩
    · intro c hc
      cases cs with
      | nil => cases hc
      | cons e cs =>
        simp only [List.head?_cons, Option.some.injEq] at hc
        subst hc
        exact hnb 0 (by simp)
    · intro i h
      have := hnb (i + 1) (by simpa using h)
      simpa using this

theorem restorable_default_iff (cs : List LCell) :
    LinksRestorable {} cs ↔ (∀ c ∈ cs, LinkCanon c.link) ∧
      ∀ (i : Nat) (h : i + 1 < cs.length), (cs[i + 1]).link.url = (cs[i]).link.url → (cs[i + 1]).link.params = (cs[i]).link.params := by
  constructor
  · intro h; exact ⟨restorable_mem_canon cs {} h, restorable_neighbours cs {} h⟩
  · rintro ⟨h1, h2⟩
    refine restorable_of_clauses cs {} h1 ?_ h2
    intro c hc hu
    have hm : c ∈ cs := by
      cases cs with
      | nil => cases hc
      | cons e cs => simp only [List.head?_cons, Option.some.injEq] at hc; subst hc; exact List.mem_cons_self ..
    exact (h1 c hm).2 hu

/-- Parameters `a;b` under the URL `u`: written `ESC ] 8 ; a;b ; u ESC \`. -/
def exSemiParams : List LCell := [⟨⟨[0x61], {}⟩, ⟨[0x75], [0x61, 0x3B, 0x62]⟩⟩]

/-- Parameters `p` on a cell without URL, after a cell with the URL `u`: written `ESC ] 8 ; ; ESC \`. -/
def exEmptyUrlParams : List LCell := [⟨⟨[0x61], {}⟩, ⟨[0x75], []⟩⟩, ⟨⟨[0x62], {}⟩, ⟨[], [0x70]⟩⟩]

/-- Parameters `p` on the very first cell, without URL: nothing is written at all. -/
def exFirstParams : List LCell := [⟨⟨[0x61], {}⟩, ⟨[], [0x70]⟩⟩]

end VaxisModel.Lemmas.SgrLinksIff
