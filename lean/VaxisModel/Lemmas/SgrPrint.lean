/-
C18, byte level: the format string of a template, printed with `%d`, is the canonical printing of the instantiated template.
The token-level model instantiates parsed templates (`fmt`: a sub-parameter's value is computed from its literal digits and
arguments with `ndigits`); the byte-level model prints the Go format strings (`sprintf`).  `sprintf_printT` ties the two for
every printable template and all arguments; for a constant of sequences.go what is left is a finite check (its bytes are
`printT` of its template, which the kernel evaluates; the template is printable).
-/
import VaxisModel.Model.SgrBytes

namespace VaxisModel.Lemmas.SgrPrint
open VaxisModel.Model.Sgr VaxisModel.Model.SgrBytes VaxisModel.Lemmas.ParserParams
open VaxisModel.Gen.Sequences (Piece Template)

theorem toDigits_length (n : Nat) : (Nat.toDigits 10 n).length = (digitsOf n).length := by
  induction n using Nat.strongRecOn with
  | _ n ih =>
    unfold digitsOf
    split
    · rw [Nat.toDigits_of_lt_base ‹_›]; rfl
    · rw [Nat.toDigits_of_base_le (by decide) (by omega), List.length_append, List.length_append, ih (n / 10) (by omega)]; rfl

theorem ndigits_eq (n : Nat) : ndigits n = (digitsOf n).length := by
  unfold ndigits
  split
  · rw [digitsOf]; simp [*]
  split
  · rw [digitsOf, if_neg (by omega), digitsOf, if_pos (by omega)]; rfl
  split
  · rw [digitsOf, if_neg (by omega), digitsOf, if_neg (by omega), digitsOf, if_pos (by omega)]; rfl
  · exact toDigits_length n

theorem digitsOf_snoc (k i : Nat) (hk : 0 < k) (hi : i < 10) : digitsOf (10 * k + i) = digitsOf k ++ [0x30 + i] := by
  rw [digitsOf, if_neg (by omega), show (10 * k + i) / 10 = k by omega, show (10 * k + i) % 10 = i by omega]

/-- Appending the numeral of `a` to the numeral of a positive `acc`: the value `instSub` computes at a `%d`. -/
theorem digitsOf_hole (acc : Nat) (h : 0 < acc) (a : Nat) :
    digitsOf (acc * 10 ^ ndigits a + a) = digitsOf acc ++ digitsOf a := by
  rw [ndigits_eq]
  induction a using Nat.strongRecOn with
  | _ a ih =>
    rw [digitsOf.eq_def a]
    split
    · rw [show acc * 10 ^ [0x30 + a].length + a = 10 * acc + a by simp; omega]
      exact digitsOf_snoc acc a h ‹_›
    · have e : acc * 10 ^ (digitsOf (a / 10) ++ [0x30 + a % 10]).length + a
          = 10 * (acc * 10 ^ (digitsOf (a / 10)).length + a / 10) + a % 10 := by
        rw [List.length_append, List.length_singleton, Nat.pow_succ, ← Nat.mul_assoc]; generalize acc * 10 ^ _ = X; omega
      have hpos : 0 < acc * 10 ^ (digitsOf (a / 10)).length + a / 10 :=
        Nat.add_pos_left (Nat.mul_pos h (Nat.pow_pos (by decide))) _
      rw [e, digitsOf_snoc _ _ hpos (Nat.mod_lt _ (by decide)), ih (a / 10) (by omega), List.append_assoc]

def pieceB : Piece → Str
  | .d k => [0x30 + k]
  | .hole => [0x25, 0x64]

def subB (ps : List Piece) : Str := ps.flatMap pieceB

def paramB : List (List Piece) → Str
  | [] => []
  | [s] => subB s
  | s :: s' :: r => subB s ++ 0x3A :: paramB (s' :: r)

def tmplB : Template → Str
  | [] => []
  | [p] => paramB p
  | p :: p' :: r => paramB p ++ 0x3B :: tmplB (p' :: r)

/-- The format string a template stands for: `ESC [`, the pieces (`%d` for a hole) joined by `:` and `;`, `m`. -/
def printT (t : Template) : Str := 0x1B :: 0x5B :: (tmplB t ++ [0x6D])

def digitOK : Piece → Bool
  | .d j => j < 10
  | .hole => true

/-- A printable sub-parameter: literal digits, and a numeral of several pieces starts neither with `0` nor with a `%d` (which
    may print `0`): then the text is the numeral of the value. -/
def subWF : List Piece → Bool
  | [] => false
  | [p] => digitOK p
  | .d k :: ps => decide (0 < k) && decide (k < 10) && ps.all digitOK
  | .hole :: _ => false

def tmplWF (t : Template) : Bool := t.all fun p => !p.isEmpty && p.all subWF

theorem sprintf_lit (c : Nat) (f : Str) (args : List Nat) (hc : c ≠ 0x25) : sprintf (c :: f) args = c :: sprintf f args := by
  rw [sprintf.eq_def]
  split <;> first | rfl | simp_all

theorem sprintf_hole (f : Str) (a : Nat) (args : List Nat) :
    sprintf (0x25 :: 0x64 :: f) (a :: args) = digitsOf a ++ sprintf f args := by
  rw [sprintf]

theorem sprintf_sub (rest : Str) : ∀ (ps : List Piece) (acc : Nat) (args : List Nat), 0 < acc → ps.all digitOK = true →
    ∀ v args', instSub ps acc args = some (v, args') →
    digitsOf acc ++ sprintf (subB ps ++ rest) args = digitsOf v ++ sprintf rest args'
  | [], acc, args, _, _, v, args', h => by
    simp only [instSub, Option.some.injEq, Prod.mk.injEq] at h
    rw [← h.1, ← h.2]; rfl
  | .d k :: ps, acc, args, hacc, hd, v, args', h => by
    simp only [List.all_cons, Bool.and_eq_true, digitOK, decide_eq_true_eq] at hd
    rw [← sprintf_sub rest ps (acc * 10 + k) args (by omega) hd.2 v args' h, show acc * 10 + k = 10 * acc + k by omega,
      digitsOf_snoc acc k hacc hd.1]
    show digitsOf acc ++ sprintf ((0x30 + k) :: (subB ps ++ rest)) args = _
    rw [sprintf_lit _ _ _ (by omega), List.append_assoc]; rfl
  | .hole :: ps, acc, a :: args, hacc, hd, v, args', h => by
    simp only [List.all_cons, Bool.and_eq_true] at hd
    have hpos : 0 < acc * 10 ^ ndigits a + a := Nat.add_pos_left (Nat.mul_pos hacc (Nat.pow_pos (by decide))) _
    rw [← sprintf_sub rest ps (acc * 10 ^ ndigits a + a) args hpos hd.2 v args' h, digitsOf_hole acc hacc a]
    show digitsOf acc ++ sprintf (0x25 :: 0x64 :: (subB ps ++ rest)) (a :: args) = _
    rw [sprintf_hole, List.append_assoc]
  | .hole :: _, _, [], _, _, _, _, h => by simp [instSub] at h

theorem sprintf_sub0 (rest : Str) (ps : List Piece) (hw : subWF ps = true) (args : List Nat) (v : Nat) (args' : List Nat)
    (h : instSub ps 0 args = some (v, args')) : sprintf (subB ps ++ rest) args = digitsOf v ++ sprintf rest args' := by
  match ps, hw, args, h with
  | [.d k], hk, args, h =>
    have hk' : k < 10 := by simpa [subWF, digitOK] using hk
    simp only [instSub, Option.some.injEq, Prod.mk.injEq] at h
    rw [← h.1, ← h.2, show 0 * 10 + k = k by omega, digitsOf, if_pos hk']
    exact sprintf_lit _ _ _ (by omega)
  | [.hole], _, a :: args, h =>
    simp only [instSub, Option.some.injEq, Prod.mk.injEq] at h
    rw [← h.1, ← h.2, show 0 * 10 ^ ndigits a + a = a by omega]
    exact sprintf_hole _ _ _
  | [.hole], _, [], h => simp [instSub] at h
  | .d k :: p :: ps, hw, args, h =>
    simp only [subWF, Bool.and_eq_true, decide_eq_true_eq] at hw
    rw [← sprintf_sub rest (p :: ps) k args hw.1.1 hw.2 v args' (by simpa [instSub] using h), digitsOf, if_pos hw.1.2]
    exact sprintf_lit _ _ _ (by omega)

theorem sprintf_param (rest : Str) : ∀ (subs : List (List Piece)), subs ≠ [] → subs.all subWF = true →
    ∀ (args : List Nat) (vs : List Nat) (args' : List Nat), instParam subs args = some (vs, args') →
    vs ≠ [] ∧ sprintf (paramB subs ++ rest) args = encSub vs ++ sprintf rest args'
  | [s], _, hw, args, vs, args', h => by
    simp only [List.all_cons, List.all_nil, Bool.and_true] at hw
    simp only [instParam] at h
    split at h
    · cases h
    · rename_i v a1 h1
      simp only [Option.some.injEq, Prod.mk.injEq] at h
      rw [← h.1, ← h.2]
      exact ⟨List.cons_ne_nil _ _, sprintf_sub0 rest s hw args v a1 h1⟩
  | s :: s' :: r, _, hw, args, vs, args', h => by
    rw [List.all_cons, Bool.and_eq_true] at hw
    rw [instParam] at h
    split at h
    · cases h
    · rename_i v a1 h1
      split at h
      · cases h
      · rename_i vs' a2 h2
        simp only [Option.some.injEq, Prod.mk.injEq] at h
        obtain ⟨hne, ih⟩ := sprintf_param rest (s' :: r) (List.cons_ne_nil _ _) hw.2 a1 vs' a2 h2
        cases vs' with
        | nil => exact absurd rfl hne
        | cons w ws =>
          rw [← h.1, ← h.2]
          refine ⟨List.cons_ne_nil _ _, ?_⟩
          show sprintf (subB s ++ 0x3A :: paramB (s' :: r) ++ rest) args = digitsOf v ++ 0x3A :: encSub (w :: ws) ++ _
          rw [List.append_assoc, sprintf_sub0 _ s hw.1 args v a1 h1, List.cons_append, sprintf_lit _ _ _ (by decide), ih,
            List.append_assoc]; rfl

theorem sprintf_tmpl (rest : Str) : ∀ (t : Template), tmplWF t = true →
    ∀ (args : List Nat) (q : Seq) (args' : List Nat), instSeq t args = some (q, args') →
    (t ≠ [] → q ≠ []) ∧ sprintf (tmplB t ++ rest) args = encParams q ++ sprintf rest args'
  | [], _, args, q, args', h => by
    simp only [instSeq, Option.some.injEq, Prod.mk.injEq] at h
    rw [← h.1, ← h.2]; exact ⟨fun h => absurd rfl h, rfl⟩
  | [p], hw, args, q, args', h => by
    unfold tmplWF at hw
    simp only [List.all_cons, List.all_nil, Bool.and_true, Bool.and_eq_true, Bool.not_eq_true', List.isEmpty_eq_false_iff] at hw
    simp only [instSeq] at h
    split at h
    · cases h
    · rename_i v a1 h1
      simp only [Option.some.injEq, Prod.mk.injEq] at h
      rw [← h.1, ← h.2]
      exact ⟨fun _ => List.cons_ne_nil _ _, (sprintf_param rest p hw.1 hw.2 args v a1 h1).2⟩
  | p :: p' :: r, hw, args, q, args', h => by
    rw [tmplWF, List.all_cons, Bool.and_eq_true, Bool.and_eq_true, Bool.not_eq_true', List.isEmpty_eq_false_iff] at hw
    rw [instSeq] at h
    split at h
    · cases h
    · rename_i v a1 h1
      split at h
      · cases h
      · rename_i q' a2 h2
        simp only [Option.some.injEq, Prod.mk.injEq] at h
        obtain ⟨hne, ih⟩ := sprintf_tmpl rest (p' :: r) hw.2 a1 q' a2 h2
        cases q' with
        | nil => exact absurd rfl (hne (List.cons_ne_nil _ _))
        | cons w ws =>
          rw [← h.1, ← h.2]
          refine ⟨fun _ => List.cons_ne_nil _ _, ?_⟩
          show sprintf (paramB p ++ 0x3B :: tmplB (p' :: r) ++ rest) args = encSub v ++ 0x3B :: encParams (w :: ws) ++ _
          rw [List.append_assoc, (sprintf_param _ p hw.1.1 hw.1.2 args v a1 h1).2, List.cons_append, sprintf_lit _ _ _ (by decide), ih,
            List.append_assoc]; rfl

theorem sprintf_printT (t : Template) (hw : tmplWF t = true) (args : List Nat) (q : Seq) (h : instSeq t args = some (q, [])) :
    sprintf (printT t) args = csiM (fmt t args) := by
  have hf : fmt t args = q := by unfold fmt; rw [h]
  rw [hf, printT, csiM, sprintf_lit _ _ _ (by decide), sprintf_lit _ _ _ (by decide), (sprintf_tmpl [0x6D] t hw args q [] h).2]
  rfl

/-- The form in which it is used for a constant `s` of sequences.go: that `s` is the format string of its template and that the
    template is printable are two finite checks, left to the kernel. -/
theorem sprintf_prints (s : Str) (t : Template) (args : List Nat) (q : Seq) (h : instSeq t args = some (q, []))
    (hs : s = printT t := by decide +kernel) (hw : tmplWF t = true := by decide +kernel) : sprintf s args = csiM (fmt t args) :=
  hs ▸ sprintf_printT t hw args q h

end VaxisModel.Lemmas.SgrPrint
