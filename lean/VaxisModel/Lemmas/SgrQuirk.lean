/-
C18: a whole rendered frame read by the library's own SGR consumers (the vaxis-inside-vaxis situation: an application
rendering into the embedded terminal, or its output captured and re-parsed), for every capability setting and both format
variants.  The consumer follows the renderer with the pen `capStyle rgb su <cursor>` (`SgrCodec.Consumer.reads_frame`).
-/
import VaxisModel.Lemmas.SgrCodecBytes
import VaxisModel.Lemmas.SgrShows

namespace VaxisModel.Lemmas.SgrQuirk
open VaxisModel VaxisModel.Model.Sgr VaxisModel.Lemmas.SgrDelta VaxisModel.Lemmas.SgrReads

def capCells {γ : Type} (rgb su : Bool) (cs : List (Cell γ)) : List (Cell γ) := cs.map (fun c => ⟨c.g, capStyle rgb su c.st⟩)

theorem cells_capCells {γ : Type} (rgb su : Bool) (cs : List (Cell γ)) :
    cells (cs.map fun c => (c.g, capStyle rgb su c.st)) = capCells rgb su cs := cells_map cs _

end VaxisModel.Lemmas.SgrQuirk
