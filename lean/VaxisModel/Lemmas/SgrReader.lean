/-
C18 ∘ C02's reader model: on a complete in-memory string of Unicode scalar values, delivered to the parser in one read,
`ParserIO.runChunks` (bufio fill loop, `readRune`, `print`'s look-ahead over the buffer) delivers exactly the items of
`SgrBytes.scan` with the cluster oracle on the remaining runes, followed by what the parser emits at end of input.
It is the case of `ParserRead.runLoop_turn` in which every unit of the stream is a rune and the reader is determined by how many
it has passed (`units_utf8`, `adv_buffered`).
-/
import VaxisModel.Model.SgrReader
import VaxisModel.Lemmas.SgrBytes
import VaxisModel.Lemmas.ParserRead
import VaxisModel.Props.C02

namespace VaxisModel.Lemmas.SgrReader
open VaxisModel.Model.Sgr VaxisModel.Model.SgrBytes VaxisModel.Model.SgrReader
open VaxisModel.Model.ParserTable VaxisModel.Model.Parser VaxisModel.Model.ParserIO VaxisModel.Model.ParserUtf8
open VaxisModel.Lemmas.ParserUtf8 VaxisModel.Lemmas.ParserTextU VaxisModel.Lemmas.ParserRead
open VaxisModel.Lemmas.ParserAbs (isEof)

local notation "bytesOfRd" => VaxisModel.Lemmas.ParserText.bytesOf
local notation "IOItem" => VaxisModel.Model.ParserIO.Item
local notation "SItem" => VaxisModel.Model.SgrBytes.Item
local notation "SSeq" => VaxisModel.Model.Sgr.Seq

theorem utf8_nil : utf8 [] = [] := rfl
theorem utf8_cons (r : Nat) (w : Str) : utf8 (r :: w) = encodeRune r ++ utf8 w := by simp [utf8]
theorem utf8_append (a b : Str) : utf8 (a ++ b) = utf8 a ++ utf8 b := by simp [utf8]

theorem utf8_length_ge (w : Str) : w.length ≤ (utf8 w).length := by
  induction w with
  | nil => simp [utf8]
  | cons r w ih =>
    have := (encodeRune_length r).1
    rw [utf8_cons, List.length_append, List.length_cons]; omega

theorem encodeRune_ne_nil (r : Nat) : ∃ b t, encodeRune r = b :: t := by
  have := (encodeRune_length r).1
  cases h : encodeRune r with
  | nil => rw [h] at this; simp at this
  | cons b t => exact ⟨b, t, rfl⟩

def scalarUnit (r : Nat) : U := ⟨r, false, (encodeRune r).length⟩

theorem units_utf8 : ∀ (rs : Str), (∀ r ∈ rs, IsScalar r) → units (utf8 rs) = rs.map scalarUnit
  | [], _ => rfl
  | r :: w, h => by
    rw [utf8_cons, units_encode r (h r (by simp)), units_utf8 w (fun x hx => h x (by simp [hx]))]; rfl

theorem ulen_scalarUnits (rs : Str) : ulen (rs.map scalarUnit) = (utf8 rs).length := by
  induction rs with
  | nil => rfl
  | cons r w ih => simp only [List.map_cons, ulen_cons, ih, utf8_cons, List.length_append]; rfl

theorem utf8_eq_nil {rs : Str} (h : utf8 rs = []) : rs = [] := by
  cases rs with
  | nil => rfl
  | cons r w => obtain ⟨b, t, hb⟩ := encodeRune_ne_nil r; rw [utf8_cons, hb] at h; cases h

theorem adv_buffered {rs : Str} {pos : Nat} {us : List U} {rd' : Rd} (hs : ∀ r ∈ rs, IsScalar r)
    (a : Adv (Rd.mk (utf8 rs) [] pos) us rd') :
    us = (rs.take us.length).map scalarUnit ∧
      rd' = Rd.mk (utf8 (rs.drop us.length)) [] (pos + (utf8 (rs.take us.length)).length) := by
  have hb : bytesOfRd (Rd.mk (utf8 rs) [] pos) = utf8 rs := by simp [VaxisModel.Lemmas.ParserText.bytesOf]
  have hu := a.units
  rw [hb, units_utf8 rs hs] at hu
  have hus : us = (rs.take us.length).map scalarUnit := by
    rw [List.map_take, hu, List.take_left' rfl]
  have hlen : ulen us = (utf8 (rs.take us.length)).length := by rw [hus, ulen_scalarUnits, ← hus]
  obtain ⟨k, hc⟩ := a.chunks
  have hc' : rd'.chunks = [] := by rw [hc]; simp
  have hbuf : rd'.buf = utf8 (rs.drop us.length) := by
    have h := a.bytes
    have hsplit : utf8 rs = utf8 (rs.take us.length) ++ utf8 (rs.drop us.length) := by
      rw [← utf8_append, List.take_append_drop]
    rw [hb, hlen, hsplit, List.drop_left] at h
    simpa [VaxisModel.Lemmas.ParserText.bytesOf, hc'] using h
  refine ⟨hus, ?_⟩
  obtain ⟨bf, ch, ps⟩ := rd'
  simp only at hc' hbuf
  have hp := a.pos
  simp only [hlen] at hp
  rw [hc', hbuf, hp]

theorem eof_row : handAnywhere.row .eof = ([.runExitIfSet], .stop) := by decide

theorem eof_out (s : PState) : ∀ x ∈ (pstep s .eof).out, isPrint x = false ∧ (∀ i p f, x ≠ .csi i p f) := by
  intro x hx
  unfold pstep step runFn at hx
  simp only [handTable, eof_row, runActs, usesRune, applyAct] at hx
  cases he : s.exit with
  | none => simp [he, finish] at hx
  | some f =>
    cases f <;> simp [he, finish, runExitFn] at hx <;> subst hx <;> simp [isPrint]

/-- What follows the items of the string itself: nothing `ParseStyledString` looks at. -/
def TailOk (tail : List IOItem) : Prop :=
  ∀ x ∈ tail, ∃ q, x = .seq q ∧ isPrint q = false ∧ (∀ i p f, q ≠ .csi i p f)

theorem cellsOfIO_tail (tail : List IOItem) (h : TailOk tail) : ∀ s, cellsOfIO s tail = .ok [] := by
  induction tail with
  | nil => intro s; rfl
  | cons x r ih =>
    intro s
    obtain ⟨q, rfl, _, hq⟩ := h x (by simp)
    have ih' := ih (fun y hy => h y (by simp [hy])) s
    cases q <;> first | exact absurd rfl (hq _ _ _) | simpa [cellsOfIO] using ih'

theorem tail_eof (s : PState) : TailOk ((pstep s .eof).out.map .seq ++ [.seq .eof]) := by
  intro x hx
  simp only [List.mem_append, List.mem_map, List.mem_singleton] at hx
  rcases hx with ⟨q, hq, rfl⟩ | rfl
  · exact ⟨q, rfl, (eof_out s q hq).1, (eof_out s q hq).2⟩
  · exact ⟨.eof, rfl, rfl, fun _ _ _ h => by cases h⟩

/-- The oracle of ParserIO (indexed by byte offset) and the oracle on the remaining runes say the same. -/
def Agrees (clusterAt : Nat → Nat) (cl : Str → Nat) (pos : Nat) (rs : Str) : Prop :=
  ∀ k, clusterAt (pos + (utf8 (rs.take k)).length) = cl (rs.drop k)

theorem Agrees.drop {clusterAt : Nat → Nat} {cl : Str → Nat} {pos : Nat} {rs : Str} (h : Agrees clusterAt cl pos rs) (n : Nat) :
    Agrees clusterAt cl (pos + (utf8 (rs.take n)).length) (rs.drop n) := by
  intro k
  have := h (n + k)
  rw [List.take_add, utf8_append, List.length_append, ← Nat.add_assoc] at this
  rw [this, List.drop_drop]

theorem runLoop_end (clusterAt : Nat → Nat) (fuel : Nat) (s : PState) (pos : Nat) :
    TailOk (runLoop handTable clusterAt (fuel + 1) s (Rd.mk [] [] pos)) :=
  runLoop_turn (motive := TailOk) clusterAt fuel s _ (fun _ => tail_eof s)
    (fun b t _ _ h => by simp [VaxisModel.Lemmas.ParserText.bytesOf] at h)
    (fun b t _ h => by simp [VaxisModel.Lemmas.ParserText.bytesOf] at h)

theorem runLoop_single (clusterAt : Nat → Nat) (cl : Str → Nat) : ∀ (n : Nat) (rs : Str) (s : PState) (pos fuel : Nat),
    Props.C02.Inv s → (∀ r ∈ rs, IsScalar r) → Agrees clusterAt cl pos rs → rs.length ≤ n → rs.length + 1 ≤ fuel →
    ∃ tail, runLoop handTable clusterAt fuel s (Rd.mk (utf8 rs) [] pos) = (scan cl n s rs).map ioItem ++ tail ∧ TailOk tail := by
  intro n
  induction n with
  | zero =>
    intro rs s pos fuel _ _ _ hn hf
    have : rs = [] := List.eq_nil_of_length_eq_zero (by omega)
    subst this
    obtain ⟨fuel, rfl⟩ : ∃ k, fuel = k + 1 := ⟨fuel - 1, by simp at hf; omega⟩
    exact ⟨_, rfl, runLoop_end clusterAt fuel s pos⟩
  | succ n ih =>
    intro rs s pos fuel hinv hs hag hn hf
    obtain ⟨fuel, rfl⟩ : ∃ k, fuel = k + 1 := ⟨fuel - 1, by omega⟩
    cases rs with
    | nil => exact ⟨_, rfl, runLoop_end clusterAt fuel s pos⟩
    | cons r w =>
      have hr : IsScalar r := hs r (by simp)
      have hw : ∀ x ∈ w, IsScalar x := fun x hx => hs x (by simp [hx])
      have hb : bytesOfRd (Rd.mk (utf8 (r :: w)) [] pos) = encodeRune r ++ utf8 w := by
        simp [VaxisModel.Lemmas.ParserText.bytesOf, utf8_cons]
      have h0 : clusterAt pos = cl (r :: w) := by simpa [utf8] using hag 0
      refine runLoop_turn (motive := fun x => ∃ tail, x = (scan cl (n + 1) s (r :: w)).map ioItem ++ tail ∧ TailOk tail)
        clusterAt fuel s _ (fun he => ?_) (fun b t us rd2 hbt hg hr20 a _ hle hstop => ?_) (fun b t rd1 hbt a1 hnp => ?_)
      · obtain ⟨b, t, e⟩ := encodeRune_ne_nil r
        rw [hb, e] at he; cases he
      · -- a Print: the look-ahead takes the rest of the cluster, or the rest of the string
        have hu1 : unit1 (b :: t) = scalarUnit r := by rw [← hbt, hb]; exact unit1_encode r hr (utf8 w)
        rw [hu1] at a hr20 ⊢
        rw [show (scalarUnit r).raw = r from rfl] at hr20 ⊢
        obtain ⟨hus, hrd2⟩ := adv_buffered hs a
        simp only [List.length_cons, List.take_succ_cons, List.drop_succ_cons, List.map_cons, List.cons.injEq, true_and] at hus hrd2
        generalize hm : max 1 (cl (r :: w)) - 1 = m
        have hM : max 1 (cl (r :: w)) = m + 1 := by omega
        dsimp only at hle hstop
        rw [h0, hM] at hle hstop
        have hk : w.take us.length = w.take m ∧ w.drop us.length = w.drop m := by
          rcases hstop with h | h | ⟨u, rest, h, hi⟩
          · rw [show us.length = m by omega]; exact ⟨rfl, rfl⟩
          · rw [hrd2] at h
            have hd := utf8_eq_nil h
            have hl : w.length ≤ us.length := List.drop_eq_nil_iff.mp hd
            rw [List.take_of_length_le hl, List.take_of_length_le (by omega), hd, List.drop_eq_nil_of_le (by omega)]
            exact ⟨rfl, rfl⟩
          · exfalso
            have : bytesOfRd rd2 = utf8 (w.drop us.length) := by rw [hrd2]; simp [VaxisModel.Lemmas.ParserText.bytesOf]
            rw [this, units_utf8 _ (fun x hx => hw x (List.mem_of_mem_drop hx))] at h
            cases hd : w.drop us.length with
            | nil => rw [hd] at h; cases h
            | cons x y => rw [hd] at h; injection h with h1 _; rw [← h1] at hi; cases hi
        have hraw : us.map U.raw = w.take m := by
          rw [hus, List.map_map, hk.1]; simp [Function.comp_def, scalarUnit]
        rw [hk.1, hk.2] at hrd2
        have hag' := hag.drop (m + 1)
        rw [List.take_succ_cons, List.drop_succ_cons] at hag'
        obtain ⟨tail, ht, hok⟩ := ih (w.drop m) s _ fuel hinv (fun x hx => hw x (List.mem_of_mem_drop hx)) hag'
          (by simp at hn ⊢; omega) (by simp at hf ⊢; omega)
        refine ⟨tail, ?_, hok⟩
        conv => rhs; unfold scan
        simp only [VaxisModel.Lemmas.Parser.ground_print s hg r hr20, hM, List.take_succ_cons, List.drop_succ_cons, List.map_cons, ioItem,
          List.cons_append]
        rw [hrd2, hraw, ht]
      · -- no Print in the output: the items as they are
        have hu1 : unit1 (b :: t) = scalarUnit r := by rw [← hbt, hb]; exact unit1_encode r hr (utf8 w)
        rw [hu1] at a1 hnp ⊢
        rw [show (scalarUnit r).raw = r from rfl] at hnp ⊢
        obtain ⟨-, hrd1⟩ := adv_buffered hs a1
        simp only [List.length_cons, List.length_nil, List.take_succ_cons, List.take_zero, List.drop_succ_cons, List.drop_zero] at hrd1
        have hstep := Props.C02.invariant_step s hinv (.rune r)
        have hstop : (pstep s (.rune r)).stop = false := by
          have := hstep.2.2; simpa [isEof] using this
        have hag' := hag.drop 1
        simp only [List.take_succ_cons, List.take_zero, List.drop_succ_cons, List.drop_zero] at hag'
        obtain ⟨tail, ht, hok⟩ := ih w (pstep s (.rune r)).st _ fuel (hstep.1 rfl) hw hag'
          (by simp at hn; omega) (by simp at hf; omega)
        refine ⟨tail, ?_, hok⟩
        show (if (pstep s (.rune r)).stop = true then _ else _) = _
        rw [if_neg (by rw [hstop]; simp), hrd1, ht]
        conv => rhs; unfold scan
        dsimp only
        split
        · rename_i r' heq
          have := hnp (.print r') (by show Seq.print r' ∈ (pstep s (.rune r)).out; rw [heq]; simp)
          simp [isPrint] at this
        · simp only [List.map_append, List.map_map]
          rw [List.append_assoc]
          congr 1

theorem readRune_first (bs : List Nat) :
    readRune (Rd.mk [] [bs] 0) = readRune (Rd.mk bs [] 0) := by
  have h : (Rd.mk [] [bs] 0).fill = (Rd.mk bs [] 0).fill := by simp [Rd.fill, fillLoop, fullRune]
  unfold readRune
  simp only [h]

theorem runLoop_first (clusterAt : Nat → Nat) (fuel : Nat) (s : PState) (bs : List Nat) :
    runLoop handTable clusterAt fuel s (Rd.mk [] [bs] 0) = runLoop handTable clusterAt fuel s (Rd.mk bs [] 0) := by
  cases fuel with
  | zero => rfl
  | succ fuel =>
    conv => lhs; unfold runLoop
    conv => rhs; unfold runLoop
    simp only [readRune_first]

theorem runChunks_single (clusterAt : Nat → Nat) (cl : Str → Nat) (rs : Str) (hs : ∀ r ∈ rs, IsScalar r)
    (hag : Agrees clusterAt cl 0 rs) :
    ∃ tail, runChunks handTable clusterAt [utf8 rs] = (tokenize cl rs).map ioItem ++ tail ∧ TailOk tail := by
  unfold runChunks tokenize
  by_cases he : utf8 rs = []
  · have hrs := utf8_eq_nil he
    subst hrs
    have : ([utf8 []] : List (List Nat)).filter (!·.isEmpty) = [] := by simp [utf8]
    simp only [this]
    exact runLoop_single clusterAt cl 0 [] PState.init 0 _ Props.C02.inv_init hs hag (Nat.le_refl _) (by simp [Rd.remaining])
  · have : ([utf8 rs] : List (List Nat)).filter (!·.isEmpty) = [utf8 rs] := by
      cases h : utf8 rs with
      | nil => exact absurd h he
      | cons b t => simp
    simp only [this]
    rw [runLoop_first]
    exact runLoop_single clusterAt cl rs.length rs PState.init 0 _ Props.C02.inv_init hs hag (Nat.le_refl _)
      (by have := utf8_length_ge rs; simp [Rd.remaining]; omega)

theorem cellsOfIO_items (tail : List IOItem) (h : TailOk tail) :
    ∀ (items : List SItem) (s : Style), cellsOfIO s (items.map ioItem ++ tail) = cellsOf s items := by
  intro items
  induction items with
  | nil => intro s; exact cellsOfIO_tail tail h s
  | cons x r ih =>
    intro s
    match x with
    | .text g => simp only [List.map_cons, List.cons_append, ioItem, cellsOfIO, cellsOf, ih]; cases cellsOf s r <;> rfl
    | .seq (.csi i ps f) =>
      simp only [List.map_cons, List.cons_append, ioItem, cellsOfIO, cellsOf, ih]
      split
      · cases parseSGR s (ps.map (·.map Int.toNat)) <;> rfl
      · rfl
    | .seq (.print _) | .seq (.c0 _) | .seq (.esc _ _) | .seq (.ss3 _) | .seq (.osc _) | .seq (.dcs _ _ _ _)
    | .seq (.apc _) | .seq .err | .seq .eof | .seq .panic =>
      simp only [List.map_cons, List.cons_append, ioItem, cellsOfIO, cellsOf, ih]

theorem csiM_scalar (q : SSeq) : ∀ r ∈ csiM q, IsScalar r := by
  intro r hr
  simp only [csiM, List.mem_cons, List.mem_append, List.mem_nil_iff, or_false] at hr
  rcases hr with rfl | rfl | hr | rfl
  · exact Or.inl (by decide)
  · exact Or.inl (by decide)
  · have := VaxisModel.Lemmas.ParserParams.encParams_bytes q r hr
    exact Or.inl (by omega)
  · exact Or.inl (by decide)

theorem bytesOfToks_scalar : ∀ (ts : List (Tok SSeq Str)), (∀ g, Tok.text g ∈ ts → ∀ r ∈ g, IsScalar r) →
    ∀ r ∈ bytesOfToks ts, IsScalar r
  | [], _, r, hr => by simp [bytesOfToks] at hr
  | .sgr q :: ts, h, r, hr => by
    rw [VaxisModel.Lemmas.SgrBytes.bytesOfToks_sgr, List.mem_append] at hr
    rcases hr with hr | hr
    · exact csiM_scalar q r hr
    · exact bytesOfToks_scalar ts (fun g hg => h g (by simp [hg])) r hr
  | .text g :: ts, h, r, hr => by
    rw [VaxisModel.Lemmas.SgrBytes.bytesOfToks_text, List.mem_append] at hr
    rcases hr with hr | hr
    · exact h g (by simp) r hr
    · exact bytesOfToks_scalar ts (fun g' hg => h g' (by simp [hg])) r hr

theorem encodeFrom_text_mem (delta : Style → Style → List SSeq) : ∀ (cs : List (Cell Str)) (s : Style) (g : Str),
    Tok.text g ∈ encodeFrom delta s cs → ∃ c ∈ cs, c.g = g := by
  intro cs
  induction cs with
  | nil =>
    intro s g hg
    unfold encodeFrom at hg
    split at hg <;> simp at hg
  | cons c cs ih =>
    intro s g hg
    unfold encodeFrom at hg
    simp only [List.mem_append, List.mem_map, List.mem_cons] at hg
    rcases hg with ⟨q, _, e⟩ | e | hg
    · cases e
    · injection e with e; exact ⟨c, by simp, e.symm⟩
    · obtain ⟨d, hd, e⟩ := ih c.st g hg
      exact ⟨d, by simp [hd], e⟩

end VaxisModel.Lemmas.SgrReader
