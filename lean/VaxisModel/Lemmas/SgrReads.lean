/-
C18: what a consumer of an encoded string does, as one relation.  Every consumer (`parseToks`, `ssParseToks`, `penAfter`, the
`Spec.sgr` terminal, the hyperlink state) keeps a pen, passes it through the control sequences and pairs it with each
grapheme; `Reads f s ts l e` says that this goes through on `ts` from pen `s`, seeing the graphemes with the pens `l` and
ending with pen `e`.  Each consumer is a projection of it (here, and next to the definitions of the others); each producer
(`encodeFrom`, `renderFrom`: `Writes`) is read by whoever reads its pen deltas (`reads_written`).
-/
import VaxisModel.Model.Sgr

namespace VaxisModel.Lemmas.SgrReads
open VaxisModel VaxisModel.Model.Sgr

inductive Reads {π σ γ ε : Type} (f : π → σ → Except ε π) : π → List (Tok σ γ) → List (γ × π) → π → Prop
  | nil (s : π) : Reads f s [] [] s
  | text {s : π} {g : γ} {r l e} : Reads f s r l e → Reads f s (.text g :: r) ((g, s) :: l) e
  | sgr {s s' : π} {x : σ} {r l e} : f s x = .ok s' → Reads f s' r l e → Reads f s (.sgr x :: r) l e

def cells {γ : Type} (l : List (γ × Style)) : List (Cell γ) := l.map fun p => ⟨p.1, p.2⟩

theorem cells_map {γ : Type} (cs : List (Cell γ)) (v : Style → Style) :
    cells (cs.map fun c => (c.g, v c.st)) = cs.map fun c => ⟨c.g, v c.st⟩ := by
  simp [cells, List.map_map, Function.comp_def]

theorem cells_id {γ : Type} (cs : List (Cell γ)) : cells (cs.map fun c => (c.g, id c.st)) = cs :=
  (cells_map cs id).trans (List.map_id'' (fun _ => rfl) cs)

namespace Reads
variable {π σ γ ε : Type} {f : π → σ → Except ε π}

theorem append {s m e : π} {a b : List (Tok σ γ)} {l₁ l₂} (h₁ : Reads f s a l₁ m) (h₂ : Reads f m b l₂ e) :
    Reads f s (a ++ b) (l₁ ++ l₂) e := by
  induction h₁ with
  | nil => exact h₂
  | text _ ih => exact .text (ih h₂)
  | sgr hf _ ih => exact .sgr hf (ih h₂)

/-! The model's consumers are projections (the result is given up to the equation `hl`, so that a caller can name the
cells in its own terms). -/

theorem parseToks {f : Style → σ → Except Panic Style} {s ts l e cs} (h : Reads (γ := γ) f s ts l e) (hl : cells l = cs) :
    parseToks f s ts = .ok cs := by
  subst hl
  induction h with
  | nil => rfl
  | text _ ih => simp only [Model.Sgr.parseToks, ih, cells, List.map_cons]
  | sgr hf _ ih => simp only [Model.Sgr.parseToks, hf, ih]

theorem ssParseToks {f : Style → σ → Except Panic Style} {s ts l e cs} (h : Reads (γ := γ) f s ts l e) (hl : cells l = cs) :
    ssParseToks f s ts = .ok cs := by
  subst hl
  induction h with
  | nil => rfl
  | text _ ih => simp only [Model.Sgr.ssParseToks, ih, cells, List.map_cons]
  | sgr hf hr ih =>
    -- a sequence with nothing after it is skipped: then there is no grapheme left either
    cases hr with
    | nil => rfl
    | text hr => simp only [Model.Sgr.ssParseToks, List.isEmpty_cons, hf] at ih ⊢; exact ih
    | sgr hg hr => simp only [Model.Sgr.ssParseToks, List.isEmpty_cons, hf] at ih ⊢; exact ih

theorem penAfter {f : Style → σ → Except Panic Style} {s ts l e} (h : Reads (γ := γ) f s ts l e) :
    penAfter f s ts = .ok e := by
  induction h with
  | nil => rfl
  | text _ ih => simp only [Model.Sgr.penAfter, ih]
  | sgr hf _ ih => simp only [Model.Sgr.penAfter, hf, ih]

end Reads

/-- `w` writes cells pen delta by pen delta and closes with the bare reset (or, at the default pen, possibly with nothing). -/
structure Writes {γ : Type} (delta : Style → Style → List Seq) (w : Style → List (Cell γ) → List (Tok Seq γ)) : Prop where
  nil : ∀ s, w s [] = [.sgr sgrResetQ] ∨ (s = {} ∧ w s [] = [])
  cons : ∀ s c cs, w s (c :: cs) = (delta s c.st).map .sgr ++ (.text c.g :: w c.st cs)

theorem writes_encodeFrom {γ : Type} (delta : Style → Style → List Seq) : Writes (γ := γ) delta (encodeFrom delta) where
  nil := fun s => by
    unfold encodeFrom
    split
    · exact .inl rfl
    · rename_i h; exact .inr ⟨by simpa using h, rfl⟩
  cons := fun _ _ _ => rfl

theorem writes_renderFrom {γ : Type} (rgb su legacy : Bool) :
    Writes (γ := γ) (renderDelta rgb su legacy) (renderFrom rgb su legacy) :=
  ⟨fun _ => .inl rfl, fun _ _ _ => rfl⟩

theorem reads_written {π γ ε : Type} {delta : Style → Style → List Seq} {w : Style → List (Cell γ) → List (Tok Seq γ)}
    (W : Writes delta w) (f : π → Seq → Except ε π) (v : Style → π) (ok : Style → Prop)
    (hdelta : ∀ s n, ok s → ok n → Reads (γ := γ) f (v s) ((delta s n).map .sgr) [] (v n))
    (hreset : ∀ s, f (v s) sgrResetQ = .ok (v {})) :
    ∀ (cs : List (Cell γ)) (s : Style), ok s → (∀ c ∈ cs, ok c.st) →
      Reads f (v s) (w s cs) (cs.map fun c => (c.g, v c.st)) (v {})
  | [], s, _, _ => by
    rcases W.nil s with h | ⟨rfl, h⟩ <;> rw [h]
    · exact .sgr (hreset s) (.nil _)
    · exact .nil _
  | c :: cs, s, hs, hcs => by
    have hc := hcs c (List.mem_cons_self ..)
    rw [W.cons]
    exact (hdelta s c.st hs hc).append
      (.text (reads_written W f v ok hdelta hreset cs c.st hc fun d hd => hcs d (List.mem_cons_of_mem _ hd)))

end VaxisModel.Lemmas.SgrReads
