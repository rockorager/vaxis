/-
C18: every SGR consumer is, for a fixed parameter list, a transformer of a very simple shape — each colour field and
the underline style is either kept or set to a constant, each attribute bit is kept, set or cleared — or it panics whatever
the style (control flow never looks at the style).  Two transformers of that shape that agree on the two test styles
`probe0 = ⟨0,0,0,0,0⟩` and `probe1 = ⟨1,1,1,7,255⟩` agree on every style with an 8-bit attribute mask.  This makes
"the consumers agree on `q` from every style" decidable by evaluation at two points (`Props.C18Agree.consumers_agree_iff`).
-/
import VaxisModel.Lemmas.SgrAgree

namespace VaxisModel.Lemmas.SgrShape
open VaxisModel VaxisModel.Gen VaxisModel.Model.Sgr VaxisModel.Lemmas.Sgr VaxisModel.Lemmas.SgrAgree
open VaxisModel.Model.Color (Color indexColor rgbColor)

/-- A function on attribute masks that treats every bit on its own: kept, or constant (bits ≥ 8 are never set). -/
def BitShaped (g : Nat → Nat) : Prop :=
  ∀ i, (∀ m, (g m).testBit i = m.testBit i) ∨ (∃ b, (8 ≤ i → b = false) ∧ ∀ m, (g m).testBit i = b)

theorem bitShaped_id : BitShaped (fun m => m) := fun _ => Or.inl (fun _ => rfl)

theorem bitShaped_zero : BitShaped (fun _ => 0) := fun i => Or.inr ⟨false, fun _ => rfl, fun _ => Nat.zero_testBit i⟩

theorem bitShaped_comp (g h : Nat → Nat) (hg : BitShaped g) (hh : BitShaped h) : BitShaped (fun m => h (g m)) := by
  intro i
  rcases hh i with hk | ⟨b, hb, hc⟩
  · rcases hg i with gk | ⟨b, hb, gc⟩
    · exact Or.inl (fun m => by show (h (g m)).testBit i = _; rw [hk, gk])
    · exact Or.inr ⟨b, hb, fun m => by show (h (g m)).testBit i = _; rw [hk, gc]⟩
  · exact Or.inr ⟨b, hb, fun m => hc (g m)⟩

theorem bitShaped_set (i : Nat) (hi : i < 8) : BitShaped (fun m => setBits m (2 ^ i)) := by
  intro j
  by_cases h : i = j
  · subst h
    exact Or.inr ⟨true, fun h8 => absurd h8 (by omega), fun m => by rw [tb_setBits, Nat.testBit_two_pow]; simp⟩
  · exact Or.inl (fun m => by rw [tb_setBits, Nat.testBit_two_pow]; simp [h])

theorem bitShaped_clear (i : Nat) : BitShaped (fun m => clearBits m (2 ^ i)) := by
  intro j
  by_cases h : i = j
  · subst h
    exact Or.inr ⟨false, fun _ => rfl, fun m => by rw [tb_clearBits, Nat.testBit_two_pow]; simp⟩
  · exact Or.inl (fun m => by rw [tb_clearBits, Nat.testBit_two_pow]; simp [h])

theorem lt256_testBit (m i : Nat) (hm : m < 256) (hi : 8 ≤ i) : m.testBit i = false :=
  Nat.testBit_lt_two_pow (Nat.lt_of_lt_of_le hm (by
    calc 256 = 2 ^ 8 := by decide
      _ ≤ 2 ^ i := Nat.pow_le_pow_right (by decide) hi))

theorem tb255 (i : Nat) (hi : i < 8) : (255 : Nat).testBit i = true := by
  rcases lt8 i hi with rfl | rfl | rfl | rfl | rfl | rfl | rfl | rfl <;> decide

theorem bitShaped_ext (g h : Nat → Nat) (hg : BitShaped g) (hh : BitShaped h) (h0 : g 0 = h 0) (h1 : g 255 = h 255)
    (m : Nat) (hm : m < 256) : g m = h m := by
  apply Nat.eq_of_testBit_eq
  intro i
  by_cases hi : 8 ≤ i
  · have hmi := lt256_testBit m i hm hi
    have e1 : (g m).testBit i = false := by
      rcases hg i with k | ⟨b, hb, c⟩
      · rw [k, hmi]
      · rw [c, hb hi]
    have e2 : (h m).testBit i = false := by
      rcases hh i with k | ⟨b, hb, c⟩
      · rw [k, hmi]
      · rw [c, hb hi]
    rw [e1, e2]
  · have hi' : i < 8 := by omega
    have t0 : (0 : Nat).testBit i = false := Nat.zero_testBit i
    have t1 := tb255 i hi'
    have a0 : (g 0).testBit i = (h 0).testBit i := by rw [h0]
    have a1 : (g 255).testBit i = (h 255).testBit i := by rw [h1]
    rcases hg i with gk | ⟨b, _, gc⟩ <;> rcases hh i with hk | ⟨b', _, hc⟩
    · rw [gk, hk]
    · rw [gk, hc] at a0 a1
      rw [t0] at a0; rw [t1] at a1
      rw [← a0] at a1; cases a1
    · rw [gc, hk] at a0 a1
      rw [t0] at a0; rw [t1] at a1
      rw [a0] at a1; cases a1
    · rw [gc, hc] at a0
      rw [gc, hc, a0]

/-- A field that is kept or set to a constant. -/
def KC {α : Type} (f : α → α) : Prop := (∀ x, f x = x) ∨ (∃ c, ∀ x, f x = c)

theorem kc_comp {α : Type} (f g : α → α) (hf : KC f) (hg : KC g) : KC (fun x => g (f x)) := by
  rcases hg with gk | ⟨c, gc⟩
  · rcases hf with fk | ⟨c, fc⟩
    · exact Or.inl (fun x => by show g (f x) = x; rw [gk, fk])
    · exact Or.inr ⟨c, fun x => by show g (f x) = c; rw [gk, fc]⟩
  · exact Or.inr ⟨c, fun x => gc (f x)⟩

theorem kc_ext (f g : Nat → Nat) (hf : KC f) (hg : KC g) (a b : Nat) (hab : a ≠ b) (ha : f a = g a) (hb : f b = g b) (x : Nat) :
    f x = g x := by
  rcases hf with fk | ⟨c, fc⟩ <;> rcases hg with gk | ⟨c', gc⟩
  · rw [fk, gk]
  · rw [fk, gc] at ha hb; exact absurd (ha.trans hb.symm) hab
  · rw [fc, gk] at ha hb; exact absurd (ha.symm.trans hb) hab
  · rw [fc, gc] at ha; rw [fc, gc, ha]

structure Shaped (F : Style → Style) : Prop where
  shape : ∃ (ffg fbg ful : Color → Color) (fus : Nat → Nat) (g : Nat → Nat),
    KC ffg ∧ KC fbg ∧ KC ful ∧ KC fus ∧ BitShaped g ∧
    ∀ s, F s = ⟨ffg s.fg, fbg s.bg, ful s.ul, fus s.ulStyle, g s.attr⟩

theorem shaped_mk (ffg fbg ful : Color → Color) (fus g : Nat → Nat) (h1 : KC ffg) (h2 : KC fbg) (h3 : KC ful) (h4 : KC fus)
    (h5 : BitShaped g) : Shaped (fun s => ⟨ffg s.fg, fbg s.bg, ful s.ul, fus s.ulStyle, g s.attr⟩) :=
  ⟨⟨ffg, fbg, ful, fus, g, h1, h2, h3, h4, h5, fun _ => rfl⟩⟩

theorem kc_id {α : Type} : KC (fun x : α => x) := Or.inl (fun _ => rfl)
theorem kc_const {α : Type} (c : α) : KC (fun _ : α => c) := Or.inr ⟨c, fun _ => rfl⟩

theorem shaped_id : Shaped (fun s => s) :=
  ⟨⟨_, _, _, _, _, kc_id, kc_id, kc_id, kc_id, bitShaped_id, fun s => by cases s; rfl⟩⟩

theorem shaped_comp (F G : Style → Style) (hF : Shaped F) (hG : Shaped G) : Shaped (fun s => G (F s)) := by
  obtain ⟨a1, a2, a3, a4, a5, p1, p2, p3, p4, p5, hF⟩ := hF.shape
  obtain ⟨b1, b2, b3, b4, b5, q1, q2, q3, q4, q5, hG⟩ := hG.shape
  exact ⟨⟨_, _, _, _, _, kc_comp a1 b1 p1 q1, kc_comp a2 b2 p2 q2, kc_comp a3 b3 p3 q3, kc_comp a4 b4 p4 q4,
    bitShaped_comp a5 b5 p5 q5, fun s => by rw [hF, hG]⟩⟩

theorem shaped_ite (c : Prop) [Decidable c] (F G : Style → Style) (hF : Shaped F) (hG : Shaped G) :
    Shaped (fun s => if c then F s else G s) := by
  by_cases h : c
  · simpa only [h, if_true] using hF
  · simpa only [h, if_false] using hG

theorem shaped_ext (F G : Style → Style) (hF : Shaped F) (hG : Shaped G) (h0 : F probe0 = G probe0) (h1 : F probe1 = G probe1)
    (s : Style) (hs : s.attr < 256) : F s = G s := by
  obtain ⟨a1, a2, a3, a4, a5, p1, p2, p3, p4, p5, hF⟩ := hF.shape
  obtain ⟨b1, b2, b3, b4, b5, q1, q2, q3, q4, q5, hG⟩ := hG.shape
  rw [hF, hG] at h0 h1
  simp only [probe0, probe1, Style.mk.injEq] at h0 h1
  rw [hF, hG]
  simp only [Style.mk.injEq]
  exact ⟨kc_ext a1 b1 p1 q1 0 1 (by decide) h0.1 h1.1 _, kc_ext a2 b2 p2 q2 0 1 (by decide) h0.2.1 h1.2.1 _,
    kc_ext a3 b3 p3 q3 0 1 (by decide) h0.2.2.1 h1.2.2.1 _, kc_ext a4 b4 p4 q4 0 7 (by decide) h0.2.2.2.1 h1.2.2.2.1 _,
    bitShaped_ext a5 b5 p5 q5 h0.2.2.2.2 h1.2.2.2.2 _ hs⟩

theorem shaped_fg (c : Color) : Shaped (fun s => { s with fg := c }) :=
  shaped_mk (fun _ => c) (fun x => x) (fun x => x) (fun x => x) (fun x => x) (kc_const c) kc_id kc_id kc_id bitShaped_id
theorem shaped_bg (c : Color) : Shaped (fun s => { s with bg := c }) :=
  shaped_mk (fun x => x) (fun _ => c) (fun x => x) (fun x => x) (fun x => x) kc_id (kc_const c) kc_id kc_id bitShaped_id
theorem shaped_ul (c : Color) : Shaped (fun s => { s with ul := c }) :=
  shaped_mk (fun x => x) (fun x => x) (fun _ => c) (fun x => x) (fun x => x) kc_id kc_id (kc_const c) kc_id bitShaped_id
theorem shaped_uls (c : Nat) : Shaped (fun s => { s with ulStyle := c }) :=
  shaped_mk (fun x => x) (fun x => x) (fun x => x) (fun _ => c) (fun x => x) kc_id kc_id kc_id (kc_const c) bitShaped_id
theorem shaped_attr (g : Nat → Nat) (hg : BitShaped g) : Shaped (fun s => { s with attr := g s.attr }) :=
  shaped_mk (fun x => x) (fun x => x) (fun x => x) (fun x => x) g kc_id kc_id kc_id kc_id hg
theorem shaped_reset (a b c : Color) (u : Nat) : Shaped (fun _ => (⟨a, b, c, u, 0⟩ : Style)) :=
  shaped_mk (fun _ => a) (fun _ => b) (fun _ => c) (fun _ => u) (fun _ => 0) (kc_const a) (kc_const b) (kc_const c) (kc_const u)
    bitShaped_zero

theorem shaped_simple (p : Nat) : Shaped (simple p) := by
  show Shaped (fun s => simple p s)
  unfold simple
  repeat' (first
    | apply shaped_ite
    | exact shaped_id
    | exact shaped_reset _ _ _ _
    | exact shaped_fg _
    | exact shaped_bg _
    | exact shaped_ul _
    | exact shaped_uls _
    | exact shaped_attr _ (bitShaped_set 1 (by decide))
    | exact shaped_attr _ (bitShaped_set 2 (by decide))
    | exact shaped_attr _ (bitShaped_set 3 (by decide))
    | exact shaped_attr _ (bitShaped_set 4 (by decide))
    | exact shaped_attr _ (bitShaped_set 5 (by decide))
    | exact shaped_attr _ (bitShaped_set 6 (by decide))
    | exact shaped_attr _ (bitShaped_set 7 (by decide))
    | exact shaped_attr _ (bitShaped_clear 3)
    | exact shaped_attr _ (bitShaped_clear 4)
    | exact shaped_attr _ (bitShaped_clear 5)
    | exact shaped_attr _ (bitShaped_clear 6)
    | exact shaped_attr _ (bitShaped_clear 7)
    | exact shaped_attr _ (bitShaped_comp _ _ (bitShaped_clear 1) (bitShaped_clear 2)))

theorem intOne_shaped (cfg : Cfg) (cur : Param) (rest : Seq) :
    (∃ F nx, Shaped F ∧ ∀ s, intOne cfg cur rest s = .ok (F s, nx)) ∨ (∀ s, intOne cfg cur rest s = .error .index) := by
  cases cur with
  | nil => exact Or.inr (fun s => rfl)
  | cons p subs =>
    simp only [intOne_head]
    by_cases hl : (!cfg.labels.contains p) = true
    · exact Or.inl ⟨_, .cont 0, shaped_id, fun s => by rw [if_pos hl]⟩
    simp only [if_neg hl]
    by_cases hext : p = 38 ∨ p = 48 ∨ p = 58
    · -- a colour (or none) into one field, whichever of the three it is
      rcases hext with rfl | rfl | rfl <;>
      · simp only [Nat.reduceEqDiff, if_false, if_true]
        generalize extColour cfg _ _ rest = r
        rcases r with e | ⟨oc, nx⟩
        · cases e; exact Or.inr (fun s => rfl)
        · cases oc with
          | none => exact Or.inl ⟨_, nx, shaped_id, fun s => rfl⟩
          | some c => first | exact Or.inl ⟨_, nx, shaped_fg c, fun s => rfl⟩ | exact Or.inl ⟨_, nx, shaped_bg c, fun s => rfl⟩
                            | exact Or.inl ⟨_, nx, shaped_ul c, fun s => rfl⟩
    obtain ⟨h38, h48, h58⟩ : p ≠ 38 ∧ p ≠ 48 ∧ p ≠ 58 := by omega
    simp only [if_neg h38, if_neg h48, if_neg h58]
    by_cases h4 : p = 4
    · subst h4
      simp only [if_true, ulCase_eff]
      cases ulEff cfg subs with
      | none => exact Or.inl ⟨_, .cont 0, shaped_id, fun s => rfl⟩
      | some v => exact Or.inl ⟨_, .cont 0, shaped_uls v, fun s => rfl⟩
    simp only [if_neg h4]
    exact Or.inl ⟨_, .cont 0, shaped_simple p, fun s => rfl⟩

theorem intLoop_shaped (cfg : Cfg) : ∀ (q : Seq) (k : Nat),
    (∃ F, Shaped F ∧ ∀ s, intLoop cfg k q s = .ok (F s)) ∨ (∀ s, intLoop cfg k q s = .error .index)
  | [], k => Or.inl ⟨_, shaped_id, fun s => by cases k <;> rfl⟩
  | cur :: rest, k + 1 => by
    rcases intLoop_shaped cfg rest k with ⟨F, hF, h⟩ | h
    · exact Or.inl ⟨F, hF, fun s => by simp only [intLoop, h]⟩
    · exact Or.inr (fun s => by simp only [intLoop, h])
  | cur :: rest, 0 => by
    rcases intOne_shaped cfg cur rest with ⟨F, nx, hF, h⟩ | h
    · cases nx with
      | stop => exact Or.inl ⟨F, hF, fun s => by simp only [intLoop, h]⟩
      | cont k =>
        rcases intLoop_shaped cfg rest k with ⟨G, hG, hg⟩ | hg
        · exact Or.inl ⟨_, shaped_comp F G hF hG, fun s => by simp only [intLoop, h, hg]⟩
        · exact Or.inr (fun s => by simp only [intLoop, h, hg])
    · exact Or.inr (fun s => by simp only [intLoop, h])

theorem ssOne_shaped (cfg : Cfg) (cur : Param) (rest : List (List SubTok)) :
    (∃ F k, Shaped F ∧ ∀ s, ssOne cfg {} s (cur.map tokN) rest = .ok (F s, k)) ∨
    (∀ s, ssOne cfg {} s (cur.map tokN) rest = .error .index) := by
  cases cur with
  | nil => exact Or.inr (fun s => rfl)
  | cons p subs =>
    by_cases h4 : p = 4
    · subst h4
      by_cases hl : cfg.labels.contains 4 = true
      · simp only [ssOne_4 cfg subs rest _ hl]
        cases ulEff cfg subs with
        | none => exact Or.inl ⟨_, 0, shaped_id, fun s => rfl⟩
        | some v => exact Or.inl ⟨_, 0, shaped_uls v, fun s => rfl⟩
      · refine Or.inl ⟨_, 0, shaped_id, fun s => ?_⟩
        rw [ssOne_unfold, if_pos (by simpa using hl)]
    simp only [ssOne_unfold]
    by_cases hl : (!cfg.labels.contains p) = true
    · exact Or.inl ⟨_, 0, shaped_id, fun s => by rw [if_pos hl]⟩
    simp only [if_neg hl]
    by_cases h0 : p = 0
    · simp only [if_pos h0]
      exact Or.inl ⟨_, 0, shaped_reset 0 0 0 0, fun s => rfl⟩
    simp only [if_neg h0]
    by_cases hext : p = 38 ∨ p = 48 ∨ p = 58
    · -- a colour (or none) into one field, whichever of the three it is
      rcases hext with rfl | rfl | rfl <;>
      · simp only [Nat.reduceEqDiff, if_false, if_true]
        generalize ssColour cfg _ _ rest = r
        rcases r with e | ⟨oc, k⟩
        · cases e; exact Or.inr (fun s => rfl)
        · cases oc with
          | none => exact Or.inl ⟨_, k, shaped_id, fun s => rfl⟩
          | some c => first | exact Or.inl ⟨_, k, shaped_fg c, fun s => rfl⟩ | exact Or.inl ⟨_, k, shaped_bg c, fun s => rfl⟩
                            | exact Or.inl ⟨_, k, shaped_ul c, fun s => rfl⟩
    obtain ⟨h38, h48, h58⟩ : p ≠ 38 ∧ p ≠ 48 ∧ p ≠ 58 := by omega
    simp only [if_neg h38, if_neg h48]
    simp only [if_neg h58, if_neg h4]
    exact Or.inl ⟨_, 0, shaped_simple p, fun s => rfl⟩

theorem ssLoopK_shaped (cfg : Cfg) : ∀ (q : Seq) (k : Nat),
    (∃ F, Shaped F ∧ ∀ s, ssLoopK cfg {} k (tk q) s = .ok (F s)) ∨ (∀ s, ssLoopK cfg {} k (tk q) s = .error .index)
  | [], k => Or.inl ⟨_, shaped_id, fun s => by cases k <;> rfl⟩
  | cur :: rest, k + 1 => by
    rcases ssLoopK_shaped cfg rest k with ⟨F, hF, h⟩ | h
    · exact Or.inl ⟨F, hF, fun s => by simp only [tk, List.map_cons, ssLoopK]; exact h s⟩
    · exact Or.inr (fun s => by simp only [tk, List.map_cons, ssLoopK]; exact h s)
  | cur :: rest, 0 => by
    have step : ∀ s, ssLoopK cfg {} 0 (tk (cur :: rest)) s =
        match ssOne cfg {} s (cur.map tokN) (tk rest) with
        | .error e => .error e
        | .ok (s', k) => ssLoopK cfg {} k (tk rest) s' := fun _ => rfl
    rcases ssOne_shaped cfg cur (tk rest) with ⟨F, k, hF, h⟩ | h
    · rcases ssLoopK_shaped cfg rest k with ⟨G, hG, hg⟩ | hg
      · exact Or.inl ⟨_, shaped_comp F G hF hG, fun s => by rw [step, h]; exact hg (F s)⟩
      · exact Or.inr (fun s => by rw [step, h]; exact hg (F s))
    · exact Or.inr (fun s => by rw [step, h])

theorem intSgr_shaped (cfg : Cfg) (q : Seq) :
    (∃ F, Shaped F ∧ ∀ s, intSgr cfg s q = .ok (F s)) ∨ (∀ s, intSgr cfg s q = .error .index) :=
  intLoop_shaped cfg _ 0

theorem ssSeq_shaped (q : Seq) :
    (∃ F, Shaped F ∧ ∀ s, ssSeq {} s q = .ok (F s)) ∨ (∀ s, ssSeq {} s q = .error .index) := by
  cases q with
  | nil => exact Or.inl ⟨_, shaped_reset 0 0 0 0, fun s => rfl⟩
  | cons c r =>
    rcases ssLoopK_shaped ssCfg (c :: r) 0 with ⟨F, hF, h⟩ | h
    · exact Or.inl ⟨F, hF, fun s => h s⟩
    · exact Or.inr (fun s => h s)

end VaxisModel.Lemmas.SgrShape
