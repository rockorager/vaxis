/-
C18: consumers of the *parser's item sequence* other than `parseSGR` — a `Spec.sgr` terminal
(`specRunItems`: what it shows at every grapheme and its pen at the end) and any `[][]int` SGR consumer
(`cellsWith`, e.g. the embedded terminal's `sgr`) — and their agreement with the token-level definitions
on the items of a printed token sequence.
-/
import VaxisModel.Lemmas.SgrBytes

namespace VaxisModel.Lemmas.SgrShows
open VaxisModel VaxisModel.Gen VaxisModel.Model.Sgr VaxisModel.Model.SgrBytes VaxisModel.Lemmas.Sgr
open VaxisModel.Lemmas.SgrBytes VaxisModel.Spec

/-- A `Spec.sgr` terminal fed the parser's items: a `Print` is shown with the current pen, a CSI item with
    final `m` and no intermediates is interpreted by `Spec.sgr`, everything else leaves the pen alone.
    Result: (grapheme, pen) for every grapheme in order, and the pen after the last item. -/
def specRunItems : TStyle → List Item → List (Str × TStyle) × TStyle
  | t, [] => ([], t)
  | t, .text g :: r => let (l, e) := specRunItems t r; ((g, t) :: l, e)
  | t, .seq (.csi inter ps f) :: r =>
    if inter = [] ∧ f = 0x6D then specRunItems (Spec.sgr t (ps.map (·.map Int.toNat))) r
    else specRunItems t r
  | t, .seq _ :: r => specRunItems t r

/-- The `for seq := range parser.Next()` loop with any SGR consumer in place of `parseSGR`
    (`cellsWith parseSGR = cellsOf`; with `emuSgr`: the cells the embedded terminal writes). -/
def cellsWith (sgr : Style → Seq → Except Panic Style) : Style → List Item → Except Panic (List (Cell Str))
  | _, [] => .ok []
  | s, .text g :: r =>
    match cellsWith sgr s r with
    | .ok cs => .ok (⟨g, s⟩ :: cs)
    | .error e => .error e
  | s, .seq (.csi _ ps f) :: r =>
    if f = 0x6D then
      match sgr s (ps.map (·.map Int.toNat)) with
      | .ok s' => cellsWith sgr s' r
      | .error e => .error e
    else cellsWith sgr s r
  | s, .seq _ :: r => cellsWith sgr s r

theorem cellsWith_parseSGR (l : List Item) : ∀ s, cellsWith parseSGR s l = cellsOf s l := by
  induction l with
  | nil => intro s; rfl
  | cons x r ih =>
    intro s
    match x with
    | .text g => simp only [cellsWith, cellsOf, ih]; cases cellsOf s r <;> rfl
    | .seq (.csi i ps f) =>
      simp only [cellsWith, cellsOf, ih]
      split
      · cases parseSGR s (ps.map (·.map Int.toNat)) <;> rfl
      · rfl
    | .seq (.print _) | .seq (.c0 _) | .seq (.esc _ _) | .seq (.ss3 _) | .seq (.osc _) | .seq (.dcs _ _ _ _)
    | .seq (.apc _) | .seq .err | .seq .eof | .seq .panic => simp only [cellsWith, cellsOf, ih]

theorem specRunItems_items (ts : List (Tok Seq Str)) :
    ∀ t, specRunItems t (ts.map itemOf) = specRun t ts := by
  induction ts with
  | nil => intro t; rfl
  | cons x r ih =>
    intro t
    cases x with
    | text g => simp only [List.map_cons, itemOf, specRunItems, specRun, ih]
    | sgr q => simp only [List.map_cons, itemOf, specRunItems, specRun, toNat_ofNat, and_self, if_true, ih]

theorem cellsWith_items (f : Style → Seq → Except Panic Style) (ts : List (Tok Seq Str)) :
    ∀ s, cellsWith f s (ts.map itemOf) = parseToks f s ts := by
  induction ts with
  | nil => intro s; rfl
  | cons x r ih =>
    intro s
    cases x with
    | text g =>
      simp only [List.map_cons, itemOf, cellsWith, parseToks, ih]
      cases parseToks f s r <;> rfl
    | sgr q =>
      simp only [List.map_cons, itemOf, cellsWith, parseToks, toNat_ofNat, if_true]
      cases f s q with
      | error e => rfl
      | ok s' => exact ih s'

theorem renderFromB_eq (rgb su legacy : Bool) :
    ∀ (cs : List (Cell Str)) (s : Style), renderFromB rgb su legacy s cs = bytesOfToks (renderFrom rgb su legacy s cs) := by
  intro cs
  induction cs with
  | nil => intro s; unfold renderFromB renderFrom; rw [b_sgrReset]; simp [bytesOfToks, tokBytes]
  | cons c cs ih =>
    intro s
    unfold renderFromB renderFrom
    rw [bytesOfToks_append, bytesOfToks_sgrs, bytesOfToks_text, renderDeltaB_eq, ih]

theorem renderFrom_sgr_mem (rgb su legacy : Bool) (P : Seq → Prop) (hreset : P sgrResetQ)
    (hd : ∀ p n, n.ulStyle ≤ 5 → ∀ q ∈ renderDelta rgb su legacy p n, P q) :
    ∀ (cs : List (Cell Str)) (s : Style), (∀ c ∈ cs, c.st.ulStyle ≤ 5) → ∀ q, Tok.sgr q ∈ renderFrom rgb su legacy s cs → P q := by
  intro cs
  induction cs with
  | nil =>
    intro s _ q hq
    unfold renderFrom at hq
    simp at hq; subst hq; exact hreset
  | cons c cs ih =>
    intro s hcs q hq
    unfold renderFrom at hq
    simp only [List.mem_append, List.mem_map, List.mem_cons] at hq
    rcases hq with ⟨q', hq', e⟩ | h | h
    · injection e with e; subst e
      exact hd s c.st (hcs c (by simp)) q' hq'
    · cases h
    · exact ih c.st (fun d hd' => hcs d (by simp [hd'])) q h

theorem good_renderFrom (cl : Str → Nat) (rgb su legacy : Bool) (cs : List (Cell Str)) (hcs : ∀ c ∈ cs, c.st.ulStyle ≤ 5)
    (s : Style) (ht : TextOK cl (renderFrom rgb su legacy s cs)) : Good cl (renderFrom rgb su legacy s cs) :=
  good_of cl _ ht (renderFrom_sgr_mem rgb su legacy VaxisModel.Lemmas.ParserParams.ParamsOk
    (by rw [sgrResetQ_eq]; intro p hp; simp at hp)
    (fun p n hn q hq => paramsOk_of_eml q (renderDelta_range rgb su legacy p n hn q hq)) cs s hcs)

end VaxisModel.Lemmas.SgrShows
