/-
C18: **no SGR consumer panics on anything the parser / `strings.Split` can deliver** — the hypothesis "every parameter has at
least one sub-parameter" is discharged from the code that builds the parameter lists: `csiDispatch` (C02's `decodeLoop`) closes
every parameter as `param ++ [ps]`, a `csi` item is emitted only there — from any state, under ANY transition table (`step_good`,
from `Lemmas.ParserOut.step_forall`) —, and `strings.Split` never returns an empty slice (`splitB_ne_nil`).
-/
import VaxisModel.Lemmas.Sgr
import VaxisModel.Model.SgrBytes
import VaxisModel.Model.SgrLinks
import VaxisModel.Model.SgrReader
import VaxisModel.Lemmas.ParserOut
import VaxisModel.Lemmas.SgrBytes

namespace VaxisModel.Lemmas.SgrTotal
open VaxisModel VaxisModel.Model.Sgr VaxisModel.Model.SgrBytes VaxisModel.Lemmas.Sgr
open VaxisModel.Model.Parser (Rune PState ExitFn decodeLoop decodeParams runExitFn applyAct runActs runFn finish step Table handTable)
open VaxisModel.Model.ParserTable
open VaxisModel.Lemmas.ParserOut (CsiOk)

theorem step_good (T : Table) (s : PState) (i : Inp) : ∀ x ∈ (step T s i).out, CsiOk x :=
  ParserOut.step_forall CsiOk ParserOut.applyAct_csiOk (by intro i p f h; cases h) T s i

def ItemGood : Item → Prop
  | .seq x => CsiOk x
  | .text _ => True

theorem scan_good (cl : Str → Nat) : ∀ (fuel : Nat) (st : PState) (w : Str), ∀ x ∈ scan cl fuel st w, ItemGood x
  | 0, _, _ => by intro x hx; simp [scan] at hx
  | _ + 1, _, [] => by intro x hx; simp [scan] at hx
  | fuel + 1, st, r :: w => by
    unfold scan
    simp only
    split
    · intro x hx
      rcases List.mem_cons.mp hx with rfl | hx
      · trivial
      · exact scan_good cl fuel _ _ x hx
    · intro x hx
      rcases List.mem_append.mp hx with hx | hx
      · obtain ⟨y, hy, rfl⟩ := List.mem_map.mp hx
        exact step_good handTable st (.rune r) y hy
      · exact scan_good cl fuel _ _ x hx

theorem toNat_nonempty (ps : List (List Int)) (h : ∀ p ∈ ps, p ≠ []) : ∀ p ∈ ps.map (·.map Int.toNat), p ≠ [] := by
  intro p hp
  obtain ⟨q, hq, rfl⟩ := List.mem_map.mp hp
  have := h q hq
  cases q with
  | nil => exact absurd rfl this
  | cons a t => simp

theorem cellsOf_total : ∀ (items : List Item), (∀ x ∈ items, ItemGood x) → ∀ s, ∃ cs, cellsOf s items = .ok cs
  | [], _, _ => ⟨[], rfl⟩
  | .text g :: r, h, s => by
    obtain ⟨cs, hcs⟩ := cellsOf_total r (fun x hx => h x (List.mem_cons_of_mem _ hx)) s
    exact ⟨⟨g, s⟩ :: cs, by simp [cellsOf, hcs]⟩
  | .seq q :: r, h, s => by
    have hr := cellsOf_total r (fun x hx => h x (List.mem_cons_of_mem _ hx))
    have hq : CsiOk q := h (.seq q) (List.mem_cons_self ..)
    cases q with
    | csi inter ps f =>
      unfold cellsOf
      split
      · obtain ⟨s', hs'⟩ := intSgr_ok parseCfg parse_nums_ok s _ (toNat_nonempty ps (hq _ _ _ rfl))
        have : parseSGR s (ps.map (·.map Int.toNat)) = .ok s' := hs'
        rw [this]
        exact hr s'
      · exact hr s
    | _ => simpa [cellsOf] using hr s

theorem penOf_total (sgr : Style → Seq → Except Panic Style)
    (hsgr : ∀ s ps, (∀ p ∈ ps, p ≠ []) → ∃ s', sgr s ps = .ok s') :
    ∀ (items : List Item), (∀ x ∈ items, ItemGood x) → ∀ s, ∃ s', penOf sgr s items = .ok s'
  | [], _, s => ⟨s, rfl⟩
  | .text g :: r, h, s => by
    simpa [penOf] using penOf_total sgr hsgr r (fun x hx => h x (List.mem_cons_of_mem _ hx)) s
  | .seq q :: r, h, s => by
    have hr := penOf_total sgr hsgr r (fun x hx => h x (List.mem_cons_of_mem _ hx))
    have hq : CsiOk q := h (.seq q) (List.mem_cons_self ..)
    cases q with
    | csi inter ps f =>
      unfold penOf
      split
      · obtain ⟨s', hs'⟩ := hsgr s _ (toNat_nonempty ps (hq _ _ _ rfl))
        rw [hs']
        exact hr s'
      · exact hr s
    | _ => simpa [penOf] using hr s

theorem splitParams_nonempty (seq : Str) : ∀ p ∈ splitParams seq, p ≠ [] := by
  intro p hp
  unfold splitParams at hp
  obtain ⟨q, _, rfl⟩ := List.mem_map.mp hp
  intro h
  exact SgrBytes.splitB_ne_nil 0x3A q (List.map_eq_nil_iff.mp h)

theorem nssLoop_total (cl : Str → Nat) (dflt : Style) : ∀ (fuel : Nat) (st : Style) (s : Str),
    ∃ cs, nssLoop cl dflt fuel st s = .ok cs
  | 0, _, _ => ⟨[], rfl⟩
  | _ + 1, _, [] => ⟨[], rfl⟩
  | fuel + 1, st, c :: r => by
    unfold nssLoop
    simp only
    split
    · split
      · exact ⟨[], rfl⟩
      · split
        · exact nssLoop_total cl dflt fuel _ _
        · obtain ⟨st', h⟩ := ssLoop_ok ssCfg dflt _ (splitParams_nonempty (cutM ((c :: r).drop 2)).1) st
          rw [h]
          exact nssLoop_total cl dflt fuel _ _
    · split
      · exact nssLoop_total cl dflt fuel _ _
      · obtain ⟨cs, h⟩ := nssLoop_total cl dflt fuel st ((c :: r).drop (max 1 (cl (c :: r))))
        rw [h]
        exact ⟨_, rfl⟩

open VaxisModel.Model.SgrReader

def ofIO : Model.ParserIO.Item → Item
  | .seq x => .seq x
  | .print g => .text g

def IOGood (y : Model.ParserIO.Item) : Prop := ItemGood (ofIO y)

theorem cellsOfIO_eq : ∀ (items : List Model.ParserIO.Item) (s : Style), cellsOfIO s items = cellsOf s (items.map ofIO)
  | [], _ => rfl
  | .print g :: r, s => by
    simp only [cellsOfIO, List.map_cons, ofIO, cellsOf, cellsOfIO_eq r]
    cases cellsOf s (r.map ofIO) <;> rfl
  | .seq q :: r, s => by
    cases q with
    | csi i ps f =>
      simp only [cellsOfIO, List.map_cons, ofIO, cellsOf, cellsOfIO_eq r]
      split
      · cases parseSGR s (ps.map (·.map Int.toNat)) <;> rfl
      · rfl
    | _ => simp only [cellsOfIO, List.map_cons, ofIO, cellsOf, cellsOfIO_eq r]

theorem deliver_good (clusterAt : Nat → Nat) (start : Nat) : ∀ (out : List Model.Parser.Seq) (rd : Model.ParserIO.Rd),
    (∀ x ∈ out, CsiOk x) → ∀ y ∈ (Model.ParserIO.deliver clusterAt start out rd).1, IOGood y
  | [], rd, _ => by intro y hy; simp [Model.ParserIO.deliver] at hy
  | q :: rest, rd, h => by
    have hq : CsiOk q := h q (List.mem_cons_self ..)
    have hrest : ∀ x ∈ rest, CsiOk x := fun x hx => h x (List.mem_cons_of_mem _ hx)
    cases q with
    | print r =>
      simp only [Model.ParserIO.deliver]
      intro y hy
      rcases List.mem_cons.mp hy with rfl | hy
      · trivial
      · exact deliver_good clusterAt start rest _ hrest y hy
    | _ =>
      simp only [Model.ParserIO.deliver]
      intro y hy
      rcases List.mem_cons.mp hy with rfl | hy
      · exact hq
      · exact deliver_good clusterAt start rest _ hrest y hy

theorem runLoop_good (T : Table) (clusterAt : Nat → Nat) : ∀ (fuel : Nat) (s : PState) (rd : Model.ParserIO.Rd),
    ∀ y ∈ Model.ParserIO.runLoop T clusterAt fuel s rd, IOGood y
  | 0, _, _ => by intro y hy; simp only [Model.ParserIO.runLoop, List.mem_singleton] at hy; subst hy; exact fun _ _ _ h => nomatch h
  | fuel + 1, s, rd => by
    unfold Model.ParserIO.runLoop
    simp only
    split
    · intro y hy
      simp only [List.mem_append, List.mem_map, List.mem_singleton] at hy
      rcases hy with ⟨x, hx, rfl⟩ | rfl
      · exact step_good T s .eof x hx
      · exact fun _ _ _ h => nomatch h
    · rename_i r rd1 _
      have hd := deliver_good clusterAt rd.pos (step T s (.rune r)).out rd1 (step_good T s (.rune r))
      revert hd
      cases Model.ParserIO.deliver clusterAt rd.pos (step T s (.rune r)).out rd1 with
      | mk items rd2 =>
        intro hd
        simp only
        split
        · intro y hy
          simp only [List.mem_append, List.mem_singleton] at hy
          rcases hy with hy | rfl
          · exact hd y hy
          · exact fun _ _ _ h => nomatch h
        · intro y hy
          rcases List.mem_append.mp hy with hy | hy
          · exact hd y hy
          · exact runLoop_good T clusterAt fuel _ _ y hy

theorem cellsOfIO_total (items : List Model.ParserIO.Item) (h : ∀ x ∈ items, IOGood x) (s : Style) :
    ∃ cs, cellsOfIO s items = .ok cs := by
  rw [cellsOfIO_eq]
  exact cellsOf_total _ (fun x hx => by obtain ⟨y, hy, rfl⟩ := List.mem_map.1 hx; exact h y hy) s

end VaxisModel.Lemmas.SgrTotal
