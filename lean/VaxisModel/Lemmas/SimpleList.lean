import VaxisModel.Model.ListGen

namespace VaxisModel.Lemmas.SimpleList
open VaxisModel.Model.SimpleList VaxisModel

def Inv (s : St) : Prop :=
  0 ≤ s.offset ∧ 0 ≤ s.index ∧ (s.index < (s.n : Int) ∨ (s.n = 0 ∧ s.index = 0))

theorem inv_new (n : Nat) : Inv (new n) := by
  unfold Inv new; simp; omega

theorem inv_nav (s : St) (h : Inv s) (op : Op) : Inv (nav gen s op) := by
  obtain ⟨h1, h2, h3⟩ := h
  cases op <;>
    simp only [nav, gen, Inv, Gen.ListFacts.down, Gen.ListFacts.up, Gen.ListFacts.home,
      Gen.ListFacts.«end», Gen.ListFacts.pageDown, Gen.ListFacts.pageUp, Gen.ListFacts.setItems] <;>
    (refine ⟨h1, ?_, ?_⟩ <;> first | omega | (simp only [and_true]; omega))

theorem follow_bounds (s : St) (h : Nat) (hi : Inv s) (hn : 0 < s.n) :
    0 ≤ follow s h ∧ follow s h ≤ (s.n : Int) ∧
      (0 < h → follow s h ≤ s.index ∧ s.index < follow s h + (h : Int)) := by
  obtain ⟨h1, h2, h3⟩ := hi
  unfold follow
  split
  · omega
  · split <;> omega

theorem draw_ok (s : St) (h : Nat) (hi : Inv s) :
    ∃ s' rows, draw gen s h = .ok (s', rows) ∧ Inv s' ∧ s'.n = s.n ∧ s'.index = s.index ∧
      (0 < s.n → s'.offset = follow s h ∧ rows = Model.SimpleList.rows (follow s h) s.index s.n h) ∧
      (s.n = 0 → s' = s ∧ rows = []) := by
  unfold draw
  by_cases hn : s.n = 0
  · refine ⟨s, [], ?_, hi, rfl, rfl, fun h => absurd h (by omega), fun _ => ⟨rfl, rfl⟩⟩
    simp [gen, Gen.ListFacts.drawEmptyGuard, hn]
  · have hpos : 0 < s.n := by omega
    obtain ⟨f1, f2, _⟩ := follow_bounds s h hi hpos
    have hg : (gen.drawEmptyGuard && s.n == 0) = false := by simp [hn]
    refine ⟨{ s with offset := follow s h }, Model.SimpleList.rows (follow s h) s.index s.n h, ?_, ?_, rfl, rfl, ?_⟩
    · simp [hg, f1, f2]
    · obtain ⟨_, h2, h3⟩ := hi
      exact ⟨f1, h2, h3⟩
    · exact ⟨fun _ => ⟨rfl, rfl⟩, fun h => absurd h hn⟩

theorem step_ok (s : St) (op : Op) (hi : Inv s) :
    ∃ s' rows, step gen s op = .ok (s', rows) ∧ Inv s' := by
  cases op with
  | draw h =>
    obtain ⟨s', rows, he, hi', _⟩ := draw_ok s h hi
    exact ⟨s', rows, he, hi'⟩
  | _ => exact ⟨_, _, rfl, inv_nav s hi _⟩

theorem run_ok (ops : List Op) : ∀ (s : St), Inv s → ∃ s', run gen s ops = .ok s' ∧ Inv s' := by
  induction ops with
  | nil => intro s hi; exact ⟨s, rfl, hi⟩
  | cons op ops ih =>
    intro s hi
    obtain ⟨s1, rows, he, hi1⟩ := step_ok s op hi
    obtain ⟨s2, he2, hi2⟩ := ih s1 hi1
    exact ⟨s2, by simp [run, he, he2], hi2⟩

theorem mem_rows {off index : Int} {n h : Nat} {r : Row} :
    r ∈ Model.SimpleList.rows off index n h ↔
      ∃ i : Nat, i < min (n - off.toNat) h ∧ r = { row := i, item := off + (i : Int), sel := ((i : Int) == index - off) } := by
  unfold Model.SimpleList.rows
  simp only [List.mem_map, List.mem_range]
  constructor
  · rintro ⟨i, hi, rfl⟩; exact ⟨i, hi, rfl⟩
  · rintro ⟨i, hi, rfl⟩; exact ⟨i, hi, rfl⟩

end VaxisModel.Lemmas.SimpleList
