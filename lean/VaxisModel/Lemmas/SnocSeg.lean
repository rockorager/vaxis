import VaxisModel.Spec.Editor

/-!
Streaming segmentations are `Segmentation`s (C17).

A segmentation that reads the text code point by code point and decides, from what it has read so
far and the next code point, whether that code point joins the current cluster or starts a new one
— the shape of UAX #29's rules and of uniseg's state machine — satisfies the three laws of
`Spec.Editor.Segmentation`: `SnocSeg f` (what appending one atom does to `f x`) implies
`Segmentation f`.
-/
namespace VaxisModel.Lemmas.SnocSeg
open VaxisModel.Spec.Editor (Segmentation)

variable {A : Type}

/-- Appending one atom either starts a new cluster or extends the last one. -/
structure SnocSeg (f : List A → List (List A)) : Prop where
  nil : f [] = []
  snoc : ∀ x a, f (x ++ [a]) = f x ++ [[a]] ∨ ∃ ini last, f x = ini ++ [last] ∧ f (x ++ [a]) = ini ++ [last ++ [a]]

theorem snoc_induction {P : List A → Prop} (h0 : P []) (hs : ∀ x a, P x → P (x ++ [a])) : ∀ x, P x := by
  intro x
  have key : ∀ n, ∀ x : List A, x.length = n → P x := by
    intro n
    induction n with
    | zero => intro x hx; have : x = [] := List.length_eq_zero_iff.mp hx; subst this; exact h0
    | succ n ih =>
      intro x hx
      have hne : x ≠ [] := by intro h; subst h; simp at hx
      have hx' := List.dropLast_concat_getLast hne
      rw [← hx']
      exact hs _ _ (ih _ (by simp [List.length_dropLast, hx]))
  exact key x.length x rfl

theorem flatten_eq (f : List A → List (List A)) (h : SnocSeg f) : ∀ x, (f x).flatten = x := by
  apply snoc_induction
  · simp [h.nil]
  · intro x a ih
    rcases h.snoc x a with e | ⟨ini, last, e1, e2⟩
    · rw [e]; simp [ih]
    · rw [e2]; rw [e1] at ih; simp at ih ⊢; rw [← ih]; simp

theorem length_snoc (f : List A → List (List A)) (h : SnocSeg f) (x : List A) (a : A) :
    (f x).length ≤ (f (x ++ [a])).length := by
  rcases h.snoc x a with e | ⟨ini, last, e1, e2⟩
  · rw [e]; simp
  · rw [e2, e1]; simp

theorem mono (f : List A → List (List A)) (h : SnocSeg f) : ∀ x y, (f x).length ≤ (f (x ++ y)).length := by
  intro x
  apply snoc_induction
  · simp
  · intro y a ih
    have := length_snoc f h (x ++ y) a
    rw [List.append_assoc] at this
    omega

theorem prefix_stable (f : List A → List (List A)) (h : SnocSeg f) :
    ∀ x i, i ≤ (f x).length → f ((f x).take i).flatten = (f x).take i := by
  apply snoc_induction
  · intro i _; simp [h.nil]
  · intro x a ih i hi
    rcases h.snoc x a with e | ⟨ini, last, e1, e2⟩
    · rw [e] at hi ⊢
      by_cases hle : i ≤ (f x).length
      · rw [List.take_append_of_le_length hle]; exact ih i hle
      · have : i = (f x).length + 1 := by simp at hi; omega
        subst this
        have hfl := flatten_eq f h x
        rw [show (f x ++ [[a]]).take ((f x).length + 1) = f x ++ [[a]] from List.take_of_length_le (by simp)]
        simp [hfl, e]
    · rw [e2] at hi ⊢
      by_cases hle : i ≤ ini.length
      · have h1 : (ini ++ [last ++ [a]]).take i = ini.take i := List.take_append_of_le_length hle
        have h2 : (f x).take i = ini.take i := by rw [e1]; exact List.take_append_of_le_length hle
        rw [h1, ← h2]
        exact ih i (by rw [e1]; simp; omega)
      · have : i = ini.length + 1 := by simp at hi; omega
        subst this
        have hfl := flatten_eq f h (x ++ [a])
        rw [e2] at hfl
        rw [show (ini ++ [last ++ [a]]).take (ini.length + 1) = ini ++ [last ++ [a]] from List.take_of_length_le (by simp)]
        rw [hfl, e2]

theorem segmentation_of_snocSeg (f : List A → List (List A)) (h : SnocSeg f) : Segmentation f where
  flatten := flatten_eq f h
  prefixLen := by
    intro x i hi
    rw [prefix_stable f h x i hi]
    simp; omega
  mono := mono f h

end VaxisModel.Lemmas.SnocSeg
