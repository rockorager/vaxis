/-
What the reference SGR interpretation `Spec.sgr` does with one parameter group, form by form
(the forms the renderer emits); used by the renderer proofs (C01) and the style-delta proofs (C18).
-/
import VaxisModel.Spec.Sgr

namespace VaxisModel.Lemmas.SpecSgr
open VaxisModel.Spec

theorem sgr_single (s : TStyle) (p : Nat) (h38 : p ≠ 38) (h48 : p ≠ 48) (h58 : p ≠ 58) (h4 : p ≠ 4) :
    sgr s [[p]] = sgrSimple s p := by
  simp [sgr, sgrStep, h38, h48, h58, h4]

theorem sgr_fgIdx (s : TStyle) (i : Nat) : sgr s [[38, 5, i]] = { s with fg := .idx i } := by
  simp [sgr, sgrStep, extColon, setExt]
theorem sgr_bgIdx (s : TStyle) (i : Nat) : sgr s [[48, 5, i]] = { s with bg := .idx i } := by
  simp [sgr, sgrStep, extColon, setExt]
theorem sgr_ulIdx (s : TStyle) (i : Nat) : sgr s [[58, 5, i]] = { s with ul := .idx i } := by
  simp [sgr, sgrStep, extColon, setExt]
theorem sgr_fgRgb (s : TStyle) (r g b : Nat) : sgr s [[38, 2, r, g, b]] = { s with fg := .rgb r g b } := by
  simp [sgr, sgrStep, extColon, setExt]
theorem sgr_bgRgb (s : TStyle) (r g b : Nat) : sgr s [[48, 2, r, g, b]] = { s with bg := .rgb r g b } := by
  simp [sgr, sgrStep, extColon, setExt]
theorem sgr_ulRgb (s : TStyle) (r g b : Nat) : sgr s [[58, 2, r, g, b]] = { s with ul := .rgb r g b } := by
  simp [sgr, sgrStep, extColon, setExt]

theorem sgrSimple_colour (s : TStyle) (p : Nat) (h : 30 ≤ p) :
    sgrSimple s p =
      if 30 ≤ p ∧ p ≤ 37 then { s with fg := .idx (p - 30) }
      else if p = 39 then { s with fg := .default }
      else if 40 ≤ p ∧ p ≤ 47 then { s with bg := .idx (p - 40) }
      else if p = 49 then { s with bg := .default }
      else if p = 59 then { s with ul := .default }
      else if 90 ≤ p ∧ p ≤ 97 then { s with fg := .idx (p - 90 + 8) }
      else if 100 ≤ p ∧ p ≤ 107 then { s with bg := .idx (p - 100 + 8) }
      else s := by
  unfold sgrSimple
  iterate 17 rw [if_neg (by omega)]  -- the 17 tests of `sgrSimple` on parameters below 30

theorem sgrSimple_fgLow (s : TStyle) (p : Nat) (h : 30 ≤ p ∧ p ≤ 37) : sgrSimple s p = { s with fg := .idx (p - 30) } := by
  rw [sgrSimple_colour s p h.1, if_pos h]
theorem sgrSimple_bgLow (s : TStyle) (p : Nat) (h : 40 ≤ p ∧ p ≤ 47) : sgrSimple s p = { s with bg := .idx (p - 40) } := by
  rw [sgrSimple_colour s p (by omega)]
  simp (disch := omega) only [if_neg, if_pos]
theorem sgrSimple_fgHigh (s : TStyle) (p : Nat) (h : 90 ≤ p ∧ p ≤ 97) : sgrSimple s p = { s with fg := .idx (p - 90 + 8) } := by
  rw [sgrSimple_colour s p (by omega)]
  simp (disch := omega) only [if_neg, if_pos]
theorem sgrSimple_bgHigh (s : TStyle) (p : Nat) (h : 100 ≤ p ∧ p ≤ 107) : sgrSimple s p = { s with bg := .idx (p - 100 + 8) } := by
  rw [sgrSimple_colour s p (by omega)]
  simp (disch := omega) only [if_neg, if_pos]

theorem sgr_fgLow (s : TStyle) (i : Nat) (h : i < 8) : sgr s [[30 + i]] = { s with fg := .idx i } := by
  rw [sgr_single s (30 + i) (by omega) (by omega) (by omega) (by omega), sgrSimple_fgLow s _ (by omega)]
  have e : 30 + i - 30 = i := by omega
  rw [e]
theorem sgr_bgLow (s : TStyle) (i : Nat) (h : i < 8) : sgr s [[40 + i]] = { s with bg := .idx i } := by
  rw [sgr_single s (40 + i) (by omega) (by omega) (by omega) (by omega), sgrSimple_bgLow s _ (by omega)]
  have e : 40 + i - 40 = i := by omega
  rw [e]
theorem sgr_fgHigh (s : TStyle) (i : Nat) (h8 : ¬ i < 8) (h : i < 16) : sgr s [[30 + 60 + (i - 8)]] = { s with fg := .idx i } := by
  rw [sgr_single s _ (by omega) (by omega) (by omega) (by omega), sgrSimple_fgHigh s _ (by omega)]
  have e : 30 + 60 + (i - 8) - 90 + 8 = i := by omega
  rw [e]
theorem sgr_bgHigh (s : TStyle) (i : Nat) (h8 : ¬ i < 8) (h : i < 16) : sgr s [[40 + 60 + (i - 8)]] = { s with bg := .idx i } := by
  rw [sgr_single s _ (by omega) (by omega) (by omega) (by omega), sgrSimple_bgHigh s _ (by omega)]
  have e : 40 + 60 + (i - 8) - 100 + 8 = i := by omega
  rw [e]

theorem sgr_39 (s : TStyle) : sgr s [[39]] = { s with fg := .default } := by
  rw [sgr_single s _ (by decide) (by decide) (by decide) (by decide)]; simp [sgrSimple]
theorem sgr_49 (s : TStyle) : sgr s [[49]] = { s with bg := .default } := by
  rw [sgr_single s _ (by decide) (by decide) (by decide) (by decide)]; simp [sgrSimple]
theorem sgr_59 (s : TStyle) : sgr s [[59]] = { s with ul := .default } := by
  rw [sgr_single s _ (by decide) (by decide) (by decide) (by decide)]; simp [sgrSimple]

theorem sgr_4n (s : TStyle) (n : Nat) : sgr s [[4, n]] = { s with ulStyle := if n ≤ 5 then n else 1 } := by
  simp [sgr, sgrStep]
theorem sgr_4 (s : TStyle) : sgr s [[4]] = { s with ulStyle := 1 } := by
  simp [sgr, sgrStep]
theorem sgr_24 (s : TStyle) : sgr s [[24]] = { s with ulStyle := 0 } := by
  rw [sgr_single s _ (by decide) (by decide) (by decide) (by decide)]; simp [sgrSimple]
theorem sgr_22 (s : TStyle) : sgr s [[22]] = { s with bold := false, dim := false } := by
  rw [sgr_single s _ (by decide) (by decide) (by decide) (by decide)]; simp [sgrSimple]
theorem sgr_1 (s : TStyle) : sgr s [[1]] = { s with bold := true } := by
  rw [sgr_single s _ (by decide) (by decide) (by decide) (by decide)]; simp [sgrSimple]
theorem sgr_2 (s : TStyle) : sgr s [[2]] = { s with dim := true } := by
  rw [sgr_single s _ (by decide) (by decide) (by decide) (by decide)]; simp [sgrSimple]

end VaxisModel.Lemmas.SpecSgr
