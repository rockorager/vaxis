import VaxisModel.Lemmas.StartupSeq
import VaxisModel.Lemmas.InputLoop

/-! Invariants of the start-up LTS (`Model/Startup.lean`) behind `Props.C07Caps.caps_exact`. -/
namespace VaxisModel.Lemmas.Startup
open VaxisModel.Model.Input VaxisModel.Model.InputLoop VaxisModel.Model.Startup
open VaxisModel.Lemmas.Input VaxisModel.Lemmas.InputEvents VaxisModel.Lemmas.StartupSeq
open VaxisModel.Spec.Startup

def DA : Event := note .primaryDeviceAttribute

def isDA (e : Event) : Bool := e == DA

def upto : List Event → List Event
  | [] => []
  | e :: r => if isDA e then [e] else e :: upto r

def insPre : List Seq → List Seq
  | [] => []
  | s :: r => if isDA1 s then [s] else s :: insPre r

def seenDA (ins : List Seq) : Bool := ins.any isDA1

def np (st : St) : List Event := (st.sys.queue ++ posted st.sys.pend).filter isNotice

def up (st : St) : List Event := upto (np st)

theorem upto_append_of_da (l m : List Event) (h : l.any isDA = true) : upto (l ++ m) = upto l := by
  induction l with
  | nil => simp at h
  | cons a t ih =>
    by_cases ha : isDA a = true
    · simp [upto, ha]
    · simp only [List.any_cons, ha, Bool.false_or] at h
      simp [upto, ha, ih h]

theorem upto_append_of_not (l m : List Event) (h : l.any isDA = false) : upto (l ++ m) = l ++ upto m := by
  induction l with
  | nil => rfl
  | cons a t ih =>
    simp only [List.any_cons, Bool.or_eq_false_iff] at h
    simp [upto, h.1, ih h.2]

theorem upto_of_not (l : List Event) (h : l.any isDA = false) : upto l = l := by
  have := upto_append_of_not l [] h
  simpa [upto] using this

theorem upto_subset (l : List Event) : ∀ e ∈ upto l, e ∈ l := by
  induction l with
  | nil => simp [upto]
  | cons a t ih =>
    intro e he
    by_cases ha : isDA a = true
    · simp [upto, ha] at he; simp [he]
    · simp [upto, ha] at he
      rcases he with rfl | he
      · simp
      · simp [ih e he]

theorem upto_remove (a b : List Event) (e : Event) (he : isDA e = false) :
    ∀ x ∈ upto (a ++ b), x ∈ upto (a ++ e :: b) := by
  induction a with
  | nil => intro x hx; simp only [List.nil_append] at hx ⊢; simp [upto, he, hx]
  | cons c t ih =>
    intro x hx
    by_cases hc : isDA c = true
    · simpa [upto, hc] using hx
    · simp [upto, hc] at hx ⊢
      rcases hx with rfl | hx
      · exact Or.inl rfl
      · exact Or.inr (ih x hx)

theorem lastTermID_append (a b : List Event) (d : List Nat) :
    lastTermID (a ++ b) d = lastTermID b (lastTermID a d) := by
  induction a generalizing d with
  | nil => rfl
  | cons e t ih => cases e <;> simp [lastTermID, ih]

theorem lastTermID_filter (p : Event → Bool) (hp : ∀ s, p (.terminalID s) = true) (a : List Event) (d : List Nat) :
    lastTermID (a.filter p) d = lastTermID a d := by
  induction a generalizing d with
  | nil => rfl
  | cons e t ih =>
    by_cases he : p e = true
    · cases e <;> simp [he, lastTermID, ih]
    · cases e <;> simp_all [lastTermID]

theorem insPre_append_seen (ins : List Seq) (s : Seq) (h : seenDA ins = true) : insPre (ins ++ [s]) = insPre ins := by
  induction ins with
  | nil => simp [seenDA] at h
  | cons a t ih =>
    by_cases ha : isDA1 a = true
    · simp [insPre, ha]
    · simp only [seenDA, List.any_cons, ha, Bool.false_or] at h
      simp [insPre, ha, ih h]

theorem insPre_of_not_seen (ins : List Seq) (h : seenDA ins = false) : insPre ins = ins := by
  induction ins with
  | nil => rfl
  | cons a t ih =>
    simp only [seenDA, List.any_cons, Bool.or_eq_false_iff] at h
    simp [insPre, h.1, ih h.2]

theorem insPre_append_not_seen (ins : List Seq) (s : Seq) (h : seenDA ins = false) : insPre (ins ++ [s]) = ins ++ [s] := by
  induction ins with
  | nil => by_cases hs : isDA1 s = true <;> simp [insPre, hs]
  | cons a t ih =>
    simp only [seenDA, List.any_cons, Bool.or_eq_false_iff] at h
    simp [insPre, h.1, ih h.2]

def hasI (c : Caps) : Internal → Bool
  | .primaryDeviceAttribute => false
  | .capabilitySixel => c.sixels | .capabilityOsc4 => c.osc4 | .capabilityOsc10 => c.osc10 | .capabilityOsc11 => c.osc11
  | .synchronizedUpdates => c.synchronizedUpdate | .unicodeCoreCap => c.unicodeCore | .kittyKeyboard => c.kittyKeyboard
  | .kittyGraphics => c.kittyGraphics | .styledUnderlines => c.styledUnderlines | .truecolor => c.rgb
  | .notifyColorChange => c.colorThemeUpdates | .textAreaPix => c.reportSizePixels | .textAreaChar => c.reportSizeChars
  | .inBandResizeEvents => c.inBandResize

/-- The test stands first in the disjunction so that every case holds by unfolding. -/
theorem hasI_collect (dk : Bool) (c : Caps) (i j : Internal) :
    hasI (collect dk c i) j =
      ((decide (j = i) && decide (i ≠ .primaryDeviceAttribute) && !(decide (i = .kittyKeyboard) && dk)) || hasI c j) := by
  cases i <;> cases j <;> cases dk <;> rfl

theorem hasI_collect_self (dk : Bool) (c : Caps) (i : Internal) (hi : i ≠ .primaryDeviceAttribute) :
    hasI (collect dk c i) i = true ∨ (i = .kittyKeyboard ∧ dk = true) := by
  rw [hasI_collect]
  by_cases hk : i = .kittyKeyboard <;> cases dk <;> simp [hi, hk]

theorem hasI_collect_mono (dk : Bool) (c : Caps) (i j : Internal) (h : hasI c j = true) : hasI (collect dk c i) j = true := by
  rw [hasI_collect, h, Bool.or_true]

theorem hasI_collect_inv (dk : Bool) (c : Caps) (i j : Internal) (h : hasI (collect dk c i) j = true) :
    hasI c j = true ∨ j = i := by
  rw [hasI_collect] at h
  simp only [Bool.or_eq_true, Bool.and_eq_true, decide_eq_true_eq] at h
  exact h.symm.imp id fun h => h.1.1

theorem collect_osc176 (dk : Bool) (c : Caps) (i : Internal) : (collect dk c i).osc176 = c.osc176 := by
  cases i <;> cases dk <;> rfl

theorem collect_ew (dk : Bool) (c : Caps) (i : Internal) :
    (collect dk c i).explicitWidth = c.explicitWidth ∧ (collect dk c i).noZWJ = c.noZWJ := by
  cases i <;> cases dk <;> exact ⟨rfl, rfl⟩

theorem known_hasI (c : Caps) (i : Internal) (h : known c (note i) = true) : hasI c i = true := by
  cases i <;> simp_all [known, note, hasI]

theorem known_other (c : Caps) (e : Event) (h : ∀ i, e ≠ note i) : known c e = false := by
  cases e <;> simp_all [known, note]

theorem mem_ite {α} (a : α) (c : Prop) [Decidable c] (l1 l2 : List α) :
    (a ∈ if c then l1 else l2) = if c then a ∈ l1 else a ∈ l2 := by
  split <;> rfl

/-- Every other list `notices` builds is an `if` over singletons of other notifications. -/
theorem isDA1_shape (s : Seq) (h : isDA1 s = true) : ∃ ps, s = .csi [63] ps 99 := by
  cases s with
  | csi interm ps fin =>
    by_cases h99 : fin = 99
    · subst h99
      by_cases hp : interm = [63]
      · subst hp; exact ⟨ps, rfl⟩
      · simp [isDA1, notices, noticesCSI, hp] at h
    · simp [isDA1, notices, noticesCSI, note, mem_ite, h99] at h
      obtain ⟨-, h⟩ := h
      split at h <;> simp [mem_ite] at h
  | dcs fin interm ps data => simp [isDA1, notices, noticesDCS, note, mem_ite] at h
  | osc pl => simp [isDA1, notices, appIDOf, note, mem_ite] at h
  | apc d => simp [isDA1, notices, note, mem_ite] at h
  | _ => simp [isDA1, notices] at h

theorem da1_effs (b64 : List Nat → Option (List Nat)) (st st' : VState) (ps : List (List Int)) (effs : List Effect)
    (h : handle b64 st (.csi [63] ps 99) = .ok (st', effs)) :
    ∃ n, effs = List.replicate n (.postB (note .capabilitySixel)) ++ [.postB DA] := by
  cases hm : ps.mapM (fun p => idx p 0) with
  | error e => simp [handle, handleCSI, ch, isPrivate, hm, bind, Except.bind] at h
  | ok fs =>
    simp [handle, handleCSI, ch, isPrivate, hm, bind, Except.bind, pure, Except.pure] at h
    exact ⟨(fs.filter (· == 4)).length, by rw [← h.2]; simp [List.map_const', note, DA]⟩

/-! The replies handled so far, cut after the DA1 reply (`insPre`), justify the capability record; and as long as no
non-blocking post was dropped, the record together with the notifications still pending, cut after the DA1 notification
(`upto`), covers what they advertised.  Field names: `s…` sound (a flag that is set was advertised), `c…` complete (what
was advertised is set, or still pending), `ps…` sound for what is pending; `…I` the flag of an internal notification
(`hasI`), `…A` the app id (`osc176`), `…T` truecolor by `COLORTERM`; `tid` the terminal id, `ew` the explicit-width
probe, `dk` the option that disables the kitty keyboard. -/

def JustI (o : Opts) (ins : List Seq) (i : Internal) : Prop :=
  adv (insPre ins) i = true ∨ (i = .truecolor ∧ o.colorterm = true)

def JustA (ins : List Seq) : Prop := (insPre ins).any (fun s => (notices s).any isAppID) = true

structure View where
  np : List Event
  caps : Caps
  dropped : Nat
  ins : List Seq
  termID : List Nat
  probeGot : Option (Int × Int)
  phase : Phase
  timedOut : Bool

def view (st : St) : View :=
  { np := np st, caps := st.sys.vs.caps, dropped := st.sys.dropped, ins := st.ins, termID := st.termID,
    probeGot := st.probeGot, phase := st.phase, timedOut := st.timedOut }

def active (ph : Phase) : Prop := ph = .probe ∨ ph = .loop

/-- The loop was ended by the DA1 notification and nothing was dropped: everything advertised is in the record. -/
structure DoneP (o : Opts) (v : View) (c : Caps) : Prop where
  cI : ∀ i, i ≠ .primaryDeviceAttribute → adv (insPre v.ins) i = true → hasI c i = true ∨ (i = .kittyKeyboard ∧ o.disableKitty = true)
  cT : o.colorterm = true → c.rgb = true
  cA : JustA v.ins → c.osc176 = true
  tid : v.termID = termIDOf (insPre v.ins)

/-- The record `c` holds nothing unadvertised; `done` says when it is complete (`DoneP`). -/
structure Core (o : Opts) (v : View) (c : Caps) : Prop where
  sI : ∀ i, hasI c i = true → JustI o v.ins i
  sA : c.osc176 = true → JustA v.ins
  ew : (c.explicitWidth = true ↔ ∃ x, v.probeGot = some x ∧ wrap64 (x.2 - 1) = 1) ∧ c.noZWJ = false
  done : (v.phase = .done ∨ v.phase = .ready) → v.timedOut = false → seenDA v.ins = true ∧ (v.dropped = 0 → DoneP o v c)
  dk : o.disableKitty = true → c.kittyKeyboard = false

/-- Nothing was dropped so far: whatever the replies up to DA1 advertised is still pending or already collected. -/
structure Complete (o : Opts) (v : View) : Prop where
  cI : ∀ i, i ≠ .primaryDeviceAttribute → adv (insPre v.ins) i = true →
         note i ∈ upto v.np ∨ hasI v.caps i = true ∨ (i = .kittyKeyboard ∧ o.disableKitty = true)
  cT : o.colorterm = true → note .truecolor ∈ upto v.np ∨ v.caps.rgb = true
  cA : JustA v.ins → (upto v.np).any isAppID = true ∨ v.caps.osc176 = true
  tid : lastTermID (upto v.np) v.termID = termIDOf (insPre v.ins)

/-- What holds of the pending notifications while the loop of `New` can still receive them. -/
structure Active (o : Opts) (v : View) : Prop where
  noDA : seenDA v.ins = false → v.np.any isDA = false
  hasDA : seenDA v.ins = true → v.np.any isDA = true
  psI : ∀ i, note i ∈ upto v.np → JustI o v.ins i
  psA : (upto v.np).any isAppID = true → JustA v.ins
  full : v.dropped = 0 → Complete o v
  notTO : v.timedOut = false

/-- `Core` holds of the record itself until the quirks are applied on entering `.ready`, afterwards of the record as it
was before (`c0`). -/
structure InvV (o : Opts) (v : View) : Prop where
  act : active v.phase → Active o v
  probe : v.phase = .probe → v.probeGot = none
  core : v.phase ≠ .ready → Core o v v.caps
  ready : v.phase = .ready → ∃ c0, v.caps = applyQuirks o v.termID c0 ∧ Core o v c0

theorem InvV.hasDA {o : Opts} {v : View} (h : InvV o v) (ha : active v.phase) : seenDA v.ins = true → v.np.any isDA = true :=
  (h.act ha).hasDA

structure Inv (o : Opts) (st : St) : Prop where
  nb : ∀ ev, Effect.postNB ev ∈ st.sys.pend → isDA ev = false
  v : InvV o (view st)

theorem adv_append (a b : List Seq) (i : Internal) : adv (a ++ b) i = (adv a i || adv b i) := by
  simp [adv, List.any_append]

theorem insPre_mono (ins : List Seq) (s : Seq) : ∃ t, insPre (ins ++ [s]) = insPre ins ++ t := by
  by_cases h : seenDA ins = true
  · exact ⟨[], by simp [insPre_append_seen ins s h]⟩
  · have h' : seenDA ins = false := by simpa using h
    exact ⟨[s], by rw [insPre_append_not_seen ins s h', insPre_of_not_seen ins h']⟩

theorem JustI_mono (o : Opts) (ins : List Seq) (s : Seq) (i : Internal) (h : JustI o ins i) : JustI o (ins ++ [s]) i := by
  obtain ⟨t, ht⟩ := insPre_mono ins s
  rcases h with h | h
  · left; rw [ht, adv_append, h]; rfl
  · right; exact h

theorem JustA_mono (ins : List Seq) (s : Seq) (h : JustA ins) : JustA (ins ++ [s]) := by
  obtain ⟨t, ht⟩ := insPre_mono ins s
  unfold JustA at h ⊢
  rw [ht, List.any_append, h]; rfl

theorem seenDA_append (ins : List Seq) (s : Seq) : seenDA (ins ++ [s]) = (seenDA ins || isDA1 s) := by
  simp [seenDA, List.any_append]

theorem core_input (o : Opts) (v : View) (c : Caps) (s : Seq) (npn : List Event) (h : Core o v c) :
    Core o { v with np := npn, ins := v.ins ++ [s] } c := by
  refine ⟨fun i hi => JustI_mono o v.ins s i (h.sI i hi), fun ha => JustA_mono v.ins s (h.sA ha), h.ew, ?_, h.dk⟩
  intro hp hto
  obtain ⟨hs, hd⟩ := h.done hp hto
  refine ⟨by simp [seenDA_append, hs], fun h0 => ?_⟩
  have hd := hd h0
  have hpre : insPre (v.ins ++ [s]) = insPre v.ins := insPre_append_seen v.ins s hs
  exact ⟨by simpa [hpre] using hd.cI, hd.cT, by simpa [JustA, hpre] using hd.cA, by simpa [hpre] using hd.tid⟩

theorem isDA_note (i : Internal) : isDA (note i) = true ↔ i = .primaryDeviceAttribute := by
  cases i <;> simp [isDA, DA, note]

theorem not_known_DA (c : Caps) : known c DA = false := rfl

/-- In the notifications of one reply DA1 can only come last. -/
theorem upto_notices (c : Caps) (s : Seq) :
    upto ((notices s).filter (fun e => !known c e)) = (notices s).filter (fun e => !known c e) := by
  by_cases h : isDA1 s = true
  · obtain ⟨ps, rfl⟩ := isDA1_shape s h
    simp only [notices, spec_c, beq_self_eq_true, if_true, List.map_const', List.filter_append]
    have h1 : (List.replicate (List.filter (fun p => p.head? == some 4) ps).length (note Internal.capabilitySixel)).filter (fun e => !known c e)
        = List.replicate (List.filter (fun p => p.head? == some 4) ps).length (note Internal.capabilitySixel) := by
      simp [known, note]
    have h2 : [note Internal.primaryDeviceAttribute].filter (fun e => !known c e) = [DA] := by simp [known, note, DA]
    rw [h1, h2, upto_append_of_not _ _ (by simp [List.any_replicate, isDA, DA, note])]
    simp [upto, isDA]
  · apply upto_of_not
    have h' : isDA1 s = false := by simpa using h
    simp only [isDA1, List.contains_eq_mem] at h'
    rw [List.any_eq_false]
    intro e he
    simp only [List.mem_filter] at he
    intro hda
    simp only [isDA, beq_iff_eq] at hda
    subst hda
    simp only [decide_eq_false_iff_not] at h'
    exact h' he.1

theorem mem_filter_known (c : Caps) (s : Seq) (i : Internal) (h : note i ∈ notices s) :
    note i ∈ (notices s).filter (fun e => !known c e) ∨ hasI c i = true := by
  by_cases hk : known c (note i) = true
  · exact Or.inr (known_hasI c i hk)
  · exact Or.inl (List.mem_filter.mpr ⟨h, by simpa using hk⟩)

theorem adv_single (s : Seq) (i : Internal) : adv [s] i = true ↔ note i ∈ notices s := by
  simp [adv]

theorem termIDOf_append (ins : List Seq) (s : Seq) :
    termIDOf (ins ++ [s]) = lastTermID (notices s) (termIDOf ins) := by
  simp [termIDOf, List.flatMap_append, lastTermID_append]

theorem invV_input (o : Opts) (v : View) (s : Seq) (h : InvV o v) :
    InvV o { v with np := v.np ++ (notices s).filter (fun e => !known v.caps e), ins := v.ins ++ [s] } := by
  refine ⟨fun ha => ?_, h.probe, fun hr => core_input o v _ s _ (h.core hr),
    fun hr => (h.ready hr).imp fun c0 hc => ⟨hc.1, core_input o v c0 s _ hc.2⟩⟩
  have hA := h.act ha
  by_cases hs : seenDA v.ins = true
  · -- the DA1 reply has been handled already: nothing before it changes
    have hpre : insPre (v.ins ++ [s]) = insPre v.ins := insPre_append_seen v.ins s hs
    have hseen : seenDA (v.ins ++ [s]) = true := by simp [seenDA_append, hs]
    have hup : upto (v.np ++ (notices s).filter (fun e => !known v.caps e)) = upto v.np :=
      upto_append_of_da _ _ (hA.hasDA hs)
    refine ⟨?_, ?_, ?_, ?_, fun h0 => ⟨?_, ?_, ?_, ?_⟩, hA.notTO⟩
    · intro hns; simp [hseen] at hns
    · intro _; simp [List.any_append, hA.hasDA hs]
    · intro i hi; rw [hup] at hi; exact JustI_mono o v.ins s i (hA.psI i hi)
    · intro hi; rw [hup] at hi; exact JustA_mono v.ins s (hA.psA hi)
    · intro i hi hadv; simp only [hpre] at hadv; rw [hup]; exact (hA.full h0).cI i hi hadv
    · intro hc; rw [hup]; exact (hA.full h0).cT hc
    · intro hj; rw [hup]; exact (hA.full h0).cA (by simpa [JustA, hpre] using hj)
    · simp only [hpre]; rw [hup]; exact (hA.full h0).tid
  · have hs' : seenDA v.ins = false := by simpa using hs
    have hpre : insPre (v.ins ++ [s]) = v.ins ++ [s] := insPre_append_not_seen v.ins s hs'
    have hpre0 : insPre v.ins = v.ins := insPre_of_not_seen v.ins hs'
    have hup : upto (v.np ++ (notices s).filter (fun e => !known v.caps e))
        = v.np ++ (notices s).filter (fun e => !known v.caps e) := by
      rw [upto_append_of_not _ _ (hA.noDA hs'), upto_notices]
    have hup0 : upto v.np = v.np := upto_of_not _ (hA.noDA hs')
    refine ⟨?_, ?_, ?_, ?_, fun h0 => ⟨?_, ?_, ?_, ?_⟩, hA.notTO⟩
    · intro hns
      simp only [seenDA_append, hs', Bool.false_or] at hns
      simp only [List.any_append, hA.noDA hs', Bool.false_or]
      rw [List.any_eq_false]
      intro e he hda
      simp only [isDA, beq_iff_eq] at hda
      subst hda
      have : isDA1 s = true := by
        simp only [isDA1, List.contains_eq_mem, decide_eq_true_eq]; exact (List.mem_filter.mp he).1
      simp [this] at hns
    · intro hss
      simp only [seenDA_append, hs', Bool.false_or] at hss
      rw [List.any_append, Bool.or_eq_true]
      right
      refine List.any_eq_true.mpr ⟨DA, List.mem_filter.mpr ⟨?_, by simp [not_known_DA]⟩, by simp [isDA]⟩
      simpa [isDA1, DA] using hss
    · intro i hi
      simp only [] at hi  -- reduces the projections of `{ v with … }`, here and below
      rw [hup, List.mem_append] at hi
      rcases hi with hi | hi
      · exact JustI_mono o v.ins s i (hA.psI i (by rw [hup0]; exact hi))
      · left; simp only [hpre]; rw [adv_append, (adv_single s i).mpr (List.mem_filter.mp hi).1]; simp
    · intro hi
      simp only [] at hi
      rw [hup, List.any_append, Bool.or_eq_true] at hi
      rcases hi with hi | hi
      · exact JustA_mono v.ins s (hA.psA (by rw [hup0]; exact hi))
      · simp only [JustA, hpre, List.any_append, Bool.or_eq_true]
        right
        simp only [List.any_cons, List.any_nil, Bool.or_false]
        obtain ⟨e, he, hea⟩ := List.any_eq_true.mp hi
        exact List.any_eq_true.mpr ⟨e, (List.mem_filter.mp he).1, hea⟩
    · intro i hi hadv
      simp only [hpre] at hadv
      rw [adv_append, Bool.or_eq_true] at hadv
      simp only [] at *
      rw [hup]
      rcases hadv with hadv | hadv
      · rcases (hA.full h0).cI i hi (by rw [hpre0]; exact hadv) with h1 | h1 | h1
        · left; rw [hup0] at h1; exact List.mem_append.mpr (Or.inl h1)
        · exact Or.inr (Or.inl h1)
        · exact Or.inr (Or.inr h1)
      · rcases mem_filter_known v.caps s i ((adv_single s i).mp hadv) with h1 | h1
        · left; exact List.mem_append.mpr (Or.inr h1)
        · exact Or.inr (Or.inl h1)
    · intro hc
      simp only [] at *
      rw [hup]
      rcases (hA.full h0).cT hc with h1 | h1
      · left; rw [hup0] at h1; exact List.mem_append.mpr (Or.inl h1)
      · exact Or.inr h1
    · intro hj
      simp only [] at *
      rw [hup]
      simp only [JustA, hpre, List.any_append, Bool.or_eq_true, List.any_cons, List.any_nil, Bool.or_false] at hj
      rcases hj with hj | hj
      · rcases (hA.full h0).cA (by simpa [JustA, hpre0] using hj) with h1 | h1
        · left; rw [hup0] at h1; simp [List.any_append, h1]
        · exact Or.inr h1
      · left
        obtain ⟨e, he, hea⟩ := List.any_eq_true.mp hj
        rw [List.any_append, Bool.or_eq_true]
        right
        refine List.any_eq_true.mpr ⟨e, List.mem_filter.mpr ⟨he, ?_⟩, hea⟩
        cases e <;> simp [isAppID] at hea
        rfl
    · simp only [] at *
      rw [hup, hpre, termIDOf_append, lastTermID_append]
      have := (hA.full h0).tid
      rw [hup0, hpre0] at this
      rw [this]
      apply lastTermID_filter
      intro t; rfl

theorem invV_shrink (o : Opts) (v : View) (np' : List Event) (d' : Nat) (hd : d' ≠ 0)
    (hsub : ∀ x ∈ upto np', x ∈ upto v.np) (hany : np'.any isDA = v.np.any isDA) (h : InvV o v) :
    InvV o { v with np := np', dropped := d' } := by
  have f : ∀ c, Core o v c → Core o { v with np := np', dropped := d' } c := fun c hc =>
    ⟨hc.sI, hc.sA, hc.ew, fun hp hto => ⟨(hc.done hp hto).1, fun h0 => absurd h0 hd⟩, hc.dk⟩
  refine ⟨fun ha => ?_, h.probe, fun hr => f _ (h.core hr), fun hr => (h.ready hr).imp fun c0 hc => ⟨hc.1, f c0 hc.2⟩⟩
  · have hA := h.act ha
    refine ⟨?_, ?_, fun i hi => hA.psI i (hsub _ hi), ?_, fun h0 => absurd h0 hd, hA.notTO⟩
    · intro hs; simp only [hany]; exact hA.noDA hs
    · intro hs; simp only [hany]; exact hA.hasDA hs
    · intro hi
      obtain ⟨e, he, hea⟩ := List.any_eq_true.mp hi
      exact hA.psA (List.any_eq_true.mpr ⟨e, hsub e he, hea⟩)

theorem wrap64_probe (c : Int) (h1 : -9223372036854775808 ≤ c) (h2 : c < 9223372036854775808) :
    wrap64 (c - 1) = 1 ↔ c = 2 := by
  unfold wrap64; omega

theorem invV_probeRecv (o : Opts) (v : View) (x : Int × Int) (hp : v.phase = .probe) (h : InvV o v) :
    InvV o { v with caps := if wrap64 (x.2 - 1) == 1 then { v.caps with explicitWidth := true } else v.caps,
                    probeGot := some x, phase := .loop } := by
  have hA := h.act (Or.inl hp)
  have hI : ∀ i, hasI (if wrap64 (x.2 - 1) == 1 then { v.caps with explicitWidth := true } else v.caps) i = hasI v.caps i := by
    intro i; split <;> cases i <;> rfl
  have h176 : (if wrap64 (x.2 - 1) == 1 then { v.caps with explicitWidth := true } else v.caps).osc176 = v.caps.osc176 := by
    split <;> rfl
  have hrgb : (if wrap64 (x.2 - 1) == 1 then { v.caps with explicitWidth := true } else v.caps).rgb = v.caps.rgb := by
    split <;> rfl
  have hkk : (if wrap64 (x.2 - 1) == 1 then { v.caps with explicitWidth := true } else v.caps).kittyKeyboard = v.caps.kittyKeyboard := by
    split <;> rfl
  have hcore := h.core (by simp [hp])
  refine ⟨fun _ => ⟨hA.noDA, hA.hasDA, hA.psI, hA.psA, fun h0 => ⟨?_, ?_, ?_, (hA.full h0).tid⟩, hA.notTO⟩,
    (by intro hc; cases hc), fun _ => ?_, fun hr => by cases hr⟩
  · intro i hi hadv; simp only [hI]; exact (hA.full h0).cI i hi hadv
  · intro hc; simp only [hrgb]; exact (hA.full h0).cT hc
  · intro hj; simp only [h176]; exact (hA.full h0).cA hj
  · refine ⟨fun i hi => hcore.sI i (by rw [hI] at hi; exact hi), fun h1 => hcore.sA (by rw [h176] at h1; exact h1), ?_,
      (fun hph => by rcases hph with hph | hph <;> cases hph), (fun hd => by rw [hkk]; exact hcore.dk hd)⟩
    have hn := h.probe hp
    have hew : v.caps.explicitWidth = false := by
      cases hx : v.caps.explicitWidth
      · rfl
      · have := hcore.ew.1.mp hx; simp [hn] at this
    constructor
    · constructor
      · intro hx
        refine ⟨x, rfl, ?_⟩
        by_cases hw : wrap64 (x.2 - 1) = 1
        · exact hw
        · simp [hw, hew] at hx
      · rintro ⟨y, hy, hw⟩
        cases hy
        simp [hw]
    · split <;> exact hcore.ew.2

theorem Active.at_phase {o : Opts} {v : View} (hA : Active o v) (ph : Phase) : Active o { v with phase := ph } :=
  ⟨hA.noDA, hA.hasDA, hA.psI, hA.psA,
    fun h0 => ⟨(hA.full h0).cI, (hA.full h0).cT, (hA.full h0).cA, (hA.full h0).tid⟩, hA.notTO⟩

theorem invV_probeTimeout (o : Opts) (v : View) (hp : v.phase = .probe) (h : InvV o v) :
    InvV o { v with phase := .loop } := by
  have hcore := h.core (by simp [hp])
  exact ⟨fun _ => (h.act (Or.inl hp)).at_phase _, (by intro hc; cases hc),
    fun _ => ⟨hcore.sI, hcore.sA, hcore.ew, (fun hph => by rcases hph with hph | hph <;> cases hph), hcore.dk⟩,
    fun hr => by cases hr⟩

theorem not_active {ph : Phase} (h : ph = .done ∨ ph = .ready) : ¬ active ph := by
  rintro (hx | hx) <;> subst hx <;> rcases h with h | h <;> cases h

theorem invV_loopTimeout (o : Opts) (v : View) (hp : v.phase = .loop) (h : InvV o v) :
    InvV o { v with phase := .done, timedOut := true } := by
  have hcore := h.core (by simp [hp])
  exact ⟨fun ha => absurd ha (not_active (.inl rfl)), (by intro hc; cases hc),
    fun _ => ⟨hcore.sI, hcore.sA, hcore.ew, (fun _ hto => by cases hto), hcore.dk⟩, fun hr => by cases hr⟩

theorem invV_quirks (o : Opts) (v : View) (hp : v.phase = .done) (h : InvV o v) :
    InvV o { v with caps := applyQuirks o v.termID v.caps, phase := .ready } := by
  have hcore := h.core (by simp [hp])
  refine ⟨fun ha => absurd ha (not_active (.inr rfl)), (by intro hc; cases hc), fun hr => absurd rfl hr,
    fun _ => ⟨v.caps, rfl, hcore.sI, hcore.sA, hcore.ew, fun _ hto => ?_, hcore.dk⟩⟩
  obtain ⟨h1, h2⟩ := hcore.done (Or.inl hp) hto
  exact ⟨h1, fun h0 => ⟨(h2 h0).cI, (h2 h0).cT, (h2 h0).cA, (h2 h0).tid⟩⟩

theorem note_inj {i j : Internal} (h : note i = note j) : i = j := by
  simpa [note] using h

theorem invV_loopDA (o : Opts) (v : View) (np' : List Event) (hp : v.phase = .loop) (hnp : v.np = DA :: np') (h : InvV o v) :
    InvV o { v with np := np', phase := .done } := by
  have hA := h.act (Or.inr hp)
  have hcore := h.core (by simp [hp])
  have hup : upto v.np = [DA] := by rw [hnp]; simp [upto, isDA]
  refine ⟨fun ha => absurd ha (not_active (.inl rfl)), (by intro hc; cases hc),
    fun _ => ⟨hcore.sI, hcore.sA, hcore.ew, fun _ _ => ⟨?_, fun h0 => ⟨?_, ?_, ?_, ?_⟩⟩, hcore.dk⟩, fun hr => by cases hr⟩
  · cases hs : seenDA v.ins
    · have := hA.noDA hs; rw [hnp] at this; simp [isDA] at this
    · rfl
  · intro i hi hadv
    rcases (hA.full h0).cI i hi hadv with h1 | h1
    · rw [hup] at h1; simp only [List.mem_singleton] at h1; exact absurd (note_inj h1) hi
    · exact h1
  · intro hc
    rcases (hA.full h0).cT hc with h1 | h1
    · rw [hup] at h1; simp [DA, note] at h1
    · exact h1
  · intro hj
    rcases (hA.full h0).cA hj with h1 | h1
    · rw [hup] at h1; simp [DA, note, isAppID] at h1
    · exact h1
  · have := (hA.full h0).tid
    rw [hup] at this
    simpa [lastTermID, DA, note] using this

/-- What receiving the notification `e` does to the record and the terminal id (`collectEv`), as far as the invariant
looks: `e` sets its own flag and no other. -/
structure Collects (o : Opts) (v : View) (e : Event) (c' : Caps) (t' : List Nat) : Prop where
  sI : ∀ j, hasI c' j = true → hasI v.caps j = true ∨ e = note j
  keepI : ∀ j, hasI v.caps j = true → hasI c' j = true
  cI : ∀ j, e = note j → hasI c' j = true ∨ (j = .kittyKeyboard ∧ o.disableKitty = true)
  sA : c'.osc176 = true → v.caps.osc176 = true ∨ isAppID e = true
  cA : (v.caps.osc176 = true ∨ isAppID e = true) → c'.osc176 = true
  ew : c'.explicitWidth = v.caps.explicitWidth ∧ c'.noZWJ = v.caps.noZWJ
  tid : lastTermID [e] v.termID = t'
  dk : o.disableKitty = true → c'.kittyKeyboard = v.caps.kittyKeyboard

theorem invV_loopEv (o : Opts) (v : View) (e : Event) (np' : List Event) (c' : Caps) (t' : List Nat)
    (hp : v.phase = .loop) (hnp : v.np = e :: np') (hda : isDA e = false) (hc : Collects o v e c' t') (h : InvV o v) :
    InvV o { v with np := np', caps := c', termID := t' } := by
  have hA := h.act (Or.inr hp)
  have hcore := h.core (by simp [hp])
  have hup : upto v.np = e :: upto np' := by rw [hnp]; simp [upto, hda]
  have hany : v.np.any isDA = np'.any isDA := by rw [hnp]; simp [hda]
  refine ⟨fun _ => ⟨?_, ?_, ?_, ?_, fun h0 => ⟨?_, ?_, ?_, ?_⟩, hA.notTO⟩, h.probe, fun _ => ?_, fun hr => by cases hr.symm.trans hp⟩
  · intro hs; rw [← hany]; exact hA.noDA hs
  · intro hs; rw [← hany]; exact hA.hasDA hs
  · intro i hi; exact hA.psI i (by rw [hup]; exact List.mem_cons_of_mem _ hi)
  · intro hi; exact hA.psA (by rw [hup]; simp only [List.any_cons, Bool.or_eq_true]; exact Or.inr hi)
  · intro i hi hadv
    rcases (hA.full h0).cI i hi hadv with h1 | h1 | h1
    · rw [hup] at h1
      rcases List.mem_cons.mp h1 with h1 | h1
      · rcases hc.cI i h1.symm with h2 | h2
        · exact Or.inr (Or.inl h2)
        · exact Or.inr (Or.inr h2)
      · exact Or.inl h1
    · exact Or.inr (Or.inl (hc.keepI i h1))
    · exact Or.inr (Or.inr h1)
  · intro hct
    rcases (hA.full h0).cT hct with h1 | h1
    · rw [hup] at h1
      rcases List.mem_cons.mp h1 with h1 | h1
      · rcases hc.cI .truecolor h1.symm with h2 | h2
        · exact Or.inr h2
        · exact absurd h2.1 (by decide)
      · exact Or.inl h1
    · exact Or.inr (hc.keepI .truecolor h1)
  · intro hj
    rcases (hA.full h0).cA hj with h1 | h1
    · rw [hup] at h1
      simp only [List.any_cons, Bool.or_eq_true] at h1
      rcases h1 with h1 | h1
      · exact Or.inr (hc.cA (Or.inr h1))
      · exact Or.inl h1
    · exact Or.inr (hc.cA (Or.inl h1))
  · have := (hA.full h0).tid
    rw [hup, show e :: upto np' = [e] ++ upto np' from rfl, lastTermID_append, hc.tid] at this
    exact this
  · refine ⟨?_, ?_, ?_, (fun hph' => by rw [hp] at hph'; rcases hph' with hph' | hph' <;> cases hph'), (fun hd => by rw [hc.dk hd]; exact hcore.dk hd)⟩
    · intro j hj
      rcases hc.sI j hj with h1 | h1
      · exact hcore.sI j h1
      · exact hA.psI j (by rw [hup, h1]; exact List.mem_cons_self)
    · intro h176
      rcases hc.sA h176 with h1 | h1
      · exact hcore.sA h1
      · exact hA.psA (by rw [hup]; simp [h1])
    · rw [hc.ew.1, hc.ew.2]; exact hcore.ew

theorem filter_append_cons_notice (a b : List Event) (e : Event) :
    ((a ++ e :: b).filter isNotice = a.filter isNotice ++ e :: b.filter isNotice ∧ isNotice e = true) ∨
    ((a ++ e :: b).filter isNotice = (a ++ b).filter isNotice ∧ isNotice e = false) := by
  cases he : isNotice e
  · right; simp [List.filter_append, he]
  · left; simp [List.filter_append, he]

theorem inv_of_view_eq (o : Opts) (st st' : St) (h : Inv o st) (hv : view st' = view st)
    (hnb : ∀ ev, Effect.postNB ev ∈ st'.sys.pend → Effect.postNB ev ∈ st.sys.pend) : Inv o st' :=
  ⟨fun ev hev => h.nb ev (hnb ev hev), by rw [hv]; exact h.v⟩

theorem inv_gostep (p : Params) (o : Opts) (st : St) (sys' : Sys) (h : Inv o st)
    (hn : VaxisModel.Model.InputLoop.next p st.sys .step = some (.ok sys')) : Inv o { st with sys := sys' } := by
  obtain ⟨e, rest, hpend, ha⟩ := InputLoop.next_step hn
  obtain ⟨-, hp', hvs, hQ⟩ := InputLoop.stepEffect_inv ha
  have hnb : ∀ ev, Effect.postNB ev ∈ sys'.pend → Effect.postNB ev ∈ st.sys.pend := by
    intro ev hev; rw [hpend]; rw [hp'] at hev; exact List.mem_cons_of_mem _ hev
  rcases posted_of_queued rest hQ with ⟨hq, hd⟩ | ⟨ev, rfl, hq, hd⟩
  · apply inv_of_view_eq o st _ h _ hnb
    simp only [view, np, hp', hvs, hd, hq, hpend]
  · refine ⟨fun ev' hev => h.nb ev' (hnb ev' hev), ?_⟩
    have hevda : isDA ev = false := h.nb ev (by rw [hpend]; exact List.mem_cons_self)
    have hv : view { st with sys := sys' } =
        { view st with np := (st.sys.queue ++ posted rest).filter isNotice, dropped := st.sys.dropped + 1 } := by
      simp only [view, np, hp', hvs, hd, hq]
    rw [hv]
    have hnp : np st = (st.sys.queue ++ ev :: posted rest).filter isNotice := by simp [np, hpend, posted]
    apply invV_shrink o (view st) _ _ (by omega) _ _ h.v
    · intro x hx
      show x ∈ upto (np st)
      rw [hnp]
      rcases filter_append_cons_notice st.sys.queue (posted rest) ev with ⟨h1, _⟩ | ⟨h1, _⟩
      · rw [h1]; rw [List.filter_append] at hx; exact upto_remove _ _ ev hevda x hx
      · rw [h1]; exact hx
    · show _ = (np st).any isDA
      rw [hnp]
      simp [List.filter_append, List.any_append, List.filter_cons]
      split <;> simp [hevda]

theorem inv_clipTimeout (p : Params) (o : Opts) (st : St) (sys' : Sys) (h : Inv o st)
    (hn : VaxisModel.Model.InputLoop.next p st.sys .clipTimeout = some (.ok sys')) : Inv o { st with sys := sys' } := by
  obtain ⟨v, rest, hpend, rfl⟩ := InputLoop.next_clipTimeout hn
  apply inv_of_view_eq o st _ h
  · simp [view, np, hpend, posted]
  · intro ev hev; rw [hpend]; exact List.mem_cons_of_mem _ hev

theorem nb_not_da (b64 : List Nat → Option (List Nat)) (vs vs' : VState) (s : Seq) (effs : List Effect)
    (hh : handle b64 vs s = .ok (vs', effs)) : ∀ ev, Effect.postNB ev ∈ effs → isDA ev = false := by
  intro ev hev
  cases hda : isDA ev
  · rfl
  · exfalso
    simp only [isDA, beq_iff_eq] at hda
    subst hda
    have h1 : DA ∈ (posted effs).filter isNotice :=
      List.mem_filter.mpr ⟨mem_posted.2 (.inr hev), by simp [isNotice, DA, note, Event.userVisible]⟩
    rw [(handle_notices b64 vs s vs' effs hh).1] at h1
    have h2 : isDA1 s = true := by
      simp only [isDA1, List.contains_eq_mem, decide_eq_true_eq]; exact (List.mem_filter.mp h1).1
    obtain ⟨ps, rfl⟩ := isDA1_shape s h2
    obtain ⟨n, hn⟩ := da1_effs b64 vs vs' ps effs hh
    rw [hn] at hev
    simp [List.mem_append, List.mem_replicate] at hev

theorem inv_input (p : Params) (o : Opts) (st : St) (sys' : Sys) (s : Seq) (h : Inv o st)
    (hn : VaxisModel.Model.InputLoop.next p st.sys (.input s) = some (.ok sys')) :
    Inv o { st with sys := sys', ins := st.ins ++ [s] } := by
  obtain ⟨hpend, vs, effs, hh, rfl⟩ := InputLoop.next_input hn
  obtain ⟨hN, hcaps⟩ := handle_notices p.b64 st.sys.vs s vs effs hh
  refine ⟨nb_not_da p.b64 st.sys.vs vs s effs hh, ?_⟩
  have hv : view { st with sys := { st.sys with vs := vs, pend := effs }, ins := st.ins ++ [s] } =
      { view st with np := (view st).np ++ (notices s).filter (fun e => !known (view st).caps e), ins := (view st).ins ++ [s] } := by
    simp only [view, np, hpend, posted, List.append_nil, List.filter_append, hN, hcaps]
  rw [hv]
  exact invV_input o (view st) s h.v

theorem np_cons (st : St) (e : Event) (q : List Event) (hq : st.sys.queue = e :: q) :
    np st = if isNotice e then e :: (q ++ posted st.sys.pend).filter isNotice else (q ++ posted st.sys.pend).filter isNotice := by
  simp only [np, hq, List.cons_append, List.filter_cons]

inductive Step (p : Params) (o : Opts) (st : St) : VaxisModel.Model.Startup.Label → St → Prop
  | input (s : Seq) (sys' : Sys) (hs : VaxisModel.Model.InputLoop.next p st.sys (.input s) = some (.ok sys')) :
      Step p o st (.input s) { st with sys := sys', ins := st.ins ++ [s] }
  | step (sys' : Sys) (hs : VaxisModel.Model.InputLoop.next p st.sys .step = some (.ok sys')) :
      Step p o st .step { st with sys := sys' }
  | clipTimeout (sys' : Sys) (hs : VaxisModel.Model.InputLoop.next p st.sys .clipTimeout = some (.ok sys')) :
      Step p o st .clipTimeout { st with sys := sys' }
  | probeRecv (x : Int × Int) (t : List (Int × Int)) (hp : st.phase = .probe) (hc : st.sys.cursorCh = x :: t) :
      Step p o st .probeRecv
        { st with sys := setCaps { st.sys with cursorCh := t, cursorWaiting := false }
                    (if wrap64 (x.2 - 1) == 1 then { st.sys.vs.caps with explicitWidth := true } else st.sys.vs.caps),
                  probeGot := some x, phase := .loop }
  | probeTimeout (hp : st.phase = .probe) :
      Step p o st .probeTimeout
        { st with sys := { st.sys with vs := { st.sys.vs with reqCursorPos := false }, cursorWaiting := false }, phase := .loop }
  | loopDA (e : Event) (q : List Event) (hp : st.phase = .loop) (hq : st.sys.queue = e :: q)
      (hce : collectEv o st.sys.vs.caps st.termID st.appIDLast e = none) :
      Step p o st .loopRecv { st with sys := { st.sys with queue := q }, phase := .done }
  | loopEv (e : Event) (q : List Event) (c : Caps) (tid aid : List Nat) (hp : st.phase = .loop) (hq : st.sys.queue = e :: q)
      (hce : collectEv o st.sys.vs.caps st.termID st.appIDLast e = some (c, tid, aid)) :
      Step p o st .loopRecv { st with sys := setCaps { st.sys with queue := q } c, termID := tid, appIDLast := aid }
  | loopTimeout (hp : st.phase = .loop) : Step p o st .loopTimeout { st with phase := .done, timedOut := true }
  | quirks (hp : st.phase = .done) :
      Step p o st .quirks { st with sys := setCaps st.sys (applyQuirks o st.termID st.sys.vs.caps), phase := .ready }

theorem next_ok_iff {p : Params} {o : Opts} {st st' : St} {l : VaxisModel.Model.Startup.Label} :
    VaxisModel.Model.Startup.next p o st l = some (.ok st') ↔ Step p o st l st' := by
  constructor
  · intro hn
    cases l <;> simp only [VaxisModel.Model.Startup.next, liftSys] at hn
    case probeRecv =>
      split at hn
      · split at hn
        · simp at hn
        · simp only [Option.some.injEq, Except.ok.injEq] at hn; subst hn; constructor <;> assumption
      · simp at hn
    all_goals (repeat' split at hn)
    all_goals first | (simp at hn; done) | (simp at hn; subst hn; constructor <;> assumption)
  · intro h
    cases h <;> simp [VaxisModel.Model.Startup.next, liftSys, *]

theorem step_of_next {p : Params} {o : Opts} {st st' : St} {l : VaxisModel.Model.Startup.Label}
    (hn : VaxisModel.Model.Startup.next p o st l = some (.ok st')) : Step p o st l st' := next_ok_iff.1 hn

theorem inv_next (p : Params) (o : Opts) (st st' : St) (l : VaxisModel.Model.Startup.Label) (h : Inv o st)
    (hn : VaxisModel.Model.Startup.next p o st l = some (.ok st')) : Inv o st' := by
  cases step_of_next hn with
  | input s sys' hs => exact inv_input p o st sys' s h hs
  | step sys' hs => exact inv_gostep p o st sys' h hs
  | clipTimeout sys' hs => exact inv_clipTimeout p o st sys' h hs
  | probeRecv x t hp hc =>
    exact ⟨h.nb, by simpa [view, np, setCaps] using invV_probeRecv o (view st) x hp h.v⟩
  | probeTimeout hp => exact ⟨h.nb, by simpa [view, np] using invV_probeTimeout o (view st) hp h.v⟩
  | loopTimeout hp => exact ⟨h.nb, by simpa [view, np] using invV_loopTimeout o (view st) hp h.v⟩
  | quirks hp => exact ⟨h.nb, by simpa [view, np, setCaps] using invV_quirks o (view st) hp h.v⟩
  | loopDA e q hp hq hce =>
    -- `break outer`: e is the DA1 notification
    have hnp := np_cons st e q hq
    have he : e = DA := by
      cases e <;> simp [collectEv] at hce
      rename_i i; cases i <;> simp at hce
      rfl
    subst he
    refine ⟨h.nb, ?_⟩
    have := invV_loopDA o (view st) ((q ++ posted st.sys.pend).filter isNotice) hp
      (by simp only [view]; rw [hnp]; simp [isNotice, DA, note, Event.userVisible]) h.v
    simpa [view, np] using this
  | loopEv e q c tid aid hp hq hce =>
    have hnp := np_cons st e q hq
    refine ⟨h.nb, ?_⟩
    cases e with
    | internal i =>
      have hi : i ≠ .primaryDeviceAttribute := by intro hx; subst hx; simp [collectEv] at hce
      have hc : c = collect o.disableKitty st.sys.vs.caps i ∧ tid = st.termID := by
        cases i <;> simp [collectEv] at hce <;> exact ⟨hce.1.symm, hce.2.1.symm⟩
      obtain ⟨rfl, rfl⟩ := hc
      have := invV_loopEv o (view st) (.internal i) ((q ++ posted st.sys.pend).filter isNotice)
        (collect o.disableKitty st.sys.vs.caps i) st.termID hp
        (by simp only [view]; rw [hnp]; simp [isNotice, Event.userVisible])
        (by cases i <;> simp_all [isDA, DA, note])
        { sI := fun j hj => (hasI_collect_inv _ _ i j hj).imp id fun h1 => by rw [h1]; rfl
          keepI := fun j hj => hasI_collect_mono _ _ i j hj
          cI := fun j hj => by
            have : i = j := by simpa [note] using hj
            subst this
            exact hasI_collect_self _ _ i hi
          sA := fun hx => Or.inl (by rw [collect_osc176] at hx; exact hx)
          cA := fun hx => by
            rcases hx with hx | hx
            · rw [collect_osc176]; exact hx
            · simp [isAppID] at hx
          ew := collect_ew _ _ i
          tid := rfl
          dk := fun hd => by rw [hd]; cases i <;> rfl } h.v
      simpa [view, np, setCaps] using this
    | appID a =>
      simp [collectEv] at hce
      obtain ⟨rfl, rfl, rfl⟩ := hce
      have := invV_loopEv o (view st) (.appID a) ((q ++ posted st.sys.pend).filter isNotice)
        { st.sys.vs.caps with osc176 := true } st.termID hp
        (by simp only [view]; rw [hnp]; simp [isNotice, Event.userVisible])
        (by simp [isDA, DA, note])
        { sI := fun j hj => Or.inl (by cases j <;> exact hj)
          keepI := fun j hj => by cases j <;> exact hj
          cI := fun j hj => by simp [note] at hj
          sA := fun _ => Or.inr rfl
          cA := fun _ => rfl
          ew := ⟨rfl, rfl⟩
          tid := rfl
          dk := fun _ => rfl } h.v
      simpa [view, np, setCaps] using this
    | terminalID a =>
      simp [collectEv] at hce
      obtain ⟨rfl, rfl, rfl⟩ := hce
      have := invV_loopEv o (view st) (.terminalID a) ((q ++ posted st.sys.pend).filter isNotice)
        st.sys.vs.caps a hp
        (by simp only [view]; rw [hnp]; simp [isNotice, Event.userVisible])
        (by simp [isDA, DA, note])
        { sI := fun j hj => Or.inl hj
          keepI := fun j hj => hj
          cI := fun j hj => by simp [note] at hj
          sA := Or.inl
          cA := fun hx => by
            rcases hx with hx | hx
            · exact hx
            · simp [isAppID] at hx
          ew := ⟨rfl, rfl⟩
          tid := rfl
          dk := fun _ => rfl } h.v
      simpa [view, np, setCaps] using this
    | _ =>
      simp [collectEv] at hce
      obtain ⟨rfl, rfl, rfl⟩ := hce
      have hv : view { st with sys := setCaps { st.sys with queue := q } st.sys.vs.caps } = view st := by
        simp only [view, setCaps]
        rw [hnp]
        simp [np, isNotice, Event.userVisible]
      rw [hv]; exact h.v

theorem inv_init (o : Opts) : Inv o (St.init o) := by
  refine ⟨by simp [St.init], ?_⟩
  have hv : view (St.init o) = View.mk (if o.colorterm then [note .truecolor] else []) ({} : Caps) 0 [] [] none .probe false := by
    simp only [view, np, St.init, posted, List.append_nil]
    cases o.colorterm <;> simp [isNotice, Event.userVisible, note]
  rw [hv]
  refine ⟨fun _ => ⟨?_, ?_, ?_, ?_, fun _ => ⟨?_, ?_, ?_, ?_⟩, rfl⟩, fun _ => rfl, fun _ => ?_, fun hr => by cases hr⟩
  · intro _; cases o.colorterm <;> simp [isDA, DA, note]
  · intro hs; simp [seenDA] at hs
  · intro i hi
    cases hc : o.colorterm
    · simp [hc, upto] at hi
    · simp [hc, upto, isDA, DA, note] at hi
      subst hi
      exact Or.inr ⟨rfl, hc⟩
  · intro hi; cases hc : o.colorterm <;> simp [hc, upto, isDA, DA, note, isAppID] at hi
  · intro i _ hadv; simp [insPre, adv] at hadv
  · intro hc; left; simp [hc, upto, isDA, DA, note]
  · intro hj; simp [JustA, insPre] at hj
  · cases o.colorterm <;> simp [upto, isDA, DA, note, lastTermID, termIDOf, insPre]
  · exact ⟨fun i hi => by cases i <;> simp [hasI] at hi, fun h => by simp at h, ⟨by simp, rfl⟩,
      (fun hp => by rcases hp with hp | hp <;> cases hp), (fun _ => rfl)⟩

theorem run_isRun (p : Params) (o : Opts) :
    Run.IsRun (InputLoop.okNext (VaxisModel.Model.Startup.next p o)) (VaxisModel.Model.Startup.run p o) :=
  ⟨fun _ => rfl, fun st l ls => by
    simp only [VaxisModel.Model.Startup.run, InputLoop.okNext]
    cases VaxisModel.Model.Startup.next p o st l with
    | none => rfl
    | some r => cases r <;> rfl⟩

theorem run_ind {p : Params} {o : Opts} {I : St → List VaxisModel.Model.Startup.Label → Prop}
    (hstep : ∀ st st' l ls, I st (l :: ls) → VaxisModel.Model.Startup.next p o st l = some (.ok st') → I st' ls)
    {ls : List VaxisModel.Model.Startup.Label} {st st' : St}
    (h : I st ls) (hr : VaxisModel.Model.Startup.run p o st ls = some st') : I st' [] :=
  (run_isRun p o).induction (C := fun st ls st' => I st ls → I st' []) (fun _ h => h)
    (fun hn _ ih h => ih (hstep _ _ _ _ h (InputLoop.okNext_eq_some.1 hn))) ls st st' hr h

theorem inv_run (p : Params) (o : Opts) (ls : List VaxisModel.Model.Startup.Label) (st st' : St)
    (h : Inv o st) (hr : VaxisModel.Model.Startup.run p o st ls = some st') : Inv o st' :=
  run_ind (I := fun st _ => Inv o st) (fun st st' l _ h hn => inv_next p o st st' l h hn) h hr

theorem ins_next (p : Params) (o : Opts) (st st' : St) (l : VaxisModel.Model.Startup.Label)
    (hn : VaxisModel.Model.Startup.next p o st l = some (.ok st')) : st'.ins = st.ins ++ inputsOf [l] := by
  cases step_of_next hn <;> simp [inputsOf]

theorem inputsOf_cons (l : VaxisModel.Model.Startup.Label) (ls : List VaxisModel.Model.Startup.Label) :
    inputsOf (l :: ls) = inputsOf [l] ++ inputsOf ls := by
  cases l <;> simp [inputsOf]

theorem ins_run (p : Params) (o : Opts) (ls : List VaxisModel.Model.Startup.Label) (st st' : St)
    (hr : VaxisModel.Model.Startup.run p o st ls = some st') : st'.ins = st.ins ++ inputsOf ls := by
  have := run_ind (I := fun s rest => s.ins ++ inputsOf rest = st.ins ++ inputsOf ls)
    (fun s s' l rest h hn => by rw [ins_next p o s s' l hn, List.append_assoc, ← inputsOf_cons]; exact h) rfl hr
  simpa [inputsOf] using this

theorem insPre_split (ins : List Seq) (h : seenDA ins = true) :
    ∃ A d B, ins = A ++ d :: B ∧ isDA1 d = true ∧ (∀ s ∈ A, isDA1 s = false) ∧ insPre ins = A ++ [d] := by
  induction ins with
  | nil => simp [seenDA] at h
  | cons a t ih =>
    by_cases ha : isDA1 a = true
    · exact ⟨[], a, t, rfl, ha, by simp, by simp [insPre, ha]⟩
    · simp only [seenDA, List.any_cons, ha, Bool.false_or] at h
      obtain ⟨A, d, B, h1, h2, h3, h4⟩ := ih h
      refine ⟨a :: A, d, B, by simp [h1], h2, ?_, by simp [insPre, ha, h4]⟩
      intro s hs
      rcases List.mem_cons.mp hs with rfl | hs
      · simpa using ha
      · exact h3 s hs

end VaxisModel.Lemmas.Startup
