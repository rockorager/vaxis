import VaxisModel.Lemmas.InputEvents
import VaxisModel.Model.Startup

/-! Per-sequence exactness: the capability notifications `handleSequence` posts for a sequence are
exactly those the reply stands for (`Spec.Startup.notices`), minus the ones it suppresses because
the capability is already known; `handleSequence` never writes `vx.caps`. -/
namespace VaxisModel.Lemmas.StartupSeq
open VaxisModel.Model.Input VaxisModel.Lemmas.Input VaxisModel.Lemmas.InputEvents
open VaxisModel.Spec.Startup

/-- Unexported event types (capability notifications, terminal id, app id). -/
def isNotice (e : Event) : Bool := !e.userVisible

/-- Notifications `handleSequence` does not repeat once the capability is known. -/
def known (c : Caps) : Event → Bool
  | .internal .textAreaPix => c.reportSizePixels
  | .internal .textAreaChar => c.reportSizeChars
  | .internal .inBandResizeEvents => c.inBandResize
  | _ => false

def Exact (st : VState) (r : Res) (want : List Event) : Prop :=
  ∀ st' effs, r = .ok (st', effs) →
    (posted effs).filter isNotice = want.filter (fun e => !known st.caps e) ∧ st'.caps = st.caps

theorem exact_iff (st : VState) (r : Res) (want : List Event) :
    Exact st r want ↔
      Post (fun st' effs => (posted effs).filter isNotice = want.filter (fun e => !known st.caps e) ∧ st'.caps = st.caps) r :=
  Iff.rfl

theorem isPrivate_eq (interm : List Nat) : isPrivate interm = (interm == [63]) := by
  rcases interm with _ | ⟨a, _ | ⟨b, r⟩⟩ <;> simp [isPrivate, ch]

theorem firsts_filter (ps : List (List Int)) (fs : List Int) (h : ps.mapM (fun p => idx p 0) = .ok fs) :
    (fs.filter (· == 4)).length = (ps.filter fun p => p.head? == some 4).length := by
  induction ps generalizing fs with
  | nil => simp [pure, Except.pure] at h; subst h; rfl
  | cons a t ih =>
    simp only [List.mapM_cons] at h
    cases ht : t.mapM (fun p => idx p 0) with
    | error e =>
      rw [ht] at h
      rcases a with _ | ⟨a0, as⟩ <;> simp [idx, bind, Except.bind] at h
    | ok l =>
      rw [ht] at h
      rcases a with _ | ⟨a0, as⟩
      · simp [idx, bind, Except.bind] at h
      · simp [idx, bind, Except.bind, pure, Except.pure] at h
        subst h
        have := ih l ht
        by_cases h4 : a0 = 4 <;> simp [h4, this]

theorem exact_key (st : VState) (s : Seq) : Exact st (keyArm st s) [] :=
  (Post_ok st _).2 (by simp [posted, isNotice, Event.userVisible])

theorem exact_nil (st : VState) : Exact st (.ok (st, [])) [] :=
  (Post_ok st []).2 (by simp [posted])

theorem posted_append (a b : List Effect) : posted (a ++ b) = posted a ++ posted b := by
  induction a with
  | nil => rfl
  | cons x t ih => cases x <;> simp [posted, ih]

theorem posted_const (n : Nat) (e : Event) : posted (List.replicate n (Effect.postB e)) = List.replicate n e := by
  induction n with
  | zero => rfl
  | succ n ih => simp [posted, ih, List.replicate_succ]

theorem spec_c (interm : List Nat) (ps : List (List Int)) : noticesCSI interm ps 99 =
    if interm == [63] then (ps.filter fun p => p.head? == some 4).map (fun _ => note .capabilitySixel) ++ [note .primaryDeviceAttribute] else [] := by
  simp [noticesCSI]

theorem csi_c (st : VState) (interm : List Nat) (params : List (List Int)) :
    Exact st (handleCSI st interm params 99) (noticesCSI interm params 99) := by
  rw [exact_iff]
  post_arm
  rw [spec_c, isPrivate_eq]
  by_cases hp : interm = [63]
  · simp only [hp, beq_self_eq_true, if_true, true_implies, not_true_eq_false, false_implies, and_true]
    intro fs hm
    simp [posted_append, posted, List.map_const', firsts_filter params fs hm, posted_const, isNotice, Event.userVisible, known, note]
  · simp [hp, posted, isNotice, Event.userVisible]

/-! The arms with a notification: the postcondition is pushed to the leaves of the arm (`post_arm`), where model and
specification read the same `par params k`. -/

theorem csi_y (st : VState) (interm : List Nat) (params : List (List Int)) :
    Exact st (handleCSI st interm params 121) (noticesCSI interm params 121) := by
  rw [exact_iff]
  post_arm
  -- the specification matches on these two; the model's tests of `len(params)` follow from them
  rcases h0 : par params 0 with _ | m <;> rcases h1 : par params 1 with _ | v
  all_goals try (have l0 := Nat.not_lt.2 (par_lt h0))
  all_goals try (have l1 := Nat.not_lt.2 (par_lt h1))
  all_goals simp [noticesCSI, *, posted, isNotice, Event.userVisible, known, note, decrpm0, decrpm1, decrpm2, decrpmKnown, or_assoc]
  simp +contextual [List.filter]

theorem csi_u (st : VState) (interm : List Nat) (params : List (List Int)) :
    Exact st (handleCSI st interm params 117) (noticesCSI interm params 117) := by
  rw [exact_iff]
  post_arm
  by_cases hp : interm = [63] <;> simp [noticesCSI, isPrivate_eq, hp, posted, isNotice, Event.userVisible, known, note]

theorem csi_S (st : VState) (interm : List Nat) (params : List (List Int)) :
    Exact st (handleCSI st interm params 83) (noticesCSI interm params 83) := by
  rw [exact_iff]
  post_arm
  simp +contextual [noticesCSI, isPrivate_eq, posted, isNotice, Event.userVisible, known, note, Nat.not_lt]
  intro _ h3 _ h3'; omega

theorem csi_t (st : VState) (interm : List Nat) (params : List (List Int)) :
    Exact st (handleCSI st interm params 116) (noticesCSI interm params 116) := by
  rw [exact_iff]
  post_arm
  simp +contextual [noticesCSI, posted, isNotice, Event.userVisible, known, note, Nat.not_lt]
  refine ⟨fun h1 _ h2 => absurd h2 (by omega), ?_⟩
  intros; cases st.caps.inBandResize <;> simp [posted, isNotice, Event.userVisible]

theorem spec_other (interm : List Nat) (ps : List (List Int)) (f : Nat)
    (h : f ≠ 99 ∧ f ≠ 83 ∧ f ≠ 121 ∧ f ≠ 117 ∧ f ≠ 116) : noticesCSI interm ps f = [] := by
  simp [noticesCSI, h]

theorem csi_other (st : VState) (interm : List Nat) (params : List (List Int)) (f : Nat)
    (h : f ≠ 99 ∧ f ≠ 83 ∧ f ≠ 121 ∧ f ≠ 117 ∧ f ≠ 116) : Exact st (handleCSI st interm params f) [] := by
  rw [exact_iff]
  unfold handleCSI  -- `post_arm` is for one final; here it is any other
  simp only [Post_ite, Post_bind, Post_ok, Post_pure, keyArm]
  simp [ch, h, posted, isNotice, Event.userVisible]
  rintro - - - - - - (_ | m) - <;> simp [Post_pure, posted]

theorem csi_notices (st : VState) (interm : List Nat) (params : List (List Int)) (f : Nat) :
    Exact st (handleCSI st interm params f) (noticesCSI interm params f) := by
  by_cases h99 : f = 99
  · subst h99; exact csi_c st interm params
  by_cases h83 : f = 83
  · subst h83; exact csi_S st interm params
  by_cases h121 : f = 121
  · subst h121; exact csi_y st interm params
  by_cases h117 : f = 117
  · subst h117; exact csi_u st interm params
  by_cases h116 : f = 116
  · subst h116; exact csi_t st interm params
  rw [spec_other interm params f ⟨h99, h83, h121, h117, h116⟩]
  exact csi_other st interm params f ⟨h99, h83, h121, h117, h116⟩

theorem splitOn_head (sep : Nat) (l : List Nat) : ∃ t, splitOn sep l = l.takeWhile (· != sep) :: t := by
  induction l with
  | nil => exact ⟨[], rfl⟩
  | cons a as ih =>
    obtain ⟨t, ht⟩ := ih
    unfold splitOn
    rw [ht]
    by_cases h : a = sep
    · subst h; exact ⟨List.takeWhile (fun x => x != a) as :: t, by simp⟩
    · exact ⟨t, by simp [h]⟩

theorem hex_smulx : hexEncode (str "Smulx") = hexSmulx := by decide +kernel
theorem hex_rgb : hexEncode (str "RGB") = hexRGB := by decide +kernel
theorem hex_vte : hexEncode (str "~VTE") = hexVTE := by decide +kernel

theorem dcs_notices (st : VState) (fin : Nat) (interm : List Nat) (ps : List Int) (data : List Nat) :
    Exact st (handleDCS st fin interm ps data) (noticesDCS fin interm ps data) := by
  rw [exact_iff]
  obtain ⟨vt, hv⟩ := splitOn_head 61 data
  have hne : ¬ hexRGB = hexSmulx := by decide +kernel
  unfold handleDCS
  simp only [Post_ite, Post_bind, Post_ok, Post_pure, post, idx0_eq_ok, show ch '=' = 61 from rfl, hv, hex_smulx, hex_rgb, hex_vte]
  simp +contextual [noticesDCS, ch, posted, isNotice, Event.userVisible, known, note, hne]

theorem isPrefix_eq : ∀ (a b : List Nat), isPrefix a b = startsWith a b
  | [], b => by simp [isPrefix, startsWith]
  | a :: as, [] => by simp [isPrefix, startsWith]
  | a :: as, b :: bs => by
      have ih := isPrefix_eq as bs
      simp only [isPrefix, startsWith, List.length_cons, List.take_succ_cons] at ih ⊢
      rw [ih, BEq.comm (a := a)]
      rfl

theorem splitOn_eq (sep : Nat) (l : List Nat) :
    splitOn sep l = if sep ∈ l then l.takeWhile (· != sep) :: splitOn sep (l.dropWhile (· != sep)).tail else [l] := by
  induction l with
  | nil => simp [splitOn]
  | cons a as ih =>
    obtain ⟨hd, tl, hs⟩ := splitOn_ne_nil sep as
    by_cases h : a = sep
    · subst h
      simp [splitOn, hs]
    · have hne : ¬ sep = a := fun e => h e.symm
      rw [splitOn, hs]
      simp only [h, beq_iff_eq, if_false]
      rw [hs] at ih
      by_cases hc : sep ∈ as
      · simp only [hc, if_true] at ih
        obtain ⟨rfl, rfl⟩ := List.cons.inj ih
        simp [hne, hc, h]
      · simp only [hc, if_false] at ih
        obtain ⟨rfl, rfl⟩ := List.cons.inj ih
        simp [hne, hc]

theorem splitOn_len2 (sep : Nat) (l : List Nat) :
    ((splitOn sep l).length = 2 ↔ (sep ∈ l ∧ ¬ sep ∈ (l.dropWhile (· != sep)).tail)) ∧
    ((splitOn sep l).length = 2 → (splitOn sep l)[1]? = some (l.dropWhile (· != sep)).tail) := by
  rw [splitOn_eq sep l]
  by_cases hc : sep ∈ l
  · simp only [hc, if_true, List.length_cons]
    rw [splitOn_eq sep (l.dropWhile (· != sep)).tail]
    by_cases hr : sep ∈ (l.dropWhile (· != sep)).tail
    · obtain ⟨hd, tl, hs⟩ := splitOn_ne_nil sep (List.dropWhile (fun x => x != sep) (List.dropWhile (fun x => x != sep) l).tail).tail
      simp [hr, hs]
    · simp [hr]
  · simp [hc]

theorem str_eq_ascii (s : String) : str s = ascii s := rfl

/-- One of the three colour blocks of the OSC arm: the hand-off to the requester is not a post. -/
theorem block_posted (p c : Bool) (snd : Effect) (i : Internal) (hs : posted [snd] = []) :
    (posted (if p then (if c then [snd] else []) ++ [.postB (.internal i)] else [])).filter isNotice =
      if p then [note i] else [] := by
  cases p <;> cases c <;> simp only [Bool.false_eq_true, ↓reduceIte, List.nil_append, posted_append, hs] <;>
    simp [posted, isNotice, Event.userVisible, note]

theorem acc_posted (p4 p10 p11 c4 c10 c11 : Bool) (pl : List Nat) :
    (posted ((if p4 then (if c4 then [Effect.sendColor pl] else []) ++ [.postB (.internal .capabilityOsc4)] else []) ++
             (if p10 then (if c10 then [Effect.sendFg pl] else []) ++ [.postB (.internal .capabilityOsc10)] else []) ++
             (if p11 then (if c11 then [Effect.sendBg pl] else []) ++ [.postB (.internal .capabilityOsc11)] else []))).filter isNotice
      = (if p4 then [note .capabilityOsc4] else []) ++ (if p10 then [note .capabilityOsc10] else []) ++
        (if p11 then [note .capabilityOsc11] else []) := by
  simp only [posted_append, List.filter_append, block_posted _ _ (.sendColor pl) _ rfl, block_posted _ _ (.sendFg pl) _ rfl,
    block_posted _ _ (.sendBg pl) _ rfl]

theorem excl_52_176 (pl : List Nat) (h : startsWith (ascii "52") pl = true) : startsWith (ascii "176") pl = false := by
  rcases pl with _ | ⟨a, _ | ⟨b, _ | ⟨c, r⟩⟩⟩ <;> simp [startsWith, ascii] at h ⊢
  all_goals omega

theorem filter_not_known (c : Caps) (l : List Event) (h : ∀ e ∈ l, known c e = false) :
    l.filter (fun e => !known c e) = l := by
  apply List.filter_eq_self.mpr
  intro e he; simp [h e he]

/-- The app id the specification reads off the payload, in the model's terms: the second of two fields. -/
theorem appIDOf_eq (pl : List Nat) : appIDOf pl =
    if startsWith (ascii "176") pl = true ∧ (splitOn 59 pl).length = 2 then [.appID ((splitOn 59 pl)[1]?.getD [])] else [] := by
  obtain ⟨hlen, hval⟩ := splitOn_len2 59 pl
  by_cases hl : (splitOn 59 pl).length = 2
  · rw [hval hl]; simp [appIDOf, hl, hlen.1 hl, List.drop_one]
  · have : ¬ (59 ∈ pl ∧ ¬ 59 ∈ (pl.dropWhile (· != 59)).tail) := fun h => hl (hlen.2 h)
    simp only [appIDOf, hl, and_false, if_false, List.drop_one]
    simp; intro _ h1; exact Decidable.byContradiction fun h2 => this ⟨h1, h2⟩

theorem osc_notices (b64 : List Nat → Option (List Nat)) (st : VState) (pl : List Nat) :
    Exact st (handleOSC b64 st pl) (notices (.osc pl)) := by
  rw [exact_iff]
  have hk : (notices (.osc pl)).filter (fun e => !known st.caps e) = notices (.osc pl) := by
    apply filter_not_known
    intro e he
    simp only [notices, appIDOf, List.mem_append] at he
    rcases he with ((he | he) | he) | he
    all_goals (split at he <;> simp [note] at he <;> subst he <;> rfl)
  rw [hk]
  unfold handleOSC
  extract_lets e4 e10 e11 acc vals jp
  -- the three colour blocks
  have hN : notices (.osc pl) = (posted acc).filter isNotice ++ appIDOf pl := by
    simp only [notices, acc, e4, e10, e11, isPrefix_eq, str_eq_ascii, acc_posted]
  rw [hN, appIDOf_eq]
  clear_value acc
  -- the join point: the app id, not after a clipboard reply
  have hjp : ∀ r a, (startsWith (ascii "176") pl = true → r = false) → (posted a).filter isNotice = (posted acc).filter isNotice →
      Post (fun st' effs => (posted effs).filter isNotice = (posted acc).filter isNotice ++
        (if startsWith (ascii "176") pl = true ∧ (splitOn 59 pl).length = 2 then [.appID ((splitOn 59 pl)[1]?.getD [])] else []) ∧
        st'.caps = st.caps) (jp (r, a)) := by
    intro r a hr ha
    simp only [jp, vals, Post_ite, Post_bind, Post_pure, idx_eq_ok, isPrefix_eq, str_eq_ascii, show ch ';' = 59 from rfl, and_true]
    by_cases h176 : startsWith (ascii "176") pl = true <;> by_cases hl : (splitOn 59 pl).length = 2 <;>
      simp +contextual [h176, hl, ha, hr, posted_append, posted, isNotice, Event.userVisible]
  simp only [pure_bind, Post_ite, Post_bind, isPrefix_eq, str_eq_ascii]
  refine ⟨fun h52 => ⟨fun _ => hjp _ _ (fun h => by simp [excl_52_176 pl h52] at h) rfl, fun _ v2 _ => ?_⟩, fun _ => hjp _ _ (fun _ => rfl) rfl⟩
  cases b64 v2
  · exact hjp _ _ (fun h => by simp [excl_52_176 pl h52] at h) rfl
  · exact hjp _ _ (fun _ => rfl) (by simp [posted_append, posted])
theorem handle_notices (b64 : List Nat → Option (List Nat)) (st : VState) (s : Seq) :
    Exact st (handle b64 st s) (notices s) := by
  cases s with
  | csi i p f => exact csi_notices st i p f
  | dcs f i p d => exact dcs_notices st f i p d
  | osc pl => exact osc_notices b64 st pl
  | apc d =>
    rw [exact_iff]
    simp only [handle, Post_ite, Post_ok, post]
    rcases d with _ | ⟨d0, dr⟩
    · simp [notices, posted]
    · by_cases hg : d0 = 71 <;>
        simp [notices, isPrefix, str, hg, posted, isNotice, Event.userVisible, known, note, eq_comm (a := (71 : Nat))]
  | other => exact (Post_ok st []).2 (by simp [notices, posted])
  | _ => exact exact_key st _

end VaxisModel.Lemmas.StartupSeq
