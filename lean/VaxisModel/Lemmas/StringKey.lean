/-!
The kernel compares two numerals in one step, and two strings byte by byte through the definition of
`String.decEq`.  A table evaluation that looks names up in lists of some hundred rows makes tens of
thousands of such comparisons.  `key` reads the UTF-8 bytes of a string as one number; it is injective,
so the `BEq String` instance that the definitions were elaborated with *equals* the one that compares
keys (`beq_eq_keyBEq`).  Rewriting with that equation in a goal whose string comparisons are visible
(after unfolding the definitions that make them) lets `decide +kernel` evaluate the same definitions on
numbers; the key of a literal is computed once.
-/
namespace VaxisModel.Lemmas.StringKey

/-- Little-endian, with a leading 1 that marks the end (so that trailing zero bytes count). -/
def keyL : List UInt8 → Nat
  | [] => 1
  | b :: r => keyL r * 256 + b.toNat

def key (s : String) : Nat := keyL s.toByteArray.data.toList

theorem keyL_pos : ∀ l, 1 ≤ keyL l
  | [] => Nat.le_refl _
  | b :: r => by have := keyL_pos r; simp only [keyL]; omega

theorem keyL_inj : ∀ {a b : List UInt8}, keyL a = keyL b → a = b
  | [], [], _ => rfl
  | [], y :: b, h => by have := keyL_pos b; have := y.toNat_lt; simp only [keyL] at h; omega
  | x :: a, [], h => by have := keyL_pos a; have := x.toNat_lt; simp only [keyL] at h; omega
  | x :: a, y :: b, h => by
      have hx := x.toNat_lt; have hy := y.toNat_lt
      simp only [keyL] at h
      have h1 : x.toNat = y.toNat := by omega
      have h2 : keyL a = keyL b := by omega
      rw [keyL_inj h2, UInt8.toNat_inj.mp h1]

theorem key_inj {s t : String} (h : key s = key t) : s = t :=
  String.toByteArray_inj.mp (ByteArray.ext (Array.ext' (keyL_inj h)))

@[reducible] def keyBEq : BEq String := ⟨fun a b => key a == key b⟩

theorem beq_eq_keyBEq : instBEqOfDecidableEq (α := String) = keyBEq := by
  unfold keyBEq instBEqOfDecidableEq
  congr 1
  funext a b
  by_cases h : a = b
  · subst h; simp
  · have : key a ≠ key b := fun e => h (key_inj e)
    simp [h, this]

end VaxisModel.Lemmas.StringKey
