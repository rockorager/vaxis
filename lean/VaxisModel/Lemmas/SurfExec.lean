/-
What `Props/C14Body.lean` executes the regenerated bodies with.  Straight-line code is run by `simp` on an environment with
literal keys; a loop of the interpreter is replaced by a pure fold (`loopS_foldSI`, `loopS_scan`, `loopW_iterW`) once ONE
iteration of its body is shown to be a pure step `g : … → Step α`, and a pure induction per step function (`sizeStep`,
`colStep`, `rowStep`, …) relates its fold to the model's recursion.  `richRo` / `textRo` are for `Props/C16Exec.lean`.
-/
import VaxisModel.Model.SurfExec
import VaxisModel.Gen.SurfaceBodies
import VaxisModel.Lemmas.SurfacePaint

namespace VaxisModel.Lemmas.SurfExec
open VaxisModel.Model.SurfLang VaxisModel.Model.Window VaxisModel.Model.Surface VaxisModel.Model.Layout VaxisModel.Model.SurfExec

/-- `Model.Surface.exact` (lengths and indices computed in `int`, row guards `>=`) under the name the statements of
`Props/C14Body` use. -/
abbrev exactA : Arith := VaxisModel.Model.Surface.exact

theorem mul_toNat_nonneg (a b : UInt16) : ¬ ((a.toNat : Int) * (b.toNat : Int) < 0) := by
  have := Int.mul_nonneg (Int.natCast_nonneg a.toNat) (Int.natCast_nonneg b.toNat)
  omega

theorem toNat_mul_cast (a b : Nat) : ((a : Int) * (b : Int)).toNat = a * b := by
  rw [← Int.natCast_mul]; exact Int.toNat_natCast _

theorem ofInt_two : UInt16.ofInt 2 = 2 := by decide
theorem two_ne_zero16 : ¬ ((2 : UInt16) = 0) := by decide
theorem ofInt_one : UInt16.ofInt 1 = 1 := by decide
theorem ofInt_zero : UInt16.ofInt 0 = 0 := by decide

theorem toNat_ofInt (x : Int) (hx : 0 ≤ x) : (UInt16.ofInt x).toNat = x.toNat % 65536 := by
  rw [UInt16.ofInt, UInt16.toNat_ofNat', Int.toNat_emod hx (by decide)]
  exact Nat.mod_mod _ _

theorem get_set_ne (ρ : Env) (x y : String) (v : Val) (h : y ≠ x) : (ρ.set x v).get y = ρ.get y := by
  induction ρ with
  | nil => simp [Env.set, Env.get, Ne.symm h]
  | cons p r ih =>
    obtain ⟨k, w⟩ := p
    by_cases hk : k = x
    · subst hk; simp [Env.set, Env.get, Ne.symm h]
    · by_cases hy : k = y
      · subst hy; simp [Env.set, Env.get, hk]
      · simp [Env.set, Env.get, hk, hy, ih]

theorem get_set_eq (ρ : Env) (x : String) (v : Val) : (ρ.set x v).get x = some v := by
  induction ρ with
  | nil => simp [Env.set, Env.get]
  | cons p r ih => by_cases hk : p.1 = x <;> simp [Env.set, Env.get, hk, ih]

theorem set_length_bound (ρ : Env) (x : String) (v w : Val) (h : ρ.get x = some w) : (ρ.set x v).length = ρ.length := by
  induction ρ with
  | nil => simp [Env.get] at h
  | cons p r ih => by_cases hk : p.1 = x <;> simp_all [Env.set, Env.get]

theorem set_self (ρ : Env) (x : String) (w : Val) (h : ρ.get x = some w) : ρ.set x w = ρ := by
  induction ρ with
  | nil => simp [Env.get] at h
  | cons p r ih =>
    obtain ⟨k, u⟩ := p
    by_cases hk : k = x <;> simp_all [Env.set, Env.get]

theorem set_set (ρ : Env) (x : String) (v w : Val) : (ρ.set x v).set x w = ρ.set x w := by
  induction ρ with
  | nil => simp [Env.set]
  | cons p r ih => by_cases hk : p.1 = x <;> simp [Env.set, hk, ih]

theorem set_fresh (ρ : Env) (x : String) (v : Val) (h : ρ.get x = none) : ρ.set x v = ρ ++ [(x, v)] := by
  induction ρ with
  | nil => simp [Env.set]
  | cons p r ih => by_cases hk : p.1 = x <;> simp_all [Env.set, Env.get]

theorem set_append_bound (ρ τ : Env) (x : String) (v w : Val) (h : ρ.get x = some w) : (ρ ++ τ).set x v = ρ.set x v ++ τ := by
  induction ρ with
  | nil => simp [Env.get] at h
  | cons p r ih => by_cases hk : p.1 = x <;> simp_all [Env.set, Env.get]

/-- leaving the scope of a fresh loop variable after an update of an outer variable -/
theorem take_set_set (ρ : Env) (x y : String) (u v w : Val) (hy : ρ.get y = none) (hx : ρ.get x = some w) :
    ((ρ.set y u).set x v).take ρ.length = ρ.set x v := by
  rw [set_fresh ρ y u hy, set_append_bound ρ _ x v w hx]
  have := set_length_bound ρ x v w hx
  rw [← this]; simp

/-! `simp` runs a body statement by statement.  Where it cannot go on (a loop, to be replaced by its fold first), what
follows must stay untouched: `andThen` keeps it as the unapplied `exec R b`, which no equation of `exec` rewrites. -/

/-- `a; b`: `b` runs from the state `a` leaves, unless `a` returned, broke out or failed -/
def andThen (r : Res) (k : M → Res) : Res :=
  match r with
  | .ok (m, .norm) => k m
  | r => r

theorem exec_seq (R : Ro) (a b : St) (m : M) : exec R (.seq a b) m = andThen (exec R a m) (exec R b) := by
  rw [exec]; rfl

theorem andThen_ok (m : M) (c : Ctl) (k : M → Res) :
    andThen (.ok (m, c)) k = match c with | .norm => k m | c => .ok (m, c) := by
  cases c <;> rfl

theorem andThen_error (e : Err) (k : M → Res) : andThen (.error e) k = .error e := rfl

inductive Step (α : Type) where
  | next (a : α)
  | brk (a : α)
  | ret (a : α) (v : Val)
  | err (e : Err)

def Step.toRes {α : Type} (mk : α → M) : Step α → Res
  | .next a => .ok (mk a, .norm)
  | .brk a => .ok (mk a, .brk)
  | .ret a v => .ok (mk a, .ret v)
  | .err e => .error e

/-- the loop as a pure fold: `next a` = ran to the end (or left by `break`) -/
def foldS {α β : Type} (g : α → β → Step α) : List β → α → Step α
  | [], a => .next a
  | b :: r, a =>
    match g a b with
    | .next a' => foldS g r a'
    | .brk a' => .next a'
    | s => s

def foldSI {α β : Type} (g : α → β → Nat → Step α) : List β → Nat → α → Step α
  | [], _, a => .next a
  | b :: r, i, a =>
    match g a b i with
    | .next a' => foldSI g r (i + 1) a'
    | .brk a' => .next a'
    | s => s

/-- A loop of the interpreter is the pure fold `g`, once ONE iteration of its body — symbolically executed on
the state `mk a` — is shown to be `g a x i`. -/
theorem loopS_foldSI {α β : Type} (R : Ro) (body : St) (n : Nat) (bd : Bind) (mk : α → M) (inj : β → Val) (g : α → β → Nat → Step α)
    (h : ∀ a x i, leave n (exec R body { (mk a) with ρ := bindIt bd (mk a).ρ (inj x) i }) = (g a x i).toRes mk) :
    ∀ (items : List β) (i : Nat) (a : α), loopS R body n bd (items.map inj) i (mk a) = (foldSI g items i a).toRes mk := by
  intro items
  induction items with
  | nil => intro i a; simp [loopS, foldSI, Step.toRes]
  | cons b r ih =>
    intro i a
    rw [List.map_cons, loopS, h, foldSI]
    cases hg : g a b i with
    | next a' => simp only [Step.toRes]; exact ih (i + 1) a'
    | brk a' => simp [Step.toRes]
    | ret a' v => simp [Step.toRes]
    | err e => simp [Step.toRes]

theorem foldSI_const {α β : Type} (g : α → β → Step α) : ∀ (items : List β) (i : Nat) (a : α),
    foldSI (fun a b _ => g a b) items i a = foldS g items a := by
  intro items
  induction items with
  | nil => intro i a; rfl
  | cons b r ih => intro i a; simp only [foldSI, foldS]; cases g a b <;> simp [ih]

theorem loopS_foldS {α β : Type} (R : Ro) (body : St) (n : Nat) (bd : Bind) (mk : α → M) (inj : β → Val) (g : α → β → Step α)
    (h : ∀ a x i, leave n (exec R body { (mk a) with ρ := bindIt bd (mk a).ρ (inj x) i }) = (g a x).toRes mk)
    (items : List β) (i : Nat) (a : α) : loopS R body n bd (items.map inj) i (mk a) = (foldS g items a).toRes mk := by
  rw [← foldSI_const g items i a]
  exact loopS_foldSI R body n bd mk inj (fun a b _ => g a b) h items i a

/-- `for _, char := range chars { w += uint16(char.Width) }` as a fold: the line's width (uint16, wrapping) -/
theorem foldS_width : ∀ (l : List Cell) (acc : UInt16),
    foldS (fun (a : UInt16) (ch : Cell) => Step.next (a + u16 ch.w)) l acc = .next (acc + lineWidth l) := by
  intro l
  induction l with
  | nil => intro acc; simp [foldS, lineWidth]
  | cons ch r ih => intro acc; simp [foldS, ih, lineWidth, UInt16.add_assoc]

/-- `for _, char := range chars { lineWidth += char.Width }` as a fold (Go int) -/
theorem foldS_widthInt : ∀ (l : List Cell) (acc : Int),
    foldS (fun (a : Int) (ch : Cell) => Step.next (a + ch.w)) l acc = .next (acc + lineWidthInt l) := by
  intro l
  induction l with
  | nil => intro acc; simp [foldS, lineWidthInt]
  | cons ch r ih => intro acc; simp [foldS, ih, lineWidthInt, Int.add_assoc]

/-- one line of `findContainerSize`: the pure step -/
def sizeStep (maxW maxH : UInt16) (a : UInt16 × UInt16) (line : List Cell) : Step (UInt16 × UInt16) :=
  if a.2 ≥ maxH then .ret a (.size a.1 a.2)
  else
    let lw := lineWidth line
    let w := if a.1 < lw then lw else a.1
    .next (if w > maxW then maxW else w, a.2 + 1)

/-- the pair a `Step` ends with (`(0, 0)` for `brk` and `err`) -/
def stepSize : Step (UInt16 × UInt16) → UInt16 × UInt16
  | .next a => a
  | .ret a _ => a
  | _ => (0, 0)

theorem foldS_sizeStep (maxW maxH : UInt16) : ∀ (lines : List (List Cell)) (w h : UInt16),
    (foldS (sizeStep maxW maxH) lines (w, h) = .next (sizeLoop true maxW maxH lines w h)) ∨
    (foldS (sizeStep maxW maxH) lines (w, h) = .ret (sizeLoop true maxW maxH lines w h)
        (.size (sizeLoop true maxW maxH lines w h).1 (sizeLoop true maxW maxH lines w h).2)) := by
  intro lines
  induction lines with
  | nil => intro w h; simp [foldS, sizeLoop]
  | cons l r ih =>
    intro w h
    by_cases hg : h ≥ maxH
    · simp [foldS, sizeStep, sizeLoop, hGuard, hg]
    · simp only [foldS, sizeStep, hg, if_false, sizeLoop, hGuard, if_true]
      exact ih _ _

/-- what a scanner loop leaves in its scanner variable: the scanner after the last `Scan` (`sc`, what it held before, if
there was no line) -/
def scanEnd {α : Type} (txt : Bool) (g : α → List Cell → Step α) : List (List Cell) → Val → α → Val
  | [], sc, _ => sc
  | l :: r, _, a =>
    match g a l with
    | .next a' => scanEnd txt g r (.scanner txt r l) a'
    | _ => .scanner txt r l

/-- A scanner loop `for x.Scan() { … }` whose body does `g` to the line is `foldS g lines`.  The state is `mk sc a`, `sc` the
value of `x`; ONE iteration — entered with `x` the scanner that holds `line` and has `rest` to come — is to be `g a line`. -/
theorem loopS_scan {α : Type} (R : Ro) (body : St) (n : Nat) (x : String) (txt : Bool) (mk : Val → α → M)
    (g : α → List Cell → Step α)
    (h : ∀ sc a line rest, leave n (exec R body { (mk sc a) with ρ := (mk sc a).ρ.set x (.scanner txt rest line) })
      = (g a line).toRes (mk (.scanner txt rest line))) :
    ∀ (lines : List (List Cell)) (i : Nat) (sc : Val) (a : α),
      loopS R body n (.scan x) (scanStates txt lines) i (mk sc a) = (foldS g lines a).toRes (mk (scanEnd txt g lines sc a)) := by
  intro lines
  induction lines with
  | nil => intro i sc a; simp [scanStates, scanPairs, loopS, foldS, scanEnd, Step.toRes]
  | cons l r ih =>
    intro i sc a
    rw [scanStates, scanPairs, List.map_cons, loopS, bindIt, h, foldS, scanEnd]
    cases hg : g a l with
    | next a' => simp only [Step.toRes]; exact ih (i + 1) _ a'
    | brk a' => simp [Step.toRes]
    | ret a' v => simp [Step.toRes]
    | err e => simp [Step.toRes]

/-- what `sort.Slice(s.Children, …)` leaves behind: the children of the rendered surface, sorted IN PLACE -/
def sortedInPlace : Surface → Surface
  | .mk w h b k => .mk w h b (Kids.sortZ k)

/-- `row := i / int(W); col := i % int(W); win.SetCell(col, row, cell)` -/
def cellStep (w : UInt16) (win : Win) (scr : Screen) (c : Cell) (i : Nat) : Step Screen :=
  if w = 0 then .err (.panic .divideByZero)
  else .next (win.setCell scr (Int.ofNat (i % w.toNat)) (Int.ofNat (i / w.toNat)) c)

theorem foldSI_cells (w : UInt16) (win : Win) : ∀ (buf : List Cell) (i : Nat) (scr : Screen),
    foldSI (cellStep w win) buf i scr =
      if (w == 0 && !buf.isEmpty) = true then .err (.panic .divideByZero)
      else .next (applyPaint scr ((cellOpsFrom w i buf).map (fun o => (win, o)))) := by
  intro buf
  induction buf with
  | nil => intro i scr; simp [foldSI, cellOpsFrom, applyPaint]
  | cons c r ih =>
    intro i scr
    by_cases hw : w = 0
    · simp [foldSI, cellStep, hw]
    · simp [foldSI, cellStep, hw, ih, cellOpsFrom, applyPaint]

theorem insertByZ_map {α β : Type} (f : α → β) (x : Int × α) : ∀ l : List (Int × α),
    insertByZ (x.1, f x.2) (l.map fun p => (p.1, f p.2)) = (insertByZ x l).map fun p => (p.1, f p.2) := by
  intro l
  induction l with
  | nil => simp [insertByZ]
  | cons y r ih =>
    by_cases h : x.1 ≤ y.1
    · simp [insertByZ, h]
    · simp [insertByZ, h, ih]

theorem sortByZ_map {α β : Type} (f : α → β) : ∀ l : List (Int × α),
    sortByZ (l.map fun p => (p.1, f p.2)) = (sortByZ l).map fun p => (p.1, f p.2) := by
  intro l
  induction l with
  | nil => simp [sortByZ]
  | cons x r ih => simp only [List.map_cons, sortByZ, ih]; exact insertByZ_map f x _

theorem any_sortByZ {α : Type} (P : Int × α → Bool) (l : List (Int × α)) : (sortByZ l).any P = l.any P := by
  rw [Bool.eq_iff_iff]
  simp only [List.any_eq_true]
  constructor
  · rintro ⟨x, hx, hp⟩; exact ⟨x, (VaxisModel.Lemmas.SurfacePaint.mem_sortByZ x l).1 hx, hp⟩
  · rintro ⟨x, hx, hp⟩; exact ⟨x, (VaxisModel.Lemmas.SurfacePaint.mem_sortByZ x l).2 hx, hp⟩

/-- one child as the model lists them (`Kids.toL`): `(z, (col, row, surface))`, the key `sortByZ` orders by in front; so
`p.2.2.2` is the child's surface and `p.2` what `kidWinP` / `kidPaint` take -/
abbrev KidT := Int × (Int × Int × Surface)

def subOf (p : KidT) : Val := .sub p.2.1 p.2.2.1 p.1 p.2.2.2

def kidWinP (win : Win) (q : Int × Int × Surface) : Win :=
  win.new q.1 q.2.1 (Int.ofNat q.2.2.w.toNat) (Int.ofNat q.2.2.h.toNat)

/-- the window the child is rendered into: `win.New(col, row, int(W), int(H))` -/
def kidWin (win : Win) (p : KidT) : Win := kidWinP win p.2

def kidPaint (win : Win) (q : Int × Int × Surface) : List (Win × Op) := q.2.2.paint (kidWinP win q)

theorem toVals_eq : ∀ k : Kids, Kids.toVals k = (Kids.toL k).map subOf
  | .nil => rfl
  | .cons c r z s rest => by simp [Kids.toVals, Kids.toL, subOf, toVals_eq rest]

theorem toL_ofL : ∀ l : List KidT, Kids.toL (Kids.ofL l) = l
  | [] => rfl
  | (z, (c, r, s)) :: rest => by simp [Kids.ofL, Kids.toL, toL_ofL rest]

theorem layers_eq (win : Win) : ∀ k : Kids, k.layers win = (Kids.toL k).map (fun p => (p.1, kidPaint win p.2))
  | .nil => by simp [Kids.layers, Kids.toL]
  | .cons c r z s rest => by simp [Kids.layers, Kids.toL, kidWinP, kidPaint, layers_eq win rest]

theorem divZero_eq : ∀ k : Kids, k.divZero = (Kids.toL k).any (fun p => p.2.2.2.divZero)
  | .nil => by simp [Kids.divZero, Kids.toL]
  | .cons c r z s rest => by simp [Kids.divZero, Kids.toL, divZero_eq rest]

/-- `child.Surface.render(win.New(col,row,W,H), focused)` for one child -/
def kidStep (win : Win) (scr : Screen) (p : KidT) : Step Screen :=
  match render p.2.2.2 (kidWin win p) scr with
  | .ok scr' => .next scr'
  | .error e => .err (.panic e)

theorem applyPaint_append (scr : Screen) (a b : List (Win × Op)) : applyPaint scr (a ++ b) = applyPaint (applyPaint scr a) b := by
  simp [applyPaint, List.foldl_append]

theorem foldS_kids (win : Win) : ∀ (l : List KidT) (scr : Screen),
    foldS (kidStep win) l scr =
      if l.any (fun p => p.2.2.2.divZero) then .err (.panic .divideByZero)
      else .next (applyPaint scr ((l.map (fun p => (p.1, kidPaint win p.2))).flatMap (·.2))) := by
  intro l
  induction l with
  | nil => intro scr; simp [foldS, applyPaint]
  | cons p r ih =>
    intro scr
    by_cases hd : p.2.2.2.divZero = true
    · simp [foldS, kidStep, render, hd]
    · simp only [Bool.not_eq_true] at hd
      by_cases hr : (r.any fun p => p.2.2.2.divZero) = true <;> simp [foldS, kidStep, render, hd, hr, ih, applyPaint_append, kidPaint, kidWin]

/-- the text mode of a draw loop as the theorems need it: the row guard `row >= Max.Height` and, for `hard`, the ellipsis
branch `truncate && col+uint16(char.Width) >= Max.Width` -/
def loopM (hard : Bool) (est : Option Nat) : TextMode :=
  { hard := hard, ell := [.lineTooWide, .reach], sizeStrict := true, drawStrict := true, ellipsisStyle := est, fill := none,
    sz := (.sizeW, .sizeH) }

/-- one character of a row: `if col >= Max.Width { break }`; hard wrap: the "…" cell and `break` when the line is too wide and
this character reaches the edge; `s.WriteCell(col, row, cell); col += uint16(char.Width)` -/
def colStep (hard : Bool) (est : Option Nat) (maxW row : UInt16) (tw : Bool) (a : UInt16 × Surface) (ch : Cell) : Step (UInt16 × Surface) :=
  if a.1 ≥ maxW then .brk a
  else if hard && tw && decide (a.1 + u16 ch.w ≥ maxW) then
    match writeCell exactA a.2 a.1 row { g := gEllipsis, w := 1, st := est.getD ch.st } with
    | .error p => .err (.panic p)
    | .ok s' => .brk (a.1, s')
  else match writeCell exactA a.2 a.1 row ch with
    | .error p => .err (.panic p)
    | .ok s' => .next (a.1 + u16 ch.w, s')

theorem foldS_colStep (hard : Bool) (est : Option Nat) (maxW row : UInt16) (tw : Bool) : ∀ (line : List Cell) (col : UInt16) (s : Surface),
    (∃ col' s', foldS (colStep hard est maxW row tw) line (col, s) = .next (col', s') ∧
        drawLine exactA (loopM hard est) maxW row tw line col s = .ok s') ∨
    (∃ p, foldS (colStep hard est maxW row tw) line (col, s) = .err (.panic p) ∧
        drawLine exactA (loopM hard est) maxW row tw line col s = .error p) := by
  intro line
  induction line with
  | nil => intro col s; exact .inl ⟨col, s, by simp [foldS, drawLine]⟩
  | cons ch r ih =>
    intro col s
    have hell : ((loopM hard est).hard && (loopM hard est).ell.all (evalEll tw (col + u16 ch.w ≥ maxW) (!r.isEmpty)))
        = (hard && tw && decide (col + u16 ch.w ≥ maxW)) := by
      simp [loopM, evalEll, Bool.and_assoc]
    have hs : (loopM hard est).ellipsisStyle = est := rfl
    by_cases hg : col ≥ maxW
    · exact .inl ⟨col, s, by simp [foldS, colStep, drawLine, hg]⟩
    · simp only [foldS, colStep, drawLine, hg, if_false, hell, hs]
      by_cases ht : (hard && tw && decide (col + u16 ch.w ≥ maxW)) = true
      · cases writeCell exactA s col row { g := gEllipsis, w := 1, st := est.getD ch.st } with
        | error p => exact .inr ⟨p, by simp [ht]⟩
        | ok s' => exact .inl ⟨col, s', by simp [ht]⟩
      · cases writeCell exactA s col row ch with
        | error p => exact .inr ⟨p, by simp [ht]⟩
        | ok s' =>
          rcases ih (col + u16 ch.w) s' with ⟨c', s'', h1, h2⟩ | ⟨p, h1, h2⟩
          · exact .inl ⟨c', s'', by simp [ht, h1, h2]⟩
          · exact .inr ⟨p, by simp [ht, h1, h2]⟩

/-- one line of a Draw: the row guard with its early `return s, nil`, the row, `row += 1` (`f`: how Text restyles a line) -/
def rowStep (hard : Bool) (est : Option Nat) (f : List Cell → List Cell) (maxW maxH : UInt16) (a : UInt16 × Surface) (line : List Cell) :
    Step (UInt16 × Surface) :=
  if a.1 ≥ maxH then .ret a (.tup (.surf a.2) .nil)
  else match drawLine exactA (loopM hard est) maxW a.1 (tooWide maxW (f line)) (f line) 0 a.2 with
    | .error e => .err (.panic e)
    | .ok s' => .next (a.1 + 1, s')

theorem foldS_rowStep (hard : Bool) (est : Option Nat) (f : List Cell → List Cell) (maxW maxH : UInt16) :
    ∀ (lines : List (List Cell)) (row : UInt16) (s : Surface),
    (∃ row' s', (foldS (rowStep hard est f maxW maxH) lines (row, s) = .next (row', s') ∨
                 foldS (rowStep hard est f maxW maxH) lines (row, s) = .ret (row', s') (.tup (.surf s') .nil)) ∧
        drawLines exactA (loopM hard est) maxW maxH (lines.map f) row s = .ok s') ∨
    (∃ p, foldS (rowStep hard est f maxW maxH) lines (row, s) = .err (.panic p) ∧
        drawLines exactA (loopM hard est) maxW maxH (lines.map f) row s = .error p) := by
  intro lines
  have hh : (loopM hard est).drawStrict = true := rfl
  induction lines with
  | nil => intro row s; exact .inl ⟨row, s, .inl (by simp [foldS]), by simp [drawLines]⟩
  | cons l r ih =>
    intro row s
    by_cases hg : row ≥ maxH
    · exact .inl ⟨row, s, .inr (by simp [foldS, rowStep, hg]), by simp [drawLines, hGuard, hh, hg]⟩
    · cases hd : drawLine exactA (loopM hard est) maxW row (tooWide maxW (f l)) (f l) 0 s with
      | error p => exact .inr ⟨p, by simp [foldS, rowStep, hg, hd], by simp [drawLines, hGuard, hh, hg, hd]⟩
      | ok s' =>
        rcases ih (row + 1) s' with ⟨row', s'', h1, h2⟩ | ⟨p, h1, h2⟩
        · refine .inl ⟨row', s'', ?_, ?_⟩
          · simpa [foldS, rowStep, hg, hd] using h1
          · simp [drawLines, hGuard, hh, hg, hd, h2]
        · refine .inr ⟨p, ?_, ?_⟩
          · simpa [foldS, rowStep, hg, hd] using h1
          · simp [drawLines, hGuard, hh, hg, hd, h2]

/-- `vaxis.Cell{Character: char, Style: t.Style}` -/
def restyle (st : Nat) (ch : Cell) : Cell := { g := ch.g, w := ch.w, st := st }

theorem foldS_map {α β γ : Type} (g : α → γ → Step α) (f : β → γ) : ∀ (l : List β) (a : α),
    foldS (fun a b => g a (f b)) l a = foldS g (l.map f) a := by
  intro l
  induction l with
  | nil => intro a; rfl
  | cons b r ih => intro a; simp only [foldS, List.map_cons]; cases g a (f b) <;> simp [ih]

theorem lineWidth_restyle (st : Nat) (l : List Cell) : lineWidth (l.map (restyle st)) = lineWidth l := by
  induction l with
  | nil => rfl
  | cons c r ih => simp [lineWidth, restyle, ih]

theorem lineWidthInt_restyle (st : Nat) (l : List Cell) : lineWidthInt (l.map (restyle st)) = lineWidthInt l := by
  induction l with
  | nil => rfl
  | cons c r ih => simp [lineWidthInt, restyle, ih]

theorem tooWide_restyle (st : Nat) (maxW : UInt16) (line : List Cell) : tooWide maxW (line.map (restyle st)) = tooWide maxW line := by
  simp [tooWide, lineWidthInt_restyle]

/-- the draw loops look at four fields of the mode only, and at two of them only in a hard-wrap mode -/
theorem drawLine_congr (m m' : TextMode) (h1 : m.hard = m'.hard)
    (h2 : m.hard = true → m.ell = m'.ell ∧ m.ellipsisStyle = m'.ellipsisStyle) (maxW row : UInt16) (tw : Bool) :
    ∀ (line : List Cell) (col : UInt16) (s : Surface), drawLine exactA m maxW row tw line col s = drawLine exactA m' maxW row tw line col s := by
  intro line
  induction line with
  | nil => intro col s; rfl
  | cons ch r ih =>
    intro col s
    simp only [drawLine, ← h1, ih]
    cases hm : m.hard
    · simp
    · simp [(h2 hm).1, (h2 hm).2]

theorem drawLines_congr (m m' : TextMode) (h1 : m.hard = m'.hard)
    (h2 : m.hard = true → m.ell = m'.ell ∧ m.ellipsisStyle = m'.ellipsisStyle)
    (h3 : m.drawStrict = m'.drawStrict) (maxW maxH : UInt16) :
    ∀ (lines : List (List Cell)) (row : UInt16) (s : Surface),
    drawLines exactA m maxW maxH lines row s = drawLines exactA m' maxW maxH lines row s := by
  intro lines
  induction lines with
  | nil => intro row s; rfl
  | cons l r ih => intro row s; simp only [drawLines, h3, drawLine_congr m m' h1 h2, ih]

theorem drawText_eq_drawLines (m : TextMode) (est : Option Nat) (c : Ctx) (lines : List (List Cell))
    (h : m.sizeOK ∧ m.drawStrict = true ∧ m.ell = [.lineTooWide, .reach]) (he : m.hard = true → m.ellipsisStyle = est) :
    drawText exactA m c lines =
      drawLines exactA (loopM m.hard est) c.maxW c.maxH lines 0
        (match m.fill with
         | some st => fillStyle (newSurface exactA (findContainerSize true c lines).1 (findContainerSize true c lines).2) st
         | none => newSurface exactA (findContainerSize true c lines).1 (findContainerSize true c lines).2) := by
  simp only [drawText, h.1.1, h.1.2, evalSz]
  exact (drawLines_congr (loopM m.hard est) m rfl (fun hh => ⟨h.2.2.symm, (he hh).symm⟩) h.2.1.symm _ _ _ _ _).symm

theorem textMode_src (hard : Bool) (st : Nat) :
    (textMode hard st).sizeOK ∧ (textMode hard st).drawStrict = true ∧ (textMode hard st).ell = [.lineTooWide, .reach] := by
  cases hard <;> exact ⟨⟨rfl, by simp only [textMode]; decide⟩, rfl, rfl⟩

theorem richMode_src (hard : Bool) :
    (richMode hard).sizeOK ∧ (richMode hard).drawStrict = true ∧ (richMode hard).ell = [.lineTooWide, .reach] := by
  cases hard <;> exact ⟨⟨rfl, by simp only [richMode]; decide⟩, rfl, rfl⟩

/-- `s.Buffer[i].Style = style` -/
def fillStep (st : Nat) (buf : List Cell) (_c : Cell) (i : Nat) : Step (List Cell) :=
  match buf[i]? with
  | some c' => .next (buf.set i { c' with st := st })
  | none => .err (.panic .indexOutOfRange)

theorem foldSI_fill (st : Nat) : ∀ (todo done : List Cell) (items : List Cell), items.length = todo.length →
    foldSI (fillStep st) items done.length (done ++ todo) = .next (done ++ todo.map fun c => { c with st := st }) := by
  intro todo
  induction todo with
  | nil => intro done items h; cases items with
    | nil => simp [foldSI]
    | cons a b => simp at h
  | cons c r ih =>
    intro done items h
    cases items with
    | nil => simp at h
    | cons a b =>
      have hget : (done ++ c :: r)[done.length]? = some c := by simp
      simp only [foldSI, fillStep, hget]
      have hset : (done ++ c :: r).set done.length { c with st := st } = (done ++ [{ c with st := st }]) ++ r := by
        simp
      rw [hset]
      have := ih (done ++ [{ c with st := st }]) b (by simpa using h)
      simp only [List.length_append, List.length_singleton] at this
      rw [this]; simp

/-- the style `Button.Draw` selects: mouseDown, else hover, else focused, else default -/
def buttonStyle (md hv fc : Bool) (a b c d : Nat) : Nat := if md then a else if hv then b else if fc then c else d

/-- a `for cond { … }` loop as a pure iteration: `none` = the fuel ran out (the Go loop would not end) -/
def iterW {α : Type} (p : α → Bool) (g : α → Step α) : Nat → α → Option (Step α)
  | 0, _ => none
  | f + 1, a =>
    if p a then
      match g a with
      | .next a' => iterW p g f a'
      | .brk a' => some (.next a')
      | s => some s
    else some (.next a)

def resW {α : Type} (mk : α → M) : Option (Step α) → Res
  | none => .error (.stuck "loop does not end")
  | some s => s.toRes mk

theorem loopW_iterW {α : Type} (R : Ro) (body : St) (n : Nat) (c : Ex) (mk : α → M) (p : α → Bool) (g : α → Step α)
    (hc : ∀ a, evalE R (mk a).ρ c = .ok (.bool (p a)))
    (hb : ∀ a, p a = true → leave n (exec R body (mk a)) = (g a).toRes mk) :
    ∀ (fuel : Nat) (a : α), loopW R body n c fuel (mk a) = resW mk (iterW p g fuel a) := by
  intro fuel
  induction fuel with
  | zero => intro a; simp [loopW, iterW, resW]
  | succ f ih =>
    intro a
    rw [loopW, hc]
    cases hp : p a with
    | false => simp [iterW, hp, resW, Step.toRes]
    | true =>
      simp only [iterW, hp, if_true]
      rw [hb a hp]
      cases hg : g a with
      | next a' => simp only [Step.toRes]; exact ih a'
      | brk a' => simp [Step.toRes, resW]
      | ret a' v => simp [Step.toRes, resW]
      | err e => simp [Step.toRes, resW]

/-- one character of TextField's row: `s.WriteCell(col, 0, Cell{Character: char, Style: tf.Style}); col += uint16(char.Width)` -/
def fieldStep (st : Nat) (a : UInt16 × Surface) (ch : Cell) : Step (UInt16 × Surface) :=
  match writeCell exactA a.2 a.1 0 (restyle st ch) with
  | .error p => .err (.panic p)
  | .ok s' => .next (a.1 + u16 ch.w, s')

theorem lineWidth_append (a b : List Cell) : lineWidth (a ++ b) = lineWidth a + lineWidth b := by
  induction a with
  | nil => simp [lineWidth]
  | cons c r ih => simp [lineWidth, ih, UInt16.add_assoc]

theorem foldS_fieldStep (st : Nat) : ∀ (l : List Cell) (col : UInt16) (s : Surface),
    (∃ s', foldS (fieldStep st) l (col, s) = .next (col + lineWidth l, s') ∧ fieldLoop exactA (l.map (restyle st)) col s = .ok s') ∨
    (∃ p, foldS (fieldStep st) l (col, s) = .err (.panic p) ∧ fieldLoop exactA (l.map (restyle st)) col s = .error p) := by
  intro l
  induction l with
  | nil => intro col s; exact .inl ⟨s, by simp [foldS, lineWidth], by simp [fieldLoop]⟩
  | cons ch r ih =>
    intro col s
    cases hw : writeCell exactA s col 0 (restyle st ch) with
    | error p => exact .inr ⟨p, by simp [foldS, fieldStep, hw], by simp [fieldLoop, hw]⟩
    | ok s' =>
      have hwd : u16 (restyle st ch).w = u16 ch.w := rfl
      rcases ih (col + u16 ch.w) s' with ⟨s'', h1, h2⟩ | ⟨p, h1, h2⟩
      · exact .inl ⟨s'', by simp [foldS, fieldStep, hw, h1, lineWidth, UInt16.add_assoc], by simp [fieldLoop, hw, hwd, h2]⟩
      · exact .inr ⟨p, by simp [foldS, fieldStep, hw, h1], by simp [fieldLoop, hw, hwd, h2]⟩

theorem fieldLoop_append : ∀ (a b : List Cell) (col : UInt16) (s : Surface),
    fieldLoop exactA (a ++ b) col s =
      match fieldLoop exactA a col s with
      | .error p => .error p
      | .ok s' => fieldLoop exactA b (col + lineWidth a) s' := by
  intro a
  induction a with
  | nil => intro b col s; simp [fieldLoop, lineWidth]
  | cons c r ih =>
    intro b col s
    simp only [List.cons_append, fieldLoop]
    cases writeCell exactA s col 0 c with
    | error p => rfl
    | ok s' => simp only []; rw [ih]; simp [lineWidth, UInt16.add_assoc]

/-- the state of TextField's grapheme loop -/
structure TFSt where
  /-- the cluster read last (v4) -/
  last : Val
  /-- the clusters still to come (v5) -/
  rest : List (List Cell)
  /-- graphemes counted (v2) -/
  count : Int
  /-- the column (v3) -/
  col : UInt16
  /-- the surface (v1) -/
  surf : Surface
  /-- the uniseg state (v6) -/
  state : Int

/-- `len(rest) > 0` -/
def tfMore (a : TFSt) : Bool := !a.rest.isEmpty

/-- one grapheme cluster: its characters written, `i += 1` -/
def tfStep (st : Nat) (a : TFSt) : Step TFSt :=
  match a.rest with
  | [] => .next a
  | cl :: r =>
    match foldS (fieldStep st) cl (a.col, a.surf) with
    | .next (col', s') => .next ⟨.strOf cl, r, a.count + 1, col', s', 0⟩
    | .err e => .err e
    | _ => .err (.stuck "impossible")

theorem iterW_tf (st : Nat) : ∀ (rest : List (List Cell)) (fuel : Nat) (v4 : Val) (i : Int) (col : UInt16) (s : Surface) (s6 : Int),
    rest.length < fuel →
    (∃ v4' i' col' s' s6', iterW tfMore (tfStep st) fuel ⟨v4, rest, i, col, s, s6⟩ = some (.next ⟨v4', [], i', col', s', s6'⟩) ∧
        fieldLoop exactA (rest.flatten.map (restyle st)) col s = .ok s') ∨
    (∃ p, iterW tfMore (tfStep st) fuel ⟨v4, rest, i, col, s, s6⟩ = some (.err (.panic p)) ∧
        fieldLoop exactA (rest.flatten.map (restyle st)) col s = .error p) := by
  intro rest
  induction rest with
  | nil =>
    intro fuel v4 i col s s6 hf
    cases fuel with
    | zero => omega
    | succ f => exact .inl ⟨v4, i, col, s, s6, by simp [iterW, tfMore], by simp [fieldLoop]⟩
  | cons cl r ih =>
    intro fuel v4 i col s s6 hf
    cases fuel with
    | zero => simp at hf
    | succ f =>
      have hf' : r.length < f := by simpa using hf
      simp only [List.flatten_cons, List.map_append, fieldLoop_append, lineWidth_restyle]
      rcases foldS_fieldStep st cl col s with ⟨s', h1, h2⟩ | ⟨p, h1, h2⟩
      · rcases ih f (.strOf cl) (i + 1) (col + lineWidth cl) s' 0 hf' with ⟨a1, a2, a3, a4, a5, g1, g2⟩ | ⟨p, g1, g2⟩
        · exact .inl ⟨a1, a2, a3, a4, a5, by simp [iterW, tfMore, tfStep, h1, g1], by rw [h2]; exact g2⟩
        · exact .inr ⟨p, by simp [iterW, tfMore, tfStep, h1, g1], by rw [h2]; exact g2⟩
      · exact .inr ⟨p, by simp [iterW, tfMore, tfStep, h1], by rw [h2]⟩

/-- the interpreter's parameters for a soft-wrapped RichText whose scanner yields `lines` at `Max.Width`: `cells` returns the
cells, `findContainerSize` is the EXECUTED body of `RichText.findContainerSize` -/
def richRo (maxW : UInt16) (lines : List (List Cell)) : Ro :=
  let R0 : Ro := { noRo with fields := fun f => if f = "Softwrap" then some (.bool true) else none, soft := lines, wrapW := maxW }
  { R0 with self := fun f args =>
      if f = "meth:cells" then some (.ok (.cells lines.flatten))
      else if f = "meth:findContainerSize" then
        some ((run R0 Gen.SurfaceBodies.richFindContainerSize Gen.SurfaceBodies.richFindContainerSizeParams args (Screen.resize 0 0)).map (·.1))
      else none }

/-- the interpreter's parameters for a soft-wrapped Text in style `st` whose scanner yields `lines` at `Max.Width` -/
def textRo (maxW : UInt16) (st : Nat) (lines : List (List Cell)) : Ro :=
  let R0 : Ro := { noRo with
    fields := fun f => if f = "Softwrap" then some (.bool true) else if f = "Content" then some .text
                       else if f = "Style" then some (.sty st) else none,
    soft := lines, wrapW := maxW }
  { R0 with self := fun f args =>
      if f = "meth:findContainerSize" then
        some ((run R0 Gen.SurfaceBodies.textFindContainerSize Gen.SurfaceBodies.textFindContainerSizeParams args (Screen.resize 0 0)).map (·.1))
      else none }

end VaxisModel.Lemmas.SurfExec
