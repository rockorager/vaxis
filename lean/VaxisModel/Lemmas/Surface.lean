/-
Surface addressing in the arithmetic the source uses (`exact`): on a surface whose buffer holds W·H cells (`Sized`)
`WriteCell` never panics, and every loop of writes keeps dimensions, children and `Sized` (`Kept`).  Beside it the
`NewSurface` calls of the source evaluated, the text size loop, and the margins of Center.
-/
import VaxisModel.Model.Layout
import VaxisModel.Spec.Surface
import VaxisModel.Lemmas.Window
import VaxisModel.Lemmas.ListBasic

namespace VaxisModel.Lemmas.Surface
open VaxisModel.Model.Window VaxisModel.Model.Surface VaxisModel.Model.Layout

def Sized (s : Surface) : Prop := s.buf.length = s.h.toNat * s.w.toNat

theorem newSurface_w (a : Arith) (w h : UInt16) : (newSurface a w h).w = w := rfl
theorem newSurface_h (a : Arith) (w h : UInt16) : (newSurface a w h).h = h := rfl
theorem newSurface_kids (a : Arith) (w h : UInt16) : (newSurface a w h).kids = .nil := rfl

theorem newSurface_sized (w h : UInt16) : Sized (newSurface exact w h) := by
  simp [Sized, newSurface, bufLen, exact, Surface.buf, Surface.w, Surface.h]

theorem setBuf_w (s : Surface) (b : List Cell) : (s.setBuf b).w = s.w := by cases s; rfl
theorem setBuf_h (s : Surface) (b : List Cell) : (s.setBuf b).h = s.h := by cases s; rfl
theorem setBuf_kids (s : Surface) (b : List Cell) : (s.setBuf b).kids = s.kids := by cases s; rfl
theorem setBuf_buf (s : Surface) (b : List Cell) : (s.setBuf b).buf = b := by cases s; rfl

theorem fillStyle_w (s : Surface) (st : Nat) : (fillStyle s st).w = s.w := setBuf_w s _
theorem fillStyle_h (s : Surface) (st : Nat) : (fillStyle s st).h = s.h := setBuf_h s _
theorem fillStyle_kids (s : Surface) (st : Nat) : (fillStyle s st).kids = s.kids := setBuf_kids s _

theorem fillStyle_sized (s : Surface) (st : Nat) (hs : Sized s) : Sized (fillStyle s st) := by
  simp only [Sized, fillStyle_w, fillStyle_h]
  simp only [fillStyle, setBuf_buf, List.length_map]; exact hs

theorem newSurfaceFor_eq {a : Arith} {fn : String} {k : Nat} {c : Ctx} {size : UInt16 × UInt16} {chH : UInt16}
    (x y : Gen.SurfaceFacts.SzArg) (h : surfaceArgs fn k = (x, y)) :
    newSurfaceFor a fn k c size chH = newSurface a (evalSz c size chH x) (evalSz c size chH y) := by
  simp only [newSurfaceFor, h]

theorem surface_center (a : Arith) (c : Ctx) :
    newSurfaceFor a "center.Center.Draw" 0 c (0, 0) 0 = newSurface a c.maxW c.maxH :=
  newSurfaceFor_eq .maxW .maxH (by decide)

theorem surface_field (a : Arith) (c : Ctx) :
    newSurfaceFor a "textfield.TextField.Draw" 0 c (0, 0) 0 = newSurface a c.maxW 1 :=
  newSurfaceFor_eq .maxW (.lit 1) (by decide)

theorem surface_dynamic (a : Arith) (c : Ctx) :
    newSurfaceFor a "list.Dynamic.Draw" 0 c (0, 0) 0 = newSurface a c.maxW c.maxH :=
  newSurfaceFor_eq .maxW .maxH (by decide)

theorem surface_dynamic_cursor (a : Arith) (c : Ctx) (chH : UInt16) :
    newSurfaceFor a "list.Dynamic.Draw" 1 c (0, 0) chH = newSurface a c.maxW chH :=
  newSurfaceFor_eq .maxW .childH (by decide)

theorem index_lt (W H col row : Nat) (hc : col < W) (hr : row < H) : row * W + col < H * W := by
  have h1 : row * W + col < row * W + W := by omega
  have h2 : row * W + W = (row + 1) * W := by rw [Nat.add_mul]; simp
  have h3 : (row + 1) * W ≤ H * W := Nat.mul_le_mul_right W (by omega)
  omega

theorem writeCell_inside (s : Surface) (hs : Sized s) (col row : UInt16) (c : Cell)
    (hc : col < s.w) (hr : row < s.h) :
    writeCell exact s col row c =
      .ok (s.setBuf (s.buf.set (row.toNat * s.w.toNat + col.toNat) c)) ∧
    row.toNat * s.w.toNat + col.toNat < s.buf.length := by
  have hc' := UInt16.lt_iff_toNat_lt.1 hc
  have hr' := UInt16.lt_iff_toNat_lt.1 hr
  have hlt : row.toNat * s.w.toNat + col.toNat < s.buf.length := by
    rw [hs]; exact index_lt _ _ _ _ hc' hr'
  have hrej : wcReject exact s col row = false := by
    simp only [wcReject, exact, if_true, Bool.or_eq_false_iff, decide_eq_false_iff_not, ge_iff_le,
      UInt16.not_le]
    exact ⟨hc, hr⟩
  refine ⟨?_, hlt⟩
  unfold writeCell
  rw [hrej]
  simp [wcIndex, exact, hlt]

theorem writeCell_outside (s : Surface) (col row : UInt16) (c : Cell)
    (h : ¬ (col < s.w ∧ row < s.h)) : writeCell exact s col row c = .ok s := by
  have hrej : wcReject exact s col row = true := by
    simp only [wcReject, exact, if_true, Bool.or_eq_true, decide_eq_true_eq, ge_iff_le]
    by_cases hc : col < s.w
    · right; exact UInt16.not_lt.1 (fun hr => h ⟨hc, hr⟩)
    · left; exact UInt16.not_lt.1 hc
  simp [writeCell, hrej]

theorem writeCell_buf (s : Surface) (hs : Sized s) (col row : UInt16) (c : Cell) :
    ∃ s', writeCell exact s col row c = .ok s' ∧ s'.w = s.w ∧ s'.h = s.h ∧ s'.kids = s.kids ∧ Sized s' ∧
      ∀ i, s'.buf[i]? = if col < s.w ∧ row < s.h ∧ i = row.toNat * s.w.toNat + col.toNat then some c else s.buf[i]? := by
  by_cases h : col < s.w ∧ row < s.h
  · obtain ⟨he, hlt⟩ := writeCell_inside s hs col row c h.1 h.2
    refine ⟨_, he, setBuf_w .., setBuf_h .., setBuf_kids ..,
      by simp only [Sized, setBuf_w, setBuf_h, setBuf_buf, List.length_set]; exact hs, fun i => ?_⟩
    rw [setBuf_buf, List.getElem?_set]
    by_cases hi : row.toNat * s.w.toNat + col.toNat = i
    · subst hi; simp [h.1, h.2, hlt]
    · rw [if_neg hi, if_neg (fun hh => hi hh.2.2.symm)]
  · exact ⟨s, writeCell_outside s col row c h, rfl, rfl, rfl, hs, fun i => by rw [if_neg (fun hh => h ⟨hh.1, hh.2.1⟩)]⟩

structure Kept (s s' : Surface) : Prop where
  w : s'.w = s.w
  h : s'.h = s.h
  kids : s'.kids = s.kids
  sized : Sized s'

theorem Kept.refl {s : Surface} (hs : Sized s) : Kept s s := ⟨rfl, rfl, rfl, hs⟩

theorem Kept.trans {s s1 s2 : Surface} (a : Kept s s1) (b : Kept s1 s2) : Kept s s2 :=
  ⟨b.w.trans a.w, b.h.trans a.h, b.kids.trans a.kids, b.sized⟩

theorem writeCell_ok (s : Surface) (hs : Sized s) (col row : UInt16) (c : Cell) :
    ∃ s', writeCell exact s col row c = .ok s' ∧ Kept s s' := by
  obtain ⟨s', e, a, b, k, z, _⟩ := writeCell_buf s hs col row c
  exact ⟨s', e, a, b, k, z⟩

theorem sizeLoop_le (maxW maxH : UInt16) (lines : List (List Cell)) (w h : UInt16)
    (hw : w ≤ maxW) (hh : h ≤ maxH) :
    (sizeLoop true maxW maxH lines w h).1 ≤ maxW ∧ (sizeLoop true maxW maxH lines w h).2 ≤ maxH := by
  induction lines generalizing w h with
  | nil => exact ⟨hw, hh⟩
  | cons line rest ih =>
    simp only [sizeLoop, hGuard, if_true]
    split
    · exact ⟨hw, hh⟩
    · rename_i hg
      apply ih
      · generalize (if w < lineWidth line then lineWidth line else w) = w'
        split
        · exact UInt16.le_refl _
        · rename_i hgt
          exact UInt16.not_lt.1 hgt
      · have h1 : h < maxH := by
          simp only [ge_iff_le, decide_eq_true_eq] at hg
          exact UInt16.not_le.1 hg
        have h1' := UInt16.lt_iff_toNat_lt.1 h1
        rw [UInt16.le_iff_toNat_le, ListBasic.u16_succ_toNat h1']; omega

theorem drawLine_ok (m : TextMode) (maxW row : UInt16) (tw : Bool) (line : List Cell) (col : UInt16) (s : Surface)
    (hs : Sized s) :
    ∃ s', drawLine exact m maxW row tw line col s = .ok s' ∧ Kept s s' := by
  induction line generalizing col s with
  | nil => exact ⟨s, rfl, .refl hs⟩
  | cons ch rest ih =>
    simp only [drawLine]
    split
    · exact ⟨s, rfl, .refl hs⟩
    · split
      · exact writeCell_ok s hs _ _ _
      · obtain ⟨s1, h1, k1⟩ := writeCell_ok s hs col row ch
        simp only [h1]
        obtain ⟨s2, h2, k2⟩ := ih (col + u16 ch.w) s1 k1.sized
        exact ⟨s2, h2, k1.trans k2⟩

theorem drawLines_ok (m : TextMode) (maxW maxH : UInt16) (lines : List (List Cell)) (row : UInt16) (s : Surface)
    (hs : Sized s) :
    ∃ s', drawLines exact m maxW maxH lines row s = .ok s' ∧ Kept s s' := by
  induction lines generalizing row s with
  | nil => exact ⟨s, rfl, .refl hs⟩
  | cons line rest ih =>
    simp only [drawLines]
    split
    · exact ⟨s, rfl, .refl hs⟩
    · obtain ⟨s1, h1, k1⟩ := drawLine_ok m maxW row (tooWide maxW line) line 0 s hs
      simp only [h1]
      obtain ⟨s2, h2, k2⟩ := ih (row + 1) s1 k1.sized
      exact ⟨s2, h2, k1.trans k2⟩

theorem drawText_ok (m : TextMode) (c : Ctx) (lines : List (List Cell)) :
    ∃ s, drawText exact m c lines = .ok s ∧
      s.w = evalSz c (findContainerSize m.sizeStrict c lines) 0 m.sz.1 ∧
      s.h = evalSz c (findContainerSize m.sizeStrict c lines) 0 m.sz.2 ∧
      s.kids = .nil ∧ Sized s := by
  simp only [drawText]
  have h0 := newSurface_sized (evalSz c (findContainerSize m.sizeStrict c lines) 0 m.sz.1)
    (evalSz c (findContainerSize m.sizeStrict c lines) 0 m.sz.2)
  cases hf : m.fill with
  | none =>
    simp only []
    obtain ⟨s', h, k⟩ := drawLines_ok m c.maxW c.maxH lines 0 _ h0
    exact ⟨s', h, k.w, k.h, k.kids, k.sized⟩
  | some st =>
    simp only []
    obtain ⟨s', h, k⟩ := drawLines_ok m c.maxW c.maxH lines 0 _ (fillStyle_sized _ st h0)
    exact ⟨s', h, k.w.trans (fillStyle_w ..), k.h.trans (fillStyle_h ..), k.kids.trans (fillStyle_kids ..), k.sized⟩

theorem fieldLoop_ok (chars : List Cell) (col : UInt16) (s : Surface) (hs : Sized s) :
    ∃ s', fieldLoop exact chars col s = .ok s' ∧ Kept s s' := by
  induction chars generalizing col s with
  | nil => exact ⟨s, rfl, .refl hs⟩
  | cons ch rest ih =>
    simp only [fieldLoop]
    obtain ⟨s1, h1, k1⟩ := writeCell_ok s hs col 0 ch
    simp only [h1]
    obtain ⟨s2, h2, k2⟩ := ih (col + u16 ch.w) s1 k1.sized
    exact ⟨s2, h2, k1.trans k2⟩

theorem centerAround_w (a : Arith) (c : Ctx) (ch : Surface) : (centerAround a c ch).w = c.maxW := by
  simp [centerAround, surface_center, newSurface, addChild, Surface.w]

theorem centerAround_h (a : Arith) (c : Ctx) (ch : Surface) : (centerAround a c ch).h = c.maxH := by
  simp [centerAround, surface_center, newSurface, addChild, Surface.h]

theorem centerAround_kids (a : Arith) (c : Ctx) (ch : Surface) :
    (centerAround a c ch).kids =
      .cons (Int.ofNat ((c.maxW - ch.w) / 2).toNat) (Int.ofNat ((c.maxH - ch.h) / 2).toNat) 0 ch .nil := by
  simp [centerAround, surface_center, newSurface, addChild, Kids.snoc, Surface.kids]

theorem half_sub_toNat (p q : UInt16) :
    ((p - q) / 2).toNat = if q.toNat ≤ p.toNat then (p.toNat - q.toNat) / 2 else (65536 + p.toNat - q.toNat) / 2 := by
  have hp := p.toNat_lt
  have hq := q.toNat_lt
  rw [UInt16.toNat_div, UInt16.toNat_sub]
  have : (2 : UInt16).toNat = 2 := rfl
  rw [this]
  split <;> omega

theorem half_margin (p q : UInt16) (h : q ≤ p) :
    ((p - q) / 2).toNat = (p.toNat - q.toNat) / 2 := by
  rw [half_sub_toNat, if_pos (UInt16.le_iff_toNat_le.1 h)]

end VaxisModel.Lemmas.Surface
