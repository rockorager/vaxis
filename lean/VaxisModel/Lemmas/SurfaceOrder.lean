/-
The model's stable insertion sort by z-index (`Model.Surface.sortByZ`) produces exactly the order
the spec describes independently (`Spec.Surface.orderByKey`: the distinct keys in increasing order,
and under each key the entries in their original order).
-/
import VaxisModel.Model.Surface
import VaxisModel.Spec.Surface

namespace VaxisModel.Lemmas.SurfaceOrder
open VaxisModel.Model.Surface VaxisModel.Spec.Surface

variable {α : Type}

def blocks (Ls : List Int) (l : List (Int × α)) : List (Int × α) :=
  Ls.flatMap fun v => l.filter fun p => p.1 == v

theorem orderByKey_eq (l : List (Int × α)) : orderByKey l = blocks (keyLevels l) l := rfl

theorem blocks_cons (v : Int) (Ls : List Int) (l : List (Int × α)) :
    blocks (v :: Ls) l = (l.filter fun p => p.1 == v) ++ blocks Ls l := rfl

/-- No entry of `l` has key `v`. -/
theorem filter_key_nil {v : Int} {l : List (Int × α)} (h : ∀ p ∈ l, p.1 ≠ v) : (l.filter fun p => p.1 == v) = [] :=
  List.filter_eq_nil_iff.mpr fun p hp he => h p hp (by simpa using he)

theorem mem_insertInt (x y : Int) (l : List Int) : y ∈ insertInt x l ↔ y = x ∨ y ∈ l := by
  induction l with
  | nil => simp [insertInt]
  | cons z rest ih =>
    simp only [insertInt]
    split
    · simp
    · split
      · rename_i h; subst h; simp
      · simp only [List.mem_cons, ih]
        constructor
        · rintro (h | h | h) <;> simp [h]
        · rintro (h | h | h) <;> simp [h]

theorem insertInt_sorted (x : Int) (l : List Int) (h : List.Pairwise (· < ·) l) :
    List.Pairwise (· < ·) (insertInt x l) := by
  induction l with
  | nil => simp [insertInt]
  | cons y rest ih =>
    rw [List.pairwise_cons] at h
    simp only [insertInt]
    split
    · rename_i hxy
      refine List.Pairwise.cons ?_ (List.Pairwise.cons h.1 h.2)
      intro b hb
      rcases List.mem_cons.1 hb with rfl | hb
      · exact hxy
      · exact Int.lt_trans hxy (h.1 b hb)
    · split
      · exact List.Pairwise.cons h.1 h.2
      · rename_i h1 h2
        refine List.Pairwise.cons ?_ (ih h.2)
        intro b hb
        rcases (mem_insertInt x b rest).1 hb with rfl | hb
        · omega
        · exact h.1 b hb

theorem keyLevels_cons (x : Int × α) (l : List (Int × α)) :
    keyLevels (x :: l) = insertInt x.1 (keyLevels l) := rfl

theorem keyLevels_sorted (l : List (Int × α)) : List.Pairwise (· < ·) (keyLevels l) := by
  induction l with
  | nil => exact List.Pairwise.nil
  | cons x rest ih => rw [keyLevels_cons]; exact insertInt_sorted _ _ ih

theorem mem_keyLevels (l : List (Int × α)) (p : Int × α) (h : p ∈ l) : p.1 ∈ keyLevels l := by
  induction l with
  | nil => cases h
  | cons x rest ih =>
    rw [keyLevels_cons, mem_insertInt]
    rcases List.mem_cons.1 h with rfl | h
    · exact Or.inl rfl
    · exact Or.inr (ih h)

theorem mem_blocks (Ls : List Int) (l : List (Int × α)) (p : Int × α) :
    p ∈ blocks Ls l ↔ p.1 ∈ Ls ∧ p ∈ l := by
  simp only [blocks, List.mem_flatMap, List.mem_filter, beq_iff_eq]
  constructor
  · rintro ⟨v, hv, hp, he⟩; exact ⟨he ▸ hv, hp⟩
  · rintro ⟨h1, h2⟩; exact ⟨p.1, h1, h2, rfl⟩

theorem insertByZ_front (x : Int × α) (L : List (Int × α)) (h : ∀ y ∈ L, x.1 ≤ y.1) :
    insertByZ x L = x :: L := by
  cases L with
  | nil => rfl
  | cons y rest => simp [insertByZ, h y List.mem_cons_self]

theorem insertByZ_skip (x : Int × α) (A B : List (Int × α)) (h : ∀ y ∈ A, y.1 < x.1) :
    insertByZ x (A ++ B) = A ++ insertByZ x B := by
  induction A with
  | nil => rfl
  | cons y rest ih =>
    have hy := h y List.mem_cons_self
    have : ¬ x.1 ≤ y.1 := by omega
    simp only [List.cons_append, insertByZ, this, if_false]
    rw [ih (fun z hz => h z (List.mem_cons_of_mem _ hz))]

theorem blocks_cons_of_not_mem (Ls : List Int) (x : Int × α) (l : List (Int × α)) (h : x.1 ∉ Ls) :
    blocks Ls (x :: l) = blocks Ls l := by
  induction Ls with
  | nil => rfl
  | cons v rest ih =>
    have hv : ¬ x.1 = v := fun e => h (e ▸ List.mem_cons_self)
    have hr : x.1 ∉ rest := fun e => h (List.mem_cons_of_mem _ e)
    rw [blocks_cons, blocks_cons, ih hr]
    simp [hv]

/-- The generalised step: with `Ls` strictly increasing and every entry of `l` of key `x.1` accounted
for in `Ls`, adding `x` in front of `l` and its key to the levels is an insertion before the first
entry of key ≥ `x.1`. -/
theorem blocks_insert (Ls : List Int) (hs : List.Pairwise (· < ·) Ls) (x : Int × α) (l : List (Int × α))
    (hk : ∀ p ∈ l, p.1 = x.1 → x.1 ∈ Ls) :
    blocks (insertInt x.1 Ls) (x :: l) = insertByZ x (blocks Ls l) := by
  induction Ls with
  | nil =>
    have hnone := filter_key_nil (v := x.1) (l := l) fun p hp he => nomatch hk p hp he
    simp [blocks, insertInt, insertByZ, List.filter_cons, hnone]
  | cons v rest ih =>
    rw [List.pairwise_cons] at hs
    simp only [insertInt]
    -- a key up to `v` is up to every key of the blocks of `v :: rest`
    have hge : x.1 ≤ v → ∀ y ∈ blocks (v :: rest) l, x.1 ≤ y.1 := by
      intro hle y hy
      rcases List.mem_cons.1 ((mem_blocks (v :: rest) l y).1 hy).1 with e | hm
      · omega
      · have := hs.1 _ hm; omega
    by_cases h1 : x.1 < v
    · -- a new smallest level
      simp only [h1, if_true]
      have hnot : x.1 ∉ v :: rest := by
        intro hm
        rcases List.mem_cons.1 hm with e | hm
        · omega
        · have := hs.1 _ hm; omega
      have hnone := filter_key_nil (v := x.1) (l := l) fun p hp he => hnot (hk p hp he)
      have hb : blocks (x.1 :: v :: rest) (x :: l) = x :: blocks (v :: rest) l := by
        rw [blocks_cons, blocks_cons_of_not_mem (v :: rest) x l hnot]
        simp [hnone]
      rw [hb]
      exact (insertByZ_front x _ (hge (by omega))).symm
    · simp only [h1, if_false]
      by_cases h2 : x.1 = v
      · -- an existing level: x goes to the front of its block
        simp only [h2, if_true]
        have hnot : x.1 ∉ rest := by
          intro hm; have := hs.1 _ hm; omega
        have hb : blocks (v :: rest) (x :: l) = x :: blocks (v :: rest) l := by
          rw [blocks_cons, blocks_cons, blocks_cons_of_not_mem rest x l hnot]
          simp [h2]
        rw [hb]
        exact (insertByZ_front x _ (hge (by omega))).symm
      · -- a larger key: the whole block of v is skipped
        simp only [h2, if_false]
        have hv : ¬ x.1 = v := h2
        have hk' : ∀ p ∈ l, p.1 = x.1 → x.1 ∈ rest := by
          intro p hp he
          rcases List.mem_cons.1 (hk p hp he) with e | hm
          · exact absurd e hv
          · exact hm
        have ih' := ih hs.2 hk'
        have hsplit : blocks (v :: insertInt x.1 rest) (x :: l) =
            l.filter (fun p => p.1 == v) ++ blocks (insertInt x.1 rest) (x :: l) := by
          rw [blocks_cons]; simp [hv]
        rw [hsplit, blocks_cons, ih']
        symm
        apply insertByZ_skip
        intro y hy
        have := (List.mem_filter.1 hy).2
        have : y.1 = v := by simpa using this
        omega

theorem orderByKey_cons (x : Int × α) (l : List (Int × α)) :
    orderByKey (x :: l) = insertByZ x (orderByKey l) := by
  rw [orderByKey_eq, orderByKey_eq, keyLevels_cons]
  exact blocks_insert (keyLevels l) (keyLevels_sorted l) x l fun p hp he => he ▸ mem_keyLevels l p hp

theorem sortByZ_eq_orderByKey (l : List (Int × α)) : sortByZ l = orderByKey l := by
  induction l with
  | nil => rfl
  | cons x rest ih => rw [orderByKey_cons, ← ih]; rfl

theorem mem_orderByKey (l : List (Int × α)) (p : Int × α) : p ∈ orderByKey l ↔ p ∈ l := by
  rw [orderByKey_eq, mem_blocks]
  exact ⟨fun h => h.2, fun h => ⟨mem_keyLevels l p h, h⟩⟩

theorem orderByKey_map {β : Type} (f : α → β) (l : List (Int × α)) :
    orderByKey (l.map fun p => (p.1, f p.2)) = (orderByKey l).map fun p => (p.1, f p.2) := by
  have hk : keyLevels (l.map fun p => (p.1, f p.2)) = keyLevels l := by
    simp [keyLevels, List.map_map, Function.comp_def]
  simp only [orderByKey, hk, List.map_flatMap, List.filter_map, Function.comp_def]

theorem orderByKey_sorted : ∀ (l : List (Int × α)), l.Pairwise (fun a b => a.1 ≤ b.1) → orderByKey l = l
  | [], _ => rfl
  | x :: rest, h => by
    rw [orderByKey_cons, orderByKey_sorted rest (List.pairwise_cons.mp h).2]
    cases rest with
    | nil => rfl
    | cons y r => simp only [insertByZ, (List.pairwise_cons.mp h).1 y List.mem_cons_self, if_true]

end VaxisModel.Lemmas.SurfaceOrder
