/-
Helper lemmas for C14's painting clause: render is a fold of window writes; the last accepted
write wins (an instance of `Lemmas.App.get_applyPuts`, Lemmas/AppPuts); every window render draws
through descends from the window it was given.
-/
import VaxisModel.Model.Surface
import VaxisModel.Lemmas.AppPuts

namespace VaxisModel.Lemmas.SurfacePaint
open VaxisModel.Model.Window VaxisModel.Model.Surface VaxisModel.Spec.Window VaxisModel.Lemmas.Window

/-- Call `c` (window, SetCell) lands on absolute `(x,y)` and is accepted there. -/
def hits (scr : Screen) (x y : Int) (c : Win × Op) : Prop :=
  x = (absOrigin c.1).1 + c.2.col ∧ y = (absOrigin c.1).2 + c.2.row ∧ visible c.1 scr x y

instance (scr : Screen) (x y : Int) (c : Win × Op) : Decidable (hits scr x y c) := by
  unfold hits; infer_instance

/-- The cell of the last call in the list that hits `(x,y)`. -/
def lastHit (scr : Screen) (x y : Int) : List (Win × Op) → Option Cell
  | [] => none
  | c :: rest =>
      match lastHit scr x y rest with
      | some v => some v
      | none => if hits scr x y c then some c.2.cell else none

theorem applyPaint_eq (scr : Screen) (calls : List (Win × Op)) :
    applyPaint scr calls = App.applyPuts scr (calls.map fun c => App.toW c.1 c.2) := by
  simp only [applyPaint, App.applyPuts, List.foldl_map, App.toW, Win.setCell]

theorem foldHits_cells (scr : Screen) (x y : Int) (calls : List (Win × Op)) : ∀ c0,
    App.foldHits scr x y c0 (calls.map fun c => App.toW c.1 c.2) = (lastHit scr x y calls).getD c0 := by
  induction calls with
  | nil => intro c0; rfl
  | cons c rest ih =>
    intro c0
    simp only [List.map_cons, App.foldHits, List.foldl_cons, lastHit] at ih ⊢
    rw [ih]
    cases lastHit scr x y rest with
    | some v => rfl
    | none =>
      -- the two notions of "hits" have the same body
      by_cases h : App.hits scr (App.toW c.1 c.2) x y
      · have h' : hits scr x y c := h
        rw [if_pos h, if_pos h']; rfl
      · have h' : ¬ hits scr x y c := h
        rw [if_neg h, if_neg h']

theorem applyPaint_get (calls : List (Win × Op)) (scr : Screen) (x y : Int) :
    (applyPaint scr calls).get x y =
      match lastHit scr x y calls with
      | some v => (scr.get x y).map (fun _ => v)
      | none => scr.get x y := by
  rw [applyPaint_eq, App.get_applyPuts]
  simp only [foldHits_cells]
  cases lastHit scr x y calls <;> cases scr.get x y <;> rfl

theorem applyPaint_dims (calls : List (Win × Op)) (scr : Screen) :
    (applyPaint scr calls).cols = scr.cols ∧ (applyPaint scr calls).rows = scr.rows := by
  rw [applyPaint_eq]; exact App.applyPuts_dims _ _

theorem lastHit_some (scr : Screen) (x y : Int) (l : List (Win × Op)) (v : Cell)
    (h : lastHit scr x y l = some v) : ∃ c ∈ l, hits scr x y c ∧ c.2.cell = v := by
  induction l with
  | nil => simp [lastHit] at h
  | cons c rest ih =>
    simp only [lastHit] at h
    cases hl : lastHit scr x y rest with
    | some v' =>
      simp only [hl] at h
      obtain ⟨c', hc', hh⟩ := ih (by rw [hl, h])
      exact ⟨c', List.mem_cons_of_mem _ hc', hh⟩
    | none =>
      simp only [hl] at h
      split at h
      · rename_i hh
        exact ⟨c, List.mem_cons_self, hh, Option.some.inj h⟩
      · cases h

/-- `w'` is `win` or was created (by `New` or as a literal) below it. -/
inductive Desc (win : Win) : Win → Prop where
  | refl : Desc win win
  | child (c r w h : Int) (p : Win) : Desc win p → Desc win (.child c r w h p)

theorem Desc.trans {a b c : Win} (h1 : Desc a b) (h2 : Desc b c) : Desc a c := by
  induction h2 with
  | refl => exact h1
  | child c r w h p _ ih => exact Desc.child c r w h p ih

theorem covers_of_desc {win w' : Win} (h : Desc win w') (x y : Int) (hc : covers w' x y) : covers win x y := by
  induction h with
  | refl => exact hc
  | child c r w h p _ ih => exact ih hc.2

theorem mem_insertByZ {α : Type} (x y : Int × α) (l : List (Int × α)) :
    y ∈ insertByZ x l ↔ y = x ∨ y ∈ l := by
  induction l with
  | nil => simp [insertByZ]
  | cons z rest ih =>
    simp only [insertByZ]
    split
    · simp
    · simp only [List.mem_cons, ih]
      constructor
      · rintro (h | h | h) <;> simp [h]
      · rintro (h | h | h) <;> simp [h]

theorem mem_sortByZ {α : Type} (y : Int × α) (l : List (Int × α)) : y ∈ sortByZ l ↔ y ∈ l := by
  induction l with
  | nil => simp [sortByZ]
  | cons x rest ih => simp [sortByZ, mem_insertByZ, ih]

mutual
theorem paint_desc : ∀ (s : Surface) (win : Win), ∀ c ∈ s.paint win, Desc win c.1
  | .mk w h buf kids, win => by
    intro c hc
    simp only [Surface.paint, List.mem_append, List.mem_map, List.mem_flatMap] at hc
    rcases hc with ⟨o, _, rfl⟩ | ⟨l, hl, hcl⟩
    · exact Desc.refl
    · exact layers_desc kids win l ((mem_sortByZ l _).1 hl) c hcl
theorem layers_desc : ∀ (k : Kids) (win : Win), ∀ l ∈ k.layers win, ∀ c ∈ l.2, Desc win c.1
  | .nil, _ => by intro l hl; simp [Kids.layers] at hl
  | .cons col row z s rest, win => by
    intro l hl c hc
    simp only [Kids.layers, List.mem_cons] at hl
    rcases hl with rfl | hl
    · have := paint_desc s (win.new col row (Int.ofNat s.w.toNat) (Int.ofNat s.h.toNat)) c hc
      exact Desc.trans (Desc.child _ _ _ _ win Desc.refl) this
    · exact layers_desc rest win l hl c hc
end

theorem insertByZ_sorted {α : Type} (x : Int × α) (l : List (Int × α))
    (h : List.Pairwise (fun a b => a.1 ≤ b.1) l) : List.Pairwise (fun a b => a.1 ≤ b.1) (insertByZ x l) := by
  induction l with
  | nil => simp [insertByZ]
  | cons y rest ih =>
    simp only [insertByZ]
    rw [List.pairwise_cons] at h
    split
    · rename_i hxy
      refine List.Pairwise.cons ?_ (List.Pairwise.cons h.1 h.2)
      intro b hb
      rcases List.mem_cons.1 hb with rfl | hb
      · exact hxy
      · exact Int.le_trans hxy (h.1 b hb)
    · rename_i hxy
      refine List.Pairwise.cons ?_ (ih h.2)
      intro b hb
      rcases (mem_insertByZ x b rest).1 hb with rfl | hb
      · omega
      · exact h.1 b hb

theorem sortByZ_sorted {α : Type} (l : List (Int × α)) :
    List.Pairwise (fun a b => a.1 ≤ b.1) (sortByZ l) := by
  induction l with
  | nil => simp [sortByZ]
  | cons x rest ih => exact insertByZ_sorted x _ ih

theorem cellOpsFrom_cells (w : UInt16) : ∀ (buf : List Cell) (i : Nat),
    (cellOpsFrom w i buf).length = buf.length ∧
    ∀ k (hk : k < buf.length), (cellOpsFrom w i buf)[k]? =
      some { col := Int.ofNat ((i + k) % w.toNat), row := Int.ofNat ((i + k) / w.toNat), cell := buf[k] } := by
  intro buf
  induction buf with
  | nil => intro i; simp [cellOpsFrom]
  | cons c r ih =>
    intro i
    refine ⟨by simp [cellOpsFrom, (ih (i + 1)).1], fun k hk => ?_⟩
    cases k with
    | zero => simp [cellOpsFrom]
    | succ k =>
      have := (ih (i + 1)).2 k (by simpa using hk)
      have he : i + 1 + k = i + (k + 1) := by omega
      simp only [cellOpsFrom, List.getElem?_cons_succ, this, List.getElem_cons_succ, he]

end VaxisModel.Lemmas.SurfacePaint
