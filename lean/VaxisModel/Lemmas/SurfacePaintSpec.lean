/-
render ≡ the painter's algorithm of `Spec.Surface`: the last accepted call of the model's paint
sequence at a cell is the top layer of the spec at that cell (`paint_spec`, for a window `Tied` to the
spec's origin and clip). At the end `clear_screen`: what `win.Clear()` on the whole screen leaves.
-/
import VaxisModel.Lemmas.SurfacePaint
import VaxisModel.Lemmas.SurfaceOrder

namespace VaxisModel.Lemmas.SurfacePaintSpec
open VaxisModel.Model.Window VaxisModel.Model.Surface VaxisModel.Spec.Window VaxisModel.Spec.Surface
open VaxisModel.Lemmas.Window VaxisModel.Lemmas.SurfacePaint VaxisModel.Lemmas.SurfaceOrder

mutual
/-- The spec's view of a model surface tree. -/
def toTree : Int → Int → Int → Surface → Tree
  | col, row, z, .mk w h buf kids => .node col row z w.toNat h.toNat buf (kidsToTrees kids)
def kidsToTrees : Kids → List Tree
  | .nil => []
  | .cons col row z s rest => toTree col row z s :: kidsToTrees rest
end

theorem lastHit_append (scr : Screen) (x y : Int) (A B : List (Win × Op)) :
    lastHit scr x y (A ++ B) =
      match lastHit scr x y B with
      | some v => some v
      | none => lastHit scr x y A := by
  induction A with
  | nil => simp only [List.nil_append, lastHit]; cases lastHit scr x y B <;> rfl
  | cons c rest ih =>
    simp only [List.cons_append, lastHit, ih]
    cases lastHit scr x y B <;> rfl

theorem topAt_append (A B : List Layer) (x y : Int) :
    topAt (A ++ B) x y =
      match topAt B x y with
      | some v => some v
      | none => topAt A x y := by
  induction A with
  | nil => simp only [List.nil_append, topAt]; cases topAt B x y <;> rfl
  | cons c rest ih =>
    simp only [List.cons_append, topAt, ih]
    cases topAt B x y <;> rfl

theorem flat_agree (scr : Screen) (x y : Int) (l : List (Int × List (Win × Op) × List Layer))
    (h : ∀ t ∈ l, lastHit scr x y t.2.1 = topAt t.2.2 x y) :
    lastHit scr x y (l.flatMap fun t => t.2.1) = topAt (l.flatMap fun t => t.2.2) x y := by
  induction l with
  | nil => rfl
  | cons t rest ih =>
    simp only [List.flatMap_cons, lastHit_append, topAt_append]
    rw [ih (fun t' ht' => h t' (List.mem_cons_of_mem _ ht')), h t List.mem_cons_self]

theorem rect_has (r : Rect) (x y : Int) :
    r.has x y = true ↔ (r.x0 ≤ x ∧ x < r.x1 ∧ r.y0 ≤ y ∧ y < r.y1) := by
  simp [Rect.has, and_assoc]

theorem rect_low (r : Rect) (x y : Int) (h : r.has x y = true) : r.x0 ≤ x ∧ r.y0 ≤ y :=
  ⟨((rect_has r x y).1 h).1, ((rect_has r x y).1 h).2.2.1⟩

theorem index_split (W dx dy i : Nat) (hW : 0 < W) : (dx = i % W ∧ dy = i / W) ↔ (dx < W ∧ i = dy * W + dx) := by
  constructor
  · rintro ⟨rfl, rfl⟩
    exact ⟨Nat.mod_lt _ hW, by rw [Nat.mul_comm]; exact (Nat.div_add_mod i W).symm⟩
  · rintro ⟨h, rfl⟩
    constructor
    · rw [Nat.mul_comm, Nat.mul_add_mod, Nat.mod_eq_of_lt h]
    · rw [Nat.mul_comm, Nat.mul_add_div hW, Nat.div_eq_of_lt h, Nat.add_zero]

theorem own_from (scr : Screen) (win : Win) (ax ay : Int) (ho : absOrigin win = (ax, ay))
    (W : UInt16) (hW : W.toNat ≠ 0) (x y : Int) (hx : ax ≤ x) (hy : ay ≤ y)
    (hv : visible win scr x y) (buf : List Cell) (i0 : Nat) :
    lastHit scr x y ((cellOpsFrom W i0 buf).map fun o => (win, o)) =
      if (x - ax).toNat < W.toNat ∧ i0 ≤ (y - ay).toNat * W.toNat + (x - ax).toNat
      then buf[(y - ay).toNat * W.toNat + (x - ax).toNat - i0]? else none := by
  generalize hdx : (x - ax).toNat = dx
  generalize hdy : (y - ay).toNat = dy
  -- the call for buffer index `i` hits (x,y) iff `i` is the index of (x,y) and the column offset is in range
  have hhit : ∀ i c, hits scr x y (win, ({ col := Int.ofNat (i % W.toNat), row := Int.ofNat (i / W.toNat), cell := c } : Op)) ↔
      (dx < W.toNat ∧ i = dy * W.toNat + dx) := by
    intro i c
    rw [← index_split _ _ _ _ (Nat.pos_of_ne_zero hW)]
    simp only [hits, ho, hv, and_true, Int.ofNat_eq_natCast]
    omega
  generalize dy * W.toNat + dx = t at hhit ⊢
  induction buf generalizing i0 with
  | nil => simp [cellOpsFrom, lastHit]
  | cons c rest ih =>
    simp only [cellOpsFrom, List.map_cons, lastHit, ih (i0 + 1), hhit]
    by_cases hlt : dx < W.toNat
    · rcases Nat.lt_trichotomy i0 t with h | h | h
      · -- the target index is later in the buffer
        obtain ⟨k, rfl⟩ : ∃ k, t = i0 + 1 + k := ⟨t - (i0 + 1), by omega⟩
        have e1 : i0 + 1 + k - (i0 + 1) = k := by omega
        have e2 : i0 + 1 + k - i0 = k + 1 := by omega
        have e3 : ¬ i0 = i0 + 1 + k ∧ i0 ≤ i0 + 1 + k := by omega
        simp [hlt, e1, e2, e3]
        cases rest[k]? <;> rfl
      · -- the head is the target
        subst h; simp [hlt, Nat.not_succ_le_self]
      · -- the target index is before this part of the buffer
        have : ¬ i0 + 1 ≤ t ∧ ¬ i0 ≤ t ∧ ¬ i0 = t := by omega
        simp [hlt, this]
    · simp [hlt]

theorem lastHit_none_of_invisible (scr : Screen) (win : Win) (x y : Int) (hv : ¬ visible win scr x y)
    (ops : List Op) : lastHit scr x y (ops.map fun o => (win, o)) = none := by
  induction ops with
  | nil => rfl
  | cons o rest ih =>
    simp only [List.map_cons, lastHit, ih]
    have : ¬ hits scr x y (win, o) := fun h => hv h.2.2
    simp [this]

/-- What ties a window to the spec's description of where a surface is painted. -/
structure Tied (scr : Screen) (win : Win) (ax ay : Int) (C : Rect) : Prop where
  origin : absOrigin win = (ax, ay)
  vis : ∀ x y, visible win scr x y ↔ C.has x y = true
  low : ∀ x y, C.has x y = true → ax ≤ x ∧ ay ≤ y

theorem own_layer {scr : Screen} {win : Win} {ax ay : Int} {C : Rect} (ht : Tied scr win ax ay C)
    (W : UInt16) (buf : List Cell) (hz : W.toNat = 0 → buf = []) (x y : Int) :
    lastHit scr x y ((cellOps W buf).map fun o => (win, o)) =
      Layer.at { ax := ax, ay := ay, clip := C, w := W.toNat, buf := buf } x y := by
  unfold Layer.at
  by_cases hv : C.has x y = true
  · by_cases hW : W.toNat = 0
    · simp [hW, hz hW, cellOps, cellOpsFrom, lastHit]
    · have hl := ht.low x y hv
      have := own_from scr win ax ay ht.origin W hW x y hl.1 hl.2 ((ht.vis x y).2 hv) buf 0
      simp only [cellOps, this, Nat.zero_le, and_true, Nat.sub_zero, hv, hW, ne_eq, not_false_eq_true, and_self, if_true]
  · have hinv : ¬ visible win scr x y := fun h => hv ((ht.vis x y).1 h)
    simp [cellOps, lastHit_none_of_invisible scr win x y hinv, hv]

def bodyLayers (w : Nat) (buf : List Cell) (kids : List Tree) (ax ay : Int) (c : Rect) : List Layer :=
  { ax := ax, ay := ay, clip := c, w := w, buf := buf } :: ((orderByKey (layersEach kids ax ay c)).flatMap (·.2))

theorem layers_eq (clipOwn : Bool) (col row z : Int) (w h : Nat) (buf : List Cell) (kids : List Tree)
    (px py : Int) (clip : Rect) :
    layers clipOwn (.node col row z w h buf kids) px py clip =
      bodyLayers w buf kids (px + col) (py + row)
        (if clipOwn then clip.inter { x0 := px + col, y0 := py + row, x1 := px + col + w, y1 := py + row + h } else clip) := by
  simp [layers, bodyLayers]

/-- Per child: (z, model calls, spec layers). -/
def both : Kids → Win → Int → Int → Rect → List (Int × List (Win × Op) × List Layer)
  | .nil, _, _, _, _ => []
  | .cons col row z s rest, win, ax, ay, c =>
      (z, s.paint (win.new col row (Int.ofNat s.w.toNat) (Int.ofNat s.h.toNat)),
          layers true (toTree col row z s) ax ay c) :: both rest win ax ay c

theorem zOf_toTree (col row z : Int) (s : Surface) : zOf (toTree col row z s) = z := by
  cases s; simp [toTree, zOf]

theorem both_calls : ∀ (k : Kids) (win : Win) (ax ay : Int) (c : Rect),
    (both k win ax ay c).map (fun t => (t.1, t.2.1)) = k.layers win
  | .nil, _, _, _, _ => rfl
  | .cons col row z s rest, win, ax, ay, c => by
    simp [both, Kids.layers, both_calls rest win ax ay c]

theorem both_layers : ∀ (k : Kids) (win : Win) (ax ay : Int) (c : Rect),
    (both k win ax ay c).map (fun t => (t.1, t.2.2)) = layersEach (kidsToTrees k) ax ay c
  | .nil, _, _, _, _ => rfl
  | .cons col row z s rest, win, ax, ay, c => by
    simp [both, kidsToTrees, layersEach, zOf_toTree, both_layers rest win ax ay c]

theorem inter_has (a b : Rect) (x y : Int) : (a.inter b).has x y = true ↔ (a.has x y = true ∧ b.has x y = true) := by
  simp only [rect_has, Rect.inter, Int.max_le, Int.lt_min]
  constructor
  · rintro ⟨⟨h1, h2⟩, ⟨h3, h4⟩, ⟨h5, h6⟩, h7, h8⟩; exact ⟨⟨h1, h3, h5, h7⟩, h2, h4, h6, h8⟩
  · rintro ⟨⟨h1, h3, h5, h7⟩, h2, h4, h6, h8⟩; exact ⟨⟨h1, h2⟩, ⟨h3, h4⟩, ⟨h5, h6⟩, h7, h8⟩

theorem tied_child {scr : Screen} {win : Win} {ax ay : Int} {C : Rect} (h : Tied scr win ax ay C)
    (col row : Int) (w hh : Nat) :
    Tied scr (win.new col row (Int.ofNat w) (Int.ofNat hh)) (ax + col) (ay + row)
      (C.inter { x0 := ax + col, y0 := ay + row, x1 := ax + col + w, y1 := ay + row + hh }) := by
  have ho1 : (absOrigin win).1 = ax := by rw [h.origin]
  have ho2 : (absOrigin win).2 = ay := by rw [h.origin]
  refine ⟨?_, ?_, ?_⟩
  · rw [absOrigin_new, ho1, ho2]
  · intro x y
    rw [inter_has, ← h.vis x y, rect_has]
    simp only [visible, covers_new win col row _ _ (Int.natCast_nonneg w) (Int.natCast_nonneg hh), ho1, ho2,
      Int.ofNat_eq_natCast]
    constructor
    · rintro ⟨⟨h1, h2⟩, h3⟩; exact ⟨⟨h2, h3⟩, h1⟩
    · rintro ⟨⟨h2, h3⟩, h1⟩; exact ⟨⟨h1, h2⟩, h3⟩
  · exact fun x y hxy => rect_low _ x y ((inter_has _ _ x y).1 hxy).2

def bodyOf : Surface → Int → Int → Rect → List Layer
  | .mk w _ buf kids, ax, ay, c => bodyLayers w.toNat buf (kidsToTrees kids) ax ay c

theorem layers_toTree (clipOwn : Bool) (col row z : Int) (s : Surface) (px py : Int) (clip : Rect) :
    layers clipOwn (toTree col row z s) px py clip =
      bodyOf s (px + col) (py + row)
        (if clipOwn then clip.inter { x0 := px + col, y0 := py + row, x1 := px + col + s.w.toNat, y1 := py + row + s.h.toNat }
         else clip) := by
  cases s with
  | mk w h buf kids => simp [toTree, layers_eq, bodyOf, Surface.w, Surface.h]

mutual
theorem paint_spec (scr : Screen) : ∀ (s : Surface) (win : Win) (ax ay : Int) (C : Rect),
    Tied scr win ax ay C → s.divZero = false → ∀ x y,
    lastHit scr x y (s.paint win) = topAt (bodyOf s ax ay C) x y
  | .mk w h buf kids, win, ax, ay, C, ht, hd, x, y => by
    have hd' : (w == 0 && !buf.isEmpty) = false ∧ kids.divZero = false := by
      simpa [Surface.divZero] using hd
    have hz : w.toNat = 0 → buf = [] := by
      intro hw
      have hw0 : w = 0 := UInt16.toNat_inj.1 (by simpa using hw)
      have := hd'.1
      simp only [hw0, beq_self_eq_true, Bool.true_and, Bool.not_eq_false', List.isEmpty_iff] at this
      exact this
    have hkids : lastHit scr x y ((sortByZ (kids.layers win)).flatMap (·.2)) =
        topAt ((orderByKey (layersEach (kidsToTrees kids) ax ay C)).flatMap (·.2)) x y := by
      rw [sortByZ_eq_orderByKey, ← both_calls kids win ax ay C, ← both_layers kids win ax ay C,
        orderByKey_map (fun p : List (Win × Op) × List Layer => p.1),
        orderByKey_map (fun p : List (Win × Op) × List Layer => p.2), List.flatMap_map, List.flatMap_map]
      apply flat_agree
      intro t htm
      exact kids_spec scr kids win ax ay C ht hd'.2 x y t ((mem_orderByKey _ t).1 htm)
    simp only [Surface.paint, bodyOf, bodyLayers, lastHit_append, topAt]
    rw [hkids, own_layer ht w buf hz x y]
    generalize topAt ((orderByKey (layersEach (kidsToTrees kids) ax ay C)).flatMap (·.2)) x y = r
    cases r <;> rfl
theorem kids_spec (scr : Screen) : ∀ (k : Kids) (win : Win) (ax ay : Int) (C : Rect),
    Tied scr win ax ay C → k.divZero = false → ∀ x y,
    ∀ t ∈ both k win ax ay C, lastHit scr x y t.2.1 = topAt t.2.2 x y
  | .nil, _, _, _, _, _, _, _, _ => by intro t ht; cases ht
  | .cons col row z s rest, win, ax, ay, C, ht, hd, x, y => by
    have hd' : s.divZero = false ∧ rest.divZero = false := by
      simpa [Kids.divZero] using hd
    intro t htm
    simp only [both, List.mem_cons] at htm
    rcases htm with rfl | htm
    · simp only
      rw [layers_toTree, if_pos rfl]
      exact paint_spec scr s _ _ _ _ (tied_child ht col row s.w.toNat s.h.toNat) hd'.1 x y
    · exact kids_spec scr rest win ax ay C ht hd'.2 x y t htm
end

theorem tied_root (scr : Screen) :
    Tied scr (Win.ofScreen scr) 0 0 { x0 := 0, y0 := 0, x1 := scr.cols, y1 := scr.rows } := by
  refine ⟨rfl, ?_, ?_⟩
  · intro x y
    simp only [visible, Win.ofScreen, covers, inOwnRect, absOrigin, width_root, height_root, inScreen, rect_has]
    constructor
    · intro h; omega
    · intro h; omega
  · exact rect_low _

/-- Written `0 + 0`, parent origin plus offset, as `tied_child` and `layers_toTree` produce them: so this is
`tied_child` of the root on the nose and meets the layers of `toTree 0 0 0 s` without a rewrite
(`Props.C14.render_paints`). -/
theorem tied_rootWin (scr : Screen) (s : Surface) :
    Tied scr (rootWin s (Win.ofScreen scr)) (0 + 0) (0 + 0)
      (({ x0 := 0, y0 := 0, x1 := scr.cols, y1 := scr.rows } : Rect).inter
        { x0 := 0 + 0, y0 := 0 + 0, x1 := 0 + 0 + s.w.toNat, y1 := 0 + 0 + s.h.toNat }) :=
  tied_child (tied_root scr) 0 0 s.w.toNat s.h.toNat

theorem wf_applyOps (win : Win) (ops : List Op) (s : Screen) (hwf : s.WF) : (applyOps win s ops).WF := by
  induction ops generalizing s with
  | nil => exact hwf
  | cons o rest ih =>
    simp only [applyOps, List.foldl_cons]
    exact ih _ (wf_put win s hwf o.col o.row (.cell o.cell))

theorem clear_screen (scr : Screen) (hwf : scr.WF) :
    (clear (Win.ofScreen scr) scr).WF ∧ (clear (Win.ofScreen scr) scr).cols = scr.cols ∧
    (clear (Win.ofScreen scr) scr).rows = scr.rows ∧
    ∀ x y, inScreen scr x y → (clear (Win.ofScreen scr) scr).get x y = some clearCell := by
  have hd := applyOps_dims (Win.ofScreen scr) (fillOps (Win.ofScreen scr) clearCell) scr
  refine ⟨wf_applyOps _ _ _ hwf, hd.1, hd.2, ?_⟩
  intro x y hin
  apply fill_reaches (Win.ofScreen scr) scr hwf clearCell x y
  refine ((tied_root scr).vis x y).2 ((rect_has _ x y).2 ?_)
  unfold inScreen at hin
  exact ⟨hin.1, hin.2.1, hin.2.2.1, hin.2.2.2⟩

end VaxisModel.Lemmas.SurfacePaintSpec
