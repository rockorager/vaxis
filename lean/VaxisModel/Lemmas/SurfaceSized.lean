/-
The contract of the built-in widgets' Draw, by one induction over the widget tree (`draw_post`): Draw stops with the documented
panic exactly when the tree is not accepted; otherwise the surface is no larger than the maximum (`draw_spec`) and every node of the
tree it returns holds W·H cells ("well sized", `wellSized_draw`). Rendering a well-sized tree never divides by zero — so a frame of
App.Run over any tree of built-in widgets cannot panic in render.
-/
import VaxisModel.Lemmas.Layout

namespace VaxisModel.Lemmas.SurfaceSized
open VaxisModel.Model.Window VaxisModel.Model.Surface VaxisModel.Model.Layout
open VaxisModel.Lemmas.Surface VaxisModel.Lemmas.Layout

mutual
def WellSized : Surface → Prop
  | .mk w h buf kids => buf.length = h.toNat * w.toNat ∧ KidsSized kids
def KidsSized : Kids → Prop
  | .nil => True
  | .cons _ _ _ s rest => WellSized s ∧ KidsSized rest
end

theorem wellSized_mk {w h : UInt16} {buf : List Cell} {kids : Kids} :
    WellSized (.mk w h buf kids) ↔ buf.length = h.toNat * w.toNat ∧ KidsSized kids := by
  simp [WellSized]

theorem kidsSized_cons {c r z : Int} {s : Surface} {rest : Kids} :
    KidsSized (.cons c r z s rest) ↔ WellSized s ∧ KidsSized rest := by
  simp [KidsSized]

theorem wellSized_iff (s : Surface) : WellSized s ↔ (Sized s ∧ KidsSized s.kids) := by
  cases s; simp [WellSized, Sized, Surface.buf, Surface.h, Surface.w, Surface.kids]

mutual
/-- render's `i / int(s.Size.Width)` runs only for cells of the buffer: a well-sized tree has no
surface of width 0 with a non-empty buffer. -/
theorem divZero_of_wellSized : ∀ s : Surface, WellSized s → s.divZero = false
  | .mk w h buf kids, hs => by
    obtain ⟨hb, hk⟩ := wellSized_mk.1 hs
    simp only [Surface.divZero, Bool.or_eq_false_iff, divZero_of_kidsSized kids hk, and_true]
    by_cases hw : w = 0
    · subst hw
      have : buf = [] := List.length_eq_zero_iff.1 (by rw [hb]; simp)
      simp [this]
    · simp [hw]
theorem divZero_of_kidsSized : ∀ k : Kids, KidsSized k → k.divZero = false
  | .nil, _ => rfl
  | .cons _ _ _ s rest, hk => by
    obtain ⟨h1, h2⟩ := kidsSized_cons.1 hk
    simp [Kids.divZero, divZero_of_wellSized s h1, divZero_of_kidsSized rest h2]
end

theorem kidsSized_snoc : ∀ (k : Kids) (c r z : Int) (s : Surface), KidsSized k → WellSized s →
    KidsSized (k.snoc c r z s)
  | .nil, _, _, _, _, _, hs => by simp [Kids.snoc, KidsSized, hs]
  | .cons _ _ _ s0 rest, c, r, z, s, hk, hs => by
    obtain ⟨h1, h2⟩ := kidsSized_cons.1 hk
    simp [Kids.snoc, KidsSized, h1, kidsSized_snoc rest c r z s h2 hs]

theorem wellSized_addChild (s : Surface) (c r : Int) (ch : Surface) (hs : WellSized s) (hc : WellSized ch) :
    WellSized (addChild s c r ch) := by
  cases s with
  | mk w h b k =>
    obtain ⟨hb, hk⟩ := wellSized_mk.1 hs
    simp [addChild, WellSized, hb, kidsSized_snoc k c r 0 ch hk hc]

theorem wellSized_new (w h : UInt16) : WellSized (newSurface exact w h) := by
  simp [newSurface, WellSized, KidsSized, bufLen, exact]

theorem wellSized_setBuf (s : Surface) (b : List Cell) (hs : WellSized s) (hl : b.length = s.buf.length) :
    WellSized (s.setBuf b) := by
  cases s with
  | mk w h b0 k =>
    obtain ⟨hb, hk⟩ := wellSized_mk.1 hs
    simp only [Surface.buf] at hl
    simp [Surface.setBuf, WellSized, hl, hb, hk]

theorem wellSized_fill (s : Surface) (st : Nat) (hs : WellSized s) : WellSized (fillStyle s st) := by
  unfold fillStyle
  exact wellSized_setBuf s _ hs (by simp)

theorem wellSized_of_leaf (s : Surface) (hk : s.kids = .nil) (hs : Sized s) : WellSized s := by
  rw [wellSized_iff, hk]; exact ⟨hs, by simp [KidsSized]⟩

theorem wellSized_center (c : Ctx) (ch : Surface) (hc : WellSized ch) : WellSized (centerAround exact c ch) := by
  unfold centerAround
  rw [surface_center]
  exact wellSized_addChild _ _ _ ch (wellSized_new _ _) hc

theorem wellSized_dynPlace (off gap : Int) : ∀ (chs : List Surface) (ah : Int) (s : Surface),
    WellSized s → (∀ ch ∈ chs, WellSized ch) → WellSized (dynPlace off gap chs ah s)
  | [], _, _, hs, _ => hs
  | ch :: rest, ah, s, hs, hall => by
    simp only [dynPlace]
    exact wellSized_dynPlace off gap rest _ _
      (wellSized_addChild s off ah ch hs (hall ch List.mem_cons_self))
      (fun x hx => hall x (List.mem_cons_of_mem _ hx))

theorem kidsSized_wrapFirst (c : Ctx) (off : Int) : ∀ k : Kids, KidsSized k → KidsSized (dynWrapFirst exact c off k)
  | .nil, _ => by simp [dynWrapFirst, KidsSized]
  | .cons _ row z ch rest, hk => by
    obtain ⟨h1, h2⟩ := kidsSized_cons.1 hk
    simp only [dynWrapFirst, KidsSized, surface_dynamic_cursor]
    exact ⟨wellSized_addChild _ off 0 ch (wellSized_new _ _) h1, h2⟩

theorem wellSized_dynAround (cursor : Bool) (gap : Int) (c : Ctx) (chs : List Surface)
    (hall : ∀ ch ∈ chs, WellSized ch) : WellSized (dynAround exact cursor gap c chs) := by
  have h := wellSized_dynPlace (Int.ofNat (dynOff cursor).toNat) gap chs 0 (newSurface exact c.maxW c.maxH)
    (wellSized_new _ _) hall
  simp only [dynAround, surface_dynamic]
  generalize dynPlace (Int.ofNat (dynOff cursor).toNat) gap chs 0 (newSurface exact c.maxW c.maxH) = p at h ⊢
  cases p with
  | mk w hh b k =>
    obtain ⟨hb, hk⟩ := wellSized_mk.1 h
    cases cursor with
    | false => simp [WellSized, hb, hk]
    | true => simp [WellSized, hb, kidsSized_wrapFirst c _ k hk]

theorem wellSized_field (c : Ctx) (chars : List Cell) (s : Surface)
    (h : drawField exact c chars = .ok s) : WellSized s := by
  unfold drawField at h
  rw [surface_field] at h
  split at h
  · cases h; simp [emptySurface, WellSized, KidsSized]
  · obtain ⟨s', h', k⟩ := fieldLoop_ok chars 0 (newSurface exact c.maxW 1) (newSurface_sized c.maxW 1)
    rw [h] at h'; cases h'
    exact wellSized_of_leaf s k.kids k.sized

theorem text_post (m : TextMode) (c : Ctx) (lines : List (List Cell)) :
    ∃ s, drawText exact m c lines = .ok s ∧ WellSized s ∧ (m.sizeOK → s.w ≤ c.maxW ∧ s.h ≤ c.maxH) := by
  obtain ⟨s, h, hw, hh, hk, hs⟩ := drawText_ok m c lines
  refine ⟨s, h, wellSized_of_leaf s hk hs, fun hm => ?_⟩
  rw [hw, hh, hm.2, findContainerSize, hm.1]
  exact sizeLoop_le c.maxW c.maxH lines 0 0 (UInt16.le_iff_toNat_le.2 (Nat.zero_le _)) (UInt16.le_iff_toNat_le.2 (Nat.zero_le _))

structure ModesOK (tm : Bool → Nat → TextMode) (rm : Bool → TextMode) : Prop where
  text : ∀ hard st, (tm hard st).sizeOK
  rich : ∀ hard, (rm hard).sizeOK

section
variable (tm : Bool → Nat → TextMode) (rm : Bool → TextMode)

mutual
theorem draw_post : ∀ (w : Widget) (c : Ctx),
    (accepts w c = true ∧ ∃ s, drawWith exact tm rm w c = .ok s ∧ WellSized s ∧
      (ModesOK tm rm → s.w ≤ c.maxW ∧ s.h ≤ c.maxH)) ∨
    (accepts w c = false ∧ drawWith exact tm rm w c = .error .explicit)
  | .text hard st lines, c => by
    obtain ⟨s, h, hw, hle⟩ := text_post (tm hard st) c lines
    exact .inl ⟨rfl, s, h, hw, fun hm => hle (hm.text hard st)⟩
  | .rich hard lines, c => by
    obtain ⟨s, h, hw, hle⟩ := text_post (rm hard) c lines
    exact .inl ⟨rfl, s, h, hw, fun hm => hle (hm.rich hard)⟩
  | .field chars, c => by
    obtain ⟨s, h, hle⟩ := field_size_le c chars
    exact .inl ⟨rfl, s, h, wellSized_field c chars s h, fun _ => hle⟩
  | .center child, c => by
    simp only [drawWith, accepts, guard_center]
    cases hb : boundedB c with
    | false => exact .inr ⟨by trivial, by trivial⟩
    | true =>
      simp only [Bool.not_true, Bool.false_eq_true, if_false, Bool.true_and]
      rcases draw_post child { minW := 0, minH := 0, maxW := c.maxW, maxH := c.maxH } with ⟨ha, ch, hch, hws, _⟩ | ⟨ha, he⟩
      · simp only [hch, ha]
        exact .inl ⟨by trivial, _, rfl, wellSized_center c ch hws,
          fun _ => by rw [centerAround_w, centerAround_h]; exact ⟨UInt16.le_refl _, UInt16.le_refl _⟩⟩
      · simp only [he, ha]
        exact .inr ⟨by trivial, by trivial⟩
  | .button st lines, c => by
    simp only [drawWith, accepts, guard_button]
    cases hb : boundedB c with
    | false => exact .inr ⟨by trivial, by trivial⟩
    | true =>
      simp only [Bool.not_true, Bool.false_eq_true, if_false]
      -- the label: `text.New(label)` is soft-wrapped
      obtain ⟨ch, hch, hws, _⟩ := text_post (tm false st) { minW := 0, minH := 0, maxW := c.maxW, maxH := c.maxH } lines
      simp only [hch]
      refine .inl ⟨by trivial, _, rfl, wellSized_fill _ st (wellSized_center c ch hws), fun _ => ?_⟩
      rw [fillStyle_w, fillStyle_h, centerAround_w, centerAround_h]; exact ⟨UInt16.le_refl _, UInt16.le_refl _⟩
  | .dynamic cursor gap kids, c => by
    simp only [drawWith, accepts, guard_dynamic]
    cases hb : boundedB c with
    | false => exact .inr ⟨by trivial, by trivial⟩
    | true =>
      simp only [Bool.not_true, Bool.false_eq_true, if_false, Bool.true_and]
      rcases drawKids_post kids (dynChildCtx cursor c) with ⟨ha, l, hl, _, hall⟩ | ⟨ha, he⟩
      · simp only [hl, ha]
        exact .inl ⟨by trivial, _, rfl, wellSized_dynAround cursor gap c l (fun s hs => (hall s hs).1),
          fun _ => by rw [dynAround_w, dynAround_h]; exact ⟨UInt16.le_refl _, UInt16.le_refl _⟩⟩
      · simp only [he, ha]
        exact .inr ⟨by trivial, by trivial⟩
theorem drawKids_post : ∀ (k : Widgets) (c : Ctx),
    (acceptsAll k c = true ∧ ∃ l, drawKids exact tm rm k c = .ok l ∧ l.length = k.toList.length ∧
      ∀ s ∈ l, WellSized s ∧
        (ModesOK tm rm → s.w ≤ c.maxW ∧ s.h ≤ c.maxH)) ∨
    (acceptsAll k c = false ∧ drawKids exact tm rm k c = .error .explicit)
  | .nil, c => .inl ⟨rfl, [], rfl, rfl, by intro s hs; cases hs⟩
  | .cons w rest, c => by
    simp only [drawKids, acceptsAll]
    rcases draw_post w c with ⟨ha, s, hs, hw, hle⟩ | ⟨ha, he⟩
    · simp only [hs, ha, Bool.true_and]
      rcases drawKids_post rest c with ⟨hb, l, hl, hlen, hall⟩ | ⟨hb, he⟩
      · simp only [hl, hb]
        refine .inl ⟨by trivial, _, rfl, by simp [Widgets.toList, hlen], ?_⟩
        intro s' hs'
        rcases List.mem_cons.1 hs' with rfl | hm
        · exact ⟨hw, hle⟩
        · exact hall s' hm
      · simp only [he, hb]
        exact .inr ⟨by trivial, by trivial⟩
    · simp only [he, ha, Bool.false_and]
      exact .inr ⟨by trivial, by trivial⟩
end

theorem draw_spec (hm : ModesOK tm rm) (w : Widget) (c : Ctx) :
    (accepts w c = true ∧ ∃ s, drawWith exact tm rm w c = .ok s ∧ s.w ≤ c.maxW ∧ s.h ≤ c.maxH) ∨
    (accepts w c = false ∧ drawWith exact tm rm w c = .error .explicit) := by
  rcases draw_post tm rm w c with ⟨ha, s, hs, _, hle⟩ | h
  · exact .inl ⟨ha, s, hs, hle hm⟩
  · exact .inr h

theorem wellSized_draw (w : Widget) (c : Ctx) (s : Surface) (h : drawWith exact tm rm w c = .ok s) : WellSized s := by
  rcases draw_post tm rm w c with ⟨_, s', hs, hw, _⟩ | ⟨_, he⟩
  · rw [h] at hs; cases hs; exact hw
  · rw [h] at he; cases he

theorem wellSized_drawKids : ∀ (k : Widgets) (c : Ctx) (l : List Surface),
    drawKids exact tm rm k c = .ok l → ∀ s ∈ l, WellSized s := by
  intro k c l h s hs
  rcases drawKids_post tm rm k c with ⟨_, l', hl, _, hall⟩ | ⟨_, he⟩
  · rw [h] at hl; cases hl; exact (hall s hs).1
  · rw [h] at he; cases he
end

end VaxisModel.Lemmas.SurfaceSized
