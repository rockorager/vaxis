/-
The reference terminal `Spec.Term` by itself, for the files that must not import the emulator
(`Lemmas/C06Bridge.lean`) as for those that do (`Lemmas/EmuRefine*.lean`): the lemmas of `T.setGrid`, and the two
write functions `T.writeNarrow` / `T.writeWide` as equations — the wrap decision (`wrapT`), then the write with
the column advancing by the glyph's width or staying on the last column with a wrap pending (`narrowCore_eq`,
`wideCore_eq`).
-/
import VaxisModel.Spec.Term

namespace VaxisModel.Lemmas.EmuRefine
open VaxisModel.Spec

theorem setGrid_keeps {α : Type} (t : Term.T) (tg : Term.TGrid) (f : Term.T → α)
    (hf : ∀ a b, f { t with alt := a } = f t ∧ f { t with primary := b } = f t) : f (t.setGrid tg) = f t := by
  unfold Term.T.setGrid; split
  · exact (hf tg tg).1
  · exact (hf tg tg).2

theorem setGrid_col (t : Term.T) (tg : Term.TGrid) : (t.setGrid tg).col = t.col :=
  setGrid_keeps t tg (·.col) fun _ _ => ⟨rfl, rfl⟩
theorem setGrid_cols (t : Term.T) (tg : Term.TGrid) : (t.setGrid tg).cols = t.cols :=
  setGrid_keeps t tg (·.cols) fun _ _ => ⟨rfl, rfl⟩
theorem setGrid_pw (t : Term.T) (tg : Term.TGrid) : (t.setGrid tg).pw = t.pw :=
  setGrid_keeps t tg (·.pw) fun _ _ => ⟨rfl, rfl⟩

theorem grid_setGrid (t : Term.T) (X : Term.TGrid) : (t.setGrid X).grid = X := by
  unfold Term.T.setGrid Term.T.grid; split <;> simp_all

theorem setGrid_setGrid (t : Term.T) (X Y : Term.TGrid) : (t.setGrid X).setGrid Y = t.setGrid Y := by
  by_cases h : t.onAlt = true <;> simp [Term.T.setGrid, h]

theorem setGrid_self (t : Term.T) : t.setGrid t.grid = t := by
  unfold Term.T.setGrid Term.T.grid
  by_cases h : t.onAlt = true
  · rw [if_pos h, if_pos h]
  · rw [if_neg h, if_neg h]

theorem setGrid_primary (t : Term.T) (h : t.onAlt = false) (tg : Term.TGrid) :
    t.setGrid tg = { t with primary := tg } := by
  simp [Term.T.setGrid, h]

theorem grid_primary (t : Term.T) (h : t.onAlt = false) : t.grid = t.primary := by
  simp [Term.T.grid, h]

end VaxisModel.Lemmas.EmuRefine

namespace VaxisModel.Lemmas.EmuRefine.PrintAux
open VaxisModel.Spec VaxisModel.Lemmas.EmuRefine

/-- the state in which the reference writes after an autowrap: IND, column 0, no pending wrap -/
def wrapT (t : Term.T) : Term.T :=
  { ({ t with col := 0, pw := false } : Term.T).indCore with pw := false }

def narrowCore (t : Term.T) (g : Term.G) : Term.T :=
  let t1 := t.modRow t.row (fun row => row.set t.col (.glyph g 1 t.pen t.link))
  if t1.col + 1 = t1.cols then { t1 with pw := true } else { t1 with col := t1.col + 1 }

def wideCore (t : Term.T) (g : Term.G) : Term.T :=
  let t1 := t.modRow t.row (fun row => (row.set t.col (.glyph g 2 t.pen t.link)).set (t.col + 1) .cont)
  if t1.col + 2 = t1.cols then { t1 with col := t1.col + 1, pw := true } else { t1 with col := t1.col + 2 }

/-! On the last column both equations write the column as `t.col + w - 1` with the width `w` a numeral, so that one
lemma about `t.col + w` ends the narrow and the wide write (`advance_sim2`, `C06Bridge.advance_rel`). -/

theorem narrowCore_eq (t : Term.T) (g : Term.G) :
    narrowCore t g =
      if t.col + 1 = t.cols then
        { (t.setGrid (t.grid.modify t.row (fun r => Term.healRow (r.set t.col (.glyph g 1 t.pen t.link))))) with
          col := t.col + 1 - 1, pw := true }
      else
        { (t.setGrid (t.grid.modify t.row (fun r => Term.healRow (r.set t.col (.glyph g 1 t.pen t.link))))) with
          col := t.col + 1 } := by
  unfold narrowCore Term.T.modRow
  simp only [setGrid_col, setGrid_cols, Nat.add_sub_cancel]

theorem wideCore_eq (t : Term.T) (g : Term.G) :
    wideCore t g =
      if t.col + 2 = t.cols then
        { (t.setGrid (t.grid.modify t.row (fun r => Term.healRow
            ((r.set t.col (.glyph g 2 t.pen t.link)).set (t.col + 1) .cont)))) with
          col := t.col + 2 - 1, pw := true }
      else
        { (t.setGrid (t.grid.modify t.row (fun r => Term.healRow
            ((r.set t.col (.glyph g 2 t.pen t.link)).set (t.col + 1) .cont)))) with
          col := t.col + 2 } := by
  unfold wideCore Term.T.modRow
  simp only [setGrid_col, setGrid_cols, show t.col + 2 - 1 = t.col + 1 from rfl]

theorem writeNarrow_eq (t : Term.T) (g : Term.G) :
    t.writeNarrow g = narrowCore (if t.pw then wrapT t else t) g := rfl

theorem writeWide_eq (t : Term.T) (g : Term.G) :
    t.writeWide g = wideCore (if t.pw ∨ t.col + 1 = t.cols then wrapT t else t) g := rfl

end VaxisModel.Lemmas.EmuRefine.PrintAux
