/-
The extracted bodies of widgets/term (Gen/TermBody.lean), run by the interpreter of Model/GoInterp.lean, are the
hand-written model (Model/TermKey.lean, Model/TermMouse.lean): `encodeXterm_body` (in three pieces, see the comment
in front of `coreBody`) and `handleMouse_body` (one run).
-/
import VaxisModel.Model.TermBody
import VaxisModel.Lemmas.GoInterp
import VaxisModel.Lemmas.GoExecAttr

namespace VaxisModel.Lemmas.TermBodyEval
open VaxisModel.Model.TermBody VaxisModel.Model.Key VaxisModel.Model.GoBody VaxisModel.Model.GoInterp VaxisModel.Gen.Keys
open VaxisModel.Lemmas.GoInterp VaxisModel.Model.TermMouse VaxisModel.Model.Mouse VaxisModel.Model.TermKey VaxisModel.Gen.TermKeys

theorem const_vModShift : List.lookup "vaxis.ModShift" termConstEnv = some (.int (ModShift : Nat)) := rfl
theorem const_vModAlt : List.lookup "vaxis.ModAlt" termConstEnv = some (.int (ModAlt : Nat)) := rfl
theorem const_vModCtrl : List.lookup "vaxis.ModCtrl" termConstEnv = some (.int (ModCtrl : Nat)) := rfl
theorem const_vModNumLock : List.lookup "vaxis.ModNumLock" termConstEnv = some (.int (ModNumLock : Nat)) := rfl
theorem const_MaxRune : List.lookup "unicode.MaxRune" termConstEnv = some (.int maxRune) := rfl
/-- `vaxis.KeyTab` sits deep in the last of the four parts of `termConstEnv`; the parts in front of it are passed by one
    look-up each in the regenerated tables with their keys renamed (closed, on `Nat` / `Int`: kernel evaluation). -/
theorem const_vKeyTab : List.lookup "vaxis.KeyTab" termConstEnv = some (.int KeyTab) := by
  unfold termConstEnv VaxisModel.Model.KeyBody.keyConstEnv
  have hb := lookup_map_key (fun s => "vaxis." ++ s) (fun m : Nat => V.int m) "vaxis.KeyTab" VaxisModel.Gen.Mouse.buttons
  have hm := lookup_map_key (fun s => if s = "unicode.MaxRune" then s else "vaxis." ++ s) (fun m : Nat => V.int m)
    "vaxis.KeyTab" modConsts
  have hk := lookup_map_key (fun s => if s = "unicode.MaxRune" then s else "vaxis." ++ s) V.int "vaxis.KeyTab" keyConsts
  have eb : (VaxisModel.Gen.Mouse.buttons.map fun nv => ("vaxis." ++ nv.1, nv.2)).lookup "vaxis.KeyTab" = none := by
    decide +kernel
  have em : (modConsts.map fun nv => (if nv.1 = "unicode.MaxRune" then nv.1 else "vaxis." ++ nv.1, nv.2)).lookup
      "vaxis.KeyTab" = none := by decide +kernel
  have ek : (keyConsts.map fun nv => (if nv.1 = "unicode.MaxRune" then nv.1 else "vaxis." ++ nv.1, nv.2)).lookup
      "vaxis.KeyTab" = some KeyTab := by decide +kernel
  simp only [List.map_append, List.map_map, List.lookup_append, Function.comp_def, hb, hm, hk, eb, em, ek]
  rfl

theorem match_ite_some {α β : Type} (c : Prop) [Decidable c] (a : α) (rest : Option α) (F : α → β) (D : β) :
    (match (if c then some a else rest) with | some o => F o | none => D) =
      if c then F a else (match rest with | some o => F o | none => D) := by
  split <;> rename_i h <;> split at h <;> simp_all

theorem match_none' {α β : Type} (F : α → β) (D : β) :
    (match (none : Option α) with | some o => F o | none => D) = D := rfl

theorem sprintf_csi2 (d : Int → Str) (n m f : Int) :
    sprintfAux d [27, 91, 37, 100, 59, 37, 100, 37, 99] false [.int n, .int m, .int f] [] =
      .str (27 :: 91 :: (d n ++ 59 :: (d m ++ strOfRune f))) := by
  simp [sprintfAux]

/-! `ctx` itself stays folded in a run; its fields are read through these projections. -/
theorem ctx_u (u : Uni) (f : String → List V → Option (V × Str)) : (ctx u f).u = u := rfl
theorem ctx_consts (u : Uni) (f : String → List V → Option (V × Str)) : (ctx u f).consts = termConstEnv := rfl
theorem ctx_maps (u : Uni) (f : String → List V → Option (V × Str)) : (ctx u f).maps = termMaps := rfl
theorem ctx_funcs (u : Uni) (f : String → List V → Option (V × Str)) : (ctx u f).funcs = f := rfl
theorem ctx_fmtD (u : Uni) (f : String → List V → Option (V × Str)) : (ctx u f).fmtD = decimal := rfl
theorem ctx_noops (u : Uni) (f : String → List V → Option (V × Str)) :
    (ctx u f).noops = ["vt.mu.Lock", "vt.mu.Unlock", "vt.invalidate"] := rfl

attribute [go_exec] bind_struct Ss.ofList Es.ofList Cs.ofList execCs execDefault labelHit isTrue_bool lhsNames evalEs evalE
  zeroOf List.lookup List.map List.append
  ctx_u ctx_consts ctx_maps ctx_funcs ctx_fmtD termMaps strTable mapIndex V.asKey
  or_false false_or or_self List.length Option.map_some Option.map_none List.cons_append List.nil_append Bool.or_false List.any
  andThen_norm andThen_ret andThen_err andThen_ite afterSwitch_ite afterSwitch_ret afterSwitch_norm branch_bool
  binop_land binop_eq_int binop_eq_str binop_eq_bool binop_ne_int binop_ne_str binop_add binop_sub binop_band binop_bor binop_lt
  binop_gt binop_ge binop_le unop_not Bool.false_eq_true const_vModShift const_vModAlt const_vModCtrl const_vModNumLock const_MaxRune const_vKeyTab
  retStr_ret callStmt callFn_int callFn_string callFn_toUpper callFn_isLower callFn_newBuffer callFn_bufString
  VaxisModel.Model.KeyBody.noFuncs Int.toNat_natCast lookupKey_map1 Int.natCast_eq_zero decide_eq_true_eq callFn_sprintf sprintf_csi2

/-! The body is `[keypad application-mode block, keypad legend block] ++ coreBody`.  The two keypad statements are
evaluated symbolically in `encodeXterm_run`; `coreBody` (everything from `xtermMods := …` on) is compared with
`encodeXtermCore` against any environment that holds what it reads (`CoreEnv`, `core_body`); the two environments the
keypad block leaves behind (the key code replaced by the key the keypad key stands for, or not) are such
(`CoreEnv.cons`, `CoreEnv.set_keycode`).

`coreBody` is run in three pieces, cut where paths through it join again, so that what follows a join is run once and
not once per path: the block for unmodified keys (`headBody`, ten ways out), the tests up to the `Alt` bit (`restBody`,
two ways out) and the `Ctrl` / `Shift` part (`ctrlBody`).  A piece is run against a variable environment of which only
the look-ups it makes are known (`CoreEnv`, `RestEnv`); at each way out the next piece's theorem rewrites what is left,
its hypothesis following from the frame lemmas `CoreEnv.cons`, `RestEnv.cons` (the locals bound on the way are not among
the names it reads). -/

/-- The body after the two keypad statements. -/
def coreBody : Ss :=
  match VaxisModel.Gen.TermBody.encodeXtermBody with
  | .cons _ (.cons _ rest) => rest
  | _ => .nil

/-- What the body from `xtermMods := …` on reads of the environment the keypad block leaves behind — the key code
    (re-assigned or not), the other fields of the event, the two modes — and that no local shadows a constant or a
    map it refers to.  A conjunction and not a structure: a run hands it to `simp` under the type `_ ∧ _`, which makes
    every look-up in it a rewrite rule, and the frame lemmas below hold by `Iff.rfl`. -/
def CoreEnv (E : Env) (key : Key) (kc : Int) (pam ckm : Bool) : Prop :=
  E.lookup "key.Keycode" = some (.int kc) ∧ E.lookup "key.Modifiers" = some (.int (key.mods : Nat)) ∧
  E.lookup "key.Text" = some (.str key.text) ∧ E.lookup "key.ShiftedCode" = some (.int key.shifted) ∧
  E.lookup "deckpam" = some (.bool pam) ∧ E.lookup "decckm" = some (.bool ckm) ∧
  E.lookup "vaxis.ModShift" = none ∧ E.lookup "vaxis.ModAlt" = none ∧ E.lookup "vaxis.ModCtrl" = none ∧
  E.lookup "vaxis.KeyTab" = none ∧ E.lookup "unicode.MaxRune" = none ∧
  E.lookup "keymap" = none ∧ E.lookup "cursorKeysApplicationMode" = none ∧ E.lookup "cursorKeysNormalMode" = none ∧
  E.lookup "applicationKeymap" = none ∧ E.lookup "numericKeymap" = none ∧ E.lookup "xtermKeymap" = none

/-- Binding one of the body's own locals leaves what `CoreEnv` records as it is: none of them is among the names it reads
    (each look-up is decided by evaluation of the string comparison). -/
theorem CoreEnv.cons {E : Env} {key : Key} {kc : Int} {pam ckm : Bool} (n : String) (v : V)
    (hn : n = "val" ∨ n = "ok" ∨ n = "val.number" ∨ n = "val.final" ∨ n = "buf" ∨ n = "xtermMods") :
    CoreEnv ((n, v) :: E) key kc pam ckm ↔ CoreEnv E key kc pam ckm := by
  rcases hn with rfl | rfl | rfl | rfl | rfl | rfl <;> exact Iff.rfl

/-- What the body reads once `xtermMods` is assigned: `CoreEnv`, and the value `x` of that local. -/
def RestEnv (E : Env) (key : Key) (kc : Int) (pam ckm : Bool) (x : Nat) : Prop :=
  CoreEnv E key kc pam ckm ∧ E.lookup "xtermMods" = some (.int x)

theorem RestEnv.cons {E : Env} {key : Key} {kc : Int} {pam ckm : Bool} {x : Nat} (n : String) (v : V)
    (hn : n = "val" ∨ n = "ok" ∨ n = "val.number" ∨ n = "val.final" ∨ n = "buf") :
    RestEnv ((n, v) :: E) key kc pam ckm x ↔ RestEnv E key kc pam ckm x := by
  rcases hn with rfl | rfl | rfl | rfl | rfl <;> exact and_congr (CoreEnv.cons _ v (by simp)) Iff.rfl

theorem RestEnv.bind_xm {E : Env} {key : Key} {kc : Int} {pam ckm : Bool} (x : Nat) :
    RestEnv (("xtermMods", .int x) :: E) key kc pam ckm x ↔ CoreEnv E key kc pam ckm :=
  (and_iff_left rfl).trans (CoreEnv.cons _ _ (by simp))

/-- `xtermMods := …` (three statements) and `if xtermMods == 0 { … }`. -/
def headBody : Ss :=
  match coreBody with
  | .cons a (.cons b (.cons c (.cons d _))) => .cons a (.cons b (.cons c (.cons d .nil)))
  | _ => .nil
/-- From the Shift+Tab test on. -/
def restBody : Ss :=
  match coreBody with
  | .cons _ (.cons _ (.cons _ (.cons _ r))) => r
  | _ => .nil
theorem core_split : coreBody = appendSs headBody restBody := rfl

/-- Inside `if key.Keycode < unicode.MaxRune { … }`: what follows `if xtermMods&ModAlt != 0 { buf.WriteRune(ESC) }`. -/
def ctrlBody : Ss :=
  match restBody with
  | .cons _ (.cons _ (.cons _ (.cons _ (.cons (.ifS _ _ (.cons _ k) _) _)))) => k
  | _ => .nil
/-- `restBody` with `k` in the place of `ctrlBody`. -/
def restWith (k : Ss) : Ss :=
  match restBody with
  | .cons a (.cons b (.cons c (.cons d (.cons (.ifS i e (.cons alt _) els) t)))) =>
    .cons a (.cons b (.cons c (.cons d (.cons (.ifS i e (.cons alt k) els) t))))
  | _ => .nil
theorem rest_split : restBody = restWith ctrlBody := rfl

/-! `encodeXtermCore` piece by piece (`Option.elim` where the model has a `match`, so that a look-up in a literal table
unfolds to a chain of `if`s under `elim_ite`); `encodeXtermCore_eq` puts the pieces together. -/

theorem getD_map_bytesStr (o : Option (List Nat)) : (o.map bytesStr).getD [] = bytesStr (o.getD []) := by
  cases o <;> rfl

/-- The `Ctrl` / `Shift` / plain part of `encodeXtermCore`; `esc` is what the buffer holds by then. -/
def ctrlPart (u : Uni) (key : Key) (kc : Int) (x : Nat) (esc : Str) : Str :=
  if x &&& ModCtrl ≠ 0 then
    if 97 ≤ kc ∧ kc ≤ 122 then esc ++ strOfRune (kc - 0x60)
    else (lookup kc ctrlCases).elim
      (if ctrlDefaultRange.1 ≤ kc ∧ kc < ctrlDefaultRange.2 then esc ++ strOfRune (kc - 0x40) else esc ++ strOfRune kc)
      fun out => esc ++ (out.map fun r => if validRune r then r else 0xFFFD)
  else if x &&& ModShift ≠ 0 then
    if key.shifted > 0 then esc ++ strOfRune key.shifted else esc ++ strOfRune (u.toUpper kc)
  else esc ++ strOfRune kc

/-- `encodeXtermCore` once the block for unmodified keys has returned nothing. -/
def restPart (u : Uni) (key : Key) (kc : Int) (x : Nat) : Str :=
  if kc = KeyTab ∧ x = ModShift then [27, 91, 90]
  else (lookup kc xtermKeymap).elim
    (if key.text ≠ [] ∧ key.mods &&& ModCtrl = 0 ∧ key.mods &&& ModAlt = 0 then key.text
     else if kc < maxRune then ctrlPart u key kc x (if x &&& ModAlt ≠ 0 then [27] else [])
     else [])
    fun nf => [27, 91] ++ decimal nf.1 ++ [59] ++ decimal ((x : Int) + 1) ++ strOfRune nf.2

/-- `encodeXtermCore` as the chain of early returns its body makes. -/
theorem encodeXtermCore_eq (u : Uni) (key : Key) (pam ckm : Bool) :
    encodeXtermCore u key pam ckm =
      let x := key.mods &&& ModShift ||| key.mods &&& ModAlt ||| key.mods &&& ModCtrl
      let kc := key.keycode
      let ck := lookup kc (if ckm then cursorKeysApplicationMode else cursorKeysNormalMode)
      let kp := lookup kc (if pam then applicationKeymap else numericKeymap)
      if x = 0 ∧ (lookup kc keymap).isSome then bytesStr ((lookup kc keymap).getD [])
      else if x = 0 ∧ ck.isSome then bytesStr (ck.getD [])
      else if x = 0 ∧ kp.isSome then bytesStr (kp.getD [])
      else if x = 0 ∧ kc < maxRune then (if key.text ≠ [] then key.text else strOfRune kc)
      else restPart u key kc x := by
  unfold encodeXtermCore encodeTables restPart ctrlPart
  dsimp only
  generalize key.mods &&& ModShift ||| key.mods &&& ModAlt ||| key.mods &&& ModCtrl = x
  generalize lookup key.keycode keymap = r1
  generalize lookup key.keycode (if ckm then cursorKeysApplicationMode else cursorKeysNormalMode) = r2
  generalize lookup key.keycode (if pam then applicationKeymap else numericKeymap) = r3
  generalize lookup key.keycode xtermKeymap = r4
  generalize lookup key.keycode ctrlCases = r5
  by_cases h0 : x = 0
  · -- the block for unmodified keys: the first look-up that hits returns, then the character keys
    cases r1 <;> cases r2 <;> cases r3 <;>
      simp only [h0, Option.isSome_some, Option.isSome_none, Option.getD_some, and_true, and_false, true_and, reduceIte,
        Bool.false_eq_true]
    by_cases hU : key.keycode < maxRune
    · simp only [hU, reduceIte, ne_eq, ite_not]
    · simp only [hU, reduceIte]
      by_cases hT : key.keycode = KeyTab ∧ 0 = ModShift
      · rw [if_pos hT, if_pos hT]
      · rw [if_neg hT, if_neg hT]; cases r4 <;> rfl
  · simp only [h0, false_and, reduceIte]
    by_cases hT : key.keycode = KeyTab ∧ x = ModShift
    · rw [if_pos hT, if_pos hT]
    · rw [if_neg hT, if_neg hT]; cases r4 <;> cases r5 <;> rfl

/-- `ctrlBody` returns on every path, so whatever follows it (`f`) is not run. -/
theorem ctrl_run (u : Uni) (E : Env) (key : Key) (kc : Int) (pam ckm : Bool) (x : Nat) (esc o : Str) (f : St → R)
    (h : RestEnv E key kc pam ckm x) :
    ((execSs (ctx u VaxisModel.Model.KeyBody.noFuncs) ctrlBody { env := ("buf", .str esc) :: E, out := o }).andThen f).retStr =
      some (ctrlPart u key kc x esc) := by
  have hf : (_ ∧ _) ∧ _ := h  -- `RestEnv`, `CoreEnv` opened: for `simp`, one rewrite rule per look-up
  -- `implicitDefEqProofs := false` (here and in the other runs; the body is unfolded inside the call for the same reason):
  -- a rewrite by an `rfl`-lemma gets a proof term.  Without it the kernel re-checks such steps by evaluating the
  -- interpreter on both sides, which costs as much as the run.
  simp (config := {implicitDefEqProofs := false}) only [ctrlBody, restBody, coreBody, VaxisModel.Gen.TermBody.encodeXtermBody, go_exec, go_step, go_val, thenSs_ite, apply_ite R.retStr, reduceIte, String.reduceEq, String.reduceBEq, String.reduceAppend,
    hf]
  unfold ctrlPart
  delta ctrlCases ctrlDefaultRange
  simp only [lookup, elim_ite, Option.elim_none, apply_ite some, List.map, strOfRune_eq, Bool.not_eq_true',
    decide_eq_false_iff_not, ne_eq, Bool.and_eq_true, decide_eq_true_eq, ge_iff_le, List.append_nil]
  -- the `switch` compares label with tag, the table look-up key with entry: one orientation for both
  simp only [eq_comm]

theorem rest_run (u : Uni) (E : Env) (key : Key) (kc : Int) (pam ckm : Bool) (x : Nat) (o : Str)
    (h : RestEnv E key kc pam ckm x) :
    (execSs (ctx u VaxisModel.Model.KeyBody.noFuncs) restBody { env := E, out := o }).retStr = some (restPart u key kc x) := by
  have hf : (_ ∧ _) ∧ _ := h
  rw [rest_split]
  have hK : ∀ esc E' o' t, RestEnv E' key kc pam ckm x →
      (thenSs (ctx u VaxisModel.Model.KeyBody.noFuncs) t (execSs (ctx u VaxisModel.Model.KeyBody.noFuncs) ctrlBody
        { env := ("buf", .str esc) :: E', out := o' })).retStr = some (ctrlPart u key kc x esc) :=
    fun esc E' o' _ h => ctrl_run u E' key kc pam ckm x esc o' _ h
  simp (config := {implicitDefEqProofs := false}) only [restWith, restBody, coreBody, VaxisModel.Gen.TermBody.encodeXtermBody, go_exec, go_step, go_val, thenSs_ite, apply_ite R.retStr, reduceIte, String.reduceEq, String.reduceBEq, String.reduceAppend,
    hf, hK, RestEnv.cons, h, true_or, or_true]
  unfold restPart
  have s27 : strOfRune 27 = [27] := by decide
  generalize lookup kc xtermKeymap = r
  cases r <;>
    simp only [Option.map_some, Option.map_none, Option.isSome, Option.getD, Option.elim, s27, apply_ite some, Bool.and_eq_true,
      decide_eq_true_eq, Bool.not_eq_true', decide_eq_false_iff_not, Int.natCast_inj, ne_eq, reduceIte, Bool.false_eq_true,
      List.cons_append, List.nil_append, List.append_assoc, and_assoc, apply_ite (ctrlPart u key kc x)]

theorem core_body (u : Uni) (E : Env) (key : Key) (kc : Int) (pam ckm : Bool) (hE : CoreEnv E key kc pam ckm) :
    (execSs (ctx u VaxisModel.Model.KeyBody.noFuncs) coreBody { env := E }).retStr =
      some (encodeXtermCore u { key with keycode := kc } pam ckm) := by
  have hf : _ ∧ _ := hE
  rw [core_split, execSs_append]
  have hR := fun E' o' => rest_run u E' key kc pam ckm (key.mods &&& ModShift ||| key.mods &&& ModAlt ||| key.mods &&& ModCtrl) o'
  simp (config := {implicitDefEqProofs := false}) only [headBody, coreBody, VaxisModel.Gen.TermBody.encodeXtermBody, go_exec, go_step, go_val, thenSs_ite, apply_ite R.retStr, reduceIte, String.reduceEq, String.reduceBEq,
    hf,
    hR, RestEnv.cons, RestEnv.bind_xm, CoreEnv.cons, hE, true_or, or_true]
  rw [encodeXtermCore_eq]
  dsimp only
  generalize key.mods &&& ModShift ||| key.mods &&& ModAlt ||| key.mods &&& ModCtrl = x
  cases pam <;> cases ckm <;>
    simp only [Bool.false_eq_true, Bool.true_eq_false, eq_self, reduceIte, Option.isSome_map, apply_ite some, getD_map_bytesStr,
      Bool.not_eq_true', decide_eq_false_iff_not, ne_eq, ite_not]
  all_goals by_cases h0 : x = 0 <;> simp only [h0, true_and, false_and, reduceIte] <;> rfl

/-- The two keypad statements at the head of the body. -/
def kpA : S := match VaxisModel.Gen.TermBody.encodeXtermBody with | .cons a _ => a | _ => .brk
def kpB : S := match VaxisModel.Gen.TermBody.encodeXtermBody with | .cons _ (.cons b _) => b | _ => .brk

theorem body_split : VaxisModel.Gen.TermBody.encodeXtermBody = .cons kpA (.cons kpB coreBody) := rfl

theorem CoreEnv.set_keycode {E : Env} {key : Key} {kc : Int} {pam ckm : Bool} (v : Int) (h : CoreEnv E key kc pam ckm) :
    CoreEnv (("key.Keycode", .int v) :: E) key v pam ckm :=
  ⟨rfl, h.2⟩

theorem encodeXterm_run (u : Uni) (E : Env) (key : Key) (pam ckm : Bool) (hE : CoreEnv E key key.keycode pam ckm)
    (hn : E.lookup "vaxis.ModNumLock" = none) (hA : E.lookup "keypadApplicationMode" = none)
    (hN : E.lookup "keypadNumericMode" = none) :
    (execSs (ctx u VaxisModel.Model.KeyBody.noFuncs) VaxisModel.Gen.TermBody.encodeXtermBody { env := E }).retStr =
      some (encodeXterm u key pam ckm) := by
  have hf : _ ∧ _ := hE
  rw [body_split]
  have hC := fun E' h => core_body u E' key key.keycode pam ckm h
  have hL := fun E' (h : CoreEnv E' key key.keycode pam ckm) =>
    core_body u _ key ((lookup key.keycode keypadNumericMode).getD 0) pam ckm (h.set_keycode _)
  simp (config := {implicitDefEqProofs := false}) only [kpA, kpB, VaxisModel.Gen.TermBody.encodeXtermBody, go_exec, go_step, go_val, thenSs_ite, apply_ite R.retStr, reduceIte, String.reduceEq, String.reduceBEq, lookupKey_map_id,
    hf, hn, hA, hN,
    hC, hL, CoreEnv.cons, hE, true_or, or_true]
  unfold encodeXterm keypadLegend keypadMask
  generalize lookup key.keycode keypadApplicationMode = ra
  generalize lookup key.keycode keypadNumericMode = rn
  cases ra <;> cases rn <;> cases pam <;>
    simp only [Option.map_some, Option.map_none, Option.isSome, Option.getD, Bool.false_eq_true, reduceIte, Bool.and_false,
      Bool.false_and, Bool.true_and, Bool.and_true, decide_eq_true_eq, true_and, false_and, ite_self]
  all_goals (split <;> rfl)

theorem encodeXterm_body (u : Uni) (key : Key) (pam ckm : Bool) :
    encodeXtermGen u key pam ckm = some (encodeXterm u key pam ckm) :=
  encodeXterm_run u _ key pam ckm (by unfold CoreEnv; and_intros <;> rfl) rfl rfl rfl

theorem const_WheelUp : List.lookup "vaxis.MouseWheelUp" termConstEnv = some (.int (VaxisModel.Gen.Mouse.MouseWheelUp : Nat)) := rfl
theorem const_WheelDown : List.lookup "vaxis.MouseWheelDown" termConstEnv = some (.int (VaxisModel.Gen.Mouse.MouseWheelDown : Nat)) := rfl
theorem const_NoButton : List.lookup "vaxis.MouseNoButton" termConstEnv = some (.int (VaxisModel.Gen.Mouse.MouseNoButton : Nat)) := rfl
theorem const_EventMotion : List.lookup "vaxis.EventMotion" termConstEnv = some (.int EventMotion) := rfl
theorem const_EventPress : List.lookup "vaxis.EventPress" termConstEnv = some (.int EventPress) := rfl
theorem const_EventRelease : List.lookup "vaxis.EventRelease" termConstEnv = some (.int EventRelease) := rfl

theorem ite_append_ite {α : Type} (p q : Prop) [Decidable p] [Decidable q] (a b : List α) :
    (if p then a else []) ++ (if q then b else []) = if p then (if q then a ++ b else a) else (if q then b else []) := by
  split <;> split <;> simp

theorem ite_pair {α β : Type} (p : Prop) [Decidable p] (a b : α) (c : β) :
    ((if p then a else b), c) = if p then (a, c) else (b, c) := by split <;> rfl

theorem sprintf_sgr (d : Int → Str) (fin : Int) (h : fin ≠ 37) (b c r : Int) :
    sprintfAux d [27, 91, 60, 37, 100, 59, 37, 100, 59, 37, 100, fin] false [.int b, .int c, .int r] [] =
      .str (27 :: 91 :: 60 :: (d b ++ 59 :: (d c ++ 59 :: (d r ++ [fin])))) := by
  simp [sprintfAux, h]

theorem sprintf_x10 (d : Int → Str) (b c r : Int) :
    sprintfAux d [27, 91, 77, 37, 99, 37, 99, 37, 99] false [.int b, .int c, .int r] [] =
      .str (27 :: 91 :: 77 :: (strOfRune b ++ (strOfRune c ++ strOfRune r))) := by
  simp [sprintfAux]

theorem handleMouse_body (u : Uni) (md : Modes) (m : Mouse) :
    handleMouseGen u md m = some (handleMouse md m) := by
  simp (config := {implicitDefEqProofs := false}) only [handleMouseGen, VaxisModel.Gen.TermBody.handleMouseBody, go_exec, go_step, go_val, thenSs_ite, mouseFields, modeEnv, String.reduceEq, String.reduceBEq, String.reduceAppend, reduceIte,
    const_WheelUp, const_WheelDown, const_NoButton, const_EventMotion, const_EventPress, const_EventRelease,
    apply_ite R.outRetStr, outRetStr_ret, sprintf_sgr _ 77 (by decide), sprintf_sgr _ 109 (by decide), sprintf_x10]
  unfold handleMouse
  have e1 : ∀ x : Int, (EventMotion = x) = (x = EventMotion) := fun x => propext eq_comm
  have e2 : ∀ x : Int, (EventPress = x) = (x = EventPress) := fun x => propext eq_comm
  have e3 : ∀ x : Int, (EventRelease = x) = (x = EventRelease) := fun x => propext eq_comm
  -- both sides to one normal form: `if`s outermost, lists as `::` / `++` nested to the right
  cases hc : md.decckm <;>
    simp only [apply_ite some, ite_pair, e1, e2, e3, ite_append_ite, reduceIte, Bool.false_eq_true,
      List.cons_append, List.nil_append, List.append_assoc]

/-! `Update`'s calls without a meaning for the property (`ctx_noops` lists them): two in statement position, one deferred. -/
theorem callStmt_lock (u : Uni) (f : String → List V → Option (V × Str)) (st : St) :
    callStmt (ctx u f) st "vt.mu.Lock" [] = .norm st :=
  callStmt_noop _ st _ rfl (by decide) (by decide) (by decide)
theorem callStmt_invalidate (u : Uni) (f : String → List V → Option (V × Str)) (st : St) :
    callStmt (ctx u f) st "vt.invalidate" [] = .norm st :=
  callStmt_noop _ st _ rfl (by decide) (by decide) (by decide)
theorem noops_unlock (u : Uni) (f : String → List V → Option (V × Str)) :
    (ctx u f).noops.contains "vt.mu.Unlock" = true := rfl

end VaxisModel.Lemmas.TermBodyEval
