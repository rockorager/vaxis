/-
Helper lemmas for Props/C13Child: the dispatch rows, the parameter clamp.
-/
import VaxisModel.Lemmas.TermEmuModes

namespace VaxisModel.Lemmas.TermChildSpec
open VaxisModel.Model.Emu VaxisModel.Model.TermChild VaxisModel.Gen.TermModes
open VaxisModel.Model.TermInputModes VaxisModel.Lemmas.TermEmuModes
open VaxisModel.Model.Key (lookup Uni Str)
open VaxisModel.Spec.TermInput VaxisModel.Lemmas.TermModeRows

theorem dispatch_rows :
    (csiTable.all fun r => (r.2.1 == CsiArm.decset) == (r.1 == [63, 104]) && (r.2.1 == CsiArm.decrst) == (r.1 == [63, 108])) &&
    (escTable.all fun r => (r.2.1 == EscArm.arm_3d) == (r.1 == [61]) && (r.2.1 == EscArm.arm_3e) == (r.1 == [62]) &&
      (r.2.1 == EscArm.ris) == (r.1 == [99])) &&
    (lookupArm csiTable [63, 104] == some CsiArm.decset) && (lookupArm csiTable [63, 108] == some CsiArm.decrst) &&
    (lookupArm escTable [61] == some EscArm.arm_3d) && (lookupArm escTable [62] == some EscArm.arm_3e) &&
    (lookupArm escTable [99] == some EscArm.ris) = true := by
  decide

theorem lookupArm_some {α : Type} {t : List (List Nat × α × ArgKind)} {l : List Nat} {a : α}
    (h : lookupArm t l = some a) : ∃ r ∈ t, r.1 = l ∧ r.2.1 = a := by
  unfold lookupArm at h
  obtain ⟨r, hr, hra⟩ := Option.map_eq_some_iff.mp h
  refine ⟨r, List.mem_of_find?_eq_some hr, ?_, hra⟩
  have := List.find?_some hr
  simpa using this

/-- The mode operation behind the arm the dispatch table of `csi()` selects for a label: DECSET for `? h`, DECRST for `? l`,
    none for every other label (`dispatch_rows`). -/
theorem csi_arm_op (l : List Nat) (ps : List Int) :
    (lookupArm csiTable l).bind (csiArmOp ps) =
      if l = [63, 104] then some (.set ps) else if l = [63, 108] then some (.reset ps) else none := by
  have hd := dispatch_rows
  simp only [Bool.and_eq_true, beq_iff_eq] at hd
  obtain ⟨⟨⟨⟨⟨⟨hc, -⟩, h1⟩, h2⟩, -⟩, -⟩, -⟩ := hd
  by_cases hl1 : l = [63, 104]
  · rw [if_pos hl1, hl1, h1]; rfl
  · by_cases hl2 : l = [63, 108]
    · rw [if_neg hl1, if_pos hl2, hl2, h2]; rfl
    · rw [if_neg hl1, if_neg hl2]
      cases harm : lookupArm csiTable l with
      | none => rfl
      | some arm =>
        obtain ⟨r, hr, hrl, hra⟩ := lookupArm_some harm
        have := List.all_eq_true.mp hc r hr
        simp only [Bool.and_eq_true, beq_iff_eq, hrl, hra] at this
        have a1 : arm ≠ .decset := fun e => hl1 (by simpa [e] using this.1)
        have a2 : arm ≠ .decrst := fun e => hl2 (by simpa [e] using this.2)
        cases arm <;> first | rfl | exact absurd rfl a1 | exact absurd rfl a2

/-- Likewise for `esc()`: DECKPAM for `ESC =`, DECKPNM for `ESC >`, RIS for `ESC c`. -/
theorem esc_arm_op (l : List Nat) :
    (lookupArm escTable l).bind escArmOp =
      if l = [61] then some .pam else if l = [62] then some .pnm else if l = [99] then some .ris else none := by
  have hd := dispatch_rows
  simp only [Bool.and_eq_true, beq_iff_eq] at hd
  obtain ⟨⟨⟨⟨⟨⟨-, he⟩, -⟩, -⟩, h3⟩, h4⟩, h5⟩ := hd
  by_cases hl1 : l = [61]
  · rw [if_pos hl1, hl1, h3]; rfl
  · by_cases hl2 : l = [62]
    · rw [if_neg hl1, if_pos hl2, hl2, h4]; rfl
    · by_cases hl3 : l = [99]
      · rw [if_neg hl1, if_neg hl2, if_pos hl3, hl3, of_decide_eq_true h5]; rfl
      · rw [if_neg hl1, if_neg hl2, if_neg hl3]
        cases harm : lookupArm escTable l with
        | none => rfl
        | some arm =>
          obtain ⟨r, hr, hrl, hra⟩ := lookupArm_some harm
          have := List.all_eq_true.mp he r hr
          simp only [Bool.and_eq_true, beq_iff_eq, hrl, hra] at this
          have a1 : arm ≠ .arm_3d := fun e => hl1 (by simpa [e] using this.1.1)
          have a2 : arm ≠ .arm_3e := fun e => hl2 (by simpa [e] using this.1.2)
          have a3 : arm ≠ .ris := fun e => hl3 (by simpa [e] using this.2)
          cases arm <;> first | rfl | exact absurd rfl a1 | exact absurd rfl a2 | exact absurd rfl a3

/-- The clamp `csi()` applies to its parameters never changes which mode a number names. -/
theorem specParam_clamp (v : Bool) (md : IModes) (n : Int) : specParam v md (clampParam n) = specParam v md n := by
  unfold clampParam maxParam
  split
  · rename_i h
    rw [specParam_other v md 65535 (by decide), specParam_other v md n]
    simp only [specNums, List.mem_cons, List.not_mem_nil, or_false, not_or]
    omega
  · rfl

theorem foldl_specParam_clamp (v : Bool) : ∀ (ns : List Int) (md : IModes),
    (ns.map clampParam).foldl (specParam v) md = ns.foldl (specParam v) md
  | [], _ => rfl
  | n :: rest, md => by
    simp only [List.map_cons, List.foldl_cons, specParam_clamp]
    exact foldl_specParam_clamp v rest _

end VaxisModel.Lemmas.TermChildSpec
