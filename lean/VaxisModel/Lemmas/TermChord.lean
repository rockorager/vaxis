/-
The term widget's key encoder on character keys in closed form (`encodeXterm_char`), what the xterm legacy
reference (`Spec.KeyEnc.xtermLegacy`) and the chord predicates of Spec/TermInput depend on, and the two Shift
shapes of a cased letter pair.
-/
import VaxisModel.Lemmas.TermInput
import VaxisModel.Lemmas.KeyCongr
import VaxisModel.Lemmas.ListBasic

namespace VaxisModel.Lemmas.TermChord
open VaxisModel.Model.Key VaxisModel.Model.TermKey
open VaxisModel.Spec.KeyEnc VaxisModel.Spec.TermInput VaxisModel.Gen.Keys VaxisModel.Gen.TermKeys
open VaxisModel.Lemmas.TermInput VaxisModel.Lemmas.KeyDecode VaxisModel.Lemmas.KeyCongr

theorem xm_bits {m c : Nat} (h : m &&& 7 = c) :
    m &&& ModShift = c &&& 1 ∧ m &&& ModAlt = c &&& 2 ∧ m &&& ModCtrl = c &&& 4 := by
  subst h
  exact ⟨and7 m ModShift (by decide), and7 m ModAlt (by decide), and7 m ModCtrl (by decide)⟩

theorem validRune_small (r : Int) (h0 : 0 ≤ r) (h1 : r < 55296) : validRune r = true := by
  simp only [validRune, show maxRune = 1114111 from rfl, Bool.and_eq_true, Bool.not_eq_true', decide_eq_true_eq,
    Bool.and_eq_false_imp]
  omega

theorem encodeXterm_char (u : Uni) (k : Key) (pam ckm : Bool) (hk : k.keycode < maxRune)
    (htab : k.keycode ≠ KeyTab ∨ k.mods &&& 7 ≠ ModShift) :
    encodeXterm u k pam ckm =
      if k.mods &&& 7 = 0 then (if k.text ≠ [] then k.text else strOfRune k.keycode)
      else if k.text ≠ [] ∧ k.mods &&& ModCtrl = 0 ∧ k.mods &&& ModAlt = 0 then k.text
      else (if k.mods &&& ModAlt ≠ 0 then ([27] : Str) else []) ++
        (if k.mods &&& ModCtrl ≠ 0 then
          (if 97 ≤ k.keycode ∧ k.keycode ≤ 122 then [k.keycode - 96]
           else match lookup k.keycode ctrlCases with
             | some out => out
             | none => if 64 ≤ k.keycode ∧ k.keycode < 96 then [k.keycode - 64] else strOfRune k.keycode)
         else if k.mods &&& ModShift ≠ 0 then strOfRune (if k.shifted > 0 then k.shifted else u.toUpper k.keycode)
         else strOfRune k.keycode) := by
  have hs := and7 k.mods ModShift (by decide)
  have ha := and7 k.mods ModAlt (by decide)
  have hc := and7 k.mods ModCtrl (by decide)
  rw [encodeXterm_core_of_lt _ _ _ _ (by have := maxRune_lt_keypad; omega)]
  unfold encodeXtermCore
  simp only [xm_eq]
  rw [encodeTables_char _ _ _ _ _ hk htab]
  by_cases h0 : k.mods &&& 7 = 0
  · simp only [h0, if_true]
  · simp only [h0, if_false, hk, if_true, ← ha, ← hc, ← hs]
    by_cases ht : k.text ≠ [] ∧ k.mods &&& ModCtrl = 0 ∧ k.mods &&& ModAlt = 0
    · simp only [ht, and_self, ne_eq, not_false_eq_true, if_true]
    · simp only [ht, if_false]
      generalize (if k.mods &&& ModAlt ≠ 0 then ([27] : Str) else []) = esc
      by_cases hctrl : k.mods &&& ModCtrl ≠ 0
      · rw [if_pos hctrl, if_pos hctrl]
        by_cases hl : 97 ≤ k.keycode ∧ k.keycode ≤ 122
        · simp [hl, strOfRune, validRune_small (k.keycode - 96) (by omega) (by omega)]
        · simp only [hl, if_false]
          cases hlk : lookup k.keycode ctrlCases with
          | some out => simp [ctrlCases_valid _ _ hlk]
          | none =>
            simp only [show ctrlDefaultRange = (64, 96) from rfl]
            by_cases h64 : 64 ≤ k.keycode ∧ k.keycode < 96
            · simp [h64, strOfRune, validRune_small (k.keycode - 64) (by omega) (by omega)]
            · simp [h64]
      · simp only [hctrl, if_false]
        split <;> (try split) <;> rfl

theorem enc_plain (u : Uni) (k : Key) (pam ckm : Bool) (hm : k.mods &&& 7 = 0)
    (ht : k.text = [] ∨ k.text = [k.keycode]) (hk : k.keycode < maxRune) (hv : validRune k.keycode = true) :
    encodeXterm u k pam ckm = [k.keycode] := by
  rw [encodeXterm_char u k pam ckm hk (.inr (by rw [hm]; decide))]
  rcases ht with ht | ht <;> simp [hm, strOfRune, hv, ht]

theorem encodeTables_no_text (kc : Int) (xm : Nat) (pam ckm : Bool) (text : Str) (h : ¬ kc < maxRune ∨ xm ≠ 0) :
    encodeTables kc xm pam ckm text = encodeTables kc xm pam ckm := by
  unfold encodeTables
  rcases h with h | h <;> simp [h]

theorem xtermMods_lt (k : Key) : xtermMods k < 8 :=
  Nat.lt_of_le_of_lt Nat.and_le_right (by decide)

theorem chord_text (u : Uni) (k : Key) (hch : textIsChord u k = true)
    (hm : xtermMods k &&& (altBit ||| ctrlBit) = 0) : k.text = [] ∨ k.text = [producedChar u k] := by
  simp only [textIsChord, hm, Bool.or_eq_true, decide_eq_true_eq] at hch
  rcases hch with (h | h) | h
  · exact absurd rfl h
  · exact .inl h
  · exact .inr h

theorem shifted_shape (u : Uni) (k : Key) : k.shifted = shiftedOf u k ∨ k.shifted ≤ 0 := by
  by_cases h : k.shifted > 0
  · exact .inl (by simp [shiftedOf, h])
  · exact .inr (by omega)

theorem xtermLegacy_nonchar (key : Int) (m : Nat) (sh : Int) (ckm : Bool) (h : ¬(32 ≤ key ∧ key < 127)) :
    xtermLegacy key m sh ckm = xtermLegacy key m 0 ckm := by
  unfold xtermLegacy
  simp only [h, if_false]

theorem xtermLegacy_shifted (key : Int) (m : Nat) (sh sh' : Int) (ckm : Bool)
    (h : ¬(m &&& shiftBit ≠ 0 ∧ 97 ≤ key ∧ key ≤ 122)) :
    xtermLegacy key m sh ckm = xtermLegacy key m sh' ckm := by
  unfold xtermLegacy
  by_cases hs : m &&& shiftBit ≠ 0
  · have : ¬(97 ≤ key ∧ key ≤ 122) := fun hl => h ⟨hs, hl⟩
    simp [hs, this]
  · simp [hs]

theorem xtermLegacy_tables_none (key : Int) (hk : key ≤ maxRune) :
    lookup key (xtermLetterKeys.map fun (k, f) => (k, f)) = none ∧ lookup key xtermTildeKeys = none :=
  ⟨tbl_none _ (by decide) key hk, tbl_none _ (by decide) key hk⟩

theorem ctrlByte_range {c b : Int} (h : ctrlByte c = some b) : 0 ≤ b ∧ b < 32 := by
  unfold ctrlByte at h; split at h <;> (try split at h) <;> cases h <;> omega

/-- The reports of the reference, by shape: a row of one of the two tables (final `f` / number `n`, with the modifier
    parameter when there are modifiers), back-tab, a C0 byte (27 for the Escape key only), the character (127:
    BackSpace), `ESC` + character outside the bytes that start another sequence. -/
theorem xtermLegacy_some {key : Int} {mods : Nat} {sh : Int} {ckm : Bool} {s : Seq}
    (h : xtermLegacy key mods sh ckm = some s) : mods < 8 ∧
    ((∃ f, (key, f) ∈ xtermLetterKeys ∧ (s = .ss3 f ∨ s = .csi [] f ∨ s = .csi [[1], [(mods : Int) + 1]] f)) ∨
     (∃ n, (key, n) ∈ xtermTildeKeys ∧ (s = .csi [[n]] 126 ∨ s = .csi [[n], [(mods : Int) + 1]] 126)) ∨
     s = .csi [] 90 ∨
     (∃ b, 0 ≤ b ∧ b < 32 ∧ (b = 27 → key = KeyEsc) ∧ s = .c0 b) ∨
     (∃ ch, 32 ≤ ch ∧ ch ≤ 127 ∧ s = .print [ch]) ∨
     (∃ ch, 48 ≤ ch ∧ ch ≤ 127 ∧ ch ≠ 79 ∧ ch ≠ 80 ∧ ch ≠ 88 ∧ ¬ (91 ≤ ch ∧ ch ≤ 95) ∧ s = .esc ch)) := by
  unfold xtermLegacy at h
  by_cases h8 : mods ≥ 8
  · simp [h8] at h
  refine ⟨by omega, ?_⟩
  simp only [h8, if_false] at h
  cases hl : lookup key (xtermLetterKeys.map fun (k, f) => (k, f)) with
  | some f =>
    simp only [hl] at h
    refine .inl ⟨f, by simpa using lookup_some_mem key f _ hl, ?_⟩
    repeat' split at h
    all_goals cases h <;> simp
  | none =>
    simp only [hl] at h
    cases ht : lookup key xtermTildeKeys with
    | some n =>
      simp only [ht] at h
      refine .inr (.inl ⟨n, lookup_some_mem key n _ ht, ?_⟩)
      split at h <;> cases h <;> simp
    | none =>
      simp only [ht] at h
      -- outside both tables: the four named keys, then the printable ASCII keys
      refine .inr (.inr ?_)
      by_cases hT : key = KeyTab
      · rw [if_pos hT] at h
        split at h
        · cases h; exact .inr (.inl ⟨9, by omega, by omega, by omega, rfl⟩)
        · split at h <;> cases h
          exact .inl rfl
      by_cases hE : key = KeyEnter
      · rw [if_neg hT, if_pos hE] at h
        split at h <;> cases h
        exact .inr (.inl ⟨13, by omega, by omega, by omega, rfl⟩)
      by_cases hX : key = KeyEsc
      · rw [if_neg hT, if_neg hE, if_pos hX] at h
        split at h <;> cases h
        exact .inr (.inl ⟨27, by omega, by omega, fun _ => hX, rfl⟩)
      by_cases hB : key = KeyBackspace
      · rw [if_neg hT, if_neg hE, if_neg hX, if_pos hB] at h
        split at h
        · cases h; exact .inr (.inr (.inl ⟨127, by omega, by omega, rfl⟩))
        · split at h <;> cases h
          exact .inr (.inr (.inr ⟨127, by omega, by omega, by omega, by omega, by omega, by omega, rfl⟩))
      rw [if_neg hT, if_neg hE, if_neg hX, if_neg hB] at h
      split at h
      rotate_left; · cases h
      split at h; · cases h
      split at h
      · -- Ctrl alone: the C0 byte, unless it is the byte of BackSpace, Tab, Enter or Escape
        split at h; · cases h
        split at h
        rotate_left; · cases h
        split at h <;> cases h
        have := ctrlByte_range ‹ctrlByte key = some _›
        exact .inr (.inl ⟨_, this.1, this.2, fun hb => by omega, rfl⟩)
      · generalize (if mods &&& shiftBit ≠ 0 then sh else key) = ch at h
        split at h; · cases h
        split at h
        · split at h <;> cases h
          exact .inr (.inr (.inr ⟨ch, by omega, by omega, by omega, by omega, by omega, by omega, rfl⟩))
        · cases h
          exact .inr (.inr (.inl ⟨ch, by omega, by omega, rfl⟩))

theorem agree_ascii : AgreeOnKeys asciiUni := fun _ _ => ⟨rfl, rfl, rfl, rfl, rfl, rfl, rfl⟩

theorem ascii_case (u : Uni) (H : AgreeOnKeys u) (c : Int) (hc : 0 ≤ c ∧ c < 128) :
    u.isUpper c = decide (65 ≤ c ∧ c ≤ 90) ∧ u.isLower c = decide (97 ≤ c ∧ c ≤ 122) ∧
    u.toUpper c = (if 97 ≤ c ∧ c ≤ 122 then c - 32 else c) ∧ u.toLower c = (if 65 ≤ c ∧ c ≤ 90 then c + 32 else c) := by
  have h := H c (by simp [inKeyDom, hc.1, hc.2])
  exact ⟨h.isUpper, h.isLower, h.toUpper, h.toLower⟩

/-- Shift + a cased letter (`c` the key, `C` what Shift produces).  `u.toUpper c = C` is only needed for the event shape
    without a shifted code and without text (the widget then upper-cases the key itself). -/
theorem shift_letter_core (u : Uni) (k : Key) (pam ckm : Bool) (c C : Int)
    (hm : xtermMods k = shiftBit)
    (hU : u.isUpper C = true) (hL : u.toLower C = c) (hV : validRune C = true) (hpos : 0 < C)
    (hkey : 32 ≤ c ∧ c < maxRune ∧ c ≠ 127)
    (hkc : k.keycode = c) (hsh : k.shifted = C ∨ (k.shifted ≤ 0 ∧ (k.text = [C] ∨ u.toUpper c = C)))
    (htx : k.text = [] ∨ k.text = [C]) :
    encodeXterm u k pam ckm = renderSeq (.print [C]) ∧ keyArrives u k (decodeKey u (.print [C])) := by
  obtain ⟨h32, hmax, h127⟩ := hkey
  have hm7 : k.mods &&& 7 = 1 := hm
  obtain ⟨hs, ha, hc⟩ := xm_bits hm7
  constructor
  · rw [encodeXterm_char u k pam ckm (hkc ▸ hmax) (.inl (by rw [hkc]; simp only [KeyTab]; omega))]
    rcases htx with ht | ht
    · rcases hsh with hsc | ⟨hsc, hup⟩
      · simp [hm7, hs, ha, hc, ht, hsc, hpos, strOfRune, hV, renderSeq]
      · have hns : ¬ k.shifted > 0 := by omega
        have hup' : u.toUpper c = C := hup.resolve_left (by rw [ht]; simp)
        simp [hm7, hs, ha, hc, ht, hkc, hns, hup', strOfRune, hV, renderSeq]
    · simp [hm7, ha, hc, ht, renderSeq]
  · unfold keyArrives
    rw [hm, decodeKey_print u [C] (by simp) (by simp only [List.headD_cons]; intro _; rw [hL]; exact h127)]
    have e : printExpected u [C] = { keycode := c, shifted := C, mods := shiftBit, text := [C] } := by
      simp [printExpected, hU, hL]
    rw [e, hkc]; unfold matchSpec
    exact Or.inl ⟨rfl, rfl⟩

theorem alt_shift_letter_core (u : Uni) (k : Key) (pam ckm : Bool) (c C : Int)
    (hm : xtermMods k = altBit ||| shiftBit)
    (hU : u.isUpper C = true) (hL : u.toLower C = c) (hV : validRune C = true) (hpos : 0 < C)
    (hkey : 32 ≤ c ∧ c < maxRune)
    (hkc : k.keycode = c) (hsh : k.shifted = C ∨ (k.shifted ≤ 0 ∧ u.toUpper c = C)) :
    encodeXterm u k pam ckm = renderSeq (.esc C) ∧ keyArrives u k (decodeKey u (.esc C)) := by
  have hm7 : k.mods &&& 7 = 3 := hm
  obtain ⟨hs, ha, hc⟩ := xm_bits hm7
  constructor
  · rw [encodeXterm_char u k pam ckm (hkc ▸ hkey.2) (.inl (by rw [hkc]; simp only [KeyTab]; omega))]
    rcases hsh with hsc | ⟨hsc, hup⟩
    · simp [hm7, hs, ha, hc, hsc, hpos, strOfRune, hV, renderSeq]
    · have hns : ¬ k.shifted > 0 := by omega
      simp [hm7, hs, ha, hc, hkc, hns, hup, strOfRune, hV, renderSeq]
  · unfold keyArrives
    rw [hm, decodeKey_esc]
    have e : escExpected u C = { keycode := c, shifted := C, mods := altBit ||| shiftBit } := by
      simp [escExpected, hU, hL]
    rw [e, hkc]; unfold matchSpec
    exact Or.inl ⟨rfl, rfl⟩

end VaxisModel.Lemmas.TermChord
