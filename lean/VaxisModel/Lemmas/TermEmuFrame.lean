/-
Rewriting forms of the emulator monad `Model.Emu.M` for the proofs about the child's modes.  That the handlers of
`Model.Emu` below the mode functions leave the `mode` struct alone is `Lemmas/EmuKeeps.lean` (`Keeps cfg`, `Keeps.mode`);
what the mode functions do to the nine input modes is `Lemmas/TermEmuModes.lean`.
-/
import VaxisModel.Model.TermChild

namespace VaxisModel.Lemmas.TermEmuFrame
open VaxisModel.Model.Emu VaxisModel.Model.TermChild VaxisModel.Gen.TermModes

theorem pure_inj {α : Type} {a b : α} (h : (pure a : M α) = .ok b) : a = b := by
  injection h

theorem ok_bind' {α β : Type} (a : α) (f : α → M β) : ((Except.ok a : M α) >>= f) = f a := rfl
theorem pure_bind' {α β : Type} (a : α) (f : α → M β) : ((pure a : M α) >>= f) = f a := rfl

end VaxisModel.Lemmas.TermEmuFrame
