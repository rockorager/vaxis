/-
How one operation of the emulator model `Model.Emu` moves the nine input modes, expressed through the table-driven
mode model of C13 (`Model.TermInputModes.applyChild`): the emulator's own mode tables (`Gen.TermModes`, extractor C05)
make the same assignments as C13's (`Gen.TermInputModes`) for EVERY mode number and parameter list.  (That the table
model agrees with the standard meaning is `Lemmas/TermModeRows.lean`.)
-/
import VaxisModel.Model.TermChild
import VaxisModel.Lemmas.EmuOsc8
import VaxisModel.Lemmas.TermModeRows

namespace VaxisModel.Lemmas.TermEmuModes
open VaxisModel.Model.Emu VaxisModel.Model.TermChild VaxisModel.Gen.TermModes
open VaxisModel.Model.TermInputModes VaxisModel.Lemmas.EmuKeeps VaxisModel.Lemmas.EmuOsc8
open VaxisModel.Model.Key (lookup)
open VaxisModel.Spec.TermInput (specParam specApply)
open VaxisModel.Lemmas.TermModeRows

abbrev IModes := VaxisModel.Model.TermMouse.Modes

/-- Position of an emulator mode field among the nine input modes (99 = not an input mode). -/
def fieldIdx : ModeField → Nat
  | .deckpam => 0 | .decckm => 1 | .paste => 2 | .mouseButtons => 3 | .mouseDrag => 4
  | .mouseMotion => 5 | .mouseSGR => 6 | .altScroll => 7 | .smcup => 8 | _ => 99

theorem inputModes_set (m : Modes) (f : ModeField) (b : Bool) :
    inputModes (m.set f b) = setField (inputModes m) (fieldIdx f) b := by
  cases f <;> rfl

theorem lookupMode_none_of_not_mem (n : Int) (tbl : List (Int × ModeField)) (h : n ∉ tbl.map (·.1)) :
    lookupMode tbl n = none := by
  unfold lookupMode
  rw [Option.map_eq_none_iff, List.find?_eq_none]
  intro x hx hx'
  simp only [decide_eq_true_eq] at hx'
  exact h (by rw [← hx']; exact List.mem_map_of_mem hx)

/-- The assignments `decsetOne` / `decrstOne` make to input-mode fields for the number `n`
    (`v = true`: DECSET with `tbl = decsetTable`; `v = false`: DECRST with `tbl = decrstTable`). -/
def emuAssigns (tbl : List (Int × ModeField)) (v : Bool) (n : Int) : List (Nat × Bool) :=
  match lookupMode tbl n with
  | some f => [(fieldIdx f, v)]
  | none => if n = 7 then [] else if n = 1049 then [(8, v), (7, v)] else []

theorem decsc_mode (e : Emu) : (decsc e).mode = e.mode := by
  unfold decsc; simp only; split <;> rfl

theorem decrc_inputModes (e : Emu) : inputModes (decrc e).mode = inputModes e.mode := by
  unfold decrc; rfl

/-- The shape `decsetOne` and `decrstOne` share: the table row for the number, else 7 (DECAWM, not an input mode),
    else 1049 (`x`: what the function does there, which is all the two differ in), else nothing. -/
theorem modeOne_modes (tbl : List (Int × ModeField)) (v : Bool) {x : M Emu} {e e' : Emu} {p : Param}
    (h : (match lookupMode tbl p.1 with
          | some f => .ok { e with mode := e.mode.set f v }
          | none =>
            if p.1 = 7 then .ok { e with mode := { e.mode with decawm := v }, lastCol := false }
            else if p.1 = 1049 then x else .ok e : M Emu) = .ok e')
    (hx : x = .ok e' → inputModes e'.mode = applyAssigns (inputModes e.mode) [(8, v), (7, v)]) :
    inputModes e'.mode = applyAssigns (inputModes e.mode) (emuAssigns tbl v p.1) := by
  unfold emuAssigns
  split at h
  · have := Except.ok.inj h; subst this
    simp only [applyAssigns, inputModes_set]
  · split at h
    · rename_i h7
      have := Except.ok.inj h; subst this
      simp only [h7, if_true, applyAssigns]; rfl
    · rename_i h7
      simp only [h7, if_false]
      split at h
      · rename_i h1049
        simp only [h1049, if_true]
        exact hx h
      · rename_i h1049
        have := Except.ok.inj h; subst this
        simp only [h1049, if_false, applyAssigns]

theorem decsetOne_modes {fx : Fixes} {e e' : Emu} {p : Param} (h : decsetOne fx e p = .ok e') :
    inputModes e'.mode = applyAssigns (inputModes e.mode) (emuAssigns decsetTable true p.1) :=
  modeOne_modes decsetTable true h fun h => by
    simp only at h
    split at h
    · obtain ⟨e1, h1, h⟩ := Except.bind_eq_ok h
      have := Except.ok.inj h; subst this
      have m1 : e1.mode = e.mode := ((ed_keeps _ _).toCfg.mode h1).trans (decsc_mode e)
      simp only [applyAssigns, setField, inputModes, m1]
    · obtain ⟨e1, h1, h⟩ := Except.bind_eq_ok h
      have := Except.ok.inj h; subst this
      have m1 : e1.mode = e.mode := by have := Except.ok.inj h1; subst this; exact decsc_mode e
      simp only [applyAssigns, setField, inputModes, m1]

theorem decrstOne_modes {e e' : Emu} {p : Param} (h : decrstOne e p = .ok e') :
    inputModes e'.mode = applyAssigns (inputModes e.mode) (emuAssigns decrstTable false p.1) :=
  modeOne_modes decrstTable false h fun h => by
    simp only at h
    split at h
    · obtain ⟨e1, h1, h⟩ := Except.bind_eq_ok h
      have := Except.ok.inj h; subst this
      have m1 : e1.mode = e.mode := (ed_keeps _ _).toCfg.mode h1
      rw [decrc_inputModes]
      simp only [applyAssigns, setField, inputModes, m1]
    · obtain ⟨e1, h1, h⟩ := Except.bind_eq_ok h
      have := Except.ok.inj h; subst this
      have m1 : e1.mode = e.mode := by have := Except.ok.inj h1; subst this; rfl
      rw [decrc_inputModes]
      simp only [applyAssigns, setField, inputModes, m1]

def setKeys : List Int := decsetTable.map (·.1) ++ [7, 1049] ++ Gen.TermInputModes.decset.map (·.1)
def rstKeys : List Int := decrstTable.map (·.1) ++ [7, 1049] ++ Gen.TermInputModes.decrst.map (·.1)

theorem set_rows_agree : ∀ n ∈ setKeys, ∀ md : IModes,
    applyAssigns md (emuAssigns decsetTable true n) = applyParam Gen.TermInputModes.decset md n := by
  intro n hn
  simp only [setKeys, decsetTable, Gen.TermInputModes.decset, List.map, List.cons_append, List.nil_append,
    List.mem_cons, List.not_mem_nil, or_false] at hn
  repeat' (rcases hn with rfl | hn)
  all_goals (intro md; rfl)

theorem rst_rows_agree : ∀ n ∈ rstKeys, ∀ md : IModes,
    applyAssigns md (emuAssigns decrstTable false n) = applyParam Gen.TermInputModes.decrst md n := by
  intro n hn
  simp only [rstKeys, decrstTable, Gen.TermInputModes.decrst, List.map, List.cons_append, List.nil_append,
    List.mem_cons, List.not_mem_nil, or_false] at hn
  repeat' (rcases hn with rfl | hn)
  all_goals (intro md; rfl)

theorem emuAssigns_none (tbl : List (Int × ModeField)) (v : Bool) (n : Int)
    (h1 : n ∉ tbl.map (·.1)) (h7 : n ≠ 7) (h1049 : n ≠ 1049) : emuAssigns tbl v n = [] := by
  unfold emuAssigns
  simp [lookupMode_none_of_not_mem n tbl h1, h7, h1049]

/-- Tables that agree on the rows of either agree on every number: the other numbers change nothing on either side. -/
theorem agree_of_rows (tblE : List (Int × ModeField)) (v : Bool) (tblC : List (Int × List (Nat × Bool)))
    (hrows : ∀ n ∈ tblE.map (·.1) ++ [7, 1049] ++ tblC.map (·.1), ∀ md : IModes,
      applyAssigns md (emuAssigns tblE v n) = applyParam tblC md n)
    (md : IModes) (n : Int) : applyAssigns md (emuAssigns tblE v n) = applyParam tblC md n := by
  by_cases hk : n ∈ tblE.map (·.1) ++ [7, 1049] ++ tblC.map (·.1)
  · exact hrows n hk md
  · simp only [List.mem_append, not_or] at hk
    obtain ⟨⟨h1, h2⟩, h3⟩ := hk
    rw [emuAssigns_none _ _ _ h1 (fun e => h2 (by simp [e])) (fun e => h2 (by simp [e]))]
    simp [applyParam, lookup_none_of_not_mem n _ h3, applyAssigns]

theorem set_agree (md : IModes) (n : Int) :
    applyAssigns md (emuAssigns decsetTable true n) = applyParam Gen.TermInputModes.decset md n :=
  agree_of_rows _ _ _ set_rows_agree md n

theorem rst_agree (md : IModes) (n : Int) :
    applyAssigns md (emuAssigns decrstTable false n) = applyParam Gen.TermInputModes.decrst md n :=
  agree_of_rows _ _ _ rst_rows_agree md n

theorem foldlM_modes {step : Emu → Param → M Emu} {f : IModes → Int → IModes}
    (hstep : ∀ {e e' : Emu} {p : Param}, step e p = .ok e' → inputModes e'.mode = f (inputModes e.mode) p.1) :
    ∀ (pm : List Param) {e e' : Emu}, pm.foldlM step e = .ok e' →
      inputModes e'.mode = (pm.map (·.1)).foldl f (inputModes e.mode)
  | [], e, e', h => by have := Except.ok.inj h; subst this; rfl
  | p :: rest, e, e', h => by
    rw [List.foldlM_cons] at h
    obtain ⟨e1, h1, h⟩ := Except.bind_eq_ok h
    rw [foldlM_modes hstep rest h, hstep h1]
    rfl

theorem decset_modes {fx : Fixes} (pm : List Param) {e e' : Emu} (h : decset fx e pm = .ok e') :
    inputModes e'.mode = (pm.map (·.1)).foldl (applyParam Gen.TermInputModes.decset) (inputModes e.mode) :=
  foldlM_modes (fun h1 => by rw [decsetOne_modes h1, set_agree]) pm h

theorem decrst_modes (pm : List Param) {e e' : Emu} (h : decrst e pm = .ok e') :
    inputModes e'.mode = (pm.map (·.1)).foldl (applyParam Gen.TermInputModes.decrst) (inputModes e.mode) :=
  foldlM_modes (fun h1 => by rw [decrstOne_modes h1, rst_agree]) pm h

theorem sm_rm_tables_not_input : ∀ r ∈ smTable ++ rmTable, fieldIdx r.2 = 99 := by decide

theorem smOne_inputModes (tab : List (Int × ModeField)) (htab : ∀ r ∈ tab, fieldIdx r.2 = 99) (b : Bool) (e : Emu) (p : Param) :
    inputModes (smOne tab b e p).mode = inputModes e.mode := by
  unfold smOne
  split
  · rename_i f hf
    unfold lookupMode at hf
    obtain ⟨r, hr, hrf⟩ := Option.map_eq_some_iff.mp hf
    have hmem := List.mem_of_find?_eq_some hr
    have := htab r hmem
    simp only [inputModes_set]
    rw [← hrf, this]; rfl
  · rfl

theorem foldl_smOne_inputModes (tab : List (Int × ModeField)) (htab : ∀ r ∈ tab, fieldIdx r.2 = 99) (b : Bool) :
    ∀ (pm : List Param) (e : Emu), inputModes (pm.foldl (smOne tab b) e).mode = inputModes e.mode
  | [], _ => rfl
  | p :: rest, e => by
    rw [List.foldl_cons, foldl_smOne_inputModes tab htab b rest, smOne_inputModes tab htab]

theorem sm_inputModes (e : Emu) (pm : List Param) : inputModes (sm e pm).mode = inputModes e.mode :=
  foldl_smOne_inputModes smTable (fun r hr => sm_rm_tables_not_input r (List.mem_append_left _ hr)) true pm e

theorem rm_inputModes (e : Emu) (pm : List Param) : inputModes (rm e pm).mode = inputModes e.mode :=
  foldl_smOne_inputModes rmTable (fun r hr => sm_rm_tables_not_input r (List.mem_append_right _ hr)) false pm e

theorem pam_agree (md : IModes) : applyChild md .pam = { md with deckpam := true } := rfl

theorem pnm_agree (md : IModes) : applyChild md .pnm = { md with deckpam := false } := rfl

theorem ris_agree (md : IModes) : applyChild md .ris = {} := rfl

theorem esc_modes {fx : Fixes} {e e' : Emu} {l : List Nat} (h : esc fx e l = .ok e') :
    inputModes e'.mode = stepModes (inputModes e.mode) (modelOpOf (.esc l)) := by
  unfold esc at h
  unfold modelOpOf
  split at h
  · rename_i hl
    have := Except.ok.inj h; subst this
    simp only [hl, Option.bind_none, stepModes]
  · rename_i arm hl
    simp only [hl, Option.bind_some]
    cases arm <;> simp only [escArmOp, stepModes] at h ⊢
    case decsc => have := Except.ok.inj h; subst this; rw [decsc_mode]
    case decrc => have := Except.ok.inj h; subst this; rw [decrc_inputModes]
    case ind => rw [(ind_keeps _).toCfg.mode h]
    case nel => rw [(nel_keeps _).toCfg.mode h]
    case ri => rw [(ri_keeps _ _).toCfg.mode h]
    case arm_3d => have := Except.ok.inj h; subst this; rw [pam_agree]; rfl
    case arm_3e => have := Except.ok.inj h; subst this; rw [pnm_agree]; rfl
    case ris => have := Except.ok.inj h; subst this; rw [ris_agree]; rfl
    all_goals (have := Except.ok.inj h; subst this; rfl)

theorem csi_modes {fx : Fixes} (hf : fx.f18 = true) {e e' : Emu} {l : List Nat} {pm : List Param} (h : csi fx e l pm = .ok e') :
    inputModes e'.mode = stepModes (inputModes e.mode) (modelOpOf (.csi l (pm.map (·.1)))) := by
  unfold csi at h
  unfold modelOpOf
  simp only [hf, if_true] at h
  have hmap : (clampParams pm).map (·.1) = (pm.map (·.1)).map clampParam := by
    unfold clampParams; simp [List.map_map, Function.comp_def]
  split at h
  · rename_i hl
    have := Except.ok.inj h; subst this
    simp only [hl, Option.bind_none, stepModes]
  · rename_i arm hl
    simp only [hl, Option.bind_some]
    cases arm <;> simp only [csiArmOp, stepModes] at h ⊢
    case ich => rw [(ich_keeps _ _ _).toCfg.mode h]
    case cnl => rw [(cnl_keeps _ _ _).toCfg.mode h]
    case cpl => rw [(cpl_keeps _ _ _).toCfg.mode h]
    case ed => rw [(ed_keeps _ _).toCfg.mode h]
    case el => rw [(el_keeps _ _ _).toCfg.mode h]
    case il => rw [(il_keeps _ _ _).toCfg.mode h]
    case dl => rw [(dl_keeps _ _ _).toCfg.mode h]
    case dch => rw [(dch_keeps _ _).toCfg.mode h]
    case arm_53 => rw [(scrollUp_keeps _ _).toCfg.mode h]
    case arm_54 => split at h; (have := Except.ok.inj h; subst this; rfl); rw [(scrollDown_keeps _ _).toCfg.mode h]
    case ech => rw [(ech_keeps _ _).toCfg.mode h]
    case rep => rw [(rep_keeps _ _ _).toCfg.mode h]
    case sm => have := Except.ok.inj h; subst this; rw [sm_inputModes]
    case rm => have := Except.ok.inj h; subst this; rw [rm_inputModes]
    case decset => rw [decset_modes _ h, hmap]; rfl
    case decrst => rw [decrst_modes _ h, hmap]; rfl
    case sgr => rw [(sgr_keeps _ _).toCfg.mode h]
    case decsc => have := Except.ok.inj h; subst this; rw [decsc_mode]
    case decrc => have := Except.ok.inj h; subst this; rw [decrc_inputModes]
    all_goals (have := Except.ok.inj h; subst this; first | rfl | (simp only [tbc, decstbm]; (repeat' split) <;> rfl))

theorem resize_mode {fx : Fixes} {e e' : Emu} {w h : Int} (hr : resize fx e w h = .ok e') : e'.mode = e.mode := by
  unfold resize at hr
  split at hr
  · cases hr
  · simp only at hr
    obtain ⟨e1, h1, hr⟩ := Except.bind_eq_ok hr
    have := Except.ok.inj hr; subst this
    have m := (reflow_keeps _ _ _ _ _).toCfg.mode h1
    (repeat' split) <;> exact m

theorem emuStep_modes {e e' : Emu} {op : EOp} {k : Nat} (h : emuStep e op = .ok (e', k)) :
    inputModes e'.mode = stepModes (inputModes e.mode) (modelOpOf (seqOf op)) := by
  unfold emuStep emuStepF at h
  cases op <;> simp only [seqOf, modelOpOf, stepModes] at h ⊢
  case print g w =>
    obtain ⟨e1, h1, h⟩ := Except.bind_eq_ok h
    have := Except.ok.inj h; injection this with h2 h3; subst h2
    rw [(print_keeps _ _ _ _).toCfg.mode h1]
  case c0 r => rw [(c0_keeps _ _ _).mode_fst h]
  case esc l =>
    obtain ⟨e1, h1, h⟩ := Except.bind_eq_ok h
    have := Except.ok.inj h; injection this with h2 h3; subst h2
    exact esc_modes h1
  case csi l pm =>
    obtain ⟨e1, h1, h⟩ := Except.bind_eq_ok h
    have := Except.ok.inj h; injection this with h2 h3; subst h2
    exact csi_modes rfl h1
  case osc d info => rw [(osc_keeps _ _ _ _).toCfg.mode_fst h]
  case dcs => have := Except.ok.inj h; injection this with h2 h3; subst h2; rfl
  case apc => have := Except.ok.inj h; injection this with h2 h3; subst h2; rfl
  case resize w hh =>
    obtain ⟨e1, h1, h⟩ := Except.bind_eq_ok h
    have := Except.ok.inj h; injection this with h2 h3; subst h2
    rw [resize_mode h1]

theorem runOps_modes : ∀ (ops : List EOp) {e e' : Emu}, runOps e ops = .ok e' →
    inputModes e'.mode = modesAfter (inputModes e.mode) (ops.map seqOf)
  | [], e, e', h => by have := Except.ok.inj h; subst this; rfl
  | op :: rest, e, e', h => by
    unfold runOps at h
    obtain ⟨⟨e1, k⟩, h1, h⟩ := Except.bind_eq_ok h
    simp only at h
    rw [runOps_modes rest h, emuStep_modes h1]
    unfold modesAfter
    simp only [List.map_cons, List.filterMap_cons]
    cases modelOpOf (seqOf op) <;> rfl

end VaxisModel.Lemmas.TermEmuModes
