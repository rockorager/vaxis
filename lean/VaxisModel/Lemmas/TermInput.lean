/-
Helper lemmas for C13: `parseMouseEvent` on SGR reports; the table part of the key encoder (`encodeTables`) on
character keys and on keys outside the tables; the modifier bits; the keypad block of `encodeXterm` and the keypad
definitions of Spec/TermInput by cases (`keypad_cases`).
-/
import VaxisModel.Spec.TermInput
import VaxisModel.Lemmas.KeyDecode

namespace VaxisModel.Lemmas.TermInput
open VaxisModel.Model.Key VaxisModel.Model.Mouse VaxisModel.Model.TermKey VaxisModel.Model.TermMouse
open VaxisModel.Spec.KeyEnc VaxisModel.Spec.TermInput VaxisModel.Gen.Keys VaxisModel.Gen.TermKeys
open VaxisModel.Lemmas.KeyMatch VaxisModel.Lemmas.KeyDecode

/-- Every button of the API survives the SGR button field (press, release, motion = +32). -/
theorem parse_back : ∀ b ∈ buttonConsts,
    (parseMouseEvent [60] [[b], [1], [1]] 77 = some { button := b, col := 0, row := 0, event := EventPress }) ∧
    (parseMouseEvent [60] [[b], [1], [1]] 109 = some { button := b, col := 0, row := 0, event := EventRelease }) ∧
    (parseMouseEvent [60] [[b + 32], [1], [1]] 77 = some { button := b, col := 0, row := 0, event := EventMotion }) := by
  decide

theorem parse_pos (inter : List Int) (b c r fin : Int) :
    parseMouseEvent inter [[b], [c + 1], [r + 1]] fin =
      (parseMouseEvent inter [[b], [1], [1]] fin).map fun m => { m with col := c, row := r } := by
  unfold parseMouseEvent
  split
  · rfl
  · simp


theorem lookup_none_of_lt {α : Type} (kc : Int) : ∀ tbl : List (Int × α), (∀ e ∈ tbl, kc < e.1) → lookup kc tbl = none
  | [], _ => rfl
  | (k, v) :: rest, h => by
    have h1 : kc ≠ k := by have := h (k, v) (by simp); simp at this; omega
    simp [lookup, h1, lookup_none_of_lt kc rest (fun e he => h e (by simp [he]))]

theorem term_tables_special :
    (keymap.all fun e => decide (maxRune < e.1)) && (cursorKeysApplicationMode.all fun e => decide (maxRune < e.1)) &&
    (cursorKeysNormalMode.all fun e => decide (maxRune < e.1)) && (numericKeymap.all fun e => decide (maxRune < e.1)) &&
    (applicationKeymap.all fun e => decide (maxRune < e.1)) && (xtermKeymap.all fun e => decide (maxRune < e.1)) = true := by
  decide

theorem tbl_none {α : Type} (tbl : List (Int × α)) (h : (tbl.all fun e => decide (maxRune < e.1)) = true)
    (kc : Int) (hk : kc ≤ maxRune) : lookup kc tbl = none := by
  apply lookup_none_of_lt
  intro e he
  have := List.all_eq_true.mp h e he
  simp only [decide_eq_true_eq] at this
  omega

/-- On a key code that is not above the Unicode range the table-driven part of the encoder only
    produces the event's text or the plain character (and nothing at `MaxRune` itself). -/
theorem encodeTables_char' (kc : Int) (xm : Nat) (pam ckm : Bool) (text : Str) (hk : kc ≤ maxRune) (htab : kc ≠ KeyTab ∨ xm ≠ ModShift) :
    encodeTables kc xm pam ckm text =
      if xm = 0 ∧ kc < maxRune then some (if text ≠ [] then text else strOfRune kc) else none := by
  have h := term_tables_special
  simp only [Bool.and_eq_true] at h
  obtain ⟨⟨⟨⟨⟨h1, h2⟩, h3⟩, h4⟩, h5⟩, h6⟩ := h
  have e1 := tbl_none keymap h1 kc hk
  have e2 := tbl_none cursorKeysApplicationMode h2 kc hk
  have e3 := tbl_none cursorKeysNormalMode h3 kc hk
  have e4 := tbl_none numericKeymap h4 kc hk
  have e5 := tbl_none applicationKeymap h5 kc hk
  have e6 := tbl_none xtermKeymap h6 kc hk
  have htab' : ¬(kc = KeyTab ∧ xm = ModShift) := by
    rcases htab with h | h
    · exact fun hh => h hh.1
    · exact fun hh => h hh.2
  unfold encodeTables
  by_cases hx : xm = 0
  · by_cases hlt : kc < maxRune
    · cases pam <;> cases ckm <;> simp [hx, e1, e2, e3, e4, e5, hlt]
    · cases pam <;> cases ckm <;> simp [hx, e1, e2, e3, e4, e5, e6, hlt, ModShift] <;> omega
  · simp [hx, e6, htab']

theorem encodeTables_char (kc : Int) (xm : Nat) (pam ckm : Bool) (text : Str) (hk : kc < maxRune) (htab : kc ≠ KeyTab ∨ xm ≠ ModShift) :
    encodeTables kc xm pam ckm text = if xm = 0 then some (if text ≠ [] then text else strOfRune kc) else none := by
  rw [encodeTables_char' kc xm pam ckm text (by omega) htab]
  simp [hk]

theorem encodeTables_text (kc : Int) (xm : Nat) (pam ckm : Bool) (text : Str) (h : ¬ kc < maxRune) :
    encodeTables kc xm pam ckm text = encodeTables kc xm pam ckm := by
  unfold encodeTables
  simp [h]

theorem cursorKeys_special : ∀ e ∈ cursorKeys, ¬ e.1 < maxRune := by decide

theorem mods_no_alt_ctrl : ∀ x : Fin 8, x.val &&& (altBit ||| ctrlBit) = 0 →
    x.val &&& ModAlt = 0 ∧ x.val &&& ModCtrl = 0 ∧ (x.val = 0 ∨ x.val = ModShift) := by decide

theorem lookup_some_mem {α : Type} (k : Int) (v : α) : ∀ t : List (Int × α), lookup k t = some v → (k, v) ∈ t
  | [], h => by cases h
  | (k', v') :: rest, h => by
    unfold lookup at h
    split at h
    · cases h; subst k'; exact List.mem_cons_self
    · exact List.mem_cons_of_mem _ (lookup_some_mem k v rest h)

theorem ctrlCases_valid (kc : Int) (out : List Int) (h : lookup kc ctrlCases = some out) :
    (out.map fun r => if validRune r = true then r else 65533) = out := by
  have hall : (ctrlCases.all fun e => (e.2.map fun r => if validRune r = true then r else 65533) == e.2) = true := by decide
  simpa using List.all_eq_true.mp hall _ (lookup_some_mem _ _ _ h)

theorem and7 (m b : Nat) (hb : 7 &&& b = b) : m &&& b = (m &&& 7) &&& b := by
  rw [Nat.and_assoc, hb]

theorem xm_eq (m : Nat) : (m &&& ModShift) ||| (m &&& ModAlt) ||| (m &&& ModCtrl) = m &&& 7 := by
  apply Nat.eq_of_testBit_eq; intro i
  simp only [Nat.testBit_or, Nat.testBit_and]
  by_cases h : i < 3
  · have : i = 0 ∨ i = 1 ∨ i = 2 := by omega
    rcases this with rfl | rfl | rfl <;> simp [ModShift, ModAlt, ModCtrl] <;> cases m.testBit _ <;> decide
  · -- a number below 8 has no bit from 3 on
    have hb : ∀ n, n < 2 ^ 3 → n.testBit i = false := fun n hn =>
      Nat.testBit_lt_two_pow (Nat.lt_of_lt_of_le hn (Nat.pow_le_pow_right (by decide) (by omega)))
    simp [hb ModShift (by decide), hb ModAlt (by decide), hb ModCtrl (by decide), hb 7 (by decide)]

theorem keypad_tables_above :
    ((keypadApplicationMode.all fun e => decide (KeyKeyPad0 ≤ e.1)) &&
     (keypadNumericMode.all fun e => decide (KeyKeyPad0 ≤ e.1))) = true := by decide

/-- A key that is in neither keypad table (`KeyKeyPadBegin` is one: it has reports of its own) is encoded by the core. -/
theorem encodeXterm_core_of_not_keypad (u : Uni) (k : Key) (pam ckm : Bool)
    (h1 : lookup k.keycode keypadApplicationMode = none) (h2 : lookup k.keycode keypadNumericMode = none) :
    encodeXterm u k pam ckm = encodeXtermCore u k pam ckm := by
  unfold encodeXterm keypadLegend
  simp only [h1, h2, ite_self, Option.getD_none]

theorem encodeXterm_core_of_lt (u : Uni) (k : Key) (pam ckm : Bool) (h : k.keycode < KeyKeyPad0) :
    encodeXterm u k pam ckm = encodeXtermCore u k pam ckm := by
  have hall := keypad_tables_above
  simp only [Bool.and_eq_true, List.all_eq_true, decide_eq_true_eq] at hall
  exact encodeXterm_core_of_not_keypad u k pam ckm
    (lookup_none_of_lt _ _ fun e he => by have := hall.1 e he; omega)
    (lookup_none_of_lt _ _ fun e he => by have := hall.2 e he; omega)

theorem maxRune_lt_keypad : maxRune < KeyKeyPad0 := by decide

/-- What the keypad definitions of Spec/TermInput say of a key code, by the table that lists it: a digit / operator /
    Enter key (`keypadChars`), a navigation legend (`keypadNav`), or neither. -/
theorem keypad_cases (kc : Int) :
    (∃ ch fin, (kc, ch, fin) ∈ keypadChars ∧ keypadChars.find? (·.1 = kc) = some (kc, ch, fin) ∧
      keypadStandsFor kc = some ch ∧ (∀ pam ckm, keypadDue kc pam ckm = some (if pam then [27, 79, fin] else [ch])) ∧
      ∀ k : Key, k.keycode = kc → ∀ pam, keypadApplication k pam =
        if pam = true ∧ k.mods &&& (shiftBit ||| altBit ||| ctrlBit ||| numBit) = 0 then some [27, 79, fin] else none) ∨
    (keypadChars.find? (·.1 = kc) = none ∧ ∃ nav, (kc, nav) ∈ keypadNav ∧
      keypadStandsFor kc = some nav ∧ (∀ pam ckm, keypadDue kc pam ckm = (xtermLegacy nav 0 0 ckm).map renderSeq) ∧
      ∀ k : Key, k.keycode = kc → ∀ pam, keypadApplication k pam = none) ∨
    (keypadChars.find? (·.1 = kc) = none ∧ keypadStandsFor kc = none ∧ (∀ pam ckm, keypadDue kc pam ckm = none) ∧
      ∀ k : Key, k.keycode = kc → ∀ pam, keypadApplication k pam = none) := by
  cases hf : keypadChars.find? (·.1 = kc) with
  | some e =>
    obtain ⟨kc', ch, fin⟩ := e
    have hk : kc' = kc := by simpa using List.find?_some hf
    subst hk
    refine .inl ⟨ch, fin, List.mem_of_find?_eq_some hf, rfl, ?_, ?_, ?_⟩
    · simp [keypadStandsFor, hf]
    · intro pam ckm; simp [keypadDue, hf]
    · intro k hk pam; simp [keypadApplication, hk, hf]
  | none =>
    cases hn : keypadNav.find? (·.1 = kc) with
    | some e =>
      obtain ⟨kc', nav⟩ := e
      have hk : kc' = kc := by simpa using List.find?_some hn
      subst hk
      refine .inr (.inl ⟨rfl, nav, List.mem_of_find?_eq_some hn, ?_, ?_, ?_⟩)
      · simp [keypadStandsFor, hf, hn]
      · intro pam ckm; simp [keypadDue, hf, hn]
      · intro k hk pam; simp [keypadApplication, hk, hf]
    | none =>
      refine .inr (.inr ⟨rfl, ?_, ?_, ?_⟩)
      · simp [keypadStandsFor, hf, hn]
      · intro pam ckm; simp [keypadDue, hf, hn]
      · intro k hk pam; simp [keypadApplication, hk, hf]

end VaxisModel.Lemmas.TermInput
