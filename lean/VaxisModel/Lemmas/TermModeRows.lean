/-
The table-driven model of the child's mode operations (`Model/TermInputModes.lean`, case tables regenerated from
widgets/term/mode.go) against the standard meaning (`Spec.specParam`, `Spec.specApply`).  Each case of `decset` /
`decrst` is a list of field assignments; for a given mode number both sides are the same record update of the mode
state, whatever the state, so every row is checked with the state left a variable.
-/
import VaxisModel.Spec.TermInput

namespace VaxisModel.Lemmas.TermModeRows
open VaxisModel.Model.TermInputModes VaxisModel.Spec.TermInput
open VaxisModel.Model.Key (lookup)
open VaxisModel.Model.TermMouse (Modes)

theorem lookup_none_of_not_mem {α : Type} (n : Int) : ∀ tbl : List (Int × α), n ∉ tbl.map (·.1) → lookup n tbl = none
  | [], _ => rfl
  | (k, v) :: rest, h => by
    have h1 : n ≠ k := fun e => h (by simp [e])
    have h2 : n ∉ rest.map (·.1) := fun e => h (by simp [e])
    simp [lookup, h1, lookup_none_of_not_mem n rest h2]

theorem foldl_congr {α β : Type} (f g : α → β → α) :
    ∀ (l : List β), (∀ a, ∀ b ∈ l, f a b = g a b) → ∀ a : α, l.foldl f a = l.foldl g a
  | [], _, _ => rfl
  | b :: rest, h, a => by
    simp only [List.foldl_cons, h a b List.mem_cons_self]
    exact foldl_congr f g rest (fun a c hc => h a c (List.mem_cons_of_mem _ hc)) _

theorem set_rows_conform : ∀ n ∈ Gen.TermInputModes.decset.map (·.1), ∀ md : Modes,
    applyParam Gen.TermInputModes.decset md n = specParam true md n := by
  intro n hn
  simp only [Gen.TermInputModes.decset, List.map, List.mem_cons, List.not_mem_nil, or_false] at hn
  repeat' (rcases hn with rfl | hn)
  all_goals (intro md; rfl)

theorem rst_rows_conform : ∀ n ∈ Gen.TermInputModes.decrst.map (·.1), ∀ md : Modes,
    applyParam Gen.TermInputModes.decrst md n = specParam false md n := by
  intro n hn
  simp only [Gen.TermInputModes.decrst, List.map, List.mem_cons, List.not_mem_nil, or_false] at hn
  repeat' (rcases hn with rfl | hn)
  all_goals (intro md; rfl)

/-- The mode numbers `Spec.specParam` gives a meaning to. -/
def specNums : List Int := [1, 1000, 1002, 1003, 1006, 1007, 1049, 2004]

theorem spec_numbers_have_cases :
    (specNums.all fun n =>
      (Gen.TermInputModes.decset.map (·.1)).contains n && (Gen.TermInputModes.decrst.map (·.1)).contains n) = true := by
  decide

theorem specParam_other (v : Bool) (md : Modes) (n : Int)
    (h : n ∉ specNums) : specParam v md n = md := by
  simp only [specNums, List.mem_cons, List.not_mem_nil, or_false, not_or] at h
  obtain ⟨h1, h2, h3, h4, h5, h6, h7, h8⟩ := h
  simp [specParam, h1, h2, h3, h4, h5, h6, h7, h8]

/-- A case table that agrees with the standard meaning on its own rows and has a row for every number the standard
    speaks about agrees with it on every number: the others change nothing on either side. -/
theorem param_conform (tbl : List (Int × List (Nat × Bool))) (v : Bool)
    (hrows : ∀ n ∈ tbl.map (·.1), ∀ md : Modes, applyParam tbl md n = specParam v md n)
    (hnums : ∀ n ∈ specNums, n ∈ tbl.map (·.1))
    (md : Modes) (n : Int) : applyParam tbl md n = specParam v md n := by
  by_cases hk : n ∈ tbl.map (·.1)
  · exact hrows n hk md
  · rw [specParam_other v md n (fun hn => hk (hnums n hn))]
    simp [applyParam, lookup_none_of_not_mem n tbl hk]

theorem nums_in_tables : ∀ n ∈ specNums,
    n ∈ Gen.TermInputModes.decset.map (·.1) ∧ n ∈ Gen.TermInputModes.decrst.map (·.1) := by
  intro n hn
  simpa only [Bool.and_eq_true, List.contains_iff_mem] using List.all_eq_true.mp spec_numbers_have_cases n hn

theorem applyChild_conform (md : Modes) : ∀ op : ChildOp, applyChild md op = specApply md op
  | .set ns => foldl_congr _ _ ns (fun a b _ => param_conform _ true set_rows_conform (fun n hn => (nums_in_tables n hn).1) a b) md
  | .reset ns => foldl_congr _ _ ns (fun a b _ => param_conform _ false rst_rows_conform (fun n hn => (nums_in_tables n hn).2) a b) md
  | .pam => rfl
  | .pnm => rfl
  | .ris => rfl

end VaxisModel.Lemmas.TermModeRows
