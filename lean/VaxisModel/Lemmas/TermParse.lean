/-
Helper lemmas for Props/C13Parse: `fmt.Sprintf("%d")` as modelled by C13 (`Model.TermKey.decimal`) prints the
digits the parser model of C02 reads (`Lemmas.ParserParams.digitsOf`).
-/
import VaxisModel.Model.TermKey
import VaxisModel.Lemmas.ParserParams
import VaxisModel.Spec.TermInput

namespace VaxisModel.Lemmas.TermParse
open VaxisModel.Model.TermKey VaxisModel.Lemmas.ParserParams

theorem decimalAux_eq : ∀ (fuel n : Nat) (acc : List Int), n < fuel →
    decimalAux fuel n acc = (digitsOf n).map Int.ofNat ++ acc
  | 0, _, _, h => by omega
  | fuel + 1, n, acc, h => by
    unfold decimalAux
    simp only
    by_cases h10 : n < 10
    · have hm : n % 10 = n := Nat.mod_eq_of_lt h10
      unfold digitsOf
      simp [h10, hm]
    · simp only [h10, if_false]
      rw [decimalAux_eq fuel (n / 10) _ (by omega)]
      conv => rhs; unfold digitsOf
      simp [h10]

theorem decimalNat_eq (n : Nat) : decimalNat n = (digitsOf n).map Int.ofNat := by
  unfold decimalNat
  rw [decimalAux_eq (n + 1) n [] (by omega)]
  simp

theorem decimal_nats (n : Nat) : (decimal (n : Int)).map Int.toNat = digitsOf n := by
  unfold decimal
  have : ¬ ((n : Int) < 0) := by omega
  simp only [this, if_false, Int.toNat_natCast, decimalNat_eq, List.map_map]
  have : (Int.toNat ∘ Int.ofNat) = id := by funext x; simp
  rw [this]; simp

theorem renderSub_nats : ∀ p : List Nat,
    ((((p.map Int.ofNat).map decimal).intersperse [58]).flatten).map Int.toNat = encSub p
  | [] => rfl
  | [x] => by simpa [encSub] using decimal_nats x
  | x :: y :: rest => by
    have ih := renderSub_nats (y :: rest)
    have hx := decimal_nats x
    simp only [List.map_cons, List.intersperse_cons_cons, List.flatten_cons, List.map_append, encSub] at ih ⊢
    rw [ih]
    simpa using hx

theorem renderParams_nats : ∀ ps : List (List Nat),
    (VaxisModel.Spec.TermInput.renderParams (ps.map (·.map Int.ofNat))).map Int.toNat = encParams ps
  | [] => rfl
  | [p] => by simpa [VaxisModel.Spec.TermInput.renderParams, encParams] using renderSub_nats p
  | p :: q :: rest => by
    have ih := renderParams_nats (q :: rest)
    have hp := renderSub_nats p
    simp only [List.map_cons] at ih ⊢
    simp only [VaxisModel.Spec.TermInput.renderParams, encParams, List.map_append, hp, ih]
    simp

end VaxisModel.Lemmas.TermParse
