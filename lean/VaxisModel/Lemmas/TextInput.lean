import VaxisModel.Model.TextInput
import VaxisModel.Lemmas.EditorBasic

/-! C17, widgets/textinput: the key bindings as data and the `case` a label selects; between calls the key switch and `Update`
ARE the step of the ideal editor (an equation), hence refinement for every history of API calls; `Draw`: its scroll loop ends,
and the cursor column it shows while the text fits. -/
namespace VaxisModel.Lemmas.TextInput
open VaxisModel.Model.TextInput

theorem scrollLoop_terminates {G : Type} (width : G → Int) (content : List G) (cursor col winW : Int) :
    ∀ (fuel : Nat) (offset : Int), (cursor - offset).toNat < fuel →
    ∃ off, scrollLoop width content cursor col winW fuel offset = some off := by
  intro fuel
  induction fuel with
  | zero => intro offset h; omega
  | succ n ih =>
    intro offset h
    unfold scrollLoop
    split
    · rename_i hc
      apply ih
      omega
    · exact ⟨offset, rfl⟩

theorem draw_not_hang {G : Type} (width : G → Int) (m : TI G) (prompt : List G) (winW : Int)
    (hoff : 0 ≤ m.offset) (hcur : m.cursor ≤ m.content.length) :
    (match draw width m prompt winW with | .hang => false | _ => true) = true := by
  unfold draw
  by_cases hw : winW = 0
  · simp [hw]
  · simp only [hw, ↓reduceIte]
    cases hp : promptLoop width winW prompt 0 with
    | none => rfl
    | some col =>
      obtain ⟨off, hoff'⟩ := scrollLoop_terminates width m.content m.cursor col winW (m.content.length + 2)
        (if widthToCursor width m.content.length 0 m.content 0 0 + col + 4 < winW then 0 else m.offset) (by split <;> omega)
      simp only [hoff']

theorem draw_shown {G : Type} (width : G → Int) (m : TI G) (prompt : List G) (winW : Int) (m' : TI G) (c : Int)
    (hd : draw width m prompt winW = .shown m' c) :
    ∃ col off, promptLoop width winW prompt 0 = some col ∧
      scrollLoop width m.content m.cursor col winW (m.content.length + 2)
        (if widthToCursor width m.content.length 0 m.content 0 0 + col + 4 < winW then 0 else m.offset) = some off ∧
      m' = { m with offset := (let o := if m.cursor - 4 - off < 0 then m.cursor - 4 else off; if o < 0 then 0 else o) } ∧
      c = cursorLoop width m.cursor m'.offset winW m.content 0 col col := by
  unfold draw at hd
  by_cases hw : winW = 0
  · simp only [hw, ↓reduceIte] at hd; cases hd
  · simp only [hw, ↓reduceIte] at hd
    cases hp : promptLoop width winW prompt 0 with
    | none => simp only [hp] at hd; cases hd
    | some col =>
      simp only [hp] at hd
      cases hs : scrollLoop width m.content m.cursor col winW (m.content.length + 2)
          (if widthToCursor width m.content.length 0 m.content 0 0 + col + 4 < winW then 0 else m.offset) with
      | none => simp only [hs] at hd; cases hd
      | some off =>
        simp only [hs] at hd
        cases hd
        exact ⟨col, off, rfl, hs, rfl, rfl⟩

theorem draw_early {G : Type} (width : G → Int) (m : TI G) (prompt : List G) (winW : Int) (m' : TI G)
    (hd : draw width m prompt winW = .early m') : m' = m := by
  unfold draw at hd
  split at hd
  · cases hd; rfl
  · split at hd
    · cases hd; rfl
    · simp only at hd
      split at hd <;> cases hd

open VaxisModel.Spec.Editor (Ed Op lead wordLeftPos wordRightPos)
open VaxisModel.Lemmas.Editor (lead_le lead_drop_le lead_take_rev_le apply_wf)

theorem fwdLoop_eq {G : Type} (p : G → Bool) : ∀ (l : List G) (c : Int), fwdLoop p l c = c + lead p l := by
  intro l
  induction l with
  | nil => intro c; simp [fwdLoop, lead]
  | cons g gs ih =>
    intro c
    unfold fwdLoop
    by_cases h : p g = true
    · simp only [h, ↓reduceIte, ih]
      simp only [lead, List.takeWhile_cons, h, ↓reduceIte, List.length_cons]
      omega
    · simp [h, lead]

theorem bwdLoop_eq {G : Type} (p : G → Bool) : ∀ (l : List G) (c : Int), bwdLoop p l c = c - lead p l := by
  intro l
  induction l with
  | nil => intro c; simp [bwdLoop, lead]
  | cons g gs ih =>
    intro c
    unfold bwdLoop
    by_cases h : p g = true
    · simp only [h, ↓reduceIte, ih]
      simp only [lead, List.takeWhile_cons, h, ↓reduceIte, List.length_cons]
      omega
    · simp [h, lead]

theorem bwdLoop2_eq {G : Type} (p : G → Bool) : ∀ (l : List G) (c : Int),
    bwdLoop2 p l c = if lead p l < l.length then c - lead p l + 1 else c - l.length := by
  intro l
  induction l with
  | nil => intro c; simp [bwdLoop2, lead]
  | cons g gs ih =>
    intro c
    unfold bwdLoop2
    by_cases h : p g = true
    · simp only [h, ↓reduceIte, ih]
      simp only [lead, List.takeWhile_cons, h, ↓reduceIte, List.length_cons]
      by_cases hlt : (List.takeWhile p gs).length < gs.length
      · have h2 : (List.takeWhile p gs).length + 1 < gs.length + 1 := by omega
        simp only [hlt, h2, ↓reduceIte, Int.natCast_add]; omega
      · have h2 : ¬ (List.takeWhile p gs).length + 1 < gs.length + 1 := by omega
        simp only [hlt, h2, ↓reduceIte, Int.natCast_add]; omega
    · simp [h, lead]

theorem bwdLoop2_add {G : Type} (p : G → Bool) (l : List G) (c : Int) :
    bwdLoop2 p l c = c - lead p l + (if lead p l < l.length then 1 else 0) := by
  rw [bwdLoop2_eq]
  have := lead_le p l
  split <;> omega

theorem insertChars_eq {G : Type} : ∀ (text : List G) (content : List G) (c : Nat) (offset : Int) (paste : List G),
    c ≤ content.length →
    insertChars ⟨content, (c : Int), offset, paste⟩ text =
      some ⟨content.take c ++ text ++ content.drop c, ((c + text.length : Nat) : Int), offset, paste⟩ := by
  intro text
  induction text with
  | nil => intro content c offset paste _; simp [insertChars]
  | cons g gs ih =>
    intro content c offset paste hc
    unfold insertChars
    have hr : inRange content (c : Int) = true := by simp [inRange]; omega
    simp only [hr, ↓reduceIte, Int.toNat_natCast]
    have hlen : (content.take c ++ [g]).length = c + 1 := by simp; omega
    have := ih (content.take c ++ [g] ++ content.drop c) (c + 1) offset paste (by simp; omega)
    simp only [Int.natCast_add, Int.cast_ofNat_Int] at this ⊢
    rw [this, List.take_left' hlen, List.drop_left' hlen]
    simp only [List.length_cons, Int.natCast_add, List.append_assoc, List.cons_append, List.nil_append]
    have : (c : Int) + 1 + (gs.length : Int) = (c : Int) + ((gs.length : Int) + ((1 : Nat) : Int)) := by omega
    rw [this]

/-- Representation invariant of textinput between calls: cursor within the content, offset ≥ 0. -/
def TIInv {G : Type} (m : TI G) : Prop := 0 ≤ m.cursor ∧ m.cursor ≤ m.content.length ∧ 0 ≤ m.offset

def tiAbs {G : Type} (m : TI G) : Ed G := ⟨m.content, m.cursor.toNat⟩

/-- The key bindings of `Update` as ideal operations (the `switch msg.String()` labels). -/
def keyMeaning {G : Type} (key : String) (ctrl alt super : Bool) (text : List G) : Op G :=
  if key = "Ctrl+a" ∨ key = "Home" then .home
  else if key = "Ctrl+e" ∨ key = "End" then .toEnd
  else if key = "Ctrl+f" ∨ key = "Right" then .right
  else if key = "Ctrl+b" ∨ key = "Left" then .left
  else if key = "Alt+f" ∨ key = "Ctrl+Right" then .wordRight
  else if key = "Alt+b" ∨ key = "Ctrl+Left" then .wordLeft
  else if key = "Ctrl+d" ∨ key = "Delete" then .deleteRight
  else if key = "Ctrl+k" then .killToEnd
  else if key = "Ctrl+u" then .killToStart
  else if key = "Ctrl+h" ∨ key = "BackSpace" then .deleteLeft
  else if key = "Ctrl+w" then .deleteWordLeft
  else if ctrl ∨ alt ∨ super then .noop
  else .insert text

/-- The binding table the model (`keySwitch`) and `keyMeaning` dispatch on: case labels in source
order with the ideal operation of the arm (`[]` = default arm). Compared with the labels extracted
from textinput.go (`Gen.EditorKeys.updateCases`) in `Props.C17.update_bindings_extracted`. -/
def bindingTable : List (List String × Op Nat) := [
  (["Ctrl+a", "Home"], .home),
  (["Ctrl+e", "End"], .toEnd),
  (["Ctrl+f", "Right"], .right),
  (["Ctrl+b", "Left"], .left),
  (["Alt+f", "Ctrl+Right"], .wordRight),
  (["Alt+b", "Ctrl+Left"], .wordLeft),
  (["Ctrl+d", "Delete"], .deleteRight),
  (["Ctrl+k"], .killToEnd),
  (["Ctrl+u"], .killToStart),
  (["Ctrl+h", "BackSpace"], .deleteLeft),
  (["Ctrl+w"], .deleteWordLeft),
  ([], .insert [7])]

/-- The `if` chain of TextField.HandleEvent as the model `TextField.handleKey` reads it. -/
def handleEventTable : List (String × String) := [
  ("ev.EventType == vaxis.EventRelease", ""),
  ("len(ev.Text) > 0", "tf.InsertStringAtCursor(ev.Text)"),
  ("ev.Matches('a', vaxis.ModCtrl) || ev.Matches(vaxis.KeyHome)", "tf.CursorTo(0)"),
  ("ev.Matches('e', vaxis.ModCtrl) || ev.Matches(vaxis.KeyEnd)", "tf.CursorTo(tf.n)"),
  ("ev.Matches('f', vaxis.ModCtrl) || ev.Matches(vaxis.KeyRight)", "tf.CursorTo(tf.cursor + 1)"),
  ("ev.Matches('b', vaxis.ModCtrl) || ev.Matches(vaxis.KeyLeft)", "tf.CursorTo(tf.cursor - 1)"),
  ("ev.Matches('d', vaxis.ModCtrl) || ev.Matches(vaxis.KeyDelete)", "tf.DeleteCharRightOfCursor()"),
  ("ev.Matches('h', vaxis.ModCtrl) || ev.Matches(vaxis.KeyBackspace)", "tf.DeleteCharLeftOfCursor()"),
  ("ev.Matches('k', vaxis.ModCtrl)", "tf.DeleteCursorToEndOfLine()"),
  ("ev.Matches(vaxis.KeyEnter)", "tf.Reset()")]

/-! ### The `case` a label selects

`keySwitch` and `keyMeaning` test the label against the same groups of labels in the same order.  `armOf` names what
they read of it: the position of the first `case` that lists it.  Everything that holds of one label of a `case`
holds of the others (`keySwitch_congr`, `keyMeaning_congr`), so facts about the switch are proved at `firstLabel k`,
`k = 0 … 11`. -/

/-- the labels of the `case`s of `switch msg.String()`, in source order -/
def switchCases : List (List String) := (bindingTable.map (·.1)).dropLast

/-- the `case` a label selects: the first that lists it; `11` = `default:` -/
def armOf (s : String) : Nat := switchCases.findIdx (fun g => decide (s ∈ g))

theorem armOf_le (s : String) : armOf s ≤ 11 := List.findIdx_le_length

theorem arm_cases {k : Nat} (h : k ≤ 11) :
    k = 0 ∨ k = 1 ∨ k = 2 ∨ k = 3 ∨ k = 4 ∨ k = 5 ∨ k = 6 ∨ k = 7 ∨ k = 8 ∨ k = 9 ∨ k = 10 ∨ k = 11 := by omega

theorem switchCases_disjoint : ∀ i j : Fin switchCases.length, i < j → ∀ x ∈ switchCases[i], x ∉ switchCases[j] := by decide

theorem mem_armOf (s : String) (h : armOf s < switchCases.length) : s ∈ switchCases[armOf s] :=
  of_decide_eq_true (List.findIdx_getElem (w := h) (p := fun g => decide (s ∈ g)) (xs := switchCases))

theorem not_mem_before (s : String) (k : Nat) (h : armOf s = k) : s ∉ (switchCases.take k).flatten := by
  intro hm
  obtain ⟨g, hg, hs⟩ := List.mem_flatten.1 hm
  obtain ⟨j, hj, rfl⟩ := List.getElem_of_mem hg
  have hjk : j < armOf s := by simp at hj; omega
  have := List.not_of_lt_findIdx (p := fun g => decide (s ∈ g)) (xs := switchCases) hjk
  rw [List.getElem_take] at hs
  simp [hs] at this

/-- The `case`s list different labels, so a label of the `k`-th selects the `k`-th. -/
theorem mem_iff_armOf (s : String) (k : Nat) (hk : k < switchCases.length) : s ∈ switchCases[k] ↔ armOf s = k := by
  constructor
  · intro h
    have hle : armOf s ≤ k := by
      apply Nat.le_of_not_lt
      intro hlt
      have := List.not_of_lt_findIdx (p := fun g => decide (s ∈ g)) (xs := switchCases) hlt
      simp [h] at this
    rcases Nat.lt_or_eq_of_le hle with hlt | heq
    · have hj : armOf s < switchCases.length := by omega
      exact absurd h (switchCases_disjoint ⟨armOf s, hj⟩ ⟨k, hk⟩ hlt s (mem_armOf s hj))
    · exact heq
  · rintro rfl
    exact mem_armOf s hk

theorem case2_iff (s a b : String) (k : Nat) (hk : k < switchCases.length := by decide) (hg : switchCases[k] = [a, b] := by rfl) :
    (s = a ∨ s = b) ↔ armOf s = k := by
  rw [← mem_iff_armOf s k hk, hg]; simp

theorem case1_iff (s a : String) (k : Nat) (hk : k < switchCases.length := by decide) (hg : switchCases[k] = [a] := by rfl) :
    s = a ↔ armOf s = k := by
  rw [← mem_iff_armOf s k hk, hg]; simp

theorem keySwitch_congr {G : Type} (isAlnum : G → Bool) (m : TI G) (s s' : String) (h : armOf s = armOf s') (c a sup : Bool)
    (t : List G) : keySwitch isAlnum m s c a sup t = keySwitch isAlnum m s' c a sup t := by
  unfold keySwitch
  simp only [case2_iff _ _ _ 0, case2_iff _ _ _ 1, case2_iff _ _ _ 2,
    case2_iff _ _ _ 3, case2_iff _ _ _ 4, case2_iff _ _ _ 5,
    case2_iff _ _ _ 6, case1_iff _ _ 7, case1_iff _ _ 8,
    case2_iff _ _ _ 9, case1_iff _ _ 10, h]

theorem keyMeaning_congr {G : Type} (s s' : String) (h : armOf s = armOf s') (c a sup : Bool) (t : List G) :
    keyMeaning s c a sup t = keyMeaning s' c a sup t := by
  unfold keyMeaning
  simp only [case2_iff _ _ _ 0, case2_iff _ _ _ 1, case2_iff _ _ _ 2,
    case2_iff _ _ _ 3, case2_iff _ _ _ 4, case2_iff _ _ _ 5,
    case2_iff _ _ _ 6, case1_iff _ _ 7, case1_iff _ _ 8,
    case2_iff _ _ _ 9, case1_iff _ _ 10, h]

/-- the first label of the `k`-th `case`; for `11` a label that is none -/
def firstLabel (k : Nat) : String := ((switchCases[k]?.getD []).head?).getD ""

theorem armOf_firstLabel : ∀ k ≤ 11, armOf (firstLabel k) = k := by decide

theorem armOf_eq_first (s : String) : armOf s = armOf (firstLabel (armOf s)) := (armOf_firstLabel _ (armOf_le s)).symm

theorem firstLabel_eq : (firstLabel 0 = "Ctrl+a" ∧ firstLabel 1 = "Ctrl+e" ∧ firstLabel 2 = "Ctrl+f" ∧ firstLabel 3 = "Ctrl+b") ∧
    (firstLabel 4 = "Alt+f" ∧ firstLabel 5 = "Alt+b" ∧ firstLabel 6 = "Ctrl+d" ∧ firstLabel 7 = "Ctrl+k") ∧
    firstLabel 8 = "Ctrl+u" ∧ firstLabel 9 = "Ctrl+h" ∧ firstLabel 10 = "Ctrl+w" ∧ firstLabel 11 = "" := by decide

/-- at `firstLabel k`, `k` a numeral, the switch (and `keyMeaning`) is its `k`-th arm: the tests before it are decided -/
macro "at_label" "[" ts:Lean.Parser.Tactic.simpLemma,* "]" loc:(Lean.Parser.Tactic.location)? : tactic =>
  `(tactic| simp only [firstLabel_eq, keySwitch, keyMeaning, String.reduceEq, or_self, or_false, false_or, or_true, true_or,
      ↓reduceIte, $ts,*] $[$loc]?)

theorem keySwitch_default {G : Type} (isAlnum : G → Bool) (m : TI G) (s : String) (h : armOf s = 11) (c a sup : Bool) (t : List G) :
    keySwitch isAlnum m s c a sup t =
      if c then some (m, true) else if a then some (m, true) else if sup then some (m, true)
      else if t ≠ [] then (insertChars m t).map (·, false) else some (m, false) := by
  rw [keySwitch_congr isAlnum m s (firstLabel 11) (h.trans (armOf_firstLabel 11 (Nat.le_refl _)).symm)]
  at_label []

def tiSpecOf {G : Type} (m : TI G) : Ev G → Op G
  | .pasteEnd => .insert m.paste
  | .release => .noop
  | .pasteKey _ => .noop
  | .key s c a sup t => keyMeaning s c a sup t
  | .other => .noop

variable {G : Type} (isAlnum : G → Bool)

section
open VaxisModel.Spec.Editor (apply)

/-! ### between calls the key switch IS the ideal step

Under the invariant `keySwitch` computes `Spec.Editor.apply` of the binding's operation: the same text, and a cursor that
differs from the ideal one only before the final clamping (`rawCursor`); it `return`s exactly where nothing is to be done
(`returns`).  Stated as an equation, so that refinement, "a returning arm changes nothing", "the switch never looks at the
paste buffer" and the agreement of the two models are rewrites. -/

/-- The cursor an arm leaves before the final clamping: only the two single steps and "Alt+b" can leave the text. -/
def rawCursor (e : Ed G) (c : Nat) : Op G → Int
  | .right => (c : Int) + 1
  | .left => (c : Int) - 1
  | .wordLeft => if e.cursor = 0 then -1 else e.cursor   -- the second loop of "Alt+b" runs off the start: -1 until the clamping
  | _ => e.cursor

/-- The arms that `return` (so the clamping and the re-segmentation are skipped). -/
def returns (c : Nat) : Op G → Bool
  | .noop => true
  | .deleteLeft | .deleteWordLeft => c == 0
  | _ => false

theorem keySwitch_eq (content : List G) (c : Nat) (o : Int) (p : List G) (hc : c ≤ content.length)
    (key : String) (ctrl alt sup : Bool) (text : List G) :
    keySwitch isAlnum ⟨content, (c : Int), o, p⟩ key ctrl alt sup text =
      some (⟨(apply isAlnum ⟨content, c⟩ (keyMeaning key ctrl alt sup text)).text,
             rawCursor (apply isAlnum ⟨content, c⟩ (keyMeaning key ctrl alt sup text)) c (keyMeaning key ctrl alt sup text), o, p⟩,
            returns c (keyMeaning key ctrl alt sup text)) := by
  have hin : inRange content (c : Int) = true := by simp [inRange]; omega
  rw [keySwitch_congr isAlnum _ key _ (armOf_eq_first key), keyMeaning_congr key _ (armOf_eq_first key)]
  have hk := armOf_le key
  generalize armOf key = k at hk
  rcases arm_cases hk with rfl | rfl | rfl | rfl | rfl | rfl | rfl | rfl | rfl | rfl | rfl | rfl <;>
    at_label [Int.toNat_natCast, apply, rawCursor, returns]
  · rfl   -- home (`0` against `((0 : Nat) : Int)`)
  -- word right
  · have hneg : ¬ ((c : Int) < 0 ∧ (c : Int) < (content.length : Int)) := by omega
    simp only [hneg, ↓reduceIte, fwdLoop_eq, wordRightPos]
    have hl1 := lead_drop_le (fun g => !isAlnum g) content c
    have e1 : ((c : Int) + (lead (fun g => !isAlnum g) (content.drop c) : Int)).toNat
        = c + lead (fun g => !isAlnum g) (content.drop c) := by omega
    rw [e1]; simp only [Int.natCast_add]
  -- word left
  · have hge : ¬ ((c : Int) - 1 ≥ (content.length : Int)) := by omega
    simp only [hge, ↓reduceIte, bwdLoop_eq, bwdLoop2_add, wordLeftPos]
    have e0 : ((c : Int) - 1 + 1).toNat = c := by omega
    rw [e0]
    have hl1 := lead_take_rev_le (fun g => !isAlnum g) content c
    obtain ⟨L1, hL1⟩ : ∃ L1, lead (fun g => !isAlnum g) (content.take c).reverse = L1 := ⟨_, rfl⟩
    simp only [hL1] at hl1 ⊢
    have e1 : ((c : Int) - 1 - (L1 : Int) + 1).toNat = c - L1 := by omega
    rw [e1]
    have hl2 := lead_take_rev_le isAlnum content (c - L1)
    have hlen : ((content.take (c - L1)).reverse).length = c - L1 := by
      rw [List.length_reverse, List.length_take]; omega
    obtain ⟨L2, hL2⟩ : ∃ L2, lead isAlnum (content.take (c - L1)).reverse = L2 := ⟨_, rfl⟩
    simp only [hL2, hlen] at hl2 ⊢
    congr 3
    split <;> split <;> omega
  -- delete
  · by_cases he : (c : Int) = (content.length : Int)
    · have hce : c = content.length := by omega
      simp only [↓reduceIte, hce, List.eraseIdx_of_length_le (Nat.le_refl _)]
    · have hr : (0 : Int) ≤ (c : Int) ∧ (c : Int) + 1 ≤ (content.length : Int) := by omega
      simp only [he, ↓reduceIte, hr, and_self, List.eraseIdx_eq_take_drop_succ]
  -- ctrl+k, ctrl+u
  · simp only [hin, ↓reduceIte]
  · simp only [hin, ↓reduceIte]; rfl
  -- backspace
  · by_cases hz : c = 0
    · subst hz; simp
    · have e1 : ((c : Int) - 1).toNat = c - 1 := by omega
      have h1 : ¬ ((c : Int) = 0) := by omega
      have h2 : (0 : Int) ≤ (c : Int) - 1 := by omega
      have h3 : (c : Int) ≤ (content.length : Int) := by omega
      have h4 : ((c - 1 : Nat) : Int) = (c : Int) - 1 := by omega
      have hb : (c == 0) = false := by simp [hz]
      simp only [h1, h2, h3, hz, and_self, ↓reduceIte, e1, List.eraseIdx_eq_take_drop_succ, Nat.sub_add_cancel (Nat.pos_of_ne_zero hz),
        hb, h4]
      split
      · rename_i he
        rw [List.drop_eq_nil_of_le (by omega : content.length ≤ c), List.append_nil]
      · rfl
  -- ctrl+w
  · by_cases hz : c = 0
    · subst hz; simp [wordLeftPos]
    · have h1 : ¬ ((c : Int) = 0) := by omega
      have hb : (c == 0) = false := by simp [hz]
      simp only [h1, ↓reduceIte, hin, Bool.not_true, Bool.false_eq_true, bwdLoop_eq, wordLeftPos, hb]
      have hl1 := lead_take_rev_le (fun g => !isAlnum g) content c
      generalize lead (fun g => !isAlnum g) (content.take c).reverse = L1 at hl1 ⊢
      have e1 : ((c : Int) - (L1 : Int)).toNat = c - L1 := by omega
      rw [e1]
      have hl2 := lead_take_rev_le isAlnum content (c - L1)
      generalize lead isAlnum (content.take (c - L1)).reverse = L2 at hl2 ⊢
      have e2 : ((c : Int) - (L1 : Int) - (L2 : Int)).toNat = c - L1 - L2 := by omega
      have e3 : (c : Int) - (L1 : Int) - (L2 : Int) = ((c - L1 - L2 : Nat) : Int) := by omega
      rw [e2, e3]
  -- default
  · cases ctrl <;> cases alt <;> cases sup <;> simp only [Bool.false_eq_true, ↓reduceIte, or_self, or_true, true_or]
    by_cases ht : text = []
    · subst ht; simp
    · simp only [ne_eq, ht, not_false_eq_true, ↓reduceIte, insertChars_eq text content c o p hc, Option.map_some]

theorem rawCursor_clamp (s : Ed G) (hs : s.WF) (op : Op G) :
    min (rawCursor (apply isAlnum s op) s.cursor op).toNat (apply isAlnum s op).text.length = (apply isAlnum s op).cursor := by
  have hwf := apply_wf isAlnum s hs op
  unfold Ed.WF at hwf hs
  cases op
  case right => simp only [apply, rawCursor]; omega
  case left => simp only [apply, rawCursor]; omega
  case wordLeft => simp only [rawCursor]; split <;> omega
  all_goals (simp only [rawCursor, Int.toNat_natCast]; exact Nat.min_eq_left hwf)

theorem returns_id (s : Ed G) (op : Op G) (h : returns s.cursor op = true) :
    apply isAlnum s op = s ∧ rawCursor (apply isAlnum s op) s.cursor op = s.cursor := by
  obtain ⟨t, c⟩ := s
  cases op <;> simp [returns] at h <;> (try subst h) <;> simp [apply, rawCursor, wordLeftPos]

def pasteAfter (m : TI G) : Ev G → List G
  | .pasteEnd => []
  | .pasteKey t => m.paste ++ t
  | _ => m.paste

theorem clamp_wf (e : Ed G) (he : e.WF) (x o : Int) (p : List G) (hx : min x.toNat e.text.length = e.cursor) :
    clamp ⟨e.text, x, o, p⟩ = ⟨e.text, (e.cursor : Int), o, p⟩ := by
  unfold Ed.WF at he
  simp only [clamp]
  congr 1
  split <;> split <;> omega

end

/-- Between calls `Update` IS the ideal step: the text and cursor of `Spec.Editor.apply`, the scroll offset untouched. -/
theorem update_eq (m : TI G) (ev : Ev G) (h : TIInv m) :
    update isAlnum m ev =
      some ⟨(VaxisModel.Spec.Editor.apply isAlnum (tiAbs m) (tiSpecOf m ev)).text,
        ((VaxisModel.Spec.Editor.apply isAlnum (tiAbs m) (tiSpecOf m ev)).cursor : Int), m.offset, pasteAfter m ev⟩ := by
  obtain ⟨content, cursor, offset, paste⟩ := m
  obtain ⟨h0, h1, ho⟩ := h
  simp only at h0 h1 ho
  obtain ⟨c, rfl⟩ := Int.eq_ofNat_of_zero_le h0
  have hc : c ≤ content.length := by omega
  have hwf0 : (⟨content, c⟩ : Ed G).WF := hc
  have hin : inRange content (c : Int) = true := by simp [inRange]; omega
  cases ev with
  | pasteEnd =>
    simp only [update, hin, ↓reduceIte, Int.toNat_natCast, tiSpecOf, tiAbs, pasteAfter, Option.some.injEq]
    exact clamp_wf _ (apply_wf isAlnum _ hwf0 (.insert paste)) _ _ _
      (by simp only [VaxisModel.Spec.Editor.apply, List.length_append, List.length_take, List.length_drop]; omega)
  | release => simp [update, tiSpecOf, tiAbs, VaxisModel.Spec.Editor.apply, pasteAfter]
  | pasteKey t => simp [update, tiSpecOf, tiAbs, VaxisModel.Spec.Editor.apply, pasteAfter]
  | other =>
    simp only [update, tiSpecOf, tiAbs, pasteAfter, Int.toNat_natCast, Option.some.injEq]
    exact clamp_wf ⟨content, c⟩ hc _ _ _ (by simp only [Int.toNat_natCast]; omega)
  | key s ct a sup t =>
    simp only [update, keySwitch_eq isAlnum content c offset paste hc, tiSpecOf, tiAbs, Int.toNat_natCast, pasteAfter]
    cases hr : returns c (keyMeaning s ct a sup t)
    · simp only [Option.some.injEq]
      exact clamp_wf _ (apply_wf isAlnum _ hwf0 _) _ _ _ (rawCursor_clamp isAlnum ⟨content, c⟩ hwf0 _)
    · obtain ⟨e1, e2⟩ := returns_id isAlnum ⟨content, c⟩ _ hr
      simp only at e1 e2
      rw [e1] at e2
      simp only [e1, e2]

theorem update_refines (m : TI G) (ev : Ev G) (h : TIInv m) :
    ∃ m', update isAlnum m ev = some m' ∧ TIInv m' ∧
      tiAbs m' = VaxisModel.Spec.Editor.apply isAlnum (tiAbs m) (tiSpecOf m ev) := by
  have hwf := apply_wf isAlnum (tiAbs m) (by have := h.2.1; simp only [Ed.WF, tiAbs]; omega) (tiSpecOf m ev)
  refine ⟨_, update_eq isAlnum m ev h, ⟨by simp, ?_, h.2.2⟩, by simp [tiAbs]⟩
  simp only [Ed.WF] at hwf
  simp only; omega

/-- `update_refines` on a key event, the state written out. -/
theorem keySwitch_refines (content : List G) (c : Nat) (offset : Int) (paste : List G)
    (hc : c ≤ content.length) (ho : 0 ≤ offset) (key : String) (ctrl alt sup : Bool) (text : List G) :
    ∃ m', update isAlnum ⟨content, (c : Int), offset, paste⟩ (.key key ctrl alt sup text) = some m' ∧ TIInv m' ∧
      tiAbs m' = VaxisModel.Spec.Editor.apply isAlnum ⟨content, c⟩ (keyMeaning key ctrl alt sup text) :=
  update_refines isAlnum ⟨content, c, offset, paste⟩ (.key key ctrl alt sup text) ⟨Int.natCast_nonneg c, Int.ofNat_le.2 hc, ho⟩

theorem setContent_refines (m : TI G) (s : List G) (h : TIInv m) :
    TIInv (setContent m s) ∧
    tiAbs (setContent m s) = VaxisModel.Spec.Editor.apply isAlnum (tiAbs m) (.setContent s) := by
  refine ⟨⟨by simp [setContent], by simp [setContent], h.2.2⟩, ?_⟩
  simp [tiAbs, setContent, VaxisModel.Spec.Editor.apply]

theorem draw_keeps (width : G → Int) (m : TI G) (prompt : List G) (winW : Int) (h : TIInv m) :
    ∀ m' c, (draw width m prompt winW = .shown m' c ∨ draw width m prompt winW = .early m') →
      TIInv m' ∧ tiAbs m' = tiAbs m := by
  intro m' c hd
  rcases hd with hd | hd
  · obtain ⟨col, off, -, -, rfl, -⟩ := draw_shown width m prompt winW m' c hd
    refine ⟨⟨h.1, h.2.1, ?_⟩, rfl⟩
    simp only
    split <;> omega
  · rw [draw_early width m prompt winW m' hd]; exact ⟨h, rfl⟩

inductive TIOp (G : Type) where
  | ev (e : Ev G)
  | set (s : List G)
  | draw (prompt : List G) (winW : Int)

/-- One API call on the model; `none` = the call panicked or did not return. -/
def tiStep (width : G → Int) (m : TI G) : TIOp G → Option (TI G)
  | .ev e => update isAlnum m e
  | .set s => some (setContent m s)
  | .draw p w =>
    match draw width m p w with
    | .hang => none
    | .early m' => some m'
    | .shown m' _ => some m'

def tiOpSpec (m : TI G) : TIOp G → Op G
  | .ev e => tiSpecOf m e
  | .set s => .setContent s
  | .draw _ _ => .noop

theorem tiStep_refines (width : G → Int) (m : TI G) (op : TIOp G) (h : TIInv m) :
    ∃ m', tiStep isAlnum width m op = some m' ∧ TIInv m' ∧
      tiAbs m' = VaxisModel.Spec.Editor.apply isAlnum (tiAbs m) (tiOpSpec m op) := by
  cases op with
  | ev e => exact update_refines isAlnum m e h
  | set s => exact ⟨_, rfl, setContent_refines isAlnum m s h⟩
  | draw p w =>
    have hnh := draw_not_hang width m p w h.2.2 h.2.1
    unfold tiStep
    cases hd : draw width m p w with
    | hang => rw [hd] at hnh; cases hnh
    | early m' =>
      have := draw_keeps width m p w h m' 0 (Or.inr hd)
      exact ⟨m', by simp only [hd], this.1, by rw [this.2]; rfl⟩
    | shown m' c =>
      have := draw_keeps width m p w h m' c (Or.inl hd)
      exact ⟨m', by simp only [hd], this.1, by rw [this.2]; rfl⟩

/-- Run a history; the ideal ops are computed along the way (a paste inserts the buffer held at
that moment). -/
def tiRun (width : G → Int) : TI G → List (TIOp G) → Option (TI G × List (Op G))
  | m, [] => some (m, [])
  | m, op :: ops =>
    match tiStep isAlnum width m op with
    | none => none
    | some m' =>
      match tiRun width m' ops with
      | none => none
      | some (mf, sops) => some (mf, tiOpSpec m op :: sops)

theorem tiRun_refines (width : G → Int) : ∀ (ops : List (TIOp G)) (m : TI G), TIInv m →
    ∃ mf sops, tiRun isAlnum width m ops = some (mf, sops) ∧ TIInv mf ∧
      tiAbs mf = VaxisModel.Spec.Editor.run isAlnum (tiAbs m) sops := by
  intro ops
  induction ops with
  | nil => intro m h; exact ⟨m, [], rfl, h, rfl⟩
  | cons op ops ih =>
    intro m h
    obtain ⟨m', hs, hinv, habs⟩ := tiStep_refines isAlnum width m op h
    obtain ⟨mf, sops, hr, hinvf, habsf⟩ := ih m' hinv
    refine ⟨mf, tiOpSpec m op :: sops, ?_, hinvf, ?_⟩
    · simp only [tiRun, hs, hr]
    · simp only [VaxisModel.Spec.Editor.run]
      rw [habsf, habs]

def widthSumI {G : Type} (width : G → Int) : List G → Int
  | [] => 0
  | g :: gs => width g + widthSumI width gs

theorem widthSumI_nonneg {G : Type} (width : G → Int) (hw : ∀ g, 0 ≤ width g) (l : List G) :
    0 ≤ widthSumI width l := by
  induction l with
  | nil => simp [widthSumI]
  | cons g gs ih => have := hw g; simp only [widthSumI]; omega

theorem widthToCursor_le {G : Type} (width : G → Int) (hw : ∀ g, 0 ≤ width g) (cursor offset : Int) :
    ∀ (l : List G) (i w : Int), widthToCursor width cursor offset l i w ≤ w + widthSumI width l := by
  intro l
  induction l with
  | nil => intro i w; simp [widthToCursor, widthSumI]
  | cons g gs ih =>
    intro i w
    unfold widthToCursor
    have h1 := hw g
    have h2 := widthSumI_nonneg width hw gs
    simp only [widthSumI]
    split
    · have := ih (i + 1) w; omega
    · split
      · omega
      · have := ih (i + 1) (w + width g); omega

theorem cursorLoop_fit {G : Type} (width : G → Int) (hw : ∀ g, 0 ≤ width g) (cursorIdx winW : Int) :
    ∀ (l : List G) (i col cur : Int), 0 ≤ i → col + widthSumI width l < winW →
    cursorLoop width cursorIdx 0 winW l i col cur =
      if i < cursorIdx ∧ cursorIdx ≤ i + l.length then col + widthSumI width (l.take (cursorIdx - i).toNat) else cur := by
  intro l
  induction l with
  | nil =>
    intro i col cur _ _
    have : ¬ (i < cursorIdx ∧ cursorIdx ≤ i + (([] : List G).length : Int)) := by simp
    rw [if_neg this]
    rfl
  | cons g gs ih =>
    intro i col cur hi hfit
    unfold cursorLoop
    simp only [widthSumI] at hfit
    have h1 := hw g
    have h2 := widthSumI_nonneg width hw gs
    have hi0 : ¬ i < 0 := by omega
    have hcol : ¬ col + width g ≥ winW := by omega
    simp only [hi0, ↓reduceIte, hcol]
    rw [ih (i + 1) (col + width g) _ (by omega) (by omega)]
    simp only [List.length_cons, Int.natCast_add, Int.cast_ofNat_Int]
    by_cases hc1 : i + 1 = cursorIdx
    · have hn : ¬ (i + 1 < cursorIdx ∧ cursorIdx ≤ i + 1 + (gs.length : Int)) := by omega
      have hp : i < cursorIdx ∧ cursorIdx ≤ i + ((gs.length : Int) + 1) := by omega
      have ht : (cursorIdx - i).toNat = 1 := by omega
      rw [if_neg hn, if_pos hp, if_pos hc1, ht]
      simp [widthSumI]
    · by_cases hc2 : i + 1 < cursorIdx ∧ cursorIdx ≤ i + 1 + (gs.length : Int)
      · have hp : i < cursorIdx ∧ cursorIdx ≤ i + ((gs.length : Int) + 1) := by omega
        have ht : (cursorIdx - i).toNat = (cursorIdx - (i + 1)).toNat + 1 := by omega
        rw [if_pos hc2, if_pos hp, ht, List.take_succ_cons]
        simp only [widthSumI]
        omega
      · have hp : ¬ (i < cursorIdx ∧ cursorIdx ≤ i + ((gs.length : Int) + 1)) := by omega
        rw [if_neg hc2, if_neg hp, if_neg hc1]

theorem widthToCursor_all {G : Type} (width : G → Int) (cursor : Int) :
    ∀ (l : List G) (i w : Int), 0 ≤ i → i + l.length ≤ cursor →
    widthToCursor width cursor 0 l i w = w + widthSumI width l := by
  intro l
  induction l with
  | nil => intro i w _ _; simp [widthToCursor, widthSumI]
  | cons g gs ih =>
    intro i w hi hc
    simp only [List.length_cons, Int.natCast_add, Int.cast_ofNat_Int] at hc
    unfold widthToCursor
    have h1 : ¬ i < 0 := by omega
    have h2 : ¬ i = cursor := by omega
    simp only [h1, h2, ↓reduceIte, widthSumI]
    rw [ih (i + 1) (w + width g) (by omega) (by omega)]
    omega

/-- While prompt + text + scrolloff fit in the window, `Draw` resets the offset to 0 and shows the
cursor at prompt width + display width of the text before the cursor. -/
theorem draw_cursor_fit {G : Type} (width : G → Int) (hw : ∀ g, 0 ≤ width g) (m : TI G) (prompt : List G)
    (winW col : Int) (hinv : TIInv m)
    (hp : promptLoop width winW prompt 0 = some col) (hcol : 0 ≤ col)
    (hfit : col + widthSumI width m.content + 4 < winW) :
    draw width m prompt winW =
      .shown { m with offset := 0 } (col + widthSumI width (m.content.take m.cursor.toNat)) := by
  obtain ⟨content, cursor, offset, paste⟩ := m
  obtain ⟨h0, h1, _⟩ := hinv
  simp only at h0 h1 hfit ⊢
  have hnn := widthSumI_nonneg width hw content
  have hw0 : ¬ winW = 0 := by omega
  unfold draw
  simp only [hw0, ↓reduceIte, hp]
  have hall := widthToCursor_all width (content.length : Int) content 0 0 (Int.le_refl 0) (by omega)
  have hreset : widthToCursor width (content.length : Int) 0 content 0 0 + col + 4 < winW := by
    rw [hall]; omega
  simp only [hreset, ↓reduceIte]
  have hwtc := widthToCursor_le width hw cursor 0 content 0 0
  have hcond : ¬ ((0 : Int) < cursor ∧ widthToCursor width cursor 0 content 0 0 + col + 4 ≥ winW) := by omega
  simp only [scrollLoop, hcond, ↓reduceIte]
  have hadj : (if (if cursor - 4 - 0 < 0 then cursor - 4 else (0 : Int)) < 0 then (0 : Int)
      else (if cursor - 4 - 0 < 0 then cursor - 4 else 0)) = 0 := by
    split <;> split <;> omega
  rw [hadj]
  rw [cursorLoop_fit width hw cursor winW content 0 col col (Int.le_refl 0) (by omega)]
  congr 1
  by_cases hc : 0 < cursor
  · rw [if_pos ⟨hc, by omega⟩]
    simp
  · have hc0 : cursor = 0 := by omega
    rw [if_neg (by omega), hc0]
    simp [widthSumI]

end VaxisModel.Lemmas.TextInput
