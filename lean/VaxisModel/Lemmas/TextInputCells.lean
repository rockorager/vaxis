import VaxisModel.Model.TextInputCells
import VaxisModel.Lemmas.TextInput

/-! C17: the cells textinput draws while the line fits; every written cell is inside the window. -/
namespace VaxisModel.Lemmas.TextInput
open VaxisModel.Model.TextInput

theorem promptLoop_col {G : Type} (width : G → Int) (winW : Int) :
    ∀ (prompt : List G) (c col : Int), promptLoop width winW prompt c = some col → col = c + widthSumI width prompt := by
  intro prompt
  induction prompt with
  | nil => intro c col h; simp [promptLoop] at h; simp [widthSumI, h]
  | cons g gs ih =>
    intro c col h
    unfold promptLoop at h
    simp only at h
    split at h
    · cases h
    · have := ih _ _ h
      simp only [widthSumI]; omega

theorem promptCells_eq {G : Type} (width : G → Int) (winW : Int) :
    ∀ (prompt : List G) (c col : Int), promptLoop width winW prompt c = some col →
    promptCells width winW prompt c = placed width .g prompt c := by
  intro prompt
  induction prompt with
  | nil => intro c col _; rfl
  | cons g gs ih =>
    intro c col h
    unfold promptLoop at h
    simp only at h
    split at h
    · cases h
    · rename_i hlt
      simp only [promptCells, placed, hlt, ↓reduceIte]
      rw [ih _ _ h]

theorem cellLoop_fit {G : Type} (width : G → Int) (hw : ∀ g, 0 ≤ width g) (masked : Bool) (winW : Int) :
    ∀ (l : List G) (i col : Int), 0 ≤ i → col + widthSumI width l < winW →
    cellLoop width masked 0 winW l i col = placed width (if masked then fun _ => .mask else .g) l col := by
  intro l
  induction l with
  | nil => intro i col _ _; rfl
  | cons g gs ih =>
    intro i col hi hfit
    simp only [widthSumI] at hfit
    have h1 := hw g
    have h2 := widthSumI_nonneg width hw gs
    have hi0 : ¬ i < 0 := by omega
    have hcol : ¬ col + width g ≥ winW := by omega
    have hoff : ¬ ((0 : Int) > 0 ∧ i = 0) := by omega
    simp only [cellLoop, placed, hi0, hcol, hoff, ↓reduceIte]
    rw [ih (i + 1) (col + width g) (by omega) (by omega)]
    cases masked <;> rfl

theorem drawCells_fit {G : Type} (width : G → Int) (hw : ∀ g, 0 ≤ width g) (masked : Bool) (m : TI G) (prompt : List G)
    (winW col : Int) (hinv : TIInv m) (hp : promptLoop width winW prompt 0 = some col) (hcol : 0 ≤ col)
    (hfit : col + widthSumI width m.content + 4 < winW) :
    drawCells width masked m prompt winW =
      some (placed width .g prompt 0 ++ placed width (if masked then fun _ => .mask else .g) m.content col) := by
  have hd := draw_cursor_fit width hw m prompt winW col hinv hp hcol hfit
  unfold drawCells
  rw [hd]
  simp only [hp]
  rw [promptCells_eq width winW prompt 0 col hp,
    cellLoop_fit width hw masked winW m.content 0 col (Int.le_refl 0) (by omega)]

theorem placed_getElem? {G : Type} (width : G → Int) (f : G → Glyph G) :
    ∀ (l : List G) (c : Int) (k : Nat),
    (placed width f l c)[k]? = (l[k]?).map (fun g => (c + widthSumI width (l.take k), f g)) := by
  intro l
  induction l with
  | nil => intro c k; simp [placed]
  | cons g gs ih =>
    intro c k
    cases k with
    | zero => simp [placed, widthSumI]
    | succ k =>
      simp only [placed, List.getElem?_cons_succ, List.take_succ_cons, widthSumI]
      rw [ih]
      cases gs[k]? <;> simp [Int.add_assoc]

/-- A draw that does not fit: 8 one-column characters, cursor at the end, 8 columns: scrolled, the
first shown cell is the truncator. -/
example :
    drawCells (fun _ : Nat => 1) false (setContent new [0, 1, 2, 3, 4, 5, 6, 7]) [] 8 =
      some [(0, .trunc), (1, .g 5), (2, .g 6), (3, .g 7)] := by decide

/-- Password mode: every cell shows the mask; right truncator where the text runs out of the window. -/
example :
    drawCells (fun _ : Nat => 1) true { (setContent new [0, 1, 2, 3, 4, 5] : TI Nat) with cursor := 0 } [] 5 =
      some [(0, .mask), (1, .mask), (2, .mask), (3, .mask), (4, .trunc)] := by decide

theorem scrollLoop_le {G : Type} (width : G → Int) (content : List G) (cursor col winW : Int) :
    ∀ (fuel : Nat) (offset off : Int), scrollLoop width content cursor col winW fuel offset = some off →
    offset ≤ off ∧ (off ≤ cursor ∨ off = offset) := by
  intro fuel
  induction fuel with
  | zero => intro offset off h; simp [scrollLoop] at h
  | succ n ih =>
    intro offset off h
    unfold scrollLoop at h
    split at h
    · rename_i hc
      have := ih (offset + 1) off h
      omega
    · simp only [Option.some.injEq] at h
      omega

theorem draw_offset_le_cursor {G : Type} (width : G → Int) (m : TI G) (prompt : List G) (winW : Int) (h : TIInv m) :
    ∀ m' c, draw width m prompt winW = .shown m' c → 0 ≤ m'.offset ∧ m'.offset ≤ m.cursor := by
  intro m' c hd
  obtain ⟨h0, h1, ho⟩ := h
  obtain ⟨col, off, -, hs, rfl, -⟩ := draw_shown width m prompt winW m' c hd
  have hl := scrollLoop_le width m.content m.cursor col winW _ _ off hs
  simp only
  constructor
  · split <;> omega
  · split at hl <;> split <;> split <;> omega

theorem promptCells_in_window {G : Type} (width : G → Int) (hw : ∀ g, 0 ≤ width g) (winW : Int) :
    ∀ (prompt : List G) (col : Int), 0 ≤ col → col < winW →
    ∀ x ∈ promptCells width winW prompt col, 0 ≤ x.1 ∧ x.1 < winW := by
  intro prompt
  induction prompt with
  | nil => intro col _ _ x hx; simp [promptCells] at hx
  | cons g gs ih =>
    intro col h0 h1 x hx
    simp only [promptCells, List.mem_cons] at hx
    rcases hx with rfl | hx
    · exact ⟨h0, h1⟩
    · split at hx
      · simp at hx
      · exact ih (col + width g) (by have := hw g; omega) (by omega) x hx

theorem cellLoop_in_window {G : Type} (width : G → Int) (hw : ∀ g, 0 ≤ width g) (masked : Bool) (offset winW : Int) :
    ∀ (l : List G) (i col : Int), 0 ≤ col → col < winW →
    ∀ x ∈ cellLoop width masked offset winW l i col, 0 ≤ x.1 ∧ x.1 < winW := by
  intro l
  induction l with
  | nil => intro i col _ _ x hx; simp [cellLoop] at hx
  | cons g gs ih =>
    intro i col h0 h1 x hx
    unfold cellLoop at hx
    split at hx
    · exact ih (i + 1) col h0 h1 x hx
    · simp only [List.mem_cons] at hx
      rcases hx with rfl | hx
      · exact ⟨h0, h1⟩
      · split at hx
        · simp at hx
        · exact ih (i + 1) (col + width g) (by have := hw g; omega) (by omega) x hx

theorem promptLoop_lt {G : Type} (width : G → Int) (hw : ∀ g, 0 ≤ width g) (winW : Int) :
    ∀ (prompt : List G) (c col : Int), 0 ≤ c → c < winW → promptLoop width winW prompt c = some col → 0 ≤ col ∧ col < winW := by
  intro prompt
  induction prompt with
  | nil => intro c col h0 h1 h; simp [promptLoop] at h; omega
  | cons g gs ih =>
    intro c col h0 h1 h
    unfold promptLoop at h
    simp only at h
    split at h
    · cases h
    · exact ih _ _ (by have := hw g; omega) (by omega) h

theorem drawCells_in_window {G : Type} (width : G → Int) (hw : ∀ g, 0 ≤ width g) (masked : Bool) (m : TI G)
    (prompt : List G) (winW : Int) (hpos : 0 < winW) (cells : List (Int × Glyph G))
    (hd : drawCells width masked m prompt winW = some cells) :
    ∀ x ∈ cells, 0 ≤ x.1 ∧ x.1 < winW := by
  have hP := promptCells_in_window width hw winW prompt 0 (Int.le_refl 0) hpos
  unfold drawCells at hd
  split at hd
  · cases hd
  · cases hd
    split
    · intro x hx; cases hx
    · exact hP
  · split at hd
    · cases hd
      exact hP
    · rename_i col hp
      cases hd
      have hc := promptLoop_lt width hw winW prompt 0 col (Int.le_refl 0) hpos hp
      intro x hx
      rcases List.mem_append.mp hx with h | h
      · exact hP x h
      · exact cellLoop_in_window width hw masked _ winW m.content 0 col hc.1 hc.2 x h

theorem placed_col_ge {G : Type} (width : G → Int) (hw : ∀ g, 0 ≤ width g) (f : G → Glyph G) :
    ∀ (l : List G) (c : Int), ∀ x ∈ placed width f l c, c ≤ x.1 := by
  intro l
  induction l with
  | nil => intro c x hx; simp [placed] at hx
  | cons g gs ih =>
    intro c x hx
    simp only [placed, List.mem_cons] at hx
    rcases hx with rfl | hx
    · exact Int.le_refl _
    · have := ih (c + width g) x hx
      have := hw g
      omega

theorem placed_cols_increasing {G : Type} (width : G → Int) (hw : ∀ g, 0 < width g) (f : G → Glyph G) :
    ∀ (l : List G) (c : Int), ((placed width f l c).map (·.1)).Pairwise (· < ·) := by
  intro l
  induction l with
  | nil => intro c; simp [placed]
  | cons g gs ih =>
    intro c
    simp only [placed, List.map_cons, List.pairwise_cons]
    refine ⟨?_, ih (c + width g)⟩
    intro y hy
    obtain ⟨x, hx, rfl⟩ := List.mem_map.mp hy
    have := placed_col_ge width (fun g => Int.le_of_lt (hw g)) f gs (c + width g) x hx
    have := hw g
    omega

end VaxisModel.Lemmas.TextInput
