import VaxisModel.Model.TextInputCl
import VaxisModel.Lemmas.TextInput
import VaxisModel.Lemmas.EditorCl

/-! C17: textinput over texts whose graphemes can merge refines the ideal editor with re-segmentation (`Spec.Editor.applyC`). -/
namespace VaxisModel.Lemmas.TextInputCl
open VaxisModel.Model.TextInputCl
open VaxisModel.Model.TextInput (TI clamp inRange draw)
open VaxisModel.Lemmas.TextInput (TIInv tiAbs keyMeaning draw_keeps draw_not_hang)
open VaxisModel.Lemmas.EditorCl (resegment_id)
open VaxisModel.Spec.Editor (Ed Op applyC runC Segmentation apply)

variable {A : Type} (cl : List A → List (List A))

/-- Representation invariant between calls: cursor within the content, offset ≥ 0, and the content
is the segmentation of its text. -/
def TIInvC (m : TIC A) : Prop := TIInv (toG m) ∧ m.content = cl m.content.flatten

def tiAbsC (m : TIC A) : Ed (List A) := ⟨m.content, m.cursor.toNat⟩

def tiSpecOfC (m : TIC A) : Ev A → Op (List A)
  | .pasteEnd => .insert (cl m.paste)
  | .release => .noop
  | .pasteKey _ => .noop
  | .key s c a sup t => keyMeaning s c a sup (cl t)
  | .other => .noop

variable {cl}

/-- The model's `resegment` does what the ideal editor's `Spec.Editor.resegment` does. -/
theorem resegment_refines (hs : Segmentation cl) (g : TI (List A)) (p : List A) (h : TIInv g) :
    ∃ m', resegment cl (ofG g p) = some m' ∧ TIInvC cl m' ∧ m'.paste = p ∧
      tiAbsC m' = VaxisModel.Spec.Editor.resegment cl (tiAbs g) := by
  obtain ⟨h0, h1, ho⟩ := h
  obtain ⟨c, hc⟩ := Int.eq_ofNat_of_zero_le h0
  have hcl : c ≤ g.content.length := by omega
  have hin : inRange g.content g.cursor = true := by simp [inRange]; omega
  have hsplit : g.content.flatten = (g.content.take c).flatten ++ (g.content.drop c).flatten := by
    rw [← List.flatten_append, List.take_append_drop]
  have hmono : (cl (g.content.take c).flatten).length ≤ (cl g.content.flatten).length := by
    rw [hsplit]; exact hs.mono _ _
  refine ⟨⟨cl g.content.flatten, ((cl (g.content.take g.cursor.toNat).flatten).length : Int), g.offset, p⟩,
    by simp only [resegment, ofG, hin, ↓reduceIte], ⟨⟨?_, ?_, ?_⟩, ?_⟩, rfl, ?_⟩
  · simp [toG]
  · simp only [toG, hc, Int.toNat_natCast]; omega
  · exact ho
  · simp only [hs.flatten]
  · simp only [tiAbsC, VaxisModel.Spec.Editor.resegment, tiAbs, hc, Int.toNat_natCast]
    congr 1
    exact (Nat.min_eq_left hmono).symm

theorem canon_resegment (hs : Segmentation cl) (m : TIC A) (h : TIInvC cl m) :
    VaxisModel.Spec.Editor.resegment cl (tiAbsC m) = tiAbsC m := by
  obtain ⟨⟨h0, h1, _⟩, hcan⟩ := h
  simp only [toG] at h0 h1
  have := resegment_id hs m.content.flatten m.cursor.toNat (by rw [← hcan]; omega)
  rw [← hcan] at this
  exact this

variable (isAlnum : List A → Bool)

section
open VaxisModel.Lemmas.TextInput (keySwitch_eq returns rawCursor_clamp returns_id clamp_wf)
open VaxisModel.Lemmas.Editor (apply_wf)

variable (cl) in
/-- The events on which `Update` returns before the clamping and the re-segmentation. -/
def returnsEv (m : TIC A) : Ev A → Bool
  | .release | .pasteKey _ => true
  | .key s c a sup t => returns m.cursor.toNat (keyMeaning s c a sup (cl t))
  | _ => false

def pasteAfterC (m : TIC A) : Ev A → List A
  | .pasteEnd => []
  | .pasteKey t => m.paste ++ t
  | _ => m.paste

/-- Between calls `Update` IS the ideal step, then the re-segmentation — or, where it returns early, only the paste buffer
changes. -/
theorem update_eqC (m : TIC A) (ev : Ev A) (h : TIInv (toG m)) :
    update cl isAlnum m ev =
      if returnsEv cl m ev then some { m with paste := pasteAfterC m ev }
      else resegment cl (ofG ⟨(apply isAlnum (tiAbsC m) (tiSpecOfC cl m ev)).text,
        ((apply isAlnum (tiAbsC m) (tiSpecOfC cl m ev)).cursor : Int), m.offset, []⟩ (pasteAfterC m ev)) := by
  obtain ⟨content, cursor, offset, paste⟩ := m
  obtain ⟨h0, h1, _⟩ := h
  simp only [toG] at h0 h1
  obtain ⟨c, rfl⟩ := Int.eq_ofNat_of_zero_le h0
  have hc : c ≤ content.length := by omega
  have hwf0 : (⟨content, c⟩ : Ed (List A)).WF := hc
  have hin : inRange content (c : Int) = true := by simp [inRange]; omega
  -- the clamping leaves the ideal cursor
  have step : ∀ (op : Op (List A)) (x : Int),
      min x.toNat (apply isAlnum ⟨content, c⟩ op).text.length = (apply isAlnum ⟨content, c⟩ op).cursor →
      clamp ⟨(apply isAlnum ⟨content, c⟩ op).text, x, offset, []⟩ =
        ⟨(apply isAlnum ⟨content, c⟩ op).text, ((apply isAlnum ⟨content, c⟩ op).cursor : Int), offset, []⟩ :=
    fun op x hx => clamp_wf _ (apply_wf isAlnum ⟨content, c⟩ hwf0 op) x offset [] hx
  cases ev with
  | release => rfl
  | pasteKey t => rfl
  | other =>
    simp only [update, toG, returnsEv, pasteAfterC, tiSpecOfC, tiAbsC, Int.toNat_natCast, Bool.false_eq_true, if_false]
    rw [← step .noop (c : Int) (by simp only [apply, Int.toNat_natCast]; omega)]; rfl
  | pasteEnd =>
    simp only [update, toG, hin, ↓reduceIte, returnsEv, pasteAfterC, tiSpecOfC, tiAbsC, Int.toNat_natCast, Bool.false_eq_true]
    rw [← step (.insert (cl paste)) ((c : Int) + ((cl paste).length : Int))
      (by simp only [apply, List.length_append, List.length_take, List.length_drop]; omega)]; rfl
  | key s ct a sup t =>
    cases hr : returns c (keyMeaning s ct a sup (cl t))
    · simp only [update, toG, keySwitch_eq isAlnum content c offset [] hc, returnsEv, pasteAfterC, tiSpecOfC, tiAbsC, Int.toNat_natCast,
        hr, Bool.false_eq_true, if_false, step _ _ (rawCursor_clamp isAlnum ⟨content, c⟩ hwf0 _)]
    · obtain ⟨e1, e2⟩ := returns_id isAlnum ⟨content, c⟩ _ hr
      simp only at e1 e2
      rw [e1] at e2
      simp only [update, toG, keySwitch_eq isAlnum content c offset [] hc, returnsEv, pasteAfterC, Int.toNat_natCast, hr, e1, e2, ofG,
        if_true]

theorem returnsEv_id (m : TIC A) (ev : Ev A) (hr : returnsEv cl m ev = true) :
    apply isAlnum (tiAbsC m) (tiSpecOfC cl m ev) = tiAbsC m := by
  cases ev <;> first | rfl | cases hr | exact (returns_id isAlnum (tiAbsC m) _ hr).1

theorem update_refinesC (hs : Segmentation cl) (m : TIC A) (ev : Ev A) (h : TIInvC cl m) :
    ∃ m', update cl isAlnum m ev = some m' ∧ TIInvC cl m' ∧
      tiAbsC m' = applyC cl isAlnum (tiAbsC m) (tiSpecOfC cl m ev) := by
  rw [update_eqC isAlnum m ev h.1]
  split
  · rename_i hr
    refine ⟨_, rfl, ⟨h.1, h.2⟩, ?_⟩
    rw [applyC, returnsEv_id isAlnum m ev hr]
    exact (canon_resegment hs m h).symm
  · have hwf := apply_wf isAlnum (tiAbsC m) (by have := h.1.1; have := h.1.2.1; simp only [Ed.WF, tiAbsC, toG] at *; omega)
      (tiSpecOfC cl m ev)
    obtain ⟨m', hr, hi, _, ha⟩ := resegment_refines hs ⟨_, ((apply isAlnum (tiAbsC m) (tiSpecOfC cl m ev)).cursor : Int), m.offset, []⟩
      (pasteAfterC m ev) ⟨by simp, by simp only; exact_mod_cast hwf, h.1.2.2⟩
    exact ⟨m', hr, hi, by rw [ha]; simp [tiAbs, applyC]⟩

end

theorem setContent_refinesC (hs : Segmentation cl) (m : TIC A) (s : List A) (h : TIInvC cl m) :
    TIInvC cl (setContent cl m s) ∧
    tiAbsC (setContent cl m s) = applyC cl isAlnum (tiAbsC m) (.setContent (cl s)) := by
  refine ⟨⟨⟨by simp [setContent, toG], by simp [setContent, toG], h.1.2.2⟩, by simp [setContent, hs.flatten]⟩, ?_⟩
  simp only [tiAbsC, setContent, applyC, apply, Int.toNat_natCast]
  exact (resegment_id hs s _ (Nat.le_refl _)).symm

inductive TIOpC (A : Type) where
  | ev (e : Ev A)
  | set (s : List A)
  | draw (prompt : List (List A)) (winW : Int)

/-- One API call on the model; `none` = the call panicked or did not return. -/
def tiStepC (cl : List A → List (List A)) (width : List A → Int) (m : TIC A) : TIOpC A → Option (TIC A)
  | .ev e => update cl isAlnum m e
  | .set s => some (setContent cl m s)
  | .draw p w =>
    match draw width (toG m) p w with
    | .hang => none
    | .early g => some (ofG g m.paste)
    | .shown g _ => some (ofG g m.paste)

def tiOpSpecC (cl : List A → List (List A)) (m : TIC A) : TIOpC A → Op (List A)
  | .ev e => tiSpecOfC cl m e
  | .set s => .setContent (cl s)
  | .draw _ _ => .noop

theorem tiStepC_refines (hs : Segmentation cl) (width : List A → Int) (m : TIC A) (op : TIOpC A) (h : TIInvC cl m) :
    ∃ m', tiStepC isAlnum cl width m op = some m' ∧ TIInvC cl m' ∧
      tiAbsC m' = applyC cl isAlnum (tiAbsC m) (tiOpSpecC cl m op) := by
  cases op with
  | ev e => exact update_refinesC isAlnum hs m e h
  | set s => exact ⟨_, rfl, setContent_refinesC isAlnum hs m s h⟩
  | draw p w =>
    have hnoop : applyC cl isAlnum (tiAbsC m) .noop = tiAbsC m := canon_resegment hs m h
    have hnh := draw_not_hang width (toG m) p w h.1.2.2 h.1.2.1
    have key : ∀ g c, (draw width (toG m) p w = .shown g c ∨ draw width (toG m) p w = .early g) →
        TIInvC cl (ofG g m.paste) ∧ tiAbsC (ofG g m.paste) = applyC cl isAlnum (tiAbsC m) .noop := by
      intro g c hd
      have hk := draw_keeps width (toG m) p w h.1 g c hd
      have hcont : g.content = m.content := congrArg Ed.text hk.2
      refine ⟨⟨hk.1, ?_⟩, ?_⟩
      · show g.content = cl g.content.flatten
        rw [hcont]; exact h.2
      · rw [hnoop]; exact hk.2
    unfold tiStepC
    cases hd : draw width (toG m) p w with
    | hang => rw [hd] at hnh; cases hnh
    | early g => exact ⟨_, by simp only [hd], key g 0 (Or.inr hd)⟩
    | shown g c => exact ⟨_, by simp only [hd], key g c (Or.inl hd)⟩

/-- Run a history; the ideal ops are computed along the way. -/
def tiRunC (cl : List A → List (List A)) (width : List A → Int) : TIC A → List (TIOpC A) → Option (TIC A × List (Op (List A)))
  | m, [] => some (m, [])
  | m, op :: ops =>
    match tiStepC isAlnum cl width m op with
    | none => none
    | some m' =>
      match tiRunC cl width m' ops with
      | none => none
      | some (mf, sops) => some (mf, tiOpSpecC cl m op :: sops)

theorem tiRunC_refines (hs : Segmentation cl) (width : List A → Int) : ∀ (ops : List (TIOpC A)) (m : TIC A), TIInvC cl m →
    ∃ mf sops, tiRunC isAlnum cl width m ops = some (mf, sops) ∧ TIInvC cl mf ∧
      tiAbsC mf = runC cl isAlnum (tiAbsC m) sops := by
  intro ops
  induction ops with
  | nil => intro m h; exact ⟨m, [], rfl, h, rfl⟩
  | cons op ops ih =>
    intro m h
    obtain ⟨m', hst, hinv, habs⟩ := tiStepC_refines isAlnum hs width m op h
    obtain ⟨mf, sops, hr, hinvf, habsf⟩ := ih m' hinv
    refine ⟨mf, tiOpSpecC cl m op :: sops, ?_, hinvf, ?_⟩
    · simp only [tiRunC, hst, hr]
    · simp only [runC]
      rw [habsf, habs]

end VaxisModel.Lemmas.TextInputCl
