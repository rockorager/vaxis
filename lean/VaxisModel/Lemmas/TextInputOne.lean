import VaxisModel.Lemmas.TextInputCl

/-! `Model.TextInputCl` with the segmentation that never merges IS `Model.TextInput` (at graphemes = one-atom clusters). -/
namespace VaxisModel.Lemmas.TextInputOne
open VaxisModel.Model.TextInput (TI inRange)
open VaxisModel.Model.TextInputCl (TIC toG ofG resegment)
open VaxisModel.Lemmas.TextInput (TIInv tiSpecOf keyMeaning)
open VaxisModel.Lemmas.EditorCl
open VaxisModel.Spec.Editor (Op)

variable {A : Type}

/-- The widget over merging graphemes as a `Model.TextInput` widget over one-atom clusters: the paste
buffer (`[]rune`) as the clusters it will become. -/
def gOf (m : TIC A) : TI (List A) := ⟨m.content, m.cursor, m.offset, singletons m.paste⟩

/-- …and back: the paste buffer is the atoms of its clusters. -/
def cOf (g : TI (List A)) : TIC A := ⟨g.content, g.cursor, g.offset, g.paste.flatten⟩

def evOf : VaxisModel.Model.TextInputCl.Ev A → VaxisModel.Model.TextInput.Ev (List A)
  | .pasteEnd => .pasteEnd
  | .release => .release
  | .pasteKey t => .pasteKey (singletons t)
  | .key s c a sup t => .key s c a sup (singletons t)
  | .other => .other

theorem cOf_gOf (m : TIC A) : cOf (gOf m) = m := by
  simp [cOf, gOf, singletons_flatten]

macro "arm" h:ident : tactic => `(tactic| (simp only [$h:ident, if_true, if_false, ↓reduceIte]))

/-- Re-segmentation with the segmentation that never merges changes nothing on single-atom content with
the cursor inside. -/
theorem resegment_singletons_id (g : TI (List A)) (p : List A) (h : TIInv g) (hs : AllSingle g.content) :
    resegment singletons (ofG g p) = some (ofG g p) := by
  obtain ⟨h0, h1, _⟩ := h
  have hin : inRange g.content g.cursor = true := by simp [inRange]; omega
  simp only [resegment, ofG, hin, if_true, Option.some.injEq]
  have e1 := singletons_flatten_of_allSingle g.content hs
  have e2 := singletons_flatten_of_allSingle _ (allSingle_take g.content g.cursor.toNat hs)
  rw [e1, e2, List.length_take]
  congr 1
  omega

theorem opSingle_ite (c : Prop) [Decidable c] (a b : Op (List A)) (ha : OpSingle a) (hb : OpSingle b) :
    OpSingle (if c then a else b) := by
  by_cases h : c
  · rw [if_pos h]; exact ha
  · rw [if_neg h]; exact hb

theorem keyMeaning_single (key : String) (c a s : Bool) (t : List A) :
    OpSingle (keyMeaning key c a s (singletons t)) := by
  unfold keyMeaning
  repeat' apply opSingle_ite
  all_goals first | trivial | exact allSingle_singletons t

open VaxisModel.Lemmas.TextInputCl (update_eqC returnsEv_id pasteAfterC tiAbsC tiSpecOfC) in
open VaxisModel.Lemmas.TextInput (update_eq pasteAfter) in
open VaxisModel.Lemmas.Editor (apply_wf) in
open VaxisModel.Spec.Editor (Ed apply) in
/-- The two textinput models are one: on content whose characters are single atoms, with the segmentation that never merges,
same result, panic for panic.  Both are the ideal step, which keeps single atoms single, so the re-segmentation changes nothing. -/
theorem update_singletons (isAlnum : List A → Bool) (m : TIC A) (h : TIInv (toG m)) (hs : AllSingle m.content)
    (ev : VaxisModel.Model.TextInputCl.Ev A) :
    VaxisModel.Model.TextInputCl.update singletons isAlnum m ev =
      (VaxisModel.Model.TextInput.update isAlnum (gOf m) (evOf ev)).map cOf := by
  have hop : tiSpecOf (gOf m) (evOf ev) = tiSpecOfC singletons m ev := by cases ev <;> rfl
  have hsingle : OpSingle (tiSpecOfC singletons m ev) := by
    cases ev <;> first | trivial | exact allSingle_singletons _ | exact keyMeaning_single _ _ _ _ _
  have hpa : (pasteAfter (gOf m) (evOf ev)).flatten = pasteAfterC m ev := by
    cases ev <;> simp [pasteAfter, pasteAfterC, evOf, gOf, List.flatten_append, singletons_flatten]
  have hcur : ((m.cursor.toNat : Nat) : Int) = m.cursor := Int.toNat_of_nonneg h.1
  rw [update_eqC isAlnum m ev h, update_eq isAlnum (gOf m) (evOf ev) h, hop]
  change _ = (some (⟨(apply isAlnum (tiAbsC m) _).text, ((apply isAlnum (tiAbsC m) _).cursor : Int), m.offset, _⟩ : TI (List A))).map cOf
  split
  · rename_i hr
    rw [returnsEv_id isAlnum m ev hr]
    simp [cOf, hpa, tiAbsC, hcur]
  · have hwf := apply_wf isAlnum (tiAbsC m) (by have := h.1; have := h.2.1; simp only [Ed.WF, tiAbsC, toG] at *; omega)
      (tiSpecOfC singletons m ev)
    have hall := apply_allSingle isAlnum (tiAbsC m) _ hs hsingle
    generalize apply isAlnum (tiAbsC m) (tiSpecOfC singletons m ev) = e at hwf hall ⊢
    rw [resegment_singletons_id ⟨e.text, (e.cursor : Int), m.offset, []⟩ _ ⟨by simp, by simp only; exact_mod_cast hwf, h.2.2⟩ hall]
    simp [ofG, cOf, hpa]

theorem update_paste_single (isAlnum : List A → Bool) (g g1 : TI (List A)) (ev : VaxisModel.Model.TextInputCl.Ev A)
    (hg : TIInv g) (hp : AllSingle g.paste) (hu : VaxisModel.Model.TextInput.update isAlnum g (evOf ev) = some g1) :
    AllSingle g1.paste := by
  rw [VaxisModel.Lemmas.TextInput.update_eq isAlnum g (evOf ev) hg, Option.some.injEq] at hu
  subst hu
  cases ev <;> simp only [evOf, VaxisModel.Lemmas.TextInput.pasteAfter] <;>
    first | exact hp | exact allSingle_append _ _ hp (allSingle_singletons _) | (intro c hc; cases hc)

theorem gOf_cOf (g : TI (List A)) (hp : AllSingle g.paste) : gOf (cOf g) = g := by
  obtain ⟨content, x, o, paste⟩ := g
  simp only [gOf, cOf, TI.mk.injEq, true_and]
  exact singletons_flatten_of_allSingle paste hp

/-- Histories: fold of `update`, `none` = panic. -/
def runCl (isAlnum : List A → Bool) : TIC A → List (VaxisModel.Model.TextInputCl.Ev A) → Option (TIC A)
  | m, [] => some m
  | m, e :: es => (VaxisModel.Model.TextInputCl.update singletons isAlnum m e).bind fun m' => runCl isAlnum m' es

def runG (isAlnum : List A → Bool) : TI (List A) → List (VaxisModel.Model.TextInput.Ev (List A)) → Option (TI (List A))
  | g, [] => some g
  | g, e :: es => (VaxisModel.Model.TextInput.update isAlnum g e).bind fun g' => runG isAlnum g' es

theorem runs_agree (isAlnum : List A → Bool) : ∀ (evs : List (VaxisModel.Model.TextInputCl.Ev A)) (m : TIC A),
    TIInv (toG m) → AllSingle m.content →
    runCl isAlnum m evs = (runG isAlnum (gOf m) (evs.map evOf)).map cOf := by
  intro evs
  induction evs with
  | nil => intro m _ _; simp [runCl, runG, cOf_gOf]
  | cons e es ih =>
    intro m h hs
    simp only [runCl, runG, List.map_cons]
    rw [update_singletons isAlnum m h hs e]
    cases hu : VaxisModel.Model.TextInput.update isAlnum (gOf m) (evOf e) with
    | none => rfl
    | some g1 =>
      simp only [Option.map_some, Option.bind_some]
      have hp1 : AllSingle g1.paste := update_paste_single isAlnum (gOf m) g1 e h (allSingle_singletons _) hu
      have hcl : VaxisModel.Model.TextInputCl.update singletons isAlnum m e = some (cOf g1) := by
        rw [update_singletons isAlnum m h hs e, hu]; rfl
      have hinvC : VaxisModel.Lemmas.TextInputCl.TIInvC singletons m :=
        ⟨h, (singletons_flatten_of_allSingle m.content hs).symm⟩
      obtain ⟨m'', hu', hi, _⟩ := VaxisModel.Lemmas.TextInputCl.update_refinesC isAlnum singletons_seg m e hinvC
      rw [hcl] at hu'
      cases hu'
      have hs1 : AllSingle (cOf g1).content := by rw [hi.2]; exact allSingle_singletons _
      rw [ih (cOf g1) hi.1 hs1, gOf_cOf g1 hp1]

end VaxisModel.Lemmas.TextInputOne
