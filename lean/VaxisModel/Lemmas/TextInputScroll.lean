import VaxisModel.Spec.EditorView
import VaxisModel.Lemmas.TextInputCells

/-! the scrolled case of `textinput.Draw` — the cell loop and the cursor column in closed form over
the visible part of the text (the graphemes from the offset on), for every window width. -/
namespace VaxisModel.Lemmas.TextInputScroll
open VaxisModel.Model.TextInput VaxisModel.Spec.EditorView
open VaxisModel.Lemmas.TextInput (draw_shown)

variable {G : Type}

theorem cellLoop_past (width : G → Int) (masked : Bool) (offset winW : Int) :
    ∀ (l : List G) (i col : Int), offset < i →
      cellLoop width masked offset winW l i col = windowCells width masked winW false l col := by
  intro l
  induction l with
  | nil => intro i col _; rfl
  | cons g gs ih =>
    intro i col hi
    have h1 : ¬ i < offset := by omega
    have h2 : ¬ (offset > 0 ∧ i = offset) := by omega
    unfold cellLoop windowCells
    simp only [h1, if_false, h2]
    by_cases hc : col + width g ≥ winW
    · simp [hc]
    · simp only [hc, if_false, Bool.false_eq_true]
      rw [ih (i + 1) (col + width g) (by omega)]

/-- From index `i ≤ offset` on, the `SetCell` calls are the layout of the graphemes from the offset on; the first is the
truncator iff the offset is positive. -/
theorem cellLoop_window (width : G → Int) (masked : Bool) (offset winW : Int) :
    ∀ (l : List G) (i col : Int), i ≤ offset →
      cellLoop width masked offset winW l i col =
        windowCells width masked winW (decide (offset > 0)) (l.drop (offset - i).toNat) col := by
  intro l
  induction l with
  | nil => intro i col _; simp [cellLoop, windowCells]
  | cons g gs ih =>
    intro i col hi
    by_cases hlt : i < offset
    · have hk : (offset - i).toNat = (offset - (i + 1)).toNat + 1 := by omega
      unfold cellLoop
      simp only [hlt, if_true]
      rw [hk, List.drop_succ_cons]
      exact ih (i + 1) col (by omega)
    · have he : i = offset := by omega
      have hk : (offset - i).toNat = 0 := by omega
      rw [hk, List.drop_zero]
      unfold cellLoop windowCells
      simp only [he, and_true]
      by_cases hc : col + width g ≥ winW
      · simp [hc]
      · simp only [hc, if_false]
        rw [cellLoop_past width masked offset winW gs (offset + 1) (col + width g) (by omega)]
        by_cases ho : offset > 0 <;> simp [ho]

theorem cursorLoop_behind (width : G → Int) (cursorIdx offset winW : Int) :
    ∀ (l : List G) (i col cur : Int), offset ≤ i → cursorIdx ≤ i →
      cursorLoop width cursorIdx offset winW l i col cur = cur := by
  intro l
  induction l with
  | nil => intro i col cur _ _; rfl
  | cons g gs ih =>
    intro i col cur ho hc
    have h1 : ¬ i < offset := by omega
    have h2 : ¬ i + 1 = cursorIdx := by omega
    unfold cursorLoop
    simp only [h1, if_false, h2]
    by_cases hb : col + width g ≥ winW
    · simp [hb]
    · simp only [hb, if_false]
      exact ih (i + 1) (col + width g) cur (by omega) (by omega)

/-- The display width of the fitting case (`Lemmas.TextInput.widthSumI`) and that of the view specification (`textWidth`) are
one function. -/
theorem widthSumI_eq_textWidth (width : G → Int) : ∀ l : List G, VaxisModel.Lemmas.TextInput.widthSumI width l = textWidth width l
  | [] => rfl
  | g :: gs => congrArg (width g + ·) (widthSumI_eq_textWidth width gs)

theorem textWidth_nonneg (width : G → Int) (hw : ∀ g, 0 ≤ width g) (l : List G) : 0 ≤ textWidth width l :=
  widthSumI_eq_textWidth width l ▸ VaxisModel.Lemmas.TextInput.widthSumI_nonneg width hw l

/-- With `k` graphemes between the loop index and the cursor, the loop assigns `col` + their display width if it reaches the
last of them — i.e. if the `k-1` before it end left of the right edge — and otherwise leaves the cursor column as it was. -/
theorem cursorLoop_from (width : G → Int) (hw : ∀ g, 0 ≤ width g) (offset winW : Int) :
    ∀ (l : List G) (i col cur : Int) (k : Nat), offset ≤ i → k ≤ l.length →
      cursorLoop width (i + k) offset winW l i col cur =
        if k = 0 then cur
        else if k = 1 ∨ col + textWidth width (l.take (k - 1)) < winW then col + textWidth width (l.take k)
        else cur := by
  intro l
  induction l with
  | nil =>
    intro i col cur k _ hk
    have : k = 0 := by simpa using hk
    subst this
    simp [cursorLoop]
  | cons g gs ih =>
    intro i col cur k ho hk
    rcases k with _ | k
    · simp only [if_true]
      exact cursorLoop_behind width _ offset winW _ i col cur ho (by omega)
    · have h1 : ¬ i < offset := by omega
      have hk' : k ≤ gs.length := by simpa using hk
      unfold cursorLoop
      simp only [h1, if_false]
      rcases k with _ | k
      · -- the grapheme before the cursor is this one
        have e : i + 1 = i + ((0 + 1 : Nat) : Int) := by omega
        simp only [e, if_true, Nat.succ_ne_zero, if_false, Nat.zero_add, true_or, List.take_succ_cons, List.take_zero,
          textWidth, Int.add_zero]
        by_cases hb : col + width g ≥ winW
        · simp [hb]
        · simp only [hb, if_false]
          exact cursorLoop_behind width _ offset winW gs (i + 1) _ _ (by omega) (by omega)
      · have hne : ¬ i + 1 = i + ((k + 1 + 1 : Nat) : Int) := by omega
        simp only [hne, if_false, Nat.succ_ne_zero]
        have hnn := textWidth_nonneg width hw (gs.take k)
        have e1 : ¬ (k + 1 + 1 = 1) := by omega
        simp only [e1, false_or, Nat.add_sub_cancel, List.take_succ_cons, textWidth]
        by_cases hb : col + width g ≥ winW
        · have : ¬ col + (width g + textWidth width (gs.take k)) < winW := by omega
          simp [hb, this]
        · simp only [hb, if_false]
          have hi : i + ((k + 1 + 1 : Nat) : Int) = (i + 1) + ((k + 1 : Nat) : Int) := by omega
          rw [hi, ih (i + 1) (col + width g) cur (k + 1) (by omega) (by omega)]
          simp only [Nat.succ_ne_zero, if_false, Nat.add_sub_cancel]
          have a1 : col + width g + textWidth width (gs.take k) = col + (width g + textWidth width (gs.take k)) := by omega
          by_cases hk0 : k = 0
          · subst hk0
            have hlt : col + width g < winW := by omega
            simp [textWidth, hlt]
            omega
          · have e2 : ¬ (k + 1 = 1) := by omega
            simp only [e2, false_or, a1]
            split <;> omega

/-- What a `Draw` that shows the cursor leaves, `col` being the column the prompt loop ended at. -/
structure DrawShape (width : G → Int) (m : TI G) (prompt : List G) (winW : Int) (m' : TI G) (c col : Int) : Prop where
  prompt : promptLoop width winW prompt 0 = some col
  content : m'.content = m.content
  cursor : m'.cursor = m.cursor
  col : c = cursorLoop width m.cursor m'.offset winW m.content 0 col col

theorem draw_shape (width : G → Int) (m : TI G) (prompt : List G) (winW : Int) (m' : TI G) (c : Int)
    (hd : draw width m prompt winW = .shown m' c) : ∃ col, DrawShape width m prompt winW m' c col := by
  obtain ⟨col, off, hp, -, rfl, rfl⟩ := draw_shown width m prompt winW m' c hd
  exact ⟨col, hp, rfl, rfl, rfl⟩

/-- What the forward scroll loop establishes: it stops at the cursor, or with the text from the offset to the cursor
(inclusive) plus the margin inside the window. -/
theorem scrollLoop_post (width : G → Int) (content : List G) (cursor col winW : Int) :
    ∀ (fuel : Nat) (offset off : Int), scrollLoop width content cursor col winW fuel offset = some off →
    ¬ (off < cursor ∧ widthToCursor width cursor off content 0 0 + col + 4 ≥ winW) := by
  intro fuel
  induction fuel with
  | zero => intro offset off h; simp [scrollLoop] at h
  | succ n ih =>
    intro offset off h
    unfold scrollLoop at h
    split at h
    · exact ih (offset + 1) off h
    · rename_i hc
      simp only [Option.some.injEq] at h
      rw [← h]; exact hc

theorem textWidth_take_mono (width : G → Int) (hw : ∀ g, 0 ≤ width g) : ∀ (l : List G) (n : Nat),
    textWidth width (l.take n) ≤ textWidth width (l.take (n + 1)) := by
  intro l
  induction l with
  | nil => intro n; simp [textWidth]
  | cons g gs ih =>
    intro n
    cases n with
    | zero => have := hw g; simp [textWidth]; omega
    | succ n => simp only [List.take_succ_cons, textWidth]; have := ih n; omega

theorem textWidth_take_le (width : G → Int) (hw2 : ∀ g, width g ≤ 2) : ∀ (l : List G) (n : Nat),
    textWidth width (l.take n) ≤ 2 * n := by
  intro l
  induction l with
  | nil => intro n; simp [textWidth]; omega
  | cons g gs ih =>
    intro n
    cases n with
    | zero => simp [textWidth]
    | succ n => simp only [List.take_succ_cons, textWidth]; have := ih n; have := hw2 g; omega

theorem widthToCursor_ge_past (width : G → Int) (hw : ∀ g, 0 ≤ width g) (cursor offset : Int) :
    ∀ (l : List G) (i w : Int), offset ≤ i →
      w + textWidth width (l.take (cursor - i).toNat) ≤ widthToCursor width cursor offset l i w := by
  intro l
  induction l with
  | nil => intro i w _; simp [widthToCursor, textWidth]
  | cons g gs ih =>
    intro i w hi
    have h1 : ¬ i < offset := by omega
    have hg := hw g
    unfold widthToCursor
    simp only [h1, if_false]
    by_cases hc : i = cursor
    · subst hc
      have e : (i - i).toNat = 0 := by omega
      rw [e]
      simp only [if_true, List.take_zero, textWidth]
      omega
    · simp only [hc, if_false]
      have := ih (i + 1) (w + width g) (by omega)
      by_cases hlt : i < cursor
      · have e : (cursor - i).toNat = (cursor - (i + 1)).toNat + 1 := by omega
        rw [e, List.take_succ_cons]
        simp only [textWidth]
        omega
      · have e : (cursor - i).toNat = 0 := by omega
        have hnn := textWidth_nonneg width hw (gs.take (cursor - (i + 1)).toNat)
        rw [e]
        simp only [List.take_zero, textWidth]
        omega

theorem widthToCursor_skip (width : G → Int) (cursor offset : Int) :
    ∀ (l : List G) (i w : Int), i ≤ offset →
      widthToCursor width cursor offset l i w = widthToCursor width cursor offset (l.drop (offset - i).toNat) offset w := by
  intro l
  induction l with
  | nil => intro i w _; simp [widthToCursor]
  | cons g gs ih =>
    intro i w hi
    by_cases hlt : i < offset
    · have hk : (offset - i).toNat = (offset - (i + 1)).toNat + 1 := by omega
      rw [hk, List.drop_succ_cons, ← ih (i + 1) w (by omega)]
      conv => lhs; unfold widthToCursor
      simp only [hlt, if_true]
    · have he : i = offset := by omega
      have hk : (offset - i).toNat = 0 := by omega
      rw [hk, List.drop_zero, he]

/-- Below the offset the cursor loop only counts. -/
theorem cursorLoop_skip (width : G → Int) (cursorIdx offset winW col cur : Int) : ∀ (l : List G) (i : Int), i ≤ offset →
    cursorLoop width cursorIdx offset winW l i col cur =
      cursorLoop width cursorIdx offset winW (l.drop (offset - i).toNat) offset col cur := by
  intro l
  induction l with
  | nil => intro i _; simp [cursorLoop]
  | cons g gs ih =>
    intro i hi
    by_cases hlt : i < offset
    · have hk : (offset - i).toNat = (offset - (i + 1)).toNat + 1 := by omega
      rw [hk, List.drop_succ_cons, ← ih (i + 1) (by omega)]
      conv => lhs; unfold cursorLoop
      simp only [hlt, if_true]
    · have he : i = offset := by omega
      have hk : (offset - i).toNat = 0 := by omega
      rw [hk, List.drop_zero, he]

/-- Where the offset a `Draw` leaves comes from: the scroll loop, started at `off0`, ended at `off`. -/
structure DrawOffset (width : G → Int) (m : TI G) (prompt : List G) (winW : Int) (m' : TI G) (col off off0 : Int) : Prop where
  prompt : promptLoop width winW prompt 0 = some col
  start : off0 = 0 ∨ off0 = m.offset
  scroll : scrollLoop width m.content m.cursor col winW (m.content.length + 2) off0 = some off
  offset : m'.offset = (let o := if m.cursor - 4 - off < 0 then m.cursor - 4 else off; if o < 0 then 0 else o)

theorem draw_shape_offset (width : G → Int) (m : TI G) (prompt : List G) (winW : Int) (m' : TI G) (c : Int)
    (hd : draw width m prompt winW = .shown m' c) : ∃ col off off0, DrawOffset width m prompt winW m' col off off0 := by
  obtain ⟨col, off, hp, hs, rfl, -⟩ := draw_shown width m prompt winW m' c hd
  refine ⟨col, off, _, hp, ?_, hs, rfl⟩
  split
  · exact Or.inl rfl
  · exact Or.inr rfl

end VaxisModel.Lemmas.TextInputScroll
