import VaxisModel.Lemmas.VxfwErr
import VaxisModel.Lemmas.VxfwRoute

/-! Helper lemmas for C15 (routing): the focus path (`findPath` computes `drawnPath`; `PathInv`), the relation `Ext`
(what handling a command adds to the trace), the dispatch against `planOf` (`dispatch_conforms`), `updatePath`,
commands without focus atoms, hit testing (`hitTest` against `under` / `descend`), the stretch of trace of each
atom (`AtomSeg`), and the explicit trace of `handleEvent` under focus-free answers (`handleEvent_plain`). -/
namespace VaxisModel.Lemmas.Vxfw
open VaxisModel.Model.Vxfw VaxisModel.Spec.Routing

/-- Events of the handler calls made outside `focusWidget` (the events `handleEvent` /
`mouseHandler.handleEvent` dispatch, and the hover notifications): everything except the two
focus notifications that `focusWidget` itself sends. -/
def Routable (ev : Ev) : Prop := ev ≠ .focusIn ∧ ev ≠ .focusOut

/-- `Init` is routable: the event to take where only the fields of `Ext` that do not mention the event are read. -/
theorem Routable.init : Routable .init := ⟨by simp, by simp⟩

theorem focusAfter_append (f : Id) (a b : List Entry) :
    focusAfter f (a ++ b) = focusAfter (focusAfter f a) b := by
  induction a generalizing f with
  | nil => rfl
  | cons e r ih =>
    cases e with
    | eff x => cases x <;> simpa [focusAfter] using ih _
    | _ => simpa [focusAfter] using ih f

theorem nCalls_append (a b : List Entry) : nCalls (a ++ b) = nCalls a + nCalls b := by
  induction a with
  | nil => simp [nCalls]
  | cons x a ih => cases x <;> simp [nCalls, ih] <;> omega

mutual
theorem chf_eq (f : Id) : (t : STree) → childHasFocus f t = (chain f t).map List.reverse
  | .node i w h ch => by
    simp only [childHasFocus, chain]
    split
    · simp
    · rw [chfL_eq f ch]
      cases chainL f ch <;> simp
theorem chfL_eq (f : Id) : (l : List Kid) → childHasFocusL f l = (chainL f l).map List.reverse
  | [] => by simp [childHasFocusL, chainL]
  | (c, r, z, t) :: rest => by
    simp only [childHasFocusL, chainL]
    rw [chf_eq f t, chfL_eq f rest]
    cases chain f t <;> simp
end

mutual
theorem chain_ne_nil (f : Id) : (t : STree) → ∀ p, chain f t = some p → p ≠ []
  | .node i w h ch => by
    intro p hp
    simp only [chain] at hp
    split at hp
    · cases hp; simp
    · cases hc : chainL f ch with
      | none => simp [hc] at hp
      | some q => simp [hc] at hp; subst hp; simp
theorem chainL_ne_nil (f : Id) : (l : List Kid) → ∀ p, chainL f l = some p → p ≠ []
  | [] => by intro p hp; simp [chainL] at hp
  | (c, r, z, t) :: rest => by
    intro p hp
    simp only [chainL] at hp
    cases hc : chain f t with
    | none => rw [hc] at hp; exact chainL_ne_nil f rest p hp
    | some q => rw [hc] at hp; cases hp; exact chain_ne_nil f t _ hc
end

theorem foundPath_eq (s : St) : foundPath s = drawnPath s := by
  unfold foundPath drawnPath frameHasFocus frameRootIsRoot
  cases hf : s.fhFrame with
  | none => simp
  | some t =>
    simp only [chf_eq, expectedPath]
    cases hc : chain s.focused t with
    | none => simp
    | some q =>
      have hne := chain_ne_nil _ _ _ hc
      cases q with
      | nil => exact absurd rfl hne
      | cons a r =>
        by_cases hr : s.root = t.id
        · simp [hr]
        · simp [hr]

/-- The path is the drawn chain of the focused widget (`[root]` if it is not drawn). -/
def PathInv (s : St) : Prop := s.path = drawnPath s

theorem drawnPath_congr {s s' : St} (h1 : s'.fhFrame = s.fhFrame) (h2 : s'.root = s.root)
    (h3 : s'.focused = s.focused) : drawnPath s' = drawnPath s := by
  simp only [drawnPath, h1, h2, h3]

theorem pathInv_findPath (s : St) : PathInv (findPath s).1 := by
  have h := foundPath_eq s
  simp only [PathInv, findPath]
  rw [h]
  exact (drawnPath_congr rfl rfl rfl).symm

/-- `s'` extends `s` by entries that are not offers of `ev`, with `consume` / `focused` tracked
by the trace and everything the routing reads left alone.  Only `ex` mentions `ev`; who needs the other
fields alone takes `Routable.init`. -/
structure Ext (ev : Ev) (s s' : St) : Prop where
  ex : ∃ t, s'.trace = s.trace ++ t ∧ (∀ e ∈ t, isRouted ev e = false) ∧
        s'.consume = (s.consume || t.contains (.eff .consume)) ∧
        s'.focused = focusAfter s.focused t
  fhFrame : s'.fhFrame = s.fhFrame
  root : s'.root = s.root
  lastFrame : s'.lastFrame = s.lastFrame
  lastHits : s'.lastHits = s.lastHits
  mouse : s'.mouse = s.mouse
  pinv : PathInv s → PathInv s'

theorem Ext.refl (ev : Ev) (s : St) : Ext ev s s :=
  ⟨⟨[], by simp, by simp, by simp, rfl⟩, rfl, rfl, rfl, rfl, rfl, id⟩

theorem Ext.trans {ev : Ev} {a b c : St} (h1 : Ext ev a b) (h2 : Ext ev b c) : Ext ev a c := by
  obtain ⟨⟨t1, ht1, q1, c1, f1⟩, p1, r1, l1, lh1, m1, i1⟩ := h1
  obtain ⟨⟨t2, ht2, q2, c2, f2⟩, p2, r2, l2, lh2, m2, i2⟩ := h2
  refine ⟨⟨t1 ++ t2, ?_, ?_, ?_, ?_⟩, p2.trans p1, r2.trans r1, l2.trans l1, lh2.trans lh1, m2.trans m1,
    fun h => i2 (i1 h)⟩
  · rw [ht2, ht1, List.append_assoc]
  · intro e he
    rcases List.mem_append.mp he with h | h
    · exact q1 e h
    · exact q2 e h
  · rw [c2, c1, List.contains_append, Bool.or_assoc]
  · rw [f2, f1, focusAfter_append]

theorem PathInv.congr {s s' : St} (hp : s'.path = s.path) (h1 : s'.fhFrame = s.fhFrame)
    (h2 : s'.root = s.root) (h3 : s'.focused = s.focused) (h : PathInv s) : PathInv s' := by
  unfold PathInv at *
  rw [hp, h, drawnPath_congr h1 h2 h3]

/-- Giving up at nesting budget 0 (`stuck := true`) adds no entry. -/
theorem Ext.stuck (ev : Ev) (s : St) : Ext ev s { s with stuck := true } :=
  ⟨⟨[], by simp, by simp, by simp, rfl⟩, rfl, rfl, rfl, rfl, rfl, PathInv.congr rfl rfl rfl rfl⟩

theorem Ext.call (o : Oracle) {ev : Ev} (s : St) (w : Id) (e : Ev) (ph : Phase) (hne : e ≠ ev) :
    Ext ev s (call o s w e ph).1 := by
  refine ⟨⟨[.call w e ph], rfl, ?_, ?_, ?_⟩, rfl, rfl, rfl, rfl, rfl, PathInv.congr rfl rfl rfl rfl⟩
  · intro x hx
    simp only [List.mem_singleton] at hx
    subst hx
    simp [isRouted, hne]
  · simp [Model.Vxfw.call]
  · simp [Model.Vxfw.call, focusAfter]

/-- The assignment `f.focused = w; f.findPath()` in `focusWidget`. -/
theorem Ext.setFocus (ev : Ev) (s : St) (w : Id) :
    Ext ev s (findPath { s with focused := w, trace := s.trace ++ [.eff (.focusSet w)] }).1 :=
  ⟨⟨[.eff (.focusSet w)], rfl, by simp [isRouted], by simp [findPath], by simp [findPath, focusAfter]⟩,
    rfl, rfl, rfl, rfl, rfl, fun _ => pathInv_findPath _⟩

theorem ext_eFocusWidgetWith {ev : Ev} (hev : Routable ev) (e : EOracle) (hc : St → Cmd → St)
    (hhc : ∀ s c, Ext ev s (hc s c)) (s : St) (w : Id) : Ext ev s (eFocusWidgetWith hc e s w).1 := by
  unfold eFocusWidgetWith
  split
  · exact Ext.refl ev s
  · have h1 := Ext.call e.o (ev := ev) s s.focused .focusOut .target (Ne.symm hev.2)
    simp only []
    split
    · exact h1
    · have h3 := ((h1.trans (Ext.setFocus ev _ w)).trans (Ext.call e.o _ w .focusIn .target (Ne.symm hev.1))).trans
        (hhc _ (Model.Vxfw.call e.o s s.focused .focusOut .target).2)
      split
      · exact h3
      · exact h3.trans (hhc _ _)

theorem ext_eExecAtom {ev : Ev} (hev : Routable ev) (e : EOracle) (hc : St → Cmd → St)
    (hhc : ∀ s c, Ext ev s (hc s c)) (s : St) (a : Atom) : Ext ev s (eExecAtom hc e s a) := by
  cases a with
  | focus w => exact ext_eFocusWidgetWith hev e hc hhc s w
  | _ =>
    exact ⟨⟨[.eff _], rfl, by simp [isRouted], by simp [eExecAtom, execAtom], by simp [eExecAtom, execAtom, focusAfter]⟩,
      rfl, rfl, rfl, rfl, rfl, PathInv.congr rfl rfl rfl rfl⟩

theorem ext_eHandleCommand {ev : Ev} (hev : Routable ev) (e : EOracle) :
    ∀ (fuel : Nat) (s : St) (c : Cmd), Ext ev s (eHandleCommand e fuel s c)
  | 0, s, _ => Ext.stuck ev s
  | fuel + 1, s, c => by
    unfold eHandleCommand
    generalize c.flatten = l
    induction l generalizing s with
    | nil => exact Ext.refl ev s
    | cons a l ih =>
      rw [List.foldl_cons]
      exact (ext_eExecAtom hev e _ (ext_eHandleCommand hev e fuel) s a).trans (ih _)

theorem ext_eFocusWidget {ev : Ev} (hev : Routable ev) (e : EOracle) (fuel : Nat) (s : St) (w : Id) :
    Ext ev s (eFocusWidget e fuel s w).1 := by
  cases fuel with
  | zero => exact Ext.stuck ev s
  | succ n => exact ext_eFocusWidgetWith hev e _ (ext_eHandleCommand hev e n) s w

theorem ext_handleCommand {ev : Ev} (hev : Routable ev) (o : Oracle) (fuel : Nat) (s : St) (c : Cmd) :
    Ext ev s (handleCommand o fuel s c) := by
  rw [← eHandleCommand_noerr]
  exact ext_eHandleCommand hev (e0 o) fuel s c

/-- `rest` is empty or starts with an offer of `ev`. -/
def HeadRouted (ev : Ev) (rest : List Entry) : Prop :=
  rest = [] ∨ ∃ e r, rest = e :: r ∧ isRouted ev e = true

theorem HeadRouted.append {ev : Ev} {a b : List Entry} (ha : HeadRouted ev a) (hb : HeadRouted ev b) :
    HeadRouted ev (a ++ b) := by
  rcases ha with rfl | ⟨e, r, rfl, he⟩
  · simpa using hb
  · exact Or.inr ⟨e, r ++ b, rfl, he⟩

theorem takeWhile_quiet {ev : Ev} {t rest : List Entry} (q : ∀ e ∈ t, isRouted ev e = false)
    (hr : HeadRouted ev rest) :
    (t ++ rest).takeWhile (fun x => !isRouted ev x) = t ∧
    (t ++ rest).dropWhile (fun x => !isRouted ev x) = rest := by
  induction t with
  | nil =>
    rcases hr with rfl | ⟨e, r, rfl, he⟩
    · simp
    · simp [he]
  | cons a r ih =>
    have ha : isRouted ev a = false := q a (by simp)
    have ih' := ih (fun e he => q e (by simp [he]))
    simp [ha, ih'.1, ih'.2]

theorem conforms_step (ev : Ev) (f : Id) (item : PlanItem) (plan : List PlanItem)
    (t rest : List Entry) (q : ∀ e ∈ t, isRouted ev e = false) (hr : HeadRouted ev rest) :
    conforms ev f (item :: plan) (item.want ev f :: (t ++ rest)) =
      (if t.contains (.eff .consume) then rest.isEmpty else conforms ev (focusAfter f t) plan rest) := by
  have h := takeWhile_quiet q hr
  simp only [conforms, h.1, h.2, beq_self_eq_true, Bool.true_and]

theorem eOffer_spec {ev : Ev} (hev : Routable ev) (e : EOracle) (fuel : Nat) (s : St) (w : Id) (ph : Phase)
    (hf : e.failsAt s w ev ph = false) (hc : s.consume = false) :
    ∃ t, (∀ x ∈ t, isRouted ev x = false) ∧
      (eOffer e fuel s w ev ph).1.trace = s.trace ++ (.call w ev ph :: t) ∧
      (eOffer e fuel s w ev ph).2 = (if t.contains (.eff .consume) then .stop else .next) ∧
      (eOffer e fuel s w ev ph).1.consume = false ∧
      (eOffer e fuel s w ev ph).1.focused = focusAfter s.focused t ∧
      (eOffer e fuel s w ev ph).1.lastHits = s.lastHits := by
  obtain ⟨⟨t, ht, q, c, f⟩, _, _, _, lh, _, _⟩ :=
    ext_eHandleCommand hev e fuel (Model.Vxfw.call e.o s w ev ph).1 (Model.Vxfw.call e.o s w ev ph).2
  refine ⟨t, q, ?_⟩
  simp only [eOffer, hf, Bool.false_eq_true, if_false]
  have hc' : (Model.Vxfw.call e.o s w ev ph).1.consume = false := hc
  rw [hc', Bool.false_or] at c
  have htr : (Model.Vxfw.call e.o s w ev ph).1.trace = s.trace ++ [.call w ev ph] := rfl
  have hfo : (Model.Vxfw.call e.o s w ev ph).1.focused = s.focused := rfl
  have hl : (Model.Vxfw.call e.o s w ev ph).1.lastHits = s.lastHits := rfl
  rw [htr] at ht; rw [hfo] at f; rw [hl] at lh
  generalize eHandleCommand e fuel (Model.Vxfw.call e.o s w ev ph).1 (Model.Vxfw.call e.o s w ev ph).2 = s2 at *
  split
  · rename_i hcons
    exact ⟨by simp [ht], by rw [← c, hcons]; rfl, rfl, f, lh⟩
  · rename_i hcons
    have hcf : s2.consume = false := by simpa using hcons
    exact ⟨by simp [ht], by rw [← c, hcf]; rfl, hcf, f, lh⟩

/-- One offer seen from the plan: the call the item stands for, then entries that are no offers; the plan goes on with
what follows iff the event was not consumed. -/
theorem eOffer_conforms {ev : Ev} (hev : Routable ev) (e : EOracle) (fuel : Nat) (s : St) (w : Id) (ph : Phase)
    (hf : e.failsAt s w ev ph = false) (hc : s.consume = false) (item : PlanItem)
    (hitem : item.want ev s.focused = .call w ev ph) :
    (eOffer e fuel s w ev ph).2 ≠ .fail ∧
    ∃ t, (eOffer e fuel s w ev ph).1.trace = s.trace ++ t ∧ HeadRouted ev t ∧
      (eOffer e fuel s w ev ph).1.consume = false ∧ (eOffer e fuel s w ev ph).1.lastHits = s.lastHits ∧
      ∀ plan rest, HeadRouted ev rest → conforms ev s.focused (item :: plan) (t ++ rest) =
        (if (eOffer e fuel s w ev ph).2 = .next then conforms ev (eOffer e fuel s w ev ph).1.focused plan rest
         else rest.isEmpty) := by
  obtain ⟨t1, q1, tr1, b1, c1, f1, l1⟩ := eOffer_spec hev e fuel s w ph hf hc
  refine ⟨by rw [b1]; split <;> simp, .call w ev ph :: t1, tr1, Or.inr ⟨_, _, rfl, by simp [isRouted]⟩, c1, l1,
    fun plan rest hrest => ?_⟩
  have h := conforms_step ev s.focused item plan t1 rest q1 hrest
  rw [hitem] at h
  rw [List.cons_append, h, b1, f1]
  split <;> simp

theorem eOffers_conforms {ev : Ev} (hev : Routable ev) (o : Oracle) (fuel : Nat) :
    ∀ (zs : List (PlanItem × Hop)), (∀ z ∈ zs, ∀ s : St, z.1.want ev s.focused = .call (z.2.who s) ev z.2.phase) →
    ∀ (s : St), s.consume = false →
    (eOffers (e0 o) fuel ev (zs.map Prod.snd) s).2 ≠ .fail ∧
    ∃ t, (eOffers (e0 o) fuel ev (zs.map Prod.snd) s).1.trace = s.trace ++ t ∧ HeadRouted ev t ∧
      (eOffers (e0 o) fuel ev (zs.map Prod.snd) s).1.consume = false ∧
      (eOffers (e0 o) fuel ev (zs.map Prod.snd) s).1.lastHits = s.lastHits ∧
      conforms ev s.focused (zs.map Prod.fst) t = true
  | [], _, s, hc => ⟨by simp [eOffers], [], by simp [eOffers], Or.inl rfl, hc, rfl, rfl⟩
  | z :: zs, hz, s, hc => by
    obtain ⟨nf, t1, tr1, hr1, c1, l1, sp1⟩ :=
      eOffer_conforms hev (e0 o) fuel s (z.2.who s) z.2.phase rfl hc z.1 (hz z (by simp) s)
    simp only [List.map_cons, eOffers]
    split
    · rename_i hn
      obtain ⟨nf2, t2, tr2, hr2, c2, l2, sp2⟩ := eOffers_conforms hev o fuel zs (fun z' h => hz z' (by simp [h])) _ c1
      refine ⟨nf2, t1 ++ t2, by rw [tr2, tr1, List.append_assoc], hr1.append hr2, c2, l2.trans l1, ?_⟩
      rw [sp1 _ t2 hr2, if_pos hn]
      exact sp2
    · rename_i hn
      refine ⟨nf, t1, tr1, hr1, c1, l1, ?_⟩
      have := sp1 (zs.map Prod.fst) [] (Or.inl rfl)
      simpa [hn] using this

theorem dispatch_conforms {ev : Ev} (hev : Routable ev) (o : Oracle) (fuel : Nat) (chain : List Id)
    (tgt : St → Id) (item : PlanItem)
    (hitem : ∀ s : St, item.want ev s.focused = .call (tgt s) ev .target) (s : St) :
    ∃ t, (dispatch o fuel chain tgt ev s).trace = s.trace ++ t ∧
      (dispatch o fuel chain tgt ev s).lastHits = s.lastHits ∧
      (dispatch o fuel chain tgt ev s).consume = false ∧
      conforms ev s.focused (planOf o.captures chain item) t = true := by
  have hd : dispatch o fuel chain tgt ev s = (eDispatch (e0 o) fuel chain tgt ev s).1 := by rw [eDispatch_noerr]
  obtain ⟨_, t, tr, _, c, l, sp⟩ := eOffers_conforms hev o fuel (planRoute o.captures chain item tgt) (planRoute_want hitem)
    { s with consume := false } rfl
  rw [planRoute_route] at tr c l
  rw [planRoute_plan] at sp
  rw [hd, eDispatch_eq]
  exact ⟨t, tr, l, c, sp⟩

theorem focusWidget_ext {ev : Ev} (hev : Routable ev) (o : Oracle) (fuel : Nat) (s : St) (w : Id) :
    Ext ev s (focusWidget o fuel s w) := by
  have h := ext_eFocusWidget hev (e0 o) fuel s w
  rwa [eFocusWidget_noerr] at h

theorem frameHasFocus_some (s : St) (t : STree) :
    (frameHasFocus { s with fhFrame := some t }).isSome = (chain s.focused t).isSome := by
  simp [frameHasFocus, chf_eq]

theorem pathInv_updatePath (o : Oracle) (fuel : Nat) (s : St) (t : STree) :
    PathInv (updatePath o fuel s t) ∧ (updatePath o fuel s t).fhFrame = some t := by
  have h0 : PathInv (findPath { s with fhFrame := some t }).1 := pathInv_findPath _
  simp only [updatePath]
  split
  · exact ⟨h0, rfl⟩
  · have hx := focusWidget_ext Routable.init o fuel
      (findPath { s with fhFrame := some t }).1 s.root
    exact ⟨hx.pinv h0, hx.fhFrame⟩

theorem updatePath_root (o : Oracle) (fuel : Nat) (s : St) (t : STree) : (updatePath o fuel s t).root = s.root := by
  simp only [updatePath]
  split
  · rfl
  · exact (focusWidget_ext Routable.init o fuel _ s.root).root

def NoFocusAtoms (c : Cmd) : Prop := ∀ a ∈ c.flatten, ∀ x, a ≠ Atom.focus x

/-- No widget answers a FocusOut notification with a (possibly nested) focus command. -/
def NoRefocusOnOut (o : Oracle) : Prop := ∀ w ph k, NoFocusAtoms (o.h w .focusOut ph k)

def effsOf (l : List Atom) : List Entry := (l.filterMap effOfAtom).map Entry.eff

theorem atom_beq (a b : Atom) : (a == b) = decide (a = b) := rfl

theorem foldl_nofocus (hc : St → Cmd → St) (o : Oracle) (l : List Atom)
    (hl : ∀ a ∈ l, ∀ x, a ≠ Atom.focus x) (s : St) :
    l.foldl (execAtom hc o) s =
      { s with
        redraw := s.redraw || l.any (fun a => a == .redraw || a == .debug)
        refresh := s.refresh || l.any (· == .refresh)
        quit := s.quit || l.any (· == .quit)
        consume := s.consume || l.any (· == .consume)
        debug := s.debug || l.any (· == .debug)
        trace := s.trace ++ effsOf l } := by
  induction l generalizing s with
  | nil => simp [effsOf]
  | cons a r ih =>
    have hr : ∀ a ∈ r, ∀ x, a ≠ Atom.focus x := fun a ha => hl a (by simp [ha])
    rw [List.foldl_cons, ih hr]
    cases a with
    | focus w => exact absurd rfl (hl (.focus w) (by simp) w)
    | _ => simp [execAtom, effsOf, effOfAtom, atom_beq]

theorem focusRun_effs (f : Id) (pend : Bool) (t r : List Entry) (ht : ∀ e ∈ t, ∃ x, e = Entry.eff x) :
    focusRun f pend (t ++ r) = focusRun f pend r := by
  induction t with
  | nil => rfl
  | cons e t ih =>
    obtain ⟨x, rfl⟩ := ht e (by simp)
    have := ih (fun e he => ht e (by simp [he]))
    simpa [focusRun] using this

theorem focusRun_append (f f' : Id) (a b : List Entry) (h : focusRun f false a = some f') :
    focusRun f false (a ++ b) = focusRun f' false b := by
  suffices H : ∀ (a : List Entry) (f : Id) (pend : Bool), focusRun f pend a = some f' →
      focusRun f pend (a ++ b) = focusRun f' false b from H a f false h
  intro a
  induction a with
  | nil =>
    intro f pend h
    cases pend
    · simp [focusRun] at h; subst h; rfl
    · simp [focusRun] at h
  | cons e a ih =>
    intro f pend h
    cases e with
    | call w ev ph =>
      cases ev with
      | focusOut | focusIn =>
        simp only [focusRun, List.cons_append] at h ⊢
        split at h
        · rename_i hcond
          rw [if_pos hcond]; exact ih _ _ h
        · cases h
      | _ => simpa [focusRun] using ih f pend (by simpa [focusRun] using h)
    | _ => simpa [focusRun] using ih f pend (by simpa [focusRun] using h)

theorem effsOf_eff (l : List Atom) : ∀ e ∈ effsOf l, ∃ x, e = Entry.eff x := by
  intro e he
  simp only [effsOf, List.mem_map] at he
  obtain ⟨x, _, rfl⟩ := he
  exact ⟨x, rfl⟩

theorem underL_none (x y : Int) (px py : Int) :
    (l : List Kid) → (l.all fun k => !inRect (x + k.1) (y + k.2.1) k.2.2.2.w k.2.2.2.h px py) = true →
      underL x y l px py = []
  | [], _ => by simp [underL]
  | (oc, or_, z, t) :: rest, h => by
    simp only [List.all_cons, Bool.and_eq_true, Bool.not_eq_true'] at h
    simp only [underL, h.1]
    simpa using underL_none x y px py rest h.2

mutual
theorem under_eq_descend (px py : Int) : (t : STree) → (x y : Int) → noOverlapAt x y t px py = true →
    under x y t px py = descend x y t px py
  | .node i w h ch, x, y, hn => by
    simp only [noOverlapAt] at hn
    simp only [under, descend]
    rw [underL_eq_descendL px py ch x y hn]
theorem underL_eq_descendL (px py : Int) : (l : List Kid) → (x y : Int) → noOverlapAtL x y l px py = true →
    underL x y l px py = descendL x y l px py
  | [], _, _, _ => by simp [underL, descendL]
  | (oc, or_, z, t) :: rest, x, y, hn => by
    simp only [noOverlapAtL] at hn
    simp only [underL, descendL]
    by_cases hin : inRect (x + oc) (y + or_) t.w t.h px py = true
    · rw [if_pos hin] at hn
      simp only [Bool.and_eq_true] at hn
      rw [if_pos hin, if_pos hin, underL_none x y px py rest hn.2, List.append_nil]
      exact under_eq_descend px py t _ _ hn.1
    · rw [if_neg hin] at hn
      rw [if_neg hin, if_neg hin, List.nil_append]
      exact underL_eq_descendL px py rest x y hn
end

theorem sizesOk_wh {t : STree} (hs : sizesOk t = true) : t.w < 65536 ∧ t.h < 65536 := by
  cases t with
  | node i w h ch =>
    simp only [sizesOk, Bool.and_eq_true, decide_eq_true_eq] at hs
    exact ⟨hs.1.1, hs.1.2⟩

theorem u16_local (col oc : Int) (w : Nat) (hw : w < 65536)
    (ha : oc ≤ col) (hb : col < oc + (w : Int)) : u16 (col - u16 oc) = col - oc := by
  unfold u16
  omega

mutual
theorem hitTest_eq_under (px py : Int) : (t : STree) → (x y : Int) → sizesOk t = true →
    0 ≤ px - x → px - x < 65536 → 0 ≤ py - y → py - y < 65536 →
    hitTest t (px - x) (py - y) = under x y t px py
  | .node i w h ch, x, y, hs, a, b, c, d => by
    simp only [sizesOk, Bool.and_eq_true] at hs
    simp only [hitTest, under]
    rw [hitKids_eq_underL px py ch x y hs.2 a b c d]
theorem hitKids_eq_underL (px py : Int) : (l : List Kid) → (x y : Int) → sizesOkL l = true →
    0 ≤ px - x → px - x < 65536 → 0 ≤ py - y → py - y < 65536 →
    hitKids l (px - x) (py - y) = underL x y l px py
  | [], _, _, _, _, _, _, _ => by simp [hitKids, underL]
  | (oc, or_, z, t) :: rest, x, y, hs, a, b, c, d => by
    simp only [sizesOkL, Bool.and_eq_true] at hs
    simp only [hitKids, underL]
    rw [hitKids_eq_underL px py rest x y hs.2 a b c d]
    have hcp : containsPoint oc or_ t.w t.h (px - x) (py - y) = inRect (x + oc) (y + or_) t.w t.h px py := by
      simp only [containsPoint, inRect]
      rw [Bool.eq_iff_iff]
      simp only [Bool.and_eq_true, decide_eq_true_eq]
      omega
    rw [hcp]
    by_cases hin : inRect (x + oc) (y + or_) t.w t.h px py = true
    · rw [if_pos hin, if_pos hin]
      simp only [inRect, Bool.and_eq_true, decide_eq_true_eq] at hin
      obtain ⟨⟨⟨i1, i2⟩, i3⟩, i4⟩ := hin
      have hsz : sizesOk t = true := hs.1
      have hw := sizesOk_wh hsz
      have l1 : u16 (px - x - u16 oc) = px - (x + oc) := by
        rw [u16_local (px - x) oc t.w hw.1 (by omega) (by omega)]; omega
      have l2 : u16 (py - y - u16 or_) = py - (y + or_) := by
        rw [u16_local (py - y) or_ t.h hw.2 (by omega) (by omega)]; omega
      rw [l1, l2]
      rw [hitTest_eq_under px py t (x + oc) (y + or_) hsz (by omega) (by omega) (by omega) (by omega)]
    · rw [if_neg hin, if_neg hin]
end

/-- The stretch of trace belonging to one atom. -/
def AtomSeg (a : Atom) (seg : List Entry) : Prop :=
  match a with
  | .focus w => seg = [] ∨ ∃ f t1 t2, seg = .call f .focusOut .target ::
      .eff (.focusSet w) :: .call w .focusIn .target :: (t1 ++ t2)
  | a => ∃ e, effOfAtom a = some e ∧ seg = [.eff e]

theorem atomSeg_execAtom (o : Oracle) (hc : St → Cmd → St)
    (hhc : ∀ s c, ∃ t, (hc s c).trace = s.trace ++ t) (s : St) (a : Atom) :
    ∃ seg, (execAtom hc o s a).trace = s.trace ++ seg ∧ AtomSeg a seg := by
  cases a with
  | focus w =>
    simp only [execAtom, focusWidgetWith]
    split
    · exact ⟨[], by simp, Or.inl rfl⟩
    · generalize hs3 : (Model.Vxfw.call o (findPath { (Model.Vxfw.call o s s.focused .focusOut .target).1 with
          focused := w, trace := (Model.Vxfw.call o s s.focused .focusOut .target).1.trace ++ [.eff (.focusSet w)] }).1
          w .focusIn .target) = r3
      have htr3 : r3.1.trace = s.trace ++ [.call s.focused .focusOut .target, .eff (.focusSet w), .call w .focusIn .target] := by
        rw [← hs3]; simp [Model.Vxfw.call, findPath]
      obtain ⟨t1, ht1⟩ := hhc r3.1 (Model.Vxfw.call o s s.focused .focusOut .target).2
      obtain ⟨t2, ht2⟩ := hhc (hc r3.1 (Model.Vxfw.call o s s.focused .focusOut .target).2) r3.2
      refine ⟨_, ?_, Or.inr ⟨s.focused, t1, t2, rfl⟩⟩
      rw [ht2, ht1, htr3]; simp
  | _ => exact ⟨[.eff _], rfl, _, rfl, rfl⟩

/-- One stretch per atom, in order. -/
inductive SegsOf : List Atom → List (List Entry) → Prop
  | nil : SegsOf [] []
  | cons {a : Atom} {seg : List Entry} {l : List Atom} {segs : List (List Entry)} :
      AtomSeg a seg → SegsOf l segs → SegsOf (a :: l) (seg :: segs)

theorem atomSeg_foldl (o : Oracle) (hc : St → Cmd → St)
    (hhc : ∀ s c, ∃ t, (hc s c).trace = s.trace ++ t) (l : List Atom) (s : St) :
    ∃ segs : List (List Entry), (l.foldl (execAtom hc o) s).trace = s.trace ++ segs.flatten ∧
      SegsOf l segs := by
  induction l generalizing s with
  | nil => exact ⟨[], by simp, SegsOf.nil⟩
  | cons a r ih =>
    obtain ⟨seg, hseg, ha⟩ := atomSeg_execAtom o hc hhc s a
    obtain ⟨segs, hsegs, hr⟩ := ih (execAtom hc o s a)
    refine ⟨seg :: segs, ?_, SegsOf.cons ha hr⟩
    rw [List.foldl_cons, hsegs, hseg]
    simp

def FocusFree (o : Oracle) : Prop := ∀ w e ph k, NoFocusAtoms (o.h w e ph k)

theorem any_consume (l : List Atom) : l.any (· == Atom.consume) = l.contains Atom.consume := by
  rw [List.contains_eq_any_beq]
  congr 1
  funext x
  simp [atom_beq, eq_comm]

theorem offer_plain (o : Oracle) (hnf : FocusFree o) (fuel : Nat) (s : St) (w : Id) (ev : Ev) (ph : Phase)
    (hc : s.consume = false) :
    (offer o (fuel + 1) s w ev ph).2 = (o.h w ev ph s.calls).flatten.contains .consume ∧
    (offer o (fuel + 1) s w ev ph).1.trace = s.trace ++ (.call w ev ph :: effsOf (o.h w ev ph s.calls).flatten) ∧
    (offer o (fuel + 1) s w ev ph).1.calls = s.calls + 1 ∧
    (offer o (fuel + 1) s w ev ph).1.consume = false ∧
    (offer o (fuel + 1) s w ev ph).1.focused = s.focused ∧
    (offer o (fuel + 1) s w ev ph).1.path = s.path := by
  have hfold := foldl_nofocus (handleCommand o fuel) o _ (hnf w ev ph s.calls)
    { s with calls := s.calls + 1, trace := s.trace ++ [.call w ev ph] }
  simp only [offer, handleCommand, Model.Vxfw.call, hfold]
  simp only [hc, Bool.false_or, any_consume]
  cases hcon : (o.h w ev ph s.calls).flatten.contains Atom.consume <;> simp [List.append_assoc]

theorem offer_specRun (o : Oracle) (hnf : FocusFree o) (fuel : Nat) (s : St) (w : Id) (ev : Ev) (ph : Phase)
    (hc : s.consume = false) (rest : List (Id × Phase)) :
    s.trace ++ specRun o.h ev s.calls ((w, ph) :: rest) =
      (offer o (fuel + 1) s w ev ph).1.trace ++
        (if (offer o (fuel + 1) s w ev ph).2 then [] else specRun o.h ev (offer o (fuel + 1) s w ev ph).1.calls rest) := by
  obtain ⟨h2, htr, hcalls, _⟩ := offer_plain o hnf fuel s w ev ph hc
  rw [htr, hcalls, h2]
  simp [specRun, effsOf]

theorem eOffers_specRun (o : Oracle) (hnf : FocusFree o) (fuel : Nat) (ev : Ev) :
    ∀ (rt : List Hop), (∀ x ∈ rt, ∀ s s' : St, s'.focused = s.focused → x.who s' = x.who s) →
    ∀ (s : St), s.consume = false →
    (eOffers (e0 o) (fuel + 1) ev rt s).1.trace = s.trace ++ specRun o.h ev s.calls (rt.map fun x => (x.who s, x.phase))
  | [], _, s, _ => by simp [eOffers, specRun]
  | x :: rt, hx, s, hc => by
    obtain ⟨_, _, _, hcons, hfoc, _⟩ := offer_plain o hnf fuel s (x.who s) ev x.phase hc
    simp only [List.map_cons, eOffers, eOffer_noerr]
    rw [offer_specRun o hnf fuel s (x.who s) ev x.phase hc (rt.map fun y => (y.who s, y.phase))]
    cases hb : (offer o (fuel + 1) s (x.who s) ev x.phase).2
    · have ih := eOffers_specRun o hnf fuel ev rt (fun y hy => hx y (by simp [hy])) _ hcons
      have hm : (rt.map fun y => (y.who (offer o (fuel + 1) s (x.who s) ev x.phase).1, y.phase)) = rt.map fun y => (y.who s, y.phase) :=
        List.map_congr_left (fun y hy => by rw [hx y (by simp [hy]) s _ hfoc])
      simp only [outcomeOf, Bool.false_eq_true, if_false, if_true]
      rw [ih, hm]
    · simp [outcomeOf]

theorem handleEvent_plain (o : Oracle) (hnf : FocusFree o) (fuel : Nat) (s : St) (ev : Ev) :
    (handleEvent o (fuel + 1) s ev).trace =
      s.trace ++ specRun o.h ev s.calls (route o.captures s.path s.focused) := by
  have hd : handleEvent o (fuel + 1) s ev = (eDispatch (e0 o) (fuel + 1) s.path (fun s => s.focused) ev s).1 := by
    rw [eDispatch_noerr]; rfl
  rw [hd, eDispatch_eq, eOffers_specRun o hnf fuel ev _ (by
    intro x hx a b hab
    simp only [routeOf, captureHops, bubbleHops, List.mem_append, List.mem_map, List.mem_singleton] at hx
    rcases hx with (⟨w, _, rfl⟩ | rfl) | ⟨w, _, rfl⟩
    · rfl
    · exact hab
    · rfl) { s with consume := false } rfl, routeOf_at]
  rfl

end VaxisModel.Lemmas.Vxfw
