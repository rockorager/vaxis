/-
Simp sets for running the statement interpreters of C15 on a body — per interpreter, what each recognised line does
(`Lemmas/VxfwLineEq.lean`) and the definitions a run unfolds: `vxfw_exec` for `exec` / `atom` and `vxfw_execX` for
`execX` / `atomX` of `Model/VxfwInterp.lean`, `vxfw_rexec` for `rexec` / `ratom` of `Model/VxfwInterpRun.lean`,
`vxfw_texec` for `texec` / `tatom` of `Model/VxfwInterpTree.lean`.
-/
import Lean.Meta.Tactic.Simp.RegisterCommand

register_simp_attr vxfw_exec
register_simp_attr vxfw_execX
register_simp_attr vxfw_rexec
register_simp_attr vxfw_texec
