import VaxisModel.Model.VxfwInterp
import VaxisModel.Lemmas.VxfwBodyExpected
import VaxisModel.Lemmas.VxfwLineEq
import VaxisModel.Lemmas.VxfwHoverErr

/-! `Model/VxfwInterp.lean` run on the statement tree of `focusHandler.handleEvent` IS
    `Model.Vxfw.eHandleEvent` (three-phase dispatch with the error plumbing).  The capture loop, the target call and the
    index loop each do the offers along their stretch of the route (`Does`); statements in sequence are stretches in
    sequence (`Does.append`, the program's side of `eOffers_append`), and the whole is `eDispatch_eq`.  The same lemmas
    carry `mouseHandler.handleEvent` (`Lemmas/VxfwBodyMouse.lean`), whose loops run over the live hit list. -/

namespace VaxisModel.Lemmas.VxfwBody
open VaxisModel.Model VaxisModel.Model.GoSyn VaxisModel.Model.Vxfw VaxisModel.Model.VxfwInterp
open VaxisModel.Model.DynExec (Stmt parseBody)
open VaxisModel.Lemmas.Vxfw (Hop eOffers eOffers_append eOffers_single eOffers_hits eOffer_hits captureHops bubbleHops routeOf
  eCapturePhase_eq eBubblePhase_eq eDispatch_eq)

def seqOf : List Stmt → Stmt
  | [] => .skip
  | a :: r => .seq a (seqOf r)

attribute [vxfw_exec] seqOf

/-- What follows every handler call: `if err != nil { return err }; app.handleCommand(cmd);
    if app.consumeEvent { app.consumeEvent = false; return nil }` (`d` = nesting depth of the lines, not looked at). -/
def offerTail (d : Nat) (cmd err : String) : Stmt :=
  .seq (.ite (.bin "!=" (.var err) (.var "nil")) (.seq (.atom ⟨d + 1, .returnS, (.var err), .none⟩) .skip) .skip)
  (.seq (.atom ⟨d, .exprS, (.arg (.call (.var "v0.handleCommand")) (.var cmd)), .none⟩)
  (.seq (.ite (.var "v0.consumeEvent")
      (.seq (.atom ⟨d + 1, .assign, (.var "v0.consumeEvent"), (.var "false")⟩)
      (.seq (.atom ⟨d + 1, .returnS, (.var "nil"), .none⟩)
      .skip))
      .skip)
  .skip))

def fhe0 : Stmt :=
  (.atom ⟨0, .assign, (.var "v0.consumeEvent"), (.var "false")⟩)

def fhe1 : Stmt :=
  (.atom ⟨0, .define, (.var "v2"), (.var "r.path")⟩)

def fhe2 : Stmt :=
  (.rangeOver "_" "v3" (.var "v2")
    (.seq (.atom ⟨1, .define, (.pair (.var "v4") (.var "v5")), (.arg (.arg (.call (.var "assert")) (.var "v3")) (.var "EventCapturer"))⟩)
    (.seq (.ite (.un "!" (.var "v5"))
      (.seq (.atom ⟨2, .continueS, .none, .none⟩)
      .skip)
      .skip)
    (.seq (.atom ⟨1, .define, (.pair (.var "v6") (.var "v7")), (.arg (.call (.var "v4.CaptureEvent")) (.var "v1"))⟩)
    (offerTail 1 "v6" "v7")))))

def fhe3 : Stmt :=
  (.atom ⟨0, .define, (.pair (.var "v8") (.var "v9")), (.arg (.arg (.call (.var "r.focused.HandleEvent")) (.var "v1")) (.var "TargetPhase"))⟩)

def fhe4 : Stmt :=
  (.ite (.bin "!=" (.var "v9") (.var "nil"))
    (.seq (.atom ⟨1, .returnS, (.var "v9"), .none⟩)
    .skip)
    .skip)

def fhe5 : Stmt :=
  (.atom ⟨0, .exprS, (.arg (.call (.var "v0.handleCommand")) (.var "v8")), .none⟩)

def fhe6 : Stmt :=
  (.ite (.var "v0.consumeEvent")
    (.seq (.atom ⟨1, .assign, (.var "v0.consumeEvent"), (.var "false")⟩)
    (.seq (.atom ⟨1, .returnS, (.var "nil"), .none⟩)
    .skip))
    .skip)

def fhe7 : Stmt :=
  (.seq (.atom ⟨1, .define, (.var "v10"), (.bin "-" (.arg (.call (.var "len")) (.var "v2")) (.int 2))⟩)
  .skip)

def fhe8 : Stmt :=
  (.loop (.bin ">=" (.var "v10") (.int 0))
    (.seq (.atom ⟨1, .define, (.var "v11"), (.index (.var "v2") (.var "v10"))⟩)
    (.seq (.atom ⟨1, .define, (.pair (.var "v12") (.var "v13")), (.arg (.arg (.call (.var "v11.HandleEvent")) (.var "v1")) (.var "BubblePhase"))⟩)
    (offerTail 1 "v12" "v13")))
    (.seq (.atom ⟨2, .subAssign, (.var "v10"), (.int 1)⟩)
    .skip))

def fhe9 : Stmt :=
  (.atom ⟨0, .returnS, (.var "nil"), .none⟩)

def fheParts : List Stmt := [fhe0, fhe1, fhe2, fhe3, fhe4, fhe5, fhe6, fhe7, fhe8, fhe9]

theorem parse_fhe : parseBody VxfwBodyExpected.focusHandleEvent = seqOf fheParts := by decide +kernel

/-- How the outcome of an offer shows as control: go on, `return nil`, `return err`. -/
def ctlOf : Outcome → Ctl
  | .next => .norm
  | .stop => .ret false
  | .fail => .ret true

theorem ctlOf_next : ctlOf .next = .norm := rfl
theorem ctlOf_stop : ctlOf .stop = .ret false := rfl
theorem ctlOf_fail : ctlOf .fail = .ret true := rfl

theorem seqOf_cons (e : EOracle) (fuel : Nat) (ev : Ev) (a : Stmt) (r : List Stmt) (f : Nat) (vm : VM) :
    exec e fuel ev (seqOf (a :: r)) f vm = (match exec e fuel ev a f vm with
      | some (vm', .norm) => exec e fuel ev (seqOf r) f vm'
      | x => x) := by
  simp only [seqOf, exec]
  rfl

theorem seqOf_append (e : EOracle) (fuel : Nat) (ev : Ev) (f : Nat) : ∀ (a r : List Stmt) (vm : VM),
    exec e fuel ev (seqOf (a ++ r)) f vm = (match exec e fuel ev (seqOf a) f vm with
      | some (vm', .norm) => exec e fuel ev (seqOf r) f vm'
      | x => x) := by
  intro a
  induction a with
  | nil => intro r vm; rfl
  | cons x a ih =>
    intro r vm
    rw [List.cons_append, seqOf_cons, seqOf_cons]
    cases hx : exec e fuel ev x f vm with
    | none => rfl
    | some y =>
      obtain ⟨vm', c⟩ := y
      cases c <;> simp only [] <;> first | exact ih r vm' | rfl

-- the loop's body, cut out of `fhe2` so that it is written once (the second alternative is never taken)
def capBody : Stmt := match fhe2 with | .rangeOver _ _ _ b => b | _ => .skip

/-- What the rest of the function can see of a result: the state, the integer and list locals (the
    widget / command / error locals are rebound before they are read), the control outcome. -/
def view (r : Res) : Option (St × List (String × Int) × List (String × List Id) × Ctl) :=
  r.map (fun r => (r.1.s, r.1.ints, r.1.lists, r.2))

theorem view_some {r : Res} {s : St} {i : List (String × Int)} {l : List (String × List Id)} {c : Ctl}
    (h : view r = some (s, i, l, c)) : ∃ vm', r = some (vm', c) ∧ vm'.s = s ∧ vm'.ints = i ∧ vm'.lists = l := by
  cases r with
  | none => simp [view] at h
  | some x =>
    obtain ⟨vm', c'⟩ := x
    simp only [view, Option.map_some, Option.some.injEq, Prod.mk.injEq] at h
    obtain ⟨h1, h2, h3, h4⟩ := h
    exact ⟨vm', by rw [h4], h1, h2, h3⟩

theorem offerTail_exec (e : EOracle) (fuel : Nat) (ev : Ev) (lf d : Nat) (cmd err : String) (herr : err ≠ "nil")
    (vm : VM) (w : Id) (ev' : Ev) (ph : Phase) :
    view (exec e fuel ev (offerTail d cmd err) lf (doCall e vm cmd err w ev' ph)) =
      some ((eOffer e fuel vm.s w ev' ph).1, vm.ints, vm.lists, ctlOf (eOffer e fuel vm.s w ev' ph).2) := by
  unfold eOffer
  cases hf : e.failsAt vm.s w ev' ph
  · cases hk : (eHandleCommand e fuel (call e.o vm.s w ev' ph).1 (call e.o vm.s w ev' ph).2).consume
    · simp [vxfw_exec, doCall, offerTail, view, hf, hk, ctlOf]
    · simp [vxfw_exec, doCall, offerTail, view, hf, hk, ctlOf]
  · simp [vxfw_exec, doCall, offerTail, view, herr, hf, ctlOf]

/-- The body of a capture loop: with the widget in `v3`, it offers the event if the widget captures, else `continue`s;
    the integer and list locals stay. -/
def CapBody (e : EOracle) (fuel : Nat) (ev : Ev) (lf : Nat) (body : Stmt) : Prop :=
  ∀ (vm : VM) (w : Id), view (exec e fuel ev body lf (bindId vm "v3" w)) =
    some (if e.o.captures w then (eOffer e fuel vm.s w ev .capture).1 else vm.s, vm.ints, vm.lists,
          if e.o.captures w then ctlOf (eOffer e fuel vm.s w ev .capture).2 else .cont)

theorem cap_body (e : EOracle) (fuel : Nat) (ev : Ev) (lf : Nat) : CapBody e fuel ev lf capBody := by
  intro vm w
  cases hc : e.o.captures w
  · simp [vxfw_exec, view, capBody, fhe2, hc]
  · simp only [capBody, fhe2, exec]
    simp [vxfw_exec, hc]
    exact offerTail_exec e fuel ev lf 1 "v6" "v7" (by decide) _ w ev .capture

theorem cap_loop_of (e : EOracle) (fuel : Nat) (ev : Ev) (lf : Nat) (body : Stmt) (hbody : CapBody e fuel ev lf body) :
    ∀ (ws : List Id) (vm : VM),
    view (rangeIds "v3" (exec e fuel ev body lf) ws vm) =
      some ((eCapturePhase e fuel ev ws vm.s).1, vm.ints, vm.lists, ctlOf (eCapturePhase e fuel ev ws vm.s).2) := by
  intro ws
  induction ws with
  | nil => intro vm; rfl
  | cons w ws ih =>
    intro vm
    obtain ⟨vm', hb, h1, h2, h3⟩ := view_some (hbody vm w)
    rw [rangeIds, hb, eCapturePhase]
    cases hc : e.o.captures w
    · simp only [hc, Bool.false_eq_true, ↓reduceIte] at h1 ⊢
      rw [ih vm', h1, h2, h3]
    · simp only [hc, ↓reduceIte] at h1 ⊢
      cases ho : (eOffer e fuel vm.s w ev .capture).2
      · simp only [ctlOf_next, ↓reduceIte]
        rw [ih vm', h1, h2, h3]
      · simp only [ho, ctlOf_stop, reduceCtorEq, ↓reduceIte, view, Option.map_some, h1, h2, h3]
      · simp only [ho, ctlOf_fail, reduceCtorEq, ↓reduceIte, view, Option.map_some, h1, h2, h3]

/-- The widgets the loops of a `handleEvent` body run over: the local, or the live field, `l` holds `p`. -/
def Chain (l : String) (p : List Id) (vm : VM) : Prop := evList vm l = some p

theorem Chain.get {l : String} {p : List Id} {vm : VM} (h : Chain l p vm) : evList vm l = some p := h

theorem chain_lastHits (vm : VM) : Chain "r.lastHits" (vm.s.lastHits.map (·.w)) vm := rfl

theorem Chain.lastHits_eq {p : List Id} {vm : VM} (h : Chain "r.lastHits" p vm) : vm.s.lastHits.map (·.w) = p :=
  Option.some.inj h

theorem Chain.keep {l : String} {p : List Id} {vm vm' : VM} (h : Chain l p vm) (hl : vm'.lists = vm.lists)
    (hh : vm'.s.lastHits = vm.s.lastHits) : Chain l p vm' := by
  unfold Chain evList at *
  rw [hl, hh]
  exact h

/-- The statements `blk`, run where `l` holds `p`, do what the offers along `rt` do: same model state, and control goes
    on, returns nil or returns the error as the offers end with `next`, `stop` or `fail`.  The lists among the locals stay. -/
def Does (e : EOracle) (fuel : Nat) (ev : Ev) (lf : Nat) (l : String) (p : List Id) (blk : List Stmt) (rt : List Hop) : Prop :=
  ∀ vm, Chain l p vm → ∃ vm', exec e fuel ev (seqOf blk) lf vm = some (vm', ctlOf (eOffers e fuel ev rt vm.s).2) ∧
    vm'.s = (eOffers e fuel ev rt vm.s).1 ∧ vm'.lists = vm.lists

variable {e : EOracle} {fuel : Nat} {ev : Ev} {lf : Nat} {l : String} {p : List Id}

theorem Does.append {a b : List Stmt} {r1 r2 : List Hop} (ha : Does e fuel ev lf l p a r1) (hb : Does e fuel ev lf l p b r2) :
    Does e fuel ev lf l p (a ++ b) (r1 ++ r2) := by
  intro vm hC
  obtain ⟨vm1, h1, hs1, hl1⟩ := ha vm hC
  rw [seqOf_append, h1, eOffers_append]
  cases ho : (eOffers e fuel ev r1 vm.s).2 with
  | next =>
    obtain ⟨vm2, h2, hs2, hl2⟩ := hb vm1 (hC.keep hl1 (by rw [hs1, eOffers_hits]))
    rw [hs1] at h2 hs2
    exact ⟨vm2, by simpa [ctlOf] using h2, by simpa using hs2, hl2.trans hl1⟩
  | stop => exact ⟨vm1, by simp [ctlOf, ho], by simpa [ho] using hs1, hl1⟩
  | fail => exact ⟨vm1, by simp [ctlOf, ho], by simpa [ho] using hs1, hl1⟩

theorem Does.ret {blk : List Stmt} {rt : List Hop} (h : Does e fuel ev lf l p blk rt) (vm : VM) (hC : Chain l p vm) :
    ∃ vm', exec e fuel ev (seqOf (blk ++ [fhe9])) lf vm =
        some (vm', .ret (decide ((eOffers e fuel ev rt vm.s).2 = .fail))) ∧ vm'.s = (eOffers e fuel ev rt vm.s).1 := by
  obtain ⟨vm', hx, hs, _⟩ := h vm hC
  refine ⟨vm', ?_, hs⟩
  rw [seqOf_append, hx]
  cases (eOffers e fuel ev rt vm.s).2 <;> simp [vxfw_exec, ctlOf, fhe9]

theorem cap_does (body : Stmt) (hbody : CapBody e fuel ev lf body) :
    Does e fuel ev lf l p [.rangeOver "_" "v3" (.var l) body] (captureHops e.o.captures p) := by
  intro vm hC
  obtain ⟨vm', hc, hc1, _, hc3⟩ := view_some (cap_loop_of e fuel ev lf body hbody p vm)
  refine ⟨vm', ?_, by rw [hc1, eCapturePhase_eq], hc3⟩
  rw [← eCapturePhase_eq, ← hc]
  simp only [seqOf, exec, hC.get]
  cases rangeIds "v3" (exec e fuel ev body lf) p vm with
  | none => rfl
  | some y => obtain ⟨v, c⟩ := y; cases c <;> rfl

/-- `cmd, err := f.focused.HandleEvent(ev, TargetPhase)` with what follows every handler call: the target stretch. -/
theorem tgt_does : Does e fuel ev lf l p [fhe3, fhe4, fhe5, fhe6] [⟨fun s => s.focused, .target⟩] := by
  intro vm _
  have h3 : exec e fuel ev fhe3 lf vm = some (doCall e vm "v8" "v9" vm.s.focused ev .target, .norm) := by
    simp [vxfw_exec, fhe3]
  have hs : seqOf [fhe3, fhe4, fhe5, fhe6] = .seq fhe3 (offerTail 0 "v8" "v9") := rfl
  obtain ⟨vm', h, h1, _, hl⟩ := view_some (offerTail_exec e fuel ev lf 0 "v8" "v9" (by decide) vm vm.s.focused ev .target)
  rw [eOffers_single]
  exact ⟨vm', by simp only [hs, exec, h3]; exact h, h1, hl⟩

-- the parts of the index loop, cut out of `fhe8` (the second alternatives are never taken)
def bubBody : Stmt := match fhe8 with | .loop _ b _ => b | _ => .skip
def bubCond : Expr := match fhe8 with | .loop c _ _ => c | _ => .none
def bubPost : Stmt := match fhe8 with | .loop _ _ p => p | _ => .skip

theorem bub_body (lf : Nat) (vm : VM) (k : Nat) (w : Id) (hC : Chain "v2" p vm)
    (hi : find vm.ints "v10" = some (k : Int)) (hw : p[k]? = some w) :
    view (exec e fuel ev bubBody lf vm) =
      some ((eOffer e fuel vm.s w ev .bubble).1, vm.ints, vm.lists, ctlOf (eOffer e fuel vm.s w ev .bubble).2) := by
  have hneg : ¬ ((k : Int) < 0) := by omega
  simp only [bubBody, fhe8, exec]
  simp [vxfw_exec, hC.get, hi, hw, hneg]
  exact offerTail_exec e fuel ev lf 1 "v12" "v13" (by decide) _ w ev .bubble

theorem bub_cond (vm : VM) (v : Int) (hi : find vm.ints "v10" = some v) :
    evBool vm bubCond = some (decide (v ≥ 0)) := by
  simp [vxfw_exec, bubCond, fhe8, hi]

theorem bub_post (e : EOracle) (fuel : Nat) (ev : Ev) (lf : Nat) (vm : VM) (v : Int) (hi : find vm.ints "v10" = some v) :
    exec e fuel ev bubPost lf vm = some ({ vm with ints := ("v10", v - 1) :: vm.ints }, .norm) := by
  simp [vxfw_exec, bubPost, fhe8, hi]

theorem take_succ_reverse (p : List Id) (n : Nat) (w : Id) (hw : p[n]? = some w) :
    (p.take (n + 1)).reverse = w :: (p.take n).reverse := by
  rw [List.take_add_one, hw]
  simp

/-- The parts of an index loop over `l` that counts `v10` down to 0 and offers the event to the widget at that index. -/
structure BubLoop (e : EOracle) (fuel : Nat) (ev : Ev) (l : String) (p : List Id) (cond : Expr) (body post : Stmt) : Prop where
  cond : ∀ (vm : VM) (v : Int), find vm.ints "v10" = some v → evBool vm cond = some (decide (v ≥ 0))
  post : ∀ (lf : Nat) (vm : VM) (v : Int), find vm.ints "v10" = some v →
    exec e fuel ev post lf vm = some ({ vm with ints := ("v10", v - 1) :: vm.ints }, .norm)
  body : ∀ (lf : Nat) (vm : VM) (k : Nat) (w : Id), Chain l p vm → find vm.ints "v10" = some (k : Int) → p[k]? = some w →
    view (exec e fuel ev body lf vm) =
      some ((eOffer e fuel vm.s w ev .bubble).1, vm.ints, vm.lists, ctlOf (eOffer e fuel vm.s w ev .bubble).2)

theorem bub_loop_of {cond : Expr} {body post : Stmt} (B : BubLoop e fuel ev l p cond body post) :
    ∀ (n : Nat) (vm : VM) (v : Int) (lf : Nat), Chain l p vm → find vm.ints "v10" = some v →
      (v + 1).toNat = n → n ≤ p.length → n + 1 ≤ lf →
      ∃ vm', loopN (fun vm => evBool vm cond) (exec e fuel ev body) (exec e fuel ev post) lf vm =
          some (vm', ctlOf (eBubblePhase e fuel ev (p.take n).reverse vm.s).2) ∧
        vm'.s = (eBubblePhase e fuel ev (p.take n).reverse vm.s).1 ∧ vm'.lists = vm.lists := by
  intro n
  induction n with
  | zero =>
    intro vm v lf hl hi hv _ hlf
    obtain ⟨lf', rfl⟩ : ∃ lf', lf = lf' + 1 := ⟨lf - 1, by omega⟩
    have hneg : decide (v ≥ 0) = false := by simp; omega
    rw [loopN]
    simp only [B.cond vm v hi, hneg]
    exact ⟨vm, rfl, rfl, rfl⟩
  | succ n ih =>
    intro vm v lf hl hi hv hn hlf
    obtain ⟨lf', rfl⟩ : ∃ lf', lf = lf' + 1 := ⟨lf - 1, by omega⟩
    have hvn : v = (n : Int) := by omega
    subst hvn
    have hpos : decide ((n : Int) ≥ 0) = true := by simp
    have hlt : n < p.length := by omega
    have hw : p[n]? = some p[n] := List.getElem?_eq_getElem hlt
    obtain ⟨vm1, hb, h1, h2, h3⟩ := view_some (B.body lf' vm n p[n] hl hi hw)
    rw [loopN]
    simp only [B.cond vm _ hi, hpos]
    rw [hb, take_succ_reverse p n p[n] hw, eBubblePhase]
    cases ho : (eOffer e fuel vm.s p[n] ev .bubble).2
    · simp only [ctlOf_next, ↓reduceIte]
      rw [B.post lf' vm1 (n : Int) (by rw [h2]; exact hi)]
      simp only []
      obtain ⟨vm2, hr, hs, hls⟩ := ih { vm1 with ints := ("v10", (n : Int) - 1) :: vm1.ints } ((n : Int) - 1) lf'
        (hl.keep h3 (by rw [h1]; exact eOffer_hits e fuel vm.s p[n] ev .bubble)) (by simp [find]) (by omega) (by omega) (by omega)
      simp only [] at hr hs
      rw [← h1]
      exact ⟨vm2, hr, hs, hls.trans h3⟩
    · simp only [ctlOf_stop, reduceCtorEq, ↓reduceIte, ho]
      exact ⟨vm1, rfl, h1, h3⟩
    · simp only [ctlOf_fail, reduceCtorEq, ↓reduceIte, ho]
      exact ⟨vm1, rfl, h1, h3⟩

/-- `i := len(l) - 2` -/
def bubInit (l : String) : Stmt :=
  .seq (.atom ⟨1, .define, (.var "v10"), (.bin "-" (.arg (.call (.var "len")) (.var l)) (.int 2))⟩) .skip

/-- `for i := len(l) - 2; i >= 0; i -= 1 { … }` with such a body does the bubble stretch of the route. -/
theorem bub_does {cond : Expr} {body post : Stmt} (B : BubLoop e fuel ev l p cond body post) (hlf : p.length + 1 ≤ lf) :
    Does e fuel ev lf l p [bubInit l, .loop cond body post] (bubbleHops p.dropLast.reverse) := by
  intro vm hC
  have h7 : exec e fuel ev (bubInit l) lf vm = some ({ vm with ints := ("v10", (p.length : Int) - 2) :: vm.ints }, .norm) := by
    simp [vxfw_exec, bubInit, hC.get]
  obtain ⟨vm4, hb, hb1, hb2⟩ := bub_loop_of B (p.length - 1)
    { vm with ints := ("v10", (p.length : Int) - 2) :: vm.ints } ((p.length : Int) - 2) lf
    (hC.keep rfl rfl) (by simp [find]) (by omega) (by omega) (by omega)
  rw [← List.dropLast_eq_take, eBubblePhase_eq] at hb hb1
  refine ⟨vm4, ?_, hb1, hb2⟩
  rw [seqOf_cons, h7]
  simp only [seqOf, exec]
  rw [hb]
  cases (eOffers e fuel ev (bubbleHops p.dropLast.reverse) vm.s).2 <;> rfl

theorem fhe_exec (e : EOracle) (fuel : Nat) (s : St) (ev : Ev) (lf : Nat) (hlf : s.path.length + 1 ≤ lf) :
    runFocusHandleEvent (seqOf fheParts) e fuel s ev lf = some (eHandleEvent e fuel s ev) := by
  unfold runFocusHandleEvent eHandleEvent fheParts
  -- consumeEvent = false; path := f.path
  have h01 : exec e fuel ev (seqOf [fhe0, fhe1]) lf ⟨s, [], [], [], [], []⟩ =
      some (⟨{ s with consume := false }, [], [], [], [], [("v2", s.path)]⟩, .norm) := by
    simp [vxfw_exec, fhe0, fhe1]
  -- capture loop, target, bubble loop: the route; `return nil`
  obtain ⟨vm', hx, hs⟩ := (((cap_does capBody (cap_body e fuel ev lf)).append
      (tgt_does.append (bub_does ⟨bub_cond, bub_post e fuel ev, bub_body⟩ hlf))).ret
    (l := "v2") (p := s.path) ⟨{ s with consume := false }, [], [], [], [], [("v2", s.path)]⟩ (by simp [Chain, evList, find]))
  rw [show [fhe0, fhe1, fhe2, fhe3, fhe4, fhe5, fhe6, fhe7, fhe8, fhe9] =
      [fhe0, fhe1] ++ (([.rangeOver "_" "v3" (.var "v2") capBody] ++ ([fhe3, fhe4, fhe5, fhe6] ++
        [bubInit "v2", .loop bubCond bubBody bubPost])) ++ [fhe9]) from rfl, seqOf_append, h01]
  simp only []
  rw [hx, eDispatch_eq]
  simp only [hs, routeOf, List.append_assoc]

end VaxisModel.Lemmas.VxfwBody
