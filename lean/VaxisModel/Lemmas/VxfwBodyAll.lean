import VaxisModel.Lemmas.VxfwBodyFocus
import VaxisModel.Lemmas.VxfwBodyTree
import VaxisModel.Lemmas.VxfwBodyRun

/-! `mouseHandler.update`, `focusHandler.updatePath`, `App.handleCommand` executed from their bodies WITH their callees
    (`hitTest`, `containsPoint`, `findPath` → `childHasFocus`, `focusWidget`) executed from theirs are still the model functions. -/

namespace VaxisModel.Lemmas.VxfwBodyAll
open VaxisModel.Model VaxisModel.Model.GoSyn VaxisModel.Model.Vxfw VaxisModel.Model.VxfwInterp
open VaxisModel.Model.DynExec (Stmt parseBody)
open VaxisModel.Lemmas.Vxfw (eNotify_hits eNotifyLoop_hits)
open VaxisModel.Lemmas.VxfwBody VaxisModel.Lemmas.VxfwBodyX

def expC : Callees := ⟨VxfwBodyTree.htT, VxfwBodyExpected.containsPoint, VxfwBodyTree.fpT, VxfwBodyTree.chT, seqOf fwParts⟩

theorem good_callees (e : EOracle) (fuel : Nat) : GoodX e fuel (calleesVX expC e fuel) where
  fp := by
    intro s
    simp only [calleesVX, expC]
    rw [VxfwBodyTree.fp_exec s]
    rfl
  ht := by
    intro t hs c r
    exact VxfwBodyTree.ht_run t hs c r
  cp := by
    intro t c r
    exact VxfwBodyTree.cp_run (0, 0, 0, t) c r
  fw := by
    intro s w
    simp only [calleesVX, expC, callFw]
    rw [fw_exec]
    rfl
  hitl0 := rfl

theorem mu_all (e : EOracle) (fuel : Nat) (s : St) (t : STree) :
    runMouseUpdateAll muT expC e fuel s t = some (eMouseUpdate e fuel s t) :=
  mu_exec_x e fuel _ (good_callees e fuel) s t

theorem up_all (e : EOracle) (fuel : Nat) (s : St) (t : STree) :
    runUpdatePathAll upT expC e fuel s t = some (eUpdatePath e (fuel + 1) s t) :=
  up_exec_x e fuel _ (good_callees e fuel) s t

theorem hc_all (e : EOracle) (fuel : Nat) (s : St) (c : Cmd) :
    runHandleCommandAll hcT expC e fuel s c = some (eHandleCommand e (fuel + 1) s c) :=
  hc_exec_x e fuel _ (good_callees e fuel) _ s c (Nat.lt_succ_self _)

open VaxisModel.Lemmas.VxfwBodyRun in
theorem bRunFrameAll_eq (e : EOracle) (fuel : Nat) (s : St) (t1 t2 : STree) :
    bRunFrameAll expB expC e fuel s t1 t2 = some (eRunFrame e (fuel + 1) s t1 t2) := by
  unfold bRunFrameAll eRunFrame
  cases hr : s.redraw
  · rfl
  · simp only [Bool.not_true, Bool.false_eq_true, ↓reduceIte, expB, mu_all, up_all]
    split <;> rfl

open VaxisModel.Lemmas.VxfwBodyRun in
theorem bRunStepsAll_eq (e : EOracle) (fuel : Nat) (steps : List Step) (s : St) :
    bRunStepsAll expB expC e fuel s steps = some (eRunSteps e (fuel + 1) s steps) :=
  steps_loop e (fuel + 1) (bRunStepAll expB expC e fuel) (bRunStepsAll expB expC e fuel) (fun _ => rfl) (fun _ _ _ => rfl)
    (fun s st => by cases st with
      | ev ev => exact bRunEvent_eq e fuel s ev
      | frame t1 t2 => exact bRunFrameAll_eq e fuel s t1 t2) steps s

open VaxisModel.Lemmas.VxfwBodyRun in
theorem bRunAll_eq (e : EOracle) (fuel : Nat) (root : Id) (t0 : STree) (steps : List Step) :
    bRunAll expB expC e fuel root t0 steps = some (eRun e (fuel + 1) root t0 steps) := by
  unfold bRunAll eRun
  rw [bRunInit_eq]
  simp only []
  split
  · rfl
  · exact bRunStepsAll_eq e fuel steps _

end VaxisModel.Lemmas.VxfwBodyAll
