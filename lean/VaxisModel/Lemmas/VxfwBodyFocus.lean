import VaxisModel.Lemmas.VxfwBody

/-! `focusHandler.focusWidget`, executed from its body, is `Model.Vxfw.eFocusWidgetWith` (what is returned
    where: the FocusOut handler's error before anything changes; the FocusIn handler's error after the
    FocusOut handler's command has been handled). -/

namespace VaxisModel.Lemmas.VxfwBody
open VaxisModel.Model VaxisModel.Model.GoSyn VaxisModel.Model.Vxfw VaxisModel.Model.VxfwInterp
open VaxisModel.Model.DynExec (Stmt parseBody)

def fw0 : Stmt :=
  (.ite (.bin "==" (.var "r.focused") (.var "v1"))
    (.seq (.atom ⟨1, .returnS, (.var "nil"), .none⟩)
    .skip)
    .skip)

def fw1 : Stmt :=
  (.atom ⟨0, .define, (.pair (.var "v2") (.var "v3")), (.arg (.arg (.call (.var "r.focused.HandleEvent")) (.lit "vaxis.FocusOut{}")) (.var "TargetPhase"))⟩)

def fw2 : Stmt :=
  (.ite (.bin "!=" (.var "v3") (.var "nil"))
    (.seq (.atom ⟨1, .returnS, (.var "v3"), .none⟩)
    .skip)
    .skip)

def fw3 : Stmt :=
  (.atom ⟨0, .assign, (.var "r.focused"), (.var "v1")⟩)

def fw4 : Stmt :=
  (.atom ⟨0, .exprS, (.call (.var "r.findPath")), .none⟩)

def fw5 : Stmt :=
  (.atom ⟨0, .define, (.pair (.var "v4") (.var "v3")), (.arg (.arg (.call (.var "v1.HandleEvent")) (.lit "vaxis.FocusIn{}")) (.var "TargetPhase"))⟩)

def fw6 : Stmt :=
  (.atom ⟨0, .exprS, (.arg (.call (.var "v0.handleCommand")) (.var "v2")), .none⟩)

def fw7 : Stmt :=
  (.ite (.bin "!=" (.var "v3") (.var "nil"))
    (.seq (.atom ⟨1, .returnS, (.var "v3"), .none⟩)
    .skip)
    .skip)

def fw8 : Stmt :=
  (.atom ⟨0, .exprS, (.arg (.call (.var "v0.handleCommand")) (.var "v4")), .none⟩)

def fw9 : Stmt :=
  (.atom ⟨0, .returnS, (.var "nil"), .none⟩)

def fwParts : List Stmt := [fw0, fw1, fw2, fw3, fw4, fw5, fw6, fw7, fw8, fw9]


theorem parse_fw : parseBody VxfwBodyExpected.focusWidget = seqOf fwParts := by decide +kernel

theorem fw_exec (e : EOracle) (fuel : Nat) (s : St) (w : Id) :
    runFocusWidget (seqOf fwParts) e fuel s w = some (eFocusWidgetWith (eHandleCommand e fuel) e s w) := by
  unfold runFocusWidget eFocusWidgetWith
  by_cases hf : s.focused = w
  · simp [vxfw_exec, fwParts, fw0, fw1, fw2, fw3, fw4, fw5, fw6, fw7, fw8, fw9, hf]
  · cases ho : e.failsAt s s.focused .focusOut .target
    · obtain ⟨r1, hr1⟩ : ∃ r1 : St, r1 = (call e.o s s.focused .focusOut .target).1 := ⟨_, rfl⟩
      obtain ⟨s2, hs2⟩ : ∃ s2 : St, s2 = (findPath { r1 with focused := w, trace := r1.trace ++ [Entry.eff (Eff.focusSet w)] }).1 := ⟨_, rfl⟩
      cases hi : e.failsAt s2 w .focusIn .target <;> subst hs2 <;> subst hr1 <;>
        simp [vxfw_exec, doCall, fwParts, fw0, fw1, fw2, fw3, fw4, fw5, fw6, fw7, fw8, fw9, hf, ho, hi]
    · simp [vxfw_exec, doCall, fwParts, fw0, fw1, fw2, fw3, fw4, fw5, fw6, fw7, fw8, fw9, hf, ho]

end VaxisModel.Lemmas.VxfwBody
