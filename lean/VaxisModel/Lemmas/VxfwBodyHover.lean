import VaxisModel.Lemmas.VxfwBody

/-! `mouseHandler.mouseExit` and `mouseHandler.mouseEnter`, executed from their bodies, are
    `Model.Vxfw.eMouseExit` / `eMouseEnter`: every hovered widget is told MouseLeave and the hit list is
    emptied (terminal FocusOut, pointer leaving); a widget is entered only if it is not in the hit list,
    and is recorded there before it is notified. -/

namespace VaxisModel.Lemmas.VxfwBody
open VaxisModel.Model VaxisModel.Model.GoSyn VaxisModel.Model.Vxfw VaxisModel.Model.VxfwInterp
open VaxisModel.Model.DynExec (Stmt parseBody)

def mx0 : Stmt :=
  (.rangeOver "_" "v1" (.var "r.lastHits")
    (.seq (.atom ⟨1, .define, (.pair (.var "v2") (.var "v3")), (.arg (.arg (.call (.var "v1.w.HandleEvent")) (.lit "MouseLeave{}")) (.var "TargetPhase"))⟩)
    (.seq (.ite (.bin "!=" (.var "v3") (.var "nil"))
      (.seq (.atom ⟨2, .returnS, (.var "v3"), .none⟩)
      .skip)
      .skip)
    (.seq (.atom ⟨1, .exprS, (.arg (.call (.var "v0.handleCommand")) (.var "v2")), .none⟩)
    .skip))))

def mx1 : Stmt :=
  (.atom ⟨0, .assign, (.var "r.lastHits"), (.lit "[]hitResult{}")⟩)

def mx2 : Stmt :=
  (.atom ⟨0, .returnS, (.var "nil"), .none⟩)

def mxParts : List Stmt := [mx0, mx1, mx2]

def me0 : Stmt :=
  (.rangeOver "_" "v2" (.var "r.lastHits")
    (.seq (.ite (.bin "==" (.var "v2.w") (.var "v1"))
      (.seq (.atom ⟨2, .returnS, (.var "nil"), .none⟩)
      .skip)
      .skip)
    .skip))

def me1 : Stmt :=
  (.atom ⟨0, .assign, (.var "r.lastHits"), (.arg (.arg (.call (.var "append")) (.var "r.lastHits")) (.lit "hitResult{v1:v1}"))⟩)

def me2 : Stmt :=
  (.atom ⟨0, .define, (.pair (.var "v3") (.var "v4")), (.arg (.arg (.call (.var "v1.HandleEvent")) (.lit "MouseEnter{}")) (.var "TargetPhase"))⟩)

def me3 : Stmt :=
  (.ite (.bin "!=" (.var "v4") (.var "nil"))
    (.seq (.atom ⟨1, .returnS, (.var "v4"), .none⟩)
    .skip)
    .skip)

def me4 : Stmt :=
  (.atom ⟨0, .exprS, (.arg (.call (.var "v0.handleCommand")) (.var "v3")), .none⟩)

def me5 : Stmt :=
  (.atom ⟨0, .returnS, (.var "nil"), .none⟩)

def meParts : List Stmt := [me0, me1, me2, me3, me4, me5]

theorem parse_mx : parseBody VxfwBodyExpected.mouseExit = seqOf mxParts := by decide +kernel
theorem parse_me : parseBody VxfwBodyExpected.mouseEnter = seqOf meParts := by decide +kernel

def mxBody : Stmt := match mx0 with | .rangeOver _ _ _ b => b | _ => .skip
theorem mx0_eq : mx0 = .rangeOver "_" "v1" (.var "r.lastHits") mxBody := rfl

theorem mx_body (e : EOracle) (fuel : Nat) (ev : Ev) (lf : Nat) (vm : VM) (w : Id) :
    view (exec e fuel ev mxBody lf (bindId vm "v1" w)) =
      some ((eNotify e fuel vm.s w .mouseLeave).1, vm.ints, vm.lists,
            if (eNotify e fuel vm.s w .mouseLeave).2 then .ret true else .norm) := by
  unfold eNotify
  cases hf : e.failsAt vm.s w .mouseLeave .target <;> simp [vxfw_exec, doCall, view, mxBody, mx0, hf]

theorem mx_loop (e : EOracle) (fuel : Nat) (ev : Ev) (lf : Nat) : ∀ (hits : List Hit) (vm : VM),
    view (rangeIds "v1" (exec e fuel ev mxBody lf) (hits.map (·.w)) vm) =
      some ((eNotifyLoop e fuel .mouseLeave (fun _ => false) hits vm.s).1, vm.ints, vm.lists,
            if (eNotifyLoop e fuel .mouseLeave (fun _ => false) hits vm.s).2 then .ret true else .norm) := by
  intro hits
  induction hits with
  | nil => intro vm; rfl
  | cons h hits ih =>
    intro vm
    obtain ⟨vm', hb, h1, h2, h3⟩ := view_some (mx_body e fuel ev lf vm h.w)
    simp only [List.map_cons, rangeIds, hb, eNotifyLoop, Bool.false_eq_true, ↓reduceIte]
    cases hx : (eNotify e fuel vm.s h.w .mouseLeave).2
    · simp only [Bool.false_eq_true, ↓reduceIte]
      rw [ih vm', h1, h2, h3]
    · simp only [↓reduceIte, view, Option.map_some, h1, h2, h3, hx]

theorem mx_exec (e : EOracle) (fuel : Nat) (s : St) :
    runMouseExit (seqOf mxParts) e fuel s = some (eMouseExit e fuel s) := by
  unfold runMouseExit eMouseExit mxParts
  rw [seqOf_cons, mx0_eq]
  obtain ⟨vm1, hl, h1, h2, h3⟩ := view_some (mx_loop e fuel .init 1 s.lastHits ⟨s, [], [], [], [], []⟩)
  have hex : exec e fuel .init (.rangeOver "_" "v1" (.var "r.lastHits") mxBody) 1 ⟨s, [], [], [], [], []⟩ =
      rangeIds "v1" (exec e fuel .init mxBody 1) (s.lastHits.map (·.w)) ⟨s, [], [], [], [], []⟩ := by
    simp [exec, evList]
  rw [hex, hl]
  simp only [] at h1
  generalize eNotifyLoop e fuel .mouseLeave (fun _ => false) s.lastHits s = r at h1 ⊢
  obtain ⟨s1, b⟩ := r
  simp only [] at h1 ⊢
  cases b with
  | true => simp [h1]
  | false =>
    simp only [Bool.false_eq_true, ↓reduceIte]
    have h12 : exec e fuel .init (seqOf [mx1, mx2]) 1 vm1 = some ({ vm1 with s := { vm1.s with lastHits := [] } }, .ret false) := by
      simp [vxfw_exec, mx1, mx2]
    rw [h12]
    simp [h1]

def meBody : Stmt := match me0 with | .rangeOver _ _ _ b => b | _ => .skip
theorem me0_eq : me0 = .rangeOver "_" "v2" (.var "r.lastHits") meBody := rfl

theorem me_body (e : EOracle) (fuel : Nat) (ev : Ev) (lf : Nat) (vm : VM) (x w : Id) (hw : find vm.ids "v1" = some w) :
    exec e fuel ev meBody lf (bindId vm "v2" x) = some (bindId vm "v2" x, if x = w then .ret false else .norm) := by
  by_cases h : x = w <;> simp [vxfw_exec, meBody, me0, hw, h]

theorem me_loop (e : EOracle) (fuel : Nat) (ev : Ev) (lf : Nat) (w : Id) : ∀ (hits : List Hit) (vm : VM),
    find vm.ids "v1" = some w → find vm.ids "v1.HandleEvent" = some w →
    ∃ vm', rangeIds "v2" (exec e fuel ev meBody lf) (hits.map (·.w)) vm =
        some (vm', if hits.any (fun h => h.w == w) then .ret false else .norm) ∧
      vm'.s = vm.s ∧ find vm'.ids "v1" = some w ∧ find vm'.ids "v1.HandleEvent" = some w := by
  intro hits
  induction hits with
  | nil => intro vm hw hw2; exact ⟨vm, rfl, rfl, hw, hw2⟩
  | cons h hits ih =>
    intro vm hw hw2
    simp only [List.map_cons, rangeIds, me_body e fuel ev lf vm h.w w hw, List.any_cons]
    by_cases hx : h.w = w
    · simp only [hx, ↓reduceIte, beq_self_eq_true, Bool.true_or]
      exact ⟨_, rfl, rfl, by simp [bindId, find, hw], by simp [bindId, find, hw2]⟩
    · have hb : (h.w == w) = false := by simpa using hx
      simp only [hx, ↓reduceIte, hb, Bool.false_or]
      obtain ⟨vm', h1, h2, h3, h4⟩ := ih (bindId vm "v2" h.w) (by simp [bindId, find, hw]) (by simp [bindId, find, hw2])
      exact ⟨vm', h1, h2, h3, h4⟩

theorem me_exec (e : EOracle) (fuel : Nat) (s : St) (w : Id) :
    runMouseEnter (seqOf meParts) e fuel s w = some (eMouseEnter e fuel s w) := by
  unfold runMouseEnter runFocusWidget eMouseEnter meParts
  rw [seqOf_cons, me0_eq]
  obtain ⟨vm1, hl, h1, h2, h2b⟩ := me_loop e fuel .init 1 w s.lastHits (bindId ⟨s, [], [], [], [], []⟩ "v1" w)
    (by simp [bindId, find]) (by simp [bindId, find])
  have hex : exec e fuel .init (.rangeOver "_" "v2" (.var "r.lastHits") meBody) 1 (bindId ⟨s, [], [], [], [], []⟩ "v1" w) =
      rangeIds "v2" (exec e fuel .init meBody 1) (s.lastHits.map (·.w)) (bindId ⟨s, [], [], [], [], []⟩ "v1" w) := by
    simp [exec, evList, bindId]
  rw [hex, hl]
  have h1' : vm1.s = s := h1
  by_cases hany : s.lastHits.any (fun h => h.w == w) = true
  · simp only [hany, ↓reduceIte, h1']
  · have hany' : s.lastHits.any (fun h => h.w == w) = false := by simpa using hany
    simp only [hany', Bool.false_eq_true, ↓reduceIte]
    unfold eNotify
    obtain ⟨s1, ints, ids, cmds, flags, lists⟩ := vm1
    simp only [] at h1' h2 h2b
    subst h1'
    cases hf : e.failsAt { s1 with lastHits := s1.lastHits ++ [⟨0, 0, w⟩] } w .mouseEnter .target <;>
      simp [vxfw_exec, doCall, me1, me2, me3, me4, me5, h2, h2b, hf]

end VaxisModel.Lemmas.VxfwBody
