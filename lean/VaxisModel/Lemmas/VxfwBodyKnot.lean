import VaxisModel.Model.VxfwInterpKnot
import VaxisModel.Lemmas.VxfwBodySel

/-! The first interpreter layer with its callees as parameters (`exec1`) equals the layer with the model functions inside (`exec`)
    whenever the plugged-in callees compute the model functions; the knot `kHandleCommand` is `eHandleCommand`. -/

namespace VaxisModel.Lemmas.VxfwBodyKnot
open VaxisModel.Model VaxisModel.Model.GoSyn VaxisModel.Model.Vxfw VaxisModel.Model.VxfwInterp
open VaxisModel.Model.DynExec (Stmt parseBody)
open VaxisModel.Lemmas.VxfwLineEq (atom_handleCommand atom_update atom_findPath atomX_handleCommand)

/-- Is the line `err := m.update(app, m.lastFrame)`? -/
def isUpdLine (l : Line) : Bool :=
  match l.kind, l.e1, l.e2 with
  | .define, .var _, .arg (.arg (.call (.var "r.update")) (.var "v0")) (.var "r.lastFrame") => true
  | _, _, _ => false

def usesUpd : Stmt → Bool
  | .atom l => isUpdLine l
  | .seq a b => usesUpd a || usesUpd b
  | .ite _ t e => usesUpd t || usesUpd e
  | .loop _ b p => usesUpd b || usesUpd p
  | .rangeOver _ _ _ b => usesUpd b
  | _ => false

structure GoodK (e : EOracle) (fuel : Nat) (K : K1) : Prop where
  hc : ∀ s c, K.hc s c = some (eHandleCommand e fuel s c)
  fp : ∀ s, K.fp s = some (findPath s)

def GoodUpd (e : EOracle) (fuel : Nat) (K : K1) : Prop := ∀ s t, K.upd s t = some (eMouseUpdate e fuel s t)

theorem atom1_eq (K : K1) (e : EOracle) (fuel : Nat) (g : GoodK e fuel K) (ev : Ev) (vm : VM) (l : Line)
    (hu : isUpdLine l = false ∨ GoodUpd e fuel K) : atom1 K e fuel ev vm l = atom e fuel ev vm l := by
  obtain ⟨d, k, e1, e2⟩ := l
  unfold atom1
  simp only []
  split
  · subst_vars
    rw [atom_handleCommand]
    simp only [g.hc]
    cases find vm.cmds _ <;> rfl
  · subst_vars
    rcases hu with hu | hu
    · simp [isUpdLine] at hu
    · rw [atom_update, hu vm.s vm.s.lastFrame]; rfl
  · subst_vars
    rw [atom_findPath, g.fp]; rfl
  · rfl

theorem exec1_eq (K : K1) (e : EOracle) (fuel : Nat) (g : GoodK e fuel K) (ev : Ev) :
    ∀ (st : Stmt), (usesUpd st = false ∨ GoodUpd e fuel K) → ∀ (f : Nat) (vm : VM), exec1 K e fuel ev st f vm = exec e fuel ev st f vm := by
  have hor : ∀ {a b : Bool}, ((a || b) = false ∨ GoodUpd e fuel K) → (a = false ∨ GoodUpd e fuel K) ∧ (b = false ∨ GoodUpd e fuel K) := by
    intro a b h
    rcases h with h | h
    · simp at h; exact ⟨Or.inl h.1, Or.inl h.2⟩
    · exact ⟨Or.inr h, Or.inr h⟩
  intro st
  induction st with
  | skip => intro _ f vm; rfl
  | bad => intro _ f vm; rfl
  | atom l => intro hu f vm; exact atom1_eq K e fuel g ev vm l hu
  | seq a b iha ihb =>
    intro hu f vm
    obtain ⟨h1, h2⟩ := hor hu
    simp only [exec1, exec, iha h1, ihb h2]
    rfl
  | ite c t el iht ihe =>
    intro hu f vm
    obtain ⟨h1, h2⟩ := hor hu
    simp only [exec1, exec, iht h1, ihe h2]
    rfl
  | loop c b p ihb ihp =>
    intro hu f vm
    obtain ⟨h1, h2⟩ := hor hu
    have e1 : exec1 K e fuel ev b = exec e fuel ev b := by funext f vm; exact ihb h1 f vm
    have e2 : exec1 K e fuel ev p = exec e fuel ev p := by funext f vm; exact ihp h2 f vm
    simp only [exec1, exec, e1, e2]
  | range k v b ih => intro _ f vm; rfl
  | rangeOver k v coll b ih =>
    intro hu f vm
    have e1 : exec1 K e fuel ev b f = exec e fuel ev b f := by funext vm; exact ih hu f vm
    cases coll <;> simp only [exec1, exec, e1] <;> rfl
  | sw t tag c ih => intro _ f vm; rfl
  | case l b r ihb ihr => intro _ f vm; rfl

open VaxisModel.Lemmas.VxfwBody VaxisModel.Lemmas.VxfwBodyX VaxisModel.Lemmas.VxfwBodyAll VaxisModel.Lemmas.VxfwBodyRun
  VaxisModel.Lemmas.VxfwBodySel

def expA : AllBodies := ⟨expB, expC, hcT, reT, rfT⟩

theorem iFindPath_eq (s : St) : iFindPath expA s = some (findPath s) := by
  simp only [iFindPath, expA, expC]
  rw [VxfwBodyTree.fp_exec s]
  rfl

theorem fin_run (r : Res) : fin r = (match r with
    | some (vm, .ret b) => some (vm.s, b)
    | some (vm, _) => some (vm.s, false)
    | none => none) := rfl

theorem fw1_eq (K : K1) (e : EOracle) (n : Nat) (g : GoodK e n K) (s : St) (w : Id) :
    runFocusWidget1 K (seqOf fwParts) e n s w = some (eFocusWidget e (n + 1) s w) := by
  unfold runFocusWidget1
  rw [exec1_eq K e n g .init (seqOf fwParts) (Or.inl (by decide))]
  exact fw_exec e n s w

theorem knot_hc (e : EOracle) : ∀ (n : Nat) (s : St) (c : Cmd), kHandleCommand expA e n s c = some (eHandleCommand e n s c)
  | 0, _, _ => rfl
  | n + 1, s, c => by
    have gk : GoodK e n ⟨kHandleCommand expA e n, fun _ _ => none, iFindPath expA⟩ := ⟨knot_hc e n, iFindPath_eq⟩
    rw [kHandleCommand]
    apply hc_exec_x e n _ _ _ s c (Nat.lt_succ_self _)
    exact {
      fp := iFindPath_eq
      ht := fun _ _ _ _ => rfl
      cp := fun _ _ _ => rfl
      fw := fun s w => fw1_eq _ e n gk s w
      hitl0 := rfl }

theorem atomX1_eq (hc : St → Cmd → Option St) (e : EOracle) (fuel : Nat) (hg : ∀ s c, hc s c = some (eHandleCommand e fuel s c))
    (ev : Ev) (m : VMX) (l : Line) : atomX1 hc e fuel ev m l = atomX e fuel ev m l := by
  obtain ⟨d, k, e1, e2⟩ := l
  unfold atomX1
  simp only []
  split
  · subst_vars
    rw [atomX_handleCommand, atom_handleCommand]
    simp only [liftRes, setS, hg]
    cases find m.vm.cmds _ <;> rfl
  · rfl

theorem execX1_eq (hc : St → Cmd → Option St) (e : EOracle) (fuel : Nat) (hg : ∀ s c, hc s c = some (eHandleCommand e fuel s c))
    (ev : Ev) : ∀ (st : Stmt) (m : VMX), execX1 hc e fuel ev st m = execX e fuel ev st m := by
  intro st
  induction st with
  | skip => intro m; rfl
  | bad => intro m; rfl
  | atom l => intro m; exact atomX1_eq hc e fuel hg ev m l
  | seq a b iha ihb => intro m; simp only [execX1, execX, iha, ihb]; rfl
  | ite c t el iht ihe =>
    intro m
    by_cases hsp : c = .un "!" (.call (.var "r.findPath"))
    · subst hsp
      simp only [execX1, execX, iht, ihe]
      rfl
    · rw [execX1.eq_5 hc e fuel ev m c t el hsp, execX.eq_5 e fuel ev m c t el hsp]
      simp only [iht, ihe]
      rfl
  | loop c b p ihb ihp => intro m; rfl
  | range k v b ih => intro m; rfl
  | rangeOver k v coll b ih =>
    intro m
    have e1 : execX1 hc e fuel ev b = execX e fuel ev b := by funext m; exact ih m
    cases coll <;> simp only [execX1, execX, e1] <;> rfl
  | sw t tag c ih =>
    intro m
    by_cases hsp : t = true ∧ tag = .lit "v1 := v0.(type)"
    · obtain ⟨rfl, rfl⟩ := hsp
      simp only [execX1, execX, ih]
      rfl
    · have h1 : execX1 hc e fuel ev (.sw t tag c) m = none := by
        unfold execX1
        split <;> first | rfl | (exfalso; simp_all)
      have h2 : execX e fuel ev (.sw t tag c) m = none := by
        unfold execX
        split <;> first | rfl | (exfalso; simp_all)
      rw [h1, h2]
  | case l b r ihb ihr => intro m; simp only [execX1, execX, ihb, ihr]; rfl

theorem muK_eq (hc : St → Cmd → Option St) (e : EOracle) (fuel : Nat) (hg : ∀ s c, hc s c = some (eHandleCommand e fuel s c))
    (s : St) (t : STree) : runMouseUpdateK hc muT expC e fuel s t = some (eMouseUpdate e fuel s t) := by
  unfold runMouseUpdateK
  rw [execX1_eq hc e fuel hg]
  exact mu_all e fuel s t

theorem good_kK1 (e : EOracle) (F : Nat) : GoodK e F (kK1 expA e F) := ⟨knot_hc e F, iFindPath_eq⟩

theorem good_kK1_upd (e : EOracle) (F : Nat) : GoodUpd e F (kK1 expA e F) := fun s t => muK_eq _ e F (knot_hc e F) s t

theorem exec1_kK1 (e : EOracle) (F : Nat) (ev : Ev) (st : Stmt) (f : Nat) (vm : VM) :
    exec1 (kK1 expA e F) e F ev st f vm = exec e F ev st f vm :=
  exec1_eq _ e F (good_kK1 e F) ev st (Or.inr (good_kK1_upd e F)) f vm

theorem knot_fw (e : EOracle) (n : Nat) (s : St) (w : Id) : kFocusWidget expA e n s w = some (eFocusWidget e (n + 1) s w) :=
  fw1_eq _ e n ⟨knot_hc e n, iFindPath_eq⟩ s w

theorem good_kcallees (e : EOracle) (fuel : Nat) : GoodR e (fuel + 1) (kCallees expA e fuel) where
  mouseHE := by
    intro s c r
    simp only [kCallees, runMouseHandleEvent1, runFocusHandleEvent1]
    rw [exec1_kK1]
    exact mhe_exec e (fuel + 1) s c r _ (mouse_fuel_ok e (fuel + 1) s c r)
  mouseEnter := by
    intro s w
    simp only [kCallees, runMouseEnter1, runFocusWidget1]
    rw [exec1_kK1]
    exact me_exec e (fuel + 1) s w
  mouseExit := by
    intro s
    simp only [kCallees, runMouseExit1]
    rw [exec1_kK1]
    exact mx_exec e (fuel + 1) s
  focusHE := by
    intro s ev
    simp only [kCallees, runFocusHandleEvent1]
    rw [exec1_kK1]
    exact fhe_exec e (fuel + 1) s ev _ (Nat.le_refl _)
  update := fun s t => muK_eq _ e (fuel + 1) (knot_hc e (fuel + 1)) s t
  updatePath := by
    intro s t
    simp only [kCallees]
    have gx : GoodX e fuel ({ fwF := some (kFocusWidget expA e fuel), findPathF := iFindPath expA } : VX) := {
      fp := iFindPath_eq
      ht := fun _ _ _ _ => rfl
      cp := fun _ _ _ => rfl
      fw := fun s w => knot_fw e fuel s w
      hitl0 := rfl }
    exact up_exec_x e fuel _ gx s t

theorem kRunInit_eq (e : EOracle) (fuel : Nat) (root : Id) (t : STree) :
    kRunInit expA e fuel root t = some (eRunInit e (fuel + 1) root t) := by
  unfold kRunInit eRunInit
  have h : runFocusHandleEvent1 (kK1 expA e (fuel + 1)) expA.B.focusHandleEvent e (fuel + 1) (St.init root) .init 2 =
      some (eHandleEvent e (fuel + 1) (St.init root) .init) := by
    simp only [runFocusHandleEvent1]
    rw [exec1_kK1]
    exact fhe_exec e (fuel + 1) (St.init root) .init 2 (by simp [St.init])
  simp only [h]
  split <;> rfl

theorem kRun_eq (e : EOracle) (fuel : Nat) (root : Id) (t0 : STree) (steps : List Step) :
    kRun expA e fuel root t0 steps = some (eRun e (fuel + 1) root t0 steps) := by
  unfold kRun eRun
  rw [kRunInit_eq]
  simp only []
  split
  · rfl
  · exact steps_eq e (fuel + 1) _ (good_kcallees e fuel) steps _

end VaxisModel.Lemmas.VxfwBodyKnot
