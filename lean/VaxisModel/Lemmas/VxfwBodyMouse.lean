import VaxisModel.Lemmas.VxfwBody
import VaxisModel.Lemmas.VxfwHoverErr

/-! `mouseHandler.handleEvent`, executed from its body (`Model/VxfwInterp.lean`), is
    `Model.Vxfw.eMouseHandleEvent`: the hit-list update, then the same three-phase dispatch over the
    widgets under the pointer, the deepest one being the target. -/

namespace VaxisModel.Lemmas.VxfwBody
open VaxisModel.Model VaxisModel.Model.GoSyn VaxisModel.Model.Vxfw VaxisModel.Model.VxfwInterp
open VaxisModel.Model.DynExec (Stmt parseBody)
open VaxisModel.Lemmas.Vxfw (eOffers_single eDispatch_eq routeOf)

def mhe0 : Stmt :=
  (.atom ⟨0, .assign, (.var "r.mouse"), (.un "&" (.var "v1"))⟩)

def mhe1 : Stmt :=
  (.atom ⟨0, .define, (.var "v2"), (.arg (.arg (.call (.var "r.update")) (.var "v0")) (.var "r.lastFrame"))⟩)

def mhe2 : Stmt :=
  (.ite (.bin "!=" (.var "v2") (.var "nil"))
    (.seq (.atom ⟨1, .returnS, (.var "v2"), .none⟩)
    .skip)
    .skip)

def mhe3 : Stmt :=
  (.ite (.bin "==" (.arg (.call (.var "len")) (.var "r.lastHits")) (.int 0))
    (.seq (.atom ⟨1, .returnS, (.var "nil"), .none⟩)
    .skip)
    .skip)

def mhe4 : Stmt :=
  (.atom ⟨0, .assign, (.var "v0.consumeEvent"), (.var "false")⟩)

def mhe5 : Stmt :=
  (.rangeOver "_" "v3" (.var "r.lastHits")
    (.seq (.atom ⟨1, .define, (.pair (.var "v4") (.var "v5")), (.arg (.arg (.call (.var "assert")) (.var "v3.w")) (.var "EventCapturer"))⟩)
    (.seq (.ite (.un "!" (.var "v5"))
      (.seq (.atom ⟨2, .continueS, .none, .none⟩)
      .skip)
      .skip)
    (.seq (.atom ⟨1, .define, (.pair (.var "v6") (.var "v7")), (.arg (.call (.var "v4.CaptureEvent")) (.var "v1"))⟩)
    (offerTail 1 "v6" "v7")))))

def mhe6 : Stmt :=
  (.atom ⟨0, .define, (.var "v8"), (.index (.var "r.lastHits") (.bin "-" (.arg (.call (.var "len")) (.var "r.lastHits")) (.int 1)))⟩)

def mhe7 : Stmt :=
  (.atom ⟨0, .define, (.pair (.var "v9") (.var "v2")), (.arg (.arg (.call (.var "v8.w.HandleEvent")) (.var "v1")) (.var "TargetPhase"))⟩)

def mhe8 : Stmt :=
  (.ite (.bin "!=" (.var "v2") (.var "nil"))
    (.seq (.atom ⟨1, .returnS, (.var "v2"), .none⟩)
    .skip)
    .skip)

def mhe9 : Stmt :=
  (.atom ⟨0, .exprS, (.arg (.call (.var "v0.handleCommand")) (.var "v9")), .none⟩)

def mhe10 : Stmt :=
  (.ite (.var "v0.consumeEvent")
    (.seq (.atom ⟨1, .assign, (.var "v0.consumeEvent"), (.var "false")⟩)
    (.seq (.atom ⟨1, .returnS, (.var "nil"), .none⟩)
    .skip))
    .skip)

def mhe11 : Stmt :=
  (.seq (.atom ⟨1, .define, (.var "v10"), (.bin "-" (.arg (.call (.var "len")) (.var "r.lastHits")) (.int 2))⟩)
  .skip)

def mhe12 : Stmt :=
  (.loop (.bin ">=" (.var "v10") (.int 0))
    (.seq (.atom ⟨1, .define, (.var "v11"), (.index (.var "r.lastHits") (.var "v10"))⟩)
    (.seq (.atom ⟨1, .define, (.pair (.var "v12") (.var "v13")), (.arg (.arg (.call (.var "v11.w.HandleEvent")) (.var "v1")) (.var "BubblePhase"))⟩)
    (offerTail 1 "v12" "v13")))
    (.seq (.atom ⟨2, .subAssign, (.var "v10"), (.int 1)⟩)
    .skip))

def mhe13 : Stmt :=
  (.atom ⟨0, .returnS, (.var "nil"), .none⟩)

def mheParts : List Stmt := [mhe0, mhe1, mhe2, mhe3, mhe4, mhe5, mhe6, mhe7, mhe8, mhe9, mhe10, mhe11, mhe12, mhe13]

theorem parse_mhe : parseBody VxfwBodyExpected.mouseHandleEvent = seqOf mheParts := by decide +kernel

def capBodyM : Stmt := match mhe5 with | .rangeOver _ _ _ b => b | _ => .skip

theorem cap_bodyM (e : EOracle) (fuel : Nat) (ev : Ev) (lf : Nat) : CapBody e fuel ev lf capBodyM := by
  intro vm w
  cases hc : e.o.captures w
  · simp [vxfw_exec, view, capBodyM, mhe5, hc]
  · simp only [capBodyM, mhe5, exec]
    simp [vxfw_exec, hc]
    exact offerTail_exec e fuel ev lf 1 "v6" "v7" (by decide) _ w ev .capture

variable {e : EOracle} {fuel : Nat} {ev : Ev} {lf : Nat} {p : List Id}

/-- `m.lastHits[len(m.lastHits)-1].w.HandleEvent(ev, TargetPhase)` with what follows every handler call. -/
theorem tgt_doesM (tg : Id) (hp : p.getLast? = some tg) :
    Does e fuel ev lf "r.lastHits" p [mhe6, mhe7, mhe8, mhe9, mhe10] [⟨fun _ => tg, .target⟩] := by
  intro vm hC
  have hm := hC.lastHits_eq
  have hidx : (vm.s.lastHits.map (·.w))[vm.s.lastHits.length - 1]? = some tg := by
    rw [← hm, List.getLast?_eq_getElem?, List.length_map] at hp; exact hp
  have hne : vm.s.lastHits ≠ [] := by intro h; rw [h] at hidx; simp at hidx
  have hlen : 0 < vm.s.lastHits.length := List.length_pos_iff.mpr hne
  have hneg : ¬ ((vm.s.lastHits.length : Int) - 1 < 0) := by omega
  have hs : exec e fuel ev (seqOf [mhe6, mhe7, mhe8, mhe9, mhe10]) lf vm =
      exec e fuel ev (offerTail 0 "v9" "v2") lf (doCall e (bindId vm "v8" tg) "v9" "v2" tg ev .target) := by
    rw [show seqOf [mhe6, mhe7, mhe8, mhe9, mhe10] = .seq mhe6 (.seq mhe7 (offerTail 0 "v9" "v2")) from rfl]
    simp only [mhe6, mhe7, exec]
    simp [vxfw_exec, evList, hidx, hneg]
  obtain ⟨vm', h, h1, _, hl⟩ := view_some (offerTail_exec e fuel ev lf 0 "v9" "v2" (by decide) (bindId vm "v8" tg) tg ev .target)
  rw [eOffers_single, hs]
  exact ⟨vm', h, h1, hl⟩

def bubBodyM : Stmt := match mhe12 with | .loop _ b _ => b | _ => .skip

theorem bub_bodyM (lf : Nat) (vm : VM) (k : Nat) (w : Id) (hC : Chain "r.lastHits" p vm)
    (hi : find vm.ints "v10" = some (k : Int)) (hw : p[k]? = some w) :
    view (exec e fuel ev bubBodyM lf vm) =
      some ((eOffer e fuel vm.s w ev .bubble).1, vm.ints, vm.lists, ctlOf (eOffer e fuel vm.s w ev .bubble).2) := by
  have hneg : ¬ ((k : Int) < 0) := by omega
  simp only [bubBodyM, mhe12, exec]
  simp [vxfw_exec, hC.get, hi, hw, hneg]
  exact offerTail_exec e fuel ev lf 1 "v12" "v13" (by decide) _ w ev .bubble

theorem mhe_exec (e : EOracle) (fuel : Nat) (s : St) (col row : Int) (lf : Nat)
    (hlf : (eMouseUpdate e fuel { s with mouse := some (col, row) } s.lastFrame).1.lastHits.length + 1 ≤ lf) :
    runMouseHandleEvent (seqOf mheParts) e fuel s col row lf = some (eMouseHandleEvent e fuel s col row) := by
  unfold runMouseHandleEvent runFocusHandleEvent eMouseHandleEvent mheParts
  generalize hr : eMouseUpdate e fuel { s with mouse := some (col, row) } s.lastFrame = r at hlf ⊢
  obtain ⟨s1, b1⟩ := r
  simp only [] at hlf ⊢
  have h01 : exec e fuel (.mouse col row) (seqOf [mhe0, mhe1]) lf ⟨s, [], [], [], [], []⟩ =
      some (⟨s1, [], [], [], [("v2", b1)], []⟩, .norm) := by
    simp [vxfw_exec, mhe0, mhe1, hr]
  rw [show [mhe0, mhe1, mhe2, mhe3, mhe4, mhe5, mhe6, mhe7, mhe8, mhe9, mhe10, mhe11, mhe12, mhe13] =
      [mhe0, mhe1] ++ [mhe2, mhe3, mhe4, mhe5, mhe6, mhe7, mhe8, mhe9, mhe10, mhe11, mhe12, mhe13] from rfl, seqOf_append, h01]
  simp only []
  cases b1 with
  | true => simp [vxfw_exec, mhe2]
  | false =>
    simp only [Bool.false_eq_true, ↓reduceIte]
    cases hl : s1.lastHits.getLast? with
    | none =>
      have hnil : s1.lastHits = [] := List.getLast?_eq_none_iff.mp hl
      simp [vxfw_exec, evList, mhe2, mhe3, hnil]
    | some tg =>
      have hne : s1.lastHits ≠ [] := by intro h; rw [h] at hl; simp at hl
      have hlen : 0 < s1.lastHits.length := List.length_pos_iff.mpr hne
      have hlen' : ¬ ((s1.lastHits.length : Int) = 0) := by omega
      have h24 : exec e fuel (.mouse col row) (seqOf [mhe2, mhe3, mhe4]) lf ⟨s1, [], [], [], [("v2", false)], []⟩ =
          some (⟨{ s1 with consume := false }, [], [], [], [("v2", false)], []⟩, .norm) := by
        simp [vxfw_exec, evList, mhe2, mhe3, mhe4, hne]
      -- capture loop, target, bubble loop over the hit list read live: the route; `return nil`
      obtain ⟨vm', hx, hs⟩ := (((cap_does capBodyM (cap_bodyM e fuel (.mouse col row) lf)).append
          ((tgt_doesM tg.w (by rw [List.getLast?_map, hl]; rfl)).append
            (bub_does ⟨bub_cond, bub_post e fuel (.mouse col row), bub_bodyM⟩ (by simpa using hlf)))).ret
        (l := "r.lastHits") (p := s1.lastHits.map fun h => h.w) ⟨{ s1 with consume := false }, [], [], [], [("v2", false)], []⟩
        (chain_lastHits _))
      rw [show [mhe2, mhe3, mhe4, mhe5, mhe6, mhe7, mhe8, mhe9, mhe10, mhe11, mhe12, mhe13] =
          [mhe2, mhe3, mhe4] ++ (([.rangeOver "_" "v3" (.var "r.lastHits") capBodyM] ++ ([mhe6, mhe7, mhe8, mhe9, mhe10] ++
            [bubInit "r.lastHits", .loop bubCond bubBodyM bubPost])) ++ [fhe9]) from rfl, seqOf_append, h24]
      simp only []
      rw [hx, eDispatch_eq]
      simp only [hs, routeOf, List.append_assoc]

end VaxisModel.Lemmas.VxfwBody
