import VaxisModel.Lemmas.VxfwBodyHover
import VaxisModel.Lemmas.VxfwBodyX

/-! The `Run` loop over the interpreted bodies (`Model.VxfwInterp.bRun`, at the bodies `expB`) is `Model.Vxfw.eRun`.
    At the end, two facts `Props/C15Body.lean` uses: the trace of a fold of `notify` over a hit list with handlers that
    answer nil (`foldl_notify_quiet`), and an `eMouseUpdate` that fails keeps `lastHits` (`eMouseUpdate_err_hits`). -/

namespace VaxisModel.Lemmas.VxfwBodyRun
open VaxisModel.Model VaxisModel.Model.GoSyn VaxisModel.Model.Vxfw VaxisModel.Model.VxfwInterp
open VaxisModel.Model.DynExec (Stmt parseBody)
open VaxisModel.Lemmas.Vxfw (eNotify_hits eNotifyLoop_hits)
open VaxisModel.Lemmas.VxfwBody VaxisModel.Lemmas.VxfwBodyX

def expB : Bodies := ⟨seqOf fheParts, seqOf mheParts, muT, seqOf mxParts, seqOf meParts, upT⟩

theorem eMouseUpdate_hits (e : EOracle) (fuel : Nat) (s : St) (t : STree) (c r : Int) (hm : s.mouse = some (c, r)) :
    (eMouseUpdate e fuel s t).1.lastHits = s.lastHits ∨ (eMouseUpdate e fuel s t).1.lastHits = hitsAt t c r := by
  unfold eMouseUpdate
  simp only [hm]
  split
  · left; exact eNotifyLoop_hits e fuel _ _ _ _
  · split
    · left; rw [eNotifyLoop_hits, eNotifyLoop_hits]
    · right; rfl

theorem mouse_fuel_ok (e : EOracle) (fuel : Nat) (s : St) (c r : Int) :
    (eMouseUpdate e fuel { s with mouse := some (c, r) } s.lastFrame).1.lastHits.length + 1 ≤ mouseLoopFuel s c r := by
  unfold mouseLoopFuel
  rcases eMouseUpdate_hits e fuel { s with mouse := some (c, r) } s.lastFrame c r rfl with h | h
  · rw [h]; simp only []; omega
  · rw [h]; omega

theorem bRunEvent_eq (e : EOracle) (fuel : Nat) (s : St) (ev : RunEv) :
    bRunEvent expB e fuel s ev = some (eRunEvent e (fuel + 1) s ev) := by
  cases ev with
  | resize => rfl
  | redraw => rfl
  | mouse c r => exact mhe_exec e (fuel + 1) s c r _ (mouse_fuel_ok e (fuel + 1) s c r)
  | focusIn => exact me_exec e (fuel + 1) s s.root
  | focusOut => exact mx_exec e (fuel + 1) _
  | key k => exact fhe_exec e (fuel + 1) s (.key k) _ (Nat.le_refl _)
  | other k => exact fhe_exec e (fuel + 1) s (.custom k) _ (Nat.le_refl _)

theorem bRunFrame_eq (e : EOracle) (fuel : Nat) (s : St) (t1 t2 : STree) :
    bRunFrame expB e fuel s t1 t2 = some (eRunFrame e (fuel + 1) s t1 t2) := by
  unfold bRunFrame eRunFrame
  cases hr : s.redraw
  · rfl
  · simp only [Bool.not_true, Bool.false_eq_true, ↓reduceIte, expB, mu_exec, up_exec]
    split <;> rfl

theorem bRunInit_eq (e : EOracle) (fuel : Nat) (root : Id) (t : STree) :
    bRunInit expB e fuel root t = some (eRunInit e (fuel + 1) root t) := by
  unfold bRunInit eRunInit
  have h := fhe_exec e (fuel + 1) (St.init root) .init 2 (by simp [St.init])
  simp only [expB, h]
  split <;> rfl

theorem steps_loop (e : EOracle) (F : Nat) (stepF : St → Step → Option (St × Bool)) (stepsF : St → List Step → Option (St × Bool))
    (hnil : ∀ s, stepsF s [] = some (s, false))
    (hcons : ∀ s st rest, stepsF s (st :: rest) =
      match stepF s st with
      | none => none
      | some r =>
        if r.2 then some r else
        match st with
        | .ev _ => if r.1.quit then some r else stepsF r.1 rest
        | .frame _ _ => stepsF r.1 rest)
    (hstep : ∀ s st, stepF s st = some (eRunStep e F s st)) :
    ∀ (steps : List Step) (s : St), stepsF s steps = some (eRunSteps e F s steps)
  | [], s => hnil s
  | st :: rest, s => by
    rw [hcons, hstep]
    unfold eRunSteps
    simp only []
    split
    · rfl
    · cases st with
      | ev ev =>
        simp only []
        split
        · rfl
        · exact steps_loop e F stepF stepsF hnil hcons hstep rest _
      | frame t1 t2 => exact steps_loop e F stepF stepsF hnil hcons hstep rest _

theorem bRunSteps_eq (e : EOracle) (fuel : Nat) (steps : List Step) (s : St) :
    bRunSteps expB e fuel s steps = some (eRunSteps e (fuel + 1) s steps) :=
  steps_loop e (fuel + 1) (bRunStep expB e fuel) (bRunSteps expB e fuel) (fun _ => rfl) (fun _ _ _ => rfl)
    (fun s st => by cases st with
      | ev ev => exact bRunEvent_eq e fuel s ev
      | frame t1 t2 => exact bRunFrame_eq e fuel s t1 t2) steps s

theorem bRun_eq (e : EOracle) (fuel : Nat) (root : Id) (t0 : STree) (steps : List Step) :
    bRun expB e fuel root t0 steps = some (eRun e (fuel + 1) root t0 steps) := by
  unfold bRun eRun
  rw [bRunInit_eq]
  simp only []
  split
  · rfl
  · exact bRunSteps_eq e fuel steps _

theorem notify_quiet (o : Oracle) (hq : ∀ w ev ph k, o.h w ev ph k = .nil) (fuel : Nat) (s : St) (w : Id) (ev : Ev) :
    notify o (fuel + 1) s w ev = { s with calls := s.calls + 1, trace := s.trace ++ [.call w ev .target] } := by
  simp [notify, call, hq, handleCommand, Cmd.flatten]

theorem foldl_notify_quiet (o : Oracle) (hq : ∀ w ev ph k, o.h w ev ph k = .nil) (fuel : Nat) (ev : Ev) (skip : Hit → Bool) :
    ∀ (l : List Hit) (s : St),
      (l.foldl (fun s h => if skip h then s else notify o (fuel + 1) s h.w ev) s).trace =
        s.trace ++ (l.filter (fun h => !skip h)).map (fun h => Entry.call h.w ev .target) ∧
      (l.foldl (fun s h => if skip h then s else notify o (fuel + 1) s h.w ev) s).lastHits = s.lastHits
  | [], s => by simp
  | h :: l, s => by
    rw [List.foldl_cons]
    cases hs : skip h
    · obtain ⟨h1, h2⟩ := foldl_notify_quiet o hq fuel ev skip l (notify o (fuel + 1) s h.w ev)
      simp only [Bool.false_eq_true, ↓reduceIte]
      rw [h1, h2, notify_quiet o hq]
      simp [hs]
    · obtain ⟨h1, h2⟩ := foldl_notify_quiet o hq fuel ev skip l s
      simp only [↓reduceIte]
      rw [h1, h2]
      simp [hs]

theorem eMouseUpdate_err_hits (e : EOracle) (fuel : Nat) (s : St) (t : STree) (h : (eMouseUpdate e fuel s t).2 = true) :
    (eMouseUpdate e fuel s t).1.lastHits = s.lastHits := by
  unfold eMouseUpdate at h ⊢
  cases hm : s.mouse with
  | none => rfl
  | some p =>
    obtain ⟨c, r⟩ := p
    simp only [hm] at h ⊢
    by_cases h1 : (eNotifyLoop e fuel .mouseLeave (fun h => (hitsAt t c r).contains h) s.lastHits s).2 = true
    · rw [if_pos h1]
      exact eNotifyLoop_hits e fuel _ _ _ _
    · rw [if_neg h1] at h ⊢
      by_cases h2 : (eNotifyLoop e fuel .mouseEnter (fun h => s.lastHits.contains h) (hitsAt t c r)
          (eNotifyLoop e fuel .mouseLeave (fun h => (hitsAt t c r).contains h) s.lastHits s).1).2 = true
      · rw [if_pos h2]
        rw [eNotifyLoop_hits, eNotifyLoop_hits]
      · rw [if_neg h2] at h
        exact absurd h (by simp)

end VaxisModel.Lemmas.VxfwBodyRun
