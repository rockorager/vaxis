import VaxisModel.Model.VxfwInterpRun
import VaxisModel.Lemmas.VxfwBodyAll
import VaxisModel.Lemmas.VxfwLineEq

/-! The two arms of the `select` in `App.Run`, executed from their regenerated statement lists (`Model/VxfwInterpRun.lean`), are
    the model's `eRunEvent` (+ the `shouldQuit` test of `eRunSteps`) and `eRunFrame`; the loop over them is `eRunSteps`. -/

namespace VaxisModel.Lemmas.VxfwBodySel
open VaxisModel.Model VaxisModel.Model.GoSyn VaxisModel.Model.Vxfw VaxisModel.Model.VxfwInterp
open VaxisModel.Model.DynExec (Stmt parseBody)

/-- `if err != nil { return err }` (the `return` at depth `d`). -/
@[vxfw_rexec] def retIfErr (d : Nat) (v : String) : Stmt :=
  .ite (.bin "!=" (.var v) (.var "nil")) (.seq (.atom ⟨d, .returnS, (.var v), .none⟩) .skip) .skip

def reT : Stmt :=
  (.seq (.sw true (.lit "v5 := v4.(type)")
      (.case (.var "vaxis.Resize")
        (.seq (.atom ⟨2, .assign, (.var "r.redraw"), (.var "true")⟩)
        .skip)
      (.case (.var "vaxis.Mouse")
        (.seq (.atom ⟨2, .define, (.var "v6"), (.arg (.arg (.call (.var "v3.handleEvent")) (.var "r")) (.var "v5"))⟩)
        (.seq (retIfErr 3 "v6")
        .skip))
      (.case (.var "vaxis.FocusIn")
        (.seq (.atom ⟨2, .define, (.var "v7"), (.arg (.arg (.call (.var "v3.mouseEnter")) (.var "r")) (.var "v0"))⟩)
        (.seq (retIfErr 3 "v7")
        .skip))
      (.case (.var "vaxis.FocusOut")
        (.seq (.atom ⟨2, .assign, (.var "v3.mouse"), (.var "nil")⟩)
        (.seq (.atom ⟨2, .define, (.var "v8"), (.arg (.call (.var "v3.mouseExit")) (.var "r"))⟩)
        (.seq (retIfErr 3 "v8")
        .skip)))
      (.case (.var "vaxis.Key")
        (.seq (.atom ⟨2, .define, (.var "v9"), (.arg (.arg (.call (.var "r.fh.handleEvent")) (.var "r")) (.var "v5"))⟩)
        (.seq (retIfErr 3 "v9")
        .skip))
      (.case (.var "vaxis.Redraw")
        (.seq (.atom ⟨2, .assign, (.var "r.redraw"), (.var "true")⟩)
        .skip)
      (.case (.var "default")
        (.seq (.atom ⟨2, .define, (.var "v10"), (.arg (.arg (.call (.var "r.fh.handleEvent")) (.var "r")) (.var "v5"))⟩)
        (.seq (retIfErr 3 "v10")
        .skip))
      .skip))))))))
  (.seq (.ite (.var "r.shouldQuit")
      (.seq (.atom ⟨1, .returnS, (.var "nil"), .none⟩)
      .skip)
      .skip)
  .skip))
def rfA (K : Stmt) : Stmt :=
  (.seq (.ite (.un "!" (.var "r.redraw"))
      (.seq (.atom ⟨1, .continueS, .none, .none⟩)
      .skip)
      .skip)
  (.seq (.atom ⟨0, .assign, (.var "r.redraw"), (.var "false")⟩)
  (.seq (.atom ⟨0, .define, (.pair (.var "v11") (.var "v12")), (.arg (.call (.var "r.layout")) (.var "v0"))⟩)
  (.seq (retIfErr 1 "v12")
  (.seq (.atom ⟨0, .assign, (.var "v12"), (.arg (.arg (.call (.var "v3.update")) (.var "r")) (.var "v11"))⟩)
  (.seq (retIfErr 1 "v12")
  K))))))
def rfB (K : Stmt) : Stmt :=
  (.seq (.ite (.var "r.redraw")
      (.seq (.atom ⟨1, .assign, (.var "r.redraw"), (.var "false")⟩)
      (.seq (.atom ⟨1, .assign, (.pair (.var "v11") (.var "v12")), (.arg (.call (.var "r.layout")) (.var "v0"))⟩)
      (.seq (retIfErr 2 "v12")
      .skip)))
      .skip)
  K)
def rfC : Stmt :=
  (.seq (.atom ⟨0, .define, (.var "v13"), (.call (.var "r.vx.Window"))⟩)
  (.seq (.atom ⟨0, .exprS, (.call (.var "v13.Clear")), .none⟩)
  (.seq (.atom ⟨0, .exprS, (.call (.var "r.vx.HideCursor")), .none⟩)
  (.seq (.atom ⟨0, .exprS, (.arg (.arg (.call (.var "v11.render")) (.arg (.arg (.arg (.arg (.call (.var "v13.New")) (.int 0)) (.int 0)) (.arg (.call (.var "int")) (.var "v11.Size.Width"))) (.arg (.call (.var "int")) (.var "v11.Size.Height")))) (.var "r.fh.focused")), .none⟩)
  (.seq (.sw false (.var "r.refresh")
      (.case (.var "true")
        (.seq (.atom ⟨2, .exprS, (.call (.var "r.vx.Refresh")), .none⟩)
        (.seq (.atom ⟨2, .assign, (.var "r.refresh"), (.var "false")⟩)
        .skip))
      (.case (.var "false")
        (.seq (.atom ⟨2, .exprS, (.call (.var "r.vx.Render")), .none⟩)
        .skip)
      .skip)))
  (.seq (.ite (.var "r.debug")
      (.seq (.atom ⟨1, .exprS, (.arg (.arg (.arg (.call (.var "debugPrintWidget")) (.var "v11")) (.int 0)) (.var "r.fh.focused")), .none⟩)
      (.seq (.atom ⟨1, .assign, (.var "r.debug"), (.var "false")⟩)
      .skip))
      .skip)
  (.seq (.atom ⟨0, .exprS, (.arg (.arg (.call (.var "r.fh.updatePath")) (.var "r")) (.var "v11")), .none⟩)
  (.seq (.atom ⟨0, .assign, (.var "v3.lastFrame"), (.var "v11")⟩)
  .skip))))))))
def rfT : Stmt := rfA (rfB rfC)

theorem parse_re : parseBody VxfwBodyExpected.runEventBlock = reT := by decide +kernel
theorem parse_rf : parseBody VxfwBodyExpected.runFrameBlock = rfT := by decide +kernel

/-- The callees compute the model functions at budget `F`. -/
structure GoodR (e : EOracle) (F : Nat) (C : RCallees) : Prop where
  mouseHE : ∀ s c r, C.mouseHE s c r = some (eMouseHandleEvent e F s c r)
  mouseEnter : ∀ s w, C.mouseEnter s w = some (eMouseEnter e F s w)
  mouseExit : ∀ s, C.mouseExit s = some (eMouseExit e F s)
  focusHE : ∀ s ev, C.focusHE s ev = some (eHandleEvent e F s ev)
  update : ∀ s t, C.update s t = some (eMouseUpdate e F s t)
  updatePath : ∀ s t, C.updatePath s t = some (eUpdatePath e F s t)

/-- How the event arm ends. -/
def evCtl (r : St × Bool) : Ctl := if r.2 then .ret true else if r.1.quit then .ret false else .norm

theorem re_exec (e : EOracle) (F : Nat) (C : RCallees) (g : GoodR e F C) (s : St) (ev : RunEv) :
    runEventBlock reT C s ev = some ((eRunEvent e F s ev).1, evCtl (eRunEvent e F s ev)) := by
  cases ev with
  | resize | redraw =>
    simp [vxfw_rexec, evCtl, reT, eRunEvent]
    by_cases hq : s.quit = true <;> simp [hq]
  -- the arms with a callee: name the model's result, run the arm, then split on error / `shouldQuit` in what is left
  | _ =>
    generalize hx : eRunEvent e F s _ = x
    obtain ⟨s', b⟩ := x
    simp only [eRunEvent] at hx
    simp [vxfw_rexec, evCtl, reT, g.mouseHE, g.mouseEnter, g.mouseExit, g.focusHE, hx]
    cases b <;> cases hq : s'.quit <;> simp [hq]

/-- How the frame arm ends. -/
def frCtl (s : St) (r : St × Bool) : Ctl := if !s.redraw then .cont else if r.2 then .ret true else .norm

/-- Stage C: render (sort), `switch a.refresh`, `if a.debug`, `updatePath`, `mh.lastFrame = s`. -/
theorem rfC_exec (e : EOracle) (F : Nat) (C : RCallees) (g : GoodR e F C) (m : RM) (t : STree)
    (ht : VxfwInterp.find m.trees "v11" = some t) :
    (rexec C .resize rfC "" m).map (fun r => (r.1.s, r.2)) =
      some ({ (eUpdatePath e F { m.s with refresh := false, debug := false } (sortTree t)) with lastFrame := sortTree t }, .norm) := by
  obtain ⟨s1, fl, tr, ly⟩ := m
  obtain ⟨rd, rf, q, cns, dbg, foc, root, path, fh, lf, lh, mo, calls, trc, st⟩ := s1
  have hp := g.updatePath
  simp only [] at ht
  simp [vxfw_rexec, rfC, ht, hp]
  cases rf <;> cases dbg <;> simp [VxfwInterp.find]

/-- Stage B: the second layout if a hover handler asked for a redraw. -/
theorem rfB_exec (C : RCallees) (m : RM) (t1 t2 : STree) (K : Stmt) (ht : VxfwInterp.find m.trees "v11" = some t1)
    (hl : m.layouts = [t2]) :
    ∃ m', rexec C .resize (rfB K) "" m = rexec C .resize K "" m' ∧
      m'.s = (if m.s.redraw then { m.s with redraw := false, trace := m.s.trace ++ [.draw] } else m.s) ∧
      VxfwInterp.find m'.trees "v11" = some (if m.s.redraw then t2 else t1) := by
  obtain ⟨s1, fl, tr, ly⟩ := m
  simp only [] at ht hl
  subst hl
  cases hrd : s1.redraw
  · exact ⟨⟨s1, fl, tr, [t2]⟩, by simp [vxfw_rexec, rfB, hrd], by simp [], by simp [ht]⟩
  · refine ⟨⟨{ s1 with redraw := false, trace := s1.trace ++ [.draw] }, ("v12", false) :: fl, ("v11", t2) :: tr, []⟩, ?_, by simp [], by simp [VxfwInterp.find]⟩
    simp [vxfw_rexec, rfB, hrd]

theorem rf_exec (e : EOracle) (F : Nat) (C : RCallees) (g : GoodR e F C) (s : St) (t1 t2 : STree) :
    runFrameBlock rfT C s t1 t2 = some ((eRunFrame e F s t1 t2).1, frCtl s (eRunFrame e F s t1 t2)) := by
  cases hrd : s.redraw
  · simp [vxfw_rexec, rfT, rfA, eRunFrame, frCtl, hrd]
  · have hu := g.update { s with redraw := false, trace := s.trace ++ [.draw] } t1
    unfold eRunFrame runFrameBlock
    simp only [hrd, Bool.not_true, Bool.false_eq_true, ↓reduceIte, frCtl]
    rcases hx : eMouseUpdate e F { s with redraw := false, trace := s.trace ++ [.draw] } t1 with ⟨s1, b1⟩
    rw [hx] at hu
    -- stage A ends with `v11 = t1`, `t2` the next tree `layout` returns, and the error of `update` in `v12`
    have hA : rexec C .resize rfT "" { s := s, layouts := [t1, t2] } =
        if b1 then some (⟨s1, [("v12", true), ("v12", false)], [("v11", t1)], [t2]⟩, .ret true)
        else rexec C .resize (rfB rfC) "" ⟨s1, [("v12", false), ("v12", false)], [("v11", t1)], [t2]⟩ := by
      simp [vxfw_rexec, rfT, rfA, hrd, hu]
      cases b1 <;> rfl
    rw [hA]
    cases b1
    · obtain ⟨mB, hB, hsB, htB⟩ := rfB_exec C ⟨s1, [("v12", false), ("v12", false)], [("v11", t1)], [t2]⟩ t1 t2 rfC
        (by simp [VxfwInterp.find]) rfl
      have hC := rfC_exec e F C g mB _ htB
      simp only [Bool.false_eq_true, if_false]
      rw [hB, hC, hsB]
      cases s1.redraw <;> simp
    · simp

theorem steps_eq (e : EOracle) (F : Nat) (C : RCallees) (g : GoodR e F C) : ∀ (steps : List Step) (s : St),
    rRunSteps reT rfT C s steps = some (eRunSteps e F s steps)
  | [], _ => rfl
  | .ev ev :: rest, s => by
    unfold rRunSteps eRunSteps
    rw [re_exec e F C g s ev]
    rcases hx : eRunEvent e F s ev with ⟨s', b⟩
    simp only [eRunStep, evCtl, hx]
    cases b
    · cases hq : s'.quit
      · simp only [Bool.false_eq_true, ↓reduceIte]
        exact steps_eq e F C g rest s'
      · simp only [Bool.false_eq_true, ↓reduceIte]
    · simp only [↓reduceIte]
  | .frame t1 t2 :: rest, s => by
    unfold rRunSteps eRunSteps
    rw [rf_exec e F C g s t1 t2]
    cases hrd : s.redraw
    · have h0 : eRunFrame e F s t1 t2 = (s, false) := by simp [eRunFrame, hrd]
      simp only [eRunStep, frCtl, hrd, h0, Bool.not_false, ↓reduceIte, Bool.false_eq_true]
      exact steps_eq e F C g rest s
    · rcases hx : eRunFrame e F s t1 t2 with ⟨s', b⟩
      simp only [eRunStep, frCtl, hrd, hx]
      cases b
      · simp only [Bool.not_true, Bool.false_eq_true, ↓reduceIte]
        exact steps_eq e F C g rest s'
      · simp only [Bool.not_true, Bool.false_eq_true, ↓reduceIte]

open VaxisModel.Lemmas.VxfwBody VaxisModel.Lemmas.VxfwBodyRun VaxisModel.Lemmas.VxfwBodyAll in
theorem good_rcallees (e : EOracle) (fuel : Nat) : GoodR e (fuel + 1) (rCallees expB expC e fuel) where
  mouseHE := fun s c r => mhe_exec e (fuel + 1) s c r _ (mouse_fuel_ok e (fuel + 1) s c r)
  mouseEnter := fun s w => me_exec e (fuel + 1) s w
  mouseExit := fun s => mx_exec e (fuel + 1) s
  focusHE := fun s ev => fhe_exec e (fuel + 1) s ev _ (Nat.le_refl _)
  update := fun s t => mu_all e (fuel + 1) s t
  updatePath := fun s t => up_all e fuel s t

open VaxisModel.Lemmas.VxfwBodyRun VaxisModel.Lemmas.VxfwBodyAll in
theorem rRun_eq (e : EOracle) (fuel : Nat) (root : Id) (t0 : STree) (steps : List Step) :
    rRun reT rfT expB expC e fuel root t0 steps = some (eRun e (fuel + 1) root t0 steps) := by
  unfold rRun eRun
  rw [bRunInit_eq]
  simp only []
  split
  · rfl
  · exact steps_eq e (fuel + 1) _ (good_rcallees e fuel) steps _

end VaxisModel.Lemmas.VxfwBodySel
