import VaxisModel.Model.VxfwInterpTree
import VaxisModel.Lemmas.VxfwBodyExpected
import VaxisModel.Lemmas.VxfwLineEq

/-! `hitTest`, `SubSurface.containsPoint`, `focusHandler.childHasFocus` and `focusHandler.findPath`, executed from their bodies
    (`Model/VxfwInterpTree.lean`), are the model's `hitTest` (appended to the `hits` argument), `containsPoint`,
    `childHasFocus` (appended to `f.path`, with the returned bool) and `findPath` (`fp_exec`: `childHasFocus` run from its
    body, the root appended, the reversal loop `fp_loop` with its invariant `RevInv`). -/

namespace VaxisModel.Lemmas.VxfwBodyTree
open VaxisModel.Model VaxisModel.Model.GoSyn VaxisModel.Model.Vxfw VaxisModel.Model.VxfwInterpTree
open VaxisModel.Model.DynExec (Stmt parseBody)

/-- A child entry `(col, row, z, surface)` read by name: its offset and its surface. -/
abbrev _root_.VaxisModel.Model.Vxfw.Kid.col (k : Kid) : Int := k.1
abbrev _root_.VaxisModel.Model.Vxfw.Kid.row (k : Kid) : Int := k.2.1
abbrev _root_.VaxisModel.Model.Vxfw.Kid.sub (k : Kid) : STree := k.2.2.2

def htBody : Stmt :=
      (.seq (.ite (.un "!" (.arg (.arg (.call (.var "v5.containsPoint")) (.arg (.call (.var "int")) (.var "v2"))) (.arg (.call (.var "int")) (.var "v3"))))
          (.seq (.atom ⟨2, .continueS, .none, .none⟩)
          .skip)
          .skip)
      (.seq (.atom ⟨1, .define, (.var "v6"), (.bin "-" (.var "v2") (.arg (.call (.var "uint16")) (.var "v5.Origin.Col")))⟩)
      (.seq (.atom ⟨1, .define, (.var "v7"), (.bin "-" (.var "v3") (.arg (.call (.var "uint16")) (.var "v5.Origin.Row")))⟩)
      (.seq (.atom ⟨1, .assign, (.var "v1"), (.arg (.arg (.arg (.arg (.call (.var "hitTest")) (.var "v5.Surface")) (.var "v1")) (.var "v6")) (.var "v7"))⟩)
      .skip))))

def htPre : Stmt :=
  (.seq (.atom ⟨0, .define, (.var "v4"), (.lit "hitResult{v2:v2,v3:v3,w:v0.Widget}")⟩)
  (.seq (.atom ⟨0, .assign, (.var "v1"), (.arg (.arg (.call (.var "append")) (.var "v1")) (.var "v4"))⟩)
  .skip))

def htT : Stmt :=
  (.seq (.atom ⟨0, .define, (.var "v4"), (.lit "hitResult{v2:v2,v3:v3,w:v0.Widget}")⟩)
  (.seq (.atom ⟨0, .assign, (.var "v1"), (.arg (.arg (.call (.var "append")) (.var "v1")) (.var "v4"))⟩)
  (.seq (.rangeOver "_" "v5" (.var "v0.Children") htBody)
  (.seq (.atom ⟨0, .returnS, (.var "v1"), .none⟩)
  .skip))))

def chBody : Stmt :=
      (.seq (.ite (.un "!" (.arg (.call (.var "r.childHasFocus")) (.var "v1.Surface")))
          (.seq (.atom ⟨2, .continueS, .none, .none⟩)
          .skip)
          .skip)
      (.seq (.atom ⟨1, .assign, (.var "r.path"), (.arg (.arg (.call (.var "append")) (.var "r.path")) (.var "v0.Widget"))⟩)
      (.seq (.atom ⟨1, .returnS, (.var "true"), .none⟩)
      .skip)))

def chT : Stmt :=
  (.seq (.ite (.bin "==" (.var "v0.Widget") (.var "r.focused"))
      (.seq (.atom ⟨1, .assign, (.var "r.path"), (.arg (.arg (.call (.var "append")) (.var "r.path")) (.var "v0.Widget"))⟩)
      (.seq (.atom ⟨1, .returnS, (.var "true"), .none⟩)
      .skip))
      .skip)
  (.seq (.rangeOver "_" "v1" (.var "v0.Children") chBody)
  (.seq (.atom ⟨0, .returnS, (.var "false"), .none⟩)
  .skip)))

theorem parse_ht : parseBody VxfwBodyExpected.hitTest = htT := by decide +kernel
theorem parse_ch : parseBody VxfwBodyExpected.childHasFocus = chT := by decide +kernel

theorem cp_run (k : Kid) (col row : Int) :
    runContainsPoint VxfwBodyExpected.containsPoint k col row =
      some (containsPoint k.col k.row k.sub.w k.sub.h col row) := by
  simp [runContainsPoint, VxfwBodyExpected.containsPoint, evalB, evalI, lookup, containsPoint, bind, Option.bind]

theorem depth_kid : ∀ (ks : List Kid) (k : Kid), k ∈ ks → treeDepth k.sub ≤ kidsDepth ks
  | [], _, h => by cases h
  | (a, b, c, t) :: r, k, h => by
    rw [kidsDepth]
    cases h with
    | head => exact Nat.le_max_left _ _
    | tail _ h' => exact Nat.le_trans (depth_kid r k h') (Nat.le_max_right _ _)

/-- One iteration of `for _, ss := range s.Children`. -/
theorem ht_body (env : TEnv) (m : TM) (k : Kid) (col row : Int) (hs : List Hit)
    (h2 : find m.ints "v2" = some col) (h3 : find m.ints "v3" = some row)
    (h1 : find m.hitl "v1" = some hs)
    (hcp : env.cp k col row = some (containsPoint k.col k.row k.sub.w k.sub.h col row))
    (hself : ∀ hs c r, env.selfH k.sub hs c r = some (hs ++ hitTest k.sub c r)) :
    ∃ m' c, texec env htBody (bindKid m "v5" k) = some (m', c) ∧ (c = .norm ∨ c = .cont) ∧
      find m'.ints "v2" = some col ∧ find m'.ints "v3" = some row ∧
      find m'.hitl "v1" = some (hs ++ (if containsPoint k.col k.row k.sub.w k.sub.h col row
        then hitTest k.sub (u16 (col - u16 k.col)) (u16 (row - u16 k.row)) else [])) := by
  cases hc : containsPoint k.col k.row k.sub.w k.sub.h col row
  · refine ⟨bindKid m "v5" k, .cont, ?_, Or.inr rfl, ?_, ?_, ?_⟩
    · rw [hc] at hcp
      simp [vxfw_texec, htBody, h2, h3, hcp]
    · simp [bindKid, find, h2]
    · simp [bindKid, find, h3]
    · simp [bindKid, h1]
  · rw [hc] at hcp
    refine ⟨{ (bindKid m "v5" k) with
        ints := ("v7", u16 (row - u16 k.row)) :: ("v6", u16 (col - u16 k.col)) :: (bindKid m "v5" k).ints,
        hitl := ("v1", hs ++ hitTest k.sub (u16 (col - u16 k.col)) (u16 (row - u16 k.row))) :: (bindKid m "v5" k).hitl },
      .norm, ?_, Or.inl rfl, ?_, ?_, ?_⟩
    · simp [vxfw_texec, htBody, h2, h3, h1, hcp, hself]
    · simp [bindKid, find, h2]
    · simp [bindKid, find, h3]
    · simp [find]

theorem ht_loop (env : TEnv) (col row : Int)
    (hcp : ∀ k, env.cp k col row = some (containsPoint k.col k.row k.sub.w k.sub.h col row)) :
    ∀ (ks : List Kid) (m : TM) (hs : List Hit),
      find m.ints "v2" = some col → find m.ints "v3" = some row →
      find m.hitl "v1" = some hs →
      (∀ k ∈ ks, ∀ hs c r, env.selfH k.sub hs c r = some (hs ++ hitTest k.sub c r)) →
      ∃ m', rangeKids "v5" (texec env htBody) ks m = some (m', .norm) ∧
        find m'.hitl "v1" = some (hs ++ hitKids ks col row) := by
  intro ks
  induction ks with
  | nil => intro m hs _ _ h1 _; exact ⟨m, rfl, by simpa [hitKids] using h1⟩
  | cons k ks ih =>
    intro m hs h2 h3 h1 hself
    obtain ⟨m1, c, hb, hc, h2', h3', h1'⟩ := ht_body env m k col row hs h2 h3 h1 (hcp k) (hself k List.mem_cons_self)
    obtain ⟨m2, hr, hh⟩ := ih m1 _ h2' h3' h1' (fun k' hk' => hself k' (List.mem_cons_of_mem _ hk'))
    refine ⟨m2, ?_, ?_⟩
    · rw [rangeKids, hb]
      rcases hc with rfl | rfl <;> exact hr
    · rw [hh]
      obtain ⟨oc, or_, z, t⟩ := k
      simp [hitKids, List.append_assoc]

theorem ht_exec : ∀ (d : Nat) (t : STree) (hits : List Hit) (col row : Int), treeDepth t < d →
    runHitTestD htT VxfwBodyExpected.containsPoint d t hits col row = some (hits ++ hitTest t col row) := by
  intro d
  induction d with
  | zero => intro t hits col row h; omega
  | succ d ih =>
    intro t hits col row hd
    obtain ⟨i, w, h, ch⟩ := t
    rw [treeDepth] at hd
    have hself : ∀ k : Kid, k ∈ ch → ∀ hs c r, runHitTestD htT VxfwBodyExpected.containsPoint d k.sub hs c r = some (hs ++ hitTest k.sub c r) := by
      intro k hk hs c r
      have := depth_kid ch k hk
      exact ih k.sub hs c r (by omega)
    rw [runHitTestD]
    generalize henv : (⟨runContainsPoint VxfwBodyExpected.containsPoint, runHitTestD htT VxfwBodyExpected.containsPoint d, fun _ _ _ => none⟩ : TEnv) = env
    have hcp : ∀ k, env.cp k col row = some (containsPoint k.col k.row k.sub.w k.sub.h col row) := by
      intro k; rw [← henv]; exact cp_run k col row
    have hself' : ∀ k : Kid, k ∈ ch → ∀ hs c r, env.selfH k.sub hs c r = some (hs ++ hitTest k.sub c r) := by
      intro k hk hs c r; rw [← henv]; exact hself k hk hs c r
    obtain ⟨m2, hr, hh⟩ := ht_loop env col row hcp ch
      { trees := [("v0", .node i w h ch), ("v0.Children", .node i w h ch)], ints := [("v2", col), ("v3", row)],
        ids := [("v0.Widget", i)], hitl := [("v1", hits ++ [⟨col, row, i⟩]), ("v1", hits)], hit := [("v4", ⟨col, row, i⟩)] }
      (hits ++ [⟨col, row, i⟩]) (by simp [find]) (by simp [find]) (by simp [find]) hself'
    unfold htT
    simp [vxfw_texec, STree.id, STree.ch, hr, hh, hitTest]

theorem ht_run (t : STree) (hits : List Hit) (col row : Int) :
    runHitTest htT VxfwBodyExpected.containsPoint t hits col row = some (hits ++ hitTest t col row) :=
  ht_exec _ t hits col row (Nat.lt_succ_self _)

/-- What `f.childHasFocus(s)` leaves in `f.path` and returns, in terms of the model. -/
def chfSpec (f : Id) (path : List Id) (t : STree) : List Id × Bool :=
  (path ++ (childHasFocus f t).getD [], (childHasFocus f t).isSome)

theorem ch_loop (env : TEnv) (f i : Id) : ∀ (ks : List Kid) (m : TM),
    m.focused = f → find m.ids "v0.Widget" = some i →
    (∀ k ∈ ks, ∀ path, env.selfC f path k.sub = some (chfSpec f path k.sub)) →
    ∃ m', rangeKids "v1" (texec env chBody) ks m =
        some (m', match childHasFocusL f ks with | some _ => .retB true | none => .norm) ∧
      m'.path = m.path ++ (match childHasFocusL f ks with | some p => p ++ [i] | none => []) := by
  intro ks
  induction ks with
  | nil => intro m _ _ _; exact ⟨m, rfl, by simp [childHasFocusL]⟩
  | cons k ks ih =>
    intro m hf hi hself
    obtain ⟨oc, or_, z, t⟩ := k
    have hs := hself (oc, or_, z, t) List.mem_cons_self m.path
    simp only [chfSpec] at hs
    rw [rangeKids, childHasFocusL]
    cases hc : childHasFocus f t with
    | some p =>
      rw [hc] at hs
      refine ⟨{ (bindKid m "v1" (oc, or_, z, t)) with path := m.path ++ p ++ [i] }, ?_, ?_⟩
      · have hb : texec env chBody (bindKid m "v1" (oc, or_, z, t)) =
            some ({ (bindKid m "v1" (oc, or_, z, t)) with path := m.path ++ p ++ [i] }, .retB true) := by
          simp [vxfw_texec, chBody, hf, hs, hi]
        rw [hb]
      · simp
    | none =>
      rw [hc] at hs
      have hb : texec env chBody (bindKid m "v1" (oc, or_, z, t)) = some ({ (bindKid m "v1" (oc, or_, z, t)) with path := m.path }, .cont) := by
        simp [vxfw_texec, chBody, hf, hs]
      rw [hb]
      simp only []
      obtain ⟨m2, hr, hp⟩ := ih { (bindKid m "v1" (oc, or_, z, t)) with path := m.path } hf (by simpa [bindKid] using hi)
        (fun k' hk' => hself k' (List.mem_cons_of_mem _ hk'))
      exact ⟨m2, hr, hp⟩

theorem ch_exec : ∀ (d : Nat) (f : Id) (path : List Id) (t : STree), treeDepth t < d →
    runChildHasFocusD chT d f path t = some (chfSpec f path t) := by
  intro d
  induction d with
  | zero => intro f path t h; omega
  | succ d ih =>
    intro f path t hd
    obtain ⟨i, w, h, ch⟩ := t
    rw [treeDepth] at hd
    rw [runChildHasFocusD]
    generalize henv : (⟨fun _ _ _ => none, fun _ _ _ _ => none, runChildHasFocusD chT d⟩ : TEnv) = env
    have hself : ∀ k : Kid, k ∈ ch → ∀ path, env.selfC f path k.sub = some (chfSpec f path k.sub) := by
      intro k hk path
      have := depth_kid ch k hk
      rw [← henv]
      exact ih f path k.sub (by omega)
    by_cases hif : i = f
    · unfold chT
      simp [vxfw_texec, STree.id, hif, chfSpec, childHasFocus]
    · obtain ⟨m2, hr, hp⟩ := ch_loop env f i ch
        { trees := [("v0", .node i w h ch), ("v0.Children", .node i w h ch)], ids := [("v0.Widget", i)], focused := f, path := path }
        rfl (by simp [find]) hself
      unfold chT
      cases hl : childHasFocusL f ch <;> rw [hl] at hr hp <;>
        simp [vxfw_texec, STree.id, STree.ch, hif, hr, hp, chfSpec, childHasFocus, hl]

theorem ch_run (f : Id) (path : List Id) (t : STree) :
    runChildHasFocus chT f path t = some (chfSpec f path t) :=
  ch_exec _ f path t (Nat.lt_succ_self _)

/-- After `i` iterations of the swap loop on `orig`: the outer `i` positions at both ends hold the reversed list. -/
def RevInv (orig : List Id) (i : Nat) (l : List Id) : Prop :=
  l.length = orig.length ∧ ∀ j, l[j]? = if j < i ∨ orig.length - i ≤ j then orig.reverse[j]? else orig[j]?

theorem revInv_init (orig : List Id) : RevInv orig 0 orig := by
  refine ⟨rfl, fun j => ?_⟩
  by_cases h : orig.length ≤ j
  · have h' : orig.reverse.length ≤ j := by simpa using h
    simp only [List.getElem?_eq_none h, List.getElem?_eq_none h', ite_self]
  · have : ¬ (j < 0 ∨ orig.length - 0 ≤ j) := by omega
    rw [if_neg this]

theorem getElem?_set_set (l : List Id) (i j0 : Nat) (a b : Id) (hi : i < l.length) (hj : j0 < l.length) (j : Nat) :
    ((l.set i b).set j0 a)[j]? = if j0 = j then some a else if i = j then some b else l[j]? := by
  rw [List.getElem?_set, List.getElem?_set, List.length_set, if_pos hj, if_pos hi]

theorem revInv_step (orig l : List Id) (i : Nat) (hi : i < orig.length / 2) (hinv : RevInv orig i l) :
    ∃ p, swapIdx l i (l.length - 1 - i) = some p ∧ RevInv orig (i + 1) p := by
  obtain ⟨hlen, hget⟩ := hinv
  have hi' : i < orig.length := by omega
  have hj' : orig.length - 1 - i < orig.length := by omega
  have h1 : l[i]? = some orig[i] := by
    rw [hget i, if_neg (by omega), List.getElem?_eq_getElem hi']
  have h2 : l[l.length - 1 - i]? = some orig[orig.length - 1 - i] := by
    rw [hlen, hget, if_neg (by omega), List.getElem?_eq_getElem hj']
  refine ⟨(l.set i orig[orig.length - 1 - i]).set (l.length - 1 - i) orig[i], by simp [swapIdx, h1, h2], ?_, ?_⟩
  · simp [hlen]
  · intro j
    rw [getElem?_set_set l i (l.length - 1 - i) _ _ (by omega) (by omega), hlen]
    by_cases hj0 : orig.length - 1 - i = j
    · rw [if_pos hj0, if_pos (by omega), ← hj0, List.getElem?_reverse hj']
      have e : orig.length - 1 - (orig.length - 1 - i) = i := by omega
      rw [e, List.getElem?_eq_getElem hi']
    · rw [if_neg hj0]
      by_cases hji : i = j
      · rw [if_pos hji, if_pos (by omega), ← hji, List.getElem?_reverse hi', List.getElem?_eq_getElem hj']
      · rw [if_neg hji, hget j]
        by_cases hc : j < i ∨ orig.length - i ≤ j
        · rw [if_pos hc, if_pos (by omega)]
        · rw [if_neg hc, if_neg (by omega)]

theorem revInv_final (orig l : List Id) (hinv : RevInv orig (orig.length / 2) l) : l = orig.reverse := by
  obtain ⟨hlen, hget⟩ := hinv
  apply List.ext_getElem?
  intro j
  rw [hget j]
  by_cases hc : j < orig.length / 2 ∨ orig.length - orig.length / 2 ≤ j
  · rw [if_pos hc]
  · rw [if_neg hc]
    have hj : j < orig.length := by omega
    rw [List.getElem?_reverse hj]
    have : orig.length - 1 - j = j := by omega
    rw [this]

def fpCond : Expr := (.bin "<" (.var "v1") (.bin "/" (.arg (.call (.var "len")) (.var "r.path")) (.int 2)))
def fpBody : Stmt :=
      (.seq (.atom ⟨1, .assign, (.pair (.index (.var "r.path") (.var "v1")) (.index (.var "r.path") (.bin "-" (.bin "-" (.arg (.call (.var "len")) (.var "r.path")) (.int 1)) (.var "v1")))), (.pair (.index (.var "r.path") (.bin "-" (.bin "-" (.arg (.call (.var "len")) (.var "r.path")) (.int 1)) (.var "v1"))) (.index (.var "r.path") (.var "v1")))⟩)
      .skip)
def fpPost : Stmt := (.seq (.atom ⟨2, .addAssign, (.var "v1"), (.int 1)⟩) .skip)

def fpTail : Stmt :=
  (.seq (.loop fpCond fpBody fpPost)
  (.seq (.atom ⟨0, .returnS, (.var "v0"), .none⟩)
  .skip))

def fpPreK (K : Stmt) : Stmt :=
  (.seq (.atom ⟨0, .assign, (.var "r.path"), (.lit "[]Widget{}")⟩)
  (.seq (.atom ⟨0, .define, (.var "v0"), (.arg (.call (.var "r.childHasFocus")) (.var "r.lastFrame"))⟩)
  (.seq (.ite (.bin "||" (.bin "!=" (.var "r.root") (.var "r.lastFrame.Widget")) (.bin "==" (.arg (.call (.var "len")) (.var "r.path")) (.int 0)))
      (.seq (.atom ⟨1, .assign, (.var "r.path"), (.arg (.arg (.call (.var "append")) (.var "r.path")) (.var "r.root"))⟩)
      .skip)
      .skip)
  (.seq (.seq (.atom ⟨1, .define, (.var "v1"), (.int 0)⟩)
    .skip)
  K))))

def fpT : Stmt := fpPreK fpTail

theorem parse_fp : parseBody VxfwBodyExpected.findPath = fpT := by decide +kernel

theorem fp_swap_is : isSwap "v1" (.pair (.index (.var "r.path") (.var "v1")) (.index (.var "r.path") (.bin "-" (.bin "-" (.arg (.call (.var "len")) (.var "r.path")) (.int 1)) (.var "v1"))))
    (.pair (.index (.var "r.path") (.bin "-" (.bin "-" (.arg (.call (.var "len")) (.var "r.path")) (.int 1)) (.var "v1"))) (.index (.var "r.path") (.var "v1"))) = true := by decide

theorem fp_loop (env : TEnv) (orig : List Id) : ∀ (k i : Nat) (m : TM),
    find m.ints "v1" = some (i : Int) → RevInv orig i m.path → i ≤ orig.length / 2 → orig.length / 2 - i + 1 ≤ k →
    ∃ m', tloop (fun m => tevBool env m fpCond) (texec env fpBody) (texec env fpPost) k m = some (m', .norm) ∧
      m'.path = orig.reverse ∧ m'.flags = m.flags ∧ m'.hitl = m.hitl := by
  intro k
  induction k with
  | zero => intro i m _ _ _ hk; omega
  | succ k ih =>
    intro i m hv hinv hle hk
    have hlen : m.path.length = orig.length := hinv.1
    rw [tloop]
    have hc : tevBool env m fpCond = some (decide (i < orig.length / 2)) := by
      simp [fpCond, tevBool, hv, hlen]
      omega
    simp only [hc]
    by_cases hlt : i < orig.length / 2
    · simp only [hlt, decide_true]
      obtain ⟨p, hp, hinv'⟩ := revInv_step orig m.path i hlt hinv
      have hb : texec env fpBody m = some ({ m with path := p }, .norm) := by
        have hneg : ¬ ((i : Int) < 0) := by omega
        simp [vxfw_texec, fpBody, fp_swap_is, hv, hneg, hp]
      have hpo : texec env fpPost { m with path := p } =
          some ({ m with path := p, ints := ("v1", ((i + 1 : Nat) : Int)) :: m.ints }, .norm) := by
        simp [vxfw_texec, fpPost, hv]
      rw [hb]
      simp only [hpo]
      obtain ⟨m', hm, hp', hf', hh'⟩ := ih (i + 1) { m with path := p, ints := ("v1", ((i + 1 : Nat) : Int)) :: m.ints }
        (by simp [find]) hinv' (by omega) (by omega)
      exact ⟨m', hm, hp', hf', hh'⟩
    · have hi : i = orig.length / 2 := by omega
      simp only [hlt, decide_false]
      subst hi
      exact ⟨m, rfl, revInv_final orig m.path hinv, rfl, rfl⟩

theorem texec_seq (env : TEnv) (a b : Stmt) (m : TM) : texec env (.seq a b) m = (match texec env a m with
    | some (m', .norm) => texec env b m'
    | r => r) := by
  simp only [texec]
  rfl

/-- The path before the reversal loop. -/
def prePath (s : St) : List Id :=
  if !frameRootIsRoot s || ((frameHasFocus s).getD []).isEmpty then (frameHasFocus s).getD [] ++ [s.root] else (frameHasFocus s).getD []

theorem fp_pre (env : TEnv) (s : St) (K : Stmt)
    (hsel : ∀ t, s.fhFrame = some t → env.selfC s.focused [] t = some (chfSpec s.focused [] t)) :
    ∃ m1, texec env (fpPreK K) { focused := s.focused, root := s.root, frame := s.fhFrame } = texec env K m1 ∧
      m1.path = prePath s ∧ find m1.ints "v1" = some ((0 : Nat) : Int) ∧
      find m1.flags "v0" = some (frameHasFocus s).isSome ∧ m1.hitl = [] := by
  cases hfr : s.fhFrame with
  | none =>
    refine ⟨{ focused := s.focused, root := s.root, frame := none, path := [] ++ [s.root], flags := [("v0", false)], ints := [("v1", 0)] }, ?_, ?_, ?_, ?_, rfl⟩
    · simp [vxfw_texec, fpPreK]
    · simp [prePath, frameHasFocus, frameRootIsRoot, hfr]
    · simp [find]
    · simp [find, frameHasFocus, hfr]
  | some t =>
    have hs := hsel t hfr
    simp only [chfSpec, List.nil_append] at hs
    refine ⟨{ focused := s.focused, root := s.root, frame := some t, path := prePath s, flags := [("v0", (childHasFocus s.focused t).isSome)], ints := [("v1", 0)] }, ?_, rfl, ?_, ?_, rfl⟩
    · have hiso : ((childHasFocus s.focused t).getD []).isEmpty = decide ((childHasFocus s.focused t).getD [] = []) := by
        cases (childHasFocus s.focused t).getD [] <;> simp
      have hpp : prePath s = if (!decide (s.root = t.id) || decide ((childHasFocus s.focused t).getD [] = [])) = true
          then (childHasFocus s.focused t).getD [] ++ [s.root] else (childHasFocus s.focused t).getD [] := by
        simp only [prePath, frameHasFocus, frameRootIsRoot, hfr, hiso]
      cases hc : (!decide (s.root = t.id) || decide ((childHasFocus s.focused t).getD [] = []))
      · rw [hc] at hpp
        simp [vxfw_texec, fpPreK, hs, hc, hpp]
      · rw [hc] at hpp
        simp [vxfw_texec, fpPreK, hs, hc, hpp]
    · simp [find]
    · simp [find, frameHasFocus, hfr]

theorem fp_exec (s : St) :
    runFindPath fpT chT s.focused s.root s.fhFrame = some ((findPath s).1.path, (findPath s).2) := by
  unfold runFindPath
  simp only []
  generalize henv : (⟨fun _ _ _ => none, fun _ _ _ _ => none,
    runChildHasFocusD chT ((match s.fhFrame with | none => 0 | some t => treeDepth t) + 1)⟩ : TEnv) = env
  have hsel : ∀ t, s.fhFrame = some t → env.selfC s.focused [] t = some (chfSpec s.focused [] t) := by
    intro t ht
    rw [← henv, ht]
    exact ch_exec _ s.focused [] t (Nat.lt_succ_self _)
  obtain ⟨m1, hm1, hp1, hi1, hf1, hh1⟩ := fp_pre env s fpTail hsel
  obtain ⟨m2, hm2, hp2, hf2, hh2⟩ := fp_loop env (prePath s) (m1.path.length + 1) 0 m1 hi1 (by rw [hp1]; exact revInv_init _) (Nat.zero_le _)
    (by rw [hp1]; omega)
  have hfound : (findPath s).1.path = (prePath s).reverse := rfl
  have hok : (findPath s).2 = (frameHasFocus s).isSome := rfl
  rw [hfound, hok, fpT, hm1]
  unfold fpTail
  have hloop : texec env (.loop fpCond fpBody fpPost) m1 =
      tloop (fun m => tevBool env m fpCond) (texec env fpBody) (texec env fpPost) (m1.path.length + 1) m1 := by
    simp only [texec]
  rw [texec_seq, hloop, hm2]
  have hret : texec env (.seq (.atom ⟨0, .returnS, (.var "v0"), .none⟩) .skip) m2 = some (m2, .retB (frameHasFocus s).isSome) := by
    have hn : find m2.hitl "v0" = none := by rw [hh2, hh1]; rfl
    have hfl : find m2.flags "v0" = some (frameHasFocus s).isSome := by rw [hf2]; exact hf1
    simp [vxfw_texec, hn, hfl]
  simp only [hret, hp2]

end VaxisModel.Lemmas.VxfwBodyTree
