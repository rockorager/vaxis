import VaxisModel.Model.VxfwInterpAll
import VaxisModel.Lemmas.VxfwBody
import VaxisModel.Lemmas.VxfwBodyMouse

/-! `focusHandler.updatePath`, `App.handleCommand` and `mouseHandler.update`, executed from their bodies by the second
    layer of `Model/VxfwInterp.lean` (`execX`; the runners `run…X` are in `Model/VxfwInterpAll.lean`), are the model's `eUpdatePath`, `eHandleCommand` and `eMouseUpdate` —
    with any callees (`findPath`, `hitTest`, `containsPoint`, `focusWidget`) that compute the model's functions (`GoodX`):
    the model functions themselves here, the callees' own interpreted bodies in `Lemmas/VxfwBodyAll.lean`. -/

namespace VaxisModel.Lemmas.VxfwBodyX
open VaxisModel.Model VaxisModel.Model.GoSyn VaxisModel.Model.Vxfw VaxisModel.Model.VxfwInterp
open VaxisModel.Model.DynExec (Stmt parseBody)
open VaxisModel.Lemmas.Vxfw (eNotify_hits eNotifyLoop_hits)

def upT : Stmt :=
  (.seq (.atom ⟨0, .assign, (.var "r.lastFrame"), (.var "v1")⟩)
  (.seq (.ite (.un "!" (.call (.var "r.findPath")))
      (.seq (.atom ⟨1, .assign, (.var "_"), (.arg (.arg (.call (.var "r.focusWidget")) (.var "v0")) (.var "r.root"))⟩)
      .skip)
      .skip)
  .skip))
def mu0 : Stmt :=
  (.ite (.bin "==" (.var "r.mouse") (.var "nil"))
      (.seq (.atom ⟨1, .returnS, (.var "nil"), .none⟩)
      .skip)
      .skip)
def mu1 : Stmt := (.atom ⟨0, .define, (.var "v2"), (.lit "[]hitResult{}")⟩)
def mu2 : Stmt := (.atom ⟨0, .define, (.var "v3"), (.arg (.arg (.arg (.call (.var "NewSubSurface")) (.int 0)) (.int 0)) (.var "v1"))⟩)
def mu3 : Stmt :=
  (.ite (.arg (.arg (.call (.var "v3.containsPoint")) (.var "r.mouse.Col")) (.var "r.mouse.Row"))
      (.seq (.atom ⟨1, .assign, (.var "v2"), (.arg (.arg (.arg (.arg (.call (.var "hitTest")) (.var "v1")) (.var "v2")) (.arg (.call (.var "uint16")) (.var "r.mouse.Col"))) (.arg (.call (.var "uint16")) (.var "r.mouse.Row")))⟩)
      .skip)
      .skip)
/-- The exit loop (over the old hits, looking among the new ones, `MouseLeave`) and the enter loop (over the new hits, looking
    among the old ones, `MouseEnter`) of `mouseHandler.update` are one loop; `LoopNames` is what they differ in. -/
inductive HoverLoop | exit | enter

structure LoopNames where
  /-- the variable of the outer loop (`h1`) and of the inner loop (`h2`) -/
  o : String
  i : String
  /-- the two results of the handler call, and `h1.w` as its receiver -/
  cmd : String
  err : String
  rcv : String
  /-- the event, as a literal and in the model -/
  lit : String
  ev : Ev
  /-- the list the inner loop searches -/
  srch : String

def HoverLoop.n : HoverLoop → LoopNames
  | .exit => ⟨"v4", "v5", "v6", "v7", "v4.w.HandleEvent", "MouseLeave{}", .mouseLeave, "v2"⟩
  | .enter => ⟨"v8", "v9", "v10", "v11", "v8.w.HandleEvent", "MouseEnter{}", .mouseEnter, "r.lastHits"⟩

/-- The body of the inner loop (`for _, h2 := range hits`): `if h1 == h2 { continue outer }`. -/
def inB (p : HoverLoop) : Stmt :=
          (.seq (.ite (.bin "==" (.var p.n.o) (.var p.n.i))
              (.seq (.atom ⟨3, .continueS, (.var "L"), (.int 1)⟩)
              .skip)
              .skip)
          .skip)
/-- `cmd, err := h1.w.HandleEvent(MouseLeave{}, TargetPhase); if err != nil { return err }; app.handleCommand(cmd)`. -/
def callB (p : HoverLoop) : Stmt :=
      (.seq (.atom ⟨1, .define, (.pair (.var p.n.cmd) (.var p.n.err)), (.arg (.arg (.call (.var p.n.rcv)) (.lit p.n.lit)) (.var "TargetPhase"))⟩)
      (.seq (.ite (.bin "!=" (.var p.n.err) (.var "nil"))
          (.seq (.atom ⟨2, .returnS, (.var p.n.err), .none⟩)
          .skip)
          .skip)
      (.seq (.atom ⟨1, .exprS, (.arg (.call (.var "v0.handleCommand")) (.var p.n.cmd)), .none⟩)
      .skip)))
def outB (p : HoverLoop) : Stmt := (.seq (.rangeOver "_" p.n.i (.var p.n.srch) (inB p)) (callB p))
/-- `m.lastHits = hits; return nil` -/
def muEnd : Stmt :=
  (.seq (.atom ⟨0, .assign, (.var "r.lastHits"), (.var "v2")⟩)
  (.seq (.atom ⟨0, .returnS, (.var "nil"), .none⟩)
  .skip))
def muLoops : Stmt :=
  (.seq (.rangeOver "_" "v4" (.var "r.lastHits") (outB .exit))
  (.seq (.rangeOver "_" "v8" (.var "v2") (outB .enter))
  muEnd))
def muT : Stmt := (.seq mu0 (.seq mu1 (.seq mu2 (.seq mu3 muLoops))))
/-- `{ a.handleCommand(c) }` -/
def hcLoopBody (v : String) : Stmt :=
  .seq (.atom ⟨3, .exprS, (.arg (.call (.var "r.handleCommand")) (.var v)), .none⟩) .skip

def hcT : Stmt :=
  (.seq (.sw true (.lit "v1 := v0.(type)")
      (.case (.var "BatchCmd")
        (.seq (.rangeOver "_" "v2" (.var "v1")
            (hcLoopBody "v2"))
        .skip)
      (.case (.lit "[]Command")
        (.seq (.rangeOver "_" "v3" (.var "v1")
            (hcLoopBody "v3"))
        .skip)
      (.case (.var "RedrawCmd")
        (.seq (.atom ⟨2, .assign, (.var "r.redraw"), (.var "true")⟩)
        .skip)
      (.case (.var "RefreshCmd")
        (.seq (.atom ⟨2, .assign, (.var "r.refresh"), (.var "true")⟩)
        .skip)
      (.case (.var "QuitCmd")
        (.seq (.atom ⟨2, .assign, (.var "r.shouldQuit"), (.var "true")⟩)
        .skip)
      (.case (.var "ConsumeEventCmd")
        (.seq (.atom ⟨2, .assign, (.var "r.consumeEvent"), (.var "true")⟩)
        .skip)
      (.case (.var "FocusWidgetCmd")
        (.seq (.atom ⟨2, .define, (.var "v4"), (.arg (.arg (.call (.var "r.fh.focusWidget")) (.var "r")) (.var "v1"))⟩)
        (.seq (.ite (.bin "!=" (.var "v4") (.var "nil"))
            (.seq (.atom ⟨3, .exprS, (.arg (.arg (.call (.var "log.Error")) (.lit "\"focusWidget error: %s\"")) (.var "v4")), .none⟩)
            (.seq (.atom ⟨3, .returnS, .none, .none⟩)
            .skip))
            .skip)
        .skip))
      (.case (.var "SetMouseShapeCmd")
        (.seq (.atom ⟨2, .exprS, (.arg (.call (.var "r.vx.SetMouseShape")) (.arg (.call (.var "vaxis.MouseShape")) (.var "v1"))), .none⟩)
        .skip)
      (.case (.var "SetTitleCmd")
        (.seq (.atom ⟨2, .exprS, (.arg (.call (.var "r.vx.SetTitle")) (.arg (.call (.var "string")) (.var "v1"))), .none⟩)
        .skip)
      (.case (.var "CopyToClipboardCmd")
        (.seq (.atom ⟨2, .exprS, (.arg (.call (.var "r.vx.ClipboardPush")) (.arg (.call (.var "string")) (.var "v1"))), .none⟩)
        .skip)
      (.case (.var "SendNotificationCmd")
        (.seq (.atom ⟨2, .exprS, (.arg (.arg (.call (.var "r.vx.Notify")) (.var "v1.Title")) (.var "v1.Body")), .none⟩)
        .skip)
      (.case (.var "DebugCmd")
        (.seq (.atom ⟨2, .assign, (.var "r.debug"), (.var "true")⟩)
        (.seq (.atom ⟨2, .assign, (.var "r.redraw"), (.var "true")⟩)
        .skip))
      .skip)))))))))))))
  .skip)

theorem parse_up : parseBody VxfwBodyExpected.updatePath = upT := by decide +kernel
theorem parse_mu : parseBody VxfwBodyExpected.mouseUpdate = muT := by decide +kernel
theorem parse_hc : parseBody VxfwBodyExpected.handleCommand = hcT := by decide +kernel

theorem foldl_flattenL {α : Type} (f : α → Atom → α) : ∀ (l : List Cmd) (s : α),
    (Cmd.flattenL l).foldl f s = l.foldl (fun s c => c.flatten.foldl f s) s
  | [], _ => rfl
  | c :: r, s => by
    rw [Cmd.flattenL, List.foldl_append, List.foldl_cons, foldl_flattenL f r]

theorem depth_mem : ∀ (l : List Cmd) (c : Cmd), c ∈ l → cmdDepth c ≤ cmdDepthL l
  | [], _, h => by cases h
  | a :: r, c, h => by
    rw [cmdDepthL]
    cases h with
    | head => exact Nat.le_max_left _ _
    | tail _ h' => exact Nat.le_trans (depth_mem r c h') (Nat.le_max_right _ _)

/-- The loop `for _, c := range cmd { a.handleCommand(c) }` when the recursive call is `run`. -/
theorem hc_range (e : EOracle) (fuel : Nat) (v : String) (run : St → Cmd → Option St) (g : St → Cmd → St) :
    ∀ (l : List Cmd) (m : VMX), m.x.self = run → (∀ c ∈ l, ∀ s, run s c = some (g s c)) →
      ∃ m', rangeCmds v (execX e fuel .init (hcLoopBody v)) l m = some (m', .norm) ∧
        m'.vm.s = l.foldl g m.vm.s := by
  intro l
  induction l with
  | nil => intro m _ _; exact ⟨m, rfl, rfl⟩
  | cons c l ih =>
    intro m hs hrun
    have h1 := hrun c (List.mem_cons_self) m.vm.s
    obtain ⟨m', hm, hs'⟩ := ih (setS { m with vm := { m.vm with cmds := (v, c) :: m.vm.cmds } } (g m.vm.s c)) hs
      (fun c' hc' => hrun c' (List.mem_cons_of_mem _ hc'))
    refine ⟨m', ?_, ?_⟩
    · rw [rangeCmds]
      have hb : execX e fuel .init (hcLoopBody v)
          { m with vm := { m.vm with cmds := (v, c) :: m.vm.cmds } } =
          some (setS { m with vm := { m.vm with cmds := (v, c) :: m.vm.cmds } } (g m.vm.s c), .norm) := by
        simp [hcLoopBody, execX, atomX, find, hs, h1, setS]
      rw [hb]
      exact hm
    · rw [hs']; rfl

theorem execX_range_hits (e : EOracle) (fuel : Nat) (ev : Ev) (k v l : String) (b : Stmt) (m : VMX) (hs : List Hit)
    (h : evHits m l = some hs) :
    execX e fuel ev (.rangeOver k v (.var l) b) m = rangeHits v (execX e fuel ev b) hs m := by
  simp [execX, h]

theorem execX_seq (e : EOracle) (fuel : Nat) (ev : Ev) (a b : Stmt) (m : VMX) :
    execX e fuel ev (.seq a b) m = (match execX e fuel ev a m with
      | some (m', .norm) => execX e fuel ev b m'
      | r => r) := by
  simp only [execX]
  rfl

def viewX (r : ResX) : Option (St × VX × CtlX) := r.map (fun r => (r.1.vm.s, r.1.x, r.2))

theorem viewX_some {r : ResX} {s : St} {x : VX} {c : CtlX} (h : viewX r = some (s, x, c)) :
    ∃ m', r = some (m', c) ∧ m'.vm.s = s ∧ m'.x = x := by
  cases r with
  | none => simp [viewX] at h
  | some y =>
    obtain ⟨m', c'⟩ := y
    simp only [viewX, Option.map_some, Option.some.injEq, Prod.mk.injEq] at h
    obtain ⟨h1, h2, h3⟩ := h
    subst h3
    exact ⟨m', rfl, h1, h2⟩

/-- The inner loop: `continue outer` iff `h1` is in the list searched. -/
theorem in_loop (e : EOracle) (fuel : Nat) (p : HoverLoop) (h1 : Hit) : ∀ (hs : List Hit) (m : VMX),
    find m.x.hit p.n.o = some h1 →
    ∃ m', rangeHits p.n.i (execX e fuel .init (inB p)) hs m = some (m', if hs.contains h1 then .contOut 0 else .norm) ∧
      m'.vm.s = m.vm.s ∧ m'.x.hitl = m.x.hitl ∧ find m'.x.hit p.n.o = some h1 ∧
      find m'.vm.ids p.n.rcv = find m.vm.ids p.n.rcv := by
  intro hs
  induction hs with
  | nil => intro m h4; exact ⟨m, rfl, rfl, rfl, h4, rfl⟩
  | cons h hs ih =>
    intro m h4
    have h4' : find (bindHit m p.n.i h).x.hit p.n.o = some h1 := by cases p <;> simpa [bindHit, find, HoverLoop.n] using h4
    have h5 : find (bindHit m p.n.i h).vm.ids p.n.rcv = find m.vm.ids p.n.rcv := by cases p <;> simp [bindHit, find, HoverLoop.n]
    have hb : execX e fuel .init (inB p) (bindHit m p.n.i h) = some (bindHit m p.n.i h, if h1 = h then .contOut 1 else .norm) := by
      cases p <;> simp only [HoverLoop.n] at h4 <;> by_cases hx : h1 = h <;> simp [vxfw_execX, vxfw_exec, inB, HoverLoop.n, h4, hx]
    rw [rangeHits, hb]
    by_cases hx : h1 = h
    · exact ⟨bindHit m p.n.i h, by simp [hx], rfl, rfl, h4', h5⟩
    · obtain ⟨m', hm, h1', h2', h3', h5'⟩ := ih _ h4'
      have hne : (h1 == h) = false := by simpa using hx
      exact ⟨m', by simp only [hx, if_false, hm, List.contains_cons, hne, Bool.false_or], h1', h2', h3', h5'.trans h5⟩

theorem call_exec (e : EOracle) (fuel : Nat) (p : HoverLoop) (m : VMX) (w : Id) (hw : find m.vm.ids p.n.rcv = some w) :
    ∃ m', execX e fuel .init (callB p) m = some (m', if (eNotify e fuel m.vm.s w p.n.ev).2 then .ret true else .norm) ∧
      m'.vm.s = (eNotify e fuel m.vm.s w p.n.ev).1 ∧ m'.x = m.x := by
  apply viewX_some
  unfold eNotify
  cases hf : e.failsAt m.vm.s w p.n.ev .target <;> cases p <;> simp only [HoverLoop.n] at hw hf <;>
    simp [vxfw_execX, vxfw_exec, doCall, viewX, callB, HoverLoop.n, hw, hf]

/-- One iteration of the outer loop; `hits` is the list searched (read live; nothing in the loop changes it). -/
theorem out_body (e : EOracle) (fuel : Nat) (p : HoverLoop) (hits : List Hit) (m : VMX) (h1 : Hit) (hh : evHits m p.n.srch = some hits) :
    ∃ m', execX e fuel .init (outB p) (bindHit m p.n.o h1) =
        some (m', if hits.contains h1 then .contOut 0 else if (eNotify e fuel m.vm.s h1.w p.n.ev).2 then .ret true else .norm) ∧
      m'.vm.s = (if hits.contains h1 then m.vm.s else (eNotify e fuel m.vm.s h1.w p.n.ev).1) ∧ m'.x.hitl = m.x.hitl := by
  obtain ⟨m1, hm, hs1, hl1, _, hi1⟩ := in_loop e fuel p h1 hits (bindHit m p.n.o h1) (by simp [bindHit, find])
  have hev : evHits (bindHit m p.n.o h1) p.n.srch = some hits := hh
  unfold outB
  rw [execX_seq, execX_range_hits e fuel .init "_" p.n.i p.n.srch (inB p) _ hits hev, hm]
  cases hc : hits.contains h1
  · simp only [Bool.false_eq_true, ↓reduceIte]
    obtain ⟨m2, hm2, hs2, hx2⟩ := call_exec e fuel p m1 h1.w (by rw [hi1]; cases p <;> simp [bindHit, find, HoverLoop.n])
    rw [hs1] at hm2 hs2
    exact ⟨m2, hm2, hs2, by rw [hx2, hl1]; rfl⟩
  · simp only [↓reduceIte]
    exact ⟨m1, rfl, hs1, hl1⟩

theorem out_loop (e : EOracle) (fuel : Nat) (p : HoverLoop) (hits : List Hit) : ∀ (rng : List Hit) (m : VMX), evHits m p.n.srch = some hits →
    ∃ m', rangeHits p.n.o (execX e fuel .init (outB p)) rng m =
        some (m', if (eNotifyLoop e fuel p.n.ev (fun h => hits.contains h) rng m.vm.s).2 then .ret true else .norm) ∧
      m'.vm.s = (eNotifyLoop e fuel p.n.ev (fun h => hits.contains h) rng m.vm.s).1 ∧ m'.x.hitl = m.x.hitl := by
  intro rng
  induction rng with
  | nil => intro m _; exact ⟨m, rfl, rfl, rfl⟩
  | cons h1 rng ih =>
    intro m hh
    obtain ⟨m1, hm, hs1, hl1⟩ := out_body e fuel p hits m h1 hh
    have hh1 : evHits m1 p.n.srch = some hits := by
      have : m1.vm.s.lastHits = m.vm.s.lastHits := by rw [hs1]; split <;> simp [eNotify_hits]
      rw [← hh]; unfold evHits; rw [hl1, this]
    obtain ⟨m2, hm2, hs2, hl2⟩ := ih m1 hh1
    rw [rangeHits, hm, eNotifyLoop]
    cases hc : hits.contains h1
    · simp only [hc, Bool.false_eq_true, ↓reduceIte] at hs1 ⊢
      cases hx : (eNotify e fuel m.vm.s h1.w p.n.ev).2
      · simp only [Bool.false_eq_true, ↓reduceIte]
        rw [hs1] at hm2 hs2
        exact ⟨m2, hm2, hs2, by rw [hl2, hl1]⟩
      · simp only [↓reduceIte, hx]
        exact ⟨m1, rfl, hs1, hl1⟩
    · simp only [hc, ↓reduceIte] at hs1 ⊢
      rw [hs1] at hm2 hs2
      exact ⟨m2, hm2, hs2, by rw [hl2, hl1]⟩

/-- The plugged-in callees compute the model functions. -/
structure GoodX (e : EOracle) (fuel : Nat) (x0 : VX) : Prop where
  fp : ∀ s, x0.findPathF s = some (findPath s)
  ht : ∀ t hs c r, x0.hitTestF t hs c r = some (hs ++ hitTest t c r)
  cp : ∀ t c r, x0.cpF t c r = some (containsPoint 0 0 t.w t.h c r)
  fw : ∀ s w, callFw e fuel x0.fwF s w = some (eFocusWidget e (fuel + 1) s w)
  hitl0 : x0.hitl = []

theorem up_exec_x (e : EOracle) (fuel : Nat) (x0 : VX) (g : GoodX e fuel x0) (s : St) (t : STree) :
    runUpdatePathX upT x0 e fuel s t = some (eUpdatePath e (fuel + 1) s t) := by
  unfold runUpdatePathX eUpdatePath upT
  have hr : (findPath { s with fhFrame := some t }).1.root = s.root := rfl
  have hfw := g.fw
  cases h : (findPath { s with fhFrame := some t }).2
  · simp [vxfw_execX, vxfw_exec, h, hr, g.fp, hfw]
  · simp [vxfw_execX, vxfw_exec, h, g.fp]

/-- The statements before the loops: `hits` = the model's `hitsAt`. -/
theorem mu_prefix_x (e : EOracle) (fuel : Nat) (x0 : VX) (g : GoodX e fuel x0) (s : St) (t : STree) (col row : Int) (hmo : s.mouse = some (col, row)) (K : Stmt) :
    ∃ m1, execX e fuel .init (.seq mu0 (.seq mu1 (.seq mu2 (.seq mu3 K)))) (bindTree ⟨vm0 s, x0⟩ "v1" t) = execX e fuel .init K m1 ∧
      m1.vm = vm0 s ∧ find m1.x.hitl "v2" = some (hitsAt t col row) := by
  unfold hitsAt
  refine ⟨⟨vm0 s, { x0 with
      hitl := (if containsPoint 0 0 t.w t.h col row then [("v2", ([] : List Hit) ++ hitTest t (u16 col) (u16 row))] else []) ++ ("v2", []) :: x0.hitl,
      tree := ("v3", t) :: ("v3.containsPoint", t) :: ("v1", t) :: ("v1.containsPoint", t) :: x0.tree }⟩, ?_, rfl, ?_⟩ <;>
    cases hc : containsPoint 0 0 t.w t.h col row <;>
    simp [vxfw_execX, vxfw_exec, find, mu0, mu1, mu2, mu3, hmo, hc, g.cp, g.ht]

theorem mu_exec_x (e : EOracle) (fuel : Nat) (x0 : VX) (g : GoodX e fuel x0) (s : St) (t : STree) :
    runMouseUpdateX muT x0 e fuel s t = some (eMouseUpdate e fuel s t) := by
  unfold runMouseUpdateX eMouseUpdate
  cases hmo : s.mouse with
  | none => simp [vxfw_execX, vxfw_exec, muT, mu0, hmo]
  | some p =>
    obtain ⟨col, row⟩ := p
    obtain ⟨m1, hp, hv1, hh1⟩ := mu_prefix_x e fuel x0 g s t col row hmo muLoops
    unfold muT
    rw [hp]
    simp only []
    have hs1 : m1.vm.s = s := by rw [hv1]; rfl
    unfold muLoops
    obtain ⟨m2, hm2, hs2, hl2⟩ := out_loop e fuel .exit (hitsAt t col row) s.lastHits m1 (by simpa [evHits, HoverLoop.n] using hh1)
    rw [hs1] at hm2 hs2
    rw [execX_seq, execX_range_hits e fuel .init "_" "v4" "r.lastHits" (outB .exit) m1 s.lastHits (by simp [evHits, hs1])]
    cases h1 : (eNotifyLoop e fuel .mouseLeave (fun h => (hitsAt t col row).contains h) s.lastHits s).2 <;>
      simp only [HoverLoop.n, h1, Bool.false_eq_true, ↓reduceIte] at hm2 hs2 ⊢ <;> rw [hm2]
    · have hold : m2.vm.s.lastHits = s.lastHits := by rw [hs2, eNotifyLoop_hits]
      obtain ⟨m3, hm3, hs3, hl3⟩ := out_loop e fuel .enter s.lastHits (hitsAt t col row) m2 (by simp [evHits, HoverLoop.n, hold])
      rw [hs2] at hm3 hs3
      simp only []
      rw [execX_seq, execX_range_hits e fuel .init "_" "v8" "v2" (outB .enter) m2 (hitsAt t col row) (by simp [evHits, hl2, hh1])]
      cases h2 : (eNotifyLoop e fuel .mouseEnter (fun h => s.lastHits.contains h) (hitsAt t col row)
          (eNotifyLoop e fuel .mouseLeave (fun h => (hitsAt t col row).contains h) s.lastHits s).1).2 <;>
        simp only [HoverLoop.n, h2, Bool.false_eq_true, ↓reduceIte] at hm3 hs3 ⊢ <;> rw [hm3]
      · have hf3 : find m3.x.hitl "v2" = some (hitsAt t col row) := by rw [hl3, hl2]; exact hh1
        simp [vxfw_execX, vxfw_exec, muEnd, hf3, hs3]
      · simp only [hs3]
        exact congrArg some (Prod.ext rfl h2.symm)
    · simp only [hs2]
      exact congrArg some (Prod.ext rfl h1.symm)

theorem hc_exec_x (e : EOracle) (fuel : Nat) (x0 : VX) (g : GoodX e fuel x0) : ∀ (d : Nat) (s : St) (c : Cmd), cmdDepth c < d →
    runHandleCommandXD hcT x0 e fuel d s c = some (eHandleCommand e (fuel + 1) s c) := by
  obtain ⟨hitl, hit, tree, self0, fpF, htF, cpF, fwF⟩ := x0
  have h0 : hitl = [] := g.hitl0
  subst h0
  intro d
  induction d with
  | zero => intro s c h; omega
  | succ d ih =>
    intro s c hd
    -- the `BatchCmd` and the `[]Command` arm: the loop over the elements, each a recursive call one level down
    have arm : ∀ l, c = .batch l ∨ c = .slice l →
        runHandleCommandXD hcT ⟨[], hit, tree, self0, fpF, htF, cpF, fwF⟩ e fuel (d + 1) s c = some (eHandleCommand e (fuel + 1) s c) := by
      intro l hc
      have hl : ∀ c' ∈ l, ∀ s, runHandleCommandXD hcT ⟨[], hit, tree, self0, fpF, htF, cpF, fwF⟩ e fuel d s c' = some (eHandleCommand e (fuel + 1) s c') := by
        intro c' hc' s
        have := depth_mem l c' hc'
        have : cmdDepth c = cmdDepthL l + 1 := by rcases hc with rfl | rfl <;> rw [cmdDepth]
        exact ih s c' (by omega)
      have he : eHandleCommand e (fuel + 1) s c = l.foldl (fun s c => eHandleCommand e (fuel + 1) s c) s := by
        rcases hc with rfl | rfl <;> simp only [eHandleCommand, Cmd.flatten, foldl_flattenL]
      rw [he, runHandleCommandXD]
      generalize runHandleCommandXD hcT _ e fuel d = run at hl ⊢
      have hr := fun v => hc_range e fuel v run (fun s c => eHandleCommand e (fuel + 1) s c) l
        ⟨⟨s, [], [], [("v1", c), ("v0", c)], [], []⟩, (⟨[], hit, tree, run, fpF, htF, cpF, fwF⟩ : VX)⟩ rfl hl
      obtain ⟨m2, hm2, hs2⟩ := hr "v2"
      obtain ⟨m3, hm3, hs3⟩ := hr "v3"
      unfold hcT
      rcases hc with rfl | rfl <;> simp [vxfw_execX, vxfw_exec, hm2, hs2, hm3, hs3]
    cases c with
    | nil => unfold runHandleCommandXD hcT; simp [vxfw_execX, vxfw_exec, eHandleCommand, Cmd.flatten]
    | redraw | refresh | quit | consume | debug =>
      unfold runHandleCommandXD hcT; simp [vxfw_execX, vxfw_exec, atomX, eHandleCommand, Cmd.flatten, eExecAtom, execAtom]
    | focus w =>
      unfold runHandleCommandXD hcT
      have hm : eHandleCommand e (fuel + 1) s (.focus w) = (eFocusWidget e (fuel + 1) s w).1 := by
        simp [eHandleCommand, Cmd.flatten, eExecAtom, eFocusWidget]
      rw [hm]
      cases hf : (eFocusWidget e (fuel + 1) s w).2 <;> simp [vxfw_execX, vxfw_exec, atomX, hf, g.fw]
    | other k =>
      unfold runHandleCommandXD hcT
      have h4 : k % 4 = 0 ∨ k % 4 = 1 ∨ k % 4 = 2 ∨ k % 4 = 3 := by omega
      rcases h4 with h | h | h | h <;> simp [vxfw_execX, vxfw_exec, atomX, eHandleCommand, Cmd.flatten, eExecAtom, execAtom, h]
    | batch l => exact arm l (.inl rfl)
    | slice l => exact arm l (.inr rfl)

theorem good_model (e : EOracle) (fuel : Nat) : GoodX e fuel {} :=
  ⟨fun _ => rfl, fun _ _ _ _ => rfl, fun _ _ _ => rfl, fun _ _ => rfl, rfl⟩

theorem up_exec (e : EOracle) (fuel : Nat) (s : St) (t : STree) :
    runUpdatePath upT e fuel s t = some (eUpdatePath e (fuel + 1) s t) :=
  up_exec_x e fuel {} (good_model e fuel) s t

theorem mu_exec (e : EOracle) (fuel : Nat) (s : St) (t : STree) :
    runMouseUpdate muT e fuel s t = some (eMouseUpdate e fuel s t) :=
  mu_exec_x e fuel {} (good_model e fuel) s t

theorem runHandleCommandD_eq (body : Stmt) (e : EOracle) (fuel : Nat) :
    ∀ d, runHandleCommandD body e fuel d = runHandleCommandXD body {} e fuel d
  | 0 => rfl
  | d + 1 => by
    funext s c
    rw [runHandleCommandD, runHandleCommandXD, runHandleCommandD_eq body e fuel d]
    rfl

theorem hc_run (e : EOracle) (fuel : Nat) (s : St) (c : Cmd) :
    runHandleCommand hcT e fuel s c = some (eHandleCommand e (fuel + 1) s c) := by
  rw [runHandleCommand, runHandleCommandD_eq]
  exact hc_exec_x e fuel {} (good_model e fuel) _ s c (Nat.lt_succ_self _)

end VaxisModel.Lemmas.VxfwBodyX
