import VaxisModel.Model.VxfwErr
import VaxisModel.Spec.Routing

/-! Lemmas about the error plumbing (`Model/VxfwErr.lean`): with the oracle `e0 o` (no call fails) each error-aware
function is the plain one (`*_noerr`); what a returned error looks like (`EndsWithCall`; proved of the Run loop in `Lemmas/VxfwWalk.lean`, `fail_walk`). -/
namespace VaxisModel.Lemmas.Vxfw
open VaxisModel.Model.Vxfw VaxisModel.Spec.Routing

theorem eRunSteps_ev (e : EOracle) (fuel : Nat) (s : St) (ev : RunEv) (rest : List Step) :
    eRunSteps e fuel s (.ev ev :: rest) =
      if (eRunEvent e fuel s ev).2 = true then eRunEvent e fuel s ev
      else if (eRunEvent e fuel s ev).1.quit = true then eRunEvent e fuel s ev
      else eRunSteps e fuel (eRunEvent e fuel s ev).1 rest := rfl

theorem eRunSteps_frame (e : EOracle) (fuel : Nat) (s : St) (t1 t2 : STree) (rest : List Step) :
    eRunSteps e fuel s (.frame t1 t2 :: rest) =
      if (eRunFrame e fuel s t1 t2).2 = true then eRunFrame e fuel s t1 t2
      else eRunSteps e fuel (eRunFrame e fuel s t1 t2).1 rest := rfl

/-- No call fails. -/
def e0 (o : Oracle) : EOracle := ⟨o, fun _ _ _ _ => false⟩

@[simp] theorem e0_o (o : Oracle) : (e0 o).o = o := rfl
@[simp] theorem e0_failsAt (o : Oracle) (s : St) (w : Id) (ev : Ev) (ph : Phase) :
    (e0 o).failsAt s w ev ph = false := rfl

theorem eFocusWidgetWith_noerr (hc : St → Cmd → St) (o : Oracle) (s : St) (w : Id) :
    eFocusWidgetWith hc (e0 o) s w = (focusWidgetWith hc o s w, false) := by
  simp only [eFocusWidgetWith, focusWidgetWith, e0_o, e0_failsAt]
  split <;> simp

theorem eExecAtom_noerr (hc : St → Cmd → St) (o : Oracle) (s : St) (a : Atom) :
    eExecAtom hc (e0 o) s a = execAtom hc o s a := by
  cases a <;> simp [eExecAtom, execAtom, eFocusWidgetWith_noerr]

theorem eHandleCommand_noerr (o : Oracle) (fuel : Nat) :
    eHandleCommand (e0 o) fuel = handleCommand o fuel := by
  induction fuel with
  | zero => funext s c; rfl
  | succ n ih =>
    funext s c
    simp only [eHandleCommand, handleCommand, ih]
    congr 1
    funext s a
    exact eExecAtom_noerr _ o s a

theorem eFocusWidget_noerr (o : Oracle) (fuel : Nat) (s : St) (w : Id) :
    eFocusWidget (e0 o) fuel s w = (focusWidget o fuel s w, false) := by
  cases fuel with
  | zero => rfl
  | succ n => simp [eFocusWidget, focusWidget, eHandleCommand_noerr, eFocusWidgetWith_noerr]

def outcomeOf (b : Bool) : Outcome := if b then .stop else .next

theorem eOffer_noerr (o : Oracle) (fuel : Nat) (s : St) (w : Id) (ev : Ev) (ph : Phase) :
    eOffer (e0 o) fuel s w ev ph = ((offer o fuel s w ev ph).1, outcomeOf (offer o fuel s w ev ph).2) := by
  unfold eOffer offer outcomeOf
  rw [e0_failsAt, eHandleCommand_noerr]
  simp only [Bool.false_eq_true, if_false, e0_o]
  split <;> simp_all

theorem eCapture_noerr (o : Oracle) (fuel : Nat) (ev : Ev) (ws : List Id) (s : St) :
    eCapturePhase (e0 o) fuel ev ws s =
      ((capturePhase o fuel ev ws s).1, outcomeOf (capturePhase o fuel ev ws s).2) := by
  induction ws generalizing s with
  | nil => rfl
  | cons w ws ih =>
    simp only [eCapturePhase, capturePhase, eOffer_noerr, e0_o]
    cases hc : o.captures w
    · simp only [Bool.false_eq_true, if_false]; exact ih s
    · simp only [if_true]
      cases hb : (offer o fuel s w ev .capture).2
      · simp only [outcomeOf, Bool.false_eq_true, if_false, if_true]; exact ih _
      · simp [outcomeOf, hb]

theorem eBubble_noerr (o : Oracle) (fuel : Nat) (ev : Ev) (ws : List Id) (s : St) :
    eBubblePhase (e0 o) fuel ev ws s = (bubblePhase o fuel ev ws s, .next) ∨
    eBubblePhase (e0 o) fuel ev ws s = (bubblePhase o fuel ev ws s, .stop) := by
  induction ws generalizing s with
  | nil => exact Or.inl rfl
  | cons w ws ih =>
    simp only [eBubblePhase, bubblePhase, eOffer_noerr]
    cases hb : (offer o fuel s w ev .bubble).2
    · simpa [outcomeOf] using ih _
    · simp [outcomeOf]

theorem eDispatch_noerr (o : Oracle) (fuel : Nat) (chain : List Id) (tgt : St → Id) (ev : Ev) (s : St) :
    eDispatch (e0 o) fuel chain tgt ev s = (dispatch o fuel chain tgt ev s, false) := by
  simp only [eDispatch, dispatch, eCapture_noerr, eOffer_noerr]
  cases h1 : (capturePhase o fuel ev chain { s with consume := false }).2
  · simp only [outcomeOf]
    cases h2 : (offer o fuel (capturePhase o fuel ev chain { s with consume := false }).1
        (tgt (capturePhase o fuel ev chain { s with consume := false }).1) ev .target).2
    · rcases eBubble_noerr o fuel ev chain.dropLast.reverse
        (offer o fuel (capturePhase o fuel ev chain { s with consume := false }).1
          (tgt (capturePhase o fuel ev chain { s with consume := false }).1) ev .target).1 with h | h <;>
        simp [h]
    · simp
  · simp [outcomeOf]

theorem eNotify_noerr (o : Oracle) (fuel : Nat) (s : St) (w : Id) (ev : Ev) :
    eNotify (e0 o) fuel s w ev = (notify o fuel s w ev, false) := by
  simp [eNotify, notify, eHandleCommand_noerr]

theorem eNotifyLoop_noerr (o : Oracle) (fuel : Nat) (ev : Ev) (skip : Hit → Bool) (l : List Hit) (s : St) :
    eNotifyLoop (e0 o) fuel ev skip l s =
      (l.foldl (fun s h => if skip h then s else notify o fuel s h.w ev) s, false) := by
  induction l generalizing s with
  | nil => rfl
  | cons h r ih =>
    simp only [eNotifyLoop, List.foldl_cons, eNotify_noerr]
    split
    · exact ih s
    · simpa using ih _

theorem eMouseUpdate_noerr (o : Oracle) (fuel : Nat) (s : St) (t : STree) :
    eMouseUpdate (e0 o) fuel s t = (mouseUpdate o fuel s t, false) := by
  unfold eMouseUpdate mouseUpdate
  cases hm : s.mouse with
  | none => rfl
  | some p => obtain ⟨c, r⟩ := p; simp [eNotifyLoop_noerr]

theorem eMouseExit_noerr (o : Oracle) (fuel : Nat) (s : St) :
    eMouseExit (e0 o) fuel s = (mouseExit o fuel s, false) := by
  simp [eMouseExit, mouseExit, eNotifyLoop_noerr]

theorem eMouseEnter_noerr (o : Oracle) (fuel : Nat) (s : St) (w : Id) :
    eMouseEnter (e0 o) fuel s w = (mouseEnter o fuel s w, false) := by
  simp only [eMouseEnter, mouseEnter, eNotify_noerr]
  split <;> rfl

theorem eMouseHandleEvent_noerr (o : Oracle) (fuel : Nat) (s : St) (c r : Int) :
    eMouseHandleEvent (e0 o) fuel s c r = (mouseHandleEvent o fuel s c r, false) := by
  simp only [eMouseHandleEvent, mouseHandleEvent, eMouseUpdate_noerr, eDispatch_noerr]
  cases (mouseUpdate o fuel { s with mouse := some (c, r) } s.lastFrame).lastHits.getLast? <;> simp

theorem eUpdatePath_noerr (o : Oracle) (fuel : Nat) (s : St) (t : STree) :
    eUpdatePath (e0 o) fuel s t = updatePath o fuel s t := by
  simp only [eUpdatePath, updatePath, eFocusWidget_noerr]

theorem eRunEvent_noerr (o : Oracle) (fuel : Nat) (s : St) (ev : RunEv) :
    eRunEvent (e0 o) fuel s ev = (runEvent o fuel s ev, false) := by
  cases ev <;>
    simp [eRunEvent, runEvent, eMouseHandleEvent_noerr, eMouseEnter_noerr, eMouseExit_noerr, eHandleEvent,
      handleEvent, eDispatch_noerr]

theorem eRunFrame_noerr (o : Oracle) (fuel : Nat) (s : St) (t1 t2 : STree) :
    eRunFrame (e0 o) fuel s t1 t2 = (runFrame o fuel s t1 t2, false) := by
  simp only [eRunFrame, runFrame, eMouseUpdate_noerr, eUpdatePath_noerr]
  split <;> simp

theorem eRunSteps_noerr (o : Oracle) (fuel : Nat) (steps : List Step) (s : St) :
    eRunSteps (e0 o) fuel s steps = (runSteps o fuel s steps, false) := by
  induction steps generalizing s with
  | nil => rfl
  | cons st rest ih =>
    cases st with
    | ev ev =>
      simp only [eRunSteps, runSteps, eRunStep, runStep, eRunEvent_noerr, Bool.false_eq_true, if_false]
      by_cases hq : (runEvent o fuel s ev).quit = true
      · simp [hq]
      · simp only [hq]
        rw [ih]; simp
    | frame t1 t2 =>
      simp only [eRunSteps, runSteps, eRunStep, runStep, eRunFrame_noerr, Bool.false_eq_true, if_false]
      exact ih _

theorem eRun_noerr (o : Oracle) (fuel : Nat) (root : Id) (t0 : STree) (steps : List Step) :
    eRun (e0 o) fuel root t0 steps = (runSteps o fuel (runInit o fuel root t0) steps, false) := by
  simp [eRun, eRunInit, runInit, eHandleEvent, handleEvent, eDispatch_noerr, eRunSteps_noerr]

/-- The last trace entry is a handler call (the failing one): nothing was executed after it. -/
def EndsWithCall (s : St) : Prop := ∃ pre w ev ph, s.trace = pre ++ [.call w ev ph]

theorem endsWithCall_call (o : Oracle) (s : St) (w : Id) (ev : Ev) (ph : Phase) :
    EndsWithCall (call o s w ev ph).1 := ⟨s.trace, w, ev, ph, rfl⟩

end VaxisModel.Lemmas.Vxfw
