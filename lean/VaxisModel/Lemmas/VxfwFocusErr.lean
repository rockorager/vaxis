import VaxisModel.Lemmas.VxfwWalk

/-! C15: focus notifications pair up over whole Run histories also when handlers fail — apart from the FocusOut calls that failed
    (a failing FocusOut handler cancels the focus change). -/

namespace VaxisModel.Lemmas.Vxfw
open VaxisModel.Model.Vxfw VaxisModel.Spec.Routing

/-- The trace without the FocusOut calls that failed (`k` = number of handler calls before the stretch). -/
def dropFailedOut (e : EOracle) : Nat → List Entry → List Entry
  | _, [] => []
  | k, .call w ev ph :: r =>
    if ev = .focusOut ∧ e.fails w ev ph k = true then dropFailedOut e (k + 1) r else .call w ev ph :: dropFailedOut e (k + 1) r
  | k, .eff x :: r => .eff x :: dropFailedOut e k r
  | k, .draw :: r => .draw :: dropFailedOut e k r

theorem dropFailedOut_append (e : EOracle) : ∀ (a b : List Entry) (k : Nat),
    dropFailedOut e k (a ++ b) = dropFailedOut e k a ++ dropFailedOut e (k + nCalls a) b
  | [], b, k => by simp [dropFailedOut, nCalls]
  | .call w ev ph :: a, b, k => by
    have h := dropFailedOut_append e a b (k + 1)
    have hk : k + 1 + nCalls a = k + (nCalls a + 1) := by omega
    simp only [List.cons_append, dropFailedOut, nCalls, h, hk]
    split <;> simp
  | .eff x :: a, b, k => by simp [dropFailedOut, nCalls, dropFailedOut_append e a b k]
  | .draw :: a, b, k => by simp [dropFailedOut, nCalls, dropFailedOut_append e a b k]

/-- The trace grew by a stretch whose focus notifications — the failed FocusOut calls dropped — pair up. -/
def FPe (e : EOracle) (s s' : St) : Prop :=
  ∃ t, s'.trace = s.trace ++ t ∧ s'.calls = s.calls + nCalls t ∧
    focusRun s.focused false (dropFailedOut e s.calls t) = some s'.focused

theorem FPe.refl (e : EOracle) (s : St) : FPe e s s := ⟨[], by simp, by simp [nCalls], rfl⟩

theorem FPe.trans {e : EOracle} {a b c : St} (h1 : FPe e a b) (h2 : FPe e b c) : FPe e a c := by
  obtain ⟨t1, e1, c1, p1⟩ := h1
  obtain ⟨t2, e2, c2, p2⟩ := h2
  refine ⟨t1 ++ t2, by rw [e2, e1, List.append_assoc], by rw [c2, c1, nCalls_append]; omega, ?_⟩
  rw [dropFailedOut_append, focusRun_append _ _ _ _ p1, ← c1]
  exact p2

theorem FPe.same {e : EOracle} {s s' : St} (ht : s'.trace = s.trace) (hc : s'.calls = s.calls) (hf : s'.focused = s.focused) :
    FPe e s s' := ⟨[], by simp [ht], by simp [nCalls, hc], by simp [dropFailedOut, focusRun, hf]⟩

theorem FPe.draw {e : EOracle} {s s' : St} (ht : s'.trace = s.trace ++ [.draw]) (hc : s'.calls = s.calls)
    (hf : s'.focused = s.focused) : FPe e s s' :=
  ⟨[.draw], ht, by simp [nCalls, hc], by simp [dropFailedOut, focusRun, hf]⟩

theorem FPe.call (e : EOracle) (s : St) (w : Id) (ev : Ev) (ph : Phase) (hev : Routable ev) :
    FPe e s (Model.Vxfw.call e.o s w ev ph).1 := by
  refine ⟨[.call w ev ph], rfl, by simp [Model.Vxfw.call, nCalls], ?_⟩
  obtain ⟨h1, h2⟩ := hev
  cases ev <;> first | exact absurd rfl h1 | exact absurd rfl h2 | simp [dropFailedOut, focusRun, Model.Vxfw.call]

theorem fpe_eFocusWidgetWith (hc : St → Cmd → St) (e : EOracle) (hg : ∀ s c, FPe e s (hc s c)) (s : St) (w : Id) :
    FPe e s (eFocusWidgetWith hc e s w).1 := by
  unfold eFocusWidgetWith
  split
  · exact FPe.refl e s
  · rename_i hne
    simp only []
    split
    · rename_i hfail
      refine ⟨[.call s.focused .focusOut .target], rfl, by simp [Model.Vxfw.call, nCalls], ?_⟩
      have hf : e.fails s.focused .focusOut .target s.calls = true := hfail
      simp [dropFailedOut, hf, focusRun, Model.Vxfw.call]
    · rename_i hok
      have hf : e.fails s.focused .focusOut .target s.calls = false := by
        have : ¬ (e.failsAt s s.focused .focusOut .target = true) := hok
        simpa [EOracle.failsAt] using this
      generalize hs3 : (Model.Vxfw.call e.o (findPath { (Model.Vxfw.call e.o s s.focused .focusOut .target).1 with focused := w, trace := (Model.Vxfw.call e.o s s.focused .focusOut .target).1.trace ++ [.eff (.focusSet w)] }).1 w .focusIn .target) = r3
      have h3 : FPe e s r3.1 := by
        refine ⟨[.call s.focused .focusOut .target, .eff (.focusSet w), .call w .focusIn .target], ?_, ?_, ?_⟩
        · rw [← hs3]; simp [Model.Vxfw.call, findPath]
        · rw [← hs3]; simp [Model.Vxfw.call, findPath, nCalls]
        · rw [← hs3]; simp [dropFailedOut, hf, focusRun, Model.Vxfw.call, findPath]
      have h4 := h3.trans (hg r3.1 (Model.Vxfw.call e.o s s.focused .focusOut .target).2)
      split
      · exact h4
      · exact h4.trans (hg _ _)

theorem fpe_eExecAtom (hc : St → Cmd → St) (e : EOracle) (hg : ∀ s c, FPe e s (hc s c)) (s : St) (a : Atom) :
    FPe e s (eExecAtom hc e s a) := by
  cases a with
  | focus w => exact fpe_eFocusWidgetWith hc e hg s w
  | _ => exact ⟨[.eff _], rfl, rfl, rfl⟩

theorem fpe_eHandleCommand (e : EOracle) : ∀ (fuel : Nat) (s : St) (c : Cmd), FPe e s (eHandleCommand e fuel s c)
  | 0, s, _ => FPe.same rfl rfl rfl
  | fuel + 1, s, c => by
    unfold eHandleCommand
    generalize c.flatten = l
    induction l generalizing s with
    | nil => exact FPe.refl e s
    | cons a l ih =>
      rw [List.foldl_cons]
      exact (fpe_eExecAtom _ e (fpe_eHandleCommand e fuel) s a).trans (ih _)

theorem fpe_eFocusWidget (e : EOracle) (fuel : Nat) (s : St) (w : Id) : FPe e s (eFocusWidget e fuel s w).1 := by
  cases fuel with
  | zero => exact FPe.same rfl rfl rfl
  | succ f => exact fpe_eFocusWidgetWith _ e (fpe_eHandleCommand e f) s w

theorem fpe_walk (e : EOracle) (fuel : Nat) : RunWalk e fuel (fun s s' _ => FPe e s s') where
  pure := FPe.refl e
  bind := FPe.trans
  flags := fun _ _ _ _ _ _ => FPe.same rfl rfl rfl
  draw := fun _ => FPe.draw rfl rfl rfl
  newFrame := fun _ _ => FPe.same rfl rfl rfl
  callFail := fun s w ev ph hev _ => FPe.call e s w ev ph hev
  callThen := fun s w ev ph hev _ => (FPe.call e s w ev ph hev).trans (fpe_eHandleCommand e fuel _ _)
  focusWidget := fpe_eFocusWidget e fuel
  mouse := fun _ _ _ _ => FPe.same rfl rfl rfl

theorem focusPairs_eRun (e : EOracle) (fuel : Nat) (root : Id) (t0 : STree) (steps : List Step) :
    focusRun root false (dropFailedOut e 0 (eRun e fuel root t0 steps).1.trace) = some (eRun e fuel root t0 steps).1.focused := by
  obtain ⟨t, ht, _, hp⟩ := (fpe_walk e fuel).eRun root t0 steps
  have ht' : (eRun e fuel root t0 steps).1.trace = t := by simpa [St.init] using ht
  rw [ht']
  simpa [St.init] using hp

theorem dropFailedOut_e0 (o : Oracle) : ∀ (t : List Entry) (k : Nat), dropFailedOut (e0 o) k t = t
  | [], _ => rfl
  | .call w ev ph :: r, k => by
    have h : (e0 o).fails w ev ph k = false := rfl
    simp [dropFailedOut, h, dropFailedOut_e0 o r]
  | .eff x :: r, k => by simp [dropFailedOut, dropFailedOut_e0 o r]
  | .draw :: r, k => by simp [dropFailedOut, dropFailedOut_e0 o r]

end VaxisModel.Lemmas.Vxfw
