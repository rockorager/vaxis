import VaxisModel.Lemmas.Vxfw

/-! C15, hover notifications: what the hover invariant `HovInv` says, the trees whose hit lists mention a widget at most once
(`HitsNodup`; enough: every widget drawn once, which render's child sort keeps), and that sort. -/
namespace VaxisModel.Lemmas.Vxfw
open VaxisModel.Model.Vxfw VaxisModel.Spec.Routing

/-- Entries that are not hover notifications. -/
def HQuiet (t : List Entry) : Prop :=
  ∀ e ∈ t, isRouted .mouseEnter e = false ∧ isRouted .mouseLeave e = false

theorem hoverRun_append (hs hs' : List Id) (a b : List Entry) (h : hoverRun hs a = some hs') :
    hoverRun hs (a ++ b) = hoverRun hs' b := by
  induction a generalizing hs with
  | nil => simp [hoverRun] at h; subst h; rfl
  | cons e a ih =>
    cases e with
    | call w ev ph =>
      cases ev with
      | mouseEnter =>
        simp only [hoverRun, List.cons_append] at h ⊢
        split at h
        · cases h
        · rename_i hc; rw [if_neg hc]; exact ih _ h
      | mouseLeave =>
        simp only [hoverRun, List.cons_append] at h ⊢
        split at h
        · rename_i hc; rw [if_pos hc]; exact ih _ h
        · cases h
      | _ => simpa [hoverRun] using ih hs (by simpa [hoverRun] using h)
    | _ => simpa [hoverRun] using ih hs (by simpa [hoverRun] using h)

theorem hoverRun_quiet (hs : List Id) (t : List Entry) (q : HQuiet t) : hoverRun hs t = some hs := by
  induction t with
  | nil => rfl
  | cons e t ih =>
    have ih' := ih (fun e he => q e (by simp [he]))
    have qe := q e (by simp)
    cases e with
    | call w ev ph =>
      cases ev with
      | mouseEnter => simp [isRouted] at qe
      | mouseLeave => simp [isRouted] at qe
      | _ => simpa [hoverRun] using ih'
    | _ => simpa [hoverRun] using ih'

/-- The hover invariant: the widgets whose last hover notification is MouseEnter are exactly the
widgets of the hit list, and the history so far alternates. -/
def HovInv (s : St) : Prop :=
  ∃ hs, hoverRun [] s.trace = some hs ∧ hs.Nodup ∧ (s.lastHits.map Hit.w).Nodup ∧
    ∀ w, w ∈ hs ↔ w ∈ s.lastHits.map Hit.w

theorem inj_of_nodup_map {l : List Hit} (nd : (l.map Hit.w).Nodup) {a b : Hit} (ha : a ∈ l) (hb : b ∈ l)
    (hw : a.w = b.w) : a = b := by
  induction l with
  | nil => cases ha
  | cons x r ih =>
    simp only [List.map_cons, List.nodup_cons, List.mem_map, not_exists, not_and] at nd
    rcases List.mem_cons.mp ha with rfl | ha'
    · rcases List.mem_cons.mp hb with rfl | hb'
      · rfl
      · exact absurd hw.symm (nd.1 b hb')
    · rcases List.mem_cons.mp hb with rfl | hb'
      · exact absurd hw (nd.1 a ha')
      · exact ih nd.2 ha' hb'

/-- All hit lists of a tree mention each widget at most once. -/
def HitsNodup (t : STree) : Prop := ∀ c r, ((hitsAt t c r).map Hit.w).Nodup

theorem mouseUpdate_lastHits (o : Oracle) (fuel : Nat) (s : St) (t : STree) (c r : Int)
    (hm : s.mouse = some (c, r)) : (mouseUpdate o fuel s t).lastHits = hitsAt t c r := by
  simp [mouseUpdate, hm]

/-- Steps whose trees have duplicate-free hit lists (before and after render's sort); any event. -/
def StepOk : Step → Prop
  | .ev _ => True
  | .frame t1 t2 => HitsNodup t1 ∧ HitsNodup (sortTree t1) ∧ HitsNodup (sortTree t2)

def FrameOk (s : St) : Prop := HitsNodup s.lastFrame

theorem any_w_iff (l : List Hit) (w : Id) : (l.any (fun h => h.w == w)) = true ↔ w ∈ l.map Hit.w := by
  simp only [List.any_eq_true, List.mem_map, beq_iff_eq]

theorem HovInv.nil {s : St} (hi : HovInv s) (hl : s.lastHits = []) : hoverRun [] s.trace = some [] := by
  obtain ⟨hs, hr, _, _, hm⟩ := hi
  have : hs = [] := List.eq_nil_iff_forall_not_mem.mpr (fun w hw => by simpa [hl] using (hm w).mp hw)
  rw [hr, this]

mutual
/-- Widgets of a surface tree in pre-order. -/
def ids : STree → List Id
  | .node i _ _ ch => i :: idsL ch
def idsL : List Kid → List Id
  | [] => []
  | (_, _, _, t) :: r => ids t ++ idsL r
end

theorem idsL_cons (x : Kid) (l : List Kid) : idsL (x :: l) = ids x.2.2.2 ++ idsL l := by
  obtain ⟨c, r, z, t⟩ := x
  simp [idsL]

mutual
theorem hitTest_sublist : (t : STree) → (c r : Int) → ((hitTest t c r).map Hit.w).Sublist (ids t)
  | .node i w h ch, c, r => by
    simp only [hitTest, ids, List.map_cons]
    exact (hitKids_sublist ch c r).cons_cons i
theorem hitKids_sublist : (l : List Kid) → (c r : Int) → ((hitKids l c r).map Hit.w).Sublist (idsL l)
  | [], _, _ => by simp [hitKids, idsL]
  | (oc, or_, z, t) :: rest, c, r => by
    simp only [hitKids, idsL, List.map_append]
    apply List.Sublist.append _ (hitKids_sublist rest c r)
    split
    · exact hitTest_sublist t _ _
    · simp
end

theorem hitsNodup_of_ids (t : STree) (h : (ids t).Nodup) : HitsNodup t := by
  intro c r
  simp only [hitsAt]
  split
  · exact (hitTest_sublist t _ _).nodup h
  · simp

theorem idsL_insertKid (x : Kid) : (l : List Kid) → (idsL (insertKid x l)).Perm (ids x.2.2.2 ++ idsL l)
  | [] => by simp [insertKid, idsL_cons, idsL]
  | y :: ys => by
    simp only [insertKid]
    split
    · rw [idsL_cons]
    · rw [idsL_cons, idsL_cons]
      exact ((idsL_insertKid x ys).append_left _).trans (List.perm_append_comm_assoc _ _ _)

theorem idsL_foldl_insert (l acc : List Kid) :
    (idsL (l.foldl (fun acc x => insertKid x acc) acc)).Perm (idsL acc ++ idsL l) := by
  induction l generalizing acc with
  | nil => simp [idsL]
  | cons x r ih =>
    rw [List.foldl_cons, idsL_cons]
    refine (ih _).trans ?_
    refine ((idsL_insertKid x acc).append_right _).trans ?_
    rw [List.append_assoc]
    exact (List.perm_append_comm_assoc _ _ _)

theorem idsL_sortKids (l : List Kid) : (idsL (sortKids l)).Perm (idsL l) := by
  have := idsL_foldl_insert l []
  simpa [sortKids, idsL] using this

mutual
theorem ids_sortTree : (t : STree) → (ids (sortTree t)).Perm (ids t)
  | .node i w h ch => by
    simp only [sortTree, ids]
    exact ((idsL_sortKids _).trans (idsL_sortTreeL ch)).cons i
theorem idsL_sortTreeL : (l : List Kid) → (idsL (sortTreeL l)).Perm (idsL l)
  | [] => by simp [sortTreeL]
  | (c, r, z, t) :: rest => by
    simp only [sortTreeL, idsL]
    exact (ids_sortTree t).append (idsL_sortTreeL rest)
end

theorem hitsNodup_sortTree (t : STree) (h : (ids t).Nodup) : HitsNodup (sortTree t) :=
  hitsNodup_of_ids _ ((ids_sortTree t).symm.nodup h)

/-- A step whose trees draw every widget at most once. -/
def StepDistinct : Step → Prop
  | .ev _ => True
  | .frame t1 t2 => (ids t1).Nodup ∧ (ids t2).Nodup

theorem StepOk.of_distinct {st : Step} (h : StepDistinct st) : StepOk st := by
  cases st with
  | ev e => trivial
  | frame t1 t2 =>
    exact ⟨hitsNodup_of_ids t1 h.1, hitsNodup_sortTree t1 h.1, hitsNodup_sortTree t2 h.2⟩

theorem mem_insertKid (x a : Kid) : (l : List Kid) → (a ∈ insertKid x l ↔ a = x ∨ a ∈ l)
  | [] => by simp [insertKid]
  | y :: ys => by
    simp only [insertKid]
    split
    · simp
    · simp only [List.mem_cons, mem_insertKid x a ys]
      exact or_left_comm

theorem insertKid_sorted (x : Kid) : (l : List Kid) → l.Pairwise (fun a b => a.2.2.1 ≤ b.2.2.1) →
    (insertKid x l).Pairwise (fun a b => a.2.2.1 ≤ b.2.2.1)
  | [], _ => by simp [insertKid]
  | y :: ys, h => by
    have hy := List.pairwise_cons.mp h
    simp only [insertKid]
    split
    · rename_i hlt
      refine List.pairwise_cons.mpr ⟨?_, h⟩
      intro a ha
      rcases List.mem_cons.mp ha with rfl | ha'
      · exact Int.le_of_lt hlt
      · exact Int.le_trans (Int.le_of_lt hlt) (hy.1 a ha')
    · rename_i hge
      refine List.pairwise_cons.mpr ⟨?_, insertKid_sorted x ys hy.2⟩
      intro a ha
      rcases (mem_insertKid x a ys).mp ha with rfl | ha'
      · exact Int.not_lt.mp hge
      · exact hy.1 a ha'

theorem sortKids_sorted (l : List Kid) : (sortKids l).Pairwise (fun a b => a.2.2.1 ≤ b.2.2.1) := by
  suffices H : ∀ (l acc : List Kid), acc.Pairwise (fun a b => a.2.2.1 ≤ b.2.2.1) →
      (l.foldl (fun acc x => insertKid x acc) acc).Pairwise (fun a b => a.2.2.1 ≤ b.2.2.1) from
    H l [] List.Pairwise.nil
  intro l
  induction l with
  | nil => intro acc h; exact h
  | cons x r ih => intro acc h; exact ih _ (insertKid_sorted x acc h)

end VaxisModel.Lemmas.Vxfw
