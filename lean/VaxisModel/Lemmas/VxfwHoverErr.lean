import VaxisModel.Lemmas.VxfwHover
import VaxisModel.Lemmas.VxfwWalk

/-! C15: hover notifications under handlers that fail (error-aware functions of `Model/VxfwErr.lean`): the hover
invariant `HovInv` over whole Run histories (`hov_eRun`), the plain Run loop as the case of no failing call (`hov_run`),
and that only the mouse handler's own functions assign the hit list (`hits_walk`). -/

namespace VaxisModel.Lemmas.Vxfw
open VaxisModel.Model.Vxfw VaxisModel.Spec.Routing

/-- `s'` extends `s` by entries that are not hover notifications and keeps the mouse handler. -/
structure QuietExt (s s' : St) : Prop where
  ex : ∃ t, s'.trace = s.trace ++ t ∧ HQuiet t
  lastHits : s'.lastHits = s.lastHits
  mouse : s'.mouse = s.mouse
  lastFrame : s'.lastFrame = s.lastFrame

theorem QuietExt.refl (s : St) : QuietExt s s := ⟨⟨[], by simp, by intro e he; cases he⟩, rfl, rfl, rfl⟩

theorem QuietExt.trans {a b c : St} (h1 : QuietExt a b) (h2 : QuietExt b c) : QuietExt a c := by
  obtain ⟨⟨t1, e1, q1⟩, l1, m1, f1⟩ := h1
  obtain ⟨⟨t2, e2, q2⟩, l2, m2, f2⟩ := h2
  refine ⟨⟨t1 ++ t2, by rw [e2, e1, List.append_assoc], ?_⟩, l2.trans l1, m2.trans m1, f2.trans f1⟩
  intro e he
  rcases List.mem_append.mp he with h | h
  · exact q1 e h
  · exact q2 e h

theorem QuietExt.step (s s' : St) (x : Entry) (ht : s'.trace = s.trace ++ [x])
    (hx : isRouted .mouseEnter x = false ∧ isRouted .mouseLeave x = false)
    (h1 : s'.lastHits = s.lastHits) (h2 : s'.mouse = s.mouse) (h3 : s'.lastFrame = s.lastFrame) : QuietExt s s' :=
  ⟨⟨[x], ht, by intro e he; simp only [List.mem_singleton] at he; subst he; exact hx⟩, h1, h2, h3⟩

theorem QuietExt.congr {s a b : St} (h : QuietExt s a) (ht : b.trace = a.trace) (hl : b.lastHits = a.lastHits) (hm : b.mouse = a.mouse)
    (hf : b.lastFrame = a.lastFrame) : QuietExt s b :=
  ⟨by rw [ht]; exact h.ex, hl.trans h.lastHits, hm.trans h.mouse, hf.trans h.lastFrame⟩

theorem quietExt_call (o : Oracle) (s : St) (w : Id) (ev : Ev) (ph : Phase) (h1 : ev ≠ .mouseEnter) (h2 : ev ≠ .mouseLeave) :
    QuietExt s (Model.Vxfw.call o s w ev ph).1 :=
  QuietExt.step _ _ (.call w ev ph) rfl ⟨by simpa [isRouted] using h1, by simpa [isRouted] using h2⟩ rfl rfl rfl

/-- Neither `.mouseEnter` nor `.mouseLeave` is offered. -/
theorem QuietExt.of_ext {s s' : St} (h1 : Ext .mouseEnter s s') (h2 : Ext .mouseLeave s s') : QuietExt s s' := by
  obtain ⟨t1, e1, q1, _, _⟩ := h1.ex
  obtain ⟨t2, e2, q2, _, _⟩ := h2.ex
  have : t1 = t2 := List.append_cancel_left (e1.symm.trans e2)
  subst this
  exact ⟨⟨t1, e1, fun e he => ⟨q1 e he, q2 e he⟩⟩, h1.lastHits, h1.mouse, h1.lastFrame⟩

theorem quietExt_eHandleCommand (e : EOracle) (fuel : Nat) (s : St) (c : Cmd) : QuietExt s (eHandleCommand e fuel s c) :=
  QuietExt.of_ext (ext_eHandleCommand ⟨by simp, by simp⟩ e fuel s c) (ext_eHandleCommand ⟨by simp, by simp⟩ e fuel s c)

theorem quietExt_eFocusWidget (e : EOracle) (fuel : Nat) (s : St) (w : Id) : QuietExt s (eFocusWidget e fuel s w).1 :=
  QuietExt.of_ext (ext_eFocusWidget ⟨by simp, by simp⟩ e fuel s w) (ext_eFocusWidget ⟨by simp, by simp⟩ e fuel s w)

theorem eNotify_hover (e : EOracle) (fuel : Nat) (s : St) (w : Id) (ev : Ev) :
    ∃ t, (eNotify e fuel s w ev).1.trace = s.trace ++ (.call w ev .target :: t) ∧ HQuiet t ∧
      (eNotify e fuel s w ev).1.lastHits = s.lastHits ∧ (eNotify e fuel s w ev).1.mouse = s.mouse ∧
      (eNotify e fuel s w ev).1.lastFrame = s.lastFrame := by
  unfold eNotify
  simp only []
  split
  · exact ⟨[], by simp [Model.Vxfw.call], (fun x hx => nomatch hx), rfl, rfl, rfl⟩
  · obtain ⟨⟨t, et, qt⟩, lh, m, lf⟩ := quietExt_eHandleCommand e fuel (Model.Vxfw.call e.o s w ev .target).1 (Model.Vxfw.call e.o s w ev .target).2
    refine ⟨t, ?_, qt, lh, m, lf⟩
    simp only []
    rw [et]
    simp [Model.Vxfw.call]

/-- What a MouseLeave / MouseEnter notification of `w` does to the hovered widgets when it is the right one to send. -/
def tog (hs : List Id) (w : Id) : List Id := if w ∈ hs then hs.erase w else w :: hs

theorem tog_nodup {hs : List Id} (nd : hs.Nodup) (w : Id) : (tog hs w).Nodup := by
  unfold tog; split
  · exact nd.erase _
  · rename_i h; exact List.nodup_cons.mpr ⟨h, nd⟩

theorem mem_tog {hs : List Id} (nd : hs.Nodup) (w x : Id) : x ∈ tog hs w ↔ (x ∈ hs ↔ x ≠ w) := by
  unfold tog; split
  · rename_i h
    rw [nd.mem_erase_iff]
    by_cases hx : x = w <;> simp [hx, h]
  · rename_i h
    by_cases hx : x = w <;> simp [hx, h]

/-- A hover event, and when it is the right one for a widget. -/
def Right (ev : Ev) (hs : List Id) (w : Id) : Prop := (ev = .mouseLeave ∧ w ∈ hs) ∨ (ev = .mouseEnter ∧ w ∉ hs)

theorem hoverRun_right (ev : Ev) (hs : List Id) (w : Id) (h : Right ev hs w) (t : List Entry) (q : HQuiet t) :
    hoverRun hs (.call w ev .target :: t) = some (tog hs w) := by
  rcases h with ⟨rfl, hm⟩ | ⟨rfl, hm⟩
  · simp only [hoverRun, List.contains_iff_mem, hm, if_true, tog]; exact hoverRun_quiet _ t q
  · simp only [hoverRun, List.contains_iff_mem, hm, if_false, tog]; exact hoverRun_quiet _ t q

/-- Every widget of `l` that is not skipped is sent `ev`, the right event for it;
    afterwards the hovered widgets are the old ones with exactly those toggled. -/
theorem toggle_loop (e : EOracle) (fuel : Nat) (ev : Ev) (skip : Hit → Bool) :
    ∀ (l : List Hit) (s : St) (hs : List Id),
      hoverRun [] s.trace = some hs → hs.Nodup → (l.map Hit.w).Nodup →
      (∀ h ∈ l, skip h = false → Right ev hs h.w) →
      ∃ hs', hoverRun [] (eNotifyLoop e fuel ev skip l s).1.trace = some hs' ∧ hs'.Nodup ∧
        ((eNotifyLoop e fuel ev skip l s).2 = false →
          ∀ w, w ∈ hs' ↔ (w ∈ hs ↔ w ∉ (l.filter (fun h => !skip h)).map Hit.w)) ∧
        (eNotifyLoop e fuel ev skip l s).1.lastHits = s.lastHits ∧
        (eNotifyLoop e fuel ev skip l s).1.mouse = s.mouse ∧
        (eNotifyLoop e fuel ev skip l s).1.lastFrame = s.lastFrame := by
  intro l
  induction l with
  | nil => intro s hs hr nd _ _; exact ⟨hs, hr, nd, by intro _; simp, rfl, rfl, rfl⟩
  | cons h r ih =>
    intro s hs hr nd ndl hin
    simp only [List.map_cons, List.nodup_cons] at ndl
    by_cases hk : skip h = true
    · simp only [eNotifyLoop, hk, if_true]
      obtain ⟨hs', a, b, c, d, e', f⟩ := ih s hs hr nd ndl.2 (fun h' hh' => hin h' (by simp [hh']))
      exact ⟨hs', a, b, fun hne w => by rw [c hne w]; simp [hk], d, e', f⟩
    · have hkf : skip h = false := by simpa using hk
      simp only [eNotifyLoop, hkf, Bool.false_eq_true, if_false]
      obtain ⟨t, et, qt, lh, mm, lff⟩ := eNotify_hover e fuel s h.w ev
      have hr1 : hoverRun [] (eNotify e fuel s h.w ev).1.trace = some (tog hs h.w) := by
        rw [et, hoverRun_append _ _ _ _ hr]
        exact hoverRun_right ev hs h.w (hin h (by simp) hkf) t qt
      by_cases hx : (eNotify e fuel s h.w ev).2 = true
      · simp only [hx, if_true]
        exact ⟨_, hr1, tog_nodup nd _, by intro hf; simp at hf, lh, mm, lff⟩
      · have hxf : (eNotify e fuel s h.w ev).2 = false := by simpa using hx
        simp only [hxf, Bool.false_eq_true, if_false]
        -- the widgets further on are other widgets: the event is still the right one for them
        obtain ⟨hs', a, b, c, d, e', f⟩ := ih (eNotify e fuel s h.w ev).1 (tog hs h.w) hr1 (tog_nodup nd _) ndl.2
          (fun h' hh' hk' => by
            have hne : h'.w ≠ h.w := fun heq => ndl.1 (heq ▸ List.mem_map_of_mem hh')
            have hm : h'.w ∈ tog hs h.w ↔ h'.w ∈ hs := by rw [mem_tog nd]; simp [hne]
            unfold Right; rw [hm]; exact hin h' (by simp [hh']) hk')
        refine ⟨hs', a, b, fun hne w => ?_, d.trans lh, e'.trans mm, f.trans lff⟩
        rw [c hne w, mem_tog nd]
        simp only [List.filter_cons, hkf, Bool.not_false, if_true, List.map_cons, List.mem_cons, not_or]
        have hnr : h.w ∉ (r.filter fun h => !skip h).map Hit.w := fun hm => by
          obtain ⟨h', hh', hw'⟩ := List.mem_map.mp hm
          exact ndl.1 (hw' ▸ List.mem_map_of_mem (List.mem_filter.mp hh').1)
        by_cases hw : w = h.w
        · subst hw; simp [hnr]
        · simp [hw]

/-- The widgets of `a` whose hit is not in `b`: the ones a loop over `a` that skips the hits of `b` notifies. -/
def told (a b : List Hit) : List Id := (a.filter (fun h => !b.contains h)).map Hit.w

theorem mem_told {a b : List Hit} {w : Id} : w ∈ told a b ↔ ∃ h ∈ a, h ∉ b ∧ h.w = w := by
  simp [told, List.mem_filter, and_assoc]

/-- A widget with a new hit: it was hit before iff its old hit is gone. -/
theorem told_swap {a b : List Hit} (ndb : (b.map Hit.w).Nodup) {w : Id} (hw : w ∈ told b a) :
    w ∈ a.map Hit.w ↔ w ∈ told a b := by
  obtain ⟨h, hb, hna, rfl⟩ := mem_told.mp hw
  constructor
  · intro ho
    obtain ⟨h', ha', hw'⟩ := List.mem_map.mp ho
    exact mem_told.mpr ⟨h', ha', fun hb' => hna (inj_of_nodup_map ndb hb' hb hw' ▸ ha'), hw'⟩
  · intro ht
    obtain ⟨h', ha', _, hw'⟩ := mem_told.mp ht
    exact List.mem_map.mpr ⟨h', ha', hw'⟩

/-- **The widgets hit before, those that lost their hit toggled, those that got a new hit toggled: the widgets hit now.** -/
theorem toggled_twice {a b : List Hit} (nda : (a.map Hit.w).Nodup) (ndb : (b.map Hit.w).Nodup) (w : Id) :
    ((w ∈ a.map Hit.w ↔ w ∉ told a b) ↔ w ∉ told b a) ↔ w ∈ b.map Hit.w := by
  by_cases hE : w ∈ told b a
  · have hN : w ∈ b.map Hit.w := by obtain ⟨h, hb, _, hw⟩ := mem_told.mp hE; exact List.mem_map.mpr ⟨h, hb, hw⟩
    simp [hE, hN, told_swap ndb hE]
  · have hin : ∀ h ∈ b, h.w = w → h ∈ a := fun h hb hw => Classical.not_not.mp fun hna => hE (mem_told.mpr ⟨h, hb, hna, hw⟩)
    simp only [hE, not_false_eq_true, iff_true]
    by_cases hL : w ∈ told a b
    · obtain ⟨h, ha, hnb, hw⟩ := mem_told.mp hL
      have hO : w ∈ a.map Hit.w := List.mem_map.mpr ⟨h, ha, hw⟩
      have hN : w ∉ b.map Hit.w := fun hn => by
        obtain ⟨h', hb', hw'⟩ := List.mem_map.mp hn
        exact hnb (inj_of_nodup_map nda (hin h' hb' hw') ha (hw'.trans hw.symm) ▸ hb')
      simp [hL, hO, hN]
    · simp only [hL, not_false_eq_true, iff_true]
      constructor
      · intro ho
        obtain ⟨h, ha, hw⟩ := List.mem_map.mp ho
        exact List.mem_map.mpr ⟨h, Classical.not_not.mp fun hnb => hL (mem_told.mpr ⟨h, ha, hnb, hw⟩), hw⟩
      · intro hn
        obtain ⟨h, hb, hw⟩ := List.mem_map.mp hn
        exact List.mem_map.mpr ⟨h, hin h hb hw, hw⟩

/-- What holds of a result `(s', err)`: the hover notifications so far alternate; with no error the hover invariant holds. -/
def HovRes (s' : St) (b : Bool) : Prop := (∃ hs, hoverRun [] s'.trace = some hs) ∧ (b = false → HovInv s')

theorem HovRes.of_inv {s : St} (b : Bool) (h : HovInv s) : HovRes s b := ⟨⟨h.choose, h.choose_spec.1⟩, fun _ => h⟩

theorem HovInv.of_quietExt {s s' : St} (h : QuietExt s s') (hi : HovInv s) : HovInv s' := by
  obtain ⟨hs, hr, nd, ndl, hm⟩ := hi
  obtain ⟨⟨t, et, qt⟩, lh, _, _⟩ := h
  refine ⟨hs, ?_, nd, by rw [lh]; exact ndl, by rw [lh]; exact hm⟩
  rw [et, hoverRun_append _ _ _ _ hr]
  exact hoverRun_quiet hs t qt

theorem eMouseUpdate_hov (e : EOracle) (fuel : Nat) (s : St) (t : STree) (ht : HitsNodup t) (hi : HovInv s) :
    HovRes (eMouseUpdate e fuel s t).1 (eMouseUpdate e fuel s t).2 ∧ (eMouseUpdate e fuel s t).1.mouse = s.mouse ∧
      (eMouseUpdate e fuel s t).1.lastFrame = s.lastFrame := by
  cases hm : s.mouse with
  | none => simp only [eMouseUpdate, hm]; exact ⟨HovRes.of_inv _ hi, trivial, trivial⟩
  | some p =>
    obtain ⟨c, r⟩ := p
    obtain ⟨hs, hr, nd, ndl, hmem⟩ := hi
    have ndh := ht c r
    simp only [eMouseUpdate, hm]
    generalize hhits : hitsAt t c r = hits at ndh
    -- MouseLeave to the widgets that lost their hit: they are hovered
    obtain ⟨hs1, r1, nd1, m1, l1, mo1, lf1⟩ := toggle_loop e fuel .mouseLeave (fun h => hits.contains h) s.lastHits s hs hr nd ndl
      (fun h hh _ => Or.inl ⟨rfl, (hmem h.w).mpr (List.mem_map_of_mem hh)⟩)
    by_cases hb1 : (eNotifyLoop e fuel .mouseLeave (fun h => hits.contains h) s.lastHits s).2 = true
    · simp only [hb1, if_true]
      exact ⟨⟨⟨hs1, r1⟩, by intro h; cases h⟩, mo1.trans hm, lf1⟩
    · have hb1f : (eNotifyLoop e fuel .mouseLeave (fun h => hits.contains h) s.lastHits s).2 = false := by simpa using hb1
      simp only [hb1f, Bool.false_eq_true, if_false]
      have m1' : ∀ w, w ∈ hs1 ↔ (w ∈ s.lastHits.map Hit.w ↔ w ∉ told s.lastHits hits) := fun w => by rw [m1 hb1f w, hmem w]; rfl
      -- MouseEnter to the widgets with a new hit: they are not hovered now
      obtain ⟨hs2, r2, nd2, m2, l2, mo2, lf2⟩ := toggle_loop e fuel .mouseEnter (fun h => s.lastHits.contains h) hits _ hs1 r1 nd1 ndh
        (fun h hh hnot => Or.inr ⟨rfl, fun hin1 => by
          have hE : h.w ∈ told hits s.lastHits := mem_told.mpr ⟨h, hh, by simpa using hnot, rfl⟩
          have := (m1' h.w).mp hin1
          rw [told_swap ndh hE] at this
          exact (iff_not_self this)⟩)
      by_cases hb2 : (eNotifyLoop e fuel .mouseEnter (fun h => s.lastHits.contains h) hits
          (eNotifyLoop e fuel .mouseLeave (fun h => hits.contains h) s.lastHits s).1).2 = true
      · simp only [hb2, if_true]
        exact ⟨⟨⟨hs2, r2⟩, by intro h; cases h⟩, (mo2.trans mo1).trans hm, lf2.trans lf1⟩
      · have hb2f : (eNotifyLoop e fuel .mouseEnter (fun h => s.lastHits.contains h) hits
            (eNotifyLoop e fuel .mouseLeave (fun h => hits.contains h) s.lastHits s).1).2 = false := by simpa using hb2
        simp only [hb2f, Bool.false_eq_true, if_false]
        refine ⟨⟨⟨hs2, by simpa using r2⟩, fun _ => ⟨hs2, by simpa using r2, nd2, by simpa using ndh, fun w => ?_⟩⟩,
          by simpa using (mo2.trans mo1).trans hm, by simpa using lf2.trans lf1⟩
        rw [m2 hb2f w, m1' w]
        exact toggled_twice ndl ndh w

theorem eMouseExit_hov (e : EOracle) (fuel : Nat) (s : St) (hi : HovInv s) :
    HovRes (eMouseExit e fuel s).1 (eMouseExit e fuel s).2 ∧ (eMouseExit e fuel s).1.lastFrame = s.lastFrame := by
  obtain ⟨hs, hr, nd, ndl, hmem⟩ := hi
  obtain ⟨hs1, r1, nd1, m1, l1, mo1, lf1⟩ := toggle_loop e fuel .mouseLeave (fun _ => false) s.lastHits s hs hr nd ndl
    (fun h hh _ => Or.inl ⟨rfl, (hmem h.w).mpr (List.mem_map_of_mem hh)⟩)
  unfold eMouseExit
  simp only []
  by_cases hb : (eNotifyLoop e fuel .mouseLeave (fun _ => false) s.lastHits s).2 = true
  · simp only [hb, if_true]
    exact ⟨⟨⟨hs1, r1⟩, by intro h; cases h⟩, lf1⟩
  · have hbf : (eNotifyLoop e fuel .mouseLeave (fun _ => false) s.lastHits s).2 = false := by simpa using hb
    simp only [hbf, Bool.false_eq_true, if_false]
    -- every hovered widget was told: none is left
    have hnil : hs1 = [] := List.eq_nil_iff_forall_not_mem.mpr fun w hw => by
      have := (m1 hbf w).mp hw
      rw [hmem w, show (s.lastHits.filter fun _ => !false) = s.lastHits by simp] at this
      exact iff_not_self this
    subst hnil
    exact ⟨⟨⟨[], by simpa using r1⟩, fun _ => ⟨[], by simpa using r1, List.nodup_nil, by simp, by simp⟩⟩, by simpa using lf1⟩

theorem eMouseEnter_hov (e : EOracle) (fuel : Nat) (s : St) (w : Id) (hi : HovInv s) :
    HovRes (eMouseEnter e fuel s w).1 (eMouseEnter e fuel s w).2 ∧ (eMouseEnter e fuel s w).1.lastFrame = s.lastFrame := by
  simp only [eMouseEnter]
  split
  · exact ⟨HovRes.of_inv _ hi, rfl⟩
  · rename_i hnot
    have hnm : w ∉ s.lastHits.map Hit.w := fun h => hnot ((any_w_iff _ _).mpr h)
    obtain ⟨hs, hr, nd, ndl, hmem⟩ := hi
    have hnh : w ∉ hs := fun h => hnm ((hmem w).mp h)
    obtain ⟨t, et, qt, lh, _, lf⟩ := eNotify_hover e fuel { s with lastHits := s.lastHits ++ [⟨0, 0, w⟩] } w .mouseEnter
    have hrun : hoverRun [] (eNotify e fuel { s with lastHits := s.lastHits ++ [⟨0, 0, w⟩] } w .mouseEnter).1.trace = some (w :: hs) := by
      rw [et]
      show hoverRun [] (s.trace ++ _) = _
      rw [hoverRun_append _ _ _ _ hr, hoverRun_right .mouseEnter hs w (Or.inr ⟨rfl, hnh⟩) t qt, tog, if_neg hnh]
    refine ⟨⟨⟨w :: hs, hrun⟩, fun _ => ⟨w :: hs, hrun, List.nodup_cons.mpr ⟨hnh, nd⟩, ?_, ?_⟩⟩, lf⟩
    · rw [lh]
      simp only [List.map_append, List.map_cons, List.map_nil]
      exact List.nodup_append.mpr ⟨ndl, by simp, by
        intro a ha b hb
        simp only [List.mem_singleton] at hb
        subst hb
        exact fun h => hnm (h ▸ ha)⟩
    · intro x
      rw [lh]
      simp only [List.map_append, List.map_cons, List.map_nil, List.mem_append, List.mem_cons,
        List.not_mem_nil, or_false]
      rw [hmem x]
      exact or_comm

theorem quiet_walk (e : EOracle) (fuel : Nat) : Walk e fuel (fun ev => ev ≠ .mouseEnter ∧ ev ≠ .mouseLeave) (fun s s' _ => QuietExt s s') where
  pure := QuietExt.refl
  bind := QuietExt.trans
  flags := fun s _ _ _ _ _ => (QuietExt.refl s).congr rfl rfl rfl rfl
  draw := fun s => QuietExt.step s _ .draw rfl ⟨rfl, rfl⟩ rfl rfl rfl
  newFrame := fun s _ => (QuietExt.refl s).congr rfl rfl rfl rfl
  callFail := fun s w ev ph hev _ => quietExt_call e.o s w ev ph hev.1 hev.2
  callThen := fun s w ev ph hev _ => (quietExt_call e.o s w ev ph hev.1 hev.2).trans (quietExt_eHandleCommand e fuel _ _)
  focusWidget := quietExt_eFocusWidget e fuel

/-- Only `mouseHandler.update`, `mouseExit` and `mouseEnter` themselves assign the hit list — whatever the event. -/
theorem hits_walk (e : EOracle) (fuel : Nat) : Walk e fuel (fun _ => True) (fun s s' _ => s'.lastHits = s.lastHits) where
  pure := fun _ => rfl
  bind := fun h1 h2 => h2.trans h1
  flags := fun _ _ _ _ _ _ => rfl
  draw := fun _ => rfl
  newFrame := fun _ _ => rfl
  callFail := fun _ _ _ _ _ _ => rfl
  callThen := fun _ _ _ _ _ _ => (quietExt_eHandleCommand e fuel _ _).lastHits
  focusWidget := fun s w => (quietExt_eFocusWidget e fuel s w).lastHits

theorem eOffer_hits (e : EOracle) (fuel : Nat) (s : St) (w : Id) (ev : Ev) (ph : Phase) :
    (eOffer e fuel s w ev ph).1.lastHits = s.lastHits := (hits_walk e fuel).eOffer s w trivial ph

theorem eOffers_hits (e : EOracle) (fuel : Nat) (ev : Ev) (rt : List Hop) (s : St) :
    (eOffers e fuel ev rt s).1.lastHits = s.lastHits := (hits_walk e fuel).eOffers trivial rt s

theorem eNotify_hits (e : EOracle) (fuel : Nat) (s : St) (w : Id) (ev : Ev) :
    (eNotify e fuel s w ev).1.lastHits = s.lastHits := (hits_walk e fuel).eNotify s w trivial

theorem eNotifyLoop_hits (e : EOracle) (fuel : Nat) (ev : Ev) (skip : Hit → Bool) (l : List Hit) (s : St) :
    (eNotifyLoop e fuel ev skip l s).1.lastHits = s.lastHits := (hits_walk e fuel).eNotifyLoop trivial skip l s

theorem FrameOk.of_lastFrame {s s' : St} (hf : FrameOk s) (h : s'.lastFrame = s.lastFrame) : FrameOk s' := by
  unfold FrameOk; rw [h]; exact hf

def HovQ (s s' : St) (err : Bool) : Prop := FrameOk s → HovInv s → HovRes s' err ∧ (err = false → FrameOk s')

theorem HovQ.of_quietExt {s s' : St} (b : Bool) (h : QuietExt s s') : HovQ s s' b :=
  fun hf hi => ⟨HovRes.of_inv _ (HovInv.of_quietExt h hi), fun _ => hf.of_lastFrame h.lastFrame⟩

theorem hov_handlers (e : EOracle) (fuel : Nat) : HandlerWalk e fuel HitsNodup HovQ where
  pure := fun _ hf hi => ⟨HovRes.of_inv _ hi, fun _ => hf⟩
  bind := fun h1 h2 hf hi => h2 ((h1 hf hi).2 rfl) ((h1 hf hi).1.2 rfl)
  flags := fun s _ _ _ _ _ => HovQ.of_quietExt _ ((quiet_walk e fuel).flags s _ _ _ _ _)
  draw := fun s => HovQ.of_quietExt _ ((quiet_walk e fuel).draw s)
  newFrame := fun s t => HovQ.of_quietExt _ ((quiet_walk e fuel).newFrame s t)
  callFail := fun s w ev ph hev hf => HovQ.of_quietExt _ ((quiet_walk e fuel).callFail s w ev ph hev.elim.2 hf)
  callThen := fun s w ev ph hev hf => HovQ.of_quietExt _ ((quiet_walk e fuel).callThen s w ev ph hev.elim.2 hf)
  focusWidget := fun s w => HovQ.of_quietExt _ ((quiet_walk e fuel).focusWidget s w)
  pointer := fun _ _ hf hi => ⟨HovRes.of_inv _ hi, fun _ => hf⟩
  setFrame := fun _ _ ht _ hi => ⟨HovRes.of_inv _ hi, fun _ => ht⟩
  updateLast := fun s hf hi =>
    ⟨(eMouseUpdate_hov e fuel s s.lastFrame hf hi).1, fun _ => hf.of_lastFrame (eMouseUpdate_hov e fuel s s.lastFrame hf hi).2.2⟩
  update := fun s t ht hf hi =>
    ⟨(eMouseUpdate_hov e fuel s t ht hi).1, fun _ => hf.of_lastFrame (eMouseUpdate_hov e fuel s t ht hi).2.2⟩
  exit := fun s hf hi => ⟨(eMouseExit_hov e fuel s hi).1, fun _ => hf.of_lastFrame (eMouseExit_hov e fuel s hi).2⟩
  enter := fun s w hf hi => ⟨(eMouseEnter_hov e fuel s w hi).1, fun _ => hf.of_lastFrame (eMouseEnter_hov e fuel s w hi).2⟩

theorem stepOk_iff (st : Step) : StepOk st ↔ HandlerWalk.StepT HitsNodup st := by cases st <;> rfl

theorem hov_eRun (e : EOracle) (fuel : Nat) (root : Id) (t0 : STree) (steps : List Step) (h0 : HitsNodup t0)
    (hs : ∀ st ∈ steps, StepOk st) : HovRes (eRun e fuel root t0 steps).1 (eRun e fuel root t0 steps).2 ∧
      ((eRun e fuel root t0 steps).2 = false → FrameOk (eRun e fuel root t0 steps).1) :=
  have hframe : FrameOk (St.init root) := hitsNodup_of_ids (.node 0 0 0 []) (by simp [ids, idsL])
  have hinv : HovInv (St.init root) := ⟨[], rfl, List.nodup_nil, by simp [St.init], by simp [St.init]⟩
  (hov_handlers e fuel).eRun root t0 steps h0 (fun st h => (stepOk_iff st).mp (hs st h)) hframe hinv

theorem hov_run (o : Oracle) (fuel : Nat) (root : Id) (t0 : STree) (steps : List Step) (h0 : HitsNodup t0)
    (hs : ∀ st ∈ steps, StepOk st) :
    HovInv (runSteps o fuel (runInit o fuel root t0) steps) ∧ FrameOk (runSteps o fuel (runInit o fuel root t0) steps) := by
  have h := hov_eRun (e0 o) fuel root t0 steps h0 hs
  rw [eRun_noerr] at h
  exact ⟨h.1.2 rfl, h.2 rfl⟩

theorem mouseUpdate_inv (o : Oracle) (fuel : Nat) (s : St) (t : STree) (ht : HitsNodup t) (hi : HovInv s) :
    HovInv (mouseUpdate o fuel s t) := by
  have h := (eMouseUpdate_hov (e0 o) fuel s t ht hi).1
  rw [eMouseUpdate_noerr] at h
  exact h.2 rfl

theorem mouseExit_inv (o : Oracle) (fuel : Nat) (s : St) (hi : HovInv s) : HovInv (mouseExit o fuel s) := by
  have h := (eMouseExit_hov (e0 o) fuel s hi).1
  rw [eMouseExit_noerr] at h
  exact h.2 rfl

end VaxisModel.Lemmas.Vxfw
