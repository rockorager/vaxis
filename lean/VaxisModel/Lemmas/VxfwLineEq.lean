import VaxisModel.Model.VxfwInterpRun
import VaxisModel.Lemmas.VxfwAttr

/-! What the line interpreters of C15 do on the lines of the bodies that are run: one equation per shape of such a line
(by evaluation: the interpreters are `match`es on the syntax; a shape no body contains, like `break`, has none).  A body is
run by rewriting with these: unfolding a `match` of twenty to twenty-five overlapping alternatives on string patterns for
every statement of every run is dear. -/
namespace VaxisModel.Lemmas.VxfwLineEq
open VaxisModel.Model VaxisModel.Model.GoSyn VaxisModel.Model.Vxfw VaxisModel.Model.VxfwInterp

section atom
variable (e : EOracle) (fuel : Nat) (ev : Ev) (vm : VM) (d : Nat) (x y fn : String) (a b : Expr)

theorem atom_continue : atom e fuel ev vm ⟨d, .continueS, a, b⟩ = some (vm, .cont) := rfl
theorem atom_retNil : atom e fuel ev vm ⟨d, .returnS, .var "nil", b⟩ = some (vm, .ret false) := rfl
theorem atom_ret (hx : x ≠ "nil") :
    atom e fuel ev vm ⟨d, .returnS, .var x, b⟩ = (find vm.flags x).map (fun v => (vm, .ret v)) := by
  unfold atom
  split <;> simp_all
theorem atom_consume :
    atom e fuel ev vm ⟨d, .assign, .var "v0.consumeEvent", b⟩ =
      (evBool vm b).map (fun v => ({ vm with s := { vm.s with consume := v } }, .norm)) := rfl
theorem atom_path :
    atom e fuel ev vm ⟨d, .define, .var x, .var "r.path"⟩ = some ({ vm with lists := (x, vm.s.path) :: vm.lists }, .norm) := rfl
theorem atom_assert :
    atom e fuel ev vm ⟨d, .define, .pair (.var x) (.var y), .arg (.arg (.call (.var "assert")) (.var fn)) (.var "EventCapturer")⟩ =
      (find vm.ids fn).map (fun i => ({ (bindId vm x i) with flags := (y, e.o.captures i) :: vm.flags }, .norm)) := rfl
theorem atom_capture :
    atom e fuel ev vm ⟨d, .define, .pair (.var x) (.var y), .arg (.call (.var fn)) (.var "v1")⟩ =
      (recv vm fn "CaptureEvent").map (fun w => (doCall e vm x y w ev .capture, .norm)) := rfl
/-- `x, y := fn(Ev{}, phase)`: a notification. -/
def notifyLine (e : EOracle) (vm : VM) (x y fn l : String) (a : Expr) : Res :=
  match recv vm fn "HandleEvent", evOfLit (.lit l), phaseOf a with
  | some w, some ev', some p => some (doCall e vm x y w ev' p, .norm)
  | _, _, _ => none

/-- `x, y := fn(ev, phase)`: the event is offered. -/
def handleLine (e : EOracle) (ev : Ev) (vm : VM) (x y fn : String) (a : Expr) : Res :=
  match recv vm fn "HandleEvent", phaseOf a with
  | some w, some p => some (doCall e vm x y w ev p, .norm)
  | _, _ => none

/-! The `match` compares the receiver's name with `assert`, so these two shapes are stated per receiver that occurs. -/
theorem atom_notifyV1 (l : String) :
    atom e fuel ev vm ⟨d, .define, .pair (.var x) (.var y), .arg (.arg (.call (.var "v1.HandleEvent")) (.lit l)) a⟩ = notifyLine e vm x y "v1.HandleEvent" l a := rfl
theorem atom_notifyV1w (l : String) :
    atom e fuel ev vm ⟨d, .define, .pair (.var x) (.var y), .arg (.arg (.call (.var "v1.w.HandleEvent")) (.lit l)) a⟩ = notifyLine e vm x y "v1.w.HandleEvent" l a := rfl
theorem atom_notifyFocused (l : String) :
    atom e fuel ev vm ⟨d, .define, .pair (.var x) (.var y), .arg (.arg (.call (.var "r.focused.HandleEvent")) (.lit l)) a⟩ = notifyLine e vm x y "r.focused.HandleEvent" l a := rfl
theorem atom_notifyV4w (l : String) :
    atom e fuel ev vm ⟨d, .define, .pair (.var x) (.var y), .arg (.arg (.call (.var "v4.w.HandleEvent")) (.lit l)) a⟩ = notifyLine e vm x y "v4.w.HandleEvent" l a := rfl
theorem atom_notifyV8w (l : String) :
    atom e fuel ev vm ⟨d, .define, .pair (.var x) (.var y), .arg (.arg (.call (.var "v8.w.HandleEvent")) (.lit l)) a⟩ = notifyLine e vm x y "v8.w.HandleEvent" l a := rfl
theorem atom_handleFocused :
    atom e fuel ev vm ⟨d, .define, .pair (.var x) (.var y), .arg (.arg (.call (.var "r.focused.HandleEvent")) (.var "v1")) a⟩ = handleLine e ev vm x y "r.focused.HandleEvent" a := rfl
theorem atom_handleV8w :
    atom e fuel ev vm ⟨d, .define, .pair (.var x) (.var y), .arg (.arg (.call (.var "v8.w.HandleEvent")) (.var "v1")) a⟩ = handleLine e ev vm x y "v8.w.HandleEvent" a := rfl
theorem atom_handleV11 :
    atom e fuel ev vm ⟨d, .define, .pair (.var x) (.var y), .arg (.arg (.call (.var "v11.HandleEvent")) (.var "v1")) a⟩ = handleLine e ev vm x y "v11.HandleEvent" a := rfl
theorem atom_handleV11w :
    atom e fuel ev vm ⟨d, .define, .pair (.var x) (.var y), .arg (.arg (.call (.var "v11.w.HandleEvent")) (.var "v1")) a⟩ = handleLine e ev vm x y "v11.w.HandleEvent" a := rfl
theorem atom_focused :
    atom e fuel ev vm ⟨d, .assign, .var "r.focused", .var x⟩ =
      (find vm.ids x).map (fun w =>
        ({ vm with s := { vm.s with focused := w, trace := vm.s.trace ++ [.eff (.focusSet w)] } }, .norm)) := rfl
theorem atom_findPath :
    atom e fuel ev vm ⟨d, .exprS, .call (.var "r.findPath"), b⟩ = some ({ vm with s := (findPath vm.s).1 }, .norm) := rfl
theorem atom_handleCommand :
    atom e fuel ev vm ⟨d, .exprS, .arg (.call (.var "v0.handleCommand")) (.var x), b⟩ =
      (find vm.cmds x).map (fun cmd => ({ vm with s := eHandleCommand e fuel vm.s cmd }, .norm)) := rfl
theorem atom_hitsNil :
    atom e fuel ev vm ⟨d, .assign, .var "r.lastHits", .lit "[]hitResult{}"⟩ =
      some ({ vm with s := { vm.s with lastHits := [] } }, .norm) := rfl
theorem atom_hitsAppend :
    atom e fuel ev vm ⟨d, .assign, .var "r.lastHits",
        .arg (.arg (.call (.var "append")) (.var "r.lastHits")) (.lit "hitResult{v1:v1}")⟩ =
      (find vm.ids "v1").map (fun w => ({ vm with s := { vm.s with lastHits := vm.s.lastHits ++ [⟨0, 0, w⟩] } }, .norm)) := rfl
theorem atom_mouse (col row : Int) :
    atom e fuel (.mouse col row) vm ⟨d, .assign, .var "r.mouse", .un "&" (.var "v1")⟩ =
      some ({ vm with s := { vm.s with mouse := some (col, row) } }, .norm) := rfl
theorem atom_update :
    atom e fuel ev vm ⟨d, .define, .var x, .arg (.arg (.call (.var "r.update")) (.var "v0")) (.var "r.lastFrame")⟩ =
      some ({ vm with s := (eMouseUpdate e fuel vm.s vm.s.lastFrame).1,
                      flags := (x, (eMouseUpdate e fuel vm.s vm.s.lastFrame).2) :: vm.flags }, .norm) := rfl
theorem atom_index (l : String) :
    atom e fuel ev vm ⟨d, .define, .var x, .index (.var l) a⟩ =
      (match evList vm l, evInt vm a with
       | some p, some iv => if iv < 0 then none else (p[iv.toNat]?).map (fun w => (bindId vm x w, .norm))
       | _, _ => none) := rfl
theorem atom_defineInt (op : String) :
    atom e fuel ev vm ⟨d, .define, .var x, .bin op a b⟩ =
      (evInt vm (.bin op a b)).map (fun v => ({ vm with ints := (x, v) :: vm.ints }, .norm)) := rfl
theorem atom_subAssign :
    atom e fuel ev vm ⟨d, .subAssign, .var x, a⟩ =
      (match find vm.ints x, evInt vm a with
       | some c, some v => some ({ vm with ints := (x, c - v) :: vm.ints }, .norm)
       | _, _ => none) := rfl

attribute [vxfw_exec] atom_continue atom_retNil atom_ret atom_consume atom_path atom_assert atom_capture atom_notifyV1 atom_notifyV1w
  atom_notifyFocused atom_notifyV4w atom_notifyV8w atom_handleFocused atom_handleV8w atom_handleV11 atom_handleV11w
  atom_focused atom_findPath atom_handleCommand atom_hitsNil atom_hitsAppend atom_mouse atom_update atom_index
  atom_defineInt atom_subAssign
  exec evBool evInt find recv bindId phaseOf evOfLit notifyLine handleLine
end atom

section atomX
variable (e : EOracle) (fuel : Nat) (ev : Ev) (m : VMX) (d : Nat) (x y t : String) (a a' b : Expr)

theorem atomX_continueOut (n : Nat) :
    atomX e fuel ev m ⟨d, .continueS, .var x, .int n⟩ = some (m, .contOut n) := rfl
theorem atomX_pair :
    atomX e fuel ev m ⟨d, .define, .pair a a', b⟩ = liftRes m (atom e fuel ev m.vm ⟨d, .define, .pair a a', b⟩) := rfl
theorem atomX_ret :
    atomX e fuel ev m ⟨d, .returnS, .var x, b⟩ = liftRes m (atom e fuel ev m.vm ⟨d, .returnS, .var x, b⟩) := rfl
theorem atomX_handleCommand :
    atomX e fuel ev m ⟨d, .exprS, .arg (.call (.var "v0.handleCommand")) (.var x), b⟩ =
      liftRes m (atom e fuel ev m.vm ⟨d, .exprS, .arg (.call (.var "v0.handleCommand")) (.var x), b⟩) := rfl
theorem atomX_hitsNil :
    atomX e fuel ev m ⟨d, .define, .var x, .lit "[]hitResult{}"⟩ =
      some ({ m with x := { m.x with hitl := (x, []) :: m.x.hitl } }, .norm) := rfl
theorem atomX_subSurface :
    atomX e fuel ev m ⟨d, .define, .var x, .arg (.arg (.arg (.call (.var "NewSubSurface")) (.int 0)) (.int 0)) (.var t)⟩ =
      (find m.x.tree t).map (fun tr => (bindTree m x tr, .norm)) := rfl
theorem atomX_hitTest :
    atomX e fuel ev m ⟨d, .assign, .var x, .arg (.arg (.arg (.arg (.call (.var "hitTest")) (.var t)) (.var y))
        (.arg (.call (.var "uint16")) (.var "r.mouse.Col"))) (.arg (.call (.var "uint16")) (.var "r.mouse.Row"))⟩ =
      (match find m.x.tree t, find m.x.hitl y, m.vm.s.mouse with
       | some tr, some hs, some (col, row) =>
         (m.x.hitTestF tr hs (u16 col) (u16 row)).map (fun hs' => ({ m with x := { m.x with hitl := (x, hs') :: m.x.hitl } }, .norm))
       | _, _, _ => none) := rfl
theorem atomX_lastHits :
    atomX e fuel ev m ⟨d, .assign, .var "r.lastHits", .var x⟩ =
      (find m.x.hitl x).map (fun hs => (setS m { m.vm.s with lastHits := hs }, .norm)) := rfl
theorem atomX_lastFrame :
    atomX e fuel ev m ⟨d, .assign, .var "r.lastFrame", .var t⟩ =
      (find m.x.tree t).map (fun tr => (setS m { m.vm.s with fhFrame := some tr }, .norm)) := rfl
theorem atomX_focusRoot :
    atomX e fuel ev m ⟨d, .assign, .var "_", .arg (.arg (.call (.var "r.focusWidget")) (.var "v0")) (.var "r.root")⟩ =
      (callFw e fuel m.x.fwF m.vm.s m.vm.s.root).map (fun r => (setS m r.1, .norm)) := rfl

attribute [vxfw_execX] atomX_continueOut atomX_pair atomX_ret atomX_handleCommand atomX_hitsNil atomX_subSurface atomX_hitTest atomX_lastHits
  atomX_lastFrame atomX_focusRoot
  execX evBoolX evHits bindHit bindTree setS liftRes liftCtl vxCall vm0 labelTok cmdType armEff
end atomX

section ratom
variable (C : RCallees) (ev : RunEv) (m : RM) (d : Nat) (x er : String) (a b c : Expr)

theorem ratom_continue : ratom C ev m ⟨d, .continueS, a, b⟩ = some (m, .cont) := rfl
theorem ratom_retNil : ratom C ev m ⟨d, .returnS, .var "nil", b⟩ = some (m, .ret false) := rfl
theorem ratom_ret (hx : x ≠ "nil") :
    ratom C ev m ⟨d, .returnS, .var x, b⟩ = (find m.flags x).map (fun v => (m, .ret v)) := by
  unfold ratom
  split <;> simp_all
theorem ratom_redrawT :
    ratom C ev m ⟨d, .assign, .var "r.redraw", .var "true"⟩ = some (setR m { m.s with redraw := true }, .norm) := rfl
theorem ratom_redrawF :
    ratom C ev m ⟨d, .assign, .var "r.redraw", .var "false"⟩ = some (setR m { m.s with redraw := false }, .norm) := rfl
theorem ratom_refreshF :
    ratom C ev m ⟨d, .assign, .var "r.refresh", .var "false"⟩ = some (setR m { m.s with refresh := false }, .norm) := rfl
theorem ratom_debugF :
    ratom C ev m ⟨d, .assign, .var "r.debug", .var "false"⟩ = some (setR m { m.s with debug := false }, .norm) := rfl
theorem ratom_mouseNil :
    ratom C ev m ⟨d, .assign, .var "v3.mouse", .var "nil"⟩ = some (setR m { m.s with mouse := none }, .norm) := rfl
theorem ratom_mouseHE (col row : Int) :
    ratom C (.mouse col row) m ⟨d, .define, .var x, .arg (.arg (.call (.var "v3.handleEvent")) (.var "r")) (.var "v5")⟩ =
      callErr m x (C.mouseHE m.s col row) := rfl
theorem ratom_mouseEnter :
    ratom C ev m ⟨d, .define, .var x, .arg (.arg (.call (.var "v3.mouseEnter")) (.var "r")) (.var "v0")⟩ =
      callErr m x (C.mouseEnter m.s m.s.root) := rfl
theorem ratom_mouseExit :
    ratom C ev m ⟨d, .define, .var x, .arg (.call (.var "v3.mouseExit")) (.var "r")⟩ = callErr m x (C.mouseExit m.s) := rfl
theorem ratom_keyHE (k : Nat) :
    ratom C (.key k) m ⟨d, .define, .var x, .arg (.arg (.call (.var "r.fh.handleEvent")) (.var "r")) (.var "v5")⟩ =
      callErr m x (C.focusHE m.s (.key k)) := rfl
theorem ratom_otherHE (k : Nat) :
    ratom C (.other k) m ⟨d, .define, .var x, .arg (.arg (.call (.var "r.fh.handleEvent")) (.var "r")) (.var "v5")⟩ =
      callErr m x (C.focusHE m.s (.custom k)) := rfl
theorem ratom_layoutD :
    ratom C ev m ⟨d, .define, .pair (.var x) (.var er), .arg (.call (.var "r.layout")) (.var "v0")⟩ = doLayout m x er := rfl
theorem ratom_layoutA :
    ratom C ev m ⟨d, .assign, .pair (.var x) (.var er), .arg (.call (.var "r.layout")) (.var "v0")⟩ = doLayout m x er := rfl
theorem ratom_update :
    ratom C ev m ⟨d, .assign, .var "v12", .arg (.arg (.call (.var "v3.update")) (.var "r")) (.var x)⟩ =
      (match find m.trees x with
       | some t => callErr m "v12" (C.update m.s t)
       | none => none) := rfl
theorem ratom_window : ratom C ev m ⟨d, .define, .var x, .call (.var "r.vx.Window")⟩ = some (m, .norm) := rfl
theorem ratom_clear : ratom C ev m ⟨d, .exprS, .call (.var "v13.Clear"), b⟩ = some (m, .norm) := rfl
theorem ratom_hideCursor : ratom C ev m ⟨d, .exprS, .call (.var "r.vx.HideCursor"), b⟩ = some (m, .norm) := rfl
theorem ratom_vxRefresh : ratom C ev m ⟨d, .exprS, .call (.var "r.vx.Refresh"), b⟩ = some (m, .norm) := rfl
theorem ratom_vxRender : ratom C ev m ⟨d, .exprS, .call (.var "r.vx.Render"), b⟩ = some (m, .norm) := rfl
theorem ratom_debugPrint (a' : Expr) :
    ratom C ev m ⟨d, .exprS, .arg (.arg (.arg (.call (.var "debugPrintWidget")) a) a') c, b⟩ = some (m, .norm) := rfl
theorem ratom_renderSort (a' c' : Expr) :
    ratom C ev m ⟨d, .exprS, .arg (.arg (.call (.var "v11.render")) (.arg (.arg (.arg (.arg (.call (.var "v13.New")) a) a') c) c'))
        (.var "r.fh.focused"), b⟩ =
      (match find m.trees "v11" with
       | some t => some ({ m with trees := ("v11", sortTree t) :: m.trees }, .norm)
       | none => none) := rfl
theorem ratom_updatePath :
    ratom C ev m ⟨d, .exprS, .arg (.arg (.call (.var "r.fh.updatePath")) (.var "r")) (.var x), b⟩ =
      (match find m.trees x with
       | some t => (C.updatePath m.s t).map (fun s' => (setR m s', .norm))
       | none => none) := rfl
theorem ratom_lastFrame :
    ratom C ev m ⟨d, .assign, .var "v3.lastFrame", .var x⟩ =
      (find m.trees x).map (fun t => (setR m { m.s with lastFrame := t }, .norm)) := rfl

attribute [vxfw_rexec] ratom_continue ratom_retNil ratom_ret ratom_redrawT ratom_redrawF ratom_refreshF ratom_debugF ratom_mouseNil
  ratom_mouseHE ratom_mouseEnter ratom_mouseExit ratom_keyHE ratom_otherHE ratom_layoutD ratom_layoutA ratom_update
  ratom_window ratom_clear ratom_hideCursor ratom_vxRefresh ratom_vxRender ratom_debugPrint ratom_renderSort
  ratom_updatePath ratom_lastFrame
  runEventBlock runFrameBlock rexec revBool evType boolTok hasCase labelTok callErr doLayout setR find
end ratom

/-! `tatom` (`Model/VxfwInterpTree.lean`): sixteen alternatives, most lines run once — the set unfolds it -/
open VaxisModel.Model.VxfwInterpTree in
attribute [vxfw_texec] texec tatom tevBool VxfwInterpTree.find bindKid VxfwInterpTree.bindTree

end VaxisModel.Lemmas.VxfwLineEq
