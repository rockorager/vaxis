import VaxisModel.Lemmas.VxfwWalk

/-! C15: when do the nested calls `handleCommand → focusWidget → handler → handleCommand` stay within a
    nesting budget?  If no handler answers a FocusIn / FocusOut NOTIFICATION with a command that contains
    a focus command (`NotifFF`), the nesting is at most two deep: with a budget of 2 or more the model
    never gives up (`stuck` stays false) — over every function of the Run loop and every history.
    (`Witness/F115c.lean` shows that without the condition every budget is exhausted.) -/
namespace VaxisModel.Lemmas.Vxfw
open VaxisModel.Model.Vxfw

/-- The command contains no focus command (however deeply batched). -/
def FF (c : Cmd) : Prop := ∀ a ∈ c.flatten, ∀ w, a ≠ Atom.focus w

/-- No handler answers a focus notification with a focus command. -/
def NotifFF (o : Oracle) : Prop := ∀ w ph k, FF (o.h w .focusIn ph k) ∧ FF (o.h w .focusOut ph k)

theorem execAtom_nonfocus (hc : St → Cmd → St) (o : Oracle) (s : St) (a : Atom) (h : ∀ w, a ≠ .focus w) :
    (execAtom hc o s a).stuck = s.stuck := by
  cases a <;> first | rfl | exact absurd rfl (h _)

theorem foldl_nonfocus (hc : St → Cmd → St) (o : Oracle) : ∀ (l : List Atom) (s : St), (∀ a ∈ l, ∀ w, a ≠ Atom.focus w) →
    (l.foldl (execAtom hc o) s).stuck = s.stuck
  | [], _, _ => rfl
  | a :: l, s, h => by
    rw [List.foldl_cons, foldl_nonfocus hc o l _ (fun b hb => h b (List.mem_cons_of_mem _ hb)),
      execAtom_nonfocus hc o s a (h a List.mem_cons_self)]

theorem hc_ff (o : Oracle) (fuel : Nat) (hf : 1 ≤ fuel) (s : St) (c : Cmd) (h : FF c) :
    (handleCommand o fuel s c).stuck = s.stuck := by
  obtain ⟨f, rfl⟩ : ∃ f, fuel = f + 1 := ⟨fuel - 1, by omega⟩
  exact foldl_nonfocus _ o _ s h

theorem focusWidgetWith_ns (o : Oracle) (hff : NotifFF o) (f : Nat) (hf : 1 ≤ f) (s : St) (w : Id) :
    (focusWidgetWith (handleCommand o f) o s w).stuck = s.stuck := by
  unfold focusWidgetWith
  split
  · rfl
  · simp only []
    have hin : ∀ (s' : St), FF (call o s' w .focusIn .target).2 := fun s' => (hff w .target s'.calls).1
    have hout : FF (call o s s.focused .focusOut .target).2 := (hff s.focused .target s.calls).2
    rw [hc_ff o f hf _ _ (hin _), hc_ff o f hf _ _ hout]
    rfl

theorem foldl_any (o : Oracle) (hff : NotifFF o) (f : Nat) (hf : 1 ≤ f) : ∀ (l : List Atom) (s : St),
    (l.foldl (execAtom (handleCommand o f) o) s).stuck = s.stuck
  | [], _ => rfl
  | a :: l, s => by
    rw [List.foldl_cons, foldl_any o hff f hf l]
    cases a with
    | focus w => exact focusWidgetWith_ns o hff f hf s w
    | _ => rfl

theorem hc_ns (o : Oracle) (hff : NotifFF o) (fuel : Nat) (hf : 2 ≤ fuel) (s : St) (c : Cmd) :
    (handleCommand o fuel s c).stuck = s.stuck := by
  obtain ⟨f, rfl⟩ : ∃ f, fuel = f + 1 := ⟨fuel - 1, by omega⟩
  exact foldl_any o hff f (by omega) _ s

theorem focusWidget_ns (o : Oracle) (hff : NotifFF o) (fuel : Nat) (hf : 2 ≤ fuel) (s : St) (w : Id) :
    (focusWidget o fuel s w).stuck = s.stuck := by
  obtain ⟨f, rfl⟩ : ∃ f, fuel = f + 1 := ⟨fuel - 1, by omega⟩
  exact focusWidgetWith_ns o hff f (by omega) s w

/-- `HcNs` / `FwNs`: `handleCommand` / `focusWidget` at budget `fuel` never exhaust it (what `ns_walk` needs; provided by
    `hc_ns` / `focusWidget_ns` under `NotifFF`, by `hc_ranked` / `focusWidget_ranked` of `Lemmas/VxfwRank.lean` under a
    rank condition). -/
abbrev HcNs (o : Oracle) (fuel : Nat) : Prop := ∀ (s : St) (c : Cmd), (handleCommand o fuel s c).stuck = s.stuck
abbrev FwNs (o : Oracle) (fuel : Nat) : Prop := ∀ (s : St) (w : Id), (focusWidget o fuel s w).stuck = s.stuck

theorem ns_walk (o : Oracle) (fuel : Nat) (H : HcNs o fuel) (H2 : FwNs o fuel) :
    RunWalk (e0 o) fuel (fun s s' _ => s'.stuck = s.stuck) where
  pure := fun _ => rfl
  bind := fun h1 h2 => h2.trans h1
  flags := fun _ _ _ _ _ _ => rfl
  draw := fun _ => rfl
  newFrame := fun _ _ => rfl
  callFail := fun _ _ _ _ _ hf => nomatch hf
  callThen := fun _ _ _ _ _ _ => by rw [eHandleCommand_noerr]; exact H _ _
  focusWidget := fun s w => by rw [eFocusWidget_noerr]; exact H2 s w
  mouse := fun _ _ _ _ => rfl

theorem run_never_stuck_of (o : Oracle) (fuel : Nat) (H : HcNs o fuel) (H2 : FwNs o fuel) (root : Id) (t0 : STree) (steps : List Step) :
    (runSteps o fuel (runInit o fuel root t0) steps).stuck = false :=
  (ns_walk o fuel H H2).run root t0 steps

theorem run_never_stuck (o : Oracle) (hff : NotifFF o) (fuel : Nat) (hf : 2 ≤ fuel) (root : Id) (t0 : STree) (steps : List Step) :
    (runSteps o fuel (runInit o fuel root t0) steps).stuck = false :=
  run_never_stuck_of o fuel (hc_ns o hff fuel hf) (focusWidget_ns o hff fuel hf) root t0 steps

end VaxisModel.Lemmas.Vxfw
