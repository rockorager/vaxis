import VaxisModel.Lemmas.Vxfw

/-! Every command a handler returns takes effect exactly once: the accounting relation `Bal` between a state and a
later one (carried through the Run loop in `Lemmas/VxfwOnceErr.lean`). -/

namespace VaxisModel.Lemmas.Vxfw
open VaxisModel.Model.Vxfw VaxisModel.Spec.Routing

/-- A relation between a state and a later one: the trace grew by `t`, the call counter by the
calls of `t`, and — unless the nesting budget ran out (`stuck`) — every non-focus effect in `t`
is accounted for: effects executed + effects still to execute (`post`: answers of calls in `t`
not yet handled) = effects that were due before (`pre`) + effects answered by the calls in `t`. -/
def Bal (o : Oracle) (s s' : St) (pre post : List Eff) : Prop :=
  ∃ t, s'.trace = s.trace ++ t ∧ s'.calls = s.calls + nCalls t ∧
    (s'.stuck = false → s.stuck = false ∧
      ∀ e, (effectsIn t).count e + post.count e = pre.count e + (owed o.h s.calls t).count e)

theorem effectsIn_append (a b : List Entry) : effectsIn (a ++ b) = effectsIn a ++ effectsIn b := by
  induction a with
  | nil => rfl
  | cons x r ih =>
    cases x with
    | eff e => cases e <;> simp [effectsIn, ih]
    | _ => simpa [effectsIn] using ih

theorem owed_append (h : Id → Ev → Phase → Nat → Cmd) (k : Nat) (a b : List Entry) :
    owed h k (a ++ b) = owed h k a ++ owed h (k + nCalls a) b := by
  induction a generalizing k with
  | nil => simp [owed, nCalls]
  | cons x r ih =>
    cases x with
    | call w ev ph =>
      simp only [List.cons_append, owed, nCalls, ih, List.append_assoc]
      congr 3; omega
    | _ => simpa [owed, nCalls] using ih k

theorem Bal.refl (o : Oracle) (s : St) : Bal o s s [] [] :=
  ⟨[], by simp, by simp [nCalls], fun h => ⟨h, fun e => by simp [effectsIn, owed]⟩⟩

theorem Bal.trans {o : Oracle} {a b c : St} {p1 q1 p2 q2 : List Eff}
    (h1 : Bal o a b p1 q1) (h2 : Bal o b c p2 q2) : Bal o a c (p1 ++ p2) (q1 ++ q2) := by
  obtain ⟨t1, e1, c1, b1⟩ := h1
  obtain ⟨t2, e2, c2, b2⟩ := h2
  refine ⟨t1 ++ t2, by rw [e2, e1, List.append_assoc], by rw [c2, c1, nCalls_append]; omega, ?_⟩
  intro hs
  obtain ⟨hb, k2⟩ := b2 hs
  obtain ⟨ha, k1⟩ := b1 hb
  refine ⟨ha, fun e => ?_⟩
  have := k1 e
  have := k2 e
  rw [c1] at this
  simp only [effectsIn_append, owed_append, List.count_append]
  omega

theorem Bal.trans0 {o : Oracle} {a b c : St} (h1 : Bal o a b [] []) (h2 : Bal o b c [] []) : Bal o a c [] [] := by
  simpa using h1.trans h2

/-- Debts that cancel. -/
theorem Bal.cancel {o : Oracle} {a b : St} {p q : List Eff} (h : Bal o a b p q)
    (hpq : ∀ e, p.count e = q.count e) : Bal o a b [] [] := by
  obtain ⟨t, e1, c1, b1⟩ := h
  refine ⟨t, e1, c1, fun hs => ?_⟩
  obtain ⟨ha, k⟩ := b1 hs
  refine ⟨ha, fun e => ?_⟩
  have := k e
  have := hpq e
  simp only [List.count_nil]
  omega

theorem Bal.same {o : Oracle} {s s' : St} (ht : s'.trace = s.trace) (hc : s'.calls = s.calls)
    (hs : s'.stuck = s.stuck) : Bal o s s' [] [] :=
  ⟨[], by simp [ht], by simp [hc, nCalls], fun h => ⟨by rw [← hs]; exact h, fun e => by simp [effectsIn, owed]⟩⟩

theorem Bal.call (o : Oracle) (s : St) (w : Id) (ev : Ev) (ph : Phase) :
    Bal o s (call o s w ev ph).1 [] (nfEffs (call o s w ev ph).2.flatten) :=
  ⟨[.call w ev ph], rfl, by simp [Model.Vxfw.call, nCalls], fun h => ⟨h, fun e => by
    simp [effectsIn, owed, Model.Vxfw.call]⟩⟩

theorem Bal.draw (o : Oracle) (s s' : St) (ht : s'.trace = s.trace ++ [.draw]) (hc : s'.calls = s.calls)
    (hs : s'.stuck = s.stuck) : Bal o s s' [] [] :=
  ⟨[.draw], ht, by simp [hc, nCalls], fun h => ⟨by rw [← hs]; exact h, fun e => by simp [effectsIn, owed]⟩⟩

theorem bal_setFocus (o : Oracle) (s : St) (w : Id) :
    Bal o s (findPath { s with focused := w, trace := s.trace ++ [.eff (.focusSet w)] }).1 [] [] :=
  ⟨[.eff (.focusSet w)], rfl, by simp [findPath, nCalls], fun h => ⟨h, fun e => by simp [effectsIn, owed]⟩⟩

theorem nfEffs_cons (a : Atom) (l : List Atom) : nfEffs (a :: l) = nfEffs [a] ++ nfEffs l := by
  simp only [nfEffs, List.filterMap_cons]
  cases effOfAtom a <;> simp

/-- One more command effect in the trace: one debt paid. -/
theorem Bal.eff (o : Oracle) {s s' : St} {e : Eff} (ht : s'.trace = s.trace ++ [.eff e]) (hc : s'.calls = s.calls)
    (hs : s'.stuck = s.stuck) (hne : ∀ w, e ≠ .focusSet w) : Bal o s s' [e] [] := by
  refine ⟨[.eff e], ht, by simp [hc, nCalls], fun h => ⟨by rw [← hs]; exact h, fun x => ?_⟩⟩
  cases e with
  | focusSet w => exact absurd rfl (hne w)
  | _ => simp [effectsIn, owed]

end VaxisModel.Lemmas.Vxfw
