import VaxisModel.Lemmas.VxfwOnce
import VaxisModel.Lemmas.VxfwWalk

/-! C15: every command a handler returns takes effect exactly once over whole Run histories also when handlers fail — counting only
    the answers of the calls that did NOT fail (the command returned together with an error is dropped at every call site). -/

namespace VaxisModel.Lemmas.Vxfw
open VaxisModel.Model.Vxfw VaxisModel.Spec.Routing

/-- The oracle whose failing calls answer nil: what the error-aware functions execute. -/
def eo (e : EOracle) : Oracle := ⟨fun w ev ph k => if e.fails w ev ph k then .nil else e.o.h w ev ph k, e.o.captures⟩

abbrev BalE (e : EOracle) (s s' : St) : Prop := Bal (eo e) s s' [] []

/-- A call under `e`: what is owed afterwards is the answer, or nothing if the call fails. -/
theorem balE_call (e : EOracle) (s : St) (w : Id) (ev : Ev) (ph : Phase) :
    Bal (eo e) s (Model.Vxfw.call e.o s w ev ph).1 []
      (if e.failsAt s w ev ph then [] else nfEffs (Model.Vxfw.call e.o s w ev ph).2.flatten) := by
  have h := Bal.call (eo e) s w ev ph
  have h1 : (Model.Vxfw.call (eo e) s w ev ph).1 = (Model.Vxfw.call e.o s w ev ph).1 := rfl
  rw [h1] at h
  by_cases hf : e.failsAt s w ev ph = true
  · have hf' : e.fails w ev ph s.calls = true := hf
    simp only [hf, if_true]
    simpa [Model.Vxfw.call, eo, hf', Cmd.flatten, nfEffs] using h
  · have hf' : e.fails w ev ph s.calls = false := by simpa [EOracle.failsAt] using hf
    have hff : e.failsAt s w ev ph = false := by simpa using hf
    simp only [hff, Bool.false_eq_true, if_false]
    simpa [Model.Vxfw.call, eo, hf'] using h

theorem balE_eFocusWidgetWith (hc : St → Cmd → St) (e : EOracle)
    (hhc : ∀ s c, Bal (eo e) s (hc s c) (nfEffs c.flatten) []) (s : St) (w : Id) :
    BalE e s (eFocusWidgetWith hc e s w).1 := by
  unfold eFocusWidgetWith
  split
  · exact Bal.refl (eo e) s
  · have h1 := balE_call e s s.focused .focusOut .target
    simp only []
    split
    · rename_i hfail
      simpa [hfail] using h1
    · rename_i hok
      have hokf : e.failsAt s s.focused .focusOut .target = false := by simpa using hok
      simp only [hokf, Bool.false_eq_true, if_false] at h1
      generalize Model.Vxfw.call e.o s s.focused .focusOut .target = r1 at h1 ⊢
      have h2 := bal_setFocus (eo e) r1.1 w
      generalize (findPath { r1.1 with focused := w, trace := r1.1.trace ++ [.eff (.focusSet w)] }).1 = s2 at h2 ⊢
      have h3 := balE_call e s2 w .focusIn .target
      have h4 := hhc (Model.Vxfw.call e.o s2 w .focusIn .target).1 r1.2
      split
      · rename_i hfin
        simp only [hfin, if_true] at h3
        exact (((h1.trans h2).trans h3).trans h4).cancel (fun x => by simp)
      · rename_i hfin
        have hfinf : e.failsAt s2 w .focusIn .target = false := by simpa using hfin
        simp only [hfinf, Bool.false_eq_true, if_false] at h3
        have h5 := hhc (hc (Model.Vxfw.call e.o s2 w .focusIn .target).1 r1.2) (Model.Vxfw.call e.o s2 w .focusIn .target).2
        exact ((((h1.trans h2).trans h3).trans h4).trans h5).cancel (fun x => by simp)

theorem balE_eExecAtom (hc : St → Cmd → St) (e : EOracle)
    (hhc : ∀ s c, Bal (eo e) s (hc s c) (nfEffs c.flatten) []) (s : St) (a : Atom) :
    Bal (eo e) s (eExecAtom hc e s a) (nfEffs [a]) [] := by
  cases a with
  | focus w => exact balE_eFocusWidgetWith hc e hhc s w
  | _ => exact Bal.eff (eo e) rfl rfl rfl (by intro w h; cases h)

theorem balE_eHandleCommand (e : EOracle) : ∀ (fuel : Nat) (s : St) (c : Cmd),
    Bal (eo e) s (eHandleCommand e fuel s c) (nfEffs c.flatten) []
  | 0, s, c => ⟨[], by simp [eHandleCommand], by simp [eHandleCommand, nCalls], fun h => by simp [eHandleCommand] at h⟩
  | fuel + 1, s, c => by
    unfold eHandleCommand
    generalize c.flatten = l
    induction l generalizing s with
    | nil => exact Bal.refl (eo e) s
    | cons a l ih =>
      rw [List.foldl_cons, nfEffs_cons]
      have := (balE_eExecAtom _ e (balE_eHandleCommand e fuel) s a).trans (ih _)
      simpa using this

theorem balE_eFocusWidget (e : EOracle) (fuel : Nat) (s : St) (w : Id) : BalE e s (eFocusWidget e fuel s w).1 := by
  cases fuel with
  | zero => exact ⟨[], by simp [eFocusWidget], by simp [eFocusWidget, nCalls], fun h => by simp [eFocusWidget] at h⟩
  | succ f => exact balE_eFocusWidgetWith _ e (balE_eHandleCommand e f) s w

theorem balE_callThen (e : EOracle) (fuel : Nat) (s : St) (w : Id) (ev : Ev) (ph : Phase) :
    (e.failsAt s w ev ph = true → BalE e s (Model.Vxfw.call e.o s w ev ph).1) ∧
    (e.failsAt s w ev ph = false →
      BalE e s (eHandleCommand e fuel (Model.Vxfw.call e.o s w ev ph).1 (Model.Vxfw.call e.o s w ev ph).2)) := by
  have h1 := balE_call e s w ev ph
  constructor
  · intro hf; simpa [hf] using h1
  · intro hf
    simp only [hf, Bool.false_eq_true, if_false] at h1
    exact (h1.trans (balE_eHandleCommand e fuel _ _)).cancel (fun x => by simp)

theorem balE_walk (e : EOracle) (fuel : Nat) : RunWalk e fuel (fun s s' _ => BalE e s s') where
  pure := Bal.refl (eo e)
  bind := Bal.trans0
  flags := fun _ _ _ _ _ _ => Bal.same rfl rfl rfl
  draw := fun _ => Bal.draw (eo e) _ _ rfl rfl rfl
  newFrame := fun _ _ => Bal.same rfl rfl rfl
  callFail := fun s w ev ph _ hf => (balE_callThen e fuel s w ev ph).1 hf
  callThen := fun s w ev ph _ hf => (balE_callThen e fuel s w ev ph).2 hf
  focusWidget := balE_eFocusWidget e fuel
  mouse := fun _ _ _ _ => Bal.same rfl rfl rfl

theorem commandsOnce_eRun (e : EOracle) (fuel : Nat) (root : Id) (t0 : STree) (steps : List Step)
    (hs : (eRun e fuel root t0 steps).1.stuck = false) :
    (effectsIn (eRun e fuel root t0 steps).1.trace).Perm (owed (eo e).h 0 (eRun e fuel root t0 steps).1.trace) := by
  obtain ⟨t, ht, _, hb⟩ := (balE_walk e fuel).eRun root t0 steps
  obtain ⟨_, hc⟩ := hb hs
  have ht' : (eRun e fuel root t0 steps).1.trace = t := by simpa [St.init] using ht
  rw [ht']
  apply List.perm_iff_count.mpr
  intro x
  have := hc x
  simpa [St.init] using this

end VaxisModel.Lemmas.Vxfw
