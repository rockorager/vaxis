import VaxisModel.Model.Vxfw

/-! C15: refocus chains that terminate.  A RANK on widgets such that every focus command in an answer to a FocusIn /
    FocusOut NOTIFICATION of widget `w` targets a widget of strictly lower rank than `w` (`NotifRanked`; answers to every
    other call are arbitrary).  Then the nesting `handleCommand → focusWidget → handler → handleCommand` is bounded: with
    ranks ≤ `R`, a budget of `3 * R + 4` never runs out (`hc_ranked`, `focusWidget_ranked`; over every history of the Run
    loop through `run_never_stuck_of` of `Lemmas/VxfwNoStuck.lean`).
    This extends `run_never_stuck` (`NotifFF` = rank 0 everywhere, where 2 is enough) to chains like "A's FocusIn handler focuses B, B's
    answers nil"; `Witness/F115c.lean` (two widgets focusing each other) shows a condition of this kind is necessary.

    The measure: while a command all of whose focus targets have rank < `b` is handled with widget `f` focused,
    `pot b (rk f) = 3 * max b (rk f) + (if b ≤ rk f then 2 else 1)` bounds the remaining nesting depth: handling `focus x`
    (rank < `b`) handles the FocusOut answer of `f` (targets < `rk f`) with `x` focused — `pot (rk f) (rk x) < pot b (rk f)` —
    and then the FocusIn answer of `x` (targets < `rk x`) with a widget focused that is `x` or of rank < `max (rk f) (rk x)`. -/
namespace VaxisModel.Lemmas.Vxfw
open VaxisModel.Model.Vxfw

/-- Every focus command in `c` (however deeply batched) targets a widget of rank `< b`. -/
def Below (rk : Id → Nat) (b : Nat) (c : Cmd) : Prop := ∀ a ∈ c.flatten, ∀ w, a = Atom.focus w → rk w < b

/-- Focus commands issued from focus notifications go strictly down in rank. -/
def NotifRanked (o : Oracle) (rk : Id → Nat) : Prop :=
  ∀ w ph k, Below rk (rk w) (o.h w .focusIn ph k) ∧ Below rk (rk w) (o.h w .focusOut ph k)

def pot (b rf : Nat) : Nat := 3 * max b rf + (if b ≤ rf then 2 else 1)

/-- What handling a command does to the budget flag and the focus. -/
def Good (rk : Id → Nat) (b : Nat) (s s' : St) : Prop :=
  s'.stuck = s.stuck ∧ (s'.focused = s.focused ∨ rk s'.focused < max b (rk s.focused))

theorem good_refl (rk : Id → Nat) (b : Nat) (s : St) : Good rk b s s := ⟨rfl, Or.inl rfl⟩

theorem focus_atom_good (o : Oracle) (rk : Id → Nat) (hrk : NotifRanked o rk) (F : Nat)
    (ih : ∀ (s : St) (c : Cmd) (b : Nat), Below rk b c → pot b (rk s.focused) ≤ F → Good rk b s (handleCommand o F s c))
    (s : St) (w : Id) (b : Nat) (hw : rk w < b) (hp : pot b (rk s.focused) ≤ F + 1) :
    Good rk b s (focusWidgetWith (handleCommand o F) o s w) := by
  unfold focusWidgetWith
  split
  · exact good_refl rk b s
  · simp only []
    have hout : Below rk (rk s.focused) (call o s s.focused .focusOut .target).2 := (hrk s.focused .target s.calls).2
    have hin : ∀ s', Below rk (rk w) (call o s' w .focusIn .target).2 := fun s' => (hrk w .target s'.calls).1
    -- the state after both notifications: `w` focused
    generalize hs3 : (call o (findPath { (call o s s.focused .focusOut .target).1 with focused := w, trace := (call o s s.focused .focusOut .target).1.trace ++ [.eff (.focusSet w)] }).1 w .focusIn .target) = r3
    have hf3 : r3.1.focused = w := by rw [← hs3]; rfl
    have hst3 : r3.1.stuck = s.stuck := by rw [← hs3]; rfl
    have hin3 : Below rk (rk w) r3.2 := by rw [← hs3]; exact hin _
    have h1 : pot (rk s.focused) (rk r3.1.focused) ≤ F := by
      rw [hf3]; revert hp; unfold pot; split <;> split <;> omega
    obtain ⟨g1s, g1f⟩ := ih r3.1 (call o s s.focused .focusOut .target).2 (rk s.focused) hout h1
    rw [hf3] at g1f
    generalize handleCommand o F r3.1 (call o s s.focused .focusOut .target).2 = s4 at g1s g1f
    have h4 : rk s4.focused = rk w ∨ rk s4.focused < max (rk s.focused) (rk w) := by
      rcases g1f with h | h
      · left; rw [h]
      · right; exact h
    have h2 : pot (rk w) (rk s4.focused) ≤ F := by
      revert hp; unfold pot; split <;> split <;> omega
    obtain ⟨g2s, g2f⟩ := ih s4 r3.2 (rk w) hin3 h2
    refine ⟨by rw [g2s, g1s, hst3], Or.inr ?_⟩
    rcases g2f with h | h
    · rw [h]; omega
    · omega

theorem nonfocus_atom_good (hc : St → Cmd → St) (o : Oracle) (rk : Id → Nat) (b : Nat) (s : St) (a : Atom) (h : ∀ w, a ≠ .focus w) :
    Good rk b s (execAtom hc o s a) := by
  cases a <;> first | exact ⟨rfl, Or.inl rfl⟩ | exact absurd rfl (h _)

theorem fold_good (o : Oracle) (rk : Id → Nat) (hrk : NotifRanked o rk) (F : Nat)
    (ih : ∀ (s : St) (c : Cmd) (b : Nat), Below rk b c → pot b (rk s.focused) ≤ F → Good rk b s (handleCommand o F s c))
    (b : Nat) : ∀ (l : List Atom) (s : St), (∀ a ∈ l, ∀ w, a = Atom.focus w → rk w < b) → pot b (rk s.focused) ≤ F + 1 →
      Good rk b s (l.foldl (execAtom (handleCommand o F) o) s)
  | [], s, _, _ => good_refl rk b s
  | a :: l, s, hl, hp => by
    rw [List.foldl_cons]
    have h1 : Good rk b s (execAtom (handleCommand o F) o s a) := by
      cases a with
      | focus w => exact focus_atom_good o rk hrk F ih s w b (hl _ List.mem_cons_self w rfl) hp
      | _ => exact nonfocus_atom_good _ o rk b s _ (by intro w h; cases h)
    obtain ⟨h1s, h1f⟩ := h1
    generalize execAtom (handleCommand o F) o s a = s1 at h1s h1f
    have hp1 : pot b (rk s1.focused) ≤ F + 1 := by
      rcases h1f with h | h
      · rw [h]; exact hp
      · revert hp; unfold pot; split <;> split <;> omega
    obtain ⟨h2s, h2f⟩ := fold_good o rk hrk F ih b l s1 (fun a ha => hl a (List.mem_cons_of_mem _ ha)) hp1
    refine ⟨by rw [h2s, h1s], ?_⟩
    rcases h2f with h2 | h2 <;> rcases h1f with h1 | h1
    · left; rw [h2, h1]
    · right; rw [h2]; exact h1
    · right; rw [h1] at h2; exact h2
    · right; omega

theorem hc_good (o : Oracle) (rk : Id → Nat) (hrk : NotifRanked o rk) : ∀ (F : Nat) (s : St) (c : Cmd) (b : Nat),
    Below rk b c → pot b (rk s.focused) ≤ F → Good rk b s (handleCommand o F s c)
  | 0, s, c, b, _, hp => by
    exfalso; revert hp; unfold pot; split <;> omega
  | F + 1, s, c, b, hb, hp => fold_good o rk hrk F (hc_good o rk hrk F) b c.flatten s hb hp

theorem hc_ranked (o : Oracle) (rk : Id → Nat) (R : Nat) (hR : ∀ w, rk w ≤ R) (hrk : NotifRanked o rk) (fuel : Nat)
    (hf : 3 * R + 4 ≤ fuel) (s : St) (c : Cmd) : (handleCommand o fuel s c).stuck = s.stuck := by
  have hb : Below rk (R + 1) c := fun a _ w _ => Nat.lt_succ_of_le (hR w)
  have hp : pot (R + 1) (rk s.focused) ≤ fuel := by
    have := hR s.focused
    unfold pot; split <;> omega
  exact (hc_good o rk hrk fuel s c (R + 1) hb hp).1

theorem focusWidget_ranked (o : Oracle) (rk : Id → Nat) (R : Nat) (hR : ∀ w, rk w ≤ R) (hrk : NotifRanked o rk) (fuel : Nat)
    (hf : 3 * R + 4 ≤ fuel) (s : St) (w : Id) : (focusWidget o fuel s w).stuck = s.stuck := by
  obtain ⟨f, rfl⟩ : ∃ f, fuel = f + 1 := ⟨fuel - 1, by omega⟩
  have h := hc_ranked o rk R hR hrk (f + 1) hf s (.focus w)
  simpa [handleCommand, focusWidget, Cmd.flatten, execAtom] using h

end VaxisModel.Lemmas.Vxfw
