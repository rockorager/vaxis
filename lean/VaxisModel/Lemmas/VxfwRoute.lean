import VaxisModel.Model.VxfwErr
import VaxisModel.Spec.Routing

/-! The three-phase dispatch of `Model/VxfwErr.lean` is one loop: the event is offered along a list — the capturing
widgets of the chain, the target, the chain without its last element backwards — until an answer consumes it or a call
fails (`eDispatch_eq`).  That list is `route` of `Spec/Routing.lean` once the widgets are read (`routeOf_at`) and goes item
by item with `planOf` (`planRoute`), so what is proved about the dispatch is proved by one induction over the
list (`Walk.eOffers` in `Lemmas/VxfwWalk.lean`, `eOffers_conforms` and `eOffers_specRun` in `Lemmas/Vxfw.lean`). -/
namespace VaxisModel.Lemmas.Vxfw
open VaxisModel.Model.Vxfw VaxisModel.Spec.Routing

/-- Who is offered the event: the widget, read from the state when its turn comes (the target of a key event is the
widget focused THEN), and the phase. -/
structure Hop where
  who : St → Id
  phase : Phase

/-- Offer `ev` along a route until an answer consumes it or a call fails. -/
def eOffers (e : EOracle) (fuel : Nat) (ev : Ev) : List Hop → St → St × Outcome
  | [], s => (s, .next)
  | x :: r, s =>
    let y := eOffer e fuel s (x.who s) ev x.phase
    if y.2 = .next then eOffers e fuel ev r y.1 else y

def captureHops (captures : Id → Bool) (chain : List Id) : List Hop :=
  (chain.filter captures).map (fun w => ⟨fun _ => w, .capture⟩)

def bubbleHops (ws : List Id) : List Hop := ws.map (fun w => ⟨fun _ => w, .bubble⟩)

def routeOf (captures : Id → Bool) (chain : List Id) (tgt : St → Id) : List Hop :=
  captureHops captures chain ++ [⟨tgt, .target⟩] ++ bubbleHops chain.dropLast.reverse

theorem routeOf_at (captures : Id → Bool) (chain : List Id) (tgt : St → Id) (s : St) :
    (routeOf captures chain tgt).map (fun x => (x.who s, x.phase)) = route captures chain (tgt s) := by
  simp [routeOf, captureHops, bubbleHops, route, Function.comp_def]

/-- The spec's plan with the hop of each item beside it. -/
def planRoute (captures : Id → Bool) (chain : List Id) (item : PlanItem) (tgt : St → Id) : List (PlanItem × Hop) :=
  (chain.filter captures).map (fun w => (.cap w, ⟨fun _ => w, .capture⟩)) ++ [(item, ⟨tgt, .target⟩)] ++
    chain.dropLast.reverse.map (fun w => (.bub w, ⟨fun _ => w, .bubble⟩))

theorem planRoute_plan (captures : Id → Bool) (chain : List Id) (item : PlanItem) (tgt : St → Id) :
    (planRoute captures chain item tgt).map Prod.fst = planOf captures chain item := by
  simp [planRoute, planOf, Function.comp_def]

theorem planRoute_route (captures : Id → Bool) (chain : List Id) (item : PlanItem) (tgt : St → Id) :
    (planRoute captures chain item tgt).map Prod.snd = routeOf captures chain tgt := by
  simp [planRoute, routeOf, captureHops, bubbleHops, Function.comp_def]

theorem planRoute_want {captures : Id → Bool} {chain : List Id} {item : PlanItem} {tgt : St → Id} {ev : Ev}
    (hitem : ∀ s : St, item.want ev s.focused = .call (tgt s) ev .target) :
    ∀ z ∈ planRoute captures chain item tgt, ∀ s : St, z.1.want ev s.focused = .call (z.2.who s) ev z.2.phase := by
  intro z hz s
  simp only [planRoute, List.mem_append, List.mem_map, List.mem_singleton] at hz
  rcases hz with (⟨w, _, rfl⟩ | rfl) | ⟨w, _, rfl⟩
  · rfl
  · exact hitem s
  · rfl

variable (e : EOracle) (fuel : Nat) (ev : Ev)

theorem eOffers_single (x : Hop) (s : St) : eOffers e fuel ev [x] s = eOffer e fuel s (x.who s) ev x.phase := by
  simp only [eOffers]
  split
  · rename_i h; exact Prod.ext rfl h.symm
  · rfl

theorem eOffers_append : ∀ (a b : List Hop) (s : St),
    eOffers e fuel ev (a ++ b) s =
      if (eOffers e fuel ev a s).2 = .next then eOffers e fuel ev b (eOffers e fuel ev a s).1 else eOffers e fuel ev a s
  | [], b, s => by simp [eOffers]
  | x :: a, b, s => by
    simp only [List.cons_append, eOffers]
    split
    · exact eOffers_append a b _
    · rfl

theorem eCapturePhase_eq : ∀ (ws : List Id) (s : St),
    eCapturePhase e fuel ev ws s = eOffers e fuel ev (captureHops e.o.captures ws) s
  | [], s => rfl
  | w :: ws, s => by
    unfold eCapturePhase captureHops
    cases hc : e.o.captures w
    · simp only [Bool.false_eq_true, if_false, List.filter_cons, hc]; exact eCapturePhase_eq ws s
    · simp only [if_true, List.filter_cons, hc, List.map_cons, eOffers]
      split
      · exact eCapturePhase_eq ws _
      · rfl

theorem eBubblePhase_eq : ∀ (ws : List Id) (s : St),
    eBubblePhase e fuel ev ws s = eOffers e fuel ev (bubbleHops ws) s
  | [], s => rfl
  | w :: ws, s => by
    simp only [eBubblePhase, bubbleHops, List.map_cons, eOffers]
    split
    · exact eBubblePhase_eq ws _
    · rfl

theorem eDispatch_eq (chain : List Id) (tgt : St → Id) (s : St) :
    eDispatch e fuel chain tgt ev s =
      ((eOffers e fuel ev (routeOf e.o.captures chain tgt) { s with consume := false }).1,
       decide ((eOffers e fuel ev (routeOf e.o.captures chain tgt) { s with consume := false }).2 = .fail)) := by
  simp only [eDispatch, routeOf, List.append_assoc, eOffers_append, ← eCapturePhase_eq, ← eBubblePhase_eq,
    List.singleton_append, eOffers]
  split
  · rfl
  · rename_i h
    rw [Decidable.not_not] at h
    simp only [h, if_true]
    split
    · rfl
    · rename_i h2
      rw [Decidable.not_not] at h2
      simp only [h2, if_true]

end VaxisModel.Lemmas.Vxfw
