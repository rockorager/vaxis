import VaxisModel.Lemmas.Vxfw

/-!
The history theorems of C15 (commands once, focus pairing, the path invariant, the nesting budget, hover, what a
returned error looks like) all have the same shape: a predicate `Q s s' err` — from `s` a function of the Run loop came
to `s'` and returned, with an error iff `err` — holds of every primitive step (a handler call with the handling of its
answer, a call that fails, an assignment of the Run loop), of doing nothing, and of one step after another as long as no
error is returned; therefore of every function of the Run loop.  The walk is done here, once, for the error-aware
functions of `Model/VxfwErr.lean` (with the oracle `e0 o`, no call fails, they are the plain ones).  The Run loop itself is
walked for a `HandlerWalk`, where the mouse handler's `update` / `mouseExit` / `mouseEnter` are steps of their own: the
hover invariant needs the hit list they assign.
-/
namespace VaxisModel.Lemmas.Vxfw
open VaxisModel.Model.Vxfw VaxisModel.Spec.Routing

/-- A predicate on results that holds of doing nothing, and of one step after another as long as no error is returned. -/
structure Sequential (Q : St → St → Bool → Prop) : Prop where
  pure : ∀ s, Q s s false
  bind : ∀ {a b c x}, Q a b false → Q b c x → Q a c x

/-- What the dispatch and `updatePath` need of `Q`, for handler calls with an event satisfying `ok`, at nesting
budget `fuel`. -/
structure Walk (e : EOracle) (fuel : Nat) (ok : Ev → Prop) (Q : St → St → Bool → Prop) : Prop extends Sequential Q where
  flags : ∀ (s : St) (rd rf q c d : Bool),
    Q s { s with redraw := rd, refresh := rf, quit := q, consume := c, debug := d } false
  draw : ∀ s : St, Q s { s with trace := s.trace ++ [.draw] } false
  newFrame : ∀ (s : St) (t : STree), Q s (findPath { s with fhFrame := some t }).1 false
  /-- a call that fails: its answer is dropped, the error goes up -/
  callFail : ∀ s w ev ph, ok ev → e.failsAt s w ev ph = true → Q s (call e.o s w ev ph).1 true
  /-- a call that does not fail, and the handling of its answer -/
  callThen : ∀ s w ev ph, ok ev → e.failsAt s w ev ph = false →
    Q s (eHandleCommand e fuel (call e.o s w ev ph).1 (call e.o s w ev ph).2) false
  /-- the error of `focusWidget` is logged or dropped by its callers -/
  focusWidget : ∀ s w, Q s (eFocusWidget e fuel s w).1 false

/-- … and what the rest of the Run loop needs: the assignments to the mouse handler's fields. -/
structure RunWalk (e : EOracle) (fuel : Nat) (Q : St → St → Bool → Prop) : Prop extends Walk e fuel Routable Q where
  mouse : ∀ (s : St) (lh : List Hit) (m : Option (Int × Int)) (lf : STree),
    Q s { s with lastHits := lh, mouse := m, lastFrame := lf } false

/-- The events the Run loop dispatches. -/
def Dispatched : Ev → Prop
  | .key _ | .custom _ | .init | .mouse _ _ => True
  | _ => False

theorem Dispatched.elim {ev : Ev} (h : Dispatched ev) : Routable ev ∧ ev ≠ .mouseEnter ∧ ev ≠ .mouseLeave := by
  cases ev <;> simp [Dispatched, Routable] at h ⊢

theorem Walk.mono {e : EOracle} {fuel : Nat} {ok ok' : Ev → Prop} {Q : St → St → Bool → Prop}
    (h : ∀ ev, ok' ev → ok ev) (W : Walk e fuel ok Q) : Walk e fuel ok' Q :=
  { W with callFail := fun s w ev ph hev => W.callFail s w ev ph (h ev hev)
           callThen := fun s w ev ph hev => W.callThen s w ev ph (h ev hev) }

/-- What the Run loop needs of `Q` when `mouseHandler.update / mouseExit / mouseEnter` are steps of their own: `okT` are the
    trees a frame may lay out. -/
structure HandlerWalk (e : EOracle) (fuel : Nat) (okT : STree → Prop) (Q : St → St → Bool → Prop) : Prop
    extends Walk e fuel Dispatched Q where
  pointer : ∀ (s : St) (m : Option (Int × Int)), Q s { s with mouse := m } false
  setFrame : ∀ (s : St) (t : STree), okT t → Q s { s with lastFrame := t } false
  /-- `update` over the last frame (a mouse event) … -/
  updateLast : ∀ s, Q s (eMouseUpdate e fuel s s.lastFrame).1 (eMouseUpdate e fuel s s.lastFrame).2
  /-- … and over a new layout (the frame step) -/
  update : ∀ s t, okT t → Q s (eMouseUpdate e fuel s t).1 (eMouseUpdate e fuel s t).2
  exit : ∀ s, Q s (eMouseExit e fuel s).1 (eMouseExit e fuel s).2
  enter : ∀ s w, Q s (eMouseEnter e fuel s w).1 (eMouseEnter e fuel s w).2

variable {e : EOracle} {fuel : Nat} {ok : Ev → Prop} {Q : St → St → Bool → Prop}

namespace Sequential

/-- `r := f(); if err != nil { return err }; …` -/
theorem orElse (S : Sequential Q) {s : St} {r r' : St × Bool} (h1 : Q s r.1 r.2)
    (h2 : r.2 = false → Q r.1 r'.1 r'.2) :
    Q s (if r.2 = true then r else r').1 (if r.2 = true then r else r').2 := by
  cases hb : r.2 with
  | true => rw [if_pos rfl]; exact hb ▸ h1
  | false => rw [hb] at h1; exact S.bind h1 (h2 hb)

theorem eRunSteps (S : Sequential Q) (okS : Step → Prop)
    (hstep : ∀ s st, okS st → Q s (eRunStep e fuel s st).1 (eRunStep e fuel s st).2) :
    ∀ (steps : List Step), (∀ st ∈ steps, okS st) → ∀ (s : St), Q s (eRunSteps e fuel s steps).1 (eRunSteps e fuel s steps).2
  | [], _, s => S.pure s
  | .ev ev :: rest, hs, s => by
    rw [eRunSteps_ev]
    refine S.orElse (hstep s (.ev ev) (hs _ (by simp))) (fun hb => ?_)
    split
    · rw [hb]; exact S.pure _
    · exact S.eRunSteps okS hstep rest (fun x hx => hs x (by simp [hx])) _
  | .frame t1 t2 :: rest, hs, s => by
    rw [eRunSteps_frame]
    exact S.orElse (hstep s (.frame t1 t2) (hs _ (by simp))) (fun _ => S.eRunSteps okS hstep rest (fun x hx => hs x (by simp [hx])) _)

end Sequential

namespace Walk

theorem eOffer (W : Walk e fuel ok Q) (s : St) (w : Id) {ev : Ev} (hev : ok ev) (ph : Phase) :
    Q s (eOffer e fuel s w ev ph).1 ((eOffer e fuel s w ev ph).2 = .fail) := by
  unfold Model.Vxfw.eOffer
  simp only []
  split
  · rename_i hf; exact W.callFail s w ev ph hev hf
  · rename_i hf
    have h := W.callThen s w ev ph hev (by simpa using hf)
    split
    · exact W.bind h (W.flags _ _ _ _ false _)
    · exact h

theorem eOffers (W : Walk e fuel ok Q) {ev : Ev} (hev : ok ev) :
    ∀ (rt : List Hop) (s : St), Q s (eOffers e fuel ev rt s).1 ((eOffers e fuel ev rt s).2 = .fail)
  | [], s => W.pure s
  | x :: rt, s => by
    have h1 := W.eOffer s (x.who s) hev x.phase
    simp only [Vxfw.eOffers]
    split
    · rename_i hn
      rw [hn] at h1
      exact W.bind h1 (W.eOffers hev rt _)
    · exact h1

theorem eDispatch (W : Walk e fuel ok Q) (chain : List Id) (tgt : St → Id) {ev : Ev} (hev : ok ev) (s : St) :
    Q s (eDispatch e fuel chain tgt ev s).1 (eDispatch e fuel chain tgt ev s).2 := by
  rw [eDispatch_eq]
  exact W.bind (W.flags s _ _ _ false _) (W.eOffers hev _ _)

theorem eNotify (W : Walk e fuel ok Q) (s : St) (w : Id) {ev : Ev} (hev : ok ev) :
    Q s (eNotify e fuel s w ev).1 (eNotify e fuel s w ev).2 := by
  unfold Model.Vxfw.eNotify
  simp only []
  split
  · rename_i hf; exact W.callFail s w ev .target hev hf
  · rename_i hf; exact W.callThen s w ev .target hev (by simpa using hf)

theorem eNotifyLoop (W : Walk e fuel ok Q) {ev : Ev} (hev : ok ev) (skip : Hit → Bool) :
    ∀ (l : List Hit) (s : St), Q s (eNotifyLoop e fuel ev skip l s).1 (eNotifyLoop e fuel ev skip l s).2
  | [], s => W.pure s
  | h :: r, s => by
    unfold Model.Vxfw.eNotifyLoop
    split
    · exact W.eNotifyLoop hev skip r s
    · exact W.orElse (W.eNotify s h.w hev) (fun _ => W.eNotifyLoop hev skip r _)

theorem eUpdatePath (W : Walk e fuel ok Q) (s : St) (t : STree) : Q s (eUpdatePath e fuel s t) false := by
  unfold Model.Vxfw.eUpdatePath
  simp only []
  split
  · exact W.newFrame s t
  · exact W.bind (W.newFrame s t) (W.focusWidget _ s.root)

end Walk

namespace RunWalk

theorem eMouseUpdate (W : RunWalk e fuel Q) (s : St) (t : STree) :
    Q s (eMouseUpdate e fuel s t).1 (eMouseUpdate e fuel s t).2 := by
  unfold Model.Vxfw.eMouseUpdate
  cases s.mouse with
  | none => exact W.pure s
  | some p =>
    obtain ⟨c, r⟩ := p
    exact W.orElse (W.eNotifyLoop (ev := .mouseLeave) ⟨by simp, by simp⟩ (fun h => (hitsAt t c r).contains h) s.lastHits s)
      (fun _ => W.orElse
        (W.eNotifyLoop (ev := .mouseEnter) ⟨by simp, by simp⟩ (fun h => s.lastHits.contains h) (hitsAt t c r) _)
        (fun _ => W.mouse _ (hitsAt t c r) _ _))

theorem eMouseExit (W : RunWalk e fuel Q) (s : St) : Q s (eMouseExit e fuel s).1 (eMouseExit e fuel s).2 :=
  W.orElse (W.eNotifyLoop (ev := .mouseLeave) ⟨by simp, by simp⟩ (fun _ => false) s.lastHits s) (fun _ => W.mouse _ [] _ _)

theorem eMouseEnter (W : RunWalk e fuel Q) (s : St) (w : Id) :
    Q s (eMouseEnter e fuel s w).1 (eMouseEnter e fuel s w).2 := by
  unfold Model.Vxfw.eMouseEnter
  split
  · exact W.pure s
  · exact W.bind (W.mouse s (s.lastHits ++ [⟨0, 0, w⟩]) s.mouse s.lastFrame)
      (W.eNotify (ev := .mouseEnter) { s with lastHits := s.lastHits ++ [⟨0, 0, w⟩] } w ⟨by simp, by simp⟩)

end RunWalk

variable {okT : STree → Prop}

namespace HandlerWalk

theorem eMouseHandleEvent (W : HandlerWalk e fuel okT Q) (s : St) (c r : Int) :
    Q s (eMouseHandleEvent e fuel s c r).1 (eMouseHandleEvent e fuel s c r).2 := by
  unfold Model.Vxfw.eMouseHandleEvent
  refine W.bind (W.pointer s (some (c, r))) (W.orElse (W.updateLast { s with mouse := some (c, r) }) (fun hb => ?_))
  split
  · rw [hb]; exact W.pure _
  · exact W.eDispatch _ _ (ev := .mouse c r) trivial _

theorem eRunEvent (W : HandlerWalk e fuel okT Q) (s : St) (ev : RunEv) :
    Q s (eRunEvent e fuel s ev).1 (eRunEvent e fuel s ev).2 := by
  cases ev with
  | resize | redraw => exact W.flags s true _ _ _ _
  | mouse c r => exact W.eMouseHandleEvent s c r
  | focusIn => exact W.enter s s.root
  | focusOut => exact W.bind (W.pointer s none) (W.exit _)
  | key k => exact W.eDispatch s.path (fun s => s.focused) (ev := .key k) trivial s
  | other k => exact W.eDispatch s.path (fun s => s.focused) (ev := .custom k) trivial s

/-- The trees of a step are among those a frame may lay out (before and after render's sort); `StepOk` of
`Lemmas/VxfwHover.lean` is `StepT HitsNodup`. -/
def StepT (okT : STree → Prop) : Step → Prop
  | .ev _ => True
  | .frame t1 t2 => okT t1 ∧ okT (sortTree t1) ∧ okT (sortTree t2)

theorem eRunFrame (W : HandlerWalk e fuel okT Q) (s : St) (t1 t2 : STree) (hok : StepT okT (.frame t1 t2)) :
    Q s (eRunFrame e fuel s t1 t2).1 (eRunFrame e fuel s t1 t2).2 := by
  obtain ⟨ok1, ok1s, ok2s⟩ := hok
  unfold Model.Vxfw.eRunFrame
  split
  · exact W.pure s
  · refine W.bind (W.bind (W.draw s) (W.flags _ false _ _ _ _))
      (W.orElse (W.update { s with redraw := false, trace := s.trace ++ [.draw] } t1 ok1) (fun _ => ?_))
    generalize (Model.Vxfw.eMouseUpdate e fuel { s with redraw := false, trace := s.trace ++ [.draw] } t1).1 = s1
    have hend : ∀ (s2 : St) (t : STree), okT t → Q s1 s2 false →
        Q s1 { Model.Vxfw.eUpdatePath e fuel { s2 with refresh := false, debug := false } t with lastFrame := t } false :=
      fun s2 t ht h => W.bind (W.bind (W.bind h (W.flags s2 _ false _ _ false)) (W.eUpdatePath _ t)) (W.setFrame _ t ht)
    by_cases hr : s1.redraw = true
    · simp only [hr, if_true]
      have hd : Q s1 { s1 with redraw := false, trace := s1.trace ++ [.draw] } false :=
        W.bind (W.draw s1) (W.flags _ false _ _ _ _)
      exact hend _ _ ok2s hd
    · have hrf : s1.redraw = false := by simpa using hr
      simp only [hrf]
      exact hend _ _ ok1s (W.pure s1)

theorem eRunInit (W : HandlerWalk e fuel okT Q) (root : Id) (t : STree) (ht : okT t) :
    Q (St.init root) (eRunInit e fuel root t).1 (eRunInit e fuel root t).2 :=
  W.orElse (W.eDispatch (St.init root).path (fun s => s.focused) (ev := .init) trivial (St.init root))
    (fun _ => W.bind (W.draw _) (W.setFrame _ t ht))

theorem eRun (W : HandlerWalk e fuel okT Q) (root : Id) (t0 : STree) (steps : List Step) (h0 : okT t0)
    (hs : ∀ st ∈ steps, StepT okT st) : Q (St.init root) (eRun e fuel root t0 steps).1 (eRun e fuel root t0 steps).2 :=
  W.orElse (W.eRunInit root t0 h0) (fun _ =>
    W.toSequential.eRunSteps (StepT okT)
      (fun s st hok => match st, hok with
        | .ev ev, _ => W.eRunEvent s ev
        | .frame t1 t2, hok => W.eRunFrame s t1 t2 hok) steps hs _)

end HandlerWalk

/-- Every `RunWalk` is one: the three functions are loops of notifications and an assignment. -/
theorem RunWalk.toHandlerWalk (W : RunWalk e fuel Q) : HandlerWalk e fuel (fun _ => True) Q :=
  { W.toWalk.mono (fun _ h => h.elim.1) with
    pointer := fun s m => W.mouse s s.lastHits m s.lastFrame
    setFrame := fun s t _ => W.mouse s s.lastHits s.mouse t
    updateLast := fun s => W.eMouseUpdate s s.lastFrame
    update := fun s t _ => W.eMouseUpdate s t
    exit := W.eMouseExit
    enter := W.eMouseEnter }

namespace RunWalk

theorem eRun (W : RunWalk e fuel Q) (root : Id) (t0 : STree) (steps : List Step) :
    Q (St.init root) (Model.Vxfw.eRun e fuel root t0 steps).1 (Model.Vxfw.eRun e fuel root t0 steps).2 :=
  W.toHandlerWalk.eRun root t0 steps trivial (fun st _ => by cases st <;> first | trivial | exact ⟨trivial, trivial, trivial⟩)

theorem run {o : Oracle} (W : RunWalk (e0 o) fuel Q) (root : Id) (t0 : STree) (steps : List Step) :
    Q (St.init root) (Model.Vxfw.runSteps o fuel (runInit o fuel root t0) steps) false := by
  have h := W.eRun root t0 steps
  rwa [eRun_noerr] at h

end RunWalk

theorem fail_walk (e : EOracle) (fuel : Nat) : RunWalk e fuel (fun _ s' err => err = true → EndsWithCall s') where
  pure := fun _ h => nomatch h
  bind := fun _ h => h
  flags := fun _ _ _ _ _ _ h => nomatch h
  draw := fun _ h => nomatch h
  newFrame := fun _ _ h => nomatch h
  callFail := fun s w ev ph _ _ _ => endsWithCall_call e.o s w ev ph
  callThen := fun _ _ _ _ _ _ h => nomatch h
  focusWidget := fun _ _ h => nomatch h
  mouse := fun _ _ _ _ h => nomatch h

theorem pinv_walk (o : Oracle) (fuel : Nat) : RunWalk (e0 o) fuel (fun s s' _ => PathInv s → PathInv s') where
  pure := fun _ h => h
  bind := fun h1 h2 h => h2 (h1 h)
  flags := fun _ _ _ _ _ _ => PathInv.congr rfl rfl rfl rfl
  draw := fun _ => PathInv.congr rfl rfl rfl rfl
  newFrame := fun _ _ _ => pathInv_findPath _
  callFail := fun _ _ _ _ _ hf => nomatch hf
  callThen := fun s w ev ph _ _ h => by
    rw [eHandleCommand_noerr]
    -- `Ext`'s event plays no part in its field `pinv`: any routable one will do
    exact (ext_handleCommand Routable.init o fuel _ _).pinv (PathInv.congr rfl rfl rfl rfl h)
  focusWidget := fun s w h => by
    rw [eFocusWidget_noerr]
    exact (focusWidget_ext Routable.init o fuel s w).pinv h
  mouse := fun _ _ _ _ => PathInv.congr rfl rfl rfl rfl

end VaxisModel.Lemmas.Vxfw
