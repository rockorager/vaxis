import VaxisModel.Lemmas.WidTrees
import VaxisModel.Lemmas.WidExecEq
import VaxisModel.Lemmas.Pager

/-! `Model/WidExec.lean` run on the statement trees of `Lemmas/WidTrees.lean` IS the widgets' models
    (`Model/SimpleList.lean`, `Model/Pager.lean`, `Model/Scrollbar.lean`).  A loop body is run once, symbolically (`xs`), from a
    machine described by an invariant; a `range` loop is then the fold of its body (`rangeE_foldl`).  Here the pager's `Layout`
    and `Draw`; `Lemmas/WidExecList.lean` has the other methods, `Props/C19Wid.lean` transfers the statements to the
    regenerated bodies. -/

namespace VaxisModel.Lemmas.WidExec
open VaxisModel.Model VaxisModel.Model.GoSyn VaxisModel.Model.WidExec
open VaxisModel.Model.DynExec (Stmt Ctl Err)
open VaxisModel.Model.Pager (Ch layoutStep layoutLoop LState)
open VaxisModel.Lemmas.WidTrees
open VaxisModel.Lemmas.DynTrees (seqOf)

theorem fn_v1 : ("v1" ∈ fieldNames) = False := by simp [fieldNames]
theorem fn_v2 : ("v2" ∈ fieldNames) = False := by simp [fieldNames]
theorem fn_v4 : ("v4" ∈ fieldNames) = False := by simp [fieldNames]
theorem fn_v5 : ("v5" ∈ fieldNames) = False := by simp [fieldNames]
theorem fn_v7 : ("v7" ∈ fieldNames) = False := by simp [fieldNames]
theorem fn_index : ("d.index" ∈ fieldNames) = True := by simp [fieldNames]
theorem fn_offset : ("d.offset" ∈ fieldNames) = True := by simp [fieldNames]
theorem fn_items : ("#d.items" ∈ fieldNames) = True := by simp [fieldNames]
theorem fn_Offset : ("d.Offset" ∈ fieldNames) = True := by simp [fieldNames]
theorem fn_width : ("d.width" ∈ fieldNames) = True := by simp [fieldNames]

/-- The simp set that symbolically executes a statement tree. -/
scoped macro "xs" "[" ts:Lean.Parser.Tactic.simpLemma,* "]" : tactic =>
  `(tactic| simp [wid_exec, exec, evB, evI, look, lookup, lookupC, lookupL, consts, store, WidExec.bind, bindC, bindE, WidExec.ok, fieldOf,
      seqOf, fn_v1, fn_v2, fn_v4, fn_v5, fn_v7, fn_index, fn_offset, fn_items, fn_Offset, fn_width, $ts,*])

/-- The expected bodies, parsed. -/
def expB : Bodies :=
  ⟨seqOf lminParts, seqOf lmaxParts, seqOf lnewParts, seqOf lindexParts, seqOf ldrawParts, seqOf ldownParts, seqOf lupParts, seqOf lhomeParts,
   seqOf lendParts, seqOf lpgdnParts, seqOf lpgupParts, seqOf lsetParts, seqOf pdrawParts, seqOf playParts, seqOf pdownParts,
   seqOf pupParts, seqOf lappParts, seqOf bdrawParts⟩

theorem rangeE_ctl (k v : String) (body : M → Res) (es : List Elem) : ∀ (i : Nat) (m m' : M) (c : Ctl),
    rangeE k v body es i m = .ok (m', c) → c = .norm ∨ ∃ vs, c = .ret vs := by
  induction es with
  | nil => intro i m m' c h; simp only [rangeE, Except.ok.injEq, Prod.mk.injEq] at h; exact Or.inl h.2.symm
  | cons e es ih =>
    intro i m m' c h
    simp only [rangeE] at h
    split at h
    · cases h
    · cases h; exact Or.inl rfl
    · cases h; exact Or.inr ⟨_, rfl⟩
    · exact ih _ _ _ _ h

theorem rangeE_not_brk (k v : String) (body : M → Res) (es : List Elem) : ∀ (i : Nat) (m m' : M),
    rangeE k v body es i m ≠ .ok (m', .brk) := by
  intro i m m' h
  rcases rangeE_ctl k v body es i m m' _ h with h | ⟨_, h⟩ <;> cases h

/-- A run that ends without an error, with a control signal in `C`, in a machine with `P`: the form of the statements
    about loop bodies, whole loops and whole methods. -/
def Ends (C : Ctl → Prop) (P : M → Prop) : Res → Prop
  | .ok (m, c) => C c ∧ P m
  | .error _ => False

@[simp] theorem ends_ok {C : Ctl → Prop} {P : M → Prop} (m : M) (c : Ctl) : Ends C P (.ok (m, c)) ↔ C c ∧ P m := Iff.rfl

@[simp] theorem ends_error {C : Ctl → Prop} {P : M → Prop} (e : Err) : Ends C P (.error e) ↔ False := Iff.rfl

theorem Ends.elim {C : Ctl → Prop} {P : M → Prop} {r : Res} (h : Ends C P r) : ∃ m c, r = .ok (m, c) ∧ C c ∧ P m := by
  match r, h with
  | .ok (m, c), h => exact ⟨m, c, rfl, h⟩
  | .error _, h => exact h.elim

theorem exec_seq_skip (R : Ro) (a : Stmt) (f : Nat) (m : M) : exec R (.seq a .skip) f m = exec R a f m := by
  simp only [exec]
  split
  · rename_i h; exact h.symm
  · rfl

theorem rangeE_step {k v : String} {body : M → Res} {C : Ctl → Prop} {P : M → Prop} {e : Elem} {i : Nat} {m : M}
    (hC : ∀ c, C c → c = .norm ∨ c = .cont) (h : Ends C P (body (bindE (WidExec.bind m k (i : Int)) v e))) (es : List Elem) :
    ∃ m', P m' ∧ rangeE k v body (e :: es) i m = rangeE k v body es (i + 1) m' := by
  obtain ⟨m', c, hr, hc, hm⟩ := h.elim
  refine ⟨m', hm, ?_⟩
  rw [rangeE, hr]
  rcases hC c hc with rfl | rfl <;> rfl

/-- A `range` loop is the fold of its body; the body is run at the position `i + n` of its element. -/
theorem rangeE_foldl {α σ : Type} {k v : String} {body : M → Res} {C : Ctl → Prop} (hC : ∀ c, C c → c = .norm ∨ c = .cont)
    (el : α → Elem) (P : σ → M → Prop) (g : σ → α → σ) :
    ∀ (l : List α) (i : Nat) (s : σ) (m : M),
      (∀ (n : Nat) (a : α) (s : σ) (m : M), l[n]? = some a → P s m →
        Ends C (P (g s a)) (body (bindE (WidExec.bind m k ((i + n : Nat) : Int)) v (el a)))) →
      P s m → Ends (· = .norm) (P (l.foldl g s)) (rangeE k v body (l.map el) i m) := by
  intro l
  induction l with
  | nil => intro i s m _ h; exact ⟨rfl, h⟩
  | cons a l ih =>
    intro i s m hstep h
    obtain ⟨m', hm, hr⟩ := rangeE_step hC (hstep 0 a s m rfl h) (l.map el)
    rw [List.map_cons, List.foldl_cons, ← Nat.add_zero i, hr]
    exact ih (i + 1) _ m' (fun n a s m hn => by have := hstep (n + 1) a s m hn; rwa [show i + (n + 1) = i + 1 + n by omega] at this) hm

/-- The body of the inner loop of `Layout`. -/
def playInner : Stmt :=
      (.seq (.ite (.arg (.arg (.call (.var "strings.ContainsRune")) (.var "v3.Grapheme")) (.lit "'\\n'"))
        (.seq (.atom ⟨3, .assign, (.var "d.lines"), (.arg (.arg (.call (.var "append")) (.var "d.lines")) (.var "v0"))⟩)
        (.seq (.atom ⟨3, .assign, (.var "v0"), (.un "&" (.lit "line{}"))⟩)
        (.seq (.atom ⟨3, .assign, (.var "v1"), (.int 0)⟩)
        (.seq (.atom ⟨3, .continueS, .none, .none⟩)
        .skip))))
        .skip)
      (.seq (.atom ⟨2, .define, (.var "v4"), (.arg (.arg (.call (.lit "vaxis.Cell{}")) (.pair (.var "Character") (.var "v3"))) (.pair (.var "Style") (.var "v2.Style")))⟩)
      (.seq (.atom ⟨2, .exprS, (.arg (.call (.var "v0.append")) (.var "v4")), .none⟩)
      (.seq (.atom ⟨2, .addAssign, (.var "v1"), (.var "v3.Width")⟩)
      (.seq (.ite (.bin ">=" (.var "v1") (.var "d.width"))
        (.seq (.atom ⟨3, .assign, (.var "d.lines"), (.arg (.arg (.call (.var "append")) (.var "d.lines")) (.var "v0"))⟩)
        (.seq (.atom ⟨3, .assign, (.var "v0"), (.un "&" (.lit "line{}"))⟩)
        (.seq (.atom ⟨3, .assign, (.var "v1"), (.int 0)⟩)
        .skip)))
        .skip)
      .skip)))))

/-- What `Layout`'s loops keep: the machine represents the loop state `st` of the model. -/
def MInv (φ : List (String × Int)) (win : Win) (rows : List SimpleList.Row) (width : Int) (st : LState) (m : M) : Prop :=
  m.φ = φ ∧ m.lines = st.lines ∧ m.lv = "v0" ∧ m.cur = st.cur ∧ m.alias = [] ∧ m.win = win ∧ m.rows = rows ∧
  lookup (m.ρ ++ φ ++ consts) "d.width" = some width ∧ lookup (m.ρ ++ φ ++ consts) "v1" = some st.col

theorem play_step (R : Ro) (hcall : R.call "line.append" = some (appendCallee expB)) (f : Nat) (φ : List (String × Int)) (win : Win) (rows : List SimpleList.Row) (width : Int)
    (st : LState) (m : M) (i : Nat) (c : Ch) (h : MInv φ win rows width st m) :
    Ends (fun c => c = .norm ∨ c = .cont) (MInv φ win rows width (layoutStep width st c))
      (exec R playInner f (bindE (WidExec.bind m "_" (i : Int)) "v3" (.ch c))) := by
  obtain ⟨φ', ρ, χ, ls, L, lv, C, sh, win', rows'⟩ := m
  obtain ⟨L0, C0, col⟩ := st
  obtain ⟨h1, h2, h3, h4, h5, h6, h7, hw, hc⟩ := h
  simp only at h1 h2 h3 h4 h5 h6 h7 hw hc
  subst h1 h2 h3 h4 h5 h6 h7
  simp only [consts, List.append_assoc] at hw hc
  by_cases hn : c.isNl = true
  · xs [playInner, layoutStep, hn, hw, hc, MInv]
  · by_cases hge : col + c.width ≥ width <;>
      xs [playInner, layoutStep, hn, hw, hc, hge, MInv, hcall, appendCallee, expB, lappParts, lapp0]

/-- The body of the outer loop of `Layout`. -/
def playOuter : Stmt := .seq (.rangeOver "_" "v3" (.arg (.call (.var "vaxis.Characters")) (.var "v2.Text")) playInner) .skip

theorem play3_eq : play3 = .rangeOver "_" "v2" (.var "d.Segments") playOuter := rfl

theorem play3_run (R : Ro) (f : Nat) (m : M) :
    exec R play3 f m = rangeE "_" "v2" (exec R playOuter f) (R.segs.map .seg) 0 m := by
  simp [play3_eq, exec, collOf]

theorem play_outer_step (R : Ro) (hcall : R.call "line.append" = some (appendCallee expB)) (f : Nat) (φ : List (String × Int)) (win : Win) (rows : List SimpleList.Row) (width : Int)
    (st : LState) (m : M) (i : Nat) (cs : List Ch) (h : MInv φ win rows width st m) :
    Ends (· = .norm) (MInv φ win rows width (layoutLoop width st cs))
      (exec R playOuter f (bindE (WidExec.bind m "_" (i : Int)) "v2" (.seg cs))) := by
  have hm : MInv φ win rows width st { m with ls := ("v2.Text", cs) :: m.ls } := h
  obtain ⟨m', c, hr, rfl, hm'⟩ := (rangeE_foldl (fun _ h => h) Elem.ch (MInv φ win rows width) (layoutStep width) cs 0 st _
    (fun n c st m _ h => play_step R hcall f φ win rows width st m (0 + n) c h) hm).elim
  simp only [playOuter, exec, collOf, bindE, WidExec.bind, lookupL]
  simp only [show ("v2" ++ ".Text" : String) = "v2.Text" from by decide, if_true]
  rw [hr]
  exact ⟨rfl, hm'⟩

theorem play_outer_loop (R : Ro) (hcall : R.call "line.append" = some (appendCallee expB)) (f : Nat) (φ : List (String × Int)) (win : Win) (rows : List SimpleList.Row) (width : Int)
    (segs : List (List Ch)) (st : LState) (m : M) (i : Nat) (h : MInv φ win rows width st m) :
    Ends (· = .norm) (MInv φ win rows width (layoutLoop width st segs.flatten)) (rangeE "_" "v2" (exec R playOuter f) (segs.map .seg) i m) := by
  rw [show layoutLoop width st segs.flatten = segs.foldl (layoutLoop width) st by rw [layoutLoop, List.foldl_flatten]; rfl]
  exact rangeE_foldl (fun _ => Or.inl) Elem.seg (MInv φ win rows width) (layoutLoop width) segs i st m
    (fun n cs st m _ h => play_outer_step R hcall f φ win rows width st m (i + n) cs h) h

/-- `Layout()` executed from its body = `Pager.layout` (with the final flush) at the width stored in `d.width`, on the
    characters of all segments. -/
theorem play_exec (R : Ro) (hcall : R.call "line.append" = some (appendCallee expB)) (f : Nat) (m : M) (width : Int) (hρ : m.ρ = [])
    (hw : lookup (m.φ ++ consts) "d.width" = some width) :
    Ends (· = .norm) (fun m' => m'.φ = m.φ ∧ m'.lines = Pager.layout true width R.segs.flatten ∧ m'.win = m.win ∧ m'.rows = m.rows)
      (exec R (seqOf playParts) f m) := by
  obtain ⟨φ, ρ, χ, ls, L, lv, C, sh, win, rows⟩ := m
  simp only at hρ hw
  subst hρ
  have h0 : MInv φ win rows width ⟨[], [], 0⟩ ⟨φ, [("v1", 0)], χ, ls, [], "v0", [], [], win, rows⟩ := by
    refine ⟨rfl, rfl, rfl, rfl, rfl, rfl, rfl, ?_, ?_⟩
    · simpa [lookup] using hw
    · simp [lookup]
  have hl := play_outer_loop R hcall f φ win rows width R.segs ⟨[], [], 0⟩ _ 0 h0
  simp only [seqOf, playParts, exec, play3_run]
  simp [play0, play1, play2, exec, wid_exec, WidExec.ok, WidExec.bind]
  have fin : ∀ m' : M, MInv φ win rows width (layoutLoop width ⟨[], [], 0⟩ R.segs.flatten) m' →
      Ends (· = .norm) (fun m'' => m''.φ = φ ∧ m''.lines = Pager.layout true width R.segs.flatten ∧ m''.win = win ∧ m''.rows = rows)
        (match exec R play4 f m' with
          | .ok (m'', .norm) => .ok (m'', .norm)
          | r => r) := by
    intro m' hm'
    obtain ⟨φ', ρ', χ', ls', L', lv', C', sh', win', rows'⟩ := m'
    obtain ⟨h1, h2, h3, h4, h5, h6, h7, _, _⟩ := hm'
    simp only at h1 h2 h3 h4 h5 h6 h7
    subst h1 h3 h5 h6 h7
    cases hC : C' with
    | nil => simp [play4, exec, wid_exec, evB, evI, Pager.layout, ← h2, ← h4, hC]
    | cons c cs => simp [play4, exec, wid_exec, evB, evI, WidExec.ok, Pager.layout, ← h2, ← h4, hC]
  obtain ⟨m', c, hr, rfl, hm'⟩ := hl.elim
  rw [hr]
  exact fin m' hm'

/-- The cells `SetCell` writes for one line, starting at column `col`, into window row `r`. -/
def goRow (win : Win) (r : Int) : Int → List Ch → Win
  | _, [] => win
  | col, c :: cs => goRow (setCell win col r c) r (col + c.width) cs

/-- The window after the loop over the lines from index `i` on. -/
def paint (off : Int) (h : Nat) : Win → Nat → List PLine → Win
  | win, _, [] => win
  | win, i, l :: rest =>
    if (i : Int) < off then paint off h win (i + 1) rest
    else if (i : Int) - off ≥ (h : Int) then win
    else paint off h (goRow win ((i : Int) - off) 0 l) (i + 1) rest

/-- The body of the loop over the characters of a line. -/
def pcell : Stmt :=
      (.seq (.atom ⟨2, .exprS, (.arg (.arg (.arg (.call (.var "v0.SetCell")) (.var "v5")) (.bin "-" (.var "v3") (.var "d.Offset"))) (.var "v6")), .none⟩)
      (.seq (.atom ⟨2, .addAssign, (.var "v5"), (.var "v6.Width")⟩)
      .skip))

/-- The body of the loop over the lines. -/
def prow : Stmt :=
    (.seq (.ite (.bin "<" (.var "v3") (.var "d.Offset"))
      (.seq (.atom ⟨2, .continueS, .none, .none⟩)
      .skip)
      .skip)
    (.seq (.ite (.bin ">=" (.bin "-" (.var "v3") (.var "d.Offset")) (.var "v2"))
      (.seq (.atom ⟨2, .returnS, .none, .none⟩)
      .skip)
      .skip)
    (.seq (.atom ⟨1, .define, (.var "v5"), (.int 0)⟩)
    (.seq (.rangeOver "_" "v6" (.var "v4.characters") pcell)
    .skip))))

theorem pdraw6_eq : pdraw6 = .rangeOver "v3" "v4" (.var "d.lines") prow := rfl

/-- What the loop over the lines keeps. -/
def PInv (φ : List (String × Int)) (lines : List PLine) (rows : List SimpleList.Row) (off v2 : Int) (win : Win) (m : M) : Prop :=
  m.φ = φ ∧ m.lines = lines ∧ m.rows = rows ∧ m.win = win ∧ m.lv = "" ∧
  lookup (m.ρ ++ (φ ++ consts)) "d.Offset" = some off ∧ lookup (m.ρ ++ (φ ++ consts)) "v2" = some v2

theorem PInv.φ_eq {φ lines rows off v2 win m} (h : PInv φ lines rows off v2 win m) : m.φ = φ := h.1
theorem PInv.lines_eq {φ lines rows off v2 win m} (h : PInv φ lines rows off v2 win m) : m.lines = lines := h.2.1
theorem PInv.win_eq {φ lines rows off v2 win m} (h : PInv φ lines rows off v2 win m) : m.win = win := h.2.2.2.1

/-- What the loop over the characters of line `v3` keeps: the above, the line index and the column. -/
def CInv (φ : List (String × Int)) (lines : List PLine) (rows : List SimpleList.Row) (v3 off v2 : Int) (win : Win) (col : Int) (m : M) : Prop :=
  PInv φ lines rows off v2 win m ∧ lookup (m.ρ ++ (φ ++ consts)) "v5" = some col ∧ lookup (m.ρ ++ (φ ++ consts)) "v3" = some v3

theorem pcell_step (R : Ro) (f : Nat) (φ : List (String × Int)) (lines : List PLine) (rows : List SimpleList.Row) (v3 off v2 : Int)
    (win : Win) (col : Int) (m : M) (i : Nat) (c : Ch) (h : CInv φ lines rows v3 off v2 win col m) :
    Ends (· = .norm) (CInv φ lines rows v3 off v2 (setCell win col (v3 - off) c) (col + c.width))
      (exec R pcell f (bindE (WidExec.bind m "_" (i : Int)) "v6" (.ch c))) := by
  obtain ⟨φ', ρ, χ, ls, L, lv, C, sh, win', rows'⟩ := m
  obtain ⟨⟨h1, h2, h3, h4, h5, h8, h9⟩, h6, h7⟩ := h
  simp only at h1 h2 h3 h4 h5 h6 h7 h8 h9
  subst h1 h2 h3 h4 h5
  simp only [consts] at h6 h7 h8 h9
  xs [pcell, h6, h7, h8, h9, CInv, PInv]

theorem goRow_foldl (r : Int) : ∀ (l : List Ch) (win : Win) (col : Int),
    goRow win r col l = (l.foldl (fun (p : Win × Int) c => (setCell p.1 p.2 r c, p.2 + c.width)) (win, col)).1
  | [], _, _ => rfl
  | c :: l, win, col => by rw [goRow, List.foldl_cons]; exact goRow_foldl r l _ _

theorem pcell_loop (R : Ro) (f : Nat) (φ : List (String × Int)) (lines : List PLine) (rows : List SimpleList.Row) (v3 off v2 : Int)
    (l : List Ch) (win : Win) (col : Int) (m : M) (i : Nat) (h : CInv φ lines rows v3 off v2 win col m) :
    ∃ col', Ends (· = .norm) (CInv φ lines rows v3 off v2 (goRow win (v3 - off) col l) col')
      (rangeE "_" "v6" (exec R pcell f) (l.map .ch) i m) :=
  ⟨_, goRow_foldl (v3 - off) l win col ▸ rangeE_foldl (fun _ => Or.inl) Elem.ch (fun (p : Win × Int) => CInv φ lines rows v3 off v2 p.1 p.2) _ l i (win, col) m
    (fun n c p m _ h => pcell_step R f φ lines rows v3 off v2 p.1 p.2 m (i + n) c h) h⟩

theorem prow_step (R : Ro) (f : Nat) (φ : List (String × Int)) (lines : List PLine) (rows : List SimpleList.Row) (off : Int) (hh : Nat)
    (win : Win) (m : M) (i : Nat) (l : PLine) (h : PInv φ lines rows off hh win m) :
    Ends (fun c => c = if (i : Int) < off then .cont else if (i : Int) - off ≥ (hh : Int) then .ret [] else .norm)
      (PInv φ lines rows off hh (if (i : Int) < off ∨ (i : Int) - off ≥ (hh : Int) then win else goRow win ((i : Int) - off) 0 l))
      (exec R prow f (bindE (WidExec.bind m "v3" (i : Int)) "v4" (.line l))) := by
  obtain ⟨φ', ρ, χ, ls, L, lv, C, sh, win', rows'⟩ := m
  obtain ⟨h1, h2, h3, h4, h5, h6, h7⟩ := h
  simp only at h1 h2 h3 h4 h5 h6 h7
  subst h1 h2 h3 h4 h5
  simp only [consts] at h6 h7
  by_cases c1 : (i : Int) < off
  · xs [prow, h6, h7, c1, PInv]
  · by_cases c2 : (i : Int) - off ≥ (hh : Int)
    · xs [prow, h6, h7, c1, c2, PInv]
    · have hc : CInv φ' L rows' (i : Int) off hh win' 0
          ⟨φ', ("v5", 0) :: ("v3", (i : Int)) :: ρ, χ, ("v4.characters", l) :: ls, L, "", C, sh, win', rows'⟩ := by
        refine ⟨⟨rfl, rfl, rfl, rfl, rfl, ?_, ?_⟩, ?_, ?_⟩ <;> simp [lookup, consts, h6, h7]
      obtain ⟨col', hl⟩ := pcell_loop R f φ' L rows' (i : Int) off hh l win' 0 _ 0 hc
      simp only [prow, exec, evB, evI, look, bindE, WidExec.bind, collOf, wid_exec, WidExec.ok, consts]
      simp [lookup, lookupL, h6, h7, c1, c2]
      obtain ⟨m', c, hr, rfl, hp, _, _⟩ := hl.elim
      rw [hr]
      simp
      exact hp

theorem prow_loop (R : Ro) (f : Nat) (φ : List (String × Int)) (lines : List PLine) (rows : List SimpleList.Row) (off : Int) (hh : Nat)
    (rest : List PLine) : ∀ (win : Win) (m : M) (i : Nat), PInv φ lines rows off hh win m →
      Ends (fun c => c = .norm ∨ c = .ret []) (PInv φ lines rows off hh (paint off hh win i rest)) (rangeE "v3" "v4" (exec R prow f) (rest.map .line) i m) := by
  induction rest with
  | nil => intro win m i h; exact ⟨Or.inl rfl, h⟩
  | cons l rest ih =>
    intro win m i h
    obtain ⟨m', c, hr, rfl, hm⟩ := (prow_step R f φ lines rows off hh win m i l h).elim
    simp only [List.map_cons, rangeE, paint, hr]
    by_cases c1 : (i : Int) < off
    · simp only [c1, if_true, true_or] at hm ⊢
      exact ih _ m' (i + 1) hm
    · by_cases c2 : (i : Int) - off ≥ (hh : Int)
      · simp only [c1, c2, if_true, if_false, or_true] at hm ⊢
        exact ⟨Or.inr rfl, hm⟩
      · simp only [c1, c2, if_false, or_self] at hm ⊢
        exact ih _ m' (i + 1) hm

theorem setCell_row (win : Win) (k : Nat) (row : List (Option Ch)) (w : Nat) (col : Int) (c : Ch)
    (hk : win[k]? = some row) (hw : row.length = w) :
    setCell win col (k : Int) c = win.set k (if 0 ≤ col ∧ col < (w : Int) then row.set col.toNat (some c) else row) := by
  obtain ⟨hlt, hrow⟩ := List.getElem?_eq_some_iff.mp hk
  unfold setCell
  by_cases h0 : 0 ≤ col
  · by_cases h1 : col < (w : Int)
    · simp [h0, h1, hk]
    · have : row.set col.toNat (some c) = row := List.set_eq_of_length_le (by omega)
      simp [h0, h1, hk, this]
  · have : win.set k row = win := by rw [← hrow]; exact List.set_getElem_self hlt
    simp [h0, this]

theorem goRow_eq (w : Nat) (k : Nat) (l : List Ch) : ∀ (win : Win) (row : List (Option Ch)) (col : Int),
    win[k]? = some row → row.length = w →
    goRow win (k : Int) col l = win.set k (Pager.drawRow.go w row col l) := by
  induction l with
  | nil =>
    intro win row col hk hw
    obtain ⟨hlt, hrow⟩ := List.getElem?_eq_some_iff.mp hk
    simp only [goRow, Pager.drawRow.go]
    rw [← hrow]; exact (List.set_getElem_self hlt).symm
  | cons c cs ih =>
    intro win row col hk hw
    obtain ⟨hlt, hrow⟩ := List.getElem?_eq_some_iff.mp hk
    simp only [goRow, Pager.drawRow.go]
    rw [setCell_row win k row w col c hk hw]
    rw [ih (win.set k _) (if 0 ≤ col ∧ col < (w : Int) then row.set col.toNat (some c) else row) (col + c.width)
      (by simp [hlt]) (by split <;> simp [hw])]
    simp [List.set_set]

theorem paint_skip (off : Int) (h : Nat) (win : Win) (pre : List PLine) : ∀ (i : Nat) (post : List PLine),
    ((i + pre.length : Nat) : Int) ≤ off → paint off h win i (pre ++ post) = paint off h win (i + pre.length) post := by
  induction pre with
  | nil => intro i post _; simp
  | cons l pre ih =>
    intro i post hle
    simp only [List.length_cons] at hle
    have c1 : (i : Int) < off := by omega
    simp only [List.cons_append, paint, c1, if_true]
    rw [ih (i + 1) post (by omega)]
    congr 1
    simp only [List.length_cons]; omega

theorem paint_fill (o w h : Nat) (rest : List PLine) : ∀ (i : Nat) (D : Win), i = o + D.length → D.length ≤ h →
    paint (o : Int) h (D ++ List.replicate (h - D.length) (List.replicate w Option.none)) i rest =
      D ++ (rest.take (h - D.length)).map (Pager.drawRow w) ++
        List.replicate (h - D.length - (rest.take (h - D.length)).length) (List.replicate w Option.none) := by
  induction rest with
  | nil => intro i D _ _; simp [paint]
  | cons l rest ih =>
    intro i D hi hD
    have c1 : ¬ ((i : Int) < (o : Int)) := by omega
    by_cases c2 : (i : Int) - (o : Int) ≥ (h : Int)
    · have hk : D.length = h := by omega
      simp [paint, c1, c2, hk]
    · have hk : D.length < h := by omega
      have hik : (i : Int) - (o : Int) = ((D.length : Nat) : Int) := by omega
      simp only [paint, c1, if_false, hik]
      have hget : (D ++ List.replicate (h - D.length) (List.replicate w (Option.none : Option Ch)))[D.length]? = some (List.replicate w Option.none) := by
        rw [List.getElem?_append_right (Nat.le_refl _)]
        have hh : h - D.length = (h - D.length - 1) + 1 := by omega
        rw [Nat.sub_self, hh, List.replicate_succ]; rfl
      rw [goRow_eq w D.length l _ (List.replicate w Option.none) 0 hget (by simp)]
      have hset : (D ++ List.replicate (h - D.length) (List.replicate w (Option.none : Option Ch))).set D.length (Pager.drawRow w l) =
          (D ++ [Pager.drawRow w l]) ++ List.replicate (h - (D ++ [Pager.drawRow w l]).length) (List.replicate w Option.none) := by
        rw [List.set_append_right _ _ (Nat.le_refl _)]
        have : h - D.length = (h - (D.length + 1)) + 1 := by omega
        simp only [Nat.sub_self, List.length_append, List.length_cons, List.length_nil, Nat.zero_add]
        rw [this, List.replicate_succ, List.set_cons_zero]
        simp
      have hd : Pager.drawRow w l = Pager.drawRow.go w (List.replicate w Option.none) 0 l := rfl
      rw [← hd, hset, ih (i + 1) (D ++ [Pager.drawRow w l]) (by simp; omega) (by simp; omega)]
      have : h - D.length = (h - (D.length + 1)) + 1 := by omega
      simp only [List.length_append, List.length_cons, List.length_nil, Nat.zero_add]
      rw [this, List.take_succ_cons]
      simp
      omega

theorem paint_blank (o w h : Nat) (lines : List PLine) (ho : o ≤ lines.length) :
    paint (o : Int) h (blank w h) 0 lines =
      ((lines.drop o).take h).map (Pager.drawRow w) ++
        List.replicate (h - ((lines.drop o).take h).length) (List.replicate w Option.none) := by
  have hsplit : lines = lines.take o ++ lines.drop o := (List.take_append_drop o lines).symm
  rw [hsplit, paint_skip (o : Int) h (blank w h) (lines.take o) 0 (lines.drop o) (by simp; omega)]
  have := paint_fill o w h (lines.drop o) (0 + (lines.take o).length) [] (by simp; omega) (by simp)
  simp only [List.nil_append, List.length_nil, Nat.sub_zero] at this
  rw [← hsplit]
  exact this

theorem lookup_append_some (a b : List (String × Int)) (k : String) (v : Int) (h : lookup a k = some v) :
    lookup (a ++ b) k = some v := by
  induction a with
  | nil => simp [lookup] at h
  | cons x a ih =>
    obtain ⟨k', v'⟩ := x
    simp only [List.cons_append, lookup] at h ⊢
    by_cases hk : k' = k
    · simpa [hk] using h
    · simp only [hk, if_false] at h ⊢; exact ih h

theorem pdraw6_run (R : Ro) (f : Nat) (m : M) :
    exec R pdraw6 f m = rangeE "v3" "v4" (exec R prow f) (m.lines.map .line) 0 m := by
  simp [pdraw6_eq, exec, collOf]

def DrawOK (lines : List PLine) (off wd : Int) (win : Win) : Res → Prop :=
  Ends (fun _ => True) fun m' => lookup m'.φ "d.Offset" = some off ∧ lookup m'.φ "d.width" = some wd ∧ m'.lines = lines ∧ m'.win = win

theorem pdraw6_ok (R : Ro) (f : Nat) (m : M) (off wd : Int) (hh : Nat)
    (h : PInv m.φ m.lines m.rows off hh m.win m) (ho : lookup m.φ "d.Offset" = some off) (hwd : lookup m.φ "d.width" = some wd) :
    DrawOK m.lines off wd (paint off hh m.win 0 m.lines) (exec R pdraw6 f m) := by
  have hl := prow_loop R f m.φ m.lines m.rows off hh m.lines m.win m 0 h
  obtain ⟨m', c, hr, _, hp⟩ := hl.elim
  rw [pdraw6_run, hr]
  exact ⟨trivial, hp.φ_eq ▸ ho, hp.φ_eq ▸ hwd, hp.lines_eq, hp.win_eq⟩

/-- The two clamping `if`s of `Draw` leave `Pager.clampOffset` in `d.Offset` and touch nothing else. -/
theorem pclamp (R : Ro) (f : Nat) (φ : List (String × Int)) (χ : List (String × Ch)) (lines : List PLine) (w h : Nat)
    (off : Int) (win0 : Win) (rest : List Stmt) (ho : lookup φ "d.Offset" = some off) :
    ∃ φ', exec R (seqOf (pdraw2 :: pdraw3 :: rest)) f ⟨φ, [("v2", (h : Int)), ("v1", (w : Int))], χ, [], lines, "", [], [], win0, []⟩ =
        exec R (seqOf rest) f ⟨φ', [("v2", (h : Int)), ("v1", (w : Int))], χ, [], lines, "", [], [], win0, []⟩ ∧
      lookup φ' "d.Offset" = some (Pager.clampOffset lines.length off h) ∧ lookup φ' "d.width" = lookup φ "d.width" := by
  have ho' := lookup_append_some φ consts _ _ ho
  simp only [consts] at ho'
  unfold Pager.clampOffset
  by_cases c1 : (lines.length : Int) - off < (h : Int)
  · by_cases c2 : (lines.length : Int) - (h : Int) < 0
    · exact ⟨("d.Offset", 0) :: ("d.Offset", (lines.length : Int) - (h : Int)) :: φ,
        by xs [pdraw2, pdraw3, ho', c1, c2], by simp [lookup, c1, c2], by simp [lookup]⟩
    · exact ⟨("d.Offset", (lines.length : Int) - (h : Int)) :: φ,
        by xs [pdraw2, pdraw3, ho', c1, c2], by simp [lookup, c1, c2], by simp [lookup]⟩
  · by_cases c2 : off < 0
    · exact ⟨("d.Offset", 0) :: φ, by xs [pdraw2, pdraw3, ho', c1, c2], by simp [lookup, c1, c2], by simp [lookup]⟩
    · exact ⟨φ, by xs [pdraw2, pdraw3, ho', c1, c2], by simp [c1, c2, ho], rfl⟩

theorem pdraw_rest (R : Ro) (f : Nat) (φ : List (String × Int)) (χ : List (String × Ch)) (lines : List PLine) (w h : Nat)
    (off wd : Int) (g : Ch) (win0 : Win) (hW : R.W = w) (hH : R.H = h)
    (ho : lookup φ "d.Offset" = some off) (hwd : lookup φ "d.width" = some wd)
    (hg : lookupC χ "d.Fill.Grapheme" = some g) (hdf : lookupC χ "defaultFill" = some fillCh) :
    DrawOK lines (Pager.clampOffset lines.length off h) wd (paint (Pager.clampOffset lines.length off h) h (blank w h) 0 lines)
      (exec R (seqOf [pdraw2, pdraw3, pdraw4, pdraw5, pdraw6]) f
        ⟨φ, [("v2", (h : Int)), ("v1", (w : Int))], χ, [], lines, "", [], [], win0, []⟩) := by
  obtain ⟨φ', he, ho', hwd'⟩ := pclamp R f φ χ lines w h off win0 [pdraw4, pdraw5, pdraw6] ho
  rw [he]
  have ho'' := lookup_append_some φ' consts _ _ ho'
  simp only [consts] at ho''
  cases hb : g.bytes.isEmpty <;>
  · xs [↓exec_seq_skip, pdraw4, pdraw5, hg, hdf, hb, hW, hH]
    refine pdraw6_ok R f _ _ wd h ?_ ?_ ?_
    · refine ⟨rfl, rfl, rfl, rfl, rfl, ?_, ?_⟩ <;> simp [lookup, consts, ho'']
    · exact ho'
    · exact hwd'.trans hwd

theorem pdrawParts_split : seqOf pdrawParts = .seq pdraw0 (.seq pdraw1 (seqOf [pdraw2, pdraw3, pdraw4, pdraw5, pdraw6])) := rfl

/-- The lines after the re-layout at the top of `Draw`. -/
def relaid (s : Pager.St) (w : Nat) : List PLine :=
  if (w : Int) ≠ s.width then Pager.layout true w s.text else s.lines

/-- `w, h := win.Size()` and the re-layout when the width has changed. -/
theorem pdraw01 (R : Ro) (w h : Nat) (hW : R.W = w) (hH : R.H = h) (hcall : R.call "d.Layout" = some (layoutCallee expB R.segs))
    (s : Pager.St) (fe : Bool) (ht : R.segs.flatten = s.text) (rest : Stmt) :
    ∃ φ1, exec R (.seq pdraw0 (.seq pdraw1 rest)) 0 (pagerM s w h fe) =
        exec R rest 0 ⟨φ1, [("v2", (h : Int)), ("v1", (w : Int))],
          [("d.Fill.Grapheme", if fe = true then ⟨[], 0⟩ else fillCh), ("defaultFill", fillCh)], [], relaid s w, "", [], [], blank w h, []⟩ ∧
      lookup φ1 "d.Offset" = some s.offset ∧ lookup φ1 "d.width" = some (w : Int) := by
  obtain ⟨text, lines, offset, width⟩ := s
  simp only at ht
  by_cases hw : (w : Int) = width
  · subst hw
    refine ⟨[("d.Offset", offset), ("d.width", (w : Int))], ?_, by simp [lookup], by simp [lookup]⟩
    xs [pdraw0, pdraw1, pagerM, m0, relaid, hW, hH]
  · obtain ⟨m', c, hr, rfl, g1, g2, g3, g4⟩ := (play_exec ⟨0, 0, R.segs, lineCalls expB, noFn⟩ rfl 0
      ⟨[("d.width", (w : Int)), ("d.Offset", offset), ("d.width", width)], [],
       [("d.Fill.Grapheme", if fe = true then ⟨[], 0⟩ else fillCh), ("defaultFill", fillCh)], [], lines, "", [], [], blank w h, []⟩
      (w : Int) rfl (by simp [lookup])).elim
    obtain ⟨φ', ρ', χ', ls', L', lv', C', sh', win', rows'⟩ := m'
    simp only [ht] at g1 g2 g3 g4
    subst g1 g2 g3 g4
    refine ⟨[("d.width", (w : Int)), ("d.Offset", offset), ("d.width", width)], ?_, by simp [lookup], by simp [lookup]⟩
    have hpl : expB.pagerLayout = seqOf playParts := rfl
    xs [pdraw0, pdraw1, pagerM, m0, relaid, hw, hW, hH, hcall, layoutCallee, hpl, hr]

theorem pdraw_key (segs : List (List Ch)) (s : Pager.St) (w h : Nat) (fe : Bool) (ht : segs.flatten = s.text) :
    DrawOK (relaid s w) (Pager.clampOffset (relaid s w).length s.offset h) (w : Int)
      (paint (Pager.clampOffset (relaid s w).length s.offset h) h (blank w h) 0 (relaid s w))
      (exec (pagerRo expB segs w h) (seqOf pdrawParts) 0 (pagerM s w h fe)) := by
  obtain ⟨φ1, he, h1, h2⟩ := pdraw01 (pagerRo expB segs w h) w h rfl rfl rfl s fe ht (seqOf [pdraw2, pdraw3, pdraw4, pdraw5, pdraw6])
  rw [pdrawParts_split, he]
  exact pdraw_rest _ 0 φ1 _ _ w h s.offset w (if fe = true then ⟨[], 0⟩ else fillCh) _ rfl rfl h1 h2 (by simp [lookupC]) (by simp [lookupC])

/-- `Draw` executed from its body (with the call of `Layout`'s body) IS `Pager.draw`: the new state and the window. -/
theorem pdraw_run (segs : List (List Ch)) (s : Pager.St) (w h : Nat) (fe : Bool) (ht : segs.flatten = s.text) :
    runPager expB expB.pagerDraw segs s w h fe = some (Pager.draw true s w h) := by
  have hk := pdraw_key segs s w h fe ht
  unfold runPager
  have he : expB.pagerDraw = seqOf pdrawParts := rfl
  rw [he]
  obtain ⟨m', c, hr, _, g1, g2, g3, g4⟩ := hk.elim
  rw [hr]
  obtain ⟨hc0, hc1⟩ := Lemmas.Pager.clamp_bounds (relaid s w).length s.offset h
  have hcast : Pager.clampOffset (relaid s w).length s.offset h = ((Pager.clampOffset (relaid s w).length s.offset h).toNat : Int) := by omega
  have hp := paint_blank (Pager.clampOffset (relaid s w).length s.offset h).toNat w h (relaid s w) (by omega)
  rw [← hcast] at hp
  simp only [pagerSt, g1, g2, g3, g4, Option.map_some, hp, ht]
  obtain ⟨text, lines, offset, width⟩ := s
  by_cases hw : (w : Int) = width
  · subst hw; simp [Pager.draw, relaid]
  · simp [Pager.draw, relaid, hw]

end VaxisModel.Lemmas.WidExec
