import Lean.Meta.Tactic.Simp.RegisterCommand

/-! The simp set that runs statement trees through `Model/WidExec.lean`: the equations of `Lemmas/WidExecEq.lean` and the
    definitions the runs unfold. -/
register_simp_attr wid_exec
