import VaxisModel.Model.WidExec
import VaxisModel.Lemmas.WidExecAttr
/-! What `WidExec.atom` does on each line shape of the bodies of widgets/list, pager and scrollbar — the equations of its
    `match`, stated once (most by `rfl`) so that a run rewrites with them instead of unfolding the whole `match` for every
    statement.  Two shapes of an assignment `x = e` coincide with lines about slices unless `x` is another name: `e` a call (`append`
    to `d.characters` / `d.lines`) and `e` a variable (`d.items = y`). -/
namespace VaxisModel.Lemmas.WidExec
open VaxisModel.Model VaxisModel.Model.GoSyn VaxisModel.Model.WidExec
open VaxisModel.Model.DynExec (Stmt Ctl Err)

variable {R : Ro} {m : M} {d : Nat} {a b c e : Expr} {x y : String}

@[wid_exec] theorem atom_continue : atom R m ⟨d, .continueS, a, b⟩ = .ok (m, .cont) := rfl
@[wid_exec] theorem atom_return : atom R m ⟨d, .returnS, .none, b⟩ = .ok (m, .ret []) := rfl
@[wid_exec] theorem atom_return_var : atom R m ⟨d, .returnS, .var x, b⟩ =
    match look m x with
    | some v => .ok (m, .ret [v])
    | Option.none => .error (.stuck "return") := rfl
@[wid_exec] theorem atom_return_list : atom R m ⟨d, .returnS, .arg (.call (.lit "List{}")) (.pair (.var "items") (.var y)), b⟩ =
    match look m ("#" ++ y) with
    | some n => .ok ({ m with φ := [("d.index", 0), ("d.offset", 0), ("#d.items", n)] }, .ret [])
    | Option.none => .error (.stuck "items") := rfl
@[wid_exec] theorem atom_var : atom R m ⟨d, .varS, .var x, b⟩ = ok (WidExec.bind m x 0) := rfl
@[wid_exec] theorem atom_size : atom R m ⟨d, .define, .pair (.var x) (.var y), .call (.var "v0.Size")⟩ =
    ok (WidExec.bind (WidExec.bind m x (R.W : Int)) y (R.H : Int)) := rfl
@[wid_exec] theorem atom_call (fn : String) : atom R m ⟨d, .exprS, .call (.var fn), b⟩ =
    match R.call fn with
    | Option.none => .error (.stuck ("call " ++ fn))
    | some g =>
      match g { m with ρ := [], ls := [], lv := "", cur := [], alias := [] } with
      | .error e => .error e
      | .ok (m', _) => ok { m' with ρ := m.ρ, χ := m.χ, ls := m.ls, lv := m.lv, cur := m.cur, alias := m.alias } := rfl
@[wid_exec] theorem atom_fill : atom R m ⟨d, .exprS, .arg (.call (.var "v0.Fill")) a, b⟩ = ok { m with win := blank R.W R.H } := rfl
@[wid_exec] theorem atom_setCell : atom R m ⟨d, .exprS, .arg (.arg (.arg (.call (.var "v0.SetCell")) a) c) (.var x), b⟩ =
    match evI R.fn2 m a, evI R.fn2 m c, lookupC m.χ x with
    | some cv, some rv, some ch => ok { m with win := setCell m.win cv rv ch }
    | _, _, _ => .error (.stuck "SetCell") := rfl
@[wid_exec] theorem atom_println (s t : Expr) :
    atom R m ⟨d, .exprS, .arg (.arg (.call (.var "v0.Println")) a)
      (.arg (.arg (.call (.lit "vaxis.Segment{}")) (.pair (.var "Style") s)) (.pair (.var "Text") t)), b⟩ =
    match evI R.fn2 m a, evI R.fn2 m t, evI R.fn2 m s with
    | some iv, some item, some st =>
      ok { m with rows := if 0 ≤ iv ∧ iv < (R.H : Int) then m.rows ++ [⟨iv.toNat, item, st != 0⟩] else m.rows }
    | _, _, _ => .error (.stuck "Println") := rfl
@[wid_exec] theorem atom_append : atom R m ⟨d, .exprS, .arg (.call (.var "v0.append")) (.var x), b⟩ =
    if "v0.append" = m.lv ++ ".append" then
      match lookupC m.χ x, R.call "line.append" with
      | some c, some g =>
        match g { m with ρ := [], χ := [("v0", c)], ls := [] } with
        | .error e => .error e
        | .ok (m', _) => ok { m' with ρ := m.ρ, χ := m.χ, ls := m.ls }
      | Option.none, _ => .error (.stuck "append")
      | _, Option.none => .error (.stuck "call line.append")
    else .error (.stuck "call") := rfl
@[wid_exec] theorem atom_characters :
    atom R m ⟨d, .assign, .var "d.characters", .arg (.arg (.call (.var "append")) (.var "d.characters")) (.var y)⟩ =
    match lookupC m.χ y with
    | some c => ok { m with cur := m.cur ++ [c], lines := m.alias.foldl (fun ls i => ls.set i (m.cur ++ [c])) m.lines }
    | Option.none => .error (.stuck "append") := rfl
@[wid_exec] theorem atom_lines_nil : atom R m ⟨d, .assign, .var "d.lines", .lit "[]*line{}"⟩ = ok { m with lines := [], alias := [] } := rfl
@[wid_exec] theorem atom_lines_append :
    atom R m ⟨d, .assign, .var "d.lines", .arg (.arg (.call (.var "append")) (.var "d.lines")) (.var x)⟩ =
    if x = m.lv then ok { m with lines := m.lines ++ [m.cur], alias := m.alias ++ [m.lines.length] } else .error (.stuck "append to lines") := rfl
@[wid_exec] theorem atom_newLine : atom R m ⟨d, .define, .var x, .un "&" (.lit "line{}")⟩ = ok { m with lv := x, cur := [], alias := [] } := rfl
@[wid_exec] theorem atom_freshLine : atom R m ⟨d, .assign, .var "v0", .un "&" (.lit "line{}")⟩ =
    if "v0" = m.lv then ok { m with cur := [], alias := [] } else .error (.stuck "line pointer") := rfl
@[wid_exec] theorem atom_items : atom R m ⟨d, .assign, .var "d.items", .var y⟩ =
    match look m ("#" ++ y) with
    | some n => ok (store m "#d.items" n)
    | Option.none => .error (.stuck "items") := rfl
@[wid_exec] theorem atom_cell (e' : Expr) :
    atom R m ⟨d, .define, .var x, .arg (.arg (.call (.lit "vaxis.Cell{}")) (.pair (.var "Character") (.var y))) e'⟩ =
    match lookupC m.χ y with
    | some c => ok (bindC m x c)
    | Option.none => .error (.stuck "cell") := rfl
@[wid_exec] theorem atom_define_int (n : Nat) : atom R m ⟨d, .define, .var x, .int n⟩ = ok (WidExec.bind m x n) := rfl
@[wid_exec] theorem atom_define_bin (op : String) : atom R m ⟨d, .define, .var x, .bin op a b⟩ =
    match evI R.fn2 m (.bin op a b) with
    | some v => ok (WidExec.bind m x v)
    | Option.none => .error (.stuck "define") := rfl
@[wid_exec] theorem atom_define_style0 : atom R m ⟨d, .define, .var x, .lit "vaxis.Style{}"⟩ = ok (WidExec.bind m x 0) := rfl
@[wid_exec] theorem atom_define_style : atom R m ⟨d, .define, .var x, .arg (.call (.lit "vaxis.Style{}")) (.pair (.var "Attribute") a)⟩ =
    match evI R.fn2 m a with
    | some v => ok (WidExec.bind m x v)
    | Option.none => .error (.stuck "define") := rfl
@[wid_exec] theorem atom_addAssign : atom R m ⟨d, .addAssign, .var x, e⟩ =
    match look m x, evI R.fn2 m e with
    | some cur, some v => ok (store m x (cur + v))
    | _, _ => .error (.stuck "+=") := rfl
@[wid_exec] theorem atom_subAssign : atom R m ⟨d, .subAssign, .var x, e⟩ =
    match look m x, evI R.fn2 m e with
    | some cur, some v => ok (store m x (cur - v))
    | _, _ => .error (.stuck "-=") := rfl
@[wid_exec] theorem atom_assign_int (n : Nat) : atom R m ⟨d, .assign, .var x, .int n⟩ = ok (store m x n) := by
  unfold atom; split <;> (try simp_all [evI]) <;> rfl
@[wid_exec] theorem atom_assign_bin (op : String) : atom R m ⟨d, .assign, .var x, .bin op a b⟩ =
    match evI R.fn2 m (.bin op a b) with
    | some v => ok (store m x v)
    | Option.none => .error (.stuck "assign") := by
  unfold atom; split <;> (try simp_all) <;> rfl
@[wid_exec] theorem atom_assign_call (h1 : x ≠ "d.characters") (h2 : x ≠ "d.lines") (fn : String) :
    atom R m ⟨d, .assign, .var x, .arg (.arg (.call (.var fn)) a) b⟩ =
    match evI R.fn2 m (.arg (.arg (.call (.var fn)) a) b) with
    | some v => ok (store m x v)
    | Option.none => .error (.stuck "assign") := by
  unfold atom; split <;> (try simp_all) <;> rfl
@[wid_exec] theorem atom_assign_var (h3 : x ≠ "d.items") : atom R m ⟨d, .assign, .var x, .var y⟩ =
    match lookupC m.χ y with
    | some c => ok (bindC m x c)
    | Option.none =>
      match look m y with
      | some v => ok (store m x v)
      | Option.none => .error (.stuck "assign") := by
  unfold atom; split <;> (try simp_all) <;> rfl
end VaxisModel.Lemmas.WidExec
