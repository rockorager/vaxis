import VaxisModel.Lemmas.WidExec
import VaxisModel.Model.SimpleList

/-! widgets/list `List` (`min`, `max`, `New`, `Index`, the navigation methods, `Draw`), widgets/scrollbar `Model.Draw`,
    and widgets/pager `Layout` on its own, `ScrollDown`, `ScrollUp`: the interpreted bodies are the models
    (the `*_run` theorems; the pager's `Draw` is in `Lemmas/WidExec.lean`). -/

namespace VaxisModel.Lemmas.WidExec
open VaxisModel.Model VaxisModel.Model.GoSyn VaxisModel.Model.WidExec
open VaxisModel.Model.DynExec (Stmt Ctl Err)
open VaxisModel.Model.Pager (Ch)
open VaxisModel.Model.SimpleList (Row)
open VaxisModel.Lemmas.WidTrees
open VaxisModel.Lemmas.DynTrees (seqOf)

/-- The index expressions of list.go, written out (`Props.C19Wid.list_rhs_is_gen`: the regenerated `SimpleList.gen`
    equals them). -/
def rhsFixed : SimpleList.Rhs where
  down n i _ := max 0 (min (n - 1) (i + 1))
  up _ i _ := max 0 (i - 1)
  home _ _ _ := 0
  «end» n _ _ := max 0 (n - 1)
  pageDown n i h := max 0 (min (n - 1) (i + h))
  pageUp _ i h := max 0 (i - h)
  setItems n i _ := max 0 (min (n - 1) i)
  drawEmptyGuard := true

theorem lmin_run (a b : Int) : runFun2 (seqOf lminParts) a b = .ok (some (min a b)) := by
  by_cases h : a < b
  · have : min a b = a := by omega
    xs [runFun2, lminParts, lmin0, lmin1, m0, h, this]
  · have : min a b = b := by omega
    xs [runFun2, lminParts, lmin0, lmin1, m0, h, this]

theorem lmax_run (a b : Int) : runFun2 (seqOf lmaxParts) a b = .ok (some (max a b)) := by
  by_cases h : a > b
  · have : max a b = a := by omega
    xs [runFun2, lmaxParts, lmax0, lmax1, m0, h, this]
  · have : max a b = b := by omega
    xs [runFun2, lmaxParts, lmax0, lmax1, m0, h, this]

@[simp] theorem fun2_min (a b : Int) : fun2 (seqOf lminParts) a b = some (min a b) := by simp [fun2, lmin_run]
@[simp] theorem fun2_max (a b : Int) : fun2 (seqOf lmaxParts) a b = some (max a b) := by simp [fun2, lmax_run]

@[simp] theorem listRo_H (B : Bodies) (h : Nat) : (listRo B h).H = h := rfl
@[simp] theorem listRo_W (B : Bodies) (h : Nat) : (listRo B h).W = 0 := rfl
@[simp] theorem listRo_min (h : Nat) : (listRo expB h).fn2 "min" = some (fun2 (seqOf lminParts)) := by simp [listRo, listFns, expB]
@[simp] theorem listRo_max (h : Nat) : (listRo expB h).fn2 "max" = some (fun2 (seqOf lmaxParts)) := by simp [listRo, listFns, expB]

theorem lnew_run (k : Nat) : runListNew (seqOf lnewParts) k = some (SimpleList.new k) := by
  xs [runListNew, lnewParts, lnew0, listSt, m0, SimpleList.new]

theorem lindex_run (s : SimpleList.St) : runListIndex (seqOf lindexParts) s = some s.index := by
  xs [runListIndex, lindexParts, lindex0, listM, m0]

/-! `h`, `k`: the window height and the new item count, read by the navigation methods that have them. -/

theorem ldown_run (s : SimpleList.St) (h k : Nat) : runList expB (seqOf ldownParts) s h k = some (.ok (SimpleList.nav rhsFixed s .down, [])) := by
  xs [runList, ldownParts, ldown0, listM, listSt, m0, SimpleList.nav, rhsFixed]
theorem lup_run (s : SimpleList.St) (h k : Nat) : runList expB (seqOf lupParts) s h k = some (.ok (SimpleList.nav rhsFixed s .up, [])) := by
  xs [runList, lupParts, lup0, listM, listSt, m0, SimpleList.nav, rhsFixed]
theorem lhome_run (s : SimpleList.St) (h k : Nat) : runList expB (seqOf lhomeParts) s h k = some (.ok (SimpleList.nav rhsFixed s .home, [])) := by
  xs [runList, lhomeParts, lhome0, listM, listSt, m0, SimpleList.nav, rhsFixed]
theorem lend_run (s : SimpleList.St) (h k : Nat) : runList expB (seqOf lendParts) s h k = some (.ok (SimpleList.nav rhsFixed s .«end», [])) := by
  xs [runList, lendParts, lend0, listM, listSt, m0, SimpleList.nav, rhsFixed]
theorem lpgdn_run (s : SimpleList.St) (h k : Nat) : runList expB (seqOf lpgdnParts) s h k = some (.ok (SimpleList.nav rhsFixed s (.pageDown h), [])) := by
  xs [runList, lpgdnParts, lpgdn0, lpgdn1, listM, listSt, m0, SimpleList.nav, rhsFixed]
theorem lpgup_run (s : SimpleList.St) (h k : Nat) : runList expB (seqOf lpgupParts) s h k = some (.ok (SimpleList.nav rhsFixed s (.pageUp h), [])) := by
  xs [runList, lpgupParts, lpgup0, lpgup1, listM, listSt, m0, SimpleList.nav, rhsFixed]
theorem lset_run (s : SimpleList.St) (h k : Nat) : runList expB (seqOf lsetParts) s h k = some (.ok (SimpleList.nav rhsFixed s (.setItems k), [])) := by
  xs [runList, lsetParts, lset0, lset1, listM, listSt, m0, SimpleList.nav, rhsFixed]

/-- The body of the loop over `m.items[m.offset:]`. -/
def lbody : Stmt :=
    (.seq (.atom ⟨1, .varS, (.var "v7"), (.lit "vaxis.Style")⟩)
    (.seq (.ite (.bin "==" (.var "v5") (.var "v4"))
      (.seq (.atom ⟨2, .assign, (.var "v7"), (.var "v3")⟩)
      .skip)
      (.seq (.atom ⟨2, .assign, (.var "v7"), (.var "v2")⟩)
      .skip))
    (.seq (.atom ⟨1, .exprS, (.arg (.arg (.call (.var "v0.Println")) (.var "v5")) (.arg (.arg (.call (.lit "vaxis.Segment{}")) (.pair (.var "Style") (.var "v7"))) (.pair (.var "Text") (.var "v6")))), .none⟩)
    .skip)))

theorem ldraw6_eq : ldraw6 = .rangeOver "v5" "v6" (.bin "[:]" (.var "d.items") (.pair (.var "d.offset") .none)) lbody := rfl

/-- What the loop of `List.Draw` keeps: the fields, the rows printed so far, and the three locals the body reads. -/
def LInv (φ : List (String × Int)) (sel : Int) (rows : List Row) (m : M) : Prop :=
  m.φ = φ ∧ m.rows = rows ∧ m.χ = [] ∧ lookup (m.ρ ++ (φ ++ consts)) "v4" = some sel ∧
  lookup (m.ρ ++ (φ ++ consts)) "v3" = some 1 ∧ lookup (m.ρ ++ (φ ++ consts)) "v2" = some 0

theorem LInv.φ_eq {φ sel rows m} (h : LInv φ sel rows m) : m.φ = φ := h.1
theorem LInv.rows_eq {φ sel rows m} (h : LInv φ sel rows m) : m.rows = rows := h.2.1

/-- The row printed for the item shown in window row `j` (item `off + j`; `sel` = the selected row, relative to `off`). -/
def mkRow (off sel : Int) (j : Nat) : Row := { row := j, item := off + (j : Int), sel := ((j : Int) == sel) }

/-- One round of the loop of `List.Draw`: the row is recorded iff it lies inside the window (`Println` draws nothing below it). -/
theorem lbody_step (R : Ro) (f : Nat) (φ : List (String × Int)) (off sel : Int) (rows : List Row) (m : M) (j : Nat)
    (h : LInv φ sel rows m) :
    Ends (· = .norm) (LInv φ sel (rows ++ if j < R.H then [mkRow off sel j] else []))
      (exec R lbody f (bindE (WidExec.bind m "v5" (j : Int)) "v6" (.int (off + (j : Int))))) := by
  obtain ⟨φ', ρ, χ, ls, L, lv, C, sh, win', rows'⟩ := m
  obtain ⟨h1, h2, h3, h4, h5, h6⟩ := h
  simp only at h1 h2 h3 h4 h5 h6
  subst h1 h2 h3
  simp only [consts] at h4 h5 h6
  have hj' : (j : Int) < (R.H : Int) ↔ j < R.H := by omega
  by_cases hs : (j : Int) = sel
  · subst hs
    by_cases hj : j < R.H <;> xs [lbody, h4, h5, h6, hj, hj', LInv, mkRow]
  · by_cases hj : j < R.H <;> xs [lbody, h4, h5, h6, hs, hj, hj', LInv, mkRow]

theorem foldl_snoc_if {α β : Type} (p : α → Bool) (f : α → β) : ∀ (l : List α) (acc : List β),
    l.foldl (fun acc a => acc ++ if p a then [f a] else []) acc = acc ++ (l.filter p).map f
  | [], acc => by simp
  | a :: l, acc => by
    rw [List.foldl_cons, foldl_snoc_if p f l, List.filter_cons]
    cases p a <;> simp

theorem lbody_loop (R : Ro) (f : Nat) (φ : List (String × Int)) (off sel : Int) (k : Nat) (m : M) (h : LInv φ sel [] m) :
    Ends (· = .norm) (LInv φ sel (((List.range k).filter (· < R.H)).map (mkRow off sel)))
      (rangeE "v5" "v6" (exec R lbody f) ((List.range k).map fun (j : Nat) => Elem.int (off + (j : Int))) 0 m) := by
  have := rangeE_foldl (fun _ => Or.inl) (fun (j : Nat) => Elem.int (off + (j : Int))) (LInv φ sel)
    (fun rows j => rows ++ if decide (j < R.H) then [mkRow off sel j] else []) (List.range k) 0 [] m
    (fun n j rows m hn h => by
      obtain rfl : n = j := by
        have hlt : n < k := by simpa using (List.getElem?_eq_some_iff.mp hn).1
        rw [List.getElem?_range hlt] at hn; exact Option.some.inj hn
      simpa using lbody_step R f φ off sel rows m n h) h
  rwa [foldl_snoc_if, List.nil_append] at this

theorem range'_filter_lt (H : Nat) : ∀ (k i : Nat), (List.range' i k).filter (· < H) = List.range' i (min (i + k) H - i) := by
  intro k
  induction k with
  | zero => intro i; have : min i H - i = 0 := by omega
            simp [this]
  | succ k ih =>
    intro i
    rw [List.range'_succ, List.filter_cons]
    by_cases hi : i < H
    · simp only [hi, decide_true, if_true]
      rw [ih (i + 1)]
      have : min (i + (k + 1)) H - i = (min (i + 1 + k) H - (i + 1)) + 1 := by omega
      rw [this, List.range'_succ]
    · simp only [hi, decide_false]
      rw [ih (i + 1)]
      have h1 : min (i + 1 + k) H - (i + 1) = 0 := by omega
      have h2 : min (i + (k + 1)) H - i = 0 := by omega
      simp [h1, h2]

/-- What the loop of `List.Draw` leaves (or the panic of the slice expression). -/
def LDraw (φ : List (String × Int)) (off sel : Int) (n H : Nat) : Res → Prop
  | .ok (m', _) => 0 ≤ off ∧ off ≤ (n : Int) ∧ m'.φ = φ ∧ m'.rows = (List.range (min (n - off.toNat) H)).map (mkRow off sel)
  | .error .panic => ¬ (0 ≤ off ∧ off ≤ (n : Int))
  | .error _ => False

theorem hash_items : ("#" ++ "d.items" : String) = "#d.items" := by decide

theorem ldraw6_ok (R : Ro) (f : Nat) (m : M) (off sel : Int) (n : Nat)
    (hInv : LInv m.φ sel [] m) (hoff : lookup (m.ρ ++ (m.φ ++ consts)) "d.offset" = some off)
    (hn : lookup (m.ρ ++ (m.φ ++ consts)) "#d.items" = some (n : Int)) :
    LDraw m.φ off sel n R.H (exec R ldraw6 f m) := by
  simp only [consts] at hoff hn
  by_cases hb : 0 ≤ off ∧ off ≤ (n : Int)
  · have hk : ((n : Int) - off).toNat = n - off.toNat := by omega
    have hl := lbody_loop R f m.φ off sel (n - off.toNat) m hInv
    obtain ⟨m', c, hr, _, hm⟩ := hl.elim
    simp only [ldraw6_eq, exec, collOf, evI, look, consts, List.append_assoc, hash_items, hoff, hn, hb, and_self, if_true, hk, hr]
    refine ⟨hb.1, hb.2, hm.φ_eq, ?_⟩
    rw [hm.rows_eq, List.range_eq_range', range'_filter_lt, List.range_eq_range']
    simp
  · simp only [ldraw6_eq, exec, collOf, evI, look, consts, List.append_assoc, hash_items, hoff, hn, hb, if_false]
    exact hb

/-- `Draw` up to its loop: the viewport follows the selection (`SimpleList.follow`); the two styles and
    `v4 = index - offset` are set. -/
theorem ldraw_pre (s : SimpleList.St) (h : Nat) (hn : s.n ≠ 0) :
    ∃ φ, exec (listRo expB h) (seqOf ldrawParts) 0 (listM s 0) =
        exec (listRo expB h) ldraw6 0
          ⟨φ, [("v4", s.index - SimpleList.follow s h), ("v3", 1), ("v2", 0), ("v1", (h : Int)), ("#v0", 0)], [], [], [], "", [], [], [], []⟩ ∧
      lookup φ "d.index" = some s.index ∧ lookup φ "d.offset" = some (SimpleList.follow s h) ∧
      lookup φ "#d.items" = some (s.n : Int) := by
  obtain ⟨idx, off, n⟩ := s
  simp only at hn
  have hn' : ¬ ((n : Int) = 0) := by omega
  unfold SimpleList.follow
  by_cases c1 : idx ≥ off + (h : Int)
  · exact ⟨[("d.offset", idx - (h : Int) + 1), ("d.index", idx), ("d.offset", off), ("#d.items", (n : Int))],
      by xs [↓exec_seq_skip, ldrawParts, ldraw0, ldraw1, ldraw2, ldraw3, ldraw4, ldraw5, listM, m0, hn, hn', c1],
      by simp [lookup], by simp [lookup, c1], by simp [lookup]⟩
  · by_cases c2 : idx < off
    · exact ⟨[("d.offset", idx), ("d.index", idx), ("d.offset", off), ("#d.items", (n : Int))],
        by xs [↓exec_seq_skip, ldrawParts, ldraw0, ldraw1, ldraw2, ldraw3, ldraw4, ldraw5, listM, m0, hn, hn', c1, c2],
        by simp [lookup], by simp [lookup, c1, c2], by simp [lookup]⟩
    · exact ⟨[("d.index", idx), ("d.offset", off), ("#d.items", (n : Int))],
        by xs [↓exec_seq_skip, ldrawParts, ldraw0, ldraw1, ldraw2, ldraw3, ldraw4, ldraw5, listM, m0, hn, hn', c1, c2],
        by simp [lookup], by simp [lookup, c1, c2], by simp [lookup]⟩

/-- What the harness sees of a `Draw`: the new state and the rows, or "panicked". -/
def obs (r : Except SimpleList.Panic (SimpleList.St × List Row)) : Except Unit (SimpleList.St × List Row) :=
  match r with
  | .ok x => .ok x
  | .error _ => .error ()

/-- `List.Draw` executed from its body IS `SimpleList.draw` (same state, same rows, panic iff the model panics). -/
theorem ldraw_run (s : SimpleList.St) (h : Nat) :
    runList expB (seqOf ldrawParts) s h 0 = some (obs (SimpleList.draw rhsFixed s h)) := by
  by_cases hn : s.n = 0
  · obtain ⟨idx, off, n⟩ := s
    simp only at hn
    subst hn
    xs [runList, ldrawParts, ldraw0, ldraw1, listM, listSt, m0, SimpleList.draw, rhsFixed, obs]
  · obtain ⟨φ, he, h1, h2, h3⟩ := ldraw_pre s h hn
    have h2' := lookup_append_some φ consts _ _ h2
    have h3' := lookup_append_some φ consts _ _ h3
    have hk := ldraw6_ok (listRo expB h) 0
      ⟨φ, [("v4", s.index - SimpleList.follow s h), ("v3", 1), ("v2", 0), ("v1", (h : Int)), ("#v0", 0)], [], [], [], "", [], [], [], []⟩
      (SimpleList.follow s h) (s.index - SimpleList.follow s h) s.n
      (by refine ⟨rfl, rfl, rfl, ?_, ?_, ?_⟩ <;> simp [lookup])
      (by simpa [lookup] using h2') (by simpa [lookup] using h3')
    unfold runList
    rw [he]
    revert hk
    generalize exec (listRo expB h) ldraw6 0 _ = r
    intro hk
    have hg : (rhsFixed.drawEmptyGuard && s.n == 0) = false := by simp [rhsFixed, hn]
    match r, hk with
    | .ok (m', c), ⟨a, b, g0, g4⟩ =>
      simp only [listSt, g0, h1, h2, h3, g4, Option.map_some, SimpleList.draw, hg, a, b, and_self, if_true, obs, Int.toNat_natCast]
      rfl
    | .error .panic, hb =>
      have hb' : ¬ (0 ≤ SimpleList.follow s h ∧ SimpleList.follow s h ≤ (s.n : Int)) := hb
      simp [SimpleList.draw, hg, hb', obs]
    | .error (.stuck _), hf => exact hf.elim
    | .error .oof, hf => exact hf.elim

def bbody : Stmt :=
    (.seq (.atom ⟨1, .define, (.var "v5"), (.arg (.arg (.call (.lit "vaxis.Cell{}")) (.pair (.var "Character") (.var "d.Character"))) (.pair (.var "Style") (.var "d.Style")))⟩)
    (.seq (.atom ⟨1, .exprS, (.arg (.arg (.arg (.call (.var "v0.SetCell")) (.int 0)) (.bin "+" (.var "v3") (.var "v4"))) (.var "v5")), .none⟩)
    .skip))

def bpost : Stmt := (.seq (.atom ⟨2, .addAssign, (.var "v4"), (.int 1)⟩) .skip)

theorem bdraw8_eq : bdraw8 = .loop (.bin "<" (.var "v4") (.var "v2")) bbody bpost := rfl

def rowOf (w : Nat) (c : Ch) (b : Bool) : List (Option Ch) :=
  if b then (List.replicate w Option.none).set 0 (some c) else List.replicate w Option.none

/-- What the loop of the scrollbar's `Draw` keeps after `i` rounds: the locals, the bar character, and a window of `h` rows
    of which exactly the rows `top ≤ r < top + i` are marked. -/
def BInv (top barH : Int) (c : Ch) (w h : Nat) (i : Int) (m : M) : Prop :=
  lookup (m.ρ ++ (m.φ ++ consts)) "v4" = some i ∧ lookup (m.ρ ++ (m.φ ++ consts)) "v2" = some barH ∧
  lookup (m.ρ ++ (m.φ ++ consts)) "v3" = some top ∧ lookupC m.χ "d.Character" = some c ∧
  m.win.length = h ∧ ∀ r : Nat, r < h → m.win[r]? = some (rowOf w c (decide (top ≤ (r : Int) ∧ (r : Int) < top + i)))

theorem BInv.win {top barH : Int} {c : Ch} {w h : Nat} {i : Int} {m : M} (hi : BInv top barH c w h i m) :
    m.win.length = h ∧ ∀ r : Nat, r < h → m.win[r]? = some (rowOf w c (decide (top ≤ (r : Int) ∧ (r : Int) < top + i))) := hi.2.2.2.2

theorem setCell_mark (win : Win) (w h : Nat) (c : Ch) (top i : Int) (hlen : win.length = h)
    (hrows : ∀ r : Nat, r < h → win[r]? = some (rowOf w c (decide (top ≤ (r : Int) ∧ (r : Int) < top + i)))) (hi : 0 ≤ i) :
    (setCell win 0 (top + i) c).length = h ∧
    ∀ r : Nat, r < h → (setCell win 0 (top + i) c)[r]? = some (rowOf w c (decide (top ≤ (r : Int) ∧ (r : Int) < top + (i + 1)))) := by
  unfold setCell
  by_cases h0 : 0 ≤ top + i
  · by_cases h1 : (top + i).toNat < h
    · have hr := hrows (top + i).toNat h1
      simp only [Int.le_refl, h0, and_self, if_true, hr, Int.toNat_zero]
      refine ⟨by simpa using hlen, ?_⟩
      intro r hrh
      by_cases hrr : r = (top + i).toNat
      · subst hrr
        have e1 : (decide (top ≤ ((top + i).toNat : Int) ∧ ((top + i).toNat : Int) < top + i)) = false := by
          simp; omega
        have e2 : (decide (top ≤ ((top + i).toNat : Int) ∧ ((top + i).toNat : Int) < top + (i + 1))) = true := by
          simp; omega
        rw [List.getElem?_set_self (by omega), e1, e2]
        simp [rowOf]
      · rw [List.getElem?_set_ne (Ne.symm hrr), hrows r hrh]
        congr 2
        simp only [decide_eq_decide]
        omega
    · have hnone : win[(top + i).toNat]? = Option.none := by
        rw [List.getElem?_eq_none]; omega
      simp only [Int.le_refl, h0, and_self, if_true, hnone]
      refine ⟨hlen, ?_⟩
      intro r hrh
      rw [hrows r hrh]
      congr 2
      simp only [decide_eq_decide]
      omega
  · simp only [h0, and_false, if_false]
    refine ⟨hlen, ?_⟩
    intro r hrh
    rw [hrows r hrh]
    congr 2
    simp only [decide_eq_decide]
    omega

/-- The scrollbar's loop from round `i` on, `k` rounds to go; every round and the last test use one unit of `fuel`. -/
theorem bloop (R : Ro) (top barH : Int) (c : Ch) (w h : Nat) : ∀ (k fuel : Nat) (i : Int) (m : M),
    (barH - i).toNat = k → 0 ≤ i → i ≤ barH → k < fuel → BInv top barH c w h i m →
    Ends (· = .norm) (BInv top barH c w h barH)
      (loopN (fun m => evB R.fn2 m (.bin "<" (.var "v4") (.var "v2"))) (exec R bbody) (exec R bpost) fuel m) := by
  intro k
  induction k with
  | zero =>
    intro fuel i m hk hi0 hib hf hInv
    obtain ⟨fuel', rfl⟩ : ∃ f', fuel = f' + 1 := ⟨fuel - 1, by omega⟩
    have hib' : i = barH := by omega
    subst hib'
    obtain ⟨h1, h2, h3, h4, h5, h6⟩ := hInv
    have hc : evB R.fn2 m (.bin "<" (.var "v4") (.var "v2")) = some false := by
      simp only [consts] at h1 h2
      simp [evB, evI, look, consts, h1, h2]
    simp only [loopN, hc]
    exact ⟨rfl, h1, h2, h3, h4, h5, h6⟩
  | succ k ih =>
    intro fuel i m hk hi0 hib hf hInv
    obtain ⟨fuel', rfl⟩ : ∃ f', fuel = f' + 1 := ⟨fuel - 1, by omega⟩
    have hlt : i < barH := by omega
    obtain ⟨φ', ρ, χ, ls, L, lv, C, sh, win', rows'⟩ := m
    obtain ⟨h1, h2, h3, h4, h5, h6⟩ := hInv
    simp only [consts] at h1 h2 h3
    simp only at h4 h5 h6
    have hm := setCell_mark win' w h c top i h5 h6 hi0
    have hcond : evB R.fn2 ⟨φ', ρ, χ, ls, L, lv, C, sh, win', rows'⟩ (.bin "<" (.var "v4") (.var "v2")) = some true := by
      simp [evB, evI, look, consts, h1, h2, hlt]
    have hbody : exec R bbody fuel' ⟨φ', ρ, χ, ls, L, lv, C, sh, win', rows'⟩ =
        .ok (⟨φ', ("v5.Width", c.width) :: ρ, ("v5", c) :: ("v5.Grapheme", c) :: χ, ls, L, lv, C, sh, setCell win' 0 (top + i) c, rows'⟩, .norm) := by
      xs [bbody, h1, h2, h3, h4]
    have hpost : exec R bpost fuel' ⟨φ', ("v5.Width", c.width) :: ρ, ("v5", c) :: ("v5.Grapheme", c) :: χ, ls, L, lv, C, sh, setCell win' 0 (top + i) c, rows'⟩ =
        .ok (⟨φ', ("v4", i + 1) :: ("v5.Width", c.width) :: ρ, ("v5", c) :: ("v5.Grapheme", c) :: χ, ls, L, lv, C, sh, setCell win' 0 (top + i) c, rows'⟩, .norm) := by
      xs [bpost, h1]
    simp only [loopN, hcond, hbody, hpost]
    refine ih fuel' (i + 1) _ ?_ ?_ ?_ ?_ ?_
    · omega
    · omega
    · omega
    · omega
    · refine ⟨?_, ?_, ?_, ?_, hm.1, hm.2⟩
      · simp [lookup, consts]
      · simp [lookup, consts, h2]
      · simp [lookup, consts, h3]
      · simp [lookupC, h4]

theorem barRows_of (win : Win) (w h : Nat) (c : Ch) (P : Nat → Bool) (hw : 1 ≤ w) (hlen : win.length = h)
    (hrows : ∀ r : Nat, r < h → win[r]? = some (rowOf w c (P r))) :
    barRows win = (List.range h).filter P := by
  unfold barRows
  rw [hlen]
  apply List.filter_congr
  intro r hr
  have hr' : r < h := by simpa using hr
  rw [hrows r hr']
  obtain ⟨w', rfl⟩ : ∃ w', w = w' + 1 := ⟨w - 1, by omega⟩
  cases hP : P r <;> simp [rowOf, List.replicate_succ]

theorem tdiv_le_h (total view : Int) (h : Nat) (h1 : 1 ≤ total) (h2 : view < total) : Int.tdiv (view * h) total ≤ h := by
  by_cases hv : 0 ≤ view
  · have hnn : 0 ≤ view * (h : Int) := Int.mul_nonneg hv (by omega)
    rw [Int.tdiv_eq_ediv_of_nonneg hnn]
    apply Int.ediv_le_of_le_mul (by omega)
    have : view * (h : Int) ≤ total * (h : Int) := Int.mul_le_mul_of_nonneg_right (by omega) (by omega)
    rw [Int.mul_comm (h : Int) total]; exact this
  · have hle : view * (h : Int) ≤ 0 := by
      have := Int.mul_le_mul_of_nonneg_right (show view ≤ 0 by omega) (show (0 : Int) ≤ (h : Int) by omega)
      simpa using this
    have : Int.tdiv (view * (h : Int)) total ≤ 0 := by
      have h3 := Int.tdiv_nonneg (a := -(view * (h : Int))) (b := total) (by omega) (by omega)
      rw [Int.neg_tdiv] at h3
      omega
    omega

theorem bdraw8_run (R : Ro) (f : Nat) (m : M) :
    exec R bdraw8 f m = loopN (fun m => evB R.fn2 m (.bin "<" (.var "v4") (.var "v2"))) (exec R bbody) (exec R bpost) f m := by
  rw [bdraw8_eq]; rfl

theorem bdraw8_ok (R : Ro) (top barH : Int) (c : Ch) (w h fuel : Nat) (m : M)
    (hb : 0 ≤ barH) (hf : barH.toNat < fuel) (hInv : BInv top barH c w h 0 m) :
    Ends (· = .norm) (BInv top barH c w h barH) (exec R bdraw8 fuel m) := by
  rw [bdraw8_run]; exact bloop R top barH c w h barH.toNat fuel 0 m (by omega) (Int.le_refl 0) hb hf hInv

theorem blank_rows (w h : Nat) (c : Ch) (r : Nat) (hr : r < h) : (blank w h)[r]? = some (rowOf w c false) := by
  simp [blank, rowOf, hr]

theorem blank_start (w h : Nat) (c : Ch) (top : Int) : (blank w h).length = h ∧
    ∀ r : Nat, r < h → (blank w h)[r]? = some (rowOf w c (decide (top ≤ (r : Int) ∧ (r : Int) < top + 0))) :=
  ⟨by simp [blank], fun r hr => by rw [show decide (top ≤ (r : Int) ∧ (r : Int) < top + 0) = false by simp]; exact blank_rows w h c r hr⟩

theorem bres_rows {top barH : Int} {w h : Nat} {r : Res} (hw : 1 ≤ w) : Ends (· = .norm) (BInv top barH barCh w h barH) r →
    (match r with
      | .error _ => Option.none
      | .ok (m, _) => some (barRows m.win)) =
      some ((List.range h).filter fun (r : Nat) => decide (top ≤ (r : Int) ∧ (r : Int) < top + barH)) := by
  intro hres
  obtain ⟨m, c, rfl, _, hm⟩ := hres.elim
  simp only
  rw [barRows_of m.win w h barCh _ hw hm.win.1 hm.win.2]

/-- The scrollbar's `Draw` executed from its body IS `Scrollbar.rows`.  `fuel`: the loop makes at most `h` rounds (`tdiv_le_h`)
    and one more test. -/
theorem bdraw_run (total view top : Int) (w h fuel : Nat) (ce : Bool) (hw : 1 ≤ w) (hf : h + 2 ≤ fuel) :
    runBar (seqOf bdrawParts) total view top w h fuel ce = some (Scrollbar.rows total view top h) := by
  have hblank : barRows (blank w h) = [] := by
    rw [barRows_of (blank w h) w h barCh (fun _ => false) hw (by simp [blank]) (fun r hr => blank_rows w h barCh r hr)]
    simp
  by_cases c0 : total < 1
  · xs [runBar, bdrawParts, bdraw0, barM, m0, c0, Scrollbar.rows, Scrollbar.bar, hblank]
  · by_cases c1 : view ≥ total
    · xs [runBar, bdrawParts, bdraw0, bdraw1, barM, m0, c0, c1, Scrollbar.rows, Scrollbar.bar, hblank]
    · have ht0 : ¬ total = 0 := by omega
      have hle := tdiv_le_h total view h (by omega) (by omega)
      unfold runBar
      have hrows : Scrollbar.rows total view top h =
          (List.range h).filter fun (r : Nat) => decide (Int.tdiv (top * (h : Int)) total ≤ (r : Int) ∧ (r : Int) < Int.tdiv (top * (h : Int)) total +
            (if Int.tdiv (view * (h : Int)) total < 1 then 1 else Int.tdiv (view * (h : Int)) total)) := by
        simp [Scrollbar.rows, Scrollbar.bar, c0, c1]
      rw [hrows]
      refine bres_rows hw ?_
      cases ce <;> by_cases c2 : Int.tdiv (view * (h : Int)) total < 1 <;>
      · xs [↓exec_seq_skip, bdrawParts, bdraw0, bdraw1, bdraw2, bdraw3, bdraw4, bdraw5, bdraw6, bdraw7, barM, m0, c0, c1, c2, ht0]
        refine bdraw8_ok _ _ _ barCh w h fuel _ (by omega) (by omega)
          ⟨?_, ?_, ?_, ?_, (blank_start w h barCh (Int.tdiv (top * (h : Int)) total)).1, (blank_start w h barCh _).2⟩ <;> simp [lookup, lookupC, consts]

theorem play_run (segs : List (List Ch)) (s : Pager.St) (w h : Nat) (fe : Bool) (ht : segs.flatten = s.text) :
    runPager expB expB.pagerLayout segs s w h fe = some (Pager.relayout true s, blank w h) := by
  have hl := play_exec (pagerRo expB segs w h) rfl 0 (pagerM s w h fe) s.width rfl (by simp [pagerM, m0, lookup])
  unfold runPager
  have he : expB.pagerLayout = seqOf playParts := rfl
  rw [he]
  obtain ⟨m', c, hr, _, g1, g2, g3, _⟩ := hl.elim
  rw [hr]
  simp only [pagerSt, g1, g2, g3, pagerM, m0, lookup]
  simp [Pager.relayout, pagerRo, ht]

theorem pscroll_run (segs : List (List Ch)) (s : Pager.St) (w h : Nat) (fe : Bool) (ht : segs.flatten = s.text) :
    runPager expB expB.pagerScrollDown segs s w h fe = some (Pager.scrollDown s, blank w h) ∧
    runPager expB expB.pagerScrollUp segs s w h fe = some (Pager.scrollUp s, blank w h) := by
  constructor
  · xs [runPager, expB, pdownParts, pdown0, pagerM, pagerSt, m0, Pager.scrollDown, ht]
  · xs [runPager, expB, pupParts, pup0, pagerM, pagerSt, m0, Pager.scrollUp, ht]

end VaxisModel.Lemmas.WidExec
