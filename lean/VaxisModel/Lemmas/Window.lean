/-
Windows over a screen (C11; the application layer Lemmas/AppSys reads them too): reading the screen after a write;
`Win.put` is a guarded screen write at origin + offset (`put_eq`, `get_put`, `put_clip`, `put_lands`); folds of `SetCell`;
well-formed screens are kept (`wf_*`); `Fill` reaches every visible cell; the region of a new window (`covers_new`).
-/
import VaxisModel.Model.Window
import VaxisModel.Spec.Window

namespace VaxisModel.Lemmas.Window
open VaxisModel.Model.Window VaxisModel.Spec.Window

theorem get_update (s : Screen) (col row : Int) (f : Cell → Cell) (hc : 0 ≤ col) (hr : 0 ≤ row)
    (x y : Int) :
    (s.update col row f).get x y = if x = col ∧ y = row then (s.get x y).map f else s.get x y := by
  unfold Screen.get Screen.update
  by_cases hneg : x < 0 ∨ y < 0
  · simp only [hneg, if_true]
    split <;> rfl
  · simp only [hneg, if_false]
    have hx : 0 ≤ x := by omega
    have hy : 0 ≤ y := by omega
    rw [List.getElem?_modify]
    cases hrow : s.buf[y.toNat]? with
    | none => simp
    | some l =>
      simp only [Option.map_eq_map, Option.map_some]
      by_cases hyr : y = row
      · subst hyr
        simp only [if_true, and_true]
        rw [List.getElem?_modify]
        by_cases hxc : x = col
        · subst hxc
          simp only [if_true]
          cases l[x.toNat]? <;> rfl
        · have : col.toNat ≠ x.toNat := by omega
          simp only [hxc, this, if_false]
          cases l[x.toNat]? <;> rfl
      · have : row.toNat ≠ y.toNat := by omega
        simp only [this, if_false, hyr, and_false]

/-- `get` at natural coordinates is the double lookup in the buffer. -/
theorem get_nat (s : Screen) (x y : Nat) : s.get (x : Int) (y : Int) = (s.buf[y]?).bind (·[x]?) := by
  have hneg : ¬ ((x : Int) < 0 ∨ (y : Int) < 0) := by omega
  simp only [Screen.get, hneg, if_false, Int.toNat_natCast]
  cases s.buf[y]? <;> simp

theorem guard_iff (s : Screen) (col row : Int) :
    s.guard col row = true ↔ inScreen s col row := by
  unfold Screen.guard inScreen
  split
  · simp; omega
  · split
    · simp; omega
    · split
      · simp; omega
      · simp; omega

theorem screenPut_eq (s : Screen) (col row : Int) (p : Win.Put) :
    Win.screenPut s col row p = if s.guard col row then s.update col row p.apply else s := by
  cases p <;> rfl

theorem get_screenPut (s : Screen) (col row : Int) (p : Win.Put) (x y : Int) :
    (Win.screenPut s col row p).get x y =
      if x = col ∧ y = row ∧ inScreen s col row then (s.get x y).map p.apply else s.get x y := by
  rw [screenPut_eq]
  by_cases hg : s.guard col row = true
  · have hin := (guard_iff s col row).1 hg
    simp only [hg, if_true, get_update s col row _ hin.1 hin.2.2.1, hin, and_true]
  · have hin : ¬ inScreen s col row := fun h => hg ((guard_iff s col row).2 h)
    simp [hg, hin]

theorem screenPut_dims (s : Screen) (col row : Int) (p : Win.Put) :
    (Win.screenPut s col row p).cols = s.cols ∧ (Win.screenPut s col row p).rows = s.rows := by
  rw [screenPut_eq]; split <;> exact ⟨rfl, rfl⟩

theorem origin_eq_absOrigin (win : Win) : win.origin = absOrigin win := by
  induction win with
  | root c r w h => rfl
  | child c r w h p ih => simp [Win.origin, absOrigin, ih]

theorem winGuard_iff (win : Win) (col row : Int) :
    win.guard col row = true ↔ (0 ≤ col ∧ col < win.width ∧ 0 ≤ row ∧ row < win.height) := by
  unfold Win.guard
  split
  · simp; omega
  · split
    · simp; omega
    · simp; omega

/-- `put` = a screen write at origin + offset, performed iff that absolute cell lies in the
rectangle of the window and of every ancestor. -/
theorem put_eq (win : Win) (s : Screen) (col row : Int) (p : Win.Put) :
    win.put s col row p =
      if covers win ((absOrigin win).1 + col) ((absOrigin win).2 + row)
      then Win.screenPut s ((absOrigin win).1 + col) ((absOrigin win).2 + row) p else s := by
  induction win generalizing col row with
  | root c r w h =>
    simp only [Win.put, covers, inOwnRect, absOrigin]
    by_cases hg : (Win.root c r w h).guard col row = true
    · have := (winGuard_iff _ col row).1 hg
      simp only [Win.width, Win.height] at this
      have hc : c ≤ c + col ∧ c + col < c + w ∧ r ≤ r + row ∧ r + row < r + h := by
        omega
      simp only [hg, if_true, Win.width, Win.height, hc, and_self]
      rw [Int.add_comm col c, Int.add_comm row r]
    · have hn : ¬ (c ≤ c + col ∧ c + col < c + w ∧ r ≤ r + row ∧ r + row < r + h) := by
        intro hc; apply hg; rw [winGuard_iff]; simp only [Win.width, Win.height]; omega
      simp only [hg, Win.width, Win.height, hn]
      simp
  | child c r w h par ih =>
    simp only [Win.put, covers, inOwnRect, absOrigin]
    by_cases hg : (Win.child c r w h par).guard col row = true
    · have := (winGuard_iff _ col row).1 hg
      simp only [Win.width, Win.height] at this
      simp only [hg, if_true, Win.width, Win.height]
      rw [ih]
      have e1 : (absOrigin par).1 + (col + c) = (absOrigin par).1 + c + col := by omega
      have e2 : (absOrigin par).2 + (row + r) = (absOrigin par).2 + r + row := by omega
      rw [e1, e2]
      have hc : (absOrigin par).1 + c ≤ (absOrigin par).1 + c + col ∧
          (absOrigin par).1 + c + col < (absOrigin par).1 + c + w ∧
          (absOrigin par).2 + r ≤ (absOrigin par).2 + r + row ∧
          (absOrigin par).2 + r + row < (absOrigin par).2 + r + h := by omega
      simp only [hc, and_self, true_and]
    · have hn : ¬ ((absOrigin par).1 + c ≤ (absOrigin par).1 + c + col ∧
          (absOrigin par).1 + c + col < (absOrigin par).1 + c + w ∧
          (absOrigin par).2 + r ≤ (absOrigin par).2 + r + row ∧
          (absOrigin par).2 + r + row < (absOrigin par).2 + r + h) := by
        intro hc; apply hg; rw [winGuard_iff]; simp only [Win.width, Win.height]; omega
      simp only [hg, Win.width, Win.height, hn]
      simp

theorem get_put (win : Win) (s : Screen) (col row : Int) (p : Win.Put) (x y : Int) :
    (win.put s col row p).get x y =
      if x = (absOrigin win).1 + col ∧ y = (absOrigin win).2 + row ∧ visible win s x y
      then (s.get x y).map p.apply else s.get x y := by
  rw [put_eq]
  by_cases hxy : x = (absOrigin win).1 + col ∧ y = (absOrigin win).2 + row
  · obtain ⟨rfl, rfl⟩ := hxy
    by_cases hcov : covers win ((absOrigin win).1 + col) ((absOrigin win).2 + row) <;>
      simp [hcov, get_screenPut, visible]
  · have hn : ¬ (x = (absOrigin win).1 + col ∧ y = (absOrigin win).2 + row ∧ visible win s x y) :=
      fun h => hxy ⟨h.1, h.2.1⟩
    simp only [hn, if_false]
    split
    · rw [get_screenPut, if_neg fun h => hxy ⟨h.1, h.2.1⟩]
    · rfl

theorem put_dims (win : Win) (s : Screen) (col row : Int) (p : Win.Put) :
    (win.put s col row p).cols = s.cols ∧ (win.put s col row p).rows = s.rows := by
  rw [put_eq]
  split
  · exact screenPut_dims ..
  · exact ⟨rfl, rfl⟩

theorem applyOps_dims (win : Win) (ops : List Op) (s : Screen) :
    (applyOps win s ops).cols = s.cols ∧ (applyOps win s ops).rows = s.rows := by
  induction ops generalizing s with
  | nil => exact ⟨rfl, rfl⟩
  | cons o rest ih =>
    simp only [applyOps, List.foldl_cons]
    have h1 := ih (win.setCell s o.col o.row o.cell)
    have h2 := put_dims win s o.col o.row (.cell o.cell)
    simp only [applyOps, Win.setCell] at h1 h2 ⊢
    exact ⟨h1.1.trans h2.1, h1.2.trans h2.2⟩

theorem visible_congr (win : Win) (s s' : Screen) (hc : s'.cols = s.cols) (hr : s'.rows = s.rows)
    (x y : Int) : visible win s' x y ↔ visible win s x y := by
  simp only [visible, inScreen, hc, hr]

theorem applyOps_changed (win : Win) (ops : List Op) (s : Screen) (x y : Int)
    (h : (applyOps win s ops).get x y ≠ s.get x y) :
    visible win s x y ∧
    ∃ o ∈ ops, x = (absOrigin win).1 + o.col ∧ y = (absOrigin win).2 + o.row := by
  induction ops generalizing s with
  | nil => exact absurd rfl h
  | cons o rest ih =>
    simp only [applyOps, List.foldl_cons] at h
    let s1 := win.setCell s o.col o.row o.cell
    have hd := put_dims win s o.col o.row (.cell o.cell)
    by_cases h1 : (applyOps win s1 rest).get x y = s1.get x y
    · -- changed by the head
      have h2 : s1.get x y ≠ s.get x y := by
        intro e; apply h; simp only [applyOps] at h1; exact h1.trans e
      simp only [s1, Win.setCell, get_put] at h2
      split at h2
      · rename_i hc
        exact ⟨hc.2.2, o, List.mem_cons_self, hc.1, hc.2.1⟩
      · exact absurd rfl h2
    · obtain ⟨hv, o', ho', hxy⟩ := ih s1 h1
      refine ⟨(visible_congr win s s1 hd.1 hd.2 x y).1 hv, o', List.mem_cons_of_mem _ ho', hxy⟩

theorem put_clip (win : Win) (s : Screen) (c r : Int) (p : Win.Put) (x y : Int)
    (h : (win.put s c r p).get x y ≠ s.get x y) :
    x = (win.origin).1 + c ∧ y = (win.origin).2 + r ∧ covers win x y ∧ inScreen s x y := by
  rw [get_put] at h
  rw [origin_eq_absOrigin]
  split at h
  · rename_i hc; exact ⟨hc.1, hc.2.1, hc.2.2.1, hc.2.2.2⟩
  · exact absurd rfl h

theorem put_lands (win : Win) (s : Screen) (c r : Int) (p : Win.Put)
    (hv : visible win s ((win.origin).1 + c) ((win.origin).2 + r)) :
    (win.put s c r p).get ((win.origin).1 + c) ((win.origin).2 + r) =
      (s.get ((win.origin).1 + c) ((win.origin).2 + r)).map p.apply := by
  rw [origin_eq_absOrigin] at hv ⊢
  simp only [get_put, hv, and_self, if_true]

theorem screenPut_outside (s : Screen) (col row : Int) (p : Win.Put) (h : ¬ inScreen s col row) :
    Win.screenPut s col row p = s := by
  rw [screenPut_eq, if_neg fun hg => h ((guard_iff s col row).1 hg)]

theorem put_invisible (win : Win) (s : Screen) (c r : Int) (p : Win.Put)
    (hv : ¬ visible win s ((absOrigin win).1 + c) ((absOrigin win).2 + r)) :
    win.put s c r p = s := by
  rw [put_eq]
  split
  · rename_i hc
    exact screenPut_outside s _ _ p (fun hin => hv ⟨hc, hin⟩)
  · rfl

theorem wf_resize (cols rows : Int) (hc : 0 ≤ cols) (hr : 0 ≤ rows) : (Screen.resize cols rows).WF := by
  refine ⟨hc, hr, by simp [Screen.resize], ?_⟩
  intro l hl
  simp only [Screen.resize] at hl
  rw [(List.mem_replicate.1 hl).2]; simp [Screen.resize]

theorem wf_update (s : Screen) (hwf : s.WF) (col row : Int) (f : Cell → Cell) : (s.update col row f).WF := by
  obtain ⟨hc, hr, hlen, hrows⟩ := hwf
  refine ⟨hc, hr, by simp [Screen.update, hlen], ?_⟩
  intro l hl
  simp only [Screen.update] at hl
  obtain ⟨i, hi⟩ := List.mem_iff_getElem?.1 hl
  rw [List.getElem?_modify] at hi
  cases hb : s.buf[i]? with
  | none => simp [hb] at hi
  | some l0 =>
    have hm : l0 ∈ s.buf := List.mem_iff_getElem?.2 ⟨_, hb⟩
    simp only [hb, Option.map_eq_map, Option.map_some, Option.some.injEq] at hi
    rw [← hi]
    split
    · simp [hrows l0 hm, Screen.update]
    · exact hrows l0 hm

theorem wf_screenPut (s : Screen) (hwf : s.WF) (col row : Int) (p : Win.Put) : (Win.screenPut s col row p).WF := by
  rw [screenPut_eq]; split
  · exact wf_update s hwf _ _ _
  · exact hwf

theorem wf_put (win : Win) (s : Screen) (hwf : s.WF) (c r : Int) (p : Win.Put) : (win.put s c r p).WF := by
  rw [put_eq]
  split
  · exact wf_screenPut s hwf _ _ p
  · exact hwf

theorem get_some_of_inScreen (s : Screen) (hwf : s.WF) (x y : Int) (h : inScreen s x y) :
    ∃ v, s.get x y = some v := by
  obtain ⟨hc, hr, hlen, hrows⟩ := hwf
  unfold inScreen at h
  unfold Screen.get
  have hneg : ¬ (x < 0 ∨ y < 0) := by omega
  simp only [hneg, if_false]
  have hy : y.toNat < s.buf.length := by omega
  rw [List.getElem?_eq_getElem hy]
  have hm : s.buf[y.toNat] ∈ s.buf := List.getElem_mem hy
  have hx : x.toNat < (s.buf[y.toNat]).length := by rw [hrows _ hm]; omega
  exact ⟨_, List.getElem?_eq_getElem hx⟩

theorem mem_upTo (n k : Int) : k ∈ upTo n ↔ 0 ≤ k ∧ k < n := by
  simp only [upTo, List.mem_map, List.mem_range]
  constructor
  · rintro ⟨a, ha, rfl⟩; simp only [Int.ofNat_eq_natCast]; omega
  · intro h; exact ⟨k.toNat, by omega, by simp; omega⟩

theorem applyOps_const (win : Win) (c : Cell) (x y : Int) (ops : List Op) (s : Screen)
    (hall : ∀ o ∈ ops, o.cell = c) (hs : (s.get x y).isSome) (hv : visible win s x y)
    (h : s.get x y = some c ∨ ∃ o ∈ ops, x = (absOrigin win).1 + o.col ∧ y = (absOrigin win).2 + o.row) :
    (applyOps win s ops).get x y = some c := by
  induction ops generalizing s with
  | nil =>
    rcases h with h | ⟨o, ho, _⟩
    · exact h
    · cases ho
  | cons o rest ih =>
    simp only [applyOps, List.foldl_cons]
    have hd := put_dims win s o.col o.row (.cell o.cell)
    have hg := get_put win s o.col o.row (.cell o.cell) x y
    have hoc : o.cell = c := hall o List.mem_cons_self
    obtain ⟨v, hq⟩ := Option.isSome_iff_exists.mp hs
    apply ih (win.setCell s o.col o.row o.cell) (fun o' ho' => hall o' (List.mem_cons_of_mem _ ho'))
    · simp only [Win.setCell, hg, hq]; split <;> rfl
    · exact (visible_congr win s _ hd.1 hd.2 x y).2 hv
    · by_cases ht : x = (absOrigin win).1 + o.col ∧ y = (absOrigin win).2 + o.row
      · left
        simp only [Win.setCell, hg, ht.1.symm, ht.2.symm, hv, and_self, if_true, hq]
        simp [Win.Put.apply, hoc]
      · rcases h with h | ⟨o', ho', hxy⟩
        · left
          simp only [Win.setCell, hg]
          split
          · rename_i hc; exact absurd ⟨hc.1, hc.2.1⟩ ht
          · exact h
        · rcases List.mem_cons.1 ho' with rfl | hr
          · exact absurd hxy ht
          · exact Or.inr ⟨o', hr, hxy⟩

theorem covers_own (win : Win) (x y : Int) (h : covers win x y) : inOwnRect win x y := by
  cases win <;> simp only [covers] at h
  · exact h
  · exact h.1

theorem fill_reaches (win : Win) (s : Screen) (hwf : s.WF) (c : Cell) (x y : Int)
    (hv : visible win s x y) : (fill win s c).get x y = some c := by
  obtain ⟨v, hsome⟩ := get_some_of_inScreen s hwf x y hv.2
  have hown := covers_own win x y hv.1
  unfold inOwnRect at hown
  apply applyOps_const win c x y (fillOps win c) s
  · intro o ho
    simp only [fillOps, List.mem_flatMap, List.mem_map] at ho
    obtain ⟨_, _, _, _, rfl⟩ := ho
    rfl
  · simp [hsome]
  · exact hv
  · right
    refine ⟨{ col := x - (absOrigin win).1, row := y - (absOrigin win).2, cell := c }, ?_, by simp; omega, by simp; omega⟩
    simp only [fillOps, List.mem_flatMap, List.mem_map]
    exact ⟨y - (absOrigin win).2, (mem_upTo _ _).2 (by omega), x - (absOrigin win).1, (mem_upTo _ _).2 (by omega), rfl⟩

theorem width_root (c r w h : Int) : (Win.root c r w h).width = w := rfl
theorem height_root (c r w h : Int) : (Win.root c r w h).height = h := rfl
theorem width_child (c r w h : Int) (p : Win) : (Win.child c r w h p).width = w := rfl
theorem height_child (c r w h : Int) (p : Win) : (Win.child c r w h p).height = h := rfl

/-- Whatever `New` clamps, the region of the new window is the requested rectangle (at the parent's
origin + offset) intersected with the parent's region. -/
theorem covers_new (win : Win) (c r W H : Int) (hW : 0 ≤ W) (hH : 0 ≤ H) (x y : Int) :
    covers (win.new c r W H) x y ↔
      (((absOrigin win).1 + c ≤ x ∧ x < (absOrigin win).1 + c + W ∧
        (absOrigin win).2 + r ≤ y ∧ y < (absOrigin win).2 + r + H) ∧ covers win x y) := by
  have hW' : ¬ W < 0 := by omega
  have hH' : ¬ H < 0 := by omega
  simp only [Win.new, covers, inOwnRect, absOrigin, width_child, height_child, hW', hH', if_false]
  constructor
  · rintro ⟨h1, h2⟩
    have ho := covers_own win x y h2
    unfold inOwnRect at ho
    refine ⟨?_, h2⟩
    by_cases a : W + c > win.width <;> by_cases b : H + r > win.height <;>
      simp only [a, b, if_true, if_false] at h1 <;> omega
  · rintro ⟨h1, h2⟩
    have ho := covers_own win x y h2
    unfold inOwnRect at ho
    refine ⟨?_, h2⟩
    by_cases a : W + c > win.width <;> by_cases b : H + r > win.height <;>
      simp only [a, b, if_true, if_false] <;> omega

theorem absOrigin_new (win : Win) (c r W H : Int) :
    absOrigin (win.new c r W H) = ((absOrigin win).1 + c, (absOrigin win).2 + r) := by
  simp [Win.new, absOrigin]

/-- In a right-nested chain, a point of the clip region can be moved right as far as the window's
own right edge without leaving the clip region. -/
theorem covers_extend (win : Win) (hn : rightNested win) (x x' y : Int) (h : covers win x y)
    (h1 : x ≤ x') (h2 : x' < (absOrigin win).1 + win.width) : covers win x' y := by
  induction win generalizing x x' with
  | root c r w h' =>
    simp only [covers, inOwnRect, absOrigin, width_root] at h h2 ⊢
    omega
  | child c r w h' p ih =>
    simp only [covers, inOwnRect, absOrigin, width_child, height_child] at h h2 ⊢
    simp only [rightNested] at hn
    refine ⟨by omega, ih hn.2 x x' h.2 h1 (by omega)⟩

end VaxisModel.Lemmas.Window
