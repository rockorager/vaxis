/-
Row-level display lemmas for C11's observation point ("the set of screen cells whose rendered
content changes, observed through the reference terminal after a Render"): what
`Spec.Expected.expectedRowC` shows outside a column interval `[a,b)` depends only on the cells
outside the interval, provided no glyph whose cell lies left of `b` extends to `b` or beyond
(`NoOverhang`).
-/
import VaxisModel.Spec.ExpectedClip

namespace VaxisModel.Lemmas.WindowDisplay
open VaxisModel.Spec.Expected VaxisModel.Spec.Display
open VaxisModel.Model.Render (Cell Caps)

/-- No cell at a column `p < b` holds a glyph that reaches column `b` (whether or not the cell is
    itself hidden under a glyph to its left); a glyph that does not fit in the row at all is shown as
    a blank of width 1 and reaches nothing. -/
def NoOverhang (cw : String → Nat) (r : List Cell) (b : Nat) : Prop :=
  ∀ p c, p < b → r[p]? = some c → p + (cellWidth cw c).toNat ≤ b ∨ r.length < p + (cellWidth cw c).toNat

theorem expectedRowC_drop (cw : String → Nat) (caps : Caps) :
    ∀ (r : List Cell) (skip b : Nat), skip ≤ b → b ≤ r.length → NoOverhang cw r b →
      (expectedRowC cw caps skip r).drop b = expectedRowC cw caps 0 (r.drop b) := by
  intro r
  induction r with
  | nil => intro skip b _ hb _; simp at hb; subst hb; cases skip <;> simp [expectedRowC]
  | cons c cs ih =>
    intro skip b hs hb hno
    cases b with
    | zero =>
      have : skip = 0 := by omega
      subst this; simp
    | succ b' =>
      have hno' : NoOverhang cw cs b' := by
        intro p c' hp hc'
        have := hno (p + 1) c' (by omega) (by simpa using hc')
        simp only [List.length_cons] at this
        omega
      have hb' : b' ≤ cs.length := by simpa using hb
      cases skip with
      | succ k =>
        simp only [expectedRowC, List.drop_succ_cons]
        exact ih k b' (by omega) hb' hno'
      | zero =>
        have h0 := hno 0 c (by omega) (by simp)
        simp only [List.length_cons] at h0
        simp only [expectedRowC]
        split <;> (simp only [List.drop_succ_cons]; exact ih _ b' (by omega) hb' hno')

theorem expectedRowC_take (cw : String → Nat) (caps : Caps) :
    ∀ (r r' : List Cell) (skip a : Nat), r.length = r'.length → r.take a = r'.take a →
      (expectedRowC cw caps skip r).take a = (expectedRowC cw caps skip r').take a := by
  intro r
  induction r with
  | nil =>
    intro r' skip a hl _
    have : r' = [] := by cases r' <;> simp_all
    subst this; rfl
  | cons c cs ih =>
    intro r' skip a hl ht
    cases r' with
    | nil => simp at hl
    | cons c' cs' =>
      cases a with
      | zero => simp
      | succ a' =>
        simp only [List.take_succ_cons, List.cons.injEq] at ht
        obtain ⟨hc, ht'⟩ := ht
        subst hc
        have hl' : cs.length = cs'.length := by simpa using hl
        cases skip with
        | succ k =>
          simp only [expectedRowC, List.take_succ_cons]
          rw [ih cs' k a' hl' ht']
        | zero =>
          simp only [expectedRowC, hl']
          split <;> (simp only [List.take_succ_cons]; rw [ih cs' _ a' hl' ht'])

/-- **What is displayed outside `[a,b)` does not depend on the cells inside**, for two rows of the
    same length without overhang at `b`. -/
theorem display_outside (cw : String → Nat) (caps : Caps) (r r' : List Cell) (a b : Nat)
    (hlen : r.length = r'.length) (hb : b ≤ r.length)
    (hpre : r.take a = r'.take a) (hsuf : r.drop b = r'.drop b)
    (hno : NoOverhang cw r b) (hno' : NoOverhang cw r' b) :
    (expectedRowC cw caps 0 r).take a = (expectedRowC cw caps 0 r').take a ∧
    (expectedRowC cw caps 0 r).drop b = (expectedRowC cw caps 0 r').drop b := by
  refine ⟨expectedRowC_take cw caps r r' 0 a hlen hpre, ?_⟩
  rw [expectedRowC_drop cw caps r 0 b (by omega) hb hno,
    expectedRowC_drop cw caps r' 0 b (by omega) (by omega) hno', hsuf]

theorem display_left (cw : String → Nat) (caps : Caps) (r r' : List Cell) (x : Nat)
    (hlen : r.length = r'.length) (hpre : ∀ p, p ≤ x → r[p]? = r'[p]?) :
    (expectedRowC cw caps 0 r)[x]? = (expectedRowC cw caps 0 r')[x]? := by
  have ht : r.take (x + 1) = r'.take (x + 1) := by
    apply List.ext_getElem?
    intro i
    simp only [List.getElem?_take]
    split
    · exact hpre i (by omega)
    · rfl
  have := expectedRowC_take cw caps r r' 0 (x + 1) hlen ht
  have h1 : ((expectedRowC cw caps 0 r).take (x + 1))[x]? = (expectedRowC cw caps 0 r)[x]? := by
    simp
  have h2 : ((expectedRowC cw caps 0 r').take (x + 1))[x]? = (expectedRowC cw caps 0 r')[x]? := by
    simp
  rw [← h1, ← h2, this]

theorem display_right (cw : String → Nat) (caps : Caps) (r r' : List Cell) (b x : Nat)
    (hlen : r.length = r'.length) (hb : b ≤ r.length) (hx : b ≤ x)
    (hsuf : ∀ p, b ≤ p → r[p]? = r'[p]?)
    (hno : NoOverhang cw r b) (hno' : NoOverhang cw r' b) :
    (expectedRowC cw caps 0 r)[x]? = (expectedRowC cw caps 0 r')[x]? := by
  have hd : r.drop b = r'.drop b := by
    apply List.ext_getElem?
    intro i
    simp only [List.getElem?_drop]
    exact hsuf (b + i) (by omega)
  have h1 := expectedRowC_drop cw caps r 0 b (by omega) hb hno
  have h2 := expectedRowC_drop cw caps r' 0 b (by omega) (by omega) hno'
  have e1 : (expectedRowC cw caps 0 r)[x]? = ((expectedRowC cw caps 0 r).drop b)[x - b]? := by
    rw [List.getElem?_drop]; congr 1; omega
  have e2 : (expectedRowC cw caps 0 r')[x]? = ((expectedRowC cw caps 0 r').drop b)[x - b]? := by
    rw [List.getElem?_drop]; congr 1; omega
  rw [e1, e2, h1, h2, hd]

end VaxisModel.Lemmas.WindowDisplay
