/-
Helper lemmas for C11's text clauses: the `SetCell` call lists of the text helpers are the layouts of `Spec.Window`
(up to calls on rows below the window); the layouts write in strict reading order, inside the window's columns,
and the items' cells.  `layout_ind` and `layoutWrap_ind` are the induction principles the rest goes through.
-/
import VaxisModel.Model.Window
import VaxisModel.Spec.Window

namespace VaxisModel.Lemmas.WindowText
open VaxisModel.Model.Window VaxisModel.Spec.Window

theorem measured_g (lib : Lib) (rm : Bool) (ch : Chr) : (measured lib rm ch).g = ch.g := by
  unfold measured; split <;> rfl

theorem fitPen_cases (cols col row w : Int) :
    (fitPen cols col row w = (0, row + 1) ∧ col + w > cols) ∨
    (fitPen cols col row w = (col, row) ∧ ¬ col + w > cols) := by
  unfold fitPen; split
  · exact Or.inl ⟨rfl, by assumption⟩
  · exact Or.inr ⟨rfl, by assumption⟩

theorem advance_cases (cols col row w : Int) :
    (advance cols col row w = (0, row + 1) ∧ col + w ≥ cols) ∨
    (advance cols col row w = (col + w, row) ∧ ¬ col + w ≥ cols) := by
  unfold advance; split
  · exact Or.inl ⟨rfl, by assumption⟩
  · exact Or.inr ⟨rfl, by assumption⟩

/-- One placing step of the layout, in arithmetic form: where the cluster goes (`q`) and where the
pen is afterwards (`p`). -/
theorem step_cases (cols col row w : Int) :
    ∃ qc qr pc pr, fitPen cols col row w = (qc, qr) ∧ advance cols qc qr w = (pc, pr) ∧
      ((qc = 0 ∧ qr = row + 1 ∧ col + w > cols) ∨ (qc = col ∧ qr = row ∧ ¬ col + w > cols)) ∧
      ((pc = 0 ∧ pr = qr + 1 ∧ qc + w ≥ cols) ∨ (pc = qc + w ∧ pr = qr ∧ ¬ qc + w ≥ cols)) := by
  rcases fitPen_cases cols col row w with ⟨h1, h1'⟩ | ⟨h1, h1'⟩
  · rcases advance_cases cols 0 (row + 1) w with ⟨h2, h2'⟩ | ⟨h2, h2'⟩
    · exact ⟨0, row + 1, 0, row + 1 + 1, h1, h2, Or.inl ⟨rfl, rfl, h1'⟩, Or.inl ⟨rfl, rfl, h2'⟩⟩
    · exact ⟨0, row + 1, 0 + w, row + 1, h1, h2, Or.inl ⟨rfl, rfl, h1'⟩, Or.inr ⟨rfl, rfl, h2'⟩⟩
  · rcases advance_cases cols col row w with ⟨h2, h2'⟩ | ⟨h2, h2'⟩
    · exact ⟨col, row, 0, row + 1, h1, h2, Or.inr ⟨rfl, rfl, h1'⟩, Or.inl ⟨rfl, rfl, h2'⟩⟩
    · exact ⟨col, row, col + w, row, h1, h2, Or.inr ⟨rfl, rfl, h1'⟩, Or.inr ⟨rfl, rfl, h2'⟩⟩

/-- The two-armed continuation of the text helpers' placing step (`printGo`, `wrapChars`) is the spec's `advance`. -/
theorem advance_elim {α : Type} (F : Int → Int → α) (cols col row w : Int) :
    (if col + w ≥ cols then F 0 (row + 1) else F (col + w) row) = F (advance cols col row w).1 (advance cols col row w).2 := by
  unfold advance; split <;> rfl

theorem layout_cons_placed (cols : Int) (it : Item) (rest : List Item) (col row : Int)
    (hb : it.brk = false) (hs : ¬ (col + it.w > cols ∧ it.w > cols)) :
    layout cols (it :: rest) col row =
      ({ col := (fitPen cols col row it.w).1, row := (fitPen cols col row it.w).2, cell := it.cell } ::
        (layout cols rest (advance cols (fitPen cols col row it.w).1 (fitPen cols col row it.w).2 it.w).1
          (advance cols (fitPen cols col row it.w).1 (fitPen cols col row it.w).2 it.w).2).1,
       (layout cols rest (advance cols (fitPen cols col row it.w).1 (fitPen cols col row it.w).2 it.w).1
          (advance cols (fitPen cols col row it.w).1 (fitPen cols col row it.w).2 it.w).2).2) := by
  simp only [layout, hb, Bool.false_eq_true, if_false, hs]

theorem layout_cons_skipped (cols : Int) (it : Item) (rest : List Item) (col row : Int)
    (hb : it.brk = false) (hs : col + it.w > cols ∧ it.w > cols) :
    layout cols (it :: rest) col row = layout cols rest col row := by
  simp only [layout, hb, Bool.false_eq_true, if_false, hs, and_self, if_true]

theorem layout_cons_brk (cols : Int) (it : Item) (rest : List Item) (col row : Int)
    (hb : it.brk = true) :
    layout cols (it :: rest) col row = layout cols rest 0 (row + 1) := by
  simp only [layout, hb, if_true]

/-- Induction over `layout`, one case per thing it can do with a cluster: a break, a cluster wider than the
    window (dropped), a cluster placed at `(qc, qr)` leaving the pen at `(pc, pr)` — the two positions are variables
    that come with the arithmetic of `step_cases`; each case has the induction hypothesis for the rest of the
    layout from the pen it continues at. -/
theorem layout_ind (cols : Int) {P : List Item → Int → Int → List Op × Int × Int → Prop}
    (nil : ∀ col row, P [] col row ([], col, row))
    (brk : ∀ it rest col row, it.brk = true → P rest 0 (row + 1) (layout cols rest 0 (row + 1)) →
      P (it :: rest) col row (layout cols rest 0 (row + 1)))
    (drop : ∀ it rest col row, it.brk = false → col + it.w > cols → it.w > cols →
      P rest col row (layout cols rest col row) → P (it :: rest) col row (layout cols rest col row))
    (place : ∀ it rest col row qc qr pc pr, it.brk = false → ¬ (col + it.w > cols ∧ it.w > cols) →
      ((qc = 0 ∧ qr = row + 1 ∧ col + it.w > cols) ∨ (qc = col ∧ qr = row ∧ ¬ col + it.w > cols)) →
      ((pc = 0 ∧ pr = qr + 1 ∧ qc + it.w ≥ cols) ∨ (pc = qc + it.w ∧ pr = qr ∧ ¬ qc + it.w ≥ cols)) →
      P rest pc pr (layout cols rest pc pr) →
      P (it :: rest) col row
        ({ col := qc, row := qr, cell := it.cell } :: (layout cols rest pc pr).1, (layout cols rest pc pr).2)) :
    ∀ l col row, P l col row (layout cols l col row) := by
  intro l
  induction l with
  | nil => exact nil
  | cons it rest ih =>
    intro col row
    by_cases hb : it.brk = true
    · rw [layout_cons_brk _ _ _ _ _ hb]; exact brk it rest col row hb (ih _ _)
    · have hb' : it.brk = false := by simpa using hb
      by_cases hs : col + it.w > cols ∧ it.w > cols
      · rw [layout_cons_skipped _ _ _ _ _ hb' hs]; exact drop it rest col row hb' hs.1 hs.2 (ih _ _)
      · rw [layout_cons_placed _ _ _ _ _ hb' hs]
        obtain ⟨qc, qr, pc, pr, hq, hp, hqc, hpc⟩ := step_cases cols col row it.w
        rw [hq]; simp only [hp]
        exact place it rest col row qc qr pc pr hb' hs hqc hpc (ih _ _)

theorem layout_rows_ge (cols : Int) (l : List Item) (col row : Int) :
    ∀ o ∈ (layout cols l col row).1, row ≤ o.row := by
  refine layout_ind cols (P := fun _ _ row r => ∀ o ∈ r.1, row ≤ o.row) ?_ ?_ ?_ ?_ l col row
  · intro _ _ o ho; cases ho
  · intro _ _ _ _ _ ih o ho; have := ih o ho; omega
  · intro _ _ _ _ _ _ _ ih; exact ih
  · intro it rest col row qc qr pc pr _ _ hq hp ih o ho
    rcases List.mem_cons.1 ho with rfl | h
    · simp only; omega
    · have := ih o h; omega

/-- `Print` = reading-order layout, minus calls below the window (`row > rows`). -/
theorem printGo_layout (lib : Lib) (rm : Bool) (cols rows : Int) (l : List Styled) (col row : Int) :
    ∃ dropped, (layout cols (printItems lib rm l) col row).1 =
        (printGo lib rm cols rows l col row).1 ++ dropped ∧ ∀ o ∈ dropped, rows < o.row := by
  induction l generalizing col row with
  | nil => exact ⟨[], rfl, fun _ h => by cases h⟩
  | cons sc rest ih =>
    obtain ⟨st, ch⟩ := sc
    by_cases hnl : lib.hasNL ch.g = true
    · simp only [printItems, List.map_cons, layout, printGo, hnl, if_true]
      exact ih 0 (row + 1)
    · by_cases hrow : row > rows
      · -- everything the layout writes from here on is below the window
        have hall := layout_rows_ge cols (printItems lib rm ((st, ch) :: rest)) col row
        refine ⟨_, ?_, fun o ho => by have := hall o ho; omega⟩
        simp only [printGo, hnl, Bool.false_eq_true, if_false, hrow, if_true, List.nil_append]
      · simp only [printItems, List.map_cons, layout, printGo, hnl, Bool.false_eq_true, if_false, hrow]
        split
        · exact ih col row
        · rw [advance_elim (printGo lib rm cols rows rest)]
          obtain ⟨d, hd, hdr⟩ := ih (advance cols (fitPen cols col row (measured lib rm ch).w).1 (fitPen cols col row (measured lib rm ch).w).2 (measured lib rm ch).w).1
            (advance cols (fitPen cols col row (measured lib rm ch).w).1 (fitPen cols col row (measured lib rm ch).w).2 (measured lib rm ch).w).2
          refine ⟨d, ?_, hdr⟩
          simp only [printItems] at hd
          simp only [List.cons_append, hd, Item.cell, measured_g]
          rfl

/-- Pen `(c1,r1)` is at or before pen `(c2,r2)` in reading order.  (An abbreviation, so that `omega` reads it.) -/
abbrev penLe (c1 r1 c2 r2 : Int) : Prop := r1 < r2 ∨ (r1 = r2 ∧ c1 ≤ c2)

theorem layout_ge_pen (cols : Int) (l : List Item) (col row : Int)
    (hw : ∀ it ∈ l, it.brk = false → 0 < it.w) :
    ∀ o ∈ (layout cols l col row).1, penLe col row o.col o.row := by
  refine layout_ind cols (P := fun l col row r => (∀ it ∈ l, it.brk = false → 0 < it.w) →
    ∀ o ∈ r.1, penLe col row o.col o.row) ?_ ?_ ?_ ?_ l col row hw
  · intro _ _ _ o ho; cases ho
  · intro it rest col row _ ih hw o ho
    have := ih (fun a h => hw a (List.mem_cons_of_mem _ h)) o ho; omega
  · intro it rest col row _ _ _ ih hw o ho
    exact ih (fun a h => hw a (List.mem_cons_of_mem _ h)) o ho
  · intro it rest col row qc qr pc pr hb _ hq hp ih hw o ho
    have hpos := hw it List.mem_cons_self hb
    rcases List.mem_cons.1 ho with rfl | h
    · simp only; omega
    · have := ih (fun a h => hw a (List.mem_cons_of_mem _ h)) o h; omega

theorem layout_pairwise (cols : Int) (l : List Item) (col row : Int)
    (hw : ∀ it ∈ l, it.brk = false → 0 < it.w) :
    List.Pairwise before (layout cols l col row).1 := by
  refine layout_ind cols (P := fun l _ _ r => (∀ it ∈ l, it.brk = false → 0 < it.w) → List.Pairwise before r.1)
    ?_ ?_ ?_ ?_ l col row hw
  · intro _ _ _; exact List.Pairwise.nil
  · intro it rest _ _ _ ih hw; exact ih (fun a h => hw a (List.mem_cons_of_mem _ h))
  · intro it rest _ _ _ _ _ ih hw; exact ih (fun a h => hw a (List.mem_cons_of_mem _ h))
  · intro it rest col row qc qr pc pr hb _ hq hp ih hw
    have hw' : ∀ it' ∈ rest, it'.brk = false → 0 < it'.w := fun a h => hw a (List.mem_cons_of_mem _ h)
    have hpos := hw it List.mem_cons_self hb
    refine List.Pairwise.cons ?_ (ih hw')
    intro o ho
    have := layout_ge_pen cols rest _ _ hw' o ho
    simp only [before]; omega

/-- One call per cluster that is neither a break nor skipped; stated without positions when the pen
column is non-negative (then "skipped" = wider than the window). -/
theorem layout_cells (cols : Int) (l : List Item) (col row : Int) (hcol : 0 ≤ col)
    (hw : ∀ it ∈ l, 0 ≤ it.w) :
    (layout cols l col row).1.map (·.cell) =
      (l.filter (fun it => !it.brk && decide (it.w ≤ cols))).map Item.cell := by
  refine layout_ind cols (P := fun l col _ r => 0 ≤ col → (∀ it ∈ l, 0 ≤ it.w) →
    r.1.map (·.cell) = (l.filter (fun it => !it.brk && decide (it.w ≤ cols))).map Item.cell) ?_ ?_ ?_ ?_ l col row hcol hw
  · intro _ _ _ _; rfl
  · intro it rest _ _ hb ih _ hw
    rw [ih (Int.le_refl _) (fun a h => hw a (List.mem_cons_of_mem _ h))]
    simp [hb]
  · intro it rest col _ hb _ hwide ih hcol hw
    rw [ih hcol (fun a h => hw a (List.mem_cons_of_mem _ h))]
    have : ¬ it.w ≤ cols := by omega
    simp [hb, this]
  · intro it rest col row qc qr pc pr hb hs hq hp ih hcol hw
    have h0 := hw it List.mem_cons_self
    have hle : it.w ≤ cols := by omega
    rw [List.map_cons, ih (by omega) (fun a h => hw a (List.mem_cons_of_mem _ h))]
    simp [hb, hle]

theorem lnGo_layout (lib : Lib) (rm : Bool) (cols row : Int) (l : List Styled) (col : Int) :
    lnGo lib rm cols row l col = layoutLine cols row (lineItems lib rm l) col := by
  induction l generalizing col with
  | nil => rfl
  | cons sc rest ih =>
    obtain ⟨st, ch⟩ := sc
    simp only [lnGo, lineItems, List.map_cons, layoutLine]
    split
    · rfl
    · simp only [lineItems] at ih; simp only [ih, Item.cell, measured_g]

theorem truncGo_layout (lib : Lib) (rm : Bool) (cols row : Int) (l : List Styled) (col : Int) :
    truncGo lib rm cols row l col = layoutTrunc cols row (lineItems lib rm l) col := by
  induction l generalizing col with
  | nil => rfl
  | cons sc rest ih =>
    obtain ⟨st, ch⟩ := sc
    simp only [truncGo, lineItems, List.map_cons, layoutTrunc]
    split
    · rfl
    · simp only [lineItems] at ih; simp only [ih, Item.cell, measured_g]

theorem layoutLine_ge (cols row : Int) (l : List Item) (col : Int) (hw : ∀ it ∈ l, 0 < it.w) :
    ∀ o ∈ layoutLine cols row l col, o.row = row ∧ col ≤ o.col := by
  induction l generalizing col with
  | nil => intro o ho; cases ho
  | cons it rest ih =>
    have hw' : ∀ it' ∈ rest, 0 < it'.w := fun a h => hw a (List.mem_cons_of_mem _ h)
    have hpos := hw it List.mem_cons_self
    intro o ho
    simp only [layoutLine] at ho
    split at ho
    · cases ho
    · rcases List.mem_cons.1 ho with rfl | h
      · exact ⟨rfl, Int.le_refl _⟩
      · have := ih (col + it.w) hw' o h; omega

theorem layout_end_ge (cols : Int) (l : List Item) (col row : Int) :
    row ≤ (layout cols l col row).2.2 := by
  refine layout_ind cols (P := fun _ _ row r => row ≤ r.2.2) ?_ ?_ ?_ ?_ l col row
  · intro _ _; exact Int.le_refl _
  · intro _ _ _ _ _ ih; omega
  · intro _ _ _ _ _ _ _ ih; exact ih
  · intro it rest col row qc qr pc pr _ _ hq hp ih; simp only; omega

/-- Induction over `layoutWrap`: a line segment is laid out by `layout` from the pen `(pc, pr)` — the pen it finds, or
    the start of the next row when the segment fits a row but not the rest of this one. -/
theorem layoutWrap_ind (cols : Int) {P : List (List Item) → Int → Int → List Op × Int × Int → Prop}
    (nil : ∀ col row, P [] col row ([], col, row))
    (seg : ∀ seg rest col row pc pr,
      ((pc = 0 ∧ pr = row + 1 ∧ totalW seg ≤ cols ∧ totalW seg + col > cols) ∨
        (pc = col ∧ pr = row ∧ ¬ (totalW seg ≤ cols ∧ totalW seg + col > cols))) →
      P rest (layout cols seg pc pr).2.1 (layout cols seg pc pr).2.2
        (layoutWrap cols rest (layout cols seg pc pr).2.1 (layout cols seg pc pr).2.2) →
      P (seg :: rest) col row
        ((layout cols seg pc pr).1 ++ (layoutWrap cols rest (layout cols seg pc pr).2.1 (layout cols seg pc pr).2.2).1,
         (layoutWrap cols rest (layout cols seg pc pr).2.1 (layout cols seg pc pr).2.2).2)) :
    ∀ L col row, P L col row (layoutWrap cols L col row) := by
  intro L
  induction L with
  | nil => exact nil
  | cons s rest ih =>
    intro col row
    by_cases h : totalW s ≤ cols ∧ totalW s + col > cols
    · simp only [layoutWrap, h, and_self, if_true]
      exact seg s rest col row 0 (row + 1) (Or.inl ⟨rfl, rfl, h.1, h.2⟩) (ih _ _)
    · simp only [layoutWrap, h, if_false]
      exact seg s rest col row col row (Or.inr ⟨rfl, rfl, h⟩) (ih _ _)

theorem layoutWrap_rows_ge (cols : Int) (L : List (List Item)) (col row : Int) :
    (∀ o ∈ (layoutWrap cols L col row).1, row ≤ o.row) ∧ row ≤ (layoutWrap cols L col row).2.2 := by
  refine layoutWrap_ind cols (P := fun _ _ row r => (∀ o ∈ r.1, row ≤ o.row) ∧ row ≤ r.2.2) ?_ ?_ L col row
  · intro _ _; exact ⟨(by intro o ho; cases ho), Int.le_refl _⟩
  · intro seg rest col row pc pr hq ih
    have h1 := layout_rows_ge cols seg pc pr
    have h2 := layout_end_ge cols seg pc pr
    refine ⟨?_, by simp only; omega⟩
    intro o ho
    rcases List.mem_append.1 ho with h | h
    · have := h1 o h; omega
    · have := ih.1 o h; omega

theorem layoutWrap_append (cols : Int) (A B : List (List Item)) (col row : Int) :
    layoutWrap cols (A ++ B) col row =
      ((layoutWrap cols A col row).1 ++
        (layoutWrap cols B (layoutWrap cols A col row).2.1 (layoutWrap cols A col row).2.2).1,
       (layoutWrap cols B (layoutWrap cols A col row).2.1 (layoutWrap cols A col row).2.2).2) := by
  induction A generalizing col row with
  | nil => simp [layoutWrap]
  | cons seg rest ih =>
    simp only [List.cons_append, layoutWrap, ih, List.append_assoc]

theorem wrapSegs_broken (lib : Lib) (rm stored : Bool) (cols rows : Int) (st : Nat)
    (l : List (List Raw)) (col row : Int) (h : rows ≤ row) :
    wrapSegs lib rm stored cols rows st l col row = ([], col, row) := by
  cases l with
  | nil => rfl
  | cons seg rest => simp [wrapSegs, h]

theorem wrapGo_broken (lib : Lib) (rm stored : Bool) (cols rows : Int)
    (segs : List (Nat × List (List Raw))) (col row : Int) (h : rows ≤ row) :
    wrapGo lib rm stored cols rows segs col row = ([], col, row) := by
  induction segs with
  | nil => rfl
  | cons sg rest ih =>
    obtain ⟨st, lsegs⟩ := sg
    simp [wrapGo, wrapSegs_broken lib rm stored cols rows st lsegs col row h, ih]

theorem wrapChars_layout (lib : Lib) (rm : Bool) (cols : Int) (st : Nat) (chars : List Chr) (col row : Int) :
    wrapChars lib cols st (chars.map (measured lib rm)) col row =
      layout cols (chars.map fun ch => { g := ch.g, w := (measured lib rm ch).w, brk := lib.trailBrk ch.g, st := st }) col row := by
  induction chars generalizing col row with
  | nil => rfl
  | cons ch rest ih =>
    simp only [List.map_cons, wrapChars, layout, measured_g]
    split
    · exact ih 0 (row + 1)
    · split
      · exact ih col row
      · rw [advance_elim (wrapChars lib cols st (rest.map (measured lib rm)))]
        simp only [ih]; rfl

theorem sumW_totalW (lib : Lib) (rm : Bool) (st : Nat) (chars : List Chr) :
    sumW (chars.map (measured lib rm)) =
      totalW (chars.map fun ch => { g := ch.g, w := (measured lib rm ch).w, brk := lib.trailBrk ch.g, st := st }) := by
  induction chars with
  | nil => rfl
  | cons ch rest ih => simp only [List.map_cons, sumW, totalW, ih]

/-- One Segment of `Wrap` (with the measured width stored): the calls are the word-wrapping layout
of its line segments minus calls at rows ≥ height; either nothing was dropped and the pens agree,
or both pens are below the window. -/
theorem wrapSegs_layout (lib : Lib) (rm : Bool) (cols rows : Int) (st : Nat) (lsegs : List (List Raw)) (col row : Int) :
    ∃ d, (layoutWrap cols (lsegs.map (wrapItems lib rm st)) col row).1 =
          (wrapSegs lib rm true cols rows st lsegs col row).1 ++ d ∧
      (∀ o ∈ d, rows ≤ o.row) ∧
      ((d = [] ∧ (wrapSegs lib rm true cols rows st lsegs col row).2 =
                 (layoutWrap cols (lsegs.map (wrapItems lib rm st)) col row).2) ∨
       (rows ≤ (wrapSegs lib rm true cols rows st lsegs col row).2.2 ∧
        rows ≤ (layoutWrap cols (lsegs.map (wrapItems lib rm st)) col row).2.2)) := by
  induction lsegs generalizing col row with
  | nil => exact ⟨[], rfl, (by intro o h; cases h), Or.inl ⟨rfl, rfl⟩⟩
  | cons seg rest ih =>
    by_cases hbrk : rows ≤ row
    · have hr := layoutWrap_rows_ge cols ((seg :: rest).map (wrapItems lib rm st)) col row
      rw [wrapSegs_broken lib rm true cols rows st (seg :: rest) col row hbrk]
      refine ⟨_, (List.nil_append _).symm, fun o ho => by have := hr.1 o ho; omega, Or.inr ⟨hbrk, by omega⟩⟩
    · simp only [List.map_cons, layoutWrap, wrapSegs, show ¬ row ≥ rows by omega, if_false, if_true]
      have ht := sumW_totalW lib rm st (characters seg)
      have hit : wrapItems lib rm st seg =
          (characters seg).map fun ch => { g := ch.g, w := (measured lib rm ch).w, brk := lib.trailBrk ch.g, st := st } := rfl
      rw [hit, ← ht]
      generalize sumW ((characters seg).map (measured lib rm)) = total
      -- the helper chooses the pen in three arms (too wide: stay; does not fit the rest of the row: next row; stay), the
      -- spec in two; they are the same choice
      have hp : (if total > cols then (col, row) else if total + col > cols then ((0 : Int), row + 1) else (col, row)) =
          (if total ≤ cols ∧ total + col > cols then ((0 : Int), row + 1) else (col, row)) := by
        by_cases h1 : total > cols
        · have : ¬ (total ≤ cols ∧ total + col > cols) := by omega
          simp [h1, this]
        · by_cases h2 : total + col > cols
          · have : total ≤ cols ∧ total + col > cols := by omega
            simp [h1, h2, this]
          · simp [h1, h2]
      rw [hp]
      generalize (if total ≤ cols ∧ total + col > cols then ((0 : Int), row + 1) else (col, row)) = p
      rw [wrapChars_layout lib rm cols st (characters seg) p.1 p.2]
      generalize layout cols ((characters seg).map fun ch =>
        ({ g := ch.g, w := (measured lib rm ch).w, brk := lib.trailBrk ch.g, st := st } : Item)) p.1 p.2 = a
      obtain ⟨d, hd, hrows, hdis⟩ := ih a.2.1 a.2.2
      refine ⟨d, by rw [hd, List.append_assoc], hrows, hdis⟩

theorem wrapGo_layout (lib : Lib) (rm : Bool) (cols rows : Int) (segs : List (Nat × List (List Raw))) (col row : Int) :
    ∃ d, (layoutWrap cols (wrapAllItems lib rm segs) col row).1 =
          (wrapGo lib rm true cols rows segs col row).1 ++ d ∧
      (∀ o ∈ d, rows ≤ o.row) := by
  induction segs generalizing col row with
  | nil => exact ⟨[], rfl, (by intro o h; cases h)⟩
  | cons sg rest ih =>
    obtain ⟨st, lsegs⟩ := sg
    have hall : wrapAllItems lib rm ((st, lsegs) :: rest) = lsegs.map (wrapItems lib rm st) ++ wrapAllItems lib rm rest := by
      simp [wrapAllItems]
    rw [hall, layoutWrap_append]
    simp only [wrapGo]
    obtain ⟨d1, hd1, hr1, hdis⟩ := wrapSegs_layout lib rm cols rows st lsegs col row
    rcases hdis with ⟨hnil, hst⟩ | ⟨hm, hs⟩
    · subst hnil
      rw [hst]
      obtain ⟨d2, hd2, hr2⟩ := ih (layoutWrap cols (lsegs.map (wrapItems lib rm st)) col row).2.1
        (layoutWrap cols (lsegs.map (wrapItems lib rm st)) col row).2.2
      refine ⟨d2, ?_, hr2⟩
      simp only [hd1, List.append_nil, hd2, List.append_assoc]
    · rw [wrapGo_broken lib rm true cols rows rest _ _ hm]
      have hr := layoutWrap_rows_ge cols (wrapAllItems lib rm rest)
        (layoutWrap cols (lsegs.map (wrapItems lib rm st)) col row).2.1
        (layoutWrap cols (lsegs.map (wrapItems lib rm st)) col row).2.2
      refine ⟨d1 ++ (layoutWrap cols (wrapAllItems lib rm rest)
        (layoutWrap cols (lsegs.map (wrapItems lib rm st)) col row).2.1
        (layoutWrap cols (lsegs.map (wrapItems lib rm st)) col row).2.2).1, ?_, ?_⟩
      · simp only [hd1, List.append_nil, List.append_assoc]
      · intro o ho
        rcases List.mem_append.1 ho with h | h
        · exact hr1 o h
        · have := hr.1 o h; omega

theorem layout_pen_mono (cols : Int) (l : List Item) (col row : Int)
    (hw : ∀ it ∈ l, it.brk = false → 0 < it.w) :
    penLe col row (layout cols l col row).2.1 (layout cols l col row).2.2 := by
  refine layout_ind cols (P := fun l col row r => (∀ it ∈ l, it.brk = false → 0 < it.w) →
    penLe col row r.2.1 r.2.2) ?_ ?_ ?_ ?_ l col row hw
  · intro _ _ _; exact Or.inr ⟨rfl, Int.le_refl _⟩
  · intro it rest col row _ ih hw
    have := ih (fun a h => hw a (List.mem_cons_of_mem _ h)); omega
  · intro it rest col row _ _ _ ih hw
    exact ih (fun a h => hw a (List.mem_cons_of_mem _ h))
  · intro it rest col row qc qr pc pr hb _ hq hp ih hw
    have hpos := hw it List.mem_cons_self hb
    have := ih (fun a h => hw a (List.mem_cons_of_mem _ h)); simp only; omega

theorem layout_lt_end (cols : Int) (l : List Item) (col row : Int)
    (hw : ∀ it ∈ l, it.brk = false → 0 < it.w) :
    ∀ o ∈ (layout cols l col row).1,
      o.row < (layout cols l col row).2.2 ∨
      (o.row = (layout cols l col row).2.2 ∧ o.col < (layout cols l col row).2.1) := by
  refine layout_ind cols (P := fun l _ _ r => (∀ it ∈ l, it.brk = false → 0 < it.w) →
    ∀ o ∈ r.1, o.row < r.2.2 ∨ (o.row = r.2.2 ∧ o.col < r.2.1)) ?_ ?_ ?_ ?_ l col row hw
  · intro _ _ _ o ho; cases ho
  · intro it rest _ _ _ ih hw; exact ih (fun a h => hw a (List.mem_cons_of_mem _ h))
  · intro it rest _ _ _ _ _ ih hw; exact ih (fun a h => hw a (List.mem_cons_of_mem _ h))
  · intro it rest col row qc qr pc pr hb _ hq hp ih hw o ho
    have hw' : ∀ it' ∈ rest, it'.brk = false → 0 < it'.w := fun a h => hw a (List.mem_cons_of_mem _ h)
    have hpos := hw it List.mem_cons_self hb
    rcases List.mem_cons.1 ho with rfl | h
    · have := layout_pen_mono cols rest pc pr hw'
      simp only; omega
    · exact ih hw' o h

theorem layoutWrap_ge_pen (cols : Int) (L : List (List Item)) (col row : Int)
    (hw : ∀ seg ∈ L, ∀ it ∈ seg, it.brk = false → 0 < it.w) :
    (∀ o ∈ (layoutWrap cols L col row).1, penLe col row o.col o.row) ∧
    penLe col row (layoutWrap cols L col row).2.1 (layoutWrap cols L col row).2.2 := by
  refine layoutWrap_ind cols (P := fun L col row r => (∀ seg ∈ L, ∀ it ∈ seg, it.brk = false → 0 < it.w) →
    (∀ o ∈ r.1, penLe col row o.col o.row) ∧ penLe col row r.2.1 r.2.2) ?_ ?_ L col row hw
  · intro _ _ _; exact ⟨(by intro o ho; cases ho), Or.inr ⟨rfl, Int.le_refl _⟩⟩
  · intro seg rest col row pc pr hq ih hw
    have hseg := hw seg List.mem_cons_self
    have h1 := layout_ge_pen cols seg pc pr hseg
    have h2 := layout_pen_mono cols seg pc pr hseg
    have h3 := ih fun s h => hw s (List.mem_cons_of_mem _ h)
    refine ⟨?_, by simp only; omega⟩
    intro o ho
    rcases List.mem_append.1 ho with h | h
    · have := h1 o h; omega
    · have := h3.1 o h; omega

theorem layoutWrap_pairwise (cols : Int) (L : List (List Item)) (col row : Int)
    (hw : ∀ seg ∈ L, ∀ it ∈ seg, it.brk = false → 0 < it.w) :
    List.Pairwise before (layoutWrap cols L col row).1 := by
  refine layoutWrap_ind cols (P := fun L _ _ r => (∀ seg ∈ L, ∀ it ∈ seg, it.brk = false → 0 < it.w) →
    List.Pairwise before r.1) ?_ ?_ L col row hw
  · intro _ _ _; exact List.Pairwise.nil
  · intro seg rest _ _ pc pr _ ih hw
    have hseg := hw seg List.mem_cons_self
    have hrest : ∀ s ∈ rest, ∀ it ∈ s, it.brk = false → 0 < it.w := fun s h => hw s (List.mem_cons_of_mem _ h)
    rw [List.pairwise_append]
    refine ⟨layout_pairwise cols seg pc pr hseg, ih hrest, ?_⟩
    intro a ha b hb
    have h1 := layout_lt_end cols seg pc pr hseg a ha
    have h2 := (layoutWrap_ge_pen cols rest _ _ hrest).1 b hb
    simp only [before]; omega

/-- Everything the reading-order layout writes lies, continuation columns included, left of the
right edge: `col + width ≤ cols`.  No hypothesis on widths or on the pen. -/
theorem layout_fits (cols : Int) (l : List Item) (col row : Int) :
    ∀ o ∈ (layout cols l col row).1, o.col + o.cell.w ≤ cols := by
  refine layout_ind cols (P := fun _ _ _ r => ∀ o ∈ r.1, o.col + o.cell.w ≤ cols) ?_ ?_ ?_ ?_ l col row
  · intro _ _ o ho; cases ho
  · intro _ _ _ _ _ ih; exact ih
  · intro _ _ _ _ _ _ _ ih; exact ih
  · intro it rest col row qc qr pc pr _ hs hq hp ih o ho
    rcases List.mem_cons.1 ho with rfl | h
    · simp only [Item.cell]; omega
    · exact ih o h

theorem layout_col_nonneg (cols : Int) (l : List Item) (col row : Int) (hcol : 0 ≤ col)
    (hw : ∀ it ∈ l, 0 ≤ it.w) : ∀ o ∈ (layout cols l col row).1, 0 ≤ o.col := by
  refine layout_ind cols (P := fun l col _ r => 0 ≤ col → (∀ it ∈ l, 0 ≤ it.w) → ∀ o ∈ r.1, 0 ≤ o.col)
    ?_ ?_ ?_ ?_ l col row hcol hw
  · intro _ _ _ _ o ho; cases ho
  · intro it rest _ _ _ ih _ hw; exact ih (Int.le_refl _) (fun a h => hw a (List.mem_cons_of_mem _ h))
  · intro it rest _ _ _ _ _ ih hcol hw; exact ih hcol (fun a h => hw a (List.mem_cons_of_mem _ h))
  · intro it rest col row qc qr pc pr _ _ hq hp ih hcol hw o ho
    have h0 := hw it List.mem_cons_self
    rcases List.mem_cons.1 ho with rfl | h
    · simp only; omega
    · exact ih (by omega) (fun a h => hw a (List.mem_cons_of_mem _ h)) o h

theorem layoutWrap_fits (cols : Int) (L : List (List Item)) (col row : Int) :
    ∀ o ∈ (layoutWrap cols L col row).1, o.col + o.cell.w ≤ cols := by
  refine layoutWrap_ind cols (P := fun _ _ _ r => ∀ o ∈ r.1, o.col + o.cell.w ≤ cols) ?_ ?_ L col row
  · intro _ _ o ho; cases ho
  · intro seg rest _ _ pc pr _ ih o ho
    rcases List.mem_append.1 ho with h | h
    · exact layout_fits cols seg _ _ o h
    · exact ih o h

theorem layoutLine_fits (cols row : Int) (l : List Item) (col : Int) :
    ∀ o ∈ layoutLine cols row l col, o.col + o.cell.w ≤ cols := by
  induction l generalizing col with
  | nil => intro o ho; cases ho
  | cons it rest ih =>
    intro o ho
    simp only [layoutLine] at ho
    split at ho
    · cases ho
    · rcases List.mem_cons.1 ho with rfl | h
      · simp only [Item.cell]; omega
      · exact ih _ o h

/-- `PrintTruncate`: a call either fits or is at a column the window itself rejects (the ellipsis
in a window without columns). -/
theorem layoutTrunc_fits (cols row : Int) (l : List Item) (col : Int) :
    ∀ o ∈ layoutTrunc cols row l col, cols ≤ o.col ∨ o.col + o.cell.w ≤ cols := by
  induction l generalizing col with
  | nil => intro o ho; cases ho
  | cons it rest ih =>
    intro o ho
    simp only [layoutTrunc] at ho
    split at ho
    · rcases List.mem_singleton.1 ho with rfl
      simp only; omega
    · rcases List.mem_cons.1 ho with rfl | h
      · simp only [Item.cell]; omega
      · exact ih _ o h

theorem layout_end_col_nonneg (cols : Int) (l : List Item) (col row : Int) (hcol : 0 ≤ col)
    (hw : ∀ it ∈ l, 0 ≤ it.w) : 0 ≤ (layout cols l col row).2.1 := by
  refine layout_ind cols (P := fun l col _ r => 0 ≤ col → (∀ it ∈ l, 0 ≤ it.w) → 0 ≤ r.2.1) ?_ ?_ ?_ ?_ l col row hcol hw
  · intro _ _ h _; exact h
  · intro it rest _ _ _ ih _ hw; exact ih (Int.le_refl _) (fun a h => hw a (List.mem_cons_of_mem _ h))
  · intro it rest _ _ _ _ _ ih hcol hw; exact ih hcol (fun a h => hw a (List.mem_cons_of_mem _ h))
  · intro it rest col row qc qr pc pr _ _ hq hp ih hcol hw
    have h0 := hw it List.mem_cons_self
    exact ih (by omega) (fun a h => hw a (List.mem_cons_of_mem _ h))

theorem layout_cell_mem (cols : Int) (l : List Item) (col row : Int) :
    ∀ o ∈ (layout cols l col row).1, ∃ it ∈ l, o.cell = it.cell := by
  refine layout_ind cols (P := fun l _ _ r => ∀ o ∈ r.1, ∃ it ∈ l, o.cell = it.cell) ?_ ?_ ?_ ?_ l col row
  · intro _ _ o ho; cases ho
  · intro it rest _ _ _ ih o ho
    obtain ⟨i, hi, e⟩ := ih o ho; exact ⟨i, List.mem_cons_of_mem _ hi, e⟩
  · intro it rest _ _ _ _ _ ih o ho
    obtain ⟨i, hi, e⟩ := ih o ho; exact ⟨i, List.mem_cons_of_mem _ hi, e⟩
  · intro it rest _ _ _ _ _ _ _ _ _ _ ih o ho
    rcases List.mem_cons.1 ho with rfl | h
    · exact ⟨it, List.mem_cons_self, rfl⟩
    · obtain ⟨i, hi, e⟩ := ih o h; exact ⟨i, List.mem_cons_of_mem _ hi, e⟩

theorem layoutWrap_cell_mem (cols : Int) (L : List (List Item)) (col row : Int) :
    ∀ o ∈ (layoutWrap cols L col row).1, ∃ seg ∈ L, ∃ it ∈ seg, o.cell = it.cell := by
  refine layoutWrap_ind cols (P := fun L _ _ r => ∀ o ∈ r.1, ∃ seg ∈ L, ∃ it ∈ seg, o.cell = it.cell) ?_ ?_ L col row
  · intro _ _ o ho; cases ho
  · intro seg rest _ _ pc pr _ ih o ho
    rcases List.mem_append.1 ho with h | h
    · exact ⟨seg, List.mem_cons_self, layout_cell_mem cols seg _ _ o h⟩
    · obtain ⟨s, hs, e⟩ := ih o h; exact ⟨s, List.mem_cons_of_mem _ hs, e⟩

theorem layoutLine_cell_mem (cols row : Int) (l : List Item) (col : Int) :
    ∀ o ∈ layoutLine cols row l col, ∃ it ∈ l, o.cell = it.cell := by
  induction l generalizing col with
  | nil => intro o ho; cases ho
  | cons it rest ih =>
    intro o ho
    simp only [layoutLine] at ho
    split at ho
    · cases ho
    · rcases List.mem_cons.1 ho with rfl | h
      · exact ⟨it, List.mem_cons_self, rfl⟩
      · obtain ⟨i, hi, e⟩ := ih _ o h; exact ⟨i, List.mem_cons_of_mem _ hi, e⟩

/-- `layoutTrunc` also writes the ellipsis, in the style of the item it stands for. -/
theorem layoutTrunc_cell_mem (cols row : Int) (l : List Item) (col : Int) :
    ∀ o ∈ layoutTrunc cols row l col, ∃ it ∈ l, o.cell = it.cell ∨ o.cell = { g := gEllipsis, w := 1, st := it.st } := by
  induction l generalizing col with
  | nil => intro o ho; cases ho
  | cons it rest ih =>
    intro o ho
    simp only [layoutTrunc] at ho
    split at ho
    · rw [List.mem_singleton.1 ho]; exact ⟨it, List.mem_cons_self, Or.inr rfl⟩
    · rcases List.mem_cons.1 ho with rfl | h
      · exact ⟨it, List.mem_cons_self, Or.inl rfl⟩
      · obtain ⟨i, hi, e⟩ := ih _ o h; exact ⟨i, List.mem_cons_of_mem _ hi, e⟩

end VaxisModel.Lemmas.WindowText
