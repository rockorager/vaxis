import VaxisModel.Model.Wrap
import VaxisModel.Spec.Wrap
import VaxisModel.Spec.WrapDraw
import VaxisModel.Lemmas.ListBasic

/-! The soft-wrap scanner of C16.  One `Scan` is studied through the relation `Run` (a line returned by the
loop, case by case); that the loop returns is proved apart (`scanLoop_returns`); the iteration
`for scanner.Scan()` has the induction principle `scanAll_induct`.  Also here: `firstLineSegment` is a
well-behaved oracle, the row loops of Draw, `HardwrapScanner` and `text.hardLines` (both return the split at "\n"). -/
namespace VaxisModel.Lemmas.Wrap
open VaxisModel.Model.Wrap
open VaxisModel.Spec.Wrap (nonWs content natWidth trimTrailing)

/-- What the theorems assume about a segmentation oracle (checked at run time by the harness on
the real uniseg): on a non-empty input the first segment is non-empty, and a segment that reaches
the end of the input carries the must-break flag (uniseg's LB3 "break at end of text"). -/
def OracleOK {σ : Type} (o : σ → List Cell → Nat × Bool × σ) : Prop :=
  ∀ st rest, rest ≠ [] → 1 ≤ (o st rest).1 ∧ (rest.length ≤ (o st rest).1 → (o st rest).2.1 = true)

theorem OracleOK.pos {σ : Type} {o : σ → List Cell → Nat × Bool × σ} (hok : OracleOK o) {st : σ} {rest : List Cell}
    (hne : rest ≠ []) : 1 ≤ (o st rest).1 := (hok st rest hne).1

theorem OracleOK.lt_of_no_break {σ : Type} {o : σ → List Cell → Nat × Bool × σ} (hok : OracleOK o) {st : σ}
    {rest : List Cell} (hne : rest ≠ []) (hbr : (o st rest).2.1 = false) : (o st rest).1 < rest.length :=
  Nat.lt_of_not_le fun hc => by rw [(hok st rest hne).2 hc] at hbr; cases hbr

def trailing (seg : List Cell) : List Cell := (seg.reverse.takeWhile (·.sp)).reverse

theorem trim_append_trailing (seg : List Cell) : trimRight seg ++ trailing seg = seg := by
  unfold trimRight trailing
  rw [← List.reverse_append, List.takeWhile_append_dropWhile, List.reverse_reverse]

theorem drop_trim (seg : List Cell) : seg.drop (trimRight seg).length = trailing seg := by
  conv => lhs; arg 2; rw [← trim_append_trailing seg]
  simp

theorem take_trim (seg : List Cell) : seg.take (trimRight seg).length = trimRight seg := by
  conv => lhs; arg 2; rw [← trim_append_trailing seg]
  exact List.take_left' rfl

theorem trim_len_le (seg : List Cell) : (trimRight seg).length ≤ seg.length := by
  have := congrArg List.length (trim_append_trailing seg)
  simp only [List.length_append] at this
  omega

theorem seg_split (rest : List Cell) (k : Nat) :
    trimRight (rest.take k) ++ trailing (rest.take k) ++ rest.drop k = rest := by
  rw [trim_append_trailing, List.take_append_drop]

theorem trailing_all_sp (seg : List Cell) : ∀ c ∈ trailing seg, c.sp = true :=
  fun c hc => List.all_eq_true.mp List.all_takeWhile c (List.mem_reverse.mp hc)

theorem content_of_all_sp (l : List Cell) (h : ∀ c ∈ l, c.sp = true) : content l = [] := by
  unfold content
  rw [List.filter_eq_nil_iff]
  intro c hc
  simp [nonWs, h c hc]

theorem content_trailing (seg : List Cell) : content (trailing seg) = [] :=
  content_of_all_sp _ (trailing_all_sp seg)

theorem content_append (a b : List Cell) : content (a ++ b) = content a ++ content b :=
  List.filter_append a b

theorem content_cons_of_nonWs {c : Cell} (cs : List Cell) (h : nonWs c = true) : content (c :: cs) = c :: content cs := by
  simp [content, h]

theorem content_cons_of_ws {c : Cell} (cs : List Cell) (h : ¬ nonWs c = true) : content (c :: cs) = content cs := by
  simp [content, h]

theorem content_seg (seg : List Cell) : content seg = content (trimRight seg) := by
  conv => lhs; rw [← trim_append_trailing seg]
  rw [content_append, content_trailing, List.append_nil]

theorem sumW_append (a b : List Cell) : sumW (a ++ b) = sumW a + sumW b := by
  induction a with
  | nil => simp [sumW]
  | cons c cs ih => simp [sumW, ih]; omega

theorem sumW_trimRight_le (l : List Cell) : sumW (trimRight l) ≤ sumW l := by
  have := congrArg sumW (trim_append_trailing l)
  rw [sumW_append] at this
  omega

theorem sumW_take_le (l : List Cell) (m : Nat) : sumW (l.take m) ≤ sumW l := by
  have := congrArg sumW (List.take_append_drop m l)
  rw [sumW_append] at this
  omega

theorem stripBreak_cases (seg : List Cell) :
    (stripBreak seg = seg ∧ ∀ l, seg.getLast? = some l → l.term = false) ∨
    ∃ l, l.term = true ∧ stripBreak seg ++ [l] = seg := by
  unfold stripBreak
  cases h : seg.getLast? with
  | none => exact .inl ⟨rfl, nofun⟩
  | some l =>
    obtain ⟨ys, rfl⟩ := List.getLast?_eq_some_iff.mp h
    by_cases ht : l.term = true
    · exact .inr ⟨l, ht, by simp [ht]⟩
    · exact .inl ⟨by simp [ht], fun l' hl' => by cases hl'; simpa using ht⟩

theorem content_stripBreak (seg : List Cell) : content (stripBreak seg) = content seg := by
  rcases stripBreak_cases seg with ⟨h, _⟩ | ⟨l, ht, h⟩
  · rw [h]
  · conv => rhs; rw [← h]
    simp [content, nonWs, ht]

theorem stripBreak_eq_take (seg : List Cell) : ∃ m, stripBreak seg = seg.take m := by
  rcases stripBreak_cases seg with ⟨h, _⟩ | ⟨l, _, h⟩
  · exact ⟨seg.length, by simp [h]⟩
  · exact ⟨(stripBreak seg).length, by rw [← congrArg (List.take (stripBreak seg).length) h, List.take_left' rfl]⟩

theorem sumW_stripBreak_le (seg : List Cell) : sumW (stripBreak seg) ≤ sumW seg := by
  obtain ⟨m, hm⟩ := stripBreak_eq_take seg
  rw [hm]; exact sumW_take_le seg m

theorem splitLong_full (width : Nat) (ne : Bool) : ∀ (l : List Cell) (w : Nat), width ≤ w →
    splitLong width ne w l = ([], l) := by
  intro l
  induction l with
  | nil => intro w _; rfl
  | cons c cs ih =>
    intro w h
    unfold splitLong
    simp only []
    generalize hw' : (if (ne && decide (w + c.w > width)) = true then width else w) = w'
    have h' : width ≤ w' := by rw [← hw']; split <;> omega
    simp only [ge_iff_le, h', ↓reduceIte]
    rw [ih w' h']

theorem splitLong_append (width : Nat) : ∀ (l : List Cell) (ne : Bool) (w : Nat),
    (splitLong width ne w l).1 ++ (splitLong width ne w l).2 = l := by
  intro l
  induction l with
  | nil => intro ne w; rfl
  | cons c cs ih =>
    intro ne w
    unfold splitLong
    simp only []
    generalize (if (ne && decide (w + c.w > width)) = true then width else w) = w'
    by_cases h : width ≤ w'
    · simp only [ge_iff_le, h, ↓reduceIte]
      rw [splitLong_full width ne cs w' h]
      rfl
    · simp only [ge_iff_le, h, ↓reduceIte]
      simp [ih]

theorem splitLong_first (width : Nat) (l : List Cell) (hw : 0 < width) (hl : width < sumW l) :
    (splitLong width false 0 l).1 ≠ [] := by
  cases l with
  | nil => simp [sumW] at hl
  | cons c cs =>
    unfold splitLong
    simp only [Bool.false_and]
    have : ¬ (0 ≥ width) := by omega
    simp [this]

theorem splitLong_ne_bound (width : Nat) : ∀ (l : List Cell) (w : Nat), w ≤ width →
    w + sumW (splitLong width true w l).1 ≤ width := by
  intro l
  induction l with
  | nil => intro w h; simp [splitLong, sumW]; exact h
  | cons c cs ih =>
    intro w h
    unfold splitLong
    simp only [Bool.true_and]
    by_cases hfit : w + c.w > width
    · simp only [hfit, decide_true, ↓reduceIte, ge_iff_le, Nat.le_refl]
      rw [splitLong_full width true cs width (Nat.le_refl _)]
      simp [sumW]; exact h
    · simp only [hfit, decide_false, Bool.false_eq_true, ↓reduceIte, ge_iff_le]
      by_cases hge : width ≤ w
      · simp only [hge, ↓reduceIte]
        rw [splitLong_full width true cs w hge]
        simp [sumW]; exact h
      · simp only [hge, ↓reduceIte, sumW]
        have := ih (w + c.w) (by omega)
        omega

theorem splitLong_empty_bound (width : Nat) (l : List Cell) :
    sumW (splitLong width false 0 l).1 ≤ width ∨ ∃ c, (splitLong width false 0 l).1 = [c] := by
  cases l with
  | nil => left; simp [splitLong, sumW]
  | cons c cs =>
    unfold splitLong
    simp only [Bool.false_and, Bool.false_eq_true, ↓reduceIte, ge_iff_le, Nat.zero_add]
    by_cases h0 : width ≤ 0
    · simp only [h0, ↓reduceIte]
      rw [splitLong_full width false cs 0 h0]
      left; simp [sumW]
    · simp only [h0, ↓reduceIte]
      by_cases hc : c.w ≤ width
      · left
        have := splitLong_ne_bound width cs c.w hc
        simp only [sumW]
        omega
      · right
        rw [splitLong_full width true cs c.w (by omega)]
        exact ⟨c, rfl⟩

theorem splitLong_eq {width : Nat} {l t r : List Cell} {ne : Bool} {w : Nat} (e : splitLong width ne w l = (t, r)) :
    t ++ r = l := by
  have := splitLong_append width l ne w
  rwa [e] at this

theorem natWidth_eq_sumW (l : List Cell) : natWidth l = sumW l := by
  induction l with
  | nil => rfl
  | cons c cs ih => simp [natWidth, sumW] at ih ⊢; omega

theorem trimTrailing_eq (l : List Cell) : trimTrailing l = trimRight l := rfl

theorem trimRight_append_sp (a b : List Cell) (h : ∀ c ∈ b, c.sp = true) :
    trimRight (a ++ b) = trimRight a := by
  unfold trimRight
  rw [List.reverse_append, List.dropWhile_append_of_pos fun x hx => h x (List.mem_reverse.mp hx)]

theorem trimmed_prefix_le (token seg : List Cell) (m : Nat) :
    sumW (trimRight (token ++ seg.take m)) ≤ sumW token + sumW (trimRight seg) := by
  have hseg := trim_append_trailing seg
  have : seg.take m = (trimRight seg).take m ++ (trailing seg).take (m - (trimRight seg).length) := by
    conv => lhs; rw [← hseg]
    rw [List.take_append]
  rw [this, ← List.append_assoc, trimRight_append_sp _ _ (by
    intro c hc; exact trailing_all_sp seg c (List.mem_of_mem_take hc))]
  have h1 := sumW_trimRight_le (token ++ (trimRight seg).take m)
  rw [sumW_append] at h1
  have h2 := sumW_take_le (trimRight seg) m
  omega

open VaxisModel.Spec.Wrap (lineWidthOK) in
theorem lineWidthOK_iff (width : Nat) (l : List Cell) :
    lineWidthOK width l = true ↔ sumW (trimRight l) ≤ width ∨ ∃ c, trimRight l = [c] ∧ width < c.w := by
  unfold lineWidthOK
  rw [trimTrailing_eq, natWidth_eq_sumW, Bool.or_eq_true, decide_eq_true_eq]
  refine or_congr Iff.rfl ⟨fun h => ?_, fun ⟨c, hc, h⟩ => by rw [hc]; simpa using h⟩
  split at h
  · exact ⟨_, ‹_›, by simpa using h⟩
  · cases h

open VaxisModel.Spec.Wrap (lineWidthOK) in
theorem lineWidthOK_of_le (width : Nat) (l : List Cell) (h : sumW (trimRight l) ≤ width) :
    lineWidthOK width l = true := (lineWidthOK_iff width l).2 (.inl h)

open VaxisModel.Spec.Wrap (lineWidthOK) in
theorem lineWidthOK_single (width : Nat) (c : Cell) : lineWidthOK width [c] = true := by
  rw [lineWidthOK_iff]
  by_cases hs : c.sp = true
  · exact .inl (by simp [trimRight, hs, sumW])
  · have : trimRight [c] = [c] := by simp [trimRight, hs]
    rw [this]
    by_cases hw : c.w ≤ width
    · exact .inl (by simp [sumW, hw])
    · exact .inr ⟨c, rfl, by omega⟩

/-- `Run o ini width rest st token w p rest' st' tok`: the loop of `Scan`, entered at `(rest, st)` with
the line `token` of width `w` collected so far, consumes the prefix `p` of `rest` (`Run.split`), returns the
line `tok` and leaves `(rest', st')`.
One constructor for each way a line ends (`long`: the word is wider than the line and `splitLong` divides it
into `t`, which goes on the line, and `r`; `defer`: the segment is left for the next line; `brk`: must-break;
`full`: the trailing space does not fit) and `next` for one more round.  Every statement of the form "if
`Scan` returns a line, then …" is an induction over this relation (`scanLoop_run`). -/
inductive Run {σ : Type} (o : σ → List Cell → Nat × Bool × σ) (ini : σ) (width : Nat) :
    List Cell → σ → List Cell → Nat → List Cell → List Cell → σ → List Cell → Prop where
  | long {rest st token w t r} : width < sumW (trimRight (rest.take (o st rest).1)) →
      splitLong width (!token.isEmpty) w (trimRight (rest.take (o st rest).1)) = (t, r) →
      Run o ini width rest st token w t
        (r ++ trailing (rest.take (o st rest).1) ++ rest.drop (o st rest).1) ini (token ++ t)
  | defer {rest st token w} : sumW (trimRight (rest.take (o st rest).1)) ≤ width →
      width < w + sumW (trimRight (rest.take (o st rest).1)) →
      Run o ini width rest st token w [] rest st token
  | brk {rest st token w} : w + sumW (trimRight (rest.take (o st rest).1)) ≤ width →
      (o st rest).2.1 = true →
      Run o ini width rest st token w (rest.take (o st rest).1) (rest.drop (o st rest).1) (o st rest).2.2
        (token ++ stripBreak (rest.take (o st rest).1))
  | full {rest st token w} : w + sumW (trimRight (rest.take (o st rest).1)) ≤ width →
      (o st rest).2.1 = false →
      width < w + sumW (trimRight (rest.take (o st rest).1)) + sumW (trailing (rest.take (o st rest).1)) →
      Run o ini width rest st token w (rest.take (o st rest).1) (rest.drop (o st rest).1) (o st rest).2.2
        (token ++ trimRight (rest.take (o st rest).1))
  | next {rest st token w p rest' st' tok} : w + sumW (trimRight (rest.take (o st rest).1)) ≤ width →
      (o st rest).2.1 = false →
      w + sumW (trimRight (rest.take (o st rest).1)) + sumW (trailing (rest.take (o st rest).1)) ≤ width →
      Run o ini width (rest.drop (o st rest).1) (o st rest).2.2
        (token ++ trimRight (rest.take (o st rest).1) ++ trailing (rest.take (o st rest).1))
        (w + sumW (trimRight (rest.take (o st rest).1)) + sumW (trailing (rest.take (o st rest).1)))
        p rest' st' tok →
      Run o ini width rest st token w (rest.take (o st rest).1 ++ p) rest' st' tok

/-- `Taken o st rest st1 rest1`: starting at `(st, rest)` the scanner took whole segments, none of
which carried the must-break flag, and now stands at `(st1, rest1)`. -/
inductive Taken {σ : Type} (o : σ → List Cell → Nat × Bool × σ) : σ → List Cell → σ → List Cell → Prop where
  | refl (st : σ) (rest : List Cell) : Taken o st rest st rest
  | step {st : σ} {rest : List Cell} {st1 : σ} {rest1 : List Cell} :
      Taken o st rest st1 rest1 → (o st1 rest1).2.1 = false →
      Taken o st rest (o st1 rest1).2.2 (rest1.drop (o st1 rest1).1)

/-- How a `Scan` that returned `(rest', st')` ended, relative to the position `(st1, rest1)` reached
by taking whole non-breaking segments. -/
inductive Ending {σ : Type} (o : σ → List Cell → Nat × Bool × σ) (ini : σ) (width : Nat)
    (st1 : σ) (rest1 : List Cell) (st' : σ) (rest' : List Cell) : Prop where
  /-- the next segment was left for the next line (its word does not fit behind the token) -/
  | left : rest' = rest1 → st' = st1 → sumW (trimRight (rest1.take (o st1 rest1).1)) ≤ width → Ending o ini width st1 rest1 st' rest'
  /-- the next segment was taken whole and ends the line (must-break, or its trailing space does not fit) -/
  | last : rest' = rest1.drop (o st1 rest1).1 → st' = (o st1 rest1).2.2 →
      sumW (trimRight (rest1.take (o st1 rest1).1)) ≤ width → Ending o ini width st1 rest1 st' rest'
  /-- the next segment was divided: its word part is wider than the line -/
  | split : width < sumW (trimRight (rest1.take (o st1 rest1).1)) → st' = ini →
      (∃ t r, t ++ r = trimRight (rest1.take (o st1 rest1).1) ∧
        rest' = r ++ trailing (rest1.take (o st1 rest1).1) ++ rest1.drop (o st1 rest1).1) →
      Ending o ini width st1 rest1 st' rest'

section
variable {σ : Type} {o : σ → List Cell → Nat × Bool × σ} {ini : σ} {width : Nat}
  {rest rest' p : List Cell} {st st' : σ} {token tok : List Cell} {w : Nat}

theorem scanLoop_run :
    ∀ (fuel : Nat) (rest : List Cell) (st : σ) (token : List Cell) (w : Nat),
    scanLoop o ini width fuel rest st token w = .line rest' st' tok →
    ∃ p, Run o ini width rest st token w p rest' st' tok := by
  intro fuel
  induction fuel with
  | zero => intro rest st token w h; simp [scanLoop] at h
  | succ n ih =>
    intro rest st token w h
    unfold scanLoop at h
    simp only [] at h
    rw [drop_trim] at h
    split at h
    · cases h; exact ⟨_, .long ‹_› rfl⟩
    · split at h
      · cases h; exact ⟨_, .defer (by omega) ‹_›⟩
      · split at h
        · cases h; exact ⟨_, .brk (by omega) ‹_›⟩
        · rename_i hbr
          have hbr := Bool.eq_false_iff.mpr hbr
          split at h
          · cases h; exact ⟨_, .full (by omega) hbr ‹_›⟩
          · obtain ⟨p, hr⟩ := ih _ _ _ _ h
            exact ⟨_, .next (by omega) hbr (by omega) hr⟩

theorem Run.split (h : Run o ini width rest st token w p rest' st' tok) : rest = p ++ rest' := by
  induction h with
  | @long rest st _ _ _ _ _ e => rw [← List.append_assoc, ← List.append_assoc, splitLong_eq e, seg_split]
  | defer => rfl
  | brk | full => exact (List.take_append_drop _ _).symm
  | next _ _ _ _ ih => rw [List.append_assoc, ← ih, List.take_append_drop]

theorem Run.consumed (h : Run o ini width rest st token w p rest' st' tok) :
    content tok = content (token ++ p) ∧ sumW tok ≤ sumW (token ++ p) := by
  induction h with
  | long => exact ⟨rfl, Nat.le_refl _⟩
  | defer => exact ⟨by rw [List.append_nil], by rw [List.append_nil]; exact Nat.le_refl _⟩
  | @brk rest st token w _ _ =>
    refine ⟨by rw [content_append, content_append, content_stripBreak], ?_⟩
    have := sumW_stripBreak_le (rest.take (o st rest).1)
    rw [sumW_append, sumW_append]; omega
  | @full rest st token w _ _ _ =>
    refine ⟨by rw [content_append, content_append, ← content_seg], ?_⟩
    have := sumW_trimRight_le (rest.take (o st rest).1)
    rw [sumW_append, sumW_append]; omega
  | @next rest st token w _ _ _ _ _ _ _ _ ih =>
    obtain ⟨hc, hs⟩ := ih
    rw [List.append_assoc token, trim_append_trailing, List.append_assoc] at hc hs
    exact ⟨hc, hs⟩

open VaxisModel.Spec.Wrap (lineWidthOK) in
theorem Run.line_width (h : Run o ini width rest st token w p rest' st' tok) :
    sumW token = w → w ≤ width → lineWidthOK width tok = true := by
  induction h with
  | @long rest st token w t r _ e =>
    intro hsum hle
    cases token with
    | nil =>
      simp only [sumW] at hsum
      subst hsum
      simp only [List.isEmpty_nil, Bool.not_true] at e
      rw [List.nil_append]
      rcases splitLong_empty_bound width (trimRight (rest.take (o st rest).1)) with hb | ⟨c, hc⟩
      · rw [e] at hb
        exact lineWidthOK_of_le width _ (Nat.le_trans (sumW_trimRight_le _) hb)
      · rw [e] at hc; dsimp only at hc; rw [hc]; exact lineWidthOK_single width c
    | cons a as =>
      have hb := splitLong_ne_bound width (trimRight (rest.take (o st rest).1)) w hle
      simp only [List.isEmpty_cons, Bool.not_false] at e
      rw [e] at hb; dsimp only at hb
      have := sumW_trimRight_le ((a :: as) ++ t)
      rw [sumW_append, hsum] at this
      exact lineWidthOK_of_le _ _ (by omega)
  | @defer rest st token w _ _ =>
    intro hsum hle
    have := sumW_trimRight_le token
    exact lineWidthOK_of_le _ _ (by omega)
  | @brk rest st token w _ _ =>
    intro hsum hle
    obtain ⟨m, hm⟩ := stripBreak_eq_take (rest.take (o st rest).1)
    have := trimmed_prefix_le token (rest.take (o st rest).1) m
    rw [hm]
    exact lineWidthOK_of_le _ _ (by omega)
  | @full rest st token w _ _ _ =>
    intro hsum hle
    have := sumW_trimRight_le (token ++ trimRight (rest.take (o st rest).1))
    rw [sumW_append] at this
    exact lineWidthOK_of_le _ _ (by omega)
  | next _ _ h3 _ ih =>
    intro hsum _
    exact ih (by rw [sumW_append, sumW_append, hsum]) h3

theorem Run.structure (h : Run o ini width rest st token w p rest' st' tok) {st0 : σ} {rest0 : List Cell} :
    Taken o st0 rest0 st rest →
    ∃ st1 rest1, Taken o st0 rest0 st1 rest1 ∧ Ending o ini width st1 rest1 st' rest' := by
  induction h with
  | long hl e => exact fun htk => ⟨_, _, htk, .split hl rfl ⟨_, _, splitLong_eq e, rfl⟩⟩
  | defer h1 _ => exact fun htk => ⟨_, _, htk, .left rfl rfl h1⟩
  | brk | full => exact fun htk => ⟨_, _, htk, .last rfl rfl (by omega)⟩
  | next _ hbr _ _ ih => exact fun htk => ih (htk.step hbr)

theorem Taken.preserves {P : List Cell → σ → Prop}
    (step : ∀ rest st, P rest st → P (rest.drop (o st rest).1) (o st rest).2.2)
    {st1 : σ} {rest1 : List Cell} (h : Taken o st rest st1 rest1) (h0 : P rest st) :
    P rest1 st1 := by
  induction h with
  | refl => exact h0
  | step _ _ ih => exact step _ _ ih

theorem scan_run (h : scan o ini width rest st = .line rest' st' tok) :
    rest ≠ [] ∧ 0 < width ∧ ∃ p, Run o ini width rest st [] 0 p rest' st' tok := by
  unfold scan at h
  split at h
  · cases h
  · rename_i hg
    simp only [Bool.or_eq_true, List.isEmpty_iff, beq_iff_eq, not_or] at hg
    exact ⟨hg.1, by omega, scanLoop_run _ _ _ _ _ h⟩

theorem scanLoop_returns (hok : OracleOK o) (fuel : Nat) (rest : List Cell) (st : σ) (token : List Cell) (w : Nat) :
    rest ≠ [] → rest.length ≤ fuel →
    ∃ rest' st' tok, scanLoop o ini width fuel rest st token w = .line rest' st' tok := by
  fun_induction scanLoop o ini width fuel rest st token w with
  | case1 => intro hne hf; exact absurd (List.length_eq_zero_iff.mp (by omega)) hne
  | case2 => exact fun _ _ => ⟨_, _, _, rfl⟩
  | case3 => exact fun _ _ => ⟨_, _, _, rfl⟩
  | case4 => exact fun _ _ => ⟨_, _, _, rfl⟩
  | case5 => exact fun _ _ => ⟨_, _, _, rfl⟩
  | case6 fuel rest st token w r seg rest' br word trSpace wordLen spaceLen h1 h2 hbr token1 w1 h4 ih =>
    intro hne hf
    have hklt : r.1 < rest.length := hok.lt_of_no_break hne (Bool.eq_false_iff.mpr hbr)
    have : 1 ≤ r.1 := hok.pos hne
    exact ih (by rw [Ne, List.drop_eq_nil_iff]; omega) (by rw [List.length_drop]; omega)

theorem Run.shorter (hok : OracleOK o) (hw : 0 < width) (hne : rest ≠ [])
    (h : Run o ini width rest st [] 0 p rest' st' tok) :
    rest'.length < rest.length := by
  have hk : 1 ≤ (o st rest).1 := hok.pos hne
  have hpos : 0 < rest.length := List.length_pos_iff.mpr hne
  have hlen := congrArg List.length (seg_split rest (o st rest).1)
  simp only [List.length_append] at hlen
  have hdrop : (rest.drop (o st rest).1).length < rest.length := by rw [List.length_drop]; omega
  cases h with
  | long hl e =>
    have hs := congrArg List.length (splitLong_eq e)
    have h1 := splitLong_first width _ hw hl
    simp only [List.isEmpty_nil, Bool.not_true] at e
    rw [e] at h1; dsimp only at h1
    have := List.length_pos_iff.mpr h1
    simp only [List.length_append] at hs ⊢
    omega
  | defer h1 h2 => omega
  | brk | full => exact hdrop
  | next _ _ _ h =>
    have := congrArg List.length h.split
    simp only [List.length_append] at this
    omega

theorem scan_cases (o : σ → List Cell → Nat × Bool × σ) (ini : σ) (width : Nat) (hok : OracleOK o)
    (rest : List Cell) (st : σ) :
    (scan o ini width rest st = .stop ∧ (rest = [] ∨ width = 0)) ∨
    (0 < width ∧ ∃ rest' st' tok, scan o ini width rest st = .line rest' st' tok ∧ rest'.length < rest.length ∧
      content tok ++ content rest' = content rest) := by
  by_cases h : (rest.isEmpty || width == 0) = true
  · left
    simp only [scan, h, ↓reduceIte, true_and]
    simpa using h
  · right
    have hne : rest ≠ [] := by intro h0; simp [h0] at h
    obtain ⟨rest', st', tok, heq⟩ :=
      scanLoop_returns (ini := ini) (width := width) hok rest.length rest st [] 0 hne (Nat.le_refl _)
    have hs : scan o ini width rest st = .line rest' st' tok := by simp only [scan, h]; exact heq
    obtain ⟨_, hw, p, hrun⟩ := scan_run hs
    refine ⟨hw, rest', st', tok, hs, hrun.shorter hok hw hne, ?_⟩
    rw [hrun.consumed.1, hrun.split, List.nil_append, content_append]

theorem scanLoop_ne_stop (fuel : Nat) (rest : List Cell) (st : σ) (token : List Cell) (w : Nat) :
    scanLoop o ini width fuel rest st token w ≠ .stop := by
  fun_induction scanLoop o ini width fuel rest st token w <;> first | assumption | (intro h; cases h)

/-- Induction over the iteration `for scanner.Scan() { … }`: the text is exhausted (or the width is 0),
or a `Scan` returns a line and the iteration goes on behind it. -/
theorem scanAll_induct {motive : List Cell → σ → List (List Cell) → Prop}
    (stop : ∀ rest st, rest = [] ∨ width = 0 → motive rest st [])
    (line : ∀ {rest st rest' st' tok ls}, scan o ini width rest st = .line rest' st' tok →
      motive rest' st' ls → motive rest st (tok :: ls)) :
    ∀ (fuel : Nat) (rest : List Cell) (st : σ) (ls : List (List Cell)),
    scanAll o ini width fuel rest st = .ok ls → motive rest st ls := by
  intro fuel
  induction fuel with
  | zero => intro rest st ls h; simp [scanAll] at h
  | succ n ih =>
    intro rest st ls h
    unfold scanAll at h
    split at h
    · rename_i hs
      cases h
      apply stop
      unfold scan at hs
      split at hs
      · rename_i hg; simpa using hg
      · exact absurd hs (scanLoop_ne_stop _ _ _ _ _)
    · cases h
    · split at h
      · cases h; exact line ‹_› (ih _ _ _ ‹_›)
      · cases h

end

theorem scanAll_ok {σ : Type} (o : σ → List Cell → Nat × Bool × σ) (ini : σ) (width : Nat) (hok : OracleOK o) :
    ∀ (fuel : Nat) (rest : List Cell) (st : σ), rest.length < fuel →
    ∃ ls, scanAll o ini width fuel rest st = .ok ls ∧ (0 < width → content ls.flatten = content rest) := by
  intro fuel
  induction fuel with
  | zero => intro rest st h; omega
  | succ f ih =>
    intro rest st hf
    unfold scanAll
    rcases scan_cases o ini width hok rest st with ⟨hs, hz⟩ | ⟨hw, rest', st', tok, hs, hlt, hc⟩
    · rw [hs]
      refine ⟨[], rfl, ?_⟩
      intro hw
      rcases hz with hz | hz
      · subst hz; rfl
      · omega
    · rw [hs]
      obtain ⟨ls, hls, hcons⟩ := ih rest' st' (by omega)
      simp only [hls]
      refine ⟨tok :: ls, rfl, ?_⟩
      intro _
      rw [List.flatten_cons, content_append, hcons hw, hc]

theorem lines_ok {σ : Type} (o : σ → List Cell → Nat × Bool × σ) (ini : σ) (width : Nat) (hok : OracleOK o)
    (cells : List Cell) (st0 : σ) :
    ∃ ls, lines o ini width cells st0 = .ok ls ∧ (0 < width → content ls.flatten = content cells) :=
  scanAll_ok o ini width hok (cells.length + 1) cells st0 (Nat.lt_succ_self _)

open VaxisModel.Spec.Wrap (lineWidthOK) in
theorem scan_width {σ : Type} (o : σ → List Cell → Nat × Bool × σ) (ini : σ) (width : Nat)
    (rest : List Cell) (st : σ) (rest' : List Cell) (st' : σ) (tok : List Cell)
    (h : scan o ini width rest st = .line rest' st' tok) : lineWidthOK width tok = true :=
  (scan_run h).2.2.elim fun _ hr => hr.line_width rfl (Nat.zero_le _)

open VaxisModel.Spec.Wrap (lineWidthOK) in
theorem scanAll_width {σ : Type} (o : σ → List Cell → Nat × Bool × σ) (ini : σ) (width : Nat) :
    ∀ (fuel : Nat) (rest : List Cell) (st : σ) (ls : List (List Cell)),
    scanAll o ini width fuel rest st = .ok ls → ∀ l ∈ ls, lineWidthOK width l = true :=
  scanAll_induct (fun _ _ _ => nofun) fun hs ih l hl => by
    rcases List.mem_cons.mp hl with rfl | hl
    · exact scan_width o ini width _ _ _ _ _ hs
    · exact ih l hl

theorem scan_structure {σ : Type} (o : σ → List Cell → Nat × Bool × σ) (ini : σ) (width : Nat)
    (rest : List Cell) (st : σ) (rest' : List Cell) (st' : σ) (tok : List Cell)
    (h : scan o ini width rest st = .line rest' st' tok) :
    ∃ st1 rest1, Taken o st rest st1 rest1 ∧ Ending o ini width st1 rest1 st' rest' :=
  (scan_run h).2.2.elim fun _ hr => hr.structure (.refl st rest)

theorem scanAll_width_zero {σ : Type} (o : σ → List Cell → Nat × Bool × σ) (ini : σ)
    (fuel : Nat) (rest : List Cell) (st : σ) (ls : List (List Cell))
    (h : scanAll o ini 0 fuel rest st = .ok ls) : ls = [] := by
  cases fuel with
  | zero => simp [scanAll] at h
  | succ n =>
    have : scan o ini 0 rest st = .stop := by simp [scan]
    simp only [scanAll, this] at h
    cases h; rfl

/-- Line numbers of the non-whitespace graphemes of consecutive lines, the first line being `k`. -/
def lineIdxFrom : Nat → List (List Cell) → List Nat
  | _, [] => []
  | k, l :: ls => (content l).map (fun _ => k) ++ lineIdxFrom (k + 1) ls

theorem lineIndex_from (ls : List (List Cell)) (k : Nat) :
    ((ls.zipIdx k).map fun p => (content p.1).map fun _ => p.2).flatten = lineIdxFrom k ls := by
  induction ls generalizing k with
  | nil => rfl
  | cons l ls ih => simp only [List.zipIdx_cons, List.map_cons, List.flatten_cons, lineIdxFrom, ih]

theorem lineIndex_eq (ls : List (List Cell)) : VaxisModel.Spec.Wrap.lineIndex ls = lineIdxFrom 0 ls :=
  lineIndex_from ls 0

theorem firstLineSegment_spec (lb : Nat → Nat → Bool) : ∀ (l : List Cell) (first : Bool), l ≠ [] →
    1 ≤ (firstLineSegment lb first l).1 ∧ (firstLineSegment lb first l).1 ≤ l.length ∧
    ((firstLineSegment lb first l).1 = l.length → (firstLineSegment lb first l).2 = true) := by
  intro l first
  fun_induction firstLineSegment lb first l with
  | case1 => intro h; exact absurd rfl h
  | case2 => simp
  | case3 => simp
  | case4 => simp
  | case5 => simp
  | case6 first c n rest h1 h2 h3 r ih =>
    intro _
    obtain ⟨i1, i2, i3⟩ := ih (by simp)
    simp only [r, List.length_cons] at i1 i2 i3 ⊢
    exact ⟨by omega, by omega, fun h => i3 (by omega)⟩

theorem richOracle_ok (lb : Nat → Nat → Bool) : OracleOK (richOracle lb) := by
  intro st rest hne
  have := firstLineSegment_spec lb rest true hne
  simp only [richOracle]
  refine ⟨this.1, ?_⟩
  intro h
  exact this.2.2 (by omega)

/-- Where `firstLineSegment` goes past its first cell, that cell is no terminator (`first`: the cell may be one
and then is the whole segment; not `first`: the caller has excluded it). -/
theorem fls_head_noterm {first : Bool} {c : Cell} {cs : List Cell} (h1 : ¬ (first && c.term) = true)
    (hfirst : first = false → ∀ x, (c :: cs).head? = some x → x.term = false) : c.term = false := by
  cases first with
  | true => simpa using h1
  | false => exact hfirst rfl c rfl

theorem firstLineSegment_term (lb : Nat → Nat → Bool) : ∀ (l : List Cell) (first : Bool),
    (first = false → ∀ c, l.head? = some c → c.term = false) →
    (∀ c ∈ (l.take (firstLineSegment lb first l).1).dropLast, c.term = false) ∧
    (∀ c, (l.take (firstLineSegment lb first l).1).getLast? = some c → c.term = true →
      (firstLineSegment lb first l).2 = true) := by
  intro l first
  fun_induction firstLineSegment lb first l with
  | case1 => simp
  | case2 => simp
  | case3 => simp
  | case4 first c n rest h1 h2 => intro hfirst; simp [fls_head_noterm h1 hfirst]
  | case5 first c n rest h1 h2 h3 => intro hfirst; simp [fls_head_noterm h1 hfirst]
  | case6 first c n rest h1 h2 h3 r ih =>
    intro hfirst
    have hrec := ih (fun _ c' hc' => by simp at hc'; subst hc'; simpa using h2)
    have hpos : 1 ≤ r.1 := (firstLineSegment_spec lb (n :: rest) false (by simp)).1
    obtain ⟨k, hk⟩ : ∃ k, r.1 = k + 1 := ⟨_, (Nat.sub_add_cancel hpos).symm⟩
    simp only [show firstLineSegment lb false (n :: rest) = r from rfl, hk, List.take_succ_cons] at hrec ⊢
    constructor
    · intro x hx
      rw [List.dropLast_cons_of_ne_nil (by simp)] at hx
      rcases List.mem_cons.mp hx with rfl | hx
      · exact fls_head_noterm h1 hfirst
      · exact hrec.1 x hx
    · intro x hx hterm
      rw [List.getLast?_cons_cons] at hx
      exact hrec.2 x hx hterm

theorem drawRows_spec (maxW maxH : UInt16) : ∀ (ls : List (List Cell)) (row : UInt16),
    row.toNat + ls.length ≤ maxH.toNat →
    (drawRows maxW maxH row ls).map (·.2) = ls.map (drawRow maxW 0) ∧
    (drawRows maxW maxH row ls).map (·.1.toNat) = List.range' row.toNat ls.length := by
  intro ls
  induction ls with
  | nil => intro row _; simp [drawRows]
  | cons l ls ih =>
    intro row h
    simp only [List.length_cons] at h
    have hle : ¬ row ≥ maxH := by
      rw [ge_iff_le, UInt16.le_iff_toNat_le]; omega
    unfold drawRows
    simp only [hle, ↓reduceIte, List.map_cons, List.length_cons, List.range'_succ]
    have hrow := VaxisModel.Lemmas.ListBasic.u16_succ_toNat (x := row) (m := maxH) (by omega)
    have := ih (row + 1) (by rw [hrow]; omega)
    rw [hrow] at this
    exact ⟨by rw [this.1], by rw [this.2]⟩

theorem drawRow_spec (maxW : UInt16) : ∀ (l : List Cell) (col : UInt16),
    (∀ c ∈ l, 0 < c.w) → col.toNat + sumW l ≤ maxW.toNat →
    (drawRow maxW col l).map (·.2) = l ∧
    ∀ k, k < l.length → ((drawRow maxW col l).map (·.1.toNat))[k]? = some (col.toNat + sumW (l.take k)) := by
  intro l
  induction l with
  | nil => intro col _ _; simp [drawRow]
  | cons c cs ih =>
    intro col hpos hfit
    have hc := hpos c (by simp)
    simp only [sumW] at hfit
    have hm := UInt16.toNat_lt maxW
    have hlt : ¬ col ≥ maxW := by
      rw [ge_iff_le, UInt16.le_iff_toNat_le]; omega
    have hcol : (col + c.w16).toNat = col.toNat + c.w := by
      rw [UInt16.toNat_add, Cell.w16, UInt16.toNat_ofNat']
      have : c.w % 2 ^ 16 = c.w := Nat.mod_eq_of_lt (by omega)
      rw [this]
      exact Nat.mod_eq_of_lt (by omega)
    unfold drawRow
    simp only [hlt, ↓reduceIte, List.map_cons]
    have := ih (col + c.w16) (fun x hx => hpos x (by simp [hx])) (by rw [hcol]; omega)
    refine ⟨by rw [this.1], ?_⟩
    intro k hk
    cases k with
    | zero => simp [sumW]
    | succ k =>
      simp only [List.length_cons] at hk
      have := this.2 k (by omega)
      simp only [List.getElem?_cons_succ, List.take_succ_cons, sumW]
      rw [this, hcol]
      congr 1
      omega

def notNl (l : List Cell) : List Cell := l.filter (fun c => !c.nl)

open VaxisModel.Spec.WrapDraw (splitNl splitNlAux)

theorem hardLoop_spec (cells line : List Cell) :
    (hardLoop line cells).2.length ≤ cells.length ∧
    (cells ≠ [] → (hardLoop line cells).2.length < cells.length) := by
  fun_induction hardLoop line cells with
  | case1 => simp
  | case2 line c cs hn he => simp
  | case3 line c cs hn he => simp
  | case4 line c cs hn ih =>
    exact ⟨by simp only [List.length_cons]; omega, fun _ => by simp only [List.length_cons]; omega⟩

theorem hardLoop_cons (line : List Cell) (c : Cell)
    (cs : List Cell) :
    hardLoop line (c :: cs) =
      if c.nl then (if cs.isEmpty then (line, []) else (line, cs)) else hardLoop (line ++ [c]) cs := by
  rw [hardLoop]

theorem splitNlAux_cons (line : List Cell) (c : Cell)
    (cs : List Cell) :
    splitNlAux line (c :: cs) =
      if c.nl then (if cs.isEmpty then [line] else line :: splitNlAux [] cs)
      else splitNlAux (line ++ [c]) cs := by
  rw [splitNlAux]

theorem hardLoop_split : ∀ (cells line : List Cell), cells ≠ [] →
    ∀ fuel, (hardLoop line cells).2.length < fuel →
    ∃ ls, hardAll fuel (hardLoop line cells).2 = .ok ls ∧
      splitNlAux line cells = (hardLoop line cells).1 :: ls := by
  intro cells
  induction cells with
  | nil => intro line h; exact absurd rfl h
  | cons c cs ih =>
    intro line _ fuel hf
    rw [hardLoop_cons] at hf ⊢
    rw [splitNlAux_cons]
    by_cases hn : c.nl = true
    · simp only [hn, ↓reduceIte] at hf ⊢
      by_cases he : cs.isEmpty = true
      · simp only [he, ↓reduceIte] at hf ⊢
        cases fuel with
        | zero => simp at hf
        | succ f => exact ⟨[], by simp [hardAll, hardScan], rfl⟩
      · simp only [he, Bool.false_eq_true, ↓reduceIte] at hf ⊢
        have hne : cs ≠ [] := by intro h0; subst h0; simp at he
        cases fuel with
        | zero => simp at hf
        | succ f =>
          have he' : cs.isEmpty = false := by simpa using he
          have hlen := (hardLoop_spec cs []).2 hne
          obtain ⟨ls, h1, h2⟩ := ih [] hne f (by omega)
          refine ⟨(hardLoop [] cs).1 :: ls, ?_, by rw [h2]⟩
          simp only [hardAll, hardScan, he', Bool.false_eq_true, ↓reduceIte, h1]
    · have hn' : c.nl = false := by simpa using hn
      simp only [hn', Bool.false_eq_true, ↓reduceIte] at hf ⊢
      cases cs with
      | nil =>
        simp only [hardLoop, splitNlAux] at hf ⊢
        cases fuel with
        | zero => simp at hf
        | succ f => exact ⟨[], by simp [hardAll, hardScan], rfl⟩
      | cons d ds => exact ih (line ++ [c]) (by simp) fuel hf

theorem textHardLoop_eq_split : ∀ (cs cur : List Cell), cs ≠ [] →
    textHardLoop cur cs = splitNlAux cur.reverse cs := by
  intro cs
  induction cs with
  | nil => intro cur h; exact absurd rfl h
  | cons c cs ih =>
    intro cur _
    cases cs with
    | nil =>
      by_cases hc : c.nl = true
      · simp [textHardLoop, splitNlAux, hc]
      · simp [textHardLoop, splitNlAux, hc]
    | cons d ds =>
      rw [textHardLoop, splitNlAux_cons, ih [] (by simp), ih (c :: cur) (by simp), List.reverse_cons, List.reverse_nil]
      simp only [List.isEmpty_cons, Bool.false_eq_true, ↓reduceIte]

theorem hardLines_eq_split (cells : List Cell) : hardLines cells = .ok (splitNl cells) := by
  unfold hardLines splitNl
  by_cases he : cells.isEmpty = true
  · have : cells = [] := List.isEmpty_iff.mp he
    subst this
    simp [hardAll, hardScan]
  · have hne : cells ≠ [] := by intro h0; subst h0; simp at he
    have he' : cells.isEmpty = false := by simpa using he
    obtain ⟨ls, h1, h2⟩ := hardLoop_split cells [] hne cells.length ((hardLoop_spec cells []).2 hne)
    simp only [hardAll, hardScan, he', Bool.false_eq_true, ↓reduceIte, h1, h2]

theorem notNl_splitNlAux : ∀ (cs cur : List Cell), notNl (splitNlAux cur cs).flatten = notNl cur ++ notNl cs := by
  intro cs
  induction cs with
  | nil => intro cur; simp [splitNlAux, notNl]
  | cons c cs ih =>
    intro cur
    rw [splitNlAux_cons]
    by_cases hn : c.nl = true
    · rw [if_pos hn]
      by_cases he : cs.isEmpty = true
      · rw [if_pos he, List.isEmpty_iff.mp he]; simp [notNl, hn]
      · rw [if_neg he, List.flatten_cons]
        unfold notNl at ih ⊢
        rw [List.filter_append, ih []]; simp [hn]
    · rw [if_neg hn, ih]; simp [notNl, hn]

theorem notNl_splitNl (cells : List Cell) : notNl (splitNl cells).flatten = notNl cells := by
  unfold splitNl
  split
  · rename_i he; rw [List.isEmpty_iff.mp he]; rfl
  · rw [notNl_splitNlAux]; rfl

theorem scanAll_sumW {σ : Type} (o : σ → List Cell → Nat × Bool × σ) (ini : σ) (width : Nat) :
    ∀ (fuel : Nat) (rest : List Cell) (st : σ) (ls : List (List Cell)),
    scanAll o ini width fuel rest st = .ok ls → ∀ l ∈ ls, sumW l ≤ sumW rest :=
  scanAll_induct (fun _ _ _ => nofun) fun hs ih l hl => by
    obtain ⟨p, hrun⟩ := (scan_run hs).2.2
    have hle := hrun.consumed.2
    have := congrArg sumW hrun.split
    rw [sumW_append] at this
    rw [List.nil_append] at hle
    rcases List.mem_cons.mp hl with rfl | hl
    · omega
    · have := ih l hl
      omega

theorem sumW_take_getElem (t : List Cell) (j : Nat) (c : Cell)
    (h : t[j]? = some c) : sumW (t.take j) + c.w ≤ sumW t := by
  induction t generalizing j with
  | nil => simp at h
  | cons a as ih =>
    cases j with
    | zero =>
      simp only [List.getElem?_cons_zero, Option.some.injEq] at h
      subst h
      simp [sumW]
    | succ j =>
      simp only [List.getElem?_cons_succ] at h
      have := ih j h
      simp only [List.take_succ_cons, sumW]
      omega

theorem trimRight_prefix (l : List Cell) (j : Nat) (c : Cell)
    (h : (trimRight l)[j]? = some c) : l[j]? = some c ∧ l.take j = (trimRight l).take j := by
  have hl := trim_append_trailing l
  have hj : j < (trimRight l).length := (List.getElem?_eq_some_iff.mp h).1
  constructor
  · conv => lhs; rw [← hl]
    rw [List.getElem?_append_left hj]; exact h
  · conv => lhs; rw [← hl]
    rw [List.take_append_of_le_length (by omega)]

open VaxisModel.Spec.Wrap (lineWidthOK) in
theorem lineWidthOK_starts {width : Nat} {l : List Cell} (h : lineWidthOK width l = true) (hw : width ≠ 0)
    {j : Nat} {c : Cell} (hj : (trimRight l)[j]? = some c) (hc : 0 < c.w) :
    sumW (l.take j) < min (sumW l) width := by
  have hps := sumW_take_getElem (trimRight l) j c hj
  have htl := sumW_trimRight_le l
  have hjlen : j < (trimRight l).length := (List.getElem?_eq_some_iff.mp hj).1
  rw [(trimRight_prefix l j c hj).2]
  rcases (lineWidthOK_iff width l).1 h with h' | ⟨c', hc', h'⟩
  · omega
  · rw [hc'] at hjlen hps htl ⊢
    simp only [List.length_singleton] at hjlen
    obtain rfl : j = 0 := by omega
    simp only [sumW] at htl
    simp only [List.take_zero, sumW]
    omega

end VaxisModel.Lemmas.Wrap
