import VaxisModel.Model.WrapDraw
import VaxisModel.Spec.WrapDraw
import VaxisModel.Lemmas.Surface
import VaxisModel.Lemmas.ListBasic

/-! Lemmas for C16 "the text widgets draw exactly the emitted lines, one per row": the contents of
the surface `Model.Layout.drawText` returns, cell by cell (C14 proves its size bounds and that it
does not panic; here: what it shows), for the soft-wrap and the hard-wrap (ellipsis) mode; then what
`over` shows, and lines of model cells as lines for `drawText`.  (Facts about the lines themselves —
the split at "\n", width bounds — are in `Lemmas/Wrap`.) -/
namespace VaxisModel.Lemmas.WrapDraw
open VaxisModel.Model.Window (Cell)
open VaxisModel.Model.Surface VaxisModel.Model.Layout VaxisModel.Lemmas.Surface
open VaxisModel.Spec.WrapDraw (over overHard width)

/-- The cell shown at column `x`, row `y` (`none` outside the surface). -/
def cellAt (s : Surface) (x y : Nat) : Option Cell :=
  if x < s.w.toNat ∧ y < s.h.toNat then s.buf[y * s.w.toNat + x]? else none

theorem idx_inj (W x y x' y' : Nat) (hx : x < W) (hx' : x' < W) (h : y * W + x = y' * W + x') :
    x = x' ∧ y = y' := by
  have hW : 0 < W := by omega
  have h1 : (x + y * W) % W = (x' + y' * W) % W := by rw [Nat.add_comm x, Nat.add_comm x', h]
  rw [Nat.add_mul_mod_self_right, Nat.add_mul_mod_self_right, Nat.mod_eq_of_lt hx, Nat.mod_eq_of_lt hx'] at h1
  have h2 : (x + y * W) / W = (x' + y' * W) / W := by rw [Nat.add_comm x, Nat.add_comm x', h]
  rw [Nat.add_mul_div_right _ _ hW, Nat.add_mul_div_right _ _ hW, Nat.div_eq_of_lt hx, Nat.div_eq_of_lt hx'] at h2
  exact ⟨h1, by omega⟩

theorem writeCell_cellAt (s : Surface) (hs : Sized s) (col row : UInt16) (c : Cell) :
    ∃ s', writeCell exact s col row c = .ok s' ∧ s'.w = s.w ∧ s'.h = s.h ∧ Sized s' ∧
      ∀ x y, cellAt s' x y =
        if x = col.toNat ∧ y = row.toNat ∧ x < s.w.toNat ∧ y < s.h.toNat then some c else cellAt s x y := by
  obtain ⟨s', e, hw, hh, _, hs', hb⟩ := writeCell_buf s hs col row c
  refine ⟨s', e, hw, hh, hs', fun x y => ?_⟩
  simp only [cellAt, hw, hh, hb]
  by_cases hin : x < s.w.toNat ∧ y < s.h.toNat
  · rw [if_pos hin, if_pos hin]
    by_cases hxy : x = col.toNat ∧ y = row.toNat
    · rw [if_pos ⟨UInt16.lt_iff_toNat_lt.2 (hxy.1 ▸ hin.1), UInt16.lt_iff_toNat_lt.2 (hxy.2 ▸ hin.2), by rw [hxy.1, hxy.2]⟩,
        if_pos ⟨hxy.1, hxy.2, hin.1, hin.2⟩]
    · rw [if_neg (fun hh => hxy (idx_inj _ _ _ _ _ hin.1 (UInt16.lt_iff_toNat_lt.1 hh.1) hh.2.2)),
        if_neg (fun hh => hxy ⟨hh.1, hh.2.1⟩)]
  · rw [if_neg hin, if_neg hin, if_neg (fun hh => hin ⟨hh.2.2.1, hh.2.2.2⟩)]

theorem over_congr : ∀ (line : List Cell) (col : Nat) (f g : Nat → Option Cell) (x : Nat),
    f x = g x → over line col f x = over line col g x := by
  intro line
  induction line with
  | nil => intro col f g x h; exact h
  | cons c cs ih =>
    intro col f g x h
    simp only [over]
    apply ih
    simp only [h]

theorem over_lt : ∀ (line : List Cell) (col : Nat) (f : Nat → Option Cell) (x : Nat),
    x < col → over line col f x = f x := by
  intro line
  induction line with
  | nil => intro col f x _; rfl
  | cons c cs ih =>
    intro col f x h
    simp only [over]
    rw [ih _ _ _ (by omega)]
    simp [show x ≠ col by omega]

theorem u16_toNat (col : UInt16) (i : Int) (h0 : 0 ≤ i) (h : col.toNat + i.toNat < 65536) :
    (col + u16 i).toNat = col.toNat + i.toNat := by
  obtain ⟨n, rfl⟩ := Int.eq_ofNat_of_zero_le h0
  have hn : (u16 (n : Int)).toNat = n := by
    simp [u16, UInt16.ofInt]
    omega
  rw [UInt16.toNat_add, hn]
  simp at h ⊢
  omega

/-- The column loop on one line.  `b` says whether the ellipsis branch is live: it is taken exactly when `b` holds and
the grapheme reaches `Max.Width` (`hE`; `b = false` for soft wrap and for a hard-wrap line that fits, `b = true` for a
hard-wrap line that is too wide).  Either way every write lands left of `Max.Width`, and there the row shows the line,
cut by `Spec.WrapDraw.truncated` when `b` holds. -/
theorem drawLine_cellAt (m : TextMode) (tw b : Bool)
    (hE : ∀ r nl, (m.hard && m.ell.all (evalEll tw r nl)) = (b && r)) (maxW row : UInt16) :
    ∀ (line : List Cell) (col : UInt16) (s : Surface), Sized s →
    (∀ c ∈ line, 0 ≤ c.w) → col.toNat + width line < 65536 →
    ∃ s', drawLine exact m maxW row tw line col s = .ok s' ∧ s'.w = s.w ∧ s'.h = s.h ∧ Sized s' ∧
      ∀ x y, x < s.w.toNat → y < s.h.toNat → cellAt s' x y =
        if y = row.toNat ∧ x < maxW.toNat then
          over (if b then VaxisModel.Spec.WrapDraw.truncated maxW.toNat m.ellipsisStyle line col.toNat else line) col.toNat
            (fun x => cellAt s x y) x
        else cellAt s x y := by
  intro line
  induction line with
  | nil =>
    intro col s hs _ _
    refine ⟨s, rfl, rfl, rfl, hs, fun x y _ _ => ?_⟩
    cases b <;> simp [over, VaxisModel.Spec.WrapDraw.truncated]
  | cons ch rest ih =>
    intro col s hs hpos hsum
    simp only [drawLine, hE]
    have hw0 : 0 ≤ ch.w := hpos ch (by simp)
    simp only [width, List.map_cons, List.sum_cons] at hsum
    have hcn : (col + u16 ch.w).toNat = col.toNat + ch.w.toNat := u16_toNat col ch.w hw0 (by omega)
    by_cases hcol : col ≥ maxW
    · simp only [hcol, ↓reduceIte]
      refine ⟨s, rfl, rfl, rfl, hs, fun x y _ _ => ?_⟩
      have hcol' := UInt16.le_iff_toNat_le.1 hcol
      split
      · rw [over_lt _ _ _ _ (by omega)]
      · rfl
    · simp only [hcol, ↓reduceIte]
      have hcol' : col.toNat < maxW.toNat := UInt16.lt_iff_toNat_lt.1 (UInt16.not_le.1 hcol)
      have hwr : ∀ {s1 : Surface} {c : Cell}, (∀ x y, cellAt s1 x y =
            if x = col.toNat ∧ y = row.toNat ∧ x < s.w.toNat ∧ y < s.h.toNat then some c else cellAt s x y) →
          ∀ x y, x < s.w.toNat → y < s.h.toNat →
            (y = row.toNat → cellAt s1 x y = if x = col.toNat then some c else cellAt s x y) ∧
            (¬ (y = row.toNat ∧ x < maxW.toNat) → cellAt s1 x y = cellAt s x y) := by
        intro s1 c h x y hx hy
        rw [h]
        refine ⟨fun hy0 => ?_, fun hn => ?_⟩
        · by_cases hxc : x = col.toNat
          · simp [hxc, hy0, hy0 ▸ hy, hxc ▸ hx]
          · simp [hxc]
        · rw [if_neg]; rintro ⟨rfl, rfl, _⟩; exact hn ⟨rfl, hcol'⟩
      by_cases hell : (b && decide (col + u16 ch.w ≥ maxW)) = true
      · obtain ⟨rfl, hr⟩ : b = true ∧ col + u16 ch.w ≥ maxW := by simpa using hell
        have hell' : ¬ col.toNat + ch.w.toNat + 1 ≤ maxW.toNat := by
          have := UInt16.le_iff_toNat_le.1 hr; rw [hcn] at this; omega
        simp only [hr, decide_true, Bool.and_self, ↓reduceIte]
        obtain ⟨s1, h1, hw1, hh1, hs1, hc1⟩ := writeCell_cellAt s hs col row
          { g := VaxisModel.Model.Window.gEllipsis, w := 1, st := m.ellipsisStyle.getD ch.st }
        refine ⟨s1, h1, hw1, hh1, hs1, fun x y hx hy => ?_⟩
        obtain ⟨k1, k2⟩ := hwr hc1 x y hx hy
        split
        · rename_i hc; rw [k1 hc.1]
          simp only [VaxisModel.Spec.WrapDraw.truncated, hell', ↓reduceIte, over, VaxisModel.Spec.WrapDraw.ellipsisFor]
        · rename_i hc; exact k2 hc
      · simp only [hell, Bool.false_eq_true, ↓reduceIte]
        obtain ⟨s1, h1, hw1, hh1, hs1, hc1⟩ := writeCell_cellAt s hs col row ch
        simp only [h1]
        obtain ⟨s2, h2, hw2, hh2, hs2, hc2⟩ := ih (col + u16 ch.w) s1 hs1 (fun c hc => hpos c (by simp [hc]))
          (by rw [hcn]; simp only [width]; omega)
        refine ⟨s2, h2, hw2.trans hw1, hh2.trans hh1, hs2, fun x y hx hy => ?_⟩
        rw [hc2 x y (by rw [hw1]; exact hx) (by rw [hh1]; exact hy), hcn]
        have hT : (if b then VaxisModel.Spec.WrapDraw.truncated maxW.toNat m.ellipsisStyle (ch :: rest) col.toNat else ch :: rest) =
            ch :: (if b then VaxisModel.Spec.WrapDraw.truncated maxW.toNat m.ellipsisStyle rest (col.toNat + ch.w.toNat) else rest) := by
          cases b
          · rfl
          · have : col.toNat + ch.w.toNat + 1 ≤ maxW.toNat := by
              have : ¬ col + u16 ch.w ≥ maxW := by simpa using hell
              have := UInt16.lt_iff_toNat_lt.1 (UInt16.not_le.1 this); rw [hcn] at this; omega
            simp [VaxisModel.Spec.WrapDraw.truncated, this]
        rw [hT]
        obtain ⟨k1, k2⟩ := hwr hc1 x y hx hy
        split
        · rename_i hc
          simp only [over]
          exact over_congr _ _ _ _ _ (k1 hc.1)
        · rename_i hc; exact k2 hc

/-- What the column loop does with one whole line: it shows `T line` (the line itself in the soft-wrap
mode, `hardLine` in the hard-wrap mode) on the columns of the widget. -/
def LineSpec (m : TextMode) (maxW : UInt16) (T : List Cell → List Cell) : Prop :=
  ∀ (row : UInt16) (line : List Cell) (s : Surface), Sized s → (∀ c ∈ line, 0 ≤ c.w) → width line < 65536 →
    ∃ s', drawLine exact m maxW row (tooWide maxW line) line 0 s = .ok s' ∧ s'.w = s.w ∧ s'.h = s.h ∧ Sized s' ∧
      ∀ x y, x < s.w.toNat → y < s.h.toNat → cellAt s' x y =
        if y = row.toNat ∧ x < maxW.toNat then over (T line) 0 (fun x => cellAt s x y) x
        else cellAt s x y

theorem lineSpec_soft (m : TextMode) (hm : m.hard = false) (maxW : UInt16) : LineSpec m maxW id := by
  intro row line s hs hp hw
  simpa using drawLine_cellAt m (tooWide maxW line) false (fun r nl => by simp [hm]) maxW row line 0 s hs hp (by simpa using hw)

theorem drawLines_of_lineSpec (m : TextMode) (T : List Cell → List Cell) (hd : m.drawStrict = true) (maxW maxH : UInt16)
    (hT : LineSpec m maxW T) :
    ∀ (lines : List (List Cell)) (row : UInt16) (s : Surface), Sized s →
    (∀ l ∈ lines, (∀ c ∈ l, 0 ≤ c.w) ∧ width l < 65536) →
    ∃ s', drawLines exact m maxW maxH lines row s = .ok s' ∧ s'.w = s.w ∧ s'.h = s.h ∧ Sized s' ∧
      ∀ x y, x < s.w.toNat → y < s.h.toNat → cellAt s' x y =
        if row.toNat ≤ y ∧ y < row.toNat + lines.length ∧ y < maxH.toNat ∧ x < maxW.toNat
        then over (T (lines.getD (y - row.toNat) [])) 0 (fun x => cellAt s x y) x
        else cellAt s x y := by
  intro lines
  induction lines with
  | nil =>
    intro row s hs _
    refine ⟨s, rfl, rfl, rfl, hs, ?_⟩
    intro x y _ _
    have : ¬ (row.toNat ≤ y ∧ y < row.toNat + ([] : List (List Cell)).length ∧ y < maxH.toNat ∧ x < maxW.toNat) := by
      simp only [List.length_nil]; omega
    rw [if_neg this]
  | cons l ls ih =>
    intro row s hs hall
    simp only [drawLines, hGuard, hd, ↓reduceIte]
    by_cases hrow : row ≥ maxH
    · simp only [hrow, decide_true, ↓reduceIte]
      refine ⟨s, rfl, rfl, rfl, hs, ?_⟩
      intro x y _ _
      have hrow' := UInt16.le_iff_toNat_le.1 hrow
      have : ¬ (row.toNat ≤ y ∧ y < row.toNat + (l :: ls).length ∧ y < maxH.toNat ∧ x < maxW.toNat) := by omega
      rw [if_neg this]
    · simp only [hrow, decide_false, Bool.false_eq_true, ↓reduceIte]
      have hrow' : row.toNat < maxH.toNat := by
        have := UInt16.not_le.1 hrow; exact UInt16.lt_iff_toNat_lt.1 this
      have hl := hall l (by simp)
      obtain ⟨s1, h1, hw1, hh1, hs1, hc1⟩ := hT row l s hs hl.1 hl.2
      simp only [h1]
      have hr1 := VaxisModel.Lemmas.ListBasic.u16_succ_toNat hrow'
      obtain ⟨s2, h2, hw2, hh2, hs2, hc2⟩ := ih (row + 1) s1 hs1 (fun l' hl' => hall l' (by simp [hl']))
      refine ⟨s2, h2, hw2.trans hw1, hh2.trans hh1, hs2, ?_⟩
      intro x y hx hy
      rw [hc2 x y (by rw [hw1]; exact hx) (by rw [hh1]; exact hy), hr1]
      simp only [List.length_cons]
      by_cases hy0 : y = row.toNat
      · have c1 : ¬ (row.toNat + 1 ≤ y ∧ y < row.toNat + 1 + ls.length ∧ y < maxH.toNat ∧ x < maxW.toNat) := by omega
        rw [if_neg c1, hc1 x y hx hy]
        by_cases hxm : x < maxW.toNat
        · have c2 : row.toNat ≤ y ∧ y < row.toNat + (ls.length + 1) ∧ y < maxH.toNat ∧ x < maxW.toNat := by omega
          rw [if_pos c2, if_pos ⟨hy0, hxm⟩]
          have : y - row.toNat = 0 := by omega
          simp [this]
        · have c2 : ¬ (row.toNat ≤ y ∧ y < row.toNat + (ls.length + 1) ∧ y < maxH.toNat ∧ x < maxW.toNat) := by omega
          have c3 : ¬ (y = row.toNat ∧ x < maxW.toNat) := by omega
          rw [if_neg c2, if_neg c3]
      · have hs1y : ∀ x', x' < s.w.toNat → cellAt s1 x' y = cellAt s x' y := by
          intro x' hx'
          rw [hc1 x' y hx' hy, if_neg (by omega)]
        by_cases c1 : row.toNat + 1 ≤ y ∧ y < row.toNat + 1 + ls.length ∧ y < maxH.toNat ∧ x < maxW.toNat
        · have c2 : row.toNat ≤ y ∧ y < row.toNat + (ls.length + 1) ∧ y < maxH.toNat ∧ x < maxW.toNat := by omega
          rw [if_pos c1, if_pos c2]
          have : y - row.toNat = (y - (row.toNat + 1)) + 1 := by omega
          rw [this, List.getD_cons_succ]
          exact over_congr _ _ _ _ _ (hs1y x hx)
        · have c2 : ¬ (row.toNat ≤ y ∧ y < row.toNat + (ls.length + 1) ∧ y < maxH.toNat ∧ x < maxW.toNat) := by omega
          rw [if_neg c1, if_neg c2]
          exact hs1y x hx

/-- `findContainerSize`'s width as the code computes it: running maximum of the line widths
(`uint16` sums), clamped to `Max.Width` after every line, over the lines that count for the height. -/
def widthFold (maxW : UInt16) : List (List Cell) → UInt16 → UInt16
  | [], w => w
  | l :: ls, w =>
    let w := if w < lineWidth l then lineWidth l else w
    widthFold maxW ls (if w > maxW then maxW else w)

theorem sizeLoop_eq (maxW maxH : UInt16) : ∀ (lines : List (List Cell)) (w h : UInt16), h ≤ maxH →
    (sizeLoop true maxW maxH lines w h).1 = widthFold maxW (lines.take (maxH.toNat - h.toNat)) w ∧
    (sizeLoop true maxW maxH lines w h).2.toNat = min (h.toNat + lines.length) maxH.toNat := by
  intro lines
  induction lines with
  | nil =>
    intro w h hh
    have := UInt16.le_iff_toNat_le.1 hh
    simp only [sizeLoop, widthFold, List.take_nil, List.length_nil, true_and]; omega
  | cons l ls ih =>
    intro w h hh
    have hh' := UInt16.le_iff_toNat_le.1 hh
    simp only [sizeLoop, hGuard, ↓reduceIte, List.length_cons]
    by_cases hg : h ≥ maxH
    · have := UInt16.le_iff_toNat_le.1 hg
      have h0 : maxH.toNat - h.toNat = 0 := by omega
      simp only [hg, decide_true, ↓reduceIte, h0, List.take_zero, widthFold, true_and]; omega
    · simp only [hg, decide_false, Bool.false_eq_true, ↓reduceIte]
      have hlt : h.toNat < maxH.toNat := by
        have := UInt16.not_le.1 hg; exact UInt16.lt_iff_toNat_lt.1 this
      have h1 := VaxisModel.Lemmas.ListBasic.u16_succ_toNat hlt
      have hle : h + 1 ≤ maxH := by rw [UInt16.le_iff_toNat_le, h1]; omega
      have : maxH.toNat - h.toNat = (maxH.toNat - (h.toNat + 1)) + 1 := by omega
      rw [(ih _ _ hle).1, (ih _ _ hle).2, h1, this, List.take_succ_cons, widthFold]
      exact ⟨rfl, by omega⟩

theorem lineWidth_toNat : ∀ (l : List Cell), (∀ c ∈ l, 0 ≤ c.w) → width l < 65536 → (lineWidth l).toNat = width l := by
  intro l
  induction l with
  | nil => intro _ _; rfl
  | cons c cs ih2 =>
    intro hp hs
    simp only [width, List.map_cons, List.sum_cons] at hs
    have := ih2 (fun c' hc' => hp c' (by simp [hc'])) (by simp only [width]; omega)
    simp only [lineWidth, width, List.map_cons, List.sum_cons]
    rw [UInt16.add_comm, u16_toNat _ _ (hp c (by simp)) (by rw [this]; simp only [width]; omega), this]
    simp only [width]; omega

theorem widthFold_cons (maxW : UInt16) (l : List Cell) (ls : List (List Cell)) (w : UInt16)
    (hl : (∀ c ∈ l, 0 ≤ c.w) ∧ width l < 65536) :
    ∃ w2, widthFold maxW (l :: ls) w = widthFold maxW ls w2 ∧
      w2.toNat = min (max w.toNat (width l)) maxW.toNat := by
  have hlw := lineWidth_toNat l hl.1 hl.2
  simp only [widthFold]
  generalize hw1 : (if w < lineWidth l then lineWidth l else w) = w1
  have hw1n : w1.toNat = max w.toNat (width l) := by
    rw [← hw1]
    by_cases h1 : w < lineWidth l
    · have := UInt16.lt_iff_toNat_lt.1 h1; simp only [h1, ↓reduceIte]; omega
    · have := UInt16.le_iff_toNat_le.1 (UInt16.not_lt.1 h1); simp only [h1, ↓reduceIte]; omega
  refine ⟨_, rfl, ?_⟩
  by_cases h1 : w1 > maxW
  · have := UInt16.lt_iff_toNat_lt.1 h1; simp only [h1, ↓reduceIte]; omega
  · have := UInt16.le_iff_toNat_le.1 (UInt16.not_lt.1 h1); simp only [h1, ↓reduceIte]; omega

theorem widthFold_max (maxW : UInt16) : ∀ (lines : List (List Cell)) (w : UInt16), w ≤ maxW →
    (∀ l ∈ lines, (∀ c ∈ l, 0 ≤ c.w) ∧ width l ≤ maxW.toNat) →
    (widthFold maxW lines w).toNat = (lines.map width).foldl max w.toNat := by
  intro lines
  induction lines with
  | nil => intro w _ _; rfl
  | cons l ls ih =>
    intro w hw hall
    have hl := hall l (by simp)
    have hm16 := UInt16.toNat_lt maxW
    have hw' := UInt16.le_iff_toNat_le.1 hw
    obtain ⟨w2, e, hn⟩ := widthFold_cons maxW l ls w ⟨hl.1, by omega⟩
    rw [e, ih w2 (by rw [UInt16.le_iff_toNat_le]; omega) (fun l' hl' => hall l' (by simp [hl']))]
    simp only [List.map_cons, List.foldl_cons]
    congr 1; omega

theorem widthFold_ge (maxW : UInt16) : ∀ (lines : List (List Cell)) (w : UInt16), w ≤ maxW →
    (∀ l ∈ lines, (∀ c ∈ l, 0 ≤ c.w) ∧ width l < 65536) →
    w.toNat ≤ (widthFold maxW lines w).toNat ∧ (widthFold maxW lines w) ≤ maxW ∧
    ∀ l ∈ lines, min (width l) maxW.toNat ≤ (widthFold maxW lines w).toNat := by
  intro lines
  induction lines with
  | nil => intro w hw _; exact ⟨Nat.le_refl _, hw, by simp⟩
  | cons l ls ih =>
    intro w hw hall
    have hw' := UInt16.le_iff_toNat_le.1 hw
    obtain ⟨w2, e, hn⟩ := widthFold_cons maxW l ls w (hall l (by simp))
    rw [e]
    obtain ⟨i1, i2, i3⟩ := ih w2 (by rw [UInt16.le_iff_toNat_le]; omega) (fun l' hl' => hall l' (by simp [hl']))
    refine ⟨by omega, i2, ?_⟩
    intro l' hl'
    rcases List.mem_cons.mp hl' with rfl | hl'
    · omega
    · exact i3 l' hl'

/-- The cell a fresh surface holds everywhere: the zero cell, with the widget's style after `Fill`. -/
def blank (fill : Option Nat) : Cell :=
  match fill with
  | some st => { (default : Cell) with st := st }
  | none => default

theorem drawText_of_lineSpec (m : TextMode) (T : List Cell → List Cell) (c : Ctx) (hT : LineSpec m c.maxW T)
    (hs : m.sizeOK) (hd : m.drawStrict = true)
    (lines : List (List Cell)) (hall : ∀ l ∈ lines, (∀ c ∈ l, 0 ≤ c.w) ∧ width l < 65536) :
    ∃ s, drawText exact m c lines = .ok s ∧
      s.w = widthFold c.maxW (lines.take c.maxH.toNat) 0 ∧
      s.h.toNat = min lines.length c.maxH.toNat ∧
      s.buf.length = s.h.toNat * s.w.toNat ∧
      ∀ x y, x < s.w.toNat → y < s.h.toNat →
        cellAt s x y = over (T (lines.getD y [])) 0 (fun _ => some (blank m.fill)) x := by
  obtain ⟨hsize1, hsize2⟩ := sizeLoop_eq c.maxW c.maxH lines 0 0 (by rw [UInt16.le_iff_toNat_le]; simp)
  have hle := sizeLoop_le c.maxW c.maxH lines 0 0 (by rw [UInt16.le_iff_toNat_le]; simp) (by rw [UInt16.le_iff_toNat_le]; simp)
  simp only [UInt16.toNat_zero, Nat.zero_add, Nat.sub_zero] at hsize1 hsize2
  simp only [drawText, findContainerSize, hs.1, hs.2, evalSz]
  generalize hW : (sizeLoop true c.maxW c.maxH lines 0 0).1 = W at hsize1 hle
  generalize hH : (sizeLoop true c.maxW c.maxH lines 0 0).2 = H at hsize2 hle
  have h0 := newSurface_sized W H
  have hstart : ∀ (s0 : Surface), s0 = (match m.fill with | some st => fillStyle (newSurface exact W H) st | none => newSurface exact W H) →
      Sized s0 ∧ s0.w = W ∧ s0.h = H ∧ ∀ x y, x < W.toNat → y < H.toNat → cellAt s0 x y = some (blank m.fill) := by
    intro s0 he
    have hidx : ∀ x y, x < W.toNat → y < H.toNat → y * W.toNat + x < H.toNat * W.toNat :=
      fun x y hx hy => index_lt _ _ _ _ hx hy
    cases hf : m.fill with
    | none =>
      rw [hf] at he; simp only at he; subst he
      refine ⟨h0, rfl, rfl, ?_⟩
      intro x y hx hy
      simp only [cellAt, newSurface_w, newSurface_h, hx, hy, and_self, ↓reduceIte, blank]
      simp only [newSurface, Surface.buf, bufLen, exact, ↓reduceIte, List.getElem?_replicate, hidx x y hx hy]
    | some st =>
      rw [hf] at he; simp only at he; subst he
      refine ⟨fillStyle_sized _ st h0, fillStyle_w _ st, fillStyle_h _ st, ?_⟩
      intro x y hx hy
      simp only [cellAt, fillStyle_w, fillStyle_h, newSurface_w, newSurface_h, hx, hy, and_self, ↓reduceIte, blank]
      simp only [fillStyle, setBuf_buf, List.getElem?_map]
      simp only [newSurface, Surface.buf, bufLen, exact, ↓reduceIte, List.getElem?_replicate, hidx x y hx hy,
        Option.map_some]
  obtain ⟨hs0, hw0, hh0, hc0⟩ := hstart _ rfl
  obtain ⟨s', h', hw', hh', hs', hc'⟩ := drawLines_of_lineSpec m T hd c.maxW c.maxH hT lines 0 _ hs0 hall
  refine ⟨s', h', by rw [hw', hw0, hsize1], by rw [hh', hh0, hsize2], ?_, ?_⟩
  · rw [hs']
  · intro x y hx hy
    rw [hw', hw0] at hx
    rw [hh', hh0] at hy
    rw [hc' x y (by rw [hw0]; exact hx) (by rw [hh0]; exact hy)]
    have hWle := UInt16.le_iff_toNat_le.1 hle.1
    have cnd : (0 : UInt16).toNat ≤ y ∧ y < (0 : UInt16).toNat + lines.length ∧ y < c.maxH.toNat ∧ x < c.maxW.toNat := by
      simp only [UInt16.toNat_zero]; omega
    rw [if_pos cnd]
    simp only [UInt16.toNat_zero, Nat.sub_zero]
    exact over_congr _ _ _ _ _ (hc0 x y hx hy)

theorem drawLines_cellAt (m : TextMode) (hm : m.hard = false) (hd : m.drawStrict = true) (maxW maxH : UInt16) :
    ∀ (lines : List (List Cell)) (row : UInt16) (s : Surface), Sized s →
    (∀ l ∈ lines, (∀ c ∈ l, 0 ≤ c.w) ∧ width l < 65536) →
    ∃ s', drawLines exact m maxW maxH lines row s = .ok s' ∧ s'.w = s.w ∧ s'.h = s.h ∧ Sized s' ∧
      ∀ x y, x < s.w.toNat → y < s.h.toNat → cellAt s' x y =
        if row.toNat ≤ y ∧ y < row.toNat + lines.length ∧ y < maxH.toNat ∧ x < maxW.toNat
        then over (lines.getD (y - row.toNat) []) 0 (fun x => cellAt s x y) x
        else cellAt s x y :=
  drawLines_of_lineSpec m id hd maxW maxH (lineSpec_soft m hm maxW)

theorem overHard_eq_truncated (maxW : Nat) (est : Option Nat) : ∀ (line : List Cell) (col : Nat)
    (f : Nat → Option Cell) (x : Nat), x < maxW →
    overHard maxW est line col f x = over (VaxisModel.Spec.WrapDraw.truncated maxW est line col) col f x := by
  intro line
  induction line with
  | nil => intro col f x _; rfl
  | cons c cs ih =>
    intro col f x hx
    simp only [overHard, VaxisModel.Spec.WrapDraw.truncated]
    by_cases h1 : col ≥ maxW
    · have h2 : ¬ (col + c.w.toNat + 1 ≤ maxW) := by omega
      have hne : x ≠ col := by omega
      simp [h1, h2, over, hne]
    · by_cases h3 : col + c.w.toNat ≥ maxW
      · have h2 : ¬ (col + c.w.toNat + 1 ≤ maxW) := by omega
        simp only [h1, h3, h2, ↓reduceIte, over, VaxisModel.Spec.WrapDraw.ellipsisFor]
      · have h2 : col + c.w.toNat + 1 ≤ maxW := by omega
        simp only [h1, h3, h2, ↓reduceIte, over]
        exact ih _ _ _ hx

theorem lineWidthInt_eq : ∀ (l : List Cell), (∀ c ∈ l, 0 ≤ c.w) → lineWidthInt l = (width l : Int)
  | [], _ => rfl
  | c :: cs, h => by
    have ih := lineWidthInt_eq cs (fun c' hc' => h c' (by simp [hc']))
    have h0 := h c (by simp)
    simp only [lineWidthInt, ih, width, List.map_cons, List.sum_cons]
    omega

theorem tooWide_eq (maxW : UInt16) (l : List Cell) (h : ∀ c ∈ l, 0 ≤ c.w) :
    tooWide maxW l = decide (width l > maxW.toNat) := by
  simp only [tooWide, lineWidthInt_eq l h, decide_eq_decide, Int.ofNat_eq_natCast]
  constructor <;> intro h <;> omega

theorem overHard_fits (maxW : Nat) (est : Option Nat) : ∀ (line : List Cell) (col : Nat) (f : Nat → Option Cell),
    col + width line < maxW → overHard maxW est line col f = over line col f := by
  intro line
  induction line with
  | nil => intro col f _; rfl
  | cons c cs ih =>
    intro col f h
    simp only [width, List.map_cons, List.sum_cons] at h
    have h1 : ¬ col ≥ maxW := by omega
    have h2 : ¬ col + c.w.toNat ≥ maxW := by omega
    simp only [overHard, over, h1, h2, ↓reduceIte]
    exact ih _ _ (by simp only [width]; omega)

theorem lineSpec_hard (m : TextMode) (hm : m.hard = true) (he : m.ell = [.lineTooWide, .reach]) (maxW : UInt16) :
    LineSpec m maxW (VaxisModel.Spec.WrapDraw.hardLine maxW.toNat m.ellipsisStyle) := by
  intro row line s hs hp hw
  obtain ⟨s', e, hw', hh', hs', hc⟩ := drawLine_cellAt m (tooWide maxW line) (tooWide maxW line)
    (fun r nl => by simp [hm, he, evalEll]) maxW row line 0 s hs hp (by simpa using hw)
  refine ⟨s', e, hw', hh', hs', fun x y hx hy => ?_⟩
  rw [hc x y hx hy, tooWide_eq maxW line hp]
  by_cases hfit : width line ≤ maxW.toNat
  · simp [VaxisModel.Spec.WrapDraw.hardLine, hfit, Nat.not_lt.mpr hfit]
  · simp [VaxisModel.Spec.WrapDraw.hardLine, hfit, Nat.lt_of_not_le hfit]

theorem width_take_succ (c : Cell) (cs : List Cell) (j : Nat) :
    width ((c :: cs).take (j + 1)) = c.w.toNat + width (cs.take j) := by
  simp [width]

theorem over_hit : ∀ (line : List Cell) (col : Nat) (f : Nat → Option Cell) (j : Nat) (c : Cell),
    line[j]? = some c → 0 < c.w → over line col f (col + width (line.take j)) = some c := by
  intro line
  induction line with
  | nil => intro col f j c h; simp at h
  | cons a as ih =>
    intro col f j c h hpos
    cases j with
    | zero =>
      simp only [List.getElem?_cons_zero, Option.some.injEq] at h
      subst h
      simp only [over, List.take_zero, width, List.map_nil, List.sum_nil, Nat.add_zero]
      rw [over_lt _ _ _ _ (by omega)]
      simp
    | succ j =>
      simp only [List.getElem?_cons_succ] at h
      simp only [over, width_take_succ]
      rw [← Nat.add_assoc]
      exact ih _ _ j c h hpos

theorem over_miss : ∀ (line : List Cell) (col : Nat) (f : Nat → Option Cell) (x : Nat),
    (∀ j, j < line.length → x ≠ col + width (line.take j)) → over line col f x = f x := by
  intro line
  induction line with
  | nil => intro col f x _; rfl
  | cons c cs ih =>
    intro col f x h
    simp only [over]
    rw [ih]
    · have := h 0 (by simp)
      simp only [List.take_zero, width, List.map_nil, List.sum_nil, Nat.add_zero] at this
      simp [this]
    · intro j hj
      have := h (j + 1) (by simpa using hj)
      rw [width_take_succ, ← Nat.add_assoc] at this
      exact this

theorem width_map (f : VaxisModel.Model.Wrap.Cell → Cell) (hf : ∀ c, (f c).w = Int.ofNat c.w) (l : List VaxisModel.Model.Wrap.Cell) :
    width (l.map f) = VaxisModel.Model.Wrap.sumW l := by
  induction l with
  | nil => rfl
  | cons c cs ih =>
    simp only [width, List.map_cons, List.sum_cons, VaxisModel.Model.Wrap.sumW] at ih ⊢
    rw [ih, hf]; simp

theorem drawable (f : VaxisModel.Model.Wrap.Cell → Cell) (hf : ∀ c, (f c).w = Int.ofNat c.w) (g : List VaxisModel.Model.Wrap.Cell → List VaxisModel.Model.Wrap.Cell)
    (ls : List (List VaxisModel.Model.Wrap.Cell)) (hw : ∀ l ∈ ls, VaxisModel.Model.Wrap.sumW (g l) < 65536) :
    ∀ l ∈ ls.map (fun l => (g l).map f), (∀ c ∈ l, 0 ≤ c.w) ∧ width l < 65536 := by
  intro l hl
  obtain ⟨l0, hl0, rfl⟩ := List.mem_map.mp hl
  refine ⟨?_, by rw [width_map f hf]; exact hw l0 hl0⟩
  intro c hc
  obtain ⟨c0, _, rfl⟩ := List.mem_map.mp hc
  simp [hf]

theorem getD_map_nil {α β : Type} (f : List α → List β) (hf : f [] = []) (ls : List (List α)) (y : Nat) :
    (ls.map f).getD y [] = f (ls.getD y []) := by
  simp only [List.getD_eq_getElem?_getD, List.getElem?_map]
  cases ls[y]? <;> simp [hf]

theorem drawText_rows {m : TextMode} {T : List Cell → List Cell} {maxW : UInt16}
    (hT : LineSpec m maxW T) (hs : m.sizeOK) (hd : m.drawStrict = true) (maxH : UInt16)
    (prep : List VaxisModel.Model.Wrap.Cell → List Cell) (h0 : prep [] = []) (ls : List (List VaxisModel.Model.Wrap.Cell))
    (hall : ∀ l ∈ ls.map prep, (∀ c ∈ l, 0 ≤ c.w) ∧ width l < 65536) :
    ∃ s, drawText exact m (VaxisModel.Model.WrapDraw.ctxOf maxW maxH) (ls.map prep) = .ok s ∧
      s.h.toNat = min ls.length maxH.toNat ∧
      s.w = widthFold maxW ((ls.map prep).take maxH.toNat) 0 ∧
      s.buf.length = s.h.toNat * s.w.toNat ∧
      ∀ x y, x < s.w.toNat → y < s.h.toNat →
        cellAt s x y = over (T (prep (ls.getD y []))) 0 (fun _ => some (blank m.fill)) x := by
  obtain ⟨s, h1, h2, h3, h4, h5⟩ := drawText_of_lineSpec m T (VaxisModel.Model.WrapDraw.ctxOf maxW maxH) hT hs hd (ls.map prep) hall
  refine ⟨s, h1, by simpa [VaxisModel.Model.WrapDraw.ctxOf] using h3, h2, h4, fun x y hx hy => ?_⟩
  rw [h5 x y hx hy, getD_map_nil _ h0]

end VaxisModel.Lemmas.WrapDraw
