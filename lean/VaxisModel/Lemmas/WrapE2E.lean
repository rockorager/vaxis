import VaxisModel.Model.Wrap
import VaxisModel.Spec.Wrap
import VaxisModel.Lemmas.Wrap

/-! End-to-end lemmas for C16: the whole iteration `lines` cuts the text into consecutive *pieces*
(`cells = p₁ ++ p₂ ++ … ++ pₙ`, line `i` holds the non-whitespace graphemes of `pᵢ`), and the
position oracle `Spec.Wrap.hardBreakOK` holds of every such cutting whose pieces contain a line
terminator at most as their last cell, which is what the scanner guarantees.  Also: no emitted line contains
a line terminator.  The other position oracle, `noNeedlessSplit`, is in `Lemmas/WrapSplitPlain` and `Lemmas/WrapSplit`. -/
namespace VaxisModel.Lemmas.Wrap
open VaxisModel.Model.Wrap
open VaxisModel.Spec.Wrap (nonWs content natWidth trimTrailing lineIndex termBetween hardBreakOK)

/-- The check of `hardBreakOK` as a list recursion: `prev` is the line of the previous
non-whitespace grapheme, `idx` the lines of the following ones (missing entries read as 0, as
`Array.getD` does). -/
def hbRec (prev : Nat) : List Bool → List Nat → Bool
  | [], _ => true
  | t :: ts, idx => (!t || prev < idx.headD 0) && hbRec (idx.headD 0) ts idx.tail

theorem getD_tail (idx : List Nat) (i : Nat) : idx.tail.getD i 0 = idx.getD (i + 1) 0 := by
  cases idx <;> simp

theorem headD_eq_getD (idx : List Nat) : idx.headD 0 = idx.getD 0 0 := by
  cases idx <;> simp

theorem hb_range_eq (tb : List Bool) : ∀ (idx : List Nat),
    ((List.range tb.length).all fun i =>
      !(tb.getD i false) || decide (idx.getD i 0 < idx.getD (i + 1) 0)) =
    hbRec (idx.headD 0) tb idx.tail := by
  induction tb with
  | nil => intro idx; simp [hbRec]
  | cons t ts ih =>
    intro idx
    rw [List.length_cons, List.range_succ_eq_map, List.all_cons, List.all_map, hbRec]
    have h0 : idx.tail.headD 0 = idx.getD 1 0 := by rw [headD_eq_getD, getD_tail]
    rw [← ih idx.tail, h0, headD_eq_getD]
    congr 1
    apply List.all_congr rfl
    intro i
    simp only [Function.comp, Nat.succ_eq_add_one, List.getD_cons_succ, getD_tail]

theorem hardBreakOK_eq (input : List Cell) (ls : List (List Cell)) :
    hardBreakOK input ls =
      hbRec ((lineIndex ls).headD 0) (termBetween input false false) (lineIndex ls).tail := by
  unfold hardBreakOK
  have hA : ∀ (l : List Nat) (i : Nat), l.toArray.getD i 0 = l.getD i 0 := by intro l i; simp
  have hB : ∀ (l : List Bool) (i : Nat), l.toArray.getD i false = l.getD i false := by intro l i; simp
  simp only [List.size_toArray, hA, hB]
  exact hb_range_eq _ _

/-- `termBetween` and the check fused into one walk over the input: `prev` = line of the previous
non-whitespace grapheme (if any), `t` = a terminator was seen since. -/
def hbWalk : List Cell → Option Nat → Bool → List Nat → Bool
  | [], _, _, _ => true
  | c :: cs, prev, t, idx =>
    if nonWs c then
      (match prev with
       | some i => !t || decide (i < idx.headD 0)
       | none => true) && hbWalk cs (some (idx.headD 0)) false idx.tail
    else hbWalk cs prev (t || c.term) idx

theorem hbWalk_some : ∀ (cs : List Cell) (i : Nat) (t : Bool) (idx : List Nat),
    hbWalk cs (some i) t idx = hbRec i (termBetween cs true t) idx := by
  intro cs
  induction cs with
  | nil => intro i t idx; simp [hbWalk, termBetween, hbRec]
  | cons c cs ih =>
    intro i t idx
    unfold hbWalk termBetween
    by_cases hc : nonWs c = true
    · simp only [hc, ↓reduceIte, List.singleton_append, hbRec]
      rw [ih]
    · simp only [hc, Bool.false_eq_true, ↓reduceIte]
      rw [ih]

theorem hbWalk_none : ∀ (cs : List Cell) (t : Bool) (idx : List Nat),
    hbWalk cs none t idx = hbRec (idx.headD 0) (termBetween cs false t) idx.tail := by
  intro cs
  induction cs with
  | nil => intro t idx; simp [hbWalk, termBetween, hbRec]
  | cons c cs ih =>
    intro t idx
    unfold hbWalk termBetween
    by_cases hc : nonWs c = true
    · simp only [hc, ↓reduceIte, Bool.true_and, Bool.false_eq_true, List.nil_append]
      rw [hbWalk_some]
    · simp only [hc, Bool.false_eq_true, ↓reduceIte]
      rw [ih]

theorem hardBreakOK_walk (input : List Cell) (ls : List (List Cell)) :
    hardBreakOK input ls = hbWalk input none false (lineIndex ls) := by
  rw [hardBreakOK_eq, hbWalk_none]

def TermLast (p : List Cell) : Prop := ∀ c ∈ p.dropLast, c.term = false

theorem TermLast.tail {c : Cell} {cs : List Cell} (h : TermLast (c :: cs)) : TermLast cs := by
  intro x hx
  cases cs with
  | nil => simp at hx
  | cons d ds =>
    apply h x
    rw [List.dropLast_cons_of_ne_nil (by simp)]
    exact List.mem_cons_of_mem _ hx

/-- Inside one piece (all of whose graphemes are on line `k`). -/
theorem hbWalk_piece : ∀ (p rest : List Cell) (prev : Option Nat) (t : Bool) (J : List Nat) (k : Nat),
    TermLast p →
    (∀ i, prev = some i → i < k ∨ (i = k ∧ t = false)) →
    (∀ prev' t', (∀ i, prev' = some i → i ≤ k) → hbWalk rest prev' t' J = true) →
    hbWalk (p ++ rest) prev t ((content p).map (fun _ => k) ++ J) = true := by
  intro p
  induction p with
  | nil =>
    intro rest prev t J k _ hprev hcont
    simp only [List.nil_append, content, List.filter_nil, List.map_nil]
    apply hcont
    intro i hi
    rcases hprev i hi with h | ⟨h, _⟩ <;> omega
  | cons c cs ih =>
    intro rest prev t J k hterm hprev hcont
    rw [List.cons_append]
    unfold hbWalk
    by_cases hc : nonWs c = true
    · simp only [hc, ↓reduceIte, content_cons_of_nonWs cs hc, List.map_cons, List.cons_append, List.headD_cons, List.tail_cons,
        Bool.and_eq_true]
      constructor
      · cases prev with
        | none => rfl
        | some i =>
          rcases hprev i rfl with h | ⟨_, h⟩
          · simp [h]
          · simp [h]
      · exact ih rest (some k) false J k hterm.tail (fun i hi => Or.inr ⟨(Option.some.inj hi).symm, rfl⟩) hcont
    · simp only [hc, Bool.false_eq_true, ↓reduceIte, content_cons_of_ws cs hc]
      cases cs with
      | nil =>
        simp only [List.nil_append, content, List.filter_nil, List.map_nil]
        apply hcont
        intro i hi
        rcases hprev i hi with h | ⟨h, _⟩ <;> omega
      | cons d ds =>
        have hct : c.term = false := hterm c (by rw [List.dropLast_cons_of_ne_nil (by simp)]; simp)
        rw [hct, Bool.or_false]
        exact ih rest prev t J k hterm.tail hprev hcont

def TermFL (p : List Cell) : Prop := ∀ c ∈ p.tail.dropLast, c.term = false

theorem TermLast.toFL {p : List Cell} (h : TermLast p) : TermFL p := by
  intro c hc
  cases p with
  | nil => simp at hc
  | cons a as =>
    cases as with
    | nil => simp at hc
    | cons b bs =>
      apply h c
      rw [List.dropLast_cons_of_ne_nil (by simp)]
      exact List.mem_cons_of_mem _ hc

/-- `hbWalk_piece` for a piece that may also *start* with a terminator: at the start of a piece
the previous non-whitespace grapheme is on an earlier line, so a leading terminator is harmless. -/
theorem hbWalk_pieceFL (p rest : List Cell) (prev : Option Nat) (t : Bool) (J : List Nat) (k : Nat)
    (hp : TermFL p) (hprev : ∀ i, prev = some i → i < k)
    (hcont : ∀ prev' t', (∀ i, prev' = some i → i ≤ k) → hbWalk rest prev' t' J = true) :
    hbWalk (p ++ rest) prev t ((content p).map (fun _ => k) ++ J) = true := by
  cases p with
  | nil => exact hbWalk_piece [] rest prev t J k (by intro c hc; simp at hc) (fun i hi => Or.inl (hprev i hi)) hcont
  | cons c cs =>
    have hcs : TermLast cs := hp
    rw [List.cons_append]
    unfold hbWalk
    by_cases hc : nonWs c = true
    · simp only [hc, ↓reduceIte, content_cons_of_nonWs cs hc, List.map_cons, List.cons_append, List.headD_cons, List.tail_cons,
        Bool.and_eq_true]
      constructor
      · cases prev with
        | none => rfl
        | some i => simp [hprev i rfl]
      · exact hbWalk_piece cs rest (some k) false J k hcs (fun i hi => Or.inr ⟨(Option.some.inj hi).symm, rfl⟩) hcont
    · simp only [hc, Bool.false_eq_true, ↓reduceIte, content_cons_of_ws cs hc]
      exact hbWalk_piece cs rest prev (t || c.term) J k hcs (fun i hi => Or.inl (hprev i hi)) hcont

theorem hbWalk_piecesFL : ∀ (ps : List (List Cell)) (k : Nat) (prev : Option Nat) (t : Bool),
    (∀ p ∈ ps, TermFL p) → (∀ i, prev = some i → i < k) →
    hbWalk ps.flatten prev t (lineIdxFrom k ps) = true := by
  intro ps
  induction ps with
  | nil => intro k prev t _ _; simp [hbWalk]
  | cons p ps ih =>
    intro k prev t hall hprev
    rw [List.flatten_cons, lineIdxFrom]
    apply hbWalk_pieceFL p ps.flatten prev t _ k (hall p (by simp)) hprev
    intro prev' t' hle
    exact ih (k + 1) prev' t' (fun q hq => hall q (by simp [hq])) (fun i hi => by have := hle i hi; omega)

/-- The segment at `(st, rest)` contains a line terminator only as its last cell, and then it
carries the must-break flag (uniseg LB4/LB5/LB6: no break before, a mandatory break after a hard
line break). -/
def SegTermStrong {σ : Type} (o : σ → List Cell → Nat × Bool × σ) (st : σ) (rest : List Cell) : Prop :=
  (∀ c ∈ (rest.take (o st rest).1).dropLast, c.term = false) ∧
  (∀ c, (rest.take (o st rest).1).getLast? = some c → c.term = true → (o st rest).2.1 = true)

/-- What the hard-break statements need of the segmentation oracle.  `Fresh st rest` = "the state
`st` belongs to the position `rest`": it holds for the state the segmenter returned with the
remainder (`step`) and for the state `ini` = -1 ("unknown": uniseg then determines the class of the
first rune itself) at every position (`init`); segments of fresh queries are `strong`.  text.go
only makes fresh queries (`s.state = -1` after a long-word split, F116).  Asserted per
query by the harness for uniseg. -/
structure OracleTermW {σ : Type} (o : σ → List Cell → Nat × Bool × σ) (ini : σ)
    (Fresh : σ → List Cell → Prop) : Prop where
  init : ∀ rest, Fresh ini rest
  step : ∀ st rest, Fresh (o st rest).2.2 (rest.drop (o st rest).1)
  strong : ∀ st rest, Fresh st rest → SegTermStrong o st rest

/-- Every query is strong (true of the transcribed `richtext.firstLineSegment`, which has no state). -/
def OracleTerm {σ : Type} (o : σ → List Cell → Nat × Bool × σ) : Prop := ∀ st rest, SegTermStrong o st rest

theorem OracleTerm.toW {σ : Type} {o : σ → List Cell → Nat × Bool × σ} (h : OracleTerm o) (ini : σ) :
    OracleTermW o ini (fun _ _ => True) :=
  ⟨fun _ => trivial, fun _ _ => trivial, fun st rest _ => h st rest⟩

theorem richOracle_term (lb : Nat → Nat → Bool) : OracleTerm (richOracle lb) := by
  intro st rest
  exact firstLineSegment_term lb rest true (by intro h; cases h)

theorem OracleTermW.termLast {σ : Type} {o : σ → List Cell → Nat × Bool × σ} {ini : σ} {Fresh : σ → List Cell → Prop}
    (hot : OracleTermW o ini Fresh) {st : σ} {rest : List Cell} (hfr : Fresh st rest) :
    TermLast (rest.take (o st rest).1) := (hot.strong st rest hfr).1

theorem seg_noterm {σ : Type} {o : σ → List Cell → Nat × Bool × σ} {st : σ} {rest : List Cell}
    (hs : SegTermStrong o st rest) (hbr : (o st rest).2.1 = false) :
    ∀ c ∈ rest.take (o st rest).1, c.term = false := by
  intro c hc
  obtain ⟨h1, h2⟩ := hs
  generalize rest.take (o st rest).1 = s at hc h1 h2
  by_cases hne : s = []
  · subst hne; simp at hc
  · rw [← List.dropLast_concat_getLast hne] at hc
    rcases List.mem_append.mp hc with h | h
    · exact h1 c h
    · simp only [List.mem_singleton] at h
      cases ht : c.term with
      | false => rfl
      | true =>
        have := h2 c (by rw [List.getLast?_eq_some_getLast hne, h]) ht
        rw [hbr] at this; cases this

theorem termLast_append {q s : List Cell} (hq : ∀ c ∈ q, c.term = false) (hs : TermLast s) :
    TermLast (q ++ s) := by
  intro c hc
  by_cases hne : s = []
  · subst hne
    rw [List.append_nil] at hc
    exact hq c (List.dropLast_subset _ hc)
  · rw [List.dropLast_append_of_ne_nil hne] at hc
    rcases List.mem_append.mp hc with h | h
    · exact hq c h
    · exact hs c h

theorem termLast_prefix {t u s : List Cell} (h : t ++ u = s) (hs : TermLast s) : TermLast t := by
  intro c hc
  by_cases hne : u = []
  · subst hne; rw [List.append_nil] at h; subst h; exact hs c hc
  · apply hs c
    rw [← h, List.dropLast_append_of_ne_nil hne]
    exact List.mem_append_left _ (List.dropLast_subset _ hc)

theorem Run.piece {σ : Type} {o : σ → List Cell → Nat × Bool × σ} {ini : σ}
    {Fresh : σ → List Cell → Prop} (hot : OracleTermW o ini Fresh) {width : Nat} {rest : List Cell} {st : σ}
    {token : List Cell} {w : Nat} {p rest' : List Cell} {st' : σ} {tok : List Cell}
    (h : Run o ini width rest st token w p rest' st' tok) :
    Fresh st rest → TermLast p ∧ Fresh st' rest' := by
  induction h with
  | @long rest st token w t r _ e =>
    refine fun hfr => ⟨termLast_prefix (u := r ++ trailing (rest.take (o st rest).1)) ?_ (hot.termLast hfr),
      hot.init _⟩
    rw [← List.append_assoc, splitLong_eq e, trim_append_trailing]
  | defer => exact fun hfr => ⟨by simp [TermLast], hfr⟩
  | @brk rest st | @full rest st => exact fun hfr => ⟨hot.termLast hfr, hot.step st rest⟩
  | @next rest st token w _ _ _ _ _ hbr _ _ ih =>
    intro hfr
    obtain ⟨ht1, hf1⟩ := ih (hot.step st rest)
    exact ⟨termLast_append (seg_noterm (hot.strong st rest hfr) hbr) ht1, hf1⟩

theorem scan_piece {σ : Type} (o : σ → List Cell → Nat × Bool × σ) (ini : σ)
    {Fresh : σ → List Cell → Prop} (hot : OracleTermW o ini Fresh) (width : Nat) (rest : List Cell) (st : σ)
    (hfr : Fresh st rest)
    (rest' : List Cell) (st' : σ) (tok : List Cell) (h : scan o ini width rest st = .line rest' st' tok) :
    ∃ p, rest = p ++ rest' ∧ content tok = content p ∧ TermLast p ∧ Fresh st' rest' := by
  obtain ⟨_, _, p, hrun⟩ := scan_run h
  obtain ⟨ht, hf⟩ := hrun.piece hot hfr
  exact ⟨p, hrun.split, hrun.consumed.1, ht, hf⟩

theorem scanAll_pieces {σ : Type} (o : σ → List Cell → Nat × Bool × σ) (ini : σ)
    {Fresh : σ → List Cell → Prop} (hot : OracleTermW o ini Fresh) (width : Nat) (hw : 0 < width)
    (fuel : Nat) (rest : List Cell) (st : σ) (ls : List (List Cell)) (hfr : Fresh st rest)
    (h : scanAll o ini width fuel rest st = .ok ls) :
    ∃ ps, rest = ps.flatten ∧ (∀ k, lineIdxFrom k ls = lineIdxFrom k ps) ∧ ∀ p ∈ ps, TermLast p := by
  refine scanAll_induct (motive := fun rest st ls => Fresh st rest →
    ∃ ps, rest = ps.flatten ∧ (∀ k, lineIdxFrom k ls = lineIdxFrom k ps) ∧ ∀ p ∈ ps, TermLast p)
    ?_ ?_ fuel rest st ls h hfr
  · intro rest st hz _
    exact ⟨[], hz.resolve_right (by omega), fun _ => rfl, nofun⟩
  · intro rest st rest' st' tok ls hs ih hfr
    obtain ⟨p, hp, hc, ht, hf'⟩ := scan_piece o ini hot width rest st hfr rest' st' tok hs
    obtain ⟨ps, hps, hidx, hall⟩ := ih hf'
    refine ⟨p :: ps, by rw [List.flatten_cons, ← hps]; exact hp, ?_, ?_⟩
    · intro k; simp only [lineIdxFrom, hc, hidx]
    · intro x hx
      rcases List.mem_cons.mp hx with rfl | hx
      · exact ht
      · exact hall x hx

theorem lines_hardBreakOK {σ : Type} (o : σ → List Cell → Nat × Bool × σ) (ini : σ)
    {Fresh : σ → List Cell → Prop} (hot : OracleTermW o ini Fresh) (width : Nat) (hw : 0 < width)
    (cells : List Cell) (st0 : σ) (hf0 : Fresh st0 cells)
    (ls : List (List Cell)) (h : lines o ini width cells st0 = .ok ls) : hardBreakOK cells ls = true := by
  obtain ⟨ps, hps, hidx, hall⟩ := scanAll_pieces o ini hot width hw _ cells st0 ls hf0 h
  rw [hardBreakOK_walk, lineIndex_eq, hidx 0, hps]
  exact hbWalk_piecesFL ps 0 none false (fun p hp => (hall p hp).toFL) nofun

theorem trimRight_last_nonsp (seg : List Cell) (l : Cell) (h : (trimRight seg).getLast? = some l) :
    l.sp = false := by
  unfold trimRight at h
  rw [List.getLast?_reverse] at h
  have := List.head?_dropWhile_not (fun c : Cell => c.sp) seg.reverse
  rw [h] at this
  simpa using this

theorem word_noterm (seg : List Cell) (hT : TermLast seg) (hsp : ∀ c ∈ seg, c.term = true → c.sp = true) :
    ∀ c ∈ trimRight seg, c.term = false := by
  intro c hc
  have hpre := trim_append_trailing seg
  have hTw : TermLast (trimRight seg) := termLast_prefix hpre hT
  have hne : trimRight seg ≠ [] := by intro h0; rw [h0] at hc; simp at hc
  rw [← List.dropLast_concat_getLast hne] at hc
  rcases List.mem_append.mp hc with h | h
  · exact hTw c h
  · simp only [List.mem_singleton] at h
    have hl := trimRight_last_nonsp seg c (by rw [List.getLast?_eq_some_getLast hne, h])
    cases ht : c.term with
    | false => rfl
    | true =>
      have hmem : c ∈ seg := by rw [← hpre]; exact List.mem_append_left _ (by rw [h]; exact List.getLast_mem hne)
      rw [hsp c hmem ht] at hl; cases hl

theorem stripBreak_noterm (seg : List Cell) (hT : TermLast seg) : ∀ c ∈ stripBreak seg, c.term = false := by
  rcases stripBreak_cases seg with ⟨h, hl⟩ | ⟨l, _, h⟩
  · rw [h]
    intro c hc
    rcases List.eq_nil_or_concat seg with rfl | ⟨ys, l, rfl⟩
    · cases hc
    · rw [List.concat_eq_append] at hc hl hT
      rcases List.mem_append.mp hc with hc | hc
      · exact hT c (by rw [List.dropLast_concat]; exact hc)
      · rw [List.mem_singleton.mp hc]; exact hl l List.getLast?_concat
  · intro c hc
    exact hT c (by rw [← h, List.dropLast_concat]; exact hc)

theorem Run.noterm {σ : Type} {o : σ → List Cell → Nat × Bool × σ} {ini : σ}
    {Fresh : σ → List Cell → Prop} (hot : OracleTermW o ini Fresh) {width : Nat} {rest : List Cell} {st : σ}
    {token : List Cell} {w : Nat} {p rest' : List Cell} {st' : σ} {tok : List Cell}
    (h : Run o ini width rest st token w p rest' st' tok) :
    Fresh st rest → (∀ c ∈ rest, c.term = true → c.sp = true) → (∀ c ∈ token, c.term = false) →
    ∀ c ∈ tok, c.term = false := by
  have hword : ∀ {rest : List Cell} {st : σ}, Fresh st rest → (∀ c ∈ rest, c.term = true → c.sp = true) →
      ∀ c ∈ trimRight (rest.take (o st rest).1), c.term = false :=
    fun hfr hsp => word_noterm _ (hot.termLast hfr) fun c hc => hsp c (List.mem_of_mem_take hc)
  induction h with
  | long _ e =>
    intro hfr hsp htok c hc
    rcases List.mem_append.mp hc with hc | hc
    · exact htok c hc
    · apply hword hfr hsp c
      rw [← splitLong_eq e]
      exact List.mem_append_left _ hc
  | defer => exact fun _ _ htok => htok
  | @brk rest st token w _ _ =>
    intro hfr _ htok c hc
    rcases List.mem_append.mp hc with hc | hc
    · exact htok c hc
    · exact stripBreak_noterm _ (hot.termLast hfr) c hc
  | full =>
    intro hfr hsp htok c hc
    rcases List.mem_append.mp hc with hc | hc
    · exact htok c hc
    · exact hword hfr hsp c hc
  | @next rest st token w _ _ _ _ _ hbr _ _ ih =>
    intro hfr hsp htok
    refine ih (hot.step st rest) (fun c hc => hsp c (List.mem_of_mem_drop hc)) fun c hc => ?_
    rw [List.append_assoc, trim_append_trailing] at hc
    rcases List.mem_append.mp hc with hc | hc
    · exact htok c hc
    · exact seg_noterm (hot.strong st rest hfr) hbr c hc

open VaxisModel.Spec.Wrap (noTermInLines) in
theorem scanAll_noterm {σ : Type} (o : σ → List Cell → Nat × Bool × σ) (ini : σ)
    {Fresh : σ → List Cell → Prop} (hot : OracleTermW o ini Fresh) (width : Nat)
    (fuel : Nat) (rest : List Cell) (st : σ) (ls : List (List Cell)) (hfr : Fresh st rest)
    (hsp : ∀ c ∈ rest, c.term = true → c.sp = true)
    (h : scanAll o ini width fuel rest st = .ok ls) : noTermInLines ls = true := by
  refine scanAll_induct (motive := fun rest st ls => Fresh st rest → (∀ c ∈ rest, c.term = true → c.sp = true) →
    noTermInLines ls = true) (fun _ _ _ _ _ => rfl) ?_ fuel rest st ls h hfr hsp
  intro rest st rest' st' tok ls hs ih hfr hsp
  obtain ⟨p, hp, _, _, hf'⟩ := scan_piece o ini hot width rest st hfr rest' st' tok hs
  have h1 := (scan_run hs).2.2.elim fun _ hr => hr.noterm hot hfr hsp nofun
  have h2 := ih hf' fun c hc => hsp c (by rw [hp]; exact List.mem_append_right _ hc)
  simp only [noTermInLines, List.all_cons, Bool.and_eq_true, List.all_eq_true] at h2 ⊢
  exact ⟨fun c hc => by simp [h1 c hc], h2⟩

end VaxisModel.Lemmas.Wrap
