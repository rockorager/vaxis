import VaxisModel.Gen.WrapFacts
import VaxisModel.Model.Wrap

/-! Reading the extracted facts of `Gen/WrapFacts.lean` (C16).  The extractor emits the `for { … }` body of both
`SoftwrapScanner.Scan` functions and the long-word loop as lists of `(guard, actions)` steps over normalised *strings*.
This file gives those strings a meaning: `parseStep` turns a step into a small AST (`PStep`), `runSteps` executes such
a list symbolically (arithmetic on `w`, a log of the appends, the exit taken), and `Model.Wrap.scanLoop` / `splitLong`
are the replay of that execution.  `Props/C16Facts.lean` states this of the extracted tables of both packages. -/
namespace VaxisModel.Lemmas.WrapFacts
open VaxisModel.Gen.WrapFacts
open VaxisModel.Model.Wrap

/-- Operands of the guards and sums. -/
inductive Opd where
  | w | wordLen | spaceLen | width
  /-- `E.Width`, the width of the loop element -/
  | ew
  /-- `len(R.token)` -/
  | tokLen
  | zero
  | add (a b : Opd)
  deriving DecidableEq, Repr

inductive Cmp where
  | gt | ge | lt | le | eq | ne
  deriving DecidableEq, Repr

inductive Cond where
  | cmp (a : Opd) (c : Cmp) (b : Opd)
  /-- a Boolean variable (`br`) -/
  | flag (name : String)
  deriving DecidableEq, Repr

inductive Conn where
  | always | one | all | any
  deriving DecidableEq, Repr

inductive Act where
  | setW (o : Opd)
  | addW (o : Opd)
  /-- `R.token = append(R.token, x)` -/
  | tok (x : String)
  /-- `R.rest = x` -/
  | restSet (x : String)
  /-- `R.rest = append(R.rest, x)` -/
  | restApp (x : String)
  /-- `return true` -/
  | ret
  /-- `continue` -/
  | cont
  /-- the long-word branch -/
  | long
  /-- removal of the trailing hard break from `seg` -/
  | strip
  | other (s : String)
  deriving DecidableEq, Repr

structure PStep where
  conn : Conn
  conds : List Cond
  acts : List Act
  deriving DecidableEq, Repr

def cmpOf : String → Option Cmp
  | ">" => some .gt
  | ">=" => some .ge
  | "<" => some .lt
  | "<=" => some .le
  | "==" => some .eq
  | "!=" => some .ne
  | _ => none

def opdOf : String → Option Opd
  | "w" => some .w
  | "wordLen" => some .wordLen
  | "spaceLen" => some .spaceLen
  | "width" => some .width
  | "E.Width" => some .ew
  | "len(R.token)" => some .tokLen
  | "0" => some .zero
  | "(w+wordLen)" => some (.add .w .wordLen)
  | "(w+spaceLen)" => some (.add .w .spaceLen)
  | "(w+E.Width)" => some (.add .w .ew)
  | _ => none

def condOf (a : Atom) : Option Cond :=
  if a.2.1 = "" then
    if a.2.2 = "" then some (.flag a.1) else none
  else do
    let x ← opdOf a.1
    let c ← cmpOf a.2.1
    let y ← opdOf a.2.2
    pure (.cmp x c y)

def connOf : String → Option Conn
  | "always" => some .always
  | "" => some .one
  | "&&" => some .all
  | "||" => some .any
  | _ => none

def actOf : String → Act
  | "w=width" => .setW .width
  | "w+=wordLen" => .addW .wordLen
  | "w+=spaceLen" => .addW .spaceLen
  | "w+=E.Width" => .addW .ew
  | "return true" => .ret
  | "continue" => .cont
  | "LONG" => .long
  | "STRIPBREAK" => .strip
  | "R.rest=rest" => .restSet "rest"
  | "R.rest=EMPTY" => .restSet "EMPTY"
  | "R.rest=append(R.rest,E)" => .restApp "E"
  | "R.rest=append(R.rest,trSpace...)" => .restApp "trSpace"
  | "R.rest=append(R.rest,rest...)" => .restApp "rest"
  | "R.token=append(R.token,E)" => .tok "E"
  | "R.token=append(R.token,seg...)" => .tok "seg"
  | "R.token=append(R.token,word...)" => .tok "word"
  | "R.token=append(R.token,trSpace...)" => .tok "trSpace"
  | s => .other s

def parseStep (s : Step) : Option PStep := do
  let c ← connOf s.1.1
  let cs ← s.1.2.mapM condOf
  pure ⟨c, cs, s.2.map actOf⟩

def parseSteps (ss : List Step) : Option (List PStep) := ss.mapM parseStep

/-- Steps that only assign `R.state` (text.go has one, richtext has no state). -/
def dropState (ss : List Step) : List Step :=
  ss.filter fun s => !(s.1.1 == "always" && s.2 == ["R.state=state"])

structure Env where
  w : Nat
  wordLen : Nat
  spaceLen : Nat
  width : Nat
  ew : Nat
  tokLen : Nat
  deriving Repr

def Opd.eval (e : Env) : Opd → Nat
  | .w => e.w
  | .wordLen => e.wordLen
  | .spaceLen => e.spaceLen
  | .width => e.width
  | .ew => e.ew
  | .tokLen => e.tokLen
  | .zero => 0
  | .add a b => a.eval e + b.eval e

def Cmp.eval : Cmp → Nat → Nat → Bool
  | .gt, a, b => decide (a > b)
  | .ge, a, b => decide (a ≥ b)
  | .lt, a, b => decide (a < b)
  | .le, a, b => decide (a ≤ b)
  | .eq, a, b => decide (a = b)
  | .ne, a, b => decide (a ≠ b)

def Cond.eval (e : Env) (flag : String → Bool) : Cond → Bool
  | .cmp a c b => c.eval (a.eval e) (b.eval e)
  | .flag n => flag n

def guardHolds (e : Env) (flag : String → Bool) (s : PStep) : Bool :=
  match s.conn with
  | .always => true
  | .one => s.conds.all (·.eval e flag)
  | .all => s.conds.all (·.eval e flag)
  | .any => s.conds.any (·.eval e flag)

/-- Result of executing steps: the value of `w`, the appends / assignments to token and rest in
order, and the exit taken (`none` = fell through the end). -/
structure Trace where
  w : Nat
  log : List Act
  exit : Option Act
  deriving DecidableEq, Repr

def runActs (e : Env) (log : List Act) : List Act → Trace
  | [] => ⟨e.w, log, none⟩
  | .setW o :: as => runActs { e with w := o.eval e } log as
  | .addW o :: as => runActs { e with w := e.w + o.eval e } log as
  | .ret :: _ => ⟨e.w, log, some .ret⟩
  | .cont :: _ => ⟨e.w, log, some .cont⟩
  | .long :: _ => ⟨e.w, log, some .long⟩
  | a :: as => runActs e (log ++ [a]) as

def runSteps (flag : String → Bool) : Env → List Act → List PStep → Trace
  | e, log, [] => ⟨e.w, log, none⟩
  | e, log, s :: ss =>
    if guardHolds e flag s then
      let t := runActs e log s.acts
      match t.exit with
      | some _ => t
      | none => runSteps flag { e with w := t.w } t.log ss
    else runSteps flag e log ss

/-- The loop body of `Scan` from the long-word test on (`Model.Wrap.scanLoop`):
```
if wordLen > width then … splitLong …
else if w + wordLen > width then .line rest st token
else if br then .line rest' r.2.2 (token ++ stripBreak seg)
else let token := token ++ word; let w := w + wordLen
     if w + spaceLen > width then .line rest' r.2.2 token
     else scanLoop … rest' r.2.2 (token ++ trSpace) (w + spaceLen)
``` -/
def loopChain : List PStep := [
  ⟨.one, [.cmp .wordLen .gt .width], [.long]⟩,
  ⟨.one, [.cmp (.add .w .wordLen) .gt .width], [.ret]⟩,
  ⟨.always, [], [.restSet "rest"]⟩,
  ⟨.one, [.flag "br"], [.strip, .tok "seg", .ret]⟩,
  ⟨.always, [], [.tok "word"]⟩,
  ⟨.always, [], [.addW .wordLen]⟩,
  ⟨.one, [.cmp (.add .w .spaceLen) .gt .width], [.ret]⟩,
  ⟨.always, [], [.tok "trSpace"]⟩,
  ⟨.always, [], [.addW .spaceLen]⟩]

/-- One iteration of the long-word loop (`Model.Wrap.splitLong`):
```
let w := if ne && w + c.w > width then width else w
if w ≥ width then … (r.1, c :: r.2)             -- to rest, `ne`, `w` unchanged
else … splitLong width true (w + c.w) cs         -- to token
``` -/
def longChain : List PStep := [
  ⟨.all, [.cmp .tokLen .gt .zero, .cmp (.add .w .ew) .gt .width], [.setW .width]⟩,
  ⟨.one, [.cmp .w .ge .width], [.restApp "E", .cont]⟩,
  ⟨.always, [], [.tok "E"]⟩,
  ⟨.always, [], [.addW .ew]⟩]

theorem parse_textLoop : parseSteps textLoop = some loopChain := by decide

theorem parse_textLongBody : parseSteps textLongBody = some longChain := by decide

/-- What executing `loopChain` yields, written as the `if` chain of `scanLoop`. -/
def loopOutcome (e : Env) (br : Bool) : Trace :=
  if e.wordLen > e.width then ⟨e.w, [], some .long⟩
  else if e.w + e.wordLen > e.width then ⟨e.w, [], some .ret⟩
  else if br then ⟨e.w, [.restSet "rest", .strip, .tok "seg"], some .ret⟩
  else if e.w + e.wordLen + e.spaceLen > e.width then
    ⟨e.w + e.wordLen, [.restSet "rest", .tok "word"], some .ret⟩
  else ⟨e.w + e.wordLen + e.spaceLen, [.restSet "rest", .tok "word", .tok "trSpace"], none⟩

section
attribute [local simp] runSteps guardHolds Cond.eval Cmp.eval Opd.eval runActs

theorem run_loopChain (e : Env) (br : Bool) :
    runSteps (fun _ => br) e [] loopChain = loopOutcome e br := by
  unfold loopOutcome
  by_cases h1 : e.wordLen > e.width
  · simp [loopChain, h1]
  · by_cases h2 : e.w + e.wordLen > e.width
    · simp [loopChain, h1, h2]
    · cases br
      · by_cases h3 : e.w + e.wordLen + e.spaceLen > e.width
        · simp [loopChain, h1, h2, h3]
        · simp [loopChain, h1, h2, h3]
      · simp [loopChain, h1, h2]

/-- What one iteration of `longChain` yields, written as the body of `splitLong`. -/
def longOutcome (e : Env) : Trace :=
  let w := if (decide (e.tokLen > 0) && decide (e.w + e.ew > e.width)) then e.width else e.w
  if w ≥ e.width then ⟨w, [.restApp "E"], some .cont⟩
  else ⟨w + e.ew, [.tok "E"], none⟩

theorem run_longChain (e : Env) (flag : String → Bool) :
    runSteps flag e [] longChain = longOutcome e := by
  unfold longOutcome
  by_cases h1 : e.tokLen > 0 <;> by_cases h2 : e.w + e.ew > e.width <;> by_cases h3 : e.w ≥ e.width <;>
    simp [longChain, h1, h2, h3]

end

/-- The cells a logged append stands for, given the values of the Go locals. -/
def tokOf (seg word trSpace : List Cell) : Bool → List Act → List Cell
  | _, [] => []
  | _, .strip :: as => tokOf seg word trSpace true as
  | stripped, .tok "seg" :: as =>
    (if stripped then stripBreak seg else seg) ++ tokOf seg word trSpace stripped as
  | stripped, .tok "word" :: as => word ++ tokOf seg word trSpace stripped as
  | stripped, .tok "trSpace" :: as => trSpace ++ tokOf seg word trSpace stripped as
  | stripped, _ :: as => tokOf seg word trSpace stripped as

/-- `scanLoop`, one iteration, as the replay of the execution of `loopChain`: `R.rest = rest` (and in
text.go `R.state = state`, the statement right after it) happened iff it is in the log; the long-word
branch leaves the state `ini` (text.go: `s.state = -1`, F116; richtext has no state). -/
def replayLoop {σ : Type} (o : σ → List Cell → Nat × Bool × σ) (ini : σ) (width fuel : Nat)
    (rest : List Cell) (st : σ) (token : List Cell) (w : Nat) : Scan σ :=
  let r := o st rest
  let seg := rest.take r.1
  let rest' := rest.drop r.1
  let word := trimRight seg
  let trSpace := seg.drop word.length
  let t := runSteps (fun _ => r.2.1) ⟨w, sumW word, sumW trSpace, width, 0, token.length⟩ [] loopChain
  let assigned := t.log.contains (.restSet "rest")
  let tok := token ++ tokOf seg word trSpace false t.log
  match t.exit with
  | some .long =>
    let sp := splitLong width (!token.isEmpty) w word
    .line (sp.2 ++ trSpace ++ rest') ini (token ++ sp.1)
  | some _ => .line (if assigned then rest' else rest) (if assigned then r.2.2 else st) tok
  | none => scanLoop o ini width fuel rest' r.2.2 tok t.w

theorem scanLoop_eq_replay {σ : Type} (o : σ → List Cell → Nat × Bool × σ) (ini : σ) (width fuel : Nat)
    (rest : List Cell) (st : σ) (token : List Cell) (w : Nat) :
    scanLoop o ini width (fuel + 1) rest st token w = replayLoop o ini width fuel rest st token w := by
  unfold replayLoop
  simp only [run_loopChain, loopOutcome]
  rw [scanLoop]
  simp only []
  by_cases h1 : sumW (trimRight (List.take (o st rest).1 rest)) > width
  · simp [h1]
  · by_cases h2 : w + sumW (trimRight (List.take (o st rest).1 rest)) > width
    · simp [h1, h2, tokOf]
    · cases hb : (o st rest).2.1
      · by_cases h3 : w + sumW (trimRight (List.take (o st rest).1 rest)) +
            sumW (List.drop (trimRight (List.take (o st rest).1 rest)).length (List.take (o st rest).1 rest)) > width
        · simp [h1, h2, h3, tokOf]
        · simp [h1, h2, h3, tokOf]
      · simp [h1, h2, tokOf]

/-- One step of `splitLong` as the replay of `longChain` (`ne` = `len(R.token) > 0`, read through
any positive length). -/
theorem splitLong_eq_replay (width : Nat) (ne : Bool) (w : Nat) (c : Cell) (cs : List Cell)
    (flag : String → Bool) :
    let t := runSteps flag ⟨w, 0, 0, width, c.w, if ne then 1 else 0⟩ [] longChain
    splitLong width ne w (c :: cs) =
      match t.exit with
      | some _ => let r := splitLong width ne t.w cs; (r.1, c :: r.2)
      | none => let r := splitLong width true t.w cs; (c :: r.1, r.2) := by
  simp only [run_longChain, longOutcome]
  rw [splitLong]
  cases ne
  · by_cases h3 : w ≥ width <;> simp [h3]
  · by_cases h2 : w + c.w > width
    · simp [h2]
    · by_cases h3 : w ≥ width <;> simp [h2, h3]

def Cmp.eval16 : Cmp → UInt16 → UInt16 → Bool
  | .gt, a, b => decide (a > b)
  | .ge, a, b => decide (a ≥ b)
  | .lt, a, b => decide (a < b)
  | .le, a, b => decide (a ≤ b)
  | .eq, a, b => decide (a = b)
  | .ne, a, b => decide (a ≠ b)

/-- The comparison `lhs op rhs` guarding step `i`, if that step is a single comparison of exactly
these operands. -/
def cmpAt (ss : List Step) (i : Nat) (lhs rhs : String) : Option Cmp :=
  match ss[i]? with
  | some (("", [(l, op, r)]), _) => if l = lhs ∧ r = rhs then cmpOf op else none
  | _ => none

end VaxisModel.Lemmas.WrapFacts
