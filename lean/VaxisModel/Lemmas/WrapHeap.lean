import VaxisModel.Model.WrapHeap
import VaxisModel.Lemmas.Wrap

/-! The heap-level scanner of C16 (`Model/WrapHeap.lean`).  Each of its loops is walked once (`hardLoopH_refines`,
`splitLongH_refines`, `scanLoopH_refines`), for two conclusions: unconditionally, a `Scan` writes only into arrays it
allocated itself (`Frame`; the slices it appends to stay `Good`); and if the slices are well-formed, the loop computes
what the value-level loop of `Model/Wrap.lean` computes.  For the second: a `Scan` cuts slices out of an array that
existed before (`Old`, read the same in every heap that `Keeps` those arrays), and it appends to the two slices it owns
(`Den`, kept by `append`). -/
namespace VaxisModel.Lemmas.WrapHeap
open VaxisModel.Model.Wrap VaxisModel.Model.WrapHeap VaxisModel.Lemmas.Wrap

local notation "rd" => VaxisModel.Model.WrapHeap.read

/-- A slice the scanner may append to without touching an array that existed before (`n0` arrays):
it is full (any non-empty `append` allocates) or its array is younger; and its array exists. -/
def Good (n0 : Nat) (h : Heap) (s : Slice) : Prop := (s.len = s.cap ∨ n0 ≤ s.arr) ∧ s.arr < h.length

theorem Good.arr_lt {n0 : Nat} {h : Heap} {s : Slice} (g : Good n0 h s) : s.arr < h.length := g.2

theorem Good.mono {n0 : Nat} {h h' : Heap} {s : Slice} (g : Good n0 h s) (hl : h.length ≤ h'.length) : Good n0 h' s :=
  ⟨g.1, Nat.lt_of_lt_of_le g.arr_lt hl⟩

theorem good_empty (n0 : Nat) (h : Heap) (hne : 0 < h.length) : Good n0 h emptySlice := ⟨Or.inl rfl, hne⟩

def Keeps (n0 : Nat) (h h' : Heap) : Prop := ∀ i, i < n0 → arrOf h' i = arrOf h i

theorem Keeps.refl (n0 : Nat) (h : Heap) : Keeps n0 h h := fun _ _ => rfl

theorem Keeps.trans {n0 : Nat} {h h' h'' : Heap} (a : Keeps n0 h h') (b : Keeps n0 h' h'') : Keeps n0 h h'' :=
  fun i hi => (b i hi).trans (a i hi)

structure Frame (n0 : Nat) (h h' : Heap) : Prop where
  le : h.length ≤ h'.length
  keeps : Keeps n0 h h'

theorem Frame.refl (n0 : Nat) (h : Heap) : Frame n0 h h := ⟨Nat.le_refl _, Keeps.refl _ _⟩

theorem Frame.trans {n0 : Nat} {h h' h'' : Heap} (a : Frame n0 h h') (b : Frame n0 h' h'') : Frame n0 h h'' :=
  ⟨Nat.le_trans a.le b.le, a.keeps.trans b.keeps⟩

theorem Frame.weaken {n0 n1 : Nat} {h h' : Heap} (f : Frame n1 h h') (hle : n0 ≤ n1) : Frame n0 h h' :=
  ⟨f.le, fun i hi => f.keeps i (Nat.lt_of_lt_of_le hi hle)⟩

theorem arrOf_set_self (h : Heap) (i : Nat) (v : List Cell) (hi : i < h.length) : arrOf (h.set i v) i = v := by
  simp [arrOf, List.getD_eq_getElem?_getD, hi]

theorem arrOf_set_ne (h : Heap) (i j : Nat) (v : List Cell) (hne : j ≠ i) : arrOf (h.set i v) j = arrOf h j := by
  simp only [arrOf, List.getD_eq_getElem?_getD]
  rw [List.getElem?_set_ne (by omega)]

theorem arrOf_append_new (h : Heap) (v : List Cell) : arrOf (h ++ [v]) h.length = v := by
  simp [arrOf, List.getD_eq_getElem?_getD]

theorem arrOf_append_old (h : Heap) (v : List Cell) (j : Nat) (hj : j < h.length) : arrOf (h ++ [v]) j = arrOf h j := by
  simp only [arrOf, List.getD_eq_getElem?_getD]
  rw [List.getElem?_append_left hj]

theorem append_frame (grow : Nat → Nat → Nat) (h : Heap) (s : Slice) (xs : List Cell) (n0 : Nat)
    (hn : n0 ≤ h.length) (g : Good n0 h s) :
    Frame n0 h (append grow h s xs).1 ∧ Good n0 (append grow h s xs).1 (append grow h s xs).2 := by
  unfold append
  by_cases hx : xs.isEmpty = true
  · simp only [hx, ↓reduceIte]; exact ⟨Frame.refl _ _, g⟩
  · simp only [hx, Bool.false_eq_true, ↓reduceIte]
    have hpos : 0 < xs.length := by
      cases xs with
      | nil => simp at hx
      | cons _ _ => simp
    by_cases hc : s.len + xs.length ≤ s.cap
    · simp only [hc, ↓reduceIte]
      have harr : n0 ≤ s.arr := by
        rcases g.1 with h1 | h1
        · omega
        · exact h1
      exact ⟨⟨by simp, fun i hi => arrOf_set_ne h s.arr i _ (by omega)⟩, ⟨Or.inr harr, by simpa using g.arr_lt⟩⟩
    · simp only [hc, ↓reduceIte]
      exact ⟨⟨by simp, fun i hi => arrOf_append_old h _ i (by omega)⟩, ⟨Or.inr hn, by simp⟩⟩

theorem read_frame {h h' : Heap} {s : Slice} (e : arrOf h' s.arr = arrOf h s.arr) : read h' s = read h s := by
  unfold VaxisModel.Model.WrapHeap.read
  rw [e]

def WFS (h : Heap) (s : Slice) : Prop := s.off + s.cap ≤ (arrOf h s.arr).length ∧ s.len ≤ s.cap

theorem read_length {h : Heap} {s : Slice} (w : WFS h s) : (rd h s).length = s.len := by
  unfold VaxisModel.Model.WrapHeap.read
  have := w.1; have := w.2
  simp only [List.length_take, List.length_drop]
  omega

theorem isEmpty_iff_len {h : Heap} {s : Slice} (w : WFS h s) : (rd h s).isEmpty = (s.len == 0) := by
  have := read_length w
  cases hd : rd h s with
  | nil => rw [hd] at this; simp at this; simp [← this]
  | cons x xs => rw [hd] at this; simp at this; simp [← this]

theorem writeAt_read (l : List Cell) (off len : Nat) (xs : List Cell) (hl : off + len + xs.length ≤ l.length) :
    ((writeAt l (off + len) xs).drop off).take (len + xs.length) = (l.drop off).take len ++ xs := by
  unfold writeAt
  have h1 : (l.take (off + len)).length = off + len := by rw [List.length_take]; omega
  rw [List.append_assoc, List.drop_append_of_le_length (by omega)]
  have hA : (l.take (off + len)).drop off = (l.drop off).take len := by
    rw [List.drop_take]; congr 1; omega
  rw [hA]
  have h2 : ((l.drop off).take len).length = len := by rw [List.length_take, List.length_drop]; omega
  rw [List.take_append, h2]
  simp only [Nat.add_sub_cancel_left]
  rw [List.take_append]
  simp
  exact List.take_of_length_le (by omega)

theorem writeAt_length (l : List Cell) (pos : Nat) (xs : List Cell) (hl : pos + xs.length ≤ l.length) :
    (writeAt l pos xs).length = l.length := by
  unfold writeAt
  simp only [List.length_append, List.length_take, List.length_drop]
  omega

theorem append_read (grow : Nat → Nat → Nat) (h : Heap) (s : Slice) (xs : List Cell) (hs : s.arr < h.length) (w : WFS h s) :
    rd (append grow h s xs).1 (append grow h s xs).2 = rd h s ++ xs ∧
    WFS (append grow h s xs).1 (append grow h s xs).2 := by
  unfold append
  by_cases hx : xs.isEmpty = true
  · have : xs = [] := List.isEmpty_iff.mp hx
    subst this
    simp [w]
  · simp only [hx, Bool.false_eq_true, ↓reduceIte]
    by_cases hc : s.len + xs.length ≤ s.cap
    · simp only [hc, ↓reduceIte]
      have hl : s.off + s.len + xs.length ≤ (arrOf h s.arr).length := by have := w.1; omega
      constructor
      · unfold VaxisModel.Model.WrapHeap.read
        simp only [arrOf_set_self h s.arr _ hs]
        exact writeAt_read _ _ _ _ hl
      · refine ⟨?_, hc⟩
        simp only [arrOf_set_self h s.arr _ hs]
        rw [writeAt_length _ _ _ (by omega)]
        exact w.1
    · simp only [hc, ↓reduceIte]
      have hrl := read_length w
      constructor
      · unfold VaxisModel.Model.WrapHeap.read
        simp only [arrOf_append_new, List.drop_zero]
        rw [List.take_append_of_le_length (by simp [VaxisModel.Model.WrapHeap.read] at hrl ⊢; omega)]
        apply List.take_of_length_le
        simp [VaxisModel.Model.WrapHeap.read] at hrl ⊢
        omega
      · refine ⟨?_, by simp only []; omega⟩
        simp only [arrOf_append_new, List.length_append, List.length_replicate, hrl]
        omega

theorem wfs_empty (h : Heap) : WFS h emptySlice := ⟨by simp [emptySlice], by simp [emptySlice]⟩

theorem read_empty (h : Heap) : rd h emptySlice = [] := by
  simp [VaxisModel.Model.WrapHeap.read, emptySlice]

theorem read_sub (h : Heap) (s : Slice) (a b : Nat) (hb : b ≤ s.len) :
    rd h (sub s a b) = ((rd h s).drop a).take (b - a) := by
  unfold VaxisModel.Model.WrapHeap.read sub
  simp only
  rw [List.drop_take, List.drop_drop, List.take_take]
  congr 1
  omega

theorem WFS_sub {h : Heap} {s : Slice} (w : WFS h s) (a b : Nat) (hab : a ≤ b) (hb : b ≤ s.len) : WFS h (sub s a b) := by
  have := w.1; have := w.2
  unfold WFS sub
  simp only
  constructor <;> omega

theorem WFS_frame {h h' : Heap} {s : Slice} (e : arrOf h' s.arr = arrOf h s.arr) (w : WFS h s) : WFS h' s := by
  unfold WFS at *; rw [e]; exact w

/-- A slice of one of the first `n0` arrays of `h0`: whatever is appended to owned slices, it denotes the same cells. -/
structure Old (n0 : Nat) (h0 : Heap) (s : Slice) : Prop where
  arr_lt : s.arr < n0
  wfs : WFS h0 s

theorem Old.read {n0 : Nat} {h0 h : Heap} {s : Slice} (o : Old n0 h0 s) (b : Keeps n0 h0 h) : rd h s = rd h0 s :=
  read_frame (b _ o.arr_lt)

theorem Old.wfs_at {n0 : Nat} {h0 h : Heap} {s : Slice} (o : Old n0 h0 s) (b : Keeps n0 h0 h) : WFS h s :=
  WFS_frame (b _ o.arr_lt) o.wfs

/-- Element `i`, as the loop reads it from a later heap. -/
theorem Old.drop_eq {n0 : Nat} {h0 h : Heap} {s : Slice} (o : Old n0 h0 s) (b : Keeps n0 h0 h) {i : Nat} (hi : i < s.len) :
    (rd h0 s).drop i = (arrOf h s.arr).getD (s.off + i) default :: (rd h0 s).drop (i + 1) := by
  have hlen := read_length o.wfs
  have hilt : i < (rd h0 s).length := by omega
  have hoff : s.off + i < (arrOf h0 s.arr).length := by have := o.wfs.1; have := o.wfs.2; omega
  rw [List.drop_eq_getElem_cons hilt, b _ o.arr_lt]
  simp [List.getD_eq_getElem?_getD, List.getElem?_eq_getElem hoff, VaxisModel.Model.WrapHeap.read]

theorem Old.sub {n0 : Nat} {h0 : Heap} {s : Slice} (o : Old n0 h0 s) {a b : Nat} (hab : a ≤ b) (hb : b ≤ s.len) :
    Old n0 h0 (sub s a b) := ⟨o.arr_lt, WFS_sub o.wfs a b hab hb⟩

theorem Old.empty {n0 : Nat} (h0 : Heap) (hn0 : 0 < n0) : Old n0 h0 emptySlice := ⟨hn0, wfs_empty _⟩

theorem read_take {h : Heap} {s : Slice} {k : Nat} (hk : k ≤ s.len) : rd h (sub s 0 k) = (rd h s).take k := by
  rw [read_sub h s 0 _ hk, List.drop_zero, Nat.sub_zero]

theorem read_drop {h : Heap} {s : Slice} (w : WFS h s) (k : Nat) : rd h (sub s k s.len) = (rd h s).drop k := by
  rw [read_sub h s k s.len (Nat.le_refl _)]
  exact List.take_of_length_le (by rw [List.length_drop, read_length w]; exact Nat.le_refl _)

/-- `s[k:]`, or `[]vaxis.Cell{}` when nothing is left. -/
theorem read_tail {n0 : Nat} {h0 : Heap} {s : Slice} (o : Old n0 h0 s) (hn0 : 0 < n0) (k : Nat) :
    Old n0 h0 (if min k s.len < s.len then sub s (min k s.len) s.len else emptySlice) ∧
    rd h0 (if min k s.len < s.len then sub s (min k s.len) s.len else emptySlice) = (rd h0 s).drop k := by
  have hl := read_length o.wfs
  split
  · refine ⟨o.sub (Nat.min_le_right _ _) (Nat.le_refl _), ?_⟩
    rw [read_drop o.wfs, ← hl]; exact List.drop_eq_drop_min.symm
  · exact ⟨Old.empty h0 hn0, by rw [read_empty]; exact (List.drop_eq_nil_of_le (by omega)).symm⟩

/-- `if HasTrailingLineBreak(last) { seg = seg[:len(seg)-1] }` -/
theorem read_strip {h : Heap} {s : Slice} (w : WFS h s) :
    rd h (match (rd h s).getLast? with
      | some l => if l.term then sub s 0 (s.len - 1) else s
      | none => s) = stripBreak (rd h s) := by
  unfold stripBreak
  cases (rd h s).getLast? with
  | none => rfl
  | some l =>
    simp only
    split
    · rw [read_take (Nat.sub_le _ _), List.dropLast_eq_take, read_length w]
    · rfl

theorem hardLoopH_refines (grow : Nat → Nat → Nat) (cells : Slice) (n0 : Nat)
    (i n : Nat) (h : Heap) (line : Slice) : n0 ≤ h.length → Good n0 h line →
      (Frame n0 h (hardLoopH grow cells i n h line).1 ∧
        Good n0 (hardLoopH grow cells i n h line).1 (hardLoopH grow cells i n h line).2.line) ∧
      ∀ h0, Old n0 h0 cells → i + n = cells.len → Keeps n0 h0 h → WFS h line →
        rd (hardLoopH grow cells i n h line).1 (hardLoopH grow cells i n h line).2.line =
          (hardLoop (rd h line) ((rd h0 cells).drop i)).1 ∧
        rd (hardLoopH grow cells i n h line).1 (hardLoopH grow cells i n h line).2.cells =
          (hardLoop (rd h line) ((rd h0 cells).drop i)).2 := by
  fun_induction hardLoopH grow cells i n h line with
  | case1 i h line =>
    refine fun _ g => ⟨⟨Frame.refl _ _, g⟩, fun h0 oc hi _ _ => ?_⟩
    rw [List.drop_eq_nil_of_le (by rw [read_length oc.wfs]; omega), hardLoop, read_empty]; exact ⟨rfl, rfl⟩
  | case2 i n h line c hnl hlast =>
    refine fun _ g => ⟨⟨Frame.refl _ _, g⟩, fun h0 oc hi bs _ => ?_⟩
    rw [oc.drop_eq bs (by omega), hardLoop, if_pos hnl,
      List.drop_eq_nil_of_le (by rw [read_length oc.wfs]; have := eq_of_beq hlast; omega), read_empty]
    exact ⟨rfl, rfl⟩
  | case3 i n h line c hnl hlast =>
    refine fun _ g => ⟨⟨Frame.refl _ _, g⟩, fun h0 oc hi bs _ => ?_⟩
    have hne : ((rd h0 cells).drop (i + 1)).isEmpty = false := by
      rw [List.isEmpty_eq_false_iff, Ne, List.drop_eq_nil_iff, read_length oc.wfs]
      have : i + 1 ≠ cells.len := by simpa using hlast
      omega
    rw [oc.drop_eq bs (by omega), hardLoop, if_pos hnl, hne]
    exact ⟨rfl, (read_drop (oc.wfs_at bs) (i + 1)).trans (by rw [oc.read bs]; rfl)⟩
  | case4 i n h line c hnl r ih =>
    intro hn g
    obtain ⟨f1, g1⟩ := append_frame grow h line [c] n0 hn g
    obtain ⟨⟨f2, g2⟩, d2⟩ := ih (Nat.le_trans hn f1.le) g1
    refine ⟨⟨f1.trans f2, g2⟩, fun h0 oc hi bs wl => ?_⟩
    obtain ⟨r1, w1⟩ := append_read grow h line [c] g.arr_lt wl
    have := d2 h0 oc (by omega) (bs.trans f1.keeps) w1
    rw [show rd r.1 r.2 = _ from r1] at this
    rw [oc.drop_eq bs (by omega), hardLoop, if_neg hnl]; exact this

/-- Two slices that an in-place `append` to one cannot make interfere. -/
def Sep (r t : Slice) : Prop := r.arr ≠ t.arr ∨ r.cap = 0 ∨ t.cap = 0

theorem append_other (grow : Nat → Nat → Nat) (h : Heap) (s t : Slice) (xs : List Cell)
    (ws : WFS h s) (hs : s.arr < h.length) (wt : WFS h t) (ht : t.arr < h.length) (sep : Sep s t) :
    rd (append grow h s xs).1 t = rd h t ∧
    WFS (append grow h s xs).1 t ∧ Sep (append grow h s xs).2 t := by
  unfold append
  by_cases hx : xs.isEmpty = true
  · simp only [hx, ↓reduceIte]; exact ⟨trivial, wt, sep⟩
  · simp only [hx, Bool.false_eq_true, ↓reduceIte]
    have hpos : 0 < xs.length := by
      cases xs with
      | nil => simp at hx
      | cons _ _ => simp
    by_cases hc : s.len + xs.length ≤ s.cap
    · simp only [hc, ↓reduceIte]
      have hcap : s.cap ≠ 0 := by omega
      by_cases hne : t.arr = s.arr
      · -- then t has no capacity: it denotes nothing, and stays inside the (equally long) array
        have ht0 : t.cap = 0 := by
          rcases sep with h1 | h1 | h1
          · exact absurd hne.symm h1
          · exact absurd h1 hcap
          · exact h1
        have hl0 : t.len = 0 := by have := wt.2; omega
        have hlen : (arrOf (h.set s.arr (writeAt (arrOf h s.arr) (s.off + s.len) xs)) t.arr).length = (arrOf h t.arr).length := by
          rw [hne, arrOf_set_self h s.arr _ hs, writeAt_length _ _ _ (by have := ws.1; omega)]
        refine ⟨?_, ⟨by rw [hlen]; exact wt.1, wt.2⟩, Or.inr (Or.inr ht0)⟩
        simp [VaxisModel.Model.WrapHeap.read, hl0]
      · have he := arrOf_set_ne h s.arr t.arr (writeAt (arrOf h s.arr) (s.off + s.len) xs) hne
        refine ⟨by simp only [VaxisModel.Model.WrapHeap.read, he], ⟨by rw [he]; exact wt.1, wt.2⟩, Or.inl (fun e => hne e.symm)⟩
    · simp only [hc, ↓reduceIte]
      have he := arrOf_append_old h (rd h s ++ xs ++
        List.replicate (max (s.len + xs.length) (grow s.cap (s.len + xs.length)) - (s.len + xs.length)) default) t.arr ht
      refine ⟨by unfold VaxisModel.Model.WrapHeap.read at he ⊢; rw [he], ⟨by rw [he]; exact wt.1, wt.2⟩, Or.inl (by simp only []; omega)⟩

theorem sep_empty (t : Slice) : Sep emptySlice t := Or.inr (Or.inl rfl)

theorem Sep.symm {r t : Slice} (h : Sep r t) : Sep t r := by
  rcases h with h | h | h
  · exact Or.inl (fun e => h e.symm)
  · exact Or.inr (Or.inr h)
  · exact Or.inr (Or.inl h)

/-- The two slices a `Scan` appends to, as far as well-formedness goes: inside their arrays, out of each other's way,
denoting `xr` and `xt`. -/
structure Den (h : Heap) (r t : Slice) (xr xt : List Cell) : Prop where
  wr : WFS h r
  wt : WFS h t
  sep : Sep r t
  rr : rd h r = xr
  rt : rd h t = xt

theorem Den.symm {h : Heap} {r t : Slice} {xr xt : List Cell} (D : Den h r t xr xt) : Den h t r xt xr :=
  ⟨D.wt, D.wr, D.sep.symm, D.rt, D.rr⟩

theorem Den.append {h : Heap} {r t : Slice} {xr xt : List Cell} (D : Den h r t xr xt) {n0 : Nat}
    (gr : Good n0 h r) (gt : Good n0 h t) (grow : Nat → Nat → Nat) (ys : List Cell) :
    Den (append grow h r ys).1 (append grow h r ys).2 t (xr ++ ys) xt := by
  obtain ⟨e, w'⟩ := append_read grow h r ys gr.arr_lt D.wr
  obtain ⟨o1, o2, o3⟩ := append_other grow h r t ys D.wr gr.arr_lt D.wt gt.arr_lt D.sep
  exact ⟨w', o2, o3, by rw [e, D.rr], by rw [o1, D.rt]⟩

theorem Den.ne {h : Heap} {r t : Slice} {xr xt : List Cell} (D : Den h r t xr xt) : decide (t.len > 0) = !xt.isEmpty := by
  rw [← D.rt, isEmpty_iff_len D.wt]; cases t.len <;> rfl

/-- `longW` tests `len(s.token) > 0`, `splitLong` whether the token's cells are there. -/
theorem Den.longW {h : Heap} {r t : Slice} {xr xt : List Cell} (D : Den h r t xr xt) (w cw width : Nat) :
    (if (!xt.isEmpty && decide (w + cw > width)) = true then width else w) = longW t.len w cw width := by
  rw [← D.ne]; rfl

theorem splitLongH_refines (grow : Nat → Nat → Nat) (width : Nat) (word : Slice) (n0 : Nat)
    (i n : Nat) (h : Heap) (rest token : Slice) (w : Nat) : n0 ≤ h.length → Good n0 h rest → Good n0 h token →
      (Frame n0 h (splitLongH grow width word i n h rest token w).1 ∧
        Good n0 (splitLongH grow width word i n h rest token w).1 (splitLongH grow width word i n h rest token w).2.1 ∧
        Good n0 (splitLongH grow width word i n h rest token w).1 (splitLongH grow width word i n h rest token w).2.2) ∧
      ∀ (h0 : Heap) (xr xt : List Cell), Old n0 h0 word → i + n = word.len → Keeps n0 h0 h → Den h rest token xr xt →
        Den (splitLongH grow width word i n h rest token w).1 (splitLongH grow width word i n h rest token w).2.1
          (splitLongH grow width word i n h rest token w).2.2
          (xr ++ (splitLong width (!xt.isEmpty) w ((rd h0 word).drop i)).2)
          (xt ++ (splitLong width (!xt.isEmpty) w ((rd h0 word).drop i)).1) := by
  fun_induction splitLongH grow width word i n h rest token w with
  | case1 =>
    refine fun _ gr gt => ⟨⟨Frame.refl _ _, gr, gt⟩, fun h0 xr xt ow hi _ D => ?_⟩
    rw [List.drop_eq_nil_of_le (by rw [read_length ow.wfs]; omega)]
    simpa [splitLong] using D
  | case2 i n h rest token w c w1 hge r ih =>
    intro hn gr gt
    obtain ⟨f1, g1⟩ := append_frame grow h rest [c] n0 hn gr
    obtain ⟨⟨f2, g2, g3⟩, d2⟩ := ih (Nat.le_trans hn f1.le) g1 (gt.mono f1.le)
    refine ⟨⟨f1.trans f2, g2, g3⟩, fun h0 xr xt ow hi bs D => ?_⟩
    have D2 := d2 h0 _ _ ow (by omega) (bs.trans f1.keeps) (D.append gr gt grow [c])
    rw [ow.drop_eq bs (by omega), splitLong, D.longW, if_pos hge]
    rw [List.append_assoc, List.singleton_append] at D2
    exact D2
  | case3 i n h rest token w c w1 hlt r ih =>
    intro hn gr gt
    obtain ⟨f1, g1⟩ := append_frame grow h token [c] n0 hn gt
    obtain ⟨⟨f2, g2, g3⟩, d2⟩ := ih (Nat.le_trans hn f1.le) (gr.mono f1.le) g1
    refine ⟨⟨f1.trans f2, g2, g3⟩, fun h0 xr xt ow hi bs D => ?_⟩
    have D2 := d2 h0 _ _ ow (by omega) (bs.trans f1.keeps) (D.symm.append gt gr grow [c]).symm
    rw [ow.drop_eq bs (by omega), splitLong, D.longW, if_neg hlt]
    rw [show (!(xt ++ [c]).isEmpty) = true by simp, List.append_assoc, List.singleton_append] at D2
    exact D2

/-- The segmentation function of the heap model as an oracle of the value-level model (no state). -/
def oracleOf (o : List Cell → Nat × Bool) : Unit → List Cell → Nat × Bool × Unit :=
  fun _ l => ((o l).1, (o l).2, ())

/-- Same outcome: both run out of fuel, or both return with slices denoting the model's lists (and `s.rest`
is again a well-formed slice of an array of the heap, so the next `Scan` can start from it). -/
def ScanRel : Option (Heap × St) → Scan Unit → Prop
  | none, .hang => True
  | some (h', st'), .line r _ t =>
      rd h' st'.rest = r ∧ rd h' st'.token = t ∧ st'.rest.arr < h'.length ∧ WFS h' st'.rest
  | _, _ => False

/-- One iteration of the value-level loop, written with the slices the heap-level loop cuts out of `s.rest`
(`seg`, the new `rest`, `word`, `trSpace`: slices of the same old array) and with its guards. -/
theorem iter_model {n0 : Nat} {h0 h : Heap} {s : Slice} (b : Keeps n0 h0 h) (os : Old n0 h0 s) (hn0 : 0 < n0)
    (o : List Cell → Nat × Bool) (width fuel : Nat) (token : List Cell) (w : Nat)
    (r : Nat × Bool) (seg rest word trSpace : Slice) (er : r = o (rd h s)) (eseg : seg = sub s 0 (min r.1 s.len))
    (erest : rest = if min r.1 s.len < s.len then sub s (min r.1 s.len) s.len else emptySlice)
    (eword : word = sub seg 0 (trimRight (rd h seg)).length) (etr : trSpace = sub seg word.len seg.len) :
    (Old n0 h0 seg ∧ Old n0 h0 rest ∧ Old n0 h0 word ∧ Old n0 h0 trSpace) ∧
    scanLoop (oracleOf o) () width (fuel + 1) (rd h0 s) () token w =
      if sumW (rd h word) > width then
        .line ((splitLong width (!token.isEmpty) w (rd h0 word)).2 ++ rd h0 trSpace ++ rd h0 rest) ()
          (token ++ (splitLong width (!token.isEmpty) w (rd h0 word)).1)
      else if w + sumW (rd h word) > width then .line (rd h0 s) () token
      else if r.2 then .line (rd h0 rest) () (token ++ stripBreak (rd h0 seg))
      else if w + sumW (rd h word) + sumW (rd h trSpace) > width then .line (rd h0 rest) () (token ++ rd h0 word)
      else scanLoop (oracleOf o) () width fuel (rd h0 rest) () (token ++ rd h0 word ++ rd h0 trSpace)
        (w + sumW (rd h word) + sumW (rd h trSpace)) := by
  have hr : o (rd h0 s) = r := by rw [er, os.read b]
  have hk : min r.1 s.len ≤ s.len := Nat.min_le_right _ _
  have oseg : Old n0 h0 seg := eseg ▸ os.sub (Nat.zero_le _) hk
  have hseg : rd h0 seg = (rd h0 s).take r.1 := by
    rw [eseg, read_take hk, ← read_length os.wfs]; exact List.take_eq_take_min.symm
  -- `word = seg[:n]`, `trSpace = seg[n:]` with `n` the length of the trimmed segment
  have hn : (trimRight (rd h seg)).length = (trimRight (rd h0 seg)).length := by rw [oseg.read b]
  have hle : (trimRight (rd h seg)).length ≤ seg.len := by
    rw [hn, ← read_length oseg.wfs]; exact trim_len_le _
  have oword : Old n0 h0 word := eword ▸ oseg.sub (Nat.zero_le _) hle
  have hword : rd h0 word = trimRight (rd h0 seg) := by rw [eword, read_take hle, hn]; exact take_trim _
  have ewl : word.len = (trimRight (rd h seg)).length := by rw [eword]; rfl
  have otr : Old n0 h0 trSpace := etr ▸ oseg.sub (ewl ▸ hle) (Nat.le_refl _)
  have htr : rd h0 trSpace = (rd h0 seg).drop (trimRight (rd h0 seg)).length := by
    rw [etr, ewl, hn, read_drop oseg.wfs]
  obtain ⟨orest, hrest⟩ := read_tail os hn0 r.1
  rw [← erest] at orest hrest
  refine ⟨⟨oseg, orest, oword, otr⟩, ?_⟩
  rw [scanLoop]
  simp only [oracleOf, hr]
  rw [oword.read b, otr.read b, hword, htr, hrest, hseg]

theorem scanLoopH_refines (grow : Nat → Nat → Nat) (o : List Cell → Nat × Bool) (width : Nat) (n0 : Nat)
    (fuel : Nat) (h : Heap) (st : St) (w : Nat) : n0 ≤ h.length → Good n0 h st.token →
      (∀ q, scanLoopH grow o width fuel h st w = some q → Frame n0 h q.1 ∧ Good n0 q.1 q.2.token) ∧
      ∀ h0, 0 < n0 → Keeps n0 h0 h → Old n0 h0 st.rest → WFS h st.token →
        ScanRel (scanLoopH grow o width fuel h st w)
          (scanLoop (oracleOf o) () width fuel (rd h0 st.rest) () (rd h st.token) w) := by
  fun_induction scanLoopH grow o width fuel h st w with
  | case1 => exact fun _ _ => ⟨nofun, fun _ _ _ _ _ => by simp [scanLoop, ScanRel]⟩
  | case2 fuel h st w r k seg rest word trSpace wordLen c1 a b c =>
    intro hn gt
    have ge := good_empty n0 h (Nat.lt_of_le_of_lt (Nat.zero_le _) gt.arr_lt)
    obtain ⟨⟨fa, ga1, ga2⟩, da⟩ : (Frame n0 h a.1 ∧ Good n0 a.1 a.2.1 ∧ Good n0 a.1 a.2.2) ∧ _ :=
      splitLongH_refines grow width word n0 0 word.len h emptySlice st.token w hn ge gt
    obtain ⟨fb, gb⟩ : Frame n0 a.1 b.1 ∧ Good n0 b.1 b.2 :=
      append_frame grow a.1 a.2.1 (rd a.1 trSpace) n0 (Nat.le_trans hn fa.le) ga1
    obtain ⟨fc, gc⟩ : Frame n0 b.1 c.1 ∧ Good n0 c.1 c.2 :=
      append_frame grow b.1 b.2 (rd b.1 rest) n0 (Nat.le_trans hn (fa.trans fb).le) gb
    refine ⟨fun q e => Option.some.inj e ▸ ⟨(fa.trans fb).trans fc, (ga2.mono fb.le).mono fc.le⟩, fun h0 hn0 bs os wt => ?_⟩
    obtain ⟨⟨oseg, orest, oword, otr⟩, hm⟩ := iter_model bs os hn0 o width fuel (rd h st.token) w
      r seg rest word trSpace rfl rfl rfl rfl rfl
    rw [hm, if_pos c1]
    have Da : Den a.1 a.2.1 a.2.2 _ _ := da h0 _ _ oword (Nat.zero_add _) bs
      ⟨wfs_empty h, wt, sep_empty _, read_empty h, rfl⟩
    -- s.rest = append(s.rest, trSpace...); s.rest = append(s.rest, rest...)
    have Db : Den b.1 b.2 a.2.2 _ _ := Da.append ga1 ga2 grow (rd a.1 trSpace)
    have Dc : Den c.1 c.2 a.2.2 _ _ := Db.append gb (ga2.mono fb.le) grow (rd b.1 rest)
    refine ⟨Dc.rr.trans ?_, Dc.rt.trans ?_, gc.arr_lt, Dc.wr⟩
    · rw [List.drop_zero, List.nil_append, otr.read (bs.trans fa.keeps), orest.read ((bs.trans fa.keeps).trans fb.keeps)]
    · rw [List.drop_zero]
  | case3 fuel h st w r k seg word wordLen c1 c2 =>
    refine fun hn gt => ⟨fun q e => Option.some.inj e ▸ ⟨Frame.refl _ _, gt⟩, fun h0 hn0 bs os wt => ?_⟩
    rw [(iter_model bs os hn0 o width fuel (rd h st.token) w r seg _ word _ rfl rfl rfl rfl rfl).2, if_neg c1, if_pos c2]
    exact ⟨os.read bs, rfl, Nat.lt_of_lt_of_le os.arr_lt hn, os.wfs_at bs⟩
  | case4 fuel h st w r k seg rest word wordLen c1 c2 c3 seg' t =>
    intro hn gt
    obtain ⟨f1, g1⟩ := append_frame grow h st.token (rd h seg') n0 hn gt
    refine ⟨fun q e => Option.some.inj e ▸ ⟨f1, g1⟩, fun h0 hn0 bs os wt => ?_⟩
    obtain ⟨⟨oseg, orest, oword, otr⟩, hm⟩ := iter_model bs os hn0 o width fuel (rd h st.token) w
      r seg rest word _ rfl rfl rfl rfl rfl
    rw [hm, if_neg c1, if_neg c2, if_pos c3]
    have b1 := bs.trans f1.keeps
    exact ⟨orest.read b1, by rw [show rd t.1 t.2 = _ from (append_read grow h st.token _ gt.arr_lt wt).1,
        show rd h seg' = _ from read_strip (oseg.wfs_at bs), oseg.read bs],
      Nat.lt_of_lt_of_le orest.arr_lt (Nat.le_trans hn f1.le), orest.wfs_at b1⟩
  | case5 fuel h st w r k seg rest word trSpace wordLen spaceLen c1 c2 c3 t w1 c4 =>
    intro hn gt
    obtain ⟨f1, g1⟩ := append_frame grow h st.token (rd h word) n0 hn gt
    refine ⟨fun q e => Option.some.inj e ▸ ⟨f1, g1⟩, fun h0 hn0 bs os wt => ?_⟩
    obtain ⟨⟨oseg, orest, oword, otr⟩, hm⟩ := iter_model bs os hn0 o width fuel (rd h st.token) w
      r seg rest word trSpace rfl rfl rfl rfl rfl
    rw [hm, if_neg c1, if_neg c2, if_neg c3, if_pos c4]
    have b1 := bs.trans f1.keeps
    exact ⟨orest.read b1, by rw [show rd t.1 t.2 = _ from (append_read grow h st.token _ gt.arr_lt wt).1, oword.read bs],
      Nat.lt_of_lt_of_le orest.arr_lt (Nat.le_trans hn f1.le), orest.wfs_at b1⟩
  | case6 fuel h st w r k seg rest word trSpace wordLen spaceLen c1 c2 c3 t w1 c4 t2 ih =>
    intro hn gt
    obtain ⟨f1, g1⟩ := append_frame grow h st.token (rd h word) n0 hn gt
    obtain ⟨f2, g2⟩ := append_frame grow t.1 t.2 (rd t.1 trSpace) n0 (Nat.le_trans hn f1.le) g1
    obtain ⟨F, R⟩ := ih (Nat.le_trans hn (f1.trans f2).le) g2
    refine ⟨fun q e => ⟨(f1.trans f2).trans (F q e).1, (F q e).2⟩, fun h0 hn0 bs os wt => ?_⟩
    obtain ⟨⟨oseg, orest, oword, otr⟩, hm⟩ := iter_model bs os hn0 o width fuel (rd h st.token) w
      r seg rest word trSpace rfl rfl rfl rfl rfl
    rw [hm, if_neg c1, if_neg c2, if_neg c3, if_neg c4]
    obtain ⟨r1, w1'⟩ := append_read grow h st.token (rd h word) gt.arr_lt wt
    obtain ⟨r2, w2⟩ := append_read grow t.1 t.2 (rd t.1 trSpace) g1.arr_lt w1'
    have := R h0 hn0 ((bs.trans f1.keeps).trans f2.keeps) orest w2
    rw [show rd t2.1 t2.2 = _ from r2, show rd t.1 t.2 = _ from r1, otr.read (bs.trans f1.keeps), oword.read bs] at this
    exact this

theorem scanH_frame (grow : Nat → Nat → Nat) (o : List Cell → Nat × Bool) (width : Nat) (h : Heap) (st : St)
    (h' : Heap) (st' : St) (hne : 0 < h.length) (e : scanH grow o width h st = .line h' st') :
    Frame h.length h h' ∧ st'.token.arr < h'.length := by
  unfold scanH at e
  split at e
  · cases e
  · split at e
    · cases e
    · rename_i r hr
      cases e
      obtain ⟨f, g⟩ := (scanLoopH_refines grow o width h.length _ h ⟨st.rest, emptySlice⟩ 0 (Nat.le_refl _)
        (good_empty _ h hne)).1 r hr
      exact ⟨f, g.arr_lt⟩

theorem linesH_stable (grow : Nat → Nat → Nat) (o : List Cell → Nat × Bool) (width : Nat) :
    ∀ (fuel : Nat) (h : Heap) (st : St) (acc : List (Slice × List Cell)) (hf : Heap) (ls : List (Slice × List Cell)),
      0 < h.length → (∀ p ∈ acc, p.1.arr < h.length ∧ read h p.1 = p.2) →
      linesH grow o width fuel h st acc = some (hf, ls) →
      Frame h.length h hf ∧ ∀ p ∈ ls, read hf p.1 = p.2 := by
  intro fuel
  induction fuel with
  | zero => intro h st acc hf ls _ _ e; simp [linesH] at e
  | succ n ih =>
    intro h st acc hf ls hne hacc e
    simp only [linesH] at e
    split at e
    · simp only [Option.some.injEq, Prod.mk.injEq] at e
      obtain ⟨e1, e2⟩ := e; subst e1; subst e2
      exact ⟨Frame.refl _ _, fun p hp => (hacc p (List.mem_reverse.mp hp)).2⟩
    · cases e
    · rename_i h' st' hs
      obtain ⟨f, gt⟩ := scanH_frame grow o width h st h' st' hne hs
      have hne' : 0 < h'.length := Nat.lt_of_lt_of_le hne f.le
      obtain ⟨f2, hl⟩ := ih h' st' _ hf ls hne' (by
        intro p hp
        rcases List.mem_cons.mp hp with rfl | hp
        · exact ⟨gt, rfl⟩
        · obtain ⟨a1, a2⟩ := hacc p hp
          exact ⟨Nat.lt_of_lt_of_le a1 f.le, (read_frame (f.keeps _ a1)).trans a2⟩) e
      exact ⟨f.trans (f2.weaken f.le), hl⟩

def ScanRelS : ScanH → Scan Unit → Prop
  | .stop, .stop => True
  | .hang, .hang => True
  | .line h' st', .line r _ t => rd h' st'.rest = r ∧ rd h' st'.token = t ∧ st'.rest.arr < h'.length ∧ WFS h' st'.rest
  | _, _ => False

theorem scanH_refines (grow : Nat → Nat → Nat) (o : List Cell → Nat × Bool) (width : Nat) (h : Heap) (st : St)
    (hra : st.rest.arr < h.length) (wr : WFS h st.rest) :
    ScanRelS (scanH grow o width h st) (scan (oracleOf o) () width (rd h st.rest) ()) := by
  unfold scanH scan
  rw [isEmpty_iff_len wr]
  by_cases hc : (st.rest.len == 0 || width == 0) = true
  · simp only [hc, ↓reduceIte, ScanRelS]
  · simp only [hc, Bool.false_eq_true, ↓reduceIte]
    have hpos : 0 < h.length := Nat.lt_of_le_of_lt (Nat.zero_le _) hra
    have := (scanLoopH_refines grow o width h.length st.rest.len h ⟨st.rest, emptySlice⟩ 0 (Nat.le_refl _)
      (good_empty _ h hpos)).2 h hpos (Keeps.refl _ _) ⟨hra, wr⟩ (wfs_empty _)
    simp only [read_empty] at this
    rw [read_length wr]
    revert this
    cases scanLoopH grow o width st.rest.len h ⟨st.rest, emptySlice⟩ 0 <;>
      cases scanLoop (oracleOf o) () width st.rest.len (rd h st.rest) () [] 0 <;> exact id

theorem linesH_refines (grow : Nat → Nat → Nat) (o : List Cell → Nat × Bool) (width : Nat) :
    ∀ (fuel : Nat) (h : Heap) (st : St) (acc : List (Slice × List Cell)), st.rest.arr < h.length → WFS h st.rest →
      match linesH grow o width fuel h st acc, scanAll (oracleOf o) () width fuel (rd h st.rest) () with
      | none, .hang => True
      | some r, .ok ls' => r.2.map (·.2) = acc.reverse.map (·.2) ++ ls'
      | _, _ => False := by
  intro fuel
  induction fuel with
  | zero => intro h st acc _ _; simp [linesH, scanAll]
  | succ n ih =>
    intro h st acc hra wr
    have hs := scanH_refines grow o width h st hra wr
    simp only [linesH, scanAll]
    revert hs
    -- outcome against outcome: `ScanRelS` of two different outcomes is `False`
    cases scanH grow o width h st <;> cases scan (oracleOf o) () width (rd h st.rest) () <;>
      try exact False.elim
    · exact fun _ => by simp
    · exact fun _ => trivial
    · rename_i h' st' r u t
      rintro ⟨e1, e2, e3, e4⟩
      have := ih h' st' ((st'.token, rd h' st'.token) :: acc) e3 e4
      rw [e1] at this
      cases u
      revert this
      simp only []
      cases linesH grow o width n h' st' ((st'.token, rd h' st'.token) :: acc) <;>
        cases scanAll (oracleOf o) () width n r () <;> try exact id
      intro this
      simp only [this, e2, List.reverse_cons, List.map_append, List.map_cons, List.map_nil, List.append_assoc,
        List.singleton_append]

/-- The caller's view: `runH` (all Scans, the lines read *after* the last one, the caller's array at the end)
against `Model.Wrap.lines`. -/
theorem runH_refines (grow : Nat → Nat → Nat) (o : List Cell → Nat × Bool) (width : Nat) (cells spare : List Cell) :
    match runH grow o width cells spare, lines (oracleOf o) () width cells () with
    | none, .hang => True
    | some r, .ok ls' => r.1 = ls' ∧ r.2 = cells ++ spare
    | _, _ => False := by
  have hread : rd (callerHeap cells spare) (callerSlice cells spare) = cells := by
    simp [VaxisModel.Model.WrapHeap.read, callerHeap, callerSlice, arrOf]
  have W : WFS (callerHeap cells spare) (callerSlice cells spare) := by
    constructor <;> simp [callerHeap, callerSlice, arrOf]
  have R := linesH_refines grow o width (cells.length + 1) (callerHeap cells spare)
    ⟨callerSlice cells spare, emptySlice⟩ [] (by simp [callerHeap, callerSlice]) W
  simp only [hread] at R
  unfold runH lines
  cases hl : linesH grow o width (cells.length + 1) (callerHeap cells spare) ⟨callerSlice cells spare, emptySlice⟩ [] with
  | none =>
    rw [hl] at R
    revert R
    cases scanAll (oracleOf o) () width (cells.length + 1) cells () <;> exact id
  | some res =>
    rw [hl] at R
    obtain ⟨hf, l⟩ := res
    obtain ⟨f, hstab⟩ := linesH_stable grow o width _ _ _ [] hf l (by simp [callerHeap]) (by intro p hp; cases hp) hl
    revert R
    cases scanAll (oracleOf o) () width (cells.length + 1) cells () <;> try exact id
    intro R
    simp only [List.reverse_nil, List.map_nil, List.nil_append] at R
    refine ⟨?_, ?_⟩
    · rw [← R]
      exact List.map_congr_left (fun p hp => hstab p hp)
    · rw [f.keeps 0 (by simp [callerHeap])]
      rfl

end VaxisModel.Lemmas.WrapHeap
