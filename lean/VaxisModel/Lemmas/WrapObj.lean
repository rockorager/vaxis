/-
Lemmas for `Props/C16Obj.lean`: the plain soft-wrap scanner as an object (`Model/WrapObj.lean`) refines the
value-level loop of `Model/Wrap.lean`, and the (rest, state) pair it carries across `Scan` calls is the
segmenter's own.
-/
import VaxisModel.Model.WrapObj
import VaxisModel.Lemmas.Wrap

namespace VaxisModel.Lemmas.WrapObj
open VaxisModel.Model.Wrap VaxisModel.Model.WrapObj VaxisModel.Lemmas.Wrap

def Res.toScan {σ : Type} : Res σ → Scan σ
  | .stop _ => .stop
  | .hang => .hang
  | .line s => .line s.rest s.state s.token

theorem scanObjLoop_refines {σ : Type} (o : σ → List Cell → Nat × Bool × σ) (ini : σ) (width : Nat) :
    ∀ (fuel : Nat) (s : Obj σ) (w : Nat),
      Res.toScan (scanObjLoop false o ini width fuel s w) = scanLoop o ini width fuel s.rest s.state s.token w := by
  intro fuel
  induction fuel with
  | zero => intro s w; rfl
  | succ n ih =>
    intro s w
    simp only [scanObjLoop, scanLoop, Bool.false_eq_true, if_false]
    split
    · rfl
    · split
      · rfl
      · split
        · rfl
        · split
          · rfl
          · rw [ih]

theorem chain_succ_end {σ : Type} (o : σ → List Cell → Nat × Bool × σ) : ∀ (k : Nat) (b : List Cell) (s : σ),
    chain o (k + 1) b s = ((chain o k b s).1.drop (o (chain o k b s).2 (chain o k b s).1).1, (o (chain o k b s).2 (chain o k b s).1).2.2) := by
  intro k
  induction k with
  | zero => intro b s; rfl
  | succ n ih => intro b s; rw [chain, ih]; rfl

/-- on the segmenter's path from the START of `text` (no reset in between) -/
def OwnFrom {σ : Type} (o : σ → List Cell → Nat × Bool × σ) (ini : σ) (text rest : List Cell) (st : σ) : Prop :=
  ∃ k, (rest, st) = chain o k text ini

theorem OwnFrom.step {σ : Type} {o : σ → List Cell → Nat × Bool × σ} {ini : σ} {text : List Cell} (r : List Cell) (st : σ) :
    OwnFrom o ini text r st → OwnFrom o ini text (r.drop (o st r).1) (o st r).2.2 :=
  fun ⟨k, hk⟩ => ⟨k + 1, by rw [chain_succ_end, ← hk]⟩

/-- the pair is the segmenter's own state at `rest`, `k` segments after a point `base` where the state was unknown (−1) -/
def Own {σ : Type} (o : σ → List Cell → Nat × Bool × σ) (ini : σ) (rest : List Cell) (st : σ) : Prop :=
  ∃ base k, (rest, st) = chain o k base ini

theorem Own.step {σ : Type} {o : σ → List Cell → Nat × Bool × σ} {ini : σ} {rest : List Cell} {st : σ}
    (h : Own o ini rest st) : Own o ini (rest.drop (o st rest).1) (o st rest).2.2 :=
  h.imp fun _ => OwnFrom.step rest st

/-- One `Scan` of the object, for any property `P` of (rest, state) that every step of the segmenter keeps: the
pair left behind has it, or the state was reset because a word (at a position that has `P`) is wider than the line.
(`Lemmas.Wrap.Run.structure`: whole segments, then one of the three endings.) -/
theorem scanObjLoop_path {σ : Type} {o : σ → List Cell → Nat × Bool × σ} {ini : σ} {width : Nat}
    {P : List Cell → σ → Prop} (step : ∀ rest st, P rest st → P (rest.drop (o st rest).1) (o st rest).2.2)
    {fuel : Nat} {s s' : Obj σ} {w : Nat} (h0 : P s.rest s.state)
    (hs : scanObjLoop false o ini width fuel s w = .line s') :
    P s'.rest s'.state ∨
      (s'.state = ini ∧ ∃ st1 rest1, P rest1 st1 ∧ width < sumW (trimRight (rest1.take (o st1 rest1).1))) := by
  have hl : scanLoop o ini width fuel s.rest s.state s.token w = .line s'.rest s'.state s'.token := by
    rw [← scanObjLoop_refines, hs]; rfl
  obtain ⟨st1, rest1, htk, hend⟩ := (scanLoop_run _ _ _ _ _ hl).elim fun _ hr => hr.structure (.refl _ _)
  have h1 := htk.preserves step h0
  cases hend with
  | left e1 e2 _ => left; rw [e1, e2]; exact h1
  | last e1 e2 _ => left; rw [e1, e2]; exact step _ _ h1
  | split hl e2 _ => exact .inr ⟨e2, st1, rest1, h1, hl⟩

theorem scanObj_refines {σ : Type} (o : σ → List Cell → Nat × Bool × σ) (ini : σ) (width : Nat) (s : Obj σ) :
    Res.toScan (scanObj false o ini width s) = scan o ini width s.rest s.state := by
  unfold scanObj scan
  split
  · rfl
  · exact scanObjLoop_refines o ini width _ _ _

def Lines.toOption : Lines → Option (List (List Cell))
  | .ok ls => some ls
  | .hang => none

theorem runObj_refines {σ : Type} (o : σ → List Cell → Nat × Bool × σ) (ini : σ) (width : Nat) :
    ∀ (fuel : Nat) (s : Obj σ),
      (runObj false o ini width fuel s).map (·.1) = Lines.toOption (scanAll o ini width fuel s.rest s.state) := by
  intro fuel
  induction fuel with
  | zero => intro s; rfl
  | succ n ih =>
    intro s
    simp only [runObj, scanAll]
    rw [← scanObj_refines]
    cases scanObj false o ini width s with
    | stop s' => rfl
    | hang => rfl
    | line s' =>
      have := ih s'
      revert this
      simp only [Res.toScan]
      cases runObj false o ini width n s' <;> cases scanAll o ini width n s'.rest s'.state <;>
        simp [Lines.toOption]

/-- the objects a scanner passes through: `NewSoftwrapScanner(text, width)`, then one `Scan` after the other -/
inductive Reach {σ : Type} (o : σ → List Cell → Nat × Bool × σ) (ini : σ) (width : Nat) (text : List Cell) : Obj σ → Prop where
  | new : Reach o ini width text (newObj ini text)
  | scan {s s' : Obj σ} : Reach o ini width text s → scanObj false o ini width s = .line s' → Reach o ini width text s'

theorem reach_inv {σ : Type} {o : σ → List Cell → Nat × Bool × σ} {ini : σ} {width : Nat} {text : List Cell}
    {P : List Cell → σ → Prop} (step : ∀ rest st, P rest st → P (rest.drop (o st rest).1) (o st rest).2.2) (h0 : P text ini)
    (hreset : ∀ rest st1 rest1, P rest1 st1 → width < sumW (trimRight (rest1.take (o st1 rest1).1)) → P rest ini)
    {s : Obj σ} (h : Reach o ini width text s) : P s.rest s.state := by
  induction h with
  | new => exact h0
  | scan _ hs ih =>
    unfold scanObj at hs
    split at hs
    · cases hs
    · refine (scanObjLoop_path step ?_ hs).elim id fun ⟨e, st1, rest1, h1, hl⟩ => ?_
      · exact ih
      · rw [e]; exact hreset _ st1 rest1 h1 hl

theorem reach_own {σ : Type} (o : σ → List Cell → Nat × Bool × σ) (ini : σ) (width : Nat) (text : List Cell) (s : Obj σ)
    (h : Reach o ini width text s) : Own o ini s.rest s.state :=
  reach_inv (fun _ _ => Own.step) ⟨text, 0, rfl⟩ (fun rest _ _ _ _ => ⟨rest, 0, rfl⟩) h

theorem chain_add {σ : Type} (o : σ → List Cell → Nat × Bool × σ) : ∀ (a b : Nat) (r : List Cell) (s : σ),
    chain o (a + b) r s = chain o b (chain o a r s).1 (chain o a r s).2 := by
  intro a
  induction a with
  | zero => intro b r s; simp [chain]
  | succ n ih => intro b r s; rw [Nat.succ_add]; simp only [chain]; exact ih b _ _

theorem chain_len_le {σ : Type} (o : σ → List Cell → Nat × Bool × σ) : ∀ (k : Nat) (r : List Cell) (s : σ),
    (chain o k r s).1.length ≤ r.length := by
  intro k
  induction k with
  | zero => intro r s; simp [chain]
  | succ n ih =>
    intro r s
    simp only [chain]
    have := ih (r.drop (o s r).1) (o s r).2.2
    simp only [List.length_drop] at this
    omega

theorem chain_len_lt {σ : Type} (o : σ → List Cell → Nat × Bool × σ) (hok : OracleOK o) : ∀ (k : Nat) (r : List Cell) (s : σ),
    0 < k → r ≠ [] → (chain o k r s).1.length < r.length := by
  intro k r s hk hr
  cases k with
  | zero => omega
  | succ n =>
    simp only [chain]
    have h1 := (hok s r hr).1
    have h2 := chain_len_le o n (r.drop (o s r).1) (o s r).2.2
    simp only [List.length_drop] at h2
    have : 0 < r.length := by cases r with | nil => exact absurd rfl hr | cons a b => simp
    omega

theorem chain_state_unique {σ : Type} (o : σ → List Cell → Nat × Bool × σ) (hok : OracleOK o) (ini : σ) (text rest : List Cell)
    (st1 st2 : σ) (h1 : OwnFrom o ini text rest st1) (h2 : OwnFrom o ini text rest st2) (hne : rest ≠ []) : st1 = st2 := by
  obtain ⟨k1, e1⟩ := h1
  obtain ⟨k2, e2⟩ := h2
  have key : ∀ (a b : Nat) (s1 s2 : σ), a ≤ b → (rest, s1) = chain o a text ini → (rest, s2) = chain o b text ini → s1 = s2 := by
    intro a b s1 s2 hab ea eb
    obtain ⟨d, rfl⟩ := Nat.exists_eq_add_of_le hab
    rw [chain_add, ← ea] at eb
    cases d with
    | zero => simp only [chain] at eb; exact (Prod.mk.inj eb).2.symm ▸ rfl
    | succ n =>
      have := chain_len_lt o hok (n + 1) rest s1 (Nat.succ_pos _) hne
      simp only at eb
      rw [← eb] at this
      exact absurd this (Nat.lt_irrefl _)
  rcases Nat.le_total k1 k2 with h | h
  · exact key k1 k2 st1 st2 h e1 e2
  · exact (key k2 k1 st2 st1 h e2 e1).symm

/-- every word the segmenter can return fits the line: the long-word branch (the only place that resets the state) is never taken -/
def WordsFit {σ : Type} (o : σ → List Cell → Nat × Bool × σ) (width : Nat) : Prop :=
  ∀ (st : σ) (rest : List Cell), ¬ sumW (trimRight (rest.take (o st rest).1)) > width

theorem reach_ownFrom {σ : Type} (o : σ → List Cell → Nat × Bool × σ) (ini : σ) (width : Nat) (text : List Cell)
    (hfit : WordsFit o width) (s : Obj σ) (h : Reach o ini width text s) : OwnFrom o ini text s.rest s.state :=
  reach_inv OwnFrom.step ⟨0, rfl⟩ (fun _ st1 rest1 _ hl => absurd hl (hfit st1 rest1)) h

end VaxisModel.Lemmas.WrapObj
