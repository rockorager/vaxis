import VaxisModel.Model.Wrap
import VaxisModel.Spec.Wrap
import VaxisModel.Lemmas.Wrap
import VaxisModel.Lemmas.WrapE2E
import VaxisModel.Lemmas.WrapSplitPlain

/-! C16: `Spec.Wrap.noNeedlessSplit` ("never split a run of letters that would fit on a line of its
own") for the whole iteration of the richtext scanner: the transcribed `firstLineSegment` is position
independent, so the theorem for an arbitrary oracle applies, and its segments are the runs of the
pairwise break function (a terminator behind a run aside). -/
namespace VaxisModel.Lemmas.Wrap
open VaxisModel.Model.Wrap
open VaxisModel.Spec.Wrap (nonWs content natWidth trimTrailing lineIndex runs splitInner splitRuns noNeedlessSplit)

theorem noNeedlessSplit_eq (lb : Nat → Nat → Bool) (width : Nat) (input : List Cell) (ls : List (List Cell)) :
    noNeedlessSplit lb width input ls = srL width (runs lb input) (lineIndex ls) := by
  unfold noNeedlessSplit
  rw [splitRuns_eq]
  simp

theorem siL_append_nonws (f : Bool) (T : Cell) (hT : nonWs T = false) : ∀ (cs : List Cell) (prev : Option Nat)
    (idx : List Nat), siL f (cs ++ [T]) prev idx = siL f cs prev idx := by
  intro cs
  induction cs with
  | nil => intro prev idx; simp [siL, hT]
  | cons c cs ih =>
    intro prev idx
    rw [List.cons_append]
    unfold siL
    split
    · rw [ih]
    · rw [ih]

def runLen (lb : Nat → Nat → Bool) : List Cell → Nat
  | [] => 0
  | [_] => 1
  | c :: n :: rest => if c.term || lb c.g n.g then 1 else runLen lb (n :: rest) + 1

theorem runs_cons_cons_break (lb : Nat → Nat → Bool) (c n : Cell) (r : List Cell)
    (h : (c.term || lb c.g n.g) = true) : runs lb (c :: n :: r) = [c] :: runs lb (n :: r) := by
  rw [runs]; simp only [h, ↓reduceIte]

theorem runs_cons_cons_nobreak (lb : Nat → Nat → Bool) (c n : Cell) (r : List Cell) (x : List Cell)
    (rs : List (List Cell)) (h : (c.term || lb c.g n.g) = false) (hr : runs lb (n :: r) = x :: rs) :
    runs lb (c :: n :: r) = (c :: x) :: rs := by
  rw [runs]; simp only [h, Bool.false_eq_true, ↓reduceIte, hr]

theorem runLen_cons_cons (lb : Nat → Nat → Bool) (c n : Cell) (r : List Cell) :
    runLen lb (c :: n :: r) = if c.term || lb c.g n.g then 1 else runLen lb (n :: r) + 1 := by rw [runLen]

theorem runLen_pos (lb : Nat → Nat → Bool) (c : Cell) (cs : List Cell) : 1 ≤ runLen lb (c :: cs) := by
  cases cs with
  | nil => simp [runLen]
  | cons n r => rw [runLen_cons_cons]; split <;> omega

theorem runs_unfold (lb : Nat → Nat → Bool) : ∀ (l : List Cell), l ≠ [] →
    runs lb l = l.take (runLen lb l) :: runs lb (l.drop (runLen lb l)) := by
  intro l
  induction l with
  | nil => intro h; exact absurd rfl h
  | cons c cs ih =>
    intro _
    cases cs with
    | nil => simp [runs, runLen]
    | cons n r =>
      rw [runLen_cons_cons]
      by_cases hb : (c.term || lb c.g n.g) = true
      · rw [runs_cons_cons_break lb c n r hb]; simp [hb]
      · have hb' : (c.term || lb c.g n.g) = false := by simpa using hb
        simp only [hb', Bool.false_eq_true, ↓reduceIte]
        rw [runs_cons_cons_nobreak lb c n r _ _ hb' (ih (by simp))]
        simp

theorem fls_runLen (lb : Nat → Nat → Bool) : ∀ (l : List Cell) (first : Bool), l ≠ [] →
    (first = false → ∀ c, l.head? = some c → c.term = false) →
    (firstLineSegment lb first l).1 = runLen lb l ∨
    ((firstLineSegment lb first l).1 = runLen lb l + 1 ∧ ∃ T, l[runLen lb l]? = some T ∧ T.term = true) := by
  intro l first
  fun_induction firstLineSegment lb first l with
  | case1 => intro h; exact absurd rfl h
  | case2 => intro _ _; left; simp [runLen]
  | case3 first c n rest h1 =>
    intro _ _
    obtain ⟨_, hc⟩ : first = true ∧ c.term = true := by simpa using h1
    left; simp [runLen_cons_cons, hc]
  | case4 first c n rest h1 h2 =>
    intro _ hfirst
    have hc := fls_head_noterm h1 hfirst
    rw [runLen_cons_cons]
    by_cases h3 : lb c.g n.g = true
    · right; simp [hc, h3, h2]
    · left
      cases rest <;> simp [hc, h3, runLen, h2]
  | case5 first c n rest h1 h2 h3 =>
    intro _ hfirst
    left; simp [runLen_cons_cons, fls_head_noterm h1 hfirst, h3]
  | case6 first c n rest h1 h2 h3 r ih =>
    intro _ hfirst
    have hn : n.term = false := by simpa using h2
    rw [runLen_cons_cons]
    simp only [fls_head_noterm h1 hfirst, h3, Bool.false_or, Bool.false_eq_true, ↓reduceIte]
    rcases ih (by simp) (fun _ x hx => by simp at hx; subst hx; exact hn) with h | ⟨h, T, hT, hTt⟩
    · left; simp only [r] at h ⊢; omega
    · right
      exact ⟨by simp only [r] at h ⊢; omega, T, by simpa using hT, hTt⟩

theorem fls_first_irrelevant (lb : Nat → Nat → Bool) (l : List Cell)
    (h : ∀ c, l.head? = some c → c.term = false) :
    firstLineSegment lb true l = firstLineSegment lb false l := by
  cases l with
  | nil => rfl
  | cons c cs =>
    cases cs with
    | nil => rfl
    | cons n r =>
      simp [firstLineSegment, h c rfl]

theorem fls_drop (lb : Nat → Nat → Bool) : ∀ (l : List Cell) (first : Bool) (j : Nat),
    0 < j → j < (firstLineSegment lb first l).1 →
    (firstLineSegment lb true (l.drop j)).1 = (firstLineSegment lb first l).1 - j := by
  intro l first
  fun_induction firstLineSegment lb first l with
  | case1 => intro j _ h2; simp at h2
  | case2 => intro j _ h2; simp at h2; omega
  | case3 => intro j _ h2; simp at h2; omega
  | case4 first c n rest h1 h2 =>
    intro j hj hlt
    obtain rfl : j = 1 := by simp at hlt; omega
    cases rest <;> simp [firstLineSegment, h2]
  | case5 => intro j _ h2; simp at h2; omega
  | case6 first c n rest h1 h2 h3 r ih =>
    intro j hj hlt
    have hn : n.term = false := by simpa using h2
    match j with
    | 1 =>
      simp only [List.drop_succ_cons, List.drop_zero]
      rw [fls_first_irrelevant lb (n :: rest) (fun x hx => by simp at hx; subst hx; exact hn)]
      simp only [r]; omega
    | j + 2 =>
      simp only [List.drop_succ_cons]
      have := ih (j + 1) (by omega) (by simp only [r] at hlt ⊢; omega)
      simp only [List.drop_succ_cons] at this
      rw [this]; simp only [r]; omega

theorem runLen_term (lb : Nat → Nat → Bool) (T : Cell) (cs : List Cell) (hT : T.term = true) :
    runLen lb (T :: cs) = 1 := by
  cases cs with
  | nil => rfl
  | cons n r => rw [runLen_cons_cons]; simp [hT]

theorem srL_seg (lb : Nat → Nat → Bool) (width : Nat) (rest : List Cell) (hne : rest ≠ [])
    (hsp : ∀ c ∈ rest, c.term = true → c.sp = true) (idx : List Nat) :
    srL width (runs lb rest) idx =
      (siL (decide (sumW (trimRight (rest.take (firstLineSegment lb true rest).1)) ≤ width))
          (rest.take (firstLineSegment lb true rest).1) none idx &&
        srL width (runs lb (rest.drop (firstLineSegment lb true rest).1))
          (idx.drop (content (rest.take (firstLineSegment lb true rest).1)).length)) := by
  rw [runs_unfold lb rest hne, srL, fits_eq]
  rcases fls_runLen lb rest true hne (by intro h; cases h) with h | ⟨h, T, hT, hTt⟩
  · rw [h]
  · rw [h]
    obtain ⟨hlt, hTe⟩ := List.getElem?_eq_some_iff.mp hT
    have htake : rest.take (runLen lb rest + 1) = rest.take (runLen lb rest) ++ [T] := by
      rw [List.take_succ_eq_append_getElem hlt, hTe]
    have hdrop : rest.drop (runLen lb rest) = T :: rest.drop (runLen lb rest + 1) := by
      rw [List.drop_eq_getElem_cons hlt, hTe]
    have hTsp : T.sp = true := hsp T (by rw [← hTe]; exact List.getElem_mem hlt) hTt
    have hTn : nonWs T = false := by simp [nonWs, hTt]
    rw [htake, hdrop, runs_unfold lb _ (by simp), runLen_term lb T _ hTt, srL]
    simp only [List.take_succ_cons, List.take_zero, List.drop_succ_cons, List.drop_zero]
    rw [siL_append_nonws _ T hTn, trimRight_append_sp _ [T] (by intro c hc; simp at hc; rw [hc]; exact hTsp)]
    have hc1 : content (rest.take (runLen lb rest) ++ [T]) = content (rest.take (runLen lb rest)) := by
      rw [content_append]; simp [content, hTn]
    have hc2 : content [T] = [] := by simp [content, hTn]
    rw [hc1, hc2]
    simp [siL, hTn]

theorem richOracle_posIndep (lb : Nat → Nat → Bool) : PosIndep (richOracle lb) () := by
  refine ⟨fun st rest j hj hlt _ => ⟨?_, rfl⟩, fun st rest _ => rfl⟩
  simp only [richOracle] at hlt ⊢
  exact fls_drop lb rest true j hj hlt

theorem good_srL (lb : Nat → Nat → Bool) (width : Nat) {st : Unit} {rest : List Cell} {idx : List Nat}
    (h : GoodO (richOracle lb) width st rest idx) (hsp : ∀ c ∈ rest, c.term = true → c.sp = true) :
    srL width (runs lb rest) idx = true := by
  induction h with
  | nil st idx => simp [runs, srL]
  | seg hne h1 _ ih =>
    rw [srL_seg lb width _ hne hsp]
    exact Bool.and_eq_true_iff.mpr ⟨h1, ih fun c hc => hsp c (List.mem_of_mem_drop hc)⟩

theorem richLines_noNeedlessSplit (lb : Nat → Nat → Bool) (width : Nat) (hw : 0 < width)
    (cells : List Cell) (hsp : ∀ c ∈ cells, c.term = true → c.sp = true)
    (ls : List (List Cell)) (h : richLines lb width cells = .ok ls) :
    noNeedlessSplit lb width cells ls = true := by
  rw [noNeedlessSplit_eq, lineIndex_eq]
  exact good_srL lb width (scanAll_goodO (richOracle lb) () (richOracle_ok lb) (richOracle_posIndep lb) width hw
    _ cells () ls h 0) hsp

end VaxisModel.Lemmas.Wrap
