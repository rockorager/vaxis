import VaxisModel.Model.Wrap
import VaxisModel.Spec.Wrap
import VaxisModel.Lemmas.Wrap

/-! C16: "never split a run of letters that would fit on a line of its own" for the whole iteration
of a scanner over an arbitrary (stateful) segmentation oracle — the plain-text scanner over uniseg —
where the runs are the segments of the segmenter's own segmentation of the text
(`Spec.Wrap.segChain`).  The richtext scanner is the instance `Lemmas/WrapSplit`. -/
namespace VaxisModel.Lemmas.Wrap
open VaxisModel.Model.Wrap
open VaxisModel.Spec.Wrap (nonWs content natWidth trimTrailing lineIndex splitInner splitRuns segChain noNeedlessSplitRuns)

/-- `splitInner` over the list of the remaining line numbers; `prev` = line of the previous cell if
it was a non-whitespace cell of the same run. -/
def siL (fits : Bool) : List Cell → Option Nat → List Nat → Bool
  | [], _, _ => true
  | c :: cs, prev, idx =>
    if nonWs c then
      (match prev with
       | some i => !fits || i == idx.headD 0
       | none => true) && siL fits cs (some (idx.headD 0)) idx.tail
    else siL fits cs none idx

def srL (width : Nat) : List (List Cell) → List Nat → Bool
  | [], _ => true
  | r :: rs, idx =>
    siL (decide (natWidth (trimTrailing r) ≤ width)) r none idx && srL width rs (idx.drop (content r).length)

theorem headD_drop (l : List Nat) (j : Nat) : (l.drop j).headD 0 = l.getD j 0 := by
  simp [List.headD_eq_head?_getD, List.head?_drop]

theorem splitInner_eq (l : List Nat) (fits : Bool) : ∀ (cs : List Cell) (j : Nat) (pnw : Bool),
    splitInner l.toArray fits cs j pnw =
      siL fits cs (if pnw then some (l.getD (j - 1) 0) else none) (l.drop j) := by
  have hA : ∀ (i : Nat), l.toArray.getD i 0 = l.getD i 0 := by intro i; simp
  intro cs
  induction cs with
  | nil => intro j pnw; simp [splitInner, siL]
  | cons c cs ih =>
    intro j pnw
    unfold splitInner siL
    by_cases hc : nonWs c = true
    · simp only [hc, ↓reduceIte, hA, headD_drop, List.tail_drop]
      rw [ih (j + 1) true]
      simp only [↓reduceIte, Nat.add_sub_cancel]
      congr 1
      cases pnw <;> cases fits <;> simp
    · simp only [hc, Bool.false_eq_true, ↓reduceIte]
      rw [ih j false]
      simp

theorem splitRuns_eq (l : List Nat) (width : Nat) : ∀ (rs : List (List Cell)) (k : Nat),
    splitRuns l.toArray width rs k = srL width rs (l.drop k) := by
  intro rs
  induction rs with
  | nil => intro k; simp [splitRuns, srL]
  | cons r rs ih =>
    intro k
    unfold splitRuns srL
    rw [splitInner_eq, ih, List.drop_drop]
    simp

theorem siL_nofit (cs : List Cell) (prev : Option Nat) (idx : List Nat) : siL false cs prev idx = true := by
  fun_induction siL false cs prev idx with
  | case1 => rfl
  | case2 c cs prev idx hc ih => rw [ih]; cases prev <;> simp
  | case3 c cs prev idx hc ih => exact ih

theorem siL_const (f : Bool) (k0 : Nat) : ∀ (cs : List Cell) (prev : Option Nat) (n : Nat) (J : List Nat),
    (content cs).length ≤ n → (prev = none ∨ prev = some k0) →
    siL f cs prev (List.replicate n k0 ++ J) = true := by
  intro cs
  induction cs with
  | nil => intro _ _ _ _ _; rfl
  | cons c cs ih =>
    intro prev n J hn hprev
    unfold siL
    by_cases hc : nonWs c = true
    · rw [content_cons_of_nonWs cs hc, List.length_cons] at hn
      obtain ⟨m, rfl⟩ : ∃ m, n = m + 1 := ⟨n - 1, by omega⟩
      simp only [hc, ↓reduceIte, List.replicate_succ, List.cons_append, List.headD_cons, List.tail_cons,
        Bool.and_eq_true]
      constructor
      · rcases hprev with h | h <;> subst h <;> simp
      · exact ih (some k0) m J (by omega) (Or.inr rfl)
    · rw [content_cons_of_ws cs hc] at hn
      simp only [hc, Bool.false_eq_true, ↓reduceIte]
      exact ih none n J hn (Or.inl rfl)

theorem fits_eq (r : List Cell) (width : Nat) :
    decide (natWidth (trimTrailing r) ≤ width) = decide (sumW (trimRight r) ≤ width) := by
  rw [trimTrailing_eq, natWidth_eq_sumW]

theorem drop_replicate_append (a b k0 : Nat) (J : List Nat) :
    (List.replicate (a + b) k0 ++ J).drop a = List.replicate b k0 ++ J := by
  rw [← List.replicate_append_replicate, List.append_assoc, List.drop_left' (by simp)]

theorem content_length_append_trailing (r seg : List Cell) :
    (content (r ++ trailing seg)).length = (content r).length := by
  rw [content_append, content_trailing, List.append_nil]

/-- Position independence of the segmenter (asserted per query by the harness for uniseg): queried
with the unknown state `ini` inside a segment it returns the remainder of that segment and the same
successor state (`inside`); queried with `ini` at a segment boundary it answers as with the carried
state (`boundary`). -/
structure PosIndep {σ : Type} (o : σ → List Cell → Nat × Bool × σ) (ini : σ) : Prop where
  inside : ∀ st rest j, 0 < j → j < (o st rest).1 → (o st rest).1 ≤ rest.length →
    (o ini (rest.drop j)).1 = (o st rest).1 - j ∧ (o ini (rest.drop j)).2.2 = (o st rest).2.2
  boundary : ∀ st rest, rest.drop (o st rest).1 ≠ [] →
    o ini (rest.drop (o st rest).1) = o (o st rest).2.2 (rest.drop (o st rest).1)

/-- `GoodO st rest idx`: every segment of the segmenter's own segmentation of `rest` from state `st`
that fits the width has all its non-whitespace graphemes on one line (`idx` = lines of the
non-whitespace graphemes). -/
inductive GoodO {σ : Type} (o : σ → List Cell → Nat × Bool × σ) (width : Nat) : σ → List Cell → List Nat → Prop where
  | nil (st : σ) (idx : List Nat) : GoodO o width st [] idx
  | seg {st : σ} {rest : List Cell} {idx : List Nat} : rest ≠ [] →
      siL (decide (sumW (trimRight (rest.take (o st rest).1)) ≤ width)) (rest.take (o st rest).1) none idx = true →
      GoodO o width (o st rest).2.2 (rest.drop (o st rest).1)
        (idx.drop (content (rest.take (o st rest).1)).length) →
      GoodO o width st rest idx

theorem GoodO.inv {σ : Type} {o : σ → List Cell → Nat × Bool × σ} {width : Nat} {st : σ} {rest : List Cell}
    {idx : List Nat} (h : GoodO o width st rest idx) (hne : rest ≠ []) :
    GoodO o width (o st rest).2.2 (rest.drop (o st rest).1)
      (idx.drop (content (rest.take (o st rest).1)).length) := by
  cases h with
  | nil => exact absurd rfl hne
  | seg _ _ h3 => exact h3

theorem GoodO.restart {σ : Type} {o : σ → List Cell → Nat × Bool × σ} {ini : σ} {width : Nat}
    (hp : PosIndep o ini) {st : σ} {rest : List Cell} {idx : List Nat}
    (h : GoodO o width ini (rest.drop (o st rest).1) idx) :
    GoodO o width (o st rest).2.2 (rest.drop (o st rest).1) idx := by
  by_cases hne : rest.drop (o st rest).1 = []
  · rw [hne]; exact GoodO.nil _ _
  · have hb := hp.boundary st rest hne
    generalize hr : rest.drop (o st rest).1 = r at h hne hb
    cases h with
    | nil => exact absurd rfl hne
    | seg h1 h2 h3 =>
      refine GoodO.seg hne ?_ ?_
      · rw [← hb]; exact h2
      · rw [← hb]; exact h3

theorem goodO_srL {σ : Type} (o : σ → List Cell → Nat × Bool × σ) (hok : OracleOK o) (width : Nat)
    {st : σ} {rest : List Cell} {idx : List Nat} (h : GoodO o width st rest idx) :
    ∀ fuel, rest.length ≤ fuel → srL width (segChain o fuel st rest) idx = true := by
  induction h with
  | nil st idx =>
    intro fuel _
    cases fuel <;> simp [segChain, srL]
  | @seg st rest idx hne h1 _ ih =>
    intro fuel hf
    have hk : 1 ≤ (o st rest).1 := hok.pos hne
    have hpos : 0 < rest.length := List.length_pos_iff.mpr hne
    cases fuel with
    | zero => omega
    | succ f =>
      have he : rest.isEmpty = false := List.isEmpty_eq_false_iff.mpr hne
      simp only [segChain, he, Bool.false_eq_true, ↓reduceIte, srL, fits_eq, h1, Bool.true_and]
      apply ih
      rw [List.length_drop]; omega

/-- `(st, rest)` is what some query returned (state and remainder). -/
def Succ {σ : Type} (o : σ → List Cell → Nat × Bool × σ) (st : σ) (rest : List Cell) : Prop :=
  ∃ st0 rest0, st = (o st0 rest0).2.2 ∧ rest = rest0.drop (o st0 rest0).1

theorem GoodO.restart_of_succ {σ : Type} {o : σ → List Cell → Nat × Bool × σ} {ini : σ} {width : Nat}
    (hp : PosIndep o ini) {st : σ} {rest : List Cell} {idx : List Nat} (hs : Succ o st rest)
    (h : GoodO o width ini rest idx) : GoodO o width st rest idx := by
  obtain ⟨st0, rest0, rfl, rfl⟩ := hs
  exact GoodO.restart hp h

theorem GoodO.whole {σ : Type} {o : σ → List Cell → Nat × Bool × σ} {width : Nat} {st : σ} {rest : List Cell}
    (hne : rest ≠ []) (m : Nat) (J : List Nat) (k0 : Nat)
    (hg : GoodO o width (o st rest).2.2 (rest.drop (o st rest).1) (List.replicate m k0 ++ J)) :
    GoodO o width st rest (List.replicate ((content (rest.take (o st rest).1)).length + m) k0 ++ J) := by
  refine GoodO.seg hne ?_ ?_
  · exact siL_const _ k0 _ none _ J (by omega) (Or.inl rfl)
  · rw [drop_replicate_append]; exact hg

/-- One `Scan`: if what follows the returned `rest'` is good, so is everything from the current
position, all graphemes consumed here being on line `k0`. -/
theorem Run.goodO {σ : Type} {o : σ → List Cell → Nat × Bool × σ} {ini : σ} (hok : OracleOK o)
    (hp : PosIndep o ini) {width : Nat} (hw : 0 < width) {rest : List Cell} {st : σ} {token : List Cell} {w : Nat}
    {p rest' : List Cell} {st' : σ} {tok : List Cell} (h : Run o ini width rest st token w p rest' st' tok) :
    rest ≠ [] → ((token = [] ∧ w = 0) ∨ Succ o st rest) →
    ∀ (J : List Nat) (k0 : Nat), GoodO o width st' rest' J →
      GoodO o width st rest (List.replicate (content p).length k0 ++ J) := by
  induction h with
  | @long rest st token w t r hlong e =>
    intro hne hsucc
    have hs := splitLong_eq e
    have hfirst : (token = [] ∧ w = 0) → t ≠ [] := by
      rintro ⟨rfl, rfl⟩
      have h1 := splitLong_first width _ hw hlong
      simp only [List.isEmpty_nil, Bool.not_true] at e
      rw [e] at h1; exact h1
    have hrest := (Run.long (ini := ini) hlong e).split
    generalize h1 : r ++ trailing (rest.take (o st rest).1) ++ rest.drop (o st rest).1 = rest' at hrest
    have hseg : t ++ (r ++ trailing (rest.take (o st rest).1)) = rest.take (o st rest).1 := by
      rw [← List.append_assoc, hs, trim_append_trailing]
    intro J k0 hg
    by_cases ht : t = []
    · subst ht
      simp only [List.nil_append] at hrest
      have hs' : Succ o st rest := hsucc.resolve_left fun h0 => hfirst h0 rfl
      rw [← hrest] at hg
      simpa [content] using GoodO.restart_of_succ hp hs' hg
    · refine GoodO.seg hne ?_ ?_
      · have : decide (sumW (trimRight (rest.take (o st rest).1)) ≤ width) = false := by
          simp only [decide_eq_false_iff_not]; omega
        rw [this]; exact siL_nofit _ _ _
      · have hcl : (content (rest.take (o st rest).1)).length = (content t).length + (content r).length := by
          rw [← hseg, content_append, List.length_append, content_length_append_trailing]
        rw [hcl, ← List.drop_drop, List.drop_left' (by simp)]
        by_cases hr : r ++ trailing (rest.take (o st rest).1) = []
        · have hr0 : r = [] := (List.append_eq_nil_iff.mp hr).1
          rw [hr, List.nil_append] at h1
          subst hr0
          rw [← h1] at hg
          simpa [content] using GoodO.restart hp hg
        · -- the next `Scan` starts inside this segment: its first query returns the remainder
          have hlen : t.length + (r ++ trailing (rest.take (o st rest).1)).length = (rest.take (o st rest).1).length := by
            rw [← List.length_append, hseg]
          have htpos : 0 < t.length := List.length_pos_iff.mpr ht
          have hrpos : 0 < (r ++ trailing (rest.take (o st rest).1)).length := List.length_pos_iff.mpr hr
          have hdrop : rest.drop t.length = rest' := by
            rw [hrest, List.drop_left' rfl]
          have hne' : rest' ≠ [] := by
            rw [← h1]; intro h0; exact hr (List.append_eq_nil_iff.mp h0).1
          by_cases hkle : (o st rest).1 ≤ rest.length
          · have hseglen : (rest.take (o st rest).1).length = (o st rest).1 := by
              rw [List.length_take]; omega
            have hin := hp.inside st rest t.length htpos (by omega) hkle
            rw [hdrop] at hin
            have h3 := GoodO.inv hg hne'
            rw [hin.1, hin.2] at h3
            have hk' : (o st rest).1 - t.length = (r ++ trailing (rest.take (o st rest).1)).length := by omega
            rw [hk', ← h1, List.drop_left' rfl, List.take_left' rfl, content_length_append_trailing] at h3
            exact h3
          · -- the oracle claims more cells than there are: the segment is all of `rest`
            rw [List.drop_eq_nil_of_le (by omega)]
            exact GoodO.nil _ _
  | defer => exact fun _ _ J k0 hg => by simpa [content] using hg
  | brk | full => exact fun hne _ J k0 hg => by simpa using GoodO.whole hne 0 J k0 (by simpa using hg)
  | @next rest st token w _ _ _ _ _ hbr _ _ ih =>
    intro hne _
    have hne1 : rest.drop (o st rest).1 ≠ [] := by
      rw [Ne, List.drop_eq_nil_iff]; exact Nat.not_le.mpr (hok.lt_of_no_break hne hbr)
    intro J k0 hg
    rw [content_append, List.length_append]
    exact GoodO.whole hne _ J k0 (ih hne1 (Or.inr ⟨st, rest, rfl, rfl⟩) J k0 hg)

theorem scanAll_goodO {σ : Type} (o : σ → List Cell → Nat × Bool × σ) (ini : σ) (hok : OracleOK o)
    (hp : PosIndep o ini) (width : Nat) (hw : 0 < width) :
    ∀ (fuel : Nat) (rest : List Cell) (st : σ) (ls : List (List Cell)),
    scanAll o ini width fuel rest st = .ok ls →
    ∀ k, GoodO o width st rest (lineIdxFrom k ls) := by
  refine scanAll_induct (fun rest st hz k => ?_) fun {rest st rest' st' tok ls} hs ih k => ?_
  · rw [hz.resolve_right (by omega)]; exact GoodO.nil _ _
  · obtain ⟨hne, _, p, hrun⟩ := scan_run hs
    have := hrun.goodO hok hp hw hne (Or.inl ⟨rfl, rfl⟩) (lineIdxFrom (k + 1) ls) k (ih (k + 1))
    simpa [lineIdxFrom, hrun.consumed.1, List.map_const'] using this

end VaxisModel.Lemmas.Wrap
