/-
Executable model of ansi/parser.go (C02, shared with C03/C08/C09).

* `PState` — the fields of `Parser` that the automaton reads and writes
  (`state`, `intermediate`, `params`, `exit`, `ignoreST`, `oscData`, `apcData`, `dcs`).
* `applyAct` — the bodies of the action methods (`collect`, `param`, `csiDispatch` with its
  `;`/`:` decoder and Go `int` wrap-around, `hook` with `strings.Split`/`Atoi`, `put`, `unhook`,
  `oscStart/Put/End`, `apcUnhook`, `escapeDispatch`, `execute`, `clear`).
* `step T` — `anywhere(r, p)` followed by `p.state(r, p)`, interpreting a transition table `T`
  (statement lists per `case` arm).  `pstepGen = step genTable` interprets the table regenerated
  from the source; `pstep = step handTable` interprets the hand-written copy below
  (`Props/C02.lean : hand_table_eq_gen` proves them equal on every run).
* `print` at this level emits the *first rune only*; grapheme clustering over the buffered input
  is the reader's job (`Model/ParserIO.lean`).

Deviations from the Go code: slices are lists (aliasing/ownership is the subject of C08's pool
model), the unused field `final` is omitted, `error` values are one opaque item `Seq.err`.
Core Lean only.
-/
import VaxisModel.Model.ParserTable
import VaxisModel.Gen.ParserTable

namespace VaxisModel.Model.Parser
open VaxisModel.Model.ParserTable

abbrev Rune := Nat

/-- The functions that are assigned to `p.exit`. -/
inductive ExitFn | oscEnd | unhook | apcUnhook
  deriving DecidableEq, Repr, Inhabited

/-- Items delivered on the channel (`Sequence` values). `params = []` is the nil slice. -/
inductive Seq
  | print (r : Rune)                                   -- Print (first rune; see ParserIO for clusters)
  | c0 (r : Rune)
  | esc (inter : List Rune) (final : Rune)
  | ss3 (r : Rune)
  | csi (inter : List Rune) (params : List (List Int)) (final : Rune)
  | osc (payload : List Rune)
  | dcs (final : Rune) (inter : List Rune) (params : List Int) (data : List Rune)
  | apc (data : List Rune)
  | err                                                 -- an `error` value
  | eof                                                 -- EOF{}
  | panic                                               -- the Go code would panic here
  deriving DecidableEq, Repr, Inhabited

structure Dcs where
  final : Rune := 0
  inter : List Rune := []
  params : List Int := []
  data : List Rune := []
  deriving DecidableEq, Repr, Inhabited

structure PState where
  state : StateId := .ground
  inter : List Rune := []
  params : List Rune := []
  exit : Option ExitFn := none
  ignoreST : Bool := false
  osc : List Rune := []
  apc : List Rune := []
  dcs : Dcs := {}
  deriving DecidableEq, Repr, Inhabited

def PState.init : PState := {}

/-! ### Go `int` (64 bit) arithmetic -/
def wrap64 (x : Int) : Int := (x + 9223372036854775808) % 18446744073709551616 - 9223372036854775808

/-! ### csiDispatch: the parameter decoder -/

/-- The loop of `csiDispatch` over `p.params`: `ps` the number being accumulated, `param` the
    current sub-parameter list, `acc` the finished parameters. -/
def decodeLoop : List Rune → Int → List Int → List (List Int) → List (List Int)
  | [], ps, param, acc => acc ++ [param ++ [ps]]
  | b :: rest, ps, param, acc =>
    if b = 0x3B then decodeLoop rest 0 [] (acc ++ [param ++ [ps]])
    else if b = 0x3A then decodeLoop rest 0 (param ++ [ps]) acc
    else decodeLoop rest (wrap64 (ps * 10 + ((b : Int) - 0x30))) param acc

/-- `csi.Parameters` for the collected parameter bytes (nil when there are none). -/
def decodeParams (ps : List Rune) : List (List Int) :=
  if ps.isEmpty then [] else decodeLoop ps 0 [] []

/-! ### hook: `strings.Split(string(p.params), ";")` + `strconv.Atoi` -/

def splitOn (sep : Rune) : List Rune → List Rune → List (List Rune)
  | [], cur => [cur]
  | b :: rest, cur => if b = sep then cur :: splitOn sep rest [] else splitOn sep rest (cur ++ [b])

def isDigit (b : Rune) : Bool := decide (0x30 ≤ b) && decide (b ≤ 0x39)

def decimal (ds : List Rune) : Nat := ds.foldl (fun v b => v * 10 + (b - 0x30)) 0

/-- `strconv.Atoi` on an unsigned digit string: none = error (syntax or out of `int` range).
    (Signs cannot occur: only 0x30–0x39 and 0x3B are ever collected in the DCS states.) -/
def atoi (ds : List Rune) : Option Int :=
  if ds.all isDigit && decide (decimal ds < 9223372036854775808) then some (decimal ds : Int) else none

/-- The parameter loop of `hook`: none = an Atoi error was emitted and `Parameters` stays nil. -/
def hookParams : List (List Rune) → Option (List Int)
  | [] => some []
  | p :: rest =>
    if p.isEmpty then (hookParams rest).map (0 :: ·)
    else match atoi p with
      | none => none
      | some v => (hookParams rest).map (v :: ·)

/-! ### actions -/

def runExitFn (s : PState) : ExitFn → PState × List Seq
  | .oscEnd => ({ s with osc := [] }, [.osc s.osc])
  | .unhook => ({ s with dcs := {} }, [.dcs s.dcs.final s.dcs.inter s.dcs.params s.dcs.data])
  | .apcUnhook => ({ s with apc := [] }, [.apc s.apc])

/-- One statement of an arm. `r` is the current rune. (`retIfIgnoreST` is control flow and is
    handled by `runActs`; `deferClearIgnoreST` by `runFn`.) -/
def applyAct (a : Act) (r : Rune) (s : PState) : PState × List Seq :=
  match a with
  | .execute => (s, if decide (r ≤ 0x1F) then [.c0 r] else [])
  | .print => (s, [.print r])
  | .collect => ({ s with inter := s.inter ++ [r] }, [])
  | .param => ({ s with params := s.params ++ [r] }, [])
  | .csiDispatch => ({ s with inter := [] }, [.csi s.inter (decodeParams s.params) r])
  | .escapeDispatch => ({ s with inter := [] }, [.esc s.inter r])
  | .hook =>
    let s1 := { s with exit := some .unhook, dcs := { final := r, inter := s.inter }, inter := [] }
    if s.params.isEmpty then (s1, [])
    else match hookParams (splitOn 0x3B s.params []) with
      | none => (s1, [.err])
      | some ps => ({ s1 with dcs := { s1.dcs with params := ps } }, [])
  | .put => ({ s with dcs := { s.dcs with data := s.dcs.data ++ [r] } }, [])
  | .oscStart => ({ s with exit := some .oscEnd }, [])
  | .oscPut => ({ s with osc := s.osc ++ [r] }, [])
  | .apcPut => ({ s with apc := s.apc ++ [r] }, [])
  | .clear => ({ s with inter := [], params := [] }, [])
  | .emitErr => (s, [.err])
  | .emitSS3 => (s, [.ss3 r])
  | .setIgnoreST => ({ s with ignoreST := true }, [])
  | .setExitUnhook => ({ s with exit := some .unhook }, [])
  | .setExitApc => ({ s with exit := some .apcUnhook }, [])
  | .runExit =>
    match s.exit with
    | some f => runExitFn s f
    | none => (s, [.panic])          -- nil function call
  | .clearExit => ({ s with exit := none }, [])
  | .runExitIfSet =>
    match s.exit with
    | some f => let (s', o) := runExitFn s f; ({ s' with exit := none }, o)
    | none => (s, [])
  | .runExitIfSetST =>
    match s.exit with
    | some f => let (s', o) := runExitFn s f; ({ s' with exit := none, ignoreST := true }, o)
    | none => (s, [])
  | .clearIgnoreST => ({ s with ignoreST := false }, [])
  | .startTimer => (s, [])           -- the timer is C08's (Model/ParserRun.lean)
  | .deferClearIgnoreST => (s, [])
  | .retIfIgnoreST _ => (s, [])
  | .unknown => (s, [])              -- not modelled: the correspondence and the oracle will tell

/-- Does the action read `r`?  (On `eof` none of these may run: `r` would be −1.) -/
def usesRune : Act → Bool
  | .execute | .print | .collect | .param | .csiDispatch | .escapeDispatch | .hook | .put
  | .oscPut | .apcPut | .emitSS3 => true
  | _ => false

/-- Run the statements of an arm in order; `n` is the arm's `return` value. -/
def runActs : List Act → Inp → PState → List Seq → Next → PState × List Seq × Next
  | [], _, s, out, n => (s, out, n)
  | .retIfIgnoreST n' :: rest, i, s, out, n =>
    if s.ignoreST then (s, out, n') else runActs rest i s out n
  | a :: rest, i, s, out, n =>
    match i with
    | .rune r => let (s', o) := applyAct a r s; runActs rest i s' (out ++ o) n
    | .eof =>
      if usesRune a then (s, out ++ [.panic], .stop)
      else let (s', o) := applyAct a 0 s; runActs rest i s' (out ++ o) n

/-- Call one state function.  The deferred `p.ignoreST = false` runs when the function returns,
    provided the `defer` statement was reached (it is part of the row: not when an `if … return`
    above it fired). -/
def runFn (f : StateFn) (i : Inp) (s : PState) : PState × List Seq × Next :=
  let (s', out, n) := runActs (f.row i).1 i s [] (f.row i).2
  (if (f.row i).1.contains .deferClearIgnoreST then { s' with ignoreST := false } else s', out, n)

structure Table where
  anywhere : StateFn
  fn : StateId → StateFn

/-- Result of one iteration of the `run` loop body `p.state = anywhere(r, p)`:
    new parser state, items emitted, and whether `p.state == nil` (loop ends). -/
structure StepOut where
  st : PState
  out : List Seq
  stop : Bool
  deriving DecidableEq, Repr, Inhabited

def finish (s : PState) (out : List Seq) : Next → StepOut
  | .st x => ⟨{ s with state := x }, out, false⟩
  | .stop => ⟨s, out, true⟩
  | .dispatch => ⟨s, out ++ [.panic], true⟩    -- a state function returning p.state(r,p): not in the code

def step (T : Table) (s : PState) (i : Inp) : StepOut :=
  match runFn T.anywhere i s with
  | (s1, o1, .dispatch) =>
    let (s2, o2, n2) := runFn (T.fn s1.state) i s1
    finish s2 (o1 ++ o2) n2
  | (s1, o1, n) => finish s1 o1 n

/-! ### the regenerated table and the hand-written one -/

def genTable : Table := ⟨Gen.ParserTable.anywhereFn, Gen.ParserTable.stateFn⟩

def c0 : List Guard := [.range 0x00 0x17, .eq 0x19, .range 0x1C 0x1F]
def paramBytes : List Guard := [.range 0x30 0x39, .eq 0x3B, .eq 0x3A]
def errGround : Arm := { guards := [], acts := [.emitErr], next := .st .ground }

def handAnywhere : StateFn :=
  { pre := [],
    arms := [
      { guards := [.isEof], acts := [.runExitIfSet], next := .stop },
      { guards := [.eq 0x18, .eq 0x1A], acts := [.runExitIfSet, .clearIgnoreST, .execute], next := .st .ground },
      { guards := [.eq 0x1B], acts := [.runExitIfSet, .clear, .startTimer], next := .st .escape }],
    dflt := { guards := [], acts := [], next := .dispatch } }

def handFn : StateId → StateFn
  | .ground =>
    { pre := [], arms := [{ guards := c0, acts := [.execute], next := .st .ground }],
      dflt := { guards := [], acts := [.print], next := .st .ground } }
  | .escape =>
    { early := [{ guards := c0, acts := [.execute], next := .st .escape }],
      pre := [.deferClearIgnoreST],
      arms := [
        { guards := [.range 0x20 0x2F], acts := [.collect], next := .st .escapeIntermediate },
        { guards := [.range 0x30 0x4E, .range 0x51 0x57, .eq 0x59, .eq 0x5A, .range 0x60 0x7F],
          acts := [.escapeDispatch], next := .st .ground },
        { guards := [.eq 0x5C], acts := [.retIfIgnoreST (.st .ground), .escapeDispatch], next := .st .ground },
        { guards := [.eq 0x4F], acts := [], next := .st .ss3 },
        { guards := [.eq 0x50], acts := [.clear], next := .st .dcsEntry },
        { guards := [.eq 0x58, .eq 0x5E], acts := [], next := .st .sosPm },
        { guards := [.eq 0x5F], acts := [.setExitApc], next := .st .apc },
        { guards := [.eq 0x5B], acts := [.clear], next := .st .csiEntry },
        { guards := [.eq 0x5D], acts := [.oscStart], next := .st .oscString }],
      dflt := { guards := [], acts := [], next := .st .ground } }
  | .escapeIntermediate =>
    { pre := [],
      arms := [
        { guards := c0, acts := [.execute], next := .st .escapeIntermediate },
        { guards := [.eq 0x7F], acts := [], next := .st .escapeIntermediate },
        { guards := [.range 0x20 0x2F], acts := [.collect], next := .st .escapeIntermediate },
        { guards := [.range 0x30 0x7E], acts := [.escapeDispatch], next := .st .ground }],
      dflt := { guards := [], acts := [], next := .st .ground } }
  | .csiEntry =>
    { pre := [],
      arms := [
        { guards := c0, acts := [.execute], next := .st .csiEntry },
        { guards := [.eq 0x7F], acts := [], next := .st .csiEntry },
        { guards := paramBytes, acts := [.param], next := .st .csiParam },
        { guards := [.range 0x3C 0x3F], acts := [.collect], next := .st .csiParam },
        { guards := [.range 0x20 0x2F], acts := [.collect], next := .st .csiIntermediate },
        { guards := [.range 0x40 0x7E], acts := [.csiDispatch], next := .st .ground }],
      dflt := errGround }
  | .csiParam =>
    { pre := [],
      arms := [
        { guards := c0, acts := [.execute], next := .st .csiParam },
        { guards := [.eq 0x7F], acts := [], next := .st .csiParam },
        { guards := paramBytes, acts := [.param], next := .st .csiParam },
        { guards := [.range 0x40 0x7E], acts := [.csiDispatch], next := .st .ground },
        { guards := [.range 0x20 0x2F], acts := [.collect], next := .st .csiIntermediate },
        { guards := [.range 0x3C 0x3F], acts := [], next := .st .csiIgnore }],
      dflt := errGround }
  | .csiIgnore =>
    { pre := [],
      arms := [
        { guards := c0, acts := [.execute], next := .st .csiIgnore },
        { guards := [.eq 0x7F], acts := [], next := .st .csiIgnore },
        { guards := [.range 0x40 0x7E], acts := [], next := .st .ground }],
      dflt := { guards := [], acts := [], next := .st .csiIgnore } }
  | .csiIntermediate =>
    { pre := [],
      arms := [
        { guards := [.isEof], acts := [], next := .stop },
        { guards := c0, acts := [.execute], next := .st .csiIntermediate },
        { guards := [.eq 0x7F], acts := [], next := .st .csiIntermediate },
        { guards := [.range 0x20 0x2F], acts := [.collect], next := .st .csiIntermediate },
        { guards := [.range 0x30 0x3F], acts := [], next := .st .csiIgnore },
        { guards := [.range 0x40 0x7E], acts := [.csiDispatch], next := .st .ground }],
      dflt := errGround }
  | .dcsEntry =>
    { pre := [],
      arms := [
        { guards := c0, acts := [], next := .st .dcsEntry },
        { guards := [.eq 0x7F], acts := [], next := .st .dcsEntry },
        { guards := [.range 0x20 0x2F], acts := [.collect], next := .st .dcsIntermediate },
        { guards := [.eq 0x3A], acts := [], next := .st .dcsIgnore },
        { guards := [.range 0x30 0x39, .eq 0x3B], acts := [.param], next := .st .dcsParam },
        { guards := [.range 0x3C 0x3F], acts := [.collect], next := .st .dcsParam },
        { guards := [.range 0x40 0x7E], acts := [.hook], next := .st .dcsPassthrough }],
      dflt := errGround }
  | .dcsIntermediate =>
    { pre := [],
      arms := [
        { guards := c0, acts := [], next := .st .dcsIntermediate },
        { guards := [.range 0x20 0x2F], acts := [.collect], next := .st .dcsIntermediate },
        { guards := [.eq 0x7F], acts := [], next := .st .dcsIntermediate },
        { guards := [.range 0x30 0x3F], acts := [], next := .st .dcsIgnore },
        { guards := [.range 0x40 0x7E], acts := [.hook], next := .st .dcsPassthrough }],
      dflt := errGround }
  | .dcsParam =>
    { pre := [],
      arms := [
        { guards := c0, acts := [], next := .st .dcsParam },
        { guards := [.range 0x30 0x39, .eq 0x3B], acts := [.param], next := .st .dcsParam },
        { guards := [.eq 0x7F], acts := [], next := .st .dcsParam },
        { guards := [.range 0x20 0x2F], acts := [.collect], next := .st .dcsIntermediate },
        { guards := [.eq 0x3A, .range 0x3C 0x3F], acts := [], next := .st .dcsIgnore },
        { guards := [.range 0x40 0x7E], acts := [.hook], next := .st .dcsPassthrough }],
      dflt := errGround }
  | .dcsIgnore =>
    { pre := [.setIgnoreST],
      arms := [
        { guards := c0, acts := [], next := .st .dcsIgnore },
        { guards := [.range 0x20 0x7F], acts := [], next := .st .dcsIgnore }],
      dflt := { guards := [], acts := [], next := .st .dcsIgnore } }
  | .dcsPassthrough =>
    { pre := [.setIgnoreST, .setExitUnhook],
      arms := [
        { guards := c0, acts := [.put], next := .st .dcsPassthrough },
        { guards := [.range 0x20 0x7E], acts := [.put], next := .st .dcsPassthrough },
        { guards := [.eq 0x7F], acts := [], next := .st .dcsPassthrough }],
      dflt := { guards := [], acts := [.put], next := .st .dcsPassthrough } }
  | .oscString =>
    { pre := [.setIgnoreST],
      arms := [
        { guards := [.eq 0x07], acts := [.runExit, .clearExit, .clearIgnoreST], next := .st .ground },
        { guards := c0, acts := [], next := .st .oscString },
        { guards := [.range 0x20 0x7F], acts := [.oscPut], next := .st .oscString }],
      dflt := { guards := [], acts := [.oscPut], next := .st .oscString } }
  | .sosPm =>
    { pre := [.setIgnoreST],
      arms := [{ guards := c0, acts := [], next := .st .sosPm }],
      dflt := { guards := [], acts := [], next := .st .sosPm } }
  | .apc =>
    { pre := [.setIgnoreST],
      arms := [{ guards := c0, acts := [], next := .st .apc }],
      dflt := { guards := [], acts := [.apcPut], next := .st .apc } }
  | .ss3 =>
    { pre := [],
      arms := [
        { guards := c0, acts := [.execute], next := .st .ss3 },
        { guards := [.eq 0x7F], acts := [], next := .st .ss3 }],
      dflt := { guards := [], acts := [.emitSS3], next := .st .ground } }

def handTable : Table := ⟨handAnywhere, handFn⟩

/-- The hand model of one loop iteration. -/
def pstep : PState → Inp → StepOut := step handTable
/-- The same, interpreting the table regenerated from ansi/parser.go. -/
def pstepGen : PState → Inp → StepOut := step genTable

/-- Run over a list of inputs (stops after `stop`). -/
def runWith (T : Table) : PState → List Inp → PState × List Seq × Bool
  | s, [] => (s, [], false)
  | s, i :: rest =>
    let o := step T s i
    if o.stop then (o.st, o.out, true)
    else let (s', out, b) := runWith T o.st rest; (s', o.out ++ out, b)

/-- Run the hand model over runes (a rune never stops the loop: `Lemmas.ParserAbs.hand_inv_step`). -/
def run : PState → List Rune → PState × List Seq
  | s, [] => (s, [])
  | s, r :: w =>
    let o := pstep s (.rune r)
    let (s', out) := run o.st w
    (s', o.out ++ out)

end VaxisModel.Model.Parser
