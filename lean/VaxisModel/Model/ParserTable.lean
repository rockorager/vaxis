/-
Vocabulary of the transition table of ansi/parser.go (C02/C08): state ids, guards, action calls,
arms.  `Gen/ParserTable.lean` (regenerated from the source on every run) is data of these types;
`Model/Parser.lean` interprets it.  Core Lean only.
-/
namespace VaxisModel.Model.ParserTable

/-- One constructor per state function of ansi/parser.go. -/
inductive StateId
  | ground | escape | escapeIntermediate | csiEntry | csiParam | csiIntermediate | csiIgnore
  | dcsEntry | dcsParam | dcsIntermediate | dcsPassthrough | dcsIgnore | oscString | sosPm | apc | ss3
  deriving DecidableEq, Repr, Inhabited

def allStates : List StateId :=
  [.ground, .escape, .escapeIntermediate, .csiEntry, .csiParam, .csiIntermediate, .csiIgnore,
   .dcsEntry, .dcsParam, .dcsIntermediate, .dcsPassthrough, .dcsIgnore, .oscString, .sosPm, .apc, .ss3]

theorem mem_allStates (s : StateId) : s ∈ allStates := by cases s <;> decide

/-- What a state function returns. -/
inductive Next
  | st (s : StateId)   -- `return <state>`
  | stop               -- `return nil`
  | dispatch           -- `return p.state(r, p)` (only in `anywhere`)
  deriving DecidableEq, Repr, Inhabited

/-- The statements that occur in the arms (and before the switch) of the state functions. -/
inductive Act
  | execute            -- p.execute(r)
  | print              -- p.print(r)
  | collect            -- p.collect(r)
  | param              -- p.param(r)
  | csiDispatch        -- p.csiDispatch(r)
  | escapeDispatch     -- p.escapeDispatch(r)
  | hook               -- p.hook(r)
  | put                -- p.put(r)
  | oscStart           -- p.oscStart()
  | oscPut             -- p.oscPut(r)
  | apcPut             -- p.apcData = append(p.apcData, r)
  | clear              -- p.clear()
  | emitErr            -- p.emit(fmt.Errorf(...))
  | emitSS3            -- p.emit(SS3(r))
  | setIgnoreST        -- p.ignoreST = true
  | setExitUnhook      -- p.exit = p.unhook
  | setExitApc         -- p.exit = p.apcUnhook
  | runExit            -- p.exit()           (unguarded: nil dereference if unset)
  | clearExit          -- p.exit = nil
  | runExitIfSet       -- if p.exit != nil { p.exit(); p.exit = nil }
  | runExitIfSetST     -- if p.exit != nil { p.exit(); p.exit = nil; p.ignoreST = true }
  | clearIgnoreST      -- p.ignoreST = false
  | startTimer         -- p.escTimeout = time.AfterFunc(10ms, …)
  | deferClearIgnoreST -- defer func() { p.ignoreST = false }()
  | retIfIgnoreST (n : Next) -- if p.ignoreST { return n }
  | unknown            -- a statement the extractor does not know (listed in `Gen.ParserTable.unrecognised`;
                       -- `Props.C02.gen_fully_recognised` requires that there is none)
  deriving DecidableEq, Repr, Inhabited

/-- A `case` label: `in(r, lo, hi)`, `r == c`, `r == eof`. -/
inductive Guard
  | range (lo hi : Nat)
  | eq (c : Nat)
  | isEof
  deriving DecidableEq, Repr, Inhabited

structure Arm where
  guards : List Guard
  acts : List Act
  next : Next
  deriving DecidableEq, Repr, Inhabited

/-- A state function: `if <labels> { …; return … }` statements at the very top (`early`, tried in
    source order before anything else runs), the statements before the `switch` (`pre`), the arms
    in source order, the default arm. -/
structure StateFn where
  early : List Arm := []
  pre : List Act
  arms : List Arm
  dflt : Arm
  deriving DecidableEq, Repr, Inhabited

/-- Parser input: a rune (Unicode scalar or raw byte value) or the end-of-input marker
    (`const eof rune = -1`). -/
inductive Inp
  | rune (r : Nat)
  | eof
  deriving DecidableEq, Repr, Inhabited

def Guard.eval : Guard → Inp → Bool
  | .range lo hi, .rune r => decide (lo ≤ r) && decide (r ≤ hi)
  | .eq c, .rune r => decide (r = c)
  | .isEof, .eof => true
  | _, _ => false

def Arm.fires (a : Arm) (i : Inp) : Bool := a.guards.any (·.eval i)

/-- First arm whose label matches, else the default arm (Go `switch { case …: }` semantics). -/
def findArm : List Arm → Arm → Inp → Arm
  | [], d, _ => d
  | a :: rest, d, i => if a.fires i then a else findArm rest d i

def StateFn.arm (f : StateFn) (i : Inp) : Arm := findArm f.arms f.dflt i

/-- First `if <labels> { … return … }` at the top of the function whose condition holds. -/
def findEarly : List Arm → Inp → Option Arm
  | [], _ => none
  | a :: rest, i => if a.fires i then some a else findEarly rest i

/-- All the statements executed for input `i` and the returned `Next`: the body of the first early
    `if` that fires (the prologue — e.g. a `defer` — is then never reached), else the prologue
    followed by the arm of the `switch`.  An early `return` inside an arm is kept as the
    `retIfIgnoreST` action. -/
def StateFn.row (f : StateFn) (i : Inp) : List Act × Next :=
  match findEarly f.early i with
  | some a => (a.acts, a.next)
  | none =>
    let a := f.arm i
    (f.pre ++ a.acts, a.next)

/-- Go `switch`: the arm that runs is the default arm or one whose label matches. -/
theorem findArm_mem (arms : List Arm) (d : Arm) (i : Inp) :
    findArm arms d i = d ∨ (findArm arms d i ∈ arms ∧ (findArm arms d i).fires i = true) := by
  induction arms with
  | nil => exact .inl rfl
  | cons a rest ih =>
    simp only [findArm]
    by_cases h : a.fires i = true
    · rw [if_pos h]; exact .inr ⟨List.mem_cons_self, h⟩
    · rw [if_neg h]
      rcases ih with e | ⟨m, f⟩
      · exact .inl e
      · exact .inr ⟨List.mem_cons_of_mem _ m, f⟩

theorem findEarly_mem (arms : List Arm) (i : Inp) (m : Arm) (h : findEarly arms i = some m) : m ∈ arms := by
  induction arms with
  | nil => cases h
  | cons a rest ih =>
    simp only [findEarly] at h
    by_cases hf : a.fires i = true
    · rw [if_pos hf] at h; cases h; exact List.mem_cons_self
    · rw [if_neg hf] at h; exact List.mem_cons_of_mem _ (ih h)

/-- Every statement a state function contains, wherever it stands. -/
def StateFn.stmts (f : StateFn) : List Act :=
  f.pre ++ f.dflt.acts ++ (f.early ++ f.arms).flatMap Arm.acts

/-- What holds of every statement of a state function holds of every row. -/
theorem StateFn.row_all (f : StateFn) (p : Act → Bool) (h : f.stmts.all p = true) (i : Inp) :
    (f.row i).1.all p = true := by
  simp only [StateFn.stmts, List.all_append, List.all_flatMap, Bool.and_eq_true, List.all_eq_true] at h
  obtain ⟨⟨hpre, hd⟩, hearly, harm⟩ := h
  unfold StateFn.row
  cases he : findEarly f.early i with
  | some m => exact List.all_eq_true.mpr (hearly m (findEarly_mem _ _ _ he))
  | none =>
    simp only [List.all_append, Bool.and_eq_true, List.all_eq_true]
    refine ⟨hpre, ?_⟩
    unfold StateFn.arm
    rcases findArm_mem f.arms f.dflt i with e | ⟨hm, _⟩
    · rw [e]; exact hd
    · exact harm _ hm
theorem StateFn.not_mem_row (f : StateFn) (a : Act) (h : f.stmts.all (· != a) = true) (i : Inp) :
    a ∉ (f.row i).1 := fun ha => by
  simpa using List.all_eq_true.mp (f.row_all _ h i) a ha

/-! ### Interval classes: a row depends on the rune only through comparisons with the guard
constants, so it is constant on any interval that contains no boundary. -/

def Guard.bounds : Guard → List Nat
  | .range lo hi => [lo, hi + 1]
  | .eq c => [c, c + 1]
  | .isEof => []

def Arm.bounds (a : Arm) : List Nat := a.guards.flatMap Guard.bounds
def StateFn.bounds (f : StateFn) : List Nat := f.early.flatMap Arm.bounds ++ f.arms.flatMap Arm.bounds

/-- No boundary `b` with `a < b ≤ hi` (so `[a, hi]` lies inside one class). -/
def clear (bs : List Nat) (a hi : Nat) : Bool := bs.all fun b => decide (b ≤ a) || decide (hi < b)
/-- No boundary above `a` (so `[a, ∞)` lies inside one class). -/
def clearAbove (bs : List Nat) (a : Nat) : Bool := bs.all fun b => decide (b ≤ a)

theorem Guard.eval_const (g : Guard) (a r : Nat) (h : ∀ b ∈ g.bounds, b ≤ a ∨ r < b) (har : a ≤ r) :
    g.eval (.rune r) = g.eval (.rune a) := by
  cases g with
  | range lo hi =>
    have h1 := h lo (by simp [Guard.bounds])
    have h2 := h (hi + 1) (by simp [Guard.bounds])
    simp only [Guard.eval]
    by_cases c1 : lo ≤ r <;> by_cases c2 : r ≤ hi <;> by_cases c3 : lo ≤ a <;> by_cases c4 : a ≤ hi <;>
      simp [c1, c2, c3, c4] <;> omega
  | eq c =>
    have h1 := h c (by simp [Guard.bounds])
    have h2 := h (c + 1) (by simp [Guard.bounds])
    simp only [Guard.eval]
    by_cases c1 : r = c <;> by_cases c2 : a = c <;> simp [c1, c2] <;> omega
  | isEof => rfl

theorem Arm.fires_const (m : Arm) (a r : Nat) (h : ∀ b ∈ m.bounds, b ≤ a ∨ r < b) (har : a ≤ r) :
    m.fires (.rune r) = m.fires (.rune a) := by
  unfold Arm.fires
  have : ∀ gs : List Guard, (∀ g ∈ gs, ∀ b ∈ g.bounds, b ≤ a ∨ r < b) →
      gs.any (·.eval (.rune r)) = gs.any (·.eval (.rune a)) := by
    intro gs
    induction gs with
    | nil => intro _; rfl
    | cons g gs ih =>
      intro hg
      simp only [List.any_cons]
      rw [Guard.eval_const g a r (hg g (by simp)) har, ih (fun g' hg' => hg g' (by simp [hg']))]
  apply this
  intro g hg b hb
  exact h b (by simp only [Arm.bounds, List.mem_flatMap]; exact ⟨g, hg, hb⟩)

theorem findArm_const (arms : List Arm) (d : Arm) (a r : Nat)
    (h : ∀ b ∈ arms.flatMap Arm.bounds, b ≤ a ∨ r < b) (har : a ≤ r) :
    findArm arms d (.rune r) = findArm arms d (.rune a) := by
  induction arms with
  | nil => rfl
  | cons m rest ih =>
    simp only [findArm]
    rw [Arm.fires_const m a r (fun b hb => h b (by simp [hb])) har,
        ih (fun b hb => h b (by simp only [List.flatMap_cons, List.mem_append]; exact Or.inr hb))]

theorem findEarly_const (arms : List Arm) (a r : Nat)
    (h : ∀ b ∈ arms.flatMap Arm.bounds, b ≤ a ∨ r < b) (har : a ≤ r) :
    findEarly arms (.rune r) = findEarly arms (.rune a) := by
  induction arms with
  | nil => rfl
  | cons m rest ih =>
    simp only [findEarly]
    rw [Arm.fires_const m a r (fun b hb => h b (by simp [hb])) har,
        ih (fun b hb => h b (by simp only [List.flatMap_cons, List.mem_append]; exact Or.inr hb))]

theorem StateFn.row_const_of (f : StateFn) (a r : Nat) (h : ∀ b ∈ f.bounds, b ≤ a ∨ r < b) (har : a ≤ r) :
    f.row (.rune r) = f.row (.rune a) := by
  unfold StateFn.row StateFn.arm
  have h1 : ∀ b ∈ f.early.flatMap Arm.bounds, b ≤ a ∨ r < b := fun b hb =>
    h b (by simp only [StateFn.bounds, List.mem_append]; exact Or.inl hb)
  have h2 : ∀ b ∈ f.arms.flatMap Arm.bounds, b ≤ a ∨ r < b := fun b hb =>
    h b (by simp only [StateFn.bounds, List.mem_append]; exact Or.inr hb)
  rw [findEarly_const f.early a r h1 har, findArm_const f.arms f.dflt a r h2 har]

/-- A state function's row is constant on `[a, hi]` when no boundary falls in `(a, hi]`. -/
theorem StateFn.row_const (f : StateFn) (a hi r : Nat) (hc : clear f.bounds a hi = true)
    (har : a ≤ r) (hr : r ≤ hi) : f.row (.rune r) = f.row (.rune a) := by
  apply StateFn.row_const_of f a r _ har
  intro b hb
  have := (List.all_eq_true.mp hc) b hb
  simp only [Bool.or_eq_true, decide_eq_true_eq] at this
  omega

/-- … and constant on `[a, ∞)` when no boundary lies above `a`. -/
theorem StateFn.row_const_above (f : StateFn) (a r : Nat) (hc : clearAbove f.bounds a = true)
    (har : a ≤ r) : f.row (.rune r) = f.row (.rune a) := by
  apply StateFn.row_const_of f a r _ har
  intro b hb
  have := (List.all_eq_true.mp hc) b hb
  simp only [decide_eq_true_eq] at this
  omega

/-- The largest boundary not above `c` (0 if there is none): the left end of the class of `c`. -/
def classOf (bs : List Nat) (c : Nat) : Nat := bs.foldl (fun m b => if m ≤ b ∧ b ≤ c then b else m) 0

theorem classOf_spec (bs : List Nat) (c : Nat) :
    classOf bs c ≤ c ∧ classOf bs c ∈ 0 :: bs ∧ ∀ b ∈ bs, b ≤ classOf bs c ∨ c < b := by
  have key : ∀ (bs : List Nat) (m : Nat), m ≤ c →
      let r := bs.foldl (fun m b => if m ≤ b ∧ b ≤ c then b else m) m
      m ≤ r ∧ r ≤ c ∧ (r = m ∨ r ∈ bs) ∧ ∀ b ∈ bs, b ≤ r ∨ c < b := by
    intro bs
    induction bs with
    | nil => intro m hm; exact ⟨Nat.le_refl _, hm, .inl rfl, fun _ h => nomatch h⟩
    | cons b rest ih =>
      intro m hm
      simp only [List.foldl_cons]
      by_cases hb : m ≤ b ∧ b ≤ c
      · rw [if_pos hb]
        obtain ⟨h1, h2, h3, h4⟩ := ih b hb.2
        refine ⟨Nat.le_trans hb.1 h1, h2, .inr ?_, ?_⟩
        · rcases h3 with e | e
          · rw [e]; exact List.mem_cons_self
          · exact List.mem_cons_of_mem _ e
        · intro b' hb'
          rcases List.mem_cons.mp hb' with rfl | hb'
          · exact .inl h1
          · exact h4 b' hb'
      · rw [if_neg hb]
        obtain ⟨h1, h2, h3, h4⟩ := ih m hm
        refine ⟨h1, h2, h3.imp id (List.mem_cons_of_mem _), ?_⟩
        intro b' hb'
        rcases List.mem_cons.mp hb' with rfl | hb'
        · omega
        · exact h4 b' hb'
  obtain ⟨_, h2, h3, h4⟩ := key bs 0 (Nat.zero_le c)
  refine ⟨h2, ?_, h4⟩
  rcases h3 with e | e
  · rw [classOf, e]; exact List.mem_cons_self
  · exact List.mem_cons_of_mem _ e

/-- A row is that of the left end of the rune's class, for any list of boundaries that holds the
    state function's. -/
theorem StateFn.row_classOf (f : StateFn) (bs : List Nat) (h : ∀ b ∈ f.bounds, b ∈ bs) (c : Nat) :
    f.row (.rune c) = f.row (.rune (classOf bs c)) :=
  f.row_const_of _ c (fun b hb => (classOf_spec bs c).2.2 b (h b hb)) (classOf_spec bs c).1

end VaxisModel.Model.ParserTable
