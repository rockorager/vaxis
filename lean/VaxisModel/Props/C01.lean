/-
C01 — Rendered terminal equals the application's screen after every frame.
Property theorems about the model of `render()` / `writer.Flush` (Model/Render.lean) interpreted by the reference
display terminal (Spec/Display.lean), for every grid pair, style, capability set, width oracle `cw`, terminal width
function `tw`, cursor request and prior terminal state: between frames the terminal is at rest (`flush_epilogue`,
`flush_resets_pen`) and the hardware cursor is as requested (`cursor_as_requested`).  The cell-content clause is
proved in Props/C01Display.lean; `frame_displays_full` below states it without five side conditions and is FALSE of
the model (each condition refuted by a concrete witness in Witness/C01Display.lean).
-/
import VaxisModel.Lemmas.RenderToks
import VaxisModel.Spec.Expected

namespace VaxisModel.Props.C01
open VaxisModel.Model.Render VaxisModel.Spec VaxisModel.Spec.Display VaxisModel.Lemmas.RenderToks

/-- The terminal "at rest" between frames: pen reset, no hyperlink open, sync mode balanced. -/
def Rest (t : Term) : Prop := t.pen = TStyle.reset ∧ t.link = "" ∧ t.sync = 0

/-- The terminal shows the hardware cursor as `c` requests. -/
def CursorAs (t : Term) (c : CursorState) : Prop :=
  if c.visible then
    t.cursorVisible = true ∧ (t.row : Int) = c.row ∧ (t.col : Int) = c.col ∧ t.pw = false ∧ t.cursorShape = c.style
  else t.cursorVisible = false

theorem cursorAs_hidden (t : Term) (c : CursorState) (h : CursorAs t c) (hv : c.visible = false) :
    t.cursorVisible = false := by
  simpa [CursorAs, hv] using h

/-- What either cell loop writes for a frame: optional pointer shape, cell tokens, optional OSC 8 close,
    optional `showCursor()` — and the hyperlink is closed before the cursor is shown
    (`Lemmas.RenderToks.renderBody_shape`, `Lemmas.RenderSixel.renderBodyS_shape`).  The three clauses below
    hold of the writer over any such body. -/
def BodyShape (f : Frame) (body : List Tok) : Prop :=
  ∃ (pre extra close show_ : List Tok),
    body = pre ++ extra ++ close ++ show_ ∧
    (pre = [] ∨ ∃ s, pre = [Tok.pointer s]) ∧
    (∀ k ∈ extra, CellTok k) ∧
    (close = [] ∨ close = [Tok.osc8 "" ""]) ∧
    linkRun "" (pre ++ extra ++ close) = "" ∧
    show_ = (if f.cursorNext.visible ∧ ¬ f.cursorLast.visible then showCursorToks f.cursorNext else [])

private theorem shape_quiet {pre extra close : List Tok} (hpre : pre = [] ∨ ∃ s, pre = [Tok.pointer s])
    (hvoc : ∀ k ∈ extra, CellTok k) (hclose : close = [] ∨ close = [Tok.osc8 "" ""]) :
    ∀ k ∈ pre ++ extra ++ close, CellTok k ∨ Quiet k := by
  intro k hk
  simp only [List.mem_append] at hk
  rcases hk with (hk | hk) | hk
  · rcases hpre with h | ⟨s, h⟩ <;> subst h <;> simp at hk
    subst hk; exact Or.inr trivial
  · exact Or.inl (hvoc k hk)
  · rcases hclose with h | h <;> subst h <;> simp at hk
    subst hk; exact Or.inr trivial

private theorem show_link (c : CursorState) (l : String) : linkRun l (showCursorToks c) = l := by
  simp [showCursorToks, linkRun, linkStep]
private theorem show_pen (c : CursorState) (p : TStyle) : penRun p (showCursorToks c) = p := by
  simp [showCursorToks, penRun, penStep]
private theorem show_sync (c : CursorState) (n : Int) : syncRun n (showCursorToks c) = n := by
  simp [showCursorToks, syncRun, syncStep]

private theorem body_link {f : Frame} {body : List Tok} (hs : BodyShape f body) : linkRun "" body = "" := by
  obtain ⟨pre, extra, close, show_, hb, _, _, _, hl, hs⟩ := hs
  rw [hb, linkRun_append, hl, hs]
  split
  · exact show_link _ _
  · rfl

private theorem body_sync {f : Frame} {body : List Tok} (hs : BodyShape f body) (n : Int) : syncRun n body = n := by
  obtain ⟨pre, extra, close, show_, hb, hpre, hvoc, hclose, _, hs⟩ := hs
  rw [hb, syncRun_append, (run_cellToks _ (shape_quiet hpre hvoc hclose) n true 0).1, hs]
  split
  · exact show_sync _ _
  · rfl

theorem flush_rest (tw : String → Nat) (f : Frame) (body : List Tok) (hb : BodyShape f body) (t : Term) (h : Rest t) :
    Rest (run tw t (flush f.caps f.cursorNext f.cursorLast body)) := by
  obtain ⟨hp, hl, hs⟩ := h
  have r := run_fields tw (flush f.caps f.cursorNext f.cursorLast body) t
  unfold Rest
  rw [r.link, r.pen, r.sync, hp, hl, hs]
  unfold flush
  -- every piece the writer adds is a conditional of token lists none of which opens a link, sets the pen
  -- (except the SGR reset after the body) or leaves sync mode unbalanced
  by_cases hemp : body.isEmpty = true <;> simp only [hemp, Bool.false_eq_true, if_true, if_false]
  · simp only [apply_ite (linkRun _), apply_ite (penRun _), apply_ite (syncRun _), show_link, show_pen, show_sync]
    simp [linkRun, linkStep, penRun, penStep, syncRun, syncStep, TStyle.reset]
  · simp only [linkRun_append, penRun_append, syncRun_append, apply_ite (linkRun _), apply_ite (penRun _), apply_ite (syncRun _),
      body_sync hb, show_link, show_pen, show_sync]
    simp [linkRun, linkStep, penRun, penStep, syncRun, syncStep, sgr]
    refine ⟨body_link hb, ?_⟩
    split <;> simp [*]

/-- **Every flush leaves the pen reset, any hyperlink closed and synchronized-update mode
    balanced** — as an invariant of the terminal between frames, for every frame. -/
theorem flush_epilogue (tw cw : String → Nat) (f : Frame) (t : Term) (h : Rest t) :
    Rest (run tw t (renderFrame cw f).2) :=
  flush_rest tw f _ (renderBody_shape cw f) t h

theorem flush_pen (tw : String → Nat) (caps : Caps) (cn cl : CursorState) (body : List Tok) (t : Term)
    (hne : body ≠ []) : (run tw t (flush caps cn cl body)).pen = TStyle.reset := by
  rw [(run_fields tw (flush caps cn cl body) t).pen]
  unfold flush
  have : body.isEmpty = false := List.isEmpty_eq_false_iff.mpr hne
  simp only [this, Bool.false_eq_true, if_false]
  simp only [penRun_append]
  have : ∀ p, penRun p [Tok.sgr []] = TStyle.reset := by intro p; simp [penRun, penStep, sgr]
  rw [this]
  split <;> split <;> simp [penRun, penStep, showCursorToks]

/-- A frame that writes at least one cell (or any other buffered output) resets the pen whatever
    the terminal's pen was before. -/
theorem flush_resets_pen (tw cw : String → Nat) (f : Frame) (t : Term)
    (hne : (renderBody cw f).2 ≠ []) : (run tw t (renderFrame cw f).2).pen = TStyle.reset :=
  flush_pen tw f.caps f.cursorNext f.cursorLast _ t hne

private theorem show_sets (tw : String → Nat) (t : Term) (c : CursorState) (hv : c.visible = true)
    (hr : 0 ≤ c.row ∧ c.row < t.rows) (hc : 0 ≤ c.col ∧ c.col < t.cols) :
    CursorAs (run tw t (showCursorToks c)) c := by
  simp only [CursorAs, hv, if_true, showCursorToks, run, List.foldl_cons, List.foldl_nil, step]
  have h1 : ¬ (c.row + 1 < 1 ∨ c.col + 1 < 1 ∨ c.row + 1 > (t.rows : Int) ∨ c.col + 1 > (t.cols : Int)) := by omega
  simp only [h1, if_false]
  simp
  omega

/-- Tokens that follow `showCursor()` in a flush: SGR reset and the end of synchronized update. -/
private def Tail : Tok → Prop
  | .sgr _ => True
  | .decrst n => n = 2026
  | _ => False

private theorem tail_keeps (tw : String → Nat) (c : CursorState) (toks : List Tok) (h : ∀ k ∈ toks, Tail k)
    (t : Term) (ht : CursorAs t c) : CursorAs (run tw t toks) c :=
  run_keeps tw (J := fun t => CursorAs t c) (Q := Tail)
    (fun t k ht hk => by
      cases k <;> simp [Tail] at hk
      · simpa [step, CursorAs] using ht
      · subst hk; simpa [step, CursorAs] using ht)
    toks h t ht

/-- The writer over a non-empty body of the shape above leaves the hardware cursor as requested whatever its
    position was before: only its visibility matters, and only when it was and stays hidden. -/
theorem flush_cursor_nonempty (tw : String → Nat) (f : Frame) (body : List Tok) (hshape : BodyShape f body) (t : Term)
    (hin : f.cursorNext.visible = true →
      (0 ≤ f.cursorNext.row ∧ f.cursorNext.row < t.rows) ∧ (0 ≤ f.cursorNext.col ∧ f.cursorNext.col < t.cols))
    (hne : body ≠ [])
    (hvis : f.cursorLast.visible = false → t.cursorVisible = false) :
    CursorAs (run tw t (flush f.caps f.cursorNext f.cursorLast body)) f.cursorNext := by
  obtain ⟨pre, extra, close, show_, hb, hpre, hvoc, hclose, _, hs⟩ := hshape
  have hq := shape_quiet hpre hvoc hclose
  have hemp : body.isEmpty = false := List.isEmpty_eq_false_iff.mpr hne
  by_cases hv : f.cursorNext.visible = true
  · obtain ⟨hr, hc⟩ := hin hv
    -- split the flush at `showCursor()`: what comes before does not matter, what comes after are `Tail` tokens
    have key : ∀ A B : List Tok, (∀ k ∈ B, Tail k) →
        CursorAs (run tw t (A ++ showCursorToks f.cursorNext ++ B)) f.cursorNext := by
      intro A B hB
      rw [Lemmas.DisplayBasic.run_append, Lemmas.DisplayBasic.run_append]
      exact tail_keeps tw _ B hB _ (show_sets tw _ _ hv (by rw [(run_fields tw A t).rows]; exact hr)
        (by rw [(run_fields tw A t).cols]; exact hc))
    unfold flush
    simp only [hemp, Bool.false_eq_true, if_false]
    by_cases hcl : f.cursorLast.visible = true
    · simp only [hv, hcl, and_self, if_true]
      refine key _ _ fun k hk => ?_
      split at hk <;> simp at hk
      subst hk; rfl
    · have hsh : show_ = showCursorToks f.cursorNext := by rw [hs]; simp [hv, hcl]
      simp only [hcl, Bool.false_eq_true, if_false, and_false, List.nil_append, List.append_nil]
      rw [hb, hsh]
      have : (((if f.caps.sync = true then [Tok.decset 2026] else []) ++ (pre ++ extra ++ close ++ showCursorToks f.cursorNext)) ++ [Tok.sgr []]) ++ (if f.caps.sync = true then [Tok.decrst 2026] else [])
          = ((if f.caps.sync = true then [Tok.decset 2026] else []) ++ (pre ++ extra ++ close)) ++ showCursorToks f.cursorNext ++ ([Tok.sgr []] ++ (if f.caps.sync = true then [Tok.decrst 2026] else [])) := by
        simp [List.append_assoc]
      rw [this]
      refine key _ _ fun k hk => ?_
      simp only [List.mem_append, List.mem_singleton] at hk
      rcases hk with hk | hk
      · subst hk; trivial
      · split at hk <;> simp at hk
        subst hk; rfl
  · have hv' : f.cursorNext.visible = false := by simpa using hv
    simp only [CursorAs, hv', Bool.false_eq_true, if_false]
    rw [(run_fields tw (flush f.caps f.cursorNext f.cursorLast body) t).cursorVisible]
    have hsh : show_ = [] := by rw [hs]; simp [hv']
    have hbq : ∀ v, visRun v body = v := by
      intro v; rw [hb, hsh, List.append_nil]; exact (run_cellToks _ hq 0 v 0).2.1
    have h2 : ∀ v, visRun v (if f.caps.sync = true then [Tok.decset 2026] else []) = v := by
      intro v; split <;> simp [visRun, visStep]
    have h3 : ∀ v, visRun v (if f.caps.sync = true then [Tok.decrst 2026] else []) = v := by
      intro v; split <;> simp [visRun, visStep]
    unfold flush
    simp only [hemp, hv', Bool.false_eq_true, false_and, if_false, List.append_nil]
    by_cases hcl : f.cursorLast.visible = true
    · simp only [hcl, if_true, visRun_append]
      have : visRun t.cursorVisible [Tok.decrst 25] = false := by simp [visRun, visStep]
      rw [this, h2, hbq, h3]; simp [visRun, visStep]
    · have ht : t.cursorVisible = false := hvis (by simpa using hcl)
      simp only [hcl, Bool.false_eq_true, if_false, visRun_append, List.nil_append]
      rw [h2, hbq, h3, ht]; simp [visRun, visStep]

/-- The writer over a body of the shape above leaves the hardware cursor as requested.  With nothing
    buffered the writer shows the cursor only if position or shape changed, so there the previous position
    is needed. -/
theorem flush_cursor (tw : String → Nat) (f : Frame) (body : List Tok) (hshape : BodyShape f body) (t : Term)
    (hin : f.cursorNext.visible = true →
      (0 ≤ f.cursorNext.row ∧ f.cursorNext.row < t.rows) ∧ (0 ≤ f.cursorNext.col ∧ f.cursorNext.col < t.cols))
    (hprev : CursorAs t f.cursorLast) :
    CursorAs (run tw t (flush f.caps f.cursorNext f.cursorLast body)) f.cursorNext := by
  have hvis : f.cursorLast.visible = false → t.cursorVisible = false := cursorAs_hidden t _ hprev
  by_cases hne : body = []
  · obtain ⟨pre, extra, close, show_, hb, _, _, _, _, hs⟩ := hshape
    subst hne
    unfold flush
    simp only [List.isEmpty_nil, if_true]
    by_cases hv : f.cursorNext.visible = true
    · obtain ⟨hr, hc⟩ := hin hv
      have hcl : f.cursorLast.visible = true := by
        by_cases h : f.cursorLast.visible = true
        · exact h
        · have : show_ = showCursorToks f.cursorNext := by rw [hs]; simp [hv, h]
          rw [this] at hb
          simp [showCursorToks] at hb
      simp only [hv, hcl, not_true_eq_false, false_and, if_false]
      repeat' split
      all_goals first
        | exact show_sets tw t _ hv hr hc
        | (rename_i h1 h2 h3
           simp only [ne_eq, Decidable.not_not] at h1 h2 h3
           simp only [run, List.foldl_nil]
           simp only [CursorAs, hcl, if_true] at hprev
           simp only [CursorAs, hv, if_true]
           rw [h1, h2, h3]; exact hprev)
    · have hv' : f.cursorNext.visible = false := by simpa using hv
      simp only [CursorAs, hv', Bool.false_eq_true, not_false_eq_true, true_and, if_false]
      cases hcl : f.cursorLast.visible
      · simpa [run] using hvis hcl
      · simp [run, step]
  · exact flush_cursor_nonempty tw f body hshape t hin hne hvis

/-- **The hardware cursor is shown exactly as last requested** after every frame: hidden, or
    visible at the requested position and shape — given that the terminal showed the previously
    requested cursor before the frame and that a visible cursor is requested inside the screen. -/
theorem cursor_as_requested (tw cw : String → Nat) (f : Frame) (t : Term)
    (hin : f.cursorNext.visible = true →
      (0 ≤ f.cursorNext.row ∧ f.cursorNext.row < t.rows) ∧ (0 ≤ f.cursorNext.col ∧ f.cursorNext.col < t.cols))
    (hprev : CursorAs t f.cursorLast) :
    CursorAs (run tw t (renderFrame cw f).2) f.cursorNext :=
  flush_cursor tw f _ (renderBody_shape cw f) t hin hprev

/-- No visible glyph of the application's grid extends past the end of its row (known finding F02
    is exactly the negation: such a glyph is written as is and what the terminal shows is terminal
    specific). -/
def FitsRow (cw : String → Nat) : Nat → List Cell → Prop
  | _, [] => True
  | skip + 1, _ :: cs => FitsRow cw skip cs
  | 0, c :: cs => (Expected.cellWidth cw c).toNat ≤ (c :: cs).length ∧ FitsRow cw ((Expected.cellWidth cw c).toNat - 1) cs
def Fits (cw : String → Nat) (g : Grid) : Prop := ∀ row ∈ g, FitsRow cw 0 row

/-- "The terminal still shows the previous frame": its grid is what `last` means. -/
def Agree (cw : String → Nat) (caps : Caps) (t : Term) (last : Grid) : Prop :=
  t.grid = Expected.expected cw caps last

/-- Full statement of the display clause of C01 for one frame: from a terminal at rest that still
    shows the previous frame (or from *any* grid when the frame is a refresh), after the frame the
    terminal shows exactly the application's screen, nothing terminal-specific was relied on, and
    the new `last` buffer again describes the terminal. -/
def frame_displays_full : Prop :=
  ∀ (cw : String → Nat) (f : Frame) (t : Term),
    Rest t → t.bad = none →
    t.grid.length = f.next.length → f.last.length = f.next.length →
    (∀ r ∈ t.grid, r.length = t.cols) → (∀ r ∈ f.next, r.length = t.cols) → (∀ r ∈ f.last, r.length = t.cols) →
    t.rows = f.next.length →
    Fits cw f.next → (∀ r ∈ f.next, ∀ c ∈ r, c.sixel = false ∧ 0 ≤ c.w) →
    (f.refresh = false → Agree cw f.caps t f.last) →
    (run cw t (renderFrame cw f).2).bad = none ∧
    (run cw t (renderFrame cw f).2).grid = Expected.expected cw f.caps f.next ∧
    Agree cw f.caps (run cw t (renderFrame cw f).2) (renderFrame cw f).1

-- Non-vacuity: the initial terminal is at rest, and a one-cell frame has a non-empty body.
example : Rest (Term.init 3 1) := by simp [Rest, Term.init, TStyle.reset]
def exampleFrame : Frame :=
  Frame.mk {} true [[({ g := "61" } : Cell)]] [[({} : Cell)]] {} {} "" ""
example : (renderBody (fun _ => 1) exampleFrame).2 ≠ [] := by decide

end VaxisModel.Props.C01
