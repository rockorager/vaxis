/-
C01 ∘ C11 — the application-level end-to-end theorem.

A run is any sequence of drawing calls (`SetCell`, `SetStyle`, `Fill`, `Clear`, `Print`,
`PrintTruncate`, `Println`, `Wrap` on arbitrary windows — any chain, any integer geometry —,
`ShowCursor` through a window, `HideCursor`, `SetMouseShape`) interleaved with `Render`, `Refresh`
and size changes of the terminal.  The buffer the renderer is given is the one the C11 window
model computes (`Model.App.draw`), the renderer is the transcription of the repaired `render()`
(`Model.RenderClip`), the terminal is `Spec.Display`.

After every frame of every admissible run the reference terminal shows exactly the application's screen
(`app_history_displays`).  The hypotheses of `C01Display.frame_displays_partial` about the grid are discharged: its
shape from `Screen.WF` (C11 `screen_wf_put`), "glyph fits" by the F02 repair, the widths of the cells the *text
helpers* write from what the helpers compute.  What remains (`OpOk`) is the application's or the terminal's: cells
handed to `SetCell`/`Fill` have admissible widths; uniseg's width is the terminal's when the helpers do not
re-measure; the ellipsis has width 1 when `PrintTruncate` is used; a visible cursor is inside the screen at `Render`;
after a size change the terminal shows a well-formed grid of the new size — whatever it is.  `Window.ShowCursor` is
origin + offset with **no clipping** (`Witness/C11ShowCursor.lean`).
-/
import VaxisModel.Lemmas.AppSys
import VaxisModel.Lemmas.AppSpec

namespace VaxisModel.Props.C01App
open VaxisModel.Model.Window VaxisModel.Model.Render VaxisModel.Model.App
open VaxisModel.Spec VaxisModel.Spec.Display VaxisModel.Spec.Window
open VaxisModel.Lemmas.Window VaxisModel.Lemmas.App VaxisModel.Lemmas.AppSys VaxisModel.Lemmas.AppSpec
open VaxisModel.Lemmas.RenderDisplay
open VaxisModel.Props.C01 VaxisModel.Props.C01Display

/-- **One step**: the invariant is re-established and a frame leaves the terminal showing the
    application's screen. -/
theorem app_step (X : Ctx) (hX : X.Ok) (s : Sys) (hi : Inv X s) (op : SysOp) (hok : OpOk X s op) :
    Inv X (sysStep X s op) ∧ (isFrame s op = true → Shows X (sysStep X s op)) := sys_step X hX s hi op hok

/-- **After every frame of every admissible run** — from any state satisfying the invariant — the
    terminal shows exactly the application's screen, nothing terminal-specific was relied on, and
    the terminal is at rest (pen reset, hyperlink closed, synchronized update balanced). -/
theorem app_history_displays (X : Ctx) (hX : X.Ok) (s : Sys) (hi : Inv X s) (pre : List SysOp) (op : SysOp)
    (post : List SysOp) (hok : RunOk X s (pre ++ op :: post)) (hf : isFrame (sysRun X s pre) op = true) :
    Shows X (sysRun X s (pre ++ [op])) ∧ Rest (sysRun X s (pre ++ [op])).t := by
  obtain ⟨h1, h2⟩ := (runOk_append X pre (op :: post) s).1 hok
  have hpre := run_inv X hX pre s hi h1
  have hst := sys_step X hX (sysRun X s pre) hpre op h2.1
  have e : sysRun X s (pre ++ [op]) = sysStep X (sysRun X s pre) op := by simp [sysRun, List.foldl_append]
  rw [e]
  exact ⟨hst.2 hf, hst.1.ready.rest⟩

/-- … in particular from start-up (blank terminal, buffers just allocated, refresh pending). -/
theorem app_from_start (X : Ctx) (hX : X.Ok) (cols rows : Nat) (pre : List SysOp) (op : SysOp) (post : List SysOp)
    (hok : RunOk X (Sys.init cols rows) (pre ++ op :: post)) (hf : isFrame (sysRun X (Sys.init cols rows) pre) op = true) :
    Shows X (sysRun X (Sys.init cols rows) (pre ++ [op])) ∧ Rest (sysRun X (Sys.init cols rows) (pre ++ [op])).t :=
  app_history_displays X hX _ (init_inv X cols rows) pre op post hok hf

/-- **The size-change path**: `Render` with the resize flag set and a new size reallocates both
    buffers and sets `refresh` without writing; then, whatever (well-formed) content `g` the terminal
    shows, after any drawing calls the next `Render` makes it show the application's screen. -/
theorem app_first_frame_after_resize (X : Ctx) (hX : X.Ok) (s : Sys) (hi : Inv X s) (cols rows : Nat)
    (g : List (List DCell)) (hsz : sameSize s.v cols rows = false) (ds : List DrawOp)
    (hok : RunOk X s (.resize cols rows g :: ds.map .draw ++ [.render])) :
    (sysStep X s (.resize cols rows g)).v.refresh = true ∧
    (sysStep X s (.resize cols rows g)).v.scr = Screen.resize cols rows ∧
    (sysStep X s (.resize cols rows g)).v.last = blankGrid cols rows ∧
    (sysStep X s (.resize cols rows g)).t.grid = g ∧
    Shows X (sysRun X s (.resize cols rows g :: ds.map .draw ++ [.render])) := by
  refine ⟨by simp [sysStep, endFrame, hsz], by simp [sysStep, endFrame, hsz], by simp [sysStep, endFrame, hsz],
    by simp [sysStep, endFrame, hsz, run, resizedTerm], ?_⟩
  have := app_history_displays X hX s hi (.resize cols rows g :: ds.map .draw) .render [] (by simpa using hok) rfl
  simpa using this.1

/-- **What the application's screen is**, in the property's terms: starting from freshly allocated
    buffers, after any drawing calls each screen cell holds the fold — in call order — of the
    writes that hit it (`specWrites`: origin + offset inside the window, every ancestor and the
    screen; the text helpers' writes are the reading-order layouts of `Spec.Window`), starting from
    the zero cell. -/
theorem app_screen_is_last_write (lib : Lib) (rm : Bool) (v : Vx) (cols rows : Nat) (hv : v.scr = Screen.resize cols rows)
    (ds : List DrawOp) (x y : Int) (hin : inScreen v.scr x y) :
    (runDraws lib rm v ds).scr.get x y = some (foldHits v.scr x y default (ds.flatMap (specWrites lib rm))) := by
  rw [draws_read]
  have hwf : v.scr.WF := by rw [hv]; exact wf_resize _ _ (by omega) (by omega)
  obtain ⟨c, hc⟩ := get_some_of_inScreen v.scr hwf x y hin
  have : c = default := get_resize cols rows x y c (by rw [← hv]; exact hc)
  rw [hc, this]; rfl

/-- The same from any buffer: cells keep what they held unless a write hits them. -/
theorem app_screen_read (lib : Lib) (rm : Bool) (v : Vx) (ds : List DrawOp) (x y : Int) :
    (runDraws lib rm v ds).scr.get x y =
      (v.scr.get x y).map (fun c0 => foldHits v.scr x y c0 (ds.flatMap (specWrites lib rm))) := draws_read lib rm v ds x y

/-- A never-written cell shows as a blank in the default style. -/
theorem app_never_written_blank (X : Ctx) (hX : X.Ok) (h0 : X.cw "" = 0) :
    Expected.expectedCell X.cw X.caps (X.I.cell default) = DCell.blank := by
  have hg : X.I.gOf 0 = "" := hX.std.empty
  have hs : X.I.stOf 0 = {} := hX.std.style0
  have hsh : ∀ caps : Caps, Expected.shown caps {} = {} := fun caps => VaxisModel.Lemmas.RenderPen.shown_default caps
  have hd : (default : VaxisModel.Model.Window.Cell) = ⟨0, 0, 0⟩ := rfl
  rw [hd]
  simp only [Interp.cell, Expected.expectedCell, Expected.cellWidth, DCell.blank, hg, h0, hs, hsh]
  decide

/-- `Window.ShowCursor(col,row)` requests the window's absolute origin plus the offset — for every
    chain and geometry, with no bounds check at any level. -/
theorem showCursor_position (win : Win) (col row : Int) :
    cursorPos win col row = ((win.origin).1 + col, (win.origin).2 + row) := by
  induction win generalizing col row with
  | root c r w h => simp only [cursorPos, Win.origin]; ext <;> simp <;> omega
  | child c r w h p ih => simp only [cursorPos, Win.origin, ih]; ext <;> simp <;> omega

/-- If the offset addresses a cell of the window's clip region (the cell a `SetCell` with the same
    offset would change), the cursor request is inside the screen: the application's obligation at
    the next `Render` is met (until the size changes). -/
theorem showCursor_in_screen (lib : Lib) (rm : Bool) (v : Vx) (win : Win) (col row : Int) (st : Nat)
    (hv : visible win v.scr ((win.origin).1 + col) ((win.origin).2 + row)) :
    CursorIn (draw lib rm v (.showCursor win col row st)) := by
  intro _
  simp only [draw, showCursor_position]
  obtain ⟨_, h1, h2, h3, h4⟩ := hv
  exact ⟨⟨h3, h4⟩, ⟨h1, h2⟩⟩

/-- **The cursor clause along a run**: through every step that does not change the size the
    terminal shows the hardware cursor as last rendered; after a frame that is "as last requested:
    hidden, or visible at the requested position and shape". -/
theorem app_cursor (X : Ctx) (s : Sys) (hi : Inv X s) (hc : CursorAs s.t s.v.cursorLast) (op : SysOp)
    (hok : OpOk X s op) (hns : sizeChange s op = false) :
    CursorAs (sysStep X s op).t (sysStep X s op).v.cursorLast ∧
    (isFrame s op = true → (sysStep X s op).v.cursorLast = s.v.cursorNext) := by
  exact ⟨cursor_step X s hi hc op hok hns, frame_cursorLast X s op⟩

/-- **The cursor clause through every step, size changes included — to any size.**  `CurInv` = the
    terminal shows the cursor as last rendered, or a refresh is pending and only the cursor's
    visibility is known (the terminal may have moved it when its size changed).  Every step keeps
    `CurInv`, and after every frame — in particular after the first frame that follows a size change,
    whatever the terminal did with the cursor, and also when the new screen is empty (0 columns or
    0 rows: then a visible cursor cannot be inside it, `CursorIn` asks for a hidden one, and the frame
    hides it through the writer's cursor-only branch) — the cursor is exactly as last requested. -/
theorem app_cursor_always (X : Ctx) (s : Sys) (hi : Inv X s) (hc : CurInv s) (op : SysOp) (hok : OpOk X s op) :
    CurInv (sysStep X s op) ∧
    (isFrame s op = true → CursorAs (sysStep X s op).t (sysStep X s op).v.cursorLast ∧
                           (sysStep X s op).v.cursorLast = s.v.cursorNext) := by
  obtain ⟨h1, h2⟩ := cursor_step_all X s hi hc op hok
  exact ⟨h1, fun hf => ⟨h2 hf, frame_cursorLast X s op hf⟩⟩

/-- At start-up the cursor invariant holds (terminal cursor hidden, nothing requested yet). -/
theorem init_curInv (cols rows : Nat) : CurInv (Sys.init cols rows) := Or.inl (by simp [CursorAs, Sys.init, Vx.init])

def exCw : String → Nat := fun g => if g = "e4b896" then 2 else if g = "" then 0 else 1
def exI : Interp :=
  { gOf := fun n => if n = 0 then "" else if n = 1 then "20" else if n = 2 then "e280a6" else if n = 5 then "61" else "e4b896"
    stOf := fun n => if n = 0 then {} else { fg := 16777217 } }
def exX : Ctx :=
  { cw := exCw, caps := {}, I := exI, rm := true
    lib := { cw := fun n => (exCw (exI.gOf n) : Int), hasNL := fun _ => false, trailBrk := fun _ => false } }

theorem exX_ok : exX.Ok := ⟨rfl, ⟨rfl, rfl, rfl, rfl⟩, fun _ => rfl⟩

/-- A child window at (1,0) of a 3×1 screen; print "a世" (the wide glyph does not fit in the rest of the window's row
    and there is no next row: it is not written, F111), put the cursor in the window, render; the terminal shrinks to 2×1 showing junk; print again; render. -/
def exWin : Win := (Win.root 0 0 3 1).new 1 0 (-1) (-1)
def exText : List (Nat × List Raw) := [(1, [⟨5, 1, false⟩, ⟨6, 2, false⟩])]
def exJunk : List (List DCell) := [[.glyph "58" 1 { bold := true } "" "", .glyph "59" 1 {} "" ""]]
def exRun : List SysOp :=
  [.draw (.print exWin exText), .draw (.showCursor exWin 0 0 2), .render,
   .resize 2 1 exJunk, .draw (.hideCursor), .draw (.print (Win.root 0 0 2 1) exText), .render]

example : (sysRun exX (Sys.init 3 1) exRun).t.grid = [[.glyph "61" 1 { fg := .idx 1 } "" "", DCell.blank]] ∧
    (sysRun exX (Sys.init 3 1) (exRun.take 3)).t.grid =
      [[DCell.blank, .glyph "61" 1 { fg := .idx 1 } "" "", DCell.blank]] ∧
    (sysRun exX (Sys.init 3 1) (exRun.take 3)).t.bad = none := by decide

/-- … and the run is admissible: every hypothesis of `app_from_start` holds of it. -/
example : RunOk exX (Sys.init 3 1) exRun := by
  have htext : TextOk exX exText := fun _ _ _ _ h => absurd h (by decide)
  refine ⟨htext, trivial, ?_, ?_, trivial, htext, ?_, trivial⟩
  · intro _; decide
  · simp only [OpOk]
    rw [if_neg (by decide)]
    refine ⟨rfl, ?_⟩
    intro r hr
    simp only [exJunk, List.mem_singleton] at hr
    subst hr
    exact ⟨rfl, by simp [WFRow]⟩
  · intro h; exact absurd h (by decide)

/-- The cursor clause on an empty screen: the cursor is visible, the terminal shrinks to 0×1, the
    application hides the cursor (a visible one cannot be inside), `Render`: hidden on the terminal. -/
example :
    let run0 : List SysOp := [.draw (.showCursor (Win.root 0 0 3 1) 1 0 2), .render, .resize 0 1 [[]], .draw .hideCursor, .render]
    (sysRun exX (Sys.init 3 1) (run0.take 2)).t.cursorVisible = true ∧
    (sysRun exX (Sys.init 3 1) run0).t.cursorVisible = false ∧
    (sysRun exX (Sys.init 3 1) run0).t.bad = none ∧ (sysRun exX (Sys.init 3 1) run0).v.scr.cols = 0 := by decide

end VaxisModel.Props.C01App
