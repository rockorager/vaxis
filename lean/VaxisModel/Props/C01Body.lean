/-
C01 — `render()`, `advance()` and `showCursor()` EXECUTED from the statement skeletons regenerated from vaxis.go on every
run (`Gen/RenderFacts.lean`) by the small interpreter `Model/RenderInterp.lean`, and proved equal — for all inputs — to the
renderer model (`Model/Render*.lean`).  Block by block (`…_body_eq_model`): a block is cut out of the skeleton by its header
line (`blockAt`), its reading (`…_prog`) is decided, and one `simp` run of the interpreter over that reading gives the model's
building block; a source change in a block breaks exactly the theorem of that block.  Hand-written is only the ORDER of the
blocks in the glue (`iterI`, `rowLoopI`, `rowsI`, `renderBodyI`); it is tied to the source by `cell_loop_order`,
`blocks_are_the_loop_body` and `Props.C01Facts.facts_render`.
-/
import VaxisModel.Model.RenderInterp
import VaxisModel.Model.RenderSixel
import VaxisModel.Gen.RenderFacts
import VaxisModel.Lemmas.RenderDisplay
import VaxisModel.Lemmas.RenderImages
import VaxisModel.Lemmas.RenderLoop
import VaxisModel.Props.C01Facts
import VaxisModel.Lemmas.RenderInterpRun

namespace VaxisModel.Props.C01Body
open VaxisModel.Model.Render VaxisModel.Model.RenderInterp VaxisModel.Lemmas.RenderInterpRun

abbrev G := VaxisModel.Gen.RenderFacts.render

/-! ### running a block symbolically

Every block theorem below is one `simp` run of the interpreter over the block's lines (`interp`).  An `if` whose
guard stays open leaves a conditional environment behind; `env_ite` lets the run go on past it, and the
`ite_…` rules bring what the two branches wrote to the shape the model's definitions have (a common prefix
outside the conditional, one conditional instead of two nested ones). -/

theorem advance_prog : prog VaxisModel.Gen.RenderFacts.advance =
    [(0, .if_, .cellWidth0), (1, .stmt, .setCellWidth), (0, .stmt, .wAssign), (0, .if_, .wNeg), (1, .stmt, .ret0),
     (0, .stmt, .retW)] := by
  decide +kernel

/-- Running the body of `Vaxis.advance` as extracted on this run returns
    the model's `advance` for every cell and width oracle; every line was understood. -/
theorem advance_body_eq_model (cw : String → Nat) (caps : Caps) (c : Cell) :
    (run cw caps VaxisModel.Gen.RenderFacts.advance { next := c }).ret = some (advance cw c : Int) ∧
    (run cw caps VaxisModel.Gen.RenderFacts.advance { next := c }).unknown = false := by
  rw [run_eq cw caps advance_prog]
  simp [interp, apply_ite Cell.w, advance, resolvedW]
  generalize (if c.w = 0 then (cw c.g : Int) else c.w) = w
  split <;> simp [*]
  omega

theorem showCursor_prog : prog VaxisModel.Gen.RenderFacts.showCursor =
    [(0, .stmt, .newBuf), (0, .stmt, .wrCursorStyle), (0, .stmt, .wrCursorCup), (0, .stmt, .wrCursorShow), (0, .stmt, .retBuf)] := by
  decide +kernel

/-- Cursor style, CUP (row+1, col+1), DECSET 25 — `showCursorToks`. -/
theorem showCursor_body_eq_model (cw : String → Nat) (caps : Caps) (c : CursorState) (o : List Tok) :
    (run cw caps VaxisModel.Gen.RenderFacts.showCursor { cn := c, out := o }).out = showCursorToks c ∧
    (run cw caps VaxisModel.Gen.RenderFacts.showCursor { cn := c, out := o }).unknown = false := by
  rw [run_eq cw caps showCursor_prog]
  simp [interp, showCursorToks]

def sixelBlock : List Line := blockAt G 2 "if" "next.sixel"

theorem sixel_prog : prog sixelBlock =
    [(2, .if_, .nextSixel), (3, .if_, .endLastDirty), (4, .stmt, .dirtyEnd), (3, .stmt, .lastNext), (3, .stmt, .repTrue),
     (3, .stmt, .continue_)] := by
  decide +kernel

/-- On an image cell the block extends `dirty` by the glyph the cell used to
    hold (F113 repair), records the cell in `last`, sets `reposition`, writes nothing and `continue`s —
    the image-cell branch of `renderCellsS`; on any other cell it does nothing. -/
theorem sixel_body_eq_model (cw : String → Nat) (caps : Caps) (n l : Cell) (col dirty : Nat) (rep : Bool) (o : List Tok) :
    let e := run cw caps sixelBlock { next := n, last := l, col := col, dirty := dirty, reposition := rep, out := o }
    e.unknown = false ∧ e.out = o ∧
    (n.sixel = true → e.cont = true ∧ e.reposition = true ∧ e.lastSet = some n ∧
      e.dirty = (if col + advance cw l + 1 > dirty then col + advance cw l + 1 else dirty)) ∧
    (n.sixel = false → e.cont = false ∧ e.reposition = rep ∧ e.lastSet = none ∧ e.dirty = dirty) := by
  dsimp only
  rw [run_eq cw caps sixel_prog]
  cases hs : n.sixel <;> simp [interp, hs]

def clipBlock : List Line := blockAt G 2 "if" "col+vx.advance(next)>=len(vx.screenNext.buf[row])"

theorem clip_prog : prog clipBlock = [(2, .if_, .nextTooWide), (3, .stmt, .nextBlank)] := by decide +kernel

/-- The block replaces `next` by `clipCell` (a blank in the cell's style when
    the glyph is wider than the rest of the row; `rem` = cells from this one to the end of the row). -/
theorem clip_body_eq_model (cw : String → Nat) (caps : Caps) (n : Cell) (col rem : Nat) :
    (run cw caps clipBlock { next := n, col := col, len := col + rem }).next = clipCell cw rem n ∧
    (run cw caps clipBlock { next := n, col := col, len := col + rem }).unknown = false := by
  rw [run_eq cw caps clip_prog]
  simp [interp, clipCell]

def repositionBlock : List Line := blockAt G 2 "if" "reposition"

theorem reposition_prog : prog repositionBlock =
    [(2, .if_, .reposition), (3, .if_, .cursorLinked), (4, .stmt, .wrLinkClose), (4, .stmt, .cursorLinkClear),
     (4, .stmt, .cursorParamsClear), (3, .stmt, .wrCup), (3, .stmt, .repFalse)] := by
  decide +kernel

/-- With `reposition` set the block closes an open hyperlink (OSC 8 with
    empty fields, the tracked pen forgets the link), writes CUP (row+1, col+1) and clears the flag —
    `pre` and `pen` of the model's written-cell branch. -/
theorem reposition_body_eq_model (cw : String → Nat) (caps : Caps) (pen : Style) (rep : Bool) (row col : Nat) (o : List Tok) :
    let e := run cw caps repositionBlock { cursor := pen, reposition := rep, row := row, col := col, out := o }
    e.unknown = false ∧ e.reposition = false ∧
    e.out = o ++ (if rep then (if pen.link ≠ "" then [Tok.osc8 "" ""] else []) ++ [Tok.cup (row + 1) (col + 1)] else []) ∧
    e.cursor = (if rep ∧ pen.link ≠ "" then { pen with link := "", linkParams := "" } else pen) := by
  dsimp only
  rw [run_eq cw caps reposition_prog]
  simp [interp]

def hyperlinkBlock : List Line :=
  blockAt G 2 "if" "cursor.Hyperlink!=next.Hyperlink||(next.Hyperlink!=\"\"&&cursor.HyperlinkParams!=next.HyperlinkParams)"

theorem hyperlink_prog : prog hyperlinkBlock =
    [(2, .if_, .linkChanged), (3, .stmt, .linkAssign), (3, .stmt, .paramsAssign), (3, .if_, .linkEmpty), (4, .stmt, .paramsClear),
     (3, .if_, .semiIndex), (4, .stmt, .paramsCut), (3, .stmt, .wrLink)] := by
  decide +kernel

/-- `s[:strings.IndexByte(s, ';')]` (when the index is ≥ 0) is the model's `lpField`. -/
theorem lpFieldL_take : ∀ (n : Nat) (l : List Char), l.length ≤ n →
    lpFieldL l = (match semiIndexL l with | some i => l.take (2 * i) | none => l) := by
  intro n
  induction n with
  | zero => intro l h; cases l with
    | nil => rfl
    | cons a r => simp at h
  | succ n ih =>
    intro l h
    match l with
    | [] => rfl
    | [a] => rfl
    | a :: b :: r =>
      have hr : r.length ≤ n := by simp at h; omega
      by_cases hab : a = '3' ∧ b = 'b'
      · simp [lpFieldL, semiIndexL, hab]
      · simp only [lpFieldL, semiIndexL, hab, if_false, ih r hr]
        cases semiIndexL r with
        | none => rfl
        | some i =>
          simp only [Option.map_some]
          have : 2 * (i + 1) = (2 * i + 1) + 1 := by omega
          rw [this, List.take_succ_cons, List.take_succ_cons]

theorem lpField_cut_if (s : String) :
    lpField s = (if (semiIndexL s.toList).isSome = true then takeBytes ((semiIndexL s.toList).getD 0) s else s) := by
  unfold lpField takeBytes
  rw [lpFieldL_take _ _ (Nat.le_refl _)]
  cases semiIndexL s.toList <;> simp

/-- The block writes OSC 8 exactly when the link (or, for a non-empty
    link, its parameter string) differs from the tracked pen's, with the parameters cut before their
    first `;` — the last part of `penDelta`. -/
theorem hyperlink_body_eq_model (cw : String → Nat) (caps : Caps) (pen : Style) (n : Cell) (o : List Tok) :
    let e := run cw caps hyperlinkBlock { cursor := pen, next := n, out := o }
    e.unknown = false ∧
    e.out = o ++ (if pen.link ≠ n.style.link ∨ (n.style.link ≠ "" ∧ pen.linkParams ≠ n.style.linkParams) then
                    [Tok.osc8 (lpField (if n.style.link = "" then "" else n.style.linkParams)) n.style.link] else []) := by
  dsimp only
  rw [run_eq cw caps hyperlink_prog]
  simp [interp, lpField_cut_if]

def glyphBlock : List Line := blockAt G 2 "if" "next.Width==0" ++ blockAt G 2 "switch" ""

theorem glyph_prog : prog glyphBlock =
    [(2, .if_, .nextWidth0), (3, .stmt, .setNextWidth), (2, .switch_, .none_), (3, .case_, .nextWidth0), (4, .stmt, .wrSpace),
     (3, .case_, .nextWide), (4, .stmt, .wrExplicit), (3, .default_, .none_), (4, .stmt, .wrGrapheme)] := by
  decide +kernel

/-- Width resolution (`characterWidth` for an unset width) and the write
    `switch` (space for width 0, OSC 66 for a wide glyph under the explicit-width protocol, the raw
    grapheme otherwise) write `glyphTok`. -/
theorem glyph_body_eq_model (cw : String → Nat) (caps : Caps) (n : Cell) (o : List Tok) :
    (run cw caps glyphBlock { next := n, out := o }).out = o ++ [glyphTok cw caps n] ∧
    (run cw caps glyphBlock { next := n, out := o }).unknown = false := by
  rw [run_eq cw caps glyph_prog]
  simp [interp, apply_ite Cell.w, apply_ite Cell.g, glyphTok, glyphTokW, resolvedW]

/-- From the `dirty` extension to the write `switch`: everything `render()` does for a cell it writes,
    between the early exits (image cell, clip, unchanged) and the skipping of the covered cells. -/
def writtenPath : List Line :=
  (G.dropWhile (fun l => !(l.1 == 2 && l.2.1 == "if" && l.2.2 == "end:=col+vx.advance(vx.screenLast.buf[row][col])+1;end>dirty"))).takeWhile
    (fun l => !(l.1 == 2 && l.2.1 == "assign" && l.2.2 == "skip:=vx.advance(next)"))

theorem written_prog : prune (prog writtenPath) =
    [(2, .if_, .endLastDirty), (3, .stmt, .dirtyEnd), (2, .stmt, .lastNext),
     (2, .if_, .reposition), (3, .if_, .cursorLinked), (4, .stmt, .wrLinkClose), (4, .stmt, .cursorLinkClear),
     (4, .stmt, .cursorParamsClear), (3, .stmt, .wrCup), (3, .stmt, .repFalse),
     (2, .stmt, .fgDelta), (2, .stmt, .bgDelta), (2, .stmt, .ulDelta), (2, .stmt, .attrDelta), (2, .stmt, .ulStyleDelta),
     (2, .if_, .linkChanged), (3, .stmt, .linkAssign), (3, .stmt, .paramsAssign), (3, .if_, .linkEmpty), (4, .stmt, .paramsClear),
     (3, .if_, .semiIndex), (4, .stmt, .paramsCut), (3, .stmt, .wrLink),
     (2, .stmt, .cursorNextStyle),
     (2, .if_, .nextWidth0), (3, .stmt, .setNextWidth),
     (2, .switch_, .none_), (3, .case_, .nextWidth0), (4, .stmt, .wrSpace), (3, .case_, .nextWide), (4, .stmt, .wrExplicit),
     (3, .default_, .none_), (4, .stmt, .wrGrapheme)] := by
  decide +kernel

/-- The environment in which the written-cell path runs: the loop state `st`, the (clipped) cell `m`,
    the cell `l` the previous frame recorded here. -/
def writtenEnv (st : RSt) (m l : Cell) (row col dirty : Nat) : Env :=
  { cursor := st.pen, reposition := st.reposition, next := m, last := l, row := row, col := col, dirty := dirty, out := st.out }

/-- Running everything `render()` does for a written cell — `dirty`
    extension, copy into `last`, reposition (OSC 8 close + CUP), the six style deltas (colours, attributes
    and underline as whole blocks), the hyperlink with its parameter cut, `cursor = next.Style`, width
    resolution and the write `switch` — from the text extracted on this run gives exactly the tokens,
    the tracked pen, the flags, `dirty` and the `last` cell of the model's written-cell branch. -/
theorem written_cell_body_eq_model (cw : String → Nat) (caps : Caps) (st : RSt) (m l : Cell) (row col dirty : Nat) :
    let e := runP cw caps writtenPath (writtenEnv st m l row col dirty)
    e.unknown = false ∧ e.lastSet = some m ∧
    e.dirty = (if col + advance cw l + 1 > dirty then col + advance cw l + 1 else dirty) ∧
    ({ reposition := e.reposition, pen := e.cursor, out := e.out } : RSt) =
      { reposition := false, pen := m.style, out := st.out ++ VaxisModel.Lemmas.RenderDisplay.cellToks cw caps st row col m } := by
  dsimp only [writtenEnv]
  obtain ⟨f, hf⟩ := VaxisModel.Lemmas.RenderInterpRun.runP_fuel cw caps written_prog
    { cursor := st.pen, reposition := st.reposition, next := m, last := l, row := row, col := col, dirty := dirty, out := st.out }
  rw [hf]
  simp [interp, apply_ite Cell.w, apply_ite Cell.g, VaxisModel.Lemmas.RenderDisplay.cellToks, penDelta, glyphTok, glyphTokW, resolvedW,
    lpField_cut_if]

/-- **The written-cell branch of the model's loop is the interpreted source**: for a cell that is neither
    an image cell nor unchanged, `renderCellsS` continues with exactly the state the extracted statements
    compute (`e`), the cell the clip block computes, and skips `advance` cells. -/
theorem render_written_branch_eq_interp (cw : String → Nat) (caps : Caps) (refresh : Bool) (row col : Nat) (track : Bool)
    (dirty : Nat) (n0 l : Cell) (ns ls : List Cell) (st : RSt) (h : n0.sixel = false)
    (hc : ¬ (clipCell cw (ns.length + 1) n0 = l ∧ ¬ refresh ∧ col ≥ dirty)) :
    let m := (run cw caps clipBlock { next := n0, col := col, len := col + (ns.length + 1) }).next
    let e := runP cw caps writtenPath (writtenEnv st m l row col dirty)
    renderCellsS cw caps refresh row col 0 track dirty (n0 :: ns) (l :: ls) st =
      (m :: (renderCellsS cw caps refresh row (col + 1) (advance cw m) true e.dirty ns ls
              { reposition := e.reposition, pen := e.cursor, out := e.out }).1,
       (renderCellsS cw caps refresh row (col + 1) (advance cw m) true e.dirty ns ls
              { reposition := e.reposition, pen := e.cursor, out := e.out }).2) := by
  dsimp only
  rw [(clip_body_eq_model cw caps n0 col (ns.length + 1)).1]
  obtain ⟨_, _, hd, hst⟩ := written_cell_body_eq_model cw caps st (clipCell cw (ns.length + 1) n0) l row col dirty
  rw [hd, hst]
  exact VaxisModel.Lemmas.RenderSixel.renderCellsS_write_eq cw caps refresh row col track dirty n0 l ns ls st h hc

/-- **The image-cell branch of the model's loop is the interpreted source.** -/
theorem render_sixel_branch_eq_interp (cw : String → Nat) (caps : Caps) (refresh : Bool) (row col : Nat) (track : Bool)
    (dirty : Nat) (n l : Cell) (ns ls : List Cell) (st : RSt) (h : n.sixel = true) :
    let e := run cw caps sixelBlock { next := n, last := l, col := col, dirty := dirty, reposition := st.reposition, out := st.out }
    e.cont = true ∧
    renderCellsS cw caps refresh row col 0 track dirty (n :: ns) (l :: ls) st =
      (e.lastSet.getD l :: (renderCellsS cw caps refresh row (col + 1) 0 false e.dirty ns ls
              { st with reposition := e.reposition }).1,
       (renderCellsS cw caps refresh row (col + 1) 0 false e.dirty ns ls { st with reposition := e.reposition }).2) := by
  dsimp only
  obtain ⟨_, _, h1, _⟩ := sixel_body_eq_model cw caps n l col dirty st.reposition st.out
  obtain ⟨c1, c2, c3, c4⟩ := h1 h
  refine ⟨c1, ?_⟩
  rw [c2, c3, c4]
  exact VaxisModel.Lemmas.RenderSixel.renderCellsS_sixel_eq cw caps refresh row col track dirty n l ns ls st h

def unchangedBlock : List Line := blockAt G 2 "if" "next==vx.screenLast.buf[row][col]&&!vx.refresh&&col>=dirty"

theorem unchanged_prog : prune (prog unchangedBlock) =
    [(2, .if_, .unchanged), (3, .stmt, .repTrue), (3, .stmt, .skipAdvance), (3, .stmt, .nullLoop), (3, .stmt, .colSkip),
     (3, .stmt, .continue_)] := by
  decide +kernel

/-- A cell equal to what the previous frame recorded — outside a refresh and
    the `dirty` range — is not written: `reposition` is set, the `advance(next)` cells it covers are handed
    to the nulling loop and jumped over, `continue`.  Otherwise the block does nothing. -/
theorem unchanged_body_eq_model (cw : String → Nat) (caps : Caps) (m l : Cell) (col dirty : Nat) (refresh rep : Bool) (o : List Tok) :
    let e := runP cw caps unchangedBlock { next := m, last := l, col := col, dirty := dirty, refresh := refresh, reposition := rep, out := o }
    e.unknown = false ∧ e.out = o ∧ e.dirty = dirty ∧
    ((m = l ∧ ¬ refresh ∧ col ≥ dirty) → e.cont = true ∧ e.reposition = true ∧ e.skipv = advance cw m ∧ e.nulled = advance cw m ∧
      e.col = col + advance cw m) ∧
    (¬ (m = l ∧ ¬ refresh ∧ col ≥ dirty) → e.cont = false ∧ e.reposition = rep ∧ e.col = col) := by
  dsimp only
  obtain ⟨f, hf⟩ := VaxisModel.Lemmas.RenderInterpRun.runP_fuel cw caps unchanged_prog
    { next := m, last := l, col := col, dirty := dirty, refresh := refresh, reposition := rep, out := o }
  rw [hf]
  by_cases hc : m = l ∧ ¬ refresh ∧ col ≥ dirty
  · simp [interp, hc]
  · have hg : (decide (m = l) && !refresh && decide (col ≥ dirty)) = false := by simpa using hc
    simp [interp, hg]
    simpa using hc

/-- **The unchanged branch of the model's loop is the interpreted source.** -/
theorem render_unchanged_branch_eq_interp (cw : String → Nat) (caps : Caps) (refresh : Bool) (row col : Nat) (track : Bool)
    (dirty : Nat) (n0 l : Cell) (ns ls : List Cell) (st : RSt) (h : n0.sixel = false)
    (hc : clipCell cw (ns.length + 1) n0 = l ∧ ¬ refresh ∧ col ≥ dirty) :
    let m := (run cw caps clipBlock { next := n0, col := col, len := col + (ns.length + 1) }).next
    let e := runP cw caps unchangedBlock
      ({ next := m, last := l, col := col, dirty := dirty, refresh := refresh, reposition := st.reposition, out := st.out } : Env)
    e.cont = true ∧
    renderCellsS cw caps refresh row col 0 track dirty (n0 :: ns) (l :: ls) st =
      (l :: (renderCellsS cw caps refresh row (col + 1) e.skipv false e.dirty ns ls { st with reposition := e.reposition }).1,
       (renderCellsS cw caps refresh row (col + 1) e.skipv false e.dirty ns ls { st with reposition := e.reposition }).2) := by
  dsimp only
  rw [(clip_body_eq_model cw caps n0 col (ns.length + 1)).1]
  obtain ⟨_, _, hd, h1, _⟩ :=
    unchanged_body_eq_model cw caps (clipCell cw (ns.length + 1) n0) l col dirty refresh st.reposition st.out
  obtain ⟨c1, c2, c3, _, _⟩ := h1 hc
  refine ⟨c1, ?_⟩
  rw [hd, c2, c3]
  exact VaxisModel.Lemmas.RenderSixel.renderCellsS_equal_eq cw caps refresh row col track dirty n0 l ns ls st h hc

def shapeBlock : List Line := blockAt G 0 "if" "vx.mouseShapeLast!=vx.mouseShapeNext"
def closeBlock : List Line := blockAt G 0 "if" "cursor.Hyperlink!=\"\""
def showBlock : List Line := blockAt G 0 "if" "vx.cursorNext.visible&&!vx.cursorLast.visible"

theorem frame_progs :
    prog shapeBlock = [(0, .if_, .shapeChanged), (1, .stmt, .wrShape), (1, .stmt, .shapeAssign)] ∧
    prog closeBlock = [(0, .if_, .cursorLinked), (1, .stmt, .wrLinkClose)] ∧
    prog showBlock = [(0, .if_, .cursorAppears), (1, .stmt, .wrShowCursor)] := by
  decide +kernel

/-- The statements of `render()` before and after the row loop — OSC 22
    when the pointer shape changed, OSC 8 close when the tracked pen still has a hyperlink open,
    `showCursor()` when the cursor becomes visible — write `pre`, `close`, `show_` of `renderBodyS`. -/
theorem render_frame_body_eq_model (cw : String → Nat) (f : Frame) (pen : Style) (o : List Tok) :
    (run cw f.caps shapeBlock { shapeNext := f.shapeNext, shapeLast := f.shapeLast, out := o }).out =
      o ++ (if f.shapeLast ≠ f.shapeNext then [Tok.pointer f.shapeNext] else []) ∧
    (run cw f.caps closeBlock { cursor := pen, out := o }).out = o ++ (if pen.link ≠ "" then [Tok.osc8 "" ""] else []) ∧
    (run cw f.caps showBlock { cn := f.cursorNext, cl := f.cursorLast, out := o }).out =
      o ++ (if f.cursorNext.visible ∧ ¬ f.cursorLast.visible then showCursorToks f.cursorNext else []) ∧
    (run cw f.caps shapeBlock { shapeNext := f.shapeNext, shapeLast := f.shapeLast, out := o }).unknown = false ∧
    (run cw f.caps closeBlock { cursor := pen, out := o }).unknown = false ∧
    (run cw f.caps showBlock { cn := f.cursorNext, cl := f.cursorLast, out := o }).unknown = false := by
  rw [run_eq cw f.caps frame_progs.1, run_eq cw f.caps frame_progs.2.1, run_eq cw f.caps frame_progs.2.2]
  simp [interp]

open VaxisModel.Lemmas.RenderLoop

def nullBlock1 : List Line := blockAt G 3 "for" "i:=1;i<skip+1;i+=1"
def nullBlock2 : List Line := blockAt G 2 "for" "i:=1;i<skip+1;i+=1"

/-- The bodies of the two nulling loops: after a written cell (`track`) with the `dirty` extension, in the
    unchanged branch without. -/
def nullBody (track : Bool) : List (Nat × Kind × Atom) :=
  if track then [(3, .if_, .colIBeyond), (4, .stmt, .break_), (3, .if_, .endLastIDirty), (4, .stmt, .dirtyEnd), (3, .stmt, .lastINull)]
  else [(4, .if_, .colIBeyond), (5, .stmt, .break_), (4, .stmt, .lastINull)]

theorem null_progs :
    prog nullBlock1 = (3, .for_, .nullLoop) :: nullBody false ∧ prog nullBlock2 = (2, .for_, .nullLoop) :: nullBody true := by
  decide +kernel

theorem loopI_succ (cw : String → Nat) (caps : Caps) (f : Nat) (body : List (Nat × Kind × Atom)) (e : Env) :
    loopI cw caps (f + 1) body e =
      if e.i < e.skipv + 1 then
        (if (exec cw caps f body e).brk then { exec cw caps f body e with brk := false }
         else loopI cw caps f body { exec cw caps f body e with i := (exec cw caps f body e).i + 1 })
      else e := by
  rw [loopI]

/-! Fuel: `exec` takes one unit per statement it enters and gives up (`unknown`) at 0.  5 is enough for either body
(five lines at most), whence `f + 5`; `loopI` passes on one unit less per iteration (`loopI_succ`), whence `r + 6` with `r`
iterations left; `runF` on the whole block spends one more on the `for` line, whence `skip + 7`. -/

theorem nullBody_break (cw : String → Nat) (caps : Caps) (track : Bool) (f : Nat) (e : Env)
    (hb : e.brk = false) (hco : e.cont = false) (hr : e.ret = none) (hbey : e.len ≤ e.col + e.i) :
    exec cw caps (f + 5) (nullBody track) e = { e with brk := true } := by
  cases track <;> simp [nullBody, interp, hb, hco, hr, hbey]

theorem nullBody_step (cw : String → Nat) (caps : Caps) (track : Bool) (f : Nat) (e : Env) (l : Cell)
    (hb : e.brk = false) (hco : e.cont = false) (hr : e.ret = none) (hin : ¬ e.len ≤ e.col + e.i)
    (hget : e.lastRow[e.col + e.i]? = some l) :
    ∃ v, exec cw caps (f + 5) (nullBody track) e =
      { e with endv := v, lastRow := e.lastRow.set (e.col + e.i) {},
               dirty := if track ∧ e.col + e.i + advance cw l + 1 > e.dirty then e.col + e.i + advance cw l + 1 else e.dirty } := by
  cases track
  · exact ⟨e.endv, by simp [nullBody, interp, hb, hco, hr, hin]⟩
  · refine ⟨e.col + e.i + advance cw l + 1, ?_⟩
    by_cases hd : e.col + e.i + advance cw l + 1 > e.dirty <;> simp [nullBody, interp, hb, hco, hr, hin, hget, hd]

theorem nullLoop_run (cw : String → Nat) (caps : Caps) (track : Bool) :
    ∀ (r : Nat) (e : Env), e.len = e.lastRow.length → e.i + r = e.skipv + 1 →
      e.brk = false → e.cont = false → e.ret = none → e.unknown = false →
      let e' := loopI cw caps (r + 6) (nullBody track) e
      (e'.lastRow, e'.dirty) = nullLoop cw track r (e.col + e.i) e.lastRow e.dirty ∧
      e'.unknown = false := by
  intro r
  induction r with
  | zero =>
    intro e _ hi _ _ _ hu
    have : ¬ (e.i < e.skipv + 1) := by omega
    simp [loopI, this, nullLoop, hu]
  | succ r ih =>
    intro e hlen hi hb hco hr hu
    have hlt : e.i < e.skipv + 1 := by omega
    dsimp only
    rw [show r + 1 + 6 = ((r + 1) + 5) + 1 from by omega, loopI_succ, if_pos hlt]
    cases hget : e.lastRow[e.col + e.i]? with
    | none =>
      have hbey : e.len ≤ e.col + e.i := by rw [hlen]; exact List.getElem?_eq_none_iff.mp hget
      rw [nullBody_break cw caps track _ e hb hco hr hbey]
      simp [nullLoop, hget, hu]
    | some l =>
      have hin : ¬ e.len ≤ e.col + e.i := by
        have := (List.getElem?_eq_some_iff.mp hget).1
        omega
      obtain ⟨v, hstep⟩ := nullBody_step cw caps track (r + 1) e l hb hco hr hin hget
      rw [hstep]
      have := ih { e with endv := v, lastRow := e.lastRow.set (e.col + e.i) {}, i := e.i + 1,
                          dirty := if track ∧ e.col + e.i + advance cw l + 1 > e.dirty then e.col + e.i + advance cw l + 1 else e.dirty }
        (by simp [hlen]) (by simp; omega) hb hco hr hu
      simpa [hb, nullLoop, hget, Nat.add_assoc] using this

/-- The two nulling loops `for i := 1; i < skip+1; i += 1 { … }` executed from the
    extracted text — `break` at the end of the row, in the second loop the `dirty` extension by the glyph each
    cleared cell used to hold, `last[col+i] = Cell{}` — compute `Lemmas/RenderLoop.nullLoop` (the row and
    `dirty`), for every row, column, `skip` and `dirty`. -/
theorem nullLoop_body_eq_model (cw : String → Nat) (caps : Caps) (L : List Cell) (col skip d : Nat) :
    let e1 := runF cw caps (skip + 7) nullBlock1 { col := col, len := L.length, skipv := skip, lastRow := L, dirty := d }
    let e2 := runF cw caps (skip + 7) nullBlock2 { col := col, len := L.length, skipv := skip, lastRow := L, dirty := d }
    (e1.lastRow, e1.dirty) = nullLoop cw false skip (col + 1) L d ∧ e1.unknown = false ∧
    (e2.lastRow, e2.dirty) = nullLoop cw true skip (col + 1) L d ∧ e2.unknown = false := by
  obtain ⟨p1, p2⟩ := null_progs
  dsimp only
  obtain ⟨a1, a2⟩ := nullLoop_run cw caps false skip
    { col := col, len := L.length, skipv := skip, lastRow := L, dirty := d, i := 1 } rfl (by simp; omega) rfl rfl rfl rfl
  obtain ⟨b1, b2⟩ := nullLoop_run cw caps true skip
    { col := col, len := L.length, skipv := skip, lastRow := L, dirty := d, i := 1 } rfl (by simp; omega) rfl rfl rfl rfl
  simp only [nullBody, if_true, Bool.false_eq_true, if_false] at a1 a2 b1 b2
  have hx1 : ∀ (e : Env), exec cw caps (skip + 6) [] e = e := fun e => by
    rw [show skip + 6 = (skip + 5) + 1 from rfl]; simp [exec]
  simp only [runF, p1, p2, nullBody, if_true, Bool.false_eq_true, if_false]
  rw [show skip + 7 = (skip + 6) + 1 from rfl]
  simp [exec, List.takeWhile, List.dropWhile, hx1, a1, a2, b1, b2]

open VaxisModel.Model.Color

def fgBlock : List Line := blockAt G 2 "if" "cursor.Foreground!=next.Foreground"
def bgBlock : List Line := blockAt G 2 "if" "cursor.Background!=next.Background"
def ulBlock : List Line := blockAt G 2 "if" "vx.caps.styledUnderlines"
def ulStyleBlock : List Line := blockAt G 2 "if" "cursor.UnderlineStyle!=next.UnderlineStyle"

theorem colour_progs :
    prog fgBlock = [(2, .if_, .fgDelta), (3, .stmt, .colAssign), (3, .stmt, .psParams), (3, .if_, .notRgb), (4, .stmt, .psAsIndex),
      (3, .switch_, .lenPs), (4, .case_, .ret0), (5, .stmt, .wrFgReset), (4, .case_, .lit1), (5, .switch_, .none_), (6, .case_, .ps0lt8),
      (7, .stmt, .wrFgSet), (6, .case_, .ps0lt16), (7, .stmt, .wrFgBright), (6, .default_, .none_), (7, .stmt, .wrFgIndex),
      (4, .case_, .lit3), (5, .stmt, .wrFgRGB)] ∧
    prog bgBlock = [(2, .if_, .bgDelta), (3, .stmt, .colAssign), (3, .stmt, .psParams), (3, .if_, .notRgb), (4, .stmt, .psAsIndex),
      (3, .switch_, .lenPs), (4, .case_, .ret0), (5, .stmt, .wrBgReset), (4, .case_, .lit1), (5, .switch_, .none_), (6, .case_, .ps0lt8),
      (7, .stmt, .wrBgSet), (6, .case_, .ps0lt16), (7, .stmt, .wrBgBright), (6, .default_, .none_), (7, .stmt, .wrBgIndex),
      (4, .case_, .lit3), (5, .stmt, .wrBgRGB)] ∧
    prog ulBlock = [(2, .if_, .ulDelta), (3, .if_, .ulChanged), (4, .stmt, .colAssign), (4, .stmt, .psParams), (4, .if_, .notRgb),
      (5, .stmt, .psAsIndex), (4, .switch_, .lenPs), (5, .case_, .ret0), (6, .stmt, .wrUlReset), (5, .case_, .lit1), (6, .stmt, .wrUlIndex),
      (5, .case_, .lit3), (6, .stmt, .wrUlRGB)] ∧
    prog ulStyleBlock = [(2, .if_, .ulStyleDelta), (3, .stmt, .ulStyleAssign), (3, .switch_, .ulDelta), (4, .case_, .litTrue),
      (5, .stmt, .wrUlStyleSet), (4, .case_, .litFalse), (5, .switch_, .ulStyleVar), (6, .case_, .litUnderlineOff),
      (7, .stmt, .wrUnderlineReset), (6, .default_, .none_), (7, .stmt, .wrUnderlineSet)] := by
  decide +kernel

/-- `effParams` as the source writes it: `ps := c.Params(); if !vx.caps.rgb { ps = c.asIndex().Params() }`. -/
theorem effParams_notRgb (caps : Caps) (c : Nat) :
    effParams caps c = if caps.rgb = false then params (asIndex c) else params c := by
  unfold effParams; cases caps.rgb <;> rfl

/-- `colorToksP` as the source writes it: `switch len(ps)`, the parameters read by index. -/
theorem colorToksP_switch (which : Nat) (ps : List Nat) :
    colorToksP which ps =
      if ps = [] then [.sgr [[which + 9]]]
      else if ps.length = 1 then
        (if ps[0]?.getD 0 < 8 then [.sgr [[which + ps[0]?.getD 0]]]
         else if ps[0]?.getD 0 < 16 then [.sgr [[which + 60 + (ps[0]?.getD 0 - 8)]]]
         else [.sgr [[which + 8, 5, ps[0]?.getD 0]]])
      else if ps.length = 3 then [.sgr [[which + 8, 2, ps[0]?.getD 0, ps[1]?.getD 0, ps[2]?.getD 0]]]
      else [] := by
  rcases ps with _ | ⟨a, _ | ⟨b, _ | ⟨c, _ | ⟨d, r⟩⟩⟩⟩ <;> simp [colorToksP]

theorem ulColorToksP_switch (ps : List Nat) :
    ulColorToksP ps =
      if ps = [] then [.sgr [[59]]]
      else if ps.length = 1 then [.sgr [[58, 5, ps[0]?.getD 0]]]
      else if ps.length = 3 then [.sgr [[58, 2, ps[0]?.getD 0, ps[1]?.getD 0, ps[2]?.getD 0]]]
      else [] := by
  rcases ps with _ | ⟨a, _ | ⟨b, _ | ⟨c, _ | ⟨d, r⟩⟩⟩⟩ <;> simp [ulColorToksP]

/-- The colour and underline
    blocks executed line by line from the extracted text — `ps := c.Params()` (through `asIndex` without RGB), the
    `switch len(ps)` with its inner `switch` on `ps[0]`, the writes by sequence name — write exactly what the
    statement the written-cell path runs in their place (`prune`) writes: the macro atoms are the interpretation of
    their blocks.  (The attribute block: `Props.C01Facts.attrToks_from_source`.) -/
theorem fg_body_eq_model (cw : String → Nat) (caps : Caps) (pen : Style) (n : Cell) (o : List Tok) :
    (run cw caps fgBlock { cursor := pen, next := n, out := o, colSel := 0 }).out = o ++ (if pen.fg ≠ n.style.fg then colorToks caps 30 n.style.fg else []) ∧
    (run cw caps fgBlock { cursor := pen, next := n, out := o, colSel := 0 }).unknown = false := by
  rw [run_eq cw caps colour_progs.1]
  simp [interp, colorToks, effParams_notRgb, colorToksP_switch]

theorem bg_body_eq_model (cw : String → Nat) (caps : Caps) (pen : Style) (n : Cell) (o : List Tok) :
    (run cw caps bgBlock { cursor := pen, next := n, out := o, colSel := 1 }).out = o ++ (if pen.bg ≠ n.style.bg then colorToks caps 40 n.style.bg else []) ∧
    (run cw caps bgBlock { cursor := pen, next := n, out := o, colSel := 1 }).unknown = false := by
  rw [run_eq cw caps colour_progs.2.1]
  simp [interp, colorToks, effParams_notRgb, colorToksP_switch]

theorem ul_body_eq_model (cw : String → Nat) (caps : Caps) (pen : Style) (n : Cell) (o : List Tok) :
    (run cw caps ulBlock { cursor := pen, next := n, out := o, colSel := 2 }).out = o ++ (if caps.styledUnderlines ∧ pen.ul ≠ n.style.ul then ulColorToks caps n.style.ul else []) ∧
    (run cw caps ulBlock { cursor := pen, next := n, out := o, colSel := 2 }).unknown = false := by
  rw [run_eq cw caps colour_progs.2.2.1]
  simp [interp, ulColorToks, effParams_notRgb, ulColorToksP_switch]

theorem ulStyle_body_eq_model (cw : String → Nat) (caps : Caps) (pen : Style) (n : Cell) (o : List Tok) :
    (run cw caps ulStyleBlock { cursor := pen, next := n, out := o }).out =
      o ++ (if pen.ulStyle ≠ n.style.ulStyle then
              (if caps.styledUnderlines then [Tok.sgr [[4, n.style.ulStyle]]]
               else if n.style.ulStyle = 0 then [Tok.sgr [[24]]] else [Tok.sgr [[4]]])
            else []) ∧
    (run cw caps ulStyleBlock { cursor := pen, next := n, out := o }).unknown = false := by
  rw [run_eq cw caps colour_progs.2.2.2]
  cases hsu : caps.styledUnderlines <;> simp [interp, hsu]

/-- The statements `prune` puts in place of the four blocks are these blocks, executed. -/
theorem macro_atoms_are_blocks (cw : String → Nat) (caps : Caps) (pen : Style) (n : Cell) (o : List Tok) :
    (evalS cw caps .fgDelta { cursor := pen, next := n, out := o }).out = (run cw caps fgBlock { cursor := pen, next := n, out := o, colSel := 0 }).out ∧
    (evalS cw caps .bgDelta { cursor := pen, next := n, out := o }).out = (run cw caps bgBlock { cursor := pen, next := n, out := o, colSel := 1 }).out ∧
    (evalS cw caps .ulDelta { cursor := pen, next := n, out := o }).out = (run cw caps ulBlock { cursor := pen, next := n, out := o, colSel := 2 }).out ∧
    (evalS cw caps .ulStyleDelta { cursor := pen, next := n, out := o }).out = (run cw caps ulStyleBlock { cursor := pen, next := n, out := o }).out := by
  rw [(fg_body_eq_model cw caps pen n o).1, (bg_body_eq_model cw caps pen n o).1, (ul_body_eq_model cw caps pen n o).1,
    (ulStyle_body_eq_model cw caps pen n o).1]
  simp [evalS]

/-- The body of `for col := 0; col < len(row); col += 1 { … }`. -/
def loopBody : List Line := (blockAt G 1 "for" "col:=0;col<len(vx.screenNext.buf[row]);col+=1").drop 1

/-- The top-level statements of the cell loop's body, as the interpreter reads them on
    this run, are — in this order — the blocks `iterI` glues: load `next`; image cell?; clip; unchanged?;
    `dirty` extension; copy into `last`; reposition; the five colour / attribute / underline blocks; hyperlink;
    `cursor = next.Style`; width resolution; the write `switch`; `skip := advance(next)`; nulling loop;
    `col += skip`.  And the row loop is `for row := range … { reposition = true; dirty := 0; for col … }`
    (`rowsI`; `row_loop_order` below).  (The order is what `iterI` / `rowsI` hand-code; this theorem ties it to the source.) -/
theorem cell_loop_order :
    ((prune (prog loopBody)).filter (fun l => l.1 == 2)).map (fun l => (l.2.1, l.2.2)) =
      [(Kind.stmt, Atom.loadNext), (Kind.if_, Atom.nextSixel), (Kind.if_, Atom.nextTooWide), (Kind.if_, Atom.unchanged),
       (Kind.if_, Atom.endLastDirty), (Kind.stmt, Atom.lastNext), (Kind.if_, Atom.reposition), (Kind.stmt, Atom.fgDelta),
       (Kind.stmt, Atom.bgDelta), (Kind.stmt, Atom.ulDelta), (Kind.stmt, Atom.attrDelta), (Kind.stmt, Atom.ulStyleDelta),
       (Kind.if_, Atom.linkChanged), (Kind.stmt, Atom.cursorNextStyle), (Kind.if_, Atom.nextWidth0), (Kind.switch_, Atom.none_),
       (Kind.stmt, Atom.skipAdvance), (Kind.stmt, Atom.nullLoop), (Kind.stmt, Atom.colSkip)] := by
  decide +kernel

theorem row_loop_order :
    (prog (blockAt G 0 "range" "row:=range vx.screenNext.buf")).filter (fun l => l.1 ≤ 1) =
      [(0, Kind.for_, Atom.rowRange), (1, Kind.stmt, Atom.repTrue), (1, Kind.stmt, Atom.dirtyZero), (1, Kind.for_, Atom.colLoop)] := by
  decide +kernel

/-- After the write `switch`: `skip := vx.advance(next)`, the second nulling loop, `col += skip`. -/
def tailBlock : List Line :=
  (G.dropWhile (fun l => !(l.1 == 2 && l.2.1 == "assign" && l.2.2 == "skip:=vx.advance(next)"))).takeWhile (fun l => decide (2 ≤ l.1))

theorem tail_prog : prune (prog tailBlock) = [(2, .stmt, .skipAdvance), (2, .stmt, .nullLoop), (2, .stmt, .colSkip)] := by
  decide +kernel

/-- Every block the theorems above run is cut out of the loop body: concatenated they ARE the body (after `next := …`). -/
theorem blocks_are_the_loop_body :
    sixelBlock ++ clipBlock ++ unchangedBlock ++ writtenPath ++ tailBlock = loopBody.drop 1 := by
  decide +kernel

theorem tail_body_eq_model (cw : String → Nat) (caps : Caps) (m : Cell) (col : Nat) :
    let e := runP cw caps tailBlock { next := m, col := col }
    e.unknown = false ∧ e.skipv = advance cw m ∧ e.nulled = advance cw m ∧ e.col = col + advance cw m := by
  dsimp only
  obtain ⟨f, hf⟩ := VaxisModel.Lemmas.RenderInterpRun.runP_fuel cw caps tail_prog { next := m, col := col }
  rw [hf]
  simp [interp]

open VaxisModel.Lemmas.RenderLoop in
/-- One iteration of `for col := 0; col < len(row); col += 1 { … }`: the blocks of the loop body run from the
    extracted text, glued in source order — image cell?  `continue`; clip; unchanged?  nulling loop,
    `col += skip`, `continue`; else the written-cell path, `skip := advance(next)`, nulling loop with `dirty`
    extension, `col += skip` — then the loop's `col += 1`.  Result: next column, `dirty`, loop state, `last` row. -/
def iterI (cw : String → Nat) (caps : Caps) (refresh : Bool) (row : Nat) (ns : List Cell)
    (col dirty : Nat) (st : RSt) (L : List Cell) : Option (Nat × Nat × RSt × List Cell) :=
  match ns[col]?, L[col]? with
  | some n0, some l =>
    let es := run cw caps sixelBlock { next := n0, last := l, col := col, dirty := dirty, reposition := st.reposition, out := st.out }
    if es.cont then some (col + 1, es.dirty, { st with reposition := es.reposition }, L.set col (es.lastSet.getD l))
    else
      let m := (run cw caps clipBlock { next := n0, col := col, len := col + (ns.length - col) }).next
      let eu := runP cw caps unchangedBlock
        ({ next := m, last := l, col := col, dirty := dirty, refresh := refresh, reposition := st.reposition, out := st.out } : Env)
      if eu.cont then
        let r := nullLoop cw false eu.nulled (col + 1) L eu.dirty
        some (eu.col + 1, r.2, { st with reposition := eu.reposition }, r.1)
      else
        let ew := runP cw caps writtenPath (writtenEnv st m l row col dirty)
        let et := runP cw caps tailBlock { next := m, col := col }
        let r := nullLoop cw true et.nulled (col + 1) (L.set col (ew.lastSet.getD m)) ew.dirty
        some (et.col + 1, r.2, { reposition := ew.reposition, pen := ew.cursor, out := ew.out }, r.1)
  | _, _ => none

/-- The row loop over the interpreted iteration (fuel: one unit per iteration). -/
def rowLoopI (cw : String → Nat) (caps : Caps) (refresh : Bool) (row : Nat) (ns : List Cell) :
    Nat → Nat → Nat → RSt → List Cell → List Cell × RSt
  | 0, _, _, st, L => (L, st)
  | f + 1, col, dirty, st, L =>
    match iterI cw caps refresh row ns col dirty st L with
    | some (col', dirty', st', L') => rowLoopI cw caps refresh row ns f col' dirty' st' L'
    | none => (L, st)

open VaxisModel.Lemmas.RenderLoop in
theorem rowLoopI_eq_goRow (cw : String → Nat) (caps : Caps) (refresh : Bool) (row : Nat) (ns : List Cell) :
    ∀ (f col dirty : Nat) (st : RSt) (L : List Cell),
      rowLoopI cw caps refresh row ns f col dirty st L = goRow cw caps refresh row ns f col dirty st L := by
  intro f
  induction f with
  | zero => intro col dirty st L; rfl
  | succ f ih =>
    intro col dirty st L
    simp only [rowLoopI, goRow, iterI]
    cases hn : ns[col]? with
    | none => rfl
    | some n0 =>
      cases hl : L[col]? with
      | none => rfl
      | some l =>
        simp only
        obtain ⟨_, _, hs1, hs2⟩ := sixel_body_eq_model cw caps n0 l col dirty st.reposition st.out
        by_cases hsx : n0.sixel = true
        · obtain ⟨c1, c2, c3, c4⟩ := hs1 hsx
          simp only [c1, c2, c3, c4, if_true, hsx, Option.getD_some, ih]
        · have hsx' : n0.sixel = false := by simpa using hsx
          obtain ⟨c1, _, _, _⟩ := hs2 hsx'
          simp only [c1, Bool.false_eq_true, if_false, hsx']
          have hm := (clip_body_eq_model cw caps n0 col (ns.length - col)).1
          rw [hm]
          generalize clipCell cw (ns.length - col) n0 = m
          obtain ⟨_, _, hud, hu1, hu2⟩ := unchanged_body_eq_model cw caps m l col dirty refresh st.reposition st.out
          by_cases hc : m = l ∧ ¬ refresh ∧ col ≥ dirty
          · obtain ⟨d1, d2, _, d4, d5⟩ := hu1 hc
            simp only [d1, d2, d4, d5, hud, if_true, if_pos hc, ih]
          · obtain ⟨d1, _, _⟩ := hu2 hc
            obtain ⟨_, w2, w3, w4⟩ := written_cell_body_eq_model cw caps st m l row col dirty
            obtain ⟨_, _, t3, t4⟩ := tail_body_eq_model cw caps m col
            have w4' := RSt.mk.inj w4
            simp only [d1, Bool.false_eq_true, if_false, if_neg hc, w2, w3, t3, t4, Option.getD_some, w4'.1, w4'.2.1, w4'.2.2, ih]

open VaxisModel.Lemmas.RenderLoop in
/-- The cell loop of `render()` for one row — every statement of the loop body
    executed from the text extracted on this run (`iterI`), iterated with the loop's own `col += 1` — computes
    the `last` row and the loop state (tokens, tracked pen, `reposition`) of the model's `renderCellsS`, for all
    rows, previous rows, loop states, width oracles and capability sets.  (Hand-written in `iterI` / `nullLoop`:
    the order in which the blocks follow each other, and what the two nulling loops do; both are tied to the source by
    `facts_render`.) -/
theorem render_row_body_eq_model (cw : String → Nat) (caps : Caps) (refresh : Bool) (row : Nat) (ns ls : List Cell) (st : RSt)
    (hl : ns.length = ls.length) :
    rowLoopI cw caps refresh row ns (ns.length + 1) 0 0 st ls = renderCellsS cw caps refresh row 0 0 false 0 ns ls st := by
  rw [rowLoopI_eq_goRow, goRow_eq cw caps refresh row ns ls st hl]

/-- `for row := range vx.screenNext.buf { reposition = true; dirty := 0; for col … }` over the interpreted cell loop. -/
def rowsI (cw : String → Nat) (caps : Caps) (refresh : Bool) : Nat → Grid → Grid → RSt → Grid × RSt
  | _, [], _, st => ([], st)
  | _, _ :: _, [], st => ([], st)
  | row, n :: ns, l :: ls, st =>
      let r := rowLoopI cw caps refresh row n (n.length + 1) 0 0 { st with reposition := true } l
      let rest := rowsI cw caps refresh (row + 1) ns ls r.2
      (r.1 :: rest.1, rest.2)

/-- Rows of the two buffers have pairwise the same length (what `resize` establishes). -/
def SameShape : Grid → Grid → Prop
  | n :: ns, l :: ls => n.length = l.length ∧ SameShape ns ls
  | _, _ => True

theorem rowsI_eq (cw : String → Nat) (caps : Caps) (refresh : Bool) :
    ∀ (ns ls : Grid) (row : Nat) (st : RSt), SameShape ns ls →
      rowsI cw caps refresh row ns ls st = renderRowsS cw caps refresh row ns ls st := by
  intro ns
  induction ns with
  | nil => intro ls row st _; simp [rowsI, renderRowsS]
  | cons n ns ih =>
    intro ls row st h
    cases ls with
    | nil => simp [rowsI, renderRowsS]
    | cons l ls =>
      simp only [rowsI, renderRowsS]
      rw [render_row_body_eq_model cw caps refresh row n l _ h.1, ih ls (row + 1) _ h.2]

/-- The body of `render()`: pointer-shape block, row loop, trailing close, cursor show — each piece run
    from the extracted text. -/
def renderBodyI (cw : String → Nat) (f : Frame) : Grid × List Tok :=
  let e0 := run cw f.caps shapeBlock { shapeNext := f.shapeNext, shapeLast := f.shapeLast, out := [] }
  let r := rowsI cw f.caps f.refresh 0 f.next f.last { out := e0.out }
  let e1 := run cw f.caps closeBlock { cursor := r.2.pen, out := r.2.out }
  let e2 := run cw f.caps showBlock { cn := f.cursorNext, cl := f.cursorLast, out := e1.out }
  (r.1, e2.out)

/-- `render()` — pointer shape, the row loop with the whole cell loop, the trailing
    hyperlink close and the cursor show, every statement executed from the text extracted on this run
    (block order and the two nulling loops as in `render_row_body_eq_model`) — computes the `last` buffer and the tokens of the
    model's `renderBodyS`, for all frames. -/
theorem render_body_eq_model (cw : String → Nat) (f : Frame) (h : SameShape f.next f.last) :
    renderBodyI cw f = renderBodyS cw f := by
  unfold renderBodyI renderBodyS
  obtain ⟨a1, _, _, _, _, _⟩ := render_frame_body_eq_model cw f {} []
  simp only [a1, List.nil_append, rowsI_eq cw f.caps f.refresh f.next f.last 0 _ h]
  generalize renderRowsS cw f.caps f.refresh 0 f.next f.last
    { out := if f.shapeLast ≠ f.shapeNext then [Tok.pointer f.shapeNext] else [] } = rr
  obtain ⟨last', st⟩ := rr
  obtain ⟨_, a2, _, _, _, _⟩ := render_frame_body_eq_model cw f st.pen st.out
  simp only [a2]
  obtain ⟨_, _, a3, _, _, _⟩ := render_frame_body_eq_model cw f st.pen
    (st.out ++ if st.pen.link ≠ "" then [Tok.osc8 "" ""] else [])
  simp only [a3]

/-- One `Render()` without a pending resize is the writer `flush` — by
    `flush_body_eq_model` below the interpretation of the guarded writes extracted from writer.go — over the
    interpreted body `renderBodyI`. -/
theorem render_frame_eq_interp (cw : String → Nat) (f : Frame) (h : SameShape f.next f.last) :
    renderFrameS cw f = ((renderBodyI cw f).1, flush f.caps f.cursorNext f.cursorLast (renderBodyI cw f).2) := by
  rw [render_body_eq_model cw f h]
  rfl

/-- The writer model is the interpretation
    of the guarded writes extracted from writer.go on this run. -/
theorem flush_body_eq_model (caps : Caps) (cn cl : CursorState) (body : List Tok) :
    flush caps cn cl body =
      VaxisModel.Lemmas.RenderFacts.flushOf VaxisModel.Gen.RenderFacts.wsPrologue VaxisModel.Gen.RenderFacts.flushCursorOnly
        VaxisModel.Gen.RenderFacts.flushEpilogue caps cn cl body :=
  VaxisModel.Props.C01Facts.flush_from_source caps cn cl body

end VaxisModel.Props.C01Body
