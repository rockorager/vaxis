/-
C01 — the cell-content clause for the renderer after the F02 repair (/repo 990e1a4): the
"glyphs fit their row" hypothesis of `C01Display.frame_displays_partial` is gone.

`renderFrameC` (`Model/RenderClip.lean`) is the transcription of the repaired `render()`; it equals
the old `renderFrame` on the clipped grid (`render_clip_is_render`), the clipped grid always fits,
and it means `Spec.Expected.expectedC` (the application's screen with a glyph that does not fit in
the rest of its row shown as a blank in its style; `= expected` when everything fits).
-/
import VaxisModel.Props.C01Display
import VaxisModel.Lemmas.RenderClip

namespace VaxisModel.Props.C01Clip
open VaxisModel.Model.Render VaxisModel.Spec VaxisModel.Spec.Display
open VaxisModel.Props.C01 VaxisModel.Props.C01Display VaxisModel.Lemmas.RenderDisplay VaxisModel.Lemmas.RenderClip

/-- The repaired renderer is the old renderer run on the clipped grid. -/
theorem render_clip_is_render (cw : String → Nat) (f : Frame) :
    renderFrameC cw f = renderFrame cw { f with next := clipGrid cw f.next } := renderFrameC_eq cw f

/-- Nothing changes for a screen whose glyphs all fit: the spec is `expected`. -/
theorem expectedC_fits (cw : String → Nat) (caps : Caps) (g : Grid) (h : Fits cw g) :
    Expected.expectedC cw caps g = Expected.expected cw caps g := expectedC_of_fits cw caps g h

/-- **After every frame the terminal shows exactly the application's screen** (a glyph that cannot
    be shown because it is wider than the rest of its row shows as a blank in its style), nothing
    terminal-specific was relied on, and the new `last` buffer again describes the terminal.
    No hypothesis about glyphs fitting. -/
theorem frame_displays (cw : String → Nat) (f : Frame) (t : Term)
    (hrest : Rest t) (hbad : t.bad = none)
    (hlen : t.grid.length = f.next.length) (hlast : f.last.length = f.next.length)
    (hgc : ∀ r ∈ t.grid, r.length = t.cols) (hnc : ∀ r ∈ f.next, r.length = t.cols)
    (hlc : ∀ r ∈ f.last, r.length = t.cols) (hrows : t.rows = f.next.length)
    (hcells : ∀ r ∈ f.next, ∀ c ∈ r, c.sixel = false ∧ 0 ≤ c.w ∧ WidthOk cw f.caps c)
    (hagree : f.refresh = false → Agree cw f.caps t f.last)
    (hsp : cw "20" = 1)
    (hwf : f.refresh = true → ∀ r ∈ t.grid, WFRow 0 r)
    (hcur : f.cursorNext.visible = true →
      (0 ≤ f.cursorNext.row ∧ f.cursorNext.row < t.rows) ∧ (0 ≤ f.cursorNext.col ∧ f.cursorNext.col < t.cols))
    (hlp : t.linkParams = "") :
    (run cw t (renderFrameC cw f).2).bad = none ∧
    (run cw t (renderFrameC cw f).2).grid = Expected.expectedC cw f.caps f.next ∧
    Agree cw f.caps (run cw t (renderFrameC cw f).2) (renderFrameC cw f).1 := by
  rw [renderFrameC_eq, expectedC_eq]
  have hd := clipGrid_dims cw f.next t.cols hnc
  have hc := clipGrid_cells cw f.caps hsp f.next hcells
  exact frame_displays_partial cw { f with next := clipGrid cw f.next } t hrest hbad
    (by rw [hlen]; exact hd.1.symm) (by rw [hlast]; exact hd.1.symm) hgc hd.2 hlc (by rw [hrows]; exact hd.1.symm)
    (clipGrid_fits cw f.next) (fun r hr c hc' => ⟨(hc r hr c hc').1, (hc r hr c hc').2.1⟩) hagree hsp
    (fun r hr c hc' => (hc r hr c hc').2.2) hwf hcur hlp

/-- Side conditions on the application's frame for a `rows × cols` screen — `FrameInOk` without
    the fit condition. -/
def FrameInOkC (cw : String → Nat) (caps : Caps) (rows cols : Nat) (fi : FrameIn) : Prop :=
  fi.next.length = rows ∧ (∀ r ∈ fi.next, r.length = cols) ∧
  (∀ r ∈ fi.next, ∀ c ∈ r, c.sixel = false ∧ 0 ≤ c.w ∧ WidthOk cw caps c) ∧
  (fi.cursor.visible = true →
    (0 ≤ fi.cursor.row ∧ fi.cursor.row < rows) ∧ (0 ≤ fi.cursor.col ∧ fi.cursor.col < cols))

def clipIn (cw : String → Nat) (fi : FrameIn) : FrameIn := { fi with next := clipGrid cw fi.next }

/-- One `Render()` of the repaired renderer. -/
def stepHC (cw : String → Nat) (caps : Caps) (s : HState) (fi : FrameIn) : HState :=
  { t := run cw s.t (renderFrameC cw (mkFrame caps s fi)).2, last := (renderFrameC cw (mkFrame caps s fi)).1,
    cursor := fi.cursor, shape := fi.shape }

theorem stepHC_eq (cw : String → Nat) (caps : Caps) (s : HState) (fi : FrameIn) :
    stepHC cw caps s fi = stepH cw caps s (clipIn cw fi) := by
  simp only [stepHC, stepH, renderFrameC_eq]; rfl

theorem renderFrameC_toks (cw : String → Nat) (caps : Caps) (s : HState) (fi : FrameIn) :
    (renderFrameC cw (mkFrame caps s fi)).2 = (renderFrame cw (mkFrame caps s (clipIn cw fi))).2 := by
  rw [renderFrameC_eq]; rfl

theorem clipIn_ok (cw : String → Nat) (caps : Caps) (hsp : cw "20" = 1) (rows cols : Nat) (fi : FrameIn)
    (h : FrameInOkC cw caps rows cols fi) : FrameInOk cw caps rows cols (clipIn cw fi) := by
  obtain ⟨h1, h2, h3, h4⟩ := h
  have hd := clipGrid_dims cw fi.next cols h2
  exact ⟨hd.1.trans h1, hd.2, clipGrid_fits cw fi.next, clipGrid_cells cw caps hsp fi.next h3, h4⟩

/-- **One frame re-establishes everything the next frame needs**, and the terminal shows the
    application's screen. -/
theorem frame_step_clip (cw : String → Nat) (caps : Caps) (hsp : cw "20" = 1) (rows cols : Nat) (s : HState)
    (fi : FrameIn) (hr : Ready s.t s.last rows cols) (hag : fi.refresh = false → Agree cw caps s.t s.last)
    (hok : FrameInOkC cw caps rows cols fi) :
    Ready (stepHC cw caps s fi).t (stepHC cw caps s fi).last rows cols ∧
    Agree cw caps (stepHC cw caps s fi).t (stepHC cw caps s fi).last ∧
    (stepHC cw caps s fi).t.grid = Expected.expectedC cw caps fi.next ∧ (stepHC cw caps s fi).t.bad = none := by
  rw [stepHC_eq, expectedC_eq]
  exact frame_step cw caps hsp rows cols s (clipIn cw fi) hr hag (clipIn_ok cw caps hsp rows cols fi hok)

/-- **C01, cell-content clause, over whole histories, repaired renderer**: from the blank terminal,
    after *every* frame of *any* sequence of frames (diff frames and refreshes in any order) the
    reference terminal shows exactly the application's screen and nothing terminal-specific was
    relied on — whether or not the glyphs fit their rows. -/
theorem history_displays_clip (cw : String → Nat) (caps : Caps) (hsp : cw "20" = 1) (rows cols : Nat)
    (fi0 : FrameIn) (fis : List FrameIn) (h0 : fi0.refresh = true)
    (hok : ∀ fi ∈ fi0 :: fis, FrameInOkC cw caps rows cols fi) (fi : FrameIn)
    (hlast : (fi0 :: fis).getLast? = some fi) :
    ((fi0 :: fis).foldl (stepHC cw caps) ⟨Term.init cols rows, blankGrid cols rows, {}, ""⟩).t.grid
      = Expected.expectedC cw caps fi.next ∧
    ((fi0 :: fis).foldl (stepHC cw caps) ⟨Term.init cols rows, blankGrid cols rows, {}, ""⟩).t.bad = none := by
  have hfold : ∀ (l : List FrameIn) (s : HState), l.foldl (stepHC cw caps) s = (l.map (clipIn cw)).foldl (stepH cw caps) s := by
    intro l
    induction l with
    | nil => intro s; rfl
    | cons a l ih => intro s; simp only [List.foldl_cons, List.map_cons, stepHC_eq, ih]
  rw [hfold, expectedC_eq]
  have := history_displays cw caps hsp rows cols (clipIn cw fi0) (fis.map (clipIn cw)) h0
    (by
      intro x hx
      simp only [← List.map_cons, List.mem_map] at hx
      obtain ⟨y, hy, rfl⟩ := hx
      exact clipIn_ok cw caps hsp rows cols y (hok y hy))
    (clipIn cw fi)
    (by rw [← List.map_cons, List.getLast?_map, hlast]; rfl)
  exact this

/-! Non-vacuity, and the F02 input itself: a wide glyph in the last column of a 1×2 screen. -/

def cwEx : String → Nat := fun g => if g = "e4b896" then 2 else 1
def f02Frame : Frame :=
  { caps := {}, refresh := true,
    next := [[({ g := "61" } : Cell), { g := "e4b896", style := { fg := 16777217 } }]],
    last := [[({} : Cell), {}]], cursorNext := {}, cursorLast := {} }

/-- The repaired renderer shows a blank in the glyph's style, deterministically … -/
example : (run cwEx (Term.init 2 1) (renderFrameC cwEx f02Frame).2).bad = none ∧
    (run cwEx (Term.init 2 1) (renderFrameC cwEx f02Frame).2).grid
      = [[.glyph "61" 1 {} "" "", .glyph "20" 1 { fg := .idx 1 } "" ""]] := by decide
/-- … and that is what `expectedC` says. -/
example : Expected.expectedC cwEx {} f02Frame.next = [[.glyph "61" 1 {} "" "", .glyph "20" 1 { fg := .idx 1 } "" ""]] := by
  decide

end VaxisModel.Props.C01Clip
