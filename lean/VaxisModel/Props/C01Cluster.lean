/-
C01 on a terminal that clusters graphemes (mode 2027, which Vaxis enables when it is available;
finding F112d, seen by C12 on the embedded emulator).

`render()` writes the graphemes of consecutive written cells back to back (no CUP while
`reposition` is false, no SGR when the style is the same).  A terminal that segments incoming
printable bytes into grapheme clusters sees ONE cluster where the application set two cells whose
graphemes join (regional indicator D | regional indicator E, Hangul L | V, emoji | ZWJ emoji …).
`Spec.Display.run` — the terminal of all other C01 theorems — takes one text token as one grapheme,
i.e. it silently assumes that no such pair occurs.  Here the assumption is explicit:

`Spec.Display.runC joins` is the clustering terminal (`joins a b` = "`a` directly followed by `b` is one cluster": a
parameter, uniseg is not modelled); on a token list without a joining adjacent pair of raw text writes (`adjOk`) it
behaves exactly like `run`, and a frame has no such pair when no two horizontally consecutive *shown* cells join.

Repair evaluated, not made: `render()` could force `reposition` before a cell whose grapheme joins
the previously written one.  (a) It needs `uniseg` on the concatenation of every pair of consecutive
written cells in the hot loop; (b) a CUP only separates the two for terminals that cluster in the
parser (the embedded emulator); terminals that cluster against the cell left of the cursor
(ghostty, kitty) join them all the same.  So the condition stays with the application: do not put
the halves of one cluster into neighbouring cells.  `Characters` segments a whole string, so
`Print`/`Println`/`PrintTruncate` never do; `Wrap` can: it segments each *line segment*, and with the
line-break state carried across Segments uniseg v0.4.4 returns the two regional indicators of a flag
that begins a Segment as separate line segments (finding F111c, found by the op-level stream).
-/
import VaxisModel.Props.C01Sixel
import VaxisModel.Lemmas.RenderCluster

namespace VaxisModel.Props.C01Cluster
open VaxisModel.Model.Render VaxisModel.Spec VaxisModel.Spec.Display
open VaxisModel.Props.C01 VaxisModel.Props.C01Display VaxisModel.Lemmas.RenderDisplay
open VaxisModel.Lemmas.RenderCluster

/-- In no row does a grapheme, as written, join a later one of the same row. -/
def NoJoinRows (joins : String → String → Bool) (cw : String → Nat) (caps : Caps) (g : Grid) : Prop :=
  ∀ r ∈ g, (texts (shownRow cw caps r)).Pairwise (fun a b => joins a b = false)

/-- The clustering terminal is the plain one when no raw text write directly follows one it joins. -/
theorem clustering_terminal_agrees (joins : String → String → Bool) (tw : String → Nat) (t : Term) (toks : List Tok)
    (h : adjOk joins none toks = true) : runC joins tw t toks = run tw t toks :=
  runC_eq_run joins tw t toks h

/-- What `render(); Flush()` writes contains no joining adjacent pair, for every frame (diff or
    refresh, image cells or not, any previous frame), given `NoJoinRows` of the screen. -/
theorem render_no_adjacent_join (joins : String → String → Bool) (cw : String → Nat) (f : Frame)
    (h : NoJoinRows joins cw f.caps f.next) : adjOk joins none (renderFrameS cw f).2 = true :=
  renderFrameS_adjOk_tight joins cw f fun r hr => tight_of_pairwise joins cw f.caps r (h r hr)

/-- **The display clause on a clustering terminal**, hypothesis explicit. -/
theorem frame_displays_clustering (joins : String → String → Bool) (cw : String → Nat) (f : Frame) (t : Term)
    (hjoin : NoJoinRows joins cw f.caps f.next)
    (hrest : Rest t) (hbad : t.bad = none)
    (hlen : t.grid.length = f.next.length) (hlast : f.last.length = f.next.length)
    (hgc : ∀ r ∈ t.grid, r.length = t.cols) (hnc : ∀ r ∈ f.next, r.length = t.cols)
    (hlc : ∀ r ∈ f.last, r.length = t.cols) (hrows : t.rows = f.next.length)
    (hcells : ∀ r ∈ f.next, ∀ c ∈ r, c.sixel = false ∧ 0 ≤ c.w ∧ WidthOk cw f.caps c)
    (hagree : f.refresh = false → Agree cw f.caps t f.last)
    (hsp : cw "20" = 1)
    (hwf : f.refresh = true → ∀ r ∈ t.grid, WFRow 0 r)
    (hcur : f.cursorNext.visible = true →
      (0 ≤ f.cursorNext.row ∧ f.cursorNext.row < t.rows) ∧ (0 ≤ f.cursorNext.col ∧ f.cursorNext.col < t.cols))
    (hlp : t.linkParams = "") :
    (runC joins cw t (renderFrameS cw f).2).bad = none ∧
    (runC joins cw t (renderFrameS cw f).2).grid = Expected.expectedC cw f.caps f.next ∧
    Agree cw f.caps (runC joins cw t (renderFrameS cw f).2) (renderFrameS cw f).1 := by
  rw [clustering_terminal_agrees joins cw t _ (render_no_adjacent_join joins cw f hjoin)]
  exact VaxisModel.Props.C01Sixel.frame_displays_current cw f t hrest hbad hlen hlast hgc hnc hlc hrows hcells hagree hsp hwf hcur hlp

/-- No two horizontally consecutive *shown* cells of a row join: `headToks` lists, per row, the glyph
    tokens of the cells the terminal shows (a cell covered by a wide glyph to its left is not one; an
    image cell is a separator), and `adjOk` says no raw text write in that list directly follows one
    it joins.  This is exactly the situation the finding is about. -/
def NoJoinNeighbours (joins : String → String → Bool) (cw : String → Nat) (caps : Caps) (g : Grid) : Prop :=
  ∀ r ∈ g, adjOk joins none (headToks cw caps 0 r) = true

/-- It is weaker than `NoJoinRows`. -/
theorem neighbours_of_rows (joins : String → String → Bool) (cw : String → Nat) (caps : Caps) (g : Grid)
    (h : NoJoinRows joins cw caps g) : NoJoinNeighbours joins cw caps g :=
  fun r hr => tight_of_pairwise joins cw caps r (h r hr)

/-- Every frame is free of joining adjacent text writes under the tight hypothesis: two raw text
    writes are adjacent on the wire only if they are the glyphs of consecutive shown cells of one row
    (a skipped cell in between forces a CUP; rows begin with a CUP). -/
theorem render_no_adjacent_join_tight (joins : String → String → Bool) (cw : String → Nat) (f : Frame)
    (h : NoJoinNeighbours joins cw f.caps f.next) : adjOk joins none (renderFrameS cw f).2 = true :=
  renderFrameS_adjOk_tight joins cw f h

/-- **The display clause on a clustering terminal, tight hypothesis.** -/
theorem frame_displays_clustering_tight (joins : String → String → Bool) (cw : String → Nat) (f : Frame) (t : Term)
    (hjoin : NoJoinNeighbours joins cw f.caps f.next)
    (hrest : Rest t) (hbad : t.bad = none)
    (hlen : t.grid.length = f.next.length) (hlast : f.last.length = f.next.length)
    (hgc : ∀ r ∈ t.grid, r.length = t.cols) (hnc : ∀ r ∈ f.next, r.length = t.cols)
    (hlc : ∀ r ∈ f.last, r.length = t.cols) (hrows : t.rows = f.next.length)
    (hcells : ∀ r ∈ f.next, ∀ c ∈ r, c.sixel = false ∧ 0 ≤ c.w ∧ WidthOk cw f.caps c)
    (hagree : f.refresh = false → Agree cw f.caps t f.last)
    (hsp : cw "20" = 1)
    (hwf : f.refresh = true → ∀ r ∈ t.grid, WFRow 0 r)
    (hcur : f.cursorNext.visible = true →
      (0 ≤ f.cursorNext.row ∧ f.cursorNext.row < t.rows) ∧ (0 ≤ f.cursorNext.col ∧ f.cursorNext.col < t.cols))
    (hlp : t.linkParams = "") :
    (runC joins cw t (renderFrameS cw f).2).bad = none ∧
    (runC joins cw t (renderFrameS cw f).2).grid = Expected.expectedC cw f.caps f.next ∧
    Agree cw f.caps (runC joins cw t (renderFrameS cw f).2) (renderFrameS cw f).1 := by
  rw [clustering_terminal_agrees joins cw t _ (render_no_adjacent_join_tight joins cw f hjoin)]
  exact VaxisModel.Props.C01Sixel.frame_displays_current cw f t hrest hbad hlen hlast hgc hnc hlc hrows hcells hagree hsp hwf hcur hlp

def cwEx : String → Nat := fun g => if g = "" then 0 else if g = "D" ∨ g = "E" then 2 else 1
def joinsEx : String → String → Bool := fun a b => a == "D" && b == "E"
/-- 4×1: D (width 2) at column 0, E (width 2) at column 2; first frame (refresh). -/
def frameDE : Frame :=
  { caps := {}, refresh := true, next := [[({ g := "D" } : Cell), {}, { g := "E" }, {}]],
    last := [[({} : Cell), {}, {}, {}]], cursorNext := {}, cursorLast := {} }
/-- The same two cells in the other order do not join. -/
def frameED : Frame := { frameDE with next := [[({ g := "E" } : Cell), {}, { g := "D" }, {}]] }

/-- The tight hypothesis separates what the row-pairwise one cannot: D, a, E (D and E not neighbours)
    is admitted by the tight form and not by the pairwise one; the clustering terminal shows it. -/
example :
    let row : List Cell := [{ g := "D" }, {}, { g := "61" }, { g := "E" }, {}]
    adjOk joinsEx none (headToks cwEx {} 0 row) = true ∧
    ¬ (texts (shownRow cwEx {} row)).Pairwise (fun a b => joinsEx a b = false) := by decide

/-- On the plain terminal the frame shows the screen; on the clustering terminal the E joins the D:
    nothing is drawn in column 2 and the result is terminal specific — the display clause fails.
    The frame violates `NoJoinRows`, and the tokens do contain the adjacent pair. -/
theorem no_join_needed :
    (run cwEx (Term.init 4 1) (renderFrameS cwEx frameDE).2).grid = Expected.expectedC cwEx {} frameDE.next ∧
    (run cwEx (Term.init 4 1) (renderFrameS cwEx frameDE).2).bad = none ∧
    (runC joinsEx cwEx (Term.init 4 1) (renderFrameS cwEx frameDE).2).grid ≠ Expected.expectedC cwEx {} frameDE.next ∧
    (runC joinsEx cwEx (Term.init 4 1) (renderFrameS cwEx frameDE).2).bad ≠ none ∧
    adjOk joinsEx none (renderFrameS cwEx frameDE).2 = false ∧
    adjOk joinsEx none (headToks cwEx {} 0 [({ g := "D" } : Cell), {}, { g := "E" }, {}]) = false ∧
    texts (shownRow cwEx {} [({ g := "D" } : Cell), {}, { g := "E" }, {}]) = ["D", "20", "E", "20"] := by
  decide

/-- Non-vacuity: E then D meets `NoJoinRows`, and the clustering terminal shows the screen. -/
example : NoJoinRows joinsEx cwEx {} frameED.next ∧
    (runC joinsEx cwEx (Term.init 4 1) (renderFrameS cwEx frameED).2).grid = Expected.expectedC cwEx {} frameED.next ∧
    (runC joinsEx cwEx (Term.init 4 1) (renderFrameS cwEx frameED).2).bad = none := by
  refine ⟨?_, by decide, by decide⟩
  intro r hr
  simp only [frameED, frameDE, List.mem_singleton] at hr
  subst hr
  decide

end VaxisModel.Props.C01Cluster
