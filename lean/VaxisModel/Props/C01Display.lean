/-
C01 — the cell-content clause: after every frame the reference terminal shows exactly the
application's screen.

`Props.C01.frame_displays_full` is FALSE of the model: it omits
five side conditions, each of which is individually necessary (concrete `decide`-checked
counterexamples in `Witness/C01Display.lean`).  `frame_displays_partial` below keeps the
conclusion of `frame_displays_full` verbatim and adds exactly these hypotheses:

  (hsp)  `cw "20" = 1` — the terminal gives a single space the width 1.  A zero-width grapheme is
         written as " " and `cw` is also the terminal's width function in the statement.
  (hw)   `WidthOk` for every cell of `next`: an explicit cell width agrees with the terminal's own
         width of the grapheme, unless it is > 1 and the explicit-width protocol (OSC 66) is on.
         Otherwise the terminal advances by its own width and the screen differs from `expected`
         (an application error / the F02 family, not a renderer defect).
  (hwf)  on a refresh the terminal's grid is *well formed* (`WFRow`: every continuation cell is
         owned by a glyph).  The full statement allowed any grid; a stray continuation cell makes
         the reference terminal poison a freshly written glyph.  Every grid the reference terminal
         can reach from `Term.init` through frames is well formed (`expected_wf`: the grid after a
         frame is `expected …`, which is well formed), so this is an invariant, not a restriction.
  (hcur) a visible cursor is requested inside the screen (as in `cursor_as_requested`); otherwise
         the CUP of `showCursor()` addresses a position outside the screen.
  (hlp)  `t.linkParams = ""` — `Rest t` only says that no hyperlink is open; the reference
         terminal stores the parameters separately.  Re-established by every frame
         (`frame_linkParams`).

Everything else is as in the full statement: any grid pair, any styles, any capability set, any
width oracle, refresh or not; no bound on sizes.  The added side conditions and the dimension premises are
re-established by every frame (`frame_step`), hence the statement over whole histories (`history_displays`).
-/
import VaxisModel.Props.C01
import VaxisModel.Lemmas.RenderDisplay
import VaxisModel.Lemmas.RenderImagesFrame

namespace VaxisModel.Props.C01Display
open VaxisModel.Model.Render VaxisModel.Spec VaxisModel.Spec.Display
open VaxisModel.Props.C01 VaxisModel.Lemmas.RenderDisplay

/-- **After every frame the terminal shows exactly the application's screen**, nothing
    terminal-specific was relied on, and the new `last` buffer again describes the terminal. -/
theorem frame_displays_partial (cw : String → Nat) (f : Frame) (t : Term)
    (hrest : Rest t) (hbad : t.bad = none)
    (hlen : t.grid.length = f.next.length) (hlast : f.last.length = f.next.length)
    (hgc : ∀ r ∈ t.grid, r.length = t.cols) (hnc : ∀ r ∈ f.next, r.length = t.cols)
    (hlc : ∀ r ∈ f.last, r.length = t.cols) (hrows : t.rows = f.next.length)
    (hfits : Fits cw f.next) (hcells : ∀ r ∈ f.next, ∀ c ∈ r, c.sixel = false ∧ 0 ≤ c.w)
    (hagree : f.refresh = false → Agree cw f.caps t f.last)
    -- added hypotheses
    (hsp : cw "20" = 1)
    (hw : ∀ r ∈ f.next, ∀ c ∈ r, WidthOk cw f.caps c)
    (hwf : f.refresh = true → ∀ r ∈ t.grid, WFRow 0 r)
    (hcur : f.cursorNext.visible = true →
      (0 ≤ f.cursorNext.row ∧ f.cursorNext.row < t.rows) ∧ (0 ≤ f.cursorNext.col ∧ f.cursorNext.col < t.cols))
    (hlp : t.linkParams = "") :
    (run cw t (renderFrame cw f).2).bad = none ∧
    (run cw t (renderFrame cw f).2).grid = Expected.expected cw f.caps f.next ∧
    Agree cw f.caps (run cw t (renderFrame cw f).2) (renderFrame cw f).1 := by
  obtain ⟨pre, X, Y, hpre, h1, h2, hX, hY⟩ := frame_shape cw f t.rows t.cols hcur
  obtain ⟨c1, c2, c3⟩ := VaxisModel.Lemmas.RenderImages.frame_core cw hsp f t X Y pre hX hY hpre hrest.1 hrest.2.1 hlp hbad hlen hlast hgc hnc hlc
    hrows hfits (fun r hr c hc => ⟨(hcells r hr c hc).1, (hcells r hr c hc).2, hw r hr c hc⟩) hagree hwf
  rw [h2]
  refine ⟨c1, c2, ?_⟩
  unfold Agree
  rw [c2, h1, c3]

theorem run_renderFrame_lp (cw : String → Nat) (f : Frame) (t : Term) (hlp : t.linkParams = "") :
    (run cw t (renderFrame cw f).2).linkParams = "" := by
  rw [(VaxisModel.Lemmas.RenderToks.run_fields cw _ t).linkParams, hlp]
  exact VaxisModel.Lemmas.RenderToks.renderFrame_lp cw f

/-- Every frame leaves no hyperlink parameters behind (side condition `hlp` of
    `frame_displays_partial` is an invariant). -/
theorem frame_linkParams (cw : String → Nat) (f : Frame) (t : Term)
    (hrest : Rest t) (hbad : t.bad = none)
    (hlen : t.grid.length = f.next.length) (hlast : f.last.length = f.next.length)
    (hgc : ∀ r ∈ t.grid, r.length = t.cols) (hnc : ∀ r ∈ f.next, r.length = t.cols)
    (hlc : ∀ r ∈ f.last, r.length = t.cols) (hrows : t.rows = f.next.length)
    (hfits : Fits cw f.next) (hcells : ∀ r ∈ f.next, ∀ c ∈ r, c.sixel = false ∧ 0 ≤ c.w)
    (hagree : f.refresh = false → Agree cw f.caps t f.last)
    (hsp : cw "20" = 1)
    (hw : ∀ r ∈ f.next, ∀ c ∈ r, WidthOk cw f.caps c)
    (hwf : f.refresh = true → ∀ r ∈ t.grid, WFRow 0 r)
    (hcur : f.cursorNext.visible = true →
      (0 ≤ f.cursorNext.row ∧ f.cursorNext.row < t.rows) ∧ (0 ≤ f.cursorNext.col ∧ f.cursorNext.col < t.cols))
    (hlp : t.linkParams = "") :
    (run cw t (renderFrame cw f).2).linkParams = "" :=
  run_renderFrame_lp cw f t hlp

/-- What the application's screen means is a well-formed terminal grid: together with
    `frame_displays_partial` (grid after a frame = `expected …`) side condition `hwf` is an
    invariant of the terminal from frame to frame. -/
theorem expected_wf (cw : String → Nat) (caps : Caps) (g : Grid) :
    ∀ r ∈ Expected.expected cw caps g, WFRow 0 r := by
  intro r hr
  obtain ⟨l, _, rfl⟩ := List.mem_map.mp hr
  exact expectedRow_wf cw caps l

theorem init_wf (cols rows : Nat) : ∀ r ∈ (Term.init cols rows).grid, WFRow 0 r := by
  intro r hr
  simp only [Term.init, List.mem_replicate] at hr
  obtain ⟨_, rfl⟩ := hr
  induction cols with
  | zero => simp [WFRow]
  | succ n ih => simp only [List.replicate_succ, DCell.blank, WFRow]; exact ⟨Nat.le_refl _, ih⟩

theorem frame_dims (cw : String → Nat) (f : Frame) (t : Term)
    (hrest : Rest t) (hbad : t.bad = none)
    (hlen : t.grid.length = f.next.length) (hlast : f.last.length = f.next.length)
    (hgc : ∀ r ∈ t.grid, r.length = t.cols) (hnc : ∀ r ∈ f.next, r.length = t.cols)
    (hlc : ∀ r ∈ f.last, r.length = t.cols) (hrows : t.rows = f.next.length)
    (hfits : Fits cw f.next) (hcells : ∀ r ∈ f.next, ∀ c ∈ r, c.sixel = false ∧ 0 ≤ c.w)
    (hagree : f.refresh = false → Agree cw f.caps t f.last)
    (hsp : cw "20" = 1)
    (hw : ∀ r ∈ f.next, ∀ c ∈ r, WidthOk cw f.caps c)
    (hwf : f.refresh = true → ∀ r ∈ t.grid, WFRow 0 r)
    (hcur : f.cursorNext.visible = true →
      (0 ≤ f.cursorNext.row ∧ f.cursorNext.row < t.rows) ∧ (0 ≤ f.cursorNext.col ∧ f.cursorNext.col < t.cols))
    (hlp : t.linkParams = "") :
    (run cw t (renderFrame cw f).2).rows = t.rows ∧ (run cw t (renderFrame cw f).2).cols = t.cols :=
  ⟨(VaxisModel.Lemmas.RenderToks.run_fields cw _ t).rows, (VaxisModel.Lemmas.RenderToks.run_fields cw _ t).cols⟩

/-- What the application asks for in one frame. -/
structure FrameIn where
  refresh : Bool
  next : Grid
  cursor : CursorState
  shape : String

/-- Terminal plus the renderer's memory between frames. -/
structure HState where
  t : Term
  last : Grid
  cursor : CursorState
  shape : String

def mkFrame (caps : Caps) (s : HState) (fi : FrameIn) : Frame :=
  { caps := caps, refresh := fi.refresh, next := fi.next, last := s.last, cursorNext := fi.cursor,
    cursorLast := s.cursor, shapeNext := fi.shape, shapeLast := s.shape }

/-- One `Render()`: the tokens reach the terminal, `last`/cursor/shape are remembered. -/
def stepH (cw : String → Nat) (caps : Caps) (s : HState) (fi : FrameIn) : HState :=
  { t := run cw s.t (renderFrame cw (mkFrame caps s fi)).2, last := (renderFrame cw (mkFrame caps s fi)).1,
    cursor := fi.cursor, shape := fi.shape }

/-- Side conditions on the application's frame for a `rows × cols` screen. -/
def FrameInOk (cw : String → Nat) (caps : Caps) (rows cols : Nat) (fi : FrameIn) : Prop :=
  fi.next.length = rows ∧ (∀ r ∈ fi.next, r.length = cols) ∧ Fits cw fi.next ∧
  (∀ r ∈ fi.next, ∀ c ∈ r, c.sixel = false ∧ 0 ≤ c.w ∧ WidthOk cw caps c) ∧
  (fi.cursor.visible = true →
    (0 ≤ fi.cursor.row ∧ fi.cursor.row < rows) ∧ (0 ≤ fi.cursor.col ∧ fi.cursor.col < cols))

/-- The terminal is ready for a frame: at rest, nothing terminal-specific relied on so far, a
    well-formed `rows × cols` grid, and a `last` buffer of the same shape. -/
structure Ready (t : Term) (last : Grid) (rows cols : Nat) : Prop where
  rest : Rest t
  bad : t.bad = none
  lp : t.linkParams = ""
  trows : t.rows = rows
  tcols : t.cols = cols
  glen : t.grid.length = rows
  llen : last.length = rows
  gcols : ∀ r ∈ t.grid, r.length = cols
  lcols : ∀ r ∈ last, r.length = cols
  wf : ∀ r ∈ t.grid, WFRow 0 r

/-- **One frame re-establishes everything the next frame needs**, and the terminal shows the
    application's screen. -/
theorem frame_step (cw : String → Nat) (caps : Caps) (hsp : cw "20" = 1) (rows cols : Nat) (s : HState)
    (fi : FrameIn) (hr : Ready s.t s.last rows cols) (hag : fi.refresh = false → Agree cw caps s.t s.last)
    (hok : FrameInOk cw caps rows cols fi) :
    Ready (stepH cw caps s fi).t (stepH cw caps s fi).last rows cols ∧
    Agree cw caps (stepH cw caps s fi).t (stepH cw caps s fi).last ∧
    (stepH cw caps s fi).t.grid = Expected.expected cw caps fi.next ∧ (stepH cw caps s fi).t.bad = none := by
  obtain ⟨o1, o2, o3, o4, o5⟩ := hok
  have hnc : ∀ r ∈ (mkFrame caps s fi).next, r.length = s.t.cols := by rw [hr.tcols]; exact o2
  have hlc : ∀ r ∈ (mkFrame caps s fi).last, r.length = s.t.cols := by rw [hr.tcols]; exact hr.lcols
  have hgc : ∀ r ∈ s.t.grid, r.length = s.t.cols := by rw [hr.tcols]; exact hr.gcols
  have hcells : ∀ r ∈ (mkFrame caps s fi).next, ∀ c ∈ r, c.sixel = false ∧ 0 ≤ c.w :=
    fun r h c hc => ⟨(o4 r h c hc).1, (o4 r h c hc).2.1⟩
  have hw : ∀ r ∈ (mkFrame caps s fi).next, ∀ c ∈ r, WidthOk cw (mkFrame caps s fi).caps c :=
    fun r h c hc => (o4 r h c hc).2.2
  have hcur : (mkFrame caps s fi).cursorNext.visible = true →
      (0 ≤ (mkFrame caps s fi).cursorNext.row ∧ (mkFrame caps s fi).cursorNext.row < s.t.rows) ∧
      (0 ≤ (mkFrame caps s fi).cursorNext.col ∧ (mkFrame caps s fi).cursorNext.col < s.t.cols) := by
    rw [hr.trows, hr.tcols]; exact o5
  have hlen : s.t.grid.length = (mkFrame caps s fi).next.length := by rw [hr.glen]; exact o1.symm
  have hlast : (mkFrame caps s fi).last.length = (mkFrame caps s fi).next.length := by
    show s.last.length = fi.next.length
    rw [hr.llen, o1]
  have hrows : s.t.rows = (mkFrame caps s fi).next.length := by rw [hr.trows]; exact o1.symm
  obtain ⟨d1, d2, d3⟩ := frame_displays_partial cw (mkFrame caps s fi) s.t hr.rest hr.bad hlen hlast hgc hnc hlc hrows
    o3 hcells hag hsp hw (fun _ => hr.wf) hcur hr.lp
  have d := VaxisModel.Lemmas.RenderToks.run_fields cw (renderFrame cw (mkFrame caps s fi)).2 s.t
  have d4 := run_renderFrame_lp cw (mkFrame caps s fi) s.t hr.lp
  have d7 := flush_epilogue cw cw (mkFrame caps s fi) s.t hr.rest
  have hex : Expected.expected cw caps (renderFrame cw (mkFrame caps s fi)).1 = Expected.expected cw caps fi.next := by
    unfold Agree at d3; exact d3.symm.trans d2
  obtain ⟨e1, e2⟩ := expected_dims cw caps cols _ _ hex o2
  refine ⟨⟨d7, d1, d4, d.rows.trans hr.trows, d.cols.trans hr.tcols, ?_, e1.trans o1, ?_, e2, ?_⟩, d3, d2, d1⟩
  · show (run cw s.t (renderFrame cw (mkFrame caps s fi)).2).grid.length = rows
    rw [d2]; simp [Expected.expected]; exact o1
  · show ∀ r ∈ (run cw s.t (renderFrame cw (mkFrame caps s fi)).2).grid, r.length = cols
    rw [d2]
    intro r hr'
    obtain ⟨l, hl, rfl⟩ := List.mem_map.mp hr'
    rw [expectedRow_length]; exact o2 l hl
  · show ∀ r ∈ (run cw s.t (renderFrame cw (mkFrame caps s fi)).2).grid, WFRow 0 r
    rw [d2]; exact expected_wf cw caps _

/-- A history from a ready state; `last` has to agree with the terminal only if the first frame is a diff frame
    (every frame leaves a synchronized state behind). -/
theorem history_from (cw : String → Nat) (caps : Caps) (hsp : cw "20" = 1) (rows cols : Nat) :
    ∀ (fis : List FrameIn) (s : HState), Ready s.t s.last rows cols →
      (∀ fi, fis.head? = some fi → fi.refresh = false → Agree cw caps s.t s.last) →
      (∀ fi ∈ fis, FrameInOk cw caps rows cols fi) → ∀ fi, fis.getLast? = some fi →
      (fis.foldl (stepH cw caps) s).t.grid = Expected.expected cw caps fi.next ∧
      (fis.foldl (stepH cw caps) s).t.bad = none := by
  intro fis
  induction fis with
  | nil => intro s _ _ _ fi h; simp at h
  | cons a rest ih =>
    intro s hr hag hok fi hlast
    obtain ⟨r1, a1, g1, b1⟩ := frame_step cw caps hsp rows cols s a hr (hag a rfl) (hok a (by simp))
    cases rest with
    | nil =>
      simp only [List.getLast?_singleton, Option.some.injEq] at hlast
      subst hlast
      exact ⟨g1, b1⟩
    | cons b rest' =>
      rw [List.getLast?_cons_cons] at hlast
      exact ih (stepH cw caps s a) r1 (fun _ _ _ => a1) (fun fi h => hok fi (by simp [h])) fi hlast

/-- From a synchronized state, after any non-empty sequence of admissible frames the terminal
    shows the screen of the last one. -/
theorem history_step (cw : String → Nat) (caps : Caps) (hsp : cw "20" = 1) (rows cols : Nat) :
    ∀ (fis : List FrameIn) (s : HState), Ready s.t s.last rows cols → Agree cw caps s.t s.last →
      (∀ fi ∈ fis, FrameInOk cw caps rows cols fi) → ∀ fi, fis.getLast? = some fi →
      (fis.foldl (stepH cw caps) s).t.grid = Expected.expected cw caps fi.next ∧
      (fis.foldl (stepH cw caps) s).t.bad = none :=
  fun fis s hr hag => history_from cw caps hsp rows cols fis s hr fun _ _ _ => hag

theorem init_ready (cols rows : Nat) : Ready (Term.init cols rows) (blankGrid cols rows) rows cols := by
  refine ⟨⟨rfl, rfl, rfl⟩, rfl, rfl, rfl, rfl, by simp [Term.init], by simp [blankGrid], ?_, ?_, init_wf cols rows⟩
  · intro r hr; simp only [Term.init, List.mem_replicate] at hr; rw [hr.2]; simp
  · intro r hr; simp only [blankGrid, List.mem_replicate] at hr; rw [hr.2]; simp

/-- **C01, cell-content clause, over whole histories**: start from the blank terminal (as after
    `resize`, where vaxis forces the first frame to be a refresh); after *every* frame of *any*
    sequence of admissible frames — diff frames and refreshes in any order — the reference terminal
    shows exactly the application's screen and nothing terminal-specific was relied on. -/
theorem history_displays (cw : String → Nat) (caps : Caps) (hsp : cw "20" = 1) (rows cols : Nat)
    (fi0 : FrameIn) (fis : List FrameIn) (h0 : fi0.refresh = true)
    (hok : ∀ fi ∈ fi0 :: fis, FrameInOk cw caps rows cols fi) (fi : FrameIn)
    (hlast : (fi0 :: fis).getLast? = some fi) :
    ((fi0 :: fis).foldl (stepH cw caps) ⟨Term.init cols rows, blankGrid cols rows, {}, ""⟩).t.grid
      = Expected.expected cw caps fi.next ∧
    ((fi0 :: fis).foldl (stepH cw caps) ⟨Term.init cols rows, blankGrid cols rows, {}, ""⟩).t.bad = none := by
  refine history_from cw caps hsp rows cols (fi0 :: fis) _ (init_ready cols rows) (fun fi' h hr => ?_) hok fi hlast
  rw [List.head?_cons, Option.some.injEq] at h
  rw [← h, h0] at hr; cases hr

/-! Non-vacuity: a concrete two-frame history meets all hypotheses (first a refresh onto the blank
    terminal, then a diff frame that replaces a wide glyph by narrow ones). -/

def cwEx : String → Nat := fun g => if g = "57" then 2 else 1
def frame1 : Frame :=
  { caps := {}, refresh := true,
    next := [[({ g := "57" } : Cell), {}, { g := "61", style := { fg := 16777217, attr := 2 } }]],
    last := [[({} : Cell), {}, {}]], cursorNext := {}, cursorLast := {} }
def frame2 : Frame :=
  { caps := {}, refresh := false,
    next := [[({ g := "62" } : Cell), { g := "63" }, { g := "61", style := { fg := 16777217, attr := 2 } }]],
    last := (renderFrame cwEx frame1).1, cursorNext := { visible := true, col := 1 }, cursorLast := {} }

example : (run cwEx (Term.init 3 1) (renderFrame cwEx frame1).2).grid = Expected.expected cwEx {} frame1.next := by
  decide
example : (run cwEx (run cwEx (Term.init 3 1) (renderFrame cwEx frame1).2) (renderFrame cwEx frame2).2).grid
    = Expected.expected cwEx {} frame2.next := by decide
example : Agree cwEx frame2.caps (run cwEx (Term.init 3 1) (renderFrame cwEx frame1).2) frame2.last := by
  unfold Agree; decide
example : ∀ r ∈ frame2.next, ∀ c ∈ r, WidthOk cwEx frame2.caps c := by
  intro r hr c hc
  simp only [frame2, List.mem_cons, List.not_mem_nil, or_false] at hr
  subst hr
  simp only [List.mem_cons, List.not_mem_nil, or_false] at hc
  rcases hc with rfl | rfl | rfl <;> exact Or.inl rfl

/-- All hypotheses of `frame_displays_partial` hold for the second frame on the terminal left by
    the first one: the theorem applies to a concrete non-trivial state. -/
example :
    let t1 := run cwEx (Term.init 3 1) (renderFrame cwEx frame1).2
    (run cwEx t1 (renderFrame cwEx frame2).2).bad = none ∧
    (run cwEx t1 (renderFrame cwEx frame2).2).grid = Expected.expected cwEx frame2.caps frame2.next ∧
    Agree cwEx frame2.caps (run cwEx t1 (renderFrame cwEx frame2).2) (renderFrame cwEx frame2).1 := by
  intro t1
  apply frame_displays_partial cwEx frame2 t1
  · exact ⟨by decide, by decide, by decide⟩
  · decide
  · decide
  · decide
  · decide
  · decide
  · decide
  · decide
  · intro r hr
    simp only [frame2, List.mem_cons, List.not_mem_nil, or_false] at hr
    subst hr
    simp [FitsRow, Expected.cellWidth, cwEx]
  · decide
  · intro _; unfold Agree; decide
  · decide
  · intro r hr c hc
    simp only [frame2, List.mem_cons, List.not_mem_nil, or_false] at hr
    subst hr
    simp only [List.mem_cons, List.not_mem_nil, or_false] at hc
    rcases hc with rfl | rfl | rfl <;> exact Or.inl rfl
  · intro h; exact absurd h (by decide)
  · intro _; decide
  · decide

/-- Non-vacuity of `history_displays`: the two frames above form an admissible history. -/
example :
    let fi0 : FrameIn := ⟨true, frame1.next, {}, ""⟩
    let fi1 : FrameIn := ⟨false, frame2.next, { visible := true, col := 1 }, "text"⟩
    ([fi0, fi1].foldl (stepH cwEx {}) ⟨Term.init 3 1, blankGrid 3 1, {}, ""⟩).t.grid
      = Expected.expected cwEx {} fi1.next ∧
    ([fi0, fi1].foldl (stepH cwEx {}) ⟨Term.init 3 1, blankGrid 3 1, {}, ""⟩).t.bad = none := by
  intro fi0 fi1
  have hcells : ∀ (g : Grid), (g = frame1.next ∨ g = frame2.next) →
      ∀ r ∈ g, ∀ c ∈ r, c.sixel = false ∧ 0 ≤ c.w ∧ WidthOk cwEx {} c := by
    intro g hg r hr c hc
    rcases hg with rfl | rfl <;>
    · simp only [frame1, frame2, List.mem_cons, List.not_mem_nil, or_false] at hr
      subst hr
      simp only [List.mem_cons, List.not_mem_nil, or_false] at hc
      rcases hc with rfl | rfl | rfl <;> exact ⟨rfl, by decide, Or.inl rfl⟩
  have hfits : ∀ (g : Grid), (g = frame1.next ∨ g = frame2.next) → Fits cwEx g := by
    intro g hg r hr
    rcases hg with rfl | rfl <;>
    · simp only [frame1, frame2, List.mem_cons, List.not_mem_nil, or_false] at hr
      subst hr
      simp [FitsRow, Expected.cellWidth, cwEx]
  apply history_displays cwEx {} rfl 1 3 fi0 [fi1] rfl
  · intro fi hfi
    simp only [List.mem_cons, List.not_mem_nil, or_false] at hfi
    rcases hfi with rfl | rfl
    · exact ⟨rfl, by decide, hfits _ (Or.inl rfl), hcells _ (Or.inl rfl), fun h => absurd h (by decide)⟩
    · exact ⟨rfl, by decide, hfits _ (Or.inr rfl), hcells _ (Or.inr rfl), fun _ => by decide⟩
  · rfl

end VaxisModel.Props.C01Display
