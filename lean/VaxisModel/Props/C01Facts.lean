/-
C01 (structural tie to vaxis.go / writer.go): the statement structure of `render()`,
`showCursor()`, `advance()`, `writer.Write`, `writer.WriteString`, `writer.Flush` regenerated from
the source on every run (`Gen/RenderFacts.lean`, extractor `extract/cmd/C01`) is the structure the
model transcribes (`Lemmas/RenderFactsPinned.lean`), every statement form was recognised, and the
model's attribute delta and the order of its style-field deltas are the *interpretation* of the
tables extracted from the source.  Any change of a guard, of the order of the guards, of a loop
bound, of a write or of where it stands makes one of these theorems fail to compile.
-/
import VaxisModel.Lemmas.RenderFacts

namespace VaxisModel.Props.C01Facts
open VaxisModel.Model.Render VaxisModel.Lemmas.RenderFacts
open VaxisModel.Gen.RenderFacts

/-- Every statement of the six functions has a form the extractor knows (no `unknown` line), and
    the table extraction met no unknown shape. -/
theorem render_fully_recognised :
    (render ++ showCursor ++ VaxisModel.Gen.RenderFacts.advance ++ writerWrite ++ writerWriteString ++ writerFlush).all (fun l => l.2.1 != "unknown") = true ∧
    extractErrors = [] := by
  decide +kernel

/-- `render()` statement by statement: graphics loops, pointer shape, the row loop and the cell
    loop (guards in order: sixel, clip (F02), unchanged → reposition + nulling loop + skip, `dirty`,
    copy to `last`, reposition → OSC 8 close + CUP; the six deltas; `cursor = next.Style`; width
    resolution; the write switch; the second nulling loop with its `dirty` extension; skip), the
    trailing hyperlink close and cursor show. -/
theorem facts_render : render = VaxisModel.Lemmas.RenderFactsPinned.render := rfl

/-- `showCursor()` = cursor style, CUP (row+1, col+1), DECSET 25; `advance()` = max(width−1, 0)
    with the width resolved through `characterWidth` when 0. -/
theorem facts_showCursor_advance :
    showCursor = VaxisModel.Lemmas.RenderFactsPinned.showCursor ∧ VaxisModel.Gen.RenderFacts.advance = VaxisModel.Lemmas.RenderFactsPinned.advance :=
  ⟨rfl, rfl⟩

/-- The writer: the two different prologues (`Write`: sync first, cursor hidden only if it stays
    visible; `WriteString`: cursor hidden whenever it was visible, then sync), the cursor-only
    branch of `Flush` with its five cases in order, and the epilogue (SGR reset, cursor restore,
    sync end). -/
theorem facts_writer :
    writerWrite = VaxisModel.Lemmas.RenderFactsPinned.writerWrite ∧
    writerWriteString = VaxisModel.Lemmas.RenderFactsPinned.writerWriteString ∧
    writerFlush = VaxisModel.Lemmas.RenderFactsPinned.writerFlush :=
  ⟨rfl, rfl, rfl⟩

/-- The guards of the cell loop, in source order (readable projection of `facts_render`). -/
theorem facts_cell_loop_guards :
    linesAt (cellLoop render) 2 ["if", "switch", "for"] =
      ["next.sixel",
       "col+vx.advance(next)>=len(vx.screenNext.buf[row])",
       "next==vx.screenLast.buf[row][col]&&!vx.refresh&&col>=dirty",
       "end:=col+vx.advance(vx.screenLast.buf[row][col])+1;end>dirty",
       "reposition",
       "cursor.Foreground!=next.Foreground",
       "cursor.Background!=next.Background",
       "vx.caps.styledUnderlines",
       "cursor.Attribute!=next.Attribute",
       "cursor.UnderlineStyle!=next.UnderlineStyle",
       "cursor.Hyperlink!=next.Hyperlink||(next.Hyperlink!=\"\"&&cursor.HyperlinkParams!=next.HyperlinkParams)",
       "next.Width==0",
       "",
       "i:=1;i<skip+1;i+=1"] := by
  decide +kernel

/-- The extracted attribute tables resolve (names → bits via style.go, names → strings via
    sequences.go, strings → tokens via the lexer) to the codes the model uses — including the shared
    bold/dim reset 22 with re-instatement of the other one. -/
theorem facts_attr_tables : attrOn.map resolveOn = litOn ∧ attrOff.map resolveOff = litOff := by
  decide +kernel

/-- **The model's attribute delta is the interpretation of the extracted tables.** -/
theorem attrToks_from_source (a b : Nat) :
    attrToks a b = attrToksOf (attrOn.map resolveOn) (attrOff.map resolveOff) a b := by
  rw [facts_attr_tables.1, facts_attr_tables.2]
  exact attrToks_lit a b

/-- **The pen delta emits the style-field deltas in the order the source compares them.** -/
theorem penDelta_order (caps : Caps) (pen next : Style) :
    penDelta caps pen next = deltaOrder.flatMap (deltaPart caps pen next) := by
  have h : deltaOrder = ["Foreground", "Background", "UnderlineColor", "Attribute", "UnderlineStyle", "Hyperlink"] := rfl
  rw [h]
  simp [penDelta, deltaPart, List.flatMap]

private theorem ea1 (caps : Caps) (cn cl : CursorState) : evalAtom caps cn cl "cursorLast.visible" = cl.visible := by simp [evalAtom]
private theorem ea2 (caps : Caps) (cn cl : CursorState) : evalAtom caps cn cl "cursorNext.visible" = cn.visible := by simp [evalAtom]
private theorem ea3 (caps : Caps) (cn cl : CursorState) : evalAtom caps cn cl "caps.synchronizedUpdate" = caps.sync := by simp [evalAtom]
private theorem ea4 (caps : Caps) (cn cl : CursorState) :
    evalAtom caps cn cl "cursorNext.row!=cursorLast.row" = decide (cn.row ≠ cl.row) := by simp [evalAtom]
private theorem ea5 (caps : Caps) (cn cl : CursorState) :
    evalAtom caps cn cl "cursorNext.col!=cursorLast.col" = decide (cn.col ≠ cl.col) := by simp [evalAtom]
private theorem ea6 (caps : Caps) (cn cl : CursorState) :
    evalAtom caps cn cl "cursorNext.style!=cursorLast.style" = decide (cn.style ≠ cl.style) := by simp [evalAtom]
private theorem wt0 (cn : CursorState) : writeToks cn "" = [] := by simp [writeToks]
private theorem wt1 (cn : CursorState) : writeToks cn "decrst(cursorVisibility)" = [.decrst 25] := by simp [writeToks]
private theorem wt2 (cn : CursorState) : writeToks cn "decset(synchronizedUpdate)" = [.decset 2026] := by simp [writeToks]
private theorem wt3 (cn : CursorState) : writeToks cn "decrst(synchronizedUpdate)" = [.decrst 2026] := by simp [writeToks]
private theorem wt4 (cn : CursorState) : writeToks cn "sgrReset" = [.sgr []] := by simp [writeToks]
private theorem wt5 (cn : CursorState) : writeToks cn "showCursor()" = showCursorToks cn := by simp [writeToks]

/-- **The writer model is the interpretation of writer.go's guarded writes**: `flush` = the prologue of
    `WriteString` (every frame's first write is a `WriteString`), the body, the epilogue of `Flush`; or,
    with nothing buffered, the first matching case of `Flush`'s cursor-only switch — guards, order and
    written sequences as extracted from the source on this run. -/
theorem flush_from_source (caps : Caps) (cn cl : CursorState) (body : List Tok) :
    flush caps cn cl body = flushOf wsPrologue flushCursorOnly flushEpilogue caps cn cl body := by
  have h1 : wsPrologue = [([(false, "cursorLast.visible")], "decrst(cursorVisibility)"),
      ([(false, "caps.synchronizedUpdate")], "decset(synchronizedUpdate)")] := rfl
  have h2 : flushCursorOnly = [([(true, "cursorNext.visible"), (false, "cursorLast.visible")], "decrst(cursorVisibility)"),
      ([(true, "cursorNext.visible")], ""), ([(false, "cursorNext.row!=cursorLast.row")], "showCursor()"),
      ([(false, "cursorNext.col!=cursorLast.col")], "showCursor()"), ([(false, "cursorNext.style!=cursorLast.style")], "showCursor()"),
      ([], "")] := rfl
  have h3 : flushEpilogue = [([], "sgrReset"), ([(false, "cursorNext.visible"), (false, "cursorLast.visible")], "showCursor()"),
      ([(false, "caps.synchronizedUpdate")], "decrst(synchronizedUpdate)")] := rfl
  rw [h1, h2, h3]
  unfold flush flushOf
  simp only [firstCase, runGuarded, evalGuard, List.flatMap_cons, List.flatMap_nil, List.all_cons, List.all_nil,
    ea1, ea2, ea3, ea4, ea5, ea6, wt0, wt1, wt2, wt3, wt4, wt5, Bool.and_true, Bool.false_eq_true, if_false, if_true]
  cases hcv : cn.visible <;> cases hlv : cl.visible <;> cases hs : caps.sync <;> simp

end VaxisModel.Props.C01Facts
