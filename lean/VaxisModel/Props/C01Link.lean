/-
C01, hyperlink parameters (F112b, fixed): `OSC 8 ; params ; URI ST` ends its parameter field at the
first `;`, so a `;` inside `Style.HyperlinkParams`, written verbatim, moved the rest of the
parameter string into the URL on every terminal (cell with URL `http://d`, params `a;b` showed the
URL `b;http://d`).  `render()` now writes the parameters up to the first `;`; the model
(`Model.Render.lpField`) follows, and the display theorems (`frame_displays` … `app_history_displays`)
show every cell with exactly the URL the application set and with the parameter field
`Spec.Expected.paramField` of its parameters — the whole parameter string whenever that is a valid
OSC 8 parameter field.
-/
import VaxisModel.Lemmas.RenderDisplay
import VaxisModel.Lemmas.RenderLink

namespace VaxisModel.Props.C01Link
open VaxisModel.Model.Render VaxisModel.Spec.Expected VaxisModel.Lemmas.RenderLink
open VaxisModel.Lemmas.RenderDisplay (lpField_eq)
open VaxisModel.Lemmas.RenderToks (penDelta_split)

/-- **No OSC 8 the pen delta writes carries a `;` in its parameter field**, whatever the
    application put into `HyperlinkParams` (bytes of the hex string; 59 = `;`). -/
theorem osc8_params_no_semicolon (caps : Caps) (pen next : Style) (p u : String)
    (h : Tok.osc8 p u ∈ penDelta caps pen next) : 59 ∉ hexDec p ∧ u = next.link := by
  obtain ⟨sg, hsg, he⟩ := penDelta_split caps pen next
  rw [he] at h
  rcases List.mem_append.mp h with h | h
  · obtain ⟨ps, hps⟩ := hsg _ h; cases hps
  · split at h
    · simp only [List.mem_singleton] at h
      injection h with h1 h2
      subst h1 h2
      exact ⟨lpField_no_semicolon _, rfl⟩
    · simp at h

/-- The model's field (transcribed from `render()`) is the one the spec derives from the OSC 8 syntax. -/
theorem model_field_is_spec_field (s : String) : lpField s = paramField s := lpField_eq s

/-- Nothing is lost for a parameter string without `;`: the terminal is shown the whole string. -/
theorem valid_params_shown_whole (s : String) (h : 59 ∉ hexDec s) : paramField s = s := by
  rw [← lpField_eq]; exact lpField_id s h

/-- The F112b input: params `a;b`, URL `h`.  Before the repair the token was `osc8 "613b62" "68"`
    (Witness/F112b: the emulator stores URL `b;h`); now the field is `a`. -/
example : penDelta {} {} { link := "68", linkParams := "613b62" } = [Tok.osc8 "61" "68"] := by decide

end VaxisModel.Props.C01Link
