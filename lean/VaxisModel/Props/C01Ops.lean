/-
C01 — the op-level stream (`Driver/C01Ops.lean`, `harness/cmd/C01Ops`) runs the functions the
app-level theorems are about: on every line the driver's model state moves exactly as
`Lemmas.AppSys.sysStep` moves it (buffers, flags and the tokens fed to the terminal), so
`Props.C01App.app_history_displays` is a statement about the very runs the stream compares with the real
code, token for token; and the reference screen the stream's oracle judges the REAL bytes against (fold of
the `Spec.Window` writes, computed by the driver without the window model's `put`) is, cell for cell, the
model's next-frame buffer.
-/
import VaxisModel.Props.C01App
import VaxisModel.Driver.C01Ops

namespace VaxisModel.Props.C01Ops
open VaxisModel.Model.Window VaxisModel.Model.Render VaxisModel.Model.App VaxisModel.Spec.Display
open VaxisModel.Lemmas.AppSys VaxisModel.Lemmas.App VaxisModel.Lemmas.AppSpec VaxisModel.Driver.C01Ops

/-- The run context of a driver state: tables → `Interp` / `Lib` / `characterWidth`. -/
def ctxOf (s : St) : Ctx :=
  { cw := VaxisModel.Driver.C01.cwOf s.dict, caps := s.caps, I := s.interp, lib := s.lib, rm := s.rm }

theorem stream_draw_is_sysStep (s : St) (t : Term) (d : DrawOp) :
    (sysStep (ctxOf s) ⟨s.v, t⟩ (.draw d)).v = draw s.lib s.rm s.v d ∧
    (sysStep (ctxOf s) ⟨s.v, t⟩ (.draw d)).t = t := ⟨rfl, rfl⟩

theorem stream_frame_is_sysStep (s : St) (t : Term) :
    sysStep (ctxOf s) ⟨s.v, t⟩ .render =
      ⟨(endFrame (ctxOf s).cw s.caps s.interp s.v .render).1,
       run (ctxOf s).cw t (endFrame (ctxOf s).cw s.caps s.interp s.v .render).2⟩ ∧
    sysStep (ctxOf s) ⟨s.v, t⟩ .refresh =
      ⟨(endFrame (ctxOf s).cw s.caps s.interp s.v .refresh).1,
       run (ctxOf s).cw t (endFrame (ctxOf s).cw s.caps s.interp s.v .refresh).2⟩ := ⟨rfl, rfl⟩

theorem stream_resize_is_sysStep (s : St) (t : Term) (cols rows : Nat) (g : List (List DCell)) :
    (sysStep (ctxOf s) ⟨s.v, t⟩ (.resize cols rows g)).v =
      (endFrame (ctxOf s).cw s.caps s.interp s.v (.resize cols rows)).1 := rfl

/-- One cell of the oracle's reference screen after a drawing call (`specDraw` computes this fold
    for every cell of the screen, on a screen value that only carries the dimensions). -/
def oracleCell (s : St) (d : DrawOp) (x y : Int) (c0 : VaxisModel.Model.Window.Cell) : VaxisModel.Model.Window.Cell :=
  foldHits { cols := s.v.scr.cols, rows := s.v.scr.rows, buf := [] } x y c0 (specWrites s.lib s.rm d)

/-- **The oracle's reference screen is the model's buffer**: if a cell of the model's next-frame
    buffer holds `c0` before a drawing call, afterwards it holds the fold of the `Spec.Window`
    writes of that call that hit it — what the driver's oracle computes. -/
theorem oracle_screen_is_model_screen (s : St) (d : DrawOp) (x y : Int) (c0 : VaxisModel.Model.Window.Cell)
    (h : s.v.scr.get x y = some c0) :
    (draw s.lib s.rm s.v d).scr.get x y = some (oracleCell s d x y c0) := by
  have := draws_read s.lib s.rm s.v [d] x y
  simp only [runDraws, List.foldl_cons, List.foldl_nil, List.flatMap_cons, List.flatMap_nil, List.append_nil] at this
  rw [this, h]
  simp only [Option.map_some, oracleCell]
  rw [foldHits_congr s.v.scr { cols := s.v.scr.cols, rows := s.v.scr.rows, buf := [] } rfl rfl x y _ c0]

/-- `specDraw` is that fold at every position (definitional unfolding, stated for one row/column). -/
example (s : St) (d : DrawOp) :
    specDraw s d = (List.range s.spec.length).zipWith (fun (y : Nat) row =>
      (List.range row.length).zipWith (fun (x : Nat) c => oracleCell s d (Int.ofNat x) (Int.ofNat y) c) row) s.spec := rfl

open VaxisModel.Lemmas.Window

theorem buf_get (s : Screen) (x y : Nat) :
    s.get (x : Int) (y : Int) = (s.buf[y]?).bind (·[x]?) := get_nat s x y

theorem draw_wf (lib : Lib) (rm : Bool) (v : Vx) (d : DrawOp) (h : v.scr.WF) : (draw lib rm v d).scr.WF ∧
    (draw lib rm v d).scr.cols = v.scr.cols ∧ (draw lib rm v d).scr.rows = v.scr.rows := by
  rw [draw_scr]
  exact ⟨applyPuts_wf _ _ h, (applyPuts_dims _ _).1, (applyPuts_dims _ _).2⟩

/-- **The oracle's reference screen is the model's buffer, as lists**: if the driver's `spec` equals the
    model's next-frame buffer (well formed) before a `d` line, it does afterwards.  Both start as
    `resize`d buffers on `size` / `resize` lines, so along every run of the stream the screen the
    real bytes are judged against is the screen `app_history_displays` is about. -/
theorem oracle_screen_tracks_model (s : St) (d : DrawOp) (hwf : s.v.scr.WF) (heq : s.spec = s.v.scr.buf) :
    specDraw s d = (draw s.lib s.rm s.v d).scr.buf := by
  obtain ⟨hwf', hc', hr'⟩ := draw_wf s.lib s.rm s.v d hwf
  obtain ⟨hc0, hr0, hlen, hrows⟩ := hwf
  obtain ⟨_, _, hlen', hrows'⟩ := hwf'
  apply List.ext_getElem?
  intro y
  simp only [specDraw, heq]
  rw [VaxisModel.Lemmas.ListBasic.getElem?_zipRange]
  by_cases hy : y < s.v.scr.buf.length
  · have hy' : y < (draw s.lib s.rm s.v d).scr.buf.length := by rw [hlen', hr', ← hlen]; exact hy
    rw [List.getElem?_eq_getElem hy', List.getElem?_eq_getElem hy]
    simp only [Option.map_some, Option.some.injEq]
    have hrow : (s.v.scr.buf[y]).length = s.v.scr.cols.toNat := hrows _ (List.getElem_mem hy)
    have hrow' : ((draw s.lib s.rm s.v d).scr.buf[y]).length = s.v.scr.cols.toNat := by
      rw [hrows' _ (List.getElem_mem hy'), hc']
    apply List.ext_getElem?
    intro x
    rw [VaxisModel.Lemmas.ListBasic.getElem?_zipRange]
    by_cases hx : x < s.v.scr.cols.toNat
    · have hx0 : x < (s.v.scr.buf[y]).length := by omega
      rw [List.getElem?_eq_getElem hx0]
      simp only [Option.map_some]
      have hget : s.v.scr.get (x : Int) (y : Int) = some (s.v.scr.buf[y][x]) := by
        rw [buf_get, List.getElem?_eq_getElem hy]; simp [List.getElem?_eq_getElem hx0]
      have := oracle_screen_is_model_screen s d (x : Int) (y : Int) _ hget
      rw [buf_get, List.getElem?_eq_getElem hy'] at this
      simp only [Option.bind_some] at this
      rw [this]
      rfl
    · have h1 : (s.v.scr.buf[y]).length ≤ x := by omega
      have h2 : ((draw s.lib s.rm s.v d).scr.buf[y]).length ≤ x := by omega
      rw [List.getElem?_eq_none h1, List.getElem?_eq_none h2]; rfl
  · have hy1 : s.v.scr.buf.length ≤ y := by omega
    have hy2 : (draw s.lib s.rm s.v d).scr.buf.length ≤ y := by rw [hlen', hr', ← hlen]; exact hy1
    rw [List.getElem?_eq_none hy1, List.getElem?_eq_none hy2]; rfl

end VaxisModel.Props.C01Ops
