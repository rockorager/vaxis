/-
C01 — the cell-level part of graphics in `render()`: cells flagged `sixel` (what `Sixel.Draw` puts under an image)
in the renderer `Model.RenderSixel` (F02 and F113 repaired).  An image cell is never drawn, a cell an image was dropped
from is always rewritten, and the display clause holds at every position that is not under an image
(`frame_displays_images`).  The placement loop itself (delete / transmit, `samePlacement`) is C20's
(`Model/Placements.lean`).
-/
import VaxisModel.Props.C01Clip
import VaxisModel.Lemmas.RenderSixel
import VaxisModel.Lemmas.RenderImagesFrame

namespace VaxisModel.Props.C01Sixel
open VaxisModel.Model.Render VaxisModel.Spec VaxisModel.Spec.Display
open VaxisModel.Props.C01 VaxisModel.Props.C01Display VaxisModel.Lemmas.RenderDisplay VaxisModel.Lemmas.RenderClip
open VaxisModel.Lemmas.RenderSixel

/-- Without image cells the current renderer is the renderer of `Props.C01Clip`. -/
theorem render_current_is_clip (cw : String → Nat) (f : Frame) (h : ∀ r ∈ f.next, ∀ c ∈ r, c.sixel = false) :
    renderFrameS cw f = renderFrameC cw f := renderFrameS_eq cw f h

/-- **The display clause for the code as it is** (`C01Clip.frame_displays` over `renderFrameS`). -/
theorem frame_displays_current (cw : String → Nat) (f : Frame) (t : Term)
    (hrest : Rest t) (hbad : t.bad = none)
    (hlen : t.grid.length = f.next.length) (hlast : f.last.length = f.next.length)
    (hgc : ∀ r ∈ t.grid, r.length = t.cols) (hnc : ∀ r ∈ f.next, r.length = t.cols)
    (hlc : ∀ r ∈ f.last, r.length = t.cols) (hrows : t.rows = f.next.length)
    (hcells : ∀ r ∈ f.next, ∀ c ∈ r, c.sixel = false ∧ 0 ≤ c.w ∧ WidthOk cw f.caps c)
    (hagree : f.refresh = false → Agree cw f.caps t f.last)
    (hsp : cw "20" = 1)
    (hwf : f.refresh = true → ∀ r ∈ t.grid, WFRow 0 r)
    (hcur : f.cursorNext.visible = true →
      (0 ≤ f.cursorNext.row ∧ f.cursorNext.row < t.rows) ∧ (0 ≤ f.cursorNext.col ∧ f.cursorNext.col < t.cols))
    (hlp : t.linkParams = "") :
    (run cw t (renderFrameS cw f).2).bad = none ∧
    (run cw t (renderFrameS cw f).2).grid = Expected.expectedC cw f.caps f.next ∧
    Agree cw f.caps (run cw t (renderFrameS cw f).2) (renderFrameS cw f).1 := by
  rw [renderFrameS_eq cw f (fun r hr c hc => (hcells r hr c hc).1)]
  exact VaxisModel.Props.C01Clip.frame_displays cw f t hrest hbad hlen hlast hgc hnc hlc hrows hcells hagree hsp hwf hcur hlp

/-- An image cell is not drawn: the output is untouched by it, `last` records the image cell, the
    next write re-addresses the cursor, and the cells the previously held glyph covered become dirty. -/
theorem sixel_cell_not_drawn (cw : String → Nat) (caps : Caps) (refresh : Bool) (row col : Nat) (track : Bool)
    (dirty : Nat) (n l : Cell) (ns ls : List Cell) (st : RSt) (h : n.sixel = true) :
    renderCellsS cw caps refresh row col 0 track dirty (n :: ns) (l :: ls) st =
      (n :: (renderCellsS cw caps refresh row (col + 1) 0 false
              (if col + advance cw l + 1 > dirty then col + advance cw l + 1 else dirty) ns ls { st with reposition := true }).1,
       (renderCellsS cw caps refresh row (col + 1) 0 false
              (if col + advance cw l + 1 > dirty then col + advance cw l + 1 else dirty) ns ls { st with reposition := true }).2) := by
  simp only [renderCellsS, h, if_true]

/-- **The re-render after an image is dropped**: a cell that was under an image (`l.sixel`) and is
    not any more is written — CUP if needed, pen delta, glyph — whatever it holds, refresh or not. -/
theorem dropped_image_rewritten (cw : String → Nat) (caps : Caps) (refresh : Bool) (row col : Nat) (track : Bool)
    (dirty : Nat) (n0 l : Cell) (ns ls : List Cell) (st : RSt) (hl : l.sixel = true) (hn : n0.sixel = false) :
    let n := clipCell cw (ns.length + 1) n0
    let st' : RSt := { reposition := false, pen := n.style, out := st.out ++ cellToks cw caps st row col n }
    let dirty' := if col + advance cw l + 1 > dirty then col + advance cw l + 1 else dirty
    renderCellsS cw caps refresh row col 0 track dirty (n0 :: ns) (l :: ls) st =
      (n :: (renderCellsS cw caps refresh row (col + 1) (advance cw n) true dirty' ns ls st').1,
       (renderCellsS cw caps refresh row (col + 1) (advance cw n) true dirty' ns ls st').2) := by
  intro n st' dirty'
  have hne : ¬ (n = l ∧ ¬ refresh ∧ col ≥ dirty) := by
    intro h
    have : n.sixel = l.sixel := by rw [h.1]
    rw [clipCell_sixel, hn, hl] at this
    cases this
  simp only [renderCellsS, hn, Bool.false_eq_true, if_false]
  rw [if_neg hne]
  rfl

/-! ### F113 (repaired, /repo 631e12a): the witness -/

def cwEx : String → Nat := fun g => if g = "f09f94a5" then 2 else if g = "" then 0 else 1
/-- Frame 1: a wide glyph at column 0 of a 2×1 screen (column 1 never written). -/
def frameA : Frame :=
  { caps := {}, refresh := true, next := [[({ g := "f09f94a5" } : Cell), {}]], last := [[({} : Cell), {}]],
    cursorNext := {}, cursorLast := {} }
/-- Frame 2: an image cell comes over column 0 (column 1 still never written). -/
def frameB (last : Grid) : Frame :=
  { caps := {}, refresh := false, next := [[({ sixel := true } : Cell), {}]], last := last,
    cursorNext := {}, cursorLast := {} }

/-- Before the repair (`renderFrameC` has the old sixel branch) the right half of the wide glyph
    stayed on the terminal in column 1 beside the image … -/
theorem F113_before :
    let t1 := run cwEx (Term.init 2 1) (renderFrameC cwEx frameA).2
    ((run cwEx t1 (renderFrameC cwEx (frameB (renderFrameC cwEx frameA).1)).2).grid.map (·[1]?)) = [some DCell.cont] := by
  decide

/-- … now column 1 is rewritten and shows the never-written cell as a blank. -/
theorem F113_after :
    let t1 := run cwEx (Term.init 2 1) (renderFrameS cwEx frameA).2
    ((run cwEx t1 (renderFrameS cwEx (frameB (renderFrameS cwEx frameA).1)).2).grid.map (·[1]?)) = [some DCell.blank] ∧
    (run cwEx t1 (renderFrameS cwEx (frameB (renderFrameS cwEx frameA).1)).2).bad = none := by
  decide

/-! ### Screens WITH image cells

A cell flagged `sixel` lies under an image: the cell loop does not draw it and what the terminal
shows there is painted by the image bytes, which this renderer model does not have — "unknown
pixels".  The display clause for such screens can therefore only speak about the other positions.
`frame_displays_images_full` is that statement (it is what the correspondence oracle evaluates on
the real bytes for every frame with image cells: `Driver.C01.sixelDontCare`); it is proved as
`frame_displays_images`.  The statement has to say what an image cell is (`ImageCellsAsPlaced`):
without that it is false (`images_need_placed_cells`). -/

/-- "Unknown pixels": the positions of image cells that are not covered by a wide glyph to their
    left (a covered one is expected to show that glyph's continuation, as everywhere). -/
def unknownPixels (cw : String → Nat) (caps : Caps) (next : Grid) (r c : Nat) : Bool :=
  match next[r]? with
  | some row =>
    (match row[c]? with | some cell => cell.sixel | none => false) &&
    (match (Expected.expectedRowC cw caps 0 row)[c]? with | some DCell.cont => false | _ => true)
  | none => false

/-- The terminal shows the application's screen wherever the pixels are not the image's. -/
def ShowsOutsideImages (cw : String → Nat) (caps : Caps) (next : Grid) (grid : List (List DCell)) : Prop :=
  ∀ r c, unknownPixels cw caps next r c = false →
    (grid[r]?.bind (·[c]?)) = ((Expected.expectedC cw caps next)[r]?.bind (·[c]?))

/-- The bounded form of `ShowsOutsideImages`, spelt out so that the `decide` examples at the end of the file find it. -/
instance (cw : String → Nat) (caps : Caps) (next : Grid) (grid : List (List DCell)) (R C : Nat) :
    Decidable (∀ r, r < R → ∀ c, c < C → unknownPixels cw caps next r c = false →
      (grid[r]?.bind (·[c]?)) = ((Expected.expectedC cw caps next)[r]?.bind (·[c]?))) := by
  infer_instance

/-- Image cells are what `Sixel.Draw` places (`Cell{sixel: true}`, possibly restyled by `SetStyle`):
    no grapheme of width > 1 in them.  The loop does not skip anything after an image cell, so a
    *wide* image cell — which no call of the API can produce, the flag is unexported — would be
    expected to shadow its right neighbour while the loop draws that neighbour
    (`images_need_placed_cells`). -/
def ImageCellsAsPlaced (cw : String → Nat) (next : Grid) : Prop :=
  ∀ r ∈ next, ∀ c ∈ r, c.sixel = true → advance cw c = 0

/-- **The display clause for screens with image cells** as a `Prop` (`frame_displays_images_full_holds`). -/
def frame_displays_images_full : Prop :=
  ∀ (cw : String → Nat) (f : Frame) (t : Term),
    ImageCellsAsPlaced cw f.next →
    Rest t → t.bad = none →
    t.grid.length = f.next.length → f.last.length = f.next.length →
    (∀ r ∈ t.grid, r.length = t.cols) → (∀ r ∈ f.next, r.length = t.cols) →
    (∀ r ∈ f.last, r.length = t.cols) → t.rows = f.next.length →
    (∀ r ∈ f.next, ∀ c ∈ r, 0 ≤ c.w ∧ WidthOk cw f.caps c) →
    (f.refresh = false → Agree cw f.caps t f.last) →
    cw "20" = 1 →
    (f.refresh = true → ∀ r ∈ t.grid, WFRow 0 r) →
    (f.cursorNext.visible = true →
      (0 ≤ f.cursorNext.row ∧ f.cursorNext.row < t.rows) ∧ (0 ≤ f.cursorNext.col ∧ f.cursorNext.col < t.cols)) →
    t.linkParams = "" →
    (run cw t (renderFrameS cw f).2).bad = none ∧
    ShowsOutsideImages cw f.caps f.next (run cw t (renderFrameS cw f).2).grid

/-- The statement without `ImageCellsAsPlaced`: false of the model (`images_need_placed_cells`). -/
def frame_displays_images_unrestricted : Prop :=
  ∀ (cw : String → Nat) (f : Frame) (t : Term),
    Rest t → t.bad = none →
    t.grid.length = f.next.length → f.last.length = f.next.length →
    (∀ r ∈ t.grid, r.length = t.cols) → (∀ r ∈ f.next, r.length = t.cols) →
    (∀ r ∈ f.last, r.length = t.cols) → t.rows = f.next.length →
    (∀ r ∈ f.next, ∀ c ∈ r, 0 ≤ c.w ∧ WidthOk cw f.caps c) →
    (f.refresh = false → Agree cw f.caps t f.last) →
    cw "20" = 1 →
    (f.refresh = true → ∀ r ∈ t.grid, WFRow 0 r) →
    (f.cursorNext.visible = true →
      (0 ≤ f.cursorNext.row ∧ f.cursorNext.row < t.rows) ∧ (0 ≤ f.cursorNext.col ∧ f.cursorNext.col < t.cols)) →
    t.linkParams = "" →
    (run cw t (renderFrameS cw f).2).bad = none ∧
    ShowsOutsideImages cw f.caps f.next (run cw t (renderFrameS cw f).2).grid

/-- A model cell with the image flag AND a wide grapheme (2×1: such a cell, then `a`). -/
def frameWideImage : Frame :=
  { caps := {}, refresh := true, next := [[({ g := "f09f94a5", sixel := true } : Cell), { g := "61" }]],
    last := [[({} : Cell), {}]], cursorNext := {}, cursorLast := {} }

/-- **`ImageCellsAsPlaced` is necessary**: the unrestricted statement is false of the model — the
    wide image cell is expected to shadow column 1 (`cont`, not "unknown pixels"), the loop draws `a` there. -/
theorem images_need_placed_cells : ¬ frame_displays_images_unrestricted := by
  intro h
  have := (h cwEx frameWideImage (Term.init 2 1) ⟨by decide, by decide, by decide⟩ (by decide) (by decide) (by decide)
    (by decide) (by decide) (by decide) (by decide)
    (by intro r hr c hc
        simp only [frameWideImage, List.mem_singleton] at hr; subst hr
        simp only [List.mem_cons, List.not_mem_nil, or_false] at hc
        rcases hc with rfl | rfl <;> exact ⟨by decide, Or.inl rfl⟩)
    (fun h => absurd h (by decide)) (by decide)
    (fun _ => VaxisModel.Props.C01Display.init_wf 2 1) (fun h => absurd h (by decide)) (by decide)).2 0 1 (by decide)
  revert this
  decide

/-- **The display clause for screens with image cells** — every capability set, width oracle, grid,
    diff frame or refresh, any number of image cells anywhere (also over wide glyphs the terminal still
    shows — the F113 situation — and over their continuation columns): nothing terminal-specific is
    relied on and the terminal shows the application's screen at every position that is not "unknown
    pixels".  Proof: `Lemmas/RenderImages` (the row invariant of the display proof with a don't-care
    mask at image positions and the "stale" state for a glyph whose head is hidden under an image). -/
theorem frame_displays_images (cw : String → Nat) (f : Frame) (t : Term)
    (himg : ImageCellsAsPlaced cw f.next)
    (hrest : Rest t) (hbad : t.bad = none)
    (hlen : t.grid.length = f.next.length) (hlast : f.last.length = f.next.length)
    (hgc : ∀ r ∈ t.grid, r.length = t.cols) (hnc : ∀ r ∈ f.next, r.length = t.cols)
    (hlc : ∀ r ∈ f.last, r.length = t.cols) (hrows : t.rows = f.next.length)
    (hcells : ∀ r ∈ f.next, ∀ c ∈ r, 0 ≤ c.w ∧ WidthOk cw f.caps c)
    (hagree : f.refresh = false → Agree cw f.caps t f.last)
    (hsp : cw "20" = 1)
    (hwf : f.refresh = true → ∀ r ∈ t.grid, WFRow 0 r)
    (hcur : f.cursorNext.visible = true →
      (0 ≤ f.cursorNext.row ∧ f.cursorNext.row < t.rows) ∧ (0 ≤ f.cursorNext.col ∧ f.cursorNext.col < t.cols))
    (hlp : t.linkParams = "") :
    (run cw t (renderFrameS cw f).2).bad = none ∧
    ShowsOutsideImages cw f.caps f.next (run cw t (renderFrameS cw f).2).grid := by
  obtain ⟨pre, X, Y, hpre, _, h2, hX, hY⟩ := VaxisModel.Lemmas.RenderImages.frame_shapeS cw f t.rows t.cols hcur
  have hok := VaxisModel.Lemmas.RenderImages.rowsOkM_of cw f.caps f.refresh t.cols t.grid f.last f.next
    (by rw [hlen, hlast]) hlast hgc hlc hagree hwf
  obtain ⟨c1, c2⟩ := VaxisModel.Lemmas.RenderImages.frame_coreS cw hsp f t X Y pre hX hY hpre hrest.1 hrest.2.1 hlp hbad
    hlast hnc hlc hrows hcells hok
  rw [h2]
  refine ⟨c1, ?_⟩
  intro r c hu
  exact VaxisModel.Lemmas.RenderImages.maskedRows_shows cw f.caps f.next _ c2 himg r c hu

theorem frame_displays_images_full_holds : frame_displays_images_full :=
  fun cw f t himg hrest hbad hlen hlast hgc hnc hlc hrows hcells hagree hsp hwf hcur hlp =>
    frame_displays_images cw f t himg hrest hbad hlen hlast hgc hnc hlc hrows hcells hagree hsp hwf hcur hlp

/-- Non-vacuity: a refresh of `a`, an image cell, a wide glyph and a never-written cell on a blank
    4×1 terminal meets every hypothesis of `frame_displays_images`. -/
def frameImg : Frame :=
  { caps := {}, refresh := true, next := [[({ g := "61" } : Cell), { sixel := true }, { g := "f09f94a5" }, {}]],
    last := [[({} : Cell), {}, {}, {}]], cursorNext := {}, cursorLast := {} }

example : (run cwEx (Term.init 4 1) (renderFrameS cwEx frameImg).2).bad = none ∧
    ShowsOutsideImages cwEx {} frameImg.next (run cwEx (Term.init 4 1) (renderFrameS cwEx frameImg).2).grid := by
  refine frame_displays_images cwEx frameImg (Term.init 4 1) (by unfold ImageCellsAsPlaced; decide) ⟨by decide, by decide, by decide⟩ (by decide) (by decide)
    (by decide) (by decide) (by decide) (by decide) (by decide) ?_ (fun h => absurd h (by decide)) (by decide)
    (fun _ => VaxisModel.Props.C01Display.init_wf 4 1) (fun h => absurd h (by decide)) (by decide)
  intro r hr c hc
  simp only [frameImg, List.mem_singleton] at hr; subst hr
  simp only [List.mem_cons, List.not_mem_nil, or_false] at hc
  rcases hc with rfl | rfl | rfl | rfl <;> exact ⟨by decide, Or.inl rfl⟩

/-- The F113 frames as an instance of the theorem (an image cell over the HEAD of a wide glyph the
    terminal still shows — the "stale" path of the proof): every hypothesis is met. -/
example :
    let t1 := run cwEx (Term.init 2 1) (renderFrameS cwEx frameA).2
    let fB := frameB (renderFrameS cwEx frameA).1
    (run cwEx t1 (renderFrameS cwEx fB).2).bad = none ∧
    ShowsOutsideImages cwEx {} fB.next (run cwEx t1 (renderFrameS cwEx fB).2).grid := by
  intro t1 fB
  refine frame_displays_images cwEx fB t1 (by unfold ImageCellsAsPlaced; decide) ⟨by decide, by decide, by decide⟩ (by decide) (by decide)
    (by decide) (by decide) (by decide) (by decide) (by decide) ?_ (fun _ => by unfold Agree; decide) (by decide)
    (fun h => absurd h (by decide)) (fun h => absurd h (by decide)) (by decide)
  intro r hr c hc
  have hr' : r = [({ sixel := true } : Cell), {}] := by simpa [fB, frameB] using hr
  subst hr'
  simp only [List.mem_cons, List.not_mem_nil, or_false] at hc
  rcases hc with rfl | rfl <;> exact ⟨by decide, Or.inl rfl⟩

/-- The case without image cells (`ImageCellsAsPlaced` holds vacuously). -/
theorem frame_displays_images_partial (cw : String → Nat) (f : Frame) (t : Term)
    (hrest : Rest t) (hbad : t.bad = none)
    (hlen : t.grid.length = f.next.length) (hlast : f.last.length = f.next.length)
    (hgc : ∀ r ∈ t.grid, r.length = t.cols) (hnc : ∀ r ∈ f.next, r.length = t.cols)
    (hlc : ∀ r ∈ f.last, r.length = t.cols) (hrows : t.rows = f.next.length)
    (hcells : ∀ r ∈ f.next, ∀ c ∈ r, c.sixel = false ∧ 0 ≤ c.w ∧ WidthOk cw f.caps c)
    (hagree : f.refresh = false → Agree cw f.caps t f.last)
    (hsp : cw "20" = 1)
    (hwf : f.refresh = true → ∀ r ∈ t.grid, WFRow 0 r)
    (hcur : f.cursorNext.visible = true →
      (0 ≤ f.cursorNext.row ∧ f.cursorNext.row < t.rows) ∧ (0 ≤ f.cursorNext.col ∧ f.cursorNext.col < t.cols))
    (hlp : t.linkParams = "") :
    (run cw t (renderFrameS cw f).2).bad = none ∧
    ShowsOutsideImages cw f.caps f.next (run cw t (renderFrameS cw f).2).grid := by
  exact frame_displays_images cw f t (fun r hr c hc hs => by rw [(hcells r hr c hc).1] at hs; cases hs) hrest hbad hlen
    hlast hgc hnc hlc hrows (fun r hr c hc => (hcells r hr c hc).2) hagree hsp hwf hcur hlp

/-- Concrete instances of the full statement's conclusion with image cells (decide): the F113
    frames (a wide glyph, then an image cell over its left half), and an image cell between two
    glyphs on a refresh — the positions outside the image show the application's screen. -/
example :
    let t1 := run cwEx (Term.init 2 1) (renderFrameS cwEx frameA).2
    let fB := frameB (renderFrameS cwEx frameA).1
    let t2 := run cwEx t1 (renderFrameS cwEx fB).2
    t2.bad = none ∧ unknownPixels cwEx {} fB.next 0 0 = true ∧ unknownPixels cwEx {} fB.next 0 1 = false ∧
    (∀ r, r < 1 → ∀ c, c < 2 → unknownPixels cwEx {} fB.next r c = false →
      (t2.grid[r]?.bind (·[c]?)) = ((Expected.expectedC cwEx {} fB.next)[r]?.bind (·[c]?))) := by decide

example :
    let f : Frame := { caps := {}, refresh := true, next := [[({ g := "61" } : Cell), { sixel := true }, { g := "f09f94a5" }, {}]],
                       last := [[({} : Cell), {}, {}, {}]], cursorNext := {}, cursorLast := {} }
    let t := run cwEx (Term.init 4 1) (renderFrameS cwEx f).2
    t.bad = none ∧
    (∀ r, r < 1 → ∀ c, c < 4 → unknownPixels cwEx {} f.next r c = false →
      (t.grid[r]?.bind (·[c]?)) = ((Expected.expectedC cwEx {} f.next)[r]?.bind (·[c]?))) := by decide

end VaxisModel.Props.C01Sixel
