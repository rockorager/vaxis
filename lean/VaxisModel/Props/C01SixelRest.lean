/-
C01 — the "at rest" and cursor clauses for the renderer `renderFrameS`, for ALL frames: image cells included.
(`Props.C01.flush_epilogue`, `flush_resets_pen`, `cursor_as_requested` are stated over the first loop, `renderFrame`;
through `renderFrameS_eq` they apply to `renderFrameS` only for screens without image cells.)  They are the writer
theorems of `Props/C01.lean` (`flush_rest`, `flush_pen`, `flush_cursor`) at the body `renderCellsS` writes, which has
the same shape (`Lemmas.RenderSixel.renderBodyS_shape`: an image cell contributes no token).
-/
import VaxisModel.Props.C01
import VaxisModel.Lemmas.RenderSixel

namespace VaxisModel.Props.C01SixelRest
open VaxisModel.Model.Render VaxisModel.Spec VaxisModel.Spec.Display VaxisModel.Lemmas.RenderToks
open VaxisModel.Props.C01

private theorem show_pen (c : CursorState) (p : TStyle) : penRun p (showCursorToks c) = p := by
  simp [showCursorToks, penRun, penStep]

/-- **Every flush leaves the pen reset, any hyperlink closed and synchronized-update mode
    balanced** — as an invariant of the terminal between frames, for every frame. -/
theorem flush_epilogue_current (tw cw : String → Nat) (f : Frame) (t : Term) (h : Rest t) :
    Rest (run tw t (renderFrameS cw f).2) :=
  flush_rest tw f _ (VaxisModel.Lemmas.RenderSixel.renderBodyS_shape cw f) t h

/-- A frame that writes at least one cell (or any other buffered output) resets the pen whatever
    the terminal's pen was before. -/
theorem flush_resets_pen_current (tw cw : String → Nat) (f : Frame) (t : Term)
    (hne : (renderBodyS cw f).2 ≠ []) : (run tw t (renderFrameS cw f).2).pen = TStyle.reset :=
  flush_pen tw f.caps f.cursorNext f.cursorLast _ t hne

/-- **The hardware cursor is shown exactly as last requested** after every frame: hidden, or
    visible at the requested position and shape — given that the terminal showed the previously
    requested cursor before the frame and that a visible cursor is requested inside the screen. -/
theorem cursor_as_requested_current (tw cw : String → Nat) (f : Frame) (t : Term)
    (hin : f.cursorNext.visible = true →
      (0 ≤ f.cursorNext.row ∧ f.cursorNext.row < t.rows) ∧ (0 ≤ f.cursorNext.col ∧ f.cursorNext.col < t.cols))
    (hprev : CursorAs t f.cursorLast) :
    CursorAs (run tw t (renderFrameS cw f).2) f.cursorNext :=
  flush_cursor tw f _ (VaxisModel.Lemmas.RenderSixel.renderBodyS_shape cw f) t hin hprev

/-- Non-vacuity: a frame with an image cell, a hyperlinked cell and a visible cursor; afterwards
    the terminal is at rest and the cursor is where it was requested (decide). -/
example :
    let f : Frame := { caps := { sync := true }, refresh := true,
                       next := [[({ g := "61", style := { link := "687474703a2f2f61", attr := 2 } } : Cell), { sixel := true }, { g := "62" }]],
                       last := [[({} : Cell), {}, {}]], cursorNext := { row := 0, col := 2, style := 4, visible := true }, cursorLast := {} }
    let t := run (fun _ => 1) { Term.init 3 1 with cursorVisible := false } (renderFrameS (fun _ => 1) f).2
    t.pen = TStyle.reset ∧ t.link = "" ∧ t.sync = 0 ∧ t.cursorVisible = true ∧ t.col = 2 ∧ t.cursorShape = 4 ∧ t.bad = none := by decide

end VaxisModel.Props.C01SixelRest
