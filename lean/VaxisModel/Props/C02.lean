/-
C02 — Input parser conforms to the VT500 state machine plus documented extensions.
Property theorems only (helper lemmas live in Lemmas/Parser*.lean).
-/
import VaxisModel.Model.Parser
import VaxisModel.Spec.VT500
import VaxisModel.Lemmas.ParserConform
import VaxisModel.Lemmas.ParserParams
import VaxisModel.Lemmas.ParserCodec
import VaxisModel.Lemmas.Parser
import VaxisModel.Lemmas.ParserAbs
import VaxisModel.Lemmas.ParserRefineConf
import VaxisModel.Lemmas.ParserDcs
import VaxisModel.Lemmas.ParserRead
import VaxisModel.Lemmas.ParserLeak
import VaxisModel.Lemmas.ParserOut

namespace VaxisModel.Props.C02
open VaxisModel.Model.ParserTable VaxisModel.Model.Parser
open VaxisModel.Lemmas.ParserConform VaxisModel.Lemmas.ParserParams VaxisModel.Lemmas.Parser
open VaxisModel.Lemmas.ParserAbs VaxisModel.Lemmas.ParserDcs VaxisModel.Lemmas.ParserText
open VaxisModel.Model.ParserIO

/-- The hand-written transition table of the model has the same rows as the table regenerated from
    ansi/parser.go on this run: for every state function (and `anywhere`) and every input, the same
    statements in the same order and the same returned state.  (Row-wise, so that reordering disjoint
    `case` arms or splitting a guard is not a difference.) -/
theorem hand_table_eq_gen : sameRows handTable genTable = true := hand_sameRows_gen

/-- The hand model and the interpreter of the regenerated table are the same function. -/
theorem pstep_eq_pstepGen (s : PState) (i : Inp) : pstep s i = pstepGen s i :=
  (step_gen_eq_hand s i).symm

/-- **Table conformance.** For every state function of ansi/parser.go and every rune (and for the
    end of input), the statements of the arm that `anywhere` + the state function execute — read as
    Williams actions: exit-function calls as the exit action of the current state, flag and timer
    bookkeeping dropped — and the returned state are exactly the exit/transition/entry actions and
    target state that the published VT500 table with the documented extensions (Spec/VT500.lean)
    prescribes.  All 16 states × all runes: one rune per interval class by kernel evaluation, the
    whole class by the interval lemma — evaluated on the hand-written copy, which has the same
    rows. -/
theorem table_conforms (st : StateId) (i : Inp) : implRow genTable st i = specRow st i :=
  (implRow_congr handTable genTable hand_table_eq_gen st i).symm.trans
    (VaxisModel.Lemmas.ParserRefineConf.hand_conforms st i)

/-- The Spec table is total on 00–7F: every state has a row for every 7-bit code. -/
theorem spec_table_total :
    ∀ s ∈ [Spec.VT500.S.ground, .escape, .escapeIntermediate, .csiEntry, .csiParam, .csiIntermediate,
           .csiIgnore, .dcsEntry, .dcsParam, .dcsIntermediate, .dcsPassthrough, .dcsIgnore, .oscString,
           .sosPmApcString, .apcString, .ss3],
      ∀ c ∈ List.range 128,
        (Spec.VT500.findRow Spec.VT500.anywhereRows c).isSome ∨
        (Spec.VT500.findRow (Spec.VT500.overrides s ++ Spec.VT500.williams s) c).isSome := by
  decide +kernel

/-- Every statement in the arms and prologues of the state functions is in the model's vocabulary
    (an unknown one would be a silent no-op of the model). -/
theorem gen_fully_recognised : Gen.ParserTable.unrecognised = [] := rfl

/-- The constants the action bodies of the model hard-code are those of the source. -/
theorem gen_constants :
    Gen.ParserTable.csiParamSep = 0x3B ∧ Gen.ParserTable.csiSubSep = 0x3A ∧ Gen.ParserTable.csiBase = 10 ∧
    Gen.ParserTable.csiDigit0 = 0x30 ∧ Gen.ParserTable.executeGuard = .range 0x00 0x1F ∧
    Gen.ParserTable.initialState = .ground := by decide

/-- **Parameter decoding.** `csiDispatch`'s loop inverts the printed form of every parameter list:
    any number of parameters, each with any positive number of `:`-separated sub-parameters, every
    value below 2^63 (Go `int`); the empty list is the nil slice. -/
theorem decode_encode_params (ps : List (List Nat)) (hok : ParamsOk ps) :
    decodeParams (encParams ps) = ps.map (·.map Int.ofNat) :=
  VaxisModel.Lemmas.ParserCodec.decodeParams_encParams ps hok

example : ParamsOk [[38, 2, 0, 255, 128, 0], [1], [0], [9223372036854775807]] := by
  intro p hp; simp at hp; rcases hp with h | h | h | h <;> subst h <;> constructor <;> simp

/-- **CSI round trip.** From *any* parser state whose exit function is unset (in particular ground,
    and any half-read escape/control sequence, which is thereby cancelled), the bytes
    `ESC [ <private>? <params> <intermediates> <final>` of a well-formed value deliver exactly one
    item — that CSI, with its exact intermediates (private marker first), parameters, sub-parameters
    and final — and leave the parser in ground with no collected intermediates. -/
theorem csi_roundtrip (s : PState) (he : s.exit = none) (v : CsiVal) (hv : v.WF) :
    run s (encodeCsi v) =
      ({ s with state := .ground, inter := [], params := encParams v.params, ignoreST := false },
       [.csi (v.priv.toList ++ v.inters) (v.params.map (·.map Int.ofNat)) v.final]) := by
  obtain ⟨hp, hps, hi, hf1, hf2⟩ := hv
  have hpb := encParams_bytes v.params
  unfold encodeCsi
  simp only [run, pstep_esc s he]
  rw [escape_csi _ rfl]
  simp only [List.nil_append]
  cases hpriv : v.priv with
  | none =>
    simp only [Option.toList, List.nil_append]
    rw [csi_tail _ (Or.inl rfl) _ _ _ hpb hi hf1 hf2]
    simp [VaxisModel.Lemmas.ParserCodec.decodeParams_encParams v.params hps]
  | some p =>
    have hp' := hp p (by simp [hpriv])
    simp only [Option.toList, List.cons_append, List.nil_append, run]
    rw [csi_private _ rfl p hp'.1 hp'.2]
    simp only []
    rw [csi_tail _ (Or.inr rfl) _ _ _ hpb hi hf1 hf2]
    simp [VaxisModel.Lemmas.ParserCodec.decodeParams_encParams v.params hps]

-- non-vacuity: SGR with colon sub-parameters, a private mode set, a sequence with intermediates
example : (⟨none, [[38, 2, 0, 255, 128, 0], [1]], [], 0x6D⟩ : CsiVal).WF := by
  refine ⟨by simp, ?_, by simp, by decide, by decide⟩
  intro p hp; simp at hp; rcases hp with h | h <;> subst h <;> constructor <;> simp
example : (⟨some 0x3F, [[2026]], [0x24], 0x70⟩ : CsiVal).WF := by
  refine ⟨by simp, ?_, by simp, by decide, by decide⟩
  intro p hp; simp at hp; subst hp; constructor <;> simp

/-- **ESC round trip.** `ESC <intermediates> <final>`: without intermediates for every final the
    escape state dispatches (30–7F except the introducers `O P X [ \ ] ^ _`; 7F is Alt+Backspace),
    with intermediates for every final 30–7E — exactly one ESC item with the exact intermediates. -/
theorem esc_roundtrip (s : PState) (he : s.exit = none) (inters : List Nat) (final : Nat)
    (hi : ∀ b ∈ inters, 0x20 ≤ b ∧ b ≤ 0x2F)
    (hf : if inters = [] then EscFinal final else 0x30 ≤ final ∧ final ≤ 0x7E) :
    run s (0x1B :: (inters ++ [final])) =
      ({ s with state := .ground, inter := [], params := [], ignoreST := false }, [.esc inters final]) := by
  simp only [run, pstep_esc s he]
  cases inters with
  | nil =>
    simp only [if_true] at hf
    simp only [List.nil_append, run]
    rw [escape_final _ rfl final hf]
    simp
  | cons b w =>
    simp only [List.cons_ne_nil, if_false] at hf
    have hb := hi b (by simp)
    simp only [List.cons_append, run]
    rw [escape_inter _ rfl b hb.1 hb.2]
    simp only []
    rw [run_append, run_escInters w (fun b' hb' => hi b' (by simp [hb'])) _ rfl]
    simp only [run]
    rw [escInt_final _ rfl final hf.1 hf.2]
    simp

/-- `ESC \` typed as a key (no control string open) is delivered as an escape sequence. -/
theorem esc_backslash_roundtrip (s : PState) (he : s.exit = none) (hi : s.ignoreST = false) :
    run s [0x1B, 0x5C] = ({ s with state := .ground, inter := [], params := [] }, [.esc [] 0x5C]) := by
  simp only [run, pstep_esc s he]
  rw [escape_backslash _ rfl (by exact hi)]
  simp

/-- **SS3 round trip.** `ESC O c` for every rune `c ≥ 0x20` other than DEL (DEL is skipped). -/
theorem ss3_roundtrip (s : PState) (he : s.exit = none) (c : Nat) (h1 : 0x20 ≤ c) (h2 : c ≠ 0x7F) :
    run s [0x1B, 0x4F, c] =
      ({ s with state := .ground, inter := [], params := [], ignoreST := false }, [.ss3 c]) := by
  simp only [run, pstep_esc s he]
  rw [escape_ss3 _ rfl]
  simp only []
  rw [ss3_final _ rfl c h1 h2]
  simp

/-- **OSC round trip, BEL-terminated.** Every payload of runes ≥ 0x20 (any length, including
    non-ASCII) is delivered exactly once, exactly, and the accumulator is left empty. -/
theorem osc_roundtrip_bel (s : PState) (he : s.exit = none) (ho : s.osc = []) (p : List Nat)
    (hp : ∀ b ∈ p, 0x20 ≤ b) :
    run s (0x1B :: 0x5D :: (p ++ [0x07])) =
      ({ s with state := .ground, inter := [], params := [], ignoreST := false, osc := [], exit := none },
       [.osc p]) := by
  simp only [run, pstep_esc s he]
  rw [escape_osc _ rfl]
  simp only []
  rw [run_append, run_osc p hp _ rfl]
  simp only [run]
  rw [osc_bel _ rfl rfl]
  simp [ho]

/-- **OSC round trip, ST-terminated**, for a non-empty payload: the OSC is delivered when the ESC
    arrives and the `\` that completes the ST delivers nothing.  (For the empty payload see
    `Witness.F102`.) -/
theorem osc_roundtrip_st (s : PState) (he : s.exit = none) (ho : s.osc = []) (p : List Nat)
    (hp : ∀ b ∈ p, 0x20 ≤ b) (hne : p ≠ []) :
    run s (0x1B :: 0x5D :: (p ++ [0x1B, 0x5C])) =
      ({ s with state := .ground, inter := [], params := [], ignoreST := false, osc := [], exit := none },
       [.osc p]) := by
  simp only [run, pstep_esc s he]
  rw [escape_osc _ rfl]
  simp only []
  rw [run_append, run_osc p hp _ rfl]
  simp only [run]
  rw [pstep_esc_exit _ .oscEnd rfl]
  simp only [runExitFn]
  rw [escape_st _ rfl (by cases p <;> simp_all)]
  simp [ho]

/-- **APC round trip** (ST-terminated, non-empty payload of runes ≥ 0x20). -/
theorem apc_roundtrip (s : PState) (he : s.exit = none) (ha : s.apc = []) (p : List Nat)
    (hp : ∀ b ∈ p, 0x20 ≤ b) (hne : p ≠ []) :
    run s (0x1B :: 0x5F :: (p ++ [0x1B, 0x5C])) =
      ({ s with state := .ground, inter := [], params := [], ignoreST := false, apc := [], exit := none },
       [.apc p]) := by
  simp only [run, pstep_esc s he]
  rw [escape_apc _ rfl]
  simp only []
  rw [run_append, run_apc p hp _ rfl]
  simp only [run]
  rw [pstep_esc_exit _ .apcUnhook rfl]
  simp only [runExitFn]
  rw [escape_st _ rfl (by cases p <;> simp_all)]
  simp [ha]

/-- After a BEL-terminated OSC a genuine `ESC \` is delivered (the repaired F05: `ignoreST` no
    longer survives the string). -/
theorem st_after_bel_terminated_osc (s : PState) (he : s.exit = none) (ho : s.osc = []) (p : List Nat)
    (hp : ∀ b ∈ p, 0x20 ≤ b) :
    (run s (0x1B :: 0x5D :: (p ++ [0x07]) ++ [0x1B, 0x5C])).2 = [.osc p, .esc [] 0x5C] := by
  rw [run_append, osc_roundtrip_bel s he ho p hp]
  simp only []
  rw [esc_backslash_roundtrip _ rfl rfl]
  simp

example : EscFinal 0x7F := by unfold EscFinal; omega   -- Alt+Backspace
example : EscFinal 0x37 := by unfold EscFinal; omega   -- DECSC

/-- The invariant of the run loop: `p.exit` is exactly the exit function of the current state
    (`oscEnd` in oscString, `unhook` in dcsPassthrough, `apcUnhook` in apc, nil elsewhere) and
    `ignoreST` is only set inside a control string or in the escape state. -/
def Inv (s : PState) : Prop := invB (α s) = true

theorem inv_init : Inv PState.init := by unfold Inv; decide

/-- **The invariant is preserved, nothing panics, only eof stops the loop** — for every state
    satisfying the invariant and every input (all runes, and eof).  In particular the unguarded
    `p.exit()` on BEL in oscString is never a nil call, and the private `eof` arm of
    csiIntermediate (F08) is dead code: `anywhere` has already returned nil. -/
theorem invariant_step (s : PState) (h : Inv s) (i : Inp) :
    (isEof i = false → Inv (pstep s i).st) ∧ Seq.panic ∉ (pstep s i).out ∧ (pstep s i).stop = isEof i :=
  hand_inv_step s h i

/-- … hence along every run from the initial state. -/
theorem run_invariant (s : PState) (h : Inv s) (w : List Nat) :
    Inv (run s w).1 ∧ Seq.panic ∉ (run s w).2 := by
  induction w generalizing s with
  | nil => exact ⟨h, by simp [run]⟩
  | cons r w ih =>
    obtain ⟨h1, h2, _⟩ := invariant_step s h (.rune r)
    obtain ⟨g1, g2⟩ := ih _ (h1 rfl)
    simp only [run]
    exact ⟨g1, by simp [h2, g2]⟩

/-- Reachable states: the exit function matches the state, and outside control strings and the
    escape state the ST-suppression flag is clear (so a later `ESC \` is delivered). -/
theorem reachable_exit_and_flag (w : List Nat) :
    (run PState.init w).1.exit = implExit (run PState.init w).1.state ∧
    ((run PState.init w).1.state = .ground → (run PState.init w).1.ignoreST = false) := by
  have h := (invB_spec _).mp (run_invariant PState.init inv_init w).1
  simp only [α] at h
  refine ⟨h.1, fun hg => ?_⟩
  cases hi : (run PState.init w).1.ignoreST with
  | false => rfl
  | true =>
    rcases h.2 hi with h2 | h2
    · rw [hg] at h2; exact absurd h2 (by decide)
    · rw [hg] at h2; exact absurd h2 (by decide)

/-- **A malformed sequence delivers nothing.** In csiIgnore, dcsIgnore and sosPm every rune other
    than CAN/SUB/ESC emits at most C0 items (the controls that csiIgnore still executes); no
    sequence item is ever delivered from these states. -/
theorem malformed_delivers_nothing (s : PState)
    (hs : s.state = .csiIgnore ∨ s.state = .dcsIgnore ∨ s.state = .sosPm)
    (r : Nat) (h1 : r ≠ 0x18) (h2 : r ≠ 0x1A) (h3 : r ≠ 0x1B) :
    ∀ x ∈ (pstep s (.rune r)).out, ∃ c, x = Seq.c0 c := by
  obtain ⟨acts, x, hrow, hq, _⟩ := ignore_row s.state hs r
  exact (pstep_quiet s r h1 h2 h3 acts x hrow hq).1

/-- … and they stay there (or, for csiIgnore, return to ground on the final byte). -/
theorem malformed_stays (s : PState)
    (hs : s.state = .csiIgnore ∨ s.state = .dcsIgnore ∨ s.state = .sosPm)
    (r : Nat) (h1 : r ≠ 0x18) (h2 : r ≠ 0x1A) (h3 : r ≠ 0x1B) :
    (pstep s (.rune r)).st.state = s.state ∨
    (s.state = .csiIgnore ∧ 0x40 ≤ r ∧ r ≤ 0x7E ∧ (pstep s (.rune r)).st.state = .ground) := by
  obtain ⟨acts, x, hrow, hq, hx⟩ := ignore_row s.state hs r
  rw [(pstep_quiet s r h1 h2 h3 acts x hrow hq).2]
  rcases hx with rfl | ⟨h, ha, hb, rfl⟩
  · exact .inl rfl
  · exact .inr ⟨h, ha, hb, rfl⟩

/-- **Text is delivered in order** (rune level): from ground, a run of runes ≥ 0x20 (every
    printable ASCII character, DEL, and every rune ≥ 0x80 — valid scalars and raw invalid bytes
    alike) is delivered as one print each, in order, nothing lost, duplicated or altered.
    (Grouping into grapheme clusters is the reader's job: `Model/ParserIO.lean`.) -/
theorem text_in_order (s : PState) (hs : s.state = .ground) (w : List Nat) (hw : ∀ b ∈ w, 0x20 ≤ b) :
    run s w = (s, w.map .print) :=
  run_ground_text w hw s hs

/-- **DCS round trip.** `ESC P <private>? <params> <intermediates> <final> <data> ESC \` for every
    parameter list (values < 2^63), intermediates, final 40–7E and non-empty data of runes ≥ 0x20
    other than DEL: exactly one DCS item with the exact final, intermediates (private marker first),
    parameters and data, delivered when the ESC arrives; the `\` delivers nothing; the accumulator
    is left empty.  From any state with the exit function unset and no DCS pending. -/
theorem dcs_roundtrip (s : PState) (he : s.exit = none) (hd : s.dcs = {}) (priv : Option Nat) (ps inters : List Nat)
    (final : Nat) (data : List Nat)
    (hp : ∀ p ∈ priv, 0x3C ≤ p ∧ p ≤ 0x3F) (hok : ∀ x ∈ ps, x < 9223372036854775808)
    (hi : ∀ b ∈ inters, 0x20 ≤ b ∧ b ≤ 0x2F) (hf1 : 0x40 ≤ final) (hf2 : final ≤ 0x7E)
    (hdata : ∀ b ∈ data, 0x20 ≤ b ∧ b ≠ 0x7F) (hne : data ≠ []) :
    run s (0x1B :: 0x50 :: (priv.toList ++ (encDcs ps ++ (inters ++ (final :: (data ++ [0x1B, 0x5C])))))) =
      ({ s with state := .ground, inter := [], params := [], exit := none, ignoreST := false, dcs := {} },
       [.dcs final (priv.toList ++ inters) (ps.map Int.ofNat) data]) := by
  simp only [run, pstep_esc s he]
  rw [escape_dcs _ rfl]
  simp only [List.nil_append]
  cases hpriv : priv with
  | none =>
    simp only [Option.toList, List.nil_append]
    rw [dcs_tail _ (Or.inl rfl) (by rfl) (by exact hd) ps inters final data hok hi hf1 hf2 hdata hne]
    simp
  | some p =>
    have hp' := hp p (by simp [hpriv])
    simp only [Option.toList, List.cons_append, List.nil_append, run]
    rw [dcs_private _ rfl p hp'.1 hp'.2]
    simp only []
    rw [dcs_tail _ (Or.inr rfl) (by rfl) (by exact hd) ps inters final data hok hi hf1 hf2 hdata hne]
    simp

/-- **Text conservation through the reading side, printable ASCII.**  For every way of splitting
    the text into reads and *every* cluster oracle (whatever uniseg reports — no hypothesis on it),
    the parser with bufio's fill loop, `readRune` and `print`'s look-ahead/unread delivers only
    Prints followed by the end marker; no grapheme is empty and the graphemes concatenate to the
    input: nothing lost, duplicated, altered or reordered. -/
theorem text_conserved_ascii (clusterAt : Nat → Nat) (chunks : List (List Nat))
    (h : ∀ c ∈ chunks, ∀ b ∈ c, 0x20 ≤ b ∧ b < 0x80) :
    ∃ gs : List (List Nat), runChunks handTable clusterAt chunks = gs.map Item.print ++ [.seq .eof] ∧
      gs.flatten = chunks.flatten ∧ ∀ g ∈ gs, g ≠ [] := by
  have hmem : ∀ b ∈ chunks.flatten, 0x20 ≤ b ∧ b < 0x80 := fun b hb => by
    obtain ⟨c, hc, hbc⟩ := List.mem_flatten.mp hb
    exact h c hc b hbc
  obtain ⟨blocks, h1, h2, h3⟩ :=
    VaxisModel.Lemmas.ParserRead.runChunks_blocks clusterAt chunks (fun b hb => (hmem b hb).1)
  refine ⟨blocks.map Model.ParserUtf8.render, by rw [h1, List.map_map]; rfl, ?_, ?_⟩
  · have : (blocks.map Model.ParserUtf8.render).flatten = Model.ParserUtf8.decodeRunes chunks.flatten := by
      rw [Model.ParserUtf8.decodeRunes, ← h2, List.map_flatten]; rfl
    rw [this]
    exact VaxisModel.Lemmas.ParserUtf8.decodeRunes_ascii _ (fun b hb => (hmem b hb).2)
  · intro g hg
    obtain ⟨b, hb, rfl⟩ := List.mem_map.mp hg
    have := VaxisModel.Lemmas.ParserRead.BlocksOk_ne_nil _ _ _ _ h3 b hb
    simpa [Model.ParserUtf8.render] using this

/-- **Chunk independence (printable ASCII)**: two ways of splitting the same text into reads, under
    any two cluster oracles, deliver the same text once adjacent Prints are merged. -/
theorem chunk_independent_ascii (cl1 cl2 : Nat → Nat) (c1 c2 : List (List Nat)) (hsame : c1.flatten = c2.flatten)
    (h1 : ∀ c ∈ c1, ∀ b ∈ c, 0x20 ≤ b ∧ b < 0x80) (h2 : ∀ c ∈ c2, ∀ b ∈ c, 0x20 ≤ b ∧ b < 0x80) :
    ∃ g1 g2 : List (List Nat),
      runChunks handTable cl1 c1 = g1.map Item.print ++ [.seq .eof] ∧
      runChunks handTable cl2 c2 = g2.map Item.print ++ [.seq .eof] ∧ g1.flatten = g2.flatten := by
  obtain ⟨g1, a1, a2, _⟩ := text_conserved_ascii cl1 c1 h1
  obtain ⟨g2, b1, b2, _⟩ := text_conserved_ascii cl2 c2 h2
  exact ⟨g1, g2, a1, b1, by rw [a2, b2, hsame]⟩

/-- **No leak.**  Whatever intermediates and parameter bytes are left over in the parser from an
    earlier sequence — finished, cancelled or malformed — they never influence what is delivered
    afterwards: from any state in which no sequence header is being collected (ground, ss3, the
    control-string states, the ignore states), replacing the leftovers by anything else changes
    nothing in the items delivered for any following input.  (Table check: in those states every arm
    either does not touch `intermediate`/`params` or clears them first — `ParserLeak.deadOk'`, evaluated on
    one rune per interval class and extended to every rune by `rowOk_all` — then a simulation along the run.) -/
theorem no_leak (s : PState) (hd : VaxisModel.Lemmas.ParserLeak.dead s.state = true)
    (inter params : List Nat) (w : List Nat) :
    (run s w).2 = (run { s with inter := inter, params := params } w).2 := by
  have key : ∀ (w : List Nat) (a b : PState), VaxisModel.Lemmas.ParserLeak.Rel a b → (run a w).2 = (run b w).2 := by
    intro w
    induction w with
    | nil => intro a b _; rfl
    | cons c w ih =>
      intro a b hab
      obtain ⟨h1, _, h3⟩ := VaxisModel.Lemmas.ParserLeak.hand_step_rel a b hab (.rune c)
      simp only [run, pstep]
      rw [h1, ih _ _ h3]
  exact key w _ _ (Or.inr ⟨hd, rfl, rfl, rfl, rfl, rfl, rfl⟩)

-- non-vacuity: ground with stale parameter bytes and intermediates from `ESC [ 3 ; 1 $` + CAN
example : VaxisModel.Lemmas.ParserLeak.dead (run PState.init [0x1B, 0x5B, 0x33, 0x3B, 0x31, 0x24, 0x18]).1.state = true ∧
    (run PState.init [0x1B, 0x5B, 0x33, 0x3B, 0x31, 0x24, 0x18]).1.params = [0x33, 0x3B, 0x31] := by decide

/-- **Every parameter of every delivered CSI has at least one element** (so `p[0]` in the handlers
    of C03/C05/C18 cannot be out of range) — for every table, state and input. -/
theorem params_nonempty (T : Table) (s : PState) (i : Inp) (inter : List Nat) (params : List (List Int))
    (final : Nat) (h : Seq.csi inter params final ∈ (step T s i).out) : ∀ q ∈ params, q ≠ [] :=
  VaxisModel.Lemmas.ParserOut.step_forall VaxisModel.Lemmas.ParserOut.CsiOk
    VaxisModel.Lemmas.ParserOut.applyAct_csiOk (by intro i p f h; cases h) T s i _ h inter params final rfl

end VaxisModel.Props.C02
