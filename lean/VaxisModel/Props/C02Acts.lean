/-
C02: the bodies of the parser's action methods are tied to the source.  `Gen/ParserActs.lean` is regenerated from
ansi/parser.go on every run (one statement skeleton per action method); the theorems say that interpreting the regenerated
skeleton (`Model/ParserActs.lean: interpBody`) gives, for every rune and every parser state, exactly what the hand-written model
(`applyAct`, `runExitFn`, `decodeLoop`, `hookParams`) gives.  The proofs evaluate the interpreter on whatever was regenerated —
no copy of a statement list is compared.  Last: over-long digit strings (csiDispatch wraps silently, hook reports an error).
-/
import VaxisModel.Gen.ParserActs
import VaxisModel.Lemmas.ParserActs

namespace VaxisModel.Props.C02Acts
open VaxisModel.Model.Parser VaxisModel.Model.ParserActs VaxisModel.Model.ParserTable
open VaxisModel.Lemmas.ParserActs
open VaxisModel

/-- Every statement of every action body is in the extractor's vocabulary (no `.unknown`). -/
theorem acts_fully_recognised : Gen.ParserActs.unrecognised = [] := rfl

/-- `collect(r)` as written in the source = `applyAct .collect`: appends `r` to `p.intermediate`. -/
theorem collect_body (r : Rune) (s : PState) :
    interpBody Gen.ParserActs.collectBody r s = applyAct .collect r s := rfl

/-- `param(r)` as written in the source = `applyAct .param`: appends `r` to `p.params`. -/
theorem param_body (r : Rune) (s : PState) :
    interpBody Gen.ParserActs.paramBody r s = applyAct .param r s := rfl

/-- `put(r)` as written in the source = `applyAct .put`: appends `r` to `p.dcs.Data`. -/
theorem put_body (r : Rune) (s : PState) :
    interpBody Gen.ParserActs.putBody r s = applyAct .put r s := rfl

/-- `oscPut(r)` as written in the source = `applyAct .oscPut`: appends `r` to `p.oscData`. -/
theorem oscPut_body (r : Rune) (s : PState) :
    interpBody Gen.ParserActs.oscPutBody r s = applyAct .oscPut r s := rfl

/-- `clear()` as written in the source = `applyAct .clear`: truncates `p.intermediate` and `p.params`
    (and writes the unused `p.final`), nothing else. -/
theorem clear_body (r : Rune) (s : PState) :
    interpBody Gen.ParserActs.clearBody r s = applyAct .clear r s := rfl

/-- `oscStart()` as written in the source = `applyAct .oscStart`: `p.exit = p.oscEnd`. -/
theorem oscStart_body (r : Rune) (s : PState) :
    interpBody Gen.ParserActs.oscStartBody r s = applyAct .oscStart r s := rfl

/-- `execute(r)` as written in the source = `applyAct .execute`: one `C0(r)` exactly for `r ≤ 0x1F`. -/
theorem execute_body (r : Rune) (s : PState) :
    interpBody Gen.ParserActs.executeBody r s = applyAct .execute r s := by
  by_cases h : r ≤ 0x1F <;>
    simp [interpBody, Gen.ParserActs.executeBody, interpStmts, interpStmt, applyAct, h]

/-- `escapeDispatch(r)` as written in the source = `applyAct .escapeDispatch`: one `ESC` with final `r`
    and the collected intermediates, which are moved out of the parser. -/
theorem escapeDispatch_body (r : Rune) (s : PState) :
    interpBody Gen.ParserActs.escapeDispatchBody r s = applyAct .escapeDispatch r s := by
  obtain ⟨state, inter, params, exit, ignoreST, osc, apc, dcs⟩ := s
  cases inter <;>
    simp [interpBody, Gen.ParserActs.escapeDispatchBody, interpStmts, interpStmt, emitSeq, applyAct]

/-- `oscEnd()` as written in the source = `runExitFn · .oscEnd`: emit `OSC{p.oscData}`, then reset it. -/
theorem oscEnd_body (r : Rune) (s : PState) :
    interpBody Gen.ParserActs.oscEndBody r s = runExitFn s .oscEnd := rfl

/-- `unhook()` as written in the source = `runExitFn · .unhook`: emit `p.dcs`, then `p.dcs = DCS{}`. -/
theorem unhook_body (r : Rune) (s : PState) :
    interpBody Gen.ParserActs.unhookBody r s = runExitFn s .unhook := rfl

/-- `apcUnhook()` as written in the source = `runExitFn · .apcUnhook`: emit `APC{p.apcData}`, then reset it. -/
theorem apcUnhook_body (r : Rune) (s : PState) :
    interpBody Gen.ParserActs.apcUnhookBody r s = runExitFn s .apcUnhook := rfl

/-- What was recognised in `csiDispatch`: the body has a `for i := 0; i < len(p.params); i += 1 { b := p.params[i];
    switch b {…} }` loop; **every** such loop in it switches on exactly the separators `;` (0x3B) and `:`
    (0x3A) and its `default` clause multiplies by 10 and subtracts the digit offset 0x30.  (What the
    statements *compute* is `csiDispatch_loop_eq_decodeLoop` / `csiDispatch_body`, proved by evaluating
    the interpreter on the regenerated body — not by comparing it with a copy.) -/
theorem csiDispatch_skeleton :
    (∃ cases dflt, BStmt.paramLoop cases dflt ∈ Gen.ParserActs.csiDispatchBody) ∧
    ∀ cases dflt, BStmt.paramLoop cases dflt ∈ Gen.ParserActs.csiDispatchBody →
      (∀ c, c ∈ cases.map Prod.fst ↔ (c = 0x3B ∨ c = 0x3A)) ∧
      LoopOp.psMulConst 10 ∈ dflt ∧ LoopOp.psAddDigit 0x30 ∈ dflt := by
  refine ⟨⟨_, _, by simp [Gen.ParserActs.csiDispatchBody]; exact ⟨rfl, rfl⟩⟩, ?_⟩
  intro cases dflt h
  simp [Gen.ParserActs.csiDispatchBody] at h
  obtain ⟨rfl, rfl⟩ := h
  simp

/-- One iteration of the loop of `csiDispatch` as written in the source (`switch b`: `case ';'`,
    `case ':'`, `default`), on **any** byte and **any** loop state. -/
theorem csiDispatch_step (cases : List (Nat × List LoopOp)) (dflt : List LoopOp)
    (h : BStmt.paramLoop cases dflt ∈ Gen.ParserActs.csiDispatchBody) : CsiStep cases dflt := by
  simp [Gen.ParserActs.csiDispatchBody] at h
  obtain ⟨rfl, rfl⟩ := h
  intro b st
  by_cases h1 : b = 0x3B
  · subst h1; simp [findCase, runOps, LoopOp.run]
  · by_cases h2 : b = 0x3A
    · subst h2; simp [findCase, runOps, LoopOp.run]
    · simp [findCase, h1, h2, runOps, LoopOp.run, wrap64_mul_add]

/-- The `for` loop of `csiDispatch` as written in the source, run over **any** parameter bytes from
    **any** loop state `(ps, param, csi.Parameters)` and followed by the two statements after the loop,
    computes `decodeLoop` (with Go `int` wrap-around on `*=` and `+=`). -/
theorem csiDispatch_loop_eq_decodeLoop (cases : List (Nat × List LoopOp)) (dflt : List LoopOp)
    (h : BStmt.paramLoop cases dflt ∈ Gen.ParserActs.csiDispatchBody) (bs : List Rune) (st : LoopSt) :
    (loopRun cases dflt bs st).acc ++ [(loopRun cases dflt bs st).param ++ [(loopRun cases dflt bs st).ps]]
      = decodeLoop bs st.ps st.param st.acc :=
  loopRun_sem cases dflt (csiDispatch_step cases dflt h) bs st

/-- `csiDispatch(r)` as written in the source = `applyAct .csiDispatch`: one `CSI` with final `r`, the
    collected intermediates (moved out of the parser) and `decodeParams p.params` (nil when empty). -/
theorem csiDispatch_body (r : Rune) (s : PState) :
    interpBody Gen.ParserActs.csiDispatchBody r s = applyAct .csiDispatch r s := by
  obtain ⟨state, inter, params, exit, ignoreST, osc, apc, dcs⟩ := s
  have key := fun cs d h => csiDispatch_loop_eq_decodeLoop cs d h params {}
  cases inter <;> cases params <;>
    simp [interpBody, Gen.ParserActs.csiDispatchBody, interpStmts, interpStmt, emitSeq, applyAct, decodeParams,
      LoopOp.run] <;>
    exact key _ _ (by simp [Gen.ParserActs.csiDispatchBody])

/-- What was recognised in `hook`: the body splits `p.params` at `;` (0x3B) — and at nothing else —
    and has a `for _, param := range paramStr` loop.  (What the statements compute is
    `hook_loop_eq_hookParams` / `hook_body`, by evaluating the interpreter on the regenerated body.) -/
theorem facts_hook :
    BStmt.splitParams 0x3B ∈ Gen.ParserActs.hookBody ∧
    (∀ sep, BStmt.splitParams sep ∈ Gen.ParserActs.hookBody → sep = 0x3B) ∧
    ∃ ops, BStmt.hookLoop ops ∈ Gen.ParserActs.hookBody := by
  refine ⟨by decide, ?_, ⟨_, by simp [Gen.ParserActs.hookBody]; rfl⟩⟩
  intro sep h
  simpa [Gen.ParserActs.hookBody] using h

/-- The body of hook's `range` loop as written in the source, on **any** field: empty ⇒ append 0 and
    continue; `strconv.Atoi` fails ⇒ one `err` item and `return`; else append the value. -/
theorem hook_field (ops : List HookOp) (h : BStmt.hookLoop ops ∈ Gen.ParserActs.hookBody) : HookFieldOk ops := by
  simp [Gen.ParserActs.hookBody] at h
  subst h
  intro f ps
  by_cases he : f.isEmpty = true
  · simp [hookField, he]
  · cases ha : atoi f <;> simp [hookField, he, ha]

/-- The `range` loop of `hook` as written in the source, over any fields and from any `params`:
    without an Atoi error it appends exactly `hookParams fields`, emits nothing and falls through;
    with one it emits exactly one `err` item and returns from `hook`. -/
theorem hook_loop_eq_hookParams (ops : List HookOp) (h : BStmt.hookLoop ops ∈ Gen.ParserActs.hookBody)
    (fs : List (List Rune)) (acc : List Int) :
    (∀ l, hookParams fs = some l → hookLoopRun ops fs acc = (acc ++ l, [], false)) ∧
    (hookParams fs = none → ∃ ps, hookLoopRun ops fs acc = (ps, [.err], true)) :=
  ⟨fun l hl => hookLoop_some ops (hook_field ops h) fs acc l hl,
   fun hn => hookLoop_none ops (hook_field ops h) fs acc hn⟩

/-- `hook(r)` as written in the source = `applyAct .hook` (exit function, fresh `p.dcs`, intermediates
    moved, Split + Atoi parameters, error ⇒ one `err` item and Parameters left nil). -/
theorem hook_body (r : Rune) (s : PState) :
    interpBody Gen.ParserActs.hookBody r s = applyAct .hook r s := by
  obtain ⟨state, inter, params, exit, ignoreST, osc, apc, dcs⟩ := s
  cases hh : hookParams (splitOn 0x3B params []) with
  | none =>
    obtain ⟨ps, hps⟩ := (hook_loop_eq_hookParams _ (by simp [Gen.ParserActs.hookBody]; rfl) (splitOn 0x3B params []) []).2 hh
    cases inter <;> cases params <;>
      simp_all [interpBody, Gen.ParserActs.hookBody, interpStmts, interpStmt, applyAct]
  | some l =>
    have := (hook_loop_eq_hookParams _ (by simp [Gen.ParserActs.hookBody]; rfl) (splitOn 0x3B params []) []).1 l hh
    cases inter <;> cases params <;>
      simp_all [interpBody, Gen.ParserActs.hookBody, interpStmts, interpStmt, applyAct]

/-- `wrap64 x` is the representative of `x` mod 2^64 in the signed 64-bit range (what Go `int`
    arithmetic delivers), and it is the identity on that range. -/
theorem wrap64_spec (x : Int) :
    -9223372036854775808 ≤ wrap64 x ∧ wrap64 x < 9223372036854775808 ∧
    wrap64 x % 18446744073709551616 = x % 18446744073709551616 ∧
    (-9223372036854775808 ≤ x → x < 9223372036854775808 → wrap64 x = x) :=
  ⟨(wrap64_range x).1, (wrap64_range x).2, wrap64_emod x, wrap64_id x⟩

/-- `wrap64` commutes with one digit step (`ps *= 10; ps += d`): wrapping after every operation, as
    the machine does, equals wrapping the exact result once. -/
theorem wrap64_digit_step (a d : Int) :
    wrap64 (wrap64 (a * 10) + d) = wrap64 (a * 10 + d) ∧ wrap64 (wrap64 a * 10 + d) = wrap64 (a * 10 + d) :=
  ⟨wrap64_mul_add a d, wrap64_step a d⟩

/-- A parameter string of digits only, of **any** length, decodes to the single parameter
    `wrap64 (decimal ds)`: its decimal value reduced mod 2^64 into the signed range.  No error, no
    saturation: an over-long number is delivered silently wrapped (possibly negative). -/
theorem decodeLoop_digits (ds : List Rune) (h : ds.all isDigit = true) :
    decodeLoop ds 0 [] [] = [[wrap64 (decimal ds)]] :=
  Lemmas.ParserActs.decodeLoop_digits ds h

/-- … and when the number fits (`< 2^63`) the delivered value is exact. -/
theorem decodeLoop_digits_exact (ds : List Rune) (h : ds.all isDigit = true)
    (hfit : decimal ds < 9223372036854775808) :
    decodeLoop ds 0 [] [] = [[(decimal ds : Int)]] := by
  rw [decodeLoop_digits ds h, wrap64_id] <;> omega

/-- The same through the source's skeleton: `csiDispatch` on a non-empty all-digit `p.params` emits
    one CSI whose only parameter is `wrap64 (decimal p.params)`. -/
theorem csiDispatch_overlong_wraps (r : Rune) (s : PState) (h : s.params.all isDigit = true)
    (hne : s.params ≠ []) :
    (interpBody Gen.ParserActs.csiDispatchBody r s).2 = [.csi s.inter [[wrap64 (decimal s.params)]] r] := by
  rw [csiDispatch_body]
  have : s.params.isEmpty = false := by cases hp : s.params <;> simp_all
  simp [applyAct, decodeParams, this, decodeLoop_digits s.params h]

/-- Non-vacuity and a concrete value: the 30-digit parameter `123456789012345678901234567890` is
    delivered as `-4362896299872285998` — the number real Go computes with `ps *= 10; ps += d`. -/
example : digits30.all isDigit = true ∧ decimal digits30 = 123456789012345678901234567890 ∧
    decodeLoop digits30 0 [] [] = [[-4362896299872285998]] ∧
    (interpBody Gen.ParserActs.csiDispatchBody 0x6D { params := digits30 }).2
      = [.csi [] [[-4362896299872285998]] 0x6D] := by decide +kernel

/-- `hook` does **not** wrap: an all-digit `p.params` whose value is ≥ 2^63 makes `strconv.Atoi` fail, so
    `hook` (as written in the source) emits exactly one `err` item and leaves `p.dcs.Parameters` nil;
    the exit function, final and intermediates are already set. -/
theorem hook_overflow_err (r : Rune) (s : PState) (h : s.params.all isDigit = true)
    (hbig : 9223372036854775808 ≤ decimal s.params) :
    interpBody Gen.ParserActs.hookBody r s
      = ({ s with exit := some .unhook, dcs := { final := r, inter := s.inter }, inter := [] }, [.err]) := by
  rw [hook_body]
  have hne : s.params.isEmpty = false := by
    cases hp : s.params with
    | nil => rw [hp] at hbig; simp [decimal] at hbig
    | cons _ _ => rfl
  have hat : atoi s.params = none := by
    have : ¬ decimal s.params < 9223372036854775808 := by omega
    simp [atoi, this]
  simp [applyAct, hne, splitOn_digits s.params h, hookParams, hat]

/-- … and a value `< 2^63` is delivered exactly as the single DCS parameter. -/
theorem hook_in_range_ok (r : Rune) (s : PState) (h : s.params.all isDigit = true)
    (hne : s.params ≠ []) (hfit : decimal s.params < 9223372036854775808) :
    interpBody Gen.ParserActs.hookBody r s
      = ({ s with exit := some .unhook,
                  dcs := { final := r, inter := s.inter, params := [(decimal s.params : Int)] },
                  inter := [] }, []) := by
  rw [hook_body]
  have hne' : s.params.isEmpty = false := by cases hp : s.params <;> simp_all
  have hat : atoi s.params = some (decimal s.params : Int) := by simp [atoi, h, hfit]
  simp [applyAct, hne', splitOn_digits s.params h, hookParams, hat]

/-- Non-vacuity: 2^63 itself (`9223372036854775808`) is an all-digit parameter at the error boundary;
    the 30-digit number is far beyond it. -/
example : digitsTwo63.all isDigit = true ∧ decimal digitsTwo63 = 9223372036854775808 ∧
    (interpBody Gen.ParserActs.hookBody 0x71 { params := digitsTwo63 }).2 = [.err] ∧
    (interpBody Gen.ParserActs.hookBody 0x71 { params := digits30 }).2 = [.err] ∧
    (interpBody Gen.ParserActs.hookBody 0x71 { params := digits30 }).1.dcs.params = [] := by decide +kernel

end VaxisModel.Props.C02Acts
