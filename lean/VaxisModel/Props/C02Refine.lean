/-
C02 — whole-stream refinement  model ⊑ Spec.VT500.  For every byte stream and every split into reads, the list of delivered
sequences is what the reference machine of Spec/VT500.lean (Williams' table + the documented extensions) prescribes — modulo
exactly the one recorded deviation F102 (the reference machine runs with `devAll` = `{ lazyST := true }`); the cluster oracle
is only assumed never to join a C0 control (`Respects`: uniseg GB4/GB5); numbers are rendered as Go delivers them (`specSeq`:
CSI values wrap in a 64-bit `int`, a DCS with a value ≥ 2^63 has nil parameters), `error` reports dropped, Prints merged.
-/
import VaxisModel.Lemmas.ParserRefineRun
import VaxisModel.Lemmas.ParserCodec
import VaxisModel.Lemmas.ParserUtf8Spec
import VaxisModel.Props.C02Text

namespace VaxisModel.Props.C02Refine
open VaxisModel.Model.ParserTable VaxisModel.Model.Parser VaxisModel.Model.ParserIO VaxisModel.Model.ParserUtf8
open VaxisModel.Lemmas.ParserRefine VaxisModel.Lemmas.ParserRefineCheck VaxisModel.Lemmas.ParserRefineConf VaxisModel.Lemmas.ParserRefineStep VaxisModel.Lemmas.ParserRefineRun
open VaxisModel.Lemmas.ParserRead VaxisModel.Lemmas.ParserCodec

/-- What the Spec prescribes for a rune stream under the deviations `d`: the items that must be
    delivered, then those of the control string still open at the end of input. -/
def specItems (d : Spec.VT500.Dev) (rs : List Nat) : List Spec.VT500.Item :=
  (Spec.VT500.runD d rs).1 ++ (Spec.VT500.runD d rs).2

/-- **The table-wide check behind the simulation** holds for every state, every value of the
    Spec's control flags and every rune: each row of `anywhere` and of the state functions, pushed
    through the abstract interpreter, meets the requirements of its statements (what is dispatched
    was collected on both sides, exit functions match the state, `execute` only on C0, `param` only
    on 30–3B, …) and establishes the relation of the target state, including `ignoreST` = the Spec's
    ST-suppression flag with F102 switched on (F102c is repaired: a C0 executed in `escape` keeps it).  (Kernel-decided on
    one rune per interval class of the constants the check compares the rune with; the interval lemma
    for the class.) -/
theorem step_check (st : StateId) (after fresh : Bool) (c : Nat) : stepCheck st after fresh c = true :=
  stepCheck_all st after fresh c

/-- **One step of the automaton refines one step of the reference machine** (any related states,
    any rune). -/
theorem step_refines (s : PState) (m : Spec.VT500.M) (hR : R s m) (c : Nat) :
    R (pstep s (.rune c)).st (Spec.VT500.stepRuneD devAll m c).1 ∧
    noErr (pstep s (.rune c)).out = (Spec.VT500.stepRuneD devAll m c).2.map specSeq ∧
    (pstep s (.rune c)).stop = false :=
  sim_step codec s m hR c

/-- **Rune level, whole streams**: the automaton from its initial state over any list of runes, then
    end of input, delivers exactly the Spec's items (under `devAll`), then `EOF{}`. -/
theorem runes_refine_spec (rs : List Nat) :
    noErr (runRunes handTable PState.init rs) = (specItems devAll rs).map specSeq ++ [.eof] := by
  have := sim_run codec rs PState.init {} R_init
  simpa [specItems, Spec.VT500.runD] using this

/-- **Parameter decoders agree — including Go `int` overflow.**  For any parameter bytes that can be
    collected (30–3B), `csiDispatch`'s loop delivers the Spec's parameters and sub-parameters
    (`;` / `:` split, empty field = 0) with every number reduced mod 2^64 into the signed range
    (`goInt`: exact below 2^63; a 30-digit parameter wraps, as the real code does). -/
theorem codec_csi_holds (ps : List Nat) (hps : ∀ b ∈ ps, 0x30 ≤ b ∧ b ≤ 0x3B) :
    decodeParams ps = (Spec.VT500.parseParams ps).map (·.map goInt) :=
  codec_csi ps hps

/-- … and `hook` (`strings.Split` + `strconv.Atoi`) delivers the Spec's DCS parameters, or reports an
    error and delivers none exactly when one of them does not fit a Go `int` (≥ 2^63). -/
theorem codec_dcs_holds (ps : List Nat) (hne : ps ≠ []) (hps : ∀ b ∈ ps, 0x30 ≤ b ∧ b ≤ 0x3B ∧ b ≠ 0x3A) :
    hookParams (splitOn 0x3B ps []) =
      (if (Spec.VT500.parseDcsParams ps).all (fun p => decide (p < 9223372036854775808))
       then some ((Spec.VT500.parseDcsParams ps).map Int.ofNat) else none) :=
  codec_dcs ps hne hps

/-- **model ⊑ Spec, whole byte streams, every read splitting**, modulo exactly the one recorded
    deviation: the reference machine runs with F102 switched on (`devAll`).  The oracle is only
    assumed never to join a C0 control (a property of uniseg, not of the code).  `_partial` because
    of F102 only. -/
theorem model_refines_spec_partial (cl : Nat → Nat) (chunks : List (List UInt8))
    (hR : Respects cl 0 (units (streamOf chunks))) :
    noErr (flat (runChunks handTable cl (natChunks chunks))) =
      (specItems devAll (decodeRunes (streamOf chunks))).map specSeq ++ [.eof] := by
  rw [runChunks_flat cl (natChunks chunks) hR]
  exact runes_refine_spec _

/-- **… and against the Spec proper** (`Dev.none`) for every stream that never gets into the
    situation in which F102 can show (`Avoids`: no ESC into a control string that has no payload
    yet). -/
theorem model_refines_spec_clean (cl : Nat → Nat) (chunks : List (List UInt8))
    (hR : Respects cl 0 (units (streamOf chunks)))
    (hA : Avoids {} (decodeRunes (streamOf chunks)) = true) :
    noErr (flat (runChunks handTable cl (natChunks chunks))) =
      (specItems Spec.VT500.Dev.none (decodeRunes (streamOf chunks))).map specSeq ++ [.eof] := by
  rw [model_refines_spec_partial cl chunks hR]
  simp only [specItems, Spec.VT500.runD, runFromD_eq devAll rfl {} _ hA, runFromD_eq Spec.VT500.Dev.none rfl {} _ hA]

/-- The same for the interpreter of the table **regenerated from ansi/parser.go on this run** (what the
    correspondence driver executes): a change to any `case`, statement or `return` of a state
    function changes `genTable` and this theorem is re-checked against it. -/
theorem gen_model_refines_spec_partial (cl : Nat → Nat) (chunks : List (List UInt8))
    (hR : Respects cl 0 (units (streamOf chunks))) :
    noErr (flat (runChunks genTable cl (natChunks chunks))) =
      (specItems devAll (decodeRunes (streamOf chunks))).map specSeq ++ [.eof] := by
  have : runChunks genTable cl (natChunks chunks) = runChunks handTable cl (natChunks chunks) := by
    unfold runChunks
    rw [runLoop_table_congr genTable handTable VaxisModel.Lemmas.ParserAbs.step_gen_eq_hand]
  rw [this]
  exact model_refines_spec_partial cl chunks hR

open VaxisModel.Model.ParserReaderInterp in
/-- **… and for everything regenerated at once**: the transition table regenerated from the state
    functions *and* the bodies of `readRune` and `print` regenerated as statement skeletons and
    interpreted (`runChunksI` — what the correspondence driver runs): every byte stream, every read
    splitting, any oracle that never joins a C0 control ⇒ exactly the Spec's items (F102 on), `EOF{}`. -/
theorem gen_interpreted_refines_spec (cl : Nat → Nat) (chunks : List (List UInt8))
    (hR : Respects cl 0 (units (streamOf chunks))) :
    (runChunksI Gen.ParserReader.readRuneBody Gen.ParserReader.printBody genTable cl (natChunks chunks)).map
        (fun items => noErr (flat items)) =
      some ((specItems devAll (decodeRunes (streamOf chunks))).map specSeq ++ [.eof]) := by
  rw [VaxisModel.Props.C02Text.reader_interpreted_eq_model]
  simp only [Option.map_some]
  rw [gen_model_refines_spec_partial cl chunks hR]

/-- **The model's UTF-8 decoding is the Spec's** (`Spec.VT500.decode`: Table 3-7 of the Unicode
    standard, every byte that does not start a well-formed sequence delivered raw) — every byte list. -/
theorem decoder_is_spec (bs : List Nat) : Spec.VT500.decode bs = decodeRunes bs :=
  VaxisModel.Lemmas.ParserUtf8Spec.decode_eq bs

/-- **The refinement theorem entirely in Spec terms**: bytes → `Spec.VT500.decode` → `Spec.VT500.runD`
    — what the driver's oracle computes for every case of the correspondence run — equals what the
    model of the code delivers, for every byte stream and every read splitting (same exclusions). -/
theorem model_refines_spec_bytes (cl : Nat → Nat) (chunks : List (List UInt8))
    (hR : Respects cl 0 (units (streamOf chunks))) :
    noErr (flat (runChunks handTable cl (natChunks chunks))) =
      (specItems devAll (Spec.VT500.decode (streamOf chunks))).map specSeq ++ [.eof] := by
  rw [decoder_is_spec]
  exact model_refines_spec_partial cl chunks hR

/-- With an oracle that joins invalid bytes to what precedes them at will (as uniseg does after a Prepend
    character), every byte stream and every read splitting delivers exactly the Spec's items for the
    decoded stream itself.  Same statement as `model_refines_spec_bytes`; the F102d witness oracle is
    the example below. -/
theorem model_refines_spec_exact (cl : Nat → Nat) (chunks : List (List UInt8))
    (hR : Respects cl 0 (units (streamOf chunks))) :
    noErr (flat (runChunks handTable cl (natChunks chunks))) =
      (specItems devAll (Spec.VT500.decode (streamOf chunks))).map specSeq ++ [.eof] :=
  model_refines_spec_bytes cl chunks hR

-- the oracle of the F102d witness is admitted (it joins the invalid byte FF to U+0600) …
example : Respects (fun p => if p = 0 then 2 else 1) 0 (units [0xD8, 0x80, 0xFF]) := by decide
-- … and the stream is delivered unaltered
example : noErr (flat (runChunks handTable (fun p => if p = 0 then 2 else 1) (natChunks [[0xD8, 0x80, 0xFF]]))) =
    [.print 0x600, .print 0xFF, .eof] := by decide

/-- The full statement: the Spec proper (`Dev.none`), any oracle.  False of the code (F102:
    `Witness/F102.lean`). -/
def model_refines_spec_full : Prop :=
  ∀ (cl : Nat → Nat) (chunks : List (List UInt8)),
    noErr (flat (runChunks handTable cl (natChunks chunks))) =
      (specItems Spec.VT500.Dev.none (decodeRunes (streamOf chunks))).map specSeq ++ [.eof]

-- non-vacuity of `Avoids`: a stream with CSI, a BEL-terminated and an ST-terminated OSC, text
example : Avoids {} [0x1B, 0x5B, 0x31, 0x6D, 0x1B, 0x5D, 0x78, 0x07, 0x1B, 0x5D, 0x79, 0x1B, 0x5C, 0x41] = true := by decide
-- … the recorded F102 input is exactly outside it; the F102c input (a C0 between the ESC and the `\`) is inside
example : Avoids {} [0x1B, 0x5D, 0x1B, 0x5C] = false ∧ Avoids {} [0x1B, 0x5D, 0x30, 0x1B, 0x0A, 0x5C] = true := by decide

-- non-vacuity: the relation holds initially; a stream through CSI with sub-parameters, OSC, text
example : R PState.init {} := R_init
example : noErr (flat (runChunks handTable (fun _ => 1)
      (natChunks [[0x1B, 0x5B, 0x33, 0x38, 0x3A, 0x35], [0x3B, 0x31, 0x6D, 0xC3], [0xA9, 0x1B, 0x5D, 0x78, 0x07]]))) =
    (specItems devAll (decodeRunes (streamOf [[0x1B, 0x5B, 0x33, 0x38, 0x3A, 0x35, 0x3B, 0x31, 0x6D, 0xC3, 0xA9,
      0x1B, 0x5D, 0x78, 0x07]]))).map specSeq ++ [.eof] := by decide +kernel

end VaxisModel.Props.C02Refine
