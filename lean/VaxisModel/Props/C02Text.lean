/-
C02 — text and read splitting for **arbitrary byte streams**: the UTF-8 level
(`utf8.DecodeRune`/`FullRune`, `readRune`'s raw-byte fallback), bufio's fill loop over any split
into reads at any byte offset, and `print`'s grapheme look-ahead with any cluster oracle.
Property theorems only (lemmas: Lemmas/ParserUtf8.lean, ParserTextU.lean, ParserRead.lean).
-/
import VaxisModel.Lemmas.ParserRead
import VaxisModel.Lemmas.ParserAbs
import VaxisModel.Gen.ParserReader
import VaxisModel.Lemmas.ParserReaderInterp

namespace VaxisModel.Props.C02Text
open VaxisModel.Model.ParserTable VaxisModel.Model.Parser VaxisModel.Model.ParserIO VaxisModel.Model.ParserUtf8
open VaxisModel.Lemmas.ParserUtf8 VaxisModel.Lemmas.ParserTextU VaxisModel.Lemmas.ParserRead
open VaxisModel.Lemmas.ParserConform VaxisModel.Lemmas.ParserText

/-- **decode ∘ encode.**  For every Unicode scalar value `r` (0–D7FF, E000–10FFFF) and whatever
    follows it in the stream, the parser's decoding (`utf8.DecodeRune` + the `size == 1` fallback of
    `readRune`) of `EncodeRune(r) ++ rest` is `r` followed by the decoding of `rest`. -/
theorem utf8_decode_encode (r : Nat) (hr : IsScalar r) (rest : List Nat) :
    decodeRunes (encodeRune r ++ rest) = r :: decodeRunes rest :=
  decodeRunes_encode r hr rest

/-- … hence `decode (encode r) = [r]` and, for every list of scalar values, `decode (encode rs) = rs`. -/
theorem utf8_roundtrip (rs : List Nat) (h : ∀ r ∈ rs, IsScalar r) : decodeRunes (rs.flatMap encodeRune) = rs :=
  decodeRunes_encodeAll rs h

example : IsScalar 0x1F600 ∧ IsScalar 0xFFFD ∧ IsScalar 0x10FFFF ∧ ¬ IsScalar 0xD800 ∧ ¬ IsScalar 0x110000 := by decide

/-- **encode ∘ decode.**  Whenever `utf8.DecodeRune` does not report an invalid byte the rune is a
    scalar value and the bytes consumed are exactly its (shortest) encoding: overlong forms,
    surrogates, values above U+10FFFF and truncated sequences are never accepted. -/
theorem utf8_valid_is_encoding (b : Nat) (t : List Nat)
    (h : ¬((decodeRune (b :: t)).1 = runeError ∧ (decodeRune (b :: t)).2 = 1)) :
    IsScalar (decodeRune (b :: t)).1 ∧ encodeRune (decodeRune (b :: t)).1 = (b :: t).take (decodeRune (b :: t)).2 :=
  decodeRune_valid b t h

/-- **Invalid bytes are delivered as themselves**: a byte at which no encoding of a scalar value
    starts is one rune — its own value — and decoding resumes at the next byte. -/
theorem utf8_invalid_raw (b : Nat) (t : List Nat) (h : ∀ r, IsScalar r → ¬ (encodeRune r <+: b :: t)) :
    decodeRunes (b :: t) = b :: decodeRunes t := by
  have hinv := (unit1_inv_iff b t).mpr h
  have hv : (decodeRune (b :: t)).1 = runeError ∧ (decodeRune (b :: t)).2 = 1 := by
    by_cases hv : (decodeRune (b :: t)).1 = runeError ∧ (decodeRune (b :: t)).2 = 1
    · exact hv
    · simp [unit1, hv] at hinv
  simp [decodeRunes, units_invalid b t hv]

-- overlong C0 80, surrogate ED A0 80, F5, truncated E2 82, stray continuation: raw bytes
example : decodeRunes [0xC0, 0x80, 0xED, 0xA0, 0x80, 0xF5, 0x41, 0xE2, 0x82, 0xAC, 0x80, 0xE2, 0x82] =
    [0xC0, 0x80, 0xED, 0xA0, 0x80, 0xF5, 0x41, 0x20AC, 0x80, 0xE2, 0x82] := by decide

/-- **Nothing lost at the byte level**: the units of a stream (one per well-formed scalar, one per
    other byte), written back as bytes, are the stream; every valid unit is a scalar value. -/
theorem utf8_units_partition (bs : List Nat) :
    (units bs).flatMap U.bytes = bs ∧ ∀ u ∈ units bs, u.inv = false → IsScalar u.raw := by
  induction hn : bs.length using Nat.strongRecOn generalizing bs with
  | _ n ih =>
    cases bs with
    | nil => simp
    | cons b t =>
      have hs := unit1_sz b t
      have hb := unit1_bytes b t
      rw [units_cons]
      have hlen : ((b :: t).drop (unit1 (b :: t)).sz).length < n := by
        rw [← hn]; simp only [List.length_drop, List.length_cons]; omega
      obtain ⟨i1, i2⟩ := ih _ hlen _ rfl
      refine ⟨?_, ?_⟩
      · simp only [List.flatMap_cons, i1, hb.1]
        exact List.take_append_drop _ _
      · intro u hu
        rcases List.mem_cons.mp hu with rfl | hu
        · exact hb.2
        · exact i2 u hu

/-- **Every statement of `readRune`, `print` and `emit` in ansi/parser.go was recognised** by the
    extractor on this run: nothing outside the vocabulary of `Model/ParserReaderSk.lean` (no `.unknown`
    statement in a regenerated body, nothing listed as unrecognised); `emit` is exactly one channel
    send; the raw-byte fallback of `readRune` is under `r == ReplacementChar && size == 1` and the
    look-ahead of `print` stops in front of an invalid byte (the two flags the model's `readRune` /
    `printLoop` read).  *What the bodies compute* is not compared here with a copy of the statement
    lists — `readRune_body_eq_model` and `print_body_eq_model` prove it by interpreting them. -/
theorem reader_skeleton_recognised :
    Gen.ParserReader.unrecognised = [] ∧
    Gen.ParserReader.readRuneBody.all Model.ParserReaderSk.RStmt.known = true ∧
    Gen.ParserReader.printBody.all Model.ParserReaderSk.RStmt.known = true ∧
    Gen.ParserReader.emitBody = [.sendSeq] ∧
    Gen.ParserTable.fallbackOnlyInvalid = true ∧
    Gen.ParserTable.lookaheadStopsAtInvalid = true := by decide

open VaxisModel.Model.ParserReaderInterp VaxisModel.Lemmas.ParserReaderInterp in
/-- **`readRune` as the source says it = the model's `readRune`** — the body regenerated from
    ansi/parser.go on this run, *interpreted* statement by statement over the reader model
    (`ReadRune` = fill loop + `utf8.DecodeRune`; stop the timer; `if r == ReplacementChar && size == 1
    { UnreadRune; ReadByte; r = rune(b) }` with both error returns; `if err != nil { return eof }`;
    `return r`), gives for **every** reader state (any buffer contents, any reads still to come)
    exactly what `ParserIO.readRune` — the function all theorems about the reading side are stated
    over — gives.  The proof evaluates the interpreter on whatever statement list was regenerated
    (no copy of the list is compared): a reordering that the interpreter evaluates to the same
    function keeps it, a change of meaning — a changed condition, a missing `UnreadRune` — breaks it. -/
theorem readRune_body_eq_model (rd : Rd) :
    readRuneI Gen.ParserReader.readRuneBody rd = some (readRune rd) := by
  cases hb : rd.fill.buf with
  | nil =>
    simp only [readRuneI, Gen.ParserReader.readRuneBody, interpRead, readRuneB_nil ⟨rd, none⟩ hb, readRune, hb]
    simp [runeError]
  | cons b0 brest =>
    simp only [readRuneI, Gen.ParserReader.readRuneBody, interpRead, readRuneB_cons ⟨rd, none⟩ b0 brest hb, readRune, hb,
      fallback_flag]
    by_cases hc : (decodeRune (b0 :: brest)).1 = runeError ∧ (decodeRune (b0 :: brest)).2 = 1
    · simp [hc.1, hc.2, unreadRuneB, readByteB, hb]
    · have hc' : (decodeRune (b0 :: brest)).1 = runeError → ¬ (decodeRune (b0 :: brest)).2 = 1 := fun h1 h2 => hc ⟨h1, h2⟩
      by_cases h1 : (decodeRune (b0 :: brest)).1 = runeError
      · simp [h1, hc' h1]
      · simp [h1]

open VaxisModel.Model.ParserReaderInterp VaxisModel.Lemmas.ParserReaderInterp in
/-- **`print` as the source says it = the model's `printLoop`, with its width.**  The regenerated
    body of `print(r)` interpreted over the reader model — builder, `for p.r.Buffered() > 0 { ReadRune;
    invalid byte ⇒ UnreadRune, break; WriteRune; FirstGraphemeClusterInString; rest ≠ "" ⇒ UnreadRune,
    break }`, `if w == 0 { w = StringWidth(grapheme) }`, `emit(Print{grapheme, w})` — for every reader
    state, every rune, every cluster length `cl ≥ 1` the oracle reports and any width functions:
    the grapheme emitted and the reader afterwards are `printLoop cl fuel rd [r]`, and the width is
    either `StringWidth` of that grapheme or the non-zero width `FirstGraphemeClusterInString`
    reported for exactly that grapheme.  No copy of the statement list is compared. -/
theorem print_body_eq_model (cl : Nat) (hcl : 1 ≤ cl) (wd sw : List Rune → Nat) (fuel : Nat) (r : Rune) (rd : Rd) :
    ∃ w, interpPrint cl wd sw fuel r Gen.ParserReader.printBody rd =
        some ((printLoop cl fuel rd [r]).1, w, (printLoop cl fuel rd [r]).2) ∧
      (w = sw (printLoop cl fuel rd [r]).1 ∨ (w = wd (printLoop cl fuel rd [r]).1 ∧ w ≠ 0)) := by
  -- the body has a `for p.r.Buffered() > 0 { … }`
  have hs : (splitWhile Gen.ParserReader.printBody).isNone = false := by decide
  -- the statements in front of the loop
  have hpre : PreOk (preOf Gen.ParserReader.printBody) := by
    intro r rd
    simp [preOf, splitWhile, splitAtStmt, Gen.ParserReader.printBody, prePhase]
  -- one pass through the loop body
  have hloop : LoopPass cl wd (loopOf Gen.ParserReader.printBody) := by
    intro st b0 t hfb hacc hlen
    have hrb := readRuneB_cons st.b b0 t hfb
    generalize (decodeRune (b0 :: t)).1 = r' at hrb ⊢
    generalize (decodeRune (b0 :: t)).2 = sz at hrb ⊢
    by_cases hinv : r' = runeError ∧ sz = 1
    · simp [loopOf, splitWhile, splitAtStmt, Gen.ParserReader.printBody, loopBody, hrb, hinv.1, hinv.2, unreadRuneB]
    · simp only [if_neg hinv]
      by_cases hcl' : st.grapheme.length + 1 > cl
      · have heq : cl = st.grapheme.length := by omega
        have htake : (st.grapheme ++ [r']).take cl = st.grapheme := by
          rw [heq]; exact List.take_left' rfl
        simp only [if_pos hcl']
        simp [loopOf, splitWhile, splitAtStmt, Gen.ParserReader.printBody, loopBody, hrb, hinv, unreadRuneB, hacc, htake, hcl']
      · have htake : (st.grapheme ++ [r']).take cl = st.grapheme ++ [r'] := by
          apply List.take_of_length_le; simp; omega
        simp only [if_neg hcl']
        simp [loopOf, splitWhile, splitAtStmt, Gen.ParserReader.printBody, loopBody, hrb, hinv, hacc, htake, hcl']
  -- the statements after the loop
  have hpost : PostOk sw (postOf Gen.ParserReader.printBody) := by
    intro st
    by_cases hw : st.w = 0 <;>
      simp [postOf, splitWhile, splitAtStmt, Gen.ParserReader.printBody, postPhase, hw]
  exact interpPrint_sem Gen.ParserReader.printBody cl hcl wd sw hs hpre hloop hpost fuel r rd

open VaxisModel.Model.ParserReaderInterp in
/-- **Each Print carries the display width of its grapheme.**  If the width uniseg reports for a
    first cluster is the `StringWidth` of that cluster whenever it is not 0 (`StringWidth` is the sum
    of exactly these widths; checked on every Print of the correspondence run: verdict `W!`), the
    width `print` emits is `StringWidth(grapheme)` — for the grapheme it emits, whatever the reads,
    the buffer and the look-ahead did (cut at a read boundary, stopped by an invalid byte, …). -/
theorem print_width (cl : Nat) (hcl : 1 ≤ cl) (wd sw : List Rune → Nat) (hw : ∀ g, wd g ≠ 0 → wd g = sw g)
    (fuel : Nat) (r : Rune) (rd : Rd) :
    interpPrint cl wd sw fuel r Gen.ParserReader.printBody rd =
      some ((printLoop cl fuel rd [r]).1, sw (printLoop cl fuel rd [r]).1, (printLoop cl fuel rd [r]).2) := by
  obtain ⟨w, h1, h2⟩ := print_body_eq_model cl hcl wd sw fuel r rd
  rcases h2 with h2 | ⟨h2, h3⟩
  · rw [h1, h2]
  · rw [h1, h2, hw _ (by rw [← h2]; exact h3)]

open VaxisModel.Model.ParserReaderInterp VaxisModel.Lemmas.ParserReaderInterp in
/-- **The whole reading side, executed from the regenerated bodies, is the model's run loop.**  The
    loop of `run` (read, transition, deliver; `EOF{}` at the end) with `readRune` and `print`
    *interpreted from the statement skeletons regenerated on this run* — this is what the
    correspondence driver executes, with the regenerated transition table — delivers, for every table,
    every cluster oracle and every list of reads, exactly `ParserIO.runChunks`, the function that
    `reads_disappear`, `chunk_independent`, `text_blocks`, `text_conserved` and the refinement theorems
    of `Props/C02Refine.lean` are stated over.  So those theorems are theorems about the interpreter of
    the extracted code. -/
theorem reader_interpreted_eq_model (T : Table) (cl : Nat → Nat) (chunks : List (List Nat)) :
    runChunksI Gen.ParserReader.readRuneBody Gen.ParserReader.printBody T cl chunks = some (runChunks T cl chunks) :=
  runChunksI_eq _ _ readRune_body_eq_model
    (fun cl' hcl fuel r rd => by
      obtain ⟨w, h, _⟩ := print_body_eq_model cl' hcl (fun _ => 0) (fun _ => 0) fuel r rd
      exact ⟨w, h⟩) T cl chunks

-- non-vacuity: "e" + U+0301 in the buffer, cluster length 2, widths 1: one Print of width 1, reader at the 'A'
example : (Model.ParserReaderInterp.interpPrint 2 (fun _ => 1) (fun _ => 1) 10 0x65 Gen.ParserReader.printBody
    { buf := [0xCC, 0x81, 0x41], chunks := [] }).map (fun x => (x.1, x.2.1, x.2.2.buf, x.2.2.pos)) =
    some ([0x65, 0x301], 1, [0x41], 2) := by decide
-- … and an invalid byte in the look-ahead is left in the buffer (F102d repaired)
example : (Model.ParserReaderInterp.interpPrint 2 (fun _ => 1) (fun _ => 1) 10 0x600 Gen.ParserReader.printBody
    { buf := [0xFF, 0x41], chunks := [] }).map (fun x => (x.1, x.2.1, x.2.2.buf, x.2.2.pos)) =
    some ([0x600], 1, [0xFF, 0x41], 0) := by decide

/-- **Every Print, in every stream, is one grapheme cluster — or a piece of one cut at a read boundary
    or in front of an invalid byte.**  Whatever the parser has read before and whatever is buffered
    or still to come (any reader state: this is every call of `print` in every run), for the rune `r`
    being printed and the cluster length `cl` the oracle reports for the text starting at `r`: the
    grapheme emitted is `r` followed by the next `k` units of the stream, each a well-formed scalar
    delivered as itself; exactly those bytes are consumed; `1 + k ≤ max 1 cl`; and `1 + k < max 1 cl`
    only if the buffer is empty afterwards (the rest of the cluster has not arrived: a read boundary
    or the end of the stream) or the next unit is an invalid byte (left to `readRune`).  With
    `print_width` the Print also carries `StringWidth` of exactly that grapheme.  (`text_blocks` is the
    same statement assembled over a whole text stream.) -/
theorem print_takes_one_cluster (cl : Nat) (rd : Rd) (r : Nat) :
    ∃ us : List U,
      (printLoop (max 1 cl) (rd.remaining + 1) rd [r]).1 = r :: us.map U.raw ∧
      (∀ u ∈ us, u.inv = false) ∧
      units (bytesOf rd) = us ++ units (bytesOf (printLoop (max 1 cl) (rd.remaining + 1) rd [r]).2) ∧
      1 + us.length ≤ max 1 cl ∧
      (1 + us.length = max 1 cl ∨ (printLoop (max 1 cl) (rd.remaining + 1) rd [r]).2.buf = [] ∨
        ∃ u rest, units (bytesOf (printLoop (max 1 cl) (rd.remaining + 1) rd [r]).2) = u :: rest ∧ u.inv = true) := by
  obtain ⟨us, g1, a, hval, hle, hstop⟩ := print_ahead (cl := cl) (rd := rd) (r := r) rfl
  exact ⟨us, g1, hval, a.units, hle, hstop⟩

/-- **Model of the reading side = automaton over the decoded stream**, for every byte stream,
    every way of splitting it into reads (any byte offsets: inside a UTF-8 sequence, inside an
    escape sequence, empty reads) and every cluster oracle that respects the stream (never joins a
    C0 control to what precedes it — uniseg GB4/GB5; nothing is assumed about invalid bytes):
    the items delivered — compared modulo
    merging/splitting adjacent Prints, i.e. after `flat` — are exactly what the automaton delivers
    when fed the runes of the stream one by one (valid scalars, raw invalid bytes), then end of
    input.  Escape sequences, control strings and text alike. -/
theorem reads_disappear (cl : Nat → Nat) (chunks : List (List UInt8))
    (hR : Respects cl 0 (units (streamOf chunks))) :
    flat (runChunks handTable cl (natChunks chunks)) =
      runRunes handTable PState.init (decodeRunes (streamOf chunks)) :=
  runChunks_flat cl (natChunks chunks) hR

/-- The same for the table regenerated from ansi/parser.go on this run. -/
theorem reads_disappear_gen (cl : Nat → Nat) (chunks : List (List UInt8))
    (hR : Respects cl 0 (units (streamOf chunks))) :
    flat (runChunks genTable cl (natChunks chunks)) =
      runRunes genTable PState.init (decodeRunes (streamOf chunks)) := by
  unfold runChunks
  rw [runLoop_table_congr genTable handTable VaxisModel.Lemmas.ParserAbs.step_gen_eq_hand,
    runRunes_table_congr genTable handTable VaxisModel.Lemmas.ParserAbs.step_gen_eq_hand]
  exact runChunks_flat cl (natChunks chunks) hR

-- non-vacuity: the oracle that joins nothing respects every stream; a ZWJ-joining oracle respects "a👩‍👩ESC[m"
example (chunks : List (List UInt8)) : Respects (fun _ => 1) 0 (units (streamOf chunks)) := respects_const_one 0 _
example : Respects (fun p => if p = 1 then 3 else 1) 0
    (units [0x61, 0xF0, 0x9F, 0x91, 0xA9, 0xE2, 0x80, 0x8D, 0xF0, 0x9F, 0x91, 0xA9, 0x1B, 0x5B, 0x6D]) := by decide

/-- **Splitting independence, every byte stream, arbitrary byte-offset splits.**  Two ways of
    splitting the same bytes into reads, under any two cluster oracles that never join a C0 control,
    deliver the same items once adjacent Prints are merged (`flat`). -/
theorem chunk_independent (cl1 cl2 : Nat → Nat) (c1 c2 : List (List UInt8))
    (hsame : streamOf c1 = streamOf c2)
    (h1 : Respects cl1 0 (units (streamOf c1))) (h2 : Respects cl2 0 (units (streamOf c2))) :
    flat (runChunks handTable cl1 (natChunks c1)) = flat (runChunks handTable cl2 (natChunks c2)) := by
  rw [reads_disappear cl1 c1 h1, reads_disappear cl2 c2 h2, hsame]

-- an oracle that joins an invalid byte to the Prepend character before it (the F102d witness) is admitted
example : Respects (fun p => if p = 0 then 2 else 1) 0 (units [0xD8, 0x80, 0xFF]) := by decide

/-- The statement with no hypothesis on the oracle at all.  Not a statement about the code: an
    "oracle" that joins an ESC to the letter before it (uniseg never does: GB4/GB5) swallows the ESC
    into the Print — `Witness.F102.chunk_independent_needs_c0_oracle`. -/
def chunk_independent_full : Prop :=
  ∀ (cl : Nat → Nat) (c1 c2 : List (List UInt8)), streamOf c1 = streamOf c2 →
    flat (runChunks handTable cl (natChunks c1)) = flat (runChunks handTable cl (natChunks c2))

/-- **Each Print is one grapheme cluster — unless cut by a read boundary or an invalid byte.**  For a
    stream of bytes ≥ 0x20, every split into reads and **any** oracle (no hypothesis at all; in
    particular any `cluster` with `0 < cluster l ≤ l.length`): the items are Prints then `EOF{}`; the
    Prints are consecutive, non-empty blocks of the units of the stream, in order, covering it exactly
    (nothing lost, duplicated or reordered); only the first unit of a block can be an invalid byte;
    a block starting at byte offset `pos` has at most `max 1 (cl pos)` units, and fewer only if it
    ends exactly at a read boundary or in front of an invalid byte (which starts the next block).
    What a Print carries is `render block` = every unit as its own rune (valid scalar, or the raw
    invalid byte): nothing is altered. -/
theorem text_blocks (cl : Nat → Nat) (chunks : List (List UInt8)) (htext : ∀ b ∈ streamOf chunks, 0x20 ≤ b) :
    ∃ blocks : List (List U),
      runChunks handTable cl (natChunks chunks) = blocks.map (fun b => Item.print (render b)) ++ [.seq .eof] ∧
      blocks.flatten = units (streamOf chunks) ∧ BlocksOk cl (IsCut (natChunks chunks)) 0 blocks :=
  runChunks_blocks cl (natChunks chunks) htext

/-- **Text conservation, every byte ≥ 0x20, any oracle** (printable ASCII, DEL, every valid UTF-8
    scalar, every raw invalid byte): for every split into reads and whatever the cluster oracle says,
    the parser delivers only Prints and the end marker, and the runes of the Prints, in order, are
    exactly the decoded stream — each valid scalar once, each invalid byte as itself, nothing lost,
    duplicated, altered or reordered. -/
theorem text_conserved (cl : Nat → Nat) (chunks : List (List UInt8))
    (htext : ∀ b ∈ streamOf chunks, 0x20 ≤ b) :
    flat (runChunks handTable cl (natChunks chunks)) = (decodeRunes (streamOf chunks)).map .print ++ [.eof] := by
  obtain ⟨blocks, h1, h2, _⟩ := text_blocks cl chunks htext
  rw [h1, decodeRunes, ← h2]
  exact flat_blocks blocks

/-- `text_conserved` under the hypothesis of a respectful oracle, which it does not need. -/
theorem text_conserved_partial (cl : Nat → Nat) (chunks : List (List UInt8))
    (htext : ∀ b ∈ streamOf chunks, 0x20 ≤ b) (_hR : Respects cl 0 (units (streamOf chunks))) :
    flat (runChunks handTable cl (natChunks chunks)) = (decodeRunes (streamOf chunks)).map .print ++ [.eof] :=
  text_conserved cl chunks htext

-- the block structure on a concrete stream: "e" + U+0301 split inside the combining mark, oracle joining them
example : runChunks handTable (fun p => if p = 0 then 2 else 1) (natChunks [[0x65, 0xCC], [0x81, 0x41]]) =
    [.print [0x65, 0x301], .print [0x41], .seq .eof] := by decide
-- the F102d stream: the invalid byte FF after the Prepend character U+0600, joined by the oracle, is its own Print
example : runChunks handTable (fun p => if p = 0 then 2 else 1) (natChunks [[0xD8, 0x80, 0xFF]]) =
    [.print [0x600], .print [0xFF], .seq .eof] := by decide
-- … and cut by the read boundary when the mark arrives in the next read
example : runChunks handTable (fun p => if p = 0 then 2 else 1) (natChunks [[0x65], [0xCC, 0x81, 0x41]]) =
    [.print [0x65], .print [0x301], .print [0x41], .seq .eof] := by decide

end VaxisModel.Props.C02Text
