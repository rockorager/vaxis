import VaxisModel.Lemmas.Input
import VaxisModel.Lemmas.InputLoop
import VaxisModel.Lemmas.InputEvents
import VaxisModel.Lemmas.InputFlow
import VaxisModel.Lemmas.InputFlowAny
import VaxisModel.Lemmas.InputFlowCpr

/-!
# C03 — every terminal report becomes the right event; the input loop survives any input

Theorems over `Model/Input.lean` (transcription of `handleSequence`, `parseMouseEvent`, the
collection loop of `New`) and `Model/InputLoop.lean` (LTS of the input goroutine, the event queue
and the reply channels).  The facts read from the source on every run are in `Gen/Caps.lean`.
-/
namespace VaxisModel.Props.C03
open VaxisModel.Model.Input VaxisModel.Model.InputLoop
open VaxisModel.Lemmas.Input VaxisModel.Lemmas.InputLoop VaxisModel.Lemmas.InputEvents VaxisModel.Lemmas.InputFlow
open VaxisModel.Lemmas.InputFlowAny (NotCprKey emitted_spec_any)
open VaxisModel.Lemmas.InputFlowCpr (unambiguous emitted_spec_cpr)
open VaxisModel.Spec.InputEvents (mouseEvent UEvent)

/-- The bit masks of mouse.go are the SGR-1006 ones. -/
theorem mouse_constants :
    Gen.Caps.buttonBits = 195 ∧ Gen.Caps.motion = 32 ∧ Gen.Caps.mouseModShift = 4 ∧
    Gen.Caps.mouseModAlt = 8 ∧ Gen.Caps.mouseModCtrl = 16 := by decide +kernel

/-- The first guard of `parseMouseEvent` is a disjunction (F09 repaired). -/
theorem mouse_guard_is_or : Gen.Caps.mouseGuardIsOr = true := rfl

/-- The five buffered reply sends are non-blocking and the clipboard hand-off has a time-out
(F10, F11, F12 repaired). -/
theorem send_kinds : Kinds.ofGen =
    { cursorPos := .nonblocking, sizeDone := .nonblocking, color := .nonblocking, fg := .nonblocking,
      bg := .nonblocking, clipboard := .timeout } := kinds_now

/-- The requester side of the cursor-position hand-off as the LTS models it (F12 repaired):
`chCursorPos` has capacity 1, and `CursorPosition()` drops a stale answer, raises the request flag,
writes the query, arms a 50 ms timer and waits for the timer (clearing the flag) or the answer. -/
theorem cursor_position_shape :
    cursorCapGen = 1 ∧ cursorDrainGen = true ∧ cursorTimeoutResetsGen = true ∧
    Gen.Caps.cp_select = [
      ("<-timeout.C", ["log.Warn(\"CursorPosition timed out\")", "atomicStore(&vx.reqCursorPos, false)", "return -1, -1"]),
      ("pos := <-vx.chCursorPos", ["return pos[0] - 1, pos[1] - 1"])] ∧
    Gen.Caps.cp_stmts = [
      "select { case <-vx.chCursorPos: default: }",
      "atomicStore(&vx.reqCursorPos, true)",
      "_, _ = io.WriteString(vx.console, dsrcpr)",
      "timeout := time.NewTimer(50 * time.Millisecond)",
      "select { case <-timeout.C: log.Warn(\"CursorPosition timed out\") atomicStore(&vx.reqCursorPos, false) return -1, -1 case pos := <-vx.chCursorPos: return pos[0] - 1, pos[1] - 1 }"] :=
  ⟨cursorCap_one, by decide +kernel, by decide +kernel, rfl, rfl⟩

/-- `handleSequence` takes the request flag in one atomic step (compare-and-swap; F103 repaired:
with a separate load and store the store could withdraw a request raised in between), and nothing
else in vaxis.go touches the flag but `CursorPosition` (raise; lower on its own time-out).  This
is what entitles the LTS to treat "flag seen and lowered" as part of the `.input` label. -/
theorem cpr_take_atomic :
    Gen.Caps.cprCond = "atomic.CompareAndSwapInt32(&vx.reqCursorPos, 1, 0)" ∧
    Gen.Caps.reqFlagOps = [
      ("handleSequence", "atomic.CompareAndSwapInt32(&vx.reqCursorPos, 1, 0)"),
      ("CursorPosition", "atomicStore(&vx.reqCursorPos, true)"),
      ("CursorPosition", "atomicStore(&vx.reqCursorPos, false)")] := ⟨rfl, rfl⟩

/-- In the LTS a standing cursor-position request is withdrawn only by the goroutine accepting a
sequence (the report that answers it) or by the requester's own time-out — never by a later step
of the goroutine (the hand-off), whatever was called in between. -/
theorem flag_lowered_only_by (p : Params) (s s' : Sys) (l : Label)
    (h : next p s l = some (.ok s')) (hup : s.vs.reqCursorPos = true) (hdown : s'.vs.reqCursorPos = false) :
    (∃ q, l = .input q) ∨ l = .cursorTimeout := by
  cases step_of_next h with
  | input q vs effs hp hh => exact Or.inl ⟨q, rfl⟩
  | step e rest s' hp hs => rw [stepEffect_vs p s s' e rest hs, hup] at hdown; cases hdown
  | clipTimeout v rest hp => rw [hup] at hdown; cases hdown
  | consume ev q hq => rw [hup] at hdown; cases hdown
  | requester l s' hi hl hr =>
    rcases hr.flag with h | ⟨-, h⟩ | ⟨rfl, -⟩
    · rw [h, hup] at hdown; cases hdown
    · rw [h] at hdown; cases hdown
    · exact Or.inr rfl

/-- The "recall" schedule (replayed on the real code through the yield point): the first call
times out after the goroutine has taken the flag, a second call raises it again, the goroutine
hands the first answer over (the second call receives it), and the second report is still
consumed as a reply — no key event, the answer parked for the next call to drop. -/
example :
    (match run { qcap := 4, kinds := Kinds.ofGen, b64 := fun _ => none } {}
        [.cursorDrain, .cursorCall, .input (.csi [] [[3], [7]] (ch 'R')), .cursorTimeout, .cursorDrain, .cursorCall,
         .step, .cursorRecv, .input (.csi [] [[4], [9]] (ch 'R')), .step] with
     | some s => s.pend == [] && s.queue == [] && s.cursorGot == [(3, 7)] && s.cursorCh == [(4, 9)] && !s.vs.reqCursorPos
     | none => false) = true := by decide +kernel

/-- With these kinds no reply send can block the goroutine (the hypothesis of `never_wedges`). -/
theorem send_kinds_safe : Kinds.safe Kinds.ofGen := kinds_safe

def mouseOfSpec {κ : Type} : UEvent κ → Option Mouse
  | .mouse button col row et mods => some { button := button, row := row, col := col, eventType := et, mods := mods }
  | _ => none

/-- `CSI < b ; x ; y M/m` decodes exactly as the SGR protocol defines: button from bits 0–1 and
6–7, motion bit 5, shift/alt/ctrl bits 2/3/4, `col = x − 1`, `row = y − 1`, press/release by the
final byte — for every button value and all coordinates a Go `int` can hold. -/
theorem mouse_exact (b x y : Nat) (rel : Bool) (hx : x < 2 ^ 63) (hy : y < 2 ^ 63) :
    parseMouse [ch '<'] [[(b : Int)], [(x : Int)], [(y : Int)]] (if rel then ch 'm' else ch 'M')
      = .ok (mouseOfSpec (mouseEvent (κ := Unit) b x y rel)) := by
  have hg : mouseGuard [60] = .ok false := mouseGuard_sgr
  obtain ⟨h1, h2, h3, h4, h5⟩ := mouse_constants
  cases rel <;>
  simp [parseMouse, hg, idx2, idx, bind, Except.bind, pure, Except.pure, h1, h2, h3, h4, h5, mouseOfSpec, mouseEvent,
    andMask_buttons, wrap64_pred, hx, hy, mods_sum, andMask_motion, ch, evPress, evMotion, evRelease,
    VaxisModel.Spec.InputEvents.etMotion, VaxisModel.Spec.InputEvents.etPress, VaxisModel.Spec.InputEvents.etRelease] <;>
  (rcases Nat.mod_two_eq_zero_or_one (b / 32) with h | h <;> simp [h])

/-- Every other shape (no `<` marker, more than one intermediate, not exactly three parameters)
is rejected without a panic. -/
theorem mouse_rejects (interm : List Nat) (params : List (List Int)) (final : Nat)
    (h : interm ≠ [ch '<'] ∨ params.length ≠ 3) : parseMouse interm params final = .ok none := by
  have hor := mouse_guard_is_or
  unfold parseMouse mouseGuard mouseGuardWith
  rcases interm with _ | ⟨i0, _ | ⟨i1, irest⟩⟩
  · simp [hor, bind, Except.bind, pure, Except.pure]
  · by_cases hi : i0 = ch '<'
    · subst hi
      have hl : params.length ≠ 3 := by
        rcases h with h | h
        · exact absurd rfl h
        · exact h
      simp [hor, idx, bind, Except.bind, pure, Except.pure, hl]
    · simp [hor, idx, bind, Except.bind, pure, Except.pure, hi]
  · simp [hor, bind, Except.bind, pure, Except.pure]

/-- Non-vacuity: a left-button press with Ctrl at column 10, row 5. -/
example : parseMouse [ch '<'] [[16], [10], [5]] (ch 'M')
    = .ok (some { button := 0, row := 4, col := 9, eventType := evPress, mods := modCtrl }) := by rfl

/-- `handleSequence` never panics on a sequence the parser can deliver (every CSI parameter has
at least one sub-parameter), in any state, for any base64 decoder. -/
theorem handle_total (b64 : List Nat → Option (List Nat)) (st : VState) (s : Seq) (h : WfSeq s) :
    ∃ r, handle b64 st s = .ok r :=
  (ok_iff _).mpr (handle_ok b64 st s h)

/-- The hypothesis is needed: an empty parameter list (which the parser never builds) panics. -/
example : handle (fun _ => none) {} (.csi [] [[]] (ch 't')) = .ok ({}, []) := by rfl
example : (match handle (fun _ => none) {} (.csi [] [[8], [], [1]] (ch 't')) with | .error _ => true | .ok _ => false) = true := by decide +kernel

/-- Full statement: from every reachable state internal moves alone (the goroutine's own steps,
the clipboard time-out, the application reading events) bring the input goroutine back to its
`select`.  False of the source before the F12 repair (Witness/F12.lean); true now (`never_wedges`). -/
def never_wedges_full (p : Params) (s0 : Sys) : Prop :=
  ∀ s, Reachable p s0 s → ∃ ls s', (∀ l ∈ ls, l.internal = true) ∧ run p s ls = some s' ∧ s'.pend = []

/-- For every queue capacity ≥ 1, every base64 decoder, with the send kinds, the `chCursorPos`
capacity and the `CursorPosition` prologue of the current source, from every state reachable (by
any labels: terminal input, requesters calling, receiving, timing out at any moment) from a state
with a legal queue, the input goroutine gets back to its `select` by internal moves alone — no
further terminal input, no requester, no matter which replies were unsolicited, repeated,
truncated or late.  Unconditional since the F12 repair. -/
theorem never_wedges (qcap : Nat) (hq : 0 < qcap) (b64 : List Nat → Option (List Nat)) (s0 : Sys)
    (h0 : s0.queue.length ≤ qcap) :
    never_wedges_full { qcap := qcap, kinds := Kinds.ofGen, b64 := b64 } s0 := by
  intro s hr
  exact settle _ hq send_kinds_safe s.pend s rfl
    (reach_queue_le _ s0 s h0 hr)

/-- The F12 schedule (request, report consumed, time-out before the hand-off) is a run of the
LTS with the current source's parameters, and it ends with the goroutine back at its `select`
after one more step: the answer is parked in the buffered channel and dropped by the next call. -/
example :
    (match run { qcap := 1, kinds := Kinds.ofGen, b64 := fun _ => none } {}
        [.cursorDrain, .cursorCall, .input (.csi [] [[3], [7]] (ch 'R')), .cursorTimeout, .step, .cursorDrain, .cursorCall] with
     | some s => s.pend == [] && s.cursorCh == [] && s.cursorWaiting
     | none => false) = true := by decide +kernel

/-- Non-vacuity: after two unsolicited size reports with the capability known (the F10 input),
the state satisfies the hypotheses and the goroutine is mid-sequence. -/
example :
    (match run { qcap := 1, kinds := Kinds.ofGen, b64 := fun _ => none }
        { vs := { caps := { reportSizeChars := true } } }
        [.input (.csi [] [[8], [24], [80]] (ch 't')), .step, .input (.csi [] [[8], [24], [80]] (ch 't'))] with
     | some s => s.pend == [.sendSizeDone] && s.sizeDone == 1
     | none => false) = true := by decide +kernel


/-- For every list of well-formed reports (key presses in any legacy/kitty encoding that reaches
the key decoder, SGR mouse reports, focus changes, paste brackets, consumed query replies, in-band
resize and colour-theme notifications), handled in order from any state with no cursor-position
request outstanding: no panic, and the application-visible events posted are exactly the events
the grammar-level spec requires — one per report, in order, keys inside a paste marked as pasted,
replies invisible.  (Sequence level: `SReport.seq` is what the parser delivers for the report,
which is C02's round-trip property.) -/
theorem events_exact (b64 : List Nat → Option (List Nat)) (rs : List SReport) (st : VState)
    (hw : ∀ r ∈ rs, r.Wf) (hreq : st.reqCursorPos = false) :
    ∃ st' evs, pipeline b64 st (rs.map SReport.seq) = .ok (st', evs) ∧
      visible evs = VaxisModel.Spec.InputEvents.specEvents st.pastePending (rs.map SReport.spec) :=
  pipeline_events b64 rs st hw hreq

/-- Non-vacuity: paste start, `a`, paste end, Ctrl+Up, a mouse press, an unsolicited DA1. -/
example : ∀ r ∈ [SReport.pasteStart, .key (.print [97] 1), .pasteEnd, .key (.csi [] [[1, 5]] (ch 'A')),
    .mouse 0 3 4 false, .reply (.csi [ch '?'] [[62], [4]] (ch 'c'))], r.Wf := by
  intro r hr
  simp only [List.mem_cons, List.mem_nil_iff, or_false] at hr
  rcases hr with rfl | rfl | rfl | rfl | rfl | rfl
  · trivial
  · trivial
  · trivial
  · simp [SReport.Wf, LegitKey, ch]
  · simp [SReport.Wf]
  · refine ⟨by decide, ?_⟩
    intro p hp
    simp at hp
    rcases hp with rfl | rfl <;> simp

/-- **Queue mechanics.**  For every run of the input LTS — any labels (terminal input, goroutine
steps, the application consuming, requesters calling / receiving / timing out), any queue
capacity, any send kinds — the user-input events (keys, mouse reports, focus changes, paste
brackets) delivered, queued or still pending are exactly those there at the start followed by what
`handleSequence` posted for each sequence, in order: the queue, the blocking posts and the
dropped non-blocking posts (never user input) lose, duplicate and reorder nothing. -/
theorem flow_preserved (p : Params) (ls : List Label) (s s' : Sys) (hr : run p s ls = some s') (hnb : nbOK s.pend) :
    ui (flow s') = ui (flow s) ++ ui (emitted p s ls) :=
  (flow_run p ls s s' hr hnb).1

/-- For every list of well-formed reports (keys in any encoding, SGR mouse,
focus, paste brackets, replies of every shape, in-band resize, colour theme) arbitrarily
interleaved, fed to the LTS as its terminal input under *any* schedule (labels in any order and
number, any queue capacity, requesters other than `CursorPosition` active at any time), from a
state with no cursor-position request outstanding: each key press, mouse report, focus change and
paste boundary of the stream appears exactly once among delivered ++ queued ++ pending events, in
stream order, mouse reports decoded per SGR-1006, keys inside a paste marked as pasted — after
whatever user input was already in flight. -/
theorem input_never_lost (p : Params) (rs : List SReport) (ls : List Label) (s s' : Sys)
    (hin : inputSeqs ls = rs.map SReport.seq) (hw : ∀ r ∈ rs, r.Wf) (hreq : s.vs.reqCursorPos = false)
    (hnc : ∀ l ∈ ls, l ≠ .cursorCall) (hnb : nbOK s.pend) (hr : run p s ls = some s') :
    (visible (flow s')).filter uiU =
      (visible (flow s)).filter uiU ++ (VaxisModel.Spec.InputEvents.specEvents s.vs.pastePending (rs.map SReport.spec)).filter uiU :=
  flow_spec p ls s s' hr hnb uiU (fun _ h => h) _ (congrArg _ (emitted_spec p ls rs s s' hin hw hreq hnc hr))

/-- **input_never_lost, any requester activity.**  The same for every run in which `CursorPosition`
is called, drops a stale answer, receives an answer already in flight and times out at any moment
(labels `cursorCall`, `cursorDrain`, `cursorRecv`, `cursorTimeout` anywhere in the schedule), from
any state of the request flag — provided no key of the stream is encoded `CSI … R` (the one
encoding that shares its final byte with the cursor-position report and is, by design, taken for
the answer while the flag is up; the answers themselves are for the same reason outside the
report vocabulary — their hand-off is `never_wedges` / `flag_lowered_only_by` and the race
replay): user input is neither lost nor reordered by queries outstanding or timing out around it. -/
theorem input_never_lost_any_requester (p : Params) (rs : List SReport) (ls : List Label) (s s' : Sys)
    (hin : inputSeqs ls = rs.map SReport.seq) (hw : ∀ r ∈ rs, r.Wf) (hk : ∀ r ∈ rs, NotCprKey r)
    (hnb : nbOK s.pend) (hr : run p s ls = some s') :
    (visible (flow s')).filter uiU =
      (visible (flow s)).filter uiU ++ (VaxisModel.Spec.InputEvents.specEvents s.vs.pastePending (rs.map SReport.spec)).filter uiU :=
  flow_spec p ls s s' hr hnb uiU (fun _ h => h) _ (congrArg _ (emitted_spec_any p ls rs s s' hin hw hk hr))

/-- **input_never_lost, cursor-position reports included.**  For *every* stream of well-formed,
parser-deliverable reports — `CSI … R` sequences included: answers to cursor-position queries, late
answers, and the keys that share this encoding — under *every* schedule (queries made, answered,
timed out and repeated at any moment, any queue capacity): every user-input event other than a key
encoded `CSI … R` appears exactly once, in stream order, correctly decoded and paste-marked.  (A
`CSI … R` sequence itself is, by design of DSR 6, the answer while a request stands and a key
otherwise; whichever it is, it neither removes, duplicates nor reorders anything else.) -/
theorem input_never_lost_with_cpr (p : Params) (rs : List SReport) (ls : List Label) (s s' : Sys)
    (hin : inputSeqs ls = rs.map SReport.seq) (hw : ∀ r ∈ rs, r.Wf) (hs : ∀ r ∈ rs, WfSeq r.seq)
    (hnb : nbOK s.pend) (hr : run p s ls = some s') :
    ((visible (flow s')).filter uiU).filter unambiguous =
      ((visible (flow s)).filter uiU).filter unambiguous ++
        (VaxisModel.Spec.InputEvents.specEvents s.vs.pastePending (rs.map SReport.spec)).filter unambiguous := by
  have hk : ∀ u, unambiguous u = true → uiU u = true := by intro u; cases u <;> simp [unambiguous, uiU]
  have e : (fun u => unambiguous u && uiU u) = unambiguous := by
    funext u; cases h : unambiguous u <;> simp [hk u, h]
  simp only [List.filter_filter, e]
  exact flow_spec p ls s s' hr hnb unambiguous hk _ (emitted_spec_cpr p ls rs s s' hin hw hs hr)

/-- Non-vacuity: a query, a key, the answer `CSI 3;7 R`, a mouse report, a second `CSI 4;9 R` with no
query outstanding (it comes out as a key) — the run exists. -/
example :
    (match run { qcap := 4, kinds := Kinds.ofGen, b64 := fun _ => none } {}
        [.cursorDrain, .cursorCall, .input (SReport.seq (.key (.print [97] 1))), .step,
         .input (SReport.seq (.key (.csi [] [[3], [7]] (ch 'R')))), .step, .cursorRecv,
         .input (SReport.seq (.mouse 0 3 4 false)), .step, .input (SReport.seq (.key (.csi [] [[4], [9]] (ch 'R')))), .step] with
     | some s => s.queue.length == 3 && s.cursorGot == [(3, 7)]
     | none => false) = true := by decide +kernel

/-- Non-vacuity: a key and a mouse report arrive while a cursor-position query is outstanding and
an earlier answer is still being handed over; the query times out, a second one is made; the run
exists, both events are delivered in order. -/
example :
    (match run { qcap := 2, kinds := Kinds.ofGen, b64 := fun _ => none }
        { pend := [.sendCursorPos 3 7], cursorWaiting := true, vs := { reqCursorPos := false } }
        [.step, .cursorRecv, .cursorDrain, .cursorCall, .input (SReport.seq (.key (.print [97] 1))), .step, .consume,
         .input (SReport.seq (.mouse 0 3 4 false)), .cursorTimeout, .step, .cursorDrain, .cursorCall, .consume] with
     | some s => s.delivered.length == 2 && s.cursorGot == [(3, 7)] && s.vs.reqCursorPos
     | none => false) = true := by decide +kernel

/-- Non-vacuity: a paste bracket, a key, a DA1 reply, a mouse press through a queue of capacity 1
with the application consuming in between; the run exists. -/
example :
    (match run { qcap := 1, kinds := Kinds.ofGen, b64 := fun _ => none } {}
        [.input (SReport.seq .pasteStart), .step, .consume, .input (SReport.seq (.key (.print [97] 1))), .step,
         .input (SReport.seq (.reply (.csi [ch '?'] [[62], [4]] (ch 'c')))), .consume, .step, .consume, .step,
         .input (SReport.seq (.mouse 0 3 4 false)), .consume, .step] with
     | some s => (flow s).length == 5 && s.delivered.length == 4
     | none => false) = true := by decide +kernel

/-- Every sequence consumed as a reply (DCS, APC, OSC; `CSI ? … c/S/u`, `CSI … y`, `CSI … t` other
than the in-band resize, `CSI ? a;b n` other than the colour-theme report) posts only events of
unexported types and leaves the paste and cursor-request flags untouched — in every state, whether
solicited, unsolicited, repeated or malformed. -/
theorem replies_internal (b64 : List Nat → Option (List Nat)) (st st' : VState) (s : Seq) (effs : List Effect)
    (hq : isQueryReply s = true) (h : handle b64 st s = .ok (st', effs)) :
    (∀ e ∈ posted effs, e.userVisible = false) ∧ st'.pastePending = st.pastePending ∧ st'.reqCursorPos = st.reqCursorPos := by
  obtain ⟨ha, hp, hrq⟩ := isQueryReply_post b64 st s hq st' effs h
  exact ⟨posted_internal effs ha, hp, hrq⟩

/-- The start-up loop of `New` turns each internal event into exactly the capability it stands
for: the record changes in at most that one field, which becomes true. -/
theorem collect_exact (c : Caps) (i : Internal) :
    (collect false c i).toList = match fieldIndex i with
      | some k => c.toList.set k true
      | none => c.toList := by
  cases i <;> rfl

/-- A cursor-position report while a request is outstanding is handed to the requester and
clears the request; nothing is posted. -/
theorem reply_cpr (b64 : List Nat → Option (List Nat)) (st : VState) (r c : Int) (h : st.reqCursorPos = true) :
    handle b64 st (.csi [] [[r], [c]] (ch 'R')) = .ok ({ st with reqCursorPos := false }, [.sendCursorPos r c]) := by
  simp [handle, handleCSI, ch, h, idx2, idx, bind, Except.bind, pure, Except.pure]

/-- A character-size report once the capability is known updates exactly columns and rows and
signals `chSizeDone`; before that it only announces the capability. -/
theorem reply_size_chars (b64 : List Nat → Option (List Nat)) (st : VState) (h w : Int) :
    handle b64 st (.csi [] [[8], [h], [w]] (ch 't')) =
      .ok ({ st with nextSize := { st.nextSize with cols := w, rows := h } },
           if st.caps.reportSizeChars then [.sendSizeDone] else [.postB (.internal .textAreaChar)]) := by
  cases hc : st.caps.reportSizeChars <;>
  simp [handle, handleCSI, ch, idx2, idx, bind, Except.bind, pure, Except.pure, post, hc]

/-- The same for the pixel-size report; it never signals `chSizeDone`. -/
theorem reply_size_pixels (b64 : List Nat → Option (List Nat)) (st : VState) (h w : Int) :
    handle b64 st (.csi [] [[4], [h], [w]] (ch 't')) =
      .ok ({ st with nextSize := { st.nextSize with xpix := w, ypix := h } },
           if st.caps.reportSizePixels then [] else [.postB (.internal .textAreaPix)]) := by
  cases hc : st.caps.reportSizePixels <;>
  simp [handle, handleCSI, ch, idx2, idx, bind, Except.bind, pure, Except.pure, post, hc]

/-- A foreground-colour reply is offered to `QueryForeground` only once the capability is known,
and always announces the capability; likewise OSC 4 and 11. -/
theorem reply_osc10 (b64 : List Nat → Option (List Nat)) (st : VState) (rest : List Nat) :
    handle b64 st (.osc (ch '1' :: ch '0' :: rest)) =
      .ok (st, (if st.caps.osc10 then [Effect.sendFg (ch '1' :: ch '0' :: rest)] else []) ++ [.postB (.internal .capabilityOsc10)]) := by
  simp [handle, handleOSC, isPrefix, str, ch, bind, Except.bind, pure, Except.pure]

/-- The arms of `handleSequence` are exactly those the model transcribes: adding, removing or
relabelling a case changes `Gen.Caps.hs_switches` and this theorem stops checking. -/
theorem switch_coverage : Gen.Caps.hs_switches = [
    ("type", ["ansi.Print", "ansi.C0", "ansi.ESC", "ansi.SS3", "ansi.CSI", "ansi.DCS", "ansi.APC", "ansi.OSC"]),
    ("seq.Final", ["'c'", "'I'", "'O'", "'R'", "'S'", "'n'", "'y'", "'u'", "'~'", "'M'", "'m'", "'t'"]),
    ("ps[0]", ["4"]),
    ("seq.Parameters[0][0]", ["2"]),
    ("seq.Parameters[0][0]", ["colorThemeResp"]),
    ("seq.Parameters[0][0]", ["2026", "2027", "2031"]),
    ("seq.Parameters[1][0]", ["1", "2"]),
    ("seq.Parameters[1][0]", ["1", "2", "3"]),
    ("seq.Parameters[1][0]", ["1", "2"]),
    ("seq.Parameters[0][0]", ["200", "201"]),
    ("typ", ["4", "8", "48"]),
    ("len(seq.Parameters)", ["5"]),
    ("seq.Final", ["'r'", "'|'"]),
    ("seq.Intermediate[0]", ["'+'", "'$'"]),
    ("vals[0]", ["hexEncode(\"Smulx\")", "hexEncode(\"RGB\")"]),
    ("seq.Intermediate[0]", ["'!'", "'>'"])] := rfl

/-- The DECRPM values the model reads from the source: set/reset for 2026 and 2031, and also
"permanently set" for 2027. -/
theorem decrpm_values : decrpmVals 0 = [1, 2] ∧ decrpmVals 1 = [1, 2, 3] ∧ decrpmVals 2 = [1, 2] :=
  ⟨decrpm0, decrpm1, decrpm2⟩

/-- The string literals `handleSequence` compares against, in source order, are the ones the model's DCS / APC / OSC arms test. -/
theorem literal_coverage : Gen.Caps.hs_literals = [
    ("strings.Split", "="), ("hexEncode", "Smulx"), ("hexEncode", "RGB"), ("strings.HasSuffix", " q"),
    ("hexEncode", "~VTE"), ("strings.HasPrefix", "G"), ("strings.HasPrefix", "4"), ("strings.HasPrefix", "10"),
    ("strings.HasPrefix", "11"), ("strings.HasPrefix", "52"), ("strings.Split", ";"), ("strings.HasPrefix", "176"),
    ("strings.Split", ";")] ∧ Gen.Caps.colorThemeResp = 997 := ⟨rfl, rfl⟩

/-- Every index expression of `handleSequence` / `parseMouseEvent` is one the model checks. -/
theorem index_coverage :
    Gen.Caps.hs_indexExprs.eraseDups = ["seq.Intermediate[0]", "ps[0]", "seq.Parameters[0][0]", "seq.Parameters[1][0]",
      "seq.Parameters[2][0]", "seq.Parameters[3][0]", "seq.Parameters[4][0]", "seq.Parameters[0]", "vals[0]", "seq.Data[0]",
      "vals[2]", "vals[1]"] ∧
    Gen.Caps.pm_indexExprs.eraseDups = ["seq.Intermediate[0]", "seq.Parameters[0][0]", "seq.Parameters[1][0]",
      "seq.Parameters[2][0]"] ∧ Gen.Caps.hs_indexExprs.length = 28 ∧ Gen.Caps.pm_indexExprs.length = 8 := by decide +kernel

/-- The capability record and the collection loop of `New` are the ones the model transcribes. -/
theorem caps_coverage :
    Gen.Caps.capFields = Caps.fieldNames ∧
    (Gen.Caps.collect.filter (fun x => x.1 != "appID" && x.1 != "terminalID")).map (fun x => (x.1, x.2.1)) = collectTable ∧
    (Gen.Caps.collect.filter (fun x => x.1 == "appID" || x.1 == "terminalID")).map (fun x => (x.1, x.2.1))
      = [("appID", ["osc176"]), ("terminalID", [])] := by decide +kernel

/-- The reply channels have the capacities the LTS assumes (1,1,1,1,1,0). -/
theorem chan_capacities :
    (["chCursorPos", "chSizeDone", "chColor", "chFg", "chBg", "chClipboard"].map fun c => (Gen.Caps.chanCaps.lookup c))
      = [some "1", some "1", some "1", some "1", some "1", some "0"] := by decide +kernel

end VaxisModel.Props.C03
