/-
C03 — `handleSequence`, `parseMouseEvent` and `Resize` INTERPRETED from the source.

`Gen/InputBody.lean` (regenerated on every run by extract/cmd/C03 with the go/ast translator of
C09/C13) holds the three bodies as terms of the statement language `Model/GoBody.lean`;
`Model/InputBody.lean` executes them.  The theorems below say that this execution IS the hand model
of `Model/Input.lean` (over which all the other C03 / C07 theorems are proved), for every state and
every sequence: same new state, same effects in the same order, each written the way the LTS assumes
(blocking post / non-blocking post / `select` with `default` / `select` with a time-out case), the
same early returns and `break`s, a run-time panic exactly where the model has one — and the
interpreter never meets a construct it has no meaning for.
-/
import VaxisModel.Lemmas.InputBodyArms3
import VaxisModel.Props.C03
import VaxisModel.Lemmas.CursorBody

namespace VaxisModel.Props.C03Body
open VaxisModel.Model.GoBody VaxisModel.Model.Input VaxisModel.Model.InputBody VaxisModel.Model.InputLoop
open VaxisModel.Gen.InputBody VaxisModel.Lemmas.InputBodyArms

/-- Every node of the three regenerated bodies is one the translator knows (no `.unknown`, no
operator or assignment token it has no constructor for). -/
theorem bodies_fully_recognised :
    hs.clean = true ∧ pm.clean = true ∧ rz.clean = true ∧ unknownCount = 0 := by decide +kernel

/-- The constants the interpreter (and the hand model) use for `EventType` and the modifier masks
are those of key.go's iota blocks, read from the source on every run. -/
theorem interpreter_constants_from_source :
    Gen.InputBody.eventTypes.lookup "EventPress" = some evPress ∧ Gen.InputBody.eventTypes.lookup "EventRelease" = some evRelease ∧
    Gen.InputBody.eventTypes.lookup "EventMotion" = some evMotion ∧ Gen.InputBody.eventTypes.lookup "EventPaste" = some evPaste ∧
    Gen.InputBody.modifierMasks.lookup "ModShift" = some modShift ∧ Gen.InputBody.modifierMasks.lookup "ModAlt" = some modAlt ∧
    Gen.InputBody.modifierMasks.lookup "ModCtrl" = some modCtrl := by decide +kernel

/-- `parseMouseEvent` run on its regenerated body = the hand model `parseMouse`, for all
intermediates, parameter lists and finals: the same `Mouse` and `ok`, a panic exactly where the
model has one. -/
theorem parseMouse_body_eq_model (interm : List Nat) (params : List (List Int)) (final : Nat) :
    runPm (.csi interm params final) = pmOfModel (parseMouse interm params final) :=
  pm_eq interm params final

/-- `handleSequence` run on its regenerated body = the hand model `handle`, for every base-64
decoder, every state and every sequence: the new state, the effects in order, and for each effect
the way its statement is written in the source = the kind the LTS takes from `Gen.Caps.hs_sends`. -/
theorem handleSequence_body_eq_model (b64 : List Nat → Option (List Nat)) (vs : VState) (s : Seq) :
    runHs b64 vs s = ofModel Kinds.ofGen (handle b64 vs s) := by
  cases s with
  | print g w => exact key_print b64 vs g w
  | c0 r => exact key_c0 b64 vs r
  | esc i f => exact key_esc b64 vs i f
  | ss3 r => exact key_ss3 b64 vs r
  | other => exact no_arm b64 vs
  | apc d => exact apc_all b64 vs d
  | osc pl => exact osc_all b64 vs pl
  | dcs f i p d =>
    by_cases h1 : f = 114
    · subst h1; exact dcs_r b64 vs i p d
    · by_cases h2 : f = 124
      · subst h2; exact dcs_pipe b64 vs i p d
      · exact dcs_other b64 vs f i p d h1 h2
  | csi i p f =>
    by_cases h1 : f = 99
    · subst h1; exact csi_c b64 vs i p
    by_cases h2 : f = 73
    · subst h2; exact csi_I b64 vs i p
    by_cases h3 : f = 79
    · subst h3; exact csi_O b64 vs i p
    by_cases h4 : f = 82
    · subst h4; exact csi_R b64 vs i p
    by_cases h5 : f = 83
    · subst h5; exact csi_S b64 vs i p
    by_cases h6 : f = 110
    · subst h6; exact csi_n b64 vs i p
    by_cases h7 : f = 121
    · subst h7; exact csi_y b64 vs i p
    by_cases h8 : f = 117
    · subst h8; exact csi_u b64 vs i p
    by_cases h9 : f = 126
    · subst h9; exact csi_tilde b64 vs i p
    by_cases h10 : f = 77
    · exact csi_Mm b64 vs i p f (Or.inl h10)
    by_cases h11 : f = 109
    · exact csi_Mm b64 vs i p f (Or.inr h11)
    by_cases h12 : f = 116
    · subst h12; exact csi_t b64 vs i p
    exact csi_other b64 vs i p f ⟨h1, h2, h3, h4, h5, h6, h7, h8, h9, h10, h11, h12⟩

theorem runHs_ok {b64 : List Nat → Option (List Nat)} {vs vs' : VState} {s : Seq} {keffs : List KEff}
    (h : runHs b64 vs s = .ok (vs', keffs)) :
    ∃ effs, handle b64 vs s = .ok (vs', effs) ∧ keffs = effs.map fun e => (e, kindOf Kinds.ofGen e) := by
  rw [handleSequence_body_eq_model] at h
  cases hh : handle b64 vs s with
  | error x => simp [hh, ofModel] at h
  | ok r =>
    obtain ⟨v, l⟩ := r
    simp only [hh, ofModel, Except.ok.injEq, Prod.mk.injEq] at h
    exact ⟨l, by rw [h.1], h.2.symm⟩

/-- The interpreter never meets something it has no meaning for, on any input: the regenerated body
stays inside the interpreted subset of Go. -/
theorem body_never_stuck (b64 : List Nat → Option (List Nat)) (vs : VState) (s : Seq) (why : String) :
    runHs b64 vs s ≠ .error (.stuck why) := by
  rw [handleSequence_body_eq_model]
  cases handle b64 vs s with
  | error e => simp [ofModel]
  | ok r => simp [ofModel]

/-- The regenerated body panics (index out of range) exactly when the hand model does. -/
theorem body_panics_iff_model (b64 : List Nat → Option (List Nat)) (vs : VState) (s : Seq) :
    runHs b64 vs s = .error .panic ↔ handle b64 vs s = .error .indexOutOfRange := by
  rw [handleSequence_body_eq_model]
  cases h : handle b64 vs s with
  | error e => cases e; simp [ofModel]
  | ok r => simp [ofModel]

/-- No reply hand-off in the regenerated body is a bare (blocking) channel send: whatever the
sequence and the state, every send effect the body performs is written as a `select` with `default`
or with a time-out case (F10, F11, F12 repaired); only posts of events block. -/
theorem body_sends_never_bare (b64 : List Nat → Option (List Nat)) (vs vs' : VState) (s : Seq)
    (effs : List KEff) (h : runHs b64 vs s = .ok (vs', effs)) (e : Effect) (k : SendKind) (hm : (e, k) ∈ effs) :
    k = .blocking → ∃ ev, e = .postB ev := by
  obtain ⟨l, -, rfl⟩ := runHs_ok h
  simp only [List.mem_map, Prod.mk.injEq] at hm
  obtain ⟨e', -, rfl, rfl⟩ := hm
  intro hk
  cases e' <;> simp [kindOf, VaxisModel.Lemmas.Input.kinds_now] at hk ⊢

/-- The `.input` label of the LTS of the input goroutine (`Model/InputLoop.lean`, over which
`never_wedges`, `input_never_lost*`, `caps_exact` … are proved) IS a run of the regenerated body of
`handleSequence`. -/
theorem lts_input_is_body (p : Params) (s : Sys) (q : Seq) (h : s.pend = []) :
    next p s (.input q) =
      match runHs p.b64 s.vs q with
      | .ok (vs, keffs) => some (.ok { s with vs := vs, pend := keffs.map (·.1) })
      | .error _ => some (.error .indexOutOfRange) := by
  rw [handleSequence_body_eq_model]
  simp only [next, h]
  cases hh : handle p.b64 s.vs q with
  | error e => cases e; simp [ofModel]
  | ok r => obtain ⟨v, l⟩ := r; simp [ofModel, List.map_map, Function.comp_def]

/-- **`CursorPosition()` run on its regenerated body = the model**, whichever case of its final
`select` fires and whatever pair is received: it drops a stale answer (non-blocking receive on
`chCursorPos`), raises the request flag, writes `DSR 6`, arms a 50 ms timer; if the timer fires
first it lowers the flag and returns `(-1, -1)`, otherwise it receives once and returns
`(row-1, col-1)` — the labels `cursorDrain`, `cursorCall`, `cursorTimeout` (with the flag lowered),
`cursorRecv` of the LTS, in this order; no node of the body is unknown to the translator. -/
theorem cursorPosition_body_eq_model (fired : Bool) (r c : Int) :
    VaxisModel.Model.CursorBody.runCp ⟨fired, [r, c]⟩ = .ok (VaxisModel.Model.CursorBody.cursorPositionModel fired r c) ∧
    Gen.InputBody.cp.clean = true :=
  ⟨VaxisModel.Lemmas.CursorBody.cp_eq fired r c, by decide⟩

/-- The parameters the LTS reads from the statement strings of `CursorPosition` (`cp_stmts`) agree
with the interpreted body: it starts with the drain, and its time-out branch lowers the flag. -/
theorem cursor_lts_params_agree_with_body :
    cursorDrainGen = true ∧ cursorTimeoutResetsGen = true ∧
    (VaxisModel.Model.CursorBody.cursorPositionModel true 0 0).1.head? = some (.tryRecv "vx.chCursorPos") ∧
    (VaxisModel.Model.CursorBody.cursorPositionModel true 0 0).1.getLast? = some (.store "vx.reqCursorPos" false) := by decide +kernel

/-- The sequences of a stream handled one after the other BY THE REGENERATED BODY: the final state
and everything posted, in order. -/
def pipelineBody (b64 : List Nat → Option (List Nat)) : VState → List Seq → Except Fail (VState × List Event)
  | st, [] => .ok (st, [])
  | st, s :: ss =>
    match runHs b64 st s with
    | .error e => .error e
    | .ok (st1, keffs) =>
      match pipelineBody b64 st1 ss with
      | .error e => .error e
      | .ok (st2, evs) => .ok (st2, VaxisModel.Lemmas.InputEvents.posted (keffs.map (·.1)) ++ evs)

theorem pipelineBody_eq (b64 : List Nat → Option (List Nat)) : ∀ (ss : List Seq) (st : VState),
    pipelineBody b64 st ss =
      match VaxisModel.Lemmas.InputEvents.pipeline b64 st ss with
      | .ok r => .ok r
      | .error _ => .error .panic
  | [], st => rfl
  | s :: ss, st => by
    simp only [pipelineBody, VaxisModel.Lemmas.InputEvents.pipeline, handleSequence_body_eq_model]
    cases hh : handle b64 st s with
    | error e => simp [ofModel]
    | ok r =>
      obtain ⟨st1, effs⟩ := r
      simp only [ofModel, pipelineBody_eq b64 ss st1, List.map_map, Function.comp_def, List.map_id']
      cases VaxisModel.Lemmas.InputEvents.pipeline b64 st1 ss with
      | error e => rfl
      | ok r2 => rfl

/-- **`events_exact` on the interpreted source.**  For every list of well-formed reports handled in
order by the regenerated body of `handleSequence`, from any state with no cursor-position request
outstanding: no panic, nothing the interpreter cannot execute, and the application-visible events
posted are exactly those the grammar-level spec requires — one per report, in order, keys inside a
paste marked as pasted, replies invisible. -/
theorem events_exact_body (b64 : List Nat → Option (List Nat)) (rs : List VaxisModel.Lemmas.InputEvents.SReport) (st : VState)
    (hw : ∀ r ∈ rs, r.Wf) (hreq : st.reqCursorPos = false) :
    ∃ st' evs, pipelineBody b64 st (rs.map VaxisModel.Lemmas.InputEvents.SReport.seq) = .ok (st', evs) ∧
      VaxisModel.Lemmas.InputEvents.visible evs =
        VaxisModel.Spec.InputEvents.specEvents st.pastePending (rs.map VaxisModel.Lemmas.InputEvents.SReport.spec) := by
  obtain ⟨st', evs, hp, hv⟩ := VaxisModel.Props.C03.events_exact b64 rs st hw hreq
  exact ⟨st', evs, by rw [pipelineBody_eq, hp], hv⟩

/-- Non-vacuity: a concrete run of the regenerated body — the answer to a cursor-position request
is handed over with a non-blocking send and the flag is lowered. -/
example : runHs (fun _ => none) { reqCursorPos := true } (.csi [] [[3], [7]] 82)
    = .ok ({ reqCursorPos := false }, [(.sendCursorPos 3 7, .nonblocking)]) := by
  rw [handleSequence_body_eq_model]; rfl

end VaxisModel.Props.C03Body
