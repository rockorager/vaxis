/-
C03 — "never stops consuming input": liveness of the input goroutine as statements about
ALL runs of the LTS (`Model/InputLoop.lean`, whose `.input` label is a run of the regenerated body of
`handleSequence`, `Props/C03Body.lts_input_is_body`), with the send kinds, channel capacities and
requester prologues of the current source (F10, F11, F12, F103, F203 repaired).

`never_wedges` (Props/C03) says: from every reachable state SOME internal schedule brings the
goroutine back to its `select`.  Here: every internal schedule does, within a bound; whenever effects
are pending an internal move is enabled; and every stream is consumed to its end from every
reachable state, whatever the requesters did before.
-/
import VaxisModel.Lemmas.InputLive
import VaxisModel.Props.C03

namespace VaxisModel.Props.C03Live
open VaxisModel.Model.Input VaxisModel.Model.InputLoop VaxisModel.Lemmas.InputLoop VaxisModel.Lemmas.Input
open VaxisModel.Lemmas.InputLive

/-- The parameters of the current source: any queue capacity, the regenerated send kinds. -/
def srcParams (qcap : Nat) (b64 : List Nat → Option (List Nat)) : Params := { qcap := qcap, kinds := Kinds.ofGen, b64 := b64 }

/-- The event queue always has room for at least one event: `New()` replaces a size below 1 by the
default, and the channel is made with that size (read from the source on every run). This is the
hypothesis `0 < qcap` of the theorems below. -/
theorem queue_capacity_positive :
    Gen.Caps.queueSizeGuard = "opts.EventQueueSize < 1" ∧ Gen.Caps.queueCapExpr = "opts.EventQueueSize" ∧
    0 < Gen.Caps.defaultQueueSize := ⟨rfl, rfl, by decide +kernel⟩

/-- **The goroutine is never stuck.**  In every state reachable by any labels (terminal input of any
kind, requesters calling, receiving and timing out at any moment) with effects still pending, an
internal move — a goroutine step, the clipboard hand-off's own time-out, or the application reading
one event — is enabled.  There is no reachable state in which the input goroutine waits for ever
while the application drains its events. -/
theorem never_stuck (qcap : Nat) (hq : 0 < qcap) (b64 : List Nat → Option (List Nat)) (s0 s : Sys)
    (h0 : s0.queue.length ≤ qcap) (hr : Reachable (srcParams qcap b64) s0 s) (hp : s.pend ≠ []) :
    ∃ l s', l.internal = true ∧ next (srcParams qcap b64) s l = some (.ok s') :=
  internal_enabled (srcParams qcap b64) hq VaxisModel.Props.C03.send_kinds_safe s (reach_queue_le _ s0 s h0 hr) hp

/-- **Every internal schedule terminates, and quickly.**  Each internal move strictly decreases
`work = 2·|pending effects| + |queue|`; so any run of internal moves from `s` has at most `work s`
moves — the goroutine cannot be kept busy for ever by one sequence, in any order of steps,
time-outs and receives. -/
theorem internal_runs_terminate (p : Params) (ls : List Label) (s s' : Sys) (hi : ∀ l ∈ ls, l.internal = true)
    (hr : run p s ls = some s') : ls.length + work s' ≤ work s :=
  internal_run_bounded p ls s s' hi hr

/-- **All-runs form of `never_wedges`.**  From every reachable state, EVERY maximal schedule of
internal moves ends — after at most `work s` moves — with the goroutine back at its `select` and
the queue empty: a run of internal moves that cannot be extended has nothing pending. -/
theorem every_internal_run_settles (qcap : Nat) (hq : 0 < qcap) (b64 : List Nat → Option (List Nat)) (s0 s s' : Sys)
    (h0 : s0.queue.length ≤ qcap) (hr : Reachable (srcParams qcap b64) s0 s) (ls : List Label)
    (hi : ∀ l ∈ ls, l.internal = true) (hrun : run (srcParams qcap b64) s ls = some s')
    (hmax : ∀ l, l.internal = true → ∀ s'', next (srcParams qcap b64) s' l ≠ some (.ok s'')) :
    s'.pend = [] ∧ s'.queue = [] ∧ ls.length ≤ work s := by
  have hreach : Reachable (srcParams qcap b64) s0 s' := VaxisModel.Lemmas.InputLoop.reachable_of_run hr hrun
  have hb := internal_run_bounded _ ls s s' hi hrun
  refine ⟨?_, ?_, by omega⟩
  · apply Classical.byContradiction
    intro hp
    obtain ⟨l, s'', hl, hn⟩ := never_stuck qcap hq b64 s0 s' h0 hreach hp
    exact hmax l hl s'' hn
  · cases hqe : s'.queue with
    | nil => rfl
    | cons ev q =>
      exact absurd (show next (srcParams qcap b64) s' .consume = some (.ok { s' with queue := q, delivered := s'.delivered ++ [ev] }) by
        simp [next, hqe]) (hmax .consume rfl _)

/-- **Requesters can neither starve nor prolong the input goroutine.**  A requester label (any call,
receive, time-out or cancellation of `CursorPosition`, `reportWinsize`, the colour queries,
`ClipboardPop`) changes neither the pending effects nor the event queue; hence in ANY schedule
without further terminal input — internal moves and requester activity interleaved in any way — at
most `work s` moves are internal.  Together with `never_stuck` (an internal move is enabled in every
reachable state with effects pending, and reachability is closed under requester labels): under
every schedule of requesters, the goroutine is back at its `select` after at most `work s` of its
own moves and the application's receives. -/
theorem requesters_do_not_add_work (p : Params) (ls : List Label) (s s' : Sys) (hni : ∀ l ∈ ls, ∀ q, l ≠ .input q)
    (hr : run p s ls = some s') : (ls.filter (·.internal)).length + work s' ≤ work s :=
  schedule_bounded p ls s s' hni hr

/-- **The loop reaches the end of every stream.**  From every state reachable by any labels — any
earlier input, any requester activity, any time-outs — and for every further stream of sequences
the parser can deliver, there is a schedule consisting of exactly those sequences, in order, and
internal moves only (no requester needed, nothing left to chance but the application reading its
events) after which the goroutine is back at its `select` with the whole stream handled and
without a panic. -/
theorem stream_reaches_end (qcap : Nat) (hq : 0 < qcap) (b64 : List Nat → Option (List Nat)) (s0 s : Sys)
    (h0 : s0.queue.length ≤ qcap) (hr : Reachable (srcParams qcap b64) s0 s) (qs : List Seq) (hwf : ∀ q ∈ qs, WfSeq q) :
    ∃ ls s', run (srcParams qcap b64) s ls = some s' ∧ s'.pend = [] ∧ inputsOf ls = qs ∧
      (∀ l ∈ ls, l.internal = true ∨ ∃ q, l = .input q) := by
  obtain ⟨ls, s', h1, h2, _, h4, h5⟩ :=
    stream_consumed (srcParams qcap b64) hq VaxisModel.Props.C03.send_kinds_safe qs s hwf (reach_queue_le _ s0 s h0 hr)
  exact ⟨ls, s', h1, h2, h4, h5⟩

/-- **A solicited clipboard reply reaches its requester even when it is handled first.**  With the
hand-off written as in the source (`select` with a time-out case, `send_kinds`), a reply whose
hand-off is pending when nobody waits yet stays pending — the goroutine's step is not enabled — and
as soon as `ClipboardPop` parks in its `select` the step hands the text over.  (Seeded change
C03-m7 turns the hand-off into `select` + `default`; the example below is that variant.) -/
theorem early_clipboard_reply_delivered (qcap : Nat) (b64 : List Nat → Option (List Nat)) (s : Sys) (v : List Nat) (rest : List Effect)
    (hp : s.pend = .sendClipboard v :: rest) (hw : s.clipWaiting = false) :
    next (srcParams qcap b64) s .step = none ∧
    run (srcParams qcap b64) s [.clipCall, .step] =
      some { s with pend := rest, clipWaiting := false, clipGot := s.clipGot ++ [v] } := by
  have hk : (srcParams qcap b64).kinds.clipboard = .timeout := by
    simp [srcParams, VaxisModel.Props.C03.send_kinds]
  constructor
  · simp [next, hp, stepEffect, hw, hk]
  · simp [run, next, hp, stepEffect, hw]

/-- The variant of seeded change C03-m7 (non-blocking hand-off): the reply handled before the
requester parks is dropped by the goroutine's next step, and `ClipboardPop` then has nothing to
receive. -/
example : (let p : Params := { qcap := 4, kinds := { Kinds.ofGen with clipboard := .nonblocking }, b64 := fun _ => some [104, 105] }
    match run p {} [.input (.osc [53, 50, 59, 99, 59, 97]), .step, .clipCall] with
    | some s => s.pend.isEmpty && s.clipGot.isEmpty && s.clipWaiting
    | none => false) = true := by decide +kernel

private theorem inputsOf_eq_inputSeqs : ∀ ls : List Label, inputsOf ls = VaxisModel.Lemmas.InputFlow.inputSeqs ls
  | [] => rfl
  | l :: t => by
    have ih := inputsOf_eq_inputSeqs t
    cases l <;> simp [inputsOf, VaxisModel.Lemmas.InputFlow.inputSeqs] at ih ⊢ <;> exact ih

/-- **Safety and liveness together: every stream is delivered completely.**  For every queue
capacity ≥ 1, every decoder and every stream of well-formed, parser-deliverable reports (keys in any
encoding, SGR mouse, focus, paste brackets, replies of every shape, cursor-position reports) there
is a schedule from the initial state — the stream's sequences in order, otherwise only goroutine
steps, the clipboard time-out and the application reading events — after which the goroutine is at
its `select`, the queue is empty, and the application HAS RECEIVED every user-input event of the
stream other than the keys encoded `CSI … R`: exactly once, in stream order, decoded and paste-marked
as the grammar-level spec says.  (`input_never_lost_with_cpr` says nothing is lost on any run;
this adds that a run delivering everything exists for every stream.) -/
theorem stream_delivered_completely (qcap : Nat) (hq : 0 < qcap) (b64 : List Nat → Option (List Nat))
    (rs : List VaxisModel.Lemmas.InputEvents.SReport) (hw : ∀ r ∈ rs, r.Wf) (hs : ∀ r ∈ rs, WfSeq r.seq) :
    ∃ ls s', run (srcParams qcap b64) {} ls = some s' ∧ s'.pend = [] ∧ s'.queue = [] ∧
      VaxisModel.Lemmas.InputFlow.inputSeqs ls = rs.map VaxisModel.Lemmas.InputEvents.SReport.seq ∧
      (∀ l ∈ ls, l.internal = true ∨ ∃ q, l = .input q) ∧
      ((VaxisModel.Lemmas.InputEvents.visible s'.delivered).filter VaxisModel.Lemmas.InputFlow.uiU).filter VaxisModel.Lemmas.InputFlowCpr.unambiguous =
        (VaxisModel.Spec.InputEvents.specEvents false (rs.map VaxisModel.Lemmas.InputEvents.SReport.spec)).filter
          VaxisModel.Lemmas.InputFlowCpr.unambiguous := by
  have hwf : ∀ q ∈ rs.map VaxisModel.Lemmas.InputEvents.SReport.seq, WfSeq q := by
    intro q hq'
    obtain ⟨r, hr, rfl⟩ := List.mem_map.mp hq'
    exact hs r hr
  obtain ⟨ls1, s1, hr1, hp1, hq1, hi1, hl1⟩ :=
    stream_consumed (srcParams qcap b64) hq VaxisModel.Props.C03.send_kinds_safe _ ({} : Sys) hwf (by simp)
  obtain ⟨s2, hr2, hp2, hq2⟩ := drain_queue (srcParams qcap b64) s1.queue.length s1 rfl hp1
  have hrun : run (srcParams qcap b64) {} (ls1 ++ List.replicate s1.queue.length .consume) = some s2 := by
    rw [run_append _ ls1 _ _ s1 hr1, hr2]
  have hin : VaxisModel.Lemmas.InputFlow.inputSeqs (ls1 ++ List.replicate s1.queue.length .consume) =
      rs.map VaxisModel.Lemmas.InputEvents.SReport.seq := by
    rw [← inputsOf_eq_inputSeqs, inputsOf_append, hi1, inputsOf_consumes, List.append_nil]
  refine ⟨_, s2, hrun, hp2, hq2, hin, ?_, ?_⟩
  · intro l hl
    rcases List.mem_append.mp hl with h | h
    · exact hl1 l h
    · rw [List.eq_of_mem_replicate h]; exact Or.inl rfl
  · have h := VaxisModel.Props.C03.input_never_lost_with_cpr (srcParams qcap b64) rs _ ({} : Sys) s2 hin hw hs (by trivial) hrun
    simpa [VaxisModel.Lemmas.InputFlow.flow, hp2, hq2, VaxisModel.Lemmas.InputEvents.posted, VaxisModel.Lemmas.InputEvents.visible] using h

/-- Why `0 < qcap` is needed (it is what `New()` guarantees, `queue_capacity_positive`): with a
queue without room a blocking post is never enabled and nothing can be consumed. -/
example : (let p := srcParams 0 (fun _ => none)
    let s : Sys := { pend := [.postB .focusIn] }
    (next p s .step).isNone && (next p s .consume).isNone && (next p s .clipTimeout).isNone) = true := by decide +kernel

/-- Why the send kinds matter (`send_kinds_safe` is a theorem over the regenerated source, not a
hypothesis): with the bare sends of the original source a second size report is stuck for ever —
the F10 state, no internal move enabled. -/
example : (let p : Params := { qcap := 4, kinds := Kinds.original, b64 := fun _ => none }
    let s : Sys := { pend := [.sendSizeDone], sizeDone := 1 }
    (next p s .step).isNone && (next p s .consume).isNone && (next p s .clipTimeout).isNone) = true := by decide +kernel

/-- Non-vacuity: a state with a request outstanding, a parked stale answer, a full capacity-1
colour channel and a paste in progress; the stream `paste end, key, OSC 4 reply, CPR` is consumed
to its end by the schedule given. -/
example : (match run (srcParams 2 (fun _ => none))
      { vs := { pastePending := true, reqCursorPos := true, caps := { osc4 := true } }, cursorCh := [(1, 1)], color := [[52]] }
      [.input (.csi [] [[201]] 126), .step, .input (.print [97] 1), .step, .input (.osc [52, 59]), .step, .consume, .step,
       .input (.csi [] [[3], [4]] 82), .step] with
    | some s' => s'.pend.isEmpty && s'.delivered.length == 1 && s'.queue.length == 2 && s'.cursorCh.length == 1
    | none => false) = true := by decide +kernel

end VaxisModel.Props.C03Live
