import VaxisModel.Lemmas.InputQuery
import VaxisModel.Lemmas.QueryBody
import VaxisModel.Lemmas.RequesterBody
import VaxisModel.Model.InputLoop

/-!
# C03 — "replies to Vaxis's own queries … update exactly the answer they report": the colour requesters

Theorems over `Model/InputQuery.lean` (the parse of the reply by `QueryColor`, `QueryForeground`,
`QueryBackground`: `parseColorReply` since the F303 repair).  The hand-off of the payload (reply → `chColor`/`chFg`/`chBg` → requester) is
the LTS of `Model/InputLoop.lean`; `Driver/C03` composes both and compares with the real requesters.
-/
namespace VaxisModel.Props.C03Query
open VaxisModel.Model.InputQuery VaxisModel.Model.Color VaxisModel.Lemmas.InputQuery
open VaxisModel.Model.Input VaxisModel.Model.InputLoop

private theorem no_slash (ds : List Nat) (v : Nat) (h : xparseChannel ds = some v) : ∀ x ∈ ds, x ≠ 47 := by
  rw [← parseChannel_eq_xparse] at h
  obtain ⟨_, w, hn, _⟩ := parseChannel_some h
  intro x hx; exact (hex_ne_slash x (hexNum_all_hex ds 0 w hn x hx)).1

/-- **The answer is exactly the colour the reply reports** (F303 repaired), for every digit count:
for every literal prefix (`4;<idx>;rgb:`, `10;rgb:`, `11;rgb:`) and every three channels each of
which XParseColor accepts — 1, 2, 3 or 4 hexadecimal digits, either case — the requester returns
the direct colour whose channels are the XParseColor readings (value scaled to 16 bits, high byte).
`Witness/F303` proves the same statement false of the parse the code had before the repair. -/
theorem query_reply_exact : ExactFor colorOfReply := by
  intro lit r g b vr vg vb hr hg hb
  have sr := no_slash r vr hr
  have sg := no_slash g vg hg
  have sb := no_slash b vb hb
  simp only [colorOfReply, matchLit_app, splitOn_sep_app 47 r _ sr, splitOn_sep_app 47 g _ sg, splitOn_nosep 47 b sb,
    parseChannel_eq_xparse, hr, hg, hb]

/-- Every digit count separately, as the terminal may mix them: `rgb:f/ff/fff` and `rgb:ffff/…`. -/
example : colorOfReply litFg (ascii "10;rgb:f/ff/fff") = rgbColor 255 255 255 ∧
    colorOfReply litBg (ascii "11;rgb:1234/5678/9abc") = rgbColor 0x12 0x56 0x9a ∧
    colorOfReply (litColor 15) (ascii "4;15;rgb:8/80/800") = rgbColor 0x88 0x80 0x80 ∧
    colorOfReply litFg (ascii "10;rgb:B9/01/a5") = rgbColor 0xb9 0x01 0xa5 := by decide +kernel

/-- The value returned always fits the three `uint8` channels of `RGBColor` (the conversion in
`rgb[i] = uint8(…)` cuts nothing). -/
theorem query_reply_channel_range (ds : List Nat) (v : Nat) (h : parseChannel ds = some v) : v < 256 := by
  obtain ⟨⟨hlen1, _⟩, x, hn, rfl⟩ := parseChannel_some h
  have hpow : 16 ^ 1 ≤ 16 ^ ds.length := Nat.pow_le_pow_right (by decide) hlen1
  have hx : x < 16 ^ ds.length := by
    obtain ⟨w, hw, hb⟩ := hexNum_some ds 0 (hexNum_all_hex ds 0 x hn)
    rw [hn] at hw; cases hw; simpa using hb
  have hle : x ≤ 16 ^ ds.length - 1 := by omega
  have hy : x * 65535 / (16 ^ ds.length - 1) ≤ 65535 := by
    apply Nat.div_le_of_le_mul
    rw [Nat.mul_comm x 65535, Nat.mul_comm (16 ^ ds.length - 1) 65535]
    exact Nat.mul_le_mul_left _ hle
  generalize x * 65535 / (16 ^ ds.length - 1) = y at hy
  omega

/-- A reply that does not start with the literal prefix of the query (another index, another OSC
number, a truncated payload) makes the requester return `Color(0)`. -/
theorem query_reply_rejected (lit resp : List Nat) (h : matchLit lit resp = none) : colorOfReply lit resp = 0 := by
  simp [colorOfReply, h]

/-- A reply with the right prefix but not exactly three channels, or with a channel that is not 1–4
hexadecimal digits, makes the requester return `Color(0)` — nothing else happens (no panic: the
model has no partial operation here). -/
theorem query_reply_malformed (lit rest : List Nat) :
    ((splitOn 47 rest).length ≠ 3 → colorOfReply lit (lit ++ rest) = 0) ∧
    (∀ a b c, splitOn 47 rest = [a, b, c] → (parseChannel a = none ∨ parseChannel b = none ∨ parseChannel c = none) →
      colorOfReply lit (lit ++ rest) = 0) := by
  refine ⟨?_, ?_⟩
  · intro h
    simp only [colorOfReply, matchLit_app]
    split
    · rename_i heq; simp [heq] at h
    · rfl
  · intro a b c hs h
    simp only [colorOfReply, matchLit_app, hs]
    rcases h with h | h | h
    · simp [h]
    · cases parseChannel a <;> simp [h]
    · cases parseChannel a <;> cases parseChannel b <;> simp [h]

/-- Non-vacuity of the rejections: what the old `Sscanf` let through and XParseColor does not
(blank, sign, trailing text, 5 digits), `_`, a missing channel, another index. -/
example : colorOfReply (litColor 15) (ascii "4;15;rgb:-1/+0a/ 1f") = 0 ∧ colorOfReply litFg (ascii "10;rgb:B9/01/a5 x") = 0 ∧
    colorOfReply litBg (ascii "11;rgb:ff/ff/12345") = 0 ∧ colorOfReply litBg (ascii "11;rgb:f_f/00/00") = 0 ∧
    colorOfReply litBg (ascii "11;rgb:ff/ff") = 0 ∧ colorOfReply (litColor 3) (ascii "4;30;rgb:ff/ff/ff") = 0 := by decide +kernel

/-- The prologue of `QueryColor`: no capability → `Color(0)` without a query; an RGB colour is
returned as is; an indexed colour asks for its index; the default colour has no index. -/
theorem query_color_prologue (c : Color) :
    queryColorPre false c = .inl 0 ∧ queryColorPre true (indexColor 7) = .inr 7 ∧
    queryColorPre true (rgbColor 1 2 3) = .inl (rgbColor 1 2 3) ∧ queryColorPre true 0 = .inl 0 := by
  refine ⟨rfl, by decide, by decide, by decide⟩

open VaxisModel.Model.QueryBody in
/-- The regenerated body of `parseColorReply` (`Gen.InputBody.pr`, a term of the statement language
of `Model/GoBody.lean`) contains no node the translator did not know. -/
theorem parse_reply_body_recognised : Gen.InputBody.pr.clean = true := by decide +kernel

open VaxisModel.Model.QueryBody in
/-- **`parseColorReply` run on its regenerated body = the model**, for every reply and every prefix:
the same colour and the same `ok` (`Model/QueryBody.lean` executes the term: byte lengths, unsigned
64-bit `mul` / `shl` / `-`, `div`, `shr`, `uint8`, `strconv.ParseUint(·, 16, 16)`, the array `rgb`). -/
theorem parseColorReply_body_eq_model (resp pfx : List Nat) :
    runPr resp pfx = .ok (match parseReply (pfx ++ [114, 103, 98, 58]) resp with | some c => (c, true) | none => (0, false)) :=
  VaxisModel.Lemmas.QueryBody.pr_eq resp pfx

open VaxisModel.Model.QueryBody in
/-- What the requesters return (`colorOfReply`, over which `query_reply_exact` is proved) is the
colour component of that run. -/
theorem colorOfReply_is_body (resp pfx : List Nat) :
    runPr resp pfx = .ok (colorOfReply (pfx ++ [114, 103, 98, 58]) resp, (parseReply (pfx ++ [114, 103, 98, 58]) resp).isSome) := by
  rw [parseColorReply_body_eq_model, VaxisModel.Lemmas.RequesterBody.colorOfReply_eq]
  cases parseReply (pfx ++ [114, 103, 98, 58]) resp <;> rfl

open VaxisModel.Model.RequesterBody in
/-- The regenerated bodies of `QueryColor`, `QueryForeground`, `QueryBackground` contain no node the
translator did not know. -/
theorem requester_bodies_recognised :
    Gen.InputBody.qc.clean = true ∧ Gen.InputBody.qf.clean = true ∧ Gen.InputBody.qb.clean = true := by decide +kernel

open VaxisModel.Model.RequesterBody in
/-- **`QueryColor` run on its regenerated body = the model**, for every state of the capability,
every colour asked for and every payload its receive returns: without the capability, for an RGB
colour and for the default colour it returns at once without touching the terminal; otherwise it
drops a stale reply (non-blocking receive), writes `OSC 4 ; idx ; ?`, receives exactly once and
returns `colorOfReply` of what it received with the prefix `4;idx;` (through the regenerated body
of `parseColorReply`). -/
theorem queryColor_body_eq_model (can : Bool) (c : Color) (resp : List Nat) :
    runReq Gen.InputBody.qc ⟨can, params c, resp⟩ c = .ok (queryColorModel can c resp) :=
  VaxisModel.Lemmas.RequesterBody.qc_eq can c resp

open VaxisModel.Model.RequesterBody in
/-- The same for `QueryForeground` (`OSC 10`, prefix `10;`) and `QueryBackground` (`OSC 11`, `11;`). -/
theorem queryFgBg_body_eq_model (can : Bool) (ps resp : List Nat) (c : Color) :
    runReq Gen.InputBody.qf ⟨can, ps, resp⟩ c = .ok (queryFgBgModel can "vx.chFg" "osc10" litFg resp) ∧
    runReq Gen.InputBody.qb ⟨can, ps, resp⟩ c = .ok (queryFgBgModel can "vx.chBg" "osc11" litBg resp) :=
  ⟨VaxisModel.Lemmas.RequesterBody.qf_eq can ps resp c, VaxisModel.Lemmas.RequesterBody.qb_eq can ps resp c⟩

/-- What `handleSequence` does with an OSC 4 reply: offered to `QueryColor` only once the
capability is known, and the capability is always announced. -/
theorem osc4_effects (b64 : List Nat → Option (List Nat)) (st : VState) (rest : List Nat) :
    handle b64 st (.osc (ch '4' :: rest)) =
      .ok (st, (if st.caps.osc4 then [Effect.sendColor (ch '4' :: rest)] else []) ++ [.postB (.internal .capabilityOsc4)]) := by
  simp [handle, handleOSC, isPrefix, str, ch, bind, Except.bind, pure, Except.pure]

/-- **The requester receives the answer to its own query** (F203 repaired): once `QueryColor` has
dropped whatever was parked in `chColor` (the first statement after its prologue,
`query_requesters_shape`), the terminal's reply is parked there by the goroutine's next step and is
what the requester's receive returns — whatever unsolicited or repeated replies came before.
Without the drain (`s.color ≠ []`) the non-blocking hand-off drops the reply and the stale payload
stays at the head of the channel: the defect. -/
theorem own_reply_parked (p : Params) (hk : p.kinds.color = .nonblocking) (s : Sys) (hp : s.pend = [])
    (hc : s.vs.caps.osc4 = true) (rest : List Nat) :
    ∃ s', run p s [.input (.osc (ch '4' :: rest)), .step] = some s' ∧
      s'.color = (if s.color = [] then [ch '4' :: rest] else s.color) ∧
      s'.pend = [.postB (.internal .capabilityOsc4)] := by
  cases hcol : s.color with
  | nil =>
    refine ⟨{ s with pend := [.postB (.internal .capabilityOsc4)], color := [ch '4' :: rest] }, ?_, by simp, rfl⟩
    simp [run, next, hp, osc4_effects, hc, stepEffect, send1, hcol]
  | cons a t =>
    refine ⟨{ s with pend := [.postB (.internal .capabilityOsc4)] }, ?_, by simp [hcol], rfl⟩
    simp [run, next, hp, osc4_effects, hc, stepEffect, send1, hcol, hk]

/-- Non-vacuity / the F203 schedule: an unsolicited `4;1;rgb:…` reply, then the reply to a query for
index 5. With the drain the channel holds the second payload; without it still the first. -/
example :
    let p : Params := { qcap := 4, kinds := Kinds.ofGen, b64 := fun _ => none }
    let s0 : Sys := { vs := { caps := { osc4 := true } } }
    (match run p s0 [.input (.osc (ascii "4;1;rgb:ff/00/00")), .step, .step] with
     | some s1 =>
       (match run p { s1 with color := [] } [.input (.osc (ascii "4;5;rgb:00/ff/00")), .step], run p s1 [.input (.osc (ascii "4;5;rgb:00/ff/00")), .step] with
        | some a, some b => a.color == [ascii "4;5;rgb:00/ff/00"] && b.color == [ascii "4;1;rgb:ff/00/00"] &&
            colorOfReply (litColor 5) (ascii "4;1;rgb:ff/00/00") == 0
        | _, _ => false)
     | none => false) = true := by decide +kernel

/-- The three requesters and the parser they share are the ones the model transcribes: capability
guard, (for `QueryColor`) the `Params` prologue, the drop of a stale reply (F203 repaired), the
query, one receive from the reply channel, `parseColorReply` with the prefix of the query,
`Color(0)` on failure; `parseColorReply`: prefix + `rgb:`, split at `/`, exactly three channels,
each 1–4 bytes, `ParseUint(ch, 16, 16)`, scaled by `0xFFFF / (1<<(4n) - 1)`, high byte (F303
repaired). -/
theorem query_requesters_shape :
    Gen.Caps.qc_stmts = [
      "if !vx.CanReportColor() { return Color(0) }", "p := c.Params()", "if len(p) == 3 { return c }",
      "if len(p) != 1 { return Color(0) }", "select { case <-vx.chColor: default: }",
      "vx.tw.WriteStringLocked(tparm(osc4, p[0]))", "resp := <-vx.chColor",
      "prefix := fmt.Sprintf(\"4;%v;\", p[0])", "col, ok := parseColorReply(resp, prefix)",
      "if !ok { log.Error(\"QueryColor: failed to parse the OSC 4 response: %s\", resp) return Color(0) }",
      "return col"] ∧
    Gen.Caps.qf_stmts = [
      "if !vx.CanReportForegroundColor() { return Color(0) }", "select { case <-vx.chFg: default: }",
      "vx.tw.WriteStringLocked(osc10)", "resp := <-vx.chFg", "col, ok := parseColorReply(resp, \"10;\")",
      "if !ok { log.Error(\"QueryForeground: failed to parse the OSC 10 response: %s\", resp) return Color(0) }",
      "return col"] ∧
    Gen.Caps.qb_stmts = [
      "if !vx.CanReportBackgroundColor() { return Color(0) }", "select { case <-vx.chBg: default: }",
      "vx.tw.WriteStringLocked(osc11)", "resp := <-vx.chBg", "col, ok := parseColorReply(resp, \"11;\")",
      "if !ok { log.Error(\"QueryBackground: failed to parse the OSC 11 response: %s\", resp) return Color(0) }",
      "return col"] ∧
    Gen.Caps.pr_stmts = [
      "if !strings.HasPrefix(resp, prefix+\"rgb:\") { return Color(0), false }",
      "channels := strings.Split(strings.TrimPrefix(resp, prefix+\"rgb:\"), \"/\")",
      "if len(channels) != 3 { return Color(0), false }", "var rgb [3]uint8",
      "for i, ch := range channels { n := len(ch) if n < 1 || n > 4 { return Color(0), false } v, err := strconv.ParseUint(ch, 16, 16) if err != nil { return Color(0), false } max := uint64(1)<<(4*n) - 1 rgb[i] = uint8(v * 0xFFFF / max >> 8) }",
      "return RGBColor(rgb[0], rgb[1], rgb[2]), true"] ∧
    colorDrainGen = true ∧ fgDrainGen = true ∧ bgDrainGen = true :=
  ⟨rfl, rfl, rfl, rfl, by decide +kernel⟩

end VaxisModel.Props.C03Query
