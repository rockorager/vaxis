/-
C04 — Terminal state is restored on every exit path.

The start-up and shutdown functions are interpreted from the lists regenerated from vaxis.go (`Gen/Modes.lean`),
composed with the writer model, and run on the mode terminal `Spec.ModeTerm`.

* **All run-time values.**  The interpreter produces *items*: tokens plus named holes for the kitty keyboard flags,
  the queried user cursor style, the saved application id and the application's cursor (`inst` fills the holes).
  The mode terminal is run on items with *symbols* for the value-carrying fields (`Lemmas.C04Sym`); `runS_sound`
  says the symbolic run describes every concrete one.  The prior value and the value the application sets are
  different symbols, so "restored" cannot hold because two representatives happen to coincide; equal symbols give
  equal values whatever the values are, so coinciding values are covered too.
* **All capability sets.**  The checkers hold under all 2^9 assignments of the guard variables × the four
  (cursorNext.visible, cursorLast.visible) combinations, from a running state in which everything frames may
  change is *unknown*: the lifecycle is interpreted and run once for all assignments together on bit masks
  (`Lemmas.C04Mask*`), and one `decide +kernel` (`C04Mask.evalM_full`) evaluates the masks of the checkers.  A
  mode enabled under one guard and reset under another makes `evalM_full` fail.
* **All sessions.**  Induction over the list of operations (`Lemmas.C04Session`): start-up, any number of frames,
  cursor requests, SetAppID calls and Suspend/Resume cycles, then shutdown at any point — by Close, the signal arm
  or the panic handler of the input goroutine (both are `Close`: `signal_path_is_close`, `panic_path_is_close`).
-/
import VaxisModel.Props.C07
import VaxisModel.Props.C01
import VaxisModel.Lemmas.C04MaskCheck
import VaxisModel.Lemmas.C04Session
import VaxisModel.Lemmas.C04Guards
import VaxisModel.Props.C04Lex

namespace VaxisModel.Props.C04
open VaxisModel.Lemmas.C04Check VaxisModel.Model.Lifecycle VaxisModel.Spec.ModeTerm
open VaxisModel.Lemmas.C04Sym VaxisModel.Lemmas.C04SymCheck VaxisModel.Lemmas.C04Session VaxisModel.Lemmas.C04Interp

theorem checked (m : Nat) (hm : m < 512) : allB m = true ∧ priorB m = true ∧ failB m = true :=
  Lemmas.C04Mask.evalM_sound hm

theorem facts (m : Nat) (hm : m < 512) : Facts m := facts_of (checked m hm).1

/-- **Balanced — every session, every value, every exit path.**  For every capability/option
    assignment `m`, all kitty keyboard flags, every user cursor style, every application id the
    terminal reports (`SettableId`: any id except the one-character id `?`, which OSC 176 reads as
    the query), every prior depth `k0` of the kitty keyboard stack: start-up, then ANY list of
    operations — frames (any renderer output), cursor requests (any position, any style, shown or
    hidden), `SetAppID` with any id, Suspend, Resume, in any number and order — then shutdown
    (Close; the signal arm and the panic handler are `Close`, see below) leaves every mode of the
    property's list at its prior value, the cursor visible, the primary screen active, the pen
    reset, no hyperlink open, the kitty keyboard stack at its prior depth, keypad numeric, the
    application id, cursor shape and pointer shape restored and synchronized-update off; and Vaxis is marked closed. -/
theorem balanced (m : Nat) (hm : m < 512) (kittyFlags userCursorStyle k0 : Nat) (appId : String) (hq : SettableId appId)
    (ops : List Op) (hok : ∀ op ∈ ops, op.ok) :
    let e := envV m kittyFlags userCursorStyle appId
    let t0 := t0V m e k0
    let s := shutdown e (runOps e (start e t0) ops)
    restored t0 s.t = true ∧ s.w.closed = true := by
  intro e t0 s
  have F := facts m hm
  have hinv := session_inv (k0 := k0) F (rfl : e.v = vOf m) hq ops hok
  have := shutdown_restores F (rfl : e.v = vOf m) hq _ hinv
  exact ⟨this.2, this.1⟩

/-- The terminal before Vaxis starts, for a guard function `e.v` (cf. `t0V`). -/
def t0G (e : Env) (k0 : Nat) : MTerm :=
  { supported := (t0Of e).supported, kittySupported := e.v "caps.kittyKeyboard", appIdSupported := e.v "caps.osc176",
    kitty := k0, appId := appIdHex e.appId, cursorShape := e.userCursorStyle }

/-- **`balanced` over guard functions instead of assignment numbers.**  For EVERY `v : String → Bool`
    that is false outside the nine guard variables (i.e. every capability set × DisableMouse, and no
    I/O error on the way — the `expr:` guards of the error returns are false), every `Env` with these
    guards and any run-time values: every session followed by shutdown restores the terminal.
    (`C04Guards.v_eq`: such a `v` is one of the 512 assignments of `checked`.) -/
theorem balanced_all_guards (e : Env) (hv : ∀ n, n ∉ vars → e.v n = false) (k0 : Nat) (hq : SettableId e.appId)
    (ops : List Op) (hok : ∀ op ∈ ops, op.ok) :
    restored (t0G e k0) (shutdown e (runOps e (start e (t0G e k0)) ops)).t = true := by
  have hve := VaxisModel.Lemmas.C04Guards.v_eq e.v hv
  have he : e = envV (VaxisModel.Lemmas.C04Guards.mOf e.v) e.kittyFlags e.userCursorStyle e.appId := by
    cases e with
    | mk v kf ucs app => simp only [envV, Env.mk.injEq, and_true]; exact hve
  have ht : t0G e k0 = t0V (VaxisModel.Lemmas.C04Guards.mOf e.v) e k0 := by
    simp only [t0G, t0V, sT0, t0Of, vOf]
    rw [show (envOf (VaxisModel.Lemmas.C04Guards.mOf e.v)).v = e.v from hve.symm]
  rw [ht]
  have := (balanced (VaxisModel.Lemmas.C04Guards.mOf e.v) (VaxisModel.Lemmas.C04Guards.mOf_lt e.v) e.kittyFlags e.userCursorStyle k0 e.appId hq ops hok).1
  rw [← he] at this
  exact this

/-- **Suspend restores, Resume re-establishes** — at every point of every session: while
    suspended everything is restored exactly as after Close; while running (in particular after
    every Resume) the mode table, screen selector, kitty keyboard stack depth and keypad mode are
    exactly the ones start-up established. -/
theorem resume_reestablishes (m : Nat) (hm : m < 512) (kittyFlags userCursorStyle k0 : Nat) (appId : String) (hq : SettableId appId)
    (ops : List Op) (hok : ∀ op ∈ ops, op.ok) :
    let e := envV m kittyFlags userCursorStyle appId
    let t0 := t0V m e k0
    let s := runOps e (start e t0) ops
    (s.w.suspended = true → restored t0 s.t = true) ∧
    (s.w.suspended = false → s.t.modes = (start e t0).t.modes ∧ s.t.alt = (start e t0).t.alt ∧
        s.t.kitty = (start e t0).t.kitty ∧ s.t.keypadApp = (start e t0).t.keypadApp) := by
  intro e t0 s
  have F := facts m hm
  have hinv := session_inv (k0 := k0) F (rfl : e.v = vOf m) hq ops hok
  exact ⟨suspended_restored (e := e) F _ hinv, running_core (e := e) F rfl hq _ hinv⟩

/-- **A second Close is harmless**: for every state and all values it writes nothing and buffers nothing. -/
theorem close_idempotent (e : Env) (w : WSt) : (closeW e true w).wire = w.wire ∧ (closeW e true w).buf = w.buf := by
  have h : interpS e.v 64 Gen.Modes.close (absW { w with closed := w.closed || true }) = absW { w with closed := w.closed || true } :=
    close_closed _ _ (by simp [absW])
  simp only [closeW, interp, h]
  exact concW_absW e _

/-- …in particular after the shutdown of any session: Close again changes nothing on the terminal. -/
theorem close_twice (m : Nat) (hm : m < 512) (kittyFlags userCursorStyle k0 : Nat) (appId : String) (hq : SettableId appId)
    (ops : List Op) (hok : ∀ op ∈ ops, op.ok) :
    let e := envV m kittyFlags userCursorStyle appId
    let s := shutdown e (runOps e (start e (t0V m e k0)) ops)
    (shutdown e s).t = s.t := by
  intro e s
  have hc := (balanced m hm kittyFlags userCursorStyle k0 appId hq ops hok).2
  have h : interpS e.v 64 Gen.Modes.close (absW { clearWire s.w with closed := (clearWire s.w).closed || false }) =
      absW { clearWire s.w with closed := (clearWire s.w).closed || false } :=
    close_closed _ _ (by simpa [absW, clearWire] using hc)
  simp only [shutdown, closeW, interp, h]
  rw [(concW_absW e _).1]
  simp [clearWire, run]

/-- **Close while suspended** (Suspend, then Close without Resume — at any point of any session)
    writes nothing: Suspend's early return on `vx.suspended` is taken, so the terminal stays
    restored (and the call does not wait for a parser that is already stopped). -/
theorem close_while_suspended_writes_nothing (m : Nat) (hm : m < 512) (kittyFlags userCursorStyle k0 : Nat) (appId : String)
    (hq : SettableId appId) (ops : List Op) (hok : ∀ op ∈ ops, op.ok) :
    let e := envV m kittyFlags userCursorStyle appId
    let s := runOps e (start e (t0V m e k0)) ops
    s.w.suspended = true → (shutdown e s).w.wire = [] := by
  intro e s
  have F := facts m hm
  have hinv := session_inv (k0 := k0) F (rfl : e.v = vOf m) hq ops hok
  exact shutdown_suspended_silent (e := e) F rfl _ hinv

/-- The skeleton of the input goroutine was fully recognised: the deferred handler is the first
    statement, it is `if err := recover(); err != nil { vx.Close(); panic(err) }`, the select loop has
    the parser arm (which also tells whether the parser's channel has been closed), the window-size arm
    and the kill-signal arm `vx.Close(); return`. -/
theorem facts_inputLoop :
    Gen.Modes.inputLoopRecover = [.call .tt "Close", .other .tt "panic(err)"] ∧
    Gen.Modes.inputLoopSignalArm = [.call .tt "Close", .other .tt "return"] ∧
    Gen.Modes.inputLoopRecoverGuard = "err := recover(); err != nil" ∧
    Gen.Modes.inputLoopDeferFirst = true ∧
    Gen.Modes.inputLoopArms = ["seq, ok := <-parser.Next()", "<-vx.chSigWinSz", "<-vx.chSigKill"] :=
  ⟨rfl, rfl, rfl, rfl, rfl⟩

/-- **Signal path.** What the kill-signal arm of the input goroutine writes, from every state and
    for all values, is exactly what `Close` writes (so `balanced` applies to it). -/
theorem signal_path_is_close (e : Env) (w : WSt) :
    (interp e 65 Gen.Modes.inputLoopSignalArm w).wire = (closeW e false w).wire ∧
    (interp e 65 Gen.Modes.inputLoopSignalArm w).buf = (closeW e false w).buf ∧
    (interp e 65 Gen.Modes.inputLoopSignalArm w).closed = (closeW e false w).closed := by
  have h : interpS e.v 65 Gen.Modes.inputLoopSignalArm (absW w) = interpS e.v 64 Gen.Modes.close (absW w) :=
    signal_arm_close e.v _ (absW w) facts_inputLoop.2.1
  have hw : ({ w with closed := w.closed || false } : WSt) = w := by simp
  simp only [closeW, interp, h, hw, and_self]

/-- **Panic path.** What the deferred recover handler of the input goroutine writes before it
    re-panics, from every state and for all values, is exactly what `Close` writes. -/
theorem panic_path_is_close (e : Env) (w : WSt) :
    (interp e 65 Gen.Modes.inputLoopRecover w).wire = (closeW e false w).wire ∧
    (interp e 65 Gen.Modes.inputLoopRecover w).buf = (closeW e false w).buf ∧
    (interp e 65 Gen.Modes.inputLoopRecover w).closed = (closeW e false w).closed := by
  have h : interpS e.v 65 Gen.Modes.inputLoopRecover (absW w) = interpS e.v 64 Gen.Modes.close (absW w) :=
    recover_close e.v _ (absW w) facts_inputLoop.1
  have hw : ({ w with closed := w.closed || false } : WSt) = w := by simp
  simp only [closeW, interp, h, hw, and_self]

/-- **Every site in the package that writes a value which shutdown formats into a restore
    sequence** (regenerated from all non-test files of the package): the kitty keyboard flags are
    set in `New` from the options; `appIDLast` is assigned once, in `New`'s start-up loop, from the
    terminal's OSC 176 reply; `userCursorStyle` only in `handleSequence`'s DECRPSS reply arm.  No
    application-facing call (`SetAppID`, `ShowCursor`, …) writes them — which is why the model keeps
    them constant over a session (`Env`) and why `balanced` may identify `appIDLast` with the
    terminal's ORIGINAL application id. -/
theorem facts_savedValueWrites :
    Gen.Modes.savedValueWrites =
      [("kittyFlags", "New", "kittyFlags: int(CSIuDisambiguate)"),
       ("kittyFlags", "New", "vx.kittyFlags = int(opts.CSIuBitMask)"),
       ("kittyFlags", "New", "vx.kittyFlags |= int(CSIuReportEvents)"),
       ("appIDLast", "New", "vx.appIDLast = ev"),
       ("userCursorStyle", "handleSequence", "vx.userCursorStyle = CursorStyle(cursorStyle - 0x30)")] :=
  rfl

/-- **Start-up skeleton.** `New` calls `openTty`, `sendQueries`, `enterAltScreen`, `enableModes` in this
    order (the model's `startupS` folds over this regenerated list), `openTty` installs a new writer,
    and `newWriter` creates its buffer with 8192 bytes already in it (the `fresh` flag of the writer
    model: the first group after start-up/Resume has no prologue). -/
theorem facts_startup_skeleton :
    Gen.Modes.newCalls = ["openTty", "sendQueries", "enterAltScreen", "enableModes"] ∧
    Gen.Modes.openTtyInstallsWriter = true ∧
    Gen.Modes.newWriterBuf = "bytes.NewBuffer(make([]byte, 8192))" :=
  ⟨rfl, rfl, rfl⟩

/-- The printed forms of DECSET/DECRST lex to exactly the tokens the lifecycle model maps them to
    (checked for every mode number that occurs in vaxis.go). -/
theorem decset_lexes :
    ∀ n ∈ [1, 25, 1002, 1003, 1004, 1006, 1049, 2004, 2026, 2027, 2031, 2048, 8452],
      toksOf (wBytes default (.decset n)) = [.decset n] ∧ toksOf (wBytes default (.decrst n)) = [.decrst n] := by
  decide +kernel

/-- `CSI > flags u` as printed by `tparm(kittyKBEnable, flags)` lexes to the token the model maps it
    to — for every value of the 5-bit progressive-enhancement mask (all flags the kitty keyboard protocol defines). -/
theorem kittyPush_lexes :
    ∀ n ∈ List.range 32,
      toksOf (wBytes { v := fun _ => false, kittyFlags := n } (.tparm "kittyKBEnable" "\x1b[>%du" ["vx.kittyFlags"])) =
        inst { v := fun _ => false, kittyFlags := n } default default .kittyPush :=
  fun n _ => C04Lex.kittyPush_lexes_all n

/-- `CSI n SP q` lexes to the model's token for every style `vaxis.go` can store in
    `userCursorStyle` (the DECRQSS reply is only accepted for the digits 0–6). -/
theorem userStyle_lexes :
    ∀ n ∈ List.range 7,
      toksOf (wBytes { v := fun _ => false, userCursorStyle := n } (.tparm "cursorStyleSet" "\x1b[%d q" ["int(vx.userCursorStyle)"])) =
        inst { v := fun _ => false, userCursorStyle := n } default default .userStyle :=
  fun n _ => C04Lex.userStyle_lexes_all n

/-- `OSC 176 ; id ST` lexes to the model's token (sample of ids, including the empty id, ids with
    `;`, spaces and non-ASCII; real ids by the correspondence run). -/
theorem appIdRestore_lexes :
    ∀ id ∈ ["", "app", "foot", "org.example.App", "a;b", "x y", "é", "?"],
      toksOf (wBytes { v := fun _ => false, appId := id } (.tparm "setAppID" "\x1b]176;%s\x1b\\" ["vx.appIDLast"])) =
        inst { v := fun _ => false, appId := id } default default .appIdRestore := by
  have hb : ∀ id ∈ ["", "app", "foot", "org.example.App", "a;b", "x y", "é", "?"], ∀ b ∈ bytesOf id, b ≠ 7 ∧ b ≠ 27 := by decide +kernel
  exact fun id hid => C04Lex.appIdRestore_lexes_all id (hb id hid)

/-- The recognised run-time writes of the current source are recognised (no `opaqueW` item, no
    value-dependent cursor-only flush) — otherwise `balanced` could not have been proved; stated
    separately so that a regression names the cause. -/
theorem no_opaque_items :
    ∀ m ∈ [0, 255, 511], ∀ it ∈ (startupS (vOf m)).wire ++ (interpS (vOf m) 64 Gen.Modes.suspend (Wrun true true)).wire,
      (match it with | .opaqueW _ => false | .cursorOnly _ => false | _ => true) = true := by
  decide +kernel

/-- `balanced` without the hypothesis `SettableId`. -/
def balanced_full : Prop :=
  ∀ (m : Nat), m < 512 → ∀ (kittyFlags userCursorStyle k0 : Nat) (appId : String) (ops : List Op), (∀ op ∈ ops, op.ok) →
    let e := envV m kittyFlags userCursorStyle appId
    let t0 := t0V m e k0
    restored t0 (shutdown e (runOps e (start e t0) ops)).t = true

/-- …is false, and only because of the protocol: a terminal (assignment 64: OSC 176 only) whose original
    application id is the single character `?`; the application calls `SetAppID("x")`; shutdown writes
    `OSC 176 ; ? ST`, which is the query, and the id stays `x`.  So `SettableId` in `balanced` is needed. -/
theorem balanced_full_fails : ¬ balanced_full := by
  intro h
  have := h 64 (by omega) 1 0 0 "?" [.setAppId "x"] (by intro op hop; simp at hop; subst hop; trivial)
  revert this
  decide +kernel

/-- The application id `?` cannot be restored through OSC 176 (the sequence is the query): the
    hypothesis `SettableId` of `balanced` excludes exactly such ids. -/
theorem unsettable_id_is_query : ¬ SettableId "?" := by
  unfold SettableId; decide +kernel

section frames
open VaxisModel.Model.Render VaxisModel.Lemmas.RenderGate VaxisModel.Spec VaxisModel.Lemmas.RenderToks

/-- The part of the terminal that start-up establishes and only shutdown may change. -/
def core (t : MTerm) : List (Nat × Bool) × Bool × Nat × Bool × String :=
  (t.modes, t.alt, t.kitty, t.keypadApp, t.appId)

private theorem render_no_other (cw : String → Nat) (f : Frame) : ∀ k ∈ (renderFrame cw f).2, ∀ r, k ≠ Tok.other r := by
  have cell : ∀ k, CellTok k → ∀ r, k ≠ Tok.other r := by
    intro k hk r h; subst h; exact hk
  refine renderFrame_all (P := fun k => ∀ r, k ≠ Tok.other r) cw f nofun nofun (fun _ _ => nofun)
    (fun _ _ n _ => ⟨fun pen k hk => cell k (penDelta_vocab f.caps pen n.style k hk), cell _ (glyphTok_vocab cw f.caps n)⟩)
    (fun _ k hk => ?_) nofun (fun _ => ⟨nofun, nofun⟩) nofun
  simp only [showCursorToks, List.mem_cons, List.not_mem_nil, or_false] at hk
  rcases hk with rfl | rfl | rfl <;> nofun

private theorem linkOpen_step (t : MTerm) (k : Tok) (l : String) (h : t.linkOpen = decide (l ≠ "")) :
    (ModeTerm.step t k).linkOpen = decide (linkStep l k ≠ "") := by
  cases k with
  | osc8 p u => by_cases hu : u = "" <;> simp [ModeTerm.step, linkStep, hu]
  | decset n => simp only [ModeTerm.step, decMode, linkStep]; (repeat' split) <;> exact h
  | decrst n => simp only [ModeTerm.step, decMode, linkStep]; (repeat' split) <;> exact h
  | other r => simp only [ModeTerm.step, other_eq, linkStep]; cases otherKind r <;> simp only [] <;> (try split) <;> exact h
  | _ => exact h

private theorem linkOpen_run (toks : List Tok) (t : MTerm) (l : String) (h : t.linkOpen = decide (l ≠ "")) :
    (ModeTerm.run t toks).linkOpen = decide (linkRun l toks ≠ "") := by
  induction toks generalizing t l with
  | nil => exact h
  | cons k ks ih =>
    simp only [ModeTerm.run, List.foldl_cons, linkRun]
    exact ih _ _ (linkOpen_step t k l h)

/-- **Every frame the renderer model can produce — any cells, any cursor request, any capability
    set — is an admissible frame operation of `balanced`**: renderer vocabulary only (the only private
    modes are cursor visibility and the synchronized-update brackets), and no hyperlink left open. -/
theorem renderFrame_ok (cw : String → Nat) (f : Frame) : (Op.frame (renderFrame cw f).2).ok := by
  refine ⟨?_, ?_⟩
  · intro k hk
    have ha := C07.render_gated cw f k hk
    have hn := render_no_other cw f k hk
    cases k with
    | other r => exact absurd rfl (hn r)
    | decset n =>
      simp only [allowedTok, Bool.or_eq_true, beq_iff_eq, Bool.and_eq_true] at ha
      rcases ha with h | ⟨h, _⟩ <;> subst h <;> rfl
    | decrst n =>
      simp only [allowedTok, Bool.or_eq_true, beq_iff_eq, Bool.and_eq_true] at ha
      rcases ha with h | ⟨h, _⟩ <;> subst h <;> rfl
    | _ => rfl
  · intro t ht
    have hrest := C01.flush_epilogue (fun _ => 1) cw f (Display.Term.init 1 1) ⟨rfl, rfl, rfl⟩
    have hl := (run_fields (fun _ => 1) (renderFrame cw f).2 (Display.Term.init 1 1)).1
    rw [hrest.2.1] at hl
    have := linkOpen_run (renderFrame cw f).2 t "" (by simp [ht])
    rw [this, show linkRun "" (renderFrame cw f).2 = "" from hl.symm]
    simp

/-- **Frames never change a mode, the screen selector, the kitty keyboard stack, the keypad mode or
    the application id** — whatever is drawn, under every capability set. -/
theorem frame_keeps_core (cw : String → Nat) (f : Frame) (t : MTerm) :
    core (ModeTerm.run t (renderFrame cw f).2) = core t := by
  have k := keeps_run t (renderFrame cw f).2 (renderFrame_ok cw f).1
  simp only [core, k.modes, k.alt, k.kitty, k.keypadApp, k.appId]

end frames

-- Non-vacuity: assignment 255 = 0xff (all eight capabilities advertised, mouse not disabled) really enables things, for the
-- representative values as well as others; ordinary ids are settable; a session with frames,
-- cursor requests, SetAppID and Suspend/Resume meets the hypotheses of `balanced`.
private theorem startup_255 :
    (run (t0Of (envOf 255)) (startupW (envOf 255)).wire).kitty = 1 ∧ (run (t0Of (envOf 255)) (startupW (envOf 255)).wire).alt = true := by
  decide +kernel
example : (run (t0Of (envOf 255)) (startupW (envOf 255)).wire).kitty = 1 := startup_255.1
example : (run (t0Of (envOf 255)) (startupW (envOf 255)).wire).alt = true := startup_255.2
example : (established 255).kitty = 1 ∧ (established 255).alt = true ∧ (established 255).keypadApp = true := by decide +kernel
example : SettableId "app" ∧ SettableId "" ∧ SettableId "??" := by
  refine ⟨?_, ?_, ?_⟩ <;> (unfold SettableId; decide +kernel)
example : ∀ op ∈ [Op.frame [.decrst 25, .sgr [[1]], .text "78", .osc8 "" "68", .text "79", .osc8 "" "", .sgr [], .decset 25],
    Op.cursor { row := 3, col := 4, style := 5, visible := true } {}, Op.setAppId "other", Op.suspend, Op.resume], op.ok := by
  intro op hop
  simp only [List.mem_cons, List.mem_nil_iff, or_false] at hop
  rcases hop with rfl | rfl | rfl | rfl | rfl
  · refine ⟨by decide, ?_⟩
    intro t _
    simp [run, step, decMode]
  all_goals trivial

-- other application output between lifecycle calls is admissible too: a title (OSC 2), the bell, an OSC 52 clipboard write
example : frameTok (.other "1b5d323b7469746c65") = true ∧ frameTok (.other "07") = true ∧ frameTok (.other "1b5d35323b633b59513d3d") = true := by
  decide +kernel
-- … but not a sequence the mode terminal reacts to (keypad application mode, kitty keyboard push)
example : frameTok (.other "1b3d") = false ∧ frameTok (.other "1b5b3e3175") = false := by decide +kernel

end VaxisModel.Props.C04
