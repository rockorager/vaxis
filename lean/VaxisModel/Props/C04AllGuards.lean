/-
C04 — `balanced` over ALL guard functions, with one hypothesis only: no I/O error in `Resume`.

`balanced_all_guards` needs the guard function to be false outside the nine guard variables.  Here it
is arbitrary — whatever `vx.withConsole == nil`, `vx.withTty != ""`, `col == 1`, `vx.renders != 0` … are
— except that the I/O-error guard `expr:err != nil` of the regenerated lists is false (what happens when
it is true is `C04Start.resume_failure_writes_nothing` / `failed_startup_restores`).  Method:
`C04Restrict.interpS_restrict` — the interpreter depends on the guard function only through the nine
variables, Vaxis's two flags and that error guard (`safeList`, kernel-evaluated on the regenerated lists).
-/
import VaxisModel.Props.C04
import VaxisModel.Lemmas.C04Restrict

namespace VaxisModel.Props.C04AllGuards
open VaxisModel.Lemmas.C04Check VaxisModel.Model.Lifecycle VaxisModel.Spec.ModeTerm VaxisModel.Gen.Modes
open VaxisModel.Lemmas.C04Sym VaxisModel.Lemmas.C04SymCheck VaxisModel.Lemmas.C04Session VaxisModel.Lemmas.C04Restrict

/-- The guards of all effective statements of the regenerated lifecycle lists (and of what they call) mention
    only the nine guard variables, `closed` / `suspended`, or are conjunctions with the I/O-error guard. -/
theorem lists_are_safe :
    safeList 64 suspend = true ∧ safeList 64 resume = true ∧ safeList 64 close = true ∧
    safeList 64 enterAltScreen = true ∧ safeList 64 exitAltScreen = true ∧ safeList 64 enableModes = true ∧
    safeList 64 disableModes = true := by
  decide +kernel

/-- `e` with every guard variable outside the nine forgotten. -/
def restrictEnv (e : Env) : Env := { e with v := restrict e.v }

section
variable (e : Env) (herr : e.v errName = false)
include herr

theorem interp_restrict (l : List S) (hl : safeList 64 l = true) (w : WSt) : interp (restrictEnv e) 64 l w = interp e 64 l w := by
  simp only [interp, restrictEnv, interpS_restrict e.v herr 64 l (absW w) hl]
  rfl

theorem startupS_restrict : startupS (restrict e.v) = startupS e.v := by
  have h1 := interpS_restrict e.v herr 64 enterAltScreen
  have h2 := interpS_restrict e.v herr 64 enableModes
  have t1 : table "enterAltScreen" = some enterAltScreen := by decide +kernel
  have t2 : table "enableModes" = some enableModes := by decide +kernel
  have n1 : ("sendQueries" = "openTty") = False := by decide
  have n2 : ("enterAltScreen" = "openTty") = False := by decide
  have n3 : ("enterAltScreen" = "sendQueries") = False := by decide
  have n4 : ("enableModes" = "openTty") = False := by decide
  have n5 : ("enableModes" = "sendQueries") = False := by decide
  have hc : newCalls = ["openTty", "sendQueries", "enterAltScreen", "enableModes"] := by decide
  simp only [startupS, hc, List.foldl_cons, List.foldl_nil, if_true, n1, n2, n3, n4, n5, if_false, t1, t2]
  rw [h1 _ lists_are_safe.2.2.2.1, h2 _ lists_are_safe.2.2.2.2.2.1]

theorem start_restrict (t0 : MTerm) : start (restrictEnv e) t0 = start e t0 := by
  simp only [start, startupW, restrictEnv, startupS_restrict e herr]
  rfl

theorem applyOp_restrict (s : Sess) (op : Op) : applyOp (restrictEnv e) s op = applyOp e s op := by
  cases op with
  | frame toks => rfl
  | cursor cn cl => rfl
  | setAppId id => rfl
  | suspend => simp only [applyOp, suspendW, interp_restrict e herr suspend lists_are_safe.1]
  | resume => simp only [applyOp, resumeW, interp_restrict e herr resume lists_are_safe.2.1]

theorem runOps_restrict (ops : List Op) (s : Sess) : runOps (restrictEnv e) s ops = runOps e s ops := by
  have h : applyOp (restrictEnv e) = applyOp e := funext fun s => funext (applyOp_restrict e herr s)
  rw [runOps, h, ← runOps]

theorem shutdown_restrict (s : Sess) : shutdown (restrictEnv e) s = shutdown e s := by
  simp only [shutdown, closeW, interp_restrict e herr close lists_are_safe.2.2.1]

end

/-- **`balanced` for every guard function without an I/O error**: for EVERY `Env` — any capability set,
    `DisableMouse`, and ANY values of every other condition the lifecycle functions test — whose I/O-error
    guard is false, all run-time values, every session followed by shutdown: the terminal is restored.
    (`balanced_all_guards` without its hypothesis "false outside the nine variables".) -/
theorem balanced_no_io_error (e : Env) (herr : e.v errName = false) (k0 : Nat) (hq : SettableId e.appId)
    (ops : List Op) (hok : ∀ op ∈ ops, op.ok) :
    restored (C04.t0G e k0) (shutdown e (runOps e (start e (C04.t0G e k0)) ops)).t = true := by
  have ht : C04.t0G (restrictEnv e) k0 = C04.t0G e k0 := by
    simp only [C04.t0G, t0Of, restrictEnv,
      restrict_inside e.v "caps.synchronizedUpdate" (by decide), restrict_inside e.v "caps.unicodeCore" (by decide),
      restrict_inside e.v "caps.colorThemeUpdates" (by decide), restrict_inside e.v "caps.inBandResize" (by decide),
      restrict_inside e.v "caps.sixels" (by decide), restrict_inside e.v "caps.kittyKeyboard" (by decide),
      restrict_inside e.v "caps.osc176" (by decide)]
  have h := C04.balanced_all_guards (restrictEnv e) (restrict_outside e.v) k0 hq ops hok
  rw [ht, start_restrict e herr, runOps_restrict e herr, shutdown_restrict e herr] at h
  exact h

-- Non-vacuity: a guard function that is true on conditions outside the nine variables (Resume on a real TTY given by path,
-- explicit width detected, frames rendered) and has no I/O error.
example : (fun n => n == "expr:vx.withConsole == nil" || n == "expr:vx.withTty != \"\"" || n == "expr:col == 1" ||
    n == "expr:vx.renders != 0" || n == "caps.kittyKeyboard") errName = false := by decide

end VaxisModel.Props.C04AllGuards
