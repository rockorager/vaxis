/-
C04 — the failing start-up and Resume paths.

`New` has three error exits (`Gen.Modes.newSequence`, regenerated from its body): the TTY cannot be
opened, `openTty` fails (not a console / raw mode cannot be set) — both before anything has been
written —, and the window size cannot be read, AFTER raw mode, the alternate screen and the modes.
On that exit `New` calls `Close` before it returns `(nil, err)` (finding F405: without the call everything
stays on).  `Resume` has its error exits before it writes anything.
-/
import VaxisModel.Props.C04

namespace VaxisModel.Props.C04Start
open VaxisModel.Lemmas.C04Check VaxisModel.Model.Lifecycle VaxisModel.Spec.ModeTerm
open VaxisModel.Lemmas.C04Sym VaxisModel.Lemmas.C04SymCheck VaxisModel.Lemmas.C04Session

/-- **The error exits of `New`**, in source order between the lifecycle calls: only the last one comes after
    the terminal has been set up, and it calls `Close` before it returns the error. -/
theorem facts_new_sequence :
    Gen.Modes.newSequence =
      [("err", "os.OpenFile", []), ("call", "openTty", []), ("err", "vx.openTty", []), ("call", "sendQueries", []),
       ("call", "enterAltScreen", []), ("call", "enableModes", []), ("err", "vx.reportWinsize", ["Close"])] :=
  rfl

/-- The exits before `sendQueries` write nothing at all (whatever the capability set: nothing is known yet). -/
theorem early_exits_write_nothing (v : String → Bool) :
    (startupFailS v "os.OpenFile" Gen.Modes.newSequence {}).wire = [] ∧ (startupFailS v "os.OpenFile" Gen.Modes.newSequence {}).buf = [] ∧
    (startupFailS v "vx.openTty" Gen.Modes.newSequence {}).wire = [] ∧ (startupFailS v "vx.openTty" Gen.Modes.newSequence {}).buf = [] := by
  refine ⟨rfl, rfl, rfl, rfl⟩

/-- **A `New` that fails after the terminal has been set up leaves it restored** — for every capability set
    and all run-time values: everything `New` has written by the time it returns the error of
    `reportWinsize` (start-up, then the `Close` of that error exit), run on the mode terminal, leaves every
    mode, the screen, the cursor, the kitty keyboard stack, the keypad mode, the application id, the pointer,
    the pen at their prior values; nothing stays buffered; Vaxis is marked closed. -/
theorem failed_startup_restores (m : Nat) (hm : m < 512) (kittyFlags userCursorStyle k0 : Nat) (appId : String) (hq : SettableId appId) :
    let e := envV m kittyFlags userCursorStyle appId
    restored (t0V m e k0) (run (t0V m e k0) (startupFailW e).wire) = true ∧ (startupFailW e).buf = [] ∧ (startupFailW e).closed = true := by
  intro e
  have h := (C04.checked m hm).2.2
  simp only [failB, failOf, Bool.and_eq_true, List.isEmpty_iff] at h
  obtain ⟨⟨hbuf, hclosed⟩, hres⟩ := h
  have hpo := restoredS_poison hres
  have hrel := runS_sound (e := e) (cn := ({} : WSt).cn) (k0 := k0) ({} : WSt).cl hq
    (startupFailS (vOf m) "vx.reportWinsize" Gen.Modes.newSequence {}).wire (rel_t0 m) hpo
  refine ⟨restored_of hres hrel, ?_, ?_⟩
  · show (concW e {} (startupFailS (vOf m) "vx.reportWinsize" Gen.Modes.newSequence {})).buf = []
    rw [Lemmas.C04Interp.concW_buf, hbuf]; rfl
  · exact hclosed

/-- **`Resume` failing** (`openTty` returns an error: the `expr:err != nil` guard of the regenerated list is
    true): nothing is written, nothing buffered, Vaxis stays suspended — the terminal stays restored —,
    from every writer state and for every capability set and all values. -/
theorem resume_failure_writes_nothing (e : Env) (herr : e.v "expr:err != nil" = true) (w : WSt) :
    (resumeW e w).wire = w.wire ∧ (resumeW e w).buf = w.buf ∧ (resumeW e w).suspended = w.suspended ∧
    (resumeW e w).closed = w.closed := by
  have h := VaxisModel.Lemmas.C04Interp.interpS_quietUntilErr e.v (absW w) herr Gen.Modes.resume 64 (by decide +kernel) (by decide +kernel)
  obtain ⟨h1, h2, h3, h4⟩ := h
  have hc := VaxisModel.Lemmas.C04Interp.concW_absW e w
  rw [VaxisModel.Lemmas.C04Interp.concW_wire, VaxisModel.Lemmas.C04Interp.concW_buf] at hc
  dsimp only [resumeW, interp]
  rw [VaxisModel.Lemmas.C04Interp.concW_wire, VaxisModel.Lemmas.C04Interp.concW_buf, VaxisModel.Lemmas.C04Interp.concW_suspended,
    VaxisModel.Lemmas.C04Interp.concW_closed, h1, h2, h3, h4]
  exact ⟨hc.1, hc.2, rfl, rfl⟩

end VaxisModel.Props.C04Start
