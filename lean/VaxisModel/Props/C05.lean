/-
C05 — the embedded terminal never crashes or hangs on child output (state clause + safety).

`emu_safe_step` / `emu_safe_run`: from every state satisfying the invariant `EmuInv` (cursor within
the screen, margins ordered and within the screen, every row of both grids exactly `cols` wide —
plus saved cursors on the screen and tab stops ≥ 0, which make it inductive), on every terminal
size from 1×1 to 65535×65535, EVERY parsed sequence — every print of every width, every C0, every
ESC label, every CSI label with EVERY parameter list in ℤ (incl. sub-parameters), every OSC —
and every resize to a size in that range is processed by the model of the current code without
panic and without hang, and re-establishes the invariant. Lifted to all operation sequences by
induction. The statement was FALSE of the code before the repairs F15–F19, F105a–F105f
(`Witness/F*.lean` prove that from concrete inputs).
-/
import VaxisModel.Lemmas.EmuSafe1
import VaxisModel.Lemmas.EmuSafe2
import VaxisModel.Lemmas.EmuSafe3
import VaxisModel.Lemmas.EmuSafe4
import VaxisModel.Lemmas.EmuResize

namespace VaxisModel.Props.C05
open VaxisModel.Model.Emu VaxisModel.Lemmas.Emu VaxisModel.Gen.TermModes

/-- The special (hand-modelled) arms of decset/decrst and the silent arms of decrqm are exactly the
    ones the model handles; sm/rm have no special arms. -/
theorem mode_tables_known :
    decsetSpecial = [5, 7, 1049] ∧ decrstSpecial = [5, 7, 1049] ∧ smSpecial = [] ∧ rmSpecial = [] ∧
    decrqmOther = [5, 2027] := by decide

/-- The case labels of sgr() are the ones `sgrOne` models (21 is an empty arm). -/
theorem sgr_cases_known :
    sgrCases = [0, 1, 2, 3, 4, 5, 7, 8, 9, 21, 22, 23, 24, 25, 27, 28, 29, 30, 31, 32, 33, 34, 35, 36, 37, 38, 39,
      40, 41, 42, 43, 44, 45, 46, 47, 48, 49, 58, 59, 90, 91, 92, 93, 94, 95, 96, 97, 100, 101, 102, 103, 104,
      105, 106, 107] := by decide

/-- Every dispatch label of csi()/esc()/c0() has a model arm (the model matches exhaustively on the
    generated enums; this states it for the tables). -/
theorem dispatch_covered :
    (csiTable.all fun r => (lookupArm csiTable r.1).isSome) = true ∧
    (escTable.all fun r => (lookupArm escTable r.1).isSome) = true ∧
    (c0Table.all fun r => (lookupArm c0Table r.1).isSome) = true := by decide

/-- The constants of setDefaultTabStops() as extracted (first stop, limit, step): `defaultTabs` (Model/EmuState.lean)
    is computed from them. -/
theorem tab_stop_constants : tabFirst = 8 ∧ tabLimit = 350 ∧ tabStep = 8 := by decide

theorem clampParam_ok (n : Int) : POk (clampParam n) := by
  unfold clampParam maxParam POk; split <;> omega

theorem ps_clamp_ok (pm : List Param) : POk (ps (clampParams pm)) := by
  cases pm with
  | nil => exact ⟨by decide, by decide⟩
  | cons p rest => exact clampParam_ok p.1

theorem csi_safe {e : Emu} {rows cols : Nat} (h : EmuInv e rows cols) (d : Dim rows cols)
    (label : List Nat) (pm0 : List Param) : Safe rows cols (csi Fixes.current e label pm0) := by
  unfold csi
  have hf : Fixes.current.f18 = true := rfl
  simp only [hf, if_true]
  have hn := ps_clamp_ok pm0
  have hd1 := dflt1_ok hn
  generalize clampParams pm0 = pm at hn hd1
  cases hl : lookupArm csiTable label with
  | none => exact Safe.ok h
  | some arm =>
    cases arm with
    | ich => exact ich_safe h d hn
    | cuu => exact Safe.ok (cuu_inv h hn)
    | cud => exact Safe.ok (cud_inv h hn)
    | cuf => exact Safe.ok (cuf_inv h d hn)
    | cub => exact Safe.ok (cub_inv h hn)
    | cnl => exact cnl_safe h hn
    | cpl => exact cpl_safe h hn
    | cha => exact Safe.ok (cha_inv h hn)
    | cup => exact Safe.ok (cup_inv h d pm)
    | cht => exact Safe.ok (cht_inv h d _)
    | ed => exact ed_safe h d _
    | el => exact el_safe h d _
    | il => exact il_safe h d hn
    | dl => exact dl_safe h d hn
    | dch => exact dch_safe h d hn
    | arm_53 => exact scrollUp_safe h d (by omega)
    | arm_54 =>
      simp only
      split
      · exact Safe.ok h
      · exact scrollDown_safe h d (by omega)
    | ech => exact ech_safe h d hn
    | cbt => exact Safe.ok (cbt_inv h _)
    | hpa => exact Safe.ok (hpa_inv h d hn)
    | hpr => exact Safe.ok (hpr_inv h d hn)
    | rep => exact rep_safe h d hn
    | arm_63 => exact Safe.ok h
    | arm_3e63 => exact Safe.ok h
    | vpa => exact Safe.ok (vpa_inv h d hn)
    | vpr => exact Safe.ok (vpr_inv h hn)
    | tbc => exact Safe.ok (tbc_inv h _)
    | sm => exact Safe.ok (sm_inv h pm)
    | decset => exact decset_safe h d pm
    | rm => exact Safe.ok (rm_inv h pm)
    | decrst => exact decrst_safe h d pm
    | sgr => exact sgr_safe h pm
    | arm_6e => exact Safe.ok h
    | arm_2470 => exact Safe.ok h
    | decrqm => exact Safe.ok h
    | decstbm => exact Safe.ok (decstbm_inv h pm)
    | decsc => exact Safe.ok (decsc_inv h)
    | decrc => exact Safe.ok (decrc_inv h)
    | arm_2071 => exact Safe.ok (inv_shape h _)

theorem esc_safe {e : Emu} {rows cols : Nat} (h : EmuInv e rows cols) (d : Dim rows cols)
    (label : List Nat) : Safe rows cols (esc Fixes.current e label) := by
  unfold esc
  cases hl : lookupArm escTable label with
  | none => exact Safe.ok h
  | some arm =>
    cases arm with
    | decsc => exact Safe.ok (decsc_inv h)
    | decrc => exact Safe.ok (decrc_inv h)
    | ind => exact ind_safe h d
    | nel => exact nel_safe h d
    | hts => exact Safe.ok (hts_inv h)
    | ri => exact ri_safe h d
    | arm_4e => exact Safe.ok (inv_cs h _)
    | arm_4f => exact Safe.ok (inv_cs h _)
    | arm_3d => exact Safe.ok (inv_mode h _)
    | arm_3e => exact Safe.ok (inv_mode h _)
    | ris => exact Safe.ok (ris_inv h d)
    | arm_2830 => exact Safe.ok (inv_cs h _)
    | arm_2930 => exact Safe.ok (inv_cs h _)
    | arm_2a30 => exact Safe.ok (inv_cs h _)
    | arm_2b30 => exact Safe.ok (inv_cs h _)
    | arm_2842 => exact Safe.ok (inv_cs h _)
    | arm_2942 => exact Safe.ok (inv_cs h _)
    | arm_2a42 => exact Safe.ok (inv_cs h _)
    | arm_2b42 => exact Safe.ok (inv_cs h _)
    | arm_2338 => exact Safe.ok h

/-- The state is a well-formed `rows × cols` terminal of admissible size. -/
def Good (e : Emu) : Prop := ∃ rows cols, EmuInv e rows cols ∧ Dim rows cols

/-- Sizes a resize may ask for (a pty's winsize fields are uint16; 0 is excluded by the property:
    "all sizes from 1x1 upward"). Every other operation is unrestricted. -/
def OpOk : EOp → Prop
  | .resize w h => 1 ≤ w ∧ w ≤ 65535 ∧ 1 ≤ h ∧ h ≤ 65535
  | _ => True

/-- Every operation other than resize, with every parameter, on a fixed-size terminal. -/
theorem emu_safe {e : Emu} {rows cols : Nat} (h : EmuInv e rows cols) (d : Dim rows cols) (op : EOp)
    (hop : ∀ w hh, op ≠ .resize w hh) : ∃ r, emuStep e op = .ok r ∧ EmuInv r.1 rows cols := by
  unfold emuStep emuStepF
  cases op with
  | print g w => exact (print_safe h d g w).step0
  | c0 r => exact c0_safe h d r
  | esc l => exact (esc_safe h d l).step0
  | csi l pm => exact (csi_safe h d l pm).step0
  | osc data info => exact osc_safe h data info
  | dcs => exact ⟨(e, 0), rfl, h⟩
  | apc => exact ⟨(e, 1), rfl, h⟩
  | resize w hh => exact absurd rfl (hop w hh)

/-- Resizing to any admissible size from any good state. -/
theorem resize_step_safe {e : Emu} {rows cols : Nat} (h : EmuInv e rows cols) (d : Dim rows cols) (w hh : Int)
    (hw1 : 1 ≤ w) (hw2 : w ≤ 65535) (hh1 : 1 ≤ hh) (hh2 : hh ≤ 65535) :
    ∃ r, emuStep e (.resize w hh) = .ok r ∧ EmuInv r.1 hh.toNat w.toNat ∧ Dim hh.toNat w.toNat := by
  obtain ⟨r, hr, hi⟩ := Safe.step0 (resize_safe h d w hh hw1 hw2 hh1 hh2)
  exact ⟨r, hr, hi, Dim.ofInt hw1 hw2 hh1 hh2⟩

/-- F112c repaired (aefad78): a resize leaves the pen alone — for EVERY old state (no invariant needed),
    every size, whatever the reflow re-prints. (Before the repair the pen was the style of the last
    reflowed cell: `resize_clobbered_pen` below.) -/
theorem resize_preserves_pen {e e' : Emu} {w h : Int} (hr : resize Fixes.current e w h = .ok e') :
    e'.cur.st = e.cur.st := by
  rw [resize_eq] at hr
  split at hr
  · cases hr
  · cases hq : reflow Fixes.current e.cur.row e.primary 0 (resizeInit e w h) with
    | error p => rw [hq] at hr; cases hr
    | ok e1 => rw [hq] at hr; cases hr; rfl

/-- What a resize leaves alone / sets, for EVERY old state (no invariant needed): pen, cursor shape,
    modes, OSC 8 switch, tab stops, character sets (outside a single shift) are kept; the active
    screen is the one mode 1049 selects; the alternate grid is blank; the margins are the full new
    screen; both saved cursors are clamped; the deferred-wrap flag is only set with the cursor in the
    pending-wrap column (`Lemmas.EmuResize.ResizeFrame`). -/
theorem resize_frame {e e' : Emu} {w h : Int} (hr : resize Fixes.current e w h = .ok e') :
    VaxisModel.Lemmas.EmuResize.ResizeFrame e e' w h :=
  VaxisModel.Lemmas.EmuResize.resize_keep hr

/-- Non-vacuity of `resize_frame` / `resize_preserves_pen`: the resize of the F112c scenario succeeds. -/
example : ∃ e e', resize Fixes.current e 5 2 = .ok e' ∧ e.primary ≠ [] :=
  ⟨{ ({} : Emu) with primary := [[{ g := [97], w := 1, st := { bg := 7 } }], [{}]], cur := { row := 1 } }, _, rfl, by decide⟩

/-- … and so does every step `resize` of the machine. -/
theorem resize_step_preserves_pen {e : Emu} {w h : Int} {r : Emu × Nat}
    (hr : emuStep e (.resize w h) = .ok r) : r.1.cur.st = e.cur.st := by
  unfold emuStep emuStepF at hr
  cases hq : resize Fixes.current e w h with
  | error p => simp only [hq, bind, Except.bind] at hr; cases hr
  | ok e1 =>
    simp only [hq, bind, Except.bind] at hr
    cases hr
    exact resize_preserves_pen hq

/-- The F112c scenario (corpus/C05/F112c-resize-pen.ops): 4×2, `SGR 44`, `abcd`, CR, LF, `SGR 0`,
    resize to 5×2. With the repair switched off the pen after the resize has background index 4; the
    current code keeps the default pen. -/
def f112cOps : List EOp :=
  [.csi [109] [(44, [])], .print [97] 1, .print [98] 1, .print [99] 1, .print [100] 1, .c0 13, .c0 10, .csi [109] []]

theorem resize_clobbered_pen :
    (match Emu.new Fixes.current 4 2 with
     | .ok e0 =>
       (match runOps e0 f112cOps with
        | .ok e1 =>
          (match resize { Fixes.current with f112c := false } e1 5 2, resize Fixes.current e1 5 2 with
           | .ok before, .ok now => decide (e1.cur.st = {} ∧ before.cur.st.bg = indexColor 4 ∧ now.cur.st = {})
           | _, _ => false)
        | .error _ => false)
     | .error _ => false) = true := by decide +kernel

theorem emu_safe_step {e : Emu} (hg : Good e) (op : EOp) (hop : OpOk op) :
    ∃ r, emuStep e op = .ok r ∧ Good r.1 := by
  obtain ⟨rows, cols, h, d⟩ := hg
  cases op with
  | resize w hh =>
    obtain ⟨hw1, hw2, hh1, hh2⟩ := hop
    obtain ⟨r, hr, hi, hd⟩ := resize_step_safe h d w hh hw1 hw2 hh1 hh2
    exact ⟨r, hr, _, _, hi, hd⟩
  | _ => exact (emu_safe h d _ (by intro _ _ hc; cases hc)).imp fun r hr => ⟨hr.1, rows, cols, hr.2, d⟩

/-- All histories: any sequence of operations (with admissible resizes interleaved anywhere) from a
    good state runs to completion — no panic, no hang — and ends in a good state. -/
theorem emu_safe_run (ops : List EOp) : ∀ {e : Emu}, Good e → (∀ op ∈ ops, OpOk op) →
    ∃ e', runOps e ops = .ok e' ∧ Good e' := by
  induction ops with
  | nil => intro e hg _; exact ⟨e, rfl, hg⟩
  | cons op rest ih =>
    intro e hg hall
    obtain ⟨r, hr, hg'⟩ := emu_safe_step hg op (hall op List.mem_cons_self)
    obtain ⟨e', he', hg''⟩ := ih hg' (fun o ho => hall o (List.mem_cons_of_mem _ ho))
    exact ⟨e', by simp only [runOps, hr, bind, Except.bind]; exact he', hg''⟩

/-- A freshly started terminal (New() + resize, as StartWithSize does) of any admissible size is good. -/
theorem new_good (w h : Int) (hw1 : 1 ≤ w) (hw2 : w ≤ 65535) (hh1 : 1 ≤ h) (hh2 : h ≤ 65535) :
    ∃ e, Emu.new Fixes.current w h = .ok e ∧ Good e := by
  obtain ⟨e, he, hi⟩ := new_safe w h hw1 hw2 hh1 hh2
  exact ⟨e, he, _, _, hi, Dim.ofInt hw1 hw2 hh1 hh2⟩

/-- From start-up, every byte stream's parsed form: start at any size, apply any operations. -/
theorem session_safe (w h : Int) (hw1 : 1 ≤ w) (hw2 : w ≤ 65535) (hh1 : 1 ≤ h) (hh2 : h ≤ 65535)
    (ops : List EOp) (hall : ∀ op ∈ ops, OpOk op) :
    ∃ e0 e', Emu.new Fixes.current w h = .ok e0 ∧ runOps e0 ops = .ok e' ∧ Good e' := by
  obtain ⟨e0, he0, hg⟩ := new_good w h hw1 hw2 hh1 hh2
  obtain ⟨e', he', hg'⟩ := emu_safe_run ops hg hall
  exact ⟨e0, e', he0, he', hg'⟩

/-- The state clause of the property, read off `Good`. -/
theorem good_state_clause {e : Emu} (hg : Good e) :
    ∃ rows cols : Nat, 1 ≤ rows ∧ 1 ≤ cols ∧
      0 ≤ e.cur.row ∧ e.cur.row < rows ∧ 0 ≤ e.cur.col ∧ e.cur.col ≤ cols ∧
      0 ≤ e.top ∧ e.top ≤ e.bottom ∧ e.bottom < rows ∧ e.left = 0 ∧ e.right = (cols : Int) - 1 ∧
      e.primary.length = rows ∧ (∀ r ∈ e.primary, r.length = cols) ∧
      e.alt.length = rows ∧ (∀ r ∈ e.alt, r.length = cols) := by
  obtain ⟨rows, cols, h, d⟩ := hg
  exact ⟨rows, cols, d.r1, d.c1, h.rowLo, h.rowHi, h.colLo, h.colHi, h.topLo, h.topLe, h.botHi, h.left0,
    h.right, h.prim.len, h.prim.rowLen, h.alt.len, h.alt.rowLen⟩

theorem bind0 {m : M Emu} {r : Emu × Nat}
    (h : (do let x ← m; (Except.ok (x, 0) : M (Emu × Nat))) = .ok r) : r.2 ≤ 1 := by
  cases m with
  | error _ => simp only [bind, Except.bind] at h; cases h
  | ok x => simp only [bind, Except.bind] at h; cases h; simp only; omega

/-- One sequence raises at most one event (the hypothesis of the event-loop theorems). -/
theorem events_per_op_le_one (e : Emu) (op : EOp) (r : Emu × Nat) (h : emuStep e op = .ok r) : r.2 ≤ 1 := by
  unfold emuStep emuStepF at h
  cases op with
  | print g w => exact bind0 h
  | c0 x =>
    simp only at h
    unfold c0 at h
    cases hl : lookupArm c0Table [x] with
    | none => rw [hl] at h; cases h; simp only; omega
    | some arm =>
      rw [hl] at h
      cases arm with
      | lf | vt | ff => exact bind0 h
      | _ => cases h; simp only; omega
  | esc l => exact bind0 h
  | csi l pm => exact bind0 h
  | osc x y =>
    obtain ⟨e', k, hr, hk, _⟩ := osc_out e x y
    simp only [hr] at h
    cases h
    exact hk
  | dcs => cases h; simp only; omega
  | apc => cases h; simp only; omega
  | resize w hh => exact bind0 h

example : ∃ e, Good e := by
  obtain ⟨e, _, hg⟩ := new_good 80 24 (by decide) (by decide) (by decide) (by decide)
  exact ⟨e, hg⟩

example : OpOk (.csi [66] [(-5, []), (9223372036854775807, [3])]) := trivial

end VaxisModel.Props.C05
