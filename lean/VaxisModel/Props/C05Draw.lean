/-
C05, clause "Drawing it into a host window writes only inside that window."

`Model.EmuDraw.draw` is `(*term.Model).Draw(win)`; `fixCursor = true`, `Fixes.current` is the code
as it is. The calls of `draw` are in window coordinates; `setCellChain`/`showCursorChain`
are `Window.SetCell`/`Window.ShowCursor` through the parent chain down to the screen buffer.
-/
import VaxisModel.Model.EmuDraw
import VaxisModel.Lemmas.EmuBasic
import VaxisModel.Lemmas.EmuSafe1
import VaxisModel.Lemmas.EmuSafe4
import VaxisModel.Lemmas.EmuDraw

namespace VaxisModel.Props.C05Draw
open VaxisModel.Model.Emu VaxisModel.Model.EmuDraw VaxisModel.Lemmas.Emu VaxisModel.Lemmas.EmuDraw

/-- Draw into a window of any size 1..65535 × 1..65535, from any state satisfying the invariant
    (of any size — a different size makes Draw resize): it does not panic or hang, every
    `win.SetCell(col,row,_)` it makes has `0 ≤ col < winW`, `0 ≤ row < winH`, the cursor it shows
    (if any) is inside the same bounds, and the state afterwards satisfies the invariant for the
    window's size. -/
theorem draw_clipped {e : Emu} {rows cols : Nat} (h : EmuInv e rows cols) (d : Dim rows cols)
    (winW winH : Int) (focused : Bool)
    (hw1 : 1 ≤ winW) (hw2 : winW ≤ 65535) (hh1 : 1 ≤ winH) (hh2 : winH ≤ 65535) :
    ∃ r, draw true Fixes.current e winW winH focused = .ok r ∧
      (∀ c ∈ r.2.1, 0 ≤ c.col ∧ c.col < winW ∧ 0 ≤ c.row ∧ c.row < winH) ∧
      (∀ p, r.2.2 = some p → 0 ≤ p.1 ∧ p.1 < winW ∧ 0 ≤ p.2 ∧ p.2 < winH) ∧
      EmuInv r.1 winH.toNat winW.toNat ∧ r.1.hasVx = true := by
  have hcw : ((winW.toNat : Nat) : Int) = winW := by omega
  have hch : ((winH.toNat : Nat) : Int) = winH := by omega
  unfold draw
  by_cases hsz : winW ≠ e.width ∨ winH ≠ e.height
  · obtain ⟨e1, he1, hi1⟩ := resize_safe h d winW winH hw1 hw2 hh1 hh2
    have d1 := Dim.ofInt hw1 hw2 hh1 hh2
    obtain ⟨calls, hcalls, hb, hcur, hinv⟩ := draw_sized hi1 d1 focused
    rw [hcw, hch] at hb hcur
    refine ⟨({ e1 with hasVx := true }, calls, shownCursor true e1 focused), ?_, hb, hcur, hinv, rfl⟩
    simp only [hsz, if_true, he1, hcalls, bind, Except.bind]
  · have hw := width_eq h d.r1
    have hh := height_eq h
    have hwe : winW = (cols : Int) := by omega
    have hhe : winH = (rows : Int) := by omega
    obtain ⟨calls, hcalls, hb, hcur, hinv⟩ := draw_sized h d focused
    have hr : winH.toNat = rows := by omega
    have hc : winW.toNat = cols := by omega
    rw [hr, hc, hwe, hhe]
    refine ⟨({ e with hasVx := true }, calls, shownCursor true e focused), ?_, hb, hcur, hinv, rfl⟩
    rw [← hwe, ← hhe]
    simp only [hsz, if_false, hcalls, bind, Except.bind]

/-- When the window already has the emulator's size, Draw does not resize: the state is unchanged
    except for the stored `vt.vx`. -/
theorem draw_same_size {e : Emu} {rows cols : Nat} (h : EmuInv e rows cols) (d : Dim rows cols)
    (focused : Bool) :
    ∃ calls, draw true Fixes.current e cols rows focused
      = .ok ({ e with hasVx := true }, calls, shownCursor true e focused) := by
  obtain ⟨calls, hcalls, _⟩ := draw_sized h d focused
  have hsz : ¬ ((cols : Int) ≠ e.width ∨ (rows : Int) ≠ e.height) := by
    rw [width_eq h d.r1, height_eq h]; omega
  exact ⟨calls, by simp only [draw, hsz, if_false, hcalls, bind, Except.bind]⟩

/-- The property on the host screen. `chain` is the window handed to Draw followed by its parents
    up to the root; the screen buffer has `sw × sh` cells. Every host cell written by Draw is the
    call translated by the window's origin, lies inside the window's rectangle
    `[ox, ox+winW) × [oy, oy+winH)` and on the screen; the cursor (which `Window.ShowCursor` does
    not clip) is shown inside the window's rectangle. -/
theorem draw_host_clipped {e : Emu} {rows cols : Nat} (h : EmuInv e rows cols) (d : Dim rows cols)
    (win : Win) (parents : List Win) (sw sh : Int) (focused : Bool)
    (hw1 : 1 ≤ win.w) (hw2 : win.w ≤ 65535) (hh1 : 1 ≤ win.h) (hh2 : win.h ≤ 65535) :
    ∃ r, draw true Fixes.current e win.w win.h focused = .ok r ∧
      (∀ c ∈ r.2.1, ∀ p, setCellChain sw sh (win :: parents) c.col c.row = some p →
        (origin (win :: parents)).1 ≤ p.1 ∧ p.1 < (origin (win :: parents)).1 + win.w ∧
        (origin (win :: parents)).2 ≤ p.2 ∧ p.2 < (origin (win :: parents)).2 + win.h ∧
        0 ≤ p.1 ∧ p.1 < sw ∧ 0 ≤ p.2 ∧ p.2 < sh) ∧
      (∀ q, r.2.2 = some q →
        (origin (win :: parents)).1 ≤ (showCursorChain (win :: parents) q.1 q.2).1 ∧
        (showCursorChain (win :: parents) q.1 q.2).1 < (origin (win :: parents)).1 + win.w ∧
        (origin (win :: parents)).2 ≤ (showCursorChain (win :: parents) q.1 q.2).2 ∧
        (showCursorChain (win :: parents) q.1 q.2).2 < (origin (win :: parents)).2 + win.h) := by
  obtain ⟨r, hr, hcalls, hcur, _⟩ := draw_clipped h d win.w win.h focused hw1 hw2 hh1 hh2
  refine ⟨r, hr, ?_, ?_⟩
  · intro c hc p hp
    have hb := hcalls c hc
    obtain ⟨hpe, hscr⟩ := setCellChain_some sw sh _ _ _ p hp
    rw [showCursorChain_add] at hpe
    subst hpe
    simp only at hscr ⊢
    omega
  · intro q hq
    have hb := hcur q hq
    rw [showCursorChain_add]
    simp only
    omega

/-- Which cells Draw hands to the window (once the emulator has the window's size): the calls are
    the concatenation, row by row from row 0, of a walk along each of the `rows` rows of the active
    screen that starts at column 0, hands over the cell stored at the current column (grapheme ""
    replaced by " ") and advances by `max width 1` — so the columns under a wide glyph are skipped
    and every call's column is that of a cell really stored in the row. -/
theorem draw_covers_rows {e : Emu} {rows cols : Nat} (h : EmuInv e rows cols) (d : Dim rows cols) :
    ∃ per : List (List DrawCall), drawCalls e = .ok per.flatten ∧ per.length = rows ∧
      ∀ (k : Nat) (l : List DrawCall), per[k]? = some l →
        ∃ line, getI e.active k = .ok line ∧ RowWalk line k cols 0 l := by
  unfold drawCalls
  rw [width_eq h d.r1, height_eq h]
  obtain ⟨per, h1, h2, h3⟩ := allRows_walk (active_ok h) (rows : Int).toNat 0 (by omega) (by omega)
  refine ⟨per, h1, by simpa using h2, ?_⟩
  intro k l hk
  obtain ⟨line, hl, hw⟩ := h3 k l hk
  exact ⟨line, by simpa using hl, by simpa using hw⟩

/-- States meeting the hypotheses exist (a fresh 80×24 terminal), and a window of another size is
    allowed (Draw resizes). -/
example : ∃ e, EmuInv e 24 80 ∧ Dim 24 80 ∧ (1 : Int) ≤ 40 ∧ (40 : Int) ≤ 65535 := by
  obtain ⟨e, _, h⟩ := new_safe 80 24 (by decide) (by decide) (by decide) (by decide)
  exact ⟨e, h, ⟨by decide, by decide, by decide, by decide⟩, by decide, by decide⟩

/-- Draw really makes calls and shows a cursor: a fresh 3×2 terminal drawn into a 3×2 window,
    focused, gives 6 calls and the cursor at (0,0). -/
example :
    (match Emu.new Fixes.current 3 2 with
     | .ok e =>
       (match draw true Fixes.current e 3 2 true with
        | .ok r => r.2.1.length == 6 && r.2.2 == some (0, 0)
        | .error _ => false)
     | .error _ => false) = true := by decide +kernel

/-- A window of a different size (2×1) makes Draw resize: 2 calls afterwards. -/
example :
    (match Emu.new Fixes.current 3 2 with
     | .ok e =>
       (match draw true Fixes.current e 2 1 false with
        | .ok r => r.2.1.length == 2 && r.2.2 == none && r.1.width == 2 && r.1.height == 1
        | .error _ => false)
     | .error _ => false) = true := by decide +kernel

/-- The chain clips: `root.New(3,1,2,2)` on a 4×4 screen is clamped to 1×2, so the call (1,0) is
    discarded; (0,1) lands on host cell (3,2). A directly instantiated 2×2 window at (3,1) keeps
    its width and the same call is discarded by the parent instead. -/
example : setCellChain 4 4 [Win.new (Win.root 4 4) 3 1 2 2, Win.root 4 4] 1 0 = none
    ∧ setCellChain 4 4 [Win.new (Win.root 4 4) 3 1 2 2, Win.root 4 4] 0 1 = some (3, 2)
    ∧ setCellChain 4 4 [{ col := 3, row := 1, w := 2, h := 2 }, Win.root 4 4] 1 0 = none := by decide

/-- A wide glyph: a 3×1 terminal showing "世" (width 2) then "a": Draw makes two calls, at columns
    0 and 2 (column 1, under the wide glyph, is skipped). -/
example :
    (match Emu.new Fixes.current 3 1 with
     | .ok e =>
       (match runOps e [.print [228, 184, 150] 2, .print [97] 1] with
        | .ok e2 =>
          (match draw true Fixes.current e2 3 1 true with
           | .ok r => r.2.1.map (·.col) == [0, 2] && r.2.2 == some (2, 0)
           | .error _ => false)
        | .error _ => false)
     | .error _ => false) = true := by decide +kernel

/-- A window without area: Draw writes nothing, shows no cursor and leaves the terminal alone. -/
theorem drawG_no_area (e : Emu) (winW winH : Int) (focused : Bool) (h0 : winW ≤ 0 ∨ winH ≤ 0) :
    drawG true true Fixes.current e winW winH focused = .ok (e, [], none) := by
  unfold drawG
  have : (decide (winW ≤ 0) || decide (winH ≤ 0)) = true := by
    rcases h0 with h0 | h0 <;> simp [h0]
  simp [this]

/-- Draw as it is, for EVERY window size up to 65535 (zero and negative included): no panic,
    every `SetCell` and the cursor inside the window, the emulator stays well-formed. -/
theorem drawG_clipped {e : Emu} {rows cols : Nat} (h : EmuInv e rows cols) (d : Dim rows cols)
    (winW winH : Int) (focused : Bool) (hw2 : winW ≤ 65535) (hh2 : winH ≤ 65535) :
    ∃ r, drawG true true Fixes.current e winW winH focused = .ok r ∧
      (∀ c ∈ r.2.1, 0 ≤ c.col ∧ c.col < winW ∧ 0 ≤ c.row ∧ c.row < winH) ∧
      (∀ p, r.2.2 = some p → 0 ≤ p.1 ∧ p.1 < winW ∧ 0 ≤ p.2 ∧ p.2 < winH) ∧
      ∃ rows' cols', EmuInv r.1 rows' cols' ∧ Dim rows' cols' := by
  by_cases h0 : winW ≤ 0 ∨ winH ≤ 0
  · refine ⟨(e, [], none), drawG_no_area e winW winH focused h0, ?_, ?_, rows, cols, h, d⟩
    · intro c hc; cases hc
    · intro p hp; cases hp
  · have hw1 : 1 ≤ winW := by omega
    have hh1 : 1 ≤ winH := by omega
    obtain ⟨r, hr, hc, hp, hi, _⟩ := draw_clipped h d winW winH focused hw1 hw2 hh1 hh2
    refine ⟨r, ?_, hc, hp, _, _, hi, Dim.ofInt hw1 hw2 hh1 hh2⟩
    unfold drawG
    have : (decide (winW ≤ 0) || decide (winH ≤ 0)) = false := by
      have a : ¬ winW ≤ 0 := by omega
      have b : ¬ winH ≤ 0 := by omega
      simp [a, b]
    simp [this, hr]

end VaxisModel.Props.C05Draw
