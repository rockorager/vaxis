/-
C05 — `(*Model).Draw(win vaxis.Window)` (widgets/term/term.go) is tied to the source structurally.
`Gen/TermDraw.lean` is regenerated from /repo on every run (extract/cmd/C05/draw.go): the body of Draw as a term of the small
statement language `Model/EmuDrawLang.lean`. `body_Draw`: FOR ALL emulator states, window sizes (≤ 0 included) and focus flags,
running the translated body (`evalDraw`) is the hand-written model `Model.EmuDraw.drawG` with the current repairs — the model that
`draw_clipped`, `drawG_clipped`, `draw_host_clipped` (Props/C05Draw.lean) are about. So an edit of Draw — the no-area guard, the
size test before `Resize`, a loop bound, the step `if w == 0 { w = 1 }`, the argument order of `SetCell` / `ShowCursor`, the
cursor clamp `col > vt.margin.right` — changes the generated term and either breaks `body_Draw` or is a neutral rewrite.
-/
import VaxisModel.Lemmas.EmuDrawBody
import VaxisModel.Props.C05Draw

namespace VaxisModel.Props.C05DrawBody
open VaxisModel.Model.Emu VaxisModel.Model.EmuDraw VaxisModel.Model.EmuDrawBody VaxisModel.Lemmas.EmuDrawBody VaxisModel.Gen

/-- no statement of Draw is outside the language -/
theorem draw_fully_recognised : recognised TermDraw.stmt_Draw = true ∧ TermDraw.drawUnknown = 0 := by decide

/-- **Draw is its translated body**: state afterwards, the `SetCell` calls in order, and the `ShowCursor` call. -/
theorem body_Draw (e : Emu) (winW winH : Int) (focused : Bool) :
    evalDraw TermDraw.stmt_Draw e winW winH focused = drawG true true Fixes.current e winW winH focused :=
  body_Draw_eq e winW winH focused

/-- **The property's Draw clause, stated of the body translated from the source**: for every good emulator state, every window
    size up to 65535 (zero and negative included) and either focus flag, running Draw's translated body neither panics nor hangs,
    every `SetCell` it makes and the cursor it shows lie inside the window, and the emulator stays well-formed. -/
theorem translated_draw_clipped {e : Emu} {rows cols : Nat} (h : Lemmas.Emu.EmuInv e rows cols) (d : Lemmas.Emu.Dim rows cols)
    (winW winH : Int) (focused : Bool) (hw2 : winW ≤ 65535) (hh2 : winH ≤ 65535) :
    ∃ r, evalDraw TermDraw.stmt_Draw e winW winH focused = .ok r ∧
      (∀ c ∈ r.2.1, 0 ≤ c.col ∧ c.col < winW ∧ 0 ≤ c.row ∧ c.row < winH) ∧
      (∀ p, r.2.2 = some p → 0 ≤ p.1 ∧ p.1 < winW ∧ 0 ≤ p.2 ∧ p.2 < winH) ∧
      ∃ rows' cols', Lemmas.Emu.EmuInv r.1 rows' cols' ∧ Lemmas.Emu.Dim rows' cols' := by
  rw [body_Draw]
  exact VaxisModel.Props.C05Draw.drawG_clipped h d winW winH focused hw2 hh2

/-- the loop over `vt.graphics` (sixel images; not modelled: the emulator model has no graphics) is the text the translator's
    `graphics` statement was written against -/
theorem graphics_loop_pinned : TermDraw.graphicsSrc =
    "outer: for _, img := range vt.graphics { for _, imgVx := range img.vaxii { if vx != imgVx.vx { continue } win := win.New(img.origin.col, img.origin.row, -1, -1) imgVx.vxImage.Draw(win) continue outer } vxImg, err := vx.NewImage(img.img) if err != nil { log.Error(\"couldn't create Vaxis image: %v\", err) continue } vxImg.Resize(win.Size()) img.vaxii = append(img.vaxii, &vaxisImage{ vx: vx, vxImage: vxImg, }) }" := rfl

/-- non-vacuity: a 2×1 emulator holding a wide glyph, drawn focused into a 2×1 window: one SetCell for the glyph (the loop steps
    over its second column), the cursor clamped from the pending-wrap column 2 to column 1 -/
example :
    let e : Emu := { primary := [[{ g := [228, 184, 150], w := 2 }, {}]], alt := [[{}, {}]], right := 1, cur := { col := 2 }, lastCol := true }
    (match evalDraw TermDraw.stmt_Draw e 2 1 true with
     | .ok (e', calls, cur) => (e'.hasVx, calls.map (fun c => (c.col, c.row, c.cell.w)), cur)
     | .error _ => (false, [], none)) = (true, [(0, 0, 2)], some (1, 0)) := by decide
