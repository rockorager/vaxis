import VaxisModel.Model.EmuEvents
import VaxisModel.Gen.TermModes
import VaxisModel.Lemmas.Run

/-!
# C05, clause "events it raises (bell, title, notification) never stall further processing however
many occur … for all orders in which raised events are consumed"

Theorems about the transition system `Model.EmuEvents` of the PTY goroutine (all input lists, all
schedules = all label sequences, no bound on either).  `events_never_stall_current` and the other
`…_current` theorems are stated over the constants the extractor regenerates from
`widgets/term/term.go` on every run (`Gen.TermModes.eventCap`, `loopDrainsFirst`): if the priority
drain is removed `loopDrainsFirst` becomes `false` and they stop checking
(`Witness/F20.lean` proves the statement false for that loop).
-/
namespace VaxisModel.Props.C05Events
open VaxisModel.Model.EmuEvents
open VaxisModel.Gen.TermModes (eventCap loopDrainsFirst postEventIsPlainSend loopArms)

/-- The facts the model's shape rests on: `postEvent` is one plain blocking send, the main select
    has exactly the three arms parser / own events / timer, the channel has room for at least one
    event, and the loop drains its own channel before every main select. -/
theorem loop_shape_current :
    postEventIsPlainSend = true ∧ loopArms = 3 ∧ 1 ≤ eventCap ∧ loopDrainsFirst = true := by decide

/-- No label is enabled once the goroutine is blocked in `postEvent` (it is the only receiver). -/
theorem stuck_is_forever (cap : Nat) (df : Bool) (s : Sys) (h : stuck s) (l : Label) :
    step cap df s l = none := by
  unfold stuck at h
  cases l <;> simp [step, h]

/-- … so no schedule of any length leaves that state. -/
theorem stuck_run (cap : Nat) (df : Bool) (s s' : Sys) (h : stuck s) (ls : List Label)
    (hr : run cap df s ls = some s') : ls = [] ∧ s' = s := by
  cases ls with
  | nil => simp [run] at hr; exact ⟨rfl, hr.symm⟩
  | cons l t => simp [run, stuck_is_forever cap df s h l] at hr

/-- The eight transitions of `step`, each with its guard: what holds of every one of them holds of every step. -/
theorem step_elim {cap : Nat} {df : Bool} {P : Sys → Label → Sys → Prop}
    (drainRecv : ∀ inp occ del, 0 < occ → P ⟨inp, occ, .drain, del⟩ .drainRecv ⟨inp, occ - 1, top df, del + 1⟩)
    (drainDefault : ∀ inp del, P ⟨inp, 0, .drain, del⟩ .drainDefault ⟨inp, 0, .main, del⟩)
    (skip : ∀ rest occ del, P ⟨false :: rest, occ, .main, del⟩ .pickParser ⟨rest, occ, top df, del⟩)
    (post : ∀ rest occ del, occ < cap → P ⟨true :: rest, occ, .main, del⟩ .pickParser ⟨rest, occ + 1, top df, del⟩)
    (block : ∀ rest occ del, ¬ occ < cap → P ⟨true :: rest, occ, .main, del⟩ .pickParser ⟨rest, occ, .blocked, del⟩)
    (pickEvents : ∀ inp occ del, 0 < occ → P ⟨inp, occ, .main, del⟩ .pickEvents ⟨inp, occ - 1, top df, del + 1⟩)
    (pickTimer : ∀ inp occ del, P ⟨inp, occ, .main, del⟩ .pickTimer ⟨inp, occ, top df, del⟩)
    (eof : ∀ occ del, P ⟨[], occ, .main, del⟩ .eof ⟨[], occ, .done, del⟩)
    {s s' : Sys} {l : Label} (h : step cap df s l = some s') : P s l s' := by
  obtain ⟨inp, occ, pc, del⟩ := s
  cases pc <;> cases l <;> simp [step] at h
  · obtain ⟨hpos, rfl⟩ := h; exact drainRecv _ _ _ hpos
  · obtain ⟨rfl, rfl⟩ := h; exact drainDefault _ _
  · split at h
    · simp at h
    · simp at h; subst h; exact skip _ _ _
    · split at h <;> (simp at h; subst h)
      · exact post _ _ _ ‹_›
      · exact block _ _ _ ‹_›
  · obtain ⟨hpos, rfl⟩ := h; exact pickEvents _ _ _ hpos
  · subst h; exact pickTimer _ _ _
  · split at h
    · simp at h; subst h; exact eof _ _
    · simp at h

theorem run_isRun (cap : Nat) (df : Bool) : VaxisModel.Lemmas.Run.IsRun (step cap df) (run cap df) :=
  ⟨fun _ => rfl, fun s l ls => by simp only [run]; cases step cap df s l <;> rfl⟩

theorem run_keeps {cap : Nat} {df : Bool} (P : Sys → Prop)
    (hstep : ∀ {s s' : Sys} {l : Label}, P s → step cap df s l = some s' → P s')
    (ls : List Label) {s s' : Sys} (hp : P s) (h : run cap df s ls = some s') : P s' :=
  (run_isRun cap df).preserves (fun _ _ _ hp hs => hstep hp hs) hp h

theorem drainInv_init (input : List Bool) : DrainInv (init true input) := by
  simp [DrainInv, init, top]

theorem drainInv_notBlocked {s : Sys} (h : DrainInv s) : s.pc ≠ .blocked := h.1
theorem drainInv_atDrain {s : Sys} (h : DrainInv s) (hp : s.pc = .drain) : s.occ ≤ 1 := h.2.1 hp
theorem drainInv_atMain {s : Sys} (h : DrainInv s) (hp : s.pc = .main ∨ s.pc = .done) : s.occ = 0 := h.2.2 hp

theorem drainInv_step {cap : Nat} (hcap : 1 ≤ cap) {s s' : Sys} {l : Label}
    (hi : DrainInv s) (h : step cap true s l = some s') : DrainInv s' := by
  refine step_elim (P := fun s _ s' => DrainInv s → DrainInv s') ?_ ?_ ?_ ?_ ?_ ?_ ?_ ?_ h hi <;> intros <;>
    simp_all [DrainInv, top] <;> omega

theorem drainInv_run {cap : Nat} (hcap : 1 ≤ cap) (ls : List Label) {s s' : Sys}
    (hi : DrainInv s) (h : run cap true s ls = some s') : DrainInv s' :=
  run_keeps DrainInv (drainInv_step hcap) ls hi h

theorem drainInv_reachable {cap : Nat} (hcap : 1 ≤ cap) (input : List Bool) (s : Sys)
    (hr : Reachable cap true input s) : DrainInv s := by
  obtain ⟨ls, h⟩ := hr
  exact drainInv_run hcap ls (drainInv_init input) h

/-- **Events never stall.**  With the priority drain, for every channel capacity ≥ 1, every input
    (any number of event-raising sequences in any positions) and every schedule (every order in
    which the goroutine's selects pick ready arms, i.e. in which raised events are consumed), the
    goroutine is never blocked in `postEvent`. -/
theorem events_never_stall (cap : Nat) (hcap : 1 ≤ cap) (input : List Bool) (ls : List Label)
    (s : Sys) (h : run cap true (init true input) ls = some s) : ¬ stuck s :=
  drainInv_notBlocked (drainInv_reachable hcap input s ⟨ls, h⟩)

/-- The same, for the capacity and loop shape extracted from the current source. -/
theorem events_never_stall_current (input : List Bool) (ls : List Label) (s : Sys)
    (h : run eventCap loopDrainsFirst (init loopDrainsFirst input) ls = some s) : ¬ stuck s := by
  have hd : loopDrainsFirst = true := by decide
  rw [hd] at h
  exact events_never_stall eventCap (by decide) input ls s h

/-- With the drain the channel never holds more than one event, whatever its capacity. -/
theorem occupancy_at_most_one (cap : Nat) (hcap : 1 ≤ cap) (input : List Bool) (s : Sys)
    (hr : Reachable cap true input s) : s.occ ≤ 1 := by
  have hi := drainInv_reachable hcap input s hr
  cases hpc : s.pc
  · exact drainInv_atDrain hi hpc
  · have := drainInv_atMain hi (Or.inl hpc); omega
  · exact absurd hpc (drainInv_notBlocked hi)
  · have := drainInv_atMain hi (Or.inr hpc); omega

theorem conserved_init (df : Bool) (input : List Bool) : Conserved input (init df input) :=
  ⟨[], by simp [init], by simp [init, inFlight, raising, top]; cases df <;> simp⟩

theorem conserved_step {cap : Nat} {df : Bool} {input0 : List Bool} {s s' : Sys} {l : Label}
    (hc : Conserved input0 s) (h : step cap df s l = some s') : Conserved input0 s' := by
  have htop : top df ≠ PC.blocked := by cases df <;> simp [top]
  refine step_elim (P := fun s _ s' => Conserved input0 s → Conserved input0 s') ?_ ?_ ?_ ?_ ?_ ?_ ?_ ?_ h hc
  all_goals (intros; rename_i hc; obtain ⟨c, hin, hsum⟩ := hc)
  -- the three parser transitions consume an item, the others none
  all_goals first
    | exact ⟨c, hin, by simp_all [inFlight] <;> omega⟩
    | exact ⟨c ++ [false], by simpa using hin, by simp_all [inFlight, raising, List.count_append]⟩
    | exact ⟨c ++ [true], by simpa using hin, by simp_all [inFlight, raising, List.count_append] <;> omega⟩

/-- **Conservation.**  In every reachable state (any capacity, either loop, any schedule):
    delivered + waiting in the channel + being sent = events raised by the items consumed. -/
theorem conservation (cap : Nat) (df : Bool) (input : List Bool) (s : Sys)
    (hr : Reachable cap df input s) : Conserved input s := by
  obtain ⟨ls, h⟩ := hr
  exact run_keeps (Conserved input) conserved_step ls (conserved_init df input) h

theorem occ_le_cap_step {cap : Nat} {df : Bool} {s s' : Sys} {l : Label}
    (hc : s.occ ≤ cap) (h : step cap df s l = some s') : s'.occ ≤ cap := by
  refine step_elim (P := fun s _ s' => s.occ ≤ cap → s'.occ ≤ cap) ?_ ?_ ?_ ?_ ?_ ?_ ?_ ?_ h hc <;> intros <;>
    simp_all <;> omega

/-- The channel never holds more than its capacity (any loop, any schedule). -/
theorem occupancy_le_cap (cap : Nat) (df : Bool) (input : List Bool) (s : Sys)
    (hr : Reachable cap df input s) : s.occ ≤ cap := by
  obtain ⟨ls, h⟩ := hr
  exact run_keeps (·.occ ≤ cap) occ_le_cap_step ls (by simp [init]) h

/-- **Deadlock freedom.**  With the drain, in every reachable state that is not the final one some
    label *other than the timer* is enabled: the loop can always make real progress (deliver a
    pending event, consume the next parser item, or finish at EOF). -/
theorem deadlock_free (cap : Nat) (hcap : 1 ≤ cap) (input : List Bool) (s : Sys)
    (hr : Reachable cap true input s) (hnd : s.pc ≠ .done) :
    ∃ l, l ≠ Label.pickTimer ∧ (step cap true s l).isSome = true := by
  have hi := drainInv_reachable hcap input s hr
  obtain ⟨inp, occ, pc, del⟩ := s
  cases pc
  · -- drain
    by_cases hz : occ = 0
    · exact ⟨.drainDefault, by simp, by simp [step, hz]⟩
    · exact ⟨.drainRecv, by simp, by simp [step]; omega⟩
  · -- main
    cases inp with
    | nil => exact ⟨.eof, by simp, by simp [step]⟩
    | cons b rest =>
      refine ⟨.pickParser, by simp, ?_⟩
      cases b
      · simp [step]
      · simp only [step]; split <;> simp
  · exact absurd rfl (drainInv_notBlocked hi)
  · exact absurd rfl hnd

/-- The same for the extracted constants. -/
theorem deadlock_free_current (input : List Bool) (s : Sys)
    (hr : Reachable eventCap loopDrainsFirst input s) (hnd : s.pc ≠ .done) :
    ∃ l, l ≠ Label.pickTimer ∧ (step eventCap loopDrainsFirst s l).isSome = true := by
  have hd : loopDrainsFirst = true := by decide
  rw [hd] at hr ⊢
  exact deadlock_free eventCap (by decide) input s hr hnd

/-- The loop returns only at EOF: all input has been consumed. -/
theorem done_input_empty (cap : Nat) (df : Bool) (input : List Bool) (s : Sys)
    (hr : Reachable cap df input s) (hd : s.pc = .done) : s.input = [] := by
  obtain ⟨ls, h⟩ := hr
  refine run_keeps (fun s0 => s0.pc = .done → s0.input = []) ?_ ls (by cases df <;> simp [init, top]) h hd
  intro s0 s1 l _ hs hd1
  have htop : top df ≠ PC.done := by cases df <;> simp [top]
  revert hd1
  refine step_elim (P := fun _ _ s1 => s1.pc = .done → s1.input = []) ?_ ?_ ?_ ?_ ?_ ?_ ?_ ?_ hs <;> intros <;> simp_all

/-- Any loop, any capacity: when the loop has returned, every raised event was either delivered
    or is still in the channel (the loop does not drain at EOF), so at most `cap` are undelivered. -/
theorem closed_delivers_all_but_cap (cap : Nat) (df : Bool) (input : List Bool) (s : Sys)
    (hr : Reachable cap df input s) (hd : s.pc = .done) :
    s.delivered + s.occ = raising input ∧ s.delivered ≤ raising input ∧
      raising input - cap ≤ s.delivered := by
  obtain ⟨consumed, hin, hsum⟩ := conservation cap df input s hr
  have he := done_input_empty cap df input s hr hd
  have hocc := occupancy_le_cap cap df input s hr
  rw [he] at hin; simp at hin; subst hin
  simp [inFlight, hd] at hsum
  omega

/-- **All events are delivered.**  With the drain the channel is empty whenever the main select is
    reached, in particular when EOF is taken: every run that reaches `done` has delivered exactly
    the events raised by the input, whatever the schedule. -/
theorem events_all_delivered (cap : Nat) (hcap : 1 ≤ cap) (input : List Bool) (s : Sys)
    (hr : Reachable cap true input s) (hd : s.pc = .done) :
    s.delivered = raising input ∧ s.occ = 0 := by
  have hz : s.occ = 0 := drainInv_atMain (drainInv_reachable hcap input s hr) (Or.inr hd)
  have := (closed_delivers_all_but_cap cap true input s hr hd).1
  omega

theorem events_all_delivered_current (input : List Bool) (s : Sys)
    (hr : Reachable eventCap loopDrainsFirst input s) (hd : s.pc = .done) :
    s.delivered = raising input ∧ s.occ = 0 := by
  have hdf : loopDrainsFirst = true := by decide
  rw [hdf] at hr
  exact events_all_delivered eventCap (by decide) input s hr hd

theorem run_append (cap : Nat) (df : Bool) (s : Sys) (a b : List Label) :
    run cap df s (a ++ b) = (run cap df s a).bind (fun s' => run cap df s' b) :=
  (run_isRun cap df).append a b s

/-- From the top of the loop with an empty channel there is a schedule that consumes all the
    input, delivers every raised event and returns. -/
theorem finish_from_drain (cap : Nat) (hcap : 1 ≤ cap) (inp : List Bool) (d : Nat) :
    ∃ ls, run cap true ⟨inp, 0, .drain, d⟩ ls = some ⟨[], 0, .done, d + raising inp⟩ := by
  induction inp generalizing d with
  | nil => exact ⟨[.drainDefault, .eof], by simp [run, step, raising]⟩
  | cons b rest ih =>
    cases b
    · obtain ⟨ls, h⟩ := ih d
      refine ⟨[.drainDefault, .pickParser] ++ ls, ?_⟩
      rw [run_append]
      simpa [run, step, top, raising] using h
    · obtain ⟨ls, h⟩ := ih (d + 1)
      refine ⟨[.drainDefault, .pickParser, .drainRecv] ++ ls, ?_⟩
      rw [run_append]
      have hc : 0 < cap := hcap
      simp [run, step, top, raising, hc] at h ⊢
      rw [h]; simp; omega

/-- **No trap.**  With the drain, from every reachable state some continuation reaches the final
    state, with every event raised by the input delivered. -/
theorem can_always_finish (cap : Nat) (hcap : 1 ≤ cap) (input : List Bool) (s : Sys)
    (hr : Reachable cap true input s) :
    ∃ ls s', run cap true s ls = some s' ∧ s'.pc = .done ∧ s'.delivered = raising input := by
  have hi := drainInv_reachable hcap input s hr
  have key : ∃ ls s', run cap true s ls = some s' ∧ s'.pc = .done := by
    obtain ⟨inp, occ, pc, del⟩ := s
    cases pc
    · have hle : occ ≤ 1 := drainInv_atDrain hi rfl
      by_cases hz : occ = 0
      · subst hz
        obtain ⟨ls, h⟩ := finish_from_drain cap hcap inp del
        exact ⟨ls, _, h, rfl⟩
      · have h1' : occ = 1 := by omega
        subst h1'
        obtain ⟨ls, h⟩ := finish_from_drain cap hcap inp (del + 1)
        exact ⟨.drainRecv :: ls, _, by simpa [run, step, top] using h, rfl⟩
    · have hz : occ = 0 := drainInv_atMain hi (Or.inl rfl)
      subst hz
      obtain ⟨ls, h⟩ := finish_from_drain cap hcap inp del
      exact ⟨.pickTimer :: ls, _, by simpa [run, step, top] using h, rfl⟩
    · exact absurd rfl (drainInv_notBlocked hi)
    · exact ⟨[], _, rfl, rfl⟩
  obtain ⟨ls, s', hrun, hd⟩ := key
  obtain ⟨ls0, h0⟩ := hr
  have hr' : Reachable cap true input s' := ⟨ls0 ++ ls, by rw [run_append, h0]; simpa using hrun⟩
  exact ⟨ls, s', hrun, hd, (events_all_delivered cap hcap input s' hr' hd).1⟩

/-- Any loop, any schedule: a run consumes each parser item once and hands over each event once;
    only the idle labels (`drainDefault`, `pickTimer`) can repeat without bound. -/
theorem work_is_bounded (cap : Nat) (df : Bool) (s0 s : Sys) (ls : List Label)
    (h : run cap df s0 ls = some s) :
    ls.count .pickParser + s.input.length = s0.input.length ∧
    s0.delivered + (ls.count .drainRecv + ls.count .pickEvents) = s.delivered := by
  induction ls generalizing s0 with
  | nil => simp [run] at h; subst h; simp
  | cons l t ih =>
    simp only [run] at h
    split at h
    · rename_i s1 hs
      obtain ⟨ih1, ih2⟩ := ih s1 h
      revert ih1 ih2
      refine step_elim (P := fun s0 l s1 =>
          t.count .pickParser + s.input.length = s1.input.length →
          s1.delivered + (t.count .drainRecv + t.count .pickEvents) = s.delivered →
          (l :: t).count .pickParser + s.input.length = s0.input.length ∧
          s0.delivered + ((l :: t).count .drainRecv + (l :: t).count .pickEvents) = s.delivered)
        ?_ ?_ ?_ ?_ ?_ ?_ ?_ ?_ hs <;> intros <;> simp_all <;> omega
    · simp at h

theorem firstEnabled_is_step (cap : Nat) (df : Bool) (s s' : Sys) (prio : List Label)
    (h : firstEnabled cap df s prio = some s') : ∃ l, step cap df s l = some s' := by
  induction prio with
  | nil => simp [firstEnabled] at h
  | cons l t ih =>
    simp only [firstEnabled] at h
    split at h
    · rename_i s1 hs; simp at h; subst h; exact ⟨l, hs⟩
    · exact ih h

theorem runSched_is_run (cap : Nat) (df : Bool) (prio : List Label) (fuel : Nat) (s : Sys) :
    ∃ ls, run cap df s ls = some (runSched cap df prio fuel s) := by
  induction fuel generalizing s with
  | zero => exact ⟨[], rfl⟩
  | succ n ih =>
    simp only [runSched]
    split
    · rename_i s1 hs
      obtain ⟨l, hl⟩ := firstEnabled_is_step cap df s s1 prio hs
      obtain ⟨ls, h⟩ := ih s1
      exact ⟨l :: ls, by simp [run, hl, h]⟩
    · exact ⟨[], rfl⟩

/-- What the driver computes is a reachable state of the model, so the theorems above apply to
    it: with the drain it is never `blocked`, and if it is `done` it has delivered everything. -/
theorem runWith_reachable (cap : Nat) (df : Bool) (prio : List Label) (input : List Bool) :
    Reachable cap df input (runWith cap df prio input) :=
  runSched_is_run cap df prio (fuelFor input) (init df input)

/-- The premises of `events_never_stall` are met by long runs: five bells, capacity 2, the
    scheduler that prefers the parser arm; the run reaches `done` with all five delivered. -/
example : (runWith 2 true parserFirst [true, true, true, true, true]) =
    ⟨[], 0, .done, 5⟩ := by decide

/-- A concrete schedule (label sequence) in which the timer fires and events are consumed at the
    drain select; it is enabled all the way. -/
example : run 2 true (init true [true, false, true])
    [.drainDefault, .pickParser, .drainRecv, .drainDefault, .pickTimer, .drainDefault,
     .pickParser, .drainDefault, .pickTimer, .drainDefault, .pickParser, .drainRecv, .drainDefault, .eof]
    = some ⟨[], 0, .done, 2⟩ := by decide

/-- `deadlock_free` is not vacuous: a reachable non-final state, and `stuck` is a state the model
    *can* express and reach when the drain is absent (so `¬ stuck` says something). -/
example : ∃ s, Reachable 2 true [true, true] s ∧ s.pc ≠ .done ∧ s.occ = 1 :=
  ⟨⟨[true], 1, .drain, 0⟩, ⟨[.drainDefault, .pickParser], by decide⟩, by decide, rfl⟩

example : ∃ s, Reachable 2 false [true, true, true] s ∧ stuck s :=
  ⟨⟨[], 2, .blocked, 0⟩, ⟨[.pickParser, .pickParser, .pickParser], by decide⟩, by decide⟩

/-- Without the drain the loop may legitimately return with events still in the channel
    (`closed_delivers_all_but_cap` is tight): two bells, both undelivered at close. -/
example : run 2 false (init false [true, true]) [.pickParser, .pickParser, .eof]
    = some ⟨[], 2, .done, 0⟩ := by decide

end VaxisModel.Props.C05Events
