/-
C05 — the PTY goroutine of StartWithSize is tied to the source structurally.
`Gen/TermLoop.lean` is regenerated from /repo on every run (extract/cmd/C05/loop.go): the `select` statements of the goroutine's
loop with their arms. `Model/EmuLoop.lean` reads a labelled transition system off that data (`genStep`). `loop_is_generated`:
for EVERY capacity, state and label it is the transition of the hand-written system `Model.EmuEvents.step` with the priority
drain — the system the theorems `events_never_stall`, `deadlock_free`, `events_all_delivered` (Props/C05Events.lean) are about.
So an edit of the loop — removing the drain select, dropping its `continue`, adding a `default` to the main select, handling an
event without `vt.eventHandler`, swapping what the EOF arm does — changes the generated data and breaks this theorem (or is a
neutral rewrite).
-/
import VaxisModel.Model.EmuLoop
import VaxisModel.Gen.TermLoop
import VaxisModel.Props.C05Events

namespace VaxisModel.Props.C05Loop
open VaxisModel.Model.EmuEvents VaxisModel.Model.EmuLoop VaxisModel.Gen

/-- nothing of the loop is outside the vocabulary; in front of it only `defer vt.recover()` -/
theorem loop_fully_recognised :
    (TermLoop.loopSelects.all fun sel =>
      (sel.arms.all fun a => (a.body ++ (a.eof.getD [])).all fun x => match x with | .unknown _ => false | _ => true) &&
      ((sel.dflt.getD []).all fun x => match x with | .unknown _ => false | _ => true)) = true ∧
    TermLoop.loopPre = ["defer vt.recover()"] := by decide

/-- **The transition system of the translated loop is the model's**, for every capacity, state and label. -/
theorem loop_is_generated (cap : Nat) (s : Sys) (l : Label) :
    genStep cap TermLoop.loopSelects s l = step cap true s l := by
  obtain ⟨input, occ, pc, delivered⟩ := s
  cases pc <;> cases l <;>
    simp [genStep, step, TermLoop.loopSelects, isDrainLabel, armOf, ready, runActs, finish, topOf, top]
  · -- drain, `default`: taken iff no event is waiting
    rcases Nat.eq_zero_or_pos occ with h | h
    · simp [h]
    · simp [h, Nat.ne_of_gt h]
  · -- main, the parser arm on an item
    cases input with
    | nil => simp
    | cons b rest =>
      cases b
      · simp [runActs]
      · by_cases h : occ < cap <;> simp [runActs, h]
  · -- main, the parser arm on EOF
    cases input with
    | nil => simp [runActs]
    | cons b rest => simp

/-- a schedule of the translated loop -/
def genRun (cap : Nat) (sels : List Sel) (s : Sys) : List Label → Option Sys
  | [] => some s
  | l :: ls =>
      match genStep cap sels s l with
      | some s' => genRun cap sels s' ls
      | none => none

theorem genRun_eq (cap : Nat) : ∀ (ls : List Label) (s : Sys), genRun cap TermLoop.loopSelects s ls = run cap true s ls
  | [], _ => rfl
  | l :: ls, s => by
    simp only [genRun, run, loop_is_generated]
    cases step cap true s l with
    | none => rfl
    | some s' => exact genRun_eq cap ls s'

/-- **The translated goroutine never blocks in postEvent**: for every input (any number of event-raising sequences) and every
    schedule of the loop as it is in the source, with the channel capacity extracted from the source. -/
theorem translated_loop_never_stalls (input : List Bool) (ls : List Label) (s : Sys)
    (h : genRun TermModes.eventCap TermLoop.loopSelects (init true input) ls = some s) : ¬ stuck s := by
  rw [genRun_eq] at h
  exact VaxisModel.Props.C05Events.events_never_stall TermModes.eventCap (by decide) input ls s h

/-- non-vacuity: three bells, the schedule "parser first": the drain delivers each event before the next item is read -/
example : (genRun TermModes.eventCap TermLoop.loopSelects (init true [true, true, true])
    [.drainDefault, .pickParser, .drainRecv, .drainDefault, .pickParser, .drainRecv, .drainDefault, .pickParser, .drainRecv,
     .drainDefault, .eof]).map (fun s => (s.delivered, s.occ, s.pc)) = some (3, 0, PC.done) := by decide

/-- and what the loop WITHOUT the first select (the code before 2f4ad1d) does on the same input: three items in a row block it -/
example : (genRun 2 (TermLoop.loopSelects.drop 1) (init false [true, true, true]) [.pickParser, .pickParser, .pickParser]).map
    (fun s => s.pc) = some PC.blocked := by decide

end VaxisModel.Props.C05Loop
