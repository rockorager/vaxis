/-
C05 — Go `int` (int64) versus ℤ: no arithmetic of the control functions can overflow.

`rangeBody b pm args e` (Model/EmuBodyRange.lean) follows the execution of the translated body `b`
(regenerated from the Go source on every run, and proved equal to the model function by
Props/C05Bodies.lean) and checks that EVERY `+` / `-` the Go code performs — in assignments,
conditions, loop bounds, index expressions, call arguments, and the loop counters up to their exit
values — yields a value within ±2^62. The theorems below prove that check for every state
satisfying the emulator invariant on a terminal of at most 65535×65535 and every parameter in
0..65535 — which is what csi() passes on since the clamp of fix F18 (`clampParam_ok`,
`ps_clamp_ok` in Props/C05.lean). So on all reachable states int64 arithmetic and ℤ arithmetic
coincide in these bodies: modelling `int` by `Int` is sound there (it was not before F18: Witness/F18).
Most of the theorems are instances of `range_of_mag` (Lemmas/EmuBodyMag.lean: inputs are 16-bit and a body performs a handful of
additions, so nothing comes near 2^62); the bodies without any `+`/`-` pass from every state by `rangeS_flat`.
-/
import VaxisModel.Lemmas.EmuBodyRange
import VaxisModel.Lemmas.EmuBodyRange2
import VaxisModel.Lemmas.EmuBodyRange3

namespace VaxisModel.Props.C05Overflow
open VaxisModel.Model.Emu VaxisModel.Model.EmuBody VaxisModel.Lemmas.Emu VaxisModel.Lemmas.EmuBody VaxisModel.Gen

theorem range_cuu {e : Emu} {rows cols : Nat} (h : EmuInv e rows cols) (d : Dim rows cols) {n : Int} (hn : POk n) :
    rangeBody TermBodies.body_cuu [] [n] e = true :=
  range_of_mag h d _ (by simp) (by simp) (by simpa using hn) (by decide)

theorem range_cud {e : Emu} {rows cols : Nat} (h : EmuInv e rows cols) (d : Dim rows cols) {n : Int} (hn : POk n) :
    rangeBody TermBodies.body_cud [] [n] e = true :=
  range_of_mag h d _ (by simp) (by simp) (by simpa using hn) (by decide)

theorem range_cuf {e : Emu} {rows cols : Nat} (h : EmuInv e rows cols) (d : Dim rows cols) {n : Int} (hn : POk n) :
    rangeBody TermBodies.body_cuf [] [n] e = true :=
  range_of_mag h d _ (by simp) (by simp) (by simpa using hn) (by decide)

theorem range_cub {e : Emu} {rows cols : Nat} (h : EmuInv e rows cols) (d : Dim rows cols) {n : Int} (hn : POk n) :
    rangeBody TermBodies.body_cub [] [n] e = true :=
  range_of_mag h d _ (by simp) (by simp) (by simpa using hn) (by decide)

theorem range_cnl {e : Emu} {rows cols : Nat} (h : EmuInv e rows cols) (d : Dim rows cols) {n : Int} (hn : POk n) :
    rangeBody TermBodies.body_cnl [] [n] e = true :=
  rangeS_flat _ (by decide) _

theorem range_cpl {e : Emu} {rows cols : Nat} (h : EmuInv e rows cols) (d : Dim rows cols) {n : Int} (hn : POk n) :
    rangeBody TermBodies.body_cpl [] [n] e = true :=
  rangeS_flat _ (by decide) _

theorem range_cha {e : Emu} {rows cols : Nat} (h : EmuInv e rows cols) (d : Dim rows cols) {n : Int} (hn : POk n) :
    rangeBody TermBodies.body_cha [] [n] e = true :=
  range_of_mag h d _ (by simp) (by simp) (by simpa using hn) (by decide)

theorem range_vpa {e : Emu} {rows cols : Nat} (h : EmuInv e rows cols) (d : Dim rows cols) {n : Int} (hn : POk n) :
    rangeBody TermBodies.body_vpa [] [n] e = true :=
  range_of_mag h d _ (by simp) (by simp) (by simpa using hn) (by decide)

theorem range_vpr {e : Emu} {rows cols : Nat} (h : EmuInv e rows cols) (d : Dim rows cols) {n : Int} (hn : POk n) :
    rangeBody TermBodies.body_vpr [] [n] e = true :=
  range_of_mag h d _ (by simp) (by simp) (by simpa using hn) (by decide)

theorem range_hpa {e : Emu} {rows cols : Nat} (h : EmuInv e rows cols) (d : Dim rows cols) {n : Int} (hn : POk n) :
    rangeBody TermBodies.body_hpa [] [n] e = true :=
  range_of_mag h d _ (by simp) (by simp) (by simpa using hn) (by decide)

theorem range_hpr {e : Emu} {rows cols : Nat} (h : EmuInv e rows cols) (d : Dim rows cols) {n : Int} (hn : POk n) :
    rangeBody TermBodies.body_hpr [] [n] e = true :=
  range_of_mag h d _ (by simp) (by simp) (by simpa using hn) (by decide)

theorem range_el {e : Emu} {rows cols : Nat} (h : EmuInv e rows cols) (d : Dim rows cols) {n : Int} (hn : POk n) :
    rangeBody TermBodies.body_el [] [n] e = true :=
  range_of_mag h d _ (by simp) (by simp) (by simpa using hn) (by decide)

theorem range_ech {e : Emu} {rows cols : Nat} (h : EmuInv e rows cols) (d : Dim rows cols) {n : Int} (hn : POk n) :
    rangeBody TermBodies.body_ech [] [n] e = true :=
  range_of_mag h d _ (by simp) (by simp) (by simpa using hn) (by decide)

theorem range_ed {e : Emu} {rows cols : Nat} (h : EmuInv e rows cols) (d : Dim rows cols) {n : Int} (hn : POk n) :
    rangeBody TermBodies.body_ed [] [n] e = true :=
  range_of_mag h d _ (by simp) (by simp) (by simpa using hn) (by decide)

theorem range_il {e : Emu} {rows cols : Nat} (h : EmuInv e rows cols) (d : Dim rows cols) {n : Int} (hn : POk n) :
    rangeBody TermBodies.body_il [] [n] e = true :=
  range_of_mag h d _ (by simp) (by simp) (by simpa using hn) (by decide)

theorem range_dl {e : Emu} {rows cols : Nat} (h : EmuInv e rows cols) (d : Dim rows cols) {n : Int} (hn : POk n) :
    rangeBody TermBodies.body_dl [] [n] e = true :=
  range_of_mag h d _ (by simp) (by simp) (by simpa using hn) (by decide)

theorem range_dch {e : Emu} {rows cols : Nat} (h : EmuInv e rows cols) (d : Dim rows cols) {n : Int} (hn : POk n) :
    rangeBody TermBodies.body_dch [] [n] e = true :=
  range_of_mag h d _ (by simp) (by simp) (by simpa using hn) (by decide)

theorem range_scrollUp {e : Emu} {rows cols : Nat} (h : EmuInv e rows cols) (d : Dim rows cols) {n : Int} (hn : POk n) :
    rangeBody TermBodies.body_scrollUp [] [n] e = true :=
  range_of_mag h d _ (by simp) (by simp) (by simpa using hn) (by decide)

theorem range_scrollDown {e : Emu} {rows cols : Nat} (h : EmuInv e rows cols) (d : Dim rows cols) {n : Int} (hn : POk n) :
    rangeBody TermBodies.body_scrollDown [] [n] e = true :=
  range_of_mag h d _ (by simp) (by simp) (by simpa using hn) (by decide)

theorem range_ich {e : Emu} {rows cols : Nat} (h : EmuInv e rows cols) (d : Dim rows cols) {n : Int} (hn : POk n) :
    rangeBody TermBodies.body_ich [] [n] e = true :=
  range_of_mag h d _ (by simp) (by simp) (by simpa using hn) (by decide)

theorem range_rep {e : Emu} {rows cols : Nat} (h : EmuInv e rows cols) (d : Dim rows cols) {n : Int} (hn : POk n) :
    rangeBody TermBodies.body_rep [] [n] e = true :=
  range_of_mag h d _ (by simp) (by simp) (by simpa using hn) (by decide)

/-- IND and RI call scrollUp / scrollDown, and the bound `stMag` does not follow calls: their checks are walked by hand. -/
theorem range_ind {e : Emu} {rows cols : Nat} (h : EmuInv e rows cols) (d : Dim rows cols) :
    rangeBody TermBodies.body_ind [] [] e = true := by
  obtain ⟨⟩ := good_bounds h d
  simp only [TermBodies.body_ind, TermBodies.stmt_ind]
  range_norm
  (try range_norm)
  (try range_norm)
  range_fin

theorem range_nel {e : Emu} {rows cols : Nat} (h : EmuInv e rows cols) (d : Dim rows cols) :
    rangeBody TermBodies.body_nel [] [] e = true :=
  rangeS_flat _ (by decide) _

theorem range_ri {e : Emu} {rows cols : Nat} (h : EmuInv e rows cols) (d : Dim rows cols) :
    rangeBody TermBodies.body_ri [] [] e = true := by
  obtain ⟨⟩ := good_bounds h d
  simp only [TermBodies.body_ri, TermBodies.stmt_ri]
  range_norm
  (try range_norm)
  (try range_norm)
  range_fin

theorem range_bs {e : Emu} {rows cols : Nat} (h : EmuInv e rows cols) (d : Dim rows cols) :
    rangeBody TermBodies.body_bs [] [] e = true :=
  range_of_mag h d _ (by simp) (by simp) (by simp) (by decide)

theorem range_ht {e : Emu} {rows cols : Nat} (h : EmuInv e rows cols) (d : Dim rows cols) :
    rangeBody TermBodies.body_ht [] [] e = true :=
  rangeS_flat _ (by decide) _

theorem range_lf {e : Emu} {rows cols : Nat} (h : EmuInv e rows cols) (d : Dim rows cols) :
    rangeBody TermBodies.body_lf [] [] e = true :=
  rangeS_flat _ (by decide) _

theorem range_vt {e : Emu} {rows cols : Nat} (h : EmuInv e rows cols) (d : Dim rows cols) :
    rangeBody TermBodies.body_vt [] [] e = true :=
  rangeS_flat _ (by decide) _

theorem range_ff {e : Emu} {rows cols : Nat} (h : EmuInv e rows cols) (d : Dim rows cols) :
    rangeBody TermBodies.body_ff [] [] e = true :=
  rangeS_flat _ (by decide) _

theorem range_cr {e : Emu} {rows cols : Nat} (h : EmuInv e rows cols) (d : Dim rows cols) :
    rangeBody TermBodies.body_cr [] [] e = true :=
  rangeS_flat _ (by decide) _

theorem range_cup_0 {e : Emu} {rows cols : Nat} (h : EmuInv e rows cols) (d : Dim rows cols) :
    rangeBody TermBodies.body_cup [] [] e = true :=
  range_of_mag h d _ (by simp) (by simp) (by simp) (by decide)

theorem range_cup_1 {e : Emu} {rows cols : Nat} (h : EmuInv e rows cols) (d : Dim rows cols) (a : Param) (ha : POk a.1) :
    rangeBody TermBodies.body_cup [a] [] e = true :=
  range_of_mag h d _ (by simpa using ha) (by simp) (by simp) (by decide)

theorem range_cup_2 {e : Emu} {rows cols : Nat} (h : EmuInv e rows cols) (d : Dim rows cols) (a b : Param) (ha : POk a.1) (hb : POk b.1) :
    rangeBody TermBodies.body_cup [a, b] [] e = true :=
  range_of_mag h d _ (by simp [ha, hb]) (by simp) (by simp) (by decide)

theorem range_decstbm_0 {e : Emu} {rows cols : Nat} (h : EmuInv e rows cols) (d : Dim rows cols) :
    rangeBody TermBodies.body_decstbm [] [] e = true :=
  range_of_mag h d _ (by simp) (by simp) (by simp) (by decide)

theorem range_decstbm_1 {e : Emu} {rows cols : Nat} (h : EmuInv e rows cols) (d : Dim rows cols) (a : Param) (ha : POk a.1) :
    rangeBody TermBodies.body_decstbm [a] [] e = true :=
  range_of_mag h d _ (by simpa using ha) (by simp) (by simp) (by decide)

theorem range_decstbm_2 {e : Emu} {rows cols : Nat} (h : EmuInv e rows cols) (d : Dim rows cols) (a b : Param) (ha : POk a.1) (hb : POk b.1) :
    rangeBody TermBodies.body_decstbm [a, b] [] e = true :=
  range_of_mag h d _ (by simp [ha, hb]) (by simp) (by simp) (by decide)

theorem range_csi_su {e : Emu} {rows cols : Nat} (h : EmuInv e rows cols) (d : Dim rows cols) (pm : List Param) :
    rangeBody TermBodies.body_csi_su pm [] e = true :=
  rangeS_flat _ (by decide) _

theorem range_csi_sd {e : Emu} {rows cols : Nat} (h : EmuInv e rows cols) (d : Dim rows cols) (pm : List Param) :
    rangeBody TermBodies.body_csi_sd pm [] e = true :=
  rangeS_flat _ (by decide) _

/-- DSR (`CSI n`): the `vt.cursor.row+1` / `vt.cursor.col+1` of the cursor-position report (the int arguments of a formatted
    reply are carried by `Stmt.reply` and checked by `rangeS` through `exsR`) — every good state, every parameter list -/
theorem range_csi_arm_6e {e : Emu} {rows cols : Nat} (h : EmuInv e rows cols) (d : Dim rows cols) (pm : List Param) :
    rangeBody TermBodies.body_csi_arm_6e pm [] e = true := by
  obtain ⟨⟩ := good_bounds h d
  simp only [TermBodies.body_csi_arm_6e, TermBodies.stmt_csi_arm_6e, rangeBody, rangeS, exsR, condR, exR, evalEx, evalCond, evalCmp,
    initFrame, Frame.get, inR, lim, Bool.and_true, Bool.true_and, andThen_norm, evalS]
  -- whatever the order of the arms of the switch
  repeat' split
  all_goals first
    | trivial
    | exact (Bool.and_eq_true _ _).mpr ⟨decide_eq_true (by omega), decide_eq_true (by omega)⟩
    | exact ite_self _

/-- decrqm(): no arithmetic at all (the arguments of its `Fprintf` are the locals `pd`, `ps`), any state, any mode number -/
theorem range_decrqm (e : Emu) (pd : Int) : rangeBody TermBodies.body_decrqm [] [pd] e = true :=
  rangeS_flat _ (by decide) _

/-- the check sees the report's arithmetic: a cursor row of 2^62 is out of range -/
example : rangeBody TermBodies.body_csi_arm_6e [(6, [])] [] { Emu.init with cur := { row := 4611686018427387904 } } = false := by decide

/-- Non-vacuity of the check itself: with an unclamped parameter the same check FAILS (2^63−1
    lines down from row 0: `vt.cursor.row += row(ps)` leaves the range). -/
example : rangeBody TermBodies.body_cud [] [9223372036854775807] { Emu.init with bottom := 23 } = false := by
  decide

/-- CHT (and HT through it): the counter of the walk over the tab stops never exceeds `ps` — for EVERY state and tab-stop list -/
theorem range_cht (e : Emu) {n : Int} (hn : POk n) :
    rangeBody TermBodies.body_cht [] [n] e = true := by
  refine tab_prologue [] _ e hn (fun s hs => ?_)
  rw [rangeS_seq, Bool.and_eq_true]
  exact ⟨chtLoop_range [] _ s hs, andThen_all _ _ (chtTail_range [])⟩

/-- CBT: likewise, from the last tab stop down -/
theorem range_cbt (e : Emu) {n : Int} (hn : POk n) :
    rangeBody TermBodies.body_cbt [] [n] e = true :=
  tab_prologue [] _ e hn (fun s hs => cbtLoop_range [] _ s hs)

/-- **print(): no `+`/`-` of the Go code leaves ±2^62** — on every good state (insert mode on or off, autowrap on or off, pending
    wrap or not), every glyph width up to 65535 (uniseg gives 0..2): the wrap test `col + w - 1 > right`, `width - 1`, the
    insert-mode shift loop (`col + w`, `i - w`, its counter down to `col + w - 1`), `height - 1`, the early return for zero-width
    glyphs, the store, the trailing cells `col + i` of a wide glyph, the advance `col + w` and its clamp `right + 1` — on the
    state before AND after the wrap's `vt.nel()` call and on the grid the shift loop leaves. -/
theorem range_print {e : Emu} {rows cols : Nat} (h : EmuInv e rows cols) (d : Dim rows cols) (w : Nat)
    (hw : (w : Int) ≤ 65535) :
    rangeBody TermBodies.body_print [] [(w : Int)] e = true :=
  range_print_body h d w hw

/-- non-vacuity: a wide glyph on a fresh 80-column line, the same in insert mode, and the check fails for a width near 2^62 -/
example : rangeBody TermBodies.body_print [] [2] { Emu.init with right := 79, bottom := 0, primary := [List.replicate 80 {}], alt := [List.replicate 80 {}] } = true := by decide
example : rangeBody TermBodies.body_print [] [2] { Emu.init with right := 7, bottom := 0, mode := { irm := true, decawm := true }, primary := [List.replicate 8 {}], alt := [List.replicate 8 {}] } = true := by decide
example : rangeBody TermBodies.body_print [] [4611686018427387904] { Emu.init with right := 79, bottom := 0, cur := { col := 5 }, primary := [List.replicate 80 {}], alt := [List.replicate 80 {}] } = false := by decide

/-- **resize(): no `+`/`-` of the Go code leaves ±2^62** — `row(h) - 1`, `column(w) - 1` (margins, the clamp of both saved cursors),
    the counters of the two reflow loops (bounded by the size of the OLD screen), and every `vt.print` call of the reflow (checked by
    the chain of `range_print` in the state the call is made in: the invariant at the NEW size holds there by `print_safe` /
    `nel_safe`) — for every good old state (≤ 65535², stored cell widths ≤ 65535) and every new size 1..65535. -/
theorem range_resize {e : Emu} {rows cols : Nat} (h : EmuInv e rows cols) (d : Dim rows cols) (w hh : Int)
    (hw1 : 1 ≤ w) (hw2 : w ≤ 65535) (hh1 : 1 ≤ hh) (hh2 : hh ≤ 65535)
    (hcw : ∀ r ∈ e.primary, ∀ c ∈ r, (c.w : Int) ≤ 65535) :
    rangeBodyR TermBodies.body_resize [] [w, hh] e = true := by
  have dN := Dim.ofInt hw1 hw2 hh1 hh2
  have hinvN := resizeInit_inv (resizePre_of_inv h) hw1 hh1
  simp only [rangeBodyR, TermBodies.body_resize, stmt_resize_shape, resizeWith]
  simp only [rangeR, rangeS, exR, evalS, evalEx, exOk, Frame.get, Frame.set, initFrame, andThen_norm, ok_bind,
    List.getD_cons_zero, List.getD_cons_succ, List.getD_nil, Bool.true_and, Bool.and_true, if_true]
  have hneg : ¬ hh < 0 := by omega
  have hwneg : ¬ w < 0 := by omega
  have hne : (List.replicate hh.toNat ([] : Row)).isEmpty = false := by
    have : hh.toNat = (hh.toNat - 1) + 1 := by omega
    rw [this, List.replicate_succ]; rfl
  simp only [hneg, hwneg, if_false, andThen_norm, hne, Bool.false_eq_true, List.length_replicate, Nat.lt_irrefl,
    List.getD_cons_zero, List.getD_cons_succ, Nat.reduceEqDiff]
  have hrect : Rect e.primary := by
    intro r hr
    rw [h.prim.rowLen r hr]
    unfold width0
    split
    · rename_i hnil; rw [hnil] at hr; cases hr
    · rename_i r0 _ hcons
      exact (h.prim.rowLen r0 (by rw [hcons]; exact List.mem_cons_self)).symm
  have hlenO : (e.primary.length : Int) ≤ 65535 := by rw [h.prim.len]; have := d.rmax; omega
  have hw0 : (width0 e.primary : Int) ≤ 65535 := by
    unfold width0
    split
    · decide
    · rename_i r0 _ hcons
      rw [h.prim.rowLen r0 (by rw [hcons]; exact List.mem_cons_self)]; have := d.cmax; omega
  have key : ∀ F : Frame, EmuInv F.e hh.toNat w.toNat → F.old = e.primary →
      (rangeR [] nest F && andThen (evalS [] nest F) fun _ => true) = true := by
    intro F hF hold
    rw [Bool.and_eq_true]
    exact ⟨nest_range dN F (by rw [hold]; exact hrect) (by rw [hold]; exact hcw) (by rw [hold]; exact hlenO) (by rw [hold]; exact hw0) hF,
      andThen_all _ _ (fun _ => rfl)⟩
  have hi1 : inR (hh - 1) = true := by unfold inR lim; apply decide_eq_true; constructor <;> omega
  have hi2 : inR (w - 1) = true := by unfold inR lim; apply decide_eq_true; constructor <;> omega
  rw [hi1, hi2]
  simp only [Bool.true_and]
  apply key
  · have := hinvN
    simp only [resizeInit, blankGrid, clampSaved] at this
    simpa [List.map_replicate, List.take_replicate, List.drop_replicate, Nat.min_self, Nat.sub_self, List.replicate_zero,
      List.append_nil] using this
  · rfl

/-- non-vacuity: StartWithSize's first resize (New() has no rows), a 2×1 screen holding a wide glyph re-flowed to 1 column,
    and the check does look at `h - 1`: it fails for a height of −2^62 in the clamp -/
example : rangeBodyR TermBodies.body_resize [] [80, 24] Emu.init = true := by decide
example : rangeBodyR TermBodies.body_resize [] [1, 2]
    { Emu.init with right := 1, bottom := 0, primary := [[{ g := [228, 184, 150], w := 2 }, {}]], alt := [[{}, {}]] } = true := by decide
example : rangeR [] (.clampSaved (.lit (-4611686018427387904)) (.lit 1)) (initFrame Emu.init []) = false := by decide

/-- non-vacuity: 44 tab stops, `CSI 3 I` from column 0; and the check does look at the counter: with `n` near 2^62 it fails -/
example : rangeBody TermBodies.body_cht [] [3] { Emu.init with right := 79, primary := [List.replicate 80 {}], alt := [List.replicate 80 {}] } = true := by decide
example : rangeS [] chtLoopBody { e := Emu.init, vars := fun k => if k = 1 then 4611686018427387904 else 4611686018427387905 } = false := by decide

end VaxisModel.Props.C05Overflow
