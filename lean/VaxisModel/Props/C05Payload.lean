/-
C05 — string payloads (OSC, DCS, APC) and the parameters of the model.

The emulator hands payloads to code outside the model: the sixel decoder (go-sixel), base64, the
host's clipboard. What the safety theorem needs from them is stated as explicit hypotheses
(`DecoderTame` — checked at run time on the real library by the C05 stream, counter
`dcs:DECODER-CRASH-WITHIN-LIMIT`), the payload scanners that ARE vaxis code (`cutString`, `sixelTooLarge`)
are inside the model, and every branch of osc() / the DCS arm / the APC arm is total.
The full statement without the guard is false: Witness/F105i.lean.
-/
import VaxisModel.Model.EmuDcs
import VaxisModel.Lemmas.EmuSafe2
import VaxisModel.Props.C05

namespace VaxisModel.Props.C05Payload
open VaxisModel.Model.Emu VaxisModel.Lemmas.Emu VaxisModel.Gen.TermModes

/-- What C05 needs from the external sixel decoder: it neither panics, nor allocates or loops
    without bound, on a payload that `sixelTooLarge` lets through. -/
def DecoderTame (dec : List Nat → DecOutcome) : Prop :=
  ∀ data, sixelTooLarge data = false → dec data ≠ .crash

/-- The regenerated facts about the DCS arm of update(). -/
theorem dcs_facts :
    dcsFinals = [113] ∧
    dcsGuards = ["len(seq.Intermediate) > 0", "len(seq.Parameters) > 0", "sixelTooLarge(seq.Data)"] ∧
    dcsGuardsSize = true ∧ maxSixelSize = 4096 := by decide

/-- The source of sixelTooLarge is the one `sixelScan` transcribes. -/
theorem sixel_scanner_source :
    sixelTooLargeSrc = "{ var ( n int x int lines int ) for _, c := range data { switch { case c >= '0' && c <= '9': n = n*10 + int(c-'0') if n > maxSixelSize { return true } continue case c == ' ' || c == '!': continue case c == '$': x = 0 case c == '-': x = 0 lines += 1 if lines*6 > maxSixelSize { return true } case c >= '?' && c <= '~': if n == 0 { n = 1 } x += n if x > maxSixelSize { return true } } n = 0 } return false }" := rfl

/-- DCS: for every final, every number of intermediates / parameters, every data string, and any
    tame decoder, the arm returns normally and the emulator state is untouched. -/
theorem dcs_safe (dec : List Nat → DecOutcome) (tame : DecoderTame dec) (e : Emu) (d : DcsInfo)
    (hd : d.dec = dec d.data) : dcs e d = .ok e := by
  unfold dcs dcsF
  have hg : dcsGuardsSize = true := by decide
  rw [hg]
  by_cases h1 : d.final ≠ 113
  · simp [h1]
  · by_cases h2 : d.nInter > 0
    · simp [h1, h2]
    · by_cases h3 : d.nParams > 0
      · simp [h1, h2, h3]
      · cases h4 : sixelTooLarge d.data
        · have := tame d.data h4
          rw [← hd] at this
          simp only [h1, h2, h3, Bool.true_and, if_false]
          cases h5 : d.dec <;> simp_all
        · simp [h1, h2, h3]

/-- … and so the invariant is kept. -/
theorem dcs_keeps_inv (dec : List Nat → DecOutcome) (tame : DecoderTame dec) {e : Emu} {rows cols : Nat}
    (h : EmuInv e rows cols) (d : DcsInfo) (hd : d.dec = dec d.data) :
    ∃ e', dcs e d = .ok e' ∧ EmuInv e' rows cols := ⟨e, dcs_safe dec tame e d hd, h⟩

/-- Non-vacuity: a decoder that crashes exactly on oversized raster attributes is tame. -/
example : DecoderTame (fun data => if sixelTooLarge data then .crash else .image) := by
  intro data h; simp [h]

/-- The full statement (no hypothesis on the decoder) — false, see Witness/F105i. -/
def dcs_safe_full : Prop := ∀ (e : Emu) (d : DcsInfo), ∃ e', dcs e d = .ok e'

/-- A payload whose raster attributes / repeat counts contain a number above the limit is refused:
    any decimal digit run with value > 4096 (scanned from a fresh number). -/
theorem sixelScan_refuses_big_number (rest : List Nat) (n x lines : Nat) (c : Nat)
    (hc : 48 ≤ c ∧ c ≤ 57) (hbig : n * 10 + (c - 48) > maxSixelSize) :
    sixelScan (c :: rest) n x lines = true := by
  simp [sixelScan, hc, hbig]

/-- A sixel that would make the current line wider than the limit is refused. -/
theorem sixelScan_refuses_wide_line (rest : List Nat) (n x lines : Nat) (c : Nat)
    (hc : 63 ≤ c ∧ c ≤ 126) (hw : x + (if n = 0 then 1 else n) > maxSixelSize) :
    sixelScan (c :: rest) n x lines = true := by
  have h1 : ¬ (48 ≤ c ∧ c ≤ 57) := by omega
  have h2 : ¬ (c = 32 ∨ c = 33) := by omega
  have h3 : ¬ c = 36 := by omega
  have h4 : ¬ c = 45 := by omega
  simp [sixelScan, h1, h2, h3, h4, hc, hw]

/-- One more sixel line beyond the limit is refused. -/
theorem sixelScan_refuses_many_lines (rest : List Nat) (n x lines : Nat)
    (hl : (lines + 1) * 6 > maxSixelSize) : sixelScan (45 :: rest) n x lines = true := by
  simp [sixelScan, hl]

/-- osc() is total: any payload, any base64 verdict, any state (even without the invariant). -/
theorem osc_total (e : Emu) (payload : List Nat) (info : OscInfo) :
    ∃ r, osc Fixes.current e payload info = .ok r :=
  let ⟨_, _, h, _⟩ := osc_out e payload info
  ⟨_, h⟩

/-- … and it touches nothing but the pen's hyperlink. -/
theorem osc_state (e : Emu) (payload : List Nat) (info : OscInfo) (r : Emu × Nat)
    (h : osc Fixes.current e payload info = .ok r) :
    r.1 = e ∨ ∃ url params, r.1 = { e with cur := { e.cur with st := { e.cur.st with link := url, linkParams := params } } } := by
  obtain ⟨e', k, hr, _, he⟩ := osc_out e payload info
  rw [hr] at h
  cases h
  exact he

/-- Precisely what `emu_safe_step` needs from the inputs the model does not compute itself:
    * grapheme segmentation / width (uniseg): NOTHING beyond `Width ≥ 0` (`w : Nat`) — any bytes, any
      width incl. 0 and wider than the screen;
    * CSI parameters (parser): every parameter has a first value (structural in `Param`) — any values;
    * base64 (OSC 52): NOTHING — either verdict;
    * the sixel decoder: `DecoderTame`.
    The harness checks the three hypotheses on the real parser / decoder at run time
    (`hyp-ok:*` / `hyp-VIOLATED:*` / `dcs:DECODER-CRASH-WITHIN-LIMIT` counters, note
    `hypothesis_violations`). -/
theorem parameters_needed (dec : List Nat → DecOutcome) (tame : DecoderTame dec)
    {e : Emu} {rows cols : Nat} (h : EmuInv e rows cols) (d : Dim rows cols) :
    (∀ (g : G) (w : Nat), Safe rows cols (print Fixes.current e g w)) ∧
    (∀ (label : List Nat) (pm : List Param), Safe rows cols (csi Fixes.current e label pm)) ∧
    (∀ (payload : List Nat) (info : OscInfo), ∃ r, osc Fixes.current e payload info = .ok r ∧ EmuInv r.1 rows cols) ∧
    (∀ di : DcsInfo, di.dec = dec di.data → ∃ e', dcs e di = .ok e' ∧ EmuInv e' rows cols) :=
  ⟨fun g w => print_safe h d g w, fun l pm => VaxisModel.Props.C05.csi_safe h d l pm,
   fun p i => osc_safe h p i, fun di hd => dcs_keeps_inv dec tame h di hd⟩

/-- APC posts one event and leaves the state alone. -/
theorem apc_step (e : Emu) : emuStep e .apc = .ok (e, 1) := rfl

end VaxisModel.Props.C05Payload
