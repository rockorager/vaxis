/-
C05/C06 — the reply TEXT of the translated reply arms.

`Stmt.reply` carries the literals, formats and int arguments of the Go statements that build and send a reply
(regenerated from widgets/term on every run into Gen/TermBodies.lean); `Model.EmuReply.replyOf` is the byte string the
translated body writes to `vt.pty` (`replyS` = `evalS` plus the output: `reply_is_evalS`).  The theorems below say, for EVERY
state and EVERY parameter list, that these bytes are
* the literals C12's extractor reads from the same source (`Gen/TermReplies.lean`: `da1Parts`, `da2`, `dsrOk`, `cprFormat`,
  `decrpmFormat`), and
* what C12's hand-written reply model (`Model/C12Replies.lean` `replies`, rendered by `seqBytes`) answers — so the replies
  C12's start-up theorems are about ARE the replies of the translated code (`replies_are_translated`).
A changed reply in the source (another DA1 attribute, a lost `decrqm()` arm, swapped CPR arguments) changes the generated
body and breaks a theorem here.
-/
import VaxisModel.Lemmas.EmuReply
import VaxisModel.Lemmas.EmuBodyTop
import VaxisModel.Lemmas.EmuBodyModes
import VaxisModel.Model.C12Replies
import VaxisModel.Gen.TermReplies

namespace VaxisModel.Props.C05Replies
open VaxisModel.Model.Emu VaxisModel.Model.EmuBody VaxisModel.Model.EmuReply VaxisModel.Lemmas.EmuBody VaxisModel.Lemmas.EmuReply
open VaxisModel.Gen VaxisModel.Gen.TermModes
open VaxisModel.Model.C12Replies (replies seqBytes decrqmValue)

/-- `replyS` is not a second semantics: when it answers, `evalS` returns exactly its frame (signal `norm`). -/
theorem reply_is_evalS (pm : List Param) (st : Stmt) (s : Frame) (o : Out) (s' : Frame) (o' : Out)
    (h : replyS pm st s o = some (s', o')) : evalS pm st s = .ok (s', .norm) :=
  replyS_sound pm st s o s' o' h

/-- DA1 (`CSI c`): the bytes the translated arm writes are the literals of the source, in order. -/
theorem reply_da1 (e : Emu) (pm : List Param) :
    replyOf TermBodies.body_csi_arm_63 pm [] e = some TermReplies.da1Parts.flatten := rfl

/-- DA2 (`CSI > c`) -/
theorem reply_da2 (e : Emu) (pm : List Param) :
    replyOf TermBodies.body_csi_arm_3e63 pm [] e = some TermReplies.da2 := rfl

/-- DSR (`CSI n`): `5` → the "ok" literal; `6` → `Sprintf(cprFormat, vt.cursor.row+1, vt.cursor.col+1)`; anything else →
    nothing is written. For EVERY state and parameter list. -/
theorem reply_dsr (e : Emu) (pm : List Param) :
    replyOf TermBodies.body_csi_arm_6e pm [] e =
      some (if ps pm = 5 then TermReplies.dsrOk
            else if ps pm = 6 then sprintfD TermReplies.cprFormat [e.cur.row + 1, e.cur.col + 1] else []) := by
  simp only [replyOf, TermBodies.body_csi_arm_6e, TermBodies.stmt_csi_arm_6e, replyS, evalCond, evalCmp, evalEx, initFrame,
    Frame.get, stepReply, List.map_cons, List.map_nil, List.nil_append, TermReplies.dsrOk, TermReplies.cprFormat]
  by_cases h5 : ps pm = 5
  · simp [h5]
  · by_cases h6 : ps pm = 6
    · simp [h6]
    · simp [h5, h6]

/-- decrqm() (`CSI ? Pd $ p`): for EVERY mode number and state the translated body writes `Fprintf(decrpmFormat, pd, ps)` with
    `ps` = C12's `decrqmValue` (1 / 2 from the flag for the modes of the regenerated `decrqmTable`, 0 for 5 and for unknown
    modes, 3 for 2027). -/
theorem reply_decrqm (e : Emu) (pd : Int) :
    replyOf TermBodies.body_decrqm [] [pd] e = some (sprintfD TermReplies.decrpmFormat [pd, decrqmValue e pd]) :=
  reply_decrqm_eq e pd

/-- mode 2027 (grapheme clustering) is answered "permanently set": `ESC [ ? 2027 ; 3 $ y` — what Vaxis's start-up probe reads
    as `unicodeCore` (the seeded change C12-m7, decrqm() without its 2027 arm, breaks this). -/
theorem reply_decrqm_2027 (e : Emu) :
    replyOf TermBodies.body_decrqm [] [2027] e = some [27, 91, 63, 50, 48, 50, 55, 59, 51, 36, 121] := by
  rw [reply_decrqm]; rfl

/-- the literal arms C12's extractor lists (`decrqmLiteral`) are answered with their literal (none = the initial 0) -/
theorem reply_decrqm_literals (e : Emu) : ∀ p ∈ TermReplies.decrqmLiteral,
    replyOf TermBodies.body_decrqm [] [p.1] e = some (sprintfD TermReplies.decrpmFormat [p.1, p.2.getD 0]) := by
  intro p hp
  simp only [TermReplies.decrqmLiteral, List.mem_cons, List.not_mem_nil, or_false] at hp
  rcases hp with rfl | rfl <;> rw [reply_decrqm] <;> rfl

/-- **The replies C12 reasons about are the replies of the translated code.** For every state, every parameter list (clamped by
    the translated statements in front of csi()'s switch, `body_csi_pre`) and every host answer: what the translated arm of DA1 /
    DA2 / DSR / DECRQM writes to the child is C12's reply model (`Model.C12Replies.replies`, parsed form) rendered to bytes. -/
theorem replies_are_translated (hostBg : Option (Nat × Nat × Nat)) (e : Emu) (pm : List Param) :
    replyOf TermBodies.body_csi_arm_63 (clampParams pm) [] e = some ((replies hostBg e (.csi [99] pm)).flatMap seqBytes) ∧
    replyOf TermBodies.body_csi_arm_3e63 (clampParams pm) [] e = some ((replies hostBg e (.csi [62, 99] pm)).flatMap seqBytes) ∧
    replyOf TermBodies.body_csi_arm_6e (clampParams pm) [] e = some ((replies hostBg e (.csi [110] pm)).flatMap seqBytes) ∧
    replyOf TermBodies.body_decrqm [] [ps (clampParams pm)] e =
      some ((replies hostBg e (.csi [63, 36, 112] pm)).flatMap seqBytes) := by
  refine ⟨rfl, rfl, ?_, ?_⟩
  · rw [reply_dsr]
    simp only [replies]
    by_cases h5 : ps (clampParams pm) = 5
    · simp only [h5, if_true]; rfl
    · by_cases h6 : ps (clampParams pm) = 6
      · simp [h6, cpr_wire]
      · simp [h5, h6]
  · rw [reply_decrqm, decrpm_wire]
    simp [replies]

/-- The reply arms leave the emulator state alone AND write these bytes: the two facts about one evaluation (`replyOf` answers ⇒
    `evalBody` returns the state of `replyS`'s frame, which for these bodies is the state itself). -/
theorem reply_arms_state_untouched (e : Emu) (pm : List Param) (pd : Int) :
    evalBody TermBodies.body_csi_arm_63 pm [] e = .ok e ∧ evalBody TermBodies.body_csi_arm_3e63 pm [] e = .ok e ∧
    evalBody TermBodies.body_csi_arm_6e pm [] e = .ok e ∧ evalBody TermBodies.body_decrqm [] [pd] e = .ok e :=
  ⟨localOnly_body _ (by decide) pm [] e, localOnly_body _ (by decide) pm [] e, localOnly_body _ (by decide) pm [] e, body_decrqm_eq e pd⟩

/-- osc() is outside the reply fragment (its OSC 11 answer formats the HOST's colour with `%02x`: `Reply.opaque`, modelled by
    C12 only): `replyOf` says so instead of inventing a text. -/
theorem reply_osc_not_carried (e : Emu) : replyOf TermBodies.body_osc [] [] e = none := rfl

/-- **Observation (DSR 6 in the pending-wrap state)**: a 3×1 emulator after `abc` has the deferred-wrap flag set and its column
    is 3 = width; `CSI 6 n` answers `ESC [ 1 ; 4 R` — column width + 1, where a VT / xterm reports the last column (3). C06 leaves
    the deferred-wrap state unconstrained except for printing, CR and absolute positioning, and C12's start-up probe asks at the
    home position after `CSI H`, where the flag is clear; recorded, not judged (notes/C05.md). -/
example :
    (match (Emu.new Fixes.current 3 1).bind (fun e => runOps e [.print [97] 1, .print [98] 1, .print [99] 1]) with
     | .ok e => (e.lastCol, e.cur.col, replyOf TermBodies.body_csi_arm_6e [(6, [])] [] e)
     | .error _ => (false, 0, none)) = (true, 3, some [27, 91, 49, 59, 52, 82]) := by decide

/-- after `CSI H` (what sendQueries() writes in front of its cursor-position request) the report is `ESC [ 1 ; 1 R` -/
example :
    (match (Emu.new Fixes.current 3 1).bind (fun e => runOps e [.print [97] 1, .print [98] 1, .print [99] 1, .csi [72] []]) with
     | .ok e => (e.lastCol, replyOf TermBodies.body_csi_arm_6e [(6, [])] [] e)
     | .error _ => (true, none)) = (false, some [27, 91, 49, 59, 49, 82]) := by decide

end VaxisModel.Props.C05Replies
