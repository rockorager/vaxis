/-
C06 — the embedded terminal shows what a DEC VT / xterm would show (core vocabulary).

The emulator model (Model/Emu.lean, validated against the real code after every operation)
REFINES the reference terminal `Spec.Term` (written from DESIGN Appendix A): with the simulation
relation `Sim2 t e rows cols` (Lemmas/EmuRefine.lean, EmuRefine2.lean: the reference state `t`
accepts what the emulator state `e` shows — size, screen selector, cursor with the emulator's
column = width read as the pending-wrap flag, pen, margins, every cell of the active grid with
erased cells = blanks of the stored background; saved cursors correspond; `e` satisfies the C05
invariant and is in the modes the vocabulary cannot leave),
for EVERY pair of related states, on every screen 1×1 … 65535², every operation of the vocabulary
(`tokOf op = some tok`: print narrow/wide, CR, LF/VT/FF, IND, NEL, RI, CUP/HVP, CHA/HPA, VPA, CUU, CUD,
CUF, CUB, CNL, CPL, EL, ED, ECH, ICH, DCH, IL, DL, SU, SD, DECSTBM, DECSC, DECRC, ?1049 h/l) with EVERY
parameter value (omitted, 0, 1, …, beyond the screen, beyond 65535), the emulator step succeeds and its
result is related to one of the states the reference accepts — unless the reference leaves the result
unconstrained (pending wrap + anything but print/CR/absolute positioning …, as the property says);
lifted to all histories over the vocabulary, from a freshly started terminal of any size; the same with
SGR included (`WfSgr`: any simple codes, `4:k` k ≤ 5, complete colon and legacy extended-colour forms,
values ≤ 255, and the truncated forms on which both sides stop) and over the extended vocabulary `tokOfX`.

Restrictions: glyphs with an empty grapheme string (the parser never emits them); a colon sub-parameter in a
parameter that a non-SGR function reads (terminal specific, `tokOfJ`); SGR 6, 21, values > 255 and the malformed
SGR forms D1–D4 listed in notes/C06.md (terminal specific).
-/
import VaxisModel.Lemmas.EmuRefineStep
import VaxisModel.Lemmas.EmuRefineAll
import VaxisModel.Lemmas.EmuRefineExt
import VaxisModel.Props.C05

namespace VaxisModel.Props.C06
open VaxisModel.Model.Emu VaxisModel.Model.EmuAbs VaxisModel.Lemmas.Emu VaxisModel.Lemmas.EmuRefine VaxisModel.Spec

theorem step_safe : StepSafe :=
  fun _ _ _ op h d hop => VaxisModel.Props.C05.emu_safe h d op hop

/-- One operation of the vocabulary, any parameter, any related states. -/
theorem emu_refines_term {t : Term.T} {e : Emu} {rows cols : Nat} (op : EOp) (tok : Term.Tok)
    (h : tokOf op = some tok) (hsgr : ∀ pm, tok ≠ .sgr pm) (hpr : ∀ g w, op = .print g w → g ≠ [])
    (s2 : Sim2 t e rows cols) :
    ∃ r, emuStep e op = .ok r ∧ Refines2 (Term.step t tok) r.1 rows cols :=
  emu_refines_step op tok h hsgr hpr s2

/-- All histories over the vocabulary: the emulator runs to completion and, following the reference
    through its accept-sets, either some step was left unconstrained by the reference or the final
    states are related. -/
theorem emu_refines_histories {rows cols : Nat} {ops : List EOp} {toks : List Term.Tok}
    (hv : VocabHist ops toks) {t : Term.T} {e : Emu} (s2 : Sim2 t e rows cols) :
    ∃ e', runOps e ops = .ok e' ∧ SpecAllows t toks e' rows cols :=
  emu_refines_history step_safe hv s2

/-- The same without appeal to C05 and step by step: every step up to and including the first one
    the reference leaves unconstrained is panic-free and accepted. -/
theorem emu_refines_prefixes {rows cols : Nat} {ops : List EOp} {toks : List Term.Tok}
    (hv : VocabHist ops toks) {t : Term.T} {e : Emu} (s2 : Sim2 t e rows cols) :
    HistOk rows cols t e ops toks :=
  emu_refines_prefix hv s2

/-- A freshly started terminal (New() + resize) of any admissible size is related to the
    reference's power-on state. -/
theorem fresh_related (w h : Int) (hw1 : 1 ≤ w) (hw2 : w ≤ 65535) (hh1 : 1 ≤ h) (hh2 : h ≤ 65535)
    {e0 : Emu} (he : Emu.new Fixes.current w h = .ok e0) :
    Sim2 (Term.T.init h.toNat w.toNat) e0 h.toNat w.toNat :=
  sim2_init w h hw1 hw2 hh1 hh2 he

/-- From start-up. -/
theorem emu_refines_from_start (w h : Int) (hw1 : 1 ≤ w) (hw2 : w ≤ 65535) (hh1 : 1 ≤ h) (hh2 : h ≤ 65535)
    {ops : List EOp} {toks : List Term.Tok} (hv : VocabHist ops toks) :
    ∃ e0 e', Emu.new Fixes.current w h = .ok e0 ∧ runOps e0 ops = .ok e' ∧
      SpecAllows (Term.T.init h.toNat w.toNat) toks e' h.toNat w.toNat :=
  emu_refines_session step_safe w h hw1 hw2 hh1 hh2 hv

/-- What `Sim2` says about the display, spelled out: the reference accepts the abstraction of the
    emulator state. -/
theorem sim_accepts {t : Term.T} {e : Emu} {rows cols : Nat} (s2 : Sim2 t e rows cols) :
    t.rows = rows ∧ t.cols = cols ∧ t.onAlt = e.altActive ∧ (t.row : Int) = e.cur.row ∧
    t.pw = decide (e.cur.col ≥ cols) ∧ t.pen = absStyle e.cur.st ∧
    (t.top : Int) = e.top ∧ (t.bottom : Int) = e.bottom ∧
    Term.gridAccepts t.grid (e.active.map absRow) = true :=
  ⟨s2.sim.trows, s2.sim.tcols, s2.sim.onAlt, s2.sim.row, s2.sim.pw, s2.sim.pen, s2.sim.top, s2.sim.bottom,
    s2.sim.grid⟩

/-- The emulator's SGR interpretation abstracts to the reference's, on every well-formed sequence of
    the vocabulary (empty list = reset included). -/
theorem sgr_refines_spec {pm : List Param} {ps : List (List Nat)} (e : Emu)
    (hp : sgrParams pm = some ps) (hw : WfSgr ps = true) :
    ∃ s', Model.Emu.sgr e (clampParams pm) = .ok { e with cur := { e.cur with st := s' } } ∧
      absStyle s' = Spec.sgr (absStyle e.cur.st) ps :=
  let ⟨s', h1, h2, _⟩ := sgr_pen e hp hw
  ⟨s', h1, h2⟩

/-- One operation of the WHOLE vocabulary (SGR included), any parameter, any related states. -/
theorem emu_refines_term_all {t : Term.T} {e : Emu} {rows cols : Nat} (op : EOp) (tok : Term.Tok)
    (hv : VocabOpAll op tok) (s2 : Sim2 t e rows cols) :
    ∃ r, emuStep e op = .ok r ∧ Refines2 (Term.step t tok) r.1 rows cols :=
  emu_refines_step_all op tok hv s2

/-- All histories over the whole vocabulary. -/
theorem emu_refines_histories_all {rows cols : Nat} {ops : List EOp} {toks : List Term.Tok}
    (hv : VocabHistAll ops toks) {t : Term.T} {e : Emu} (s2 : Sim2 t e rows cols) :
    ∃ e', runOps e ops = .ok e' ∧ SpecAllows t toks e' rows cols :=
  emu_refines_history_all step_safe hv s2

/-- From start-up, the whole vocabulary. -/
theorem emu_refines_from_start_all (w h : Int) (hw1 : 1 ≤ w) (hw2 : w ≤ 65535) (hh1 : 1 ≤ h) (hh2 : h ≤ 65535)
    {ops : List EOp} {toks : List Term.Tok} (hv : VocabHistAll ops toks) :
    ∃ e0 e', Emu.new Fixes.current w h = .ok e0 ∧ runOps e0 ops = .ok e' ∧
      SpecAllows (Term.T.init h.toNat w.toNat) toks e' h.toNat w.toNat :=
  emu_refines_session_all step_safe w h hw1 hw2 hh1 hh2 hv

/-- A related pair exists: the fresh 80×24 terminal. -/
example : ∃ t e, Sim2 t e 24 80 := by
  obtain ⟨e0, he, _⟩ := VaxisModel.Props.C05.new_good 80 24 (by decide) (by decide) (by decide) (by decide)
  exact ⟨_, e0, fresh_related 80 24 (by decide) (by decide) (by decide) (by decide) he⟩

/-- A history over the vocabulary: `CSI 0;0 H`, print "a", `CSI 2 K`, LF. -/
example : VocabHist [.csi [72] [(0, []), (0, [])], .print [97] 1, .csi [75] [(2, [])], .c0 10]
    [.cup 0 0, .print [97] 1, .el 2, .lf] := by
  refine .cons ⟨by decide, (by intro pm h; cases h), (by intro g w h; cases h)⟩ ?_
  refine .cons ⟨by decide, (by intro pm h; cases h), (by intro g w h; cases h; decide)⟩ ?_
  refine .cons ⟨by decide, (by intro pm h; cases h), (by intro g w h; cases h)⟩ ?_
  exact .cons ⟨by decide, (by intro pm h; cases h), (by intro g w h; cases h)⟩ .nil

/-- A history with SGR: `CSI 1;38;5;9 m`, print "a", `CSI m`. -/
example : VocabHistAll [.csi [109] [(1, []), (38, []), (5, []), (9, [])], .print [97] 1, .csi [109] []]
    [.sgr [[1], [38], [5], [9]], .print [97] 1, .sgr []] := by
  refine .cons ⟨by decide, (by intro ps h; cases h; exact ⟨by decide, _, rfl, by decide⟩), (by intro g w h; cases h)⟩ ?_
  refine .cons ⟨by decide, (by intro ps h; cases h), (by intro g w h; cases h; decide)⟩ ?_
  exact .cons ⟨by decide, (by intro ps h; cases h; exact ⟨by decide, _, rfl, by decide⟩), (by intro g w h; cases h)⟩ .nil

/-- **One-parameter functions with any number of parameters.** `CSI p1 ; p2 ; … F` for the functions
    that take one numeric parameter (ICH, CUU, CUD, CUF, CUB, CNL, CPL, CHA, HPA, VPA, ED, EL, IL, DL,
    DCH, SU, SD — except the 5-parameter `CSI … T` —, ECH), whatever follows the first parameter
    (further parameters, with or without sub-parameters): the emulator step succeeds and refines the
    reference's function of the first parameter, for every related pair of states. -/
theorem emu_refines_term_long {t : Term.T} {e : Emu} {rows cols : Nat} (f : Nat) (pm : List Param) (tok : Term.Tok)
    (hf : f ∈ onePs) (h84 : f = 84 → pm.length ≠ 5)
    (h : tokOfX (.csi [f] pm) = some tok) (s2 : Sim2 t e rows cols) :
    ∃ r, emuStep e (.csi [f] pm) = .ok r ∧ Refines2 (Term.step t tok) r.1 rows cols := by
  have h' : tokOf (.csi [f] (firstOnly pm)) = some tok := by
    rwa [tokOfX_csi, if_pos ⟨hf, h84⟩] at h
  exact emu_refines_step_long f pm tok hf h84 h' s2

/-- **CUP / HVP / DECSTBM with more than two parameters** (F106d, `Witness/F106d.lean`): whatever follows the second
    parameter (further parameters, with or without sub-parameters) is ignored, as a VT / xterm does: the emulator
    step succeeds and refines the reference's function of the first two parameters, for every related pair of
    states. -/
theorem emu_refines_term_two {t : Term.T} {e : Emu} {rows cols : Nat} (f : Nat) (pm : List Param) (tok : Term.Tok)
    (hf : f ∈ twoPs) (hl : pm.length > 2)
    (h : tokOfX (.csi [f] pm) = some tok) (s2 : Sim2 t e rows cols) :
    ∃ r, emuStep e (.csi [f] pm) = .ok r ∧ Refines2 (Term.step t tok) r.1 rows cols := by
  have hno : ¬ (f ∈ onePs ∧ (f = 84 → pm.length ≠ 5)) := fun hc => (by decide : ∀ f ∈ twoPs, f ∉ onePs) f hf hc.1
  have h' : tokOf (.csi [f] (pm.take 2)) = some tok := by
    rwa [tokOfX_csi, if_neg hno, if_pos ⟨hf, hl⟩] at h
  exact emu_refines_step_two f pm tok hf hl h' s2

/-- Non-vacuity: `CSI 2;3;9 H` is CUP 2 3, `CSI 1;2;7:1;0 r` is DECSTBM 1 2; a sub-parameter in one of the first two is outside. -/
example : tokOfX (.csi [72] [(2, []), (3, []), (9, [])]) = some (.cup 2 3) ∧
    tokOfX (.csi [114] [(1, []), (2, []), (7, [1]), (0, [])]) = some (.decstbm 1 2) ∧
    tokOfX (.csi [72] [(2, [4]), (3, []), (9, [])]) = none := by decide

/-- **Cursor visibility** (`CSI ? 25 h` / `CSI ? 25 l`): for states related by `SimC` (= `Sim2` and the
    cursor's visibility and shape agree) the step succeeds, is what the reference's `showCursor` does,
    and the relation is kept. -/
theorem emu_cursor_visibility {t : Term.T} {e : Emu} {rows cols : Nat} (s : SimC t e rows cols) (b : Bool) :
    ∃ r, emuStep e (.csi [63, if b then 104 else 108] [(25, [])]) = .ok r ∧
      ∃ t', Term.step t (.showCursor b) = .accept [t'] ∧ SimC t' r.1 rows cols :=
  showCursor_step s b

/-- **Cursor shape** (DECSCUSR, `CSI n SP q`, n ≤ 65535). -/
theorem emu_cursor_shape {t : Term.T} {e : Emu} {rows cols : Nat} (s : SimC t e rows cols) (n : Nat) (hn : n ≤ 65535) :
    ∃ r, emuStep e (.csi [32, 113] [((n : Int), [])]) = .ok r ∧
      ∃ t', Term.step t (.cursorShape n) = .accept [t'] ∧ SimC t' r.1 rows cols :=
  cursorShape_step s n hn

/-- **Hyperlinks** (`OSC 8 ; params ; url ST`, parameter string without `;`, `Model.OSC8` on — the
    default): the step succeeds, the reference state whose pen hyperlink is `url` is related to the
    result (every glyph printed from now on carries it: `Sim.link` + `print_refines2`), and the
    emulator keeps the parameter string beside it. The payload and the reference state are written
    out; through the token `osc8` of `Spec.Term` and for every payload it is `emu_refines_term_osc8`. -/
theorem emu_hyperlink {t : Term.T} {e : Emu} {rows cols : Nat} (s2 : Sim2 t e rows cols) (params url : List Nat)
    (ho : e.osc8 = true) (hP : 59 ∉ params) :
    ∃ r, emuStep e (.osc ([56, 59] ++ params ++ [59] ++ url) {}) = .ok r ∧
      Sim2 { t with link := url } r.1 rows cols ∧ r.1.cur.st.linkParams = params :=
  ⟨_, osc8_eq e params url ho hP, sim2_setLink s2 params url, rfl⟩

/-- **OSC 8 as an operation of the vocabulary**: `Spec.Term` has the token `osc8 params url` (the hyperlink of
    the glyphs printed from now on), `tokOfX` maps every payload `8;params;url` to it, and the step through the REAL
    dispatcher (`emuStep` → `osc`, the `cutString` splits, the `vt.OSC8` switch) refines the reference's step, for every
    related pair of states, every payload and either base64 verdict. -/
theorem emu_refines_term_osc8 {t : Term.T} {e : Emu} {rows cols : Nat} (d : List Nat) (info : OscInfo) (tok : Term.Tok)
    (ho : e.osc8 = true) (h : tokOfX (.osc d info) = some tok) (s2 : Sim2 t e rows cols) :
    ∃ r, emuStep e (.osc d info) = .ok r ∧ Refines2 (Term.step t tok) r.1 rows cols :=
  osc8_step s2 d info tok ho h

/-- Non-vacuity: `OSC 8 ; id=1 ; http://x ST` and the closing `OSC 8 ; ; ST` are in the vocabulary; `OSC 0 ; title` is not. -/
example : tokOfX (.osc [56, 59, 105, 100, 61, 49, 59, 104, 116, 116, 112, 58, 47, 47, 120] {}) =
      some (.osc8 [105, 100, 61, 49] [104, 116, 116, 112, 58, 47, 47, 120]) ∧
    tokOfX (.osc [56, 59, 59] {}) = some (.osc8 [] []) ∧ tokOfX (.osc [48, 59, 116] {}) = none := by decide

/-- **RIS** (`ESC c`; F106e, `Witness/F106e.lean`): from EVERY related pair of states — whatever margins, pen, saved cursors,
    modes and screen were in effect — the step succeeds and the emulator is related to the reference's power-on state of
    the same size (blank screens, cursor home, default pen, full-screen margins, no saved cursor, primary screen). -/
theorem emu_refines_term_ris {t : Term.T} {e : Emu} {rows cols : Nat} (s2 : Sim2 t e rows cols) :
    tokOfX (.esc [99]) = some .ris ∧
    ∃ r, emuStep e (.esc [99]) = .ok r ∧ Refines2 (Term.step t .ris) r.1 rows cols :=
  ⟨rfl, ris_step s2⟩

/-- **Colon sub-parameters of the non-SGR functions**: the 18 one-parameter and the 3 two-parameter functions of the
    vocabulary read the main value of each parameter only, so `CSI 2:5 A` does exactly what `CSI 2 A` does — and with
    `emu_refines_term_long` / `_two` refines the reference's function of those main values. Whether a terminal should
    execute such a sequence at all is terminal specific (xterm ignores it, DEC STD 070 reserves `:`): `tokOfX` leaves it
    outside the judged vocabulary; this is the emulator-side statement. -/
theorem emu_subparams_ignored (e : Emu) (f : Nat) (pm : List Param) (hf : f ∈ onePs ∨ f ∈ twoPs) :
    emuStep e (.csi [f] (dropSubs pm)) = emuStep e (.csi [f] pm) :=
  emuStep_csi_congr (csi_ignores_subparams e f pm hf)

example : dropSubs [(2, [5]), (7, [])] = [(2, []), (7, [])] := by decide

/-- **All histories over the extended vocabulary**: any sequence of operations of the vocabulary of `tokOf` (SGR
    included), one-parameter functions with any parameter list, CUP / HVP / DECSTBM with more than two parameters, RIS and
    OSC 8 hyperlinks, from any related pair of states with the widget's OSC 8 switch on (the default; `osc8_switch_stable`): the emulator never panics and shows what the reference allows after every prefix. -/
theorem emu_refines_histories_X {rows cols : Nat} {ops : List EOp} {toks : List Term.Tok}
    (hv : VocabHistX ops toks) {t : Term.T} {e : Emu} (s2 : Sim2 t e rows cols) (ho : e.osc8 = true) :
    ∃ e', runOps e ops = .ok e' ∧ SpecAllows t toks e' rows cols :=
  emu_refines_history_X step_safe hv s2 ho

/-- No operation whatsoever (any sequence, any parameters, resizes included) changes the widget's `OSC8` switch — which is
    why hyperlinks stay honoured along a history. -/
theorem osc8_switch_stable {e : Emu} {op : EOp} {r : Emu × Nat} (h : emuStep e op = .ok r) : r.1.osc8 = e.osc8 :=
  VaxisModel.Lemmas.EmuOsc8.emuStep_o8 h

/-- … and from start-up, for every admissible size. -/
theorem emu_refines_from_start_X (w h : Int) (hw1 : 1 ≤ w) (hw2 : w ≤ 65535) (hh1 : 1 ≤ h) (hh2 : h ≤ 65535)
    {ops : List EOp} {toks : List Term.Tok} (hv : VocabHistX ops toks) :
    ∃ e0 e', Emu.new Fixes.current w h = .ok e0 ∧ runOps e0 ops = .ok e' ∧
      SpecAllows (Term.T.init h.toNat w.toNat) toks e' h.toNat w.toNat :=
  emu_refines_session_X step_safe w h hw1 hw2 hh1 hh2 hv

/-- Non-vacuity: `SGR 41`, `CSI 2;3;9 r`, `ESC c`, `CSI 2;2;7 H`, `CSI 1;5 B`, `OSC 8;;x`, "a" is a history of the extended vocabulary. -/
example : VocabHistX
    [.csi [109] [(41, [])], .csi [114] [(2, []), (3, []), (9, [])], .esc [99], .csi [72] [(2, []), (2, []), (7, [])],
     .csi [66] [(1, []), (5, [])], .osc [56, 59, 59, 120] {}, .print [97] 1]
    [.sgr [[41]], .decstbm 2 3, .ris, .cup 2 2, .cud 1, .osc8 [] [120], .print [97] 1] := by
  refine .cons (.base ⟨by decide, (by intro ps h; cases h; exact ⟨by decide, _, rfl, by decide⟩), (by intro g w h; cases h)⟩) ?_
  refine .cons (.two (by decide) (by decide) (by decide)) ?_
  refine .cons .ris ?_
  refine .cons (.two (by decide) (by decide) (by decide)) ?_
  refine .cons (.long (by decide) (by decide) (by decide)) ?_
  refine .cons (.osc8 (by decide)) ?_
  exact .cons (.base ⟨by decide, (by intro ps h; cases h), (by intro g w h; cases h; decide)⟩) .nil

/-- `tokOfX` agrees with these statements: its tokens for the two cursor functions. -/
example : tokOfX (.csi [63, 108] [(25, [])]) = some (.showCursor false) ∧
    tokOfX (.csi [32, 113] [(4, [])]) = some (.cursorShape 4) := by decide

/-- Non-vacuity: `CSI 2 ; 7 ; 9:1 A` is CUU 2, `CSI 3 ; 1 ; 1 T` is SD 3, a 5-parameter `CSI … T` is outside. -/
example : tokOfX (.csi [65] [(2, []), (7, []), (9, [1])]) = some (.cuu 2) ∧
    tokOfX (.csi [84] [(3, []), (1, []), (1, [])]) = some (.sd 3) ∧
    tokOfX (.csi [84] [(3, []), (1, []), (1, []), (1, []), (1, [])]) = none := by decide

/-! ### the oracle's vocabulary `tokOfJ` (colon sub-parameters outside SGR are IGNORED by the reference)

`Spec.Term` states the decision: a DEC VT and xterm ignore a non-SGR CSI function whose parameter string contains a colon
(`Tok.ignored`). The oracle judges through `tokOfJ`; the emulator executes such a sequence on its main values
(`emu_subparams_ignored` — an emulator-side fact), which is finding F106f (`Witness.F106f.refines_J_fails`, recorded).
`tokOfJ_region`: outside that one region the judged token is the token of `tokOfX`, the vocabulary of the refinement theorems
above — so they are the full statement minus exactly F106f. -/

theorem tokOfJ_region (op : EOp) (tok : Term.Tok) (h : tokOfJ op = some tok) : tok = .ignored ∨ tokOfX op = some tok := by
  unfold tokOfJ at h
  split at h
  · split at h
    · left; cases h; rfl
    · right; exact h
  · right; exact h

/-- the region: the one- and two-parameter functions of the vocabulary with a colon anywhere in the parameter string -/
theorem tokOfJ_ignored_of (f : Nat) (pm : List Param) (hf : f ∈ onePs ∨ f ∈ twoPs) (hs : hasSub pm = true) :
    tokOfJ (.csi [f] pm) = some .ignored := by
  simp [tokOfJ, hf, hs]

/-- `CSI 1:5 B` and `CSI 2;7;9:1 A` are judged as ignored; `CSI 1 B` as CUD 1; SGR keeps its sub-parameters. -/
example : tokOfJ (.csi [66] [(1, [5])]) = some .ignored ∧ tokOfJ (.csi [65] [(2, []), (7, []), (9, [1])]) = some .ignored ∧
    tokOfJ (.csi [66] [(1, [])]) = some (.cud 1) ∧ tokOfJ (.csi [109] [(4, [3])]) = some (.sgr [[4, 3]]) := by decide

/-- The fresh terminal is a `SimC` pair (cursor visible, default shape). -/
example : ∃ t e, SimC t e 24 80 := by
  obtain ⟨e0, he, _⟩ := VaxisModel.Props.C05.new_good 80 24 (by decide) (by decide) (by decide) (by decide)
  have h0 : e0 = newState 80 24 := by
    rw [new_eq 80 24 (by decide) (by decide)] at he; cases he; rfl
  subst h0
  exact ⟨_, _, fresh_related 80 24 (by decide) (by decide) (by decide) (by decide) he, rfl, rfl⟩

end VaxisModel.Props.C06
