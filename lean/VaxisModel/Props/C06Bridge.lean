/-
C06 bridge — `Spec.Display` (the renderer-side reference terminal of C01/C04/C07/C11/C12) and
`Spec.Term` (the reference terminal of C06) were written independently; on their common vocabulary
(CUP, SGR, OSC 8, text of width 1 or 2, DECTCEM ?25 h/l, DECSCUSR) they are the same terminal.

* `display_refines_term`: from ANY pair of related states (`Rel dec d t`: same size, cursor, pending
  wrap, pen, hyperlink, cursor visibility and shape, margins = full screen, primary screen, and
  every cell equal up to Spec.Term's own visual equality `TCell.norm` — with `cont ↦ cont` and
  `poison ↦ poison` exactly; the Display's rows well formed; `d.bad = none`), for EVERY token list of
  the common vocabulary (`Common tw k`; text widths `tw g ≤ 2`) that `Spec.Display.run` processes
  without `bad`: `Spec.Term` is deterministic on the translated tokens (`runExact`: every step
  returns `.accept [t']` — one state, never `unconstrained`) and the final states are related again.
* `init_related`: the power-on states of an `rows × cols` screen (rows, cols ≥ 1) are related (here,
  and only here, the decoder hypotheses `DecOk` are needed: the Display's blank cell is the glyph
  "20", Spec.Term's is `blank .default`).

No disagreement between the two references was found on this vocabulary: in particular `poison`
appears in exactly the same cells (the examples below exercise both directions: overwriting the
right half and the left half of a wide glyph).
-/
import VaxisModel.Lemmas.C06Bridge

namespace VaxisModel.Props.C06Bridge
open VaxisModel VaxisModel.Spec VaxisModel.Spec.Term
open VaxisModel.Lemmas.C06Bridge

theorem display_step_refines_term (dec : String → List Nat) (tw : String → Nat) (d : Display.Term) (t : T)
    (h : Rel dec d t) (k : RTok) (hk : Common tw k) (hb : (Display.step tw d k).bad = none) :
    ∃ tok t', tokT dec tw k = some tok ∧ Spec.Term.step t tok = .accept [t'] ∧
      Rel dec (Display.step tw d k) t' :=
  step_bridge dec tw d t h k hk hb

theorem display_refines_term (dec : String → List Nat) (tw : String → Nat) (d : Display.Term) (t : T)
    (h : Rel dec d t) (toks : List RTok) (hv : ∀ k ∈ toks, Common tw k)
    (hb : (Display.run tw d toks).bad = none) :
    ∃ t', runExact t (toks.filterMap (tokT dec tw)) = some t' ∧ Rel dec (Display.run tw d toks) t' :=
  run_bridge dec tw toks d t h hv hb

theorem init_related (dec : String → List Nat) (hdec : DecOk dec) (rows cols : Nat) (hr : 1 ≤ rows) (hc : 1 ≤ cols) :
    Rel dec (Display.Term.init cols rows) (T.init rows cols) := by
  refine { rows := rfl, cols := rfl, onAlt := rfl, row := rfl, col := rfl, pw := rfl, pen := rfl,
           link := hdec.empty.symm, cursorVisible := rfl, cursorShape := rfl,
           rowLt := by show 0 < rows; omega, colLt := by show 0 < cols; omega,
           top := rfl, bottom := rfl, bad := rfl, grid := ?_ }
  show GridRel dec rows cols (List.replicate rows (List.replicate cols Display.DCell.blank)) (blankGrid rows cols)
  refine ⟨by simp, by simp [blankGrid], ?_⟩
  intro i dr hi
  rw [List.getElem?_replicate] at hi
  split at hi
  · cases hi
    refine ⟨List.replicate cols (TCell.blank .default), by simp [blankGrid, *], by simp, wf_blank cols, ?_⟩
    refine ⟨by simp, ?_⟩
    intro j d' t' hd' ht'
    rw [List.getElem?_replicate] at hd' ht'
    split at hd'
    · rw [if_pos ‹_›] at ht'
      cases hd'; cases ht'
      exact cellEq_blank dec hdec
    · cases hd'
  · cases hi

theorem display_refines_term_from_start (dec : String → List Nat) (tw : String → Nat) (hdec : DecOk dec)
    (rows cols : Nat) (hr : 1 ≤ rows) (hc : 1 ≤ cols) (toks : List RTok) (hv : ∀ k ∈ toks, Common tw k)
    (hb : (Display.run tw (Display.Term.init cols rows) toks).bad = none) :
    ∃ t', runExact (T.init rows cols) (toks.filterMap (tokT dec tw)) = some t' ∧
      Rel dec (Display.run tw (Display.Term.init cols rows) toks) t' :=
  display_refines_term dec tw _ _ (init_related dec hdec rows cols hr hc) toks hv hb

theorem common_iff_tokT (dec : String → List Nat) (tw : String → Nat) (k : RTok) :
    Common tw k ↔ (tokT dec tw k ≠ none ∧ ∀ g, k = .text g → tw g ≤ 2) := by
  cases k <;> simp [Common, tokT]

/-! ### non-vacuity: a concrete session on a 2 × 5 screen -/

/-- A decoder given by a table (enough for the example). -/
def dec0 (s : String) : List Nat :=
  if s = "" then [] else if s = "20" then [32] else if s = "61" then [97]
  else if s = "e4b896" then [228, 184, 150] else if s = "68" then [104] else [0]

def tw0 (g : String) : Nat := if g = "e4b896" then 2 else 1

theorem decOk0 : DecOk dec0 := by
  refine ⟨by decide, ?_, by decide, ?_⟩
  · intro s h
    unfold dec0 at h
    split at h
    · assumption
    · repeat (split at h; cases h)
      cases h
  · intro s h
    unfold dec0 at h
    split at h
    · cases h
    · split at h
      · assumption
      · repeat (split at h; simp at h)
        simp at h

/-- bold "a", a wide glyph, "a" over its RIGHT half (poison on the left), a wide glyph into the last
    two columns (pending wrap), a linked "a" over its LEFT half (poison on the right), link closed,
    cursor hidden, DECSCUSR 4. -/
def toks0 : List RTok :=
  [.cup 1 1, .sgr [[1]], .text "61", .text "e4b896", .cup 1 3, .text "61",
   .text "e4b896", .cup 1 4, .osc8 "" "68", .text "61", .osc8 "" "", .decrst 25, .cursorStyle 4]

example : ∀ k ∈ toks0, Common tw0 k := by decide

example : (Display.run tw0 (Display.Term.init 5 2) toks0).bad = none := by decide

/-- the Display's first row: a, poison, a, linked a, poison -/
example : (Display.run tw0 (Display.Term.init 5 2) toks0).grid[0]? =
    some [.glyph "61" 1 { bold := true } "" "", .poison, .glyph "61" 1 { bold := true } "" "",
          .glyph "61" 1 { bold := true } "" "68", .poison] := by decide

/-- Spec.Term is deterministic on the translated tokens and shows the same row. -/
example : (runExact (T.init 2 5) (toks0.filterMap (tokT dec0 tw0))).map (fun t => t.primary[0]?) =
    some (some [.glyph [97] 1 { bold := true } [], .poison, .glyph [97] 1 { bold := true } [],
                .glyph [97] 1 { bold := true } [104], .poison]) := by decide

example : (runExact (T.init 2 5) (toks0.filterMap (tokT dec0 tw0))).map (fun t => (t.row, t.col, t.pw)) =
    some (0, 4, false) := by decide

example : (runExact (T.init 2 5) (toks0.filterMap (tokT dec0 tw0))).map
      (fun t => (t.cursorVisible, t.cursorShape, t.link)) = some (false, 4, []) := by decide

example : ∃ t', runExact (T.init 2 5) (toks0.filterMap (tokT dec0 tw0)) = some t' ∧
    Rel dec0 (Display.run tw0 (Display.Term.init 5 2) toks0) t' :=
  display_refines_term_from_start dec0 tw0 decOk0 2 5 (by decide) (by decide) toks0 (by decide) (by decide)

/-- Without the hypothesis `bad = none` the two references are NOT comparable: printing in the
    pending-wrap state is `bad` for the Display, while Spec.Term wraps. -/
example : (Display.run tw0 (Display.Term.init 1 1) [.text "61", .text "61"]).bad ≠ none := by decide

end VaxisModel.Props.C06Bridge
