/-
C06 for the code as translated from the source: the history theorem of Props/C06.lean restated for runs through
`Props.C05Dispatch.runGen` — update()'s regenerated type switch, the regenerated dispatch tables of csi()/esc()/c0() and the
regenerated bodies of every control function — started by the translated resize(). On good states that run IS the model's run
(`runGen_eq`), so nothing new is proved about the emulator; the statement mentions no hand-transcribed function.
-/
import VaxisModel.Props.C06
import VaxisModel.Props.C05Dispatch

namespace VaxisModel.Props.C06Gen
open VaxisModel.Model.Emu VaxisModel.Model.EmuBody VaxisModel.Model.EmuAbs VaxisModel.Lemmas.Emu VaxisModel.Lemmas.EmuRefine VaxisModel.Spec VaxisModel.Gen
open VaxisModel.Props.C05Dispatch

/-- **From start-up, all histories over the extended vocabulary, through translated code only**: the run never panics and the
    emulator shows what the reference terminal allows after every prefix. (`OpOk` is `True` for every operation that is not a
    resize; the vocabulary contains no resize.) -/
theorem translated_emu_refines_from_start_X (hostEmpty : Bool) (w h : Int) (hw1 : 1 ≤ w) (hw2 : w ≤ 65535) (hh1 : 1 ≤ h) (hh2 : h ≤ 65535)
    {ops : List EOp} {toks : List Term.Tok} (hv : VocabHistX ops toks) (hall : ∀ op ∈ ops, VaxisModel.Props.C05.OpOk op) :
    ∃ e0 e', evalBody TermBodies.body_resize [] [w, h] Emu.init = .ok e0 ∧ runGen hostEmpty e0 ops = .ok e' ∧
      SpecAllows (Term.T.init h.toNat w.toNat) toks e' h.toNat w.toNat := by
  obtain ⟨e0, e', he0, he', hs⟩ := VaxisModel.Props.C06.emu_refines_from_start_X w h hw1 hw2 hh1 hh2 hv
  obtain ⟨e0', he0', hg0⟩ := VaxisModel.Props.C05.new_good w h hw1 hw2 hh1 hh2
  have : e0' = e0 := by rw [he0] at he0'; exact (Except.ok.inj he0').symm
  subst this
  refine ⟨e0', e', ?_, ?_, hs⟩
  · rw [VaxisModel.Props.C05Bodies.body_resize Emu.init w h (by omega) VaxisModel.Props.C05Bodies.rect_init]; exact he0
  · rw [runGen_eq hostEmpty ops hg0 hall]; exact he'

end VaxisModel.Props.C06Gen
