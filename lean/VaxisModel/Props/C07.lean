/-
C07 — Only advertised terminal features are used; fallbacks are faithful: the colour fallback ("a direct colour
being mapped to the palette entry (16-255) nearest to it under the library's weighted distance"), vocabulary
gating of the renderer and of the lifecycle, the width method.
-/
import VaxisModel.Model.Color
import VaxisModel.Model.Width
import VaxisModel.Spec.Palette
import VaxisModel.Lemmas.Argmin
import VaxisModel.Lemmas.RenderGate
import VaxisModel.Lemmas.C07GateEval

namespace VaxisModel.Props.C07
open VaxisModel.Model.Color VaxisModel.Lemmas

/-- The table in color.go is the xterm palette (entries 16..255) — re-checked against the
    regenerated table on every run. -/
theorem palette_is_xterm : Gen.Palette.palette = Spec.Palette.xtermPalette := by decide +kernel

/-- The channel differences are computed without `uint8` wrap-around. -/
theorem diff_is_signed : Gen.Palette.diffSigned = true := rfl

/-- All three weights are positive (it is a distance on all three channels). -/
theorem weights_pos : 0 < weights.1 ∧ 0 < weights.2.1 ∧ 0 < weights.2.2 := by decide

/-- Non-RGB colours (default, indexed) are returned unchanged. -/
theorem asIndex_id (c : Color) (h : isRGB c = false) : asIndex c = c := by
  simp [asIndex, asIndexWith, h]

/-- **Nearest entry.** For every direct colour the result is `IndexColor(16+i)` with `i < 240`
    and entry `i` of the xterm palette minimises the library's weighted squared distance
    (computed exactly, no wrap-around) over the whole palette. -/
theorem asIndex_nearest (c : Color) (h : isRGB c = true) :
    ∃ i, i < 240 ∧ asIndex c = indexColor (16 + i) ∧
      ∃ v, Spec.Palette.xtermPalette[i]? = some v ∧
        ∀ v' ∈ Spec.Palette.xtermPalette, score c v ≤ score c v' := by
  have hne : Gen.Palette.palette ≠ [] := by rw [palette_is_xterm]; decide +kernel
  obtain ⟨i, s, hi, harg⟩ := argmin_spec (scoreWith Gen.Palette.diffSigned weights c) Gen.Palette.palette hne
  have hlt := argmin_index_lt _ _ _ _ harg
  have hlen : Gen.Palette.palette.length = 240 := by rw [palette_is_xterm]; simp [Spec.Palette.xtermPalette]
  rw [hlen] at hlt
  refine ⟨i, hlt, ?_, ?_⟩
  · simp only [asIndex, asIndexWith, h, hi]
    have : (i + 16) % 256 = 16 + i := by omega
    simp [this]
  · obtain ⟨⟨v, hv, hs⟩, hmin⟩ := harg
    rw [diff_is_signed] at hs hmin
    rw [palette_is_xterm] at hv hmin
    exact ⟨v, hv, fun v' hv' => by simpa [score, hs] using hmin v' hv'⟩

/-- The result of `asIndex` on a direct colour carries the indexed flag and an index in 16..255,
    so `Params` yields a single palette index. -/
theorem asIndex_params (c : Color) (h : isRGB c = true) :
    ∃ i, 16 ≤ i ∧ i ≤ 255 ∧ params (asIndex c) = [i] := by
  obtain ⟨i, hi, he, _⟩ := asIndex_nearest c h
  refine ⟨16 + i, by omega, by omega, ?_⟩
  rw [he]
  have h1 : isIndexed (indexColor (16 + i)) = true := by
    simp only [isIndexed, indexColor, indexedBit, Gen.Palette.indexedShift]
    have : (16 + i + 2 ^ 24) / 2 ^ 24 = 1 := by omega
    simp [this]
  have h2 : (indexColor (16 + i)) % 256 = 16 + i := by
    show ((16 + i + 2 ^ 24 : Nat) % 256 = 16 + i)
    omega
  simp only [params, h1, h2]; rfl

-- Non-vacuity: a concrete direct colour, and its image.
example : isRGB (rgbColor 1 0 0) = true := by decide

section gating
open VaxisModel.Model.Render VaxisModel.Lemmas.RenderGate VaxisModel.Lemmas.RenderToks

/-- **Renderer gating.** Every token any frame writes is baseline vocabulary or allowed by the
    capability set: no direct-colour SGR (38:2 / 48:2 / 58:2) without RGB support — colours are
    then palette indices —, no `4:n` / 58 / 59 without styled-underline support, no explicit-width
    text (OSC 66) unless advertised, no synchronized-output brackets unless advertised. For all
    grids, styles, widths and cursor requests. -/
theorem render_gated (cw : String → Nat) (f : Frame) :
    ∀ k ∈ (renderFrame cw f).2, allowedTok f.caps k = true :=
  renderFrame_all (P := fun k => allowedTok f.caps k = true) cw f rfl rfl (fun _ _ => rfl)
    (fun _ _ n _ => ⟨fun pen => penDelta_allowed f.caps pen n.style, glyphTok_allowed cw f.caps n⟩)
    (fun _ k hk => by simp only [showCursorToks, List.mem_cons, List.not_mem_nil, or_false] at hk; rcases hk with rfl | rfl | rfl <;> rfl)
    rfl (fun h => by simp [allowedTok, h]) (by simp [allowedTok])

/-- Without RGB support a direct colour is sent as exactly one palette index in 16..255 (the
    nearest entry, by `asIndex_nearest`), and default / indexed colours are sent unchanged. -/
theorem no_rgb_means_indexed (caps : Caps) (h : caps.rgb = false) (c : Color) :
    (isRGB c = true → ∃ i, 16 ≤ i ∧ i ≤ 255 ∧ effParams caps c = [i]) ∧
    (isRGB c = false → effParams caps c = params c) := by
  unfold effParams
  simp only [h, Bool.false_eq_true, if_false]
  exact ⟨fun hr => asIndex_params c hr, fun hr => by rw [asIndex_id c hr]⟩

end gating

section lifecycle_gating
open VaxisModel.Lemmas.C07Gate VaxisModel.Lemmas.C04Check

/-- **Lifecycle gating.** For every assignment of the capability/option variables, everything
    written after the device-attributes reply by start-up (alternate screen + enableModes),
    Suspend and Resume is baseline vocabulary or gated by an advertised capability: kitty keyboard
    push/pop ⇒ kittyKeyboard; 2027 ⇒ unicodeCore ∧ ¬explicitWidth; 8452 ⇒ sixel; 2031 and DSR 996 ⇒
    colour-scheme reports; 2048 ⇒ in-band resize; 2026 ⇒ synchronized output; OSC 176 ⇒ osc176.
    (Interpreted from the statement lists regenerated from vaxis.go; an instance of `C07Gate.gated_any`, which
    holds for every valuation of the guards.) -/
theorem lifecycle_gated (m : Nat) (hm : m < 512) : gatedB m = true := by
  have := List.all_eq_true.mp gate_all m (by simpa using hm)
  rwa [Nat.zero_add] at this

end lifecycle_gating

open VaxisModel.Model.Width

/-- Graphemes are measured by Unicode grapheme width exactly when the terminal advertised
    Unicode-core mode or explicit-width text (it then renders clusters at that width), and by the
    per-code-point `wcwidth` sum exactly when it advertised neither and has no ZWJ quirk. -/
theorem width_method (u e z : Bool) :
    (widthMethod u e z = .unicodeStd ↔ (u = true ∨ e = true)) ∧
    (widthMethod u e z = .wcwidth ↔ (u = false ∧ e = false ∧ z = false)) := by
  cases u <;> cases e <;> cases z <;> simp [widthMethod]

end VaxisModel.Props.C07
