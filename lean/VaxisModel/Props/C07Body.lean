/-
C07 × C03 — the capability theorems over the body of `handleSequence` as regenerated from the
source (`Gen/InputBody.lean`, executed by `Model/InputBody.lean`): composition of
`Props/C03Body.handleSequence_body_eq_model` with `Props/C07Caps.reply_notices_exact`.
-/
import VaxisModel.Props.C03Body
import VaxisModel.Props.C07Caps

namespace VaxisModel.Props.C07Body
open VaxisModel.Model.Input VaxisModel.Model.InputBody VaxisModel.Model.InputLoop
open VaxisModel.Spec.Startup VaxisModel.Lemmas.StartupSeq

/-- **Per reply, on the interpreted source.**  Whatever the state, the decoder and the sequence: if
the regenerated body of `handleSequence` runs to its end, the capability notifications it posts are
exactly those the reply shape stands for by the protocols (`Spec/Startup.notices`), in order, minus
the three it does not repeat once the capability is known — and it never writes the capability
record.  (`reply_notices_exact` is the same statement over the hand transcription.) -/
theorem reply_notices_exact_body (b64 : List Nat → Option (List Nat)) (st st' : VState) (s : Seq) (keffs : List KEff)
    (h : runHs b64 st s = .ok (st', keffs)) :
    (VaxisModel.Lemmas.InputEvents.posted (keffs.map (·.1))).filter isNotice = (notices s).filter (fun e => !known st.caps e) ∧
    st'.caps = st.caps := by
  obtain ⟨effs, hh, rfl⟩ := VaxisModel.Props.C03Body.runHs_ok h
  have := VaxisModel.Props.C07Caps.reply_notices_exact b64 st st' s effs hh
  simpa [List.map_map, Function.comp_def] using this

/-- **An unadvertised capability is never announced by the interpreted source**: a notification
posted by the regenerated body for a sequence is one of those the sequence stands for. -/
theorem body_announces_only_advertised (b64 : List Nat → Option (List Nat)) (st st' : VState) (s : Seq) (keffs : List KEff)
    (h : runHs b64 st s = .ok (st', keffs)) (e : Event)
    (he : e ∈ (VaxisModel.Lemmas.InputEvents.posted (keffs.map (·.1))).filter isNotice) : e ∈ notices s := by
  rw [(reply_notices_exact_body b64 st st' s keffs h).1] at he
  exact (List.mem_filter.mp he).1

/-- **The start-up LTS runs the regenerated body.**  The `.input` label of the start-up system of
`vaxis.New` (`Model/Startup.lean`, over which `caps_exact`, `caps_sound`, `startup_completes` and
`caps_exact_attained*` are proved) is: the goroutine at its `select` takes the sequence, the
regenerated body of `handleSequence` is run on it (`Model/InputBody.runHs`), its effects become the
pending effects, the sequence is recorded — so those theorems are statements about the source as
extracted, not only about its hand transcription. -/
theorem startup_input_is_body (p : Params) (o : VaxisModel.Spec.Startup.Opts) (st : VaxisModel.Model.Startup.St) (q : Seq)
    (h : st.sys.pend = []) :
    VaxisModel.Model.Startup.next p o st (.input q) =
      match runHs p.b64 st.sys.vs q with
      | .ok (vs, keffs) => some (.ok { st with sys := { st.sys with vs := vs, pend := keffs.map (·.1) }, ins := st.ins ++ [q] })
      | .error _ => some (.error .indexOutOfRange) := by
  simp only [VaxisModel.Model.Startup.next, VaxisModel.Props.C03Body.lts_input_is_body p st.sys q h]
  cases runHs p.b64 st.sys.vs q with
  | error e => rfl
  | ok r => rfl

end VaxisModel.Props.C07Body
