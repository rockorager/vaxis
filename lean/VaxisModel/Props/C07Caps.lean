import VaxisModel.Lemmas.Startup
import VaxisModel.Lemmas.StartupLive
import VaxisModel.Model.StartupGen
import VaxisModel.Gen.Startup

/-!
# C07 (capability detection) — "the capabilities Vaxis reports are exactly those the replies established"

Theorems over `Model/Startup.lean`: the `for`/`select` loop of `vaxis.New()` running concurrently
with the input goroutine (`Model/InputLoop.lean`, `handleSequence` = `Model/Input.lean`), the
explicit-width probe, `applyQuirks`, the `Can*` accessors.  Spec: `Spec/Startup.lean`.
-/
namespace VaxisModel.Props.C07Caps
open VaxisModel.Model.Input VaxisModel.Model.InputLoop VaxisModel.Model.Startup
open VaxisModel.Lemmas.Startup VaxisModel.Lemmas.StartupSeq
open VaxisModel.Spec.Startup

/-- Per reply: the capability notifications `handleSequence` posts for a parsed sequence (in any
state, if it does not panic) are exactly those the reply shape stands for, in order, minus the
three it does not repeat once the capability is known; and `handleSequence` never writes the
capability record. -/
theorem reply_notices_exact (b64 : List Nat → Option (List Nat)) (st st' : VState) (s : Seq) (effs : List Effect)
    (h : handle b64 st s = .ok (st', effs)) :
    (VaxisModel.Lemmas.InputEvents.posted effs).filter isNotice = (notices s).filter (fun e => !known st.caps e) ∧
    st'.caps = st.caps :=
  handle_notices b64 st s st' effs h

/-- `applyQuirks` without environment overrides: only the terminal's identification matters. -/
theorem quirks_unset (o : Opts) (henv : o.envUnset = true) (tid : List Nat) (c : Caps) :
    applyQuirks o tid c =
      if startsWith (ascii "kitty") tid then { c with noZWJ := true }
      else if tid == ascii "tmux 3.4" then { c with unicodeCore := true } else c := by
  simp only [Opts.envUnset, Bool.and_eq_true, Bool.not_eq_true'] at henv
  obtain ⟨⟨⟨e1, e2⟩, e3⟩, e4⟩ := henv
  unfold applyQuirks
  simp only [e1, e2, e3, e4, isPrefix_eq]
  rfl

/-- For every run of the start-up system — any sequences from the terminal (replies
in any order, repeated, unsolicited, malformed, interleaved with user input), any interleaving of
the input goroutine with `New`, any queue capacity, the probe answered or timed out — that ends
with `New` past `applyQuirks`, the loop having ended by the DA1 notification (not by its 3 s
time-out), no non-blocking post dropped, no environment override:
the inputs split as `A ++ d :: B` with `d` the first DA1 reply, and the capability record is
exactly `specCaps` of the replies `A ++ [d]` — each flag is set iff a reply advertising it was
received up to DA1 (DA1's own sixel attribute included), `explicitWidth` iff the probe was answered
with column 2, `noZWJ`/`unicodeCore` as the terminal's identification says, nothing else. -/
theorem caps_exact (p : Params) (o : Opts) (ls : List VaxisModel.Model.Startup.Label) (st : St)
    (hrun : VaxisModel.Model.Startup.run p o (St.init o) ls = some st)
    (hready : st.phase = .ready) (hto : st.timedOut = false) (hdrop : st.sys.dropped = 0)
    (henv : o.envUnset = true)
    (hint : ∀ x, st.probeGot = some x → -9223372036854775808 ≤ x.2 ∧ x.2 < 9223372036854775808) :
    ∃ A d B, inputsOf ls = A ++ d :: B ∧ isDA1 d = true ∧ (∀ s ∈ A, isDA1 s = false) ∧
      st.sys.vs.caps = specCaps o (A ++ [d]) (st.probeGot.map (·.2)) := by
  have hinv := inv_run p o ls (St.init o) st (inv_init o) hrun
  have hins : st.ins = inputsOf ls := by simpa [St.init] using ins_run p o ls (St.init o) st hrun
  have hph : (view st).phase = .ready := hready
  obtain ⟨c0, hc, core⟩ := hinv.v.ready hph
  obtain ⟨hseen, hdone⟩ := core.done (Or.inr hph) hto
  have hd := hdone hdrop
  have hseen : seenDA st.ins = true := hseen
  have hc : st.sys.vs.caps = applyQuirks o st.termID c0 := hc
  obtain ⟨A, d, B, h1, h2, h3, h4⟩ := insPre_split st.ins hseen
  refine ⟨A, d, B, by rw [← hins]; exact h1, h2, h3, ?_⟩
  -- the invariant at the end: what is set was advertised (`s…`), and — DA1 seen, nothing dropped — what was advertised is set (`c…`)
  have sI : ∀ i, hasI c0 i = true → adv (insPre st.ins) i = true ∨ (i = .truecolor ∧ o.colorterm = true) := core.sI
  have sA : c0.osc176 = true → (insPre st.ins).any (fun s => (notices s).any isAppID) = true := core.sA
  have ew : (c0.explicitWidth = true ↔ ∃ x, st.probeGot = some x ∧ wrap64 (x.2 - 1) = 1) ∧ c0.noZWJ = false := core.ew
  have dk := core.dk
  have cI : ∀ i, i ≠ .primaryDeviceAttribute → adv (insPre st.ins) i = true →
      hasI c0 i = true ∨ (i = .kittyKeyboard ∧ o.disableKitty = true) := hd.cI
  have cT := hd.cT
  have cA : (insPre st.ins).any (fun s => (notices s).any isAppID) = true → c0.osc176 = true := hd.cA
  have tid : st.termID = termIDOf (insPre st.ins) := hd.tid
  rw [h4] at sI sA cI cA tid
  -- per-flag equalities for the record the loop left behind
  have flag : ∀ i, i ≠ .primaryDeviceAttribute → i ≠ .kittyKeyboard → i ≠ .truecolor → hasI c0 i = adv (A ++ [d]) i := by
    intro i n1 n2 n3
    apply Bool.le_antisymm
    · intro h; rcases sI i h with h | h
      · exact h
      · exact absurd h.1 n3
    · intro h; rcases cI i n1 h with h | h
      · exact h
      · exact absurd h.1 n2
  have hk : c0.kittyKeyboard = (adv (A ++ [d]) .kittyKeyboard && !o.disableKitty) := by
    cases hdk : o.disableKitty
    · simp only [Bool.not_false, Bool.and_true]
      apply Bool.le_antisymm
      · intro h; rcases sI .kittyKeyboard h with h | h
        · exact h
        · exact absurd h.1 (by decide)
      · intro h; rcases cI .kittyKeyboard (by decide) h with h | h
        · exact h
        · rw [hdk] at h; exact absurd h.2 (by decide)
    · simp [dk hdk]
  have hrgb : c0.rgb = (adv (A ++ [d]) .truecolor || o.colorterm) := by
    apply Bool.le_antisymm
    · intro h; rcases sI .truecolor h with h | h
      · simp [h]
      · simp [h.2]
    · intro h
      rcases Bool.or_eq_true _ _ |>.mp h with h | h
      · rcases cI .truecolor (by decide) h with h | h
        · exact h
        · exact absurd h.1 (by decide)
      · exact cT h
  have h176 : c0.osc176 = ((A ++ [d]).any fun s => (notices s).any isAppID) := Bool.le_antisymm sA cA
  have hew : c0.explicitWidth = (st.probeGot.map (·.2) == some 2) := by
    apply Bool.le_antisymm
    · intro h
      obtain ⟨x, hx, hw⟩ := ew.1.mp h
      have hr := hint x hx
      rw [hx]; simp [(wrap64_probe x.2 hr.1 hr.2).mp hw]
    · intro h
      cases hx : st.probeGot with
      | none => simp [hx] at h
      | some x =>
        simp [hx] at h
        have hr := hint x hx
        exact ew.1.mpr ⟨x, hx, (wrap64_probe x.2 hr.1 hr.2).mpr h⟩
  have hz : c0.noZWJ = false := ew.2
  rw [hc, quirks_unset o henv, tid]
  have f1 := flag .synchronizedUpdates (by decide) (by decide) (by decide)
  have f2 := flag .unicodeCoreCap (by decide) (by decide) (by decide)
  have f3 := flag .kittyGraphics (by decide) (by decide) (by decide)
  have f4 := flag .styledUnderlines (by decide) (by decide) (by decide)
  have f5 := flag .capabilitySixel (by decide) (by decide) (by decide)
  have f6 := flag .notifyColorChange (by decide) (by decide) (by decide)
  have f7 := flag .textAreaChar (by decide) (by decide) (by decide)
  have f8 := flag .textAreaPix (by decide) (by decide) (by decide)
  have f9 := flag .capabilityOsc4 (by decide) (by decide) (by decide)
  have f10 := flag .capabilityOsc10 (by decide) (by decide) (by decide)
  have f11 := flag .capabilityOsc11 (by decide) (by decide) (by decide)
  have f12 := flag .inBandResizeEvents (by decide) (by decide) (by decide)
  simp only [hasI] at f1 f2 f3 f4 f5 f6 f7 f8 f9 f10 f11 f12
  cases c0
  simp only at f1 f2 f3 f4 f5 f6 f7 f8 f9 f10 f11 f12 hk hrgb h176 hew hz
  subst f1 f2 f3 f4 f5 f6 f7 f8 f9 f10 f11 f12 hk hrgb h176 hew hz
  simp only [specCaps]
  cases hkit : startsWith (ascii "kitty") (termIDOf (A ++ [d])) <;>
  cases htm : (termIDOf (A ++ [d]) == ascii "tmux 3.4") <;>
  simp

/-- **The start-up can always complete** — the hypotheses of `caps_exact` are satisfiable for
*every* reply stream: for every queue capacity ≥ 1, every base64 decoder, the send kinds of the
current source, every list `A` of sequences the parser can deliver without a DA1 reply and every
DA1 reply `d`, there is a run of the start-up system (here: the probe times out, then the loop of
`New` receives whenever the goroutine would otherwise block or drop) that handles exactly
`A ++ [d]` and ends `ready`, the loop ended by the DA1 notification, nothing dropped. -/
theorem startup_completes (qcap : Nat) (hq : 0 < qcap) (b64 : List Nat → Option (List Nat)) (o : Opts)
    (A : List Seq) (d : Seq) (hw : ∀ s ∈ A ++ [d], VaxisModel.Lemmas.Input.WfSeq s)
    (hA : ∀ s ∈ A, isDA1 s = false) (hd : isDA1 d = true) :
    ∃ ls st, inputsOf ls = A ++ [d] ∧
      VaxisModel.Model.Startup.run { qcap := qcap, kinds := Kinds.ofGen, b64 := b64 } o (St.init o) ls = some st ∧
      st.phase = .ready ∧ st.timedOut = false ∧ st.sys.dropped = 0 ∧ st.probeGot = none := by
  exact VaxisModel.Lemmas.StartupLive.startup_completes _ o hq
    VaxisModel.Lemmas.InputEvents.kinds_safe A d hw hA hd

/-- **caps_exact is attained**: for every such stream there is a complete start-up whose
capability record is exactly `specCaps` of the stream (probe unanswered) — each flag set iff a
reply advertising it is in `A ++ [d]`. -/
theorem caps_exact_attained (qcap : Nat) (hq : 0 < qcap) (b64 : List Nat → Option (List Nat)) (o : Opts)
    (henv : o.envUnset = true) (A : List Seq) (d : Seq) (hw : ∀ s ∈ A ++ [d], VaxisModel.Lemmas.Input.WfSeq s)
    (hA : ∀ s ∈ A, isDA1 s = false) (hd : isDA1 d = true) :
    ∃ ls st, inputsOf ls = A ++ [d] ∧
      VaxisModel.Model.Startup.run { qcap := qcap, kinds := Kinds.ofGen, b64 := b64 } o (St.init o) ls = some st ∧
      st.phase = .ready ∧ st.sys.vs.caps = specCaps o (A ++ [d]) none := by
  obtain ⟨ls, st, hi, hr, hph, hto, hdr, hpg⟩ := startup_completes qcap hq b64 o A d hw hA hd
  obtain ⟨A', d', B, hs, hd', hA', hc⟩ := caps_exact _ o ls st hr hph hto hdr henv (by intro x hx; rw [hpg] at hx; cases hx)
  rw [hi] at hs
  obtain ⟨e1, e2, _⟩ := VaxisModel.Lemmas.StartupLive.split_unique A A' B d d' hs hA hd hA' hd'
  refine ⟨ls, st, hi, hr, hph, ?_⟩
  rw [hc, e1, e2, hpg]; rfl

/-- **… also with the probe answered**: for every cursor-position report `CSI r;c R` arriving first
(handed to the `CursorPosition()` of the explicit-width probe) followed by any such stream, there is
a complete start-up whose record is `specCaps` of everything received with the probe's column `c` —
in particular `explicitWidth` is set iff `c = 2`. -/
theorem caps_exact_attained_probe (qcap : Nat) (hq : 0 < qcap) (b64 : List Nat → Option (List Nat)) (o : Opts)
    (henv : o.envUnset = true) (r c : Int) (hc : -9223372036854775808 ≤ c ∧ c < 9223372036854775808)
    (A : List Seq) (d : Seq) (hw : ∀ s ∈ A ++ [d], VaxisModel.Lemmas.Input.WfSeq s)
    (hA : ∀ s ∈ A, isDA1 s = false) (hd : isDA1 d = true) :
    ∃ ls st, inputsOf ls = .csi [] [[r], [c]] 82 :: (A ++ [d]) ∧
      VaxisModel.Model.Startup.run { qcap := qcap, kinds := Kinds.ofGen, b64 := b64 } o (St.init o) ls = some st ∧
      st.phase = .ready ∧ st.sys.vs.caps = specCaps o (.csi [] [[r], [c]] 82 :: (A ++ [d])) (some c) := by
  obtain ⟨ls, st, hi, hr, hph, hto, hdr, hpg⟩ :=
    VaxisModel.Lemmas.StartupLive.startup_completes_answered { qcap := qcap, kinds := Kinds.ofGen, b64 := b64 } o hq
      VaxisModel.Lemmas.InputEvents.kinds_safe VaxisModel.Lemmas.InputEvents.cursorCap_one r c A d hw hA hd
  obtain ⟨A', d', B, hs, hd', hA', hcaps⟩ := caps_exact _ o ls st hr hph hto hdr henv
    (by intro x hx; rw [hpg] at hx; cases hx; exact hc)
  rw [hi] at hs
  have hcpr : isDA1 (.csi [] [[r], [c]] 82) = false := by
    simp [isDA1, notices, noticesCSI]
  obtain ⟨e1, e2, _⟩ := VaxisModel.Lemmas.StartupLive.split_unique (.csi [] [[r], [c]] 82 :: A) A' B d d' (by simpa using hs)
    (by intro s hs'; rcases List.mem_cons.mp hs' with h | h
        · rw [h]; exact hcpr
        · exact hA s h) hd hA' hd'
  refine ⟨ls, st, hi, hr, hph, ?_⟩
  rw [hcaps, e1, e2, hpg]; rfl

/-- No side conditions: at every state a run can reach before `applyQuirks` —
whether the loop is still running, ended by DA1 or by its time-out, whatever was dropped — every
capability flag that is set was advertised by a reply received no later than the first DA1 reply
(or is RGB by `COLORTERM`); `explicitWidth` is set only if the probe's answer was in hand; `noZWJ`
is not set. -/
theorem caps_sound (p : Params) (o : Opts) (ls : List VaxisModel.Model.Startup.Label) (st : St)
    (hrun : VaxisModel.Model.Startup.run p o (St.init o) ls = some st) (hph : st.phase ≠ .ready) :
    (∀ i, hasI st.sys.vs.caps i = true → adv (insPre (inputsOf ls)) i = true ∨ (i = .truecolor ∧ o.colorterm = true)) ∧
    (st.sys.vs.caps.osc176 = true → (insPre (inputsOf ls)).any (fun s => (notices s).any isAppID) = true) ∧
    (st.sys.vs.caps.explicitWidth = true → ∃ x, st.probeGot = some x ∧ wrap64 (x.2 - 1) = 1) ∧
    st.sys.vs.caps.noZWJ = false := by
  have hinv := inv_run p o ls (St.init o) st (inv_init o) hrun
  have hins : st.ins = inputsOf ls := by simpa [St.init] using ins_run p o ls (St.init o) st hrun
  have hcore := hinv.v.core hph
  rw [← hins]
  exact ⟨hcore.sI, hcore.sA, hcore.ew.1.mp, hcore.ew.2⟩

/-- The `Can*` accessors return the detected flags (`CanDisplayGraphics` = sixel or kitty graphics). -/
theorem can_accessors (c : Caps) :
    canOf c = { rgb := c.rgb, kittyGraphics := c.kittyGraphics, sixel := c.sixels, reportColor := c.osc4,
                reportFg := c.osc10, reportBg := c.osc11, displayGraphics := c.sixels || c.kittyGraphics,
                setAppID := c.osc176, unicodeCore := c.unicodeCore, explicitWidth := c.explicitWidth } := rfl

/-! Non-vacuity: a terminal that answers DECRQM 2026, the probe with column 2, OSC 11 twice, a
negative XTGETTCAP, XTVERSION "kitty", then DA1 with the sixel attribute; the goroutine and `New`
interleave; one user key arrives in between.  The run exists, ends `ready`, nothing is dropped,
and the record is the spec's. -/
def exP : Params := { qcap := 4, kinds := Kinds.ofGen, b64 := fun _ => none }

def exLabels : List VaxisModel.Model.Startup.Label :=
  [.input (.csi [63] [[2026], [2]] 121), .step, .input (.csi [] [[1], [2]] 82), .step, .probeRecv, .loopRecv,
   .input (.osc (ascii "11;rgb:0/0/0")), .step, .input (.print [97] 1), .step, .loopRecv, .loopRecv,
   .input (.osc (ascii "11;rgb:0/0/0")), .step, .step,
   .input (.dcs 114 [43] [0] (ascii "524742")), .input (.dcs 124 [62] [] (ascii "kitty 0.31")), .step,
   .input (.csi [63] [[62], [4]] 99), .step, .step, .loopRecv, .loopRecv, .loopRecv, .loopRecv, .quirks]

example :
    (match VaxisModel.Model.Startup.run exP {} (St.init {}) exLabels with
     | some st => st.phase == .ready && !st.timedOut && st.sys.dropped == 0 &&
         st.sys.vs.caps == ({ synchronizedUpdate := true, osc11 := true, sixels := true, noZWJ := true, explicitWidth := true } : Caps) &&
         st.sys.vs.caps == specCaps {} ((inputsOf exLabels).take 8) (st.probeGot.map (·.2))
     | none => false) = true := by decide +kernel

/-- The event types of the loop's type switch, in source order, as model events. -/
def loopEvents : List (String × Event) :=
  [("primaryDeviceAttribute", .internal .primaryDeviceAttribute), ("capabilitySixel", .internal .capabilitySixel),
   ("capabilityOsc4", .internal .capabilityOsc4), ("capabilityOsc10", .internal .capabilityOsc10),
   ("capabilityOsc11", .internal .capabilityOsc11), ("synchronizedUpdates", .internal .synchronizedUpdates),
   ("unicodeCoreCap", .internal .unicodeCoreCap), ("notifyColorChange", .internal .notifyColorChange),
   ("kittyKeyboard", .internal .kittyKeyboard), ("styledUnderlines", .internal .styledUnderlines),
   ("truecolor", .internal .truecolor), ("kittyGraphics", .internal .kittyGraphics), ("textAreaPix", .internal .textAreaPix),
   ("textAreaChar", .internal .textAreaChar), ("appID", .appID [120]), ("terminalID", .terminalID [120]),
   ("inBandResizeEvents", .internal .inBandResizeEvents)]

/-- What the model's loop arm does for an event: capability fields set, whether the loop ends,
whether `appIDLast` / `termID` are stored, whether `DisableKittyKeyboard` suppresses it. -/
def armOf (e : Event) : List String × List String :=
  match collectEv {} {} [] [] e with
  | none => ([], ["break outer"])
  | some (c, tid, aid) =>
    (Caps.diff {} c,
     (if (collectEv { disableKitty := true } {} [] [] e).map (·.1) == some {} && c != {} then ["if opts.DisableKittyKeyboard", "continue"] else []) ++
     (if aid != [] then ["vx.appIDLast = ev"] else []) ++ (if tid != [] then ["vx.termID = ev"] else []))

/-- The type switch of `New`'s loop is the one the model transcribes: same event types in the same
order, each setting exactly the capability fields `collectEv` sets, with the same extra statements
(`break outer`, the `DisableKittyKeyboard` guard, `appIDLast`/`termID`); the only other statements
are the two `graphicsProtocol` upgrades. -/
theorem facts_loop :
    (Gen.Caps.collect.map fun x => (x.1, x.2.1, x.2.2.filter fun s =>
        !["if vx.graphicsProtocol < sixelGraphics", "vx.graphicsProtocol = sixelGraphics", "if vx.graphicsProtocol < kitty",
          "vx.graphicsProtocol = kitty"].contains s))
      = loopEvents.map (fun x => (x.1, (armOf x.2).1, (armOf x.2).2)) ∧
    Gen.Startup.loopLabel = "outer" ∧ Gen.Startup.beforeLoop = "vx.sendQueries()" ∧
    Gen.Startup.loopSelect = [("<-ctx.Done()", ["log", "break outer"]), ("ev := <-vx.queue", ["switch ev := ev.(type)"])] :=
  ⟨by decide +kernel, rfl, rfl, rfl⟩

/-- Every field name and statement in the regenerated table of the loop's type switch is one the
interpreter `Model.StartupGen.collectEvWith` executes (nothing degrades to "unknown"). -/
theorem loop_table_recognised : VaxisModel.Model.StartupGen.recognised Gen.Caps.collect = true := by decide +kernel

/-- **The loop's type switch is interpreted from the source**: for every option set, capability
record, stored identifiers and event, the transition the start-up LTS takes (`collectEv`, over which
`caps_exact` is proved) is the result of *executing the regenerated table* `Gen.Caps.collect`
(look the event type up; `break outer`; the `DisableKittyKeyboard` guard; set the listed fields;
store the payload). A change of an arm in vaxis.go changes `collectEvGen` and this theorem stops
checking. -/
theorem loop_interpreted (o : Opts) (c : Caps) (tid aid : List Nat) (e : Event) :
    VaxisModel.Model.StartupGen.collectEvGen o c tid aid e = collectEv o c tid aid e := by
  open VaxisModel.Model.StartupGen in
  cases e with
  | internal i =>
    cases i <;>
      simp [collectEvGen, collectEvWith, typeName, Internal.name, Gen.Caps.collect, collectEv, collect, setField]
    split <;> rfl
  | appID s => simp [collectEvGen, collectEvWith, typeName, Gen.Caps.collect, collectEv, setField, payload]
  | terminalID s => simp [collectEvGen, collectEvWith, typeName, Gen.Caps.collect, collectEv, payload]
  | _ => simp [collectEvGen, collectEvWith, typeName, collectEv]

/-- After the loop `New` runs `enterAltScreen`, `enableModes`, `setupSignals`, `applyQuirks` — in
this order, nothing else before `applyQuirks`. -/
theorem facts_after_loop : Gen.Startup.afterLoop =
    ["vx.enterAltScreen()", "vx.enableModes()", "if !opts.NoSignals { vx.setupSignals() }", "vx.applyQuirks()"] := rfl

/-- The explicit-width probe and the `COLORTERM` shortcut in `sendQueries`. -/
theorem facts_probe :
    Gen.Startup.probeCall = "_, col := vx.CursorPosition()" ∧ Gen.Startup.probeCond = "col == 1" ∧
    Gen.Startup.probeAssigns = ["explicitWidth = true"] ∧
    Gen.Startup.colorterm = [("\"truecolor\",\"24bit\"", ["vx.PostEvent(truecolor{})"])] := ⟨rfl, rfl, rfl, rfl⟩

/-- "field = value" assignments a capability transformer performs (observed on the all-false and
the all-true record). -/
def capsAll : Caps :=
  { synchronizedUpdate := true, unicodeCore := true, noZWJ := true, rgb := true, kittyGraphics := true, kittyKeyboard := true,
    styledUnderlines := true, sixels := true, colorThemeUpdates := true, reportSizeChars := true, reportSizePixels := true,
    osc4 := true, osc10 := true, osc11 := true, osc176 := true, inBandResize := true, explicitWidth := true }

def assignsOf (f : Caps → Caps) : List String :=
  (Caps.fieldNames.zip ((f {}).toList.zip (f capsAll).toList)).filterMap fun (n, (a, b)) =>
    if a && b then some (n ++ " = true") else if !a && !b then some (n ++ " = false") else none

def sameSet (a b : List String) : Bool := a.all (b.contains ·) && b.all (a.contains ·)

/-- `applyQuirks` is the one the model transcribes: the two terminal-id arms and the
environment-guarded blocks, in order, assign exactly the capability fields the model assigns. -/
theorem facts_quirks :
    Gen.Startup.quirksFirst = "id := string(vx.termID)" ∧
    Gen.Startup.quirksSwitch.map (·.1) = ["strings.HasPrefix(id, \"kitty\")", "id == \"tmux 3.4\""] ∧
    (((Gen.Startup.quirksSwitch.map (·.2)).zip
      [assignsOf (applyQuirks {} (ascii "kitty 0.31")), assignsOf (applyQuirks {} (ascii "tmux 3.4"))]).all (fun x => sameSet x.1 x.2)) = true ∧
    Gen.Startup.quirksEnv.map (·.1) = ["os.Getenv(\"ASCIINEMA_REC\") != \"\"", "os.Getenv(\"VAXIS_FORCE_LEGACY_SGR\") != \"\"",
      "os.Getenv(\"VAXIS_FORCE_WCWIDTH\") != \"\"", "os.Getenv(\"VAXIS_FORCE_UNICODE\") != \"\"",
      "os.Getenv(\"VAXIS_FORCE_NOZWJ\") != \"\"", "os.Getenv(\"VAXIS_DISABLE_NOZWJ\") != \"\"",
      "os.Getenv(\"VAXIS_FORCE_XTWINOPS\") != \"\""] ∧
    (((Gen.Startup.quirksEnv.map (·.2)).zip
      [[], [], assignsOf (applyQuirks { forceWcwidth := true } []), assignsOf (applyQuirks { forceUnicode := true } []),
       assignsOf (applyQuirks { forceNoZWJ := true } []), assignsOf (applyQuirks { disableNoZWJ := true } []), []]).all
      (fun x => sameSet x.1 x.2)) = true := ⟨rfl, rfl, by decide +kernel, rfl, by decide +kernel⟩

/-- Nothing else in the package writes the capability record: the loop of `New` (one field per
arm, to `true`), the probe in `sendQueries`, and `applyQuirks`. -/
theorem facts_caps_writes :
    Gen.Startup.capsWrites.all (fun w =>
      (w.startsWith "vaxis.go:New:caps." && w.endsWith " = true") || w == "vaxis.go:sendQueries:caps.explicitWidth = true" ||
      w.startsWith "quirks.go:applyQuirks:caps.") = true ∧
    (Gen.Startup.capsWrites.filter (·.startsWith "vaxis.go:New:")).length = 15 ∧
    (Gen.Startup.capsWrites.filter (·.startsWith "quirks.go:")).length = 8 := by decide +kernel

/-- The `Can*` accessors read the fields `canOf` reads. -/
theorem facts_can : Gen.Startup.canAccessors =
    [("CanRGB", "vx.caps.rgb"), ("CanKittyGraphics", "vx.caps.kittyGraphics"), ("CanSixel", "vx.caps.sixels"),
     ("CanReportColor", "vx.caps.osc4"), ("CanReportForegroundColor", "vx.caps.osc10"),
     ("CanReportBackgroundColor", "vx.caps.osc11"), ("CanDisplayGraphics", "vx.caps.sixels || vx.caps.kittyGraphics"),
     ("CanSetAppID", "vx.caps.osc176"), ("CanUnicodeCore", "vx.caps.unicodeCore"), ("CanExplicitWidth", "vx.caps.explicitWidth")] :=
  rfl

end VaxisModel.Props.C07Caps
