import VaxisModel.Gen.ImageCtors
import VaxisModel.Gen.Writers
import VaxisModel.Model.ImageProto

/-!
# C07 — who can create a kitty / sixel image object, and what its buffer holds

`Props.C07Writers.request_writers_exact` says that the kitty graphics APCs and the sixel data are
written to the terminal only by methods of `KittyImage` / `Sixel`; `new_image_by_protocol` says that
`NewImage` reaches the two constructors only under the matching detected protocol.  What these two
leave open is closed here over `Gen/ImageCtors.lean` (regenerated from every non-test, non-hook file
of the root package): that no *other* code of the library creates such an object, and that the
bytes `Draw` copies from the object's buffer (`expr:k.buf.Bytes()` / `expr:s.buf.Bytes()` in the
writer list) were put there by the object's own `Resize` in its own protocol.
-/
namespace VaxisModel.Props.C07Image
open VaxisModel.Gen.ImageCtors

/-- **Only the two constructors build the objects, and inside the library only `NewImage` calls
them**: a `KittyImage` value is created in `NewKittyGraphic` and nowhere else (no other composite
literal, `new`, or variable of that type), a `Sixel` value in `NewSixel` and nowhere else; and the
only calls of these constructors in the package are the two arms of `NewImage`'s switch on the
detected protocol (`new_image_by_protocol`).  Every other way to a kitty / sixel image is the
application calling the exported constructor itself (an explicit request, like `SetAppID`). -/
theorem image_objects_only_from_constructors :
    literals = [("image.go:Vaxis.NewKittyGraphic", "KittyImage"), ("image.go:Vaxis.NewSixel", "Sixel")] ∧
    ctorCalls = [("image.go:Vaxis.NewImage", "NewSixel"), ("image.go:Vaxis.NewImage", "NewKittyGraphic")] := by
  decide +kernel

/-- **What `Draw` transmits was encoded by the same object in its own protocol**: the only writes
into an image object's buffer are the kitty transmission chunks (`ESC _ G f=100,i=…,m=… ; payload ST`)
in `KittyImage.Resize` and the sixel encoder in `Sixel.Resize`. -/
theorem image_buffers_written_by_own_type :
    bufWrites = [("KittyImage.Resize", "fmt.Fprintf lit:\x1b_Gf=100,i=%d,m=%d;%s\x1b\\"),
                 ("Sixel.Resize", "sixel.NewEncoder")] := by
  decide +kernel

/-- **Every literal of the package that opens a kitty graphics APC or a DCS**: the four APCs of
`KittyImage`'s methods, the start-up query constant `kittyGquery`, and the two DCS *queries*
(DECRQSS cursor style, XTGETTCAP) — so there is no literal sixel DCS at all (sixel data only comes
out of the encoder of `Sixel.Resize`), and no kitty graphics command outside `KittyImage` except the
query. -/
theorem image_escape_literals_exact :
    imageEscLiterals = [
      ("image.go:KittyImage.Draw", "\x1b_Ga=p,i=%d,p=%d,C=1\x1b\\"),
      ("image.go:KittyImage.Draw", "\x1b_Ga=d,d=i,i=%d,p=%d\x1b\\"),
      ("image.go:KittyImage.Destroy", "\x1b_Ga=d,d=I,i=%d\x1b\\"),
      ("image.go:KittyImage.Resize", "\x1b_Gf=100,i=%d,m=%d;%s\x1b\\"),
      ("sequences.go:const kittyGquery", "\x1b_Gi=1,a=q\x1b\\"),
      ("sequences.go:const userCursorStyle", "\x1bP$q q\x1b\\"),
      ("sequences.go:xtgettcap", "\x1bP+q")] := by
  decide +kernel

/-- Composition with the writer list: the functions that write image data to the terminal are
methods of exactly the two types whose values only the constructors above create. -/
theorem image_writers_are_methods_of_the_constructed_types :
    ((VaxisModel.Gen.Writers.writers.filter fun w => w.file == "image.go").all fun w =>
      ["KittyImage.Draw", "KittyImage.Destroy", "Sixel.Draw"].contains w.fn) = true ∧
    (literals.map (·.2)) = ["KittyImage", "Sixel"] := by
  decide +kernel

open VaxisModel.Model.ImageProto in
/-- **`NewImage` is interpreted from the source**: for each of the five protocol constants, running
the regenerated switch of `NewImage` (`Gen.Writers.newImage`) gives the class of the hand model that
the run-time image lines of the C07caps driver predict with. -/
theorem new_image_interpreted (p : Proto) : newImageGen p = some (newImage p) := by
  cases p <;> decide +kernel

open VaxisModel.Model.ImageProto in
/-- **`graphicsProtocol` is interpreted from the source**: for every combination of the two
notifications and of the pixel size being known, running the regenerated guarded assignments of
`New` (with `applyQuirks` where it is called; environment overrides unset) gives the hand model
`detected` — in particular every guard and constant is one the interpreter knows.  A changed
comparison, constant, arm or order of these statements breaks this theorem. -/
theorem detected_interpreted (s k p : Bool) : detectedGen ⟨s, k, p⟩ = some (detected s k p) := by
  revert s k p; decide +kernel

open VaxisModel.Model.ImageProto in
/-- Non-vacuity of the interpreter: with the constant of the sixel arm changed to `kitty` (self-test m2)
a sixel-only terminal ends with the kitty protocol; an unknown guard gives `none`; and without the
default arm of the `VAXIS_GRAPHICS` switch nothing raises the protocol to the block fallback. -/
example :
    detectedFrom [("New", ["for", "select ev := <-vx.queue", "type capabilitySixel", "if vx.graphicsProtocol < kitty"], "kitty")] ⟨true, false, true⟩ = some .kitty ∧
    detectedFrom [("New", ["if vx.foo()"], "kitty")] ⟨true, true, true⟩ = none ∧
    detectedFrom [("New", ["if ws.XPixel == 0 || ws.YPixel == 0"], "halfBlock")] ⟨false, false, true⟩ = some .noGraphics := by decide +kernel

open VaxisModel.Model.ImageProto in
/-- The loop's two raising arms commute and are idempotent, so the result does not depend on the
order or repetition of the two notifications (the interpreter runs them once, in source order);
and the regenerated list covers every assignment of the field in the package (`Gen.Writers.graphicsProtocolWrites`). -/
theorem protocol_steps_complete_and_order_free :
    (∀ p a b : Proto, raise (raise p a) b = raise (raise p b) a ∧ raise (raise p a) a = raise p a) ∧
    (protocolSteps.filter fun s => s.2.2 != "call applyQuirks").length = VaxisModel.Gen.Writers.graphicsProtocolWrites.length ∧
    (protocolSteps.filter fun s => s.2.2 == "call applyQuirks") = [("New", [], "call applyQuirks")] := by
  refine ⟨?_, by decide +kernel, by decide +kernel⟩
  intro p a b
  cases p <;> cases a <;> cases b <;> decide

open VaxisModel.Model.ImageProto in
/-- **Pixel protocols only when advertised** (over the model of the start-up's `graphicsProtocol`
and the interpreted `NewImage`): a kitty image is handed out only if the kitty graphics reply
arrived, a sixel image only if sixel was advertised, and without a known pixel size or without
either advertisement the image is the half-block fallback. -/
theorem new_image_class_gated (sixelAdv kittyAdv pixKnown : Bool) :
    (newImageGen (detected sixelAdv kittyAdv pixKnown) = some .kitty → kittyAdv = true ∧ pixKnown = true) ∧
    (newImageGen (detected sixelAdv kittyAdv pixKnown) = some .sixel → sixelAdv = true ∧ kittyAdv = false ∧ pixKnown = true) ∧
    ((sixelAdv = false ∧ kittyAdv = false) ∨ pixKnown = false → newImageGen (detected sixelAdv kittyAdv pixKnown) = some .halfBlock) := by
  simp only [new_image_interpreted]
  cases sixelAdv <;> cases kittyAdv <;> cases pixKnown <;> decide

open VaxisModel.Model.ImageProto in
/-- The same gating over the *interpreted* start-up (`detectedGen`) and the interpreted `NewImage`
— no hand-transcribed step in between: whatever the two notifications and the pixel size, the object
handed out is a kitty image only if the kitty graphics reply arrived, a sixel image only if sixel
was advertised, and never the error (`none`) or the full-block renderer. -/
theorem new_image_class_gated_source (s k p : Bool) :
    ∃ c, (detectedGen ⟨s, k, p⟩).bind newImageGen = some c ∧
      (c = .kitty → k = true ∧ p = true) ∧ (c = .sixel → s = true ∧ k = false ∧ p = true) ∧
      (c = .kitty ∨ c = .sixel ∨ c = .halfBlock) := by
  refine ⟨newImage (detected s k p), by rw [detected_interpreted, Option.bind_some, new_image_interpreted], ?_⟩
  cases s <;> cases k <;> cases p <;> decide

end VaxisModel.Props.C07Image
