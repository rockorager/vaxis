import VaxisModel.Model.WidthGen

/-!
# C07 — the width-method clause, tied to the source

"… and graphemes are measured with the width method that matches them": `Props.C07.width_method`
states the clause over the hand model `Model.Width.widthMethod`.  Here that model is shown to be the
*interpretation of the statement chain of `Vaxis.RenderedWidth` regenerated from vaxis.go* for every
capability record, and the three method constants are shown to mean what the model takes them to
mean (the arms of `gwidth`).
-/
namespace VaxisModel.Props.C07Width
open VaxisModel.Model.Width VaxisModel.Model.WidthGen VaxisModel.Gen.WidthSel

/-- **The model's selection is the interpreted source**: for every value of the three capability
fields, running the regenerated chain of `RenderedWidth` (conditions in source order, the first that
holds returns `gwidth(s, M)`) yields exactly the model's method — in particular nothing in the chain
is unrecognised.  Swapping the order of the tests, testing another field, or handing another
constant to `gwidth` breaks this theorem. -/
theorem width_method_interpreted (u e z : Bool) : widthMethodGen u e z = some (widthMethod u e z) := by
  cases u <;> cases e <;> cases z <;> decide +kernel

/-- The chain, for the reader (and so that a change of shape is visible in the
failure): `unicodeCore || explicitWidth` first, then the no-ZWJ quirk, else `wcwidth`. -/
theorem facts_rendered_width :
    renderedWidth = [
      ([[(true, "unicodeCore")], [(true, "explicitWidth")]], "unicodeStd"),
      ([[(true, "noZWJ")]], "noZWJ"),
      ([[]], "wcwidth")] := by decide +kernel

/-- **What the three constants mean** (gwidth.go): the switch is over the method; `noZWJ` strips the
joiner and then measures with `uniseg.StringWidth`, `unicodeStd` measures with `uniseg.StringWidth`,
every other value (`wcwidth`) sums `runewidth.RuneWidth`; and these three are all the constants of the type. -/
theorem facts_gwidth :
    methods = ["wcwidth", "noZWJ", "unicodeStd"] ∧ gwidthTag = "method" ∧
    gwidthArms = [
      (["noZWJ"], ["strings.ReplaceAll", "uniseg.StringWidth"]),
      (["unicodeStd"], ["uniseg.StringWidth"]),
      (["default"], ["runewidth.RuneWidth"])] := by decide +kernel

/-- The clause of the property text over the interpreted source: Unicode grapheme width exactly when
Unicode-core mode or explicit-width text was advertised; the per-code-point `wcwidth` sum exactly
when neither was and there is no ZWJ quirk. -/
theorem width_method_source (u e z : Bool) :
    (widthMethodGen u e z = some .unicodeStd ↔ (u = true ∨ e = true)) ∧
    (widthMethodGen u e z = some .wcwidth ↔ (u = false ∧ e = false ∧ z = false)) := by
  cases u <;> cases e <;> cases z <;> decide +kernel

/-- Non-vacuity of the interpreter: it does answer `none` on an unrecognised chain, follows the
order of the statements (the swapped chain of seeded change C07-m4 selects `noZWJ` for a kitty that
advertises explicit width), and knows negated literals. -/
example :
    interp true false false [([[(true, "?vx.foo()")]], "unicodeStd")] = none ∧
    interp false false false [([[(true, "noZWJ")]], "noZWJ")] = none ∧
    interp false true true [([[(true, "noZWJ")]], "noZWJ"), ([[(true, "unicodeCore")], [(true, "explicitWidth")]], "unicodeStd"), ([[]], "wcwidth")] = some .noZWJ ∧
    interp false false false [([[(false, "unicodeCore"), (false, "noZWJ")]], "wcwidth")] = some .wcwidth := by decide +kernel

end VaxisModel.Props.C07Width
