import VaxisModel.Spec.WriterClasses
import VaxisModel.Lemmas.StringKey

/-!
# C07 — every writer of an escape sequence in the root package is classified

"Vaxis writes only the baseline xterm vocabulary plus features the terminal advertised": over the
list of *all* terminal writers regenerated from the source (`Gen/Writers.lean`: vaxis.go, image.go,
writer.go, vaxis_unix.go, vaxis_windows.go, …), by kernel evaluation.
-/
namespace VaxisModel.Props.C07Writers
open VaxisModel.Gen.Writers VaxisModel.Spec.WriterClasses

/-- **Every writer is classified**: a start-up probe, a capability-gated sequence under a guard
that tests the capability, a write the application asked for through the API made for it, baseline
vocabulary / plumbing, or a statement of a function the gating theorems `render_gated` /
`lifecycle_gated` judge as a whole.  A new writer of an unknown sequence, or a gated sequence that
loses its guard, breaks this theorem. -/
theorem writers_classified : writers.all (fun w => classify w != .unclassified) = true := by
  -- the names are compared as numbers (`StringKey`): a failing comparison of two `"Vaxis.…"` costs one step
  unfold classify
  rw [VaxisModel.Lemmas.StringKey.beq_eq_keyBEq]
  decide +kernel

/-- **Gated sequences are guarded everywhere outside the start-up probes and the request APIs** —
also inside the modelled functions: kitty keyboard push/pop ⇒ `caps.kittyKeyboard`; 8452 ⇒
`caps.sixels`; 2027 ⇒ `caps.unicodeCore ∧ ¬caps.explicitWidth`; 2031 and DSR 996 ⇒
`caps.colorThemeUpdates`; 2048 ⇒ `caps.inBandResize`; 2026 ⇒ `caps.synchronizedUpdate`; OSC 66 ⇒
`caps.explicitWidth`; `4:n`, 58, 59 ⇒ `caps.styledUnderlines`; the OSC 4/10/11 queries ⇒ the
`CanReport*` accessors; the `CSI 18 t` size query ⇒ both size reports advertised; OSC 176 reset ⇒
`caps.osc176`; the query-only sequences (XTVERSION, XTGETTCAP, DECRQM, kitty queries, XTSMGRAPHICS,
tertiary DA, DECRQSS) occur nowhere else.  The gated writers are exactly the listed ones (as a set). -/
theorem gated_sequences_guarded :
    (writers.filter fun w => w.fn != "Vaxis.sendQueries" && !requestWriters.contains (w.fn, w.what) &&
        (gatedTable.lookup w.what).isSome).all
      (fun w => classify w == .gated) = true ∧
    sameMembers ((writers.filter fun w => classify w == .gated).map fun w => (w.fn, w.what)) [
      ("Vaxis.render", "ulColorReset"), ("Vaxis.render", "ulIndexSet"), ("Vaxis.render", "ulRGBSet"),
      ("Vaxis.render", "ulStyleSet"), ("Vaxis.render", "explicitWidth"),
      ("Vaxis.QueryColor", "osc4"), ("Vaxis.QueryForeground", "osc10"), ("Vaxis.QueryBackground", "osc11"),
      ("Vaxis.enableModes", "kittyKBEnable"), ("Vaxis.enableModes", "decset sixelScrolling"),
      ("Vaxis.enableModes", "decset unicodeCore"), ("Vaxis.enableModes", "decset colorThemeUpdates"),
      ("Vaxis.enableModes", "dsr"), ("Vaxis.enableModes", "decset inBandResize"),
      ("Vaxis.disableModes", "kittyKBPop"), ("Vaxis.disableModes", "decrst sixelScrolling"),
      ("Vaxis.disableModes", "decrst unicodeCore"), ("Vaxis.disableModes", "decrst colorThemeUpdates"),
      ("Vaxis.disableModes", "setAppID"), ("Vaxis.disableModes", "decrst inBandResize"),
      ("Vaxis.reportWinsize", "textAreaSize"), ("Vaxis.reportWinsize", "textAreaSize"),
      ("writer.Write", "decset synchronizedUpdate"), ("writer.WriteString", "decset synchronizedUpdate"),
      ("writer.Flush", "decrst synchronizedUpdate")] = true := by
  unfold classify sameMembers
  rw [VaxisModel.Lemmas.StringKey.beq_eq_keyBEq]
  decide +kernel

/-- **The writes made on the application's request** are exactly these — clipboard (OSC 52),
notification (OSC 9 / OSC 777), title (OSC 2), application id (OSC 176), bell, the cursor-position
query, and an image object's own protocol (kitty graphics APC / sixel DCS) — each in the API
function named after it and nowhere else (as a set: source order is not part of the statement). -/
theorem request_writers_exact :
    sameMembers ((writers.filter fun w => classify w == .request).map fun w => (w.fn, w.what)) [
      ("KittyImage.Draw", "expr:k.buf.Bytes()"), ("KittyImage.Draw", "lit:\x1b_Ga=p,i=%d,p=%d,C=1\x1b\\"),
      ("KittyImage.Draw", "lit:\x1b_Ga=d,d=i,i=%d,p=%d\x1b\\"), ("KittyImage.Destroy", "lit:\x1b_Ga=d,d=I,i=%d\x1b\\"),
      ("Sixel.Draw", "expr:s.buf.Bytes()"),
      ("Vaxis.CursorPosition", "dsrcpr"), ("Vaxis.ClipboardPush", "osc52put"), ("Vaxis.ClipboardPop", "osc52pop"),
      ("Vaxis.Notify", "osc9notify"), ("Vaxis.Notify", "osc777notify"), ("Vaxis.SetTitle", "setTitle"),
      ("Vaxis.SetAppID", "setAppID"), ("Vaxis.Bell", "expr:[]byte{0x07}")] = true := by
  unfold classify sameMembers
  rw [VaxisModel.Lemmas.StringKey.beq_eq_keyBEq]
  decide +kernel

/-- **Image objects are handed out by the detected protocol**: `NewImage` returns a kitty image
only when `graphicsProtocol = kitty` and a sixel image only when it is `sixelGraphics`; and inside
the start-up loop the protocol is raised to these two values only in the arms of the kitty-graphics
and sixel notifications (`Props.C07Caps.facts_loop`); every other assignment is the environment
override `VAXIS_GRAPHICS`, the block fallbacks or a quirk. -/
theorem new_image_by_protocol :
    newImage = [
      ("vx.graphicsProtocol == fullBlock", "return vx.NewFullBlockImage(img), nil"),
      ("vx.graphicsProtocol == halfBlock", "return vx.NewHalfBlockImage(img), nil"),
      ("vx.graphicsProtocol == sixelGraphics", "return vx.NewSixel(img), nil"),
      ("vx.graphicsProtocol == kitty", "return vx.NewKittyGraphic(img), nil"),
      ("vx.graphicsProtocol == default", "return nil, fmt.Errorf(\"no supported image protocol\")")] ∧
    (graphicsProtocolWrites.filter fun x => x.2 == "vx.graphicsProtocol = kitty" || x.2 == "vx.graphicsProtocol = sixelGraphics")
      = [("vaxis.go:New", "vx.graphicsProtocol = sixelGraphics"), ("vaxis.go:New", "vx.graphicsProtocol = kitty"),
         ("vaxis.go:New", "vx.graphicsProtocol = sixelGraphics"), ("vaxis.go:New", "vx.graphicsProtocol = kitty")] :=
  ⟨rfl, by decide +kernel⟩

/-- Non-vacuity: the list is not empty, every class occurs, and the classifier does reject — a
kitty-keyboard push without its guard and an unknown sequence are unclassified. -/
example : 100 ≤ writers.length ∧
    [Cls.probe, .gated, .request, .baseline, .modelled].all (fun c => writers.any (fun w => classify w == c)) = true ∧
    classify { file := "vaxis.go", fn := "Vaxis.Foo", dest := "vx.tw", what := "kittyKBEnable", guards := ["!vx.disableMouse"] } = .unclassified ∧
    classify { file := "vaxis.go", fn := "Vaxis.Foo", dest := "vx.console", what := "lit:\x1b]1337;x\x07", guards := [] } = .unclassified := by
  unfold classify
  rw [VaxisModel.Lemmas.StringKey.beq_eq_keyBEq]
  decide +kernel

end VaxisModel.Props.C07Writers
