/-
C08 — parameter pools ↔ automaton: the explicit-array model of `csi.Parameters` (`paramListPool`,
`paramPool`; `PSt`/`pstep` of Model/ParserPools.lean) driven by the statements the parser really
executes, in the order of the transition table, `csiDispatch` expanded into the `Get`s, `append`s
and the `emit` of its Go body for the parameter bytes the automaton has collected; the consumer's
`Finish` calls interleaved one `Put` at a time anywhere — between runes and between any two pool
operations of a running `csiDispatch` (model: Model/ParserParamsDrive.lean; lemmas: Lemmas/ParserParamsDrive.lean).
-/
import VaxisModel.Lemmas.ParserParamsDrive
import VaxisModel.Props.C08Pools
import VaxisModel.Gen.ParserActs

namespace VaxisModel.Props.C08DriveParams
open VaxisModel.Model.ParserTable VaxisModel.Model.ParserPools
open VaxisModel.Model.Parser hiding pstep run
open VaxisModel.Model.ParserParamsDrive VaxisModel.Lemmas.ParserParamsDrive
open VaxisModel.Lemmas.ParserPools
open VaxisModel.Lemmas.ParserPoolsDrive (autoRun)

/-- **The parser's action order is a run of the parameter-pool model.**  For any table (the
    hand-written one, the one regenerated from the source), any input runes, any answers of
    `paramListPool.Get()` / `paramPool.Get()` (any pooled slice, with whatever stale length it was put
    back with, or a new one), any growth of `append`, and `Finish` calls of a retaining consumer
    interleaved one `Put` at a time anywhere (between runes, and between any two pool operations of a
    running `csiDispatch`; any held sequence, any order, or none at all): walking the statements of the
    `anywhere` arm and of the state function's arm in source order — `csiDispatch` expanded into
    `begin, get, (app | app push get)*, app, push, emit` for the bytes in `p.params`, nothing when
    there are none, the early `return` of `ESC \` under `ignoreST` — never issues a pool step that is
    not enabled; the labels issued are a run of `pstep` from its initial state to the composite's
    pool state; no dispatch is left running between two runes; the parser component is the
    automaton's own run over the same runes. -/
theorem driven_params_run_is_pool_run (T : Table) (ls : List DLabel) :
    ∃ d, drun T DSt.init ls = some d ∧ prun PSt.init d.trace = some d.pool ∧ d.pool.work = none ∧
      (d.ps, d.out) = autoRun T PState.init [] (runesOf ls) := by
  obtain ⟨d, h1, h2⟩ := drun_spec T ls DSt.init WInv_init
  exact ⟨d, h1, h2.a.run, h2.idle, drun_automaton T ls DSt.init d h1⟩

/-- **A delivered CSI's parameters are never modified, for `Get`/`Put` in the real action order.**
    In every pool state the composite goes through — the states in the middle of a `csiDispatch`
    included (`n` labels of the trace issued), the parser having run ahead by any number of
    sequences, the consumer holding any of them and being in the middle of any number of `Finish`
    calls on others — every delivered, unfinished CSI reads through `seq.Parameters` (list cells
    and, through each header, `[]int` cells) exactly what it read when it was delivered. -/
theorem driven_params_delivered_immutable (T : Table) (ls : List DLabel) (d : DSt)
    (h : drun T DSt.init ls = some d) (n : Nat) :
    ∃ s, prun PSt.init (d.trace.take n) = some s ∧
      ∀ x ∈ s.delivered, readParams s.pheap s.lheap x.l = x.snap := by
  have h2 := drun_reached h
  obtain ⟨s, e1, _⟩ := prun_take d.trace PSt.init d.pool h2.a.run n
  exact ⟨s, e1, VaxisModel.Props.C08Pools.delivered_params_immutable _ s e1⟩

/-- Two-state form: between any two points of the composite's trace (after `n` and after `m` pool
    labels, in the middle of a dispatch or not) at which the consumer holds `x`, what it reads through
    `x` is the same. -/
theorem driven_params_delivered_stable (T : Table) (ls : List DLabel) (d : DSt)
    (h : drun T DSt.init ls = some d) (n m : Nat) :
    ∃ s1 s2, prun PSt.init (d.trace.take n) = some s1 ∧ prun PSt.init (d.trace.take m) = some s2 ∧
      ∀ x ∈ s1.delivered, x ∈ s2.delivered →
        readParams s2.pheap s2.lheap x.l = readParams s1.pheap s1.lheap x.l := by
  obtain ⟨s1, h1, i1⟩ := driven_params_delivered_immutable T ls d h n
  obtain ⟨s2, h2, i2⟩ := driven_params_delivered_immutable T ls d h m
  exact ⟨s1, s2, h1, h2, fun x hx1 hx2 => by rw [i1 x hx1, i2 x hx2]⟩

/-- In the state the composite ends in: every held CSI reads what it read at delivery. -/
theorem driven_params_delivered_immutable_now (T : Table) (ls : List DLabel) (d : DSt)
    (h : drun T DSt.init ls = some d) (x : PDeliv) (hx : x ∈ d.pool.delivered) :
    readParams d.pool.pheap d.pool.lheap x.l = x.snap := by
  have h2 := drun_reached h
  exact h2.a.inv.intact x hx

/-- **What the consumer receives is what the automaton decoded.**  At every hand-over
    (`p.emit(csi)` with parameters) along any composite run — any table, any input, any `Get`
    answers (recycled arrays with stale contents and lengths), any growth, any `Finish`-`Put`s in
    between — the `[][]int` handed over (the snapshot of the delivered record, which stays what the
    consumer reads until `Finish`: `driven_params_delivered_immutable`) reads exactly
    `decodeParams p.params`, the value the automaton model puts into the `CSI` item at that
    statement (cell by cell through `enc`; `dec` gives the Go `int`s back).  So the C02 theorems
    about delivered parameters hold of the recycled storage the consumer really reads. -/
theorem driven_params_handover_is_decoded (T : Table) (ls : List DLabel) (d : DSt)
    (h : drun T DSt.init ls = some d) :
    ∀ v ∈ d.acc.views, v.slice = v.auto.map (·.map enc) ∧ v.slice.map (·.map dec) = v.auto := by
  have h2 := drun_reached h
  intro v hv
  have hg := h2.good v hv
  exact ⟨hg, by simp [hg, List.map_map, Function.comp_def, dec_enc]⟩

/-- … and every CSI the consumer still holds was handed over at one of these hand-overs: with the
    two theorems above, a held CSI reads the decoded parameters of its own sequence until `Finish`. -/
theorem driven_params_held_is_decoded (T : Table) (ls : List DLabel) (d : DSt)
    (h : drun T DSt.init ls = some d) (x : PDeliv) (hx : x ∈ d.pool.delivered) :
    ∃ v ∈ d.acc.views, readParams d.pool.pheap d.pool.lheap x.l = v.auto.map (·.map enc) := by
  have h2 := drun_reached h
  obtain ⟨v, hv, e⟩ := h2.cov x hx
  exact ⟨v, hv, by rw [h2.a.inv.intact x hx, e, h2.good v hv]⟩

/-- **The hand-overs are the CSI items the automaton delivers.**  Along any composite run the
    recorded hand-overs are, in order, exactly the `CSI` items with (non-nil) `Parameters` in the
    channel output of the automaton, and `View.auto` is that item's `Parameters` field: the walk
    expands `csiDispatch` at the statement and in the parser state at which the automaton emits the
    item.  With `driven_params_handover_is_decoded`: the k-th CSI-with-parameters on the channel
    reads, through the recycled arrays, the `Parameters` the C02 theorems speak about. -/
theorem driven_params_handovers_are_delivered_csis (T : Table) (ls : List DLabel) (d : DSt)
    (h : drun T DSt.init ls = some d) : d.acc.views.map (·.auto) = handed d.out :=
  drun_views T ls DSt.init d WInv_init rfl h

open VaxisModel.Model.ParserActs in
/-- One iteration of the loop of `csiDispatch` as regenerated from the source (`switch b`: `case ';'`,
    `case ':'`, `default`) issues, on **any** byte and **any** decoder state, the pool operations
    `loopOps` assumes and leaves the same `ps`. -/
theorem expansion_step (cases : List (Nat × List LoopOp)) (dflt : List LoopOp)
    (h : BStmt.paramLoop cases dflt ∈ Gen.ParserActs.csiDispatchBody) : OpsStep cases dflt := by
  simp [Gen.ParserActs.csiDispatchBody] at h
  obtain ⟨rfl, rfl⟩ := h
  intro b st
  by_cases h1 : b = 0x3B
  · subst h1; simp [findCase, opsOfOps, loopOpOps, LoopOp.run]
  · by_cases h2 : b = 0x3A
    · subst h2; simp [findCase, opsOfOps, loopOpOps, LoopOp.run]
    · simp [findCase, h1, h2, opsOfOps, loopOpOps, LoopOp.run, Lemmas.ParserActs.wrap64_mul_add]

/-- **`csiOps` is what the source says.**  Walking the statement skeleton of `csiDispatch` regenerated
    from ansi/parser.go (`Gen.ParserActs.csiDispatchBody`; the same skeleton whose interpretation is
    `applyAct .csiDispatch`: `Props.C02Acts.csiDispatch_body`) and issuing `begin` at
    `paramListPool.Get()[:0]`, `get` at every `paramPool.Get()[:0]`, `app ps` at every
    `append(param, ps)`, `push` at every `append(csi.Parameters, param)` and `emit` at the final
    `p.emit(csi)` gives, for **all** parameter bytes, exactly the operation list the composite model
    expands `csiDispatch` into (none when there are no parameter bytes: the early `emit; return`).
    Proved by evaluating the walk on the regenerated list — a reordered `Get`/`append`, a dropped
    `[:0]`-`Get` or an extra one breaks this theorem. -/
theorem expansion_is_regenerated_body (params : List Rune) :
    bodyOps params Gen.ParserActs.csiDispatchBody {} = csiOps params := by
  have key := fun cs d h => opsOfLoop_sem cs d (expansion_step cs d h) params {}
  unfold csiOps
  cases hp : params.isEmpty with
  | true => simp [Gen.ParserActs.csiDispatchBody, bodyOps, hp]
  | false =>
    simp only [Gen.ParserActs.csiDispatchBody, bodyOps, hp, loopOpOps, VaxisModel.Model.ParserActs.LoopOp.run,
      Bool.false_eq_true, if_false, List.nil_append, List.cons_append]
    rw [← key _ _ (by simp [Gen.ParserActs.csiDispatchBody]; exact ⟨rfl, rfl⟩)]

/-- The "never blocks" half of `driven_params_run_is_pool_run` is about the order of `Get`s and
    `append`s: the operations of a `csiDispatch` without the `paramPool.Get()` of the `case ';'` clause
    (`noGetBody`), on `1;2`, are **not** a run of the pool model — after `csi.Parameters =
    append(csi.Parameters, param)` the array belongs to the sequence and `append(param, 2)` has no
    array of its own to write to — while the operations of the regenerated body are. -/
theorem driven_params_needs_get_per_param :
    (driveOps [] (bodyOps [0x31, 0x3B, 0x32] noGetBody {}) [] {}).isNone = true ∧
    (driveOps [] (bodyOps [0x31, 0x3B, 0x32] Gen.ParserActs.csiDispatchBody {}) [] {}).isSome = true := by
  decide +kernel

theorem cell_encoding_injective (v w : Int) (h : enc v = enc w) : v = w := by
  rw [← dec_enc v, ← dec_enc w, h]

-- `exRetain` = `ESC [ 1 ; 2 : 3 m  ESC [ 4 m`, the first CSI retained while the second is parsed, its
-- `Finish` interleaved in the middle of the second `csiDispatch`: the composite runs; the second
-- dispatch's `paramPool.Get()` returns the array that held `[1]` (pooled one label earlier, stale
-- length 1) and overwrites it; both hand-overs read the decoded parameters (cells are `enc v = 2·v`
-- for v ≥ 0); the CSI still held is intact
example : (drun handTable DSt.init exRetain).map (fun d => (d.out, d.trace, d.acc.views, pAllIntact d.pool)) =
  some ([.csi [] [[1], [2, 3]] 0x6D, .csi [] [[4]] 0x6D],
    [.begin none, .get none, .app 2 1, .push 1, .get none, .app 4 1, .app 6 2, .push 2, .emit,
     .begin none, .finish 0, .finPut 0, .get (some 0), .finPut 0, .app 8 1, .finPut 0, .push 1, .emit],
    [⟨[[1], [2, 3]], [[2], [4, 6]]⟩, ⟨[[4]], [[8]]⟩], true) := by decide +kernel

-- the same input with a consumer that never calls `Finish`: both CSIs are held at the end (the
-- hypothesis `x ∈ d.pool.delivered` of the theorems above is met twice), over distinct arrays
example : (drun handTable DSt.init exHeld).map (fun d => (d.pool.delivered, d.pool.pheap.length, d.pool.lheap.length)) =
  some ([⟨⟨1, 1⟩, [[8]]⟩, ⟨⟨0, 2⟩, [[2], [4, 6]]⟩], 3, 2) := by decide +kernel

-- `ESC [ 1:2:3:4:5:6:7 ; 1 ; 1 ; 1 ; 1 m`: the seventh sub-parameter outgrows `make([]int, 0, 6)`, the
-- fifth parameter outgrows `make([][]int, 0, 4)` (both `append`s allocate); held and intact; then the
-- consumer finishes it Put by Put and `ESC [ 9 m` takes the list and the last-put array back
example : (drun handTable DSt.init exGrow).map (fun d => (d.out, d.acc.views.map (·.slice), pAllIntact d.pool)) =
  some ([.csi [] [[1, 2, 3, 4, 5, 6, 7], [1], [1], [1], [1]] 0x6D, .csi [] [[9]] 0x6D],
    [[[2, 4, 6, 8, 10, 12, 14], [2], [2], [2], [2]], [[18]]], true) := by decide +kernel
example : (drun handTable DSt.init exGrow).map (fun d => (d.pool.delivered, d.pool.ppool.length, d.pool.lpool.length)) =
  some ([⟨⟨1, 1⟩, [[18]]⟩], 4, 0) := by decide +kernel

-- in the middle of the second `csiDispatch` of `exHeld` (12 pool labels issued: `begin, get, app 4` of the
-- second dispatch done, `push`/`emit` to come) the first CSI is held and reads what it read at delivery
-- (`driven_params_delivered_immutable` with `n = 12` speaks about this state)
example : ((drun handTable DSt.init exHeld).bind (fun d => prun PSt.init (d.trace.take 12))).map
    (fun s => (s.work, s.delivered, pAllIntact s)) =
  some (some (⟨1, 0⟩, some ⟨2, 1⟩), [⟨⟨0, 2⟩, [[2], [4, 6]]⟩], true) := by decide +kernel

-- `ESC [ m`: no parameter bytes — `csiDispatch` takes the early `emit; return`, touches no pool, hands
-- no storage over (`Parameters` is nil)
example : (drun handTable DSt.init [.rune 0x1B [], .rune 0x5B [], .rune 0x6D []]).map
    (fun d => (d.out, d.trace, d.acc.views)) = some ([.csi [] [] 0x6D], [], []) := by decide +kernel

end VaxisModel.Props.C08DriveParams
