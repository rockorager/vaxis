/-
C08 — the atomicity assumption of Props/C08.lean discharged.  `Model/ParserRunFine.lean` runs `run`,
`readRune` and the Escape-timer callbacks one statement at a time, with `p.mu` and `p.escGen` as state;
here: every interleaving of those statements is a run of the atomic system (`Sys.step T Cfg.fixed`)
with the same output, and the atomic theorems carry over (the invariant `FInv` and the abstraction
`abs`/`pend`: Lemmas/ParserRunFine.lean).
-/
import VaxisModel.Model.ParserRunFine
import VaxisModel.Lemmas.ParserRunFine
import VaxisModel.Props.C08

namespace VaxisModel.Props.C08Fine
open VaxisModel.Model.ParserTable VaxisModel.Model.Parser VaxisModel.Model.ParserRun
open VaxisModel.Model.ParserRunFine VaxisModel.Lemmas.ParserRunFine VaxisModel.Lemmas.ParserRun
open VaxisModel.Lemmas.ParserAbs

/-- The side condition on the table (the arm of `anywhere` that arms the timer does not end the
    loop) holds of the parser's table. -/
theorem hand_table_timer_ok : TimerOk handTable := handTable_timerOk

/-- **Refinement: statement-grained ⊑ atomic, for every interleaving.**  For every finite schedule of
    statements of the main goroutine (select, read return, `Stop`, `Lock` — blocking while a callback
    holds the mutex —, `escGen++`, `anywhere`, `Unlock`, and after the loop `Stop`, `Lock`, `escGen++`,
    `Unlock`, `emit(EOF)`, `close`), of `Close()`, of timer expiries and of the statements of any number
    of callback goroutines (`Lock`, generation check, `emit(C0 1B)`, `state = ground`,
    `ignoreST = false`, `Unlock`), there is a run of the atomic system from its initial state to the
    abstraction of the state reached whose output is the output of the schedule followed by `pend` —
    the items of the one atomic step the statements are still in the middle of; `pend` is empty
    whenever the main goroutine is at the `select`, blocked in the read, or finished. -/
theorem fine_refines_atomic (T : Table) (hT : TimerOk T) (fls : List FLabel) (f : FSys) (out : List Seq)
    (h : FSys.run T FSys.init fls = some (f, out)) :
    ∃ ls b oa, Sys.run T Cfg.fixed Sys.init ls = some (abs T f b, oa) ∧ oa = out ++ pend T f ∧
      (f.mpc = .atSelect ∨ f.mpc = .inRead ∨ f.mpc = .done → pend T f = []) := by
  obtain ⟨_, _, ls, b, oa, h1, _, h3⟩ := reach_sim T hT fls f out h
  exact ⟨ls, b, oa, h1, h3, pend_quiescent T f⟩

/-- **Mutual exclusion** in every reachable state: the main goroutine is between a `Lock` and its
    `Unlock` iff the mutex is held by it; exactly one callback is between its `Lock` and its `Unlock`
    iff the mutex is held by a callback (none otherwise); so a callback and the main goroutine, or two
    callbacks, are never inside together.  Also: a callback past its check saw the current generation,
    and a pending timer carries the current generation. -/
theorem fine_mutual_exclusion (T : Table) (hT : TimerOk T) (fls : List FLabel) (f : FSys) (out : List Seq)
    (h : FSys.run T FSys.init fls = some (f, out)) :
    (f.mutex = some .main ↔ holdsMain f.mpc = true) ∧
    (f.cbs.countP (fun c => crit c.2)) = (if f.mutex = some .cb then 1 else 0) ∧
    (holdsMain f.mpc = true → ∀ c ∈ f.cbs, crit c.2 = false) ∧
    (∀ c ∈ f.cbs, c.2 = .passed → c.1 = f.escGen) ∧ (∀ g, f.armed = some g → g = f.escGen) := by
  have hinv := run_inv T hT fls _ f out FInv_init h
  exact ⟨hinv.m1, hinv.m2, fun hh => nCrit_zero (main_no_crit hinv hh), hinv.p1, fun g hg => (hinv.g2 g hg).1⟩

/-- **Exactly one EOF, last, then the channel is closed** — in every interleaving: when the channel
    has been closed the output is `pre ++ [EOF]` with no EOF in `pre`; before `emit(EOF{})` has run no
    EOF has been emitted; in between (EOF sent, channel not yet closed) the output is already
    `pre ++ [EOF]`. -/
theorem fine_eof_once_last (T : Table) (hT : TimerOk T) (fls : List FLabel) (f : FSys) (out : List Seq)
    (h : FSys.run T FSys.init fls = some (f, out)) :
    (f.chanClosed = true → f.mpc = .done) ∧
    ((∃ v, f.mpc = .fin .close v) ∨ f.mpc = .done → ∃ pre, out = pre ++ [.eof] ∧ Seq.eof ∉ pre) ∧
    (¬ ((∃ v, f.mpc = .fin .close v) ∨ f.mpc = .done) → Seq.eof ∉ out ∧ f.chanClosed = false) := by
  have hinv := run_inv T hT fls _ f out FInv_init h
  obtain ⟨ls, b, oa, h1, h3, _⟩ := fine_refines_atomic T hT fls f out h
  have ha := VaxisModel.Props.C08.eof_once_last T Cfg.fixed rfl ls _ oa h1
  refine ⟨hinv.c1, ?_, ?_⟩
  · intro hpc
    obtain ⟨hd, hp⟩ := past_eof_abs T f b hpc
    obtain ⟨⟨pre, e1, e2⟩, _⟩ := ha.1 hd
    rw [hp, List.append_nil] at h3
    exact ⟨pre, by rw [← h3, e1], e2⟩
  · intro hpc
    have hcc : f.chanClosed = false := by
      cases hc : f.chanClosed with
      | false => rfl
      | true => exact absurd (Or.inr (hinv.c1 hc)) hpc
    refine ⟨?_, hcc⟩
    by_cases hd : (abs T f b).pc = .done
    · obtain ⟨⟨pre, e1, e2⟩, _⟩ := ha.1 hd
      rcases absPc_done_pend T f hd with ⟨_, h'⟩ | ⟨X, hX⟩
      · exact absurd h' hpc
      · rw [hX, ← List.append_assoc] at h3
        rw [h3] at e1
        have := List.append_inj_left' e1 rfl
        intro hmem
        exact e2 (this ▸ List.mem_append_left _ hmem)
    · have := (ha.2 hd).1
      rw [h3] at this
      exact fun hmem => this (List.mem_append_left _ hmem)

/-- **No send on the closed channel**, in any interleaving: once `close(p.sequences)` has run, no
    statement of any goroutine — in particular no late timer callback — emits anything. -/
theorem fine_no_send_on_closed (T : Table) (hT : TimerOk T) (fls : List FLabel) (f : FSys) (out : List Seq)
    (h : FSys.run T FSys.init fls = some (f, out)) (hc : f.chanClosed = true)
    (l : FLabel) (f' : FSys) (o : List Seq) (hs : FSys.step T f l = some (f', o)) :
    o = [] ∧ f'.chanClosed = true := by
  have hinv := run_inv T hT fls _ f out FInv_init h
  exact closed_step_silent T f f' l o hinv hc hs

/-- **No panic** in any interleaving (the parser's table): no `panic` item — nil `p.exit()`, action on
    the rune of an `eof`, send on the closed channel — is ever emitted. -/
theorem fine_no_panic (fls : List FLabel) (f : FSys) (out : List Seq)
    (h : FSys.run handTable FSys.init fls = some (f, out)) : Seq.panic ∉ out := by
  obtain ⟨ls, b, oa, h1, h3, _⟩ := fine_refines_atomic handTable handTable_timerOk fls f out h
  have := (VaxisModel.Props.C08.no_panic ls _ oa h1).1
  rw [h3] at this
  exact fun hmem => this (List.mem_append_left _ hmem)

/-- **An Escape report is a lone ESC, in every interleaving.**  The only statement of a callback
    that emits is its `emit`; when callback `i` is about to execute it, it holds the mutex, the
    generation it captured is the current one (no read has returned and the loop has not ended since
    its ESC), the channel is open, and the parser is in the `escape` state that ESC put it in; what it
    emits is `C0 0x1B`.  So the report never comes after a further transition, never tears a sequence
    and never hits the closed channel. -/
theorem fine_escape_report_is_lone_esc (fls : List FLabel) (f : FSys) (out : List Seq)
    (h : FSys.run handTable FSys.init fls = some (f, out))
    (i : Nat) (f' : FSys) (o : List Seq) (hs : FSys.step handTable f (.cb i) = some (f', o)) (ho : o ≠ []) :
    o = [.c0 0x1B] ∧ f.mutex = some .cb ∧ f.cbs[i]? = some (f.escGen, .passed) ∧ f.chanClosed = false ∧
      f.ps.state = .escape := by
  have hinv := run_inv handTable handTable_timerOk fls _ f out FInv_init h
  obtain ⟨ls, b, oa, h1, _, _⟩ := fine_refines_atomic handTable handTable_timerOk fls f out h
  have hS := (run_SInv ls Sys.init _ oa SInv_init h1).1
  cases cbStep_rel hs
  case emit g hi =>
    obtain ⟨e1, e2, e3, e4⟩ := esc_report_state f hinv i g hi b hS
    subst e2
    exact ⟨by rw [e3]; rfl, e1, hi, e3, e4⟩
  all_goals exact absurd rfl ho

/-- **Conversely, the atomic system has no behaviour of its own**: every run of the atomic system
    (any schedule of reads, end of input, `Close()`, timer firings, late callbacks — the schedules of
    Props/C08.lean and of the F29 witnesses' repaired halves) is produced, item for item, by a schedule of
    single statements that ends in a quiescent state (mutex free, main goroutine at the `select`, in the
    read or finished, every callback not yet locked or returned) standing for the same atomic state.
    With `fine_refines_atomic`: the two systems have the same outputs at quiescent points. -/
theorem atomic_refines_fine (T : Table) (hT : TimerOk T) (ls : List Label) (a : Sys) (oa : List Seq)
    (h : Sys.run T Cfg.fixed Sys.init ls = some (a, oa)) :
    ∃ fls f, FSys.run T FSys.init fls = some (f, oa) ∧ Quiet f ∧ a = abs T f f.armed.isSome ∧ pend T f = [] := by
  rw [← absQ_init T] at h
  obtain ⟨fls, f, h1, q, e⟩ := conv_run T hT ls FSys.init FInv_init quiet_init a oa h
  exact ⟨fls, f, h1, q, e, pend_quiescent T f q.pc⟩

example : (Sys.run handTable Cfg.fixed Sys.init
    [.enterRead, .read 0x1B, .enterRead, .timerExpire, .read 0x5B, .enterRead, .read 0x41, .cbRun false]).map (·.2) =
    some [.csi [] [] 0x41] := by decide

/-- **Emitting statements are serialised** (what the bounded-channel layer `Model/ParserRunChan.lean`
    takes for granted): in every reachable state in which a callback is at its `emit(C0 0x1B)`, the main
    goroutine is at neither of its emitting statements (`anywhere` under the mutex, `emit(EOF{})` after the
    final generation bump) and no other callback is at its `emit` — so at most one goroutine is ever
    sending, or blocked sending, on `p.sequences`. -/
theorem fine_single_emitter (T : Table) (hT : TimerOk T) (fls : List FLabel) (f : FSys) (out : List Seq)
    (h : FSys.run T FSys.init fls = some (f, out)) (i g : Nat) (hi : f.cbs[i]? = some (g, .passed)) :
    (∀ inp, f.mpc ≠ .bumped inp) ∧ (∀ v, f.mpc ≠ .fin .emit v) ∧
    (∀ j g', f.cbs[j]? = some (g', .passed) → j = i) := by
  have hinv := run_inv T hT fls _ f out FInv_init h
  exact single_emitter f hinv i g hi

example : (FSys.run handTable FSys.init
    [.main, .readRet (.rune 0x1B), .main, .main, .main, .main, .main, .main, .expire, .cb 0, .cb 0]).map
      (fun x => x.1.cbs[0]?) = some (some (1, .passed)) := by decide

/-- **The mutex is never held for ever**: in every reachable state in which the main goroutine is
    neither blocked in the read nor finished, its next statement is enabled, or — it is waiting in
    `Lock` — the callback that holds the mutex can take its next statement (and a callback's critical
    section is at most five statements, none of which can block in this model: `emit` is the channel
    send, see the consumer assumption). -/
theorem fine_no_deadlock (T : Table) (hT : TimerOk T) (fls : List FLabel) (f : FSys) (out : List Seq)
    (h : FSys.run T FSys.init fls = some (f, out)) (h1 : f.mpc ≠ .inRead) (h2 : f.mpc ≠ .done) :
    (FSys.step T f .main).isSome = true ∨ ∃ i, (FSys.step T f (.cb i)).isSome = true := by
  have hinv := run_inv T hT fls _ f out FInv_init h
  exact no_deadlock T f hinv h1 h2

/-- … and only a callback reports Escape: no statement of the main goroutine (nor `Close()`, a read
    return or a timer expiry) emits `C0 0x1B` — ESC is intercepted by `anywhere`, whose arm has no
    `execute`. -/
theorem fine_only_callbacks_report_escape (f f' : FSys) (l : FLabel) (o : List Seq)
    (hl : ∀ i, l ≠ .cb i) (hs : FSys.step handTable f l = some (f', o)) : Seq.c0 0x1B ∉ o := by
  cases fstep_rel hs with
  | cb i _ => exact absurd rfl (hl i)
  | main hm =>
    cases hm
    case anywhere i _ => exact pstep_no_esc_key f.ps i
    all_goals simp
  | _ => simp

example : (FSys.step handTable { FSys.init with mpc := .bumped (.rune 0x41) } .main).map (·.2) = some [.print 0x41] := by
  decide

/-- **The generation check is what makes this true** (the mutex alone does not): with a callback that
    locks but does not compare generations, the same statement-grained system reports Escape *after* the
    sequence `ESC [ A` has been delivered, and sends on the closed channel when the input ends first —
    while the real callback, on the same schedules, does neither. -/
theorem fine_needs_generation_check :
    ((FSys.runNoCheck handTable FSys.init
        [.main, .readRet (.rune 0x1B), .main, .main, .main, .main, .main, .main, .expire,
         .readRet (.rune 0x5B), .main, .main, .main, .main, .main,
         .main, .readRet (.rune 0x41), .main, .main, .main, .main, .main, .cb 0, .cb 0, .cb 0]).map (·.2)
      = some [.csi [] [] 0x41, .c0 0x1B]) ∧
    ((FSys.run handTable FSys.init
        [.main, .readRet (.rune 0x1B), .main, .main, .main, .main, .main, .main, .expire,
         .readRet (.rune 0x5B), .main, .main, .main, .main, .main,
         .main, .readRet (.rune 0x41), .main, .main, .main, .main, .main, .cb 0, .cb 0, .cb 0]).map (·.2)
      = some [.csi [] [] 0x41]) ∧
    ((FSys.runNoCheck handTable FSys.init
        [.main, .readRet (.rune 0x1B), .main, .main, .main, .main, .main, .main, .expire,
         .readRet .eof, .main, .main, .main, .main, .main, .main, .main, .main, .main, .main, .main,
         .cb 0, .cb 0, .cb 0]).map (·.2) = some [.eof, .panic]) ∧
    ((FSys.run handTable FSys.init
        [.main, .readRet (.rune 0x1B), .main, .main, .main, .main, .main, .main, .expire,
         .readRet .eof, .main, .main, .main, .main, .main, .main, .main, .main, .main, .main, .main,
         .cb 0, .cb 0, .cb 0]).map (·.2) = some [.eof]) := by decide

/-- `ESC`, the loop blocks in the next read, the timer expires, its callback runs statement by
    statement: one Escape report. -/
example : (FSys.run handTable FSys.init
    [.main, .readRet (.rune 0x1B), .main, .main, .main, .main, .main, .main, .expire,
     .cb 0, .cb 0, .cb 0, .cb 0, .cb 0, .cb 0]).map (fun x => (x.2, x.1.ps.state, x.1.mutex)) =
    some ([.c0 0x1B], .ground, none) := by decide

/-- The F29 race, statement by statement: the timer expires, the callback goroutine is delayed until
    the next read has returned and the main goroutine has taken the mutex; the callback blocks
    (`cb 0` is not enabled), then fails its check: `CSI A` only, no Escape report. -/
example : (FSys.run handTable FSys.init
    [.main, .readRet (.rune 0x1B), .main, .main, .main, .main, .main, .main, .expire,
     .readRet (.rune 0x5B), .main, .main]).bind (fun x => FSys.step handTable x.1 (.cb 0)) = none := by decide

example : (FSys.run handTable FSys.init
    [.main, .readRet (.rune 0x1B), .main, .main, .main, .main, .main, .main, .expire,
     .readRet (.rune 0x5B), .main, .main, .main, .main, .main, .cb 0, .cb 0, .cb 0,
     .main, .readRet (.rune 0x41), .main, .main, .main, .main, .main]).map (·.2) =
    some [.csi [] [] 0x41] := by decide

/-- The callback takes the mutex first: the main goroutine's `Lock` is not enabled, the callback can move. -/
example : (FSys.run handTable FSys.init
    [.main, .readRet (.rune 0x1B), .main, .main, .main, .main, .main, .main, .expire,
     .readRet (.rune 0x5B), .main, .cb 0]).map
      (fun x => ((FSys.step handTable x.1 .main).isSome, (FSys.step handTable x.1 (.cb 0)).isSome)) =
    some (false, true) := by decide

/-- A callback started before the end of input and run after `close(p.sequences)`: nothing is sent. -/
example : (FSys.run handTable FSys.init
    [.main, .readRet (.rune 0x1B), .main, .main, .main, .main, .main, .main, .expire,
     .readRet .eof, .main, .main, .main, .main, .main, .main, .main, .main, .main, .main, .main,
     .cb 0, .cb 0, .cb 0]).map (fun x => (x.2, x.1.chanClosed, x.1.mpc)) = some ([.eof], true, .done) := by decide

/-- **F29 at the grain of single statements**: with the callback as it was before the repair
    (`emit(C0 0x1B)` outside the mutex and without a generation check, then `Lock; state = ground;
    ignoreST = false; Unlock`) the statement-grained system (a) reports Escape after `ESC [ A` has been
    delivered as a CSI, (b) tears the sequence when the callback runs between `[` and `A` (`C0 1B`, then
    `A` printed from ground), (c) sends on the closed channel when it runs after `run` has finished;
    the repaired callback, on the same schedules with its own statements, does none of this
    (`fine_escape_report_is_lone_esc`, `fine_no_send_on_closed`, `fine_no_panic`). -/
theorem fine_pre_F29_callback_fails :
    ((FSys.runOld handTable FSys.init
        [.main, .readRet (.rune 0x1B), .main, .main, .main, .main, .main, .main, .expire,
         .readRet (.rune 0x5B), .main, .main, .main, .main, .main,
         .main, .readRet (.rune 0x41), .main, .main, .main, .main, .main,
         .cb 0, .cb 0, .cb 0, .cb 0, .cb 0]).map (·.2) = some [.csi [] [] 0x41, .c0 0x1B]) ∧
    ((FSys.runOld handTable FSys.init
        [.main, .readRet (.rune 0x1B), .main, .main, .main, .main, .main, .main, .expire,
         .readRet (.rune 0x5B), .main, .main, .main, .main, .main, .cb 0, .cb 0, .cb 0, .cb 0, .cb 0,
         .main, .readRet (.rune 0x41), .main, .main, .main, .main, .main]).map (·.2) = some [.c0 0x1B, .print 0x41]) ∧
    ((FSys.runOld handTable FSys.init
        [.main, .readRet (.rune 0x1B), .main, .main, .main, .main, .main, .main, .expire,
         .readRet .eof, .main, .main, .main, .main, .main, .main, .main, .main, .main, .main, .main,
         .cb 0]).map (·.2) = some [.eof, .panic]) := by
  refine ⟨?_, ?_, ?_⟩ <;> decide +kernel

end VaxisModel.Props.C08Fine
