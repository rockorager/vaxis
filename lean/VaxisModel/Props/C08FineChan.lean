/-
C08 — the life cycle with the **bounded channel on the statement-grained system**: every
`emit` of every goroutine blocks while `p.sequences` is full; a timer callback blocked in
`emit(C0 0x1B)` holds `p.mu`, and so does the main goroutine blocked in an `emit` inside `anywhere`
(model: Model/ParserRunFineChan.lean; lemmas: Lemmas/ParserRunFineChan.lean).
-/
import VaxisModel.Lemmas.ParserRunFineChan
import VaxisModel.Props.C08Fine
import VaxisModel.Props.C08Spec

namespace VaxisModel.Props.C08FineChan
open VaxisModel.Model.ParserTable VaxisModel.Model.Parser VaxisModel.Model.ParserRun VaxisModel.Model.ParserRunFine
open VaxisModel.Model.ParserRunFineChan VaxisModel.Lemmas.ParserRunFine VaxisModel.Lemmas.ParserRunFineChan

/-- **Bounded channel ⊑ statement-grained system, nothing lost / duplicated / reordered.**  Every
    schedule of single statements of all goroutines, of sends that go through when there is room and
    of receives by the consumer — with every `emit` blocking on a full channel — projects (drop
    `send`/`recv`) to a run of the statement-grained system without channel, and what the consumer has
    received, followed by what is queued, followed by what `anywhere` still has to send, is exactly
    the output of that run, in order.  The channel never holds more than `cap` items.  Hence every
    theorem of `Props/C08Fine.lean` about outputs (and, through `fine_refines_atomic`, of
    `Props/C08.lean` / `C08Spec.lean`) speaks about what the consumer receives. -/
theorem fchan_refines_fine (T : Table) (hT : TimerOk T) (cap : Nat) (ls : List FCLabel) (s : FCSys)
    (h : FCSys.run T cap FCSys.init ls = some s) :
    ∃ out, FSys.run T FSys.init (stmtLabels ls) = some (s.f, out) ∧ s.recvd ++ s.chan ++ s.pend = out ∧
      s.chan.length ≤ cap := by
  obtain ⟨hci, out, h1, h2⟩ := run_proj T hT cap ls FCSys.init s (CI_init cap) h
  exact ⟨out, h1, by simpa [FCSys.init] using h2, hci.bound⟩

/-- **Exactly one EOF, received last; nothing before `run` is past its `emit(EOF{})`** — with blocking
    emits, in every interleaving: when everything is over (`run` returned, all sent, all received) the
    consumer has `pre ++ [EOF]` with no EOF in `pre`; as long as the main goroutine has not executed
    `emit(EOF{})` there is no EOF anywhere (received, queued or pending) and the channel is open;
    the channel is closed only when `run` is done. -/
theorem fchan_eof_received_last (T : Table) (hT : TimerOk T) (cap : Nat) (ls : List FCLabel) (s : FCSys)
    (h : FCSys.run T cap FCSys.init ls = some s) :
    (s.finished → ∃ pre, s.recvd = pre ++ [.eof] ∧ Seq.eof ∉ pre) ∧
    (¬ ((∃ v, s.f.mpc = .fin .close v) ∨ s.f.mpc = .done) →
      Seq.eof ∉ s.recvd ++ s.chan ++ s.pend ∧ s.f.chanClosed = false) ∧
    (s.f.chanClosed = true → s.f.mpc = .done) := by
  obtain ⟨out, h1, h2, _⟩ := fchan_refines_fine T hT cap ls s h
  obtain ⟨e1, e2, e3⟩ := VaxisModel.Props.C08Fine.fine_eof_once_last T hT _ s.f out h1
  refine ⟨?_, ?_, e1⟩
  · rintro ⟨hd, hp, hc⟩
    obtain ⟨pre, hpre, hno⟩ := e2 (Or.inr hd)
    exact ⟨pre, by rw [← hpre, ← h2, hp, hc]; simp, hno⟩
  · intro hn
    rw [h2]
    exact e3 hn

/-- **No panic reaches the consumer, nor is one in flight** (the parser's table, any capacity): no
    nil `p.exit()`, no action on the rune of `eof`, no send on the closed channel — in any
    interleaving with blocking emits. -/
theorem fchan_no_panic (cap : Nat) (ls : List FCLabel) (s : FCSys)
    (h : FCSys.run handTable cap FCSys.init ls = some s) : Seq.panic ∉ s.recvd ++ s.chan ++ s.pend := by
  obtain ⟨out, h1, h2, _⟩ := fchan_refines_fine handTable handTable_timerOk cap ls s h
  rw [h2]
  exact VaxisModel.Props.C08Fine.fine_no_panic _ s.f out h1

/-- **A callback blocked in `emit` holds the mutex — and one receive unblocks it.**  Reachable state,
    capacity ≥ 1, callback `i` at its `emit(C0 0x1B)`, channel full: its statement is not enabled; the
    mutex is held by a callback; the main goroutine is outside its critical sections, nothing of
    `anywhere` is pending, and if the main goroutine is in front of a `Lock` (after a read returned,
    or after the loop) it is blocked as well; no other callback goroutine can take a step; the
    consumer can receive, and after one receive the `emit` is enabled. -/
theorem fchan_blocked_callback_holds_mutex (T : Table) (hT : TimerOk T) (cap : Nat) (hcap : 0 < cap)
    (ls : List FCLabel) (s : FCSys) (h : FCSys.run T cap FCSys.init ls = some s) (i g : Nat)
    (hi : s.f.cbs[i]? = some (g, .passed)) (hfull : s.chan.length = cap) :
    FCSys.step T cap s (.stmt (.cb i)) = none ∧ s.f.mutex = some .cb ∧ holdsMain s.f.mpc = false ∧ s.pend = [] ∧
    ((∃ inp, s.f.mpc = .stopped inp) ∨ (∃ v, s.f.mpc = .fin .lock v) → FCSys.step T cap s (.stmt .main) = none) ∧
    (∀ j, j ≠ i → FCSys.step T cap s (.stmt (.cb j)) = none) ∧
    (∃ s1, FCSys.step T cap s .recv = some s1 ∧ (FCSys.step T cap s1 (.stmt (.cb i))).isSome = true) :=
  blocked_callback T cap hcap s (run_proj T hT cap ls FCSys.init s (CI_init cap) h).1 i g hi hfull

/-- **The main goroutine blocked in an `emit` inside `anywhere` holds the mutex**: while items of the
    current `anywhere` call are still to be sent, its `Unlock` is not enabled, the mutex is its, and no
    callback goroutine can take a step (a started one waits in `Lock`; none is past it). -/
theorem fchan_blocked_main_holds_mutex (T : Table) (hT : TimerOk T) (cap : Nat) (ls : List FCLabel) (s : FCSys)
    (h : FCSys.run T cap FCSys.init ls = some s) (hpend : s.pend ≠ []) :
    FCSys.step T cap s (.stmt .main) = none ∧ s.f.mutex = some .main ∧
    (∀ j, FCSys.step T cap s (.stmt (.cb j)) = none) :=
  blocked_main T cap s (run_proj T hT cap ls FCSys.init s (CI_init cap) h).1 hpend

/-- **No deadlock with a consumer that keeps receiving** (capacity ≥ 1): in every reachable state in
    which the main goroutine is not waiting for input and not everything is over, a transition is
    enabled — a statement of the main goroutine, a statement of a callback, a pending send, or a
    receive.  (A blocked `emit` always leaves `recv` enabled; the holder of the mutex can always move
    once its `emit` went through.) -/
theorem fchan_no_deadlock (T : Table) (hT : TimerOk T) (cap : Nat) (hcap : 0 < cap) (ls : List FCLabel) (s : FCSys)
    (h : FCSys.run T cap FCSys.init ls = some s) (h1 : s.f.mpc ≠ .inRead) (h2 : ¬ s.finished) :
    (FCSys.step T cap s (.stmt .main)).isSome = true ∨ (∃ i, (FCSys.step T cap s (.stmt (.cb i))).isSome = true) ∨
    (FCSys.step T cap s .send).isSome = true ∨ (FCSys.step T cap s .recv).isSome = true :=
  chan_no_deadlock T cap hcap s (run_proj T hT cap ls FCSys.init s (CI_init cap) h).1 h1 h2

/-- **Three layers composed: what the consumer receives is what the Spec prescribes.**  The parser's
    table, any channel capacity, any interleaving of single statements of all goroutines with blocking
    emits, sends and receives: whenever the main goroutine is at the `select`, blocked in the read or
    has returned, there is a schedule of atomic life-cycle labels (reads, end of input, `Close()`,
    timer firings, late callbacks) for which the reference machine of `Spec/VT500.lean` prescribes
    exactly the items received so far followed by those still queued (`error` reports dropped): runes
    through the VT500 machine, the Escape key exactly at up-to-date timer firings, the open control
    string at end of input, one `EOF{}`.  (`fchan_refines_fine` ∘ `fine_refines_atomic` ∘
    `lifecycle_refines_spec`.) -/
theorem fchan_refines_spec (cap : Nat) (ls : List FCLabel) (s : FCSys)
    (h : FCSys.run handTable cap FCSys.init ls = some s)
    (hq : s.f.mpc = .atSelect ∨ s.f.mpc = .inRead ∨ s.f.mpc = .done) :
    ∃ als : List Label,
      VaxisModel.Lemmas.ParserRefine.noErr (s.recvd ++ s.chan) = (VaxisModel.Lemmas.ParserRunSpec.specLabels {} als).2 ∧
      s.pend = [] := by
  obtain ⟨hci, out, h1, h2⟩ := run_proj handTable handTable_timerOk cap ls FCSys.init s (CI_init cap) h
  have hp : s.pend = [] := by
    cases hpe : s.pend with
    | nil => rfl
    | cons x p =>
      obtain ⟨b, hb⟩ := hci.pendAt (by rw [hpe]; simp)
      rcases hq with h | h | h <;> rw [hb] at h <;> cases h
  obtain ⟨als, b, oa, g1, g2, g3⟩ := VaxisModel.Props.C08Fine.fine_refines_atomic handTable handTable_timerOk _ s.f out h1
  have hpend := g3 hq
  have hspec := (VaxisModel.Props.C08Spec.lifecycle_refines_spec als _ oa g1).1
  refine ⟨als, ?_, hp⟩
  rw [← hspec, g2, hpend, List.append_nil]
  have : s.recvd ++ s.chan = out := by
    have := h2
    simp only [FCSys.init, List.append_nil, List.nil_append, hp] at this
    exact this
  rw [this]

/-- Non-vacuity of `fchan_blocked_callback_holds_mutex`, capacity 2 (the code's), the parser's table:
    `A`, `B` are printed and not received (channel full), a lone ESC, its timer expires, the callback
    locks, passes the check — and is blocked in `emit` holding the mutex, while the next read has
    already returned and the main goroutine has stopped in front of `Lock`. -/
def blockedSchedule : List FCLabel :=
  [.stmt .main, .stmt (.readRet (.rune 0x41)), .stmt .main, .stmt .main, .stmt .main, .stmt .main, .send, .stmt .main,
   .stmt .main, .stmt (.readRet (.rune 0x42)), .stmt .main, .stmt .main, .stmt .main, .stmt .main, .send, .stmt .main,
   .stmt .main, .stmt (.readRet (.rune 0x1B)), .stmt .main, .stmt .main, .stmt .main, .stmt .main, .stmt .main,
   .stmt .main, .stmt .expire, .stmt (.cb 0), .stmt (.cb 0), .stmt (.readRet (.rune 0x5B)), .stmt .main]

theorem fchan_blocked_callback_reachable :
    (match FCSys.run handTable 2 FCSys.init blockedSchedule with
     | some s =>
       decide (s.f.cbs[0]? = some (3, .passed)) && decide (s.chan = [.print 0x41, .print 0x42]) &&
       decide (s.f.mutex = some .cb) && decide (s.f.mpc = .stopped (.rune 0x5B)) &&
       (FCSys.step handTable 2 s (.stmt (.cb 0))).isNone && (FCSys.step handTable 2 s (.stmt .main)).isNone
     | none => false) = true ∧
    -- the consumer receives one item: the Escape report goes through, then `[` is parsed from ground
    (match FCSys.run handTable 2 FCSys.init
        (blockedSchedule ++ [.recv, .stmt (.cb 0), .stmt (.cb 0), .stmt (.cb 0), .stmt (.cb 0), .stmt .main]) with
     | some s =>
       decide (s.recvd = [.print 0x41]) && decide (s.chan = [.print 0x42, .c0 0x1B]) &&
       decide (s.f.mutex = some .main) && decide (s.f.ps.state = .ground)
     | none => false) = true := by
  constructor <;> decide +kernel

end VaxisModel.Props.C08FineChan
