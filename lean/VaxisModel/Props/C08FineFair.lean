/-
C08 — **fair-run termination at the grain of single statements, with the bounded channel**
(`FCSys`, Model/ParserRunFineChan.lean): what `Props/C08Live.lean` proves on the atomic layer, where nothing is
atomic — every `Lock`, `escGen++`, `emit`, `Unlock` of the main goroutine and of every timer-callback goroutine
is a transition of its own, every `emit` blocks on a full channel, a callback blocked in `emit` holds `p.mu`.

The scheduler `fdrive` (Model/ParserRunFineFair.lean) takes, in every state, the first enabled label
of `pol s sc ++ [send, recv, callback holding the mutex, main, read return, Lock of a callback]`; its
parameter `pol : Policy` is an **arbitrary** function of the state and of the rest of the reader's
script (only `Close()` and read returns that are not the next scripted input are filtered out).  All theorems
quantify over every `pol`: every fair schedule that is produced by some policy, with callbacks in
flight at any point.
-/
import VaxisModel.Lemmas.ParserRunFineFair
import VaxisModel.Props.C08FineChan

namespace VaxisModel.Props.C08FineFair
open VaxisModel.Model.ParserTable VaxisModel.Model.Parser VaxisModel.Model.ParserRun VaxisModel.Model.ParserRunFine
open VaxisModel.Model.ParserRunFineChan VaxisModel.Model.ParserRunFineFair
open VaxisModel.Lemmas.ParserRunFine VaxisModel.Lemmas.ParserRunFineChan VaxisModel.Lemmas.ParserRunFineFair

/-- **Every transition the scheduler may take decreases the measure** (any table, any capacity, any
    state): a statement of the main goroutine or of a callback goroutine, a timer expiry, a send, a
    receive, the return of the next scripted read — everything but `Close()`.  The measure counts the
    statements still to be executed (per remaining input: 7 of the main goroutine, the items one
    `anywhere` may emit, a timer and its callback), two transitions per item to be sent, one per
    queued item.  This is what makes the run finite under *every* policy. -/
theorem fchan_step_decreases_measure (T : Table) (cap : Nat) (s s' : FCSys) (l : FCLabel) (sc : List Inp)
    (h : FCSys.step T cap s l = some s') (hal : allowed sc l = true) :
    mu (tableBound T) s' (consume sc l) < mu (tableBound T) s sc :=
  step_dec T (tableBound T) (step_out_le T) cap s s' l sc h hal

theorem fcRun_snoc (T : Table) (cap : Nat) {a s s' : FCSys} {ls : List FCLabel} {l : FCLabel}
    (hr : FCSys.run T cap a ls = some s) (hs : FCSys.step T cap s l = some s') :
    FCSys.run T cap a (ls ++ [l]) = some s' := by
  rw [(fcRun_isRun T cap).append_of_eq_some hr]
  simp only [FCSys.run, hs]

/-- **Where a fair run ends.**  From a reachable state `s0` (by `ls0`) that meets `E` for the script `sc` still to be
    read, with more fuel than the measure: the scheduler stops in a state where `run` has returned, the channel is
    closed and drained, every callback goroutine is gone, mutex and timer are free, and the consumer has
    `pre ++ [EOF]`; its trace runs from `s0` (and, behind `ls0`, from the start) and is no longer than the measure. -/
theorem fair_run_ends_quiet (T : Table) (hT : TimerOk T) (cap : Nat) (hcap : 0 < cap) (pol : Policy) (fuel : Nat)
    (ls0 : List FCLabel) (s0 : FCSys) (sc : List Inp) (hr0 : FCSys.run T cap FCSys.init ls0 = some s0) (hE : E s0.f sc)
    (hf : mu (tableBound T) s0 sc < fuel) :
    let e := fdrive T cap pol fuel s0 sc
    let tr := ftrace T cap pol fuel s0 sc
    (e.f.mpc = .done ∧ e.f.chanClosed = true ∧ e.chan = [] ∧ e.pend = [] ∧ (∀ c ∈ e.f.cbs, c.2 = .gone) ∧
      e.f.mutex = none ∧ e.f.armed = none) ∧
    (∃ pre, e.recvd = pre ++ [.eof] ∧ Seq.eof ∉ pre) ∧
    FCSys.run T cap s0 tr = some e ∧ FCSys.run T cap FCSys.init (ls0 ++ tr) = some e ∧
    tr.length ≤ mu (tableBound T) s0 sc := by
  intro e tr
  have hci0 := (run_proj T hT cap ls0 FCSys.init s0 (CI_init cap) hr0).1
  obtain ⟨⟨hd, hp, hc, hg⟩, hE'⟩ := fdrive_final T hT (tableBound T) (step_out_le T) cap hcap pol fuel s0 sc hci0 hE hf
  have hrun : FCSys.run T cap s0 tr = some e := fdrive_is_run T cap pol fuel _ _
  have hfull : FCSys.run T cap FCSys.init (ls0 ++ tr) = some e := by
    rw [(fcRun_isRun T cap).append_of_eq_some hr0]; exact hrun
  obtain ⟨hm, ha⟩ := final_quiet e.f (run_proj T hT cap _ FCSys.init e (CI_init cap) hfull).1.inv hd hg
  exact ⟨⟨hd, hE'.dc hd, hc, hp, hg, hm, ha⟩,
    (VaxisModel.Props.C08FineChan.fchan_eof_received_last T hT cap _ e hfull).1 ⟨hd, hp, hc⟩, hrun, hfull,
    ftrace_length T (tableBound T) (step_out_le T) cap pol fuel s0 sc⟩

/-- **Fair-run termination at statement grain** — any table that meets `TimerOk` (the parser's does),
    channel capacity ≥ 1, **every** finite input `rs` followed by end of input, **every** policy
    (timer expiries and callbacks in flight wherever the policy puts them): with fuel ≥
    `stepBound (tableBound T) |rs|` = `(24 + 2·B)·(|rs| + 1) + 10` the scheduler stops by itself (its
    trace is shorter than the bound: no fuel exhaustion) in a state where `run` has returned, the
    channel is closed and empty, nothing is pending, every callback goroutine that was started has
    returned, the mutex is free, no timer is pending, and the consumer has received `pre ++ [EOF]`
    with no EOF in `pre`.  The trace is a run of the layer; its statements are a run of the
    statement-grained system without channel whose output is exactly what the consumer received
    (nothing lost, duplicated or reordered); the reads of the trace are a prefix of the script. -/
theorem fchan_fair_run_terminates (T : Table) (hT : TimerOk T) (cap : Nat) (hcap : 0 < cap) (pol : Policy)
    (rs : List Nat) (fuel : Nat) (hf : stepBound (tableBound T) rs.length ≤ fuel) :
    let s := fdrive T cap pol fuel FCSys.init (inputScript rs)
    let tr := ftrace T cap pol fuel FCSys.init (inputScript rs)
    (s.f.mpc = .done ∧ s.f.chanClosed = true ∧ s.chan = [] ∧ s.pend = [] ∧ (∀ c ∈ s.f.cbs, c.2 = .gone) ∧
      s.f.mutex = none ∧ s.f.armed = none) ∧
    (∃ pre, s.recvd = pre ++ [.eof] ∧ Seq.eof ∉ pre) ∧
    FCSys.run T cap FCSys.init tr = some s ∧ tr.length < stepBound (tableBound T) rs.length ∧
    FSys.run T FSys.init (stmtLabels tr) = some (s.f, s.recvd) ∧
    readsOf tr ++ frest T cap pol fuel FCSys.init (inputScript rs) = inputScript rs := by
  intro s tr
  have hmu := mu_init (tableBound T) rs
  obtain ⟨hq, heof, hrun, _, (hlen : tr.length ≤ _)⟩ := fair_run_ends_quiet T hT cap hcap pol fuel [] FCSys.init
    (inputScript rs) rfl (E_init rs) (by omega)
  obtain ⟨out, h1, h2, _⟩ := VaxisModel.Props.C08FineChan.fchan_refines_fine T hT cap tr s hrun
  refine ⟨hq, heof, hrun, by omega, ?_, ftrace_reads T cap pol fuel _ _⟩
  rw [h1, ← h2, hq.2.2.1, hq.2.2.2.1, List.append_nil, List.append_nil]

/-- More fuel than the bound changes nothing (the scheduler has stopped by itself): end state and
    trace are those of `fuel = stepBound …`. -/
theorem fchan_fair_run_fuel_irrelevant (T : Table) (hT : TimerOk T) (cap : Nat) (pol : Policy) (rs : List Nat)
    (fuel : Nat) (hf : stepBound (tableBound T) rs.length ≤ fuel) :
    fdrive T cap pol fuel FCSys.init (inputScript rs) =
      fdrive T cap pol (stepBound (tableBound T) rs.length) FCSys.init (inputScript rs) ∧
    ftrace T cap pol fuel FCSys.init (inputScript rs) =
      ftrace T cap pol (stepBound (tableBound T) rs.length) FCSys.init (inputScript rs) := by
  have hmu := mu_init (tableBound T) rs
  have := fdrive_stable T (tableBound T) (step_out_le T) cap pol (stepBound (tableBound T) rs.length) FCSys.init
    (inputScript rs) (by omega) (fuel - stepBound (tableBound T) rs.length)
  rwa [Nat.add_sub_cancel' hf] at this

/-- … **with the constants of the code**: the parser's table (row for row the regenerated one: `C02.hand_table_eq_gen`; `tableBound` = 9), the
    regenerated channel capacity `chanCap` (2): every finite input, every policy, at most
    `42·(|rs| + 1) + 10` transitions.  Here moreover **every input of the script is read** (no rune
    ends the loop: the reads of the trace are exactly `rs` then `eof`), and what the consumer has
    received is what the reference machine of `Spec/VT500.lean` prescribes for some schedule of atomic
    life-cycle labels (`fchan_refines_spec`). -/
theorem fchan_fair_run_terminates_code (pol : Policy) (rs : List Nat) (fuel : Nat)
    (hf : 42 * (rs.length + 1) + 10 ≤ fuel) :
    let s := fdrive handTable Gen.ParserTable.chanCap pol fuel FCSys.init (inputScript rs)
    let tr := ftrace handTable Gen.ParserTable.chanCap pol fuel FCSys.init (inputScript rs)
    (s.f.mpc = .done ∧ s.f.chanClosed = true ∧ s.chan = [] ∧ s.pend = [] ∧ (∀ c ∈ s.f.cbs, c.2 = .gone) ∧
      s.f.mutex = none ∧ s.f.armed = none) ∧
    (∃ pre, s.recvd = pre ++ [.eof] ∧ Seq.eof ∉ pre) ∧
    FCSys.run handTable Gen.ParserTable.chanCap FCSys.init tr = some s ∧ tr.length < 42 * (rs.length + 1) + 10 ∧
    FSys.run handTable FSys.init (stmtLabels tr) = some (s.f, s.recvd) ∧
    readsOf tr = inputScript rs ∧
    (∃ als : List Label,
      VaxisModel.Lemmas.ParserRefine.noErr s.recvd = (VaxisModel.Lemmas.ParserRunSpec.specLabels {} als).2) := by
  intro s tr
  have h := fchan_fair_run_terminates handTable handTable_timerOk Gen.ParserTable.chanCap (by decide) pol rs fuel
    (by rw [hand_tableBound]; simpa [stepBound] using hf)
  rw [hand_tableBound] at h
  obtain ⟨h1, h2, h3, h4, h5, h6⟩ := h
  have hR := fdrive_reads_all Gen.ParserTable.chanCap pol fuel FCSys.init (inputScript rs) ⟨[], [], rfl⟩ NS_init
    (R_init rs)
  have hrest := hR.pe (by rw [h1.1]; rfl)
  rw [hrest, List.append_nil] at h6
  obtain ⟨als, ha, _⟩ := VaxisModel.Props.C08FineChan.fchan_refines_spec Gen.ParserTable.chanCap tr s h3
    (Or.inr (Or.inr h1.1))
  rw [h1.2.2.1, List.append_nil] at ha
  exact ⟨h1, h2, h3, by simpa [stepBound] using h4, h5, h6, als, ha⟩

-- non-vacuity (`fchan_fair_run_terminates_code`, fuel = the bound for 3 runes = 178): ESC [ A, with a long
-- pause in front of every read (`expireInRead`): the timer of the ESC expires while the main goroutine is
-- blocked in the read, its callback runs statement by statement (Lock, check, emit, state, ignoreST,
-- Unlock) before `[` arrives: Escape key, then `[`, `A` printed, EOF; 47 transitions.
example :
    (let s := fdrive handTable Gen.ParserTable.chanCap expireInRead 178 FCSys.init (inputScript [0x1B, 0x5B, 0x41])
     (s.recvd, s.f.mpc, s.f.cbs, s.chan, s.pend) = ([.c0 0x1B, .print 0x5B, .print 0x41, .eof], .done, [(1, .gone)], [], []) ∧
     (s.f.chanClosed, s.f.mutex, s.f.armed) = (true, none, none)) ∧
    (ftrace handTable Gen.ParserTable.chanCap expireInRead 178 FCSys.init (inputScript [0x1B, 0x5B, 0x41])).length = 47 ∧
    42 * ([0x1B, 0x5B, 0x41].length + 1) + 10 = 178 := by
  decide +kernel
-- the same input, the timer expires in the read but the callback goroutine only gets to run after the
-- main goroutine (`expireLate`): it is in flight during the whole rest of the run, finds its generation
-- out of date and returns without emitting: CSI A, EOF; the callback is `gone` at the end.
example :
    (let s := fdrive handTable Gen.ParserTable.chanCap expireLate 178 FCSys.init (inputScript [0x1B, 0x5B, 0x41])
     (s.recvd, s.f.mpc, s.f.cbs, s.chan, s.pend, s.f.chanClosed) = ([.csi [] [] 0x41, .eof], .done, [(1, .gone)], [], [], true)) ∧
    (ftrace handTable Gen.ParserTable.chanCap expireLate 178 FCSys.init (inputScript [0x1B, 0x5B, 0x41])).length = 41 := by
  decide +kernel
-- no timer expires (`noExpiry`): no callback goroutine at all
example :
    (let s := fdrive handTable Gen.ParserTable.chanCap noExpiry 178 FCSys.init (inputScript [0x1B, 0x5B, 0x41])
     (s.recvd, s.f.mpc, s.f.cbs, s.chan, s.pend, s.f.chanClosed)) =
    ([.csi [] [] 0x41, .eof], .done, [], [], [], true) := by
  decide +kernel
-- non-vacuity (`fchan_fair_run_terminates`, capacity 1, fuel = stepBound 9 4 = 220): ESC ] a ESC with pauses —
-- two callbacks in flight one after the other (generations 1 and 4), both report
example :
    (let s := fdrive handTable 1 expireInRead 220 FCSys.init (inputScript [0x1B, 0x5D, 0x61, 0x1B])
     (s.recvd, s.f.mpc, s.f.cbs, s.chan, s.pend, s.f.chanClosed) =
      ([.c0 0x1B, .print 0x5D, .print 0x61, .c0 0x1B, .eof], .done, [(1, .gone), (4, .gone)], [], [], true)) ∧
    stepBound (tableBound handTable) 4 = 220 := by
  decide +kernel

/-- **After `Close()`, once the pending read has returned, `run` stops — and never reads again.**
    Any `TimerOk` table, capacity ≥ 1, **every reachable** state of the layer in which the main
    goroutine is blocked in the read and `Close()` has been called (`closeReq`; `closeSig` at any
    earlier point of the read), any return of the read (`readRet i`: a rune or `eof`/an error), any
    policy, no further input: within `closeBound B |cbs| |chan|` = `2·B + 33 + 8·|cbs| + |chan|`
    transitions the scheduler stops by itself with `run` returned, the channel closed and empty, every
    callback goroutine returned, the mutex free, no timer pending, and the consumer has `pre ++ [EOF]`
    with no EOF in `pre`; the trace contains no read.  And in **every** schedule whatsoever from that
    point (not only the fair ones; further `Close()` calls, timer expiries, anything) the main
    goroutine is never in the read again: at the `select` it takes the `<-p.close` arm. -/
theorem fchan_close_then_read_stops (T : Table) (hT : TimerOk T) (cap : Nat) (hcap : 0 < cap) (ls0 : List FCLabel)
    (s : FCSys) (hr : FCSys.run T cap FCSys.init ls0 = some s) (hpc : s.f.mpc = .inRead)
    (hcl : s.f.closeReq = true) (i : Inp) (pol : Policy) (fuel : Nat)
    (hf : closeBound (tableBound T) s.f.cbs.length s.chan.length ≤ fuel) :
    ∃ s1, FCSys.step T cap s (.stmt (.readRet i)) = some s1 ∧ s1.f.mpc = .readDone i ∧
      (let e := fdrive T cap pol fuel s1 []
       let tr := ftrace T cap pol fuel s1 []
       (e.f.mpc = .done ∧ e.f.chanClosed = true ∧ e.chan = [] ∧ e.pend = [] ∧ (∀ c ∈ e.f.cbs, c.2 = .gone) ∧
         e.f.mutex = none ∧ e.f.armed = none) ∧
       (∃ pre, e.recvd = pre ++ [.eof] ∧ Seq.eof ∉ pre) ∧
       FCSys.run T cap s1 tr = some e ∧ tr.length < closeBound (tableBound T) s.f.cbs.length s.chan.length ∧
       readsOf tr = []) ∧
      (∀ ls s', FCSys.run T cap s1 ls = some s' → s'.f.mpc ≠ .inRead) := by
  have hci := (run_proj T hT cap ls0 FCSys.init s (CI_init cap) hr).1
  have hstep : FCSys.step T cap s (.stmt (.readRet i)) = some { s with f := { s.f with mpc := .readDone i } } := by
    simp [FCSys.step, FSys.step, hpc, isMainL]
  refine ⟨_, hstep, rfl, ?_, ?_⟩
  · intro e tr
    have hE1 : E ({ s with f := { s.f with mpc := .readDone i } } : FCSys).f [] :=
      ⟨by simp, fun _ => ⟨by simp, Or.inl hcl⟩, fun h => absurd rfl h⟩
    have hmu := mu_close (tableBound T) cap s hci hpc i
    obtain ⟨hq, heof, hrun, _, (hlen : tr.length ≤ _)⟩ := fair_run_ends_quiet T hT cap hcap pol fuel _ _ []
      (fcRun_snoc T cap hr hstep) hE1 (by omega)
    have hreads := ftrace_reads T cap pol fuel { s with f := { s.f with mpc := .readDone i } } []
    exact ⟨hq, heof, hrun, by omega, (List.append_eq_nil_iff.mp hreads).1⟩
  · intro ls s' hrun
    exact (noRead_run T cap ls { s with f := { s.f with mpc := .readDone i } } s' ⟨hcl, by simp⟩ hrun).2

/-- The same with the `Close()` call made explicit: from every reachable state in which the main
    goroutine is blocked in the read, `closeSig` then `readRet i` are enabled, and from the state they
    lead to the conclusions of `fchan_close_then_read_stops` hold. -/
theorem fchan_close_then_read_stops_explicit (T : Table) (hT : TimerOk T) (cap : Nat) (hcap : 0 < cap)
    (ls0 : List FCLabel) (s : FCSys) (hr : FCSys.run T cap FCSys.init ls0 = some s) (hpc : s.f.mpc = .inRead)
    (i : Inp) (pol : Policy) (fuel : Nat)
    (hf : closeBound (tableBound T) s.f.cbs.length s.chan.length ≤ fuel) :
    ∃ s1, FCSys.run T cap s [.stmt .closeSig, .stmt (.readRet i)] = some s1 ∧
      (let e := fdrive T cap pol fuel s1 []
       let tr := ftrace T cap pol fuel s1 []
       (e.f.mpc = .done ∧ e.f.chanClosed = true ∧ e.chan = [] ∧ e.pend = [] ∧ (∀ c ∈ e.f.cbs, c.2 = .gone) ∧
         e.f.mutex = none ∧ e.f.armed = none) ∧
       (∃ pre, e.recvd = pre ++ [.eof] ∧ Seq.eof ∉ pre) ∧
       FCSys.run T cap s1 tr = some e ∧ tr.length < closeBound (tableBound T) s.f.cbs.length s.chan.length ∧
       readsOf tr = []) ∧
      (∀ ls s', FCSys.run T cap s1 ls = some s' → s'.f.mpc ≠ .inRead) := by
  have hstep0 : FCSys.step T cap s (.stmt .closeSig) = some { s with f := { s.f with closeReq := true } } := by
    simp [FCSys.step, FSys.step, isMainL]
  have hr0 := fcRun_snoc T cap hr hstep0
  obtain ⟨s1, h1, _, h2, h3⟩ := fchan_close_then_read_stops T hT cap hcap _ _ hr0 hpc rfl i pol fuel hf
  refine ⟨s1, ?_, h2, h3⟩
  simp only [FCSys.run, hstep0, h1]

/-- … with the constants of the code (the parser's table, `chanCap` = 2): after `Close()` and the return of the
    pending read, at most `51 + 8·|cbs| + |chan|` transitions. -/
theorem fchan_close_then_read_stops_code (ls0 : List FCLabel) (s : FCSys)
    (hr : FCSys.run handTable Gen.ParserTable.chanCap FCSys.init ls0 = some s) (hpc : s.f.mpc = .inRead)
    (i : Inp) (pol : Policy) (fuel : Nat) (hf : 51 + 8 * s.f.cbs.length + s.chan.length ≤ fuel) :
    ∃ s1, FCSys.run handTable Gen.ParserTable.chanCap s [.stmt .closeSig, .stmt (.readRet i)] = some s1 ∧
      (let e := fdrive handTable Gen.ParserTable.chanCap pol fuel s1 []
       let tr := ftrace handTable Gen.ParserTable.chanCap pol fuel s1 []
       (e.f.mpc = .done ∧ e.f.chanClosed = true ∧ e.chan = [] ∧ e.pend = [] ∧ (∀ c ∈ e.f.cbs, c.2 = .gone) ∧
         e.f.mutex = none ∧ e.f.armed = none) ∧
       (∃ pre, e.recvd = pre ++ [.eof] ∧ Seq.eof ∉ pre) ∧
       FCSys.run handTable Gen.ParserTable.chanCap s1 tr = some e ∧ tr.length < 51 + 8 * s.f.cbs.length + s.chan.length ∧
       readsOf tr = []) ∧
      (∀ ls s', FCSys.run handTable Gen.ParserTable.chanCap s1 ls = some s' → s'.f.mpc ≠ .inRead) := by
  have h := fchan_close_then_read_stops_explicit handTable handTable_timerOk Gen.ParserTable.chanCap (by decide) ls0 s hr
    hpc i pol fuel (by rw [hand_tableBound]; simp only [closeBound]; omega)
  rw [hand_tableBound] at h
  simpa [closeBound] using h

-- non-vacuity (`fchan_close_then_read_stops_explicit`): a lone ESC, the timer expires while the main goroutine
-- is blocked in the next read, the callback locks and passes its check — it is in flight, holding the
-- mutex, in front of its `emit` — and now `Close()` is called and the read returns `[`: the state is
-- reachable, and from there the scheduler (fuel = closeBound 9 1 0 = 59) ends after 20 transitions with the
-- Escape report, `[` (the rune that was read is still parsed), EOF; channel closed, callback gone.
example :
    ((FCSys.run handTable 2 FCSys.init
        [.stmt .main, .stmt (.readRet (.rune 0x1B)), .stmt .main, .stmt .main, .stmt .main, .stmt .main, .stmt .main,
         .stmt .main, .stmt .expire, .stmt (.cb 0), .stmt (.cb 0)]).map
      (fun s => (s.f.mpc, s.f.cbs, s.f.mutex, closeBound (tableBound handTable) s.f.cbs.length s.chan.length))) =
      some (.inRead, [(1, .passed)], some .cb, 59) ∧
    ((FCSys.run handTable 2 FCSys.init
        [.stmt .main, .stmt (.readRet (.rune 0x1B)), .stmt .main, .stmt .main, .stmt .main, .stmt .main, .stmt .main,
         .stmt .main, .stmt .expire, .stmt (.cb 0), .stmt (.cb 0), .stmt .closeSig, .stmt (.readRet (.rune 0x5B))]).map
      (fun s1 => let e := fdrive handTable 2 noExpiry 59 s1 []; (e.recvd, e.f.mpc, e.f.cbs))) =
      some ([.c0 0x1B, .print 0x5B, .eof], .done, [(1, .gone)]) ∧
    ((FCSys.run handTable 2 FCSys.init
        [.stmt .main, .stmt (.readRet (.rune 0x1B)), .stmt .main, .stmt .main, .stmt .main, .stmt .main, .stmt .main,
         .stmt .main, .stmt .expire, .stmt (.cb 0), .stmt (.cb 0), .stmt .closeSig, .stmt (.readRet (.rune 0x5B))]).map
      (fun s1 => let e := fdrive handTable 2 noExpiry 59 s1 [];
        (e.chan, e.pend, e.f.chanClosed, (ftrace handTable 2 noExpiry 59 s1 []).length))) =
      some ([], [], true, 20) := by
  refine ⟨?_, ?_, ?_⟩ <;> decide +kernel

/-- **Fair-run termination with `Close()` inside the run.**  Same hypotheses as
    `fchan_fair_run_terminates`; in addition another goroutine calls `Close()` after the `n`-th
    transition of the fair run — **any** `n` (if the run is over earlier: at its end), i.e. at any point:
    main at the `select`, blocked in the read, inside the mutex, in an `emit`, callbacks in flight — and
    the scheduler goes on with any policy `pol2`.  With fuel ≥ `stepBound (tableBound T) |rs|` for the
    second phase the whole run (first phase, `closeSig`, second phase) has at most `stepBound …`
    transitions (the bound of `fchan_fair_run_terminates`: `closeSig` is its `+ 1`), the scheduler stops by itself
    with `run` returned, the channel closed and drained, every callback goroutine returned, the mutex
    free, no timer pending, and the consumer has `pre ++ [EOF]` with no EOF in `pre`; the trace is a run
    of the layer, its statements a run of the statement-grained system whose output is exactly what
    was received; the reads of the trace are a **prefix** of the script (`++ frestClose … = script`),
    and after the `Close()` at most one read returns (the pending one). -/
theorem fchan_fair_run_terminates_with_close (T : Table) (hT : TimerOk T) (cap : Nat) (hcap : 0 < cap)
    (pol pol2 : Policy) (rs : List Nat) (n fuel : Nat) (hf : stepBound (tableBound T) rs.length ≤ fuel) :
    let s := fdriveClose T cap pol pol2 n fuel FCSys.init (inputScript rs)
    let tr := ftraceClose T cap pol pol2 n fuel FCSys.init (inputScript rs)
    (s.f.mpc = .done ∧ s.f.chanClosed = true ∧ s.chan = [] ∧ s.pend = [] ∧ (∀ c ∈ s.f.cbs, c.2 = .gone) ∧
      s.f.mutex = none ∧ s.f.armed = none) ∧
    (∃ pre, s.recvd = pre ++ [.eof] ∧ Seq.eof ∉ pre) ∧
    FCSys.run T cap FCSys.init tr = some s ∧ tr.length ≤ stepBound (tableBound T) rs.length ∧
    FSys.run T FSys.init (stmtLabels tr) = some (s.f, s.recvd) ∧
    readsOf tr ++ frestClose T cap pol pol2 n fuel FCSys.init (inputScript rs) = inputScript rs ∧
    (readsOf (ftrace T cap pol2 fuel (closeOf (fdrive T cap pol n FCSys.init (inputScript rs)))
      (frest T cap pol n FCSys.init (inputScript rs)))).length ≤ 1 := by
  intro s tr
  have hmu := mu_init (tableBound T) rs
  obtain ⟨_, hE1⟩ := fdrive_inv T hT cap pol n FCSys.init (inputScript rs) (CI_init cap) (E_init rs)
  have hlen1 := ftrace_mu T (tableBound T) (step_out_le T) cap pol n FCSys.init (inputScript rs)
  have hcs := close_step T cap (fdrive T cap pol n FCSys.init (inputScript rs))
  have hmu2 := mu_close_eq (tableBound T) (fdrive T cap pol n FCSys.init (inputScript rs))
    (frest T cap pol n FCSys.init (inputScript rs))
  obtain ⟨hq, heof, hrun2, hfull, hlen2⟩ := fair_run_ends_quiet T hT cap hcap pol2 fuel _ _ _
    (fcRun_snoc T cap (fdrive_is_run T cap pol n _ _) hcs) (E_close _ _ hE1) (by omega)
  have hrun : FCSys.run T cap FCSys.init tr = some s := by
    rw [List.append_assoc] at hfull; exact hfull
  obtain ⟨out, h1, h2, _⟩ := VaxisModel.Props.C08FineChan.fchan_refines_fine T hT cap tr s hrun
  have hr1 := ftrace_reads T cap pol n FCSys.init (inputScript rs)
  have hr2 := ftrace_reads T cap pol2 fuel (closeOf (fdrive T cap pol n FCSys.init (inputScript rs)))
    (frest T cap pol n FCSys.init (inputScript rs))
  have hone := reads_after_close T cap _ _ _ rfl hrun2
  refine ⟨hq, heof, hrun, ?_, ?_, ?_, ?_⟩
  · show (_ ++ _ :: _).length ≤ _
    simp only [List.length_append, List.length_cons]
    omega
  · have hc' : s.chan = [] := hq.2.2.1
    have hp' : s.pend = [] := hq.2.2.2.1
    rw [h1, ← h2, hc', hp', List.append_nil, List.append_nil]
  · show readsOf (_ ++ _ :: _) ++ frest _ _ _ _ _ _ = _
    rw [readsOf_append]
    simp only [readsOf, List.append_assoc]
    rw [hr2, hr1]
  · refine Nat.le_trans hone ?_
    split <;> omega

/-- … with the constants of the code (the parser's table, `chanCap` = 2): `Close()` after any number of transitions,
    at most `42·(|rs| + 1) + 10` transitions in all. -/
theorem fchan_fair_run_terminates_with_close_code (pol pol2 : Policy) (rs : List Nat) (n fuel : Nat)
    (hf : 42 * (rs.length + 1) + 10 ≤ fuel) :
    let s := fdriveClose handTable Gen.ParserTable.chanCap pol pol2 n fuel FCSys.init (inputScript rs)
    let tr := ftraceClose handTable Gen.ParserTable.chanCap pol pol2 n fuel FCSys.init (inputScript rs)
    (s.f.mpc = .done ∧ s.f.chanClosed = true ∧ s.chan = [] ∧ s.pend = [] ∧ (∀ c ∈ s.f.cbs, c.2 = .gone) ∧
      s.f.mutex = none ∧ s.f.armed = none) ∧
    (∃ pre, s.recvd = pre ++ [.eof] ∧ Seq.eof ∉ pre) ∧
    FCSys.run handTable Gen.ParserTable.chanCap FCSys.init tr = some s ∧ tr.length ≤ 42 * (rs.length + 1) + 10 ∧
    FSys.run handTable FSys.init (stmtLabels tr) = some (s.f, s.recvd) ∧
    readsOf tr ++ frestClose handTable Gen.ParserTable.chanCap pol pol2 n fuel FCSys.init (inputScript rs) =
      inputScript rs := by
  have h := fchan_fair_run_terminates_with_close handTable handTable_timerOk Gen.ParserTable.chanCap (by decide) pol pol2
    rs n fuel (by rw [hand_tableBound]; simpa [stepBound] using hf)
  rw [hand_tableBound] at h
  obtain ⟨h1, h2, h3, h4, h5, h6, _⟩ := h
  exact ⟨h1, h2, h3, by simpa [stepBound] using h4, h5, h6⟩

-- non-vacuity: ESC [ A, no timer expiry; `Close()` is called after 8 transitions, while the main goroutine is
-- blocked in the read that will return `[` (ESC has been parsed, the timer is pending): the pending read
-- returns `[`, which is still parsed (CSI entry, nothing emitted), then the `select` takes the close arm:
-- only EOF is received, `A` is never read (it is what is left of the script), 23 transitions in all.
example :
    (let s0 := fdrive handTable Gen.ParserTable.chanCap noExpiry 8 FCSys.init (inputScript [0x1B, 0x5B, 0x41])
     (s0.f.mpc, s0.f.armed, frest handTable Gen.ParserTable.chanCap noExpiry 8 FCSys.init (inputScript [0x1B, 0x5B, 0x41])) =
       (.inRead, some 1, [.rune 0x5B, .rune 0x41, .eof])) ∧
    (let s := fdriveClose handTable Gen.ParserTable.chanCap noExpiry noExpiry 8 178 FCSys.init (inputScript [0x1B, 0x5B, 0x41])
     (s.recvd, s.f.mpc, s.f.cbs, s.chan, s.pend, s.f.chanClosed) = ([.eof], .done, [], [], [], true)) ∧
    readsOf (ftraceClose handTable Gen.ParserTable.chanCap noExpiry noExpiry 8 178 FCSys.init (inputScript [0x1B, 0x5B, 0x41])) =
      [.rune 0x1B, .rune 0x5B] ∧
    frestClose handTable Gen.ParserTable.chanCap noExpiry noExpiry 8 178 FCSys.init (inputScript [0x1B, 0x5B, 0x41]) =
      [.rune 0x41, .eof] := by
  refine ⟨?_, ?_, ?_, ?_⟩ <;> decide +kernel

end VaxisModel.Props.C08FineFair
