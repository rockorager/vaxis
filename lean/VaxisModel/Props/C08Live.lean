/-
C08 — liveness of the parser's run loop with the bounded output channel
(`sequences: make(chan Sequence, 2)`, `emit` = `p.sequences <- seq`) made explicit: under a consumer
that keeps receiving the loop never deadlocks and a finite input is parsed to the end, every item is
delivered once and in order, and `EOF` is the last thing received; if the consumer stops, `emit`
blocks for ever — by design (model: Model/ParserRunChan.lean; lemmas: Lemmas/ParserRunChan.lean).
-/
import VaxisModel.Model.ParserRunChan
import VaxisModel.Lemmas.ParserRunChan
import VaxisModel.Props.C08

namespace VaxisModel.Props.C08Live
open VaxisModel.Model.ParserTable VaxisModel.Model.Parser VaxisModel.Model.ParserRun
open VaxisModel.Model.ParserRunChan VaxisModel.Lemmas.ParserRun VaxisModel.Lemmas.ParserRunChan

/-- **The channel never holds more than its capacity** — along every run (every interleaving of
    atomic steps of the life cycle, sends and receives), any table, any capacity. -/
theorem chan_bounded (T : Table) (c : Cfg) (cap : Nat) (ls : List CLabel) (s : CSys)
    (h : CSys.run T c cap CSys.init ls = some s) : s.chan.length ≤ cap :=
  (run_inv T c cap ls CSys.init s h (Nat.zero_le _)).1

/-- **FIFO; nothing lost, duplicated or reordered; refinement of the atomic life cycle.**  For every
    run: its atomic labels, in order, are a run of the atomic LTS of Model/ParserRun.lean to the same
    atomic state, and what the consumer has received, followed by what is queued in the channel,
    followed by what the emitting goroutine has still to send, is exactly what those atomic steps
    emitted, in that order.  (So every theorem of Props/C08.lean about the order of `emit` calls is
    a theorem about what the consumer receives.) -/
theorem order_preserved (T : Table) (c : Cfg) (cap : Nat) (ls : List CLabel) (s : CSys)
    (h : CSys.run T c cap CSys.init ls = some s) :
    ∃ out, Sys.run T c Sys.init (sysLabels ls) = some (s.sys, out) ∧ s.recvd ++ s.chan ++ s.pending = out := by
  obtain ⟨_, o, hr, hf⟩ := run_inv T c cap ls CSys.init s h (Nat.zero_le _)
  exact ⟨o, hr, by simpa [flow, CSys.init] using hf⟩

-- non-vacuity: ESC [ A then the end of the input, consumer lagging behind: a run, and it is the
-- atomic run with the same output
example : (CSys.run handTable Cfg.fixed cap0 CSys.init
    [.sys .enterRead, .sys (.read 0x1B), .sys .enterRead, .sys (.read 0x5B), .sys .enterRead, .sys (.read 0x41),
     .send, .sys .enterRead, .sys .readEnd, .send, .recv]).map (fun s => (s.recvd, s.chan, s.pending, s.sys.pc)) =
    some ([.csi [] [] 0x41], [.eof], [], .done) := by decide

/-- **EOF is the last thing the consumer receives, once.**  When everything is over (loop ended,
    nothing left to send or to receive) the consumer has received `pre ++ [EOF]` with no `EOF` in
    `pre`, and the channel is closed; and at no earlier point of any run has it received something
    after an `EOF`: while the loop runs no `EOF` has been received at all. -/
theorem eof_received_last (T : Table) (c : Cfg) (hg : c.guarded = true) (cap : Nat) (ls : List CLabel) (s : CSys)
    (h : CSys.run T c cap CSys.init ls = some s) :
    (CSys.finished s → (∃ pre, s.recvd = pre ++ [.eof] ∧ Seq.eof ∉ pre) ∧ s.closedNow = true) ∧
    (s.sys.pc ≠ .done → Seq.eof ∉ s.recvd ∧ s.closedNow = false) := by
  obtain ⟨out, hr, hf⟩ := order_preserved T c cap ls s h
  have he := VaxisModel.Props.C08.eof_once_last T c hg (sysLabels ls) s.sys out hr
  refine ⟨fun ⟨hd, hp, hc⟩ => ?_, fun hnd => ?_⟩
  · rw [hp, hc, List.append_nil, List.append_nil] at hf
    rw [hf]
    exact ⟨(he.1 hd).1, by simp [CSys.closedNow, (he.1 hd).2, hp]⟩
  · have := he.2 hnd
    refine ⟨fun hm => this.1 ?_, by simp [CSys.closedNow, this.2]⟩
    rw [← hf]; simp [hm]

-- non-vacuity: a finished state is reachable (the same input, the consumer catches up), and one
-- in which the loop still runs with items in flight
example : (CSys.run handTable Cfg.fixed cap0 CSys.init
    [.sys .enterRead, .sys (.read 0x1B), .sys .enterRead, .sys (.read 0x5B), .sys .enterRead, .sys (.read 0x41),
     .send, .sys .enterRead, .sys .readEnd, .send, .recv, .recv]).map
      (fun s => (decide (CSys.finished s), s.recvd, s.closedNow)) =
    some (true, [.csi [] [] 0x41, .eof], true) := by decide
example : (CSys.run handTable Cfg.fixed cap0 CSys.init
    [.sys .enterRead, .sys (.read 0x61), .send, .sys .enterRead, .sys (.read 0x62)]).map
      (fun s => (s.sys.pc, s.recvd, s.chan, s.pending, s.closedNow)) =
    some (.atSelect, [], [.print 0x61], [.print 0x62], false) := by decide

/-- **A blocked `emit` is released by one receive.**  In any state where the emitting goroutine is
    blocked (something to send, channel full): the send is indeed not enabled, the consumer's receive
    is, and after that one receive the send is enabled (and nothing else has changed for the sender). -/
theorem emit_enabled_after_recv (T : Table) (c : Cfg) (cap : Nat) (hcap : 0 < cap) (s : CSys)
    (hp : s.pending ≠ []) (hfull : s.chan.length = cap) :
    CSys.step T c cap s .send = none ∧
    ∃ s', CSys.step T c cap s .recv = some s' ∧ s'.pending = s.pending ∧ s'.sys = s.sys ∧
      (CSys.step T c cap s' .send).isSome = true := by
  refine ⟨send_blocked s (Or.inr (by omega)), ?_⟩
  cases hch : s.chan with
  | nil => rw [hch] at hfull; simp only [List.length_nil] at hfull; omega
  | cons y ch =>
    refine ⟨_, recv_enabled s y ch hch, rfl, rfl, ?_⟩
    cases hpe : s.pending with
    | nil => exact absurd hpe hp
    | cons x p =>
      have hlt : ch.length < cap := by
        rw [hch] at hfull; simp only [List.length_cons] at hfull; omega
      rw [send_enabled _ x p rfl hlt]
      rfl

-- non-vacuity: three printable runes, nothing received: the third `emit` is blocked
example : (CSys.run handTable Cfg.fixed cap0 CSys.init
    [.sys .enterRead, .sys (.read 0x61), .send, .sys .enterRead, .sys (.read 0x62), .send,
     .sys .enterRead, .sys (.read 0x63)]).map (fun s => (decide (s.pending ≠ []), s.chan.length)) =
    some (true, cap0) := by decide

/-- **No deadlock while the consumer is alive**: in every state in which not everything is over,
    a step is enabled — a move of the main goroutine (as in `C08.progress`), or the pending send, or
    the consumer's receive. -/
theorem some_step_enabled (T : Table) (c : Cfg) (cap : Nat) (hcap : 0 < cap) (s : CSys)
    (h : s.sys.pc ≠ .done ∨ s.pending ≠ [] ∨ s.chan ≠ []) :
    (CSys.step T c cap s (.sys .enterRead)).isSome ∨ (CSys.step T c cap s (.sys .breakClose)).isSome ∨
    (CSys.step T c cap s (.sys .readEnd)).isSome ∨ (CSys.step T c cap s .send).isSome ∨
    (CSys.step T c cap s .recv).isSome := by
  cases hch : s.chan with
  | cons y ch => right; right; right; right; rw [recv_enabled s y ch hch]; rfl
  | nil =>
    cases hpe : s.pending with
    | cons x p =>
      right; right; right; left
      rw [send_enabled s x p hpe (by rw [hch]; exact hcap)]; rfl
    | nil =>
      have hnd : s.sys.pc ≠ .done := by
        rcases h with h | h | h
        · exact h
        · exact absurd hpe h
        · exact absurd hch h
      have lift : ∀ l, (Sys.step T c s.sys l).isSome → (CSys.step T c cap s (.sys l)).isSome := by
        intro l hl
        cases hs : Sys.step T c s.sys l with
        | none => rw [hs] at hl; cases hl
        | some x => rw [sys_enabled s l x.1 x.2 hpe hs]; rfl
      rcases VaxisModel.Props.C08.progress T c s.sys hnd with h | h | h
      · exact Or.inl (lift _ h)
      · exact Or.inr (Or.inl (lift _ h))
      · exact Or.inr (Or.inr (Or.inl (lift _ h)))

/-- **The fair scheduler delivers everything** (any table, any capacity > 0, any atomic schedule —
    timer and Close() labels included — that the atomic LTS can run from `s0` emitting `out`): taking
    an enabled step whenever there is one (send, else receive, else the next atomic label), after at
    most `2 * out.length + ls.length` steps the atomic run is complete, nothing is in flight, and the
    consumer has received exactly `out`.  More fuel changes nothing.  Proof: the measure
    `2·|pending| + |chan| + 2·|still to be emitted| + |labels left|` decreases by one at every step. -/
theorem fair_run_delivers (T : Table) (c : Cfg) (cap : Nat) (hcap : 0 < cap) (s0 s1 : Sys) (ls : List Label)
    (out : List Seq) (hr : Sys.run T c s0 ls = some (s1, out)) (fuel : Nat)
    (hf : 2 * out.length + ls.length ≤ fuel) :
    drive T c cap fuel (CSys.ofSys s0) ls = { sys := s1, chan := [], pending := [], recvd := out } := by
  have := drive_spec T c cap hcap fuel (CSys.ofSys s0) ls s1 out (Nat.zero_le _) hr
    (by simpa [mu, CSys.ofSys] using hf)
  simpa [flow, CSys.ofSys] using this

/-- … and the scheduler only takes steps of the LTS: its end state is reachable by a run. -/
theorem fair_run_is_run (T : Table) (c : Cfg) (cap : Nat) (fuel : Nat) (s : CSys) (ls : List Label) :
    ∃ cl, CSys.run T c cap s cl = some (drive T c cap fuel s ls) := by
  fun_induction drive T c cap fuel s ls with
  | case1 => exact ⟨[], rfl⟩
  | case2 _ _ _ s' h ih => obtain ⟨cl, hcl⟩ := ih; exact ⟨.send :: cl, by simp [CSys.run, h, hcl]⟩
  | case3 _ _ _ _ s' h ih => obtain ⟨cl, hcl⟩ := ih; exact ⟨.recv :: cl, by simp [CSys.run, h, hcl]⟩
  | case4 => exact ⟨[], rfl⟩
  | case5 _ _ _ _ l _ s' h ih => obtain ⟨cl, hcl⟩ := ih; exact ⟨.sys l :: cl, by simp [CSys.run, h, hcl]⟩
  | case6 => exact ⟨[], rfl⟩

/-- **Every finite input is parsed to the end and delivered, then EOF** — with the constants of the code
    (hand table = regenerated table by `C02.hand_table_eq_gen`, guarded callback, capacity `chanCap`): for every input
    `rs`, with a consumer that keeps receiving, after at most `2·(items) + 2·|rs| + 2` steps of the
    fair scheduler the loop has ended, the channel is empty and closed, and the consumer has received
    `pre ++ [EOF]`, which is the atomic output of the run (no `EOF` in `pre`). -/
theorem finite_input_terminates (rs : List Nat) :
    ∃ s1 pre, Sys.run handTable Cfg.fixed Sys.init (script rs) = some (s1, pre ++ [.eof]) ∧ Seq.eof ∉ pre ∧
      s1.pc = .done ∧ s1.chanClosed = true ∧
      ∀ fuel, 2 * (pre.length + 1) + 2 * rs.length + 2 ≤ fuel →
        drive handTable Cfg.fixed cap0 fuel CSys.init (script rs) =
          { sys := s1, chan := [], pending := [], recvd := pre ++ [.eof] } := by
  obtain ⟨s1, out, hr, hd⟩ := script_runs rs Sys.init SInv_init rfl rfl
  obtain ⟨⟨pre, rfl, hpre⟩, hcl⟩ := (VaxisModel.Props.C08.eof_once_last handTable Cfg.fixed rfl _ s1 out hr).1 hd
  refine ⟨s1, pre, hr, hpre, hd, hcl, fun fuel hf => ?_⟩
  refine fair_run_delivers handTable Cfg.fixed cap0 (by decide) Sys.init s1 _ _ hr fuel ?_
  rw [script_length]
  simp only [List.length_append, List.length_cons, List.length_nil]
  omega

/-- For any table: if the atomic LTS can run the script of `rs` (no rune stops the loop early), the
    same holds; the loop has ended. -/
theorem finite_input_terminates_any (T : Table) (c : Cfg) (cap : Nat) (hcap : 0 < cap) (rs : List Nat) (s1 : Sys)
    (out : List Seq) (hr : Sys.run T c Sys.init (script rs) = some (s1, out)) (fuel : Nat)
    (hf : 2 * out.length + 2 * rs.length + 2 ≤ fuel) :
    drive T c cap fuel CSys.init (script rs) = { sys := s1, chan := [], pending := [], recvd := out } ∧
    s1.pc = .done := by
  refine ⟨fair_run_delivers T c cap hcap Sys.init s1 _ _ hr fuel ?_, script_done T c rs _ _ _ hr⟩
  rw [script_length]; omega

-- non-vacuity / sanity: ESC [ A; an unterminated OSC (its last atomic step emits two items)
example : (drive handTable Cfg.fixed cap0 14 CSys.init (script [0x1B, 0x5B, 0x41])).recvd =
    [.csi [] [] 0x41, .eof] := by decide
example : (Sys.run handTable Cfg.fixed Sys.init (script [0x1B, 0x5D, 0x61])).map (·.2) =
    some [.osc [0x61], .eof] := by decide
example : let s := drive handTable Cfg.fixed cap0 12 CSys.init (script [0x1B, 0x5D, 0x61])
    (s.recvd, s.chan, s.pending, s.sys.pc) = ([.osc [0x61], .eof], [], [], .done) := by decide

/-- **If the consumer stops, `emit` blocks for ever — by design** (the property assumes a consumer
    that keeps receiving).  In any state where the emitting goroutine is blocked (something to send,
    channel full), no label other than the consumer's `recv` is enabled — atomic steps need
    `pending = []`, `send` needs room — so every continuation without `recv` is empty: the goroutine
    stays blocked, the loop does not end. -/
theorem consumer_stops_blocks (T : Table) (c : Cfg) (cap : Nat) (s : CSys) (hp : s.pending ≠ [])
    (hfull : s.chan.length = cap) (hnd : s.sys.pc ≠ .done) :
    (∀ l, l ≠ .recv → CSys.step T c cap s l = none) ∧
    ∀ ls, (∀ l ∈ ls, l ≠ CLabel.recv) → ∀ s', CSys.run T c cap s ls = some s' →
      s' = s ∧ s'.pending ≠ [] ∧ s'.sys.pc ≠ .done := by
  have hstep : ∀ l, l ≠ .recv → CSys.step T c cap s l = none := by
    intro l hl
    cases l with
    | sys l => exact sys_blocked s l hp
    | send => exact send_blocked s (Or.inr (by omega))
    | recv => exact absurd rfl hl
  refine ⟨hstep, fun ls hls s' hrun => ?_⟩
  cases ls with
  | nil =>
    simp only [CSys.run, Option.some.injEq] at hrun
    subst hrun; exact ⟨rfl, hp, hnd⟩
  | cons l ls =>
    simp only [CSys.run, hstep l (hls l (List.mem_cons_self ..))] at hrun
    cases hrun

/-- … and such a state is reachable with the code's capacity (2): three printable runes,
    none received — the first two items fill the channel, the main goroutine is blocked sending the
    third while it holds the mutex. -/
theorem consumer_stops_blocks_reachable :
    ∃ s, CSys.run handTable Cfg.fixed cap0 CSys.init
        [.sys .enterRead, .sys (.read 0x61), .send, .sys .enterRead, .sys (.read 0x62), .send,
         .sys .enterRead, .sys (.read 0x63)] = some s ∧
      s.pending = [.print 0x63] ∧ s.chan = [.print 0x61, .print 0x62] ∧ s.chan.length = cap0 ∧ s.recvd = [] ∧
      s.sys.pc ≠ .done ∧
      ∀ ls, (∀ l ∈ ls, l ≠ CLabel.recv) → ∀ s', CSys.run handTable Cfg.fixed cap0 s ls = some s' →
        s'.pending ≠ [] ∧ s'.sys.pc ≠ .done := by
  have hrun : (CSys.run handTable Cfg.fixed cap0 CSys.init
        [.sys .enterRead, .sys (.read 0x61), .send, .sys .enterRead, .sys (.read 0x62), .send,
         .sys .enterRead, .sys (.read 0x63)]).map (fun s => (s.pending, s.chan, s.recvd, s.sys.pc)) =
      some ([.print 0x63], [.print 0x61, .print 0x62], [], .atSelect) := by decide
  cases hs : CSys.run handTable Cfg.fixed cap0 CSys.init
        [.sys .enterRead, .sys (.read 0x61), .send, .sys .enterRead, .sys (.read 0x62), .send,
         .sys .enterRead, .sys (.read 0x63)] with
  | none => rw [hs] at hrun; cases hrun
  | some s =>
    rw [hs] at hrun
    simp only [Option.map_some, Option.some.injEq, Prod.mk.injEq] at hrun
    obtain ⟨h1, h2, h3, h4⟩ := hrun
    have hnd : s.sys.pc ≠ .done := by rw [h4]; decide
    refine ⟨s, rfl, h1, h2, by rw [h2]; rfl, h3, hnd, fun ls hls s' hr => ?_⟩
    exact ((consumer_stops_blocks handTable Cfg.fixed cap0 s (by rw [h1]; simp) (by rw [h2]; rfl) hnd).2 ls hls s' hr).2

end VaxisModel.Props.C08Live
