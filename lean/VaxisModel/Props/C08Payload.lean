/-
C08 — storage of delivered payloads.  The automaton model keeps `p.oscData`, `p.apcData` and
`p.dcs.Data` as lists, so `p.oscData = p.oscData[:0]` (keep the backing array that the delivered
`OSC.Payload` still points to) and `p.oscData = make([]rune, 0, 128)` (a fresh array) are the same
to it.  For "a delivered sequence is never modified" they are not: the first lets the next OSC
overwrite the payload the consumer holds.  These facts, re-decided against the action bodies
regenerated from ansi/parser.go on every run (`Gen/ParserActs.lean`), pin the difference.
Property theorems only.
-/
import VaxisModel.Gen.ParserActs

namespace VaxisModel.Props.C08Payload
open VaxisModel.Model.ParserActs

/-- **Delivered payloads are never written again**: after `emit(OSC{Payload: p.oscData})` the
    accumulator is *replaced* by a fresh slice (`make([]rune, 0, n)`), after `emit(p.dcs)` the whole
    `p.dcs` is replaced by `DCS{}` (and `hook` starts every DCS with `Data: make([]rune, 0, n)`: part of
    the recognised shape of `.declSeq .dcs`), after `emit(APC{Data: string(p.apcData)})` — a copy — the
    accumulator is replaced by `[]rune{}`; none of them is truncated in place (`p.f = p.f[:0]`, which
    would keep the array a delivered sequence points to).  In-place truncation occurs only in
    `clear()`, on `p.intermediate` and `p.params` — the slices whose hand-over goes through the pools
    (`Props/C08Pools.lean`, `Props/C08Drive.lean`). -/
theorem delivered_payloads_not_recycled :
    Gen.ParserActs.oscEndBody = [.emitOsc, .resetField .oscData] ∧
    Gen.ParserActs.unhookBody = [.emitDcs, .resetField .dcs] ∧
    Gen.ParserActs.apcUnhookBody = [.emitApc, .resetField .apcData] ∧
    ([Gen.ParserActs.oscEndBody, Gen.ParserActs.unhookBody, Gen.ParserActs.apcUnhookBody,
      Gen.ParserActs.oscStartBody, Gen.ParserActs.oscPutBody, Gen.ParserActs.putBody,
      Gen.ParserActs.hookBody, Gen.ParserActs.csiDispatchBody, Gen.ParserActs.escapeDispatchBody].all
        fun b => b.all fun s => match s with | .truncField _ => false | _ => true) = true := by decide

/-- **Every hand-over of pooled storage is followed by a fresh `Get`** (the premise of the
    pool models `Model/ParserPools.lean` / `ParserPoolsDrive.lean`, re-decided against the regenerated
    bodies): `escapeDispatch`, `csiDispatch` and `hook` contain the statement
    `if len(p.intermediate) > 0 { X.Intermediate = p.intermediate; p.intermediate = p.intermediatePool.Get() }`
    (`.takeInter` is recognised only with the `Get`: without it — seeded change C08-m4 — the parser
    keeps appending to the array the delivered sequence points to); `csiDispatch` takes its parameter
    list with `p.paramListPool.Get()[:0]` and every parameter with `p.paramPool.Get()[:0]`, also after
    each `;` (`.newParam`: without the `[:0]` — seeded change C02-m5 — a recycled slice keeps its old
    contents); no statement of an action body is outside the vocabulary.  Membership, not position: a
    reorder that keeps the statements does not alarm here (it is judged by the `<a>_body` theorems). -/
theorem handover_takes_fresh_storage :
    BStmt.takeInter .esc ∈ Gen.ParserActs.escapeDispatchBody ∧
    BStmt.takeInter .csi ∈ Gen.ParserActs.csiDispatchBody ∧
    BStmt.takeInter .dcs ∈ Gen.ParserActs.hookBody ∧
    BStmt.op .newParams ∈ Gen.ParserActs.csiDispatchBody ∧
    BStmt.op .newParam ∈ Gen.ParserActs.csiDispatchBody ∧
    (Gen.ParserActs.csiDispatchBody.any fun s => match s with
      | .paramLoop cases _ => cases.any fun c => c.1 = 0x3B && c.2.contains .newParam
      | _ => false) = true ∧
    Gen.ParserActs.unrecognised = [] := by decide

end VaxisModel.Props.C08Payload
