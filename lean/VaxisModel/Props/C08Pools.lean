/-
C08 — pool ownership over explicit backing arrays: what a delivered sequence's
`Intermediate` slice reads never changes until the consumer hands it back with `Finish`
(model: Model/ParserPools.lean; invariant: Lemmas/ParserPools.lean).
-/
import VaxisModel.Model.ParserPools
import VaxisModel.Lemmas.ParserPools
import VaxisModel.Lemmas.ParserStale
import VaxisModel.Lemmas.ParserLeak

namespace VaxisModel.Props.C08Pools
open VaxisModel.Model.ParserPools VaxisModel.Lemmas.ParserPools

/-- **Delivered contents are immutable.**  For every sequence of `collect`s (in place or growing to
    any capacity), `clear`s, dispatches (where `Get()` returns *any* pooled slice — with the stale
    length it was `Put` with — or a new `make([]rune, 0, 2)`) and consumer `Finish` calls (any
    order, any number of sequences held, however far the parser runs ahead; a delivered sequence is
    finished at most once), from the initial state: every delivered, unfinished sequence reads in
    cells `[0,len)` of its backing array exactly what it read when it was delivered. -/
theorem delivered_contents_immutable (ls : List Label) (s : St) (h : run Cfg.code St.init ls = some s)
    (d : Deliv) (hd : d ∈ s.delivered) : (cells s.heap d.s.arr).take d.s.len = d.snap :=
  (run_inv ls St.init s Inv_init h).intact d hd

/-- Two-state form: between any two points of a run at which the consumer holds `d`, what it reads
    through `d` is the same (in particular between the state right after the dispatch that
    delivered it — see `snapshot_taken_at_delivery` — and any later state before its `Finish`). -/
theorem delivered_contents_stable (ls1 ls2 : List Label) (s1 s2 : St)
    (h1 : run Cfg.code St.init ls1 = some s1) (h2 : run Cfg.code s1 ls2 = some s2)
    (d : Deliv) (hd1 : d ∈ s1.delivered) (hd2 : d ∈ s2.delivered) :
    (cells s2.heap d.s.arr).take d.s.len = (cells s1.heap d.s.arr).take d.s.len := by
  have h12 : run Cfg.code St.init (ls1 ++ ls2) = some s2 := by rw [(run_isRun _).append_of_eq_some h1]; exact h2
  rw [delivered_contents_immutable _ _ h1 d hd1, delivered_contents_immutable _ _ h12 d hd2]

/-- #B of `reuseTrace` is held from its delivery (after 6 labels) to the end, across the reuse of
    array 0. -/
example : ∃ s1 s2, run Cfg.code St.init (reuseTrace.take 6) = some s1 ∧
    run Cfg.code s1 (reuseTrace.drop 6) = some s2 ∧
    (⟨⟨1, 2⟩, [66, 67]⟩ : Deliv) ∈ s1.delivered ∧ (⟨⟨1, 2⟩, [66, 67]⟩ : Deliv) ∈ s2.delivered :=
  ⟨_, _, rfl, rfl, by decide, by decide⟩

/-- The ghost field `snap` is what the theorem says it is: a dispatch records the cells `[0,len)` of
    `p.intermediate` as they are at that moment (and leaves them as they are), on top of the
    sequences already delivered … -/
theorem snapshot_taken_at_delivery (c : Cfg) (s s' : St) (g : Option Nat)
    (h : step c s (.dispatch g) = some s') :
    ∃ sl, s.cur = some sl ∧ 0 < sl.len ∧
      s'.delivered = ⟨sl, (cells s.heap sl.arr).take sl.len⟩ :: s.delivered := by
  cases step_rel h with
  | dispatchNew sl hc hl | dispatchPool sl _ _ hc hl | dispatchKeep sl _ hc hl => exact ⟨sl, hc, Nat.pos_of_ne_zero hl, rfl⟩

example : (step Cfg.code { heap := [[65, 0]], cur := some ⟨0, 1⟩ } (.dispatch none)).isSome = true := by
  decide

/-- … and no other step creates or alters a record: they only drop the one that is finished. -/
theorem records_only_removed (c : Cfg) (s s' : St) (l : Label) (hl : ∀ g, l ≠ .dispatch g)
    (h : step c s l = some s') (d : Deliv) (hd : d ∈ s'.delivered) : d ∈ s.delivered := by
  cases step_rel h with
  | dispatchNew | dispatchPool | dispatchKeep => exact absurd rfl (hl _)
  | finish => exact List.mem_of_mem_eraseIdx hd
  | _ => exact hd

example : (step Cfg.code { heap := [[65, 0], [0, 0]], cur := some ⟨1, 0⟩, delivered := [⟨⟨0, 1⟩, [65]⟩] }
    (.finish 0)).isSome = true := by decide

/-- **One owner per backing array**, along every run: the parser's array is not the array of any
    pooled or delivered slice, pooled and delivered arrays are disjoint and pairwise distinct, and
    all of them are allocated. -/
theorem one_owner (ls : List Label) (s : St) (h : run Cfg.code St.init ls = some s) :
    (∀ c, s.cur = some c → (∀ p ∈ s.pool, p.arr ≠ c.arr) ∧ (∀ d ∈ s.delivered, d.s.arr ≠ c.arr)) ∧
    (∀ p ∈ s.pool, ∀ d ∈ s.delivered, p.arr ≠ d.s.arr) ∧
    s.pool.Pairwise (fun a b => a.arr ≠ b.arr) ∧ s.delivered.Pairwise (fun a b => a.s.arr ≠ b.s.arr) := by
  have hinv := run_inv ls St.init s Inv_init h
  exact ⟨fun c hc => ⟨hinv.curPool c hc, hinv.curDel c hc⟩, hinv.poolDel, hinv.poolDistinct, hinv.delDistinct⟩

/-- **The in-place write of `append`** (the aliasing hazard) only ever hits an array that no
    delivered sequence and no pooled slice refers to. -/
theorem write_in_place_not_shared (ls : List Label) (s : St) (h : run Cfg.code St.init ls = some s)
    (sl : Slice) (hcur : s.cur = some sl) (hroom : sl.len < (cells s.heap sl.arr).length) (r n : Nat) :
    step Cfg.code s (.collect r n) =
      some { s with heap := write s.heap sl.arr sl.len r, cur := some ⟨sl.arr, sl.len + 1⟩ } ∧
    (∀ d ∈ s.delivered, d.s.arr ≠ sl.arr) ∧ (∀ p ∈ s.pool, p.arr ≠ sl.arr) := by
  have hinv := run_inv ls St.init s Inv_init h
  refine ⟨?_, hinv.curDel sl hcur, hinv.curPool sl hcur⟩
  simp only [step, hcur, hroom, if_true]

/-- **The model's slices are valid Go slices** along every run: `len ≤ cap` for `p.intermediate`, every
    pooled and every delivered slice (so `append` grows exactly when `len = cap`, and the growing
    `append` copies the whole old array). -/
theorem slices_within_capacity (ls : List Label) (s : St) (h : run Cfg.code St.init ls = some s) :
    (∀ c, s.cur = some c → c.len ≤ (cells s.heap c.arr).length) ∧
    (∀ p ∈ s.pool, p.len ≤ (cells s.heap p.arr).length) ∧
    (∀ d ∈ s.delivered, d.s.len ≤ (cells s.heap d.s.arr).length ∧ d.snap.length = d.s.len) := by
  have hinv := run_inv ls St.init s Inv_init h
  have hcap := run_cap ls St.init s Inv_init Cap_init h
  refine ⟨hcap.cur, hcap.pool, fun d hd => ⟨hcap.del d hd, ?_⟩⟩
  have h1 := hinv.intact d hd
  have h2 := hcap.del d hd
  simp only [Deliv.now] at h1
  simp only [lenOk] at h2
  rw [← h1, List.length_take]
  omega

/-- The run is enabled; the pooled slice came back with its stale length; array 0 — the array of the
    *finished* sequence #A, which read `[65]` — now starts with 69 (had the consumer kept using #A
    after `Finish`, it would see the change: the arrays really are shared); the two sequences still
    held (#D over array 2, #B over array 1) are intact; the hypotheses of the theorems above hold
    for this run. -/
example :
    (run Cfg.code St.init (reuseTrace.take 10)).map (·.cur) = some (some ⟨0, 1⟩) ∧
    (run Cfg.code St.init reuseTrace).map (fun s => (s.cur, cells s.heap 0, s.delivered, s.pool)) =
      some (some ⟨0, 1⟩, [69], [⟨⟨2, 1⟩, [68]⟩, ⟨⟨1, 2⟩, [66, 67]⟩], []) ∧
    (run Cfg.code St.init reuseTrace).map allIntact = some true := by decide

/-- Without the `clear` the stale length shows: the next rune goes to cell 1 … of a 1-cell array, so
    `append` grows (here to capacity 4) and copies the stale cell. -/
example :
    (run Cfg.code St.init (reuseTrace.take 10 ++ [.collect 69 4])).map
      (fun s => (s.cur, cells s.heap 0, cells s.heap 3)) = some (some ⟨3, 2⟩, [65], [65, 69, 0, 0]) := by
  decide

/-- `write_in_place_not_shared`: a state with room in the parser's array is reached. -/
example : ∃ s sl, run Cfg.code St.init [.collect 65 1, .dispatch none] = some s ∧ s.cur = some sl ∧
    sl.len < (cells s.heap sl.arr).length := ⟨_, _, rfl, rfl, by decide⟩

open VaxisModel.Model.ParserRun (Own) in
/-- **The array model refines `Own`**: forgetting cells, lengths and snapshots (`abs`: `cur`, pooled
    ids, held ids, next id = heap size), every run of the array model is a run of `Own` (labels
    translated by `absRun`: an in-place `collect` is `collect false`, a growing one `collect true`,
    `dispatch (some k)`/`finish k` name the array of the k-th pooled/delivered slice) — so
    `delivered_immutable` and `OwnInv` of `Props/C08.lean` speak about these runs too. -/
theorem refines_Own (ls : List Label) (s : St) (h : run Cfg.code St.init ls = some s) :
    Own.run {} (absRun St.init ls) = some (abs s) :=
  run_refines_Own ls St.init s Inv_init h

example : absRun St.init reuseTrace =
    [.collect true, .dispatch none, .clear, .collect false, .collect false, .dispatch none, .finish 0,
     .clear, .collect false, .dispatch (some 0), .clear, .collect false] := by decide

/-- If the dispatch functions kept `p.intermediate` (no `p.intermediate = p.intermediatePool.Get()`),
    the same statement is false: ESC `A` F delivers a slice over array 0 reading `[65]`; the next
    ESC clears and `B` is written in place into array 0 — the delivered sequence now reads `[66]`. -/
theorem delivered_contents_immutable_needs_get :
    ¬ (∀ (ls : List Label) (s : St), run Cfg.noGet St.init ls = some s →
        ∀ d ∈ s.delivered, (cells s.heap d.s.arr).take d.s.len = d.snap) := by
  intro h
  have h1 := h [.collect 65 2, .dispatch none, .clear, .collect 66 0] _ rfl ⟨⟨0, 1⟩, [65]⟩ (by decide)
  revert h1
  decide

/-- The assumption on the consumer is needed as well: if a sequence may be handed back twice (two
    `Put`s of the same slice), two later `Get`s return the same array, and the same statement is
    false — for a sequence that was *never* finished: ESC `A` F (#A, array 0), `Finish(#A)` twice,
    ESC `B` F with `Get` → array 0, ESC `C` F delivers #C over array 0 reading `[67]` and `Get`
    returns array 0 again; the next ESC `D` overwrites what #C reads. -/
theorem delivered_contents_immutable_needs_finish_once :
    ¬ (∀ (ls : List Label) (s : St), run Cfg.finishTwice St.init ls = some s →
        ∀ d ∈ s.delivered, (cells s.heap d.s.arr).take d.s.len = d.snap) := by
  intro h
  have h1 := h [.collect 65 2, .dispatch none, .finish 0, .clear, .collect 66 0, .dispatch (some 0),
    .clear, .collect 67 0, .dispatch (some 0), .clear, .collect 68 0] _ rfl ⟨⟨0, 1⟩, [67]⟩ (by decide)
  revert h1
  decide

/-- **Delivered parameters are immutable.**  For every interleaving of the steps of `csiDispatch`
    (`Get()[:0]` from the list pool and the param pool returning *any* pooled slice or a new one,
    `append`s in place or growing to any capacity, `emit`) with the individual `Put`s of consumer
    `Finish` calls (each parameter slice, then the list; several calls may be in progress; any
    order, any number of sequences held, `Finish` at most once per sequence), from the initial state: every delivered, unfinished CSI reads through
    `seq.Parameters` — list cells `[0,len)` and, through each header, `[]int` cells `[0,len_i)` —
    exactly the values it read when it was delivered. -/
theorem delivered_params_immutable (ls : List PLabel) (s : PSt) (h : prun PSt.init ls = some s)
    (d : PDeliv) (hd : d ∈ s.delivered) : readParams s.pheap s.lheap d.l = d.snap :=
  (prun_inv ls PSt.init s PInv_init h).intact d hd

/-- The ghost field `snap` is the value of `csi.Parameters` at the `emit`. -/
theorem params_snapshot_taken_at_delivery (s s' : PSt) (h : pstep s .emit = some s') :
    ∃ l, s.work = some (l, none) ∧ 0 < l.len ∧ s'.work = none ∧
      s'.delivered = ⟨l, readParams s.pheap s.lheap l⟩ :: s.delivered := by
  simp only [pstep] at h
  split at h
  · rename_i l hw
    split at h
    · cases h
    · rename_i hlen
      simp only [Option.some.injEq] at h; subst h
      exact ⟨l, hw, Nat.pos_of_ne_zero hlen, rfl, rfl⟩
  · cases h

example : ∃ s, prun PSt.init [.begin none, .get none, .app 1 0, .push 0] = some s ∧
    (pstep s .emit).isSome = true := ⟨_, rfl, by decide⟩

/-- Two-state form (as `delivered_contents_stable`). -/
theorem delivered_params_stable (ls1 ls2 : List PLabel) (s1 s2 : PSt)
    (h1 : prun PSt.init ls1 = some s1) (h2 : prun s1 ls2 = some s2)
    (d : PDeliv) (hd1 : d ∈ s1.delivered) (hd2 : d ∈ s2.delivered) :
    readParams s2.pheap s2.lheap d.l = readParams s1.pheap s1.lheap d.l := by
  have h12 : prun PSt.init (ls1 ++ ls2) = some s2 := by rw [prun_isRun.append_of_eq_some h1]; exact h2
  rw [delivered_params_immutable _ _ h1 d hd1, delivered_params_immutable _ _ h12 d hd2]

/-- `CSI 4 m` of `pReuseTrace` is held from its delivery (after 14 labels) to the end. -/
example : ∃ s1 s2, prun PSt.init (pReuseTrace.take 14) = some s1 ∧
    prun s1 (pReuseTrace.drop 14) = some s2 ∧
    (⟨⟨1, 1⟩, [[4]]⟩ : PDeliv) ∈ s1.delivered ∧ (⟨⟨1, 1⟩, [[4]]⟩ : PDeliv) ∈ s2.delivered :=
  ⟨_, _, rfl, rfl, by decide, by decide⟩

/-- **One owner per array, in both heaps**, along every run: the `[][]int` arrays of the running
    dispatch, of pooled lists and of delivered sequences are pairwise distinct; the `[]int` arrays
    of `param`, of the headers already appended to `csi.Parameters`, of pooled params and of all
    headers of all delivered sequences and of those a `Finish` in progress has yet to put are
    pairwise distinct (no repetition in `lowners`/`powners`); all are allocated. -/
theorem param_arrays_one_owner (ls : List PLabel) (s : PSt) (h : prun PSt.init ls = some s) :
    (lowners s).Nodup ∧ (powners s).Nodup ∧
    (∀ a ∈ lowners s, a < s.lheap.length) ∧ (∀ a ∈ powners s, a < s.pheap.length) := by
  have hinv := prun_inv ls PSt.init s PInv_init h
  exact ⟨hinv.lown.1, hinv.pown.1, hinv.lown.2, hinv.pown.2⟩

/-- Non-vacuity: `CSI 1;2:3 m`, `CSI 4 m`, `Finish` of the first, then `CSI 5;6 m` whose three `Get`s
    return the first one's list and both of its parameter arrays: the run is enabled; before the
    reuse `[]int` arrays 0 and 1 read `1` / `2,3` (the finished sequence), after it `5` / `6,3…` —
    reuse really overwrites, in place, what the finished sequence pointed to — while the unfinished
   `CSI 4 m` and the new sequence are intact, and the owner lists have no repetition. -/
example :
    (prun PSt.init (pReuseTrace.take 18)).map (fun s => (s.pheap.map (·.take 2), s.ppool, s.lpool)) =
      some ([[1, 0], [2, 3], [4, 0]], [⟨1, 2⟩, ⟨0, 1⟩], [⟨0, 2⟩]) ∧
    (prun PSt.init pReuseTrace).map (fun s => (s.pheap.map (·.take 2), s.delivered, lowners s, powners s)) =
      some ([[6, 0], [5, 3], [4, 0]], [⟨⟨0, 2⟩, [[5], [6]]⟩, ⟨⟨1, 1⟩, [[4]]⟩], [0, 1], [1, 0, 2]) ∧
    (prun PSt.init pReuseTrace).map pAllIntact = some true := by decide

/-- … and with the parser running ahead of the `Finish` loop (a parameter array is taken by `Get` as
    soon as it is put, while the `Finish` call still reads the list it has not yet put; the dispatch
    in progress spans `finish`/`finPut` steps). -/
example :
    (prun PSt.init (pReuseTrace2.take 14)).map (·.work) = some (some (⟨1, 0⟩, some ⟨2, 1⟩)) ∧
    (prun PSt.init (pReuseTrace2.take 14)).map (fun s => (s.ppool, s.fin)) = some ([⟨0, 1⟩], [(⟨0, 2⟩, 1)]) ∧
    (prun PSt.init pReuseTrace2).map (fun s => (s.pheap.map (·.take 2), s.delivered, s.lpool, s.fin)) =
      some ([[5, 0], [6, 3], [4, 0]], [⟨⟨2, 2⟩, [[5], [6]]⟩, ⟨⟨1, 1⟩, [[4]]⟩], [⟨0, 2⟩], []) ∧
    (prun PSt.init pReuseTrace2).map pAllIntact = some true := by decide

/-- Growth of both kinds of array is exercised too: 7 sub-parameters in one parameter (capacity 6),
    5 parameters (capacity 4). -/
example :
    (prun PSt.init ([.begin none, .get none] ++ List.replicate 7 (.app 9 12) ++ [.push 0] ++
        (List.replicate 4 [PLabel.get none, .app 1 0, .push 8]).flatten ++ [.emit])).map
      (fun s => (s.delivered, pAllIntact s)) =
      some ([⟨⟨1, 5⟩, [[9, 9, 9, 9, 9, 9, 9], [1], [1], [1], [1]]⟩], true) := by decide

/-! ### the stale length of a pooled slice is not observable

`Get()` hands back a slice with the length it was `Put` with; the automaton model (Model/Parser.lean)
writes `inter := []` at a dispatch instead.  The two agree on everything that is emitted. -/

section Stale
open VaxisModel.Model.ParserTable VaxisModel.Model.Parser VaxisModel.Lemmas.ParserStale

/-- **Whatever `p.intermediate` holds after a dispatch is never seen.**  From the states in which a
    dispatch leaves the parser (`ground`; `dcsPassthrough` after `hook`), for any stale contents `x` of
    `p.intermediate` and any further input (runes, end of input): the items emitted and the point
    where the loop stops are those of the run with `p.intermediate` empty — every path to a statement
    that reads or appends to it goes through the `clear()` of an ESC. -/
theorem stale_intermediate_unobservable (s : PState) (hd : s.state = .ground ∨ s.state = .dcsPassthrough)
    (x : List Rune) (is : List Inp) :
    (runWith handTable { s with inter := x } is).2 = (runWith handTable s is).2 :=
  VaxisModel.Lemmas.ParserLeak.runWith_rel is _ _
    (.inr ⟨by rcases hd with h | h <;> simp [h, VaxisModel.Lemmas.ParserLeak.dead], rfl, rfl, rfl, rfl, rfl, rfl⟩)

-- a stale `,` in p.intermediate, then `A ESC # 8 ESC [ ? 1 h`: the same items as with an empty slice
example : (runWith handTable { PState.init with inter := [0x2C] }
      [.rune 0x41, .rune 0x1B, .rune 0x23, .rune 0x38, .rune 0x1B, .rune 0x5B, .rune 0x3F, .rune 0x31, .rune 0x68, .eof]).2 =
    ([.print 0x41, .esc [0x23] 0x38, .csi [0x3F] [[1]] 0x68], true) := by decide

/-- … and those are the states a dispatch leaves the parser in: in every state function, every arm
    that contains `escapeDispatch`, `csiDispatch` or `hook` returns `ground` or `dcsPassthrough` (also
    through its early `return`). -/
theorem dispatch_leaves_intermediate_dead (st : StateId) (r : Nat)
    (h : ((handFn st).row (.rune r)).1.any isDispatch = true) :
    (((handFn st).row (.rune r)).2 = .st .ground ∨ ((handFn st).row (.rune r)).2 = .st .dcsPassthrough) ∧
    retTargetsDead ((handFn st).row (.rune r)).1 = true := by
  have := dispatch_rows st r
  simp only [dispatchRowOk, h, Bool.not_true, Bool.false_or, Bool.and_eq_true, Bool.or_eq_true, beq_iff_eq] at this
  exact this

example : ((handFn .csiParam).row (.rune 0x6D)).1.any isDispatch = true := by decide

end Stale

/-- The variant interpreter with the code's configuration is `pstep` (so the theorems above are
    about `PCfg.code`). -/
theorem pstepV_code (s : PSt) (l : PLabel) : pstepV PCfg.code s l = pstep s l := by
  cases l with
  | emit =>
    simp only [pstepV, PCfg.code, Bool.false_eq_true, if_false]
    cases pstep s .emit with
    | none => rfl
    | some s' => cases hw : s.work with
      | none => rfl
      | some w => rfl
  | finish k =>
    simp only [pstepV, PCfg.code, Bool.false_eq_true, if_false, pstep]
    cases s.delivered[k]? <;> rfl
  | _ => rfl

/-- Ownership must move to the consumer at `emit` (the analogue of `…_needs_get` for the
    intermediates): if `csiDispatch` could take the list and the parameter arrays of a sequence again
    while that sequence is still held, the held sequence is overwritten — `CSI 1 m` held, the next
    `csiDispatch` gets the same `[]int` array and appends 9: the held CSI now reads 9. -/
theorem delivered_params_immutable_needs_transfer :
    ¬ (∀ (ls : List PLabel) (s : PSt), prunV { keepOnEmit := true } PSt.init ls = some s →
        ∀ d ∈ s.delivered, readParams s.pheap s.lheap d.l = d.snap) := by
  intro h
  have h1 := h [.begin none, .get none, .app 1 0, .push 0, .emit,
    .begin none, .get (some 0), .app 9 0] _ rfl ⟨⟨0, 1⟩, [[1]]⟩ (by decide)
  revert h1
  decide

/-- … and the consumer must hand a CSI back at most once: after two `Finish` calls on `CSI 1 m` its
    parameter array sits in `paramPool` twice; `CSI 2 m` takes it and is delivered (never finished);
    `CSI 3 m` takes it again and overwrites what the held `CSI 2 m` reads. -/
theorem delivered_params_immutable_needs_finish_once :
    ¬ (∀ (ls : List PLabel) (s : PSt), prunV { finishTwice := true } PSt.init ls = some s →
        ∀ d ∈ s.delivered, readParams s.pheap s.lheap d.l = d.snap) := by
  intro h
  have h1 := h [.begin none, .get none, .app 1 0, .push 0, .emit,
    .finish 0, .finPut 0, .finPut 0, .finish 0, .finPut 0, .finPut 0,
    .begin none, .get (some 0), .app 2 0, .push 0, .emit,
    .begin none, .get (some 0), .app 3 0] _ rfl ⟨⟨1, 1⟩, [[2]]⟩ (by decide)
  revert h1
  decide

end VaxisModel.Props.C08Pools
