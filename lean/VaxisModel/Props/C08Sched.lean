/-
C08 — forced schedules: what the harness `harness/cmd/C08Sched` replays on the real parser
are runs of the statement-grained LTS (`Model/ParserRunFine.lean`), so every theorem of
`Props/C08Fine.lean` / `C08FineChan.lean` / `C08Spec.lean` speaks about them.  The enumeration of schedules
is sound and complete for the predicate `Reduced`; two schedules show why each generation bump is needed; the
oracle clauses `unguarded-write`, `lone-esc` and items = Spec are theorems; what `enabled` leaves out are the two
reductions, which commute in the LTS (`closeSig_commutes`, `expire_commutes` in `Lemmas/ParserRunSched.lean`).
-/
import VaxisModel.Model.ParserRunSched
import VaxisModel.Lemmas.ParserRunSched
import VaxisModel.Props.C08Fine
import VaxisModel.Props.C08Spec

namespace VaxisModel.Props.C08Sched
open VaxisModel.Model.ParserTable VaxisModel.Model.Parser VaxisModel.Model.ParserRun VaxisModel.Model.ParserRunFine
open VaxisModel.Model.ParserRunSched

/-- **A harness label is one or two statements of the statement-grained LTS**: `read i` is the read
    return followed by the `Stop()` inside `readRune`; a callback's failed check runs on through its
    deferred `Unlock`, and so does its last assignment; everything else is exactly one statement.
    (Any table, any state.) -/
theorem sstep_is_fine_run (T : Table) (f : FSys) (l : SLabel) (r : FSys × List Seq)
    (h : sstep T f l = some r) : FSys.run T f (expand f l) = some r ∧ 1 ≤ (expand f l).length ∧ (expand f l).length ≤ 2 := by
  refine ⟨?_, ?_, ?_⟩
  · unfold sstep at h; split at h
    · exact h
    · cases h
  · cases l <;> simp only [expand] <;> (repeat' split) <;> simp
  · cases l <;> simp only [expand] <;> (repeat' split) <;> simp

/-- **Every replayed schedule is a run of the statement-grained LTS** with the same final state and
    the same items: there is a list of single statements (the expansions of the labels, in order)
    that `FSys.run` executes to the same result.  Hence `fine_refines_atomic`, `fine_eof_once_last`,
    `fine_no_panic`, `fine_escape_report_is_lone_esc`, `fine_mutual_exclusion` … hold of every
    schedule the harness replays. -/
theorem srun_is_fine_run (T : Table) (ls : List SLabel) (f : FSys) (r : FSys × List Seq)
    (h : srun T f ls = some r) : ∃ fl : List FLabel, FSys.run T f fl = some r ∧ ls.length ≤ fl.length := by
  induction ls generalizing f r with
  | nil => exact ⟨[], by simpa [srun, FSys.run] using h, by simp⟩
  | cons l ls ih =>
    simp only [srun, seqBind] at h
    cases h1 : sstep T f l with
    | none => rw [h1] at h; cases h
    | some a =>
      obtain ⟨f1, o1⟩ := a
      rw [h1] at h; simp only at h
      cases h2 : srun T f1 ls with
      | none => rw [h2] at h; cases h
      | some b =>
        obtain ⟨f2, o2⟩ := b
        rw [h2] at h; simp only at h
        obtain ⟨fl, hfl, hlen⟩ := ih f1 (f2, o2) h2
        obtain ⟨hx, h1', _⟩ := sstep_is_fine_run T f l (f1, o1) h1
        refine ⟨expand f l ++ fl, ?_, ?_⟩
        · rw [VaxisModel.Lemmas.ParserRunSched.run_append, hx]; simp only [hfl]; exact h
        · simp only [List.length_cons, List.length_append]; omega

/-- what the reader still has to deliver / whether a `Close()` is still to come, after a label -/
def insAfter (ins : List Nat) : SLabel → List Nat
  | .read (.rune _) => ins.drop 1
  | _ => ins
def mcAfter (mc : Bool) : SLabel → Bool
  | .close => false
  | _ => mc

/-- one step of the fold in `enumerate` -/
def gstep (T : Table) (fuel : Nat) (f : FSys) (ins : List Nat) (mc : Bool) (pre : List SLabel) (cap : Nat)
    (acc : List (List SLabel)) (l : SLabel) : List (List SLabel) :=
  match sstep T f l with
  | none => acc
  | some (f1, _) => enumerate T fuel f1 (insAfter ins l) (mcAfter mc l) (l :: pre) cap acc

theorem enumerate_succ (T : Table) (fuel : Nat) (f : FSys) (ins : List Nat) (mc : Bool) (pre : List SLabel) (cap : Nat)
    (acc : List (List SLabel)) :
    enumerate T (fuel + 1) f ins mc pre cap acc =
      if acc.length ≥ cap then acc else if finished f then pre.reverse :: acc
      else (enabled T f ins mc).foldl (gstep T fuel f ins mc pre cap) acc := by
  rw [enumerate]
  split
  · rfl
  · split
    · rfl
    · congr 1

theorem foldl_rel {α β : Type} (g : β → α → β) (R : β → β → Prop) (hrefl : ∀ a, R a a)
    (htrans : ∀ {a b c}, R a b → R b c → R a c) (hstep : ∀ a l, R a (g a l)) : ∀ (en : List α) (a : β), R a (en.foldl g a)
  | [], a => hrefl a
  | l :: en, a => htrans (hstep a l) (foldl_rel g R hrefl htrans hstep en (g a l))

theorem enumerate_sound_acc (T : Table) : ∀ (fuel : Nat) (f : FSys) (ins : List Nat) (mc : Bool) (pre : List SLabel)
    (cap : Nat) (acc : List (List SLabel)) (s : List SLabel),
    s ∈ enumerate T fuel f ins mc pre cap acc →
    s ∈ acc ∨ ∃ ls r, s = pre.reverse ++ ls ∧ srun T f ls = some r ∧ finished r.1 = true := by
  intro fuel
  induction fuel with
  | zero => intro f ins mc pre cap acc s h; left; simpa [enumerate] using h
  | succ fuel ih =>
    intro f ins mc pre cap acc s h
    rw [enumerate_succ] at h
    split at h
    · left; exact h
    · split at h
      · rename_i hfin
        rcases List.mem_cons.mp h with h | h
        · right; exact ⟨[], (f, []), by simp [h], by simp [srun], hfin⟩
        · left; exact h
      · -- every step of the fold keeps "in `acc`, or a complete run behind `pre`"
        refine foldl_rel (gstep T fuel f ins mc pre cap)
          (fun a b => (∀ s ∈ a, s ∈ acc ∨ ∃ ls r, s = pre.reverse ++ ls ∧ srun T f ls = some r ∧ finished r.1 = true) →
            ∀ s ∈ b, s ∈ acc ∨ ∃ ls r, s = pre.reverse ++ ls ∧ srun T f ls = some r ∧ finished r.1 = true)
          (fun _ h => h) (fun h1 h2 h => h2 (h1 h)) (fun a l hacc s' hs' => ?_) _ acc (fun s hs => Or.inl hs) s h
        unfold gstep at hs'
        cases h1 : sstep T f l with
        | none => rw [h1] at hs'; exact hacc s' hs'
        | some a1 =>
          obtain ⟨f1, o1⟩ := a1
          rw [h1] at hs'
          rcases ih _ _ _ _ _ _ _ hs' with h' | ⟨ls, r, he, hr, hf⟩
          · exact hacc s' h'
          · exact .inr ⟨l :: ls, (r.1, o1 ++ r.2), by simp [he], by simp only [srun, seqBind, h1, hr], hf⟩

/-- **Every schedule the model hands to the harness is a complete run of the LTS**: from the initial
    state it executes label by label (no label is disabled where the schedule takes it — in
    particular no `Lock` while the mutex is held) and ends with `run` returned, every callback
    goroutine returned and no timer pending.  (Any table, any scripted input, with or without `Close()`.) -/
theorem enumerate_sound (T : Table) (fuel : Nat) (ins : List Nat) (mc : Bool) (cap : Nat) (s : List SLabel)
    (h : s ∈ enumerate T fuel {} ins mc [] cap []) :
    ∃ r, srun T {} s = some r ∧ finished r.1 = true := by
  rcases enumerate_sound_acc T fuel {} ins mc [] cap [] s h with h | ⟨ls, r, he, hr, hf⟩
  · cases h
  · exact ⟨r, by simpa [he] using hr, hf⟩

-- non-vacuity, script = a lone ESC, then end of input: the enumeration has 31 schedules without and 95
-- with a `Close()`; in the schedule replayed below the callback reports the Escape key (`C0 1B`) and
-- the run ends with `EOF{}`, everything finished
example : ((enumerate handTable 80 {} [0x1B] false [] 100000 []).length, (enumerate handTable 80 {} [0x1B] true [] 100000 []).length) = (31, 95) := by
  decide +kernel
example : (srun handTable {} [.main, .read (.rune 0x1B), .main, .main, .main, .expire, .main, .cb 0, .cb 0, .cb 0, .cb 0, .cb 0,
    .main, .read .eof, .main, .main, .main, .main, .main, .main, .main, .main, .main, .main]).map (fun r => (r.2, finished r.1)) =
    some ([.c0 0x1B, .eof], true) := by decide +kernel

/-- lone ESC; the timer expires (callback parked in front of `Lock`); `Close()`; `run` leaves the loop
    and runs to its end; only then the callback runs — the replay `sched M,R1b,M,M,M,X,M,K,M,M,M,M,M,M,M,C0,C0`
    of `corpus/C08Sched`, statement by statement -/
def lateCallbackAfterClose : List FLabel :=
  [.main, .readRet (.rune 0x1B), .main, .main, .main, .main, .expire, .main, .closeSig,
   .main, .main, .main, .main, .main, .main, .main, .cb 0, .cb 0, .cb 0]

/-- **The bump after the loop is needed**: without `escGen++` in front of `emit(EOF{})` the callback
    of a lone ESC that starts late still sees its own generation after `close(p.sequences)` and
    sends on the closed channel (`panic`); the code as it is fails the check and emits nothing —
    same schedule, statement by statement. -/
theorem fine_needs_final_bump :
    (FSys.runV .noFinalBump handTable {} lateCallbackAfterClose).map (fun r => r.2) = some [.eof, .panic] ∧
    (FSys.runV .code handTable {} lateCallbackAfterClose).map (fun r => r.2) = some [.eof] ∧
    FSys.runV .code handTable {} lateCallbackAfterClose = FSys.run handTable {} lateCallbackAfterClose := by
  decide +kernel

/-- lone ESC; the timer expires; the next read returns SUB (0x1A) and is parsed; then the callback runs -/
def lateCallbackAfterSub : List FLabel :=
  [.main, .readRet (.rune 0x1B), .main, .main, .main, .main, .expire, .main,
   .main, .readRet (.rune 0x1A), .main, .main, .main, .main, .main, .cb 0, .cb 0, .cb 0]

/-- **The bump belongs in `run`, before every transition** (seeded change C08-m2): with `escGen++`
    moved into the `escape` state function a SUB (or CAN, ESC, end of input — handled by `anywhere`
    itself) does not outdate the started callback, which then reports the Escape key after the
    `C0 1A` that followed the ESC; the code as it is reports nothing. -/
theorem fine_needs_bump_before_every_transition :
    (FSys.runV .bumpInEscape handTable {} lateCallbackAfterSub).map (fun r => r.2) = some [.c0 0x1A, .c0 0x1B] ∧
    (FSys.runV .code handTable {} lateCallbackAfterSub).map (fun r => r.2) = some [.c0 0x1A] := by
  decide +kernel

/-- A complete schedule under the two reductions of `Model/ParserRunSched.lean`: at every state that is
    not finished the next label is one of `enabled` (any enabled statement of any goroutine; the read
    returns the next scripted input; `Close()` in front of a `select`; expiry right after arming), it
    executes, and the rest is such a schedule; it ends in a finished state. -/
inductive Reduced (T : Table) : FSys → List Nat → Bool → List SLabel → Prop
  | done (f ins mc) : finished f = true → Reduced T f ins mc []
  | step (f ins mc l f1 o ls) : finished f = false → l ∈ enabled T f ins mc → sstep T f l = some (f1, o) →
      Reduced T f1 (insAfter ins l) (mcAfter mc l) ls → Reduced T f ins mc (l :: ls)

theorem foldl_mono_of (T : Table) (fuel : Nat) (f : FSys) (ins : List Nat) (mc : Bool) (pre : List SLabel) (cap : Nat)
    (hrec : ∀ (a : List (List SLabel)) (l : SLabel) {f1 : FSys},
      (∀ s ∈ a, s ∈ enumerate T fuel f1 (insAfter ins l) (mcAfter mc l) (l :: pre) cap a) ∧
      a.length ≤ (enumerate T fuel f1 (insAfter ins l) (mcAfter mc l) (l :: pre) cap a).length) :
    ∀ (en : List SLabel) (a : List (List SLabel)),
      (∀ s ∈ a, s ∈ en.foldl (gstep T fuel f ins mc pre cap) a) ∧
      a.length ≤ (en.foldl (gstep T fuel f ins mc pre cap) a).length :=
  foldl_rel (gstep T fuel f ins mc pre cap) (fun a b => (∀ s ∈ a, s ∈ b) ∧ a.length ≤ b.length) (fun _ => ⟨fun _ h => h, Nat.le_refl _⟩)
    (fun h1 h2 => ⟨fun s hs => h2.1 s (h1.1 s hs), Nat.le_trans h1.2 h2.2⟩)
    (fun a l => by
      unfold gstep
      cases sstep T f l with
      | none => exact ⟨fun _ h => h, Nat.le_refl _⟩
      | some r => exact hrec a l)

theorem enumerate_mono (T : Table) : ∀ (fuel : Nat) (f : FSys) (ins : List Nat) (mc : Bool) (pre : List SLabel) (cap : Nat)
    (acc : List (List SLabel)),
    (∀ s ∈ acc, s ∈ enumerate T fuel f ins mc pre cap acc) ∧ acc.length ≤ (enumerate T fuel f ins mc pre cap acc).length := by
  intro fuel
  induction fuel with
  | zero => intro f ins mc pre cap acc; simp [enumerate]
  | succ fuel ih =>
    intro f ins mc pre cap acc
    rw [enumerate_succ]
    split
    · exact ⟨fun s h => h, Nat.le_refl _⟩
    · split
      · exact ⟨fun s h => List.mem_cons_of_mem _ h, by simp⟩
      · exact foldl_mono_of T fuel f ins mc pre cap (fun _ l => ih _ _ _ _ _ _) _ acc

theorem fold_mono (T : Table) (fuel : Nat) (f : FSys) (ins : List Nat) (mc : Bool) (pre : List SLabel) (cap : Nat) :
    ∀ (en : List SLabel) (a : List (List SLabel)),
      (∀ s ∈ a, s ∈ en.foldl (gstep T fuel f ins mc pre cap) a) ∧
      a.length ≤ (en.foldl (gstep T fuel f ins mc pre cap) a).length :=
  foldl_mono_of T fuel f ins mc pre cap (fun _ _ => enumerate_mono T _ _ _ _ _ _ _)

theorem enumerate_complete_acc (T : Table) : ∀ (fuel : Nat) (f : FSys) (ins : List Nat) (mc : Bool) (pre : List SLabel)
    (cap : Nat) (acc : List (List SLabel)) (ls : List SLabel),
    Reduced T f ins mc ls → ls.length < fuel → (enumerate T fuel f ins mc pre cap acc).length < cap →
    pre.reverse ++ ls ∈ enumerate T fuel f ins mc pre cap acc := by
  intro fuel
  induction fuel with
  | zero => intro f ins mc pre cap acc ls _ h; omega
  | succ fuel ih =>
    intro f ins mc pre cap acc ls hr hlen hcap
    have hm := (enumerate_mono T (fuel + 1) f ins mc pre cap acc).2
    rw [enumerate_succ] at hcap hm ⊢
    have hacc : ¬ acc.length ≥ cap := by
      intro h; rw [if_pos h] at hcap; omega
    rw [if_neg hacc] at hcap hm ⊢
    cases hr with
    | done _ _ _ hfin => rw [if_pos hfin]; simp
    | step _ _ _ l f1 o ls' hnf hen hs hrest =>
      have hnf' : ¬ finished f = true := by rw [hnf]; simp
      rw [if_neg hnf'] at hcap hm ⊢
      obtain ⟨en1, en2, hsplit⟩ := List.append_of_mem hen
      rw [hsplit, List.foldl_append, List.foldl_cons] at hcap ⊢
      -- the accumulator when the fold reaches `l`, and after it
      have h2 := fold_mono T fuel f ins mc pre cap en2 (gstep T fuel f ins mc pre cap (en1.foldl (gstep T fuel f ins mc pre cap) acc) l)
      apply h2.1
      have hg : gstep T fuel f ins mc pre cap (en1.foldl (gstep T fuel f ins mc pre cap) acc) l =
          enumerate T fuel f1 (insAfter ins l) (mcAfter mc l) (l :: pre) cap (en1.foldl (gstep T fuel f ins mc pre cap) acc) := by
        unfold gstep; rw [hs]
      rw [hg] at h2 hcap ⊢
      have := ih f1 (insAfter ins l) (mcAfter mc l) (l :: pre) cap (en1.foldl (gstep T fuel f ins mc pre cap) acc) ls' hrest
        (by simp only [List.length_cons] at hlen; omega) (by have := h2.2; omega)
      simpa using this

/-- **The enumeration is complete**: as long as the cap is not reached, every complete schedule under
    the two reductions, shorter than the fuel, is in the list — with `enumerate_sound`: the list is
    exactly the set of such interleavings of the statements of `run` (and of the reader's returns,
    `Close()`, timer expiries) with the statements of the callbacks.  (Any table.) -/
theorem enumerate_complete (T : Table) (fuel : Nat) (ins : List Nat) (mc : Bool) (cap : Nat) (ls : List SLabel)
    (hr : Reduced T {} ins mc ls) (hlen : ls.length < fuel)
    (hcap : (enumerate T fuel {} ins mc [] cap []).length < cap) :
    ls ∈ enumerate T fuel {} ins mc [] cap [] := by
  simpa using enumerate_complete_acc T fuel {} ins mc [] cap [] ls hr hlen hcap

open VaxisModel.Lemmas.ParserRunFine in
/-- **The guarded fields are written only under the mutex**: in every reachable state of the
    statement-grained system, a statement that changes `escGen` or any field of the parser state
    (`state`, `ignoreST`, the collected bytes, the accumulators) is a statement of the goroutine that
    holds `p.mu` before and after it — the main goroutine between its `Lock` and `Unlock`, or a
    callback between its `Lock` and its deferred `Unlock`.  (`Close()`, read returns, timer expiries,
    `Lock`, `Unlock`, `Stop()`, the `select`, `emit(EOF{})` and `close` change none of them.)  This is
    the clause `FAIL[unguarded-write]` of the forced-schedule oracle, which is evaluated on the real
    code; together with `fine_mutual_exclusion` it is why "sync.Mutex gives sequential consistency for
    the fields it guards" applies to them. -/
theorem fine_writes_under_mutex (T : Table) (hT : TimerOk T) (fls : List FLabel) (f : FSys) (out : List Seq)
    (h : FSys.run T FSys.init fls = some (f, out)) (l : FLabel) (f' : FSys) (o : List Seq)
    (hs : FSys.step T f l = some (f', o)) (hch : f'.escGen ≠ f.escGen ∨ f'.ps ≠ f.ps) :
    (l = .main ∧ f.mutex = some .main ∧ f'.mutex = some .main) ∨
    (∃ i, l = .cb i ∧ f.mutex = some .cb ∧ f'.mutex = some .cb) := by
  obtain ⟨hm1, hm2, _, _, _⟩ := VaxisModel.Props.C08Fine.fine_mutual_exclusion T hT fls f out h
  cases fstep_rel hs with
  | closeSig => simp at hch
  | readRet i _ => simp at hch
  | expire g _ => simp at hch
  | main _ =>
    left
    rcases mainStep_guarded T f f' o hs with ⟨h1, h2⟩ | ⟨h1, h2⟩
    · rcases hch with hch | hch
      · exact absurd h1 hch
      · exact absurd h2 hch
    · have hm : f.mutex = some .main := hm1.mpr h1
      exact ⟨rfl, hm, by rw [h2]; exact hm⟩
  | cb i hcb =>
    right
    refine ⟨i, rfl, ?_⟩
    have hcb' : ∀ g pc, f.cbs[i]? = some (g, pc) → crit pc = true → f.mutex = some .cb := by
      intro g pc hk hc
      by_cases hne : f.mutex = some .cb
      · exact hne
      · exfalso
        rw [if_neg hne] at hm2
        have := (List.countP_eq_zero.mp hm2) (g, pc) (List.mem_of_getElem? hk)
        simp [hc] at this
    cases hcb
    case setState g hk => exact ⟨hcb' g _ hk rfl, hcb' g _ hk rfl⟩
    case setST g hk => exact ⟨hcb' g _ hk rfl, hcb' g _ hk rfl⟩
    all_goals simp at hch

/-- where the main goroutine can be while nothing follows the ESC: after `anywhere` armed the timer
    (`Unlock` still to come), in front of the `select`, blocked in the read -/
def quietMain : MPc → Bool
  | .stepped false | .atSelect | .inRead => true
  | _ => false

/-- callback `k` has not given up, and once it is past its `emit` the report is in the output -/
def reportsOk (f : FSys) (k g : Nat) (o : List Seq) : Prop :=
  ∃ pc, f.cbs[k]? = some (g, pc) ∧ pc ≠ .failed ∧
    ((pc = .emitted ∨ pc = .stateSet ∨ pc = .stSet) → Seq.c0 0x1B ∈ o) ∧
    (pc = .gone → Seq.c0 0x1B ∈ o)

/-- One statement other than `Close()` and a read return keeps the situation of `fine_lone_esc_reported`: the
    generation, the main goroutine where it can be while nothing follows, no `Close()`, the channel open, and
    callback `k` on its passing path with its report in the items so far once it is past its `emit`. -/
theorem lone_esc_step (T : Table) {f f1 : FSys} {l : FLabel} {o1 acc : List Seq} {k g : Nat}
    (h1 : FSys.step T f l = some (f1, o1)) (hl0 : l ≠ .closeSig ∧ ∀ i, l ≠ .readRet i)
    (hrep : reportsOk f k g acc) (hg : g = f.escGen) (hq : quietMain f.mpc = true) (hc : f.closeReq = false)
    (hch : f.chanClosed = false) :
    f1.escGen = f.escGen ∧ quietMain f1.mpc = true ∧ f1.closeReq = false ∧ f1.chanClosed = false ∧
      reportsOk f1 k g (acc ++ o1) := by
  obtain ⟨pc, hk, hnf, hem, hgo⟩ := hrep
  have hklt : k < f.cbs.length := (List.getElem?_eq_some_iff.mp hk).1
  cases VaxisModel.Lemmas.ParserRunFine.fstep_rel h1 with
  | closeSig => exact absurd rfl hl0.1
  | readRet i _ => exact absurd rfl (hl0.2 i)
  | expire ga _ =>
    refine ⟨rfl, hq, hc, hch, pc, ?_, hnf, by simpa using hem, by simpa using hgo⟩
    simp only [List.getElem?_append_left hklt]; exact hk
  | main hm =>
    cases hm
    case selectClose hcr => rw [hc] at hcr; cases hcr
    case selectRead => exact ⟨rfl, rfl, hc, hch, pc, hk, hnf, by simpa using hem, by simpa using hgo⟩
    case unlock b hpcm =>
      rw [hpcm] at hq
      cases b with
      | true => simp [quietMain] at hq
      | false => exact ⟨rfl, rfl, hc, hch, pc, hk, hnf, by simpa using hem, by simpa using hgo⟩
    case lock hpcm _ | finLock hpcm _ => rw [hpcm] at hq; simp [quietMain] at hq
    all_goals (rename_i hpcm; rw [hpcm] at hq; simp [quietMain] at hq)
  | cb j hcb =>
    by_cases hjk : j = k
    · -- the callback of the lone ESC itself
      subst hjk
      cases hcb
      case lock g' hj _ =>
        rw [hk] at hj; cases hj
        exact ⟨rfl, hq, hc, hch, .locked, by simp [List.getElem?_set_self hklt], by simp, by simp, by simp⟩
      case check g' hj =>
        rw [hk] at hj; cases hj
        exact ⟨rfl, hq, hc, hch, .passed, by simp [List.getElem?_set_self hklt, hg], by simp, by simp, by simp⟩
      case emit g' hj =>
        rw [hk] at hj; cases hj
        exact ⟨rfl, hq, hc, hch, .emitted, by simp [List.getElem?_set_self hklt], by simp, by simp [hch], by simp⟩
      case setState g' hj =>
        rw [hk] at hj; cases hj
        exact ⟨rfl, hq, hc, hch, .stateSet, by simp [List.getElem?_set_self hklt], by simp,
          fun _ => by simpa using hem (Or.inl rfl), by simp⟩
      case setST g' hj =>
        rw [hk] at hj; cases hj
        exact ⟨rfl, hq, hc, hch, .stSet, by simp [List.getElem?_set_self hklt], by simp,
          fun _ => by simpa using hem (Or.inr (Or.inl rfl)), by simp⟩
      case unlock g' pc' hj hpc' =>
        rw [hk] at hj; cases hj
        rcases hpc' with rfl | rfl
        · exact ⟨rfl, hq, hc, hch, .gone, by simp [List.getElem?_set_self hklt], by simp, by simp,
            fun _ => by simpa using hem (Or.inr (Or.inr rfl))⟩
        · exact absurd rfl hnf
    · -- another callback: it touches neither the generation nor the entry of callback k
      obtain ⟨e1, e2, e3, _, e5, _⟩ := VaxisModel.Lemmas.ParserRunFine.cbStep_frame f f1 j o1 h1
      exact ⟨e5, by rw [e1]; exact hq, by rw [e2]; exact hc, by rw [e3]; exact hch, pc,
        by rw [VaxisModel.Lemmas.ParserRunFine.cbStep_other f f1 j o1 h1 k hjk]; exact hk, hnf,
        fun h => List.mem_append_left _ (hem h), fun h => List.mem_append_left _ (hgo h)⟩

/-- **A lone ESC followed by silence is reported, in every interleaving.**  Take any state in which
    callback `k` carries the current generation and has not yet made its check (it is the callback of
    the ESC parsed last), the main goroutine is where it can be while nothing follows (in front of its
    `Unlock`, at the `select`, blocked in the read), no `Close()` has been issued and the channel is
    open.  Then along **every** schedule without a read return and without `Close()` — any statements
    of this and of any other callback, further expiries, the main goroutine moving on into the read —
    the generation does not move, callback `k` never gives up at its check, and as soon as it is past
    its `emit` the output of the schedule contains `C0 1B`.  (Any table.)  This is the clause
    `FAIL[lone-esc]` of the forced-schedule oracle. -/
theorem fine_lone_esc_reported (T : Table) (ls : List FLabel) :
    ∀ (f : FSys) (k g : Nat) (pc : CbPc) (f' : FSys) (o : List Seq),
    f.cbs[k]? = some (g, pc) → (pc = .started ∨ pc = .locked) → g = f.escGen →
    quietMain f.mpc = true → f.closeReq = false → f.chanClosed = false →
    (∀ l ∈ ls, l ≠ .closeSig ∧ ∀ i, l ≠ .readRet i) →
    FSys.run T f ls = some (f', o) →
    f'.escGen = f.escGen ∧ quietMain f'.mpc = true ∧ reportsOk f' k g o := by
  -- generalised: callback k anywhere on its passing path, with the items emitted so far in `acc`
  suffices hgen : ∀ (ls : List FLabel) (f : FSys) (k g : Nat) (acc : List Seq) (f' : FSys) (o : List Seq),
      reportsOk f k g acc → g = f.escGen → quietMain f.mpc = true → f.closeReq = false → f.chanClosed = false →
      (∀ l ∈ ls, l ≠ .closeSig ∧ ∀ i, l ≠ .readRet i) →
      FSys.run T f ls = some (f', o) →
      f'.escGen = f.escGen ∧ quietMain f'.mpc = true ∧ reportsOk f' k g (acc ++ o) by
    intro f k g pc f' o hk hpc hg hq hc hch hl hr
    have := hgen ls f k g [] f' o ⟨pc, hk, by rcases hpc with rfl | rfl <;> simp,
      by rcases hpc with rfl | rfl <;> simp, by rcases hpc with rfl | rfl <;> simp⟩ hg hq hc hch hl hr
    simpa using this
  intro ls
  induction ls with
  | nil =>
    intro f k g acc f' o hrep hg hq hc hch _ hr
    cases hr
    exact ⟨rfl, hq, by simpa using hrep⟩
  | cons l ls ih =>
    intro f k g acc f' o hrep hg hq hc hch hl hr
    obtain ⟨f1, o1, o2, h1, h2, rfl⟩ := VaxisModel.Lemmas.OptRun.orun_cons_some (VaxisModel.Lemmas.ParserRunFine.frun_eq T f _ ▸ hr)
    rw [← VaxisModel.Lemmas.ParserRunFine.frun_eq] at h2
    have hl' : ∀ l ∈ ls, l ≠ .closeSig ∧ ∀ i, l ≠ .readRet i := fun l hm => hl l (List.mem_cons_of_mem _ hm)
    obtain ⟨he1, hq1, hc1, hch1, hrep1⟩ := lone_esc_step T h1 (hl l List.mem_cons_self) hrep hg hq hc hch
    have := ih f1 k g (acc ++ o1) f' o2 hrep1 (by rw [he1]; exact hg) hq1 hc1 hch1 hl' h2
    obtain ⟨he2, hq2, hrep2⟩ := this
    exact ⟨by rw [he2, he1], hq2, by simpa [List.append_assoc] using hrep2⟩

-- non-vacuity: after a lone ESC has been parsed and its timer has expired, the hypotheses hold (callback 0
-- carries generation 1 = `escGen`, main in front of its `Unlock`, no `Close()`, channel open)
example : (FSys.run handTable {} [.main, .readRet (.rune 0x1B), .main, .main, .main, .main, .expire]).map
    (fun r => (r.1.cbs[0]?, r.1.escGen, quietMain r.1.mpc, r.1.closeReq, r.1.chanClosed)) =
    some (some (1, .started), 1, true, false, false) := by decide +kernel

/-- **The oracle clause `esc-key` / items = Spec is a theorem**: for every schedule the harness can
    replay (any `srun` from the initial state, parser's table) that ends with `run` returned, the
    items delivered (`error` reports dropped) are `specLabels` of an atomic label schedule — runes
    through the VT500 reference machine, `escKey` (`C0 1B`, ground) at every up-to-date timer firing
    and nowhere else, the open control string flushed at end of input, one `EOF{}`
    (`srun_is_fine_run` ∘ `fine_refines_atomic` ∘ `lifecycle_refines_spec`). -/
theorem schedule_refines_spec (ls : List SLabel) (f : FSys) (out : List Seq)
    (h : srun handTable {} ls = some (f, out)) (hd : f.mpc = .done) :
    ∃ als : List Label,
      VaxisModel.Lemmas.ParserRefine.noErr out = (VaxisModel.Lemmas.ParserRunSpec.specLabels {} als).2 := by
  obtain ⟨fl, hfl, _⟩ := srun_is_fine_run handTable ls {} (f, out) h
  obtain ⟨als, b, oa, g1, g2, g3⟩ :=
    VaxisModel.Props.C08Fine.fine_refines_atomic handTable VaxisModel.Props.C08Fine.hand_table_timer_ok fl f out hfl
  have hpend := g3 (Or.inr (Or.inr hd))
  have hspec := (VaxisModel.Props.C08Spec.lifecycle_refines_spec als _ oa g1).1
  exact ⟨als, by rw [← hspec, g2, hpend, List.append_nil]⟩

/-- **What `enabled` leaves out is exactly the two reductions (and reads out of script order)**: every
    harness label that can be executed in `f` is offered by `enabled` — every statement of the main
    goroutine, every statement of every callback, the return of the pending read with the next
    scripted input — except a `Close()` (offered only in front of a `select`, while one is still to
    come), a timer expiry (offered only right after the arming `anywhere`) and a read return with
    something else than the next scripted input. -/
theorem enabled_complete (T : Table) (f : FSys) (ins : List Nat) (mc : Bool) (l : SLabel)
    (h : (sstep T f l).isSome = true) :
    l ∈ enabled T f ins mc ∨ l = .close ∨ l = .expire ∨
      (∃ i, l = .read i ∧ i ≠ (match ins with | r :: _ => Inp.rune r | [] => Inp.eof)) := by
  cases l with
  | close => exact Or.inr (Or.inl rfl)
  | expire => exact Or.inr (Or.inr (Or.inl rfl))
  | cb k =>
    left
    have hk : k < f.cbs.length := by
      rcases Nat.lt_or_ge k f.cbs.length with h' | h'
      · exact h'
      · exfalso
        have hn : f.cbs[k]? = none := List.getElem?_eq_none h'
        simp [sstep, canRelease, expand, hn, FSys.run, FSys.step, cbStep] at h
    simp only [enabled, List.mem_append, List.mem_filterMap, List.mem_range]
    exact Or.inl (Or.inr ⟨k, hk, by simp [h]⟩)
  | main =>
    left
    have hne : f.mpc ≠ .inRead := by
      intro hc; simp [sstep, canRelease, hc] at h
    simp only [enabled, List.mem_append]
    refine Or.inr ?_
    simp [hne, h]
  | read i =>
    by_cases hi : i = (match ins with | r :: _ => Inp.rune r | [] => Inp.eof)
    · left
      have hpc : f.mpc = .inRead := by
        by_cases hc : f.mpc = .inRead
        · exact hc
        · exfalso; simp [sstep, canRelease, expand, FSys.run, FSys.step, hc] at h
      subst hi
      simp only [enabled, List.mem_append]
      refine Or.inr ?_
      simp [hpc]
      cases ins <;> rfl
    · exact Or.inr (Or.inr (Or.inr ⟨i, rfl, hi⟩))

end VaxisModel.Props.C08Sched
