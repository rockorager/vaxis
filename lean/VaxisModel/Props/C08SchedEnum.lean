/-
C08 — closing the loop between schedules of single statements and the enumeration of harness-label
schedules (`Props/C08Sched.lean`): all normal forms at once (lemmas: Lemmas/ParserRunSchedEnum.lean).
-/
import VaxisModel.Props.C08SchedGroup
import VaxisModel.Lemmas.ParserRunSchedEnum

namespace VaxisModel.Props.C08SchedEnum
open VaxisModel.Model.ParserTable VaxisModel.Model.Parser VaxisModel.Model.ParserRun VaxisModel.Model.ParserRunFine
open VaxisModel.Lemmas.ParserRunSchedNormal VaxisModel.Lemmas.ParserRunSchedGroup VaxisModel.Lemmas.ParserRunSchedEnum

/-- **All normal forms at once.**  `TimerOk` table; start state meeting `FInv`, no timer pending, main not
    between a read return and its `Stop()`; a schedule of single statements that runs to `r` and ends
    neither inside a `read` group nor inside a `cb` group: the schedule
    `normalForm T f0 ls = cbNorm (readNorm (closeNorm (expNorm ls)))` is a permutation of `ls` with the same result that is
    expiry-normal (every `expire` directly behind the arming `anywhere`), `Close()`-normal (every
    `closeSig` directly in front of a `select`, or at the end), grouped (every `readRet` directly in
    front of its `Stop()`, every failed check / `p.ignoreST = false` of a callback directly in front of
    its `Unlock`) — and it is the expansion of the schedule `toS …` of harness labels, which `srun`
    executes to the same `r`. -/
theorem grouped_normal_form_general (T : Table) (hT : VaxisModel.Lemmas.ParserRunFine.TimerOk T) (f0 : FSys)
    (hinv : VaxisModel.Lemmas.ParserRunFine.FInv f0) (ha : f0.armed = none) (h0 : ∀ i, f0.mpc ≠ .readDone i)
    (ls : List FLabel) (r : FSys × List Seq) (h : FSys.run T f0 ls = some r)
    (hend1 : ∀ i, r.1.mpc ≠ .readDone i) (hend2 : ∀ c ∈ r.1.cbs, c.2 ≠ .failed ∧ c.2 ≠ .stSet) :
    ∃ ls', FSys.run T f0 ls' = some r ∧ ls'.Perm ls ∧ expNormal T false f0 ls' = true ∧
      closeNormal T f0 ls' = true ∧ readAdj ls' = true ∧ cbAdj T f0 ls' = true ∧
      VaxisModel.Model.ParserRunSched.srun T f0 (toS T false f0 ls') = some r := by
  obtain ⟨e4, hp, x4, c4, r4, b4, _⟩ := normal_form_explicit T hT f0 hinv ha ls r h hend1 hend2
  exact ⟨_, e4, hp, x4, c4, r4, b4, by rw [toS_run T _ f0 (by rw [e4]; rfl) r4 b4 h0]; exact e4⟩

/-- **`grouped_normal_form`** — the statement `grouped_normal_form_full` of Lemmas/ParserRunSchedGroup.lean,
    proved: the parser's table, from the initial state, a complete schedule (main `done`, every callback
    `gone`) has a same-result permutation that is joint-normal, grouped, and the expansion of a schedule
    of harness labels with the same result. -/
theorem grouped_normal_form : grouped_normal_form_full := by
  intro ls r h hd hg
  exact grouped_normal_form_general handTable VaxisModel.Lemmas.ParserRunFine.handTable_timerOk FSys.init
    VaxisModel.Lemmas.ParserRunFine.FInv_init rfl (fun i h => by cases h) ls r h
    (fun i hi => by rw [hd] at hi; cases hi) (fun c hc => by rw [hg c hc]; exact ⟨by decide, by decide⟩)

/-- **`complete_schedule_is_reduced` with an observed `Close()`.**  `TimerOk` table, from the initial
    state, a complete schedule `ls` of single statements (result `r`, `finished r.1`) with at most one
    `closeSig` which is observed: in the normal form it is issued while the main goroutine stands in
    front of the `select` (`closeAt`; by `closeNormal` it then stands directly in front of that `select`;
    the alternative — it has travelled to the end of the schedule, nobody looked at it — is excluded by
    this hypothesis).  Then `s = toS T false init (normalForm T init ls)` satisfies `srun T init s = some r`
    and `Reduced T init (runes ls) (ls.contains closeSig) s`, and under the fuel and cap hypotheses of
    `enumerate_complete` it is in the enumeration.  (`init` = `FSys.init` = `{}`.) -/
theorem complete_schedule_is_reduced_close (T : Table) (hT : VaxisModel.Lemmas.ParserRunFine.TimerOk T)
    (ls : List FLabel) (r : FSys × List Seq) (h : FSys.run T FSys.init ls = some r)
    (hfin : VaxisModel.Model.ParserRunSched.finished r.1 = true) (hcnt : ls.count .closeSig ≤ 1)
    (hobs : closeAt T FSys.init (normalForm T FSys.init ls) = true) :
    (normalForm T FSys.init ls).Perm ls ∧ FSys.run T FSys.init (normalForm T FSys.init ls) = some r ∧
    VaxisModel.Model.ParserRunSched.srun T FSys.init (toS T false FSys.init (normalForm T FSys.init ls)) = some r ∧
    VaxisModel.Props.C08Sched.Reduced T FSys.init (runes ls) (ls.contains .closeSig)
      (toS T false FSys.init (normalForm T FSys.init ls)) ∧
    ∀ fuel cap, (toS T false FSys.init (normalForm T FSys.init ls)).length < fuel →
      (VaxisModel.Model.ParserRunSched.enumerate T fuel FSys.init (runes ls) (ls.contains .closeSig) [] cap []).length < cap →
      toS T false FSys.init (normalForm T FSys.init ls) ∈
        VaxisModel.Model.ParserRunSched.enumerate T fuel FSys.init (runes ls) (ls.contains .closeSig) [] cap [] := by
  have hf := hfin
  simp only [VaxisModel.Model.ParserRunSched.finished, Bool.and_eq_true, decide_eq_true_eq, List.all_eq_true] at hf
  obtain ⟨⟨hd, hg⟩, _⟩ := hf
  obtain ⟨h1, h2, h3, _, h5, h6, h7⟩ := normal_form_explicit T hT FSys.init
    VaxisModel.Lemmas.ParserRunFine.FInv_init rfl ls r h
    (fun i hi => by rw [hd] at hi; cases hi)
    (fun c hc => by have := hg c hc; rw [this]; exact ⟨by decide, by decide⟩)
  have hcnt' : (normalForm T FSys.init ls).count .closeSig ≤ 1 := by rw [h2.count_eq]; exact hcnt
  have hcon : (normalForm T FSys.init ls).contains .closeSig = ls.contains .closeSig := by
    rw [Bool.eq_iff_iff]; simp only [List.contains_iff_mem]; exact h2.mem_iff
  have hred := reduced_core_mc T (normalForm T FSys.init ls) FSys.init false r h1 hfin ⟨hobs, hcnt'⟩ h5 h6 h3
    (fun h => by cases h) (fun i h => by cases h)
  rw [h7, hcon] at hred
  refine ⟨h2, h1, ?_, hred, fun fuel cap hl hc =>
    VaxisModel.Props.C08Sched.enumerate_complete T fuel (runes ls) _ cap _ hred hl hc⟩
  rw [toS_run T _ FSys.init (by rw [h1]; rfl) h5 h6 (fun i h => by cases h)]; exact h1

-- non-vacuity: `A` is read and printed; `Close()` is called while the main goroutine is inside the mutex (not in
-- front of the `select`); the run ends through the close arm: complete, one observed `Close()`.  Normal form:
-- `Close()` directly in front of the `select`; harness schedule `main, read A, main×4, close, main×7`.
example :
    (FSys.run handTable FSys.init [.main, .readRet (.rune 0x41), .main, .main, .closeSig, .main, .main, .main, .main,
       .main, .main, .main, .main, .main, .main]).map (fun r => (VaxisModel.Model.ParserRunSched.finished r.1, r.2)) =
      some (true, [.print 0x41, .eof]) ∧
    closeAt handTable FSys.init (normalForm handTable FSys.init [.main, .readRet (.rune 0x41), .main, .main, .closeSig,
       .main, .main, .main, .main, .main, .main, .main, .main, .main, .main]) = true ∧
    toS handTable false FSys.init (normalForm handTable FSys.init [.main, .readRet (.rune 0x41), .main, .main, .closeSig,
       .main, .main, .main, .main, .main, .main, .main, .main, .main, .main]) =
      [.main, .read (.rune 0x41), .main, .main, .main, .main, .close, .main, .main, .main, .main, .main, .main, .main] := by
  refine ⟨?_, ?_, ?_⟩ <;> decide +kernel

/-- **`complete_schedule_is_reduced`, for schedules without `Close()`** — with the script of the ORIGINAL
    schedule: `TimerOk` table, from the initial state, a complete schedule `ls` of single statements
    without `closeSig` (result `r`, `finished r.1`): `s = toS T false FSys.init (normalForm T FSys.init ls)` satisfies
    `srun T FSys.init s = some r` and `Reduced T FSys.init (runes ls) false s`, `runes ls` = the runes the read returns
    along `ls`, in order (an `eof` read, if any, is the last read: after it the main goroutine never reads
    again); hence, under the fuel and cap hypotheses of `enumerate_complete`,
    `s ∈ enumerate T fuel FSys.init (runes ls) false [] cap []`. -/
theorem complete_schedule_is_reduced (T : Table) (hT : VaxisModel.Lemmas.ParserRunFine.TimerOk T)
    (ls : List FLabel) (r : FSys × List Seq) (h : FSys.run T FSys.init ls = some r)
    (hfin : VaxisModel.Model.ParserRunSched.finished r.1 = true) (hnc : ∀ l ∈ ls, l ≠ .closeSig) :
    (normalForm T FSys.init ls).Perm ls ∧ FSys.run T FSys.init (normalForm T FSys.init ls) = some r ∧
    VaxisModel.Model.ParserRunSched.srun T FSys.init (toS T false FSys.init (normalForm T FSys.init ls)) = some r ∧
    VaxisModel.Props.C08Sched.Reduced T FSys.init (runes ls) false (toS T false FSys.init (normalForm T FSys.init ls)) ∧
    ∀ fuel cap, (toS T false FSys.init (normalForm T FSys.init ls)).length < fuel →
      (VaxisModel.Model.ParserRunSched.enumerate T fuel FSys.init (runes ls) false [] cap []).length < cap →
      toS T false FSys.init (normalForm T FSys.init ls) ∈ VaxisModel.Model.ParserRunSched.enumerate T fuel FSys.init (runes ls) false [] cap [] := by
  have hc : ls.contains .closeSig = false := by simpa using fun h => hnc _ h rfl
  have := complete_schedule_is_reduced_close T hT ls r h hfin
    (by rw [List.count_eq_zero.mpr fun h => hnc _ h rfl]; omega)
    (closeAt_of_no_close T _ _ fun l hl => hnc l ((normalForm_perm T _ ls).subset hl))
  rwa [hc] at this

-- non-vacuity: ESC A with a lone-ESC callback raced against the main goroutine, every goroutine run to its end
-- (31 single statements, not grouped: the deferred Unlock of the callback comes two statements after its failed
-- check; the timer expiry comes late): complete, no Close(); its normal form's harness schedule has 27 labels.
example :
    (FSys.run handTable FSys.init [.main, .readRet (.rune 0x1B), .main, .main, .main, .main, .main, .main, .expire,
      .readRet (.rune 0x41), .main, .main, .main, .main, .main, .cb 0, .cb 0, .main, .cb 0, .readRet .eof,
      .main, .main, .main, .main, .main, .main, .main, .main, .main, .main, .main]).map
        (fun r => VaxisModel.Model.ParserRunSched.finished r.1) = some true ∧
    toS handTable false FSys.init (normalForm handTable FSys.init [.main, .readRet (.rune 0x1B), .main, .main, .main, .main, .main, .main,
      .expire, .readRet (.rune 0x41), .main, .main, .main, .main, .main, .cb 0, .cb 0, .main, .cb 0, .readRet .eof,
      .main, .main, .main, .main, .main, .main, .main, .main, .main, .main, .main]) =
      [.main, .read (.rune 0x1B), .main, .main, .main, .expire, .main, .main, .read (.rune 0x41), .main, .main, .main,
       .main, .cb 0, .main, .cb 0, .read .eof, .main, .main, .main, .main, .main, .main, .main, .main, .main, .main] ∧
    runes [.main, .readRet (.rune 0x1B), .main, .main, .main, .main, .main, .main,
      .expire, .readRet (.rune 0x41), .main, .main, .main, .main, .main, .cb 0, .cb 0, .main, .cb 0, .readRet .eof,
      .main, .main, .main, .main, .main, .main, .main, .main, .main, .main, .main] = [0x1B, 0x41] := by
  refine ⟨?_, ?_, ?_⟩ <;> decide +kernel

/-- **A complete schedule of single statements without `Close()` is — up to a result-preserving
    permutation — a schedule of the enumeration.**  `TimerOk` table, from the initial state, a schedule
    `ls` of single statements without `closeSig` that runs to `r` with everything over (`finished`: main
    `done`, every callback `gone`, no timer pending): there are a permutation `ls'` of `ls` with the same
    result and the schedule `s = toS T false {} ls'` of harness labels such that `srun T {} s = some r`
    and `s` is `Reduced` (every label is one of `enabled`: reads return the next scripted input, expiries
    stand right behind the arming statement, nothing happens after `finished`) for the script
    `runes ls'` = the runes the read returns along `ls'`, with `mayClose = false`. -/
theorem complete_schedule_is_reduced_noclose (T : Table) (hT : VaxisModel.Lemmas.ParserRunFine.TimerOk T)
    (ls : List FLabel) (r : FSys × List Seq) (h : FSys.run T FSys.init ls = some r)
    (hfin : VaxisModel.Model.ParserRunSched.finished r.1 = true) (hnc : ∀ l ∈ ls, l ≠ .closeSig) :
    ∃ ls', FSys.run T FSys.init ls' = some r ∧ ls'.Perm ls ∧
      VaxisModel.Model.ParserRunSched.srun T {} (toS T false {} ls') = some r ∧
      VaxisModel.Props.C08Sched.Reduced T {} (runes ls') false (toS T false {} ls') := by
  obtain ⟨h2, h1, h3, hred, _⟩ := complete_schedule_is_reduced T hT ls r h hfin hnc
  exact ⟨_, h1, h2, h3, by rw [normalForm_runes T hT FSys.init VaxisModel.Lemmas.ParserRunFine.FInv_init ls r h]; exact hred⟩

/-- … hence it is in the list `enumerate` produces (under the fuel and cap hypotheses of
    `enumerate_complete`): the enumeration of forced schedules misses no complete behaviour of the
    statement-grained system without `Close()`. -/
theorem complete_schedule_is_enumerated_noclose (T : Table) (hT : VaxisModel.Lemmas.ParserRunFine.TimerOk T)
    (ls : List FLabel) (r : FSys × List Seq) (h : FSys.run T FSys.init ls = some r)
    (hfin : VaxisModel.Model.ParserRunSched.finished r.1 = true) (hnc : ∀ l ∈ ls, l ≠ .closeSig) :
    ∃ ls' s, ls'.Perm ls ∧ FSys.run T FSys.init ls' = some r ∧
      VaxisModel.Model.ParserRunSched.srun T {} s = some r ∧
      ∀ fuel cap, s.length < fuel →
        (VaxisModel.Model.ParserRunSched.enumerate T fuel {} (runes ls') false [] cap []).length < cap →
        s ∈ VaxisModel.Model.ParserRunSched.enumerate T fuel {} (runes ls') false [] cap [] := by
  obtain ⟨ls', h1, h2, h3, h4⟩ := complete_schedule_is_reduced_noclose T hT ls r h hfin hnc
  exact ⟨ls', _, h2, h1, h3, fun fuel cap hl hc =>
    VaxisModel.Props.C08Sched.enumerate_complete T fuel (runes ls') false cap _ h4 hl hc⟩

end VaxisModel.Props.C08SchedEnum
