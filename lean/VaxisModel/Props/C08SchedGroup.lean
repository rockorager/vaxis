/-
C08 — **grouping normal forms of schedules**: the statements that a harness label of
Model/ParserRunSched.lean groups (the source has no yield point in between) can be made adjacent in
every schedule of single statements without changing its result
(definitions and lemmas: Lemmas/ParserRunSchedGroup.lean).
-/
import VaxisModel.Props.C08SchedNormal
import VaxisModel.Lemmas.ParserRunSchedGroup

namespace VaxisModel.Props.C08SchedGroup
open VaxisModel.Model.ParserTable VaxisModel.Model.Parser VaxisModel.Model.ParserRun VaxisModel.Model.ParserRunFine
open VaxisModel.Lemmas.ParserRunSchedNormal VaxisModel.Lemmas.ParserRunSchedGroup

/-- **Every read return can stand directly in front of its `Stop()`** (harness label `read i` =
    `readRet i; main`).  Any table, any start state, any schedule `ls` that runs to `r` and does not
    end between a read return and the `Stop()` inside `readRune` (`r.1.mpc` is no `readDone _`): the
    schedule `readNorm T none f0 ls` is a permutation of `ls`, runs to the same `r` (final state and
    items), and in it every `readRet i` is immediately followed by `.main`.  (The read return is
    carried forward: it commutes with every statement of every other party — `readRet_commutes` —
    because nobody but the main goroutine looks at where the main goroutine is; the next `.main` is its
    `Stop()`.) -/
theorem read_stop_adjacent_form (T : Table) (f0 : FSys) (ls : List FLabel) (r : FSys × List Seq)
    (h : FSys.run T f0 ls = some r) (hend : ∀ i, r.1.mpc ≠ .readDone i) :
    ∃ ls', FSys.run T f0 ls' = some r ∧ ls'.Perm ls ∧ readAdj ls' = true :=
  ⟨readNorm T none f0 ls, readNorm_run T ls f0 r h, readNorm_perm T ls f0, readNorm_adj T ls f0 r h hend⟩

-- non-vacuity: a lone ESC is read; in the next read, between the read return of `A` and its `Stop()`, the
-- timer of the ESC expires and its callback takes its first statement (which blocks nothing: the main
-- goroutine is outside the mutex) — not adjacent.  Normal form: the read return directly in front of its
-- `Stop()` (so the expiry happens "during the read"); same final state, same items.
example :
    readAdj [.main, .readRet (.rune 0x1B), .main, .main, .main, .main, .main, .main,
      .readRet (.rune 0x41), .expire, .cb 0, .main] = false ∧
    readNorm handTable none FSys.init [.main, .readRet (.rune 0x1B), .main, .main, .main, .main, .main, .main,
      .readRet (.rune 0x41), .expire, .cb 0, .main] =
      [.main, .readRet (.rune 0x1B), .main, .main, .main, .main, .main, .main, .expire, .cb 0,
       .readRet (.rune 0x41), .main] ∧
    readAdj [.main, .readRet (.rune 0x1B), .main, .main, .main, .main, .main, .main, .expire, .cb 0,
       .readRet (.rune 0x41), .main] = true ∧
    FSys.run handTable FSys.init [.main, .readRet (.rune 0x1B), .main, .main, .main, .main, .main, .main,
      .readRet (.rune 0x41), .expire, .cb 0, .main] =
    FSys.run handTable FSys.init [.main, .readRet (.rune 0x1B), .main, .main, .main, .main, .main, .main,
      .expire, .cb 0, .readRet (.rune 0x41), .main] ∧
    (FSys.run handTable FSys.init [.main, .readRet (.rune 0x1B), .main, .main, .main, .main, .main, .main,
      .expire, .cb 0, .readRet (.rune 0x41), .main]).isSome = true := by
  refine ⟨?_, ?_, ?_, ?_, ?_⟩ <;> decide +kernel

/-- **Every failed check and every `p.ignoreST = false` of a callback can stand directly in front of the
    callback's deferred `Unlock`** (harness label `cb k` runs on from yield point 31 / 34 to 39).  Any
    `TimerOk` table, any start state that meets `FInv` (every reachable state does), any schedule that
    runs to `r` and does not end with a callback between such a statement and its `Unlock` (no callback
    at `failed` / `stSet` in `r`): the schedule `cbNorm T none f0 ls` is a permutation, runs to the same
    `r`, and along its run every `.cb k` that takes callback `k` to `failed` or `stSet` is immediately
    followed by `.cb k` (to `gone`).  (That statement is carried forward: it commutes with every
    statement of every other goroutine that is outside the mutex — `cb_mid_commutes` — and while callback
    `k` holds the mutex nobody else is inside, by `FInv`.) -/
theorem callback_unlock_adjacent_form (T : Table) (hT : VaxisModel.Lemmas.ParserRunFine.TimerOk T) (f0 : FSys)
    (hinv : VaxisModel.Lemmas.ParserRunFine.FInv f0) (ls : List FLabel) (r : FSys × List Seq)
    (h : FSys.run T f0 ls = some r) (hend : ∀ c ∈ r.1.cbs, c.2 ≠ .failed ∧ c.2 ≠ .stSet) :
    ∃ ls', FSys.run T f0 ls' = some r ∧ ls'.Perm ls ∧ cbAdj T f0 ls' = true :=
  ⟨cbNorm T none f0 ls, cbNorm_run T hT ls f0 hinv r h, cbNorm_perm T ls f0, cbNorm_adj T hT ls f0 hinv r h hend⟩

-- non-vacuity: a lone ESC, its timer expires, `A` is read and parsed (generation 2), then the callback locks
-- and fails its check; the main goroutine goes on to the read before the callback unlocks — not adjacent.
-- Normal form: the failed check directly in front of the deferred `Unlock`; same result.
example :
    cbAdj handTable FSys.init [.main, .readRet (.rune 0x1B), .main, .main, .main, .main, .main, .expire, .main,
      .readRet (.rune 0x41), .main, .main, .main, .main, .main, .cb 0, .cb 0, .main, .cb 0] = false ∧
    cbNorm handTable none FSys.init [.main, .readRet (.rune 0x1B), .main, .main, .main, .main, .main, .expire, .main,
      .readRet (.rune 0x41), .main, .main, .main, .main, .main, .cb 0, .cb 0, .main, .cb 0] =
      [.main, .readRet (.rune 0x1B), .main, .main, .main, .main, .main, .expire, .main,
       .readRet (.rune 0x41), .main, .main, .main, .main, .main, .cb 0, .main, .cb 0, .cb 0] ∧
    cbAdj handTable FSys.init [.main, .readRet (.rune 0x1B), .main, .main, .main, .main, .main, .expire, .main,
      .readRet (.rune 0x41), .main, .main, .main, .main, .main, .cb 0, .main, .cb 0, .cb 0] = true ∧
    FSys.run handTable FSys.init [.main, .readRet (.rune 0x1B), .main, .main, .main, .main, .main, .expire, .main,
      .readRet (.rune 0x41), .main, .main, .main, .main, .main, .cb 0, .cb 0, .main, .cb 0] =
    FSys.run handTable FSys.init [.main, .readRet (.rune 0x1B), .main, .main, .main, .main, .main, .expire, .main,
      .readRet (.rune 0x41), .main, .main, .main, .main, .main, .cb 0, .main, .cb 0, .cb 0] ∧
    (FSys.run handTable FSys.init [.main, .readRet (.rune 0x1B), .main, .main, .main, .main, .main, .expire, .main,
      .readRet (.rune 0x41), .main, .main, .main, .main, .main, .cb 0, .main, .cb 0, .cb 0]).map
        (fun r => (r.1.mpc, r.1.cbs, r.2)) = some (.inRead, [(1, .gone)], [.esc [] 0x41]) := by
  refine ⟨?_, ?_, ?_, ?_, ?_⟩ <;> decide +kernel

/-- **Both groupings at once.**  `TimerOk` table, start state meeting `FInv`, a schedule that runs to `r`
    and ends neither between a read return and its `Stop()` nor with a callback between its failed
    check / `p.ignoreST = false` and its `Unlock`: `cbNorm T none f0 (readNorm T none f0 ls)` is a
    permutation with the same result in which every `readRet` is directly followed by `.main` and every
    callback statement leading to `failed` / `stSet` directly by that callback's `Unlock` — the
    statements of every harness label of Model/ParserRunSched.lean stand together. -/
theorem grouped_adjacent_form (T : Table) (hT : VaxisModel.Lemmas.ParserRunFine.TimerOk T) (f0 : FSys)
    (hinv : VaxisModel.Lemmas.ParserRunFine.FInv f0) (ls : List FLabel) (r : FSys × List Seq)
    (h : FSys.run T f0 ls = some r) (hend1 : ∀ i, r.1.mpc ≠ .readDone i)
    (hend2 : ∀ c ∈ r.1.cbs, c.2 ≠ .failed ∧ c.2 ≠ .stSet) :
    ∃ ls', FSys.run T f0 ls' = some r ∧ ls'.Perm ls ∧ readAdj ls' = true ∧ cbAdj T f0 ls' = true := by
  have h1 := readNorm_run T ls f0 r h
  exact ⟨cbNorm T none f0 (readNorm T none f0 ls), cbNorm_run T hT _ f0 hinv r h1,
    (cbNorm_perm T _ f0).trans (readNorm_perm T ls f0),
    cbNorm_readAdj T hT _ f0 hinv r h1 (readNorm_adj T ls f0 r h hend1), cbNorm_adj T hT _ f0 hinv r h1 hend2⟩

/-- **Every schedule of single statements is, up to a result-preserving permutation, a schedule of
    harness labels.**  `TimerOk` table, start state meeting `FInv` with the main goroutine not between a
    read return and its `Stop()`, a schedule that runs to `r` and does not end inside a group: there
    are a permutation `ls'` of the schedule with the same result in which the statements of every
    harness label stand together, and a schedule `s` of harness labels (`SLabel`, Model/ParserRunSched.lean;
    `s = toS T false f0 ls'`) with `srun T f0 s = some r` — same final state, same items.  So the forced
    schedules the harness replays (and `enumerate` enumerates, up to its two commuting reductions:
    `joint_normal_form`) lose no behaviour of the statement-grained system. -/
theorem grouped_is_harness_schedule (T : Table) (hT : VaxisModel.Lemmas.ParserRunFine.TimerOk T) (f0 : FSys)
    (hinv : VaxisModel.Lemmas.ParserRunFine.FInv f0) (h0 : ∀ i, f0.mpc ≠ .readDone i) (ls : List FLabel)
    (r : FSys × List Seq) (h : FSys.run T f0 ls = some r) (hend1 : ∀ i, r.1.mpc ≠ .readDone i)
    (hend2 : ∀ c ∈ r.1.cbs, c.2 ≠ .failed ∧ c.2 ≠ .stSet) :
    ∃ ls' s, FSys.run T f0 ls' = some r ∧ ls'.Perm ls ∧ readAdj ls' = true ∧ cbAdj T f0 ls' = true ∧
      VaxisModel.Model.ParserRunSched.srun T f0 s = some r := by
  obtain ⟨ls', h1, h2, h3, h4⟩ := grouped_adjacent_form T hT f0 hinv ls r h hend1 hend2
  exact ⟨ls', toS T false f0 ls', h1, h2, h3, h4, by rw [toS_run T ls' f0 (by rw [h1]; rfl) h3 h4 h0]; exact h1⟩

/-- … from the initial state, the parser's table, a complete schedule (`run` returned, every callback
    goroutine returned): it is — up to a result-preserving permutation — a schedule of harness labels. -/
theorem complete_schedule_is_harness_schedule (ls : List FLabel) (r : FSys × List Seq)
    (h : FSys.run handTable FSys.init ls = some r) (hd : r.1.mpc = .done) (hg : ∀ c ∈ r.1.cbs, c.2 = .gone) :
    ∃ s, VaxisModel.Model.ParserRunSched.srun handTable FSys.init s = some r := by
  obtain ⟨_, s, _, _, _, _, hs⟩ := grouped_is_harness_schedule handTable VaxisModel.Lemmas.ParserRunFine.handTable_timerOk
    FSys.init VaxisModel.Lemmas.ParserRunFine.FInv_init (fun i h => by cases h) ls r h
    (fun i hi => by rw [hd] at hi; cases hi) (fun c hc => by rw [hg c hc]; exact ⟨by decide, by decide⟩)
  exact ⟨s, hs⟩

-- non-vacuity: the grouped schedule of the callback example above is the expansion of 15 harness labels
-- (`read ESC`, …, `cb 0` = Lock, `main`, `cb 0` = failed check + deferred Unlock), with the same result.
example :
    toS handTable false FSys.init [.main, .readRet (.rune 0x1B), .main, .main, .main, .main, .main, .expire, .main,
       .readRet (.rune 0x41), .main, .main, .main, .main, .main, .cb 0, .main, .cb 0, .cb 0] =
      [.main, .read (.rune 0x1B), .main, .main, .main, .main, .expire, .main, .read (.rune 0x41), .main, .main, .main,
       .main, .cb 0, .main, .cb 0] ∧
    VaxisModel.Model.ParserRunSched.srun handTable FSys.init
      [.main, .read (.rune 0x1B), .main, .main, .main, .main, .expire, .main, .read (.rune 0x41), .main, .main, .main,
       .main, .cb 0, .main, .cb 0] =
    FSys.run handTable FSys.init [.main, .readRet (.rune 0x1B), .main, .main, .main, .main, .main, .expire, .main,
       .readRet (.rune 0x41), .main, .main, .main, .main, .main, .cb 0, .main, .cb 0, .cb 0] := by
  refine ⟨?_, ?_⟩ <;> decide +kernel

end VaxisModel.Props.C08SchedGroup
