/-
C08 — **normal forms of schedules** of the statement-grained life cycle: the single commutation moves
of `Lemmas/ParserRunSched.lean` (`closeSig_moves_later`, …) iterated over whole schedules
(definitions and lemmas: Lemmas/ParserRunSchedNormal.lean).
-/
import VaxisModel.Props.C08Sched
import VaxisModel.Lemmas.ParserRunSchedNormal

namespace VaxisModel.Props.C08SchedNormal
open VaxisModel.Model.ParserTable VaxisModel.Model.Parser VaxisModel.Model.ParserRun VaxisModel.Model.ParserRunFine
open VaxisModel.Lemmas.ParserRunSchedNormal

/-- **Every schedule has a `Close()`-normal form with the same result.**  Any table, any start state,
    any schedule `ls` of single statements that the statement-grained system can run to `r` (final
    state and items): the schedule `closeNorm T 0 f0 ls` is a permutation of `ls`, runs to the same
    `r`, and is normal (`closeNormal`): every `closeSig` in it is immediately followed by a `.main`
    taken with the main goroutine at the `select`, or is followed by nothing but `closeSig`s up to the
    end.  (Iteration of `closeSig_moves_later`; a `Close()` after the first one changes nothing and
    travels to the end.)  So the enumeration that only issues `Close()` in front of a `select` or at
    the end (reduction 1 of `enumerate`) loses no behaviour — on whole schedules. -/
theorem closeSig_normal_form (T : Table) (f0 : FSys) (ls : List FLabel) (r : FSys × List Seq)
    (h : FSys.run T f0 ls = some r) :
    ∃ ls', FSys.run T f0 ls' = some r ∧ ls'.Perm ls ∧ closeNormal T f0 ls' = true := by
  refine ⟨closeNorm T 0 f0 ls, ?_, ?_, closeNorm_normal T ls 0 f0⟩
  · rw [closeNorm_run T ls 0 f0]; simpa [cs] using h
  · simpa [cs] using closeNorm_perm T ls 0 f0

/-- … and the normal form is computed by `closeNorm`; it is enabled iff the schedule is (no hypothesis
    that the schedule runs). -/
theorem closeSig_normal_form_computed (T : Table) (f0 : FSys) (ls : List FLabel) :
    FSys.run T f0 (closeNorm T 0 f0 ls) = FSys.run T f0 ls ∧ (closeNorm T 0 f0 ls).Perm ls ∧
    closeNormal T f0 (closeNorm T 0 f0 ls) = true :=
  ⟨by simpa [cs] using closeNorm_run T ls 0 f0, by simpa [cs] using closeNorm_perm T ls 0 f0,
   closeNorm_normal T ls 0 f0⟩

-- non-vacuity: `A` is read; `Close()` is called twice while the main goroutine is blocked in the read and once
-- more inside the mutex — not normal.  Normal form: one `Close()` directly in front of the next `select`
-- (which takes the `<-p.close` arm), the two others at the end; same final state, same items.
example :
    closeNormal handTable FSys.init
      [.main, .closeSig, .closeSig, .readRet (.rune 0x41), .main, .main, .closeSig, .main, .main, .main, .main, .main] = false ∧
    closeNorm handTable 0 FSys.init
      [.main, .closeSig, .closeSig, .readRet (.rune 0x41), .main, .main, .closeSig, .main, .main, .main, .main, .main] =
      [.main, .readRet (.rune 0x41), .main, .main, .main, .main, .main, .closeSig, .main, .main, .closeSig, .closeSig] ∧
    closeNormal handTable FSys.init
      [.main, .readRet (.rune 0x41), .main, .main, .main, .main, .main, .closeSig, .main, .main, .closeSig, .closeSig] = true ∧
    FSys.run handTable FSys.init
      [.main, .closeSig, .closeSig, .readRet (.rune 0x41), .main, .main, .closeSig, .main, .main, .main, .main, .main] =
    FSys.run handTable FSys.init
      [.main, .readRet (.rune 0x41), .main, .main, .main, .main, .main, .closeSig, .main, .main, .closeSig, .closeSig] ∧
    (FSys.run handTable FSys.init
      [.main, .readRet (.rune 0x41), .main, .main, .main, .main, .main, .closeSig, .main, .main, .closeSig, .closeSig]).map
        (fun r => (r.1.mpc, r.2)) = some (.fin .lock false, [.print 0x41]) := by
  refine ⟨?_, ?_, ?_, ?_, ?_⟩ <;> decide +kernel

/-- **Every schedule has an expiry-normal form with the same result.**  Any table that meets `TimerOk`,
    any start state that meets the invariant of the statement-grained system (`FInv`; every reachable
    state does) with no timer pending, any schedule `ls` that runs to `r`: the schedule
    `expNorm T ls.length f0 ls` is a permutation of `ls`, runs to the same `r` (final state — callback
    indices included — and items), and is normal (`expNormal`): every `expire` in it stands directly
    behind the statement `p.state = anywhere(r, p)` of the main goroutine that armed the timer it
    consumes.  (Iteration of `expire_moves_earlier`: the expiry never has to cross a statement that
    stops or re-arms the timer, another expiry, or the first statement of its own callback.)  So the
    enumeration that lets a timer expire — if at all — right after it was armed (reduction 2 of
    `enumerate`) loses no behaviour: the callback's statements can still be scheduled anywhere later. -/
theorem expire_normal_form (T : Table) (hT : VaxisModel.Lemmas.ParserRunFine.TimerOk T) (f0 : FSys)
    (hinv : VaxisModel.Lemmas.ParserRunFine.FInv f0) (ha : f0.armed = none) (ls : List FLabel)
    (r : FSys × List Seq) (h : FSys.run T f0 ls = some r) :
    ∃ ls', FSys.run T f0 ls' = some r ∧ ls'.Perm ls ∧ expNormal T false f0 ls' = true :=
  ⟨expNorm T ls.length f0 ls, by rw [expNorm_run]; exact h, expNorm_perm T _ f0 ls,
    expNorm_normal T hT ls.length f0 ls false (Nat.le_refl _) hinv (fun g hg => by rw [ha] at hg; cases hg)⟩

/-- … from the initial state, for the parser's table: both normal forms at once — first the expiries
    are pulled forward, then the `Close()` calls are carried to the next `select`; each step keeps
    the result and permutes the schedule. -/
theorem normal_forms_from_init (ls : List FLabel) (r : FSys × List Seq)
    (h : FSys.run handTable FSys.init ls = some r) :
    (∃ ls', FSys.run handTable FSys.init ls' = some r ∧ ls'.Perm ls ∧ expNormal handTable false FSys.init ls' = true) ∧
    (∃ ls', FSys.run handTable FSys.init ls' = some r ∧ ls'.Perm ls ∧ closeNormal handTable FSys.init ls' = true) :=
  ⟨expire_normal_form handTable VaxisModel.Lemmas.ParserRunFine.handTable_timerOk FSys.init
      VaxisModel.Lemmas.ParserRunFine.FInv_init rfl ls r h,
   closeSig_normal_form handTable FSys.init ls r h⟩

-- non-vacuity: a lone ESC; the timer armed by `anywhere` (6th statement) expires only after the main goroutine
-- has unlocked and gone back into the read, then the callback runs to its `emit` — not normal.  Normal form:
-- the `expire` directly behind the arming statement; same final state (callback 0, generation 1, at
-- `emitted`), same item (the Escape report).
example :
    expNormal handTable false FSys.init
      [.main, .readRet (.rune 0x1B), .main, .main, .main, .main, .main, .main, .expire, .cb 0, .cb 0, .cb 0] = false ∧
    expNorm handTable 12 FSys.init
      [.main, .readRet (.rune 0x1B), .main, .main, .main, .main, .main, .main, .expire, .cb 0, .cb 0, .cb 0] =
      [.main, .readRet (.rune 0x1B), .main, .main, .main, .main, .expire, .main, .main, .cb 0, .cb 0, .cb 0] ∧
    expNormal handTable false FSys.init
      [.main, .readRet (.rune 0x1B), .main, .main, .main, .main, .expire, .main, .main, .cb 0, .cb 0, .cb 0] = true ∧
    FSys.run handTable FSys.init
      [.main, .readRet (.rune 0x1B), .main, .main, .main, .main, .main, .main, .expire, .cb 0, .cb 0, .cb 0] =
    FSys.run handTable FSys.init
      [.main, .readRet (.rune 0x1B), .main, .main, .main, .main, .expire, .main, .main, .cb 0, .cb 0, .cb 0] ∧
    (FSys.run handTable FSys.init
      [.main, .readRet (.rune 0x1B), .main, .main, .main, .main, .expire, .main, .main, .cb 0, .cb 0, .cb 0]).map
        (fun r => (r.1.mpc, r.1.cbs, r.2)) = some (.inRead, [(1, .emitted)], [.c0 0x1B]) := by
  refine ⟨?_, ?_, ?_, ?_, ?_⟩ <;> decide +kernel

/-- **Both normal forms at once.**  `TimerOk` table, start state meeting `FInv` with no timer pending, any
    schedule that runs to `r`: pulling the expiries forward (`expNorm`) and then carrying the `Close()`
    calls to the next `select` (`closeNorm`) gives a permutation of the schedule that runs to the same
    `r` and is normal in both senses: every `expire` directly behind the arming `anywhere`, every
    `closeSig` directly in front of a `select` or at the end.  (Carrying `Close()` calls forward never
    separates an expiry from its arming statement.)  These are exactly the schedules `enumerate`
    generates with both reductions on. -/
theorem joint_normal_form (T : Table) (hT : VaxisModel.Lemmas.ParserRunFine.TimerOk T) (f0 : FSys)
    (hinv : VaxisModel.Lemmas.ParserRunFine.FInv f0) (ha : f0.armed = none) (ls : List FLabel)
    (r : FSys × List Seq) (h : FSys.run T f0 ls = some r) :
    ∃ ls', FSys.run T f0 ls' = some r ∧ ls'.Perm ls ∧ expNormal T false f0 ls' = true ∧
      closeNormal T f0 ls' = true := by
  refine ⟨closeNorm T 0 f0 (expNorm T ls.length f0 ls), ?_, ?_, ?_, closeNorm_normal T _ 0 f0⟩
  · rw [closeNorm_run]; simp only [cs, List.replicate_zero, List.nil_append]; rw [expNorm_run]; exact h
  · exact (by simpa [cs] using closeNorm_perm T (expNorm T ls.length f0 ls) 0 f0 :
      (closeNorm T 0 f0 (expNorm T ls.length f0 ls)).Perm (expNorm T ls.length f0 ls)).trans (expNorm_perm T _ f0 ls)
  · refine closeNorm_expNormal T _ 0 f0 false ?_
    rw [if_pos rfl]
    exact expNorm_normal T hT ls.length f0 ls false (Nat.le_refl _) hinv (fun g hg => by rw [ha] at hg; cases hg)

-- non-vacuity: a lone ESC, `Close()` right after the read returned, the timer expires late: normal in neither
-- sense; the joint normal form has the `expire` behind the arming statement and the `Close()` in front of
-- the `select`; same result.
example :
    (expNormal handTable false FSys.init
      [.main, .readRet (.rune 0x1B), .closeSig, .main, .main, .main, .main, .main, .expire, .main, .cb 0] = false ∧
     closeNormal handTable FSys.init
      [.main, .readRet (.rune 0x1B), .closeSig, .main, .main, .main, .main, .main, .expire, .main, .cb 0] = false) ∧
    closeNorm handTable 0 FSys.init (expNorm handTable 11 FSys.init
      [.main, .readRet (.rune 0x1B), .closeSig, .main, .main, .main, .main, .main, .expire, .main, .cb 0]) =
      [.main, .readRet (.rune 0x1B), .main, .main, .main, .main, .expire, .main, .closeSig, .main, .cb 0] ∧
    (expNormal handTable false FSys.init
      [.main, .readRet (.rune 0x1B), .main, .main, .main, .main, .expire, .main, .closeSig, .main, .cb 0] = true ∧
     closeNormal handTable FSys.init
      [.main, .readRet (.rune 0x1B), .main, .main, .main, .main, .expire, .main, .closeSig, .main, .cb 0] = true) ∧
    FSys.run handTable FSys.init
      [.main, .readRet (.rune 0x1B), .closeSig, .main, .main, .main, .main, .main, .expire, .main, .cb 0] =
    FSys.run handTable FSys.init
      [.main, .readRet (.rune 0x1B), .main, .main, .main, .main, .expire, .main, .closeSig, .main, .cb 0] ∧
    (FSys.run handTable FSys.init
      [.main, .readRet (.rune 0x1B), .main, .main, .main, .main, .expire, .main, .closeSig, .main, .cb 0]).isSome = true := by
  refine ⟨⟨?_, ?_⟩, ?_, ⟨?_, ?_⟩, ?_, ?_⟩ <;> decide +kernel

end VaxisModel.Props.C08SchedNormal
