/-
C08 ∘ C02 — the parser's life cycle against the reference machine of Spec/VT500.lean:
for EVERY schedule of the life-cycle LTS — reads, end of input, Close(), the Escape timer firing in a
quiet gap, timer callbacks that run late (after further reads, after the loop ended) — the items
delivered are exactly those the Spec prescribes for the same labels: runes through the VT500 machine
(recorded deviations F102/F102c switched on), the Escape key (`C0 1B`, then parsing resumes from
ground with nothing pending) at every up-to-date timer firing and nowhere else, the open control
string at end of input, one `EOF{}` (lemmas: Lemmas/ParserRunSpec.lean).
-/
import VaxisModel.Lemmas.ParserRunSpec

namespace VaxisModel.Props.C08Spec
open VaxisModel.Model.ParserTable VaxisModel.Model.Parser VaxisModel.Model.ParserRun
open VaxisModel.Lemmas.ParserRefine VaxisModel.Lemmas.ParserRefineCheck VaxisModel.Lemmas.ParserRefineStep
open VaxisModel.Lemmas.ParserRunSpec

/-- **Every schedule refines the Spec.**  Whatever labels are enabled in whatever order (including
    the delayed-callback interleavings of F29, which the guarded callback turns into no-ops): the
    emitted items (`error` reports dropped) are `specLabels` of the same labels, and while the loop
    runs the parser state stays related to the reference machine (`R`). -/
theorem lifecycle_refines_spec (ls : List Label) (s' : Sys) (o : List Seq)
    (h : Sys.run handTable Cfg.fixed Sys.init ls = some (s', o)) :
    noErr o = (specLabels {} ls).2 ∧ (s'.pc ≠ .done → R s'.ps (specLabels {} ls).1) := by
  obtain ⟨hJ, ho⟩ := run_J ls Sys.init {} s' o J_init h
  exact ⟨ho, hJ.2.1⟩

/-- **The Escape key is the Spec's `escKey`**: when the timer fires (or its still up-to-date callback
    runs late) in a state related to the reference machine, the parser is in `escape`, `C0 1B` is
    delivered, and the state afterwards is related to `escKey m` — ground, no string terminator
    pending, nothing collected that could leak. -/
theorem escape_key_is_spec (s : Sys) (m : Spec.VT500.M) (hJ : J s m) (l : Label)
    (hl : l = .timerFire ∨ l = .cbRun true) (s' : Sys) (o : List Seq)
    (h : Sys.step handTable Cfg.fixed s l = some (s', o)) :
    o = [.c0 0x1B] ∧ J s' (Spec.VT500.escKey m).1 := by
  obtain ⟨g1, g2⟩ := step_J s m l s' o hJ h
  rcases hl with rfl | rfl <;> simp only [specLabel] at g1 <;> refine ⟨?_, g1⟩ <;>
    cases VaxisModel.Lemmas.ParserRun.step_rel h <;> simp [Cfg.fixed]

/-- **Gaps on either side of the delay, whole histories**: a script of segments of back-to-back
    reads, each segment but the last followed by silence in which the timer fires, then end of
    input — if the parser can run it (i.e. every segment but the last ends in ESC), it delivers
    exactly `Spec.VT500.runWithEscKeysD` of the segments (the oracle of the C08 driver), then
    `EOF{}`. -/
theorem segments_refine_spec (segs : List (List Nat)) (s' : Sys) (o : List Seq)
    (h : Sys.run handTable Cfg.fixed Sys.init (.enterRead :: (segsOf segs ++ [.readEnd])) = some (s', o)) :
    noErr o =
      ((Spec.VT500.runWithEscKeysD devAll segs).1 ++ (Spec.VT500.runWithEscKeysD devAll segs).2).map specSeq ++
        [.eof] := by
  have := (lifecycle_refines_spec _ s' o h).1
  rw [this]
  simp only [specLabels, specLabel, List.nil_append]
  rw [specLabels_append, specLabels_segs]
  simp [specLabels, specLabel, Spec.VT500.runWithEscKeysD]

-- non-vacuity: `ESC` · silence · `[A` · end  ⇒  Escape key, then `[` and `A` printed from ground
example : (Sys.run handTable Cfg.fixed Sys.init
    (.enterRead :: (segsOf [[0x1B], [0x5B, 0x41]] ++ [.readEnd]))).map (·.2) =
    some [.c0 0x1B, .print 0x5B, .print 0x41, .eof] := by decide
-- … and the same bytes back to back are the CSI
example : (Sys.run handTable Cfg.fixed Sys.init
    (.enterRead :: (segsOf [[0x1B, 0x5B, 0x41]] ++ [.readEnd]))).map (·.2) =
    some [.csi [] [] 0x41, .eof] := by decide
-- a lone ESC inside an OSC: the string is delivered, then the Escape key; the following `ESC \` is Alt+\ (F108 repaired)
example : (Sys.run handTable Cfg.fixed Sys.init
    (.enterRead :: (segsOf [[0x1B, 0x5D, 0x30, 0x1B], [0x1B, 0x5C]] ++ [.readEnd]))).map (·.2) =
    some [.osc [0x30], .c0 0x1B, .esc [] 0x5C, .eof] := by decide

end VaxisModel.Props.C08Spec
