/-
C09 — Key decoding and binding matching are exact and protocol-independent.
All theorems quantify over every `Uni` (the `unicode` functions are parameters) unless a hypothesis
on `u` is written out.
-/
import VaxisModel.Model.Key
import VaxisModel.Spec.KeyEnc
import VaxisModel.Lemmas.KeyMatch
import VaxisModel.Lemmas.KeyDecode
import VaxisModel.Lemmas.KeySelf
import VaxisModel.Lemmas.KeyCross
import VaxisModel.Lemmas.KeyCrossTable
import VaxisModel.Lemmas.KeyUni

namespace VaxisModel.Props.C09
open VaxisModel.Model.Key VaxisModel.Spec.KeyEnc VaxisModel.Gen.Keys
open VaxisModel.Lemmas.KeyMatch VaxisModel.Lemmas.KeyDecode VaxisModel.Lemmas.KeySelf VaxisModel.Lemmas.KeyCross
open VaxisModel.Lemmas.KeyUni VaxisModel.Spec.KeyEncUni

/-- `specialsKeys` denotes exactly the keys the protocol documents say (both directions). -/
theorem specials_is_spec :
    (specialsKeys.all fun e => lookup2 e.1 functional = some e.2) = true ∧
    (functional.all fun e => lookup2 e.1 specialsKeys = some e.2) = true := by
  constructor <;> decide +kernel

/-- The SS3 arm of `decodeKey` is the xterm application-cursor / PF-key table. -/
theorem ss3_is_spec : ss3Keys = ss3Table := by decide

/-- The modifier bits are the kitty keyboard protocol's. -/
theorem mod_bits :
    ModShift = shiftBit ∧ ModAlt = altBit ∧ ModCtrl = ctrlBit ∧ ModSuper = superBit ∧
    ModHyper = hyperBit ∧ ModMeta = metaBit ∧ ModCapsLock = capsBit ∧ ModNumLock = numBit := by decide

/-- Meaning of the bit-clear primitive (`&^`) used by model and spec. -/
theorem andNot_testBit (a b i : Nat) : (andNot a b).testBit i = (a.testBit i && !b.testBit i) :=
  testBit_andNot a b i

/-- `Matches` returns true exactly in the six documented situations; in
    particular Shift is forgiven only by rules 3, 5 and 6 of `matchSpec`. For all keys, runes, masks
    (of any width) and all `unicode` tables. -/
theorem shift_forgiveness (u : Uni) (k : Key) (key : Int) (m : Nat) :
    «matches» u k key m = true ↔ matchSpec u k key m := matches_iff u k key m

/-- When a binding matches although its modifier mask (locks aside)
    differs from the event's, it is by exactly one of the three documented forgiveness rules — the mask
    differs in Shift only, and: (3) the binding names the event's shifted code without Shift; or (5) the
    binding key is a non-letter graphic character that is the event's key or shifted code; or (6) the
    binding is Shift + a lower-case letter that HAS an upper case of its own and
    the event's text is that upper-case letter. -/
theorem shift_forgiven_only_documented (u : Uni) (k : Key) (key : Int) (m : Nat)
    (h : «matches» u k key m = true) (hne : stripLocks m ≠ stripLocks k.mods) :
    unshift (stripLocks m) = unshift (stripLocks k.mods) ∧
    ((k.shifted = key ∧ stripLocks m = unshift (stripLocks k.mods)) ∨
     (u.isLetter key = false ∧ u.isGraphic key = true ∧ (k.keycode = key ∨ k.shifted = key)) ∨
     (stripLocks m &&& shiftBit ≠ 0 ∧ u.isLower key = true ∧ u.toUpper key ≠ key ∧ k.text = strOfRune (u.toUpper key))) := by
  have hs := (matches_iff u k key m).mp h
  unfold matchSpec at hs
  simp only at hs
  rcases hs with ⟨_, hM⟩ | ⟨_, hM⟩ | ⟨h3, hM⟩ | ⟨_, hM⟩ | ⟨h5a, h5b, h5c, hM⟩ | ⟨h6a, h6b, h6c, h6d, hM⟩
  · exact absurd hM hne
  · exact absurd hM hne
  · exact ⟨by rw [hM, unshift_idem], Or.inl ⟨h3, hM⟩⟩
  · exact absurd hM hne
  · exact ⟨hM, Or.inr (Or.inl ⟨h5a, h5b, h5c⟩)⟩
  · exact ⟨hM, Or.inr (Or.inr ⟨h6a, h6b, h6c, h6d⟩)⟩

/-- A binding matches only if Ctrl, Alt, Super, Hyper and Meta are identical
    in the event and in the binding. -/
theorem match_strong_mods (u : Uni) (k : Key) (key : Int) (m : Nat)
    (h : «matches» u k key m = true) : strong k.mods = strong m := by
  have hc := matchSpec_core ((matches_iff u k key m).mp h)
  have := congrArg strong hc
  rwa [strong_andNot _ _ (by decide), strong_andNot _ _ (by decide)] at this

/-- Stronger form: every bit other than Shift, Caps Lock and Num Lock (including bits beyond the
    eight defined ones) is identical. -/
theorem match_all_but_shift_and_locks (u : Uni) (k : Key) (key : Int) (m : Nat)
    (h : «matches» u k key m = true) (i : Nat) (hi : i ≠ 0 ∧ i ≠ 6 ∧ i ≠ 7) :
    k.mods.testBit i = m.testBit i := by
  have hc := matchSpec_core ((matches_iff u k key m).mp h)
  have := congrArg (·.testBit i) hc
  simp only [testBit_andNot] at this
  have hw : weakMask.testBit i = false := by
    obtain ⟨h0, h6, h7⟩ := hi
    by_cases h8 : i < 8
    · have : i = 1 ∨ i = 2 ∨ i = 3 ∨ i = 4 ∨ i = 5 := by omega
      rcases this with rfl | rfl | rfl | rfl | rfl <;> decide
    · exact Nat.testBit_lt_two_pow (Nat.lt_of_lt_of_le (by decide : weakMask < 2 ^ 8)
        (Nat.pow_le_pow_right (by decide) (by omega)))
  simpa [hw] using this

example : «matches» ⟨fun _ => false, fun _ => false, fun _ => false, fun _ => false, fun _ => false, id, id, fun _ _ => false⟩
    { keycode := 97, mods := ModCtrl ||| ModCapsLock } 97 ModCtrl = true := by decide

/-- Toggling Caps Lock and/or Num Lock, in the event or in the binding, never
    changes the result of `Matches`. -/
theorem locks_irrelevant (u : Uni) (k : Key) (key : Int) (m l : Nat)
    (hl : andNot l (capsBit ||| numBit) = 0) :
    «matches» u { k with mods := k.mods ^^^ l } key m = «matches» u k key m ∧
    «matches» u k key (m ^^^ l) = «matches» u k key m := by
  constructor
  · rw [Bool.eq_iff_iff, matches_iff, matches_iff]
    exact matchSpec_congr u k _ key m m rfl (strip_xor_locks _ _ hl) rfl
  · rw [Bool.eq_iff_iff, matches_iff, matches_iff]
    exact matchSpec_congr u k k key m _ rfl rfl (strip_xor_locks _ _ hl)

example : andNot (capsBit ||| numBit) (capsBit ||| numBit) = 0 ∧ andNot capsBit (capsBit ||| numBit) = 0 := by decide

/-- A printable character (legacy byte or paste): lower-case/other characters
    are themselves; an upper-case letter is Shift + its lower-case; DEL is BackSpace. -/
theorem decode_exact_print (u : Uni) (g : Str) (hg : g ≠ [])
    (h127 : u.isUpper (g.headD 0) = true → u.toLower (g.headD 0) ≠ 127) :
    decodeKey u (.print g) = printExpected u g :=
  decodeKey_print u g hg h127

/-- Every C0 byte: BS/HT/CR/ESC are keys, the others are Ctrl chords. -/
theorem decode_exact_c0 (u : Uni) (b : Int) (h0 : 0 ≤ b) (h1 : b < 32) :
    decodeKey u (.c0 b) = c0Expected b :=
  decodeKey_c0 u b h0 h1

/-- ESC-prefixed character: Alt + that character (any final); upper-case
    letters are Alt + Shift + the lower-case letter. -/
theorem decode_exact_esc (u : Uni) (final : Int) : decodeKey u (.esc final) = escExpected u final :=
  decodeKey_esc u final

/-- Every SS3 final of the xterm table denotes its key, unmodified. -/
theorem decode_exact_ss3 (u : Uni) :
    ∀ e ∈ ss3Table, decodeKey u (.ss3 e.1) = { keycode := e.2 } := by
  intro e he
  rw [decodeKey_eq]
  have h : ss3Raw e.1 = { keycode := e.2 } := by
    revert e; decide
  rw [decodeRaw_ss3, h]
  exact shiftFix_id _ _ (Or.inr (show stripLocks 0 ≠ shiftBit by decide))

theorem tables_agree (k : Int × Int) : lookup2 k specialsKeys = lookup2 k functional :=
  lookup2_tables_agree specials_is_spec.1 specials_is_spec.2 k

/-- Every `CSI params final`, for every parameter list: the closed form `Spec.KeyEncUni.csiFields`, then the Shift-text work-around. -/
theorem decodeKey_csi (u : Uni) (params : List (List Int)) (fin : Int) :
    decodeKey u (.csi params fin) = shiftFix u (csiFields params fin) := by
  rw [decodeKey_eq, decodeRaw_csi_fields u params fin tables_agree]

/-- Every CSI key report — xterm `CSI 1;m X`, `CSI n;m ~`, kitty `CSI … u` —
    with any combination of the optional fields (shifted code, base-layout code, modifiers, event type,
    text) is decoded to exactly the key, codes, modifier mask, event type and text it carries, plus the
    documented Shift-text work-around.  `number`/`final` denote a functional key of the protocol table
    or (`final = u`, not in the table) the code point of the key itself; all 256 masks (indeed any
    mask), any event value, any text of valid code points. -/
theorem decode_exact_csi (u : Uni) (num fin : Int) (c : Chord) (f : Form)
    (hnum : inRune num) (hsh : inRune c.shifted) (hbase : inRune c.base)
    (htext : ∀ p ∈ c.text, inRune p ∧ validRune p = true)
    (hkey : lookup2 (num, fin) functional = some c.key ∨ (lookup2 (num, fin) functional = none ∧ c.key = num))
    (hZ : ¬(num = 1 ∧ fin = 90)) (hmok : ¬(c.key = 27 ∧ fin = 126)) :
    decodeKey u (kittySeq num fin c f) = kittyExpected u c f :=
  (decodeKey_csi u _ fin).trans
    (congrArg (shiftFix u) (csiFields_kitty num fin c f hnum hsh hbase htext hkey hZ hmok))

example : decodeKey ⟨fun _ => false, fun _ => false, fun _ => false, fun _ => false, fun r => decide (32 ≤ r), (· - 32), id, fun _ _ => false⟩
    (kittySeq 97 117 { key := 97, mods := 1 } { withMods := true }) = { keycode := 97, mods := 1, text := [65] } := by decide

/-- The kitty report `CSI c… u` of a character key: a valid code point that is no functional-key number. -/
theorem decode_kitty_char (u : Uni) (ch : Chord) (f : Form) (hv : validRune ch.key = true)
    (hsh : ch.shifted = 0 ∨ validRune ch.shifted = true) (hb : ch.base = 0)
    (htext : ∀ p ∈ ch.text, validRune p = true) (hfun : lookup2 (ch.key, 117) functional = none) :
    decodeKey u (kittySeq ch.key 117 ch f) = kittyExpected u ch f :=
  decode_exact_csi u ch.key 117 ch f (validRune_inRune hv)
    (by rcases hsh with h | h
        · rw [h]; exact ⟨by decide, by decide⟩
        · exact validRune_inRune h)
    (by rw [hb]; exact ⟨by decide, by decide⟩)
    (fun p hp => ⟨validRune_inRune (htext p hp), htext p hp⟩) (Or.inr ⟨hfun, rfl⟩) (by omega) (by omega)

theorem decode_kitty_char_carries (u : Uni) (ch : Chord) (f : Form) (hv : validRune ch.key = true)
    (hsh : ch.shifted = 0 ∨ validRune ch.shifted = true) (hb : ch.base = 0)
    (htext : ∀ p ∈ ch.text, validRune p = true) (hfun : lookup2 (ch.key, 117) functional = none)
    (hs : f.withShifted = false → ch.shifted = 0) (hm : f.hasMods = false → ch.mods = 0) (he : ch.event = 0) :
    decodeKey u (kittySeq ch.key 117 ch f) =
      shiftFix u { keycode := ch.key, shifted := ch.shifted, mods := ch.mods, text := if f.withText then ch.text else [] } := by
  rw [decode_kitty_char u ch f hv hsh hb htext hfun, kittyExpected_carries u ch f hs (fun _ => hb) hm (fun _ => he), hb, he]

/-- A parameterless `CSI X` is `CSI 1 X`. -/
theorem decode_exact_csi_noparams (u : Uni) (fin key : Int)
    (hkey : lookup2 (1, fin) functional = some key) (hZ : fin ≠ 90) :
    decodeKey u (.csi [] fin) = shiftFix u { keycode := key } := by
  have i0 : inRune 0 := ⟨by decide, by decide⟩
  have h := decode_exact_csi u 1 fin { key := key } {} ⟨by decide, by decide⟩ i0 i0
    (by simp) (Or.inl hkey) (by simp [hZ]) ?_
  · have e : decodeRaw u (.csi [] fin) = decodeRaw u (kittySeq 1 fin { key := key } {}) := rfl
    rw [decodeKey_eq, e, ← decodeKey_eq, h]; rfl
  · intro h
    have h2 : fin = 126 := h.2
    subst h2
    have : lookup2 (1, 126) functional = some KeyHome := by decide
    rw [this] at hkey
    have h1 : key = 27 := h.1
    subst h1
    revert hkey; decide

/-- `CSI Z` is Shift+Tab. -/
theorem decode_exact_shift_tab (u : Uni) :
    decodeKey u (.csi [] 90) = shiftFix u { keycode := KeyTab, mods := shiftBit } := by
  rw [decodeKey_eq]; rfl

/-- xterm's `CSI 27 ; m ; code ~` (modifyOtherKeys) is `code` with modifiers `m - 1`. -/
theorem decode_exact_modify_other_keys (u : Uni) (m : Nat) (code : Int) (hc : inRune code) :
    decodeKey u (.csi [[27], [(m : Int) + 1], [code]] 126) = shiftFix u { keycode := code, mods := m } := by
  have hk := csiKeyOf_cons 27 126 [] 27 ⟨by decide, by decide⟩ (Or.inr ⟨by decide, rfl⟩) (by decide)
  rw [decodeKey_csi]
  congr 1
  simp [csiFields, csiFieldsNE, isModifyOther, hk, wrap32_of_inRune hc]

/-- Table part of `cross_protocol`: for every chord of `xpChords` the xterm legacy protocol expresses
    (384 of 768), every kitty (number, final) denoting the key and every considered field
    combination, the two decoded events are equal up to the text of an unmodified character key. -/
theorem xp_table : (xpChords.all fun ch => xpOK asciiUni ch) = true :=
  List.all_eq_true.mpr fun ch hch => (xp_rows ch hch).1

theorem xp_domain_size :
    (xpChords.filter fun ch => (xtermLegacy ch.1 ch.2.1 ch.2.2 false).isSome).length = 384 := xp_count

/-- A chord that both the xterm legacy protocol and the kitty protocol express
    (every special key and every printable ASCII key × Shift/Alt/Ctrl sets with a single unambiguous
    legacy report; kitty reports carrying the modifiers and — for Shift on a character key — the
    shifted code, with or without event type and text): the events decoded from the two reports have
    the same `String()` and match exactly the same bindings, for **all** binding runes and masks. -/
theorem cross_protocol (ch : Int × Nat × Int) (hch : ch ∈ xpChords) (ckm : Bool) (sL : Seq)
    (hL : xtermLegacy ch.1 ch.2.1 ch.2.2 ckm = some sL)
    (nf : Int × Int) (hnf : nf ∈ kittyCodes ch.1) (ft : Form × Bool) (hft : ft ∈ xpForms ch.1 ch.2.1) :
    let c : Chord := { key := ch.1, mods := ch.2.1, shifted := ch.2.2,
                       text := if ft.2 then [if ch.2.1 &&& 1 ≠ 0 then ch.2.2 else ch.1] else [] }
    let kL := decodeKey asciiUni sL
    let kK := decodeKey asciiUni (kittySeq nf.1 nf.2 c ft.1)
    keyString asciiUni kL = keyString asciiUni kK ∧
    ∀ b m, «matches» asciiUni kL b m = «matches» asciiUni kK b m :=
  sameForMatching_sound _ _ (xp_entry ch hch ckm sL hL nf hnf ft hft).1

/-! `String()` writes `Meta+Hyper+Super+Ctrl+Alt+Shift+` prefixes and the key's name or rune;
`MatchString` splits on `+`, lower-cases the labels and looks the name up with `EqualFold`.
`AsciiAgree u`: `u.toLower` / `u.foldEq` agree with Go on ASCII runes (all that ASCII names need).
The three table facts are kernel-evaluated over the regenerated `keyNames` / `stringMods` /
`matchStringMods`. -/

/-- Modifier prefixes of `String()` parse back (all 256 masks). -/
theorem prefix_facts : ((List.range 256).all fun m =>
    let S := splitOn 43 (modPrefix m stringMods)
    (S.getLastD [1] == []) && (parseMods asciiUni S.dropLast == m &&& 63) && S.all asciiB &&
    (stripLocks (m &&& 63) == stripLocks m) &&
    ((modPrefix m stringMods == []) || !S.dropLast.isEmpty)) = true := by decide +kernel

/-- Every name of `keyNames` is ASCII, has no '+', at least two runes, and resolves (first match
    under case folding) to the key it is the first name of. -/
theorem name_facts : (keyNames.all fun e =>
    let name := findKeyName e.1 keyNames
    asciiB e.2 && asciiB name && !(name.contains 43) && decide (2 ≤ name.length) &&
    (findName asciiUni name keyNames == some e.1) &&
    (decide (e.1 > maxRune) || [KeyTab, KeySpace, KeyEsc, KeyBackspace, KeyEnter].contains e.1)) = true := by decide +kernel

theorem names_ascii : (keyNames.all fun e => asciiB e.2) = true :=
  List.all_eq_true.mpr fun e he => by
    have := List.all_eq_true.mp name_facts e he
    simp only [Bool.and_eq_true] at this
    exact this.1.1.1.1.1

/-- No name of the table belongs to a character key above space other than DEL. -/
theorem names_not_chars : (keyNames.all fun e => decide (e.1 > maxRune) || decide (e.1 ≤ 32) || decide (e.1 = 127)) = true := by
  decide +kernel

/-- What `String()` writes in front of the key parses back: the modifier prefix of an 8-bit mask splits at `+` into
    fields `D` and an empty last field, and `D` parses to the mask without its lock bits. -/
theorem prefix_fields (u : Uni) (hu : AsciiAgree u) (m : Nat) (hm : m < 256) :
    ∃ D : List Str, splitOn 43 (modPrefix m stringMods) = D ++ [[]] ∧ parseMods u D = m &&& 63 ∧
      stripLocks (m &&& 63) = stripLocks m ∧ (modPrefix m stringMods ≠ [] → D ≠ []) := by
  have pf := List.all_eq_true.mp prefix_facts m (List.mem_range.mpr hm)
  simp only [Bool.and_eq_true, Bool.or_eq_true, beq_iff_eq, Bool.not_eq_true', List.isEmpty_eq_false_iff] at pf
  obtain ⟨⟨⟨⟨hlast, hmask⟩, hSascii⟩, hstrip⟩, hDne⟩ := pf
  have hne := splitOn_ne_nil 43 (modPrefix m stringMods)
  generalize splitOn 43 (modPrefix m stringMods) = S at *
  have hl : S.getLastD [] = [] := by
    cases S with
    | nil => exact absurd rfl hne
    | cons x t => simpa [List.getLastD] using hlast
  have hD : (S.dropLast.all asciiB) = true :=
    List.all_eq_true.mpr fun x hx => List.all_eq_true.mp hSascii x (List.dropLast_subset _ hx)
  exact ⟨S.dropLast, dropLast_concat_of_last S hne hl, (parseMods_congr hu _ hD).trans hmask, hstrip, hDne.resolve_left⟩

theorem matchString_prefixed (u : Uni) (hu : AsciiAgree u) (k : Key) (m : Nat) (hm : m < 256) (t : Str)
    (ht : t ≠ []) (hnp : (43 : Int) ∉ t) :
    ∃ D : List Str, parseMods u D = m &&& 63 ∧ stripLocks (m &&& 63) = stripLocks m ∧
      matchString u k (modPrefix m stringMods ++ t) = matchFields u k (D ++ [t]) := by
  obtain ⟨D, hS, hmask, hstrip, _⟩ := prefix_fields u hu m hm
  refine ⟨D, hmask, hstrip, ?_⟩
  have hsplit := splitOn_append 43 t hnp (modPrefix m stringMods)
  rw [hS, List.dropLast_concat, List.getLastD_concat, List.nil_append] at hsplit
  rw [← hsplit]
  obtain ⟨a, t', rfl⟩ : ∃ a t', t = a :: t' := List.exists_cons_of_ne_nil ht
  cases t' with
  | cons b rest => exact matchString_long u k _ a b rest
  | nil =>
    cases hp : modPrefix m stringMods with
    | nil =>
      have ha : ¬ a = 43 := fun e => hnp (by simp [e])
      show «matches» u k a 0 = _
      simp [splitOn, ha, matchFields, parseMods]
    | cons c p' => cases p' <;> rfl

theorem self_match_named (u : Uni) (hu : AsciiAgree u) (k : Key) (e : Int × Str) (he : e ∈ keyNames)
    (hke : e.1 = k.keycode) (hm : k.mods < 256) (hev : k.event ≠ EventRelease) :
    matchString u k (keyString u k) = true := by
  have nf := List.all_eq_true.mp name_facts e he
  simp only [Bool.and_eq_true, Bool.or_eq_true, decide_eq_true_eq, Bool.not_eq_true', beq_iff_eq, hke] at nf
  obtain ⟨⟨⟨⟨⟨_, hascii⟩, hplus⟩, hlen⟩, hfind⟩, hbranch⟩ := nf
  rw [keyString_name u k (hbranch.symm.imp (by simpa using ·) id), keyPre_press hev]
  generalize hname : findKeyName k.keycode keyNames = name at *
  obtain ⟨a, b, rest, rfl⟩ : ∃ a b rest, name = a :: b :: rest := by
    match name, hlen with
    | a :: b :: rest, _ => exact ⟨a, b, rest, rfl⟩
  have hnoplus : (43 : Int) ∉ (a :: b :: rest) := fun hmem => by
    rw [List.contains_iff_mem.mpr hmem] at hplus; cases hplus
  obtain ⟨D, hmask, hstrip, hms⟩ := matchString_prefixed u hu k k.mods hm (a :: b :: rest) (by simp) hnoplus
  rw [hms, matchFields_concat, findName_congr hu _ hascii keyNames names_ascii, hfind, hmask, matches_iff]
  exact Or.inl ⟨rfl, hstrip⟩

/-- Every unnamed character key above space: any mask < 256, any non-release event, any text and
    codes, any `Uni` agreeing with Go on ASCII — including `+` and Caps Lock with or without text. -/
theorem self_match_char (u : Uni) (hu : AsciiAgree u) (k : Key)
    (hkc : 32 < k.keycode ∧ k.keycode ≠ 127 ∧ validRune k.keycode = true)
    (hm : k.mods < 256) (hev : k.event ≠ EventRelease) :
    matchString u k (keyString u k) = true := by
  obtain ⟨h32, h127, hvk⟩ := hkc
  have hmr : maxRune = 1114111 := rfl
  have hmax : k.keycode ≤ maxRune := (validRune_range hvk).2
  have hun : ∀ e ∈ keyNames, e.1 ≠ k.keycode := by
    intro e he heq
    have := List.all_eq_true.mp names_not_chars e he
    simp only [Bool.or_eq_true, decide_eq_true_eq, heq] at this
    omega
  -- the rune `String()` writes
  let ch : Int := if k.mods &&& ModCapsLock ≠ 0 ∧ k.text = strOfRune (u.toUpper k.keycode) then u.toUpper k.keycode else k.keycode
  obtain ⟨w, hw, hwv⟩ : ∃ w, strOfRune ch = [w] ∧ validRune w = true := by
    unfold strOfRune; split
    · exact ⟨ch, rfl, by assumption⟩
    · exact ⟨0xFFFD, rfl, by decide⟩
  have hks : keyString u k = modPrefix k.mods stringMods ++ [w] := by
    rw [keyString_char u k (fun hn => by have := hn.num; omega) (by omega) hmax, keyPre_press hev,
      findKeyName_none _ _ hun, List.append_nil]
    show _ ++ strOfRune ch = _
    rw [hw]
  -- whatever mask with the same non-lock bits: the event matches the written rune
  have hfinal : ∀ mask, stripLocks mask = stripLocks k.mods → «matches» u k w mask = true := by
    intro mask hmk
    rw [matches_iff]
    by_cases hc : k.mods &&& ModCapsLock ≠ 0 ∧ k.text = strOfRune (u.toUpper k.keycode)
    · -- the text is the written rune: rule 2
      have hch : ch = u.toUpper k.keycode := by simp only [ch]; rw [if_pos hc]
      refine Or.inr (Or.inl ⟨?_, hmk⟩)
      rw [hc.2, ← hch, hw]
      simp [strOfRune, hwv]
    · -- the key code is the written rune: rule 1
      have hch : ch = k.keycode := by simp only [ch]; rw [if_neg hc]
      have : w = k.keycode := by
        have := hw; rw [hch] at this; simp [strOfRune, hvk] at this; exact this.symm
      exact Or.inl ⟨this.symm, hmk⟩
  rw [hks]
  by_cases hplus : w = 43
  · -- the key is '+': the last two fields are empty (after a prefix), or the string is "+" itself
    subst hplus
    obtain ⟨D, hS, hmask, hstrip, hDne⟩ := prefix_fields u hu k.mods hm
    cases hp : modPrefix k.mods stringMods with
    | nil =>
      have hD0 : D = [] := by rw [hp] at hS; simpa [splitOn] using hS.symm
      rw [hD0] at hmask
      exact hfinal 0 (by rw [← hstrip, ← hmask]; rfl)
    | cons c p' =>
      have hlong : matchString u k ((c :: p') ++ [43]) = matchFields u k (splitOn 43 ((c :: p') ++ [43])) := by
        cases p' <;> rfl
      rw [hlong, splitOn_sep, ← hp, hS, List.append_assoc, List.cons_append, List.nil_append,
        matchFields_plus u k D (hDne (by simp [hp])), hmask]
      exact hfinal _ hstrip
  · obtain ⟨D, hmask, hstrip, hms⟩ := matchString_prefixed u hu k k.mods hm [w] (by simp) (by simp [Ne.symm hplus])
    rw [hms, matchFields_single, hmask]
    exact hfinal _ hstrip

/-- Every `Key*` constant from `KeyUp` to `KeyKeyPadBegin`, and Tab / Enter / Escape / space / DEL,
    has a name in `keyNames`. -/
theorem all_consts_named :
    (((List.range ((KeyKeyPadBegin - KeyUp).toNat + 1)).all fun i => keyNames.any fun e => e.1 == KeyUp + Int.ofNat i) &&
    ([KeyTab, KeyEnter, KeyEsc, KeySpace, KeyBackspace].all fun kc => keyNames.any fun e => e.1 == kc)) = true := by
  decide +kernel

/-- Every pressed chord (press or repeat of a real key, 8-bit modifier mask, any
    text / shifted / base-layout codes) matches its own `String()`. -/
theorem self_match (u : Uni) (hu : AsciiAgree u) (k : Key) (hp : pressedChord k = true) :
    matchString u k (keyString u k) = true := by
  simp only [pressedChord, Bool.and_eq_true, Bool.or_eq_true, decide_eq_true_eq] at hp
  obtain ⟨⟨hreal, hev⟩, hm⟩ := hp
  have hev' : k.event ≠ EventRelease := by
    rcases hev with h | h <;> rw [h] <;> decide
  have hn := all_consts_named
  simp only [Bool.and_eq_true] at hn
  obtain ⟨hrange, halias⟩ := hn
  have alias : ∀ kc ∈ [KeyTab, KeyEnter, KeyEsc, KeySpace, KeyBackspace], k.keycode = kc → matchString u k (keyString u k) = true := by
    intro kc hkc heq
    obtain ⟨e, he, hek⟩ := named_of_any (List.all_eq_true.mp halias kc hkc)
    exact self_match_named u hu k e he (by rw [hek, heq]) hm hev'
  simp only [realKey, Bool.or_eq_true, Bool.and_eq_true, decide_eq_true_eq] at hreal
  rcases hreal with (((⟨h32, hv⟩ | h) | h) | h) | ⟨hlo, hhi⟩
  · by_cases hs : k.keycode = 32
    · exact alias KeySpace (by simp) hs
    · by_cases hd : k.keycode = 127
      · exact alias KeyBackspace (by simp) hd
      · exact self_match_char u hu k ⟨by omega, hd, hv⟩ hm hev'
  · exact alias KeyTab (by simp) h
  · exact alias KeyEnter (by simp) h
  · exact alias KeyEsc (by simp) h
  · have hi : (k.keycode - KeyUp).toNat < (KeyKeyPadBegin - KeyUp).toNat + 1 := by omega
    have := List.all_eq_true.mp hrange _ (List.mem_range.mpr hi)
    obtain ⟨e, he, hek⟩ := named_of_any this
    refine self_match_named u hu k e he ?_ hm hev'
    rw [hek]; simp only [Int.ofNat_eq_natCast]; omega

example : AsciiAgree asciiUni := ⟨fun _ _ _ => rfl, fun _ _ _ _ _ _ => rfl⟩
example : pressedChord { keycode := 97, mods := capsBit ||| hyperBit, event := EventRepeat } = true := by decide

end VaxisModel.Props.C09
