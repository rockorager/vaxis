/-
C09 — structural tie of the four function bodies of key.go to the model.

`Gen/KeyBody.lean` is regenerated from /repo on every run: the bodies of `Key.Matches`,
`Key.MatchString`, `Key.String` and `decodeKey` as terms of the Go-body language
(`Model/GoBody.lean`): the order of the `if` / `switch` arms, every guard as an expression over
modifier bits / key fields / `unicode` calls, what each arm assigns, writes or returns.

* `matches_body_eq_model`: the *interpreted* extracted body of `Key.Matches` (`Model/KeyBody.lean`,
  the definition the driver also runs against the implementation on every case) coincides with the
  hand-written model for all inputs — a semantic tie: swapping two rules that changes nothing
  still proves, dropping a modifier from a guard or turning `&&` into `||` does not.
* `string_body_eq_model`, `decodeKey_body_eq_model` (+ per-arm corollaries), `matchString_body_eq_model`:
  the same semantic tie for `Key.String`, `decodeKey` and `Key.MatchString`, for all inputs.  The decomposition of each
  body into its statements is checked by `rfl` against the regenerated `Gen` term, so any change of the
  source's decision structure breaks the theorem.
-/
import VaxisModel.Model.KeyBody
import VaxisModel.Lemmas.KeyBodyPin
import VaxisModel.Lemmas.GoInterp
import VaxisModel.Lemmas.KeyBodyEvalString
import VaxisModel.Lemmas.KeyBodyEvalDecode
import VaxisModel.Lemmas.KeyBodyEvalMatch
import VaxisModel.Lemmas.KeyBodyEvalMatches

namespace VaxisModel.Props.C09Body
open VaxisModel.Model.GoBody VaxisModel.Model.GoInterp VaxisModel.Model.Key VaxisModel.Model.KeyBody
open VaxisModel.Gen.Keys VaxisModel.Lemmas.GoInterp

theorem const_ModShift : List.lookup "ModShift" keyConstEnv = some (.int (1 : Nat)) := rfl
theorem const_ModCapsLock : List.lookup "ModCapsLock" keyConstEnv = some (.int (64 : Nat)) := rfl
theorem const_ModNumLock : List.lookup "ModNumLock" keyConstEnv = some (.int (128 : Nat)) := rfl

def exUni : Uni := ⟨fun _ => false, fun _ => false, fun _ => false, fun _ => false, fun _ => false, id, id, fun _ _ => false⟩

/-- Every node of the four bodies was translated (nothing degraded to `.unknown`). -/
theorem key_bodies_fully_recognised :
    (VaxisModel.Gen.KeyBody.matchesBody.clean && VaxisModel.Gen.KeyBody.matchStringBody.clean &&
     VaxisModel.Gen.KeyBody.stringBody.clean && VaxisModel.Gen.KeyBody.decodeKeyBody.clean) = true ∧
    VaxisModel.Gen.KeyBody.unknownCount = 0 := by decide

theorem facts_matchString_body : VaxisModel.Gen.KeyBody.matchStringBody = VaxisModel.Lemmas.KeyBodyPin.matchStringBody := rfl
theorem facts_string_body : VaxisModel.Gen.KeyBody.stringBody = VaxisModel.Lemmas.KeyBodyPin.stringBody := rfl
theorem facts_decodeKey_body : VaxisModel.Gen.KeyBody.decodeKeyBody = VaxisModel.Lemmas.KeyBodyPin.decodeKeyBody := rfl

/-- `k.Matches(key, ms...)` for a variadic list of ANY length is the model with the
    mask `ms.foldl (· ||| ·) 0`: the `for _, mod := range modifiers { mods |= mod }` loop of the extracted body
    ORs the arguments. -/
theorem matches_body_variadic (u : Uni) (k : Key) (key : Int) (ms : List Nat) :
    matchesGenL u k key ms = some («matches» u k key (ms.foldl (· ||| ·) 0)) :=
  VaxisModel.Lemmas.KeyBodyEval.matches_body_variadic_eq u k key ms

example : matchesGenL VaxisModel.Props.C09Body.exUni { keycode := 97, mods := 7 } 97 [1, 2, 4] = some true := by
  rw [matches_body_variadic]; decide +kernel

/-- Running the body of `Key.Matches` as extracted from key.go on this
    run gives, for every `unicode` oracle, key event, binding rune and mask, exactly the value of the
    hand-written `Model.Key.matches` — so `shift_forgiveness`, `match_strong_mods`,
    `locks_irrelevant`, … are theorems about the code's own decision structure (the order of the six
    rules, every guard, the three `&^` chains). -/
theorem matches_body_eq_model (u : Uni) (k : Key) (key : Int) (m : Nat) :
    matchesGen u k key m = some («matches» u k key m) := by
  have h := matches_body_variadic u k key [m]
  rwa [List.foldl_cons, List.foldl_nil, Nat.zero_or] at h

example : matchesGen VaxisModel.Props.C09Body.exUni { keycode := 97, mods := 5 } 97 5 = some true := by decide +kernel

theorem matches_body_variadic_0 (u : Uni) (k : Key) (key : Int) :
    matchesGenL u k key [] = some («matches» u k key 0) :=
  matches_body_variadic u k key []

theorem matches_body_variadic_2 (u : Uni) (k : Key) (key : Int) (m1 m2 : Nat) :
    matchesGenL u k key [m1, m2] = some («matches» u k key (m1 ||| m2)) := by
  have h := matches_body_variadic u k key [m1, m2]
  rwa [List.foldl_cons, List.foldl_cons, List.foldl_nil, Nat.zero_or] at h

theorem matches_body_variadic_1 (u : Uni) (k : Key) (key : Int) (m : Nat) :
    matchesGenL u k key [m] = some («matches» u k key m) := matches_body_eq_model u k key m

/-- Running the body of `Key.String` as extracted from key.go on this run
    (the six modifier prefixes, the switch on the key code, the loop over `keyNames`) gives, for every
    `unicode` oracle and key event, exactly the hand-written `Model.Key.keyString`. -/
theorem string_body_eq_model (u : Uni) (k : Key) : keyStringGen u k = some (keyString u k) :=
  VaxisModel.Lemmas.KeyBodyEval.string_body_eq u k

example : keyStringGen VaxisModel.Props.C09Body.exUni { keycode := 97, mods := 5 } = some [67, 116, 114, 108, 43, 83, 104, 105, 102, 116, 43, 97] := by
  rw [string_body_eq_model]; decide +kernel

/-- Running the body of `decodeKey` as extracted from key.go on this run
    (the type switch over the five sequence kinds, the C0 / SS3 case tables, the three nested
    `for … range` loops over the CSI sub-parameters with the `specialsKeys` map, the Shift-text
    work-around) gives, for every `unicode` oracle and every parsed sequence, exactly the hand-written
    `Model.Key.decodeKey`.  `seqIsRune`: the payload of an `ansi.C0` / `ansi.SS3` is a Go `rune`
    (`type C0 rune`), i.e. fixed by the conversion `rune(seq)` the body applies; it is `True` for the
    other three kinds (CSI parameters are arbitrary `int`s, the model wraps them with `toRune` as the
    code does). -/
theorem decodeKey_body_eq_model (u : Uni) (s : Seq) (h : VaxisModel.Lemmas.KeyBodyEval.seqIsRune s) :
    decodeKeyGen u s = some (decodeKey u s) :=
  VaxisModel.Lemmas.KeyBodyEval.decodeKey_body_eq u s h

theorem decodeKey_body_eq_model_print (u : Uni) (g : Str) : decodeKeyGen u (.print g) = some (decodeKey u (.print g)) :=
  decodeKey_body_eq_model u _ trivial
theorem decodeKey_body_eq_model_esc (u : Uni) (f : Int) : decodeKeyGen u (.esc f) = some (decodeKey u (.esc f)) :=
  decodeKey_body_eq_model u _ trivial
theorem decodeKey_body_eq_model_csi (u : Uni) (params : List (List Int)) (f : Int) :
    decodeKeyGen u (.csi params f) = some (decodeKey u (.csi params f)) :=
  decodeKey_body_eq_model u _ trivial
theorem decodeKey_body_eq_model_c0 (u : Uni) (b : Int) (h0 : -2147483648 ≤ b) (h1 : b < 2147483648) :
    decodeKeyGen u (.c0 b) = some (decodeKey u (.c0 b)) :=
  decodeKey_body_eq_model u _ (VaxisModel.Lemmas.KeyMatch.toRune_of_int32 b h0 h1)
theorem decodeKey_body_eq_model_ss3 (u : Uni) (b : Int) (h0 : -2147483648 ≤ b) (h1 : b < 2147483648) :
    decodeKeyGen u (.ss3 b) = some (decodeKey u (.ss3 b)) :=
  decodeKey_body_eq_model u _ (VaxisModel.Lemmas.KeyMatch.toRune_of_int32 b h0 h1)

example : VaxisModel.Lemmas.KeyBodyEval.seqIsRune (.c0 13) := by show toRune 13 = 13; decide
example : decodeKeyGen VaxisModel.Props.C09Body.exUni (.csi [[97, 65], [6, 2]] 117) =
    some { keycode := 97, shifted := 65, mods := 5, event := 1 } := by decide +kernel
/-- outside the `rune` range a `Seq.c0 b` is not a Go value: the body's `rune(seq)` wraps, the hand model does not -/
example : decodeKeyGen VaxisModel.Props.C09Body.exUni (.c0 4294967304) ≠ some (decodeKey VaxisModel.Props.C09Body.exUni (.c0 4294967304)) := by
  decide +kernel

/-- Running the body of `Key.MatchString` as extracted from key.go on
    this run (the one-rune shortcut, `strings.Split`, the `"Ctrl++"` adjustment on the last two fields,
    the modifier loop, the second one-rune shortcut, the `EqualFold` loop over `keyNames`, the
    first-rune fallback) — with its calls `k.Matches(…)` run through the interpreted body of
    `Key.Matches` — gives, for every `unicode` oracle, key event and binding string, exactly the
    hand-written `Model.Key.matchString`. -/
theorem matchString_body_eq_model (u : Uni) (k : Key) (tgt : Str) :
    matchStringGen u k tgt = some (matchString u k tgt) :=
  VaxisModel.Lemmas.KeyBodyEval.matchString_body_eq u k (fun key m => matches_body_eq_model u k key m) tgt

-- "ctrl+a" against Ctrl+a (`exUni.toLower` is the identity)
example : matchStringGen VaxisModel.Props.C09Body.exUni { keycode := 97, mods := 4 } [99, 116, 114, 108, 43, 97] = some true := by
  decide +kernel

end VaxisModel.Props.C09Body
