/-
C09 — `cross_protocol` (384 chords both protocols express × kitty codes × field combinations; table kernel-evaluated
for Go's ASCII tables) lifted to EVERY `unicode` oracle that agrees with Go on ASCII and on the key codes above the
Unicode range (`AgreeOnKeys`) and satisfies the table law `UpperHasLower`: the decoder consults the oracle only at the
runes of the report (`Lemmas/KeyCongr.lean`), those are ASCII runes or key codes for every chord of the domain
(`xp_dom`, from the kernel-evaluated table of `Lemmas/KeyCrossTable.lean`), and the criterion `sameForMatching` is sound for such an oracle.
-/
import VaxisModel.Props.C09
import VaxisModel.Lemmas.KeyUni
import VaxisModel.Lemmas.KeyCongr

namespace VaxisModel.Props.C09CrossUni
open VaxisModel.Model.Key VaxisModel.Spec.KeyEnc VaxisModel.Gen.Keys
open VaxisModel.Lemmas.KeyMatch VaxisModel.Lemmas.KeyDecode VaxisModel.Lemmas.KeyCross VaxisModel.Lemmas.KeyUni
open VaxisModel.Lemmas.KeyCongr VaxisModel.Props.C09

theorem xp_dom : (xpChords.all fun ch => xpDomOK ch) = true :=
  List.all_eq_true.mpr fun ch hch => (xp_rows ch hch).2

theorem decodeKey_of_dom (u : Uni) (H : AgreeOnKeys u) (s : Seq) (h : seqDomOK s = true) :
    decodeKey u s = decodeKey asciiUni s ∧ AgreeAt u asciiUni (decodeKey asciiUni s).keycode := by
  simp only [seqDomOK, Bool.and_eq_true] at h
  obtain ⟨⟨⟨h1, h2⟩, h3⟩, h4⟩ := h
  exact ⟨decodeKey_congr u asciiUni s (H _ h1) (H _ h2) (H _ h3), H _ h4⟩

theorem sameForMatching_sound_agree (u : Uni) (hlaw : UpperHasLower u) (k1 k2 : Key)
    (ha : AgreeAt u asciiUni k1.keycode) (h : sameForMatching k1 k2 = true) :
    keyString u k1 = keyString u k2 ∧ ∀ b m, «matches» u k1 b m = «matches» u k2 b m := by
  obtain ⟨hk, hs, hb, hm, he, ht⟩ := sameForMatching_fields h
  refine sameForMatching_sound_uni u k1 k2 hk hs hb hm he ?_
  rcases ht with ht | ⟨hm0, ht1, ht2, hv, hfffd, hup⟩
  · exact Or.inl ht
  · refine Or.inr ⟨hm0, ht1, ht2, hv, hfffd, ?_⟩
    intro r hl hne heq
    have hlow : u.toLower k1.keycode = k1.keycode := by
      rw [ha.toLower]
      simp only [asciiUni]
      split
      · rename_i hc; exact absurd hc.2 (by intro h2; exact absurd (hup hc.1) (by simpa using h2))
      · rfl
    have := hlaw r hl hne
    rw [heq] at this
    exact this hlow

/-- `cross_protocol` for every `unicode` oracle `u` that agrees with Go on ASCII and on
    the key codes and satisfies `UpperHasLower` (both checked on Go's own tables at run time: ops `hypk` of C13 / `hypa`,
    `hypl` of C09): a chord both protocols express, decoded from its legacy report and from any of its kitty reports,
    has the same `String()` and matches exactly the same bindings — all binding runes of all scripts, all masks. -/
theorem cross_protocol_any_uni (u : Uni) (H : AgreeOnKeys u) (hlaw : UpperHasLower u)
    (ch : Int × Nat × Int) (hch : ch ∈ xpChords) (ckm : Bool) (sL : Seq)
    (hL : xtermLegacy ch.1 ch.2.1 ch.2.2 ckm = some sL)
    (nf : Int × Int) (hnf : nf ∈ kittyCodes ch.1) (ft : Form × Bool) (hft : ft ∈ xpForms ch.1 ch.2.1) :
    let c : Chord := { key := ch.1, mods := ch.2.1, shifted := ch.2.2,
                       text := if ft.2 then [if ch.2.1 &&& 1 ≠ 0 then ch.2.2 else ch.1] else [] }
    let kL := decodeKey u sL
    let kK := decodeKey u (kittySeq nf.1 nf.2 c ft.1)
    keyString u kL = keyString u kK ∧ ∀ b m, «matches» u kL b m = «matches» u kK b m := by
  obtain ⟨h2, hd1, hd2⟩ := xp_entry ch hch ckm sL hL nf hnf ft hft
  obtain ⟨e1, a1⟩ := decodeKey_of_dom u H _ hd1
  obtain ⟨e2, _⟩ := decodeKey_of_dom u H _ hd2
  intro c kL kK
  show keyString u (decodeKey u sL) = keyString u (decodeKey u (kittySeq nf.1 nf.2 c ft.1)) ∧
    ∀ b m, «matches» u (decodeKey u sL) b m = «matches» u (decodeKey u (kittySeq nf.1 nf.2 c ft.1)) b m
  rw [e1, e2]
  exact sameForMatching_sound_agree u hlaw _ _ a1 h2

example : AgreeOnKeys asciiUni ∧ UpperHasLower asciiUni := by
  refine ⟨fun _ _ => ⟨rfl, rfl, rfl, rfl, rfl, rfl, rfl⟩, ?_⟩
  intro r hl hne
  simp only [asciiUni, decide_eq_true_eq] at hl hne ⊢
  simp only [hl, and_self, if_true]
  split <;> omega

end VaxisModel.Props.C09CrossUni
