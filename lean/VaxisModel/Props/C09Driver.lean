/-
C09: the hypothesis `hdom` of `cross_protocol_char_plain_checked` ("the table lists every lower-case rune of
`u`") discharged for the `Uni` the driver builds from the rows the harness sends (`Driver.C09.mkUni`): outside
the table every class flag is `false` by construction.  So every `hyp plain … ok` line of a run is, without
further assumption about the driver, an instance of `cross_protocol_char_plain` for the driver's `Uni`.
-/
import VaxisModel.Props.C09Uni
import VaxisModel.Driver.C09
import VaxisModel.Spec.KeyEvent
import VaxisModel.Lemmas.KeyCongr
import VaxisModel.Lemmas.KeySelf

namespace VaxisModel.Props.C09Driver
open VaxisModel.Model.Key VaxisModel.Spec.KeyEnc VaxisModel.Spec.KeyEncUni VaxisModel.Gen.Keys
open VaxisModel.Driver.C09 (URow mkUni findRow upperHasLowerBad agreeOnKeysBad asciiAgreeOn)
open VaxisModel.Lemmas.KeyCongr (AgreeAt AgreeOnKeys)
open VaxisModel.Lemmas.KeySelf (AsciiAgree)

theorem findRow_none (t : List URow) (r : Int) (h : r ∉ t.map (·.r)) : findRow t r = none := by
  unfold findRow
  rw [List.find?_eq_none]
  intro row hrow hr
  simp only [beq_iff_eq] at hr
  exact h (by rw [← hr]; exact List.mem_map_of_mem hrow)

/-- Outside its table the driver's `Uni` has no lower-case (nor upper-case, letter,
    graphic, printable) rune, and `ToUpper` / `ToLower` are the identity. -/
theorem driver_uni_hdom (t : List URow) (folds : List (Int × Int)) (r : Int) (h : r ∉ t.map (·.r)) :
    (mkUni t folds).isLower r = false ∧ (mkUni t folds).isUpper r = false ∧ (mkUni t folds).isPrint r = false ∧
    (mkUni t folds).toUpper r = r ∧ (mkUni t folds).toLower r = r := by
  simp [mkUni, findRow_none t r h]

/-- `cross_protocol_char_plain_checked` for the driver's `Uni`, with
    the table's runes as the domain: no hypothesis left but the evaluator's verdict. -/
theorem cross_protocol_char_plain_driver (t : List URow) (folds : List (Int × Int)) (c : Int) (f : Form)
    (hf : f.withShifted = false ∧ f.withBase = false)
    (hok : violated (hypPlain (mkUni t folds) (t.map (·.r)) c f.withText) = []) :
    let u := mkUni t folds
    let kL := decodeKey u (.print [c])
    let kK := decodeKey u (kittySeq c 117 { key := c, text := [c] } f)
    keyString u kL = keyString u kK ∧ ∀ b m, «matches» u kL b m = «matches» u kK b m :=
  VaxisModel.Props.C09Uni.cross_protocol_char_plain_checked (mkUni t folds) (t.map (·.r)) c f hf
    (fun r hr => (driver_uni_hdom t folds r hr).1) hok

example : findRow [{ r := 97, flags := 30, up := 65, lo := 97 }] 223 = none := by decide

/-- The `hypl` op: when the driver's evaluation over the rows finds no violating row, the
    law `UpperHasLower` (hypothesis of `C09Sound.cross_protocol_char_plain_keycode`) holds of the `Uni` the driver builds
    from those rows — for every rune, listed or not (outside the table nothing is lower-case). -/
theorem driver_uni_upper_has_lower (t : List URow) (folds : List (Int × Int)) (h : upperHasLowerBad t = []) :
    UpperHasLower (mkUni t folds) := by
  intro r hl hne
  simp only [mkUni] at hl hne ⊢
  cases hr : findRow t r with
  | none => simp [hr] at hl
  | some row =>
    simp only [hr] at hl hne ⊢
    have hmem : row ∈ t := List.mem_of_find?_eq_some hr
    have hrr : row.r = r := by have := List.find?_some hr; simpa using this
    have hnot : row ∉ upperHasLowerBad t := by rw [h]; simp
    unfold upperHasLowerBad at hnot
    rw [List.mem_filter] at hnot
    have hflag : (row.flags / 2 % 2 == 1) = true := hl
    have hup : (row.up != row.r) = true := by
      simp only [bne_iff_ne, ne_eq]; rw [hrr]; exact hne
    cases hU : findRow t row.up with
    | none => exact absurd ⟨hmem, by simp [hflag, hup, hU]⟩ hnot
    | some U =>
      have hUr : U.r = row.up := by have := List.find?_some hU; simpa using this
      have hlo : U.lo ≠ U.r := by
        intro heq
        exact hnot ⟨hmem, by simp [hflag, hup, hU, heq]⟩
      simp only []
      rw [← hUr]; exact hlo

/-- The `hypk` op: when the driver's evaluation finds no differing rune, the oracle it
    builds from the rows satisfies `AgreeOnKeys` — at the 128 ASCII runes and the listed rows because they were compared,
    at every unlisted rune above `MaxRune` because the driver's defaults (no class, identity case maps) are what
    `asciiUni` says there.  So `hypk … ok` discharges the hypothesis of `cross_protocol_any_uni` / `key_roundtrip_any_uni`
    for the driver's oracle. -/
theorem driver_uni_agree_on_keys (t : List URow) (folds : List (Int × Int)) (h : agreeOnKeysBad t = []) :
    AgreeOnKeys (mkUni t folds) := by
  intro r hr
  -- the class predicates and case maps of `mkUni` do not depend on the fold pairs
  have e : AgreeAt (mkUni t folds) (mkUni t []) r := ⟨rfl, rfl, rfl, rfl, rfl, rfl, rfl⟩
  by_cases hmem : r ∈ ((List.range 128).map fun (n : Nat) => ((n : Nat) : Int)) ++ t.map (·.r)
  · -- evaluated: not in the bad list
    have hnot : r ∉ agreeOnKeysBad t := by rw [h]; simp
    have hc : ¬ ((inKeyDom r && !((mkUni t []).isUpper r == asciiUni.isUpper r && (mkUni t []).isLower r == asciiUni.isLower r &&
        (mkUni t []).isLetter r == asciiUni.isLetter r && (mkUni t []).isGraphic r == asciiUni.isGraphic r &&
        (mkUni t []).isPrint r == asciiUni.isPrint r && (mkUni t []).toUpper r == asciiUni.toUpper r &&
        (mkUni t []).toLower r == asciiUni.toLower r)) = true) := fun hc =>
      hnot (by unfold agreeOnKeysBad; exact List.mem_filter.mpr ⟨hmem, hc⟩)
    simp only [hr, Bool.true_and, Bool.not_eq_true', Bool.not_eq_false] at hc
    simp only [Bool.and_eq_true, beq_iff_eq] at hc
    obtain ⟨⟨⟨⟨⟨⟨a1, a2⟩, a3⟩, a4⟩, a5⟩, a6⟩, a7⟩ := hc
    exact ⟨e.isUpper.trans a1, e.isLower.trans a2, e.isLetter.trans a3, e.isGraphic.trans a4, e.isPrint.trans a5,
      e.toUpper.trans a6, e.toLower.trans a7⟩
  · -- not listed and not ASCII: above MaxRune, where both oracles have no class and identity maps
    simp only [List.mem_append, List.mem_map, List.mem_range, not_or, not_exists, not_and] at hmem
    obtain ⟨hascii, hrow⟩ := hmem
    have hnone : findRow t r = none := findRow_none t r (by
      simp only [List.mem_map, not_exists, not_and]; exact hrow)
    have hbig : maxRune < r := by
      simp only [inKeyDom, Bool.or_eq_true, Bool.and_eq_true, decide_eq_true_eq] at hr
      rcases hr with ⟨h0, h1⟩ | h
      · exact absurd (Int.toNat_of_nonneg h0) (hascii r.toNat (by omega))
      · exact h
    have hm : maxRune = 1114111 := rfl
    rw [hm] at hbig
    -- the five class predicates, then the two case maps
    refine ⟨?_, ?_, ?_, ?_, ?_, ?_, ?_⟩ <;> simp only [mkUni, hnone, asciiUni] <;>
      first | (symm; rw [decide_eq_false_iff_not]; omega) | (split <;> omega)

/-- The `hypa` op: when `asciiAgreeOn` accepts the rows and fold pairs, the driver's oracle
    satisfies `AsciiAgree`, the hypothesis of `self_match` / `self_match_every_event`. -/
theorem driver_uni_ascii_agree (t : List URow) (f : List (Int × Int)) (h : asciiAgreeOn t f = true) :
    AsciiAgree (mkUni t f) := by
  unfold asciiAgreeOn at h
  simp only [List.all_eq_true, List.mem_range, Bool.and_eq_true, beq_iff_eq] at h
  constructor
  · intro r h0 h1
    have := (h r.toNat (by omega)).1
    have er : ((r.toNat : Nat) : Int) = r := Int.toNat_of_nonneg h0
    rw [er] at this
    simpa [mkUni] using this
  · intro a b ha0 ha1 hb0 hb1
    have := (h a.toNat (by omega)).2 b.toNat (by omega)
    have ea : ((a.toNat : Nat) : Int) = a := Int.toNat_of_nonneg ha0
    have eb : ((b.toNat : Nat) : Int) = b := Int.toNat_of_nonneg hb0
    rw [ea, eb] at this
    simp only [mkUni]
    rw [this]
    simp only [asciiUni, Bool.or_self]

end VaxisModel.Props.C09Driver
