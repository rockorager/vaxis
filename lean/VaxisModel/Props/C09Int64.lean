/-
C09: Go's `int` is 64 bits.  The model of `decodeKey` computes over ℤ; the two places where the code does
`int` arithmetic on a CSI parameter (`pm[0] - 1`, `EventType(ps) - 1`) agree with ℤ on every int64 value
except `math.MinInt64`, where Go wraps to `MaxInt64`.  `decodeKey64` (Model/Key.lean) is the decoder with
that wrap; the driver compares the implementation with `decodeKey64`.
-/
import VaxisModel.Props.C09Uni

namespace VaxisModel.Props.C09Int64
open VaxisModel.Model.Key VaxisModel.Spec.KeyEnc VaxisModel.Spec.KeyEncUni VaxisModel.Gen.Keys

/-- On the whole int64 range, Go's `p - 1` (64-bit wrap) is ℤ's `q - 1` for
    `q = int64Fix p`: the substitution `decodeKey64` makes is exactly Go's subtraction. -/
theorem int64_sub_one (p : Int) (h0 : minInt64 ≤ p) (h1 : p < 9223372036854775808) :
    wrap64 (p - 1) = int64Fix p - 1 := by
  unfold wrap64 int64Fix minInt64 at *
  split <;> omega

/-- `rune(p)` for any `int` p: the model's `toRune` is the representative of
    p modulo 2^32 in [−2^31, 2^31), congruent to p, and the identity exactly on that range. -/
theorem rune_conversion_wraps_32 (p : Int) :
    -2147483648 ≤ toRune p ∧ toRune p < 2147483648 ∧ (toRune p - p) % 4294967296 = 0 ∧
    (toRune p = p ↔ (-2147483648 ≤ p ∧ p < 2147483648)) := by
  unfold toRune
  refine ⟨by omega, by omega, by omega, by constructor <;> intro h <;> omega⟩

/-- Whenever neither the modifier nor the event-type parameter is `math.MinInt64`,
    the 64-bit decoder is the ℤ model: every theorem about `decodeKey` (`decode_csi_total`, …) is a theorem
    about the code's 64-bit arithmetic there. -/
theorem decode_int64_agrees (u : Uni) (s : Seq)
    (h : ∀ params fin, s = .csi params fin → ∀ p1, params[1]? = some p1 → p1[0]? ≠ some minInt64 ∧ p1[1]? ≠ some minInt64) :
    decodeKey64 u s = decodeKey u s := by
  cases s with
  | csi params fin =>
    unfold decodeKey64
    have hp : int64Params params = params := by
      match params with
      | [] => rfl
      | [p0] => rfl
      | p0 :: p1 :: rest =>
        have := h _ _ rfl p1 rfl
        match p1 with
        | [] => rfl
        | [m] =>
          have hm : m ≠ minInt64 := fun e => this.1 (by simp [e])
          simp [int64Params, int64Fix, hm]
        | m :: e :: r =>
          have hm : m ≠ minInt64 := fun x => this.1 (by simp [x])
          have he : e ≠ minInt64 := fun x => this.2 (by simp [x])
          simp [int64Params, int64Fix, hm, he]
    show decodeKey u (.csi (int64Params params) fin) = _
    rw [hp]
  | _ => rfl

/-- The closed form of `decode_csi_total` for the 64-bit decoder: for EVERY parameter list
    and final, `decodeKey64` returns what the report denotes once the modifier / event fields are read with Go's
    64-bit subtraction. -/
theorem decode64_csi_total (u : Uni) (params : List (List Int)) (fin : Int) :
    decodeKey64 u (.csi params fin) = csiDenotes u (int64Params params) fin :=
  VaxisModel.Props.C09Uni.decode_csi_total u (int64Params params) fin

/-- The one place where they differ: a modifier parameter that wrapped to
    `math.MinInt64` in the parser (`CSI 97 ; 9223372036854775808 u`) decodes, with 64-bit arithmetic, to the
    mask `MaxInt64` — every modifier bit set — where the ℤ model says "no modifiers"; likewise the event
    type becomes `MaxInt64`. -/
theorem decode_min_int64_mods (u : Uni) :
    (decodeKey64 u (.csi [[97], [minInt64]] 117)).mods = 9223372036854775807 ∧
    (decodeKey u (.csi [[97], [minInt64]] 117)).mods = 0 ∧
    (decodeKey64 u (.csi [[97], [1, minInt64]] 117)).event = 9223372036854775807 ∧
    (decodeKey u (.csi [[97], [1, minInt64]] 117)).event = minInt64 - 1 := by
  have hraw_mods : ∀ m : Int, (decodeRaw u (.csi [[97], [m]] 117)).mods = (m - 1).toNat := by
    intro m
    simp [decodeRaw, csiParams, csiCodes, csiMods]
  have hraw_ev : ∀ e : Int, (decodeRaw u (.csi [[97], [1, e]] 117)).event = e - 1 := by
    intro e
    simp [decodeRaw, csiParams, csiCodes, csiMods]
  refine ⟨?_, ?_, ?_, ?_⟩
  · show (decodeKey u (.csi [[97], [int64Fix minInt64]] 117)).mods = _
    rw [VaxisModel.Lemmas.KeyDecode.decodeKey_eq, VaxisModel.Lemmas.KeyUni.shiftFix_mods, hraw_mods]; decide
  · rw [VaxisModel.Lemmas.KeyDecode.decodeKey_eq, VaxisModel.Lemmas.KeyUni.shiftFix_mods, hraw_mods]; decide
  · show (decodeKey u (.csi [[97], [int64Fix 1, int64Fix minInt64]] 117)).event = _
    rw [VaxisModel.Lemmas.KeyDecode.decodeKey_eq, VaxisModel.Lemmas.KeyUni.shiftFix_event]
    have : int64Fix 1 = 1 := by decide
    rw [this, hraw_ev]; decide
  · rw [VaxisModel.Lemmas.KeyDecode.decodeKey_eq, VaxisModel.Lemmas.KeyUni.shiftFix_event, hraw_ev]

end VaxisModel.Props.C09Int64
