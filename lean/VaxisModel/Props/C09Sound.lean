/-
C09 — binding soundness as ONE statement, and self-match for every event the decoder can produce.

`self_match_every_event`: `MatchString(String())` for every real key, 8-bit mask and EVERY event type other than a
release (press, repeat, paste, motion, any other value) — seeded change C09-m5 wrote the modifier prefix only for
`EventPress`; `self_match_decoded` / `self_match_pasted` instantiate it with what `decodeKey` returns for any sequence.
-/
import VaxisModel.Props.C09
import VaxisModel.Spec.KeyEvent
import VaxisModel.Props.C09Uni
import VaxisModel.Witness.F209

namespace VaxisModel.Props.C09Sound
open VaxisModel.Model.Key VaxisModel.Spec.KeyEnc VaxisModel.Gen.Keys
open VaxisModel.Lemmas.KeyMatch VaxisModel.Lemmas.KeyDecode VaxisModel.Lemmas.KeySelf VaxisModel.Lemmas.KeyCross
open VaxisModel.Props.C09

theorem binding_soundness (u : Uni) (k : Key) (key : Int) (m : Nat) (h : «matches» u k key m = true) :
    -- (a) Ctrl, Alt, Super, Hyper, Meta identical — indeed every bit other than Shift, Caps Lock, Num Lock
    (strong k.mods = strong m ∧ ∀ i, i ≠ 0 ∧ i ≠ 6 ∧ i ≠ 7 → k.mods.testBit i = m.testBit i) ∧
    -- (b) lock keys never matter: toggling them in the event or the binding keeps the match
    (∀ l, andNot l (capsBit ||| numBit) = 0 →
        «matches» u { k with mods := k.mods ^^^ l } key m = true ∧ «matches» u k key (m ^^^ l) = true) ∧
    -- (c) Shift: equal masks (locks aside), or a Shift-only difference under a documented forgiveness rule
    (stripLocks m = stripLocks k.mods ∨
      (unshift (stripLocks m) = unshift (stripLocks k.mods) ∧
        ((k.shifted = key ∧ stripLocks m = unshift (stripLocks k.mods)) ∨
         (u.isLetter key = false ∧ u.isGraphic key = true ∧ (k.keycode = key ∨ k.shifted = key)) ∨
         (stripLocks m &&& shiftBit ≠ 0 ∧ u.isLower key = true ∧ u.toUpper key ≠ key ∧
            k.text = strOfRune (u.toUpper key))))) ∧
    -- (d) the key agrees under one of the six rules: key code, text, shifted code, base-layout code,
    --     non-letter graphic key or shifted code, upper-cased text
    (k.keycode = key ∨ k.text = strOfRune key ∨ k.shifted = key ∨ k.base = key ∨
      (u.isLetter key = false ∧ u.isGraphic key = true ∧ (k.keycode = key ∨ k.shifted = key)) ∨
      (u.isLower key = true ∧ u.toUpper key ≠ key ∧ k.text = strOfRune (u.toUpper key))) := by
  refine ⟨⟨match_strong_mods u k key m h, fun i hi => match_all_but_shift_and_locks u k key m h i hi⟩, ?_, ?_, ?_⟩
  · intro l hl
    obtain ⟨h1, h2⟩ := locks_irrelevant u k key m l hl
    exact ⟨by rw [h1]; exact h, by rw [h2]; exact h⟩
  · by_cases hne : stripLocks m = stripLocks k.mods
    · exact Or.inl hne
    · exact Or.inr (shift_forgiven_only_documented u k key m h hne)
  · have hs := (shift_forgiveness u k key m).mp h
    unfold matchSpec at hs
    simp only at hs
    rcases hs with ⟨h1, _⟩ | ⟨h2, _⟩ | ⟨h3, _⟩ | ⟨h4, _⟩ | ⟨h5a, h5b, h5c, _⟩ | ⟨_, h6b, h6c, h6d, _⟩
    · exact Or.inl h1
    · exact Or.inr (Or.inl h2)
    · exact Or.inr (Or.inr (Or.inl h3))
    · exact Or.inr (Or.inr (Or.inr (Or.inl h4)))
    · exact Or.inr (Or.inr (Or.inr (Or.inr (Or.inl ⟨h5a, h5b, h5c⟩))))
    · exact Or.inr (Or.inr (Or.inr (Or.inr (Or.inr ⟨h6b, h6c, h6d⟩))))

/-- Non-vacuity: a Ctrl chord with Caps Lock on matches its binding; the conclusions are about a real match. -/
example : «matches» asciiUni { keycode := 97, mods := ModCtrl ||| ModCapsLock } 97 ModCtrl = true := by decide

/-- Every real key, every 8-bit modifier mask, every event type other than a release,
    any text / shifted / base-layout codes: the event matches its own `String()`. -/
theorem self_match_every_event (u : Uni) (hu : AsciiAgree u) (k : Key) (hb : bindableEvent k = true) :
    matchString u k (keyString u k) = true := by
  simp only [bindableEvent, Bool.and_eq_true, decide_eq_true_eq] at hb
  obtain ⟨⟨hreal, hev'⟩, hm⟩ := hb
  have hn := all_consts_named
  simp only [Bool.and_eq_true] at hn
  obtain ⟨hrange, halias⟩ := hn
  have alias : ∀ kc ∈ [KeyTab, KeyEnter, KeyEsc, KeySpace, KeyBackspace], k.keycode = kc → matchString u k (keyString u k) = true := by
    intro kc hkc heq
    obtain ⟨e, he, hek⟩ := named_of_any (List.all_eq_true.mp halias kc hkc)
    exact self_match_named u hu k e he (by rw [hek, heq]) hm hev'
  simp only [realKey, Bool.or_eq_true, Bool.and_eq_true, decide_eq_true_eq] at hreal
  rcases hreal with (((⟨h32, hv⟩ | h) | h) | h) | ⟨hlo, hhi⟩
  · by_cases hs : k.keycode = 32
    · exact alias KeySpace (by simp) hs
    · by_cases hd : k.keycode = 127
      · exact alias KeyBackspace (by simp) hd
      · exact self_match_char u hu k ⟨by omega, hd, hv⟩ hm hev'
  · exact alias KeyTab (by simp) h
  · exact alias KeyEnter (by simp) h
  · exact alias KeyEsc (by simp) h
  · have hi : (k.keycode - KeyUp).toNat < (KeyKeyPadBegin - KeyUp).toNat + 1 := by omega
    have := List.all_eq_true.mp hrange _ (List.mem_range.mpr hi)
    obtain ⟨e, he, hek⟩ := named_of_any this
    refine self_match_named u hu k e he ?_ hm hev'
    rw [hek]; simp only [Int.ofNat_eq_natCast]; omega

/-- Every pressed chord is a bindable event (so `self_match` is an instance). -/
theorem pressedChord_bindable (k : Key) (hp : pressedChord k = true) : bindableEvent k = true := by
  simp only [pressedChord, Bool.and_eq_true, Bool.or_eq_true, decide_eq_true_eq] at hp
  obtain ⟨⟨hreal, hev⟩, hm⟩ := hp
  have hev' : k.event ≠ EventRelease := by
    rcases hev with h | h <;> rw [h] <;> decide
  simp [bindableEvent, hreal, hev', hm]

/-- Whatever sequence `decodeKey` is given (legacy byte, C0, ESC, SS3, any CSI / kitty
    report with any parameters): if the decoded event is of a real key with an 8-bit mask and is not a release —
    press, REPEAT (`CSI … ;m:2 u`), or any other event value — it matches its own `String()`. -/
theorem self_match_decoded (u : Uni) (hu : AsciiAgree u) (s : Seq) (hb : bindableEvent (decodeKey u s) = true) :
    matchString u (decodeKey u s) (keyString u (decodeKey u s)) = true :=
  self_match_every_event u hu _ hb

/-- The events `handleSequence` posts for pasted text (`EventPaste` stamped on the decoded
    key) and for any other re-typed event type. -/
theorem self_match_pasted (u : Uni) (hu : AsciiAgree u) (s : Seq) (ev : Int) (hev : ev ≠ EventRelease)
    (hreal : realKey (decodeKey u s).keycode = true) (hm : (decodeKey u s).mods < 256) :
    matchString u { decodeKey u s with event := ev } (keyString u { decodeKey u s with event := ev }) = true :=
  self_match_every_event u hu _ (by simp [bindableEvent, hreal, hev, hm])

example : bindableEvent { keycode := 36, mods := metaBit, event := EventRepeat, text := [36] } = true ∧
    bindableEvent { keycode := 97, mods := ctrlBit, event := EventPaste } = true ∧
    bindableEvent { keycode := 97, mods := ctrlBit, event := EventRelease } = false := by decide

/-- The release case is really different (why it is excluded): `String()` omits the modifiers of a release. -/
example : matchString asciiUni { keycode := 97, mods := ctrlBit, event := EventRelease }
    (keyString asciiUni { keycode := 97, mods := ctrlBit, event := EventRelease }) = false := by decide +kernel

/-! The kitty keyboard protocol reports a key by "the Unicode codepoint of the key in lower-case form" (its
specification: "the codepoint used is always the lower-case (or more technically, un-shifted) version of the key").
So a code point `c` with `ToLower c ≠ c` is not a kitty key code at all: the 27 title-case letters ᾈ … ῼ (general
category Lt: `IsUpper` false, `ToLower` = ᾀ …), which `cross_protocol_char_plain` excludes through its hypothesis
`∀ r, isLower r → toUpper r ≠ r → toUpper r ≠ c`, are outside the cross-protocol clause for that reason — the chord
"the key ᾈ, unmodified" does not exist under the kitty encoding (a conforming terminal reports ᾀ + Shift).  With the
hypothesis stated as the protocol states it (`toLower c = c`) and the table law `UpperHasLower`, nothing else is left out. -/

/-- `cross_protocol_char_plain` with the ∀-hypothesis replaced by: `c` is a
    kitty key code (`toLower c = c`) and the `unicode` tables satisfy `UpperHasLower`. -/
theorem cross_protocol_char_plain_keycode (u : Uni) (hlaw : UpperHasLower u) (c : Int) (f : Form)
    (hv : validRune c = true) (hdel : c ≠ 127) (hup : u.isUpper c = false)
    (hfun : lookup2 (c, 117) functional = none)
    (hf : f.withShifted = false ∧ f.withBase = false)
    (hfffd : f.withText = false → c ≠ 0xFFFD)
    (hkey : u.toLower c = c) :
    let kL := decodeKey u (.print [c])
    let kK := decodeKey u (kittySeq c 117 { key := c, text := [c] } f)
    keyString u kL = keyString u kK ∧ ∀ b m, «matches» u kL b m = «matches» u kK b m :=
  VaxisModel.Props.C09Uni.cross_protocol_char_plain u c f hv hdel hup hfun hf hfffd
    (fun _ r hl hne heq => by have h := hlaw r hl hne; rw [heq] at h; exact h hkey)

/-- The witness of `Witness.F209` (ᾀ U+1F80 / ᾈ U+1F88 with Go's values) satisfies the law, and ᾈ is not its own
    lower case: it is excluded by `toLower c = c`, by nothing else. -/
example : VaxisModel.Witness.F209.greekUni.toLower 8072 ≠ 8072 ∧
    VaxisModel.Witness.F209.greekUni.toLower (VaxisModel.Witness.F209.greekUni.toUpper 8064) ≠
      VaxisModel.Witness.F209.greekUni.toUpper 8064 := by decide

end VaxisModel.Props.C09Sound
