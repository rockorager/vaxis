/-
C09 — (B) decoding of CSI key reports for EVERY parameter list over ℤ, and
(A) protocol independence for character keys of ANY script over an abstract `unicode` oracle.
-/
import VaxisModel.Props.C09

namespace VaxisModel.Props.C09Uni
open VaxisModel.Model.Key VaxisModel.Spec.KeyEnc VaxisModel.Spec.KeyEncUni VaxisModel.Gen.Keys
open VaxisModel.Lemmas.KeyMatch VaxisModel.Lemmas.KeyDecode VaxisModel.Lemmas.KeyCross VaxisModel.Lemmas.KeyUni
open VaxisModel.Props.C09 (decode_kitty_char_carries)

/-- Go's `rune(x)` as the model writes it (`(x + 2^31) mod 2^32 − 2^31`) is the Spec's `wrap32`
    (Euclidean remainder folded into [−2^31, 2^31)). -/
theorem rune_conversion_is_wrap32 (x : Int) : toRune x = wrap32 x := toRune_eq_wrap32 x

/-- For EVERY parameter list — any number of parameters, any number of
    sub-parameters (including none: the parser never produces an empty sub-list, C02
    `params_nonempty`, but nothing here depends on that), any integer values, any final — `decodeKey`
    returns exactly the key the closed form `Spec.KeyEncUni.csiDenotes` describes: key code =
    Shift+Tab / functional-key table / the number as a 32-bit rune; shifted and base-layout code as
    32-bit runes; mask = `max (mods − 1) 0`; event = `event − 1`; text = the code points (U+FFFD for
    invalid ones) or, for `CSI 27;m;code ~`, the key; parameters beyond the third and sub-parameters
    beyond the documented ones are ignored; then the Shift-text work-around.
    No index panic is possible: the Go code reads `pm[0]` only inside `for j, ps := range pm` (and
    under `len(pm) > 0`), and the closed form never consults a default for an absent field. -/
theorem decode_csi_total (u : Uni) (params : List (List Int)) (fin : Int) :
    decodeKey u (.csi params fin) = csiDenotes u params fin :=
  VaxisModel.Props.C09.decodeKey_csi u params fin

/-- The form asked for by the parser's guarantee (every sub-list non-empty) is an instance. -/
theorem decode_csi_total_parsed (u : Uni) (params : List (List Int)) (fin : Int)
    (_hne : ∀ pm ∈ params, pm ≠ []) : decodeKey u (.csi params fin) = csiDenotes u params fin :=
  decode_csi_total u params fin

example : (∀ pm ∈ [[97, 65], [2, 1], [65]], pm ≠ ([] : List Int)) := by decide
example : decodeKey asciiUni (.csi [[97, 65], [2, 1], [65]] 117) =
    { keycode := 97, shifted := 65, mods := 1, event := 0, text := [65] } := by decide
example : csiDenotes asciiUni [[4294967393]] 117 = { keycode := 97 } := by decide

/-- The `headD` default in the model of the modifier loop (`pm[0]` in Go) is never used: replacing it
    by any other value `d` gives the same result, for every sub-parameter list (even the empty one). -/
theorem csi_mods_default_unused (d : Int) (p1 : List Int) (key : Key) :
    csiModsD d p1 p1 0 key = csiMods p1 p1 0 key := csiMods_default_unused d p1 key

/-- On 31-bit non-negative parameters the closed form is the kitty/xterm report's key
    (`decode_exact_csi`'s value): the two specifications agree where both speak. -/
theorem decode_csi_in_range (u : Uni) (num fin : Int) (c : Chord) (f : Form)
    (hnum : inRune num) (hsh : inRune c.shifted) (hbase : inRune c.base)
    (htext : ∀ p ∈ c.text, inRune p ∧ validRune p = true)
    (hkey : lookup2 (num, fin) functional = some c.key ∨ (lookup2 (num, fin) functional = none ∧ c.key = num))
    (hZ : ¬(num = 1 ∧ fin = 90)) (hmok : ¬(c.key = 27 ∧ fin = 126)) :
    (match kittySeq num fin c f with
     | .csi params fin' => csiDenotes u params fin'
     | _ => {}) = kittyExpected u c f :=
  congrArg (shiftFix u) (csiFields_kitty num fin c f hnum hsh hbase htext hkey hZ hmok)

/-- `rune(x)` is 2^32-periodic … -/
theorem wrap32_congruence (x n : Int) : wrap32 (x + 4294967296 * n) = wrap32 x := wrap32_periodic x n

/-- … so the key-code field is read modulo 2^32: `CSI 4294967393 u` is the key `a` (97). -/
theorem decode_csi_mod_2_32 (u : Uni) (p n : Int) (sub : List Int) (rest : List (List Int)) (fin : Int) :
    decodeKey u (.csi (((p + 4294967296 * n) :: sub) :: rest) fin) = decodeKey u (.csi ((p :: sub) :: rest) fin) := by
  rw [decode_csi_total, decode_csi_total]
  simp only [csiDenotes, csiFields, csiFieldsNE, isShiftTab, csiKeyOf, isModifyOther, reduceCtorEq, if_false,
    List.getElem?_cons_zero, List.getElem?_cons_succ, Option.getD_some, wrap32_periodic]

example : decodeKey asciiUni (.csi [[4294967393]] 117) = decodeKey asciiUni (.csi [[97]] 117) :=
  decode_csi_mod_2_32 asciiUni 97 1 [] [] 117

/-- General congruence: `decodeKey` reads `CSI params final` only through `csiNormal params` — the
    first three parameters, with every key-code field (number, shifted, base) and every text code
    point reduced modulo 2^32; the modifier and event fields are read as integers.  Two parameter
    lists with the same normal form denote the same key. -/
theorem decode_csi_congruence (u : Uni) (params params' : List (List Int)) (fin : Int)
    (h : csiNormal params = csiNormal params') :
    decodeKey u (.csi params fin) = decodeKey u (.csi params' fin) := by
  rw [decode_csi_total, decode_csi_total, csiDenotes, csiDenotes, csiFields_normal params, csiFields_normal params', h]

example : decodeKey asciiUni (.csi [[97, 4294967361], [2], [8589934657], [7], [8, 9]] 117) =
    decodeKey asciiUni (.csi [[97, 65], [2], [65]] 117) :=
  decode_csi_congruence asciiUni _ _ 117 (by decide)

/-- A key-code parameter in [2^31, 2^32) is a NEGATIVE key code `p − 2^32` (never a functional
    key, never Shift+Tab, never the modifyOtherKeys form), and its `String()` is "invalid". -/
theorem decode_csi_high_half_invalid (u : Uni) (p : Int) (sub : List Int) (rest : List (List Int)) (fin : Int)
    (h0 : 2147483648 ≤ p) (h1 : p < 4294967296) :
    (decodeKey u (.csi ((p :: sub) :: rest) fin)).keycode = p - 4294967296 ∧
    keyString u (decodeKey u (.csi ((p :: sub) :: rest) fin)) = [105, 110, 118, 97, 108, 105, 100] := by
  have hw := wrap32_high p h0 h1
  have hneg : wrap32 p < 0 := by omega
  have hkc : (decodeKey u (.csi ((p :: sub) :: rest) fin)).keycode = p - 4294967296 := by
    rw [decode_csi_total, csiDenotes, shiftFix_keycode]
    have hk : csiKeyOf (p :: sub) fin = wrap32 p := by
      have hz : ¬(wrap32 p = 1 ∧ fin = 90) := by omega
      simp [csiKeyOf, isShiftTab, hz, lookup2_neg (wrap32 p) fin hneg functional functional_nonneg]
    have hm : isModifyOther (p :: sub) fin = false := by
      simp only [isModifyOther, hk, decide_eq_false_iff_not]; omega
    simp only [csiFields, csiFieldsNE, reduceCtorEq, if_false, List.getElem?_cons_zero, Option.getD_some, hk, hm,
      Bool.false_eq_true]
    split <;> exact hw
  exact ⟨hkc, VaxisModel.Lemmas.KeySelf.keyString_neg u _ (by rw [hkc]; omega)⟩

example : keyString asciiUni (decodeKey asciiUni (.csi [[4294967295]] 117)) = [105, 110, 118, 97, 108, 105, 100] := by decide

/-- The modifier parameter is `mask + 1`; the decoded mask is `max (m − 1) 0` — in particular a
    parameter ≤ 1 (0 = omitted field, negative values) gives the empty mask. -/
theorem decode_csi_mods_clamp (u : Uni) (p0 : List Int) (m : Int) (es : List Int) (rest : List (List Int)) (fin : Int) :
    (decodeKey u (.csi (p0 :: (m :: es) :: rest) fin)).mods = (m - 1).toNat ∧
    (m ≤ 1 → (decodeKey u (.csi (p0 :: (m :: es) :: rest) fin)).mods = 0) := by
  have h : (decodeKey u (.csi (p0 :: (m :: es) :: rest) fin)).mods = (m - 1).toNat := by
    rw [decode_csi_total, csiDenotes, shiftFix_mods]
    simp [csiFields, csiFieldsNE]
  exact ⟨h, fun hm => by rw [h]; omega⟩

example : (decodeKey asciiUni (.csi [[97], [-5]] 117)).mods = 0 := (decode_csi_mods_clamp asciiUni [97] (-5) [] [] 117).2 (by decide)

/-! `c` is the key (its un-shifted character), `C` the character Shift produces on it.  The `unicode`
functions are an arbitrary oracle `u`; every hypothesis on it is written out (and evaluated at run
time on Go's real tables by the `hyp` ops of the C09 harness). -/

/-- `sameForMatching_sound` for every `unicode` oracle: two events that agree on all fields, or differ
    only in that the first carries the (unmodified) key's own character as text and the second none —
    provided no lower-case rune upper-cases to that character — have the same `String()` and match the
    same bindings. -/
theorem cross_protocol_same_for_matching (u : Uni) (k1 k2 : Key)
    (hk : k1.keycode = k2.keycode) (hs : k1.shifted = k2.shifted) (hb : k1.base = k2.base)
    (hm : k1.mods = k2.mods) (he : k1.event = k2.event)
    (ht : k1.text = k2.text ∨ OwnCharText u k1 k2) :
    keyString u k1 = keyString u k2 ∧ ∀ b m, «matches» u k1 b m = «matches» u k2 b m :=
  sameForMatching_sound_uni u k1 k2 hk hs hb hm he ht

/-- The ASCII criterion used by `cross_protocol`'s table is an instance of the general one. -/
theorem cross_protocol_ascii_is_instance (k1 k2 : Key) (h : sameForMatching k1 k2 = true) :
    keyString asciiUni k1 = keyString asciiUni k2 ∧ ∀ b m, «matches» asciiUni k1 b m = «matches» asciiUni k2 b m :=
  sameForMatching_sound k1 k2 h

/-- The unmodified character key `c` of any script: the legacy report
    (the character itself, `Print [c]`) and every kitty report `CSI c [;1[:1][;c]] u` (bare / with the
    modifier field / with the event type / with or without the text) decode to events with the same
    `String()` that match exactly the same bindings, for all binding runes and masks.
    The last textless-form hypothesis speaks only of lower-case runes with an upper case of their own
    (rule 6 of `Matches` does not fire for a rune that is its own upper case — the repair of finding F209 in
    /repo —, so 'ß' and the other 830 such letters are covered); Go's tables violate it only for the 27 title-case
    letters ᾈ … ῼ, which are what Shift + ᾀ … produces, not keys. -/
theorem cross_protocol_char_plain (u : Uni) (c : Int) (f : Form)
    (hv : validRune c = true) (hdel : c ≠ 127) (hup : u.isUpper c = false)
    (hfun : lookup2 (c, 117) functional = none)
    (hf : f.withShifted = false ∧ f.withBase = false)
    (hfffd : f.withText = false → c ≠ 0xFFFD)
    (hnolow : f.withText = false → ∀ r, u.isLower r = true → u.toUpper r ≠ r → u.toUpper r ≠ c) :
    let kL := decodeKey u (.print [c])
    let kK := decodeKey u (kittySeq c 117 { key := c, text := [c] } f)
    keyString u kL = keyString u kK ∧ ∀ b m, «matches» u kL b m = «matches» u kK b m := by
  intro kL kK
  have hL : kL = { keycode := c, text := [c] } := print_lower u c [] hup hdel
  have hK : kK = { keycode := c, text := if f.withText then [c] else [] } := by
    show decodeKey u (kittySeq c 117 { key := c, text := [c] } f) = _
    rw [decode_kitty_char_carries u { key := c, text := [c] } f hv (Or.inl rfl) rfl (by simpa using hv) hfun (fun _ => rfl) (fun _ => rfl) rfl,
      shiftFix_id _ _ (Or.inr (show stripLocks 0 ≠ shiftBit by decide))]
  rw [hL, hK]
  apply sameForMatching_sound_uni <;> try rfl
  cases hwt : f.withText
  · right
    exact ⟨rfl, rfl, by simp, hv, hfffd hwt, hnolow hwt⟩
  · left; simp

example : validRune 233 = true ∧ latinUni.isUpper 233 = false ∧ lookup2 (233, 117) functional = none ∧
    (∀ r, latinUni.isLower r = true → latinUni.toUpper r ≠ r → latinUni.toUpper r ≠ 233) := by
  refine ⟨by decide, by decide, by decide +kernel, ?_⟩
  intro r hl _
  simp only [latinUni, asciiUni, Bool.or_eq_true, decide_eq_true_eq] at hl ⊢
  split
  · omega
  · split <;> omega

example : validRune 97 = true ∧ asciiUni.isUpper 97 = false ∧ lookup2 (97, 117) functional = none ∧
    (∀ r, asciiUni.isLower r = true → asciiUni.toUpper r ≠ r → asciiUni.toUpper r ≠ 97) := by
  refine ⟨by decide, by decide, by decide +kernel, ?_⟩
  intro r hl _
  simp only [asciiUni, decide_eq_true_eq] at hl ⊢
  split <;> omega

/-- Shift + the cased letter key `c` (`C` its upper case): legacy
    `Print [C]` and every kitty report `CSI c:C ; 2[:1] [; C] u` (the shifted code and the modifier field
    present; event type and text optional).  Without the text field the decoder's Shift-text
    work-around supplies it from the reported shifted code (the repair of finding F210 in /repo; the code before
    it invents `ToUpper c`, which is not `C` for i/İ, k/K, ß/ẞ): that needs `IsPrint c` and `IsPrint C`. -/
theorem cross_protocol_char_shift (u : Uni) (c C : Int) (f : Form)
    (hv : validRune c = true) (hV : validRune C = true) (hdel : c ≠ 127)
    (hup : u.isUpper C = true) (hlow : u.toLower C = c)
    (hfun : lookup2 (c, 117) functional = none)
    (hf : f.withShifted = true ∧ f.withBase = false ∧ f.hasMods = true)
    (hprint : f.withText = false → u.isPrint c = true)
    (hprintC : f.withText = false → u.isPrint C = true) :
    let kL := decodeKey u (.print [C])
    let kK := decodeKey u (kittySeq c 117 { key := c, mods := shiftBit, shifted := C, text := [C] } f)
    keyString u kL = keyString u kK ∧ ∀ b m, «matches» u kL b m = «matches» u kK b m := by
  intro kL kK
  have hL : kL = { keycode := c, shifted := C, mods := shiftBit, text := [C] } := print_upper u c C [] hup hlow hdel
  have hK : kK = { keycode := c, shifted := C, mods := shiftBit, text := [C] } := by
    show decodeKey u (kittySeq c 117 { key := c, mods := shiftBit, shifted := C, text := [C] } f) = _
    rw [decode_kitty_char_carries u { key := c, mods := shiftBit, shifted := C, text := [C] } f hv (Or.inr hV) rfl
        (by simpa using hV) hfun (by simp [hf.1]) (by simp [hf.2.2]) rfl]
    -- without the text field the Shift-text work-around supplies `C` from the reported shifted code
    cases hwt : f.withText
    · simp [shiftFix, hprint hwt, hprintC hwt, strOfRune, hV, show stripLocks shiftBit = shiftBit from by decide]
    · exact shiftFix_id _ _ (Or.inl (show (if true = true then [C] else []) ≠ [] by simp))
  rw [hL, hK]
  exact ⟨rfl, fun _ _ => rfl⟩

example : validRune 233 = true ∧ validRune 201 = true ∧ latinUni.isUpper 201 = true ∧ latinUni.toLower 201 = 233 ∧
    lookup2 (233, 117) functional = none ∧ latinUni.isPrint 233 = true ∧ latinUni.isPrint 201 = true := by
  refine ⟨by decide, by decide, by decide, by decide, by decide +kernel, by decide, by decide⟩

/-- Alt + the character key `c`: legacy `ESC c` and the kitty reports
    `CSI c ; 3[:1] u` decode to the same event. -/
theorem cross_protocol_char_alt (u : Uni) (c : Int) (f : Form)
    (hv : validRune c = true) (hup : u.isUpper c = false)
    (hfun : lookup2 (c, 117) functional = none)
    (hf : f.withShifted = false ∧ f.withBase = false ∧ f.hasMods = true ∧ f.withText = false) :
    let kL := decodeKey u (.esc c)
    let kK := decodeKey u (kittySeq c 117 { key := c, mods := altBit } f)
    keyString u kL = keyString u kK ∧ ∀ b m, «matches» u kL b m = «matches» u kK b m := by
  intro kL kK
  have hL : kL = { keycode := c, mods := altBit } := by
    show decodeKey u (.esc c) = _
    rw [VaxisModel.Props.C09.decode_exact_esc]
    simp [escExpected, hup]
  have hK : kK = { keycode := c, mods := altBit } := by
    show decodeKey u (kittySeq c 117 { key := c, mods := altBit } f) = _
    rw [decode_kitty_char_carries u { key := c, mods := altBit } f hv (Or.inl rfl) rfl (by simp) hfun (fun _ => rfl) (by simp [hf.2.2.1]) rfl,
      shiftFix_id _ _ (Or.inr (show stripLocks altBit ≠ shiftBit by decide)), hf.2.2.2]
    rfl
  rw [hL, hK]
  exact ⟨rfl, fun _ _ => rfl⟩

/-- Alt + Shift + the cased letter key `c`: legacy `ESC C` and the
    kitty reports `CSI c:C ; 4[:1] u` decode to the same event. -/
theorem cross_protocol_char_alt_shift (u : Uni) (c C : Int) (f : Form)
    (hv : validRune c = true) (hV : validRune C = true)
    (hup : u.isUpper C = true) (hlow : u.toLower C = c)
    (hfun : lookup2 (c, 117) functional = none)
    (hf : f.withShifted = true ∧ f.withBase = false ∧ f.hasMods = true ∧ f.withText = false) :
    let kL := decodeKey u (.esc C)
    let kK := decodeKey u (kittySeq c 117 { key := c, mods := altBit ||| shiftBit, shifted := C } f)
    keyString u kL = keyString u kK ∧ ∀ b m, «matches» u kL b m = «matches» u kK b m := by
  intro kL kK
  have hL : kL = { keycode := c, shifted := C, mods := altBit ||| shiftBit } := by
    show decodeKey u (.esc C) = _
    rw [VaxisModel.Props.C09.decode_exact_esc]
    simp [escExpected, hup, hlow]
  have hK : kK = { keycode := c, shifted := C, mods := altBit ||| shiftBit } := by
    show decodeKey u (kittySeq c 117 { key := c, mods := altBit ||| shiftBit, shifted := C } f) = _
    rw [decode_kitty_char_carries u { key := c, mods := altBit ||| shiftBit, shifted := C } f hv (Or.inr hV) rfl (by simp) hfun
        (by simp [hf.1]) (by simp [hf.2.2.1]) rfl,
      shiftFix_id _ _ (Or.inr (show stripLocks (altBit ||| shiftBit) ≠ shiftBit by decide)), hf.2.2.2]
    rfl
  rw [hL, hK]
  exact ⟨rfl, fun _ _ => rfl⟩

example : (({ withShifted := true, withMods := true, withEvent := true } : Form).hasMods = true) := by decide

/-- A grapheme cluster of several code points typed on the key `c`
    (compose / dead key / IME: `g = c :: rest`, `rest` any valid code points): the legacy report is the
    cluster itself (`Print g`), the kitty report carries it as associated text
    (`CSI c ; 1[:1] ; c:rest… u`).  Both decode to the SAME event (key `c`, text `g`), hence the same
    `String()` and the same bindings.  (Without the text field the kitty report cannot say which cluster
    was produced, so there is no textless counterpart.) -/
theorem cross_protocol_grapheme_plain (u : Uni) (c : Int) (rest : Str) (f : Form)
    (hv : validRune c = true) (hdel : c ≠ 127) (hup : u.isUpper c = false)
    (hrest : ∀ p ∈ rest, validRune p = true)
    (hfun : lookup2 (c, 117) functional = none)
    (hf : f.withShifted = false ∧ f.withBase = false ∧ f.withText = true) :
    decodeKey u (.print (c :: rest)) = decodeKey u (kittySeq c 117 { key := c, text := c :: rest } f) ∧
    decodeKey u (.print (c :: rest)) = { keycode := c, text := c :: rest } := by
  have hL := print_lower u c rest hup hdel
  have hK : decodeKey u (kittySeq c 117 { key := c, text := c :: rest } f) = { keycode := c, text := c :: rest } := by
    rw [decode_kitty_char_carries u { key := c, text := c :: rest } f hv (Or.inl rfl) rfl
        (fun p hp => (List.mem_cons.mp hp).elim (fun e => e ▸ hv) (hrest p)) hfun (fun _ => rfl) (fun _ => rfl) rfl, hf.2.2,
      shiftFix_id _ _ (Or.inl (show (if true = true then c :: rest else []) ≠ [] by simp))]
    rfl
  exact ⟨hL.trans hK.symm, hL⟩

/-- The same for a cluster whose first code point is an upper-case
    letter `C` (Shift + `c` followed by combining marks: `É` typed as E + U+0301): legacy `Print (C :: rest)`
    and kitty `CSI c:C ; 2[:1] ; C:rest… u` decode to the same event (key `c`, shifted `C`, Shift, text). -/
theorem cross_protocol_grapheme_shift (u : Uni) (c C : Int) (rest : Str) (f : Form)
    (hv : validRune c = true) (hV : validRune C = true) (hdel : c ≠ 127)
    (hup : u.isUpper C = true) (hlow : u.toLower C = c)
    (hrest : ∀ p ∈ rest, validRune p = true)
    (hfun : lookup2 (c, 117) functional = none)
    (hf : f.withShifted = true ∧ f.withBase = false ∧ f.hasMods = true ∧ f.withText = true) :
    decodeKey u (.print (C :: rest)) =
      decodeKey u (kittySeq c 117 { key := c, mods := shiftBit, shifted := C, text := C :: rest } f) ∧
    decodeKey u (.print (C :: rest)) = { keycode := c, shifted := C, mods := shiftBit, text := C :: rest } := by
  have hL := print_upper u c C rest hup hlow hdel
  have hK : decodeKey u (kittySeq c 117 { key := c, mods := shiftBit, shifted := C, text := C :: rest } f) =
      { keycode := c, shifted := C, mods := shiftBit, text := C :: rest } := by
    rw [decode_kitty_char_carries u { key := c, mods := shiftBit, shifted := C, text := C :: rest } f hv (Or.inr hV) rfl
        (fun p hp => (List.mem_cons.mp hp).elim (fun e => e ▸ hV) (hrest p)) hfun (by simp [hf.1]) (by simp [hf.2.2.1]) rfl, hf.2.2.2,
      shiftFix_id _ _ (Or.inl (show (if true = true then C :: rest else []) ≠ [] by simp))]
    rfl
  exact ⟨hL.trans hK.symm, hL⟩

example : validRune 101 = true ∧ asciiUni.isUpper 101 = false ∧ (∀ p ∈ [769], validRune p = true) ∧
    lookup2 (101, 117) functional = none := by
  refine ⟨by decide, by decide, by decide, by decide +kernel⟩

/-- The run-time form of `cross_protocol_char_plain`: when the Bool evaluator the driver runs on Go's
    values (`hyp plain` ops) finds no violated hypothesis, and the table lists every lower-case rune
    of `u` (the driver's `mkUni` answers `false` outside the table; the harness lists every
    lower-case pre-image of `c`), the conclusion holds for that `u`.  So every `xpu plain hyp-ok` case
    is an instance of the theorem. -/
theorem cross_protocol_char_plain_checked (u : Uni) (dom : List Int) (c : Int) (f : Form)
    (hf : f.withShifted = false ∧ f.withBase = false)
    (hdom : ∀ r, r ∉ dom → u.isLower r = false)
    (hok : violated (hypPlain u dom c f.withText) = []) :
    let kL := decodeKey u (.print [c])
    let kK := decodeKey u (kittySeq c 117 { key := c, text := [c] } f)
    keyString u kL = keyString u kK ∧ ∀ b m, «matches» u kL b m = «matches» u kK b m := by
  cases hwt : f.withText
  · rw [hwt] at hok
    simp [violated, hypPlain, noLowerMapsTo] at hok
    obtain ⟨hv, hdel, hup, hfun, hfffd, hno⟩ := hok
    refine cross_protocol_char_plain u c f hv hdel hup hfun hf (fun _ => hfffd) (fun _ r hl hne => ?_)
    by_cases hr : r ∈ dom
    · rcases hno r hr with (h | h) | h
      · rw [h] at hl; cases hl
      · exact absurd h hne
      · exact h
    · rw [hdom r hr] at hl; cases hl
  · rw [hwt] at hok
    simp [violated, hypPlain] at hok
    obtain ⟨hv, hdel, hup, hfun⟩ := hok
    exact cross_protocol_char_plain u c f hv hdel hup hfun hf (fun h => by rw [hwt] at h; cases h) (fun h => by rw [hwt] at h; cases h)

example : violated (hypPlain latinUni [97, 233, 201, 223] 233 false) = [] := by decide +kernel
example : violated (hypPlain latinUni [97, 233, 201, 223] 223 false) = [] := by decide +kernel
example : violated (hypPlain latinUni [97, 233, 201, 223] 201 false) = ["notUpper", "noLowerMapsTo"] := by decide +kernel

/-- Run-time form of `cross_protocol_char_shift` (`hyp shift` ops). -/
theorem cross_protocol_char_shift_checked (u : Uni) (c C : Int) (f : Form)
    (hf : f.withShifted = true ∧ f.withBase = false ∧ f.hasMods = true)
    (hok : violated (hypShift u c C f.withText) = []) :
    let kL := decodeKey u (.print [C])
    let kK := decodeKey u (kittySeq c 117 { key := c, mods := shiftBit, shifted := C, text := [C] } f)
    keyString u kL = keyString u kK ∧ ∀ b m, «matches» u kL b m = «matches» u kK b m := by
  cases hwt : f.withText
  · rw [hwt] at hok
    simp [violated, hypShift] at hok
    obtain ⟨⟨hv, hV⟩, hup, hlow, hdel, hfun, hpr, htu⟩ := hok
    exact cross_protocol_char_shift u c C f hv hV hdel hup hlow hfun hf (fun _ => hpr) (fun _ => htu)
  · rw [hwt] at hok
    simp [violated, hypShift] at hok
    obtain ⟨⟨hv, hV⟩, hup, hlow, hdel, hfun⟩ := hok
    exact cross_protocol_char_shift u c C f hv hV hdel hup hlow hfun hf (fun h => by rw [hwt] at h; cases h) (fun h => by rw [hwt] at h; cases h)

example : violated (hypShift latinUni 233 201 false) = [] := by decide +kernel

/-- Run-time form of `cross_protocol_char_alt` (`hyp alt` ops). -/
theorem cross_protocol_char_alt_checked (u : Uni) (c : Int) (f : Form)
    (hf : f.withShifted = false ∧ f.withBase = false ∧ f.hasMods = true ∧ f.withText = false)
    (hok : violated (hypAlt u c) = []) :
    let kL := decodeKey u (.esc c)
    let kK := decodeKey u (kittySeq c 117 { key := c, mods := altBit } f)
    keyString u kL = keyString u kK ∧ ∀ b m, «matches» u kL b m = «matches» u kK b m := by
  simp [violated, hypAlt] at hok
  obtain ⟨hv, hup, hfun⟩ := hok
  exact cross_protocol_char_alt u c f hv hup hfun hf

/-- Run-time form of `cross_protocol_char_alt_shift` (`hyp altshift` ops). -/
theorem cross_protocol_char_alt_shift_checked (u : Uni) (c C : Int) (f : Form)
    (hf : f.withShifted = true ∧ f.withBase = false ∧ f.hasMods = true ∧ f.withText = false)
    (hok : violated (hypAltShift u c C) = []) :
    let kL := decodeKey u (.esc C)
    let kK := decodeKey u (kittySeq c 117 { key := c, mods := altBit ||| shiftBit, shifted := C } f)
    keyString u kL = keyString u kK ∧ ∀ b m, «matches» u kL b m = «matches» u kK b m := by
  simp [violated, hypAltShift] at hok
  obtain ⟨⟨hv, hV⟩, hup, hlow, hfun⟩ := hok
  exact cross_protocol_char_alt_shift u c C f hv hV hup hlow hfun hf

example : violated (hypAlt latinUni 233) = [] ∧ violated (hypAltShift latinUni 233 201) = [] := by decide +kernel

end VaxisModel.Props.C09Uni
