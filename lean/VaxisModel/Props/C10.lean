import VaxisModel.Lemmas.Conc
import VaxisModel.Gen.Conc

/-!
# C10 — concurrent use: ordering, no lost blocking post, lock order (message level)

Data-race freedom itself is a property of the Go memory model and is outside any theorem here
(DESIGN §10); the `-race` runs of the harness are supporting evidence for the correspondence only.
Shutdown theorems and the witnesses of the recorded findings are in `Props/C10Shutdown.lean` and
`Witness/F13.lean`, `F33.lean`, `F53.lean`.
-/
namespace VaxisModel.Props.C10
open VaxisModel.Model.Conc VaxisModel.Lemmas.Conc

/-- Events posted by one goroutine are delivered in posting order: in every reachable state of the
queue LTS (any number of posters, any mix of blocking / non-blocking posts, any capacity, any
interleaving, any number of steps) the indices of goroutine `g`'s delivered events increase. -/
theorem fifo_per_poster (qcap : Nat) (s : QSys) (h : QReachable qcap s) (g : Nat) :
    ((s.delivered.filter (·.g == g)).map (·.i)).Pairwise (· < ·) :=
  reachable_delivered_increasing qcap s h g

/-- The same for what is still queued behind what was delivered (the channel is FIFO). -/
theorem fifo_queue (qcap : Nat) (s : QSys) (h : QReachable qcap s) (g : Nat) :
    (((s.delivered ++ s.queue).filter (·.g == g)).map (·.i)).Pairwise (· < ·) :=
  reachable_increasing qcap s h g

/-- A blocking post is never dropped while the session runs (until `Close` has completed and closed
`chQuit`): once `PostEventBlocking` has returned, the event is in the queue or has been delivered,
and nothing in `dropped` is a blocking post. -/
theorem blocking_post_never_dropped (qcap : Nat) (s : QSys) (h : QReachable qcap s) (hq : s.quit = false) :
    (∀ e ∈ s.posted, e.blocking = true → e ∈ s.delivered ++ s.queue) ∧ ∀ e ∈ s.dropped, e.blocking = false :=
  ⟨(qinv_reachable qcap s h).blocking hq, (qinv_reachable qcap s h).droppedNB hq⟩

/-- Contrapositive, for every reachable state: a blocking post that was dropped was dropped after
`Close` had completed (F53 repaired: `PostEventBlocking` gives up only on the closed `chQuit`). -/
theorem blocking_post_dropped_only_after_quit (qcap : Nat) (s : QSys) (h : QReachable qcap s)
    (e : Ev) (he : e ∈ s.dropped) (hb : e.blocking = true) : s.quit = true := by
  cases hq : s.quit with
  | true => rfl
  | false => have := (qinv_reachable qcap s h).droppedNB hq e he; simp [hb] at this

/-- … and it is delivered after at most `queue.length` further receives. -/
theorem blocking_post_delivered (qcap : Nat) (s : QSys) (h : QReachable qcap s) (hq : s.quit = false) :
    ∃ s', qrun qcap s (List.replicate s.queue.length .consume) = some s' ∧ s'.queue = [] ∧
      ∀ e ∈ s.posted, e.blocking = true → e ∈ s'.delivered := by
  have hb := (qinv_reachable qcap s h).blocking hq
  have key : ∀ (q : List Ev) (t : QSys), t.queue = q →
      ∃ t', qrun qcap t (List.replicate q.length .consume) = some t' ∧ t'.queue = [] ∧
        t'.delivered = t.delivered ++ q ∧ t'.posted = t.posted := by
    intro q
    induction q with
    | nil => intro t ht; exact ⟨t, rfl, ht, by simp, rfl⟩
    | cons e r ih =>
      intro t ht
      obtain ⟨t', h1, h2, h3, h4⟩ := ih { t with queue := r, delivered := t.delivered ++ [e] } rfl
      refine ⟨t', ?_, h2, ?_, h4⟩
      · simp [List.replicate, qrun, qnext, ht, h1]
      · simpa [List.append_assoc] using h3
  obtain ⟨s', h1, h2, h3, _⟩ := key s.queue s rfl
  exact ⟨s', h1, h2, fun e he hbl => by rw [h3]; exact hb e he hbl⟩

/-- Nothing is invented or duplicated: what the application has received plus what is queued is a
subsequence of what was posted. -/
theorem delivered_sublist_posted (qcap : Nat) (s : QSys) (h : QReachable qcap s) :
    (s.delivered ++ s.queue).Sublist s.posted :=
  (qinv_reachable qcap s h).sub

/-- Non-vacuity: two posters, capacity 1; poster 1's non-blocking post is dropped, poster 0's
blocking post waits for the receive and is delivered. -/
example :
    (match qrun 1 {} [.post 0 true, .post 1 false, .consume, .post 0 true, .consume] with
     | some s => s.delivered.map (fun e => (e.g, e.i)) == [(0, 0), (0, 1)] && s.dropped.map (fun e => (e.g, e.i)) == [(1, 0)]
     | none => false) = true := by decide

/-- `PostEvent` is the non-blocking `select … default`, `PostEventBlocking` a blocking send, and
neither hands the send to another goroutine (which would break the per-poster order). -/
theorem post_shapes :
    Gen.Conc.postKinds = [("PostEvent", ["nonblocking"]), ("PostEventBlocking", ["blocking"])] := rfl

/-- The "acquired while holding" relation of the extracted lock sites, evaluated once: the one nesting
there is, found at five places. -/
theorem lock_nesting :
    allNested Gen.Conc.lockSites = List.replicate 5 ("Vaxis.suspendMu", "writer.mut") := by decide +kernel

/-- Lock order: over every function of vaxis.go, vaxis_unix.go, writer.go, window.go, ansi/parser.go
and the spinner that locks a mutex directly or through calls (regenerated on every run:
events with their branch structure — a `return` ends its branch only —, callees qualified by the
receiver's type, calls followed four levels deep through every function that locks transitively),
the "acquired while holding" relation has no self-loop (Go mutexes are not re-entrant) and no pair
in both directions: `Vaxis.mu`, `Vaxis.closeMu`, `Vaxis.suspendMu`, `writer.mut`, `Parser.mu` and the
spinner's mutex are never held nested in opposite orders. (`Suspend` and `Resume` hold `suspendMu`
across the writer's flush: the one nesting there is, `suspendMu → writer.mut`.) -/
theorem lock_order :
    ∀ p ∈ allNested Gen.Conc.lockSites, p.1 ≠ p.2 ∧ (p.2, p.1) ∉ allNested Gen.Conc.lockSites := by
  rw [lock_nesting]
  decide

/-- The nesting that exists is found (the computation is not vacuous on the real table), and the
functions that run under `suspendMu` reach the writer's mutex only. -/
theorem lock_nesting_found :
    ("Vaxis.suspendMu", "writer.mut") ∈ allNested Gen.Conc.lockSites ∧
    ∀ p ∈ allNested Gen.Conc.lockSites, p.1 = "Vaxis.suspendMu" → p.2 = "writer.mut" := by
  rw [lock_nesting]
  decide

/-- A `return` inside a branch ends that branch only: the lock taken before the branch is still held
after it. -/
example : allNested [("t.f", ["L:A", "D:A", "{", "R", "}", "C:T.g"]), ("T.g", ["L:B", "U:B"]), ("U.g", ["L:C", "U:C"])]
    = [("A", "B")] := by decide +kernel

/-- Non-vacuity of the lock-order computation: an inversion is found when there is one. -/
example : allNested [("a.f", ["L:A", "C:g", "U:A"]), ("b.g", ["L:B", "D:B", "C:h"]), ("c.h", ["L:A", "U:A"])]
    = [("A", "B"), ("A", "A"), ("B", "A")] := by decide +kernel

/-- The input goroutine reads from the parser it was started for (a local), not from the field
`vx.parser`, which `Resume` replaces (F110 repaired): the goroutine of a suspended session cannot
attach itself to the resumed session's parser. -/
theorem input_loop_reads_its_own_parser : Gen.Conc.inputLoopParserRefs = ["parser", "parser"] := rfl

/-- The parser's channels have the capacities the shutdown LTS assumes. -/
theorem parser_channels :
    Gen.Conc.parserChans = [("close", "1"), ("closed", "1"), ("sequences", "2")] := rfl

end VaxisModel.Props.C10
