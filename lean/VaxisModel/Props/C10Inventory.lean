import VaxisModel.Gen.Conc
import VaxisModel.Model.ConcInventory

/-!
# C10 — the inventory of goroutines, timers, mutexes, lock sites and channels is complete

Everything here is a statement about `Gen/Conc.lean`, regenerated from the source on every run: a new
`go` statement, timer, mutex, Lock/Unlock call, channel, or a hand-off send that can block, breaks a
theorem of this file.
-/
namespace VaxisModel.Props.C10Inventory
open VaxisModel.Model.ConcInventory

/-- Every `go` statement of the root package, the parser and the spinner is one the models know. -/
theorem go_inventory_complete :
    Gen.Conc.goSites = [("image.go", "KittyImage.Resize", "func-literal"), ("image.go", "Sixel.Resize", "func-literal"),
      ("vaxis.go", "Vaxis.openTty", "func-literal"), ("ansi/parser.go", "NewParser", "parser.run"),
      ("widgets/spinner/spinner.go", "Model.start", "func-literal")] ∧
    (∀ g ∈ Gen.Conc.goSites, (modelledBy g).isSome = true) ∧
    Gen.Conc.goSitesOtherOS = [("vaxis_windows.go", "Vaxis.setupSignals", "vx.winch")] := ⟨rfl, by decide +kernel, rfl⟩

/-- Every timer is one the models know. -/
theorem timer_inventory_complete :
    Gen.Conc.timerSites = [("vaxis.go", "Vaxis.CursorPosition", "NewTimer"), ("vaxis_unix.go", "Vaxis.reportWinsize", "NewTimer"),
      ("ansi/parser.go", "anywhere", "AfterFunc"), ("widgets/spinner/spinner.go", "Model.start", "NewTicker")] ∧
    (∀ t ∈ Gen.Conc.timerSites, (timerModelledBy t).isSome = true) := ⟨rfl, by decide +kernel⟩

/-- Every Lock/Unlock call expression of the scanned files (found by a plain walk, function literals
included) is an event of `lockSites` — the table `lock_order` is proved over; every mutex field is
known; every file of the root package is scanned (other-OS files listed separately). -/
theorem lock_inventory_complete :
    Gen.Conc.lockCallCount = Gen.Conc.lockSitesCount ∧
    Gen.Conc.mutexFields = [("Vaxis", "closeMu"), ("Vaxis", "suspendMu"), ("Vaxis", "mu"), ("writer", "mut"), ("Parser", "mu"),
      ("Model", "mu")] ∧
    (∀ f ∈ Gen.Conc.rootFilesAll, f ∈ Gen.Conc.filesScanned ∨ f ∈ Gen.Conc.rootFilesOtherOS) ∧
    Gen.Conc.rootFilesOtherOS = ["vaxis_windows.go"] := ⟨rfl, rfl, by decide +kernel, rfl⟩

/-- The channels of Vaxis with their capacities; no hand-off send in `handleSequence` can block the
input goroutine for ever (non-blocking, or bounded by a 10 ms context for the clipboard); which
requesters wait without a time-out (`QueryColor`, `QueryForeground`, `QueryBackground`: bare receive). -/
theorem handoff_channels :
    Gen.Conc.chanMakes = [("queue", "Event", "opts.EventQueueSize"), ("chClipboard", "string", "0"), ("chSigWinSz", "os.Signal", "1"),
      ("chSigKill", "os.Signal", "1"), ("chCursorPos", "[2]int", "1"), ("chQuit", "bool", "0"), ("chSizeDone", "bool", "1"),
      ("chFg", "string", "1"), ("chBg", "string", "1"), ("chColor", "string", "1")] ∧
    Gen.Conc.handoffSends = [("handleSequence:chCursorPos", "nonblocking"), ("handleSequence:chSizeDone", "nonblocking"),
      ("handleSequence:chColor", "nonblocking"), ("handleSequence:chFg", "nonblocking"), ("handleSequence:chBg", "nonblocking"),
      ("handleSequence:chClipboard", "bounded")] ∧
    (∀ s ∈ Gen.Conc.handoffSends, s.2 = "nonblocking" ∨ s.2 = "bounded") ∧
    Gen.Conc.handoffRecvs = [("QueryColor", "chColor", "select-default"), ("QueryColor", "chColor", "bare"),
      ("QueryForeground", "chFg", "select-default"), ("QueryForeground", "chFg", "bare"),
      ("QueryBackground", "chBg", "select-default"), ("QueryBackground", "chBg", "bare"),
      ("openTty", "chSigWinSz", "select"), ("openTty", "chSigKill", "select"), ("CursorPosition", "chCursorPos", "select-default"),
      ("CursorPosition", "chCursorPos", "select-timeout"), ("ClipboardPop", "chClipboard", "select-ctx"),
      ("reportWinsize", "chSizeDone", "select-timeout")] := ⟨rfl, rfl, by decide +kernel, rfl⟩

/-- `SyncFunc` is a `PostEvent`; `Resize` is an atomic store followed by a `PostEvent`: both are the
label `post g false` of the queue LTS. -/
theorem syncfunc_resize_are_posts :
    Gen.Conc.calls_SyncFunc = ["vx.PostEvent"] ∧ Gen.Conc.calls_Resize = ["atomicStore", "vx.PostEvent"] := ⟨rfl, rfl⟩

end VaxisModel.Props.C10Inventory
