import VaxisModel.Model.ConcProtect
import VaxisModel.Lemmas.ConcProtect
import VaxisModel.Lemmas.StringKey

/-!
# C10 — the data-race clause as a statement about the locking discipline

"Without data races" is a property of the Go memory model; the `-race` runs of the harness are
supporting evidence only.  What is stated here — over facts regenerated from the source on every run
(`Gen.Conc.fieldAccesses`, `funcRoles`, see extract/cmd/C10/protect.go) — is which shared variable is
protected by which lock or by atomics, and that every other shared variable is on an explicit,
justified list.  A new unprotected access (a field written from a second goroutine, an access outside
the mutex, a plain access to an atomic field) changes a Gen fact and `protected_by` /
`shared_fields_protected` stop checking.
-/
namespace VaxisModel.Props.C10Protect
open VaxisModel.Model.ConcProtect VaxisModel.Gen.Conc

/-- The classification of every shared field, evaluated once over the regenerated facts; the theorems
below read their lists off it. -/
theorem classification :
    classify funcRoles fieldAccesses =
      [("Model.Frames", .none), ("Model.frame", .lock "spinner.Model.mu"), ("Parser.escGen", .lock "Parser.mu"),
       ("Parser.ignoreST", .lock "Parser.mu"), ("Parser.state", .lock "Parser.mu"), ("Vaxis.charCache", .none),
       ("Vaxis.closed", .lock "Vaxis.closeMu"), ("Vaxis.console", .none), ("Vaxis.cursorLast", .none),
       ("Vaxis.cursorNext", .none), ("Vaxis.elapsed", .none), ("Vaxis.nextSize", .lock "Vaxis.mu"),
       ("Vaxis.parser", .none), ("Vaxis.renders", .none), ("Vaxis.reqCursorPos", .atomic), ("Vaxis.resize", .atomic),
       ("Vaxis.suspended", .lock "Vaxis.suspendMu"), ("Vaxis.tw", .none), ("Vaxis.userCursorStyle", .none),
       ("Vaxis.winSize", .none), ("writer.buf", .none)] := by
  -- the names are compared through their keys (`Lemmas/StringKey`)
  unfold classify fieldsOf expand rolesOf shared conflict isWrite protectionOf commonLocks
  rw [Lemmas.ConcProtect.dedup_eq_foldr, Lemmas.StringKey.beq_eq_keyBEq]
  decide +kernel

/-- **Which shared variable is protected by which lock / by atomics**: exactly these fields are
accessed by two goroutines with a write among the accesses AND have all their accesses atomic or
under one common mutex (mutexes held at every call site of a function count as held inside it). -/
theorem protected_by :
    protectedFields funcRoles fieldAccesses =
      [("Model.frame", .lock "spinner.Model.mu"),
       ("Parser.escGen", .lock "Parser.mu"),
       ("Parser.ignoreST", .lock "Parser.mu"),
       ("Parser.state", .lock "Parser.mu"),
       ("Vaxis.closed", .lock "Vaxis.closeMu"),
       ("Vaxis.nextSize", .lock "Vaxis.mu"),
       ("Vaxis.reqCursorPos", .atomic),
       ("Vaxis.resize", .atomic),
       ("Vaxis.suspended", .lock "Vaxis.suspendMu")] := by
  rw [protectedFields, classification]
  decide

/-- The shared fields that are NOT under a common lock / atomic, each with the reason why the accesses
cannot overlap — or the finding that says they can. -/
def confinedBy : List (String × String) :=
  [("Model.Frames", "assigned in Model.start before its `go` statement (the default frames), read by the spinner goroutine afterwards: published by the go statement"),
   ("Vaxis.charCache", "F410: written by the main goroutine while it renders, `len` read by Close — which the kill-signal arm / panic handler run on another goroutine"),
   ("Vaxis.console", "assigned by openTty only (New; Resume under suspendMu); Suspend reads it under suspendMu; the queries of the any-goroutine API read it without a lock: API contract (no queries while suspended / resuming)"),
   ("Vaxis.cursorLast", "F410: written by Render (main goroutine) and by Suspend inside the Close that the kill-signal arm / panic handler run on another goroutine"),
   ("Vaxis.cursorNext", "F410: written by ShowCursor / HideCursor (main goroutine) and by exitAltScreen inside that Close; read by the writer on both"),
   ("Vaxis.elapsed", "F410: written by Render, read by Close's log line on another goroutine"),
   ("Vaxis.parser", "assigned by openTty only (New; Resume under suspendMu), read by Suspend under suspendMu; the input goroutine uses its own copy (F110 repaired)"),
   ("Vaxis.renders", "F410: written by Render, read by Close's log line on another goroutine"),
   ("Vaxis.tw", "assigned by openTty only (New; Resume under suspendMu); readers as for Vaxis.console"),
   ("Vaxis.userCursorStyle", "written by the input goroutine (under Vaxis.mu) on the DECRPSS reply, which only start-up solicits while New waits; read by Suspend (under suspendMu) after New has returned"),
   ("Vaxis.winSize", "written by Render on a size change; read by the image-resize goroutines (KittyImage.Resize / Sixel.Resize) through cellPixelSize: these goroutines are not among the actors of the property text — noted, not judged"),
   ("writer.buf", "F410: the writer's buffer has no lock (writer.mut covers only the write to the console): the main goroutine's Render and the Close run by the kill-signal arm / panic handler write it concurrently")]

/-- **Every shared field is protected, or on the justified list — and the list is exact**: the fields
that two goroutines can access with a write among the accesses and that are neither all-atomic nor
under one common mutex are exactly those of `confinedBy`.  A new unprotected shared access makes the
computed list differ. -/
theorem shared_fields_protected :
    unprotectedFields funcRoles fieldAccesses = confinedBy.map (·.1) ∧
    ∀ fp ∈ classify funcRoles fieldAccesses, fp.2 ≠ .none ∨ fp.1 ∈ confinedBy.map (·.1) := by
  have h : unprotectedFields funcRoles fieldAccesses = confinedBy.map (·.1) := by
    rw [unprotectedFields, classification]
    decide
  exact ⟨h, h ▸ Lemmas.ConcProtect.classified_protected_or_listed funcRoles fieldAccesses⟩

/-- The entry points the analysis treats as callable from any goroutine are those of the property text
("post events, queue functions for the main goroutine, request resizes and issue terminal queries"). -/
theorem any_goroutine_api :
    anyGoroutineAPI = ["Vaxis.PostEvent", "Vaxis.PostEventBlocking", "Vaxis.SyncFunc", "Vaxis.Resize",
      "Vaxis.CursorPosition", "Vaxis.QueryColor", "Vaxis.QueryForeground", "Vaxis.QueryBackground", "Vaxis.ClipboardPop"] := by
  decide

/-- The goroutines of the library are recognised as roots: the input goroutine, the parser, the escape
timer's callback, the spinner; every function with an access has at least one role. -/
theorem roles_complete :
    rolesOf funcRoles "Vaxis.openTty.func1" = ["input"] ∧ rolesOf funcRoles "Parser.run" = ["parser"] ∧
    rolesOf funcRoles "anywhere.func1" = ["timer"] ∧ rolesOf funcRoles "Model.start.func1" = ["spinner"] ∧
    rolesOf funcRoles "Vaxis.handleSequence" = ["input"] ∧
    (funcRoles.all fun fr => !fr.2.isEmpty) = true ∧
    (fieldAccesses.all fun a => (funcRoles.any fun fr => fr.1 == a.2.1)) = true := by
  rw [Lemmas.StringKey.beq_eq_keyBEq]
  decide +kernel

-- Non-vacuity of the classifier: an access outside the mutex, or a plain access to an atomic field, is seen.
example : classify [("f", ["main"]), ("g", ["input"])] [("S.x", "f", "w", "S.mu"), ("S.x", "g", "r", "")] = [("S.x", .none)] := by decide
example : classify [("f", ["main"]), ("g", ["input"])] [("S.x", "f", "w", "S.mu"), ("S.x", "g", "r", "S.mu+T.mu")] = [("S.x", .lock "S.mu")] := by decide
example : classify [("f", ["any"])] [("S.n", "f", "a", ""), ("S.n", "f", "r", "")] = [("S.n", .none)] := by decide
example : classify [("f", ["main"]), ("g", ["main"])] [("S.x", "f", "w", ""), ("S.x", "g", "r", "")] = [] := by decide

end VaxisModel.Props.C10Protect
