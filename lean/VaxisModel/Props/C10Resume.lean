import VaxisModel.Props.C10Shutdown
import VaxisModel.Model.ConcSession
import VaxisModel.Lemmas.ConcPersist

/-!
# C10 — the side condition of `Resume` as an explicit precondition; the kill signal that finds the input goroutine blocked

`session_invariant` allows `Close`, `Suspend`, kill signals and panics from any goroutine at any
moment; only `Resume` keeps a side condition.  It is the API contract ("Resume after your Suspend has
returned, and not after Close") and is not enforced by the code.  This file states it as a
precondition theorem, shows on the LTS what happens without it, and the harness shows the same on the
real code (op `contract`: `CRC` → `C:ret,done R C:ret,alive`; `SRRC`: a second parser on the same console).

Second part: a kill signal that arrives while the input goroutine is blocked in `PostEventBlocking`
(queue full, nobody receiving).  Decision: **outside the property text, not a finding** — the text
quantifies over the points "at which shutdown is triggered … by a kill signal"; the handler is the
kill arm of the input goroutine's `select`, so the shutdown is triggered when that goroutine is back
at its `select`, which it is as soon as the application receives one event (an application that never
receives again has stopped its own event loop; the signal stays queued in `chSigKill`, nothing is
half-done and the terminal is as the application left it).  The theorems say exactly that; harness op
`sigblocked` shows it on the real code with definite observations (stack dump: blocked in the post;
second delivery refused: still pending; after one receive: `chQuit` closed, nothing left).
-/
namespace VaxisModel.Props.C10Resume
open VaxisModel.Model.Conc VaxisModel.Lemmas.ConcInv

/-- The precondition of `Resume`: nobody is inside `Close` or `Suspend` (the application's `Suspend` has
returned), and `Close` has not been called. -/
structure ResumePre (s : SSys) : Prop where
  idle : idle s
  notClosed : s.closedFlag = false

/-- **Resume under its precondition keeps the protocol invariant** — so `shutdown_completes` applies to
everything that follows (the previous input goroutine may still be alive: it joins `olds`). -/
theorem resume_precondition (s s' : SSys) (h : Inv s) (hp : ResumePre s) (hn : snext s .resume = some s') : Inv s' :=
  inv_resume s s' h hn hp.idle hp.notClosed

/-- **`Resume` is a transition only when the parser of the previous session has stopped** (i.e. after a
`Suspend` has returned) and nobody holds `suspendMu`: a `Resume` without a `Suspend` in between is not
a behaviour of the protocol model at all (the real code then starts a second parser on the same
console: harness op `contract ops=SRRC`). -/
theorem resume_needs_stopped_parser (s : SSys) : (snext s .resume).isSome = (s.ppc == .done && !s.suspLock) := by
  simp only [snext]
  split <;> simp_all

/-- **Resume after Close (precondition violated)**: `Close` returns with everything done; the `Resume`
after it starts a new parser and a new input goroutine; the next `Close` returns at once (`vx.closed`
is set) and leaves them running — no later call stops them.  The real code does exactly this
(harness op `contract ops=CRC`, model = implementation). -/
theorem resume_after_close_leaves_goroutines :
    session .callerFirst 400 {} ['C', 'R', 'C'] = ["C:ret,done", "R", "C:ret,alive"] ∧
    session .libFirst 400 {} ['C', 'R', 'C'] = ["C:ret,done", "R", "C:ret,alive"] := by decide +kernel

/-- The state in which the input goroutine is blocked in a post: queue of capacity 1 full, nobody
receiving, one more blocking post to do, a kill signal delivered. -/
def blockedWithSignal : SSys := { qcap := 1, queueLen := 1, consumer := false, ipc := .posting 1, killSig := true }

/-- **The kill arm belongs to the `select`**: an input goroutine that is not at its `select` (handling a
sequence, blocked in a post) cannot take it, whatever the state. -/
theorem kill_arm_only_at_select (s : SSys) (v : IView) (h : v.ipc ≠ .select) : iact s v .kill = none := by
  cases hv : v.ipc with
  | select => exact absurd hv h
  | posting k => simp [iact, hv]
  | done => simp [iact, hv]

/-- **A kill signal that finds the input goroutine blocked waits for the consumer.**  The blocked state
is a state of rest (nothing the scheduler may pick is enabled) with the signal pending and nobody
inside `Close`; it satisfies the protocol invariant. -/
theorem kill_signal_waits_for_the_consumer :
    blockedWithSignal.quiescent = true ∧ blockedWithSignal.killSig = true ∧ blockedWithSignal.callers = [] ∧ Inv blockedWithSignal := by
  refine ⟨by decide, rfl, rfl, ?_⟩
  exact inv_running 1 1 false [] (.posting 1) [] true false [] (by omega)

/-- **… and is served as soon as the goroutine is back at its `select`**: no state of rest has a pending
kill signal and the input goroutine at its `select` (the kill arm is enabled there, whatever else is). -/
theorem pending_signal_at_select_is_served (s : SSys) (hk : s.killSig = true) (hi : s.ipc = .select) : s.quiescent = false := by
  cases hq : s.quiescent with
  | false => rfl
  | true =>
    simp only [SSys.quiescent, List.all_eq_true] at hq
    have := hq (.input .kill) (by simp [SSys.schedLabels, schedActs])
    simp [snext, iact, hi, hk] at this

/-- **Once it is served, the exit path completes on every schedule** (the statement of
`C04Exit.exit_path_completes` for the kill arm, from every invariant state): every maximal run ends
with that `Close` returned, the parser and every input goroutine done, `chQuit` closed exactly once. -/
theorem served_signal_completes (s s1 s' : SSys) (hinv : Inv s) (h1 : snext s (.input .kill) = some s1)
    (ls : List SLabel) (hl : ∀ l ∈ ls, l.sched = true) (hr : srun s1 ls = some s') (hrest : s'.quiescent = true) :
    s'.final = true ∧ s'.quitCloses = 1 := by
  have hinv1 : Inv s1 := inv_input s s1 .kill hinv h1
  obtain ⟨c, hc, hk⟩ := VaxisModel.Lemmas.ConcPersist.isClose_run ls s1 s' _
    (VaxisModel.Lemmas.ConcPersist.exit_adds_close s s1 .kill (Or.inl rfl) h1) hr
  exact C10Shutdown.close_called_completes s1 s' ls hinv1 hl hr hrest c (List.mem_of_getElem? hc) hk

/-- The whole story on one schedule, evaluated: blocked with the signal pending; the application receives;
the goroutine finishes its post, returns to its `select`, takes the kill arm; `Close` completes. -/
theorem blocked_signal_served_after_receive :
    (runToRest .libFirst 600 { blockedWithSignal with consumer := true }).final = true ∧
    (runToRest .libFirst 600 { blockedWithSignal with consumer := true }).quitCloses = 1 ∧
    (runToRest .callerFirst 600 { blockedWithSignal with consumer := true }).final = true ∧
    (runToRest .callerFirst 600 { blockedWithSignal with consumer := true }).quitCloses = 1 := by decide +kernel

end VaxisModel.Props.C10Resume
