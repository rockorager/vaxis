import VaxisModel.Lemmas.ConcProgress
import VaxisModel.Lemmas.ConcFlag
import VaxisModel.Model.ConcSession
import VaxisModel.Witness.F53
import VaxisModel.Witness.F13
import VaxisModel.Witness.F210
import VaxisModel.Gen.Conc

/-!
# C10 — shutdown completes, for every schedule

Over the shutdown LTS of `Model/Conc.lean` (parser goroutine, input goroutines of the current and of
earlier sessions, callers of `Close` and of `Suspend`, `Resume`, the terminal, the application); real
time is abstracted.  A variant that every label a scheduler may pick lowers in every state (no
fairness assumption), and an invariant that every label keeps and that forces completion at rest; the
invariant has no hypothesis about the event queue, the consumer, kill signals or the goroutine `Close`
runs on (the regions of F53 and F13).  The facts of the source it assumes are theorems about
`Gen/Conc.lean`, each with a run of the LTS that shows what goes wrong without it.
-/
namespace VaxisModel.Props.C10Shutdown
open VaxisModel.Model.Conc VaxisModel.Lemmas.ConcShutdown VaxisModel.Lemmas.ConcMeasure VaxisModel.Lemmas.ConcInv
  VaxisModel.Lemmas.ConcFlag

/-- **Variant.** Every label a scheduler may pick — a step of the parser goroutine, of an input
goroutine (any arm of its `select`, either arm of a blocking post), of any caller of
`Close`/`Suspend` (either arm of `WaitClose`), the terminal's reply to a written DA1 query, the
application receiving an event — strictly lowers `mu`, in every state. -/
theorem variant_decreases (s s' : SSys) (l : SLabel) (hl : l.sched = true) (h : snext s l = some s') : mu s' < mu s :=
  mu_decreases s s' l hl h

/-- Hence every run of scheduler labels from `s` has at most `mu s` steps: without new events from
the environment the system always comes to rest. No bound on capacities, pending input or callers. -/
theorem sched_runs_bounded (s s' : SSys) (ls : List SLabel) (hl : ∀ l ∈ ls, l.sched = true) (h : srun s ls = some s') :
    ls.length + mu s' ≤ mu s :=
  sched_run_bounded ls s s' hl h

/-- With terminal input arriving at any moments: the number of scheduler steps of a run is at most
the variant of its start plus the cost of the input that arrived during it — however the arrivals are
interleaved, finitely much input gives only finite runs ("every interleaving with incoming input"). -/
theorem runs_bounded_with_input (s s' : SSys) (ls : List SLabel)
    (hl : ∀ l ∈ ls, l.sched = true ∨ ∃ u, l = .termInput u) (h : srun s ls = some s') :
    schedCount ls + mu s' ≤ mu s + inputCost ls :=
  run_bounded_with_input ls s s' hl h

/-- … and rest is reachable: some schedule of at most `mu s` steps leads to a state of rest. -/
theorem rest_reachable (s : SSys) :
    ∃ ls s', (∀ l ∈ ls, l.sched = true) ∧ srun s ls = some s' ∧ s'.quiescent = true :=
  exists_rest (mu s + 1) s (Nat.lt_succ_self _)

/-- A state that is not at rest has an enabled scheduler label. -/
theorem not_at_rest_enabled (s : SSys) (h : s.quiescent = false) : ∃ l s', l.sched = true ∧ snext s l = some s' :=
  enabled_of_not_quiescent s h

/-- **Shutdown completes, all runs.** From a state satisfying the invariant, every run of scheduler
labels (every interleaving, of any length) stays inside the invariant and is bounded by the
variant; whenever it reaches a state of rest — as every maximal run does —
* all callers of `Close` and `Suspend` have returned (whatever the queue holds, whoever consumes,
  whichever goroutine the call runs on);
* if the session is suspended the parser goroutine is done, and the input goroutine is done or
  `postBlocked`: inside a blocking post with the queue full, the application not receiving and `Close`
  not completed — the application's next receive releases it; likewise the input goroutines of earlier
  sessions;
* if the session is closed, `chQuit` has been closed exactly once, the session is suspended and
  every input goroutine is done. -/
theorem shutdown_completes (s s' : SSys) (ls : List SLabel) (hinv : Inv s) (hl : ∀ l ∈ ls, l.sched = true)
    (h : srun s ls = some s') :
    Inv s' ∧ ls.length + mu s' ≤ mu s ∧
    (s'.quiescent = true →
      sumBy fUnret s'.callers = 0 ∧
      (s'.suspendedFlag = true → s'.ppc = .done ∧ (s'.ipc = .done ∨ postBlocked s' s'.ipc)) ∧
      (∀ o ∈ s'.olds, o.ipc = .done ∨ postBlocked s' o.ipc) ∧
      (s'.closedFlag = true → s'.quitCloses = 1 ∧ s'.suspendedFlag = true ∧ s'.ipc = .done ∧ ∀ o ∈ s'.olds, o.ipc = .done)) := by
  have hinv' := inv_sched_run ls s s' hl hinv h
  exact ⟨hinv', sched_run_bounded ls s s' hl h, fun hq => rest_is_done s' hinv' (atRest_of_quiescent hq)⟩

/-- `Suspend` with an application that receives (or a queue with room): at rest nothing of the
library is left — the parser goroutine and every input goroutine are done. -/
theorem suspend_leaves_nothing (s s' : SSys) (ls : List SLabel) (hinv : Inv s) (hl : ∀ l ∈ ls, l.sched = true)
    (h : srun s ls = some s') (hrest : s'.quiescent = true) (hs : s'.suspendedFlag = true)
    (hc : s'.consumer = true ∨ s'.queueLen < s'.qcap) :
    s'.ppc = .done ∧ s'.ipc = .done ∧ ∀ o ∈ s'.olds, o.ipc = .done := by
  obtain ⟨_, _, hdone⟩ := shutdown_completes s s' ls hinv hl h
  obtain ⟨_, h2, h3, _⟩ := hdone hrest
  have nb : ∀ i, ¬ postBlocked s' i := by
    intro i ⟨k, _, h4, h5, _⟩
    rcases hc with hc | hc
    · simp [hc] at h4
    · omega
  obtain ⟨hp, hi⟩ := h2 hs
  exact ⟨hp, hi.resolve_right (nb _), fun o ho => (h3 o ho).resolve_right (nb _)⟩

/-- In the vocabulary of `SSys.final`: after `Close` was called, every maximal run ends in a final
state — `Close` returned for every caller, parser goroutine done, every input goroutine done — with
`chQuit` closed once. No hypothesis on the queue or on the consumer. -/
theorem close_completes (s s' : SSys) (ls : List SLabel) (hinv : Inv s) (hl : ∀ l ∈ ls, l.sched = true)
    (h : srun s ls = some s') (hrest : s'.quiescent = true) (hclosed : s'.closedFlag = true) :
    s'.final = true ∧ s'.quitCloses = 1 := by
  obtain ⟨_, _, hdone⟩ := shutdown_completes s s' ls hinv hl h
  obtain ⟨h1, h2, _, h4⟩ := hdone hrest
  obtain ⟨hq, hs, hi, ho⟩ := h4 hclosed
  obtain ⟨hp, _⟩ := h2 hs
  refine ⟨?_, hq⟩
  simp only [SSys.final, Bool.and_eq_true, beq_iff_eq, List.all_eq_true]
  exact ⟨⟨⟨hp, hi⟩, ho⟩, fun c hc => fUnret_eq_zero.mp (sumBy_zero_all fUnret s'.callers h1 c hc)⟩

/-- A caller of `Close` that is past the flag forces the flag: with `close_completes`, from any
invariant state in which some goroutine has entered `Close`, every maximal run ends final. -/
theorem close_called_completes (s s' : SSys) (ls : List SLabel) (hinv : Inv s) (hl : ∀ l ∈ ls, l.sched = true)
    (h : srun s ls = some s') (hrest : s'.quiescent = true) (c : Caller) (hc : c ∈ s'.callers) (hk : c.inClose = true) :
    s'.final = true ∧ s'.quitCloses = 1 := by
  obtain ⟨hinv', _, hdone⟩ := shutdown_completes s s' ls hinv hl h
  obtain ⟨h1, _, _⟩ := hdone hrest
  have hret := fUnret_eq_zero.mp (sumBy_zero_all fUnret s'.callers h1 c hc)
  have hpast : fPastFlag c = 1 := by
    obtain ⟨pc, k⟩ := c
    cases hret; cases hk; rfl
  have hge := sumBy_pos_of_mem fPastFlag s'.callers c hc
  have hflag := hinv'.pastFlag (by omega)
  have : s'.closedFlag = true := by cases hf : s'.closedFlag <;> simp [hf] at hflag ⊢
  exact close_completes s s' ls hinv hl h hrest this

/-- Non-vacuity of the invariant, in F53's and F13's regions at once: capacity 2 and the queue full,
nobody consuming, input pending, the input goroutine in the middle of a post, a kill signal and a
SIGWINCH pending, an input goroutine of an earlier session still alive. -/
example : Inv { qcap := 2, queueLen := 2, consumer := false, inbuf := [some 1, none], ppc := .reading, ipc := .posting 1,
                seqs := [.seq 1, .seq 1], killSig := true, winchSig := true, olds := [⟨.posting 2, [.seq 1, .eof]⟩] } :=
  inv_running 2 2 false [some 1, none] (.posting 1) [.seq 1, .seq 1] true true [⟨.posting 2, [.seq 1, .eof]⟩] (by decide)

/-- The histories of a session: scheduler labels at any time; terminal input, SIGWINCH and kill
signals at any time; `Close` and `Suspend` from any goroutine at any time (F210 repaired: `Suspend`
and `Resume` are serialised by `vx.suspendMu`), a panic of an input goroutine at any time; `Resume`
by the application after its `Suspend` has returned: nobody inside `Close`/`Suspend`, the session not
closed — the previous input goroutine may still be alive.  That side condition of `Resume` is the
only assumption on the environment. -/
inductive SessionReach (s0 : SSys) : SSys → Prop
  | init : SessionReach s0 s0
  | sched {s s'} (l : SLabel) : SessionReach s0 s → l.sched = true → snext s l = some s' → SessionReach s0 s'
  | input {s s'} (u : Option Nat) : SessionReach s0 s → snext s (.termInput u) = some s' → SessionReach s0 s'
  | winch {s s'} : SessionReach s0 s → snext s .winch = some s' → SessionReach s0 s'
  | signal {s s'} : SessionReach s0 s → snext s .signal = some s' → SessionReach s0 s'
  | panic {s s'} : SessionReach s0 s → snext s (.input .panic) = some s' → SessionReach s0 s'
  | panicOld {s s'} (j : Nat) : SessionReach s0 s → snext s (.old j .panic) = some s' → SessionReach s0 s'
  | close {s s'} : SessionReach s0 s → snext s .callClose = some s' → SessionReach s0 s'
  | suspend {s s'} : SessionReach s0 s → snext s .callSuspend = some s' → SessionReach s0 s'
  | resume {s s'} : SessionReach s0 s → snext s .resume = some s' → idle s → s.closedFlag = false → SessionReach s0 s'

/-- **Any number of cycles, any concurrency.** The invariant holds in every state of every history
of a session that starts in an invariant state (e.g. a running session, `inv_running`): so
`shutdown_completes` applies after any number of Suspend/Resume cycles, any input, signals, panics,
and `Close` / `Suspend` calls from any goroutines at any moments — every `Suspend` and every `Close`
returns under every schedule. -/
theorem session_invariant (s0 s : SSys) (h0 : Inv s0) (h : SessionReach s0 s) : Inv s := by
  induction h with
  | init => exact h0
  | sched l _ hl hn ih => exact inv_sched _ _ l hl ih hn
  | input u _ hn ih => exact inv_termInput _ _ u ih hn
  | winch _ hn ih => exact inv_winch _ _ ih hn
  | signal _ hn ih => exact inv_signal _ _ ih hn
  | panic _ hn ih => exact inv_input _ _ _ ih hn
  | panicOld j _ hn ih => exact inv_old _ _ j _ ih hn
  | close _ hn ih => exact inv_callClose _ _ ih hn
  | suspend _ hn ih => exact inv_callSuspend _ _ ih hn
  | resume _ hn hi ho ih => exact inv_resume _ _ ih hn hi ho

/-- Non-vacuity: two Suspend/Resume cycles and a Close, each run to rest by the scheduler that lets
the library run ahead of the caller; every call returns with the goroutines done. -/
example : session .libFirst 200 { inbuf := [some 1, some 1] } ['S', 'R', 'S', 'R', 'C'] =
    ["S:ret,done", "R", "S:ret,done", "R", "C:ret,done"] := by decide +kernel

/-- A `Resume` while the previous input goroutine is still blocked in a post (queue full, nobody
receiving): it joins `olds`; the next `Suspend` returns, the following `Close` returns and ends all
of them. -/
example : session .callerFirst 300 { qcap := 1, queueLen := 1, consumer := false, inbuf := [some 1, some 1, some 1] }
      ['S', 'R', 'S', 'C'] = ["S:ret,alive", "R", "S:ret,alive", "C:ret,done"] := by decide +kernel

/-- In every state reachable — by any labels whatsoever: any number of concurrent `Close` callers,
`Close` on an input goroutine's signal arm or panic path, Suspend/Resume at any time — from a state
in which nobody has called `Close` yet, `close(vx.chQuit)` has run at most once. -/
theorem quit_closed_once (s0 s : SSys) (h1 : s0.callers = []) (h2 : s0.closedFlag = false) (h3 : s0.quitCloses = 0)
    (h : SReachable s0 s) : s.quitCloses ≤ 1 ∧ s.panicked = false := by
  have hf := (flagInv_reachable s0 s (flagInv_init s0 h1 h2 h3) h).flag
  have hb := b2n_le s.closedFlag
  have : s.quitCloses ≤ 1 := by omega
  refine ⟨this, ?_⟩
  simp only [SSys.panicked, decide_eq_false_iff_not]
  omega

/-- The schedules of the two recorded findings still lead to the states that used to be stuck
(`Witness/F13`, `Witness/F53`); both states satisfy the invariant, so by `shutdown_completes` EVERY
maximal run from them ends with `Close` returned and nothing left. -/
theorem former_stuck_states_complete :
    (match srun Witness.F13.s0 Witness.F13.witness with | some s => decide (Inv s) | none => false) = true ∧
    (match srun Witness.F53.s0 Witness.F53.witness with | some s => decide (Inv s) | none => false) = true := by
  constructor <;> decide +kernel

/-- `Close` tests and sets `vx.closed` under `closeMu`, posts the quit event, defers
`close(chQuit)`, runs `Suspend`, closes the console; `Suspend`: under `suspendMu` the `suspended` guard, close
signal, DA1 query, wait; `Resume`: under `suspendMu` `openTty`, then `vx.suspended = false`. (Locals, logging and terminal
restoration are not part of the skeleton.) -/
theorem close_shape :
    Gen.Conc.skeleton_Close = ["vx.closeMu.Lock", "if:vx.closed", "vx.closeMu.Unlock", "set:vx.closed=true",
      "vx.closeMu.Unlock", "vx.PostEvent", "defer:close(vx.chQuit)", "vx.Suspend", "vx.console.Close"] ∧
    Gen.Conc.skeleton_Suspend = ["vx.suspendMu.Lock", "defer:vx.suspendMu.Unlock()", "if:vx.suspended", "set:vx.suspended=true",
      "vx.parser.Close", "io.WriteString", "vx.parser.WaitClose"] ∧
    Gen.Conc.skeleton_Resume = ["vx.suspendMu.Lock", "defer:vx.suspendMu.Unlock()", "vx.openTty", "set:vx.suspended=false"] := ⟨rfl, rfl, rfl⟩

/-- `Suspend` and `Resume` run under `vx.suspendMu` from their first statement to their return (F210
repaired): the `suspLock` of the LTS. -/
theorem suspend_serialised :
    suspendLockedOf Gen.Conc.skeleton_Suspend = true ∧ suspendLockedOf Gen.Conc.skeleton_Resume = true := by decide +kernel

/-- The hypothesis `Inv.order` is a fact of the source: `Suspend` signals the parser before it writes
the DA1 query that wakes the reader. -/
theorem suspend_order : da1FirstOf Gen.Conc.skeleton_Suspend = false := by decide +kernel
/-- … and so is `Inv.clears`: `Resume` clears `vx.suspended`. -/
theorem resume_clears : resumeClearsOf Gen.Conc.skeleton_Resume = true := by decide +kernel
/-- `Close` guards itself with an atomic test-and-set: the single step `checkFlag` of the LTS. -/
theorem close_guarded : closeGuardedOf Gen.Conc.skeleton_Close = true := by decide +kernel

/-- The order matters: with the DA1 query written before the close signal, the schedule in which the
reply is consumed before the signal is sent (slow tty / descheduled caller) ends with the parser
blocked in `ReadRune` and `Suspend` waiting for ever. -/
theorem order_matters :
    session .libFirst 200 { da1First := true } ['S'] = ["S:hang,alive"] ∧
    session .libFirst 200 { da1First := false } ['S'] = ["S:ret,done"] := by decide +kernel

/-- `Resume` must clear `vx.suspended`: otherwise the next `Suspend` (or `Close`) takes the
"already suspended" shortcut and returns while the goroutines started by `Resume` stay alive. -/
theorem resume_must_clear :
    session .libFirst 200 { resumeClears := false } ['S', 'R', 'S'] = ["S:ret,done", "R", "S:ret,alive"] ∧
    session .libFirst 200 { resumeClears := false } ['S', 'R', 'C'] = ["S:ret,done", "R", "C:ret,alive"] ∧
    session .libFirst 200 {} ['S', 'R', 'C'] = ["S:ret,done", "R", "C:ret,done"] := by decide +kernel

/-- `Parser.WaitClose` is the loop that takes `closed` and returns, or discards a sequence (label
`drain`); `Parser.Close` sends the close signal; `emit` is the bare send the LTS blocks on; after its
loop `run` emits `EOF`, closes the channel and sends `closed` — the steps `emitEOF`, `signalClosed`
of the LTS. -/
theorem waitclose_drains :
    waitDrainsOf Gen.Conc.shape_Parser_WaitClose = true ∧
    Gen.Conc.shape_Parser_Close = ["p.close <- true"] ∧
    Gen.Conc.shape_Parser_emit = ["p.sequences <- seq"] ∧
    Gen.Conc.shape_Parser_runTail.reverse.take 3 = ["p.closed <- true", "close(p.sequences)", "p.emit(EOF{})"] := ⟨by decide +kernel, rfl, rfl, rfl⟩

/-- The input goroutine: its parser arm returns when the channel is closed (`!ok`); the arms of its
`select` are the parser, SIGWINCH (label `winch`) and the kill signal (label `kill`); it starts with
the deferred `recover → Close → panic` (label `panic`). -/
theorem input_loop_leaves_on_closed_channel :
    leavesOnClosedOf Gen.Conc.shape_inputLoop = true ∧
    selectArmsOf Gen.Conc.shape_inputLoop = ["case seq, ok := <-parser.Next():", "case <-vx.chSigWinSz:", "case <-vx.chSigKill:"] ∧
    Gen.Conc.shape_inputLoop.take 6 = ["defer func {", "if err := recover(); err != nil {", "vx.Close()", "panic(err)", "}", "}"] ∧
    (Gen.Conc.shape_inputLoop.dropWhile (· != "case <-vx.chSigKill:")).take 3 = ["case <-vx.chSigKill:", "vx.Close()", "return"] ∧
    (Gen.Conc.shape_inputLoop.dropWhile (· != "case <-vx.chSigWinSz:")).take 3 =
      ["case <-vx.chSigWinSz:", "atomicStore(&vx.resize, true)", "vx.PostEventBlocking(Redraw{})"] := by decide +kernel

/-- `PostEventBlocking` is a `select` over the send and `<-vx.chQuit` (label `quit`), without a
`default`; `PostEvent` is the `select` with `default`. -/
theorem blocking_post_selects_quit :
    postQuitArmOf Gen.Conc.shape_PostEventBlocking = true ∧ postNonBlockingOf Gen.Conc.shape_PostEvent = true := by decide +kernel

/-- **The repairs matter** (the LTS follows the source facts: `waitDrains`, `postQuitArm`).  With
`WaitClose` as the bare `<-p.closed` of before the F13 repair, the old witness schedule ends in a
state of rest in which `Close` — running on the input goroutine — has not returned: the recorded
finding, as a theorem about the unrepaired protocol.  With the repair the same schedule is not at rest
there (`Witness.F13.reaches_old_stuck_state`) and every continuation completes. -/
theorem drain_matters :
    (match srun { Witness.F13.s0 with waitDrains := false } Witness.F13.witness with
     | some s => let t := runToRest .libFirst 50 s      -- (what is left: the application's receives)
                 t.quiescent && !(allReturned t) && t.callers == [{ pc := .waitClosed }] && t.ppc == .emitEOF
     | none => false) = true := by decide +kernel

/-- With `PostEventBlocking` as the bare send of before the F53 repair (but `WaitClose` draining),
F53's schedule lets `Close` return and then rests with the input goroutine still blocked in its post:
the goroutine that outlived `Close`. -/
theorem quit_arm_matters :
    (match srun { Witness.F53.s0 with postQuitArm := false } Witness.F53.witness with
     | some s => let t := runToRest .libFirst 100 s
                 t.quiescent && allReturned t && t.quitCloses == 1 && t.ipc == .posting 1 && !t.final
     | none => false) = true := by decide +kernel

/-- Non-vacuity of the observers: the shapes before the repairs are rejected. -/
example : waitDrainsOf ["<-p.closed"] = false ∧
    leavesOnClosedOf ["for {", "select {", "case seq := <-parser.Next():", "switch seq := seq.(type) {"] = false ∧
    postQuitArmOf ["vx.queue <- ev"] = false := by decide +kernel

end VaxisModel.Props.C10Shutdown
