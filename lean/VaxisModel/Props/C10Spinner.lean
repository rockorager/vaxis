import VaxisModel.Model.ConcSpinner
import VaxisModel.Lemmas.Conc
import VaxisModel.Gen.Conc
import VaxisModel.Lemmas.Run

/-!
# C10 — the spinner's loop (component `SpSys`)

The spinner's goroutines post `Redraw` through `PostEvent` and so are posters of the queue LTS; what
is their own — one live context, ticks that never block, termination after `Stop` — is stated here.

Not a theorem, by construction of the code: nothing in `Close` stops a spinner; its goroutine ends
only through `Stop` (the widget's own life cycle).
-/
namespace VaxisModel.Props.C10Spinner
open VaxisModel.Model.Conc VaxisModel.Lemmas.Conc

def b2n (b : Bool) : Nat := if b then 1 else 0

/-- At most one spinner goroutine has a live context, exactly when `spinning`. -/
theorem spinner_one_live (qcap : Nat) (s : SpSys) (h : SpReachable qcap s) : s.live = b2n s.spinning := by
  induction h with
  | init => rfl
  | step l _ hn ih =>
    -- only `start` and `stop` touch `spinning` and `live`
    cases l <;> simp only [spnext] at hn <;> (repeat' split at hn) <;> cases hn <;>
      first | exact ih | (simp_all [b2n] <;> omega)

theorem post_nonblocking_enabled (qcap : Nat) (q : QSys) (g : Nat) : (qnext qcap q (.post g false)).isSome = true := by
  simp only [qnext]
  split
  · rfl
  · simp

/-- **A tick is never blocked**: whenever a spinner goroutine has a tick to take it can take it —
`PostEvent` never waits, so `Model.mu` (held around it) is never held across a blocking operation. -/
theorem spinner_tick_never_blocks (qcap : Nat) (s : SpSys) :
    (s.live > 0 ∧ s.tick = true → (spnext qcap s .liveTick).isSome = true) ∧
    (s.dying > 0 ∧ s.dyingTicks > 0 → (spnext qcap s .dyingTick).isSome = true) := by
  have := post_nonblocking_enabled qcap s.q spinnerG
  constructor <;> intro ⟨h1, h2⟩ <;> simp only [spnext, h1, h2, decide_true, Bool.and_self, if_true] <;>
    cases hq : qnext qcap s.q (.post spinnerG false) <;> simp [hq] at this ⊢

/-- variant of the spinner's own goroutines -/
def spmu (s : SpSys) : Nat := 2 * s.dying + s.dyingTicks + b2n s.tick

def sprun (qcap : Nat) : SpSys → List SpLabel → Option SpSys
  | s, [] => some s
  | s, l :: ls => match spnext qcap s l with
    | some s' => sprun qcap s' ls
    | none => none

theorem own_step (qcap : Nat) (s s' : SpSys) (l : SpLabel) (hl : l.own = true) (h : spnext qcap s l = some s') :
    spmu s' < spmu s ∧ s'.live = s.live ∧ s'.spinning = s.spinning := by
  cases l <;> simp [SpLabel.own] at hl <;> simp only [spnext] at h
  · split at h
    · rename_i hc
      split at h <;> simp at h
      subst h
      simp at hc
      simp [spmu, b2n, hc.2]
    · simp at h
  · split at h
    · rename_i hc
      split at h <;> simp at h
      subst h
      simp at hc
      simp [spmu]; omega
    · simp at h
  · split at h <;> simp at h
    rename_i hc
    subst h
    simp [spmu]; omega

/-- **The spinner stops.** From a state in which no context is live (after `Stop`), every run of the
spinner goroutines' own steps has at most `spmu s` steps, keeps `live = 0`, and when none of their
steps is enabled any more no spinner goroutine is left. -/
theorem spinner_stops (qcap : Nat) : ∀ (ls : List SpLabel) (s s' : SpSys), s.live = 0 → (∀ l ∈ ls, l.own = true) →
    sprun qcap s ls = some s' →
    ls.length + spmu s' ≤ spmu s ∧ s'.live = 0 ∧ ((spnext qcap s' .dyingExit).isNone = true → s'.dying = 0) := by
  intro ls s s' h0 hl h
  have hr : Lemmas.Run.IsRun (spnext qcap) (sprun qcap) :=
    ⟨fun _ => rfl, fun s l ls => by simp only [sprun]; cases spnext qcap s l <;> rfl⟩
  refine ⟨hr.variant (fun s s' l hl hn => (own_step qcap s s' l hl hn).1) ls s s' hl h,
    hr.invariant (fun s s' l hl h0 hn => (own_step qcap s s' l hl hn).2.1.trans h0) ls s s' hl h0 h, fun hx => ?_⟩
  -- `dyingExit` is enabled exactly when a dying goroutine is left
  simp only [spnext] at hx
  by_cases hd : s'.dying > 0
  · simp [hd] at hx
  · omega

/-- Every step of the spinner component is a step of the queue LTS or leaves the queue alone: the
spinner's `Redraw` posts are `post spinnerG false` of `QSys`. -/
theorem spinner_projects (qcap : Nat) (s s' : SpSys) (l : SpLabel) (h : spnext qcap s l = some s') :
    s'.q = s.q ∨ ∃ ql, qnext qcap s.q ql = some s'.q := by
  cases l <;> simp only [spnext] at h <;> (repeat' split at h) <;> cases h <;>
    first | exact Or.inl rfl | exact Or.inr ⟨_, ‹_›⟩

theorem spinner_queue_reachable (qcap : Nat) (s : SpSys) (h : SpReachable qcap s) : QReachable qcap s.q := by
  induction h with
  | init => exact .init
  | step l _ hn ih =>
    rcases spinner_projects qcap _ _ l hn with h | ⟨ql, h⟩
    · rw [h]; exact ih
    · exact .step ql ih h

/-- The spinner's posts are delivered in order like everybody else's (corollary of the queue LTS). -/
theorem spinner_fifo (qcap : Nat) (s : SpSys) (h : SpReachable qcap s) (g : Nat) :
    ((s.q.delivered.filter (·.g == g)).map (·.i)).Pairwise (· < ·) :=
  reachable_delivered_increasing qcap s.q (spinner_queue_reachable qcap s h) g

/-- The loop in the source: a `select` over `ctx.Done()` (stop the ticker, return) and `ticker.C`
(lock, advance the frame, `PostEvent`, unlock), after the deferred `recover → Close → panic`. -/
theorem spinner_loop_shape :
    Gen.Conc.shape_spinnerLoop = ["defer func {", "if err := recover(); err != nil {", "m.vx.Close()", "panic(err)", "}", "}",
      "for {", "select {", "case <-ctx.Done():", "ticker.Stop()", "return", "case <-ticker.C:", "m.mu.Lock()",
      "m.frame = (m.frame + 1) % len(m.Frames)", "m.vx.PostEvent(vaxis.Redraw{})", "m.mu.Unlock()", "}", "}"] := rfl

/-- Non-vacuity: Start, two ticks, Stop with a tick pending, Start again before the old goroutine has
looked at its context: two goroutines for a moment; the old one takes its last tick and exits. -/
example :
    (match sprun 8 {} [.start, .fire, .liveTick, .fire, .stop, .start, .fire, .dyingTick, .liveTick, .dyingExit] with
     | some s => s.live == 1 && s.dying == 0 && s.spinning && s.q.posted.length == 3 && s.frame == 3
     | none => false) = true := by decide

end VaxisModel.Props.C10Spinner
