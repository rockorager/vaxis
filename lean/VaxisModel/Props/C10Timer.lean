import VaxisModel.Lemmas.ConcTimer
import VaxisModel.Gen.Conc

/-!
# C10 — "Close and Suspend return under every interleaving with incoming input and pending timers"

The escape timer (`time.AfterFunc(10 ms)` armed by the parser on ESC; its callback takes `p.mu`, checks
the generation, emits the lone ESC while holding the mutex) is a component of the shutdown LTS
(`Model/ConcTimer.TSys` = `SSys` × timer slot; any number of lone ESCs from the terminal).  The
theorems of `Props/C10Shutdown` carry over: a variant, the protocol invariant, and — at rest — every
caller returned, the parser done, no timer pending.  Plus the timer's own safety: the callback never
sends on the closed channel (which would panic).
-/
namespace VaxisModel.Props.C10Timer
open VaxisModel.Model.Conc VaxisModel.Model.ConcTimer VaxisModel.Lemmas.ConcTimer VaxisModel.Lemmas.ConcInv
open VaxisModel.Lemmas.ConcMeasure

/-- **No schedule runs for ever, with timers**: `muT` (the variant of `SSys`, plus 9 per lone ESC still
to come, plus the pending timer) strictly decreases on every label a scheduler may pick — parser,
input goroutines, callers of `Close` / `Suspend`, drains, terminal reply, consume, AND arming the
timer, its callback getting the mutex, its emit — in every state. -/
theorem variant_decreases_with_timer (t t' : TSys) (l : TLabel) (hl : l.sched = true) (h : tnext t l = some t') :
    muT t' < muT t := muT_decreases t t' l hl h

/-- **Close and Suspend return under every interleaving with incoming input and pending timers.**
From every state that satisfies the protocol invariant and the timer's invariant — whatever the queue
holds, whoever consumes, whatever input and however many lone ESCs are pending or still to come, a
timer armed or its callback at its emit — every run of scheduler labels stays in both invariants and
is bounded by `muT`; at rest (hence at the end of every maximal run): all callers of `Close` /
`Suspend` have returned; if suspended the parser is done, no timer is pending and the input goroutine
is done or blocked in a post the application has not received; once closed `chQuit` is closed exactly
once and every input goroutine is done. -/
theorem shutdown_completes_with_timer (t t' : TSys) (ls : List TLabel) (hinv : Inv t.s) (ht : TInv t)
    (hl : ∀ l ∈ ls, l.sched = true) (h : trun t ls = some t') :
    Inv t'.s ∧ TInv t' ∧ ls.length + muT t' ≤ muT t ∧
    (t'.quiescent = true →
      sumBy fUnret t'.s.callers = 0 ∧
      (t'.s.suspendedFlag = true → t'.s.ppc = .done ∧ t'.timer = .idle ∧ (t'.s.ipc = .done ∨ postBlocked t'.s t'.s.ipc)) ∧
      (∀ o ∈ t'.s.olds, o.ipc = .done ∨ postBlocked t'.s o.ipc) ∧
      (t'.s.closedFlag = true → t'.s.quitCloses = 1 ∧ t'.s.suspendedFlag = true ∧ t'.s.ipc = .done ∧ ∀ o ∈ t'.s.olds, o.ipc = .done)) := by
  obtain ⟨h1, h2⟩ := tinv_trun ls t t' hl ht hinv h
  exact ⟨h2, h1, trun_bounded ls t t' hl h, fun hq => rest_with_timer t' h2 h1 hq⟩

/-- **The callback never sends on the closed channel** (a send on a closed channel panics): in every
state both invariants allow, a callback at its emit finds `p.sequences` open — `run`'s tail takes
`p.mu` and bumps the generation BEFORE `emit(EOF)` / `close(p.sequences)`, so a callback either runs
before the tail (and the tail waits for the mutex) or sees a stale generation. -/
theorem timer_never_emits_into_closed_channel (t : TSys) (hinv : Inv t.s) (ht : TInv t) (he : t.timer = .emitting) :
    t.s.seqsClosed = false := emit_only_into_open_channel t ht hinv he

/-- The source facts this rests on: `run`'s tail stops the timer, then takes `p.mu` and bumps `escGen`,
and only then emits EOF and closes the channel (regenerated skeleton). -/
theorem run_tail_bumps_before_close :
    Gen.Conc.shape_Parser_runTail =
      ["if p.escTimeout != nil {", "p.escTimeout.Stop()", "}", "p.mu.Lock()", "p.escGen++", "p.mu.Unlock()", "p.emit(EOF{})",
       "close(p.sequences)", "p.closed <- true"] := rfl

/-- A running session with a timer armed (not stale) and lone ESCs still to come satisfies both invariants. -/
theorem running_with_timer (q n e : Nat) (c : Bool) (ib : List (Option Nat)) (i : IPc) (sq : List Tok) (hq : 1 ≤ q) :
    let t : TSys := { s := { qcap := q, queueLen := n, consumer := c, inbuf := ib, ppc := .reading, ipc := i, seqs := sq },
                      timer := .armed, stale := false, escs := e }
    Inv t.s ∧ TInv t := by
  intro t
  exact ⟨inv_running q n c ib i sq false false [] hq, ⟨fun he => (by cases he), fun _ _ => rfl⟩⟩

-- Non-vacuity: Suspend with a timer pending.  The callback gets the mutex before the parser has seen the close
-- signal and is at its emit: the parser's next rune step needs the mutex and is blocked; after the emit the
-- parser goes on, the input goroutine takes the lone ESC and the EOF, Suspend returns, no timer is left.
example :
    trun { s := { callers := [{ pc := .checkSuspended, inClose := false }] }, escs := 1 }
      [.arm, .sys (.caller 0), .sys (.caller 0), .sys (.caller 0), .fire, .sys .parser] = none ∧
    (trun { s := { callers := [{ pc := .checkSuspended, inClose := false }] }, escs := 1 }
      [.arm, .sys (.caller 0), .sys (.caller 0), .sys (.caller 0), .fire, .temit, .sys .termReply, .sys .parser, .sys .parser,
       .sys .parser, .sys .parser, .sys (.input .recv), .sys (.input .step), .sys (.input .step), .sys (.input .recv),
       .sys (.caller 0)]).map (fun t => (t.timer, t.s.ppc, t.s.callers.map (·.pc))) =
      some (.idle, .done, [.returned]) := by decide

end VaxisModel.Props.C10Timer
