import VaxisModel.Model.ConcUse
import VaxisModel.Lemmas.Conc
import VaxisModel.Gen.Conc

/-!
# C10 — concurrent use without lost events or deadlock, over one LTS with all actors

Over `USys` (`Model/ConcUse.lean`): any number of posters (PostEvent / PostEventBlocking / SyncFunc /
Resize), any number of goroutines issuing terminal queries whose replies arrive early, late or
never, the input goroutine, the application.
-/
namespace VaxisModel.Props.C10Use
open VaxisModel.Model.Conc VaxisModel.Lemmas.Conc

theorem use_step_projects (qcap : Nat) (s s' : USys) (l : ULabel) (h : unext qcap s l = some s') :
    s'.q = s.q ∨ ∃ ql, ql.running = true ∧ qnext qcap s.q ql = some s'.q := by
  cases l <;> simp only [unext] at h <;> (repeat' split at h) <;> cases h <;>
    first | exact Or.inl rfl | exact Or.inr ⟨_, rfl, ‹_›⟩

/-- The queue component of every reachable state of the combined system is a reachable state of
the queue LTS. -/
theorem use_projects (qcap : Nat) (s : USys) (h : UReachable qcap s) : QReachable qcap s.q := by
  induction h with
  | init => exact .init
  | step l _ hn ih =>
    rcases use_step_projects qcap _ _ l hn with h | ⟨ql, _, h⟩
    · rw [h]; exact ih
    · exact .step ql ih h

theorem qnext_keeps_quit (qcap : Nat) (q q' : QSys) (ql : QLabel) (hl : ql.running = true) (hq : qnext qcap q ql = some q') :
    q'.quit = q.quit := by
  cases ql with
  | quit | giveUp g => cases hl
  | _ => simp only [qnext] at hq; (repeat' split at hq) <;> cases hq <;> rfl

/-- The combined system describes the running session: `Close` has not completed (`chQuit` is open)
in any of its reachable states. -/
theorem use_not_quit (qcap : Nat) (s : USys) (h : UReachable qcap s) : s.q.quit = false := by
  induction h with
  | init => rfl
  | step l _ hn ih =>
    rcases use_step_projects qcap _ _ l hn with h | ⟨ql, hl, h⟩
    · rw [h]; exact ih
    · rw [qnext_keeps_quit qcap _ _ ql hl h]; exact ih

/-- **Per-poster order with all actors present.** Events posted by one goroutine (an application
poster, or the input goroutine `g = 0`) are delivered in posting order, whatever the other posters,
the queries and their replies do. -/
theorem fifo_per_poster_all_actors (qcap : Nat) (s : USys) (h : UReachable qcap s) (g : Nat) :
    ((s.q.delivered.filter (·.g == g)).map (·.i)).Pairwise (· < ·) :=
  reachable_delivered_increasing qcap s.q (use_projects qcap s h) g

/-- **No lost event.** A completed blocking post (every post of the input goroutine, every
`PostEventBlocking`) is queued or delivered; nothing is invented or duplicated. -/
theorem no_lost_event_all_actors (qcap : Nat) (s : USys) (h : UReachable qcap s) :
    (∀ e ∈ s.q.posted, e.blocking = true → e ∈ s.q.delivered ++ s.q.queue) ∧
    (s.q.delivered ++ s.q.queue).Sublist s.q.posted :=
  let inv := qinv_reachable qcap s.q (use_projects qcap s h)
  ⟨inv.blocking (use_not_quit qcap s h), inv.sub⟩

/-- A non-blocking post (`PostEvent`, `SyncFunc`, `Resize`) is dropped only when the queue is full
at that moment. -/
theorem dropped_only_when_full (qcap : Nat) (s s' : USys) (g : Nat) (h : unext qcap s (.post g false) = some s')
    (hd : s'.q.dropped ≠ s.q.dropped) : qcap ≤ s.q.queue.length := by
  simp only [unext] at h
  split at h
  · simp at h
  · split at h
    · rename_i q' hq
      simp at h; subst h
      simp only [qnext] at hq
      split at hq
      · simp at hq; subst hq; simp at hd
      · omega
    · simp at h

/-- **The input goroutine is never blocked by a hand-off.** Whenever it is between two sequences it
can take the next one, whether it is a reply to a query or not, whether or not a requester is waiting
and whatever is in the hand-off channels: replies may arrive early, late, unsolicited, repeated, or
never. -/
theorem input_never_blocked_by_handoff (qcap : Nat) (s : USys) (c : Option HCh) (k : Nat) (h : s.pending = 0) :
    (unext qcap s (.deliver c k)).isSome = true := by
  simp only [unext, h]
  cases c with
  | none => simp
  | some c =>
    simp only [ne_eq, not_true_eq_false, ↓reduceIte]
    split
    · split <;> simp
    · split <;> simp

/-- The hand-off channels never hold more than their capacity. -/
theorem handoff_within_capacity (qcap : Nat) (s : USys) (h : UReachable qcap s) (c : HCh) : s.occ c ≤ c.cap := by
  induction h with
  | init => simp
  | step l _ hn ih =>
    -- most steps leave the hand-off channels alone; a reply handed over, a receive and a stale reply
    -- dropped update the occupancy of one channel
    cases l <;> simp only [unext] at hn <;> (repeat' split at hn) <;> cases hn <;> try exact ih
    all_goals
      simp only [upd]
      split
      · subst_vars; omega
      · exact ih

/-- **No deadlock while the application receives.** Whatever a reachable state looks like, a
blocking post (of an application goroutine or of the input goroutine) is enabled, or the queue is
non-empty and the application can receive — after which the post is enabled. With `qcap ≥ 1`
(`New` replaces a capacity below 1 by 1024). -/
theorem no_deadlock_use (qcap : Nat) (hq : 1 ≤ qcap) (s : USys) (g : Nat) (hg : g ≠ 0) :
    ((unext qcap s (.post g true)).isSome = true ∨ (unext qcap s .consume).isSome = true) ∧
    (s.pending ≠ 0 → (unext qcap s .inputPost).isSome = true ∨ (unext qcap s .consume).isSome = true) ∧
    (∀ s', unext qcap s .consume = some s' → s.q.queue.length = qcap →
      (unext qcap s' (.post g true)).isSome = true ∧ (s'.pending ≠ 0 → (unext qcap s' .inputPost).isSome = true)) := by
  -- a full queue is not empty: the application can receive
  have hcons : ¬ s.q.queue.length < qcap → (unext qcap s .consume).isSome = true := by
    intro hlt
    cases hqq : s.q.queue with
    | nil => simp [hqq] at hlt; omega
    | cons e r => simp [unext, qnext, hqq]
  refine ⟨?_, ?_, ?_⟩
  · by_cases hlt : s.q.queue.length < qcap
    · left; simp [unext, hg, qnext, hlt]
    · exact .inr (hcons hlt)
  · intro hp
    by_cases hlt : s.q.queue.length < qcap
    · left; simp [unext, hp, qnext, hlt]
    · exact .inr (hcons hlt)
  · intro s' hc hfull
    simp only [unext] at hc
    split at hc
    · rename_i q' hq'
      simp at hc; subst hc
      simp only [qnext] at hq'
      split at hq'
      · simp at hq'
      · rename_i e r heq
        simp at hq'; subst hq'
        have : r.length < qcap := by rw [heq] at hfull; simp at hfull; omega
        refine ⟨by simp [unext, hg, qnext, this], fun hp => by simp [unext, hp, qnext, this]⟩
    · simp at hc

/-- A requester with a time-out or a context can always stop waiting; the colour queries
(`QueryColor`, `QueryForeground`, `QueryBackground`) cannot — if the terminal never answers they
wait for ever (their documentation says so; the library's own goroutines are not affected). -/
theorem requesters_with_timeout_can_give_up (qcap : Nat) (s : USys) (c : HCh) (hw : s.waiting c > 0) :
    (unext qcap s (.giveUp c)).isSome = c.canGiveUp := by
  cases hc : c.canGiveUp <;> simp [unext, hc, hw]

/-- The capacities and the non-blocking shape of the hand-offs are those of the source. -/
theorem handoff_facts :
    (Gen.Conc.chanMakes.filter fun x => x.1 ∈ ["chCursorPos", "chClipboard", "chSizeDone", "chColor", "chFg", "chBg"]).map (fun x => (x.1, x.2.2)) =
      [("chClipboard", toString HCh.clipboard.cap), ("chCursorPos", toString HCh.cursorPos.cap), ("chSizeDone", toString HCh.sizeDone.cap),
       ("chFg", toString HCh.fg.cap), ("chBg", toString HCh.bg.cap), ("chColor", toString HCh.color.cap)] ∧
    (∀ s ∈ Gen.Conc.handoffSends, s.2 = "nonblocking" ∨ s.2 = "bounded") ∧
    (Gen.Conc.handoffRecvs.filter fun x => x.2.2 = "bare").map (·.2.1) = ["chColor", "chFg", "chBg"] := by decide +kernel

/-- Non-vacuity: a reply arrives before anybody asked (buffered); a second one finds the buffer full
and is dropped without blocking the input goroutine; a requester then takes the first; the events
of both sequences are posted. -/
example :
    (match (unext 4 {} (.deliver (some .color) 1)).bind (fun s => (unext 4 s .inputPost).bind fun s =>
        (unext 4 s (.deliver (some .color) 1)).bind fun s => (unext 4 s .inputPost).bind fun s =>
        (unext 4 s (.request .color)).bind fun s => unext 4 s (.recv .color)) with
     | some s => s.occ .color == 0 && s.waiting .color == 0 && s.q.queue.length == 2 && s.droppedReplies == 1
     | none => false) = true := by decide

end VaxisModel.Props.C10Use
