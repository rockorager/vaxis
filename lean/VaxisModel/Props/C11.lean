/-
C11 — windows clip: drawing never escapes a window or its ancestors; the text helpers place
clusters in reading order.  Theorems over `Model.Window` (window.go / screen.go / character.go)
for ALL integer geometries (negative, zero, oversized offsets and sizes), all parent chains, all
screens, all texts and all library functions (`Lib`).
-/
import VaxisModel.Lemmas.Window
import VaxisModel.Lemmas.WindowText
import VaxisModel.Lemmas.WindowSkelPinned

namespace VaxisModel.Props.C11
open VaxisModel.Model.Window VaxisModel.Spec.Window VaxisModel.Lemmas.Window

/-- `covers` really is "the rectangle of the window and of every ancestor": it holds iff the point
lies in the own (absolute) rectangle of every window of the parent chain. -/
theorem covers_iff_chain (win : Win) (x y : Int) :
    covers win x y ↔ ∀ a ∈ chain win, inOwnRect a x y := by
  induction win with
  | root c r w h => simp [covers, chain]
  | child c r w h p ih => simp [covers, chain, ih]

/-- If `SetCell(c,r)` changes screen cell `(x,y)` then `(x,y)` is the window's
absolute origin plus `(c,r)`, lies in the rectangle of the window and of every ancestor, and in the
screen.  (Contrapositive: every other cell is unchanged.)  Any geometry, any chain. -/
theorem setCell_clip (win : Win) (s : Screen) (c r : Int) (cell : Cell) (x y : Int)
    (h : (win.setCell s c r cell).get x y ≠ s.get x y) :
    x = (win.origin).1 + c ∧ y = (win.origin).2 + r ∧ covers win x y ∧ inScreen s x y :=
  put_clip win s c r (.cell cell) x y h

/-- The same for `SetStyle`. -/
theorem setStyle_clip (win : Win) (s : Screen) (c r : Int) (st : Nat) (x y : Int)
    (h : (win.setStyle s c r st).get x y ≠ s.get x y) :
    x = (win.origin).1 + c ∧ y = (win.origin).2 + r ∧ covers win x y ∧ inScreen s x y :=
  put_clip win s c r (.style st) x y h

/-- An accepted cell lands at origin + offset with exactly the given content. -/
theorem setCell_lands (win : Win) (s : Screen) (c r : Int) (cell : Cell)
    (hv : visible win s ((win.origin).1 + c) ((win.origin).2 + r)) :
    (win.setCell s c r cell).get ((win.origin).1 + c) ((win.origin).2 + r) =
      (s.get ((win.origin).1 + c) ((win.origin).2 + r)).map (fun _ => cell) :=
  put_lands win s c r (.cell cell) hv

/-- `SetStyle` on an accepted cell keeps the content and replaces the style. -/
theorem setStyle_lands (win : Win) (s : Screen) (c r : Int) (st : Nat)
    (hv : visible win s ((win.origin).1 + c) ((win.origin).2 + r)) :
    (win.setStyle s c r st).get ((win.origin).1 + c) ((win.origin).2 + r) =
      (s.get ((win.origin).1 + c) ((win.origin).2 + r)).map (fun old => { old with st := st }) :=
  put_lands win s c r (.style st) hv

/-- A write whose target is not visible leaves the whole screen untouched. -/
theorem put_rejected (win : Win) (s : Screen) (c r : Int) (p : Win.Put)
    (hv : ¬ visible win s ((win.origin).1 + c) ((win.origin).2 + r)) :
    win.put s c r p = s := by
  rw [origin_eq_absOrigin] at hv
  exact put_invisible win s c r p hv

/-- `New` with non-negative sizes: however its switches clamp, the new window's region is exactly
the requested rectangle (placed at the parent's origin + offset) intersected with the parent's
region — oversized or displaced children are cut, never enlarged. -/
theorem new_region (win : Win) (c r W H : Int) (hW : 0 ≤ W) (hH : 0 ≤ H) (x y : Int) :
    covers (win.new c r W H) x y ↔
      (((win.origin).1 + c ≤ x ∧ x < (win.origin).1 + c + W ∧
        (win.origin).2 + r ≤ y ∧ y < (win.origin).2 + r + H) ∧ covers win x y) := by
  rw [origin_eq_absOrigin]; exact covers_new win c r W H hW hH x y

/-- The screen's own index expressions `s.buf[row][col]` are in range whenever the guards pass
(no Go panic), given the shape `WF` — which `resize` establishes and a write keeps (the next two theorems). -/
theorem screen_index_ok (s : Screen) (hwf : s.WF) (col row : Int) (hg : s.guard col row = true) :
    row.toNat < s.buf.length ∧ ∀ l, s.buf[row.toNat]? = some l → col.toNat < l.length := by
  have hin := (guard_iff s col row).1 hg
  obtain ⟨hc, hr, hlen, hrows⟩ := hwf
  unfold inScreen at hin
  refine ⟨by omega, ?_⟩
  intro l hl
  have hm : l ∈ s.buf := List.mem_iff_getElem?.2 ⟨_, hl⟩
  rw [hrows l hm]; omega

theorem screen_wf_resize (cols rows : Int) (hc : 0 ≤ cols) (hr : 0 ≤ rows) : (Screen.resize cols rows).WF :=
  wf_resize cols rows hc hr

theorem screen_wf_put (win : Win) (s : Screen) (hwf : s.WF) (c r : Int) (p : Win.Put) :
    (win.put s c r p).WF := wf_put win s hwf c r p

/-- With a well-formed screen, an accepted `SetCell` makes the addressed cell read back exactly. -/
theorem setCell_reads_back (win : Win) (s : Screen) (hwf : s.WF) (c r : Int) (cell : Cell)
    (hv : visible win s ((win.origin).1 + c) ((win.origin).2 + r)) :
    (win.setCell s c r cell).get ((win.origin).1 + c) ((win.origin).2 + r) = some cell := by
  rw [setCell_lands win s c r cell hv]
  obtain ⟨v, hv'⟩ := get_some_of_inScreen s hwf _ _ hv.2
  rw [hv']; rfl

/-- Whatever list of `SetCell` calls a helper makes, a changed cell is visible
(inside the window, every ancestor and the screen) and is origin + offset of one of the calls. -/
theorem drawops_clip (win : Win) (s : Screen) (ops : List Op) (x y : Int)
    (h : (applyOps win s ops).get x y ≠ s.get x y) :
    covers win x y ∧ inScreen s x y ∧
    ∃ o ∈ ops, x = (win.origin).1 + o.col ∧ y = (win.origin).2 + o.row := by
  rw [origin_eq_absOrigin]
  have := applyOps_changed win ops s x y h
  exact ⟨this.1.1, this.1.2, this.2⟩

theorem fill_clip (win : Win) (s : Screen) (c : Cell) (x y : Int)
    (h : (fill win s c).get x y ≠ s.get x y) : covers win x y ∧ inScreen s x y :=
  (applyOps_changed win _ s x y h).1

theorem clear_clip (win : Win) (s : Screen) (x y : Int)
    (h : (clear win s).get x y ≠ s.get x y) : covers win x y ∧ inScreen s x y :=
  fill_clip win s _ x y h

theorem print_clip (lib : Lib) (rm : Bool) (win : Win) (s : Screen) (segs : List (Nat × List Raw)) (x y : Int)
    (h : (print lib rm win s segs).1.get x y ≠ s.get x y) : covers win x y ∧ inScreen s x y :=
  (applyOps_changed win _ s x y h).1

theorem printTruncate_clip (lib : Lib) (rm : Bool) (win : Win) (s : Screen) (row : Int)
    (segs : List (Nat × List Raw)) (x y : Int)
    (h : (printTruncate lib rm win s row segs).get x y ≠ s.get x y) : covers win x y ∧ inScreen s x y :=
  (applyOps_changed win _ s x y h).1

theorem println_clip (lib : Lib) (rm : Bool) (win : Win) (s : Screen) (row : Int)
    (segs : List (Nat × List Raw)) (x y : Int)
    (h : (println lib rm win s row segs).get x y ≠ s.get x y) : covers win x y ∧ inScreen s x y :=
  (applyOps_changed win _ s x y h).1

theorem wrap_clip (lib : Lib) (rm : Bool) (win : Win) (s : Screen) (segs : List (Nat × List (List Raw))) (x y : Int)
    (h : (wrap lib rm win s segs).1.get x y ≠ s.get x y) : covers win x y ∧ inScreen s x y :=
  (applyOps_changed win _ s x y h).1

/-- `Fill` reaches every visible cell of the window: the changed set is exactly the clip region
(for a well-formed screen). -/
theorem fill_covers (win : Win) (s : Screen) (hwf : s.WF) (c : Cell) (x y : Int)
    (hv : visible win s x y) : (fill win s c).get x y = some c :=
  fill_reaches win s hwf c x y hv

open VaxisModel.Lemmas.WindowText

/-- **print_order (Print).** The `SetCell` calls `Print` makes are the reading-order layout of its
clusters (one call per non-newline cluster, at the pen position; the pen advances by the measured
width and moves to column 0 of the next row at a newline cluster or when `col ≥ width`), except
that calls are dropped once the pen is below `row > height` — and those rows are outside the
window anyway. -/
theorem print_is_layout (lib : Lib) (rm : Bool) (win : Win) (segs : List (Nat × List Raw)) :
    ∃ dropped, (layout win.width (printItems lib rm (flatten segs)) 0 0).1 =
        (printOps lib rm win segs).1 ++ dropped ∧ ∀ o ∈ dropped, win.height < o.row :=
  printGo_layout lib rm win.width win.height (flatten segs) 0 0

/-- With positive cluster widths the `SetCell` calls of `Print` are, in call
order, strictly increasing in (row, col). -/
theorem print_order (lib : Lib) (rm : Bool) (win : Win) (segs : List (Nat × List Raw))
    (hw : ∀ it ∈ printItems lib rm (flatten segs), it.brk = false → 0 < it.w) :
    List.Pairwise before (printOps lib rm win segs).1 := by
  obtain ⟨d, hd, _⟩ := print_is_layout lib rm win segs
  have := layout_pairwise win.width (printItems lib rm (flatten segs)) 0 0 hw
  rw [hd] at this
  exact (List.pairwise_append.1 this).1

/-- Reading order is strict: with positive cluster widths every later call is strictly after every
earlier one in (row, col) order. -/
theorem layout_strict_order (cols : Int) (l : List Item) (col row : Int)
    (hw : ∀ it ∈ l, it.brk = false → 0 < it.w) :
    List.Pairwise before (layout cols l col row).1 := layout_pairwise cols l col row hw

/-- Each non-break cluster that can be shown inside the window (not wider than it) goes to exactly
one `SetCell`, in text order, never split; the others to none. -/
theorem layout_one_call_per_cluster (cols : Int) (l : List Item) (col row : Int) (hcol : 0 ≤ col)
    (hw : ∀ it ∈ l, 0 ≤ it.w) :
    (layout cols l col row).1.map (·.cell) =
      (l.filter (fun it => !it.brk && decide (it.w ≤ cols))).map Item.cell :=
  layout_cells cols l col row hcol hw

/-- The same for the word-wrapping layout (`Wrap`): whatever rows the word wrapping chooses, the cells
written are, in text order, exactly the clusters of the line segments that are neither line breaks
nor wider than the window — each once, none split, none merged.  (That the line segments' clusters
are the clusters of the text is the harness-side oracle of the F111c repair: the segmentation is a
parameter of the model.) -/
theorem wrap_one_call_per_cluster (cols : Int) (L : List (List Item)) (col row : Int) (hcol : 0 ≤ col)
    (hw : ∀ seg ∈ L, ∀ it ∈ seg, 0 ≤ it.w) :
    (layoutWrap cols L col row).1.map (·.cell) =
      (L.flatten.filter (fun it => !it.brk && decide (it.w ≤ cols))).map Item.cell := by
  refine layoutWrap_ind cols (P := fun L col _ r => 0 ≤ col → (∀ seg ∈ L, ∀ it ∈ seg, 0 ≤ it.w) →
    r.1.map (·.cell) = (L.flatten.filter (fun it => !it.brk && decide (it.w ≤ cols))).map Item.cell) ?_ ?_ L col row hcol hw
  · intro _ _ _ _; rfl
  · intro seg rest col row pc pr hq ih hcol hw
    have hseg := hw seg List.mem_cons_self
    have hp1 : 0 ≤ pc := by omega
    simp only [List.flatten_cons, List.filter_append, List.map_append]
    rw [layout_cells cols seg pc pr hp1 hseg,
      ih (layout_end_col_nonneg cols seg pc pr hp1 hseg) fun s h => hw s (List.mem_cons_of_mem _ h)]

/-- The pen rule itself: a break starts a new row; a cluster that is wider than the window is not
written; otherwise the cluster is written at the pen — or at the start of the next row when it does
not fit in the rest of this one — the column advances by its width, and a new row starts when the
row is full (`col + w ≥ cols`). -/
theorem layout_step (cols : Int) (it : Item) (rest : List Item) (col row : Int) :
    layout cols (it :: rest) col row =
      if it.brk then layout cols rest 0 (row + 1)
      else if col + it.w > cols ∧ it.w > cols then layout cols rest col row
      else
        let q := if col + it.w > cols then ((0 : Int), row + 1) else (col, row)
        let p := if q.1 + it.w ≥ cols then ((0 : Int), q.2 + 1) else (q.1 + it.w, q.2)
        ({ col := q.1, row := q.2, cell := it.cell } :: (layout cols rest p.1 p.2).1,
         (layout cols rest p.1 p.2).2) := by
  simp only [layout, advance, fitPen]
  split
  · rfl
  · split <;> rfl

/-- `Println`: the calls are exactly the single-line layout. -/
theorem println_is_layout (lib : Lib) (rm : Bool) (win : Win) (row : Int) (segs : List (Nat × List Raw))
    (hrow : row < win.height) :
    printlnOps lib rm win row segs = layoutLine win.width row (lineItems lib rm (flatten segs)) 0 := by
  simp only [printlnOps, show ¬ row ≥ win.height by omega, if_false]
  exact lnGo_layout lib rm win.width row (flatten segs) 0

/-- `PrintTruncate`: the calls are exactly the truncating single-line layout. -/
theorem printTruncate_is_layout (lib : Lib) (rm : Bool) (win : Win) (row : Int) (segs : List (Nat × List Raw))
    (hrow : row < win.height) :
    printTruncateOps lib rm win row segs = layoutTrunc win.width row (lineItems lib rm (flatten segs)) 0 := by
  simp only [printTruncateOps, show ¬ row ≥ win.height by omega, if_false]
  exact truncGo_layout lib rm win.width row (flatten segs) 0

/-- **print_order (Wrap).** The `SetCell` calls `Wrap` makes are the word-wrapping reading-order
layout of its line segments (a segment that fits a row but not the rest of the current row starts a
new row; clusters advance by their measured width; a cluster with a trailing line break or a full
row starts a new row), except that processing stops once the pen is at `row ≥ height` — rows that
are outside the window anyway.  Uses that Wrap stores the width it measured (`facts_wrap`; false of
the code before the F34 fix). -/
theorem wrap_is_layout (lib : Lib) (rm : Bool) (win : Win) (segs : List (Nat × List (List Raw))) :
    ∃ dropped, (layoutWrap win.width (wrapAllItems lib rm segs) 0 0).1 =
        (wrapOps lib rm win segs).1 ++ dropped ∧ ∀ o ∈ dropped, win.height ≤ o.row := by
  have hstored : wrapRemeasured = true := by decide
  simp only [wrapOps, hstored]
  exact wrapGo_layout lib rm win.width win.height segs 0 0

/-- **print_order (Wrap).** Likewise the calls of `Wrap` are strictly increasing in (row, col). -/
theorem wrap_order (lib : Lib) (rm : Bool) (win : Win) (segs : List (Nat × List (List Raw)))
    (hw : ∀ seg ∈ wrapAllItems lib rm segs, ∀ it ∈ seg, it.brk = false → 0 < it.w) :
    List.Pairwise before (wrapOps lib rm win segs).1 := by
  obtain ⟨d, hd, _⟩ := wrap_is_layout lib rm win segs
  have := layoutWrap_pairwise win.width (wrapAllItems lib rm segs) 0 0 hw
  rw [hd] at this
  exact (List.pairwise_append.1 this).1

/-- Single-line layouts write left to right on one row, advancing by the widths. -/
theorem layoutLine_order (cols row : Int) (l : List Item) (col : Int) (hw : ∀ it ∈ l, 0 < it.w) :
    List.Pairwise before (layoutLine cols row l col) := by
  induction l generalizing col with
  | nil => exact List.Pairwise.nil
  | cons it rest ih =>
    have hw' : ∀ it' ∈ rest, 0 < it'.w := fun a h => hw a (List.mem_cons_of_mem _ h)
    have hpos := hw it List.mem_cons_self
    simp only [layoutLine]
    split
    · exact List.Pairwise.nil
    · refine List.Pairwise.cons ?_ (ih _ hw')
      intro o ho
      have := layoutLine_ge cols row rest _ hw' o ho
      simp only [before]; omega

/-! ## No cluster extends beyond the window (F111 repaired)

Observed through the terminal, a cluster of display width `w` written at column `c` occupies the
columns `c … c+w-1`.  Every `SetCell` call of the four text helpers that the window accepts has
`c + w ≤ width`: the cluster lies inside the window's own row, continuation columns included.  In a
right-nested chain (every chain built with `vx.Window()` and `New`) those columns are then inside
the clip region as well. -/

theorem print_fits (lib : Lib) (rm : Bool) (win : Win) (segs : List (Nat × List Raw)) :
    ∀ o ∈ (printOps lib rm win segs).1, o.col + o.cell.w ≤ win.width := by
  obtain ⟨d, hd, _⟩ := print_is_layout lib rm win segs
  intro o ho
  exact layout_fits win.width _ 0 0 o (by rw [hd]; exact List.mem_append_left _ ho)

theorem wrap_fits (lib : Lib) (rm : Bool) (win : Win) (segs : List (Nat × List (List Raw))) :
    ∀ o ∈ (wrapOps lib rm win segs).1, o.col + o.cell.w ≤ win.width := by
  obtain ⟨d, hd, _⟩ := wrap_is_layout lib rm win segs
  intro o ho
  exact layoutWrap_fits win.width _ 0 0 o (by rw [hd]; exact List.mem_append_left _ ho)

theorem println_fits (lib : Lib) (rm : Bool) (win : Win) (row : Int) (segs : List (Nat × List Raw)) :
    ∀ o ∈ printlnOps lib rm win row segs, o.col + o.cell.w ≤ win.width := by
  intro o ho
  by_cases hrow : row < win.height
  · rw [println_is_layout lib rm win row segs hrow] at ho
    exact layoutLine_fits win.width row _ 0 o ho
  · simp only [printlnOps, show row ≥ win.height by omega, if_true] at ho; cases ho

/-- `PrintTruncate`: a call fits or is rejected by the window itself (`col ≥ width`: the ellipsis in
a window without columns). -/
theorem printTruncate_fits (lib : Lib) (rm : Bool) (win : Win) (row : Int) (segs : List (Nat × List Raw)) :
    ∀ o ∈ printTruncateOps lib rm win row segs, win.width ≤ o.col ∨ o.col + o.cell.w ≤ win.width := by
  intro o ho
  by_cases hrow : row < win.height
  · rw [printTruncate_is_layout lib rm win row segs hrow] at ho
    exact layoutTrunc_fits win.width row _ 0 o ho
  · simp only [printTruncateOps, show row ≥ win.height by omega, if_true] at ho; cases ho

/-- `New` (and `vx.Window()`) build right-nested chains, whatever the arguments. -/
theorem new_rightNested (win : Win) (hn : rightNested win) (c r W H : Int) :
    rightNested (win.new c r W H) := by
  simp only [Win.new, rightNested]
  refine ⟨?_, hn⟩
  split
  · omega
  · split <;> omega

theorem window_rightNested (s : Screen) : rightNested (Win.ofScreen s) := trivial

/-- A call `SetCell(c, r, cell)` that fits in the window's row
(`c + w ≤ width`) and whose cell is accepted (its target is in the clip region) has every column
`c … c+w-1` of the cluster in the clip region of a right-nested chain. -/
theorem cluster_extent_clip (win : Win) (hn : rightNested win) (o : Op)
    (hfit : o.col + o.cell.w ≤ win.width)
    (hv : covers win ((win.origin).1 + o.col) ((win.origin).2 + o.row)) (i : Int) (h0 : 0 ≤ i) (hi : i < o.cell.w) :
    covers win ((win.origin).1 + o.col + i) ((win.origin).2 + o.row) := by
  rw [origin_eq_absOrigin] at hv ⊢
  exact covers_extend win hn _ _ _ hv (by omega) (by omega)

/-- For `Print`, `Wrap`, `Println` and `PrintTruncate` on a right-nested
chain: every cluster written into the clip region occupies only columns of the clip region — what
the terminal shows after a `Render` changes only there (given the glyph also fits in the screen's
row; otherwise the renderer shows a blank, C01 `frame_displays`). -/
theorem text_extent_clip (lib : Lib) (rm : Bool) (win : Win) (hn : rightNested win) (o : Op)
    (hmem : (∃ segs, o ∈ (printOps lib rm win segs).1) ∨ (∃ segs, o ∈ (wrapOps lib rm win segs).1) ∨
            (∃ row segs, o ∈ printlnOps lib rm win row segs) ∨ (∃ row segs, o ∈ printTruncateOps lib rm win row segs))
    (hv : covers win ((win.origin).1 + o.col) ((win.origin).2 + o.row)) (i : Int) (h0 : 0 ≤ i) (hi : i < o.cell.w) :
    covers win ((win.origin).1 + o.col + i) ((win.origin).2 + o.row) := by
  have hfit : o.col + o.cell.w ≤ win.width := by
    rcases hmem with ⟨segs, h⟩ | ⟨segs, h⟩ | ⟨row, segs, h⟩ | ⟨row, segs, h⟩
    · exact print_fits lib rm win segs o h
    · exact wrap_fits lib rm win segs o h
    · exact println_fits lib rm win row segs o h
    · rcases printTruncate_fits lib rm win row segs o h with h' | h'
      · -- rejected by the window's own guard: contradiction with `hv`
        have hown := covers_own win _ _ (by rw [origin_eq_absOrigin] at hv; exact hv)
        unfold inOwnRect at hown; omega
      · exact h'
  exact cluster_extent_clip win hn o hfit hv i h0 hi

/-- The hypothesis `rightNested` is needed: a struct-literal child wider than its parent (columns
0..3 under a 2-column parent) accepts 世 (width 2) at column 1 — inside both windows — and its right
half lies in column 2, outside the parent. -/
example :
    let par := Win.root 0 0 2 1
    let ch := par.direct 0 0 4 1
    let ops := (printOps ⟨fun g => if g = 6 then 2 else 1, fun _ => false, fun _ => false⟩ true ch
      [(0, [⟨5, 1, false⟩, ⟨6, 2, false⟩])]).1
    ops.map (fun o => (o.col, o.row, o.cell.w)) = [(0, 0, 1), (1, 0, 2)] ∧
    ¬ rightNested ch ∧ covers ch 1 0 ∧ ¬ covers ch 2 0 := by decide

/-- Non-vacuity / the F111 input: `Print("aa世")` in a 3-column window puts 世 on the next row. -/
example :
    let A := (Win.root 0 0 4 2).new 0 0 3 2
    ((printOps ⟨fun g => if g = 6 then 2 else 1, fun _ => false, fun _ => false⟩ true A
      [(0, [⟨5, 1, false⟩, ⟨5, 1, false⟩, ⟨6, 2, false⟩])]).1.map (fun o => (o.col, o.row))
      = [(0, 0), (1, 0), (0, 1)]) ∧ rightNested A := by decide

/-! ## The model's shape-fixed facts are the source's (regenerated by the extractor each run)

`R` = receiver, `Pn` = n-th parameter, `Sn` = n-th result of `Size()`, `N` = the new window,
`E(x)` = the range variable over `x`.  If window.go / screen.go / character.go change one of these
the theorem stops compiling and the check reports which. -/

open VaxisModel.Gen.WindowFacts in
/-- `Win.guard`, `put`: reject iff `col<0 ∨ col≥Width ∨ row<0 ∨ row≥Height`; then delegate with
`(col+Column, row+Row)` to the screen (no parent) or to the parent. -/
theorem facts_window_setCell :
    winSetCellReject = ["P0<0", "P0>=R.Width", "P1<0", "P1>=R.Height"] ∧
    winSetCellCalls = ["R.Vx.screenNext.setCell(P0+R.Column,P1+R.Row,P2)", "R.Parent.SetCell(P0+R.Column,P1+R.Row,P2)"] ∧
    winSetStyleReject = ["P0<0", "P0>=R.Width", "P1<0", "P1>=R.Height"] ∧
    winSetStyleCalls = ["R.Vx.screenNext.setStyle(P0+R.Column,P1+R.Row,P2)", "R.Parent.SetStyle(P0+R.Column,P1+R.Row,P2)"] :=
  ⟨rfl, rfl, rfl, rfl⟩

open VaxisModel.Gen.WindowFacts in
/-- `Screen.guard`, `Screen.update`. -/
theorem facts_screen_setCell :
    scrSetCellReject = ["P0<0", "P0>=R.cols", "P1<0", "P1>=R.rows"] ∧ scrSetCellTail = ["R.buf[P1][P0]=P2"] ∧
    scrSetStyleReject = ["P0<0", "P0>=R.cols", "P1<0", "P1>=R.rows"] ∧ scrSetStyleTail = ["R.buf[P1][P0].Style=P2"] :=
  ⟨rfl, rfl, rfl, rfl⟩

open VaxisModel.Gen.WindowFacts in
/-- `Win.new`. -/
theorem facts_window_new :
    newLiteral = ["Column:P0", "Height:P3", "Parent:&R", "Row:P1", "Vx:R.Vx", "Width:P2"] ∧
    newSteps = ["size:R.Size()", "case P2<0 => N.Width=S0-P0", "case P2+P0>S0 => N.Width=S0-P0", "end",
                "case P3<0 => N.Height=S1-P1", "case P3+P1>S1 => N.Height=S1-P1", "end", "return N"] :=
  ⟨rfl, rfl⟩

open VaxisModel.Gen.WindowFacts in
/-- `characters`: eight `{" ",1}` per TAB. -/
theorem facts_characters_tab :
    tabLoop = ["I:=0", "I<8", "I+=1"] ∧ tabCell = "Character{\" \", 1}" := ⟨rfl, rfl⟩

open VaxisModel.Gen.WindowFacts in
/-- `remeasure`, `measured`, and the pen conditions of Print (with the fit test of the F111 repair:
`col+Width>cols`, then `Width>cols`) / PrintTruncate / Println. -/
theorem facts_text_helpers :
    remeasurePrint = ["if !R.Vx.caps.unicodeCore||!R.Vx.caps.explicitWidth { E(Characters(E(P0).Text)).Width=R.Vx.characterWidth(E(Characters(E(P0).Text)).Grapheme) }"] ∧
    condsPrint = ["strings.ContainsRune(E(Characters(E(P0).Text)).Grapheme,'\\n')", "row>S1", "col+E(Characters(E(P0).Text)).Width>S0", "E(Characters(E(P0).Text)).Width>S0", "col>=S0"] ∧
    remeasurePrintTruncate = ["if !R.Vx.caps.unicodeCore||!R.Vx.caps.explicitWidth { E(Characters(E(P1).Text)).Width=R.Vx.characterWidth(E(Characters(E(P1).Text)).Grapheme) }"] ∧
    condsPrintTruncate = ["P0>=S1", "col+truncator.Width+w>S0"] ∧
    remeasurePrintln = ["if !R.Vx.caps.unicodeCore||!R.Vx.caps.explicitWidth { E(Characters(E(P1).Text)).Width=R.Vx.characterWidth(E(Characters(E(P1).Text)).Grapheme) }"] ∧
    condsPrintln = ["P0>=S1", "col+w>S0"] :=
  ⟨rfl, rfl, rfl, rfl, rfl, rfl⟩

open VaxisModel.Gen.WindowFacts in
/-- Wrap: measures into the slice element (`wrapRemeasured = true`, finding F34 fixed), pen conditions. -/
theorem facts_wrap :
    wrapStoresWidth = true ∧
    remeasureWrap = ["if !R.Vx.caps.unicodeCore||!R.Vx.caps.explicitWidth { E(chars).Width=R.Vx.characterWidth(E(chars).Grapheme); chars[K(chars)].Width=E(chars).Width }"] ∧
    condsWrap = ["row>=S1", "case total>S0", "case total+col>S0", "uniseg.HasTrailingLineBreakInString(E(chars).Grapheme)", "col+E(chars).Width>S0", "E(chars).Width>S0", "col>=S0"] :=
  ⟨rfl, rfl, rfl⟩

/-- **The helpers' statement structure is the transcribed one**: the skeletons of `ShowCursor`, `Fill`,
`Origin`, `Clear`, `Print`, `PrintTruncate`, `Println`, `Wrap` and Wrap's helper `splitsCluster` (the F111c repair: a line
segment is extended while it ends inside a grapheme cluster — in the model the line segments are a parameter,
computed by the harness with the same loop) regenerated from window.go on this
run equal the pinned transcription (`Lemmas/WindowSkelPinned.lean`) that `cursorPos`, `fillOps`,
`origin`, `clear`, `printGo`, `truncGo`, `lnGo`, `wrapSegs`/`wrapChars` follow statement by statement. -/
theorem facts_helper_skeletons :
    VaxisModel.Gen.WindowFacts.skShowCursor = VaxisModel.Lemmas.WindowSkelPinned.skShowCursor ∧
    VaxisModel.Gen.WindowFacts.skFill = VaxisModel.Lemmas.WindowSkelPinned.skFill ∧
    VaxisModel.Gen.WindowFacts.skOrigin = VaxisModel.Lemmas.WindowSkelPinned.skOrigin ∧
    VaxisModel.Gen.WindowFacts.skClear = VaxisModel.Lemmas.WindowSkelPinned.skClear ∧
    VaxisModel.Gen.WindowFacts.skPrint = VaxisModel.Lemmas.WindowSkelPinned.skPrint ∧
    VaxisModel.Gen.WindowFacts.skPrintTruncate = VaxisModel.Lemmas.WindowSkelPinned.skPrintTruncate ∧
    VaxisModel.Gen.WindowFacts.skPrintln = VaxisModel.Lemmas.WindowSkelPinned.skPrintln ∧
    VaxisModel.Gen.WindowFacts.skWrap = VaxisModel.Lemmas.WindowSkelPinned.skWrap ∧
    VaxisModel.Gen.WindowFacts.sksplitsCluster = VaxisModel.Lemmas.WindowSkelPinned.sksplitsCluster :=
  ⟨rfl, rfl, rfl, rfl, rfl, rfl, rfl, rfl, rfl⟩

/-- No statement of the helpers has a form the extractor does not know. -/
theorem helpers_fully_recognised :
    (VaxisModel.Gen.WindowFacts.skShowCursor ++ VaxisModel.Gen.WindowFacts.skFill ++ VaxisModel.Gen.WindowFacts.skOrigin ++
     VaxisModel.Gen.WindowFacts.skClear ++ VaxisModel.Gen.WindowFacts.skPrint ++ VaxisModel.Gen.WindowFacts.skPrintTruncate ++
     VaxisModel.Gen.WindowFacts.skPrintln ++ VaxisModel.Gen.WindowFacts.skWrap ++ VaxisModel.Gen.WindowFacts.sksplitsCluster).all (fun l => l.2.1 != "unknown") = true := by
  decide +kernel

/-- The extractor recognised every shape it looks for in window.go / screen.go / character.go. -/
theorem facts_extractor_clean : VaxisModel.Gen.WindowFacts.extractErrors = [] := rfl

/-- A 2-deep chain with a negative offset and an oversized child on a 6×4 screen: writing (1,0) in
the grandchild changes exactly screen cell (2,1). -/
example :
    let s := Screen.resize 6 4
    let w1 := (Win.ofScreen s).new (-1) 1 99 (-3)
    let w2 := w1.new 2 0 5 5
    (w2.setCell s 1 0 ⟨7, 1, 3⟩).get 2 1 = some ⟨7, 1, 3⟩ ∧ w2.origin = (1, 1) ∧
    (w2.setCell s (-1) 0 ⟨7, 1, 3⟩).get 0 1 = some default := by decide

example : (layout 3 [⟨5, 2, false, 0⟩, ⟨6, 2, false, 0⟩, ⟨0, 0, true, 0⟩, ⟨7, 1, false, 0⟩, ⟨8, 4, false, 0⟩] 0 0).1.map (fun o => (o.col, o.row))
    = [(0, 0), (0, 1), (0, 2)] := by decide

end VaxisModel.Props.C11
