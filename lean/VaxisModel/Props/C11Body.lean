/-
C11 — `Window.SetCell` / `Window.SetStyle` / `screen.setCell` / `screen.setStyle` as the INTERPRETATION of
what `extract/cmd/C11` reads from window.go / screen.go on every run (`Gen/WindowFacts.lean`: the disjuncts
of the leading `if … { return }` guards and the calls / statements after them, receiver `R`, parameters
`P0 P1 P2`): the reject test is "any extracted disjunct holds", the delegation is the extracted call
evaluated (screen at the root, parent otherwise, arguments `P0+R.Column`, `P1+R.Row`).  The model's
`Win.put` / `Screen.setCell` / `Screen.setStyle` are equal to that for all windows, screens and arguments,
so a changed guard or argument changes the interpretation and breaks exactly these theorems
(an unknown disjunct rejects, an unknown call yields `none`).  In the same way `Window.ShowCursor`, `Window.Origin`,
`Window.Fill` and `Window.Clear` are run from their regenerated skeletons and equal the model's functions.
-/
import VaxisModel.Model.Window
import VaxisModel.Model.App

namespace VaxisModel.Props.C11Body
open VaxisModel.Model.Window VaxisModel.Gen.WindowFacts

/-- One disjunct of a window guard. -/
def rejW (win : Win) (col row : Int) (a : String) : Bool :=
  if a = "P0<0" then decide (col < 0) else if a = "P0>=R.Width" then decide (col ≥ win.width)
  else if a = "P1<0" then decide (row < 0) else if a = "P1>=R.Height" then decide (row ≥ win.height)
  else true

/-- One disjunct of a screen guard. -/
def rejS (s : Screen) (col row : Int) (a : String) : Bool :=
  if a = "P0<0" then decide (col < 0) else if a = "P0>=R.cols" then decide (col ≥ s.cols)
  else if a = "P1<0" then decide (row < 0) else if a = "P1>=R.rows" then decide (row ≥ s.rows)
  else true

/-- A delegation call of `SetCell` / `SetStyle`, evaluated. -/
def callW (win : Win) (s : Screen) (col row : Int) (p : Win.Put) (a : String) : Option Screen :=
  match p with
  | .cell c =>
    if a = "R.Vx.screenNext.setCell(P0+R.Column,P1+R.Row,P2)" then some (s.setCell (col + win.col) (row + win.row) c)
    else if a = "R.Parent.SetCell(P0+R.Column,P1+R.Row,P2)" then
      win.parent.map fun par => par.setCell s (col + win.col) (row + win.row) c
    else none
  | .style st =>
    if a = "R.Vx.screenNext.setStyle(P0+R.Column,P1+R.Row,P2)" then some (s.setStyle (col + win.col) (row + win.row) st)
    else if a = "R.Parent.SetStyle(P0+R.Column,P1+R.Row,P2)" then
      win.parent.map fun par => par.setStyle s (col + win.col) (row + win.row) st
    else none

/-- `SetCell` / `SetStyle` over arbitrary extracted tables: rejected → nothing happens; else the first
    call at the root (`switch win.Parent { case nil: … }`), the second otherwise. -/
def putOf (rej calls : List String) (win : Win) (s : Screen) (col row : Int) (p : Win.Put) : Option Screen :=
  if rej.any (rejW win col row) then some s
  else match win.parent, calls with
    | none, [c0, _] => callW win s col row p c0
    | some _, [_, c1] => callW win s col row p c1
    | _, _ => none

/-- `screen.setCell` / `screen.setStyle` over arbitrary extracted tables. -/
def scrPutOf (rej tail : List String) (s : Screen) (col row : Int) (p : Win.Put) : Option Screen :=
  if rej.any (rejS s col row) then some s
  else match p, tail with
    | .cell c, ["R.buf[P1][P0]=P2"] => some (s.update col row (fun _ => c))
    | .style st, ["R.buf[P1][P0].Style=P2"] => some (s.update col row (fun c => { c with st := st }))
    | _, _ => none

theorem win_guard_from_source (win : Win) (col row : Int) :
    ["P0<0", "P0>=R.Width", "P1<0", "P1>=R.Height"].any (rejW win col row) = !win.guard col row := by
  simp only [List.any_cons, List.any_nil, Bool.or_false]
  have e1 : rejW win col row "P0<0" = decide (col < 0) := rfl
  have e2 : rejW win col row "P0>=R.Width" = decide (col ≥ win.width) := rfl
  have e3 : rejW win col row "P1<0" = decide (row < 0) := rfl
  have e4 : rejW win col row "P1>=R.Height" = decide (row ≥ win.height) := rfl
  rw [e1, e2, e3, e4]
  unfold Win.guard
  by_cases a : col < 0 <;> by_cases b : col ≥ win.width <;> by_cases c : row < 0 <;> by_cases d : row ≥ win.height <;> simp [a, b, c, d]

/-- The two delegation calls of `SetCell` / `SetStyle`, as the source has them. -/
def callsOf : Win.Put → List String
  | .cell _ => ["R.Vx.screenNext.setCell(P0+R.Column,P1+R.Row,P2)", "R.Parent.SetCell(P0+R.Column,P1+R.Row,P2)"]
  | .style _ => ["R.Vx.screenNext.setStyle(P0+R.Column,P1+R.Row,P2)", "R.Parent.SetStyle(P0+R.Column,P1+R.Row,P2)"]

/-- `SetCell` and `SetStyle` have one control flow: the interpretation of guards and calls is `Win.put`, for either
    kind of write. -/
theorem put_body_eq_model (win : Win) (s : Screen) (col row : Int) (p : Win.Put) :
    putOf ["P0<0", "P0>=R.Width", "P1<0", "P1>=R.Height"] (callsOf p) win s col row p = some (win.put s col row p) := by
  unfold putOf
  rw [win_guard_from_source]
  cases hgd : win.guard col row
  · rw [if_pos (show (!false) = true from rfl)]
    cases win <;> simp [Win.put, hgd]
  · cases p <;> cases win <;>
      simp [callsOf, Win.parent, callW, Win.setCell, Win.setStyle, Win.put, hgd, Win.screenPut, Win.col, Win.row]

/-- The model's `Window.SetCell` is the interpretation of the guards and
    calls extracted from window.go on this run — all windows, screens, offsets and cells. -/
theorem setCell_body_eq_model (win : Win) (s : Screen) (col row : Int) (c : Cell) :
    putOf winSetCellReject winSetCellCalls win s col row (.cell c) = some (win.setCell s col row c) :=
  put_body_eq_model win s col row (.cell c)

/-- The same for `Window.SetStyle`. -/
theorem setStyle_body_eq_model (win : Win) (s : Screen) (col row : Int) (st : Nat) :
    putOf winSetStyleReject winSetStyleCalls win s col row (.style st) = some (win.setStyle s col row st) :=
  put_body_eq_model win s col row (.style st)

theorem scr_guard_from_source (s : Screen) (col row : Int) :
    ["P0<0", "P0>=R.cols", "P1<0", "P1>=R.rows"].any (rejS s col row) = !s.guard col row := by
  simp only [List.any_cons, List.any_nil, Bool.or_false]
  have e1 : rejS s col row "P0<0" = decide (col < 0) := rfl
  have e2 : rejS s col row "P0>=R.cols" = decide (col ≥ s.cols) := rfl
  have e3 : rejS s col row "P1<0" = decide (row < 0) := rfl
  have e4 : rejS s col row "P1>=R.rows" = decide (row ≥ s.rows) := rfl
  rw [e1, e2, e3, e4]
  unfold Screen.guard
  by_cases a : col < 0 <;> by_cases b : col ≥ s.cols <;> by_cases c : row < 0 <;> by_cases d : row ≥ s.rows <;> simp [a, b, c, d]

/-- `screen.setCell` / `screen.setStyle`: the final bounds check against the screen and the buffer assignment,
    interpreted from screen.go. -/
theorem screen_put_body_eq_model (s : Screen) (col row : Int) (c : Cell) (st : Nat) :
    scrPutOf scrSetCellReject scrSetCellTail s col row (.cell c) = some (s.setCell col row c) ∧
    scrPutOf scrSetStyleReject scrSetStyleTail s col row (.style st) = some (s.setStyle col row st) := by
  have h1 : scrSetCellReject = ["P0<0", "P0>=R.cols", "P1<0", "P1>=R.rows"] := rfl
  have h2 : scrSetCellTail = ["R.buf[P1][P0]=P2"] := rfl
  have h3 : scrSetStyleReject = ["P0<0", "P0>=R.cols", "P1<0", "P1>=R.rows"] := rfl
  have h4 : scrSetStyleTail = ["R.buf[P1][P0].Style=P2"] := rfl
  unfold scrPutOf
  rw [h1, h2, h3, h4, scr_guard_from_source]
  cases hgd : s.guard col row <;> simp [Screen.setCell, Screen.setStyle, hgd]

/-- `col += win.Column` / `row += win.Row` (ShowCursor) and `col += w.Column` / `row += w.Row` (Origin). -/
def stepAssign (win : Win) (a : String) (cr : Int × Int) : Option (Int × Int) :=
  if a = "col+=win.Column" ∨ a = "col+=w.Column" then some (cr.1 + win.col, cr.2)
  else if a = "row+=win.Row" ∨ a = "row+=w.Row" then some (cr.1, cr.2 + win.row)
  else none

/-- (depth, kind) of every line. -/
def shapeOf (sk : List (Nat × String × String)) : List (Nat × String) := sk.map fun l => (l.1, l.2.1)

/-- `Window.ShowCursor` executed from the texts of its skeleton: the two offset additions, then
    `Vx.ShowCursor` at the root (`win.Parent == nil`) or the parent's `ShowCursor` with the translated position. -/
def showCursorGo : List String → Win → Int → Int → Option (Int × Int)
  | [a1, a2, g, c1, r, c2], win, col, row =>
    match (stepAssign win a1 (col, row)).bind (stepAssign win a2) with
    | none => none
    | some cr =>
      if g = "win.Parent==nil" ∧ c1 = "win.Vx.ShowCursor(col,row,style)" ∧ r = "" ∧ c2 = "win.Parent.ShowCursor(col,row,style)" then
        match win with
        | .root .. => some cr
        | .child _ _ _ _ p => showCursorGo [a1, a2, g, c1, r, c2] p cr.1 cr.2
      else none
  | _, _, _, _ => none

def showCursorI (sk : List (Nat × String × String)) (win : Win) (col row : Int) : Option (Int × Int) :=
  if shapeOf sk = [(0, "assign"), (0, "assign"), (0, "if"), (1, "call"), (1, "return"), (0, "call")] then
    showCursorGo (sk.map (·.2.2)) win col row
  else none

theorem showCursorGo_eq (win : Win) : ∀ (col row : Int),
    showCursorGo ["col+=win.Column", "row+=win.Row", "win.Parent==nil", "win.Vx.ShowCursor(col,row,style)", "",
      "win.Parent.ShowCursor(col,row,style)"] win col row = some (VaxisModel.Model.App.cursorPos win col row) := by
  induction win with
  | root c r w h => intro col row; rw [showCursorGo]; simp [stepAssign, VaxisModel.Model.App.cursorPos, Win.col, Win.row]
  | child c r w h p ih =>
    intro col row
    have := ih (col + c) (row + r)
    rw [showCursorGo]
    simp [stepAssign, VaxisModel.Model.App.cursorPos, Win.col, Win.row]
    exact this

/-- `Window.ShowCursor` through any chain = `Model.App.cursorPos`
    (origin + offset, no clipping), as the interpretation of the skeleton extracted on this run. -/
theorem showCursor_body_eq_model (win : Win) (col row : Int) :
    showCursorI skShowCursor win col row = some (VaxisModel.Model.App.cursorPos win col row) := by
  have h1 : shapeOf skShowCursor = [(0, "assign"), (0, "assign"), (0, "if"), (1, "call"), (1, "return"), (0, "call")] := by
    decide +kernel
  have h2 : skShowCursor.map (·.2.2) = ["col+=win.Column", "row+=win.Row", "win.Parent==nil", "win.Vx.ShowCursor(col,row,style)", "",
      "win.Parent.ShowCursor(col,row,style)"] := by decide +kernel
  unfold showCursorI
  rw [if_pos h1, h2]
  exact showCursorGo_eq win col row

/-- `Window.Origin` executed from the texts of its skeleton: `w := win; col := 0; row := 0; for ;; { col +=
    w.Column; row += w.Row; if w.Parent == nil { return col, row }; w = *w.Parent }`. -/
def originGo : List String → Win → Int → Int → Option (Int × Int)
  | [i1, i2, i3, f, a1, a2, g, r, nx], w, col, row =>
    match (stepAssign w a1 (col, row)).bind (stepAssign w a2) with
    | none => none
    | some cr =>
      if i1 = "w:=win" ∧ i2 = "col:=0" ∧ i3 = "row:=0" ∧ f = ";;" ∧ g = "w.Parent==nil" ∧ r = "col,row" ∧ nx = "w=*w.Parent" then
        match w with
        | .root .. => some cr
        | .child _ _ _ _ p => originGo [i1, i2, i3, f, a1, a2, g, r, nx] p cr.1 cr.2
      else none
  | _, _, _, _ => none

def originI (sk : List (Nat × String × String)) (win : Win) : Option (Int × Int) :=
  if shapeOf sk = [(0, "assign"), (0, "assign"), (0, "assign"), (0, "for"), (1, "assign"), (1, "assign"), (1, "if"), (2, "return"),
      (1, "assign")] then
    originGo (sk.map (·.2.2)) win 0 0
  else none

theorem originGo_acc (win : Win) : ∀ (col row : Int),
    originGo ["w:=win", "col:=0", "row:=0", ";;", "col+=w.Column", "row+=w.Row", "w.Parent==nil", "col,row", "w=*w.Parent"] win col row =
      some (win.origin.1 + col, win.origin.2 + row) := by
  induction win with
  | root c r w h => intro col row; rw [originGo]; simp [stepAssign, Win.origin, Win.col, Win.row, Int.add_comm]
  | child c r w h p ih =>
    intro col row
    have := ih (col + c) (row + r)
    rw [originGo]
    simp [stepAssign, Win.origin, Win.col, Win.row]
    rw [this]
    simp only [Option.some.injEq, Prod.mk.injEq]
    constructor <;> omega

/-- `Window.Origin()` = the sum of the offsets along the parent chain (`Win.origin`),
    as the interpretation of the skeleton extracted on this run (the loop walks `w = *w.Parent`). -/
theorem origin_body_eq_model (win : Win) : originI skOrigin win = some win.origin := by
  have h1 : shapeOf skOrigin = [(0, "assign"), (0, "assign"), (0, "assign"), (0, "for"), (1, "assign"), (1, "assign"), (1, "if"),
      (2, "return"), (1, "assign")] := by decide +kernel
  have h2 : skOrigin.map (·.2.2) = ["w:=win", "col:=0", "row:=0", ";;", "col+=w.Column", "row+=w.Row", "w.Parent==nil", "col,row",
      "w=*w.Parent"] := by decide +kernel
  unfold originI
  rw [if_pos h1, h2, originGo_acc win 0 0]
  simp

/-- `for v := 0; v < hi; v += 1 { body }` with the loop variable an `int` (fuel = iterations). -/
def forInt {α : Type} (body : Int → List α) : Nat → Int → Int → List α
  | 0, _, _ => []
  | f + 1, v, hi => if v < hi then body v ++ forInt body f (v + 1) hi else []

theorem forInt_eq {α : Type} (body : Int → List α) : ∀ (n : Nat) (k : Nat),
    forInt body n (k : Int) ((k + n : Nat) : Int) = ((List.range n).map fun i => ((k + i : Nat) : Int)).flatMap body := by
  intro n
  induction n with
  | zero => intro k; simp [forInt]
  | succ n ih =>
    intro k
    have hlt : (k : Int) < ((k + (n + 1) : Nat) : Int) := by omega
    have e : ((k + (n + 1) : Nat) : Int) = (((k + 1) + n : Nat) : Int) := by omega
    simp only [forInt, hlt, if_true]
    rw [show ((k : Int) + 1) = ((k + 1 : Nat) : Int) from by omega, e, ih (k + 1)]
    rw [List.range_succ_eq_map]
    simp [List.flatMap_cons, List.map_map, Function.comp_def, Nat.add_assoc, Nat.add_comm 1]

theorem forInt_upTo {α : Type} (body : Int → List α) (n : Int) : forInt body n.toNat 0 n = (upTo n).flatMap body := by
  by_cases hn : 0 ≤ n
  · have := forInt_eq body n.toNat 0
    have e : ((0 + n.toNat : Nat) : Int) = n := by omega
    rw [e] at this
    rw [show ((0 : Nat) : Int) = 0 from rfl] at this
    rw [this, upTo]
    congr 1
    apply List.map_congr_left
    intro i _
    simp
  · have : n.toNat = 0 := by omega
    simp [this, forInt, upTo]

/-- `Window.Fill` executed from the texts of its skeleton: `cols, rows := win.Size()`, rows outer, columns
    inner, one `SetCell(col, row, cell)` per position. -/
def fillI (sk : List (Nat × String × String)) (win : Win) (c : Cell) : Option (List Op) :=
  if shapeOf sk = [(0, "assign"), (0, "for"), (1, "for"), (2, "call")] ∧
     sk.map (·.2.2) = ["cols,rows:=win.Size()", "row:=0;row<rows;row+=1", "col:=0;col<cols;col+=1", "win.SetCell(col,row,cell)"] then
    some (forInt (fun row => forInt (fun col => [({ col := col, row := row, cell := c } : Op)]) win.width.toNat 0 win.width)
      win.height.toNat 0 win.height)
  else none

/-- The `SetCell` calls of `Window.Fill` = `fillOps`, as the interpretation of the
    skeleton extracted on this run (negative or zero sizes: no call). -/
theorem fill_body_eq_model (win : Win) (c : Cell) : fillI skFill win c = some (fillOps win c) := by
  have h1 : shapeOf skFill = [(0, "assign"), (0, "for"), (1, "for"), (2, "call")] := by decide +kernel
  have h2 : skFill.map (·.2.2) = ["cols,rows:=win.Size()", "row:=0;row<rows;row+=1", "col:=0;col<cols;col+=1", "win.SetCell(col,row,cell)"] := by
    decide +kernel
  unfold fillI
  rw [if_pos ⟨h1, h2⟩, forInt_upTo]
  simp only [fillOps, forInt_upTo]
  have key : ∀ (row : Int) (xs : List Int),
      xs.flatMap (fun col => [({ col := col, row := row, cell := c } : Op)]) = xs.map (fun col => { col := col, row := row, cell := c }) := by
    intro row xs
    induction xs with
    | nil => rfl
    | cons x xs ih => simp [List.flatMap_cons, ih]
  simp only [key]

/-- `Window.Clear` = `Fill` with `Cell{Character{" ", 1}}` (and the reset of the
    graphics placements, C11Gfx), read from the skeleton extracted on this run. -/
theorem clear_body_eq_model :
    skClear = [(0, "call", "win.Fill(Cell{Character:Character{\" \",1},Style:Style{}})"), (0, "assign", "win.Vx.graphicsNext=[]*placement{}")] ∧
    ∀ (win : Win) (s : Screen), clear win s = fill win s clearCell := by
  exact ⟨rfl, fun _ _ => rfl⟩


end VaxisModel.Props.C11Body
