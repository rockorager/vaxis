/-
C11 at its observation point — "the set of screen cells whose rendered content changes, observed
through the reference terminal after a Render".

`Props.C01App.app_history_displays` says what the terminal shows after a frame:
`Spec.Expected.expectedC` of the application's screen.  Here: a fold of `SetCell` calls on a
right-nested window whose clusters fit in the window's row (what `Print`, `Wrap`, `Println`,
`PrintTruncate` make: `Props.C11.print_fits` …) changes that display **only at cells of the clip
region** — every other screen cell displays what it displayed before, given that before the call no
glyph of the row left of the clip region's right edge reached that edge (`NoOverhang`: a state every
such call re-establishes — second conjunct — so it holds along any run of text-helper calls on
windows with that right edge, starting from an empty screen).

`displayRow` is the row of `expectedC` for the buffer; graphemes and styles through `Interp`.
-/
import VaxisModel.Props.C11
import VaxisModel.Lemmas.WindowDisplay
import VaxisModel.Lemmas.AppSys
import VaxisModel.Props.C01App

namespace VaxisModel.Props.C11Display
open VaxisModel.Model.Window VaxisModel.Spec.Window VaxisModel.Lemmas.Window VaxisModel.Model.App
open VaxisModel.Lemmas.WindowDisplay VaxisModel.Lemmas.AppSys VaxisModel.Lemmas.AppText
open VaxisModel.Spec.Expected
open VaxisModel.Props.C01App (exX)

/-- Row `y` of the buffer as the renderer sees it. -/
def rowOf (I : Interp) (s : Screen) (y : Nat) : List VaxisModel.Model.Render.Cell := (s.buf[y]?.getD []).map I.cell

/-- What the terminal shows in row `y` after a frame (`expectedC` is `expectedRowC` row by row). -/
def displayRow (X : Ctx) (s : Screen) (y : Nat) : List VaxisModel.Spec.Display.DCell :=
  expectedRowC X.cw X.caps 0 (rowOf X.I s y)

/-- Right edge of the clip region of a right-nested window, as a column count of the screen. -/
def rightEdge (win : Win) (s : Screen) : Nat := (min ((absOrigin win).1 + win.width) s.cols).toNat

theorem rowOf_get (I : Interp) (s : Screen) (x y : Nat) :
    (rowOf I s y)[x]? = (s.get (x : Int) (y : Int)).map I.cell := by
  rw [get_nat, rowOf]
  cases s.buf[y]? <;> simp

theorem rowOf_length (I : Interp) (s : Screen) (hwf : s.WF) (y : Nat) (hy : (y : Int) < s.rows) :
    (rowOf I s y).length = s.cols.toNat := by
  obtain ⟨_, _, hlen, hrows⟩ := hwf
  have : y < s.buf.length := by omega
  simp only [rowOf, List.length_map, List.getElem?_eq_getElem this, Option.getD_some]
  exact hrows _ (List.getElem_mem this)

theorem applyOps_value (win : Win) (ops : List Op) : ∀ (s : Screen) (x y : Int),
    (applyOps win s ops).get x y = s.get x y ∨
    ∃ o ∈ ops, x = (absOrigin win).1 + o.col ∧ y = (absOrigin win).2 + o.row ∧
      (applyOps win s ops).get x y = some o.cell := by
  induction ops with
  | nil => intro s x y; exact Or.inl rfl
  | cons o rest ih =>
    intro s x y
    simp only [applyOps, List.foldl_cons]
    have h1 := ih (win.setCell s o.col o.row o.cell) x y
    simp only [applyOps] at h1
    rcases h1 with h1 | ⟨o', ho', hx, hy, hv⟩
    · rw [h1]
      simp only [Win.setCell, get_put]
      split
      · rename_i hc
        cases hg : s.get x y with
        | none => left; rfl
        | some c0 =>
          right
          exact ⟨o, List.mem_cons_self, hc.1, hc.2.1, by simp [Win.Put.apply]⟩
      · left; rfl
    · right; exact ⟨o', List.mem_cons_of_mem _ ho', hx, hy, hv⟩

/-- The display width of a cell a text helper writes is the width it stores. -/
theorem cellWidth_of_meas (X : Ctx) (hX : X.Ok) (c : VaxisModel.Model.Window.Cell) (hm : Meas X.lib c) :
    cellWidth X.cw (X.I.cell c) = c.w := by
  have hm' : c.w = (X.cw (X.I.gOf c.g) : Int) := by rw [← hX.coh]; exact hm
  simp only [cellWidth, Interp.cell]
  by_cases h0 : c.w = 0
  · simp only [h0, if_true]; rw [← hm', h0]
  · simp only [h0, if_false]

/-- **Display containment.**  `ops` = `SetCell` calls on a right-nested window each of which is either
    rejected by the window itself (`col ≥ width`) or holds a glyph whose display width fits in the
    rest of the window's row.  Then every screen cell outside the clip region displays after the
    calls what it displayed before (and `NoOverhang` is re-established). -/
theorem calls_display_clip (X : Ctx) (win : Win) (hn : rightNested win) (s : Screen) (hwf : s.WF)
    (ops : List Op)
    (hfit : ∀ o ∈ ops, win.width ≤ o.col ∨ o.col + cellWidth X.cw (X.I.cell o.cell) ≤ win.width)
    (x y : Nat) (hy : (y : Int) < s.rows)
    (hold : NoOverhang X.cw (rowOf X.I s y) (rightEdge win s))
    (hout : ¬ visible win s (x : Int) (y : Int)) :
    (displayRow X (applyOps win s ops) y)[x]? = (displayRow X s y)[x]? ∧
    NoOverhang X.cw (rowOf X.I (applyOps win s ops) y) (rightEdge win s) := by
  have hd := applyOps_dims win ops s
  have hwf' : (applyOps win s ops).WF := by
    rw [VaxisModel.Lemmas.App.applyOps_eq]; exact VaxisModel.Lemmas.App.applyPuts_wf _ _ hwf
  have hlen : (rowOf X.I (applyOps win s ops) y).length = (rowOf X.I s y).length := by
    rw [rowOf_length X.I _ hwf' y (by rw [hd.2]; exact hy), rowOf_length X.I s hwf y hy, hd.1]
  have hlen0 := rowOf_length X.I s hwf y hy
  have hcols : 0 ≤ s.cols := hwf.1
  -- cells outside the clip region are unchanged
  have hsame : ∀ p : Nat, ¬ visible win s (p : Int) (y : Int) →
      (rowOf X.I (applyOps win s ops) y)[p]? = (rowOf X.I s y)[p]? := by
    intro p hp
    rw [rowOf_get, rowOf_get]
    by_cases hc : (applyOps win s ops).get (p : Int) (y : Int) = s.get (p : Int) (y : Int)
    · rw [hc]
    · exact absurd (applyOps_changed win ops s _ _ hc).1 hp
  -- the row after the calls has no overhang either
  have hnew : NoOverhang X.cw (rowOf X.I (applyOps win s ops) y) (rightEdge win s) := by
    intro p c hp hc
    rw [rowOf_get] at hc
    by_cases hch : (applyOps win s ops).get (p : Int) (y : Int) = s.get (p : Int) (y : Int)
    · rw [hch, ← rowOf_get] at hc
      rw [hlen]
      exact hold p c hp hc
    · have hvis := (applyOps_changed win ops s _ _ hch).1
      rcases applyOps_value win ops s (p : Int) (y : Int) with h | ⟨o, ho, hpx, _, hv⟩
      · exact absurd h hch
      · rw [hv] at hc
        simp only [Option.map_some, Option.some.injEq] at hc
        subst hc
        have hown := covers_own win _ _ hvis.1
        simp only [inOwnRect] at hown
        rcases hfit o ho with hrej | hf
        · omega
        · rw [hlen, hlen0]
          simp only [rightEdge] at hp ⊢
          omega
  refine ⟨?_, hnew⟩
  simp only [displayRow]
  by_cases hleft : ∀ p : Nat, p ≤ x → ¬ visible win s (p : Int) (y : Int)
  · exact display_left X.cw X.caps _ _ x hlen (fun p hp => hsame p (hleft p hp))
  · -- some cell at or left of x is in the clip region: then x is at or right of its right edge
    have hex : ∃ p : Nat, p ≤ x ∧ visible win s (p : Int) (y : Int) := by
      apply Classical.byContradiction
      intro hcon
      exact hleft (fun p hp hv => hcon ⟨p, hp, hv⟩)
    obtain ⟨p, hpx, hpv⟩ := hex
    have hxb : rightEdge win s ≤ x := by
      apply Classical.byContradiction
      intro hlt
      apply hout
      have hx1 : (x : Int) < (absOrigin win).1 + win.width := by simp only [rightEdge] at hlt; omega
      have hx2 : (x : Int) < s.cols := by simp only [rightEdge] at hlt; omega
      refine ⟨covers_extend win hn _ _ _ hpv.1 (by omega) hx1, ?_⟩
      have := hpv.2
      simp only [inScreen] at this ⊢
      omega
    have hb : rightEdge win s ≤ (rowOf X.I (applyOps win s ops) y).length := by
      rw [hlen, hlen0]; simp only [rightEdge]; omega
    refine display_right X.cw X.caps _ _ (rightEdge win s) x hlen hb hxb ?_ hnew hold
    intro q hq
    apply hsame q
    intro hv
    have hown := covers_own win _ _ hv.1
    have hs := hv.2
    simp only [inOwnRect] at hown
    simp only [inScreen] at hs
    simp only [rightEdge] at hq
    omega

/-- From the helpers' facts: every call fits (`…_fits`) and carries its display width (`Meas`). -/
theorem fit_of_meas (X : Ctx) (hX : X.Ok) (win : Win) (ops : List Op)
    (hfit : ∀ o ∈ ops, win.width ≤ o.col ∨ o.col + o.cell.w ≤ win.width) (hmeas : ∀ o ∈ ops, Meas X.lib o.cell) :
    ∀ o ∈ ops, win.width ≤ o.col ∨ o.col + cellWidth X.cw (X.I.cell o.cell) ≤ win.width := by
  intro o ho
  rw [cellWidth_of_meas X hX _ (hmeas o ho)]
  exact hfit o ho

/-- `Print`: what the terminal shows outside the window's clip region is not changed by the call. -/
theorem print_display_clip (X : Ctx) (hX : X.Ok) (win : Win) (hn : rightNested win) (s : Screen) (hwf : s.WF)
    (segs : List (Nat × List Raw)) (htext : TextOk X segs) (x y : Nat) (hy : (y : Int) < s.rows)
    (hold : NoOverhang X.cw (rowOf X.I s y) (rightEdge win s)) (hout : ¬ visible win s (x : Int) (y : Int)) :
    (displayRow X (print X.lib X.rm win s segs).1 y)[x]? = (displayRow X s y)[x]? ∧
    NoOverhang X.cw (rowOf X.I (print X.lib X.rm win s segs).1 y) (rightEdge win s) :=
  calls_display_clip X win hn s hwf _
    (fit_of_meas X hX win _ (fun o ho => Or.inr (VaxisModel.Props.C11.print_fits X.lib X.rm win segs o ho))
      (fun o ho => printGo_meas X.lib X.rm _ _ _ (flatten_ok X.lib X.rm (lib_space X hX) segs htext) _ _ o ho))
    x y hy hold hout

theorem wrap_display_clip (X : Ctx) (hX : X.Ok) (win : Win) (hn : rightNested win) (s : Screen) (hwf : s.WF)
    (segs : List (Nat × List (List Raw))) (htext : WrapTextOk X segs) (x y : Nat) (hy : (y : Int) < s.rows)
    (hold : NoOverhang X.cw (rowOf X.I s y) (rightEdge win s)) (hout : ¬ visible win s (x : Int) (y : Int)) :
    (displayRow X (wrap X.lib X.rm win s segs).1 y)[x]? = (displayRow X s y)[x]? ∧
    NoOverhang X.cw (rowOf X.I (wrap X.lib X.rm win s segs).1 y) (rightEdge win s) := by
  refine calls_display_clip X win hn s hwf _
    (fit_of_meas X hX win _ (fun o ho => Or.inr (VaxisModel.Props.C11.wrap_fits X.lib X.rm win segs o ho)) (fun o ho => ?_)) x y hy hold hout
  have hstored : wrapRemeasured = true := by decide
  simp only [wrapOps, hstored] at ho
  exact wrapGo_meas X.lib X.rm (lib_space X hX) _ _ segs htext _ _ o ho

theorem println_display_clip (X : Ctx) (hX : X.Ok) (win : Win) (hn : rightNested win) (s : Screen) (hwf : s.WF)
    (row : Int) (segs : List (Nat × List Raw)) (htext : TextOk X segs) (x y : Nat) (hy : (y : Int) < s.rows)
    (hold : NoOverhang X.cw (rowOf X.I s y) (rightEdge win s)) (hout : ¬ visible win s (x : Int) (y : Int)) :
    (displayRow X (println X.lib X.rm win s row segs) y)[x]? = (displayRow X s y)[x]? ∧
    NoOverhang X.cw (rowOf X.I (println X.lib X.rm win s row segs) y) (rightEdge win s) := by
  refine calls_display_clip X win hn s hwf _
    (fit_of_meas X hX win _ (fun o ho => Or.inr (VaxisModel.Props.C11.println_fits X.lib X.rm win row segs o ho)) (fun o ho => ?_)) x y hy hold hout
  simp only [printlnOps] at ho
  split at ho
  · cases ho
  · exact lnGo_meas X.lib X.rm _ _ _ (flatten_ok X.lib X.rm (lib_space X hX) segs htext) _ o ho

/-- `PrintTruncate` (the ellipsis has display width 1, as the app-level theorem assumes). -/
theorem printTruncate_display_clip (X : Ctx) (hX : X.Ok) (win : Win) (hn : rightNested win) (s : Screen) (hwf : s.WF)
    (row : Int) (segs : List (Nat × List Raw)) (htext : TextOk X segs) (hell : X.cw "e280a6" = 1)
    (x y : Nat) (hy : (y : Int) < s.rows)
    (hold : NoOverhang X.cw (rowOf X.I s y) (rightEdge win s)) (hout : ¬ visible win s (x : Int) (y : Int)) :
    (displayRow X (printTruncate X.lib X.rm win s row segs) y)[x]? = (displayRow X s y)[x]? ∧
    NoOverhang X.cw (rowOf X.I (printTruncate X.lib X.rm win s row segs) y) (rightEdge win s) := by
  have hell' : X.lib.cw gEllipsis = 1 := by rw [hX.coh, hX.std.ellipsis, hell]; rfl
  refine calls_display_clip X win hn s hwf _
    (fit_of_meas X hX win _ (VaxisModel.Props.C11.printTruncate_fits X.lib X.rm win row segs) (fun o ho => ?_)) x y hy hold hout
  simp only [printTruncateOps] at ho
  split at ho
  · cases ho
  · exact truncGo_meas X.lib X.rm hell' _ _ _ (flatten_ok X.lib X.rm (lib_space X hX) segs htext) _ o ho

/-- `SetCell`: a cell whose glyph fits in the rest of the window's row (always, for a glyph of width
    ≤ 1).  Without the hypothesis the statement is false of the code — finding F111b. -/
theorem setCell_display_clip (X : Ctx) (win : Win) (hn : rightNested win) (s : Screen) (hwf : s.WF)
    (col row : Int) (c : VaxisModel.Model.Window.Cell)
    (hfit : win.width ≤ col ∨ col + cellWidth X.cw (X.I.cell c) ≤ win.width)
    (x y : Nat) (hy : (y : Int) < s.rows)
    (hold : NoOverhang X.cw (rowOf X.I s y) (rightEdge win s)) (hout : ¬ visible win s (x : Int) (y : Int)) :
    (displayRow X (win.setCell s col row c) y)[x]? = (displayRow X s y)[x]? ∧
    NoOverhang X.cw (rowOf X.I (win.setCell s col row c) y) (rightEdge win s) :=
  calls_display_clip X win hn s hwf [⟨col, row, c⟩]
    (fun o ho => by simp only [List.mem_singleton] at ho; subst ho; exact hfit) x y hy hold hout

/-- `Fill` / `Clear`: a glyph of display width ≤ 1 (`Clear` fills with a blank of width 1). -/
theorem fill_display_clip (X : Ctx) (win : Win) (hn : rightNested win) (s : Screen) (hwf : s.WF)
    (c : VaxisModel.Model.Window.Cell) (hw : cellWidth X.cw (X.I.cell c) ≤ 1)
    (x y : Nat) (hy : (y : Int) < s.rows)
    (hold : NoOverhang X.cw (rowOf X.I s y) (rightEdge win s)) (hout : ¬ visible win s (x : Int) (y : Int)) :
    (displayRow X (fill win s c) y)[x]? = (displayRow X s y)[x]? ∧
    NoOverhang X.cw (rowOf X.I (fill win s c) y) (rightEdge win s) := by
  refine calls_display_clip X win hn s hwf (fillOps win c) (fun o ho => ?_) x y hy hold hout
  simp only [fillOps, List.mem_flatMap, List.mem_map] at ho
  obtain ⟨r, _, cc, hcc, rfl⟩ := ho
  have := (mem_upTo _ _).1 hcc
  right
  simp only
  omega

/-- Non-vacuity (the F111 scene): "a" in style 1 right of a 3-column window on a 4×2 screen, then
    `Print("aa世")` in the window: column 3 displays the same before and after, and the hypotheses
    hold (decide). -/
example :
    let s0 := (Win.root 0 0 4 2).setCell (Screen.resize 4 2) 3 0 ⟨5, 0, 1⟩
    let A := (Win.root 0 0 4 2).new 0 0 3 2
    let s1 := (print exX.lib exX.rm A s0 [(0, [⟨5, 1, false⟩, ⟨5, 1, false⟩, ⟨6, 2, false⟩])]).1
    rightNested A ∧ rightEdge A s0 = 3 ∧ ¬ visible A s0 3 0 ∧
    (displayRow exX s1 0)[3]? = (displayRow exX s0 0)[3]? ∧
    (displayRow exX s1 1)[0]? = some (.glyph "e4b896" 2 {} "" "") := by decide

end VaxisModel.Props.C11Display
