/-
C11: `Clear`'s reset of graphics placements, stated over the join of the
window model with C20's placement model (`Model/AppGfx.lean`).
-/
import VaxisModel.Model.AppGfx

namespace VaxisModel.Props.C11Gfx
open VaxisModel.Model.Window VaxisModel.Model.App VaxisModel.Model.AppGfx VaxisModel.Model
open VaxisModel.Spec.Images (Placement)

/-- **`Clear` on any window — the screen, a child, a window that covers nothing — drops every
    placement requested for the next frame**, not only those inside the window; the cells are
    cleared only inside the window's clip region (`Props.C11.clear_clip`). -/
theorem clear_resets_all_placements (lib : Lib) (rm : Bool) (s : VxG) (win : Win) :
    (step lib rm s (.draw (.clear win))).1.gfx.next = [] ∧
    (step lib rm s (.draw (.clear win))).1.gfx.last = s.gfx.last ∧
    (step lib rm s (.draw (.clear win))).1.v.scr = clear win s.v.scr := by
  simp [step, Placements.step, Placements.stepWith, draw]

/-- Consequently the `Render` after a `Clear` that is not followed by new `Draw`s deletes every
    placement of the previous frame and transmits none. -/
theorem render_after_clear_deletes_all (lib : Lib) (rm : Bool) (s : VxG) (win : Win) :
    (step lib rm (step lib rm s (.draw (.clear win))).1 .render).2 = some ⟨s.gfx.last, []⟩ := by
  simp [step, Placements.step, Placements.stepWith, Placements.renderWith]

/-- No other drawing call touches the placements. -/
theorem draw_keeps_placements (lib : Lib) (rm : Bool) (s : VxG) (d : DrawOp) (h : ∀ win, d ≠ .clear win) :
    (step lib rm s (.draw d)).1.gfx = s.gfx := by
  cases d <;> first | rfl | exact absurd rfl (h _)

example : (step ⟨fun _ => 1, fun _ => false, fun _ => false⟩ true
    ⟨Vx.init 4 2, ⟨[⟨1, 0, 0, 2, 1⟩], [⟨1, 0, 0, 2, 1⟩], false⟩⟩ (.draw (.clear (Win.root 3 1 1 1)))).1.gfx.next = [] := by
  decide

end VaxisModel.Props.C11Gfx
