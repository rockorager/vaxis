/-
C12 — A Vaxis application renders correctly inside the embedded terminal.

Composition. The renderer side is C01/C07 specialised to the capability set Vaxis detects when
its terminal is the embedded emulator; the emulator side is C06 (refinement of the reference
terminal); the end-to-end statement on the real code (real renderer bytes → real parser → real
emulator → snapshot = application's screen; Draw into a host window; start-up replies) is
checked by the C12 correspondence stream.
-/
import VaxisModel.Props.C07
import VaxisModel.Props.C01Display
import VaxisModel.Lemmas.C12Vocab
import VaxisModel.Props.C01Clip
import VaxisModel.Lemmas.C12Draw
import VaxisModel.Lemmas.C12Replies
import VaxisModel.Lemmas.C12Wire
import VaxisModel.Lemmas.C12Cluster
import VaxisModel.Lemmas.C12Frame
import VaxisModel.Lemmas.C12StartAny
import VaxisModel.Props.C05Draw
import VaxisModel.Props.C05

namespace VaxisModel.Props.C12
open VaxisModel.Model.Render VaxisModel.Spec VaxisModel.Spec.Display VaxisModel.Lemmas.RenderGate
open VaxisModel.Model.Emu (Emu EOp G M runOps)
open VaxisModel.Model.C12Compose VaxisModel.Lemmas.C12Sim VaxisModel.Lemmas.C12Vocab
open VaxisModel.Props.C01 (CursorAs Agree)
open VaxisModel.Props.C01Display (FrameIn HState mkFrame stepH FrameInOk Ready)

/-- What Vaxis detects inside the emulator that matters to the renderer and writer: no direct
    colour, no styled underlines, no explicit width, no synchronized output (the emulator's replies
    advertise sixel graphics and Unicode-core mode only). -/
def emuCaps : Caps := { rgb := false, styledUnderlines := false, explicitWidth := false, sync := false }

/-- The vocabulary the renderer uses inside the emulator: CUP, SGR with basic, bright and
    256-colour parameters only (no `38:2`/`48:2`/`58`/`59`/`4:n`), OSC 8, raw text (no OSC 66),
    cursor visibility (mode 25) and shape, pointer shape — and nothing else. -/
def EmuVocab : Tok → Prop
  | .cup _ _ | .osc8 _ _ | .text _ | .cursorStyle _ | .pointer _ => True
  | .sgr ps => ps.any isDirect = false ∧ ps.any isStyledUl = false
  | .decset n | .decrst n => n = 25
  | .textW _ _ | .other _ => False

/-- **Every frame rendered under the emulator's capability set stays inside that vocabulary**,
    for all grids, styles and cursor requests. -/
theorem emu_frames_vocabulary (cw : String → Nat) (f : Frame) (h : f.caps = emuCaps) :
    ∀ k ∈ (renderFrame cw f).2, EmuVocab k := by
  intro k hk
  have ha := C07.render_gated cw f k hk
  rw [h] at ha
  -- `other` tokens are never produced by the renderer model
  have hne : ∀ r, k ≠ Tok.other r :=
    Lemmas.RenderToks.renderFrame_all (P := fun k => ∀ r, k ≠ Tok.other r) cw f (by intro _; nofun) (by intro _; nofun)
      (by intro _ _ _; nofun)
      (fun _ _ n _ => ⟨fun pen k hk r hr => by
          have := Lemmas.RenderDisplay.penDelta_style f.caps pen n.style k hk
          subst hr; exact this,
        by unfold glyphTok glyphTokW; intro r; split <;> (try split) <;> nofun⟩)
      (fun _ k hk => by simp [showCursorToks] at hk; rcases hk with rfl | rfl | rfl <;> (intro _; nofun))
      (by intro _; nofun) (fun _ => ⟨by intro _; nofun, by intro _; nofun⟩) (by intro _; nofun) k hk
  cases k with
  | cup r c => trivial
  | sgr ps => simpa [EmuVocab, allowedTok, emuCaps] using ha
  | osc8 p u => trivial
  | text g => trivial
  | textW w g => simp [allowedTok, emuCaps] at ha
  | decset n => simpa [EmuVocab, allowedTok, emuCaps] using ha
  | decrst n => simpa [EmuVocab, allowedTok, emuCaps] using ha
  | cursorStyle n => trivial
  | pointer s => trivial
  | other r => exact absurd rfl (hne r)

/-- **Reference display under the emulator's capabilities.** After every frame of every admissible
    history the reference terminal shows exactly the application's screen (C01 `history_displays`
    at `emuCaps`); `emu_refines_term` (C06) transfers this to the emulator's grid. -/
theorem emu_reference_display (cw : String → Nat) (hsp : cw "20" = 1) (rows cols : Nat)
    (fi0 : C01Display.FrameIn) (fis : List C01Display.FrameIn) (h0 : fi0.refresh = true)
    (hok : ∀ fi ∈ fi0 :: fis, C01Display.FrameInOk cw emuCaps rows cols fi) (fi : C01Display.FrameIn)
    (hlast : (fi0 :: fis).getLast? = some fi) :
    ((fi0 :: fis).foldl (C01Display.stepH cw emuCaps) ⟨Term.init cols rows, blankGrid cols rows, {}, ""⟩).t.grid
      = Expected.expected cw emuCaps fi.next :=
  (C01Display.history_displays cw emuCaps hsp rows cols fi0 fis h0 hok fi hlast).1

/-- The emulator state `e` shows the application's frame `fi`: every cell of the active grid shows
    the corresponding cell of the application's screen (`Spec.Expected`, the same meaning of the
    screen as in C01: grapheme bytes, width, colours and attributes as displayed under `emuCaps`,
    underline, hyperlink URL and parameters; the cells covered by a wide glyph are read by shadowing),
    and the hardware cursor is hidden, or visible at the requested position in the requested shape. -/
def Shows (dec : String → G) (cw : String → Nat) (fi : FrameIn) (e : Emu) : Prop :=
  GridRel dec (Expected.expected cw emuCaps fi.next) e.active ∧
  (if fi.cursor.visible then
     e.mode.dectcem = true ∧ e.cur.row = fi.cursor.row ∧ e.cur.col = fi.cursor.col ∧ e.cur.shape = (fi.cursor.style : Int)
   else e.mode.dectcem = false)

/-- What the composition asks of a frame beyond C01's `FrameInOk`: every grapheme has width ≤ 2 and,
    when its width is positive, at least one byte; the cursor shape value fits a CSI parameter. (Hyperlink
    parameter strings are not restricted: `render()` cuts the field at the first `;` — F112b —, and the composition
    theorems take `LpOk dec`.) -/
def EmuFrameOk (dec : String → G) (cw : String → Nat) (fi : FrameIn) : Prop :=
  (∀ r ∈ fi.next, ∀ c ∈ r, CellOk dec cw c) ∧ fi.cursor.style ≤ 65535

theorem frameOkC_of_plain (dec : String → G) (cw : String → Nat) (caps : Caps) (rows cols : Nat) (fi : FrameIn)
    (h1 : fi.next.length = rows) (h2 : ∀ r ∈ fi.next, r.length = cols)
    (hc : ∀ r ∈ fi.next, ∀ c ∈ r, c.sixel = false ∧ c.w = 0 ∧ cw c.g ≤ 2 ∧ (cw c.g ≠ 0 → dec c.g ≠ []))
    (hs : fi.cursor.style ≤ 65535)
    (hv : fi.cursor.visible = true →
      (0 ≤ fi.cursor.row ∧ fi.cursor.row < rows) ∧ (0 ≤ fi.cursor.col ∧ fi.cursor.col < cols)) :
    C01Clip.FrameInOkC cw caps rows cols fi ∧ EmuFrameOk dec cw fi :=
  ⟨⟨h1, h2, fun r hr c hm => ⟨(hc r hr c hm).1, by rw [(hc r hr c hm).2.1]; decide, Or.inl (hc r hr c hm).2.1⟩, hv⟩,
   fun r hr c hm => (hc r hr c hm).2.2, hs⟩

/-- The emulator model fed, frame after frame, what the renderer model writes (`opsOfToks`: the
    parsed sequences of the tokens), alongside C01's history state (terminal of reference, `last`
    buffer, cursor and pointer shape of the previous frame). -/
def runFrames (dec : String → G) (cw : String → Nat) : HState → Emu → List FrameIn → M Emu
  | _, e, [] => .ok e
  | s, e, fi :: rest => do
    let e' ← runOps e (opsOfToks dec cw (renderFrame cw (mkFrame emuCaps s fi)).2)
    runFrames dec cw (stepH cw emuCaps s fi) e' rest

/-- What is carried from frame to frame. -/
structure Linked (dec : String → G) (cw : String → Nat) (s : HState) (e : Emu) (rows cols : Nat) : Prop where
  ready : Ready s.t s.last rows cols
  cursor : CursorAs s.t s.cursor
  sim : DSim dec s.t e rows cols

/-- **One frame.** From linked states, the emulator model runs the frame's sequences without panic,
    ends linked again, and shows the application's screen and cursor. -/
theorem emu_frame_shows (dec : String → G) (cw : String → Nat) (hsp : cw "20" = 1) (hd : dec "20" = [32]) (hemp : dec "" = []) (hlp : LpOk dec)
    (rows cols : Nat) (s : HState) (e : Emu) (fi : FrameIn) (hl : Linked dec cw s e rows cols)
    (hag : fi.refresh = false → Agree cw emuCaps s.t s.last)
    (hok : FrameInOk cw emuCaps rows cols fi) (hok2 : EmuFrameOk dec cw fi) :
    ∃ e', runOps e (opsOfToks dec cw (renderFrame cw (mkFrame emuCaps s fi)).2) = .ok e' ∧
      Linked dec cw (stepH cw emuCaps s fi) e' rows cols ∧
      Agree cw emuCaps (stepH cw emuCaps s fi).t (stepH cw emuCaps s fi).last ∧
      Shows dec cw fi e' := by
  have hcur : CursorAs (stepH cw emuCaps s fi).t fi.cursor := by
    refine C01.cursor_as_requested cw cw (mkFrame emuCaps s fi) s.t ?_ hl.cursor
    rw [hl.ready.trows, hl.ready.tcols]; exact hok.2.2.2.2
  obtain ⟨e', hr, r1, s1, a1, _, g1, c1, _⟩ := Lemmas.C12Frame.frame_shows (caps := emuCaps) rfl rfl hsp hd hemp hlp s fi
    hl.ready hl.sim hag hok hok2.1 hok2.2 (fun h => by cases h) hcur
  exact ⟨e', hr, ⟨r1, hcur, s1⟩, a1, g1, c1⟩

/-- **Histories, from any linked pair** that still shows the previous frame — or whose first frame is a
    refresh. -/
theorem emu_history_shows (dec : String → G) (cw : String → Nat) (hsp : cw "20" = 1) (hd : dec "20" = [32]) (hemp : dec "" = []) (hlp : LpOk dec)
    (rows cols : Nat) :
    ∀ (fis : List FrameIn) (s : HState) (e : Emu), Linked dec cw s e rows cols →
      (∀ fi, fis.head? = some fi → fi.refresh = false → Agree cw emuCaps s.t s.last) →
      (∀ fi ∈ fis, FrameInOk cw emuCaps rows cols fi ∧ EmuFrameOk dec cw fi) → ∀ fi, fis.getLast? = some fi →
      ∃ e', runFrames dec cw s e fis = .ok e' ∧ Shows dec cw fi e' ∧ Lemmas.Emu.EmuInv e' rows cols := by
  intro fis
  induction fis with
  | nil => intro s e _ _ _ fi h; simp at h
  | cons a rest ih =>
    intro s e hl hag hok fi hlast
    obtain ⟨e1, hr1, hl1, ag1, sh1⟩ := emu_frame_shows dec cw hsp hd hemp hlp rows cols s e a hl (hag a rfl)
      (hok a (by simp)).1 (hok a (by simp)).2
    cases rest with
    | nil =>
      simp only [List.getLast?_singleton, Option.some.injEq] at hlast
      subst hlast
      exact ⟨e1, by simp only [runFrames, hr1, bind, Except.bind], sh1, hl1.sim.inv⟩
    | cons b rest' =>
      rw [List.getLast?_cons_cons] at hlast
      obtain ⟨e2, hr2, sh2⟩ := ih (stepH cw emuCaps s a) e1 hl1 (fun _ _ _ => ag1) (fun fi h => hok fi (by simp [h])) fi hlast
      exact ⟨e2, by simp only [runFrames, hr1, bind, Except.bind]; exact hr2, sh2⟩

/-- The reference display at start-up: blank, cursor hidden (Vaxis hides the cursor when it starts). -/
def startDisplay (cols rows : Nat) : Term := { Term.init cols rows with cursorVisible := false }

def startState (cols rows : Nat) : HState := ⟨startDisplay cols rows, blankGrid cols rows, {}, ""⟩

theorem start_ready (cols rows : Nat) : Ready (startDisplay cols rows) (blankGrid cols rows) rows cols :=
  { C01Display.init_ready cols rows with }

/-- **C12, composition theorem, for all frame histories.** Take any emulator state `e0` that shows
    the blank screen with the cursor hidden (`DSim … (startDisplay cols rows) e0`; `emu_start_related`
    gives one for every size: `New()`, `resize`, `CSI ? 25 l`). For every history of admissible frames
    (C01's `FrameInOk` at the capability set detected inside the emulator, plus `EmuFrameOk`), the
    first one a refresh (as Vaxis forces after a resize), feeding the emulator model the parsed
    sequences of what the renderer model writes, frame after frame, never panics, and after the last
    frame — hence, the hypothesis being prefix closed, after EVERY frame — the emulator's grid shows
    the application's screen cell for cell (grapheme, width, colours, attributes, underline,
    hyperlink and its parameters) and its cursor is hidden or visible at the requested position in
    the requested shape. -/
theorem emu_shows_application (dec : String → G) (cw : String → Nat) (hsp : cw "20" = 1) (hd : dec "20" = [32]) (hemp : dec "" = []) (hlp : LpOk dec)
    (rows cols : Nat) (e0 : Emu) (h0 : DSim dec (startDisplay cols rows) e0 rows cols)
    (fi0 : FrameIn) (fis : List FrameIn) (hr0 : fi0.refresh = true)
    (hok : ∀ fi ∈ fi0 :: fis, FrameInOk cw emuCaps rows cols fi ∧ EmuFrameOk dec cw fi)
    (fi : FrameIn) (hlast : (fi0 :: fis).getLast? = some fi) :
    ∃ e', runFrames dec cw (startState cols rows) e0 (fi0 :: fis) = .ok e' ∧ Shows dec cw fi e' ∧
      Lemmas.Emu.EmuInv e' rows cols :=
  emu_history_shows dec cw hsp hd hemp hlp rows cols (fi0 :: fis) (startState cols rows) e0
    ⟨start_ready cols rows, by simp [CursorAs, startState, startDisplay], h0⟩
    (fun fi h hf => by cases h; rw [hr0] at hf; cases hf) hok fi hlast

/-- A start state exists for every size 1×1 … 65535²: the emulator after `New()`, `resize(w, h)` and
    `CSI ? 25 l` shows the blank screen with the cursor hidden. -/
theorem emu_start_related (dec : String → G) (hemp : dec "" = []) (w h : Int) (hw1 : 1 ≤ w) (hw2 : w ≤ 65535)
    (hh1 : 1 ≤ h) (hh2 : h ≤ 65535) :
    ∃ e0 e1, Model.Emu.Emu.new Model.Emu.Fixes.current w h = .ok e0 ∧
      runOps e0 [.csi [63, 108] [(25, [])]] = .ok e1 ∧
      DSim dec (startDisplay w.toNat h.toNat) e1 h.toNat w.toNat := by
  -- the one recogniser of start states: `StartP` of the new state survives `CSI ? 25 l`
  have h1 := Lemmas.C12StartAny.startP_mode (Lemmas.C12StartAny.startP_new w h hw1 hw2 hh1 hh2)
    { (Lemmas.EmuRefine.newState w h).mode with dectcem := false } rfl rfl rfl rfl
  exact ⟨_, _, Lemmas.EmuRefine.new_eq w h (by omega) (by omega), runOps_single (Lemmas.C12StartAny.hide_step _),
    dsim_of_startCheck hemp _ _ _ h1.inv ⟨by omega, by omega, by omega, by omega⟩ (Lemmas.C12StartAny.startCheck_of h1 rfl)⟩

/-- A width function and a byte decoding for the example: "" has width 0 and no bytes, "57" is wide. -/
def cwEx : String → Nat := fun g => if g = "" then 0 else if g = "57" then 2 else 1
def decEx : String → G := fun s => if s = "" then [] else if s = "20" then [32] else [97]

theorem lpOk_decEx : LpOk decEx := by
  intro s
  unfold decEx
  split
  · simp
  · split <;> simp

def grid1 : Grid := [[({ g := "57" } : Cell), {}, { g := "61", style := { fg := 16777217, attr := 2, link := "68", linkParams := "69" } }]]
def grid2 : Grid := [[({ g := "62" } : Cell), { g := "63" }, { g := "61", style := { fg := 16777217, attr := 2 } }]]

/-- All hypotheses of `emu_shows_application` hold for a two-frame history on a 3×1 emulator started
    as `emu_start_related` says (a refresh with a wide glyph and a hyperlinked, coloured, bold cell;
    then a diff frame that replaces the wide glyph by two narrow ones, drops the hyperlink and shows
    the cursor): the theorem applies to a concrete non-trivial history. -/
example :
    let fi0 : FrameIn := ⟨true, grid1, {}, ""⟩
    let fi1 : FrameIn := ⟨false, grid2, { visible := true, col := 1, style := 3 }, "text"⟩
    ∃ e0 e1 e', Model.Emu.Emu.new Model.Emu.Fixes.current 3 1 = .ok e0 ∧
      runOps e0 [.csi [63, 108] [(25, [])]] = .ok e1 ∧
      runFrames decEx cwEx (startState 3 1) e1 [fi0, fi1] = .ok e' ∧ Shows decEx cwEx fi1 e' := by
  intro fi0 fi1
  obtain ⟨e0, e1, h0, h1, hs⟩ := emu_start_related decEx rfl 3 1 (by decide) (by decide) (by decide) (by decide)
  have hfits : ∀ (g : Grid), (g = grid1 ∨ g = grid2) → C01.Fits cwEx g := by
    intro g hg r hr
    rcases hg with rfl | rfl <;>
    · simp only [grid1, grid2, List.mem_cons, List.not_mem_nil, or_false] at hr
      subst hr
      simp [C01.FitsRow, Expected.cellWidth, cwEx]
  have hok : ∀ (fi : FrameIn), (fi.next = grid1 ∨ fi.next = grid2) →
      C01Clip.FrameInOkC cwEx emuCaps 1 3 fi ∧ EmuFrameOk decEx cwEx fi →
      FrameInOk cwEx emuCaps 1 3 fi ∧ EmuFrameOk decEx cwEx fi :=
    fun fi hg h => ⟨⟨h.1.1, h.1.2.1, hfits _ hg, h.1.2.2.1, h.1.2.2.2⟩, h.2⟩
  obtain ⟨e', hr, hsh⟩ := emu_shows_application decEx cwEx rfl rfl rfl lpOk_decEx 1 3 e1 hs fi0 [fi1] rfl
    (by
      intro fi hfi
      simp only [List.mem_cons, List.not_mem_nil, or_false] at hfi
      rcases hfi with rfl | rfl
      · exact hok _ (Or.inl rfl)
          (frameOkC_of_plain _ _ _ 1 3 _ rfl (by decide) (by decide) (by decide) (fun h => absurd h (by decide)))
      · exact hok _ (Or.inr rfl)
          (frameOkC_of_plain _ _ _ 1 3 _ rfl (by decide) (by decide) (by decide) (fun _ => by decide)))
    fi1 rfl
  exact ⟨e0, e1, e', h0, h1, hr, hsh.1⟩

open VaxisModel.Props.C01Clip (FrameInOkC clipIn stepHC stepHC_eq clipIn_ok) in
/-- The emulator model fed what the repaired renderer (`renderFrameC`, /repo 990e1a4) writes. -/
def runFramesC (dec : String → G) (cw : String → Nat) : HState → Emu → List FrameIn → M Emu
  | _, e, [] => .ok e
  | s, e, fi :: rest => do
    let e' ← runOps e (opsOfToks dec cw (renderFrameC cw (mkFrame emuCaps s fi)).2)
    runFramesC dec cw (stepHC cw emuCaps s fi) e' rest

/-- `Shows` with the meaning of the screen of the repaired renderer: a glyph that does not fit in the
    rest of its row shows as a blank in its style (`Spec.Expected.expectedC`). -/
def ShowsC (dec : String → G) (cw : String → Nat) (fi : FrameIn) (e : Emu) : Prop :=
  GridRel dec (Expected.expectedC cw emuCaps fi.next) e.active ∧
  (if fi.cursor.visible then
     e.mode.dectcem = true ∧ e.cur.row = fi.cursor.row ∧ e.cur.col = fi.cursor.col ∧ e.cur.shape = (fi.cursor.style : Int)
   else e.mode.dectcem = false)

theorem runFramesC_eq (dec : String → G) (cw : String → Nat) :
    ∀ (fis : List FrameIn) (s : HState) (e : Emu),
      runFramesC dec cw s e fis = runFrames dec cw s e (fis.map (C01Clip.clipIn cw)) := by
  intro fis
  induction fis with
  | nil => intro s e; rfl
  | cons a rest ih =>
    intro s e
    simp only [runFramesC, runFrames, List.map_cons, C01Clip.stepHC_eq, ih]
    rw [C01Clip.renderFrameC_toks]

theorem clipIn_emuOk (dec : String → G) (cw : String → Nat) (hsp : cw "20" = 1) (hd : dec "20" = [32]) (fi : FrameIn)
    (h : EmuFrameOk dec cw fi) : EmuFrameOk dec cw (C01Clip.clipIn cw fi) :=
  ⟨Lemmas.C12Frame.clipIn_cellOk hsp hd fi h.1, h.2⟩

/-- **C12, composition theorem for the renderer as it is now, for all frame histories.** As
    `emu_shows_application`, over `renderFrameC` (the transcription of `render()` after the F02 repair),
    with C01's `FrameInOkC` (no hypothesis about glyphs fitting their row): after every frame the
    emulator's grid shows the application's screen cell for cell — a glyph that cannot be shown because
    it is wider than the rest of its row shows as a blank in its style — and the cursor is as requested. -/
theorem emu_shows_application_now (dec : String → G) (cw : String → Nat) (hsp : cw "20" = 1) (hd : dec "20" = [32])
    (hemp : dec "" = []) (hlp : LpOk dec) (rows cols : Nat) (e0 : Emu) (h0 : DSim dec (startDisplay cols rows) e0 rows cols)
    (fi0 : FrameIn) (fis : List FrameIn) (hr0 : fi0.refresh = true)
    (hok : ∀ fi ∈ fi0 :: fis, C01Clip.FrameInOkC cw emuCaps rows cols fi ∧ EmuFrameOk dec cw fi)
    (fi : FrameIn) (hlast : (fi0 :: fis).getLast? = some fi) :
    ∃ e', runFramesC dec cw (startState cols rows) e0 (fi0 :: fis) = .ok e' ∧ ShowsC dec cw fi e' ∧
      Lemmas.Emu.EmuInv e' rows cols := by
  rw [runFramesC_eq]
  obtain ⟨e', hr, hs⟩ := emu_shows_application dec cw hsp hd hemp hlp rows cols e0 h0 (C01Clip.clipIn cw fi0)
    (fis.map (C01Clip.clipIn cw)) hr0
    (by
      intro x hx
      simp only [← List.map_cons, List.mem_map] at hx
      obtain ⟨y, hy, rfl⟩ := hx
      exact ⟨C01Clip.clipIn_ok cw emuCaps hsp rows cols y (hok y hy).1, clipIn_emuOk dec cw hsp hd y (hok y hy).2⟩)
    (C01Clip.clipIn cw fi)
    (by rw [← List.map_cons, List.getLast?_map, hlast]; rfl)
  refine ⟨e', by simpa [List.map_cons] using hr, ?_, hs.2⟩
  have hs1 := hs.1
  unfold ShowsC
  unfold Shows at hs1
  rw [Lemmas.RenderClip.expectedC_eq]
  exact hs1

def gridF02 : Grid := [[({ g := "61" } : Cell), { g := "57", style := { fg := 16777217 } }]]
def fiF02 : FrameIn := ⟨true, gridF02, {}, ""⟩

theorem runFramesC_append (dec : String → G) (cw : String → Nat) :
    ∀ (a b : List FrameIn) (s : HState) (e : Emu),
      runFramesC dec cw s e (a ++ b) =
        (runFramesC dec cw s e a >>= fun e1 => runFramesC dec cw (a.foldl (C01Clip.stepHC cw emuCaps) s) e1 b) := by
  intro a
  induction a with
  | nil => intro b s e; rfl
  | cons x xs ih =>
    intro b s e
    simp only [List.cons_append, runFramesC, List.foldl_cons, Except.bind_bind]
    exact bind_congr fun e1 => ih b _ e1

/-- **After EVERY frame.** For every `k`, the run over the first `k + 1` frames of an admissible
    history ends in an emulator state that shows frame `k` — and the run over the whole history passes
    through that state (`runFramesC_append`). -/
theorem emu_shows_every_frame (dec : String → G) (cw : String → Nat) (hsp : cw "20" = 1) (hd : dec "20" = [32])
    (hemp : dec "" = []) (hlp : LpOk dec) (rows cols : Nat) (e0 : Emu) (h0 : DSim dec (startDisplay cols rows) e0 rows cols)
    (fi0 : FrameIn) (fis : List FrameIn) (hr0 : fi0.refresh = true)
    (hok : ∀ fi ∈ fi0 :: fis, C01Clip.FrameInOkC cw emuCaps rows cols fi ∧ EmuFrameOk dec cw fi)
    (k : Nat) (fk : FrameIn) (hk : (fi0 :: fis)[k]? = some fk) :
    ∃ ek, runFramesC dec cw (startState cols rows) e0 ((fi0 :: fis).take (k + 1)) = .ok ek ∧ ShowsC dec cw fk ek ∧
      runFramesC dec cw (startState cols rows) e0 (fi0 :: fis) =
        runFramesC dec cw (((fi0 :: fis).take (k + 1)).foldl (C01Clip.stepHC cw emuCaps) (startState cols rows)) ek
          ((fi0 :: fis).drop (k + 1)) := by
  have htake : (fi0 :: fis).take (k + 1) = fi0 :: fis.take k := rfl
  have hlast : (fi0 :: fis.take k).getLast? = some fk := htake ▸ Lemmas.ListBasic.getLast?_take_succ hk
  obtain ⟨ek, hr, hs, _⟩ := emu_shows_application_now dec cw hsp hd hemp hlp rows cols e0 h0 fi0 (fis.take k) hr0
    (by
      intro fi hfi
      apply hok
      rcases List.mem_cons.mp hfi with rfl | h
      · simp
      · exact List.mem_cons_of_mem _ (List.mem_of_mem_take h))
    fk hlast
  refine ⟨ek, by rw [htake]; exact hr, hs, ?_⟩
  have hsplit : fi0 :: fis = (fi0 :: fis).take (k + 1) ++ (fi0 :: fis).drop (k + 1) := (List.take_append_drop _ _).symm
  conv => lhs; rw [hsplit]
  rw [runFramesC_append, htake, hr]
  rfl

/-- Non-vacuity / the F02 input: a wide glyph in the last column of a 2×1 emulator. The theorem
    applies (no fitting hypothesis) and the emulator shows a blank in the glyph's style there. -/
example :
    ∃ e0 e1 e', Model.Emu.Emu.new Model.Emu.Fixes.current 2 1 = .ok e0 ∧
      runOps e0 [.csi [63, 108] [(25, [])]] = .ok e1 ∧
      runFramesC decEx cwEx (startState 2 1) e1 [fiF02] = .ok e' ∧ ShowsC decEx cwEx fiF02 e' := by
  obtain ⟨e0, e1, h0, h1, hs⟩ := emu_start_related decEx rfl 2 1 (by decide) (by decide) (by decide) (by decide)
  obtain ⟨e', hr, hsh⟩ := emu_shows_application_now decEx cwEx rfl rfl rfl lpOk_decEx 1 2 e1 hs fiF02 [] rfl
    (by
      intro fi hfi
      simp only [List.mem_cons, List.not_mem_nil, or_false] at hfi
      subst hfi
      exact frameOkC_of_plain _ _ _ 1 2 _ rfl (by decide) (by decide) (by decide) (fun h => absurd h (by decide)))
    fiF02 rfl
  exact ⟨e0, e1, e', h0, h1, hr, hsh.1⟩

open VaxisModel.Model.EmuDraw VaxisModel.Lemmas.C12Draw VaxisModel.Lemmas.EmuDraw in
/-- **Draw reproduces the screen in a host window of the same size.** If the emulator's active grid
    shows the screen `D` (what the composition theorems deliver: `D` = the application's screen), then
    `Draw` into a `cols × rows` host window does not resize, and its `SetCell` calls are, row by row,
    exactly one call per glyph cell of `D` (blanks included) and none for the cells covered by a wide
    glyph; each call carries a cell that shows that glyph (grapheme bytes, width — 0 = "measure" for a
    never written cell —, displayed style, hyperlink and parameters: `HostRel`) and lands on the host
    cell with the same coordinates. -/
theorem draw_reproduces_screen (dec : String → G) (cw : String → Nat) (g : Grid) (e : Emu) (rows cols : Nat)
    (hinv : Lemmas.Emu.EmuInv e rows cols) (hd : Lemmas.Emu.Dim rows cols)
    (hrel : GridRel dec (Expected.expected cw emuCaps g) e.active) (focused : Bool) :
    ∃ per : List (List DrawCall),
      draw true Model.Emu.Fixes.current e cols rows focused =
        .ok ({ e with hasVx := true }, per.flatten, shownCursor true e focused) ∧
      per.length = rows ∧
      ∀ (k : Nat) (l : List DrawCall), per[k]? = some l →
        ∃ drow, (Expected.expected cw emuCaps g)[k]? = some drow ∧
          (∀ call ∈ l, ∃ (j : Nat) (d : DCell), call.col = (j : Int) ∧ call.row = (k : Int) ∧ drow[j]? = some d ∧
            d ≠ .cont ∧ HostRel dec d call.cell ∧
            setCellChain cols rows [Win.root cols rows] call.col call.row = some ((j : Int), (k : Int))) ∧
          (∀ (j : Nat) (d : DCell), drow[j]? = some d → d ≠ .cont → ∃ call ∈ l, call.col = (j : Int)) :=
  Lemmas.C12Frame.draw_shows dec cw emuCaps g e rows cols hinv hd hrel focused

/-- The cursor Draw shows in a focused host window is the application's cursor. -/
theorem draw_shows_cursor (dec : String → G) (cw : String → Nat) (fi : FrameIn) (e : Emu) (rows cols : Nat)
    (hinv : Lemmas.Emu.EmuInv e rows cols) (hs : Shows dec cw fi e)
    (hcol : fi.cursor.visible = true → fi.cursor.col < cols) :
    Model.EmuDraw.shownCursor true e true =
      (if fi.cursor.visible then some (fi.cursor.col, fi.cursor.row) else none) :=
  Lemmas.C12Frame.draw_cursor hinv hs.2 hcol

open VaxisModel.Model.C12Replies VaxisModel.Lemmas.C12Replies in
/-- **The start-up reply exchange, over the models, from ANY emulator state.** The emulator model run
    over the sequences `sendQueries()` writes (`startupQueries`, compared with what the real Vaxis
    writes on every run) never panics and replies exactly: DECRPM 2026 → 0, 2027 → 3, 2031 → 0, the
    cursor position 1;1 after `CSI H`, the background colour (only with a host attached that knows
    it), DA1 `? 62 ; 4 ; 22 c`. C03's model of `handleSequence` and of the collection loop of `New()`
    turns these replies into: sixels, unicodeCore, (osc11 iff that colour reply came) — nothing else.
    In particular the four capabilities the renderer consults are those of `emuCaps`, the capability
    set of the composition theorem. -/
theorem emu_caps_exact (hostBg : Option (Nat × Nat × Nat)) (e : Emu) :
    ∃ e' rs caps, runQ hostBg e startupQueries = .ok (e', rs) ∧ capsFrom rs = .ok caps ∧
      caps = { sixels := true, unicodeCore := true, osc11 := e.hasVx && hostBg.isSome } ∧
      ({ rgb := caps.rgb, styledUnderlines := caps.styledUnderlines, explicitWidth := caps.explicitWidth,
         sync := caps.synchronizedUpdate } : Caps) = emuCaps := by
  obtain ⟨e', he⟩ := run_startup hostBg e
  exact ⟨e', _, _, he, caps_of_startupReplies hostBg e, rfl, rfl⟩

open VaxisModel.Model.C12Replies in
/-- **What is not detected is not there**: in every state the emulator model ignores the modes Vaxis
    asked about and did not detect (2026 synchronized output, 2031 colour-theme updates, 2048 in-band
    resize: set and reset change nothing), the kitty keyboard protocol (`CSI ? u`, `CSI > n u`,
    `CSI < u`, `CSI = n u`: no dispatch arm) and the explicit-width probe (OSC 66). What IS detected:
    DA1 attribute 4 stands for the sixel DCS branch of `update()` (graphics are outside this model:
    modelled-not-verified), DECRPM 2027 = 3 for the fact that `update()` receives whole grapheme
    clusters (`EOp.print g w`). -/
theorem undetected_is_ignored (e : Emu) (n : Int) (hn : n = 2026 ∨ n = 2031 ∨ n = 2048) (pm : List Model.Emu.Param) :
    Model.Emu.emuStep e (.csi [63, 104] [(n, [])]) = .ok (e, 0) ∧
    Model.Emu.emuStep e (.csi [63, 108] [(n, [])]) = .ok (e, 0) ∧
    Model.Emu.emuStep e (.csi [63, 117] pm) = .ok (e, 0) ∧ Model.Emu.emuStep e (.csi [62, 117] pm) = .ok (e, 0) ∧
    Model.Emu.emuStep e (.csi [60, 117] pm) = .ok (e, 0) ∧ Model.Emu.emuStep e (.csi [61, 117] pm) = .ok (e, 0) ∧
    Model.Emu.emuStep e (.osc [54, 54, 59, 119, 61, 49, 59, 32] {}) = .ok (e, 0) := by
  rcases hn with rfl | rfl | rfl <;> exact ⟨rfl, rfl, rfl, rfl, rfl, rfl, rfl⟩

/-! ### Extractor facts: the reply writers and `sendQueries()` as they are in the source now

`Gen/TermReplies.lean` is regenerated from /repo on every run (extract/cmd/C12): the literals
`csi()` writes for DA1 / DA2 / DSR, the format and arguments of the cursor-position report and of the
DECRPM answer, the literal arms of `decrqm()`, the statements of `sendQueries()` in source order, and
the constants and format functions of sequences.go. The theorems below pin the hand-written model
(`Model/C12Replies.lean`) to them: a change of any of these in the source breaks a theorem. -/

open VaxisModel.Model.C12Replies VaxisModel.Gen.TermReplies VaxisModel.Lemmas.C12Wire

/-- DA1, DA2 and DSR 5: the model's replies are the literals of the source. -/
theorem facts_device_attributes (hostBg : Option (Nat × Nat × Nat)) (e : Emu) :
    (replies hostBg e (.csi [99] [])).flatMap seqBytes = da1Parts.flatten ∧
    (replies hostBg e (.csi [62, 99] [])).flatMap seqBytes = da2 ∧
    (replies hostBg e (.csi [110] [(5, [])])).flatMap seqBytes = dsrOk :=
  ⟨rfl, rfl, rfl⟩

/-- The cursor-position report: `Sprintf(cprFormat, vt.cursor.row+1, vt.cursor.col+1)`. -/
theorem facts_cursor_report (hostBg : Option (Nat × Nat × Nat)) (e : Emu) :
    cprArgs = ["vt.cursor.row + 1", "vt.cursor.col + 1"] ∧
    (replies hostBg e (.csi [110] [(6, [])])).flatMap seqBytes =
      instFmt cprFormat [intBytes (e.cur.row + 1), intBytes (e.cur.col + 1)] :=
  ⟨by decide, by simp [replies, Model.Emu.ps, Model.Emu.clampParams, Model.Emu.clampParam, Model.Emu.maxParam, seqBytes,
    paramBytes, cprFormat, instFmt, List.intercalate]⟩

/-- The DECRPM answer: `Fprintf(decrpmFormat, pd, ps)`, with `ps` = 3 for 2027 and 0 for 5 (the two
    literal arms of `decrqm()`), 1 / 2 from the mode flag for the modes of `Gen.TermModes.decrqmTable`. -/
theorem facts_decrpm (hostBg : Option (Nat × Nat × Nat)) (e : Emu) (pd : Int) (h0 : 0 ≤ pd) (h1 : pd ≤ 65535) :
    decrpmArgs = ["pd", "ps"] ∧ decrqmLiteral = [(5, none), (2027, some 3)] ∧
    decrqmValue e 5 = 0 ∧ decrqmValue e 2027 = 3 ∧
    (replies hostBg e (.csi [63, 36, 112] [(pd, [])])).flatMap seqBytes =
      instFmt decrpmFormat [intBytes pd, intBytes (decrqmValue e pd)] := by
  refine ⟨by decide, by decide, rfl, rfl, ?_⟩
  have hc : Model.Emu.clampParam pd = pd := by
    unfold Model.Emu.clampParam Model.Emu.maxParam; split <;> omega
  simp [replies, Model.Emu.ps, Model.Emu.clampParams, hc, seqBytes, paramBytes, decrpmFormat, instFmt, List.intercalate]

/-- `sendQueries()` statement by statement: every statement is one this model knows, and the bytes it
    writes (computed from the regenerated constants of sequences.go) parse to the corresponding group
    of `startupGroups` — so `startupQueries` is what the source sends, in source order. -/
theorem facts_queries : (queryWire.map fun w => allMatch w startupGroups) = some true := by decide +kernel

/-- **The wire, against the renderer's templates** (sequences.go, regenerated): for every value of
    the arguments, the bytes `render()` / `showCursor()` / the writer produce from the template parse
    to the sequences `opsOf` hands to the emulator model — CUP (`cup`), OSC 8 (`osc8`), pointer shape
    (`mouseShape`), DECSCUSR (`cursorStyleSet`), mode 25 set / reset (`decset` / `decrst`,
    `cursorVisibility`), SGR reset (`sgrReset`). (The SGR colour / attribute templates are tied to the
    tokens by C01's tokenizer stream; `sgrParam` only splits `p:s1:s2` into main value and
    sub-parameters.) -/
theorem facts_wire (dec : String → G) (tw : String → Nat) (r c : Int) (n : Nat) (p u sh : String) :
    wireMatches (instFmt (strC "cup") [intBytes r, intBytes c]) (opsOf dec tw (.cup r c)) = true ∧
    wireMatches (instFmt (strC "osc8") [dec p, dec u]) (opsOf dec tw (.osc8 p u)) = true ∧
    wireMatches (instFmt (strC "mouseShape") [dec sh]) (opsOf dec tw (.pointer sh)) = true ∧
    wireMatches (instFmt (strC "cursorStyleSet") [intBytes n]) (opsOf dec tw (.cursorStyle n)) = true ∧
    wireMatches (instFmt (fmtF "decset") [intBytes (numC "cursorVisibility")]) (opsOf dec tw (.decset 25)) = true ∧
    wireMatches (instFmt (fmtF "decrst") [intBytes (numC "cursorVisibility")]) (opsOf dec tw (.decrst 25)) = true ∧
    wireMatches (strC "sgrReset") (opsOf dec tw (.sgr [])) = true := by
  obtain ⟨h1, h2, h3, h4⟩ :
      strC "cup" = [27, 91, 37, 100, 59, 37, 100, 72] ∧
      strC "osc8" = [27, 93, 56, 59, 37, 115, 59, 37, 115, 27, 92] ∧
      strC "mouseShape" = [27, 93, 50, 50, 59, 37, 115, 27, 92] ∧
      strC "cursorStyleSet" = [27, 91, 37, 100, 32, 113] := by decide +kernel
  refine ⟨?_, ?_, ?_, ?_, rfl, rfl, rfl⟩
  · rw [h1]
    simp [instFmt, opsOf, wireMatches, csiWire, paramBytes, List.intercalate]
  · rw [h2]
    simp [instFmt, opsOf, wireMatches, osc8Payload]
  · rw [h3]
    simp [instFmt, opsOf, wireMatches, osc22Payload]
  · rw [h4]
    simp [instFmt, opsOf, wireMatches, csiWire, paramBytes, List.intercalate]

/-- The decimal bytes of the SGR introducers of the colour and underline templates. -/
theorem intBytes_sgr : intBytes 38 = [51, 56] ∧ intBytes 48 = [52, 56] ∧ intBytes 58 = [53, 56] ∧
    intBytes 5 = [53] ∧ intBytes 2 = [50] ∧ intBytes 4 = [52] := by decide

open VaxisModel.Model.C12Replies in
/-- **From the real start-up** (20×6): the emulator model, started as `New()` + `resize(20, 6)` and
    fed everything the real Vaxis writes until it is ready to render (`startupAll`: compared with the
    real byte stream on every run), ends — on the alternate screen, with the modes Vaxis enables — in a
    state that is a start state of the composition theorem (`DSim … (startDisplay 20 6)`). -/
theorem emu_real_startup_related (dec : String → G) (hemp : dec "" = []) :
    ∃ e, runOps (Lemmas.EmuRefine.newState 20 6) startupAll = .ok e ∧ DSim dec (startDisplay 20 6) e 6 20 := by
  -- the run followed symbolically, at every size (`Lemmas.C12StartAny`): nothing the start-up writes
  -- disturbs what the start state of the composition asks for
  have d : Lemmas.Emu.Dim 6 20 := ⟨by decide, by decide, by decide, by decide⟩
  obtain ⟨e, hr, h0, _, hv⟩ := Lemmas.C12StartAny.run_startupAll d _
    (Lemmas.C12StartAny.startP_new 20 6 (by decide) (by decide) (by decide) (by decide))
  exact ⟨e, hr, dsim_of_startCheck hemp e 6 20 h0.inv d (Lemmas.C12StartAny.startCheck_of h0 hv)⟩

/-! ### Grapheme clustering in the emulator's parser, made explicit

`opsOfToks` hands the emulator one `print` per text write. The real parser re-segments CONSECUTIVE
text writes together (`Model.C12Compose.clusterToks`, parameters `merges` / `cat`: uniseg is not
modelled). The composition theorem holds for the clustering wire `opsOfToksM` under the hypothesis
that no two graphemes of a frame (blank included) merge when one directly follows the other — and
that hypothesis is necessary (known finding F112d, `clustering_breaks_composition` in `Witness/F112d.lean`, replayed
on the real code by the scenarios `merge-*`). -/

open VaxisModel.Lemmas.C12Cluster

/-- No two graphemes of the grid (or the blank) form one cluster when written one after the other. -/
def NoMergeGrid (merges : String → String → Bool) (g : Grid) : Prop :=
  ∀ a b, (a = "20" ∨ ∃ r ∈ g, ∃ c ∈ r, a = c.g) → (b = "20" ∨ ∃ r ∈ g, ∃ c ∈ r, b = c.g) → merges a b = false

/-- `runFramesC` with the parser's clustering of consecutive text. -/
def runFramesM (merges : String → String → Bool) (cat : String → String → String) (dec : String → G) (cw : String → Nat) :
    HState → Emu → List FrameIn → M Emu
  | _, e, [] => .ok e
  | s, e, fi :: rest => do
    let e' ← runOps e (opsOfToksM merges cat dec cw (renderFrameC cw (mkFrame emuCaps s fi)).2)
    runFramesM merges cat dec cw (C01Clip.stepHC cw emuCaps s fi) e' rest

theorem frame_noMerge (merges : String → String → Bool) (cw : String → Nat) (s : HState) (fi : FrameIn)
    (h : NoMergeGrid merges fi.next) : NoMerge merges (renderFrameC cw (mkFrame emuCaps s fi)).2 :=
  Lemmas.C12Frame.frame_noMerge merges cw emuCaps s fi h

theorem runFramesM_eq (merges : String → String → Bool) (cat : String → String → String) (dec : String → G) (cw : String → Nat) :
    ∀ (fis : List FrameIn) (s : HState) (e : Emu), (∀ fi ∈ fis, NoMergeGrid merges fi.next) →
      runFramesM merges cat dec cw s e fis = runFramesC dec cw s e fis := by
  intro fis
  induction fis with
  | nil => intro s e _; rfl
  | cons a rest ih =>
    intro s e h
    simp only [runFramesM, runFramesC]
    rw [opsOfToksM_eq merges cat dec cw _ (frame_noMerge merges cw s a (h a (by simp)))]
    exact bind_congr fun e1 => ih _ e1 (fun fi hfi => h fi (by simp [hfi]))

/-- **C12, composition theorem with the parser's grapheme clustering**: as
    `emu_shows_application_now`, the emulator model being fed what its parser delivers when it
    re-segments consecutive text writes (`opsOfToksM`), for every history in which no two graphemes of
    a frame merge (`NoMergeGrid`, for whatever `merges` / `cat` the parser implements). -/
theorem emu_shows_application_clustered (merges : String → String → Bool) (cat : String → String → String)
    (dec : String → G) (cw : String → Nat) (hsp : cw "20" = 1) (hd : dec "20" = [32])
    (hemp : dec "" = []) (hlp : LpOk dec) (rows cols : Nat) (e0 : Emu) (h0 : DSim dec (startDisplay cols rows) e0 rows cols)
    (fi0 : FrameIn) (fis : List FrameIn) (hr0 : fi0.refresh = true)
    (hok : ∀ fi ∈ fi0 :: fis, C01Clip.FrameInOkC cw emuCaps rows cols fi ∧ EmuFrameOk dec cw fi ∧ NoMergeGrid merges fi.next)
    (fi : FrameIn) (hlast : (fi0 :: fis).getLast? = some fi) :
    ∃ e', runFramesM merges cat dec cw (startState cols rows) e0 (fi0 :: fis) = .ok e' ∧ ShowsC dec cw fi e' ∧
      Lemmas.Emu.EmuInv e' rows cols := by
  rw [runFramesM_eq merges cat dec cw _ _ _ (fun fi h => (hok fi h).2.2)]
  exact emu_shows_application_now dec cw hsp hd hemp hlp rows cols e0 h0 fi0 fis hr0
    (fun fi h => ⟨(hok fi h).1, (hok fi h).2.1⟩) fi hlast

end VaxisModel.Props.C12
