/-
C12 — the composition theorem for an application on ANY SCREEN of the emulator (alternate or PRIMARY), across resizes, for
ANY capability set the emulator implements — with or without styled underlines and direct colour.

* Any screen. On the primary screen `resize()` reflows the old content, and nothing is claimed about what the emulator
  shows between the resize and the end of the next frame; but Vaxis' first frame after a size change is a refresh, which
  writes every cell (the argument is in `Lemmas/C12History.lean`).
* Styled underlines (`caps.styledUnderlines`): never detected inside the emulator (it answers neither XTGETTCAP `Smulx`
  nor DA3 `~VTE`) although `sgr.go` implements `4:n` (n ≤ 5), `58:5:i`, `58:2:r:g:b` and `59`. `CapsOkU` = no explicit
  width (the emulator ignores OSC 66: necessary) and no synchronized output; the cells' underline styles must be one of
  the six `UnderlineStyle` constants (`UlOk`; `4:n` with n > 5 is ignored by the emulator and shown as a single underline
  by the reference).
-/
import VaxisModel.Props.C12Caps
import VaxisModel.Props.C01Cluster
import VaxisModel.Lemmas.RenderSixel

namespace VaxisModel.Props.C12Any
open VaxisModel.Model.Render VaxisModel.Spec VaxisModel.Spec.Display VaxisModel.Lemmas.RenderGate
open VaxisModel.Model.Emu (Emu EOp G M runOps)
open VaxisModel.Model.C12Compose VaxisModel.Lemmas.C12Sim VaxisModel.Lemmas.C12Vocab VaxisModel.Lemmas.C12Resize
open VaxisModel.Lemmas.EmuRefine (EFrame)
open VaxisModel.Lemmas.RenderDisplay (WFRow)
open VaxisModel.Props.C01 (CursorAs Agree)
open VaxisModel.Props.C01Display (FrameIn HState mkFrame stepH FrameInOk Ready)
open VaxisModel.Props.C01Clip (FrameInOkC clipIn stepHC stepHC_eq clipIn_ok)
open VaxisModel.Props.C12 (Linked EmuFrameOk emuCaps)
open VaxisModel.Props.C12Resize (LinkedR afterResize Seg)
open VaxisModel.Props.C12Caps
open VaxisModel.Model.C12Read VaxisModel.Lemmas.C12Read
open VaxisModel.Props.C12Read (EncOk wantCursor)

variable {caps : Caps} [CapsOkU caps]

/-! ### what a history re-establishes -/

/-- **Every history re-establishes the start state of the composition** (`LinkedP`, at the size of the
    last segment — the initial size if there is none), with the renderer's memory that of the run: so
    `C12Bridge.emu_and_term_show` (the reference-terminal clause) and every other per-size theorem apply
    after any history with resizes. -/
theorem history_relinks (dec : String → G) (cw : String → Nat) (hsp : cw "20" = 1) (hd : dec "20" = [32])
    (hemp : dec "" = []) (hlp : LpOk dec) :
    ∀ (segs : List Seg) (rows cols : Nat) (s s' : HState) (e : Emu), MemEq s s' → LinkedP dec cw s' e rows cols →
      (∀ sg ∈ segs, SegOkU caps dec cw sg) →
      ∃ e' s2', runSegs caps dec cw s e segs = .ok e' ∧ MemEq (segsMem caps cw s segs) s2' ∧
        LinkedP dec cw s2' e' ((segs.getLast?.map (·.rows)).getD rows) ((segs.getLast?.map (·.cols)).getD cols) := by
  intro segs rows cols s s' e hm hl hok
  obtain ⟨e', s2', hr, _, hm2, lr, _⟩ := Lemmas.C12History.segs_linked (caps := caps) hsp hd hemp hlp segs rows cols s s' e hm hl hok
  exact ⟨e', s2', hr, hm2, lr⟩

/-- **C12, the composition theorem for whole histories including resizes, on ANY screen, with or without
    styled underlines and direct colour.** From any state of an application whose last flush is complete
    (`LinkedP`: C01's `Ready`, `DSim`, the cursor's visibility as remembered — on the alternate screen
    what the real start-up establishes; Vaxis itself always enters the alternate screen, so the primary-screen
    case is a generalisation — an emulator switched back by other means while the application keeps
    rendering), for every list of admissible segments
    — a resize of the emulator to any size 1×1 … 65535² (on the primary screen: with reflow of whatever
    it shows) followed by any number of admissible frames at that size, the first a refresh — rendered
    under any capability set without explicit width and synchronized output (`CapsOkU`; with styled
    underlines the cells' underline styles are ≤ 5): the emulator model fed `resize` and, frame after
    frame, the parsed sequences of what the renderer model writes (`C12Caps.runSegs`, the same run as in
    `Props/C12Caps`) never panics, stays on the screen it is on, and after the last frame of the last segment —
    hence after EVERY frame of every segment — its grid shows the application's screen cell for cell
    (underline style and colour included) and its cursor is as requested, at the size of that segment.
    Between a resize and the end of the refresh frame nothing is claimed (the primary screen then shows
    the reflowed old content). -/
theorem emu_shows_across_resizes_any (dec : String → G) (cw : String → Nat) (hsp : cw "20" = 1) (hd : dec "20" = [32])
    (hemp : dec "" = []) (hlp : LpOk dec) (segs : List Seg) (rows cols : Nat) (s : HState) (e : Emu) (hl : LinkedP dec cw s e rows cols)
    (hok : ∀ sg ∈ segs, SegOkU caps dec cw sg) :
    ∃ e', runSegs caps dec cw s e segs = .ok e' ∧ e'.mode.smcup = e.mode.smcup ∧
      ∀ sg, segs.getLast? = some sg → Lemmas.Emu.EmuInv e' sg.rows sg.cols ∧
        ∀ fi, sg.frames.getLast? = some fi → ShowsCK caps dec cw fi e' :=
  Lemmas.C12History.shows_across_resizes_aux dec cw hsp hd hemp hlp segs rows cols s s e ⟨rfl, rfl, rfl⟩ hl hok

/-- The same through the wire with the parser's grapheme clustering (`C12Caps.runSegsM`), for histories
    in which no two graphemes of a frame merge (`NoMergeGrid`; necessary: F112d). -/
theorem emu_shows_across_resizes_any_clustered (merges : String → String → Bool) (cat : String → String → String)
    (dec : String → G) (cw : String → Nat) (hsp : cw "20" = 1) (hd : dec "20" = [32]) (hemp : dec "" = []) (hlp : LpOk dec)
    (segs : List Seg) (rows cols : Nat) (s : HState) (e : Emu) (hl : LinkedP dec cw s e rows cols)
    (hok : ∀ sg ∈ segs, SegOkU caps dec cw sg) (hnm : ∀ sg ∈ segs, ∀ fi ∈ sg.frames, C12.NoMergeGrid merges fi.next) :
    ∃ e', runSegsM caps merges cat dec cw s e segs = .ok e' ∧ e'.mode.smcup = e.mode.smcup ∧
      ∀ sg, segs.getLast? = some sg → Lemmas.Emu.EmuInv e' sg.rows sg.cols ∧
        ∀ fi, sg.frames.getLast? = some fi → ShowsCK caps dec cw fi e' := by
  rw [runSegsM_eq merges cat dec cw segs s e hnm]
  exact emu_shows_across_resizes_any dec cw hsp hd hemp hlp segs rows cols s e hl hok

omit [CapsOkU caps] in
/-- One frame: under C01's tight hypothesis no text write of the frame directly follows one it merges
    with, so the parser's re-segmentation changes nothing. -/
theorem frame_adj_eq (merges : String → String → Bool) (cat : String → String → String) (dec : String → G)
    (cw : String → Nat) (s : HState) (fi : FrameIn) (hsx : ∀ r ∈ fi.next, ∀ c ∈ r, c.sixel = false)
    (h : C01Cluster.NoJoinNeighbours merges cw caps fi.next) :
    opsOfToksM merges cat dec cw (renderFrameC cw (mkFrame caps s fi)).2 =
      opsOfToks dec cw (renderFrameC cw (mkFrame caps s fi)).2 := by
  apply Lemmas.C12Cluster.opsOfToksM_eq_adj
  have := C01Cluster.render_no_adjacent_join_tight merges cw (mkFrame caps s fi) h
  rwa [Lemmas.RenderSixel.renderFrameS_eq cw (mkFrame caps s fi) hsx] at this

omit [CapsOkU caps] in
theorem runSegsM_eq_adj (merges : String → String → Bool) (cat : String → String → String) (dec : String → G) (cw : String → Nat)
    (segs : List Seg) (s : HState) (e : Emu)
    (h : ∀ sg ∈ segs, ∀ fi ∈ sg.frames, (∀ r ∈ fi.next, ∀ c ∈ r, c.sixel = false) ∧ C01Cluster.NoJoinNeighbours merges cw caps fi.next) :
    runSegsM caps merges cat dec cw s e segs = runSegs caps dec cw s e segs :=
  runSegsM_congr merges cat dec cw segs s e (fun sg hsg fi hfi s =>
    frame_adj_eq merges cat dec cw s fi (h sg hsg fi hfi).1 (h sg hsg fi hfi).2)

omit [CapsOkU caps] in
theorem runSegsM_eq_tight (merges : String → String → Bool) (cat : String → String → String) (dec : String → G) (cw : String → Nat)
    (segs : List Seg) (s : HState) (e : Emu) (hok : ∀ sg ∈ segs, SegOkU caps dec cw sg)
    (hnm : ∀ sg ∈ segs, ∀ fi ∈ sg.frames, C01Cluster.NoJoinNeighbours merges cw caps fi.next) :
    runSegsM caps merges cat dec cw s e segs = runSegs caps dec cw s e segs :=
  -- an admissible frame has no sixel cell: the third clause of `FrameInOkC`, inside `SegOk`
  runSegsM_eq_adj merges cat dec cw segs s e (fun sg hsg fi hfi =>
    ⟨fun r hr c hc => (((hok sg hsg).1.2.2 fi hfi).1.2.2.1 r hr c hc).1, hnm sg hsg fi hfi⟩)

/-- **The composition theorem through the clustering wire under the TIGHT hypothesis** — exactly the
    situation of F112d and nothing more: no two horizontally neighbouring SHOWN cells of a row of a frame
    join when written back to back (C01's `NoJoinNeighbours`: a cell under a wide glyph is not shown; cells
    of different rows, or cells separated by a cell that is skipped — which forces a CUP — never meet on
    the wire: `Props.C01Cluster.render_no_adjacent_join_tight`). `C12.NoMergeGrid` (`Props/C12Caps`) asks it of ANY
    two graphemes of the frame, blank included. -/
theorem emu_shows_across_resizes_any_clustered_tight (merges : String → String → Bool) (cat : String → String → String)
    (dec : String → G) (cw : String → Nat) (hsp : cw "20" = 1) (hd : dec "20" = [32]) (hemp : dec "" = []) (hlp : LpOk dec)
    (segs : List Seg) (rows cols : Nat) (s : HState) (e : Emu) (hl : LinkedP dec cw s e rows cols)
    (hok : ∀ sg ∈ segs, SegOkU caps dec cw sg)
    (hnm : ∀ sg ∈ segs, ∀ fi ∈ sg.frames, C01Cluster.NoJoinNeighbours merges cw caps fi.next) :
    ∃ e', runSegsM caps merges cat dec cw s e segs = .ok e' ∧ e'.mode.smcup = e.mode.smcup ∧
      ∀ sg, segs.getLast? = some sg → Lemmas.Emu.EmuInv e' sg.rows sg.cols ∧
        ∀ fi, sg.frames.getLast? = some fi → ShowsCK caps dec cw fi e' := by
  rw [runSegsM_eq_tight merges cat dec cw segs s e hok hnm]
  exact emu_shows_across_resizes_any dec cw hsp hd hemp hlp segs rows cols s e hl hok

/-- **In equational form**: the grid read back IS the application's screen, the cursor read back IS
    the requested cursor. -/
theorem emu_reads_back_across_resizes_any (enc : G → String) (dec : String → G) (cw : String → Nat) (hsp : cw "20" = 1)
    (hd : dec "20" = [32]) (hemp : dec "" = []) (hlp : LpOk dec) (segs : List Seg) (rows cols : Nat) (s : HState) (e : Emu)
    (hl : LinkedP dec cw s e rows cols) (hok : ∀ sg ∈ segs, SegOkU caps dec cw sg)
    (sg : Seg) (fi : FrameIn) (hsg : segs.getLast? = some sg) (hfi : sg.frames.getLast? = some fi)
    (he : EncOk enc dec fi) :
    ∃ e', runSegs caps dec cw s e segs = .ok e' ∧
      readScreen enc e'.active = Expected.expectedC cw caps fi.next ∧ readCursor e' = wantCursor fi := by
  obtain ⟨e', hr, _, h⟩ := emu_shows_across_resizes_any dec cw hsp hd hemp hlp segs rows cols s e hl hok
  exact ⟨e', hr, shows_reads_back enc dec cw fi e' ((h sg hsg).2 fi hfi) he⟩

open VaxisModel.Model.C12Replies VaxisModel.Lemmas.C12Wire in
omit [CapsOkU caps] in
/-- **The styled-underline templates on the wire**: for every index / channel / style value the bytes
    `render()` produces from `ulIndexSet`, `ulRGBSet`, `ulStyleSet` and the constant `ulColorReset`
    (regenerated from sequences.go on every run: `Gen.TermReplies.strConst`) parse to the sequence `opsOf`
    hands to the emulator model for the renderer model's token (`58:5:i`, `58:2:r:g:b`, `4:n` with colon
    sub-parameters, `59`). Completes `C12Caps.facts_wire_sgr` for the vocabulary of `CapsOkU`. -/
theorem facts_wire_ul (dec : String → G) (tw : String → Nat) (i r g b n : Nat) :
    wireMatches (instFmt (strC "ulIndexSet") [intBytes i]) (opsOf dec tw (.sgr [[58, 5, i]])) = true ∧
    wireMatches (instFmt (strC "ulRGBSet") [intBytes r, intBytes g, intBytes b]) (opsOf dec tw (.sgr [[58, 2, r, g, b]])) = true ∧
    wireMatches (instFmt (strC "ulStyleSet") [intBytes n]) (opsOf dec tw (.sgr [[4, n]])) = true ∧
    wireMatches (strC "ulColorReset") (opsOf dec tw (.sgr [[59]])) = true := by
  obtain ⟨h1, h2, h3⟩ :
      strC "ulIndexSet" = [27, 91, 53, 56, 58, 53, 58, 37, 100, 109] ∧
      strC "ulRGBSet" = [27, 91, 53, 56, 58, 50, 58, 37, 100, 58, 37, 100, 58, 37, 100, 109] ∧
      strC "ulStyleSet" = [27, 91, 52, 58, 37, 100, 109] := by decide +kernel
  obtain ⟨_, _, e58, e5, e2, e4⟩ := C12.intBytes_sgr
  refine ⟨?_, ?_, ?_, rfl⟩
  · rw [h1]; simp [instFmt, opsOf, wireMatches, csiWire, paramBytes, sgrParam, List.intercalate, e58, e5]
  · rw [h2]; simp [instFmt, opsOf, wireMatches, csiWire, paramBytes, sgrParam, List.intercalate, e58, e2]
  · rw [h3]; simp [instFmt, opsOf, wireMatches, csiWire, paramBytes, sgrParam, List.intercalate, e4]

/-- Everything the emulator's `sgr()` implements: direct colour and styled underlines. -/
def emuCapsFull : Caps := { emuCaps with rgb := true, styledUnderlines := true }

instance : CapsOkU emuCapsFull := ⟨rfl, rfl⟩
instance (rgb su : Bool) : CapsOkU { emuCaps with rgb := rgb, styledUnderlines := su } := ⟨rfl, rfl⟩

def gridUl : Grid :=
  [[({ g := "61", style := { ul := 33554432 + 1056816, ulStyle := 3 } } : Cell),
    { g := "57", style := { ulStyle := 5, ul := 16777220, bg := 33554432 + 255 } }, {}]]

/-- Non-vacuity, on the PRIMARY screen with styled underlines and direct colour: a fresh 4×2 emulator
    (`New()`, `resize`, cursor hidden: `emu_start_related` — never on the alternate screen), the host
    resizes it to 3×1, the application draws a curly underline in an RGB underline colour, a wide glyph
    with a dashed underline in a palette underline colour on an RGB background, and a blank, cursor
    visible: all hypotheses hold, the emulator shows the frame and is still on the primary screen. -/
example :
    let fi : FrameIn := ⟨true, gridUl, { visible := true, col := 2, style := 1 }, ""⟩
    ∃ e0 e1 e', Model.Emu.Emu.new Model.Emu.Fixes.current 4 2 = .ok e0 ∧
      runOps e0 [.csi [63, 108] [(25, [])]] = .ok e1 ∧
      runSegs emuCapsFull C12.decEx C12.cwEx (C12.startState 4 2) e1 [⟨3, 1, [fi]⟩] = .ok e' ∧
      ShowsCK emuCapsFull C12.decEx C12.cwEx fi e' ∧ e'.mode.smcup = false := by
  intro fi
  obtain ⟨e0, e1, h0, h1, hs⟩ := C12.emu_start_related C12.decEx rfl 4 2 (by decide) (by decide) (by decide) (by decide)
  have hprim : e1.mode.smcup = false := by
    have hn : e0 = Lemmas.EmuRefine.newState 4 2 := by
      have := Lemmas.EmuRefine.new_eq 4 2 (by decide) (by decide)
      rw [h0] at this
      cases this; rfl
    have hk : (match runOps (Lemmas.EmuRefine.newState 4 2) [.csi [63, 108] [(25, [])]] with
        | .ok e => e.mode.smcup
        | .error _ => true) = false := by decide +kernel
    rw [← hn, h1] at hk
    exact hk
  have hl : LinkedP C12.decEx C12.cwEx (C12.startState 4 2) e1 2 4 :=
    ⟨C12.start_ready 4 2, fun _ => rfl, hs⟩
  obtain ⟨e', hr, hm, hsh⟩ := emu_shows_across_resizes_any (caps := emuCapsFull) C12.decEx C12.cwEx rfl rfl rfl C12.lpOk_decEx [⟨3, 1, [fi]⟩] 2 4
    (C12.startState 4 2) e1 hl (by
    intro sg hsg
    simp only [List.mem_singleton] at hsg
    subst hsg
    refine ⟨⟨by decide, fun f h => by cases h; rfl, ?_⟩, ?_⟩
    · intro f hf
      simp only [List.mem_singleton] at hf
      subst hf
      exact C12.frameOkC_of_plain _ _ _ 1 3 _ rfl (by decide) (by decide) (by decide) (fun _ => by decide)
    · intro f hf
      simp only [List.mem_singleton] at hf
      subst hf
      exact fun _ => by decide)
  exact ⟨e0, e1, e', h0, h1, hr, (hsh _ rfl).2 fi rfl, by rw [hm]; exact hprim⟩

end VaxisModel.Props.C12Any
