/-
C12 against ONE reference terminal.

C01 / C12 judge the renderer against `Spec.Display` (cells carry the renderer model's opaque strings,
`poison` / `cont` cells, a `bad` flag for terminal-specific territory); C06 proves the embedded emulator
refines `Spec.Term` (byte cells, the full C06 vocabulary). The C05/C06 builder's bridge
(`Props/C06Bridge.display_refines_term`, written independently of both) shows that on the common
vocabulary the two references are the same terminal. Composed here with C01's frame theorem and the
C12 simulation:

  `emu_and_term_show`: from any state of an application whose last flush is complete (`LinkedP`, on
  either screen), with the reference terminal `Spec.Term` in a state related to the same display
  (`Rel`; `rel_start`, `rel_resized` give one at start-up and after every resize), for every list of
  admissible frames at that size, the first a refresh, under any capability set `CapsOkU`:
  * the emulator model fed the parsed sequences of the renderer's tokens does not panic and shows the
    last (hence every) frame — the C12 composition —, and
  * `Spec.Term`, THE REFERENCE TERMINAL OF C06, fed the very same tokens (`tokT`: CUP, SGR, OSC 8, text,
    mode 25, DECSCUSR; the pointer-shape sequence OSC 22 is outside its vocabulary and changes nothing it
    models) is DETERMINISTIC on them (`runExact`: every step accepts exactly one state, nothing
    terminal-specific) and ends in a state that shows the application's screen cell for cell up to its own
    visual equality (`TCell.norm`: a space glyph is a blank), with the cursor as requested.
So the emulator and the reference terminal the emulator is proved to refine (C06) show the same screen,
the application's, after every frame.
-/
import VaxisModel.Props.C12Any
import VaxisModel.Props.C06Bridge
import VaxisModel.Props.C12StartAny
import VaxisModel.Model.C12Ref

namespace VaxisModel.Props.C12Bridge
open VaxisModel.Model.Render VaxisModel.Spec VaxisModel.Spec.Display VaxisModel.Lemmas.RenderGate
open VaxisModel.Model.Emu (Emu EOp G M runOps)
open VaxisModel.Model.C12Compose VaxisModel.Lemmas.C12Sim VaxisModel.Lemmas.C12Vocab VaxisModel.Lemmas.C12Resize
open VaxisModel.Props.C01 (CursorAs Agree)
open VaxisModel.Props.C01Display (FrameIn HState mkFrame stepH FrameInOk Ready)
open VaxisModel.Props.C01Clip (FrameInOkC clipIn stepHC stepHC_eq renderFrameC_toks clipIn_ok)
open VaxisModel.Props.C12 (Linked EmuFrameOk clipIn_emuOk emuCaps startDisplay)
open VaxisModel.Props.C12Caps VaxisModel.Props.C12Any
open VaxisModel.Props.C12Resize (Seg)
open VaxisModel.Lemmas.C06Bridge (Rel Common tokT runExact DecOk mapCell CellEq)
open VaxisModel.Spec.Term (T TCell)

/-- The renderer tokens of the composition: Spec.Term's vocabulary, or the pointer-shape sequence. -/
def InVocab (tw : String → Nat) (k : Tok) : Prop := Common tw k ∨ ∃ sh, k = Tok.pointer sh

theorem tokOk_inVocab {dec : String → G} {tw : String → Nat} (k : Tok) (h : TokOk dec tw k) : InVocab tw k := by
  cases k with
  | cup r c => exact Or.inl trivial
  | sgr ps => exact Or.inl trivial
  | osc8 p u => exact Or.inl trivial
  | text g => exact Or.inl h.1
  | textW w g => exact absurd h id
  | decset n => exact Or.inl h
  | decrst n => exact Or.inl h
  | cursorStyle n => exact Or.inl trivial
  | pointer sh => exact Or.inr ⟨sh, rfl⟩
  | other r => exact absurd h id

theorem rel_pointer {dec : String → G} {d : Display.Term} {t : T} (tw : String → Nat) (h : Rel dec d t) (sh : String) :
    Rel dec (Display.step tw d (.pointer sh)) t :=
  { h with }

/-- `display_refines_term` for token lists that may contain pointer-shape sequences (dropped by
    `filterMap (tokT …)`, and the reference terminal's state does not depend on them). -/
theorem run_bridge_ptr (dec : String → G) (tw : String → Nat) :
    ∀ (toks : List Tok) (d : Display.Term) (t : T), Rel dec d t → (∀ k ∈ toks, InVocab tw k) →
      (Display.run tw d toks).bad = none →
      ∃ t', runExact t (toks.filterMap (tokT dec tw)) = some t' ∧ Rel dec (Display.run tw d toks) t' := by
  intro toks
  induction toks with
  | nil => intro d t h _ _; exact ⟨t, rfl, h⟩
  | cons k ks ih =>
    intro d t h hv hb
    have hb1 : (Display.step tw d k).bad = none := Lemmas.DisplayBasic.run_bad_none tw ks _ hb
    rcases hv k (by simp) with hc | ⟨sh, rfl⟩
    · obtain ⟨tok, t1, htok, hstep, hrel⟩ := C06Bridge.display_step_refines_term dec tw d t h k hc hb1
      obtain ⟨t', hr, hrel'⟩ := ih (Display.step tw d k) t1 hrel (fun x hx => hv x (by simp [hx])) hb
      refine ⟨t', ?_, hrel'⟩
      simp only [List.filterMap_cons, htok, runExact, hstep]
      exact hr
    · obtain ⟨t', hr, hrel'⟩ := ih (Display.step tw d (.pointer sh)) t (rel_pointer tw h sh)
        (fun x hx => hv x (by simp [hx])) hb
      refine ⟨t', ?_, hrel'⟩
      have : tokT dec tw (Tok.pointer sh) = none := rfl
      simp only [List.filterMap_cons, this]
      exact hr

open VaxisModel.Model.EmuAbs (absCell absRow absStyle absCol) in
/-- One cell: the emulator cell shows the display cell (`C12Sim.CellRel`), the reference terminal's cell
    equals the display cell up to `TCell.norm` (`C06Bridge.CellEq`) ⇒ the reference terminal's cell
    ACCEPTS the abstraction of the emulator cell (`TCell.accepts`: C06's comparison). -/
theorem cell_accepts (dec : String → G) (hd : dec "20" = [32]) (hemp : dec "" = []) (dc : DCell) (tc : TCell)
    (ec : Model.Emu.ECell) (h1 : CellRel dec dc ec) (h2 : CellEq dec dc tc) : tc.accepts (absCell ec) = true := by
  unfold CellEq at h2
  cases dc with
  | cont | poison =>
    -- the reference terminal's cell is the same constructor
    cases tc with
    | glyph g w st l => simp only [mapCell, TCell.norm] at h2; split at h2 <;> cases h2
    | blank b => cases h2
    | cont => first | rfl | cases h2
    | poison => first | rfl | cases h2
  | glyph g w st lp lk =>
    have hacc : ∀ a : TCell, tc.norm = a.norm → tc.accepts a = true := by
      intro a ha
      unfold TCell.accepts
      cases tc with
      | poison => rfl
      | cont => rfl
      | glyph g' w' st' l' => simpa using ha
      | blank b => simpa using ha
    apply hacc
    rw [← h2]
    rcases h1 with ⟨a1, a2, a3, a4, a5, _⟩ | ⟨b1, b2, b3, b4, b5, b6, b7⟩
    · have a2' : ¬ dec g = [] := by rw [← a1]; exact a2
      simp only [mapCell, absCell, a1, a3, a4, a5, if_neg a2']
    · subst b3; subst b4; subst b5; subst b7
      simp only [mapCell, absCell, b1, if_true, hd, hemp, TCell.norm]
      simp

open VaxisModel.Model.EmuAbs (absRow) in
/-- **The reference terminal accepts the emulator's grid**: C06's comparison `gridAccepts`, from the two
    relations to the same display grid. -/
theorem grid_accepts (dec : String → G) (hd : dec "20" = [32]) (hemp : dec "" = []) (rows cols : Nat)
    (dg : List (List DCell)) (tg : Spec.Term.TGrid) (eg : Model.Emu.Grid)
    (h1 : Lemmas.C12Sim.GridRel dec dg eg) (h2 : Lemmas.C06Bridge.GridRel dec rows cols dg tg) :
    Spec.Term.gridAccepts tg (eg.map absRow) = true := by
  have hlen : tg.length = eg.length := by rw [h2.tlen, ← h2.dlen, h1.length]
  unfold Spec.Term.gridAccepts
  simp only [List.length_map, hlen, decide_true, Bool.true_and]
  refine Lemmas.ListBasic.all_zip_map fun i tr er ht hei => ?_
  have hil : i < dg.length := h1.length ▸ (List.getElem?_eq_some_iff.mp hei).1
  have hdr : dg[i]? = some dg[i] := List.getElem?_eq_getElem hil
  obtain ⟨tr', htr, _, _, hrr⟩ := h2.row i _ hdr
  rw [ht] at htr
  cases htr
  have hr1 := h1.row hdr hei
  unfold Spec.Term.rowAccepts
  have hl2 : tr.length = er.length := by rw [← hrr.len, hr1.1]
  simp only [absRow, List.length_map, hl2, decide_true, Bool.true_and]
  refine Lemmas.ListBasic.all_zip_map fun j tc ec hq1 hej => ?_
  have hjl : j < dg[i].length := hr1.1 ▸ (List.getElem?_eq_some_iff.mp hej).1
  have hdc : dg[i][j]? = some dg[i][j] := List.getElem?_eq_getElem hjl
  exact cell_accepts dec hd hemp _ _ ec (hr1.2 j _ ec hdc hej) (hrr.cell j _ _ hdc hq1)

/-- Everything the renderer writes for a list of frames (the renderer's memory evolving). -/
def allToks (caps : Caps) (cw : String → Nat) : HState → List FrameIn → List Tok
  | _, [] => []
  | s, fi :: rest => (renderFrameC cw (mkFrame caps s fi)).2 ++ allToks caps cw (stepHC cw caps s fi) rest

theorem foldl_t (caps : Caps) (cw : String → Nat) : ∀ (fis : List FrameIn) (s : HState),
    (fis.foldl (stepHC cw caps) s).t = Display.run cw s.t (allToks caps cw s fis)
  | [], _ => rfl
  | fi :: rest, s => by
    simp only [List.foldl_cons, allToks]
    rw [foldl_t caps cw rest (stepHC cw caps s fi)]
    show Display.run cw (Display.run cw s.t (renderFrameC cw (mkFrame caps s fi)).2) _ = _
    simp only [Display.run, List.foldl_append]

theorem foldl_cursor (caps : Caps) (cw : String → Nat) : ∀ (fis : List FrameIn) (s : HState) (fi : FrameIn),
    fis.getLast? = some fi → (fis.foldl (stepHC cw caps) s).cursor = fi.cursor
  | [], _, _, h => by simp at h
  | [a], s, fi, h => by
    simp only [List.getLast?_singleton, Option.some.injEq] at h
    subst h; rfl
  | a :: b :: rest, s, fi, h => by
    rw [List.getLast?_cons_cons] at h
    exact foldl_cursor caps cw (b :: rest) (stepHC cw caps s a) fi h

variable {caps : Caps} [CapsOkU caps]

theorem allToks_inVocab (dec : String → G) (cw : String → Nat) (hsp : cw "20" = 1) (hd : dec "20" = [32]) (hemp : dec "" = [])
    (hlp : LpOk dec) : ∀ (fis : List FrameIn) (s : HState),
      (∀ fi ∈ fis, EmuFrameOk dec cw fi ∧ UlOk caps fi) → ∀ k ∈ allToks caps cw s fis, InVocab cw k := by
  intro fis
  induction fis with
  | nil => intro s _ k hk; simp [allToks] at hk
  | cons fi rest ih =>
    intro s hok k hk
    simp only [allToks, List.mem_append] at hk
    rcases hk with hk | hk
    · rw [renderFrameC_toks] at hk
      have h59 : 59 ∉ dec "" := by rw [hemp]; simp
      have hok2 := clipIn_emuOk dec cw hsp hd fi (hok fi (by simp)).1
      exact tokOk_inVocab k (frame_ok_anyCaps dec cw (mkFrame caps s (clipIn cw fi))
        (fun h => Lemmas.C12Frame.clipIn_cells (fun _ hc => hc) fi ((hok fi (by simp)).2 h)) (CapsOkU.ew (caps := caps)) (CapsOkU.sy (caps := caps))
        hsp (by rw [hd]; simp) h59 hlp hok2.1 hok2.2 k hk)
    · exact ih _ (fun x hx => hok x (by simp [hx])) k hk

/-- **C12 against one reference terminal** (see the file header). -/
theorem emu_and_term_show (dec : String → G) (cw : String → Nat) (hsp : cw "20" = 1) (hd : dec "20" = [32]) (hemp : dec "" = [])
    (hlp : LpOk dec) (rows cols : Nat) (s : HState) (e : Emu) (hl : LinkedP dec cw s e rows cols)
    (t : T) (ht : Rel dec s.t t)
    (a : FrameIn) (rest : List FrameIn) (ha : a.refresh = true)
    (hok : ∀ fi ∈ a :: rest, (FrameInOkC cw caps rows cols fi ∧ EmuFrameOk dec cw fi) ∧ UlOk caps fi)
    (fi : FrameIn) (hlast : (a :: rest).getLast? = some fi) :
    ∃ (e' : Emu) (t' : T) (d : Display.Term),
      -- the emulator
      runFramesCK caps dec cw s e (a :: rest) = .ok e' ∧ ShowsCK caps dec cw fi e' ∧
      -- the reference terminal of C06, on the same tokens: deterministic, and related to the display `d`
      runExact t ((allToks caps cw s (a :: rest)).filterMap (tokT dec cw)) = some t' ∧ Rel dec d t' ∧
      -- … which shows the application's screen and cursor (C01) and is what the emulator simulates (C12)
      d.grid = Expected.expectedC cw caps fi.next ∧ CursorAs d fi.cursor ∧ DSim dec d e' rows cols ∧
      -- hence: the reference terminal ACCEPTS the emulator's state (C06's comparison: grid cell by cell up
      -- to `TCell.norm`, cursor row, pending wrap, pen, hyperlink; plus cursor visibility and shape)
      Spec.Term.gridAccepts t'.primary (e'.active.map Model.EmuAbs.absRow) = true ∧
      (t'.row : Int) = e'.cur.row ∧ t'.pw = decide (e'.cur.col ≥ (cols : Int)) ∧
      t'.pen = Model.EmuAbs.absStyle e'.cur.st ∧ t'.link = e'.cur.st.link ∧
      t'.cursorVisible = e'.mode.dectcem ∧ (t'.cursorShape : Int) = e'.cur.shape := by
  obtain ⟨e2, hr2, _, _, af⟩ := Lemmas.C12History.frames_linked (caps := caps) hsp hd hemp hlp rows cols (a :: rest) s e hl
    (fun fi h => by cases h; exact ha ▸ hl.before) hok
  rw [hlast] at af
  obtain ⟨hl2, sh2, g2⟩ := af
  have hbad : (Display.run cw s.t (allToks caps cw s (a :: rest))).bad = none := by
    rw [← foldl_t caps cw (a :: rest) s]
    exact hl2.linked.ready.bad
  obtain ⟨t', hrt, hrel⟩ := run_bridge_ptr dec cw (allToks caps cw s (a :: rest)) s.t t ht
    (allToks_inVocab dec cw hsp hd hemp hlp (a :: rest) s (fun x hx => ⟨(hok x hx).1.2, (hok x hx).2⟩)) hbad
  rw [← foldl_t caps cw (a :: rest) s] at hrel
  have hcur : CursorAs ((a :: rest).foldl (stepHC cw caps) s).t fi.cursor := by
    rw [← foldl_cursor caps cw (a :: rest) s fi hlast]
    exact hl2.linked.cursor
  have hsim := hl2.linked.sim
  exact ⟨e2, t', ((a :: rest).foldl (stepHC cw caps) s).t, hr2, sh2, hrt, hrel, g2, hcur, hsim,
    grid_accepts dec hd hemp _ _ _ _ _ hsim.grid hrel.grid,
    by rw [hrel.row]; exact hsim.row, by rw [hrel.pw]; exact hsim.pw, by rw [hrel.pen]; exact hsim.pen,
    by rw [hrel.link]; exact hsim.link, by rw [hrel.cursorVisible]; exact hsim.vis,
    by rw [hrel.cursorShape]; exact hsim.shape⟩

theorem rel_start (dec : String → G) (hdec : DecOk dec) (rows cols : Nat) (hr : 1 ≤ rows) (hc : 1 ≤ cols) :
    Rel dec (startDisplay cols rows) { T.init rows cols with cursorVisible := false } :=
  { C06Bridge.init_related dec hdec rows cols hr hc with cursorVisible := rfl }

theorem rel_resized_grid (dec : String → G) (hdec : DecOk dec) (rows cols : Nat) (e : Emu) (hi : Lemmas.Emu.EmuInv e rows cols)
    (dm : Lemmas.Emu.Dim rows cols) (g : List (List DCell)) (tg : Spec.Term.TGrid)
    (hg : Lemmas.C06Bridge.GridRel dec rows cols g tg) :
    Rel dec { resizedDisplay cols rows e with grid := g }
      { T.init rows cols with
        primary := tg
        row := e.cur.row.toNat
        col := (if e.cur.col ≥ (cols : Int) then (cols : Int) - 1 else e.cur.col).toNat
        pw := decide (e.cur.col ≥ (cols : Int))
        cursorVisible := e.mode.dectcem
        cursorShape := e.cur.shape.toNat } := by
  have h := C06Bridge.init_related dec hdec rows cols dm.r1 dm.c1
  have := hi.rowLo; have := hi.rowHi; have := hi.colLo; have := hi.colHi; have := dm.c1
  exact
  { h with
    row := rfl, col := rfl, pw := rfl, cursorVisible := rfl, cursorShape := rfl, grid := hg
    rowLt := by show e.cur.row.toNat < rows; omega
    colLt := by
      show (if e.cur.col ≥ (cols : Int) then (cols : Int) - 1 else e.cur.col).toNat < cols
      split <;> omega }

theorem rel_resized (dec : String → G) (hdec : DecOk dec) (rows cols : Nat) (e : Emu) (hi : Lemmas.Emu.EmuInv e rows cols)
    (dm : Lemmas.Emu.Dim rows cols) :
    Rel dec (resizedDisplay cols rows e)
      { T.init rows cols with
        row := e.cur.row.toNat
        col := (if e.cur.col ≥ (cols : Int) then (cols : Int) - 1 else e.cur.col).toNat
        pw := decide (e.cur.col ≥ (cols : Int))
        cursorVisible := e.mode.dectcem
        cursorShape := e.cur.shape.toNat } :=
  rel_resized_grid dec hdec rows cols e hi dm _ _ (C06Bridge.init_related dec hdec rows cols dm.r1 dm.c1).grid

/-- After a resize on EITHER screen (the display with the unknown grid, `C12Any.resizedDisplayP`): the
    reference terminal with every cell `poison` (it accepts whatever the emulator shows there — on the
    primary screen the reflowed old content — until the refresh frame has overwritten it). -/
theorem rel_resizedP (dec : String → G) (hdec : DecOk dec) (rows cols : Nat) (e : Emu) (hi : Lemmas.Emu.EmuInv e rows cols)
    (dm : Lemmas.Emu.Dim rows cols) :
    Rel dec (resizedDisplayP cols rows e)
      { T.init rows cols with
        primary := List.replicate rows (List.replicate cols TCell.poison)
        row := e.cur.row.toNat
        col := (if e.cur.col ≥ (cols : Int) then (cols : Int) - 1 else e.cur.col).toNat
        pw := decide (e.cur.col ≥ (cols : Int))
        cursorVisible := e.mode.dectcem
        cursorShape := e.cur.shape.toNat } := by
  have rep : ∀ {α : Type} (n : Nat) (x y : α) (k : Nat), (List.replicate n x)[k]? = some y → y = x :=
    fun _ _ _ _ hk => List.eq_of_mem_replicate (List.mem_of_getElem? hk)
  refine rel_resized_grid dec hdec rows cols e hi dm (poisonGrid cols rows) _ ?_
  · show Lemmas.C06Bridge.GridRel dec rows cols (poisonGrid cols rows) (List.replicate rows (List.replicate cols TCell.poison))
    refine ⟨by simp [poisonGrid], by simp, ?_⟩
    intro i dr hdr
    have hdr' := rep _ _ _ _ hdr
    subst hdr'
    have hi' : i < rows := by simpa [poisonGrid] using (List.getElem?_eq_some_iff.mp hdr).1
    refine ⟨List.replicate cols TCell.poison, by rw [List.getElem?_replicate]; simp [hi'], by simp, ?_, ?_⟩
    · refine ⟨?_, ?_, ?_⟩
      · intro j g w st lp lk hj; have := rep _ _ _ _ hj; cases this
      · intro j hj; have := rep _ _ _ _ hj; cases this
      · intro j hj
        unfold Lemmas.C06Bridge.wideD at hj
        cases hc : (List.replicate cols DCell.poison)[j]? with
        | none => rw [hc] at hj; cases hj
        | some x => rw [hc] at hj; have := rep _ _ _ _ hc; subst this; cases hj
    · refine ⟨by simp, ?_⟩
      intro j d t hd' ht'
      rw [rep _ _ _ _ hd', rep _ _ _ _ ht']
      rfl

/-- The reference terminal re-started next to the emulator after a resize: every cell unknown, cursor
    where `resize()` left it (the state of `rel_resizedP`). -/
def termAfterResize (cols rows : Nat) (e : Emu) : T :=
  { T.init rows cols with
    primary := List.replicate rows (List.replicate cols TCell.poison)
    row := e.cur.row.toNat
    col := (if e.cur.col ≥ (cols : Int) then (cols : Int) - 1 else e.cur.col).toNat
    pw := decide (e.cur.col ≥ (cols : Int))
    cursorVisible := e.mode.dectcem
    cursorShape := e.cur.shape.toNat }

/-- **The reference-terminal clause after ANY history with resizes**: run any admissible history `pre`
    (`C12Caps.runSegs`), let the host resize the emulator once more and re-start the reference terminal
    next to it (`termAfterResize`); then for the frames of that last segment — rendered with the memory the
    renderer has after `pre` (`MemEq (segsMem …) sm`) — the conclusion of `emu_and_term_show` holds: the
    emulator shows the last (hence every) frame, `Spec.Term` is deterministic on the same tokens and accepts
    the emulator's state. -/
theorem emu_and_term_show_after_history (dec : String → G) (hdec : DecOk dec) (cw : String → Nat) (hsp : cw "20" = 1)
    (hlp : LpOk dec) (rows cols : Nat) (s : HState) (e : Emu) (hl : LinkedP dec cw s e rows cols)
    (pre : List Seg) (hpre : ∀ sg ∈ pre, SegOkU caps dec cw sg)
    (w h : Nat) (hw1 : 1 ≤ w) (hw2 : w ≤ 65535) (hh1 : 1 ≤ h) (hh2 : h ≤ 65535)
    (a : FrameIn) (rest : List FrameIn) (ha : a.refresh = true)
    (hok : ∀ fi ∈ a :: rest, (FrameInOkC cw caps h w fi ∧ EmuFrameOk dec cw fi) ∧ UlOk caps fi)
    (fi : FrameIn) (hlast : (a :: rest).getLast? = some fi) :
    ∃ (e0 e1 e' : Emu) (sm : HState) (t' : T),
      runSegs caps dec cw s e pre = .ok e0 ∧ runOps e0 [.resize w h] = .ok e1 ∧
      MemEq (segsMem caps cw s pre) sm ∧
      runFramesCK caps dec cw (afterResizeP w h e1 sm) e1 (a :: rest) = .ok e' ∧ ShowsCK caps dec cw fi e' ∧
      runExact (termAfterResize w h e1)
        ((allToks caps cw (afterResizeP w h e1 sm) (a :: rest)).filterMap (tokT dec cw)) = some t' ∧
      Spec.Term.gridAccepts t'.primary (e'.active.map Model.EmuAbs.absRow) = true ∧
      (t'.row : Int) = e'.cur.row ∧ t'.pw = decide (e'.cur.col ≥ (w : Int)) ∧
      t'.pen = Model.EmuAbs.absStyle e'.cur.st ∧ t'.link = e'.cur.st.link ∧
      t'.cursorVisible = e'.mode.dectcem ∧ (t'.cursorShape : Int) = e'.cur.shape := by
  obtain ⟨e0, sm, hr0, hm, hl0⟩ := history_relinks (caps := caps) dec cw hsp hdec.space hdec.empty hlp pre rows cols s s e
    ⟨rfl, rfl, rfl⟩ hl hpre
  obtain ⟨e1, hr1, hl1, _⟩ := Lemmas.C12History.resize_linked_any dec cw _ _ sm e0 hl0 w h hw1 hw2 hh1 hh2
  have hrel := rel_resizedP dec hdec h w e1 hl1.sim.inv hl1.sim.dim
  obtain ⟨e', t', d, hr, hsh, hrt, _, _, _, _, g1, g2, g3, g4, g5, g6, g7⟩ :=
    emu_and_term_show (caps := caps) dec cw hsp hdec.space hdec.empty hlp h w (afterResizeP w h e1 sm) e1 hl1
      (termAfterResize w h e1) hrel a rest ha hok fi hlast
  exact ⟨e0, e1, e', sm, t', hr0, hr1, hm, hr, hsh, hrt, g1, g2, g3, g4, g5, g6, g7⟩

/-- `Model.C12Ref.refTok` (run by the driver on every frame) is the bridge's translation `tokT`. -/
theorem refTok_eq (dec : String → G) (tw : String → Nat) (k : Tok) : Model.C12Ref.refTok dec tw k = tokT dec tw k := by
  cases k <;> rfl

theorem refRun_eq : ∀ (ks : List Spec.Term.Tok) (t : T), Model.C12Ref.refRun t ks = runExact t ks
  | [], _ => rfl
  | k :: ks, t => by
    simp only [Model.C12Ref.refRun, runExact]
    cases h : Spec.Term.step t k with
    | unconstrained => rfl
    | accept l =>
      match l with
      | [] => rfl
      | [t'] => exact refRun_eq ks t'
      | _ :: _ :: _ => rfl

/-- `Model.C12Ref.refAccepts t e cols = none` is the conjunction `emu_and_term_show` concludes (plus the
    cursor column when no wrap is pending). -/
theorem refAccepts_none (t : T) (e : Emu) (cols : Nat)
    (h1 : Spec.Term.gridAccepts t.primary (e.active.map Model.EmuAbs.absRow) = true)
    (h2 : (t.row : Int) = e.cur.row) (h3 : t.pw = decide (e.cur.col ≥ (cols : Int)))
    (h3' : t.pw = false → (t.col : Int) = e.cur.col)
    (h4 : t.pen = Model.EmuAbs.absStyle e.cur.st) (h5 : t.link = e.cur.st.link)
    (h6 : t.cursorVisible = e.mode.dectcem) (h7 : (t.cursorShape : Int) = e.cur.shape) :
    Model.C12Ref.refAccepts t e cols = none := by
  cases hp : t.pw with
  | true => simp [Model.C12Ref.refAccepts, h1, h2, ← h3, hp, h4, h5, h6, h7]
  | false => simp [Model.C12Ref.refAccepts, h1, h2, ← h3, hp, h3' hp, h4, h5, h6, h7]

/-- The driver's comparison can fail (it is not vacuous): a blank 1×1 reference terminal does not accept
    an emulator showing `a`; it accepts the blank one; and a hidden / visible cursor mismatch is seen. -/
example :
    Model.C12Ref.refAccepts (T.init 1 1) { Lemmas.EmuRefine.newState 1 1 with primary := [[{ g := [97], w := 1 }]] } 1 = some "grid" ∧
    Model.C12Ref.refAccepts (T.init 1 1) (Lemmas.EmuRefine.newState 1 1) 1 = none ∧
    Model.C12Ref.refAccepts { T.init 1 1 with cursorVisible := false } (Lemmas.EmuRefine.newState 1 1) 1 = some "cursor visibility" := by
  decide

/-- Non-vacuity of `DecOk` together with the other decoder hypotheses: the table decoder of the examples. -/
example : DecOk C06Bridge.dec0 ∧ C06Bridge.dec0 "20" = [32] ∧ C06Bridge.dec0 "" = [] := ⟨C06Bridge.decOk0, by decide, by decide⟩

theorem decOk_decEx : DecOk C12.decEx := by
  refine ⟨rfl, ?_, rfl, ?_⟩
  · intro s h
    unfold C12.decEx at h
    split at h
    · assumption
    · split at h <;> cases h
  · intro s h
    unfold C12.decEx at h
    split at h
    · cases h
    · split at h
      · assumption
      · simp at h

/-- Non-vacuity: a 3×1 emulator after the real start-up (`emu_real_startup_every_size`), the reference
    terminal powered on with the cursor hidden, one refresh frame with styled underlines, an RGB
    underline colour and a wide glyph: all hypotheses hold; the emulator shows the frame and `Spec.Term`
    accepts the same tokens deterministically, ending related to the display that shows the frame. -/
example :
    let fi : FrameIn := ⟨true, gridUl, { visible := true, col := 2, style := 1 }, ""⟩
    ∃ e0 e' t' d, runOps (Lemmas.EmuRefine.newState 3 1) Model.C12Replies.startupAll = .ok e0 ∧
      runFramesCK emuCapsFull C12.decEx C12.cwEx (C12.startState 3 1) e0 [fi] = .ok e' ∧
      ShowsCK emuCapsFull C12.decEx C12.cwEx fi e' ∧
      runExact { T.init 1 3 with cursorVisible := false }
        ((allToks emuCapsFull C12.cwEx (C12.startState 3 1) [fi]).filterMap (tokT C12.decEx C12.cwEx)) = some t' ∧
      Rel C12.decEx d t' ∧ d.grid = Expected.expectedC C12.cwEx emuCapsFull fi.next := by
  intro fi
  obtain ⟨e0, h0, hl⟩ := C12StartAny.emu_real_startup_every_size C12.decEx C12.cwEx rfl 3 1 (by decide) (by decide) (by decide) (by decide)
  obtain ⟨e', t', d, hr, hsh, hrt, hrel, hg, _⟩ := emu_and_term_show (caps := emuCapsFull) C12.decEx C12.cwEx rfl rfl rfl
    C12.lpOk_decEx 1 3 (C12.startState 3 1) e0 hl.toP _ (rel_start C12.decEx decOk_decEx 1 3 (by decide) (by decide))
    fi [] rfl (by
      intro f hf
      simp only [List.mem_singleton] at hf
      subst hf
      exact ⟨C12.frameOkC_of_plain _ _ _ 1 3 _ rfl (by decide) (by decide) (by decide) (fun _ => by decide),
        fun _ => by decide⟩) fi rfl
  exact ⟨e0, e', t', d, h0, hr, hsh, hrt, hrel, hg⟩

end VaxisModel.Props.C12Bridge
