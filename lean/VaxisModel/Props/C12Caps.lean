/-
C12 — the composition theorems for ANY capability set without styled underlines, explicit width and
synchronized output, WITH OR WITHOUT DIRECT COLOUR.

Inside the emulator Vaxis detects `emuCaps` (no direct colour) from the replies — but `COLORTERM=truecolor`
in the environment (what most hosts export; `widgets/term` passes the environment on to its child) makes
`New()` set `rgb` without any reply (C07's `colorterm`). The renderer then writes `38:2:r:g:b` /
`48:2:r:g:b`, which the emulator implements. Hence the capability set as a parameter `caps` (class `CapsOk`).
-/
import VaxisModel.Props.C12Read
import VaxisModel.Lemmas.C12History

namespace VaxisModel.Props.C12Caps
open VaxisModel.Model.Render VaxisModel.Spec VaxisModel.Spec.Display VaxisModel.Lemmas.RenderGate
open VaxisModel.Model.Emu (Emu EOp G M runOps)
open VaxisModel.Model.C12Compose VaxisModel.Lemmas.C12Sim VaxisModel.Lemmas.C12Vocab VaxisModel.Lemmas.C12Resize
open VaxisModel.Lemmas.EmuRefine (EFrame)
open VaxisModel.Props.C01 (CursorAs Agree)
open VaxisModel.Props.C01Display (FrameIn HState mkFrame stepH FrameInOk Ready)
open VaxisModel.Props.C01Clip (FrameInOkC clipIn stepHC stepHC_eq clipIn_ok)
open VaxisModel.Props.C12 (Linked EmuFrameOk emuCaps startState start_ready)
open VaxisModel.Props.C12Resize (LinkedR afterResize Seg)
open VaxisModel.Model.C12Read VaxisModel.Lemmas.C12Read
open VaxisModel.Props.C12Read (EncOk wantCursor)

variable (caps : Caps)

/-- What the composition needs of the capability set: no styled underlines, no explicit width, no
    synchronized output (direct colour: either way). -/
class CapsOk (caps : Caps) : Prop where
  su : caps.styledUnderlines = false
  ew : caps.explicitWidth = false
  sy : caps.sync = false

theorem showsK_emuCaps (dec : String → G) (cw : String → Nat) (fi : FrameIn) (e : Emu) :
    ShowsCK emuCaps dec cw fi e ↔ C12.ShowsC dec cw fi e := Iff.rfl

variable {caps} [CapsOk caps]

omit [CapsOk caps] in
/-- **Read-back of a state that shows the frame**: the relational `ShowsCK caps` gives the equations. -/
theorem shows_reads_back (enc : G → String) (dec : String → G) (cw : String → Nat) (fi : FrameIn) (e : Emu)
    (h : ShowsCK caps dec cw fi e) (he : EncOk enc dec fi) :
    readScreen enc e.active = Expected.expectedC cw caps fi.next ∧ readCursor e = wantCursor fi :=
  Lemmas.C12Frame.reads_back enc fi e h.1 h.2 he.1 he.2.2

omit [CapsOk caps] in
open VaxisModel.Model.EmuDraw VaxisModel.Lemmas.C12Draw VaxisModel.Lemmas.EmuDraw in
/-- `C12.draw_reproduces_screen` for the capability set `caps`. -/
theorem draw_reproduces_screen (dec : String → G) (cw : String → Nat) (g : Grid) (e : Emu) (rows cols : Nat)
    (hinv : Lemmas.Emu.EmuInv e rows cols) (hd : Lemmas.Emu.Dim rows cols)
    (hrel : GridRel dec (Expected.expected cw caps g) e.active) (focused : Bool) :
    ∃ per : List (List DrawCall),
      draw true Model.Emu.Fixes.current e cols rows focused =
        .ok ({ e with hasVx := true }, per.flatten, shownCursor true e focused) ∧
      per.length = rows ∧
      ∀ (k : Nat) (l : List DrawCall), per[k]? = some l →
        ∃ drow, (Expected.expected cw caps g)[k]? = some drow ∧
          (∀ call ∈ l, ∃ (j : Nat) (d : DCell), call.col = (j : Int) ∧ call.row = (k : Int) ∧ drow[j]? = some d ∧
            d ≠ .cont ∧ HostRel dec d call.cell ∧
            setCellChain cols rows [Win.root cols rows] call.col call.row = some ((j : Int), (k : Int))) ∧
          (∀ (j : Nat) (d : DCell), drow[j]? = some d → d ≠ .cont → ∃ call ∈ l, call.col = (j : Int)) :=
  Lemmas.C12Frame.draw_shows dec cw caps g e rows cols hinv hd hrel focused

omit [CapsOk caps] in
/-- The cursor Draw shows in a focused host window is the application's cursor. -/
theorem draw_shows_cursor (dec : String → G) (cw : String → Nat) (fi : FrameIn) (e : Emu) (rows cols : Nat)
    (hinv : Lemmas.Emu.EmuInv e rows cols) (hs : ShowsK caps dec cw fi e)
    (hcol : fi.cursor.visible = true → fi.cursor.col < cols) :
    Model.EmuDraw.shownCursor true e true =
      (if fi.cursor.visible then some (fi.cursor.col, fi.cursor.row) else none) :=
  Lemmas.C12Frame.draw_cursor hinv hs.2 hcol

/-- After a frame: linked (C01's `Ready`, the cursor as requested, `DSim`), the display still shows
    the frame (`Agree`), and the application is on the alternate screen. -/
structure LinkedAlt (caps : Caps) (dec : String → G) (cw : String → Nat) (s : HState) (e : Emu) (rows cols : Nat) : Prop where
  linked : Linked dec cw s e rows cols
  agree : Agree cw caps s.t s.last
  alt : e.mode.smcup = true

instance (caps : Caps) [h : CapsOk caps] : C12Any.CapsOkU caps := ⟨h.ew, h.sy⟩

/-- **C12, the composition theorem for whole histories INCLUDING RESIZES**, for the capability set `caps`: in words at
    `C12Resize.emu_shows_across_resizes`, its instance at `emuCaps`. -/
theorem emu_shows_across_resizes (dec : String → G) (cw : String → Nat) (hsp : cw "20" = 1) (hd : dec "20" = [32])
    (hemp : dec "" = []) (hlp : LpOk dec) :
    ∀ (segs : List Seg) (rows cols : Nat) (s : HState) (e : Emu), LinkedR dec cw s e rows cols →
      (∀ sg ∈ segs, SegOk caps dec cw sg) →
      ∃ e', runSegs caps dec cw s e segs = .ok e' ∧
        ∀ sg, segs.getLast? = some sg → Lemmas.Emu.EmuInv e' sg.rows sg.cols ∧ e'.mode.smcup = true ∧
          ∀ fi, sg.frames.getLast? = some fi → ShowsCK caps dec cw fi e' := by
  intro segs rows cols s e hl hok
  obtain ⟨e', hr, hm, h⟩ := Lemmas.C12History.shows_across_resizes_aux dec cw hsp hd hemp hlp segs rows cols s s e ⟨rfl, rfl, rfl⟩
    hl.toP (fun sg hsg => Lemmas.C12History.segOkU_of_noSu CapsOk.su dec cw sg (hok sg hsg))
  exact ⟨e', hr, fun sg hsg => ⟨(h sg hsg).1, by rw [hm]; exact hl.alt, (h sg hsg).2⟩⟩

/-- **The same in equational form** (`C12Resize.emu_reads_back_across_resizes`). -/
theorem emu_reads_back_across_resizes (enc : G → String) (dec : String → G) (cw : String → Nat) (hsp : cw "20" = 1)
    (hd : dec "20" = [32]) (hemp : dec "" = []) (hlp : LpOk dec) (segs : List Seg) (rows cols : Nat) (s : HState) (e : Emu)
    (hl : LinkedR dec cw s e rows cols) (hok : ∀ sg ∈ segs, SegOk caps dec cw sg)
    (sg : Seg) (fi : FrameIn) (hsg : segs.getLast? = some sg) (hfi : sg.frames.getLast? = some fi)
    (he : EncOk enc dec fi) :
    ∃ e', runSegs caps dec cw s e segs = .ok e' ∧
      Model.C12Read.readScreen enc e'.active = Expected.expectedC cw caps fi.next ∧
      Model.C12Read.readCursor e' = wantCursor fi := by
  obtain ⟨e', hr, h⟩ := emu_shows_across_resizes dec cw hsp hd hemp hlp segs rows cols s e hl hok
  exact ⟨e', hr, shows_reads_back enc dec cw fi e' ((h sg hsg).2.2 fi hfi) he⟩

/-- After EVERY frame (`C12Resize.emu_shows_every_frame_resized`). -/
theorem emu_shows_every_frame_resized (dec : String → G) (cw : String → Nat) (hsp : cw "20" = 1) (hd : dec "20" = [32])
    (hemp : dec "" = []) (hlp : LpOk dec) (rows cols : Nat) (s : HState) (e : Emu) (hl : LinkedR dec cw s e rows cols)
    (pre post : List Seg) (sg : Seg) (hok : ∀ x ∈ pre ++ sg :: post, SegOk caps dec cw x)
    (k : Nat) (fk : FrameIn) (hk : sg.frames[k]? = some fk) :
    ∃ ek, runSegs caps dec cw s e (pre ++ [{ sg with frames := sg.frames.take (k + 1) }]) = .ok ek ∧ ShowsCK caps dec cw fk ek ∧
      Lemmas.Emu.EmuInv ek sg.rows sg.cols := by
  have hsg := hok sg (by simp)
  have hsg' : SegOk caps dec cw { sg with frames := sg.frames.take (k + 1) } := by
    refine ⟨hsg.1, ?_, ?_⟩
    · intro fi hfi
      apply hsg.2.1
      cases hf : sg.frames with
      | nil => rw [hf] at hk; cases hk
      | cons a r => simp only [hf, List.take_succ_cons, List.head?_cons] at hfi ⊢; exact hfi
    · intro fi hfi
      exact hsg.2.2 fi (List.mem_of_mem_take hfi)
  obtain ⟨ek, hr, hsh⟩ := emu_shows_across_resizes dec cw hsp hd hemp hlp (pre ++ [{ sg with frames := sg.frames.take (k + 1) }])
    rows cols s e hl (by
      intro x hx
      rcases List.mem_append.mp hx with h | h
      · exact hok x (by simp [h])
      · simp only [List.mem_singleton] at h; subst h; exact hsg')
  obtain ⟨hi, _, hs⟩ := hsh { sg with frames := sg.frames.take (k + 1) } (by simp)
  exact ⟨ek, hr, hs fk (Lemmas.ListBasic.getLast?_take_succ hk), hi⟩

open VaxisModel.Model.EmuDraw VaxisModel.Lemmas.C12Draw VaxisModel.Lemmas.EmuDraw in
/-- **After every frame of every segment, `Draw` into a host window of that segment's size reproduces
    the application's screen** (`C12Resize.emu_draw_across_resizes`). -/
theorem emu_draw_across_resizes (dec : String → G) (cw : String → Nat) (hsp : cw "20" = 1) (hd : dec "20" = [32])
    (hemp : dec "" = []) (hlp : LpOk dec) (segs : List Seg) (rows cols : Nat) (s : HState) (e : Emu)
    (hl : LinkedR dec cw s e rows cols) (hok : ∀ sg ∈ segs, SegOk caps dec cw sg)
    (sg : Seg) (fi : FrameIn) (hsg : segs.getLast? = some sg) (hfi : sg.frames.getLast? = some fi) (focused : Bool) :
    ∃ (e' : Emu) (per : List (List DrawCall)), runSegs caps dec cw s e segs = .ok e' ∧
      draw true Model.Emu.Fixes.current e' sg.cols sg.rows focused =
        .ok ({ e' with hasVx := true }, per.flatten, shownCursor true e' focused) ∧
      per.length = sg.rows ∧
      (∀ (k : Nat) (l : List DrawCall), per[k]? = some l →
        ∃ drow, (Expected.expectedC cw caps fi.next)[k]? = some drow ∧
          (∀ call ∈ l, ∃ (j : Nat) (d : DCell), call.col = (j : Int) ∧ call.row = (k : Int) ∧ drow[j]? = some d ∧
            d ≠ .cont ∧ HostRel dec d call.cell ∧
            setCellChain sg.cols sg.rows [Win.root sg.cols sg.rows] call.col call.row = some ((j : Int), (k : Int))) ∧
          (∀ (j : Nat) (d : DCell), drow[j]? = some d → d ≠ .cont → ∃ call ∈ l, call.col = (j : Int))) ∧
      shownCursor true e' true = (if fi.cursor.visible then some (fi.cursor.col, fi.cursor.row) else none) := by
  exact Lemmas.C12History.emu_draw_across_resizes_any dec cw hsp hd hemp hlp segs rows cols s e hl.toP
    (fun sg hsg => Lemmas.C12History.segOkU_of_noSu CapsOk.su dec cw sg (hok sg hsg)) sg fi hsg hfi focused

open VaxisModel.Lemmas.C12Cluster

/-- `runFramesCK` with the parser's clustering of consecutive text. -/
def runFramesMK (caps : Caps) (merges : String → String → Bool) (cat : String → String → String) (dec : String → G)
    (cw : String → Nat) : HState → Emu → List FrameIn → M Emu
  | _, e, [] => .ok e
  | s, e, fi :: rest => do
    let e' ← runOps e (opsOfToksM merges cat dec cw (renderFrameC cw (mkFrame caps s fi)).2)
    runFramesMK caps merges cat dec cw (stepHC cw caps s fi) e' rest

/-- `runSegs` with the parser's clustering of consecutive text. -/
def runSegsM (caps : Caps) (merges : String → String → Bool) (cat : String → String → String) (dec : String → G)
    (cw : String → Nat) : HState → Emu → List Seg → M Emu
  | _, e, [] => .ok e
  | s, e, sg :: rest => do
    let e1 ← runOps e [.resize sg.cols sg.rows]
    let s1 := afterResize sg.cols sg.rows e1 s
    let e2 ← runFramesMK caps merges cat dec cw s1 e1 sg.frames
    runSegsM caps merges cat dec cw (sg.frames.foldl (stepHC cw caps) s1) e2 rest

omit [CapsOk caps] in
theorem frame_noMerge (merges : String → String → Bool) (cw : String → Nat) (s : HState) (fi : FrameIn)
    (h : C12.NoMergeGrid merges fi.next) : NoMerge merges (renderFrameC cw (mkFrame caps s fi)).2 :=
  Lemmas.C12Frame.frame_noMerge merges cw caps s fi h

omit [CapsOk caps] in
theorem runFramesMK_congr (merges : String → String → Bool) (cat : String → String → String) (dec : String → G) (cw : String → Nat) :
    ∀ (fis : List FrameIn) (s : HState) (e : Emu),
      (∀ fi ∈ fis, ∀ s, opsOfToksM merges cat dec cw (renderFrameC cw (mkFrame caps s fi)).2 =
        opsOfToks dec cw (renderFrameC cw (mkFrame caps s fi)).2) →
      runFramesMK caps merges cat dec cw s e fis = runFramesCK caps dec cw s e fis := by
  intro fis
  induction fis with
  | nil => intro s e _; rfl
  | cons a rest ih =>
    intro s e h
    simp only [runFramesMK, runFramesCK]
    rw [h a (by simp) s]
    exact bind_congr fun e1 => ih _ e1 (fun fi hfi => h fi (by simp [hfi]))

omit [CapsOk caps] in
theorem runSegsM_congr (merges : String → String → Bool) (cat : String → String → String) (dec : String → G) (cw : String → Nat) :
    ∀ (segs : List Seg) (s : HState) (e : Emu),
      (∀ sg ∈ segs, ∀ fi ∈ sg.frames, ∀ s, opsOfToksM merges cat dec cw (renderFrameC cw (mkFrame caps s fi)).2 =
        opsOfToks dec cw (renderFrameC cw (mkFrame caps s fi)).2) →
      runSegsM caps merges cat dec cw s e segs = runSegs caps dec cw s e segs := by
  intro segs
  induction segs with
  | nil => intro s e _; rfl
  | cons sg rest ih =>
    intro s e h
    simp only [runSegsM, runSegs]
    refine bind_congr fun e1 => ?_
    rw [runFramesMK_congr merges cat dec cw sg.frames _ e1 (h sg (by simp))]
    exact bind_congr fun e2 => ih _ e2 (fun x hx => h x (by simp [hx]))

omit [CapsOk caps] in
theorem runSegsM_eq (merges : String → String → Bool) (cat : String → String → String) (dec : String → G) (cw : String → Nat)
    (segs : List Seg) (s : HState) (e : Emu) (h : ∀ sg ∈ segs, ∀ fi ∈ sg.frames, C12.NoMergeGrid merges fi.next) :
    runSegsM caps merges cat dec cw s e segs = runSegs caps dec cw s e segs :=
  runSegsM_congr merges cat dec cw segs s e (fun sg hsg fi hfi s =>
    opsOfToksM_eq merges cat dec cw _ (frame_noMerge merges cw s fi (h sg hsg fi hfi)))

/-- **C12, the composition theorem at its most concrete**: whole histories including resizes, the
    emulator fed what its parser delivers when it re-segments consecutive text writes (`opsOfToksM`,
    for whatever `merges` / `cat` the parser implements), any capability set with or without direct
    colour — for histories in which no two graphemes of a frame (blank included) merge when written
    back to back (`NoMergeGrid`; necessary: known finding F112d). -/
theorem emu_shows_across_resizes_clustered (merges : String → String → Bool) (cat : String → String → String)
    (dec : String → G) (cw : String → Nat) (hsp : cw "20" = 1) (hd : dec "20" = [32]) (hemp : dec "" = []) (hlp : LpOk dec)
    (segs : List Seg) (rows cols : Nat) (s : HState) (e : Emu) (hl : LinkedR dec cw s e rows cols)
    (hok : ∀ sg ∈ segs, SegOk caps dec cw sg) (hnm : ∀ sg ∈ segs, ∀ fi ∈ sg.frames, C12.NoMergeGrid merges fi.next) :
    ∃ e', runSegsM caps merges cat dec cw s e segs = .ok e' ∧
      ∀ sg, segs.getLast? = some sg → Lemmas.Emu.EmuInv e' sg.rows sg.cols ∧ e'.mode.smcup = true ∧
        ∀ fi, sg.frames.getLast? = some fi → ShowsCK caps dec cw fi e' := by
  rw [runSegsM_eq merges cat dec cw segs s e hnm]
  exact emu_shows_across_resizes dec cw hsp hd hemp hlp segs rows cols s e hl hok

open VaxisModel.Model.C12Replies VaxisModel.Lemmas.C12Wire in
omit [CapsOk caps] in
/-- **The colour templates on the wire**: for every index / channel value, the bytes `render()` produces
    from `fgIndexSet`, `bgIndexSet`, `fgRGBSet`, `bgRGBSet` parse to the sequence `opsOf` hands to the
    emulator model for the renderer model's token (`38:5:i`, `48:5:i`, `38:2:r:g:b`, `48:2:r:g:b` with
    colon sub-parameters). Completes `Props.C12.facts_wire` for the SGR vocabulary of `capsOf`. -/
theorem facts_wire_sgr (dec : String → G) (tw : String → Nat) (i r g b : Nat) :
    wireMatches (instFmt (strC "fgIndexSet") [intBytes i]) (opsOf dec tw (.sgr [[38, 5, i]])) = true ∧
    wireMatches (instFmt (strC "bgIndexSet") [intBytes i]) (opsOf dec tw (.sgr [[48, 5, i]])) = true ∧
    wireMatches (instFmt (strC "fgRGBSet") [intBytes r, intBytes g, intBytes b]) (opsOf dec tw (.sgr [[38, 2, r, g, b]])) = true ∧
    wireMatches (instFmt (strC "bgRGBSet") [intBytes r, intBytes g, intBytes b]) (opsOf dec tw (.sgr [[48, 2, r, g, b]])) = true := by
  obtain ⟨h1, h2, h3, h4⟩ :
      strC "fgIndexSet" = [27, 91, 51, 56, 58, 53, 58, 37, 100, 109] ∧
      strC "bgIndexSet" = [27, 91, 52, 56, 58, 53, 58, 37, 100, 109] ∧
      strC "fgRGBSet" = [27, 91, 51, 56, 58, 50, 58, 37, 100, 58, 37, 100, 58, 37, 100, 109] ∧
      strC "bgRGBSet" = [27, 91, 52, 56, 58, 50, 58, 37, 100, 58, 37, 100, 58, 37, 100, 109] := by decide +kernel
  obtain ⟨e38, e48, _, e5, e2, _⟩ := C12.intBytes_sgr
  refine ⟨?_, ?_, ?_, ?_⟩
  · rw [h1]; simp [instFmt, opsOf, wireMatches, csiWire, paramBytes, sgrParam, List.intercalate, e38, e5]
  · rw [h2]; simp [instFmt, opsOf, wireMatches, csiWire, paramBytes, sgrParam, List.intercalate, e48, e5]
  · rw [h3]; simp [instFmt, opsOf, wireMatches, csiWire, paramBytes, sgrParam, List.intercalate, e38, e2]
  · rw [h4]; simp [instFmt, opsOf, wireMatches, csiWire, paramBytes, sgrParam, List.intercalate, e48, e2]

open VaxisModel.Model.C12Replies VaxisModel.Lemmas.C12Wire in
omit [CapsOk caps] in
/-- The one-digit colour templates (`fgSet`, `bgSet`, `fgBrightSet`, `bgBrightSet`, digits 0–7) and the
    attribute / reset constants parse to the single-parameter `CSI n m` of the renderer model's tokens. -/
theorem facts_wire_sgr_consts (dec : String → G) (tw : String → Nat) :
    ((List.range 8).all fun i =>
      wireMatches (instFmt (strC "fgSet") [intBytes i]) (opsOf dec tw (.sgr [[30 + i]])) &&
      wireMatches (instFmt (strC "bgSet") [intBytes i]) (opsOf dec tw (.sgr [[40 + i]])) &&
      wireMatches (instFmt (strC "fgBrightSet") [intBytes i]) (opsOf dec tw (.sgr [[90 + i]])) &&
      wireMatches (instFmt (strC "bgBrightSet") [intBytes i]) (opsOf dec tw (.sgr [[100 + i]]))) = true ∧
    ([("boldSet", 1), ("dimSet", 2), ("italicSet", 3), ("underlineSet", 4), ("blinkSet", 5), ("reverseSet", 7),
      ("hiddenSet", 8), ("strikethroughSet", 9), ("boldDimReset", 22), ("italicReset", 23), ("underlineReset", 24),
      ("blinkReset", 25), ("reverseReset", 27), ("hiddenReset", 28), ("strikethroughReset", 29), ("fgReset", 39),
      ("bgReset", 49)].all fun (p : String × Nat) => wireMatches (strC p.1) (opsOf dec tw (.sgr [[p.2]]))) = true := by
  -- `opsOf` of an SGR token does not look at `dec` and `tw`: what is left is closed
  simp only [opsOf]
  decide +kernel

/-- The capability set of a Vaxis inside the emulator whose environment has `COLORTERM=truecolor`
    (`emu_dialogue_caps_any`): `emuCaps` plus direct colour. -/
def emuCapsRgb : Caps := { emuCaps with rgb := true }

instance : CapsOk emuCapsRgb := ⟨rfl, rfl, rfl⟩
instance : CapsOk emuCaps := ⟨rfl, rfl, rfl⟩

/-- **C12, the composition theorem for whole histories including resizes, with `COLORTERM=truecolor`**
    (the renderer writes direct colours `38:2:r:g:b` / `48:2:r:g:b`; `expectedC cw emuCapsRgb` shows
    RGB colours as they are instead of their palette fallback): no panic, and after every frame of
    every segment the emulator shows the application's screen and cursor. -/
theorem emu_shows_across_resizes_colorterm (dec : String → G) (cw : String → Nat) (hsp : cw "20" = 1) (hd : dec "20" = [32])
    (hemp : dec "" = []) (hlp : LpOk dec) (segs : List Seg) (rows cols : Nat) (s : HState) (e : Emu) (hl : LinkedR dec cw s e rows cols)
    (hok : ∀ sg ∈ segs, SegOk emuCapsRgb dec cw sg) :
    ∃ e', runSegs emuCapsRgb dec cw s e segs = .ok e' ∧
      ∀ sg, segs.getLast? = some sg → Lemmas.Emu.EmuInv e' sg.rows sg.cols ∧ e'.mode.smcup = true ∧
        ∀ fi, sg.frames.getLast? = some fi → ShowsCK emuCapsRgb dec cw fi e' :=
  emu_shows_across_resizes dec cw hsp hd hemp hlp segs rows cols s e hl hok

/-- At `emuCaps` the parametric development is the one of `Props/C12Resize.lean`. -/
theorem runSegs_emuCaps (dec : String → G) (cw : String → Nat) :
    ∀ (segs : List Seg) (s : HState) (e : Emu), runSegs emuCaps dec cw s e segs = C12Resize.runSegs dec cw s e segs := by
  have hf : ∀ (fis : List FrameIn) (s : HState) (e : Emu), runFramesCK emuCaps dec cw s e fis = C12.runFramesC dec cw s e fis := by
    intro fis
    induction fis with
    | nil => intro s e; rfl
    | cons a rest ih =>
      intro s e
      simp only [runFramesCK, C12.runFramesC]
      exact bind_congr fun e1 => ih _ e1
  intro segs
  induction segs with
  | nil => intro s e; rfl
  | cons sg rest ih =>
    intro s e
    simp only [runSegs, C12Resize.runSegs, hf]
    exact bind_congr fun e1 => bind_congr fun e2 => ih _ e2

def gridRgb : Grid :=
  [[({ g := "61", style := { fg := 33554432 + 1056816, bg := 33554432 + 255 } } : Cell), { g := "57", style := { bg := 16777220 } }, {}]]

/-- Non-vacuity with direct colour: from the real start-up state, a resize to 3×1 and a refresh frame
    with an RGB-coloured cell, a wide glyph on a palette background and a blank. -/
example :
    let fi : FrameIn := ⟨true, gridRgb, { visible := true, col := 2, style := 1 }, ""⟩
    ∃ e0 e', runOps (Lemmas.EmuRefine.newState 20 6) Model.C12Replies.startupAll = .ok e0 ∧
      runSegs emuCapsRgb C12.decEx C12.cwEx (startState 20 6) e0 [⟨3, 1, [fi]⟩] = .ok e' ∧
      ShowsCK emuCapsRgb C12.decEx C12.cwEx fi e' := by
  intro fi
  obtain ⟨e0, h0, hl⟩ := Lemmas.C12Segments.startup_on_alt C12.decEx C12.cwEx rfl 20 6 (by decide) (by decide) (by decide) (by decide)
  obtain ⟨e', hr, hsh⟩ := emu_shows_across_resizes_colorterm C12.decEx C12.cwEx rfl rfl rfl C12.lpOk_decEx [⟨3, 1, [fi]⟩] 6 20 (startState 20 6) e0 hl (by
    intro sg hsg
    simp only [List.mem_singleton] at hsg
    subst hsg
    refine ⟨by decide, fun f h => by cases h; rfl, ?_⟩
    intro f hf
    simp only [List.mem_singleton] at hf
    subst hf
    exact C12.frameOkC_of_plain _ _ _ 1 3 _ rfl (by decide) (by decide) (by decide) (fun _ => by decide))
  exact ⟨e0, e', h0, hr, (hsh _ rfl).2.2 fi rfl⟩

end VaxisModel.Props.C12Caps
