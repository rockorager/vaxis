/-
C12 — the property in ONE statement, assembled from the parts (nothing new is proved here; the point
is that the hypotheses and conclusions of the parts line up).

"When the bytes Vaxis emits for any sequence of frames are fed to an embedded terminal emulator of the
same size, the emulator's grid and cursor reproduce the application's screen cell for cell after every
frame, and drawing the emulator into a host window of that size yields those same cells. The replies
the emulator gives to Vaxis's start-up queries are understood by Vaxis as exactly the features the
emulator implements."
-/
import VaxisModel.Props.C12Any
import VaxisModel.Props.C12Timers
import VaxisModel.Props.C12StartAny
import VaxisModel.Props.C12Bridge
import VaxisModel.Lemmas.RenderLink

namespace VaxisModel.Props.C12Main
open VaxisModel.Model.Render VaxisModel.Spec VaxisModel.Spec.Display
open VaxisModel.Model.Emu (Emu EOp G M runOps)
open VaxisModel.Model.Input VaxisModel.Model.InputLoop VaxisModel.Model.Startup
open VaxisModel.Model.C12Replies VaxisModel.Lemmas.C12Replies VaxisModel.Lemmas.C12StartupLive
open VaxisModel.Spec.Startup (Opts)
open VaxisModel.Props.C01Display (FrameIn HState)
open VaxisModel.Props.C12 (emuCaps startState)
open VaxisModel.Props.C12Resize (LinkedR Seg)
open VaxisModel.Props.C12Caps VaxisModel.Props.C12Any VaxisModel.Props.C12Timers
open VaxisModel.Lemmas.C12Vocab (LpOk)
open VaxisModel.Props.C12Read (EncOk wantCursor)
open VaxisModel.Model.C12Read
open VaxisModel.Model.EmuDraw

/-- The renderer's capability set inside the emulator: `emuCaps`, plus direct colour iff the
    environment says `COLORTERM=truecolor`. -/
def capsOf (colorterm : Bool) : Model.Render.Caps := { emuCaps with rgb := colorterm }

instance (b : Bool) : CapsOk (capsOf b) := ⟨rfl, rfl, rfl⟩

/-- The decoding hypotheses of the composition theorems are those of the hex decoding of the renderer
    model's opaque strings (`hx.Hex` in the harness, `Lemmas.RenderLink.hexDec`): blank, empty string, and
    no `;` in any OSC 8 parameter field the renderer writes. -/
theorem hexDec_ok : Lemmas.RenderLink.hexDec "20" = [32] ∧ Lemmas.RenderLink.hexDec "" = [] ∧ LpOk Lemmas.RenderLink.hexDec :=
  ⟨by decide, by decide, Lemmas.RenderLink.lpField_no_semicolon⟩

/-- **C12, end to end over the models.**

    (1a) *The start-up dialogue, no timer firing.* With the emulator model's replies to `sendQueries()`
    as the inputs of Vaxis' input goroutine (any emulator state, host background reported or not), every
    time-out-free, maximal run of C07's start-up system — every interleaving of the input goroutine with
    `New()` — ends with `New()` past `applyQuirks` and the capability record
    `{sixels, unicodeCore, osc11 iff reported, rgb iff COLORTERM}`: the renderer's capability set is
    `capsOf o.colorterm`.

    (1b) *… and whatever the timers do.* In EVERY state of EVERY run — the 50 ms timer of the
    explicit-width probe, the 3 s context of the collection loop and the clipboard time-out firing
    whenever their guards allow, any environment, any part of the emulator's replies delivered — the
    renderer's capability set is `emuCaps`, possibly with direct colour (only if `COLORTERM` says so):
    one of the capability sets of (3).

    (2) *The start state, at every size.* The emulator model, started as `New()` + `resize(w, h)` for any
    size 1×1 … 65535² and fed everything the real Vaxis writes at start-up, is on the alternate screen,
    blank, at rest (`Props/C12StartAny`: followed symbolically).

    (3) *Every history, on either screen, under any capability set the emulator implements.* From any
    state of an application whose last flush is complete (`LinkedP`; on the alternate screen: (2)), for
    every history of segments — the host gives the emulator a size 1×1 … 65535² (on the primary screen
    the old content is reflowed), the application renders any number of admissible frames at that size,
    the first a refresh — rendered under ANY capability set without explicit width and synchronized
    output (`CapsOkU`: with or without direct colour and styled underlines), the emulator fed `resize` and
    what its parser delivers for the renderer's tokens (grapheme clustering included; no two horizontally
    neighbouring shown cells of a frame joining — exactly the situation of the known finding F112d, C01's
    `NoJoinNeighbours`) never panics, stays on the screen it is on, and after the last frame of the last
    segment (the hypotheses are closed under truncation: after EVERY frame) — at the size of that segment —
    * the emulator's grid read back is the application's screen and its cursor read back is the
      requested cursor (equations), and
    * `Draw` into a host window of that size does not resize, makes exactly one `SetCell` per glyph
      cell of the application's screen, each carrying a cell that shows it, and shows the
      application's cursor in a focused window.

    (4) *Against ONE reference terminal.* In the situation of (3), at any size, with `Spec.Term` — the
    reference terminal of C06, which the emulator is proved to refine — in a state related to the same
    display (`Rel`; `C12Bridge.rel_start` / `rel_resized` give one at start-up and after a resize): for
    every list of admissible frames, the first a refresh, the emulator shows the last (hence every) frame
    AND `Spec.Term`, fed the very same renderer tokens, is deterministic on them (`runExact`) and ends
    related (`Rel`: every cell equal up to its own visual equality, cursor, pen, hyperlink, visibility,
    shape) to the display that shows the application's screen and cursor and that the emulator simulates
    (C01 + the C05/C06 builder's bridge `display_refines_term` + the C12 simulation) — hence the reference
    terminal ACCEPTS the emulator's state in the sense of C06 (`gridAccepts` cell by cell, cursor row,
    pending wrap, pen, hyperlink, cursor visibility and shape): after every frame the emulator shows what
    the one reference terminal, driven by the renderer's own output, says it must show. -/
theorem c12_end_to_end :
    -- (1a)
    (∀ (colorterm : Bool) (hostBg : Option (Nat × Nat × Nat)) (e : Emu) (p : Params), 8 ≤ p.qcap →
      VaxisModel.Lemmas.InputLoop.Kinds.safe p.kinds → p.cursorCap ≠ 0 →
      ∀ (o : Opts), o.envUnset = true → o.colorterm = colorterm →
      ∀ (ls : List VaxisModel.Model.Startup.Label) (st : St), inputsOf ls = startupReplies hostBg e →
        (∀ l ∈ ls, isTimeout l = false) → VaxisModel.Model.Startup.run p o (St.init o) ls = some st →
        C12Startup.Quiescent p o st →
        st.phase = .ready ∧ st.sys.dropped = 0 ∧ rendererCaps st.sys.vs.caps = capsOf colorterm) ∧
    -- (1b)
    (∀ (hostBg : Option (Nat × Nat × Nat)) (e : Emu) (p : Params) (o : Opts)
      (ls : List VaxisModel.Model.Startup.Label) (st : St), (∀ s ∈ inputsOf ls, s ∈ startupReplies hostBg e) →
        VaxisModel.Model.Startup.run p o (St.init o) ls = some st →
        rendererCaps st.sys.vs.caps = capsOf st.sys.vs.caps.rgb ∧ (st.sys.vs.caps.rgb = true → o.colorterm = true)) ∧
    -- (2)
    (∀ (dec : String → G) (cw : String → Nat), dec "" = [] →
      ∀ (w h : Int), 1 ≤ w → w ≤ 65535 → 1 ≤ h → h ≤ 65535 →
      ∃ e0, runOps (Lemmas.EmuRefine.newState w h) startupAll = .ok e0 ∧
        LinkedP dec cw (startState w.toNat h.toNat) e0 h.toNat w.toNat ∧ e0.mode.smcup = true) ∧
    -- (3)
    (∀ (caps : Model.Render.Caps) [CapsOkU caps] (merges : String → String → Bool) (cat : String → String → String)
      (enc : G → String) (dec : String → G) (cw : String → Nat), cw "20" = 1 → dec "20" = [32] → dec "" = [] → LpOk dec →
      ∀ (segs : List Seg) (rows cols : Nat) (s : HState) (e : Emu), LinkedP dec cw s e rows cols →
        (∀ sg ∈ segs, SegOkU caps dec cw sg) →
        (∀ sg ∈ segs, ∀ fi ∈ sg.frames, C01Cluster.NoJoinNeighbours merges cw caps fi.next) →
        ∀ (sg : Seg) (fi : FrameIn), segs.getLast? = some sg → sg.frames.getLast? = some fi → EncOk enc dec fi →
        ∃ (e' : Emu) (per : List (List DrawCall)),
          runSegsM caps merges cat dec cw s e segs = .ok e' ∧
          e'.mode.smcup = e.mode.smcup ∧
          readScreen enc e'.active = Expected.expectedC cw caps fi.next ∧
          readCursor e' = wantCursor fi ∧
          draw true Model.Emu.Fixes.current e' sg.cols sg.rows true =
            .ok ({ e' with hasVx := true }, per.flatten, shownCursor true e' true) ∧
          per.length = sg.rows ∧
          shownCursor true e' true = (if fi.cursor.visible then some (fi.cursor.col, fi.cursor.row) else none)) ∧
    -- (4)
    (∀ (caps : Model.Render.Caps) [CapsOkU caps] (dec : String → G) (cw : String → Nat), cw "20" = 1 → dec "20" = [32] →
      dec "" = [] → LpOk dec →
      ∀ (rows cols : Nat) (s : HState) (e : Emu), LinkedP dec cw s e rows cols →
      ∀ (t : Spec.Term.T), Lemmas.C06Bridge.Rel dec s.t t →
      ∀ (a : FrameIn) (rest : List FrameIn), a.refresh = true →
        (∀ fi ∈ a :: rest, (C01Clip.FrameInOkC cw caps rows cols fi ∧ C12.EmuFrameOk dec cw fi) ∧ UlOk caps fi) →
        ∀ (fi : FrameIn), (a :: rest).getLast? = some fi →
        ∃ (e' : Emu) (t' : Spec.Term.T) (d : Spec.Display.Term),
          runFramesCK caps dec cw s e (a :: rest) = .ok e' ∧ ShowsCK caps dec cw fi e' ∧
          Lemmas.C06Bridge.runExact t ((C12Bridge.allToks caps cw s (a :: rest)).filterMap (Lemmas.C06Bridge.tokT dec cw)) = some t' ∧
          Lemmas.C06Bridge.Rel dec d t' ∧
          d.grid = Expected.expectedC cw caps fi.next ∧ C01.CursorAs d fi.cursor ∧
          Lemmas.C12Sim.DSim dec d e' rows cols ∧
          Spec.Term.gridAccepts t'.primary (e'.active.map Model.EmuAbs.absRow) = true ∧
          (t'.row : Int) = e'.cur.row ∧ t'.pw = decide (e'.cur.col ≥ (cols : Int)) ∧
          t'.pen = Model.EmuAbs.absStyle e'.cur.st ∧ t'.link = e'.cur.st.link ∧
          t'.cursorVisible = e'.mode.dectcem ∧ (t'.cursorShape : Int) = e'.cur.shape) := by
  refine ⟨?_, ?_, ?_, ?_, ?_⟩
  · intro colorterm hostBg e p hq hk hcap o henv hct ls st hin hnt hrun hquiet
    obtain ⟨h1, _, h3, h4⟩ := C12Startup.emu_dialogue_completes_any hostBg e p hq hk hcap o henv ls st hin hnt hrun hquiet
    refine ⟨h1, h3, ?_⟩
    rw [h4, hct]
    rfl
  · intro hostBg e p o ls st hin hrun
    obtain ⟨h1, _, h3⟩ := emu_dialogue_caps_capsOk hostBg e p o ls st hin hrun
    exact ⟨h1, h3⟩
  · intro dec cw hemp w h hw1 hw2 hh1 hh2
    obtain ⟨e0, h0, hl⟩ := C12StartAny.emu_real_startup_every_size dec cw hemp w h hw1 hw2 hh1 hh2
    exact ⟨e0, h0, hl.toP, hl.alt⟩
  · intro caps _ merges cat enc dec cw hsp hd hemp hlp segs rows cols s e hl hok hnm sg fi hsg hfi henc
    obtain ⟨e', per, hr, hdraw, hlen, _, hcur⟩ :=
      Lemmas.C12History.emu_draw_across_resizes_any (caps := caps) dec cw hsp hd hemp hlp segs rows cols s e hl hok sg fi hsg hfi true
    obtain ⟨e'', hr', hm, h⟩ := emu_shows_across_resizes_any (caps := caps) dec cw hsp hd hemp hlp segs rows cols s e hl hok
    rw [hr] at hr'
    cases hr'
    obtain ⟨hrs, hrc⟩ := shows_reads_back (caps := caps) enc dec cw fi e' ((h sg hsg).2 fi hfi) henc
    refine ⟨e', per, ?_, hm, hrs, hrc, hdraw, hlen, hcur⟩
    rw [runSegsM_eq_tight merges cat dec cw segs s e hok hnm]
    exact hr
  · intro caps _ dec cw hsp hd hemp hlp rows cols s e hl t ht a rest ha hok fi hlast
    exact C12Bridge.emu_and_term_show (caps := caps) dec cw hsp hd hemp hlp rows cols s e hl t ht a rest ha hok fi hlast

/-- **One session, start-up and rendering together.** Take ANY run of Vaxis' start-up inside the
    emulator — timers firing or not, any environment, any part of the replies delivered — and let `caps`
    be the renderer's view of the capability record it ends with. Then every history rendered under THAT
    capability set (from any linked state, on either screen, any sizes, through the clustering wire) is
    shown by the emulator after every frame: the conclusion of clause (3) of `c12_end_to_end`, with the
    capability set not a parameter but whatever the dialogue produced. -/
theorem c12_session (hostBg : Option (Nat × Nat × Nat)) (e0 : Emu) (p : Params) (o : Opts)
    (ls : List VaxisModel.Model.Startup.Label) (st : St) (hin : ∀ s ∈ inputsOf ls, s ∈ startupReplies hostBg e0)
    (hrun : VaxisModel.Model.Startup.run p o (St.init o) ls = some st)
    (merges : String → String → Bool) (cat : String → String → String)
    (enc : G → String) (dec : String → G) (cw : String → Nat) (hsp : cw "20" = 1) (hd : dec "20" = [32]) (hemp : dec "" = [])
    (hlp : LpOk dec) (segs : List Seg) (rows cols : Nat) (s : HState) (e : Emu) (hl : LinkedP dec cw s e rows cols)
    (hok : ∀ sg ∈ segs, SegOk (rendererCaps st.sys.vs.caps) dec cw sg)
    (hnm : ∀ sg ∈ segs, ∀ fi ∈ sg.frames, C01Cluster.NoJoinNeighbours merges cw (rendererCaps st.sys.vs.caps) fi.next)
    (sg : Seg) (fi : FrameIn) (hsg : segs.getLast? = some sg) (hfi : sg.frames.getLast? = some fi) (henc : EncOk enc dec fi) :
    ∃ (e' : Emu) (per : List (List DrawCall)),
      runSegsM (rendererCaps st.sys.vs.caps) merges cat dec cw s e segs = .ok e' ∧
      readScreen enc e'.active = Expected.expectedC cw (rendererCaps st.sys.vs.caps) fi.next ∧
      readCursor e' = wantCursor fi ∧
      draw true Model.Emu.Fixes.current e' sg.cols sg.rows true =
        .ok ({ e' with hasVx := true }, per.flatten, shownCursor true e' true) ∧
      per.length = sg.rows ∧
      shownCursor true e' true = (if fi.cursor.visible then some (fi.cursor.col, fi.cursor.row) else none) := by
  obtain ⟨_, hcaps, _⟩ := emu_dialogue_caps_capsOk hostBg e0 p o ls st hin hrun
  haveI : CapsOk (rendererCaps st.sys.vs.caps) := hcaps
  obtain ⟨e', per, hr, _, h3, h4, h5, h6, h7⟩ := c12_end_to_end.2.2.2.1 (rendererCaps st.sys.vs.caps) merges cat enc dec cw hsp hd hemp hlp
    segs rows cols s e hl (fun x hx => Lemmas.C12History.segOkU_of_noSu (caps := rendererCaps st.sys.vs.caps) hcaps.su dec cw x (hok x hx)) hnm sg fi hsg hfi henc
  exact ⟨e', per, hr, h3, h4, h5, h6, h7⟩

end VaxisModel.Props.C12Main
