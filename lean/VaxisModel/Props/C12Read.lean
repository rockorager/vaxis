/-
C12 — the composition theorem in EQUATIONAL form: the emulator's grid, read back as a screen
(`Lemmas.C12Read.readScreen`: glyph cells with their stored bytes turned back into the renderer
model's opaque strings by `enc`, erased cells as blanks with their background, the cells under a
wide glyph as continuation cells), IS the application's screen (`Spec.Expected.expectedC`), and the
cursor read back (`readCursor`) IS the requested cursor.
-/
import VaxisModel.Props.C12
import VaxisModel.Lemmas.C12Read

namespace VaxisModel.Props.C12Read
open VaxisModel.Model.Render VaxisModel.Spec VaxisModel.Spec.Display
open VaxisModel.Model.Emu (Emu EOp G M runOps)
open VaxisModel.Model.C12Compose VaxisModel.Lemmas.C12Sim VaxisModel.Lemmas.C12Read
open VaxisModel.Props.C01Display (FrameIn HState)
open VaxisModel.Props.C12 VaxisModel.Model.C12Read

/-- `enc` (bytes → opaque string) inverts `dec` on the strings of the frame, the blank and "". -/
def EncOk (enc : G → String) (dec : String → G) (fi : FrameIn) : Prop :=
  enc (dec "20") = "20" ∧ enc (dec "") = "" ∧ ∀ r ∈ fi.next, ∀ c ∈ r, EncCell enc dec c

/-- The requested cursor in the same form. -/
def wantCursor (fi : FrameIn) : Option (Int × Int × Int) :=
  if fi.cursor.visible then some (fi.cursor.row, fi.cursor.col, (fi.cursor.style : Int)) else none

/-- **Read-back of a state that shows the frame**: the relational `ShowsC` gives the equations. -/
theorem shows_reads_back (enc : G → String) (dec : String → G) (cw : String → Nat) (fi : FrameIn) (e : Emu)
    (h : ShowsC dec cw fi e) (he : EncOk enc dec fi) :
    readScreen enc e.active = Expected.expectedC cw emuCaps fi.next ∧ readCursor e = wantCursor fi :=
  Lemmas.C12Frame.reads_back enc fi e h.1 h.2 he.1 he.2.2

/-- **C12, composition theorem, equational, after EVERY frame of every history**: as
    `emu_shows_every_frame`, the conclusion being two equations — the emulator's grid read back is the
    application's screen, the emulator's cursor read back is the requested cursor. -/
theorem emu_reads_back_every_frame (enc : G → String) (dec : String → G) (cw : String → Nat) (hsp : cw "20" = 1)
    (hd : dec "20" = [32]) (hemp : dec "" = []) (hlp : Lemmas.C12Vocab.LpOk dec) (rows cols : Nat) (e0 : Emu)
    (h0 : DSim dec (startDisplay cols rows) e0 rows cols)
    (fi0 : FrameIn) (fis : List FrameIn) (hr0 : fi0.refresh = true)
    (hok : ∀ fi ∈ fi0 :: fis, C01Clip.FrameInOkC cw emuCaps rows cols fi ∧ EmuFrameOk dec cw fi)
    (k : Nat) (fk : FrameIn) (hk : (fi0 :: fis)[k]? = some fk) (he : EncOk enc dec fk) :
    ∃ ek, runFramesC dec cw (startState cols rows) e0 ((fi0 :: fis).take (k + 1)) = .ok ek ∧
      readScreen enc ek.active = Expected.expectedC cw emuCaps fk.next ∧ readCursor ek = wantCursor fk := by
  obtain ⟨ek, hr, hs, _⟩ := emu_shows_every_frame dec cw hsp hd hemp hlp rows cols e0 h0 fi0 fis hr0 hok k fk hk
  exact ⟨ek, hr, shows_reads_back enc dec cw fk ek hs he⟩

/-! ### Non-vacuity: a byte decoding with an inverse on the strings of the example frames -/

def decI : String → G := fun s =>
  if s = "" then [] else if s = "20" then [32] else if s = "61" then [97] else if s = "57" then [228, 184, 173]
  else if s = "68" then [104] else if s = "69" then [105] else [63]
def encI : G → String := fun g =>
  if g = [] then "" else if g = [32] then "20" else if g = [97] then "61" else if g = [228, 184, 173] then "57"
  else if g = [104] then "68" else if g = [105] then "69" else "3f"

example : EncOk encI decI ⟨true, grid1, {}, ""⟩ := by
  refine ⟨by decide, by decide, ?_⟩
  intro r hr c hc
  simp only [grid1, List.mem_cons, List.not_mem_nil, or_false] at hr
  subst hr
  simp only [List.mem_cons, List.not_mem_nil, or_false] at hc
  rcases hc with rfl | rfl | rfl <;> exact ⟨by decide, by decide, by decide⟩

end VaxisModel.Props.C12Read
