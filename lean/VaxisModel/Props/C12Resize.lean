/-
C12 — the composition theorem stated ONCE for whole histories INCLUDING RESIZES.

A history is a list of segments; each segment starts with the host giving the emulator a new size
(`EOp.resize`, directly or through `Draw` into a window of another size — `draw_resizes_linked`),
after which the application (Vaxis sets `refresh` on a size change and reallocates its buffers)
renders the segment's frames, the first a refresh. The application lives on the alternate screen
(`mode.smcup`, entered at start-up: `emu_real_startup_on_alt`), which `resize()` leaves blank;
`resize()` also leaves the pen alone (F112c), so the emulator after a resize is again
related to a blank display at rest — with the cursor wherever the reflow of the primary screen left
it, which the refresh frame does not rely on (`Lemmas.RenderCursor.cursor_nonempty`).
-/
import VaxisModel.Props.C12Caps

namespace VaxisModel.Props.C12Resize
open VaxisModel.Model.Render VaxisModel.Spec VaxisModel.Spec.Display VaxisModel.Lemmas.RenderGate
open VaxisModel.Model.Emu (Emu EOp G M runOps)
open VaxisModel.Model.C12Compose VaxisModel.Lemmas.C12Sim VaxisModel.Lemmas.C12Vocab VaxisModel.Lemmas.C12Resize
open VaxisModel.Lemmas.EmuRefine (EFrame)
open VaxisModel.Props.C01 (CursorAs Agree)
open VaxisModel.Props.C01Display (FrameIn HState mkFrame stepH FrameInOk Ready)
open VaxisModel.Props.C01Clip (FrameInOkC clipIn stepHC stepHC_eq clipIn_ok)
open VaxisModel.Props.C12

/-- After a frame: linked (C01's `Ready`, the cursor as requested, `DSim`), the display still shows
    the frame (`Agree`), and the application is on the alternate screen. -/
structure LinkedAlt (dec : String → G) (cw : String → Nat) (s : HState) (e : Emu) (rows cols : Nat) : Prop where
  linked : Linked dec cw s e rows cols
  agree : Agree cw emuCaps s.t s.last
  alt : e.mode.smcup = true

def SegOk (dec : String → G) (cw : String → Nat) (sg : Seg) : Prop :=
  (1 ≤ sg.cols ∧ sg.cols ≤ 65535 ∧ 1 ≤ sg.rows ∧ sg.rows ≤ 65535) ∧
  (∀ fi, sg.frames.head? = some fi → fi.refresh = true) ∧
  ∀ fi ∈ sg.frames, FrameInOkC cw emuCaps sg.rows sg.cols fi ∧ EmuFrameOk dec cw fi

/-- **C12, the composition theorem for whole histories INCLUDING RESIZES.** From any state of an
    application on the alternate screen whose last flush is complete (`LinkedR`: what the real
    start-up establishes — `emu_real_startup_on_alt` — and what every frame and every resize
    re-establish), for every list of admissible segments — each a resize of the emulator to any size
    1×1 … 65535² followed by any number of admissible frames at that size, the first a refresh — the
    emulator model fed `resize` and, frame after frame, the parsed sequences of what the renderer model
    writes, never panics, and after the last frame of the last segment — hence, the hypothesis being
    closed under truncation of the history, after EVERY frame of every segment — its grid shows the
    application's screen cell for cell and its cursor is as requested, at the size of that segment. -/
theorem emu_shows_across_resizes (dec : String → G) (cw : String → Nat) (hsp : cw "20" = 1) (hd : dec "20" = [32])
    (hemp : dec "" = []) (hlp : LpOk dec) :
    ∀ (segs : List Seg) (rows cols : Nat) (s : HState) (e : Emu), LinkedR dec cw s e rows cols →
      (∀ sg ∈ segs, SegOk dec cw sg) →
      ∃ e', runSegs dec cw s e segs = .ok e' ∧
        ∀ sg, segs.getLast? = some sg → Lemmas.Emu.EmuInv e' sg.rows sg.cols ∧ e'.mode.smcup = true ∧
          ∀ fi, sg.frames.getLast? = some fi → ShowsC dec cw fi e' := by
  intro segs rows cols s e hl hok
  rw [← C12Caps.runSegs_emuCaps]
  exact C12Caps.emu_shows_across_resizes (caps := emuCaps) dec cw hsp hd hemp hlp segs rows cols s e hl hok

/-- **The same in equational form**: after the last frame of the last segment (hence after every
    frame of every segment) the emulator's grid read back (`Model.C12Read.readScreen`) IS the
    application's screen and its cursor read back IS the requested cursor. -/
theorem emu_reads_back_across_resizes (enc : G → String) (dec : String → G) (cw : String → Nat) (hsp : cw "20" = 1)
    (hd : dec "20" = [32]) (hemp : dec "" = []) (hlp : LpOk dec) (segs : List Seg) (rows cols : Nat) (s : HState) (e : Emu)
    (hl : LinkedR dec cw s e rows cols) (hok : ∀ sg ∈ segs, SegOk dec cw sg)
    (sg : Seg) (fi : FrameIn) (hsg : segs.getLast? = some sg) (hfi : sg.frames.getLast? = some fi)
    (he : C12Read.EncOk enc dec fi) :
    ∃ e', runSegs dec cw s e segs = .ok e' ∧
      Model.C12Read.readScreen enc e'.active = Expected.expectedC cw emuCaps fi.next ∧
      Model.C12Read.readCursor e' = C12Read.wantCursor fi := by
  rw [← C12Caps.runSegs_emuCaps]
  exact C12Caps.emu_reads_back_across_resizes (caps := emuCaps) enc dec cw hsp hd hemp hlp segs rows cols s e hl hok sg fi hsg hfi he

/-- After EVERY frame: for any frame `k` of any segment of an admissible history, the run over the
    history truncated after that frame ends in a state that shows it. -/
theorem emu_shows_every_frame_resized (dec : String → G) (cw : String → Nat) (hsp : cw "20" = 1) (hd : dec "20" = [32])
    (hemp : dec "" = []) (hlp : LpOk dec) (rows cols : Nat) (s : HState) (e : Emu) (hl : LinkedR dec cw s e rows cols)
    (pre post : List Seg) (sg : Seg) (hok : ∀ x ∈ pre ++ sg :: post, SegOk dec cw x)
    (k : Nat) (fk : FrameIn) (hk : sg.frames[k]? = some fk) :
    ∃ ek, runSegs dec cw s e (pre ++ [{ sg with frames := sg.frames.take (k + 1) }]) = .ok ek ∧ ShowsC dec cw fk ek ∧
      Lemmas.Emu.EmuInv ek sg.rows sg.cols := by
  rw [← C12Caps.runSegs_emuCaps]
  exact C12Caps.emu_shows_every_frame_resized (caps := emuCaps) dec cw hsp hd hemp hlp rows cols s e hl pre post sg hok k fk hk

/-- **Draw into a smaller / larger host window** resizes the emulator exactly as the `resize` step of
    `runSegs` does (then marks the host as attached), draws the blank alternate screen, and leaves a
    state from which the composition continues (`LinkedR` at the window's size): the next segment's
    refresh frame shows the application's screen at the new size. -/
theorem draw_resizes_linked (dec : String → G) (cw : String → Nat) (rows cols : Nat) (s : HState) (e : Emu)
    (hl : LinkedR dec cw s e rows cols) (w h : Nat) (hw1 : 1 ≤ w) (hw2 : w ≤ 65535) (hh1 : 1 ≤ h) (hh2 : h ≤ 65535)
    (hne : w ≠ cols ∨ h ≠ rows) (focused : Bool) :
    ∃ e1 calls, runOps e [.resize w h] = .ok e1 ∧
      Model.EmuDraw.draw true Model.Emu.Fixes.current e w h focused =
        .ok ({ e1 with hasVx := true }, calls, Model.EmuDraw.shownCursor true e1 focused) ∧
      LinkedR dec cw (afterResize w h e1 s) { e1 with hasVx := true } h w := by
  obtain ⟨e1, hr1, lr⟩ := Lemmas.C12History.resize_linked dec cw rows cols s e hl w h hw1 hw2 hh1 hh2
  obtain ⟨n, hs⟩ := runOps_single_inv hr1
  have hrz : Model.Emu.resize Model.Emu.Fixes.current e w h = .ok e1 := by
    obtain ⟨x, hc, hx⟩ := Except.bind_eq_ok (f := fun x => (Except.ok (x, 0) : M (Emu × Nat))) hs
    cases hx; exact hc
  obtain ⟨per, hper, _⟩ := C05Draw.draw_covers_rows lr.sim.inv lr.sim.dim
  have hsz : ((w : Int) ≠ e.width ∨ (h : Int) ≠ e.height) := by
    rw [Lemmas.Emu.width_eq hl.sim.inv hl.sim.dim.r1, Lemmas.Emu.height_eq hl.sim.inv]
    rcases hne with h1 | h1
    · exact Or.inl (by omega)
    · exact Or.inr (by omega)
  refine ⟨e1, per.flatten, hr1, ?_, ⟨lr.ready, lr.vis, Lemmas.C12Segments.dsim_hasVx lr.sim true, lr.alt⟩⟩
  simp only [Model.EmuDraw.draw, hsz, if_true, hrz, hper, bind, Except.bind]

open VaxisModel.Model.EmuDraw VaxisModel.Lemmas.C12Draw VaxisModel.Lemmas.EmuDraw in
/-- **After every frame of every segment, `Draw` into a host window of that segment's size reproduces
    the application's screen** (`draw_reproduces_screen` at the end of
    any history with resizes): no resize happens, the `SetCell` calls are row by row exactly one per
    glyph cell of the application's screen (`expectedC`), each carrying a cell that shows that glyph
    and landing on the host cell with the same coordinates; the cursor shown in a focused window is the
    application's cursor. -/
theorem emu_draw_across_resizes (dec : String → G) (cw : String → Nat) (hsp : cw "20" = 1) (hd : dec "20" = [32])
    (hemp : dec "" = []) (hlp : LpOk dec) (segs : List Seg) (rows cols : Nat) (s : HState) (e : Emu)
    (hl : LinkedR dec cw s e rows cols) (hok : ∀ sg ∈ segs, SegOk dec cw sg)
    (sg : Seg) (fi : FrameIn) (hsg : segs.getLast? = some sg) (hfi : sg.frames.getLast? = some fi) (focused : Bool) :
    ∃ (e' : Emu) (per : List (List DrawCall)), runSegs dec cw s e segs = .ok e' ∧
      draw true Model.Emu.Fixes.current e' sg.cols sg.rows focused =
        .ok ({ e' with hasVx := true }, per.flatten, shownCursor true e' focused) ∧
      per.length = sg.rows ∧
      (∀ (k : Nat) (l : List DrawCall), per[k]? = some l →
        ∃ drow, (Expected.expectedC cw emuCaps fi.next)[k]? = some drow ∧
          (∀ call ∈ l, ∃ (j : Nat) (d : DCell), call.col = (j : Int) ∧ call.row = (k : Int) ∧ drow[j]? = some d ∧
            d ≠ .cont ∧ HostRel dec d call.cell ∧
            setCellChain sg.cols sg.rows [Win.root sg.cols sg.rows] call.col call.row = some ((j : Int), (k : Int))) ∧
          (∀ (j : Nat) (d : DCell), drow[j]? = some d → d ≠ .cont → ∃ call ∈ l, call.col = (j : Int))) ∧
      shownCursor true e' true = (if fi.cursor.visible then some (fi.cursor.col, fi.cursor.row) else none) := by
  rw [← C12Caps.runSegs_emuCaps]
  exact C12Caps.emu_draw_across_resizes (caps := emuCaps) dec cw hsp hd hemp hlp segs rows cols s e hl hok sg fi hsg hfi focused

open VaxisModel.Model.C12Replies in
/-- **From the real start-up** (20×6): the emulator model fed everything the real Vaxis writes until
    it is ready to render (`startupAll`, compared with the real byte stream on every run) is on the
    alternate screen and in a start state of `emu_shows_across_resizes`. -/
theorem emu_real_startup_on_alt (dec : String → G) (cw : String → Nat) (hemp : dec "" = []) :
    ∃ e, runOps (Lemmas.EmuRefine.newState 20 6) startupAll = .ok e ∧ LinkedR dec cw (startState 20 6) e 6 20 :=
  Lemmas.C12Segments.startup_on_alt dec cw hemp 20 6 (by decide) (by decide) (by decide) (by decide)

def gridW : Grid := [[({ g := "61" } : Cell), {}, { g := "57", style := { bg := 16777220 } }, {}, {}, {}, {}], [{}, {}, {}, {}, {}, {}, {}]]

/-- All hypotheses of `emu_shows_across_resizes` hold for a history from the real start-up state
    through three sizes: 3×1 (a refresh with a wide glyph and a hyperlinked bold cell, then a diff
    frame that shows the cursor), 2×1 (the F02 input: a wide glyph in the last column), 7×2 — and an
    immediate further resize without a frame in between. -/
example :
    let fi0 : FrameIn := ⟨true, grid1, {}, ""⟩
    let fi1 : FrameIn := ⟨false, grid2, { visible := true, col := 1, style := 3 }, "text"⟩
    let fi2 : FrameIn := ⟨true, gridW, { visible := true, col := 6, row := 1, style := 3 }, "text"⟩
    ∃ e0 e', runOps (Lemmas.EmuRefine.newState 20 6) Model.C12Replies.startupAll = .ok e0 ∧
      runSegs decEx cwEx (startState 20 6) e0 [⟨3, 1, [fi0, fi1]⟩, ⟨2, 1, [fiF02]⟩, ⟨5, 5, []⟩, ⟨7, 2, [fi2]⟩] = .ok e' ∧
      ShowsC decEx cwEx fi2 e' := by
  intro fi0 fi1 fi2
  obtain ⟨e0, h0, hl⟩ := emu_real_startup_on_alt decEx cwEx rfl
  obtain ⟨e', hr, hsh⟩ := emu_shows_across_resizes decEx cwEx rfl rfl rfl lpOk_decEx
    [⟨3, 1, [fi0, fi1]⟩, ⟨2, 1, [fiF02]⟩, ⟨5, 5, []⟩, ⟨7, 2, [fi2]⟩] 6 20 (startState 20 6) e0 hl (by
      intro sg hsg
      simp only [List.mem_cons, List.not_mem_nil, or_false] at hsg
      rcases hsg with rfl | rfl | rfl | rfl
      · refine ⟨by decide, fun fi h => by cases h; rfl, ?_⟩
        intro fi hfi
        simp only [List.mem_cons, List.not_mem_nil, or_false] at hfi
        rcases hfi with rfl | rfl
        · exact frameOkC_of_plain _ _ _ 1 3 _ rfl (by decide) (by decide) (by decide) (fun h => absurd h (by decide))
        · exact frameOkC_of_plain _ _ _ 1 3 _ rfl (by decide) (by decide) (by decide) (fun _ => by decide)
      · refine ⟨by decide, fun fi h => by cases h; rfl, ?_⟩
        intro fi hfi
        simp only [List.mem_cons, List.not_mem_nil, or_false] at hfi
        subst hfi
        exact frameOkC_of_plain _ _ _ 1 2 _ rfl (by decide) (by decide) (by decide) (fun h => absurd h (by decide))
      · exact ⟨by decide, fun fi h => by simp at h, fun fi h => by simp at h⟩
      · refine ⟨by decide, fun fi h => by cases h; rfl, ?_⟩
        intro fi hfi
        simp only [List.mem_cons, List.not_mem_nil, or_false] at hfi
        subst hfi
        exact frameOkC_of_plain _ _ _ 2 7 _ rfl (by decide) (by decide) (by decide) (fun _ => by decide))
  exact ⟨e0, e', h0, hr, (hsh _ rfl).2.2 fi2 rfl⟩

end VaxisModel.Props.C12Resize
