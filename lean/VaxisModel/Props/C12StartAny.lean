/-
C12 — the real start-up leaves a start state of the composition theorem AT EVERY SIZE.

The run of the emulator model over `Model.C12Replies.startupAll` (everything the real Vaxis writes from `New()` until it
is ready to render; compared with the real byte stream on every run) is stated for every admissible size `w × h`
(1 ≤ w, h ≤ 65535); it is followed symbolically (`Lemmas.C12StartAny`): every sequence of `startupAll` keeps what the
start state asks for at its power-on value (`StartP`), from ANY such state; the last `CSI ? 1049 h` leaves the emulator on
the alternate screen, the `CSI ? 25 l` after it hides the cursor, and `enableModes()` touches neither.
-/
import VaxisModel.Props.C12Resize
import VaxisModel.Lemmas.C12StartAny

namespace VaxisModel.Props.C12StartAny
open VaxisModel.Model.Render VaxisModel.Spec VaxisModel.Spec.Display VaxisModel.Lemmas.RenderGate
open VaxisModel.Model.Emu (Emu EOp G M runOps)
open VaxisModel.Model.C12Compose VaxisModel.Lemmas.C12Sim VaxisModel.Lemmas.C12Vocab VaxisModel.Lemmas.C12Resize
open VaxisModel.Lemmas.EmuRefine (EFrame)
open VaxisModel.Props.C01 (CursorAs Agree)
open VaxisModel.Props.C01Display (FrameIn HState mkFrame stepH FrameInOk Ready)
open VaxisModel.Props.C12 VaxisModel.Props.C12Resize
open VaxisModel.Model.C12Replies
open VaxisModel.Lemmas.C12StartAny

/-- **The start-up from any start-like state**: from ANY well-formed `rows × cols` emulator state in
    which the cursor record, the charsets, both saved cursors, the modes DECAWM / DECOM / IRM / LNM
    and every cell of both screens are at their power-on values (`StartP`; the screen in use, the
    other mode flags, the margins and the tab stops are arbitrary), everything the real Vaxis writes
    at start-up runs without panic and ends in a state that passes the start-state check, on the
    alternate screen. -/
theorem emu_startup_from_any (rows cols : Nat) (d : Lemmas.Emu.Dim rows cols) (e : Emu) (h : StartP e rows cols) :
    ∃ e0, runOps e startupAll = .ok e0 ∧ StartP e0 rows cols ∧ startCheck e0 = true ∧ e0.mode.smcup = true := by
  obtain ⟨e0, hr, h0, hs, hd⟩ := run_startupAll d e h
  exact ⟨e0, hr, h0, startCheck_of h0 hd, hs⟩

/-- **From the real start-up, at every size**: the emulator model, started as `New()` + `resize(w, h)`
    and fed everything the real Vaxis writes until it is ready to render (`startupAll`: compared with
    the real byte stream on every run), ends without panic on the alternate screen, in a start state
    of `emu_shows_across_resizes` (C01's `Ready`, `DSim … (startDisplay w h)`, `smcup`). -/
theorem emu_real_startup_every_size (dec : String → G) (cw : String → Nat) (hemp : dec "" = [])
    (w h : Int) (hw1 : 1 ≤ w) (hw2 : w ≤ 65535) (hh1 : 1 ≤ h) (hh2 : h ≤ 65535) :
    ∃ e0, runOps (Lemmas.EmuRefine.newState w h) startupAll = .ok e0 ∧
      LinkedR dec cw (startState w.toNat h.toNat) e0 h.toNat w.toNat :=
  Lemmas.C12Segments.startup_on_alt dec cw hemp w h hw1 hw2 hh1 hh2

/-- At 20×6 this is the statement of `C12Resize.emu_real_startup_on_alt`. -/
theorem emu_real_startup_every_size_20x6 (dec : String → G) (cw : String → Nat) (hemp : dec "" = []) :
    ∃ e, runOps (Lemmas.EmuRefine.newState 20 6) startupAll = .ok e ∧ LinkedR dec cw (startState 20 6) e 6 20 :=
  emu_real_startup_every_size dec cw hemp 20 6 (by decide) (by decide) (by decide) (by decide)

/-- Non-vacuity: the smallest and a very wide terminal. -/
example (dec : String → G) (cw : String → Nat) (hemp : dec "" = []) :
    (∃ e0, runOps (Lemmas.EmuRefine.newState 1 1) startupAll = .ok e0 ∧ LinkedR dec cw (startState 1 1) e0 1 1) ∧
    (∃ e0, runOps (Lemmas.EmuRefine.newState 65535 3) startupAll = .ok e0 ∧
      LinkedR dec cw (startState 65535 3) e0 3 65535) :=
  ⟨emu_real_startup_every_size dec cw hemp 1 1 (by decide) (by decide) (by decide) (by decide),
   emu_real_startup_every_size dec cw hemp 65535 3 (by decide) (by decide) (by decide) (by decide)⟩

/-- Non-vacuity of `emu_startup_from_any`: its hypothesis holds of the freshly started emulator, and
    of the state the start-up itself leaves (so Vaxis may be started twice in the same emulator). -/
example : ∃ e0 e1, runOps (Lemmas.EmuRefine.newState 80 24) startupAll = .ok e0 ∧ runOps e0 startupAll = .ok e1 ∧
    startCheck e1 = true ∧ e1.mode.smcup = true := by
  have d : Lemmas.Emu.Dim 24 80 := ⟨by decide, by decide, by decide, by decide⟩
  obtain ⟨e0, r0, h0, _, _⟩ := emu_startup_from_any 24 80 d _ (startP_new 80 24 (by decide) (by decide) (by decide) (by decide))
  obtain ⟨e1, r1, _, c1, s1⟩ := emu_startup_from_any 24 80 d e0 h0
  exact ⟨e0, e1, r0, r1, c1, s1⟩

end VaxisModel.Props.C12StartAny
