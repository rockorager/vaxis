/-
C12 — the start-up dialogue between Vaxis and the emulator, for EVERY INTERLEAVING of Vaxis' two goroutines: "the replies
the emulator gives to Vaxis's start-up queries are understood by Vaxis as exactly the features the emulator implements".
Composition of the emulator model's reply writers run over `sendQueries()` (`Model/C12Replies.lean`) with C07's model of
the start-up of `vaxis.New()` (`Model/Startup.lean`: the input goroutine running concurrently with `sendQueries` / the
explicit-width probe / the `for`/`select` loop / `applyQuirks`, every interleaving a run of `Startup.next`, any queue
capacity) and C07's `caps_exact`. Then termination (a run without time-outs that can only be left by a time-out has
finished the start-up, and such a run exists), and the extractor facts for everything `New()` writes at start-up.
-/
import VaxisModel.Props.C12
import VaxisModel.Props.C07Caps
import VaxisModel.Lemmas.C12Startup
import VaxisModel.Lemmas.C12StartupLive
import VaxisModel.Lemmas.C12Wire
import VaxisModel.Lemmas.ListBasic

namespace VaxisModel.Props.C12Startup
open VaxisModel.Model.Input VaxisModel.Model.InputLoop VaxisModel.Model.Startup
open VaxisModel.Model.C12Replies VaxisModel.Lemmas.C12Replies VaxisModel.Lemmas.C12Startup
open VaxisModel.Spec.Startup
open VaxisModel.Model.Emu (Emu)
open VaxisModel.Lemmas.C12StartupLive

theorem startupReplies_da1 (hostBg : Option (Nat × Nat × Nat)) (e : Emu) :
    ∃ pre, startupReplies hostBg e = pre ++ [.csi [63] [[62], [4], [22]] 99] ∧ ∀ s ∈ pre, isDA1 s = false := by
  rcases startupReplies_cases hostBg e with ⟨h, _⟩ | ⟨r, g, b, h, _⟩
  · exact ⟨[_, _, _, _], h, by decide⟩
  · refine ⟨[_, _, _, _, osc11Reply r g b], h, ?_⟩
    intro s hs
    simp only [List.mem_cons, List.not_mem_nil, or_false] at hs
    rcases hs with rfl | rfl | rfl | rfl | rfl <;> rfl

/-- What the spec of C07 makes of the emulator's replies (the probe not answered with column 2). -/
theorem specCaps_startupReplies (o : Opts) (hostBg : Option (Nat × Nat × Nat)) (e : Emu)
    (pc : Option Int) (hpc : (pc == some 2) = false) :
    specCaps o (startupReplies hostBg e) pc =
      { sixels := true, unicodeCore := true, osc11 := e.hasVx && hostBg.isSome, rgb := o.colorterm } := by
  unfold specCaps
  rw [hpc]
  rcases startupReplies_cases hostBg e with ⟨h, hb⟩ | ⟨r, g, b, h, hb⟩ <;> rw [h, hb]
  · rfl
  · -- through the notices of the colour reply, not through its payload with the symbolic channels
    unfold adv termIDOf
    simp only [List.any_cons, List.flatMap_cons, notices_osc11Reply]
    rfl

/-- **The start-up dialogue, every interleaving, whatever `COLORTERM` is**: as `emu_dialogue_caps`
    without the hypothesis `COLORTERM` unset — `widgets/term` passes its host's environment on to the
    child, and `COLORTERM=truecolor` makes `New()` post `truecolor` itself. The capability record is
    `{sixels, unicodeCore, osc11 iff reported, rgb iff COLORTERM says so}`; the renderer's capabilities
    are `emuCaps` with `rgb := o.colorterm` — the capability sets of `Props/C12Caps.lean`
    (`emuCaps` / `emuCapsRgb`). Direct colour is implemented by the emulator (`sgr.go`), so also in this
    case nothing is understood that the emulator does not implement. -/
theorem emu_dialogue_caps_any (hostBg : Option (Nat × Nat × Nat)) (e e' : Emu) (rs : List Seq)
    (hq : runQ hostBg e startupQueries = .ok (e', rs))
    (p : Params) (o : Opts) (henv : o.envUnset = true)
    (ls : List VaxisModel.Model.Startup.Label) (st : St) (hin : inputsOf ls = rs)
    (hrun : VaxisModel.Model.Startup.run p o (St.init o) ls = some st)
    (hready : st.phase = .ready) (hto : st.timedOut = false) (hdrop : st.sys.dropped = 0) :
    st.sys.vs.caps = { sixels := true, unicodeCore := true, osc11 := e.hasVx && hostBg.isSome, rgb := o.colorterm } ∧
    ({ rgb := st.sys.vs.caps.rgb, styledUnderlines := st.sys.vs.caps.styledUnderlines,
       explicitWidth := st.sys.vs.caps.explicitWidth, sync := st.sys.vs.caps.synchronizedUpdate } : Model.Render.Caps) =
      { C12.emuCaps with rgb := o.colorterm } := by
  obtain ⟨e1, he1⟩ := run_startup hostBg e
  rw [hq] at he1
  have hrs : rs = startupReplies hostBg e := by cases he1; rfl
  subst hrs
  have hpi := pinv_run p o ls (St.init o) st (pinv_init o)
    (by rw [hin]; exact startupReplies_safe p.b64 hostBg e) hrun
  obtain ⟨A, d, B, hsplit, hd, hA, hcaps⟩ := C07Caps.caps_exact p o ls st hrun hready hto hdrop henv (by
    intro x hx
    have := hpi.got x hx
    omega)
  obtain ⟨pre, hpre, hno⟩ := startupReplies_da1 hostBg e
  rw [hin, hpre] at hsplit
  obtain ⟨rA, rd, _⟩ := Lemmas.ListBasic.first_split_unique isDA1 A pre d _ B [] hsplit.symm hd rfl hA hno
  have hAd : A ++ [d] = startupReplies hostBg e := by rw [rA, rd, hpre]
  have hpc : ((st.probeGot.map (·.2)) == some 2) = false := by
    cases hg : st.probeGot with
    | none => rfl
    | some x =>
      have := hpi.got x hg
      simp [this]
  rw [hAd, specCaps_startupReplies o hostBg e _ hpc] at hcaps
  refine ⟨hcaps, ?_⟩
  rw [hcaps]
  rfl

/-- **C12, the start-up dialogue, every interleaving.** Let the terminal of a starting Vaxis be the
    emulator (any state `e`, host background known or not): what Vaxis's input goroutine receives, in
    order, is what the emulator model replies to `sendQueries()` (`hq`, `hin`). Then for EVERY run of
    C07's start-up system — every interleaving of the input goroutine (parsing, `handleSequence`,
    posting to the queue, handing the cursor position over) with `New()` (the explicit-width probe
    answered in time or timed out, the collection loop), every queue capacity — that reaches the end of
    `New()` by the DA1 notification with no non-blocking post dropped, no environment override and
    `COLORTERM` unset: the capability record is exactly
    `{sixels, unicodeCore, osc11 iff the host's background was reported}` — nothing else is
    "understood" — and the four capabilities the renderer consults are `emuCaps`, the capability set
    of the composition theorems. -/
theorem emu_dialogue_caps (hostBg : Option (Nat × Nat × Nat)) (e e' : Emu) (rs : List Seq)
    (hq : runQ hostBg e startupQueries = .ok (e', rs))
    (p : Params) (o : Opts) (henv : o.envUnset = true) (hct : o.colorterm = false)
    (ls : List VaxisModel.Model.Startup.Label) (st : St) (hin : inputsOf ls = rs)
    (hrun : VaxisModel.Model.Startup.run p o (St.init o) ls = some st)
    (hready : st.phase = .ready) (hto : st.timedOut = false) (hdrop : st.sys.dropped = 0) :
    st.sys.vs.caps = { sixels := true, unicodeCore := true, osc11 := e.hasVx && hostBg.isSome } ∧
    ({ rgb := st.sys.vs.caps.rgb, styledUnderlines := st.sys.vs.caps.styledUnderlines,
       explicitWidth := st.sys.vs.caps.explicitWidth, sync := st.sys.vs.caps.synchronizedUpdate } : Model.Render.Caps) = C12.emuCaps := by
  have h := emu_dialogue_caps_any hostBg e e' rs hq p o henv ls st hin hrun hready hto hdrop
  rw [hct] at h
  exact h

/-- Nothing but a time-out can happen any more: the goroutine cannot step, the probe cannot receive,
    the loop cannot receive, `applyQuirks` is not next (and all replies have been delivered). -/
def Quiescent (p : Params) (o : Opts) (st : St) : Prop :=
  VaxisModel.Model.Startup.next p o st .step = none ∧ VaxisModel.Model.Startup.next p o st .clipTimeout = none ∧
  VaxisModel.Model.Startup.next p o st .probeRecv = none ∧ VaxisModel.Model.Startup.next p o st .loopRecv = none ∧
  VaxisModel.Model.Startup.next p o st .quirks = none

/-- Termination when the queue has room for what `New()` posts itself plus the seven events
    the replies can cause. The invariant `LInv` then holds along the run; in a state that can only be
    left by a time-out the goroutine is back at its select (a pending effect could be carried out), and
    `New()` is neither in the probe (its answer is on the way) nor in the loop (DA1 was seen, so its
    notification is queued) nor before `applyQuirks`. -/
theorem completes_of_room (hostBg : Option (Nat × Nat × Nat)) (e : Emu)
    (p : Params) (o : Opts) (hq : (St.init o).sys.queue.length + 7 ≤ p.qcap)
    (hk : VaxisModel.Lemmas.InputLoop.Kinds.safe p.kinds) (hcap : p.cursorCap ≠ 0) (henv : o.envUnset = true)
    (ls : List VaxisModel.Model.Startup.Label) (st : St) (hin : inputsOf ls = startupReplies hostBg e)
    (hnt : ∀ l ∈ ls, isTimeout l = false)
    (hrun : VaxisModel.Model.Startup.run p o (St.init o) ls = some st) (hquiet : Quiescent p o st) :
    st.phase = .ready ∧ st.timedOut = false ∧ st.sys.dropped = 0 ∧
    st.sys.vs.caps = { sixels := true, unicodeCore := true, osc11 := e.hasVx && hostBg.isSome, rgb := o.colorterm } := by
  have hI0 : LInv p (St.init o) (inputsOf ls ++ []) := by
    rw [List.append_nil, hin]
    refine ⟨?_, fun _ => Or.inl ⟨startupReplies_hasCPR hostBg e, rfl⟩, rfl, rfl⟩
    have := startupReplies_budget hostBg e
    have hpd : (VaxisModel.Lemmas.InputEvents.posted (St.init o).sys.pend).length = 0 := rfl
    omega
  have hI := linv_run p o hcap ls (St.init o) st [] hI0
    (by rw [hin]; exact startupReplies_good p.b64 hostBg e) hnt hrun
  obtain ⟨q1, q2, q3, q4, q5⟩ := hquiet
  have hpend : st.sys.pend = [] := quiescent_pend hk hI q1 q2
  have hins : st.ins = startupReplies hostBg e := by
    have := VaxisModel.Lemmas.Startup.ins_run p o ls (St.init o) st hrun
    simpa [St.init, hin] using this
  have hready : st.phase = .ready := by
    cases hph : st.phase with
    | ready => rfl
    | done =>
      simp only [VaxisModel.Model.Startup.next, hph, if_true] at q5
      cases q5
    | probe =>
      exfalso
      rcases hI.probe hph with ⟨ha, _⟩ | ⟨r, c, hm⟩ | hc
      · simp at ha
      · rw [hpend] at hm; cases hm
      · simp only [VaxisModel.Model.Startup.next, hph, if_true] at q3
        cases hcc : st.sys.cursorCh with
        | nil => exact hc hcc
        | cons v t => rw [hcc] at q3; cases q3
    | loop =>
      exfalso
      have hqueue : st.sys.queue = [] := by
        cases hqq : st.sys.queue with
        | nil => rfl
        | cons ev q =>
          simp only [VaxisModel.Model.Startup.next, hph, if_true, hqq] at q4
          split at q4 <;> cases q4
      have hinv := VaxisModel.Lemmas.Startup.inv_run p o ls (St.init o) st (VaxisModel.Lemmas.Startup.inv_init o) hrun
      have hda := hinv.v.hasDA (Or.inr hph) (by
        show VaxisModel.Lemmas.Startup.seenDA st.ins = true
        rw [hins]
        unfold VaxisModel.Lemmas.Startup.seenDA startupReplies
        simp only [List.any_append, List.any_cons, List.any_nil, Bool.or_false, Bool.or_eq_true]
        exact Or.inr rfl)
      have hnp : (VaxisModel.Lemmas.Startup.view st).np = [] := by
        show VaxisModel.Lemmas.Startup.np st = []
        simp [VaxisModel.Lemmas.Startup.np, hqueue, hpend, VaxisModel.Lemmas.InputEvents.posted]
      rw [hnp] at hda
      simp at hda
  obtain ⟨e1, he1⟩ := run_startup hostBg e
  exact ⟨hready, hI.noTO, hI.noDrop,
    (emu_dialogue_caps_any hostBg e e1 _ he1 p o henv ls st hin hrun hready hI.noTO hI.noDrop).1⟩

/-- **The dialogue terminates, for every interleaving**: take any run of the start-up system in which
    no time-out fires (neither the 50 ms of the probe nor the 3 s of the loop), whose inputs are the
    emulator's replies — all of them delivered, in any interleaving with `New()` —, and which cannot be
    continued without a time-out. Then `New()` is past `applyQuirks` (the run did not get stuck
    waiting: the probe received its answer, the loop saw the DA1 notification), nothing was dropped,
    and the capabilities are exactly those of `emu_dialogue_caps`. Needs a queue of at least 7 events
    (the default is 1024), reply sends that do not block (`Kinds.safe`: F10 / F11)
    and a buffered `chCursorPos` (F12). -/
theorem emu_dialogue_completes (hostBg : Option (Nat × Nat × Nat)) (e : Emu)
    (p : Params) (hq : 7 ≤ p.qcap) (hk : VaxisModel.Lemmas.InputLoop.Kinds.safe p.kinds) (hcap : p.cursorCap ≠ 0)
    (o : Opts) (henv : o.envUnset = true) (hct : o.colorterm = false)
    (ls : List VaxisModel.Model.Startup.Label) (st : St) (hin : inputsOf ls = startupReplies hostBg e)
    (hnt : ∀ l ∈ ls, isTimeout l = false)
    (hrun : VaxisModel.Model.Startup.run p o (St.init o) ls = some st) (hquiet : Quiescent p o st) :
    st.phase = .ready ∧ st.timedOut = false ∧ st.sys.dropped = 0 ∧
    st.sys.vs.caps = { sixels := true, unicodeCore := true, osc11 := e.hasVx && hostBg.isSome } := by
  have h := completes_of_room hostBg e p o (by simp only [St.init, hct]; exact hq) hk hcap henv ls st hin hnt hrun hquiet
  rw [hct] at h
  exact h

/-- **Termination for every interleaving, whatever `COLORTERM` is** (`emu_dialogue_completes` without
    the hypothesis `COLORTERM` unset; the `truecolor` event `New()` posts itself takes one more place
    in the queue: capacity ≥ 8). -/
theorem emu_dialogue_completes_any (hostBg : Option (Nat × Nat × Nat)) (e : Emu)
    (p : Params) (hq : 8 ≤ p.qcap) (hk : VaxisModel.Lemmas.InputLoop.Kinds.safe p.kinds) (hcap : p.cursorCap ≠ 0)
    (o : Opts) (henv : o.envUnset = true)
    (ls : List VaxisModel.Model.Startup.Label) (st : St) (hin : inputsOf ls = startupReplies hostBg e)
    (hnt : ∀ l ∈ ls, isTimeout l = false)
    (hrun : VaxisModel.Model.Startup.run p o (St.init o) ls = some st) (hquiet : Quiescent p o st) :
    st.phase = .ready ∧ st.timedOut = false ∧ st.sys.dropped = 0 ∧
    st.sys.vs.caps = { sixels := true, unicodeCore := true, osc11 := e.hasVx && hostBg.isSome, rgb := o.colorterm } := by
  refine completes_of_room hostBg e p o ?_ hk hcap henv ls st hin hnt hrun hquiet
  have : (St.init o).sys.queue.length ≤ 1 := by simp only [St.init]; split <;> simp
  omega

/-- One schedule: every reply is handled as it arrives, the probe receives the cursor position, the
    loop consumes each notification as it is posted. -/
def scheduleOf (rs : List Seq) : List VaxisModel.Model.Startup.Label :=
  match rs with
  | [a, b, c, r, da] =>
    [.input a, .input b, .step, .input c, .input r, .step, .probeRecv, .loopRecv,
     .input da, .step, .step, .loopRecv, .loopRecv, .quirks]
  | [a, b, c, r, o11, da] =>
    [.input a, .input b, .step, .input c, .input r, .step, .probeRecv, .loopRecv,
     .input o11, .step, .loopRecv,
     .input da, .step, .step, .loopRecv, .loopRecv, .quirks]
  | _ => []

/-- **The dialogue terminates** (non-vacuity of `emu_dialogue_caps`): for every emulator state and
    host background there is a run of the start-up system whose inputs are exactly the emulator's
    replies and that ends past `applyQuirks`, by DA1, nothing dropped. -/
theorem emu_dialogue_terminates (hostBg : Option (Nat × Nat × Nat)) (e : Emu) :
    ∃ ls st, inputsOf ls = startupReplies hostBg e ∧
      VaxisModel.Model.Startup.run C07Caps.exP {} (St.init {}) ls = some st ∧
      st.phase = .ready ∧ st.timedOut = false ∧ st.sys.dropped = 0 := by
  refine ⟨scheduleOf (startupReplies hostBg e), ?_⟩
  rcases startupReplies_cases hostBg e with ⟨h, _⟩ | ⟨r, g, b, h, _⟩ <;> rw [h] <;> exact ⟨_, rfl, rfl, rfl, rfl, rfl⟩

/-- Parameters meeting the hypotheses of `emu_dialogue_completes`: a queue of 8, the send kinds and
    the `chCursorPos` capacity of the current source (regenerated). -/
def liveP : Params := { qcap := 8, kinds := Kinds.ofGen, b64 := fun _ => none }

theorem liveP_ok : 7 ≤ liveP.qcap ∧ VaxisModel.Lemmas.InputLoop.Kinds.safe liveP.kinds ∧ liveP.cursorCap ≠ 0 := by
  refine ⟨by decide, ?_, by decide⟩
  unfold VaxisModel.Lemmas.InputLoop.Kinds.safe
  decide

/-- Non-vacuity of `emu_dialogue_completes`: the schedule of `emu_dialogue_terminates` is a time-out
    free run over the emulator's replies that ends quiescent (here: no host attached). -/
example (e : Emu) (hv : e.hasVx = false) :
    ∃ st, inputsOf (scheduleOf (startupReplies none e)) = startupReplies none e ∧
      (∀ l ∈ scheduleOf (startupReplies none e), isTimeout l = false) ∧
      VaxisModel.Model.Startup.run liveP {} (St.init {}) (scheduleOf (startupReplies none e)) = some st ∧
      Quiescent liveP {} st := by
  unfold startupReplies replies
  simp only [hv, Bool.false_eq_true, and_false, if_false]
  exact ⟨_, rfl, by decide, rfl, rfl, rfl, rfl, rfl, rfl⟩

section wire
open VaxisModel.Lemmas.C12Wire VaxisModel.Gen.TermReplies
open VaxisModel.Model.Emu (EOp)

/-- `enterAltScreen()`, `exitAltScreen()`, `enableModes()`: every statement recognised, and their writes
    parse to these groups. -/
theorem helpers_match :
    ((helperWire enterAltScreen).map fun w => allMatch w [[q [63, 104] [1049]], [q [63, 108] [25]], [q [109] []]]) = some true ∧
    ((helperWire exitAltScreen).map fun w =>
      allMatch w [[q [63, 104] [25]], [q [72] [], q [74] [2]], [q [63, 108] [1049]], [q [109] []]]) = some true ∧
    ((helperWire enableModes).map fun w =>
      allMatch w [[q [63, 104] [8452]], [q [63, 104] [2027]], [q [63, 104] [2004]], [q [63, 104] [1]], [.esc [61]],
        [q [63, 104] [1002]], [q [63, 104] [1003]], [q [63, 104] [1004]], [q [63, 104] [1006]], [q [109] []]]) = some true :=
  ⟨by decide +kernel, by decide +kernel, by decide +kernel⟩

/-- The start-up stream is helper ++ queries ++ helper ++ helper ++ helper, and so are its groups: the
    queries are matched by `C12.facts_queries`, each helper by `helpers_match`. -/
theorem startupWire_matches : (startupWire.map fun w => allMatch w startupAllGroups) = some true := by
  obtain ⟨h1, h2, h3⟩ := helpers_match
  obtain ⟨en, hen, men⟩ := Option.map_eq_some_iff.mp h1
  obtain ⟨ex, hex, mex⟩ := Option.map_eq_some_iff.mp h2
  obtain ⟨em, hem, mem⟩ := Option.map_eq_some_iff.mp h3
  obtain ⟨qs, hqw, mq⟩ := Option.map_eq_some_iff.mp C12.facts_queries
  have hw : startupWire = some (en ++ qs ++ ex ++ en ++ em) := by
    -- not `simp only [startupWire, …]`: the kernel then evaluates the helpers again
    unfold startupWire
    rw [hen, hqw, hex, hem]
    rfl
  rw [hw]
  show some (allMatch _ _) = _
  unfold startupAllGroups
  rw [List.append_assoc, List.append_assoc, List.append_assoc, List.append_assoc, List.append_assoc, List.append_assoc,
    allMatch_append _ _ _ _ men, allMatch_append _ _ _ _ mq,
    allMatch_append _ _ _ _ mex, allMatch_append _ _ _ _ men, mem]

end wire

open VaxisModel.Lemmas.C12Wire VaxisModel.Gen.TermReplies in
/-- **`startupAll` is what the source writes**, statement by statement: `enterAltScreen()`, the queries of
    `sendQueries()`, the deferred `exitAltScreen()`, then (`New()` after the loop) `enterAltScreen()` and
    `enableModes()` under the capability set detected inside the emulator (guards `vx.caps.sixels`,
    `vx.caps.unicodeCore && !vx.caps.explicitWidth`, `!vx.disableMouse` true; kitty keyboard, colour-theme
    updates, in-band resize false). Every statement of the three helpers is recognised (an added
    statement, a changed guard or constant breaks this theorem); the bytes computed from the regenerated
    constants of sequences.go parse, write by write, to the groups of `startupAll` — the sequence list
    `emu_real_startup_related` / `emu_real_startup_on_alt` run the emulator model over. -/
theorem facts_startup_all :
    (startupWire.map fun w => allMatch w startupAllGroups) = some true ∧
    startupAllGroups.flatten = startupAll ∧
    sendQueries.take 2 = ["enterAltScreen", "defer vx.exitAltScreen"] ∧
    VaxisModel.Gen.Startup.afterLoop.take 2 = ["vx.enterAltScreen()", "vx.enableModes()"] :=
  ⟨startupWire_matches, rfl, by decide, by decide⟩

end VaxisModel.Props.C12Startup
