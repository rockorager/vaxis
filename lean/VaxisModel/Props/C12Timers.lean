/-
C12 — the start-up dialogue WITH ITS TIMERS. `vaxis.New()` has two timers: the 50 ms of
`CursorPosition()` (the explicit-width probe inside `sendQueries`) and the 3 s context of the
collection loop. In C07's start-up system (`Model/Startup.lean`) both are labels of the transition
system (`Label.probeTimeout`, `Label.loopTimeout`; also `Label.clipTimeout` of the input goroutine):
real time is abstracted, a timer can fire whenever its guard allows.

* `emu_dialogue_caps` / `emu_dialogue_caps_any` (Props/C12Startup) already cover the 50 ms timer:
  their hypothesis `st.timedOut = false` is about the 3 s context only; whether the probe was answered
  or timed out the record is the same, because the emulator answers the probe with column 1.
* This file: what happens when ANY timer fires, at any moment, with any part of the emulator's replies
  delivered, under any environment: the capability record never claims anything the emulator did not
  announce (`emu_dialogue_caps_within`), so the renderer's capability set is one of those the composition
  theorems cover (`emu_dialogue_caps_capsOk`) — direct colour possibly lost, nothing gained.
-/
import VaxisModel.Props.C12Startup
import VaxisModel.Props.C12Caps

namespace VaxisModel.Props.C12Timers
open VaxisModel.Model.Input VaxisModel.Model.InputLoop VaxisModel.Model.Startup
open VaxisModel.Model.C12Replies VaxisModel.Lemmas.C12Replies VaxisModel.Lemmas.C12Startup
open VaxisModel.Spec.Startup
open VaxisModel.Model.Emu (Emu)
open VaxisModel.Lemmas.Startup

/-- What one reply of the emulator can announce: sixel graphics, Unicode core, the OSC 11 colour, the
    end of the start-up (DA1) — and no application id. -/
theorem reply_notices (hostBg : Option (Nat × Nat × Nat)) (e : Emu) :
    ∀ s ∈ startupReplies hostBg e,
      (∀ i, (notices s).contains (note i) = true →
        i = .capabilitySixel ∨ i = .unicodeCoreCap ∨ i = .capabilityOsc11 ∨ i = .primaryDeviceAttribute) ∧
      (notices s).any isAppID = false := by
  refine forall_startupReplies hostBg e ?_ ?_ ?_ ?_ (fun r g b => notices_osc11Reply r g b ▸ ?_) ?_
  all_goals exact ⟨fun i hi => by cases i <;> first | (exact absurd hi (by decide)) | simp, by decide⟩

theorem insPre_subset : ∀ (ins : List Seq) (s : Seq), s ∈ insPre ins → s ∈ ins := by
  intro ins
  induction ins with
  | nil => intro s h; simp [insPre] at h
  | cons a t ih =>
    intro s h
    simp only [insPre] at h
    split at h
    · simp only [List.mem_singleton] at h; subst h; simp
    · rcases List.mem_cons.mp h with h | h
      · subst h; simp
      · exact List.mem_cons_of_mem _ (ih s h)

/-- Nothing beyond what the emulator implements: the capabilities the emulator never announces are
    clear, and direct colour is set only by `COLORTERM`. (`sixels`, `unicodeCore`, `osc11` — what the
    emulator does announce — and `noZWJ` / `unicodeCore` as forced by `VAXIS_FORCE_*` are left open:
    with a timer fired any of the announced ones may be missing.) -/
structure Within (o : Opts) (c : Caps) : Prop where
  su : c.styledUnderlines = false
  sy : c.synchronizedUpdate = false
  ew : c.explicitWidth = false
  rgb : c.rgb = true → o.colorterm = true
  kk : c.kittyKeyboard = false
  kg : c.kittyGraphics = false
  ct : c.colorThemeUpdates = false
  rc : c.reportSizeChars = false
  rp : c.reportSizePixels = false
  o4 : c.osc4 = false
  o10 : c.osc10 = false
  o176 : c.osc176 = false
  ibr : c.inBandResize = false

theorem Within.ite {o : Opts} {a b : Caps} (p : Prop) [Decidable p] (ha : Within o a) (hb : Within o b) :
    Within o (if p then a else b) := by
  split <;> assumption

/-- `applyQuirks()` touches `unicodeCore`, `noZWJ` and can only CLEAR `explicitWidth`. -/
theorem within_applyQuirks {o : Opts} {c : Caps} (tid : List Nat) (w : Within o c) : Within o (applyQuirks o tid c) := by
  -- every step of `applyQuirks` is an `if` between the record and an update of these three fields, and no clause
  -- of `Within` reads the other two
  unfold applyQuirks
  extract_lets c1 c2 c3 c4
  have w1 : Within o c1 := .ite _ { w with } (.ite _ { w with } w)
  have w2 : Within o c2 := .ite _ { w1 with ew := rfl } w1
  have w3 : Within o c3 := .ite _ { w2 with } w2
  have w4 : Within o c4 := .ite _ { w3 with ew := rfl } w3
  exact .ite _ { w4 with } w4

theorem within_of_core (hostBg : Option (Nat × Nat × Nat)) (e : Emu) (o : Opts) (v : View) (c : Caps)
    (hins : ∀ s ∈ v.ins, s ∈ startupReplies hostBg e) (hgot : ∀ x, v.probeGot = some x → x.2 = 1)
    (hc : Core o v c) : Within o c := by
  have hno : ∀ i, hasI c i = true → i ≠ .capabilitySixel → i ≠ .unicodeCoreCap → i ≠ .capabilityOsc11 →
      i ≠ .primaryDeviceAttribute → i = .truecolor ∧ o.colorterm = true := by
    intro i hi n1 n2 n3 n4
    rcases hc.sI i hi with h | h
    · exfalso
      unfold adv at h
      obtain ⟨s, hs, hn⟩ := List.any_eq_true.mp h
      rcases (reply_notices hostBg e s (hins s (insPre_subset _ s hs))).1 i hn with h | h | h | h
      · exact n1 h
      · exact n2 h
      · exact n3 h
      · exact n4 h
    · exact h
  have hf : ∀ i, i ≠ .capabilitySixel → i ≠ .unicodeCoreCap → i ≠ .capabilityOsc11 →
      i ≠ .primaryDeviceAttribute → i ≠ .truecolor → hasI c i = false := by
    intro i n1 n2 n3 n4 n5
    cases h : hasI c i with
    | false => rfl
    | true => exact absurd (hno i h n1 n2 n3 n4).1 n5
  refine
    { su := hf .styledUnderlines (by decide) (by decide) (by decide) (by decide) (by decide)
      sy := hf .synchronizedUpdates (by decide) (by decide) (by decide) (by decide) (by decide)
      ew := ?_
      rgb := fun h => (hno .truecolor h (by decide) (by decide) (by decide) (by decide)).2
      kk := hf .kittyKeyboard (by decide) (by decide) (by decide) (by decide) (by decide)
      kg := hf .kittyGraphics (by decide) (by decide) (by decide) (by decide) (by decide)
      ct := hf .notifyColorChange (by decide) (by decide) (by decide) (by decide) (by decide)
      rc := hf .textAreaChar (by decide) (by decide) (by decide) (by decide) (by decide)
      rp := hf .textAreaPix (by decide) (by decide) (by decide) (by decide) (by decide)
      o4 := hf .capabilityOsc4 (by decide) (by decide) (by decide) (by decide) (by decide)
      o10 := hf .capabilityOsc10 (by decide) (by decide) (by decide) (by decide) (by decide)
      o176 := ?_
      ibr := hf .inBandResizeEvents (by decide) (by decide) (by decide) (by decide) (by decide) }
  · cases h : c.explicitWidth with
    | false => rfl
    | true =>
      obtain ⟨x, hx, hw⟩ := hc.ew.1.mp h
      rw [hgot x hx] at hw
      exact absurd hw (by decide)
  · cases h : c.osc176 with
    | false => rfl
    | true =>
      exfalso
      have := hc.sA h
      unfold JustA at this
      obtain ⟨s, hs, hn⟩ := List.any_eq_true.mp this
      rw [(reply_notices hostBg e s (hins s (insPre_subset _ s hs))).2] at hn
      cases hn

/-- **Whatever the timers do.** Let the terminal of a starting Vaxis be the emulator (any state, host
    background known or not) and take ANY run of the start-up system — any interleaving, the 50 ms timer
    of the probe, the 3 s context of the loop and the clipboard hand-off time-out firing whenever their
    guards allow, any queue capacity, posts dropped or not, ANY environment (`COLORTERM`,
    `VAXIS_FORCE_*`, `DisableKittyKeyboard`) — whose inputs so far are replies of the emulator (any part
    of them: the run may be observed before all replies arrived, or `New()` may have given up waiting).
    In the state reached — in particular when `New()` returns — the capability record claims nothing
    the emulator does not implement: no styled underlines, no synchronized output, no explicit width,
    no kitty keyboard / graphics, no colour-theme notifications, no size reports, no OSC 4 / 10 / 176, no
    in-band resize; direct colour only if `COLORTERM` says so. -/
theorem emu_dialogue_caps_within (hostBg : Option (Nat × Nat × Nat)) (e : Emu) (p : Params) (o : Opts)
    (ls : List VaxisModel.Model.Startup.Label) (st : St)
    (hin : ∀ s ∈ inputsOf ls, s ∈ startupReplies hostBg e)
    (hrun : VaxisModel.Model.Startup.run p o (St.init o) ls = some st) :
    Within o st.sys.vs.caps := by
  have hinv := inv_run p o ls (St.init o) st (inv_init o) hrun
  have hins : st.ins = inputsOf ls := by simpa [St.init] using ins_run p o ls (St.init o) st hrun
  have hpi := pinv_run p o ls (St.init o) st (pinv_init o)
    (fun s hs => startupReplies_safe p.b64 hostBg e s (hin s hs)) hrun
  have hins' : ∀ s ∈ (view st).ins, s ∈ startupReplies hostBg e := by
    intro s hs
    have : s ∈ st.ins := hs
    rw [hins] at this
    exact hin s this
  by_cases hph : (view st).phase = .ready
  · obtain ⟨c0, hc, core⟩ := hinv.v.ready hph
    have w := within_of_core hostBg e o (view st) c0 hins' hpi.got core
    have hc' : st.sys.vs.caps = applyQuirks o st.termID c0 := hc
    rw [hc']
    exact within_applyQuirks st.termID w
  · exact within_of_core hostBg e o (view st) _ hins' hpi.got (hinv.v.core hph)

/-- The renderer's view of a capability record. -/
def rendererCaps (c : Caps) : Model.Render.Caps :=
  { rgb := c.rgb, styledUnderlines := c.styledUnderlines, explicitWidth := c.explicitWidth, sync := c.synchronizedUpdate }

/-- **… so the composition theorems apply whatever the timers do**: in every state of every run over
    replies of the emulator the renderer's capability set is `emuCaps`, possibly with direct colour —
    and direct colour only if `COLORTERM` says so (with the 3 s context expired before `New()` consumed
    its own `truecolor` event, even that may be missing: the renderer then falls back to the palette,
    which the composition theorem covers as well). Both are instances of `C12Caps.CapsOk`. -/
theorem emu_dialogue_caps_capsOk (hostBg : Option (Nat × Nat × Nat)) (e : Emu) (p : Params) (o : Opts)
    (ls : List VaxisModel.Model.Startup.Label) (st : St)
    (hin : ∀ s ∈ inputsOf ls, s ∈ startupReplies hostBg e)
    (hrun : VaxisModel.Model.Startup.run p o (St.init o) ls = some st) :
    rendererCaps st.sys.vs.caps = { C12.emuCaps with rgb := st.sys.vs.caps.rgb } ∧
    C12Caps.CapsOk (rendererCaps st.sys.vs.caps) ∧
    (st.sys.vs.caps.rgb = true → o.colorterm = true) := by
  have w := emu_dialogue_caps_within hostBg e p o ls st hin hrun
  refine ⟨?_, ⟨w.su, w.ew, w.sy⟩, w.rgb⟩
  simp only [rendererCaps, w.su, w.ew, w.sy]
  rfl

/-- Non-vacuity, and the timers really fire in the model: with no reply delivered at all, the probe's
    50 ms timer and then the loop's 3 s context expire and `New()` returns (phase `ready`, flagged
    `timedOut`) — with `COLORTERM=truecolor` in the environment the `truecolor` event `New()` posted
    itself is still in the queue, so even direct colour is NOT set. -/
example :
    ∃ st, VaxisModel.Model.Startup.run C12Startup.liveP { colorterm := true } (St.init { colorterm := true })
        [.probeTimeout, .loopTimeout, .quirks] = some st ∧
      st.phase = .ready ∧ st.timedOut = true ∧ st.sys.vs.caps.rgb = false :=
  ⟨_, rfl, rfl, rfl, rfl⟩

end VaxisModel.Props.C12Timers
