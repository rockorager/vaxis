/-
C13 — Keys, pastes and mouse events forwarded into the embedded terminal arrive intact.
The property theorems, the finite key domain they are checked on (`domainKeys`, `allModes`) and the row facts about
the regenerated tables that their proofs use.  Byte strings are related to parsed sequences through `renderSeq` /
`renderCSI` (Spec/TermInput.lean); that the real ansi parser inverts them is checked on every
generated case by the correspondence harness (and is property C02).
-/
import VaxisModel.Model.TermKey
import VaxisModel.Model.TermMouse
import VaxisModel.Model.TermInputModes
import VaxisModel.Spec.TermInput
import VaxisModel.Lemmas.TermInput
import VaxisModel.Lemmas.TermChord
import VaxisModel.Lemmas.TermModeRows

namespace VaxisModel.Props.C13
open VaxisModel.Model.Key VaxisModel.Model.Mouse VaxisModel.Model.TermKey VaxisModel.Model.TermMouse
open VaxisModel.Spec.KeyEnc VaxisModel.Spec.TermInput VaxisModel.Gen.Keys
open VaxisModel.Lemmas.TermInput VaxisModel.Lemmas.KeyDecode

/-- Keys with a dedicated xterm report, plus Tab / Enter / Escape / BackSpace. -/
def specialKeysD : List Int :=
  xtermLetterKeys.map (·.1) ++ xtermTildeKeys.map (·.1) ++ [KeyTab, KeyEnter, KeyEsc, KeyBackspace]

/-- The shapes an event for key `kc` with xterm modifiers `m` takes: bare, with the shifted code, with
    the produced character as text, with both, and with kitty-only modifiers / base layout / repeat. -/
def variants (kc : Int) (m : Nat) : List Key :=
  let S := asciiUni.toUpper kc
  let ch := if m &&& 1 ≠ 0 then S else kc
  [ { keycode := kc, mods := m }, { keycode := kc, mods := m, shifted := S },
    { keycode := kc, mods := m, text := [ch] }, { keycode := kc, mods := m, shifted := S, text := [ch] },
    { keycode := kc, mods := m + 72, base := 97, event := 1 } ]

/-- Every special key and every printable ASCII key × every combination of Shift/Alt/Ctrl × shapes. -/
def domainKeys : List Key :=
  (specialKeysD ++ (List.range 95).map (fun (i : Nat) => (32 : Int) + Int.ofNat i)).flatMap fun kc =>
    (List.range 8).flatMap fun m => variants kc m

def allModes : List (Bool × Bool) := [(false, false), (false, true), (true, false), (true, true)]

theorem allModes_all (pam ckm : Bool) : (pam, ckm) ∈ allModes := by cases pam <;> cases ckm <;> decide

theorem cursor_tables :
    ∀ e ∈ cursorKeys, ∀ md ∈ allModes, encodeTables e.1 0 md.1 md.2 = some (renderSeq (cursorSeq e.2 md.2)) := by
  decide

/-- An unmodified cursor key (Up/Down/Right/Left/End/Home/Begin) is sent in SS3
    form when the child set DECCKM and in CSI form otherwise — whatever the other fields of the
    event, the keypad mode and the `unicode` tables. -/
theorem cursor_mode_selects (u : Uni) (k : Key) (deckpam decckm : Bool) (fin : Int)
    (hk : (k.keycode, fin) ∈ cursorKeys)
    (hm : k.mods &&& ModShift = 0 ∧ k.mods &&& ModAlt = 0 ∧ k.mods &&& ModCtrl = 0) :
    encodeXterm u k deckpam decckm = renderSeq (cursorSeq fin decckm) := by
  obtain ⟨h1, h2, h3⟩ := hm
  have := cursor_tables _ hk _ (allModes_all deckpam decckm)
  have hnk : lookup k.keycode VaxisModel.Gen.TermKeys.keypadApplicationMode = none ∧
      lookup k.keycode VaxisModel.Gen.TermKeys.keypadNumericMode = none := by
    have hall : ∀ e ∈ cursorKeys, lookup e.1 VaxisModel.Gen.TermKeys.keypadApplicationMode = none ∧
        lookup e.1 VaxisModel.Gen.TermKeys.keypadNumericMode = none := by decide
    exact hall _ hk
  rw [encodeXterm_core_of_not_keypad _ _ _ _ hnk.1 hnk.2]
  simp only [encodeXtermCore, h1, h2, h3, Nat.or_self]
  simp only [] at this
  rw [encodeTables_text _ _ _ _ _ (cursorKeys_special _ hk), this]

/-- Table part of `key_roundtrip`, in general form. For every key with
    a dedicated xterm report (and Tab/Enter/Escape/BackSpace without Alt), every Shift/Alt/Ctrl set
    the legacy protocol expresses and all four key modes, the table-driven part of the encoder
    yields exactly the xterm legacy report — independently of `unicode` and of the other fields. -/
theorem special_keys_exact :
    (specialKeysD.all fun kc => (List.range 8).all fun m => allModes.all fun md =>
      match xtermLegacy kc m 0 md.2 with
      | some s => kc == KeyBackspace || encodeTables kc m md.1 md.2 == some (renderSeq s)
      | none => true) = true := by
  decide +kernel

/-- Decoder half of the special-key table: xterm's report of every special chord decodes to an event matching key
    and modifiers, and the runes the decoder asks the `unicode` oracle about on the way are key codes. -/
theorem special_keys_decode :
    (specialKeysD.all fun kc => (List.range 8).all fun m => [false, true].all fun ckm =>
      match xtermLegacy kc m 0 ckm with
      | none => true
      | some s => decide (matchSpec asciiUni (decodeKey asciiUni s) kc m) && inKeyDom kc &&
          inKeyDom (Lemmas.KeyCongr.seqHead s) && inKeyDom (decodeRaw asciiUni s).keycode &&
          inKeyDom (decodeRaw asciiUni s).shifted) = true := by
  decide +kernel

/-- Any unmodified character key (any code point ≥ 32 below MaxRune, any
    `unicode` tables, any key modes, whatever codes the event carries) whose text is absent or is the
    character itself: the widget writes the character itself and the decoded event matches it.
    (An event whose text is something else — a whole grapheme cluster, the character caps lock or a
    layout level produced — is forwarded as that text: `C13Ext.text_forwarded`.) -/
theorem plain_char_roundtrip (u : Uni) (k : Key) (pam ckm : Bool)
    (hm : xtermMods k = 0) (hk : 32 ≤ k.keycode ∧ k.keycode < maxRune ∧ validRune k.keycode = true)
    (ht : k.text = [] ∨ k.text = [k.keycode])
    (h127 : u.isUpper k.keycode = true → u.toLower k.keycode ≠ 127) :
    encodeXterm u k pam ckm = renderSeq (.print [k.keycode]) ∧
    keyArrives u k (decodeKey u (.print [k.keycode])) := by
  obtain ⟨h32, hmax, hv⟩ := hk
  constructor
  · exact Lemmas.TermChord.enc_plain u k pam ckm hm ht hmax hv
  · unfold keyArrives
    rw [hm, decodeKey_print u [k.keycode] (by simp) (by simpa using h127)]
    by_cases hu : u.isUpper k.keycode = true
    · have e : printExpected u [k.keycode] = { keycode := u.toLower k.keycode, shifted := k.keycode, mods := shiftBit, text := [k.keycode] } := by
        simp [printExpected, hu]
      rw [e]; unfold matchSpec
      exact Or.inr (Or.inr (Or.inl ⟨rfl, show stripLocks 0 = unshift (stripLocks shiftBit) by decide⟩))
    · by_cases hd : k.keycode = 0x7F
      · have hu' : u.isUpper 127 = false := by rw [hd] at hu; simpa using hu
        have e : printExpected u [k.keycode] = { keycode := KeyBackspace } := by
          simp [printExpected, hu', hd]
        rw [e]; unfold matchSpec
        exact Or.inl ⟨hd.symm, rfl⟩
      · have e : printExpected u [k.keycode] = { keycode := k.keycode, text := [k.keycode] } := by
          simp [printExpected, hu, hd]
        rw [e]; unfold matchSpec
        exact Or.inl ⟨rfl, rfl⟩

/-- Alt + any character key whose ESC-prefixed form is one parsed sequence:
    `ESC ch` is written and decodes to an event matching (key, Alt) — upper-case letters included
    (they decode as Alt+Shift+lower-case with the shifted code). -/
theorem alt_char_roundtrip (u : Uni) (k : Key) (pam ckm : Bool)
    (hm : xtermMods k = altBit) (hk : 32 ≤ k.keycode ∧ k.keycode < maxRune ∧ validRune k.keycode = true) :
    encodeXterm u k pam ckm = renderSeq (.esc k.keycode) ∧
    keyArrives u k (decodeKey u (.esc k.keycode)) := by
  obtain ⟨h32, hmax, hv⟩ := hk
  have hm7 : k.mods &&& 7 = 2 := hm
  obtain ⟨hs, ha, hc⟩ := Lemmas.TermChord.xm_bits hm7
  constructor
  · rw [Lemmas.TermChord.encodeXterm_char u k pam ckm hmax (.inr (by rw [hm7]; decide))]
    simp [hm7, hs, ha, hc, strOfRune, hv, renderSeq]
  · unfold keyArrives
    rw [hm, decodeKey_esc]
    by_cases hu : u.isUpper k.keycode = true
    · have e : escExpected u k.keycode = { keycode := u.toLower k.keycode, shifted := k.keycode, mods := altBit ||| shiftBit } := by
        simp [escExpected, hu]
      rw [e]; unfold matchSpec
      exact Or.inr (Or.inr (Or.inl ⟨rfl, show stripLocks altBit = unshift (stripLocks (altBit ||| shiftBit)) by decide⟩))
    · have e : escExpected u k.keycode = { keycode := k.keycode, mods := altBit } := by
        simp [escExpected, hu]
      rw [e]; unfold matchSpec
      exact Or.inl ⟨rfl, rfl⟩

/-- Ctrl + a character with a control code (`@ a–z [ \ ] ^ _`) other than BackSpace, Tab, Enter and Escape: the C0
    byte is written and decodes to an event matching (character, Ctrl). -/
theorem ctrl_c0_roundtrip (u : Uni) (k : Key) (pam ckm : Bool) (b : Int)
    (hm : xtermMods k = ctrlBit) (hb : ctrlByte k.keycode = some b) (hx : b ≠ 8 ∧ b ≠ 9 ∧ b ≠ 13 ∧ b ≠ 27) :
    encodeXterm u k pam ckm = renderSeq (.c0 b) ∧ keyArrives u k (decodeKey u (.c0 b)) := by
  have hm7 : k.mods &&& 7 = 4 := hm
  obtain ⟨hs, ha, hc⟩ := Lemmas.TermChord.xm_bits hm7
  have hmr : maxRune = 1114111 := rfl
  have hrange : (97 ≤ k.keycode ∧ k.keycode ≤ 122 ∧ b = k.keycode - 96) ∨
      ((k.keycode = 64 ∨ (91 ≤ k.keycode ∧ k.keycode ≤ 95)) ∧ ¬(97 ≤ k.keycode ∧ k.keycode ≤ 122) ∧ b = k.keycode - 64) := by
    unfold ctrlByte at hb
    split at hb
    · rename_i h; exact .inl ⟨h.1, h.2, by cases hb; rfl⟩
    · rename_i h
      split at hb
      · rename_i h'; exact .inr ⟨h', h, by cases hb; rfl⟩
      · cases hb
  constructor
  · rw [Lemmas.TermChord.encodeXterm_char u k pam ckm (by rcases hrange with h | h <;> omega) (.inr (by rw [hm7]; decide))]
    rcases hrange with ⟨h1, h2, rfl⟩ | ⟨hp, hl, rfl⟩
    · simp [hm7, ha, hc, h1, h2, renderSeq]
    · have hlk : lookup k.keycode VaxisModel.Gen.TermKeys.ctrlCases = none := by
        have : k.keycode = 64 ∨ k.keycode = 91 ∨ k.keycode = 92 ∨ k.keycode = 93 ∨ k.keycode = 94 ∨ k.keycode = 95 := by omega
        rcases this with h | h | h | h | h | h <;> rw [h] <;> decide
      simp [hm7, ha, hc, hl, hlk, show 64 ≤ k.keycode ∧ k.keycode < 96 by omega, renderSeq]
  · unfold keyArrives
    rw [hm, decodeKey_c0 u _ (by rcases hrange with h | h <;> omega) (by rcases hrange with h | h <;> omega)]
    have e : c0Expected b = { keycode := k.keycode, mods := ctrlBit } := by
      unfold c0Expected
      simp only [hx.1, hx.2.1, hx.2.2.1, hx.2.2.2, if_false]
      rcases hrange with ⟨h1, h2, rfl⟩ | ⟨hp, hl, rfl⟩
      · rw [if_pos (by omega)]; congr 1; omega
      · rw [if_neg (by omega)]; congr 1; omega
    rw [e]; unfold matchSpec
    exact Or.inl ⟨rfl, rfl⟩

/-- Ctrl + a lower-case ASCII letter other than h, i, m (whose C0 bytes are
    BackSpace, Tab, Enter): the C0 byte is written and decodes to an event matching (letter, Ctrl).
    (`hl` is not used: the code compares with 'a'..'z' and does not ask `unicode.IsLower`.) -/
theorem ctrl_letter_roundtrip (u : Uni) (k : Key) (pam ckm : Bool)
    (hm : xtermMods k = ctrlBit)
    (hk : 97 ≤ k.keycode ∧ k.keycode ≤ 122 ∧ k.keycode ≠ 104 ∧ k.keycode ≠ 105 ∧ k.keycode ≠ 109)
    (hl : u.isLower k.keycode = true) :
    encodeXterm u k pam ckm = renderSeq (.c0 (k.keycode - 96)) ∧
    keyArrives u k (decodeKey u (.c0 (k.keycode - 96))) := by
  exact ctrl_c0_roundtrip u k pam ckm _ hm (by simp [ctrlByte, hk.1, hk.2.1]) (by omega)

section Chord
open VaxisModel.Lemmas.TermChord VaxisModel.Lemmas.KeyCongr

/-- What the event says Shift produces on the key is the key's upper case, as far as it says anything.  (Without it
    the clause cannot hold: Shift + `a` reporting the shifted code `1` is written as `1`, which is no `a`.) -/
def ShiftIsUpper (u : Uni) (k : Key) : Prop :=
  xtermMods k &&& shiftBit ≠ 0 → shiftedOf u k = 0 ∨ shiftedOf u k = u.toUpper k.keycode

/-- The key clause on the printable ASCII keys. -/
theorem ascii_chord_roundtrip (u : Uni) (H : AgreeOnKeys u) (k : Key) (pam ckm : Bool) (s : Seq)
    (hk : 32 ≤ k.keycode ∧ k.keycode < 127)
    (hd : xtermLegacy k.keycode (xtermMods k) (shiftedOf u k) ckm = some s)
    (hch : textIsChord u k = true) (hS : ShiftIsUpper u k) :
    encodeXterm u k pam ckm = renderSeq s ∧ keyArrives u k (decodeKey u s) := by
  obtain ⟨h32, h127⟩ := hk
  have hmr : maxRune = 1114111 := rfl
  have hv := validRune_small k.keycode (by omega) (by omega)
  obtain ⟨t1, t2⟩ := xtermLegacy_tables_none k.keycode (by omega)
  obtain ⟨cU, cL, cUp, _⟩ := ascii_case u H k.keycode ⟨by omega, by omega⟩
  have hnk : k.keycode ≠ KeyTab ∧ k.keycode ≠ KeyEnter ∧ k.keycode ≠ KeyEsc ∧ k.keycode ≠ KeyBackspace := by
    simp only [KeyTab, KeyEnter, KeyEsc, KeyBackspace]; omega
  have hr : 32 ≤ k.keycode ∧ k.keycode < 127 := ⟨h32, h127⟩
  -- Shift on a letter: the shifted character is the upper-case letter, and the oracle knows the pair
  have cased (hsb : xtermMods k &&& shiftBit ≠ 0) (hlet : 97 ≤ k.keycode ∧ k.keycode ≤ 122)
      (hrange : 32 ≤ shiftedOf u k) : u.isUpper (shiftedOf u k) = true ∧ u.toLower (shiftedOf u k) = k.keycode ∧
        u.toUpper k.keycode = shiftedOf u k ∧ validRune (shiftedOf u k) = true ∧ 0 < shiftedOf u k := by
    have hC : shiftedOf u k = k.keycode - 32 := by
      rcases hS hsb with h | h
      · omega
      · rw [h, cUp]; simp [hlet]
    obtain ⟨CU, _, _, CL⟩ := ascii_case u H (shiftedOf u k) ⟨by omega, by omega⟩
    refine ⟨by rw [CU]; simp; omega, by rw [CL]; simp [show 65 ≤ shiftedOf u k ∧ shiftedOf u k ≤ 90 by omega]; omega,
      by rw [cUp, hC]; simp [hlet], validRune_small _ (by omega) (by omega), by omega⟩
  have hx := xtermMods_lt k
  have hcases : xtermMods k = 0 ∨ xtermMods k = 1 ∨ xtermMods k = 2 ∨ xtermMods k = 3 ∨ xtermMods k = 4 ∨
      4 < xtermMods k := by omega
  unfold xtermLegacy at hd
  simp only [t1, t2, hnk, hr, if_false, and_self, if_true] at hd
  rcases hcases with hm | hm | hm | hm | hm | hm
  · -- no modifier: the character
    have ht := chord_text u k hch (by rw [hm]; rfl)
    simp only [producedChar, hm] at ht
    simp [hm, shiftBit, altBit, ctrlBit, h32, h127] at hd
    subst hd
    exact plain_char_roundtrip u k pam ckm hm ⟨h32, by omega, hv⟩ (by simpa using ht)
      (by rw [cU]; intro hu; simp only [decide_eq_true_eq] at hu; rw [(ascii_case u H _ ⟨by omega, by omega⟩).2.2.2]; simp [hu]; omega)
  · -- Shift: the upper-case letter
    by_cases hlet : 97 ≤ k.keycode ∧ k.keycode ≤ 122
    · simp [hm, shiftBit, altBit, ctrlBit, hlet] at hd
      obtain ⟨hrange, hd⟩ := hd
      subst hd
      obtain ⟨hU, hL, hup, hV, hpos⟩ := cased (by rw [hm]; decide) hlet (by omega)
      have ht := chord_text u k hch (by rw [hm]; rfl)
      have hp : producedChar u k = shiftedOf u k := by simp [producedChar, hm, shiftBit]
      rw [hp] at ht
      exact shift_letter_core u k pam ckm k.keycode (shiftedOf u k) hm hU hL hV hpos ⟨h32, by omega, by omega⟩ rfl
        ((shifted_shape u k).imp_right fun h => ⟨h, .inr hup⟩) ht
    · simp [hm, shiftBit, hlet] at hd
  · -- Alt: ESC + the character
    simp [hm, shiftBit, altBit, ctrlBit, h32, h127] at hd
    obtain ⟨_, hd⟩ := hd
    subst hd
    exact alt_char_roundtrip u k pam ckm hm ⟨h32, by omega, hv⟩
  · -- Alt+Shift: ESC + the upper-case letter
    by_cases hlet : 97 ≤ k.keycode ∧ k.keycode ≤ 122
    · simp [hm, shiftBit, altBit, ctrlBit, hlet] at hd
      obtain ⟨hrange, _, hd⟩ := hd
      subst hd
      obtain ⟨hU, hL, hup, hV, hpos⟩ := cased (by rw [hm]; decide) hlet (by omega)
      exact alt_shift_letter_core u k pam ckm k.keycode (shiftedOf u k) hm hU hL hV hpos ⟨h32, by omega⟩ rfl
        ((shifted_shape u k).imp_right fun h => ⟨h, hup⟩)
    · simp [hm, shiftBit, hlet] at hd
  · -- Ctrl: the C0 byte
    simp [hm, shiftBit, altBit, ctrlBit] at hd
    cases hb : ctrlByte k.keycode with
    | none => simp [hb] at hd
    | some b =>
      simp only [hb] at hd
      split at hd
      · cases hd
      · cases hd
        exact ctrl_c0_roundtrip u k pam ckm b hm hb (by omega)
  · -- Ctrl with Shift or Alt: no report
    have : xtermMods k = 5 ∨ xtermMods k = 6 ∨ xtermMods k = 7 := by omega
    rcases this with hm | hm | hm <;> simp [hm, shiftBit, altBit, ctrlBit] at hd

theorem specialKeys_rows : ∀ kc ∈ specialKeysD, ¬(32 ≤ kc ∧ kc < 127) ∧
    lookup kc VaxisModel.Gen.TermKeys.keypadApplicationMode = none ∧
    lookup kc VaxisModel.Gen.TermKeys.keypadNumericMode = none ∧
    (kc < maxRune → kc = KeyTab ∨ kc = KeyEnter ∨ kc = KeyEsc ∨ kc = KeyBackspace) := by decide

theorem lowKeys_rows : ∀ ckm : Bool,
    xtermLegacy KeyTab 0 0 ckm = some (.c0 9) ∧ xtermLegacy KeyEnter 0 0 ckm = some (.c0 13) ∧
    xtermLegacy KeyEsc 0 0 ckm = some (.c0 27) ∧ xtermLegacy KeyBackspace 0 0 ckm = some (.print [127]) ∧
    xtermLegacy KeyBackspace altBit 0 ckm = some (.esc 127) ∧
    ∀ m, m < 8 → m ≠ 0 → m ≠ altBit → xtermLegacy KeyBackspace m 0 ckm = none := by decide

/-- The key clause on the special keys: the encoder half is `special_keys_exact` (the event's text counts for an
    unmodified Tab / Enter / Escape / BackSpace only), the decoder half `special_keys_decode`. -/
theorem special_chord_roundtrip (u : Uni) (H : AgreeOnKeys u) (k : Key) (pam ckm : Bool) (s : Seq)
    (hk : k.keycode ∈ specialKeysD)
    (hd : xtermLegacy k.keycode (xtermMods k) (shiftedOf u k) ckm = some s)
    (hch : k.keycode < maxRune → textIsChord u k = true) :
    encodeXterm u k pam ckm = renderSeq s ∧ keyArrives u k (decodeKey u s) := by
  obtain ⟨hnc, ha, hn, hlow⟩ := specialKeys_rows _ hk
  rw [xtermLegacy_nonchar _ _ _ _ hnc] at hd
  have hx := xtermMods_lt k
  have hmode := allModes_all pam ckm
  constructor
  · have henc := special_keys_exact
    simp only [List.all_eq_true, List.mem_range] at henc
    have henc := henc _ hk _ hx _ hmode
    simp only [hd, Bool.or_eq_true, beq_iff_eq] at henc
    by_cases hm0 : xtermMods k = 0 ∧ k.keycode < maxRune
    · obtain ⟨hm0, hlt⟩ := hm0
      have ht := chord_text u k (hch hlt) (by rw [hm0]; rfl)
      simp only [producedChar, hm0] at ht
      rw [hm0] at hd
      obtain ⟨r1, r2, r3, r4, _⟩ := lowKeys_rows ckm
      rcases hlow hlt with h | h | h | h <;> rw [h] at hd <;>
        (first | rw [r1] at hd | rw [r2] at hd | rw [r3] at hd | rw [r4] at hd) <;> cases hd <;>
        rw [enc_plain u k pam ckm hm0 (by simpa using ht) hlt (by rw [h]; decide), h] <;> rfl
    · rcases henc with hbs | henc
      · -- Alt+BackSpace
        obtain ⟨_, _, _, _, r5, r6⟩ := lowKeys_rows ckm
        rw [hbs] at hd hm0
        have hm2 : xtermMods k = altBit := by
          apply Classical.byContradiction; intro h2
          rw [r6 _ hx (fun h0 => hm0 ⟨h0, by decide⟩) h2] at hd; cases hd
        rw [hm2, r5] at hd; cases hd
        rw [(alt_char_roundtrip u k pam ckm hm2 (by rw [hbs]; decide)).1, hbs]; rfl
      · rw [encodeXterm_core_of_not_keypad _ _ _ _ ha hn]
        unfold encodeXtermCore
        simp only [xm_eq]
        rw [encodeTables_no_text _ _ _ _ _ (by
          by_cases h : k.keycode < maxRune
          · exact .inr (fun h0 => hm0 ⟨h0, h⟩)
          · exact .inl h)]
        have h7 : k.mods &&& 7 = xtermMods k := rfl
        rw [h7, henc]
  · have hdec := special_keys_decode
    simp only [List.all_eq_true, List.mem_range] at hdec
    have hdec := hdec _ hk _ hx ckm (by cases ckm <;> decide)
    simp only [hd, Bool.and_eq_true, decide_eq_true_eq] at hdec
    obtain ⟨⟨⟨⟨hmatch, d0⟩, d1⟩, d2⟩, d3⟩ := hdec
    unfold keyArrives
    rw [decodeKey_congr u asciiUni s (H _ d1) (H _ d2) (H _ d3)]
    exact (matchSpec_congr_uni u asciiUni _ _ _ (H _ d0)).mpr hmatch

/-- The legacy protocol has reports for the special keys and the printable ASCII keys only. -/
theorem xtermLegacy_keys (key : Int) (m : Nat) (sh : Int) (ckm : Bool) (s : Seq)
    (h : xtermLegacy key m sh ckm = some s) : key ∈ specialKeysD ∨ (32 ≤ key ∧ key < 127) := by
  by_cases hc : 32 ≤ key ∧ key < 127
  · exact .inr hc
  · left
    have mem {α : Type} (v : α) (t : List (Int × α)) (hl : lookup key t = some v) : key ∈ t.map (·.1) :=
      List.mem_map_of_mem (f := (·.1)) (lookup_some_mem _ _ _ hl)
    unfold specialKeysD
    simp only [List.mem_append]
    cases h1 : lookup key xtermLetterKeys with
    | some f => exact .inl (.inl (mem _ _ h1))
    | none =>
      cases h2 : lookup key xtermTildeKeys with
      | some n => exact .inl (.inr (mem _ _ h2))
      | none =>
        right
        have e : (xtermLetterKeys.map fun (k, f) => (k, f)) = xtermLetterKeys := List.map_id' _
        simp only [xtermLegacy, e, h1, h2, hc, if_false] at h
        simp only [List.mem_cons, List.not_mem_nil, or_false]
        by_cases a : key = KeyTab; · exact .inl a
        by_cases b : key = KeyEnter; · exact .inr (.inl b)
        by_cases c : key = KeyEsc; · exact .inr (.inr (.inl c))
        by_cases d : key = KeyBackspace; · exact .inr (.inr (.inr d))
        simp [a, b, c, d] at h

/-- The key clause for every chord.  Whatever the event — any key code, any modifier mask, any
    codes and event type — if it is a chord (`textIsChord`) whose shifted character, where it names one, is the key's
    upper case, it passes the round-trip check in all four key modes, for every `unicode` oracle that is Go's on
    ASCII and on the key codes: if xterm's legacy protocol expresses the chord, the widget writes exactly that report
    and Vaxis reads it back as an event matching key and modifiers. -/
theorem chord_roundtrip (u : Uni) (H : AgreeOnKeys u) (k : Key) (pam ckm : Bool)
    (hch : textIsChord u k = true) (hS : ShiftIsUpper u k) : roundtripOK u k pam ckm = true := by
  unfold roundtripOK
  cases hd : xtermLegacy k.keycode (xtermMods k) (shiftedOf u k) ckm with
  | none => rfl
  | some s =>
    have := (xtermLegacy_keys _ _ _ _ _ hd).elim
      (fun hk => special_chord_roundtrip u H k pam ckm s hk hd (fun _ => hch))
      (fun hk => ascii_chord_roundtrip u H k pam ckm s hk hd hch hS)
    simp only [this.1, this.2, decide_true, Bool.and_self]

theorem mods_rows : ∀ m : Fin 8, m.val &&& 7 = m.val ∧ (m.val + 72) &&& 7 = m.val := by decide

theorem variants_chords (u : Uni) (kc : Int) (m : Nat) (hm : m < 8)
    (hup : u.toUpper kc = asciiUni.toUpper kc) (hpos : 0 < asciiUni.toUpper kc) :
    ∀ k ∈ variants kc m, textIsChord u k = true ∧ ShiftIsUpper u k := by
  obtain ⟨e1, e2⟩ := mods_rows ⟨m, hm⟩
  simp only at e1 e2
  intro k hk
  simp only [variants, List.mem_cons, List.not_mem_nil, or_false] at hk
  unfold ShiftIsUpper
  rcases hk with rfl | rfl | rfl | rfl | rfl <;> rcases Nat.mod_two_eq_zero_or_one m with h2 | h2 <;>
    simp [textIsChord, producedChar, xtermMods, shiftedOf, e1, e2, h2, hup, hpos, shiftBit, altBit, ctrlBit] <;>
    cases u.isLower kc <;> simp

theorem domain_keycodes : ∀ kc ∈ specialKeysD ++ (List.range 95).map (fun (i : Nat) => (32 : Int) + Int.ofNat i),
    inKeyDom kc = true ∧ 0 < asciiUni.toUpper kc := by decide +kernel

theorem domain_chords (u : Uni) (H : AgreeOnKeys u) : ∀ k ∈ domainKeys, textIsChord u k = true ∧ ShiftIsUpper u k := by
  intro k hk
  simp only [domainKeys, List.mem_flatMap, List.mem_range] at hk
  obtain ⟨kc, hkc, m, hm, hv⟩ := hk
  obtain ⟨hdom, hpos⟩ := domain_keycodes kc hkc
  exact variants_chords u kc m hm (H kc hdom).toUpper hpos k hv

/-- All five shapes of a chord are in the domain, or none is. -/
theorem variants_domain (kc : Int) (m : Nat) (hm : m < 8) (hpos : 0 < asciiUni.toUpper kc) :
    ∀ k ∈ variants kc m, XtermDomain asciiUni k = (xtermLegacy kc m (asciiUni.toUpper kc) false).isSome := by
  intro k hk
  obtain ⟨hch, _⟩ := variants_chords asciiUni kc m hm rfl hpos k hk
  obtain ⟨e1, e2⟩ := mods_rows ⟨m, hm⟩
  simp only at e1 e2
  have hlow : asciiUni.isLower kc = decide (97 ≤ kc ∧ kc ≤ 122) := rfl
  unfold XtermDomain
  rw [hch, Bool.and_true]
  simp only [variants, List.mem_cons, List.not_mem_nil, or_false] at hk
  have e7 : shiftBit ||| altBit ||| ctrlBit = 7 := rfl
  have lower : (xtermLegacy kc m (if asciiUni.isLower kc = true then asciiUni.toUpper kc else 0) false) =
      xtermLegacy kc m (asciiUni.toUpper kc) false := by
    by_cases hl : 97 ≤ kc ∧ kc ≤ 122
    · simp [hlow, hl]
    · exact xtermLegacy_shifted _ _ _ _ _ (fun h => hl h.2)
  rcases hk with rfl | rfl | rfl | rfl | rfl <;>
    simp only [xtermMods, shiftedOf, e7, e1, e2, hpos, List.length_cons, List.length_nil, Nat.le_refl, Nat.zero_le,
      decide_true, Bool.and_true, gt_iff_lt, Int.lt_irrefl, if_true, if_false, lower]
  by_cases hb : m &&& 1 ≠ 0
  · rw [if_pos hb]
  · rw [if_neg hb, xtermLegacy_shifted _ _ kc (asciiUni.toUpper kc) _ (fun h => hb h.1)]

end Chord

/-- For every event of `domainKeys` that lies in `XtermDomain` (the chord has a
    single unambiguous xterm legacy report) and all four (deckpam, decckm) combinations, the encoder
    writes exactly that report, and the report decoded by `decodeKey` matches the original key code
    and Shift/Alt/Ctrl modifiers (`roundtripOK`).  An instance of `chord_roundtrip`: the events of the domain are
    chords (`variants_chords`). -/
theorem key_roundtrip :
    (domainKeys.all fun k => allModes.all fun md => roundtripOK asciiUni k md.1 md.2) = true := by
  simp only [List.all_eq_true]
  intro k hk md _
  obtain ⟨hch, hS⟩ := domain_chords asciiUni Lemmas.TermChord.agree_ascii k hk
  exact chord_roundtrip asciiUni Lemmas.TermChord.agree_ascii k md.1 md.2 hch hS

/-- Non-vacuity: 2165 of the 4880 events are in `XtermDomain` — the five shapes of each of 433 chords
    (`variants_domain`), counted over the 122 × 8 chords. -/
theorem key_roundtrip_domain_size :
    (domainKeys.filter fun k => XtermDomain asciiUni k).length = 2165 ∧ domainKeys.length = 4880 := by
  constructor
  · rw [← List.countP_eq_length_filter]
    unfold domainKeys
    rw [Lemmas.ListBasic.countP_flatMap_eq _ _
      (fun kc => ((List.range 8).map fun m => if (xtermLegacy kc m (asciiUni.toUpper kc) false).isSome then 5 else 0).sum) _
      fun kc hkc => Lemmas.ListBasic.countP_flatMap_eq _ _ _ _ fun m hm =>
        Lemmas.ListBasic.countP_of_const _ _ _ (variants_domain kc m (List.mem_range.mp hm) (domain_keycodes kc hkc).2)]
    decide +kernel
  · unfold domainKeys
    simp only [List.length_flatMap, show ∀ kc m, (variants kc m).length = 5 from fun _ _ => rfl]
    decide +kernel

/-- `%d` rendering used by the encoders, on examples. -/
theorem decimal_examples :
    decimal 0 = [48] ∧ decimal 7 = [55] ∧ decimal 1001 = [49, 48, 48, 49] ∧ decimal (-12) = [45, 49, 50] := by decide

/-- For a press, release or motion event the child has not enabled (xterm: 1000
    presses/releases, 1002 adds drags, 1003 adds all motion; 1006 enables nothing) and to which
    alternate scroll does not apply, nothing at all is written towards the child — for every button,
    position, modifier set and mode combination. -/
theorem mouse_gated (u : Uni) (md : Modes) (m : Mouse)
    (hev : m.event = EventPress ∨ m.event = EventRelease ∨ m.event = EventMotion)
    (hen : enabledFor md m = false) (halt : altScrollApplies md m = false) :
    update u md (.mouse m) = [] := by
  obtain ⟨pam, ckm, paste, b, d, mo, sgr, alt, smcup⟩ := md
  rcases hev with h | h | h <;>
  simp [enabledFor, altScrollApplies, isWheel, h, EventPress, EventRelease, EventMotion] at hen halt <;>
  simp [update, handleMouse, h, EventPress, EventRelease, EventMotion, VaxisModel.Gen.Mouse.MouseWheelUp, VaxisModel.Gen.Mouse.MouseWheelDown, VaxisModel.Gen.Mouse.MouseNoButton] <;>
  (try (cases b <;> cases d <;> cases mo <;> cases sgr <;> cases alt <;> cases smcup <;> simp_all))


example : enabledFor { mouseSGR := true } { button := 0, event := EventPress } = false ∧
    altScrollApplies { mouseSGR := true } { button := 0, event := EventPress } = false := by decide

/-- Under SGR mode, an enabled event with any button of the API and any position
    is written as exactly `CSI < b ; col+1 ; row+1 M|m`, and `parseMouseEvent` maps that report back to
    the same button, column, row and press/release/motion type. -/
theorem mouse_roundtrip (u : Uni) (md : Modes) (m : Mouse)
    (hsgr : md.mouseSGR = true) (hen : enabledFor md m = true) (hb : m.button ∈ buttonConsts) :
    ∃ inter params fin, sgrReport m = some (inter, params, fin) ∧
      update u md (.mouse m) = renderCSI inter params fin ∧
      ∃ m', parseMouseEvent inter params fin = some m' ∧ sameMouse m' m = true := by
  obtain ⟨pam, ckm, paste, b, d, mo, sgr, alt, smcup⟩ := md
  simp only at hsgr
  subst hsgr
  have hp := parse_back _ hb
  have hev : m.event = EventPress ∨ m.event = EventRelease ∨ m.event = EventMotion := by
    unfold enabledFor at hen
    by_cases h1 : m.event = EventPress ∨ m.event = EventRelease
    · rcases h1 with h | h
      · exact Or.inl h
      · exact Or.inr (Or.inl h)
    · by_cases h2 : m.event = EventMotion
      · exact Or.inr (Or.inr h2)
      · simp [h1, h2] at hen
  rcases hev with h | h | h
  · refine ⟨[60], [[m.button], [m.col + 1], [m.row + 1]], 77, by simp [sgrReport, h], ?_, ?_⟩
    · simp [enabledFor, h, EventPress, EventRelease] at hen
      simp [update, handleMouse, h, EventPress, EventMotion, renderCSI, renderParams]
      cases b <;> cases d <;> cases mo <;> simp_all
    · rw [parse_pos, hp.1]; simp [sameMouse, h]
  · refine ⟨[60], [[m.button], [m.col + 1], [m.row + 1]], 109, by simp [sgrReport, h, EventPress, EventRelease], ?_, ?_⟩
    · simp [enabledFor, h, EventPress, EventRelease] at hen
      simp [update, handleMouse, h, EventPress, EventRelease, EventMotion, renderCSI, renderParams]
      cases b <;> cases d <;> cases mo <;> simp_all
    · rw [parse_pos, hp.2.1]; simp [sameMouse, h]
  · refine ⟨[60], [[m.button + 32], [m.col + 1], [m.row + 1]], 77, by simp [sgrReport, h, EventPress, EventRelease, EventMotion], ?_, ?_⟩
    · simp [enabledFor, h, EventPress, EventRelease, EventMotion] at hen
      simp [update, handleMouse, h, EventMotion, renderCSI, renderParams, VaxisModel.Gen.Mouse.MouseNoButton]
      by_cases h3 : m.button = 3 <;> simp [h3] at hen ⊢ <;> cases b <;> cases d <;> cases mo <;> simp_all
    · rw [parse_pos, hp.2.2]; simp [sameMouse, h]

example : enabledFor { mouseSGR := true, mouseMotion := true } { button := 3, col := 222, row := 1000, event := EventMotion } = true := by decide

/-- Alternate scroll (1007 on the alternate screen, no mouse reporting
    enabled): a wheel event becomes three cursor-up / cursor-down keys in the form the child's cursor
    key mode selects. -/
theorem altscroll_cursor_mode (u : Uni) (md : Modes) (m : Mouse) (h : altScrollApplies md m = true) :
    update u md (.mouse m) =
      let k := renderSeq (cursorSeq (if m.button = 64 then 65 else 66) md.decckm)
      k ++ k ++ k := by
  obtain ⟨pam, ckm, paste, b, d, mo, sgr, alt, smcup⟩ := md
  simp [altScrollApplies, isWheel] at h
  obtain ⟨⟨⟨ha, hs⟩, hb, hmo⟩, hw⟩ := h
  obtain ⟨hb, hd⟩ := hb
  subst ha hs hb hd hmo
  rcases hw with hw | hw <;> cases ckm <;>
    simp [update, handleMouse, hw, cursorSeq, renderSeq, renderCSI, renderParams,
      VaxisModel.Gen.Mouse.MouseWheelUp, VaxisModel.Gen.Mouse.MouseWheelDown]

open VaxisModel.Model.TermInputModes VaxisModel.Lemmas.TermModeRows in
/-- From every one of the 512 mode states, each thing the child can write —
    DECSET / DECRST of each relevant private mode number (and of numbers that must not matter),
    `ESC =`, `ESC >` and `ESC c` (RIS) — moves the emulator (the case tables of `decset` / `decrst`, the
    `esc` arms and the mode assignments of `ris()`, regenerated from the source) to exactly the state
    the standard meaning gives; in particular RIS returns every input mode to its power-on value. -/
theorem child_modes_conform :
    ((List.range 512).all fun n =>
      let md := modesOfNat n
      (modeNumbers.all fun k =>
        applyChild md (.set [k]) == specApply md (.set [k]) && applyChild md (.reset [k]) == specApply md (.reset [k])) &&
      applyChild md .pam == specApply md .pam && applyChild md .pnm == specApply md .pnm &&
      applyChild md .ris == specApply md .ris) = true := by
  simp only [List.all_eq_true, Bool.and_eq_true, beq_iff_eq]
  exact fun n _ => ⟨⟨⟨fun k _ => ⟨applyChild_conform _ _, applyChild_conform _ _⟩, applyChild_conform _ _⟩,
    applyChild_conform _ _⟩, applyChild_conform _ _⟩

open VaxisModel.Model.TermInputModes in
/-- Lists of parameters (`CSI ? 1002 ; 1006 h`) and whole scripts are folds of the single steps, in the
    model and in the spec alike; so conformance of the steps a script takes extends to the script, from
    the power-on state.  (The hypothesis holds of every step: `Lemmas.TermModeRows.applyChild_conform`.) -/
theorem child_scripts_conform (ops : List ChildOp)
    (h : ∀ md op, op ∈ ops → applyChild md op = specApply md op) :
    childModes ops = specModes ops :=
  VaxisModel.Lemmas.TermModeRows.foldl_congr _ _ ops h {}

/-- Nothing is written for a paste boundary unless the child enabled bracketed
    paste (mode 2004); if it did, exactly the marker `CSI 200 ~` / `CSI 201 ~` is written. -/
theorem paste_gated (u : Uni) (md : Modes) :
    (md.paste = false → update u md .pasteStart = [] ∧ update u md .pasteEnd = []) ∧
    (md.paste = true → update u md .pasteStart = renderSeq pasteStartSeq ∧ update u md .pasteEnd = renderSeq pasteEndSeq) := by
  constructor <;> intro h <;> simp [update, h] <;> decide

end VaxisModel.Props.C13
