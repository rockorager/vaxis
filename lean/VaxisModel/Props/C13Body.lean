/-
C13 — structural tie of `encodeXterm`, `handleMouse` and the forwarding arms of `Model.Update`
(widgets/term) to the model.  See `Props/C09Body.lean` for the scheme.
-/
import VaxisModel.Model.TermBody
import VaxisModel.Lemmas.TermBodyEval

namespace VaxisModel.Props.C13Body
open VaxisModel.Model.GoBody VaxisModel.Model.GoInterp VaxisModel.Model.Key VaxisModel.Model.TermBody
open VaxisModel.Model.TermKey VaxisModel.Model.TermMouse VaxisModel.Model.Mouse VaxisModel.Gen.Keys

def exUni : Uni := ⟨fun _ => false, fun _ => false, fun _ => false, fun _ => false, fun _ => false, id, id, fun _ _ => false⟩

/-- Every node of the three bodies was translated (nothing degraded to `.unknown`). -/
theorem term_bodies_fully_recognised :
    (VaxisModel.Gen.TermBody.encodeXtermBody.clean && VaxisModel.Gen.TermBody.handleMouseBody.clean &&
     VaxisModel.Gen.TermBody.updateBody.clean) = true ∧ VaxisModel.Gen.TermBody.unknownCount = 0 := by decide


/-! `encodeXtermGen`, `handleMouseGen`, `updateGen` (Model/TermBody.lean) run the bodies regenerated
from widgets/term on this run; these theorems say that for **every** input they give what the
hand-written model gives — so `key_roundtrip`, `mouse_gated`, `paste_gated`, … are theorems about
the decision structure of the code itself (order of the table look-ups and early returns, every
guard, the `Sprintf` formats, which mode flag selects which table). -/

open VaxisModel.Lemmas.TermBodyEval VaxisModel.Lemmas.GoInterp

/-- All keys, all `unicode` oracles, both key modes. -/
theorem encodeXterm_body_eq_model (u : Uni) (key : Key) (deckpam decckm : Bool) :
    encodeXtermGen u key deckpam decckm = some (encodeXterm u key deckpam decckm) :=
  encodeXterm_body u key deckpam decckm

/-- All mode states, all buttons / positions / event types; both
    the bytes `handleMouse` writes itself (alternate scroll) and the string it returns. -/
theorem handleMouse_body_eq_model (u : Uni) (md : Modes) (m : Mouse) :
    handleMouseGen u md m = some (handleMouse md m) := handleMouse_body u md m

/-- The forwarding arms of `Model.Update` — a key is encoded with
    `(deckpam, decckm)` in that order and written; a paste boundary is written iff mode 2004; a mouse
    event writes what `handleMouse` wrote followed by what it returned. -/
theorem update_body_eq_model (u : Uni) (md : Modes) (ev : Event) :
    updateGen u md ev = some (update u md ev) := by
  unfold updateGen VaxisModel.Gen.TermBody.updateBody
  cases ev <;>
  simp only [Ss.ofList, Es.ofList, Cs.ofList, execSs, execS, eventValue, evalEs, evalE,
    VaxisModel.Model.GoInterp.bind, VaxisModel.Model.KeyBody.keyFields, mouseFields, modeEnv,
    List.lookup, List.map, String.reduceEq, String.reduceBEq, String.reduceAppend,
    reduceIte, or_self, List.cons_append, List.nil_append,
    andThen_norm, callStmt_lock, callStmt_invalidate, noops_unlock] <;>
  simp only [execTy, tyHit, String.reduceBEq, Bool.or_false, Bool.false_eq_true, reduceIte] <;>
  simp only [execSs, execS, lhsNames, evalEs, evalE, VaxisModel.Model.GoInterp.bind,
    assignVals, hasErr, bindAll, List.lookup, String.reduceEq, String.reduceBEq, String.reduceAppend,
    reduceIte, or_self, List.length, Option.map, List.nil_append,
    andThen_norm, andThen_ret, andThen_ite, afterSwitch_ite, afterSwitch_ret, afterSwitch_norm, branch_bool,
    Bool.false_eq_true, callStmt_writeString, updateCalls, encodeXterm_body_eq_model, handleMouse_body_eq_model,
    apply_ite R.outOnly, outOnly_ret, outOnly_norm, update, List.append_nil,
    const_EventRelease, binop_eq_int, decide_eq_true_eq, ctx_consts, ctx_funcs]
  all_goals (split <;> rfl)

example : updateGen VaxisModel.Props.C13Body.exUni { paste := true } .pasteEnd = some [27, 91, 50, 48, 49, 126] := by decide +kernel

end VaxisModel.Props.C13Body
