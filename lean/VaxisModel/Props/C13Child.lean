/-
C13, modes *selected by the child's own byte stream*: the forwarding encoders composed with the emulator
model (`Model.Emu`, the whole machine: prints, C0, every ESC / CSI arm, OSC, DCS, APC, resize).

The property says "the child's cursor-key and keypad modes select the encoding it asked for" and "nothing is
written for mouse and paste events the child has not enabled".  What the child asked for is what its output
stream last selected; these theorems say that the encoding `Model.Update` uses after the emulator has
consumed ANY stream is the encoding for exactly those modes (`Spec.specModesOfStream`: DECSET / DECRST,
DECKPAM / DECKPNM, RIS = every input mode back to power-on), and nothing else in the stream matters.
-/
import VaxisModel.Lemmas.TermChildSpec
import VaxisModel.Lemmas.TermEmuFrame
import VaxisModel.Props.C13

namespace VaxisModel.Props.C13Child
open VaxisModel.Model.Emu VaxisModel.Model.TermChild VaxisModel.Gen.TermModes
open VaxisModel.Model.TermInputModes VaxisModel.Lemmas.TermEmuFrame VaxisModel.Lemmas.TermEmuModes VaxisModel.Lemmas.TermChildSpec
open VaxisModel.Model.Key (lookup Uni Str)
open VaxisModel.Model.TermMouse (update Event)
open VaxisModel.Spec.TermInput

/-- One mode operation of the child — DECSET / DECRST with ANY parameter list
    over ℤ (any number of parameters, known or unknown numbers, repeated, negative, huge), DECKPAM, DECKPNM,
    RIS — moves the table-driven model of `decset` / `decrst` / `esc` / `ris()` (`Gen.TermInputModes`,
    regenerated from the source) exactly as the standard meaning says, from every mode state.
    (`Props.C13.child_modes_conform` samples 14 numbers one at a time; this is the hypothesis of `child_scripts_conform`.) -/
theorem child_step_conform_all (md : IModes) (op : ChildOp) : applyChild md op = specApply md op :=
  VaxisModel.Lemmas.TermModeRows.applyChild_conform md op

theorem child_scripts_conform_all (ops : List ChildOp) : childModes ops = specModes ops :=
  VaxisModel.Props.C13.child_scripts_conform ops fun md op _ => child_step_conform_all md op

/-- For every parsed sequence (any label, any parameters) and every mode state,
    the step the code takes (the arm the regenerated dispatch tables of `csi()` / `esc()` select, on the
    clamped parameters, through the regenerated mode tables) is the step the standard prescribes for that
    sequence: only `CSI ? … h`, `CSI ? … l`, `ESC =`, `ESC >`, `ESC c` select input modes. -/
theorem dispatch_is_standard (md : IModes) (s : ChildSeq) :
    stepModes md (modelOpOf s) = specStep md (childOpOf s) := by
  cases s with
  | other => rfl
  | csi l ps =>
    simp only [modelOpOf, csi_arm_op]
    by_cases hl1 : l = [63, 104]
    · subst hl1
      simp only [if_true, stepModes, childOpOf, specStep, child_step_conform_all]
      exact foldl_specParam_clamp true ps md
    · by_cases hl2 : l = [63, 108]
      · subst hl2
        simp only [if_neg hl1, if_true, stepModes, childOpOf, specStep, child_step_conform_all]
        exact foldl_specParam_clamp false ps md
      · have hspec : childOpOf (.csi l ps) = none := by
          unfold childOpOf
          split <;> simp_all
        rw [if_neg hl1, if_neg hl2, hspec]; rfl
  | esc l =>
    simp only [modelOpOf, esc_arm_op]
    by_cases hl1 : l = [61]
    · subst hl1; exact child_step_conform_all md .pam
    · by_cases hl2 : l = [62]
      · subst hl2; exact child_step_conform_all md .pnm
      · by_cases hl3 : l = [99]
        · subst hl3; exact child_step_conform_all md .ris
        · have hspec : childOpOf (.esc l) = none := by
            unfold childOpOf
            split <;> simp_all
          rw [if_neg hl1, if_neg hl2, if_neg hl3, hspec]; rfl

/-- ONE operation of the emulator model — any print, C0, ESC, CSI (every arm
    of the dispatch, any parameters), OSC, DCS, APC, resize — from ANY state: if it does not panic, the nine
    input modes afterwards are the standard step for that sequence applied to the modes before. -/
theorem emu_step_selects_modes {e e' : Emu} {op : EOp} {k : Nat} (h : emuStep e op = .ok (e', k)) :
    inputModes e'.mode = specStep (inputModes e.mode) (childOpOf (seqOf op)) := by
  rw [emuStep_modes h, dispatch_is_standard]

theorem modesAfter_is_spec : ∀ (seqs : List ChildSeq) (md : IModes), modesAfter md seqs = specModesFrom md seqs
  | [], _ => rfl
  | s :: rest, md => by
    have h1 : modesAfter md (s :: rest) = modesAfter (stepModes md (modelOpOf s)) rest := by
      unfold modesAfter
      simp only [List.filterMap_cons]
      cases modelOpOf s <;> rfl
    have h2 : specModesFrom md (s :: rest) = specModesFrom (specStep md (childOpOf s)) rest := by
      unfold specModesFrom
      simp only [List.filterMap_cons]
      cases childOpOf s <;> rfl
    rw [h1, h2, dispatch_is_standard, modesAfter_is_spec rest]

/-- Any stream of the child's output, from any emulator state: the input
    modes afterwards are the ones the stream selected (by the standard), starting from the modes before. -/
theorem child_stream_selects_modes {e0 e : Emu} {ops : List EOp} (h : runOps e0 ops = .ok e) :
    inputModes e.mode = specModesFrom (inputModes e0.mode) (ops.map seqOf) := by
  rw [runOps_modes ops h, modesAfter_is_spec]

/-- A new terminal (`New()` + the first resize) has every input mode off. -/
theorem new_terminal_modes {fx : Fixes} {w h : Int} {e0 : Emu} (hn : Emu.new fx w h = .ok e0) :
    inputModes e0.mode = {} := by
  unfold Emu.new at hn
  rw [resize_mode hn]
  rfl

/-- The bytes `Model.Update` writes for a key, paste boundary or mouse
    event after the terminal (created with any size) consumed the child's stream `ops` are the encoder's
    output *for the modes that stream selected* — for every stream, event, `unicode` oracle. -/
theorem forwarded_encoding_is_selected (u : Uni) {w h : Int} {e0 : Emu} (hn : Emu.new Fixes.current w h = .ok e0)
    (ops : List EOp) (ev : Event) {out : Str} (hf : forwardAfter u e0 ops ev = .ok out) :
    out = update u (specModesOfStream (ops.map seqOf)) ev := by
  unfold forwardAfter at hf
  split at hf
  · rename_i e hr
    have := Except.ok.inj hf; subst this
    rw [child_stream_selects_modes hr, new_terminal_modes hn]
    rfl
  · cases hf

/-- Forwarding never fails on its own: `forwardAfter` is an error only if the emulator was (a panic / hang
    of the emulator on the child's stream is C05's subject). -/
theorem forward_total (u : Uni) (e0 e : Emu) (ops : List EOp) (ev : Event) (hr : runOps e0 ops = .ok e) :
    ∃ out, forwardAfter u e0 ops ev = .ok out := by
  unfold forwardAfter
  rw [hr]
  exact ⟨_, rfl⟩

/-- Whatever the child selected before (`before`: any stream, from any
    emulator state — application cursor keys, keypad, bracketed paste, any mouse mode, SGR, alternate
    screen), after `ESC c` the input modes are those of a fresh terminal that only saw what the child wrote
    *after* the reset. -/
theorem ris_restores_input_defaults {e0 e : Emu} (before after : List EOp)
    (h : runOps e0 (before ++ EOp.esc [99] :: after) = .ok e) :
    inputModes e.mode = specModesOfStream (after.map seqOf) := by
  rw [Lemmas.Emu.runOps_append] at h
  obtain ⟨e1, _, h⟩ := Except.bind_eq_ok h
  unfold runOps at h
  obtain ⟨⟨e2, k⟩, h2, h⟩ := Except.bind_eq_ok h
  simp only at h
  have m2 := emu_step_selects_modes h2
  simp only [seqOf, childOpOf, specStep, specApply] at m2
  rw [child_stream_selects_modes h, m2]
  rfl

/-- In particular: after RIS (and anything that selects no mode) nothing is written for paste boundaries
    and mouse events, and cursor keys go out in their normal (CSI) form — for every earlier history. -/
theorem after_ris_nothing_enabled (u : Uni) {e0 e : Emu} (before after : List EOp)
    (hafter : ∀ op ∈ after, childOpOf (seqOf op) = none)
    (h : runOps e0 (before ++ EOp.esc [99] :: after) = .ok e) :
    inputModes e.mode = {} ∧
    update u (inputModes e.mode) .pasteStart = [] ∧ update u (inputModes e.mode) .pasteEnd = [] ∧
    ∀ m, update u (inputModes e.mode) (.mouse m) = [] := by
  have hm : inputModes e.mode = {} := by
    rw [ris_restores_input_defaults before after h]
    unfold specModesOfStream specModesFrom
    have : (after.map seqOf).filterMap childOpOf = [] := by
      rw [List.filterMap_eq_nil_iff]
      intro s hs
      obtain ⟨op, hop, rfl⟩ := List.mem_map.mp hs
      exact hafter op hop
    rw [this]; rfl
  rw [hm]
  refine ⟨rfl, rfl, rfl, ?_⟩
  intro m
  simp [update, VaxisModel.Model.TermMouse.handleMouse]

/-- "The child's cursor-key mode selects the encoding it asked for":
    after ANY stream of the child's output (from any emulator state), an unmodified cursor key (press or
    repeat) is written in SS3 form iff the stream last left DECCKM set — `CSI ? 1 h` not followed by
    `CSI ? 1 l` or RIS — and in CSI form otherwise. -/
theorem cursor_keys_follow_child_stream (u : Uni) {e0 e : Emu} {ops : List EOp} (h : runOps e0 ops = .ok e)
    (k : VaxisModel.Model.Key.Key) (fin : Int) (hk : (k.keycode, fin) ∈ cursorKeys)
    (hm : k.mods &&& VaxisModel.Gen.Keys.ModShift = 0 ∧ k.mods &&& VaxisModel.Gen.Keys.ModAlt = 0 ∧ k.mods &&& VaxisModel.Gen.Keys.ModCtrl = 0)
    (hev : k.event ≠ VaxisModel.Gen.Keys.EventRelease) :
    update u (inputModes e.mode) (.key k) =
      renderSeq (cursorSeq fin (specModesFrom (inputModes e0.mode) (ops.map seqOf)).decckm) := by
  rw [child_stream_selects_modes h]
  simp only [update, hev, if_false]
  exact VaxisModel.Props.C13.cursor_mode_selects u k _ _ fin hk hm

/-- A paste boundary is written — as exactly `CSI 200 ~` / `CSI 201 ~` — iff
    the child's stream last left mode 2004 set; otherwise nothing is written. -/
theorem paste_follows_child_stream (u : Uni) {e0 e : Emu} {ops : List EOp} (h : runOps e0 ops = .ok e) :
    let md := specModesFrom (inputModes e0.mode) (ops.map seqOf)
    (md.paste = false → update u (inputModes e.mode) .pasteStart = [] ∧ update u (inputModes e.mode) .pasteEnd = []) ∧
    (md.paste = true → update u (inputModes e.mode) .pasteStart = renderSeq pasteStartSeq ∧
                       update u (inputModes e.mode) .pasteEnd = renderSeq pasteEndSeq) := by
  rw [child_stream_selects_modes h]
  exact VaxisModel.Props.C13.paste_gated u _

/-- A press / release / motion event the child's stream has not enabled
    (1000 / 1002 / 1003 as last selected; RIS disables all), and to which alternate scroll does not apply,
    writes nothing. -/
theorem mouse_gated_by_child_stream (u : Uni) {e0 e : Emu} {ops : List EOp} (h : runOps e0 ops = .ok e)
    (m : VaxisModel.Model.Mouse.Mouse)
    (hev : m.event = VaxisModel.Gen.Keys.EventPress ∨ m.event = VaxisModel.Gen.Keys.EventRelease ∨ m.event = VaxisModel.Gen.Keys.EventMotion)
    (hen : enabledFor (specModesFrom (inputModes e0.mode) (ops.map seqOf)) m = false)
    (halt : altScrollApplies (specModesFrom (inputModes e0.mode) (ops.map seqOf)) m = false) :
    update u (inputModes e.mode) (.mouse m) = [] := by
  rw [child_stream_selects_modes h]
  exact VaxisModel.Props.C13.mouse_gated u _ m hev hen halt

/-- vim-like start (`CSI ?1049h CSI ?1h ESC = CSI ?2004h CSI ?1002;1006h`), some text, `CSI 2 J`, LF; the second
    example appends `ESC c`. -/
def demoStream : List EOp :=
  [.csi [63, 104] [(1049, [])], .csi [63, 104] [(1, [])], .esc [61], .csi [63, 104] [(2004, [])],
   .csi [63, 104] [(1002, []), (1006, [])], .print [104] 1, .print [105] 1, .csi [74] [(2, [])], .c0 10]

example : (match Emu.new Fixes.current 4 2 with
    | .ok e0 => (match runOps e0 demoStream with
      | .ok e => inputModes e.mode == { deckpam := true, decckm := true, paste := true, mouseDrag := true,
                                        mouseSGR := true, altScroll := true, smcup := true }
      | .error _ => false)
    | .error _ => false) = true := by decide +kernel

example : (match Emu.new Fixes.current 4 2 with
    | .ok e0 => (match runOps e0 (demoStream ++ [.esc [99], .print [36] 1]) with
      | .ok e => inputModes e.mode == {}
      | .error _ => false)
    | .error _ => false) = true := by decide +kernel

end VaxisModel.Props.C13Child
