/-
C13 — further property theorems: forwarded text, the Ctrl encodings as a total
description, Ctrl+Alt in xterm's form, Shift / Alt+Shift letters of any script over the `unicode`
oracle, whole pastes (any payload, any interleaving of boundaries), the legacy X10 mouse report.
-/
import VaxisModel.Model.TermKey
import VaxisModel.Model.TermMouse
import VaxisModel.Spec.TermInput
import VaxisModel.Lemmas.TermInput
import VaxisModel.Props.C13

namespace VaxisModel.Props.C13Ext
open VaxisModel.Model.Key VaxisModel.Model.Mouse VaxisModel.Model.TermKey VaxisModel.Model.TermMouse
open VaxisModel.Spec.KeyEnc VaxisModel.Spec.TermInput VaxisModel.Gen.Keys VaxisModel.Gen.TermKeys
open VaxisModel.Lemmas.TermInput VaxisModel.Lemmas.KeyDecode

/-- The "arrive intact" clause for typed and pasted text. Whenever the text clause
    applies (`textDue`: the event carries text, its key code is any code point — Tab / Enter / DEL
    included —, neither Alt nor Ctrl is held, and it is not Shift+Tab), the child receives exactly the
    event's text: every code point of a grapheme cluster, the character caps lock or an AltGr level
    produced — for every `unicode` table, every other field of the event, all four key modes.
    (Commit 2a06572 of /repo makes this true: the code before it writes, without Shift, only the first code
    point of the *key code*.) -/
theorem text_forwarded (u : Uni) (k : Key) (pam ckm : Bool) (h : textDue k = true) :
    encodeXterm u k pam ckm = k.text := by
  simp only [textDue, Bool.and_eq_true, decide_eq_true_eq, Bool.not_eq_true', Bool.and_eq_false_imp] at h
  obtain ⟨⟨⟨ht, hmax⟩, hm6⟩, htab⟩ := h
  have hx : xtermMods k = k.mods &&& 7 := rfl
  rw [hx] at hm6 htab
  have hlt : k.mods &&& 7 < 8 := Nat.and_lt_two_pow _ (by decide : 7 < 2 ^ 3)
  have hbits := mods_no_alt_ctrl ⟨k.mods &&& 7, hlt⟩ hm6
  have ha : k.mods &&& ModAlt = 0 := by rw [and7 k.mods ModAlt (by decide)]; exact hbits.1
  have hc : k.mods &&& ModCtrl = 0 := by rw [and7 k.mods ModCtrl (by decide)]; exact hbits.2.1
  have htab' : k.keycode ≠ KeyTab ∨ k.mods &&& 7 ≠ ModShift := by
    by_cases h9 : k.keycode = KeyTab
    · right; intro h1; have h2 := htab h9; simp only [decide_eq_false_iff_not] at h2; exact h2 h1
    · left; exact h9
  rw [encodeXterm_core_of_lt _ _ _ _ (by have := maxRune_lt_keypad; omega)]
  unfold encodeXtermCore
  simp only [xm_eq]
  rw [encodeTables_char' _ _ _ _ _ hmax htab']
  by_cases hz : k.mods &&& 7 = 0 ∧ k.keycode < maxRune
  · simp [hz, ht]
  · simp [hz, ht, ha, hc]

example : textDue { keycode := 101, text := [101, 769] } = true ∧ textDue { keycode := 97, mods := 64, text := [65] } = true ∧
    textDue { keycode := 113, text := [64] } = true ∧ textDue { keycode := 101, shifted := 69, mods := 1, text := [69, 769], event := 4 } = true := by decide

/-- What xterm's legacy protocol and the widget send for Ctrl + a character key, as one table:
    the control code of `@ a–z [ \ ] ^ _`, the digit cases of the source (`Gen.TermKeys.ctrlCases`:
    2–8 ↦ NUL ESC FS GS RS US DEL, 1 ↦ itself, 9 ↦ nothing), every other key itself. -/
def ctrlWritten (kc : Int) : Str :=
  if 97 ≤ kc ∧ kc ≤ 122 then [kc - 96]
  else match lookup kc ctrlCases with
    | some out => out
    | none => if 64 ≤ kc ∧ kc < 96 then [kc - 64] else strOfRune kc

/-- Total description of what is written for Ctrl (+Alt, +Shift) + any character
    key (any code point below MaxRune other than Shift+Tab's), any event shape, `unicode` table and key
    modes: an `ESC` iff Alt is held, followed by `ctrlWritten`.  In particular the key's own code point is
    written — not `key − 0x40` / `key − 0x60` — for every key that has no control code.
    (Commit 0040837 of /repo makes this true: the code before it writes U+FFFD for digits/space/punctuation
    and another character for `` ` { | } ~ `` and non-ASCII letters.) -/
theorem ctrl_char_total (u : Uni) (k : Key) (pam ckm : Bool)
    (hc : k.mods &&& ModCtrl ≠ 0) (hk : 0 ≤ k.keycode ∧ k.keycode < maxRune) :
    encodeXterm u k pam ckm = (if k.mods &&& ModAlt ≠ 0 then [27] else []) ++ ctrlWritten k.keycode := by
  have hc7 : (k.mods &&& 7) &&& ModCtrl ≠ 0 := by rw [← and7 k.mods ModCtrl (by decide)]; exact hc
  have hx0 : k.mods &&& 7 ≠ 0 := by intro h; rw [h] at hc7; exact hc7 (by decide)
  have hxs : k.mods &&& 7 ≠ ModShift := by intro h; rw [h] at hc7; exact hc7 (by decide)
  rw [Lemmas.TermChord.encodeXterm_char u k pam ckm hk.2 (.inr hxs)]
  simp only [hx0, hc, if_false, false_and, and_false, ne_eq, not_false_eq_true, if_true]
  rfl

/-- Ctrl + any printable ASCII key, with or without Alt and Shift: what is written is never U+FFFD and
    never a character other than the key or its control code; it is empty only for Ctrl+9 (the source's
    explicit empty case). Kernel-evaluated over the regenerated `ctrlCases` / `ctrlDefaultRange`. -/
theorem ctrl_ascii_never_junk :
    ((List.range 95).all fun (i : Nat) =>
      let kc : Int := 32 + Int.ofNat i
      let w := ctrlWritten kc
      !w.contains 0xFFFD && (w == [kc] || (w.length == 1 && w.all fun r => decide (r < 32 ∨ r = 127)) || (kc == 57 && w == []))) = true := by
  decide +kernel

/-- Ctrl+Alt (+Shift) + a character with a control code (`@`, a–z,
    `[ \ ] ^ _`): the widget writes xterm's legacy form of the chord, `ESC` followed by the C0 byte
    (`Spec.altCtrlXterm`), for every `unicode` table, event shape and all four key modes.  (Vaxis's own
    parser has no single event for `ESC` + C0, which is why the chord is outside `XtermDomain`; the
    bytes are nevertheless the ones xterm sends.) -/
theorem alt_ctrl_letter_is_xterm (u : Uni) (k : Key) (pam ckm : Bool) (b : Int)
    (ha : k.mods &&& ModAlt ≠ 0) (hc : k.mods &&& ModCtrl ≠ 0) (hb : ctrlByte k.keycode = some b) :
    altCtrlXterm k.keycode = some [27, b] ∧ encodeXterm u k pam ckm = [27, b] := by
  constructor
  · simp [altCtrlXterm, hb]
  · have hmr : maxRune = 1114111 := rfl
    unfold ctrlByte at hb
    by_cases hl : 97 ≤ k.keycode ∧ k.keycode ≤ 122
    · rw [ctrl_char_total u k pam ckm hc ⟨by omega, by omega⟩]
      simp only [hl, if_true, and_self, Option.some.injEq] at hb
      simp [ha, ctrlWritten, hl, hb]
    · simp only [hl, if_false] at hb
      by_cases h2 : k.keycode = 64 ∨ (91 ≤ k.keycode ∧ k.keycode ≤ 95)
      · simp only [h2, if_true, Option.some.injEq] at hb
        rw [ctrl_char_total u k pam ckm hc ⟨by omega, by omega⟩]
        have hlk : lookup k.keycode ctrlCases = none := by
          rcases h2 with h | h
          · rw [h]; decide
          · have : k.keycode = 91 ∨ k.keycode = 92 ∨ k.keycode = 93 ∨ k.keycode = 94 ∨ k.keycode = 95 := by omega
            rcases this with h | h | h | h | h <;> rw [h] <;> decide
        have h64 : 64 ≤ k.keycode ∧ k.keycode < 96 := by omega
        simp [ha, ctrlWritten, hl, hlk, h64, hb]
      · simp [h2] at hb

example : ctrlByte 97 = some 1 ∧ ctrlByte 64 = some 0 ∧ ctrlByte 95 = some 31 := by decide

/-- Hypotheses on the `unicode` tables for a cased letter pair `c` (the key) / `C` (what Shift
    produces): as Go's tables say for every letter with simple one-to-one case mappings; the harness
    checks them on Go's tables for every code point it uses (`hyp_ok` / `hyp_violated:*`). -/
structure CasedPair (u : Uni) (c C : Int) : Prop where
  upper : u.isUpper C = true
  lower : u.toLower C = c
  up : u.toUpper c = C
  valid : validRune C = true
  pos : 0 < C
  key : 32 ≤ c ∧ c < maxRune ∧ c ≠ 127

/-- The shapes of a Shift (+Alt) event for the key: the shifted code is the upper-case letter or absent
    (then the widget upper-cases the key), the text is absent or that letter. -/
def ShiftShape (k : Key) (c C : Int) : Prop :=
  k.keycode = c ∧ (k.shifted = C ∨ k.shifted ≤ 0) ∧ (k.text = [] ∨ k.text = [C])

/-- Shift + a cased letter of any script (any code point; hypotheses on the
    `unicode` tables explicit in `CasedPair`), every event shape (`ShiftShape`), kitty-only modifiers
    and all four key modes: the upper-case letter is written and Vaxis decodes it as an event matching
    (key, Shift). -/
theorem shift_letter_roundtrip (u : Uni) (k : Key) (pam ckm : Bool) (c C : Int)
    (hm : xtermMods k = shiftBit) (hp : CasedPair u c C) (hs : ShiftShape k c C) :
    encodeXterm u k pam ckm = renderSeq (.print [C]) ∧ keyArrives u k (decodeKey u (.print [C])) := by
  obtain ⟨hkc, hsh, htx⟩ := hs
  exact Lemmas.TermChord.shift_letter_core u k pam ckm c C hm hp.upper hp.lower hp.valid hp.pos hp.key hkc
    (by rcases hsh with h | h
        · exact Or.inl h
        · exact Or.inr ⟨h, Or.inr hp.up⟩) htx

/-- Alt+Shift + a cased letter of any script: `ESC` + the upper-case
    letter is written (whatever text the event carries) and decodes to an event matching
    (key, Alt|Shift). -/
theorem alt_shift_letter_roundtrip (u : Uni) (k : Key) (pam ckm : Bool) (c C : Int)
    (hm : xtermMods k = altBit ||| shiftBit) (hp : CasedPair u c C)
    (hs : k.keycode = c ∧ (k.shifted = C ∨ k.shifted ≤ 0)) :
    encodeXterm u k pam ckm = renderSeq (.esc C) ∧ keyArrives u k (decodeKey u (.esc C)) := by
  exact Lemmas.TermChord.alt_shift_letter_core u k pam ckm c C hm hp.upper hp.lower hp.valid hp.pos
    ⟨hp.key.1, hp.key.2.1⟩ hs.1 (hs.2.imp_right fun h => ⟨h, hp.up⟩)

/-- Non-vacuity: Go's ASCII tables give a `CasedPair` for a / A (and the same shape holds for
    ф / Ф, é / É … on Go's full tables — checked at run time by the harness). -/
example : CasedPair asciiUni 97 65 := ⟨by decide, by decide, by decide, by decide, by decide, by decide⟩

/-- The key clause on the non-ASCII part of `XtermDomainU`, exactly what the
    driver judges there. For every `unicode` table, every event whose key is a code point ≥ 128 and
    whose chord the legacy protocol expresses readably (`xtermLegacyU … = some s`: unmodified, or Shift
    with an upper-case shifted character whose lower case is the key) and which is a chord rather than
    a text production, and all four key modes: the widget writes exactly `s`, and `s` decoded by Vaxis
    matches the original key and modifiers. -/
theorem nonascii_key_roundtrip (u : Uni) (k : Key) (pam ckm : Bool) (s : Seq)
    (hd : xtermLegacyU u k.keycode (xtermMods k) (shiftedOf u k) = some s)
    (hl : k.text.length ≤ 1) (hch : textIsChord u k = true) :
    encodeXterm u k pam ckm = renderSeq s ∧ keyArrives u k (decodeKey u s) := by
  unfold xtermLegacyU at hd
  by_cases hr : 128 ≤ k.keycode ∧ k.keycode < maxRune ∧ validRune k.keycode = true
  · simp only [hr, and_self, not_true_eq_false, if_false] at hd
    obtain ⟨h128, hmax, hv⟩ := hr
    by_cases hm0 : xtermMods k = 0
    · simp only [hm0, if_true] at hd
      by_cases hdel : u.isUpper k.keycode = true ∧ u.toLower k.keycode = 127
      · simp [hdel] at hd
      · simp only [hdel, if_false, Option.some.injEq] at hd
        subst hd
        have htext := Lemmas.TermChord.chord_text u k hch (by rw [hm0]; rfl)
        simp only [producedChar, hm0] at htext
        exact VaxisModel.Props.C13.plain_char_roundtrip u k pam ckm hm0 ⟨by omega, hmax, hv⟩ (by simpa using htext)
          (fun hu hl127 => hdel ⟨hu, hl127⟩)
    · simp only [hm0, if_false] at hd
      by_cases hms : xtermMods k = shiftBit
      · simp only [hms, if_true] at hd
        by_cases hS : u.isUpper (shiftedOf u k) = true ∧ u.toLower (shiftedOf u k) = k.keycode ∧
            validRune (shiftedOf u k) = true ∧ 0 < shiftedOf u k
        · simp only [hS, and_self, if_true, Option.some.injEq] at hd
          subst hd
          obtain ⟨hU, hL, hV, hpos⟩ := hS
          have htext := Lemmas.TermChord.chord_text u k hch (by rw [hms]; rfl)
          have hprod : producedChar u k = shiftedOf u k := by simp [producedChar, hms, shiftBit]
          rw [hprod] at htext
          have hshape : k.shifted = shiftedOf u k ∨
              (k.shifted ≤ 0 ∧ (k.text = [shiftedOf u k] ∨ u.toUpper k.keycode = shiftedOf u k)) := by
            refine (Lemmas.TermChord.shifted_shape u k).imp_right fun hsp => ⟨hsp, ?_⟩
            have hsp' : ¬ k.shifted > 0 := by omega
            rcases htext with htx | htx
            · right
              by_cases hlow : u.isLower k.keycode = true
              · simp [shiftedOf, hsp', htx, hlow]
              · have : shiftedOf u k = 0 := by simp [shiftedOf, hsp', htx, hlow]
                omega
            · exact .inl htx
          exact Lemmas.TermChord.shift_letter_core u k pam ckm k.keycode (shiftedOf u k) hms hU hL hV hpos
            ⟨by omega, hmax, by omega⟩ rfl hshape htext
        · simp [hS] at hd
      · simp [hms] at hd
  · simp [hr] at hd

example : xtermLegacyU asciiUni 1092 0 0 = some (.print [1092]) := by decide

theorem c0_written : ∀ n : Fin 32, n.val ≠ 8 →
    let b : Int := n.val
    let e := c0Expected b
    (e.mods = 0 ∧ e.text = [] ∧ e.keycode = b ∧ e.keycode < maxRune ∧ validRune e.keycode = true) ∨
    (e.mods = ctrlBit ∧ 0 ≤ e.keycode ∧ e.keycode < maxRune ∧ ctrlWritten e.keycode = [b]) := by decide

/-- The events the host posts for a paste are presses or paste events, never releases. -/
theorem paste_event_not_release (p : Bool) : ((if p = true then EventPaste else EventPress) = EventRelease) = False := by
  cases p <;> simp [EventPaste, EventPress, EventRelease]

theorem item_due (u : Uni) (md : Modes) (pending : Bool) (it : PasteItem) (h : it.ok u) :
    update u md (it.event u pending) = it.due md := by
  cases it with
  | start => simp only [PasteItem.event, PasteItem.due, update]; split <;> decide
  | stop => simp only [PasteItem.event, PasteItem.due, update]; split <;> decide
  | grapheme g =>
    obtain ⟨hg, h0, hmax, hdel, hup⟩ := h
    simp only [PasteItem.event, PasteItem.due, update, paste_event_not_release, if_false]
    rw [decodeKey_print u g hg (fun hu => (hup hu).2.2)]
    by_cases hu : u.isUpper (g.headD 0) = true
    · obtain ⟨hlmax, hl9, _⟩ := hup hu
      have e : printExpected u g = { keycode := u.toLower (g.headD 0), shifted := g.headD 0, mods := shiftBit, text := g } := by
        simp only [printExpected, hu, if_true]
      rw [e]; clear e
      generalize g.headD 0 = c at *
      rw [text_forwarded u _ _ _ (by simp [textDue, hg, xtermMods, shiftBit, altBit, ctrlBit, hlmax, KeyTab, hl9])]
    · by_cases hd : g.headD 0 = 127
      · have hg' := hdel hd
        rw [hg']
        have : printExpected u [127] = { keycode := 127 } := by
          rw [hg'] at hu; simp only [List.headD_cons] at hu
          simp [printExpected, hu, KeyBackspace]
        rw [this]
        exact Lemmas.TermChord.enc_plain u _ _ _ (by simp) (.inl rfl) (by simp [maxRune]) (by simp [validRune, maxRune])
      · have e : printExpected u g = { keycode := g.headD 0, text := g } := by
          simp only [printExpected, hu, hd, if_false]; rfl
        rw [e]; clear e
        generalize g.headD 0 = c at *
        rw [text_forwarded u _ _ _ (by simp [textDue, hg, xtermMods, shiftBit, altBit, ctrlBit, hmax])]
  | c0 b =>
    obtain ⟨h0, h32, h8⟩ := h
    simp only [PasteItem.event, PasteItem.due, update, paste_event_not_release, if_false]
    rw [decodeKey_c0 u b h0 h32]
    obtain ⟨n, rfl⟩ : ∃ n : Nat, b = n := ⟨b.toNat, by omega⟩
    have hn : n < 32 := by omega
    have := c0_written ⟨n, hn⟩ (by simp only; omega)
    simp only at this
    rcases this with ⟨hm, ht, hk, hlt, hv⟩ | ⟨hm, hk0, hlt, hw⟩
    · rw [Lemmas.TermChord.enc_plain u _ _ _ (by simp [hm]) (.inl (by simpa using ht)) (by simpa using hlt) (by simpa using hv)]
      simpa using hk
    · rw [ctrl_char_total u _ _ _ (by simp [hm, ctrlBit, ModCtrl]) ⟨by simpa using hk0, by simpa using hlt⟩]
      simp only [hm, ctrlBit, ModAlt]
      simpa using hw

/-- For every list of paste items — any interleaving of
    boundaries, grapheme clusters and C0 bytes, e.g. a payload whose source text contains `ESC[201~`
    — the bytes written for the events the host posts for them are the concatenation of what is due
    for each item: nothing is added, removed or reordered.  Every `unicode` table (hypotheses in
    `PasteItem.ok`), every mode state, either initial value of `pastePending`. -/
theorem forward_paste_items (u : Uni) (md : Modes) :
    ∀ (items : List PasteItem) (pending : Bool), (∀ it ∈ items, it.ok u) →
      forward u md (pasteEvents u pending items) = (items.map (PasteItem.due md)).flatten := by
  intro items
  induction items with
  | nil => intro _ _; rfl
  | cons it rest ih =>
    intro pending h
    have h1 := item_due u md pending it (h it (by simp))
    have h2 := ih (it.pendingAfter pending) (fun x hx => h x (by simp [hx]))
    simp only [pasteEvents, forward, List.map_cons, List.flatten_cons] at h2 ⊢
    rw [h1, h2]

/-- A bracketed paste with an arbitrary payload (grapheme clusters of any
    length, C0 bytes other than BS): the child receives the payload byte-identical, preceded by
    `CSI 200 ~` and followed by `CSI 201 ~` exactly when it enabled bracketed paste (mode 2004). -/
theorem paste_payload_intact (u : Uni) (md : Modes) (payload : List PasteItem)
    (hp : ∀ it ∈ payload, it.isPayload = true) (hok : ∀ it ∈ payload, it.ok u) :
    forward u md (pasteEvents u false (.start :: payload ++ [.stop])) =
      (if md.paste then renderSeq pasteStartSeq else []) ++ (payload.map PasteItem.source).flatten ++
      (if md.paste then renderSeq pasteEndSeq else []) := by
  rw [forward_paste_items u md _ false (by
    intro it hit
    simp only [List.cons_append, List.mem_cons, List.mem_append, List.not_mem_nil, or_false] at hit
    rcases hit with rfl | hit | rfl
    · trivial
    · exact hok it hit
    · trivial)]
  have hsrc : payload.map (PasteItem.due md) = payload.map PasteItem.source := by
    apply List.map_congr_left
    intro it hit
    have := hp it hit
    cases it <;> simp_all [PasteItem.isPayload, PasteItem.due, PasteItem.source]
  simp [PasteItem.due, hsrc]

/-- With bracketed paste enabled the child receives
    the source text of any item list unchanged, inner markers included (a payload containing `ESC[201~`
    is parsed by the host as … end, keys, end and re-emitted as the same bytes); with it disabled it
    receives the source text with exactly the markers removed. -/
theorem paste_enabled_identity (u : Uni) (md : Modes) (items : List PasteItem) (pending : Bool)
    (hok : ∀ it ∈ items, it.ok u) (hm : md.paste = true) :
    forward u md (pasteEvents u pending items) = (items.map PasteItem.source).flatten := by
  rw [forward_paste_items u md items pending hok]
  congr 1
  apply List.map_congr_left
  intro it _
  cases it <;> simp [PasteItem.due, PasteItem.source, hm]

theorem paste_disabled_strips (u : Uni) (md : Modes) (items : List PasteItem) (pending : Bool)
    (hok : ∀ it ∈ items, it.ok u) (hm : md.paste = false) :
    forward u md (pasteEvents u pending items) = ((items.filter PasteItem.isPayload).map PasteItem.source).flatten := by
  rw [forward_paste_items u md items pending hok]
  clear hok
  induction items with
  | nil => rfl
  | cons it rest ih =>
    cases it <;> simp [PasteItem.due, PasteItem.source, PasteItem.isPayload, hm, List.filter_cons, ih]

/-- Non-vacuity: "é" as e + U+0301, an upper-case first rune, TAB, CR, DEL, NUL, ^A and a flag
    (two regional indicators) are items the theorems cover, on Go's ASCII tables. -/
example : ∀ it ∈ [PasteItem.grapheme [101, 769], .grapheme [69, 769], .c0 9, .c0 13, .grapheme [127], .c0 0, .c0 1,
    .grapheme [127465, 127466]], it.ok asciiUni := by
  intro it hit
  simp only [List.mem_cons, List.mem_nil_iff, or_false] at hit
  rcases hit with rfl | rfl | rfl | rfl | rfl | rfl | rfl | rfl <;> simp [PasteItem.ok, asciiUni, maxRune]

/-- The one C0 byte that does not arrive intact: BS (0x08) inside a paste is reported by the host's
    `decodeKey` as the BackSpace key — the same event as DEL — and is therefore forwarded as DEL. -/
theorem paste_bs_becomes_del (u : Uni) (md : Modes) (pending : Bool) :
    update u md ((PasteItem.c0 8).event u pending) = [127] := by
  simp only [PasteItem.event, update, paste_event_not_release, if_false]
  rw [decodeKey_c0 u 8 (by decide) (by decide)]
  have e : c0Expected 8 = { keycode := 127 } := by decide
  rw [e]
  exact Lemmas.TermChord.enc_plain u _ _ _ (by simp) (.inl rfl) (by simp [maxRune]) (by simp [validRune, maxRune])

/-- A key *release* (kitty event type 3 — what a host started with
    `Options.ReportKeyboardEvents` receives after every press) handed to the terminal writes nothing: the
    xterm encoding has no releases, and writing the key would make the child see it pressed a second time
    (the repair of finding F313 in /repo; the code before it forwards every release like a press: `a` arrives
    as `aa`, Enter twice, …).
    Every other event type (press, repeat, paste) is encoded by `encodeXterm` with the child's keypad and
    cursor-key modes.  Every key, `unicode` oracle and mode state. -/
theorem release_not_forwarded (u : Uni) (md : Modes) (k : Key) :
    (k.event = EventRelease → update u md (.key k) = []) ∧
    (k.event ≠ EventRelease → update u md (.key k) = encodeXterm u k md.deckpam md.decckm) := by
  constructor <;> intro h <;> simp [update, h]

example : update asciiUni {} (.key { keycode := 97, event := EventRelease }) = [] ∧
    update asciiUni {} (.key { keycode := 97, event := EventRepeat }) = [97] := by decide

/-- Without SGR mode, an enabled press / release / motion event is written as
    `CSI M` followed by `%c` of button+32, 32+col+1 and 32+row+1 — whatever the event type (the release
    is not reported as button 3 and motion does not add 32), and as a multi-byte UTF-8 character from
    column / row 95 on.  The property's mouse round trip is stated "under SGR mouse mode" only; this says
    what the other branch does. -/
theorem mouse_legacy_total (u : Uni) (md : Modes) (m : Mouse)
    (hsgr : md.mouseSGR = false) (hen : enabledFor md m = true) :
    update u md (.mouse m) =
      [27, 91, 77] ++ strOfRune (m.button + 32) ++ strOfRune (32 + m.col + 1) ++ strOfRune (32 + m.row + 1) := by
  obtain ⟨pam, ckm, paste, b, d, mo, sgr, alt, smcup⟩ := md
  simp only at hsgr
  subst hsgr
  unfold enabledFor at hen
  by_cases h1 : m.event = EventPress ∨ m.event = EventRelease
  · have hne : m.event ≠ EventMotion := by rcases h1 with h | h <;> rw [h] <;> decide
    simp only [h1, if_true] at hen
    simp only [update, handleMouse, hne]
    cases b <;> cases d <;> cases mo <;> simp_all
  · by_cases h2 : m.event = EventMotion
    · simp only [h2, if_true] at hen
      simp only [update, handleMouse, h2, VaxisModel.Gen.Mouse.MouseNoButton]
      by_cases h3 : m.button = 3 <;> simp [h3] at hen ⊢ <;> cases b <;> cases d <;> cases mo <;> simp_all
    · simp [h1, h2] at hen

example : enabledFor { mouseButtons := true } { button := 0, col := 200, row := 3, event := EventRelease } = true := by decide

end VaxisModel.Props.C13Ext
