/-
C13 — the keypad (F413, /repo 77b235a): "the child's cursor-key and keypad modes select the encoding it
asked for", "keys … arrive intact" for the keys a host whose terminal speaks the kitty keyboard protocol receives
with key codes of their own (`KeyKeyPad0` … `KeyKeyPadBegin`).

xterm (ctlseqs, "PC-Style Function Keys" / VT220 keypad; `numLock` resource): in application keypad mode (DECKPAM)
an unmodified digit / operator / Enter key of the keypad sends `SS3` + a final byte — unless Num Lock is on, which
overrides the mode; in numeric mode (DECKPNM) the key sends what its legend says (the character, CR, the cursor /
editing key's report, the latter following DECCKM).  Nothing on the legacy wire distinguishes a numeric-mode keypad
key from the key it stands for, so the round-trip clause for it is the clause for that key (`keypadJudgedAs`).
Tables regenerated from widgets/term/key.go (`Gen/TermKeys.lean`).
-/
import VaxisModel.Props.C13

namespace VaxisModel.Props.C13Keypad
open VaxisModel.Model.Key VaxisModel.Model.TermKey
open VaxisModel.Spec.KeyEnc VaxisModel.Spec.TermInput VaxisModel.Gen.Keys VaxisModel.Gen.TermKeys
open VaxisModel.Lemmas.TermInput VaxisModel.Props.C13

/-- The regenerated application-mode table is xterm's (`SS3 p…y`, `n o j m k`, `M`, `X`, `l`): every row of the
    source is a row of the spec and every row of the spec is found by the look-up (order of the rows irrelevant). -/
theorem keypad_application_table_is_xterm :
    (∀ r ∈ keypadApplicationMode, r ∈ keypadChars.map fun e => (e.1, [27, 79, e.2.2.toNat])) ∧
    (∀ e ∈ keypadChars, lookup e.1 keypadApplicationMode = some [27, 79, e.2.2.toNat]) := by decide

/-- The regenerated numeric-mode table maps each keypad key to the key its legend names, and nothing else. -/
theorem keypad_numeric_table_is_legend :
    (∀ r ∈ keypadNumericMode, r ∈ (keypadChars.map fun e => (e.1, e.2.1)) ++ keypadNav) ∧
    (∀ e ∈ (keypadChars.map fun e => (e.1, e.2.1)) ++ keypadNav, lookup e.1 keypadNumericMode = some e.2) := by decide

theorem keypad_char_rows : ∀ e ∈ keypadChars,
    lookup e.1 keypadApplicationMode = some [27, 79, e.2.2.toNat] ∧ keypadLegend e.1 = e.2.1 ∧ e.2.1 < KeyKeyPad0 ∧
    0 ≤ e.2.2 ∧ ∀ md ∈ allModes, encodeTables e.2.1 0 md.1 md.2 [] = some [e.2.1] := by decide

theorem keypad_nav_rows : ∀ e ∈ keypadNav,
    lookup e.1 keypadApplicationMode = none ∧ keypadLegend e.1 = e.2 ∧ e.2 < KeyKeyPad0 ∧
    (keypadChars.find? (·.1 = e.1)) = none ∧
    ∀ md ∈ allModes, encodeTables e.2 0 md.1 md.2 [] = (xtermLegacy e.2 0 0 md.2).map renderSeq := by decide

/-- DECKPAM, a digit / operator / Enter key of the keypad, none of Shift / Alt / Ctrl /
    Num Lock: exactly `SS3` + xterm's final byte is written — whatever the event's text, codes, event type, the
    cursor-key mode and the `unicode` tables. -/
theorem keypad_application_mode (u : Uni) (k : Key) (ckm : Bool) (e : Int × Int × Int)
    (he : e ∈ keypadChars) (hk : k.keycode = e.1)
    (hm : k.mods &&& (shiftBit ||| altBit ||| ctrlBit ||| numBit) = 0) :
    encodeXterm u k true ckm = [27, 79, e.2.2] := by
  obtain ⟨h1, _, _, h0, _⟩ := keypad_char_rows e he
  unfold encodeXterm
  have hm' : k.mods &&& keypadMask = 0 := hm
  simp only [hm', hk, h1, and_self, reduceIte, bytesStr, List.map]
  have : ((e.2.2.toNat : Nat) : Int) = e.2.2 := Int.toNat_of_nonneg h0
  simp [this]

/-- Whenever application mode does not apply (`Spec.keypadApplication` = none: DECKPNM,
    or Num Lock, or a modifier held, or a navigation legend), a keypad key is encoded exactly as the key it stands
    for (`Spec.keypadStandsFor`): every event shape, both modes, every `unicode` table.  So every theorem about the
    ordinary keys (`key_roundtrip`, `cursor_mode_selects`, `plain_char_roundtrip`, `text_forwarded`, …) applies to
    the keypad key through its legend. -/
theorem keypad_is_its_legend (u : Uni) (k : Key) (pam ckm : Bool) (l : Int)
    (hl : keypadStandsFor k.keycode = some l) (happ : keypadApplication k pam = none) :
    encodeXterm u k pam ckm = encodeXterm u { k with keycode := l } pam ckm := by
  have key : keypadLegend k.keycode = l ∧ l < KeyKeyPad0 ∧
      (if pam = true ∧ k.mods &&& keypadMask = 0 then lookup k.keycode keypadApplicationMode else none) = none := by
    rcases keypad_cases k.keycode with ⟨ch, fin, he, _, hs, _, ha⟩ | ⟨_, nav, he, hs, _, _⟩ | ⟨_, hs, _⟩
    · obtain ⟨_, h2, h3, _, _⟩ := keypad_char_rows _ he
      obtain rfl : ch = l := by simpa [hs] using hl
      refine ⟨h2, h3, ?_⟩
      rw [ha k rfl pam] at happ
      have hmask : (shiftBit ||| altBit ||| ctrlBit ||| numBit) = keypadMask := by decide
      rw [hmask] at happ
      by_cases hc : pam = true ∧ k.mods &&& keypadMask = 0
      · simp [hc] at happ
      · simp [hc]
    · obtain ⟨h1, h2, h3, _, _⟩ := keypad_nav_rows _ he
      obtain rfl : nav = l := by simpa [hs] using hl
      exact ⟨h2, h3, by rw [h1]; simp⟩
    · rw [hs] at hl; cases hl
  obtain ⟨h1, h2, h3⟩ := key
  rw [encodeXterm_core_of_lt u { k with keycode := l } pam ckm h2]
  unfold encodeXterm
  simp only [h3, h1]

/-- An unmodified event: the table part decides. -/
theorem encodeXtermCore_plain (u : Uni) (k : Key) (pam ckm : Bool) (s : Str)
    (hm : xtermMods k = 0) (ht : encodeTables k.keycode 0 pam ckm k.text = some s) :
    encodeXtermCore u k pam ckm = s := by
  have hm7 : k.mods &&& 7 = 0 := hm
  unfold encodeXtermCore
  simp only [xm_eq, hm7, ht]

/-- The statement `Witness.F413.keypad_mode_selects_full`, false of the code before the fix,
    with xterm's Num Lock rule made explicit: an unmodified keypad key press without text, Num Lock off, is written
    as its xterm report for the child's keypad and cursor-key modes — `SS3` + final under DECKPAM, the character
    (Enter: CR) under DECKPNM, the cursor / editing key's report (SS3 or CSI by DECCKM) for the navigation legends. -/
theorem keypad_mode_selects (u : Uni) (k : Key) (pam ckm : Bool) (want : Str)
    (hdue : keypadDue k.keycode pam ckm = some want) (hm : xtermMods k = 0) (hnum : k.mods &&& numBit = 0)
    (ht : k.text = []) :
    encodeXterm u k pam ckm = want := by
  have hmask : k.mods &&& (shiftBit ||| altBit ||| ctrlBit ||| numBit) = 0 := by
    have hm7 : k.mods &&& 7 = 0 := hm
    have h128 : k.mods &&& 128 = 0 := hnum
    have e : (shiftBit ||| altBit ||| ctrlBit ||| numBit) = 7 ||| 128 := by decide
    rw [e, Nat.and_or_distrib_left, hm7, h128]; rfl
  rcases keypad_cases k.keycode with ⟨ch, fin, he, _, hs, hd, ha⟩ | ⟨_, nav, he, hs, hd, ha⟩ | ⟨_, _, hd, _⟩
  · rw [hd, Option.some.injEq] at hdue
    obtain ⟨_, _, h3, _, h5⟩ := keypad_char_rows _ he
    cases pam with
    | true =>
      simp only [reduceIte] at hdue
      rw [← hdue]
      exact keypad_application_mode u k ckm _ he rfl hmask
    | false =>
      simp only [Bool.false_eq_true, reduceIte] at hdue
      rw [← hdue, keypad_is_its_legend u k false ckm ch hs (by rw [ha k rfl]; simp), encodeXterm_core_of_lt _ _ _ _ h3]
      exact encodeXtermCore_plain u _ false ckm _ hm (by simpa [ht] using h5 _ (allModes_all false ckm))
  · rw [hd] at hdue
    obtain ⟨_, _, h3, _, h5⟩ := keypad_nav_rows _ he
    rw [keypad_is_its_legend u k pam ckm nav hs (ha k rfl pam), encodeXterm_core_of_lt _ _ _ _ h3]
    refine encodeXtermCore_plain u _ pam ckm _ hm ?_
    have := h5 _ (allModes_all pam ckm)
    simp only [ht, this, hdue]
  · rw [hd] at hdue; cases hdue

def keypadKeys : List Int := (List.range 29).map fun (i : Nat) => KeyKeyPad0 + Int.ofNat i

/-- Event shapes of a keypad key with modifier mask `m`: bare, with the legend's character as text (what a host
    with the "associated text" flag delivers under Num Lock), a repeat with Caps Lock and a base-layout code. -/
def kpVariants (kc : Int) (m : Nat) : List Key :=
  let t : Str := match keypadChars.find? (·.1 = kc) with | some e => if e.2.1 = 13 then [] else [e.2.1] | none => []
  [ { keycode := kc, mods := m }, { keycode := kc, mods := m, text := t },
    { keycode := kc, mods := m + 64, base := 97, event := 1 } ]

/-- 29 keypad keys × 8 Shift/Alt/Ctrl sets × Num Lock off/on × 3 shapes. -/
def keypadDomain : List Key :=
  keypadKeys.flatMap fun kc => (List.range 8).flatMap fun m => kpVariants kc m ++ kpVariants kc (m + 128)

/-- The keypad clause for one event and one mode combination (`Spec.keypadJudgedAs`): application mode → exactly
    the `SS3` code; otherwise the bytes are those of the event of the key the keypad key stands for, and that event
    passes the ordinary round-trip check (`roundtripOK`: xterm's report of the chord, decoded by Vaxis, matches key
    and modifiers).  `KeyKeyPadBegin`: `CSI E` / `SS3 E` by DECCKM / `CSI 1;m E`, decoded back to Begin + modifiers
    (`SS3 E` is read back by Vaxis's decoder since the SS3 arm of `decodeKey` has the `E` case, F513). -/
def keypadOK (u : Uni) (k : Key) (pam ckm : Bool) : Bool :=
  match keypadJudgedAs k pam with
  | some (.inl b) => encodeXterm u k pam ckm == b
  | some (.inr k') => encodeXterm u k pam ckm == encodeXterm u k' pam ckm && roundtripOK u k' pam ckm
  | none =>
    if k.keycode = KeyKeyPadBegin then
      match keypadBeginLegacy (xtermMods k) ckm with
      | some s => encodeXterm u k pam ckm == renderSeq s && decide (keyArrives u k (decodeKey u s))
      | none => false
    else false

section Chord
open VaxisModel.Lemmas.TermChord VaxisModel.Lemmas.KeyCongr

theorem begin_rows : KeyKeyPadBegin ∈ specialKeysD ∧ ¬ KeyKeyPadBegin < maxRune ∧
    ∀ m : Fin 8, ∀ ckm : Bool, keypadBeginLegacy m.val ckm = xtermLegacy KeyKeyPadBegin m.val 0 ckm ∧
      xtermLegacy KeyKeyPadBegin m.val 0 ckm ≠ none := by decide

theorem keypadKeys_rows : ∀ kc ∈ keypadKeys, (keypadStandsFor kc).isSome ∨ kc = KeyKeyPadBegin := by decide

/-- The keypad clause for every event of a keypad key whose legend event is a chord: the
    application-mode code by `keypad_application_mode`; otherwise the bytes of the legend key by `keypad_is_its_legend`
    and that key's round trip by `chord_roundtrip`; Begin is one of the special keys. -/
theorem keypad_chord (u : Uni) (H : AgreeOnKeys u) (k : Key) (pam ckm : Bool) (hk : k.keycode ∈ keypadKeys)
    (hch : ∀ l, keypadStandsFor k.keycode = some l →
      textIsChord u { k with keycode := l } = true ∧ ShiftIsUpper u { k with keycode := l }) :
    keypadOK u k pam ckm = true := by
  unfold keypadOK keypadJudgedAs
  cases happ : keypadApplication k pam with
  | some b =>
    simp only [beq_iff_eq]
    rcases keypad_cases k.keycode with ⟨_, _, he, _, _, _, ha⟩ | ⟨_, _, _, _, _, ha⟩ | ⟨_, _, _, ha⟩ <;>
      rw [ha k rfl pam] at happ
    · split at happ
      · rename_i hc
        rw [hc.1, ← Option.some.inj happ]
        exact keypad_application_mode u k ckm _ he rfl hc.2
      · cases happ
    · cases happ
    · cases happ
  | none =>
    cases hl : keypadStandsFor k.keycode with
    | some l =>
      obtain ⟨h1, h2⟩ := hch l hl
      simp only [Option.map_some, Bool.and_eq_true, beq_iff_eq]
      exact ⟨keypad_is_its_legend u k pam ckm l hl happ, chord_roundtrip u H _ pam ckm h1 h2⟩
    | none =>
      obtain ⟨hb, hnlt, hrow⟩ := begin_rows
      have hkb : k.keycode = KeyKeyPadBegin := (keypadKeys_rows _ hk).resolve_left (by simp [hl])
      obtain ⟨hrow, hsome⟩ := hrow ⟨xtermMods k, xtermMods_lt k⟩ ckm
      simp only [Option.map_none, hkb, if_true]
      rw [hrow]
      cases hd : xtermLegacy KeyKeyPadBegin (xtermMods k) 0 ckm with
      | none => exact absurd hd hsome
      | some s =>
        have := special_chord_roundtrip u H k pam ckm s (hkb ▸ hb)
          (by rw [xtermLegacy_nonchar _ _ _ _ (by rw [hkb]; decide), hkb]; exact hd)
          (fun h => absurd (hkb ▸ h) hnlt)
        simp only [this.1, this.2, beq_self_eq_true, decide_true, Bool.and_self]

theorem keypadChars_rows : ∀ e ∈ keypadChars, 0 ≤ e.2.1 ∧ e.2.1 < 97 := by decide

theorem kpVariants_chords (u : Uni) (H : AgreeOnKeys u) (kc : Int) (M : Nat) (l : Int)
    (hl : keypadStandsFor kc = some l) :
    ∀ k ∈ kpVariants kc M, textIsChord u { k with keycode := l } = true ∧ ShiftIsUpper u { k with keycode := l } := by
  have bare : ∀ (m : Nat) (b e : Int), textIsChord u { keycode := l, mods := m, base := b, event := e } = true ∧
      ShiftIsUpper u { keycode := l, mods := m, base := b, event := e } := by
    intro m b e
    refine ⟨by simp [textIsChord], fun _ => ?_⟩
    simp only [shiftedOf]
    cases u.isLower l <;> simp
  intro k hk
  simp only [kpVariants, List.mem_cons, List.not_mem_nil, or_false] at hk
  rcases hk with rfl | rfl | rfl
  · exact bare _ _ _
  · rcases keypad_cases kc with ⟨ch, fin, he, hf, hs, _⟩ | ⟨hf, _⟩ | ⟨hf, _⟩ <;> simp only [hf]
    · obtain rfl : ch = l := by simpa [hs] using hl
      obtain ⟨h0, h97⟩ : 0 ≤ ch ∧ ch < 97 := keypadChars_rows _ he
      by_cases h13 : ch = 13
      · simp only [h13, if_true]; rw [← h13]; exact bare _ _ _
      · have hup : u.toUpper ch = ch := by
          rw [(ascii_case u H ch ⟨by omega, by omega⟩).2.2.1]; simp; omega
        simp only [h13, if_false]
        refine ⟨by simp [textIsChord, producedChar, shiftedOf], fun _ => .inr ?_⟩
        simp [shiftedOf, hup]
    · exact bare _ _ _
    · exact bare _ _ _
  · exact bare _ _ _

theorem kpVariants_keycode (kc : Int) (M : Nat) : ∀ k ∈ kpVariants kc M, k.keycode = kc := by
  intro k hk
  simp only [kpVariants, List.mem_cons, List.not_mem_nil, or_false] at hk
  rcases hk with rfl | rfl | rfl <;> rfl

theorem keypadDomain_chords (u : Uni) (H : AgreeOnKeys u) : ∀ k ∈ keypadDomain, k.keycode ∈ keypadKeys ∧
    ∀ l, keypadStandsFor k.keycode = some l →
      textIsChord u { k with keycode := l } = true ∧ ShiftIsUpper u { k with keycode := l } := by
  intro k hk
  simp only [keypadDomain, List.mem_flatMap, List.mem_range, List.mem_append] at hk
  obtain ⟨kc, hkc, m, _, hv⟩ := hk
  obtain ⟨M, hv⟩ : ∃ M, k ∈ kpVariants kc M := hv.elim (fun h => ⟨_, h⟩) (fun h => ⟨_, h⟩)
  have hkk := kpVariants_keycode kc M k hv
  exact ⟨hkk ▸ hkc, fun l hl => kpVariants_chords u H kc M l (hkk ▸ hl) k hv⟩

end Chord

/-- Every keypad key × every combination of Shift/Alt/Ctrl × Num Lock × event shapes × all
    four (keypad, cursor-key) modes satisfies the keypad clause: an instance of `keypad_chord`. -/
theorem keypad_roundtrip :
    (keypadDomain.all fun k => allModes.all fun md => keypadOK asciiUni k md.1 md.2) = true := by
  simp only [List.all_eq_true]
  intro k hk md _
  obtain ⟨hkc, hch⟩ := keypadDomain_chords asciiUni Lemmas.TermChord.agree_ascii k hk
  exact keypad_chord asciiUni Lemmas.TermChord.agree_ascii k md.1 md.2 hkc hch

section Count
open VaxisModel.Lemmas.TermChord

theorem kp_mods_rows : ∀ m : Fin 8, ∀ M ∈ [m.val, m.val + 128],
    (M + 64) &&& (shiftBit ||| altBit ||| ctrlBit ||| numBit) = M &&& (shiftBit ||| altBit ||| ctrlBit ||| numBit) ∧
    (M + 64) &&& 7 = m.val ∧ M &&& 7 = m.val := by decide

theorem legend_rows : ∀ kc ∈ keypadKeys, ∀ l, keypadStandsFor kc = some l → ¬(97 ≤ l ∧ l ≤ 122) := by decide

/-- The three shapes of a keypad event are judged alike: the legend is no letter, so whether its chord has a report
    does not depend on the shifted character. -/
theorem kpVariants_judged (kc : Int) (hkc : kc ∈ keypadKeys) (m : Fin 8) (M : Nat) (hM : M ∈ [m.val, m.val + 128]) :
    ∀ k ∈ kpVariants kc M,
      (keypadApplication k true).isSome = (keypadApplication { keycode := kc, mods := M } true).isSome ∧
      (match keypadJudgedAs k false with | some (.inr k') => XtermDomain asciiUni k' | _ => false) =
        (match keypadStandsFor kc with | some l => (xtermLegacy l m.val 0 false).isSome | none => false) := by
  obtain ⟨e1, e2, e3⟩ := kp_mods_rows m M hM
  intro k hk
  have hkk := kpVariants_keycode kc M k hk
  have happ : keypadApplication k false = none := by simp [keypadApplication]
  have shapes := hk
  simp only [kpVariants, List.mem_cons, List.not_mem_nil, or_false] at shapes
  refine ⟨by rcases shapes with rfl | rfl | rfl <;> simp only [keypadApplication, e1], ?_⟩
  cases hl : keypadStandsFor kc with
  | none => simp [keypadJudgedAs, happ, hkk, hl]
  | some l =>
    obtain ⟨hch, _⟩ := kpVariants_chords asciiUni agree_ascii kc M l hl k hk
    have hx : xtermMods { k with keycode := l } = m.val := by
      rcases shapes with rfl | rfl | rfl <;> first | exact e3 | exact e2
    have hlen : k.text.length ≤ 1 := by
      rcases shapes with rfl | rfl | rfl <;> simp only [List.length_nil, Nat.zero_le]
      split <;> (try split) <;> simp
    simp only [keypadJudgedAs, happ, hkk, hl, Option.map_some, XtermDomain, hch, Bool.and_true]
    rw [hx, xtermLegacy_shifted l m.val _ 0 false (fun h => legend_rows kc hkc l hl h.2)]
    simp [hlen]

end Count

/-- Non-vacuity: 1392 events; application mode applies to 54 of them under DECKPAM, and 654 of the legend events (DECKPNM)
    are chords the legacy protocol expresses — three shapes each of 18 and of 218 (key, modifier) pairs (`kpVariants_judged`). -/
theorem keypad_roundtrip_domain_size :
    keypadDomain.length = 1392 ∧
    (keypadDomain.filter fun k => (keypadApplication k true).isSome).length = 54 ∧
    (keypadDomain.filter fun k => match keypadJudgedAs k false with
      | some (.inr k') => XtermDomain asciiUni k' | _ => false).length = 654 := by
  have hlen : ∀ kc M, (kpVariants kc M).length = 3 := fun _ _ => rfl
  have count (p : Key → Bool) (q : Int → Nat → Nat → Bool)
      (h : ∀ kc ∈ keypadKeys, ∀ m : Fin 8, ∀ M ∈ [m.val, m.val + 128], ∀ k ∈ kpVariants kc M, p k = q kc m.val M) :
      (keypadDomain.filter p).length = (keypadKeys.map fun kc => ((List.range 8).map fun m =>
        (if q kc m m then 3 else 0) + (if q kc m (m + 128) then 3 else 0)).sum).sum := by
    rw [← List.countP_eq_length_filter]
    exact Lemmas.ListBasic.countP_flatMap_eq _ _ _ _ fun kc hkc => Lemmas.ListBasic.countP_flatMap_eq _ _ _ _ fun m hm => by
      have hm := List.mem_range.mp hm
      rw [List.countP_append,
        Lemmas.ListBasic.countP_of_const _ _ _ (h kc hkc ⟨m, hm⟩ m (by simp)),
        Lemmas.ListBasic.countP_of_const _ _ _ (h kc hkc ⟨m, hm⟩ (m + 128) (by simp)), hlen, hlen]
  refine ⟨?_, ?_, ?_⟩
  · unfold keypadDomain
    simp only [List.length_flatMap, List.length_append, hlen]
    decide +kernel
  · rw [count _ (fun kc _ M => (keypadApplication { keycode := kc, mods := M } true).isSome)
      fun kc hkc m M hM k hk => (kpVariants_judged kc hkc m M hM k hk).1]
    decide +kernel
  · rw [count _ (fun kc m _ => match keypadStandsFor kc with | some l => (xtermLegacy l m 0 false).isSome | none => false)
      fun kc hkc m M hM k hk => (kpVariants_judged kc hkc m M hM k hk).2]
    decide +kernel

/-- The keypad mode really selects: the same key press is written differently under DECKPAM and DECKPNM. -/
example : encodeXterm asciiUni { keycode := KeyKeyPad5 } true false = [27, 79, 117] ∧
    encodeXterm asciiUni { keycode := KeyKeyPad5 } false false = [53] ∧
    encodeXterm asciiUni { keycode := KeyKeyPad5, mods := 128, text := [53] } true false = [53] ∧
    encodeXterm asciiUni { keycode := KeyKeyPadEnter } false false = [13] ∧
    encodeXterm asciiUni { keycode := KeyKeyPadLeft, mods := 1 } true true = [27, 91, 49, 59, 50, 68] := by decide +kernel

end VaxisModel.Props.C13Keypad
