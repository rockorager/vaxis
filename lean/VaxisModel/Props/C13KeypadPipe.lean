/-
C13 — the keypad clause composed with (a) the parser model of C02 (the bytes written for a keypad key parse back to
exactly the one sequence of xterm's report) and (b) the emulator model of C05 (the keypad and cursor-key modes are
the ones the child's own output stream last selected).
-/
import VaxisModel.Props.C13Keypad
import VaxisModel.Props.C13Parse
import VaxisModel.Props.C13Child

namespace VaxisModel.Props.C13KeypadPipe
open VaxisModel.Model.Key VaxisModel.Model.TermKey VaxisModel.Model.TermMouse
open VaxisModel.Spec VaxisModel.Spec.KeyEnc VaxisModel.Spec.TermInput VaxisModel.Gen.Keys
open VaxisModel.Props.C13 VaxisModel.Props.C13Parse VaxisModel.Props.C13Keypad
open VaxisModel.Model.Emu VaxisModel.Model.TermChild

/-- The 18 application-mode reports (`SS3 p` … `SS3 y`, `n o j m k M X l`),
    as bytes, are parsed by the parser model from the ground state into exactly one `SS3` item with that final. -/
theorem keypad_application_reports_parse_back :
    (keypadChars.all fun e => parsesBack (.ss3 e.2.2)) = true := by decide +kernel

/-- `CSI E`, `SS3 E` and `CSI 1 ; m E` (7 modifier sets) parse back. -/
theorem keypad_begin_reports_parse_back :
    ((List.range 8).all fun m => [false, true].all fun ckm =>
      match keypadBeginLegacy m ckm with | some s => parsesBack s | none => false) = true := by
  simp only [List.all_eq_true, List.mem_range]
  intro m hm ckm _
  have h8 : ¬ m ≥ 8 := by omega
  by_cases h0 : m = 0
  · subst h0
    cases ckm
    · exact csi_parses_back [] 69 (by intro p hp; cases hp) (by decide)
    · exact ss3_parses_back 69 (by decide) (by decide)
  · simp only [keypadBeginLegacy, h8, h0, if_false]
    exact csi2_parses_back 1 m 69 (by decide) (by omega) (by decide)

/-- Bytes level, application mode: every digit / operator / Enter key of the keypad, DECKPAM, no
    Shift / Alt / Ctrl / Num Lock, either cursor-key mode: `encodeXterm`'s bytes → parser model → exactly one item,
    the `SS3` with xterm's final byte. -/
theorem keypad_pipeline :
    (keypadChars.all fun e => [false, true].all fun ckm =>
      (prun pinit (natsOf (encodeXterm asciiUni { keycode := e.1 } true ckm))).2 == [.ss3 e.2.2.toNat]) = true := by
  decide +kernel

/-- The property's sentence as one statement over the whole key domain
    (`C13.domainKeys`: 27 special keys + 95 printable ASCII keys × 8 Shift/Alt/Ctrl sets × 5 event shapes) × 4 (keypad,
    cursor-key) modes: whenever the xterm legacy protocol expresses the chord, the BYTES `encodeXterm` writes are parsed by
    the parser model (C02, ground state) into exactly the one sequence of xterm's report, and `decodeKey` of that sequence
    matches the original key and modifiers.  (The lone `ESC` of the Escape key is delivered by the escape time-out, C08.) -/
theorem key_pipeline :
    (domainKeys.all fun k => allModes.all fun md =>
      match xtermLegacy k.keycode (xtermMods k) (shiftedOf asciiUni k) md.2 with
      | none => true
      | some s =>
        (s == .c0 27) ||
        ((prun pinit (natsOf (encodeXterm asciiUni k md.1 md.2))).2 == itemsOf s &&
         decide (keyArrives asciiUni k (decodeKey asciiUni s)))) = true := by
  have h := key_roundtrip
  simp only [List.all_eq_true] at h ⊢
  exact fun k hk md hmd => pipeline_of_roundtrip asciiUni k md.1 md.2 (h k hk md hmd)

theorem keypadStandsFor_ne_esc (kc l : Int) (h : keypadStandsFor kc = some l) : l ≠ KeyEsc := by
  have hc : ∀ e ∈ keypadChars, e.2.1 ≠ KeyEsc := by decide
  have hn : ∀ e ∈ keypadNav, e.2 ≠ KeyEsc := by decide
  rcases Lemmas.TermInput.keypad_cases kc with ⟨ch, fin, hm, -, hs, -⟩ | ⟨-, nav, hm, hs, -⟩ | ⟨-, hs, -⟩
  · exact Option.some.inj (hs ▸ h) ▸ hc _ hm
  · exact Option.some.inj (hs ▸ h) ▸ hn _ hm
  · rw [hs] at h; cases h

/-- Bytes level from the sequence level for the keypad clause: an event that satisfies `keypadOK` also satisfies it with
    the parser model between the bytes and the report (the application-mode codes, the reports of the key the keypad
    key stands for and those of Begin all parse back). -/
theorem keypad_pipeline_of_ok (u : Uni) (k : Key) (pam ckm : Bool) (h : keypadOK u k pam ckm = true) :
    (match keypadJudgedAs k pam with
      | some (.inl b) => (prun pinit (natsOf (encodeXterm u k pam ckm))).2 == [.ss3 (b.getD 2 0).toNat]
      | some (.inr k') =>
        (match xtermLegacy k'.keycode (xtermMods k') (shiftedOf u k') ckm with
         | none => true
         | some s =>
           (prun pinit (natsOf (encodeXterm u k pam ckm))).2 == itemsOf s &&
           decide (keyArrives u k' (decodeKey u s)))
      | none =>
        (match keypadBeginLegacy (xtermMods k) ckm with
         | none => decide (k.keycode ≠ KeyKeyPadBegin)
         | some s =>
           decide (k.keycode ≠ KeyKeyPadBegin) ||
           ((prun pinit (natsOf (encodeXterm u k pam ckm))).2 == itemsOf s &&
            decide (keyArrives u k (decodeKey u s))))) = true := by
  unfold keypadOK at h
  unfold keypadJudgedAs at h ⊢
  cases ha : keypadApplication k pam with
  | some b =>
    simp only [ha, beq_iff_eq] at h ⊢
    unfold keypadApplication at ha
    split at ha
    · cases hf : keypadChars.find? (·.1 = k.keycode) with
      | none => simp [hf] at ha
      | some e =>
        simp only [hf, Option.map_some, Option.some.injEq] at ha
        have hp := List.all_eq_true.mp keypad_application_reports_parse_back e (List.mem_of_find?_eq_some hf)
        rw [h, ← ha]
        exact beq_iff_eq.mp hp
    · cases ha
  | none =>
    cases hl : keypadStandsFor k.keycode with
    | some l =>
      simp only [ha, hl, Option.map_some, Bool.and_eq_true, beq_iff_eq] at h ⊢
      obtain ⟨he, hr⟩ := h
      unfold roundtripOK at hr
      cases hx : xtermLegacy l (xtermMods { k with keycode := l }) (shiftedOf u { k with keycode := l }) ckm with
      | none => rfl
      | some s =>
        simp only [hx, Bool.and_eq_true, decide_eq_true_eq] at hr ⊢
        rcases legacy_report_parses_back _ _ _ _ _ hx with ⟨hesc, _⟩ | hp
        · exact absurd hesc (keypadStandsFor_ne_esc _ _ hl)
        · rw [he, hr.1]
          exact ⟨hp, hr.2⟩
    | none =>
      simp only [ha, hl, Option.map_none] at h ⊢
      split at h
      · cases hs : keypadBeginLegacy (xtermMods k) ckm with
        | none => simp [hs] at h
        | some s =>
          simp only [hs, Bool.and_eq_true, beq_iff_eq, decide_eq_true_eq] at h
          have hm : xtermMods k ∈ List.range 8 := List.mem_range.mpr (Nat.lt_succ_of_le Nat.and_le_right)
          have hc : ckm ∈ [false, true] := by cases ckm <;> simp
          have hp := List.all_eq_true.mp (List.all_eq_true.mp keypad_begin_reports_parse_back _ hm) _ hc
          simp only [hs] at hp
          simp only [h.1, h.2, decide_true, Bool.and_true, Bool.or_eq_true]
          exact .inr hp
      · cases h

/-- `key_pipeline` for the keypad domain (`C13Keypad.keypadDomain`, 1392 events × 4 modes): in
    application mode the bytes parse to exactly one `SS3` item with xterm's final; otherwise, when the legacy protocol
    expresses the chord of the key the keypad key stands for, the bytes parse to exactly that report and it decodes to an
    event matching that key and the modifiers; Begin likewise with its own reports. -/
theorem keypad_key_pipeline :
    (keypadDomain.all fun k => allModes.all fun md =>
      match keypadJudgedAs k md.1 with
      | some (.inl b) => (prun pinit (natsOf (encodeXterm asciiUni k md.1 md.2))).2 == [.ss3 (b.getD 2 0).toNat]
      | some (.inr k') =>
        (match xtermLegacy k'.keycode (xtermMods k') (shiftedOf asciiUni k') md.2 with
         | none => true
         | some s =>
           (prun pinit (natsOf (encodeXterm asciiUni k md.1 md.2))).2 == itemsOf s &&
           decide (keyArrives asciiUni k' (decodeKey asciiUni s)))
      | none =>
        (match keypadBeginLegacy (xtermMods k) md.2 with
         | none => decide (k.keycode ≠ KeyKeyPadBegin)
         | some s =>
           decide (k.keycode ≠ KeyKeyPadBegin) ||
           ((prun pinit (natsOf (encodeXterm asciiUni k md.1 md.2))).2 == itemsOf s &&
            decide (keyArrives asciiUni k (decodeKey asciiUni s))))) = true := by
  have h := keypad_roundtrip
  simp only [List.all_eq_true] at h ⊢
  exact fun k hk md hmd => keypad_pipeline_of_ok asciiUni k md.1 md.2 (h k hk md hmd)

/-- "The child's … keypad modes select the encoding it asked for", with the modes read
    off the child's own output: after ANY stream (from any emulator state) an unmodified keypad key press without text,
    Num Lock off, is written as `Spec.keypadDue` says for the keypad mode the stream last selected (`ESC =` not followed
    by `ESC >` or RIS) and, for the navigation legends, the cursor-key mode it last selected. -/
theorem keypad_follows_child_stream (u : Uni) {e0 e : Emu} {ops : List EOp} (h : runOps e0 ops = .ok e)
    (k : Key) (want : Str) (hev : k.event ≠ EventRelease)
    (hm : xtermMods k = 0) (hnum : k.mods &&& numBit = 0) (ht : k.text = [])
    (hdue : keypadDue k.keycode (specModesFrom (inputModes e0.mode) (ops.map seqOf)).deckpam
              (specModesFrom (inputModes e0.mode) (ops.map seqOf)).decckm = some want) :
    update u (inputModes e.mode) (.key k) = want := by
  rw [VaxisModel.Props.C13Child.child_stream_selects_modes h]
  simp only [update, hev, if_false]
  exact keypad_mode_selects u k _ _ want hdue hm hnum ht

/-- Non-vacuity: `ESC =` then keypad 5 → `SS3 u`; `ESC = ESC >` → `5`; `ESC = ESC c` → `5`. -/
example : keypadDue KeyKeyPad5 (specModesFrom {} [.esc [61]]).deckpam (specModesFrom {} [.esc [61]]).decckm = some [27, 79, 117] ∧
    keypadDue KeyKeyPad5 (specModesFrom {} [.esc [61], .esc [62]]).deckpam (specModesFrom {} [.esc [61], .esc [62]]).decckm = some [53] ∧
    keypadDue KeyKeyPad5 (specModesFrom {} [.esc [61], .esc [99]]).deckpam (specModesFrom {} [.esc [61], .esc [99]]).decckm = some [53] := by
  decide +kernel

end VaxisModel.Props.C13KeypadPipe
