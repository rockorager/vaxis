/-
C13 — `key_pipeline` (bytes of `encodeXterm` → parser model → one sequence → `decodeKey` matches) for EVERY `unicode`
oracle that agrees with Go on ASCII and on the key codes (`AgreeOnKeys`): `key_roundtrip_any_uni` with the parser
model in between (`C13Parse.pipeline_of_roundtrip`).
-/
import VaxisModel.Props.C13KeypadPipe
import VaxisModel.Props.C13Uni

namespace VaxisModel.Props.C13PipeUni
open VaxisModel.Model.Key VaxisModel.Model.TermKey
open VaxisModel.Spec VaxisModel.Spec.KeyEnc VaxisModel.Spec.TermInput VaxisModel.Gen.Keys
open VaxisModel.Props.C13 VaxisModel.Props.C13Parse VaxisModel.Props.C13Uni VaxisModel.Lemmas.KeyCongr

/-- The body of `key_pipeline` for one event and one mode pair. -/
def pipeOK (u : Uni) (k : Key) (pam ckm : Bool) : Bool :=
  match xtermLegacy k.keycode (xtermMods k) (shiftedOf u k) ckm with
  | none => true
  | some s =>
    (s == .c0 27) ||
    ((prun pinit (natsOf (encodeXterm u k pam ckm))).2 == itemsOf s &&
     decide (keyArrives u k (decodeKey u s)))

/-- For every oracle agreeing with Go on ASCII and the key codes: every event of the key
    domain × 4 modes — when the legacy protocol expresses the chord, the bytes `encodeXterm` writes parse (parser model,
    ground state) to exactly the one sequence of xterm's report and `decodeKey` of it matches key and modifiers. -/
theorem key_pipeline_any_uni (u : Uni) (H : AgreeOnKeys u) :
    (domainKeys.all fun k => allModes.all fun md => pipeOK u k md.1 md.2) = true := by
  have h := key_roundtrip_any_uni u H
  simp only [List.all_eq_true] at h ⊢
  exact fun k hk md hmd => pipeline_of_roundtrip u k md.1 md.2 (h k hk md hmd)

end VaxisModel.Props.C13PipeUni
