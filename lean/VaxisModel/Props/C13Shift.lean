/-
C13 — shifted-code chords.  Shift (optionally Alt) on an ASCII character key whose event reports
the character Shift produces: the widget writes the xterm legacy report of the chord — (ESC +) that
character — and Vaxis's own pipeline reads it back as an event matching the binding
(produced character, modifiers without Shift), which is the binding the original event matches
(`Key.Matches` rule 3).  See `Spec.TermInput.shiftedLegacy` for what is (not) expressible and why.
-/
import VaxisModel.Model.TermKey
import VaxisModel.Spec.TermInput
import VaxisModel.Lemmas.TermChord

namespace VaxisModel.Props.C13Shift
open VaxisModel.Model.Key VaxisModel.Model.TermKey
open VaxisModel.Spec.KeyEnc VaxisModel.Spec.TermInput VaxisModel.Gen.Keys VaxisModel.Gen.TermKeys
open VaxisModel.Lemmas.TermInput VaxisModel.Lemmas.KeyDecode

/-- The original event itself matches the binding (produced character, modifiers without Shift):
    rule 3 of `Key.Matches`. So that binding is the chord's identity under both encodings. -/
theorem shifted_binding_matches_original (u : Uni) (k : Key) (hl : stripLocks k.mods = xtermMods k) :
    matchSpec u k k.shifted (unshift (xtermMods k)) := by
  unfold matchSpec
  refine Or.inr (Or.inr (Or.inl ⟨rfl, ?_⟩))
  rw [hl]
  have h7 : xtermMods k = k.mods &&& 7 := rfl
  have hlt : k.mods &&& 7 < 8 := Nat.lt_of_le_of_lt Nat.and_le_right (by decide)
  have key : ∀ x : Fin 8, stripLocks (unshift x.val) = unshift x.val := by decide
  rw [h7]
  exact key ⟨k.mods &&& 7, hlt⟩

/-- For every `unicode` table, every event in the shifted-code domain
    (`shiftedLegacy k = some s`: Shift, optionally Alt, no Ctrl, an ASCII character key, a reported
    printable-ASCII shifted code that — with Alt — does not start an escape sequence; text empty, the
    produced character, or anything when Alt is held), every other field of the event (kitty-only
    modifiers, base-layout code, event type) and all four key modes: the widget writes exactly the xterm
    legacy report `s` = (ESC +) the produced character, and `s` decoded by Vaxis matches the binding
    (produced character, modifiers without Shift). -/
theorem shifted_code_roundtrip (u : Uni) (k : Key) (pam ckm : Bool) (s : Seq)
    (hd : shiftedLegacy k = some s)
    (ht : k.text = [] ∨ k.text = [k.shifted] ∨ xtermMods k &&& altBit ≠ 0) :
    encodeXterm u k pam ckm = renderSeq s ∧ shiftedArrives u k (decodeKey u s) := by
  have h7 : xtermMods k = k.mods &&& 7 := rfl
  unfold shiftedLegacy at hd
  simp only [h7] at hd ht
  -- the xterm modifiers are Shift or Shift|Alt
  have hcases : k.mods &&& 7 = 1 ∨ k.mods &&& 7 = 3 ∨ ¬(k.mods &&& 7 = 1 ∨ k.mods &&& 7 = 3) := by omega
  have hlt : k.mods &&& 7 < 8 := Nat.lt_of_le_of_lt Nat.and_le_right (by decide)
  rcases hcases with hm7 | hm7 | hm7
  · -- Shift
    obtain ⟨hs1, ha, hc⟩ := Lemmas.TermChord.xm_bits hm7
    simp only [hm7, shiftBit, ctrlBit, altBit] at hd ht
    by_cases hk : 32 ≤ k.keycode ∧ k.keycode < 127
    · by_cases hs : 32 < k.shifted ∧ k.shifted < 127
      · simp [hk, hs] at hd
        subst hd
        have htab : k.keycode ≠ KeyTab := by have : KeyTab = 9 := rfl; omega
        have hmax : k.keycode < maxRune := by have : maxRune = 1114111 := rfl; omega
        have hv := Lemmas.TermChord.validRune_small k.shifted (by omega) (by omega)
        have hpos : k.shifted > 0 := by omega
        constructor
        · rw [Lemmas.TermChord.encodeXterm_char u k pam ckm hmax (.inl htab)]
          rcases ht with ht | ht | ht
          · simp [hm7, hs1, ha, hc, ht, hpos, strOfRune, hv, renderSeq]
          · simp [hm7, ha, hc, ht, renderSeq]
          · exact absurd rfl ht
        · unfold shiftedArrives
          rw [h7, hm7, decodeKey_eq]
          by_cases hu : u.isUpper k.shifted = true
          · -- decoded as Shift + the lower-case letter with the shifted code: rule 3
            have : (decodeRaw u (.print [k.shifted])).shifted = k.shifted ∧ (decodeRaw u (.print [k.shifted])).mods = ModShift := by
              simp only [decodeRaw, List.headD_cons, hu, reduceIte]; split <;> exact ⟨rfl, rfl⟩
            unfold matchSpec shiftFix
            split <;> exact Or.inr (Or.inr (Or.inl ⟨this.1, by rw [this.2]; decide⟩))
          · have e : decodeRaw u (.print [k.shifted]) = { keycode := k.shifted, text := [k.shifted] } := by
              have h127 : k.shifted ≠ KeyBackspace := by have : KeyBackspace = 127 := rfl; omega
              simp [decodeRaw, hu, h127]
            rw [e, shiftFix_id _ _ (Or.inl (by simp))]
            unfold matchSpec
            exact Or.inl ⟨rfl, (by decide : stripLocks (unshift 1) = stripLocks 0)⟩
      · simp [hk, hs] at hd
    · simp [hk] at hd
  · -- Shift + Alt
    obtain ⟨hs1, ha, hc⟩ := Lemmas.TermChord.xm_bits hm7
    simp only [hm7, shiftBit, ctrlBit, altBit] at hd
    by_cases hk : 32 ≤ k.keycode ∧ k.keycode < 127
    · by_cases hs : 32 < k.shifted ∧ k.shifted < 127
      · by_cases hx : k.shifted < 48 ∨ k.shifted = 79 ∨ k.shifted = 80 ∨ k.shifted = 91 ∨ k.shifted = 93 ∨ k.shifted = 88 ∨ k.shifted = 94 ∨ k.shifted = 95 ∨ k.shifted = 92
        · simp [hk, hs, hx] at hd
        · simp [hk, hs, hx] at hd
          subst hd
          have htab : k.keycode ≠ KeyTab := by have : KeyTab = 9 := rfl; omega
          have hmax : k.keycode < maxRune := by have : maxRune = 1114111 := rfl; omega
          have hv := Lemmas.TermChord.validRune_small k.shifted (by omega) (by omega)
          have hpos : k.shifted > 0 := by omega
          constructor
          · rw [Lemmas.TermChord.encodeXterm_char u k pam ckm hmax (.inl htab)]
            simp [hm7, hs1, ha, hc, hpos, strOfRune, hv, renderSeq]
          · unfold shiftedArrives
            rw [h7, hm7, decodeKey_esc]
            unfold escExpected matchSpec
            split
            · exact Or.inr (Or.inr (Or.inl ⟨rfl, (by decide : stripLocks (unshift 3) = unshift (stripLocks (altBit ||| shiftBit)))⟩))
            · exact Or.inl ⟨rfl, (by decide : stripLocks (unshift 3) = stripLocks altBit)⟩
      · simp [hk, hs] at hd
    · simp [hk] at hd
  · -- no Shift, or Ctrl: not in the domain
    exfalso
    have : k.mods &&& 7 = 0 ∨ k.mods &&& 7 = 2 ∨ k.mods &&& 7 = 4 ∨ k.mods &&& 7 = 5 ∨ k.mods &&& 7 = 6 ∨ k.mods &&& 7 = 7 := by omega
    rcases this with h | h | h | h | h | h <;> simp [h, shiftBit, ctrlBit] at hd

/-- Non-vacuity: Shift+`;` reporting `:` (kitty alternate keys, no text), and Alt+Shift+`2` reporting `@`. -/
example : shiftedLegacy { keycode := 59, shifted := 58, mods := 1 } = some (.print [58]) ∧
    shiftedLegacy { keycode := 50, shifted := 64, mods := 3 ||| 64 } = some (.esc 64) := by decide

end VaxisModel.Props.C13Shift
