/-
C13 — the round trips over the two key domains (`key_roundtrip`, `keypad_roundtrip`, stated for Go's ASCII tables
`asciiUni`) for EVERY `unicode` oracle that agrees with Go on ASCII and on the key codes above the Unicode range
(`Lemmas.KeyCongr.AgreeOnKeys`): `C13.chord_roundtrip` / `C13Keypad.keypad_chord` hold for any such oracle, and the
events of the domains are chords whatever the oracle.
-/
import VaxisModel.Props.C13Keypad

namespace VaxisModel.Props.C13Uni
open VaxisModel.Model.Key VaxisModel.Model.TermKey
open VaxisModel.Spec.KeyEnc VaxisModel.Spec.TermInput VaxisModel.Gen.Keys VaxisModel.Gen.TermKeys
open VaxisModel.Props.C13 VaxisModel.Props.C13Keypad VaxisModel.Lemmas.KeyCongr

/-- `key_roundtrip` for every `unicode` oracle that agrees with Go on ASCII and on the key
    codes: 4880 events × 4 (keypad, cursor-key) modes — if the chord is in the xterm legacy domain, the encoder writes
    exactly xterm's report and `decodeKey` of it matches the original key and modifiers. -/
theorem key_roundtrip_any_uni (u : Uni) (H : AgreeOnKeys u) :
    (domainKeys.all fun k => allModes.all fun md => roundtripOK u k md.1 md.2) = true := by
  simp only [List.all_eq_true]
  intro k hk md _
  obtain ⟨hch, hS⟩ := domain_chords u H k hk
  exact chord_roundtrip u H k md.1 md.2 hch hS

/-- `keypad_roundtrip` for every oracle that agrees with Go on ASCII and the key codes. -/
theorem keypad_roundtrip_any_uni (u : Uni) (H : AgreeOnKeys u) :
    (keypadDomain.all fun k => allModes.all fun md => keypadOK u k md.1 md.2) = true := by
  simp only [List.all_eq_true]
  intro k hk md _
  obtain ⟨hkc, hch⟩ := keypadDomain_chords u H k hk
  exact keypad_chord u H k md.1 md.2 hkc hch

/-- Go's tables restricted to ASCII agree with themselves (non-vacuity). -/
example : AgreeOnKeys asciiUni := Lemmas.TermChord.agree_ascii

end VaxisModel.Props.C13Uni
