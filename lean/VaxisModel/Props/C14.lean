/-
C14 — the vxfw layout contract and surface addressing, over `Model.Surface` / `Model.Layout` (vxfw.go, text.go,
richtext.go, center.go, button.go, textfield.go): ALL uint16 constraints, all contents, all surface sizes (W·H > 65535
included).  Each theorem is proved for the arithmetic `exact` with strict height guards and transferred to the model of the
current source through facts regenerated on every run (`src_arith_exact`, `src_guards_strict`): a source that computes in
uint16, or guards with `>`, stops these compiling.
-/
import VaxisModel.Lemmas.Surface
import VaxisModel.Lemmas.Layout
import VaxisModel.Lemmas.SurfacePaint
import VaxisModel.Lemmas.SurfacePaintSpec
import VaxisModel.Lemmas.SurfaceSized

namespace VaxisModel.Props.C14
open VaxisModel.Model.Window VaxisModel.Model.Surface VaxisModel.Model.Layout
open VaxisModel.Lemmas.Surface VaxisModel.Lemmas.Layout VaxisModel.Lemmas.SurfacePaint VaxisModel.Spec.Window

/-- NewSurface's length and WriteCell's index are computed in `int`, the row guard is `>=`. -/
theorem src_arith_exact : srcArith = exact := rfl

/-- Every height guard of Text / RichText `findContainerSize` is `size.Height >= ctx.Max.Height`, and
each of the four Draw functions allocates `vxfw.NewSurface(size.Width, size.Height, …)` with the size
findContainerSize returned (the argument expressions are read from the source and evaluated by the
model: `TextMode.sz`, `Layout.evalSz`). -/
theorem src_guards_strict :
    (∀ hard st, (textMode hard st).sizeOK) ∧ (∀ hard, (richMode hard).sizeOK) := by
  refine ⟨fun hard st => ?_, fun hard => ?_⟩ <;> cases hard <;> exact ⟨rfl, by simp only [textMode, richMode]; decide⟩

theorem src_modes : VaxisModel.Lemmas.SurfaceSized.ModesOK textMode richMode :=
  ⟨src_guards_strict.1, src_guards_strict.2⟩

theorem draw_src (w : Widget) (c : Ctx) : draw w c = drawWith exact textMode richMode w c := by
  rw [← src_arith_exact]; rfl

/-! NewSurface, WriteCell, render, Center.Draw and TextField.Draw are tied to the source by their executed
bodies in `Props/C14Body.lean` (`*_body_eq_model`). -/

/-- The extractor recognised every shape it looks for in the vxfw sources. -/
theorem facts_extractor_clean : VaxisModel.Gen.SurfaceFacts.extractErrors = [] := rfl

/-- A new surface holds exactly W·H cells — as natural numbers, also when W·H > 65535. -/
theorem newSurface_len (w h : UInt16) :
    (newSurface srcArith w h).buf.length = w.toNat * h.toNat ∧
    (newSurface srcArith w h).w = w ∧ (newSurface srcArith w h).h = h := by
  rw [src_arith_exact]
  have := newSurface_sized w h
  simp only [Sized, newSurface_w, newSurface_h] at this
  exact ⟨by rw [this, Nat.mul_comm], rfl, rfl⟩

/-- On a surface that holds W·H cells: a write inside the surface
(`col < W ∧ row < H`) does not panic and changes exactly buffer cell `row·W + col` (natural-number
arithmetic); a write outside changes nothing and does not panic. -/
theorem writeCell_exact (s : Surface) (hs : s.buf.length = s.w.toNat * s.h.toNat)
    (col row : UInt16) (c : Cell) :
    ∃ s', writeCell srcArith s col row c = .ok s' ∧ s'.w = s.w ∧ s'.h = s.h ∧
      ∀ i, s'.buf[i]? =
        if col < s.w ∧ row < s.h ∧ i = Spec.Surface.cellIndex s.w.toNat col.toNat row.toNat
        then some c else s.buf[i]? := by
  rw [src_arith_exact]
  obtain ⟨s', e, a, b, _, _, hb⟩ := writeCell_buf s (by rw [Sized, hs, Nat.mul_comm]) col row c
  exact ⟨s', e, a, b, hb⟩

theorem writeCell_exact_new (w h col row : UInt16) (c : Cell) :
    ∃ s', writeCell srcArith (newSurface srcArith w h) col row c = .ok s' ∧
      ∀ i, s'.buf[i]? =
        if col < w ∧ row < h ∧ i = row.toNat * w.toNat + col.toNat then some c
        else (newSurface srcArith w h).buf[i]? := by
  have hl := newSurface_len w h
  obtain ⟨s', h1, _, _, h4⟩ := writeCell_exact (newSurface srcArith w h) (by rw [hl.1, hl.2.1, hl.2.2]) col row c
  refine ⟨s', h1, ?_⟩
  intro i
  rw [h4 i, hl.2.1, hl.2.2]
  rfl

open VaxisModel.Gen.SurfaceFacts in
/-- **The inventory of built-in widgets is complete.** Every type in a sub-package of vxfw with a
method `Draw(vxfw.DrawContext) (vxfw.Surface, error)` (enumerated from the source on every run) is
one the model's `Widget` covers, and every constructor of `Widget` models one of them. -/
theorem widget_inventory_complete :
    drawWidgets = modelledWidgets ∧ (∀ w : Widget, w.goName ∈ drawWidgets) := by
  refine ⟨rfl, fun w => ?_⟩
  cases w <;> (simp only [Widget.goName]; decide)

open VaxisModel.Gen.SurfaceFacts in
/-- Which widgets start their Draw with the bounded-constraint panic, with which condition and
message; what every `vxfw.NewSurface` call of a widget passes as size; what Dynamic hands to its
children; the field types the size arithmetic runs in. -/
theorem facts_layout :
    boundedPanicWidgets = ["button.Button", "center.Center", "list.Dynamic"] ∧
    boundedGuards = [
      ("button.Button", "(P0.Max.HasUnboundedHeight()||P0.Max.HasUnboundedWidth()) => Button must have bounded constraints"),
      ("center.Center", "(P0.Max.HasUnboundedHeight()||P0.Max.HasUnboundedWidth()) => Center must have bounded constraints"),
      ("list.Dynamic", "(P0.Max.HasUnboundedHeight()||P0.Max.HasUnboundedWidth()) => Dynamic cannot have unbounded height or width")] ∧
    newSurfaceArgs = [
      ("center.Center.Draw", "P0.Max.Width x P0.Max.Height"),
      ("list.Dynamic.Draw", "P0.Max.Width x P0.Max.Height"),
      ("list.Dynamic.Draw", "P0.Max.Width x ch.Surface.Size.Height"),
      ("richtext.RichText.Draw", "L1.Width x L1.Height"),
      ("richtext.RichText.drawSoftwrap", "L1.Width x L1.Height"),
      ("text.Text.Draw", "L0.Width x L0.Height"),
      ("text.Text.drawSoftwrap", "L0.Width x L0.Height"),
      ("textfield.TextField.Draw", "P0.Max.Width x 1")] ∧
    dynamicChildCtx = [
      "Draw: if R.DrawCursor colOffset=2",
      "Draw: child ctx Max:vxfw.Size{Width:(P0.Max.Width-uint16(colOffset)),Height:math.MaxUint16}",
      "insertChildren: if R.DrawCursor colOffset=2",
      "insertChildren: child ctx Max:vxfw.Size{Width:(P0.Max.Width-uint16(colOffset)),Height:math.MaxUint16}"] ∧
    sizeFields = ["Width:uint16", "Height:uint16"] ∧
    relativePointFields = ["Row:int", "Col:int"] ∧
    subSurfaceFields = ["Origin:RelativePoint", "Surface:Surface", "ZIndex:int"] :=
  ⟨rfl, rfl, rfl, rfl, rfl, rfl, rfl⟩

open VaxisModel.Gen.SurfaceFacts in
/-- The size arguments of every `vxfw.NewSurface` call of a widget, as terms.  The model *evaluates*
all of them: Center, TextField and Dynamic through `newSurfaceFor` (`Lemmas.Surface.surface_center`,
`…_field`, `…_dynamic`, `…_dynamic_cursor`), the four Text / RichText functions through `TextMode.sz`
(`Layout.drawText` allocates `evalSz … m.sz`; `src_guards_strict` shows they are `size.Width, size.Height`,
which `size_le_max` needs: `NewSurface(size.Width+1, …)` in the source breaks that theorem, not only this fact). -/
theorem facts_surface_sizes :
    surfaceSizes = [
      ("center.Center.Draw", .maxW, .maxH),
      ("list.Dynamic.Draw", .maxW, .maxH),
      ("list.Dynamic.Draw", .maxW, .childH),
      ("richtext.RichText.Draw", .sizeW, .sizeH),
      ("richtext.RichText.drawSoftwrap", .sizeW, .sizeH),
      ("text.Text.Draw", .sizeW, .sizeH),
      ("text.Text.drawSoftwrap", .sizeW, .sizeH),
      ("textfield.TextField.Draw", .maxW, .lit 1)] :=
  rfl

open VaxisModel.Gen.SurfaceFacts in
/-- The condition of the ellipsis branch of the two hard-wrap `Draw` loops, as the model interprets it
(`Layout.evalEll`): `truncate && col+uint16(char.Width) >= ctx.Max.Width`, `truncate` = the int sum of
the widths of the line exceeds `Max.Width`.  The model follows whatever conjuncts the source has; C16's content theorems
(`Props.C16Draw.hard_draw_rows`) need exactly these. -/
theorem facts_ellipsis_cond :
    textEllipsisCond = [.lineTooWide, .reach] ∧ richEllipsisCond = [.lineTooWide, .reach] :=
  ⟨rfl, rfl⟩

open VaxisModel.Lemmas.SurfaceSized in
/-- Text / RichText (either wrap mode), any scanned lines, any constraint: the surface is no
larger than the maximum and Draw does not panic. -/
theorem size_le_max_text (m : TextMode) (hm : m.sizeOK) (c : Ctx) (lines : List (List Cell)) :
    ∃ s, drawText exact m c lines = .ok s ∧ s.w ≤ c.maxW ∧ s.h ≤ c.maxH ∧
      s.buf.length = s.w.toNat * s.h.toNat := by
  obtain ⟨s, h, hws, hle⟩ := text_post m c lines
  exact ⟨s, h, (hle hm).1, (hle hm).2, by rw [((wellSized_iff s).1 hws).1, Nat.mul_comm]⟩

/-- TextField: `Max.Width × 1`, or the zero surface for a zero constraint; never a panic. -/
theorem size_le_max_field (c : Ctx) (chars : List Cell) :
    ∃ s, drawField exact c chars = .ok s ∧ s.w ≤ c.maxW ∧ s.h ≤ c.maxH :=
  field_size_le c chars

/-- Every built-in widget (Text, RichText, TextField, Center, Button, list.Dynamic)
and every nesting of them, every constraint (0 … 65535), every content, every choice of children a
Dynamic draws: Draw returns a surface no larger than the maximum — or stops with the documented
`panic("… bounded constraints")`, and that exactly when some Center / Button / Dynamic of the tree
receives an unbounded constraint (`accepts w c = false`, characterised below).  No other panic. -/
theorem size_le_max (tm : Bool → Nat → TextMode) (rm : Bool → TextMode)
    (htm : ∀ hard st, (tm hard st).sizeOK) (hrm : ∀ hard, (rm hard).sizeOK)
    (w : Widget) (c : Ctx) :
    (accepts w c = true ∧ ∃ s, drawWith exact tm rm w c = .ok s ∧ s.w ≤ c.maxW ∧ s.h ≤ c.maxH) ∨
    (accepts w c = false ∧ drawWith exact tm rm w c = .error .explicit) :=
  VaxisModel.Lemmas.SurfaceSized.draw_spec tm rm ⟨htm, hrm⟩ w c

/-- The same for the model of the current source. -/
theorem size_le_max_src (w : Widget) (c : Ctx) :
    (accepts w c = true ∧ ∃ s, draw w c = .ok s ∧ s.w ≤ c.maxW ∧ s.h ≤ c.maxH) ∨
    (accepts w c = false ∧ draw w c = .error .explicit) := by
  rw [draw_src]
  exact size_le_max textMode richMode src_guards_strict.1 src_guards_strict.2 w c

/-- The children a Dynamic draws (any sub-list of what its Builder offers), all with the constraint
`Max.Width − colOffset` × unbounded: each is no larger than that constraint. -/
theorem size_le_max_dynamic_children (cursor : Bool) (gap : Int) (kids : Widgets) (c : Ctx)
    (ha : accepts (.dynamic cursor gap kids) c = true) :
    ∃ l, drawKids srcArith textMode richMode kids (dynChildCtx cursor c) = .ok l ∧
      l.length = kids.toList.length ∧ ∀ s ∈ l, s.w ≤ c.maxW - dynOff cursor := by
  rw [src_arith_exact]
  have ha' : acceptsAll kids (dynChildCtx cursor c) = true := by
    simp only [accepts, Bool.and_eq_true] at ha; exact ha.2
  rcases VaxisModel.Lemmas.SurfaceSized.drawKids_post textMode richMode kids (dynChildCtx cursor c) with
    ⟨_, l, hl, hlen, hall⟩ | ⟨hf, _⟩
  · exact ⟨l, hl, hlen, fun s hs => ((hall s hs).2 src_modes).1⟩
  · rw [ha'] at hf; cases hf

/-- Text, RichText and TextField accept every constraint, the unbounded ones included. -/
theorem accepts_plain (w : Widget) (c : Ctx) (hn : needsBounded w = false) : accepts w c = true :=
  accepts_of_not_needsBounded w c hn

/-- Center, Button and Dynamic do not accept an unbounded constraint. -/
theorem rejects_unbounded (w : Widget) (c : Ctx) (hn : needsBounded w = true) (hb : ¬ bounded c) :
    draw w c = .error .explicit := by
  have hb' : boundedB c = false := by
    cases h : boundedB c with
    | false => rfl
    | true => exact absurd ((boundedB_iff c).1 h) hb
  rcases size_le_max_src w c with ⟨ha, _⟩ | ⟨_, he⟩
  · rw [not_accepts_of_needsBounded w c hn hb'] at ha; cases ha
  · exact he

/-- The tree holds no Dynamic: Text, RichText, TextField, Button and Centers around them. -/
def noDynamic : Widget → Bool
  | .center child => noDynamic child
  | .dynamic .. => false
  | _ => true

/-- A tree without a Dynamic is accepted iff its root needs no bounded constraint or gets one: Center
hands its own Max on. -/
theorem accepts_noDynamic : ∀ (w : Widget) (c : Ctx), noDynamic w = true →
    accepts w c = (!needsBounded w || boundedB c)
  | .text .., _, _ => rfl
  | .rich .., _, _ => rfl
  | .field .., _, _ => rfl
  | .button .., c, _ => by
    simp [accepts, needsBounded_eq]
  | .center child, c, h => by
    have hn : needsBounded (.center child) = true := needsBounded_eq _
    have ih := accepts_noDynamic child { minW := 0, minH := 0, maxW := c.maxW, maxH := c.maxH } h
    have hb : boundedB { minW := 0, minH := 0, maxW := c.maxW, maxH := c.maxH } = boundedB c := rfl
    simp only [accepts, ih, hb, hn]
    cases boundedB c <;> cases needsBounded child <;> rfl
  | .dynamic .., _, h => by simp [noDynamic] at h

/-- Dynamic hands every child an unbounded height, so a Dynamic
is accepted iff its own constraint is bounded and no child it draws is a Center, a Button or another
Dynamic: those always stop with their bounded-constraint panic inside a list. -/
theorem dynamic_child_needs_unbounded_ok (cursor : Bool) (gap : Int) (kids : Widgets) (c : Ctx) :
    accepts (.dynamic cursor gap kids) c = (boundedB c && kids.toList.all (fun w => !needsBounded w)) := by
  simp only [accepts, acceptsAll_dyn]

/-- In particular a Center / Button / Dynamic drawn as an item of a Dynamic panics for *every*
constraint of the list. -/
theorem dynamic_with_bounded_only_child_panics (cursor : Bool) (gap : Int) (kids : Widgets) (c : Ctx)
    (k : Widget) (hk : k ∈ kids.toList) (hn : needsBounded k = true) :
    draw (.dynamic cursor gap kids) c = .error .explicit := by
  rcases size_le_max_src (.dynamic cursor gap kids) c with ⟨ha, _⟩ | ⟨_, he⟩
  · rw [dynamic_child_needs_unbounded_ok] at ha
    simp only [Bool.and_eq_true, List.all_eq_true] at ha
    have := ha.2 k hk
    rw [hn] at this; cases this
  · exact he

/-- Center places a child that fits (`child ≤ Max` in both dimensions) fully
inside its own `Max.Width × Max.Height` surface with left/right and top/bottom margins that differ
by at most one cell; it is the only child, at z-index 0. -/
theorem center_fits (a : Arith) (c : Ctx) (ch : Surface) (hw : ch.w ≤ c.maxW) (hh : ch.h ≤ c.maxH) :
    ∃ col row, (centerAround a c ch).kids = .cons col row 0 ch .nil ∧
      (centerAround a c ch).w = c.maxW ∧ (centerAround a c ch).h = c.maxH ∧
      Spec.Surface.centred c.maxW.toNat c.maxH.toNat ch.w.toNat ch.h.toNat col row := by
  refine ⟨_, _, centerAround_kids a c ch, centerAround_w a c ch, centerAround_h a c ch, ?_⟩
  have hx := half_margin c.maxW ch.w hw
  have hy := half_margin c.maxH ch.h hh
  have hw' := UInt16.le_iff_toNat_le.1 hw
  have hh' := UInt16.le_iff_toNat_le.1 hh
  simp only [Spec.Surface.centred, hx, hy, Int.ofNat_eq_natCast]
  refine ⟨by omega, by omega, by omega, by omega, by omega, by omega⟩

/-- Every built-in child that draws at all (no Dynamic in it that draws a Center / Button / Dynamic
item) fits, so Center always centres it (current source). -/
theorem center_fits_src (child : Widget) (c : Ctx) (hb : bounded c)
    (ha : accepts child { minW := 0, minH := 0, maxW := c.maxW, maxH := c.maxH } = true) :
    ∃ ch s col row, draw child { minW := 0, minH := 0, maxW := c.maxW, maxH := c.maxH } = .ok ch ∧
      draw (.center child) c = .ok s ∧ s.kids = .cons col row 0 ch .nil ∧
      Spec.Surface.centred s.w.toNat s.h.toNat ch.w.toNat ch.h.toNat col row := by
  have hbB : boundedB c = true := (boundedB_iff c).2 hb
  rcases size_le_max_src child { minW := 0, minH := 0, maxW := c.maxW, maxH := c.maxH } with ⟨_, ch, hch, hw, hh⟩ | ⟨hna, _⟩
  · obtain ⟨col, row, hk, hsw, hsh, hcen⟩ := center_fits srcArith c ch hw hh
    refine ⟨ch, centerAround srcArith c ch, col, row, hch, ?_, hk, by rw [hsw, hsh]; exact hcen⟩
    rw [draw_src] at hch ⊢
    simp only [drawWith, guard_center, hbB, hch]
    rfl
  · exact absurd hna (by rw [ha]; simp)

/-- Button is a Center around its soft-wrapped label: for every bounded constraint and every label
the label surface lies inside the button's `Max.Width × Max.Height` surface, margins within one, and
is its only child (current source). -/
theorem button_fits_src (st : Nat) (lines : List (List Cell)) (c : Ctx) (hb : bounded c) :
    ∃ ch s col row,
      drawText srcArith (textMode false st) { minW := 0, minH := 0, maxW := c.maxW, maxH := c.maxH } lines = .ok ch ∧
      draw (.button st lines) c = .ok s ∧ s.kids = .cons col row 0 ch .nil ∧
      s.w = c.maxW ∧ s.h = c.maxH ∧
      Spec.Surface.centred s.w.toNat s.h.toNat ch.w.toNat ch.h.toNat col row := by
  have hbB : boundedB c = true := (boundedB_iff c).2 hb
  rw [src_arith_exact]
  obtain ⟨ch, hch, hw, hh, _⟩ := size_le_max_text (textMode false st) (src_guards_strict.1 false st)
    { minW := 0, minH := 0, maxW := c.maxW, maxH := c.maxH } lines
  obtain ⟨col, row, hk, hsw, hsh, hcen⟩ := center_fits exact c ch hw hh
  refine ⟨ch, fillStyle (centerAround exact c ch) st, col, row, hch, ?_, by rw [fillStyle_kids, hk], by rw [fillStyle_w, hsw],
    by rw [fillStyle_h, hsh], by rw [fillStyle_w, fillStyle_h, hsw, hsh]; exact hcen⟩
  simp only [draw_src, drawWith, guard_button, hbB, hch]
  rfl

/-- A surface tree whose every node came from NewSurface (buffer of W·H cells) never makes render
divide by zero. -/
theorem render_no_panic (s : Surface) (win : Win) (scr : Screen) (h : s.divZero = false) :
    render s win scr = .ok (applyPaint scr (s.paint win)) := by
  simp [render, h]

theorem render_ok {s : Surface} {win : Win} {scr scr' : Screen} (hr : render s win scr = .ok scr') :
    scr' = applyPaint scr (s.paint win) := by
  unfold render at hr
  split at hr <;> cases hr
  rfl

/-- **render_paints (clipping).** A cell changed by rendering a surface tree into `win` lies in
`win`, in every ancestor of `win`, and in the screen. -/
theorem render_clip (s : Surface) (win : Win) (scr scr' : Screen) (hr : render s win scr = .ok scr')
    (x y : Int) (hne : scr'.get x y ≠ scr.get x y) : covers win x y ∧ inScreen scr x y := by
  rw [render_ok hr, applyPaint_get] at hne
  cases hl : lastHit scr x y (s.paint win) with
  | none => rw [hl] at hne; exact absurd rfl hne
  | some v =>
    obtain ⟨c, hc, hh, _⟩ := lastHit_some scr x y _ v hl
    exact ⟨covers_of_desc (paint_desc s win c hc) x y hh.2.2.1, hh.2.2.2⟩

/-- **render_paints (z-order: last painter wins).** After render every cell shows the last
`SetCell` of the paint sequence that was accepted there (each call clipped by the window it is made
on and all that window's ancestors), and is unchanged if there was none. -/
theorem render_last_wins (s : Surface) (win : Win) (scr scr' : Screen) (hr : render s win scr = .ok scr')
    (x y : Int) :
    scr'.get x y =
      match lastHit scr x y (s.paint win) with
      | some v => (scr.get x y).map (fun _ => v)
      | none => scr.get x y := by
  rw [render_ok hr]; exact applyPaint_get _ _ _ _

/-- **render_paints (order and offsets).** The paint sequence is: the surface's own buffer, cell `i`
at `(i mod W, i div W)` of the given window; then the children in non-decreasing z-index, each
painted (recursively) in the child window `win.New(col,row,W,H)`, whose origin is the parent's
origin plus the child's offset. -/
theorem paint_structure (w h : UInt16) (buf : List Cell) (kids : Kids) (win : Win) :
    (Surface.mk w h buf kids).paint win =
      (cellOps w buf).map (fun o => (win, o)) ++ ((sortByZ (kids.layers win)).flatMap (·.2)) ∧
    List.Pairwise (fun a b => a.1 ≤ b.1) (sortByZ (kids.layers win)) ∧
    (∀ l, l ∈ sortByZ (kids.layers win) ↔ l ∈ kids.layers win) :=
  ⟨by simp [Surface.paint], sortByZ_sorted _, fun l => mem_sortByZ l _⟩

theorem child_window_origin (win : Win) (col row cols rows : Int) :
    (win.new col row cols rows).origin = ((win.origin).1 + col, (win.origin).2 + row) := by
  simp [Win.new, Win.origin]

/-- **render_paints (clipping to the parent).** The window a child surface is painted in covers
exactly the child's own `W×H` rectangle at parent origin + offset, intersected with everything
that already clipped the parent. -/
theorem child_window_clip (win : Win) (col row : Int) (s : Surface) (x y : Int) :
    covers (win.new col row (Int.ofNat s.w.toNat) (Int.ofNat s.h.toNat)) x y ↔
      (((win.origin).1 + col ≤ x ∧ x < (win.origin).1 + col + s.w.toNat ∧
        (win.origin).2 + row ≤ y ∧ y < (win.origin).2 + row + s.h.toNat) ∧ covers win x y) := by
  rw [VaxisModel.Lemmas.Window.origin_eq_absOrigin]
  exact VaxisModel.Lemmas.Window.covers_new win col row _ _ (Int.natCast_nonneg _) (Int.natCast_nonneg _) x y

theorem cellOpsFrom_positions (w : UInt16) (buf : List Cell) (i0 i : Nat) (hi : i < buf.length) :
    (cellOpsFrom w i0 buf)[i]? =
      some { col := Int.ofNat ((i0 + i) % w.toNat), row := Int.ofNat ((i0 + i) / w.toNat), cell := buf[i] } :=
  (cellOpsFrom_cells w buf i0).2 i hi

theorem cellOps_positions (w : UInt16) (buf : List Cell) (i : Nat) (hi : i < buf.length) :
    (cellOps w buf)[i]? = some { col := Int.ofNat (i % w.toNat), row := Int.ofNat (i / w.toNat), cell := buf[i] } := by
  have := cellOpsFrom_positions w buf 0 i hi
  simpa [cellOps] using this

open VaxisModel.Gen.SurfaceFacts in
/-- App.Run renders the root surface into `win.New(0, 0, int(s.Size.Width), int(s.Size.Height))` of
the screen window — the root clips its children like every other surface — and the
harness hook `VerifC14RenderRoot` evaluates the same expression; `VerifC14Render` is the bare
recursive render. -/
theorem facts_run_render :
    runRenderWin = "WIN.New(0,0,int(S.Size.Width),int(S.Size.Height))" ∧ runRenderClipsRoot = true ∧
    hookRenderRootWin = runRenderWin ∧ hookRenderWin = "WIN" := ⟨rfl, rfl, rfl, rfl⟩

theorem renderRoot_clips (s : Surface) (win : Win) (scr : Screen) :
    renderRoot s win scr = render s (rootWin s win) scr := by
  unfold renderRoot renderRootWith renderClipped
  rw [facts_run_render.2.1]; rfl

open VaxisModel.Lemmas.SurfacePaintSpec in
/-- **render_paints.** The render call of App.Run — the root surface of a frame rendered into the
screen of a well-formed Vaxis (no zero-width surface with a non-empty buffer in the tree) — leaves
every screen cell showing the top layer of the painter's algorithm of `Spec.Surface`: each surface
at its parent's origin plus its offset, clipped to its own rectangle and to the rectangle of
*every* ancestor, the root included, and to the screen; children after their parent in z-order
with ties in child order; unchanged where no layer reaches.  Full strength: `layers true`, no
exclusion (`Witness/F114`: an entry that does not clip the root fails this statement). -/
theorem render_paints (s : Surface) (scr scr' : Screen) (hwf : scr.WF) (hd : s.divZero = false)
    (hr : renderRoot s (Win.ofScreen scr) scr = .ok scr') (x y : Int) (hin : inScreen scr x y) :
    scr'.get x y =
      match Spec.Surface.topAt (Spec.Surface.layers true (toTree 0 0 0 s) 0 0
          { x0 := 0, y0 := 0, x1 := scr.cols, y1 := scr.rows }) x y with
      | some c => some c
      | none => scr.get x y := by
  rw [renderRoot_clips] at hr
  rw [render_last_wins s _ scr scr' hr x y, paint_spec scr s _ _ _ _ (tied_rootWin scr s) hd x y,
    layers_toTree, if_pos rfl]
  obtain ⟨v, hv⟩ := VaxisModel.Lemmas.Window.get_some_of_inScreen scr hwf x y hin
  generalize Spec.Surface.topAt _ x y = r
  cases r with
  | none => rfl
  | some c => simp [hv]

open VaxisModel.Lemmas.SurfacePaintSpec in
/-- **render_paints, whole frame.** A frame of App.Run (`win.Clear()`, then the render call) shows at
every screen cell the top layer of the painter's algorithm, and a blank cell where no layer
reaches — nothing of the previous frame survives. -/
theorem run_frame_paints (s : Surface) (scr scr' : Screen) (hwf : scr.WF) (hd : s.divZero = false)
    (hr : runFrame s scr = .ok scr') (x y : Int) (hin : inScreen scr x y) :
    scr'.get x y =
      match Spec.Surface.topAt (Spec.Surface.layers true (toTree 0 0 0 s) 0 0
          { x0 := 0, y0 := 0, x1 := scr.cols, y1 := scr.rows }) x y with
      | some c => some c
      | none => some clearCell := by
  obtain ⟨hwf0, hc0, hr0, hg0⟩ := clear_screen scr hwf
  generalize hs0 : clear (Win.ofScreen scr) scr = scr0 at hwf0 hc0 hr0 hg0
  have hw : Win.ofScreen scr = Win.ofScreen scr0 := by
    unfold Win.ofScreen; rw [hc0, hr0]
  have hr1 : renderRoot s (Win.ofScreen scr0) scr0 = .ok scr' := by
    rw [← hw, ← hs0]; exact hr
  have hin0 : inScreen scr0 x y := by
    unfold inScreen at hin ⊢; rw [hc0, hr0]; exact hin
  rw [render_paints s scr0 scr' hwf0 hd hr1 x y hin0, hc0, hr0, hg0 x y hin]

open VaxisModel.Lemmas.SurfacePaintSpec in
/-- **The bare recursive render** (`s.render(win, …)` into the whole screen window, as `render` calls
itself for children): the same painter's algorithm
except that the surface's own rectangle does not clip its children (`layers false`) — clipping the
surface passed in is the caller's job, done through the window. -/
theorem render_bare_paints (s : Surface) (scr scr' : Screen) (hwf : scr.WF) (hd : s.divZero = false)
    (hr : render s (Win.ofScreen scr) scr = .ok scr') (x y : Int) (hin : inScreen scr x y) :
    scr'.get x y =
      match Spec.Surface.topAt (Spec.Surface.layers false (toTree 0 0 0 s) 0 0
          { x0 := 0, y0 := 0, x1 := scr.cols, y1 := scr.rows }) x y with
      | some c => some c
      | none => scr.get x y := by
  rw [render_last_wins s _ scr scr' hr x y, paint_spec scr s _ 0 0 _ (tied_root scr) hd x y,
    layers_toTree, if_neg (by simp)]
  simp only [Int.add_zero]
  obtain ⟨v, hv⟩ := VaxisModel.Lemmas.Window.get_some_of_inScreen scr hwf x y hin
  cases Spec.Surface.topAt (bodyOf s 0 0 { x0 := 0, y0 := 0, x1 := scr.cols, y1 := scr.rows }) x y with
  | none => rfl
  | some c => simp [hv]

open VaxisModel.Lemmas.SurfaceSized in
/-- Every surface of the tree a built-in widget's Draw returns holds exactly Width·Height cells
(all widgets and nestings, every constraint and content). -/
theorem draw_well_sized (w : Widget) (c : Ctx) (s : Surface) (h : draw w c = .ok s) : WellSized s := by
  rw [draw_src] at h
  exact wellSized_draw textMode richMode w c s h

open VaxisModel.Lemmas.SurfaceSized in
/-- **A frame of App.Run over any tree of built-in widgets cannot panic in render**: `i / int(Width)`
only runs for cells of a buffer, and a surface of width 0 built by a widget has no cells. -/
theorem frame_never_panics (w : Widget) (c : Ctx) (s : Surface) (h : draw w c = .ok s) (scr : Screen) :
    ∃ scr', runFrame s scr = .ok scr' := by
  have hd := divZero_of_wellSized s (draw_well_sized w c s h)
  unfold runFrame
  rw [renderRoot_clips]
  exact ⟨_, render_no_panic s _ _ hd⟩

open VaxisModel.Lemmas.SurfaceSized VaxisModel.Lemmas.SurfacePaintSpec in
/-- … and shows exactly the painter's algorithm of the surface tree Draw returned (layout contract
and paint contract together, for the model of the current source). -/
theorem frame_of_widgets_paints (w : Widget) (c : Ctx) (s : Surface) (h : draw w c = .ok s)
    (scr : Screen) (hwf : scr.WF) :
    ∃ scr', runFrame s scr = .ok scr' ∧ ∀ x y, inScreen scr x y →
      scr'.get x y =
        match Spec.Surface.topAt (Spec.Surface.layers true (toTree 0 0 0 s) 0 0
            { x0 := 0, y0 := 0, x1 := scr.cols, y1 := scr.rows }) x y with
        | some c => some c
        | none => some clearCell := by
  obtain ⟨scr', hr⟩ := frame_never_panics w c s h scr
  exact ⟨scr', hr, fun x y hin =>
    run_frame_paints s scr scr' hwf (divZero_of_wellSized s (draw_well_sized w c s h)) hr x y hin⟩

/-- The model's stable insertion sort by z-index is the spec's "z-order, ties in child order". -/
theorem zorder_is_spec {α : Type} (l : List (Int × α)) : sortByZ l = Spec.Surface.orderByKey l :=
  VaxisModel.Lemmas.SurfaceOrder.sortByZ_eq_orderByKey l

/-! ### Non-vacuity -/

example : (newSurface exact 300 300).buf.length = 90000 := by
  rw [← src_arith_exact, (newSurface_len 300 300).1]; rfl

example : ∃ s, draw (.center (.text false 5 [[⟨104, 1, 5⟩, ⟨105, 1, 5⟩]])) ⟨0, 0, 80, 24⟩ = .ok s ∧
    s.kids.length = 1 := by
  obtain ⟨ch, s', col, row, _, h2, hk, _⟩ :=
    center_fits_src (.text false 5 [[⟨104, 1, 5⟩, ⟨105, 1, 5⟩]]) ⟨0, 0, 80, 24⟩ ⟨by decide, by decide⟩ rfl
  exact ⟨s', h2, by rw [hk]; rfl⟩

/-- A Dynamic with two text items and its cursor gutter on a 10×4 constraint is accepted and draws;
with a Button item it is not. -/
example : accepts (.dynamic true 0 (.cons (.text false 0 [[⟨104, 1, 0⟩]]) (.cons (.field []) .nil))) ⟨0, 0, 10, 4⟩ = true := by
  decide
example : accepts (.dynamic false 0 (.cons (.button 0 []) .nil)) ⟨0, 0, 10, 4⟩ = false := by decide

end VaxisModel.Props.C14
