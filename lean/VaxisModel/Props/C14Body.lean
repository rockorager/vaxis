/-
C14: `*_body_eq_model` — the bodies of the vxfw Surface functions and of the built-in widgets' Draw functions, REGENERATED
from /repo on every run (`Gen/SurfaceBodies.lean`) and EXECUTED by the statement interpreter `Model/SurfExec.lean`, compute what
the hand-written model (`Model/Surface.lean`, `Model/Layout.lean`) computes, for ALL inputs: the theorems of `Props/C14.lean` are
thereby theorems about the executed source, and no text of the source is compared anywhere.
How: `simp` executes a body statement by statement; a loop is first replaced by a pure fold (`loopS_foldS`, `loopS_scan`,
`loopW_iterW` of `Lemmas/SurfExec.lean`) by executing ONE iteration symbolically; the fold is the model's loop by a lemma there.
-/
import VaxisModel.Model.SurfExec
import VaxisModel.Gen.SurfaceBodies
import VaxisModel.Lemmas.SurfExec

namespace VaxisModel.Props.C14Body
open VaxisModel.Model.SurfLang VaxisModel.Model.Window VaxisModel.Model.Surface VaxisModel.Model.Layout VaxisModel.Model.SurfExec
open VaxisModel.Gen VaxisModel.Lemmas.SurfExec

attribute [local simp] run mkEnv Env.get Env.set applyFn.eq_def getFld fldInt fldU16 Except.map assignTo setField evalSel
  bindLoopVar binop arithU arithI isLit leave evalCon callStmt.eq_def callHead asU16 zeroOf u16OfLit rangeItems bindIt
-- `exec` and `evalE` are unfolded on the way down (`↓`): otherwise `simp` first walks through the whole syntax tree they are applied to
attribute [local simp ↓] exec evalE
attribute [local simp ↓ high] exec_seq
attribute [local simp] andThen_ok andThen_error Step.toRes u16 Surface.w Surface.h Surface.buf Surface.kids Surface.setBuf

/-- The translator recognised every statement and expression of the bodies the theorems below execute. -/
theorem bodies_fully_recognised :
    [SurfaceBodies.newSurface, SurfaceBodies.newSubSurface, SurfaceBodies.addChild, SurfaceBodies.writeCell, SurfaceBodies.fill,
     SurfaceBodies.render, SurfaceBodies.hasUnboundedWidth, SurfaceBodies.hasUnboundedHeight, SurfaceBodies.centerDraw,
     SurfaceBodies.textFindContainerSize, SurfaceBodies.richFindContainerSize, SurfaceBodies.textDrawSoftwrap,
     SurfaceBodies.richDrawSoftwrap, SurfaceBodies.textDraw, SurfaceBodies.richDraw, SurfaceBodies.buttonDraw, SurfaceBodies.textfieldDraw].all (fun b => !b.hasUnknown) = true := by
  decide +kernel

/-- **NewSurface**: `Surface{Size{width,height}, Widget, Buffer: make([]Cell, int(height)*int(width))}` is the model's
`newSurface` with the length computed in `int` — W·H cells for every W, H, also beyond 65 535. -/
theorem newSurface_body_eq_model (R : Ro) (w h : UInt16) (wd : Val) (scr : Screen) :
    (run R SurfaceBodies.newSurface SurfaceBodies.newSurfaceParams [.u16 w, .u16 h, wd] scr).map (·.1)
      = .ok (.surf (newSurface exactA w h)) := by
  unfold SurfaceBodies.newSurface SurfaceBodies.newSurfaceParams
  simp [newSurface, bufLen, VaxisModel.Model.Surface.exact, mul_toNat_nonneg, toNat_mul_cast] <;> try (rw [Nat.mul_comm])

/-- **NewSubSurface**: origin (col,row), ZIndex 0. -/
theorem newSubSurface_body_eq_model (R : Ro) (c r : Int) (s : Surface) (scr : Screen) :
    (run R SurfaceBodies.newSubSurface SurfaceBodies.newSubSurfaceParams [.int c, .int r, .surf s] scr).map (·.1)
      = .ok (.sub c r 0 s) := by
  unfold SurfaceBodies.newSubSurface SurfaceBodies.newSubSurfaceParams
  simp

/-- **AddChild**: the receiver afterwards is the model's `addChild` (appended, ZIndex 0). -/
theorem addChild_body_eq_model (R : Ro) (c r : Int) (s ch : Surface) (scr : Screen) :
    (run R SurfaceBodies.addChild SurfaceBodies.addChildParams [.surf s, .int c, .int r, .surf ch] scr).map (·.2.1)
      = .ok (some (.surf (addChild s c r ch))) := by
  unfold SurfaceBodies.addChild SurfaceBodies.addChildParams
  cases s with
  | mk w h b k =>
  simp [addChild]

/-- **WriteCell**: the receiver afterwards is the model's `writeCell` under the exact arithmetic — index
`int(row)*int(Width)+int(col)` in `int`, guards `>=`; the store is a CHECKED index expression on both sides. -/
theorem writeCell_body_eq_model (R : Ro) (s : Surface) (col row : UInt16) (c : Cell) (scr : Screen) :
    (run R SurfaceBodies.writeCell SurfaceBodies.writeCellParams [.surf s, .u16 col, .u16 row, .cell c] scr).map (·.2.1)
      = (match writeCell exactA s col row c with
         | .ok s' => .ok (some (.surf s'))
         | .error p => .error (.panic p)) := by
  unfold SurfaceBodies.writeCell SurfaceBodies.writeCellParams
  cases s with
  | mk w h b k =>
  -- up to the guard; then the two comparisons, whichever way round the guard and the index are written
  simp [writeCell, wcReject, wcIndex, VaxisModel.Model.Surface.exact]
  by_cases h1 : w ≤ col <;> by_cases h2 : h ≤ row <;>
    simp [h1, h2, ← Int.natCast_mul, ← Int.natCast_add, Nat.mul_comm, Nat.add_comm]
  by_cases hb : col.toNat + row.toNat * w.toNat < b.length <;> simp [hb]

/-- **Center.Draw**, executed: the bounded-constraint panic first; the child drawn with `Max` handed on;
`NewSurface(Max.Width, Max.Height)`; offsets `(Max − child)/2` in uint16; `AddChild(int(offX), int(offY), child)`. -/
theorem centerDraw_body_eq (R : Ro) (c : Ctx) (scr : Screen) (kid : Nat) (hf : R.fields "Child" = some (.wid kid)) :
    (run R SurfaceBodies.centerDraw SurfaceBodies.centerDrawParams [.wid 0, .ctx c] scr).map (·.1)
      = (if c.maxH == unbounded || c.maxW == unbounded then .error (.panic .explicit)
         else match R.childDraw { minW := 0, minH := 0, maxW := c.maxW, maxH := c.maxH } with
           | .error p => .error (.panic p)
           | .ok ch => .ok (.tup (.surf (addChild (newSurface exactA c.maxW c.maxH)
                          (Int.ofNat ((c.maxW - ch.w) / 2).toNat) (Int.ofNat ((c.maxH - ch.h) / 2).toNat) ch)) .nil)) := by
  unfold SurfaceBodies.centerDraw SurfaceBodies.centerDrawParams
  cases h1 : c.maxH == unbounded
  · cases h2 : c.maxW == unbounded
    · cases hd : R.childDraw { minW := 0, minH := 0, maxW := c.maxW, maxH := c.maxH } with
      | error p => simp [h1, h2, hd, hf]
      | ok ch =>
        cases ch with
        | mk w h b k =>
        simp [h1, h2, hd, hf, ofInt_two, two_ne_zero16]
    · simp [h1, h2]
  · simp [h1]

/-- The executed body of `Center.Draw`, with the child's `Draw` being the model's
`drawWith … child`, IS the model's `drawWith … (.center child)` — for every child widget, constraint and text mode. -/
theorem centerDraw_body_eq_model (R : Ro) (tm : Bool → Nat → TextMode) (rm : Bool → TextMode) (child : Widget)
    (c : Ctx) (scr : Screen) (kid : Nat) (hf : R.fields "Child" = some (.wid kid))
    (hR : R.childDraw = drawWith exactA tm rm child) :
    (run R SurfaceBodies.centerDraw SurfaceBodies.centerDrawParams [.wid 0, .ctx c] scr).map (·.1)
      = (match drawWith exactA tm rm (.center child) c with
         | .ok s => .ok (.tup (.surf s) .nil)
         | .error p => .error (.panic p)) := by
  rw [centerDraw_body_eq R c scr kid hf, hR]
  have hb : Gen.SurfaceFacts.boundedPanicWidgets.contains "center.Center" = true := by decide
  have hs : surfaceArgs "center.Center.Draw" 0 = (.maxW, .maxH) := by decide
  simp only [drawWith, boundedPanic, hb, Bool.true_and, centerAround, newSurfaceFor, hs, evalSz]
  by_cases h1 : (c.maxH == unbounded || c.maxW == unbounded) = true
  · simp [h1]
  · simp only [h1]
    cases drawWith exactA tm rm child { minW := 0, minH := 0, maxW := c.maxW, maxH := c.maxH } <;> simp

/-! ### findContainerSize (Text and RichText, soft and hard wrap)

`R.soft` / `R.hard` are the lines the real scanners yield (parameters, C16); `R.wrapW` the width the soft scanner was
built for — the body must pass `ctx.Max.Width`, or the interpreter is stuck.  The result is the model's
`findContainerSize` with the `>=` height guard: the loop with its early `return size`, `size.Height += 1`, the uint16
line width, the maximum and the clamp to `Max.Width`, executed statement by statement. -/

theorem textFindContainerSize_soft_body_eq_model (R : Ro) (c : Ctx) (scr : Screen)
    (hs : R.fields "Softwrap" = some (.bool true)) (hc : R.fields "Content" = some .text) (hw : R.wrapW = c.maxW) :
    (run R SurfaceBodies.textFindContainerSize SurfaceBodies.textFindContainerSizeParams [.wid 0, .ctx c] scr).map (·.1)
      = .ok (.size (findContainerSize true c R.soft).1 (findContainerSize true c R.soft).2) := by
  unfold SurfaceBodies.textFindContainerSize SurfaceBodies.textFindContainerSizeParams
  simp [hs, hc, hw]
  rw [loopS_scan R _ 4 "v2" true
    (fun sc (a : UInt16 × UInt16) => { ρ := [("r", .wid 0), ("v0", .ctx c), ("v1", .size a.1 a.2), ("v2", sc)], scr := scr })
    (sizeStep c.maxW c.maxH) ?_ R.soft 0 (Val.scanner true R.soft []) (0, 0)]
  · rcases foldS_sizeStep c.maxW c.maxH R.soft 0 0 with h | h <;> simp [h, findContainerSize]
  · intro sc a line rest
    obtain ⟨w, h⟩ := a
    by_cases hg : c.maxH ≤ h
    · simp [sizeStep, hg]
    · simp [sizeStep, hg]
      rw [loopS_foldS R _ 6 (.range "_" "v5")
        (fun (acc : UInt16) => { ρ := [("r", Val.wid 0), ("v0", Val.ctx c), ("v1", Val.size w (h + 1)), ("v2", Val.scanner true rest line),
                ("v3", Val.cells line), ("v4", Val.u16 acc)], scr := scr })
        Val.cell (fun acc ch => Step.next (acc + u16 ch.w)) ?_ line 0 0, foldS_width]
      · by_cases h1 : w < lineWidth line
        · by_cases h2 : c.maxW < lineWidth line <;> simp [h1, h2]
        · by_cases h2 : c.maxW < w <;> simp [h1, h2]
      · intro a ch i
        simp

theorem textFindContainerSize_hard_body_eq_model (R : Ro) (c : Ctx) (scr : Screen)
    (hs : R.fields "Softwrap" = some (.bool false)) (hc : R.fields "Content" = some .text) :
    (run R SurfaceBodies.textFindContainerSize SurfaceBodies.textFindContainerSizeParams [.wid 0, .ctx c] scr).map (·.1)
      = .ok (.size (findContainerSize true c R.hard).1 (findContainerSize true c R.hard).2) := by
  unfold SurfaceBodies.textFindContainerSize SurfaceBodies.textFindContainerSizeParams
  simp [hs, hc]
  rw [loopS_foldS R _ 3 (.range "_" "v6")
    (fun (a : UInt16 × UInt16) => { ρ := [("r", .wid 0), ("v0", .ctx c), ("v1", .size a.1 a.2)], scr := scr })
    Val.strOf (sizeStep c.maxW c.maxH) ?_ R.hard 0 (0, 0)]
  · rcases foldS_sizeStep c.maxW c.maxH R.hard 0 0 with h | h <;> simp [h, findContainerSize]
  · intro a line i
    obtain ⟨w, h⟩ := a
    by_cases hg : c.maxH ≤ h
    · simp [sizeStep, hg]
    · simp [sizeStep, hg]
      rw [loopS_foldS R _ 6 (.range "_" "v9")
        (fun (acc : UInt16) => { ρ := [("r", Val.wid 0), ("v0", Val.ctx c), ("v1", Val.size w (h + 1)), ("v6", Val.strOf line),
                ("v7", Val.cells line), ("v8", Val.u16 acc)], scr := scr })
        Val.cell (fun acc ch => Step.next (acc + u16 ch.w)) ?_ line 0 0, foldS_width]
      · by_cases h1 : w < lineWidth line
        · by_cases h2 : c.maxW < lineWidth line <;> simp [h1, h2]
        · by_cases h2 : c.maxW < w <;> simp [h1, h2]
      · intro a ch i
        simp

theorem richFindContainerSize_soft_body_eq_model (R : Ro) (c : Ctx) (cells : List Cell) (scr : Screen)
    (hs : R.fields "Softwrap" = some (.bool true)) (hw : R.wrapW = c.maxW) :
    (run R SurfaceBodies.richFindContainerSize SurfaceBodies.richFindContainerSizeParams [.wid 0, .cells cells, .ctx c] scr).map (·.1)
      = .ok (.size (findContainerSize true c R.soft).1 (findContainerSize true c R.soft).2) := by
  unfold SurfaceBodies.richFindContainerSize SurfaceBodies.richFindContainerSizeParams
  simp [hs, hw]
  rw [loopS_scan R _ 5 "v3" false
    (fun sc (a : UInt16 × UInt16) => { ρ := [("r", .wid 0), ("v0", .cells cells), ("v1", .ctx c), ("v2", .size a.1 a.2), ("v3", sc)], scr := scr })
    (sizeStep c.maxW c.maxH) ?_ R.soft 0 (Val.scanner false R.soft []) (0, 0)]
  · rcases foldS_sizeStep c.maxW c.maxH R.soft 0 0 with h | h <;> simp [h, findContainerSize]
  · intro sc a line rest
    obtain ⟨w, h⟩ := a
    by_cases hg : c.maxH ≤ h
    · simp [sizeStep, hg]
    · simp [sizeStep, hg]
      rw [loopS_foldS R _ 7 (.range "_" "v6")
        (fun (acc : UInt16) => { ρ := [("r", Val.wid 0), ("v0", .cells cells), ("v1", Val.ctx c), ("v2", Val.size w (h + 1)), ("v3", Val.scanner false rest line),
                ("v4", Val.cells line), ("v5", Val.u16 acc)], scr := scr })
        Val.cell (fun acc ch => Step.next (acc + u16 ch.w)) ?_ line 0 0, foldS_width]
      · by_cases h1 : w < lineWidth line
        · by_cases h2 : c.maxW < lineWidth line <;> simp [h1, h2]
        · by_cases h2 : c.maxW < w <;> simp [h1, h2]
      · intro a ch i
        simp

theorem richFindContainerSize_hard_body_eq_model (R : Ro) (c : Ctx) (cells : List Cell) (scr : Screen)
    (hs : R.fields "Softwrap" = some (.bool false)) :
    (run R SurfaceBodies.richFindContainerSize SurfaceBodies.richFindContainerSizeParams [.wid 0, .cells cells, .ctx c] scr).map (·.1)
      = .ok (.size (findContainerSize true c R.hard).1 (findContainerSize true c R.hard).2) := by
  unfold SurfaceBodies.richFindContainerSize SurfaceBodies.richFindContainerSizeParams
  simp [hs]
  rw [loopS_scan R _ 5 "v7" false
    (fun sc (a : UInt16 × UInt16) => { ρ := [("r", .wid 0), ("v0", .cells cells), ("v1", .ctx c), ("v2", .size a.1 a.2), ("v7", sc)], scr := scr })
    (sizeStep c.maxW c.maxH) ?_ R.hard 0 (Val.scanner false R.hard []) (0, 0)]
  · rcases foldS_sizeStep c.maxW c.maxH R.hard 0 0 with h | h <;> simp [h, findContainerSize]
  · intro sc a line rest
    obtain ⟨w, h⟩ := a
    by_cases hg : c.maxH ≤ h
    · simp [sizeStep, hg]
    · simp [sizeStep, hg]
      rw [loopS_foldS R _ 7 (.range "_" "v10")
        (fun (acc : UInt16) => { ρ := [("r", Val.wid 0), ("v0", .cells cells), ("v1", Val.ctx c), ("v2", Val.size w (h + 1)), ("v7", Val.scanner false rest line),
                ("v8", Val.cells line), ("v9", Val.u16 acc)], scr := scr })
        Val.cell (fun acc ch => Step.next (acc + u16 ch.w)) ?_ line 0 0, foldS_width]
      · by_cases h1 : w < lineWidth line
        · by_cases h2 : c.maxW < lineWidth line <;> simp [h1, h2]
        · by_cases h2 : c.maxW < w <;> simp [h1, h2]
      · intro a ch i
        simp

/-- The executed body of `Surface.render` — the own-buffer loop (`row := i / int(W)`, `col := i %
int(W)`, `win.SetCell`: a division by zero for a surface of width 0 with cells), the cursor branch, `sort.Slice` of the
children by ZIndex, and the loop that renders every child into `win.New(col, row, int(W), int(H))` — with the recursive calls
being the model's `render`, IS the model's `render`: same screen, same panic.  (The model is the fixed point of the body.)
EVERY cell of the buffer is handed to `SetCell`, blank or not; the children are painted in the sorted order; and the receiver's
`Children` are left sorted in place (`sortedInPlace`: the slice shares its array with the caller's surface — what hit-testing
sees afterwards). -/
theorem render_body_eq_model (R : Ro) (s : Surface) (win : Win) (scr : Screen) (foc : Nat)
    (hR : R.render = render) :
    (run R SurfaceBodies.render SurfaceBodies.renderParams [.surf s, .win win, .wid foc] scr).map (·.2)
      = (match render s win scr with
         | .ok scr' => .ok (some (.surf (sortedInPlace s)), scr')
         | .error p => .error (.panic p)) := by
  unfold SurfaceBodies.render SurfaceBodies.renderParams
  cases s with
  | mk w h buf kids =>
  simp
  rw [loopS_foldSI R _ 3 (.range "v2" "v3")
    (fun (sc : Screen) => { ρ := [("r", .surf (.mk w h buf kids)), ("v0", .win win), ("v1", .wid foc)], scr := sc })
    Val.cell (cellStep w win) ?_ buf 0 scr, foldSI_cells]
  · cases hz : w == 0 && !buf.isEmpty
    · simp
      rw [toVals_eq, Kids.sortZ, toL_ofL]
      rw [loopS_foldS R _ 3 (.range "_" "v8")
        (fun (sc : Screen) => { ρ := [("r", .surf (.mk w h buf (Kids.ofL (sortByZ (Kids.toL kids))))), ("v0", .win win), ("v1", .wid foc)], scr := sc })
        subOf (kidStep win) ?_ (sortByZ (Kids.toL kids)) 0 _, foldS_kids, any_sortByZ]
      · cases hk : (Kids.toL kids).any fun p => p.2.2.2.divZero
        · simp [hk, render, Surface.divZero, divZero_eq, hz, Surface.paint, cellOps, applyPaint_append, layers_eq, sortedInPlace, Kids.sortZ,
            sortByZ_map (kidPaint win)]
        · simp [hk, render, Surface.divZero, divZero_eq]
      · intro sc p i
        obtain ⟨z, c, r, ch⟩ := p
        cases ch with
        | mk cw chh cb ck =>
        simp [subOf, kidStep, kidWin, kidWinP, hR]
        cases render (Surface.mk cw chh cb ck) (win.new c r (↑cw.toNat) (↑chh.toNat)) sc <;> simp
    · simp [render, Surface.divZero, hz]
  · intro sc c i
    by_cases hw : w = 0
    · simp [cellStep, hw]
    · have hw' : ¬ (w.toNat = 0) := by
        intro h; apply hw; apply UInt16.toNat_inj.1; simpa using h
      simp [cellStep, hw, hw']
      rw [Int.tmod_eq_emod_of_nonneg (Int.natCast_nonneg i)]

/-! ### drawSoftwrap (RichText and Text)

The row loop `for scanner.Scan() { var col uint16; if row >= Max.Height { return s, nil }; chars := …; for _, char := range chars
{ if col >= Max.Width { break }; s.WriteCell(col, row, cell); col += uint16(char.Width) }; row += 1 }` executed on the lines the
scanner yields, on the surface `NewSurface(size.Width, size.Height)` (Text: after `Fill(t.Style)`, every cell restyled
`Cell{Character: char, Style: t.Style}`), is the model's `drawLines` — the function `Props/C14` (no panic, sizes) and
`Props/C16Draw` (every emitted line on its row) are about.  `R.self` gives the results of the sibling methods
(`cells`, `findContainerSize`: the latter is `*FindContainerSize_*_body_eq_model` above). -/

theorem richDrawSoftwrap_body_eq_model (R : Ro) (c : Ctx) (cells : List Cell) (sw sh : UInt16) (scr : Screen)
    (hcells : R.self "meth:cells" [.wid 0, .ctx c] = some (.ok (.cells cells)))
    (hsize : R.self "meth:findContainerSize" [.wid 0, .cells cells, .ctx c] = some (.ok (.size sw sh)))
    (hw : R.wrapW = c.maxW) :
    (run R SurfaceBodies.richDrawSoftwrap SurfaceBodies.richDrawSoftwrapParams [.wid 0, .ctx c] scr).map (·.1)
      = (match drawLines exactA (loopM false none) c.maxW c.maxH R.soft 0 (newSurface exactA sw sh) with
         | .ok s => .ok (.tup (.surf s) .nil)
         | .error p => .error (.panic p)) := by
  unfold SurfaceBodies.richDrawSoftwrap SurfaceBodies.richDrawSoftwrapParams
  simp [hcells, hsize, hw]
  rw [loopS_scan R _ 7 "v4" false
    (fun sc (a : UInt16 × Surface) => { ρ := [("r", .wid 0), ("v0", .ctx c), ("v1", .cells cells), ("v2", .size sw sh),
        ("v3", .surf a.2), ("v4", sc), ("v5", .u16 a.1)], scr := scr })
    (rowStep false none id c.maxW c.maxH) ?_ R.soft 0 (Val.scanner false R.soft []) (0, newSurface exactA sw sh)]
  · rcases foldS_rowStep false none id c.maxW c.maxH R.soft 0 (newSurface exactA sw sh) with ⟨row', s', h1 | h1, h2⟩ | ⟨p, h1, h2⟩ <;>
      (rw [List.map_id] at h2; rw [h1, h2]; simp)
  · intro sc a line rest
    obtain ⟨row, s⟩ := a
    by_cases hg : c.maxH ≤ row
    · simp [rowStep, hg]
    · simp [rowStep, hg]
      rw [loopS_foldS R _ 9 (.range "_" "v8")
        (fun (a : UInt16 × Surface) => { ρ := [("r", .wid 0), ("v0", .ctx c), ("v1", .cells cells), ("v2", .size sw sh),
            ("v3", .surf a.2), ("v4", Val.scanner false rest line), ("v5", .u16 row), ("v6", .u16 a.1), ("v7", .cells line)], scr := scr })
        Val.cell (colStep false none c.maxW row (tooWide c.maxW line)) ?_ line 0 (0, s)]
      · rcases foldS_colStep false none c.maxW row (tooWide c.maxW line) line 0 s with ⟨c', s', h1, h2⟩ | ⟨p, h1, h2⟩ <;>
          (rw [h1, h2]; simp)
      · intro a ch i
        obtain ⟨col, s0⟩ := a
        by_cases hc : c.maxW ≤ col
        · simp [colStep, hc]
        · simp [colStep, hc]
          cases writeCell exactA s0 col row ch <;> simp

theorem textDrawSoftwrap_body_eq_model (R : Ro) (c : Ctx) (st : Nat) (sw sh : UInt16) (scr : Screen)
    (hsty : R.fields "Style" = some (.sty st)) (hcont : R.fields "Content" = some .text)
    (hsize : R.self "meth:findContainerSize" [.wid 0, .ctx c] = some (.ok (.size sw sh)))
    (hw : R.wrapW = c.maxW) :
    (run R SurfaceBodies.textDrawSoftwrap SurfaceBodies.textDrawSoftwrapParams [.wid 0, .ctx c] scr).map (·.1)
      = (match drawLines exactA (loopM false none) c.maxW c.maxH (R.soft.map (List.map (restyle st))) 0 (fillStyle (newSurface exactA sw sh) st) with
         | .ok s => .ok (.tup (.surf s) .nil)
         | .error p => .error (.panic p)) := by
  unfold SurfaceBodies.textDrawSoftwrap SurfaceBodies.textDrawSoftwrapParams
  simp [hsty, hcont, hsize, hw]
  rw [loopS_scan R _ 6 "v3" true
    (fun sc (a : UInt16 × Surface) => { ρ := [("r", .wid 0), ("v0", .ctx c), ("v1", .size sw sh),
        ("v2", .surf a.2), ("v3", sc), ("v4", .u16 a.1)], scr := scr })
    (rowStep false none (List.map (restyle st)) c.maxW c.maxH) ?_ R.soft 0 (Val.scanner true R.soft []) (0, fillStyle (newSurface exactA sw sh) st)]
  · rcases foldS_rowStep false none (List.map (restyle st)) c.maxW c.maxH R.soft 0 (fillStyle (newSurface exactA sw sh) st) with
      ⟨row', s', h1 | h1, h2⟩ | ⟨p, h1, h2⟩ <;> (rw [h1, h2]; simp)
  · intro sc a line rest
    obtain ⟨row, s⟩ := a
    by_cases hg : c.maxH ≤ row
    · simp [rowStep, hg]
    · simp [rowStep, hg]
      rw [loopS_foldS R _ 8 (.range "_" "v7")
        (fun (a : UInt16 × Surface) => { ρ := [("r", .wid 0), ("v0", .ctx c), ("v1", .size sw sh),
            ("v2", .surf a.2), ("v3", Val.scanner true rest line), ("v4", .u16 row), ("v5", .u16 a.1), ("v6", .cells line)], scr := scr })
        Val.cell (fun a ch => colStep false none c.maxW row (tooWide c.maxW (line.map (restyle st))) a (restyle st ch)) ?_ line 0 (0, s), foldS_map]
      · rcases foldS_colStep false none c.maxW row (tooWide c.maxW (line.map (restyle st))) (line.map (restyle st)) 0 s with
          ⟨c', s', h1, h2⟩ | ⟨p, h1, h2⟩ <;> (rw [h1, h2]; simp)
      · intro a ch i
        obtain ⟨col, s0⟩ := a
        by_cases hc : c.maxW ≤ col
        · simp [colStep, hc]
        · simp [colStep, hc, hsty, restyle]
          cases writeCell exactA s0 col row { g := ch.g, w := ch.w, st := st } <;> simp

/-- **RichText.drawSoftwrap = the model**: with `findContainerSize` returning what its own executed body returns
(`richFindContainerSize_soft_body_eq_model`), the executed body of `RichText.drawSoftwrap` is `Layout.drawText` in the
soft-wrap mode of the current source — the very function `Props.C14.size_le_max_src` and `Props.C16Draw` are about. -/
theorem richDrawSoftwrap_is_drawText (R : Ro) (c : Ctx) (cells : List Cell) (scr : Screen)
    (hcells : R.self "meth:cells" [.wid 0, .ctx c] = some (.ok (.cells cells)))
    (hsize : R.self "meth:findContainerSize" [.wid 0, .cells cells, .ctx c]
      = some (.ok (.size (findContainerSize true c R.soft).1 (findContainerSize true c R.soft).2)))
    (hw : R.wrapW = c.maxW) :
    (run R SurfaceBodies.richDrawSoftwrap SurfaceBodies.richDrawSoftwrapParams [.wid 0, .ctx c] scr).map (·.1)
      = (match drawText exactA (richMode false) c R.soft with
         | .ok s => .ok (.tup (.surf s) .nil)
         | .error p => .error (.panic p)) := by
  rw [richDrawSoftwrap_body_eq_model R c cells _ _ scr hcells hsize hw,
    drawText_eq_drawLines (richMode false) none c R.soft (richMode_src false) (fun h => nomatch h)]
  rfl

/-- **Text.drawSoftwrap = the model** (`Layout.drawText` in Text's soft-wrap mode, on the restyled lines). -/
theorem textDrawSoftwrap_is_drawText (R : Ro) (c : Ctx) (st : Nat) (scr : Screen)
    (hsty : R.fields "Style" = some (.sty st)) (hcont : R.fields "Content" = some .text)
    (hsize : R.self "meth:findContainerSize" [.wid 0, .ctx c]
      = some (.ok (.size (findContainerSize true c (R.soft.map (List.map (restyle st)))).1
                         (findContainerSize true c (R.soft.map (List.map (restyle st)))).2)))
    (hw : R.wrapW = c.maxW) :
    (run R SurfaceBodies.textDrawSoftwrap SurfaceBodies.textDrawSoftwrapParams [.wid 0, .ctx c] scr).map (·.1)
      = (match drawText exactA (textMode false st) c (R.soft.map (List.map (restyle st))) with
         | .ok s => .ok (.tup (.surf s) .nil)
         | .error p => .error (.panic p)) := by
  rw [textDrawSoftwrap_body_eq_model R c st _ _ scr hsty hcont hsize hw,
    drawText_eq_drawLines (textMode false st) none c _ (textMode_src false st) (fun h => nomatch h)]
  rfl

theorem findContainerSize_restyle (st : Nat) (c : Ctx) (lines : List (List Cell)) :
    findContainerSize true c (lines.map (List.map (restyle st))) = findContainerSize true c lines := by
  have : ∀ (ls : List (List Cell)) (w h : UInt16),
      sizeLoop true c.maxW c.maxH (ls.map (List.map (restyle st))) w h = sizeLoop true c.maxW c.maxH ls w h := by
    intro ls; induction ls with
    | nil => intro w h; rfl
    | cons l r ih => intro w h; simp only [List.map_cons, sizeLoop, lineWidth_restyle, ih]
  exact this lines 0 0

/-- **Fill**: `for i := range s.Buffer { s.Buffer[i].Style = style }` (each store a CHECKED index expression) is the model's
`fillStyle`: every cell keeps its grapheme and width and gets the style; never a panic. -/
theorem fill_body_eq_model (R : Ro) (s : Surface) (st : Nat) (scr : Screen) :
    (run R SurfaceBodies.fill SurfaceBodies.fillParams [.surf s, .sty st] scr).map (·.2.1)
      = .ok (some (.surf (fillStyle s st))) := by
  unfold SurfaceBodies.fill SurfaceBodies.fillParams
  cases s with
  | mk w h buf kids =>
  simp
  rw [loopS_foldSI R _ 2 (.range "v1" "_")
    (fun (b : List Cell) => { ρ := [("r", .surf (.mk w h b kids)), ("v0", .sty st)], scr := scr })
    Val.cell (fillStep st) ?_ buf 0 buf]
  · have := foldSI_fill st buf [] buf rfl
    simp only [List.length_nil, List.nil_append] at this
    rw [this]; simp [fillStyle]
  · intro b c i
    simp [fillStep]
    cases b[i]? <;> simp

/-- `Size.HasUnboundedWidth` / `HasUnboundedHeight`: the dimension equals `math.MaxUint16` = 65535 (`Layout.unbounded`). -/
theorem hasUnbounded_body_eq_model (R : Ro) (w h : UInt16) (scr : Screen) :
    (run R SurfaceBodies.hasUnboundedWidth SurfaceBodies.hasUnboundedWidthParams [.size w h] scr).map (·.1)
        = .ok (.bool (decide (w = unbounded))) ∧
    (run R SurfaceBodies.hasUnboundedHeight SurfaceBodies.hasUnboundedHeightParams [.size w h] scr).map (·.1)
        = .ok (.bool (decide (h = unbounded))) := by
  unfold SurfaceBodies.hasUnboundedWidth SurfaceBodies.hasUnboundedWidthParams SurfaceBodies.hasUnboundedHeight SurfaceBodies.hasUnboundedHeightParams
  have h65 : UInt16.ofInt 65535 = unbounded := by decide
  constructor <;>
    simp [h65]

/-! ### Draw with `Softwrap = false` (RichText and Text): the row loop with the ellipsis branch

`var lineWidth int; for … { lineWidth += char.Width }; truncate := lineWidth > int(ctx.Max.Width)`, then per character: `break` at
`col >= Max.Width`; when `truncate && col+uint16(char.Width) >= Max.Width` the "…" cell (RichText: in the style of the character it
replaces, Text: in the widget's style) is written and the row ends (`break cols`); otherwise the character is written and
`col += uint16(char.Width)` — executed, this is the model's `drawLines` in the hard mode (`loopM true`: ellipsis conjuncts
`[lineTooWide, reach]`). -/

theorem richDraw_hard_body_eq_model (R : Ro) (c : Ctx) (cells : List Cell) (sw sh : UInt16) (scr : Screen)
    (hs : R.fields "Softwrap" = some (.bool false))
    (hcells : R.self "meth:cells" [.wid 0, .ctx c] = some (.ok (.cells cells)))
    (hsize : R.self "meth:findContainerSize" [.wid 0, .cells cells, .ctx c] = some (.ok (.size sw sh))) :
    (run R SurfaceBodies.richDraw SurfaceBodies.richDrawParams [.wid 0, .ctx c] scr).map (·.1)
      = (match drawLines exactA (loopM true none) c.maxW c.maxH R.hard 0 (newSurface exactA sw sh) with
         | .ok s => .ok (.tup (.surf s) .nil)
         | .error p => .error (.panic p)) := by
  unfold SurfaceBodies.richDraw SurfaceBodies.richDrawParams
  simp [hs, hcells, hsize]
  rw [loopS_scan R _ 7 "v4" false
    (fun sc (a : UInt16 × Surface) => { ρ := [("r", .wid 0), ("v0", .ctx c), ("v1", .cells cells), ("v2", .size sw sh),
        ("v3", .surf a.2), ("v4", sc), ("v5", .u16 a.1)], scr := scr })
    (rowStep true none id c.maxW c.maxH) ?_ R.hard 0 (Val.scanner false R.hard []) (0, newSurface exactA sw sh)]
  · rcases foldS_rowStep true none id c.maxW c.maxH R.hard 0 (newSurface exactA sw sh) with ⟨row', s', h1 | h1, h2⟩ | ⟨p, h1, h2⟩ <;>
      (rw [List.map_id] at h2; rw [h1, h2]; simp)
  · intro sc a line rest
    obtain ⟨row, s⟩ := a
    by_cases hg : c.maxH ≤ row
    · simp [rowStep, hg]
    · simp [rowStep, hg]
      rw [loopS_foldS R _ 10 (.range "_" "v9")
        (fun (acc : Int) => { ρ := [("r", .wid 0), ("v0", .ctx c), ("v1", .cells cells), ("v2", .size sw sh), ("v3", .surf s),
            ("v4", Val.scanner false rest line), ("v5", .u16 row), ("v6", .u16 0), ("v7", .cells line), ("v8", .int acc)], scr := scr })
        Val.cell (fun acc ch => Step.next (acc + ch.w)) ?_ line 0 0, foldS_widthInt]
      · simp
        rw [show decide ((c.maxW.toNat : Int) < lineWidthInt line) = tooWide c.maxW line from rfl]
        rw [loopS_foldS R _ 11 (.range "_" "v11")
          (fun (a : UInt16 × Surface) => { ρ := [("r", .wid 0), ("v0", .ctx c), ("v1", .cells cells), ("v2", .size sw sh), ("v3", .surf a.2),
              ("v4", Val.scanner false rest line), ("v5", .u16 row), ("v6", .u16 a.1), ("v7", .cells line), ("v8", .int (lineWidthInt line)),
              ("v10", .bool (tooWide c.maxW line))], scr := scr })
          Val.cell (colStep true none c.maxW row (tooWide c.maxW line)) ?_ line 0 (0, s)]
        · rcases foldS_colStep true none c.maxW row (tooWide c.maxW line) line 0 s with ⟨c', s', h1, h2⟩ | ⟨p, h1, h2⟩ <;>
            (rw [h1, h2]; simp)
        · intro a ch i
          obtain ⟨col, s0⟩ := a
          by_cases hc : c.maxW ≤ col
          · simp [colStep, hc]
          · cases htw : tooWide c.maxW line
            · simp [colStep, hc]
              cases writeCell exactA s0 col row ch <;> simp
            · by_cases hr : c.maxW ≤ col + UInt16.ofInt ch.w
              · simp [colStep, hc, hr, gEllipsis]
                cases writeCell exactA s0 col row { g := 2, w := 1, st := ch.st } <;> simp
              · simp [colStep, hc, hr]
                cases writeCell exactA s0 col row ch <;> simp
      · intro a ch i
        simp

theorem textDraw_hard_body_eq_model (R : Ro) (c : Ctx) (st : Nat) (sw sh : UInt16) (scr : Screen)
    (hs : R.fields "Softwrap" = some (.bool false))
    (hsty : R.fields "Style" = some (.sty st)) (hcont : R.fields "Content" = some .text)
    (hsize : R.self "meth:findContainerSize" [.wid 0, .ctx c] = some (.ok (.size sw sh))) :
    (run R SurfaceBodies.textDraw SurfaceBodies.textDrawParams [.wid 0, .ctx c] scr).map (·.1)
      = (match drawLines exactA (loopM true (some st)) c.maxW c.maxH (R.hard.map (List.map (restyle st))) 0 (fillStyle (newSurface exactA sw sh) st) with
         | .ok s => .ok (.tup (.surf s) .nil)
         | .error p => .error (.panic p)) := by
  unfold SurfaceBodies.textDraw SurfaceBodies.textDrawParams
  simp [hs, hsty, hcont, hsize]
  rw [loopS_foldS R _ 5 (.range "_" "v4")
    (fun (a : UInt16 × Surface) => { ρ := [("r", .wid 0), ("v0", .ctx c), ("v1", .size sw sh),
        ("v2", .surf a.2), ("v3", .u16 a.1)], scr := scr })
    Val.strOf (rowStep true (some st) (List.map (restyle st)) c.maxW c.maxH)
    ?_ R.hard 0 (0, fillStyle (newSurface exactA sw sh) st)]
  · rcases foldS_rowStep true (some st) (List.map (restyle st)) c.maxW c.maxH R.hard 0 (fillStyle (newSurface exactA sw sh) st) with
      ⟨row', s', h1 | h1, h2⟩ | ⟨p, h1, h2⟩ <;> (rw [h1, h2]; simp)
  · intro a line i
    obtain ⟨row, s⟩ := a
    by_cases hg : c.maxH ≤ row
    · simp [rowStep, hg]
    · simp [rowStep, hg]
      rw [loopS_foldS R _ 9 (.range "_" "v8")
        (fun (acc : Int) => { ρ := [("r", .wid 0), ("v0", .ctx c), ("v1", .size sw sh), ("v2", .surf s), ("v3", .u16 row),
            ("v4", .strOf line), ("v5", .u16 0), ("v6", .cells line), ("v7", .int acc)], scr := scr })
        Val.cell (fun acc ch => Step.next (acc + ch.w)) ?_ line 0 0, foldS_widthInt]
      · simp
        rw [show decide ((c.maxW.toNat : Int) < lineWidthInt line) = tooWide c.maxW line from rfl]
        rw [loopS_foldS R _ 10 (.range "_" "v10")
          (fun (a : UInt16 × Surface) => { ρ := [("r", .wid 0), ("v0", .ctx c), ("v1", .size sw sh), ("v2", .surf a.2), ("v3", .u16 row),
              ("v4", .strOf line), ("v5", .u16 a.1), ("v6", .cells line), ("v7", .int (lineWidthInt line)),
              ("v9", .bool (tooWide c.maxW line))], scr := scr })
          Val.cell (fun a ch => colStep true (some st) c.maxW row (tooWide c.maxW line) a (restyle st ch)) ?_ line 0 (0, s), foldS_map]
        · rw [tooWide_restyle]
          rcases foldS_colStep true (some st) c.maxW row (tooWide c.maxW line) (line.map (restyle st)) 0 s with
            ⟨c', s', h1, h2⟩ | ⟨p, h1, h2⟩ <;> (rw [h1, h2]; simp)
        · intro a ch i
          obtain ⟨col, s0⟩ := a
          by_cases hc : c.maxW ≤ col
          · simp [colStep, hc]
          · cases htw : tooWide c.maxW line
            · simp [colStep, hc, hsty, restyle]
              cases writeCell exactA s0 col row { g := ch.g, w := ch.w, st := st } <;> simp
            · by_cases hr : c.maxW ≤ col + UInt16.ofInt ch.w
              · simp [colStep, hc, hr, gEllipsis, hsty, restyle]
                cases writeCell exactA s0 col row { g := 2, w := 1, st := st } <;> simp
              · simp [colStep, hc, hr, hsty, restyle]
                cases writeCell exactA s0 col row { g := ch.g, w := ch.w, st := st } <;> simp
      · intro a ch i
        simp

/-- `Draw` with `Softwrap = true` hands over to `drawSoftwrap` (both widgets). -/
theorem draw_soft_delegates (R : Ro) (c : Ctx) (scr : Screen) (v : Val)
    (hs : R.fields "Softwrap" = some (.bool true)) (hd : R.self "meth:drawSoftwrap" [.wid 0, .ctx c] = some (.ok v)) :
    (run R SurfaceBodies.richDraw SurfaceBodies.richDrawParams [.wid 0, .ctx c] scr).map (·.1) = .ok v ∧
    (run R SurfaceBodies.textDraw SurfaceBodies.textDrawParams [.wid 0, .ctx c] scr).map (·.1) = .ok v := by
  unfold SurfaceBodies.richDraw SurfaceBodies.richDrawParams SurfaceBodies.textDraw SurfaceBodies.textDrawParams
  constructor <;> simp [hs, hd]

/-- **RichText.Draw (hard wrap) = the model**: with `findContainerSize` returning what its executed body returns, the executed
body is `Layout.drawText` in the hard-wrap mode of the current source (`richMode true`: its ellipsis conjuncts are read from the
source and are `[lineTooWide, reach]`, `Props.C14.facts_ellipsis_cond`). -/
theorem richDraw_hard_is_drawText (R : Ro) (c : Ctx) (cells : List Cell) (scr : Screen)
    (hs : R.fields "Softwrap" = some (.bool false))
    (hcells : R.self "meth:cells" [.wid 0, .ctx c] = some (.ok (.cells cells)))
    (hsize : R.self "meth:findContainerSize" [.wid 0, .cells cells, .ctx c]
      = some (.ok (.size (findContainerSize true c R.hard).1 (findContainerSize true c R.hard).2))) :
    (run R SurfaceBodies.richDraw SurfaceBodies.richDrawParams [.wid 0, .ctx c] scr).map (·.1)
      = (match drawText exactA (richMode true) c R.hard with
         | .ok s => .ok (.tup (.surf s) .nil)
         | .error p => .error (.panic p)) := by
  rw [richDraw_hard_body_eq_model R c cells _ _ scr hs hcells hsize,
    drawText_eq_drawLines (richMode true) none c R.hard (richMode_src true) (fun _ => rfl)]
  rfl

/-- **Text.Draw (hard wrap) = the model** (`textMode true st`, on the restyled lines). -/
theorem textDraw_hard_is_drawText (R : Ro) (c : Ctx) (st : Nat) (scr : Screen)
    (hs : R.fields "Softwrap" = some (.bool false))
    (hsty : R.fields "Style" = some (.sty st)) (hcont : R.fields "Content" = some .text)
    (hsize : R.self "meth:findContainerSize" [.wid 0, .ctx c]
      = some (.ok (.size (findContainerSize true c (R.hard.map (List.map (restyle st)))).1
                         (findContainerSize true c (R.hard.map (List.map (restyle st)))).2))) :
    (run R SurfaceBodies.textDraw SurfaceBodies.textDrawParams [.wid 0, .ctx c] scr).map (·.1)
      = (match drawText exactA (textMode true st) c (R.hard.map (List.map (restyle st))) with
         | .ok s => .ok (.tup (.surf s) .nil)
         | .error p => .error (.panic p)) := by
  rw [textDraw_hard_body_eq_model R c st _ _ scr hs hsty hcont hsize,
    drawText_eq_drawLines (textMode true st) (some st) c _ (textMode_src true st) (fun _ => rfl)]
  rfl

/-! ### Button.Draw

The bounded-constraint panic; the style chosen by the tagless `switch` (translated as the if / else-if chain it is): mouseDown,
else hover, else focused, else default; `l := text.New(b.Label); l.Style = style; center := center.Center{Child: l};
s, err := center.Draw(ctx)`; `s.Widget = b; s.Fill(style)`.  `R.labelDraw st ctx` is that Center-around-the-label draw; with it
being the model's (soft-wrapped Text in style `st`, centred: `centerDraw_body_eq_model` + `textDrawSoftwrap_is_drawText`), the
executed body is the model's `drawWith … (.button st lines)`. -/

theorem buttonDraw_body_eq (R : Ro) (c : Ctx) (scr : Screen) (md hv fc : Bool) (sa sb sc sd : Nat) (sid : Nat)
    (h1 : R.fields "mouseDown" = some (.bool md)) (h2 : R.fields "hover" = some (.bool hv)) (h3 : R.fields "focused" = some (.bool fc))
    (h4 : R.fields "Style" = some (.wid sid))
    (h5 : R.fields "MouseDown" = some (.sty sa)) (h6 : R.fields "Hover" = some (.sty sb)) (h7 : R.fields "Focus" = some (.sty sc))
    (h8 : R.fields "Default" = some (.sty sd)) (h9 : R.fields "Label" = some .text) :
    (run R SurfaceBodies.buttonDraw SurfaceBodies.buttonDrawParams [.wid 0, .ctx c] scr).map (·.1)
      = (if c.maxH == unbounded || c.maxW == unbounded then .error (.panic .explicit)
         else match R.labelDraw (buttonStyle md hv fc sa sb sc sd) c with
           | .error p => .error (.panic p)
           | .ok s => .ok (.tup (.surf (fillStyle s (buttonStyle md hv fc sa sb sc sd))) .nil)) := by
  unfold SurfaceBodies.buttonDraw SurfaceBodies.buttonDrawParams
  cases g1 : c.maxH == unbounded
  · cases g2 : c.maxW == unbounded
    · -- the flags in the order of the switch: the first that is set selects the style
      cases md
      · cases hv
        · cases fc
          · simp [g1, g2, h1, h2, h3, h4, h8, h9, buttonStyle]
            cases R.labelDraw sd c <;> simp
          · simp [g1, g2, h1, h2, h3, h4, h7, h9, buttonStyle]
            cases R.labelDraw sc c <;> simp
        · simp [g1, g2, h1, h2, h4, h6, h9, buttonStyle]
          cases R.labelDraw sb c <;> simp
      · simp [g1, g2, h1, h4, h5, h9, buttonStyle]
        cases R.labelDraw sa c <;> simp
    · simp [g1, g2]
  · simp [g1]

theorem buttonDraw_body_eq_model (R : Ro) (tm : Bool → Nat → TextMode) (rm : Bool → TextMode) (lines : List (List Cell))
    (c : Ctx) (scr : Screen) (md hv fc : Bool) (sa sb sc sd : Nat) (sid : Nat)
    (h1 : R.fields "mouseDown" = some (.bool md)) (h2 : R.fields "hover" = some (.bool hv)) (h3 : R.fields "focused" = some (.bool fc))
    (h4 : R.fields "Style" = some (.wid sid))
    (h5 : R.fields "MouseDown" = some (.sty sa)) (h6 : R.fields "Hover" = some (.sty sb)) (h7 : R.fields "Focus" = some (.sty sc))
    (h8 : R.fields "Default" = some (.sty sd)) (h9 : R.fields "Label" = some .text)
    (hL : R.labelDraw = fun st' c' =>
      match drawText exactA (tm false st') { minW := 0, minH := 0, maxW := c'.maxW, maxH := c'.maxH } lines with
      | .error e => .error e
      | .ok ch => .ok (centerAround exactA c' ch)) :
    (run R SurfaceBodies.buttonDraw SurfaceBodies.buttonDrawParams [.wid 0, .ctx c] scr).map (·.1)
      = (match drawWith exactA tm rm (.button (buttonStyle md hv fc sa sb sc sd) lines) c with
         | .ok s => .ok (.tup (.surf s) .nil)
         | .error p => .error (.panic p)) := by
  rw [buttonDraw_body_eq R c scr md hv fc sa sb sc sd sid h1 h2 h3 h4 h5 h6 h7 h8 h9, hL]
  have hb : VaxisModel.Gen.SurfaceFacts.boundedPanicWidgets.contains "button.Button" = true := by decide
  simp only [drawWith, boundedPanic, hb, Bool.true_and]
  by_cases g : (c.maxH == unbounded || c.maxW == unbounded) = true
  · simp [g]
  · simp only [g]
    cases drawText exactA (tm false (buttonStyle md hv fc sa sb sc sd)) { minW := 0, minH := 0, maxW := c.maxW, maxH := c.maxH } lines <;> simp

/-! ### TextField.Draw

The zero-constraint return (`vxfw.Surface{}`), `NewSurface(Max.Width, 1)`, the cursor state (not modelled: the stores are
accepted and change nothing), the `var (…)` block, the grapheme loop `for len(rest) > 0 { cluster, rest, _, state =
uniseg.FirstGraphemeClusterInString(rest, state); for _, char := range ctx.Characters(cluster) { WriteCell(col, 0, Cell{char,
tf.Style}); col += uint16(char.Width) }; i += 1; if i == tf.cursor { … } }` (the value = its grapheme clusters, each known by
its characters: a parameter; at most one iteration per cluster, more would be a loop that does not end), the trailing cursor
fix-up.  Executed, this is the model's `drawField` (= `drawWith … (.field chars)`) on the characters of the value in the
field's style. -/

theorem textfieldDraw_body_eq_model (R : Ro) (c : Ctx) (st : Nat) (value : List (List Cell)) (cur : Int) (scr : Screen)
    (hv : R.fields "Value" = some (.clusters value)) (hsty : R.fields "Style" = some (.sty st))
    (hcur : R.fields "cursor" = some (.int cur)) :
    (run R SurfaceBodies.textfieldDraw SurfaceBodies.textfieldDrawParams [.wid 0, .ctx c] scr).map (·.1)
      = (match drawField exactA c (value.flatten.map (restyle st)) with
         | .ok s => .ok (.tup (.surf s) .nil)
         | .error p => .error (.panic p)) := by
  unfold SurfaceBodies.textfieldDraw SurfaceBodies.textfieldDrawParams
  have hsz : surfaceArgs "textfield.TextField.Draw" 0 = (.maxW, .lit 1) := by decide
  -- whichever way round the comparisons with 0 are written
  have g0 : ((0 : UInt16) = c.maxW) ↔ (c.maxW = 0) := eq_comm
  have g1 : ((0 : UInt16) = c.maxH) ↔ (c.maxH = 0) := eq_comm
  by_cases h0 : c.maxW = 0 <;> by_cases h1 : c.maxH = 0 <;>
    simp [drawField, g0, g1, h0, h1, ofInt_zero, hv, newSurfaceFor, hsz, evalSz]
  rw [loopW_iterW R _ 8 _
    (fun (a : TFSt) => { ρ := [("r", .wid 0), ("v0", .ctx c), ("v1", .surf a.surf), ("v2", .int a.count), ("v3", .u16 a.col),
        ("v4", a.last), ("v5", .clusters a.rest), ("v6", .int a.state)], scr := scr })
    tfMore (tfStep st) ?_ ?_ (value.length + 1) ⟨Val.str "", value, 0, 0, newSurface exactA c.maxW 1, -1⟩]
  · rcases iterW_tf st value (value.length + 1) (Val.str "") 0 0 (newSurface exactA c.maxW 1) (-1) (Nat.lt_succ_self _) with
      ⟨a1, a2, a3, a4, a5, g1, g2⟩ | ⟨p, g1, g2⟩
    · rw [List.map_flatten] at g2
      rw [g1, g2]
      simp [resW, hcur]
      by_cases hlt : a2 < cur <;> simp [hlt]
    · rw [List.map_flatten] at g2
      rw [g1, g2]; simp [resW]
  · intro a
    obtain ⟨v4, rest, i, col, s, s6⟩ := a
    cases rest with
    | nil => simp [tfMore]
    | cons cl r => simp [tfMore]
  · intro a hp
    obtain ⟨v4, rest, i, col, s, s6⟩ := a
    cases rest with
    | nil => simp [tfMore] at hp
    | cons cl r =>
      simp [tfStep]
      rw [loopS_foldS R _ 8 (.range "_" "v7")
        (fun (a : UInt16 × Surface) => { ρ := [("r", .wid 0), ("v0", .ctx c), ("v1", .surf a.2), ("v2", .int i), ("v3", .u16 a.1),
            ("v4", Val.strOf cl), ("v5", Val.clusters r), ("v6", Val.int 0)], scr := scr })
        Val.cell (fieldStep st) ?_ cl 0 (col, s)]
      · rcases foldS_fieldStep st cl col s with ⟨s', g1, _⟩ | ⟨p, g1, _⟩
        · rw [g1]
          simp [hcur]
          by_cases he : i + 1 = cur <;> simp [he]
        · rw [g1]; simp
      · intro a ch j
        obtain ⟨col0, s0⟩ := a
        simp [fieldStep, hsty, restyle, ofInt_zero]
        cases writeCell exactA s0 col0 0 { g := ch.g, w := ch.w, st := st } <;> simp

/-! ### non-vacuity: the hypotheses on `R` are met by the obvious instances -/

/-- a soft-wrapped Text of three lines, scanned for width 5 (`textFindContainerSize_soft_body_eq_model`, `textDrawSoftwrap_*`) -/
example : ∃ R : Ro, R.fields "Softwrap" = some (.bool true) ∧ R.fields "Content" = some .text ∧ R.fields "Style" = some (.sty 3) ∧
    R.wrapW = (5 : UInt16) ∧ R.soft.length = 3 :=
  ⟨{ noRo with
      fields := fun f => if f = "Softwrap" then some (.bool true) else if f = "Content" then some .text
                         else if f = "Style" then some (.sty 3) else none,
      wrapW := 5, soft := [[{ g := 7, w := 1, st := 3 }], [], [{ g := 8, w := 2, st := 3 }]] },
   by simp, by simp, by simp, rfl, rfl⟩

/-- a Center around a soft-wrapped Text (`centerDraw_body_eq_model`): the child's Draw is the model's -/
example : ∃ R : Ro, R.fields "Child" = some (.wid 1) ∧
    R.childDraw = drawWith exactA textMode richMode (.text false 0 [[{ g := 7, w := 1, st := 0 }]]) :=
  ⟨{ noRo with fields := fun f => if f = "Child" then some (.wid 1) else none,
               childDraw := drawWith exactA textMode richMode (.text false 0 [[{ g := 7, w := 1, st := 0 }]]) },
   by simp, rfl⟩

/-- `render` with the recursive calls being the model (`render_body_eq_model`) -/
example : ∃ R : Ro, R.render = render := ⟨{ noRo with render := render }, rfl⟩

/-- a TextField holding two grapheme clusters with the cursor behind the first (`textfieldDraw_body_eq_model`) -/
example : ∃ R : Ro, R.fields "Value" = some (.clusters [[{ g := 7, w := 1, st := 0 }], [{ g := 8, w := 2, st := 0 }]]) ∧
    R.fields "Style" = some (.sty 2) ∧ R.fields "cursor" = some (.int 1) :=
  ⟨{ noRo with fields := fun f =>
        if f = "Value" then some (.clusters [[{ g := 7, w := 1, st := 0 }], [{ g := 8, w := 2, st := 0 }]])
        else if f = "Style" then some (.sty 2) else if f = "cursor" then some (.int 1) else none },
   by simp, by simp, by simp⟩

end VaxisModel.Props.C14Body
