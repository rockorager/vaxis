/-
C14: what every size computation of the built-in widgets does at the 16-bit boundary, for ALL constraints (0 … 65535 =
unbounded).  `size.Height += 1` never wraps; the line width `w += uint16(char.Width)` is the true width modulo 65 536 and is
clamped to Max.Width either way; `(Max − child)/2` does not underflow for a child that fits, and every built-in child fits
(`Props.C14.center_fits_src`); `ctx.Max.Width - uint16(colOffset)` of list.Dynamic wraps for `Max.Width < 2` with DrawCursor;
`row += 1`, `col += uint16(char.Width)` of the Draw loops are guarded by `row >= Max.Height` resp. only used as WriteCell
coordinates (a write outside is ignored).  Then the painter's algorithm of `render` over the z-SORTED children, blank cells included.
-/
import VaxisModel.Model.Layout
import VaxisModel.Lemmas.SurfExec
import VaxisModel.Lemmas.SurfacePaint
import VaxisModel.Lemmas.Surface

namespace VaxisModel.Props.C14Bounds
open VaxisModel.Model.Window VaxisModel.Model.Surface VaxisModel.Model.Layout VaxisModel.Model.SurfExec
open VaxisModel.Lemmas.SurfExec

/-- `size.Height += 1` never wraps: the height findContainerSize returns is exactly the number of lines, capped
by Max.Height — for every Max.Height including 65535 (unbounded) and texts of more than 65 535 lines. -/
theorem sizeLoop_height_exact (maxW maxH : UInt16) : ∀ (lines : List (List Cell)) (w h : UInt16), h ≤ maxH →
    (sizeLoop true maxW maxH lines w h).2.toNat = min (h.toNat + lines.length) maxH.toNat := by
  intro lines
  induction lines with
  | nil =>
    intro w h hle
    have := UInt16.le_iff_toNat_le.1 hle
    simp [sizeLoop]; omega
  | cons l r ih =>
    intro w h hle
    have hle' := UInt16.le_iff_toNat_le.1 hle
    by_cases hg : h ≥ maxH
    · have := UInt16.le_iff_toNat_le.1 hg
      simp [sizeLoop, hGuard, hg]; omega
    · have hlt : h.toNat < maxH.toNat := by
        have := UInt16.lt_iff_toNat_lt.1 (UInt16.not_le.1 hg); exact this
      have h1 : (h + 1).toNat = h.toNat + 1 := VaxisModel.Lemmas.ListBasic.u16_succ_toNat hlt
      have hle2 : h + 1 ≤ maxH := UInt16.le_iff_toNat_le.2 (by omega)
      simp only [sizeLoop, hGuard, hg, if_true, decide_false, Bool.false_eq_true, if_false]
      rw [ih _ _ hle2, h1, List.length_cons]; omega

theorem size_height_exact (c : Ctx) (lines : List (List Cell)) :
    (findContainerSize true c lines).2.toNat = min lines.length c.maxH.toNat := by
  have := sizeLoop_height_exact c.maxW c.maxH lines 0 0 (UInt16.le_iff_toNat_le.2 (Nat.zero_le _))
  simpa [findContainerSize] using this

theorem lineWidthInt_nonneg : ∀ (l : List Cell), (∀ c ∈ l, 0 ≤ c.w) → 0 ≤ lineWidthInt l := by
  intro l
  induction l with
  | nil => intro _; simp [lineWidthInt]
  | cons d r ih =>
    intro h
    have h1 := h d (by simp)
    have h2 := ih (fun x hx => h x (by simp [hx]))
    simp [lineWidthInt]; omega

/-- The uint16 line width `w += uint16(char.Width)` is the true width modulo 65 536. -/
theorem line_width_mod : ∀ (l : List Cell), (∀ c ∈ l, 0 ≤ c.w) →
    (lineWidth l).toNat = (lineWidthInt l).toNat % 65536 := by
  intro l
  induction l with
  | nil => intro _; simp [lineWidth, lineWidthInt]
  | cons c r ih =>
    intro h
    have hs := lineWidthInt_nonneg r (fun x hx => h x (by simp [hx]))
    rw [lineWidth, lineWidthInt, UInt16.toNat_add, ih (fun x hx => h x (by simp [hx])), u16, toNat_ofInt _ (h c (by simp)),
      Int.toNat_add (h c (by simp)) hs]
    exact (Nat.add_mod _ _ _).symm

/-- … hence exact for every line narrower than 65 536 columns. -/
theorem line_width_exact (l : List Cell) (h : ∀ c ∈ l, 0 ≤ c.w) (hlt : lineWidthInt l < 65536) :
    ((lineWidth l).toNat : Int) = lineWidthInt l := by
  have := line_width_mod l h
  have := lineWidthInt_nonneg l h
  omega

/-- `ctx.Max.Width - uint16(colOffset)`: the width list.Dynamic hands its items, for EVERY Max.Width — it wraps to
65534 / 65535 (= unbounded) for a 0- or 1-column list that draws its cursor. -/
theorem dynamic_child_width (cursor : Bool) (c : Ctx) :
    (dynChildCtx cursor c).maxW.toNat =
      if (dynOff cursor).toNat ≤ c.maxW.toNat then c.maxW.toNat - (dynOff cursor).toNat
      else 65536 + c.maxW.toNat - (dynOff cursor).toNat := by
  have hm := c.maxW.toNat_lt
  cases cursor
  · simp [dynChildCtx, dynOff]
  · simp only [dynChildCtx, dynOff, if_true, UInt16.toNat_sub]
    have : (2 : UInt16).toNat = 2 := rfl
    rw [this]
    split <;> omega

/-- `(Max − child)/2` in uint16, for EVERY pair: half the free space when the child fits, half of the wrapped
difference (at least 32 768 − child/2 … outside every parent) when it does not. -/
theorem center_offset (maxW cw : UInt16) :
    ((maxW - cw) / 2).toNat =
      if cw.toNat ≤ maxW.toNat then (maxW.toNat - cw.toNat) / 2 else (65536 + maxW.toNat - cw.toNat) / 2 :=
  VaxisModel.Lemmas.Surface.half_sub_toNat maxW cw

/-- A child that fits is placed inside with margins within one, in both dimensions, for every constraint. -/
theorem center_offset_fits (maxW cw : UInt16) (h : cw ≤ maxW) :
    ((maxW - cw) / 2).toNat + cw.toNat ≤ maxW.toNat ∧
    (maxW.toNat - cw.toNat - ((maxW - cw) / 2).toNat) - ((maxW - cw) / 2).toNat ≤ 1 := by
  have := UInt16.le_iff_toNat_le.1 h
  rw [center_offset, if_pos this]
  omega

/-- The SetCell calls of `render`, in order: EVERY cell of the surface's own
buffer (cell i at column `i mod W`, row `i div W` — blank or not, none is skipped), then, for the children SORTED
by ZIndex (`Kids.sortZ` = what `sort.Slice` leaves in `s.Children`), all the calls of each child in its window
`win.New(col, row, W, H)`.  This is the order the code has (sort, then paint); the model's definition paints each
child and sorts the per-child call lists — the two are equal. -/
theorem paint_is_painters_algorithm (w h : UInt16) (buf : List Cell) (kids : Kids) (win : Win) :
    (Surface.mk w h buf kids).paint win =
      (cellOps w buf).map (fun o => (win, o)) ++ (Kids.toL (Kids.sortZ kids)).flatMap (fun p => kidPaint win p.2) := by
  simp [Surface.paint, layers_eq, sortByZ_map (kidPaint win), Kids.sortZ, toL_ofL, List.flatMap_map]

/-- one SetCell call per buffer cell, none skipped -/
theorem own_cells_all_painted (w : UInt16) : ∀ (buf : List Cell) (i : Nat),
    (cellOpsFrom w i buf).length = buf.length ∧
    ∀ k (hk : k < buf.length), (cellOpsFrom w i buf)[k]? =
      some { col := Int.ofNat ((i + k) % w.toNat), row := Int.ofNat ((i + k) / w.toNat), cell := buf[k] } :=
  VaxisModel.Lemmas.SurfacePaint.cellOpsFrom_cells w

/-- The sorted children are the children (nothing lost, nothing added), in non-decreasing ZIndex. -/
theorem sorted_children (kids : Kids) :
    (∀ p, p ∈ Kids.toL (Kids.sortZ kids) ↔ p ∈ Kids.toL kids) ∧
    List.Pairwise (fun a b => a.1 ≤ b.1) (Kids.toL (Kids.sortZ kids)) := by
  refine ⟨fun p => ?_, ?_⟩
  · rw [Kids.sortZ, toL_ofL]; exact VaxisModel.Lemmas.SurfacePaint.mem_sortByZ p _
  · rw [Kids.sortZ, toL_ofL]; exact VaxisModel.Lemmas.SurfacePaint.sortByZ_sorted _

/-- A SetCell call the screen accepts decides the cell, whatever was painted before and
whatever the cell is — a blank (zero) cell of a later surface covers what is below it. -/
theorem later_call_covers (scr : Screen) (calls : List (Win × Op)) (c : Win × Op) :
    applyPaint scr (calls ++ [c]) = c.1.setCell (applyPaint scr calls) c.2.col c.2.row c.2.cell := by
  simp [applyPaint, List.foldl_append]

end VaxisModel.Props.C14Bounds
