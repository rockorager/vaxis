/-
C14 — the two function bodies the model transcribes by hand are those of the source.  `Gen.SurfaceFacts.*` are the statement
skeletons `extract/cmd/C14` prints from the source on every run, `Model.SurfaceSource.*` the skeletons the model was
transcribed from.  A theorem stops compiling when its function changes other than in the names of variables and in what the
printer normalises (`a < b` / `b > a`, `x++` / `x += 1` / `x = x + 1`, the order of operands of `==`, `&&`, `||` that can
neither panic nor have an effect).  Every other body is executed and proved equal to the model in `Props/C14Body.lean`.
-/
import VaxisModel.Gen.SurfaceFacts
import VaxisModel.Model.SurfaceSource

namespace VaxisModel.Props.C14Facts
open VaxisModel

theorem facts_runFrame : Gen.SurfaceFacts.runFrame = Model.SurfaceSource.runFrame := rfl

theorem facts_textHardLinesBody : Gen.SurfaceFacts.textHardLinesBody = Model.SurfaceSource.textHardLinesBody := rfl

end VaxisModel.Props.C14Facts
