import VaxisModel.Lemmas.VxfwNoStuck
import VaxisModel.Lemmas.VxfwRank
import VaxisModel.Model.Vxfw
import VaxisModel.Spec.Routing
import VaxisModel.Lemmas.Vxfw
import VaxisModel.Lemmas.VxfwHoverErr
import VaxisModel.Lemmas.VxfwOnceErr
import VaxisModel.Lemmas.VxfwFocusErr

/-!
# C15 — vxfw routes events capture-target-bubble and keeps focus and hover consistent

Every theorem quantifies over the oracle `o` (what each widget answers to each call, and which
widgets capture), the fuel (nesting depth allowed to re-entrant focus changes), and the state.
-/
namespace VaxisModel.Props.C15
open VaxisModel.Model.Vxfw VaxisModel.Spec.Routing VaxisModel.Lemmas.Vxfw

/-- The entries that
`focusHandler.handleEvent` appends to the trace follow the plan
capture (capturing widgets of `path`, root first) — target (the focused widget) — bubble
(`path` without its last element, nearest first), each offer followed only by effects of the
returned command and nested focus notifications, and nothing is offered after the first offer
during whose command processing `consume` took effect. -/
theorem key_routing (o : Oracle) (fuel : Nat) (s : St) (ev : Ev) (hev : Routable ev) :
    ∃ t, (handleEvent o fuel s ev).trace = s.trace ++ t ∧
      conforms ev s.focused (planOf o.captures s.path .focusTgt) t = true := by
  obtain ⟨t, ht, _, _, hc⟩ :=
    dispatch_conforms hev o fuel s.path (fun s => s.focused) .focusTgt (fun _ => rfl) s
  exact ⟨t, ht, hc⟩

/-- **key_routing**, explicit form. If no handler answers with a focus command, the trace of
`focusHandler.handleEvent` is literally: walk `route captures path focused` = capture calls
(capturing widgets of `path`, root first) ++ [target call to the focused widget] ++ bubble calls
(`path` without its last element, reversed); the k-th call overall is answered by `h … k`, its
commands take effect once, in order, right after the call; the walk stops after the first call
whose (flattened) answer contains `consume`. -/
theorem key_routing_explicit (o : Oracle) (hnf : FocusFree o) (fuel : Nat) (s : St) (ev : Ev) :
    (handleEvent o (fuel + 1) s ev).trace =
      s.trace ++ specRun o.h ev s.calls (route o.captures s.path s.focused) :=
  handleEvent_plain o hnf fuel s ev

example : route (fun w => w == 1) [0, 1, 2] 2 =
    [(1, .capture), (2, .target), (1, .bubble), (0, .bubble)] := by decide

example :
    callsOf (specRun (fun w _ ph _ => if w = 1 ∧ ph = .bubble then .batch [.redraw, .consume] else .nil) (.key 9) 0
      (route (fun w => w == 1) [0, 1, 2] 2)) =
    [(1, .key 9, .capture), (2, .key 9, .target), (1, .key 9, .bubble)] := by decide

/-- Non-vacuity / sanity: a three-level path, the middle widget captures and the target
consumes: capture 1, target 2, no bubbling. -/
example :
    (handleEvent ⟨fun w _ ph _ => if w = 2 ∧ ph = .target then .batch [.redraw, .consume] else .nil,
                  fun w => w == 1⟩ 4
      { St.init 0 with path := [0, 1, 2], focused := 2 } (.key 65)).trace
    = [.call 1 (.key 65) .capture, .call 2 (.key 65) .target, .eff .redraw, .eff .consume] := by
  decide

/-- **path_correct** (focused widget drawn). After a frame that drew `t`, `updatePath` calls no
handler and leaves `path` = the root-to-focused chain of the first (pre-order) surface of the
focused widget, prefixed by the root widget when the root surface belongs to another widget; the
frame is remembered for later focus changes. -/
theorem path_correct (o : Oracle) (fuel : Nat) (s : St) (t : STree) (p : List Id)
    (h : chain s.focused t = some p) :
    updatePath o fuel s t = { s with fhFrame := some t, path := expectedPath s.root t s.focused } := by
  have hf := frameHasFocus_some s t
  rw [h] at hf
  simp only [updatePath, findPath, hf, Option.isSome_some, if_true, foundPath_eq]
  rfl

/-- **path_correct** (focused widget not drawn): `path := [root]`, then the best-effort refocus
of the root widget — which recomputes the path like every focus change. -/
theorem path_correct_refocus (o : Oracle) (fuel : Nat) (s : St) (t : STree)
    (h : chain s.focused t = none) :
    updatePath o fuel s t = focusWidget o fuel { s with fhFrame := some t, path := [s.root] } s.root := by
  have hf := frameHasFocus_some s t
  rw [h] at hf
  have hp : drawnPath { s with fhFrame := some t } = [s.root] := by
    simp [drawnPath, expectedPath, h]
  simp only [updatePath, findPath, hf, Option.isSome_none, foundPath_eq, hp]
  rfl

/-- **path_correct**, all cases: after `updatePath` the path is the drawn chain (in the frame just
drawn) of the widget that is focused *then* — also when the best-effort refocus or a FocusIn /
FocusOut handler called by it moved the focus again — or `[root]` if that widget is not drawn. -/
theorem path_correct_always (o : Oracle) (fuel : Nat) (s : St) (t : STree) :
    (updatePath o fuel s t).path = expectedPath s.root t (updatePath o fuel s t).focused := by
  obtain ⟨h1, h2⟩ := pathInv_updatePath o fuel s t
  have h3 := updatePath_root o fuel s t
  unfold PathInv drawnPath at h1
  rw [h2, h3] at h1
  exact h1

/-- Routing right after a frame: over the drawn chain of the focused widget. -/
theorem key_routing_after_frame (o o' : Oracle) (fuel : Nat) (s : St) (t : STree) (p : List Id)
    (h : chain s.focused t = some p) (ev : Ev) (hev : Routable ev) :
    ∃ tr, (handleEvent o fuel (updatePath o' fuel s t) ev).trace = s.trace ++ tr ∧
      conforms ev s.focused (planOf o.captures (expectedPath s.root t s.focused) .focusTgt) tr = true := by
  rw [path_correct o' fuel s t p h]
  exact key_routing o fuel _ ev hev

example : chain 2 (.node 0 9 9 [(0, 0, 0, .node 1 3 3 [(0, 0, 0, .node 2 1 1 [])])]) = some [0, 1, 2] := by decide

/-- The reading of the property over *drawn* trees: after a frame that drew `t` and any command,
a dispatchable event is routed along the drawn chain of the widget that is focused now. (False
before the repair of F115a: `Witness/F115a.lean` shows the pre-fix `focusWidget` violating it.) -/
def key_routing_drawn_full : Prop :=
  ∀ (o : Oracle) (fuel : Nat) (s : St) (t : STree) (c : Cmd) (ev : Ev), Routable ev →
    ∀ p, chain (handleCommand o fuel (updatePath o fuel s t) c).focused t = some p →
      ∃ tr, (handleEvent o fuel (handleCommand o fuel (updatePath o fuel s t) c) ev).trace =
          (handleCommand o fuel (updatePath o fuel s t) c).trace ++ tr ∧
        conforms ev (handleCommand o fuel (updatePath o fuel s t) c).focused
          (planOf o.captures (expectedPath s.root t (handleCommand o fuel (updatePath o fuel s t) c).focused) .focusTgt)
          tr = true

/-- **key_routing over the drawn chain** (frame, then any command — focus changes included). -/
theorem key_routing_drawn_cmd : key_routing_drawn_full := by
  intro o fuel s t c ev hev p _
  obtain ⟨h1, h2⟩ := pathInv_updatePath o fuel s t
  have h3 := updatePath_root o fuel s t
  have hx := ext_handleCommand hev o fuel (updatePath o fuel s t) c
  have hp := hx.pinv h1
  unfold PathInv drawnPath at hp
  rw [hx.fhFrame, h2, hx.root, h3] at hp
  have := key_routing o fuel (handleCommand o fuel (updatePath o fuel s t) c) ev hev
  rw [hp] at this
  exact this

/-- **path invariant.** At every point of every history of the Run loop (Init, any events, any
frames, any widget behaviour) `path` is the drawn chain — in the last frame rendered — of the
widget that is focused now, or `[root]` if that widget is not in the last frame (or there is no
frame yet). -/
theorem path_is_drawn_chain (o : Oracle) (fuel : Nat) (root : Id) (t0 : STree) (steps : List Step) :
    (runSteps o fuel (runInit o fuel root t0) steps).path =
      drawnPath (runSteps o fuel (runInit o fuel root t0) steps) :=
  (pinv_walk o fuel).run root t0 steps rfl

/-- **key_routing over the drawn chain, at all times.** After any history of the Run loop, the
next key / custom event is offered: capture along the drawn chain (last frame) of the focused
widget root first, target = the focused widget, bubble along the chain nearest first, stopping
at the first consumed offer. -/
theorem key_routing_drawn (o : Oracle) (fuel : Nat) (root : Id) (t0 : STree) (steps : List Step)
    (ev : Ev) (hev : Routable ev) :
    ∃ tr, (handleEvent o fuel (runSteps o fuel (runInit o fuel root t0) steps) ev).trace =
        (runSteps o fuel (runInit o fuel root t0) steps).trace ++ tr ∧
      conforms ev (runSteps o fuel (runInit o fuel root t0) steps).focused
        (planOf o.captures (drawnPath (runSteps o fuel (runInit o fuel root t0) steps)) .focusTgt) tr = true := by
  have := key_routing o fuel (runSteps o fuel (runInit o fuel root t0) steps) ev hev
  rw [path_is_drawn_chain] at this
  exact this

/-- Non-vacuity: frame 0→{1,2}, a key handler answers `focus 1`; the next key is captured by /
bubbles to 0 although no frame was drawn in between (the F115a scenario). -/
example :
    ((runSteps ⟨fun _ ev ph _ => if ev = .key 1 ∧ ph = .target then .focus 1 else .nil, fun _ => true⟩ 5
      (runInit ⟨fun _ _ _ _ => .nil, fun _ => true⟩ 5 0 (.node 0 9 9 []))
      [.ev .resize, .frame (.node 0 9 9 [(0, 0, 0, .node 1 3 3 []), (4, 0, 0, .node 2 3 3 [])]) (.node 0 0 0 []),
       .ev (.key 1), .ev (.key 2)]).trace.filter (fun e => isRouted (.key 2) e)) =
    [.call 0 (.key 2) .capture, .call 1 (.key 2) .capture, .call 1 (.key 2) .target, .call 0 (.key 2) .bubble] := by
  decide

/-- **focus_change_once** (history form, every handler behaviour). Whatever a command does —
including focus changes nested in FocusOut or FocusIn handlers — the focus notifications it
produces come in pairs FocusOut(current) … FocusIn(new), and the focused widget at the end is
the receiver of the last FocusIn. (False before the repair of F115b, `Witness/F115b.lean`.) -/
def focus_change_once_full : Prop :=
  ∀ (o : Oracle) (fuel : Nat) (s : St) (c : Cmd),
    ∃ t, (handleCommand o fuel s c).trace = s.trace ++ t ∧
      focusRun s.focused false t = some (handleCommand o fuel s c).focused

theorem focus_change_once : focus_change_once_full := by
  intro o fuel s c
  obtain ⟨t, ht, _, hp⟩ := fpe_eHandleCommand (e0 o) fuel s c
  rw [eHandleCommand_noerr, dropFailedOut_e0] at *
  exact ⟨t, ht, hp⟩

/-- **focus_change_once** over whole histories of the Run loop (Init, any events, any frames, any
handler behaviour): all FocusOut / FocusIn notifications pair up — FocusOut to the widget focused
at that moment, then FocusIn to the new one, nothing in between — starting from the root widget,
and the focused widget is the receiver of the last FocusIn. -/
theorem focus_change_once_history (o : Oracle) (fuel : Nat) (root : Id) (t0 : STree) (steps : List Step) :
    focusRun root false (runSteps o fuel (runInit o fuel root t0) steps).trace =
      some (runSteps o fuel (runInit o fuel root t0) steps).focused := by
  have h := focusPairs_eRun (e0 o) fuel root t0 steps
  rwa [eRun_noerr, dropFailedOut_e0] at h

/-- **focus_change_once** (single change). A focus command to a different widget whose two
notifications are not answered with further focus commands: exactly one FocusOut to the old
widget, `focused := w`, exactly one FocusIn to the new one, then the effects of the FocusOut
answer and of the FocusIn answer, once each, in that order. -/
theorem focus_change_single (o : Oracle) (fuel : Nat) (s : St) (w : Id) (hne : s.focused ≠ w)
    (h1 : NoFocusAtoms (o.h s.focused .focusOut .target s.calls))
    (h2 : NoFocusAtoms (o.h w .focusIn .target (s.calls + 1))) :
    (handleCommand o (fuel + 2) s (.focus w)).trace =
      s.trace ++ [.call s.focused .focusOut .target, .eff (.focusSet w), .call w .focusIn .target] ++
        effsOf (o.h s.focused .focusOut .target s.calls).flatten ++
        effsOf (o.h w .focusIn .target (s.calls + 1)).flatten ∧
    (handleCommand o (fuel + 2) s (.focus w)).focused = w := by
  simp only [handleCommand, Cmd.flatten, List.foldl_cons, List.foldl_nil, execAtom, focusWidgetWith,
    if_neg hne, Model.Vxfw.call, findPath]
  rw [foldl_nofocus _ o _ h1]
  simp only []
  rw [foldl_nofocus _ o _ h2]
  simp

/-- Non-vacuity: refocus inside FocusIn, and inside FocusOut (the F115b scenario: the old widget
answers FocusOut with `focus 2`; it gets one FocusOut, 1 gets FocusIn and FocusOut, 2 ends focused). -/
example :
    (handleCommand ⟨fun w ev _ _ => if w = 1 ∧ ev = .focusIn then .focus 2 else .nil, fun _ => false⟩ 5
      (St.init 0) (.focus 1)).trace =
    [.call 0 .focusOut .target, .eff (.focusSet 1), .call 1 .focusIn .target,
     .call 1 .focusOut .target, .eff (.focusSet 2), .call 2 .focusIn .target] := by decide

example :
    (handleCommand ⟨fun w ev _ _ => if w = 0 ∧ ev = .focusOut then .focus 2 else .nil, fun _ => false⟩ 5
      (St.init 0) (.focus 1)).trace =
    [.call 0 .focusOut .target, .eff (.focusSet 1), .call 1 .focusIn .target,
     .call 1 .focusOut .target, .eff (.focusSet 2), .call 2 .focusIn .target] := by decide

/-- **mouse_routing.** `mouseHandler.handleEvent` first updates the hit list against the last
frame (enter/leave notifications), then — if anything is under the pointer — offers the event
along the hit list exactly like a key event along the focus path, the last hit being the target. -/
theorem mouse_routing (o : Oracle) (fuel : Nat) (s : St) (col row : Int) :
    let s1 := mouseUpdate o fuel { s with mouse := some (col, row) } s.lastFrame
    s1.lastHits = hitsAt s.lastFrame col row ∧
    ∃ t, (mouseHandleEvent o fuel s col row).trace = s1.trace ++ t ∧
      (match s1.lastHits.getLast? with
       | none => t = []
       | some tg => conforms (.mouse col row) s1.focused
           (planOf o.captures (s1.lastHits.map (·.w)) (.tgt tg.w)) t = true) := by
  intro s1
  refine ⟨by simp [s1, mouseUpdate], ?_⟩
  simp only [mouseHandleEvent]
  change ∃ t, (match s1.lastHits.getLast? with
      | none => s1
      | some tg => dispatch o fuel (s1.lastHits.map Hit.w) (fun _ => tg.w) (.mouse col row) s1).trace = _ ∧ _
  cases hl : s1.lastHits.getLast? with
  | none => exact ⟨[], by simp, rfl⟩
  | some tg =>
    obtain ⟨t, ht, _, _, hc⟩ := dispatch_conforms (ev := .mouse col row) ⟨by simp, by simp⟩ o fuel
      (s1.lastHits.map (·.w)) (fun _ => tg.w) (.tgt tg.w) (fun _ => rfl) s1
    exact ⟨t, ht, hc⟩

/-- **hit_chain** (what the code guarantees in general, overlapping siblings included). With
sizes that fit `uint16`, the hit list computed by `mouseHandler.update` is the pre-order list of
all surfaces that contain the pointer and all of whose ancestors contain it (children in slice
order, i.e. ascending z after a render), with local coordinates; so the last element — the
target — is the deepest surface along the *last* (topmost) containing child at each level. -/
theorem hit_list_is_under (t : STree) (hs : sizesOk t = true) (col row : Int) :
    hitsAt t col row = underRoot t col row := by
  have hw := sizesOk_wh hs
  simp only [hitsAt, underRoot]
  have hcp : containsPoint 0 0 t.w t.h col row = inRect 0 0 t.w t.h col row := by
    simp [containsPoint, inRect]
  rw [hcp]
  by_cases hin : inRect 0 0 t.w t.h col row = true
  · rw [if_pos hin, if_pos hin]
    simp only [inRect, Bool.and_eq_true, decide_eq_true_eq] at hin
    obtain ⟨⟨⟨i1, i2⟩, i3⟩, i4⟩ := hin
    have e1 : u16 col = col - 0 := by unfold u16; omega
    have e2 : u16 row = row - 0 := by unfold u16; omega
    rw [e1, e2]
    exact hitTest_eq_under col row t 0 0 hs (by omega) (by omega) (by omega) (by omega)
  · rw [if_neg hin, if_neg hin]

/-- **hit_chain.** If at every surface on the way down at most one child contains the pointer
(no overlapping siblings at the point), the hit list is the ancestor chain, root first, of the
deepest surface containing the pointer, which is therefore the target. -/
theorem hit_chain (t : STree) (hs : sizesOk t = true) (col row : Int)
    (hin : inRect 0 0 t.w t.h col row = true) (hno : noOverlapAt 0 0 t col row = true) :
    hitsAt t col row = descend 0 0 t col row := by
  rw [hit_list_is_under t hs, underRoot, if_pos hin]
  exact under_eq_descend col row t 0 0 hno

/-- **mouse_routing over the chain under the pointer** (`mouse_routing` and `hit_chain` composed).
In any state whose last frame has `uint16` sizes, for a pointer inside the root surface with no
overlapping siblings under it: the mouse event is offered capture – target – bubble along the
ancestor chain (root first) of the deepest surface containing the pointer, and that surface's
widget is the target. -/
theorem mouse_routing_chain (o : Oracle) (fuel : Nat) (s : St) (col row : Int)
    (hs : sizesOk s.lastFrame = true)
    (hin : inRect 0 0 s.lastFrame.w s.lastFrame.h col row = true)
    (hno : noOverlapAt 0 0 s.lastFrame col row = true) :
    ∃ t tg, (descend 0 0 s.lastFrame col row).getLast? = some tg ∧
      (mouseHandleEvent o fuel s col row).trace =
        (mouseUpdate o fuel { s with mouse := some (col, row) } s.lastFrame).trace ++ t ∧
      conforms (.mouse col row) (mouseUpdate o fuel { s with mouse := some (col, row) } s.lastFrame).focused
        (planOf o.captures ((descend 0 0 s.lastFrame col row).map (·.w)) (.tgt tg.w)) t = true := by
  obtain ⟨hl, t, ht, hc⟩ := mouse_routing o fuel s col row
  rw [hit_chain s.lastFrame hs col row hin hno] at hl
  rw [hl] at hc
  cases hd : (descend 0 0 s.lastFrame col row).getLast? with
  | none =>
    have : descend 0 0 s.lastFrame col row = [] := List.getLast?_eq_none_iff.mp hd
    cases hf : s.lastFrame with
    | node i w h ch => rw [hf] at this; simp [descend] at this
  | some tg =>
    rw [hd] at hc
    exact ⟨t, tg, rfl, ht, hc⟩

/-- Non-vacuity, and what overlap does: children 1 (z 0) and 2 (z 1) overlap at (1,1); both are
hit, 2 (drawn on top) is the target. -/
example :
    hitsAt (sortTree (.node 0 9 9 [(0, 0, 1, .node 2 4 4 []), (1, 1, 0, .node 1 4 4 [])])) 1 1 =
      [⟨1, 1, 0⟩, ⟨0, 0, 1⟩, ⟨1, 1, 2⟩] := by decide

example : noOverlapAt 0 0 (.node 0 9 9 [(0, 0, 0, .node 1 2 2 []), (3, 3, 0, .node 2 4 4 [])]) 4 4 = true ∧
    descend 0 0 (.node 0 9 9 [(0, 0, 0, .node 1 2 2 []), (3, 3, 0, .node 2 4 4 [])]) 4 4 =
      [⟨4, 4, 0⟩, ⟨1, 1, 2⟩] := by decide

/-- After `render`, the children of every surface are in ascending z order (so among overlapping
siblings under the pointer the one drawn on top is hit last and becomes the mouse target);
`ids_sortTree` (Lemmas) shows the sort only permutes. -/
theorem render_sorts_children_by_z (i : Id) (w h : Nat) (ch : List Kid) :
    (sortTree (.node i w h ch)).ch.Pairwise (fun a b => a.2.2.1 ≤ b.2.2.1) := by
  simp only [sortTree, STree.ch]
  exact sortKids_sorted _

/-- **commands_once** (commands without focus). Running a returned command value that contains no
focus command — however deeply batched — appends exactly the effects of its non-batch commands,
in order, once each; flags are set accordingly and nothing else changes. -/
theorem commands_once_plain (o : Oracle) (fuel : Nat) (s : St) (c : Cmd) (hnf : NoFocusAtoms c) :
    handleCommand o (fuel + 1) s c =
      { s with
        redraw := s.redraw || c.flatten.any (fun a => a == .redraw || a == .debug)
        refresh := s.refresh || c.flatten.any (· == .refresh)
        quit := s.quit || c.flatten.any (· == .quit)
        consume := s.consume || c.flatten.any (· == .consume)
        debug := s.debug || c.flatten.any (· == .debug)
        trace := s.trace ++ effsOf c.flatten } := by
  simp only [handleCommand]
  exact foldl_nofocus _ o _ hnf s

/-- The trace appended by
`handleCommand` is the concatenation of one stretch per non-batch command of the flattened
value, in order: a single effect entry for redraw/refresh/quit/consume/debug/other, and for a
focus command either nothing (already focused) or one FocusOut … `focused := w`, FocusIn …
stretch. -/
theorem commands_once (o : Oracle) (fuel : Nat) (s : St) (c : Cmd) :
    ∃ segs : List (List Entry),
      (handleCommand o (fuel + 1) s c).trace = s.trace ++ segs.flatten ∧ SegsOf c.flatten segs := by
  simp only [handleCommand]
  refine atomSeg_foldl o _ (fun s c => ?_) _ s
  obtain ⟨⟨t, ht, _⟩, _⟩ := ext_handleCommand Routable.init o fuel s c
  exact ⟨t, ht⟩

/-- **commands_once** over whole histories of the Run loop. Every command returned by any handler
call — capture, target or bubble phase of a key / custom / mouse event, `Init`, a FocusIn /
FocusOut notification (also of the best-effort refocus after a frame), a MouseEnter / MouseLeave
notification of an event or of a frame, however deeply batched — takes effect exactly once: the
command effects recorded in the trace are a permutation of the effects the handler calls of the
trace asked for (the `k`-th call overall answered `h w ev phase k`). Only a permutation: the
command of a FocusOut handler is processed after the FocusIn call. Hypothesis: the nesting budget
(`fuel`, Go's stack) did not run out. Focus commands themselves: `commands_once` + `focus_change_once`. -/
theorem commands_once_history (o : Oracle) (fuel : Nat) (root : Id) (t0 : STree) (steps : List Step)
    (hs : (runSteps o fuel (runInit o fuel root t0) steps).stuck = false) :
    (effectsIn (runSteps o fuel (runInit o fuel root t0) steps).trace).Perm
      (owed o.h 0 (runSteps o fuel (runInit o fuel root t0) steps).trace) := by
  have h := commandsOnce_eRun (e0 o) fuel root t0 steps
  rw [eRun_noerr] at h
  exact h hs

/-- **commands_once over whole histories, without the budget hypothesis**, for handlers that do not answer a
FocusIn / FocusOut notification with a command containing a focus command (`NotifFF`; answers to every other
call — key, mouse, custom events in all phases, MouseEnter / MouseLeave, Init — are arbitrary, focus commands and
nested batches included): the nesting `handleCommand → focusWidget → handler → handleCommand` is then at most
two deep, so with any budget ≥ 2 (Go: any stack) `stuck` never becomes true (`run_never_stuck`) and every command
returned anywhere in the history takes effect exactly once. `Witness.F115c` shows the condition cannot simply
be dropped: handlers that refocus each other from FocusIn exhaust every budget (a stack overflow in Go). -/
theorem commands_once_history_wf (o : Oracle) (hff : NotifFF o) (fuel : Nat) (hf : 2 ≤ fuel) (root : Id) (t0 : STree)
    (steps : List Step) :
    (runSteps o fuel (runInit o fuel root t0) steps).stuck = false ∧
    (effectsIn (runSteps o fuel (runInit o fuel root t0) steps).trace).Perm
      (owed o.h 0 (runSteps o fuel (runInit o fuel root t0) steps).trace) :=
  ⟨run_never_stuck o hff fuel hf root t0 steps,
   commands_once_history o fuel root t0 steps (run_never_stuck o hff fuel hf root t0 steps)⟩

/-- Non-vacuity: an oracle that answers key events with focus commands (and notifications with redraw) meets
`NotifFF`. -/
example : NotifFF ⟨fun w ev _ _ => match ev with | .key _ => .batch [.focus (w + 1), .consume] | _ => .redraw, fun _ => true⟩ := by
  intro w ph k
  constructor <;> intro a ha <;> simp [Cmd.flatten] at ha <;> subst ha <;> intro w' h <;> cases h

/-- Non-vacuity: Init, a key whose capture handler answers a batch with a focus command, FocusOut
answering a batch, a mouse event, a terminal FocusIn: ten effects, each once, in another order. -/
example :
    let o : Oracle := ⟨fun _ ev ph _ => if ev = .focusOut then .batch [.redraw, .other 3] else
      if ev = .key 1 ∧ ph = .capture then .batch [.focus 1, .slice [.refresh, .consume]] else .other 9, fun _ => true⟩
    let s := runSteps o 5 (runInit o 5 0 (.node 0 9 9 [])) [.ev (.key 1), .ev (.mouse 1 1), .ev .focusIn]
    s.stuck = false ∧
    effectsIn s.trace = [.other 9, .other 9, .redraw, .other 3, .other 9, .refresh, .consume, .other 9, .other 9, .other 9] ∧
    owed o.h 0 s.trace = [.other 9, .other 9, .refresh, .consume, .redraw, .other 3, .other 9, .other 9, .other 9, .other 9] := by
  decide

/-- **commands_once over whole histories for refocus chains that terminate** (generalises
`commands_once_history_wf`).  Hypothesis: a rank on widgets, bounded by `R`, such that every focus command in an answer
to a FocusIn / FocusOut NOTIFICATION of a widget `w` (however deeply batched) targets a widget of strictly lower rank
than `w` (`NotifRanked`; the answers to all other calls — key, mouse, custom events in every phase, Init, MouseEnter /
MouseLeave — are arbitrary, focus commands to any widget included).  Then the nesting
`handleCommand → focusWidget → handler → handleCommand` is at most `3 * R + 4` deep: with any budget that large (Go: a
stack that deep) `stuck` never becomes true, over every history of the Run loop, and every command returned by any handler
call of the history takes effect exactly once.  `Witness.F115c` (two widgets focusing each other from FocusIn: no such rank
exists) shows that some well-foundedness condition is necessary. -/
theorem commands_once_history_ranked (o : Oracle) (rk : Id → Nat) (R : Nat) (hR : ∀ w, rk w ≤ R) (hrk : NotifRanked o rk)
    (fuel : Nat) (hf : 3 * R + 4 ≤ fuel) (root : Id) (t0 : STree) (steps : List Step) :
    (runSteps o fuel (runInit o fuel root t0) steps).stuck = false ∧
    (effectsIn (runSteps o fuel (runInit o fuel root t0) steps).trace).Perm
      (owed o.h 0 (runSteps o fuel (runInit o fuel root t0) steps).trace) :=
  have hns := run_never_stuck_of o fuel (hc_ranked o rk R hR hrk fuel hf) (focusWidget_ranked o rk R hR hrk fuel hf) root t0 steps
  ⟨hns, commands_once_history o fuel root t0 steps hns⟩

/-- `commands_once_history_ranked` covers the class of `commands_once_history_wf`: handlers that never answer a focus
notification with a focus command are ranked by the constant rank 0 (budget 4 instead of 2). -/
theorem notifFF_is_ranked (o : Oracle) (hff : NotifFF o) : NotifRanked o (fun _ => 0) := by
  intro w ph k
  exact ⟨fun a ha w' hw' => absurd hw' ((hff w ph k).1 a ha w'), fun a ha w' hw' => absurd hw' ((hff w ph k).2 a ha w')⟩

/-- The budget bound behind it: a command all of whose focus targets have rank `< b`, handled while a widget of rank `r`
is focused, needs a nesting budget of at most `3 * max b r + 2`. -/
theorem refocus_budget (o : Oracle) (rk : Id → Nat) (hrk : NotifRanked o rk) (fuel : Nat) (s : St) (c : Cmd) (b : Nat)
    (hb : Below rk b c) (hf : 3 * max b (rk s.focused) + 2 ≤ fuel) : (handleCommand o fuel s c).stuck = s.stuck :=
  (hc_good o rk hrk fuel s c b hb (by unfold pot; split <;> omega)).1

/-- The oracle of the non-vacuity examples: widget 1's FocusIn handler focuses widget 2 (and widget 2's FocusOut handler
asks for a redraw), widget 2's FocusIn handler answers nil; key events ask for the focus to go to widget 1. -/
def chainOracle : Oracle :=
  ⟨fun w ev _ _ => match ev with
    | .focusIn => if w = 1 then .batch [.focus 2, .redraw] else .nil
    | .focusOut => if w = 2 then .redraw else .nil
    | .key _ => .batch [.focus 1, .consume]
    | _ => .nil, fun _ => false⟩

/-- Non-vacuity: the chain oracle is ranked (rank 1 for widget 1, 0 elsewhere), … -/
theorem chainOracle_ranked : NotifRanked chainOracle (fun w => if w = 1 then 1 else 0) := by
  intro w ph k
  constructor
  · intro a ha w' hw'
    by_cases h1 : w = 1
    · subst h1
      simp [chainOracle, Cmd.flatten, Cmd.flattenL] at ha
      rcases ha with rfl | rfl
      · cases hw'; decide
      · cases hw'
    · simp [chainOracle, h1, Cmd.flatten] at ha
  · intro a ha w' hw'
    by_cases h2 : w = 2
    · subst h2
      simp [chainOracle, Cmd.flatten] at ha
      subst ha
      cases hw'
    · simp [chainOracle, h2, Cmd.flatten] at ha

/-- … it is NOT covered by `commands_once_history_wf` (a FocusIn answer contains a focus command), … -/
example : ¬ NotifFF chainOracle := by
  intro h
  exact (h 1 .target 0).1 (.focus 2) (by simp [chainOracle, Cmd.flatten, Cmd.flattenL]) 2 rfl

/-- … and a history with it: a key (focus 1 → its FocusIn handler focuses 2), a second key (focus back to 1, then 2 again):
the budget 7 = 3·1 + 4 is not exhausted, the focus ends on widget 2, FocusOut / FocusIn came in pairs. -/
example :
    let s := runSteps chainOracle 7 (runInit chainOracle 7 0 (.node 0 9 9 [(0, 0, 0, .node 1 2 2 []), (3, 3, 0, .node 2 2 2 [])]))
      [.ev (.key 1), .ev (.key 2)]
    s.stuck = false ∧ s.focused = 2 ∧ focusRun 0 false s.trace = some 2 := by
  decide +kernel

example : Cmd.flatten (.batch [.redraw, .slice [.consume, .batch [.other 3]], .focus 2]) =
    [.redraw, .consume, .other 3, .focus 2] := by decide

/-- The full hover statement: for every history of the Run loop — terminal FocusIn / FocusOut
events included — the MouseEnter / MouseLeave notifications alternate per widget. (False before
the repair of F43, `Witness/F43.lean`.) The hypothesis on the trees is a precondition of the
property ("widget trees": a widget is drawn once); `hover_needs_distinct` shows what happens
otherwise. -/
def hover_alternates_full : Prop :=
  ∀ (o : Oracle) (fuel : Nat) (root : Id) (t0 : STree) (steps : List Step),
    HitsNodup t0 → (∀ st ∈ steps, match st with
      | .ev _ => True
      | .frame t1 t2 => HitsNodup t1 ∧ HitsNodup (sortTree t1) ∧ HitsNodup (sortTree t2)) →
    (hoverRun [] (runSteps o fuel (runInit o fuel root t0) steps).trace).isSome

/-- **hover_alternates** (every drawn tree shows each widget at most once under any point; any
events — terminal FocusIn and FocusOut included). Over the whole history of the Run loop — Init,
any events, any frames, any widget behaviour — the MouseEnter/MouseLeave notifications of each
widget alternate starting with Enter, and the widgets whose last notification is Enter are
exactly the widgets of the mouse handler's hit list. -/
theorem hover_alternates (o : Oracle) (fuel : Nat) (root : Id) (t0 : STree) (steps : List Step)
    (h0 : HitsNodup t0) (hs : ∀ st ∈ steps, StepOk st) :
    ∃ hs, hoverRun [] (runSteps o fuel (runInit o fuel root t0) steps).trace = some hs ∧
      ∀ w, w ∈ hs ↔ w ∈ (runSteps o fuel (runInit o fuel root t0) steps).lastHits.map Hit.w := by
  obtain ⟨⟨hs', hr, _, _, hm⟩, _⟩ := hov_run o fuel root t0 steps h0 hs
  exact ⟨hs', hr, hm⟩

theorem hover_alternates_full_holds : hover_alternates_full := by
  intro o fuel root t0 steps h0 hs
  obtain ⟨hs', hr, _⟩ := hover_alternates o fuel root t0 steps h0
    (fun st hst => by
      have := hs st hst
      cases st with
      | ev e => trivial
      | frame t1 t2 => exact this)
  rw [hr]; rfl

/-- … and are all closed when terminal focus leaves: after a FocusOut event every widget's last
hover notification is MouseLeave. -/
theorem hover_closed_on_focus_out (o : Oracle) (fuel : Nat) (root : Id) (t0 : STree) (steps : List Step)
    (h0 : HitsNodup t0) (hs : ∀ st ∈ steps, StepOk st) :
    hoverRun [] (runEvent o fuel (runSteps o fuel (runInit o fuel root t0) steps) .focusOut).trace = some [] := by
  have hi0 : HovInv { runSteps o fuel (runInit o fuel root t0) steps with mouse := none } :=
    (hov_run o fuel root t0 steps h0 hs).1
  exact (mouseExit_inv o fuel _ hi0).nil rfl

/-- … and when the pointer leaves: after a mouse event outside the root surface every widget's
last hover notification is MouseLeave. -/
theorem hover_closed_on_pointer_leave (o : Oracle) (fuel : Nat) (root : Id) (t0 : STree) (steps : List Step)
    (h0 : HitsNodup t0) (hs : ∀ st ∈ steps, StepOk st) (c r : Int)
    (hout : containsPoint 0 0 (runSteps o fuel (runInit o fuel root t0) steps).lastFrame.w
      (runSteps o fuel (runInit o fuel root t0) steps).lastFrame.h c r = false) :
    hoverRun [] (runEvent o fuel (runSteps o fuel (runInit o fuel root t0) steps) (.mouse c r)).trace = some [] := by
  obtain ⟨hi', hf'⟩ := hov_run o fuel root t0 steps h0 hs
  generalize runSteps o fuel (runInit o fuel root t0) steps = s at *
  have hi0 : HovInv { s with mouse := some (c, r) } := hi'
  have hu := mouseUpdate_inv o fuel { s with mouse := some (c, r) } s.lastFrame hf' hi0
  have hl : (mouseUpdate o fuel { s with mouse := some (c, r) } s.lastFrame).lastHits = [] := by
    rw [mouseUpdate_lastHits o fuel _ _ c r rfl]
    simp [hitsAt, hout]
  simp only [runEvent, mouseHandleEvent, hl, List.getLast?_nil]
  exact hu.nil hl

/-- Non-vacuity: hover notifications really occur.  The pointer enters a child and leaves it, the terminal loses and
regains focus: the `MouseEnter` / `MouseLeave` calls of that history, which alternate per widget. -/
example :
    (runSteps ⟨fun _ _ _ _ => .redraw, fun _ => false⟩ 4
      (runInit ⟨fun _ _ _ _ => .redraw, fun _ => false⟩ 4 0 (.node 0 9 9 [(1, 1, 0, .node 1 3 3 [])]))
      [.ev (.mouse 2 2), .ev (.mouse 7 7), .ev .focusOut, .ev .focusIn, .ev (.mouse 0 0), .ev .focusOut]).trace.filter
        (fun e => isRouted .mouseEnter e || isRouted .mouseLeave e) =
    [.call 0 .mouseEnter .target, .call 1 .mouseEnter .target,
     .call 0 .mouseLeave .target, .call 1 .mouseLeave .target, .call 0 .mouseEnter .target,
     .call 0 .mouseLeave .target, .call 0 .mouseEnter .target, .call 0 .mouseLeave .target] := by decide

/-- **hover_alternates** in terms of the trees themselves: it suffices that every drawn tree shows
each widget at most once (render's child sort keeps that). -/
theorem hover_alternates_distinct (o : Oracle) (fuel : Nat) (root : Id) (t0 : STree) (steps : List Step)
    (h0 : (ids t0).Nodup) (hs : ∀ st ∈ steps, StepDistinct st) :
    (∃ hs, hoverRun [] (runSteps o fuel (runInit o fuel root t0) steps).trace = some hs ∧
      ∀ w, w ∈ hs ↔ w ∈ (runSteps o fuel (runInit o fuel root t0) steps).lastHits.map Hit.w) ∧
    hoverRun [] (runEvent o fuel (runSteps o fuel (runInit o fuel root t0) steps) .focusOut).trace = some [] :=
  ⟨hover_alternates o fuel root t0 steps (hitsNodup_of_ids t0 h0) (fun st h => StepOk.of_distinct (hs st h)),
   hover_closed_on_focus_out o fuel root t0 steps (hitsNodup_of_ids t0 h0) (fun st h => StepOk.of_distinct (hs st h))⟩

example : (ids (.node 0 9 9 [(1, 1, 0, .node 1 3 3 []), (0, 0, 1, .node 2 3 3 [(0, 0, 0, .node 3 1 1 [])])])).Nodup := by
  decide

/-- Why the hover theorems need "each widget at most once under a point" (the precondition the
drivers check on every generated tree, `treeDistinct`): a widget drawn inside its own surface is
hit twice and gets MouseEnter twice in a row — notifications are per hit result, not per widget. -/
theorem hover_needs_distinct :
    ¬ HitsNodup (.node 0 9 9 [(0, 0, 0, .node 0 3 3 [])]) ∧
    hoverRun [] (runSteps ⟨fun _ _ _ _ => .nil, fun _ => false⟩ 4
      (runInit ⟨fun _ _ _ _ => .nil, fun _ => false⟩ 4 0 (.node 0 9 9 [(0, 0, 0, .node 0 3 3 [])]))
      [.ev (.mouse 1 1)]).trace = none := by
  refine ⟨fun h => ?_, by decide⟩
  have := h 1 1
  revert this
  decide

end VaxisModel.Props.C15
