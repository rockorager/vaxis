/-
C15 — the bodies of the vxfw dispatch code, regenerated from /repo/vxfw/vxfw.go as syntax (`Gen/VxfwBodies.lean`, by
`extract/cmd/C15/skel.go`) and EXECUTED by the interpreters `Model/VxfwInterp*.lean`, compute the model functions (one
`*_body_eq_model` each), and the `Run` loop over the executed bodies is the model's `eRun` — so the theorems of `Props/C15.lean` /
`Props/C15Err.lean`, stated for the model, hold of the interpreted source (`c15_over_executed_bodies`).  Not executed: the
`select`, the channel receive, the timer, `defer`, the prologue of `Run`, the widgets' `Draw` (oracle trees), `sort.Slice`.
-/
import VaxisModel.Gen.VxfwBodies
import VaxisModel.Lemmas.VxfwBody
import VaxisModel.Lemmas.VxfwBodyMouse
import VaxisModel.Lemmas.VxfwBodyFocus
import VaxisModel.Lemmas.VxfwBodyHover
import VaxisModel.Lemmas.VxfwBodyX
import VaxisModel.Lemmas.VxfwBodyRun
import VaxisModel.Lemmas.VxfwBodyTree
import VaxisModel.Lemmas.VxfwBodyAll
import VaxisModel.Lemmas.VxfwBodySel
import VaxisModel.Lemmas.VxfwBodyKnot
import VaxisModel.Props.C15
import VaxisModel.Props.C15Err

namespace VaxisModel.Props.C15Body
open VaxisModel.Model VaxisModel.Model.GoSyn VaxisModel.Model.Vxfw VaxisModel.Model.VxfwInterp
open VaxisModel.Model.DynExec (parseBody)
open VaxisModel.Spec.Routing VaxisModel.Lemmas.Vxfw

/-- The translator recognised every statement and expression of the twelve translated bodies and of the two arms of the
    `select` in `App.Run` that are executed (the `select` itself, the channel receive, the timer, `defer` and the prologue of
    `Run` are outside the translated subset and not claimed here). -/
theorem fully_recognised :
    (fullyRecognised Gen.VxfwBodies.focusHandleEvent && fullyRecognised Gen.VxfwBodies.mouseHandleEvent &&
     fullyRecognised Gen.VxfwBodies.focusWidget && fullyRecognised Gen.VxfwBodies.updatePath &&
     fullyRecognised Gen.VxfwBodies.mouseExit && fullyRecognised Gen.VxfwBodies.mouseEnter &&
     fullyRecognised Gen.VxfwBodies.mouseUpdate && fullyRecognised Gen.VxfwBodies.handleCommand &&
     fullyRecognised Gen.VxfwBodies.hitTest && fullyRecognised Gen.VxfwBodies.containsPoint &&
     fullyRecognised Gen.VxfwBodies.childHasFocus && fullyRecognised Gen.VxfwBodies.findPath &&
     fullyRecognised Gen.VxfwBodies.runEventBlock && fullyRecognised Gen.VxfwBodies.runFrameBlock) = true := by decide

/-- The regenerated body is the one the execution lemmas are about (fails when vxfw.go changes there; likewise every
    `*_as_expected` below). -/
theorem body_as_expected : Gen.VxfwBodies.focusHandleEvent = Lemmas.VxfwBodyExpected.focusHandleEvent := rfl

/-- `focusHandler.handleEvent`, executed from its regenerated body, IS `eHandleEvent`: new state and returned error; the
    index loop of the bubble phase needs one unit of loop fuel per path element. -/
theorem handle_event_body_eq_model (e : EOracle) (fuel : Nat) (s : St) (ev : Ev) (lf : Nat) (hlf : s.path.length + 1 ≤ lf) :
    runFocusHandleEvent (parseBody Gen.VxfwBodies.focusHandleEvent) e fuel s ev lf = some (eHandleEvent e fuel s ev) := by
  rw [body_as_expected, Lemmas.VxfwBody.parse_fhe]
  exact Lemmas.VxfwBody.fhe_exec e fuel s ev lf hlf

/-- The interpreted body returns a non-nil error iff the model's dispatch ends in a failing offer — `return err` sits
    behind each of the three calls, every other `return` returns nil. -/
theorem handle_event_body_error (e : EOracle) (fuel : Nat) (s : St) (ev : Ev) :
    (runFocusHandleEvent (parseBody Gen.VxfwBodies.focusHandleEvent) e fuel s ev (s.path.length + 1)).map (·.2) =
      some (eHandleEvent e fuel s ev).2 := by
  rw [handle_event_body_eq_model e fuel s ev _ (Nat.le_refl _)]; rfl

/-- With handlers that do not fail, the trace the regenerated body of `handleEvent` produces conforms to the plan
    over the path and the focused widget — `key_routing`, for the body that was executed. -/
theorem key_routing_body (o : Oracle) (fuel : Nat) (s : St) (ev : Ev) (hev : Routable ev) :
    ∃ s' t, runFocusHandleEvent (parseBody Gen.VxfwBodies.focusHandleEvent) (e0 o) fuel s ev (s.path.length + 1) = some (s', false) ∧
      s'.trace = s.trace ++ t ∧ conforms ev s.focused (planOf o.captures s.path .focusTgt) t = true := by
  obtain ⟨t, ht, hc⟩ := C15.key_routing o fuel s ev hev
  refine ⟨handleEvent o fuel s ev, t, ?_, ht, hc⟩
  rw [handle_event_body_eq_model (e0 o) fuel s ev _ (Nat.le_refl _), (C15Err.no_error_agrees_handlers o fuel s).2.1 ev]

theorem mouse_body_as_expected : Gen.VxfwBodies.mouseHandleEvent = Lemmas.VxfwBodyExpected.mouseHandleEvent := rfl

/-- `mouseHandler.handleEvent`, executed from its regenerated body, IS `eMouseHandleEvent` (new state and returned error).
    `m.lastHits` is read live in the target and bubble phases; the dispatch never changes it (`Lemmas.Vxfw.hits_walk`). -/
theorem mouse_handle_event_body_eq_model (e : EOracle) (fuel : Nat) (s : St) (col row : Int) (lf : Nat)
    (hlf : (eMouseUpdate e fuel { s with mouse := some (col, row) } s.lastFrame).1.lastHits.length + 1 ≤ lf) :
    runMouseHandleEvent (parseBody Gen.VxfwBodies.mouseHandleEvent) e fuel s col row lf =
      some (eMouseHandleEvent e fuel s col row) := by
  rw [mouse_body_as_expected, Lemmas.VxfwBody.parse_mhe]
  exact Lemmas.VxfwBody.mhe_exec e fuel s col row lf hlf

/-- With handlers that do not fail, the executed body of `mouseHandler.handleEvent` ends in the state of the model's
    `mouseHandleEvent` and returns nil — so `mouse_routing` holds of the body that was executed. -/
theorem mouse_routing_body (o : Oracle) (fuel : Nat) (s : St) (col row : Int) :
    let s1 := mouseUpdate o fuel { s with mouse := some (col, row) } s.lastFrame
    ∃ s' t, runMouseHandleEvent (parseBody Gen.VxfwBodies.mouseHandleEvent) (e0 o) fuel s col row
        ((eMouseUpdate (e0 o) fuel { s with mouse := some (col, row) } s.lastFrame).1.lastHits.length + 1) = some (s', false) ∧
      s'.trace = s1.trace ++ t ∧
      (match s1.lastHits.getLast? with
       | none => t = []
       | some tg => conforms (.mouse col row) s1.focused (planOf o.captures (s1.lastHits.map (·.w)) (.tgt tg.w)) t = true) := by
  intro s1
  obtain ⟨_, t, ht, hc⟩ := C15.mouse_routing o fuel s col row
  refine ⟨mouseHandleEvent o fuel s col row, t, ?_, ht, hc⟩
  rw [mouse_handle_event_body_eq_model (e0 o) fuel s col row _ (Nat.le_refl _),
    (C15Err.no_error_agrees_handlers o fuel s).2.2 col row]

theorem focus_widget_body_as_expected : Gen.VxfwBodies.focusWidget = Lemmas.VxfwBodyExpected.focusWidget := rfl

/-- `focusHandler.focusWidget`, executed from its regenerated body, IS `eFocusWidgetWith`: the FocusOut handler's error is
    returned BEFORE `f.focused = w`; the FocusOut handler's command is handled BEFORE the FocusIn handler's error is returned
    (the order of the repairs F115b / F115a).  `fuel` is the nesting budget of the two `app.handleCommand` calls, so this is
    `eFocusWidget e (fuel + 1)`. -/
theorem focus_widget_body_eq_model (e : EOracle) (fuel : Nat) (s : St) (w : Id) :
    runFocusWidget (parseBody Gen.VxfwBodies.focusWidget) e fuel s w = some (eFocusWidget e (fuel + 1) s w) := by
  rw [focus_widget_body_as_expected, Lemmas.VxfwBody.parse_fw]
  exact Lemmas.VxfwBody.fw_exec e fuel s w

/-- Non-vacuity: focus on 0, `focusWidget(1)` with a FocusIn handler that fails: the body returns the error,
    the focus has moved (3 trace entries: FocusOut call, `focused = 1`, FocusIn call). -/
example :
    let o : Oracle := ⟨fun _ _ _ _ => .redraw, fun _ => false⟩
    (runFocusWidget (parseBody Lemmas.VxfwBodyExpected.focusWidget) ⟨o, fun w ev _ _ => w = 1 ∧ ev = .focusIn⟩ 2 (St.init 0) 1).map
      (fun r => (r.1.focused, r.1.trace.length, r.1.redraw, r.2)) = some (1, 4, true, true) := by decide +kernel

theorem hover_bodies_as_expected : Gen.VxfwBodies.mouseExit = Lemmas.VxfwBodyExpected.mouseExit ∧
    Gen.VxfwBodies.mouseEnter = Lemmas.VxfwBodyExpected.mouseEnter := ⟨rfl, rfl⟩

/-- `mouseHandler.mouseExit`, executed from its regenerated body, IS `eMouseExit` (what closes the hovers when the
    terminal loses focus): a failing handler's error is returned at once and the hit list kept; else `m.lastHits = []`. -/
theorem mouse_exit_body_eq_model (e : EOracle) (fuel : Nat) (s : St) :
    runMouseExit (parseBody Gen.VxfwBodies.mouseExit) e fuel s = some (eMouseExit e fuel s) := by
  rw [hover_bodies_as_expected.1, Lemmas.VxfwBody.parse_mx]
  exact Lemmas.VxfwBody.mx_exec e fuel s

/-- `mouseHandler.mouseEnter`, executed from its regenerated body, IS `eMouseEnter` (the repair of F43): the hit `{w: w}`
    is appended FIRST, then the widget is told `MouseEnter`. -/
theorem mouse_enter_body_eq_model (e : EOracle) (fuel : Nat) (s : St) (w : Id) :
    runMouseEnter (parseBody Gen.VxfwBodies.mouseEnter) e fuel s w = some (eMouseEnter e fuel s w) := by
  rw [hover_bodies_as_expected.2, Lemmas.VxfwBody.parse_me]
  exact Lemmas.VxfwBody.me_exec e fuel s w

/-- After the interpreted `mouseExit` (no failing handler) the hit list is empty — nothing is entered any more. -/
theorem mouse_exit_body_closes (o : Oracle) (fuel : Nat) (s : St) :
    ∃ s', runMouseExit (parseBody Gen.VxfwBodies.mouseExit) (e0 o) fuel s = some (s', false) ∧ s'.lastHits = [] := by
  rw [mouse_exit_body_eq_model, eMouseExit_noerr]
  exact ⟨_, rfl, rfl⟩

/-- Non-vacuity: widgets 0 and 1 capture, 2 consumes in the bubble phase, 3 is focused; the run of the
    regenerated body calls 0c 1c 3t 2b and returns nil; with a failing target call it stops there and
    returns the error. -/
example :
    let o : Oracle := ⟨fun w _ ph _ => if w = 2 ∧ ph = .bubble then .consume else .nil, fun w => w ≤ 1⟩
    let s0 : St := { focused := 3, root := 0, path := [0, 1, 2, 3] }
    ((runFocusHandleEvent (parseBody Lemmas.VxfwBodyExpected.focusHandleEvent) ⟨o, fun _ _ _ _ => false⟩ 3 s0 (.key 1) 5).map
        (fun r => (r.1.calls, r.2)) = some (4, false)) ∧
    ((runFocusHandleEvent (parseBody Lemmas.VxfwBodyExpected.focusHandleEvent) ⟨o, fun w _ ph _ => w = 3 ∧ ph = .target⟩ 3 s0 (.key 1) 5).map
        (fun r => (r.1.calls, r.2)) = some (3, true)) := by decide +kernel

/-! The non-vacuity `example`s of this file run the interpreters on the EXPECTED copies of the bodies (`Lemmas/VxfwBodyExpected.lean`), not on
    the regenerated ones: a source change must show up as a failing `*_as_expected` theorem, not as a kernel evaluation of unknown
    cost. -/

theorem update_path_body_as_expected : Gen.VxfwBodies.updatePath = Lemmas.VxfwBodyExpected.updatePath := rfl
theorem mouse_update_body_as_expected : Gen.VxfwBodies.mouseUpdate = Lemmas.VxfwBodyExpected.mouseUpdate := rfl
theorem handle_command_body_as_expected : Gen.VxfwBodies.handleCommand = Lemmas.VxfwBodyExpected.handleCommand := rfl

/-- `focusHandler.updatePath`, executed from its regenerated body, IS `eUpdatePath`: the path is recomputed from the new
    frame BEFORE the best-effort refocus, whose error is dropped.  `fuel` = the nesting budget of the `handleCommand` calls
    inside the refocus, so this is `eUpdatePath e (fuel + 1)`. -/
theorem update_path_body_eq_model (e : EOracle) (fuel : Nat) (s : St) (t : STree) :
    runUpdatePath (parseBody Gen.VxfwBodies.updatePath) e fuel s t = some (eUpdatePath e (fuel + 1) s t) := by
  rw [update_path_body_as_expected, Lemmas.VxfwBodyX.parse_up]
  exact Lemmas.VxfwBodyX.up_exec e fuel s t

/-- `mouseHandler.update`, executed from its regenerated body, IS `eMouseUpdate` — the hit-list diff that produces the
    hover notifications (state and returned error).  Hit results are compared as whole structs (column, row, widget);
    `m.lastHits` is read live in the enter loop (nothing in the loops changes it); on a handler's error the hit list is NOT
    replaced. -/
theorem mouse_update_body_eq_model (e : EOracle) (fuel : Nat) (s : St) (t : STree) :
    runMouseUpdate (parseBody Gen.VxfwBodies.mouseUpdate) e fuel s t = some (eMouseUpdate e fuel s t) := by
  rw [mouse_update_body_as_expected, Lemmas.VxfwBodyX.parse_mu]
  exact Lemmas.VxfwBodyX.mu_exec e fuel s t

/-- `App.handleCommand`, executed from its regenerated body, IS `eHandleCommand`: the RECURSIVE call in the two batch arms
    runs the body again, so the pre-order flattening `Cmd.flatten` of the model is what the recursion does, to any nesting
    depth; `nil` matches no arm; the error of `a.fh.focusWidget` is logged and dropped.  `fuel` = the nesting budget inside
    `focusWidget`. -/
theorem handle_command_body_eq_model (e : EOracle) (fuel : Nat) (s : St) (c : Cmd) :
    runHandleCommand (parseBody Gen.VxfwBodies.handleCommand) e fuel s c = some (eHandleCommand e (fuel + 1) s c) := by
  rw [handle_command_body_as_expected, Lemmas.VxfwBodyX.parse_hc]
  exact Lemmas.VxfwBodyX.hc_run e fuel s c

/-- Non-vacuity (`handleCommand`): a batch inside a `[]Command` inside a batch, with a focus command in the middle — the
    executed body sets the flags, moves the focus (FocusOut, `focused = 2`, FocusIn: 3 entries + 4 effects) and stops
    nowhere; `nil` elements are skipped. -/
example :
    let o : Oracle := ⟨fun _ _ _ _ => .nil, fun _ => false⟩
    (runHandleCommand (parseBody Lemmas.VxfwBodyExpected.handleCommand) ⟨o, fun _ _ _ _ => false⟩ 2 (St.init 0)
        (.batch [.redraw, .nil, .slice [.other 5, .batch [.focus 2, .quit]], .consume])).map
      (fun s => (s.redraw, s.quit, s.consume, s.focused, s.trace.length)) = some (true, true, true, 2, 7) := by decide +kernel

/-- Non-vacuity (`update`): the pointer moves from widget 1 (old hits 0,1 at other local coordinates) onto widget 3: the
    executed body sends MouseLeave to 0 and 1 (their hit results differ in the coordinates), then MouseEnter to 0 and 3, and
    stores the new hit list; with a failing MouseLeave handler it returns the error after the first call and keeps the old
    list. -/
example :
    let o : Oracle := ⟨fun _ _ _ _ => .nil, fun _ => false⟩
    let t : STree := .node 0 10 10 [(1, 1, 0, .node 1 2 2 []), (5, 5, 0, .node 3 3 3 [])]
    let s0 : St := { St.init 0 with mouse := some (6, 6), lastHits := [⟨1, 1, 0⟩, ⟨0, 0, 1⟩] }
    ((runMouseUpdate (parseBody Lemmas.VxfwBodyExpected.mouseUpdate) ⟨o, fun _ _ _ _ => false⟩ 2 s0 t).map
        (fun r => (r.1.calls, r.1.lastHits.map (·.w), r.2)) = some (4, [0, 3], false)) ∧
    ((runMouseUpdate (parseBody Lemmas.VxfwBodyExpected.mouseUpdate) ⟨o, fun _ ev _ _ => ev = .mouseLeave⟩ 2 s0 t).map
        (fun r => (r.1.calls, r.1.lastHits.map (·.w), r.2)) = some (1, [0, 1], true)) := by decide +kernel

/-- The regenerated bodies, parsed: what `bRun` executes. -/
def genBodies : Bodies :=
  ⟨parseBody Gen.VxfwBodies.focusHandleEvent, parseBody Gen.VxfwBodies.mouseHandleEvent, parseBody Gen.VxfwBodies.mouseUpdate,
   parseBody Gen.VxfwBodies.mouseExit, parseBody Gen.VxfwBodies.mouseEnter, parseBody Gen.VxfwBodies.updatePath⟩

theorem genBodies_eq : genBodies = Lemmas.VxfwBodyRun.expB := by
  unfold genBodies Lemmas.VxfwBodyRun.expB
  rw [body_as_expected, mouse_body_as_expected, mouse_update_body_as_expected, hover_bodies_as_expected.1,
    hover_bodies_as_expected.2, update_path_body_as_expected, Lemmas.VxfwBody.parse_fhe, Lemmas.VxfwBody.parse_mhe,
    Lemmas.VxfwBodyX.parse_mu, Lemmas.VxfwBody.parse_mx, Lemmas.VxfwBody.parse_me, Lemmas.VxfwBodyX.parse_up]

/-- The `Run` loop over the EXECUTED bodies is the model's `eRun` (final state, whole trace included, and returned error):
    `bRun` = the event switch and the frame step of `App.Run` (transcribed) calling the six dispatchers as interpreted from
    their regenerated bodies.  So every history theorem of `Props/C15.lean` / `Props/C15Err.lean` speaks about the loop over
    the executed bodies.  (Inside the bodies `app.handleCommand`, `m.update`, `f.focusWidget` are the model functions, which
    `handle_command_body_eq_model`, `mouse_update_body_eq_model`, `focus_widget_body_eq_model` identify with their own
    executed bodies.) -/
theorem run_bodies_eq_model (e : EOracle) (fuel : Nat) (root : Id) (t0 : STree) (steps : List Step) :
    bRun genBodies e fuel root t0 steps = some (eRun e (fuel + 1) root t0 steps) := by
  rw [genBodies_eq]
  exact Lemmas.VxfwBodyRun.bRun_eq e fuel root t0 steps

/-- `hover_alternates` for the loop over the executed bodies (handlers that return no error; same precondition: every
    drawn tree shows a widget at most once under a point). -/
theorem hover_alternates_bodies (o : Oracle) (fuel : Nat) (root : Id) (t0 : STree) (steps : List Step)
    (h0 : HitsNodup t0) (hs : ∀ st ∈ steps, StepOk st) :
    ∃ s' ent, bRun genBodies (e0 o) fuel root t0 steps = some (s', false) ∧
      hoverRun [] s'.trace = some ent ∧ ∀ w, w ∈ ent ↔ w ∈ s'.lastHits.map Hit.w := by
  obtain ⟨ent, hr, hm⟩ := C15.hover_alternates o (fuel + 1) root t0 steps h0 hs
  refine ⟨_, ent, ?_, hr, hm⟩
  rw [run_bodies_eq_model, C15Err.no_error_agrees]

/-- … and all closed when the terminal focus leaves: after any such history, the FocusOut arm (`mh.mouse = nil;
    mh.mouseExit(app)` run from its body) leaves every widget's last hover notification a MouseLeave. -/
theorem hover_closed_bodies (o : Oracle) (fuel : Nat) (root : Id) (t0 : STree) (steps : List Step)
    (h0 : HitsNodup t0) (hs : ∀ st ∈ steps, StepOk st) :
    ∃ s1 s', bRun genBodies (e0 o) fuel root t0 steps = some (s1, false) ∧
      bRunEvent genBodies (e0 o) fuel s1 .focusOut = some (s', false) ∧ hoverRun [] s'.trace = some [] := by
  have hc := C15.hover_closed_on_focus_out o (fuel + 1) root t0 steps h0 hs
  refine ⟨runSteps o (fuel + 1) (runInit o (fuel + 1) root t0) steps, _, ?_, ?_, hc⟩
  · rw [run_bodies_eq_model, C15Err.no_error_agrees]
  · show runMouseExit (parseBody Gen.VxfwBodies.mouseExit) (e0 o) (fuel + 1) _ = _
    rw [mouse_exit_body_eq_model]
    exact congrArg some (Lemmas.Vxfw.eRunEvent_noerr o (fuel + 1) _ .focusOut)

theorem tree_bodies_as_expected : Gen.VxfwBodies.hitTest = Lemmas.VxfwBodyExpected.hitTest ∧
    Gen.VxfwBodies.containsPoint = Lemmas.VxfwBodyExpected.containsPoint ∧
    Gen.VxfwBodies.childHasFocus = Lemmas.VxfwBodyExpected.childHasFocus := ⟨rfl, rfl, rfl⟩

theorem contains_point_body_eq_model (k : Kid) (col row : Int) :
    VxfwInterpTree.runContainsPoint Gen.VxfwBodies.containsPoint k col row =
      some (containsPoint k.1 k.2.1 k.2.2.2.w k.2.2.2.h col row) := by
  rw [tree_bodies_as_expected.2.1]
  exact Lemmas.VxfwBodyTree.cp_run k col row

/-- `hitTest`, executed from its regenerated body, IS the model's `hitTest` (appended to the `hits` argument); the local
    coordinates are computed in `uint16` (wrap-around at 65536 — also for negative origins).  So `hit_list_is_under` /
    `hit_chain` / `mouse_routing` speak about the executed hit test. -/
theorem hit_test_body_eq_model (t : STree) (hits : List Hit) (col row : Int) :
    VxfwInterpTree.runHitTest (parseBody Gen.VxfwBodies.hitTest) Gen.VxfwBodies.containsPoint t hits col row =
      some (hits ++ hitTest t col row) := by
  rw [tree_bodies_as_expected.1, tree_bodies_as_expected.2.1, Lemmas.VxfwBodyTree.parse_ht]
  exact Lemmas.VxfwBodyTree.ht_run t hits col row

/-- `focusHandler.childHasFocus`, executed from its regenerated body, IS the model's `childHasFocus`: the chain is appended
    to `f.path` target first (`findPath` reverses it), from the FIRST surface (depth first, children in slice order) of the
    focused widget; nothing is appended when it returns false. -/
theorem child_has_focus_body_eq_model (f : Id) (path : List Id) (t : STree) :
    VxfwInterpTree.runChildHasFocus (parseBody Gen.VxfwBodies.childHasFocus) f path t =
      some (path ++ (childHasFocus f t).getD [], (childHasFocus f t).isSome) := by
  rw [tree_bodies_as_expected.2.2, Lemmas.VxfwBodyTree.parse_ch]
  exact Lemmas.VxfwBodyTree.ch_run f path t

/-- Non-vacuity: a child at a NEGATIVE origin (-3,-3) containing the point (1,1): the executed body computes the local
    coordinates in `uint16` (1 - 65533 wraps to 4); a grandchild; a child not containing the point is skipped; and the focus
    path of widget 2 (drawn inside 1 inside 0), appended target first. -/
example :
    let t : STree := .node 0 10 10 [(1, 1, 0, .node 1 5 5 [(0, 0, 0, .node 2 2 2 [])]), (5, 5, 1, .node 3 3 3 []), (-3, -3, 0, .node 4 5 5 [])]
    (VxfwInterpTree.runHitTest (parseBody Lemmas.VxfwBodyExpected.hitTest) Lemmas.VxfwBodyExpected.containsPoint t [] 1 1).map
        (·.map (fun h => (h.col, h.row, h.w))) = some [(1, 1, 0), (0, 0, 1), (0, 0, 2), (4, 4, 4)] ∧
    VxfwInterpTree.runChildHasFocus (parseBody Lemmas.VxfwBodyExpected.childHasFocus) 2 [] t = some ([2, 1, 0], true) ∧
    VxfwInterpTree.runChildHasFocus (parseBody Lemmas.VxfwBodyExpected.childHasFocus) 9 [7] t = some ([7], false) := by decide +kernel

theorem find_path_body_as_expected : Gen.VxfwBodies.findPath = Lemmas.VxfwBodyExpected.findPath := rfl

/-- `focusHandler.findPath`, executed from its regenerated body (calling the executed body of `childHasFocus`), IS the
    model's `findPath` — the function `path_correct` / `path_is_drawn_chain` / `key_routing_drawn` are about.  The IN-PLACE
    reversal loop is `List.reverse` for every length (invariant: the outer `i` positions at both ends hold the reversed list),
    its index expressions never out of range.  Every state, incl. the zero `Surface` before the first frame. -/
theorem find_path_body_eq_model (s : St) :
    VxfwInterpTree.runFindPath (parseBody Gen.VxfwBodies.findPath) (parseBody Gen.VxfwBodies.childHasFocus) s.focused s.root s.fhFrame =
      some ((findPath s).1.path, (findPath s).2) := by
  rw [find_path_body_as_expected, tree_bodies_as_expected.2.2, Lemmas.VxfwBodyTree.parse_fp, Lemmas.VxfwBodyTree.parse_ch]
  exact Lemmas.VxfwBodyTree.fp_exec s

/-- Non-vacuity: widget 5 focused, drawn at depth 3 under a root surface owned by widget 0 while the root widget is 7: the executed
    `findPath` appends 7 and reverses five elements in place; an undrawn focus gives `[root]` and false. -/
example :
    let t : STree := .node 0 10 10 [(1, 1, 0, .node 1 5 5 [(0, 0, 0, .node 2 2 2 [(0, 0, 0, .node 5 1 1 [])])]), (5, 5, 1, .node 3 3 3 [])]
    VxfwInterpTree.runFindPath (parseBody Lemmas.VxfwBodyExpected.findPath) (parseBody Lemmas.VxfwBodyExpected.childHasFocus) 5 7 (some t) = some ([7, 0, 1, 2, 5], true) ∧
    VxfwInterpTree.runFindPath (parseBody Lemmas.VxfwBodyExpected.findPath) (parseBody Lemmas.VxfwBodyExpected.childHasFocus) 9 0 (some t) = some ([0], false) ∧
    VxfwInterpTree.runFindPath (parseBody Lemmas.VxfwBodyExpected.findPath) (parseBody Lemmas.VxfwBodyExpected.childHasFocus) 9 0 none = some ([0], false) := by decide +kernel

/-- **C15 over the executed bodies, in one statement.**  For every widget behaviour `o` whose refocus chains from focus
    notifications terminate (`NotifRanked`, ranks ≤ `R`), every history of the Run loop over the EXECUTED bodies (`bRun`: Init,
    key / custom / mouse events, terminal FocusIn / FocusOut, resize, redraw, frames with arbitrary trees each showing a widget at
    most once under a point), any nesting budget `≥ 3R+3` (+1 inside): the loop returns no error and in the state it reaches
    * the budget was never exhausted,
    * `f.path` is the drawn chain of the widget focused NOW (so the next key event is routed over it),
    * all FocusOut / FocusIn notifications of the history pair up, ending with the focused widget,
    * MouseEnter / MouseLeave alternate for every widget and the entered widgets are those of the hit list,
    * every command returned by any handler call of the history took effect exactly once,
    * and the next key / custom event, dispatched by the EXECUTED body of `focusHandler.handleEvent`, is offered capture → target →
      bubble over that drawn chain, stopping at the first consumed offer.
    (Each clause is a theorem of `Props/C15.lean` transported along `run_bodies_eq_model`.) -/
theorem c15_over_executed_bodies (o : Oracle) (rk : Id → Nat) (R : Nat) (hR : ∀ w, rk w ≤ R) (hrk : NotifRanked o rk)
    (fuel : Nat) (hf : 3 * R + 3 ≤ fuel) (root : Id) (t0 : STree) (steps : List Step)
    (h0 : HitsNodup t0) (hs : ∀ st ∈ steps, StepOk st) :
    ∃ s', bRun genBodies (e0 o) fuel root t0 steps = some (s', false) ∧
      s'.stuck = false ∧
      s'.path = drawnPath s' ∧
      focusRun root false s'.trace = some s'.focused ∧
      (∃ ent, hoverRun [] s'.trace = some ent ∧ ∀ w, w ∈ ent ↔ w ∈ s'.lastHits.map Hit.w) ∧
      (effectsIn s'.trace).Perm (owed o.h 0 s'.trace) ∧
      (∀ ev, Routable ev → ∃ s'' tr,
        runFocusHandleEvent (parseBody Gen.VxfwBodies.focusHandleEvent) (e0 o) (fuel + 1) s' ev (s'.path.length + 1) = some (s'', false) ∧
        s''.trace = s'.trace ++ tr ∧ conforms ev s'.focused (planOf o.captures (drawnPath s') .focusTgt) tr = true) := by
  obtain ⟨hst, hperm⟩ := C15.commands_once_history_ranked o rk R hR hrk (fuel + 1) (by omega) root t0 steps
  have hpath := C15.path_is_drawn_chain o (fuel + 1) root t0 steps
  refine ⟨runSteps o (fuel + 1) (runInit o (fuel + 1) root t0) steps, ?_, hst, hpath,
    C15.focus_change_once_history o (fuel + 1) root t0 steps, C15.hover_alternates o (fuel + 1) root t0 steps h0 hs, hperm, ?_⟩
  · rw [run_bodies_eq_model, C15Err.no_error_agrees]
  · intro ev hev
    obtain ⟨s'', tr, h1, h2, h3⟩ := key_routing_body o (fuel + 1) (runSteps o (fuel + 1) (runInit o (fuel + 1) root t0) steps) ev hev
    rw [hpath] at h3
    exact ⟨s'', tr, h1, h2, h3⟩

/-- Non-vacuity of `c15_over_executed_bodies`: the chain oracle of `Props/C15.lean` (widget 1's FocusIn handler focuses widget 2)
    with rank 1 for widget 1, `R = 1`, budget 6, a tree drawing 0, 1, 2 once each, and a history with a key (focus 1 → 2), a frame,
    a mouse event and a terminal FocusOut: all hypotheses hold, so all seven clauses do. -/
example :
    let t : STree := .node 0 9 9 [(0, 0, 0, .node 1 2 2 []), (3, 3, 0, .node 2 2 2 [])]
    ∃ s', bRun Lemmas.VxfwBodyRun.expB (e0 C15.chainOracle) 6 0 t [.ev (.key 1), .frame t t, .ev (.mouse 1 1), .ev .focusOut] = some (s', false) ∧
      s'.stuck = false ∧ s'.path = drawnPath s' ∧ (effectsIn s'.trace).Perm (owed C15.chainOracle.h 0 s'.trace) := by
  intro t
  have hn : HitsNodup t := hitsNodup_of_ids t (by decide)
  have hn' : HitsNodup (sortTree t) := hitsNodup_of_ids _ (by decide)
  obtain ⟨s', h1, h2, h3, _, _, h6, _⟩ := c15_over_executed_bodies C15.chainOracle (fun w => if w = 1 then 1 else 0) 1
    (by intro w; by_cases h : w = 1 <;> simp [h]) C15.chainOracle_ranked 6 (by decide) 0 t
    [.ev (.key 1), .frame t t, .ev (.mouse 1 1), .ev .focusOut] hn
    (by
      intro st hst
      simp only [List.mem_cons, List.mem_nil_iff, or_false] at hst
      rcases hst with rfl | rfl | rfl | rfl
      · trivial
      · exact ⟨hn, hn', hn'⟩
      · trivial
      · trivial)
  exact ⟨s', h1, h2, h3, h6⟩

def genCallees : Callees :=
  ⟨parseBody Gen.VxfwBodies.hitTest, Gen.VxfwBodies.containsPoint, parseBody Gen.VxfwBodies.findPath,
   parseBody Gen.VxfwBodies.childHasFocus, parseBody Gen.VxfwBodies.focusWidget⟩

theorem genCallees_eq : genCallees = Lemmas.VxfwBodyAll.expC := by
  unfold genCallees Lemmas.VxfwBodyAll.expC
  rw [tree_bodies_as_expected.1, tree_bodies_as_expected.2.1, tree_bodies_as_expected.2.2, find_path_body_as_expected,
    focus_widget_body_as_expected, Lemmas.VxfwBodyTree.parse_ht, Lemmas.VxfwBodyTree.parse_fp, Lemmas.VxfwBodyTree.parse_ch,
    Lemmas.VxfwBody.parse_fw]

/-- `mouseHandler.update` executed from its body, with `hitTest` and `containsPoint` executed from THEIR bodies inside it, is
    `eMouseUpdate`: the whole hover diff — hit testing with its `uint16` arithmetic included — runs from regenerated syntax. -/
theorem mouse_update_bodies_eq_model (e : EOracle) (fuel : Nat) (s : St) (t : STree) :
    runMouseUpdateAll (parseBody Gen.VxfwBodies.mouseUpdate) genCallees e fuel s t = some (eMouseUpdate e fuel s t) := by
  rw [mouse_update_body_as_expected, Lemmas.VxfwBodyX.parse_mu, genCallees_eq]
  exact Lemmas.VxfwBodyAll.mu_all e fuel s t

/-- `focusHandler.updatePath` executed from its body, with `findPath` (→ `childHasFocus`) and the best-effort `focusWidget`
    executed from THEIR bodies inside it, is `eUpdatePath` (inside the `focusWidget` body `app.handleCommand` is
    `eHandleCommand e fuel`, see `handle_command_bodies_eq_model`). -/
theorem update_path_bodies_eq_model (e : EOracle) (fuel : Nat) (s : St) (t : STree) :
    runUpdatePathAll (parseBody Gen.VxfwBodies.updatePath) genCallees e fuel s t = some (eUpdatePath e (fuel + 1) s t) := by
  rw [update_path_body_as_expected, Lemmas.VxfwBodyX.parse_up, genCallees_eq]
  exact Lemmas.VxfwBodyAll.up_all e fuel s t

/-- `App.handleCommand` executed from its body, with `a.fh.focusWidget(a, cmd)` executed from ITS body inside it, is
    `eHandleCommand e (fuel + 1)`; the two `app.handleCommand(cmd)` calls inside that `focusWidget` body are `eHandleCommand e fuel`,
    which by this very theorem at `fuel - 1` is again the executed body — so for every budget the model's command interpreter IS
    the unrolling of the two executed bodies calling each other, down to the budget. -/
theorem handle_command_bodies_eq_model (e : EOracle) (fuel : Nat) (s : St) (c : Cmd) :
    runHandleCommandAll (parseBody Gen.VxfwBodies.handleCommand) genCallees e fuel s c = some (eHandleCommand e (fuel + 1) s c) := by
  rw [handle_command_body_as_expected, Lemmas.VxfwBodyX.parse_hc, genCallees_eq]
  exact Lemmas.VxfwBodyAll.hc_all e fuel s c

/-- Non-vacuity: `handleCommand(FocusWidgetCmd(1))` through both executed bodies with the chain oracle (1's FocusIn handler
    focuses 2 and asks for a redraw): the focus ends on 2, redraw is set, 4 handler calls (FocusOut 0, FocusIn 1, FocusOut 1,
    FocusIn 2), budget not exhausted. -/
example :
    (runHandleCommandAll (parseBody Lemmas.VxfwBodyExpected.handleCommand) Lemmas.VxfwBodyAll.expC (e0 C15.chainOracle) 3 (St.init 0) (.focus 1)).map
      (fun s => (s.focused, s.redraw, s.calls, s.stuck)) = some (2, true, 4, false) := by decide +kernel

/-- The hit-list diff, explicitly (handlers that answer nil, so that nothing but the notifications is in the trace): the
    executed body of `mouseHandler.update` appends to the trace FIRST one `MouseLeave` call for every hit result of the OLD list
    that is not (as a struct) in the new one, in the old order, THEN one `MouseEnter` call for every hit result of the NEW list
    (`hitsAt` of the surface at the pointer) that is not in the old one, in the new order — nothing else —, returns nil and
    stores the new list. -/
theorem mouse_update_body_explicit (o : Oracle) (hq : ∀ w ev ph k, o.h w ev ph k = .nil) (fuel : Nat) (s : St) (t : STree)
    (c r : Int) (hm : s.mouse = some (c, r)) :
    ∃ s', runMouseUpdate (parseBody Gen.VxfwBodies.mouseUpdate) (e0 o) (fuel + 1) s t = some (s', false) ∧
      s'.trace = s.trace ++
        (s.lastHits.filter (fun h => !(hitsAt t c r).contains h)).map (fun h => Entry.call h.w .mouseLeave .target) ++
        ((hitsAt t c r).filter (fun h => !s.lastHits.contains h)).map (fun h => Entry.call h.w .mouseEnter .target) ∧
      s'.lastHits = hitsAt t c r := by
  refine ⟨mouseUpdate o (fuel + 1) s t, ?_, ?_, ?_⟩
  · rw [mouse_update_body_eq_model, Lemmas.Vxfw.eMouseUpdate_noerr]
  · simp only [mouseUpdate, hm]
    obtain ⟨h1, h1'⟩ := Lemmas.VxfwBodyRun.foldl_notify_quiet o hq fuel .mouseLeave (fun h => (hitsAt t c r).contains h) s.lastHits s
    obtain ⟨h2, _⟩ := Lemmas.VxfwBodyRun.foldl_notify_quiet o hq fuel .mouseEnter (fun h => s.lastHits.contains h) (hitsAt t c r)
      (s.lastHits.foldl (fun s h1 => if (hitsAt t c r).contains h1 then s else notify o (fuel + 1) s h1.w .mouseLeave) s)
    rw [h2, h1]
  · simp [mouseUpdate, hm]

/-- When the executed `mouseHandler.update` returns an error (a MouseLeave or MouseEnter handler failed), `m.lastHits` is
    what it was — the new list is NOT stored, so the widgets already told MouseLeave are still recorded as entered when `Run`
    returns the error. -/
theorem mouse_update_body_error_keeps_hits (e : EOracle) (fuel : Nat) (s : St) (t : STree) (s' : St)
    (h : runMouseUpdate (parseBody Gen.VxfwBodies.mouseUpdate) e fuel s t = some (s', true)) : s'.lastHits = s.lastHits := by
  rw [mouse_update_body_eq_model] at h
  have h2 : (eMouseUpdate e fuel s t).1 = s' := congrArg Prod.fst (Option.some.inj h)
  rw [← h2]
  exact Lemmas.VxfwBodyRun.eMouseUpdate_err_hits e fuel s t (congrArg Prod.snd (Option.some.inj h))

/-- The `Run` loop with the frame step interpreted down to the handler calls: `bRunAll` = `bRun` whose frame step runs
    `mh.update` with `hitTest` / `containsPoint` from their bodies and `a.fh.updatePath` with `findPath` → `childHasFocus` and the
    best-effort `focusWidget` from theirs.  It too is the model's `eRun`. -/
theorem run_all_bodies_eq_model (e : EOracle) (fuel : Nat) (root : Id) (t0 : STree) (steps : List Step) :
    bRunAll genBodies genCallees e fuel root t0 steps = some (eRun e (fuel + 1) root t0 steps) := by
  rw [genBodies_eq, genCallees_eq]
  exact Lemmas.VxfwBodyAll.bRunAll_eq e fuel root t0 steps

/-- … hence equal to the loop `c15_over_executed_bodies` speaks about: every clause proved there holds of the deeper loop. -/
theorem run_all_bodies_eq_run_bodies (e : EOracle) (fuel : Nat) (root : Id) (t0 : STree) (steps : List Step) :
    bRunAll genBodies genCallees e fuel root t0 steps = bRun genBodies e fuel root t0 steps := by
  rw [run_all_bodies_eq_model, run_bodies_eq_model]

theorem run_blocks_as_expected : Gen.VxfwBodies.runEventBlock = Lemmas.VxfwBodyExpected.runEventBlock ∧
    Gen.VxfwBodies.runFrameBlock = Lemmas.VxfwBodyExpected.runFrameBlock := ⟨rfl, rfl⟩

/-- The event arm of `Run`, executed from its regenerated statement list with every callee run from ITS body, IS `eRunEvent`
    followed by the `shouldQuit` test: the arm ends with `ret true` iff the model returns the error, `ret false` iff
    `shouldQuit` is set, else the loop goes on. -/
theorem run_event_body_eq_model (e : EOracle) (fuel : Nat) (s : St) (ev : RunEv) :
    runEventBlock (parseBody Gen.VxfwBodies.runEventBlock) (rCallees genBodies genCallees e fuel) s ev =
      some ((eRunEvent e (fuel + 1) s ev).1, Lemmas.VxfwBodySel.evCtl (eRunEvent e (fuel + 1) s ev)) := by
  rw [run_blocks_as_expected.1, Lemmas.VxfwBodySel.parse_re, genBodies_eq, genCallees_eq]
  exact Lemmas.VxfwBodySel.re_exec e (fuel + 1) _ (Lemmas.VxfwBodySel.good_rcallees e fuel) s ev

/-- The frame arm of `Run`, executed likewise, IS `eRunFrame`: the widget's `Draw` is the oracle (`t1`; `t2` for the second
    layout, made iff a hover handler asked for a redraw), `s.render` is `sortTree`, `updatePath` runs on the SORTED tree; the
    arm ends with `cont` iff nothing was to redraw. -/
theorem run_frame_body_eq_model (e : EOracle) (fuel : Nat) (s : St) (t1 t2 : STree) :
    runFrameBlock (parseBody Gen.VxfwBodies.runFrameBlock) (rCallees genBodies genCallees e fuel) s t1 t2 =
      some ((eRunFrame e (fuel + 1) s t1 t2).1, Lemmas.VxfwBodySel.frCtl s (eRunFrame e (fuel + 1) s t1 t2)) := by
  rw [run_blocks_as_expected.2, Lemmas.VxfwBodySel.parse_rf, genBodies_eq, genCallees_eq]
  exact Lemmas.VxfwBodySel.rf_exec e (fuel + 1) _ (Lemmas.VxfwBodySel.good_rcallees e fuel) s t1 t2

/-- The `Run` loop over the EXECUTED arms (`rRun`: the transcribed prologue — focus handler init, Init dispatch by the executed
    `handleEvent` body, first layout —, then for every step the executed event arm or the executed frame arm) is `eRun`: no
    transcribed dispatcher code is left in the loop.  Hence equal to `bRun` / `bRunAll`, and every clause of
    `c15_over_executed_bodies` holds of it. -/
theorem run_select_bodies_eq_model (e : EOracle) (fuel : Nat) (root : Id) (t0 : STree) (steps : List Step) :
    rRun (parseBody Gen.VxfwBodies.runEventBlock) (parseBody Gen.VxfwBodies.runFrameBlock) genBodies genCallees e fuel root t0 steps =
      some (eRun e (fuel + 1) root t0 steps) := by
  rw [run_blocks_as_expected.1, run_blocks_as_expected.2, Lemmas.VxfwBodySel.parse_re, Lemmas.VxfwBodySel.parse_rf, genBodies_eq,
    genCallees_eq]
  exact Lemmas.VxfwBodySel.rRun_eq e fuel root t0 steps

/-- Non-vacuity: a key whose handler quits ends the executed event arm with `return nil`; a frame with nothing to redraw is a
    `continue`; a frame after a Resize draws once and stores the sorted tree. -/
example :
    let o : Oracle := ⟨fun _ ev _ _ => if ev = .key 1 then .quit else .nil, fun _ => false⟩
    let t : STree := .node 0 9 9 [(0, 0, 1, .node 1 2 2 []), (3, 3, 0, .node 2 2 2 [])]
    let C := rCallees Lemmas.VxfwBodyRun.expB Lemmas.VxfwBodyAll.expC (e0 o) 2
    ((runEventBlock (parseBody Lemmas.VxfwBodyExpected.runEventBlock) C (St.init 0) (.key 1)).map (fun r => (r.1.quit, r.2)) = some (true, .ret false)) ∧
    ((runFrameBlock (parseBody Lemmas.VxfwBodyExpected.runFrameBlock) C (St.init 0) t t).map (·.2) = some .cont) ∧
    ((runFrameBlock (parseBody Lemmas.VxfwBodyExpected.runFrameBlock) C { St.init 0 with redraw := true } t t).map
        (fun r => (r.1.redraw, r.1.lastFrame.ch.map (·.2.2.2.id), r.2)) = some (false, [2, 1], .norm)) := by decide +kernel

def genAll : AllBodies :=
  ⟨genBodies, genCallees, parseBody Gen.VxfwBodies.handleCommand, parseBody Gen.VxfwBodies.runEventBlock,
   parseBody Gen.VxfwBodies.runFrameBlock⟩

theorem genAll_eq : genAll = Lemmas.VxfwBodyKnot.expA := by
  unfold genAll Lemmas.VxfwBodyKnot.expA
  rw [genBodies_eq, genCallees_eq, handle_command_body_as_expected, run_blocks_as_expected.1, run_blocks_as_expected.2,
    Lemmas.VxfwBodyX.parse_hc, Lemmas.VxfwBodySel.parse_re, Lemmas.VxfwBodySel.parse_rf]

/-- The knot is the model's command interpreter.  `kHandleCommand` = the body of `App.handleCommand` executed with
    `a.fh.focusWidget(a, cmd)` = the body of `focusWidget` executed with `app.handleCommand(cmd)` = the knot again one budget lower
    (and `f.findPath()` = the body of `findPath` → `childHasFocus`), down to budget 0 where the model gives up (`stuck`; in Go only
    the stack bounds the recursion — F115c).  It computes `eHandleCommand` — no model function inside. -/
theorem knot_eq_model (e : EOracle) (n : Nat) (s : St) (c : Cmd) :
    kHandleCommand genAll e n s c = some (eHandleCommand e n s c) := by
  rw [genAll_eq]
  exact Lemmas.VxfwBodyKnot.knot_hc e n s c

/-- … and the `focusWidget` half of the knot is `eFocusWidget`. -/
theorem knot_focus_widget_eq_model (e : EOracle) (n : Nat) (s : St) (w : Id) :
    kFocusWidget genAll e n s w = some (eFocusWidget e (n + 1) s w) := by
  rw [genAll_eq]
  exact Lemmas.VxfwBodyKnot.knot_fw e n s w

/-- `App.Run` with the knot inside is `eRun`.  `kRun`: the prologue (transcribed: focus handler init, `Init{}` dispatched,
    first layout), then the loop over the two EXECUTED arms of the `select`, which call the EXECUTED bodies of the dispatchers,
    whose callees (`app.handleCommand` = the knot — also for the hover notifications inside `mouseHandler.update` —, `m.update`,
    `f.findPath`, `f.focusWidget`, `hitTest`, `containsPoint`, `childHasFocus`) are executed bodies too.  Not executed syntax:
    `select` / channel / timer, the three statements of the prologue, the widgets' `Draw` (oracle trees) and `sort.Slice`
    (`sortTree`) — no model function of the dispatch is left. -/
theorem run_knot_eq_model (e : EOracle) (fuel : Nat) (root : Id) (t0 : STree) (steps : List Step) :
    kRun genAll e fuel root t0 steps = some (eRun e (fuel + 1) root t0 steps) := by
  rw [genAll_eq]
  exact Lemmas.VxfwBodyKnot.kRun_eq e fuel root t0 steps

/-- Non-vacuity: the chain oracle through the knot — `focus 1` at budget 3: widget 1's FocusIn handler focuses 2 (nested
    `handleCommand` at budget 2 → `focusWidget` → …); at budget 1 the nested command finds the budget exhausted. -/
example :
    (kHandleCommand Lemmas.VxfwBodyKnot.expA (e0 C15.chainOracle) 3 (St.init 0) (.focus 1)).map (fun s => (s.focused, s.calls, s.stuck)) = some (2, 4, false) ∧
    (kHandleCommand Lemmas.VxfwBodyKnot.expA (e0 C15.chainOracle) 1 (St.init 0) (.focus 1)).map (fun s => (s.focused, s.stuck)) = some (1, true) := by
  decide +kernel

/-- Hover under failing handlers, for the loop with no model function inside: whatever calls fail, `kRun` ends in a state whose
    trace has alternating MouseEnter / MouseLeave notifications per widget, and if it returns no error the entered widgets are
    exactly those of the hit list (`C15Err.hover_after_error` transported along `run_knot_eq_model`). -/
theorem hover_after_error_bodies (e : EOracle) (fuel : Nat) (root : Id) (t0 : STree) (steps : List Step)
    (h0 : HitsNodup t0) (hs : ∀ st ∈ steps, StepOk st) :
    ∃ s' b, kRun genAll e fuel root t0 steps = some (s', b) ∧ (hoverRun [] s'.trace).isSome = true ∧
      (b = false → ∃ ent, hoverRun [] s'.trace = some ent ∧ ∀ w, w ∈ ent ↔ w ∈ s'.lastHits.map Hit.w) := by
  obtain ⟨h1, h2⟩ := C15Err.hover_after_error e (fuel + 1) root t0 steps h0 hs
  exact ⟨_, _, run_knot_eq_model e fuel root t0 steps, h1, h2⟩

end VaxisModel.Props.C15Body
