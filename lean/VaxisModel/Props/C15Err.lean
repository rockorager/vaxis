import VaxisModel.Lemmas.VxfwErr
import VaxisModel.Lemmas.VxfwHover
import VaxisModel.Lemmas.VxfwHoverErr
import VaxisModel.Lemmas.VxfwFocusErr
import VaxisModel.Lemmas.VxfwOnceErr

/-!
# C15 — handlers that return an error

What `App.Run` does when a `HandleEvent` / `CaptureEvent` call returns a non-nil `error`
(`Model/VxfwErr.lean`, tied to the code by the correspondence streams: scripted answers may be
errors). For every widget behaviour, every choice of failing calls, state and history.
-/
namespace VaxisModel.Props.C15Err
open VaxisModel.Model.Vxfw VaxisModel.Spec.Routing VaxisModel.Lemmas.Vxfw

/-- If no call fails, the error-aware Run loop is the Run loop of `Model/Vxfw.lean` and returns no
error: every theorem of `Props/C15.lean` speaks about it. -/
theorem no_error_agrees (o : Oracle) (fuel : Nat) (root : Id) (t0 : STree) (steps : List Step) :
    eRun (e0 o) fuel root t0 steps = (runSteps o fuel (runInit o fuel root t0) steps, false) :=
  eRun_noerr o fuel root t0 steps

/-- … and so are the command interpreter and the two dispatchers. -/
theorem no_error_agrees_handlers (o : Oracle) (fuel : Nat) (s : St) :
    (∀ c, eHandleCommand (e0 o) fuel s c = handleCommand o fuel s c) ∧
    (∀ ev, eHandleEvent (e0 o) fuel s ev = (handleEvent o fuel s ev, false)) ∧
    (∀ c r, eMouseHandleEvent (e0 o) fuel s c r = (mouseHandleEvent o fuel s c r, false)) :=
  ⟨fun c => by rw [eHandleCommand_noerr], fun ev => eDispatch_noerr o fuel _ _ ev s,
   fun c r => eMouseHandleEvent_noerr o fuel s c r⟩

/-- **An offer that fails** (capture, target or bubble phase; key or mouse event): the handler
was called, its command is not executed, nothing else changes. -/
theorem failing_offer (e : EOracle) (fuel : Nat) (s : St) (w : Id) (ev : Ev) (ph : Phase)
    (h : e.failsAt s w ev ph = true) :
    eOffer e fuel s w ev ph = ((call e.o s w ev ph).1, .fail) := by
  simp [eOffer, h]

/-- **Run returns the error at once.** When `App.Run` returns a handler's error — from the Init
dispatch, a key / custom / mouse dispatch, a MouseEnter / MouseLeave notification of an event or
of a frame — the last thing that happened is that handler call: its command was not executed, no
other handler was called afterwards, no event was delivered a second time. -/
theorem error_ends_run_at_failing_call (e : EOracle) (fuel : Nat) (root : Id) (t0 : STree) (steps : List Step)
    (h : (eRun e fuel root t0 steps).2 = true) : EndsWithCall (eRun e fuel root t0 steps).1 :=
  (fail_walk e fuel).eRun root t0 steps h

/-- **Steps after the failing one are not run**: the result of a history is the result of its
prefix up to the step that returned the error. -/
theorem error_stops_history (e : EOracle) (fuel : Nat) (s : St) (pre post : List Step)
    (h : (eRunSteps e fuel s pre).2 = true) :
    eRunSteps e fuel s (pre ++ post) = eRunSteps e fuel s pre := by
  induction pre generalizing s with
  | nil => cases h
  | cons st rest ih =>
    simp only [List.cons_append, eRunSteps] at h ⊢
    by_cases h1 : (eRunStep e fuel s st).2 = true
    · simp only [h1, if_true]
    · rw [if_neg h1] at h
      simp only [h1]
      cases st with
      | ev ev =>
        simp only at h ⊢
        by_cases hq : (eRunStep e fuel s (.ev ev)).1.quit = true
        · rw [if_pos hq] at h; exact absurd h h1
        · rw [if_neg hq] at h; rw [if_neg hq, if_neg hq]; exact ih _ h
      | frame t1 t2 => exact ih _ h

/-- **A failing FocusOut handler inside a focus command** (the error is logged by
`handleCommand`, not returned): the old widget got FocusOut, the focus stays on it, nobody gets
FocusIn, the command interpreter goes on with the rest of the batch. -/
theorem focus_out_error_keeps_focus (e : EOracle) (fuel : Nat) (s : St) (w : Id) (hne : s.focused ≠ w)
    (h : e.failsAt s s.focused .focusOut .target = true) :
    eHandleCommand e (fuel + 1) s (.focus w) = (call e.o s s.focused .focusOut .target).1 := by
  simp [eHandleCommand, Cmd.flatten, eExecAtom, eFocusWidgetWith, hne, h]

/-- **A failing FocusIn handler inside a focus command**: the focus and the path have changed,
the FocusOut handler's command is executed (once), the FocusIn handler's command is dropped. -/
theorem focus_in_error_drops_its_command (e : EOracle) (fuel : Nat) (s : St) (w : Id) (hne : s.focused ≠ w)
    (h1 : e.failsAt s s.focused .focusOut .target = false)
    (h2 : e.fails w .focusIn .target (s.calls + 1) = true) :
    eHandleCommand e (fuel + 1) s (.focus w) =
      eHandleCommand e fuel
        (call e.o (findPath { (call e.o s s.focused .focusOut .target).1 with
            focused := w,
            trace := (call e.o s s.focused .focusOut .target).1.trace ++ [.eff (.focusSet w)] }).1
          w .focusIn .target).1
        (e.o.h s.focused .focusOut .target s.calls) := by
  have h2' : e.failsAt (findPath { (call e.o s s.focused .focusOut .target).1 with
      focused := w, trace := (call e.o s s.focused .focusOut .target).1.trace ++ [.eff (.focusSet w)] }).1
      w .focusIn .target = true := by
    simpa [EOracle.failsAt, findPath, Model.Vxfw.call] using h2
  simp only [eHandleCommand, Cmd.flatten, List.foldl_cons, List.foldl_nil, eExecAtom, eFocusWidgetWith,
    if_neg hne, h1, h2', Bool.false_eq_true, if_false, if_true]
  rfl

/-- Non-vacuity: root 0 captures and fails on key 7: Run returns the error, the target never
sees the key; and a failing FocusOut handler: focus stays, the batch goes on. -/
example :
    (eRun ⟨⟨fun _ _ _ _ => .redraw, fun _ => true⟩, fun w ev ph _ => w == 0 && ev == .key 7 && ph == .capture⟩ 4 0
      (.node 0 9 9 []) [.ev (.key 7), .ev (.key 8)]).2 = true := by decide

example :
    ((eHandleCommand ⟨⟨fun _ _ _ _ => .nil, fun _ => false⟩, fun _ ev _ _ => ev == .focusOut⟩ 4 (St.init 0)
      (.batch [.focus 1, .redraw])).focused,
     (eHandleCommand ⟨⟨fun _ _ _ _ => .nil, fun _ => false⟩, fun _ ev _ _ => ev == .focusOut⟩ 4 (St.init 0)
      (.batch [.focus 1, .redraw])).trace) =
    (0, [.call 0 .focusOut .target, .eff .redraw]) := by decide

/-- **Hover state when `Run` ends at a failing handler call.**  For
every behaviour with failing calls (returned errors AND the failures inside `focusWidget` that are only logged), every history of
trees showing a widget at most once under a point: the MouseEnter / MouseLeave notifications delivered so far alternate per widget,
and if no error was returned the entered widgets are exactly those of the hit list. -/
def hover_after_error_full : Prop :=
  ∀ (e : EOracle) (fuel : Nat) (root : Id) (t0 : STree) (steps : List Step),
    HitsNodup t0 → (∀ st ∈ steps, StepOk st) →
    (hoverRun [] (eRun e fuel root t0 steps).1.trace).isSome ∧
    ((eRun e fuel root t0 steps).2 = false →
      ∃ ent, hoverRun [] (eRun e fuel root t0 steps).1.trace = some ent ∧
        ∀ w, w ∈ ent ↔ w ∈ (eRun e fuel root t0 steps).1.lastHits.map Hit.w)

/-- When `update` returns an error the entered set is only a subset of the recorded hit list: the widgets already told MouseLeave
are still recorded (`C15Body.mouse_update_body_error_keeps_hits`) — harmless because `Run` returns; hence the second clause
only for runs that return no error. -/
theorem hover_after_error : hover_after_error_full := by
  intro e fuel root t0 steps h0 hs
  obtain ⟨⟨⟨ent, h1⟩, h2⟩, _⟩ := hov_eRun e fuel root t0 steps h0 hs
  refine ⟨by rw [h1]; rfl, fun hb => ?_⟩
  obtain ⟨ent', hr, _, _, hm⟩ := h2 hb
  exact ⟨ent', hr, hm⟩

/-- Non-vacuity: widget 1's MouseLeave handler fails when the pointer moves from widget 1 to widget 2: `Run` returns the error, the
trace so far (Enter 0, Enter 1, Leave 0, Leave 1 = the failing call) alternates, and the recorded hit list is still the old one
`[0, 1]` although both widgets have been told MouseLeave. -/
example :
    let o : Oracle := ⟨fun _ _ _ _ => .nil, fun _ => false⟩
    let e : EOracle := ⟨o, fun w ev _ _ => w = 1 ∧ ev = .mouseLeave⟩
    let t : STree := .node 0 9 9 [(0, 0, 0, .node 1 2 2 []), (4, 4, 0, .node 2 2 2 [])]
    let r := eRun e 3 0 t [.ev (.mouse 1 1), .ev (.mouse 5 5)]
    r.2 = true ∧ (hoverRun [] r.1.trace).isSome = true ∧ r.1.lastHits.map Hit.w = [0, 1] := by decide

/-- The effects owed by the calls that did NOT fail (the command returned together with an error is dropped at every call site):
`owed` for the oracle `Lemmas.Vxfw.eo e` whose failing calls answer nil. -/
def owedE (e : EOracle) : Nat → List Entry → List Eff := owed (eo e).h

/-- **Focus pairing over whole histories with failing handlers.**  Apart from the FocusOut
calls whose handler failed (`Lemmas.Vxfw.dropFailedOut`: a failing FocusOut handler cancels the focus change — the focus stays, no
FocusIn is sent), all FocusOut / FocusIn notifications pair up from the root widget and end with the widget focused now, wherever `Run`
ends. -/
def focus_pairs_err_full : Prop :=
  ∀ (e : EOracle) (fuel : Nat) (root : Id) (t0 : STree) (steps : List Step),
    focusRun root false (dropFailedOut e 0 (eRun e fuel root t0 steps).1.trace) = some (eRun e fuel root t0 steps).1.focused

/-- **Commands-once over whole histories with failing handlers**: the command effects in
the trace are a permutation of the effects asked for by the calls that did not fail (budget not exhausted). -/
def commands_once_err_full : Prop :=
  ∀ (e : EOracle) (fuel : Nat) (root : Id) (t0 : STree) (steps : List Step),
    (eRun e fuel root t0 steps).1.stuck = false →
    (effectsIn (eRun e fuel root t0 steps).1.trace).Perm (owedE e 0 (eRun e fuel root t0 steps).1.trace)

/-- Why the failed calls must be excluded (the statements of `Props/C15.lean` read literally are FALSE with failing handlers): widget 0's
FocusOut handler fails when a key handler asks for the focus to go to widget 1 — the raw trace has a FocusOut without a FocusIn (no
pairing), the focus is still on 0; and a failing key handler's `redraw` is owed by the literal `owed` but never executed.  The
statements above hold on both histories. -/
theorem raw_statements_fail_with_errors :
    let o : Oracle := ⟨fun _ ev _ _ => match ev with | .key 1 => .focus 1 | .key 2 => .redraw | _ => .nil, fun _ => false⟩
    let t : STree := .node 0 9 9 [(0, 0, 0, .node 1 2 2 [])]
    let e1 : EOracle := ⟨o, fun _ ev _ _ => ev == .focusOut⟩
    let e2 : EOracle := ⟨o, fun _ ev _ _ => ev == .key 2⟩
    let r1 := eRun e1 3 0 t [.ev (.key 1)]
    let r2 := eRun e2 3 0 t [.ev (.key 2)]
    focusRun 0 false r1.1.trace = none ∧ r1.1.focused = 0 ∧ r1.2 = false ∧
    focusRun 0 false (dropFailedOut e1 0 r1.1.trace) = some 0 ∧
    r2.2 = true ∧ effectsIn r2.1.trace = [] ∧ owed o.h 0 r2.1.trace = [.redraw] ∧ owedE e2 0 r2.1.trace = [] := by
  decide

/-- A failing FocusIn handler does not disturb the pairing: the focus has moved, only its command is dropped. -/
theorem focus_pairs_err : focus_pairs_err_full :=
  fun e fuel root t0 steps => focusPairs_eRun e fuel root t0 steps

/-- The command returned together with an error is never executed (capture / target / bubble offers, hover notifications,
FocusOut / FocusIn notifications inside `focusWidget`). -/
theorem commands_once_err : commands_once_err_full :=
  fun e fuel root t0 steps hs => commandsOnce_eRun e fuel root t0 steps hs

end VaxisModel.Props.C15Err
