import VaxisModel.Gen.VxfwCases
import VaxisModel.Model.Vxfw

/-!
# C15 — the model covers the switch arms that are in the source

`Gen/VxfwCases.lean` is regenerated from `vxfw/vxfw.go` on every check run. The theorems below
state that the arms of `App.Run`'s event switch and of `App.handleCommand` are exactly the ones
the model's `runEvent` / `execAtom` + `Cmd.flatten` were transcribed from: adding, removing or
re-wiring a case makes one of them fail.
-/
namespace VaxisModel.Props.C15Gen
open VaxisModel.Model.Vxfw

/-- Which constructor of the model's `RunEv` (and which model function) an arm of the Run switch
is transcribed as. -/
def runArmModel : List (String × String × List String) := [
  ("vaxis.Resize",   "RunEv.resize   : redraw := true",               ["set redraw"]),
  ("vaxis.Mouse",    "RunEv.mouse    : mouseHandleEvent",             ["call handleEvent"]),
  ("vaxis.FocusIn",  "RunEv.focusIn  : mouseEnter root",              ["call mouseEnter"]),
  ("vaxis.FocusOut", "RunEv.focusOut : mouse := none; mouseExit",     ["set mouse", "call mouseExit"]),
  ("vaxis.Key",      "RunEv.key      : handleEvent",                  ["call handleEvent"]),
  ("vaxis.Redraw",   "RunEv.redraw   : redraw := true",               ["set redraw"]),
  ("default",        "RunEv.other    : handleEvent",                  ["call handleEvent"])]

/-- Which constructor of `Cmd` / `Atom` an arm of `handleCommand` is transcribed as. -/
def commandArmModel : List (String × String × List String) := [
  ("BatchCmd",            "Cmd.batch : flatten",          ["range", "call handleCommand"]),
  ("[]Command",           "Cmd.slice : flatten",          ["range", "call handleCommand"]),
  ("RedrawCmd",           "Atom.redraw",                  ["set redraw"]),
  ("RefreshCmd",          "Atom.refresh",                 ["set refresh"]),
  ("QuitCmd",             "Atom.quit",                    ["set shouldQuit"]),
  ("ConsumeEventCmd",     "Atom.consume",                 ["set consumeEvent"]),
  ("FocusWidgetCmd",      "Atom.focus : focusWidgetWith", ["call focusWidget", "call Error"]),
  ("SetMouseShapeCmd",    "Atom.other",                   ["call SetMouseShape", "call MouseShape"]),
  ("SetTitleCmd",         "Atom.other",                   ["call SetTitle"]),
  ("CopyToClipboardCmd",  "Atom.other",                   ["call ClipboardPush"]),
  ("SendNotificationCmd", "Atom.other",                   ["call Notify"]),
  ("DebugCmd",            "Atom.debug",                   ["set debug", "set redraw"])]

/-- Same arms, in any order (the order of type-switch arms over distinct types does not matter). -/
def sameArms (a b : List (String × List String)) : Bool :=
  a.length == b.length && a.all (b.contains ·) && b.all (a.contains ·)

/-- The Run loop's event switch has exactly the arms the model's `runEvent` transcribes. -/
theorem run_switch_covered :
    sameArms Gen.VxfwCases.runArms (runArmModel.map (fun x => (x.1, x.2.2))) = true := by decide

/-- `handleCommand` has exactly the arms the model's `Cmd.flatten` / `execAtom` transcribe. -/
theorem handle_command_covered :
    sameArms Gen.VxfwCases.handleCommandArms (commandArmModel.map (fun x => (x.1, x.2.2))) = true := by decide

/-- `render` sorts the children with `sort.Slice` (one call), which for ≤ 12 elements is the
stable insertion sort modelled by `sortKids`. -/
theorem render_sort_call : Gen.VxfwCases.renderSorts = ["sort.Slice"] := rfl

/-- One arm per constructor of the model's `RunEv` (7). -/
theorem run_arm_count : Gen.VxfwCases.runArms.length = 7 := by decide

/-! ### statement skeletons of the handlers

`Gen.VxfwCases.skeletons` lists, per function, its statements in source order (see
`extract/cmd/C15`). The theorems keep, per function, the entries that decide the order of
handler calls, command processing and state updates the model transcribes; local variable names,
error plumbing and `len` calls are not part of the tie. -/

def skel (fn : String) (keep : List String) : List String :=
  ((Gen.VxfwCases.skeletons.lookup fn).getD ["?missing"]).filter (fun x => keep.contains x)

/-- `focusWidget` (repairs of F115b and F115a): FocusOut handler, `focused = w`, `findPath`,
FocusIn handler, and only then the two commands — as in `Model.Vxfw.focusWidgetWith`. -/
theorem focus_widget_order :
    skel "focusHandler.focusWidget" ["call HandleEvent", "set focused", "call findPath", "call handleCommand"] =
      ["call HandleEvent", "set focused", "call findPath", "call HandleEvent", "call handleCommand", "call handleCommand"] := by
  decide

/-- `focusHandler.handleEvent` iterates over a local snapshot of the path in both loops (the
model's `dispatch` takes the chain as an argument), capture – target – bubble. -/
theorem handle_event_snapshot :
    skel "focusHandler.handleEvent" ["range local", "range field path", "index local", "index field path"] =
      ["range local", "index local"] ∧
    skel "focusHandler.handleEvent" ["call CaptureEvent", "call HandleEvent", "call handleCommand"] =
      ["call CaptureEvent", "call handleCommand", "call HandleEvent", "call handleCommand",
       "call HandleEvent", "call handleCommand"] := by decide

/-- `updatePath` stores the frame, calls `findPath`, refocuses the root; `findPath` clears the
path, runs `childHasFocus`, appends the root. -/
theorem update_path_shape :
    skel "focusHandler.updatePath" ["set lastFrame", "call findPath", "call focusWidget"] =
      ["set lastFrame", "call findPath", "call focusWidget"] ∧
    skel "focusHandler.findPath" ["set path", "call childHasFocus", "call append"] =
      ["set path", "call childHasFocus", "set path", "call append"] := by decide

/-- `mouseEnter` (repair of F43): look the widget up in the hit list, record it, notify it. -/
theorem mouse_enter_recorded :
    skel "mouseHandler.mouseEnter" ["range field lastHits", "set lastHits", "call HandleEvent", "call handleCommand"] =
      ["range field lastHits", "set lastHits", "call HandleEvent", "call handleCommand"] := by decide

/-- `mouseHandler.update` / `mouseExit` / `handleEvent`: hit test, leave loop over the old list,
enter loop over the new one, store; three-phase dispatch over the stored hit list. -/
theorem mouse_handler_shape :
    skel "mouseHandler.update" ["call containsPoint", "call hitTest", "range field lastHits", "range local",
        "call HandleEvent", "call handleCommand", "set lastHits"] =
      ["call containsPoint", "call hitTest", "range field lastHits", "range local", "call HandleEvent",
       "call handleCommand", "range local", "range field lastHits", "call HandleEvent", "call handleCommand",
       "set lastHits"] ∧
    skel "mouseHandler.mouseExit" ["range field lastHits", "call HandleEvent", "call handleCommand", "set lastHits"] =
      ["range field lastHits", "call HandleEvent", "call handleCommand", "set lastHits"] ∧
    skel "mouseHandler.handleEvent" ["set mouse", "call update", "range field lastHits", "index field lastHits",
        "call CaptureEvent", "call HandleEvent", "call handleCommand"] =
      ["set mouse", "call update", "range field lastHits", "call CaptureEvent", "call handleCommand",
       "index field lastHits", "call HandleEvent", "call handleCommand",
       "index field lastHits", "call HandleEvent", "call handleCommand"] := by decide

/-- Error plumbing of `focusWidget` as `Model.Vxfw.eFocusWidgetWith` transcribes it: a failing
FocusOut handler returns before anything changes; after the FocusIn call the FocusOut handler's
command is handled *before* the error test, the FocusIn handler's command after it. -/
theorem focus_widget_error_plumbing :
    skel "focusHandler.focusWidget" ["if", "return", "call HandleEvent", "set focused", "call findPath", "call handleCommand"] =
      ["if", "return", "call HandleEvent", "if", "return", "set focused", "call findPath", "call HandleEvent",
       "call handleCommand", "if", "return", "call handleCommand", "return"] := by decide

/-- Every handler call of the two dispatchers and of the notification loops is followed by
`if err != nil { return err }` before its command is handled (`eOffer`, `eNotify`). -/
theorem dispatch_error_plumbing :
    skel "focusHandler.handleEvent" ["call CaptureEvent", "call HandleEvent", "call handleCommand", "return"] =
      ["call CaptureEvent", "return", "call handleCommand", "return", "call HandleEvent", "return", "call handleCommand",
       "return", "call HandleEvent", "return", "call handleCommand", "return", "return"] ∧
    skel "mouseHandler.mouseExit" ["call HandleEvent", "call handleCommand", "return"] =
      ["call HandleEvent", "return", "call handleCommand", "return"] ∧
    skel "mouseHandler.mouseEnter" ["call HandleEvent", "call handleCommand", "return"] =
      ["return", "call HandleEvent", "return", "call handleCommand", "return"] := by decide

theorem skeletons_found :
    Gen.VxfwCases.skeletons.all (fun x => !x.2.contains "?missing") = true ∧
    Gen.VxfwCases.skeletons.length = 10 := by decide

/-- **The frame step** (the `time.After` arm of `Run`'s select) does, in this order, what `Model.Vxfw.eRunFrame`
transcribes: `a.redraw = false`, `a.layout`, `mh.update` (hover diff against the NEW tree, before anything is
rendered), a second `a.redraw = false` + `a.layout` (inside `if a.redraw`), `render` (which sorts the children),
`a.refresh = false`, `a.debug = false`, `a.fh.updatePath` (path from the rendered, sorted tree), and LAST
`mh.lastFrame = s`.  Other calls in the arm (window, cursor, `vx.Render`) are not part of the tie. -/
theorem run_frame_order :
    Gen.VxfwCases.runFrameActs.filter (fun x => ["set redraw", "call layout", "call update", "call render", "set refresh",
        "set debug", "call updatePath", "set lastFrame"].contains x) =
      ["set redraw", "call layout", "call update", "set redraw", "call layout", "call render", "set refresh", "set debug",
       "call updatePath", "set lastFrame"] := by decide

/-- **Before the loop** `Run` initialises the focus handler, dispatches `Init{}` through it, and lays out once
(`Model.Vxfw.eRunInit`; the mouse handler's first `lastFrame` is that layout, unrendered). -/
theorem run_prologue_order :
    Gen.VxfwCases.runPrologueActs.filter (fun x => ["set fh", "call handleEvent", "call layout", "call update", "call updatePath"].contains x) =
      ["set fh", "call handleEvent", "call layout"] := by decide

end VaxisModel.Props.C15Gen
