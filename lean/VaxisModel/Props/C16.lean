import VaxisModel.Model.Wrap
import VaxisModel.Spec.Wrap
import VaxisModel.Lemmas.Wrap

/-! C16 — soft-wrapping preserves the text and respects the width.

Theorems are about `Model.Wrap` (the two `SoftwrapScanner.Scan` loops, `firstLineSegment`,
`HardwrapScanner`, the row loops) and hold for **every** segmentation oracle satisfying `OracleOK`
(non-empty first segment; must-break at the end of the text) — for richtext the oracle is the
transcribed `firstLineSegment` over an arbitrary pairwise break function, for which `OracleOK` is
proved (`rich_oracle_ok`), so the richtext statements have no hypothesis about Unicode at all. -/
namespace VaxisModel.Props.C16
open VaxisModel.Model.Wrap VaxisModel.Lemmas.Wrap
open VaxisModel.Spec.Wrap (nonWs content conserved lineWidthOK natWidth trimTrailing)

/-- `Scan` returns false at once for width 0 (any oracle, any text). -/
theorem scan_width_zero {σ : Type} (o : σ → List Cell → Nat × Bool × σ) (ini : σ) (rest : List Cell) (st : σ) :
    scan o ini 0 rest st = .stop := by
  unfold scan
  simp

/-- `scan_terminates`: a `Scan` call never hangs; it returns false exactly when nothing is left (or
the width is 0), and otherwise returns true with a strictly shorter `rest`. -/
theorem scan_terminates {σ : Type} (o : σ → List Cell → Nat × Bool × σ) (ini : σ) (hok : OracleOK o)
    (width : Nat) (rest : List Cell) (st : σ) :
    (scan o ini width rest st = .stop ∧ (rest = [] ∨ width = 0)) ∨
    (∃ rest' st' tok, scan o ini width rest st = .line rest' st' tok ∧ rest'.length < rest.length) := by
  rcases scan_cases o ini width hok rest st with h | ⟨_, r, s, t, h1, h2, _⟩
  · exact Or.inl h
  · exact Or.inr ⟨r, s, t, h1, h2⟩

/-- The scanning loop `for scanner.Scan() { … }` terminates on every text and every width. -/
theorem lines_terminate {σ : Type} (o : σ → List Cell → Nat × Bool × σ) (ini : σ) (hok : OracleOK o)
    (width : Nat) (cells : List Cell) (st0 : σ) :
    ∃ ls, lines o ini width cells st0 = .ok ls := by
  obtain ⟨ls, h, _⟩ := lines_ok o ini width hok cells st0
  exact ⟨ls, h⟩

/-- `conservation`: for every positive width the non-whitespace graphemes of the emitted lines,
concatenated, are those of the input, in order and with their styles (`Cell` equality includes the
style). -/
theorem conservation {σ : Type} (o : σ → List Cell → Nat × Bool × σ) (ini : σ) (hok : OracleOK o)
    (width : Nat) (hw : 0 < width) (cells : List Cell) (st0 : σ) (ls : List (List Cell))
    (h : lines o ini width cells st0 = .ok ls) : conserved cells ls = true := by
  obtain ⟨ls', h', hc⟩ := lines_ok o ini width hok cells st0
  rw [h'] at h
  cases h
  simp [conserved, hc hw]

/-- One `Scan`: what it returns plus what it leaves is what it was given (non-whitespace part). -/
theorem scan_conserves {σ : Type} (o : σ → List Cell → Nat × Bool × σ) (ini : σ) (hok : OracleOK o)
    (width : Nat) (rest : List Cell) (st : σ) (rest' : List Cell) (st' : σ) (tok : List Cell)
    (h : scan o ini width rest st = .line rest' st' tok) :
    content tok ++ content rest' = content rest := by
  obtain ⟨p, hrun⟩ := (scan_run h).2.2
  rw [hrun.consumed.1, hrun.split, List.nil_append, content_append]

/-- `line_width`: every emitted line, ignoring trailing whitespace, is at most `width` columns wide,
unless it consists of a single grapheme wider than the line.  Holds for every oracle (no
hypothesis at all) and every width (F44, F45). -/
theorem line_width {σ : Type} (o : σ → List Cell → Nat × Bool × σ) (ini : σ)
    (width : Nat) (cells : List Cell) (st0 : σ) (ls : List (List Cell))
    (h : lines o ini width cells st0 = .ok ls) : ∀ l ∈ ls, lineWidthOK width l = true :=
  scanAll_width o ini width _ cells st0 ls h

/-- `line_width` for a single `Scan`. -/
theorem scan_line_width {σ : Type} (o : σ → List Cell → Nat × Bool × σ) (ini : σ)
    (width : Nat) (rest : List Cell) (st : σ) (rest' : List Cell) (st' : σ) (tok : List Cell)
    (h : scan o ini width rest st = .line rest' st' tok) : lineWidthOK width tok = true :=
  scan_width o ini width rest st rest' st' tok h

/-- `hard_break_ends_line` (structure of a line): a `Scan` takes zero or more whole segments, *none
of them with the must-break flag* (`Taken`: every step has `br = false`), and then ends in exactly
one of three ways (`Ending`): the next segment is left untouched for the next line; or it is taken
whole as the last segment of the line and the next `Scan` starts right behind it; or it is divided.
Hence a segment with a hard break can only be the last one of its line: the line ends with it.
With `rich_segment_terminator` (a rich-text segment contains a terminator only as its last cell and
then has the flag) this says that a line terminator always ends the current line. -/
theorem hard_break_ends_line {σ : Type} (o : σ → List Cell → Nat × Bool × σ) (ini : σ) (width : Nat)
    (rest : List Cell) (st : σ) (rest' : List Cell) (st' : σ) (tok : List Cell)
    (h : scan o ini width rest st = .line rest' st' tok) :
    ∃ st1 rest1, Taken o st rest st1 rest1 ∧ Ending o ini width st1 rest1 st' rest' :=
  VaxisModel.Lemmas.Wrap.scan_structure o ini width rest st rest' st' tok h

/-- `no_needless_split`: a segment whose word part fits on a line of its own (`≤ width`) is never
divided between two lines: whenever a `Scan` stops inside a segment (the new `rest` is neither the
start of that segment nor what follows it), that segment's word part is wider than `width`. -/
theorem no_needless_split {σ : Type} (o : σ → List Cell → Nat × Bool × σ) (ini : σ) (width : Nat)
    (rest : List Cell) (st : σ) (rest' : List Cell) (st' : σ) (tok : List Cell)
    (h : scan o ini width rest st = .line rest' st' tok) :
    ∃ st1 rest1, Taken o st rest st1 rest1 ∧
      (sumW (trimRight (rest1.take (o st1 rest1).1)) ≤ width →
        rest' = rest1 ∨ rest' = rest1.drop (o st1 rest1).1) := by
  obtain ⟨st1, rest1, htk, hend⟩ := VaxisModel.Lemmas.Wrap.scan_structure o ini width rest st rest' st' tok h
  refine ⟨st1, rest1, htk, ?_⟩
  intro hfit
  cases hend with
  | left h1 _ _ => exact Or.inl h1
  | last h1 _ _ => exact Or.inr h1
  | split hw _ _ => omega

/-- richtext: a segment of `firstLineSegment` contains a line terminator only as its last cell, and
then it has the must-break flag. -/
theorem rich_segment_terminator (lb : Nat → Nat → Bool) (l : List Cell) :
    (∀ c ∈ (l.take (firstLineSegment lb true l).1).dropLast, c.term = false) ∧
    (∀ c, (l.take (firstLineSegment lb true l).1).getLast? = some c → c.term = true →
      (firstLineSegment lb true l).2 = true) :=
  firstLineSegment_term lb l true (by intro h; cases h)

/-- `draw_one_line_per_row` (row loop of `Text.drawSoftwrap` / `RichText.drawSoftwrap`): as long as the
lines fit below `Max.Height` (`row + #lines ≤ Max.Height`, the bound the loop itself uses), line
`k` is written to row `row + k` — one line per row, none skipped, none merged — and the cells written
in that row are `drawRow` of exactly that line. -/
theorem draw_one_line_per_row (maxW maxH : UInt16) (ls : List (List Cell)) (row : UInt16)
    (h : row.toNat + ls.length ≤ maxH.toNat) :
    (drawRows maxW maxH row ls).map (·.2) = ls.map (drawRow maxW 0) ∧
    (drawRows maxW maxH row ls).map (·.1.toNat) = List.range' row.toNat ls.length :=
  drawRows_spec maxW maxH ls row h

/-- Within a row, the cells of a line (positive widths, fitting the widget: by `line_width` this is
every emitted line without its trailing whitespace) are all written, each at the column equal to
the display width of the cells before it. -/
theorem draw_row_columns (maxW : UInt16) (l : List Cell) (col : UInt16)
    (hpos : ∀ c ∈ l, 0 < c.w) (hfit : col.toNat + sumW l ≤ maxW.toNat) :
    (drawRow maxW col l).map (·.2) = l ∧
    ∀ k, k < l.length → ((drawRow maxW col l).map (·.1.toNat))[k]? = some (col.toNat + sumW (l.take k)) :=
  drawRow_spec maxW l col hpos hfit

/-- `HardwrapScanner`: the scanning loop terminates on every input, and the lines hold exactly the
cells of the input that are not a "\n" grapheme, in order (with their styles). -/
theorem hardwrap_terminates_conserves (cells : List Cell) :
    ∃ ls, hardLines cells = .ok ls ∧ notNl ls.flatten = notNl cells :=
  ⟨_, hardLines_eq_split cells, notNl_splitNl cells⟩

/-- richtext: the transcribed `firstLineSegment` meets the oracle hypotheses for every pairwise
line-break function, so the theorems above hold for `richLines` unconditionally. -/
theorem rich_oracle_ok (lb : Nat → Nat → Bool) : OracleOK (richOracle lb) := richOracle_ok lb

theorem rich_terminates (lb : Nat → Nat → Bool) (width : Nat) (cells : List Cell) :
    ∃ ls, richLines lb width cells = .ok ls :=
  lines_terminate _ () (richOracle_ok lb) width cells ()

theorem rich_conservation (lb : Nat → Nat → Bool) (width : Nat) (hw : 0 < width) (cells : List Cell)
    (ls : List (List Cell)) (h : richLines lb width cells = .ok ls) : conserved cells ls = true :=
  conservation _ () (richOracle_ok lb) width hw cells () ls h

/-- Non-vacuity: with a concrete break function (a break opportunity after every space) the model
wraps "ab cd" at width 2 into the two lines "ab", "cd". -/
example :
    let a : Cell := { g := 0, w := 1, style := 1, sp := false, term := false, nl := false }
    let s : Cell := { g := 1, w := 1, style := 0, sp := true, term := false, nl := false }
    richLines (fun x _ => x == 1) 2 [a, a, s, a, a] = .ok [[a, a], [a, a]] := by decide

end VaxisModel.Props.C16
