import VaxisModel.Model.WrapDraw
import VaxisModel.Spec.WrapDraw
import VaxisModel.Lemmas.WrapDraw
import VaxisModel.Lemmas.Wrap

/-! C16 — "the text widgets draw exactly the emitted lines, one per row".

`Model.WrapDraw.richDraw` / `textDraw` / `richHardDraw` compose the scanner model (`Model.Wrap`) with
C14's model of the drawing code on a `vxfw.Surface` (`Model.Layout.drawText`: `findContainerSize`,
`NewSurface`, `Fill`, the row loop with its `Max.Width` / `Max.Height` guards, `WriteCell`), whose
arithmetic and guards are regenerated from the source on every run.  C14 proves that drawing does
not panic and stays within `Max`; here: what the surface shows, cell by cell. -/
namespace VaxisModel.Props.C16Draw
open VaxisModel.Model VaxisModel.Model.WrapDraw
open VaxisModel.Model.Wrap (Cell sumW richLines plainLines hardLines Lines)
open VaxisModel.Lemmas.WrapDraw
open VaxisModel.Lemmas.Wrap (hardLines_eq_split lineWidthOK_starts richOracle_ok lines_ok scanAll_sumW scanAll_width scanAll_width_zero textHardLoop_eq_split trimRight_prefix)
open VaxisModel.Spec.WrapDraw (over overHard hardLine width splitNl)

/-- What the source says (extracted facts): surface arithmetic in `int`, `WriteCell` rejects
`row >= Height`; soft-wrap `findContainerSize` stops at `size.Height >= Max.Height`; the row loop of
`drawSoftwrap` stops at `row >= Max.Height` (finding F216); both widgets. -/
theorem facts_draw_modes :
    Surface.srcArith = Surface.exact ∧
    (Layout.richMode false).hard = false ∧ (Layout.richMode false).sizeStrict = true ∧
    (Layout.richMode false).drawStrict = true ∧ (Layout.richMode false).fill = none ∧
    (∀ st, (Layout.textMode false st).hard = false ∧ (Layout.textMode false st).sizeStrict = true ∧
      (Layout.textMode false st).drawStrict = true ∧ (Layout.textMode false st).fill = some st) := by
  refine ⟨by decide, rfl, rfl, rfl, rfl, fun st => ⟨rfl, rfl, rfl, rfl⟩⟩

/-- The `findContainerSize` guards are `>=` and each Draw allocates `NewSurface(size.Width, size.Height)`
(the argument expressions are read from the source and evaluated by the model), all four functions. -/
theorem facts_size_ok :
    (∀ hard, (Layout.richMode hard).sizeOK) ∧ (∀ hard st, (Layout.textMode hard st).sizeOK) := by
  refine ⟨fun hard => ?_, fun hard st => ?_⟩ <;> cases hard <;>
    exact ⟨rfl, by simp only [Layout.textMode, Layout.richMode]; decide⟩

theorem width_toWin (l : List Cell) : width (l.map toWin) = sumW l := width_map toWin (fun _ => rfl) l

theorem width_toWinSt (st : Nat) (l : List Cell) : width (l.map (toWinSt st)) = sumW l :=
  width_map (toWinSt st) (fun _ => rfl) l

/-- **`RichText.Draw` (soft wrap) draws exactly the emitted lines, one per row.**  For every text,
`Max.Width`, `Max.Height` and pairwise break function (`ls` = the lines of the scanner model, which
exist by `Props.C16.rich_terminates`; each narrower than 2^16 columns): Draw returns a surface — no
panic, no hang — with `min (#lines) Max.Height` rows (lines from index `Max.Height` on are dropped),
the width `findContainerSize` computes, a buffer of exactly width × height cells, and row `y` shows
line `y`: the cell at column `x` is `over line 0 zero x` — every grapheme with its own style at the
column equal to the display width of the graphemes before it (`draw_cell_at_column`), the zero cell
everywhere else (`draw_other_columns_blank`). -/
theorem rich_draw_rows (lb : Nat → Nat → Bool) (maxW maxH : UInt16) (cells : List Cell)
    (ls : List (List Cell)) (h : richLines lb maxW.toNat cells = .ok ls)
    (hw : ∀ l ∈ ls, sumW l < 65536) :
    ∃ s, richDraw lb maxW maxH cells = .ok s ∧
      s.h.toNat = min ls.length maxH.toNat ∧
      s.w = widthFold maxW ((ls.map (·.map toWin)).take maxH.toNat) 0 ∧
      s.buf.length = s.h.toNat * s.w.toNat ∧
      ∀ x y, x < s.w.toNat → y < s.h.toNat →
        cellAt s x y = over ((ls.getD y []).map toWin) 0 (fun _ => some default) x := by
  obtain ⟨s, h1, h3, h2, h4, h5⟩ := drawText_rows (lineSpec_soft (Layout.richMode false) rfl maxW) (facts_size_ok.1 false) rfl maxH
    (·.map toWin) rfl ls (drawable toWin (fun _ => rfl) id ls hw)
  exact ⟨s, by simp only [richDraw, h, facts_draw_modes.1, h1, WrapDraw.ofExcept], h3, h2, h4, h5⟩

/-- The same with the scanner's result made explicit: for **every** text narrower than 2^16 columns
in total, every `Max` and every break function, `RichText.Draw` returns a surface showing exactly
the lines the scanner emits, one per row. -/
theorem rich_draw_exactly_the_lines (lb : Nat → Nat → Bool) (maxW maxH : UInt16) (cells : List Cell)
    (hw : sumW cells < 65536) :
    ∃ ls s, richLines lb maxW.toNat cells = .ok ls ∧ richDraw lb maxW maxH cells = .ok s ∧
      s.h.toNat = min ls.length maxH.toNat ∧
      s.buf.length = s.h.toNat * s.w.toNat ∧
      ∀ x y, x < s.w.toNat → y < s.h.toNat →
        cellAt s x y = over ((ls.getD y []).map toWin) 0 (fun _ => some default) x := by
  obtain ⟨ls, hls, _⟩ := lines_ok (Wrap.richOracle lb) () maxW.toNat (richOracle_ok lb) cells ()
  have hls' : richLines lb maxW.toNat cells = .ok ls := hls
  have hlw : ∀ l ∈ ls, sumW l < 65536 := by
    intro l hl
    have := scanAll_sumW (Wrap.richOracle lb) () maxW.toNat _ cells () ls hls l hl
    omega
  obtain ⟨s, h1, h2, _, h4, h5⟩ := rich_draw_rows lb maxW maxH cells ls hls' hlw
  exact ⟨ls, s, hls', h1, h2, h4, h5⟩

/-- **Nothing of an emitted line is clipped** (Draw ∘ scanner ∘ `line_width`): for every line `y`
below `Max.Height`, every grapheme of positive width of the line without its trailing whitespace is
on the surface, at the column equal to the display width of the graphemes before it — because the
scanner keeps every line (trailing whitespace aside) within `Max.Width`, or makes it a single
over-wide grapheme, and `findContainerSize` makes the surface as wide as the line or `Max.Width`. -/
theorem rich_draw_nothing_clipped (lb : Nat → Nat → Bool) (maxW maxH : UInt16) (cells : List Cell)
    (ls : List (List Cell)) (h : richLines lb maxW.toNat cells = .ok ls) (hw : ∀ l ∈ ls, sumW l < 65536) :
    ∃ s, richDraw lb maxW maxH cells = .ok s ∧
      ∀ y l, ls[y]? = some l → y < maxH.toNat →
        ∀ j c, (Wrap.trimRight l)[j]? = some c → 0 < c.w →
          cellAt s (sumW (l.take j)) y = some (toWin c) := by
  obtain ⟨s, h1, hH, hW, _, hcell⟩ := rich_draw_rows lb maxW maxH cells ls h hw
  refine ⟨s, h1, ?_⟩
  intro y l hy hyM j c hj hc
  have hyl : y < ls.length := (List.getElem?_eq_some_iff.mp hy).1
  have hlmem : l ∈ ls := List.mem_of_getElem? hy
  have hys : y < s.h.toNat := by rw [hH]; omega
  have hmaxW : maxW.toNat ≠ 0 := by
    intro h0
    have : ls = [] := by
      have h' := h
      simp only [richLines, Wrap.lines, h0] at h'
      exact scanAll_width_zero _ _ _ _ _ _ h'
    rw [this] at hyl; simp at hyl
  have hlw : VaxisModel.Spec.Wrap.lineWidthOK maxW.toNat l = true :=
    scanAll_width (Wrap.richOracle lb) () maxW.toNat _ cells () ls h l hlmem
  -- the surface is at least min (width of the line) Max.Width wide
  have hall : ∀ l' ∈ (ls.map (·.map toWin)).take maxH.toNat, (∀ c ∈ l', 0 ≤ c.w) ∧ width l' < 65536 :=
    fun l' hl' => drawable toWin (fun _ => rfl) id ls hw l' (List.mem_of_mem_take hl')
  have hmem' : l.map toWin ∈ (ls.map (·.map toWin)).take maxH.toNat := by
    apply List.mem_of_getElem? (i := y)
    rw [List.getElem?_take_of_lt hyM, List.getElem?_map, hy]; rfl
  have hWge := (widthFold_ge maxW _ 0 (by rw [UInt16.le_iff_toNat_le]; simp) hall).2.2 _ hmem'
  rw [← hW, width_toWin] at hWge
  obtain ⟨hlj, _⟩ := trimRight_prefix l j c hj
  have hx : sumW (l.take j) < s.w.toNat :=
    Nat.lt_of_lt_of_le (lineWidthOK_starts hlw hmaxW hj hc) hWge
  rw [hcell _ y hx hys]
  have hgd : ls.getD y [] = l := by
    rw [List.getD_eq_getElem?_getD, hy]; rfl
  rw [hgd]
  have hget : (l.map toWin)[j]? = some (toWin c) := by rw [List.getElem?_map, hlj]; rfl
  have := over_hit (l.map toWin) 0 (fun _ => some default) j _ hget (by simp [toWin]; omega)
  rw [← List.map_take, width_toWin, Nat.zero_add] at this
  exact this

/-- **`Text.Draw` (soft wrap)**: the same, every cell in the widget's style, the surface filled with
that style (`s.Fill(t.Style)`), a tab of the line shown as `ctx.Characters` expands it (`expand`). -/
theorem text_draw_rows {σ : Type} (seg : σ → List Cell → Nat × Bool × σ) (st0 : σ)
    (expand : Cell → List Cell) (style : Nat) (maxW maxH : UInt16) (cells : List Cell)
    (ls : List (List Cell)) (h : plainLines seg maxW.toNat cells st0 = .ok ls)
    (hw : ∀ l ∈ ls, sumW (l.flatMap expand) < 65536) :
    ∃ s, textDraw seg st0 expand style maxW maxH cells = .ok s ∧
      s.h.toNat = min ls.length maxH.toNat ∧
      s.buf.length = s.h.toNat * s.w.toNat ∧
      ∀ x y, x < s.w.toNat → y < s.h.toNat →
        cellAt s x y = over (((ls.getD y []).flatMap expand).map (toWinSt style)) 0
          (fun _ => some { (default : Window.Cell) with st := style }) x := by
  obtain ⟨s, h1, h3, _, h4, h5⟩ := drawText_rows (lineSpec_soft (Layout.textMode false style) rfl maxW) (facts_size_ok.2 false style) rfl
    maxH (fun l => (l.flatMap expand).map (toWinSt style)) rfl ls (drawable (toWinSt style) (fun _ => rfl) (·.flatMap expand) ls hw)
  exact ⟨s, by simp only [textDraw, h, facts_draw_modes.1, h1, WrapDraw.ofExcept], h3, h4, h5⟩

/-- Within a row: the `j`-th grapheme of the line, if it has positive width, is shown at the column
equal to the display width of the graphemes before it — so a wide grapheme occupies its `width`
columns: the next grapheme starts `width` columns further, the columns in between show the
background.  (A zero-width grapheme is written at the column of its successor and overwritten by
it; the last one of a line stays — `over` keeps the later write.) -/
theorem draw_cell_at_column (line : List Window.Cell) (bg : Nat → Option Window.Cell) (j : Nat)
    (hj : j < line.length) (hpos : 0 < line[j].w) :
    over line 0 bg (width (line.take j)) = some line[j] := by
  have := over_hit line 0 bg j _ (List.getElem?_eq_getElem hj) hpos
  simpa using this

/-- …and every column at which no grapheme of the line starts shows the background (the zero cell,
with the widget's style for `Text`): nothing else is drawn. -/
theorem draw_other_columns_blank (line : List Window.Cell) (bg : Nat → Option Window.Cell) (x : Nat)
    (h : ∀ j, j < line.length → x ≠ width (line.take j)) : over line 0 bg x = bg x :=
  over_miss line 0 bg x (by simpa using h)

/-- Size: when no drawn line is wider than `Max.Width` (true of soft-wrapped lines up to trailing
whitespace taken with a hard break), the surface is as wide as the widest of the lines shown. -/
theorem draw_width (maxW : UInt16) (lines : List (List Window.Cell))
    (hall : ∀ l ∈ lines, (∀ c ∈ l, 0 ≤ c.w) ∧ width l ≤ maxW.toNat) :
    (widthFold maxW lines 0).toNat = (lines.map width).foldl max 0 := by
  have := widthFold_max maxW lines 0 (by rw [UInt16.le_iff_toNat_le]; simp) hall
  simpa using this

/-- `HardwrapScanner` (the lines of `RichText.Draw` with `Softwrap = false`): the scanning loop
terminates on every input and returns **exactly** the split of the cells at the "\n" graphemes (a
final "\n" adds no empty line, the empty text has no line). -/
theorem hardwrap_is_split_at_newline (cells : List Cell) : hardLines cells = .ok (splitNl cells) :=
  hardLines_eq_split cells

/-- What the source says about the hard-wrap mode of `RichText.Draw` / `Text.Draw` (extracted guards;
the ellipsis condition is `truncate && col+uint16(char.Width) >= ctx.Max.Width` with `truncate` = the
int sum of the widths of the line exceeds `Max.Width` — finding F316). -/
theorem facts_hard_mode :
    (Layout.richMode true).hard = true ∧ (Layout.richMode true).sizeStrict = true ∧
    (Layout.richMode true).drawStrict = true ∧ (Layout.richMode true).fill = none ∧
    (Layout.richMode true).ellipsisStyle = none ∧
    (Layout.richMode true).ell = [.lineTooWide, .reach] ∧
    (∀ st, (Layout.textMode true st).ell = [.lineTooWide, .reach]) := ⟨rfl, rfl, rfl, rfl, rfl, rfl, fun _ => rfl⟩

/-- **`RichText.Draw` with `Softwrap = false`**, for every text and every `Max`: no panic, no hang;
`min (#lines) Max.Height` rows where the lines are the split of the cells at the hard line breaks
(`hardwrap_is_split_at_newline`); row `y` shows `Spec.WrapDraw.hardLine` of line `y`: **the line
unaltered when it fits `Max.Width`, else its longest prefix that leaves room for the ellipsis followed
by the ellipsis** (`hard_line_fits_unaltered`, `hard_line_truncated_longest_prefix`), every grapheme
at the column equal to the width of the graphemes before it (`over`), the ellipsis in the style of
the first grapheme it replaces. -/
theorem hard_draw_rows (maxW maxH : UInt16) (cells : List Cell)
    (hw : ∀ l ∈ splitNl cells, sumW l < 65536) :
    ∃ s, richHardDraw maxW maxH cells = .ok s ∧
      s.h.toNat = min (splitNl cells).length maxH.toNat ∧
      s.buf.length = s.h.toNat * s.w.toNat ∧
      ∀ x y, x < s.w.toNat → y < s.h.toNat →
        cellAt s x y = over (hardLine maxW.toNat none (((splitNl cells).getD y []).map toWin)) 0 (fun _ => some default) x := by
  obtain ⟨s, h1, h3, _, h4, h5⟩ := drawText_rows (lineSpec_hard (Layout.richMode true) rfl rfl maxW) (facts_size_ok.1 true) rfl maxH
    (·.map toWin) rfl (splitNl cells) (drawable toWin (fun _ => rfl) id (splitNl cells) hw)
  exact ⟨s, by simp only [richHardDraw, hardwrap_is_split_at_newline, facts_draw_modes.1, h1, WrapDraw.ofExcept], h3, h4, h5⟩

/-- **`Text.Draw` with `Softwrap = false`** on the lines it is handed (a parameter: any list of lines,
already passed through `ctx.Characters`; in the source they are `text.hardLines`, `text_hard_lines_are_split`):
the same rows — `hardLine` of each line, the ellipsis in the widget's style — on a surface filled with that style. -/
theorem text_hard_draw_rows (style : Nat) (maxW maxH : UInt16) (lines : List (List Cell))
    (hw : ∀ l ∈ lines, sumW l < 65536) :
    ∃ s, Layout.drawText Surface.srcArith (Layout.textMode true style) (ctxOf maxW maxH)
          (lines.map (·.map (toWinSt style))) = .ok s ∧
      s.h.toNat = min lines.length maxH.toNat ∧
      s.buf.length = s.h.toNat * s.w.toNat ∧
      ∀ x y, x < s.w.toNat → y < s.h.toNat →
        cellAt s x y = over (hardLine maxW.toNat (some style) ((lines.getD y []).map (toWinSt style))) 0
          (fun _ => some { (default : Window.Cell) with st := style }) x := by
  obtain ⟨s, h1, h3, _, h4, h5⟩ := drawText_rows (lineSpec_hard (Layout.textMode true style) rfl rfl maxW) (facts_size_ok.2 true style) rfl
    maxH (·.map (toWinSt style)) rfl lines (drawable (toWinSt style) (fun _ => rfl) id lines hw)
  exact ⟨s, by rw [facts_draw_modes.1]; exact h1, h3, h4, h5⟩

/-- `text.hardLines` — the lines of a `Text` with `Softwrap = false` (finding F616) —
returns **exactly** the split of the text at the hard line breaks: the lines `HardwrapScanner` gives
`RichText` (`hardwrap_is_split_at_newline`). -/
theorem text_hard_lines_are_split (cells : List Cell) : Wrap.textHardLines cells = splitNl cells := by
  unfold Wrap.textHardLines splitNl
  cases cells with
  | nil => simp [Wrap.textHardLoop]
  | cons c cs => simp only [List.isEmpty_cons, Bool.false_eq_true, ↓reduceIte]; exact textHardLoop_eq_split _ [] (by simp)

/-- **`Text.Draw` with `Softwrap = false`, end to end** (no line scanner left as a parameter): for every
text and every `Max`, no panic; `min (#lines) Max.Height` rows, the lines being the split of the text at
the hard line breaks; row `y` shows `hardLine` of line `y` in the widget's style on a surface filled
with that style — the line unaltered when it fits, else its longest prefix that leaves room for the
ellipsis followed by the ellipsis. -/
theorem text_hard_draw_exactly_the_lines (style : Nat) (maxW maxH : UInt16) (cells : List Cell)
    (hw : ∀ l ∈ splitNl cells, sumW l < 65536) :
    ∃ s, textHardDraw (fun c => [c]) style maxW maxH cells = .ok s ∧
      s.h.toNat = min (splitNl cells).length maxH.toNat ∧
      s.buf.length = s.h.toNat * s.w.toNat ∧
      ∀ x y, x < s.w.toNat → y < s.h.toNat →
        cellAt s x y = over (hardLine maxW.toNat (some style) (((splitNl cells).getD y []).map (toWinSt style))) 0
          (fun _ => some { (default : Window.Cell) with st := style }) x := by
  obtain ⟨s, h1, h2, h3, h4⟩ := text_hard_draw_rows style maxW maxH (splitNl cells) hw
  refine ⟨s, ?_, h2, h3, h4⟩
  simp only [textHardDraw, text_hard_lines_are_split, WrapDraw.ofExcept]
  have : (List.map (fun l => List.map (toWinSt style) (List.flatMap (fun c => [c]) l)) (splitNl cells)) =
      (splitNl cells).map (·.map (toWinSt style)) := by
    congr 1; funext l; simp
  rw [this, h1]

/-- **A line that fits is drawn unaltered** (`width ≤ Max.Width`, equality included — finding F316,
`Witness.F316`): the row of `hard_draw_rows` / `text_hard_draw_rows` is
the row the soft-wrap mode shows for the same line. -/
theorem hard_line_fits_unaltered (maxW : Nat) (est : Option Nat) (line : List Window.Cell)
    (h : width line ≤ maxW) : hardLine maxW est line = line := by
  simp [hardLine, h]

theorem width_append (p q : List Window.Cell) : width (p ++ q) = width p + width q := by
  simp [width]

/-- `Spec.WrapDraw.truncated`, started with `col` columns used: the cut falls in front of a grapheme
`c`; what is kept leaves a column for the ellipsis; with `c` it would not. -/
theorem truncated_cut (maxW : Nat) (est : Option Nat) : ∀ (line : List Window.Cell) (col : Nat),
    col ≤ maxW → col + width line > maxW →
    ∃ p c rest, line = p ++ c :: rest ∧
      Spec.WrapDraw.truncated maxW est line col = p ++ [Spec.WrapDraw.ellipsisFor est c] ∧
      (col + 1 ≤ maxW → col + width p + 1 ≤ maxW) ∧ col + width (p ++ [c]) + 1 > maxW := by
  intro line
  induction line with
  | nil => intro col h1 h2; simp [width] at h2; omega
  | cons c cs ih =>
    intro col h1 h2
    simp only [width, List.map_cons, List.sum_cons] at h2
    by_cases hk : col + c.w.toNat + 1 ≤ maxW
    · obtain ⟨p, c', rest, e1, e2, e3, e4⟩ := ih (col + c.w.toNat) (by omega) (by simp only [width]; omega)
      refine ⟨c :: p, c', rest, by rw [e1]; rfl, by simp only [Spec.WrapDraw.truncated, hk, ↓reduceIte, e2]; rfl, ?_, ?_⟩
      · intro _
        have := e3 hk
        simp only [width, List.map_cons, List.sum_cons] at this ⊢; omega
      · simp only [width, List.cons_append, List.map_cons, List.sum_cons] at e4 ⊢; omega
    · refine ⟨[], c, cs, rfl, by simp only [Spec.WrapDraw.truncated, hk, ↓reduceIte]; rfl, by intro h; simpa [width] using h, ?_⟩
      simp only [width, List.nil_append, List.map_cons, List.map_nil, List.sum_cons, List.sum_nil]; omega

/-- **A line that does not fit is drawn as its longest prefix that leaves room for the ellipsis,
followed by the ellipsis**: `hardLine` is `line.take k ++ […]` where the "…" (width 1) has the style
of grapheme `k`, the first one dropped (or the widget's style); the `k` graphemes kept leave a column
free (whenever the widget has a column at all), and no longer prefix of the line does. -/
theorem hard_line_truncated_longest_prefix (maxW : Nat) (est : Option Nat) (line : List Window.Cell)
    (h : width line > maxW) :
    ∃ (k : Nat) (hk : k < line.length),
      hardLine maxW est line = line.take k ++ [Spec.WrapDraw.ellipsisFor est line[k]] ∧
      (0 < maxW → width (line.take k) + 1 ≤ maxW) ∧
      ∀ n, n ≤ line.length → width (line.take n) + 1 ≤ maxW → n ≤ k := by
  obtain ⟨p, c, rest, e1, e2, e3, e4⟩ := truncated_cut maxW est line 0 (by omega) (by omega)
  have hk : p.length < line.length := by rw [e1]; simp
  have htake : line.take p.length = p := by rw [e1]; simp
  have hget : line[p.length] = c := by simp [e1]
  refine ⟨p.length, hk, ?_, ?_, ?_⟩
  · rw [htake, hget]
    simp only [hardLine, show ¬ width line ≤ maxW by omega, ↓reduceIte, e2]
  · intro h0
    rw [htake]
    have := e3 (by omega); omega
  · intro n hn hw
    by_cases hle : n ≤ p.length
    · exact hle
    · exfalso
      obtain ⟨m, rfl⟩ : ∃ m, n = p.length + 1 + m := ⟨n - p.length - 1, by omega⟩
      have : line.take (p.length + 1 + m) = (p ++ [c]) ++ rest.take m := by
        rw [e1, List.take_append]
        have h1 : List.take (p.length + 1 + m) p = p := List.take_of_length_le (by omega)
        have h2 : p.length + 1 + m - p.length = m + 1 := by omega
        rw [h1, h2, List.take_succ_cons]
        simp
      rw [this, width_append] at hw
      omega

/-- A line strictly narrower than `Max.Width` never reaches the ellipsis branch, even with `truncate`
set (`overHard` = the loop of the code for a line with `truncate` set): it is drawn as soft wrap draws it. -/
theorem hard_draw_exact_narrow (maxW : Nat) (est : Option Nat) (line : List Window.Cell)
    (f : Nat → Option Window.Cell) (h : width line < maxW) : overHard maxW est line 0 f = over line 0 f :=
  overHard_fits maxW est line 0 f (by simpa using h)

example : hardLine 3 none [⟨5, 1, 0⟩, ⟨6, 2, 0⟩] = [⟨5, 1, 0⟩, ⟨6, 2, 0⟩] ∧
    hardLine 2 none [⟨5, 1, 0⟩, ⟨6, 2, 7⟩] = [⟨5, 1, 0⟩, ⟨Window.gEllipsis, 1, 7⟩] := by decide

/-- Non-vacuity: "世a" drawn by RichText at Max 5×3 gives a 3×1 surface `世 _ a`. -/
example :
    let W : Cell := { g := 7, w := 2, style := 1, sp := false, term := false, nl := false }
    let a : Cell := { g := 8, w := 1, style := 2, sp := false, term := false, nl := false }
    (match richDraw (fun _ _ => false) 5 3 [W, a] with
     | .ok s => decide (s.w = 3 ∧ s.h = 1 ∧ s.buf = [toWin W, default, toWin a])
     | _ => false) = true := by decide

example : splitNl ([] : List Cell) = [] ∧
    (let n : Cell := { g := 1, w := 0, style := 0, sp := true, term := true, nl := true }
     let a : Cell := { g := 2, w := 1, style := 0, sp := false, term := false, nl := false }
     splitNl [a, n, n, a, n] = [[a], [], [a]]) := by decide

end VaxisModel.Props.C16Draw
