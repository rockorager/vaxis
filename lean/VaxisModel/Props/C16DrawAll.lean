import VaxisModel.Props.C16Draw

/-! C16 — "the text widgets draw exactly the emitted lines, one per row" for ALL widths ≥ 1, the exception of the
property text included: a single grapheme WIDER than the line is emitted on a line of its own (`Props.C16.line_width`:
"a single grapheme wider than the line excepted"), `findContainerSize` counts a row for it, and Draw writes it at column 0
of that row — the surface is `min (line width) Max.Width ≥ 1` columns wide, so the cell exists. -/
namespace VaxisModel.Props.C16DrawAll
open VaxisModel.Model VaxisModel.Model.WrapDraw
open VaxisModel.Model.Wrap (Cell sumW richLines plainLines Lines)
open VaxisModel.Lemmas.WrapDraw VaxisModel.Props.C16Draw
open VaxisModel.Spec.WrapDraw (over width)

/-- **The over-wide grapheme is drawn** (RichText, soft wrap): whenever line `y` of the scanner (below Max.Height) is a
single non-whitespace grapheme of positive width — in particular one WIDER than `Max.Width`, e.g. a 2-column grapheme at
`Max.Width = 1` — the surface shows it, with its style, at column 0 of row `y`.  Every text, every `Max.Width`, every
break function. -/
theorem rich_draw_wide_grapheme_exception (lb : Nat → Nat → Bool) (maxW maxH : UInt16) (cells : List Cell)
    (ls : List (List Cell)) (h : richLines lb maxW.toNat cells = .ok ls) (hw : ∀ l ∈ ls, sumW l < 65536)
    (y : Nat) (c : Cell) (hy : ls[y]? = some [c]) (hyM : y < maxH.toNat) (hsp : c.sp = false) (hc : 0 < c.w) :
    ∃ s, richDraw lb maxW maxH cells = .ok s ∧ cellAt s 0 y = some (toWin c) := by
  obtain ⟨s, h1, h2⟩ := rich_draw_nothing_clipped lb maxW maxH cells ls h hw
  refine ⟨s, h1, ?_⟩
  have ht : (Wrap.trimRight [c])[0]? = some c := by
    simp [Wrap.trimRight, hsp]
  have := h2 y [c] hy hyM 0 c ht hc
  simpa [sumW] using this

/-- **`Text.Draw` (soft wrap) draws exactly the emitted lines** — the scanner's result made explicit, as
`rich_draw_exactly_the_lines` does for RichText: for every segmenter answering with non-empty segments (`OracleOK`), every
text narrower than 2^16 columns, EVERY `Max.Width` (0 and 1 included) and `Max.Height`, with `ctx.Characters` expanding a
grapheme to cells of the same total width (`hexp`): the scanner terminates with lines `ls`, Draw returns a surface (no panic,
no hang) of `min #ls Max.Height` rows holding width × height cells, and row `y` shows line `y` — every grapheme in the widget's
style at the column equal to the width of the graphemes before it, the filled blank elsewhere. -/
theorem text_draw_exactly_the_lines {σ : Type} (seg : σ → List Cell → Nat × Bool × σ) (st0 : σ)
    (hok : VaxisModel.Lemmas.Wrap.OracleOK seg)
    (expand : Cell → List Cell) (hexp : ∀ c, sumW (expand c) = c.w)
    (style : Nat) (maxW maxH : UInt16) (cells : List Cell) (hw : sumW cells < 65536) :
    ∃ ls s, plainLines seg maxW.toNat cells st0 = .ok ls ∧ textDraw seg st0 expand style maxW maxH cells = .ok s ∧
      s.h.toNat = min ls.length maxH.toNat ∧
      s.buf.length = s.h.toNat * s.w.toNat ∧
      ∀ x y, x < s.w.toNat → y < s.h.toNat →
        cellAt s x y = over (((ls.getD y []).flatMap expand).map (toWinSt style)) 0
          (fun _ => some { (default : Window.Cell) with st := style }) x := by
  obtain ⟨ls, hls, _⟩ := VaxisModel.Lemmas.Wrap.lines_ok seg st0 maxW.toNat hok cells st0
  have hls' : plainLines seg maxW.toNat cells st0 = .ok ls := hls
  have hflat : ∀ l : List Cell, sumW (l.flatMap expand) = sumW l := by
    intro l
    induction l with
    | nil => rfl
    | cons c r ih => simp only [List.flatMap_cons, VaxisModel.Lemmas.Wrap.sumW_append, hexp, ih, sumW]
  have hlw : ∀ l ∈ ls, sumW (l.flatMap expand) < 65536 := by
    intro l hl
    have := VaxisModel.Lemmas.Wrap.scanAll_sumW seg st0 maxW.toNat _ cells st0 ls hls l hl
    rw [hflat]; omega
  obtain ⟨s, h1, h2, h3, h4⟩ := text_draw_rows seg st0 expand style maxW maxH cells ls hls' hlw
  exact ⟨ls, s, hls', h1, h2, h3, h4⟩

/-- … and the over-wide grapheme is drawn by `Text.Draw` too: a line consisting of one grapheme that `ctx.Characters`
leaves as it is shows it at column 0 whenever the surface has a column — and it has one as soon as `Max.Width ≥ 1`
(`rich_draw_wide_grapheme_exception` gives the width argument; here the row content). -/
theorem text_draw_single_grapheme_row {σ : Type} (seg : σ → List Cell → Nat × Bool × σ) (st0 : σ)
    (expand : Cell → List Cell) (style : Nat) (maxW maxH : UInt16) (cells : List Cell)
    (ls : List (List Cell)) (h : plainLines seg maxW.toNat cells st0 = .ok ls)
    (hw : ∀ l ∈ ls, sumW (l.flatMap expand) < 65536)
    (y : Nat) (c : Cell) (hy : ls[y]? = some [c]) (hexp : expand c = [c]) :
    ∃ s, textDraw seg st0 expand style maxW maxH cells = .ok s ∧
      (0 < s.w.toNat → y < s.h.toNat → cellAt s 0 y = some (toWinSt style c)) := by
  obtain ⟨s, h1, _, _, h4⟩ := text_draw_rows seg st0 expand style maxW maxH cells ls h hw
  refine ⟨s, h1, fun hx hys => ?_⟩
  rw [h4 0 y hx hys]
  have hgd : ls.getD y [] = [c] := by rw [List.getD_eq_getElem?_getD, hy]; rfl
  rw [hgd]
  simp [hexp, over]

/-- Non-vacuity: "世" (2 columns) drawn by RichText at `Max.Width = 1` gives a 1×1 surface
showing "世" at (0,0). -/
theorem wide_grapheme_at_width_one :
    (match richDraw (fun _ _ => true) 1 5 [{ g := 7, w := 2, style := 4, sp := false, term := false, nl := false }] with
     | .ok s => s.w == 1 && s.h == 1 && cellAt s 0 0 == some { g := 10, w := 2, st := 4 }
     | _ => false) = true := by decide

end VaxisModel.Props.C16DrawAll
