import VaxisModel.Model.Wrap
import VaxisModel.Spec.Wrap
import VaxisModel.Lemmas.Wrap
import VaxisModel.Lemmas.WrapE2E
import VaxisModel.Lemmas.WrapSplit
import VaxisModel.Lemmas.WrapSplitPlain

/-! C16, end-to-end statements: the position oracles of `Spec.Wrap` that the driver evaluates on the
real scanners' output (`hardBreakOK`, `noNeedlessSplit`, `conserved`) are *theorems* of the model of
the whole iteration `for scanner.Scan() { lines = append(lines, scanner.Text()) }`, for every text,
every positive width and every segmentation oracle meeting the stated hypotheses. -/
namespace VaxisModel.Props.C16E2E
open VaxisModel.Model.Wrap VaxisModel.Lemmas.Wrap
open VaxisModel.Spec.Wrap (nonWs content conserved hardBreakOK noNeedlessSplit noTermInLines segChain noNeedlessSplitRuns)

/-- "A hard line break always ends the current line", end to end: in the lines of the whole
iteration, two consecutive non-whitespace graphemes of the input that are separated by a line
terminator never share a line (`Spec.Wrap.hardBreakOK`, the oracle the driver evaluates on the real
output).  `OracleTermW o ini Fresh`: for every query whose state belongs to its position (`Fresh`:
the state returned with the remainder, or the state `ini` = -1 that text.go stores after splitting a
long word, F116) a segment has a terminator only as its last cell, with the must-break flag. -/
theorem hard_break_end_to_end {σ : Type} (o : σ → List Cell → Nat × Bool × σ) (ini : σ) (hok : OracleOK o)
    (Fresh : σ → List Cell → Prop) (hot : OracleTermW o ini Fresh) (width : Nat) (hw : 0 < width)
    (cells : List Cell) (st0 : σ) (hf0 : Fresh st0 cells)
    (ls : List (List Cell)) (h : lines o ini width cells st0 = .ok ls) : hardBreakOK cells ls = true :=
  lines_hardBreakOK o ini hot width hw cells st0 hf0 ls h

/-- The transcribed `richtext.firstLineSegment` meets the strong form on every query, for every
pairwise break function. -/
theorem rich_oracle_term (lb : Nat → Nat → Bool) : OracleTerm (richOracle lb) := richOracle_term lb

/-- richtext: unconditional. -/
theorem rich_hard_break_end_to_end (lb : Nat → Nat → Bool) (width : Nat) (hw : 0 < width)
    (cells : List Cell) (ls : List (List Cell)) (h : richLines lb width cells = .ok ls) :
    hardBreakOK cells ls = true :=
  lines_hardBreakOK _ () ((richOracle_term lb).toW ()) width hw cells () trivial ls h

/-- The whole iteration cuts the text into consecutive pieces, one per line: the input is the
concatenation of the pieces, line `i` holds exactly the non-whitespace graphemes (with styles) of
piece `i`, and a piece has a line terminator at most as its last cell.  (Whole-text conservation
`Props.C16.conservation` is the corollary `content ls.flatten = content cells`.) -/
theorem lines_are_pieces {σ : Type} (o : σ → List Cell → Nat × Bool × σ) (ini : σ) (hok : OracleOK o)
    (Fresh : σ → List Cell → Prop) (hot : OracleTermW o ini Fresh) (width : Nat) (hw : 0 < width)
    (cells : List Cell) (st0 : σ) (hf0 : Fresh st0 cells)
    (ls : List (List Cell)) (h : lines o ini width cells st0 = .ok ls) :
    ∃ ps, cells = ps.flatten ∧ (∀ k, lineIdxFrom k ls = lineIdxFrom k ps) ∧ ∀ p ∈ ps, TermLast p :=
  scanAll_pieces o ini hot width hw _ cells st0 ls hf0 h

/-- The literal reading of "a hard line break always ends the current line": no emitted line
contains a line terminator (`Spec.Wrap.noTermInLines`) — for every text whose terminators are
whitespace (true of Unicode: BK, CR, LF, NL are all `unicode.IsSpace`), every width, every oracle.
(F116: a scanner that queries uniseg with the state of another position after a long-word split emits a
terminator standing first in the remainder inside the next line: " 世\nb" at width 1 gives " ", "世", "\nb".) -/
theorem lines_no_terminator {σ : Type} (o : σ → List Cell → Nat × Bool × σ) (ini : σ) (hok : OracleOK o)
    (Fresh : σ → List Cell → Prop) (hot : OracleTermW o ini Fresh) (width : Nat) (cells : List Cell)
    (hsp : ∀ c ∈ cells, c.term = true → c.sp = true) (st0 : σ) (hf0 : Fresh st0 cells)
    (ls : List (List Cell)) (h : lines o ini width cells st0 = .ok ls) : noTermInLines ls = true :=
  scanAll_noterm o ini hot width _ cells st0 ls hf0 hsp h

/-- richtext has no segmenter state: unconditional. -/
theorem rich_lines_no_terminator (lb : Nat → Nat → Bool) (width : Nat) (cells : List Cell)
    (hsp : ∀ c ∈ cells, c.term = true → c.sp = true)
    (ls : List (List Cell)) (h : richLines lb width cells = .ok ls) : noTermInLines ls = true :=
  scanAll_noterm _ () ((richOracle_term lb).toW ()) width _ cells () ls trivial hsp h

/-- "never split a run of letters that would fit on a line of its own", end to end, richtext: in the
lines of the whole iteration, two neighbouring non-whitespace graphemes of one unbreakable run
(`Spec.Wrap.runs` under the pairwise break function `lb` that `firstLineSegment` consults) land on
different lines only if the run without its trailing whitespace is wider than the line
(`Spec.Wrap.noNeedlessSplit`, the oracle the driver evaluates on the real output).  For every
text whose line terminators are whitespace (true of Unicode), every positive width, every `lb`. -/
theorem rich_no_needless_split_end_to_end (lb : Nat → Nat → Bool) (width : Nat) (hw : 0 < width)
    (cells : List Cell) (hsp : ∀ c ∈ cells, c.term = true → c.sp = true)
    (ls : List (List Cell)) (h : richLines lb width cells = .ok ls) :
    noNeedlessSplit lb width cells ls = true :=
  richLines_noNeedlessSplit lb width hw cells hsp ls h

/-- "never split a run of letters that would fit on a line of its own", end to end, for a scanner
over **any** (stateful) segmentation oracle — the plain-text scanner over uniseg: the runs are the
segments of the segmenter's own segmentation of the whole text (`Spec.Wrap.segChain`: the chain of
queries from the start; for uniseg, the UAX #14 segmentation), and in the lines of the whole
iteration two neighbouring non-whitespace graphemes of one such segment land on different lines
only if the segment without its trailing whitespace is wider than the line
(`Spec.Wrap.noNeedlessSplitRuns`, evaluated by the driver on the real output).  `PosIndep o ini`:
queried with the unknown state inside a segment the segmenter returns the remainder of that segment,
and at a segment boundary it answers as with the carried state (asserted per query by the harness).
(F116: with the state kept after a long-word split, "x （aa bbb" at width 3 gives "x ", "（a", "a b", "bb".) -/
theorem plain_no_needless_split_end_to_end {σ : Type} (o : σ → List Cell → Nat × Bool × σ) (ini : σ)
    (hok : OracleOK o) (hp : PosIndep o ini) (width : Nat) (hw : 0 < width) (cells : List Cell) (st0 : σ)
    (ls : List (List Cell)) (h : lines o ini width cells st0 = .ok ls) :
    noNeedlessSplitRuns (segChain o (cells.length + 1) st0 cells) width ls = true := by
  unfold noNeedlessSplitRuns
  rw [splitRuns_eq, lineIndex_eq]
  simp only [List.drop_zero]
  exact goodO_srL o hok width (scanAll_goodO o ini hok hp width hw _ cells st0 ls h 0) _ (by omega)

/-- Non-vacuity: the transcribed `firstLineSegment` is position independent for every pairwise
break function (so the general theorem applies to richtext too, with its segments as runs). -/
theorem rich_pos_indep (lb : Nat → Nat → Bool) : PosIndep (richOracle lb) () := richOracle_posIndep lb

/-- **The whole property for `richtext.SoftwrapScanner`, unconditionally** (no hypothesis on a
segmentation oracle: `firstLineSegment` is transcribed, the pairwise break function `lb` is arbitrary).
For every text whose line terminators are whitespace (true of Unicode), every positive width: the
iteration terminates with lines `ls`; nothing but whitespace is lost, order and styles kept; every
line fits the width (trailing whitespace and single over-wide graphemes aside); a hard line break
always ends the line (both readings); no run that fits a line of its own is split.  The same strength
as the plain scanner's theorems, which carry the oracle hypotheses `OracleOK`/`OracleTermW`/`PosIndep`. -/
theorem rich_wrap_property (lb : Nat → Nat → Bool) (width : Nat) (hw : 0 < width) (cells : List Cell)
    (hsp : ∀ c ∈ cells, c.term = true → c.sp = true) :
    ∃ ls, richLines lb width cells = .ok ls ∧
      conserved cells ls = true ∧
      (∀ l ∈ ls, VaxisModel.Spec.Wrap.lineWidthOK width l = true) ∧
      hardBreakOK cells ls = true ∧ noTermInLines ls = true ∧
      noNeedlessSplit lb width cells ls = true := by
  obtain ⟨ls, h, hc⟩ := lines_ok (richOracle lb) () width (richOracle_ok lb) cells ()
  refine ⟨ls, h, by simp [conserved, hc hw], scanAll_width _ () width _ cells () ls h,
    rich_hard_break_end_to_end lb width hw cells ls h, rich_lines_no_terminator lb width cells hsp ls h,
    rich_no_needless_split_end_to_end lb width hw cells hsp ls h⟩

/-- **The whole property for `text.SoftwrapScanner`** over any segmenter meeting the three hypotheses
the harness asserts of uniseg per query (`OracleOK`, `OracleTermW … Fresh`, `PosIndep`), started in the
unknown state like the real scanner: termination, conservation, width, hard breaks (both readings), no
needless split (runs = the segmenter's own segmentation). -/
theorem plain_wrap_property {σ : Type} (o : σ → List Cell → Nat × Bool × σ) (ini : σ) (hok : OracleOK o)
    (Fresh : σ → List Cell → Prop) (hot : OracleTermW o ini Fresh) (hp : PosIndep o ini)
    (width : Nat) (hw : 0 < width) (cells : List Cell) (hf0 : Fresh ini cells)
    (hsp : ∀ c ∈ cells, c.term = true → c.sp = true) :
    ∃ ls, plainLines o width cells ini = .ok ls ∧
      conserved cells ls = true ∧
      (∀ l ∈ ls, VaxisModel.Spec.Wrap.lineWidthOK width l = true) ∧
      hardBreakOK cells ls = true ∧ noTermInLines ls = true ∧
      noNeedlessSplitRuns (segChain o (cells.length + 1) ini cells) width ls = true := by
  obtain ⟨ls, h, hc⟩ := lines_ok o ini width hok cells ini
  refine ⟨ls, h, by simp [conserved, hc hw], scanAll_width _ ini width _ cells ini ls h,
    hard_break_end_to_end o ini hok Fresh hot width hw cells ini hf0 ls h,
    lines_no_terminator o ini hok Fresh hot width cells hsp ini hf0 ls h,
    plain_no_needless_split_end_to_end o ini hok hp width hw cells ini ls h⟩

/-! ### `PosIndep` cannot be dropped

A segmenter whose answer from the unknown state, *inside* a segment, runs past the end of that segment
(a break opportunity of the whole-text segmentation is lost for a restarted query — what uniseg does
in the LB14 / LB25 contexts the harness discards) makes the scanner split a run that fits: the
hypothesis of `plain_no_needless_split_end_to_end` is necessary, and a proof without it would have
to be about uniseg's rules themselves. -/

/-- A segmenter over states: 9 = the unknown state (`-1` of uniseg; also what the scanner stores after
splitting a long word).  From the start it cuts the 8-grapheme text `aaaa|bb|cc`; asked again with the
unknown state in front of the last `a` it answers `ab|bc|c`. -/
def shiftyOracle (st : Nat) (rest : List Cell) : Nat × Bool × Nat :=
  match st, rest.length with
  | 9, 8 => (4, false, 0)
  | 0, 4 => (2, false, 0)
  | 9, 5 => (2, false, 2)
  | 2, 3 => (2, false, 2)
  | _, n => (n, true, st)

theorem shiftyOracle_ok : OracleOK shiftyOracle := by
  intro st rest hne
  have hpos : 0 < rest.length := List.length_pos_iff.mpr hne
  unfold shiftyOracle
  split <;> simp_all <;> omega

/-- **The hypothesis `PosIndep` of `plain_no_needless_split_end_to_end` is necessary**: there are a
segmenter meeting `OracleOK`, a text and a width for which the scanner model — started, like
`text.SoftwrapScanner`, in the same unknown state it falls back to after a long-word split — emits
lines that split a run which fits on a line of its own (`aaaa bb cc` without the blanks at width 3:
lines `aaa`, `ab`, `bcc`; the run `bb` is divided). -/
theorem plain_no_needless_split_needs_pos_indep :
    ∃ (o : Nat → List Cell → Nat × Bool × Nat) (ini : Nat) (width : Nat) (cells : List Cell) (ls : List (List Cell)),
      OracleOK o ∧ 0 < width ∧ plainLines o width cells ini = .ok ls ∧
      noNeedlessSplitRuns (segChain o (cells.length + 1) ini cells) width ls = false ∧ ¬ PosIndep o ini := by
  let a : Cell := { g := 0, w := 1, style := 0, sp := false, term := false, nl := false }
  let b : Cell := { g := 1, w := 1, style := 0, sp := false, term := false, nl := false }
  let c : Cell := { g := 2, w := 1, style := 0, sp := false, term := false, nl := false }
  have hl : plainLines shiftyOracle 3 [a, a, a, a, b, b, c, c] 9 = .ok [[a, a, a], [a, b], [b, c, c]] := by decide
  have hn : noNeedlessSplitRuns (segChain shiftyOracle ([a, a, a, a, b, b, c, c].length + 1) 9 [a, a, a, a, b, b, c, c]) 3
      [[a, a, a], [a, b], [b, c, c]] = false := by decide
  refine ⟨shiftyOracle, 9, 3, [a, a, a, a, b, b, c, c], [[a, a, a], [a, b], [b, c, c]], shiftyOracle_ok, by decide, hl, hn, ?_⟩
  intro hp
  have := plain_no_needless_split_end_to_end shiftyOracle 9 shiftyOracle_ok hp 3 (by decide) [a, a, a, a, b, b, c, c] 9 _ hl
  rw [hn] at this
  exact Bool.false_ne_true this

/-- Non-vacuity for `rich_no_needless_split_end_to_end`: "ab cd" at width 3 keeps "ab" and "cd" whole
(and the oracle rejects the cutting "a" | "b cd"); "abcd" at width 3 is divided, which the oracle
accepts because the run does not fit. -/
example :
    let a : Cell := { g := 0, w := 1, style := 1, sp := false, term := false, nl := false }
    let s : Cell := { g := 1, w := 1, style := 0, sp := true, term := false, nl := false }
    let lb : Nat → Nat → Bool := fun x _ => x == 1
    richLines lb 3 [a, a, s, a, a] = .ok [[a, a, s], [a, a]] ∧
    noNeedlessSplit lb 3 [a, a, s, a, a] [[a, a, s], [a, a]] = true ∧
    noNeedlessSplit lb 3 [a, a, s, a, a] [[a], [a, s, a, a]] = false ∧
    richLines lb 3 [a, a, a, a] = .ok [[a, a, a], [a]] ∧
    noNeedlessSplit lb 3 [a, a, a, a] [[a, a, a], [a]] = true := by decide

/-- Non-vacuity: "a\nb" at width 5 gives two lines although both letters would fit on one. -/
example :
    let a : Cell := { g := 0, w := 1, style := 1, sp := false, term := false, nl := false }
    let n : Cell := { g := 1, w := 0, style := 0, sp := true, term := true, nl := true }
    richLines (fun _ _ => false) 5 [a, n, a] = .ok [[a], [a]] ∧
    hardBreakOK [a, n, a] [[a], [a]] = true ∧ hardBreakOK [a, n, a] [[a, a]] = false ∧
    noTermInLines [[a], [a]] = true ∧ (∀ c ∈ [a, n, a], c.term = true → c.sp = true) := by decide

end VaxisModel.Props.C16E2E
