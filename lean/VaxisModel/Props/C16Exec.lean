import VaxisModel.Props.C14Body
import VaxisModel.Props.C16Draw

/-! C14 × C16 — the EXECUTED source of `RichText.drawSoftwrap` / `findContainerSize` draws exactly the emitted lines.

`Props/C16Draw` proves what `Model.WrapDraw.richDraw` (= the scanner model composed with `Layout.drawText`) shows;
`Props/C14Body` proves that the regenerated bodies of `drawSoftwrap` and `findContainerSize`, run by the statement interpreter,
ARE `Layout.drawText`.  Here the two are joined: running the bodies extracted from /repo on the lines of the scanner model
returns a surface whose row `y` shows line `y`. -/
namespace VaxisModel.Props.C16Exec
open VaxisModel.Model VaxisModel.Model.WrapDraw VaxisModel.Model.SurfExec
open VaxisModel.Model.Wrap (Cell sumW richLines plainLines Lines)
open VaxisModel.Lemmas.WrapDraw VaxisModel.Lemmas.SurfExec VaxisModel.Props.C16Draw VaxisModel.Props.C14Body
open VaxisModel.Spec.WrapDraw (over)

theorem srcArith_exact : Surface.srcArith = exactA := by decide

theorem ofExcept_ok {r : Except Surface.Panic Surface.Surface} {s : Surface.Surface} (h : WrapDraw.ofExcept r = .ok s) :
    r = .ok s := by
  cases r with
  | error p => cases h
  | ok s' => cases h; rfl

/-- The regenerated body of `RichText.drawSoftwrap`, run with the executed `findContainerSize` on any scanned lines `L`, is
`Layout.drawText` on `L`. -/
theorem richDrawSoftwrap_run (maxW maxH : UInt16) (L : List (List Window.Cell)) (scr : Window.Screen) :
    (run (richRo maxW L) Gen.SurfaceBodies.richDrawSoftwrap Gen.SurfaceBodies.richDrawSoftwrapParams
        [.wid 0, .ctx (ctxOf maxW maxH)] scr).map (·.1) =
      match Layout.drawText exactA (Layout.richMode false) (ctxOf maxW maxH) L with
      | .ok s => .ok (.tup (.surf s) .nil)
      | .error p => .error (.panic p) := by
  have hsz := richFindContainerSize_soft_body_eq_model
    ({ noRo with fields := fun f => if f = "Softwrap" then some (.bool true) else none, soft := L, wrapW := maxW } : Ro)
    (ctxOf maxW maxH) L.flatten (Window.Screen.resize 0 0) (by simp) rfl
  exact richDrawSoftwrap_is_drawText (richRo maxW L) (ctxOf maxW maxH) L.flatten scr
    (by simp [richRo]) (by simp only [richRo]; simp; exact hsz) rfl

/-- For every text (each emitted line narrower than 2^16 columns), every `Max`, every
break function: the regenerated body of `RichText.drawSoftwrap`, executed with the executed `findContainerSize` on the lines of the
scanner model, returns a surface — no panic, not stuck — of `min #lines Max.Height` rows in which row `y` shows line `y` cell by cell. -/
theorem executed_rich_draw_shows_the_lines (lb : Nat → Nat → Bool) (maxW maxH : UInt16) (cells : List Cell)
    (ls : List (List Cell)) (h : richLines lb maxW.toNat cells = .ok ls) (hw : ∀ l ∈ ls, sumW l < 65536) (scr : Window.Screen) :
    ∃ s, (run (richRo maxW (ls.map (·.map toWin))) Gen.SurfaceBodies.richDrawSoftwrap Gen.SurfaceBodies.richDrawSoftwrapParams
            [.wid 0, .ctx (ctxOf maxW maxH)] scr).map (·.1) = .ok (.tup (.surf s) .nil) ∧
      s.h.toNat = min ls.length maxH.toNat ∧
      ∀ x y, x < s.w.toNat → y < s.h.toNat →
        cellAt s x y = over ((ls.getD y []).map toWin) 0 (fun _ => some default) x := by
  obtain ⟨s, h1, h2, _, _, h5⟩ := rich_draw_rows lb maxW maxH cells ls h hw
  simp only [richDraw, h, srcArith_exact] at h1
  exact ⟨s, by rw [richDrawSoftwrap_run, ofExcept_ok h1], h2, h5⟩

theorem restyle_toWinSt (st : Nat) (l : List Cell) : (l.map (toWinSt st)).map (restyle st) = l.map (toWinSt st) := by
  induction l with
  | nil => rfl
  | cons c r ih => simp [restyle, toWinSt, ih]

/-- The same for `Text.drawSoftwrap` in style `st`, on lines that are in that style already (it restyles what it draws). -/
theorem textDrawSoftwrap_run (maxW maxH : UInt16) (st : Nat) (L : List (List Window.Cell))
    (hL : L.map (List.map (restyle st)) = L) (scr : Window.Screen) :
    (run (textRo maxW st L) Gen.SurfaceBodies.textDrawSoftwrap Gen.SurfaceBodies.textDrawSoftwrapParams
        [.wid 0, .ctx (ctxOf maxW maxH)] scr).map (·.1) =
      match Layout.drawText exactA (Layout.textMode false st) (ctxOf maxW maxH) L with
      | .ok s => .ok (.tup (.surf s) .nil)
      | .error p => .error (.panic p) := by
  have hsz := textFindContainerSize_soft_body_eq_model
    ({ noRo with
        fields := fun f => if f = "Softwrap" then some (.bool true) else if f = "Content" then some .text
                           else if f = "Style" then some (.sty st) else none,
        soft := L, wrapW := maxW } : Ro)
    (ctxOf maxW maxH) (Window.Screen.resize 0 0) (by simp) (by simp) rfl
  have hsoft : (textRo maxW st L).soft = L := rfl
  rw [textDrawSoftwrap_is_drawText (textRo maxW st L) (ctxOf maxW maxH) st scr (by simp [textRo]) (by simp [textRo])
    (by rw [hsoft, hL]; simp only [textRo]; simp; exact hsz) rfl, hsoft, hL]
  rfl

/-- The same for `Text`: the regenerated bodies of `Text.drawSoftwrap` and
`Text.findContainerSize`, executed on the lines of the plain scanner model (any segmenter; `ctx.Characters` as `expand`), return a
surface filled with the widget's style whose row `y` shows line `y` in that style. -/
theorem executed_text_draw_shows_the_lines {σ : Type} (seg : σ → List Cell → Nat × Bool × σ) (st0 : σ)
    (expand : Cell → List Cell) (style : Nat) (maxW maxH : UInt16) (cells : List Cell)
    (ls : List (List Cell)) (h : plainLines seg maxW.toNat cells st0 = .ok ls)
    (hw : ∀ l ∈ ls, sumW (l.flatMap expand) < 65536) (scr : Window.Screen) :
    ∃ s, (run (textRo maxW style (ls.map fun l => (l.flatMap expand).map (toWinSt style)))
            Gen.SurfaceBodies.textDrawSoftwrap Gen.SurfaceBodies.textDrawSoftwrapParams
            [.wid 0, .ctx (ctxOf maxW maxH)] scr).map (·.1) = .ok (.tup (.surf s) .nil) ∧
      s.h.toNat = min ls.length maxH.toNat ∧
      ∀ x y, x < s.w.toNat → y < s.h.toNat →
        cellAt s x y = over (((ls.getD y []).flatMap expand).map (toWinSt style)) 0
          (fun _ => some { (default : Window.Cell) with st := style }) x := by
  obtain ⟨s, h1, h2, _, h5⟩ := text_draw_rows seg st0 expand style maxW maxH cells ls h hw
  simp only [textDraw, h, srcArith_exact] at h1
  have hL : (ls.map fun l => (l.flatMap expand).map (toWinSt style)).map (List.map (restyle style))
      = ls.map fun l => (l.flatMap expand).map (toWinSt style) := by
    rw [List.map_map]; exact List.map_congr_left fun l _ => restyle_toWinSt style _
  exact ⟨s, by rw [textDrawSoftwrap_run _ _ _ _ hL, ofExcept_ok h1], h2, h5⟩

end VaxisModel.Props.C16Exec
