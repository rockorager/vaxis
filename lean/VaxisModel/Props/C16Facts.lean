import VaxisModel.Gen.WrapFacts
import VaxisModel.Model.Wrap
import VaxisModel.Lemmas.WrapFacts

/-! C16 — tie of `Model/Wrap.lean` to the source through the extractor `extract/cmd/C16`
(`Gen/WrapFacts.lean`, regenerated from /repo on every check run).

The extractor reads both `SoftwrapScanner.Scan` functions (vxfw/text/text.go, vxfw/richtext/richtext.go),
`firstLineSegment`, `HardwrapScanner.Scan` and the row loops of `drawSoftwrap` / `findContainerSize`
into lists of `(guard, actions)` steps with one normalisation for both packages.  The theorems below
equate every extracted fact with the literal the model transcribes (each with the lines of
`Model/Wrap.lean` it stands for), state that the two scanners are the same algorithm, and — for the loop
of `Scan` and the long-word loop — that the extracted steps, parsed and executed symbolically
(`Lemmas/WrapFacts.lean`), *are* `scanLoop` / `splitLong`.  A changed operator, operand, order of guards,
accumulator type or a divergence between the two packages makes one of these fail. -/
namespace VaxisModel.Props.C16Facts
open VaxisModel.Gen.WrapFacts
open VaxisModel.Model.Wrap
open VaxisModel.Lemmas.WrapFacts

/-- The extractor recognised every shape it looks for. -/
theorem fully_recognised : extractErrors = [] := rfl

/-- text.SoftwrapScanner.Scan and richtext.SoftwrapScanner.Scan are the same algorithm: entry guard,
statements before the loop, accumulator types, `width`, the sums, the definition of `trSpace`, the
chain of guards of the loop and the long-word branch (without text.go's assignments to `s.state`,
for which see `facts_state_reset_on_split`) are literally equal after normalisation.  This is why the model has one `scanLoop` for both. -/
theorem scanners_agree :
    textEntry = richEntry ∧ textEntryActs = richEntryActs ∧ textInit = richInit ∧
    textWidthDef = richWidthDef ∧ textAccTypes = richAccTypes ∧
    textTrSpaceDef = richTrSpaceDef ∧ textSums = richSums ∧ textSumStmts = richSumStmts ∧
    textConversions = richConversions ∧ textSumsInInt = richSumsInInt ∧
    textLoop = richLoop ∧
    textLongPre = richLongPre ∧ textLongRange = richLongRange ∧ textLongBody = richLongBody ∧
    textLongPost = richLongPost := by
  and_intros <;> rfl

/-- Entry of `Scan`.  Model (`scan`):
`if rest.isEmpty || width == 0 then .stop else scanLoop o ini width rest.length rest st [] 0`
— the guard `len(s.rest) == 0 || s.width == 0` returns false; then the token is cleared (`[]`),
`width := int(s.width)` and `w` starts at 0 (`var w int`). -/
theorem facts_entry :
    textEntry = ("||", [("len(R.rest)", "==", "0"), ("R.width", "==", "0")]) ∧
    textEntryActs = ["return false"] ∧
    textInit = ["R.token=EMPTY", "width:=int(R.width)", "var w int"] := by
  and_intros <;> rfl

/-- The part of the loop body before the guards.  Model (`scanLoop`):
```
let r := o st rest                      -- the segmentation call (oracle; richtext: firstLineSegment)
let seg := rest.take r.1; let rest' := rest.drop r.1; let br := r.2.1
let word := trimRight seg               -- bytes.TrimRightFunc(seg, unicode.IsSpace) / the "TrimRight" loop
let trSpace := seg.drop word.length     -- seg[len(word):]
let wordLen := sumW word; let spaceLen := sumW trSpace
```
text.go passes and receives the uniseg state (`o st rest` with `σ` = that state); richtext computes
`rest` by slicing (`rest.drop r.1`).  text.go sums over `ctx.Characters(string(word))`
(`textAliases`; assumption A-concat of DESIGN.md, the cases discarded for it in notes/C16.md). -/
theorem facts_segmentation :
    textPrelude = ["seg,rest,br,state:=uniseg.FirstLineSegment(R.rest,R.state)",
      "word:=bytes.TrimRightFunc(seg,unicode.IsSpace)", "trSpace:=seg[len(word):]",
      "wordChars:=CTX.Characters(string(word))", "var wordLen int",
      "for _,E:=range word {", "wordLen+=E.Width", "}",
      "spaceChars:=CTX.Characters(string(trSpace))", "var spaceLen int",
      "for _,E:=range trSpace {", "spaceLen+=E.Width", "}"] ∧
    textAliases = [("wordChars", "CTX.Characters(string(word))"),
      ("spaceChars", "CTX.Characters(string(trSpace))")] ∧
    richPrelude = ["seg,br:=firstLineSegment(R.rest)", "rest:=EMPTY",
      "if (len(seg)<len(R.rest)) {", "rest=R.rest[len(seg):]", "}",
      "var word []vaxis.Cell", "var wordLen int", "var spaceLen int",
      "for i:=(len(seg)-1);(i>=0);i-=1 {", "cell:=seg[i]",
      "r,_:=utf8.DecodeLastRuneInString(cell.Grapheme)", "if unicode.IsSpace(r) {", "continue", "}",
      "word=seg[:(i+1)]", "break", "}",
      "trSpace:=seg[len(word):]",
      "for _,E:=range word {", "wordLen+=E.Width", "}",
      "for _,E:=range trSpace {", "spaceLen+=E.Width", "}"] ∧
    richAliases = [] ∧
    textTrSpaceDef = "seg[len(word):]" ∧
    textSums = [("word", "wordLen", "+=", "E.Width"), ("trSpace", "spaceLen", "+=", "E.Width")] := by
  and_intros <;> rfl

/-- The chain of guards of the loop, in source order.  Model (`scanLoop`):
```
if wordLen > width then … splitLong …                                   -- step 0: LONG
else if w + wordLen > width then .line rest st token                    -- step 1: return true
else if br then .line rest' r.2.2 (token ++ stripBreak seg)             -- steps 2, 3
else
  let token := token ++ word; let w := w + wordLen                      -- steps 4, 5
  if w + spaceLen > width then .line rest' r.2.2 token                  -- step 6
  else scanLoop o ini width fuel rest' r.2.2 (token ++ trSpace) (w + spaceLen)  -- steps 7, 8, next iteration
``` -/
theorem facts_loop_guards :
    textLoop = [
      (("", [("wordLen", ">", "width")]), ["LONG"]),
      (("", [("(w+wordLen)", ">", "width")]), ["return true"]),
      (("always", []), ["R.rest=rest"]),
      (("", [("br", "", "")]), ["STRIPBREAK", "R.token=append(R.token,seg...)", "return true"]),
      (("always", []), ["R.token=append(R.token,word...)"]),
      (("always", []), ["w+=wordLen"]),
      (("", [("(w+spaceLen)", ">", "width")]), ["return true"]),
      (("always", []), ["R.token=append(R.token,trSpace...)"]),
      (("always", []), ["w+=spaceLen"])] ∧
    textLoop = dropState textLoopFull ∧ richLoop = richLoopFull := by
  and_intros <;> rfl

/-- The extracted chain *is* `scanLoop`: both packages' chains parse (operators, operands, actions)
to `Lemmas.WrapFacts.loopChain`, and one iteration of `scanLoop` equals the replay of the symbolic
execution of that chain on the model's values (`replayLoop`: the exit taken, the value of `w`, which
of seg / word / trSpace were appended to the token, whether `s.rest = rest` was reached), for every
oracle, width, text, state, token and `w`. -/
theorem facts_loop_meaning :
    parseSteps textLoop = some loopChain ∧ parseSteps richLoop = some loopChain ∧
    ∀ {σ : Type} (o : σ → List Cell → Nat × Bool × σ) (ini : σ) (width fuel : Nat) (rest : List Cell) (st : σ)
      (token : List Cell) (w : Nat),
      scanLoop o ini width (fuel + 1) rest st token w = replayLoop o ini width fuel rest st token w :=
  ⟨parse_textLoop, (rfl : richLoop = textLoop) ▸ parse_textLoop, fun o ini width fuel rest st token w => scanLoop_eq_replay o ini width fuel rest st token w⟩

/-- Executing the extracted chain takes exactly the branches of `scanLoop` (`loopOutcome` is the
`if` chain of the model over `w`, `wordLen`, `spaceLen`, `width`, `br`). -/
theorem facts_loop_branches (e : Env) (br : Bool) :
    (parseSteps textLoop).map (runSteps (fun _ => br) e []) = some (loopOutcome e br) := by
  rw [parse_textLoop]
  simp only [Option.map, run_loopChain]

/-- Non-vacuity: `w = 2`, a 3-column word with one trailing space on a 6-column line: the word is
appended, the space does not fit, `Scan` returns. A 7-column word takes the long-word branch. -/
example : loopOutcome ⟨2, 3, 2, 6, 0, 1⟩ false = ⟨5, [.restSet "rest", .tok "word"], some .ret⟩ := by decide
example : loopOutcome ⟨2, 7, 0, 6, 0, 1⟩ false = ⟨2, [], some .long⟩ := by decide

/-- The long-word branch (F44, F45).  Model (`scanLoop`, `splitLong`):
```
let sp := splitLong width (!token.isEmpty) w word
.line (sp.2 ++ trSpace ++ rest') ini (token ++ sp.1)      -- rest = chars left ++ trSpace ++ rest; (text.go: s.state = -1;) return true

splitLong: let w := if ne && w + c.w > width then width else w   -- len(s.token) > 0 && w+char.Width > width ⇒ w = width
           if w ≥ width then (r.1, c :: r.2)                      -- w >= width ⇒ append to rest; continue
           else splitLong width true (w + c.w) cs; (c :: r.1, r.2) -- append to token; w += char.Width
``` -/
theorem facts_long_word :
    textLongPre = ["R.rest=EMPTY"] ∧ textLongRange = "word" ∧
    textLongBody = [
      (("&&", [("len(R.token)", ">", "0"), ("(w+E.Width)", ">", "width")]), ["w=width"]),
      (("", [("w", ">=", "width")]), ["R.rest=append(R.rest,E)", "continue"]),
      (("always", []), ["R.token=append(R.token,E)"]),
      (("always", []), ["w+=E.Width"])] ∧
    textLongPost = ["R.rest=append(R.rest,trSpace...)", "R.rest=append(R.rest,rest...)", "return true"] := by
  and_intros <;> rfl

/-- The extracted long-word loop body *is* one step of `splitLong`: it parses to `longChain`, and
`splitLong` on `c :: cs` equals the replay of executing that chain with `E.Width = c.w`
(`ne` = `len(s.token) > 0`). -/
theorem facts_long_word_meaning :
    parseSteps textLongBody = some longChain ∧ parseSteps richLongBody = some longChain ∧
    ∀ (width : Nat) (ne : Bool) (w : Nat) (c : Cell) (cs : List Cell) (flag : String → Bool),
      let t := runSteps flag ⟨w, 0, 0, width, c.w, if ne then 1 else 0⟩ [] longChain
      splitLong width ne w (c :: cs) =
        match t.exit with
        | some _ => let r := splitLong width ne t.w cs; (r.1, c :: r.2)
        | none => let r := splitLong width true t.w cs; (c :: r.1, r.2) :=
  ⟨parse_textLongBody, (rfl : richLongBody = textLongBody) ▸ parse_textLongBody, splitLong_eq_replay⟩

/-- Non-vacuity (F44): on a partly filled line (`w = 1`, width 2) a 2-column grapheme goes to rest. -/
example : longOutcome ⟨1, 0, 0, 2, 2, 1⟩ = ⟨2, [.restApp "E"], some .cont⟩ := by decide

/-- Widths are summed in Go `int` (F45): `w`, `wordLen`, `spaceLen` are declared `int`,
`width := int(s.width)`, `Character.Width` is an `int`, and no numeric conversion occurs in any sum
or guard — so the model's `Nat` sums (`sumW`, `w + wordLen`) cannot wrap; `s.width` itself is a
`uint16` (the model's `width : Nat` ranges over more).  Model: `def sumW`, `scanLoop … (w : Nat)`. -/
theorem facts_sums_int :
    textSumsInInt = true ∧ richSumsInInt = true ∧
    textAccTypes = [("w", "int"), ("wordLen", "int"), ("spaceLen", "int")] ∧
    textWidthDef = "int(R.width)" ∧
    characterFields = [("Grapheme", "string"), ("Width", "int")] ∧
    textSumStmts = ["wordLen+=E.Width", "spaceLen+=E.Width", "w=width", "w+=E.Width", "w+=wordLen", "w+=spaceLen"] ∧
    textConversions = [] ∧ richConversions = [] := by
  and_intros <;> rfl

/-- The uniseg state of text.go (`s.state`, an `int`; richtext has none) is assigned in exactly two
places: `s.state = state` right after `s.rest = rest` (step 3 of `textLoopFull`, after the long-word
branch and the does-not-fit return), and `s.state = -1` in the long-word branch (F116: after a
split `rest` does not start where the old state belongs).  Model (`scanLoop`, `ini` = -1):
`.line (sp.2 ++ trSpace ++ rest') ini …` (long word), `.line rest st token` (does not fit: the *old*
state, nothing consumed), `.line rest' r.2.2 …` (every other exit). -/
theorem facts_state_reset_on_split :
    textStateAssigns = [("long", "R.state=-1"), ("loop:3", "R.state=state")] ∧ richStateAssigns = [] ∧
    textLoopFull.take 4 = [
      (("", [("wordLen", ">", "width")]), ["LONG"]),
      (("", [("(w+wordLen)", ">", "width")]), ["return true"]),
      (("always", []), ["R.rest=rest"]),
      (("always", []), ["R.state=state"])] ∧
    textFields = [("state", "int"), ("rest", "[]byte"), ("token", "[]byte"), ("width", "uint16")] ∧
    richFields = [("rest", "[]vaxis.Cell"), ("token", "[]vaxis.Cell"), ("width", "uint16")] := by
  and_intros <;> rfl

/-- Removal of the hard break in the `br` step.  Model (`stripBreak`):
`match seg.getLast? with | some l => if l.term then seg.dropLast else seg | none => seg`.
richtext drops the last cell when it has a trailing line break; text.go drops the last rune of the
segment and the "\r" before a "\n" (F416) — i.e. the whole terminator cluster, as the
model does ("\r\n" is one grapheme cluster). -/
theorem facts_strip :
    richStrip = ["last:=seg[(len(seg)-1)]", "if uniseg.HasTrailingLineBreakInString(last.Grapheme) {",
      "seg=seg[:(len(seg)-1)]", "}"] ∧
    textStrip = ["if uniseg.HasTrailingLineBreak(seg) {", "r,l:=utf8.DecodeLastRune(seg)",
      "seg=seg[:(len(seg)-l)]", "if ((r=='\\n')&&bytes.HasSuffix(seg,[]byte(\"\\r\"))) {",
      "seg=seg[:(len(seg)-1)]", "}", "}"] := by
  and_intros <;> rfl

/-- richtext.firstLineSegment.  Model (`firstLineSegment`, `first` = `i == 0`, `c` = cell, `n` = next):
```
| _, [] => (0, false)                      -- final `return cells, false`
| _, [_] => (1, true)                      -- i == len(cells)-1 ⇒ return cells, true
| first, c :: n :: rest =>
  if first && c.term then (1, true)        -- i == 0 && HasTrailingLineBreakInString(cell) ⇒ cells[:i+1], true
  else if n.term then (2, true)            -- HasTrailingLineBreakInString(next) ⇒ cells[:i+2], true
  else if lb c.g n.g then (1, false)       -- len(rest) > 0 ⇒ cells[:i+1], false
  else (r.1 + 1, r.2)                      -- next iteration
``` -/
theorem facts_first_line_segment :
    flsPre = ["var rest string"] ∧ flsRange = "for K,E:=range cells" ∧
    flsBody = [
      (("", [("K", "==", "(len(cells)-1)")]), ["return cells,true"]),
      (("always", []), ["next:=cells[(K+1)]"]),
      (("&&", [("K", "==", "0"), ("uniseg.HasTrailingLineBreakInString(E.Grapheme)", "", "")]),
        ["return cells[:(K+1)],true"]),
      (("", [("uniseg.HasTrailingLineBreakInString(next.Grapheme)", "", "")]), ["return cells[:(K+2)],true"]),
      (("always", []), ["_,rest,_,_=uniseg.FirstLineSegmentInString((E.Grapheme+next.Grapheme),-1)"]),
      (("", [("len(rest)", ">", "0")]), ["return cells[:(K+1)],false"])] ∧
    flsPost = ["return cells,false"] := by
  and_intros <;> rfl

/-- HardwrapScanner.Scan.  Model (`hardScan`, `hardLoop`):
```
if cells.isEmpty then none else some (hardLoop [] cells)      -- len(h.cells) == 0 ⇒ false; h.line = []
| line, c :: cs => if c.nl then                               -- HasTrailingLineBreakInString(cell.Grapheme)
    if cs.isEmpty then (line, [])                             -- i == len(h.cells)-1 ⇒ break ⇒ h.cells = []; true
    else (line, cs)                                           -- h.cells = h.cells[i+1:]; return true
  else hardLoop (line ++ [c]) cs                              -- h.line = append(h.line, cell)
| line, [] => (line, [])                                      -- h.cells = []; return true
``` -/
theorem facts_hardwrap :
    hardEntry = ("", [("len(R.cells)", "==", "0")]) ∧ hardEntryActs = ["return false"] ∧
    hardPre = ["R.line=EMPTY"] ∧ hardRange = "for K,E:=range R.cells" ∧
    hardBody = [
      (("", [("uniseg.HasTrailingLineBreakInString(E.Grapheme)", "", "")]),
        ["if (K==(len(R.cells)-1)) {", "break", "}", "R.cells=R.cells[(K+1):]", "return true"]),
      (("always", []), ["R.line=append(R.line,E)"])] ∧
    hardPost = ["R.cells=EMPTY", "return true"] := by
  and_intros <;> rfl

/-- The row / column loops of `drawSoftwrap` (both packages).  Model:
```
drawRows: | row, l :: ls => if row ≥ maxH then [] else (row, drawRow maxW 0 l) :: drawRows maxW maxH (row + 1) ls
drawRow:  | col, c :: cs => if col ≥ maxW then [] else (col, c) :: drawRow maxW (col + c.w16) cs
```
(`var col uint16` = column 0 per row; `row >= ctx.Max.Height` ⇒ return (F216); `col >= ctx.Max.Width` ⇒ break;
`WriteCell(col,row,cell)`; `col += uint16(char.Width)` = `c.w16`; `row += 1`); the scanner is built
with `ctx.Max.Width`. -/
theorem facts_draw_rows :
    textDrawPre = ["size:=R.findContainerSize(CTX)", "s:=vxfw.NewSurface(size.Width,size.Height,R)",
      "s.Fill(R.Style)", "scanner:=NewSoftwrapScanner(R.Content,CTX.Max.Width)", "var row uint16"] ∧
    textDrawCond = "scanner.Scan(CTX)" ∧
    textDrawRows = [
      (("always", []), ["var col uint16"]),
      (("", [("row", ">=", "CTX.Max.Height")]), ["return s,nil"]),
      (("always", []), ["chars:=CTX.Characters(scanner.Text())"]),
      (("range", [("chars", "", "")]), ["COLS"]),
      (("always", []), ["row+=1"])] ∧
    textDrawCols = [
      (("", [("col", ">=", "CTX.Max.Width")]), ["break"]),
      (("always", []), ["cell:=vaxis.Cell{Character:E,Style:R.Style}"]),
      (("always", []), ["s.WriteCell(col,row,cell)"]),
      (("always", []), ["col+=uint16(E.Width)"])] ∧
    textDrawPost = ["return s,nil"] ∧
    richDrawPre = ["cells:=R.cells(CTX)", "size:=R.findContainerSize(cells,CTX)",
      "s:=vxfw.NewSurface(size.Width,size.Height,R)", "scanner:=NewSoftwrapScanner(cells,CTX.Max.Width)",
      "var row uint16"] ∧
    richDrawCond = "scanner.Scan()" ∧
    richDrawRows = [
      (("always", []), ["var col uint16"]),
      (("", [("row", ">=", "CTX.Max.Height")]), ["return s,nil"]),
      (("always", []), ["chars:=scanner.Text()"]),
      (("range", [("chars", "", "")]), ["COLS"]),
      (("always", []), ["row+=1"])] ∧
    richDrawCols = [
      (("", [("col", ">=", "CTX.Max.Width")]), ["break"]),
      (("always", []), ["s.WriteCell(col,row,E)"]),
      (("always", []), ["col+=uint16(E.Width)"])] ∧
    richDrawPost = ["return s,nil"] := by
  and_intros <;> rfl

/-- `findContainerSize`, soft-wrap branch (both packages).  Model (`containerSize`, `sum16`):
```
| (sw, sh), l :: ls =>
  if sh ≥ maxH then (sw, sh)                       -- size.Height >= ctx.Max.Height ⇒ return size
  else let w := sum16 l                            -- var w uint16; w += uint16(char.Width)
       let sw := if sw < w then w else sw          -- size.Width < w ⇒ size.Width = w
       let sw := if sw > maxW then maxW else sw    -- size.Width > ctx.Max.Width ⇒ size.Width = ctx.Max.Width
       containerSize maxW maxH (sw, sh + 1) ls     -- size.Height += 1
``` -/
theorem facts_container_size :
    textSizePre = ["scanner:=NewSoftwrapScanner(R.Content,CTX.Max.Width)"] ∧
    textSizeCond = "scanner.Scan(CTX)" ∧
    textSizeRows = [
      (("", [("size.Height", ">=", "CTX.Max.Height")]), ["return size"]),
      (("always", []), ["size.Height+=1"]),
      (("always", []), ["chars:=CTX.Characters(scanner.Text())"]),
      (("always", []), ["var w uint16"]),
      (("range", [("chars", "", "")]), ["w+=uint16(E.Width)"]),
      (("", [("size.Width", "<", "w")]), ["size.Width=w"]),
      (("", [("size.Width", ">", "CTX.Max.Width")]), ["size.Width=CTX.Max.Width"])] ∧
    textSizePost = ["return size"] ∧
    richSizePre = ["scanner:=NewSoftwrapScanner(cells,CTX.Max.Width)"] ∧
    richSizeCond = "scanner.Scan()" ∧
    richSizeRows = [
      (("", [("size.Height", ">=", "CTX.Max.Height")]), ["return size"]),
      (("always", []), ["size.Height+=1"]),
      (("always", []), ["chars:=scanner.Text()"]),
      (("always", []), ["var w uint16"]),
      (("range", [("chars", "", "")]), ["w+=uint16(E.Width)"]),
      (("", [("size.Width", "<", "w")]), ["size.Width=w"]),
      (("", [("size.Width", ">", "CTX.Max.Width")]), ["size.Width=CTX.Max.Width"])] ∧
    richSizePost = ["return size"] := by
  and_intros <;> rfl

/-- The column guard means what `drawRow` does: the extracted operator of `col ? ctx.Max.Width` (the
same in both packages), read as a `uint16` comparison, is the test of the model, for all inputs. -/
theorem facts_draw_cols_meaning :
    ∃ c, cmpAt textDrawCols 0 "col" "CTX.Max.Width" = some c ∧ cmpAt richDrawCols 0 "col" "CTX.Max.Width" = some c ∧
      ∀ (maxW col : UInt16) (x : Cell) (xs : List Cell),
        drawRow maxW col (x :: xs) = if c.eval16 col maxW then [] else (col, x) :: drawRow maxW (col + x.w16) xs :=
  ⟨.ge, by decide, by decide, fun maxW col x xs => by rw [drawRow]; simp [Cmp.eval16]⟩

/-- The row guard means what `drawRows` does (`row ? ctx.Max.Height`, `uint16`). -/
theorem facts_draw_rows_meaning :
    ∃ c, cmpAt textDrawRows 1 "row" "CTX.Max.Height" = some c ∧ cmpAt richDrawRows 1 "row" "CTX.Max.Height" = some c ∧
      ∀ (maxW maxH row : UInt16) (l : List Cell) (ls : List (List Cell)),
        drawRows maxW maxH row (l :: ls) =
          if c.eval16 row maxH then [] else (row, drawRow maxW 0 l) :: drawRows maxW maxH (row + 1) ls :=
  ⟨.ge, by decide, by decide, fun maxW maxH row l ls => by rw [drawRows]; simp [Cmp.eval16]⟩

/-- The three guards of the soft-wrap branch of `findContainerSize` mean what `containerSize` does:
the height guard and the two clamps, with the extracted operators, are the model's, for all inputs. -/
theorem facts_container_size_meaning :
    ∃ cH cLt cGt,
      cmpAt textSizeRows 0 "size.Height" "CTX.Max.Height" = some cH ∧ cmpAt richSizeRows 0 "size.Height" "CTX.Max.Height" = some cH ∧
      cmpAt textSizeRows 5 "size.Width" "w" = some cLt ∧ cmpAt richSizeRows 5 "size.Width" "w" = some cLt ∧
      cmpAt textSizeRows 6 "size.Width" "CTX.Max.Width" = some cGt ∧ cmpAt richSizeRows 6 "size.Width" "CTX.Max.Width" = some cGt ∧
      ∀ (maxW maxH sw sh : UInt16) (l : List Cell) (ls : List (List Cell)),
        containerSize maxW maxH (sw, sh) (l :: ls) =
          if cH.eval16 sh maxH then (sw, sh)
          else
            let w := sum16 l
            let sw := if cLt.eval16 sw w then w else sw
            let sw := if cGt.eval16 sw maxW then maxW else sw
            containerSize maxW maxH (sw, sh + 1) ls :=
  ⟨.ge, .lt, .gt, by decide, by decide, by decide, by decide, by decide, by decide,
    fun maxW maxH sw sh l ls => by rw [containerSize]; simp [Cmp.eval16]⟩

end VaxisModel.Props.C16Facts
