import VaxisModel.Model.WrapHeap
import VaxisModel.Lemmas.WrapHeap
import VaxisModel.Lemmas.Wrap

/-! C16, aliasing.  The value-level model of the scanners (`Model.Wrap`) is heap-free: a
text is a list, a line is a list, so "the scanner does not write into the caller's cells" and "a line
already returned is not changed by a later `Scan`" cannot even be stated there — a scanner that
compacts `s.rest` into the caller's slice returns the same values.  `Model.WrapHeap` transcribes
`richtext.SoftwrapScanner.Scan` over Go slices (backing array, offset, length, capacity; `append` in
place when the capacity allows) and these theorems say, for every text, width, segmentation function,
growth policy of `append` and heap: every write of a `Scan` goes to an array allocated during that
`Scan`, and the heap-level scanners return the values of the value-level model.  The harness checks the
same on the real scanners (`alias:` results, `FAIL aliasing`), and the driver runs `WrapHeap.runH` next
to the value-level model on every small `R` case (equal lines). -/
namespace VaxisModel.Props.C16Heap
open VaxisModel.Model.Wrap VaxisModel.Model.WrapHeap VaxisModel.Lemmas.WrapHeap

/-- **One `Scan` writes only into arrays it allocates**: the heap only grows, every array that existed
before the call — the caller's cells with whatever capacity lies behind them, the arrays of the lines
returned earlier, anything else — is unchanged, and the token it returns lives in the heap. -/
theorem scan_writes_only_fresh_arrays (grow : Nat → Nat → Nat) (o : List Cell → Nat × Bool) (width : Nat)
    (h : Heap) (st : St) (h' : Heap) (st' : St) (hne : 0 < h.length)
    (e : scanH grow o width h st = .line h' st') :
    h.length ≤ h'.length ∧ (∀ i, i < h.length → arrOf h' i = arrOf h i) ∧ st'.token.arr < h'.length := by
  obtain ⟨f, g⟩ := scanH_frame grow o width h st h' st' hne e
  exact ⟨f.le, f.keeps, g⟩

/-- Hence every slice into an older array denotes after the `Scan` what it denoted before. -/
theorem scan_keeps_older_slices (grow : Nat → Nat → Nat) (o : List Cell → Nat × Bool) (width : Nat)
    (h : Heap) (st : St) (h' : Heap) (st' : St) (hne : 0 < h.length)
    (e : scanH grow o width h st = .line h' st') (s : Slice) (hs : s.arr < h.length) :
    read h' s = read h s :=
  read_frame ((scanH_frame grow o width h st h' st' hne e).1.keeps _ hs)

/-- **The whole iteration** `for scanner.Scan() { lines = append(lines, scanner.Text()) }` with a caller
that keeps the returned slices without copying: at the end every line still denotes the cells it
denoted when it was returned, and the arrays that existed at the start are unchanged. -/
theorem returned_lines_stay_valid (grow : Nat → Nat → Nat) (o : List Cell → Nat × Bool) (width fuel : Nat)
    (h : Heap) (st : St) (hf : Heap) (ls : List (Slice × List Cell)) (hne : 0 < h.length)
    (e : linesH grow o width fuel h st [] = some (hf, ls)) :
    (∀ i, i < h.length → arrOf hf i = arrOf h i) ∧ ∀ p ∈ ls, read hf p.1 = p.2 := by
  obtain ⟨f, hl⟩ := linesH_stable grow o width fuel h st [] hf ls hne (by intro p hp; cases hp) e
  exact ⟨f.keeps, hl⟩

/-- **The caller's cells are untouched**, and so is the spare capacity behind them (where an `append`
into the caller's slice would land): after the whole iteration array 0 is `cells ++ spare`. -/
theorem caller_cells_untouched (grow : Nat → Nat → Nat) (o : List Cell → Nat × Bool) (width : Nat)
    (cells spare : List Cell) (ls : List (List Cell)) (arr0 : List Cell)
    (e : runH grow o width cells spare = some (ls, arr0)) : arr0 = cells ++ spare := by
  unfold runH at e
  split at e
  · cases e
  · rename_i hf l hl
    simp only [Option.some.injEq, Prod.mk.injEq] at e
    obtain ⟨f, _⟩ := linesH_stable grow o width _ _ _ [] hf l (by simp [callerHeap]) (by intro p hp; cases hp) hl
    rw [← e.2, f.keeps 0 (by simp [callerHeap])]
    rfl

/-- **`HardwrapScanner.Scan` writes only into the array of its own fresh line**: every array that existed
before the call (the caller's cells, the lines returned earlier) is unchanged, for every text, heap and
growth policy; the scanner's `cells` afterwards is a sub-slice of the old one or empty. -/
theorem hard_scan_writes_only_fresh_arrays (grow : Nat → Nat → Nat) (h : Heap) (st : HSt) (h' : Heap) (st' : HSt)
    (hne : 0 < h.length) (e : hardScanH grow h st = some (h', st')) :
    h.length ≤ h'.length ∧ (∀ i, i < h.length → arrOf h' i = arrOf h i) ∧ st'.line.arr < h'.length := by
  unfold hardScanH at e
  split at e
  · cases e
  · simp only [Option.some.injEq] at e
    obtain ⟨f, g⟩ := (hardLoopH_refines grow st.cells h.length 0 st.cells.len h emptySlice (Nat.le_refl _) (good_empty _ h hne)).1
    rw [e] at f g
    exact ⟨f.le, f.keeps, g.arr_lt⟩

/-- **The heap-level `HardwrapScanner.Scan` refines the value-level model** (`Model.Wrap.hardScan`, the one
`hardwrap_is_split_at_newline` is about): on every heap, for every well-formed `cells` slice and every growth
policy it returns false exactly when the model does, and otherwise the slices it leaves in `line` and `cells`
denote the model's line and remaining cells.  With `hard_scan_writes_only_fresh_arrays`: same values *and* no
write outside the fresh line. -/
theorem hard_scan_refines (grow : Nat → Nat → Nat) (h : Heap) (st : HSt)
    (hc : st.cells.arr < h.length) (wc : WFS h st.cells) :
    (hardScanH grow h st).map (fun r => (read r.1 r.2.line, read r.1 r.2.cells)) = hardScan (read h st.cells) := by
  unfold hardScanH hardScan
  rw [isEmpty_iff_len wc]
  by_cases h0 : (st.cells.len == 0) = true
  · simp [h0]
  · simp only [h0, Bool.false_eq_true, ↓reduceIte, Option.map_some]
    have hpos : 0 < h.length := Nat.lt_of_le_of_lt (Nat.zero_le _) hc
    obtain ⟨r1, r2⟩ := (hardLoopH_refines grow st.cells h.length 0 st.cells.len h emptySlice (Nat.le_refl _)
      (good_empty _ h hpos)).2 h ⟨hc, wc⟩ (Nat.zero_add _) (Keeps.refl _ _) (wfs_empty h)
    rw [read_empty, List.drop_zero] at r1 r2
    rw [r1, r2]

/-- **The long-word loop of `SoftwrapScanner.Scan` on the heap computes `Model.Wrap.splitLong`** — the branch
that rebuilds `s.rest` and the one a compacting rewrite would touch.  `word` lies in an array older than the
`Scan` (`n0` arrays, unchanged since `h0`); `rest` and `token` are the two slices being appended to, each full or
fresh (`Good`), inside their arrays (`WFS`) and not sharing an array unless one has no capacity (`Sep`).  Then
after the loop `s.rest` denotes what it denoted followed by the graphemes `splitLong` sends to the rest, and
`s.token` what it denoted followed by the graphemes `splitLong` keeps on the line — for every width, `w`,
start index, heap and growth policy. -/
theorem long_word_loop_refines (grow : Nat → Nat → Nat) (width : Nat) (word : Slice) (h0 : Heap) (n0 : Nat)
    (hw : word.arr < n0) (ww : WFS h0 word) (h : Heap) (rest token : Slice) (w : Nat)
    (hn : n0 ≤ h.length) (hfr : ∀ j, j < n0 → arrOf h j = arrOf h0 j)
    (gr : Good n0 h rest) (gt : Good n0 h token) (wr : WFS h rest) (wt : WFS h token) (sep : Sep rest token) :
    read (splitLongH grow width word 0 word.len h rest token w).1 (splitLongH grow width word 0 word.len h rest token w).2.1 =
      read h rest ++ (splitLong width (decide (token.len > 0)) w (read h0 word)).2 ∧
    read (splitLongH grow width word 0 word.len h rest token w).1 (splitLongH grow width word 0 word.len h rest token w).2.2 =
      read h token ++ (splitLong width (decide (token.len > 0)) w (read h0 word)).1 := by
  have D : Den h rest token _ _ := ⟨wr, wt, sep, rfl, rfl⟩
  have Q := (splitLongH_refines grow width word n0 0 word.len h rest token w hn gr gt).2 h0 _ _ ⟨hw, ww⟩ (Nat.zero_add _) hfr D
  rw [List.drop_zero, ← D.ne] at Q
  exact ⟨Q.rr, Q.rt⟩

/-- **The loop of `richtext.SoftwrapScanner.Scan` on the heap refines the value-level model
`Model.Wrap.scanLoop`** (the model of conservation, width, hard-break and needless-split theorems): from any
heap whose first `n0` arrays are those of `h0`, with `s.rest` a well-formed slice of one of those arrays and
`s.token` full or fresh, for every fuel, `w`, width, segmentation function and growth policy, the heap-level loop
runs out of fuel exactly when the model does, and otherwise the slices it leaves in `s.rest` / `s.token` denote the
model's remaining cells and line.  All four exits (long word, does not fit, hard break, trailing space does not
fit) and the iteration are covered.  With `scan_writes_only_fresh_arrays`: same values, and no write outside the
arrays the `Scan` allocates — a rewrite that compacts into the caller's slice cannot satisfy both. -/
theorem scan_loop_refines (grow : Nat → Nat → Nat) (o : List Cell → Nat × Bool) (width : Nat) (h0 : Heap) (n0 : Nat)
    (hn0 : 0 < n0) (fuel : Nat) (h : Heap) (st : St) (w : Nat) (hn : n0 ≤ h.length)
    (hfr : ∀ j, j < n0 → arrOf h j = arrOf h0 j) (hra : st.rest.arr < n0) (wr : WFS h0 st.rest)
    (gt : Good n0 h st.token) (wt : WFS h st.token) :
    ScanRel (scanLoopH grow o width fuel h st w)
      (scanLoop (oracleOf o) () width fuel (read h0 st.rest) () (read h st.token) w) :=
  (scanLoopH_refines grow o width n0 fuel h st w hn gt).2 h0 hn0 hfr ⟨hra, wr⟩ wt

/-- `Scan()` itself (entry test, `s.token = []vaxis.Cell{}`, the loop) refines `Model.Wrap.scan`: returns false,
hangs or returns a line exactly when the model does, with `s.rest` / `s.token` denoting the model's lists. -/
theorem scan_refines (grow : Nat → Nat → Nat) (o : List Cell → Nat × Bool) (width : Nat) (h : Heap) (st : St)
    (hra : st.rest.arr < h.length) (wr : WFS h st.rest) :
    ScanRelS (scanH grow o width h st) (scan (oracleOf o) () width (read h st.rest) ()) :=
  scanH_refines grow o width h st hra wr

/-- **`richtext.SoftwrapScanner` on the heap, end to end**: for every text, every spare capacity behind the
caller's slice, every width, every pairwise break function and every growth policy of `append`, the iteration
`for scanner.Scan() { lines = append(lines, scanner.Text()) }` — with a caller that keeps the returned slices
*without copying* and reads them after the last `Scan` — yields **exactly the lines of the value-level model**
`Model.Wrap.richLines` (the model of all the C16 theorems), and leaves the caller's array, spare capacity
included, as it was.  The heap-free semantics of `Model.Wrap` is therefore sound for the code: no aliasing
effect can make the real scanner's lines differ from it. -/
theorem rich_scanner_on_the_heap (grow : Nat → Nat → Nat) (lb : Nat → Nat → Bool) (width : Nat)
    (cells spare : List Cell) :
    ∃ ls, richLines lb width cells = .ok ls ∧ runH grow (richSeg lb) width cells spare = some (ls, cells ++ spare) := by
  have he : oracleOf (richSeg lb) = richOracle lb := by
    funext u l
    cases u
    rfl
  have R := runH_refines grow (richSeg lb) width cells spare
  rw [he] at R
  obtain ⟨ls, hl, _⟩ := VaxisModel.Lemmas.Wrap.lines_ok (richOracle lb) () width (VaxisModel.Lemmas.Wrap.richOracle_ok lb) cells ()
  refine ⟨ls, hl, ?_⟩
  rw [hl] at R
  cases hr : runH grow (richSeg lb) width cells spare with
  | none => rw [hr] at R; simp at R
  | some res =>
    rw [hr] at R
    obtain ⟨a, b⟩ := res
    simp only [] at R
    rw [R.1, R.2]

/-- Non-vacuity: "a\nb" — the first `Scan` returns the line "a" in a new array, leaves `cells = "b"` as a
sub-slice of the caller's array, and the caller's array is what it was. -/
example :
    let a : Cell := { g := 0, w := 1, style := 1, sp := false, term := false, nl := false }
    let n : Cell := { g := 1, w := 0, style := 0, sp := true, term := true, nl := true }
    let b : Cell := { g := 2, w := 1, style := 2, sp := false, term := false, nl := false }
    (match hardScanH (fun c _ => 2 * c) [[a, n, b]] ⟨⟨0, 0, 3, 3⟩, emptySlice⟩ with
     | some (h', st') => read h' st'.line == [a] && read h' st'.cells == [b] && st'.cells.arr == 0 &&
         st'.line.arr == 1 && arrOf h' 0 == [a, n, b]
     | none => false) = true := by decide

/-- What the frame theorems exclude, on the model: the rewrite `s.rest = s.rest[:0]` in the long-word
branch (compacting into the caller's slice instead of `[]vaxis.Cell{}`).  The long-word loop started with that
slice on "abcd" at width 3 returns the same values — token "abc", rest "d" — but has overwritten the caller's
first cell: array 0 is "dbcd".  (`Good` fails for `cells[:0]`: it is neither full nor fresh.) -/
example :
    let mk : Nat → Cell := fun g => { g := g, w := 1, style := 0, sp := false, term := false, nl := false }
    let txt := [mk 0, mk 1, mk 2, mk 3]
    let r := splitLongH (fun c _ => 2 * c) 3 (callerSlice txt []) 0 4 (callerHeap txt []) (sub (callerSlice txt []) 0 0) emptySlice 0
    read r.1 r.2.2 = [mk 0, mk 1, mk 2] ∧ read r.1 r.2.1 = [mk 3] ∧ arrOf r.1 0 = [mk 3, mk 1, mk 2, mk 3] ∧
    ¬ Good 1 (callerHeap txt []) (sub (callerSlice txt []) 0 0) := by
  refine ⟨by decide, by decide, by decide, ?_⟩
  intro g
  rcases g.1 with h | h
  · revert h; decide
  · revert h; decide

/-- Non-vacuity: "aa aaaaa a" at width 3 (a long word is split, `s.rest` is rebuilt) gives the lines of
the value-level model and leaves the caller's array as it was; and what the theorems exclude does
happen for a slice that is *not* fresh — `append(cells[:0], x)` overwrites the caller's first cell. -/
example :
    let a : Cell := { g := 0, w := 1, style := 1, sp := false, term := false, nl := false }
    let s : Cell := { g := 1, w := 1, style := 0, sp := true, term := false, nl := false }
    let z : Cell := { g := 9, w := 7, style := 0, sp := false, term := false, nl := false }
    let o : List Cell → Nat × Bool := fun l => ((richOracle (fun x _ => x == 1) () l).1, (richOracle (fun x _ => x == 1) () l).2.1)
    let txt := [a, a, s, a, a, a, a, a, s, a]
    runH (fun c _ => 2 * c) o 3 txt [z, z] = some ([[a, a, s], [a, a, a], [a, a, s], [a]], txt ++ [z, z]) ∧
    richLines (fun x _ => x == 1) 3 txt = .ok [[a, a, s], [a, a, a], [a, a, s], [a]] ∧
    (append (fun c _ => 2 * c) (callerHeap txt [z, z]) (sub (callerSlice txt [z, z]) 0 0) [z]).1 = [z :: txt.drop 1 ++ [z, z]] := by
  decide

end VaxisModel.Props.C16Heap
