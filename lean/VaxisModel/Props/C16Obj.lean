/-
C16: the PLAIN scanner as an object — is the state `text.SoftwrapScanner` keeps across `Scan` calls exactly
what the value-level model (`Model.Wrap.scanLoop`, which threads `rest`/`st` as loop variables) carries?  Yes: the
object model (`Model/WrapObj.lean`: fields stored where text.go stores them) IS the value-level scanner, and at every
`Scan` boundary the pair (rest, state) is the segmenter's own — `k` oracle calls after a point at which the state was
the unknown value −1 (`chain`, which has no width and no notion of Scan calls in it).  `Witness.C16StateEarly`: with the
store moved before the early return the pair leaves the chain and the lines change.
-/
import VaxisModel.Lemmas.WrapObj

namespace VaxisModel.Props.C16Obj
open VaxisModel.Model.Wrap VaxisModel.Model.WrapObj VaxisModel.Lemmas.WrapObj

/-- The source stores `s.state = state` together with `s.rest = rest`, not right after the segmentation call. -/
theorem facts_state_stored_with_rest : stateEarly = false := by decide

/-- One `Scan` of the object = one `scan` of the value-level model: same verdict, and the fields left behind
(rest, state, token) are the values the model returns. -/
theorem plain_scan_object_refines {σ : Type} (o : σ → List Cell → Nat × Bool × σ) (ini : σ) (width : Nat) (s : Obj σ) :
    Res.toScan (scanObj false o ini width s) = scan o ini width s.rest s.state :=
  scanObj_refines o ini width s

/-- The whole iteration `for scanner.Scan() { … scanner.Text() … }` on the object
yields exactly the lines of the value-level model (`Model.Wrap.lines` — what every theorem of `Props/C16*.lean` about the
plain scanner is about), or hangs when it hangs. -/
theorem plain_scanner_object_refines {σ : Type} (o : σ → List Cell → Nat × Bool × σ) (ini : σ) (width : Nat)
    (cells : List Cell) :
    (runObj false o ini width (cells.length + 1) (newObj ini cells)).map (·.1)
      = Lines.toOption (plainLines o width cells ini) :=
  runObj_refines o ini width _ _

/-- … and the scanner of the current source is that object. -/
theorem src_scanner_is_value_model {σ : Type} (o : σ → List Cell → Nat × Bool × σ) (ini : σ) (width : Nat)
    (cells : List Cell) :
    (srcLines o ini width cells).map (·.1) = Lines.toOption (plainLines o width cells ini) := by
  unfold srcLines; rw [facts_state_stored_with_rest]; exact runObj_refines o ini width _ _

/-- Every object the scanner passes through (after `NewSoftwrapScanner`
and after each `Scan` that returned true) holds a pair (rest, state) that lies on the segmenter's own path:
`∃ base k, (rest, state) = chain o k base ini` — the state is what `k` successive oracle calls produce from the unknown
state at `base`, over the text between `base` and `rest`.  It does not depend on the width or on which `Scan` call
deferred a segment.  For every oracle. -/
theorem scan_state_is_function_of_consumed_text {σ : Type} (o : σ → List Cell → Nat × Bool × σ) (ini : σ) (width : Nat)
    (text : List Cell) (s : Obj σ) (h : Reach o ini width text s) :
    ∃ base k, (s.rest, s.state) = chain o k base ini :=
  reach_own o ini width text s h

/-- A segment that does not fit on the partly filled line is deferred: `Scan` returns with `rest` and `state` exactly as
the last accepted segment left them (first iteration: as they were on entry). -/
theorem deferred_segment_leaves_fields {σ : Type} (o : σ → List Cell → Nat × Bool × σ) (ini : σ) (width fuel : Nat)
    (s : Obj σ) (w : Nat)
    (hfit : ¬ sumW (trimRight (s.rest.take (o s.state s.rest).1)) > width)
    (hdefer : w + sumW (trimRight (s.rest.take (o s.state s.rest).1)) > width) :
    scanObjLoop false o ini width (fuel + 1) s w = .line s := by
  simp only [scanObjLoop, Bool.false_eq_true, if_false, hfit, hdefer, if_true]

/-- Two scanners over the same text with DIFFERENT widths — so with different lines and
different `Scan` calls deferring different segments — neither of which meets a word longer than its line (`WordsFit`: the
long-word branch, the one place that resets the state to −1, is not taken): whenever they have the same non-empty text left,
they hold the same state.  The state stored across `Scan` calls is a function of the text consumed, for every segmenter with
non-empty segments (`OracleOK`). -/
theorem scan_state_independent_of_width {σ : Type} (o : σ → List Cell → Nat × Bool × σ) (hok : VaxisModel.Lemmas.Wrap.OracleOK o)
    (ini : σ) (text : List Cell) (w1 w2 : Nat) (hf1 : WordsFit o w1) (hf2 : WordsFit o w2)
    (s1 s2 : Obj σ) (h1 : Reach o ini w1 text s1) (h2 : Reach o ini w2 text s2)
    (hr : s1.rest = s2.rest) (hne : s1.rest ≠ []) : s1.state = s2.state := by
  have a1 := reach_ownFrom o ini w1 text hf1 s1 h1
  have a2 := reach_ownFrom o ini w2 text hf2 s2 h2
  rw [← hr] at a2
  exact chain_state_unique o hok ini text s1.rest s1.state s2.state a1 a2 hne

/-- One `Scan` keeps the scanner on the segmenter's path from the start of the text, or resets the state to −1 (the long-word
branch) — nothing else can happen to the pair. -/
theorem scan_keeps_path_or_resets {σ : Type} (o : σ → List Cell → Nat × Bool × σ) (ini : σ) (width : Nat) (text : List Cell)
    (fuel : Nat) (s s' : Obj σ) (w : Nat) (h : OwnFrom o ini text s.rest s.state)
    (hs : scanObjLoop false o ini width fuel s w = .line s') :
    OwnFrom o ini text s'.rest s'.state ∨ s'.state = ini :=
  (scanObjLoop_path OwnFrom.step h hs).imp_right (·.1)

end VaxisModel.Props.C16Obj
