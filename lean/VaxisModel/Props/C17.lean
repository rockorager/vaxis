import VaxisModel.Model.TextField
import VaxisModel.Model.TextInput
import VaxisModel.Spec.Editor
import VaxisModel.Lemmas.Editor
import VaxisModel.Lemmas.TextInput
import VaxisModel.Lemmas.TextInputCells
import VaxisModel.Lemmas.EditorCl
import VaxisModel.Lemmas.TextInputCl

/-! C17 — line editors behave like an ideal grapheme line editor.

`Spec.Editor` is the ideal editor (`text : List G`, `cursor ≤ text.length`).  The widget models are
`Model.TextField` and `Model.TextInput`; `abs` maps a widget state to the ideal state, `specOf` /
`meaningOf` give the ideal operation each API call / key binding stands for. -/
namespace VaxisModel.Props.C17
open VaxisModel.Model VaxisModel.Spec.Editor VaxisModel.Lemmas.Editor VaxisModel.Lemmas.TextInput

/-- `textfield_refines` (one step): from a state meeting the invariant (`n` = grapheme count,
cursor within the text) every operation of the exported API — every key event through
`HandleEvent`, `InsertStringAtCursor`, `CursorTo`, the three delete functions, `Reset` — keeps the
invariant and is exactly the ideal operation on the abstract state. -/
theorem textfield_step_refines {G : Type} [DecidableEq G] (isWord : G → Bool)
    (tf : TextField.TF G) (op : TFOp G) (h : Inv tf) :
    Inv (tfStep tf op).1 ∧ abs (tfStep tf op).1 = apply isWord (abs tf) (specOf op) :=
  tfStep_refines isWord tf op h

/-- `textfield_refines`: for all histories from any starting content, the widget holds the text and
cursor of the ideal editor run on the corresponding ideal operations, and the cursor is within the
text. -/
theorem textfield_refines {G : Type} [DecidableEq G] (isWord : G → Bool)
    (start : List G) (ops : List (TFOp G)) :
    let tf0 := TextField.insertString TextField.new start
    let tf := tfRun tf0 ops
    abs tf = run isWord ⟨start, start.length⟩ (ops.map specOf) ∧ tf.cursor ≤ tf.value.length ∧
      tf.n = tf.value.length := by
  intro tf0 tf
  have h0 : Lemmas.Editor.Inv (TextField.new : TextField.TF G) := ⟨rfl, Nat.le_refl _⟩
  have h1 := insert_refines isWord TextField.new start h0
  have h2 := tfRun_refines isWord ops tf0 h1.1
  refine ⟨?_, h2.1.2, h2.1.1⟩
  rw [h2.2, h1.2]
  simp [abs, TextField.new, apply]

/-- `callbacks_exact` (TextField): for every key event, OnSubmit fires iff the event means Enter
(with the line), and OnChange fires iff the value changed (with the new value) — exactly the ideal
editor's callback log. -/
theorem textfield_callbacks_exact {G : Type} [DecidableEq G] (isWord : G → Bool)
    (tf : TextField.TF G) (ev : TextField.KeyEv G) (h : Inv tf) :
    (TextField.handleKey tf ev).2.map absCall = callbacks isWord (abs tf) (meaningOf ev) :=
  (handleKey_refines isWord tf ev h).2.2

/-- A key event that matches nothing; the examples set the one field they mean. -/
def noKey {G : Type} : TextField.KeyEv G := ⟨false, [], false, false, false, false, false, false, false, false⟩

/-- Non-vacuity / the F46 scenario on the fixed code: "ab", BackSpace, Ctrl+e, "x", Ctrl+b, "y"
gives "ayx". -/
example :
    let bs : TextField.KeyEv Nat := { noKey with delLeft := true }
    let ce : TextField.KeyEv Nat := { noKey with toEnd := true }
    let cb : TextField.KeyEv Nat := { noKey with left := true }
    let ty (g : Nat) : TextField.KeyEv Nat := { (noKey : TextField.KeyEv Nat) with text := [g] }
    (tfRun (TextField.insertString TextField.new [0, 1])
      [.key bs, .key ce, .key (ty 7), .key cb, .key (ty 8)]).value = [0, 8, 7] := by decide

/-- `cursor_column` (TextField): `Draw` puts the cursor in the column equal to the display width of the
graphemes before the cursor — the display width of a grapheme being the total width of the
characters it is drawn as (`chars`: one character, except a tab, which `vaxis.Characters` draws as 8
blanks; true of tabs since the F417 fix) —, computed in `uint16` like every vxfw column. -/
theorem textfield_cursor_column {G : Type} (chars : G → List Nat) (tf : TextField.TF G) :
    TextField.drawCursorCol chars tf = UInt16.ofNat (widthSum (cellWidth chars) (tf.value.take tf.cursor)) :=
  drawCursorCol_eq chars tf

/-- `cursor_column` (TextField) in natural numbers: while the text before the cursor is narrower
than 65536 columns (in particular while the text fits any widget) the drawn cursor column *is* the
display width of the ideal editor's text before its cursor. -/
theorem textfield_cursor_column_nat {G : Type} (chars : G → List Nat) (tf : TextField.TF G)
    (hfit : widthSum (cellWidth chars) ((abs tf).text.take (abs tf).cursor) < 65536) :
    (TextField.drawCursorCol chars tf).toNat = widthSum (cellWidth chars) ((abs tf).text.take (abs tf).cursor) := by
  rw [drawCursorCol_eq]
  exact UInt16.toNat_ofNat_of_lt' hfit

/-- Non-vacuity / the F417 scenario on the fixed code: "a", tab, "b" with the cursor behind the tab
(grapheme index 2) is drawn with the cursor in column 9 (the tab is 8 blanks). -/
example :
    (TextField.drawCursorCol (fun g : Nat => if g = 9 then [1, 1, 1, 1, 1, 1, 1, 1] else [1]) ⟨[0, 9, 1], 2, 3⟩).toNat = 9 := by
  decide

/-- `textinput_refines` (one step): from a state with the cursor within the content and a
non-negative scroll offset, every call of the textinput API (`Update` with any event, `SetContent`,
`Draw` into a window of any width with any prompt) returns — no index panic, no hang —, keeps the
invariant and is exactly the ideal operation on `(content, cursor)`. -/
theorem textinput_step_refines {G : Type} (isAlnum : G → Bool) (width : G → Int)
    (m : TextInput.TI G) (op : TIOp G) (h : TIInv m) :
    ∃ m', tiStep isAlnum width m op = some m' ∧ TIInv m' ∧
      tiAbs m' = apply isAlnum (tiAbs m) (tiOpSpec m op) :=
  tiStep_refines isAlnum width m op h

/-- `textinput_refines`: for all histories from any starting content the model never panics or
hangs and holds the text and cursor of the ideal editor run on the corresponding ideal operations;
the cursor stays within the text. -/
theorem textinput_refines {G : Type} (isAlnum : G → Bool) (width : G → Int)
    (start : List G) (ops : List (TIOp G)) :
    ∃ mf sops, tiRun isAlnum width (TextInput.setContent TextInput.new start) ops = some (mf, sops) ∧
      tiAbs mf = run isAlnum ⟨start, start.length⟩ sops ∧
      0 ≤ mf.cursor ∧ mf.cursor ≤ mf.content.length := by
  have h0 : TIInv (TextInput.setContent (TextInput.new : TextInput.TI G) start) :=
    ⟨by simp [TextInput.setContent], by simp [TextInput.setContent], by simp [TextInput.setContent, TextInput.new]⟩
  obtain ⟨mf, sops, hr, hinv, habs⟩ := tiRun_refines isAlnum width ops _ h0
  refine ⟨mf, sops, hr, ?_, hinv.1, hinv.2.1⟩
  rw [habs]
  simp [tiAbs, TextInput.setContent, TextInput.new]

/-- `draw_terminates`: the scroll loop of `textinput.Draw` terminates for every window width (since
the F47 fix), whenever the offset is non-negative and the cursor is within the content. -/
theorem draw_terminates {G : Type} (width : G → Int) (m : TextInput.TI G) (prompt : List G) (winW : Int)
    (hoff : 0 ≤ m.offset) (hcur : m.cursor ≤ m.content.length) :
    (match TextInput.draw width m prompt winW with | .hang => false | _ => true) = true :=
  draw_not_hang width m prompt winW hoff hcur

/-- `cursor_column` (textinput): while prompt + text + scrolloff fit in the window — whatever the
scroll offset left behind by earlier draws (F117 fix) — `Draw` resets the offset to 0 and shows the
cursor in column prompt width + display width of the ideal editor's text before its cursor.
(`col` is the column after the prompt.) -/
theorem textinput_cursor_column {G : Type} (width : G → Int) (hw : ∀ g, 0 ≤ width g)
    (m : TextInput.TI G) (prompt : List G) (winW col : Int) (hinv : TIInv m)
    (hp : TextInput.promptLoop width winW prompt 0 = some col) (hcol : 0 ≤ col)
    (hfit : col + widthSumI width m.content + 4 < winW) :
    TextInput.draw width m prompt winW =
      .shown { m with offset := 0 } (col + widthSumI width ((tiAbs m).text.take (tiAbs m).cursor)) :=
  draw_cursor_fit width hw m prompt winW col hinv hp hcol hfit

/-- Non-vacuity of `textinput_cursor_column`: "世a" with the cursor at the end in a 12-column window
with a 2-column prompt shows the cursor in column 5. -/
example :
    (match TextInput.draw (fun g : Nat => if g = 3 then 2 else 1) (TextInput.setContent TextInput.new [3, 0]) [0, 0] 12 with
     | .shown _ c => c | _ => -1) = 5 := by decide

/-- `drawn cells` (textinput): while prompt + text + scrolloff fit in the window — whatever the scroll
offset left behind — the `SetCell` calls of `Draw` (after the `Fill` that blanks the window) are
exactly: the prompt's characters from column 0, then the ideal editor's text (in password mode the
mask instead of each grapheme), every one at the column equal to the display width of what is before
it (`placed`, `textinput_cells_columns`); no truncator, nothing else. -/
theorem textinput_cells_fit {G : Type} (width : G → Int) (hw : ∀ g, 0 ≤ width g) (masked : Bool)
    (m : TextInput.TI G) (prompt : List G) (winW col : Int) (hinv : TIInv m)
    (hp : TextInput.promptLoop width winW prompt 0 = some col) (hcol : 0 ≤ col)
    (hfit : col + widthSumI width m.content + 4 < winW) :
    TextInput.drawCells width masked m prompt winW =
      some (TextInput.placed width .g prompt 0 ++
            TextInput.placed width (if masked then fun _ => .mask else .g) (tiAbs m).text col) ∧
    col = widthSumI width prompt := by
  refine ⟨drawCells_fit width hw masked m prompt winW col hinv hp hcol hfit, ?_⟩
  have := promptLoop_col width winW prompt 0 col hp
  omega

/-- Whatever the window width (also when the line does not fit): after `Draw` the scroll offset is
between 0 and the cursor — the view is never scrolled past the cursor (the F47 loop guard and the
"scroll toward beginning" adjustment), so the grapheme behind the cursor is never left of the view. -/
theorem textinput_draw_offset_bounds {G : Type} (width : G → Int) (m : TextInput.TI G) (prompt : List G) (winW : Int)
    (h : TIInv m) (m' : TextInput.TI G) (c : Int) (hd : TextInput.draw width m prompt winW = .shown m' c) :
    0 ≤ m'.offset ∧ m'.offset ≤ m.cursor ∧ tiAbs m' = tiAbs m :=
  ⟨(draw_offset_le_cursor width m prompt winW h m' c hd).1, (draw_offset_le_cursor width m prompt winW h m' c hd).2,
   (draw_keeps width m prompt winW h m' c (Or.inl hd)).2⟩

/-- Non-vacuity: 8 one-column graphemes, cursor at the end, 8 columns: offset 4. -/
example :
    (match TextInput.draw (fun _ : Nat => 1) (TextInput.setContent TextInput.new [0, 1, 2, 3, 4, 5, 6, 7]) [] 8 with
     | .shown m' _ => m'.offset | _ => -1) = 4 := by decide

/-- For every window width, scroll state and prompt (also when the line does not fit, also when the
prompt fills the window): every cell `Draw` writes lies inside its window, columns `0 … winW - 1`. -/
theorem textinput_cells_in_window {G : Type} (width : G → Int) (hw : ∀ g, 0 ≤ width g) (masked : Bool)
    (m : TextInput.TI G) (prompt : List G) (winW : Int) (hpos : 0 < winW) (cells : List (Int × TextInput.Glyph G))
    (hd : TextInput.drawCells width masked m prompt winW = some cells) :
    ∀ x ∈ cells, 0 ≤ x.1 ∧ x.1 < winW :=
  drawCells_in_window width hw masked m prompt winW hpos cells hd

/-- The `k`-th cell of a laid-out list sits at the start column plus the display width of the `k`
graphemes before it. -/
theorem textinput_cells_columns {G : Type} (width : G → Int) (f : G → TextInput.Glyph G) (l : List G) (c : Int) (k : Nat) :
    (TextInput.placed width f l c)[k]? = (l[k]?).map (fun g => (c + widthSumI width (l.take k), f g)) :=
  placed_getElem? width f l c k

/-- With graphemes of positive width the columns of a layout strictly increase: none of the cells of
`textinput_cells_fit` is written over another one, each grapheme stays visible (a zero-width
grapheme shares its column with the next one and is overwritten — in the model as in the widget). -/
theorem textinput_cells_no_overwrite {G : Type} (width : G → Int) (hw : ∀ g, 0 < width g)
    (f : G → TextInput.Glyph G) (l : List G) (c : Int) :
    ((TextInput.placed width f l c).map (·.1)).Pairwise (· < ·) :=
  placed_cols_increasing width hw f l c

/-- Non-vacuity of `textinput_cells_fit`: prompt "aa", text "世a" in 12 columns: a a 世 · a. -/
example :
    TextInput.drawCells (fun g : Nat => if g = 3 then 2 else 1) false (TextInput.setContent TextInput.new [3, 0]) [0, 0] 12 =
      some [(0, .g 0), (1, .g 0), (2, .g 3), (4, .g 0)] := by decide

/-! ### Texts whose graphemes can merge (combining marks, joiners, variation selectors, flags, jamo)

The theorems above treat a text as a list of graphemes that never merge (`Model.TextField`,
`Model.TextInput`).  The ones below are about the same code over a text of atoms (code points) with a
segmentation `cl` (uniseg in the widgets) that is only asked to be a `Segmentation`; the ideal editor
is `Spec.Editor.applyC`: the grapheme editor followed by re-segmentation, cursor behind the text it
was behind.  They are true since the F217 (TextField) and F317 (textinput) fixes. -/

open VaxisModel.Lemmas.EditorCl VaxisModel.Lemmas.TextInputCl

/-- The hypotheses on the segmentation are satisfiable, by the segmentation that never merges (the
setting of the theorems above) and by one that merges everything (a text of marks that all join). -/
theorem segmentation_instances {A : Type} :
    Segmentation (singletons (A := A)) ∧ Segmentation (oneCluster (A := A)) :=
  ⟨singletons_seg, oneCluster_seg⟩

/-- The ideal editor over merging graphemes with the segmentation that never merges *is* the grapheme
editor `apply` of the theorems above: on a text of single-atom graphemes, with single-atom graphemes
typed, re-segmentation changes nothing (it only clamps the cursor into the text, where the grapheme
editor's cursor already is when it started there). -/
theorem clustered_editor_merge_free_instance {A : Type} (isWord : List A → Bool) (s : Ed (List A)) (op : Op (List A))
    (hs : AllSingle s.text) (hop : OpSingle op) :
    applyC singletons isWord s op =
      ⟨(apply isWord s op).text, min (apply isWord s op).cursor (apply isWord s op).text.length⟩ ∧
    AllSingle (apply isWord s op).text :=
  ⟨applyC_singletons isWord s op hs hop, apply_allSingle isWord s op hs hop⟩

/-- Non-vacuity: "ab" with the cursor at 1, typing "c". -/
example : applyC singletons (fun _ => true) ⟨[[0], [1]], 1⟩ (.insert [[2]]) = (⟨[[0], [2], [1]], 2⟩ : Ed (List Nat)) := by decide

/-- `textfield_refines` over merging graphemes (one step): from a state with `n` = grapheme count and
the cursor within the text, every operation of the exported API keeps that and is exactly the ideal
operation followed by re-segmentation: the widget holds the same text, segmented the same way, the
cursor at the same grapheme index — also when the typed string joins the grapheme before or after
it, or a deletion brings two parts of a grapheme together. -/
theorem textfield_step_refines_clustered {A : Type} [DecidableEq A] (cl : List A → List (List A))
    (hs : Segmentation cl) (isWord : List A → Bool) (tf : TextFieldCl.TF A) (op : TFOpC A) (h : InvC cl tf) :
    InvC cl (tfStepC cl tf op).1 ∧ absC cl (tfStepC cl tf op).1 = applyC cl isWord (absC cl tf) (specOfC cl op) :=
  tfStepC_refines isWord hs tf op h

/-- `textfield_refines` over merging graphemes: all histories from any starting content. -/
theorem textfield_refines_clustered {A : Type} [DecidableEq A] (cl : List A → List (List A))
    (hs : Segmentation cl) (isWord : List A → Bool) (start : List A) (ops : List (TFOpC A)) :
    let tf := tfRunC cl (TextFieldCl.insertString cl TextFieldCl.new start) ops
    absC cl tf = runC cl isWord ⟨cl start, (cl start).length⟩ (ops.map (specOfC cl)) ∧
      tf.cursor ≤ (cl tf.value).length ∧ tf.n = (cl tf.value).length := by
  intro tf
  have h0 : InvC cl (TextFieldCl.new : TextFieldCl.TF A) := by
    simp [InvC, TextFieldCl.new, cl_nil hs]
  have h1 := insert_refinesC isWord hs TextFieldCl.new start h0
  have h2 := tfRunC_refines isWord hs ops _ h1.1
  refine ⟨?_, h2.1.2, h2.1.1⟩
  rw [h2.2, h1.2]
  congr 1
  simp only [applyC, apply, absC, TextFieldCl.new, cl_nil hs, List.take_nil, List.drop_nil, List.nil_append,
    List.append_nil, Nat.zero_add]
  exact resegment_id hs start (cl start).length (Nat.le_refl _)

/-- `callbacks_exact` over merging graphemes: OnSubmit iff Enter (with the line), OnChange iff the
text changed (with the new text). -/
theorem textfield_callbacks_exact_clustered {A : Type} [DecidableEq A] (cl : List A → List (List A))
    (hs : Segmentation cl) (isWord : List A → Bool) (tf : TextFieldCl.TF A) (ev : TextField.KeyEv A) (h : InvC cl tf) :
    (TextFieldCl.handleKey cl tf ev).2.map (absCallC cl) = callbacksC cl isWord (absC cl tf) (meaningOfC cl ev) :=
  (handleKey_refinesC isWord hs tf ev h).2.2

/-- `cursor_column` over merging graphemes: the drawn cursor column is the display width of the
graphemes before the cursor. -/
theorem textfield_cursor_column_clustered {A : Type} (cl : List A → List (List A)) (chars : List A → List Nat)
    (tf : TextFieldCl.TF A) :
    TextFieldCl.drawCursorCol cl chars tf =
      UInt16.ofNat (widthSum (cellWidth chars) ((absC cl tf).text.take (absC cl tf).cursor)) :=
  drawCursorCol_eq chars _

/-- The F217 scenario on the fixed code, with a segmentation in which atom 9 joins whatever is
before it: "ab", cursor to 1, type the mark, type "x" gives a+mark, x, b with the cursor behind x
(before the fix: a+mark, b, x). -/
example :
    let cl : List Nat → List (List Nat) := fun x => if x = [0, 9, 1] then [[0, 9], [1]] else
      if x = [0, 9] then [[0, 9]] else if x = [0, 9, 7, 1] then [[0, 9], [7], [1]] else
      if x = [0, 9, 7] then [[0, 9], [7]] else singletons x
    let ty (g : Nat) : TextField.KeyEv Nat := { (noKey : TextField.KeyEv Nat) with text := [g] }
    let tf := tfRunC cl (TextFieldCl.insertString cl TextFieldCl.new [0, 1]) [.cur 1, .key (ty 9), .key (ty 7)]
    (tf.value, tf.cursor, tf.n) = ([0, 9, 7, 1], 2, 3) := by decide

/-- Non-vacuity with a `Segmentation` that merges: under `oneCluster` typing two atoms one after the
other leaves one grapheme and the cursor at 1. -/
example :
    let ty (g : Nat) : TextField.KeyEv Nat := { (noKey : TextField.KeyEv Nat) with text := [g] }
    let tf := tfRunC oneCluster (TextFieldCl.new : TextFieldCl.TF Nat) [.key (ty 0), .key (ty 9)]
    (tf.value, tf.cursor, tf.n) = ([0, 9], 1, 1) := by decide

/-- `textinput_refines` over merging graphemes (one step): from a state with the cursor within the
content, a non-negative offset and the content segmented as its text is, every call of the textinput
API returns (no panic, no hang), keeps that, and is exactly the ideal operation followed by
re-segmentation. -/
theorem textinput_step_refines_clustered {A : Type} (cl : List A → List (List A)) (hs : Segmentation cl)
    (isAlnum : List A → Bool) (width : List A → Int) (m : TextInputCl.TIC A) (op : TIOpC A) (h : TIInvC cl m) :
    ∃ m', tiStepC isAlnum cl width m op = some m' ∧ TIInvC cl m' ∧
      tiAbsC m' = applyC cl isAlnum (tiAbsC m) (tiOpSpecC cl m op) :=
  tiStepC_refines isAlnum hs width m op h

/-- `textinput_refines` over merging graphemes: all histories from any starting content. -/
theorem textinput_refines_clustered {A : Type} (cl : List A → List (List A)) (hs : Segmentation cl)
    (isAlnum : List A → Bool) (width : List A → Int) (start : List A) (ops : List (TIOpC A)) :
    ∃ mf sops, tiRunC isAlnum cl width (TextInputCl.setContent cl TextInputCl.new start) ops = some (mf, sops) ∧
      tiAbsC mf = runC cl isAlnum ⟨cl start, (cl start).length⟩ sops ∧
      0 ≤ mf.cursor ∧ mf.cursor ≤ mf.content.length ∧ mf.content = cl mf.content.flatten := by
  have h0 : TIInvC cl (TextInputCl.setContent cl (TextInputCl.new : TextInputCl.TIC A) start) :=
    ⟨⟨by simp [TextInputCl.setContent, TextInputCl.toG], by simp [TextInputCl.setContent, TextInputCl.toG],
      by simp [TextInputCl.setContent, TextInputCl.new, TextInputCl.toG]⟩,
     by simp [TextInputCl.setContent, hs.flatten]⟩
  obtain ⟨mf, sops, hr, hinv, habs⟩ := tiRunC_refines isAlnum hs width ops _ h0
  refine ⟨mf, sops, hr, ?_, hinv.1.1, hinv.1.2.1, hinv.2⟩
  rw [habs]
  simp [tiAbsC, TextInputCl.setContent, TextInputCl.new]

/-- The F317 scenario on the fixed code under `oneCluster`: type an atom, type a second one that
joins it — one character, cursor 1; BackSpace then deletes the whole grapheme (before the fix: two
characters, cursor 2, BackSpace left the first atom). -/
example :
    (tiRunC (fun _ => false) oneCluster (fun _ => 1) (TextInputCl.new : TextInputCl.TIC Nat)
      [.ev (.key "e" false false false [0]), .ev (.key "x" false false false [9])]).map
        (fun r => (r.1.content, r.1.cursor)) = some ([[0, 9]], 1) ∧
    (tiRunC (fun _ => false) oneCluster (fun _ => 1) (TextInputCl.new : TextInputCl.TIC Nat)
      [.ev (.key "e" false false false [0]), .ev (.key "x" false false false [9]),
       .ev (.key "BackSpace" false false false [])]).map
        (fun r => (r.1.content, r.1.cursor)) = some ([], 0) := by decide

/-! The theorems over `Gen/EditorKeys.lean` and `Gen/EditorBodies.lean` (regenerated every run) are in `Props/C17Facts*.lean` (same
    namespace), so that a changed source breaks those modules and not the refinement theorems of this one. -/

/-- Every label of the table reaches the ideal operation of its arm (so `keyMeaning`, over which
`textinput_refines` is proved, implements the extracted table); the default arm inserts the text
unless Ctrl, Alt or Super is held. -/
theorem update_bindings_meaning :
    (∀ p ∈ bindingTable, ∀ k ∈ p.1, ∀ c a s, keyMeaning k c a s ([7] : List Nat) = p.2) ∧
    keyMeaning "x" false false false ([7] : List Nat) = .insert [7] ∧
    keyMeaning "Ctrl+x" true false false ([7] : List Nat) = .noop ∧
    keyMeaning "Alt+x" false true false ([7] : List Nat) = .noop ∧
    keyMeaning "Super+x" false false true ([7] : List Nat) = .noop := by decide

/-- Non-vacuity: "ab cd" + Ctrl+w deletes the last word; a 4-column window draws. -/
example :
    (tiRun (fun g : Nat => g < 2) (fun _ => 1) (TextInput.setContent TextInput.new [0, 1, 5, 0, 1])
      [.ev (.key "Ctrl+w" true false false []), .draw [] 4]).map (fun r => (r.1.content, r.1.cursor))
      = some ([0, 1, 5], 3) := by decide

end VaxisModel.Props.C17
