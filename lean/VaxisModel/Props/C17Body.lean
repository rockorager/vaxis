import VaxisModel.Lemmas.EdLangTFBody
import VaxisModel.Props.C17

/-!
C17 — the bodies of the TextField's functions, translated from the source on every run
(`Gen/EditorLang.lean`: receiver fields, parameters, locals, every statement) and run by the
interpreter of `Model/EdLang.lean`, ARE the hand-written model `Model/TextFieldCl.lean` — the model
the refinement theorems of `Props/C17.lean` speak about.  A change of a statement in the source
changes the translated body: the driver's model follows it, and the theorem of that function fails.

`ClSane cl`: the empty string has no cluster, a non-empty one has one, the clusters concatenate to
the text — what makes "walk the string until it is empty" the same as "walk its clusters"; it
follows from `Spec.Editor.Segmentation` (`clSane_of_segmentation`).

One module per function (`Props/C17Body<Function>.lean`; textinput in `…TI` and `…Width`), so that a changed function breaks its
own theorem and the composite ones here, not the others.
-/
namespace VaxisModel.Props.C17Body
open VaxisModel.Model.EdLang VaxisModel.Model.EdRun VaxisModel.Gen.EditorLang VaxisModel.Lemmas.EdLangTF
open VaxisModel.Lemmas.EdLangTFBody VaxisModel.Model.EdGen
open VaxisModel.Model

variable {A : Type} [DecidableEq A]

/-- `HandleEvent` for a key event with both callbacks installed — the release test, the text test,
    the chain of `Matches` tests in source order, the calls into the API functions, `checkChanged`,
    the deferred `Reset` — is the model's `handleKey`: same state, same callbacks. -/
theorem tf_handleEvent_body_eq_model (cl : List A → List (List A)) (hs : ClSane cl) (tf : TextFieldCl.TF A)
    (ev : TextField.KeyEv A) :
    tfHandleKey genTf cl tf ev = some ((TextFieldCl.handleKey cl tf ev).1, (TextFieldCl.handleKey cl tf ev).2.map callName) :=
  handleEvent_body_eq_model cl hs tf ev

/-- `HandleEvent` when the application installed no callback (`tf.OnSubmit == nil`, `tf.OnChange == nil`: the other
    branches of `HandleEvent` / `checkChanged`): the state changes exactly as with callbacks, nothing is called. -/
theorem tf_handleEvent_nocb_body_eq_model (cl : List A → List (List A)) (hs : ClSane cl) (tf : TextFieldCl.TF A)
    (ev : TextField.KeyEv A) :
    tfHandleKeyNoCb genTf cl tf ev = some ((TextFieldCl.handleKey cl tf ev).1, []) :=
  handleEvent_nocb_body_eq_model cl hs tf ev

open VaxisModel.Lemmas.EditorCl (TFOpC tfRunC absC specOfC) in
open VaxisModel.Spec.Editor (runC) in
/-- End to end, for EVERY segmentation meeting the three laws and every history (key events through
    `HandleEvent`, calls of the exported API) from any starting content: the TextField as translated from
    the source and run by the interpreter never gets stuck, holds the ideal editor's text with the cursor at
    the ideal editor's grapheme index, the cursor within the text, and `n` the grapheme count. -/
theorem textfield_source_refines (cl : List A → List (List A)) (hs : VaxisModel.Spec.Editor.Segmentation cl)
    (isWord : List A → Bool) (start : List A) (ops : List (TFOpC A)) :
    ∃ tf0 tf, tfStepI cl TextFieldCl.new (.ins start) = some tf0 ∧ tfRunI cl tf0 ops = some tf ∧
      absC cl tf = runC cl isWord ⟨cl start, (cl start).length⟩ (ops.map (specOfC cl)) ∧
      tf.cursor ≤ (cl tf.value).length ∧ tf.n = (cl tf.value).length := by
  have hsane := clSane_of_seg cl hs
  refine ⟨_, _, tfStepI_eq cl hsane _ _, tfRunI_eq cl hsane ops _, ?_⟩
  exact VaxisModel.Props.C17.textfield_refines_clustered cl hs isWord start ops

open VaxisModel.Lemmas.EditorCl (InvC absC absCallC meaningOfC) in
open VaxisModel.Spec.Editor (callbacksC Callback) in
/-- Callbacks of the interpreted source, for every `Segmentation`: on a state with `n = count`, `cursor ≤ count`,
    `HandleEvent` as translated from the source calls `OnSubmit` exactly on Enter (with the line) and `OnChange`
    exactly when the text changed (with the new text) — the ideal editor's callbacks, in order. -/
theorem textfield_source_callbacks_exact (cl : List A → List (List A)) (hs : VaxisModel.Spec.Editor.Segmentation cl)
    (isWord : List A → Bool) (tf : TextFieldCl.TF A) (ev : TextField.KeyEv A) (h : InvC cl tf) :
    ∃ tf' log, tfHandleKey genTf cl tf ev = some (tf', log) ∧
      log.map (fun kv => if kv.1 = "submit" then Callback.submit (cl kv.2) else Callback.change (cl kv.2)) =
        callbacksC cl isWord (absC cl tf) (meaningOfC cl ev) := by
  refine ⟨_, _, handleEvent_body_eq_model cl (clSane_of_seg cl hs) tf ev, ?_⟩
  rw [← VaxisModel.Props.C17.textfield_callbacks_exact_clustered cl hs isWord tf ev h, List.map_map]
  apply List.map_congr_left
  intro c _
  cases c <;> simp [callName, absCallC]

end VaxisModel.Props.C17Body
