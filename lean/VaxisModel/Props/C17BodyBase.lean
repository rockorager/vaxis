import VaxisModel.Lemmas.EdLangTFBase

/-! C17 — translated bodies: everything recognised; `graphemeCountInString`; `ClSane` follows from `Segmentation`. See `Props/C17Body.lean` for the overview. -/
namespace VaxisModel.Props.C17Body
open VaxisModel.Model.EdLang VaxisModel.Model.EdRun VaxisModel.Gen.EditorLang VaxisModel.Lemmas.EdLangTF
open VaxisModel.Lemmas.EdLangTFBody VaxisModel.Model.EdGen
open VaxisModel.Model

variable {A : Type} [DecidableEq A]

/-- Every statement and expression of the ten TextField functions, `TextField.Draw`, and of textinput's `SetContent`,
    `Update`, `resegment`, `isAlphaNumeric`, `widthToCursor`, `String`, `CursorPosition` was recognised by the translator. -/
theorem editor_bodies_fully_recognised :
    [tfHandleEvent, tfCheckChanged, tfReset, tfInsertStringAtCursor, tfCursorTo, tfDeleteCharRightOfCursor,
     tfDeleteCharLeftOfCursor, tfDeleteCursorToEndOfLine, tfInsertLoop, tfGraphemeCount, tfDraw, tiSetContent, tiUpdate,
     tiResegment, tiIsAlphaNumeric, tiWidthToCursor, tiString, tiCursorPosition].all Fn.fullyRecognised = true := by decide

/-- `graphemeCountInString` counts the clusters. -/
theorem tf_count_body_eq_model (cl : List A → List (List A)) (hs : ClSane cl) (s : List A) (env : Env A) :
    tfCall0 genTf cl "graphemeCountInString" [.str s] env = some (env, .num (cl s).length) :=
  count_body_eq_model cl hs s env

/-- Every `Segmentation` is sane (`Lemmas.EdLangTF.ClSane`; what it asks and why: header of Props/C17Body.lean). -/
theorem clSane_of_segmentation (cl : List A → List (List A)) (h : VaxisModel.Spec.Editor.Segmentation cl) : ClSane cl :=
  clSane_of_seg cl h

/-- Non-vacuity: the segmentation that never merges is sane. -/
example : ClSane (VaxisModel.Lemmas.EditorCl.singletons (A := Nat)) :=
  clSane_of_seg _ VaxisModel.Lemmas.EditorCl.singletons_seg

end VaxisModel.Props.C17Body
