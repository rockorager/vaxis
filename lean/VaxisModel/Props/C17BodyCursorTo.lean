import VaxisModel.Lemmas.EdLangTFCursorTo

/-! C17 — `TextField.CursorTo` translated from the source = the model. -/
namespace VaxisModel.Props.C17Body
open VaxisModel.Model.EdLang VaxisModel.Model.EdRun VaxisModel.Gen.EditorLang VaxisModel.Lemmas.EdLangTF
open VaxisModel.Lemmas.EdLangTFBody VaxisModel.Model.EdGen
open VaxisModel.Model

variable {A : Type} [DecidableEq A]

theorem tf_cursorTo_body_eq_model (cl : List A → List (List A)) (tf : TextFieldCl.TF A) (i : Nat) :
    tfApi genTf cl "CursorTo" [.num i] tf = some ((TextFieldCl.cursorTo tf i).1, .cmd (TextFieldCl.cursorTo tf i).2) :=
  cursorTo_api cl tf i

end VaxisModel.Props.C17Body
