import VaxisModel.Lemmas.EdLangTFDelLeft

/-! C17 — `TextField.DeleteCharLeftOfCursor` translated from the source = the model. -/
namespace VaxisModel.Props.C17Body
open VaxisModel.Model.EdLang VaxisModel.Model.EdRun VaxisModel.Gen.EditorLang VaxisModel.Lemmas.EdLangTF
open VaxisModel.Lemmas.EdLangTFBody VaxisModel.Model.EdGen
open VaxisModel.Model

variable {A : Type} [DecidableEq A]

/-- `DeleteCharLeftOfCursor` (the recount `tf.n = graphemeCountInString(tf.Value)`, `tf.cursor -= 1`) -/
theorem tf_deleteLeft_body_eq_model (cl : List A → List (List A)) (hs : ClSane cl) (tf : TextFieldCl.TF A) :
    tfApi genTf cl "DeleteCharLeftOfCursor" [] tf =
      some ((TextFieldCl.deleteLeft cl tf).1, .cmd (TextFieldCl.deleteLeft cl tf).2) :=
  deleteLeft_api cl hs tf

end VaxisModel.Props.C17Body
