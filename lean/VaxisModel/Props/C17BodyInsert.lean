import VaxisModel.Lemmas.EdLangTFInsert

/-! C17 — `TextField.InsertStringAtCursor` translated from the source = the model. -/
namespace VaxisModel.Props.C17Body
open VaxisModel.Model.EdLang VaxisModel.Model.EdRun VaxisModel.Gen.EditorLang VaxisModel.Lemmas.EdLangTF
open VaxisModel.Lemmas.EdLangTFBody VaxisModel.Model.EdGen
open VaxisModel.Model

variable {A : Type} [DecidableEq A]

/-- `InsertStringAtCursor` (with the helper `insertStringAtCursor`, its loop, the recount of `n`) -/
theorem tf_insertString_body_eq_model (cl : List A → List (List A)) (hs : ClSane cl) (tf : TextFieldCl.TF A) (s : List A) :
    tfApi genTf cl "InsertStringAtCursor" [.str s] tf = some (TextFieldCl.insertString cl tf s, .cmd true) :=
  insertString_api cl hs tf s

end VaxisModel.Props.C17Body
