import VaxisModel.Lemmas.EdLangTFKill

/-! C17 — `TextField.DeleteCursorToEndOfLine` translated from the source = the model. -/
namespace VaxisModel.Props.C17Body
open VaxisModel.Model.EdLang VaxisModel.Model.EdRun VaxisModel.Gen.EditorLang VaxisModel.Lemmas.EdLangTF
open VaxisModel.Lemmas.EdLangTFBody VaxisModel.Model.EdGen
open VaxisModel.Model

variable {A : Type} [DecidableEq A]

theorem tf_killToEnd_body_eq_model (cl : List A → List (List A)) (hs : ClSane cl) (tf : TextFieldCl.TF A) :
    tfApi genTf cl "DeleteCursorToEndOfLine" [] tf =
      some ((TextFieldCl.killToEnd cl tf).1, .cmd (TextFieldCl.killToEnd cl tf).2) :=
  killToEnd_api cl hs tf

end VaxisModel.Props.C17Body
