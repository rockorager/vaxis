import VaxisModel.Lemmas.EdLangTFReset

/-! C17 — `TextField.Reset` translated from the source = the model. -/
namespace VaxisModel.Props.C17Body
open VaxisModel.Model.EdLang VaxisModel.Model.EdRun VaxisModel.Gen.EditorLang VaxisModel.Lemmas.EdLangTF
open VaxisModel.Lemmas.EdLangTFBody VaxisModel.Model.EdGen
open VaxisModel.Model

variable {A : Type} [DecidableEq A]

/-- `Reset` clears value, cursor and the cached count `n`. -/
theorem tf_reset_body_eq_model (cl : List A → List (List A)) (tf : TextFieldCl.TF A) :
    tfApi genTf cl "Reset" [] tf = some (TextFieldCl.reset tf, .opaque) :=
  reset_api cl tf

end VaxisModel.Props.C17Body
