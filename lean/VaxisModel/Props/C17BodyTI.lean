import VaxisModel.Lemmas.EdLangTIBody
import VaxisModel.Props.C17

/-! C17 — textinput's `isAlphaNumeric`, `SetContent`, `resegment`, `Update` translated from the source = the model; end-to-end
refinement. -/
namespace VaxisModel.Props.C17Body
open VaxisModel.Model.EdLang VaxisModel.Model.EdRun VaxisModel.Gen.EditorLang VaxisModel.Lemmas.EdLangTF
open VaxisModel.Model.EdGen VaxisModel.Lemmas.EdLangTIBody
open VaxisModel.Model

variable {A : Type} [DecidableEq A]

/-- `isAlphaNumeric` as translated from the source: a character is a word constituent iff it is ONE code point and that
    code point is a letter or a number (`unicode.IsLetter` / `IsNumber` as parameters) — every grapheme of several code
    points (decomposed é, flags, ZWJ emoji, Hangul L+V) is a separator. -/
theorem ti_isAlphaNumeric_body_eq_model (isLetter isNumber : A → Bool) (c : List A) (hc : c ≠ []) :
    tiIsAlnumI genTi isLetter isNumber c = some (match c with | [a] => isLetter a || isNumber a | _ => false) :=
  isAlphaNumeric_body_eq_model isLetter isNumber c hc

theorem ti_setContent_body_eq_model (cl : List A → List (List A)) (al : List A → Bool) (m : TextInputCl.TIC A) (s : List A) :
    tiRunSetContent genTi cl al m s = some (TextInputCl.setContent cl m s) :=
  setContent_body_eq_model cl al m s

/-- `resegment`: re-segments the text, cursor behind the text it was behind; panics exactly when the model says so. -/
theorem ti_resegment_body_eq_model (cl : List A → List (List A)) (al : List A → Bool) (m : TextInputCl.TIC A) :
    callMethod (tiCx0 cl al) tiKeys tiResegment [] (envOfTI m) =
      (TextInputCl.resegment cl m).map fun m' => (envOfTI m', .opaque) :=
  resegment_body_eq_model cl al m

/-- `Update`, for EVERY event and every state: the type switch, the paste bracket (PasteEnd inserts
    `Characters(string(m.paste))`, paste keys append to the buffer), the release test, the whole key map
    (`switch msg.String()`: the nineteen labels, the word-motion and kill-word loops with their index
    expressions, the slice expressions of the deleting arms, the default arm's modifier guards and its loop of
    `slices.Insert`), the final clamping and `m.resegment()` — translated from the source and run by the
    interpreter — is the model's `update`: result for result, panic for panic.  (`cl [] = []`: the empty
    string has no character — law 2 of `Segmentation` at `i = 0`.) -/
theorem ti_update_body_eq_model (cl : List A → List (List A)) (hnil : cl [] = []) (al : List A → Bool) (m : TextInputCl.TIC A)
    (ev : TextInputCl.Ev A) :
    tiRunUpdate genTi cl al m ev = TextInputCl.update cl al m ev :=
  update_body_eq_model cl hnil al m ev

open VaxisModel.Lemmas.EdLangTIBody VaxisModel.Lemmas.TextInputCl in
open VaxisModel.Spec.Editor (runC) in
/-- End to end for textinput, for EVERY segmentation meeting the three laws and every history of `Update`
    events (keys, paste brackets, releases), `SetContent` and `Draw` calls from any starting content: the
    widget with `Update` / `SetContent` as translated from the source and interpreted (its `Draw` as modelled) never
    panics or hangs, holds the ideal editor's text with the cursor at the ideal index within the text, and its
    content stays the segmentation of its text. -/
theorem textinput_source_refines (cl : List A → List (List A)) (hs : VaxisModel.Spec.Editor.Segmentation cl)
    (isAlnum : List A → Bool) (width : List A → Int) (start : List A) (ops : List (TIOpC A)) :
    ∃ m0 mf sops, tiStepI isAlnum cl width TextInputCl.new (.set start) = some m0 ∧
      tiRunI isAlnum cl width m0 ops = some (mf, sops) ∧
      tiAbsC mf = runC cl isAlnum ⟨cl start, (cl start).length⟩ sops ∧
      0 ≤ mf.cursor ∧ mf.cursor ≤ mf.content.length ∧ mf.content = cl mf.content.flatten := by
  have hnil := VaxisModel.Lemmas.EditorCl.cl_nil hs
  obtain ⟨mf, sops, hr, h⟩ := VaxisModel.Props.C17.textinput_refines_clustered cl hs isAlnum width start ops
  refine ⟨TextInputCl.setContent cl TextInputCl.new start, mf, sops, ?_, ?_, h⟩
  · rw [tiStepI_eq isAlnum cl hnil]; rfl
  · rw [tiRunI_eq isAlnum cl hnil]; exact hr

/-- Non-vacuity / a computed instance: Ctrl+w behind "ab cd" through the translated body. -/
example : tiRunUpdate genTi (VaxisModel.Lemmas.EditorCl.singletons (A := Nat)) (fun c => c != [0])
    ⟨[[1], [2], [0], [3], [4]], 5, 0, []⟩ (.key "Ctrl+w" false false false []) = some ⟨[[1], [2], [0]], 3, 0, []⟩ := by
  decide

end VaxisModel.Props.C17Body
