/-
C17.  (1) The two models of widgets/textinput are one: `Model.TextInputCl` with the segmentation that
never merges is `Model.TextInput`.  (2) The scrolled case of `textinput.Draw` for every window width: which window
of the text is visible, the truncators at both ends, and the cursor column in closed form — and exactly when the
drawn cursor is at its grapheme.  Property theorems only.
-/
import VaxisModel.Lemmas.TextInputOne
import VaxisModel.Lemmas.TextInputScroll

namespace VaxisModel.Props.C17Ext
open VaxisModel.Model.TextInput VaxisModel.Spec.EditorView
open VaxisModel.Lemmas.TextInput (TIInv)
open VaxisModel.Lemmas.TextInputOne VaxisModel.Lemmas.TextInputScroll VaxisModel.Lemmas.EditorCl

/-- **`TextInputCl.update` on merge-free content = `TextInput.update`.**  For every event, every state with the
cursor in the content whose characters are single atoms: the model over merging graphemes (with `m.resegment()`),
run with the segmentation that never merges, returns exactly what the merge-free model returns on the same
characters (`gOf`: the paste buffer as the characters it will become; `cOf` back) — also panic for panic. -/
theorem textinput_models_agree {A : Type} (isAlnum : List A → Bool) (m : VaxisModel.Model.TextInputCl.TIC A)
    (h : TIInv (VaxisModel.Model.TextInputCl.toG m)) (hs : AllSingle m.content)
    (ev : VaxisModel.Model.TextInputCl.Ev A) :
    VaxisModel.Model.TextInputCl.update singletons isAlnum m ev =
      (VaxisModel.Model.TextInput.update isAlnum (gOf m) (evOf ev)).map cOf :=
  update_singletons isAlnum m h hs ev

/-- …and the hypotheses are kept by every event, so the step theorem applies along every history. -/
theorem textinput_models_agree_inv {A : Type} (isAlnum : List A → Bool) (m m' : VaxisModel.Model.TextInputCl.TIC A)
    (h : TIInv (VaxisModel.Model.TextInputCl.toG m)) (hs : AllSingle m.content)
    (ev : VaxisModel.Model.TextInputCl.Ev A)
    (hu : VaxisModel.Model.TextInputCl.update singletons isAlnum m ev = some m') :
    TIInv (VaxisModel.Model.TextInputCl.toG m') ∧ AllSingle m'.content := by
  have hinv : VaxisModel.Lemmas.TextInputCl.TIInvC singletons m :=
    ⟨h, (singletons_flatten_of_allSingle m.content hs).symm⟩
  obtain ⟨m'', hu', hi, _⟩ := VaxisModel.Lemmas.TextInputCl.update_refinesC isAlnum singletons_seg m ev hinv
  rw [hu] at hu'
  cases hu'
  refine ⟨hi.1, ?_⟩
  rw [hi.2]
  exact allSingle_singletons _

/-- **All histories**: from any state with the cursor in the content and single-atom characters, the two models run
on the same event sequence end in the same state (or both panic at the same event). -/
theorem textinput_models_agree_run {A : Type} (isAlnum : List A → Bool) (m : VaxisModel.Model.TextInputCl.TIC A)
    (h : TIInv (VaxisModel.Model.TextInputCl.toG m)) (hs : AllSingle m.content)
    (evs : List (VaxisModel.Model.TextInputCl.Ev A)) :
    runCl isAlnum m evs = (runG isAlnum (gOf m) (evs.map evOf)).map cOf :=
  runs_agree isAlnum evs m h hs

/-- `SetContent` agrees too (no hypothesis): the programmatic API of the two models is one. -/
theorem textinput_models_agree_setcontent {A : Type} (m : VaxisModel.Model.TextInputCl.TIC A) (s : List A) :
    VaxisModel.Model.TextInputCl.setContent singletons m s =
      cOf (VaxisModel.Model.TextInput.setContent (gOf m) (singletons s)) := by
  simp [VaxisModel.Model.TextInputCl.setContent, VaxisModel.Model.TextInput.setContent, cOf, gOf, singletons_flatten]

/-- Non-vacuity: "ab|" + typed "c" in both models. -/
example : VaxisModel.Model.TextInputCl.update singletons (fun _ => true) ⟨[[0], [1]], 2, 0, []⟩ (.key "c" false false false [2]) =
    some ⟨[[0], [1], [2]], 3, 0, []⟩ := by decide

/-- **Which window of the text is visible.**  Whatever the window width, the scroll state before the call and the
prompt: when `Draw` gets as far as the text, its `SetCell` calls are the prompt's cells followed by the layout
(`Spec.EditorView.windowCells`) of the graphemes from the offset it settled on: each at the prompt's end plus the
display width of the visible graphemes before it; the first one replaced by the truncator iff the offset is positive
(text is scrolled out on the left); the one that reaches or passes the right edge replaced by the truncator and
nothing after it; the mask glyph instead of every grapheme shown in password mode. -/
theorem textinput_cells_scrolled {G : Type} (width : G → Int) (masked : Bool) (m : TI G) (prompt : List G) (winW : Int)
    (h : TIInv m) (m' : TI G) (c : Int) (hd : draw width m prompt winW = .shown m' c) :
    ∃ col, promptLoop width winW prompt 0 = some col ∧
      drawCells width masked m prompt winW =
        some (promptCells width winW prompt 0 ++
          windowCells width masked winW (decide (m'.offset > 0)) (m.content.drop m'.offset.toNat) col) := by
  obtain ⟨col, sh⟩ := draw_shape width m prompt winW m' c hd
  obtain ⟨ho, _⟩ := VaxisModel.Lemmas.TextInput.draw_offset_le_cursor width m prompt winW h m' c hd
  refine ⟨col, sh.prompt, ?_⟩
  unfold drawCells
  rw [hd]
  simp only [sh.prompt]
  rw [cellLoop_window width masked m'.offset winW m.content 0 col ho]
  simp

/-- **The drawn cursor column, all widths.**  With `k` = the number of graphemes between the offset `Draw` settled
on and the cursor (`0 ≤ offset ≤ cursor` always: `textinput_draw_offset_bounds`) and `vis` the graphemes from the
offset on: the cursor column is the prompt's end when `k = 0`; the prompt's end plus the display width of those `k`
graphemes when the `k-1` before the last of them end left of the right edge; and otherwise — the cell loop stopped
before it reached the grapheme before the cursor — it is left at the prompt's end. -/
theorem textinput_cursor_scrolled {G : Type} (width : G → Int) (hw : ∀ g, 0 ≤ width g) (m : TI G) (prompt : List G)
    (winW : Int) (h : TIInv m) (m' : TI G) (c : Int) (hd : draw width m prompt winW = .shown m' c) :
    ∃ col, promptLoop width winW prompt 0 = some col ∧
      let vis := m.content.drop m'.offset.toNat
      let k := (m.cursor - m'.offset).toNat
      c = if k = 0 then col
          else if k = 1 ∨ col + textWidth width (vis.take (k - 1)) < winW then cursorAtGrapheme width col vis k
          else col := by
  obtain ⟨col, sh⟩ := draw_shape width m prompt winW m' c hd
  obtain ⟨ho, hoc⟩ := VaxisModel.Lemmas.TextInput.draw_offset_le_cursor width m prompt winW h m' c hd
  refine ⟨col, sh.prompt, ?_⟩
  intro vis k
  obtain ⟨h0, h1, _⟩ := h
  -- run the loop up to the offset (nothing happens), then from the offset on
  rw [sh.col, cursorLoop_skip width m.cursor m'.offset winW col col m.content 0 ho]
  have hk : m.cursor = m'.offset + (k : Int) := by
    show m.cursor = m'.offset + (((m.cursor - m'.offset).toNat : Nat) : Int)
    omega
  have hlen : k ≤ vis.length := by
    show (m.cursor - m'.offset).toNat ≤ (m.content.drop m'.offset.toNat).length
    rw [List.length_drop]
    omega
  rw [Int.sub_zero, hk]
  exact cursorLoop_from width hw m'.offset winW vis m'.offset col col k (Int.le_refl _) hlen

/-- The statement "the cursor is always drawn at its grapheme" (prompt's end + display width of the visible
graphemes before the cursor).  False for narrow windows: `Witness/F517.lean`. -/
def textinput_cursor_at_grapheme_full : Prop :=
  ∀ {G : Type} (width : G → Int) (_ : ∀ g, 0 ≤ width g) (m : TI G) (prompt : List G) (winW : Int) (_ : TIInv m)
    (m' : TI G) (c col : Int), draw width m prompt winW = .shown m' c → promptLoop width winW prompt 0 = some col →
    c = cursorAtGrapheme width col (m.content.drop m'.offset.toNat) (m.cursor - m'.offset).toNat

/-- What holds: the cursor is drawn at its grapheme **iff** the visible graphemes before the one in front of the
cursor end left of the right edge (or there is at most one) — in particular whenever `Draw`'s final "scroll toward
the beginning" (`offset = cursor - 4`) did not pull more text into view than the window holds.  Otherwise the
cursor is shown at the prompt's end although `k ≥ 2` graphemes lie between it and the cursor. -/
theorem textinput_cursor_at_grapheme_partial {G : Type} (width : G → Int) (hw : ∀ g, 0 ≤ width g) (m : TI G)
    (prompt : List G) (winW : Int) (h : TIInv m) (m' : TI G) (c col : Int)
    (hd : draw width m prompt winW = .shown m' c) (hp : promptLoop width winW prompt 0 = some col) :
    let vis := m.content.drop m'.offset.toNat
    let k := (m.cursor - m'.offset).toNat
    (k ≤ 1 ∨ col + textWidth width (vis.take (k - 1)) < winW → c = cursorAtGrapheme width col vis k) ∧
    (¬ (k ≤ 1 ∨ col + textWidth width (vis.take (k - 1)) < winW) → c = col) := by
  obtain ⟨col', hp', hc⟩ := textinput_cursor_scrolled width hw m prompt winW h m' c hd
  rw [hp] at hp'
  cases hp'
  intro vis k
  have hc' : c = if k = 0 then col
      else if k = 1 ∨ col + textWidth width (vis.take (k - 1)) < winW then cursorAtGrapheme width col vis k
      else col := hc
  by_cases hk0 : k = 0
  · exact ⟨fun _ => by rw [hc', if_pos hk0]; simp [hk0, cursorAtGrapheme, textWidth], fun hn => absurd (Or.inl (by omega)) hn⟩
  · rw [hc', if_neg hk0]
    by_cases hX : k = 1 ∨ col + textWidth width (vis.take (k - 1)) < winW
    · rw [if_pos hX]; exact ⟨fun _ => rfl, fun hn => absurd (hX.imp (fun h => by omega) id) hn⟩
    · rw [if_neg hX]; exact ⟨fun hk => absurd (hk.imp (fun h => by omega) id) hX, fun _ => rfl⟩

/-- **With room for the scroll margin the cursor is always drawn at its grapheme.**  If graphemes are at most two
columns wide (as terminal graphemes are) and the window has more than six columns after the prompt, then for every
text, cursor and scroll state the drawn cursor column is the prompt's end plus the display width of the visible
graphemes before the cursor.  (Six = the three graphemes before the one in front of the cursor that "scroll toward
the beginning" can pull into view, two columns each; `Witness.F517`: at six columns it fails.) -/
theorem textinput_cursor_at_grapheme_wide {G : Type} (width : G → Int) (hw : ∀ g, 0 ≤ width g) (hw2 : ∀ g, width g ≤ 2)
    (m : TI G) (prompt : List G) (winW : Int) (h : TIInv m) (m' : TI G) (c col : Int)
    (hd : draw width m prompt winW = .shown m' c) (hp : promptLoop width winW prompt 0 = some col)
    (hroom : col + 6 < winW) :
    c = cursorAtGrapheme width col (m.content.drop m'.offset.toNat) (m.cursor - m'.offset).toNat := by
  refine (textinput_cursor_at_grapheme_partial width hw m prompt winW h m' c col hd hp).1 ?_
  obtain ⟨col', off, off0, so⟩ := draw_shape_offset width m prompt winW m' c hd
  obtain rfl : col = col' := Option.some.inj (hp.symm.trans so.prompt)
  obtain ⟨h0, h1, ho⟩ := h
  have hle := VaxisModel.Lemmas.TextInput.scrollLoop_le width m.content m.cursor col winW _ _ off so.scroll
  have hoff0' : 0 ≤ off0 := by rcases so.start with e | e <;> omega
  have hpost := scrollLoop_post width m.content m.cursor col winW _ _ off so.scroll
  by_cases hfire : m.cursor - 4 - off < 0
  · -- scrolled back: at most four graphemes between the offset and the cursor
    have hk : (m.cursor - m'.offset).toNat ≤ 4 := by
      rw [so.offset]; simp only [hfire, if_true]; split <;> omega
    have hb := textWidth_take_le width hw2 (m.content.drop m'.offset.toNat) ((m.cursor - m'.offset).toNat - 1)
    right
    omega
  · -- not scrolled back: the forward loop left the text up to the cursor inside the window
    have hmo : m'.offset = off := by
      rw [so.offset]; simp only [hfire, if_false]; split <;> omega
    have hlt : off < m.cursor := by omega
    have hfit : widthToCursor width m.cursor off m.content 0 0 + col + 4 < winW := by
      apply Int.lt_of_not_ge
      intro hge
      exact hpost ⟨hlt, hge⟩
    have hskip := widthToCursor_skip width m.cursor off m.content 0 0 (by omega)
    have hge := widthToCursor_ge_past width hw m.cursor off (m.content.drop (off - 0).toNat) off 0 (Int.le_refl _)
    rw [Int.sub_zero] at hskip hge
    rw [← hskip] at hge
    have hmono := textWidth_take_mono width hw (m.content.drop off.toNat) ((m.cursor - off).toNat - 1)
    have hk1 : (m.cursor - off).toNat - 1 + 1 = (m.cursor - off).toNat := by omega
    rw [hk1] at hmono
    right
    rw [hmo]
    omega

/-- Non-vacuity (and a caveat): four wide graphemes, cursor at the end, seven columns, no prompt — the hypotheses
hold and the cursor column is 8, its grapheme's column, which lies beyond the 7-column window (the graphemes at the
right edge were replaced by the truncator). -/
example : (match draw (fun _ : Nat => 2) ⟨[1, 2, 3, 4], 4, 0, []⟩ [] 7 with
     | .shown m' c => decide (m'.offset = 0 ∧ c = 8)
     | _ => false) = true := by decide

end VaxisModel.Props.C17Ext
