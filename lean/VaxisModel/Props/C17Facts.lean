import VaxisModel.Lemmas.TextInput
import VaxisModel.Gen.EditorKeys

/-! C17 — tie to the source through `Gen/EditorKeys.lean` (regenerated every run): the key map of textinput.Update, its
    default-arm guards, the scroll loop condition of textinput.Draw, the `if` chain of TextField.HandleEvent. -/
namespace VaxisModel.Props.C17
open VaxisModel VaxisModel.Lemmas.TextInput

/-- The case labels of `switch msg.String()` in textinput.Update, in source order, are the labels
the model dispatches on. -/
theorem update_bindings_extracted :
    Gen.EditorKeys.updateCases = bindingTable.map (·.1) := by decide

theorem update_default_guards_extracted :
    Gen.EditorKeys.updateDefaultGuards =
      ["msg.Modifiers&vaxis.ModCtrl != 0", "msg.Modifiers&vaxis.ModAlt != 0", "msg.Modifiers&vaxis.ModSuper != 0"] := rfl

/-- The scroll loop of textinput.Draw has the guard modelled in `TextInput.scrollLoop` (F47 fix) and
scrolloff is 4. -/
theorem draw_loop_extracted :
    Gen.EditorKeys.drawLoopConds =
      ["m.offset < m.cursor && widthToCursor(chars, m.cursor, m.offset)+col+scrolloff >= winW"] ∧
    Gen.EditorKeys.textinputScrolloff = 4 := ⟨rfl, rfl⟩

/-- The `if` chain of TextField.HandleEvent (conditions in source order and the editing function
each calls first) is the one `TextField.handleKey` transcribes. -/
theorem handle_event_bindings_extracted :
    Gen.EditorKeys.handleEventBindings = handleEventTable := rfl

end VaxisModel.Props.C17
