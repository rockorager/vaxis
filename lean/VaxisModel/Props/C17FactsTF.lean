import VaxisModel.Gen.EditorBodies
import VaxisModel.Lemmas.EditorBodies

/-! C17 — the statement texts of the TextField functions (`Gen/EditorBodies.lean`, regenerated every run).  The editing functions
    are also translated and interpreted (`Props/C17Body*.lean`); this is the only Gen tie of `TextField.Draw`. -/
namespace VaxisModel.Props.C17
open VaxisModel

/-- The state updates of every TextField function (writes to `tf.Value`, `tf.cursor`, `tf.n`, receiver calls, returns) and its loops in full, extracted from textfield.go on every run, are the ones the models transcribe (`Lemmas.EditorBodies`): e.g. the recount `tf.n = graphemeCountInString(tf.Value)` after each deletion (F46) and `tf.cursor = graphemeCountInString(next.String())` between the two writes of the insert (F217). -/
theorem facts_textfield_bodies :
    Gen.EditorBodies.tfHandleEvent = Lemmas.EditorBodies.tfHandleEvent ∧
    Gen.EditorBodies.tfCheckChanged = Lemmas.EditorBodies.tfCheckChanged ∧
    Gen.EditorBodies.tfReset = Lemmas.EditorBodies.tfReset ∧
    Gen.EditorBodies.tfInsertStringAtCursor = Lemmas.EditorBodies.tfInsertStringAtCursor ∧
    Gen.EditorBodies.tfCursorTo = Lemmas.EditorBodies.tfCursorTo ∧
    Gen.EditorBodies.tfDeleteCharRightOfCursor = Lemmas.EditorBodies.tfDeleteCharRightOfCursor ∧
    Gen.EditorBodies.tfDeleteCharLeftOfCursor = Lemmas.EditorBodies.tfDeleteCharLeftOfCursor ∧
    Gen.EditorBodies.tfDeleteCursorToEndOfLine = Lemmas.EditorBodies.tfDeleteCursorToEndOfLine ∧
    Gen.EditorBodies.tfDraw = Lemmas.EditorBodies.tfDraw ∧
    Gen.EditorBodies.tfInsertLoop = Lemmas.EditorBodies.tfInsertLoop ∧
    Gen.EditorBodies.tfGraphemeCount = Lemmas.EditorBodies.tfGraphemeCount :=
  ⟨rfl, rfl, rfl, rfl, rfl, rfl, rfl, rfl, rfl, rfl, rfl⟩

end VaxisModel.Props.C17
