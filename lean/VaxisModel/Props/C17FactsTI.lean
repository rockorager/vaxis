import VaxisModel.Gen.EditorBodies
import VaxisModel.Lemmas.EditorBodies

/-! C17 — the statement texts of the textinput functions (`Gen/EditorBodies.lean`, regenerated every run); the only Gen tie of
    `textinput.Draw`, `isAlphaNumeric`, `widthToCursor`. -/
namespace VaxisModel.Props.C17
open VaxisModel

/-- The same for textinput: `SetContent`, every arm of `Update` with its loops, the final clamping followed by `m.resegment()` (F317), `resegment`, `Draw` with its prompt loop, scroll loop (F47, F117) and cell loop, `isAlphaNumeric`, `widthToCursor`. -/
theorem facts_textinput_bodies :
    Gen.EditorBodies.tiSetContent = Lemmas.EditorBodies.tiSetContent ∧
    Gen.EditorBodies.tiUpdate = Lemmas.EditorBodies.tiUpdate ∧
    Gen.EditorBodies.tiResegment = Lemmas.EditorBodies.tiResegment ∧
    Gen.EditorBodies.tiDraw = Lemmas.EditorBodies.tiDraw ∧
    Gen.EditorBodies.tiIsAlphaNumeric = Lemmas.EditorBodies.tiIsAlphaNumeric ∧
    Gen.EditorBodies.tiWidthToCursor = Lemmas.EditorBodies.tiWidthToCursor :=
  ⟨rfl, rfl, rfl, rfl, rfl, rfl⟩

end VaxisModel.Props.C17
