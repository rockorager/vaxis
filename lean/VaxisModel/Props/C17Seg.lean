import VaxisModel.Lemmas.Uax29Seg
import VaxisModel.Props.C17Body
import VaxisModel.Props.C17BodyTI

/-!
C17 — which segmentations meet the three laws.

Every *streaming* segmentation — one that reads the text code point by code point and decides from what
it has read and the next code point whether that code point joins the current cluster (the shape of
UAX #29's rules and of uniseg's state machine: `SnocSeg`) — is a `Segmentation`; the driver's UAX #29
oracle `clUax` (GB4, GB6–8, GB9, GB11, GB12/13; compared with the real uniseg on every op) is one, for
every assignment of classes to code points.  So the refinement theorems hold for it outright.
-/
namespace VaxisModel.Props.C17Seg
open VaxisModel.Spec.Editor (Segmentation runC)
open VaxisModel.Lemmas.SnocSeg VaxisModel.Lemmas.Uax29Seg VaxisModel.Spec.Uax29

/-- Appending one atom starts a new cluster or extends the last one ⇒ the three laws. -/
theorem streaming_is_segmentation {A : Type} (f : List A → List (List A)) (h : SnocSeg f) : Segmentation f :=
  segmentation_of_snocSeg f h

/-- The driver's UAX #29 oracle is a `Segmentation`, whatever the classes of the code points. -/
theorem uax29_oracle_is_segmentation (cls : Nat → Char) : Segmentation (clUax cls) :=
  segmentation_of_snocSeg _ (clUax_snocSeg cls)

open VaxisModel.Lemmas.EditorCl (TFOpC absC specOfC) in
open VaxisModel.Lemmas.EdLangTFBody in
/-- No hypothesis left: under the UAX #29 oracle, for every class assignment, every history and starting content,
    the TextField as translated from the source holds the ideal editor's text and cursor. -/
theorem textfield_source_refines_uax29 (cls : Nat → Char) (isWord : List Nat → Bool) (start : List Nat) (ops : List (TFOpC Nat)) :
    ∃ tf0 tf, tfStepI (clUax cls) VaxisModel.Model.TextFieldCl.new (.ins start) = some tf0 ∧ tfRunI (clUax cls) tf0 ops = some tf ∧
      absC (clUax cls) tf = runC (clUax cls) isWord ⟨clUax cls start, (clUax cls start).length⟩ (ops.map (specOfC (clUax cls))) ∧
      tf.cursor ≤ (clUax cls tf.value).length ∧ tf.n = (clUax cls tf.value).length :=
  VaxisModel.Props.C17Body.textfield_source_refines (clUax cls) (uax29_oracle_is_segmentation cls) isWord start ops

open VaxisModel.Lemmas.EdLangTIBody VaxisModel.Lemmas.TextInputCl in
/-- The same for textinput. -/
theorem textinput_source_refines_uax29 (cls : Nat → Char) (isAlnum : List Nat → Bool) (width : List Nat → Int) (start : List Nat)
    (ops : List (TIOpC Nat)) :
    ∃ m0 mf sops, tiStepI isAlnum (clUax cls) width VaxisModel.Model.TextInputCl.new (.set start) = some m0 ∧
      tiRunI isAlnum (clUax cls) width m0 ops = some (mf, sops) ∧
      tiAbsC mf = runC (clUax cls) isAlnum ⟨clUax cls start, (clUax cls start).length⟩ sops ∧
      0 ≤ mf.cursor ∧ mf.cursor ≤ mf.content.length ∧ mf.content = clUax cls mf.content.flatten :=
  VaxisModel.Props.C17Body.textinput_source_refines (clUax cls) (uax29_oracle_is_segmentation cls) isAlnum width start ops

/-- The oracle at work (classes: 0 Other, 1 Extend, 2 Regional_Indicator, 3 ZWJ, 4 Extended_Pictographic): a base with a
    combining mark, a flag followed by a lone indicator, an emoji ZWJ sequence. -/
example :
    let cls : Nat → Char := fun a => if a = 1 then 'E' else if a = 2 then 'R' else if a = 3 then 'Z' else if a = 4 then 'P' else 'O'
    clUax cls [0, 1, 0] = [[0, 1], [0]] ∧ clUax cls [2, 2, 2] = [[2, 2], [2]] ∧ clUax cls [4, 3, 4, 0] = [[4, 3, 4], [0]] := by
  decide

end VaxisModel.Props.C17Seg
