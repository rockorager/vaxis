/-
C18 — Styled-text codecs round-trip and all SGR producers and consumers agree.
Property theorems only; they are instances of `Lemmas/SgrCodec.lean` (the codecs as interfaces), which rests on
`Lemmas/Sgr.lean`, `Lemmas/SgrReads.lean` and `Lemmas/SgrAgree.lean`.

Vocabulary: `Spec.sgr` (Spec/Sgr.lean) is the meaning of one `CSI … m` on a terminal pen `TStyle`;
`shown : Style → TStyle` is what a terminal displays for a vaxis style; `apply t l` interprets the
sequences `l` one after the other from pen `t`.
-/
import VaxisModel.Lemmas.Sgr
import VaxisModel.Lemmas.SgrAgree
import VaxisModel.Lemmas.SgrCodec

namespace VaxisModel.Props.C18
open VaxisModel VaxisModel.Model.Sgr VaxisModel.Gen VaxisModel.Spec VaxisModel.Lemmas.Sgr
open VaxisModel.Model.Color (indexColor rgbColor)
open VaxisModel.Lemmas.SgrCodec (parseC emuC ssC encodeP ssP)
open VaxisModel.Lemmas.SgrReads (cells_id)

/-- The seven attribute bits of style.go are the single bits 1..7 of a `uint8` (bit 0 is unused). -/
theorem attr_bits :
    [SgrCases.AttrBold, SgrCases.AttrDim, SgrCases.AttrItalic, SgrCases.AttrBlink, SgrCases.AttrReverse,
     SgrCases.AttrInvisible, SgrCases.AttrStrikethrough] = [2 ^ 1, 2 ^ 2, 2 ^ 3, 2 ^ 4, 2 ^ 5, 2 ^ 6, 2 ^ 7] := by decide

/-- **attr_delta.** For *all* attribute masks `a b` (no bound: in particular all 128 × 128 masks over the
    seven defined bits), interpreting the codes the producers write for the transition `a → b` on a pen
    whose attributes are those of `a` gives the attributes of `b` and leaves everything else alone.
    Each bit is set by its own code and cleared by its own reset; bold and dim share
    reset 22 and the survivor is re-asserted. -/
theorem attr_delta (a b : Nat) (t : TStyle) :
    apply (withAttrs a t) (attrDelta a b) = withAttrs b t := attrDelta_correct a b t

example : attrDelta 6 4 = [[[22]], [[2]]] := by decide          -- bold+dim → dim: 22 then dim again
example : attrDelta 2 4 = [[[2]], [[22]], [[2]]] := by decide   -- bold → dim

/-- **pen_delta_correct (EncodeCells).** For every pair of styles (next underline style one of the six),
    with or without the legacy-SGR quirk: the sequences written between two cells turn a terminal
    showing `p` into one showing `n`. -/
theorem pen_delta_correct_encodeCells (legacy : Bool) (p n : Style) (hn : n.ulStyle ≤ 5) :
    apply (shown p) (encodeDelta legacy p n) = shown n := encodeDelta_correct legacy p n hn

/-- **pen_delta_correct (StyledString.Encode).** -/
theorem pen_delta_correct_ssEncode (legacy : Bool) (p n : Style) (hn : n.ulStyle ≤ 5) :
    apply (shown p) (ssDelta legacy p n) = shown n := ssDelta_correct legacy p n hn

/-- **pen_delta_correct (render).** For every capability setting: without `rgb` the terminal shows the
    palette fallback of direct colours, without `styledUnderlines` no underline colour and a single
    underline for every underline style (`shownCaps`). -/
theorem pen_delta_correct_render (rgb su legacy : Bool) (p n : Style) (hn : n.ulStyle ≤ 5) :
    apply (shownCaps rgb su p) (renderDelta rgb su legacy p n) = shownCaps rgb su n :=
  renderDelta_correct rgb su legacy p n hn

/-- The bounds checks the two `[][]int` consumers are written with (extracted: `Gen.SgrCases.parseSGRExt` / `emuSgrExt`, which
    `Model.Sgr.extColour` reads) are enough: the legacy form is read only when ≥ 3 parameters remain, its RGB variant only when ≥ 5
    remain.  (`sgr_total` rests on the extracted numbers: with `len(params[i:]) < 4` in the source the model would panic on
    `38;2;1;2` and this would not be provable.) -/
theorem cfgs_nums_ok : NumsOk parseCfg ∧ NumsOk emuCfg := ⟨parse_nums_ok, emu_nums_ok⟩

/-- **sgr_total.** No SGR consumer panics on any list of non-empty parameter lists (what the ansi
    parser and `strings.Split` produce), including truncated 38/48/58 forms. -/
theorem sgr_total (s : Style) (ps : Seq) (h : ∀ p ∈ ps, p ≠ []) :
    (∃ s', parseSGR s ps = .ok s') ∧ (∃ s', emuSgr s ps = .ok s') := 
  ⟨intSgr_ok parseCfg cfgs_nums_ok.1 s ps h, intSgr_ok emuCfg cfgs_nums_ok.2 s ps h⟩

/-- **sgr_total (NewStyledString).** On every list of non-empty lists of arbitrary sub-parameter texts. -/
theorem sgr_total_ss (dflt s : Style) (ps : List (List SubTok)) (h : ∀ p ∈ ps, p ≠ []) :
    ∃ s', ssSeqTok dflt s ps = .ok s' := by
  unfold ssSeqTok
  split
  · exact ⟨_, rfl⟩
  · exact ssLoop_ok ssCfg dflt ps h s

-- truncated forms return without panic and leave the style alone
example : (match parseSGR {} [[38]] with | .ok s => s == {} | _ => false) = true := by decide
example : (match parseSGR {} [[38], [5]] with | .ok s => s == {} | _ => false) = true := by decide
example : (match emuSgr {} [[48], [2], [1], [2]] with | .ok s => s == {} | _ => false) = true := by decide
example : (match parseSGR {} [[58, 2, 1]] with | .ok s => s == {} | _ => false) = true := by decide
-- the hypothesis is needed: an empty parameter (which the parser never produces) would panic
example : (match parseSGR {} [[]] with | .error _ => true | _ => false) = true := by decide

/-- **producers_range (EncodeCells).** Every sequence written for a transition into a style with one of
    the six underline styles is in the explicit, decidable set `emittableLegacy` (`emittable` without
    the quirk): solo codes, `4:n`, `38/48/58:5:n`, `38/48/58:2:r:g:b` with byte values, and the
    semicolon forms for 38/48. -/
theorem producers_range_encodeCells (legacy : Bool) (p n : Style) (hn : n.ulStyle ≤ 5) :
    ∀ x ∈ encodeDelta legacy p n, emittableLegacy x = true := encodeDelta_range legacy p n hn

/-- **label coverage** (over the regenerated `Gen.SgrCases`): every first parameter in the producers'
    range has a `case` in cell.go parseSGR, widgets/term sgr and NewStyledString, with the
    sub-parameter counts the producers use; parseSGR and the emulator also accept the legacy forms. -/
theorem label_coverage :
    covers parseCfg = true ∧ coversLegacy parseCfg = true ∧
    covers emuCfg = true ∧ coversLegacy emuCfg = true ∧
    covers ssCfg = true :=
  ⟨Lemmas.SgrCodec.parseCfg_covers.1, Lemmas.SgrCodec.parseCfg_covers.2, by decide, by decide, by decide⟩

/-- **consumer_refines_spec (parseSGR).** On everything a producer can write (legacy forms included)
    cell.go's parser does not panic and changes the style exactly as `Spec.sgr` changes the pen. -/
theorem consumer_refines_spec_parseSGR (s : Style) (q : Seq) (hq : emittableLegacy q = true) :
    ∃ s', parseSGR s q = .ok s' ∧ shown s' = Spec.sgr (shown s) q :=
  ⟨_, parseC.decodes s q hq, (decoded_spec s q hq).1⟩

/-- **consumer_refines_spec (embedded terminal).** -/
theorem consumer_refines_spec_emuSgr (s : Style) (q : Seq) (hq : emittableLegacy q = true) :
    ∃ s', emuSgr s q = .ok s' ∧ shown s' = Spec.sgr (shown s) q :=
  ⟨_, emuC.decodes s q hq, (decoded_spec s q hq).1⟩

/-- **producers_consumers_agree (parseSGR / embedded terminal).** Both understand every producible
    sequence identically (and as the spec does); on well-formed styles the resulting styles are equal. -/
theorem producers_consumers_agree_int (s : Style) (hs : s.wf) (q : Seq) (hq : emittableLegacy q = true) :
    ∃ s', parseSGR s q = .ok s' ∧ emuSgr s q = .ok s' ∧ shown s' = Spec.sgr (shown s) q :=
  ⟨_, parseC.decodes s q hq, emuC.decodes s q hq, (decoded_spec s q hq).1⟩

/-- **roundtrip_cells (EncodeCells / ParseStyledString).** For every sequence of cells with well-formed
    styles (graphemes are opaque self-delimiting tokens: A-concat), with or without the legacy quirk:
    parsing the encoded token sequence returns exactly the cells. -/
theorem roundtrip_cells {γ : Type} (legacy : Bool) (cs : List (Cell γ)) (hcs : ∀ c ∈ cs, c.st.wf) :
    parseStyled (encodeCells legacy cs) = .ok cs :=
  (parseC.reads_encoded (encodeP legacy) cs hcs).parseToks (cells_id cs)

/-- The same encoded string fed to the embedded terminal cell by cell gives the same cells. -/
theorem roundtrip_cells_emu {γ : Type} (legacy : Bool) (cs : List (Cell γ)) (hcs : ∀ c ∈ cs, c.st.wf) :
    parseToks emuSgr {} (encodeCells legacy cs) = .ok cs :=
  (emuC.reads_encoded (encodeP legacy) cs hcs).parseToks (cells_id cs)

-- non-vacuity of `Style.wf`: a well-formed style with every field non-default
example : Style.wf ⟨indexColor 200, rgbColor 1 2 3, indexColor 7, 3, 254⟩ :=
  ⟨Or.inr (Or.inl ⟨200, by decide, rfl⟩), Or.inr (Or.inr ⟨1, 2, 3, by decide, by decide, by decide, rfl⟩),
   Or.inr (Or.inl ⟨7, by decide, rfl⟩), by decide, by decide⟩

/-- **producers_range (StyledString.Encode)**: colon forms only, with or without the legacy quirk. -/
theorem producers_range_ssEncode (legacy : Bool) (p n : Style) (hn : n.ulStyle ≤ 5) :
    ∀ x ∈ ssDelta legacy p n, emittable x = true := ssDelta_range legacy p n hn

/-- **producers_range (render)**, for every capability setting. -/
theorem producers_range_render (rgb su legacy : Bool) (p n : Style) (hn : n.ulStyle ≤ 5) :
    ∀ x ∈ renderDelta rgb su legacy p n, emittableLegacy x = true := renderDelta_range rgb su legacy p n hn

/-- **consumer_refines_spec (NewStyledString)**, default style = zero style, on the whole range: the colon
    forms (since the `fix:` for F48, case "59") and the legacy semicolon forms that `EncodeCells` / `render`
    write under `VAXIS_FORCE_LEGACY_SGR` (since the `fix:` for F118, `legacySGRColor`). -/
theorem consumer_refines_spec_ssParse (s : Style) (q : Seq) (hq : emittableLegacy q = true) :
    ∃ s', ssSeq {} s q = .ok s' ∧ shown s' = Spec.sgr (shown s) q :=
  ⟨_, ssC.decodes s q hq, (decoded_spec s q hq).1⟩

/-- **producers_consumers_agree.** Every sequence any producer can write — `EncodeCells`, `StyledString.Encode`,
    `render`, colon forms and legacy semicolon forms alike — is understood identically by all three
    consumers (cell.go `parseSGR`, the embedded terminal, `NewStyledString`), and as `Spec.sgr` says; on
    well-formed styles they return the same style. Unconditional since the `fix:` for F118 (the statement
    restricted to the colon forms was all that held before: `Witness/F118.lean`). -/
theorem producers_consumers_agree (s : Style) (hs : s.wf) (q : Seq) (hq : emittableLegacy q = true) :
    ∃ s', parseSGR s q = .ok s' ∧ emuSgr s q = .ok s' ∧ ssSeq {} s q = .ok s' ∧
      shown s' = Spec.sgr (shown s) q :=
  ⟨_, parseC.decodes s q hq, emuC.decodes s q hq, ssC.decodes s q hq, (decoded_spec s q hq).1⟩

/-- The statement for the whole range, as a named proposition (it was false before the F118 repair). -/
def producers_consumers_agree_full : Prop :=
  ∀ (s : Style), s.wf → ∀ q, emittableLegacy q = true →
    ∃ s', parseSGR s q = .ok s' ∧ emuSgr s q = .ok s' ∧ ssSeq {} s q = .ok s' ∧ shown s' = Spec.sgr (shown s) q

theorem producers_consumers_agree_full_holds : producers_consumers_agree_full :=
  fun s hs q hq => producers_consumers_agree s hs q hq

/-- **All producers × all consumers × both format variants**, sequence by sequence: whatever `EncodeCells`,
    `StyledString.Encode` or `render` (any capabilities) writes for a transition `p → n`, with or without the
    legacy quirk, every consumer reads each of those sequences the same way. -/
theorem producers_consumers_agree_all (legacy rgb su : Bool) (p n : Style) (hn : n.ulStyle ≤ 5) (s : Style) (hs : s.wf)
    (q : Seq) (hq : q ∈ encodeDelta legacy p n ∨ q ∈ ssDelta legacy p n ∨ q ∈ renderDelta rgb su legacy p n) :
    ∃ s', parseSGR s q = .ok s' ∧ emuSgr s q = .ok s' ∧ ssSeq {} s q = .ok s' ∧
      shown s' = Spec.sgr (shown s) q := by
  apply producers_consumers_agree s hs q
  rcases hq with h | h | h
  · exact encodeDelta_range legacy p n hn q h
  · exact eml_of_em q (ssDelta_range legacy p n hn q h)
  · exact renderDelta_range rgb su legacy p n hn q h

/-- **Cross round trips**: `NewStyledString` reads back what `EncodeCells` wrote (with or without the legacy
    quirk), and `ParseStyledString` / the embedded terminal read back what `StyledString.Encode` wrote. -/
theorem roundtrip_cells_via_ss {γ : Type} (legacy : Bool) (cs : List (Cell γ)) (hcs : ∀ c ∈ cs, c.st.wf) :
    ssParse {} (encodeCells legacy cs) = .ok cs :=
  (ssC.reads_encoded (encodeP legacy) cs hcs).ssParseToks (cells_id cs)

theorem roundtrip_ss_via_cells {γ : Type} (legacy : Bool) (cs : List (Cell γ)) (hcs : ∀ c ∈ cs, c.st.wf) :
    parseStyled (ssEncode legacy cs) = .ok cs ∧ parseToks emuSgr {} (ssEncode legacy cs) = .ok cs :=
  ⟨(parseC.reads_encoded (ssP legacy) cs hcs).parseToks (cells_id cs),
   (emuC.reads_encoded (ssP legacy) cs hcs).parseToks (cells_id cs)⟩

/-- **roundtrip_cells (StyledString.Encode / NewStyledString).** Holds since the `fix:` for F48, and in every
    configuration (`Encode` writes private constant formats, `Gen.SgrCases.ssEncode…Mutable = false`; and since the
    F118 repair `NewStyledString` reads the legacy forms too). -/
theorem roundtrip_ss {γ : Type} (legacy : Bool) (cs : List (Cell γ)) (hcs : ∀ c ∈ cs, c.st.wf) :
    ssParse {} (ssEncode legacy cs) = .ok cs :=
  (ssC.reads_encoded (ssP legacy) cs hcs).ssParseToks (cells_id cs)

/-- **ends_reset (EncodeCells).** After the whole encoded string the parser's style is the zero style. -/
theorem ends_reset_cells {γ : Type} (legacy : Bool) (cs : List (Cell γ)) (hcs : ∀ c ∈ cs, c.st.wf) :
    penAfter parseSGR {} (encodeCells legacy cs) = .ok {} ∧ penAfter emuSgr {} (encodeCells legacy cs) = .ok {} :=
  ⟨(parseC.reads_encoded (encodeP legacy) cs hcs).penAfter, (emuC.reads_encoded (encodeP legacy) cs hcs).penAfter⟩

/-- **ends_reset (StyledString.Encode)**: the style `NewStyledString` would hold after the last
    sequence (it skips a sequence with nothing after it, which is unobservable) is the zero style. -/
theorem ends_reset_ss {γ : Type} (legacy : Bool) (cs : List (Cell γ)) (hcs : ∀ c ∈ cs, c.st.wf) :
    penAfter (ssSeq {}) {} (ssEncode legacy cs) = .ok {} :=
  (ssC.reads_encoded (ssP legacy) cs hcs).penAfter

/-- **encoded_shows / ends_reset at the terminal.** A terminal interpreting the encoded string with
    `Spec.sgr` shows at every grapheme exactly the style of its cell, and its pen is reset afterwards;
    for `EncodeCells`, `StyledString.Encode`, and a rendered frame under every capability setting. -/
theorem encoded_shows_cells {γ : Type} (legacy : Bool) (cs : List (Cell γ)) (hcs : ∀ c ∈ cs, c.st.ulStyle ≤ 5) :
    specRun TStyle.reset (encodeCells legacy cs) = (cs.map (fun c => (c.g, shown c.st)), TStyle.reset) :=
  ((encodeP legacy).shows_encoded cs hcs).specRun

theorem encoded_shows_ss {γ : Type} (legacy : Bool) (cs : List (Cell γ)) (hcs : ∀ c ∈ cs, c.st.ulStyle ≤ 5) :
    specRun TStyle.reset (ssEncode legacy cs) = (cs.map (fun c => (c.g, shown c.st)), TStyle.reset) :=
  ((ssP legacy).shows_encoded cs hcs).specRun

theorem render_frame_shows {γ : Type} (rgb su legacy : Bool) (cs : List (Cell γ)) (hcs : ∀ c ∈ cs, c.st.ulStyle ≤ 5) :
    specRun TStyle.reset (renderFrom rgb su legacy {} cs)
      = (cs.map (fun c => (c.g, shownCaps rgb su c.st)), TStyle.reset) :=
  (Lemmas.SgrCodec.shows_frame rgb su legacy cs hcs).specRun

/-- The three producers are the same code up to their colour format constants: in source order
    `EncodeCells`, `StyledString.Encode` and `render` reference the same 30 SGR constants (the styled
    string has its own four colour formats), then `sgrReset` (codecs) / the plain underline pair (render).
    The model's single `attrDelta` / `colourSeq` for all three rests on this. -/
theorem producers_same_shape :
    SgrCases.encodeCellsSgr.take 30 = SgrCases.renderSgr.take 30 ∧
    SgrCases.ssEncodeSgr = SgrCases.encodeCellsSgr.map (fun n =>
      if n = "fgIndexSet" then "ssFgIndexSet" else if n = "fgRGBSet" then "ssFgRGBSet"
      else if n = "bgIndexSet" then "ssBgIndexSet" else if n = "bgRGBSet" then "ssBgRGBSet" else n) ∧
    SgrCases.encodeCellsSgr.drop 30 = ["sgrReset"] ∧
    SgrCases.renderSgr.drop 30 = ["underlineReset", "underlineSet"] := by decide

/-- No other function of the root package writes SGR sequences (`disableModes` writes `sgrReset` on exit),
    and only the four colour formats can be rewritten, by `:` → `;` (the model's `legacyT`). -/
theorem sgr_writers :
    SgrCases.sgrUsers = ["Encode", "EncodeCells", "applyQuirks", "disableModes", "render"] ∧
    Sequences.mutableStrings = ["fgIndexSet", "fgRGBSet", "bgIndexSet", "bgRGBSet"] ∧
    SgrCases.quirkRewrites = [("fgIndexSet", ":", ";"), ("fgRGBSet", ":", ";"), ("bgIndexSet", ":", ";"),
      ("bgRGBSet", ":", ";")] := by decide

/-- `StyledString.Encode` writes its extended colours with formats the legacy quirk cannot rewrite (so its
    own output stays readable by `NewStyledString` in every configuration); `EncodeCells` and `render` use the
    mutable variables. -/
theorem encode_formats_mutability :
    (SgrCases.ssEncodeFgIndexMutable || SgrCases.ssEncodeFgRGBMutable || SgrCases.ssEncodeBgIndexMutable ||
      SgrCases.ssEncodeBgRGBMutable) = false ∧
    (SgrCases.encodeCellsFgIndexMutable && SgrCases.encodeCellsFgRGBMutable && SgrCases.encodeCellsBgIndexMutable &&
      SgrCases.encodeCellsBgRGBMutable && SgrCases.renderFgIndexMutable && SgrCases.renderFgRGBMutable &&
      SgrCases.renderBgIndexMutable && SgrCases.renderBgRGBMutable) = true := by decide

/-- The two `[][]int` consumers handle the same labels, arities and `4:n` sub-labels — as sets: neither the order of the
    `case` clauses nor the order of the `case <len>` clauses inside a `switch len(params[i])` matters. -/
theorem int_consumers_same_cases :
    VaxisModel.Lemmas.SgrAgree.sameSet SgrCases.parseSGRLabels SgrCases.emuSgrLabels = true ∧
    VaxisModel.Lemmas.SgrAgree.sameSet SgrCases.parseSGRUlSubs SgrCases.emuSgrUlSubs = true ∧
    VaxisModel.Lemmas.SgrAgree.aritiesSameB SgrCases.parseSGRArities SgrCases.emuSgrArities = true := by
  decide

end VaxisModel.Props.C18
