/-
C18: do the three SGR consumers agree on EVERY parameter list, not only on what the library produces?

* `parseSGR` (cell.go) and the embedded terminal's `sgr` (widgets/term): **yes, on every list, from every style** —
  `consumers_int_agree_all` (they are one loop over configurations that are equal as sets; panics included).
* `NewStyledString` against them: **no** (`consumers_agree_all_full_fails`).  EXACTLY on the decidable set `agreeExact`
  (`consumers_agree_iff`: evaluation at two probe styles decides agreement from every style).  It agrees on the syntactic class `agreeClass`
  (`consumers_agree_on_class`), which contains everything the three producers write (`producers_range_in_class`) and a
  good deal more (unknown codes, ignored sub-parameter counts, complete legacy forms anywhere in a list, a bare 38 at the
  very end); outside it the two readings differ in seven ways at the level of parameter lists, each with an evaluated witness
  (`disagreement_witnesses`), and in two more that exist only in the text (`disagreement_noncanonical_bytes`: `ESC[01;34m`, `ESC[;1m`):
    1. a truncated legacy form — `parseSGR` returns, `NewStyledString` reads the remaining parameters as codes of their own
       (`38;5` is blink, `1;48;2;10;20` — the seeded C18-m6 shape — is bold+dim);
    2. an unknown selector after a bare 38 (`38;7;1`): return vs. reverse+bold;
    3. a colon form with the wrong selector (`38:3:7`): return vs. index colour 7;
    4. the six-sub-parameter form with a colour-space slot (`38:2::1:2:3`): RGB vs. ignored;
    5. sub-parameters inside the look-ahead parameters (`38;5:1;7`): index 7 vs. blink+reverse;
    6. `4:k:…` with more than one sub-parameter (`4:3:9`): ignored vs. curly;
    7. anything after a malformed form (`38:3:7;1`): `parseSGR` has returned, `NewStyledString` goes on.
  Over strings: `string_parsers_agree_on_class` (`ParseStyledString(s)` = `NewStyledString(s)` whenever every sequence is in the class).
  None of these is in the producers' range, so none is a violation of the property text ("every sequence the library
  produces is understood identically", "an arbitrary parameter list never panics"); they are replayed on the real code as
  documentation cases (`corpus/C18/R4-*.ops`).
-/
import VaxisModel.Lemmas.SgrAgree
import VaxisModel.Lemmas.SgrShape
import VaxisModel.Props.C18
import VaxisModel.Props.C18Bytes

namespace VaxisModel.Props.C18Agree
open VaxisModel VaxisModel.Gen VaxisModel.Model.Sgr VaxisModel.Lemmas.Sgr VaxisModel.Lemmas.SgrAgree
open VaxisModel.Model.SgrBytes VaxisModel.Lemmas.SgrBytes VaxisModel.Lemmas.SgrShape

/-- **`parseSGR` = the embedded terminal's `sgr`, on EVERY parameter list from EVERY style** (as values of `Except Panic`,
    so they also panic on the same lists — the ones with an empty parameter, which the parser never delivers). -/
theorem consumers_int_agree_all (s : Style) (q : Seq) : parseSGR s q = emuSgr s q :=
  parse_eq_emu s q

/-- **On `agreeClass`, all three consumers compute the same style from every style** (default style = zero style). -/
theorem consumers_agree_on_class (s : Style) (q : Seq) (h : agreeClass q = true) :
    parseSGR s q = ssSeq {} s q ∧ emuSgr s q = ssSeq {} s q :=
  ⟨parse_eq_ss_on_class s q h, (parse_eq_emu s q).symm.trans (parse_eq_ss_on_class s q h)⟩

/-- **Everything the producers write is in the class** — so `producers_consumers_agree` also follows without the detour
    through `Spec.sgr`. -/
theorem producers_range_in_class (q : Seq) (hq : emittableLegacy q = true) : agreeClass q = true :=
  range_in_class q hq

/-- Both return, with different styles. -/
def disagree (s : Style) (q : Seq) : Bool :=
  match parseSGR s q, ssSeq {} s q with
  | .ok a, .ok b => a != b
  | _, _ => false

/-- One witness per way of disagreeing (see the file header), from the zero style. -/
def witnessTable : List Seq :=
  [[[38], [5]], [[1], [48], [2], [10], [20]], [[1], [3], [48], [2], [10]],   -- 1
   [[38], [7], [1]],                                                          -- 2
   [[38, 3, 7]], [[58, 5, 1, 2, 3]],                                          -- 3
   [[38, 2, 0, 1, 2, 3]],                                                     -- 4
   [[38], [5, 1], [7]], [[48], [5], [7, 3]],                                  -- 5
   [[4, 3, 9]],                                                               -- 6
   [[38, 3, 7], [1]]]                                                         -- 7

/-- **Each witness is read differently** by `parseSGR` (= the emulator) and `NewStyledString`, without panic, and lies
    outside `agreeClass`. -/
theorem disagreement_witnesses : witnessTable.all (fun q => disagree {} q && !agreeClass q) = true := by decide

-- what the two readings are, for the seeded C18-m6 shape and for `38;5`
example : (match parseSGR {} [[1], [48], [2], [10], [20]], ssSeq {} {} [[1], [48], [2], [10], [20]] with
    | .ok a, .ok b => decide (a = { attr := 2 } ∧ b = { attr := 6 }) | _, _ => false) = true := by decide
example : (match parseSGR {} [[38], [5]], ssSeq {} {} [[38], [5]] with
    | .ok a, .ok b => decide (a = {} ∧ b = { attr := 16 }) | _, _ => false) = true := by decide

-- in the class although malformed or unusual: both ignore / both stop at the end of the list
example : [[[38]], [[1], [38]], [[38, 2]], [[38, 2, 1, 2]], [[38, 2, 0, 1, 2, 3, 4]], [[4, 9]], [[4, 9, 1]], [[6]], [[21]], [[0]],
    [[1], [38], [5], [200], [3]], [[48], [2], [1], [2], [3], [38], [5], [0]]].all agreeClass = true := by decide

/-! For a fixed list each consumer is a transformer of the style of a very simple shape — every colour field and the underline
style kept or set to a constant, every attribute bit kept, set or cleared — or it panics whatever the style
(`Lemmas/SgrShape.lean`: `intSgr_shaped`, `ssSeq_shaped`).  Two such transformers agree everywhere iff they agree on the two
probes `⟨0,0,0,0,0⟩` and `⟨1,1,1,7,255⟩`.  So "agree from every style" is decidable by evaluation. -/

/-- **`parseSGR` (= the emulator) and `NewStyledString` give the same result on `q` from EVERY style with an 8-bit attribute
    mask (Go's `AttributeMask` is a `uint8`) if and only if `agreeExact q`** — the exact set of lists on which all three
    consumers agree; `agreeClass` is a syntactic part of it (`agreeClass_sub_exact`), strictly smaller (`exact_not_class`). -/
theorem consumers_agree_iff (q : Seq) :
    (∀ s : Style, s.attr < 256 → parseSGR s q = ssSeq {} s q ∧ emuSgr s q = ssSeq {} s q) ↔ agreeExact q = true := by
  constructor
  · intro h
    have h0 := (h probe0 (by decide)).1
    have h1 := (h probe1 (by decide)).1
    unfold agreeExact
    rw [h0, h1]
    have refl : ∀ r : Except Panic Style, sameRes r r = true := by
      intro r; cases r <;> simp [sameRes]
    rw [refl, refl]; rfl
  · intro h s hs
    have key : parseSGR s q = ssSeq {} s q := by
      unfold agreeExact at h
      rw [Bool.and_eq_true] at h
      obtain ⟨h0, h1⟩ := h
      rcases intSgr_shaped parseCfg q with ⟨F, hF, hf⟩ | hf <;> rcases ssSeq_shaped q with ⟨G, hG, hg⟩ | hg
      · have e0 : parseSGR probe0 q = .ok (F probe0) := hf probe0
        have e1 : parseSGR probe1 q = .ok (F probe1) := hf probe1
        rw [e0, hg] at h0
        rw [e1, hg] at h1
        simp only [sameRes, beq_iff_eq] at h0 h1
        show intSgr parseCfg s q = _
        rw [hf, hg, shaped_ext F G hF hG h0 h1 s hs]
      · have e0 : parseSGR probe0 q = .ok (F probe0) := hf probe0
        rw [e0, hg] at h0
        simp [sameRes] at h0
      · have e0 : parseSGR probe0 q = .error .index := hf probe0
        rw [e0, hg] at h0
        simp [sameRes] at h0
      · show intSgr parseCfg s q = _
        rw [hf, hg]
    exact ⟨key, (consumers_int_agree_all s q).symm.trans key⟩

/-- **Whether a consumer panics on a list does not depend on the style** (control flow never reads it): it panics from some
    style iff it panics from every style iff it panics from the zero style — so `sgr_total`'s "no panic" can be tested at one style. -/
theorem sgr_panic_style_independent (q : Seq) (s : Style) :
    (parseSGR s q = .error .index ↔ parseSGR {} q = .error .index) ∧
    (emuSgr s q = .error .index ↔ emuSgr {} q = .error .index) ∧
    (ssSeq {} s q = .error .index ↔ ssSeq {} {} q = .error .index) := by
  -- a consumer of either shape (`intSgr_shaped`, `ssSeq_shaped`) returns from every style or panics from every style
  have shaped : ∀ {f : Style → Except Panic Style},
      ((∃ F, Shaped F ∧ ∀ s, f s = .ok (F s)) ∨ (∀ s, f s = .error .index)) → (f s = .error .index ↔ f {} = .error .index) := by
    rintro f (⟨F, _, hf⟩ | hf)
    · rw [hf s, hf {}]; constructor <;> intro h <;> cases h
    · rw [hf s, hf {}]
  exact ⟨shaped (intSgr_shaped parseCfg q), shaped (intSgr_shaped emuCfg q), shaped (ssSeq_shaped q)⟩

theorem agreeClass_sub_exact (q : Seq) (h : agreeClass q = true) : agreeExact q = true :=
  (consumers_agree_iff q).mp (fun s _ => consumers_agree_on_class s q h)

/-- The class is strictly smaller: here later parameters undo the difference (`38;5:1;7;25;27;39`). -/
theorem exact_not_class : agreeExact [[38], [5, 1], [7], [25], [27], [39]] = true ∧
    agreeClass [[38], [5, 1], [7], [25], [27], [39]] = false := by decide

example : witnessTable.all (fun q => !agreeExact q) = true := by decide

/-- **The two string parsers return the same cells for every string whose SGR sequences are all in the class**
    (`ParseStyledString(s)` = `NewStyledString(s, Style{}).Cells`, as models over `List Nat`): parameters printed canonically
    and below 2^63, graphemes self-delimiting for the cluster oracle (`Good`). -/
theorem string_parsers_agree_on_class (cl : Str → Nat) (ts : List (Tok Seq Str)) (hg : Good cl ts)
    (hc : ∀ q, Tok.sgr q ∈ ts → agreeClass q = true) :
    parseStyledB cl (bytesOfToks ts) = newStyledStringB cl {} (bytesOfToks ts) := by
  obtain ⟨h1, h2⟩ := C18Bytes.consumers_bytes_eq cl {} ts hg
  rw [h1, h2]
  have hne : ∀ q, Tok.sgr q ∈ ts → ∀ p ∈ q, p ≠ [] := by
    intro q hq
    have : ∀ (l : List (Tok Seq Str)), Good cl l → Tok.sgr q ∈ l → VaxisModel.Lemmas.ParserParams.ParamsOk q := by
      intro l
      induction l with
      | nil => intro _ h; cases h
      | cons t r ih =>
        intro hgl hm
        cases t with
        | sgr q' =>
          rcases List.mem_cons.mp hm with h | h
          · cases h; exact hgl.1
          · exact ih hgl.2 h
        | text g =>
          rcases List.mem_cons.mp hm with h | h
          · cases h
          · exact ih hgl.2.2 h
    intro p hp
    exact (this ts hg hq p hp).1
  exact toks_agree parseSGR (ssSeq {}) (fun q => agreeClass q = true)
    (fun s q h => (consumers_agree_on_class s q h).1) ts {} hc
    (parseToks_no_error parseSGR (fun s q h => intSgr_ok parseCfg C18.cfgs_nums_ok.1 s q h) ts {} hne)

-- non-vacuity: a string with a complete legacy form after another parameter, an unknown code and an ignored form (evaluated)
example : Good (fun _ => 1) [.sgr [[1], [38], [5], [200]], .text [0x61], .sgr [[6], [38, 2, 1, 2]], .text [0x62]] ∧
    [[[1], [38], [5], [200]], [[6], [38, 2, 1, 2]]].all agreeClass = true :=
  ⟨⟨by intro p hp; simp at hp; rcases hp with h | h | h | h <;> subst h <;> constructor <;> simp,
    ⟨0x61, [], rfl, by decide⟩, rfl,
    by intro p hp; simp at hp; rcases hp with h | h <;> subst h <;> constructor <;> simp,
    ⟨0x62, [], rfl, by decide⟩, rfl, trivial⟩, by decide⟩
example : (match parseStyledB (fun _ => 1) (bytesOfToks [.sgr [[1], [38], [5], [200]], .text [0x61], .sgr [[6], [38, 2, 1, 2]], .text [0x62]]),
      newStyledStringB (fun _ => 1) {} (bytesOfToks [.sgr [[1], [38], [5], [200]], .text [0x61], .sgr [[6], [38, 2, 1, 2]], .text [0x62]]) with
    | .ok a, .ok b => decide (a = b ∧ a.length = 2) | _, _ => false) = true := by decide +kernel

/-! Two more ways of disagreeing that exist only at the byte level (the `[][]int` consumers never see the text):
    8. numerals that are not canonical — `ESC[01;34m`, what `ls --color` writes: bold blue for `ParseStyledString`, only blue for
       `NewStyledString` (its `case "1"` is a string comparison);
    9. empty parameter texts — `ESC[;1m` from a busy pen: reset + bold for `ParseStyledString` (the parser delivers 0 for the
       empty parameter), only bold for `NewStyledString`. -/

/-- `ESC[01;34m a`. -/
def exLsColor : Str := [0x1B, 0x5B, 0x30, 0x31, 0x3B, 0x33, 0x34, 0x6D, 0x61]
/-- `ESC[3m a ESC[;1m b`. -/
def exEmptyParam : Str := [0x1B, 0x5B, 0x33, 0x6D, 0x61, 0x1B, 0x5B, 0x3B, 0x31, 0x6D, 0x62]

theorem disagreement_noncanonical_bytes :
    (match parseStyledB (fun _ => 1) exLsColor, newStyledStringB (fun _ => 1) {} exLsColor with
     | .ok a, .ok b => a.map (·.st.attr) == [2] && b.map (·.st.attr) == [0] && a.map (·.st.fg) == b.map (·.st.fg)
     | _, _ => false) = true ∧
    (match parseStyledB (fun _ => 1) exEmptyParam, newStyledStringB (fun _ => 1) {} exEmptyParam with
     | .ok a, .ok b => a.map (·.st.attr) == [8, 2] && b.map (·.st.attr) == [8, 10]
     | _, _ => false) = true := by decide

/-- The statement "all three consumers agree on every parameter list". -/
def consumers_agree_all_full : Prop :=
  ∀ (s : Style) (q : Seq), parseSGR s q = emuSgr s q ∧ parseSGR s q = ssSeq {} s q

/-- **It is false** (the `parseSGR` / emulator half is `consumers_int_agree_all`): `38;5`. -/
theorem consumers_agree_all_full_fails : ¬ consumers_agree_all_full := by
  intro h
  have h' := (h {} [[38], [5]]).2
  have hd : disagree {} [[38], [5]] = true := by decide
  unfold disagree at hd
  rw [h'] at hd
  revert hd
  cases ssSeq {} {} [[38], [5]] <;> simp

end VaxisModel.Props.C18Agree
