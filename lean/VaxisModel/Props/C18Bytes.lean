/-
C18 at the byte level: the round-trip and agreement theorems of `Props/C18.lean` as statements about
strings (`List Nat` of code units), composed with C02's parser model (`Props.C02.csi_roundtrip`).

* producers: `encodeCellsB` / `ssEncodeB` / `renderDeltaB` print the *regenerated format strings*
  (`Gen.Sequences.«name» : String`) with `%d`; they are the token-level producers printed canonically
  (`*_bytes_eq`), which also removes the extractor's template parsing from the trusted base: every
  `«name»_t` the token-level model uses is proved to be what its string prints (`Lemmas.SgrBytes.b_*`);
* consumers: `parseStyledB` = C02 automaton + cluster oracle + `parseSGR`; `newStyledStringB` = its own
  `HasPrefix / Cut / Split / Atoi` + exact-string labels;
* hypotheses: well-formed styles (the property's quantifier) and `TextOK cl …` — every grapheme is non-empty,
  starts with a rune ≥ 0x20 and is one grapheme cluster of the text that follows it (A-concat for the
  uniseg oracle `cl`; the harness checks it by running the real functions on the real strings).
-/
import VaxisModel.Lemmas.SgrCodecBytes
import VaxisModel.Props.C18
import VaxisModel.Lemmas.SgrFlowExpected

namespace VaxisModel.Props.C18Bytes
open VaxisModel VaxisModel.Gen VaxisModel.Model.Sgr VaxisModel.Model.SgrBytes VaxisModel.Lemmas.Sgr
open VaxisModel.Lemmas.SgrBytes VaxisModel.Lemmas.ParserParams VaxisModel.Spec
open VaxisModel.Model.Parser (PState run)
open VaxisModel.Model.Color (indexColor rgbColor)
open VaxisModel.Lemmas.SgrCodec (parseC emuC ssP encodePB ssPB ProducerB producer_read)

/-- Every string constant of SGR shape is ASCII (so bytes and runes coincide in what the producers write). -/
theorem sgr_strings_ascii :
    (Sequences.strings.filter (fun p => Sequences.sgrTemplates.any (·.1 == p.1))).all
      (fun p => p.2.toList.all (fun c => c.toNat < 128)) = true := by decide +kernel

/-- The format strings print the templates: each of the 34 SGR constants the producers use, `WriteString`-ed
    or printed with `%d`, is `ESC [ <canonical printing of its instantiated template> m`. (Representative
    conjunction; all of them are in `Lemmas/SgrBytes.lean`, and the producer equalities below use every one.) -/
theorem format_strings_print_templates :
    bytesOf Sequences.boldDimReset = csiM boldDimResetQ ∧ bytesOf Sequences.sgrReset = csiM sgrResetQ ∧
    (∀ i, i < 8 → sprintf (bytesOf Sequences.fgBrightSet) [i] = csiM (fmt Sequences.fgBrightSet_t [i])) ∧
    (∀ n, sprintf (bytesOf Sequences.ulStyleSet) [n] = csiM (fmt Sequences.ulStyleSet_t [n])) ∧
    (∀ legacy r g b, sprintf (qB legacy (bytesOf SgrCases.encodeCellsFgRGB_s)) [r, g, b] =
      csiM (fmt (q legacy Sequences.fgRGBSet_t) [r, g, b])) ∧
    (∀ legacy n, sprintf (qB (legacy && SgrCases.ssEncodeBgIndexMutable) (bytesOf SgrCases.ssEncodeBgIndex_s)) [n] =
      csiM (fmt (ssT legacy SgrCases.ssEncodeBgIndexMutable SgrCases.ssEncodeBgIndex_t) [n])) :=
  ⟨b_boldDimReset, b_sgrReset, fun i _ => b_fgBrightSet i, b_ulStyleSet, b_encodeCellsFgRGB, b_ssBgIndex⟩

/-- What `EncodeCells` / `StyledString.Encode` / `render` write between two cells, byte for byte, is the
    canonical printing of the token-level model's sequences; for all styles, with or without the legacy quirk. -/
theorem delta_bytes_eq (legacy rgb su : Bool) (p n : Style) :
    encodeDeltaB legacy p n = bytesOfSeqs (encodeDelta legacy p n) ∧
    ssDeltaB legacy p n = bytesOfSeqs (ssDelta legacy p n) ∧
    renderDeltaB rgb su legacy p n = bytesOfSeqs (renderDelta rgb su legacy p n) :=
  ⟨encodeDeltaB_eq legacy p n, ssDeltaB_eq legacy p n, renderDeltaB_eq rgb su legacy p n⟩

theorem encodeCells_bytes_eq (legacy : Bool) (cs : List (Cell Str)) :
    encodeCellsB legacy cs = bytesOfToks (encodeCells legacy cs) :=
  (encodePB legacy).bytes_encoded cs

theorem ssEncode_bytes_eq (legacy : Bool) (cs : List (Cell Str)) :
    ssEncodeB legacy cs = bytesOfToks (ssEncode legacy cs) :=
  (ssPB legacy).bytes_encoded cs

/-- Everything a producer can write has printable parameters (non-empty, below 2^63). -/
theorem emitted_params_ok (q : Seq) (h : emittableLegacy q = true) : ParamsOk q := paramsOk_of_eml q h

/-- **print ∘ parse = id on the producers' range** (colon sub-parameter forms and legacy semicolon forms):
    from any parser state with no control string pending, the bytes of a producible SGR sequence deliver
    exactly one CSI item with final `m`, no intermediates and exactly that parameter list. -/
theorem sgr_bytes_parse (s : PState) (he : s.exit = none) (q : Seq) (hq : emittableLegacy q = true) :
    run s (csiM q) =
      ({ s with state := .ground, inter := [], params := encParams q, ignoreST := false },
       [.csi [] (q.map (·.map Int.ofNat)) 0x6D]) :=
  run_csiM s he q (paramsOk_of_eml q hq)

/-- `NewStyledString`'s own splitting reads the same parameter list (as canonical numerals) from those bytes. -/
theorem sgr_bytes_split (q : Seq) (hq : emittableLegacy q = true) (hne : q ≠ []) (rest : Str) :
    cutM (encParams q ++ 0x6D :: rest) = (encParams q, rest) ∧
    splitParams (encParams q) = q.map (·.map tokN) :=
  ⟨cutM_append _ _ (encParams_no_m q), splitParams_encParams q (paramsOk_of_eml q hq) hne⟩

/-- **Byte level = token level, for any token sequence** with printable parameter lists and good text:
    `ParseStyledString` and `NewStyledString` on the printed string are the token-level consumers. -/
theorem consumers_bytes_eq (cl : Str → Nat) (dflt : Style) (ts : List (Tok Seq Str)) (hg : Good cl ts) :
    parseStyledB cl (bytesOfToks ts) = parseStyled ts ∧
    newStyledStringB cl dflt (bytesOfToks ts) = ssParse dflt ts :=
  ⟨parseStyledB_toks cl ts hg, newStyledStringB_toks cl dflt ts hg⟩

/-- **roundtrip_cells over bytes**: `ParseStyledString(EncodeCells(cells)) = cells`. -/
theorem roundtrip_cells_bytes (cl : Str → Nat) (legacy : Bool) (cs : List (Cell Str)) (hcs : ∀ c ∈ cs, c.st.wf)
    (ht : TextOK cl (encodeCells legacy cs)) :
    parseStyledB cl (encodeCellsB legacy cs) = .ok cs := by
  exact (producer_read (encodePB legacy) cl _ _ (parseStyledB_toks cl) cs (ul_of_wf cs hcs) ht).trans
    (C18.roundtrip_cells legacy cs hcs)

/-- **roundtrip_ss over bytes**: `NewStyledString(ss.Encode(), Style{}).Cells = ss.Cells`. -/
theorem roundtrip_ss_bytes (cl : Str → Nat) (legacy : Bool) (cs : List (Cell Str)) (hcs : ∀ c ∈ cs, c.st.wf)
    (ht : TextOK cl (ssEncode legacy cs)) :
    newStyledStringB cl {} (ssEncodeB legacy cs) = .ok cs := by
  exact (producer_read (ssPB legacy) cl _ _ (newStyledStringB_toks cl {}) cs (ul_of_wf cs hcs) ht).trans
    (C18.roundtrip_ss legacy cs hcs)

/-- **Cross round trips over bytes** (all codecs × both format variants): `NewStyledString` reads back what
    `EncodeCells` wrote — also under `VAXIS_FORCE_LEGACY_SGR`, since the F118 repair — and `ParseStyledString`
    reads back what `StyledString.Encode` wrote. -/
theorem roundtrip_cross_bytes (cl : Str → Nat) (legacy : Bool) (cs : List (Cell Str)) (hcs : ∀ c ∈ cs, c.st.wf) :
    (TextOK cl (encodeCells legacy cs) → newStyledStringB cl {} (encodeCellsB legacy cs) = .ok cs) ∧
    (TextOK cl (ssEncode legacy cs) → parseStyledB cl (ssEncodeB legacy cs) = .ok cs) := by
  exact ⟨fun ht => (producer_read (encodePB legacy) cl _ _ (newStyledStringB_toks cl {}) cs (ul_of_wf cs hcs) ht).trans
      (C18.roundtrip_cells_via_ss legacy cs hcs),
   fun ht => (producer_read (ssPB legacy) cl _ _ (parseStyledB_toks cl) cs (ul_of_wf cs hcs) ht).trans
      (C18.roundtrip_ss_via_cells legacy cs hcs).1⟩

/-- **The parser's items for an encoded string are its token sequence** — so every token-level theorem of `Props/C18.lean`
    (`encoded_shows_*`: a `Spec.sgr` terminal shows each cell's style; `ends_reset_*`; the emulator round trip) is a statement
    about what the C02 parser model delivers for the bytes `EncodeCells` / `StyledString.Encode` write. -/
theorem tokenize_encoded (cl : Str → Nat) (legacy : Bool) (cs : List (Cell Str)) (hcs : ∀ c ∈ cs, c.st.ulStyle ≤ 5) :
    (TextOK cl (encodeCells legacy cs) → tokenize cl (encodeCellsB legacy cs) = (encodeCells legacy cs).map itemOf) ∧
    (TextOK cl (ssEncode legacy cs) → tokenize cl (ssEncodeB legacy cs) = (ssEncode legacy cs).map itemOf) := by
  exact ⟨producer_read (encodePB legacy) cl _ _ (tokenize_toks cl) cs hcs,
    producer_read (ssPB legacy) cl _ _ (tokenize_toks cl) cs hcs⟩

/-- **ends_reset over bytes**: after the whole string `EncodeCells` writes has gone through the parser, the style held by
    `parseSGR` and the pen of the embedded terminal are the zero style. -/
theorem ends_reset_cells_bytes (cl : Str → Nat) (legacy : Bool) (cs : List (Cell Str)) (hcs : ∀ c ∈ cs, c.st.wf)
    (ht : TextOK cl (encodeCells legacy cs)) :
    penOf parseSGR {} (tokenize cl (encodeCellsB legacy cs)) = .ok {} ∧
    penOf emuSgr {} (tokenize cl (encodeCellsB legacy cs)) = .ok {} := by
  rw [(tokenize_encoded cl legacy cs (ul_of_wf cs hcs)).1 ht, penOf_items, penOf_items]
  exact C18.ends_reset_cells legacy cs hcs

/-- The same for `StyledString.Encode`'s string read by the parser-based consumers. -/
theorem ends_reset_ss_bytes (cl : Str → Nat) (legacy : Bool) (cs : List (Cell Str)) (hcs : ∀ c ∈ cs, c.st.wf)
    (ht : TextOK cl (ssEncode legacy cs)) :
    penOf parseSGR {} (tokenize cl (ssEncodeB legacy cs)) = .ok {} ∧
    penOf emuSgr {} (tokenize cl (ssEncodeB legacy cs)) = .ok {} := by
  rw [(tokenize_encoded cl legacy cs (ul_of_wf cs hcs)).2 ht, penOf_items, penOf_items]
  exact ⟨(parseC.reads_encoded (ssP legacy) cs hcs).penAfter, (emuC.reads_encoded (ssP legacy) cs hcs).penAfter⟩

/-- **producers_consumers_agree over bytes**: the string `<any producible SGR sequence><a grapheme>` is read by
    `ParseStyledString` and by `NewStyledString` as the same single cell, whose style shows what `Spec.sgr`
    says the sequence means. -/
theorem producers_consumers_agree_bytes (cl : Str → Nat) (q : Seq) (hq : emittableLegacy q = true)
    (g : Str) (hg : ∃ c g', g = c :: g' ∧ 0x20 ≤ c) (hcl : cl g = g.length) :
    ∃ s', parseStyledB cl (csiM q ++ g) = .ok [⟨g, s'⟩] ∧ newStyledStringB cl {} (csiM q ++ g) = .ok [⟨g, s'⟩] ∧
      shown s' = Spec.sgr TStyle.reset q := by
  have hgood : Good cl [Tok.sgr q, Tok.text g] :=
    ⟨paramsOk_of_eml q hq, hg, by simpa [bytesOfToks] using hcl, trivial⟩
  have hb : bytesOfToks [Tok.sgr q, Tok.text g] = csiM q ++ g := by simp [bytesOfToks, tokBytes]
  obtain ⟨s', h1, _, h3, e⟩ := C18.producers_consumers_agree {} wf_default q hq
  refine ⟨s', ?_, ?_, by rw [e, shown_default]⟩
  · rw [← hb, parseStyledB_toks cl _ hgood]
    simp [parseStyled, parseToks, h1]
  · rw [← hb, newStyledStringB_toks cl {} _ hgood]
    simp [ssParse, ssParseToks, h3]

open VaxisModel.Lemmas in
/-- `NewStyledString`: the three cases of its loop in this order (CSI, OSC 8, default), the CSI case's statements (`TrimPrefix`,
    `Cut(s, "m")`, the two early exits, `Split(seq, ";")`, the index loop), the OSC 8 case (`Cut(s, ST)`, `Cut(seq, ";")`), the
    clustering call of the default case, and `legacySGRColor` — what `SgrBytes.nssLoop`, `cutM`, `splitParams`, `cutST` and
    `Sgr.ssLegacy` transcribe. -/
theorem facts_new_styled_string :
    SgrCases.nssCases = SgrFlowExpected.nssCases ∧ SgrCases.nssCsi = SgrFlowExpected.nssCsi ∧
    SgrCases.nssOsc8 = SgrFlowExpected.nssOsc8 ∧ SgrCases.nssDefault = SgrFlowExpected.nssDefault ∧
    SgrCases.legacySGRColorBody = SgrFlowExpected.legacySGRColorBody := by decide +kernel

open VaxisModel.Lemmas in
/-- `ParseStyledString`'s loop over the parser's items (`SgrBytes.cellsOf`: Print ⇒ a cell with the current style; CSI with final
    `m`, whatever its intermediates ⇒ `parseSGR`; everything else ignored) and the tails of the two encoders (close an open
    hyperlink, `sgrReset` unless the cursor style is the zero value: `SgrLinks.encodeFromBL`). -/
theorem facts_parse_and_tails :
    SgrCases.parseStyledLoop = SgrFlowExpected.parseStyledLoop ∧
    SgrCases.encodeCellsTail = SgrFlowExpected.encodeCellsTail ∧ SgrCases.ssEncodeTail = SgrFlowExpected.ssEncodeTail := by
  decide +kernel

/-- A cluster oracle for the examples: `b` followed by a combining acute accent is one cluster. -/
def exCl (s : Str) : Nat := match s with | 0x62 :: 0x301 :: _ => 2 | _ => 1

example : TextOK exCl (encodeCells true [⟨[0x61], { attr := 2 }⟩, ⟨[0x62, 0x301], {}⟩]) := by
  have : encodeCells true [⟨[0x61], { attr := 2 }⟩, ⟨[0x62, 0x301], {}⟩]
      = [.sgr [[1]], .text [0x61], .sgr [[22]], .text [0x62, 0x301]] := by decide
  rw [this]
  exact ⟨⟨0x61, [], rfl, by decide⟩, rfl, ⟨0x62, [0x301], rfl, by decide⟩, rfl, trivial⟩

end VaxisModel.Props.C18Bytes
