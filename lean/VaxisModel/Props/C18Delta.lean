/-
C18: **the SGR delta of every producer is read back by every consumer** — nine ∀-theorems
`delta_<producer>_<consumer>`, producer ∈ {encodeCells, ssEncode, render}, consumer ∈ {parseSGR, emuSgr, ssParse}.

For ALL well-formed styles `p n` — hence all 128 × 128 attribute masks over the seven defined bits, all colour
classes (default, 0-7, 8-15, 16-255, RGB) for foreground, background and underline colour, all 6 × 6 underline
styles — with and without the legacy quirk, and for the renderer under every capability setting: folding the
consumer from `p` over the sequences the producer writes for the transition `p → n` does not panic and ends in
exactly `n` (for the renderer: in `capStyle rgb su n`, the style that shows what such a terminal shows for `n`,
starting from `capStyle rgb su p`; with full capabilities that is `n` itself: `delta_render_fullcaps`).
No sampling: each is a corollary of `pen_delta_correct_*` (producer ⊑ Spec.sgr), `producers_range_*`,
`consumer_refines_spec_*` (consumer ⊑ Spec.sgr on the range) and `shown` being injective on well-formed styles.
-/
import VaxisModel.Lemmas.SgrDelta
import VaxisModel.Props.C18
import VaxisModel.Lemmas.SgrCodec

namespace VaxisModel.Props.C18Delta
open VaxisModel VaxisModel.Gen VaxisModel.Model.Sgr VaxisModel.Spec VaxisModel.Lemmas.Sgr VaxisModel.Lemmas.SgrDelta
open VaxisModel.Model.Color (indexColor rgbColor)
open VaxisModel.Lemmas.SgrCodec (parseC emuC ssC encodeP ssP renderP)

theorem delta_encodeCells_parseSGR (legacy : Bool) (p n : Style) (hp : p.wf) (hn : n.wf) :
    foldC parseSGR p (encodeDelta legacy p n) = .ok n :=
  parseC.reads_delta (encodeP legacy) p n hp hn

theorem delta_encodeCells_emuSgr (legacy : Bool) (p n : Style) (hp : p.wf) (hn : n.wf) :
    foldC emuSgr p (encodeDelta legacy p n) = .ok n :=
  emuC.reads_delta (encodeP legacy) p n hp hn

/-- `NewStyledString` (default style = zero style) on what `EncodeCells` writes, legacy semicolon forms included. -/
theorem delta_encodeCells_ssParse (legacy : Bool) (p n : Style) (hp : p.wf) (hn : n.wf) :
    foldC (ssSeq {}) p (encodeDelta legacy p n) = .ok n :=
  ssC.reads_delta (encodeP legacy) p n hp hn

theorem delta_ssEncode_parseSGR (legacy : Bool) (p n : Style) (hp : p.wf) (hn : n.wf) :
    foldC parseSGR p (ssDelta legacy p n) = .ok n :=
  parseC.reads_delta (ssP legacy) p n hp hn

theorem delta_ssEncode_emuSgr (legacy : Bool) (p n : Style) (hp : p.wf) (hn : n.wf) :
    foldC emuSgr p (ssDelta legacy p n) = .ok n :=
  emuC.reads_delta (ssP legacy) p n hp hn

theorem delta_ssEncode_ssParse (legacy : Bool) (p n : Style) (hp : p.wf) (hn : n.wf) :
    foldC (ssSeq {}) p (ssDelta legacy p n) = .ok n :=
  ssC.reads_delta (ssP legacy) p n hp hn

theorem delta_render_parseSGR (rgb su legacy : Bool) (p n : Style) (hp : p.wf) (hn : n.wf) :
    foldC parseSGR (capStyle rgb su p) (renderDelta rgb su legacy p n) = .ok (capStyle rgb su n) :=
  parseC.reads_delta (renderP rgb su legacy) p n hp hn

theorem delta_render_emuSgr (rgb su legacy : Bool) (p n : Style) (hp : p.wf) (hn : n.wf) :
    foldC emuSgr (capStyle rgb su p) (renderDelta rgb su legacy p n) = .ok (capStyle rgb su n) :=
  emuC.reads_delta (renderP rgb su legacy) p n hp hn

theorem delta_render_ssParse (rgb su legacy : Bool) (p n : Style) (hp : p.wf) (hn : n.wf) :
    foldC (ssSeq {}) (capStyle rgb su p) (renderDelta rgb su legacy p n) = .ok (capStyle rgb su n) :=
  ssC.reads_delta (renderP rgb su legacy) p n hp hn

/-- With full capabilities the renderer's delta is read back as exactly the next style by all three consumers. -/
theorem delta_render_fullcaps (legacy : Bool) (p n : Style) (hp : p.wf) (hn : n.wf) :
    foldC parseSGR p (renderDelta true true legacy p n) = .ok n ∧
    foldC emuSgr p (renderDelta true true legacy p n) = .ok n ∧
    foldC (ssSeq {}) p (renderDelta true true legacy p n) = .ok n := by
  have h1 := delta_render_parseSGR true true legacy p n hp hn
  have h2 := delta_render_emuSgr true true legacy p n hp hn
  have h3 := delta_render_ssParse true true legacy p n hp hn
  rw [capStyle_full, capStyle_full] at h1 h2 h3
  exact ⟨h1, h2, h3⟩

/-- What the consumer holds on a limited terminal is well formed and shows exactly what `shownCaps` says
    (the palette fallback is an index colour: `asIndex_wf`, by the shape of C07's model of `Color.asIndex`). -/
theorem capStyle_spec (rgb su : Bool) (s : Style) (hs : s.wf) :
    (capStyle rgb su s).wf ∧ shown (capStyle rgb su s) = shownCaps rgb su s :=
  ⟨capStyle_wf rgb su s hs, shown_capStyle rgb su s⟩

/-- The quantifier covers every attribute mask over the seven bits: each even `a < 256` is the mask of a well-formed style
    (so the nine theorems contain all 128 × 128 attribute pairs). -/
theorem every_mask_wf (a : Nat) (ha : a < 256) (he : a % 2 = 0) (c1 c2 c3 : Nat) (h1 : c1 < 256) (h2 : c2 < 256) (h3 : c3 < 256)
    (u : Nat) (hu : u ≤ 5) :
    Style.wf ⟨indexColor c1, rgbColor c1 c2 c3, indexColor c3, u, a⟩ :=
  ⟨Or.inr (Or.inl ⟨c1, h1, rfl⟩), Or.inr (Or.inr ⟨c1, c2, c3, h1, h2, h3, rfl⟩), Or.inr (Or.inl ⟨c3, h3, rfl⟩), hu,
    -- 128 masks: a finite fact about one `&&&`
    (by decide +kernel : ∀ a, a < 256 → a % 2 = 0 → a &&& allAttrs = a) a ha he⟩

-- a concrete instance, evaluated: bold+dim+red-on-RGB → dim+index 200, through the renderer without rgb, read by the emulator
example : (match foldC emuSgr (capStyle false true ⟨indexColor 1, rgbColor 1 2 3, 0, 0, 6⟩)
      (renderDelta false true true ⟨indexColor 1, rgbColor 1 2 3, 0, 0, 6⟩ ⟨indexColor 200, 0, 0, 3, 4⟩) with
    | .ok s => decide (s = ⟨indexColor 200, 0, 0, 3, 4⟩) | .error _ => false) = true := by decide

end VaxisModel.Props.C18Delta
