/-
C18: the nine producer × consumer delta statements of `Props/C18Delta.lean` over BYTES.

The bytes a producer writes between two cells (`encodeDeltaB` / `ssDeltaB` / `renderDeltaB`: the regenerated format strings
printed with `%d`) are read
* by C02's parser model (`tokenize`) into items whose SGR sequences, folded by `parseSGR` / the embedded terminal's `sgr`
  from the previous style, end in exactly the next style (`penOf`);
* by `NewStyledString`'s own loop (`nssLoop`, started in the previous style) followed by a grapheme, as one cell with
  exactly the next style.
For all well-formed styles, both format variants, every capability setting of the renderer.
-/
import VaxisModel.Lemmas.SgrCodecBytes
import VaxisModel.Props.C18Delta

namespace VaxisModel.Props.C18DeltaBytes
open VaxisModel VaxisModel.Gen VaxisModel.Model.Sgr VaxisModel.Model.SgrBytes VaxisModel.Lemmas.Sgr
open VaxisModel.Lemmas.SgrBytes VaxisModel.Lemmas.SgrDelta VaxisModel.Lemmas.ParserParams
open VaxisModel.Lemmas.SgrCodec (parseC emuC encodePB ssPB renderPB nss_delta_bytes)

/-- **EncodeCells' delta over bytes**, read by all three consumers. -/
theorem delta_encodeCells_bytes (cl : Str → Nat) (legacy : Bool) (p n : Style) (hp : p.wf) (hn : n.wf)
    (g : Str) (hg : ∃ c g', g = c :: g' ∧ 0x20 ≤ c) (hcl : cl g = g.length) :
    penOf parseSGR p (tokenize cl (encodeDeltaB legacy p n)) = .ok n ∧
    penOf emuSgr p (tokenize cl (encodeDeltaB legacy p n)) = .ok n ∧
    nssLoop cl {} (encodeDeltaB legacy p n ++ g).length p (encodeDeltaB legacy p n ++ g) = .ok [⟨g, n⟩] :=
  ⟨parseC.pen_delta_bytes (encodePB legacy) cl p n hp hn, emuC.pen_delta_bytes (encodePB legacy) cl p n hp hn,
    nss_delta_bytes (encodePB legacy) cl p n hp hn g hg hcl⟩

/-- **StyledString.Encode's delta over bytes**, read by all three consumers. -/
theorem delta_ssEncode_bytes (cl : Str → Nat) (legacy : Bool) (p n : Style) (hp : p.wf) (hn : n.wf)
    (g : Str) (hg : ∃ c g', g = c :: g' ∧ 0x20 ≤ c) (hcl : cl g = g.length) :
    penOf parseSGR p (tokenize cl (ssDeltaB legacy p n)) = .ok n ∧
    penOf emuSgr p (tokenize cl (ssDeltaB legacy p n)) = .ok n ∧
    nssLoop cl {} (ssDeltaB legacy p n ++ g).length p (ssDeltaB legacy p n ++ g) = .ok [⟨g, n⟩] :=
  ⟨parseC.pen_delta_bytes (ssPB legacy) cl p n hp hn, emuC.pen_delta_bytes (ssPB legacy) cl p n hp hn,
    nss_delta_bytes (ssPB legacy) cl p n hp hn g hg hcl⟩

/-- **render's pen delta over bytes**, every capability setting, read by all three consumers: from the style that shows
    what the terminal shows for `p` to the one for `n` (`capStyle`; the styles themselves with full capabilities). -/
theorem delta_render_bytes (cl : Str → Nat) (rgb su legacy : Bool) (p n : Style) (hp : p.wf) (hn : n.wf)
    (g : Str) (hg : ∃ c g', g = c :: g' ∧ 0x20 ≤ c) (hcl : cl g = g.length) :
    penOf parseSGR (capStyle rgb su p) (tokenize cl (renderDeltaB rgb su legacy p n)) = .ok (capStyle rgb su n) ∧
    penOf emuSgr (capStyle rgb su p) (tokenize cl (renderDeltaB rgb su legacy p n)) = .ok (capStyle rgb su n) ∧
    nssLoop cl {} (renderDeltaB rgb su legacy p n ++ g).length (capStyle rgb su p) (renderDeltaB rgb su legacy p n ++ g)
      = .ok [⟨g, capStyle rgb su n⟩] :=
  ⟨parseC.pen_delta_bytes (renderPB rgb su legacy) cl p n hp hn, emuC.pen_delta_bytes (renderPB rgb su legacy) cl p n hp hn,
    nss_delta_bytes (renderPB rgb su legacy) cl p n hp hn g hg hcl⟩

end VaxisModel.Props.C18DeltaBytes
