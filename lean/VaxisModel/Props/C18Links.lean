/-
C18 with hyperlinks (`Model/SgrLinks.lean`): cells may carry `Hyperlink` / `HyperlinkParams`; the encoders then write
OSC 8 sequences between the SGR sequences and the graphemes.  The property text lists graphemes, colours, attributes,
underline style and underline colour — these come back unchanged in the presence of any hyperlinks, through both codecs,
over strings.  That `NewStyledString` also restores the link itself is outside the model's `Style`: it is stated below for the
model with the hyperlink fields, and checked on the real code by the `rtl` oracle.
-/
import VaxisModel.Lemmas.SgrLinks
import VaxisModel.Lemmas.SgrLinksFull
import VaxisModel.Props.C18Bytes

namespace VaxisModel.Props.C18Links
open VaxisModel VaxisModel.Gen VaxisModel.Model.Sgr VaxisModel.Model.SgrBytes VaxisModel.Model.SgrLinks
open VaxisModel.Lemmas.Sgr VaxisModel.Lemmas.SgrBytes VaxisModel.Lemmas.SgrLinks VaxisModel.Lemmas.ParserParams
open VaxisModel.Lemmas.SgrLinksFull VaxisModel.Lemmas.SgrReads
open VaxisModel.Lemmas.SgrCodec (parseC ssC encodeP ssP encodePB ssPB ProducerB producer_readL)

/-- The OSC 8 format string prints `ESC ] 8 ; params ; url ESC \` (the regenerated `Gen.Sequences.osc8`). -/
theorem osc8_format (l : Link) : osc8Bytes l = 0x1B :: 0x5D :: (osc8Payload l ++ [0x1B, 0x5C]) := osc8Bytes_eq l

/-- Byte-level encoders with hyperlinks = the token-level ones, printed. -/
theorem encode_links_bytes_eq (legacy : Bool) (cs : List LCell) :
    encodeCellsBL legacy cs = bytesOfLToks (encodeFromL (encodeDelta legacy) {} {} cs) ∧
    ssEncodeBL legacy cs = bytesOfLToks (encodeFromL (ssDelta legacy) {} {} cs) :=
  ⟨(encodePB legacy).bytes_encodedL cs, (ssPB legacy).bytes_encodedL cs⟩

/-- The parser model reads an OSC 8 hyperlink as one OSC item (composition with `C02.osc_roundtrip_st`) and the string
    parsers skip it: byte level = token level with the links dropped (`ParseStyledString`) / passed over (`NewStyledString`). -/
theorem consumers_links_bytes_eq (cl : Str → Nat) (dflt : Style) (ts : List LTok) (hg : GoodL cl ts) :
    parseStyledB cl (bytesOfLToks ts) = parseStyled (dropLinks ts) ∧
    newStyledStringB cl dflt (bytesOfLToks ts) = ssParseLToks (ssSeq dflt) dflt ts :=
  ⟨parseStyledB_ltoks cl ts hg, newStyledStringB_ltoks cl dflt ts hg⟩

/-- **Round trip with hyperlinks, EncodeCells / ParseStyledString, over bytes**: graphemes, colours, attributes,
    underline style and colour of every cell come back, whatever hyperlinks the cells carry (URLs and parameters
    without control characters), with or without the legacy quirk. -/
theorem roundtrip_cells_links_bytes (cl : Str → Nat) (legacy : Bool) (cs : List LCell) (hcs : ∀ c ∈ cs, c.cell.st.wf)
    (hl : CellLinksOK cs) (ht : TextOKL cl (encodeFromL (encodeDelta legacy) {} {} cs)) :
    parseStyledB cl (encodeCellsBL legacy cs) = .ok (cs.map (·.cell)) := by
  exact (producer_readL (encodePB legacy) cl _ _ (parseStyledB_ltoks cl) cs hcs hl ht).trans
    ((Reads.dropLinks _ (reads_encodedL parseC (encodeP legacy) cs hcs)).parseToks (cells_cell cs))

/-- **Round trip with hyperlinks, StyledString.Encode / NewStyledString, over bytes.** -/
theorem roundtrip_ss_links_bytes (cl : Str → Nat) (legacy : Bool) (cs : List LCell) (hcs : ∀ c ∈ cs, c.cell.st.wf)
    (hl : CellLinksOK cs) (ht : TextOKL cl (encodeFromL (ssDelta legacy) {} {} cs)) :
    newStyledStringB cl {} (ssEncodeBL legacy cs) = .ok (cs.map (·.cell)) := by
  exact (producer_readL (ssPB legacy) cl _ _ (newStyledStringB_ltoks cl {}) cs hcs hl ht).trans
    (Reads.ssParseLToks _ (reads_encodedL ssC (ssP legacy) cs hcs) (cells_cell cs))

/-- **ends_reset for hyperlinks** (since the `fix:` for F121): after the whole encoded string no hyperlink is open,
    whatever links the cells carry — the last OSC 8 written, if any, is the closing `ESC ] 8 ; ; ESC \`. -/
theorem ends_link_closed (legacy : Bool) (cs : List LCell) :
    linkOpen false (encodeFromL (encodeDelta legacy) {} {} cs) = false ∧
    linkOpen false (encodeFromL (ssDelta legacy) {} {} cs) = false :=
  ⟨linkOpen_encodeFromL (encodeDelta legacy) cs {} {}, linkOpen_encodeFromL (ssDelta legacy) cs {} {}⟩

/-- Without hyperlinks the encoders with links are the encoders of `Props/C18Bytes.lean`. -/
theorem no_links_same (delta : Style → Style → Str) (cs : List (Cell Str)) :
    ∀ s, encodeFromBL delta s {} (cs.map (fun c => ⟨c, {}⟩)) = encodeFromB delta s cs := by
  induction cs with
  | nil => intro s; simp [encodeFromBL, encodeFromB]
  | cons c cs ih => intro s; simp [encodeFromBL, encodeFromB, ih]

/-! `newStyledStringBL` (`Model/SgrLinks.lean`) is `NewStyledString` with the hyperlink fields: the OSC 8 case reads
`params;url` with `Cut(seq, ";")`, `ESC [ m` and `case "0"` restore the default's link.  `Encode` re-sends OSC 8 only
when the URL differs from the previous cell's and sends no parameters for the empty URL, so the cells' links can only
come back under `LinksRestorable {} cs`: parameters without `;`, none for the empty URL, and equal parameters for
neighbouring cells with equal URLs.  Without that restriction the statement is false (`…_unrestricted_fails`). -/

/-- **Round trip with hyperlinks at full strength, StyledString.Encode / NewStyledString, over bytes**: graphemes,
    colours, attributes, underline style and colour **and URL and parameters** of every cell come back. -/
theorem roundtrip_ss_links_full_bytes (cl : Str → Nat) (legacy : Bool) (cs : List LCell) (hcs : ∀ c ∈ cs, c.cell.st.wf)
    (hl : CellLinksOK cs) (hr : LinksRestorable {} cs) (ht : TextOKL cl (encodeFromL (ssDelta legacy) {} {} cs)) :
    newStyledStringBL cl {} {} (ssEncodeBL legacy cs) = .ok cs := by
  exact (producer_readL (ssPB legacy) cl _ _ (newStyledStringBL_ltoks cl {} {}) cs hcs hl ht).trans
    (ss_roundtrip_links_full (ssSeqL {} {}) (ssDelta legacy) (ssL_reads_delta (ssP legacy)) cs {} {} wf_default hcs hr)

/-- **The cross direction with hyperlinks**: `NewStyledString` reads back what `EncodeCells` wrote — URL and parameters included,
    colon forms and (under `VAXIS_FORCE_LEGACY_SGR`) legacy semicolon forms, where a `0` that is a colour index (`38;5;0`) is
    passed over by the `i += n` look-ahead and does not reset the hyperlink. -/
theorem roundtrip_cells_links_via_ss_full_bytes (cl : Str → Nat) (legacy : Bool) (cs : List LCell) (hcs : ∀ c ∈ cs, c.cell.st.wf)
    (hl : CellLinksOK cs) (hr : LinksRestorable {} cs) (ht : TextOKL cl (encodeFromL (encodeDelta legacy) {} {} cs)) :
    newStyledStringBL cl {} {} (encodeCellsBL legacy cs) = .ok cs := by
  exact (producer_readL (encodePB legacy) cl _ _ (newStyledStringBL_ltoks cl {} {}) cs hcs hl ht).trans
    (ss_roundtrip_links_full (ssSeqL {} {}) (encodeDelta legacy) (ssL_reads_delta (encodeP legacy)) cs {} {} wf_default hcs hr)

/-- The restriction is decidable; `restorableB` is what the driver's `rtl` oracle evaluates before it judges the links. -/
theorem links_restorable_decidable (cs : List LCell) (l : Link) : restorableB l cs = true ↔ LinksRestorable l cs :=
  restorableB_iff cs l

-- a `0` inside a legacy colour form does not reset the link, a `0` parameter does (evaluated)
example : (match newStyledStringBL (fun _ => 1) {} {} ([0x1B, 0x5D, 0x38, 0x3B, 0x3B, 0x75, 0x1B, 0x5C] ++ [0x61] ++
      [0x1B, 0x5B, 0x33, 0x38, 0x3B, 0x35, 0x3B, 0x30, 0x6D] ++ [0x62] ++ [0x1B, 0x5B, 0x31, 0x3B, 0x30, 0x6D] ++ [0x63]) with
    | .ok r => r.map (·.link.url) | .error _ => []) = [[0x75], [0x75], []] := by decide

/-- The restriction in the form the generator uses: the parameters are a function of the URL (nothing for the empty
    URL) and contain no `;`. -/
theorem links_restorable_of_fn (pf : Str → Str) (h0 : pf [] = []) (hsemi : ∀ u, ∀ b ∈ pf u, b ≠ 0x3B) :
    ∀ (cs : List LCell) (l : Link), (∀ c ∈ cs, c.link.params = pf c.link.url) → l.params = pf l.url →
      LinksRestorable l cs := by
  intro cs
  induction cs with
  | nil => intro _ _ _; trivial
  | cons c cs ih =>
    intro l hc hl
    have h := hc c (List.mem_cons_self ..)
    refine ⟨⟨?_, ?_⟩, ?_, ih c.link (fun d hd => hc d (List.mem_cons_of_mem _ hd)) h⟩
    · rw [h]; exact hsemi _
    · intro hu; rw [h, hu, h0]
    · intro hu; rw [h, hl, hu]

/-- The link-free model is the projection of the model with links: same graphemes and styles, whatever the string. -/
theorem newStyledStringBL_cells (cl : Str → Nat) (dflt : Style) (dl : Link) (s : Str) :
    (match newStyledStringBL cl dflt dl s with | .ok cs => Except.ok (cs.map (·.cell)) | .error e => .error e)
      = newStyledStringB cl dflt s := nssLoopL_cells cl dflt dl _ _ _ _

/-- The unrestricted statement (no `LinksRestorable`). -/
def roundtrip_ss_links_unrestricted : Prop :=
  ∀ (cl : Str → Nat) (legacy : Bool) (cs : List LCell), (∀ c ∈ cs, c.cell.st.wf) → CellLinksOK cs →
    (∀ c ∈ cs, ∀ b ∈ c.link.params, b ≠ 0x3B) → TextOKL cl (encodeFromL (ssDelta legacy) {} {} cs) →
    newStyledStringBL cl {} {} (ssEncodeBL legacy cs) = .ok cs

/-- Witness: two neighbouring cells with the same URL `x` and parameters `p` / `q`. -/
def exChangedParams : List LCell := [⟨⟨[0x61], {}⟩, ⟨[0x78], [0x70]⟩⟩, ⟨⟨[0x62], {}⟩, ⟨[0x78], [0x71]⟩⟩]

/-- **It is false without the restriction**: `Encode` does not re-send OSC 8 when only the parameters change, so the
    second cell comes back with the first cell's parameters (the observation of `notes/C18.md`, as a theorem). -/
theorem roundtrip_ss_links_unrestricted_fails : ¬ roundtrip_ss_links_unrestricted := by
  intro h
  have h' := h (fun _ => 1) false exChangedParams
    (by intro c hc; simp [exChangedParams] at hc; rcases hc with rfl | rfl <;> exact wf_default)
    (by intro c hc; simp [exChangedParams] at hc; rcases hc with rfl | rfl <;> simp)
    (by intro c hc; simp [exChangedParams] at hc; rcases hc with rfl | rfl <;> simp)
    (by
      have : encodeFromL (ssDelta false) {} {} exChangedParams =
          [.link [0x38, 0x3B, 0x70, 0x3B, 0x78], .tok (.text [0x61]), .tok (.text [0x62]),
           .link [0x38, 0x3B, 0x3B], .tok (.sgr [])] := by decide
      rw [this]
      exact ⟨⟨0x61, [], rfl, by decide⟩, rfl, ⟨0x62, [], rfl, by decide⟩, rfl, trivial⟩)
  have hobs : (match newStyledStringBL (fun _ => 1) {} {} (ssEncodeBL false exChangedParams) with
      | .ok r => r.map (·.link.params) | .error _ => []) = [[0x70], [0x70]] := by decide
  rw [h'] at hobs
  revert hobs
  decide

/-! Non-vacuity: links with parameters, a URL containing `;`, a change of URL, a return to no link -/

def exLinked : List LCell :=
  [⟨⟨[0x61], { attr := 2 }⟩, ⟨[0x68, 0x3B, 0x78], [0x69, 0x64, 0x3D, 0x37]⟩⟩,
   ⟨⟨[0x62], { attr := 2 }⟩, ⟨[0x68, 0x3B, 0x78], [0x69, 0x64, 0x3D, 0x37]⟩⟩,
   ⟨⟨[0x63], {}⟩, ⟨[0x79], []⟩⟩, ⟨⟨[0x64], {}⟩, {}⟩]

example : LinksRestorable {} exLinked := by
  refine ⟨⟨?_, ?_⟩, ?_, ⟨?_, ?_⟩, ?_, ⟨?_, ?_⟩, ?_, ⟨?_, ?_⟩, ?_, trivial⟩ <;> simp

example : (match newStyledStringBL (fun _ => 1) {} {} (ssEncodeBL false exLinked) with
    | .ok r => decide (r = exLinked) | .error _ => false) = true := by decide

example : restorableB {} exLinked = true ∧ restorableB {} exChangedParams = false := by decide

end VaxisModel.Props.C18Links
