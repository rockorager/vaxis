/-
C18 with hyperlinks, the exact condition: `NewStyledString(ss.Encode(cs)).Cells = cs` — graphemes, styles, hyperlink URL and
hyperlink parameters — holds EXACTLY when `LinksRestorable {} cs` (`Lemmas/SgrLinksFull.lean`; as the driver evaluates
it: `restorableB {} cs`): every cell's parameters are free of `;`, a cell with the empty URL has no parameters, and a cell
with the same URL as its predecessor has the predecessor's parameters.  Sufficiency is `Props/C18Links.lean`
(`roundtrip_ss_links_full_bytes`, `roundtrip_cells_links_via_ss_full_bytes`); here necessity, for every cell list, under
the standing hypotheses only (well-formed styles, URLs / parameters / graphemes without control characters).  No refinement
of `LinksRestorable` is needed: the cursor starts with the link `{}`, which is transmittable, and then every cell's link
is either re-sent (URL changed: it must survive `params;url` → `Cut(seq, ";")`) or not (URL unchanged: the parser keeps
the predecessor's link, which must therefore BE the cell's link).
-/
import VaxisModel.Props.C18Links
import VaxisModel.Lemmas.SgrLinksIff

namespace VaxisModel.Props.C18LinksIff
open VaxisModel VaxisModel.Gen VaxisModel.Model.Sgr VaxisModel.Model.SgrBytes VaxisModel.Model.SgrLinks
open VaxisModel.Lemmas.Sgr VaxisModel.Lemmas.SgrBytes VaxisModel.Lemmas.SgrLinks VaxisModel.Lemmas.ParserParams
open VaxisModel.Lemmas.SgrLinksFull VaxisModel.Lemmas.SgrLinksIff VaxisModel.Props.C18Links
open VaxisModel.Lemmas.SgrCodec (encodeP ssP encodePB ssPB producer_readL)

/-- **One OSC 8, exactly**: `Cut(payload, ";")` on what `tparm(osc8, linkPs, link)` printed gives the link back if and
    only if the link is transmittable (parameters without `;`, none for the empty URL). -/
theorem osc8_reads_back_iff (l : Link) : linkOfSeq ((osc8Payload l).drop 2) = l ↔ LinkCanon l :=
  linkCanon_iff_payload l

/-- What comes back instead: parameters under the empty URL are dropped … -/
theorem osc8_empty_url_drops_params (l : Link) (hu : l.url = []) : linkOfSeq ((osc8Payload l).drop 2) = {} :=
  linkOfSeq_payload_empty_url l hu

/-- … and parameters containing `;` come back cut at the first `;` (the remainder is read as part of the URL). -/
theorem osc8_semicolon_cuts_params (l : Link) (hu : l.url ≠ []) (hs : 0x3B ∈ l.params) :
    (linkOfSeq ((osc8Payload l).drop 2)).params.length < l.params.length :=
  linkOfSeq_payload_semicolon l hu hs

/-- **Necessity, StyledString.Encode / NewStyledString, over bytes**: a cell list that comes back unchanged — hyperlink
    URL and parameters included — is `LinksRestorable`. -/
theorem roundtrip_ss_links_needs_restorable (cl : Str → Nat) (legacy : Bool) (cs : List LCell) (hcs : ∀ c ∈ cs, c.cell.st.wf)
    (hl : CellLinksOK cs) (ht : TextOKL cl (encodeFromL (ssDelta legacy) {} {} cs))
    (h : newStyledStringBL cl {} {} (ssEncodeBL legacy cs) = .ok cs) : LinksRestorable {} cs := by
  exact ss_roundtrip_links_needs (ssSeqL {} {}) (ssDelta legacy) (ssL_reads_delta (ssP legacy)) cs {} {} wf_default hcs
    linkCanon_default ((producer_readL (ssPB legacy) cl _ _ (newStyledStringBL_ltoks cl {} {}) cs hcs hl ht).symm.trans h)

/-- **Necessity, the cross direction** (`EncodeCells` / `NewStyledString`, colon and legacy forms). -/
theorem roundtrip_cells_links_via_ss_needs_restorable (cl : Str → Nat) (legacy : Bool) (cs : List LCell)
    (hcs : ∀ c ∈ cs, c.cell.st.wf) (hl : CellLinksOK cs) (ht : TextOKL cl (encodeFromL (encodeDelta legacy) {} {} cs))
    (h : newStyledStringBL cl {} {} (encodeCellsBL legacy cs) = .ok cs) : LinksRestorable {} cs := by
  exact ss_roundtrip_links_needs (ssSeqL {} {}) (encodeDelta legacy) (ssL_reads_delta (encodeP legacy)) cs {} {} wf_default hcs
    linkCanon_default ((producer_readL (encodePB legacy) cl _ _ (newStyledStringBL_ltoks cl {} {}) cs hcs hl ht).symm.trans h)

/-- **The exact condition, StyledString.Encode / NewStyledString, over bytes**: the cells come back — graphemes, colours,
    attributes, underline style and colour, hyperlink URL and hyperlink parameters — if and only if `LinksRestorable {} cs`. -/
theorem roundtrip_ss_links_iff (cl : Str → Nat) (legacy : Bool) (cs : List LCell) (hcs : ∀ c ∈ cs, c.cell.st.wf)
    (hl : CellLinksOK cs) (ht : TextOKL cl (encodeFromL (ssDelta legacy) {} {} cs)) :
    newStyledStringBL cl {} {} (ssEncodeBL legacy cs) = .ok cs ↔ LinksRestorable {} cs :=
  ⟨roundtrip_ss_links_needs_restorable cl legacy cs hcs hl ht,
   fun hr => roundtrip_ss_links_full_bytes cl legacy cs hcs hl hr ht⟩

/-- **The exact condition, the cross direction** (`NewStyledString` on what `EncodeCells` wrote). -/
theorem roundtrip_cells_links_via_ss_iff (cl : Str → Nat) (legacy : Bool) (cs : List LCell) (hcs : ∀ c ∈ cs, c.cell.st.wf)
    (hl : CellLinksOK cs) (ht : TextOKL cl (encodeFromL (encodeDelta legacy) {} {} cs)) :
    newStyledStringBL cl {} {} (encodeCellsBL legacy cs) = .ok cs ↔ LinksRestorable {} cs :=
  ⟨roundtrip_cells_links_via_ss_needs_restorable cl legacy cs hcs hl ht,
   fun hr => roundtrip_cells_links_via_ss_full_bytes cl legacy cs hcs hl hr ht⟩

/-- The same with the driver's decision procedure: the `rtl` oracle's precondition `restorableB {} cs` is not merely
    sufficient, it is the weakest possible. -/
theorem roundtrip_ss_links_iff_restorableB (cl : Str → Nat) (legacy : Bool) (cs : List LCell) (hcs : ∀ c ∈ cs, c.cell.st.wf)
    (hl : CellLinksOK cs) (ht : TextOKL cl (encodeFromL (ssDelta legacy) {} {} cs)) :
    newStyledStringBL cl {} {} (ssEncodeBL legacy cs) = .ok cs ↔ restorableB {} cs = true :=
  (roundtrip_ss_links_iff cl legacy cs hcs hl ht).trans (links_restorable_decidable cs {}).symm

theorem roundtrip_cells_links_via_ss_iff_restorableB (cl : Str → Nat) (legacy : Bool) (cs : List LCell)
    (hcs : ∀ c ∈ cs, c.cell.st.wf) (hl : CellLinksOK cs) (ht : TextOKL cl (encodeFromL (encodeDelta legacy) {} {} cs)) :
    newStyledStringBL cl {} {} (encodeCellsBL legacy cs) = .ok cs ↔ restorableB {} cs = true :=
  (roundtrip_cells_links_via_ss_iff cl legacy cs hcs hl ht).trans (links_restorable_decidable cs {}).symm

/-- Both codecs' outputs are read back by `NewStyledString` under exactly the same condition. -/
theorem roundtrip_ss_iff_cells_via_ss (cl : Str → Nat) (legacy legacy' : Bool) (cs : List LCell) (hcs : ∀ c ∈ cs, c.cell.st.wf)
    (hl : CellLinksOK cs) (ht : TextOKL cl (encodeFromL (ssDelta legacy) {} {} cs))
    (ht' : TextOKL cl (encodeFromL (encodeDelta legacy') {} {} cs)) :
    newStyledStringBL cl {} {} (ssEncodeBL legacy cs) = .ok cs ↔ newStyledStringBL cl {} {} (encodeCellsBL legacy' cs) = .ok cs :=
  (roundtrip_ss_links_iff cl legacy cs hcs hl ht).trans (roundtrip_cells_links_via_ss_iff cl legacy' cs hcs hl ht').symm

/-- `LinksRestorable {} cs` spelled out: every link transmittable, and neighbours with equal URLs have equal parameters
    (for the first cell, "the predecessor" is the link-free cursor: covered by "no parameters for the empty URL"). -/
theorem links_restorable_iff_clauses (cs : List LCell) :
    LinksRestorable {} cs ↔
      (∀ c ∈ cs, (∀ b ∈ c.link.params, b ≠ 0x3B) ∧ (c.link.url = [] → c.link.params = [])) ∧
      ∀ (i : Nat) (h : i + 1 < cs.length), (cs[i + 1]).link.url = (cs[i]).link.url → (cs[i + 1]).link.params = (cs[i]).link.params :=
  restorable_default_iff cs

/-- A round trip needs parameters without `;` … -/
theorem roundtrip_needs_no_semicolon (cl : Str → Nat) (legacy : Bool) (cs : List LCell) (hcs : ∀ c ∈ cs, c.cell.st.wf)
    (hl : CellLinksOK cs) (ht : TextOKL cl (encodeFromL (ssDelta legacy) {} {} cs))
    (h : newStyledStringBL cl {} {} (ssEncodeBL legacy cs) = .ok cs) : ∀ c ∈ cs, ∀ b ∈ c.link.params, b ≠ 0x3B :=
  fun c hc => (((links_restorable_iff_clauses cs).mp (roundtrip_ss_links_needs_restorable cl legacy cs hcs hl ht h)).1 c hc).1

/-- … no parameters on a cell without URL … -/
theorem roundtrip_needs_no_params_for_empty_url (cl : Str → Nat) (legacy : Bool) (cs : List LCell) (hcs : ∀ c ∈ cs, c.cell.st.wf)
    (hl : CellLinksOK cs) (ht : TextOKL cl (encodeFromL (ssDelta legacy) {} {} cs))
    (h : newStyledStringBL cl {} {} (ssEncodeBL legacy cs) = .ok cs) : ∀ c ∈ cs, c.link.url = [] → c.link.params = [] :=
  fun c hc => (((links_restorable_iff_clauses cs).mp (roundtrip_ss_links_needs_restorable cl legacy cs hcs hl ht h)).1 c hc).2

/-- … and the same parameters on neighbouring cells with the same URL. -/
theorem roundtrip_needs_same_params (cl : Str → Nat) (legacy : Bool) (cs : List LCell) (hcs : ∀ c ∈ cs, c.cell.st.wf)
    (hl : CellLinksOK cs) (ht : TextOKL cl (encodeFromL (ssDelta legacy) {} {} cs))
    (h : newStyledStringBL cl {} {} (ssEncodeBL legacy cs) = .ok cs) :
    ∀ (i : Nat) (hi : i + 1 < cs.length), (cs[i + 1]).link.url = (cs[i]).link.url → (cs[i + 1]).link.params = (cs[i]).link.params :=
  ((links_restorable_iff_clauses cs).mp (roundtrip_ss_links_needs_restorable cl legacy cs hcs hl ht h)).2

-- `exSemiParams` (parameters `a;b` under the URL `u`), `exEmptyUrlParams` (parameters `p` on a cell without URL after a
-- cell with the URL `u`), `exFirstParams` (parameters `p` on the very first cell, without URL): `Lemmas/SgrLinksIff.lean`

example : restorableB {} exSemiParams = false ∧ restorableB {} exEmptyUrlParams = false ∧
    restorableB {} exFirstParams = false ∧ restorableB {} exChangedParams = false := by decide

-- `a;b` / `u` comes back as parameters `a`, URL `b;u`
example : (match newStyledStringBL (fun _ => 1) {} {} (ssEncodeBL false exSemiParams) with
    | .ok r => r.map (·.link) | .error _ => []) = [⟨[0x62, 0x3B, 0x75], [0x61]⟩] := by decide

-- parameters under the empty URL come back empty
example : (match newStyledStringBL (fun _ => 1) {} {} (ssEncodeBL false exEmptyUrlParams) with
    | .ok r => r.map (·.link) | .error _ => []) = [⟨[0x75], []⟩, {}] := by decide

example : (match newStyledStringBL (fun _ => 1) {} {} (ssEncodeBL false exFirstParams) with
    | .ok r => r.map (·.link) | .error _ => []) = [{}] := by decide

-- none of them round-trips, through either encoder, with or without the legacy forms
example : ∀ legacy ∈ [false, true], ∀ cs ∈ [exSemiParams, exEmptyUrlParams, exFirstParams, exChangedParams],
    (match newStyledStringBL (fun _ => 1) {} {} (ssEncodeBL legacy cs) with
      | .ok r => decide (r = cs) | .error _ => false) = false ∧
    (match newStyledStringBL (fun _ => 1) {} {} (encodeCellsBL legacy cs) with
      | .ok r => decide (r = cs) | .error _ => false) = false := by decide

/-- The witnesses satisfy the standing hypotheses, so the `iff` speaks about them: here `exSemiParams`, through the theorem. -/
theorem exSemiParams_fails : newStyledStringBL (fun _ => 1) {} {} (ssEncodeBL false exSemiParams) ≠ .ok exSemiParams := by
  intro h
  have hr := (roundtrip_ss_links_iff_restorableB (fun _ => 1) false exSemiParams
    (by intro c hc; simp [exSemiParams] at hc; subst hc; exact wf_default)
    (by intro c hc; simp [exSemiParams] at hc; subst hc; simp)
    (by
      have : encodeFromL (ssDelta false) {} {} exSemiParams =
          [.link [0x38, 0x3B, 0x61, 0x3B, 0x62, 0x3B, 0x75], .tok (.text [0x61]),
           .link [0x38, 0x3B, 0x3B], .tok (.sgr [])] := by decide
      rw [this]
      exact ⟨⟨0x61, [], rfl, by decide⟩, rfl, trivial⟩)).mp h
  revert hr
  decide

theorem exLinked_roundtrips : newStyledStringBL (fun _ => 1) {} {} (ssEncodeBL false exLinked) = .ok exLinked ∧
    LinksRestorable {} exLinked := by
  have hr : LinksRestorable {} exLinked := (links_restorable_decidable exLinked {}).mp (by decide)
  refine ⟨(roundtrip_ss_links_iff (fun _ => 1) false exLinked ?_ ?_ ?_).mpr hr, hr⟩
  · intro c hc
    simp only [exLinked, List.mem_cons, List.not_mem_nil, or_false] at hc
    rcases hc with rfl | rfl | rfl | rfl <;> exact ⟨Or.inl rfl, Or.inl rfl, Or.inl rfl, by decide, by decide⟩
  · intro c hc
    simp only [exLinked, List.mem_cons, List.not_mem_nil, or_false] at hc
    rcases hc with rfl | rfl | rfl | rfl <;> simp
  · have : encodeFromL (ssDelta false) {} {} exLinked =
        [.tok (.sgr [[1]]), .link [0x38, 0x3B, 0x69, 0x64, 0x3D, 0x37, 0x3B, 0x68, 0x3B, 0x78], .tok (.text [0x61]),
         .tok (.text [0x62]), .tok (.sgr [[22]]), .link [0x38, 0x3B, 0x3B, 0x79], .tok (.text [0x63]),
         .link [0x38, 0x3B, 0x3B], .tok (.text [0x64])] := by decide
    rw [this]
    exact ⟨⟨0x61, [], rfl, by decide⟩, rfl, ⟨0x62, [], rfl, by decide⟩, rfl, ⟨0x63, [], rfl, by decide⟩, rfl,
      ⟨0x64, [], rfl, by decide⟩, rfl, trivial⟩

-- evaluated as well
example : (match newStyledStringBL (fun _ => 1) {} {} (ssEncodeBL false exLinked) with
    | .ok r => decide (r = exLinked) | .error _ => false) = true ∧
  (match newStyledStringBL (fun _ => 1) {} {} (encodeCellsBL true exLinked) with
    | .ok r => decide (r = exLinked) | .error _ => false) = true := by decide

end VaxisModel.Props.C18LinksIff
