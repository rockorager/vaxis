/-
C18: **the legacy-SGR quirk** (`VAXIS_FORCE_LEGACY_SGR`), all three producers × all three consumers, at the
token level and at the byte level, as explicit statements with `legacy = true`.

What quirks.go does (extracted, `quirk_is_replace_colon`): exactly the four format *variables* `fgIndexSet`, `fgRGBSet`,
`bgIndexSet`, `bgRGBSet` are rewritten, each by `strings.ReplaceAll(x, ":", ";")`; `EncodeCells` and `render` print their
extended colours with exactly these variables, `StyledString.Encode` with private constants.  `replaceColon` of the
regenerated strings are the semicolon formats, and printed with any arguments they are `38;5;n` / `38;2;r;g;b` / `48;…`
(`quirk_prints_legacy_forms`).  So `legacy = true` in the models is the quirk.
-/
import VaxisModel.Lemmas.SgrQuirk
import VaxisModel.Props.C18DeltaBytes
import VaxisModel.Props.C18Terminal

namespace VaxisModel.Props.C18Quirk
open VaxisModel VaxisModel.Gen VaxisModel.Model.Sgr VaxisModel.Model.SgrBytes VaxisModel.Lemmas.Sgr VaxisModel.Lemmas.SgrBytes
open VaxisModel.Lemmas.SgrDelta VaxisModel.Lemmas.SgrQuirk VaxisModel.Lemmas.SgrShows
open VaxisModel.Model.Color (indexColor rgbColor)
open VaxisModel.Lemmas.SgrCodec (parseC emuC ssC encodePB ssPB renderPB)

/-- **quirks.go rewrites exactly the four format variables, each with `ReplaceAll(x, ":", ";")`**; these four are the only
    mutable SGR strings; `EncodeCells` and `render` print their extended foreground / background colours with exactly these
    variables, `StyledString.Encode` with four other strings (its private constants). -/
theorem quirk_is_replace_colon :
    SgrCases.quirkRewrites = [("fgIndexSet", ":", ";"), ("fgRGBSet", ":", ";"), ("bgIndexSet", ":", ";"), ("bgRGBSet", ":", ";")] ∧
    Sequences.mutableStrings = ["fgIndexSet", "fgRGBSet", "bgIndexSet", "bgRGBSet"] ∧
    [SgrCases.encodeCellsFgIndex_s, SgrCases.encodeCellsFgRGB_s, SgrCases.encodeCellsBgIndex_s, SgrCases.encodeCellsBgRGB_s]
      = [Sequences.fgIndexSet, Sequences.fgRGBSet, Sequences.bgIndexSet, Sequences.bgRGBSet] ∧
    [SgrCases.renderFgIndex_s, SgrCases.renderFgRGB_s, SgrCases.renderBgIndex_s, SgrCases.renderBgRGB_s]
      = [Sequences.fgIndexSet, Sequences.fgRGBSet, Sequences.bgIndexSet, Sequences.bgRGBSet] ∧
    (SgrCases.encodeCellsFgIndexMutable && SgrCases.encodeCellsFgRGBMutable && SgrCases.encodeCellsBgIndexMutable &&
      SgrCases.encodeCellsBgRGBMutable && SgrCases.renderFgIndexMutable && SgrCases.renderFgRGBMutable &&
      SgrCases.renderBgIndexMutable && SgrCases.renderBgRGBMutable) = true ∧
    (SgrCases.ssEncodeFgIndexMutable || SgrCases.ssEncodeFgRGBMutable || SgrCases.ssEncodeBgIndexMutable ||
      SgrCases.ssEncodeBgRGBMutable) = false := by decide

/-- The rewritten strings (`replaceColon` = `ReplaceAll(":", ";")` on the regenerated values). -/
theorem quirk_strings :
    replaceColon (bytesOf Sequences.fgIndexSet) = bytesOf "\x1b[38;5;%dm" ∧
    replaceColon (bytesOf Sequences.fgRGBSet) = bytesOf "\x1b[38;2;%d;%d;%dm" ∧
    replaceColon (bytesOf Sequences.bgIndexSet) = bytesOf "\x1b[48;5;%dm" ∧
    replaceColon (bytesOf Sequences.bgRGBSet) = bytesOf "\x1b[48;2;%d;%d;%dm" := by decide

/-- **Printed with any arguments, the rewritten formats are the legacy semicolon forms** — the sequences the token-level
    models write for `legacy = true` (`legacyT` of the templates). -/
theorem quirk_prints_legacy_forms (n r g b : Nat) :
    sprintf (replaceColon (bytesOf Sequences.fgIndexSet)) [n] = csiM [[38], [5], [n]] ∧
    sprintf (replaceColon (bytesOf Sequences.bgIndexSet)) [n] = csiM [[48], [5], [n]] ∧
    sprintf (replaceColon (bytesOf Sequences.fgRGBSet)) [r, g, b] = csiM [[38], [2], [r], [g], [b]] ∧
    sprintf (replaceColon (bytesOf Sequences.bgRGBSet)) [r, g, b] = csiM [[48], [2], [r], [g], [b]] := by
  refine ⟨?_, ?_, ?_, ?_⟩
  · rw [b_fgIndexSet_legacy, fmt_fgIndexSet_legacy]
  · rw [b_bgIndexSet_legacy, fmt_bgIndexSet_legacy]
  · rw [b_fgRGBSet_legacy, fmt_fgRGBSet_legacy]
  · rw [b_bgRGBSet_legacy, fmt_bgRGBSet_legacy]

/-- **The quirk has no effect on `StyledString.Encode`**: by the extracted mutability facts its four colour slots are not
    rewritable, so its delta, its bytes and its whole output are the same with and without the quirk. -/
theorem legacy_quirk_no_effect_ssEncode :
    (∀ p n, ssDelta true p n = ssDelta false p n) ∧ (∀ p n, ssDeltaB true p n = ssDeltaB false p n) ∧
    (∀ cs, ssEncodeB true cs = ssEncodeB false cs) ∧ (∀ (cs : List (Cell Str)), ssEncode true cs = ssEncode false cs) := by
  have h1 : ∀ p n, ssDelta true p n = ssDelta false p n := by
    intro p n
    have hm : SgrCases.ssEncodeFgIndexMutable = false ∧ SgrCases.ssEncodeFgRGBMutable = false ∧
        SgrCases.ssEncodeBgIndexMutable = false ∧ SgrCases.ssEncodeBgRGBMutable = false := by decide
    simp only [ssDelta, ssT, hm.1, hm.2.1, hm.2.2.1, hm.2.2.2, Bool.and_false]
  have h2 : ∀ p n, ssDeltaB true p n = ssDeltaB false p n := by
    intro p n; rw [ssDeltaB_eq, ssDeltaB_eq, h1]
  have hf : ssDeltaB true = ssDeltaB false := funext fun p => funext fun n => h2 p n
  have hg : ssDelta true = ssDelta false := funext fun p => funext fun n => h1 p n
  exact ⟨h1, h2, fun cs => by unfold ssEncodeB; rw [hf], fun cs => by unfold ssEncode; rw [hg]⟩

-- … and it does have an effect on `EncodeCells` and `render`: the semicolon forms are what is written (evaluated)
example : encodeDelta true {} { fg := indexColor 200, bg := rgbColor 1 2 3 } = [[[38], [5], [200]], [[48], [2], [1], [2], [3]]] := by decide
example : encodeDelta false {} { fg := indexColor 200, bg := rgbColor 1 2 3 } = [[[38, 5, 200]], [[48, 2, 1, 2, 3]]] := by decide
example : renderDelta true true true {} { fg := indexColor 200, ul := indexColor 9 } = [[[38], [5], [200]], [[58, 5, 9]]] := by decide
example : ssDelta true {} { fg := indexColor 200 } = [[[38, 5, 200]]] := by decide
example : encodeDeltaB true {} { fg := indexColor 200 } = bytesOf "\x1b[38;5;200m" := by decide +kernel

/-! `p`, `n` range over all well-formed styles (all 128 × 128 masks, all colour classes, all underline styles); `g` is any
grapheme that is one cluster for the oracle. -/

section nine
variable (cl : Str → Nat) (p n : Style) (hp : p.wf) (hn : n.wf)
include hp hn

theorem legacy_quirk_encodeCells_parseSGR :
    foldC parseSGR p (encodeDelta true p n) = .ok n ∧ penOf parseSGR p (tokenize cl (encodeDeltaB true p n)) = .ok n :=
  ⟨C18Delta.delta_encodeCells_parseSGR true p n hp hn, parseC.pen_delta_bytes (encodePB true) cl p n hp hn⟩

theorem legacy_quirk_encodeCells_emuSgr :
    foldC emuSgr p (encodeDelta true p n) = .ok n ∧ penOf emuSgr p (tokenize cl (encodeDeltaB true p n)) = .ok n :=
  ⟨C18Delta.delta_encodeCells_emuSgr true p n hp hn, emuC.pen_delta_bytes (encodePB true) cl p n hp hn⟩

/-- `NewStyledString` on the semicolon forms: its raw-text look-ahead (`legacySGRColor`, `i += n`) over the bytes. -/
theorem legacy_quirk_encodeCells_ssParse (g : Str) (hg : ∃ c g', g = c :: g' ∧ 0x20 ≤ c) (hcl : cl g = g.length) :
    foldC (ssSeq {}) p (encodeDelta true p n) = .ok n ∧
    nssLoop cl {} (encodeDeltaB true p n ++ g).length p (encodeDeltaB true p n ++ g) = .ok [⟨g, n⟩] :=
  ⟨C18Delta.delta_encodeCells_ssParse true p n hp hn, (C18DeltaBytes.delta_encodeCells_bytes cl true p n hp hn g hg hcl).2.2⟩

theorem legacy_quirk_ssEncode_parseSGR :
    foldC parseSGR p (ssDelta true p n) = .ok n ∧ penOf parseSGR p (tokenize cl (ssDeltaB true p n)) = .ok n :=
  ⟨C18Delta.delta_ssEncode_parseSGR true p n hp hn, parseC.pen_delta_bytes (ssPB true) cl p n hp hn⟩

theorem legacy_quirk_ssEncode_emuSgr :
    foldC emuSgr p (ssDelta true p n) = .ok n ∧ penOf emuSgr p (tokenize cl (ssDeltaB true p n)) = .ok n :=
  ⟨C18Delta.delta_ssEncode_emuSgr true p n hp hn, emuC.pen_delta_bytes (ssPB true) cl p n hp hn⟩

theorem legacy_quirk_ssEncode_ssParse (g : Str) (hg : ∃ c g', g = c :: g' ∧ 0x20 ≤ c) (hcl : cl g = g.length) :
    foldC (ssSeq {}) p (ssDelta true p n) = .ok n ∧
    nssLoop cl {} (ssDeltaB true p n ++ g).length p (ssDeltaB true p n ++ g) = .ok [⟨g, n⟩] :=
  ⟨C18Delta.delta_ssEncode_ssParse true p n hp hn, (C18DeltaBytes.delta_ssEncode_bytes cl true p n hp hn g hg hcl).2.2⟩

/-- The renderer under the quirk, every capability setting (`capStyle`: what such a terminal is left showing). -/
theorem legacy_quirk_render_parseSGR (rgb su : Bool) :
    foldC parseSGR (capStyle rgb su p) (renderDelta rgb su true p n) = .ok (capStyle rgb su n) ∧
    penOf parseSGR (capStyle rgb su p) (tokenize cl (renderDeltaB rgb su true p n)) = .ok (capStyle rgb su n) :=
  ⟨C18Delta.delta_render_parseSGR rgb su true p n hp hn, parseC.pen_delta_bytes (renderPB rgb su true) cl p n hp hn⟩

theorem legacy_quirk_render_emuSgr (rgb su : Bool) :
    foldC emuSgr (capStyle rgb su p) (renderDelta rgb su true p n) = .ok (capStyle rgb su n) ∧
    penOf emuSgr (capStyle rgb su p) (tokenize cl (renderDeltaB rgb su true p n)) = .ok (capStyle rgb su n) :=
  ⟨C18Delta.delta_render_emuSgr rgb su true p n hp hn, emuC.pen_delta_bytes (renderPB rgb su true) cl p n hp hn⟩

theorem legacy_quirk_render_ssParse (rgb su : Bool) (g : Str) (hg : ∃ c g', g = c :: g' ∧ 0x20 ≤ c) (hcl : cl g = g.length) :
    foldC (ssSeq {}) (capStyle rgb su p) (renderDelta rgb su true p n) = .ok (capStyle rgb su n) ∧
    nssLoop cl {} (renderDeltaB rgb su true p n ++ g).length (capStyle rgb su p) (renderDeltaB rgb su true p n ++ g)
      = .ok [⟨g, capStyle rgb su n⟩] :=
  ⟨C18Delta.delta_render_ssParse rgb su true p n hp hn, (C18DeltaBytes.delta_render_bytes cl rgb su true p n hp hn g hg hcl).2.2⟩

end nine

/-- `ParseStyledString(EncodeCells(cs)) = cs`, `NewStyledString(EncodeCells(cs)) = cs` and the embedded terminal fed the same
    bytes, with the semicolon forms in the string. -/
theorem legacy_quirk_roundtrip_cells (cl : Str → Nat) (cs : List (Cell Str)) (hcs : ∀ c ∈ cs, c.st.wf)
    (ht : TextOK cl (encodeCells true cs)) :
    parseStyledB cl (encodeCellsB true cs) = .ok cs ∧ newStyledStringB cl {} (encodeCellsB true cs) = .ok cs ∧
    cellsWith emuSgr {} (tokenize cl (encodeCellsB true cs)) = .ok cs :=
  ⟨C18Bytes.roundtrip_cells_bytes cl true cs hcs ht, (C18Bytes.roundtrip_cross_bytes cl true cs hcs).1 ht,
   C18Terminal.roundtrip_cells_emu_bytes cl true cs hcs ht⟩

/-- `NewStyledString(Encode(cs)) = cs`, `ParseStyledString(Encode(cs)) = cs` and the embedded terminal, with the quirk applied
    (which leaves `Encode`'s output unchanged: `legacy_quirk_no_effect_ssEncode`). -/
theorem legacy_quirk_roundtrip_ss (cl : Str → Nat) (cs : List (Cell Str)) (hcs : ∀ c ∈ cs, c.st.wf)
    (ht : TextOK cl (ssEncode true cs)) :
    newStyledStringB cl {} (ssEncodeB true cs) = .ok cs ∧ parseStyledB cl (ssEncodeB true cs) = .ok cs ∧
    cellsWith emuSgr {} (tokenize cl (ssEncodeB true cs)) = .ok cs :=
  ⟨C18Bytes.roundtrip_ss_bytes cl true cs hcs ht, (C18Bytes.roundtrip_cross_bytes cl true cs hcs).2 ht,
   C18Terminal.roundtrip_ss_emu_bytes cl true cs hcs ht⟩

/-- **The SGR part of a rendered frame, as bytes, read by `ParseStyledString`'s loop, by the embedded terminal and by
    `NewStyledString`** — every capability setting, both format variants, all cell lists with well-formed styles: each
    consumer returns the frame's cells with the styles such a terminal is left showing (`capCells`: palette fallback without
    `rgb`, plain underline and no underline colour without `styledUnderlines`; the cells themselves with full capabilities). -/
theorem render_frame_read_bytes (cl : Str → Nat) (rgb su legacy : Bool) (cs : List (Cell Str)) (hcs : ∀ c ∈ cs, c.st.wf)
    (ht : TextOK cl (renderFrom rgb su legacy {} cs)) :
    parseStyledB cl (renderFromB rgb su legacy {} cs) = .ok (capCells rgb su cs) ∧
    cellsWith emuSgr {} (tokenize cl (renderFromB rgb su legacy {} cs)) = .ok (capCells rgb su cs) ∧
    newStyledStringB cl {} (renderFromB rgb su legacy {} cs) = .ok (capCells rgb su cs) := by
  have hgood := good_renderFrom cl rgb su legacy cs (fun c hc => (hcs c hc).ulStyle) {} ht
  refine ⟨?_, ?_, ?_⟩
  · rw [renderFromB_eq, parseStyledB_toks cl _ hgood]
    exact (parseC.reads_frame rgb su legacy cs hcs).parseToks (cells_capCells rgb su cs)
  · rw [renderFromB_eq, tokenize_toks cl _ hgood, cellsWith_items]
    exact (emuC.reads_frame rgb su legacy cs hcs).parseToks (cells_capCells rgb su cs)
  · rw [renderFromB_eq, newStyledStringB_toks cl {} _ hgood]
    exact (ssC.reads_frame rgb su legacy cs hcs).ssParseToks (cells_capCells rgb su cs)

/-- The frame under the quirk. -/
theorem legacy_quirk_frame (cl : Str → Nat) (rgb su : Bool) (cs : List (Cell Str)) (hcs : ∀ c ∈ cs, c.st.wf)
    (ht : TextOK cl (renderFrom rgb su true {} cs)) :
    parseStyledB cl (renderFromB rgb su true {} cs) = .ok (capCells rgb su cs) ∧
    cellsWith emuSgr {} (tokenize cl (renderFromB rgb su true {} cs)) = .ok (capCells rgb su cs) ∧
    newStyledStringB cl {} (renderFromB rgb su true {} cs) = .ok (capCells rgb su cs) ∧
    specRunItems Spec.TStyle.reset (tokenize cl (renderFromB rgb su true {} cs))
      = (cs.map (fun c => (c.g, shownCaps rgb su c.st)), Spec.TStyle.reset) := by
  obtain ⟨h1, h2, h3⟩ := render_frame_read_bytes cl rgb su true cs hcs ht
  exact ⟨h1, h2, h3, C18Terminal.render_frame_shows_bytes cl rgb su true cs (fun c hc => (hcs c hc).ulStyle) ht⟩

-- a concrete frame under the quirk, no rgb, no styled underlines, read by the emulator (evaluated): RGB falls back to the palette
example : (match cellsWith emuSgr {} (tokenize (fun _ => 1) (renderFromB false false true {}
      [⟨[0x61], { fg := rgbColor 255 0 0, ulStyle := 3, attr := 2 }⟩, ⟨[0x62], { fg := indexColor 200 }⟩])) with
    | .ok r => decide (r = capCells false false [⟨[0x61], { fg := rgbColor 255 0 0, ulStyle := 3, attr := 2 }⟩, ⟨[0x62], { fg := indexColor 200 }⟩])
    | .error _ => false) = true := by decide +kernel

end VaxisModel.Props.C18Quirk
