/-
C18 ∘ C02: **`ParseStyledString` with its reading side**.  The byte-level theorems of `Props/C18Bytes.lean` replace
the reader (bufio, UTF-8 decoding, `Parser.print`'s look-ahead over what is buffered) by a cluster oracle on the remaining
runes.  Here the reader is C02/C08's model `ParserIO` (fill loop, `readRune` with its raw-byte fallback, `printLoop`):
for a string of Unicode scalar values handed to the parser in ONE read — what `ParseStyledString` does since the `fix:`
for F122 (a `bufio.Reader` that holds the whole string) — ParserIO delivers exactly the items of the oracle model, so every
byte-level theorem is a theorem about `parseStyledIO`.  With reads of the default buffer size (the code before the repair)
it is false: a cluster that straddles a read boundary is cut (`parse_chunked_cuts_cluster`).
Hypothesis `Agrees`: ParserIO's oracle (indexed by byte offset) and the oracle on the remaining runes are the same function.
-/
import VaxisModel.Lemmas.SgrReader
import VaxisModel.Props.C18Bytes

namespace VaxisModel.Props.C18Reader
open VaxisModel VaxisModel.Gen VaxisModel.Model.Sgr VaxisModel.Model.SgrBytes VaxisModel.Model.SgrReader
open VaxisModel.Lemmas.Sgr VaxisModel.Lemmas.SgrBytes VaxisModel.Lemmas.SgrReader
open VaxisModel.Model.ParserUtf8 (IsScalar)
open VaxisModel.Model.Parser (handTable)

/-- **ParserIO on a complete in-memory string = `scan` with the oracle.**  For every string of scalar values delivered in one
    read: the items of C02's reader model (UTF-8 decoding through bufio's fill loop, a Print extended by `print`'s look-ahead
    over the buffer) are the items of `tokenize` — one automaton step per rune, a Print swallows the oracle's cluster of
    the remaining runes — followed by what the parser emits at end of input (no Print, no CSI). -/
theorem reader_single_read (clusterAt : Nat → Nat) (cl : Str → Nat) (rs : Str) (hs : ∀ r ∈ rs, IsScalar r)
    (hag : Agrees clusterAt cl 0 rs) :
    ∃ tail, Model.ParserIO.runChunks handTable clusterAt [utf8 rs] = (tokenize cl rs).map ioItem ++ tail ∧ TailOk tail :=
  runChunks_single clusterAt cl rs hs hag

/-- **`ParseStyledString` with the reader side = the byte-level model**, for every string (any escape sequences, control
    strings, text). -/
theorem parseStyledIO_eq (clusterAt : Nat → Nat) (cl : Str → Nat) (rs : Str) (hs : ∀ r ∈ rs, IsScalar r)
    (hag : Agrees clusterAt cl 0 rs) :
    parseStyledIO clusterAt (utf8 rs) = parseStyledB cl rs := by
  obtain ⟨tail, h, hok⟩ := runChunks_single clusterAt cl rs hs hag
  unfold parseStyledIO parseStyledB
  rw [h, cellsOfIO_items tail hok]

theorem encoded_scalar (delta : Style → Style → List Seq) (cs : List (Cell Str)) (hg : ∀ c ∈ cs, ∀ r ∈ c.g, IsScalar r) :
    ∀ r ∈ bytesOfToks (encodeFrom delta {} cs), IsScalar r := by
  apply bytesOfToks_scalar
  intro g hgm r hr
  obtain ⟨c, hc, e⟩ := encodeFrom_text_mem delta cs {} g hgm
  exact hg c hc r (e ▸ hr)

/-- **roundtrip_cells with the reader side**: `ParseStyledString(EncodeCells(cells)) = cells`, the string read through
    bufio / UTF-8 decoding / `print`'s look-ahead (ParserIO), for all cell lists with well-formed styles and graphemes made
    of scalar values, with or without the legacy quirk. -/
theorem roundtrip_cells_io (clusterAt : Nat → Nat) (cl : Str → Nat) (legacy : Bool) (cs : List (Cell Str))
    (hcs : ∀ c ∈ cs, c.st.wf) (hg : ∀ c ∈ cs, ∀ r ∈ c.g, IsScalar r)
    (ht : TextOK cl (encodeCells legacy cs)) (hag : Agrees clusterAt cl 0 (encodeCellsB legacy cs)) :
    parseStyledIO clusterAt (utf8 (encodeCellsB legacy cs)) = .ok cs := by
  rw [parseStyledIO_eq clusterAt cl _ ?_ hag]
  · exact C18Bytes.roundtrip_cells_bytes cl legacy cs hcs ht
  · rw [C18Bytes.encodeCells_bytes_eq]
    exact encoded_scalar (encodeDelta legacy) cs hg

/-- The same for what `StyledString.Encode` writes, read by `ParseStyledString`. -/
theorem roundtrip_ss_via_cells_io (clusterAt : Nat → Nat) (cl : Str → Nat) (legacy : Bool) (cs : List (Cell Str))
    (hcs : ∀ c ∈ cs, c.st.wf) (hg : ∀ c ∈ cs, ∀ r ∈ c.g, IsScalar r)
    (ht : TextOK cl (ssEncode legacy cs)) (hag : Agrees clusterAt cl 0 (ssEncodeB legacy cs)) :
    parseStyledIO clusterAt (utf8 (ssEncodeB legacy cs)) = .ok cs := by
  rw [parseStyledIO_eq clusterAt cl _ ?_ hag]
  · exact (C18Bytes.roundtrip_cross_bytes cl legacy cs hcs).2 ht
  · rw [C18Bytes.ssEncode_bytes_eq]
    exact encoded_scalar (ssDelta legacy) cs hg

/-- **The hypothesis `Agrees` can always be met**: for any oracle on the remaining runes and any string of scalar values, the
    byte-offset oracle "decode what is left of the stream and ask `cl`" agrees with it — so `roundtrip_cells_io` is a statement
    about every rune-level oracle (`roundtrip_cells_io_any`). -/
theorem agrees_decoded (cl : Str → Nat) (rs : Str) (hs : ∀ r ∈ rs, IsScalar r) :
    Agrees (fun pos => cl (Model.ParserUtf8.decodeRunes ((utf8 rs).drop pos))) cl 0 rs := by
  intro k
  have h1 : utf8 rs = utf8 (rs.take k) ++ utf8 (rs.drop k) := by rw [← utf8_append, List.take_append_drop]
  simp only [Nat.zero_add]
  rw [h1, List.drop_left]
  have : Model.ParserUtf8.decodeRunes (utf8 (rs.drop k)) = rs.drop k :=
    Lemmas.ParserUtf8.decodeRunes_encodeAll (rs.drop k) (fun r hr => hs r (List.mem_of_mem_drop hr))
  rw [show utf8 (rs.drop k) = (rs.drop k).flatMap Model.ParserUtf8.encodeRune from rfl] at this ⊢
  rw [this]

theorem roundtrip_cells_io_any (cl : Str → Nat) (legacy : Bool) (cs : List (Cell Str))
    (hcs : ∀ c ∈ cs, c.st.wf) (hg : ∀ c ∈ cs, ∀ r ∈ c.g, IsScalar r) (ht : TextOK cl (encodeCells legacy cs)) :
    parseStyledIO (fun pos => cl (Model.ParserUtf8.decodeRunes ((utf8 (encodeCellsB legacy cs)).drop pos)))
      (utf8 (encodeCellsB legacy cs)) = .ok cs := by
  apply roundtrip_cells_io _ cl legacy cs hcs hg ht
  apply agrees_decoded
  rw [C18Bytes.encodeCells_bytes_eq]
  exact encoded_scalar (encodeDelta legacy) cs hg

/-- **The reader `ParseStyledString` builds in the current source is the whole-string reader** (regenerated on this run:
    `ansi.NewParser` gets `bufio.NewReaderSize(strings.NewReader(s), len(s))`): the model that follows the source
    (`parseStyledSrc`, which the driver runs on the exact strings of the `decb` stream) is `parseStyledIO`, the function the
    theorems above are about.  With the pre-F122 shape it would be `parseStyledIOChunked 4096`, for which they are false. -/
theorem reader_recognised (clusterAt : Nat → Nat) (bs : List Nat) :
    parseStyledSrc clusterAt bs = some (parseStyledIO clusterAt bs) := by
  unfold parseStyledSrc
  rw [if_pos (by decide)]

/-- Up to the buffer size the old reader was the new one: a string that fits the buffer arrives in one read. -/
theorem chunked_small_same (size : Nat) (clusterAt : Nat → Nat) (bs : List Nat) (h : bs.length ≤ size) :
    parseStyledIOChunked size clusterAt bs = parseStyledIO clusterAt bs := by
  unfold parseStyledIOChunked parseStyledIO
  cases bs with
  | nil => rfl
  | cons b t =>
    have hm : (b :: t).length ≤ max 1 size := by omega
    have h1 : (b :: t).take (max 1 size) = b :: t := List.take_of_length_le hm
    have h2 : (b :: t).drop (max 1 size) = [] := List.drop_of_length_le hm
    have : chunksOf size (b :: t).length (b :: t) = [b :: t] := by
      show (b :: t).take (max 1 size) :: chunksOf size t.length ((b :: t).drop (max 1 size)) = [b :: t]
      rw [h1, h2]
      cases t.length <;> rfl
    rw [this]

/-- Witness string (scaled down: reads of 4 bytes instead of 4096): `aaa`, then `e` + U+0301 with the `e` as the last byte of
    the first read. -/
def exStraddle : List Nat := [0x61, 0x61, 0x61, 0x65, 0xCC, 0x81]
/-- Its oracle: the cluster at byte offset 3 (`e` + combining acute) has two runes. -/
def exStraddleCl (pos : Nat) : Nat := if pos = 3 then 2 else 1

/-- **F122 on the model**: with reads of the buffer size the cluster that straddles the read boundary comes back as two
    cells (5 cells for 4 graphemes); with the whole string in one read (the repaired code) as one. -/
theorem parse_chunked_cuts_cluster :
    (match parseStyledIOChunked 4 exStraddleCl exStraddle with | .ok cs => cs.map (·.g) | .error _ => []) =
      [[0x61], [0x61], [0x61], [0x65], [0x301]] ∧
    (match parseStyledIO exStraddleCl exStraddle with | .ok cs => cs.map (·.g) | .error _ => []) =
      [[0x61], [0x61], [0x61], [0x65, 0x301]] := by decide

example : exStraddle = utf8 [0x61, 0x61, 0x61, 0x65, 0x301] := by decide

/-- `Agrees` for the witness string and the rune-level oracle of `Props/C18Bytes.lean`'s kind. -/
example : Agrees exStraddleCl (fun s => match s with | 0x65 :: 0x301 :: _ => 2 | _ => 1) 0 [0x61, 0x61, 0x61, 0x65, 0x301] := by
  intro k
  have : k = 0 ∨ k = 1 ∨ k = 2 ∨ k = 3 ∨ k = 4 ∨ 5 ≤ k := by omega
  rcases this with rfl | rfl | rfl | rfl | rfl | h
  · decide
  · decide
  · decide
  · decide
  · decide
  · have h1 : List.take k [0x61, 0x61, 0x61, 0x65, 0x301] = [0x61, 0x61, 0x61, 0x65, 0x301] := List.take_of_length_le (by simpa using h)
    have h2 : List.drop k [0x61, 0x61, 0x61, 0x65, 0x301] = [] := List.drop_of_length_le (by simpa using h)
    rw [h1, h2]; decide

end VaxisModel.Props.C18Reader
