/-
C18: `encoded_shows_*`, `render_frame_shows` and the embedded-terminal round trip written out over BYTES.

The string `EncodeCells` / `StyledString.Encode` writes (`encodeCellsB` / `ssEncodeB`: the regenerated format strings
printed with `%d`) goes through C02's parser model (`tokenize`: one `pstep` per rune, a `Print` swallows its cluster);
the items it delivers are fed to
* a `Spec.sgr` terminal (`specRunItems`): it shows at every grapheme exactly the cell's style and is reset afterwards;
* the embedded terminal's `sgr` (`cellsWith emuSgr`): the cells come back.
Composition of `Props.C18.encoded_shows_*` / `roundtrip_cells_emu` / `roundtrip_ss_via_cells` with
`Props.C18Bytes.tokenize_encoded`.  Hypothesis `TextOK` (A-concat for the cluster oracle) as everywhere at the byte level.
-/
import VaxisModel.Lemmas.SgrShows
import VaxisModel.Props.C18Bytes

namespace VaxisModel.Props.C18Terminal
open VaxisModel VaxisModel.Gen VaxisModel.Model.Sgr VaxisModel.Model.SgrBytes VaxisModel.Lemmas.Sgr
open VaxisModel.Lemmas.SgrBytes VaxisModel.Lemmas.SgrShows VaxisModel.Spec

/-- **encoded_shows over bytes (EncodeCells).** A `Spec.sgr` terminal fed the items the parser model delivers for the
    bytes `EncodeCells` writes shows at every grapheme exactly the style of its cell, in order, and its pen is the reset
    pen after the last item; for every cell list (underline styles among the six), with or without the legacy quirk. -/
theorem encoded_shows_cells_bytes (cl : Str → Nat) (legacy : Bool) (cs : List (Cell Str))
    (hcs : ∀ c ∈ cs, c.st.ulStyle ≤ 5) (ht : TextOK cl (encodeCells legacy cs)) :
    specRunItems TStyle.reset (tokenize cl (encodeCellsB legacy cs))
      = (cs.map (fun c => (c.g, shown c.st)), TStyle.reset) := by
  rw [(C18Bytes.tokenize_encoded cl legacy cs hcs).1 ht, specRunItems_items]
  exact C18.encoded_shows_cells legacy cs hcs

/-- **encoded_shows over bytes (StyledString.Encode).** -/
theorem encoded_shows_ss_bytes (cl : Str → Nat) (legacy : Bool) (cs : List (Cell Str))
    (hcs : ∀ c ∈ cs, c.st.ulStyle ≤ 5) (ht : TextOK cl (ssEncode legacy cs)) :
    specRunItems TStyle.reset (tokenize cl (ssEncodeB legacy cs))
      = (cs.map (fun c => (c.g, shown c.st)), TStyle.reset) := by
  rw [(C18Bytes.tokenize_encoded cl legacy cs hcs).2 ht, specRunItems_items]
  exact C18.encoded_shows_ss legacy cs hcs

/-- **roundtrip_cells_emu over bytes**: the bytes `EncodeCells` writes, through the parser model into the embedded
    terminal's `sgr` (one cell per `Print` with the pen at that moment), give back exactly the cells. -/
theorem roundtrip_cells_emu_bytes (cl : Str → Nat) (legacy : Bool) (cs : List (Cell Str)) (hcs : ∀ c ∈ cs, c.st.wf)
    (ht : TextOK cl (encodeCells legacy cs)) :
    cellsWith emuSgr {} (tokenize cl (encodeCellsB legacy cs)) = .ok cs := by
  rw [(C18Bytes.tokenize_encoded cl legacy cs (ul_of_wf cs hcs)).1 ht, cellsWith_items]
  exact C18.roundtrip_cells_emu legacy cs hcs

/-- The same for the bytes `StyledString.Encode` writes. -/
theorem roundtrip_ss_emu_bytes (cl : Str → Nat) (legacy : Bool) (cs : List (Cell Str)) (hcs : ∀ c ∈ cs, c.st.wf)
    (ht : TextOK cl (ssEncode legacy cs)) :
    cellsWith emuSgr {} (tokenize cl (ssEncodeB legacy cs)) = .ok cs := by
  rw [(C18Bytes.tokenize_encoded cl legacy cs (ul_of_wf cs hcs)).2 ht, cellsWith_items]
  exact (C18.roundtrip_ss_via_cells legacy cs hcs).2

/-- `cellsWith` is `ParseStyledString`'s own loop when the consumer is `parseSGR` (so the statements above and
    `roundtrip_cells_bytes` are about the same loop with two different consumers). -/
theorem cellsWith_parseSGR_eq (cl : Str → Nat) (s : Str) :
    cellsWith parseSGR {} (tokenize cl s) = parseStyledB cl s := cellsWith_parseSGR _ _

/-- **render_frame_shows over bytes**: the SGR part of a rendered frame (pen deltas as the regenerated format strings print them,
    graphemes, the final `sgrReset`), through the parser model into a `Spec.sgr` terminal: at every grapheme the terminal shows
    what a terminal with these capabilities shows for the cell's style (`shownCaps`), and it is reset afterwards. -/
theorem render_frame_shows_bytes (cl : Str → Nat) (rgb su legacy : Bool) (cs : List (Cell Str))
    (hcs : ∀ c ∈ cs, c.st.ulStyle ≤ 5) (ht : TextOK cl (renderFrom rgb su legacy {} cs)) :
    specRunItems TStyle.reset (tokenize cl (renderFromB rgb su legacy {} cs))
      = (cs.map (fun c => (c.g, shownCaps rgb su c.st)), TStyle.reset) := by
  rw [renderFromB_eq, tokenize_toks cl _ (good_renderFrom cl rgb su legacy cs hcs {} ht), specRunItems_items]
  exact C18.render_frame_shows rgb su legacy cs hcs

example :
    specRunItems TStyle.reset (tokenize C18Bytes.exCl (encodeCellsB true [⟨[0x61], { attr := 2 }⟩, ⟨[0x62, 0x301], {}⟩]))
      = ([([0x61], shown { attr := 2 }), ([0x62, 0x301], shown {})], TStyle.reset) := by
  decide

end VaxisModel.Props.C18Terminal
