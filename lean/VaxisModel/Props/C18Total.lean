/-
C18: "parsing an arbitrary parameter list never panics" — **without hypothesis**, at the byte level.

`sgr_total` / `sgr_total_ss` (Props/C18.lean) need "every parameter has at least one sub-parameter" (`[[]]` does panic in the
model, as `params[i][0]` / `subs[0]` would in Go).  Here that hypothesis is discharged from the code that builds the lists:
`csiDispatch` appends the pending number to every parameter it closes (`sgr_total_parser_delivers`), and `strings.Split` never
returns an empty slice.  Hence, for EVERY string (any runes, any cluster oracle, any default style):
`ParseStyledString`, the embedded terminal's pen, `NewStyledString` (with and without the hyperlink fields) and
`ParseStyledString` with its reader (any bytes — valid UTF-8 or not —, any read boundaries) return without panic.
-/
import VaxisModel.Lemmas.SgrTotal
import VaxisModel.Lemmas.SgrLinksFull
import VaxisModel.Lemmas.Parser
import VaxisModel.Props.C18
import VaxisModel.Props.C02

namespace VaxisModel.Props.C18Total
open VaxisModel VaxisModel.Gen VaxisModel.Model.Sgr VaxisModel.Model.SgrBytes VaxisModel.Model.SgrLinks VaxisModel.Model.SgrReader
open VaxisModel.Lemmas.Sgr VaxisModel.Lemmas.SgrTotal
open VaxisModel.Model.Parser (PState decodeParams step Table handTable run)
open VaxisModel.Model.ParserTable (Inp)

/-- **What the ansi parser can deliver to an SGR consumer**: whatever parameter bytes were collected, `csiDispatch` builds
    no parameter without a sub-parameter; and every `CSI` item emitted from any state on any input under any transition
    table carries such a list (so `params[i][0]` is never out of range). `ESC[m` → nil, `ESC[;m` → `[[0],[0]]`,
    `ESC[:m` → `[[0,0]]`. -/
theorem sgr_total_parser_delivers :
    (∀ (pb : List Nat), ∀ p ∈ decodeParams pb, p ≠ []) ∧
    (∀ (T : Table) (s : PState) (i : Inp) (inter : List Nat) (ps : List (List Int)) (f : Nat),
      .csi inter ps f ∈ (step T s i).out → ∀ p ∈ ps, p ≠ []) :=
  ⟨Lemmas.ParserOut.decodeParams_nonempty, fun T s i inter ps f h => Props.C02.params_nonempty T s i inter ps f h⟩

example : decodeParams [] = [] ∧ decodeParams [0x3B] = [[0], [0]] ∧ decodeParams [0x3A] = [[0, 0]] ∧
    decodeParams [0x34, 0x3A] = [[4, 0]] ∧ decodeParams [0x3B, 0x3B, 0x33, 0x38] = [[0], [0], [38]] := by decide

/-- **sgr_total, `ParseStyledString` over strings**: for every string and every cluster oracle, no panic. -/
theorem sgr_total_parseStyled_bytes (cl : Str → Nat) (s : Str) : ∃ cs, parseStyledB cl s = .ok cs :=
  cellsOf_total _ (scan_good cl _ _ _) {}

/-- **sgr_total, the embedded terminal over strings** (and `parseSGR` as a pen): from every pen, after every string. -/
theorem sgr_total_pen_bytes (cl : Str → Nat) (p : Style) (s : Str) :
    (∃ s', penOf emuSgr p (tokenize cl s) = .ok s') ∧ (∃ s', penOf parseSGR p (tokenize cl s) = .ok s') :=
  ⟨penOf_total emuSgr (fun s ps h => intSgr_ok emuCfg emu_nums_ok s ps h) _ (scan_good cl _ _ _) p,
   penOf_total parseSGR (fun s ps h => intSgr_ok parseCfg parse_nums_ok s ps h) _ (scan_good cl _ _ _) p⟩

/-- **sgr_total, `NewStyledString` over strings**: every string, every default style, every cluster oracle — whatever stands
    between `ESC [` and `m` (empty parameters, signs, letters, colons without digits). -/
theorem sgr_total_newStyledString_bytes (cl : Str → Nat) (dflt : Style) (s : Str) :
    ∃ cs, newStyledStringB cl dflt s = .ok cs := nssLoop_total cl dflt _ _ _

/-- The same for the model with the hyperlink fields. -/
theorem sgr_total_newStyledString_links_bytes (cl : Str → Nat) (dflt : Style) (dl : Link) (s : Str) :
    ∃ cs, newStyledStringBL cl dflt dl s = .ok cs := by
  obtain ⟨cs, h⟩ := sgr_total_newStyledString_bytes cl dflt s
  have hp := VaxisModel.Lemmas.SgrLinksFull.nssLoopL_cells cl dflt dl s.length dflt dl s
  unfold newStyledStringBL
  unfold newStyledStringB at h
  cases hl : nssLoopL cl dflt dl s.length dflt dl s with
  | ok r => exact ⟨r, rfl⟩
  | error e => rw [hl, h] at hp; cases hp

/-- **sgr_total, `ParseStyledString` with its reader** (C02's `ParserIO`: bufio fill loop, UTF-8 decoding with the raw-byte
    fallback, `print`'s look-ahead): for ANY bytes — valid UTF-8 or not — delivered in one read (the code since F122) or in
    reads of any size (the code before), and for the reader the current source builds. -/
theorem sgr_total_parseStyled_io (clusterAt : Nat → Nat) (bs : List Nat) :
    (∃ cs, parseStyledIO clusterAt bs = .ok cs) ∧
    (∀ size, ∃ cs, parseStyledIOChunked size clusterAt bs = .ok cs) ∧
    (∀ r, parseStyledSrc clusterAt bs = some r → ∃ cs, r = .ok cs) := by
  have h1 : ∃ cs, parseStyledIO clusterAt bs = .ok cs := cellsOfIO_total _ (runLoop_good _ _ _ _ _) {}
  have h2 : ∀ size, ∃ cs, parseStyledIOChunked size clusterAt bs = .ok cs :=
    fun size => cellsOfIO_total _ (runLoop_good _ _ _ _ _) {}
  refine ⟨h1, h2, ?_⟩
  intro r hr
  unfold parseStyledSrc at hr
  split at hr
  · cases hr; exact h1
  · split at hr
    · cases hr; exact h2 _
    · cases hr

/-- **The byte-level statement for one sequence**: from any parser state without a pending control string, the bytes
    `ESC [ <params> m` — ANY parameter bytes `0`–`9`, `:`, `;` in any arrangement — deliver exactly one `CSI` with the list
    `csiDispatch` builds, and neither `parseSGR` nor the embedded terminal panics on it. -/
theorem sgr_total_esc_m_bytes (s : PState) (he : s.exit = none) (pb : List Nat) (hpb : ∀ b ∈ pb, 0x30 ≤ b ∧ b ≤ 0x3B)
    (st : Style) :
    (run s (0x1B :: 0x5B :: (pb ++ [0x6D]))).2 = [.csi [] (decodeParams pb) 0x6D] ∧
    (∃ s', parseSGR st ((decodeParams pb).map (·.map Int.toNat)) = .ok s') ∧
    (∃ s', emuSgr st ((decodeParams pb).map (·.map Int.toNat)) = .ok s') := by
  refine ⟨?_, intSgr_ok parseCfg parse_nums_ok st _ (toNat_nonempty _ (Lemmas.ParserOut.decodeParams_nonempty pb)),
    intSgr_ok emuCfg emu_nums_ok st _ (toNat_nonempty _ (Lemmas.ParserOut.decodeParams_nonempty pb))⟩
  simp only [run, VaxisModel.Lemmas.Parser.pstep_esc s he]
  rw [VaxisModel.Lemmas.Parser.escape_csi _ rfl]
  have := VaxisModel.Lemmas.Parser.csi_tail
    ({ s with state := .csiEntry, inter := [], params := [], ignoreST := false } : PState) (Or.inl rfl) pb [] 0x6D hpb
    (by intro b hb; cases hb) (by decide) (by decide)
  simp only [List.nil_append] at this
  simp [this]

/-! All three consumers on: the seeded C18-m6 shapes (a truncated legacy RGB background NOT at the start of the list, total
length ≥ 5), every truncation of the legacy and colon forms of 38 / 48 / 58 after 0–3 leading parameters and before 0–1
trailing ones, sub-parameter counts 2, 4, 7, an unknown selector. -/

/-- No consumer panics on `q` (from the zero style and from a busy one). -/
def noPanic3 (q : Seq) : Bool :=
  [({} : Style), ⟨5, 6, 7, 3, 254⟩].all fun s =>
    (match parseSGR s q with | .ok _ => true | .error _ => false) &&
    (match emuSgr s q with | .ok _ => true | .error _ => false) &&
    (match ssSeq {} s q with | .ok _ => true | .error _ => false)

def truncShapes (p : Nat) : List Seq :=
  [[[p]], [[p], [5]], [[p], [2]], [[p], [2], [10]], [[p], [2], [10], [20]], [[p], [7]], [[p], [5, 1]],
   [[p, 2]], [[p, 5]], [[p, 2, 1]], [[p, 2, 1, 2]], [[p, 5, 1, 2]], [[p, 2, 0, 1, 2, 3, 4]], [[p, 9, 1]], [[p, 3, 1, 2, 3]],
   [[p, 7, 0, 1, 2, 3]], [[p, 2, 0, 1, 2]]]

def shapeTable : List Seq :=
  [38, 48, 58].flatMap fun p =>
    [[], [[1]], [[1], [3]], [[1], [3], [4, 3]]].flatMap fun pre =>
      (truncShapes p).flatMap fun t => [pre ++ t, pre ++ t ++ [[1]]]

example : shapeTable.length = 408 := by decide +kernel
example : shapeTable.all noPanic3 = true := by decide +kernel

-- the seeded C18-m6 shapes: `1;48;2;10;20` and `1;3;48;2;10` — bold (and italic) are set, the truncated colour is dropped
example : (match emuSgr {} [[1], [48], [2], [10], [20]] with | .ok s => decide (s = { attr := 2 }) | _ => false) = true := by decide
example : (match emuSgr {} [[1], [3], [48], [2], [10]] with | .ok s => decide (s = { attr := 10 }) | _ => false) = true := by decide
example : (match parseSGR {} [[1], [48], [2], [10], [20]] with | .ok s => decide (s = { attr := 2 }) | _ => false) = true := by decide
example : (match ssSeq {} {} [[1], [3], [48], [2], [10]] with | .ok s => decide (s.bg = 0) | _ => false) = true := by decide
example : [[[38], [5]], [[38], [2], [1]], [[38, 2]], [[58, 2, 0, 1, 2]], [[4, 0]], [[4, 1, 2, 3]], [[38, 1, 2, 3, 4, 5, 6]]].all noPanic3 = true := by
  decide

-- `4:` as NewStyledString sees it (`subs = ["4", ""]`: no label matches the empty text) and a body of separators only
example : (match ssLoop ssCfg {} (splitParams [0x34, 0x3A]) {} with | .ok s => decide (s = {}) | _ => false) = true := by decide
example : (match ssLoop ssCfg {} (splitParams [0x3B, 0x3A, 0x3B]) { attr := 2 } with | .ok s => decide (s = { attr := 2 }) | _ => false) = true := by
  decide

-- the hypothesis of `sgr_total` ("every parameter non-empty") is what the parser guarantees; it is sufficient, not necessary:
-- an empty parameter panics only when the loop reaches it (`params[i][0]`), not after a `return` or inside a passed-over form
example : (match parseSGR {} [[]] with | .error _ => true | _ => false) = true ∧
    (match parseSGR {} [[1], []] with | .error _ => true | _ => false) = true ∧
    (match parseSGR {} [[38], [5], []] with | .error _ => true | _ => false) = true ∧
    (match parseSGR {} [[38, 3, 7], []] with | .ok _ => true | _ => false) = true ∧
    (match ssSeq {} {} [[1], []] with | .error _ => true | _ => false) = true := by decide

/-! `Model.Sgr.extColour` READS these numbers (`Cfg.nums`, from `Gen.SgrCases.parseSGRExt` / `emuSgrExt`): the legacy form is read only
when `len(params[i:]) ≥ legacyMin`, its RGB variant only when `len(params[i:]) ≥ rgbMin` (on the REST of the list — the seeded
C18-m6 change tested the whole list), the loop then jumps `i += idxSkip` / `i += rgbSkip`; the colon forms with 3 / 5 / 6
sub-parameters insist on the selectors `s3` / `s5` / `s6`.  `sgr_total` needs `legacyMin ≥ 3` and `rgbMin ≥ 5` (`C18.cfgs_nums_ok`,
`ext_bounds_safe`); the refinement / agreement theorems need the standard values (`Covers.nums`, `facts_ext_forms`).  The
extractor recognises exactly the shapes `len(params[i:]) < N { …; return }`, `i += K`, `params[i][1] != V { …; return }`; anything
else is listed in `…ExtUnknown` (no crash) and `facts_ext_forms` fails. -/

-- the model follows the numbers: with `len(params[i:]) < 4` for the RGB form it panics on `38;2;1;2`, with `< 2` before the
-- selector on `38;5` — as the Go code would
example : (match intSgr { parseCfg with ext := [(38, [3, 4, 2, 4, 5, 2, 2])] } {} [[38], [2], [1], [2]] with
    | .error _ => true | _ => false) = true ∧
    (match intSgr { parseCfg with ext := [(38, [2, 5, 2, 4, 5, 2, 2])] } {} [[38], [5]] with
    | .error _ => true | _ => false) = true ∧
    (match parseSGR {} [[38], [2], [1], [2]], parseSGR {} [[38], [5]] with
    | .ok a, .ok b => decide (a = {} ∧ b = {}) | _, _ => false) = true := by decide

theorem facts_ext_forms :
    SgrCases.parseSGRExt = [(38, [3, 5, 2, 4, 5, 2, 2]), (48, [3, 5, 2, 4, 5, 2, 2]), (58, [3, 5, 2, 4, 5, 2, 2])] ∧
    SgrCases.emuSgrExt = SgrCases.parseSGRExt ∧
    SgrCases.parseSGRExtUnknown = [] ∧ SgrCases.emuSgrExtUnknown = [] := by decide

/-- What never-panic needs of those numbers (weaker than `facts_ext_forms`): the selector `params[i+1][0]` and the index
    `params[i+2][0]` are read only when at least 3 parameters remain, `params[i+4][0]` only when at least 5 remain, and the jumps
    do not pass the parameters that were read. -/
theorem ext_bounds_safe :
    (SgrCases.parseSGRExt ++ SgrCases.emuSgrExt).all (fun r =>
      match r.2 with
      | [legacyMin, rgbMin, idxSkip, rgbSkip, _, _, _] => 3 ≤ legacyMin && 5 ≤ rgbMin && idxSkip + 1 ≤ legacyMin && rgbSkip + 1 ≤ rgbMin
      | _ => false) = true := by decide

private theorem scan_no_parser_panic (cl : Str → Nat) : ∀ (fuel : Nat) (st : PState) (w : Str), VaxisModel.Props.C02.Inv st →
    Item.seq .panic ∉ scan cl fuel st w
  | 0, _, _, _ => by simp [scan]
  | _ + 1, _, [], _ => by simp [scan]
  | fuel + 1, st, r :: w, h => by
    obtain ⟨h1, h2, _⟩ := VaxisModel.Props.C02.invariant_step st h (.rune r)
    have hst := h1 rfl
    unfold scan
    simp only
    split
    · intro hm
      rcases List.mem_cons.mp hm with he | hm
      · cases he
      · exact scan_no_parser_panic cl fuel _ _ hst hm
    · intro hm
      rcases List.mem_append.mp hm with hm | hm
      · obtain ⟨y, hy, he⟩ := List.mem_map.mp hm
        cases he
        exact h2 hy
      · exact scan_no_parser_panic cl fuel _ _ hst hm

/-- **No panic anywhere on the way of `ParseStyledString`, for every string**: the parser model never emits its `panic` item
    (C02's invariant: the unguarded `p.exit()` is never a nil call) and `parseSGR` returns on every parameter list it is handed. -/
theorem sgr_total_parseStyled_bytes_parser (cl : Str → Nat) (s : Str) :
    Item.seq .panic ∉ tokenize cl s ∧ ∃ cs, parseStyledB cl s = .ok cs :=
  ⟨scan_no_parser_panic cl _ _ _ VaxisModel.Props.C02.inv_init, sgr_total_parseStyled_bytes cl s⟩

end VaxisModel.Props.C18Total
