/-
C19 — Lists and pagers: selection always valid and visible, content complete.
The property theorems, and the general forms some of them are instances of (`reached_inv`, the `*_any_state` lemmas,
`pager_line_on_screen`); the other lemmas are in Lemmas/.
-/
import VaxisModel.Model.ListGen
import VaxisModel.Lemmas.SimpleList
import VaxisModel.Lemmas.Pager
import VaxisModel.Lemmas.Scrollbar
import VaxisModel.Lemmas.DynList
import VaxisModel.Lemmas.DynListInv
import VaxisModel.Lemmas.DynCompose
import VaxisModel.Lemmas.DynComposeGutter
import VaxisModel.Lemmas.Window

namespace VaxisModel.Props.C19
open VaxisModel VaxisModel.Model

/-! ## widgets/list

`SimpleList.gen` carries the `m.index = …` expressions and the empty-list guard exactly as the
extractor found them in widgets/list/list.go on this run, so the theorems below are re-checked
against the current source. -/

section SimpleList
open VaxisModel.Model.SimpleList VaxisModel.Lemmas.SimpleList

/-- **No panic, index in range** — for every item count (including 0) and every history of
    Down/Up/Home/End/PageDown/PageUp/SetItems/Draw with any window heights (including 0): no
    operation panics, the offset stays non-negative, and whenever there are items the index
    satisfies `0 ≤ index < n` (with no items it is 0). -/
theorem simple_list_safe (n : Nat) (ops : List Op) :
    ∃ s, run gen (new n) ops = .ok s ∧ 0 ≤ s.offset ∧ 0 ≤ s.index ∧
      (0 < s.n → s.index < (s.n : Int)) ∧ (s.n = 0 → s.index = 0) := by
  obtain ⟨s, he, h1, h2, h3⟩ := run_ok ops (new n) (inv_new n)
  exact ⟨s, he, h1, h2, by omega, by omega⟩

/-- **Selected row inside the viewport** — after any history, a `Draw` into a window of height
    `h > 0` does not panic and prints only rows `< h` showing existing items, a row is drawn
    selected iff it shows item `index`, and when there are items such a row exists. -/
theorem simple_list_selected_visible (n : Nat) (ops : List Op) (h : Nat) (hh : 0 < h) :
    ∃ s, run gen (new n) ops = .ok s ∧ ∃ s' rows, draw gen s h = .ok (s', rows) ∧
      s'.index = s.index ∧
      (∀ r ∈ rows, r.row < h ∧ 0 ≤ r.item ∧ r.item < (s.n : Int) ∧ (r.sel = true ↔ r.item = s.index)) ∧
      (0 < s.n → ∃ r ∈ rows, r.sel = true ∧ r.item = s.index) := by
  obtain ⟨s, he, hi⟩ := run_ok ops (new n) (inv_new n)
  obtain ⟨s', rows, hd, _, _, hidx, hrows, hnone⟩ := draw_ok s h hi
  refine ⟨s, he, s', rows, hd, hidx, ?_, ?_⟩
  · by_cases hn : 0 < s.n
    · obtain ⟨_, hr⟩ := hrows hn
      obtain ⟨f1, f2, _⟩ := follow_bounds s h hi hn
      intro r hmem
      rw [hr, mem_rows] at hmem
      obtain ⟨i, hlt, rfl⟩ := hmem
      dsimp only
      refine ⟨by omega, by omega, by omega, ?_⟩
      simp only [beq_iff_eq]
      omega
    · rw [(hnone (by omega)).2]
      intro r hr; cases hr
  · intro hn
    obtain ⟨_, hr⟩ := hrows hn
    obtain ⟨f1, f2, f3⟩ := follow_bounds s h hi hn
    obtain ⟨f4, f5⟩ := f3 hh
    obtain ⟨_, _, h3⟩ := hi
    refine ⟨{ row := (s.index - follow s h).toNat, item := follow s h + ((s.index - follow s h).toNat : Int), sel := (((s.index - follow s h).toNat : Int) == s.index - follow s h) }, ?_, ?_, ?_⟩
    · rw [hr, mem_rows]
      exact ⟨(s.index - follow s h).toNat, by omega, rfl⟩
    · simp only [beq_iff_eq]; omega
    · show follow s h + ((s.index - follow s h).toNat : Int) = s.index
      omega

/-- **Rows in order, contiguous, without overlap, complete** — after any history (including
    `SetItems` anywhere in it), `Draw` into a window of any height `h` prints row `k` for exactly the
    `k < min (n − offset) h`, in that order, and row `k` shows item `offset + k`: consecutive rows,
    consecutive items, no row printed twice, and the viewport is filled whenever enough items remain. -/
theorem simple_list_rows_in_order (n : Nat) (ops : List Op) (h : Nat) :
    ∃ s, run gen (new n) ops = .ok s ∧ ∃ s' rows, draw gen s h = .ok (s', rows) ∧
      (0 < s.n → rows.length = min (s.n - s'.offset.toNat) h) ∧ (s.n = 0 → rows = []) ∧
      ∀ (k : Nat) (r : Row), rows[k]? = some r → r.row = k ∧ r.item = s'.offset + (k : Int) := by
  obtain ⟨s, he, hi⟩ := run_ok ops (new n) (inv_new n)
  obtain ⟨s', rows, hd, _, _, _, hrows, hnone⟩ := draw_ok s h hi
  refine ⟨s, he, s', rows, hd, ?_, ?_, ?_⟩
  · intro hn
    obtain ⟨ho, hr⟩ := hrows hn
    rw [hr, ho]; simp [Model.SimpleList.rows]
  · exact fun h0 => (hnone h0).2
  · intro k r hk
    by_cases hn : 0 < s.n
    · obtain ⟨ho, hr⟩ := hrows hn
      rw [hr] at hk
      have hmem := List.mem_of_getElem? hk
      simp only [Model.SimpleList.rows, List.getElem?_map] at hk
      cases hg : (List.range (min (s.n - (follow s h).toNat) h))[k]? with
      | none => rw [hg] at hk; cases hk
      | some i =>
        rw [hg] at hk
        have hik : i = k := by
          have hlt := Lemmas.ListBasic.lt_of_getElem? hg
          rw [List.getElem?_eq_getElem hlt, List.getElem_range] at hg
          exact (Option.some.inj hg).symm
        simp only [Option.map_some, Option.some.injEq] at hk
        subst hk; subst hik
        exact ⟨rfl, by rw [ho]⟩
    · rw [(hnone (by omega)).2] at hk
      simp at hk

/-- **C19 × C11 — which `Println` calls draw.**  `List.Draw` calls `win.Println(i, …)` for EVERY item
    `i` from the offset on; the list model keeps only the rows `i < height`.  By C11's model of
    `Window.Println` (`Model/Window.lean`) this is exact: a call with a row at or beyond the window
    height draws nothing, and a call with a row inside the window writes only cells of that row. -/
theorem simple_list_println_rows (lib : Model.Window.Lib) (rm : Bool) (win : Model.Window.Win)
    (segs : List (Nat × List Model.Window.Raw)) (row : Int) :
    (row ≥ win.height → Model.Window.printlnOps lib rm win row segs = []) ∧
    (∀ op ∈ Model.Window.printlnOps lib rm win row segs, op.row = row ∧ row < win.height) := by
  constructor
  · intro h; simp [Model.Window.printlnOps, h]
  · intro op hop
    unfold Model.Window.printlnOps at hop
    split at hop
    · cases hop
    · rename_i hlt
      refine ⟨?_, by omega⟩
      have key : ∀ (l : List Model.Window.Styled) (col : Int), ∀ op ∈ Model.Window.lnGo lib rm win.width row l col, op.row = row := by
        intro l
        induction l with
        | nil => intro col op h; cases h
        | cons a rest ih =>
          intro col op h
          obtain ⟨st, ch0⟩ := a
          simp only [Model.Window.lnGo] at h
          split at h
          · cases h
          · rcases List.mem_cons.mp h with h | h
            · rw [h]
            · exact ih _ op h
      exact key _ _ op hop

/-- Non-vacuity: a concrete history on three items. -/
example : (match run gen (new 3) [.down, .down, .draw 2, .setItems 1, .draw 2, .«end»] with
    | .ok s => s.index == 0 && s.offset == 0 | .error _ => false) = true := by decide

end SimpleList

/-! ## widgets/pager

Graphemes and their widths are parameters: the theorems hold for every list of characters
`vaxis.Characters` may return (any bytes, any widths, even negative ones). -/

section Pager
open VaxisModel.Model.Pager VaxisModel.Lemmas.Pager

/-- The source appends a non-empty unterminated last line in `Layout` (regenerated fact). -/
theorem layout_flushes_last : Gen.ListFacts.layoutFlushesLast = true := rfl

/-- **Every line is presented** — for every text and every width, the laid-out lines concatenated
    are exactly the text's characters without the newline characters (nothing lost, nothing
    duplicated, order kept — this includes a last line that has no terminator), and every line
    respects the width: it has at most one character or all but its last character are narrower
    than the window (the last one, possibly a wide grapheme, is what reached the width). -/
theorem pager_complete (w : Int) (cs : List Ch) :
    (layout Gen.ListFacts.layoutFlushesLast w cs).flatten = cs.filter (fun c => !c.isNl) ∧
    ∀ l ∈ layout Gen.ListFacts.layoutFlushesLast w cs, l.length ≤ 1 ∨ widthSum l.dropLast < w := by
  rw [layout_flushes_last]
  exact ⟨layout_flatten w cs, layout_good true w cs⟩

/-- **Offset clamped** — after `Draw` into a `w × h` window from any pager state (any text, any
    offset however large or negative, any previous width) the offset satisfies
    `0 ≤ Offset ≤ max 0 (lines − h)`, and the lines are those of the text at width `w` whenever the
    width changed. -/
theorem pager_offset_clamped (s : St) (w h : Nat) :
    let s' := (draw Gen.ListFacts.layoutFlushesLast s w h).1
    0 ≤ s'.offset ∧ s'.offset ≤ max 0 ((s'.lines.length : Int) - h) ∧
      ((w : Int) ≠ s.width → s'.lines = layout Gen.ListFacts.layoutFlushesLast w s.text) := by
  simp only [draw]
  split <;> rename_i hw <;> refine ⟨(clamp_bounds _ _ _).1, (clamp_bounds _ _ _).2, fun h => ?_⟩
  · rfl
  · exact absurd h hw

/-- **Offset clamped after every scroll sequence** — after ANY history of ScrollDown/ScrollUp/direct
    writes to `Offset`/text replacement/`Layout()`/`Draw` (any window sizes, zero included), from
    the initial pager, a `Draw` into a `w × h` window leaves `0 ≤ Offset ≤ max 0 (lines − h)`; and
    every later `Draw` into a window of the same width keeps the laid-out lines. -/
theorem pager_scroll_history (ops : List Op) (w h : Nat) :
    ∃ s', s' = (draw Gen.ListFacts.layoutFlushesLast (run Gen.ListFacts.layoutFlushesLast init ops) w h).1 ∧
      0 ≤ s'.offset ∧ s'.offset ≤ max 0 ((s'.lines.length : Int) - h) ∧ s'.width = w ∧
      (draw Gen.ListFacts.layoutFlushesLast s' w h).1 = s' := by
  obtain ⟨s, hs⟩ : ∃ x, x = run Gen.ListFacts.layoutFlushesLast init ops := ⟨_, rfl⟩
  rw [← hs]
  obtain ⟨h1, h2, _⟩ := pager_offset_clamped s w h
  have hw : (draw Gen.ListFacts.layoutFlushesLast s w h).1.width = (w : Int) := by
    simp only [draw]; split
    · rfl
    · rename_i hw; exact (Classical.not_not.mp hw).symm
  obtain ⟨s', hs'⟩ : ∃ x, x = (draw Gen.ListFacts.layoutFlushesLast s w h).1 := ⟨_, rfl⟩
  rw [← hs'] at h1 h2 hw
  refine ⟨s', hs', h1, h2, hw, ?_⟩
  have hidem : clampOffset s'.lines.length s'.offset h = s'.offset := by rw [clampOffset_eq]; omega
  simp only [draw, hw, ne_eq, not_true_eq_false, if_false, hidem]
  rw [← hw]

/-- **Draw presents the lines from the offset on** — the `h` rows drawn are the laid-out lines
    `offset, offset+1, …` (each through `drawRow`), followed by blank rows when the text ends. -/
theorem pager_draw_rows (s : St) (w h : Nat) (r : Nat) (hr : r < h) :
    (draw Gen.ListFacts.layoutFlushesLast s w h).2[r]? =
      some (match (draw Gen.ListFacts.layoutFlushesLast s w h).1.lines[(draw Gen.ListFacts.layoutFlushesLast s w h).1.offset.toNat + r]? with
        | some l => drawRow w l
        | none => List.replicate w none) := by
  simp only [draw]
  generalize (if (w : Int) ≠ s.width then { s with width := w, lines := layout Gen.ListFacts.layoutFlushesLast w s.text } else s) = s1
  generalize (clampOffset s1.lines.length s1.offset h).toNat = o
  by_cases hlt : o + r < s1.lines.length
  · have hv : r < ((s1.lines.drop o).take h).length := by simp; omega
    rw [List.getElem?_append_left (by simpa using hv)]
    simp [hr, List.getElem?_drop, hlt]
  · have hv : ((s1.lines.drop o).take h).length ≤ r := by simp; omega
    rw [List.getElem?_append_right (by simpa using hv)]
    have hnone : s1.lines[o + r]? = none := List.getElem?_eq_none (by omega)
    rw [hnone, List.getElem?_replicate]
    simp only [List.length_map, List.length_take, List.length_drop]
    split
    · rfl
    · omega

/-- A line inside the clamped window of a `Draw` is shown in its row. -/
theorem pager_line_on_screen (s : St) (w h : Nat) (hw : (w : Int) = s.width) (i : Nat) (l : Line)
    (hi : s.lines[i]? = some l)
    (h1 : clampOffset s.lines.length s.offset h ≤ i) (h2 : (i : Int) < clampOffset s.lines.length s.offset h + h) :
    ∃ r, r < h ∧ (draw Gen.ListFacts.layoutFlushesLast s w h).2[r]? = some (drawRow w l) := by
  obtain ⟨off, hoff⟩ : ∃ o, o = clampOffset s.lines.length s.offset h := ⟨_, rfl⟩
  rw [← hoff] at h1 h2
  have hb : 0 ≤ off := by rw [hoff, clampOffset_eq]; omega
  have hst : (draw Gen.ListFacts.layoutFlushesLast s w h).1 = { s with offset := off } := by
    simp only [draw, hw, ne_eq, not_true_eq_false, if_false]
    rw [hoff]
  refine ⟨i - off.toNat, by omega, ?_⟩
  have hrow := pager_draw_rows s w h (i - off.toNat) (by omega)
  rw [hrow, hst]
  have : off.toNat + (i - off.toNat) = i := by omega
  simp only [this, hi]

/-- **Every line can be presented** — for every pager state, every line `i` of the laid-out text
    and every window of `h ≥ 1` rows: scrolling to `Offset = i` and drawing (at the width the lines
    were laid out for) shows line `i` in one of the `h` rows — the clamping never makes a line
    unreachable, the last one included. -/
theorem pager_line_reachable (s : St) (w h : Nat) (hh : 1 ≤ h) (hw : (w : Int) = s.width)
    (i : Nat) (l : Line) (hi : s.lines[i]? = some l) :
    ∃ r, r < h ∧ (draw Gen.ListFacts.layoutFlushesLast { s with offset := (i : Int) } w h).2[r]? = some (drawRow w l) := by
  have hil : i < s.lines.length := Lemmas.ListBasic.lt_of_getElem? hi
  apply pager_line_on_screen { s with offset := (i : Int) } w h hw i l hi <;>
    (simp only []; rw [clampOffset_eq]; omega)

/-- **No character is lost on the drawn row** — a laid-out line (it respects the width, see
    `pager_complete`) whose characters are at least one column wide is drawn, in a window of width
    `w ≥ 1`, with EVERY character in its own cell: character `k` at the column that is the total width
    of the characters before it, which lies inside the window — also a wide grapheme that ends the
    line at the right edge. -/
theorem pager_row_keeps_characters (w : Nat) (hw : 1 ≤ w) (cs : List Ch) (hpos : ∀ c ∈ cs, c.isNl = false → 1 ≤ c.width)
    (l : Line) (hl : l ∈ layout Gen.ListFacts.layoutFlushesLast w cs) (k : Nat) (c : Ch) (hk : l[k]? = some c) :
    widthSum (l.take k) < w ∧ (drawRow w l)[(widthSum (l.take k)).toNat]? = some (some c) := by
  have hg : Good w l := layout_good _ w cs l hl
  have hsub : ∀ c ∈ l, 1 ≤ c.width := by
    intro c hc
    have hfl : c ∈ (layout Gen.ListFacts.layoutFlushesLast w cs).flatten := List.mem_flatten.mpr ⟨l, hl, hc⟩
    rw [(pager_complete w cs).1, List.mem_filter] at hfl
    exact hpos c hfl.1 (by simpa using hfl.2)
  have hcol := good_cols w hw l hg hsub k c hk
  refine ⟨hcol, ?_⟩
  have := (go_spec w l (List.replicate w none) 0 (Int.le_refl 0) hsub (by simp)).2.2 k c hk (by omega)
  simpa [drawRow] using this

/-- **C19 × C11 — `SetCell` outside the window.**  The pager draws a line by `win.SetCell(col, row, …)`
    for every character, the scrollbar by `win.SetCell(0, barTop+i, …)`; the models keep only the
    cells with `0 ≤ col < width`, `0 ≤ row < height`.  By C11's model of `Window.SetCell`
    (`Model/Window.lean`) this is exact: a call outside that range leaves the screen unchanged. -/
theorem setcell_outside_ignored (win : Model.Window.Win) (scr : Model.Window.Screen) (col row : Int)
    (c : Model.Window.Cell) (h : ¬ (0 ≤ col ∧ col < win.width ∧ 0 ≤ row ∧ row < win.height)) :
    win.setCell scr col row c = scr := by
  have hg : win.guard col row = false := Bool.eq_false_iff.mpr fun hg => h ((Lemmas.Window.winGuard_iff win col row).1 hg)
  cases win with
  | root c0 r0 w hh => simp only [Model.Window.Win.setCell, Model.Window.Win.put, hg]; rfl
  | child c0 r0 w hh par => simp only [Model.Window.Win.setCell, Model.Window.Win.put, hg]; rfl

/-- Non-vacuity: a wide character at the right edge of a 3-column window: "ab" + wide → the wide one
    starts in column 2. -/
example : drawRow 3 [⟨[97], 1⟩, ⟨[98], 1⟩, ⟨[0xe4], 2⟩] = [some ⟨[97], 1⟩, some ⟨[98], 1⟩, some ⟨[0xe4], 2⟩] := by decide

/-- Non-vacuity: "ab", newline, "c" without terminator at width 2 gives the lines "ab", "", "c"
    (the empty line is the newline met right after the wrap). -/
example :
    (layout true 2 [⟨[97], 1⟩, ⟨[98], 1⟩, ⟨[10], 0⟩, ⟨[99], 1⟩]).map (·.map (·.bytes))
      = [[[97], [98]], [], [[99]]] := by decide

end Pager

section Scrollbar
open VaxisModel.Model.Scrollbar

/-- **Bar inside the track** — for every real scroll position (`1 ≤ view < total`,
    `0 ≤ top ≤ total − view`) and every window height `h ≥ 1`, the scrollbar draws a bar of at least
    one row that lies entirely within rows `0 … h−1`. -/
theorem scrollbar_in_track (total view top h : Int)
    (hv : 1 ≤ view) (hvt : view < total) (ht0 : 0 ≤ top) (ht : top ≤ total - view) (hh : 1 ≤ h) :
    ∃ b, bar total view top h = some b ∧ 0 ≤ b.top ∧ 1 ≤ b.len ∧ b.top + b.len ≤ h :=
  Lemmas.Scrollbar.bar_in_track total view top h hv hvt ht0 ht hh

example : bar 10 3 7 5 = some ⟨3, 1⟩ := by decide

/-- **Every input, zero sizes included** — for ALL `TotalHeight`, `ViewHeight`, `Top` (any integers,
    valid or not) and every window height `h ≥ 0`: only rows inside the window receive the bar; and
    nothing at all is drawn when there is no content (`total < 1`), when the content fits the
    viewport (`view ≥ total`), or when the window has no rows.  (`TotalHeight` is the only divisor and
    is ≥ 1 wherever the code divides.) -/
theorem scrollbar_all_inputs (total view top : Int) (h : Nat) :
    (∀ r ∈ rows total view top h, r < h) ∧
    ((total < 1 ∨ view ≥ total ∨ h = 0) → rows total view top h = []) := by
  constructor
  · intro r hr
    unfold rows at hr
    split at hr
    · cases hr
    · exact List.mem_range.mp (List.mem_filter.mp hr).1
  · intro hc
    unfold rows
    rcases hc with hc | hc | hc
    · simp [bar, hc]
    · have : bar total view top h = none := by unfold bar; split <;> simp
      rw [this]
    · subst hc; split <;> simp

example : rows 10 3 7 5 = [3] := by decide

end Scrollbar

/-! ## vxfw/list `Dynamic`

The Builder is any list `hs` of widget heights (`nil` past its end); in a history the application
may replace it at any point (`HOp.items`) without telling `Dynamic`.  `DynList.genFacts` carries the
regenerated facts that six repairs are present in the source: the cursor-gutter guard (F119),
the stop condition of `insertChildren` (F119f), the walk back to an existing top widget at the
start of `Draw` (F119b), the gap counted by the upward-scroll code and the re-anchoring loop
(F119c), the wants-cursor block revealing a widget above the viewport (F119d), and the child index
compared as a `uint` (F119h).  The seventh repair (F119g: `ensureScroll` drops a pending scroll
when it moves the top to the cursor) is part of `DynList.ensureScroll` itself, which
`Props/C19Tie.lean` proves equal to the regenerated syntax of the method, interpreted. -/

section Dyn
open VaxisModel.Model.DynList VaxisModel.Lemmas.DynList

/-- The source carries all six repairs. -/
theorem dyn_repairs_present : genFacts = Facts.fixed := by decide

/-- **Layout — every gap, every state.**  Every `Draw`, from ANY scroll state (cursor, top, offset,
    pending scroll, wants-cursor flag — reachable or not, stale after a replacement of the items or
    not), for any gap, any builder heights and any viewport, returns its children in index order,
    each directly below the previous one plus the gap, and each with the height of its builder
    widget.  (Before repair F119c this was false for gap > 0 after an upward scroll:
    `Witness.F119.dyn_layout_fails_unfixed`.) -/
theorem dyn_layout (cfg : Cfg) (hs : List Nat) (s : St) (W H : Nat) (s' : St) (cs : List Child)
    (hU : s.top < U) (he : draw genFacts cfg hs s W H = .ok (s', cs)) :
    Contig cfg.gap cs ∧ Heights hs cs := by
  rw [dyn_repairs_present] at he
  exact draw_layout _ cfg hs s W H hU rfl (Or.inl rfl) s' cs he

/-- Contiguity means: consecutive indices, no overlap and no hole (unfolding of `Contig`). -/
theorem contig_pair (gap : Int) (c d : Child) (rest : List Child) (h : Contig gap (c :: d :: rest)) :
    d.idx = c.idx + 1 ∧ d.row = c.row + (c.height : Int) + gap ∧ Contig gap (d :: rest) :=
  ⟨h.1.1, h.1.2, h.2⟩

/-- **No overlap, in order** — with a gap ≥ 0 any two children returned by a `Draw` (from any state)
    are in index order and the earlier one ends (with its gap) at or above the row where the later
    one starts. -/
theorem dyn_no_overlap (cfg : Cfg) (hgap : 0 ≤ cfg.gap) (hs : List Nat) (s : St) (W H : Nat) (s' : St) (cs : List Child)
    (hU : s.top < U) (he : draw genFacts cfg hs s W H = .ok (s', cs))
    (i j : Nat) (ci cj : Child) (hij : i < j) (hi : cs[i]? = some ci) (hj : cs[j]? = some cj) :
    ci.idx < cj.idx ∧ ci.row + (ci.height : Int) + cfg.gap ≤ cj.row :=
  contig_pairwise hgap cs (dyn_layout cfg hs s W H s' cs hU he).1 i j ci cj hij hi hj

/-- Non-vacuity of `dyn_layout`: gap 1, three items, scrolled up by two rows from the second. -/
example : (match draw Facts.fixed ⟨1, false⟩ [2, 3, 1] ⟨1, 1, 0, -2, false⟩ 4 3 with
    | .ok (_, cs) => cs.map (fun c => (c.idx, c.row, c.height)) == [(0, -1, 2), (1, 2, 3)]
    | .error _ => false) = true := by decide

/-- **No panic with 0 items** — for a Builder that has no widgets, every history of
    SetCursor/NextItem/PrevItem/wheel/SetPendingScroll/Draw (ANY cursor a `uint` can hold — e.g.
    `SetCursor(uint(len(items)-1))` = 2^64−1 on the empty list —, bounded draw contexts, ANY gap
    even negative, with or without the cursor gutter) runs without panic. -/
theorem dyn_no_panic_empty (cfg : Cfg) (ops : List Op) (ho : ∀ op ∈ ops, OpOk op) :
    ∃ s, run genFacts cfg [] init ops = .ok s :=
  let ⟨s, he, _⟩ := run_empty _ (by rw [dyn_repairs_present]; rfl) cfg ops init ⟨rfl, by unfold U; decide⟩ ho
  ⟨s, he⟩

/-- **No panic — all histories, all gaps ≥ 0, items replaced at will.**  For every initial builder
    and every history of SetCursor/NextItem/PrevItem/wheel/SetPendingScroll/Draw interleaved with
    replacements of the Builder's items by any other list (more, fewer, other heights, none), with
    or without the cursor gutter, any viewport sizes including 0 rows (ANY `uint` cursor passed to
    SetCursor, bounded draw contexts, fewer than 2^63 items): nothing panics, the top index stays
    below 2^63, and a pending wants-cursor request has `top ≤ cursor`. -/
theorem dyn_no_panic (cfg : Cfg) (hgap : 0 ≤ cfg.gap) (hs : List Nat) (hlen : hs.length < 2 ^ 63)
    (ops : List HOp) (ho : ∀ op ∈ ops, HOpOk op) :
    ∃ hs' s, runH genFacts cfg hs init ops = .ok (hs', s) ∧ s.top < 2 ^ 63 ∧ s.cursor < U ∧
      (s.wantsCursor = true → s.top ≤ s.cursor) := by
  rw [dyn_repairs_present]
  obtain ⟨hs', s, he, hi, _⟩ := runH_inv cfg hgap ops hs init hlen init_inv ho
  exact ⟨hs', s, he, hi.top_ok, hi.cur_ok, hi.wants_ok⟩

/-- What a history leaves — the items the Builder has now and the state — satisfies the history invariant. -/
theorem reached_inv (cfg : Cfg) (hgap : 0 ≤ cfg.gap) (hs0 : List Nat) (hlen0 : hs0.length < 2 ^ 63)
    (ops : List HOp) (ho : ∀ op ∈ ops, HOpOk op) (hs : List Nat) (s : St)
    (hrun : runH genFacts cfg hs0 init ops = .ok (hs, s)) : Inv s ∧ hs.length < 2 ^ 63 := by
  rw [dyn_repairs_present] at hrun
  obtain ⟨hs', s1, he, hi, hl⟩ := runH_inv cfg hgap ops hs0 init hlen0 init_inv ho
  rw [hrun] at he; cases he
  exact ⟨hi, hl⟩

/-- … so `SetCursor(c)` to an existing item keeps `top` a `uint`, and the children of the next `Draw` are laid out
    contiguously (`dyn_layout`). -/
theorem reached_setCursor_layout (cfg : Cfg) (hgap : 0 ≤ cfg.gap) (hs0 : List Nat) (hlen0 : hs0.length < 2 ^ 63)
    (ops : List HOp) (ho : ∀ op ∈ ops, HOpOk op) (hs : List Nat) (s : St)
    (hrun : runH genFacts cfg hs0 init ops = .ok (hs, s)) (c hc W H : Nat) (hcur : hs[c]? = some hc)
    (s' : St) (cs : List Child) (hd : draw genFacts cfg hs (setCursor s c) W H = .ok (s', cs)) : Contig cfg.gap cs := by
  obtain ⟨hi, hl⟩ := reached_inv cfg hgap hs0 hlen0 ops ho hs s hrun
  have hcn : c < hs.length := Lemmas.ListBasic.lt_of_getElem? hcur
  have htop := (ensureScroll_inv s c hi.top_ok (by unfold U; omega)).top_ok
  exact (dyn_layout cfg hs (setCursor s c) W H s' cs (by unfold U; unfold setCursor; omega) hd).1

/-- **The top index refers to an existing item** — after every `Draw` (from any state satisfying the
    history invariant, any builder, gap ≥ 0) the top index is 0 or the index of an item the Builder
    has now; and over histories with a fixed builder it is so at every point. -/
theorem dyn_top_valid (cfg : Cfg) (hgap : 0 ≤ cfg.gap) (hs : List Nat) (hlen : hs.length < 2 ^ 63)
    (ops : List Op) (ho : ∀ op ∈ ops, OpOk op) :
    ∃ s, run genFacts cfg hs init ops = .ok s ∧ (s.top = 0 ∨ s.top < hs.length) ∧ s.cursor < U := by
  rw [dyn_repairs_present]
  obtain ⟨s, he, hi, ht⟩ := run_inv_top cfg hgap hs hlen ops init init_inv (Or.inl rfl) ho
  exact ⟨s, he, ht, hi.cur_ok⟩

/-- **The scroll state describes what was drawn** — after any history (gap ≥ 0, items replaced at
    will), every `Draw` leaves `scroll.top`/`scroll.offset` anchored on the child that covers row 0
    (together with the gap below it): that child is item `top` and starts `offset` rows above row 0.
    And the first child never starts below row 0 (no blank rows above the first drawn item). -/
theorem dyn_anchor (cfg : Cfg) (hgap : 0 ≤ cfg.gap) (hs0 : List Nat) (hlen0 : hs0.length < 2 ^ 63)
    (ops : List HOp) (ho : ∀ op ∈ ops, HOpOk op) (hs : List Nat) (s : St)
    (hrun : runH genFacts cfg hs0 init ops = .ok (hs, s))
    (W H : Nat) (hW : W ≠ 65535) (hH : H ≠ 65535) :
    ∃ s' cs, draw genFacts cfg hs s W H = .ok (s', cs) ∧
      (∀ (k : Nat) (c : Child), cs[k]? = some c → c.row ≤ 0 → 0 < c.row + (c.height : Int) + cfg.gap →
        s'.top = c.idx ∧ s'.offset = - c.row) ∧
      (∀ f, cs.head? = some f → f.row ≤ 0) := by
  obtain ⟨hi, hl⟩ := reached_inv cfg hgap hs0 hlen0 ops ho hs s hrun
  rw [dyn_repairs_present]
  obtain ⟨s', cs, hd, _⟩ := draw_inv cfg hgap hs hl s W H hW hH hi
  exact ⟨s', cs, hd, fun k c hk h1 h2 => draw_anchor cfg hgap hs hl s W H hW hH hi s' cs hd k c hk ⟨h1, h2⟩,
    fun f hf => draw_first_row cfg hgap hs s W H hW hH hi s' cs hd f hf⟩

/-- **NextItem / PrevItem keep the selection on an existing item** — whenever they move the cursor
    (return a command) the new cursor is the index of an item the Builder has. -/
theorem dyn_next_prev_in_range (hs : List Nat) (s s1 : St) (hcu : s.cursor < U)
    (hmove : (nextItem hs s = (s1, true)) ∨ (prevItem hs s = (s1, true))) : s1.cursor < hs.length := by
  obtain ⟨c, hc, _, e2⟩ := next_prev_cases hs s s1 hcu hmove
  rw [e2]; exact hc

/-- **Selected item visible — from ANY scroll state.**  For every builder, every gap, every viewport
    of ≥ 1 row: from any state with a sane top index (whatever top, offset, the pending scroll and
    the wants-cursor flag are — e.g. stale after the items were replaced, or a wheel scroll
    requested before the cursor moves), `SetCursor(c)` to an
    existing item of height ≥ 1 followed by `Draw` does not panic and returns a child for item `c`
    whose rows intersect the viewport and which lies fully inside the viewport when it fits. -/
theorem dyn_cursor_visible_any_state (cfg : Cfg) (hs : List Nat) (hlen : hs.length < 2 ^ 63) (s : St) (c W H hc : Nat)
    (hW : W ≠ 65535) (hH : H ≠ 65535) (hH1 : 1 ≤ H)
    (ht : s.top < 2 ^ 63) (hcur : hs[c]? = some hc) (hc1 : 1 ≤ hc) :
    ∃ s' cs, draw genFacts cfg hs (setCursor s c) W H = .ok (s', cs) ∧
      ∃ ch ∈ cs, ch.idx = c ∧ ch.height = hc ∧ Visible H ch := by
  rw [dyn_repairs_present]
  exact ensureScroll_draw_visible cfg hs hlen s c W H hc hW hH hH1 ht hcur hc1

/-- **Selected item visible — all histories, all gaps ≥ 0, items replaced at will.**  After ANY
    history from the initial state (SetCursor/NextItem/PrevItem/wheel/SetPendingScroll/Draw with any
    viewports, interleaved with replacements of the Builder's items) — also one that leaves a scroll
    pending: `SetCursor(c)` to an item the Builder has now (height ≥ 1) followed by `Draw` into a viewport of
    ≥ 1 row does not panic and shows item `c`: its rows intersect the viewport, and it is fully
    inside when it fits. -/
theorem dyn_cursor_visible (cfg : Cfg) (hgap : 0 ≤ cfg.gap) (hs0 : List Nat) (hlen0 : hs0.length < 2 ^ 63)
    (ops : List HOp) (ho : ∀ op ∈ ops, HOpOk op) (hs : List Nat) (s : St)
    (hrun : runH genFacts cfg hs0 init ops = .ok (hs, s))
    (c W H hc : Nat) (hW : W ≠ 65535) (hH : H ≠ 65535) (hH1 : 1 ≤ H)
    (hcur : hs[c]? = some hc) (hc1 : 1 ≤ hc) :
    ∃ s' cs, draw genFacts cfg hs (setCursor s c) W H = .ok (s', cs) ∧
      ∃ ch ∈ cs, ch.idx = c ∧ ch.height = hc ∧ Visible H ch := by
  obtain ⟨hi, hl⟩ := reached_inv cfg hgap hs0 hlen0 ops ho hs s hrun
  exact dyn_cursor_visible_any_state cfg hs hl s c W H hc hW hH hH1 hi.top_ok hcur hc1

/-- **C19 × C14 — the selected item is what the painter's algorithm shows.**  After any history (gap
    ≥ 0, items replaced at will), `SetCursor(c)` + `Draw` into a `W × H` viewport: take the returned
    children as the surface tree `dynTree` (the list's surface of size `W × H` with own buffer
    `pbuf`, child `j` a leaf at column `col` — the gutter offset — and its row, `lf j` = what widget
    `j` drew, a buffer of its width × its height).  Then at EVERY position of the selected child's
    rectangle that lies inside the viewport and a `sw × sh` screen, the top layer of C14's painter's
    algorithm (`Spec.Surface.layers`/`topAt`, which `Props.C14.run_frame_paints` proves to be the
    screen content after a frame of `App.Run`) is the selected widget's own cell — it is not covered
    by a sibling or by the list; and the selected child is visible (`Visible`), so such rows exist. -/
theorem dyn_selected_on_top (cfg : Cfg) (hgap : 0 ≤ cfg.gap) (hs0 : List Nat) (hlen0 : hs0.length < 2 ^ 63)
    (ops : List HOp) (ho : ∀ op ∈ ops, HOpOk op) (hs : List Nat) (s : St)
    (hrun : runH genFacts cfg hs0 init ops = .ok (hs, s))
    (c W H hc : Nat) (hW : W ≠ 65535) (hH : H ≠ 65535) (hH1 : 1 ≤ H)
    (hcur : hs[c]? = some hc) (hc1 : 1 ≤ hc)
    (sw sh : Nat) (pbuf : List Model.Window.Cell) (col : Int) (lf : Nat → Lemmas.DynCompose.Leaf)
    (hbuf : (lf c).buf.length = (lf c).w * hc) :
    ∃ s' cs, draw genFacts cfg hs (setCursor s c) W H = .ok (s', cs) ∧
      ∃ ch ∈ cs, ch.idx = c ∧ ch.height = hc ∧ Visible H ch ∧
        ∀ (x y : Int), 0 ≤ x → x < sw → x < W → col ≤ x → x < col + (lf c).w →
          0 ≤ y → y < sh → y < H → ch.row ≤ y → y < ch.row + (hc : Int) →
          ∃ cell, (lf c).buf[(y - ch.row).toNat * (lf c).w + (x - col).toNat]? = some cell ∧
            Spec.Surface.topAt (Spec.Surface.layers true (Lemmas.DynCompose.dynTree W H pbuf col lf cs) 0 0
              { x0 := 0, y0 := 0, x1 := sw, y1 := sh }) x y = some cell := by
  obtain ⟨s', cs, hd, ch, hmem, hidx, hh, hvis⟩ :=
    dyn_cursor_visible cfg hgap hs0 hlen0 ops ho hs s hrun c W H hc hW hH hH1 hcur hc1
  have hlay := reached_setCursor_layout cfg hgap hs0 hlen0 ops ho hs s hrun c hc W H hcur s' cs hd
  obtain ⟨k, hk⟩ := List.getElem?_of_mem hmem
  refine ⟨s', cs, hd, ch, hmem, hidx, hh, hvis, ?_⟩
  intro x y hx0 hxs hxW hxc hxw hy0 hys hyH hyr hyb
  have := Lemmas.DynCompose.child_on_top W H sw sh pbuf col lf cfg.gap hgap cs hlay k ch hk
    (by rw [hidx, hh]; exact hbuf) x y hx0 hxs hxW hxc (by rw [hidx]; exact hxw) hy0 hys hyH hyr (by rw [hh]; exact hyb)
  rw [hidx] at this
  exact this

/-- Non-vacuity of `dyn_selected_on_top`: two items of height 1 with gap 1 in a 4 × 3 viewport,
    the second selected: its cell (grapheme 7) is on top at (0, 2). -/
example : Spec.Surface.topAt (Spec.Surface.layers true
      (Lemmas.DynCompose.dynTree 4 3 [] 0 (fun j => ⟨1, [⟨5 + 2 * j, 1, 0⟩]⟩) [⟨0, 0, 1⟩, ⟨1, 2, 1⟩]) 0 0
      { x0 := 0, y0 := 0, x1 := 10, y1 := 10 }) 0 2 = some ⟨7, 1, 0⟩ := by decide

/-- **… and with the cursor gutter (`DrawCursor`)**: `Draw` replaces the selected child by the cursor
    surface `cur` — full width, at column 0 and the child's row, its own buffer `curbuf` holding the `▐`
    column — whose only child is the widget's surface at column `col` (= 2): the two-level tree
    `dynTreeG`.  After any history, `SetCursor(c)` + `Draw`: the children split as `pre ++ ch :: post`
    around the selected one, and at every position of the widget's rectangle inside the viewport and the
    screen the top layer of the painter's algorithm is still the selected widget's own cell — the glyph
    surface lies UNDER its child, no sibling overlaps. -/
theorem dyn_selected_on_top_gutter (cfg : Cfg) (hgap : 0 ≤ cfg.gap) (hs0 : List Nat) (hlen0 : hs0.length < 2 ^ 63)
    (ops : List HOp) (ho : ∀ op ∈ ops, HOpOk op) (hs : List Nat) (s : St)
    (hrun : runH genFacts cfg hs0 init ops = .ok (hs, s))
    (c W H hc : Nat) (hW : W ≠ 65535) (hH : H ≠ 65535) (hH1 : 1 ≤ H)
    (hcur : hs[c]? = some hc) (hc1 : 1 ≤ hc)
    (sw sh : Nat) (pbuf curbuf : List Model.Window.Cell) (col : Int) (lf : Nat → Lemmas.DynCompose.Leaf)
    (hbuf : (lf c).buf.length = (lf c).w * hc) :
    ∃ s' pre ch post, draw genFacts cfg hs (setCursor s c) W H = .ok (s', pre ++ ch :: post) ∧
      ch.idx = c ∧ ch.height = hc ∧ Visible H ch ∧
        ∀ (x y : Int), 0 ≤ x → x < sw → x < W → col ≤ x → x < col + (lf c).w →
          0 ≤ y → y < sh → y < H → ch.row ≤ y → y < ch.row + (hc : Int) →
          ∃ cell, (lf c).buf[(y - ch.row).toNat * (lf c).w + (x - col).toNat]? = some cell ∧
            Spec.Surface.topAt (Spec.Surface.layers true (Lemmas.DynCompose.dynTreeG W H pbuf curbuf col lf pre ch post) 0 0
              { x0 := 0, y0 := 0, x1 := sw, y1 := sh }) x y = some cell := by
  obtain ⟨s', cs, hd, ch, hmem, hidx, hh, hvis⟩ :=
    dyn_cursor_visible cfg hgap hs0 hlen0 ops ho hs s hrun c W H hc hW hH hH1 hcur hc1
  have hlay := reached_setCursor_layout cfg hgap hs0 hlen0 ops ho hs s hrun c hc W H hcur s' cs hd
  obtain ⟨pre, post, hsplit⟩ := List.append_of_mem hmem
  subst hsplit
  refine ⟨s', pre, ch, post, hd, hidx, hh, hvis, ?_⟩
  intro x y hx0 hxs hxW hxc hxw hy0 hys hyH hyr hyb
  have := Lemmas.DynCompose.child_on_top_gutter W H sw sh pbuf curbuf col lf cfg.gap hgap pre ch post hlay
    (by rw [hidx, hh]; exact hbuf) x y hx0 hxs hxW hxc (by rw [hidx]; exact hxw) hy0 hys hyH hyr (by rw [hh]; exact hyb)
  rw [hidx] at this
  exact this

/-- Non-vacuity of `dyn_selected_on_top_gutter`: two items of height 1, the second selected and wrapped
    in the cursor surface (glyph 9 in column 0): the widget's cell (grapheme 7) is on top at (2, 1), the
    glyph at (0, 1). -/
example :
    let t := Lemmas.DynCompose.dynTreeG 4 3 [] [⟨9, 1, 0⟩, ⟨0, 1, 0⟩, ⟨0, 1, 0⟩, ⟨0, 1, 0⟩] 2 (fun j => ⟨1, [⟨5 + 2 * j, 1, 0⟩]⟩)
      [⟨0, 0, 1⟩] ⟨1, 1, 1⟩ []
    Spec.Surface.topAt (Spec.Surface.layers true t 0 0 { x0 := 0, y0 := 0, x1 := 10, y1 := 10 }) 2 1 = some ⟨7, 1, 0⟩ ∧
    Spec.Surface.topAt (Spec.Surface.layers true t 0 0 { x0 := 0, y0 := 0, x1 := 10, y1 := 10 }) 0 1 = some ⟨9, 1, 0⟩ := by decide

/-- The same for `NextItem` / `PrevItem` from any state (when they move the cursor, i.e. return a
    command; the newly selected item has height ≥ 1). -/
theorem dyn_next_prev_visible_any_state (cfg : Cfg) (hs : List Nat) (hlen : hs.length < 2 ^ 63) (s : St) (W H : Nat)
    (hW : W ≠ 65535) (hH : H ≠ 65535) (hH1 : 1 ≤ H)
    (ht : s.top < 2 ^ 63) (hcu : s.cursor < U)
    (s1 : St) (hmove : (nextItem hs s = (s1, true)) ∨ (prevItem hs s = (s1, true)))
    (hpos : ∀ h, hs[s1.cursor]? = some h → 1 ≤ h) :
    ∃ s' cs, draw genFacts cfg hs s1 W H = .ok (s', cs) ∧
      ∃ ch ∈ cs, ch.idx = s1.cursor ∧ Visible H ch := by
  rw [dyn_repairs_present]
  obtain ⟨c, hc, e1, e2⟩ := next_prev_cases hs s s1 hcu hmove
  have hget : hs[c]? = some (hs[c]'hc) := List.getElem?_eq_getElem hc
  obtain ⟨s', cs, hd, ch, hm, hi, _, hv⟩ :=
    ensureScroll_draw_visible cfg hs hlen s c W H (hs[c]'hc) hW hH hH1 ht hget (hpos _ (by rw [e2]; exact hget))
  exact ⟨s', cs, by rw [e1]; exact hd, ch, hm, by rw [e2]; exact hi, hv⟩

/-- **NextItem / PrevItem show the selection — all histories, all gaps ≥ 0, items replaced at will**
    (the newly selected item has height ≥ 1; the other items may have any height, 0 included). -/
theorem dyn_next_prev_visible (cfg : Cfg) (hgap : 0 ≤ cfg.gap) (hs0 : List Nat) (hlen0 : hs0.length < 2 ^ 63)
    (ops : List HOp) (ho : ∀ op ∈ ops, HOpOk op) (hs : List Nat) (s : St)
    (hrun : runH genFacts cfg hs0 init ops = .ok (hs, s))
    (W H : Nat) (hW : W ≠ 65535) (hH : H ≠ 65535) (hH1 : 1 ≤ H)
    (s1 : St) (hmove : (nextItem hs s = (s1, true)) ∨ (prevItem hs s = (s1, true)))
    (hpos : ∀ h, hs[s1.cursor]? = some h → 1 ≤ h) :
    ∃ s' cs, draw genFacts cfg hs s1 W H = .ok (s', cs) ∧
      ∃ ch ∈ cs, ch.idx = s1.cursor ∧ Visible H ch := by
  obtain ⟨hi, hl⟩ := reached_inv cfg hgap hs0 hlen0 ops ho hs s hrun
  exact dyn_next_prev_visible_any_state cfg hs hl s W H hW hH hH1 hi.top_ok hi.cur_ok s1 hmove hpos

/-- Non-vacuity of the history theorems: a concrete history with gap 1 in which the items are
    replaced by fewer than the top index. -/
example : (match runH Facts.fixed ⟨1, true⟩ [1, 1, 5, 2] init
      [.op (.setCursor 3), .op (.draw 4 2), .op (.pending (-2)), .items [2], .op (.draw 4 5), .op .wheelDown,
       .op (.draw 4 5), .items [1, 1, 1], .op .next] with
    | .ok (hs, s) => s.pending == 0 && hs.length == 3 | .error _ => false) = true := by decide

/-- Non-vacuity: a stale state (top item 1, offset 7 — more than all the content) with gap 2; the
    cursor moved to item 3 is shown at the bottom of the 3-row viewport. -/
example : (match draw Facts.fixed ⟨2, false⟩ [2, 3, 1, 2] (setCursor ⟨1, 1, 30, 0, false⟩ 3) 4 3 with
    | .ok (_, cs) => cs.map (fun c => (c.idx, c.row, c.height)) == [(1, -8, 3), (2, -3, 1), (3, 0, 2)]
    | .error _ => false) = true := by decide

end Dyn

end VaxisModel.Props.C19
