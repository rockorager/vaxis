/-
C19 for vxfw/list `Dynamic`, all clauses in one statement over the EXECUTED bodies (`Model/DynExec.lean` run on the
regenerated `Gen/DynSkel.lean`): a corollary of `Props/C19Exec.lean` (executed body = model, histories) and `Props/C19.lean`
(the clauses over the model).  The counterparts for the widgets are `Props/C19Wid.lean` `list_selected_visible_body`,
`pager_presents_every_character_body`, `pager_offset_clamped_body`, `scrollbar_in_track_body`.
-/
import VaxisModel.Props.C19Exec
import VaxisModel.Props.C19

namespace VaxisModel.Props.C19All
open VaxisModel.Model VaxisModel.Model.DynExec VaxisModel.Model.DynList
open VaxisModel.Lemmas.DynList
open VaxisModel.Props.C19Exec

/-- **All clauses of C19 for `Dynamic` in one statement over the EXECUTED bodies.**  Any gap ≥ 0, gutter on or off, any
    initial items, ANY history of SetCursor / NextItem / PrevItem / wheel / SetPendingScroll / Draw interleaved with
    replacements of the items, every operation run from the regenerated body of its method — then `SetCursor(c)` to an item
    the Builder has now (height ≥ 1) and `Draw` into a bounded viewport of ≥ 1 row, both executed from their bodies:
    * nothing panics, gets stuck or runs out of fuel (the history reaches a state, and so do the two final calls);
    * the children `Draw` returns are in index order, each directly below the previous one plus the gap, each with the height
      of its builder widget, no two overlapping;
    * the selected item `c` is among them and visible: its rows meet the viewport, and it lies fully inside when it fits. -/
theorem dynamic_over_executed_bodies (cfg : Cfg) (hgap : 0 ≤ cfg.gap) (hs0 : List Nat) (hlen0 : hs0.length < 2 ^ 63)
    (ops : List HOp) (ho : ∀ op ∈ ops, HOpOk op)
    (c W H hc : Nat) (hW : W ≠ 65535) (hH : H ≠ 65535) (hH1 : 1 ≤ H) (hcU : c < 2 ^ 64) :
    ∃ hs s, runBodyH cfg hs0 init ops = some (hs, s) ∧
      (hs[c]? = some hc → 1 ≤ hc →
        ∃ s1 s' cs, stepBody cfg hs s (.setCursor c) = some s1 ∧
          runDraw genBodies (builder hs) cfg s1 W H (drawFuel hs s1 H) = .ok (s', cs) ∧
          Contig cfg.gap cs ∧ Heights hs cs ∧
          (∀ (i j : Nat) (ci cj : Child), i < j → cs[i]? = some ci → cs[j]? = some cj → ci.idx < cj.idx ∧ ci.row + (ci.height : Int) + cfg.gap ≤ cj.row) ∧
          ∃ ch ∈ cs, ch.idx = c ∧ ch.height = hc ∧ Visible H ch) := by
  obtain ⟨hb, _⟩ := history_body_eq_model cfg hgap ops hs0 init hlen0 Lemmas.DynList.init_inv ho
  obtain ⟨hs, s, hrun, hinv, hlen⟩ := Lemmas.DynList.runH_inv cfg hgap ops hs0 init hlen0 Lemmas.DynList.init_inv ho
  refine ⟨hs, s, by rw [hb, hrun]; rfl, ?_⟩
  intro hcur hc1
  have hrunG : runH genFacts cfg hs0 init ops = .ok (hs, s) := by rw [C19.dyn_repairs_present]; exact hrun
  obtain ⟨s', cs, hd, ch, hmem, h1, h2, h3⟩ := C19.dyn_cursor_visible cfg hgap hs0 hlen0 ops ho hs s hrunG c W H hc hW hH hH1 hcur hc1
  have hsc := step_body_eq_model cfg hs s (.setCursor c) (by have := hinv.top_ok; omega) (by omega) hcU
  have htop : (setCursor s c).top < 2 ^ 64 := by
    have := hinv.top_ok
    unfold setCursor ensureScroll
    split <;> simp only [] <;> omega
  have hdF : draw Facts.fixed cfg hs (setCursor s c) W H = .ok (s', cs) := by rw [← C19.dyn_repairs_present]; exact hd
  have hdb := draw_body_eq_model hs cfg (setCursor s c) W H (drawFuel hs (setCursor s c) H) htop (by omega) (Nat.le_refl _)
  rw [hdF] at hdb
  have hU : (setCursor s c).top < U := by unfold U; exact htop
  obtain ⟨hcont, hheights⟩ := C19.dyn_layout cfg hs (setCursor s c) W H s' cs hU hd
  refine ⟨setCursor s c, s', cs, by rw [hsc]; rfl, hdb, hcont, hheights, ?_, ch, hmem, h1, h2, h3⟩
  intro i j ci cj hij hi hj
  exact C19.dyn_no_overlap cfg hgap hs (setCursor s c) W H s' cs hU hd i j ci cj hij hi hj

/-- Non-vacuity: items of heights 1, 2, 1, a wheel-down and a draw, then `SetCursor(2)` + `Draw` into 4 × 2, all executed:
    the third item is drawn, inside the viewport. -/
example :
    (match runBodyH ⟨0, false⟩ [1, 2, 1] init [.op .wheelDown, .op (.draw 4 2)] with
     | some (hs, s) =>
       (match stepBody ⟨0, false⟩ hs s (.setCursor 2) with
        | some s1 =>
          (match runDraw genBodies (builder hs) ⟨0, false⟩ s1 4 2 (drawFuel hs s1 2) with
           | .ok (_, cs) => cs.any (fun ch => ch.idx == 2 && decide (0 ≤ ch.row) && decide (ch.row + (ch.height : Int) ≤ 2))
           | .error _ => false)
        | none => false)
     | none => false) = true := by
  decide +kernel

end VaxisModel.Props.C19All
