/-
C19 × C15: a `Dynamic` list inside a vxfw application.  C19 says what the list's `CaptureEvent` does with a key (executed
from its regenerated body: `j`/Down = `NextItem`, a command iff the selection moved); C15 says what the framework does with
the answer (capture phase root → focused, stop at the first consumed offer, each command once).  Together: a `j` pressed
while a descendant of the list has the focus moves the selection by one item and NOBODY ELSE sees the key — neither the
capturing widgets below the list, nor the focused widget, nor any ancestor on the way back; redraw and consume take effect
exactly once.  When the selection cannot move (last item) the list returns nil and the key goes on along the route.
-/
import VaxisModel.Lemmas.Vxfw
import VaxisModel.Spec.Routing
import VaxisModel.Props.C19Exec

namespace VaxisModel.Props.C19C15
open VaxisModel.Model VaxisModel.Model.Vxfw VaxisModel.Spec.Routing VaxisModel.Lemmas.Vxfw

/-- `vxfw.ConsumeAndRedraw()` = `BatchCmd{RedrawCmd{}, ConsumeEventCmd{}}`. -/
def consumeAndRedraw : Cmd := .batch [.redraw, .consume]

def returnsOf (body : List GoSyn.Line) : List GoSyn.Expr :=
  (body.filter fun l => l.kind == .returnS).map (·.e1)

/-- **Every command `Dynamic`'s event handlers return is `nil` or `vxfw.ConsumeAndRedraw()`** (read off the regenerated
    bodies of `CaptureEvent` and `HandleEvent`). -/
theorem dynamic_returns_nil_or_consume_and_redraw :
    (returnsOf Gen.DynSkel.captureEvent ++ returnsOf Gen.DynSkel.handleEvent).all (fun e =>
      e == .pair (.var "nil") (.var "nil") || e == .pair (.call (.var "vxfw.ConsumeAndRedraw")) (.var "nil")) = true := by
  decide +kernel

/-- What the list answers to an event offered in the capture phase, and its new state: its regenerated `CaptureEvent`
    body, executed. -/
def listCapture (hs : List Nat) (st : DynList.St) (ev : DynExec.Ev) : Cmd × DynList.St :=
  match DynExec.runCaptureEvent DynExec.genBodies (DynList.builder hs) false ev st with
  | .ok (st', true) => (consumeAndRedraw, st')
  | .ok (st', false) => (.nil, st')
  | .error _ => (.nil, st)

/-- The route of a key below the list `L`: the capturing widgets between the list and the focused widget, the focused
    widget, then every widget of the path but the last, nearest first. -/
def routeBelow (o : Oracle) (s : Vxfw.St) (post : List Id) : List (Id × Phase) :=
  (post.filter o.captures).map (·, .capture) ++ [(s.focused, .target)] ++ s.path.dropLast.reverse.map (·, .bubble)

/-- What `CaptureEvent` does with a key event according to the model (`ev.keys` = the arguments `ev.Matches` accepts). -/
def captureModel (hs : List Nat) (st : DynList.St) (ev : DynExec.Ev) : DynList.St × Bool :=
  if "'j'" ∈ ev.keys ∨ "vaxis.KeyDown" ∈ ev.keys then DynList.nextItem hs st
  else if "'k'" ∈ ev.keys ∨ "vaxis.KeyUp" ∈ ev.keys then DynList.prevItem hs st else (st, false)

/-- **A key reaches the list first and stops there when the selection moves.**  Any application state whose focus path
    runs through the list `L` (`path = pre ++ L :: post`, no capturing widget above the list), any behaviour of all the other
    widgets (no focus commands in answers), ANY key event, the list answering with what its executed `CaptureEvent` returns:
    * the list's new state is the model's (`j`/Down: `NextItem`, `k`/Up: `PrevItem`, any other key: unchanged);
    * if the selection moved, the whole dispatch is: the list's capture call, then `redraw` and `consume` taking effect, once
      each — no other handler is called (the focused widget never sees the key);
    * if it did not move (no such item, or another key), the list's call has no effect and the key goes on: capturing
      widgets below the list, the focused widget, then the bubble phase. -/
theorem list_key (o : Oracle) (hnf : FocusFree o) (fuel : Nat) (s : Vxfw.St) (k : Nat) (pre post : List Id) (L : Id)
    (hpath : s.path = pre ++ L :: post) (hpre : ∀ w ∈ pre, o.captures w = false) (hL : o.captures L = true)
    (hs : List Nat) (st : DynList.St) (hc : st.cursor < 2 ^ 64) (ev : DynExec.Ev) (hev : ev.typ = "vaxis.Key")
    (hans : o.h L (.key k) .capture s.calls = (listCapture hs st ev).1) :
    (listCapture hs st ev).2 = (captureModel hs st ev).1 ∧
    ((captureModel hs st ev).2 = true →
      (handleEvent o (fuel + 1) s (.key k)).trace =
        s.trace ++ [.call L (.key k) .capture, .eff .redraw, .eff .consume]) ∧
    ((captureModel hs st ev).2 = false →
      (handleEvent o (fuel + 1) s (.key k)).trace =
        s.trace ++ .call L (.key k) .capture :: specRun o.h (.key k) (s.calls + 1) (routeBelow o s post)) := by
  have hcap := C19Exec.capture_event_body_eq_model hs st false ev hc
  simp only [hev, Bool.false_eq_true, if_false, if_true] at hcap
  have hlc : listCapture hs st ev =
      (if (captureModel hs st ev).2 then consumeAndRedraw else .nil, (captureModel hs st ev).1) := by
    unfold listCapture
    rw [show DynExec.runCaptureEvent DynExec.genBodies (DynList.builder hs) false ev st = .ok (captureModel hs st ev) from hcap]
    generalize captureModel hs st ev = r
    obtain ⟨st', b⟩ := r
    cases b <;> rfl
  have hroute : route o.captures s.path s.focused = (L, .capture) :: routeBelow o s post := by
    have hf : pre.filter o.captures = [] := by
      rw [List.filter_eq_nil_iff]; intro w hw; simp [hpre w hw]
    simp [route, routeBelow, hpath, List.filter_append, hf, hL]
  have ht := handleEvent_plain o hnf fuel s (.key k)
  rw [hroute] at ht
  rw [hlc] at hans
  refine ⟨by rw [hlc], ?_, ?_⟩
  · intro hm
    simp only [hm, if_true] at hans
    rw [ht]
    simp [specRun, hans, consumeAndRedraw, Cmd.flatten, Cmd.flattenL, effOfAtom]
  · intro hm
    simp only [hm] at hans
    rw [ht]
    simp [specRun, hans, Cmd.flatten]

/-- The `j` key: the selection moves to the next item, if there is one, and then nobody else sees the key. -/
theorem list_key_j (o : Oracle) (hnf : FocusFree o) (fuel : Nat) (s : Vxfw.St) (k : Nat) (pre post : List Id) (L : Id)
    (hpath : s.path = pre ++ L :: post) (hpre : ∀ w ∈ pre, o.captures w = false) (hL : o.captures L = true)
    (hs : List Nat) (st : DynList.St) (hc : st.cursor < 2 ^ 64)
    (hans : o.h L (.key k) .capture s.calls = (listCapture hs st (DynExec.keyEv ["'j'"])).1) :
    (listCapture hs st (DynExec.keyEv ["'j'"])).2 = (DynList.nextItem hs st).1 ∧
    ((DynList.nextItem hs st).2 = true →
      (handleEvent o (fuel + 1) s (.key k)).trace =
        s.trace ++ [.call L (.key k) .capture, .eff .redraw, .eff .consume]) := by
  have h := list_key o hnf fuel s k pre post L hpath hpre hL hs st hc (DynExec.keyEv ["'j'"]) rfl hans
  have hm : captureModel hs st (DynExec.keyEv ["'j'"]) = DynList.nextItem hs st := by
    simp [captureModel, DynExec.keyEv]
  rw [hm] at h
  exact ⟨h.1, h.2.1⟩

/-- Non-vacuity: three items, cursor on the first: the executed `CaptureEvent` answers `ConsumeAndRedraw()` and the cursor
    is on the second item. -/
example : (match listCapture [1, 1, 1] DynList.init (DynExec.keyEv ["'j'"]) with
    | (.batch [.redraw, .consume], st') => st'.cursor == 1
    | _ => false) = true := by
  decide +kernel

/-- … and in the application (root 0, the list 1 capturing, the focused item widget 2, every other widget answering
    `redraw`): the dispatch of the key is the list's capture call and the two effects; widget 2 is never called. -/
example :
    (handleEvent ⟨fun w _ ph _ => if w = 1 ∧ ph = .capture then consumeAndRedraw else .redraw, fun w => w == 1⟩ 1
      { focused := 2, root := 0, path := [0, 1, 2] } (.key 106)).trace =
      [.call 1 (.key 106) .capture, .eff .redraw, .eff .consume] := by
  decide +kernel

end VaxisModel.Props.C19C15
