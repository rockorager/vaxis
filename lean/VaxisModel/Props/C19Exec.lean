/-
C19 — the regenerated bodies of vxfw/list `Dynamic`, EXECUTED, are the model.

`Gen/DynSkel.lean` (regenerated from /repo on every run) holds every method body of `Dynamic` as
syntax; `Model/DynExec.lean` interprets it.  Running the regenerated body gives exactly the function of
`Model/DynList.lean` that the property theorems (`Props/C19.lean`) are about — for ALL states, builders
and events: a change of the source changes the interpreted function, and these theorems (or
`C19Tie.skeleton_*`, through which they go) fail.
-/
import VaxisModel.Model.DynGenBodies
import VaxisModel.Lemmas.DynExec
import VaxisModel.Lemmas.DynExecDraw
import VaxisModel.Props.C19Tie
import VaxisModel.Lemmas.DynListInv

namespace VaxisModel.Props.C19Exec
open VaxisModel.Model VaxisModel.Model.DynExec VaxisModel.Model.DynList
open VaxisModel.Lemmas.DynExec (expBodies)
open VaxisModel.Lemmas.DynList

/-- The regenerated bodies parse to the statement trees the execution lemmas are about. -/
theorem gen_bodies_parsed : genBodies = expBodies := by
  unfold genBodies expBodies Bodies.ofLines
  rw [C19Tie.skeleton_draw, C19Tie.skeleton_insertChildren, C19Tie.skeleton_nextItem, C19Tie.skeleton_prevItem,
    C19Tie.skeleton_ensureScroll, C19Tie.skeleton_events.1, C19Tie.skeleton_events.2,
    Lemmas.DynTrees.parse_draw, Lemmas.DynTrees.parse_ins, Lemmas.DynTrees.parse_next, Lemmas.DynTrees.parse_prev,
    Lemmas.DynTrees.parse_ens, Lemmas.DynTrees.parse_hev, Lemmas.DynTrees.parse_cev]

/-- **`HandleEvent`, executed from the regenerated body, for EVERY event**: nothing when the handlers
    are disabled; a mouse event whose button is the wheel scrolls (`DynList.wheelDown` / `wheelUp`,
    the latter only when `offset > 0 && top > 0`); every other event (other buttons, keys, anything
    else) changes nothing and returns no command. -/
theorem handle_event_body_eq_model (b : Nat → Option Nat) (s : St) (dis : Bool) (ev : Ev) :
    runHandleEvent genBodies b dis ev s = .ok
      (if dis then (s, false)
       else if ev.typ = "vaxis.Mouse" then
         (if ev.button = "vaxis.MouseWheelDown" then wheelDown s
          else if ev.button = "vaxis.MouseWheelUp" then wheelUp s else (s, false))
       else (s, false)) := by
  rw [gen_bodies_parsed]; exact Lemmas.DynExec.hev_all b s dis ev

/-- **`CaptureEvent`, executed from the regenerated body, for EVERY event** (`ev.keys` = the arguments
    `ev.Matches` accepts): nothing when the handlers are disabled or the event is not a key; `j`/Down
    is `NextItem` (itself executed from its regenerated body, calling `ensureScroll`'s), else `k`/Up
    is `PrevItem`; a command is returned iff the item changed. -/
theorem capture_event_body_eq_model (hs : List Nat) (s : St) (dis : Bool) (ev : Ev) (hc : s.cursor < 2 ^ 64) :
    runCaptureEvent genBodies (builder hs) dis ev s = .ok
      (if dis then (s, false)
       else if ev.typ = "vaxis.Key" then
         (if "'j'" ∈ ev.keys ∨ "vaxis.KeyDown" ∈ ev.keys then nextItem hs s
          else if "'k'" ∈ ev.keys ∨ "vaxis.KeyUp" ∈ ev.keys then prevItem hs s else (s, false))
       else (s, false)) := by
  rw [gen_bodies_parsed]; exact Lemmas.DynExec.cev_all hs s dis ev

theorem ok_of_proj {x : Res} {st : St} {cs : List Child} {c : Ctl} (h : Lemmas.DynExec.proj x = some (st, cs, c)) :
    ∃ m, x = .ok (m, c) ∧ m.st = st ∧ m.cs = cs := by
  unfold Lemmas.DynExec.proj at h
  split at h
  · rename_i m c'
    simp only [Option.some.injEq, Prod.mk.injEq] at h
    exact ⟨m, by rw [h.2.2], h.1, h.2.1⟩
  · cases h

/-- **`insertChildren(ctx, &s, ah)`, executed from the regenerated body** (the upward loop with its two
    `break`s, `slices.Insert(p.Children, 0, …)`, the restacking `range` loop with the checked store
    `p.Children[i] = ch`): for every builder, gap, `ah` and every state with `1 ≤ top < 2^64` (how
    `Draw` calls it) the new `top`, `offset` and children are `DynList.insertChildren`; `top + 1` units
    of fuel suffice (the loop runs at most once per widget above the top). -/
theorem insert_children_body_eq_model (hs : List Nat) (cfg : Cfg) (s : St) (ah : Int) (fuel : Nat)
    (h1 : 1 ≤ s.top) (hlt : s.top < 2 ^ 64) (hF : s.top + 1 ≤ fuel) :
    runInsert genBodies (builder hs) cfg s [] ah fuel =
      .ok ({ s with top := (insertChildren true cfg.gap hs s.top ah).1, offset := (insertChildren true cfg.gap hs s.top ah).2.1 },
           (insertChildren true cfg.gap hs s.top ah).2.2) := by
  rw [gen_bodies_parsed]
  have h := Lemmas.DynExec.ins_exec (roBase (builder hs) cfg 0 0) hs rfl s "" fuel ah h1 hlt hF
  unfold runInsert insertCallee mkM
  show (match exec (roBase (builder hs) cfg 0 0) (Lemmas.DynTrees.seqOf Lemmas.DynTrees.insParts) fuel ⟨s, [], [("v2", ah)], [], ""⟩ with
    | .error e => (Except.error e : Except Err (St × List Child))
    | .ok (m, _) => Except.ok (m.st, m.cs)) = _
  obtain ⟨m, hr, h1, h2⟩ := ok_of_proj h
  rw [hr]
  simp only [h1, h2]
  rfl

/-- Non-vacuity: three widgets above the top, an upward scroll by seven rows (gap 1, cursor gutter). -/
example : (runInsert genBodies (builder [2, 1, 3, 1]) ⟨1, true⟩ { init with top := 3, cursor := 3 } [] 7 4).toOption.map
    (fun r => (r.1.top, r.1.offset, r.2.map (fun c => (c.idx, c.row)))) = some (0, -2, [(0, -2), (1, 1), (2, 3)]) := by decide +kernel

theorem le_foldl_max (l : List Nat) : ∀ a : Nat, a ≤ l.foldl max a ∧ ∀ h ∈ l, h ≤ l.foldl max a := by
  induction l with
  | nil => intro a; exact ⟨Nat.le_refl _, fun _ h => by cases h⟩
  | cons x r ih =>
    intro a
    obtain ⟨h1, h2⟩ := ih (max a x)
    refine ⟨by simp only [List.foldl_cons]; omega, fun h hm => ?_⟩
    simp only [List.foldl_cons]
    rcases List.mem_cons.mp hm with rfl | hm
    · omega
    · exact h2 h hm

/-- **`Draw`, executed from the regenerated bodies of `Draw` and `insertChildren`** — the walk back to an
    existing top widget, the prologue, the upward scroll through the call `d.insertChildren(ctx, &s, ah)`
    and the checked `s.Children[len(s.Children)-1]`, the downward loop with its `break`s and `continue`,
    `totalHeight`, the cursor gutter (both cell loops, the checked `s.Children[idx]`, the replacement
    `s.Children[idx] = ss`), the wants-cursor block (both `range` loops that move every child), the
    final re-anchoring `range` loop, `return s, nil` — IS `DynList.draw Facts.fixed`: for EVERY finite
    builder (fewer than 2^64 items), gap (any `Int`), cursor-gutter setting, state with `top < 2^64`
    (any cursor, offset, pending scroll, flag), every constraint `W × H`, and every fuel from
    `drawFuel` on: the same new state and the same children, and a panic exactly when the model panics.
    So every theorem of `Props/C19.lean` about `DynList.draw` (no panic, layout, anchoring, visibility)
    is a theorem about the regenerated body of `Draw`, interpreted. -/
theorem draw_body_eq_model (hs : List Nat) (cfg : Cfg) (s : St) (W H F : Nat)
    (ht : s.top < 2 ^ 64) (hlen : hs.length < 2 ^ 64) (hF : drawFuel hs s H ≤ F) :
    runDraw genBodies (builder hs) cfg s W H F =
      (match draw Facts.fixed cfg hs s W H with
       | .ok r => .ok r
       | .error _ => .error .panic) := by
  rw [gen_bodies_parsed]
  unfold drawFuel at hF
  have hm := le_foldl_max hs 0
  exact Lemmas.DynExec.draw_exec hs cfg s W H F ht hlen (by omega) (by omega)
    (fun h hh => by have := hm.2 h hh; omega)

/-- With `dyn_repairs_present` (`genFacts = Facts.fixed`): the model function the driver runs and the
    theorems of `Props/C19.lean` quantify over (`DynList.draw DynList.genFacts`) is that function. -/
theorem draw_body_eq_model_gen (hs : List Nat) (cfg : Cfg) (s : St) (W H : Nat)
    (ht : s.top < 2 ^ 64) (hlen : hs.length < 2 ^ 64) :
    runDraw genBodies (builder hs) cfg s W H (drawFuel hs s H) =
      (match draw DynList.genFacts cfg hs s W H with
       | .ok r => .ok r
       | .error _ => .error .panic) := by
  have : DynList.genFacts = Facts.fixed := by decide
  rw [this]
  exact draw_body_eq_model hs cfg s W H _ ht hlen (Nat.le_refl _)

/-- Non-vacuity: a draw with an upward scroll pending, gap 1, the cursor gutter and the wants-cursor
    block, run from the regenerated bodies. -/
example : (runDraw genBodies (builder [3, 1, 2, 4, 1]) ⟨1, true⟩ { cursor := 3, top := 1, offset := 1, pending := -3, wantsCursor := true } 10 4 20).toOption.map
    (fun r => (r.1.top, r.1.offset, r.1.wantsCursor, r.2.map (fun c => (c.idx, c.row)))) =
    some (3, 0, false, [(0, -9), (1, -5), (2, -3), (3, 0)]) := by decide +kernel

/-- Non-vacuity: `k` on the second of three items, run from the regenerated body. -/
example : (runCaptureEvent genBodies (builder [1, 2, 3]) false (keyEv ["'k'"]) { init with cursor := 1, top := 1 }).toOption.map
    (fun r => (r.1.cursor, r.1.top, r.2)) = some (0, 0, true) := by decide +kernel

theorem runHandler_bi (body : Stmt) (R : Ro) (s : St) (r : St × Bool) (cs' : List Child)
    (h : Lemmas.DynExec.proj (exec R body 1 (mkM s [] [])) = some (r.1, cs', .ret [bi r.2])) :
    runHandler body R s = .ok r := by
  unfold runHandler
  obtain ⟨m, hr, h1, _⟩ := ok_of_proj h
  obtain ⟨a, b⟩ := r
  rw [hr]
  cases b <;> simp [h1, bi]

theorem next_item_body_eq_model (hs : List Nat) (s : St) :
    runNextItem genBodies (builder hs) s = .ok (nextItem hs s) := by
  rw [gen_bodies_parsed]
  exact runHandler_bi _ _ s _ _ (Lemmas.DynExec.next_exec hs false noEv "" (mkM s [] []) 1)

theorem prev_item_body_eq_model (hs : List Nat) (s : St) :
    runPrevItem genBodies (builder hs) s = .ok (prevItem hs s) := by
  rw [gen_bodies_parsed]
  exact runHandler_bi _ _ s _ _ (Lemmas.DynExec.prev_exec hs false noEv "" (mkM s [] []) 1)

/-- One operation of a history, EXECUTED from the regenerated bodies (`SetCursor` / `SetPendingScroll` through
    `Model/DynInterp.lean`, everything else through `Model/DynExec.lean`); `none` = panic, stuck or out of fuel. -/
def stepBody (cfg : Cfg) (hs : List Nat) (s : St) : Op → Option St
  | .setCursor c => (DynInterp.runMethod hs Gen.DynSkel.ensureScroll Gen.DynSkel.setCursor s c).map (·.st)
  | .next => (runNextItem genBodies (builder hs) s).toOption.map (·.1)
  | .prev => (runPrevItem genBodies (builder hs) s).toOption.map (·.1)
  | .wheelDown => (runHandleEvent genBodies (builder hs) false wheelDownEv s).toOption.map (·.1)
  | .wheelUp => (runHandleEvent genBodies (builder hs) false wheelUpEv s).toOption.map (·.1)
  | .pending k => (DynInterp.runMethod hs Gen.DynSkel.ensureScroll Gen.DynSkel.setPendingScroll s k).map (·.st)
  | .draw W H => (runDraw genBodies (builder hs) cfg s W H (drawFuel hs s H)).toOption.map (·.1)

/-- A history with item replacement, executed from the regenerated bodies. -/
def runBodyH (cfg : Cfg) : List Nat → St → List HOp → Option (List Nat × St)
  | hs, s, [] => some (hs, s)
  | _, s, .items hs' :: ops => runBodyH cfg hs' s ops
  | hs, s, .op o :: ops =>
    match stepBody cfg hs s o with
    | some s' => runBodyH cfg hs s' ops
    | none => none

theorem step_body_eq_model (cfg : Cfg) (hs : List Nat) (s : St) (op : Op) (ht : s.top < 2 ^ 64)
    (hlen : hs.length < 2 ^ 64) (ho : OpOk op) :
    stepBody cfg hs s op = (step Facts.fixed cfg hs s op).toOption := by
  cases op with
  | setCursor c => exact (C19Tie.interp_setters hs s c ho 0).1
  | next => simp only [stepBody, next_item_body_eq_model hs s]; rfl
  | prev => simp only [stepBody, prev_item_body_eq_model hs s]; rfl
  | wheelDown => simp only [stepBody, handle_event_body_eq_model]; rfl
  | wheelUp => simp only [stepBody, handle_event_body_eq_model]; rfl
  | pending k => exact (C19Tie.interp_setters hs s 0 (by decide) k).2
  | draw W H =>
    simp only [stepBody, step, draw_body_eq_model hs cfg s W H _ ht hlen (Nat.le_refl _)]
    cases draw Facts.fixed cfg hs s W H <;> rfl

/-- **Every history, executed from the regenerated bodies, is the model's history and never fails**: for
    every gap ≥ 0, every initial builder and every finite history of SetCursor / NextItem / PrevItem / wheel /
    SetPendingScroll / Draw interleaved with replacements of the Builder's items, running each operation from
    the regenerated body of its method gives exactly the states of `DynList.runH` — so no operation panics, gets
    stuck in the interpreter or runs out of fuel (`dyn_no_panic` for the EXECUTED code), and every theorem of
    `Props/C19.lean` about histories speaks about the executed bodies. -/
theorem history_body_eq_model (cfg : Cfg) (hgap : 0 ≤ cfg.gap) : ∀ (ops : List HOp) (hs : List Nat) (s : St),
    hs.length < 2 ^ 63 → Lemmas.DynList.Inv s → (∀ op ∈ ops, HOpOk op) →
    runBodyH cfg hs s ops = (runH Facts.fixed cfg hs s ops).toOption ∧ (runBodyH cfg hs s ops).isSome = true
  | [], hs, s, _, _, _ => ⟨rfl, rfl⟩
  | .items hs' :: ops, hs, s, _, hi, ho => by
    have h1 : HOpOk (.items hs') := ho _ List.mem_cons_self
    exact history_body_eq_model cfg hgap ops hs' s h1 hi (fun o h => ho o (List.mem_cons_of_mem _ h))
  | .op o :: ops, hs, s, hl, hi, ho => by
    have hok : OpOk o := ho _ List.mem_cons_self
    obtain ⟨s1, he, hi1⟩ := step_inv cfg hgap hs hl s o hi hok
    have hsb := step_body_eq_model cfg hs s o (by have := hi.top_ok; omega) (by omega) hok
    rw [he] at hsb
    have ih := history_body_eq_model cfg hgap ops hs s1 hl hi1 (fun o h => ho o (List.mem_cons_of_mem _ h))
    simp only [runBodyH, runH, hsb, he]
    exact ih

/-- Non-vacuity: a history with the cursor gutter, a gap, an upward scroll and an item replacement, executed
    from the regenerated bodies. -/
example : (runBodyH ⟨1, true⟩ [3, 1, 2, 4] init
      [.op (.setCursor 3), .op (.draw 10 4), .op .wheelUp, .op (.pending (-2)), .op (.draw 10 4), .items [1, 1], .op .prev, .op (.draw 10 4)]).map
    (fun r => (r.2.cursor, r.2.top, r.2.offset)) = some (3, 1, 0) := by decide +kernel

end VaxisModel.Props.C19Exec
