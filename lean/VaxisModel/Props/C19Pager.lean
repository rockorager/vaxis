/-
C19 — the pager's "content complete" clause as theorems over scroll HISTORIES: every laid-out line
of every text, at every width, is reachable by scrolling line by line from the first draw, a
screenful shows consecutive lines each exactly once, and paging through the text meets every line.
(With `Props.C19.pager_complete` — the lines concatenated are the text without its newline
characters, every character on exactly one line — and `pager_row_keeps_characters` — every character
of a line in its own cell — this is the end-to-end statement "no character is lost or shown twice on
a screen, and every character is on some reachable screen".)
-/
import VaxisModel.Props.C19

namespace VaxisModel.Props.C19Pager
open VaxisModel VaxisModel.Model VaxisModel.Model.Pager

local notation "fl" => Gen.ListFacts.layoutFlushesLast

/-- **A screenful shows the lines `off, off+1, …` each exactly once**: for every pager state and window,
    after `Draw` with the (clamped) offset `off`: row `r < h` shows line `off + r` (blank below the last
    line), and every line index `i` with `off ≤ i < off + h` is shown by exactly one row. -/
theorem pager_screen_lines_once (s : St) (w h : Nat) :
    let s' := (draw fl s w h).1
    (∀ r, r < h → (draw fl s w h).2[r]? = some (match s'.lines[s'.offset.toNat + r]? with
        | some l => drawRow w l
        | none => List.replicate w none)) ∧
    (∀ i, s'.offset.toNat ≤ i → i < s'.offset.toNat + h → ∃ r, r < h ∧ s'.offset.toNat + r = i ∧
        ∀ r', r' < h → s'.offset.toNat + r' = i → r' = r) := by
  refine ⟨fun r hr => C19.pager_draw_rows s w h r hr, fun i h1 h2 => ?_⟩
  exact ⟨i - (draw fl s w h).1.offset.toNat, by omega, by omega, fun r' _ h' => by omega⟩

theorem run_scrolls (s : St) (k : Nat) :
    run fl s (List.replicate k .scrollDown) = { s with offset := s.offset + k } := by
  induction k generalizing s with
  | zero => simp [run]
  | succ k ih =>
    rw [List.replicate_succ, run, List.foldl_cons]
    have := ih (step fl s .scrollDown)
    unfold run at this
    rw [this]
    simp only [step, scrollDown]
    congr 1
    omega

/-- The state after `Segments = text; Draw(w × h)` from a new pager (`w ≥ 1`): the lines are the layout
    of the text at `w`, the offset is 0. -/
theorem first_draw (cs : List Ch) (w h : Nat) (hw : 1 ≤ w) :
    run fl init [.setText cs, .draw w h] =
      { text := cs, lines := layout fl w cs, offset := 0, width := w } := by
  have hne : (w : Int) ≠ 0 := by omega
  simp only [run, List.foldl_cons, List.foldl_nil, step, setText, init, draw, ne_eq, hne, not_false_eq_true, ↓reduceIte]
  congr 1
  rw [Lemmas.Pager.clampOffset_eq]; omega

/-- `Segments = text; Draw(w × h); ScrollDown × k` from a new pager: the lines of the text at `w`, offset `k`. -/
theorem first_draw_scrolls (cs : List Ch) (w h : Nat) (hw : 1 ≤ w) (k : Nat) :
    run fl init ([.setText cs, .draw w h] ++ List.replicate k .scrollDown) =
      { text := cs, lines := layout fl w cs, offset := (k : Int), width := w } := by
  have h1 := first_draw cs w h hw
  have h2 := run_scrolls { text := cs, lines := layout fl w cs, offset := 0, width := w } k
  unfold run at h1 h2 ⊢
  rw [List.foldl_append, h1, h2]
  simp

theorem line_after_scrolls (cs : List Ch) (w h : Nat) (hw : 1 ≤ w) (i k : Nat) (l : Line)
    (hi : (layout fl w cs)[i]? = some l) (hk : k ≤ i) (hik : i < k + h) :
    ∃ r, r < h ∧
      (draw fl (run fl init ([.setText cs, .draw w h] ++ List.replicate k .scrollDown)) w h).2[r]? = some (drawRow w l) := by
  rw [first_draw_scrolls cs w h hw k]
  have hil : i < (layout fl w cs).length := Lemmas.ListBasic.lt_of_getElem? hi
  apply C19.pager_line_on_screen _ w h rfl i l hi <;> (simp only []; rw [Lemmas.Pager.clampOffset_eq]; omega)

/-- **Every line is reachable by scrolling** — for every text, every width `w ≥ 1` (the layout wraps at
    `w`), every window height `h ≥ 1` and every laid-out line `i`: the history
    `Segments = text; Draw; ScrollDown × k; Draw` shows line `i` in one of the `h` rows, for `k = i`
    (line by line) — no direct write of `Offset` is needed, and the clamping of `Draw` makes no line
    unreachable (the last one included). -/
theorem pager_line_reachable_by_scrolling (cs : List Ch) (w h : Nat) (hw : 1 ≤ w) (hh : 1 ≤ h)
    (i : Nat) (l : Line) (hi : (layout fl w cs)[i]? = some l) :
    ∃ r, r < h ∧
      (draw fl (run fl init ([.setText cs, .draw w h] ++ List.replicate i .scrollDown)) w h).2[r]? = some (drawRow w l) :=
  line_after_scrolls cs w h hw i i l hi (Nat.le_refl _) (by omega)

/-- **Paging through the text meets every line** — scrolling a whole window at a time
    (`ScrollDown × (p·h)`, `p = i / h`) shows line `i` on page `p`: either at row `i mod h`, or — on the
    last page, where `Draw` clamps the offset so that the window stays full — further down. With
    `pager_screen_lines_once` each page shows its lines once; consecutive pages `p·h` cover
    `0 … lines−1` without a gap. -/
theorem pager_pages_cover_text (cs : List Ch) (w h : Nat) (hw : 1 ≤ w) (hh : 1 ≤ h)
    (i : Nat) (l : Line) (hi : (layout fl w cs)[i]? = some l) :
    ∃ r, r < h ∧
      (draw fl (run fl init ([.setText cs, .draw w h] ++ List.replicate (i / h * h) .scrollDown)) w h).2[r]? =
        some (drawRow w l) := by
  have hmod : i < i / h * h + h := by
    have := Nat.lt_div_mul_add (a := i) (b := h) (by omega)
    omega
  exact line_after_scrolls cs w h hw i (i / h * h) l hi (Nat.div_mul_le_self i h) hmod

/-- Non-vacuity: "ab\ncd" … five one-column characters at width 2, window of 1 row: three lines, the last
    (unterminated) one reached by two `ScrollDown`s. -/
example :
    let c (b : Nat) : Ch := ⟨[b], 1⟩
    (layout fl 2 [c 97, c 98, c 99, c 100, c 101]).length = 3 ∧
    (draw fl (run fl init ([.setText [c 97, c 98, c 99, c 100, c 101], .draw 2 1] ++ List.replicate 2 .scrollDown)) 2 1).2 =
      [[some (c 101), none]] := by decide

end VaxisModel.Props.C19Pager
