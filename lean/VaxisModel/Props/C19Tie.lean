/-
C19 — the structural tie between vxfw/list/list.go `Dynamic` and `Model/DynList.lean`.

`Gen/DynSkel.lean` is regenerated from the source on every run: every method body of `Dynamic`,
statement by statement, in the syntax of `Model/GoSyn.lean`.  Here: (a) the translation recognised
everything, (b) the statement skeleton of each method is the one the model transcribes, (c) the
arithmetic and boolean expressions of the source, EVALUATED, are the ones the model computes with.
-/
import VaxisModel.Model.ListGen
import VaxisModel.Lemmas.DynSkelExpected
import VaxisModel.Lemmas.DynInterp

namespace VaxisModel.Props.C19Tie
open VaxisModel.Model VaxisModel.Model.GoSyn
open VaxisModel.Gen.DynSkel

/-- The translator recognised every statement and expression of the eleven methods. -/
theorem fully_recognised :
    (fullyRecognised draw && fullyRecognised insertChildren && fullyRecognised nextItem && fullyRecognised prevItem &&
     fullyRecognised ensureScroll && fullyRecognised setCursor && fullyRecognised setPendingScroll &&
     fullyRecognised handleEvent && fullyRecognised captureEvent && fullyRecognised cursor && fullyRecognised offset) = true := by
  decide

theorem skeleton_draw : draw = Lemmas.DynSkelExpected.draw := by decide +kernel
theorem skeleton_insertChildren : insertChildren = Lemmas.DynSkelExpected.insertChildren := by decide +kernel
theorem skeleton_nextItem : nextItem = Lemmas.DynSkelExpected.nextItem := by decide
theorem skeleton_prevItem : prevItem = Lemmas.DynSkelExpected.prevItem := by decide
theorem skeleton_ensureScroll : ensureScroll = Lemmas.DynSkelExpected.ensureScroll := by decide
theorem skeleton_setters : setCursor = Lemmas.DynSkelExpected.setCursor ∧
    setPendingScroll = Lemmas.DynSkelExpected.setPendingScroll ∧ cursor = Lemmas.DynSkelExpected.cursor ∧
    offset = Lemmas.DynSkelExpected.offset := by decide
theorem skeleton_events : handleEvent = Lemmas.DynSkelExpected.handleEvent ∧
    captureEvent = Lemmas.DynSkelExpected.captureEvent := by decide

/-! ### the expressions, evaluated

Names: in `Draw`, `v0` = ctx, `v1` = the surface `s`, `v2` = `ah`, `v3` = `i`; in `insertChildren`
`v2` = `ah`.  `len` stands for `len(s.Children)`. -/

def envOf (s : DynList.St) : List (String × Int) :=
  [("d.scroll.offset", s.offset), ("d.scroll.pending", s.pending), ("d.scroll.top", (s.top : Int)),
   ("d.cursor", (s.cursor : Int)), ("d.scroll.wantsCursor", if s.wantsCursor then 1 else 0)]

/-- **Draw returns the surface it created with the size `ctx.Max`** (vxfw/list Dynamic sizes): the
    surface is `vxfw.NewSurface(ctx.Max.Width, ctx.Max.Height, d)`, it is never reassigned, and every
    `return` returns it — so the size returned equals (hence is within) the maximum constraint for
    every constraint. -/
theorem facts_surface_is_max :
    rhsOf draw .define (.var "v1")
      = .arg (.arg (.arg (.call (.var "vxfw.NewSurface")) (.var "v0.Max.Width")) (.var "v0.Max.Height")) (.var "d") ∧
    (linesWith draw .define (.var "v1")).length = 1 ∧ (linesWith draw .assign (.var "v1")).length = 0 ∧
    (draw.filter (fun l => l.kind == .returnS)).all (fun l => match l.e1 with | .pair (.var "v1") _ => true | _ => false) = true := by
  decide

/-- The start of `Draw`: `ah := -(offset + pending)`; the guard `ah > 0 && top == 0`; then
    `if ah > 0 { insertChildren … }` — exactly `DynList.prologue` and the test of `DynList.scrollUp`. -/
theorem facts_prologue (s : DynList.St) :
    evalI (envOf s) (rhsOf draw .define (.var "v2")) = some (- (s.offset + s.pending)) ∧
    (∀ ah : Int, (condsOf draw .ifS)[1]?.bind (evalB (("v2", ah) :: envOf s)) = some (decide (ah > 0) && decide ((s.top : Int) = 0))) ∧
    (∀ ah : Int, (condsOf draw .ifS)[2]?.bind (evalB [("v2", ah)]) = some (decide (ah > 0))) ∧
    (DynList.prologue s).1 = (if (- (s.offset + s.pending) > 0 ∧ s.top = 0) then 0 else - (s.offset + s.pending)) := by
  refine ⟨rfl, fun _ => rfl, fun _ => rfl, ?_⟩
  unfold DynList.prologue; simp only []; split <;> rfl

/-- After `insertChildren`: `ah = last.Origin.Row + int(last.Surface.Size.Height) + d.Gap` (`DynList.scrollUp`). -/
theorem facts_after_insert (row h gap : Int) :
    evalI [("v5.Origin.Row", row), ("v5.Surface.Size.Height", h), ("d.Gap", gap)] (rhsOf draw .assign (.var "v2") 1)
      = some (row + h + gap) := rfl

/-- The downward loop (`DynList.drawDown`): `ah += int(height) + d.Gap`; `continue` iff
    `wantsCursor && i <= cursor`; `break` iff `ah >= int(ctx.Max.Height)`. -/
theorem facts_draw_down (ah h gap i cursor H : Int) (wants : Bool) :
    evalI [("v9.Size.Height", h), ("d.Gap", gap)] (rhsOf draw .addAssign (.var "v2")) = some (h + gap) ∧
    (condsOf draw .ifS)[7]?.bind (evalB [("d.scroll.wantsCursor", if wants then 1 else 0), ("v3", i), ("d.cursor", cursor)])
      = some (wants && decide (i ≤ cursor)) ∧
    (condsOf draw .ifS)[8]?.bind (evalB [("v2", ah), ("v0.Max.Height", H)]) = some (decide (ah ≥ H)) := by
  refine ⟨rfl, ?_, rfl⟩
  cases wants <;> rfl

/-- The cursor gutter and the wants-cursor block index the children with `d.cursor - d.scroll.top`
    (a `uint` subtraction: `DynList.usub`), guarded by `d.cursor >= d.scroll.top && idx < uint(len)`
    resp. `idx < uint(len)` — both compared as `uint` (repair F119h; `DynList.cursorChild`, `gutter`). -/
theorem facts_cursor_index (cursor top idx len : Int) :
    evalI [("d.cursor", cursor), ("d.scroll.top", top)] (rhsOf draw .define (.var "v14")) = some (cursor - top) ∧
    evalI [("d.cursor", cursor), ("d.scroll.top", top)] (rhsOf draw .define (.var "v19")) = some (cursor - top) ∧
    (condsOf draw .ifS)[11]?.bind (evalB [("d.cursor", cursor), ("d.scroll.top", top), ("v14", idx), ("len", len)])
      = some (decide (cursor ≥ top) && decide (idx < len)) ∧
    (condsOf draw .ifS)[11]? = some (.bin "&&" (.bin ">=" (.var "d.cursor") (.var "d.scroll.top"))
        (.bin "<" (.var "v14") (.arg (.call (.var "uint")) (.arg (.call (.var "len")) (.var "v1.Children"))))) ∧
    (condsOf draw .ifS)[13]? = some (.bin "<" (.var "v19") (.arg (.call (.var "uint")) (.arg (.call (.var "len")) (.var "v1.Children")))) ∧
    (condsOf draw .ifS)[13]?.bind (evalB [("v19", idx), ("len", len)]) = some (decide (idx < len)) ∧
    rhsOf draw .define (.var "v15") = .index (.var "v1.Children") (.var "v14") ∧
    rhsOf draw .define (.var "v20") = .index (.var "v1.Children") (.var "v19") :=
  ⟨rfl, rfl, rfl, rfl, rfl, rfl, rfl, rfl⟩

/-- The wants-cursor block (`DynList.reveal`): `bRow := row + int(height)`; if `bRow > H` every child
    moves by `H - bRow`; else if `row < 0` every child moves by `-row`; then the flag is cleared. -/
theorem facts_reveal (row h H bRow : Int) :
    evalI [("v20.Origin.Row", row), ("v20.Surface.Size.Height", h)] (rhsOf draw .define (.var "v21")) = some (row + h) ∧
    (condsOf draw .ifS)[14]?.bind (evalB [("v21", bRow), ("v0.Max.Height", H)]) = some (decide (bRow > H)) ∧
    evalI [("v21", bRow), ("v0.Max.Height", H)] (rhsOf draw .define (.var "v22")) = some (H - bRow) ∧
    (condsOf draw .ifS)[15]?.bind (evalB [("v20.Origin.Row", row)]) = some (decide (row < 0)) ∧
    evalI [("v20.Origin.Row", row)] (rhsOf draw .define (.var "v25")) = some (- row) ∧
    rhsOf draw .addAssign (.var "v24.Origin.Row") = .var "v22" ∧ rhsOf draw .addAssign (.var "v27.Origin.Row") = .var "v25" ∧
    rhsOf draw .assign (.var "d.scroll.wantsCursor") = .var "false" :=
  ⟨rfl, rfl, rfl, rfl, rfl, rfl, rfl, rfl⟩

/-- The final loop (`DynList.retop`): for child `i` at `row` with `height`: if
    `row <= 0 && row + int(height) + d.Gap > 0` then `top += uint(i)` and `offset = -row` — top first. -/
theorem facts_retop (row h gap i : Int) :
    (condsOf draw .ifS)[16]?.bind (evalB [("v29.Origin.Row", row), ("v29.Surface.Size.Height", h), ("d.Gap", gap)])
      = some (decide (row ≤ 0) && decide (row + h + gap > 0)) ∧
    evalI [("v28", i)] (rhsOf draw .addAssign (.var "d.scroll.top")) = some i ∧
    evalI [("v29.Origin.Row", row)] (rhsOf draw .assign (.var "d.scroll.offset") 2) = some (- row) ∧
    draw.getLast? = some ⟨0, .returnS, .pair (.var "v1") (.var "nil"), .none⟩ :=
  ⟨rfl, rfl, rfl, rfl⟩

/-- `insertChildren` (`DynList.insertChildren` / `insertLoop` / `restack`): `top -= 1` first; loop while
    `ah > 0`; `ah -= int(height) + d.Gap`; the child is placed at `ah`; stop when
    `top == 0 || ah <= 0`, else `top -= 1`; afterwards `offset = ah`; if `top == 0 && ah > 0` the offset
    is 0 and the rows are reassigned from 0 with `row += int(height) + d.Gap`. -/
theorem facts_insert_children (ah h gap top : Int) :
    insertChildren.head? = some ⟨0, .subAssign, .var "d.scroll.top", .int 1⟩ ∧
    (condsOf insertChildren .forS)[0]?.bind (evalB [("v2", ah)]) = some (decide (ah > 0)) ∧
    evalI [("v6.Size.Height", h), ("d.Gap", gap)] (rhsOf insertChildren .subAssign (.var "v2")) = some (h + gap) ∧
    rhsOf insertChildren .define (.var "v8")
      = .arg (.arg (.arg (.call (.var "vxfw.NewSubSurface")) (.var "v3")) (.var "v2")) (.var "v6") ∧
    (condsOf insertChildren .ifS)[3]?.bind (evalB [("d.scroll.top", top), ("v2", ah)]) = some (decide (top = 0) || decide (ah ≤ 0)) ∧
    rhsOf insertChildren .assign (.var "d.scroll.offset") 0 = .var "v2" ∧
    (condsOf insertChildren .ifS)[4]?.bind (evalB [("d.scroll.top", top), ("v2", ah)]) = some (decide (top = 0) && decide (ah > 0)) ∧
    rhsOf insertChildren .assign (.var "d.scroll.offset") 1 = .int 0 ∧
    evalI [("v11.Surface.Size.Height", h), ("d.Gap", gap)] (rhsOf insertChildren .addAssign (.var "v9")) = some (h + gap) :=
  ⟨rfl, rfl, rfl, rfl, rfl, rfl, rfl, rfl, rfl⟩

/-- `ensureScroll` IS `DynList.ensureScroll`: the guard `cursor > top` evaluated on the state decides
    between setting the flag and `top = cursor; offset = 0; pending = 0` (repair F119g). -/
theorem facts_ensure_scroll (s : DynList.St) :
    (condsOf ensureScroll .ifS)[0]?.bind (evalB (envOf s)) = some (decide (s.cursor > s.top)) ∧
    DynList.ensureScroll s = (if s.cursor > s.top then { s with wantsCursor := true } else { s with top := s.cursor, offset := 0, pending := 0 }) := by
  refine ⟨?_, rfl⟩
  show some (decide ((s.cursor : Int) > (s.top : Int))) = some (decide (s.cursor > s.top))
  congr 1
  exact decide_eq_decide.mpr (by omega)

/-- `NextItem` asks the Builder for `cursor + 1`, `PrevItem` returns early iff `cursor == 0` and asks
    for `cursor - 1`; both then move the cursor by one and call `ensureScroll`. -/
theorem facts_next_prev (cursor : Int) :
    rhsOf nextItem .define (.var "v0")
      = .arg (.arg (.call (.var "d.Builder")) (.bin "+" (.var "d.cursor") (.int 1))) (.var "d.cursor") ∧
    rhsOf nextItem .addAssign (.var "d.cursor") = .int 1 ∧
    (condsOf prevItem .ifS)[0]?.bind (evalB [("d.cursor", cursor)]) = some (decide (cursor = 0)) ∧
    rhsOf prevItem .define (.var "v0")
      = .arg (.arg (.call (.var "d.Builder")) (.bin "-" (.var "d.cursor") (.int 1))) (.var "d.cursor") ∧
    rhsOf prevItem .subAssign (.var "d.cursor") = .int 1 :=
  ⟨rfl, rfl, rfl, rfl, rfl⟩

/-- The wheel (`DynList.wheelDown` / `wheelUp`): `pending += 3`; `pending -= 3` iff
    `offset > 0 && top > 0`. -/
theorem facts_wheel (s : DynList.St) :
    rhsOf handleEvent .addAssign (.var "d.scroll.pending") = .int 3 ∧
    rhsOf handleEvent .subAssign (.var "d.scroll.pending") = .int 3 ∧
    (condsOf handleEvent .ifS)[1]?.bind (evalB (envOf s)) = some (decide (s.offset > 0) && decide ((s.top : Int) > 0)) ∧
    (DynList.wheelUp s).2 = (decide (s.offset > 0) && decide (s.top > 0)) := by
  refine ⟨rfl, rfl, rfl, ?_⟩
  unfold DynList.wheelUp
  by_cases h1 : s.offset > 0 <;> by_cases h2 : s.top > 0 <;> simp [h1, h2]

/-! ### the small methods: the model IS the regenerated syntax, interpreted

`Model/DynInterp.lean` runs a regenerated method body directly (assignments to the scroll state with
`uint` wrap-around, `if` blocks, `return`, the Builder call, the call of `ensureScroll`).  For every
state (every `uint` cursor, wrap-around at 2^64 included) and every builder the result is the function `Model/DynList.lean` defines. -/

open VaxisModel.Model.DynInterp in
/-- `ensureScroll`, interpreted = `DynList.ensureScroll`. -/
theorem interp_ensureScroll (hs : List Nat) (s : DynList.St) (hc : s.cursor < 2 ^ 64) :
    (runMethod hs ensureScroll ensureScroll s 0).map (·.st) = some (DynList.ensureScroll s) := by
  rw [skeleton_ensureScroll]
  exact Lemmas.DynInterp.ensureScroll_run hs s hc 0

open VaxisModel.Model.DynInterp in
/-- `SetCursor(c)`, interpreted = `DynList.setCursor`; `SetPendingScroll(k)` = `DynList.setPending`. -/
theorem interp_setters (hs : List Nat) (s : DynList.St) (c : Nat) (hc : c < 2 ^ 64) (k : Int) :
    (runMethod hs ensureScroll setCursor s c).map (·.st) = some (DynList.setCursor s c) ∧
    (runMethod hs ensureScroll setPendingScroll s k).map (·.st) = some (DynList.setPending s k) := by
  rw [skeleton_ensureScroll, skeleton_setters.1, skeleton_setters.2.1]
  exact ⟨Lemmas.DynInterp.setCursor_interp hs s c hc, Lemmas.DynInterp.setPendingScroll_interp hs s k⟩

open VaxisModel.Model.DynInterp in
/-- `NextItem` / `PrevItem`, interpreted on any builder = `DynList.nextItem` / `prevItem` (new state and
    whether a command is returned). -/
theorem interp_next_prev (hs : List Nat) (s : DynList.St) (hc : s.cursor < 2 ^ 64) :
    (runMethod hs ensureScroll nextItem s 0).map (fun r => (r.st, r.ret)) =
      some ((DynList.nextItem hs s).1, some (DynList.nextItem hs s).2) ∧
    (runMethod hs ensureScroll prevItem s 0).map (fun r => (r.st, r.ret)) =
      some ((DynList.prevItem hs s).1, some (DynList.prevItem hs s).2) := by
  rw [skeleton_ensureScroll, skeleton_nextItem, skeleton_prevItem]
  exact ⟨Lemmas.DynInterp.nextItem_interp hs s, Lemmas.DynInterp.prevItem_interp hs s hc⟩

/-- Non-vacuity: `NextItem` interpreted on three items from the initial state. -/
example : ((DynInterp.runMethod [1, 2, 3] ensureScroll nextItem DynList.init 0).map (fun r => (r.st.cursor, r.st.wantsCursor, r.ret)))
    = some (1, true, some true) := by decide

end VaxisModel.Props.C19Tie
