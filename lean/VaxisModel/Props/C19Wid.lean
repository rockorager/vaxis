/-
C19, widgets/list `List`, widgets/pager `Model`, widgets/scrollbar `Model`: the method bodies are regenerated as
syntax (`Gen/WidSkel.lean`), EXECUTED by the interpreter `Model/WidExec.lean` (`Model/WidGenBodies.genB`), and the
executed bodies are proved equal to the models the theorems of `Props/C19.lean` are about.  So `simple_list_*`, `pager_*`, `scrollbar_*` are theorems about the interpreted source.
-/
import VaxisModel.Model.WidGenBodies
import VaxisModel.Lemmas.WidExecList
import VaxisModel.Props.C19
import VaxisModel.Props.C19Pager

namespace VaxisModel.Props.C19Wid
open VaxisModel.Model VaxisModel.Model.WidExec
open VaxisModel.Model.DynExec (parseBody)
open VaxisModel.Lemmas.WidExec (expB rhsFixed obs)
open VaxisModel.Lemmas VaxisModel.Gen

/-- The translator recognised every statement and expression of the eighteen functions. -/
theorem wid_fully_recognised : allBodies.all GoSyn.fullyRecognised = true := by decide +kernel

/-- The regenerated skeletons are the ones the execution lemmas are about (fails when list.go / pager.go /
    scrollbar.go change there). -/
theorem wid_bodies_as_expected :
    WidSkel.listMin = WidSkelExpected.listMin ∧ WidSkel.listMax = WidSkelExpected.listMax ∧
    WidSkel.listNew = WidSkelExpected.listNew ∧ WidSkel.listIndex = WidSkelExpected.listIndex ∧
    WidSkel.listDraw = WidSkelExpected.listDraw ∧ WidSkel.listDown = WidSkelExpected.listDown ∧
    WidSkel.listUp = WidSkelExpected.listUp ∧ WidSkel.listHome = WidSkelExpected.listHome ∧
    WidSkel.listEnd = WidSkelExpected.listEnd ∧ WidSkel.listPageDown = WidSkelExpected.listPageDown ∧
    WidSkel.listPageUp = WidSkelExpected.listPageUp ∧ WidSkel.listSetItems = WidSkelExpected.listSetItems ∧
    WidSkel.pagerDraw = WidSkelExpected.pagerDraw ∧ WidSkel.pagerLayout = WidSkelExpected.pagerLayout ∧
    WidSkel.pagerScrollDown = WidSkelExpected.pagerScrollDown ∧ WidSkel.pagerScrollUp = WidSkelExpected.pagerScrollUp ∧
    WidSkel.lineAppend = WidSkelExpected.lineAppend ∧ WidSkel.barDraw = WidSkelExpected.barDraw := by
  decide +kernel

/-- The regenerated bodies parse to the statement trees the execution lemmas are about. -/
theorem gen_bodies_parsed : genB = expB := by
  obtain ⟨h1, h2, h3, h4, h5, h6, h7, h8, h9, h10, h11, h12, h13, h14, h15, h16, h17, h18⟩ := wid_bodies_as_expected
  unfold genB expB
  rw [h1, h2, h3, h4, h5, h6, h7, h8, h9, h10, h11, h12, h13, h14, h15, h16, h17, h18,
    WidTrees.parse_lmin, WidTrees.parse_lmax, WidTrees.parse_lnew, WidTrees.parse_lindex, WidTrees.parse_ldraw, WidTrees.parse_ldown,
    WidTrees.parse_lup, WidTrees.parse_lhome, WidTrees.parse_lend, WidTrees.parse_lpgdn, WidTrees.parse_lpgup,
    WidTrees.parse_lset, WidTrees.parse_pdraw, WidTrees.parse_play, WidTrees.parse_pdown, WidTrees.parse_pup,
    WidTrees.parse_lapp, WidTrees.parse_bdraw]

/-- The index expressions the extractor translates (`Gen/ListFacts.lean`, used by `SimpleList.gen`) are the ones the
    interpreted bodies compute. -/
theorem list_rhs_is_gen : SimpleList.gen = rhsFixed := by
  unfold SimpleList.gen rhsFixed
  congr

/-- list.go's own `min` / `max`, executed from their bodies, are `min` / `max` (a call `max(a, b)` inside an index
    expression is a call into these bodies: `WidExec.listFns`). -/
theorem minmax_body_eq_model (a b : Int) :
    runFun2 genB.listMin a b = .ok (some (min a b)) ∧ runFun2 genB.listMax a b = .ok (some (max a b)) := by
  rw [gen_bodies_parsed]; exact ⟨WidExec.lmin_run a b, WidExec.lmax_run a b⟩

/-- `New(items)`, executed from its body (`return List{items: items}`), is the model's initial state: index 0, offset 0. -/
theorem list_new_body_eq_model (k : Nat) : runListNew genB.listNew k = some (SimpleList.new k) := by
  rw [gen_bodies_parsed]; exact WidExec.lnew_run k

/-- `Index()` returns the index. -/
theorem list_index_body_eq_model (s : SimpleList.St) : runListIndex genB.listIndex s = some s.index := by
  rw [gen_bodies_parsed]; exact WidExec.lindex_run s

/-- One operation of `List`, executed from the regenerated body (window height `h` where the method reads it). -/
def listStepBody (s : SimpleList.St) : SimpleList.Op → Option (Except Unit (SimpleList.St × List SimpleList.Row))
  | .down => runList genB genB.listDown s 0 0
  | .up => runList genB genB.listUp s 0 0
  | .home => runList genB genB.listHome s 0 0
  | .«end» => runList genB genB.listEnd s 0 0
  | .pageDown h => runList genB genB.listPageDown s h 0
  | .pageUp h => runList genB genB.listPageUp s h 0
  | .setItems k => runList genB genB.listSetItems s 0 k
  | .draw h => runList genB genB.listDraw s h 0

/-- **Every method of `List`, executed from its regenerated body, is the model's step** (`SimpleList.step` over the
    regenerated index expressions): same new state, same printed rows, and a panic (the slice expression
    `m.items[m.offset:]` out of range) exactly when the model panics — for every state (reachable or not), every window
    height, every new item count. -/
theorem list_step_body_eq_model (s : SimpleList.St) (op : SimpleList.Op) :
    listStepBody s op = some (obs (SimpleList.step SimpleList.gen s op)) := by
  rw [list_rhs_is_gen]
  unfold listStepBody
  rw [gen_bodies_parsed]
  cases op with
  | down => exact WidExec.ldown_run s 0 0
  | up => exact WidExec.lup_run s 0 0
  | home => exact WidExec.lhome_run s 0 0
  | «end» => exact WidExec.lend_run s 0 0
  | pageDown h => exact WidExec.lpgdn_run s h 0
  | pageUp h => exact WidExec.lpgup_run s h 0
  | setItems k => exact WidExec.lset_run s 0 k
  | draw h => exact WidExec.ldraw_run s h

/-- A history executed from the bodies: the final state, `error ()` at the first panic, `none` if the interpreter got
    stuck. -/
def listRunBody (s : SimpleList.St) : List SimpleList.Op → Option (Except Unit SimpleList.St)
  | [] => some (.ok s)
  | op :: ops =>
    match listStepBody s op with
    | some (.ok (s', _)) => listRunBody s' ops
    | some (.error _) => some (.error ())
    | none => none

/-- **Whole histories of `List`, executed from the regenerated bodies, never panic and never get stuck**, and end in the
    state of the model's history — so `simple_list_safe` / `simple_list_selected_visible` / `simple_list_rows_in_order`
    are statements about the executed code. -/
theorem list_history_body_eq_model (n : Nat) (ops : List SimpleList.Op) :
    ∃ s, listRunBody (SimpleList.new n) ops = some (.ok s) ∧ SimpleList.run SimpleList.gen (SimpleList.new n) ops = .ok s := by
  have key : ∀ (ops : List SimpleList.Op) (s : SimpleList.St),
      listRunBody s ops = some (match SimpleList.run SimpleList.gen s ops with | .ok s' => .ok s' | .error _ => .error ()) := by
    intro ops
    induction ops with
    | nil => intro s; rfl
    | cons op ops ih =>
      intro s
      simp only [listRunBody, list_step_body_eq_model, SimpleList.run]
      cases hstep : SimpleList.step SimpleList.gen s op with
      | error e => simp [obs]
      | ok r => obtain ⟨s', rows⟩ := r; simp only [obs]; exact ih s'
  obtain ⟨s, hs, _⟩ := C19.simple_list_safe n ops
  exact ⟨s, by rw [key, hs], hs⟩

example : (match listRunBody (SimpleList.new 3) [.down, .down, .draw 2, .setItems 1, .draw 2] with
    | some (.ok s) => s == ⟨0, 0, 1⟩
    | _ => false) = true := by
  decide +kernel

/-- **Selection valid and visible — for the EXECUTED `List`.**  `New(items)` with any item count, then ANY history of
    Down/Up/Home/End/PageDown/PageUp/SetItems/Draw, then a `Draw` into a window of height `h > 0`, every step executed from
    the regenerated bodies: nothing panics or gets stuck, every printed row lies inside the window and shows an existing
    item, a row is drawn selected (reverse video) iff it shows item `Index()`, and when there are items such a row exists. -/
theorem list_selected_visible_body (n : Nat) (ops : List SimpleList.Op) (h : Nat) (hh : 0 < h) :
    ∃ s0 s s' rows, runListNew genB.listNew n = some s0 ∧ listRunBody s0 ops = some (.ok s) ∧
      listStepBody s (.draw h) = some (.ok (s', rows)) ∧ runListIndex genB.listIndex s' = some s.index ∧
      (∀ r ∈ rows, r.row < h ∧ 0 ≤ r.item ∧ r.item < (s.n : Int) ∧ (r.sel = true ↔ r.item = s.index)) ∧
      (0 < s.n → ∃ r ∈ rows, r.sel = true ∧ r.item = s.index) := by
  obtain ⟨s, hrun, s', rows, hd, hidx, h1, h2⟩ := C19.simple_list_selected_visible n ops h hh
  obtain ⟨s2, hb, hm⟩ := list_history_body_eq_model n ops
  have hss : s2 = s := by rw [hrun] at hm; injection hm with hm; exact hm.symm
  subst hss
  refine ⟨SimpleList.new n, s2, s', rows, list_new_body_eq_model n, hb, ?_, ?_, h1, h2⟩
  · rw [list_step_body_eq_model]
    simp [SimpleList.step, hd, obs]
  · rw [list_index_body_eq_model, hidx]

/-- **`Layout()`, executed from its regenerated body** (the two nested `range` loops over the segments and their
    characters, the newline test, `l.append`, the width test, the final flush), **is `Pager.layout`** at the recorded width,
    for every text, every segmentation of it, every state. -/
theorem pager_layout_body_eq_model (segs : List (List Pager.Ch)) (s : Pager.St) (w h : Nat) (fe : Bool)
    (ht : segs.flatten = s.text) :
    runPager genB genB.pagerLayout segs s w h fe = some (Pager.relayout true s, blank w h) := by
  rw [gen_bodies_parsed]; exact WidExec.play_run segs s w h fe ht

/-- **`Draw`, executed from its regenerated body** (the re-layout on a width change through the CALL of `Layout`'s body,
    the two offset clamps, the fill, the loop over the lines with `continue` above the offset and `return` below the
    window, the cell loop with the running column) **is `Pager.draw`**: the same new state (lines, offset, width) and the
    same window, cell by cell — for every state (any offset, any stale lines), every window size, zero included. -/
theorem pager_draw_body_eq_model (segs : List (List Pager.Ch)) (s : Pager.St) (w h : Nat) (fe : Bool)
    (ht : segs.flatten = s.text) :
    runPager genB genB.pagerDraw segs s w h fe = some (Pager.draw true s w h) := by
  rw [gen_bodies_parsed]; exact WidExec.pdraw_run segs s w h fe ht

theorem pager_scroll_body_eq_model (segs : List (List Pager.Ch)) (s : Pager.St) (w h : Nat) (fe : Bool)
    (ht : segs.flatten = s.text) :
    runPager genB genB.pagerScrollDown segs s w h fe = some (Pager.scrollDown s, blank w h) ∧
    runPager genB genB.pagerScrollUp segs s w h fe = some (Pager.scrollUp s, blank w h) := by
  rw [gen_bodies_parsed]; exact WidExec.pscroll_run segs s w h fe ht

/-- The interpreter's pointer semantics is the real one (not a value copy): a variant of `Layout` that appends every
    character to the line and the line to `m.lines` WITHOUT replacing `l` by a fresh `&line{}` leaves the SAME line object
    in `m.lines` twice — both entries show both characters, as in Go. -/
example :
    (match exec ⟨0, 0, [[⟨[97], 1⟩, ⟨[98], 1⟩]], lineCalls genB, noFn⟩
      (parseBody [
        ⟨0, .assign, (.var "d.lines"), (.lit "[]*line{}")⟩,
        ⟨0, .define, (.var "v0"), (.un "&" (.lit "line{}"))⟩,
        ⟨0, .rangeS, (.pair (.var "_") (.var "v2")), (.var "d.Segments")⟩,
        ⟨1, .rangeS, (.pair (.var "_") (.var "v3")), (.arg (.call (.var "vaxis.Characters")) (.var "v2.Text"))⟩,
        ⟨2, .define, (.var "v4"), (.arg (.arg (.call (.lit "vaxis.Cell{}")) (.pair (.var "Character") (.var "v3"))) (.pair (.var "Style") (.var "v2.Style")))⟩,
        ⟨2, .exprS, (.arg (.call (.var "v0.append")) (.var "v4")), .none⟩,
        ⟨2, .assign, (.var "d.lines"), (.arg (.arg (.call (.var "append")) (.var "d.lines")) (.var "v0"))⟩]) 0 m0 with
     | .ok (m, _) => m.lines == [[⟨[97], 1⟩, ⟨[98], 1⟩], [⟨[97], 1⟩, ⟨[98], 1⟩]]
     | .error _ => false) = true := by
  decide +kernel

/-- One operation of an application on a pager, executed from the regenerated bodies; the text is handed to the widget
    as the segments `seg text` (any segmentation). -/
def pagerStepBody (seg : List Pager.Ch → List (List Pager.Ch)) (s : Pager.St) : Pager.Op → Option Pager.St
  | .scrollDown => (runPager genB genB.pagerScrollDown (seg s.text) s 0 0 true).map (·.1)
  | .scrollUp => (runPager genB genB.pagerScrollUp (seg s.text) s 0 0 true).map (·.1)
  | .setOffset k => some { s with offset := k }
  | .setText cs => some { s with text := cs }
  | .relayout => (runPager genB genB.pagerLayout (seg s.text) s 0 0 true).map (·.1)
  | .draw w h => (runPager genB genB.pagerDraw (seg s.text) s w h true).map (·.1)

def pagerRunBody (seg : List Pager.Ch → List (List Pager.Ch)) (s : Pager.St) : List Pager.Op → Option Pager.St
  | [] => some s
  | op :: ops =>
    match pagerStepBody seg s op with
    | some s' => pagerRunBody seg s' ops
    | none => none

/-- **Whole histories of a pager, executed from the regenerated bodies** (scrolling, direct `Offset` writes, text
    replacement with and without `Layout()`, draws into windows of CHANGING width and height), never get stuck and end in
    the state of the model's history, for every segmentation of the text. -/
theorem pager_history_body_eq_model (seg : List Pager.Ch → List (List Pager.Ch)) (hseg : ∀ t, (seg t).flatten = t)
    (ops : List Pager.Op) (s : Pager.St) :
    pagerRunBody seg s ops = some (Pager.run true s ops) := by
  induction ops generalizing s with
  | nil => rfl
  | cons op ops ih =>
    have hstep : pagerStepBody seg s op = some (Pager.step true s op) := by
      cases op with
      | scrollDown => simp [pagerStepBody, (pager_scroll_body_eq_model (seg s.text) s 0 0 true (hseg _)).1, Pager.step]
      | scrollUp => simp [pagerStepBody, (pager_scroll_body_eq_model (seg s.text) s 0 0 true (hseg _)).2, Pager.step]
      | setOffset k => rfl
      | setText cs => rfl
      | relayout => simp [pagerStepBody, pager_layout_body_eq_model (seg s.text) s 0 0 true (hseg _), Pager.step]
      | draw w h => simp [pagerStepBody, pager_draw_body_eq_model (seg s.text) s w h true (hseg _), Pager.step]
    simp only [pagerRunBody, hstep, Pager.run, List.foldl_cons]
    exact ih _

/-- **Offset clamped to the content — for the EXECUTED `Draw`, over histories with width changes.**  After ANY history
    (scrolls, `Offset` set to any value — also before the first `Draw` —, text replaced, `Layout()` called or not, draws
    into windows of any other width and height) a `Draw` into a `w × h` window, executed from the regenerated bodies of
    `Draw` and `Layout`, leaves `0 ≤ Offset ≤ max 0 (lines − h)` where `lines` are the lines laid out FOR THE WIDTH `w` of
    that window (the re-wrap happens before the clamp), the recorded width is `w`, and a second `Draw` of the same size
    changes nothing.  (Seeded change C19-m6 — re-layout moved below the clamps — makes `wid_bodies_as_expected` fail.) -/
theorem pager_offset_clamped_body (seg : List Pager.Ch → List (List Pager.Ch)) (hseg : ∀ t, (seg t).flatten = t)
    (ops : List Pager.Op) (w h : Nat) :
    ∃ s0 s', pagerRunBody seg Pager.init ops = some s0 ∧ pagerStepBody seg s0 (.draw w h) = some s' ∧
      ((w : Int) ≠ s0.width → s'.lines = Pager.layout true w s0.text) ∧
      0 ≤ s'.offset ∧ s'.offset ≤ max 0 ((s'.lines.length : Int) - h) ∧ s'.width = w ∧
      pagerStepBody seg s' (.draw w h) = some s' := by
  have hf := C19.layout_flushes_last
  obtain ⟨s', hs', h1, h2, h3, h4⟩ := C19.pager_scroll_history ops w h
  have h5 := (C19.pager_offset_clamped (Pager.run true Pager.init ops) w h).2.2
  rw [hf] at hs' h4 h5
  have hd0 := pager_draw_body_eq_model (seg (Pager.run true Pager.init ops).text) (Pager.run true Pager.init ops) w h true (hseg _)
  refine ⟨Pager.run true Pager.init ops, s', pager_history_body_eq_model seg hseg ops _, ?_, ?_, h1, h2, h3, ?_⟩
  · simp [pagerStepBody, hd0, hs']
  · rw [hs']; exact h5
  · have := pager_draw_body_eq_model (seg s'.text) s' w h true (hseg _)
    simp [pagerStepBody, this, h4]

/-- The offset set before the very first `Draw` (the second manifestation of seeded change C19-m6): `Offset := 5` on the
    fresh pager with text "ab\ncd\nef" (three lines at width 3), then the first `Draw` into 3 × 1, executed from the
    bodies: the text is laid out first, so the offset is clamped against the three lines to 2 — not against the still
    empty line list to 0. -/
example : ((pagerRunBody (fun t => [t]) Pager.init
      [.setText [⟨[97], 1⟩, ⟨[98], 1⟩, ⟨[10], 0⟩, ⟨[99], 1⟩, ⟨[100], 1⟩, ⟨[10], 0⟩, ⟨[101], 1⟩, ⟨[102], 1⟩], .setOffset 5, .draw 3 1]).map
        (fun s => (s.offset, s.lines.length))) = some (2, 3) := by
  decide +kernel

/-- **The pager presents every character of its text — for the EXECUTED code.**  Every text whose characters are at
    least one column wide, every segmentation of it, every window of at least one column and one row, every laid-out line
    `i` and every character `k` of it: hand the text to the pager, `Draw`, press `ScrollDown` `i` times, `Draw` again — all
    executed from the regenerated bodies of `Draw`, `Layout` and `ScrollDown` — and some row of the window shows that
    character in its own cell, at the column = the total width of the characters before it on its line (inside the window).
    With `pager_complete` (the lines are the text without its newline characters, the unterminated last line included) this
    is the clause "presents every line …, wraps at the window width without losing characters" for the interpreted source. -/
theorem pager_presents_every_character_body (seg : List Pager.Ch → List (List Pager.Ch)) (hseg : ∀ t, (seg t).flatten = t)
    (cs : List Pager.Ch) (hpos : ∀ c ∈ cs, c.isNl = false → 1 ≤ c.width) (w h : Nat) (hw : 1 ≤ w) (hh : 1 ≤ h)
    (i : Nat) (l : Pager.Line) (hi : (Pager.layout true w cs)[i]? = some l) (k : Nat) (c : Pager.Ch) (hk : l[k]? = some c) :
    ∃ s s' win r, pagerRunBody seg Pager.init ([.setText cs, .draw w h] ++ List.replicate i .scrollDown) = some s ∧
      runPager genB genB.pagerDraw (seg s.text) s w h true = some (s', win) ∧ r < h ∧
      Pager.widthSum (l.take k) < w ∧
      (win[r]?).bind (fun row => row[(Pager.widthSum (l.take k)).toNat]?) = some (some c) := by
  have hf := C19.layout_flushes_last
  have hi' : (Pager.layout Gen.ListFacts.layoutFlushesLast w cs)[i]? = some l := by rw [hf]; exact hi
  obtain ⟨r, hr, hrow⟩ := C19Pager.pager_line_reachable_by_scrolling cs w h hw hh i l hi'
  rw [hf] at hrow
  have hl : l ∈ Pager.layout Gen.ListFacts.layoutFlushesLast w cs := List.mem_of_getElem? hi'
  obtain ⟨hcol, hcell⟩ := C19.pager_row_keeps_characters w hw cs hpos l hl k c hk
  obtain ⟨s, hs⟩ : ∃ s, s = Pager.run true Pager.init ([.setText cs, .draw w h] ++ List.replicate i .scrollDown) := ⟨_, rfl⟩
  rw [← hs] at hrow
  obtain ⟨d, hd⟩ : ∃ d, d = Pager.draw true s w h := ⟨_, rfl⟩
  rw [← hd] at hrow
  refine ⟨s, d.1, d.2, r, ?_, ?_, hr, hcol, ?_⟩
  · rw [hs]; exact pager_history_body_eq_model seg hseg _ _
  · rw [hd]; exact pager_draw_body_eq_model (seg _) _ w h true (hseg _)
  · rw [hrow]
    simpa using hcell

/-- The hypothesis "characters at least one column wide" of `pager_presents_every_character_body` cannot be dropped: a
    zero-width grapheme (`vaxis.Characters` yields them for a lone `\r`, ESC, NUL, U+200B, U+00AD, a leading combining mark) does
    not advance the column, so the next character is written into the same cell — the executed `Draw` of "a", ZWSP, "b" in a
    3-column window shows `a b` in columns 0 and 1 and the zero-width character in no cell.  (It has no cell of its own by
    definition, nothing visible is lost; recorded as the reason for the hypothesis, not as a finding.) -/
theorem pager_zero_width_shares_cell :
    (runPager genB genB.pagerDraw [[⟨[97], 1⟩, ⟨[226, 128, 139], 0⟩, ⟨[98], 1⟩]]
      ⟨[⟨[97], 1⟩, ⟨[226, 128, 139], 0⟩, ⟨[98], 1⟩], [], 0, 0⟩ 3 1 true).map (·.2) =
      some [[some ⟨[97], 1⟩, some ⟨[98], 1⟩, none]] := by
  decide +kernel

/-- Non-vacuity of the hypotheses of `pager_presents_every_character_body`: the one-segment segmentation; the text
    "ab\ncd" at width 3 has the second line "cd" whose character 1 is `d`. -/
example : ∀ t : List Pager.Ch, ((fun t => [t]) t).flatten = t := by intro t; simp

example : (Pager.layout true 3 [⟨[97], 1⟩, ⟨[98], 1⟩, ⟨[10], 0⟩, ⟨[99], 1⟩, ⟨[100], 1⟩])[1]? = some [⟨[99], 1⟩, ⟨[100], 1⟩] ∧
    ([⟨[99], 1⟩, ⟨[100], 1⟩] : Pager.Line)[1]? = some ⟨[100], 1⟩ := by decide

/-- **The scrollbar's `Draw`, executed from its regenerated body** (both early returns, the two truncating divisions,
    the `barH < 1` clamp, the default character, the `for i := 0; i < barH; i += 1` loop with `SetCell(0, barTop+i, …)`)
    **marks exactly the rows of `Scrollbar.rows`**, for ALL integers total / view / top, every window of at least one
    column, every fuel ≥ h + 2 (the loop makes at most `max 1 h` iterations: it terminates). -/
theorem scrollbar_draw_body_eq_model (total view top : Int) (w h fuel : Nat) (ce : Bool) (hw : 1 ≤ w) (hf : h + 2 ≤ fuel) :
    runBar genB.barDraw total view top w h fuel ce = some (Scrollbar.rows total view top h) := by
  rw [gen_bodies_parsed]; exact WidExec.bdraw_run total view top w h fuel ce hw hf

example : runBar genB.barDraw 10 4 3 1 5 7 true = some [1, 2] := by decide +kernel

/-- **Bar inside the track — for the EXECUTED `Draw`.**  Every real scroll position (`1 ≤ view < total`,
    `0 ≤ top ≤ total − view`), every window of at least one column and one row: the regenerated body, executed, marks
    exactly the rows `barTop … barTop + barH − 1`, a non-empty contiguous stretch that lies inside the window. -/
theorem scrollbar_in_track_body (total view top : Int) (w h fuel : Nat) (ce : Bool) (hw : 1 ≤ w) (hf : h + 2 ≤ fuel)
    (hv : 1 ≤ view) (hvt : view < total) (ht0 : 0 ≤ top) (ht : top ≤ total - view) (hh : 1 ≤ h) :
    ∃ (t len : Nat) , 1 ≤ len ∧ t + len ≤ h ∧
      runBar genB.barDraw total view top w h fuel ce = some ((List.range h).filter fun r => decide (t ≤ r ∧ r < t + len)) := by
  obtain ⟨b, hb, h0, h1, h2⟩ := C19.scrollbar_in_track total view top h hv hvt ht0 ht (by omega)
  refine ⟨b.top.toNat, b.len.toNat, by omega, by omega, ?_⟩
  rw [scrollbar_draw_body_eq_model total view top w h fuel ce hw hf]
  simp only [Scrollbar.rows, hb]
  congr 1
  apply List.filter_congr
  intro r _
  simp only [decide_eq_decide]
  omega

/-- Non-vacuity: 10 lines of which 4 are visible from line 3 on, a track of 5 rows, a window 1 column wide. -/
example : (1 : Int) ≤ 4 ∧ (4 : Int) < 10 ∧ (0 : Int) ≤ 3 ∧ (3 : Int) ≤ 10 - 4 ∧ 1 ≤ 5 ∧ 5 + 2 ≤ 7 := by decide

end VaxisModel.Props.C19Wid
