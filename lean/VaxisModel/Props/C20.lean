/-
C20 — Images fit their box, keep their aspect and reproduce their pixels; placement bookkeeping.
-/
import VaxisModel.Model.ImageFit
import VaxisModel.Spec.Images
import VaxisModel.Lemmas.ImageFit
import VaxisModel.Model.Placements
import VaxisModel.Lemmas.Placements

namespace VaxisModel.Props.C20
open VaxisModel.Model.ImageFit VaxisModel.Spec.Images VaxisModel.Gen.ImageConsts VaxisModel.Lemmas.ImageFit

/-- The configuration regenerated from image.go (cell counts rounded up, early return on
    `columns <= w && lines <= h`, arms `sfX <= sfY ⇒ sfX`, `sfX > sfY ⇒ sfY`) — re-checked against the
    source on every run; everything below is proved for this configuration. -/
theorem source_shape : genCfg = stdCfg := by decide

/-- **Fit.** For every image of positive size, every box, every positive cell geometry and every
    float step meeting the error hypothesis, the resized image occupies at most `w × h` cells. -/
theorem fit : FitStatement genCfg := by
  rw [source_shape]
  intro F hF wPix hPix w h cellW cellH pw ph hw hh hcw hch hr
  obtain ⟨hc, hl, hcols, hlines, hcase⟩ := std_cases F hF wPix hPix w h cellW cellH pw ph hw hh hcw hch hr
  unfold FitsBox
  rw [ceilDiv_le_iff _ _ _ hcw, ceilDiv_le_iff _ _ _ hch]
  rcases hcase with ⟨h1, h2, rfl, rfl⟩ | ⟨_, a, b, hb, _, hac, hal, hpw, _, hph, _⟩
  · exact ⟨Nat.le_trans hcols (Nat.mul_le_mul_right _ h1), Nat.le_trans hlines (Nat.mul_le_mul_right _ h2)⟩
  · exact ⟨scaled_cross_le pw a b wPix cellW _ w hb hpw hcols hac, scaled_cross_le ph a b hPix cellH _ h hb hph hlines hal⟩

example : resizeDims exactOps 64 128 4 4 8 16 = .ok (32, 64) := by rfl
example : FitsBox 32 64 4 4 8 16 := by decide

/-- **No upscaling.** The result is never larger than the source in either pixel dimension. -/
theorem no_upscale : NoUpscaleStatement genCfg := by
  rw [source_shape]
  intro F hF wPix hPix w h cellW cellH pw ph hw hh hcw hch hr
  obtain ⟨_, _, _, _, hcase⟩ := std_cases F hF wPix hPix w h cellW cellH pw ph hw hh hcw hch hr
  unfold NoUpscale
  rcases hcase with ⟨_, _, rfl, rfl⟩ | ⟨_, a, b, _, hab, _, _, hpw, _, hph, _⟩
  · exact ⟨Nat.le_refl _, Nat.le_refl _⟩
  · exact ⟨Nat.le_of_lt (scaled_lt pw a b wPix hab hw hpw), Nat.le_of_lt (scaled_lt ph a b hPix hab hh hph)⟩

example : NoUpscale 32 64 64 128 := by decide

/-- **Aspect.** `|pw·hPix − ph·wPix| ≤ max wPix hPix`: both dimensions are scaled by the same factor
    and each is within one pixel of the exact value, so the aspect ratio is kept to within one pixel
    (hence within one cell). -/
theorem aspect : AspectStatement genCfg := by
  rw [source_shape]
  intro F hF wPix hPix w h cellW cellH pw ph hw hh hcw hch hr
  obtain ⟨_, _, _, _, hcase⟩ := std_cases F hF wPix hPix w h cellW cellH pw ph hw hh hcw hch hr
  unfold AspectKept
  rcases hcase with ⟨_, _, rfl, rfl⟩ | ⟨_, a, b, hb, _, _, _, hpw, hpw', hph, hph'⟩
  · constructor <;> rw [Nat.mul_comm] <;> exact Nat.le_add_right _ _
  · have h1 := aspect_core pw ph a b wPix hPix hb hpw hph'
    have h2 := aspect_core ph pw a b hPix wPix hb hph hpw'
    have := Nat.le_max_left wPix hPix
    have := Nat.le_max_right wPix hPix
    constructor <;> omega

example : AspectKept 32 64 64 128 := by decide
/-- a case where rounding makes the two products differ: 10×7 px into 3×3 cells of 1×2 px. -/
example : resizeDims exactOps 10 7 3 3 1 2 = .ok (3, 2) := by rfl
example : AspectKept 3 2 10 7 := by decide

/-- **No panic** for positive cell geometry (division by zero is the only panic of the model; the
    excluded point is F52). -/
theorem no_panic : NoPanicStatement genCfg := by
  rw [source_shape]
  intro F wPix hPix w h cellW cellH hcw hch
  exact ⟨_, resizeDimsWith_std F wPix hPix w h cellW cellH hcw hch⟩

/-- **Kitty / sixel `CellSize()` after `Resize(w, h)`** never exceeds the box. -/
theorem cell_size_fits_proto (F : FloatOps) (hF : Sound F) (wPix hPix w h cellW cellH cw ch : Nat)
    (hw : 0 < wPix) (hh : 0 < hPix) (hcw : 0 < cellW) (hch : 0 < cellH)
    (hr : protoCellSize F wPix hPix w h cellW cellH = .ok (cw, ch)) : cw ≤ w ∧ ch ≤ h := by
  rw [protoCellSize_eq F wPix hPix w h cellW cellH hcw hch] at hr
  obtain ⟨⟨pw, ph⟩, hd, he⟩ := Except.map_eq_ok hr
  cases he
  exact fit F hF wPix hPix w h cellW cellH pw ph hw hh hcw hch hd

/-- The block renderers pass the cell geometry 1×2 (regenerated fact). -/
theorem block_geometry : halfBlockGeom = (1, 2) ∧ fullBlockGeom = (1, 2) := by decide

/-- At the geometry 1×2 the cells are the pixel width by `⌈pixel height / 2⌉`, which `fit` bounds by the box. -/
theorem block_size_fits (F : FloatOps) (hF : Sound F) (wPix hPix w h cw ch : Nat) (hw : 0 < wPix) (hh : 0 < hPix)
    (hr : ((resizeDims F wPix hPix w h 1 2).map fun d => (d.1, ceilDiv d.2 2)) = .ok (cw, ch)) : cw ≤ w ∧ ch ≤ h := by
  obtain ⟨⟨pw, ph⟩, hd, he⟩ := Except.map_eq_ok hr
  cases he
  have hfit := fit F hF wPix hPix w h 1 2 pw ph hw hh (by decide) (by decide) hd
  rwa [FitsBox, show ceilDiv pw 1 = pw by simp [ceilDiv]] at hfit

/-- **Half-block `CellSize()` after `Resize(w, h)`** never exceeds the box. -/
theorem cell_size_fits_half (F : FloatOps) (hF : Sound F) (wPix hPix w h cw ch : Nat)
    (hw : 0 < wPix) (hh : 0 < hPix)
    (hr : halfCellSize F wPix hPix w h = .ok (cw, ch)) : cw ≤ w ∧ ch ≤ h := by
  rw [halfCellSize_eq, block_geometry.1] at hr
  exact block_size_fits F hF wPix hPix w h cw ch hw hh hr

/-- **Full-block `CellSize()` after `Resize(w, h)`** never exceeds the box. -/
theorem cell_size_fits_full (F : FloatOps) (hF : Sound F) (wPix hPix w h cw ch : Nat)
    (hw : 0 < wPix) (hh : 0 < hPix)
    (hr : fullCellSize F wPix hPix w h = .ok (cw, ch)) : cw ≤ w ∧ ch ≤ h := by
  rw [fullCellSize_eq, block_geometry.2] at hr
  exact block_size_fits F hF wPix hPix w h cw ch hw hh hr

example : protoCellSize exactOps 64 128 4 4 8 16 = .ok (4, 4) := by rfl
example : halfCellSize exactOps 10 7 3 3 = .ok (3, 1) := by rfl

section pixels
open VaxisModel.Model.Blocks

/-- The alpha thresholds of the source: `transparentEnough = 50`, compared with `<` in every arm of
    the half-block switch, and `a < 50` in the full-block renderer (regenerated facts). -/
theorem thresholds : transparentEnough = 50 ∧ fullBlockCmp = (.lt, 50) := ⟨by decide, fullBlockCmp_std⟩

/-- The four arms of the half-block switch as extracted: glyphs U+0020, U+2584 (lower half), U+2580
    (upper half) twice, and where the colours come from. -/
theorem half_block_table : halfBlockArms =
    [⟨some .lt, some .lt, 0x20, .none, .none⟩, ⟨some .lt, none, 0x2584, .bot, .none⟩,
     ⟨none, some .lt, 0x2580, .top, .none⟩, ⟨none, none, 0x2580, .top, .bot⟩] := by decide

/-- **Opaque pixels are exact** (straight-alpha source, `color.NRGBA`): `toRGB` returns the 8-bit
    channels unchanged and alpha 255. -/
theorem opaque_exact_nrgba (r g b : Nat) (hr : r < 256) (hg : g < 256) (hb : b < 256) :
    toRGB (.ofQuad (nrgbaRGBA r g b 255)) = ⟨r, g, b, 255⟩ := by
  rw [toRGB_of_ne _ (by simp [nrgbaRGBA, C16.ofQuad])]
  simp only [nrgbaRGBA, C16.ofQuad, Nat.reduceMul, unpremul_opaque _ hr, unpremul_opaque _ hg, unpremul_opaque _ hb]
  rfl

/-- The same for an alpha-premultiplied source (`color.RGBA` with alpha 255). -/
theorem opaque_exact_rgba (r g b : Nat) (hr : r < 256) (hg : g < 256) (hb : b < 256) :
    toRGB (.ofQuad (rgbaRGBA r g b 255)) = ⟨r, g, b, 255⟩ := by
  rw [toRGB_of_ne _ (by simp [rgbaRGBA, C16.ofQuad])]
  simp only [rgbaRGBA, C16.ofQuad, Nat.reduceMul, unpremul_opaque' _ hr, unpremul_opaque' _ hg, unpremul_opaque' _ hb]
  rfl

/-- The 8-bit alpha the renderers test is the source's alpha, at every level. -/
theorem alpha_kept (r g b a : Nat) (ha : a < 256) :
    (toRGB (.ofQuad (nrgbaRGBA r g b a))).a = a :=
  toRGB_alpha _ a rfl ha

/-- **Translucent pixels are within one**: for every alpha ≥ 1 each channel comes back as `c` or
    `c - 1` (premultiplication by `color.NRGBA.RGBA` and un-premultiplication by `toRGB` both
    truncate, losing less than `257·a ≥ 255` in all). -/
theorem translucent_within_one (c a : Nat) (hc : c < 256) (ha : a < 256) (ha0 : 0 < a) :
    (toRGB ⟨c * 257 * a / 255, 0, 0, a * 257⟩).r ≤ c ∧
    c ≤ (toRGB ⟨c * 257 * a / 255, 0, 0, a * 257⟩).r + 1 := by
  rw [toRGB_of_ne _ (show a * 257 ≠ 0 by omega), Nat.mul_assoc c, Nat.mul_comm 257]
  exact unpremul_within_one c (a * 257) hc (by omega) (by omega)

/-- The same for all three channels of a straight-alpha `color.NRGBA` pixel as `toRGB` sees it. -/
theorem translucent_within_one_nrgba (r g b a : Nat) (hr : r < 256) (hg : g < 256) (hb : b < 256)
    (ha : a < 256) (ha0 : 0 < a) :
    let c := toRGB (.ofQuad (nrgbaRGBA r g b a))
    (c.r ≤ r ∧ r ≤ c.r + 1) ∧ (c.g ≤ g ∧ g ≤ c.g + 1) ∧ (c.b ≤ b ∧ b ≤ c.b + 1) := by
  have key (x : Nat) (hx : x < 256) := unpremul_within_one x (a * 257) hx (by omega) (by omega)
  have e (x : Nat) : x * 257 * a = x * (a * 257) := by rw [Nat.mul_assoc, Nat.mul_comm 257]
  show ((toRGB _).r ≤ _ ∧ _) ∧ _
  rw [toRGB_of_ne (.ofQuad (nrgbaRGBA r g b a)) (show a * 257 ≠ 0 by omega)]
  simp only [nrgbaRGBA, C16.ofQuad, e]
  exact ⟨key r hr, key g hg, key b hb⟩

example : toRGB (.ofQuad (nrgbaRGBA 200 100 50 128)) = ⟨199, 99, 49, 128⟩ := by decide

/-- **Half-block cell of two opaque pixels**: upper half block, foreground exactly the top pixel's
    colour, background exactly the bottom pixel's colour (as direct colours `0x02RRGGBB`). -/
theorem opaque_exact_half (tr tg tb br bg bb : Nat)
    (h1 : tr < 256) (h2 : tg < 256) (h3 : tb < 256) (h4 : br < 256) (h5 : bg < 256) (h6 : bb < 256) :
    halfCell (.ofQuad (nrgbaRGBA tr tg tb 255)) (.ofQuad (nrgbaRGBA br bg bb 255)) =
      ⟨0x2580, directColor tr tg tb, directColor br bg bb⟩ := by
  rw [halfCell, opaque_exact_nrgba _ _ _ h1 h2 h3, opaque_exact_nrgba _ _ _ h4 h5 h6, half_block_table]
  simp [halfArms, condHolds, evalCmp, thresholds.1, pxColor, rgbColor_eq, h1, h2, h3, h4, h5, h6]

/-- **Full-block cell of two opaque pixels**: a space whose background is exactly the channel-wise
    mean; for two pixels of the same colour that is exactly the colour. -/
theorem opaque_exact_full (tr tg tb br bg bb : Nat)
    (h1 : tr < 256) (h2 : tg < 256) (h3 : tb < 256) (h4 : br < 256) (h5 : bg < 256) (h6 : bb < 256) :
    fullCell (.ofQuad (nrgbaRGBA tr tg tb 255)) (.ofQuad (nrgbaRGBA br bg bb 255)) =
      ⟨0x20, 0, directColor ((br + tr) / 2) ((bg + tg) / 2) ((bb + tb) / 2)⟩ := by
  have e1 : (br + tr) / 2 % 256 = (br + tr) / 2 := by omega
  have e2 : (bg + tg) / 2 % 256 = (bg + tg) / 2 := by omega
  have e3 : (bb + tb) / 2 % 256 = (bb + tb) / 2 := by omega
  rw [fullCell_eq, opaque_exact_nrgba _ _ _ h1 h2 h3, opaque_exact_nrgba _ _ _ h4 h5 h6]
  simp only [e1, e2, e3]
  rw [if_neg (by decide), rgbColor_eq _ _ _ (by omega) (by omega) (by omega)]

theorem opaque_exact_full_same (r g b : Nat) (h1 : r < 256) (h2 : g < 256) (h3 : b < 256) :
    fullCell (.ofQuad (nrgbaRGBA r g b 255)) (.ofQuad (nrgbaRGBA r g b 255)) = ⟨0x20, 0, directColor r g b⟩ := by
  rw [opaque_exact_full r g b r g b h1 h2 h3 h1 h2 h3]
  have e (x : Nat) : (x + x) / 2 = x := by omega
  rw [e, e, e]

/-- **Transparent enough ⇒ default colour; the four-way glyph table** (on the 8-bit values `toRGB`
    returned for the top and bottom pixel): both below 50 → a space with default colours; only the
    top → lower half block coloured by the bottom pixel; only the bottom → upper half block coloured
    by the top pixel; neither → upper half block, top as foreground, bottom as background. -/
theorem transparent_default (t b : C8) :
    halfArms halfBlockArms t b =
      if t.a < 50 ∧ b.a < 50 then ⟨0x20, 0, 0⟩
      else if t.a < 50 then ⟨0x2584, rgbColor b.r b.g b.b, 0⟩
      else if b.a < 50 then ⟨0x2580, rgbColor t.r t.g t.b, 0⟩
      else ⟨0x2580, rgbColor t.r t.g t.b, rgbColor b.r b.g b.b⟩ := by
  rw [half_block_table]
  by_cases ht : t.a < 50 <;> by_cases hb : b.a < 50 <;>
    simp [halfArms, condHolds, evalCmp, thresholds.1, pxColor, ht, hb]

/-- Full block: mean alpha below 50 ⇒ the cell keeps the default colour, otherwise it gets the mean
    colour. -/
theorem transparent_default_full (top bot : C16) :
    fullColor top bot =
      if (averageColor top [bot]).a < 50 then 0
      else rgbColor (averageColor top [bot]).r (averageColor top [bot]).g (averageColor top [bot]).b := by
  simp [fullColor, thresholds.2, evalCmp]

/-- Non-vacuity: a pixel pair with alphas 49 / 50 takes the "top transparent" arm. -/
example : halfCell (.ofQuad (nrgbaRGBA 200 100 50 49)) (.ofQuad (nrgbaRGBA 10 20 30 255)) =
    ⟨0x2584, directColor 10 20 30, 0⟩ := by decide
example : (halfCell (.ofQuad (nrgbaRGBA 200 100 50 49)) (.ofQuad (nrgbaRGBA 10 20 30 50))).glyph = 0x2584 := by decide
example : (halfCell (.ofQuad (nrgbaRGBA 200 100 50 50)) (.ofQuad (nrgbaRGBA 10 20 30 50))).glyph = 0x2580 := by decide
example : (toRGB (.ofQuad (nrgbaRGBA 100 0 0 1))).r = 99 := by decide

end pixels

section placements
open VaxisModel.Model.Placements VaxisModel.Lemmas.Placements

/-- `samePlacement` compares all five of (id, col, row, w, h) (regenerated fact) … -/
theorem samePlacement_fields : samePlacementFields = [.id, .col, .row, .w, .h] := samePlacementFields_std

/-- … hence it is equality of placements. -/
theorem samePlacement_iff (a b : Placement) : samePlacement a b = true ↔ a = b := by
  rw [same_std]; simp

/-- **Placement diff, for all histories.**  Starting from the state after `vaxis.New` and for every
    sequence of draw / clear / render / refresh operations, the deletions and transmissions emitted
    by each render are exactly what the specification demands for the frame history the operations
    describe: a placement is transmitted iff the frame is a refresh or no identical placement was in
    the previous frame's list, and a placement of the previous list is deleted iff the frame is a
    refresh or it is absent now (`Spec.Images.expected`, `mustWrite`, `mustDelete`). -/
theorem placement_diff (ops : List Op) :
    outputs init ops = expected [] (framesOf true [] ops) := by
  rw [outputs, same_std]
  exact outputsWith_eq_expected ops init

/-- The same from any reachable state: the invariant is that `last` holds the previous frame. -/
theorem placement_diff_from (s : State) (ops : List Op) :
    outputs s ops = expected s.last (framesOf s.refresh s.next ops) := by
  rw [outputs, same_std]
  exact outputsWith_eq_expected ops s

/-- Reading of the spec: what is transmitted in a frame. -/
theorem written_iff (prev : List Placement) (f : Frame) (p : Placement) :
    p ∈ mustWrite prev f ↔ p ∈ f.placements ∧ (f.refresh = true ∨ p ∉ prev) := by
  simp [mustWrite]

/-- Reading of the spec: what is deleted in a frame. -/
theorem deleted_iff (prev : List Placement) (f : Frame) (p : Placement) :
    p ∈ mustDelete prev f ↔ p ∈ prev ∧ (f.refresh = true ∨ p ∉ f.placements) := by
  simp [mustDelete]

/-- Non-vacuity: keep, move, drop, then refresh (the first frame after start-up is a refresh). -/
example :
    let a : Placement := ⟨1, 0, 0, 2, 2⟩
    let a' : Placement := ⟨1, 3, 0, 2, 2⟩
    let b : Placement := ⟨2, 5, 5, 1, 1⟩
    outputs init [.draw a, .draw b, .render,            -- first frame: both transmitted
                  .clear, .draw a, .draw b, .render,    -- unchanged: nothing
                  .clear, .draw a', .render,            -- a moved, b dropped
                  .refresh]                             -- everything again
      = [([], [a, b]), ([], []), ([a, b], [a']), ([a'], [a'])] := by decide

end placements

end VaxisModel.Props.C20
