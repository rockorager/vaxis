/-
C20: composition of the placement bookkeeping (frame histories, `Props.C20.placement_diff`) with the
`Draw` gates and C11's window geometry (`Props.C20Ext.placement_inside_window`): over every application history,
whatever a render transmits or deletes is a placement some earlier `Draw` recorded at the origin of a window that
contains all of it.
-/
import VaxisModel.Props.C20Ext
import VaxisModel.Lemmas.Placements
import VaxisModel.Props.C20Term

namespace VaxisModel.Props.C20Compose
open VaxisModel.Model.ImageDraw VaxisModel.Model.Placements VaxisModel.Spec.Images VaxisModel.Gen.ImageConsts
open VaxisModel.Model.Window VaxisModel.Spec.Window VaxisModel.Props.C20Ext

/-- `q` was recorded by a `Draw` of the history, at the origin of a window that contains all of it. -/
def DrawnInside (aops : List AOp) (q : Placement) : Prop :=
  ∃ gates hd enc win, AOp.drawImg gates hd enc q.id q.w q.h win ∈ aops ∧
    q.col = (win.origin).1 ∧ q.row = (win.origin).2 ∧ placementInside q.w q.h win ∧
    ∀ x y, placementCovers q.w q.h (x - q.col) (y - q.row) → inOwnRect win x y

theorem drawn_inside (aops : List AOp)
    (hg : ∀ gates hd enc id iw ih win, AOp.drawImg gates hd enc id iw ih win ∈ aops → sizeTest ∈ gates)
    {gates : List Gate} {hd enc : Bool} {id : Nat} {iw ih : Int} {win : Win}
    (ha : AOp.drawImg gates hd enc id iw ih win ∈ aops) (hdr : drawnWith gates hd enc iw ih win = true) :
    DrawnInside aops ⟨id, (win.origin).1, (win.origin).2, iw, ih⟩ :=
  have hm := hg gates hd enc id iw ih win ha
  ⟨gates, hd, enc, win, ha, rfl, rfl, (size_gate_inside gates hm hd enc iw ih win hdr).1,
    fun x y hc => (gated_placement_inside gates hm hd enc iw ih win hdr x y hc).1⟩

open VaxisModel.Model.KittyTerm in
/-- Every `draw` an application operation of the history lowers to — in the placement bookkeeping (`lower`) or in
    the terminal's world (`lowerW`), which record the same placement — is such a placement. -/
theorem lowered_draw_inside (aops : List AOp)
    (hg : ∀ gates hd enc id iw ih win, AOp.drawImg gates hd enc id iw ih win ∈ aops → sizeTest ∈ gates)
    (a : AOp) (ha : a ∈ aops) (p : Placement) (h : Op.draw p ∈ lower a ∨ WOp.draw p ∈ lowerW a) :
    DrawnInside aops p := by
  cases a with
  | drawImg gates hd enc id iw ih win =>
    by_cases hdr : drawnWith gates hd enc iw ih win = true
    · have : p = ⟨id, (win.origin).1, (win.origin).2, iw, ih⟩ := by
        rcases h with h | h <;> simpa [lower, lowerW, hdr] using h
      exact this ▸ drawn_inside aops hg ha hdr
    · rcases h with h | h <;> simp [lower, lowerW, hdr] at h
  | clear => rcases h with h | h <;> simp [lower, lowerW] at h
  | render => rcases h with h | h <;> simp [lower, lowerW] at h
  | refresh => rcases h with h | h <;> simp [lower, lowerW] at h

/-- **Every placement a frame transmits (or deletes) lies inside the window it was drawn into** — for all histories
    of `Draw`s into arbitrary windows (each image with either protocol's gates — any gate list that has the size
    test —, any size, with or without data, encoder running or not), `Clear`s, `Render`s and `Refresh`es from
    start-up: a placement `q` in the output of any render was recorded by a `Draw` of that history, at the origin of
    its window `win`; it is at most as large as `win`, and every screen cell it covers is in `win`'s own rectangle. -/
theorem transmitted_placements_inside (aops : List AOp)
    (hg : ∀ gates hd enc id iw ih win, AOp.drawImg gates hd enc id iw ih win ∈ aops → sizeTest ∈ gates) :
    ∀ o ∈ outputs init (aops.flatMap lower), ∀ q, q ∈ o.1 ∨ q ∈ o.2 →
      ∃ gates hd enc win, AOp.drawImg gates hd enc q.id q.w q.h win ∈ aops ∧
        q.col = (win.origin).1 ∧ q.row = (win.origin).2 ∧ placementInside q.w q.h win ∧
        ∀ x y, placementCovers q.w q.h (x - q.col) (y - q.row) → inOwnRect win x y := by
  have hdraw : ∀ p, Op.draw p ∈ aops.flatMap lower → DrawnInside aops p := fun p hp =>
    let ⟨a, ha, hpa⟩ := List.mem_flatMap.mp hp
    lowered_draw_inside aops hg a ha p (Or.inl hpa)
  intro o ho q hq
  have := VaxisModel.Lemmas.Placements.outputsWith_good samePlacement (DrawnInside aops) (aops.flatMap lower) init
    (by intro p hp; cases hp) (by intro p hp; cases hp) hdraw o ho
  rcases hq with hq | hq
  · exact this.1 q hq
  · exact this.2 q hq

/-- Both protocols' regenerated gate lists have the size test, so the theorem applies to every history of kitty and
    sixel images. -/
theorem both_protocols_gated : sizeTest ∈ kittyGates ∧ sizeTest ∈ sixelGates :=
  ⟨draw_gates_shape.2.1, draw_gates_shape.2.2.1⟩

/-- Non-vacuity: a 2×1 kitty image drawn into a 2×2 window at (5,5), rendered: the placement is transmitted. -/
example : outputs init ([AOp.drawImg kittyGates true false 1 2 1 (Win.new (.root 0 0 10 10) 5 5 2 2), AOp.render].flatMap lower) =
    [([], [⟨1, 5, 5, 2, 1⟩])] := by decide

/-- …and a 4×4 image into the same window is not: nothing is transmitted (F120 repaired). -/
example : outputs init ([AOp.drawImg kittyGates true false 1 4 4 (Win.new (.root 0 0 10 10) 5 5 2 2), AOp.render].flatMap lower) =
    [([], [])] := by decide

open VaxisModel.Model.KittyTerm VaxisModel.Lemmas.KittyTerm in
/-- **What the terminal shows lies inside the windows it was drawn into** (composition of the terminal refinement
    `C20Term.terminal_table_is_last_frame` with the `Draw` gates and C11's window geometry): for every history of
    `Draw`s of kitty images into arbitrary windows (any gate list with the size test, any size, any state), `Clear`s,
    `Render`s and `Refresh`es from start-up whose frames are key-functional, at every point every placement in the
    TERMINAL's table — after all deletes and placements applied in the order emitted — was recorded by a `Draw` of the
    history at the origin of a window that is at least as large, and every screen cell it covers is in that window's
    own rectangle. -/
theorem terminal_placements_inside (aops : List AOp)
    (hg : ∀ gates hd enc id iw ih win, AOp.drawImg gates hd enc id iw ih win ∈ aops → sizeTest ∈ gates)
    (hk : FramesKeyFun [] (aops.flatMap lowerW)) :
    ∀ k q, (World.init.run (aops.flatMap lowerW)).term.places k = some q →
      ∃ gates hd enc win, AOp.drawImg gates hd enc q.id q.w q.h win ∈ aops ∧
        q.col = (win.origin).1 ∧ q.row = (win.origin).2 ∧ placementInside q.w q.h win ∧
        ∀ x y, placementCovers q.w q.h (x - q.col) (y - q.row) → inOwnRect win x y := by
  have hdraw : ∀ p, WOp.draw p ∈ aops.flatMap lowerW → DrawnInside aops p := fun p hp =>
    let ⟨a, ha, hpa⟩ := List.mem_flatMap.mp hp
    lowered_draw_inside aops hg a ha p (Or.inr hpa)
  intro k q hq
  rw [VaxisModel.Props.C20Term.terminal_table_is_last_frame _ hk k] at hq
  have hmem := (tableOf_some_mem hq).1
  exact (lists_good (DrawnInside aops) (aops.flatMap lowerW) World.init (by intro p hp; cases hp) (by intro p hp; cases hp) hdraw).2 q hmem

open VaxisModel.Model.KittyTerm in
/-- Non-vacuity: a 2×1 kitty image drawn into a 2×2 window at (5,5) and rendered is on the terminal; a 4×4 one is not. -/
example :
    (World.init.run ([AOp.drawImg kittyGates true false 1 2 1 (Win.new (.root 0 0 10 10) 5 5 2 2), AOp.render].flatMap lowerW)).term.places (1, 5, 5) = some ⟨1, 5, 5, 2, 1⟩ ∧
    (World.init.run ([AOp.drawImg kittyGates true false 1 4 4 (Win.new (.root 0 0 10 10) 5 5 2 2), AOp.render].flatMap lowerW)).term.places (1, 5, 5) = none := by
  constructor <;> decide

end VaxisModel.Props.C20Compose
