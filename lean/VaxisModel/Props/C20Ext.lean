/-
C20: terminal cell size (F52 repaired), exact cell sizes, signed boxes, the cell↔pixel mapping of
the block renderers for every image, drawing stays inside the window (composed with C11), upload
bookkeeping of kitty images.
-/
import VaxisModel.Props.C20
import VaxisModel.Props.C11
import VaxisModel.Lemmas.ImageTerm
import VaxisModel.Model.ImageDraw
import VaxisModel.Gen.ImageFlow
import VaxisModel.Lemmas.ImageFlowExpected
import VaxisModel.Lemmas.Window
import VaxisModel.Lemmas.Placements

namespace VaxisModel.Props.C20Ext
open VaxisModel.Model.ImageFit VaxisModel.Model.ImageTerm VaxisModel.Spec.Images VaxisModel.Gen.ImageConsts
open VaxisModel.Lemmas.ImageFit VaxisModel.Lemmas.ImageTerm VaxisModel.Model.Blocks VaxisModel.Model.ImageDraw

/-- `cellPixelSize` is at least 1 in each direction, whatever the terminal reports (no pixels, fewer pixels than
    cells, zero or negative counts). -/
theorem term_cell_pos (pix cells : Int) : 0 < termCell pix cells := termCell_pos pix cells

/-- It is the reported quotient whenever that is positive. -/
theorem term_cell_exact (pix cells : Nat) (h : cells ≤ pix) (hc : 0 < cells) :
    termCell pix cells = pix / cells := by
  unfold termCell
  have hq : 0 < pix / cells := Nat.div_pos h hc
  have e : Int.tdiv (pix : Int) (cells : Int) = ((pix / cells : Nat) : Int) := by
    rw [Int.tdiv_eq_ediv_of_nonneg (by omega)]; rfl
  have hq' : (0 : Int) < ((pix / cells : Nat) : Int) := by omega
  have hc' : (0 : Int) < (cells : Int) := by omega
  rw [e, if_pos ⟨hc', hq'⟩]
  exact Int.toNat_natCast _

/-- **no_panic, unconditionally**: `KittyImage.Resize` / `Sixel.Resize` never divide by zero, for every image,
    box, terminal report and float step. -/
theorem no_panic_term (F : FloatOps) (wPix hPix w h : Nat) (xpix cols ypix rows : Int) :
    ∃ r, protoCellSizeTerm F wPix hPix w h xpix cols ypix rows = .ok r := by
  unfold protoCellSizeTerm
  rw [termCellW_eq, termCellH_eq, protoCellSize_eq F _ _ _ _ _ _ (termCell_pos xpix cols) (termCell_pos ypix rows)]
  obtain ⟨d, hd⟩ := C20.no_panic F wPix hPix w h _ _ (termCell_pos xpix cols) (termCell_pos ypix rows)
  exact ⟨_, congrArg _ hd⟩

/-- **fit on every terminal**: the cell size never exceeds the box, at the cell geometry the terminal reports. -/
theorem fit_term (F : FloatOps) (hF : Sound F) (wPix hPix w h : Nat) (xpix cols ypix rows : Int) (cw ch : Nat)
    (hw : 0 < wPix) (hh : 0 < hPix)
    (hr : protoCellSizeTerm F wPix hPix w h xpix cols ypix rows = .ok (cw, ch)) : cw ≤ w ∧ ch ≤ h := by
  unfold protoCellSizeTerm at hr
  rw [termCellW_eq, termCellH_eq] at hr
  exact C20.cell_size_fits_proto F hF wPix hPix w h _ _ cw ch hw hh (termCell_pos xpix cols) (termCell_pos ypix rows) hr

/-- **cell_size_exact (kitty / sixel)**: not only `≤ box` but exactly `⌈pixels / cell pixels⌉` of the resized image —
    a `CellSize()` that is too *small* (a dropped `+= 1`) is excluded as well. -/
theorem cell_size_exact_proto (F : FloatOps) (wPix hPix w h cellW cellH cw ch : Nat) (hcw : 0 < cellW) (hch : 0 < cellH)
    (hr : protoCellSize F wPix hPix w h cellW cellH = .ok (cw, ch)) :
    ∃ pw ph, resizeDims F wPix hPix w h cellW cellH = .ok (pw, ph) ∧ cw = ceilDiv pw cellW ∧ ch = ceilDiv ph cellH := by
  rw [protoCellSize_eq F wPix hPix w h cellW cellH hcw hch] at hr
  obtain ⟨⟨pw, ph⟩, hd, he⟩ := Except.map_eq_ok hr
  cases he
  exact ⟨pw, ph, hd, rfl, rfl⟩

/-- **cell_size_exact (half / full block)**: width = pixel width, height = `⌈pixel height / 2⌉`. -/
theorem cell_size_exact_block (F : FloatOps) (wPix hPix w h cw ch : Nat)
    (hr : halfCellSize F wPix hPix w h = .ok (cw, ch)) :
    ∃ pw ph, resizeDims F wPix hPix w h 1 2 = .ok (pw, ph) ∧ cw = pw ∧ ch = ceilDiv ph 2 ∧
      fullCellSize F wPix hPix w h = .ok (cw, ch) := by
  rw [halfCellSize_eq, C20.block_geometry.1] at hr
  obtain ⟨⟨pw, ph⟩, hd, he⟩ := Except.map_eq_ok hr
  cases he
  refine ⟨pw, ph, hd, rfl, rfl, ?_⟩
  rw [fullCellSize_eq, C20.block_geometry.2, show resizeDims F wPix hPix w h 1 2 = .ok (pw, ph) from hd]
  rfl

/-- For `w, h ≥ 0` the signed model is the model of `Props.C20` (so `fit`, `no_upscale`, `aspect` apply verbatim). -/
theorem box_nonneg (F : FloatOps) (wPix hPix w h cellW cellH : Nat) :
    resizeDimsBox F wPix hPix (w : Int) (h : Int) cellW cellH = resizeDims F wPix hPix w h cellW cellH :=
  resizeDimsBoxWith_nonneg genCfg F wPix hPix w h cellW cellH

/-- **negative boxes**: a negative width or height never panics and yields the empty image (`Bounds().Max = (0,0)`),
    hence `CellSize() = (0, 0)` and nothing is drawn — for every image, cell geometry and float step. -/
theorem box_negative_empty (F : FloatOps) (wPix hPix : Nat) (w h : Int) (cellW cellH : Nat)
    (hcw : 0 < cellW) (hch : 0 < cellH) (hneg : w < 0 ∨ h < 0) :
    resizeDimsBox F wPix hPix w h cellW cellH = .ok (0, 0) := by
  unfold resizeDimsBox
  rw [C20.source_shape]
  exact resizeDimsBoxWith_std_negative F wPix hPix w h cellW cellH hcw hch hneg

/-- **fit for all integer boxes**: the result occupies at most `max 0 w × max 0 h` cells. -/
theorem fit_box (F : FloatOps) (hF : Sound F) (wPix hPix : Nat) (w h : Int) (cellW cellH pw ph : Nat)
    (hw : 0 < wPix) (hh : 0 < hPix) (hcw : 0 < cellW) (hch : 0 < cellH)
    (hr : resizeDimsBox F wPix hPix w h cellW cellH = .ok (pw, ph)) :
    FitsBox pw ph w.toNat h.toNat cellW cellH := by
  by_cases hneg : w < 0 ∨ h < 0
  · rw [box_negative_empty F wPix hPix w h cellW cellH hcw hch hneg] at hr
    have := Prod.mk.inj (Except.ok.inj hr)
    rw [← this.1, ← this.2]
    unfold FitsBox ceilDiv
    constructor <;> (rw [Nat.div_eq_of_lt (by omega)]; omega)
  · have hw0 : 0 ≤ w := by omega
    have hh0 : 0 ≤ h := by omega
    have e1 : w = (w.toNat : Int) := by omega
    have e2 : h = (h.toNat : Int) := by omega
    rw [e1, e2, box_nonneg] at hr
    exact C20.fit F hF wPix hPix w.toNat h.toNat cellW cellH pw ph hw hh hcw hch hr

example : resizeDimsBox exactOps 16 16 (-3) 5 8 16 = .ok (0, 0) := by rfl
example : resizeDimsBox exactOps 64 128 4 4 8 16 = .ok (32, 64) := by rfl

/-- **cell ↔ pixel mapping.** For every image (after the resize step, whatever it produced) the cell list has
    exactly `width × ⌈height/2⌉` entries; the entry at index `y·width + x` is the cell for column `x`, row `y`,
    computed from exactly the two pixels `(x, 2y)` (upper half) and `(x, 2y+1)` (lower half); every entry is of
    that form with `x < width`, `y < ⌈height/2⌉` (so each cell occurs exactly once). -/
theorem block_cell_pixels (cell : C16 → C16 → BCell) (img : Img) :
    (blockCells cell img).length = ceilDiv img.h 2 * img.w ∧
    (∀ x y, x < img.w → y < ceilDiv img.h 2 →
      (blockCells cell img)[y * img.w + x]? = some (x, y, cell (img.at x (2 * y)) (img.at x (2 * y + 1)))) ∧
    (∀ e ∈ blockCells cell img, e.1 < img.w ∧ e.2.1 < ceilDiv img.h 2 ∧
      e.2.2 = cell (img.at e.1 (2 * e.2.1)) (img.at e.1 (2 * e.2.1 + 1)) ∧
      (blockCells cell img)[e.2.1 * img.w + e.1]? = some e) := by
  rw [← blockHeight_eq]
  exact ⟨blockCellsWith_length .read cell img, blockCellsWith_get .read cell img, blockCellsWith_mem .read cell img⟩

/-- The upper pixel of every cell is inside the image; the lower one too, except in the last cell row of an
    image of odd height, where `At` is out of bounds and yields the zero (fully transparent) colour. -/
theorem block_pixel_rows (img : Img) (x y : Nat) (hy : y < ceilDiv img.h 2) :
    2 * y < img.h ∧ (2 * y + 1 < img.h ∨ (img.h % 2 = 1 ∧ y + 1 = ceilDiv img.h 2 ∧ img.at x (2 * y + 1) = ⟨0, 0, 0, 0⟩)) := by
  unfold ceilDiv at hy ⊢
  by_cases hbot : 2 * y + 1 < img.h
  · exact ⟨by omega, Or.inl hbot⟩
  · exact ⟨by omega, Or.inr ⟨by omega, by omega, by simp [Img.at, hbot]⟩⟩

/-- Half-block and full-block images use this mapping with the cell functions of `Props.C20`
    (`opaque_exact_*`, `transparent_default*`, `half_block_table` say what a cell is for its two pixels). -/
theorem block_cells_are : halfCells = blockCells halfCell ∧ fullCells = blockCellsWith .topIfMissing fullCell := ⟨rfl, rfl⟩

/-- An opaque source pixel `color.NRGBA{r, g, b, 255}` as `At(x, y).RGBA()` returns it. -/
def OpaquePx (p : C16) : Prop := ∃ r g b, r < 256 ∧ g < 256 ∧ b < 256 ∧ p = .ofQuad (nrgbaRGBA r g b 255)

/-- The hypothesis on `draw.NearestNeighbor.Scale(dst, dst.Rect, img, img.Bounds(), draw.Over, nil)` (a library, not
    modelled): `dst` has the requested size and each of its pixels is a pixel of the source.  (Nearest neighbour copies source
    pixels; for opaque pixels compositing `Over` a fresh transparent `image.RGBA` and its 8-bit premultiplied storage change
    nothing.  For translucent pixels the storage quantises, which is why the statement is about opaque images.) -/
structure ScalerPicks (src dst : Img) (pw ph : Nat) : Prop where
  w : dst.w = pw
  h : dst.h = ph
  picks : ∀ x y, x < pw → y < ph → ∃ sx sy, sx < src.w ∧ sy < src.h ∧ dst.at x y = src.at sx sy

/-- An opaque pixel over no pixel (the last row of an odd height): `▀` in its colour on the default background. -/
theorem opaque_half_last_row (r g b : Nat) (hr : r < 256) (hg : g < 256) (hb : b < 256) :
    halfCell (.ofQuad (nrgbaRGBA r g b 255)) ⟨0, 0, 0, 0⟩ = ⟨0x2580, directColor r g b, 0⟩ := by
  rw [halfCell, C20.opaque_exact_nrgba _ _ _ hr hg hb, C20.transparent_default,
    show toRGB ⟨0, 0, 0, 0⟩ = ⟨0, 0, 0, 0⟩ by decide]
  simp [rgbColor_eq, hr, hg, hb]

/-- **Pixels of a resized opaque image.** Under `ScalerPicks`, every cell of the half-block rendering of the resized image is
    the upper half block `▀` whose foreground is *exactly* the colour of a source pixel (the one the scaler put at `(x, 2y)`)
    and whose background is exactly the colour of a source pixel (the one at `(x, 2y+1)`) — or the default colour in the last
    row of an odd pixel height, where there is no lower pixel. -/
theorem resized_opaque_half (src dst : Img) (pw ph : Nat) (hs : ScalerPicks src dst pw ph)
    (hop : ∀ x y, x < src.w → y < src.h → OpaquePx (src.at x y)) :
    ∀ e ∈ halfCells dst, e.1 < pw ∧ e.2.1 < ceilDiv ph 2 ∧
      ∃ sx sy tr tg tb, sx < src.w ∧ sy < src.h ∧ src.at sx sy = .ofQuad (nrgbaRGBA tr tg tb 255) ∧
        e.2.2.glyph = 0x2580 ∧ e.2.2.fg = directColor tr tg tb ∧
        ((2 * e.2.1 + 1 < ph ∧ ∃ sx' sy' br bg bb, sx' < src.w ∧ sy' < src.h ∧
            src.at sx' sy' = .ofQuad (nrgbaRGBA br bg bb 255) ∧ e.2.2.bg = directColor br bg bb) ∨
         (¬ 2 * e.2.1 + 1 < ph ∧ e.2.2.bg = 0)) := by
  intro e he
  obtain ⟨h1, h2, hrow, h3⟩ := halfCells_mem dst e he
  rw [hs.w] at h1
  rw [hs.h] at h2 hrow h3
  obtain ⟨sx, sy, hsx, hsy, htop⟩ := hs.picks e.1 (2 * e.2.1) h1 hrow
  obtain ⟨tr, tg, tb, htr, htg, htb, hpx⟩ := hop sx sy hsx hsy
  refine ⟨h1, h2, sx, sy, tr, tg, tb, hsx, hsy, hpx, ?_⟩
  by_cases hbot : 2 * e.2.1 + 1 < ph
  · obtain ⟨sx', sy', hsx', hsy', hb⟩ := hs.picks e.1 (2 * e.2.1 + 1) h1 hbot
    obtain ⟨br, bg, bb, hbr, hbg, hbb, hpx'⟩ := hop sx' sy' hsx' hsy'
    rw [if_pos hbot, htop, hb, hpx, hpx', C20.opaque_exact_half tr tg tb br bg bb htr htg htb hbr hbg hbb] at h3
    rw [h3]
    exact ⟨rfl, rfl, Or.inl ⟨hbot, sx', sy', br, bg, bb, hsx', hsy', hpx', rfl⟩⟩
  · rw [if_neg hbot, htop, hpx, opaque_half_last_row tr tg tb htr htg htb] at h3
    rw [h3]
    exact ⟨rfl, rfl, Or.inr ⟨hbot, rfl⟩⟩

/-- Non-vacuity: the identity "scaler" (an image that already fits is returned as it is) meets the hypothesis. -/
example (img : Img) : ScalerPicks img img img.w img.h :=
  ⟨rfl, rfl, fun x y hx hy => ⟨x, y, hx, hy, rfl⟩⟩

open VaxisModel.Model.Window VaxisModel.Spec.Window in
/-- **draw_clipped (half / full block).** `Draw` is one `SetCell` per cell-list entry; whatever the window chain
    and screen, a screen cell that changes lies inside the window, every ancestor and the screen, and is the
    window's origin plus the `(x, y)` of a cell-list entry — which by `block_cell_pixels` carries the colours of
    the pixels `(x, 2y)`, `(x, 2y+1)`. -/
theorem block_draw_clipped (toCell : BCell → Cell) (cell : C16 → C16 → BCell) (img : Img) (win : Win) (s : Screen)
    (x y : Int) (h : (applyOps win s (blockOps toCell (blockCells cell img))).get x y ≠ s.get x y) :
    covers win x y ∧ inScreen s x y ∧
    ∃ e ∈ blockCells cell img, x = (win.origin).1 + e.1 ∧ y = (win.origin).2 + e.2.1 ∧ e.1 < img.w ∧ e.2.1 < ceilDiv img.h 2 := by
  obtain ⟨hc, hs, o, ho, hx, hy⟩ := C11.drawops_clip win s _ x y h
  simp only [blockOps, List.mem_map] at ho
  obtain ⟨e, he, rfl⟩ := ho
  obtain ⟨h1, h2, _, _⟩ := (block_cell_pixels cell img).2.2 e he
  exact ⟨hc, hs, e, he, hx, hy, h1, h2⟩

open VaxisModel.Model.Window VaxisModel.Spec.Window in
/-- **draw_clipped (sixel).** The cells `Sixel.Draw` marks are clipped like every `SetCell`.  (That the whole `w × h`
    placement lies inside the window's own rectangle when the image is drawn at all — size gate — is
    `sixel_placement_inside`.) -/
theorem sixel_draw_clipped (sw sh : Int) (mark : Cell) (win : Win) (s : Screen) (x y : Int)
    (h : (applyOps win s (sixelOps sw sh mark)).get x y ≠ s.get x y) : covers win x y ∧ inScreen s x y :=
  let ⟨hc, hs, _⟩ := C11.drawops_clip win s _ x y h
  ⟨hc, hs⟩

/-- The size test as written in both `Draw` methods. -/
abbrev sizeTest : Gate := .size .gt .or .gt

theorem gateFires_sizeTest (hasData encoding : Bool) (iw ih : Int) (win : VaxisModel.Model.Window.Win) :
    gateFires hasData encoding iw ih win sizeTest = decide (iw > win.width ∨ ih > win.height) := by
  simp [gateFires, connBool, cmpInt]

/-- **The size gate, for every gate list.**  Whatever else a `Draw` method tests, if one of its leading
    `if … { return }` statements is `X.w > w || X.h > h` (with `w, h := win.Size()`), then an image that is drawn is at
    most as large as the window, and every cell `(dx, dy)` the `iw × ih` placement covers passes the window's own
    `SetCell` guard — for all sizes (also negative ones), all windows, all data / encoding states. -/
theorem size_gate_inside (gates : List Gate) (hm : sizeTest ∈ gates) (hasData encoding : Bool) (iw ih : Int)
    (win : VaxisModel.Model.Window.Win) (hd : drawnWith gates hasData encoding iw ih win = true) :
    placementInside iw ih win ∧ ∀ dx dy : Int, placementCovers iw ih dx dy → win.guard dx dy = true := by
  have h := (List.all_eq_true.mp hd) _ hm
  rw [gateFires_sizeTest, Bool.not_eq_true', decide_eq_false_iff_not] at h
  refine ⟨⟨by omega, by omega⟩, ?_⟩
  intro dx dy ⟨h1, h2, h3, h4⟩
  unfold VaxisModel.Model.Window.Win.guard
  have a : ¬ (dy ≥ win.height ∨ dx ≥ win.width) := by omega
  have b : ¬ (dy < 0 ∨ dx < 0) := by omega
  simp [a, b]

/-- **The gates of the source** (regenerated, structured; order-independent): every leading `if … { return }` of
    `KittyImage.Draw` and of `Sixel.Draw` is one the extractor knows — "no data", "still encoding" or the size test
    exactly as `X.w > w || X.h > h`, or (F520) "the image has no cells" —, both methods have the size test, only
    `Sixel.Draw` tests for data, and `KittyImage.Draw` refuses an image without cells. -/
theorem draw_gates_shape :
    (∀ g ∈ kittyGates ++ sixelGates, g = .noData ∨ g = .encoding ∨ g = sizeTest ∨ g = .zeroSize) ∧
    sizeTest ∈ kittyGates ∧ sizeTest ∈ sixelGates ∧ Gate.encoding ∈ kittyGates ∧ Gate.encoding ∈ sixelGates ∧
    Gate.noData ∈ sixelGates ∧ Gate.noData ∉ kittyGates ∧ Gate.zeroSize ∈ kittyGates := by decide

/-- **The placement both `Draw` methods record** (regenerated): its column and row are the window's origin
    (`col, row := win.Origin()`), its id and size the image's own `id`, `w`, `h` — not, say, the window's size — which
    is what `ImageDraw.lower` / `KittyTerm.lowerW` build. -/
theorem draw_placement_fields :
    kittyPlacement = [(.col, "col"), (.h, "X.h"), (.id, "X.id"), (.row, "row"), (.w, "X.w")] ∧
    sixelPlacement = kittyPlacement := by decide

theorem sixel_placement_inside (sw sh : Int) (win : VaxisModel.Model.Window.Win) (hd : sixelDrawn sw sh win = true) :
    placementInside sw sh win ∧
    ∀ dx dy : Int, 0 ≤ dx → dx < sw → 0 ≤ dy → dy < sh → win.guard dx dy = true := by
  obtain ⟨h1, h2⟩ := size_gate_inside sixelGates draw_gates_shape.2.2.1 true false sw sh win hd
  exact ⟨h1, fun dx dy a b c d => h2 dx dy ⟨a, b, c, d⟩⟩

/-- The statement "a drawn placement lies inside its window" for kitty images.  False before the F120 repair
    (`Witness/F120.lean`: with the old gate list `[.encoding]` a 4×4 image is placed in a 2×2 window). -/
def kitty_placement_inside_full : Prop :=
  ∀ (kw kh : Int) (win : VaxisModel.Model.Window.Win), kittyDrawn kw kh win = true → placementInside kw kh win

/-- **F120 repaired**: the full statement holds of the current source. -/
theorem kitty_placement_inside : kitty_placement_inside_full :=
  fun kw kh win hd => (size_gate_inside kittyGates draw_gates_shape.2.1 true false kw kh win hd).1

/-- What held for kitty images before the repair, and still does: a placement at most as large as the window lies
    inside it — i.e. after `Resize(w, h)` with the window's own size (`fit_term`). -/
theorem kitty_placement_inside_partial (F : FloatOps) (hF : Sound F) (wPix hPix : Nat) (xpix cols ypix rows : Int)
    (win : VaxisModel.Model.Window.Win) (cw ch : Nat) (hw : 0 < wPix) (hh : 0 < hPix)
    (hr : protoCellSizeTerm F wPix hPix win.width.toNat win.height.toNat xpix cols ypix rows = .ok (cw, ch))
    (hpos : 0 ≤ win.width ∧ 0 ≤ win.height) :
    placementInside cw ch win := by
  obtain ⟨h1, h2⟩ := fit_term F hF wPix hPix _ _ xpix cols ypix rows cw ch hw hh hr
  unfold placementInside
  omega

/-- The two graphics protocols that place an image as a whole (the block renderers draw cell by cell:
    `block_draw_clipped`). -/
inductive Proto | kitty | sixel
  deriving DecidableEq, Repr

def Proto.gates : Proto → List Gate
  | .kitty => kittyGates
  | .sixel => sixelGates

theorem Proto.sizeTest_mem : ∀ p : Proto, sizeTest ∈ p.gates
  | .kitty => draw_gates_shape.2.1
  | .sixel => draw_gates_shape.2.2.1

open VaxisModel.Model.Window VaxisModel.Spec.Window in
theorem gated_placement_inside (gates : List Gate) (hm : sizeTest ∈ gates) (hasData encoding : Bool) (iw ih : Int)
    (win : Win) (hd : drawnWith gates hasData encoding iw ih win = true) (x y : Int)
    (hc : placementCovers iw ih (x - (win.origin).1) (y - (win.origin).2)) :
    inOwnRect win x y ∧ win.guard (x - (win.origin).1) (y - (win.origin).2) = true := by
  obtain ⟨⟨hw, hh⟩, hg⟩ := size_gate_inside gates hm hasData encoding iw ih win hd
  refine ⟨?_, hg _ _ hc⟩
  obtain ⟨h1, h2, h3, h4⟩ := hc
  unfold inOwnRect
  rw [← VaxisModel.Lemmas.Window.origin_eq_absOrigin]
  refine ⟨by omega, by omega, by omega, by omega⟩

open VaxisModel.Model.Window VaxisModel.Spec.Window in
/-- **A placement never covers a cell outside its window** — both protocols, every image size, every window
    (whatever its parent chain), every state of the image (data present or not, encoder running or not): if `Draw`
    records a placement of `iw × ih` cells at `win.Origin()`, then every screen cell `(x, y)` that placement covers
    lies in the window's own rectangle (absolute coordinates), and relative to the window it is a cell that
    `win.SetCell` itself would accept. -/
theorem placement_inside_window (p : Proto) (hasData encoding : Bool) (iw ih : Int) (win : Win)
    (hd : drawnWith p.gates hasData encoding iw ih win = true) (x y : Int)
    (hc : placementCovers iw ih (x - (win.origin).1) (y - (win.origin).2)) :
    inOwnRect win x y ∧ win.guard (x - (win.origin).1) (y - (win.origin).2) = true :=
  gated_placement_inside p.gates p.sizeTest_mem hasData encoding iw ih win hd x y hc

/-- Non-vacuity: a 2×1 image is drawn into a 2×2 window at (5,5) by both protocols, and covers (6,5). -/
example : drawnWith Proto.kitty.gates true false 2 1 (VaxisModel.Model.Window.Win.new (.root 0 0 10 10) 5 5 2 2) = true ∧
    drawnWith Proto.sixel.gates true false 2 1 (VaxisModel.Model.Window.Win.new (.root 0 0 10 10) 5 5 2 2) = true ∧
    placementCovers 2 1 (6 - 5) (5 - 5) := by
  refine ⟨by decide, by decide, ?_⟩
  unfold placementCovers
  decide

theorem not_drawn_of_gate {gates : List Gate} {g : Gate} (hm : g ∈ gates) {hasData encoding : Bool} {iw ih : Int}
    {win : VaxisModel.Model.Window.Win} (hf : gateFires hasData encoding iw ih win g = true) :
    drawnWith gates hasData encoding iw ih win = false := by
  unfold drawnWith
  rw [List.all_eq_false]
  exact ⟨g, hm, by simp [hf]⟩

/-- An image that does not fit is not drawn at all (both protocols): nothing is placed, so nothing is covered. -/
theorem too_large_not_drawn (p : Proto) (hasData encoding : Bool) (iw ih : Int) (win : VaxisModel.Model.Window.Win)
    (h : iw > win.width ∨ ih > win.height) : drawnWith p.gates hasData encoding iw ih win = false := by
  exact not_drawn_of_gate p.sizeTest_mem (by rw [gateFires_sizeTest]; exact decide_eq_true h)

/-- …and an image with data that is not being encoded, has cells and fits *is* drawn: the gates refuse nothing else. -/
theorem fitting_drawn (p : Proto) (iw ih : Int) (win : VaxisModel.Model.Window.Win)
    (h : placementInside iw ih win) (hz : iw ≠ 0 ∧ ih ≠ 0) : drawnWith p.gates true false iw ih win = true := by
  obtain ⟨hw, hh⟩ := h
  obtain ⟨hz1, hz2⟩ := hz
  have a : ¬ (iw > win.width) := by omega
  have b : ¬ (ih > win.height) := by omega
  have hk : ∀ g ∈ p.gates, g = .noData ∨ g = .encoding ∨ g = sizeTest ∨ g = .zeroSize := by
    intro g hg
    apply draw_gates_shape.1 g
    cases p
    · exact List.mem_append_left _ hg
    · exact List.mem_append_right _ hg
  unfold drawnWith
  rw [List.all_eq_true]
  intro g hg
  rcases hk g hg with rfl | rfl | rfl | rfl <;> simp [gateFires, connBool, cmpInt, a, b, hz1, hz2]

/-- **Every encoding is transmitted exactly once**: over any history of completed `Resize`s and placement
    transmissions, what was sent plus what is still waiting in `k.buf` equals what was there plus the encodings
    produced. -/
theorem upload_conservation (k : KImg) (evs : List KEv) :
    (uploads k evs).sum + (finalK k evs).encs = k.encs + okResizes evs := uploads_conserve evs k

/-- **Not retransmitted while unchanged**: once the image data has been sent, further transmissions of its
    placements (moves, refreshes, new windows) carry no image data until the next successful `Resize`. -/
theorem no_reupload_while_unchanged (k : KImg) (evs : List KEv) (h : ∀ e ∈ evs, e ≠ KEv.resize true) :
    ∀ n ∈ uploads (k.write).1 evs, n = 0 :=
  uploads_quiet evs (k.write).1 (by unfold KImg.write; split <;> simp_all) h

/-- **Transmitted when it first appears or changes**: the first placement transmission after a successful
    `Resize` carries the new encoding (together with any older encodings never sent: the buffer accumulates). -/
theorem upload_after_resize (k : KImg) : ((k.resize true).write).2 = k.encs + 1 := by
  simp [KImg.resize, KImg.write]

example : uploads {} [.resize true, .write, .write, .resize true, .resize true, .write, .resize false, .write] = [1, 0, 2, 0] := by
  decide

/-! The regenerated source facts the models are interpreted from.

`cell_pixel_size_shape`, `resize_shape` and `render_shape` are about structured data in `Gen.ImageConsts`, which the
models interpret; `facts_kitty_formats` is about the format strings in `Gen.ImageFlow`, compared as text.  A change to
the source in any of these places breaks the corresponding theorem (and the check then looks for a failing input). -/

/-- **`cellPixelSize` as regenerated** (structured, interpreted by `termCellWith`): both axes start at 1 and take the
    truncating quotient `pix / cells` when `cells > 0 && pix/cells > 0`; so the interpreted model is the closed form
    `termCell` about which `term_cell_pos` / `term_cell_exact` speak. -/
theorem cell_pixel_size_shape :
    cellPixelSizeW = some ⟨1, .gt, 0, .gt, 0⟩ ∧ cellPixelSizeH = some ⟨1, .gt, 0, .gt, 0⟩ ∧
    (∀ pix cells, termCellW pix cells = termCell pix cells) ∧ (∀ pix cells, termCellH pix cells = termCell pix cells) :=
  ⟨cellPixelSize_shape.1, cellPixelSize_shape.2, termCellW_eq, termCellH_eq⟩

/-- **The cell-size arithmetic of both `Resize` methods as regenerated** (structured, interpreted by
    `protoCellSizeWith`): the geometry is `cellPixelSize`'s and is what `resizeImage` gets, the cell size is the quotient
    plus one on a remainder in both directions — for `KittyImage.Resize` and, separately, for the copy of that code in
    `Sixel.Resize`'s goroutine.  So the interpreted models of both are `protoCellSizeTerm`, about which `no_panic_term`,
    `fit_term` and `cell_size_exact_proto` speak: a dropped `+= 1` in either copy breaks this. -/
theorem resize_shape :
    kittyResize = ⟨true, true, true, true, true⟩ ∧ sixelResize = ⟨true, true, true, true, true⟩ ∧
    (∀ F wPix hPix w h xpix cols ypix rows,
      kittyCellSizeTerm F wPix hPix w h xpix cols ypix rows = protoCellSizeTerm F wPix hPix w h xpix cols ypix rows) ∧
    (∀ F wPix hPix w h xpix cols ypix rows,
      sixelCellSizeTerm F wPix hPix w h xpix cols ypix rows = protoCellSizeTerm F wPix hPix w h xpix cols ypix rows) :=
  ⟨resizeShape_std.1, resizeShape_std.2, kittyCellSizeTerm_eq, sixelCellSizeTerm_eq⟩

open VaxisModel.Gen VaxisModel.Lemmas in
/-- The format strings of the kitty graphics commands (`a=p` placement with image and placement id, `a=d,d=i` delete of
    one placement, `f=100` PNG transmission in chunks, `a=d,d=I` image delete) are the ones the harness's parser
    recognises — data, compared as text.  (The upload closure, the upload side of `Resize` and the block `Draw`
    loops are structured and interpreted: `Props.C20Term.kitty_*_body_eq_model`, `block_draw_body_eq_model`.) -/
theorem facts_kitty_formats : ImageFlow.kittyFormats = ImageFlowExpected.kittyFormats := by decide +kernel

/-- **The placement loops of `render` as regenerated** (statement skeleton, interpreted by `Model.Placements.renderShaped`):
    every statement is there and nothing else is — delete-and-continue on refresh, skip when a same placement follows,
    delete; empty the last list on refresh; skip when a same placement was there, move the cursor and write;
    `last = next` — and `Window.Clear` assigns a fresh empty next-frame list (`Gen.clearPlacements`, from
    window.go) — so the interpreted step the driver runs is the `step` about which `placement_diff` speaks. -/
theorem render_shape :
    renderShape = ⟨true, true, true, true, true, true, true, []⟩ ∧ clearPlacements = .fresh ∧
    ∀ s op, VaxisModel.Model.Placements.stepGen s op = VaxisModel.Model.Placements.step s op := by
  have h := VaxisModel.Lemmas.Placements.renderShape_std
  have hc : clearPlacements = .fresh := by decide
  refine ⟨h, hc, ?_⟩
  intro s op
  unfold VaxisModel.Model.Placements.stepGen VaxisModel.Model.Placements.step
  cases op with
  | clear => simp only [hc, VaxisModel.Model.Placements.clearWith, VaxisModel.Model.Placements.stepWith]
  | draw p => simp only [h]; exact VaxisModel.Lemmas.Placements.stepShaped_std _ s _
  | render => simp only [h]; exact VaxisModel.Lemmas.Placements.stepShaped_std _ s _
  | refresh => simp only [h]; exact VaxisModel.Lemmas.Placements.stepShaped_std _ s _

end VaxisModel.Props.C20Ext
