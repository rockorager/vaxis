/-
C20: fit / no-upscale / aspect without the hypothesis `Sound`, for every image and box below 2²⁶ in each
dimension — from the standard model of floating-point arithmetic (`Lemmas.FloatStd.StdModel`: each float operation
within relative error 2⁻⁵³ of its exact result, a function of that result; integers below 2⁵³ convert exactly), by
exact integer reasoning.  Outside that range the hypothesis `Sound` of `Props.C20` remains.
-/
import VaxisModel.Props.C20
import VaxisModel.Lemmas.FloatStd

namespace VaxisModel.Props.C20Float
open VaxisModel.Model.ImageFit VaxisModel.Spec.Images VaxisModel.Lemmas.FloatStd

/-- **The error hypothesis derived, in range.**  For every float step meeting the standard model: while
    `2·a·x < 2⁵³` the truncated product `int((a/b)·x)` is `⌊a·x/b⌋` or — only possible when `a·x/b` is an integer —
    one less (`Sound`'s two inequalities), and while `2·a·d, 2·c·b < 2⁵³ − 1` comparing `a/b` with `c/d` in floating
    point gives the exact answer. -/
theorem sound_in_range (F : FloatOps) (hS : StdModel F) :
    (∀ a b x, 0 < b → 2 * (a * x) < Em + 1 → F.scale a b x * b ≤ a * x ∧ a * x ≤ (F.scale a b x + 1) * b) ∧
    (∀ a b c d, 0 < b → 0 < d → 2 * (a * d) < Em → 2 * (c * b) < Em → F.cmp a b c d = ratCmp a b c d) :=
  ⟨scale_in_range F hS, cmp_in_range F hS⟩

/-- …so the float step clamped to the exact operations outside the range meets `Sound` outright, and the exact
    operations themselves meet the standard model (non-vacuity). -/
theorem sound_of_std_model (F : FloatOps) (hS : StdModel F) : Sound (clampOps F) ∧ StdModel exactOps :=
  ⟨clamp_sound F hS, exactOps_std⟩

/-- **Fit, no upscale, aspect — no float hypothesis below 2²⁶.**  For every float step meeting the standard model,
    every image `1 ≤ wPix, hPix < 2²⁶`, every box `w, h < 2²⁶`, every positive cell geometry: the result of
    `resizeImage` occupies at most `w × h` cells, is not larger than the source, and keeps the aspect ratio to within
    one pixel. -/
theorem fit_no_upscale_aspect_std (F : FloatOps) (hS : StdModel F) (wPix hPix w h cellW cellH pw ph : Nat)
    (hw : 0 < wPix) (hh : 0 < hPix) (hcw : 0 < cellW) (hch : 0 < cellH)
    (h1 : wPix < dimBound) (h2 : hPix < dimBound) (h3 : w < dimBound) (h4 : h < dimBound)
    (hr : resizeDims F wPix hPix w h cellW cellH = .ok (pw, ph)) :
    FitsBox pw ph w h cellW cellH ∧ NoUpscale pw ph wPix hPix ∧ AspectKept pw ph wPix hPix := by
  have hr' : resizeDimsWith genCfg (clampOps F) wPix hPix w h cellW cellH = .ok (pw, ph) := by
    rw [resizeDims_clamp genCfg F wPix hPix w h cellW cellH hw hh h1 h2 h3 h4]; exact hr
  have hs := clamp_sound F hS
  exact ⟨C20.fit _ hs wPix hPix w h cellW cellH pw ph hw hh hcw hch hr',
         C20.no_upscale _ hs wPix hPix w h cellW cellH pw ph hw hh hcw hch hr',
         C20.aspect _ hs wPix hPix w h cellW cellH pw ph hw hh hcw hch hr'⟩

/-- Non-vacuity: the F51 case with the exact operations (which meet the standard model). -/
example : resizeDims exactOps 64 128 4 4 8 16 = .ok (32, 64) ∧ StdModel exactOps := ⟨rfl, exactOps_std⟩

end VaxisModel.Props.C20Float
