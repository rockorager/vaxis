/-
C20: (1) source images of other concrete types through the scaler — the generic slow path
`scale_RGBA_Image_{Over,Src}` and the Gray fast path of golang.org/x/image/draw — and (2) the transparency decision
composed with the per-channel bound into ONE statement about the colours of every cell of a (possibly rescaled,
possibly translucent) half-block or full-block image.
-/
import VaxisModel.Props.C20Pixels

namespace VaxisModel.Props.C20Generic
open VaxisModel.Model.Blocks VaxisModel.Model.Scaler VaxisModel.Model.ImageFit VaxisModel.Spec.Images
open VaxisModel.Gen.ImageConsts VaxisModel.Lemmas.Scaler VaxisModel.Props.C20Pixels
open VaxisModel.Lemmas.ScalerGeneric VaxisModel.Lemmas.ImageTerm
open VaxisModel.Lemmas.ImageFit (fullCell_eq)

/-- The hypothesis under which a source of ANOTHER concrete type is covered by the pipeline theorems: seen through
    `At(x, y).RGBA()` (`px`) it is pixel for pixel the stored image `img` (an `*image.NRGBA` / `*image.RGBA`).
    True of `*image.Gray` with `img` = the pixels `(Y, Y, Y, 255)` (`gray_same_as_nrgba`) and of `*image.Paletted`
    with 8-bit `color.NRGBA` / `color.RGBA` palette entries with `img` = the looked-up entries; checked on the real
    code by the streams `halfg | fullg | halfq | fullq`. -/
def SameAs (px : Nat → Nat → C16) (img : Img8) : Prop :=
  ∀ x y, x < img.w → y < img.h → px x y = conv img.kind (img.pix x y)

/-- **The generic path on such a source stores the bytes the fast path stores for `img`**, for either operator: every
    pixel of the scaled image is the same, so every statement of `Props.C20Pixels` about `resizeImg img` — index under
    the cell, opaque exact, alpha kept, the transparency table — is a statement about the rescaled source. -/
theorem generic_path_eq_fast_path (over : Bool) (px : Nat → Nat → C16) (img : Img8) (h : SameAs px img)
    (hw : 0 < img.w) (hh : 0 < img.h) (dw dh dx dy : Nat) (hx : dx < dw) (hy : dy < dh) :
    scaledPxGeneric over px img.w img.h dw dh dx dy = scaledPx over img dw dh dx dy := by
  unfold scaledPxGeneric scaledPx
  rw [h _ _ (nnIndex_lt dx img.w dw hx hw) (nnIndex_lt dy img.h dh hy hh), fast_path_reads_rgba]

/-- `color.Gray{Y}.RGBA()` is `color.NRGBA{Y, Y, Y, 255}.RGBA()`: an `*image.Gray` meets `SameAs` with that image. -/
theorem gray_same_as_nrgba (y : Nat) : C16.ofQuad (grayRGBA y) = conv .nrgba ⟨y, y, y, 255⟩ := by
  simp only [grayRGBA, conv, C16.ofQuad, nrgbaRGBA, C16.mk.injEq]
  refine ⟨?_, ?_, ?_, by decide⟩ <;> omega

/-- Non-vacuity of `SameAs`: an `*image.Gray` with luminances `ys` meets it with the NRGBA image of the pixels `(Y, Y, Y, 255)`. -/
example (ys : Nat → Nat → Nat) (img : Img8) (hk : img.kind = .nrgba) (h : ∀ x y, img.pix x y = ⟨ys x y, ys x y, ys x y, 255⟩) :
    SameAs (fun x y => .ofQuad (grayRGBA (ys x y))) img := fun x y _ _ => by rw [hk, h]; exact gray_same_as_nrgba _

/-- The Gray fast path `scale_RGBA_Gray_Src` stores what the generic `Src` path stores for that colour — the grey level
    itself in all three channels, alpha `0xff`. -/
theorem gray_fast_path (y : Nat) (hy : y < 256) :
    grayStore y = storeSrc (.ofQuad (grayRGBA y)) ∧ grayStore y = ⟨y, y, y, 255⟩ := by
  have h1 : y * 257 / 256 = y := by omega
  simp only [grayStore, storeSrc, C16.ofQuad, grayRGBA, u8, P8.mk.injEq, h1]
  have h2 : y % 256 = y := Nat.mod_eq_of_lt hy
  simp [h2]

/-- **The YCbCr fast paths are the generic path too**: per channel, the inlined conversion of `scale_RGBA_YCbCr4xx_Src`
    (shift, clamp to 16 bits, keep the high byte) stores what the generic `Src` path stores for `color.YCbCr.RGBA()`'s
    channel — for every 24-bit fixed-point value, negative and overflowing ones included. -/
theorem ycbcr_fast_path (v : Int) : ycbcrStoreChan v = u8 (ycbcrClamp v / 256) := by
  unfold ycbcrStoreChan ycbcrClamp
  simp only
  by_cases h1 : v < 0
  · have : v / 256 < 0 := by omega
    simp [h1, this]
  · by_cases h2 : v < 16777216
    · have a1 : ¬ v / 256 < 0 := by omega
      have a2 : ¬ v / 256 > 0xffff := by omega
      simp only [h1, h2, a1, a2, if_false, if_true]
      congr 1
      omega
    · have a1 : ¬ v / 256 < 0 := by omega
      have a2 : v / 256 > 0xffff := by omega
      simp only [h1, h2, a1, a2, if_false, if_true]
      rfl

/-- The whole pixel: what `scale_RGBA_YCbCr4xx_Src` stores for `(Y, Cb, Cr)` is what the generic `Src` path stores for
    `color.YCbCr{Y, Cb, Cr}.RGBA()` (`Spec.Images.ycbcrRGBA`) — the chroma sample is whichever the subsampling ratio
    selects, in both. -/
theorem ycbcr_pixel_fast_path (y cb cr : Nat) :
    (⟨ycbcrStoreChan ((y : Int) * 65793 + 91881 * ((cr : Int) - 128)),
      ycbcrStoreChan ((y : Int) * 65793 - 22554 * ((cb : Int) - 128) - 46802 * ((cr : Int) - 128)),
      ycbcrStoreChan ((y : Int) * 65793 + 116130 * ((cb : Int) - 128)), 0xff⟩ : P8) =
      storeSrc (.ofQuad (ycbcrRGBA y cb cr)) := by
  simp only [storeSrc, C16.ofQuad, ycbcrRGBA, ycbcr_fast_path]
  rfl

/-- An opaque pixel of any source type through the scaler and back to the renderer: `toRGB` of the stored bytes is
    exactly the high byte of each 16-bit channel `At(x, y).RGBA()` returned, alpha 255. -/
theorem generic_scaled_opaque_pixel (c : C16) (ha : c.a = 0xffff) (hr : c.r < 65536) (hg : c.g < 65536) (hb : c.b < 65536) :
    toRGB (conv .rgba (storeSrc c)) = ⟨c.r / 256, c.g / 256, c.b / 256, 255⟩ := by
  have e : storeSrc c = ⟨c.r / 256, c.g / 256, c.b / 256, 255⟩ := by
    simp only [storeSrc, u8, ha, P8.mk.injEq]
    refine ⟨?_, ?_, ?_, by decide⟩ <;> omega
  rw [e]
  exact C20.opaque_exact_rgba (c.r / 256) (c.g / 256) (c.b / 256) (by omega) (by omega) (by omega)

/-- **The generic pipeline contains the verified one**: `resizeImage` modelled for a source of any type
    (`resizeImgG`: what `At().RGBA()` returns per pixel, the scaler's generic path), applied to a stored NRGBA / RGBA
    image seen that way, gives exactly what the block renderers read from the fast-path model `resizeImg` — so the
    driver's model for `*image.YCbCr` sources is the model of the pipeline theorems, instantiated at another conversion. -/
theorem generic_model_contains_fast_model (F : FloatOps) (src : Img8) (w h cellW cellH : Nat) :
    resizeImgG F src.generic src.opaque w h cellW cellH = (resizeImg F src w h cellW cellH).map Img8.view :=
  resizeImgG_generic F src w h cellW cellH

/-- **`HalfBlockImage.Resize` on a source of ANY concrete type** (given by what its `At(x, y).RGBA()` returns — an
    `*image.YCbCr` from a JPEG, `*image.Gray`, `*image.Paletted`, 16-bit types — any alpha, any float step): there is
    one way `seen` every source pixel is seen — as it is (the image fitted) or through the scaler's 8-bit storage and
    back (`RGBA()` of the stored high bytes) — and the cell at column `x`, row `y` is decided by `T`, `B` = `toRGB` of
    the seen source pixels `(nnIndex x, nnIndex 2y)`, `(nnIndex x, nnIndex (2y+1))` under it (lower half transparent in
    a last odd row) by the property's table: both alphas below 50 ⇒ default cell; only the top ⇒ `▄` in the bottom
    colour; only the bottom ⇒ `▀` in the top colour; neither ⇒ `▀` top on bottom. -/
theorem half_pipeline_any_source (F : FloatOps) (src : ImgG) (o : Bool) (w h : Nat) (hw : 0 < src.w) (hh : 0 < src.h)
    (v : Img) (hr : resizeImgG F src o w h halfBlockGeom.1 halfBlockGeom.2 = .ok v) :
    resizeDims F src.w src.h w h halfBlockGeom.1 halfBlockGeom.2 = .ok (v.w, v.h) ∧
    ∃ seen : C16 → C16, (seen = id ∨ seen = fun c => conv .rgba (storeSrc c)) ∧
      ∀ e ∈ halfCellsGen v, e.1 < v.w ∧ e.2.1 < ceilDiv v.h 2 ∧
        let T := toRGB (seen (src.pix (nnIndex e.1 src.w v.w) (nnIndex (2 * e.2.1) src.h v.h)))
        let B := if 2 * e.2.1 + 1 < v.h then toRGB (seen (src.pix (nnIndex e.1 src.w v.w) (nnIndex (2 * e.2.1 + 1) src.h v.h)))
                 else (⟨0, 0, 0, 0⟩ : C8)
        e.2.2 = (if T.a < 50 ∧ B.a < 50 then ⟨0x20, 0, 0⟩
                 else if T.a < 50 then ⟨0x2584, rgbColor B.r B.g B.b, 0⟩
                 else if B.a < 50 then ⟨0x2580, rgbColor T.r T.g T.b, 0⟩
                 else ⟨0x2580, rgbColor T.r T.g T.b, rgbColor B.r B.g B.b⟩) := by
  obtain ⟨hd, _, seen, hs, hc⟩ := half_cells F src o w h hw hh v hr
  refine ⟨hd, seen, hs, fun e he => ?_⟩
  obtain ⟨h1, h2, _, h3⟩ := hc e (half_block_bottom_shape.2 v ▸ he)
  refine ⟨h1, h2, ?_⟩
  rw [h3, halfCell, C20.transparent_default, apply_ite toRGB]
  rfl

theorem shown_of_seen {seen : C16 → C16} (hs : Seen seen) :
    ∃ shown : C16 → C8, (shown = toRGB ∨ shown = fun c => ⟨c.r / 256, c.g / 256, c.b / 256, 255⟩) ∧
      ∀ c : C16, c.a = 0xffff → c.r < 65536 → c.g < 65536 → c.b < 65536 → toRGB (seen c) = shown c ∧ (shown c).a = 255 := by
  rcases hs with rfl | rfl
  · exact ⟨toRGB, Or.inl rfl, fun c ha _ _ _ => ⟨rfl, Lemmas.ImageFit.toRGB_alpha c 255 ha (by decide)⟩⟩
  · exact ⟨_, Or.inr rfl, fun c ha hr hg hb => ⟨generic_scaled_opaque_pixel c ha hr hg hb, rfl⟩⟩

/-- For an opaque source of any type — every decoded JPEG — this is exact: every cell is `▀` whose foreground /
    background are exactly the 8-bit colours the two source pixels under it have where they are read: `toRGB` of the
    16-bit colour when the image fitted, its high bytes after scaling (lower half default in a last odd row). -/
theorem half_pipeline_any_opaque_source (F : FloatOps) (src : ImgG) (o : Bool) (w h : Nat) (hw : 0 < src.w) (hh : 0 < src.h)
    (hop : ∀ x y, x < src.w → y < src.h → (src.pix x y).a = 0xffff ∧ (src.pix x y).r < 65536 ∧ (src.pix x y).g < 65536 ∧ (src.pix x y).b < 65536)
    (v : Img) (hr : resizeImgG F src o w h halfBlockGeom.1 halfBlockGeom.2 = .ok v) :
    ∃ shown : C16 → C8, (shown = toRGB ∨ shown = fun c => ⟨c.r / 256, c.g / 256, c.b / 256, 255⟩) ∧
      ∀ e ∈ halfCellsGen v,
        let t := shown (src.pix (nnIndex e.1 src.w v.w) (nnIndex (2 * e.2.1) src.h v.h))
        let b := shown (src.pix (nnIndex e.1 src.w v.w) (nnIndex (2 * e.2.1 + 1) src.h v.h))
        e.2.2 = ⟨0x2580, rgbColor t.r t.g t.b, if 2 * e.2.1 + 1 < v.h then rgbColor b.r b.g b.b else 0⟩ := by
  obtain ⟨_, seen, hseen, hall⟩ := half_pipeline_any_source F src o w h hw hh v hr
  obtain ⟨shown, hshown, hsh⟩ := shown_of_seen hseen
  refine ⟨shown, hshown, fun e he => ?_⟩
  obtain ⟨h1, h2, h3⟩ := hall e he
  have hrow : 2 * e.2.1 < v.h := by unfold ceilDiv at h2; omega
  have hx := nnIndex_lt e.1 src.w v.w h1 hw
  obtain ⟨a1, a2, a3, a4⟩ := hop _ _ hx (nnIndex_lt (2 * e.2.1) src.h v.h hrow hh)
  obtain ⟨eT, aT⟩ := hsh _ a1 a2 a3 a4
  have n : ¬ 255 < 50 := by decide
  intro t b
  rw [h3]
  by_cases hbot : 2 * e.2.1 + 1 < v.h
  · obtain ⟨b1, b2, b3, b4⟩ := hop _ _ hx (nnIndex_lt (2 * e.2.1 + 1) src.h v.h hbot hh)
    obtain ⟨eB, aB⟩ := hsh _ b1 b2 b3 b4
    simp only [if_pos hbot, eT, eB, aT, aB, n, false_and, if_false]
    rfl
  · simp only [if_neg hbot, eT, aT, n, false_and, if_false]
    rfl

/-- **`FullBlockImage.Resize` on a source of any concrete type**: every cell is a space with default foreground whose
    background is the default colour exactly when the mean of the two alphas `toRGB` returns for the seen source pixels
    under it is below 50, and otherwise their channel-wise mean; in a last odd row the upper pixel alone (F220). -/
theorem full_pipeline_any_source (F : FloatOps) (src : ImgG) (o : Bool) (w h : Nat) (hw : 0 < src.w) (hh : 0 < src.h)
    (v : Img) (hr : resizeImgG F src o w h fullBlockGeom.1 fullBlockGeom.2 = .ok v) :
    resizeDims F src.w src.h w h fullBlockGeom.1 fullBlockGeom.2 = .ok (v.w, v.h) ∧
    ∃ seen : C16 → C16, (seen = id ∨ seen = fun c => conv .rgba (storeSrc c)) ∧
      ∀ e ∈ fullCells v, e.1 < v.w ∧ e.2.1 < ceilDiv v.h 2 ∧
        let T := toRGB (seen (src.pix (nnIndex e.1 src.w v.w) (nnIndex (2 * e.2.1) src.h v.h)))
        let B := if 2 * e.2.1 + 1 < v.h then toRGB (seen (src.pix (nnIndex e.1 src.w v.w) (nnIndex (2 * e.2.1 + 1) src.h v.h)))
                 else T
        e.2.2 = ⟨0x20, 0, if (B.a + T.a) / 2 % 256 < 50 then 0
                          else rgbColor ((B.r + T.r) / 2 % 256) ((B.g + T.g) / 2 % 256) ((B.b + T.b) / 2 % 256)⟩ := by
  obtain ⟨hd, _, seen, hs, hc⟩ := full_cells F src o w h hw hh v hr
  refine ⟨hd, seen, hs, fun e he => ?_⟩
  obtain ⟨h1, h2, _, h3⟩ := hc e he
  refine ⟨h1, h2, ?_⟩
  rw [h3, fullCell_eq, apply_ite toRGB]

/-- For an opaque source of any type the full-block cell is exact too: a space whose background is the channel-wise
    mean of the 8-bit colours the two source pixels under it have where they are read (the upper one alone in a last
    odd row). -/
theorem full_pipeline_any_opaque_source (F : FloatOps) (src : ImgG) (o : Bool) (w h : Nat) (hw : 0 < src.w) (hh : 0 < src.h)
    (hop : ∀ x y, x < src.w → y < src.h → (src.pix x y).a = 0xffff ∧ (src.pix x y).r < 65536 ∧ (src.pix x y).g < 65536 ∧ (src.pix x y).b < 65536)
    (v : Img) (hr : resizeImgG F src o w h fullBlockGeom.1 fullBlockGeom.2 = .ok v) :
    ∃ shown : C16 → C8, (shown = toRGB ∨ shown = fun c => ⟨c.r / 256, c.g / 256, c.b / 256, 255⟩) ∧
      ∀ e ∈ fullCells v,
        let t := shown (src.pix (nnIndex e.1 src.w v.w) (nnIndex (2 * e.2.1) src.h v.h))
        let b := if 2 * e.2.1 + 1 < v.h then shown (src.pix (nnIndex e.1 src.w v.w) (nnIndex (2 * e.2.1 + 1) src.h v.h)) else t
        e.2.2 = ⟨0x20, 0, rgbColor ((b.r + t.r) / 2 % 256) ((b.g + t.g) / 2 % 256) ((b.b + t.b) / 2 % 256)⟩ := by
  obtain ⟨_, seen, hseen, hall⟩ := full_pipeline_any_source F src o w h hw hh v hr
  obtain ⟨shown, hshown, hsh⟩ := shown_of_seen hseen
  refine ⟨shown, hshown, fun e he => ?_⟩
  obtain ⟨h1, h2, h3⟩ := hall e he
  have hrow : 2 * e.2.1 < v.h := by unfold ceilDiv at h2; omega
  have hx := nnIndex_lt e.1 src.w v.w h1 hw
  obtain ⟨a1, a2, a3, a4⟩ := hop _ _ hx (nnIndex_lt (2 * e.2.1) src.h v.h hrow hh)
  obtain ⟨eT, aT⟩ := hsh _ a1 a2 a3 a4
  have n : ¬ (255 + 255) / 2 % 256 < 50 := by decide
  intro t b
  rw [h3]
  by_cases hbot : 2 * e.2.1 + 1 < v.h
  · obtain ⟨b1, b2, b3, b4⟩ := hop _ _ hx (nnIndex_lt (2 * e.2.1 + 1) src.h v.h hbot hh)
    obtain ⟨eB, aB⟩ := hsh _ b1 b2 b3 b4
    simp only [if_pos hbot, eT, eB, aT, aB, n, if_false]
    simp only [b, t, if_pos hbot]
  · simp only [if_neg hbot, eT, aT, n, if_false]
    simp only [b, t, if_neg hbot]

/-- Non-vacuity: `color.YCbCr` pixels (mid grey, saturated extremes that clamp) meet the opacity hypothesis. -/
example :
    let px := [C16.ofQuad (ycbcrRGBA 200 128 128), .ofQuad (ycbcrRGBA 255 255 255), .ofQuad (ycbcrRGBA 0 0 0), .ofQuad (ycbcrRGBA 16 255 0)]
    px.all (fun c => c.a == 0xffff && decide (c.r < 65536) && decide (c.g < 65536) && decide (c.b < 65536)) = true ∧
    C16.ofQuad (ycbcrRGBA 200 128 128) = ⟨51400, 51400, 51400, 0xffff⟩ := by decide

/-- A colour `T` the renderer computed stands for the stored pixel `p`: the alpha is the pixel's alpha byte, and — when
    the pixel is not fully transparent — each channel is at most the pixel's and short of it by at most `255/a + 1`
    levels (`(c − t)·a ≤ 255 + a`): at most 5 of 255 for a visible pixel (`a ≥ 50`), exact for an opaque one up to 2. -/
def StandsFor (p : P8) (T : C8) : Prop :=
  T.a = p.a ∧ (0 < p.a →
    (T.r ≤ p.r ∧ (p.r - T.r) * p.a ≤ 255 + p.a) ∧ (T.g ≤ p.g ∧ (p.g - T.g) * p.a ≤ 255 + p.a) ∧
    (T.b ≤ p.b ∧ (p.b - T.b) * p.a ≤ 255 + p.a))

def Bytes (src : Img8) : Prop :=
  ∀ x y, x < src.w → y < src.h →
    (src.pix x y).r < 256 ∧ (src.pix x y).g < 256 ∧ (src.pix x y).b < 256 ∧ (src.pix x y).a < 256

/-- What the renderer computes for a stored straight-alpha pixel stands for it, whether it is seen as it is (`c` or
    `c − 1`: `translucent_within_one`) or through the scaler's 8-bit premultiplied store (`translucent_scaled`). -/
theorem seen_stands_for {seen : C16 → C16} (hs : Seen seen) (p : P8)
    (br : p.r < 256) (bg : p.g < 256) (bb : p.b < 256) (ba : p.a < 256) :
    StandsFor p (toRGB (seen (conv .nrgba p))) := by
  refine ⟨seen_alpha hs .nrgba p ba, fun ha0 => ?_⟩
  rcases hs with rfl | rfl
  · obtain ⟨⟨r1, r2⟩, ⟨g1, g2⟩, ⟨b1, b2⟩⟩ := C20.translucent_within_one_nrgba _ _ _ _ br bg bb ba ha0
    have hm : ∀ c t : Nat, t ≤ c → c ≤ t + 1 → (c - t) * p.a ≤ 255 + p.a := fun c t h1 h2 =>
      Nat.le_trans (Nat.mul_le_mul_right p.a (show c - t ≤ 1 by omega)) (by omega)
    exact ⟨⟨r1, hm _ _ r1 r2⟩, ⟨g1, hm _ _ g1 g2⟩, ⟨b1, hm _ _ b1 b2⟩⟩
  · show _ ∧ _ ∧ _
    rw [← fast_path_reads_rgba]
    obtain ⟨cr, cg, cb, _⟩ := scaled_channels p
    rw [cr, cg, cb]
    have tr := translucent_scaled _ _ br ba ha0
    have tg := translucent_scaled _ _ bg ba ha0
    have tb := translucent_scaled _ _ bb ba ha0
    exact ⟨⟨tr.2.1, tr.2.2⟩, ⟨tg.2.1, tg.2.2⟩, ⟨tb.2.1, tb.2.2⟩⟩

/-- **The colours of every half-block cell, translucent pixels included, through the whole pipeline** (any stored
    `*image.NRGBA`, any float step, scaled or not): the cell at column `x`, row `y` is decided by the alpha bytes of the
    two source pixels `pt = (nnIndex x, nnIndex 2y)`, `pb = (nnIndex x, nnIndex (2y+1))` under it against 50 exactly as
    the property says, AND the colours it shows stand for those pixels: same alpha, each channel at most the pixel's and
    short of it by at most `255/a + 1` levels (`StandsFor`); in a last odd row the lower half is transparent (`B.a = 0`).
    This composes `half_pipeline_transparency` (decision) with `translucent_scaled` / `translucent_within_one` (channels). -/
theorem half_pipeline_translucent (F : FloatOps) (src : Img8) (w h : Nat) (hw : 0 < src.w) (hh : 0 < src.h)
    (hk : src.kind = .nrgba) (hb : Bytes src) (cs : List (Nat × Nat × BCell)) (hr : halfResize F src w h = .ok cs) :
    ∃ pw ph, resizeDims F src.w src.h w h halfBlockGeom.1 halfBlockGeom.2 = .ok (pw, ph) ∧
      ∀ e ∈ cs, e.1 < pw ∧ e.2.1 < ceilDiv ph 2 ∧
        ∃ T B : C8,
          StandsFor (src.pix (nnIndex e.1 src.w pw) (nnIndex (2 * e.2.1) src.h ph)) T ∧
          (if 2 * e.2.1 + 1 < ph then StandsFor (src.pix (nnIndex e.1 src.w pw) (nnIndex (2 * e.2.1 + 1) src.h ph)) B
           else B.a = 0) ∧
          e.2.2 = (if T.a < 50 ∧ B.a < 50 then ⟨0x20, 0, 0⟩
                   else if T.a < 50 then ⟨0x2584, rgbColor B.r B.g B.b, 0⟩
                   else if B.a < 50 then ⟨0x2580, rgbColor T.r T.g T.b, 0⟩
                   else ⟨0x2580, rgbColor T.r T.g T.b, rgbColor B.r B.g B.b⟩) := by
  obtain ⟨v, hd, _, seen, hs, hc⟩ := half_cells_stored hw hh hr
  refine ⟨v.w, v.h, hd, fun e he => ?_⟩
  obtain ⟨h1, h2, hrow, h3⟩ := hc e he
  rw [hk] at h3
  have ha := fun y (hy : y < v.h) =>
    let ⟨br, bg, bb, ba⟩ := hb _ _ (nnIndex_lt e.1 src.w v.w h1 hw) (nnIndex_lt y src.h v.h hy hh)
    seen_stands_for hs _ br bg bb ba
  refine ⟨h1, h2, _, _, ha _ hrow, ?_, h3.trans (C20.transparent_default _ _)⟩
  split
  · next hbot => exact ha _ hbot
  · rfl


/-- **The colours of every full-block cell, translucent pixels included, through the whole pipeline** (any stored
    `*image.NRGBA`, any float step, scaled or not): a space with default foreground whose background is the default
    colour exactly when the mean of the two alpha bytes is below 50 and otherwise the channel-wise mean of two colours
    `T`, `B` that stand for the two source pixels `(nnIndex x, nnIndex 2y)`, `(nnIndex x, nnIndex (2y+1))` under the
    cell (`StandsFor`: same alpha, each channel short by at most `255/a + 1` levels); in a last odd row `B = T`, the
    upper pixel alone (F220). -/
theorem full_pipeline_translucent (F : FloatOps) (src : Img8) (w h : Nat) (hw : 0 < src.w) (hh : 0 < src.h)
    (hk : src.kind = .nrgba) (hb : Bytes src) (cs : List (Nat × Nat × BCell)) (hr : fullResize F src w h = .ok cs) :
    ∃ pw ph, resizeDims F src.w src.h w h fullBlockGeom.1 fullBlockGeom.2 = .ok (pw, ph) ∧
      ∀ e ∈ cs, e.1 < pw ∧ e.2.1 < ceilDiv ph 2 ∧
        ∃ T B : C8,
          StandsFor (src.pix (nnIndex e.1 src.w pw) (nnIndex (2 * e.2.1) src.h ph)) T ∧
          (if 2 * e.2.1 + 1 < ph then StandsFor (src.pix (nnIndex e.1 src.w pw) (nnIndex (2 * e.2.1 + 1) src.h ph)) B
           else B = T) ∧
          e.2.2 = ⟨0x20, 0, if (B.a + T.a) / 2 % 256 < 50 then 0
                            else rgbColor ((B.r + T.r) / 2 % 256) ((B.g + T.g) / 2 % 256) ((B.b + T.b) / 2 % 256)⟩ := by
  obtain ⟨v, hd, _, seen, hs, hc⟩ := full_cells_stored hw hh hr
  refine ⟨v.w, v.h, hd, fun e he => ?_⟩
  obtain ⟨h1, h2, hrow, h3⟩ := hc e he
  rw [hk] at h3
  have ha := fun y (hy : y < v.h) =>
    let ⟨br, bg, bb, ba⟩ := hb _ _ (nnIndex_lt e.1 src.w v.w h1 hw) (nnIndex_lt y src.h v.h hy hh)
    seen_stands_for hs _ br bg bb ba
  refine ⟨h1, h2, _, _, ha _ hrow, ?_, h3.trans ((fullCell_eq _ _).trans (by rw [apply_ite toRGB]))⟩
  split
  · next hbot => exact ha _ hbot
  · rfl


/-- Non-vacuity: a 2×4 image with translucent pixels meets the hypotheses `Bytes` and `src.kind = .nrgba`. -/
example :
    let src : Img8 := ⟨.nrgba, 2, 4, #[⟨200, 100, 50, 128⟩, ⟨1, 2, 3, 60⟩, ⟨9, 9, 9, 10⟩, ⟨0, 0, 0, 0⟩,
                                       ⟨255, 255, 255, 255⟩, ⟨7, 7, 7, 49⟩, ⟨8, 8, 8, 50⟩, ⟨3, 3, 3, 200⟩]⟩
    Bytes src ∧ src.kind = .nrgba := by
  refine ⟨?_, rfl⟩
  intro x y hx hy
  have hx' : x < 2 := hx
  have hy' : y < 4 := hy
  have : x = 0 ∨ x = 1 := by omega
  have : y = 0 ∨ y = 1 ∨ y = 2 ∨ y = 3 := by omega
  rcases ‹x = 0 ∨ x = 1› with rfl | rfl <;> rcases ‹y = 0 ∨ y = 1 ∨ y = 2 ∨ y = 3› with rfl | rfl | rfl | rfl <;> decide

end VaxisModel.Props.C20Generic
