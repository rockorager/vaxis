/-
C20: the nearest-neighbour scaler inside the model.  `Model/Scaler.lean` transcribes the index choice and
the pixel arithmetic of `draw.NearestNeighbor.Scale`'s fast paths for `*image.NRGBA` / `*image.RGBA` sources; here the
hypothesis `ScalerPicks` of `C20Ext.resized_opaque_half` becomes a theorem, and the whole path stored image →
`resizeImage` → cell list is characterised: exactly for opaque images, and for every image in what decides
transparency (the source pixel's alpha byte); translucent channels come back within `255/a + 1`.
-/
import VaxisModel.Props.C20Ext
import VaxisModel.Lemmas.ScalerGeneric

namespace VaxisModel.Props.C20Pixels
open VaxisModel.Model.ImageFit VaxisModel.Model.Blocks VaxisModel.Model.Scaler VaxisModel.Spec.Images
open VaxisModel.Gen.ImageConsts VaxisModel.Lemmas.Scaler VaxisModel.Lemmas.ImageFit VaxisModel.Lemmas.ImageTerm
open VaxisModel.Props.C20Ext VaxisModel.Lemmas.ScalerGeneric

/-- Source pixel `q` (one of `s`) overlaps the part of the source that destination pixel `d` (one of `dn`) covers:
    the intervals `[q, q+1)` and `(d·s/dn, (d+1)·s/dn)` intersect (cross-multiplied). -/
def Overlaps (d s dn q : Nat) : Prop := q * dn < (d + 1) * s ∧ d * s < (q + 1) * dn

/-- **The scaler reads inside the source, under the destination pixel.**  For every destination index `d < dn` and
    every source extent `s > 0`: the index `(2d+1)·s / (2·dn)` is `< s` (the fast paths index `Pix` without a bounds
    check: no out-of-range read, no panic) and the pixel it names overlaps the area `d` covers. -/
theorem nn_index_in_source (d s dn : Nat) (hd : d < dn) (hs : 0 < s) :
    nnIndex d s dn < s ∧ Overlaps d s dn (nnIndex d s dn) :=
  ⟨nnIndex_lt d s dn hd hs, nnIndex_overlaps d s dn (by omega) hs⟩

/-- Unscaled (`s` pixels to `s` pixels) the choice is the identity, and it is monotone: rows and columns are never
    reordered. -/
theorem nn_index_identity_monotone (s : Nat) (hs : 0 < s) :
    (∀ d, nnIndex d s s = d) ∧ ∀ d d' dn, d ≤ d' → nnIndex d s dn ≤ nnIndex d' s dn :=
  ⟨fun d => nnIndex_same d s hs, fun d d' dn h => nnIndex_mono d d' s dn h⟩

/-- `Scale` switches `draw.Over` to `draw.Src` when `opaque(src)`; on the all-zero destination `resizeImage`
    allocates the two paths store the same bytes for every source pixel, so the switch does not matter. -/
theorem over_on_fresh_is_src (src : Img8) (dw dh dx dy : Nat) :
    scaledPx true src dw dh dx dy = scaledPx false src dw dh dx dy := by
  rw [scaledPx_eq, scaledPx_eq]

/-- Every stored pixel is opaque (`a = 0xff`; the channels are bytes). -/
def OpaqueSrc (src : Img8) : Prop := ∀ x y, x < src.w → y < src.h →
  (src.pix x y).a = 255 ∧ (src.pix x y).r < 256 ∧ (src.pix x y).g < 256 ∧ (src.pix x y).b < 256

/-- The direct colour `0x02RRGGBB` of a stored opaque pixel. -/
def shown (p : P8) : Nat := directColor p.r p.g p.b

/-- **Scaled opaque image, pixel by pixel**: destination pixel `(x, y)` holds exactly the bytes of source pixel
    `(nnIndex x, nnIndex y)` — for both source types, both compositing operators, every destination size. -/
theorem scaled_opaque_pixel (over : Bool) (src : Img8) (hop : OpaqueSrc src) (hw : 0 < src.w) (hh : 0 < src.h)
    (dw dh x y : Nat) (hx : x < dw) (hy : y < dh) :
    (scale over src dw dh).pix x y = src.pix (nnIndex x src.w dw) (nnIndex y src.h dh) := by
  rw [scale_pix over src dw dh x y hx hy, scaledPx_eq]
  obtain ⟨ha, hr, hg, hb⟩ := hop _ _ (nnIndex_lt x src.w dw hx hw) (nnIndex_lt y src.h dh hy hh)
  exact roundtrip_opaque _ _ ha hr hg hb

/-- **`ScalerPicks` is a theorem** for opaque sources: the hypothesis on the scaler holds of the model of the scaler
    (so `C20Ext.resized_opaque_half` applies without hypothesis). -/
theorem scaler_picks_opaque (over : Bool) (src : Img8) (hop : OpaqueSrc src) (hw : 0 < src.w) (hh : 0 < src.h)
    (pw ph : Nat) : ScalerPicks src.view (scale over src pw ph).view pw ph := by
  refine ⟨rfl, rfl, ?_⟩
  intro x y hx hy
  have h1 := nnIndex_lt x src.w pw hx hw
  have h2 := nnIndex_lt y src.h ph hy hh
  refine ⟨nnIndex x src.w pw, nnIndex y src.h ph, h1, h2, ?_⟩
  have hp := scaled_opaque_pixel over src hop hw hh pw ph x y hx hy
  have ha := (hop _ _ h1 h2).1
  rw [view_opaque (scale over src pw ph) x y hx hy (by rw [hp]; exact ha), hp, view_opaque src _ _ h1 h2 ha]

theorem seen_opaque_src {seen : C16 → C16} (hs : Seen seen) (src : Img8)
    (hop : OpaqueSrc src) (x y : Nat) (hx : x < src.w) (hy : y < src.h) :
    seen (conv src.kind (src.pix x y)) = .ofQuad (nrgbaRGBA (src.pix x y).r (src.pix x y).g (src.pix x y).b 255) ∧
      (src.pix x y).r < 256 ∧ (src.pix x y).g < 256 ∧ (src.pix x y).b < 256 :=
  let ⟨ha, hr, hg, hb⟩ := hop x y hx hy
  ⟨seen_opaque hs src.kind _ ha hr hg hb, hr, hg, hb⟩

/-- **Half-block rendering of an opaque image, the whole pipeline** (`HalfBlockImage.Resize(w, h)` on the stored
    image: fit test, float steps `F` — any —, nearest-neighbour scaling, pixel pairs → cells).  The pixel size is what
    `resizeDims` says; there are `pw·⌈ph/2⌉` cells; the cell at column `x`, row `y` is the upper half block `▀` whose
    foreground is *exactly* the colour of the source pixel `(nnIndex x, nnIndex (2y))` and whose background is
    exactly the colour of `(nnIndex x, nnIndex (2y+1))` — both inside the source and under the cell's area — or the
    default colour in the last row of an odd pixel height, where the cell covers no lower pixel. -/
theorem half_pipeline_opaque (F : FloatOps) (src : Img8) (w h : Nat) (hw : 0 < src.w) (hh : 0 < src.h)
    (hop : OpaqueSrc src) (cs : List (Nat × Nat × BCell)) (hr : halfResize F src w h = .ok cs) :
    ∃ pw ph, resizeDims F src.w src.h w h halfBlockGeom.1 halfBlockGeom.2 = .ok (pw, ph) ∧
      cs.length = ceilDiv ph 2 * pw ∧
      ∀ e ∈ cs, e.1 < pw ∧ e.2.1 < ceilDiv ph 2 ∧
        let sx := nnIndex e.1 src.w pw
        let st := nnIndex (2 * e.2.1) src.h ph
        let sb := nnIndex (2 * e.2.1 + 1) src.h ph
        sx < src.w ∧ Overlaps e.1 src.w pw sx ∧ st < src.h ∧ Overlaps (2 * e.2.1) src.h ph st ∧
        e.2.2.glyph = 0x2580 ∧ e.2.2.fg = shown (src.pix sx st) ∧
        ((2 * e.2.1 + 1 < ph ∧ sb < src.h ∧ Overlaps (2 * e.2.1 + 1) src.h ph sb ∧ e.2.2.bg = shown (src.pix sx sb)) ∨
         (¬ 2 * e.2.1 + 1 < ph ∧ e.2.2.bg = 0)) := by
  obtain ⟨v, hd, hlen, seen, hs, hc⟩ := half_cells_stored hw hh hr
  refine ⟨v.w, v.h, hd, hlen, fun e he => ?_⟩
  obtain ⟨h1, h2, hrow, h3⟩ := hc e he
  refine ⟨h1, h2, ?_⟩
  intro sx st sb
  obtain ⟨hsx, hox⟩ := nn_index_in_source e.1 src.w v.w h1 hw
  obtain ⟨hst, hot⟩ := nn_index_in_source (2 * e.2.1) src.h v.h hrow hh
  obtain ⟨et, tr, tg, tb⟩ := seen_opaque_src hs src hop sx st hsx hst
  refine ⟨hsx, hox, hst, hot, ?_⟩
  by_cases hbot : 2 * e.2.1 + 1 < v.h
  · obtain ⟨hsb, hob⟩ := nn_index_in_source (2 * e.2.1 + 1) src.h v.h hbot hh
    obtain ⟨eb, br, bg, bb⟩ := seen_opaque_src hs src hop sx sb hsx hsb
    rw [if_pos hbot, et, eb, C20.opaque_exact_half _ _ _ _ _ _ tr tg tb br bg bb] at h3
    rw [h3]
    exact ⟨rfl, rfl, Or.inl ⟨hbot, hsb, hob, rfl⟩⟩
  · rw [if_neg hbot, et, opaque_half_last_row _ _ _ tr tg tb] at h3
    rw [h3]
    exact ⟨rfl, rfl, Or.inr ⟨hbot, rfl⟩⟩


/-- **F320 repaired**: `HalfBlockImage.Resize` as regenerated reads the lower pixel only when the image has that row and
    leaves it transparent otherwise — so the renderer never calls `At` outside the image's bounds (where `image.Gray`
    answers opaque black, `image.Paletted` its first palette entry, `image.YCbCr` a dark green) — and on this model's
    images, whose `at` is the zero colour outside, the cell list is the `halfCells` of the theorems above and below. -/
theorem half_block_bottom_shape :
    halfBlockBottom = .zeroIfMissing ∧ ∀ img, halfCellsGen img = halfCells img := by
  have h : halfBlockBottom = .zeroIfMissing := by decide
  refine ⟨h, fun img => ?_⟩
  unfold halfCellsGen halfCells blockCells blockCellsWith
  rw [h]
  simp only [lowerPx_zeroIfMissing]

/-- **Full-block rendering of an opaque image, the whole pipeline**: the cell at column `x`, row `y` is a space whose
    background is exactly the channel-wise mean of the two source pixels `(nnIndex x, nnIndex (2y))` and
    `(nnIndex x, nnIndex (2y+1))`; in the last row of an odd pixel height, where the cell covers one pixel, exactly
    that pixel's colour. -/
theorem full_pipeline_opaque (F : FloatOps) (src : Img8) (w h : Nat) (hw : 0 < src.w) (hh : 0 < src.h)
    (hop : OpaqueSrc src) (cs : List (Nat × Nat × BCell)) (hr : fullResize F src w h = .ok cs) :
    ∃ pw ph, resizeDims F src.w src.h w h fullBlockGeom.1 fullBlockGeom.2 = .ok (pw, ph) ∧
      cs.length = ceilDiv ph 2 * pw ∧
      ∀ e ∈ cs, e.1 < pw ∧ e.2.1 < ceilDiv ph 2 ∧
        let t := src.pix (nnIndex e.1 src.w pw) (nnIndex (2 * e.2.1) src.h ph)
        let b := src.pix (nnIndex e.1 src.w pw) (nnIndex (2 * e.2.1 + 1) src.h ph)
        e.2.2.glyph = 0x20 ∧ e.2.2.fg = 0 ∧
        ((2 * e.2.1 + 1 < ph ∧ e.2.2.bg = directColor ((b.r + t.r) / 2) ((b.g + t.g) / 2) ((b.b + t.b) / 2)) ∨
         (¬ 2 * e.2.1 + 1 < ph ∧ e.2.2.bg = shown t)) := by
  obtain ⟨v, hd, hlen, seen, hs, hc⟩ := full_cells_stored hw hh hr
  refine ⟨v.w, v.h, hd, hlen, fun e he => ?_⟩
  obtain ⟨h1, h2, hrow, h3⟩ := hc e he
  refine ⟨h1, h2, ?_⟩
  intro t b
  have hsx := nnIndex_lt e.1 src.w v.w h1 hw
  obtain ⟨et, tr, tg, tb⟩ := seen_opaque_src hs src hop _ _ hsx (nnIndex_lt (2 * e.2.1) src.h v.h hrow hh)
  by_cases hbot : 2 * e.2.1 + 1 < v.h
  · obtain ⟨eb, br, bg, bb⟩ := seen_opaque_src hs src hop _ _ hsx (nnIndex_lt (2 * e.2.1 + 1) src.h v.h hbot hh)
    rw [if_pos hbot, et, eb, C20.opaque_exact_full _ _ _ _ _ _ tr tg tb br bg bb] at h3
    rw [h3]
    exact ⟨rfl, rfl, Or.inl ⟨hbot, rfl⟩⟩
  · rw [if_neg hbot, et, C20.opaque_exact_full_same _ _ _ tr tg tb] at h3
    rw [h3]
    exact ⟨rfl, rfl, Or.inr ⟨hbot, rfl⟩⟩


/-- Non-vacuity: a 2×4 opaque `*image.NRGBA` squeezed into 1×1 cells (exact float steps) becomes 1×2 px:
    one cell `▀` with the colours of source pixels (1,1) and (1,3). -/
example :
    (match halfResize exactOps ⟨.nrgba, 2, 4, #[⟨1,1,1,255⟩, ⟨2,2,2,255⟩, ⟨3,3,3,255⟩, ⟨4,4,4,255⟩, ⟨5,5,5,255⟩, ⟨6,6,6,255⟩,
      ⟨7,7,7,255⟩, ⟨8,8,8,255⟩]⟩ 1 1 with
     | .ok cs => decide (cs = [(0, 0, ⟨0x2580, directColor 4 4 4, directColor 8 8 8⟩)])
     | .error _ => false) = true := by decide +kernel

def AlphaBytes (src : Img8) : Prop := ∀ x y, x < src.w → y < src.h → (src.pix x y).a < 256

/-- **Transparency through the whole pipeline, every image** (`HalfBlockImage.Resize` on any stored `*image.NRGBA` /
    `*image.RGBA`, any float step, scaled or not): the cell at column `x`, row `y` is decided by the alpha bytes `ta`,
    `ba` of the two source pixels `(nnIndex x, nnIndex (2y))`, `(nnIndex x, nnIndex (2y+1))` (`ba = 0` in a last odd row)
    against the threshold 50, exactly as the property says: both below ⇒ the default cell (space, default colours);
    only the top below ⇒ `▄` coloured by the bottom pixel on the default background; only the bottom below ⇒ `▀`
    coloured by the top pixel on the default background; neither ⇒ `▀` with both colours (`T`, `B` = what `toRGB`
    returns for the two pixels; for opaque pixels exactly their colours: `half_pipeline_opaque`; for translucent ones
    within `translucent_scaled`). -/
theorem half_pipeline_transparency (F : FloatOps) (src : Img8) (w h : Nat) (hw : 0 < src.w) (hh : 0 < src.h)
    (hb : AlphaBytes src) (cs : List (Nat × Nat × BCell)) (hr : halfResize F src w h = .ok cs) :
    ∃ pw ph, resizeDims F src.w src.h w h halfBlockGeom.1 halfBlockGeom.2 = .ok (pw, ph) ∧
      ∀ e ∈ cs, e.1 < pw ∧ e.2.1 < ceilDiv ph 2 ∧
        ∃ T B : C8,
          T.a = (src.pix (nnIndex e.1 src.w pw) (nnIndex (2 * e.2.1) src.h ph)).a ∧
          B.a = (if 2 * e.2.1 + 1 < ph then (src.pix (nnIndex e.1 src.w pw) (nnIndex (2 * e.2.1 + 1) src.h ph)).a else 0) ∧
          e.2.2 = (if T.a < 50 ∧ B.a < 50 then ⟨0x20, 0, 0⟩
                   else if T.a < 50 then ⟨0x2584, rgbColor B.r B.g B.b, 0⟩
                   else if B.a < 50 then ⟨0x2580, rgbColor T.r T.g T.b, 0⟩
                   else ⟨0x2580, rgbColor T.r T.g T.b, rgbColor B.r B.g B.b⟩) := by
  obtain ⟨v, hd, _, seen, hs, hc⟩ := half_cells_stored hw hh hr
  refine ⟨v.w, v.h, hd, fun e he => ?_⟩
  obtain ⟨h1, h2, hrow, h3⟩ := hc e he
  have ha := fun y (hy : y < v.h) =>
    seen_alpha hs src.kind _ (hb _ _ (nnIndex_lt e.1 src.w v.w h1 hw) (nnIndex_lt y src.h v.h hy hh))
  refine ⟨h1, h2, _, _, ha _ hrow, ?_, h3.trans (C20.transparent_default _ _)⟩
  split
  · next hbot => exact ha _ hbot
  · rfl


/-- **Transparency through the whole pipeline, full blocks, every image**: the cell at column `x`, row `y` is a space
    with default foreground whose background is the default colour exactly when the mean of the alpha bytes of the two
    source pixels `(nnIndex x, nnIndex (2y))`, `(nnIndex x, nnIndex (2y+1))` is below 50 — in a last odd row the upper
    pixel's alpha alone (F220) — and otherwise the mean colour `averageColor` computes for the two pixels. -/
theorem full_pipeline_transparency (F : FloatOps) (src : Img8) (w h : Nat) (hw : 0 < src.w) (hh : 0 < src.h)
    (hb : AlphaBytes src) (cs : List (Nat × Nat × BCell)) (hr : fullResize F src w h = .ok cs) :
    ∃ pw ph, resizeDims F src.w src.h w h fullBlockGeom.1 fullBlockGeom.2 = .ok (pw, ph) ∧
      ∀ e ∈ cs, e.1 < pw ∧ e.2.1 < ceilDiv ph 2 ∧ e.2.2.glyph = 0x20 ∧ e.2.2.fg = 0 ∧
        let ta := (src.pix (nnIndex e.1 src.w pw) (nnIndex (2 * e.2.1) src.h ph)).a
        let ba := if 2 * e.2.1 + 1 < ph then (src.pix (nnIndex e.1 src.w pw) (nnIndex (2 * e.2.1 + 1) src.h ph)).a else ta
        ((ba + ta) / 2 < 50 → e.2.2.bg = 0) ∧
        (¬ (ba + ta) / 2 < 50 → ∃ c : C8, e.2.2.bg = rgbColor c.r c.g c.b) := by
  obtain ⟨v, hd, _, seen, hs, hc⟩ := full_cells_stored hw hh hr
  refine ⟨v.w, v.h, hd, fun e he => ?_⟩
  obtain ⟨h1, h2, hrow, h3⟩ := hc e he
  have hx := nnIndex_lt e.1 src.w v.w h1 hw
  have hy := fun y (hy : y < v.h) => nnIndex_lt y src.h v.h hy hh
  rw [fullCell_eq, apply_ite toRGB, apply_ite C8.a, seen_alpha hs src.kind _ (hb _ _ hx (hy _ hrow))] at h3
  refine ⟨h1, h2, by rw [h3], by rw [h3], ?_⟩
  intro ta ba
  have htb : ta < 256 := hb _ _ hx (hy _ hrow)
  -- the alpha of the lower pixel the cell reads
  have hla : (if 2 * e.2.1 + 1 < v.h
        then (toRGB (seen (conv src.kind (src.pix (nnIndex e.1 src.w v.w) (nnIndex (2 * e.2.1 + 1) src.h v.h))))).a
        else ta) = ba ∧ ba < 256 := by
    show _ = (if _ then _ else _) ∧ (if _ then _ else _) < 256
    split
    · next hbot => exact ⟨seen_alpha hs _ _ (hb _ _ hx (hy _ hbot)), hb _ _ hx (hy _ hbot)⟩
    · exact ⟨rfl, htb⟩
  have hm : (ba + ta) / 2 % 256 = (ba + ta) / 2 := Nat.mod_eq_of_lt (by have := hla.2; omega)
  rw [hla.1, hm] at h3
  rw [h3]
  exact ⟨fun hlt => if_pos hlt, fun hge => ⟨⟨_, _, _, 0⟩, if_neg hge⟩⟩


/-- `Scale` delegates to `Copy` when source and destination have the same size (not modelled).  `resizeImage` scales
    only after the fit test failed, and then — for every float step meeting `Sound` — **both** pixel dimensions
    shrink strictly, so the sizes differ and the modelled fast paths are the ones that run. -/
theorem scale_shrinks (F : FloatOps) (hF : Sound F) (wPix hPix w h cellW cellH pw ph : Nat)
    (hw : 0 < wPix) (hh : 0 < hPix) (hcw : 0 < cellW) (hch : 0 < cellH)
    (hr : resizeDims F wPix hPix w h cellW cellH = .ok (pw, ph)) :
    (ceilDiv wPix cellW ≤ w ∧ ceilDiv hPix cellH ≤ h ∧ pw = wPix ∧ ph = hPix) ∨
    (¬ (ceilDiv wPix cellW ≤ w ∧ ceilDiv hPix cellH ≤ h) ∧ pw < wPix ∧ ph < hPix) := by
  unfold resizeDims at hr
  rw [C20.source_shape] at hr
  obtain ⟨_, _, _, _, hcase⟩ := std_cases F hF wPix hPix w h cellW cellH pw ph hw hh hcw hch hr
  rcases hcase with hfit | ⟨hn, a, b, _, hab, _, _, hpw, _, hph, _⟩
  · exact Or.inl hfit
  · exact Or.inr ⟨hn, scaled_lt pw a b wPix hab hw hpw, scaled_lt ph a b hPix hab hh hph⟩

/-- **Translucent pixels through the scaler**: the alpha level is kept exactly (so the transparency threshold sees
    the source alpha), a channel never grows and loses at most `255/a + 1` — for alpha ≥ 50 (a visible pixel) at most
    5 of 255; for every 8-bit (channel, alpha) pair. -/
theorem translucent_scaled (c a : Nat) (hc : c < 256) (ha : a < 256) (ha0 : 0 < a) :
    (scaledBack c a).2 = a ∧ (scaledBack c a).1 ≤ c ∧ (c - (scaledBack c a).1) * a ≤ 255 + a := by
  rw [scaledBack_eq c a ha ha0]
  exact ⟨rfl, premul_byte_back c a hc ha ha0⟩

end VaxisModel.Props.C20Pixels
