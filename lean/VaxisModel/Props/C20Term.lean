/-
C20: the kitty upload code and the block `Draw` loops interpreted from the regenerated statement forms
(`*_body_eq_model`), the placement stretch of `render` interpreted in SOURCE ORDER, and the refinement

    for every application history: the terminal's placement table = what the last frame drew

against an order-sensitive model of the terminal's side of the kitty graphics protocol (`Model/KittyTerm.lean`).
-/
import VaxisModel.Lemmas.KittyTerm
import VaxisModel.Lemmas.KittyData
import VaxisModel.Lemmas.KittyStrict
import VaxisModel.Lemmas.KittyMixed
import VaxisModel.Model.ImageTerm
import VaxisModel.Model.ImageDraw

namespace VaxisModel.Props.C20Term
open VaxisModel.Model.KittyTerm VaxisModel.Model.Placements VaxisModel.Spec.Images VaxisModel.Gen.ImageConsts
open VaxisModel.Lemmas.KittyTerm VaxisModel.Lemmas.KittyData

/-- Every statement of the two kitty upload bodies was recognised (an unknown one would be `KAct.other`, write
    `KOut.unknown` in the model and make the theorems below fail). -/
theorem kitty_bodies_recognised : kittyResizeBody.all stmtKnown = true ∧ kittyWriteBody.all stmtKnown = true := by decide

/-- **The upload side of `KittyImage.Resize`, interpreted from the regenerated body, is the model**: after a successful
    encode the new encoding is appended to `k.buf` (the buffer is not reset) and `k.uploaded` is cleared; on the
    counting abstraction (`encs` = number of encodings in the buffer) this is `ImageTerm.KImg.resize`, about which
    `Props.C20Ext.upload_conservation`, `no_reupload_while_unchanged`, `upload_after_resize` speak. -/
theorem kitty_resize_body_eq_model (k : KBuf) (e : Nat) :
    resizeGen k e = ⟨k.buf ++ [e], false⟩ ∧
    absK (resizeGen k e) = (absK k).resize true := by
  unfold resizeGen
  rw [resizeGen_std]
  exact ⟨resizeWith_std k e, absK_resize k e⟩

/-- **The placement's `writeTo` closure, interpreted from the regenerated body, is the model**: when `k.uploaded` is
    clear it sends the whole buffer, sets `k.uploaded`, empties the buffer, and then places; when set it only places.
    On the counting abstraction this is `ImageTerm.KImg.write` (state and number of encodings sent).  (Both theorems
    are semantic — the regenerated statements are evaluated on a symbolic state — not a comparison of statement
    lists: a reordering that computes the same passes.) -/
theorem kitty_write_body_eq_model (k : KBuf) :
    writeGen k = (if k.uploaded then (k, [.place]) else (⟨[], true⟩, [.send k.buf, .place])) ∧
    absK (writeGen k).1 = ((absK k).write).1 ∧ sentCount (writeGen k).2 = ((absK k).write).2 := by
  unfold writeGen
  rw [writeGen_std]
  exact ⟨writeWith_std k, absK_write k⟩

/-- Re-upload after a second `Resize` (what seeded change C20-m5 breaks), on the interpreted bodies: whatever the state
    of the image (in particular: already uploaded), after a successful `Resize` producing `e` the next `writeTo` sends
    a buffer that ends with `e`, before the placement command. -/
theorem reupload_after_resize (k : KBuf) (e : Nat) :
    ∃ pre, (writeGen (resizeGen k e)).2 = [.send (pre ++ [e]), .place] := by
  rw [(kitty_resize_body_eq_model k e).1, (kitty_write_body_eq_model _).1]
  exact ⟨k.buf, rfl⟩

/-- The loops of `HalfBlockImage.Draw` / `FullBlockImage.Draw` as regenerated: `for i, cell := range cells`,
    `y := i / width`, `x := i - (y * width)`, `SetCell(x, y, …)` with the stored cell / a space on the stored colour,
    nothing else. -/
theorem block_draw_loop_shape :
    halfDrawLoop = stdLoop .stored ∧ fullDrawLoop = stdLoop .spaceOnStoredBg := by decide

/-- **The block `Draw` loops, interpreted from the regenerated loop, are the model**: run on the cell list `Resize`
    built (`Blocks.blockCellsWith`, any image, any way of reading the lower pixel, any cell function) the interpreted
    loop makes exactly the `SetCell` calls of `ImageDraw.blockOps` — about which `block_draw_clipped`,
    `block_cell_pixels`, `half_pipeline_*` / `full_pipeline_*` speak — for both image kinds. -/
theorem block_draw_body_eq_model (toCell : VaxisModel.Model.Blocks.BCell → VaxisModel.Model.Window.Cell)
    (mode : Bottom) (cell : VaxisModel.Model.Blocks.C16 → VaxisModel.Model.Blocks.C16 → VaxisModel.Model.Blocks.BCell)
    (img : VaxisModel.Model.Blocks.Img) :
    drawLoopOps halfDrawLoop toCell img.w ((VaxisModel.Model.Blocks.blockCellsWith mode cell img).map (·.2.2)) =
      some (VaxisModel.Model.ImageDraw.blockOps toCell (VaxisModel.Model.Blocks.blockCellsWith mode cell img)) ∧
    drawLoopOps fullDrawLoop toCell img.w ((VaxisModel.Model.Blocks.blockCellsWith mode cell img).map (·.2.2)) =
      some (VaxisModel.Model.ImageDraw.blockOps toCell (VaxisModel.Model.Blocks.blockCellsWith mode cell img)) := by
  rw [block_draw_loop_shape.1, block_draw_loop_shape.2]
  exact ⟨drawLoopOps_std _ toCell mode cell img, drawLoopOps_std _ toCell mode cell img⟩

/-- **The placement stretch of `render` as regenerated, with its order**: delete loop, `last` emptied on refresh, write
    loop, `last = next` — and interpreted stage by stage in that order it is `renderWith` (the render of
    `placement_diff`) emitting all deletes before all writes. -/
theorem render_order_shape :
    renderOrder = [.deleteLoop, .clearLast, .writeLoop, .saveLast] ∧
    ∀ s, renderGen s =
      ((renderWith samePlacement s).1,
       (renderWith samePlacement s).2.deletes.map .del ++ (renderWith samePlacement s).2.writes.map .wr) := by
  refine ⟨render_std_shape.1, fun s => ?_⟩
  unfold renderGen
  rw [render_std_shape.1, render_std_shape.2]
  exact renderStaged_std _ s

/-- **Refinement to the terminal** (for ALL histories of `Resize` / `Draw` / `Clear` / `Render` / `Refresh` on kitty
    images, starting after `vaxis.New`): run the commands every render emits — in the order the regenerated source
    emits them — on a terminal that keeps a table (image id, placement id) ↦ placement, where a delete removes whatever
    is under its key and a placement replaces it.  Provided no frame holds two different placements with the same
    (image, origin), at every point of the history the terminal's table is exactly the table of the last rendered
    frame (`ps.last`, the list `render` saved): every placement of that frame is there with its size, nothing else is.
    With the two loops in the other order this is false (`order_matters`). -/
theorem terminal_table_is_last_frame (ops : List WOp) (h : FramesKeyFun [] ops) :
    ∀ k, (World.init.run ops).term.places k = tableOf (World.init.run ops).ps.last k :=
  (Lemmas.KittyMixed.run_inv ops World.init ⟨fun _ => rfl, keyFun_nil⟩ h).1

/-- The terminal of the theorems here is nothing but the emitted command sequence folded in order: `World.trace` is the
    concatenation of what the renders of the history wrote (the list the driver compares with the implementation's
    console output, `Q=`), and running it from the empty terminal gives the terminal of `World.run`. -/
theorem terminal_is_fold_of_commands (ops : List WOp) :
    (World.init.run ops).term = Term.empty.run (World.trace World.init ops) := trace_run ops World.init

/-- After a render the saved list is the frame just drawn, so right after any `Render` / `Refresh` the terminal shows
    exactly the placements the application drew since the last `Clear`. -/
theorem terminal_table_after_render (ops : List WOp) (op : WOp) (hop : op = .render ∨ op = .refresh)
    (h : FramesKeyFun [] (ops ++ [op])) :
    ∀ k, (World.init.run (ops ++ [op])).term.places k = tableOf (World.init.run ops).ps.next k := by
  intro k
  rw [terminal_table_is_last_frame _ h k]
  rw [World.run, List.foldl_append]
  rcases hop with rfl | rfl <;> rfl

/-- The same in terms of the op list alone: right after a `Render` / `Refresh` the terminal's placement table is the
    table of what the application drew since the last `Clear`. -/
theorem terminal_shows_what_was_drawn (ops : List WOp) (op : WOp) (hop : op = .render ∨ op = .refresh)
    (h : FramesKeyFun [] (ops ++ [op])) :
    ∀ k, (World.init.run (ops ++ [op])).term.places k = tableOf (drawnSinceClear [] ops) k := by
  intro k
  rw [terminal_table_after_render ops op hop h k, next_is_drawn]
  rfl

/-- **The placement id addresses (column, row)**: the regenerated expression is `uint(col)<<16 | uint(row)`, and for
    origins within 0..65535 in both coordinates two origins get the same id only when they are the same — so the
    model's key (image id, col, row) is what a kitty delete / placement command is addressed by. -/
theorem placement_id_injective :
    kittyPidShift = some 16 ∧
    ∀ c r c' r' : Nat, c < 65536 → r < 65536 → c' < 65536 → r' < 65536 → pidOf c r = pidOf c' r' → c = c' ∧ r = r' := by
  have h : kittyPidShift = some 16 := by decide
  refine ⟨h, ?_⟩
  intro c r c' r' _ hr _ hr' he
  unfold pidOf at he
  rw [h] at he
  simp only [Option.map_some, Option.some.injEq] at he
  rw [← Nat.shiftLeft_add_eq_or_of_lt (by omega : r < 2 ^ 16), ← Nat.shiftLeft_add_eq_or_of_lt (by omega : r' < 2 ^ 16),
    Nat.shiftLeft_eq, Nat.shiftLeft_eq] at he
  omega

open VaxisModel.Lemmas.KittyMixed in
/-- **Histories that mix kitty and sixel images** (`kitty id`: image `id` was made with `NewKittyGraphic`; a sixel
    placement's `deleteFn` writes nothing and its `writeTo` writes data the kitty tables ignore — this is what the
    driver runs against the implementation): for ALL histories in which the kitty placements of every frame are
    key-functional, the terminal's kitty placement table is at every point exactly the table of the kitty placements of
    the last rendered frame, whatever sixel images are drawn, moved, dropped or refreshed in between. -/
theorem terminal_table_mixed (kitty : Nat → Bool) (ops : List WOp) (h : FramesKeyFunK kitty [] ops) :
    ∀ k, (World.init.runK kitty ops).term.places k = tableOf (kittyOf kitty (World.init.runK kitty ops).ps.last) k :=
  (runK_inv kitty ops World.init ⟨fun _ => rfl, keyFun_nil⟩ h).1

/-- Non-vacuity: image 1 kitty, image 2 sixel; the sixel placement moves and is dropped, the kitty one is resized in
    place: the table holds the kitty placement alone, in its new size. -/
example :
    let kitty : Nat → Bool := fun id => id == 1
    let a : Placement := ⟨1, 2, 3, 4, 4⟩
    let a' : Placement := ⟨1, 2, 3, 2, 2⟩
    let s : Placement := ⟨2, 9, 9, 3, 3⟩
    let s' : Placement := ⟨2, 8, 8, 3, 3⟩
    let w := World.init.runK kitty [.resize 1 true, .draw a, .draw s, .render, .clear, .draw a, .draw s', .render,
                                    .clear, .resize 1 true, .draw a', .render]
    w.term.places (key a') = some a' ∧ w.term.places (key s') = none ∧ w.ps.last = [a'] := by decide

/-- **The order of the two loops matters** (what seeded change C20-m6 does): with the write loop before the delete loop
    — same statements, same sets of commands per frame — an image resized in place (drawn again at the same origin with
    another cell size) is placed and then removed by the delete of the old placement, which has the same placement id:
    the terminal shows nothing at that key although the frame holds the placement. -/
theorem order_matters :
    let a : Placement := ⟨1, 2, 3, 4, 4⟩
    let a' : Placement := ⟨1, 2, 3, 2, 2⟩
    let ops : List WOp := [.resize 1 true, .draw a, .render, .clear, .resize 1 true, .draw a', .render]
    let step := World.stepWith [.writeLoop, .deleteLoop, .clearLast, .saveLast] stdShape samePlacement stdResizeBody stdWriteBody
    FramesKeyFun [] ops ∧
    (ops.foldl step World.init).ps.last = [a'] ∧
    (ops.foldl step World.init).term.places (key a') = none ∧
    (World.init.run ops).term.places (key a') = some a' := by
  refine ⟨?_, by decide, by decide, by decide⟩
  simp only [FramesKeyFun, List.nil_append, and_true]
  constructor <;> intro p hp q hq _ <;> simp_all

/-- **The hypothesis is needed** (an observation about the unchanged code, O1 in notes/C20.md): a frame that holds an image
    twice at the same origin with two sizes (`Draw`, `Resize`, `Draw` again without `Clear`) lets the next frame delete
    the old size's placement — the same placement id as the one kept — and the terminal loses an image the bookkeeping
    believes is shown. -/
theorem keyfun_needed :
    let a : Placement := ⟨1, 2, 3, 4, 4⟩
    let a' : Placement := ⟨1, 2, 3, 2, 2⟩
    let ops : List WOp := [.draw a, .render, .draw a', .render, .clear, .draw a', .render]
    (World.init.run ops).ps.last = [a'] ∧ (World.init.run ops).term.places (key a') = none := by
  constructor <;> decide

/-- **A limit of the terminal model** (observation O2 of notes/C20.md): kitty itself removes an image's placements when
    data is transmitted again under its id.  `render` never re-places the kept placements of an image whose data it
    retransmits; that is harmless when a `Resize` changes the cell size (every placement of the image then differs and
    is rewritten), but a `Resize` to another pixel size with the SAME cell size leaves the placements "the same", the
    new data goes out with the next placement of the image that changes — and on such a terminal the image's other
    placements vanish although the bookkeeping (and the lenient terminal model of the theorems above) keeps them. -/
theorem retransmission_drops_kept_placements :
    let a1 : Placement := ⟨1, 1, 1, 2, 2⟩
    let a2 : Placement := ⟨1, 5, 5, 2, 2⟩
    let a3 : Placement := ⟨1, 6, 6, 2, 2⟩
    let ops : List WOp := [.resize 1 true, .draw a1, .draw a2, .render,
                           .resize 1 true, .clear, .draw a1, .draw a3, .render]
    (World.init.run ops).ps.last = [a1, a3] ∧
    (World.init.run ops).term.places (key a1) = some a1 ∧
    ((World.trace World.init ops).foldl Term.applyDrop Term.empty).places (key a1) = none ∧
    ((World.trace World.init ops).foldl Term.applyDrop Term.empty).places (key a3) = some a3 := by
  refine ⟨by decide, by decide, by decide, by decide⟩

open VaxisModel.Lemmas.KittyStrict in
/-- **The refinement holds on the strict terminal too** (kitty's own behaviour: retransmitting an image drops its
    placements), for ALL histories in which every frame is key-functional and no placement is kept across a frame while
    its image has new data waiting (`StrictFrames`: at each render, every placement of the frame that was in the last
    one belongs to an image whose `uploaded` flag is set — true whenever a `Resize` changes the image's cell size, since
    all its placements then differ): the emitted command sequence, folded in order on the strict terminal, leaves
    exactly the table of the last rendered frame — and the same terminal as the lenient model.
    `retransmission_drops_kept_placements` shows the hypothesis is needed. -/
theorem strict_terminal_table_is_last_frame (ops : List WOp) (h : StrictFrames World.init ops) :
    runDrop Term.empty (World.trace World.init ops) = (World.init.run ops).term ∧
    ∀ k, (runDrop Term.empty (World.trace World.init ops)).places k = tableOf (World.init.run ops).ps.last k := by
  obtain ⟨h1, h2⟩ := strict_run ops World.init ⟨fun _ => rfl, keyFun_nil⟩ h
  refine ⟨h1, fun k => ?_⟩
  rw [show runDrop Term.empty (World.trace World.init ops) = runDrop World.init.term (World.trace World.init ops) from rfl, h1]
  exact h2.1 k

open VaxisModel.Lemmas.KittyStrict in
/-- Non-vacuity: an image resized to another cell size between frames and drawn again in place, next to a kept
    placement of another image, meets `StrictFrames`; the history of `retransmission_drops_kept_placements` does not. -/
example :
    let a : Placement := ⟨1, 2, 3, 4, 4⟩
    let a' : Placement := ⟨1, 2, 3, 2, 2⟩
    let b : Placement := ⟨2, 7, 7, 1, 1⟩
    StrictFrames World.init [.resize 1 true, .resize 2 true, .draw a, .draw b, .render, .clear, .resize 1 true, .draw a', .draw b, .render] := by
  simp only [StrictFrames, OKFrame, KeyFun]
  decide

open VaxisModel.Lemmas.KittyStrict in
/-- …and the history of `retransmission_drops_kept_placements` (a `Resize` that keeps the cell size, one placement kept,
    one moved) is exactly one that does not meet it. -/
example :
    let a1 : Placement := ⟨1, 1, 1, 2, 2⟩
    let a2 : Placement := ⟨1, 5, 5, 2, 2⟩
    let a3 : Placement := ⟨1, 6, 6, 2, 2⟩
    ¬ StrictFrames World.init [.resize 1 true, .draw a1, .draw a2, .render, .resize 1 true, .clear, .draw a1, .draw a3, .render] := by
  simp only [StrictFrames, OKFrame, KeyFun]
  decide

/-- **The terminal holds the data of the last successful `Resize`** (all histories, no hypothesis on the frames): for
    every image, at every point of the history, either its `uploaded` flag is set and the terminal's data for it is
    the encoding of its last successful `Resize` (nothing when there was none, and then nothing is waiting either), or
    the flag is clear and that encoding is the last one waiting in `k.buf`. -/
theorem data_is_latest (ops : List WOp) (id : Nat) :
    let w := World.init.run ops
    ((w.imgs id).uploaded = true ∧ (w.imgs id).buf = [] ∧ w.term.data id = w.latest id) ∨
    ((w.imgs id).uploaded = false ∧ (w.imgs id).buf.getLast? = w.latest id ∧ ((w.imgs id).buf = [] → w.term.data id = none)) :=
  run_data ops World.init init_data id

open VaxisModel.Lemmas.KittyMixed in
/-- The same in histories that mix kitty and sixel images. -/
theorem data_is_latest_mixed (kitty : Nat → Bool) (ops : List WOp) (id : Nat) :
    let w := World.init.runK kitty ops
    ((w.imgs id).uploaded = true ∧ (w.imgs id).buf = [] ∧ w.term.data id = w.latest id) ∨
    ((w.imgs id).uploaded = false ∧ (w.imgs id).buf.getLast? = w.latest id ∧ ((w.imgs id).buf = [] → w.term.data id = none)) :=
  runK_data kitty ops World.init init_data id

/-- Hence: right after a render that wrote a placement of an image, the terminal has that image's latest encoding
    (the one of the last successful `Resize` before the frame) — placed with fresh data, whatever happened before
    (a second `Resize`, refused encodes, several placements of the image).  What seeded change C20-m5 breaks. -/
theorem written_with_latest_data (ops : List WOp) (refresh : Bool) (p : Placement) :
    let w := World.init.run ops
    REv.wr p ∈ (renderGen { w.ps with refresh := w.ps.refresh || refresh }).2 →
    (w.step (if refresh then .refresh else .render)).term.data p.id = w.latest p.id :=
  fun hp => written_data _ (run_data ops World.init init_data) refresh p hp

example :
    let a : Placement := ⟨1, 2, 3, 4, 4⟩
    let a' : Placement := ⟨1, 2, 3, 2, 2⟩
    let w := World.init.run [.resize 1 true, .draw a, .render, .clear, .resize 1 true, .draw a', .render]
    w.term.data 1 = some 1 ∧ w.term.places (key a') = some a' := by decide

end VaxisModel.Props.C20Term
