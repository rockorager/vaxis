/-
Witnesses: the display clause of C01 *as stated* in `Props/C01.lean` (`frame_displays_full`) is
false of the model — not because the renderer is wrong, but because the statement omits five
side conditions.  Each theorem below refutes `frame_displays_full` from one concrete frame that
satisfies the other four conditions, so each condition is individually necessary:

  W1  the terminal must give a single space the width 1 (`cw "20" = 1`): a zero-width grapheme is
      written as " " and the width oracle `cw` is also the terminal's width function;
  W2  an explicit cell width must agree with the terminal's own width of the grapheme unless the
      explicit-width protocol (OSC 66) is in use;
  W3  on a refresh the terminal's grid may be anything *well formed*; a continuation cell that no
      glyph owns makes the reference terminal poison a glyph that was just written;
  W4  a visible cursor must be requested inside the screen (else the CUP of `showCursor()` is
      outside the screen, which the reference terminal flags).

  W5  the terminal must hold no stale hyperlink parameters (`t.linkParams = ""`): `Rest t` only
      says that no hyperlink is open, but the reference terminal stores the parameters separately
      and stamps them on every glyph.

`Props/C01Display.lean` proves the clause with exactly these five hypotheses added.
-/
import VaxisModel.Props.C01

namespace VaxisModel.Witness.C01Display
open VaxisModel.Model.Render VaxisModel.Spec VaxisModel.Spec.Display VaxisModel.Props.C01

def cw1 : String → Nat := fun _ => 0
def f1 : Frame := { caps := {}, refresh := true, next := [[({} : Cell)]], last := [[({} : Cell)]],
                    cursorNext := {}, cursorLast := {} }
def t1 : Term := Term.init 1 1

theorem w1_bad : (run cw1 t1 (renderFrame cw1 f1).2).bad ≠ none := by decide

theorem frame_displays_full_fails_space : ¬ frame_displays_full := by
  intro h
  have := h cw1 f1 t1 ⟨by decide, by decide, by decide⟩ (by decide) (by decide) (by decide) (by decide) (by decide) (by decide)
    (by decide) (by simp [Fits, f1, FitsRow, Expected.cellWidth, cw1]) (by decide) (fun h => absurd h (by decide))
  exact w1_bad this.1

def cw2 : String → Nat := fun _ => 1
def f2 : Frame := { caps := {}, refresh := true, next := [[({ g := "61", w := 2 } : Cell), {}]],
                    last := [[({} : Cell), {}]], cursorNext := {}, cursorLast := {} }
def t2 : Term := Term.init 2 1

theorem w2_differs : (run cw2 t2 (renderFrame cw2 f2).2).grid ≠ Expected.expected cw2 f2.caps f2.next := by decide

theorem frame_displays_full_fails_width : ¬ frame_displays_full := by
  intro h
  have := h cw2 f2 t2 ⟨by decide, by decide, by decide⟩ (by decide) (by decide) (by decide) (by decide) (by decide) (by decide)
    (by decide) (by simp [Fits, f2, FitsRow, Expected.cellWidth]) (by decide) (fun h => absurd h (by decide))
  exact w2_differs this.2.1

def cw3 : String → Nat := fun g => if g = "41" then 2 else 1
def f3 : Frame := { caps := {}, refresh := true,
                    next := [[({ g := "41" } : Cell), {}, { g := "63" }]],
                    last := [[({} : Cell), {}, {}]], cursorNext := {}, cursorLast := {} }
def t3 : Term := { Term.init 3 1 with grid := [[DCell.blank, .cont, .cont]] }

theorem w3_differs : (run cw3 t3 (renderFrame cw3 f3).2).grid ≠ Expected.expected cw3 f3.caps f3.next := by decide

theorem frame_displays_full_fails_malformed : ¬ frame_displays_full := by
  intro h
  have := h cw3 f3 t3 ⟨by decide, by decide, by decide⟩ (by decide) (by decide) (by decide) (by decide) (by decide) (by decide)
    (by decide) (by simp [Fits, f3, FitsRow, Expected.cellWidth, cw3]) (by decide) (fun h => absurd h (by decide))
  exact w3_differs this.2.1

def f4 : Frame := { caps := {}, refresh := true, next := [[({ g := "61" } : Cell)]],
                    last := [[({} : Cell)]], cursorNext := { row := 5, visible := true }, cursorLast := {} }

theorem w4_bad : (run cw2 t1 (renderFrame cw2 f4).2).bad ≠ none := by decide

theorem frame_displays_full_fails_cursor : ¬ frame_displays_full := by
  intro h
  have := h cw2 f4 t1 ⟨by decide, by decide, by decide⟩ (by decide) (by decide) (by decide) (by decide) (by decide) (by decide)
    (by decide) (by simp [Fits, f4, FitsRow, Expected.cellWidth, cw2]) (by decide) (fun h => absurd h (by decide))
  exact w4_bad this.1

def t5 : Term := { Term.init 1 1 with linkParams := "78" }
def f5 : Frame := { caps := {}, refresh := true, next := [[({ g := "61" } : Cell)]],
                    last := [[({} : Cell)]], cursorNext := {}, cursorLast := {} }

theorem w5_differs : (run cw2 t5 (renderFrame cw2 f5).2).grid ≠ Expected.expected cw2 f5.caps f5.next := by decide

theorem frame_displays_full_fails_linkParams : ¬ frame_displays_full := by
  intro h
  have := h cw2 f5 t5 ⟨by decide, by decide, by decide⟩ (by decide) (by decide) (by decide) (by decide) (by decide) (by decide)
    (by decide) (by simp [Fits, f5, FitsRow, Expected.cellWidth, cw2]) (by decide) (fun h => absurd h (by decide))
  exact w5_differs this.2.1

end VaxisModel.Witness.C01Display
