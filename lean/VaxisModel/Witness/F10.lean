import VaxisModel.Model.InputLoop

/-! F10 / F11 (fixed in /repo 79c8244, e2213e6): with the reply sends written as bare sends
(`Kinds.original`), a second unsolicited `CSI 8;r;c t` (resp. OSC 4/10/11 reply) finds the
capacity-1 channel full and no internal move can ever free it. -/
namespace VaxisModel.Witness.F10
open VaxisModel.Model.Input VaxisModel.Model.InputLoop

def P : Params := { qcap := 4, kinds := Kinds.original, b64 := fun _ => none }

def size8 : Seq := .csi [] [[8], [24], [80]] (ch 't')
def osc10 : Seq := .osc (str "10;rgb:1/2/3")

def s0 : Sys := { vs := { caps := { reportSizeChars := true, osc10 := true } } }

/-- The run: two size reports; the first token is stored, the second send is pending. -/
def stuckSize : Option Sys := run P s0 [.input size8, .step, .input size8]

theorem F10_stuck_state :
    (match stuckSize with
     | some s => s.pend == [.sendSizeDone] && s.sizeDone == 1 && (blockedOn P s == some "chSizeDone")
     | none => false) = true := by decide +kernel

/-- In a state blocked on `chSizeDone`, every internal label is either disabled or leaves the
pending send and the channel untouched: the goroutine never returns to its `select`. -/
theorem F10_wedged (s : Sys) (hp : s.pend = [.sendSizeDone]) (hc : s.sizeDone = 1) :
    ∀ ls s', (∀ l ∈ ls, l.internal = true) → run P s ls = some s' → s'.pend = [.sendSizeDone] := by
  intro ls
  induction ls generalizing s with
  | nil => intro s' _ h; simp [run] at h; subst h; exact hp
  | cons l t ih =>
    intro s' hi h
    have hl : l.internal = true := hi l (by simp)
    have ht : ∀ l ∈ t, l.internal = true := fun l hl => hi l (by simp [hl])
    cases l <;> simp [Label.internal] at hl
    · -- step: blocked
      simp [run, next, hp, stepEffect, send1, hc, P, Kinds.original] at h
    · -- clipTimeout: not at a clipboard send
      simp [run, next, hp] at h
    · -- consume: changes only the queue
      simp only [run, next] at h
      split at h
      · rename_i s1 heq
        split at heq
        · simp at heq
        · simp at heq; subst heq
          exact ih _ (by simpa using hp) (by simpa using hc) s' ht h
      · simp at h

theorem F11_stuck_state :
    (match run P s0 [.input osc10, .step, .step, .input osc10] with
     | some s => (blockedOn P s == some "chFg") && s.fg.length == 1
     | none => false) = true := by decide +kernel

end VaxisModel.Witness.F10
