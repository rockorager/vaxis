/-!
# F103 — the cursor-position request flag was tested and cleared in two steps

A small self-contained LTS of the hand-off, in two variants of `handleSequence`'s `case 'R'`:
* **split** (the source before /repo 70f2f6f): `if atomicLoad(&flag) { atomicStore(&flag, false); …send… }`
  — between the load and the store `CursorPosition` can time out and be called again, and the store
  then withdraws the *new* request;
* **atomic** (the current source, `Props.C03.cpr_take_atomic`): `if CompareAndSwap(&flag, 1, 0) { …send… }`.

The terminal answers every query exactly once.  A report that arrives after its query has timed
out is a key press by design (DSR 6 has no query ids): `late` counts the time-outs that fire while a
report is still outstanding.  With two calls of `CursorPosition` the split variant takes a report
for a key press although no time-out was late (`keys = 1`, `late = 0`); in the atomic variant
`keys ≤ late` in every reachable state (the set of states closed under all transitions).
The input LTS (`Model/InputLoop.lean`) folds "flag seen and lowered" into its `.input` label, i.e. it
is the atomic variant; the schedule is replayed on the real code by the `race order=recall` cases.
-/
namespace VaxisModel.Witness.F103

inductive PC | idle | seen | sending
  deriving DecidableEq, Repr

structure S where
  flag : Bool := false
  pc : PC := .idle
  waiting : Bool := false
  full : Bool := false
  /-- calls of `CursorPosition` made so far (budget 2) -/
  calls : Nat := 0
  /-- queries written and not yet answered by the terminal -/
  outstanding : Nat := 0
  /-- reports taken for key presses -/
  keys : Nat := 0
  /-- time-outs that fired while a report was still outstanding (its report will be late) -/
  late : Nat := 0
  deriving DecidableEq, Repr

inductive L | call | timeout | report | store | send | recv
  deriving DecidableEq, Repr

def L.all : List L := [.call, .timeout, .report, .store, .send, .recv]

/-- One transition; `none` = not enabled. `atomic` selects the variant of the `case 'R'` arm. -/
def next (atomic : Bool) (s : S) : L → Option S
  | .call => if !s.waiting && s.calls < 2 then
      some { s with waiting := true, full := false, flag := true, calls := s.calls + 1, outstanding := s.outstanding + 1 } else none
  | .timeout => if s.waiting then
      some { s with waiting := false, flag := false, late := if s.outstanding > 0 then s.late + 1 else s.late } else none
  | .report =>
      if s.pc == .idle && s.outstanding > 0 then
        if s.flag then
          (if atomic then some { s with flag := false, pc := .sending, outstanding := s.outstanding - 1 }
           else some { s with pc := .seen, outstanding := s.outstanding - 1 })
        else some { s with keys := s.keys + 1, outstanding := s.outstanding - 1 }
      else none
  | .store => if s.pc == .seen then some { s with flag := false, pc := .sending } else none
  | .send => if s.pc == .sending then some { s with full := true, pc := .idle } else none
  | .recv => if s.waiting && s.full then some { s with waiting := false, full := false } else none

def run (atomic : Bool) : S → List L → Option S
  | s, [] => some s
  | s, l :: ls => match next atomic s l with
    | some s' => run atomic s' ls
    | none => none

/-- The F103 schedule: the first call times out after the goroutine has *seen* the flag, a second
call raises it again, the goroutine's store withdraws it, the second report is a key press. -/
theorem split_takes_reply_for_key :
    (match run false {} [.call, .report, .timeout, .call, .store, .send, .recv, .report] with
     | some s => s.keys == 1 && s.late == 0 && s.outstanding == 0
     | none => false) = true := by decide

def succs (atomic : Bool) (r : List S) : List S :=
  r.flatMap fun s => L.all.filterMap (next atomic s)

def addNew (r : List S) : List S → List S
  | [] => r
  | x :: xs => if r.contains x then addNew r xs else addNew (r ++ [x]) xs

def close (atomic : Bool) : Nat → List S → List S
  | 0, r => r
  | n + 1, r => close atomic n (addNew r (succs atomic r))

/-- States of the atomic variant reachable with at most two calls (38 states, fixpoint after 8 rounds). -/
def reachAtomic : List S := close true 20 [{}]

/-- `reachAtomic` is an inductive invariant on which no report is taken for a key press without a
late time-out: it holds the initial state, and each of its states satisfies `keys ≤ late` and has all
its successors in the set.  (By kernel evaluation.) -/
theorem reachAtomic_invariant :
    reachAtomic.contains {} = true ∧
    reachAtomic.all (fun s => decide (s.keys ≤ s.late) &&
      L.all.all fun l => match next true s l with | some s' => reachAtomic.contains s' | none => true) = true := by
  decide +kernel

theorem mem_all (l : L) : l ∈ L.all := by cases l <;> simp [L.all]

/-- **Atomic variant**: whatever the schedule (two calls, the terminal answering each query once),
reports are taken for key presses only as often as a time-out fired with its report outstanding. -/
theorem atomic_never_key (ls : List L) : ∀ (s s' : S), reachAtomic.contains s = true → run true s ls = some s' →
    reachAtomic.contains s' = true ∧ s'.keys ≤ s'.late := by
  induction ls with
  | nil =>
    intro s s' hs hr
    cases (Option.some.inj hr)
    have h := List.all_eq_true.mp reachAtomic_invariant.2 s (List.contains_iff_mem.mp hs)
    exact ⟨hs, of_decide_eq_true (Bool.and_eq_true_iff.mp h).1⟩
  | cons l ls ih =>
    intro s s' hs hr
    have h := List.all_eq_true.mp reachAtomic_invariant.2 s (List.contains_iff_mem.mp hs)
    have h2 := List.all_eq_true.mp (Bool.and_eq_true_iff.mp h).2 l (mem_all l)
    simp only [run] at hr
    cases hn : next true s l with
    | none => simp [hn] at hr
    | some s1 =>
      simp only [hn] at hr h2
      exact ih s1 s' h2 hr

theorem atomic_never_key_from_init (ls : List L) (s' : S) (hr : run true {} ls = some s') : s'.keys ≤ s'.late :=
  (atomic_never_key ls {} s' reachAtomic_invariant.1 hr).2

end VaxisModel.Witness.F103
