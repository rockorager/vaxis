import VaxisModel.Model.C12Compose
/-! F112b (C12; repaired in /repo 3525279): a `;` in `Style.HyperlinkParams` was written verbatim into
`OSC 8 ; params ; url ST`, so the parameter field ended at that `;` and the rest became part of the URL — in the embedded
emulator as in any terminal.

* `semicolon_in_params_corrupts_url`: what the unrepaired token does — the emulator model, fed `osc8 "a;b" "h"` through
  the wire, stores the URL `b;h` and the parameters `a`.
* `render_cuts_params_now`, `cut_params_keep_url`: the renderer model after the repair (`Model.Render.lpField`) writes the
  parameter field up to the first `;` — the token is `osc8 "a" "h"` — and the emulator model stores the URL `h` with the
  parameters `a`. What the composition theorems ask is `LpOk dec` (the byte decoding maps `lpField s` to bytes without
  `;`), a property of the hex decoding, not of the application's cells.
Replayed on the real code by the C12 harness scenario `lp-semicolon`. -/
namespace VaxisModel.Witness.F112b
open VaxisModel.Model.Emu VaxisModel.Model.C12Compose VaxisModel.Model.Render

def dec : String → G := fun s =>
  if s = "613b62" then [97, 59, 98] else if s = "68" then [104] else if s = "61" then [97] else []

theorem semicolon_in_params_corrupts_url :
    (match runOps Emu.init (opsOf dec (fun _ => 1) (Tok.osc8 "613b62" "68")) with
     | .ok e => decide (e.cur.st.link = [98, 59, 104] ∧ e.cur.st.linkParams = [97])
     | .error _ => false) = true := by decide +kernel

/-- The renderer model after the repair: the OSC 8 token of the F112b cell carries the parameter field `a`. -/
theorem render_cuts_params_now :
    penDelta {} {} { link := "68", linkParams := "613b62" } = [Tok.osc8 "61" "68"] := by decide

/-- The emulator model stores the application's URL with those parameters. -/
theorem cut_params_keep_url :
    (match runOps Emu.init ((penDelta {} {} { link := "68", linkParams := "613b62" }).flatMap (opsOf dec (fun _ => 1))) with
     | .ok e => decide (e.cur.st.link = [104] ∧ e.cur.st.linkParams = [97])
     | .error _ => false) = true := by decide +kernel

end VaxisModel.Witness.F112b
