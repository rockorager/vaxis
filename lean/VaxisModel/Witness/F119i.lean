import VaxisModel.Model.DynList
import VaxisModel.Model.DynGenBodies
import VaxisModel.Props.C19Exec
import VaxisModel.Lemmas.DynExecProgress

/-! F119i (observation, recorded — not a violation of a clause of C19 for any FINITE item count):
`Dynamic.Draw` stops its downward loop only when the accumulated height reaches the viewport height or the
Builder returns nil.  Widgets of height 0 with gap 0 make no progress, so `Draw` asks the Builder for EVERY
remaining item and returns all of them as children, whatever the viewport: the work (and the memory) of one
frame is linear in the number of items, not in the viewport — `text.New("")` is such a widget (measured on
the real code: 2 000 000 empty items, viewport 10x4: 2 000 001 Builder calls, 2 000 000 children, 2.6 s per
frame) — and a Builder that never returns nil (the API has no length) makes `Draw` loop forever: in the
interpreter of the regenerated body the fuel runs out, for whatever fuel. -/
namespace VaxisModel.Witness.F119i
open VaxisModel.Model VaxisModel.Model.DynList VaxisModel.Model.DynExec

theorem drawDown_zero (H : Int) (hH : H ≥ 1) : ∀ (n i : Nat) (acc : List Child),
    (drawDown 0 false 0 H (List.replicate n 0) i 0 acc).length = acc.length + n := by
  intro n
  induction n with
  | zero => intro i acc; simp [drawDown]
  | succ n ih =>
    intro i acc
    have h1 : ¬ ((0 : Int) + ((0 : Nat) : Int) + 0 ≥ H) := by omega
    have h0 : ((0 : Int) + ((0 : Nat) : Int) + 0) = 0 := by simp
    simp only [List.replicate_succ, drawDown, Bool.false_eq_true, false_and, ↓reduceIte, h1]
    rw [h0, ih]
    simp only [List.length_append, List.length_cons, List.length_nil]
    omega

/-- **One frame draws every item**: `n` widgets of height 0, gap 0, any viewport of at least one row —
    `Draw` (the model; by `Props.C19Exec.draw_body_eq_model` also the regenerated body, interpreted)
    returns `n` children: unbounded in the viewport. -/
theorem zero_heights_draw_all (n W H : Nat) (hH : 1 ≤ H) (h1 : H ≠ 65535) (h2 : W ≠ 65535) :
    (match draw Facts.fixed ⟨0, false⟩ (List.replicate n 0) init W H with
     | .ok (_, cs) => cs.length = n
     | .error _ => False) := by
  have hd := drawDown_zero (H : Int) (by omega) n 0 []
  simp only [List.length_nil, Nat.zero_add] at hd
  simp [draw, Facts.fixed, clampTop, clampLoop, prologue, init, scrollUp, gutter, reveal, h1, h2]
  exact hd

/-- **An endless Builder of zero-height widgets: `Draw` never returns** — the regenerated body of `Draw`,
    interpreted, with a Builder that returns a widget of height 0 for every index, gap 0, any viewport of
    at least one row: out of fuel for EVERY fuel (each iteration of the downward loop adds a child at row
    0, the accumulated height stays 0 < `ctx.Max.Height`, the Builder never returns nil). -/
theorem endless_builder_never_returns (W H F : Nat) (hH : 1 ≤ H) (h1 : H ≠ 65535) (h2 : W ≠ 65535) :
    runDraw genBodies (fun _ => some 0) ⟨0, false⟩ init W H F = .error .oof := by
  rw [Props.C19Exec.gen_bodies_parsed]
  exact Lemmas.DynExec.draw_hang W H F hH h1 h2

/-- The interpreter of the regenerated `Draw` on a Builder that always returns a widget of height 0:
    out of fuel (= the Go code is still looping) — here after 400 iterations. -/
theorem endless_builder_out_of_fuel :
    (match runDraw genBodies (fun _ => some 0) ⟨0, false⟩ init 10 4 400 with
     | .error .oof => true
     | _ => false) = true := by
  rw [endless_builder_never_returns 10 4 400 (by decide) (by decide) (by decide)]

/-- … while a Builder of 5 such widgets ends (8 units of fuel) with all 5 as children. -/
theorem five_zero_heights_end :
    (match runDraw genBodies (builder [0, 0, 0, 0, 0]) ⟨0, false⟩ init 10 4 8 with
     | .ok (_, cs) => cs.length == 5
     | _ => false) = true := by decide +kernel

theorem drawDown_zero_then (H : Int) (hH : H ≥ 1) (h : Nat) : ∀ (k i : Nat) (acc : List Child),
    { idx := i + k, row := 0, height := h } ∈ drawDown 0 false 0 H (List.replicate k 0 ++ [h]) i 0 acc := by
  intro k
  induction k with
  | zero =>
    intro i acc
    simp only [List.replicate_zero, List.nil_append, drawDown, Bool.false_eq_true, false_and, ↓reduceIte, Nat.add_zero]
    split <;> simp
  | succ k ih =>
    intro i acc
    have h1 : ¬ ((0 : Int) + ((0 : Nat) : Int) + 0 ≥ H) := by omega
    have h0 : ((0 : Int) + ((0 : Nat) : Int) + 0) = 0 := by simp
    simp only [List.replicate_succ, List.cons_append, drawDown, Bool.false_eq_true, false_and, ↓reduceIte, h1]
    rw [h0]
    have := ih (i + 1) (acc ++ [{ idx := i, row := 0, height := 0 }])
    rwa [Nat.add_assoc, Nat.add_comm 1 k] at this

/-- **Why a cap on zero-progress iterations is not a repair**: `k` widgets of height 0 followed by a widget of
    height `h`, gap 0, viewport of at least one row: `Draw` shows the widget of height `h` at row 0 — for EVERY `k`.
    A downward loop that gave up after any fixed number `N` of iterations without progress would lose it for
    `k > N` although it is the first thing visible in the viewport (and, nothing covering row 0 before it, the
    scroll position would not advance to reach it either). -/
theorem zero_heights_then_content (k h W H : Nat) (hH : 1 ≤ H) (h1 : H ≠ 65535) (h2 : W ≠ 65535) :
    (match draw Facts.fixed ⟨0, false⟩ (List.replicate k 0 ++ [h]) init W H with
     | .ok (_, cs) => { idx := k, row := 0, height := h } ∈ cs
     | .error _ => False) := by
  have hd := drawDown_zero_then (H : Int) (by omega) h k 0 []
  simp only [Nat.zero_add] at hd
  simp [draw, Facts.fixed, clampTop, clampLoop, prologue, init, scrollUp, gutter, reveal, h1, h2]
  exact hd

/-- **The hang needs zero progress: an endless Builder whose widgets make progress is drawn in one bounded frame.**
    ANY Builder that never returns nil (no item count at all) whose widgets all satisfy `height + gap ≥ 1` (heights
    bounded by some `Mx`), any gap, with or without the cursor gutter, any viewport: `Draw` from the initial state, executed
    from the regenerated body with `H + Mx + 3` units of loop fuel, RETURNS, with at most `max 1 H` children — the
    downward loop stops as soon as the viewport is full.  Together with `endless_builder_never_returns`: `Draw` fails to
    return only when the Builder is endless AND its widgets add no height. -/
theorem endless_builder_with_progress_returns (b : Nat → Option Nat) (cfg : Cfg) (W H F Mx : Nat)
    (hb : ∀ i, ∃ h, b i = some h ∧ h ≤ Mx ∧ 1 ≤ (h : Int) + cfg.gap)
    (h1 : H < 65535) (h2 : W ≠ 65535) (hF : H + Mx + 3 ≤ F) :
    ∃ st cs, runDraw genBodies b cfg init W H F = .ok (st, cs) ∧ cs.length ≤ max H 1 := by
  rw [Props.C19Exec.gen_bodies_parsed]
  have h0 : ((H : Int) - (prologue init).1).toNat ≤ H := by
    show ((H : Int) - 0).toNat ≤ H
    omega
  have := Lemmas.DynExec.draw_progress b cfg init W H F Mx H hb h1 h2 (by decide) h0 (fun h => absurd h (by decide))
    (by omega) (by omega) (by omega) (by show 0 + H + 1 < 2 ^ 64; omega)
  exact this

/-- **… from any state in which no upward scroll is due** (`offset + pending ≥ 0`: reachable by any history of selection
    changes, downward wheel events and draws; upward scrolls consult the Builder only below the top widget, which the
    finite-builder theorems cover): the executed `Draw` returns with at most `max 1 k` children,
    `k = max (H + offset + pending) (cursor + 1 − top)` — the rows to fill and the distance to a cursor still to be reached. -/
theorem endless_builder_with_progress_returns_any_state (b : Nat → Option Nat) (cfg : Cfg) (s : St) (W H F Mx : Nat)
    (hb : ∀ i, ∃ h, b i = some h ∧ h ≤ Mx ∧ 1 ≤ (h : Int) + cfg.gap)
    (h1 : H < 65535) (h2 : W ≠ 65535) (hno : 0 ≤ s.offset + s.pending)
    (hF : max (H + (s.offset + s.pending).toNat) (s.cursor + 1 - s.top) + H + Mx + 3 ≤ F)
    (hidx : s.top + max (H + (s.offset + s.pending).toNat) (s.cursor + 1 - s.top) + 1 < 2 ^ 64) :
    ∃ st cs, runDraw genBodies b cfg s W H F = .ok (st, cs) ∧
      cs.length ≤ max (max (H + (s.offset + s.pending).toNat) (s.cursor + 1 - s.top)) 1 := by
  have hp : (prologue s).1 = - (s.offset + s.pending) := by
    unfold prologue
    have : ¬ (- (s.offset + s.pending) > 0 ∧ s.top = 0) := by omega
    simp only [this, if_false]
  rw [Props.C19Exec.gen_bodies_parsed]
  exact Lemmas.DynExec.draw_progress b cfg s W H F Mx _ hb h1 h2 (by rw [hp]; omega)
    (by rw [hp]; omega) (fun _ => Nat.le_max_right _ _) (by omega) (by omega) (by omega) hidx

/-- Non-vacuity: an endless list of one-row widgets, viewport 10 × 4: four children. -/
example : (match runDraw genBodies (fun _ => some 1) ⟨0, false⟩ init 10 4 8 with
     | .ok (_, cs) => cs.length == 4
     | _ => false) = true := by decide +kernel

example : ∀ i : Nat, ∃ h : Nat, (fun _ : Nat => some (1 : Nat)) i = some h ∧ h ≤ 1 ∧ 1 ≤ (h : Int) + (⟨0, false⟩ : Cfg).gap :=
  fun _ => ⟨1, rfl, by omega, by decide⟩

end VaxisModel.Witness.F119i
