/-
F209 (repaired in /repo: rule 6 of `Key.Matches` requires `ToUpper(key) != key`) — a lower-case letter WITHOUT an
upper-case mapping (Go: `IsLower('ß')`, `ToUpper('ß') = 'ß'`; 830 such runes in Go's tables) pressed with no
modifiers:

* legacy report: the byte(s) of the character → `Key{Keycode: 'ß', Text: "ß"}`;
* kitty report without the text field, `CSI 223 u` → `Key{Keycode: 'ß'}`.

In the code before the repair the binding ('ß', Shift) matches the first event (rule 6: "Shift + lower-case key: upper-case
the key, drop Shift, compare with Text" — the upper case of 'ß' is 'ß' itself) but not the second: an
unmodified key press fires a Shift binding, and under one encoding only.  This file proves the
regression statements on the model of the repaired code (`eszett_*`: the Shift binding fires under neither
encoding), and that the remaining hypothesis of `cross_protocol_char_plain` ("no lower-case rune with an upper
case of its own upper-cases to c") cannot be dropped: `greekUni` carries Go's values for ᾀ (U+1F80, lower case)
and ᾈ (U+1F88, its title-case upper case, `IsUpper` false).  `latinUni` carries Go's values for 'ß'.
-/
import VaxisModel.Props.C09Uni

namespace VaxisModel.Witness.F209
open VaxisModel.Model.Key VaxisModel.Spec.KeyEnc VaxisModel.Spec.KeyEncUni VaxisModel.Gen.Keys

/-- `cross_protocol_char_plain` without the hypothesis `hnolow`. -/
def cross_protocol_char_plain_full : Prop :=
  ∀ (u : Uni) (c : Int) (f : Form),
    validRune c = true → c ≠ 127 → u.isUpper c = false → lookup2 (c, 117) functional = none →
    (f.withShifted = false ∧ f.withBase = false) → (f.withText = false → c ≠ 0xFFFD) →
    keyString u (decodeKey u (.print [c])) = keyString u (decodeKey u (kittySeq c 117 { key := c, text := [c] } f)) ∧
    ∀ b m, «matches» u (decodeKey u (.print [c])) b m =
           «matches» u (decodeKey u (kittySeq c 117 { key := c, text := [c] } f)) b m

/-- Plain 'ß', legacy byte vs `CSI 223 u`, binding ('ß', Shift): fires under neither encoding (in the code before
    the repair: `true` for the legacy event). -/
theorem eszett_same :
    «matches» latinUni (decodeKey latinUni (.print [223])) 223 shiftBit = false ∧
    «matches» latinUni (decodeKey latinUni (kittySeq 223 117 { key := 223, text := [223] } {})) 223 shiftBit = false := by
  decide

/-- The same with the modifier field and the event type present (`CSI 223;1:1 u`). -/
theorem eszett_same_with_mods :
    «matches» latinUni (decodeKey latinUni (kittySeq 223 117 { key := 223, text := [223] } { withMods := true, withEvent := true })) 223 shiftBit = false := by
  decide

/-- And with the text field (`CSI 223;1;223 u`). -/
theorem eszett_same_with_text :
    «matches» latinUni (decodeKey latinUni (kittySeq 223 117 { key := 223, text := [223] } { withMods := true, withText := true })) 223 shiftBit = false := by
  decide

/-- ASCII plus ᾀ (8064, lower case, upper case ᾈ) and ᾈ (8072, title case: neither upper nor lower). -/
def greekUni : Uni where
  isUpper r := asciiUni.isUpper r
  isLower r := asciiUni.isLower r || decide (r = 8064)
  isLetter r := asciiUni.isLetter r || decide (r = 8064) || decide (r = 8072)
  isGraphic r := asciiUni.isGraphic r || decide (r = 8064) || decide (r = 8072)
  isPrint r := asciiUni.isPrint r || decide (r = 8064) || decide (r = 8072)
  toUpper r := if r = 8064 then 8072 else asciiUni.toUpper r
  toLower r := if r = 8072 then 8064 else asciiUni.toLower r
  foldEq a b := asciiUni.foldEq a b || decide (a = 8064 ∧ b = 8072) || decide (a = 8072 ∧ b = 8064)

/-- The character ᾈ as a "key": the binding (ᾀ, Shift) matches its legacy event (text ᾈ) only. -/
theorem titlecase_differs :
    «matches» greekUni (decodeKey greekUni (.print [8072])) 8064 shiftBit = true ∧
    «matches» greekUni (decodeKey greekUni (kittySeq 8072 117 { key := 8072, text := [8072] } {})) 8064 shiftBit = false := by
  decide

theorem cross_protocol_char_plain_full_fails : ¬ cross_protocol_char_plain_full := by
  intro h
  have h2 := (h greekUni 8072 {} (by decide) (by decide) (by decide) (by decide +kernel) ⟨rfl, rfl⟩ (fun _ => by decide)).2 8064 shiftBit
  rw [titlecase_differs.1, titlecase_differs.2] at h2
  cases h2

end VaxisModel.Witness.F209
