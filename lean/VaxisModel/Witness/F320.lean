/-
F320 (repaired, /repo 7b69059) — `HalfBlockImage.Resize` read `img.At(x, y+1)` for every cell.  In the last
cell row of an image of odd pixel height there is no such pixel, and what `At` returns outside the bounds depends on
the image type: the transparent zero colour for `*image.NRGBA` / `*image.RGBA` (so the lower half stayed at the default
colour — by luck), but OPAQUE BLACK for `*image.Gray` (`color.Gray{}`), the FIRST PALETTE ENTRY for `*image.Paletted`,
a dark green for `*image.YCbCr` (`color.YCbCr{}`).  An unscaled odd-height image of such a type got that colour as the
background of its last row.  Against "each cell exactly the colours of the source pixels it covers" (such a cell
covers one pixel).
Repair: the lower pixel is read only when the image has that row (`Gen.halfBlockBottom = .zeroIfMissing`), as
`FullBlockImage.Resize` does since F220.  Replayed on the real code by corpus/C20/F320.ops.

The model's images answer the zero colour outside their bounds, so the pre-repair reading is shown here on the colours
themselves: what the cell function makes of "upper pixel, and below it what the image type answers outside".
-/
import VaxisModel.Props.C20Pixels

namespace VaxisModel.Witness.F320
open VaxisModel.Model.Blocks VaxisModel.Spec.Images VaxisModel.Gen.ImageConsts

/-- `color.Gray{}.RGBA()`: what `(*image.Gray).At` answers outside the bounds. -/
def grayOutside : C16 := ⟨0, 0, 0, 0xffff⟩
/-- `color.Gray{200}.RGBA()`. -/
def gray200 : C16 := ⟨200 * 257, 200 * 257, 200 * 257, 0xffff⟩

/-- Unrepaired: the last row of an odd-height `image.Gray` gets a black background … -/
theorem gray_last_row_black_unfixed : halfCell gray200 grayOutside = ⟨0x2580, directColor 200 200 200, directColor 0 0 0⟩ := by
  decide +kernel

/-- … so "the lower half of a cell below which the image has no pixel stays at the default colour" fails for the
    unrepaired reading (any image type whose `At` is not transparent outside the bounds) … -/
theorem half_last_row_default_fails_unfixed :
    ¬ ∀ top outside : C16, (halfCell top outside).bg = 0 := by
  intro h
  have := h gray200 grayOutside
  rw [gray_last_row_black_unfixed] at this
  revert this
  decide

/-- … and holds of the current source for every image: in a last odd row the regenerated reading passes the zero colour,
    whatever the upper pixel is, and the cell's background is the default colour. -/
theorem half_last_row_default_now (img : Img) (x y : Nat) (h : ¬ y + 1 < img.h) :
    lowerPx halfBlockBottom img x y = ⟨0, 0, 0, 0⟩ ∧ (halfCell (img.at x y) (lowerPx halfBlockBottom img x y)).bg = 0 := by
  have hb := VaxisModel.Props.C20Pixels.half_block_bottom_shape.1
  have hl : lowerPx halfBlockBottom img x y = ⟨0, 0, 0, 0⟩ := by
    rw [hb]; show (if y + 1 < img.h then img.at x (y + 1) else (⟨0, 0, 0, 0⟩ : C16)) = _; rw [if_neg h]
  refine ⟨hl, ?_⟩
  rw [hl, halfCell, VaxisModel.Props.C20.transparent_default, show toRGB ⟨0, 0, 0, 0⟩ = ⟨0, 0, 0, 0⟩ by decide]
  by_cases ht : (toRGB (img.at x y)).a < 50 <;> simp [ht]

end VaxisModel.Witness.F320
