/-
F40 (C14): `make([]vaxis.Cell, height*width)` with both operands uint16 wraps: a 300×300 surface
gets 24 464 cells instead of 90 000.
-/
import VaxisModel.Model.Surface

namespace VaxisModel.Witness.F40
open VaxisModel.Model.Surface

def narrowLen : Arith := { wideLen := false, wideIdx := true, strictRow := true }

theorem buffer_wraps : bufLen narrowLen 300 300 = 24464 := by decide

theorem newSurface_len_fails :
    ¬ (∀ w h : UInt16, (newSurface narrowLen w h).buf.length = w.toNat * h.toNat) := by
  intro h
  have := h 300 300
  simp only [newSurface, Surface.buf, List.length_replicate] at this
  exact absurd this (by decide)

/-- A write inside the 300×300 surface then indexes past the short buffer: a panic. -/
theorem inside_write_panics :
    (match writeCell narrowLen (newSurface narrowLen 300 300) 0 250 default with
     | .error _ => true | .ok _ => false) = true := by
  -- the guard lets (0, 250) through; the index 250·300 = 75 000 is past the 24 464 cells.
  -- Said of an arbitrary surface first: on the concrete one the kernel would build the buffer.
  have past : ∀ s : Surface, wcReject narrowLen s 0 250 = false → ¬ wcIndex narrowLen s 0 250 < s.buf.length →
      writeCell narrowLen s 0 250 default = .error .indexOutOfRange := by
    intro s hr hi
    simp only [writeCell, hr, hi]; rfl
  have hi : ¬ wcIndex narrowLen (newSurface narrowLen 300 300) 0 250 < (newSurface narrowLen 300 300).buf.length := by
    rw [show (newSurface narrowLen 300 300).buf.length = bufLen narrowLen 300 300 from List.length_replicate, buffer_wraps]
    decide
  rw [past _ (by decide) hi]

end VaxisModel.Witness.F40
