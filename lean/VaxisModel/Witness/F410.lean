import VaxisModel.Props.C10Protect

/-!
# F410 — Close on the input goroutine (kill signal, panic) runs concurrently with the main goroutine's frame

The kill-signal arm and the panic handler of the input goroutine call `vx.Close()` on that goroutine at
an arbitrary moment of the main goroutine's work.  `Close → Suspend` writes the restore sequences
through the same `writer` (whose buffer has no lock), and reads / writes the same cursor records, as
`Render`, `ShowCursor`, `HideCursor` do on the main goroutine.  Over the regenerated access facts: for
each of these fields there is a write on one of the two goroutines and an access on the other with no
mutex in common.  On the real code: harness group `race sigrender` (a kill signal while the main
goroutine draws and renders) → the race detector reports the pairs at `writer.WriteString` /
`writer.Flush` / `ShowCursor` / `showCursor`.
-/
namespace VaxisModel.Witness.F410
open VaxisModel.Model.ConcProtect VaxisModel.Gen.Conc

theorem unprotected_pairs :
    racyPair funcRoles fieldAccesses "writer.buf" "main" "input" = true ∧
    racyPair funcRoles fieldAccesses "Vaxis.cursorNext" "main" "input" = true ∧
    racyPair funcRoles fieldAccesses "Vaxis.cursorLast" "main" "input" = true ∧
    racyPair funcRoles fieldAccesses "Vaxis.charCache" "main" "input" = true := by
  unfold racyPair expand rolesOf
  rw [Lemmas.StringKey.beq_eq_keyBEq]
  decide +kernel

/-- … whereas for a protected field there is no such pair. -/
theorem protected_field_has_no_such_pair :
    racyPair funcRoles fieldAccesses "Vaxis.suspended" "main" "input" = false ∧
    racyPair funcRoles fieldAccesses "Vaxis.closed" "main" "input" = false ∧
    racyPair funcRoles fieldAccesses "Vaxis.nextSize" "main" "input" = false := by
  -- each is classified as under a lock, and a protected field has no such pair
  have h : ∀ f m, (f, Protection.lock m) ∈ classify funcRoles fieldAccesses → racyPair funcRoles fieldAccesses f "main" "input" = false :=
    fun f m h => Lemmas.ConcProtect.protected_no_racy_pair h nofun _ _
  rw [Props.C10Protect.classification] at h
  exact ⟨h _ "Vaxis.suspendMu" (by decide), h _ "Vaxis.closeMu" (by decide), h _ "Vaxis.mu" (by decide)⟩

end VaxisModel.Witness.F410
