/-
F420 (repaired, /repo ba40b3f) — `resizeImage` and the four `Resize` methods take `img.Bounds().Max` as the size
of the image and read pixels from `(0, 0)`.  For an image whose bounds do not start at the origin — a crop made with
`SubImage` — that is the crop's size PLUS its offset: a 10×10 crop at (10,10) got the cell size of a 20×20 image
(`CellSize()` 20×10 half-block cells in a roomy box instead of 10×5), was drawn shifted behind a blank margin, and a crop
with unequal offsets was scaled with the wrong aspect ratio.  Against "never upscales and preserves the aspect ratio …
for every image size".
Repair: `resizeImage` first translates such an image to the origin (`originImage`: `Bounds()` and `At` shifted by
`Min`); images that start at the origin are untouched (`Gen.resizeOriginNormalised`).  Replayed by corpus/C20/F420.ops.

The model's images start at the origin by construction; the pre-repair behaviour is the model applied to the wrong
size, which is what the statements below are about.
-/
import VaxisModel.Props.C20

namespace VaxisModel.Witness.F420
open VaxisModel.Model.ImageFit VaxisModel.Spec.Images VaxisModel.Gen.ImageConsts

/-- What the unrepaired code computed for a `w × h` image whose bounds start at `(mx, my)`: the size it measured was
    `Bounds().Max = (mx + w, my + h)`. -/
def unfixedDims (F : FloatOps) (mx my w h boxW boxH cellW cellH : Nat) : Except Panic (Nat × Nat) :=
  resizeDims F (mx + w) (my + h) boxW boxH cellW cellH

/-- A 10×10 crop at (10,10) in a roomy box "fitted" as a 20×20 image … -/
theorem crop_measured_with_offset : unfixedDims exactOps 10 10 10 10 30 30 1 2 = .ok (20, 20) := by rfl

/-- … so "never upscaled" (the result has at most the image's own pixels) fails for the unrepaired measurement … -/
theorem no_upscale_fails_unfixed :
    ¬ ∀ mx my w h boxW boxH : Nat, 0 < w → 0 < h →
      ∀ pw ph, unfixedDims exactOps mx my w h boxW boxH 1 2 = .ok (pw, ph) → NoUpscale pw ph w h := by
  intro hh
  have := hh 10 10 10 10 30 30 (by decide) (by decide) 20 20 crop_measured_with_offset
  revert this
  decide

/-- … and the aspect ratio of a crop with unequal offsets is lost: a 10×10 crop at (30,0) squeezed into 4×4 cells came
    out as 4×1 pixels. -/
theorem aspect_fails_unfixed :
    unfixedDims exactOps 30 0 10 10 4 4 1 2 = .ok (4, 1) ∧ ¬ AspectKept 4 1 10 10 := by
  constructor
  · rfl
  · decide

/-- The current source translates the image to the origin before anything else, so the size `resizeImage` measures is
    the image's own (`Props.C20.no_upscale`, `aspect` then apply to every image, wherever its bounds start). -/
theorem origin_normalised_now : resizeOriginNormalised = true := by decide

end VaxisModel.Witness.F420
