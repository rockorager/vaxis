/-
F51 — the `case sfX == sfY:` arm of resizeImage was a no-op, so an image whose horizontal and
vertical scale factors coincide was returned unscaled: a 64×128 px image (8×8 cells of 8×16 px)
asked to fit a 4×4 box stayed 8×8 cells.  The arm structure below is the one extracted from
image.go before the repair (kept here as a literal); with it the fit statement is false.
-/
import VaxisModel.Lemmas.ImageFit

namespace VaxisModel.Witness.F51
open VaxisModel.Model.ImageFit VaxisModel.Spec.Images VaxisModel.Gen.ImageConsts VaxisModel.Lemmas.ImageFit

/-- Configuration of resizeImage as extracted before the F51 repair. -/
def unfixedCfg : Cfg :=
  ⟨true, true, (.le, .and, .le), [⟨.eq, .none, .none⟩, ⟨.lt, .sfX, .sfX⟩, ⟨.gt, .sfY, .sfY⟩]⟩

/-- Bool observer: the resize succeeded and its result does not fit the box. -/
def exceeds (r : Except Panic (Nat × Nat)) (w h cellW cellH : Nat) : Bool :=
  match r with
  | .ok (pw, ph) => decide (¬ FitsBox pw ph w h cellW cellH)
  | .error _ => false

/-- The witness: 64×128 px, cells of 8×16 px, box 4×4 — returned unscaled (8×8 cells). -/
theorem unfixed_returns_unscaled :
    resizeDimsWith unfixedCfg exactOps 64 128 4 4 8 16 = .ok (64, 128) := by rfl

theorem unfixed_exceeds : exceeds (resizeDimsWith unfixedCfg exactOps 64 128 4 4 8 16) 4 4 8 16 = true := by
  rw [unfixed_returns_unscaled]
  decide

/-- With the unrepaired arm structure the fit property is false. -/
theorem fit_fails_unfixed : ¬ FitStatement unfixedCfg := by
  intro hfit
  have h := hfit exactOps exactOps_sound 64 128 4 4 8 16 64 128 (by decide) (by decide) (by decide) (by decide)
    unfixed_returns_unscaled
  revert h
  decide

end VaxisModel.Witness.F51
