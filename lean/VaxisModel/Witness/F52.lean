/-
F52 (repaired in /repo by `fix: resizing a kitty or sixel image no longer divides by zero …`) — a zero cell pixel
size (a terminal reporting fewer pixels than columns, e.g. XPixel = 50 for 80 columns, gave `cellPixW = 50/80 = 0`) makes
`resizeImage` divide by zero: the model returns the panic value for every image and box.  Since the repair the callers never
pass a zero (`(*Vaxis).cellPixelSize` ≥ 1: `Props.C20Ext.term_cell_pos`, `no_panic_term`; the block renderers pass the literals
1×2), so these theorems describe the private function outside its callers' range; the harness still observes the panic when
it calls `resizeImage` directly (`dims … 0 …` lines).
-/
import VaxisModel.Lemmas.ImageFit

namespace VaxisModel.Witness.F52
open VaxisModel.Model.ImageFit VaxisModel.Lemmas.ImageFit

def isPanic (r : Except Panic (Nat × Nat)) : Bool :=
  match r with
  | .error .divideByZero => true
  | .ok _ => false

/-- Zero cell width: panic whatever the image, box, float step and arm structure. -/
theorem zero_cell_width_panics (cfg : Cfg) (F : FloatOps) (wPix hPix w h cellH : Nat) :
    resizeDimsWith cfg F wPix hPix w h 0 cellH = .error .divideByZero := by
  simp [resizeDimsWith, cells, bind, Except.bind]

/-- Zero cell height (positive width): panic as well. -/
theorem zero_cell_height_panics (cfg : Cfg) (F : FloatOps) (wPix hPix w h cellW : Nat) :
    resizeDimsWith cfg F wPix hPix w h cellW 0 = .error .divideByZero := by
  by_cases hc : cellW = 0 <;> simp [resizeDimsWith, cells, bind, Except.bind, hc]

/-- Hence the no-panic statement is false without the hypothesis `0 < cellW`. -/
theorem no_panic_needs_positive_cells :
    ¬ ∀ F wPix hPix w h cellW cellH, ∃ r, resizeDims F wPix hPix w h cellW cellH = .ok r := by
  intro hall
  obtain ⟨r, hr⟩ := hall exactOps 16 16 4 4 0 16
  rw [resizeDims, zero_cell_width_panics] at hr
  cases hr

example : isPanic (resizeDims exactOps 16 16 4 4 0 16) = true := by decide +kernel

end VaxisModel.Witness.F52
