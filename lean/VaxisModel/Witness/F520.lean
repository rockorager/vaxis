/-
F520 (repaired, /repo 8430012) — a `Resize` that leaves a kitty image without pixels (a box too small for one
pixel row: a 32×1 px image into one 8×16 cell becomes 8×0 px; or a negative box) sets its cell size to zero in a
dimension; the PNG encoder refuses such an image, `k.buf` / `k.uploaded` stay as they are and the terminal keeps the
picture of the previous `Resize`.  `KittyImage.Draw` placed the image anyway — the size test `k.w > w || k.h > h` lets a
1×0 image into any window — and the terminal showed the older 32×1 px picture (4×1 cells) for an image that reports
`CellSize()` 1×0 after `Resize(1, 1)`: what is displayed exceeds the requested box.  Against "Resizing an image for
display yields a cell size that never exceeds the requested box" read with the `Image` interface's "Resizes the image to
fit within the provided area".  Repair: `Draw` does not place
an image whose cell size is zero (`Gen.kittyGates` gains `.zeroSize`), as `Sixel.Draw` refuses an image without data; the
old placement is then deleted by the frame's diff.  Replayed by corpus/C20/F520.ops.
-/
import VaxisModel.Props.C20Ext

namespace VaxisModel.Witness.F520
open VaxisModel.Model.ImageDraw VaxisModel.Gen.ImageConsts VaxisModel.Model.Window

/-- The gates of `KittyImage.Draw` before the repair. -/
def unfixedGates : List Gate := [.encoding, .size .gt .or .gt]

/-- Unrepaired: an image of 1×0 cells (and one of 0×0) is placed in a 3×3 window … -/
theorem zero_size_placed_unfixed :
    drawnWith unfixedGates true false 1 0 (Win.new (.root 0 0 40 20) 13 6 3 3) = true ∧
    drawnWith unfixedGates false false 0 0 (Win.new (.root 0 0 40 20) 13 6 3 3) = true := by decide

/-- … so "an image without cells is never placed" fails for the unrepaired gates … -/
theorem zero_size_not_placed_fails_unfixed :
    ¬ ∀ (hasData encoding : Bool) (iw ih : Int) (win : Win), (iw = 0 ∨ ih = 0) →
      drawnWith unfixedGates hasData encoding iw ih win = false := by
  intro h
  have := h true false 1 0 (Win.new (.root 0 0 40 20) 13 6 3 3) (Or.inr rfl)
  rw [zero_size_placed_unfixed.1] at this
  cases this

/-- … and holds of the current source, for every window, size and image state. -/
theorem zero_size_not_placed_now (hasData encoding : Bool) (iw ih : Int) (win : Win) (h : iw = 0 ∨ ih = 0) :
    drawnWith kittyGates hasData encoding iw ih win = false :=
  VaxisModel.Props.C20Ext.not_drawn_of_gate (g := .zeroSize) (by decide) (by simpa [gateFires] using h)

end VaxisModel.Witness.F520
